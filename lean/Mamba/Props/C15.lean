import Mamba.Lemmas.IterGeneric
import Mamba.Lemmas.IterProd
import Mamba.Lemmas.IterRPProd
import Mamba.Lemmas.IterComb
import Mamba.Lemmas.IterAbsorbing
import Mamba.Lemmas.IterMSComb
import Mamba.Lemmas.IterMSCombInv
import Mamba.Lemmas.IterMSCombAlgQ
import Mamba.Lemmas.IterMSCombScatter
import Mamba.Lemmas.IterHeap
import Mamba.Lemmas.IterPart
import Mamba.Lemmas.IterLex
import Mamba.Lemmas.IterRPPerm
import Mamba.Lemmas.IterPattern
import Mamba.Lemmas.IterTopo
/-!
# Property C15 — itertools: every iterator enumerates exactly the advertised family, once each, in the
documented order, and then stays exhausted.

The theorems are about the executable models `Iter.*.it` that the driver `mdrv` runs (`Drv/C15.lean` drives them with
`Iter.outputs` and `Iter.extras`, the functions the conclusions below are stated with).
-/
namespace Iter
open Spec

/-- **Generic theorem.** Let `L` be a list of objects whose consecutive elements are related by `R`
(`L.IsChain R`). If `Next` maps the initial state to (a state showing) the first element of `L`, maps every state
showing `x` to a state showing `y` whenever `R x y`, returns false from the last element and keeps returning false
from then on, then driving the iterator yields exactly `L`, in order, stops because `Next` returned false, and every
further `Next` returns false. (Per iterator, `L` is proved strictly increasing in the documented order and to
contain exactly the family.) -/
theorem enumerates {σ α : Type} (it : It σ α) (rep : σ → α → Prop) (dead : σ → Prop) (R : α → α → Prop)
    (s0 : σ) (L : List α)
    (hchain : L.IsChain R)
    (hvalue : ∀ s x, rep s x → ∃ s', it.value s = .ok (s', x) ∧ rep s' x)
    (hempty : L = [] → ∃ s', it.next s0 = .ok (s', false) ∧ dead s')
    (hfirst : ∀ x ∈ L.head?, ∃ s', it.next s0 = .ok (s', true) ∧ rep s' x)
    (hstep : ∀ x y, R x y → ∀ s, rep s x → ∃ s', it.next s = .ok (s', true) ∧ rep s' y)
    (hlast : ∀ x ∈ L.getLast?, ∀ s, rep s x → ∃ s', it.next s = .ok (s', false) ∧ dead s')
    (hdead : ∀ s, dead s → ∃ s', it.next s = .ok (s', false) ∧ dead s') :
    ∀ bound, L.length < bound →
      ∃ s', outputs it bound s0 = (L, s', .exhausted) ∧ dead s' ∧
        ∀ k, extras it k s' = .ok (List.replicate k none) :=
  enumerates_aux it rep dead R s0 L hchain hvalue hempty hfirst hstep hlast hdead

/-- non-vacuity: a two-element counter -/
example : ∃ s', outputs (⟨fun (s : Nat) => .ok (s + 1, decide (s < 2)), fun s => .ok (s, s)⟩ : It Nat Nat) 5 0
    = ([1, 2], s', .exhausted) :=
  ⟨3, by decide⟩

/-- `Product(dims...)` yields exactly `prodList dims` (for every list of factors, including zero and
negative ones, for which the family is empty), then `Next` is false forever. -/
theorem Prod.enumerates (dims : List Int) :
    ∃ s0, Prod.init dims = .ok s0 ∧ ∀ bound, (prodList dims).length < bound →
      ∃ s', outputs Prod.it bound s0 = (prodList dims, s', .exhausted) ∧
        ∀ k, extras Prod.it k s' = .ok (List.replicate k none) :=
  Prod.enumerates_lemma dims

/-- `prodList dims` contains exactly the tuples `(a₀, …)` with `0 ≤ aᵢ < dimsᵢ` … -/
theorem Prod.family (dims x : List Int) : x ∈ prodList dims ↔ InProd dims x :=
  mem_prodList dims x

/-- … each once, in strictly increasing lexicographic order. -/
theorem Prod.sorted (dims : List Int) : (prodList dims).Pairwise (· < ·) :=
  prodList_sorted dims

/-- `RestrictedPrefixProduct(t, dims...)`, for every (pure) test function `t` and every list of factors, yields
exactly `rpprodList t dims` — by definition the filter `(prodList dims).filter (accept t)` of the unrestricted
enumeration by "all non-empty prefixes pass `t`" — in the same (lexicographic) order, then `Next` is false forever.
The fuel the model gives to the `goto` machine (`RPProd.fuel`) suffices: the run never reports `outOfFuel`. -/
theorem RPProd.enumerates (t : List Int → Bool) (dims : List Int) :
    ∀ bound, (rpprodList t dims).length < bound →
      ∃ s', outputs (RPProd.it t) bound (RPProd.init dims) = (rpprodList t dims, s', .exhausted) ∧
        ∀ k, extras (RPProd.it t) k s' = .ok (List.replicate k none) := by
  refine enumerates_of_remaining_pure (RPProd.it t) (RPProd.Owes t dims) (·.state) (fun _ => rfl)
    (RPProd.next_owes t dims) (RPProd.init dims) (rpprodList t dims) ⟨rfl, ?_⟩
  by_cases hlt : ∃ n ∈ dims, n < 1
  · refine Or.inl ⟨?_, rpprodList_nil_of_lt t dims hlt⟩
    simpa [RPProd.init] using hlt
  · refine Or.inr (Or.inl ⟨?_, rfl, fun n hn => ?_, rfl⟩)
    · simpa [RPProd.init] using hlt
    · by_contra hc; exact hlt ⟨n, hn, by omega⟩

/-- the filter is the filter of `Product`'s family by "every non-empty prefix passes the test" -/
theorem RPProd.family (t : List Int → Bool) (dims x : List Int) :
    x ∈ rpprodList t dims ↔ InProd dims x ∧ ∀ l, 0 < l → l ≤ x.length → t (x.take l) = true :=
  mem_rpprodList t dims x

/-- and it agrees with filtering the unrestricted enumeration (same order, each once) -/
theorem RPProd.filter_of_product (t : List Int → Bool) (dims : List Int) :
    rpprodList t dims = (prodList dims).filter (accept t) ∧ (rpprodList t dims).Pairwise (· < ·) :=
  ⟨rfl, rpprodList_sorted t dims⟩

/-- `Combinations(n, k)` for every `n` and every `k ≥ 0` yields exactly `combList n k`, then `Next` is false
forever (`k = 0`: the single empty combination; `k > n`: nothing). -/
theorem Comb.enumerates (n k : Int) (hk : 0 ≤ k) :
    ∃ s0, Comb.init n k = .ok s0 ∧ ∀ bound, (combList n k).length < bound →
      ∃ s', outputs Comb.it bound s0 = (combList n k, s', .exhausted) ∧
        ∀ k', extras Comb.it k' s' = .ok (List.replicate k' none) :=
  Comb.enumerates_lemma n k hk

example : ∃ s0, Comb.init 4 2 = .ok s0 := ⟨_, (Comb.enumerates 4 2 (by decide)).choose_spec.1⟩

/-- `combList n k` contains exactly the strictly increasing lists of length `k` with entries in `0..n-1` … -/
theorem Comb.family (n k : Int) (hk : 0 ≤ k) (x : List Int) :
    x ∈ combList n k ↔ (x.length : Int) = k ∧ x.Pairwise (· < ·) ∧ ∀ a ∈ x, 0 ≤ a ∧ a < n :=
  mem_combList n k hk x

example : [1, 3] ∈ combList 4 2 := by decide

/-- … each once, in strictly increasing lexicographic order. -/
theorem Comb.sorted (n k : Int) : (combList n k).Pairwise (· < ·) :=
  combList_sorted n k

/-- `CombinationsColex(n, k)` for every `n` and every `k ≥ 0` yields exactly `colexList n k`, then `Next` is false
forever. -/
theorem Colex.enumerates (n k : Int) (hk : 0 ≤ k) :
    ∃ s0, Colex.init n k = .ok s0 ∧ ∀ bound, (colexList n k).length < bound →
      ∃ s', outputs Colex.it bound s0 = (colexList n k, s', .exhausted) ∧
        ∀ k', extras Colex.it k' s' = .ok (List.replicate k' none) :=
  Colex.enumerates_lemma n k hk

example : ∃ s0, Colex.init 4 2 = .ok s0 := ⟨_, (Colex.enumerates 4 2 (by decide)).choose_spec.1⟩

/-- `colexList n k` contains exactly the `k`-subsets of `0..n-1` (as increasing lists) … -/
theorem Colex.family (n k : Int) (hk : 0 ≤ k) (x : List Int) :
    x ∈ colexList n k ↔ (x.length : Int) = k ∧ x.Pairwise (· < ·) ∧ ∀ a ∈ x, 0 ≤ a ∧ a < n :=
  mem_colexList n k hk x

example : [1, 3] ∈ colexList 4 2 := by decide

/-- … each once, in strictly increasing colexicographic order (`ColexLt x y ↔ x.reverse < y.reverse`). -/
theorem Colex.sorted (n k : Int) : (colexList n k).Pairwise ColexLt :=
  colexList_sorted n k

/-- `Partitions(n)`, `n ≥ 1`: the values returned by `Value()` are the set partitions `rgsBlocks x` for `x` running
through `rgsList n` — all restricted growth strings of length `n` in lexicographic order —, then `Next` is false
forever. -/
theorem Parts.enumerates (n : Int) (hn : 1 ≤ n) :
    ∃ s0, Parts.init n = .ok s0 ∧ ∀ bound, (rgsList n.toNat).length < bound →
      ∃ s', outputs Parts.it bound s0 = ((rgsList n.toNat).map rgsBlocks, s', .exhausted) ∧
        ∀ k, extras Parts.it k s' = .ok (List.replicate k none) :=
  Parts.enumerates_lemma n hn

example : ∃ s0, Parts.init 3 = .ok s0 := ⟨_, (Parts.enumerates 3 (by decide)).choose_spec.1⟩

/-- `rgsList n` contains exactly the restricted growth strings of length `n` (`x[0] = 0`, every entry at most one more
than the maximum before it) … -/
theorem Parts.family (n : Nat) (x : List Int) :
    x ∈ rgsList n ↔ x.length = n ∧
      ∀ pre v suf, x = pre ++ v :: suf → 0 ≤ v ∧ (v = 0 ∨ ∃ w ∈ pre, v ≤ w + 1) := by
  rw [mem_rgsList, isRGS_iff]

example : [0, 1, 0, 2] ∈ rgsList 4 := by decide

/-- … each once, in strictly increasing lexicographic order; -/
theorem Parts.sorted (n : Nat) : (rgsList n).Pairwise (· < ·) :=
  rgsList_sorted n

/-- and `rgsBlocks x` is the set partition of `{0..len-1}` encoded by `x`: non-empty sorted blocks, ordered by least
element, position `p` lies in block `i` iff `x[p] = i` (so distinct strings give distinct partitions, and every set
partition arises from its restricted growth string). -/
theorem Parts.blocks (x : List Int) (hx : IsRGS x) (hl : 1 ≤ x.length) :
    ∃ blocks, partitionFromRGS x = .ok blocks ∧ blocks = rgsBlocks x ∧
      (∀ B ∈ blocks, B ≠ [] ∧ B.Pairwise (· < ·) ∧ ∀ v ∈ B, 0 ≤ v ∧ v < x.length) ∧
      blocks.Pairwise (fun B C => ∀ a ∈ B.head?, ∀ c ∈ C.head?, a < c) ∧
      (∀ (p : Nat) (hp : p < x.length), 0 ≤ x[p] ∧ x[p] < blocks.length) ∧
      (∀ (p : Nat) (hp : p < x.length) (i : Nat) (hi : i < blocks.length), (p : Int) ∈ blocks[i] ↔ x[p] = i) := by
  obtain ⟨blocks, h1, h2⟩ := partitionFromRGS_spec x hx hl
  refine ⟨blocks, h1, ?_, h2⟩
  have := partitionFromRGS_eq x hx
  rw [h1] at this
  exact Outcome.ok.inj this

example : IsRGS [0, 1, 0] ∧ 1 ≤ ([0, 1, 0] : List Int).length :=
  ⟨((mem_rgsList 3 [0, 1, 0]).mp (by decide)).2, by decide⟩

/-- `IntegerPartitions(n)`, `n ≥ 0`, yields exactly `ipList n`, then `Next` is false forever. -/
theorem IntParts.enumerates (n : Int) (hn : 0 ≤ n) :
    ∃ s0, IntParts.init n = .ok s0 ∧ ∀ bound, (ipList n.toNat).length < bound →
      ∃ s', outputs IntParts.it bound s0 = (ipList n.toNat, s', .exhausted) ∧
        ∀ k, extras IntParts.it k s' = .ok (List.replicate k none) :=
  IntParts.enumerates_lemma n hn

example : ∃ s0, IntParts.init 5 = .ok s0 := ⟨_, (IntParts.enumerates 5 (by decide)).choose_spec.1⟩

/-- `ipList n` contains exactly the non-increasing lists of positive integers with sum `n` … -/
theorem IntParts.family (n : Nat) (x : List Int) :
    x ∈ ipList n ↔ x.Pairwise (· ≥ ·) ∧ (∀ v ∈ x, 1 ≤ v) ∧ x.sum = n :=
  mem_ipList_iff n x

/-- … each once, in reverse lexicographic order (every value is lexicographically greater than all later ones). -/
theorem IntParts.sorted (n : Nat) : (ipList n).Pairwise (· > ·) :=
  ipList_sorted n

/-- `LexicographicPermutations(n)`, `n ≥ 0`, yields exactly `lexPermList n`, then `Next` is false forever. -/
theorem Lex.enumerates (n : Int) (hn : 0 ≤ n) :
    ∃ s0, Lex.init n = .ok s0 ∧ ∀ bound, (lexPermList n).length < bound →
      ∃ s', outputs Lex.it bound s0 = (lexPermList n, s', .exhausted) ∧
        ∀ k, extras Lex.it k s' = .ok (List.replicate k none) := by
  refine ⟨⟨n, (List.range n.toNat).map Int.ofNat, true⟩, ?_, ?_⟩
  · have : ¬ n < 0 := by omega
    simp [Lex.init, iota, this]
  · have hsorted : ((List.range n.toNat).map Int.ofNat).Pairwise (· ≤ ·) := by
      rw [List.pairwise_map]
      exact List.Pairwise.imp (fun h => by simp only [Int.ofNat_eq_natCast]; omega) List.pairwise_lt_range
    exact Lex.enumerates_core n _ (by simp; omega) hsorted (lexPermList n) (lexPermList_sorted n)
      (mem_lexPermList n)

example : ∃ s0, Lex.init 3 = .ok s0 := ⟨_, (Lex.enumerates 3 (by decide)).choose_spec.1⟩

/-- `lexPermList n` contains exactly the rearrangements of `0, …, n-1`, each once, in increasing lexicographic order. -/
theorem Lex.family (n : Int) (b : List Int) :
    (b ∈ lexPermList n ↔ b.Perm ((List.range n.toNat).map Int.ofNat)) ∧ (lexPermList n).Pairwise (· < ·) :=
  ⟨mem_lexPermList n b, lexPermList_sorted n⟩

/-- `MultisetPermutations(freq)`, all multiplicities `≥ 0` (zeros included), yields exactly `multiPermList freq`, then
`Next` is false forever. -/
theorem Lex.enumerates_multi (freq : List Int) (hf : ∀ f ∈ freq, 0 ≤ f) :
    ∃ s0, Lex.initMulti freq = .ok s0 ∧ ∀ bound, (multiPermList freq).length < bound →
      ∃ s', outputs Lex.it bound s0 = (multiPermList freq, s', .exhausted) ∧
        ∀ k, extras Lex.it k s' = .ok (List.replicate k none) := by
  have hs := sumInts_nonneg freq hf
  refine ⟨⟨sumInts freq, multiSorted freq, true⟩, ?_, ?_⟩
  · have : ¬ sumInts freq < 0 := by omega
    simp only [Lex.initMulti, this, if_false]
    rfl
  · exact Lex.enumerates_core (sumInts freq) (multiSorted freq)
      (by rw [multiSorted_eq, expandFrom_length freq 0 hf]) (multiSorted_sorted freq)
      (multiPermList freq) (multiPermList_sorted freq) (mem_multiPermList freq hf)

example : ∃ s0, Lex.initMulti [2, 0, 1] = .ok s0 :=
  ⟨_, (Lex.enumerates_multi [2, 0, 1] (by decide)).choose_spec.1⟩

/-- `multiPermList freq` contains exactly the arrangements of the multiset with `freq[i]` copies of `i`, each once,
in increasing lexicographic order. -/
theorem Lex.family_multi (freq : List Int) (hf : ∀ f ∈ freq, 0 ≤ f) (b : List Int) :
    (b ∈ multiPermList freq ↔ b.Perm (multiSorted freq)) ∧ (multiPermList freq).Pairwise (· < ·) :=
  ⟨mem_multiPermList freq hf b, multiPermList_sorted freq⟩

example : ∀ f ∈ ([2, 0, 1] : List Int), 0 ≤ f := by decide

/-- `RestrictedPrefixPermutations(n, f)`, for every (pure) test function `f` and every `n ≥ 0`, yields exactly
`rppermList f n` — by definition `(permList n).filter (accept f)`, the filter of all permutations of `0..n-1` in
lexicographic order by "every non-empty prefix passes `f`" —, then `Next` is false forever. The fuel the model gives to
the `goto` machine suffices. -/
theorem RPP.enumerates (f : List Int → Bool) (n : Int) (hn : 0 ≤ n) :
    ∃ s0, RPP.init n = .ok s0 ∧ ∀ bound, (rppermList f n).length < bound →
      ∃ s', outputs (RPP.it f) bound s0 = (rppermList f n, s', .exhausted) ∧
        ∀ k, extras (RPP.it f) k s' = .ok (List.replicate k none) := by
  obtain ⟨N, rfl⟩ := Int.eq_ofNat_of_zero_le hn
  have hinit : RPP.init (N : Int) = .ok ⟨(N : Int), none, l0 N, List.replicate N 0, false⟩ := by
    have : ¬ ((N : Int) < 0) := by omega
    simp [RPP.init, make, l0, this]
  refine ⟨_, hinit, ?_⟩
  intro bound hb
  by_cases hN : N = 0
  · subst hN
    have e0 : ((0 : Nat) : Int) = 0 := rfl
    rw [e0] at hb ⊢
    rw [rppermList_zero] at hb ⊢
    obtain ⟨c, rfl⟩ : ∃ c, bound = c + 2 := ⟨bound - 2, by simp at hb; omega⟩
    have hf : RPP.fuel 0 = 31 + 1 := by decide
    refine ⟨⟨0, some [], [0], [], true⟩, ?_, ?_⟩
    · simp [outputs, collect, RPP.it, RPP.next, make, l0, hf, RPP.run]
    · intro k
      apply extras_dead (RPP.it f) (fun s => s = ⟨0, some [], [0], [], true⟩)
      · rintro s rfl
        exact ⟨_, by simp [RPP.it, RPP.next], rfl⟩
      · rfl
  · have hN1 : 1 ≤ N := by omega
    have h0 : RPP.Owes f N ⟨(N : Int), none, l0 N, List.replicate N 0, false⟩ (rppermList f (N : Int)) :=
      ⟨rfl, Or.inl ⟨rfl, rfl, rfl, rfl, rfl⟩⟩
    exact enumerates_of_remaining_pure (RPP.it f) (RPP.Owes f N) (·.a.getD []) (fun _ => rfl) (RPP.next_owes f N hN1)
      _ _ h0 bound hb

example : ∃ s0, RPP.init 3 = .ok s0 := ⟨_, (RPP.enumerates (fun _ => true) 3 (by decide)).choose_spec.1⟩

/-- the family: the permutations of `0..n-1` all of whose non-empty prefixes pass `f`, each once, in lexicographic
order; and it is the filter of the unrestricted enumeration `permList n` (all permutations, lexicographic). -/
theorem RPP.family (f : List Int → Bool) (n : Int) (x : List Int) :
    (x ∈ rppermList f n ↔ x.Perm ((List.range n.toNat).map Int.ofNat) ∧
        ∀ l, 0 < l → l ≤ x.length → f (x.take l) = true) ∧
    (rppermList f n).Pairwise (· < ·) ∧ rppermList f n = (permList n).filter (accept f) ∧
    (∀ y, y ∈ permList n ↔ y.Perm ((List.range n.toNat).map Int.ofNat)) ∧ (permList n).Pairwise (· < ·) :=
  ⟨mem_rppermList f n x, rppermList_sorted f n, rfl, mem_permList n, permList_sorted n⟩

/-- `PermutationsByPattern(n, f)`, for every (pure) `f` and `n ≥ 0`, yields exactly `patList f n` (the accepted leaves of
the pattern tree in depth-first order), then `Next` is false forever; the model's fuel suffices. -/
theorem Pat.enumerates (f : List Int → Bool) (n : Int) (hn : 0 ≤ n) :
    ∀ bound, (patList f n.toNat).length < bound →
      ∃ s', outputs (Pat.it f) bound (Pat.init n) = (patList f n.toNat, s', .exhausted) ∧
        ∀ k, extras (Pat.it f) k s' = .ok (List.replicate k none) := by
  refine enumerates_of_remaining (Pat.it f) (Pat.Owes f n.toNat) ?_ ?_ (Pat.init n) _
    ⟨by simp only [Pat.init]; omega, Or.inl ⟨rfl, rfl⟩⟩
  · intro s h
    obtain ⟨r, h1, h2, h3⟩ := Pat.next_owes f n.toNat s [] h
    rw [show r = ([], false) from h1] at h2 h3
    exact ⟨_, h2, h3⟩
  · intro s x rest h
    obtain ⟨r, h1, h2, h3⟩ := Pat.next_owes f n.toNat s (x :: rest) h
    rw [h1.1] at h2 h3
    exact ⟨_, _, h2, rfl, h3⟩

example : (0 : Int) ≤ 3 := by decide

/-- the family: exactly the permutations of `0..n-1` all of whose standardised non-empty prefixes pass `f`
(`std p` replaces every entry by its rank in `p`), each exactly once (no order is documented). -/
theorem Pat.family (f : List Int → Bool) (n : Nat) (x : List Int) :
    (x ∈ patList f n ↔ IsPerm n x ∧ ∀ j, 0 < j → j ≤ n → f (std (x.take j)) = true) ∧ (patList f n).Nodup :=
  ⟨mem_patList f n x, patList_nodup f n⟩

/-- `Permutations(n)`, `n ≥ 0`, yields exactly `heapList n` (the arrays visited by the recursive form of Heap's
algorithm, in that order), then `Next` is false forever; no panic. -/
theorem Heap.enumerates (n : Int) (hn : 0 ≤ n) :
    ∃ s0, Heap.init n = .ok s0 ∧ ∀ bound, (heapList n.toNat).length < bound →
      ∃ s', outputs Heap.it bound s0 = (heapList n.toNat, s', .exhausted) ∧
        ∀ k, extras Heap.it k s' = .ok (List.replicate k none) := by
  have h0 : ¬ (n < 0) := by omega
  have hi : Heap.init n = .ok ⟨n, -1, List.replicate n.toNat 0, (List.range n.toNat).map Int.ofNat⟩ := by
    simp [Heap.init, iota, make, h0]
  refine ⟨_, hi, fun bound hb => ?_⟩
  obtain ⟨s', h1, h2⟩ := collect_remaining Heap.it (Heap.Owes n.toNat) Heap.Dead (Heap.owes_stop _) (Heap.owes_step _)
    _ _ [] bound (Heap.init_owes n _ hi) hb
  exact ⟨s', by simp [outputs, h1],
    fun k => extras_dead Heap.it Heap.Dead (fun s hs => ⟨s, Heap.next_dead s hs, hs⟩) k s' h2⟩

example : ∃ s0, Heap.init 3 = .ok s0 ∧ (outputs Heap.it 10 s0).2.2 = .exhausted ∧
    (outputs Heap.it 10 s0).1.length = 6 := ⟨_, rfl, by decide, by decide⟩

/-- the family: `heapList n` contains exactly the rearrangements of `0, …, n-1`, each exactly once (`n!` values; no
order is documented). -/
theorem Heap.family (n : Nat) (x : List Int) :
    (x ∈ heapList n ↔ x.Perm ((List.range n).map (fun (i : Nat) => (i : Int)))) ∧ (heapList n).Nodup ∧
    (heapList n).length = n.factorial :=
  ⟨mem_heapList n x, heapList_nodup n, heapList_length n⟩

/-! `MultisetCombinations`: the code runs Algorithm Q on the types with a positive multiplicity and scatters the counts
back to their positions in `m` (Algorithm Q as coded, given a type with multiplicity 0 in front of a positive one, misses
members or panics; this way it never meets one). The theorems hold for ALL `m ≥ 0` (zeros anywhere) and all `k ≥ 0`. -/

/-- `MultisetCombinations(m, k)`, all `m ≥ 0`, all `k ≥ 0`: the values are the pairs (count vector `c` indexed like
`m`, its expansion `expandList 0 c` = the sorted multiset returned by `Value()`) for `c` running through
`msColexList m k`, then `Next` is false forever; no panic, the loops' fuel suffices. -/
theorem MSComb.enumerates (m : List Int) (k : Int) (hm : ∀ v ∈ m, 0 ≤ v) (hk : 0 ≤ k) :
    ∀ bound, (msColexList m k).length < bound →
      ∃ s', outputs MSComb.it bound (MSComb.init m k) =
          ((msColexList m k).map (fun c => (c, expandList 0 c)), s', .exhausted) ∧
        ∀ n, extras MSComb.it n s' = .ok (List.replicate n none) := by
  rw [← msList_eq_msColexList m k hm]
  exact MSComb.enumerates_msList m k hm hk

/-- non-vacuity, on two inputs with a zero multiplicity in front of a positive one: every member is produced -/
example : (∀ v ∈ ([0, 1, 2] : List Int), 0 ≤ v) ∧
    (outputs MSComb.it 10 (MSComb.init [0, 1, 2] 2)).1 = [([0, 1, 1], [1, 2]), ([0, 0, 2], [2, 2])] ∧
    (outputs MSComb.it 10 (MSComb.init [0, 1, 2] 2)).2.2 = .exhausted := by decide

example : (outputs MSComb.it 10 (MSComb.init [1, 0, 3] 2)).1 = [([1, 0, 1], [0, 2]), ([0, 0, 2], [2, 2])] ∧
    (outputs MSComb.it 10 (MSComb.init [1, 0, 3] 2)).2.2 = .exhausted := by decide

/-- the family: `msColexList m k` contains exactly the count vectors `c` with `0 ≤ c[i] ≤ m[i]` and `∑ c = k`
(`G c i` = entry `i`), each exactly once (no order is documented; the algorithm's order is colexicographic); it is a
rearrangement of the brute-force family `msFamily m k`. -/
theorem MSComb.family (m : List Int) (k : Int) (hm : ∀ v ∈ m, 0 ≤ v) (c : List Int) :
    (c ∈ msColexList m k ↔
      c.length = m.length ∧ (∀ i, i < m.length → 0 ≤ G c i ∧ G c i ≤ G m i) ∧ c.sum = k) ∧
    (msColexList m k).Nodup ∧ (msColexList m k).Perm (msFamily m k) :=
  ⟨mem_msColexList m k c, msColexList_nodup m k hm, msColexList_perm_msFamily m k hm⟩

example : ∀ v ∈ ([2, 0, 2] : List Int), 0 ≤ v := by decide

/-- exhaustion is absorbing for all `m`, `k` and all states -/
theorem MSComb.exhaustion_absorbing (s s' : MSComb) (h : MSComb.next s = .ok (s', false)) :
    ∀ k, extras MSComb.it k s' = .ok (List.replicate k none) :=
  MSComb.absorbing s s' h

example : ∃ s', MSComb.next ⟨none, [2], 3, 0, [], false, [2], none⟩ = .ok (s', false) := ⟨_, rfl⟩

-- test (bounded, kernel-evaluated): for all `m ∈ {0,1,2}^{≤3}` and all `k < 8` the model stops by exhaustion and
-- yields every member of `msFamily m k` exactly once, with consistent `Value()`.
example : ((List.range 4).flatMap (vectors 2)).all (fun m =>
    (List.range 8).all (fun (k : Nat) => msCheck m k)) = true := by decide +kernel

/-- `TopologicalSorts(n, less)`, for every `n ≥ 0` and every relation `less`, yields exactly the pairs
`(σ, inverse σ)` for `σ` running through `topoList less n` (`Value()` and `InverseValue()`), then `Next` is false
forever; `Topo.shift`'s fuel suffices. -/
theorem Topo.enumerates (less : Int → Int → Bool) (n : Int) (hn : 0 ≤ n) :
    ∃ s0, Topo.init n = .ok s0 ∧ ∀ bound, (topoList less n.toNat).length < bound →
      ∃ s', outputs (Topo.it less) bound s0 =
          ((topoList less n.toNat).map (fun σ => (σ, inverse σ)), s', .exhausted) ∧
        ∀ k, extras (Topo.it less) k s' = .ok (List.replicate k none) :=
  Topo.enumerates_lemma less n hn

example : ∃ s0, Topo.init 3 = .ok s0 := ⟨_, (Topo.enumerates (fun _ _ => false) 3 (by decide)).choose_spec.1⟩

/-- the family: for `less` contained in the natural order (it need not be transitive), `topoList less n` contains
exactly the permutations of `0..n-1` in which `i` occurs before `j` whenever `less i j`, each exactly once (no order
is documented); -/
theorem Topo.family (less : Int → Int → Bool) (hless : ∀ i j, less i j = true → i < j) (n : Nat) (x : List Int) :
    (x ∈ topoList less n ↔
      x.Perm (idList n) ∧ ∀ i j, less i j = true → i ∈ x → j ∈ x → x.idxOf i < x.idxOf j) ∧
    (topoList less n).Nodup :=
  ⟨mem_topoList less hless n x, topoList_nodup less n⟩

example : ∀ i j : Int, (fun (a b : Int) => decide (a + 1 = b)) i j = true → i < j := by
  intro i j h; simp at h; omega

/-- and the second component is the inverse permutation: `inverse σ` has an entry for every element, and the entry at
`σ[p]` is `p`. -/
theorem Topo.inverse_value {n : Nat} {σ : List Int} (hp : σ.Perm (idList n)) :
    (inverse σ).length = n ∧ ∀ (p : Nat) (h : p < σ.length), get (inverse σ) σ[p] = .ok (p : Int) :=
  inverse_spec hp

example : ([1, 0, 2] : List Int).Perm (idList 3) := by decide

end Iter
