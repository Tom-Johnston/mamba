import Mamba.Lemmas.DawgRoundTrip
import Mamba.Lemmas.DawgIso
import Mamba.Lemmas.DawgTerm
/-!
# C14 — DAWG serialisation round-trips to a behaviourally identical automaton

The theorems are about the executable model the driver runs (`Dawg.encodeUint64`, `Dawg.decodeUint64`,
`Dawg.gobEncode`, `Dawg.gobDecode` in `Mamba/Model/DawgGob.lean`).
`WF d` (Spec/Dawg.lean) collects what every automaton produced by the builder or by a round trip satisfies
(`Props/C12.lean: build_wf`). The instances for built automata (`roundtrip_built`, `roundtrip_built_total`) are in
`Props/C14Built.lean`, which depends on both slices and is compiled by the full `lake build` only, so that a defect in
the builder does not raise a C14 alarm and vice versa.
-/
namespace Dawg

/-- The literals of `encodeUint64` / `decodeUint64` / `GobEncode` / `GobDecode` as they are in `dawg/dawg.go` NOW
(`Mamba/Gen/DawgConsts.lean`, regenerated by `extract/c12.go` on every run) are consistent: 64-bit values, 8 bits per
byte, 8 value bytes, first value byte at position 1, full length 9, prefix written = prefix read + 8, one-byte
threshold of the encoder ≤ that of the decoder ≤ prefix + 1, "too many bytes" limit ≥ 9, decode buffer ≥ 8 bytes, and
the final-flag bytes written are read back as written. A changed constant that keeps these relations (e.g. a larger
buffer, `n > 9`, `x < 127` in the encoder) keeps this theorem; one that breaks them makes it fail. For a function the
extractor does not recognise any more the group falls back to the defaults written in the extractor
(`Gen.Dawg.found… = false`, which no theorem looks at): the theorem is then about those defaults, not about the source. -/
theorem constants_consistent :
    genCfg.Consistent ∧
      (Gen.Dawg.finalTrueSites.all (· == Gen.Dawg.finalTrueByte) && Gen.Dawg.finalFalseSites.all (· == Gen.Dawg.finalFalseByte)) = true ∧
      Gen.Dawg.decFinalSet Gen.Dawg.finalTrueByte = true ∧ Gen.Dawg.decFinalSet Gen.Dawg.finalFalseByte = false :=
  ⟨genCfg_consistent, genFinal_consistent⟩

/-- Integer round trip for EVERY consistent set of constants, every 64-bit value (one-byte branch and length-prefixed
branch), in any context. -/
theorem decodeUint64_encodeUint64_cfg (c : VarintCfg) (hc : c.Consistent) (x : Nat) (hx : x < 2 ^ 64) (rest : List Nat) :
    decodeUint64With c (encodeUint64With c x ++ rest) = .ok (x, rest) :=
  decode_encode_with c hc x hx rest

/-- …in particular for the functions the driver runs (the constants of the source as it is now). -/
theorem decodeUint64_encodeUint64 (x : Nat) (hx : x < 2 ^ 64) (rest : List Nat) :
    decodeUint64 (encodeUint64 x ++ rest) = .ok (x, rest) :=
  decodeUint64_encodeUint64_append x hx rest

example : decodeUint64 (encodeUint64 127 ++ [9]) = .ok (127, [9]) := by decide  -- test
example : decodeUint64 (encodeUint64 128 ++ [9]) = .ok (128, [9]) := by decide  -- test

/-- Decoding what `gobEncode` wrote succeeds and yields a copy of the automaton: same ids, word counts, final flags and
labels at every reachable node, links relocated consistently (`IsoVia`), root to root. Any fuel for which the
traversal finishes. -/
theorem gobDecode_gobEncode (d : Dawg) (wf : WF d) (fuel : Nat) (bs : List Nat) (henc : gobEncode fuel d = .ok bs) :
    ∃ d', gobDecode bs = .ok d' ∧ Iso d d' := by
  obtain ⟨L, d', _, hdec, hiso, _, _⟩ := gobDecode_of_encodePost d wf bs (gobEncode_spec d wf fuel bs henc)
  exact ⟨d', hdec, _, hiso⟩

/-- The decoded automaton is again well-formed (so round trips can be chained) and has exactly as many heap cells as
the original has reachable nodes. -/
theorem gobDecode_gobEncode_wf (d : Dawg) (wf : WF d) (fuel : Nat) (bs : List Nat) (henc : gobEncode fuel d = .ok bs)
    (d' : Dawg) (hdec : gobDecode bs = .ok d') : Iso d d' ∧ WF d' := by
  obtain ⟨L, d'', _, hdec', hiso, hsz, hN⟩ := gobDecode_of_encodePost d wf bs (gobEncode_spec d wf fuel bs henc)
  rw [hdec] at hdec'
  cases hdec'
  exact ⟨⟨_, hiso⟩, WF.of_iso hiso wf (hsz ▸ hN)⟩

/-- Encoding the decoded automaton gives the same bytes again. -/
theorem gobEncode_stable (d : Dawg) (wf : WF d) (fuel : Nat) (bs : List Nat) (henc : gobEncode fuel d = .ok bs)
    (d' : Dawg) (hdec : gobDecode bs = .ok d') : gobEncode fuel d' = .ok bs := by
  obtain ⟨⟨φ, hiso⟩, _⟩ := gobDecode_gobEncode_wf d wf fuel bs henc d' hdec
  rw [gobEncode_iso hiso wf fuel, henc]

/-- The decoded automaton answers every `Lookup` like the original (same membership, same rank), reports the same
number of words and the same number of nodes. -/
theorem roundtrip_behaviour (d : Dawg) (wf : WF d) (fuel : Nat) (bs : List Nat) (henc : gobEncode fuel d = .ok bs)
    (d' : Dawg) (hdec : gobDecode bs = .ok d') :
    (∀ w, lookup d' w = lookup d w) ∧ numberOfWords d' = numberOfWords d ∧
      (∀ f, numberOfNodes f d' = numberOfNodes f d) := by
  obtain ⟨⟨φ, hiso⟩, _⟩ := gobDecode_gobEncode_wf d wf fuel bs henc d' hdec
  exact ⟨lookup_iso hiso wf, numberOfWords_iso hiso wf, numberOfNodes_iso hiso wf⟩

/-- The fuel given to the traversal only decides whether `gobEncode` produces a result, never which: once it returns
bytes, it returns the same bytes for every larger fuel. -/
theorem gobEncode_fuel_irrelevant (d : Dawg) (f f' : Nat) (bs : List Nat) (h : gobEncode f d = .ok bs) (hle : f ≤ f') :
    gobEncode f' d = .ok bs := by
  obtain ⟨k, rfl⟩ := Nat.exists_eq_add_of_le hle
  exact gobEncode_mono d f bs h k

/-- Termination: on a well-formed automaton that is acyclic (`Ranked`: some rank function strictly decreases along every
link) with at most `D` links per node, the traversals of `GobEncode` return within `Qp D (rank root + 1)` iterations
(`Qp`, Lemmas/DawgTerm.lean — a generous bound of the order `(D²)^rank`). -/
theorem gobEncode_terminates (d : Dawg) (wf : WF d) (rank : Nat → Nat) (D : Nat) (hr : Ranked d rank D) :
    ∃ bs, gobEncode (Qp D (rank d.root + 1)) d = .ok bs :=
  gobEncode_total d wf rank D hr

/-! Non-vacuity of the hypotheses `WF d` and `gobEncode fuel d = .ok bs`: the automaton of the empty word set. -/
def exampleDawg : Dawg := ⟨#[Node.zero], 0⟩

example : gobEncode 10 exampleDawg = .ok [1, 0, 0, 0, 0, 0] := by decide  -- test

example : WF exampleDawg := by
  have h0 : exampleDawg.heap[0]? = some Node.zero := rfl
  have exampleDawg_reach : ∀ p, Reach exampleDawg.heap exampleDawg.root p → p = 0 := by
    intro p hp
    induction hp with
    | root => rfl
    | step _ hn hq ih =>
      subst ih
      rw [h0] at hn; cases hn
      simp [Node.zero] at hq
  refine ⟨?_, ?_, ?_, ?_, ?_, ?_, by decide⟩
  · intro p hp; rw [exampleDawg_reach p hp]; exact ⟨Node.zero, rfl⟩
  · intro p n hp hn; rw [exampleDawg_reach p hp, h0] at hn; cases hn; rfl
  · intro p q _ _ hp hq _ _ _; rw [exampleDawg_reach p hp, exampleDawg_reach q hq]
  · intro p _ _ hp hne; exact absurd (exampleDawg_reach p hp) hne
  · intro p n hp hn; rw [exampleDawg_reach p hp, h0] at hn; cases hn; simp [Node.zero]
  · intro p n hp hn; rw [exampleDawg_reach p hp, h0] at hn; cases hn; simp [Node.zero]

end Dawg
