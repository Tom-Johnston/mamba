import Mamba.Lemmas.DenseVertex
import Mamba.Lemmas.DenseRemove
import Mamba.Lemmas.DenseInduced
import Mamba.Lemmas.SparseRemove
import Mamba.Lemmas.SparseInduced
import Mamba.Lemmas.History
/-!
# Property C05 — editable graphs behave as an abstract simple graph under every edit history

`Dense` / `Sparse` (`Model/GraphRep.lean`) are the statement-by-statement models of `graph_dense.go` /
`graph_sparse.go` that the driver `mdrv` runs against the real code (`Dense.step`, `Sparse.step`, the observers
`isEdge`, `neighbours`, `degrees`, `M`, `N`). `GraphSpec.G` with `stepG` (`Spec/GraphOps.lean`) is the plain
adjacency-set model. `Dense.abs` / `Sparse.abs` are the abstraction functions, `Dense.WF` / `Sparse.WF` the
representation invariants (sizes, `m = #edges`, `deg = row sums`; sparse lists strictly increasing, in range,
symmetric, loop-free). `Op.valid` is "valid arguments": vertices in range, `AddVertex` / `InducedSubgraph` lists
without repeats in any order; any vertex may be removed; repeated `AddEdge`, absent `RemoveEdge`, `i = j` allowed.

All theorems are for arbitrary well-formed values and arbitrary (unbounded) histories. No loop of the models
needs fuel. Not expressible here (value semantics): that `Copy` / `InducedSubgraph` results share no *storage*
with their source — this is checked by the aliasing probes of `harness/c05.go`.
-/
namespace GraphRep
open GraphSpec

/-- whatever the bytes, the graph read off a `DenseGraph` is loop-free, symmetric and supported on `0..n-1` -/
theorem dense_abs_simple (x : Dense) : x.abs.WF := x.abs_wf

/-- `IsEdge` never panics on a well-formed value (any arguments, also out of range) and is the adjacency of `abs` -/
theorem dense_isEdge_abs {x : Dense} (h : x.WF) (i j : Nat) : x.isEdge i j = .ok (x.abs.adj i j) :=
  Dense.isEdge_eq h.edges_size i j

/-- `Neighbours(v)` does not panic and is the neighbour list of `abs`, ... -/
theorem dense_neighbours_abs {x : Dense} (h : x.WF) {v : Nat} (hv : v < x.n) :
    x.neighbours v = .ok (x.abs.nbrs v) :=
  Dense.neighbours_eq h hv

/-- ... which is ascending and lists exactly the adjacent vertices -/
theorem neighbours_ascending {g : G} (h : g.WF) (v : Nat) :
    (g.nbrs v).Pairwise (· < ·) ∧ ∀ u, u ∈ g.nbrs v ↔ g.adj v u = true :=
  ⟨nbrs_pairwise g v, mem_nbrs h v⟩

theorem dense_degrees_abs {x : Dense} (h : x.WF) : x.degrees = x.abs.degrees.map Int.ofNat :=
  degs_aux x.deg x.n x.abs.deg h.deg_size h.deg_eq

theorem dense_m_abs {x : Dense} (h : x.WF) : x.M = (x.abs.m : Int) := h.m_eq

theorem dense_n_abs (x : Dense) : x.N = x.abs.n := rfl

example : ∃ x : Dense, x.WF ∧ 2 < x.n := ⟨Dense.new 3, Dense.new_wf 3, by decide⟩

/-- on a well-formed `SparseGraph` the graph read off the lists is a simple graph -/
theorem sparse_abs_simple {x : Sparse} (h : x.WF) : x.abs.WF := Sparse.abs_wf h

/-- `IsEdge` (which searches the list of the vertex of larger cached degree) is the adjacency of `abs` -/
theorem sparse_isEdge_abs {x : Sparse} (h : x.WF) {i j : Nat} (hi : i < x.n) (hj : j < x.n) :
    x.isEdge i j = .ok (x.abs.adj i j) := Sparse.isEdge_eq h hi hj

/-- `Neighbours(v)` is the (ascending, see `neighbours_ascending`) neighbour list of `abs` -/
theorem sparse_neighbours_abs {x : Sparse} (h : x.WF) {v : Nat} (hv : v < x.n) :
    x.neighbours v = .ok ((x.abs.nbrs v).map Int.ofNat) := Sparse.neighbours_eq h hv

theorem sparse_degrees_abs {x : Sparse} (h : x.WF) : x.degrees = x.abs.degrees.map Int.ofNat :=
  Sparse.degrees_eq h

theorem sparse_m_abs {x : Sparse} (h : x.WF) : x.M = (x.abs.m : Int) := h.m_eq

theorem sparse_n_abs (x : Sparse) : x.N = x.abs.n := rfl

example : ∃ x : Sparse, x.WF ∧ 2 < x.n := ⟨Sparse.new 3, Sparse.new_wf 3, by decide⟩

/-! ## every operation refines the abstract one: no panic, invariant kept, `abs (op x) = specOp (abs x)` -/

theorem dense_step_refines {x : Dense} {o : Op} (h : x.WF) (hv : o.valid x.abs.n) :
    ∃ y, x.step o = .ok y ∧ y.WF ∧ y.abs = stepG x.abs o := by
  cases o with
  | av S => exact Dense.addVertex_spec h hv.1 hv.2
  | rv v => exact Dense.removeVertex_spec h hv
  | ae i j => exact Dense.addEdge_spec h hv.1 hv.2
  | re i j => exact Dense.removeEdge_spec h hv.1 hv.2
  | cp => exact ⟨x, rfl, h, rfl⟩
  | is V => exact Dense.inducedSubgraph_spec h.edges_size V

theorem sparse_step_refines {x : Sparse} {o : Op} (h : x.WF) (hv : o.valid x.abs.n) :
    ∃ y, x.step o = .ok y ∧ y.WF ∧ y.abs = stepG x.abs o := by
  cases o with
  | av S => exact Sparse.addVertex_spec h hv.1 hv.2
  | rv v => exact Sparse.removeVertex_spec h hv
  | ae i j => exact Sparse.addEdge_spec h hv.1 hv.2
  | re i j => exact Sparse.removeEdge_spec h hv.1 hv.2
  | cp => exact ⟨x, rfl, h, rfl⟩
  | is V => exact Sparse.inducedSubgraph_spec h hv.1 hv.2

/-- the abstract operations keep the graph simple -/
theorem spec_step_simple {g : G} (h : g.WF) {o : Op} (hv : o.valid g.n) : (stepG g o).WF := by
  cases o with
  | av S => exact addVertexG_wf h hv.2
  | rv v => exact removeVertexG_wf h hv
  | ae i j => exact addEdgeG_wf h hv.1 hv.2
  | re i j => exact removeEdgeG_wf h i j
  | cp => exact h
  | is V => exact induced_wf h V

example : (Op.av [2, 0]).valid (Dense.new 3).abs.n ∧ (Op.is [2, 0, 1]).valid (Dense.new 3).abs.n ∧
    (Op.rv 1).valid (Dense.new 3).abs.n := by
  simp [Op.valid, Dense.abs, Dense.new]

/-- every valid history on a `DenseGraph` runs without panic, ends in a well-formed value, and its abstraction is
the history applied to the abstract graph (so by the `dense_*_abs` theorems all observers agree with the plain
model after every prefix) -/
theorem dense_refines_spec (ops : List Op) {x : Dense} (h : x.WF) (hv : validSeq x.abs ops) :
    ∃ y, runM Dense.step ops x = .ok y ∧ y.WF ∧ y.abs = runG x.abs ops :=
  refines_run Dense.WF Dense.abs Dense.step (fun _ _ hx hv => dense_step_refines hx hv) ops x h hv

theorem sparse_refines_spec (ops : List Op) {x : Sparse} (h : x.WF) (hv : validSeq x.abs ops) :
    ∃ y, runM Sparse.step ops x = .ok y ∧ y.WF ∧ y.abs = runG x.abs ops :=
  refines_run Sparse.WF Sparse.abs Sparse.step (fun _ _ hx hv => sparse_step_refines hx hv) ops x h hv

/-- the two representations, started on the same graph and driven by the same valid history, never panic and
still represent the same graph -/
theorem dense_sparse_agree (ops : List Op) {xd : Dense} {xs : Sparse} (hd : xd.WF) (hs : xs.WF)
    (he : xd.abs = xs.abs) (hv : validSeq xd.abs ops) :
    ∃ yd ys, runM Dense.step ops xd = .ok yd ∧ runM Sparse.step ops xs = .ok ys ∧ yd.WF ∧ ys.WF ∧
      yd.abs = ys.abs := by
  obtain ⟨yd, h1, h2, h3⟩ := dense_refines_spec ops hd hv
  obtain ⟨ys, h4, h5, h6⟩ := sparse_refines_spec ops hs (he ▸ hv)
  exact ⟨yd, ys, h1, h4, h2, h5, by rw [h3, h6, he]⟩

/-- ... hence all their observers print the same -/
theorem observers_agree {yd : Dense} {ys : Sparse} (hd : yd.WF) (hs : ys.WF) (he : yd.abs = ys.abs) :
    yd.N = ys.N ∧ yd.M = ys.M ∧ yd.degrees = ys.degrees ∧
    (∀ i j, i < ys.n → j < ys.n → yd.isEdge i j = ys.isEdge i j) ∧
    (∀ v, v < ys.n → ∃ l, yd.neighbours v = .ok l ∧ ys.neighbours v = .ok (l.map Int.ofNat)) := by
  have hn : yd.n = ys.n := congrArg G.n he
  refine ⟨hn, by rw [dense_m_abs hd, sparse_m_abs hs, he], by rw [dense_degrees_abs hd, sparse_degrees_abs hs, he],
    ?_, ?_⟩
  · intro i j hi hj; rw [dense_isEdge_abs hd, sparse_isEdge_abs hs hi hj, he]
  · intro v hv
    exact ⟨yd.abs.nbrs v, dense_neighbours_abs hd (by omega), by rw [sparse_neighbours_abs hs hv, he]⟩

/-- the start state of the driver (`new n` followed by one `AddEdge` per edge) is well-formed in both
representations and represents the same graph -/
theorem driver_start (n : Nat) (es : List (Nat × Nat)) (hes : ∀ e ∈ es, e.1 < n ∧ e.2 < n) :
    ∃ d s, runM Dense.step (es.map fun e => Op.ae e.1 e.2) (Dense.new n) = .ok d ∧
      runM Sparse.step (es.map fun e => Op.ae e.1 e.2) (Sparse.new n) = .ok s ∧ d.WF ∧ s.WF ∧ d.abs = s.abs :=
  dense_sparse_agree _ (Dense.new_wf n) (Sparse.new_wf n) (new_abs_eq n) (validSeq_ae es _ hes)

example : validSeq (Dense.new 2).abs [.ae 0 1, .av [1, 0], .rv 0, .re 0 1, .cp, .is [1, 0]] := by
  simp [validSeq, Op.valid, stepG, addEdgeG, addVertexG, removeVertexG, removeEdgeG, Dense.abs, Dense.new]

/-- dense: for every `V` (even with repeats) the result has `len(V)` vertices and `IsEdge(i, j)` of the result is
`IsEdge(V[i], V[j])` of the source -/
theorem dense_induced_maps {x : Dense} (h : x.WF) (V : List Nat) :
    ∃ y, x.inducedSubgraph V = .ok y ∧ y.WF ∧ y.n = V.length ∧
      ∀ i j, i < V.length → j < V.length → y.isEdge i j = x.isEdge (V.getD i 0) (V.getD j 0) := by
  obtain ⟨y, h1, h2, h3⟩ := Dense.inducedSubgraph_spec h.edges_size V
  refine ⟨y, h1, h2, congrArg G.n h3, ?_⟩
  intro i j hi hj
  rw [dense_isEdge_abs h2, dense_isEdge_abs h, h3, induced_adj _ V hi hj]

/-- sparse: the same for duplicate-free in-range `V` -/
theorem sparse_induced_maps {x : Sparse} (h : x.WF) {V : List Nat} (hn : V.Nodup) (hV : ∀ s ∈ V, s < x.n) :
    ∃ y, x.inducedSubgraph V = .ok y ∧ y.WF ∧ y.n = V.length ∧
      ∀ i j, i < V.length → j < V.length → y.isEdge i j = x.isEdge (V.getD i 0) (V.getD j 0) := by
  obtain ⟨y, h1, h2, h3⟩ := Sparse.inducedSubgraph_spec h hn hV
  have hyn : y.n = V.length := congrArg G.n h3
  refine ⟨y, h1, h2, hyn, ?_⟩
  intro i j hi hj
  have hmem : ∀ k, k < V.length → V.getD k 0 < x.n := by
    intro k hk
    apply hV
    rw [List.getD_eq_getElem?_getD, List.getElem?_eq_getElem hk]; exact List.getElem_mem hk
  rw [sparse_isEdge_abs h2 (by omega) (by omega), sparse_isEdge_abs h (hmem i hi) (hmem j hj), h3,
    induced_adj _ V hi hj]

example : ∃ (x : Sparse) (V : List Nat), x.WF ∧ V.Nodup ∧ (∀ s ∈ V, s < x.n) ∧ V.length = 2 :=
  ⟨Sparse.new 3, [2, 0], Sparse.new_wf 3, by decide, by decide, rfl⟩

/-! ## facts that justify modelling choices -/

/-- the two branches of `DenseGraph.AddVertex` (enough capacity: re-slice and zero-fill; otherwise: reallocate
and copy) produce the same array, whatever the spare capacity contained -/
theorem dense_addVertex_branches_agree (edges stale : Array Nat) (oldSize n : Nat) (hs : edges.size = oldSize) :
    Dense.growInPlace edges stale oldSize (oldSize + n) = Dense.growRealloc edges (oldSize + n) := by
  unfold Dense.growInPlace Dense.growRealloc
  congr 1
  funext k
  by_cases h : oldSize ≤ k.val
  · have : ¬ k.val < edges.size := by omega
    simp [h, this]
  · have : k.val < edges.size := by omega
    simp [h, this]

/-- the `getD` in the model of `copy` never falls back to its default -/
theorem copyWithin_reads_inbounds {e : Array Nat} {dst src stop k : Nat}
    (hg : ¬ (dst > e.size ∨ src > stop ∨ stop > e.size))
    (hk : dst ≤ k ∧ k < dst + min (e.size - dst) (stop - src)) : src + (k - dst) < e.size := by
  omega

example : ¬ ((0 : Nat) > (#[1, 2, 3] : Array Nat).size ∨ 1 > 3 ∨ 3 > (#[1, 2, 3] : Array Nat).size) := by decide

end GraphRep
