import Mamba.Spec.Distance
import Mamba.Model.Distances
import Mamba.Lemmas.DistanceEccModel
import Mamba.Lemmas.DistanceGirthComplete
import Mamba.Lemmas.DistanceCyclesTotal
import Mamba.Lemmas.DistanceICyclesCount
/-!
# C10 — property theorems

Every theorem is about the executable definitions that `Drv/C10.lean` runs (the reference `Spec/Distance.lean`; the
faithful models `Model/Distances.lean`, `Model/Components.lean`, `Model/Bicon.lean`, `Model/Subgraph.lean`) and holds
for every `GraphSpec.G` (no bound on `n`).
-/
namespace GDist
open GraphSpec

/-- The reference distance (BFS by levels) is the least walk length, relative to any vertex list `V`
(the subgraph induced on `V`): `some k` iff there is a walk with `k` edges and none with fewer; `none` iff there is
no walk at all. -/
theorem bfs_distIn_correct (g : G) (V : List Nat) (s x : Nat) :
    (∀ k, distIn g V s x = some k ↔ (WalkIn g V s x k ∧ ∀ j, j < k → ¬ WalkIn g V s x j)) ∧
    (distIn g V s x = none ↔ ∀ k, ¬ WalkIn g V s x k) :=
  ⟨fun _ => distIn_eq_some_iff, distIn_eq_none_iff⟩

/-- `Distance`: the reference distance of the whole graph is the least walk length; `none` (printed `-1`) iff
there is no walk. -/
theorem bfs_dist_correct (g : G) (s x : Nat) :
    (∀ k, dist g s x = some k ↔ (Walk g s x k ∧ ∀ j, j < k → ¬ Walk g s x j)) ∧
    (dist g s x = none ↔ ∀ k, ¬ Walk g s x k) :=
  bfs_distIn_correct g (List.range g.n) s x

/-- the distance matrix printed by the driver is the matrix of `dist` -/
theorem distRow_spec (g : G) (s : Nat) : distRow g s = (List.range g.n).map (dist g s) := rfl

/-- a shortest walk has fewer than `n` edges (so the BFS fuel `n` never runs out) -/
theorem dist_lt_n (g : G) (s x k : Nat) (h : dist g s x = some k) : k < g.n := by
  have := (distIn_eq_some_iff.1 h).lt_length
  simpa using this

/-- the connectivity test used by `ecc`, `diameter`, `radius`: all ordered pairs of vertices are joined by a walk -/
theorem connected_spec (g : G) : connectedB g = true ↔ ∀ s x, s < g.n → x < g.n → ∃ k, Walk g s x k :=
  connectedB_iff g

/-- `Eccentricity`: in a connected graph the entry of `v` is the largest distance from `v`; in a disconnected graph
every entry is `-1`. -/
theorem ecc_spec (g : G) (v : Nat) (hv : v < g.n) :
    (connectedB g = true → ∃ e : Nat, ecc g v = (e : Int) ∧ IsEcc g v e ∧ ∀ e', IsEcc g v e' → e' = e) ∧
    (connectedB g = false → ecc g v = -1) := by
  constructor
  · intro hc
    refine ⟨eccNat g v, by rw [ecc, hc]; rfl, eccNat_isEcc hc hv, fun e' he' => he'.unique (eccNat_isEcc hc hv)⟩
  · intro hc; rw [ecc, hc]; rfl

example : ecc (ofEdges 3 [(0, 1), (1, 2)]) 0 = 2 := by decide  -- test (non-vacuity: a connected graph)

/-- the printed eccentricity list is `ecc` at every vertex -/
theorem eccs_spec (g : G) : eccs g = (List.range g.n).map (ecc g) := eccs_eq g

/-- `Diameter`: `0` for `n = 0`, `-1` if disconnected, otherwise the largest eccentricity. -/
theorem diameter_spec (g : G) :
    (g.n = 0 → diameter g = 0) ∧
    (0 < g.n → connectedB g = false → diameter g = -1) ∧
    (0 < g.n → connectedB g = true →
      (∀ v, v < g.n → ecc g v ≤ diameter g) ∧ ∃ v, v < g.n ∧ ecc g v = diameter g) := by
  refine ⟨fun h => by rw [diameter, if_pos h], fun hn hc => by rw [diameter, if_neg (Nat.ne_of_gt hn), hc]; rfl,
    fun hn hc => ?_⟩
  have hd : diameter g = listMaxInt (eccs g) := by rw [diameter, if_neg (Nat.ne_of_gt hn), hc]; rfl
  rw [hd, eccs_eq]
  constructor
  · intro v hv
    exact le_listMaxInt (List.mem_map.2 ⟨v, List.mem_range.2 hv, rfl⟩)
  · have hne : (List.range g.n).map (ecc g) ≠ [] := eccs_eq g ▸ eccs_ne_nil hn
    obtain ⟨v, hv, hve⟩ := List.mem_map.1 (listMaxInt_mem hne)
    exact ⟨v, List.mem_range.1 hv, hve⟩

/-- `Radius`: `0` for `n = 0`, `-1` if disconnected, otherwise the least eccentricity. -/
theorem radius_spec (g : G) :
    (g.n = 0 → radius g = 0) ∧
    (0 < g.n → connectedB g = false → radius g = -1) ∧
    (0 < g.n → connectedB g = true →
      (∀ v, v < g.n → radius g ≤ ecc g v) ∧ ∃ v, v < g.n ∧ ecc g v = radius g) := by
  refine ⟨fun h => by rw [radius, if_pos h], fun hn hc => by rw [radius, if_neg (Nat.ne_of_gt hn), hc]; rfl,
    fun hn hc => ?_⟩
  have hd : radius g = listMinInt (eccs g) := by rw [radius, if_neg (Nat.ne_of_gt hn), hc]; rfl
  rw [hd, eccs_eq]
  constructor
  · intro v hv
    exact listMinInt_le (List.mem_map.2 ⟨v, List.mem_range.2 hv, rfl⟩)
  · have hne : (List.range g.n).map (ecc g) ≠ [] := eccs_eq g ▸ eccs_ne_nil hn
    obtain ⟨v, hv, hve⟩ := List.mem_map.1 (listMinInt_mem hne)
    exact ⟨v, List.mem_range.1 hv, hve⟩

/-- The statement-by-statement model of `Distance(g, i, j)` (queue BFS, `distances[v] == 0` as the "unseen" test —
which also holds for the source, so the source can be queued a second time with label 2) returns the reference
distance, `-1` when there is no path, for every graph, every pair of vertices and every fuel `≥ n + 2`; in
particular it never panics and never runs out of fuel. -/
theorem distance_model_correct (g : G) (i j : Nat) (hi : i < g.n) (hj : j < g.n) (fuel : Nat)
    (hf : g.n + 2 ≤ fuel) :
    Model.distance g i j fuel = .ok (optToInt (dist g i j)) :=
  distance_eq_dist g i j hi hj fuel hf

example : Model.distance (ofEdges 4 [(0, 1), (1, 2)]) 0 2 = .ok 2 := by decide  -- test (non-vacuity)
example : Model.distance (ofEdges 4 [(0, 1), (1, 2)]) 0 3 = .ok (-1) := by decide  -- test

/-- The statement-by-statement model of `Eccentricity(g)` (one queue BFS per vertex with the `l != i` guard, the
counters `e` and `seenVertices`, and the `seenVertices == n-1` test) returns the reference list for every graph with
a symmetric adjacency relation and every fuel `≥ n + 2`. (The model starts every BFS from an all-zero `distances`
slice, which is what the explicit zeroing loop of the Go code establishes for `i ≠ 0`.) -/
theorem eccentricity_model_correct (g : G) (hsym : ∀ u v, g.adj u v = g.adj v u) (fuel : Nat)
    (hf : g.n + 2 ≤ fuel) :
    Model.eccentricity g fuel = .ok (eccs g) :=
  eccentricity_eq_eccs g hsym fuel hf

/-- The models of `Diameter` and `Radius` (through `Eccentricity`, `ints.Min`, `ints.Max`) return the reference
values, including `0` for `n = 0` and `-1` for disconnected graphs. -/
theorem diameter_radius_model_correct (g : G) (hsym : ∀ u v, g.adj u v = g.adj v u) :
    Model.diameterM g = .ok (diameter g) ∧ Model.radiusM g = .ok (radius g) :=
  ⟨diameterM_eq g hsym, radiusM_eq g hsym⟩

example : Model.eccentricity (ofEdges 3 [(0, 1), (1, 2)]) = .ok [2, 1, 2] := by decide  -- test (non-vacuity)

/-- `ConnectedComponents` relative to a vertex list `V` (the subgraph induced on `V`), for a symmetric adjacency
relation: the list produced is a partition of `V` into the classes of the reachability relation — every vertex
of `V` lies in some class, every class is exactly the set of vertices reachable from each of its members,
different classes are disjoint — and, when `V` is increasing, every class is an increasing list and the classes are
ordered by their least elements. -/
theorem componentsIn_spec (g : G) (hsym : ∀ u v, g.adj u v = g.adj v u) (V : List Nat) :
    (∀ x ∈ V, ∃ c ∈ componentsIn g V, x ∈ c) ∧
    (∀ c ∈ componentsIn g V, c ≠ [] ∧ ∀ x ∈ c, ∀ y, y ∈ c ↔ ReachIn g V x y) ∧
    (componentsIn g V).Pairwise (fun c c' => ∀ x ∈ c, x ∉ c') ∧
    (V.Pairwise (· < ·) →
      (∀ c ∈ componentsIn g V, c.Pairwise (· < ·)) ∧
      (componentsIn g V).Pairwise (fun c c' => ∃ a ∈ c, ∀ b ∈ c', a < b)) := by
  obtain ⟨h1, h2, h4⟩ := componentsIn_classes hsym V
  refine ⟨h2, ?_, h4, ?_⟩
  · intro c hc
    obtain ⟨s, hs, rfl⟩ := h1 c hc
    refine ⟨List.ne_nil_of_mem (mem_componentIn.2 (ReachIn.refl hs)), ?_⟩
    intro x hx y
    have hsx := mem_componentIn.1 hx
    rw [mem_componentIn]
    exact ⟨fun hy => (hsx.symm hsym).trans hy, fun hy => hsx.trans hy⟩
  · intro hsorted
    constructor
    · intro c hc
      obtain ⟨s, _, rfl⟩ := h1 c hc
      exact hsorted.sublist (componentIn_sublist g V s)
    · exact (componentsFrom_order hsym V [] (fun _ h => h) (fun x hx => by cases hx) (fun v hv => .inr hv)
        hsorted).2

/-- `ConnectedComponents` of the whole graph: a partition of `0..n-1` into reachability classes, every class
increasing, classes ordered by least element. -/
theorem components_spec (g : G) (hsym : ∀ u v, g.adj u v = g.adj v u) :
    (∀ x, x < g.n → ∃ c ∈ components g, x ∈ c) ∧
    (∀ c ∈ components g, c ≠ [] ∧ ∀ x ∈ c, ∀ y, y ∈ c ↔ Reach g x y) ∧
    (components g).Pairwise (fun c c' => ∀ x ∈ c, x ∉ c') ∧
    (∀ c ∈ components g, c.Pairwise (· < ·)) ∧
    (components g).Pairwise (fun c c' => ∃ a ∈ c, ∀ b ∈ c', a < b) := by
  obtain ⟨h1, h2, h3, h4⟩ := componentsIn_spec g hsym (List.range g.n)
  have hs : (List.range g.n).Pairwise (· < ·) := List.pairwise_lt_range
  exact ⟨fun x hx => h1 x (List.mem_range.2 hx), h2, h3, (h4 hs).1, (h4 hs).2⟩

example : components (ofEdges 4 [(0, 2), (1, 3)]) = [[0, 2], [1, 3]] := by decide  -- test

/-- `ConnectedComponent(g, v)`: exactly the vertices reachable from `v`, as an increasing list. -/
theorem component_spec (g : G) (v : Nat) :
    (∀ y, y ∈ component g v ↔ Reach g v y) ∧ (component g v).Pairwise (· < ·) :=
  ⟨fun _ => mem_componentIn, List.pairwise_lt_range.sublist (componentIn_sublist g _ v)⟩

/-- `ConnectedComponent(g, v)` is the member of `ConnectedComponents(g)` that contains `v`. -/
theorem component_mem_components (g : G) (hsym : ∀ u v, g.adj u v = g.adj v u) (v : Nat) (hv : v < g.n) :
    component g v ∈ components g :=
  componentIn_mem_componentsIn hsym (List.mem_range.2 hv)

/-- The statement-by-statement model of `ConnectedComponent(g, v)` (the `unseen` slice with swap-remove, the
`toCheck` stack, `sort.Ints` at the end) returns the reference component for every graph, every vertex `v < n` and
every fuel `≥ n + 1`; in particular it does not panic (also for `n = 1`) and terminates. -/
theorem connectedComponent_model_correct (g : G) (v : Nat) (hv : v < g.n) (fuel : Nat) (hf : g.n + 1 ≤ fuel) :
    Model.connectedComponent g v fuel = .ok (component g v) :=
  connectedComponent_eq g v hv fuel hf

example : Model.connectedComponent (ofEdges 1 []) 0 = .ok (component (ofEdges 1 []) 0) :=  -- n = 1: the start vertex is the only one
  connectedComponent_model_correct _ 0 (by decide) _ (by decide)

/-- The model of `ConnectedComponents(g)` (shared `unseen` slice, one flood fill per remaining last element) returns
exactly the reference components, each as its increasing list, in some order (the Go code starts from vertex
`n-1`; the order of the result is not fixed by the property), for every graph with a symmetric adjacency relation and
every fuel `≥ n + 1`. -/
theorem connectedComponents_model_correct (g : G) (hsym : ∀ u v, g.adj u v = g.adj v u) (fuel : Nat)
    (hf : g.n + 1 ≤ fuel) :
    ∃ cs, Model.connectedComponents g fuel = .ok cs ∧ cs.Perm (components g) :=
  connectedComponents_perm g hsym fuel hf


/-! ## Articulation vertices -/

/-- `BiconnectedComponents` (second result): `v` is reported iff deleting `v` increases the number of connected
components (`numComponentsIn g V` is the number of reachability classes of `g[V]` by `componentsIn_spec`);
the list is increasing. -/
theorem articulation_spec (g : G) :
    (∀ v, v ∈ articulation g ↔
      (v < g.n ∧ numComponentsIn g (List.range g.n) < numComponentsIn g ((List.range g.n).erase v))) ∧
    (articulation g).Pairwise (· < ·) := by
  constructor
  · intro v
    simp [articulation, isArticIn, List.mem_filter]
  · exact List.pairwise_lt_range.sublist List.filter_sublist

example : articulation (ofEdges 3 [(0, 1), (1, 2)]) = [1] := by decide  -- test

/-! ## Blocks -/

/-- the connectivity test on a vertex list (symmetric adjacency): any two vertices of `V` are joined by a walk
inside `V` (so the empty list and single vertices are connected). -/
theorem connectedIn_spec (g : G) (hsym : ∀ u v, g.adj u v = g.adj v u) (V : List Nat) :
    connectedIn g V = true ↔ ∀ x ∈ V, ∀ y ∈ V, ReachIn g V x y :=
  connectedIn_iff hsym V

/-- a block set: non-empty, induces a connected subgraph, and no vertex of it is an articulation vertex of that
induced subgraph (deleting it does not increase the number of components) -/
theorem isBlockSet_spec (g : G) (S : List Nat) :
    isBlockSet g S = true ↔
      (S ≠ [] ∧ connectedIn g S = true ∧
        ∀ v ∈ S, ¬ numComponentsIn g S < numComponentsIn g (S.erase v)) := by
  simp [isBlockSet, isArticIn, List.all_eq_true, and_assoc]

/-- `BiconnectedComponents` (first result): the reference list consists exactly of the maximal block sets, each
as an increasing list (a sublist of `0..n-1`). -/
theorem blocks_spec (g : G) (S : List Nat) :
    S ∈ blocks g ↔
      (S.Sublist (List.range g.n) ∧ isBlockSet g S = true ∧
        ∀ T, T.Sublist (List.range g.n) → isBlockSet g T = true → (∀ x ∈ S, x ∈ T) → S = T) :=
  mem_blocks

example : blocks (ofEdges 3 [(0, 1), (1, 2)]) = [[1, 2], [0, 1]] := by decide  -- test

/-- `BiconnectedComponents` model (iterative lowpoint DFS as coded), totality part: for every graph with a
symmetric adjacency relation the model returns a value — no index is out of range (in particular
`bicoms[i][len(bicoms[i])-1]` in the merge loop is never taken of an empty slice: all partial blocks except the
current one are non-empty), every `for len(toCheck) > 0` loop terminates within `2n + 2` iterations (each iteration
pushes an unvisited vertex or pops one) — and every reported block is a sorted list. Loops (`g.adj v v = true`) are
allowed here; for simple graphs `biconnectedComponents_model_correct` below says what is returned (blocks =
`blocks g`, articulation vertices = `articulation g`). -/
theorem biconnectedComponents_model_total_partial (g : G) (hsym : ∀ u v, g.adj u v = g.adj v u) :
    ∃ bs arts, Model.biconnectedComponents g = .ok (bs, arts) ∧
      ∀ b ∈ bs, b.Pairwise (fun a b => decide (a ≤ b) = true) :=
  biconnectedComponents_total g hsym

/-- `BiconnectedComponents` model: every vertex of the graph lies in at least one reported block (isolated
vertices as singleton blocks). Only symmetry is assumed (loops allowed); for simple graphs
`biconnectedComponents_model_correct` below identifies the reported blocks with `blocks g`. -/
theorem bicon_blocks_cover_vertices_partial (g : G) (hsym : ∀ u v, g.adj u v = g.adj v u)
    (bs : List (List Nat)) (arts : List Nat) (hres : Model.biconnectedComponents g = .ok (bs, arts)) :
    ∀ x, x < g.n → ∃ b ∈ bs, x ∈ b :=
  bicon_cover_vertices g hsym bs arts hres

/-! ### DFS-tree theory of the `BiconnectedComponents` model

`BicReach h com out0 st`: `st` is a state the `for len(toCheck) > 0` loop of the model goes through on the component
graph `h` (`bicStep` is one iteration of that loop, `Lemmas/DistanceBiconStep.lean`: `bicLoop_succ`). `dI st x` is
`depths[x]` (`-1` = unvisited), `tp` the parent function of the DFS tree (a ghost: `parents[x]` is overwritten by
`-1` when the block of `x` is emitted). -/

/-- (1) The stack `toCheck` is the tree path from the current vertex down to the root `0` (`StackPath`), and the
discovery depths strictly increase along it (top first: strictly decreasing); every visited vertex other than the
root hangs below its tree parent by a graph edge with depth one larger. -/
theorem bicon_stack_is_root_path (h : G) (com : List Nat) (hsym : ∀ u v, h.adj u v = h.adj v u)
    (hirr : ∀ v, h.adj v v = false) (hn : 0 < h.n) (out0 : List (List Nat))
    (hout : ∀ b ∈ out0, b.Pairwise (fun a b => decide (a ≤ b) = true)) (st : Model.BicSt)
    (hr : BicReach h com out0 st) :
    ∃ tp : Nat → Nat, StackPath tp st.toCheck ∧
      st.toCheck.Pairwise (fun up lw => dI st lw < dI st up) ∧
      (∀ x, x < h.n → bvis st x → x ≠ 0 →
        tp x < h.n ∧ bvis st (tp x) ∧ h.adj (tp x) x = true ∧ dI st x = dI st (tp x) + 1) := by
  obtain ⟨tp, dt, _⟩ := dtla_reach com hsym hn out0 hout hr
  exact ⟨tp, dt.path, dt.sdec, dt.tree⟩

/-- (2) No cross edges: every edge between two visited vertices joins an ancestor and a descendant in the DFS tree;
moreover a vertex that has left the stack has all its neighbours visited. -/
theorem bicon_no_cross_edges (h : G) (com : List Nat) (hsym : ∀ u v, h.adj u v = h.adj v u)
    (hirr : ∀ v, h.adj v v = false) (hn : 0 < h.n) (out0 : List (List Nat))
    (hout : ∀ b ∈ out0, b.Pairwise (fun a b => decide (a ≤ b) = true)) (st : Model.BicSt)
    (hr : BicReach h com out0 st) :
    ∃ tp : Nat → Nat,
      (∀ x y, x < h.n → y < h.n → bvis st x → bvis st y → h.adj x y = true → Anc tp x y ∨ Anc tp y x) ∧
      (∀ x, x < h.n → bvis st x → x ∉ st.toCheck → ∀ w, h.adj x w = true → w < h.n → bvis st w) := by
  obtain ⟨tp, dt, _⟩ := dtla_reach com hsym hn out0 hout hr
  exact ⟨tp, dt.nocross, dt.fin⟩

/-- (3) Lowpoints are correct: in every reachable state, for every vertex `x` that has left the stack, `lowpoints[x]`
(`lo st x`) is the least discovery depth among `x` itself and the end points `a` of the edges `(z, a)` leaving a
vertex `z` of the subtree of `x` other than the tree edge to the parent of `z` — it is a lower bound for all of them
and it is attained; for the vertices still on the stack `lowpoints[x] = depths[x]`. -/
theorem bicon_low_correct (h : G) (com : List Nat) (hsym : ∀ u v, h.adj u v = h.adj v u)
    (hirr : ∀ v, h.adj v v = false) (hn : 0 < h.n) (out0 : List (List Nat))
    (hout : ∀ b ∈ out0, b.Pairwise (fun a b => decide (a ≤ b) = true)) (st : Model.BicSt)
    (hr : BicReach h com out0 st) :
    ∃ tp : Nat → Nat,
      (∀ x ∈ st.toCheck, lo st x = dI st x) ∧
      (∀ x, x < h.n → bvis st x → lo st x ≤ dI st x) ∧
      (∀ x, x < h.n → bvis st x → x ∉ st.toCheck → ∀ z a, z < h.n → Anc tp x z → bvis st z →
        h.adj z a = true → a < h.n → a ≠ tp z → lo st x ≤ dI st a) ∧
      (∀ x, x < h.n → bvis st x → x ∉ st.toCheck → lo st x = dI st x ∨
        ∃ z a, z < h.n ∧ Anc tp x z ∧ bvis st z ∧ h.adj z a = true ∧ a < h.n ∧ a ≠ tp z ∧
          lo st x = dI st a) := by
  obtain ⟨tp, dt, la⟩ := dtla_reach com hsym hn out0 hout hr
  exact ⟨tp, dt.lostk, la.lole, la.lob, la.loatt⟩

example : BicReach (ofEdges 2 [(0, 1)]) [0, 1] [] (bicInit 2 []) := BicReach.init  -- non-vacuity

/-- (4a) The lowpoint criterion is the separation property. At the end of the DFS of a connected graph `h` (state
`st`, DFS tree `tp`, `DFinal`: the invariants of (1)–(3), every vertex visited, stack empty) a vertex `i` satisfies
the criterion the Go code tests — `i` is not the root and has a tree child `c` with `lowpoints[c] >= depths[i]`, or
`i` is the root and has two different tree children — iff deleting `i` separates two other vertices of `h`
(`SepIn`: they are joined by a walk, but by none avoiding `i`). -/
theorem bicon_lowpoint_criterion (h : G) (st : Model.BicSt) (tp : Nat → Nat) (df : DFinal h st tp)
    (hsym : ∀ u v, h.adj u v = h.adj v u) (i : Nat) (hi : i < h.n) :
    Crit h st tp i ↔ SepIn h (List.range h.n) i :=
  df.crit_iff_sep hsym hi

/-- (4b) Deleting `v` increases the number of components of the subgraph on `V` (`isArticIn`, the definition behind
`articulation g`) iff `v` separates two other vertices of `V`. -/
theorem articulation_iff_separates (g : G) (hsym : ∀ u v, g.adj u v = g.adj v u) (V : List Nat) (v : Nat) :
    isArticIn g V v = true ↔ SepIn g V v :=
  isArticIn_iff_sep hsym V v

/-- (4c) **Soundness of the articulation vertices of `BiconnectedComponents`**: for every simple graph (symmetric,
irreflexive adjacency) every vertex the faithful model reports is an articulation vertex (`articulation g`: deleting
it increases the number of connected components). -/
theorem bicon_articulation_sound (g : G) (hsym : ∀ u v, g.adj u v = g.adj v u) (hirr : ∀ v, g.adj v v = false)
    (bs : List (List Nat)) (arts : List Nat) (hres : Model.biconnectedComponents g = .ok (bs, arts)) :
    ∀ x, x ∈ arts → x ∈ articulation g :=
  fun x hx => ((bicon_articulation_eq g hsym bs arts hres).2.1 x).1 hx

/-- (4d) **Completeness**: every articulation vertex of `g` is reported by the faithful model, exactly once; hence
the reported list, sorted (as the harness prints it), is exactly `articulation g`. -/
theorem bicon_articulation_complete (g : G) (hsym : ∀ u v, g.adj u v = g.adj v u) (hirr : ∀ v, g.adj v v = false)
    (bs : List (List Nat)) (arts : List Nat) (hres : Model.biconnectedComponents g = .ok (bs, arts)) :
    (∀ x, x ∈ articulation g → x ∈ arts) ∧ arts.Nodup ∧ Model.sortInts arts = articulation g :=
  have h := bicon_articulation_eq g hsym bs arts hres
  ⟨fun x hx => (h.2.1 x).2 hx, h.1, h.2.2⟩

/-- (5a) The blocks appended by the DFS of one connected component `com`, in terms of the final DFS tree `tp`,
depths and lowpoints (`DFinal`: the invariants of (1)–(3) at the end of the loop): either the component is a single
vertex and the only block is that vertex, or the blocks are — each exactly once, as increasing lists of global
labels (`IsBlk`) — the sets `{tp c} ∪ {y | NL c y}` for the non-root vertices `c` with
`lowpoints[c] >= depths[tp c]`, where `NL c y` says that `y` lies in the subtree of `c` and no vertex strictly below
`c` on the tree path to `y` has that property. -/
theorem bicon_blocks_structure (g : G) (com : List Nat) (gc : GoodCom g com) (hne : com ≠ [])
    (hconn : ∀ x ∈ com, Reach g (com.getD 0 0) x) (hsym : ∀ u v, g.adj u v = g.adj v u)
    (hirr : ∀ v, g.adj v v = false) (acc acc' : List (List Nat) × List Nat)
    (hacc : ∀ b ∈ acc.1, b.Pairwise (fun a b => decide (a ≤ b) = true))
    (hres : Model.bicComponent g com acc = .ok acc') :
    ∃ st tp new, DFinal (g.induced com) st tp ∧ acc'.1 = acc.1 ++ new ∧
      BlocksOf (g.induced com) com st tp new :=
  let ⟨st, tp, new, _, df, e, hB, _⟩ := bicComponent_spec gc hne hconn hsym acc acc' hacc hres
  ⟨st, tp, new, df, e, hB⟩

/-- (5b) **Every edge lies in exactly one block**: for every simple graph and every edge `x – y`, exactly one of
the blocks returned by the faithful model of `BiconnectedComponents` contains both end points. -/
theorem bicon_blocks_cover_edges (g : G) (hsym : ∀ u v, g.adj u v = g.adj v u) (hirr : ∀ v, g.adj v v = false)
    (bs : List (List Nat)) (arts : List Nat) (hres : Model.biconnectedComponents g = .ok (bs, arts)) :
    ∀ x y, x < g.n → y < g.n → g.adj x y = true →
      ∃ b ∈ bs, x ∈ b ∧ y ∈ b ∧ ∀ b' ∈ bs, x ∈ b' → y ∈ b' → b' = b :=
  (bicon_blocks_edges_connected g hsym hirr bs arts hres).1

/-- (5c) **Every block is connected**: any two vertices of a returned block are joined by a walk inside the
block. -/
theorem bicon_blocks_connected (g : G) (hsym : ∀ u v, g.adj u v = g.adj v u) (hirr : ∀ v, g.adj v v = false)
    (bs : List (List Nat)) (arts : List Nat) (hres : Model.biconnectedComponents g = .ok (bs, arts)) :
    ∀ b ∈ bs, ∀ x ∈ b, ∀ y ∈ b, ReachIn g b x y :=
  (bicon_blocks_edges_connected g hsym hirr bs arts hres).2

/-- (6a) Inside the graph `h` of one component, at the end of the DFS: a block `{tp l} ∪ {y | NL l y}` of a
block-closing vertex `l` (`Ldr`: non-root, `lowpoints[l] >= depths[tp l]`) has no articulation vertex — deleting any
vertex `v` of it leaves the rest connected inside the block (`SepIn` fails). -/
theorem bicon_block_no_articulation (h : G) (st : Model.BicSt) (tp : Nat → Nat) (df : DFinal h st tp)
    (hsym : ∀ u v, h.adj u v = h.adj v u) (l : Nat) (hl : Ldr h st tp l) (B : List Nat)
    (hB : ∀ w, w ∈ B ↔ (w < h.n ∧ InBlk st tp l w)) (hnd : B.Nodup) : ∀ v ∈ B, ¬ SepIn h B v :=
  df.block_no_sep hsym hl B hB hnd

/-- (6b) Maximality, inside the graph `h` of one component with at least two vertices: every non-empty connected
vertex set without articulation vertex (`BSet`) lies inside the block of one block-closing vertex, and the blocks of
two different block-closing vertices are not nested. -/
theorem bicon_block_sets_covered (h : G) (st : Model.BicSt) (tp : Nat → Nat) (df : DFinal h st tp)
    (hsym : ∀ u v, h.adj u v = h.adj v u) (hn2 : 1 < h.n) :
    (∀ T, BSet h T → ∃ l, Ldr h st tp l ∧ ∀ x ∈ T, InBlk st tp l x) ∧
    (∀ l l', Ldr h st tp l → Ldr h st tp l' → (∀ x, x < h.n → InBlk st tp l x → InBlk st tp l' x) → l = l') :=
  ⟨fun T hT => df.bset_in_block hn2 T hT, fun _ _ hl hl' hsub => df.block_not_nested hl hl' hsub⟩

/-- (6c) **`BiconnectedComponents` = specification.** For every simple graph (symmetric, irreflexive adjacency) the
faithful model of `BiconnectedComponents` (iterative lowpoint DFS, statement by statement after the Go code) returns
a value `(bs, arts)` — no panic, within its fuel — such that
* `bs` is a permutation of `blocks g`: every returned block is a maximal block set (`blocks_spec`: non-empty,
  connected, without articulation vertex, maximal) as an increasing list, every block of `g` is returned, none twice;
* `arts`, sorted, is `articulation g` (`articulation_spec`); no vertex is reported twice.
The harness sorts both results before printing, so the printed result of the model is the printed reference. -/
theorem biconnectedComponents_model_correct (g : G) (hsym : ∀ u v, g.adj u v = g.adj v u)
    (hirr : ∀ v, g.adj v v = false) :
    ∃ bs arts, Model.biconnectedComponents g = .ok (bs, arts) ∧
      bs.Perm (blocks g) ∧ (∀ S, S ∈ bs ↔ S ∈ blocks g) ∧ bs.Nodup ∧
      Model.sortInts arts = articulation g ∧ arts.Nodup := by
  obtain ⟨bs, arts, hres, _⟩ := biconnectedComponents_total g hsym
  obtain ⟨h1, h2, h3⟩ := bicon_blocks_eq g hsym bs arts hres
  obtain ⟨h4, _, h6⟩ := bicon_articulation_eq g hsym bs arts hres
  exact ⟨bs, arts, hres, h3, h2, h1, h6, h4⟩

/-- `Girth`: the reference value is the least number of vertices of a cycle (`IsCycleSeq`: at least three distinct
vertices, consecutive ones and last/first adjacent); `none` (printed `-1`) iff the graph has no cycle. -/
theorem girth_spec (g : G) :
    (∀ l, girthOpt g = some l ↔
      ((∃ c, IsCycleSeq g c ∧ c.length = l) ∧ ∀ c, IsCycleSeq g c → l ≤ c.length)) ∧
    (girthOpt g = none ↔ ¬ ∃ c, IsCycleSeq g c) ∧
    girth g = optToInt (girthOpt g) :=
  ⟨girthOpt_eq_some_iff g, girthOpt_eq_none_iff g, rfl⟩

example : girth (ofEdges 4 [(0, 1), (1, 2), (2, 3), (0, 3)]) = 4 := by decide  -- test

/-- `NumberOfCycles[l]`: the reference count is the length of a duplicate-free list that contains exactly the
canonical vertex sequences (`IsCanonCycle`: least vertex first, then its smaller cycle neighbour) of the cycles with
`l` vertices. By `canon_cycle_exists_unique` below every cycle has exactly one canonical sequence among its
rotations and reflections, so this is the number of cycle subgraphs with `l` vertices. -/
theorem numCycles_spec (g : G) (l : Nat) :
    (canonCycles g l).Nodup ∧ (∀ c, c ∈ canonCycles g l ↔ IsCanonCycle g l c) ∧
    numCycles g l = (canonCycles g l).length ∧
    numCyclesList g = (List.range (g.n + 1)).map (numCycles g) :=
  ⟨nodup_canonCycles l, fun _ => mem_canonCycles, rfl, rfl⟩

/-- Counting subgraphs through canonical sequences is sound: two vertex sequences describe the same cycle subgraph
iff one is a rotation of the other or of its reversal (`~r` is Mathlib's `List.IsRotated`), and for a symmetric
adjacency relation every cycle sequence has exactly one canonical sequence in that class. -/
theorem canon_cycle_exists_unique (g : G) (hsym : ∀ u v, g.adj u v = g.adj v u) (c : List Nat)
    (hc : IsCycleSeq g c) :
    ∃! c', IsCanonCycle g c.length c' ∧ (List.IsRotated c' c ∨ List.IsRotated c' c.reverse) :=
  canon_exists_unique hsym hc

example : IsCycleSeq (ofEdges 3 [(0, 1), (1, 2), (0, 2)]) [2, 1, 0] := by  -- non-vacuity
  refine ⟨by decide, by decide, by decide, ?_, by decide⟩
  simp only [chainAdj, and_true]
  decide

/-- `NumberOfInducedCycles[l]`: same, for the canonical cycle sequences without chords. -/
theorem numInducedCycles_spec (g : G) (l : Nat) :
    (canonInducedCycles g l).Nodup ∧
    (∀ c, c ∈ canonInducedCycles g l ↔ (IsCanonCycle g l c ∧ chordlessCyc g c = true)) ∧
    numInducedCycles g l = (canonInducedCycles g l).length :=
  ⟨nodup_canonInducedCycles l, fun _ => mem_canonInducedCycles, rfl⟩

/-- `NumberOfInducedPaths[l]`: the reference count is the length of a duplicate-free list that contains exactly the
canonical sequences (listed from the smaller end vertex) of the chordless simple paths with `l` edges. -/
theorem numInducedPaths_spec (g : G) (l : Nat) :
    (canonInducedPaths g l).Nodup ∧ (∀ p, p ∈ canonInducedPaths g l ↔ IsCanonInducedPath g l p) ∧
    numInducedPaths g l = (canonInducedPaths g l).length :=
  ⟨nodup_canonInducedPaths l, fun _ => mem_canonInducedPaths, rfl⟩

example : numCyclesList (ofEdges 4 [(0, 1), (1, 2), (0, 2), (2, 3), (0, 3)]) = [0, 0, 0, 2, 1] := by decide  -- test

/-- The statement-by-statement model of `NumberOfInducedPaths(g, maxLength)` — the `maxLength` normalisation, one
DFS per connected component and start vertex with an explicit stack of partial paths and their `bannedNeighbours`
sets (`sortints.SetMinus/Union/Add`), the final halving and `r[0] = n` — returns, for every graph with a symmetric
adjacency relation, every `maxLength` (also negative or too large) and every fuel `≥ (n+2)^(n+2)`: entry `l` = the
number of induced paths with `l` edges for `l ≤ max (effective bound) 1`, and `0` beyond. (Entry 1 is filled even
for the bound 0, as in the Go code.) In particular the model does not panic and terminates. -/
theorem numberOfInducedPaths_model_correct (g : G) (hsym : ∀ u v, g.adj u v = g.adj v u) (maxLength : Int)
    (fuel : Nat) (hf : Model.stackFuel g.n ≤ fuel) :
    Model.numberOfInducedPaths g maxLength fuel =
      .ok ((List.range g.n).map fun l =>
        if l ≤ max (pathBound g maxLength) 1 then numInducedPaths g l else 0) :=
  numberOfInducedPaths_eq g hsym maxLength fuel hf

/-- there are exactly twice as many directed induced path sequences as canonical ones (`l ≥ 1`): this is what
makes the final `r[i] /= 2` exact -/
theorem induced_paths_two_directions (g : G) (hsym : ∀ u v, g.adj u v = g.adj v u) (l : Nat) (hl : 1 ≤ l) :
    (allInducedPaths g l).length = 2 * numInducedPaths g l :=
  allInducedPaths_length hsym hl

/-- The statement-by-statement model of `NumberOfInducedCycles(g, maxLength)` — the `maxLength` normalisation, the
stack DFS with `allowedEnds` and `bannedNeighbours` per connected component and start vertex, the closing count
`len(Intersection(Neighbours(last), allowedEnds))`, and the final `r[i] /= 2*i` — returns, for every graph with a
symmetric loop-free adjacency relation, every `maxLength` and every fuel `≥ (n+2)^(n+2)`: entry `l` = the number of
induced cycles with `l` vertices for `l ≤` effective bound, and `0` beyond. It does not panic and terminates. -/
theorem numberOfInducedCycles_model_correct (g : G) (hsym : ∀ u v, g.adj u v = g.adj v u)
    (hirr : ∀ v, g.adj v v = false) (maxLength : Int) (fuel : Nat) (hf : Model.stackFuel g.n ≤ fuel) :
    Model.numberOfInducedCycles g maxLength fuel =
      .ok ((List.range (g.n + 1)).map fun l =>
        if l ≤ cycBound g maxLength then numInducedCycles g l else 0) :=
  numberOfInducedCycles_eq g hsym hirr maxLength fuel hf

/-- every induced cycle with `c ≥ 3` vertices has exactly `2c` rooted directed vertex sequences (orbit counting
through `List.cyclicPermutations`): this is what makes the final `r[i] /= 2*i` exact -/
theorem induced_cycles_orbits (g : G) (hsym : ∀ u v, g.adj u v = g.adj v u) (c : Nat) (hc : 3 ≤ c) :
    (allIndCycleSeqs g c).Nodup ∧ (∀ q, q ∈ allIndCycleSeqs g c ↔ IsIndCycleSeq g c q) ∧
    (allIndCycleSeqs g c).length = 2 * c * numInducedCycles g c :=
  ⟨nodup_allIndCycleSeqs c, fun _ => mem_allIndCycleSeqs hsym hc,
   indCycleSeq_count hsym c (nodup_allIndCycleSeqs c) (fun _ => mem_allIndCycleSeqs hsym hc)⟩

/-- `NumberOfCycles` model, totality of its two algorithmic phases on every block `a = g.induced bicom`
(symmetric adjacency): Paton's spanning-tree phase returns a value — `length := depth[v] - depth[T[u]] + 2` is never
below 2 (the parents of the vertices waiting on the stack `X` are never deeper than the vertex being examined:
Paton's remark that a back edge leads to a vertex at distance one from the tree path to `v`), following `T` from a
tree vertex never meets `-1`, all indices are in range, and the `for len(X) > 0` loop terminates within `n + 1`
iterations — and Gibbs' steps 2–4 return a value on the fundamental cycles it produced. (The full totality of the
model, including the final `numberFound[len(V)]++`, is `numberOfCycles_model_total` below.) -/
theorem numberOfCycles_phases_total (g : G) (hsym : ∀ u v, g.adj u v = g.adj v u) (bicom : List Nat)
    (hne : 0 < (g.induced bicom).n) :
    ∃ st, Model.patonLoop (g.induced bicom) ((g.induced bicom).n + 1) (patonInit (g.induced bicom).n) = .ok st ∧
      ∀ f0 fs, st.fund = f0 :: fs → ∃ gs, Model.gibbsLoop fs { S := [f0], Q := [f0] } = .ok gs := by
  obtain ⟨st, hst⟩ := paton_total (g.induced bicom) (induced_symm hsym bicom) hne
  exact ⟨st, hst, fun f0 fs _ => gibbsLoop_total fs _⟩

example : 0 < ((ofEdges 3 [(0, 1), (1, 2), (0, 2)]).induced [0, 1, 2]).n := by decide  -- non-vacuity

/-- `NumberOfCycles`, Paton's phase, soundness: on every simple graph `a` (in the model: a block
`g.induced bicom`), every fundamental cycle appended to `fundCycles` is the sorted list of the edge codes
(`edgeCode`: `max(max-1)/2 + min`) of a simple cycle of `a` (`IsCycCode`: there is a vertex sequence `c` with
`IsCycleSeq a c` — at least three distinct vertices, consecutive ones and last/first adjacent — whose edge codes,
sorted, are the list). The cycle is `u, v, T[v], T[T[v]], …, T[u]` (invariant `PS`). -/
theorem paton_cycles_sound (a : G) (hsym : ∀ u v, a.adj u v = a.adj v u) (hirr : ∀ v, a.adj v v = false)
    (hn : 0 < a.n) (fuel : Nat) (st : Model.PatonSt)
    (hres : Model.patonLoop a fuel (patonInit a.n) = .ok st) :
    ∀ f ∈ st.fund, IsCycCode a f :=
  paton_fund_sound a hsym hirr hn fuel st hres

/-- `NumberOfCycles`, Paton's phase, count: on a connected simple graph `a` with `m` edges (a block is connected)
the phase produces exactly `m - n + 1` fundamental cycles (`|fundCycles| + n = m + 1`; invariant `PC`: a removed edge
either adds a tree vertex or a fundamental cycle, and at the end the removed edges are exactly the edges of `a`). -/
theorem paton_cycles_count (a : G) (hsym : ∀ u v, a.adj u v = a.adj v u) (hirr : ∀ v, a.adj v v = false)
    (hn : 0 < a.n) (hconn : ∀ x, x < a.n → Reach a 0 x) (fuel : Nat) (st : Model.PatonSt)
    (hres : Model.patonLoop a fuel (patonInit a.n) = .ok st) :
    st.fund.length + a.n = a.m + 1 :=
  paton_fund_count a hsym hirr hn hconn fuel st hres

/-- `NumberOfCycles`, Paton's phase, independence: every fundamental cycle contains an edge code (that of its
non-tree edge `u – v`) that no other fundamental cycle contains — `es[j] ∈ fundCycles[i] ↔ i = j` — hence the
fundamental cycles are linearly independent over GF(2) (invariant `PI`).
Together with `paton_cycles_count` (`m - n + 1` of them) this is the fundamental-basis half of Paton's theorem; the
spanning half (every cycle of the block is the XOR of the fundamental cycles of its non-tree edges) is
`paton_cycles_span` below. -/
theorem paton_cycles_independent (a : G) (hsym : ∀ u v, a.adj u v = a.adj v u) (hirr : ∀ v, a.adj v v = false)
    (hn : 0 < a.n) (fuel : Nat) (st : Model.PatonSt)
    (hres : Model.patonLoop a fuel (patonInit a.n) = .ok st) :
    ∃ es : List Nat, es.length = st.fund.length ∧
      ∀ i j (hi : i < st.fund.length) (hj : j < es.length), es[j] ∈ st.fund[i] ↔ i = j :=
  paton_fund_private a hsym hirr hn fuel st hres

/-- `sortints.XOR` (model `sXor`, the merge loop of the Go code) on strictly increasing lists returns a strictly
increasing list whose elements are those lying in exactly one argument (symmetric difference). -/
theorem sortedXor_spec (s t : List Nat) (hs : s.Pairwise (· < ·)) (ht : t.Pairwise (· < ·)) :
    (Model.sXor s t).Pairwise (· < ·) ∧ ∀ z, z ∈ Model.sXor s t ↔ ((z ∈ s ∧ z ∉ t) ∨ (z ∉ s ∧ z ∈ t)) :=
  sXor_spec s t hs ht

/-- `NumberOfCycles`, Gibbs' loop, the span: on a block `a`, with `f0 :: fs` the fundamental cycles of Paton's
phase, the list `Q` at the end of Gibbs' loop is exactly the list of all non-empty XOR combinations of the
fundamental cycles (`QInv`): every `t ∈ Q` is the XOR (`IsXorOf I t`: strictly increasing, `x ∈ t` iff `x` occurs in
an odd number of the lists of `I`) of a non-empty sublist `I` of `f0 :: fs`, every non-empty sublist is represented,
and `|Q| = 2^(number of fundamental cycles) - 1`. -/
theorem gibbs_Q_span (a : G) (hsym : ∀ u v, a.adj u v = a.adj v u) (hirr : ∀ v, a.adj v v = false)
    (hn : 0 < a.n) (fuel : Nat) (st : Model.PatonSt) (hres : Model.patonLoop a fuel (patonInit a.n) = .ok st)
    (f0 : List Nat) (fs : List (List Nat)) (hfund : st.fund = f0 :: fs) (gs : Model.GibbsSt)
    (hg : Model.gibbsLoop fs { S := [f0], Q := [f0] } = .ok gs) :
    (∀ t ∈ gs.Q, ∃ I, I ≠ [] ∧ I.Sublist (f0 :: fs) ∧ IsXorOf I t) ∧
    (∀ I, I ≠ [] → I.Sublist (f0 :: fs) → ∃ t ∈ gs.Q, IsXorOf I t) ∧
    gs.Q.length + 1 = 2 ^ (f0 :: fs).length :=
  have h := (gibbs_on_block a hsym hirr hn fuel st hres f0 fs hfund gs hg).1
  ⟨h.sound, h.complete, h.len⟩

/-- `NumberOfCycles`, Gibbs' loop, even sets: every element of `Q` — in particular every set kept in `S`, since
`S ⊆ Q` (step 3 only removes elements of `R`) — is an edge set in which every vertex of the block has even degree
(`EvenSet`: `degIn n t w`, the number of codes of `t` that are codes of an edge at `w`, is even). That the sets kept in `S` are single cycles is
`gibbs_kept_is_cycle` below; that every cycle is kept exactly once is NOT proved (see `numberOfCycles_model_total`). -/
theorem gibbs_sets_even (a : G) (hsym : ∀ u v, a.adj u v = a.adj v u) (hirr : ∀ v, a.adj v v = false)
    (hn : 0 < a.n) (fuel : Nat) (st : Model.PatonSt) (hres : Model.patonLoop a fuel (patonInit a.n) = .ok st)
    (f0 : List Nat) (fs : List (List Nat)) (hfund : st.fund = f0 :: fs) (gs : Model.GibbsSt)
    (hg : Model.gibbsLoop fs { S := [f0], Q := [f0] } = .ok gs) :
    (∀ t ∈ gs.Q, EvenSet a.n t) ∧ (∀ V ∈ gs.S, V ∈ gs.Q) :=
  (gibbs_on_block a hsym hirr hn fuel st hres f0 fs hfund gs hg).2

/-- `NumberOfCycles`, spanning half of the basis theorem: on a connected simple graph `a` (a block), every simple
cycle `c` of `a` — as the sorted list of its edge codes — is the XOR of a non-empty set of fundamental cycles of
Paton's phase, and therefore an element of Gibbs' `Q` (`gibbs_Q_span`). Together with `paton_cycles_count` / `paton_cycles_independent` the fundamental cycles are a basis of the
cycle space. That Gibbs' step 3 keeps only single cycles among the elements of `Q` is `gibbs_kept_is_cycle` below; that
it keeps every single cycle, and only once, is NOT proved. -/
theorem paton_cycles_span (a : G) (hsym : ∀ u v, a.adj u v = a.adj v u) (hirr : ∀ v, a.adj v v = false)
    (hn : 0 < a.n) (hconn : ∀ x, x < a.n → Reach a 0 x) (fuel : Nat) (st : Model.PatonSt)
    (hres : Model.patonLoop a fuel (patonInit a.n) = .ok st)
    (f0 : List Nat) (fs : List (List Nat)) (hfund : st.fund = f0 :: fs) (gs : Model.GibbsSt)
    (hg : Model.gibbsLoop fs { S := [f0], Q := [f0] } = .ok gs) (c : List Nat) (hc : IsCycleSeq a c) :
    Model.sortInts (cycCodes c) ∈ gs.Q ∧
      ∃ I, I ≠ [] ∧ I.Sublist st.fund ∧ IsXorOf I (Model.sortInts (cycCodes c)) := by
  obtain ⟨nt, F⟩ := paton_final a hsym hirr hn hconn fuel st hres
  have hq := (gibbs_on_block a hsym hirr hn fuel st hres f0 fs hfund gs hg).1
  rw [← hfund] at hq
  have hm := cycle_in_Q F hsym hirr hq c hc
  exact ⟨hm, hq.sound _ hm⟩

/-- Cycle decomposition, the graph lemma behind Gibbs' step 3: in an edge set `t` (a duplicate-free list of edge
codes on the vertices `0..n-1`) in which every vertex has even degree (`EvenSet`), every edge `p – q` of `t` lies on a
simple cycle contained in `t`: there is a vertex sequence `c` from `p` to `q` with at least three distinct vertices
all of whose cycle codes (`cycCodes c`, the closing edge `p – q` included) lie in `t`. -/
theorem even_set_edge_on_cycle (n : Nat) (t : List Nat) (hnd : t.Nodup) (hev : EvenSet n t) (p q : Nat)
    (hp : p < n) (hq : q < n) (hpq : p ≠ q) (hex : Model.edgeCode p q ∈ t) :
    ∃ c : List Nat, 3 ≤ c.length ∧ c.Nodup ∧ (∀ x ∈ c, x < n) ∧ c.headD 0 = p ∧ c.getLastD 0 = q ∧
      (∀ z ∈ cycCodes c, z ∈ t) ∧ Model.edgeCode p q ∈ cycCodes c :=
  even_edge_on_cycle hnd hev hp hq hpq hex

/-- A minimal non-empty even edge set is a single simple cycle: if `t` is non-empty, consists of codes of pairs of
distinct vertices `< n`, has even degrees, and every non-empty even subset of `t` is all of `t`, then `t` is (a
permutation of) the list of the edge codes of a simple cycle of the graph `codeG n t` of its own edges. This is the
fact Gibbs' step 3 relies on (a set that contains no other element of `R` is a single cycle). The array code of
step 3 is treated in `gibbs_step3_kept`; that every set it keeps is a single cycle, hence `len(V) ≤ n`, is
`gibbs_kept_is_cycle`, and the totality of the model is `numberOfCycles_model_total` (all below). The counts are NOT
proved. -/
theorem minimal_even_set_is_cycle (n : Nat) (t : List Nat) (hnd : t.Nodup) (hne : t ≠ [])
    (hcodes : ∀ z ∈ t, ∃ p q, p < n ∧ q < n ∧ p ≠ q ∧ z = Model.edgeCode p q) (hev : EvenSet n t)
    (hmin : ∀ u : List Nat, u.Nodup → u ≠ [] → (∀ z ∈ u, z ∈ t) → EvenSet n u → ∀ z ∈ t, z ∈ u) :
    ∃ c, IsCycleSeq (codeG n t) c ∧ t.Perm (cycCodes c) :=
  minimal_even_is_cycle hnd hne hcodes hev hmin

/-- `NumberOfCycles`, Gibbs' step 3 (the swap-remove loop `for j := len(R)-1; j >= 0; j--`), abstractly: let `R0` be
the original list (strictly increasing lists) and `Good` a property such that every element of `R0` contains a good
element of `R0`. Then every element of the returned `R` is good. -/
theorem gibbs_step3_kept (Good : List Nat → Prop) (R0 : List (List Nat))
    (hs0 : ∀ V ∈ R0, V.Pairwise (· < ·))
    (hC : ∀ V ∈ R0, ∃ W ∈ R0, Good W ∧ ∀ x ∈ W, x ∈ V) (R' : Array (List Nat)) (P' : List (List Nat))
    (h : Model.gibbsStep3 R0.length R0.toArray [] = .ok (R', P')) : ∀ V ∈ R'.toList, Good V :=
  gibbsStep3_kept_all Good R0 hs0 hC R' P' h

/-- `NumberOfCycles`, Gibbs' selection is sound: on a connected simple block `a`, every set kept in `S` at the end
of Gibbs' loop is the sorted edge-code list of a simple cycle of `a`, and therefore has at most `n` elements — the
index `numberFound[len(V)]` of the final loop is in range (`gibbs_step3_kept` with `Good` = "is a simple cycle"). -/
theorem gibbs_kept_is_cycle (a : G) (hsym : ∀ u v, a.adj u v = a.adj v u) (hirr : ∀ v, a.adj v v = false)
    (hn : 0 < a.n) (hconn : ∀ x, x < a.n → Reach a 0 x) (fuel : Nat) (st : Model.PatonSt)
    (hres : Model.patonLoop a fuel (patonInit a.n) = .ok st)
    (f0 : List Nat) (fs : List (List Nat)) (hfund : st.fund = f0 :: fs) (gs : Model.GibbsSt)
    (hg : Model.gibbsLoop fs { S := [f0], Q := [f0] } = .ok gs) :
    ∀ V ∈ gs.S, IsCycCode a V ∧ V.length ≤ a.n :=
  gibbs_kept_cycle a hsym hirr hn hconn fuel st hres f0 fs hfund gs hg

/-- **`NumberOfCycles` never panics.** For every simple graph `g` the faithful model of `NumberOfCycles`
(`BiconnectedComponents`, then per block Paton's fundamental cycles, Gibbs' loop, and the counting loop
`numberFound[len(V)]++`) returns a list of length `n + 1`: no index is out of range, no loop runs out of fuel. The
last step is in range because every set kept by Gibbs' loop is a single simple cycle of the block
(`gibbs_kept_is_cycle`), hence has at most `len(bicom) ≤ n` edges; the blocks are connected
(`bicon_blocks_connected`) and `InducedSubgraph(g, bicom)` inherits the walks (`walk_to_induced`).
NOT proved: the counts themselves (`numCycles_spec`) — that every simple cycle of a block is kept exactly once
(completeness of step 3: a single cycle in `R` contains no other element of `R`, and `Q` has no duplicates); the
counts are validated per input (`F=ok` for `m - n ≤ 12`; Go vs reference for `m - n ≤ 14`). -/
theorem numberOfCycles_model_total (g : G) (hsym : ∀ u v, g.adj u v = g.adj v u) (hirr : ∀ v, g.adj v v = false) :
    ∃ r, Model.numberOfCycles g = .ok r ∧ r.length = g.n + 1 :=
  numberOfCycles_total g hsym hirr

/-! `g.induced p` for a permutation `p` of `0..n-1` is the relabelled graph (`InducedSubgraph(g, p)` /
`EG.Relabel(p)` of the harness): its vertex `i` is vertex `p[i]` of `g`. -/

/-- distances are unchanged, up to the relabelling itself -/
theorem dist_relabel (g : G) (p : List Nat) (hp : IsPermOf g.n p) (i j : Nat) (hi : i < g.n) (hj : j < g.n) :
    dist (g.induced p) i j = dist g (p.getD i 0) (p.getD j 0) :=
  dist_induced hp hi hj

/-- connectivity, eccentricities (up to the relabelling), diameter, radius and girth are unchanged -/
theorem invariants_relabel (g : G) (p : List Nat) (hp : IsPermOf g.n p) :
    connectedB (g.induced p) = connectedB g ∧
    (∀ i, i < g.n → ecc (g.induced p) i = ecc g (p.getD i 0)) ∧
    diameter (g.induced p) = diameter g ∧ radius (g.induced p) = radius g ∧
    girth (g.induced p) = girth g := by
  refine ⟨connectedB_induced hp, fun i hi => ecc_induced hp hi, (diameter_radius_induced hp).1,
    (diameter_radius_induced hp).2, ?_⟩
  unfold girth
  rw [girthOpt_induced hp]

/-- reachability — hence the partition into connected components and `ConnectedComponent` — is unchanged, up to
the relabelling itself -/
theorem reach_relabel (g : G) (p : List Nat) (hp : IsPermOf g.n p) (i j : Nat) (hi : i < g.n) (hj : j < g.n) :
    Reach (g.induced p) i j ↔ Reach g (p.getD i 0) (p.getD j 0) := by
  constructor
  · rintro ⟨k, hk⟩; exact ⟨k, (walk_induced_iff hp hi hj).1 hk⟩
  · rintro ⟨k, hk⟩; exact ⟨k, (walk_induced_iff hp hi hj).2 hk⟩

example : IsPermOf (ofEdges 3 [(0, 1), (1, 2)]).n [2, 0, 1] := by unfold IsPermOf; decide  -- non-vacuity

/-- The statement-by-statement model of `Girth(g)` — BFS from the roots `0 .. n-3` with the early cut-off
`distances[k]+2 < girth` and the `parentVertices` array that is *not* reset between roots — returns the girth
(`-1` for acyclic graphs and for `n < 3`) for every graph with a symmetric loop-free adjacency relation and every
fuel `≥ n + 2`; in particular it never panics. -/
theorem girth_model_correct (g : G) (hsym : ∀ u v, g.adj u v = g.adj v u) (hirr : ∀ v, g.adj v v = false)
    (fuel : Nat) (hf : g.n + 2 ≤ fuel) :
    Model.girthM g fuel = .ok (girth g) :=
  girthM_eq_girth g hsym hirr fuel hf

example : Model.girthM (ofEdges 5 [(0, 1), (1, 2), (2, 3), (3, 4), (0, 4), (1, 3)]) = .ok 3 := by decide  -- test

/-- non-vacuity of the hypotheses `hsym`, `hirr` used above: every parsed graph satisfies them -/
example (n : Nat) (es : List (Nat × Nat)) :
    (∀ u v, (ofEdges n es).adj u v = (ofEdges n es).adj v u) ∧ (∀ v, (ofEdges n es).adj v v = false) :=
  ⟨(ofEdges_wf n es).symm, (ofEdges_wf n es).irrefl⟩

/-- **Stale-entry lemma** for the reused `parentVertices` array: started with an *arbitrary* parent array `P0`
(of length `n`), the root loop of `Girth` ends with the `girth` variable equal to the girth of the graph
(`n + 2` = "no cycle found"). The BFS from root `i` skips the edge from `i` to the vertex left in
`parentVertices[i]` by an earlier root; the proof shows that a cycle through that edge is still found, with its
true length, when the BFS reaches the other end of the edge, and that every other cycle through `i` lies in the
graph without that edge (`Lemmas/DistanceGirthComb.lean`, `DistanceGirthComplete.lean`). -/
theorem girth_stale_parent (g : G) (hsym : ∀ u v, g.adj u v = g.adj v u) (hirr : ∀ v, g.adj v v = false)
    (fuel : Nat) (hf : g.n + 2 ≤ fuel) (P0 : Array Nat) (hP0 : P0.size = g.n) :
    ∃ st, Model.girthRoots g fuel (List.range (g.n - 2))
        { girth := g.n + 2, D := Array.replicate g.n 0, P := P0, Q := [] } = .ok st ∧
      (girthOpt g = none → st.girth = g.n + 2) ∧ (∀ l, girthOpt g = some l → st.girth = l) :=
  girthRoots_any_parents g hsym hirr fuel hf P0 hP0

end GDist
