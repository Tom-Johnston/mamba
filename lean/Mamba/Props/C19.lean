import Mamba.Lemmas.Footprint
/-!
# C19 — independent values can be used from different goroutines without interference

What Lean carries (DESIGN.md §7): a *footprint model* (`Mamba/Model/Footprint.lean`). The theorems below hold
for every number of goroutines, every list of operations per goroutine, every semantics of the operations
that respects its declared footprint (guaranteed by construction of `Op.exec`), and **every schedule**.

The tie to the Go code is not in this file: `Props/C19Fp.lean` instantiates the hypothesis `Independent`
with the footprints *extracted from the source on every run* (`Gen/Footprints.lean`), and the harness runs the
scenarios under the race detector. Outside the theorem: the Go memory model, the scheduler, the soundness
of the static footprint extraction. The model has atomic operations, so it cannot exhibit a data race; it
rules out shared *written* state as a source of interference.
-/
namespace Footprint

variable {ι σ ρ : Type} [DecidableEq ι] [Inhabited σ]

/-- If each goroutine's write sets are disjoint from every other goroutine's read and write sets, the
outcome (world, every goroutine's observed results, remaining operations) depends only on *how many* steps
each goroutine was given, not on how the steps were interleaved. -/
theorem schedule_irrelevant (progs : Nat → List (Op ι σ ρ)) (w : ι → σ) (h : Independent progs)
    (s₁ s₂ : List Nat) (hc : ∀ t, s₁.count t = s₂.count t) :
    run s₁ (Cfg.init progs w) = run s₂ (Cfg.init progs w) :=
  run_perm (List.perm_iff_count.mpr hc) _ h

/-- Under the same hypothesis, for EVERY schedule (complete or not) every goroutine has observed exactly the
results it obtains running alone on the initial world: the results of its first `count t s` operations. -/
theorem goroutine_observes_alone (progs : Nat → List (Op ι σ ρ)) (w : ι → σ) (h : Independent progs)
    (s : List Nat) (t : Nat) :
    (run s (Cfg.init progs w)).log t = (runOps ((progs t).take (s.count t)) w).1 :=
  (log_rest_alone progs w h s t).1

/-- **Interleaving = sequential.** `n` goroutines (`progs t = []` for `t ≥ n`), independent footprints, and
any schedule `s` that lets every goroutine finish. Then the run ends in the same configuration as running
the goroutines one after another (`seqSched`: goroutine 0 to completion, then 1, ...); its world is the world
after executing all operations sequentially; and each goroutine observed the results of running alone. -/
theorem interleaving_eq_sequential (n : Nat) (progs : Nat → List (Op ι σ ρ)) (w : ι → σ)
    (h : Independent progs) (hn : ∀ t, n ≤ t → progs t = [])
    (s : List Nat) (hs : ∀ t, s.count t = (progs t).length) :
    run s (Cfg.init progs w) = run (seqSched n progs) (Cfg.init progs w) ∧
    (run s (Cfg.init progs w)).world = (runOps (seqOps n progs) w).2 ∧
    (∀ t, (run s (Cfg.init progs w)).log t = (runOps (progs t) w).1) ∧
    (∀ t, (run s (Cfg.init progs w)).rest t = []) := by
  have hperm : run s (Cfg.init progs w) = run (seqSched n progs) (Cfg.init progs w) := by
    apply schedule_irrelevant progs w h
    intro t
    rw [hs t, count_seqSched]
    by_cases ht : t < n
    · simp [ht]
    · simp [ht, hn t (by omega)]
  refine ⟨hperm, ?_, ?_, ?_⟩
  · rw [hperm]; exact (run_seqSched progs w n).1
  · intro t
    rw [goroutine_observes_alone progs w h s t, hs t, List.take_length]
  · intro t
    rw [(log_rest_alone progs w h s t).2, hs t, List.drop_length]

/-- Instantiation lemma (hand-proved once, for all numbers of goroutines): programs made of calls whose
*extracted* footprint is admissible for the way the goroutine binds the parameters (shared values only in
positions that are not written, no package-level variable written, nothing unattributed) are independent —
whatever the calls compute. -/
theorem admissible_calls_independent {σ ρ : Type} (calls : Nat → List (Call × ((Loc → σ) → ρ × (Loc → σ))))
    (h : ∀ t p, p ∈ calls t → p.1.admissible = true) :
    Independent (fun t => (calls t).map (fun p => p.1.toOp t p.2)) :=
  admissible_independent calls h

/-- Hence: goroutines that only make admissible calls obtain, under every schedule, the results of running
alone, and leave the world of the sequential run. -/
theorem admissible_calls_interleaving {σ ρ : Type} [Inhabited σ] (n : Nat)
    (calls : Nat → List (Call × ((Loc → σ) → ρ × (Loc → σ))))
    (h : ∀ t p, p ∈ calls t → p.1.admissible = true) (hn : ∀ t, n ≤ t → calls t = [])
    (w : Loc → σ) (s : List Nat) (hs : ∀ t, s.count t = (calls t).length) :
    let progs := fun t => (calls t).map (fun p => p.1.toOp t p.2)
    (run s (Cfg.init progs w)).world = (runOps (seqOps n progs) w).2 ∧
    ∀ t, (run s (Cfg.init progs w)).log t = (runOps (progs t) w).1 := by
  intro progs
  have := interleaving_eq_sequential n progs w (admissible_calls_independent calls h)
    (by intro t ht; simp [progs, hn t ht]) s (by intro t; simp [progs, hs t])
  exact ⟨this.2.1, this.2.2.1⟩

/-! ## Non-vacuity and a test that the hypothesis matters -/

section Examples

/-- non-vacuity of `interleaving_eq_sequential`: the hypotheses are satisfiable (2 goroutines, schedule 0 1 0) -/
example : (run [0, 1, 0] (Cfg.init exProgs (fun i => if i = 0 then 5 else 0))).log 0 = [5, 10] ∧
    (run [0, 1, 0] (Cfg.init exProgs (fun i => if i = 0 then 5 else 0))).log 1 = [5] := by
  have h := interleaving_eq_sequential 2 exProgs (fun i => if i = 0 then 5 else 0) exProgs_independent
    (by intro t ht; match t, ht with | t + 2, _ => rfl) [0, 1, 0]
    (by intro t; match t with | 0 => rfl | 1 => rfl | t + 2 => simp [exProgs])
  exact ⟨by rw [h.2.2.1 0]; rfl, by rw [h.2.2.1 1]; rfl⟩

def exApi (written : List Nat) : Api where
  name := "q"
  arity := 2
  globalsWritten := []
  writesParams := written
  unknownWrites := false
  callsBack := false
  spawns := false
  globalsRead := ["tbl"]
  retains := []
  exposesGlobals := []

/-- non-vacuity of the instantiation: an admissible call pattern exists (a method that writes only through its
second parameter, bound to a value the goroutine owns, on a shared receiver) -/
example : (Call.mk (exApi [1]) [.shared 0, .own 0]).admissible = true := by decide +kernel

/-- and writing through the shared receiver is rejected -/
example : (Call.mk (exApi [0]) [.shared 0, .own 0]).admissible = false := by decide +kernel

-- test: without independence the model does exhibit interference (two goroutines incrementing ONE counter
-- and reporting it observe schedule-dependent results), so the hypothesis is what carries the theorem.
def exInc : Op Nat Nat Nat :=
  { reads := [0], writes := [0], act := fun v => (v 0 + 1, fun _ => v 0 + 1) }
def exShared : Nat → List (Op Nat Nat Nat)
  | 0 => [exInc]
  | 1 => [exInc]
  | _ => []
example : (run [0, 1] (Cfg.init exShared (fun _ => 0))).log 0 = [1] ∧
          (run [1, 0] (Cfg.init exShared (fun _ => 0))).log 0 = [2] := by
  constructor <;> rfl

end Examples

end Footprint
