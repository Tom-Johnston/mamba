import Mamba.Lemmas.MinorCert
import Mamba.Lemmas.MinorLowDeg
import Mamba.Lemmas.MinorOps
/-!
# Property C11 — theorems about the specification the driver runs

`IsPlanar` itself (Demoucron–Malgrange–Pertuiset, graph/planar.go) is NOT modelled; the theorems below are about
the definition of planarity the property states (`Minor.Planar`: no K5 minor and no K3,3 minor), the executable
decision procedure `Minor.hasMinorExec` / `Minor.planarExec` that answers the `planar` protocol, and the
certificate checker `Minor.isMinorCert` that answers the `minorcert` protocol. All statements are for every graph
(no size bound). See notes/C11.md.
-/
namespace Minor
open GraphSpec

/-- The working definition (branch sets) is the textbook one: `H` is a minor of `g` exactly when a graph
isomorphic to `H` is obtained from `g` by vertex deletions, edge deletions and edge contractions. -/
theorem hasMinor_iff_ops (g H : G) : HasMinor g H ↔ OpsMinor g H := hasMinor_iff_ops' g H

/-- The decision procedure computes the definition. -/
theorem hasMinorExec_iff (g H : G) : hasMinorExec g H = true ↔ HasMinor g H :=
  hasMinorExec_iff' g H

/-- The reply of the `planar` protocol is the definition of planarity. -/
theorem planarExec_iff (g : G) : planarExec g = true ↔ Planar g := by
  unfold planarExec Planar
  rw [Bool.and_eq_true, Bool.not_eq_true', Bool.not_eq_true', ← hasMinorExec_iff, ← hasMinorExec_iff]
  simp

/-- A certificate accepted by the checker is a minor: soundness of the `minorcert` protocol, any size. -/
theorem isMinorCert_sound (cert : List Nat) (g H : G) (h : isMinorCert cert g H = true) : HasMinor g H :=
  isMinorCert_sound' cert g H h

/-- The graph the driver builds from a request line for the large-input protocols (`fastG`, hash set) is the shared
`GraphSpec.ofEdges` graph of the line encoding. -/
theorem fastG_adj (n : Nat) (es : List (Nat × Nat)) (u v : Nat) :
    (fastG n es).adj u v = (ofEdges n es).adj u v ∧ (fastG n es).n = (ofEdges n es).n :=
  ⟨fastG_adj' n es u v, rfl⟩

-- non-vacuity: the checker accepts the identity certificate of K5
example : isMinorCert [0, 1, 2, 3, 4] K5 K5 = true := by decide

theorem not_planar_of_cert (cert : List Nat) (g : G)
    (h : isMinorCert cert g K5 = true ∨ isMinorCert cert g K33 = true) : ¬ Planar g := by
  rintro ⟨h5, h33⟩
  rcases h with h | h
  · exact h5 (isMinorCert_sound cert g K5 h)
  · exact h33 (isMinorCert_sound cert g K33 h)

example : isMinorCert [0, 1, 2, 3, 4, 5] K33 K33 = true ∨ False := by left; decide

theorem hasMinor_trans {g K H : G} (h1 : HasMinor g K) (h2 : HasMinor K H) : HasMinor g H :=
  hasMinor_trans' h1 h2

theorem hasMinor_refl (g : G) : HasMinor g g := hasMinor_refl' g

theorem hasMinor_mono {K g H : G} (hsub : IsSubgraph K g) (h : HasMinor K H) : HasMinor g H :=
  hasMinor_trans (hasMinor_of_subgraph hsub) h

theorem planar_subgraph {K g : G} (hsub : IsSubgraph K g) (h : Planar g) : Planar K :=
  ⟨fun h5 => h.1 (hasMinor_mono hsub h5), fun h33 => h.2 (hasMinor_mono hsub h33)⟩

-- non-vacuity: the path 0-1 is a subgraph of K5, through a non-identity embedding
example : IsSubgraph (ofEdges 2 [(0, 1)]) K5 :=
  ⟨fun a => a + 3, ⟨by intro a ha; have : a < 2 := ha; show a + 3 < 5; omega, by intro a b _ _ h; omega, by
    intro a b ha hb h
    have ha' : a < 2 := ha
    have hb' : b < 2 := hb
    have hne : a ≠ b := by
      rintro rfl
      simp [ofEdges] at h
    have : K5.adj (a + 3) (b + 3) = true := by
      simp only [K5, Bool.and_eq_true, bne_iff_ne, ne_eq, decide_eq_true_eq]
      omega
    rw [this]; rfl⟩⟩

theorem planar_relabel {g g' : G} (h : Iso g g') : Planar g ↔ Planar g' :=
  ⟨planar_subgraph (isSubgraph_of_iso (iso_symm h)), planar_subgraph (isSubgraph_of_iso h)⟩

/-- `InducedSubgraph(π)` for a permutation `π` of the vertices is the transformation `EG.Relabel` the harness applies. -/
theorem planar_relabel_induced (g : G) (π : List Nat) (hπ : π.Perm (List.range g.n)) :
    Planar (g.induced π) ↔ Planar g :=
  planar_relabel (iso_induced_perm g π hπ)

example : [2, 0, 1].Perm (List.range (ofEdges 3 [(0, 1)]).n) := by decide

theorem planar_subdivide_iff (g : G) (a b : Nat) (ha : a < g.n) (hb : b < g.n) (hne : a ≠ b)
    (hab : (g.adj a b || g.adj b a) = true) : Planar (subdivide g a b) ↔ Planar g := by
  unfold Planar
  rw [hasMinor_subdivide_iff g a b K5_minDeg3 ha hne hab,
    hasMinor_subdivide_iff g a b K33_minDeg3 ha hne hab]

example : (0 : Nat) < K5.n ∧ 1 < K5.n ∧ (0 : Nat) ≠ 1 ∧ (K5.adj 0 1 || K5.adj 1 0) = true := by decide

theorem planar_addIsolated_iff (g : G) : Planar (addIsolated g) ↔ Planar g := by
  unfold Planar
  rw [hasMinor_addIsolated_iff g K5_minDeg3, hasMinor_addIsolated_iff g K33_minDeg3]

theorem planar_addPendant_iff (g : G) (a : Nat) : Planar (addPendant g a) ↔ Planar g := by
  unfold Planar
  rw [hasMinor_addPendant_iff g a K5_minDeg3, hasMinor_addPendant_iff g a K33_minDeg3]

theorem k5_nonplanar : ¬ Planar K5 := fun h => h.1 (hasMinor_refl K5)

theorem k33_nonplanar : ¬ Planar K33 := fun h => h.2 (hasMinor_refl K33)

/-- every graph with at most four vertices is planar (the `n < 5` shortcut of `IsPlanar`) -/
theorem planar_of_lt_five (g : G) (h : g.n < 5) : Planar g := by
  constructor
  · rintro ⟨f, hf⟩
    have := le_verts_of_model hf
    have h2 : (ofG g).verts.length ≤ g.n := by
      simp [PG.verts, ofG]
    have : K5.n = 5 := rfl
    omega
  · rintro ⟨f, hf⟩
    have := le_verts_of_model hf
    have h2 : (ofG g).verts.length ≤ g.n := by
      simp [PG.verts, ofG]
    have : K33.n = 6 := rfl
    omega

end Minor
