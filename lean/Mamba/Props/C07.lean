import Mamba.Model.Codec
import Mamba.Spec.Formats
import Mamba.Lemmas.CodecG6
import Mamba.Lemmas.CodecMc
import Mamba.Lemmas.CodecS6Enc
import Mamba.Lemmas.CodecPrufer
/-!
# C07 — graph codecs round-trip every graph and follow their format definitions

Theorems about the executable model `Mamba/Model/Codec.lean` (the definitions `mdrv` runs) and the transcription of
formats.txt in `Mamba/Spec/Formats.lean`. The encoders see a graph through the `Graph` interface (`Codec.GI`);
`g.toG` is the abstract graph it denotes; `Dense.toG` / `Sparse.toG` are the graphs the decoded values denote
(through `IsEdge` / the neighbour lists); `Dense.WF` / `Sparse.WF` say that `M()`, `Degrees()` and the arrays agree
with that adjacency.
-/
namespace Codec
namespace C07
open Formats GraphSpec

/-- **g6_is_spec.** For every graph within the format's range (`n < 2^36`), the model's `Graph6Encode` returns
exactly the string the format prescribes — the size header `N(n)` followed by `R(x)` for the upper triangle `x` in the
order (0,1),(0,2),(1,2),(0,3),… — and every byte lies in 63..126. The string is a function of the graph, i.e. it is
*the* graph6 string; `g6_roundtrip` shows that different graphs get different strings. -/
theorem g6_is_spec (g : GI) (hsym : ∀ u v, g.isEdge u v = g.isEdge v u) (hn : g.n ≤ 68719476735) :
    ∃ a, g6Encode g = .ok a ∧ a.toList = g6Spec g.toG ∧ ∀ c ∈ a.toList, 63 ≤ c ∧ c ≤ 126 :=
  g6Encode_eq_spec g hsym hn

/-- non-vacuity: the path 0-1-2 is `"Bg"` -/
example : ∃ a, g6Encode (GI.ofG (ofEdges 3 [(0, 1), (1, 2)])) = .ok a ∧ a.toList = [66, 103] := by
  obtain ⟨a, h1, h2, _⟩ := g6_is_spec (GI.ofG (ofEdges 3 [(0, 1), (1, 2)]))
    (fun u v => (ofEdges_wf 3 [(0, 1), (1, 2)]).symm u v) (by decide)
  exact ⟨a, h1, by rw [h2]; decide⟩

/-- **g6_roundtrip.** For every well-formed graph whose triangle size does not overflow Go's `int`
(`n(n-1)/2 < 2^63`, i.e. `n ≤ 2^32`; this covers the 1-, 4- and 8-byte headers, `n = 0, 1`, edgeless graphs),
`Graph6Decode(Graph6Encode(g))` succeeds — with and without the optional `>>graph6<<` header — and returns a
well-formed `DenseGraph` on the same vertices with the same adjacency. -/
theorem g6_roundtrip (g : GI) (hwf : g.toG.WF) (hn : g.n * (g.n - 1) / 2 < 2 ^ 63) :
    ∃ a d, g6Encode g = .ok a ∧ g6Decode a = .ok (some d) ∧ g6Decode (g6Header.toArray ++ a) = .ok (some d) ∧
      d.WF ∧ d.n = g.n ∧ ∀ u v, d.toG.adj u v = g.isEdge u v := by
  obtain ⟨a, h1, h2, h3⟩ := g6_roundtrip_denseOf g hwf hn
  -- the header string the code tests for is the format's
  have hh : g6Magic = g6Header := by decide
  exact ⟨a, denseOf g.toG, h1, h2, hh ▸ h3, denseOf_wf _ hwf, rfl, fun u v => denseOf_adj _ hwf u v⟩

/-- non-vacuity -/
example : ∃ a d, g6Encode (GI.ofG (ofEdges 3 [(0, 1), (1, 2)])) = .ok a ∧ g6Decode a = .ok (some d) ∧ d.n = 3 := by
  obtain ⟨a, d, h1, h2, _, _, h5, _⟩ := g6_roundtrip (GI.ofG (ofEdges 3 [(0, 1), (1, 2)]))
    (ofEdges_wf 3 [(0, 1), (1, 2)]) (by decide)
  exact ⟨a, d, h1, h2, h5⟩

/-- **graph6 strings are unique.** The format's string determines the graph: two graphs (within the format's range)
with the same graph6 string have the same number of vertices and the same adjacency. Together with `g6_is_spec` (the
encoder's output is a function of the graph) this is "the encoder output is the format's unique string". -/
theorem g6_spec_injective (g h : G) (hn : g.n ≤ 68719476735) (hn' : h.n ≤ 68719476735) (e : g6Spec g = g6Spec h) :
    g.n = h.n ∧ ∀ i j, i < j → j < g.n → g.adj i j = h.adj i j :=
  g6Spec_injective g h hn hn' e

/-- **the graph6 decoder follows the format.** Whenever `Graph6Decode` accepts a non-empty string `s` (one that does not
start with the optional header; with the header the same holds for the rest), the number of vertices is the one
`N(n)` at the front of `s` encodes and the adjacency of the result is, pair by pair in the order
(0,1),(0,2),(1,2),(0,3),…, the 6-bits-per-byte stream of the bytes that follow the size header. -/
theorem g6Decode_reads_format (s : Bytes) (hm : hasPrefix s g6Magic = false) (hs : s.size ≠ 0) (d : Dense)
    (h : g6Decode s = .ok (some d)) :
    ∃ rest, readN s.toList = some (d.n, rest) ∧
      ∀ i j, i < j → j < d.n → d.toG.adj i j = ((unR rest)[tri j + i]? == some true) := by
  rw [g6Decode_eq_core, hm] at h
  exact g6DecodeCore_reads s hs d h

/-- **s6_spec_decodes (interoperability).** For every graph within the format's range handed over through a sound
interface value, `Sparse6Encode` returns `':'` followed by bytes in 63..126, and *the format's reader* (`s6DecodeSpec`:
`if b then v++; if x > v then v = x else edge {x,v}`, incomplete final group discarded, stop when `v ≥ n`) reads it
as `n` vertices and exactly the edge list of the graph — every edge once, no loop (the padding is never read as an
edge, in particular not for `n = 2^k`). -/
theorem s6_spec_decodes (g : GI) (hs : g.Sound) (hn : g.n ≤ 68719476735) :
    ∃ a, s6Encode g = .ok a ∧ a[0]? = some 58 ∧ (∀ c ∈ a.toList.drop 1, 63 ≤ c ∧ c ≤ 126) ∧
      s6DecodeSpec a.toList = some (g.n, g.toG.edges) :=
  Codec.s6_spec_decodes g hs hn

/-- **the sparse6 writer follows the format**, including the padding rule: the output is `':' N(n) R(stream ++ pad)`
where `stream` consists of complete `(b,x)` groups of `1 + k` bits (`k` = bits of `n-1`) which the reader reads as
the edges of the graph, and `pad` is exactly the padding formats.txt prescribes (`s6PadBits`: 1-bits, preceded by one
0-bit when `n ∈ {2,4,8,16}`, vertex `n-2` has an edge, vertex `n-1` has none and at least `k+1` bits are needed). -/
theorem s6_follows_format (g : GI) (hs : g.Sound) (hn : g.n ≤ 68719476735) :
    ∃ a stream, s6Encode g = .ok a ∧
      a.toList = 58 :: (Nn g.n ++ R (stream ++ s6PadBits g.toG stream.length)) ∧
      stream.length % (Formats.bitLen (g.n - 1) + 1) = 0 ∧
      s6Read g.n (Formats.bitLen (g.n - 1)) (stream.length / (Formats.bitLen (g.n - 1) + 1)) 0 stream = g.toG.edges := by
  obtain ⟨a, h1, h2⟩ := s6_conforms g hs hn
  refine ⟨a, _, h1, h2, ?_, ?_⟩
  · rw [s6e_stream_length]; exact Nat.mul_mod_left _ _
  · rw [s6e_stream_length, Nat.mul_div_cancel _ (Nat.succ_pos _)]
    have := s6e_read_stream g.n _ (s6e_le_pow g.n) g.toG.edges 0 0 [] (s6e_edges_ok g.toG)
    simpa [s6Read] using this

/-- **s6_roundtrip.** For every such graph, `Sparse6Decode(Sparse6Encode(g))` succeeds — with and without the optional
`>>sparse6<<` header — and returns a well-formed `SparseGraph` on the same vertices with the same adjacency
(in particular for edgeless graphs, streams that end on a byte boundary, `n = 0, 1`, and `n` a power of two). -/
theorem s6_roundtrip (g : GI) (hs : g.Sound) (hn : g.n ≤ 68719476735) :
    ∃ a d, s6Encode g = .ok a ∧ s6Decode a = .ok (some d) ∧ s6Decode (s6Header.toArray ++ a) = .ok (some d) ∧
      d.WF ∧ d.n = g.n ∧ ∀ u v, d.toG.adj u v = g.isEdge u v := by
  obtain ⟨a, h1, h2, _, h4⟩ := Codec.s6_spec_decodes g hs hn
  obtain ⟨h5, h6⟩ := s6_roundtrip_of_spec g.toG hs.wf a h2 h4
  have hh : s6Magic = s6Header := by decide
  exact ⟨a, sparseOf g.toG, h1, h5, hh ▸ h6, sparseOf_wf _ hs.wf, rfl, fun u v => sparseOf_adj _ hs.wf u v⟩

/-- non-vacuity: K2, where a reader must not take the padding of the last byte for an edge at vertex 2 -/
example : ∃ a d, s6Encode (GI.ofG (ofEdges 2 [(0, 1)])) = .ok a ∧ s6Decode a = .ok (some d) ∧ d.n = 2 := by
  obtain ⟨a, d, h1, h2, _, _, h5, _⟩ := s6_roundtrip (GI.ofG (ofEdges 2 [(0, 1)]))
    (ofG_sound _ (ofEdges_wf 2 [(0, 1)])) (by decide)
  exact ⟨a, d, h1, h2, h5⟩

/-- **the sparse6 decoder is the format's reader.** On every byte string (without the optional header; with it, the
same for the rest of the string) `Sparse6Decode` returns an error exactly when the format's reader rejects the
string, and otherwise the graph obtained by `AddEdge`-ing, in order, the edges the format's reader outputs. -/
theorem s6Decode_is_spec_reader (s : Bytes) (hm : hasPrefix s s6Magic = false) :
    s6Decode s = match s6DecodeSpec s.toList with
      | none => .ok none
      | some (n, es) => match addEdges (newSparseNil n) es with
        | .ok g => .ok (some g) | .panic => .panic | .outOfFuel => .outOfFuel :=
  s6Decode_core_spec s hm

/-- **mc_roundtrip (single record).** For every graph with at most 255 vertices handed over through a sound
interface value (`M()` is what sizes the buffer), `MulticodeEncode` does not index out of range and writes exactly the
record `n, (neighbours j+1 > i+1 of vertex i, 0)_{i < n-1}` (`[0]` for the empty graph), all of whose bytes are `≤ n`;
`MulticodeDecode` of it returns a well-formed `DenseGraph` on the same vertices with the same adjacency. -/
theorem mc_roundtrip (g : GI) (hs : g.Sound) (hn : g.n ≤ 255) :
    ∃ a d, mcEncode g = .ok a ∧ a.toList = mcSpec g.toG ∧ (∀ c ∈ a.toList, c ≤ g.n) ∧
      mcDecode a = .ok d ∧ d.WF ∧ d.n = g.n ∧ ∀ u v, d.toG.adj u v = g.isEdge u v := by
  obtain ⟨a, h1, h2⟩ := mcEncode_eq g hs hn
  have h3 : mcDecode a = .ok (denseOf g.toG) := by
    have : a = (mcSpec g.toG).toArray := by rw [← h2]
    rw [this]; exact mcDecode_spec g.toG hs.wf hn
  exact ⟨a, denseOf g.toG, h1, h2, fun c hc => mcSpec_bytes g.toG hn c (h2 ▸ hc), h3, denseOf_wf _ hs.wf, rfl,
    fun u v => denseOf_adj _ hs.wf u v⟩

/-- **Multicode's limit.** A record names vertices by one byte each (`j+1 ≤ 255`): a graph with more than 255 vertices
is refused (`panic("Graph too large for Multicode")`), never encoded wrongly. -/
theorem mc_limit (g : GI) (h : 255 < g.n) : mcEncode g = .panic := by
  unfold mcEncode
  rw [if_pos h]

/-- non-vacuity -/
example : ∃ a d, mcEncode (GI.ofG (ofEdges 3 [(0, 1), (1, 2)])) = .ok a ∧ mcDecode a = .ok d ∧ d.n = 3 := by
  obtain ⟨a, d, h1, _, _, h4, _, h6, _⟩ := mc_roundtrip (GI.ofG (ofEdges 3 [(0, 1), (1, 2)]))
    (ofG_sound _ (ofEdges_wf 3 [(0, 1), (1, 2)])) (by decide)
  exact ⟨a, d, h1, h4, h6⟩

/-- **mc_roundtrip (concatenated records).** For every list of graphs with at most 255 vertices each (including graphs
with 0 and 1 vertices), `MulticodeDecodeMultiple` applied to the concatenation of their records returns one
well-formed `DenseGraph` per record, in order, each with the vertices and adjacency of the corresponding graph. -/
theorem mc_roundtrip_concat (gs : List GI) (h : ∀ g ∈ gs, g.Sound ∧ g.n ≤ 255) :
    ∃ (as : List Bytes) (ds : Array Dense), as.length = gs.length ∧
      (∀ i (hi : i < gs.length), ∃ a, as[i]? = some a ∧ mcEncode gs[i] = .ok a) ∧
      mcDecodeMultiple (as.flatMap Array.toList).toArray = .ok ds ∧ ds.size = gs.length ∧
      ∀ i (hi : i < gs.length), ∃ d, ds[i]? = some d ∧ d.WF ∧ d.n = gs[i].n ∧ ∀ u v, d.toG.adj u v = gs[i].isEdge u v := by
  obtain ⟨as, h1, h2, h3⟩ := mc_roundtrip_multiple gs h
  refine ⟨as, _, h1, h2, h3, by simp, ?_⟩
  intro i hi
  have hs := (h gs[i] (List.getElem_mem hi)).1
  refine ⟨denseOf gs[i].toG, by simp [hi], denseOf_wf _ hs.wf, rfl, fun u v => denseOf_adj _ hs.wf u v⟩

/-- non-vacuity: a graph on 0 vertices, one on 1 vertex, and a path -/
example : ∃ (as : List Bytes) (ds : Array Dense), as.length = 3 ∧
    mcDecodeMultiple (as.flatMap Array.toList).toArray = .ok ds ∧ ds.size = 3 := by
  obtain ⟨as, ds, h1, _, h3, h4, _⟩ := mc_roundtrip_concat
    [GI.ofG (ofEdges 0 []), GI.ofG (ofEdges 1 []), GI.ofG (ofEdges 3 [(0, 1), (1, 2)])]
    (by
      intro g hg
      simp only [List.mem_cons, List.not_mem_nil, or_false] at hg
      rcases hg with rfl | rfl | rfl
      · exact ⟨ofG_sound _ (ofEdges_wf _ _), by decide⟩
      · exact ⟨ofG_sound _ (ofEdges_wf _ _), by decide⟩
      · exact ⟨ofG_sound _ (ofEdges_wf _ _), by decide⟩)
  exact ⟨as, ds, h1, h3, h4⟩

/-- **prufer_bijection, codes → trees → codes.** (`IsTree g`: `g` is well formed, has `n - 1` edges and is connected —
`Codec.IsTree` in `Lemmas/CodecPrufer.lean`.) For every `n ≥ 2` and every code in `{0..n-1}^(n-2)`, `PruferDecode`
does not panic and returns a well-formed `DenseGraph` on `n` vertices that is a labelled tree, and `PruferEncode` of
that tree is the code again. Hence `PruferDecode` is injective on codes and `PruferEncode` is onto the codes. -/
theorem prufer_bijection_codes (p : List Nat) (hp : ∀ x ∈ p, x < p.length + 2) :
    ∃ d, pruferDecode p = .ok d ∧ d.WF ∧ d.n = p.length + 2 ∧ IsTree d.toG ∧
      pruferEncode (GI.ofDense d) = .ok p := by
  obtain ⟨d, h1, h2, h3, h4⟩ := pr_decode_runs p hp
  have hn : d.toG.n = p.length + 2 := h3
  refine ⟨d, h1, h2, h3, pr_tree_of_run (Dense.toG_wf d) (hn ▸ h4), ?_⟩
  -- the decoded graph has the leaf-removal run that produces `p`, and the encoder performs that run
  apply pr_encode_run (GI.ofDense d) (by show 2 ≤ d.n; omega) (pr_Adj_of_wf (Dense.toG_wf d))
  · intro v hv
    show d.deg.getD v 0 = pr_deg d.toG.adj (List.range d.n) v
    rw [Array.getD_eq_getD_getElem?, h2.deg_eq v hv]
    exact pr_deg_eq d.toG v
  · rw [show (GI.ofDense d).n = p.length + 2 from h3]; exact h4

/-- non-vacuity: the code `[3, 3, 3]` (a star with centre 3 on five vertices) -/
example : ∃ d, pruferDecode [3, 3, 3] = .ok d ∧ pruferEncode (GI.ofDense d) = .ok [3, 3, 3] := by
  obtain ⟨d, h1, _, _, _, h5⟩ := prufer_bijection_codes [3, 3, 3] (by decide)
  exact ⟨d, h1, h5⟩

/-- **prufer_bijection, trees → codes → trees.** For every labelled tree on `n ≥ 2` vertices (handed over through a
sound interface value), `PruferEncode` does not panic and returns a code in `{0..n-1}^(n-2)`, and `PruferDecode` of
that code is a graph on the same vertices with the same adjacency. Hence `PruferEncode` is injective on trees and
`PruferDecode` is onto the trees: with `prufer_bijection_codes`, the two are mutually inverse bijections. -/
theorem prufer_bijection_trees (g : GI) (hs : g.Sound) (ht : IsTree g.toG) (hn : 2 ≤ g.n) :
    ∃ p d, pruferEncode g = .ok p ∧ p.length = g.n - 2 ∧ (∀ x ∈ p, x < g.n) ∧
      pruferDecode p = .ok d ∧ d.n = g.n ∧ ∀ u v, d.toG.adj u v = g.isEdge u v := by
  obtain ⟨p, h1, h2, h3⟩ := prufer_encode_ok g hs ht hn
  obtain ⟨p', d, h1', h4, h5, h6⟩ := prufer_encode_decode g hs ht hn
  have : p' = p := by rw [h1] at h1'; injection h1' with e; exact e.symm
  subst this
  exact ⟨p', d, h1, h2, h3, h4, h5, h6⟩

/-- non-vacuity: trees exist (the decode of `[3, 3, 3]` is one, and its interface value is sound) -/
example : ∃ g : GI, g.Sound ∧ IsTree g.toG ∧ 2 ≤ g.n := by
  obtain ⟨d, _, h2, h3, h4, _⟩ := prufer_bijection_codes [3, 3, 3] (by decide)
  refine ⟨GI.ofG d.toG, ofG_sound _ (Dense.toG_wf d), h4, ?_⟩
  show 2 ≤ d.n
  omega

end C07
end Codec
