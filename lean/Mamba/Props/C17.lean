import Mamba.Lemmas.SortIntsAdd
import Mamba.Lemmas.SortIntsRange
import Mamba.Lemmas.SortIntsUnionM
import Mamba.Lemmas.IntSortQuick
/-!
# Property C17 — theorems

All statements are about the definitions in `Mamba/Model/SortInts.lean` and `Mamba/Model/IntSort.lean` that
the driver `mdrv` runs.  Vocabulary (definitions in `Mamba/Spec/SortInts.lean`, `Mamba/Spec/IntSort.lean`):
`SortInts.SS l` = `l.Pairwise (· < ·)`, the canonical (strictly increasing) representation of a finite set of
ints; `IntSort.vi d k` = `data[k]`; `SortedOn a b d` = `data[a:b]` is sorted; `RP a b d d'` = `d'` is `d` with only
`data[a:b]` rearranged; `PivotOK cf d lo hi` = the partition contract of `doPivot`.
-/
namespace SortInts

/-- `Union(a, b)` is the canonical representation of `a ∪ b`. -/
theorem union_spec (a b : List Int) (ha : SS a) (hb : SS b) :
    SS (union a b) ∧ ∀ x, x ∈ union a b ↔ (x ∈ a ∨ x ∈ b) :=
  ⟨union_sorted a b ha hb, mem_union a b⟩

/-- `Intersection(a, b)` is the canonical representation of `a ∩ b`. -/
theorem intersection_spec (a b : List Int) (ha : SS a) (hb : SS b) :
    SS (intersection a b) ∧ ∀ x, x ∈ intersection a b ↔ (x ∈ a ∧ x ∈ b) :=
  ⟨intersection_sorted a b ha hb, mem_intersection a b ha hb⟩

/-- `IntersectionSize(a, b) = |a ∩ b|` (with `intersection_spec`: the number of common elements). -/
theorem intersectionSize_spec (a b : List Int) : intersectionSize a b = (intersection a b).length := by
  fun_induction intersectionSize a b <;> simp [intersection, *]

/-- `IntersectionSize(a, b) ≤ min(len a, len b)` for ALL inputs: the capacities `len(a)+len(b)-IntersectionSize`,
`len(a)-IntersectionSize` and `IntersectionSize` handed to `make` are never negative, so the `make` calls of
`Union`, `SetMinus`, `Intersection`, `XOR` (left out of the model) cannot panic. -/
theorem intersectionSize_le (a b : List Int) :
    intersectionSize a b ≤ a.length ∧ intersectionSize a b ≤ b.length := by
  fun_induction intersectionSize a b
  · simp
  · simp
  all_goals simp only [List.length_cons] at *; omega

/-- `SetMinus(a, b)` is the canonical representation of `a \ b`. -/
theorem setMinus_spec (a b : List Int) (ha : SS a) (hb : SS b) :
    SS (setMinus a b) ∧ ∀ x, x ∈ setMinus a b ↔ (x ∈ a ∧ x ∉ b) :=
  ⟨setMinus_sorted a b ha hb, mem_setMinus a b ha hb⟩

/-- `XOR(a, b)` is the canonical representation of the symmetric difference. -/
theorem xor_spec (a b : List Int) (ha : SS a) (hb : SS b) :
    SS (xor a b) ∧ ∀ x, x ∈ xor a b ↔ ((x ∈ a ∧ x ∉ b) ∨ (x ∉ a ∧ x ∈ b)) :=
  ⟨xor_sorted a b ha hb, mem_xor a b ha hb⟩

/-- `Complement(n, a)` is the canonical representation of `{0,…,n-1} \ a`, for every `n` (also `n ≤ 0`) and
every `a` (also with elements outside `{0,…,n-1}` or more than `n` elements). -/
theorem complement_spec (n : Int) (a : List Int) (ha : SS a) :
    SS (complement n a) ∧ ∀ x, x ∈ complement n a ↔ (0 ≤ x ∧ x < n ∧ x ∉ a) :=
  ⟨complementLoop_sorted n 0 a ha, mem_complementLoop n 0 a ha⟩

/-- `ContainsSorted(a, b)` decides `b ⊆ a`. -/
theorem containsSorted_spec (a b : List Int) (ha : SS a) (hb : SS b) :
    containsSorted a b = true ↔ ∀ x ∈ b, x ∈ a := by
  rw [containsSorted_eq, List.isEmpty_iff, List.eq_nil_iff_forall_not_mem]
  refine forall_congr' fun x => ?_
  rw [mem_setMinus b a hb ha]
  exact ⟨fun h hx => Classical.not_not.mp fun hn => h ⟨hx, hn⟩, fun h hx => hx.2 (h hx.1)⟩

/-- `ContainsSingle(a, x)` decides `x ∈ a`. -/
theorem containsSingle_spec (a : List Int) (ha : SS a) (x : Int) : containsSingle a x = true ↔ x ∈ a := by
  rw [mem_iff_searchInts a ha x]
  simp [containsSingle, getI_natCast]

example : SS [-3, 0, 7] := by decide

/-- `NewSortedInts(x...)` for an ARBITRARY argument list (unsorted, with repeats) does not panic and returns
the canonical representation of the set of its arguments. -/
theorem newSortedInts_spec (x : List Int) :
    ∃ r, newSortedInts x = .ok r ∧ SS r ∧ ∀ y, y ∈ r ↔ y ∈ x := by
  obtain ⟨h1, _, h3⟩ := dropRepeats_spec (sortInts x) none (sortInts_sorted x) (fun p hp => by cases hp)
  exact ⟨_, newSortedInts_eq x, h1, fun y => by rw [h3, mem_sortInts]; simp⟩

/-- `Range(start, end, step)` for every triple that is not rejected as an infinite set — the rejection test the
model runs is the condition of the source, regenerated into `Gen.Sort.rangeRejects`, and is proved to be the
documented one (`rangeRejects_iff`) — does not panic (in
particular the `make` capacities are non-negative and the loops terminate within the fuel given) and returns
the canonical representation of `{start + k*step | k ≥ 0} ∩ [start, end)`, resp. `∩ (end, start]` for a
descending range (this is `InRange start end step x` of `Spec/SortInts.lean`, written out). -/
theorem range_spec (start e step : Int)
    (h : ¬ ((e < start ∧ step > 0) ∨ (e > start ∧ step < 0) ∨ (e ≠ start ∧ step = 0))) :
    ∃ r, range start e step = .ok r ∧ SS r ∧
      ∀ x, x ∈ r ↔ ∃ k : Nat, x = start + k * step ∧ ((start ≤ x ∧ x < e) ∨ (e < x ∧ x ≤ start)) :=
  range_result start e step h

example : ¬ (((0:Int) < 10 ∧ (-3:Int) > 0) ∨ ((0:Int) > 10 ∧ (-3:Int) < 0) ∨ ((0:Int) ≠ 10 ∧ (-3:Int) = 0)) := by decide

/-- the rejected triples (infinite sets) panic -/
theorem range_rejects_spec (start e step : Int)
    (h : (e < start ∧ step > 0) ∨ (e > start ∧ step < 0) ∨ (e ≠ start ∧ step = 0)) :
    range start e step = .panic := by
  unfold range; rw [if_pos ((rangeRejects_iff start e step).mpr h)]

/-- `s.Add(x...)` for an ARBITRARY argument list (unsorted, repeated, already present elements, in any
combination) does not panic and leaves the canonical representation of `s ∪ x`. -/
theorem add_spec (s : List Int) (hs : SS s) (x : List Int) :
    ∃ r, add s x = .ok r ∧ SS r ∧ ∀ y, y ∈ r ↔ (y ∈ s ∨ y ∈ x) :=
  add_result s hs x

/-- `s.Remove(x)` does not panic and leaves the canonical representation of `s \ {x}`. -/
theorem remove_spec (s : List Int) (hs : SS s) (x : Int) :
    ∃ r, remove s x = .ok r ∧ SS r ∧ ∀ y, y ∈ r ↔ (y ∈ s ∧ y ≠ x) :=
  remove_result s hs x

/-- the `Union` method `s.Union(b)`, for every content `spare` of the receiver's spare capacity — i.e. both
when the merge runs backwards in place inside the receiver's backing array (`cap ≥ newSize`, `a[i]` is
then read from the array being written) and when it runs into a fresh array: it does not panic and leaves
the canonical representation of `a ∪ b`; in fact exactly the value `Union(a, b)` returns. -/
theorem unionMethod_spec (a spare b : List Int) (ha : SS a) (hb : SS b) :
    ∃ r, unionM a spare b = .ok r ∧ r = union a b ∧ SS r ∧ ∀ x, x ∈ r ↔ (x ∈ a ∨ x ∈ b) :=
  ⟨union a b, unionM_result a spare b ha hb, rfl, union_sorted a b ha hb, mem_union a b⟩

end SortInts

namespace IntSort

/-! ## ints.Sort

The model takes the literal constants of `ints/int_sort.go` from a configuration `Cfg`; the driver runs it with
`genCfg`, regenerated from the source on every run (`Gen/SortConsts.lean`).  The theorems are proved for EVERY
configuration satisfying `Cfg.Admissible` (`Spec/IntSort.lean`: the whole range of values of the tuning constants for
which the algorithm works, and the values the algorithm dictates for the heap arithmetic and the midpoint), and
`gen_admissible` checks that the values the driver runs with — those found in the source now, or the hand-written
default for an item whose place in a refactored source is not recognised — are admissible. -/

/-- the constants the driver runs with are admissible -/
theorem gen_admissible : genCfg.Admissible := by decide

/-- `Sort` only permutes, whatever the constants: every write in `ints/int_sort.go` is a swap, so whenever the call
returns, the slice is a permutation of its old content. -/
theorem sort_perm (cf : Cfg) (d d' : Array Int) (h : sort cf d = .ok d') : d'.toList.Perm d.toList :=
  sort_perm_toList h

example : sort genCfg #[2, 1] = .ok #[1, 2] := by
  simp [sort, maxDepth, maxDepthLoop, quickSort, shellPass, insertionSort, insertOuter, insertInner, lt, get, swap,
    genCfg, Gen.Sort.qsSmall, Gen.Sort.qsMin, Gen.Sort.shellGap, Gen.Sort.shellGapIdx, Gen.Sort.mdShift, Gen.Sort.mdMul]

/-- `insertionSort(data, a, b)` on every valid range `0 ≤ a`, `b ≤ len(data)`: it does not panic, `data[a:b]`
is sorted afterwards (`SortedOn`), nothing outside `[a,b)` moves and every element of the range comes from the
range (`RP`; together with `sort_perm`'s multiset argument: a permutation of the range). -/
theorem insertionSort_sorted (d : Array Int) (a b : Int) (h0 : 0 ≤ a) (hb : b ≤ d.size) :
    ∃ d', insertionSort d a b = .ok d' ∧ RP a b d d' ∧ SortedOn a b d' :=
  insertionSort_spec d a b h0 hb

/-- `heapSort(data, a, b)` on every valid range `0 ≤ a ≤ b ≤ len(data)`: it does not panic, the fuel given to
the `siftDown` loop suffices, `data[a:b]` is sorted afterwards and only `data[a:b]` is rearranged. -/
theorem heapSort_sorted (cf : Cfg) (hadm : cf.Admissible) (d : Array Int) (a b : Int) (h0 : 0 ≤ a) (hab : a ≤ b)
    (hb : b ≤ d.size) :
    ∃ d', heapSort cf d a b = .ok d' ∧ RP a b d d' ∧ SortedOn a b d' :=
  heapSort_spec cf hadm.heapOK hadm.buildOK d a b h0 hab hb

example : (0 : Int) ≤ 1 ∧ (1 : Int) ≤ 4 ∧ (4 : Int) ≤ (#[9, 8, 7, 6, 5] : Array Int).size := by decide

/-- the partition contract of `doPivot(data, lo, hi)` on every range with at least 3 elements (`quickSort` calls it
with more than `qsSmall ≥ 2` elements): it does not panic, its loops stay within their fuel, it only rearranges
`data[lo:hi]`, returns `lo ≤ midlo ≤ midhi ≤ hi` and leaves `data[lo:midlo] ≤ data[midlo:midhi] ≤
data[midhi:hi]` element-wise with `data[midlo:midhi]` constant (`PivotOK`, `Spec/IntSort.lean`). -/
theorem doPivot_contract (cf : Cfg) (hadm : cf.Admissible) (d : Array Int) (lo hi : Int) (hlo : 0 ≤ lo)
    (hbig : hi - lo ≥ 3) (hsz : hi ≤ d.size) :
    PivotOK cf d lo hi :=
  doPivot_spec cf hadm.pivotShift hadm.nintherDiv hadm.nintherMul_nonneg hadm.nintherMul_lt hadm.dupsDiv d lo hi hlo hbig hsz

/-- `quickSort(data, a, b, maxDepth)` on every valid range with fuel above `maxDepth`: no panic, no fuel
exhaustion, `data[a:b]` sorted, only `data[a:b]` rearranged. -/
theorem quickSort_sorted (cf : Cfg) (hadm : cf.Admissible) (f : Nat) (d : Array Int) (a b : Int) (md : Nat)
    (h0 : 0 ≤ a) (hab : a ≤ b) (hb : b ≤ d.size) (hmd : md < f) :
    ∃ d', quickSort cf f d a b md = .ok d' ∧ RP a b d d' ∧ SortedOn a b d' :=
  quickSort_spec cf hadm.heapOK hadm.buildOK hadm.qsMin hadm.shellGap
    (fun d lo hi h0 hbig hsz => doPivot_contract cf hadm d lo hi h0 (by have := hadm.qsSmall; omega) hsz)
    f d a b md h0 hab hb hmd

example : genCfg.Admissible ∧ (0 : Int) ≤ 0 ∧ (13 : Int) - 0 ≥ 3 ∧ (13 : Int) ≤ (Array.replicate 13 (0 : Int)).size := by
  decide

/-- `ints.Sort` at full strength, for EVERY slice, with the constants of the source as it is now: the call returns
(no panic; the fuel given to every loop of the model suffices), the result is sorted and it is a permutation of the
input. -/
theorem sort_sorted (d : Array Int) :
    ∃ d', sort genCfg d = .ok d' ∧ d'.toList.Pairwise (· ≤ ·) ∧ d'.toList.Perm d.toList :=
  sort_full genCfg gen_admissible d

/-- the same for every admissible configuration (a retuned threshold, gap, ninther bound, …) -/
theorem sort_sorted_any (cf : Cfg) (hadm : cf.Admissible) (d : Array Int) :
    ∃ d', sort cf d = .ok d' ∧ d'.toList.Pairwise (· ≤ ·) ∧ d'.toList.Perm d.toList :=
  sort_full cf hadm d

/-- "orders any slice like the standard library": the result is the value of the model of `sort.Ints`
(`SortInts.sortInts`, the unique sorted permutation). -/
theorem sort_eq_sortInts (d : Array Int) : sort genCfg d = .ok (SortInts.sortInts d.toList).toArray := by
  obtain ⟨d', hr, hs, hp⟩ := sort_sorted d
  rw [hr]
  congr 1
  have : d'.toList = SortInts.sortInts d.toList := by
    apply List.Perm.eq_of_pairwise (le := (· ≤ ·)) _ hs (SortInts.sortInts_sorted _)
      (hp.trans (SortInts.sortInts_perm _).symm)
    intro a b _ _ h1 h2; omega
  rw [← this]

/-- `SortedOn a b d` (used above) is sortedness of the slice `d[a:b]` in the usual list sense. -/
theorem sortedOn_iff (d : Array Int) (a b : Nat) (hb : b ≤ d.size) :
    SortedOn a b d ↔ ((d.toList.drop a).take (b - a)).Pairwise (· ≤ ·) :=
  sortedOn_iff_slice d a b hb

end IntSort
