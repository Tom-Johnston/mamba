import Mamba.Lemmas.IsoCheck
import Mamba.Lemmas.IsoPreds
import Mamba.Lemmas.SearchResume
import Mamba.Lemmas.SearchShards
import Mamba.Lemmas.ExactFinal
import Mamba.Lemmas.BridgeSpec
import Mamba.Lemmas.TestOracle
import Mamba.Lemmas.TermReach
/-!
# Property C03 — the search yields exactly one representative of every isomorphism class

Pattern V: `GSearch.checkLevels` (run by the driver on the lists the implementation yields for n = 0..N) is a
verified checker.  The theorems below are about the definitions the driver runs.
-/
namespace GSearch
open GraphSpec

/-- The brute-force canonical code decides isomorphism: for well-formed graphs on the same number of vertices,
equal codes iff isomorphic. -/
theorem bfCanon_iso_iff {g h : G} (hg : g.WF) (hh : h.WF) (hn : g.n = h.n) :
    bfCanon g = bfCanon h ↔ Iso g h :=
  bfCanon_eq_iff_iso hg hh hn

example : bfCanon (ofMask 3 1) = bfCanon (ofMask 3 4) ∧ (ofMask 3 1).WF ∧ (ofMask 3 1).n = (ofMask 3 4).n :=
  ⟨by decide, ofMask_wf _ _, rfl⟩

/-- Soundness of the extension test, for every `k`: if `prev` represents every class of graphs on `k` vertices with the
hereditary property `P`, and every one-vertex extension `h + S` (`h ∈ prev`) that has `P` has its canonical code among
those of `out`, then `out` represents every class of graphs on `k + 1` vertices with `P`. -/
theorem extClosed_complete {P : G → Bool} (hP : Hereditary P) {k : Nat} {prev out : List G}
    (hprevWF : ∀ h ∈ prev, h.WF) (hprevN : ∀ h ∈ prev, h.n = k)
    (houtWF : ∀ o ∈ out, o.WF) (houtN : ∀ o ∈ out, o.n = k + 1)
    (hc : Complete P k prev) (hext : ExtClosed P prev out) : Complete P (k + 1) out :=
  complete_succ hP hprevWF hprevN houtWF houtN hc hext

example : Hereditary (fun _ => true) ∧ Complete (fun _ => true) 0 [ofMask 0 0] ∧
    ExtClosed (fun _ => true) [ofMask 0 0] [ofMask 1 0] :=
  ⟨hereditary_true, complete_zero (by decide) (by decide), by unfold ExtClosed; decide⟩

/-- The checker is sound: if it accepts the lists `levels[0], …, levels[N]` then, for every `k ≤ N`, `levels[k]`
consists of graphs on `k` vertices with `P`, pairwise non-isomorphic, and every well-formed graph on `k` vertices
with `P` is isomorphic to one of them — exactly one representative of every isomorphism class with `P`. -/
theorem checkLevels_sound {P : G → Bool} (hP : Hereditary P) (levels : List (List G))
    (hwf : ∀ l ∈ levels, ∀ g ∈ l, g.WF) (hok : checkLevels P levels = .ok) :
    ∀ k (hk : k < levels.length), Transversal P k levels[k] := by
  intro k hk
  have := checkFrom_sound hP levels 0 none hwf rfl hok k hk
  simpa using this

example : checkLevels (fun _ => true) [[ofMask 0 0], [ofMask 1 0], [ofMask 2 0, ofMask 2 1]] = .ok := by decide

/-- the graphs the driver builds from masks are well-formed, so `checkLevels_sound` applies to every request -/
theorem ofMask_wellFormed (n mask : Nat) : (ofMask n mask).WF := ofMask_wf n mask

/-- All predicates the harness uses as `preprune`/`prune` are hereditary (invariant under isomorphism and inherited by
`g - last vertex`), so `checkLevels_sound` and `search_exact` apply to them: no restriction, at most `k` vertices, maximum
degree at most `d`, triangle-free, K4-free, forest (`isForest_iff`: no non-empty set of vertices each with two neighbours
inside), bipartite (`isBipartite_iff`: a proper 2-colouring exists). -/
theorem predicates_hereditary (k d : Nat) :
    Hereditary (fun _ => true) ∧ Hereditary (orderLE k) ∧ Hereditary (maxDegLE d) ∧ Hereditary triangleFree ∧
      Hereditary k4Free ∧ Hereditary isForest ∧ Hereditary isBipartite :=
  ⟨hereditary_true, hereditary_orderLE k, hereditary_maxDegLE d, hereditary_triangleFree, hereditary_k4Free,
   hereditary_isForest, hereditary_isBipartite⟩

end GSearch

namespace Search
open GraphSpec GSearch

/-
Canonical augmentation is exact: proved for the model (`search_exact` below), relative to `OracleSpec`.

`OracleSpec O n` (`Lemmas/ExactOracle.lean`) states the specification of the canonical-labelling oracle, clause by clause
the statements of C01 (`canon_invariant`, `canon_complete`: the relabelled graph depends only on the isomorphism class)
and C02 (`autGroup_sound`/`autGroup_complete`/`orbits_sound`: orbit partition = orbits of Aut(g); generators are
automorphisms and generate Aut(g)), plus the early-exit clause of `CheckViability` (`early`, `early_reject`).

Route: `run_refines_traversal` (the loop performs the recursive traversal) and `orderly_generation` (the abstract argument)
give `search_exact_of_specs`, step (1): exactness from the six statements `Specs` about `isCanonical` / `addAugmentations`;
`addAugmentations_orbit_reps`, step (2), and `isCanonical_canonical_deletion`, step (3), with McKay's three facts drawn
from it (`Lemmas/ExactCanonSpecs.lean`, `ExactFinal.lean`), discharge `Specs` from `OracleSpec`: `search_exact`.
`OracleSpec` is consistent for every n and formally linked to C01/C02: `irOracle_satisfies_oracleSpec` — the oracle built
from the unpruned model `IR` of C01/C02 satisfies it; `search_exact_with_IR_oracle` instantiates the theorem.
What remains relative: pure pruning functions and the faithfulness of the two models to the Go code (correspondences
`c04seq` for the search, C01/C02 for the canonical labelling); normal termination within the fuel is a hypothesis of
`search_exact` that `run_terminates` (end of this file) discharges.
-/

/-- For all `n, a, m`, oracles and pruning functions (no oracle specification needed): every graph the iterator yields
(from a reachable state) has exactly `n` vertices, its `DegreeSequence`/`Edges` have the right lengths, and its
abstraction is a well-formed graph — the "every yielded value is a well-formed graph on n vertices" clause. -/
theorem search_outputs_wellformed (O : Oracle) (pre pr : DG → Bool) (fuel lim : Nat) {s s' : State} {out : List DG}
    (hi : Inv s) (h : exhaust O pre pr fuel lim s = .ok (out, s')) :
    ∀ g ∈ out, g.nv = s.n ∧ g.degs.size = g.nv ∧ g.edges.size = tri g.nv ∧ g.toG.WF ∧ g.toG.n = s.n := by
  intro g hg
  have := exhaust_outputs O pre pr fuel lim s s' out h hi g hg
  exact ⟨this.1, this.2.degs, this.2.edges, toG_wf g, this.1⟩

example : Inv (init 1 0 1) ∧ ∃ out s', exhaust (fun _ _ _ _ => .ok none) (fun _ => false) (fun _ => false) 10 10
    (init 1 0 1) = .ok (out, s') ∧ out.length = 1 :=
  ⟨init_inv 1 0 1, _, _, rfl, rfl⟩

/-- **Orderly generation, abstractly**: objects with an equivalence `E` and a canonical-parent relation `Par` compatible
with it (`Orderly.Laws`); if the kids of `X` are an exact transversal (up to `E`) of the objects with canonical parent
`X`, and below every kid we have an exact transversal of its depth-`d` descendants, then the concatenation is an exact
transversal of the depth-`d+1` descendants of `X`. -/
theorem orderly_generation {α β : Type} {E Par : α → α → Prop} (L : Orderly.Laws E Par) (ks : List β) (obj : β → α)
    (outs : β → List α) (d : Nat) (X : α) (hk1 : ∀ z ∈ ks, Par X (obj z))
    (hk2 : ks.Pairwise fun a b => ¬ E (obj a) (obj b)) (hk3 : ∀ Z, Par X Z → ∃ z ∈ ks, E Z (obj z))
    (hout : ∀ z ∈ ks, Orderly.IsTrans E (Orderly.Anc E Par d (obj z)) (outs z)) :
    Orderly.IsTrans E (Orderly.Anc E Par (d + 1) X) (ks.flatMap outs) :=
  Orderly.trans_flatMap L ks obj outs d X hk1 hk2 hk3 hout

example : Orderly.Laws (fun a b : Nat => a = b) (fun a b : Nat => b = a + 1) :=
  ⟨fun _ => rfl, fun h => h.symm, fun h1 h2 => h1.trans h2, fun h hp => by subst h; exact hp,
   fun h hp => by subst h; exact hp, fun h1 h2 => by omega⟩

/-- **Canonical augmentation is exact, given the specifications of `isCanonical` and `addAugmentations`** (model level,
all `n ≥ 2`): the conclusion of `search_exact` from `Specs` in place of `OracleSpec`. -/
theorem search_exact_of_specs {O : Oracle} {n : Nat} {P : G → Bool} (hP : Hereditary P) (S : Specs O n (pruneOf P))
    (hn : 2 ≤ n) (fuel lim : Nat) {outs : List DG} {t : State}
    (h : exhaust O (pruneOf P) noPrune fuel lim (init n 0 1) = .ok (outs, t)) :
    Transversal P n (outs.map DG.toG) :=
  exact_of_specs hP S hn fuel lim h

/-- **`addAugmentations` lists one representative of every orbit of neighbour sets** (step 2, from `OracleSpec`): for a
graph `g` built by the search with fewer than `n` vertices and the cache `c` left by an accepting `isCanonical` (or none),
the masks pushed by `addAugmentations` lie inside `g`, are pairwise inequivalent under `Aut(g)`, and every vertex set
that is equivalent to the neighbourhood of an accepted child somewhere is `Aut(g)`-equivalent to one of them. -/
theorem addAugmentations_orbit_reps {O : Oracle} {n : Nat} (hO : OracleSpec O n) {g : DG} {c c' : Option Ans}
    {new : Array Nat} {num : Nat} (hb : Built g) (hlt : g.nv < n)
    (hc : c = none ∨ ∃ P x, Built P ∧ InRange P x ∧ AccK O n P x g c)
    (haug : addAugmentations O n g #[] c = .ok (new, c', num)) :
    (∀ x ∈ new.toList, InRange g x) ∧
    (new.toList.Pairwise fun x y => ¬ ExtEquiv g (bitsOf x) g (bitsOf y)) ∧
    (∀ (T : List Nat) (P0 g0 : DG) (x0 : Nat) (c0 : Option Ans), Built P0 → InRange P0 x0 → AccK O n P0 x0 g0 c0 →
      ExtEquiv g T P0 (bitsOf x0) → ∃ x ∈ new.toList, ExtEquiv g T g (bitsOf x)) :=
  ⟨aug_range_of_oracle hO hb hlt hc haug, aug_distinct_of_oracle hO hb hlt hc haug,
   fun T P0 g0 x0 c0 hb0 hr0 ha0 hT => aug_complete_of_oracle hO hb hlt hc haug T P0 g0 x0 c0 hb0 hr0 ha0 hT⟩

/-- **Canonical augmentation is exact, given the oracle specification and the `isCanonical` statements** (all `n ≥ 2`,
hereditary `P`): see `search_exact_of_specs`; the `addAugmentations` half of `Specs` is discharged from `OracleSpec`. -/
theorem search_exact_of_canonSpecs {O : Oracle} {n : Nat} {P : G → Bool} (hO : OracleSpec O n) (hP : Hereditary P)
    (hC : CanonSpecs O n) (hn : 2 ≤ n) (fuel lim : Nat) {outs : List DG} {t : State}
    (h : exhaust O (pruneOf P) noPrune fuel lim (init n 0 1) = .ok (outs, t)) :
    Transversal P n (outs.map DG.toG) :=
  exact_of_specs hP (specs_of_oracle hO hP hC) hn fuel lim h

/-- **`isCanonical` decides the canonical-deletion condition** (step 3, from `OracleSpec`): for a graph `g` built by the
search, the neighbour list `aug` of its last vertex and the oracle's answer `a`, `isCanonical` returns `true` iff the
last vertex is a best vertex and lies in the orbit of the first best vertex in the order of the canonical labelling. -/
theorem isCanonical_canonical_deletion {O : Oracle} {n : Nat} (hO : OracleSpec O n) {g : DG} (hb : Built g)
    {aug : List Nat} (haug : wsum g aug = nkey g (g.nv - 1)) (haugr : ∀ v ∈ aug, v < g.nv) {a : Ans}
    (ha : getAut O n g none = .ok (some a)) {c : Option Ans} {b : Bool}
    (h : isCanonical O n g aug none = .ok (c, b)) : b = true ↔ CanonLast g a :=
  accept_iff hO hb haug haugr ha h

/-- **Canonical augmentation is exact** (model level, full): for every `n`, every oracle `O` satisfying `OracleSpec O n`
(the statements of C01/C02 for the canonical labelling), and every hereditary, isomorphism-invariant property `P`
supplied as `preprune`, the graphs yielded by `WithPruning(n, 0, 1, P)` are an exact transversal of the isomorphism classes
of well-formed graphs on `n` vertices with `P`: every yielded graph has `n` vertices and `P`, no two are isomorphic, and
every well-formed graph on `n` vertices with `P` is isomorphic to a yielded one.  With `P = fun _ => true`: exactly one
representative of every isomorphism class of graphs on `n` vertices.  (`prune` instead of `preprune`:
`preprune_prune_agree`; shards `All n a m`: `shards_partition`.) -/
theorem search_exact {O : Oracle} {n : Nat} {P : G → Bool} (hO : OracleSpec O n) (hP : Hereditary P) (fuel lim : Nat)
    {outs : List DG} {t : State}
    (h : exhaust O (pruneOf P) noPrune fuel lim (init n 0 1) = .ok (outs, t)) :
    Transversal P n (outs.map DG.toG) :=
  exact_of_oracle hO hP fuel lim h

/-- **The oracle built from the C01/C02 model satisfies `OracleSpec`, for every `n`** — the formal link to C01/C02 and the
consistency of `OracleSpec`.  `irOracle` (`Lemmas/BridgeSpec.lean`) answers every question of the search with
* `perm` := the inverse of a leaf of maximal certificate of the unpruned individualisation–refinement tree `IR.allLeaves`,
* `orbits` := the `disjoint.Set` obtained from `Disjoint.new` by `Union(v, γ v)` for every `γ` in `IR.autGroupFrom` and every
  vertex `v`,
* `gens` := the whole list `IR.autGroupFrom`,
and never takes the early exit.  The rows handed over by `getAutomorphismGroup` are the neighbour lists of the abstraction:
`irOf g = IR.ofSpec g.toG` (`irOf_eq`). -/
theorem irOracle_satisfies_oracleSpec (n : Nat) : OracleSpec irOracle n := irOracle_spec n

/-- **Canonical augmentation is exact, end to end on the models**: with the canonical labelling of the unpruned
individualisation–refinement model of C01/C02 as oracle, for every `n` and every hereditary, isomorphism-invariant `P`
(as `preprune`), the graphs yielded by the search model `WithPruning(n, 0, 1, P)` form an exact transversal of the
isomorphism classes of well-formed graphs on `n` vertices with `P`.  The only hypothesis left is that the run returns
normally within the fuel.  Relative to the implementation this leaves exactly: the Go search behaves like the `Search`
model (correspondence `c04seq`) and the Go canonical labelling answers like the unpruned model up to the freedom
`OracleSpec` allows (same canonical graph, same orbit partition, a generating set of the same group — what the C01/C02
correspondence checks on every run). -/
theorem search_exact_with_IR_oracle (n : Nat) {P : G → Bool} (hP : Hereditary P) (fuel lim : Nat) {outs : List DG}
    {t : State} (h : exhaust irOracle (pruneOf P) noPrune fuel lim (init n 0 1) = .ok (outs, t)) :
    Transversal P n (outs.map DG.toG) :=
  search_exact (irOracle_spec n) hP fuel lim h

example : ∃ outs t, exhaust irOracle (pruneOf fun _ => true) noPrune 5 5 (init 1 0 1) = .ok (outs, t) ∧
    Transversal (fun _ => true) 1 (outs.map DG.toG) :=
  ⟨_, _, rfl, search_exact_with_IR_oracle 1 hereditary_true 5 5 rfl⟩

-- test (kernel evaluation, bounded, NOT the property): the `Search` model run with the brute-force oracle
-- `bfOracle` (`Lemmas/TestOracle.lean`: minimal relabelled edge code over all permutations, all automorphisms as generators)
-- yields 1, 1, 2, 4, 11 graphs for n = 0..4, and the verified checker `checkLevels` accepts the model's own output, so by
-- `checkLevels_sound` these lists are exact transversals.  (`IR.cert` uses `List.mergeSort`, which the kernel cannot
-- unfold, hence `bfOracle` instead of `irOracle` here.)  The kernel evaluates the checker with the plain `bfCanon`, to which
-- `bfCanonFast` is proved equal (`checkLevels_eq_plain`), because the fast one's `Array.ofFn` table is re-walked on every lookup.
example : ((List.range 5).map fun n => (bfLevel n).length) = [1, 1, 2, 4, 11] ∧
    checkLevels (fun _ => true) ((List.range 5).map bfLevel) = .ok := by
  rw [checkLevels_eq_plain]; decide +kernel

-- test (compiled evaluation, not a theorem): with `irOracle` the model yields 2, 4, 11, 34 graphs for n = 2, 3, 4, 5
-- (`#eval` of `exhaust irOracle (pruneOf fun _ => true) noPrune 100000 1000 (init n 0 1)`); the kernel cannot evaluate
-- these closed terms (`IR.cert` uses `List.mergeSort`), so for n ≥ 2 the hypothesis `h` is not instantiated by an `example`.

/-- the hypotheses of `search_exact` are consistent at least in the degenerate case `n = 0` (an oracle that is never
asked); consistency for every `n` is `irOracle_satisfies_oracleSpec` -/
theorem oracleSpec_consistent_zero : OracleSpec (fun _ _ _ _ => .panic) 0 := oracleSpec_zero

example : ∃ outs t, exhaust (fun _ _ _ _ => .panic) (pruneOf fun _ => true) noPrune 5 5 (init 0 0 1) = .ok (outs, t) ∧
    Transversal (fun _ => true) 0 (outs.map DG.toG) :=
  ⟨_, _, rfl, search_exact oracleSpec_zero hereditary_true 5 5 rfl⟩

/-- **The explicit-stack loop of `Next` performs the recursive traversal**:
for `n ≥ 2`, all `a, m`, oracles and pruning functions, what `exhaust` collects from `WithPruning(n, a, m)` is exactly
`subNode … K1 none` — the recursive "children of an accepted node = the choices `addAugmentations` lists, each tried
with `AddVertex`, `preprune`, `isCanonical`, `prune`, skipping by the shard test at the split level" — or nothing if the
one-vertex graph is pruned.  (Two facts about the model carry it: `RemoveVertex(last)` undoes `AddVertex`, and the block of
choices `addAugmentations` pushes does not depend on the stack below.) -/
theorem run_refines_traversal (O : Oracle) (pre pr : DG → Bool) (n a m : Nat) (hn : 2 ≤ n) (fuel lim : Nat)
    {out : List DG} {s' : State} (h : exhaust O pre pr fuel lim (init n a m) = .ok (out, s')) :
    (if pre K1 || pr K1 then Outcome.ok [] else subNode O pre pr n (skipAM n a m) (n - 1) K1 none) = .ok out :=
  exhaust_init n a m hn fuel lim h

/-- **The shards partition the search** (model level, full): for every `n`, every `m ≥ 1`, every oracle and pruning
functions, the graphs yielded by the `m` iterators `WithPruning(n, a, m)`, `a = 0..m-1`, are together a permutation
(equal as multisets) of the graphs yielded by `WithPruning(n, 0, 1)` — whenever the `m + 1` runs terminate normally
within the given fuel.  (Every root-to-leaf path crosses the split level `2(n+1)/3 - 1 ∈ [1, n-1]` exactly once, and at
that level child `i` is kept by exactly the shard `i mod m`.) -/
theorem shards_partition (O : Oracle) (pre pr : DG → Bool) (n m : Nat) (hm : 0 < m) (fuel lim : Nat)
    {out1 : List DG} {t1 : State} {outs : Nat → List DG} {ts : Nat → State}
    (h1 : exhaust O pre pr fuel lim (init n 0 1) = .ok (out1, t1))
    (ha : ∀ a, a < m → exhaust O pre pr fuel lim (init n a m) = .ok (outs a, ts a)) :
    ((List.range m).flatMap outs).Perm out1 :=
  shards_perm n m hm fuel lim h1 ha

example : ∃ t1 t2 t3, exhaust (fun _ _ _ _ => .ok none) (fun _ => false) (fun _ => false) 10 10 (init 1 0 1) = .ok ([K1], t1) ∧
    exhaust (fun _ _ _ _ => .ok none) (fun _ => false) (fun _ => false) 10 10 (init 1 0 2) = .ok ([K1], t2) ∧
    exhaust (fun _ _ _ _ => .ok none) (fun _ => false) (fun _ => false) 10 10 (init 1 1 2) = .ok ([], t3) :=
  ⟨_, _, _, rfl, rfl, rfl⟩

/-- **preprune or prune** (model level, full): a pure predicate `f` supplied as `preprune` or supplied as `prune` makes the
iterator yield the same graphs in the same order, for every `n, a, m` and every oracle (whenever both runs terminate
normally): a child is accepted iff `!preprune ∧ isCanonical ∧ !prune` in both placements. -/
theorem preprune_prune_agree (O : Oracle) (f : DG → Bool) (n a m : Nat) (fuel lim : Nat) {o1 o2 : List DG}
    {t1 t2 : State} (h1 : exhaust O f noPrune fuel lim (init n a m) = .ok (o1, t1))
    (h2 : exhaust O noPrune f fuel lim (init n a m) = .ok (o2, t2)) : o1 = o2 :=
  place_agree O f n a m fuel lim h1 h2

example : ∃ t1 t2, exhaust (fun _ _ _ _ => .ok none) (fun g => g.nv > 5) noPrune 10 10 (init 1 0 1) = .ok ([K1], t1) ∧
    exhaust (fun _ _ _ _ => .ok none) noPrune (fun g => g.nv > 5) 10 10 (init 1 0 1) = .ok ([K1], t2) :=
  ⟨_, _, rfl, rfl⟩

/-- the two arithmetic facts used: the split level is one of the levels `1 … n-1`, and a child index belongs to exactly
one shard -/
theorem shards_arith (n i m : Nat) (hn : 2 ≤ n) (hm : 0 < m) :
    (1 ≤ splitLevel n ∧ splitLevel n ≤ (n : Int) - 1) ∧
      ∃ a, a < m ∧ i % m = a ∧ ∀ b, b < m → i % m = b → b = a :=
  ⟨splitLevel_range hn, shard_unique i m hm⟩

/-! ### Termination: the fuel hypotheses disappear

`fuelBound n = (2 ^ n + 5) ^ n + 1`.  `Lemmas/TermRun.lean`: the configurations of the step function `run` satisfy the
invariant `TInv` (the current graph is built from the one-vertex graph by `AddVertex`, it has `len(currentPath)` or
`len(currentPath) + 1` vertices, the stack of choices is cut into frames by the counts in `currentPath` and the choices of
the frame at level `l` only mention vertices `< l`, a cache handed to `addAugmentations` was produced by an accepting
`isCanonical`), on which `AddVertex`, `RemoveVertex`, `isCanonical` (`isCanonical_spec`) and `addAugmentations`
(`addAugmentations_total`: the reslice `ds[:C(nv,k)]` stays within `C(n, n/2)`) do not panic, and every step strictly
decreases the potential `Σ_frames count · W(level) + 2·depth + (mode)`, `W(l) = (2^n + 5)^(n-l)` (`addAugmentations` pushes
at most `2^nv` choices: `aug_size_le`, from `aug_range_of_oracle`/`aug_distinct_of_oracle`). -/

/-- **The search terminates** (model level, full): for every `n`, every oracle satisfying `OracleSpec O n`, all pure
pruning functions, every shard `a, m` with `m ≥ 1`: with at least `fuelBound n` fuel for each call of `Next` and a call
limit of at least `fuelBound n`, the run `for it.Next() { … }` from `WithPruning(n, a, m, …)` returns normally — no panic
(no index out of range, no reslice beyond a capacity, no `RemoveVertex` on an empty graph, no modulo by zero) and no
exhaustion of the fuel.  (`m = 0` panics in Go as well: `i % 0`.) -/
theorem run_terminates {O : Oracle} {n : Nat} (hO : OracleSpec O n) (pre pr : DG → Bool) (a m : Nat) (hm : 0 < m)
    {fuel lim : Nat} (hf : fuelBound n ≤ fuel) (hl : fuelBound n ≤ lim) :
    ∃ outs t, exhaust O pre pr fuel lim (init n a m) = .ok (outs, t) :=
  exhaust_init_total hO pre pr a m hm hf hl

example : ∃ outs t, exhaust irOracle (fun g => g.ne > 3) noPrune (fuelBound 6) (fuelBound 6) (init 6 1 3) = .ok (outs, t) :=
  run_terminates (irOracle_spec 6) _ _ 1 3 (by decide) (Nat.le_refl _) (Nat.le_refl _)

/-- `search_exact` without the hypothesis that the run returns: it does, and the yielded graphs are an exact transversal. -/
theorem search_exact_total {O : Oracle} {n : Nat} {P : G → Bool} (hO : OracleSpec O n) (hP : Hereditary P)
    {fuel lim : Nat} (hf : fuelBound n ≤ fuel) (hl : fuelBound n ≤ lim) :
    ∃ outs t, exhaust O (pruneOf P) noPrune fuel lim (init n 0 1) = .ok (outs, t) ∧
      Transversal P n (outs.map DG.toG) := by
  obtain ⟨outs, t, h⟩ := run_terminates hO (pruneOf P) noPrune 0 1 (by decide) hf hl
  exact ⟨outs, t, h, search_exact hO hP fuel lim h⟩

/-- **Canonical augmentation is exact, end to end on the models, unconditionally**: for every `n` and every hereditary,
isomorphism-invariant `P` (as `preprune`), the search model `WithPruning(n, 0, 1, P)` run with the canonical labelling of the
C01/C02 model as oracle (and `fuelBound n` fuel) returns normally, and the graphs it yields form an exact transversal of
the isomorphism classes of well-formed graphs on `n` vertices with `P`.  No hypothesis besides `Hereditary P` is left. -/
theorem search_exact_with_IR_oracle_total (n : Nat) {P : G → Bool} (hP : Hereditary P) {fuel lim : Nat}
    (hf : fuelBound n ≤ fuel) (hl : fuelBound n ≤ lim) :
    ∃ outs t, exhaust irOracle (pruneOf P) noPrune fuel lim (init n 0 1) = .ok (outs, t) ∧
      Transversal P n (outs.map DG.toG) :=
  search_exact_total (irOracle_spec n) hP hf hl

example : ∃ outs t, exhaust irOracle (pruneOf isForest) noPrune (fuelBound 9) (fuelBound 9) (init 9 0 1) = .ok (outs, t) ∧
    Transversal isForest 9 (outs.map DG.toG) :=
  search_exact_with_IR_oracle_total 9 hereditary_isForest (Nat.le_refl _) (Nat.le_refl _)

/-- `shards_partition` without the hypotheses that the `m + 1` runs return -/
theorem shards_partition_total {O : Oracle} {n : Nat} (hO : OracleSpec O n) (pre pr : DG → Bool) (m : Nat) (hm : 0 < m)
    {fuel lim : Nat} (hf : fuelBound n ≤ fuel) (hl : fuelBound n ≤ lim) :
    ∃ (out1 : List DG) (t1 : State) (outs : Nat → List DG) (ts : Nat → State),
      exhaust O pre pr fuel lim (init n 0 1) = .ok (out1, t1) ∧
      (∀ a, a < m → exhaust O pre pr fuel lim (init n a m) = .ok (outs a, ts a)) ∧
      ((List.range m).flatMap outs).Perm out1 := by
  obtain ⟨out1, t1, h1⟩ := run_terminates hO pre pr 0 1 (by decide) hf hl
  have hall : ∀ a, ∃ o t, exhaust O pre pr fuel lim (init n a m) = .ok (o, t) :=
    fun a => run_terminates hO pre pr a m hm hf hl
  refine ⟨out1, t1, fun a => (hall a).choose, fun a => (hall a).choose_spec.choose, h1,
    fun a _ => (hall a).choose_spec.choose_spec, ?_⟩
  exact shards_partition O pre pr n m hm fuel lim h1 (fun a _ => (hall a).choose_spec.choose_spec)

example : ∃ (out1 : List DG) (t1 : State) (outs : Nat → List DG) (ts : Nat → State),
      exhaust irOracle noPrune noPrune (fuelBound 7) (fuelBound 7) (init 7 0 1) = .ok (out1, t1) ∧
      (∀ a, a < 4 → exhaust irOracle noPrune noPrune (fuelBound 7) (fuelBound 7) (init 7 a 4) = .ok (outs a, ts a)) ∧
      ((List.range 4).flatMap outs).Perm out1 :=
  shards_partition_total (irOracle_spec 7) _ _ 4 (by decide) (Nat.le_refl _) (Nat.le_refl _)

/-- `preprune_prune_agree` without the hypotheses that the two runs return -/
theorem preprune_prune_agree_total {O : Oracle} {n : Nat} (hO : OracleSpec O n) (f : DG → Bool) (a m : Nat) (hm : 0 < m)
    {fuel lim : Nat} (hf : fuelBound n ≤ fuel) (hl : fuelBound n ≤ lim) :
    ∃ o t1 t2, exhaust O f noPrune fuel lim (init n a m) = .ok (o, t1) ∧
      exhaust O noPrune f fuel lim (init n a m) = .ok (o, t2) := by
  obtain ⟨o1, t1, h1⟩ := run_terminates hO f noPrune a m hm hf hl
  obtain ⟨o2, t2, h2⟩ := run_terminates hO noPrune f a m hm hf hl
  have := preprune_prune_agree O f n a m fuel lim h1 h2
  subst this
  exact ⟨o1, t1, t2, h1, h2⟩

example : ∃ o t1 t2, exhaust irOracle (fun g => g.ne > 4) noPrune (fuelBound 5) (fuelBound 5) (init 5 0 1) = .ok (o, t1) ∧
      exhaust irOracle noPrune (fun g => g.ne > 4) (fuelBound 5) (fuelBound 5) (init 5 0 1) = .ok (o, t2) :=
  preprune_prune_agree_total (irOracle_spec 5) _ 0 1 (by decide) (Nat.le_refl _) (Nat.le_refl _)

end Search
