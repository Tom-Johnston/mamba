import Mamba.Lemmas.CanonFAutG
import Mamba.Lemmas.CanonFTreeFinal
import Mamba.Lemmas.CanonFPrune
import Mamba.Lemmas.CanonFPruneSound
import Mamba.Lemmas.CanonFSorted
import Mamba.Lemmas.CanonFMainJ
import Mamba.Lemmas.CanonFWalk
import Mamba.Lemmas.CanonFCovStep
import Mamba.Lemmas.CanonFCertJ
import Mamba.Lemmas.CanonFCovBackjump
import Mamba.Lemmas.CanonFDfsMain
import Mamba.Lemmas.CanonFOrbMain
import Mamba.Lemmas.CanonFGenMain
import Mamba.Lemmas.CanonFIsoSpec
import Mamba.Lemmas.CanonFClassInv
import Mamba.Lemmas.CanonFTotal
import Mamba.Lemmas.CanonFSemantic
import Mamba.Lemmas.CanonFReuse
import Mamba.Spec.Iso
/-!
# C01 / C02, pattern F — theorems about the faithful model of `graph/canonical.go` (`Mamba/Model/CanonF.lean`)

All theorems are about the executable definitions that the driver `Drv/C01F.lean` runs (`CanonF.canonicalIsomorphFull`,
`canonicalIsomorphAllocated`, `reset`, `newOrderedPartition`, `splitBin`, `deage`, `refine`, `stable`, …): the search with
all its pruning, the ordered-partition arrays, the hand-written stable sort and the storage, as transliterated from the Go
code. Sections (a)–(f): the returned slice, soundness of generators and orbits, the partition operations, the sort,
`Reset`, the link to the unpruned tree (no completeness-of-pruning argument needed); (g) the three pruning arguments at tree
level, (h) the invariants of the loop state that the main loop carries, (i) the per-frame coverage invariant; (k)–(m) prove
that the pruning loses neither the maximal leaf nor an automorphism; (n) states the result with the specification's
isomorphism, (o) is totality (no panic, explicit fuel), (p) storage reuse. Definitions of the invariants: `Lemmas/CanonFInv.lean`
(`PartInv`: `order` is a permutation of `0..n-1`, `binDividers` strictly increasing, positive, ending at `n`,
`inCell[order[p]]` = index of the bin of position `p`, slices well formed; `AgeInv`: divider ages `≤ age`, last divider
age 0; `ScratchOK`), `Lemmas/CanonFReset.lean` (`ClassesOK`), `Lemmas/CanonFSplit.lean` (`BtcInv`).
-/
namespace C01F
open CanonF GraphSpec


/-! ## (a) the returned slice is a permutation; the relabelled graph is isomorphic to `g` -/

/-- `canonF_perm`: whenever `CanonicalIsomorphFull(g, classes)` returns (no panic, fuel not exhausted — for ANY fuel), the
returned slice is a permutation of `0..n-1`. Only hypothesis: the classes are a valid ordered partition (`ClassesOK`:
non-empty classes whose concatenation is a permutation of `0..n-1`, or nil). For the repaired code (`expandValue` called
once after the initial refinement; first leaf always accepted) no hypothesis "the first class is not a single vertex" is
needed, and the adjacency lists need not even be those of a simple graph. -/
theorem canonF_perm (fuel : Nat) (g : G) (vc : Classes) (hvc : ClassesOK g.n vc)
    (r : Res) (h : canonicalIsomorphFull fuel g vc = .ok r) :
    ∃ p, r.perm = some p ∧ p.Perm (List.range g.n) :=
  canonF_perm_full stablePerm fuel g vc hvc r h

/-- singleton first class, edgeless graph with classes, unsorted blocks: all are valid inputs of `canonF_perm` -/
example : ClassesOK 4 (some [[2], [3, 0, 1]]) ∧ ClassesOK 3 (some [[1], [0], [2]]) :=
  ⟨⟨by decide, by decide⟩, ⟨by decide, by decide⟩⟩

example : (ofEdges 4 [(0, 1), (1, 2), (2, 3)]).WF ∧ ClassesOK 4 none ∧ ClassesOK 4 (some [[0, 3], [1, 2]]) :=
  ⟨ofEdges_wf _ _, trivial, by decide, by decide⟩

theorem induced_iso (g : G) (p : List Nat) (hp : p.Perm (List.range g.n)) : GSearch.Iso (g.induced p) g := by
  have hlen : p.length = g.n := by rw [hp.length_eq]; simp
  have hnd : p.Nodup := hp.nodup_iff.2 List.nodup_range
  refine ⟨hlen, fun i => p.getD i 0, ⟨?_, ?_, ?_⟩, ?_⟩
  · intro u hu
    have hu' : u < p.length := by simpa [G.induced] using hu
    have : p.getD u 0 ∈ p := by
      rw [List.getD_eq_getElem?_getD, List.getElem?_eq_getElem hu']; simp
    have := hp.mem_iff.1 this
    show p.getD u 0 < p.length
    rw [hlen]; simpa using this
  · intro u v hu hv e
    have hu' : u < p.length := by simpa [G.induced] using hu
    have hv' : v < p.length := by simpa [G.induced] using hv
    rw [List.getD_eq_getElem?_getD, List.getD_eq_getElem?_getD, List.getElem?_eq_getElem hu',
      List.getElem?_eq_getElem hv'] at e
    simp only [Option.getD_some] at e
    exact (List.getElem_inj hnd).mp e
  · intro w hw
    have hw' : w < g.n := by have : w < p.length := hw; omega
    have : w ∈ p := hp.mem_iff.2 (List.mem_range.2 hw')
    obtain ⟨i, hi⟩ := List.getElem?_of_mem this
    have hil := (List.getElem?_eq_some_iff.1 hi).1
    exact ⟨i, by simpa [G.induced] using hil, by rw [List.getD_eq_getElem?_getD, hi]; rfl⟩
  · intro u v hu hv
    have hu' : u < p.length := by simpa [G.induced] using hu
    have hv' : v < p.length := by simpa [G.induced] using hv
    simp [G.induced, hu', hv']

example : GSearch.Iso ((ofEdges 3 [(0, 1)]).induced [2, 0, 1]) (ofEdges 3 [(0, 1)]) := induced_iso _ _ (by decide)

/-- `canonF_iso`: the graph relabelled with the returned slice (`g.InducedSubgraph(perm)`) is isomorphic to `g`. -/
theorem canonF_iso (fuel : Nat) (g : G) (vc : Classes) (hvc : ClassesOK g.n vc)
    (r : Res) (h : canonicalIsomorphFull fuel g vc = .ok r) :
    ∃ p, r.perm = some p ∧ GSearch.Iso (g.induced p) g := by
  obtain ⟨p, hp, hperm⟩ := canonF_perm fuel g vc hvc r h
  exact ⟨p, hp, induced_iso g p hperm⟩

/-- the same for the unexported wrapper `CanonicalIsomorph` -/
theorem canonF_perm_simple (fuel : Nat) (g : G) (p : Option (List Nat))
    (h : canonicalIsomorph fuel g = .ok p) : ∃ q, p = some q ∧ q.Perm (List.range g.n) := by
  unfold canonicalIsomorph at h
  cases hf : canonicalIsomorphFull fuel g none with
  | ok r =>
    rw [hf] at h; cases h
    exact canonF_perm fuel g none trivial r hf
  | panic => rw [hf] at h; cases h
  | outOfFuel => rw [hf] at h; cases h

/-! ## (b), (c) generators and orbits

`IsAutG g γ`: the list `γ = [γ 0, …, γ (n-1)]` is a permutation of `0..n-1` with `g.adj (γ u) (γ v) = g.adj u v`.
`SameOrbit g a b`: `a` and `b` are connected by automorphisms of `g` (`EqvGen` of `x ↦ γ x`).
These are statements about automorphisms of the graph, for every valid class input (the `m == 0` shortcut is only taken
with a single class; an edgeless graph with several classes goes through the general search). The generators also map
every vertex class into itself (`canonF_generators_preserve_classes`). -/

/-- `canonF_generators_sound`: every generator returned by `CanonicalIsomorphFull` is an automorphism of `g`: each one
is read off two leaves whose full certificates are equal. The proof carries the certificate invariant (`value` is the
certificate of the singleton prefix; after a "worse" verdict it is the certificate of a prefix cut at a divider of the
current age, which the next `deage` truncates) through `splitBin`, the refinement, `deage` and the main loop with all its pruning. -/
theorem canonF_generators_sound (fuel : Nat) (g : G) (hg : g.WF) (vc : Classes) (hvc : ClassesOK g.n vc)
    (r : Res) (h : canonicalIsomorphFull fuel g vc = .ok r) (gs : List (List Nat)) (hgs : r.gens = some gs) :
    ∀ γ ∈ gs, IsAutG g γ :=
  (canonF_gens_full fuel g hg vc hvc r h).1 gs hgs

/-- `canonF_orbits_sound`: two vertices with the same representative in the returned union–find lie in the same orbit
of `Aut(g)`: every union performed is justified by a recorded automorphism. -/
theorem canonF_orbits_sound (fuel : Nat) (g : G) (hg : g.WF) (vc : Classes) (hvc : ClassesOK g.n vc)
    (r : Res) (h : canonicalIsomorphFull fuel g vc = .ok r) (ds : List Int) (hds : r.orbits = some ds) :
    ds.length = g.n ∧
      ∀ a b, a < g.n → b < g.n → Disjoint.rep ds.toArray a = Disjoint.rep ds.toArray b → SameOrbit g a b :=
  (canonF_gens_full fuel g hg vc hvc r h).2.1 ds hds

/-- `canonF_orbits_by_generators`: more precisely, vertices with the same representative are connected by the RETURNED
generators (the orbit partition is not coarser than the orbits of the group the generators generate). -/
theorem canonF_orbits_by_generators (fuel : Nat) (g : G) (hg : g.WF) (vc : Classes) (hvc : ClassesOK g.n vc)
    (r : Res) (h : canonicalIsomorphFull fuel g vc = .ok r) (gs : List (List Nat)) (ds : List Int)
    (hgs : r.gens = some gs) (hds : r.orbits = some ds) :
    ∀ a b, a < g.n → b < g.n → Disjoint.rep ds.toArray a = Disjoint.rep ds.toArray b →
      Relation.EqvGen (fun x y => ∃ γ ∈ gs, γ[x]? = some y) a b :=
  (canonF_gens_full fuel g hg vc hvc r h).2.2.1 gs ds hgs hds

/-- `canonF_generators_preserve_classes`: every returned generator maps each vertex class into itself (hence, being a
permutation, onto itself). The proof carries "the vertex at position `p` of `order` lies in the initial cell of position
`p`, and the initial dividers are never removed" through `splitBin`, the refinement, `deage` (which re-sorts merged
bins) and the main loop: every operation only rearranges `order` inside the current bins. -/
theorem canonF_generators_preserve_classes (fuel : Nat) (g : G) (hg : g.WF) (cls : List (List Nat))
    (hvc : ClassesOK g.n (some cls))
    (r : Res) (h : canonicalIsomorphFull fuel g (some cls) = .ok r) (gs : List (List Nat)) (hgs : r.gens = some gs) :
    ∀ γ ∈ gs, ∀ c ∈ cls, ∀ v ∈ c, ∀ w, γ[v]? = some w → w ∈ c :=
  (canonF_gens_full fuel g hg (some cls) hvc r h).2.2.2 gs cls hgs rfl

example : IsAutG (ofEdges 3 [(0, 1), (1, 2)]) [2, 1, 0] := by
  refine ⟨by decide, ?_⟩
  intro u v hu hv
  have hu' : u < 3 := hu
  have hv' : v < 3 := hv
  rcases (by omega : u = 0 ∨ u = 1 ∨ u = 2) with rfl | rfl | rfl <;>
    rcases (by omega : v = 0 ∨ v = 1 ∨ v = 2) with rfl | rfl | rfl <;> decide

/-- the certificate invariant at its core: two vertex orders with the same full certificate differ by an automorphism
(`transport n o1 o2` = vertex at position `p` of `o1` ↦ vertex at position `p` of `o2`, the Go expression
`order[permInv[i]]`) -/
theorem cert_eq_gives_automorphism {nb : Nbrs} {n : Nat} {o1 o2 : List Nat} (hnb : NbOK nb n)
    (h1 : o1.Perm (List.range n)) (h2 : o2.Perm (List.range n))
    (hc : certPos nb o1 n = certPos nb o2 n) : IsAutL nb n (transport n o1 o2) :=
  aut_of_cert hnb h1 h2 hc

/-- `expandValue` extends a certificate of the singleton prefix by exactly the blocks of the new singleton positions; when
it reports "worse" it has recorded the prefix length reached (`singletonPrefixLength = j + 1`), so `value` is still the
certificate of positions `< singletonPrefixLength` (`VStale`) -/
theorem expandValue_certificate : ExpandCert := expandValue_cert

/-- `deage` restores a clean certificate -/
theorem deage_certificate {n : Nat} {nb : Nbrs} {cb fl : Sl Nat} {op op' : OP} (h : PartInv n op) (ha : AgeInv op)
    (hage : 0 < op.age) (hv : VAny nb cb fl op) (hd : deage op = .ok op') : VN nb cb fl op' :=
  deage_cert h ha hage hv hd

/-! ## (d) the ordered-partition invariant is preserved; absence of panics of the partition operations -/

/-- `splitBin_inv`: individualising a position that lies in a bin with at least two elements keeps the invariant, adds
exactly one divider (of the new age `age + 1`), and does not touch the positions in front of the bin. -/
theorem splitBin_inv {n : Nat} {nb : Nbrs} {cb fl : Sl Nat} {op op' : OP} {i : Nat} {w : Bool}
    (h : PartInv n op) (ha : AgeInv op) (hi : i < n) (hns : NonSingleton op.binDividers.toList i)
    (hs : splitBin nb cb fl op i = .ok (w, op')) :
    PartInv n op' ∧ AgeInv op' ∧ op'.age = op.age + 1 ∧
      (divs op').filter (fun x => decide (x.2 ≠ op.age + 1)) = divs op ∧
      (∀ p, binIdx op.binDividers.toList p < binIdx op.binDividers.toList i → op'.order.toList[p]? = op.order.toList[p]?) :=
  CanonF.splitBin_inv h ha hi hns hs

/-- the hypotheses of `splitBin_inv` are satisfiable: the initial partition of 3 vertices, position 1 -/
example : ∃ op, newOrderedPartition 3 2 none = .ok (some op) ∧ PartInv 3 op ∧ AgeInv op ∧
    NonSingleton op.binDividers.toList 1 := by
  obtain ⟨op, h1, h2, h3, _, _, _, _, _, _, _, _, _, _, _, hbd⟩ := newOrderedPartition_inv (n := 3) (m := 2) (vc := none) (by decide) trivial
  refine ⟨op, h1, h2, h3, ?_⟩
  simp only at hbd
  rw [hbd]; unfold NonSingleton; decide

/-- `deage_inv`: undoing the current age keeps the invariant, removes exactly the dividers of the current age, empties the
work list, only shortens the certificate and only lowers `singletonPrefixLength`; capacities are unchanged. -/
theorem deage_inv {n : Nat} {op op' : OP} (h : PartInv n op) (ha : AgeInv op) (hage : 0 < op.age)
    (hd : deage op = .ok op') :
    PartInv n op' ∧ AgeInv op' ∧ op'.age = op.age - 1 ∧
      divs op' = (divs op).filter (fun x => decide (x.2 ≠ op.age)) ∧
      op'.binsToCheck.len = 0 ∧ op'.binsToCheck.data = op.binsToCheck.data ∧
      op'.value.data = op.value.data ∧ op'.value.len ≤ op.value.len ∧ op'.spl ≤ op.spl ∧
      op'.order.data.size = op.order.data.size ∧ op'.inCell.data.size = op.inCell.data.size ∧
      op'.binDividers.data.size = op.binDividers.data.size ∧ op'.binAges.data.size = op.binAges.data.size :=
  CanonF.deage_inv h ha hage hd

/-- `deage_no_panic`: on a partition satisfying the invariant `deage` neither panics nor runs out of fuel. -/
theorem deage_no_panic {n : Nat} {op : OP} (h : PartInv n op) (ha : AgeInv op) (hage : 0 < op.age)
    (hv : op.value.WF) : ∃ op', deage op = .ok op' :=
  CanonF.deage_no_panic h ha hage hv

/-- `refine_inv`: the equitable refinement (count loop, two-bucket fill / stable sort, insertion of the new dividers,
work list, `inCell`) keeps the invariant, only adds dividers of the current age, and keeps every capacity. -/
theorem refine_inv {n : Nat} {nb : Nbrs} {cb fl : Sl Nat} {opts : Options} {op op' : OP}
    {sc sc' : Scratch} {w : Bool}
    (h : PartInv n op) (ha : AgeInv op) (hsc : ScratchOK n sc)
    (hr : refine nb cb fl opts op sc = .ok (w, op', sc')) :
    PartInv n op' ∧ AgeInv op' ∧ op'.age = op.age ∧
      (divs op').filter (fun x => decide (x.2 < op.age)) = (divs op).filter (fun x => decide (x.2 < op.age)) ∧
      sc'.dws.data.size = sc.dws.data.size ∧ sc'.nbs.data.size = sc.nbs.data.size ∧
      sc'.space.data.size = sc.space.data.size ∧ sc'.timesSeen.data.size = sc.timesSeen.data.size ∧
      sc'.maxCell.data.size = sc.maxCell.data.size ∧ sc'.numberOfMax.data.size = sc.numberOfMax.data.size ∧
      op'.order.data.size = op.order.data.size ∧ op'.inCell.data.size = op.inCell.data.size ∧
      op'.binDividers.data.size = op.binDividers.data.size ∧ op'.binAges.data.size = op.binAges.data.size :=
  CanonF.refine_inv stablePerm h ha hsc hr

/-- `splitBin_no_panic_partial`: the partition step of `splitBin` does not panic within capacity. PARTIAL: the call of
`expandValue` (taken when the split bin is the one at `singletonPrefixLength`) is excluded by hypothesis; its slicing of
`currentBest`/`firstLeaf` to the certificate length is only safe under the certificate invariant. -/
theorem splitBin_no_panic_partial {n : Nat} {nb : Nbrs} {cb fl : Sl Nat} {op : OP} {i : Nat}
    (h : PartInv n op) (ha : AgeInv op) (hb : BtcInv op) (hi : i < n) (hns : NonSingleton op.binDividers.toList i)
    (c1 : op.binDividers.len + 1 ≤ op.binDividers.data.size) (c2 : op.binAges.len + 1 ≤ op.binAges.data.size)
    (c3 : op.binDividers.len + 1 ≤ op.binsToCheck.data.size)
    (hne : binIdx op.binDividers.toList i ≠ op.spl) :
    ∃ op', splitBin nb cb fl op i = .ok (false, op') ∧ BtcInv op' := by
  obtain ⟨op', h1, h2, _⟩ := CanonF.splitBin_no_panic_partial h ha hb hi hns c1 c2 c3 hne
  exact ⟨op', h1, h2⟩

/-- `refine_no_panic_partial`: the refinement terminates within the model's fuel `3 n + 3` and does not panic.
PARTIAL: for the phase in which `currentBest` is empty (`cb.len = 0`, no slicing of `currentBest`/`firstLeaf` in
`worseTest`) and without the viability check. -/
theorem refine_no_panic_partial {n : Nat} {nb : Nbrs} {cb fl : Sl Nat} {opts : Options} {op : OP} {sc : Scratch}
    (h : PartInv n op) (ha : AgeInv op) (hsc : ScratchOK n sc) (hpre : PrefixSingle op) (hval : op.value.WF)
    (cBd : n ≤ op.binDividers.data.size) (cAges : n ≤ op.binAges.data.size) (cBtc : n ≤ op.binsToCheck.data.size)
    (cDws : n ≤ sc.dws.data.size) (cNbs : n ≤ sc.nbs.data.size) (cSpace : n ≤ sc.space.data.size)
    (cTs : n ≤ sc.timesSeen.len)
    (hbw : op.binsToCheck.WF) (hbs : op.binsToCheck.toList.Pairwise (· < ·))
    (hbr : ∀ x ∈ op.binsToCheck.toList, 0 ≤ x ∧ x < (op.binDividers.len : Int))
    (hnb : nb.size = n) (hnbr : ∀ (u : Nat) (l : List Nat), nb[u]? = some l → ∀ v ∈ l, v < n)
    (hcb : cb.len = 0) (hv : opts.checkViability = false) :
    ∃ op' sc', refine nb cb fl opts op sc = .ok (false, op', sc') :=  by
  obtain ⟨op', sc', h1, _⟩ := CanonF.refine_no_panic_partial stablePerm (fun d hw => CanonF.stable_no_panic hw)
    h ha hsc hpre hval cBd cAges cBtc cDws cNbs cSpace cTs hbw hbs hbr hnb hnbr hcb hv
  exact ⟨op', sc', h1⟩

/-! ## the hand-written stable sort (`stable`, `insertionSortKeyValue`, `symMerge`, `rotate`, `swapRange`) -/

/-- the sort permutes its input and keeps length and capacity -/
theorem stable_perm {d d' : Sl KV} {n : Nat} (h : stable d n = .ok d') :
    d'.len = d.len ∧ d'.data.size = d.data.size ∧ d'.toList.Perm d.toList :=
  CanonF.stable_perm h

/-- no index is out of range and every fuel of the model suffices -/
theorem stable_no_panic {d : Sl KV} (hw : d.WF) : ∃ d', stable d d.len = .ok d' :=
  CanonF.stable_no_panic hw

/-- the result is sorted by `value` -/
theorem stable_sorted {d d' : Sl KV} (hw : d.WF) (h : stable d d.len = .ok d') :
    d'.toList.Pairwise (fun x y => x.1 ≤ y.1) :=
  CanonF.stable_sorted hw h

/-- the sort is stable: elements with the same `value` keep their relative order -/
theorem stable_stable {d d' : Sl KV} (hw : d.WF) (h : stable d d.len = .ok d') (v : Nat) :
    d'.toList.filter (fun x => x.1 == v) = d.toList.filter (fun x => x.1 == v) :=
  CanonF.stable_stable hw h v

example : (⟨#[(2, 0), (1, 1), (2, 2)], 3⟩ : Sl KV).WF := by unfold Sl.WF; decide

/-! ## (e) storage reuse: `Reset` gives the state of a fresh `NewOrderedPartition` -/

/-- `newOrderedPartition_inv`: the initial partition satisfies the invariants; every class bin is on the initial work
list (`binsToCheck = [0, …, #bins - 1]`); each class is sorted inside `order` (`sortNat` = `ints.Sort`), so the result
does not depend on the order in which a class lists its vertices. -/
theorem newOrderedPartition_inv {n m : Nat} {vc : Classes} (hn : 0 < n) (hc : ClassesOK n vc) :
    ∃ op, newOrderedPartition n m vc = .ok (some op) ∧ PartInv n op ∧ AgeInv op ∧ op.age = 0 ∧ op.spl = 0 ∧
      op.value.len = 0 ∧ op.value.data.size = m ∧
      op.binsToCheck.toList = (List.range op.binDividers.len).map Int.ofNat ∧
      op.order.toList = (match vc with | none => List.range n | some cls => (cls.map sortNat).flatten) ∧
      op.binDividers.toList =
        (match vc with | none => [n] | some cls => (cls.map List.length).scanl (· + ·) 0 |>.tail) := by
  obtain ⟨op, h1, h2, h3, h4, h5, h6, h7, h8, _, _, _, _, _, h9, h10⟩ := CanonF.newOrderedPartition_inv (m := m) hn hc
  exact ⟨op, h1, h2, h3, h4, h5, h6, h7, h8, h9, h10⟩

/-- `reset_eq_new`: `Reset(n, m, classes)` on ANY partition value of sufficient capacity (arbitrary stale contents and
lengths) yields the same observable state — `order`, `binDividers`, `binAges`, `binsToCheck`, `value`, `age`,
`singletonPrefixLength`, `inCell` as slices of their lengths — as `NewOrderedPartition(n, m, classes)`, and keeps the
capacities. -/
theorem reset_eq_new {n m : Nat} {vc : Classes} (op : OP) (hn : 0 < n) (hc : ClassesOK n vc)
    (c1 : n ≤ op.order.data.size) (c2 : n ≤ op.inCell.data.size) (c3 : n ≤ op.binDividers.data.size)
    (c4 : n ≤ op.binAges.data.size) (c5 : n ≤ op.binsToCheck.data.size) (c6 : m ≤ op.value.data.size) :
    ∃ opN opR, newOrderedPartition n m vc = .ok (some opN) ∧ reset op n m vc = .ok opR ∧
      opR.order.toList = opN.order.toList ∧ opR.binDividers.toList = opN.binDividers.toList ∧
      opR.binAges.toList = opN.binAges.toList ∧ opR.binsToCheck.toList = opN.binsToCheck.toList ∧
      opR.value.toList = opN.value.toList ∧ opR.age = opN.age ∧ opR.spl = opN.spl ∧
      opR.inCell.toList = opN.inCell.toList ∧
      opR.order.data.size = op.order.data.size ∧ opR.inCell.data.size = op.inCell.data.size ∧
      opR.binDividers.data.size = op.binDividers.data.size ∧ opR.binAges.data.size = op.binAges.data.size ∧
      opR.binsToCheck.data.size = op.binsToCheck.data.size ∧ opR.value.data.size = op.value.data.size :=
  CanonF.reset_eq_new op hn hc c1 c2 c3 c4 c5 c6

/-- the reset partition satisfies the invariants -/
theorem reset_inv {n m : Nat} {vc : Classes} (op : OP) (hn : 0 < n) (hc : ClassesOK n vc)
    (c1 : n ≤ op.order.data.size) (c2 : n ≤ op.inCell.data.size) (c3 : n ≤ op.binDividers.data.size)
    (c4 : n ≤ op.binAges.data.size) (c5 : n ≤ op.binsToCheck.data.size) (c6 : m ≤ op.value.data.size) :
    ∃ opR, reset op n m vc = .ok opR ∧ PartInv n opR ∧ AgeInv opR ∧ opR.age = 0 ∧ opR.spl = 0 ∧
      opR.value.len = 0 ∧ opR.binsToCheck.toList = (List.range opR.binDividers.len).map Int.ofNat :=
  CanonF.reset_inv op hn hc c1 c2 c3 c4 c5 c6

/-- the documented panics of `Reset` -/
theorem reset_panics_small (op : OP) (n m : Nat) (vc : Classes)
    (h : op.order.data.size < n ∨ op.value.data.size < m) : reset op n m vc = .panic := by
  rcases h with h | h
  · exact reset_panics_small_n op n m vc h
  · exact reset_panics_small_m op n m vc h

/-! ## (f) link to the unpruned tree of `Model/IR.lean` (pattern A model of C01 / C02)

`IR.ofSpec g` is the IR graph of `g` (same neighbour lists as the faithful model reads); `irInit g op0` is the IR start
state for the class colouring of the initial partition `op0 = NewOrderedPartition(n, m, classes)`:
`IR.initSt (IR.ofSpec g) (#bins of op0) (cell index of a vertex in op0)` — without classes this is `IR.init`
(`irInit_none`). A leaf of the IR tree is a colouring vertex ↦ position; the returned slice `p` is position ↦ vertex, so
the leaf is `IR.tab n (fun v => p.idxOf v)`. -/

/-- `canonF_leaf_of_tree`: the permutation returned by the faithful model is one of the leaves of the UNPRUNED tree of
`Model/IR.lean` for the same graph and classes: the search with all its pruning only ever visits nodes of that tree — the
colouring after `splitBin` on the first non-singleton bin is `IR.individualise` on the target cell (`splitBin_match`,
`target_match`), the equitable refinement with its counting arrays, stable sort and work list is `IR.refine` on the
colouring whenever it does not abort with "worse" (`refine_is_IR_refine`: one iteration = one `IR.pass` with the largest
work-list entry as splitter), `deage` returns to the colouring of the parent node (`lv_deage`). The `m == 0` shortcut
returns the identity, which is a leaf of the tree of a graph without edges (`IR.edgeless_identity_leaf`). -/
theorem canonF_leaf_of_tree (fuel : Nat) (g : G) (hg : g.WF) (vc : Classes) (hvc : ClassesOK g.n vc)
    (hn : g.n ≠ 0) (r : Res) (h : canonicalIsomorphFull fuel g vc = .ok r) :
    ∃ op0 p, newOrderedPartition g.n (((nbrsOf g).toList.map List.length).sum / 2) vc = .ok (some op0) ∧
      r.perm = some p ∧ p.Perm (List.range g.n) ∧
      IR.tab g.n (fun v => p.idxOf v) ∈ IR.allLeaves (IR.ofSpec g) (irInit g op0) :=
  canonF_leaf_of_tree_all fuel g hg vc hvc hn r h

/-- without vertex classes the tree is the one of `IR.canonCert` / `IR.canonGraph` (properties C01 / C02) -/
theorem canonF_leaf_of_tree_simple (fuel : Nat) (g : G) (hg : g.WF) (hn : g.n ≠ 0) (r : Res)
    (h : canonicalIsomorphFull fuel g none = .ok r) :
    ∃ p, r.perm = some p ∧ p.Perm (List.range g.n) ∧
      IR.tab g.n (fun v => p.idxOf v) ∈ IR.allLeaves (IR.ofSpec g) (IR.init (IR.ofSpec g)) := by
  obtain ⟨op0, p, hnew, hp, hperm, hl⟩ := canonF_leaf_of_tree fuel g hg none trivial hn r h
  rw [irInit_none (Nat.pos_of_ne_zero hn) hnew] at hl
  exact ⟨p, hp, hperm, hl⟩

/-- `canonF_cert_le_IR`: the certificate of the returned leaf (`certPos` = `op.value` at the leaf = the edge codes of the
relabelled graph) is at most the canonical certificate of the IR model, the maximum over ALL leaves of the unpruned tree
(`≤` is the lexicographic order of `ints.Compare` on lists of equal length). Equality — "the pruning never loses the
maximal leaf" — is `canonF_eq_IR_canon_classes` in section (k). -/
theorem canonF_cert_le_IR (fuel : Nat) (g : G) (hg : g.WF) (vc : Classes) (hvc : ClassesOK g.n vc) (hn : g.n ≠ 0)
    (r : Res) (h : canonicalIsomorphFull fuel g vc = .ok r) :
    ∃ op0 p, newOrderedPartition g.n (((nbrsOf g).toList.map List.length).sum / 2) vc = .ok (some op0) ∧
      r.perm = some p ∧ certPos (nbrsOf g) p g.n ≤ IR.canonCertFrom (IR.ofSpec g) (irInit g op0) :=
  canonF_cert_le_full fuel g hg vc hvc hn r h

/-- the refinement of the faithful model is `IR.refine` on the colouring (`Match`: same colouring = `inCell`, same number
of cells, same work list as a set) -/
theorem refine_is_IR_refine {n : Nat} {nb : Nbrs} {cb fl : Sl Nat} {opts : Options} {op op' : OP} {sc sc' : Scratch}
    {s : IR.St} (hp : PartInv n op) (ha : AgeInv op) (hsc : ScratchOK n sc) (htl : sc.timesSeen.len = n)
    (hb : BtcInv op) (hnb : NbOK nb n) (hm : Match n op s)
    (hr : refine nb cb fl opts op sc = .ok (false, op', sc')) (rf : Nat) (hrf : 3 * n + 3 ≤ rf) :
    Match n op' (IR.refine (irG n nb) rf s) ∧ op'.binsToCheck.len = 0 :=
  refineMatch hp ha hsc htl hb hnb hm hr rf hrf

/-! ## (g) soundness of the three kinds of pruning (ingredients of "the pruning never loses the maximal leaf")

`IR.CertBelow g rf s x`: `x` is the certificate of a leaf of the unpruned tree below the node `s`.
These are the mathematical cores, stated for the set of leaf certificates below a node. The main proof (sections (i), (k))
uses the same two arguments for whatever property of subtrees it carries (`Heritable`, `CanonFHeritable.lean`; "every leaf
below is `≤ currentBest`" is the instance `complete_heritable`): `certBelow_child_autL_iff` (a colour-preserving automorphism maps the
subtree of the child `v` onto that of the child `γ v`), from which `equal_leaves_prune_sound`, `firstleaf_orbit_prune_sound`
and `backjump_prune_sound` below follow as well, and `worse_complete` through `WorseCut` (`CanonFCovWorse.lean`) for the first
kind. The depth-first bookkeeping that combines them (which children of which node have been visited when) is section (k). -/

/-- first kind, partial-certificate pruning: when `expandValue` reports "worse" with the certificate `value` of the singleton
prefix `0..s-1` of the order `o`, every complete order `o'` that agrees with `o` on the positions `< s` (every leaf below
the node) has a full certificate smaller than `currentBest`. -/
theorem prune_worse_sound {nb : Nbrs} {o o' : List Nat} {s n : Nat} {value cb fl : Sl Nat}
    (hval : value.toList = certPos nb o s) (hvw : value.WF) (hs : s ≤ n) (hso : s ≤ o.length) (hso' : s ≤ o'.length)
    (hagree : ∀ p, p < s → o'[p]? = o[p]?) (hcb : cb.WF) (hlen : (certPos nb o' n).length = cb.len)
    (h : worseTest value cb fl = .ok true) : CanonF.compare (certPos nb o' n) cb.toList = -1 :=
  worseTest_sound hval hvw hs hso hso' hagree hcb hlen h

/-- `partial_cert_prune_sound` — the first kind at tree level: if `worseTest` holds for the certificate of the singleton prefix of a
partition `op` (a state in which `splitBin` / the refinement aborts with "worse") whose colouring is coarser than, and
order-compatible with, the colouring of a node `χ` of the unpruned tree (`IR.Mono`), then EVERY leaf of the unpruned tree
below `χ` has a certificate smaller than `currentBest`. -/
theorem partial_cert_prune_sound {n : Nat} {nb : Nbrs} (rf : Nat) (hnb : NbOK nb n) (hsz : nb.size = n) {op : OP}
    {cb fl : Sl Nat} {χ : IR.St}
    (hp : PartInv n op) (hps : PrefixSingle op) (hvw : op.value.WF)
    (hval : op.value.toList = certPos nb op.order.toList op.spl)
    (hwt : worseTest op.value cb fl = .ok true) (hcb : cb.WF) (hcbl : cb.len = ((nb.toList.map List.length).sum) / 2)
    (hmono : IR.Mono n (colOf n op) χ.c) (hA : IR.InvA (irG n nb) χ) (hD : IR.InvD (irG n nb) χ) :
    ∀ x, IR.CertBelow (irG n nb) rf χ x → CanonF.compare x cb.toList = -1 :=
  worse_complete rf hnb hsz hp hps hvw hval hwt hcb hcbl hmono hA hD

/-- second and third kind, orbit pruning (Heuristic 2) and back-jumping (Heuristic 1): two leaves below a node `s` of the unpruned tree
with the same certificate give the automorphism `γ` = "vertex at position `p` of the first leaf ↦ vertex at position `p`
of the second" (this is the generator the code records); `γ` preserves the colouring of `s`, and for every child `v` of
`s` the subtree of the child `γ v` has exactly the leaf certificates of the subtree of the child `v`. So a child whose
orbit-mate has been explored, and the siblings abandoned by a back-jump, contain no certificate that has not been seen. -/
theorem equal_leaves_prune_sound {n : Nat} {nb : Nbrs} (hnb : NbOK nb n) (rf : Nat) {s : IR.St} {o1 o2 : List Nat}
    (h1 : o1.Perm (List.range n)) (h2 : o2.Perm (List.range n))
    (hm1 : IR.Mono n s.c (IR.tab n (fun v => o1.idxOf v))) (hm2 : IR.Mono n s.c (IR.tab n (fun v => o2.idxOf v)))
    (hc : certPos nb o1 n = certPos nb o2 n) {t v : Nat} (hv : v < n) (x : List Nat) :
    IR.CertBelow (irG n nb) rf (IR.childSt (irG n nb) rf s t ((transport n o1 o2).getD v 0)) x ↔
      IR.CertBelow (irG n nb) rf (IR.childSt (irG n nb) rf s t v) x :=
  equal_leaves_subtrees hnb rf h1 h2 hm1 hm2 hc hv x

/-- `firstleaf_orbit_prune_sound` (core): a vertex with the same representative in `firstLeafOrbits` as `w` lies in the
same cell of the node `ν` and its child subtree has exactly the leaf certificates of the child subtree of `w`, provided
the recorded generators preserve the colouring of `ν` -/
theorem firstleaf_orbit_prune_sound {n : Nat} {nb : Nbrs} (hnb : NbOK nb n) (rf : Nat) {ν : IR.St}
    {gens : Array (Sl Nat)} {ngens : Nat} {ds : Disjoint.DS}
    (hgens : ∀ k, k < ngens → ∃ γ, gens[k]? = some γ ∧ IsAutL nb n γ.toList ∧
      ∀ v, v < n → IR.col ν.c (γ.toList.getD v 0) = IR.col ν.c v)
    (horb : ∀ a b, a < n → b < n → Disjoint.rep ds a = Disjoint.rep ds b →
      Relation.EqvGen (GenRelA gens ngens) a b)
    {w ρ : Nat} (hw : w < n) (hρ : ρ < n) (hrep : Disjoint.rep ds ρ = Disjoint.rep ds w) :
    IR.col ν.c ρ = IR.col ν.c w ∧ ∀ t x, IR.CertBelow (irG n nb) rf (IR.childSt (irG n nb) rf ν t ρ) x ↔
      IR.CertBelow (irG n nb) rf (IR.childSt (irG n nb) rf ν t w) x :=
  deferred_root_sound hnb rf hgens horb hw hρ hrep

/-- `backjump_prune_sound` (Heuristic 1): two equal-certificate leaves below `ν`; `b`, `c` the vertices at the same position of
the two leaves (the children of `ν` on the two paths): the subtree of `c` has exactly the leaf certificates of that of `b` -/
theorem backjump_prune_sound {n : Nat} {nb : Nbrs} (hnb : NbOK nb n) (rf : Nat) {ν : IR.St} {o1 o2 : List Nat}
    (h1 : o1.Perm (List.range n)) (h2 : o2.Perm (List.range n))
    (hm1 : IR.Mono n ν.c (IR.tab n (fun v => o1.idxOf v))) (hm2 : IR.Mono n ν.c (IR.tab n (fun v => o2.idxOf v)))
    (hc : certPos nb o1 n = certPos nb o2 n) {t b c : Nat} (hb : b < n) (hpos : o2[o1.idxOf b]? = some c) (x : List Nat) :
    IR.CertBelow (irG n nb) rf (IR.childSt (irG n nb) rf ν t c) x ↔
      IR.CertBelow (irG n nb) rf (IR.childSt (irG n nb) rf ν t b) x :=
  backjump_sound hnb rf h1 h2 hm1 hm2 hc hb hpos x

/-- every leaf below a node refines the colouring of the node monotonically (the hypothesis `hm1`, `hm2` above) -/
theorem leaf_below_node_mono {n : Nat} {nb : Nbrs} (hnb : NbOK nb n) (rf : Nat) (vs : List Nat) (s : IR.St)
    (h : IR.IsPath (irG n nb) rf s vs) : IR.Mono n s.c (IR.nodeAt (irG n nb) rf s vs).c :=
  IR.path_mono (irG_wf hnb) vs s h

/-! ## (h) invariants of the whole loop state: what the main loop carries

`MainJ n m nb JA JN JS JM` lists, for a family of state predicates (at all times, after a `deage`, after a `splitBin`, at the
start of an iteration), the thirteen transitions of the main loop that must preserve it; `mainLoop_state_inv` and
`allocated_state_inv` say that such a family then holds at the end of the loop resp. of the call. The certificate
invariant, sorted bins and the walk through the unpruned tree are instances; the coverage layers of (i)–(m) are stacked
on them (`MainJX`). -/

/-- `mainLoop_state_inv`: the main loop carries every invariant of the whole loop state that is preserved by its thirteen
transitions (`MainJ`: `deage`, skipped `deage`, the two Heuristic-2 skips, `splitBin` worse / not worse, pop, node step with
the four leaf cases / inner node / worse, refinement worse / not worse); at the end the invariant holds with an empty stack. -/
theorem mainLoop_state_inv {n m : Nat} {nb : Nbrs} {JA JN JS : List (Nat × Nat) → LS → Prop}
    {JM : List (Nat × Nat) → Bool → LS → Prop} (hJ : MainJ n m nb JA JN JS JM)
    (fuel : Nat) (worse : Bool) (s s' : LS) (lv : List (Nat × Nat)) (hI : MInv n m nb s)
    (hw : s.count = 0 → worse = false) (hlv : LevelsOK s.op s.path s.choices lv) (hM : JM lv worse s)
    (h : mainLoop nb n m fuel worse s = .ok s') : JA [] s' :=
  (mainLoop_core stablePerm hJ fuel worse s s' lv hI hw hlv hM h).2

/-- `allocated_state_inv`: every `MainJ` invariant that holds for the initial state holds, with an empty stack, for the
state from which `CanonicalIsomorphAllocated` reads its results (general path, no viability check) -/
theorem allocated_state_inv {fuel n m : Nat} {nb : Nbrs}
    {JA JN JS : List (Nat × Nat) → LS → Prop} {JM : List (Nat × Nat) → Bool → LS → Prop} (hJ : MainJ n m nb JA JN JS JM)
    {op0 : OP} {st : Storage} {opts : Options} {r : Res} {opR : Option OP} {stR : Storage}
    (hn : n ≠ 0) (hgen : m = 0 → op0.binDividers.len ≠ 1) (hv : opts.checkViability = false)
    (hp : PartInv n op0) (ha : AgeInv op0) (hage : op0.age = 0) (hspl : op0.spl = 0)
    (hval : op0.value.len = 0)
    (hinit : ∀ s0, InitSt n m nb opts op0 s0 → JM [] false s0)
    (h : canonicalIsomorphAllocated fuel n m nb (some op0) st opts = .ok (r, opR, stR)) :
    ∃ s, JA [] s ∧ r.perm = some s.bestPerm.toList ∧ r.orbits = some s.flOrbits.toList ∧
      r.gens = some ((s.gens.toList.take s.ngens).map Sl.toList) := by
  obtain ⟨s, _, hs⟩ := allocated_core stablePerm expandValue_cert hJ hn hgen hv hp ha hage hspl hval hinit h
  exact ⟨s, hs⟩

/-- certificate, generator and `currentBest` facts as a state-level invariant of the main loop -/
theorem cert_state_inv {n m : Nat} {nb : Nbrs} (hnb : NbOK nb n)
    (hlenm : ∀ o : List Nat, o.Perm (List.range n) → (certPos nb o n).length = m) :
    MainJ n m nb (CertA n m nb) (CertN n m nb) (CertN n m nb) (CertM n m nb) :=
  certMainJ expandValue_cert hnb hlenm

/-- `value_bounded_partial` (towards `reuse_eq_fresh`): under the certificate invariant (`VAny`, which the main loop
maintains: `cert_state_inv` with `mainLoop_state_inv`) the certificate `op.value` never has more than `m` entries, so `worseTest` never
re-slices `currentBest` / `firstLeaf` beyond their length `m`.
PARTIAL with respect to `reuse_eq_fresh` itself (independence of the result of `CanonicalIsomorphAllocated` from the prior
contents of storage and partition), which is not proved: it needs a relational argument through the whole model and, at
`hasPrefix` / `h1Index` on `currentBestPath` / `firstLeafPath` (length `n`, entries beyond the leaf's depth are stale), the
tree fact that no path extends a leaf. -/
theorem value_bounded_partial {n : Nat} {nb : Nbrs} {cb fl : Sl Nat} {op : OP} (hnb : NbOK nb n) (hsz : nb.size = n)
    (hp : PartInv n op) (hv : VAny nb cb fl op) : op.value.len ≤ ((nb.toList.map List.length).sum) / 2 :=
  value_len_le hnb hsz hp hv

/-- `bins_sorted_inv`: every bin of the ordered partition stays in ascending order through `splitBin`, the refinement and
`deage` (and holds initially, `bins_sorted_init`): the positions of the target cell enumerate `IR.cellMembers` in
ascending order, so the children of a tree node are visited in descending order of the vertex. -/
theorem bins_sorted_inv (n : Nat) (nb : Nbrs) :
    OrdQ n nb BinsSorted BinsSorted BinsSorted (fun _ => True) (fun _ => True) :=
  sortedOrdQ stablePerm n nb

theorem bins_sorted_init {n m : Nat} {vc : Classes} {op : OP} (hn : 0 < n) (hc : ClassesOK n vc)
    (h : newOrderedPartition n m vc = .ok (some op)) : BinsSorted op :=
  new_binsSorted hn hc h

/-- `frame_link_inv`: the walk of the search through the unpruned tree with explicit stack frames is an invariant of the
main loop (all thirteen transitions). With `vs` the vertices individualised along the current path and `nodeL vs L` the
tree node of level `L`: every level of the partition is the colouring of `nodeL vs L` (`LevelsTree`), the stack frame of
level `L` is the target cell of `nodeL vs L` with its size, and the child being explored is the `path[L]`-th member of that
cell in ascending order (`FramesOK`; uses `bins_sorted_inv`); `WalkN` after a `deage`, `WalkS` after a `splitBin` (the
partition is the individualised child), `WalkM` at the start of an iteration, `WalkA` at all times. -/
theorem frame_link_inv {n m : Nat} {nb : Nbrs} {rf : Nat} {r : IR.St} (hnb : NbOK nb n) (hrf : 3 * n + 3 ≤ rf) :
    MainJ n m nb (WalkA n nb rf r) (WalkN n nb rf r) (WalkS n nb rf r) (WalkM n nb rf r) :=
  walkMainJ hnb hrf

/-! ## (i) the per-frame coverage invariant (`CovFrames`) through the transitions of the search

`CovFrames s vs incl path choices lv`: for every stack frame every processed child `w` of the frame's node is covered
(`CovChild`): all leaves of the unpruned tree below it have a certificate `≤ currentBest` (`Complete`), or — on the
first-leaf path — `w` is not the representative of its class in `firstLeafOrbits`. The theorems below are the
transitions; the orbit facts they need (`hE1`, `S`/`hS`/`horb`) are stated as hypotheses here — they are supplied by the
DFS-order layer `FrameAux` of section (k) (generators recorded at a node of the first- or best-leaf path fix that node),
where the leaf cases are treated too and everything is assembled into `canonF_eq_IR_canon`.
What the statements speak of: `Core n s` (`CanonFStep.lean`): `PartInv`, `AgeInv`, `ScratchOK` of the state's partition and
scratch, and `bestPerm` is a slice of length `n`, a permutation once a leaf has been found; `TopOK op k path choices lv`:
`LevelsOK` with the top frame in the middle of its `jLoop`, `choices.head = st + k`; `WalkNv vs lv s` (`CanonFWalk.lean`): after
a `deage` the partition is the tree node of the top frame, `vs` being the vertices individualised on the way; `nodeL vs L`,
`cellL vs L st`: the tree node of level `L` on the path `vs` and the members of its cell `st` in ascending order; `CertN`
(`CanonFCertJ.lean`): the certificate invariant at a node (`GInv`, `VN`, `BestOK`); `onFirstB s ps`: the test of Heuristic 2,
a leaf has been found and the frame with tail `ps` lies on the first-leaf path. -/

/-- coverage, transition "Heuristic 2 on the first-leaf path skips a child" -/
theorem frame_coverage_skip_first {n : Nat} {nb : Nbrs} {rf : Nat} {r : IR.St} (st sz : Nat) (ls : List (Nat × Nat))
    (s : LS) (c : Nat) (cs : List Nat) (p : Nat) (ps : List Nat) (ce : Nat) (x : Int) (k : Nat) (hc : Core n s)
    (ht : TopOK s.op (k + 1) s.path s.choices ((st, sz) :: ls)) (hage : s.op.age + 1 = s.path.length)
    (hch : s.choices = c :: cs) (hpth : s.path = p :: ps) (hget : s.op.order.get (c - 1) = .ok ce)
    (hon : (decide (s.count > 0) && hasPrefix s.flPath.toList ps.reverse) = true)
    (hx : s.flOrbits[ce]? = some x) (hx0 : x ≥ 0)
    {vs : List Nat} (hw : WalkNv n nb rf r vs ((st, sz) :: ls) s)
    (hcov : CovFrames n nb rf r s vs true s.path s.choices ((st, sz) :: ls)) :
    CovFrames n nb rf r { s with choices := (c - 1) :: cs, skipDeage := true } vs true (p :: ps) ((c - 1) :: cs)
      ((st, sz) :: ls) :=
  cov_skipA st sz ls s c cs p ps ce x k hc ht hage hch hpth hget hon hx hx0 hw hcov

/-- coverage, transition "Heuristic 2 on the best-leaf path skips a child" (`equal_leaves_prune_sound` at state
level): an orbit mate sits at a later position of the bin, it is complete, and the classes of `currentBestOrbits` are
generated by automorphisms (`S`) that preserve the colouring of the frame's node -/
theorem frame_coverage_skip_best {n m : Nat} {nb : Nbrs} {rf : Nat} {r : IR.St} (hnb : NbOK nb n)
    (st sz : Nat) (ls : List (Nat × Nat)) (s : LS) (c : Nat) (cs : List Nat) (p : Nat) (ps : List Nat) (ce : Nat)
    (bo : Disjoint.DS) (k : Nat) (hc : Core n s) (ht : TopOK s.op (k + 1) s.path s.choices ((st, sz) :: ls))
    (hage : s.op.age + 1 = s.path.length) (hch : s.choices = c :: cs) (hpth : s.path = p :: ps)
    (hget : s.op.order.get (c - 1) = .ok ce) (hnf : onFirstB s ps = false)
    (hh : h2Best s.op s.bestOrbits (c - 1) ce = .ok (true, bo))
    {vs : List Nat} (hw : WalkNv n nb rf r vs ((st, sz) :: ls) s)
    (hcov : CovFrames n nb rf r s vs true s.path s.choices ((st, sz) :: ls))
    (S : List Nat → Prop)
    (hS : ∀ γ, S γ → IsAutL nb n γ ∧ ∀ u, u < n →
      IR.col (nodeL n nb rf r vs vs.length).c (γ.getD u 0) = IR.col (nodeL n nb rf r vs vs.length).c u)
    (hds : Disjoint.Inv s.bestOrbits) (hdsz : s.bestOrbits.size = n)
    (horb : ∀ a b, a < n → b < n → Disjoint.rep s.bestOrbits a = Disjoint.rep s.bestOrbits b →
      Relation.EqvGen (fun x y => ∃ γ, S γ ∧ γ[x]? = some y) a b) :
    CovFrames n nb rf r { s with choices := (c - 1) :: cs, bestOrbits := bo, skipDeage := true } vs true (p :: ps)
      ((c - 1) :: cs) ((st, sz) :: ls) :=
  cov_skipB_step hnb st sz ls s c cs p ps ce bo k hc ht hage hch hpth hget hnf hh hw hcov S hS hds hdsz horb

/-- coverage, transition "`splitBin` reports worse" (partial-certificate pruning at state level) -/
theorem frame_coverage_split_worse {n m : Nat} {nb : Nbrs} {rf : Nat} {r : IR.St} (hnb : NbOK nb n) (hsz : nb.size = n)
    (hm : m = ((nb.toList.map List.length).sum) / 2) (hrf : 3 * n + 3 ≤ rf)
    (hA : IR.InvA (irG n nb) r) (hD : IR.InvD (irG n nb) r)
    (st sz : Nat) (ls : List (Nat × Nat)) (s : LS) (c : Nat) (cs : List Nat) (p : Nat) (ps : List Nat) (ce : Nat)
    (bo : Disjoint.DS) (op' : OP) (k : Nat) (hc : Core n s) (ht : TopOK s.op (k + 1) s.path s.choices ((st, sz) :: ls))
    (hage : s.op.age + 1 = s.path.length) (hch : s.choices = c :: cs) (hpth : s.path = p :: ps)
    (hget : s.op.order.get (c - 1) = .ok ce)
    (hs : splitBin nb s.currentBest s.firstLeaf s.op (c - 1) = .ok (true, op'))
    {vs : List Nat} (hw : WalkNv n nb rf r vs ((st, sz) :: ls) s) (hcert : CertN n m nb ((st, sz) :: ls) s)
    (hcov : CovFrames n nb rf r s vs true s.path s.choices ((st, sz) :: ls)) :
    CovFrames n nb rf r { s with choices := (c - 1) :: cs, bestOrbits := bo, op := op', path := k :: ps } vs true
      (k :: ps) ((c - 1) :: cs) ((st, sz) :: ls) :=
  cov_split_worse_step hnb hsz hm hrf hA hD st sz ls s c cs p ps ce bo op' k hc ht hage hch hpth hget hs hw hcert hcov

/-- coverage, transition "the refinement reports worse" -/
theorem frame_coverage_refine_worse {n m : Nat} {nb : Nbrs} {rf : Nat} {r : IR.St} (hnb : NbOK nb n)
    (hsz : nb.size = n) (hm : m = ((nb.toList.map List.length).sum) / 2) (hrf : 3 * n + 3 ≤ rf)
    (hA : IR.InvA (irG n nb) r) (hD : IR.InvD (irG n nb) r)
    (st sz : Nat) (ls : List (Nat × Nat)) (s : LS) (c : Nat) (cs : List Nat) (p : Nat) (ps : List Nat)
    (op' : OP) (sc' sc2 : Scratch) (hc : Core n s) (htl : s.sc.timesSeen.len = n)
    (hch : s.choices = c :: cs) (hpth : s.path = p :: ps) (hcp : c = st + p)
    {vs : List Nat} {t v : Nat} (hw : WalkSv n nb rf r vs t v ((st, sz) :: ls) s) (hcert : CertN n m nb ((st, sz) :: ls) s)
    (hr : refine nb s.currentBest s.firstLeaf {} s.op s.sc = .ok (true, op', sc'))
    (hcov : CovFrames n nb rf r s vs false s.path s.choices ((st, sz) :: ls)) :
    CovFrames n nb rf r { s with op := op', sc := sc2 } vs true (p :: ps) (c :: cs) ((st, sz) :: ls) :=
  cov_refine_worse_step hnb hsz hm hrf hA hD st sz ls s c cs p ps op' sc' sc2 hc htl hch hpth hcp hw hcert hr hcov

/-- coverage, transition "pop": all children of the top frame are processed ⇒ its node is complete (a deferred child is
resolved through the representative of its class: `Heritable.of_deferred`, the argument of `firstleaf_orbit_prune_sound` for
an arbitrary heritable property), and the child of the frame below that was being explored is covered -/
theorem frame_coverage_pop {n m : Nat} {nb : Nbrs} {rf : Nat} {r : IR.St} (hnb : NbOK nb n)
    (st sz : Nat) (ls : List (Nat × Nat)) (s : LS)
    (ht : TopOK s.op 0 s.path s.choices ((st, sz) :: ls))
    {vs : List Nat} (hw : WalkNv n nb rf r vs ((st, sz) :: ls) s) (hg : GInv n m nb s)
    (hcov : CovFrames n nb rf r s vs true s.path s.choices ((st, sz) :: ls))
    (hE1 : ∀ ps, s.path.drop 1 = ps → onFirstB s ps = true → ∀ k, k < s.ngens → ∀ γ, s.gens[k]? = some γ →
      ∀ u, u < n → IR.col (nodeL n nb rf r vs ps.length).c (γ.toList.getD u 0) = IR.col (nodeL n nb rf r vs ps.length).c u) :
    Complete n nb rf s.currentBest.toList (nodeL n nb rf r vs (s.path.length - 1)) ∧
    CovFrames n nb rf r { s with path := s.path.drop 1, choices := s.choices.drop 1 } vs.dropLast true
      (s.path.drop 1) (s.choices.drop 1) ls :=
  cov_pop_step hnb st sz ls s ht hw hg hcov hE1

/-- coverage, transitions that only change the partition (`deage`, refinement not worse), start of a child, new frame -/
theorem frame_coverage_simple {n : Nat} {nb : Nbrs} {rf : Nat} {r : IR.St} {s : LS} {vs : List Nat} :
    (∀ (incl : Bool) (lv : List (Nat × Nat)) (op' : OP) (sc' : Scratch) (b : Bool),
      CovFrames n nb rf r s vs incl s.path s.choices lv →
      CovFrames n nb rf r { s with op := op', sc := sc', skipDeage := b } vs incl s.path s.choices lv) ∧
    (∀ (st sz : Nat) (ls : List (Nat × Nat)) (c : Nat) (cs : List Nat) (p : Nat) (ps : List Nat) (bo : Disjoint.DS)
      (op' : OP) (k : Nat), s.choices = c :: cs → s.path = p :: ps → st < c →
      CovFrames n nb rf r s vs true s.path s.choices ((st, sz) :: ls) →
      CovFrames n nb rf r { s with choices := (c - 1) :: cs, bestOrbits := bo, op := op', path := k :: ps } vs false
        (k :: ps) ((c - 1) :: cs) ((st, sz) :: ls)) ∧
    (∀ (lv : List (Nat × Nat)) (st sz : Nat), (cellL n nb rf r vs s.path.length st).length = sz →
      CovFrames n nb rf r s vs false s.path s.choices lv →
      CovFrames n nb rf r { s with choices := (st + sz) :: s.choices, path := sz :: s.path, skipDeage := true } vs true
        (sz :: s.path) ((st + sz) :: s.choices) ((st, sz) :: lv)) :=
  ⟨fun _ _ op' sc' b h => cov_congr_op op' sc' b h,
   fun st sz ls c cs p ps bo op' k hch hpth hst h => cov_split_ok st sz ls s c cs p ps bo op' k hch hpth hst h,
   fun _ st sz hlen h => cov_push st sz hlen h⟩

/-- coverage at a leaf that is not better than `currentBest` and equal to neither the best nor the first leaf -/
theorem frame_coverage_leaf_other {n m : Nat} {nb : Nbrs} {rf : Nat} {r : IR.St} (hnb : NbOK nb n) {s s' : LS}
    {lv : List (Nat × Nat)} {vs : List Nat} (hc : Core n s) (hl : LevelsOK s.op s.path s.choices lv)
    (hw : WalkNodev n nb rf r vs lv s) (hleaf : s.op.binDividers.len = n) (hvc : VClean nb s.op) (hspl : s.op.spl = n)
    (hc1 : (CanonF.compare s.op.value.toList s.currentBest.toList == 1 || s.count + 1 == 1) = false)
    (hc0 : (CanonF.compare s.op.value.toList s.currentBest.toList == 0) = false)
    (hcf : (CanonF.compare s.op.value.toList s.firstLeaf.toList == 0) = false)
    (h : leafNode n m s = .ok s')
    (hcov : CovFrames n nb rf r s vs false s.path s.choices lv) :
    s'.path = s.path ∧ s'.choices = s.choices ∧ s'.op = s.op ∧ CovFrames n nb rf r s' vs true s.path s.choices lv :=
  cov_leaf_other hnb hc hl hw hleaf hvc hspl hc1 hc0 hcf h hcov

/-- coverage at a leaf that is better than `currentBest` (not the first leaf): every coverage fact survives the larger
`currentBest`, and the leaf itself is covered -/
theorem frame_coverage_leaf_accept {n m : Nat} {nb : Nbrs} {rf : Nat} {r : IR.St} (hnb : NbOK nb n)
    (hlenm : ∀ o : List Nat, o.Perm (List.range n) → (certPos nb o n).length = m) {s s' : LS}
    {lv : List (Nat × Nat)} {vs : List Nat} (hc : Core n s) (hl : LevelsOK s.op s.path s.choices lv)
    (hw : WalkNodev n nb rf r vs lv s) (hleaf : s.op.binDividers.len = n) (hvc : VClean nb s.op) (hspl : s.op.spl = n)
    (hb : BestOK m s) (hg : GInv n m nb s)
    (hcmp : CanonF.compare s.op.value.toList s.currentBest.toList = 1) (hcnt : 0 < s.count)
    (h : leafNode n m s = .ok s')
    (hcov : CovFrames n nb rf r s vs false s.path s.choices lv) :
    s'.path = s.path ∧ s'.choices = s.choices ∧ s'.op = s.op ∧ s'.currentBest.toList = s.op.value.toList ∧
      CovFrames n nb rf r s' vs true s.path s.choices lv :=
  cov_leaf_accept hnb hlenm hc hl hw hleaf hvc hspl hb hg hcmp hcnt h hcov

/-- `backjump_prune_sound` at state level: the child of the common ancestor on the current path is complete because the child on
the path of the (equal-certificate) reference leaf is -/
theorem backjump_child_sound {n : Nat} {nb : Nbrs} {rf : Nat} {r : IR.St} (hnb : NbOK nb n)
    (hA : IR.InvA (irG n nb) r) (hD : IR.InvD (irG n nb) r) {best : List Nat}
    {vs vsR : List Nat} {o1 o2 : List Nat} {i st b c : Nat}
    (hp1 : IR.IsPath (irG n nb) rf r vsR) (ht1 : IR.target (irG n nb) (IR.nodeAt (irG n nb) rf r vsR) = none)
    (hc1 : (IR.nodeAt (irG n nb) rf r vsR).c = IR.tab n (fun v => o1.idxOf v)) (ho1 : o1.Perm (List.range n))
    (hp2 : IR.IsPath (irG n nb) rf r vs) (ht2 : IR.target (irG n nb) (IR.nodeAt (irG n nb) rf r vs) = none)
    (hc2 : (IR.nodeAt (irG n nb) rf r vs).c = IR.tab n (fun v => o2.idxOf v)) (ho2 : o2.Perm (List.range n))
    (hcert : certPos nb o1 n = certPos nb o2 n)
    (hcommon : vsR.take i = vs.take i) (hb : vsR[i]? = some b) (hcv : vs[i]? = some c)
    (hst : IR.target (irG n nb) (nodeL n nb rf r vs i) = some st)
    (hcomp : Complete n nb rf best (IR.childSt (irG n nb) rf (nodeL n nb rf r vs i) st b)) :
    Complete n nb rf best (IR.childSt (irG n nb) rf (nodeL n nb rf r vs i) st c) :=
  backjump_child_complete hnb hA hD hp1 ht1 hc1 ho1 hp2 ht2 hc2 ho2 hcert hcommon hb hcv hst hcomp

/-- `canon_eq_of_complete` — the last step of `canonF_eq_IR_canon`: if the root of the unpruned tree is covered w.r.t. the
certificate of the returned leaf (what the DFS invariant yields when the stack is empty), the returned certificate IS the
canonical certificate of the IR model. The hypothesis `hcomp` is derived for the search in `canonF_eq_IR_canon_classes`. -/
theorem canon_eq_of_complete {g : G} (hg : g.WF) {s0 : IR.St} (hw : s0.work ≠ []) {p : List Nat}
    (hp : p.Perm (List.range g.n))
    (hleaf : IR.tab g.n (fun v => p.idxOf v) ∈ IR.allLeaves (IR.ofSpec g) s0)
    (hcomp : Complete g.n (nbrsOf g) (IR.rfuel (IR.ofSpec g)) (certPos (nbrsOf g) p g.n)
      (IR.refine (IR.ofSpec g) (IR.rfuel (IR.ofSpec g)) s0)) :
    certPos (nbrsOf g) p g.n = IR.canonCertFrom (IR.ofSpec g) s0 :=
  CanonF.canon_eq_of_complete hg hw hp hleaf hcomp

/-- `recorded_generator_fixes_ancestors`: the generator recorded when the current leaf (path `vs`, order `o2`) equals the
reference leaf (path `vsR`, order `o1`) preserves the colouring of every common ancestor `nodeL vs L` of the two leaves —
the source of the orbit hypotheses (`hE1`, `hS`) of the coverage transitions -/
theorem recorded_generator_fixes_ancestors {n : Nat} {nb : Nbrs} {rf : Nat} {r : IR.St} (hnb : NbOK nb n)
    (hA : IR.InvA (irG n nb) r) (hD : IR.InvD (irG n nb) r) {vs vsR : List Nat} {o1 o2 : List Nat} {L : Nat}
    (hp1 : IR.IsPath (irG n nb) rf r vsR) (hc1 : (IR.nodeAt (irG n nb) rf r vsR).c = IR.tab n (fun v => o1.idxOf v))
    (ho1 : o1.Perm (List.range n))
    (hp2 : IR.IsPath (irG n nb) rf r vs) (hc2 : (IR.nodeAt (irG n nb) rf r vs).c = IR.tab n (fun v => o2.idxOf v))
    (ho2 : o2.Perm (List.range n)) (hcommon : vsR.take L = vs.take L) :
    ∀ u, u < n → IR.col (nodeL n nb rf r vs L).c ((transport n o1 o2).getD u 0) = IR.col (nodeL n nb rf r vs L).c u :=
  recorded_gen_preserves hnb hA hD hp1 hc1 ho1 hp2 hc2 ho2 hcommon

/-- index paths determine nodes: two vertex paths whose first `L` steps pick the same indices (`firstLeafPath` /
`currentBestPath` against `path`) in the target cells agree on their first `L` vertices -/
theorem index_path_determines_nodes {n : Nat} {nb : Nbrs} {rf : Nat} {r : IR.St} {vs vsR P : List Nat} {L : Nat}
    (h1 : IdxPath n nb rf r vs P L) (h2 : IdxPath n nb rf r vsR P L) : vs.take L = vsR.take L :=
  same_prefix_of_idx h1 h2

/-! ## (k) completeness of the pruning: the faithful search returns the canonical certificate of the unpruned tree

The complete invariant of the depth-first search (`Lemmas/CanonFDfs.lean`): with ghost data `Gh` (the vertex path of the
current node, the order and vertex paths of the first and the best leaf, the automorphisms merged into
`currentBestOrbits`), `DN`/`DA`/`DS`/`DM` combine the walk through the unpruned tree (`frame_link_inv`), the per-frame
coverage `CovFrames`, `GlobalInv` (the stored leaves are leaves of the unpruned tree reached by `firstLeafPath` /
`currentBestPath`; `currentBestOrbits` is generated by automorphisms) and `FrameAux` (DFS order: no unprocessed child lies
on a stored path, a processed child on a stored path is complete, the recorded generators fix every ancestor on the
first-leaf path — the orbit hypotheses `hE1`, `S`/`hS`/`horb` of the `frame_coverage_*` transitions). -/

/-- `dfs_state_inv`: the complete DFS invariant is preserved by all transitions of the main loop (`deage`, the two
Heuristic-2 skips, `splitBin` worse / not worse, pop, refinement worse / not worse, inner node, and the five leaf cases:
first leaf, better leaf, leaf equal to the best leaf with back-jump, leaf equal to the first leaf with back-jump, other
leaf), on top of the certificate invariants `cert_state_inv` -/
theorem dfs_state_inv {n m : Nat} {nb : Nbrs} {rf : Nat} {r : IR.St} (hnb : NbOK nb n) (hsz : nb.size = n)
    (hm : m = ((nb.toList.map List.length).sum) / 2) (hrf : 3 * n + 3 ≤ rf)
    (hA : IR.InvA (irG n nb) r) (hD : IR.InvD (irG n nb) r)
    (hlenm : ∀ o : List Nat, o.Perm (List.range n) → (certPos nb o n).length = m) :
    MainJX n m nb (CertA n m nb) (CertN n m nb) (CertN n m nb) (CertM n m nb)
      (DA n nb rf r) (DN n nb rf r) (DS n nb rf r) (DM n nb rf r) :=
  dfsMainJX hnb hsz hm hrf hA hD hlenm

/-- `dfs_state_init`: the invariants hold when `CanonicalIsomorphAllocated` enters the main loop (`InitSt`: the state
after the initial refinement and `expandValue`), the root of the tree being the refined class colouring -/
theorem dfs_state_init {n m : Nat} {nb : Nbrs} {rf : Nat} (hnb : NbOK nb n) (hrf : 3 * n + 3 ≤ rf) {opts : Options}
    {op0 : OP} {s0 : LS} {si : IR.St} (hp : PartInv n op0) (ha : AgeInv op0) (hm0 : Match n op0 si) (hb0 : BtcInv op0)
    (hbs : BinsSorted op0) (hage0 : op0.age = 0) (hi : InitSt n m nb opts op0 s0) :
    CertM n m nb [] false s0 ∧ DM n nb rf (IR.refine (irG n nb) rf si) [] false s0 :=
  dfs_init hnb hrf hp ha hm0 hb0 hbs hage0 hi

/-- `canonF_eq_IR_canon_classes`: whenever `CanonicalIsomorphFull(g, classes)` returns (for ANY fuel), the certificate of
the returned permutation — the sorted edge codes of the relabelled graph — is the lexicographically largest leaf
certificate of the UNPRUNED search tree of `Model/IR.lean` started from the class colouring: all pruning of the Go code
(partial-certificate comparison, Heuristic 2 / orbit pruning, Heuristic 1 back-jumping, the `m == 0` shortcut) is sound
and complete. -/
theorem canonF_eq_IR_canon_classes (fuel : Nat) (g : G) (hg : g.WF) (vc : Classes) (hvc : ClassesOK g.n vc)
    (hn : g.n ≠ 0) (r : Res) (h : canonicalIsomorphFull fuel g vc = .ok r) :
    ∃ op0 p, newOrderedPartition g.n (((nbrsOf g).toList.map List.length).sum / 2) vc = .ok (some op0) ∧
      r.perm = some p ∧ p.Perm (List.range g.n) ∧
      certPos (nbrsOf g) p g.n = IR.canonCertFrom (IR.ofSpec g) (irInit g op0) :=
  canonF_complete_full fuel g hg vc hvc hn r h

/-- `canonF_eq_IR_canon`: without vertex classes the certificate of the returned permutation is `IR.canonCert`, and the
graph relabelled with the returned slice (`g.InducedSubgraph(perm)`) IS the canonical graph `IR.canonGraph` of the abstract
model of property C01 (pattern A): the faithful model and the abstract model compute the same canonical form. -/
theorem canonF_eq_IR_canon (fuel : Nat) (g : G) (hg : g.WF) (hn : g.n ≠ 0)
    (r : Res) (h : canonicalIsomorphFull fuel g none = .ok r) :
    ∃ p, r.perm = some p ∧ p.Perm (List.range g.n) ∧ certPos (nbrsOf g) p g.n = IR.canonCert (IR.ofSpec g) ∧
      IR.ofSpec (g.induced p) = IR.canonGraph (IR.ofSpec g) := by
  obtain ⟨p, hp, hperm, hc, _⟩ := canonF_eq_IR_canon_full fuel g hg hn r h
  obtain ⟨p', hp', _, hi⟩ := canonF_induced_eq_canonGraph fuel g hg hn r h
  rw [hp] at hp'
  cases hp'
  exact ⟨p, hp, hperm, hc, hi⟩

theorem induced_eq_decoded_cert (g : G) (hg : g.WF) (p : List Nat) (hp : p.Perm (List.range g.n)) :
    IR.ofSpec (g.induced p) = IR.ofCodes g.n (certPos (nbrsOf g) p g.n) :=
  ofSpec_induced_eq_ofCodes g hg p hp

/-- `canonF_canon_invariant`: the canonical form computed by the FAITHFUL model is invariant under relabelling — for a
relabelled copy `g'` of `g` the two relabelled graphs `g.InducedSubgraph(perm)`, `g'.InducedSubgraph(perm')` are EQUAL
(composition of `canonF_eq_IR_canon` with `C01.canon_invariant`). -/
theorem canonF_canon_invariant (fuel fuel' : Nat) (g g' : G) (hg : g.WF) (hg' : g'.WF) (hn : g.n ≠ 0)
    {σ τ : Nat → Nat} (R : IR.Relabel (IR.ofSpec g) (IR.ofSpec g') σ τ) (r r' : Res)
    (h : canonicalIsomorphFull fuel g none = .ok r) (h' : canonicalIsomorphFull fuel' g' none = .ok r') :
    ∃ p p', r.perm = some p ∧ r'.perm = some p' ∧ g.induced p = g'.induced p' := by
  have hn' : g'.n ≠ 0 := by
    have : g'.n = g.n := R.n_eq
    omega
  obtain ⟨p, p', hp, hp', hiff⟩ := canonF_induced_complete fuel fuel' g g' hg hg' hn hn' r r' h h'
  exact ⟨p, p', hp, hp', hiff.2 ⟨σ, τ, R⟩⟩

/-- `canonF_canon_complete`: two graphs get the same canonically relabelled graph if and only if they are isomorphic -/
theorem canonF_canon_complete (fuel fuel' : Nat) (g g' : G) (hg : g.WF) (hg' : g'.WF) (hn : g.n ≠ 0) (hn' : g'.n ≠ 0)
    (r r' : Res) (h : canonicalIsomorphFull fuel g none = .ok r) (h' : canonicalIsomorphFull fuel' g' none = .ok r') :
    ∃ p p', r.perm = some p ∧ r'.perm = some p' ∧
      (g.induced p = g'.induced p' ↔ IR.Iso (IR.ofSpec g) (IR.ofSpec g')) :=
  canonF_induced_complete fuel fuel' g g' hg hg' hn hn' r r' h h'

/-- the same for the unexported wrapper `CanonicalIsomorph` -/
theorem canonF_canon_invariant_simple (fuel fuel' : Nat) (g g' : G) (hg : g.WF) (hg' : g'.WF) (hn : g.n ≠ 0)
    {σ τ : Nat → Nat} (R : IR.Relabel (IR.ofSpec g) (IR.ofSpec g') σ τ) (q q' : Option (List Nat))
    (h : canonicalIsomorph fuel g = .ok q) (h' : canonicalIsomorph fuel' g' = .ok q') :
    ∃ p p', q = some p ∧ q' = some p' ∧ g.induced p = g'.induced p' := by
  unfold canonicalIsomorph at h h'
  cases hf : canonicalIsomorphFull fuel g none with
  | ok r =>
    cases hf' : canonicalIsomorphFull fuel' g' none with
    | ok r' =>
      rw [hf] at h; rw [hf'] at h'
      cases h; cases h'
      exact canonF_canon_invariant fuel fuel' g g' hg hg' hn R r r' hf hf'
    | panic => rw [hf'] at h'; cases h'
    | outOfFuel => rw [hf'] at h'; cases h'
  | panic => rw [hf] at h; cases h
  | outOfFuel => rw [hf] at h; cases h

/-! ## (l) orbit completeness: the returned union–find is EXACTLY the orbit partition of the automorphism group

Second coverage invariant (`Lemmas/CanonFOrbDef.lean`): `ACov lF certF R ν` — every leaf of the unpruned tree below `ν` whose
certificate is that of the first leaf is position-wise `R`-related to the first leaf (`R` = same class of
`firstLeafOrbits`) — carried through the same transitions as `Complete`, with the SAME ghost data as the DFS invariant
(`EN`/`EA`/`ES`/`EM` = D-layer ⊕ A-layer): a leaf with another certificate is covered vacuously; at a leaf equal to the
first / best leaf the orbit loop merges position-wise; the "worse" test also compares with `firstLeaf`, so a pruned
subtree has no leaf with the first certificate; Heuristic-2 skips and back-jumps transfer coverage along automorphisms
whose vertex–image pairs have all been merged. -/

/-- `orbit_state_inv`: D-layer ⊕ A-layer is preserved by all transitions of the main loop -/
theorem orbit_state_inv {n m : Nat} {nb : Nbrs} {rf : Nat} {r : IR.St} (hnb : NbOK nb n) (hsz : nb.size = n)
    (hm : m = ((nb.toList.map List.length).sum) / 2) (hrf : 3 * n + 3 ≤ rf)
    (hA : IR.InvA (irG n nb) r) (hD : IR.InvD (irG n nb) r)
    (hlenm : ∀ o : List Nat, o.Perm (List.range n) → (certPos nb o n).length = m) :
    MainJX n m nb (CertA n m nb) (CertN n m nb) (CertN n m nb) (CertM n m nb)
      (EA n nb rf r) (EN n nb rf r) (ES n nb rf r) (EM n nb rf r) :=
  orbMainJX hnb hsz hm hrf hA hD hlenm

/-- the tree-level end of the argument: if the root is covered, every automorphism that preserves the colouring of the
root relates every vertex to its image -/
theorem orbit_cover_root {n : Nat} {nb : Nbrs} {rf : Nat} {r : IR.St} (hnb : NbOK nb n) {R : Nat → Nat → Prop}
    {vsF oF : List Nat}
    (hp : IR.IsPath (irG n nb) rf r vsF) (ht : IR.target (irG n nb) (IR.nodeAt (irG n nb) rf r vsF) = none)
    (hc : (IR.nodeAt (irG n nb) rf r vsF).c = IR.tab n (fun v => oF.idxOf v)) (hoF : oF.Perm (List.range n))
    (h : ACov n nb rf (IR.tab n (fun v => oF.idxOf v)) (certPos nb oF n) R r)
    {γ : List Nat} (hγ : IsAutL nb n γ) (hcol : ∀ v, v < n → IR.col r.c (γ.getD v 0) = IR.col r.c v) :
    ∀ u, u < n → R u (γ.getD u 0) :=
  acov_root_aut hnb hp ht hc hoF h hγ hcol

/-- `canonF_orbits_complete`: whenever `CanonicalIsomorphFull(g, classes)` returns (any fuel; general search and `m == 0`
shortcut), every automorphism of `g` that maps each vertex class to itself maps every vertex into its own class of the
returned union–find `firstLeafOrbits`: the orbit partition is not finer than the true orbits. -/
theorem canonF_orbits_complete (fuel : Nat) (g : G) (hg : g.WF) (vc : Classes) (hvc : ClassesOK g.n vc) (hn : g.n ≠ 0)
    (r : Res) (h : canonicalIsomorphFull fuel g vc = .ok r) :
    ∃ op0 ds, newOrderedPartition g.n (((nbrsOf g).toList.map List.length).sum / 2) vc = .ok (some op0) ∧
      r.orbits = some ds ∧ ∀ γ, IsAutL (nbrsOf g) g.n γ →
        (∀ v, v < g.n → cellOf op0 (γ.getD v 0) = cellOf op0 v) →
        ∀ u, u < g.n → Disjoint.rep ds.toArray u = Disjoint.rep ds.toArray (γ.getD u 0) :=
  canonF_orbits_complete_all fuel g hg vc hvc hn r h

/-- `canonF_orbits_exact` (first clause of C02 for the code's model): without vertex classes two vertices have the same
representative in the returned union–find IF AND ONLY IF they lie in the same orbit of `Aut(g)`
(`canonF_orbits_sound` ⊕ `canonF_orbits_complete`). -/
theorem canonF_orbits_exact (fuel : Nat) (g : G) (hg : g.WF) (hn : g.n ≠ 0)
    (r : Res) (h : canonicalIsomorphFull fuel g none = .ok r) :
    ∃ ds, r.orbits = some ds ∧ ds.length = g.n ∧ ∀ a b, a < g.n → b < g.n →
      (Disjoint.rep ds.toArray a = Disjoint.rep ds.toArray b ↔ SameOrbit g a b) :=
  canonF_orbits_exact_full fuel g hg hn r h

/-! ## (m) the returned generators generate the automorphism group

`GenBy S n γ` (`Lemmas/CanonFGenDef.lean`): the permutation `γ` of `0..n-1` (as a list) is a product of elements of `S` and
their inverses (`compL n α β` = `α ∘ β`, `invL n α`). The Go code records an automorphism found at a leaf equal to the
first / best leaf only if it merged two classes of `firstLeafOrbits`; nevertheless the recorded ones generate every
automorphism (stabiliser chain along the first-leaf path, third invariant layer `FN`/`FA`/`FS`/`FM` = D ⊕ A ⊕ G with the
same ghost data): when the frame of level `L` on the first-leaf path is popped, every automorphism fixing the first `L`
vertices of that path is generated (`AutGen`), by `stabiliser_chain_step` from level `L + 1`. -/

/-- `generator_state_inv`: D-, A- and G-layer are preserved by all transitions of the main loop -/
theorem generator_state_inv {n m : Nat} {nb : Nbrs} {rf : Nat} {r : IR.St} (hnb : NbOK nb n) (hsz : nb.size = n)
    (hm : m = ((nb.toList.map List.length).sum) / 2) (hrf : 3 * n + 3 ≤ rf)
    (hA : IR.InvA (irG n nb) r) (hD : IR.InvD (irG n nb) r)
    (hlenm : ∀ o : List Nat, o.Perm (List.range n) → (certPos nb o n).length = m) :
    MainJX n m nb (CertA n m nb) (CertN n m nb) (CertN n m nb) (CertM n m nb)
      (FA n nb rf r) (FN n nb rf r) (FS n nb rf r) (FM n nb rf r) :=
  genMainJX hnb hsz hm hrf hA hD hlenm

/-- `stabiliser_chain_step`: at a covered node `nodeL vsF L` of the first-leaf path whose colouring is preserved by all
recorded generators, generation of the stabiliser of level `L + 1` gives generation of the stabiliser of level `L` -/
theorem stabiliser_chain_step {n m : Nat} {nb : Nbrs} {rf : Nat} {r : IR.St} (hnb : NbOK nb n)
    (hA : IR.InvA (irG n nb) r) (hD : IR.InvD (irG n nb) r) {gh : Gh} {s : LS} {L : Nat}
    (hF : LeafRec n nb rf r gh.vsF gh.oF s.firstLeaf.toList s.flPermInv s.flPath.toList) (hL : L < gh.vsF.length)
    (hpos : 0 < s.count) (hg : GInv n m nb s) (hGA : GlobalA n gh s)
    (he1 : ∀ k, k < s.ngens → ∀ γ, s.gens[k]? = some γ → ∀ u, u < n →
      IR.col (nodeL n nb rf r gh.vsF L).c (γ.toList.getD u 0) = IR.col (nodeL n nb rf r gh.vsF L).c u)
    (hcov : ACov n nb rf (lFof n gh) s.firstLeaf.toList (ORel s) (nodeL n nb rf r gh.vsF L))
    (hnext : AutGen n nb r gh s (L + 1)) : AutGen n nb r gh s L :=
  autgen_step hnb hF hL hpos hg hGA he1 hcov hnext

/-- `canonF_generators_generate_classes`: whenever `CanonicalIsomorphFull(g, classes)` returns (any fuel; general search and
`m == 0` shortcut), every automorphism of `g` that maps each vertex class to itself is a product of the RETURNED
generators and their inverses. -/
theorem canonF_generators_generate_classes (fuel : Nat) (g : G) (hg : g.WF) (vc : Classes) (hvc : ClassesOK g.n vc)
    (hn : g.n ≠ 0) (r : Res) (h : canonicalIsomorphFull fuel g vc = .ok r) :
    ∃ op0 gs, newOrderedPartition g.n (((nbrsOf g).toList.map List.length).sum / 2) vc = .ok (some op0) ∧
      r.gens = some gs ∧ ∀ γ, IsAutL (nbrsOf g) g.n γ →
        (∀ v, v < g.n → cellOf op0 (γ.getD v 0) = cellOf op0 v) → GenBy (fun x => x ∈ gs) g.n γ :=
  canonF_generators_generate_all fuel g hg vc hvc hn r h

/-- `canonF_generators_generate` (second clause of C02 for the code's model): without vertex classes every automorphism of
`g` is a product of the returned generators and their inverses; with `canonF_generators_sound` the returned generators
generate exactly `Aut(g)`. -/
theorem canonF_generators_generate (fuel : Nat) (g : G) (hg : g.WF) (hn : g.n ≠ 0)
    (r : Res) (h : canonicalIsomorphFull fuel g none = .ok r) :
    ∃ gs, r.gens = some gs ∧ ∀ γ, IsAutG g γ → GenBy (fun x => x ∈ gs) g.n γ :=
  canonF_generators_generate_full fuel g hg hn r h

/-- conversely everything generated by automorphisms is an automorphism (closure of `IsAutL` under `compL`, `invL`) -/
theorem generated_is_automorphism {S : List Nat → Prop} {nb : Nbrs} {n : Nat} (hS : ∀ γ, S γ → IsAutL nb n γ)
    {γ : List Nat} (hγ : GenBy S n γ) : IsAutL nb n γ :=
  hγ.isAut hS

/-! ## (n) the canonical form in terms of the specification's isomorphism, and with vertex classes -/

/-- `canonF_canon_complete_spec` (property C01 for the code's model): the graphs relabelled with the returned slices are EQUAL
if and only if the input graphs are isomorphic (`GSearch.Iso`: a bijection of the vertices preserving adjacency). -/
theorem canonF_canon_complete_spec (fuel fuel' : Nat) (g g' : G) (hg : g.WF) (hg' : g'.WF) (hn : g.n ≠ 0) (hn' : g'.n ≠ 0)
    (r r' : Res) (h : canonicalIsomorphFull fuel g none = .ok r) (h' : canonicalIsomorphFull fuel' g' none = .ok r') :
    ∃ p p', r.perm = some p ∧ r'.perm = some p' ∧ (g.induced p = g'.induced p' ↔ GSearch.Iso g g') :=
  CanonF.canonF_canon_complete_spec fuel fuel' g g' hg hg' hn hn' r r' h h'

/-- the two notions of isomorphism agree -/
theorem iso_spec_iff {g g' : G} (hg : g.WF) (hg' : g'.WF) : IR.Iso (IR.ofSpec g) (IR.ofSpec g') ↔ GSearch.Iso g g' :=
  ofSpec_iso_iff hg hg'

/-- `canonF_canon_invariant_classes`: with vertex classes — if `g'` is a relabelled copy of `g` (`σ`) and the `k`-th class of
`g'` contains the `σ`-images of the `k`-th class of `g`, the canonical certificates agree and the relabelled graphs are
EQUAL. -/
theorem canonF_canon_invariant_classes (fuel fuel' : Nat) (g g' : G) (hg : g.WF) (hg' : g'.WF) (hn : g.n ≠ 0)
    {σ τ : Nat → Nat} (R : IR.Relabel (IR.ofSpec g) (IR.ofSpec g') σ τ) (cls cls' : List (List Nat))
    (hvc : ClassesOK g.n (some cls)) (hvc' : ClassesOK g'.n (some cls')) (hlen : cls'.length = cls.length)
    (hcls : ∀ (k : Nat) (c c' : List Nat), cls[k]? = some c → cls'[k]? = some c' → ∀ v, v ∈ c → σ v ∈ c')
    (r r' : Res) (h : canonicalIsomorphFull fuel g (some cls) = .ok r)
    (h' : canonicalIsomorphFull fuel' g' (some cls') = .ok r') :
    ∃ p p', r.perm = some p ∧ r'.perm = some p' ∧ p.Perm (List.range g.n) ∧ p'.Perm (List.range g'.n) ∧
      certPos (nbrsOf g') p' g'.n = certPos (nbrsOf g) p g.n ∧ g.induced p = g'.induced p' :=
  canonF_canon_invariant_classes_full fuel fuel' g g' hg hg' hn R cls cls' hvc hvc' hlen hcls r r' h h'

/-! ## (o) TOTALITY: the run returns — no panic, explicit fuel bound; the unconditional forms of the main results

`fuelBound n = slots n 0 + 1` with `slots n d = n * (1 + slots n (d+1))` for `d < n` (`Lemmas/CanonFTotalDef.lean`): an upper
bound for the number of `splitBin` calls (child slots) in a search tree whose nodes have at most `n` children and depth at
most `n`. No panic: every slice index is in range and every capacity of `NewStorage(n, m)` /
`NewOrderedPartition(n, m, …)` suffices (`CapInv`; in particular `generators = generators[:len+1]` stays within its
capacity `n - 1` because a generator is recorded only when it merges two classes: `ngens + #classes ≤ n`); the re-slicing of
`currentBest` / `firstLeaf` in the "worse" test is within capacity by the certificate invariant (`len(value) ≤ m`). No fuel
exhaustion: every iteration of the main loop that does not end the search decreases `mainPot` (child slots still to be
processed) by at least one. -/

/-- `mainLoop_total`: the main loop returns within `mainPot + 1` iterations, for every invariant that is carried (`MainJ`)
and provides the progress obligations `MainT` -/
theorem mainLoop_total {n m : Nat} {nb : Nbrs} {JA JN JS : List (Nat × Nat) → LS → Prop}
    {JM : List (Nat × Nat) → Bool → LS → Prop} (hJ : MainJ n m nb JA JN JS JM) (hT : MainT n m nb JA JN JS JM)
    (fuel : Nat) (worse : Bool) (s : LS) (lv : List (Nat × Nat)) (hI : MInv n m nb s) (hw : s.count = 0 → worse = false)
    (hlv : LevelsOK s.op s.path s.choices lv) (hM : JM lv worse s) (hf : mainPot n worse s < fuel) :
    ∃ s', mainLoop nb n m fuel worse s = .ok s' :=
  mainLoopT stablePerm hJ hT fuel worse s lv hI hw hlv hM hf

/-- `canonF_total`: for every well-formed graph and every valid list of vertex classes `CanonicalIsomorphFull` returns: it does
not panic and the explicit fuel `fuelBound g.n` suffices. -/
theorem canonF_total (g : G) (hg : g.WF) (vc : Classes) (hvc : ClassesOK g.n vc) :
    ∃ r, canonicalIsomorphFull (fuelBound g.n) g vc = .ok r :=
  canonF_total_full g hg vc hvc

/-- `canonF_perm_total`: … and the result is a permutation of `0..n-1` -/
theorem canonF_perm_total (g : G) (hg : g.WF) (vc : Classes) (hvc : ClassesOK g.n vc) :
    ∃ r p, canonicalIsomorphFull (fuelBound g.n) g vc = .ok r ∧ r.perm = some p ∧ p.Perm (List.range g.n) := by
  obtain ⟨r, h⟩ := canonF_total g hg vc hvc
  obtain ⟨p, hp, hperm⟩ := canonF_perm (fuelBound g.n) g vc hvc r h
  exact ⟨r, p, h, hp, hperm⟩

/-- `canonF_canon_complete_total` (C01, unconditional): the two runs return, and the relabelled graphs are equal iff the
graphs are isomorphic -/
theorem canonF_canon_complete_total (g g' : G) (hg : g.WF) (hg' : g'.WF) (hn : g.n ≠ 0) (hn' : g'.n ≠ 0) :
    ∃ r r' p p', canonicalIsomorphFull (fuelBound g.n) g none = .ok r ∧
      canonicalIsomorphFull (fuelBound g'.n) g' none = .ok r' ∧ r.perm = some p ∧ r'.perm = some p' ∧
      (g.induced p = g'.induced p' ↔ GSearch.Iso g g') := by
  obtain ⟨r, h⟩ := canonF_total g hg none trivial
  obtain ⟨r', h'⟩ := canonF_total g' hg' none trivial
  obtain ⟨p, p', hp, hp', hiff⟩ := canonF_canon_complete_spec _ _ g g' hg hg' hn hn' r r' h h'
  exact ⟨r, r', p, p', h, h', hp, hp', hiff⟩

/-- `canonF_canon_invariant_total`: a relabelled copy gets the same canonically relabelled graph -/
theorem canonF_canon_invariant_total (g g' : G) (hg : g.WF) (hg' : g'.WF) (hn : g.n ≠ 0) (hiso : GSearch.Iso g g') :
    ∃ r r' p p', canonicalIsomorphFull (fuelBound g.n) g none = .ok r ∧
      canonicalIsomorphFull (fuelBound g'.n) g' none = .ok r' ∧ r.perm = some p ∧ r'.perm = some p' ∧
      g.induced p = g'.induced p' := by
  have hn' : g'.n ≠ 0 := by rw [← hiso.1]; exact hn
  obtain ⟨r, r', p, p', h, h', hp, hp', hiff⟩ := canonF_canon_complete_total g g' hg hg' hn hn'
  exact ⟨r, r', p, p', h, h', hp, hp', hiff.2 hiso⟩

/-- `canonF_orbits_exact_total` (C02, first clause, unconditional) -/
theorem canonF_orbits_exact_total (g : G) (hg : g.WF) (hn : g.n ≠ 0) :
    ∃ r ds, canonicalIsomorphFull (fuelBound g.n) g none = .ok r ∧ r.orbits = some ds ∧ ds.length = g.n ∧
      ∀ a b, a < g.n → b < g.n → (Disjoint.rep ds.toArray a = Disjoint.rep ds.toArray b ↔ SameOrbit g a b) := by
  obtain ⟨r, h⟩ := canonF_total g hg none trivial
  obtain ⟨ds, h1, h2, h3⟩ := canonF_orbits_exact _ g hg hn r h
  exact ⟨r, ds, h, h1, h2, h3⟩

/-- `canonF_generators_generate_total` (C02, second clause, unconditional): the returned generators are automorphisms and
generate every automorphism -/
theorem canonF_generators_generate_total (g : G) (hg : g.WF) (hn : g.n ≠ 0) :
    ∃ r gs, canonicalIsomorphFull (fuelBound g.n) g none = .ok r ∧ r.gens = some gs ∧
      (∀ γ ∈ gs, IsAutG g γ) ∧ ∀ γ, IsAutG g γ → GenBy (fun x => x ∈ gs) g.n γ := by
  obtain ⟨r, h⟩ := canonF_total g hg none trivial
  obtain ⟨gs, h1, h2⟩ := canonF_generators_generate _ g hg hn r h
  exact ⟨r, gs, h, h1, canonF_generators_sound _ g hg none trivial r h gs h1, h2⟩

/-! ## (p) storage reuse (third clause of C02), semantic form

`CanonicalIsomorphAllocated` called with a partition that has been `Reset` (arbitrary previous contents, sufficient capacity)
and ANY storage of sufficient capacity (`StorageOK n m st`: arbitrary previous contents): the call returns, and its result
describes the same canonical graph as the fresh call, the exact orbit partition and generators of the whole (class-
preserving) automorphism group. What is NOT proved is that the returned slices are identical to those of the fresh call
(`reuse_eq_fresh` proper: a relational proof through the whole model; decided by the `histf` correspondence stream). -/

/-- `reuse_semantic`: take ANY partition value `op` and ANY storage `st` of sufficient capacity (stale contents allowed).
`Reset(op, n, m, classes)` returns, `CanonicalIsomorphAllocated` on the reset partition and `st` returns within
`fuelBound g.n`, and its result says of `g` what the result `r0` of a fresh `CanonicalIsomorphFull(g, classes)` says: the
returned slice is a permutation with the same certificate, so the relabelled graphs are EQUAL; the generators are
automorphisms; vertices with the same representative are connected by the generators; every class-preserving
automorphism keeps every vertex in its class of the union–find and is a product of the generators and their inverses. -/
theorem reuse_semantic (g : G) (hg : g.WF) (vc : Classes) (hvc : ClassesOK g.n vc) (hn : g.n ≠ 0) (op : OP)
    (c1 : g.n ≤ op.order.data.size) (c2 : g.n ≤ op.inCell.data.size) (c3 : g.n ≤ op.binDividers.data.size)
    (c4 : g.n ≤ op.binAges.data.size) (c5 : g.n ≤ op.binsToCheck.data.size)
    (c6 : ((nbrsOf g).toList.map List.length).sum / 2 ≤ op.value.data.size) (st : Storage)
    (hS : StorageOK g.n (((nbrsOf g).toList.map List.length).sum / 2) st) :
    ∃ opN opR r opR' stR r0 p p0 ds gs,
      newOrderedPartition g.n (((nbrsOf g).toList.map List.length).sum / 2) vc = .ok (some opN) ∧
      reset op g.n (((nbrsOf g).toList.map List.length).sum / 2) vc = .ok opR ∧
      canonicalIsomorphAllocated (fuelBound g.n) g.n (((nbrsOf g).toList.map List.length).sum / 2) (nbrsOf g) (some opR) st {}
        = .ok (r, opR', stR) ∧
      canonicalIsomorphFull (fuelBound g.n) g vc = .ok r0 ∧ r0.perm = some p0 ∧
      r.perm = some p ∧ r.orbits = some ds ∧ r.gens = some gs ∧ p.Perm (List.range g.n) ∧ ds.length = g.n ∧
      certPos (nbrsOf g) p g.n = certPos (nbrsOf g) p0 g.n ∧ g.induced p = g.induced p0 ∧
      (∀ γ ∈ gs, IsAutL (nbrsOf g) g.n γ) ∧
      (∀ a b, a < g.n → b < g.n → Disjoint.rep ds.toArray a = Disjoint.rep ds.toArray b →
        Relation.EqvGen (fun x y => ∃ γ ∈ gs, γ[x]? = some y) a b) ∧
      (∀ γ, IsAutL (nbrsOf g) g.n γ → (∀ v, v < g.n → cellOf opN (γ.getD v 0) = cellOf opN v) →
        (∀ u, u < g.n → Disjoint.rep ds.toArray u = Disjoint.rep ds.toArray (γ.getD u 0)) ∧
        GenBy (fun x => x ∈ gs) g.n γ) := by
  have hn0 : 0 < g.n := Nat.pos_of_ne_zero hn
  obtain ⟨opN, opR, hnew, hres, hp, ha, hage, hspl, hval, hvw, hm0, hb0, hbs, hbl, hcell, hop⟩ :=
    reset_init_facts (nbrsOf g) op hn0 hvc c1 c2 c3 c4 c5 c6
  obtain ⟨⟨r, opR', stR⟩, hal⟩ := allocated_returns g hg hn hp ha hage hspl hval hvw hm0 hb0 hbs hop hS
  obtain ⟨p, ds, gs, hR⟩ := allocated_semantic (fuelBound g.n) g hg hn hp ha hage hspl hval hm0 hb0 hbs hal
  obtain ⟨r0, h0⟩ := canonF_total_full g hg vc hvc
  obtain ⟨opN', p0, hnew', hp0, hperm0, hcert0⟩ := canonF_complete_full (fuelBound g.n) g hg vc hvc hn r0 h0
  rw [hnew] at hnew'
  cases hnew'
  have hir : irInit g opR = irInit g opN := by
    unfold irInit
    rw [hbl]
    congr 1
    funext v
    exact hcell v
  have hce : certPos (nbrsOf g) p g.n = certPos (nbrsOf g) p0 g.n := by rw [hR.cert, hcert0, hir]
  refine ⟨opN, opR, r, opR', stR, r0, p, p0, ds, gs, hnew, hres, hal, h0, hp0, hR.perm, hR.orbits, hR.gens, hR.isPerm, hR.dsLen,
    hce, ?_, hR.gensAut, hR.orbitsSound,
    fun γ hγ hc => hR.complete γ hγ (fun v hv => by rw [hcell, hcell]; exact hc v hv)⟩
  apply ofSpec_inj (induced_supp g p) (induced_supp g p0)
  rw [ofSpec_induced_eq_ofCodes g hg p hR.isPerm, ofSpec_induced_eq_ofCodes g hg p0 hperm0, hce]

/-- fresh storage has sufficient capacity -/
theorem newStorage_capacity (n m : Nat) : StorageOK n m (newStorage n m) := newStorage_ok n m

/-- `allocated_total_any_storage`: the general search returns on every storage of sufficient capacity -/
theorem allocated_total_any_storage {fuel n m : Nat} {nb : Nbrs}
    {JA JN JS : List (Nat × Nat) → LS → Prop} {JM : List (Nat × Nat) → Bool → LS → Prop} (hJ : MainJ n m nb JA JN JS JM)
    (hT : MainT n m nb JA JN JS JM) {op0 : OP} {st : Storage}
    (hn : n ≠ 0) (hgen : m = 0 → op0.binDividers.len ≠ 1)
    (hp : PartInv n op0) (ha : AgeInv op0) (hage : op0.age = 0) (hspl : op0.spl = 0) (hval : op0.value.len = 0)
    (hvw : op0.value.WF) (hb0 : BtcInv op0)
    (cBd : n ≤ op0.binDividers.data.size) (cAges : n ≤ op0.binAges.data.size) (cBtc : n ≤ op0.binsToCheck.data.size)
    (hnbs : nb.size = n) (hnbr : ∀ (u : Nat) (l : List Nat), nb[u]? = some l → ∀ v ∈ l, v < n)
    (hS : StorageOK n m st)
    (hinit : ∀ s0, InitSt n m nb {} op0 s0 → CapInv n m s0 → JM [] false s0)
    (hfuel : slots n 0 < fuel) :
    ∃ x, canonicalIsomorphAllocated fuel n m nb (some op0) st {} = .ok x :=
  allocated_total stablePerm expandValue_cert hJ hT hn hgen hp ha hage hspl hval hvw hb0 cBd cAges cBtc hnbs hnbr hS hinit
    hfuel

/-- `reuse_keeps_capacity`: a run never shrinks the backing arrays of the storage and of the partition, so a storage /
partition pair allocated for `(N, M)` stays usable (`StorageOK N M`) along every history of calls — general search -/
theorem reuse_keeps_capacity {fuel n m : Nat} {nb : Nbrs} {op0 : OP} {st : Storage} {r : Res} {opR : Option OP}
    {stR : Storage} (hn : n ≠ 0) (hgen : m = 0 → op0.binDividers.len ≠ 1) (hp : PartInv n op0) (ha : AgeInv op0)
    (hage : op0.age = 0) (h : canonicalIsomorphAllocated fuel n m nb (some op0) st {} = .ok (r, opR, stR)) (N M : Nat)
    (hS : StorageOK N M st)
    (c3 : N ≤ op0.binDividers.data.size) (c4 : N ≤ op0.binAges.data.size) (c5 : N ≤ op0.binsToCheck.data.size)
    (c1 : N ≤ op0.order.data.size) (c2 : N ≤ op0.inCell.data.size) (c6 : M ≤ op0.value.data.size) :
    StorageOK N M stR ∧ ∃ op', opR = some op' ∧ N ≤ op'.order.data.size ∧ N ≤ op'.inCell.data.size ∧
      N ≤ op'.binDividers.data.size ∧ N ≤ op'.binAges.data.size ∧ N ≤ op'.binsToCheck.data.size ∧
      M ≤ op'.value.data.size := by
  obtain ⟨s, bestRest, flRest, hz, rfl, rfl, eb, ef⟩ := allocated_sizeInv hn hgen hp ha hage h hS ⟨c1, c2, c3, c4, c5, c6⟩
  exact ⟨hz.storeBack st (by rw [eb]; exact hS.borb) (by rw [ef]; exact hS.forb), s.op, rfl, hz.op.order, hz.op.inCell,
    hz.op.bd, hz.op.ages, hz.op.btc, hz.op.value⟩

/-- … and the `m == 0` shortcut (the partition is returned untouched) -/
theorem reuse_keeps_capacity_shortcut {fuel n m : Nat} {nb : Nbrs} {op0 : OP} {st : Storage} {r : Res} {opR : Option OP}
    {stR : Storage} (hn : n ≠ 0) (hm : m = 0) (hb : op0.binDividers.len = 1)
    (h : canonicalIsomorphAllocated fuel n m nb (some op0) st {} = .ok (r, opR, stR)) (N M : Nat)
    (hS : StorageOK N M st) : StorageOK N M stR ∧ opR = some op0 := by
  obtain ⟨r', st', he, e⟩ := (allocated_short_iff hn hm hb).1 h
  obtain ⟨-, rfl, rfl⟩ := Prod.mk.inj e |>.imp_right Prod.mk.inj
  exact ⟨edgeless_keeps_caps he N M hS, rfl⟩

end C01F
