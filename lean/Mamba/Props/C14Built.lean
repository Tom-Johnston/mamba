import Mamba.Props.C14
import Mamba.Lemmas.DawgMinimal
/-!
# C14 for built automata (depends on the C12 development)

Kept apart from `Props/C14.lean` so that `./check C14` does not depend on the builder lemmas (and `./check C12` not on
the codec constants): compiled by the full `lake build` (`Mamba.lean` imports it).
-/
namespace Dawg

/-- The round trip for every automaton the builder can produce from byte strings (any history of adds): decoding its
encoding gives an isomorphic automaton that answers `Lookup` identically and re-encodes to the same bytes. -/
theorem roundtrip_built {adds : List Word} {d : Dawg} {es : List Bool} (hb : build adds = .ok (some d, es))
    (hbytes : ∀ w ∈ adds, ∀ c ∈ w, c < 256) (hcount : adds.length < 2 ^ 64) (hsize : d.heap.size < 2 ^ 64)
    (fuel : Nat) (bs : List Nat) (henc : gobEncode fuel d = .ok bs) :
    ∃ d', gobDecode bs = .ok d' ∧ Iso d d' ∧ (∀ w, lookup d' w = lookup d w) ∧ gobEncode fuel d' = .ok bs := by
  have wf : WF d := wf_of_build hb hbytes hcount hsize
  obtain ⟨d', hdec, _⟩ := gobDecode_gobEncode d wf fuel bs henc
  exact ⟨d', hdec, (gobDecode_gobEncode_wf d wf fuel bs henc d' hdec).1,
    (roundtrip_behaviour d wf fuel bs henc d' hdec).1, gobEncode_stable d wf fuel bs henc d' hdec⟩

/-- The unconditional round trip for built automata: for every automaton the builder produces from byte strings there
is a fuel bound beyond which `gobEncode` returns, the bytes decode to an isomorphic automaton with identical `Lookup`
answers, and that automaton encodes to the same bytes. -/
theorem roundtrip_built_total {adds : List Word} {d : Dawg} {es : List Bool} (hb : build adds = .ok (some d, es))
    (hbytes : ∀ w ∈ adds, ∀ c ∈ w, c < 256) (hcount : adds.length < 2 ^ 64) (hsize : d.heap.size < 2 ^ 64) :
    ∃ f0 bs d', ∀ f, f0 ≤ f →
      gobEncode f d = .ok bs ∧ gobDecode bs = .ok d' ∧ Iso d d' ∧ (∀ w, lookup d' w = lookup d w) ∧
        gobEncode f d' = .ok bs := by
  obtain ⟨f0, bs, hf0⟩ := gobEncode_built_total hb hbytes hcount hsize
  obtain ⟨d', hdec, _⟩ := roundtrip_built hb hbytes hcount hsize f0 bs (hf0 f0 (Nat.le_refl _))
  refine ⟨f0, bs, d', ?_⟩
  intro f hle
  obtain ⟨d'', hdec', hiso, hlook, hstab⟩ := roundtrip_built hb hbytes hcount hsize f bs (hf0 f hle)
  rw [hdec] at hdec'
  cases hdec'
  exact ⟨hf0 f hle, hdec, hiso, hlook, hstab⟩

end Dawg
