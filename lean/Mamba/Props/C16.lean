import Mamba.Lemmas.CombRank
/-!
# Property C16 — `comb`: binomials are exact or refuse; Rank/Unrank are inverse bijections

All statements are about the executable model `Mamba/Model/Comb.lean` that `mdrv` runs, instantiated with the
tables `Gen.Comb.*`, regenerated on every run from the `comb` package as built, through the hook `comb.VerifTables`
(`vh gen-tables`); `thr_all`, `entry_all`, `largestK_ge` (`Lemmas/CombCoeff.lean`) and `maxInt_val`
(`Lemmas/CombRank.lean`) are closed facts about those tables, re-evaluated by the kernel.  `uint64` values are naturals `< 2^64`, `int` values are integers in `[-2^63, 2^63)`.

Specification vocabulary (`Lemmas/CombRank.lean`): `rankNat c = Σ_i C(c_i, i+1)`, `Asc c` = strictly
increasing, `ColexLt` = lexicographic comparison of the reversed lists, `colexSucc` = colex successor,
`toInts` = the same list as Go `int`s, `termsFit 0 c` = every term `C(c_i, i+1)` is within the range in which
`Coeff` is required to return.
-/
namespace Comb
open Gen.Comb

/-- `CoeffUint64` never returns a wrapped or otherwise wrong value: for all 64-bit `n`, `k`, a returned value
is the binomial coefficient. -/
theorem coeffU64_exact_or_panic (n k v : Nat) (hn : n < 2^64) (_hk : k < 2^64)
    (h : coeffU64 n k = .ok v) : v = Nat.choose n k := by
  rw [coeffU64_eq] at h
  split at h
  · exact (Outcome.ok.inj h).symm
  · cases h

example : coeffU64 79 19 = .ok 883829035553043580 := by decide +kernel

/-- `CoeffUint64` returns whenever `min(k, n-k) * C(n,k)` — the largest intermediate value of the product
formula — fits a `uint64`; for `k > n` it returns `0`. -/
theorem coeffU64_returns_when_fits (n k : Nat) (h : k ≤ n → min k (n - k) * Nat.choose n k < 2^64) :
    ∃ v, coeffU64 n k = .ok v := by
  refine ⟨Nat.choose n k, ?_⟩
  rw [coeffU64_eq, if_pos]
  rcases Nat.lt_or_ge n k with hkn | hkn
  · rw [Nat.choose_eq_zero_of_lt hkn, Nat.mul_zero]; decide
  · rw [W_eq]; exact h hkn

example : (6 : Nat) ≤ 40 → min 6 (40 - 6) * Nat.choose 40 6 < 2^64 := by decide +kernel

/-- `Coeff` for non-negative `int` arguments: a returned value is the binomial coefficient, and it does return
whenever `min(k, n-k) * C(n,k)` fits an `int`.  (`Coeff` panics for `n < 0`: `coeff_neg`.) -/
theorem coeff_int (n k : Nat) (hn : n < 2^63) (hk : k < 2^63) :
    (∀ v, coeff (n : Int) (k : Int) = .ok v → v = (Nat.choose n k : Nat)) ∧
    ((k ≤ n → min k (n - k) * Nat.choose n k ≤ maxInt) → coeff (n : Int) (k : Int) = .ok (Nat.choose n k : Nat)) := by
  rw [two63n] at hn hk
  refine ⟨fun v h => (coeff_ok hn hk h).1, fun h => coeff_returns hn hk ?_⟩
  rw [maxInt_val] at h
  exact h

example : coeff 62 31 = .ok 465428353255261088 := by decide +kernel

/-- `Coeffs(n)` is Pascal's triangle, exactly or not at all.  If every entry `C(i,j)`, `i ≤ n`, `j ≤ i/2`, fits
an `int` the model returns `n+1` rows, row `i` having the `i/2+1` entries `C(i,0) … C(i,i/2)` exactly; if some
entry exceeds `maxInt` it panics.  (Never a wrapped value, never `outOfFuel`.) -/
theorem coeffs_pascal (n : Nat) :
    ((∀ i j, i ≤ n → j ≤ i / 2 → Nat.choose i j ≤ maxInt) →
      ∃ rows, coeffs (n : Int) = .ok rows ∧ rows.size = n + 1 ∧
        ∀ i, i ≤ n → ∃ row, rows[i]? = some row ∧ row.size = i / 2 + 1 ∧
          ∀ j, j ≤ i / 2 → row[j]? = some ((Nat.choose i j : Nat) : Int)) ∧
    ((∃ i j, i ≤ n ∧ j ≤ i / 2 ∧ maxInt < Nat.choose i j) → coeffs (n : Int) = .panic) := by
  rw [maxInt_val, coeffs_eq]
  constructor
  · intro hall
    rw [if_pos (Nat.lt_succ_of_le (hall n _ (le_refl _) (le_refl _)))]
    refine ⟨_, rfl, by simp [rowsSpec], fun i hi => ?_⟩
    exact ⟨rowSpec i, rowsSpec_get (Nat.lt_succ_of_le hi), by simp [rowSpec], fun j hj => rowSpec_get hj⟩
  · intro ⟨i, j, hi, _, hlt⟩
    rw [if_neg (Nat.not_lt.mpr (le_trans (Nat.succ_le_of_lt hlt) (choose_le_central hi)))]

/-- The overflow threshold of `Coeffs` on 64-bit `int`: some entry of the first `n+1` rows exceeds `maxInt`
exactly when `n ≥ 67` (`C(66,33) ≤ 2^63-1 < C(67,33)`).  With `coeffs_pascal`: `Coeffs(n)` returns the exact
triangle for `n ≤ 66` and panics for `n ≥ 67`. -/
theorem coeffs_overflow_threshold (n : Nat) :
    (∃ i j, i ≤ n ∧ j ≤ i / 2 ∧ maxInt < Nat.choose i j) ↔ 67 ≤ n := by
  rw [maxInt_val, show 67 ≤ n ↔ ¬ n ≤ 66 from Nat.not_le.symm, ← central_fits_iff, Nat.not_lt]
  exact ⟨fun ⟨i, j, hi, _, hlt⟩ => le_trans (Nat.succ_le_of_lt hlt) (choose_le_central hi),
    fun h => ⟨n, n / 2, le_refl _, le_refl _, Nat.lt_of_succ_le h⟩⟩

example : coeffs 4 = .ok #[#[1], #[1], #[1, 2], #[1, 3], #[1, 4, 6]] := by decide +kernel
example : ∃ i j, i ≤ 67 ∧ j ≤ i / 2 ∧ maxInt < Nat.choose i j := (coeffs_overflow_threshold 67).mpr (le_refl _)
example : ∀ i j, i ≤ 66 → j ≤ i / 2 → Nat.choose i j ≤ maxInt := by
  intro i j hi hj
  by_contra h
  have := (coeffs_overflow_threshold 66).mp ⟨i, j, hi, hj, by omega⟩
  omega

/-- `Coeffs(n)` for negative `n`: `make([][]int, n+1)` panics for `n < -1`; `Coeffs(-1)` is the empty triangle. -/
theorem coeffs_negative : coeffs (-1) = .ok #[] ∧ ∀ n : Int, n < -1 → coeffs n = .panic := by
  refine ⟨by decide, fun n hn => ?_⟩
  unfold coeffs
  rw [if_pos (by omega)]

/-- `Rank` is exact or panics: for any list of `int`s, a returned value is `Σ_i C(c_i, i+1)` (and then no
element is negative). -/
theorem rank_exact_or_panic (c : List Int) (r : Int) (hc : ∀ x ∈ c, x < 2^63) (hlen : c.length < 2^63)
    (h : rank c = .ok r) : (∀ x ∈ c, 0 ≤ x) ∧ r = (rankNat (c.map Int.toNat) : Nat) := by
  rw [two63] at hc
  rw [two63n] at hlen
  obtain ⟨h1, h2, _⟩ := rank_ok hc hlen h
  exact ⟨h1, h2⟩

example : rank [1, 3, 4] = .ok 8 := by decide +kernel

/-- `Rank` returns whenever every term is in the range where `Coeff` must return and the sum fits an `int`. -/
theorem rank_returns_when_fits (c : List Nat) (hc : ∀ x ∈ c, x < 2^63) (hlen : c.length < 2^63)
    (hfit : termsFit 0 c) (hsum : rankNat c < 2^63) : rank (toInts c) = .ok (rankNat c : Nat) := by
  rw [two63n] at hc hlen hsum
  have := rankLoop_returns c 0 0 hc (by rw [Nat.zero_add]; exact hlen) hfit (by rw [Nat.zero_add]; exact hsum)
  rw [Nat.zero_add] at this
  exact this

example : termsFit 0 [0, 3, 4] ∧ rankNat [0, 3, 4] < 2^63 := by
  exact ⟨⟨by decide, by decide, by decide, trivial⟩, by decide⟩

/-- `Unrank(r, k)` terminates: fuel `r + 2` for the inner loop suffices, for every `r` an `int` can hold. -/
theorem unrank_terminates (r k fuel : Nat) (hr : r < 2^63) (hk : k + 1 < 2^63) (hf : r + 2 ≤ fuel) :
    ∃ c, unrank fuel (r : Int) (k : Int) = .ok c := by
  rw [two63n] at hr hk
  exact unrank_fuel r k fuel hr hk hf

example : unrank 9 7 3 ≠ .outOfFuel ∧ unrank 2 7 3 = .outOfFuel := by decide +kernel

/-- Outside the property's domain, as coded: `Unrank(r, 0) = []` for every `r`, and a negative rank yields
`[0, 1, …, k-1]` (the inner loop is never entered). -/
theorem unrank_degenerate :
    (∀ (fuel : Nat) (r : Int), unrank fuel r 0 = .ok []) ∧
    (∀ (fuel k : Nat) (r : Int), r < 0 → -2^63 ≤ r → 1 ≤ fuel →
      unrank fuel r (k : Int) = .ok (toInts (List.range k))) := by
  refine ⟨unrank_k_zero, ?_⟩
  intro fuel k r hr hr' hf
  rw [two63] at hr'
  obtain ⟨f, rfl⟩ : ∃ f, fuel = f + 1 := ⟨fuel - 1, (Nat.sub_add_cancel hf).symm⟩
  unfold unrank
  rw [if_neg (by omega), Int.toNat_natCast, unrankLoop_neg f r hr hr']
  simp

example : unrank 1 (-4) 3 = .ok (toInts [0, 1, 2]) := by decide +kernel

/-- `Rank ∘ Unrank = id`: for `k ≥ 1` and every `r` in `[0, MaxInt]`, `Unrank(r, k)` is a strictly increasing
list of `k` naturals (that fit an `int`) whose colex rank is `r`; `Rank` of it returns `r` or panics (it does
panic when a term `C(c_i, i+1)` is outside the range of `CoeffUint64`'s product formula), and returns `r`
whenever every term fits. -/
theorem rank_unrank (r k fuel : Nat) (hr : r < 2^63) (hk1 : 1 ≤ k) (hk : k + 1 < 2^63) (hf : r + 2 ≤ fuel) :
    ∃ c : List Nat, unrank fuel (r : Int) (k : Int) = .ok (toInts c) ∧ c.length = k ∧ Asc c ∧
      (∀ x ∈ c, x < 2^63) ∧ rankNat c = r ∧
      (rank (toInts c) = .ok (r : Int) ∨ rank (toInts c) = .panic) ∧
      (termsFit 0 c → rank (toInts c) = .ok (r : Int)) := by
  rw [two63n] at hr hk
  obtain ⟨c, hc, hlen, hasc, hmx, hrk⟩ := unrank_spec r k fuel hr hk hf (Or.inl hk1)
  have hb : ∀ x ∈ c, x < 9223372036854775808 :=
    fun x hx => lt_of_le_of_lt (hmx x hx) (max_lt hr (Nat.lt_of_succ_lt hk))
  have hlen' : c.length < 9223372036854775808 := hlen ▸ Nat.lt_of_succ_lt hk
  have hret : termsFit 0 c → rank (toInts c) = .ok (r : Int) := fun hfit => by
    rw [← hrk]
    exact rank_returns_when_fits c (by rw [two63n]; exact hb) (by rw [two63n]; exact hlen') hfit
      (by rw [two63n, hrk]; exact hr)
  refine ⟨c, hc, hlen, hasc, by rw [two63n]; exact hb, hrk, ?_, hret⟩
  cases hR : rank (toInts c) with
  | ok r' =>
    left
    rw [(rank_toInts_ok hb hlen' hR).1, hrk]
  | panic => right; rfl
  | outOfFuel => exact absurd hR (rankLoop_ne_outOfFuel _ _ _)

example : unrank 9 7 3 = .ok (toInts [0, 3, 4]) ∧ rank (toInts [0, 3, 4]) = .ok 7 := by decide +kernel

/-- `Unrank ∘ Rank = id` on strictly increasing lists of naturals: whenever `Rank(c)` returns `r`,
`Unrank(r, len c)` returns `c`. -/
theorem unrank_rank (c : List Nat) (r : Int) (fuel : Nat) (hasc : Asc c) (hc : ∀ x ∈ c, x < 2^63)
    (hlen : c.length + 1 < 2^63) (h : rank (toInts c) = .ok r) (hf : r.toNat + 2 ≤ fuel) :
    unrank fuel r (c.length : Int) = .ok (toInts c) := by
  rw [two63n] at hc hlen
  obtain ⟨hr, h3⟩ := rank_toInts_ok hc (Nat.lt_of_succ_lt hlen) h
  subst hr
  rw [Int.toNat_natCast] at hf
  have hk1 : 1 ≤ c.length ∨ rankNat c = 0 := by
    cases c with
    | nil => right; rfl
    | cons a l => left; simp
  obtain ⟨c', hc', hlen', hasc', _, hrk'⟩ := unrank_spec (rankNat c) c.length fuel h3 hlen hf hk1
  have := rankNat_inj c' c hasc' hasc hlen' hrk'
  rw [hc', this]

example : Asc [0, 3, 4] ∧ rank (toInts [0, 3, 4]) = .ok 7 ∧ unrank 9 7 3 = .ok (toInts [0, 3, 4]) := by decide +kernel

/-- `Rank` is injective on strictly increasing lists of equal length. -/
theorem rank_injective (a b : List Nat) (r : Int) (ha : Asc a) (hb : Asc b) (hl : a.length = b.length)
    (hca : ∀ x ∈ a, x < 2^63) (hcb : ∀ x ∈ b, x < 2^63) (hlen : a.length < 2^63)
    (hra : rank (toInts a) = .ok r) (hrb : rank (toInts b) = .ok r) : a = b := by
  rw [two63n] at hca hcb hlen
  have h1 := (rank_toInts_ok hca hlen hra).1
  have h2 := (rank_toInts_ok hcb (hl ▸ hlen) hrb).1
  exact rankNat_inj a b ha hb hl (Int.ofNat.inj (h1.symm.trans h2))

example : Asc [1, 2, 3] ∧ rank (toInts [1, 2, 3]) = .ok 3 := by decide +kernel

/-- `Rank` is strictly monotone from colex order to `<`. -/
theorem rank_colex_mono (a b : List Nat) (ra rb : Int) (ha : Asc a) (hb : Asc b) (hl : a.length = b.length)
    (hca : ∀ x ∈ a, x < 2^63) (hcb : ∀ x ∈ b, x < 2^63) (hlen : a.length < 2^63)
    (hra : rank (toInts a) = .ok ra) (hrb : rank (toInts b) = .ok rb) (hlt : ColexLt a b) : ra < rb := by
  rw [two63n] at hca hcb hlen
  rw [(rank_toInts_ok hca hlen hra).1, (rank_toInts_ok hcb (hl ▸ hlen) hrb).1]
  exact Int.ofNat_lt.mpr (rankNat_lt_of_colexLt a b ha hb hl hlt)

example : ColexLt [1, 2, 3] [0, 1, 4] := by
  show List.Lex (· < ·) [3, 2, 1] [4, 1, 0]
  exact List.Lex.rel (by decide)

/-! ## agreement with the colex successor (the order of `CombinationsColex`) -/

/-- The colex successor has the next rank. -/
theorem rank_colexSucc (c : List Nat) (hne : c ≠ []) (hasc : Asc c) :
    Asc (colexSucc c) ∧ (colexSucc c).length = c.length ∧ rankNat (colexSucc c) = rankNat c + 1 :=
  ⟨(colexSucc_asc c hasc).1, (colexSucc_asc c hasc).2, rankNat_colexSucc c hne hasc⟩

/-- `Unrank(r+1, k)` is the colex successor of `Unrank(r, k)`: `Unrank` enumerates the `k`-subsets in the
order of the colex successor, starting from `Unrank(0,k) = [0, …, k-1]`. -/
theorem unrank_succ_colex (r k fuel : Nat) (hr : r + 1 < 2^63) (hk1 : 1 ≤ k) (hk : k + 1 < 2^63)
    (hf : r + 3 ≤ fuel) :
    ∃ c : List Nat, unrank fuel (r : Int) (k : Int) = .ok (toInts c) ∧
      unrank fuel ((r + 1 : Nat) : Int) (k : Int) = .ok (toInts (colexSucc c)) := by
  rw [two63n] at hr hk
  obtain ⟨c, hc, hlen, hasc, _, hrk⟩ :=
    unrank_spec r k fuel (Nat.lt_of_succ_lt hr) hk (Nat.le_of_succ_le hf) (Or.inl hk1)
  obtain ⟨c2, hc2, hlen2, hasc2, _, hrk2⟩ := unrank_spec (r + 1) k fuel hr hk hf (Or.inl hk1)
  have hne : c ≠ [] := fun h => by subst h; subst hlen; exact absurd hk1 (Nat.not_succ_le_zero 0)
  obtain ⟨s1, s2, s3⟩ := rank_colexSucc c hne hasc
  have := rankNat_inj c2 (colexSucc c) hasc2 s1 (hlen2.trans (s2.trans hlen).symm) (by rw [hrk2, s3, hrk])
  exact ⟨c, hc, by rw [hc2, this]⟩

example : colexSucc [1, 2, 4] = [0, 3, 4] := by decide +kernel
example : unrank 11 7 3 = .ok (toInts [0, 3, 4]) ∧ unrank 11 8 3 = .ok (toInts (colexSucc [0, 3, 4])) := by decide +kernel

end Comb
