import Mamba.Lemmas.IRIso
import Mamba.Lemmas.AutSpec
import Mamba.Lemmas.IRClasses
/-!
# C02 — orbits and generators returned with the canonical form describe exactly Aut(g)

Theorems about the executable model: `IR.autGroupFrom g s` is the list of the permutations `ℓ⁻¹ ∘ ℓ₀` (`IR.autOf`) for
the leaves `ℓ` of the unpruned tree that have the same certificate as the first leaf `ℓ₀`; the driver prints its
length as `aut=` and the orbit partition of this list as `orbits=` (protocols `aut`, `hist`).

What is proved about the list is membership in both directions (`autGroup_sound`, `autGroup_complete`); that it has no
repeated element, so that its length is the order of the group, is not proved.

The storage-reuse clause of the property (one `CanonicalStorage` / `CanonicalOrderedPartition` pair reset and reused
across graphs) has no theorem about this model, which has no storage. It is treated for the faithful model in
`Props/C01F.lean`: `C01F.reset_eq_new`, `C01F.reuse_semantic`, `C01F.reuse_keeps_capacity`,
`C01F.reuse_keeps_capacity_shortcut`; that the reused run returns slices identical to those of a fresh run is decided by
the `hist` correspondence histories only.
-/
namespace C02
open IR

/-- `aut_iff_leaf`: for any leaf `ℓ₀` of the unpruned tree (no vertex classes), a map γ of `0..n-1` into itself is an
automorphism of `g` if and only if there is a leaf `ℓ` with the same certificate as `ℓ₀` and `ℓ ∘ γ = ℓ₀`
(i.e. `γ = ℓ⁻¹ ∘ ℓ₀`). -/
theorem aut_iff_leaf {g : G} (hg : WF g) {l0 : Array Nat} (h0 : l0 ∈ allLeaves g (init g))
    {γ : Nat → Nat} (hγ : ∀ v, v < g.n → γ v < g.n) :
    (∃ τ, Relabel g g γ τ) ↔
      ∃ l, l ∈ allLeaves g (init g) ∧ cert g l = cert g l0 ∧ ∀ v, v < g.n → col l (γ v) = col l0 v := by
  constructor
  · rintro ⟨τ, R⟩
    exact leaf_of_aut R (init_rel R) h0
  · rintro ⟨l, hl, hc, h⟩
    exact aut_of_leaves hg (init_work g) h0 hl hc (fun v hv => ⟨hγ v hv, h v hv⟩)

example : ∀ l0 ∈ allLeaves exG (init exG),
    ∃ l, l ∈ allLeaves exG (init exG) ∧ cert exG l = cert exG l0 ∧ ∀ v, v < exG.n → col l (exγ v) = col l0 v :=
  fun _ h0 => (aut_iff_leaf exG_wf h0 (fun v hv => by show 2 - v < 3; omega)).1 ⟨exγ, exAut⟩

/-- the executable automorphism list is sound: each element is an automorphism (also with vertex classes) -/
theorem autGroup_sound {g : G} (hg : WF g) {s : St} (hw : s.work ≠ []) {a : Array Nat} (ha : a ∈ autGroupFrom g s) :
    ∃ τ, Relabel g g (col a) τ :=
  autGroupFrom_sound hg hw ha

example : ∀ a ∈ autGroupFrom exG (init exG), ∃ τ, Relabel exG exG (col a) τ :=
  fun _ ha => autGroup_sound exG_wf (init_work exG) ha

/-- the executable automorphism list is complete: every automorphism that respects the start colouring (every
automorphism when there are no classes, every class-preserving one when the start state is the class colouring) occurs
in it. With `autGroup_sound`: without classes the elements of the list are exactly the automorphisms of `g`, so the orbits
the driver prints are those of Aut(g). (The list is not shown to be free of repetitions, so nothing is claimed about its
length, which the driver prints as the group order.) -/
theorem autGroup_complete {g : G} (hg : WF g) {s : St} (hw : s.work ≠ []) {γ τ : Nat → Nat}
    (R : Relabel g g γ τ) (h : SRel g γ s s) :
    ∃ a, a ∈ autGroupFrom g s ∧ ∀ v, v < g.n → col a v = γ v :=
  autGroupFrom_complete hg hw R h

example : ∃ a, a ∈ autGroupFrom exG (init exG) ∧ ∀ v, v < exG.n → col a v = exγ v :=
  autGroup_complete exG_wf (init_work exG) exAut (init_rel exAut)

/-- `aut_iff_leaf` with vertex classes: for any leaf `ℓ₀` of the tree started from the class colouring, γ is a
class-preserving automorphism of `g` if and only if there is a leaf `ℓ` with the same certificate and `ℓ ∘ γ = ℓ₀`. -/
theorem aut_iff_leaf_classes {g : G} (hg : WF g) {k : Nat} (hk : 1 ≤ k) (cls : Nat → Nat) {l0 : Array Nat}
    (h0 : l0 ∈ allLeaves g (initSt g k cls)) {γ : Nat → Nat} (hγ : ∀ v, v < g.n → γ v < g.n) :
    ((∃ τ, Relabel g g γ τ) ∧ ∀ v, v < g.n → cls (γ v) = cls v) ↔
      ∃ l, l ∈ allLeaves g (initSt g k cls) ∧ cert g l = cert g l0 ∧ ∀ v, v < g.n → col l (γ v) = col l0 v := by
  have hw : (initSt g k cls).work ≠ [] := initSt_work g hk cls
  constructor
  · rintro ⟨⟨τ, R⟩, hcls⟩
    exact leaf_of_aut R (initSt_rel R k hcls) h0
  · rintro ⟨l, hl, hc, h⟩
    refine ⟨aut_of_leaves hg hw h0 hl hc (fun v hv => ⟨hγ v hv, h v hv⟩), ?_⟩
    intro v hv
    have p0 := allLeaves_perm hg hw l0 h0
    have p := allLeaves_perm hg hw l hl
    have := same_class_of_leaves p0 p (allLeaves_mono hg _ l0 h0) (allLeaves_mono hg _ l hl) hv (hγ v hv) (h v hv)
    have e1 : col (initSt g k cls).c (γ v) = cls (γ v) := col_tab _ (hγ v hv)
    have e2 : col (initSt g k cls).c v = cls v := col_tab _ hv
    rw [e1, e2] at this
    exact this

example : ∀ l0 ∈ allLeaves exG (initSt exG 2 (fun v => if v = 1 then 0 else 1)),
    ∃ l, l ∈ allLeaves exG (initSt exG 2 (fun v => if v = 1 then 0 else 1)) ∧ cert exG l = cert exG l0 ∧
      ∀ v, v < exG.n → col l (exγ v) = col l0 v :=
  fun _ h0 => (aut_iff_leaf_classes exG_wf (k := 2) (by decide) _ h0 (fun v hv => by show 2 - v < 3; omega)).1
    ⟨⟨exγ, exAut⟩, by
      intro v (hv : v < 3)
      obtain rfl | rfl | rfl : v = 0 ∨ v = 1 ∨ v = 2 := by omega
      all_goals simp [exγ]⟩

/-- the automorphisms in the executable list preserve the vertex classes (with `autGroup_sound` and
`autGroup_complete`: with classes the list is exactly the group of class-preserving automorphisms) -/
theorem autGroup_classes {g : G} (hg : WF g) {k : Nat} (hk : 1 ≤ k) (cls : Nat → Nat) {a : Array Nat}
    (ha : a ∈ autGroupFrom g (initSt g k cls)) {v : Nat} (hv : v < g.n) (hav : col a v < g.n) : cls (col a v) = cls v := by
  have := autGroupFrom_classes hg (initSt_work g hk cls) ha hv
  have e1 : col (initSt g k cls).c (col a v) = cls (col a v) := col_tab _ hav
  have e2 : col (initSt g k cls).c v = cls v := col_tab _ hv
  rw [e1, e2] at this
  exact this

example : ∀ a ∈ autGroupFrom exG (initSt exG 2 (fun v => if v = 1 then 0 else 1)), ∀ v, v < exG.n → col a v < exG.n →
    (fun v => if v = 1 then 0 else 1) (col a v) = (fun v => if v = 1 then 0 else 1 : Nat → Nat) v :=
  fun _ ha _ hv hav => autGroup_classes exG_wf (k := 2) (by decide) _ ha hv hav

/-! ### soundness of the executable checkers of `Mamba/Spec/Aut.lean`

(the driver computes `orbits=` with `AutSpec.orbitsOf`; the `autchk` stream compares the harness's oracle helpers with
`AutSpec.isAutomorphism`, `AutSpec.orbitsOf`, `AutSpec.closure`) -/

/-- `isAutomorphism_sound`: a permutation accepted by the checker is an automorphism of `g`. -/
theorem isAutomorphism_sound {g : G} (hg : WF g) {p : Array Nat} (h : AutSpec.isAutomorphism g p = true) :
    ∃ τ, Relabel g g (col p) τ :=
  AutSpec.isAutomorphism_sound hg h

example : AutSpec.isAutomorphism exG #[2, 1, 0] = true := by decide

/-- `closure_sound_partial`: every element of the computed closure is a product of generators (`AutSpec.Gen`: the identity, or
a generator composed with such a product).
Not proved (would make it `closure_complete`): when the computation ends before reaching `cap`, the list contains every
product of generators. The correspondence only uses the *number* of elements, compared with the harness's own closure. -/
theorem closure_sound_partial {n : Nat} {gens : List (Array Nat)} {cap : Nat} {q : Array Nat}
    (h : q ∈ AutSpec.closure n gens cap) : AutSpec.Gen n gens q :=
  AutSpec.closure_sound h

example : #[1, 2, 0] ∈ AutSpec.closure 3 [#[1, 2, 0]] 10 := by decide

/-- `orbits_sound`: the partition computed by `orbitsOf` (as a representative array) is exactly the orbit partition of
the group generated by the permutations: same representative → same orbit, and a vertex and its image under any of the
permutations get the same representative (so same orbit → same representative, by induction along `EqvGen`). -/
theorem orbits_sound {n : Nat} {ps : List (Array Nat)} (hlt : ∀ p ∈ ps, ∀ v, v < n → col p v < n) :
    (∀ u v, u < n → v < n → col (AutSpec.orbitsOf n ps) u = col (AutSpec.orbitsOf n ps) v → AutSpec.SameOrbit n ps u v) ∧
    (∀ p ∈ ps, ∀ v, v < n → col (AutSpec.orbitsOf n ps) v = col (AutSpec.orbitsOf n ps) (col p v)) :=
  ⟨fun _ _ hu hv h => AutSpec.orbitsOf_sound hlt hu hv h, fun _ hp _ hv => AutSpec.orbitsOf_complete hlt hp hv⟩

example : ∀ p ∈ [#[1, 0, 2]], ∀ v, v < 3 → col p v < 3 := by
  intro p hp v hv
  simp only [List.mem_singleton] at hp
  subst hp
  obtain rfl | rfl | rfl : v = 0 ∨ v = 1 ∨ v = 2 := by omega
  all_goals decide

end C02
