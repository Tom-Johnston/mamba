import Mamba.Lemmas.SearchResume
import Mamba.Lemmas.TermReach
/-!
# Property C04 — a saved search resumes with exactly the remaining graphs

Pattern F on `Mamba/Model/Search.lean` (the driver `c04seq` runs `Search.chain`, i.e. `next`, `save`, `load`).
All theorems hold for every oracle `O` (the canonical labelling), every pair of pruning functions, every `n, a, m`,
every fuel: no property of the canonical labelling is used — except in the last two theorems
(`resume_eq_remaining_total`, `reachable_exhaust_terminates`), which add termination and therefore need the oracle
contract `OracleSpec` (the statements of C01/C02).

In the functional model `save : State → Saved` cannot modify the iterator and a loaded state shares nothing with the
original ("saving does not disturb", "independent") — those two clauses are checked on the implementation by the
history oracle of `harness/c04.go`; what the model proves is that the saved fields determine the future.
-/
namespace Search

/-- The invariant `Inv` (sizes of the current graph consistent, at most `n` vertices, and while `first` is still set
the cache is empty and the graph has at most one vertex) holds in every state reachable by `Next`, `Save`, `Load`. -/
theorem reachable_inv {O : Oracle} {pre pr : DG → Bool} {s : State} (h : Reachable O pre pr s) : Inv s :=
  h.inv

/-- **Invariant on the cache field**: between two calls of `Next` the cached automorphism data is dead — `Next` started
in two states that differ only in the cache (and not at all while `first` is set, where the cache is empty anyway)
returns the same answer and states that again differ only in the cache.  No hypothesis on the oracle is needed. -/
theorem next_cache_irrelevant (O : Oracle) (pre pr : DG → Bool) (fuel : Nat) {s t : State} (h : Similar s t) :
    eraseCache (next O pre pr fuel s) = eraseCache (next O pre pr fuel t) :=
  next_similar O pre pr fuel h

/-- in particular the cache can be replaced by anything once the first call has been made -/
theorem next_cache_irrelevant_set (O : Oracle) (pre pr : DG → Bool) (fuel : Nat) (s : State) (c : Option Ans)
    (hf : s.first = false) :
    eraseCache (next O pre pr fuel { s with cache := c }) = eraseCache (next O pre pr fuel s) :=
  next_similar O pre pr fuel ⟨rfl, fun h => by simp [hf] at h⟩

example : (init 3 0 1).first = true ∧ Similar (init 3 0 1) (init 3 0 1) := ⟨rfl, rfl, fun _ => rfl⟩

/-- `Load ∘ Save` restores every field of a reachable state except the cache (which it empties), and never panics. -/
theorem load_save {s : State} (hi : Inv s) : load (save s) = .ok { s with cache := none } :=
  load_save_core hi

/-- what is saved does not depend on the cache (the seven serialised fields) -/
theorem save_pure (s : State) (c : Option Ans) : save { s with cache := c } = save s := rfl

/-- **A saved search resumes with exactly the remaining graphs**: for every reachable state `s` (every save position:
before the first `Next`, between any two, after exhaustion), `Load (Save s)` succeeds and, for every `k`, `k` further
calls of `Next` on the loaded iterator give the same answers and yield the same graphs in the same order as on the
original, and end in states that again differ only in the cache; likewise for running to exhaustion. -/
theorem resume_eq_remaining (O : Oracle) (pre pr : DG → Bool) (fuel : Nat) {s : State} (hi : Inv s) :
    ∃ s', load (save s) = .ok s' ∧ Inv s' ∧
      (∀ k, eraseOut (advance O pre pr fuel k s') = eraseOut (advance O pre pr fuel k s)) ∧
      (∀ lim, eraseOut (exhaust O pre pr fuel lim s') = eraseOut (exhaust O pre pr fuel lim s)) :=
  ⟨s.core, load_save_core hi, core_inv hi,
   fun k => advance_similar O pre pr fuel k _ _ (similar_core hi) (core_inv hi) hi,
   fun lim => exhaust_similar O pre pr fuel lim _ _ (similar_core hi) (core_inv hi) hi⟩

example : Inv (init 5 1 3) := init_inv 5 1 3

/-- the same for every state reachable by any interleaving of `Next`, `Save`, `Load` -/
theorem resume_eq_remaining_reachable (O : Oracle) (pre pr : DG → Bool) (fuel : Nat) {s : State}
    (h : Reachable O pre pr s) :
    ∃ s', load (save s) = .ok s' ∧
      (∀ k, eraseOut (advance O pre pr fuel k s') = eraseOut (advance O pre pr fuel k s)) ∧
      (∀ lim, eraseOut (exhaust O pre pr fuel lim s') = eraseOut (exhaust O pre pr fuel lim s)) := by
  obtain ⟨s', h1, _, h2, h3⟩ := resume_eq_remaining O pre pr fuel (reachable_inv h)
  exact ⟨s', h1, h2, h3⟩

/-- **Chains compose**: advance `k₁`, save, load, advance `k₂`, save, load, …, exhaust — yields exactly what the same
walk without any `Save`/`Load` yields (this `chain` is the function the driver runs on every request). -/
theorem chain_eq_walk (O : Oracle) (pre pr : DG → Bool) (fuel lim : Nat) (ks : List Nat) {s : State} (hi : Inv s) :
    chain O pre pr fuel lim ks s = walk O pre pr fuel lim ks s :=
  chain_walk O pre pr fuel lim ks s hi

/-- `Next` never changes `n`, `a`, `m` (`next_params`), and the sizes of the yielded graph are consistent
(`len(DegreeSequence) = nv`, `len(Edges) = nv(nv-1)/2`, `nv ≤ n`) in every reachable state. -/
theorem reachable_sized {O : Oracle} {pre pr : DG → Bool} {s : State} (h : Reachable O pre pr s) :
    s.g.degs.size = s.g.nv ∧ s.g.edges.size = tri s.g.nv ∧ s.g.nv ≤ s.n :=
  ⟨(reachable_inv h).sized.degs, (reachable_inv h).sized.edges, (reachable_inv h).le⟩

/-- **A saved search resumes with exactly the remaining graphs, unconditionally** (termination added): for every state
`s` reachable by any interleaving of `Next`, `Save`, `Load` from `WithPruning(n, a, m)` with `m ≥ 1`, every oracle
satisfying `OracleSpec O n` (C01/C02; the oracle built from the C01/C02 model does:
`Search.irOracle_satisfies_oracleSpec`, `Props/C03.lean`), with `fuelBound n = (2^n+5)^n + 1` fuel and call limit: `Load (Save s)` succeeds,
running the original to exhaustion returns normally, running the loaded iterator to exhaustion returns normally, both
yield the same graphs in the same order, and the final states differ only in the cache.  (`Lemmas/TermReach.lean`:
every reachable state is fresh, finished, or satisfies the termination invariant of `Lemmas/TermRun.lean` with a
potential below the bound.) -/
theorem resume_eq_remaining_total {O : Oracle} {pre pr : DG → Bool} {s : State} (h : Reachable O pre pr s)
    (hO : OracleSpec O s.n) (hm : 0 < s.m) {fuel lim : Nat} (hf : fuelBound s.n ≤ fuel) (hl : fuelBound s.n ≤ lim) :
    ∃ s' outs t t', load (save s) = .ok s' ∧ exhaust O pre pr fuel lim s = .ok (outs, t) ∧
      exhaust O pre pr fuel lim s' = .ok (outs, t') ∧ t'.core = t.core := by
  obtain ⟨s', h1, -, h3⟩ := resume_eq_remaining_reachable O pre pr fuel h
  obtain ⟨outs, t, h4⟩ := exhaust_reachable_total pre pr h hO hm hf hl
  have h5 := h3 lim
  rw [h4] at h5
  cases h6 : exhaust O pre pr fuel lim s' with
  | ok r =>
    obtain ⟨outs', t'⟩ := r
    rw [h6] at h5
    simp only [eraseOut, Outcome.ok.injEq, Prod.mk.injEq] at h5
    obtain ⟨e1, e2⟩ := h5
    subst e1
    exact ⟨s', outs', t, t', h1, h4, h6, e2⟩
  | panic => rw [h6] at h5; simp [eraseOut] at h5
  | outOfFuel => rw [h6] at h5; simp [eraseOut] at h5

example : ∃ s' outs t t', load (save (init 6 1 2)) = .ok s' ∧
    exhaust irOracle (fun g => g.ne > 7) (fun _ => false) (fuelBound 6) (fuelBound 6) (init 6 1 2) = .ok (outs, t) ∧
    exhaust irOracle (fun g => g.ne > 7) (fun _ => false) (fuelBound 6) (fuelBound 6) s' = .ok (outs, t') ∧
    t'.core = t.core :=
  resume_eq_remaining_total (Reachable.init 6 1 2) (irOracle_spec 6) (by decide) (Nat.le_refl _) (Nat.le_refl _)

/-- from every reachable state (in particular from the start) the iterator runs to its end -/
theorem reachable_exhaust_terminates {O : Oracle} {pre pr : DG → Bool} {s : State} (h : Reachable O pre pr s)
    (hO : OracleSpec O s.n) (hm : 0 < s.m) {fuel lim : Nat} (hf : fuelBound s.n ≤ fuel) (hl : fuelBound s.n ≤ lim) :
    ∃ outs t, exhaust O pre pr fuel lim s = .ok (outs, t) :=
  exhaust_reachable_total pre pr h hO hm hf hl

end Search
