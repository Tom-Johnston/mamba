import Mamba.Lemmas.CliqueColourGreedy
import Mamba.Lemmas.CliqueColourPolyTerm
import Mamba.Lemmas.CliqueColourCard
import Mamba.Lemmas.CliqueGoLoop
import Mamba.Lemmas.DegGoLoop
import Mamba.Model.DsaturGo
import Mamba.Lemmas.DsaturCounters
import Mamba.Lemmas.DsaturLoop
import Mamba.Lemmas.ChromaticIndexGo
/-!
# C09 — property theorems (clique and colouring invariants; checkers for the witnesses)

All statements are about the executable definitions of `Mamba/Spec/CliqueColour.lean` that the driver
`Mamba/Drv/C09.lean` runs, for EVERY graph `g : GraphSpec.G` (well-formed = symmetric, loop-free, supported on
`0..n-1`; the driver's graphs are `tabulate (ofEdges n es)`, well-formed by `driver_graph_wf`).
-/
namespace CliqueColour
open GraphSpec

theorem driver_graph_wf (n : Nat) (es : List (Nat × Nat)) :
    (tabulate (ofEdges n es)).WF ∧ (tabulate (ofEdges n es)).n = n ∧
      ∀ u v, (tabulate (ofEdges n es)).adj u v = (ofEdges n es).adj u v :=
  ⟨tabulate_wf (ofEdges_wf n es), rfl, tabulate_adj_wf (ofEdges_wf n es)⟩

theorem isClique_sound (g : G) (s : List Nat) : isClique g s = true ↔ IsClique g s :=
  isClique_iff g s

theorem isMaximalClique_sound (g : G) (s : List Nat) : isMaximalClique g s = true ↔ IsMaximalClique g s :=
  isMaximalClique_iff g s

theorem cliqueNumberSpec_correct (g : G) :
    (∃ s, IsClique g s ∧ s.length = cliqueNumberSpec g) ∧ ∀ s, IsClique g s → s.length ≤ cliqueNumberSpec g := by
  obtain ⟨s, _, hc, hl⟩ := cliqueNumberSpec_witness g
  exact ⟨⟨s, hc, hl⟩, fun s hs => cliqueNumberSpec_bound hs⟩

theorem independenceNumberSpec_correct (g : G) :
    (∃ s, IsIndependent g s ∧ s.length = independenceNumberSpec g) ∧
      ∀ s, IsIndependent g s → s.length ≤ independenceNumberSpec g := by
  obtain ⟨⟨s, hc, hl⟩, hb⟩ := cliqueNumberSpec_correct g.complement
  exact ⟨⟨s, (isClique_complement_iff g s).1 hc, hl⟩, fun s hs => hb s ((isClique_complement_iff g s).2 hs)⟩

theorem allMaximalCliquesSpec_correct (g : G) :
    (∀ s, s ∈ allMaximalCliquesSpec g ↔ (s.Pairwise (· < ·) ∧ IsMaximalClique g s)) ∧
    (allMaximalCliquesSpec g).Nodup ∧
    ∀ s, IsMaximalClique g s →
      ∃ t ∈ allMaximalCliquesSpec g, t.Perm s ∧ ∀ t' ∈ allMaximalCliquesSpec g, t'.Perm s → t' = t := by
  have hmem : ∀ s, s ∈ allMaximalCliquesSpec g ↔ (s.Pairwise (· < ·) ∧ IsMaximalClique g s) := by
    intro s
    simp only [allMaximalCliquesSpec, List.mem_filter, mem_subsets, isMaximalClique_iff, sublist_range_iff]
    constructor
    · rintro ⟨⟨h1, _⟩, h3⟩; exact ⟨h1, h3⟩
    · rintro ⟨h1, h3⟩; exact ⟨⟨h1, h3.1.2.1⟩, h3⟩
  refine ⟨hmem, (nodup_subsets List.nodup_range).sublist List.filter_sublist, fun s hs => ?_⟩
  have hp := canon_perm hs.1.1 hs.1.2.1
  have hsorted : (canon g.n s).Pairwise (· < ·) := (sublist_range_iff.1 (canon_sublist _ _)).1
  refine ⟨canon g.n s, (hmem _).2 ⟨hsorted, hs.of_perm hp⟩, hp, fun t' ht' hp' => ?_⟩
  exact List.strictSorted_ext ((hmem _).1 ht').1 hsorted fun _ => (hp'.trans hp.symm).mem_iff

/-- the faithful model of `graph.AllMaximalCliques` (explicit stack, pivot choice, swap-remove of `P`, `X` bookkeeping as in
graph/clique.go; fuel `2^n`); the cliques sent on the channel are compared after sorting each (`canon`) -/
theorem allMaximalCliques_model_correct {g : G} (hw : g.WF) :
    ∃ out, allMaximalCliquesGo g = .ok out ∧ (∀ c ∈ out, IsMaximalClique g c) ∧
      (out.map (canon g.n)).Perm (allMaximalCliquesSpec g) ∧ (out.map (canon g.n)).Nodup := by
  obtain ⟨out, he, hcl, hperm⟩ := allMaximalCliquesGo_spec hw
  refine ⟨out, he, fun c hc => ?_, hperm, hperm.nodup_iff.2 (nodup_allMax g)⟩
  have hin : canon g.n c ∈ allMaximalCliquesSpec g := hperm.subset (List.mem_map.2 ⟨c, hc, rfl⟩)
  exact (mem_allMax.1 hin).2.of_perm (canon_perm (hcl c hc).1 (hcl c hc).2.1).symm

/-- `graph.CliqueNumber`: the same loop, keeping the largest reported size -/
theorem cliqueNumber_model_correct {g : G} (hw : g.WF) : cliqueNumberGo g = .ok (cliqueNumberSpec g) :=
  cliqueNumberGo_spec hw

/-- `graph.IndependenceNumber`: the clique number of the complement view -/
theorem independenceNumber_model_correct {g : G} (hw : g.WF) :
    independenceNumberGo g = .ok (independenceNumberSpec g) :=
  cliqueNumberGo_spec (complement_wf g hw)

theorem isProperColouring_sound (g : G) (c : List Nat) :
    isProperColouring g c = true ↔ c.length = g.n ∧ Proper g (fun v => c.getD v 0) := by
  rw [isProperColouring_iff]
  constructor
  · rintro ⟨hl, hp⟩; exact ⟨hl, fun u v hu hv ha => hp u v (by omega) (by omega) ha⟩
  · rintro ⟨hl, hp⟩; exact ⟨hl, fun u v hu hv ha => hp u v (by omega) (by omega) ha⟩

theorem isProperColouring_colourable {g : G} {c : List Nat} {k : Nat} (h : isProperColouring g c = true)
    (hk : ∀ x ∈ c, x < k) : Colourable g k :=
  colourable_of_list ((isProperColouring_iff g c).1 h).1 hk ((isProperColouring_iff g c).1 h).2

/-- Go's `IsProperColouring`; `none` is the nil slice -/
theorem isProperColouringGo_correct {g : G} (hw : g.WF) (col : Option (List Int)) :
    isProperColouringGo g col = true ↔
      ∃ c, col = some c ∧ c.length = g.n ∧ (∀ i, i < g.n → 0 ≤ c.getD i 0) ∧
        ∀ u v, u < g.n → v < g.n → g.adj u v = true → c.getD u 0 ≠ c.getD v 0 :=
  isProperColouringGo_iff hw col

theorem colourable_complete {g : G} (hw : g.WF) (k : Nat) : colourableB g k = true ↔ Colourable g k :=
  colourableB_iff hw k

theorem chromaticNumberSpec_correct {g : G} (hw : g.WF) :
    Colourable g (chromaticNumberSpec g) ∧ (∀ k, k < chromaticNumberSpec g → ¬ Colourable g k) ∧
      chromaticNumberSpec g ≤ g.n :=
  chromaticNumberSpec_props hw

/-- `IsKColorable` specification: colourable with `k` colours iff `k ≥ χ` -/
theorem colourable_iff_ge_chromaticNumber {g : G} (hw : g.WF) (k : Nat) :
    Colourable g k ↔ chromaticNumberSpec g ≤ k := by
  obtain ⟨h1, h2, _⟩ := chromaticNumberSpec_correct hw
  constructor
  · intro h
    by_contra hlt
    exact h2 k (by omega) h
  · intro h; exact h1.mono h

theorem countColourings_spec {g : G} (hw : g.WF) (k : Nat) :
    ∃ L : List (List Nat), L.Nodup ∧
      (∀ c, c ∈ L ↔ (isProperColouring g c = true ∧ ∀ x ∈ c, x < k)) ∧ countColourings g k = L.length := by
  refine ⟨(exts k g.n []).filter (properB g), (nodup_exts _ _).sublist List.filter_sublist, fun c => ?_,
    countFrom_eq hw g.n [] (by intro u v hu; simp at hu)⟩
  rw [List.mem_filter, mem_exts, isProperColouring_iff, properB_iff]
  constructor
  · rintro ⟨⟨s, rfl, hl, hk⟩, hp⟩
    exact ⟨⟨by simpa using hl, hp⟩, by simpa using hk⟩
  · rintro ⟨⟨hl, hp⟩, hk⟩
    exact ⟨⟨c, by simp, hl, hk⟩, hp⟩

theorem countColourings_card {g : G} (hw : g.WF) (k : Nat) :
    countColourings g k =
      Fintype.card {f : Fin g.n → Fin k // ∀ u v : Fin g.n, g.adj u v = true → f u ≠ f v} :=
  countColourings_eq_card hw k

/-- the checker for Go's edge-colouring format: `b[idx{u,v}]` is the colour of the edge plus one, 0 on non-edges -/
theorem isProperEdgeColouring_sound {g : G} (hw : g.WF) {b : List Nat} {k : Nat}
    (h : isProperEdgeColouring g b k = true) :
    ProperEdge g k (fun u v => b.getD (eidx u v) 0 - 1) ∧ b.length = g.n * (g.n - 1) / 2 ∧
      ∀ u v, u < g.n → v < g.n → u ≠ v → g.adj u v = false → b.getD (eidx u v) 0 = 0 :=
  isProperEdgeColouring_sound' hw h

theorem chromaticIndexSpec_correct {g : G} (hw : g.WF) :
    EdgeColourable g (chromaticIndexSpec g) ∧ ∀ k, k < chromaticIndexSpec g → ¬ EdgeColourable g k := by
  obtain ⟨h1, h2, _⟩ := chromaticNumberSpec_correct (lineGraph_wf g)
  exact ⟨(edgeColourable_iff hw _).2 h1, fun k hk h => h2 k hk ((edgeColourable_iff hw k).1 h)⟩

theorem isProperEdgeColouring_bound {g : G} (hw : g.WF) {b : List Nat} {k : Nat}
    (h : isProperEdgeColouring g b k = true) : chromaticIndexSpec g ≤ k := by
  by_contra hlt
  exact (chromaticIndexSpec_correct hw).2 k (by omega) ⟨_, (isProperEdgeColouring_sound hw h).1⟩

theorem degeneracySpec_correct (g : G) : IsDegeneracy g (degeneracySpec g) :=
  degeneracySpec_isDegeneracy g

theorem degeneracyCert_sound {g : G} (hw : g.WF) {d : Nat} {order : List Nat}
    (h : degeneracyCert g d order = true) : IsDegeneracy g d ∧ d = degeneracySpec g :=
  ⟨degeneracyCert_isDegeneracy hw h,
    isDegeneracy_unique (degeneracyCert_isDegeneracy hw h) (degeneracySpec_isDegeneracy g)⟩

/-- the faithful model of `graph.Degeneracy` (bucket queue as coded in graph/general.go: first non-empty bin, last
vertex of the bin, swap-remove and re-append of the neighbours); its result is accepted by the verified checker -/
theorem degeneracy_model_correct {g : G} (hw : g.WF) :
    ∃ d order, degeneracyGo g = .ok (d, order) ∧ degeneracyCert g d order = true ∧
      IsDegeneracy g d ∧ d = degeneracySpec g := by
  obtain ⟨d, order, he, hc⟩ := degeneracyGo_spec hw
  exact ⟨d, order, he, hc, (degeneracyCert_sound hw hc).1, (degeneracyCert_sound hw hc).2⟩

/-- boundary cases of the DSATUR model: the graph without vertices is coloured with 0 colours whatever the bounds; for
`n > 0`, an upper bound of `-1` (`IsKColorable(g, -1)`) answers "no colouring" at once and smaller ones panic (negative
slice length), as in the Go code -/
theorem dsatur_model_boundary (g : G) (lo up : Int) :
    (g.n = 0 → dfsDsatur g lo up = .ok (0, some [])) ∧
    (g.n ≠ 0 → up + 1 = 0 → dfsDsatur g lo up = .ok (-1, none)) ∧
    (g.n ≠ 0 → up + 1 < 0 → dfsDsatur g lo up = .panic) := by
  refine ⟨fun h => by simp [dfsDsatur, h], fun h h0 => ?_, fun h h0 => ?_⟩
  · have hn : (g.n == 0) = false := by simpa using h
    simp [dfsDsatur, hn, h0]
  · have hn : (g.n == 0) = false := by simpa using h
    simp [dfsDsatur, hn, h0]

theorem dsatur_heap_perm (num : List Int) (deg : List Nat) (h : List Nat) (x : Nat) :
    (heapInit num deg h).Perm h ∧ (∀ k, k < h.length → (heapFix num deg h k).Perm h) ∧
      (heapRemove0 num deg (x :: h)).Perm h ∧ (heapPush num deg h x).Perm (x :: h) :=
  ⟨heapInit_perm num deg h, fun _ hk => heapFix_perm num deg h hk, heapRemove0_perm num deg x h,
    heapPush_perm num deg h x⟩

theorem dsatur_heap_order (num : List Int) (deg : List Nat) (h : List Nat) (x : Nat) :
    HeapOK num deg (heapInit num deg h) ∧
      (HeapOK num deg (x :: h) → HeapOK num deg (heapRemove0 num deg (x :: h))) :=
  ⟨(heapInit_spec num deg h).2, fun hok => (heapRemove0_spec num deg x h hok).2⟩

/-- started on a duplicate-free heap that satisfies the heap order, the Go loop
`for k, u := range uh.intHeap { if g.IsEdge(u, v) { seenColours[c]++ … }; heap.Fix(&uh, k) }` — which reads
`intHeap[k]` from the array that `Fix` permutes while the loop runs — increments the counter of EVERY heap entry
adjacent to `v` exactly once and of no other, keeps the heap entries and re-establishes the heap order. (This is
where the heap ORDER matters for correctness: `Fix` must never sift down during this loop.) -/
theorem dsatur_visits_all (g : G) (v c : Nat) (s : Dsat) (hnd : s.heap.Nodup) (hok : HeapOK s.num s.deg s.heap)
    (hrows : ∀ u ∈ s.heap, u < s.seen.length ∧ c < (s.seen.getD u []).length) :
    (fwdLoop g v c (s.heap.length + 1) 0 s).heap.Perm s.heap ∧
      HeapOK (fwdLoop g v c (s.heap.length + 1) 0 s).num (fwdLoop g v c (s.heap.length + 1) 0 s).deg
        (fwdLoop g v c (s.heap.length + 1) 0 s).heap ∧
      ∀ u c', seenAt (fwdLoop g v c (s.heap.length + 1) 0 s) u c' = seenAt s u c' +
        (if u ∈ s.heap ∧ g.adj u v = true ∧ c' = c then 1 else 0) := by
  obtain ⟨h1, h2, _, h4⟩ := fwdLoop_spec g v c s hnd hok hrows
  exact ⟨h1, h2, h4⟩

/-- `graph.ChromaticNumber`: `CliqueNumber` as lower bound, then the DSATUR branch and bound (fuel `(n+2)^(n+2)`) -/
theorem chromaticNumber_model_correct {g : G} (hw : g.WF) :
    ∃ c : List Int, chromaticNumberGo g = .ok ((chromaticNumberSpec g : Int), some c) ∧ c.length = g.n ∧
      (∀ v, v < g.n → 0 ≤ c.getD v 0 ∧ c.getD v 0 < (chromaticNumberSpec g : Int)) ∧
      (∀ u v, u < g.n → v < g.n → g.adj u v = true → c.getD u 0 ≠ c.getD v 0) ∧
      ∀ x : Nat, x < chromaticNumberSpec g → ∃ v, v < g.n ∧ c.getD v 0 = (x : Int) := by
  obtain ⟨c, he, h1, h2, h3, h4⟩ := chromaticNumberGo_spec hw
  exact ⟨c, he, h1, h2, h3, fun x hx => h4 x (by omega)⟩

theorem isKColorable_model_correct {g : G} (hw : g.WF) (k : Nat) :
    (chromaticNumberSpec g ≤ k → ∃ c : List Int, isKColorableGo g (k : Int) = .ok (true, some c) ∧ c.length = g.n ∧
      (∀ v, v < g.n → 0 ≤ c.getD v 0 ∧ c.getD v 0 < (k : Int)) ∧
      (∀ u v, u < g.n → v < g.n → g.adj u v = true → c.getD u 0 ≠ c.getD v 0)) ∧
    (k < chromaticNumberSpec g → isKColorableGo g (k : Int) = .ok (false, none)) := by
  obtain ⟨h1, h2⟩ := isKColorableGo_spec hw k
  refine ⟨fun hk => ?_, h2⟩
  obtain ⟨c, k', he, hbo, hk'⟩ := h1 hk
  exact ⟨c, he, hbo.1, fun v hv => ⟨(hbo.2.1 v hv).1, by have := (hbo.2.1 v hv).2; omega⟩, hbo.2.2.1⟩

/-- `graph.ChromaticIndex`: C06's proved model of `LineGraphDense` on the interface view of `g`, the DSATUR model on the
result, then the loop writing `byte(colour + 1)` at the position of every edge. Only for `χ' < 256`: the Go conversion
`byte(·)` wraps, and for `χ' ≥ 256` (e.g. the star with 256 edges) the real function returns colour 0 on an edge — a
defect of the code recorded in notes/C09.md, outside the hypothesis of this theorem. -/
theorem chromaticIndex_model_correct {g : G} (hw : g.WF) (h256 : chromaticIndexSpec g < 256) :
    ∃ b, chromaticIndexGo g = .ok ((chromaticIndexSpec g : Int), some b) ∧
      isProperEdgeColouring g b (chromaticIndexSpec g) = true ∧ usesExactly1 b (chromaticIndexSpec g) = true :=
  chromaticIndexGo_spec hw h256

theorem greedy_proper {g : G} (hw : g.WF) {order : List Nat} (hperm : order.Perm (List.range g.n)) :
    ∃ mx c, greedyColor g order = .ok (mx, c) ∧ c.length = g.n ∧
      (∀ v, v < g.n → 0 ≤ c.getD v (-1) ∧ c.getD v (-1) < g.n ∧ c.getD v (-1) ≤ mx) ∧
      (∀ u v, u < g.n → v < g.n → g.adj u v = true → c.getD u (-1) ≠ c.getD v (-1)) ∧
      ((g.n = 0 ∧ mx = -1) ∨ ∃ v, v < g.n ∧ c.getD v (-1) = mx) := by
  obtain ⟨st, he, hinv⟩ := greedyColor_spec hw hperm
  have hmem : ∀ v, v < g.n → v ∈ order := fun v hv => hperm.symm.subset (List.mem_range.2 hv)
  refine ⟨st.maxColour, st.c, he, hinv.clen, fun v hv => ?_, fun u v hu hv ha => ?_, ?_⟩
  · exact ⟨(hinv.range v (hmem v hv)).1, (hinv.range v (hmem v hv)).2, hinv.maxub v (hmem v hv)⟩
  · exact hinv.proper u (hmem u hu) v (hmem v hv) ha
  · rcases hinv.maxat with ⟨h0, hm⟩ | ⟨v, hv, hve⟩
    · left
      have := hperm.length_eq
      rw [h0] at this
      exact ⟨by simpa using this.symm, hm⟩
    · exact Or.inr ⟨v, List.mem_range.1 (hperm.subset hv), hve⟩

theorem greedy_firstfit {g : G} (hw : g.WF) {order : List Nat} (hperm : order.Perm (List.range g.n))
    {mx : Int} {c : List Int} (h : greedyColor g order = .ok (mx, c)) (pre : List Nat) (v : Nat) (post : List Nat)
    (hsplit : order = pre ++ v :: post) :
    (∀ u ∈ pre, g.adj v u = true → c.getD u (-1) ≠ c.getD v (-1)) ∧
    ∀ x : Nat, (x : Int) < c.getD v (-1) → ∃ u ∈ pre, g.adj v u = true ∧ c.getD u (-1) = x := by
  obtain ⟨st, he, hinv⟩ := greedyColor_spec hw hperm
  rw [he] at h
  have hc : st.c = c := by injection h with h; exact (Prod.mk.inj h).2
  subst hc
  have := hinv.ff pre v post hsplit
  exact ⟨this.2, this.1⟩

theorem greedy_wrong_length (g : G) {order : List Nat} (h : order.length ≠ g.n) : greedyColor g order = .panic := by
  simp [greedyColor, h]

theorem chromaticPolynomial_counts {g : G} (hw : g.WF) :
    ∃ p, chromaticPolynomial g = .ok p ∧ p.length = g.n + 1 ∧
      ∀ k : Nat, evalPoly p (k : Int) = (countColourings g k : Int) :=
  chromaticPolynomial_spec hw

/-- deletion–contraction for the number of colourings (the identity the Go loop relies on) -/
theorem countColourings_deletion_contraction {g : G} (hw : g.WF) {i j : Nat} (hadj : g.adj i j = true) (k : Nat) :
    countColourings (removeEdge g i j) k = countColourings g k + countColourings (contract g i j) k :=
  deletion_contraction hw hadj k

/-! ## non-vacuity of the hypotheses (closed instances checked by kernel evaluation; these are tests, not the
property) -/

def exTriangle : G := ofEdges 3 [(0, 1), (1, 2), (0, 2)]

-- test: `g.WF` is satisfiable (every graph the driver parses is well-formed)
example : exTriangle.WF := ofEdges_wf _ _
-- test: hypotheses of `isProperColouring_colourable`
example : isProperColouring exTriangle [0, 1, 2] = true ∧ ∀ x ∈ [0, 1, 2], x < 3 := by decide
-- test: hypothesis of `isProperEdgeColouring_sound`
example : isProperEdgeColouring exTriangle [1, 2, 3] 3 = true := by decide
-- test: hypothesis of `degeneracyCert_sound`
example : degeneracyCert exTriangle 2 [2, 1, 0] = true := by decide
-- test: hypotheses of `greedy_proper` / `greedy_firstfit`
example : [2, 0, 1].Perm (List.range exTriangle.n) := by decide
example : greedyColor exTriangle [2, 0, 1] = .ok (2, [1, 2, 0]) := by decide
-- test: hypothesis of `greedy_wrong_length`
example : [0, 1].length ≠ exTriangle.n := by decide
-- test: hypothesis of `countColourings_deletion_contraction`
example : exTriangle.adj 2 0 = true := by decide
-- test: the model of ChromaticPolynomial on the triangle: k^3 - 3k^2 + 2k
example : chromaticPolynomial exTriangle = .ok [0, 2, -3, 1] := by decide
-- test: the Bron–Kerbosch model on the triangle and on the path 0-1-2 (channel order)
example : allMaximalCliquesGo exTriangle = .ok [[0, 1, 2]] := by decide
example : allMaximalCliquesGo (ofEdges 3 [(0, 1), (1, 2)]) = .ok [[1, 0], [1, 2]] := by decide
-- test: the model of Degeneracy on the path 0-1-2
example : degeneracyGo (ofEdges 3 [(0, 1), (1, 2)]) = .ok (1, [0, 1, 2]) := by decide
-- test: the DSATUR model on the triangle and on the path (same colourings as the library)
example : chromaticNumberGo exTriangle = .ok (3, some [0, 2, 1]) := by decide
example : isKColorableGo exTriangle 2 = .ok (false, none) := by decide
-- test: hypothesis of `chromaticIndex_model_correct`, and the model on the triangle
example : chromaticIndexSpec exTriangle < 256 := by decide
example : chromaticIndexGo exTriangle = .ok (3, some [1, 3, 2]) := by decide
-- test: the specification values on the triangle
example : chromaticNumberSpec exTriangle = 3 ∧ cliqueNumberSpec exTriangle = 3 ∧ degeneracySpec exTriangle = 2 := by
  decide

end CliqueColour
