import Mamba.Props.C19
import Mamba.Gen.Footprints
/-!
# C19 — instantiation of the footprint theorem with the footprints extracted from the Go source

`Mamba/Gen/Footprints.lean` is regenerated from the source tree on every run (`verif/extract_fp`, started by
`c19_extract.sh`). This file lists the *scenarios of the property* as call patterns — which library function,
and for each parameter position whether the goroutine passes a value shared by all goroutines, a value it
owns, or a scalar — and discharges, by `decide` on the generated facts, that every pattern is admissible:
the function writes no package-level variable, has no unattributed store, starts no goroutine, stores only
through parameter positions bound to values the goroutine owns and keeps no shared argument reachable from
an owned value. `Footprint.admissible_calls_interleaving` then gives the conclusion for every number of
goroutines, every sequence of such calls, every semantics with these footprints and every schedule.

A change of the source that makes a query write through its receiver (e.g. `Lookup` calling `commonPrefix`),
introduces a package-level scratch buffer / memo table / default storage, or starts a goroutine changes the
generated facts and this file stops compiling: that is the broken obligation reported by `./check C19`.

This module is deliberately **not** imported by `Mamba.lean` (it needs the generated file).
-/
namespace C19Fp
open Footprint Gen.Footprints

/-! ### Read-only queries on shared finished values -/

/-- `shared 0` = one finished `*Dawg`; `shared 1` = a word every goroutine looks up; `own 0` = the
goroutine's searchers; `own 1` = the pattern / anagram the goroutine built its searcher from. -/
def dawgQueries : List Call := [
  ⟨dawg_Dawg_Lookup, [.shared 0, .shared 1]⟩,
  ⟨dawg_Dawg_NumberOfWords, [.shared 0]⟩,
  ⟨dawg_Dawg_Search, [.shared 0, .own 0]⟩,
  ⟨dawg_NewPatternSearcher, [.own 1, .scalar]⟩,
  ⟨dawg_NewAnagramSearcher, [.own 1, .scalar]⟩,
  ⟨dawg_Dawg_GobEncode, [.shared 0]⟩ ]

/-- `shared 0` = one graph (dense, sparse, or a complement / induced-subgraph view of one) -/
def graphObservers : List Call := [
  ⟨graph_DenseGraph_N, [.shared 0]⟩, ⟨graph_DenseGraph_M, [.shared 0]⟩,
  ⟨graph_DenseGraph_IsEdge, [.shared 0, .scalar, .scalar]⟩, ⟨graph_DenseGraph_Neighbours, [.shared 0, .scalar]⟩,
  ⟨graph_DenseGraph_Degrees, [.shared 0]⟩,
  ⟨graph_SparseGraph_N, [.shared 0]⟩, ⟨graph_SparseGraph_M, [.shared 0]⟩,
  ⟨graph_SparseGraph_IsEdge, [.shared 0, .scalar, .scalar]⟩, ⟨graph_SparseGraph_Neighbours, [.shared 0, .scalar]⟩,
  ⟨graph_SparseGraph_Degrees, [.shared 0]⟩,
  ⟨graph_complement_N, [.shared 0]⟩, ⟨graph_complement_M, [.shared 0]⟩,
  ⟨graph_complement_IsEdge, [.shared 0, .scalar, .scalar]⟩, ⟨graph_complement_Neighbours, [.shared 0, .scalar]⟩,
  ⟨graph_complement_Degrees, [.shared 0]⟩,
  ⟨graph_inducedSubgraph_N, [.shared 0]⟩, ⟨graph_inducedSubgraph_M, [.shared 0]⟩,
  ⟨graph_inducedSubgraph_IsEdge, [.shared 0, .scalar, .scalar]⟩, ⟨graph_inducedSubgraph_Neighbours, [.shared 0, .scalar]⟩,
  ⟨graph_inducedSubgraph_Degrees, [.shared 0]⟩,
  -- read-only algorithms on a shared graph (beyond the five observers; same obligation)
  ⟨graph_CanonicalIsomorph, [.shared 0]⟩, ⟨graph_CanonicalIsomorphFull, [.shared 0, .shared 1]⟩,
  ⟨graph_AllMaximalCliques, [.shared 0, .own 0]⟩, ⟨graph_CliqueNumber, [.shared 0]⟩,
  ⟨graph_Graph6Encode, [.shared 0]⟩, ⟨graph_Sparse6Encode, [.shared 0]⟩, ⟨graph_Equal, [.shared 0, .shared 1]⟩,
  ⟨graph_DenseGraph_Copy, [.shared 0]⟩, ⟨graph_SparseGraph_Copy, [.shared 0]⟩ ]

/-- `comb` reads the package-level tables only; `shared 0` = a combination every goroutine ranks -/
def combQueries : List Call := [
  ⟨comb_Coeff, [.scalar, .scalar]⟩, ⟨comb_CoeffUint64, [.scalar, .scalar]⟩, ⟨comb_Coeffs, [.scalar]⟩,
  ⟨comb_Rank, [.shared 0]⟩, ⟨comb_Unrank, [.scalar, .scalar]⟩ ]

/-- the non-mutating functions of `sortints` and `ints` on shared slices -/
def sliceQueries : List Call := [
  ⟨sortints_ContainsSingle, [.shared 0, .scalar]⟩, ⟨sortints_ContainsSorted, [.shared 0, .shared 1]⟩,
  ⟨sortints_IntersectionSize, [.shared 0, .shared 1]⟩, ⟨sortints_Union, [.shared 0, .shared 1]⟩,
  ⟨sortints_SetMinus, [.shared 0, .shared 1]⟩, ⟨sortints_Intersection, [.shared 0, .shared 1]⟩,
  ⟨sortints_XOR, [.shared 0, .shared 1]⟩, ⟨sortints_Complement, [.scalar, .shared 0]⟩,
  ⟨sortints_NewSortedInts, [.shared 0]⟩, ⟨sortints_Range, [.scalar, .scalar, .scalar]⟩,
  ⟨ints_Equal, [.shared 0, .shared 1]⟩, ⟨ints_HasPrefix, [.shared 0, .shared 1]⟩, ⟨ints_Compare, [.shared 0, .shared 1]⟩,
  ⟨ints_Max, [.shared 0]⟩, ⟨ints_Min, [.shared 0]⟩, ⟨ints_Sum, [.shared 0]⟩ ]

def sharedQueries : List Call := dawgQueries ++ graphObservers ++ combQueries ++ sliceQueries

/-! ### Operations on values each goroutine owns -/

/-- search iterators / shards: `own 0` the iterator, `own 1`, `own 2` the pruning functions, `own 3` a writer/reader -/
def searchOps : List Call := [
  ⟨graph_search_All, [.scalar, .scalar, .scalar]⟩,
  ⟨graph_search_WithPruning, [.scalar, .scalar, .scalar, .own 1, .own 2]⟩,
  ⟨graph_search_GraphIterator_Next, [.own 0]⟩, ⟨graph_search_GraphIterator_Value, [.own 0]⟩,
  ⟨graph_search_GraphIterator_Save, [.own 0, .own 3]⟩, ⟨graph_search_Load, [.own 3, .own 1, .own 2]⟩ ]

/-- canonical labelling with separate storage: `own 0` partition, `own 1` storage, `own 2` options;
the neighbour lists (`shared 0`) and vertex classes (`shared 1`) may be shared -/
def canonicalOps : List Call := [
  ⟨graph_NewStorage, [.scalar, .scalar]⟩, ⟨graph_NewOrderedPartition, [.scalar, .scalar, .shared 1]⟩,
  ⟨graph_CanonicalOrderedPartition_Reset, [.own 0, .scalar, .scalar, .shared 1]⟩,
  ⟨graph_CanonicalIsomorphAllocated, [.scalar, .scalar, .shared 0, .own 0, .own 1, .own 2]⟩ ]

/-- every iterator kind of `itertools`: `own 0` the iterator, `own 1` the slice / function it was built from -/
def iteratorOps : List Call := [
  ⟨itertools_Combinations, [.scalar, .scalar]⟩, ⟨itertools_CombinationIterator_Next, [.own 0]⟩, ⟨itertools_CombinationIterator_Value, [.own 0]⟩,
  ⟨itertools_CombinationsColex, [.scalar, .scalar]⟩, ⟨itertools_CombinationColexIterator_Next, [.own 0]⟩, ⟨itertools_CombinationColexIterator_Value, [.own 0]⟩,
  ⟨itertools_MultisetCombinations, [.own 1, .scalar]⟩, ⟨itertools_MultisetCombinationIterator_Next, [.own 0]⟩,
  ⟨itertools_MultisetCombinationIterator_Value, [.own 0]⟩, ⟨itertools_MultisetCombinationIterator_FreqValue, [.own 0]⟩,
  ⟨itertools_Partitions, [.scalar]⟩, ⟨itertools_PartitionIterator_Next, [.own 0]⟩, ⟨itertools_PartitionIterator_Value, [.own 0]⟩,
  ⟨itertools_IntegerPartitions, [.scalar]⟩, ⟨itertools_IntegerPartitionIterator_Next, [.own 0]⟩, ⟨itertools_IntegerPartitionIterator_Value, [.own 0]⟩,
  ⟨itertools_Permutations, [.scalar]⟩, ⟨itertools_PermutationIterator_Next, [.own 0]⟩, ⟨itertools_PermutationIterator_Value, [.own 0]⟩,
  ⟨itertools_LexicographicPermutations, [.scalar]⟩, ⟨itertools_LexicographicPermutationIterator_Next, [.own 0]⟩, ⟨itertools_LexicographicPermutationIterator_Value, [.own 0]⟩,
  ⟨itertools_MultisetPermutations, [.shared 0]⟩, ⟨itertools_MultisetPermutationIterator_Next, [.own 0]⟩, ⟨itertools_MultisetPermutationIterator_Value, [.own 0]⟩,
  ⟨itertools_TopologicalSorts, [.scalar, .own 1]⟩, ⟨itertools_TopologicalSortIterator_Next, [.own 0]⟩,
  ⟨itertools_TopologicalSortIterator_Value, [.own 0]⟩, ⟨itertools_TopologicalSortIterator_InverseValue, [.own 0]⟩,
  ⟨itertools_RestrictedPrefixPermutations, [.scalar, .own 1]⟩, ⟨itertools_RestrictedPrefixPermutationIterator_Next, [.own 0]⟩, ⟨itertools_RestrictedPrefixPermutationIterator_Value, [.own 0]⟩,
  ⟨itertools_PermutationsByPattern, [.scalar, .own 1]⟩, ⟨itertools_PermutationsByPatternIterator_Next, [.own 0]⟩, ⟨itertools_PermutationsByPatternIterator_Value, [.own 0]⟩,
  ⟨itertools_Product, [.shared 0]⟩, ⟨itertools_ProductIterator_Next, [.own 0]⟩, ⟨itertools_ProductIterator_Value, [.own 0]⟩,
  ⟨itertools_RestrictedPrefixProduct, [.own 1, .shared 0]⟩, ⟨itertools_RestrictedPrefixProductIterator_Next, [.own 0]⟩, ⟨itertools_RestrictedPrefixProductIterator_Value, [.own 0]⟩ ]

/-- builders and editable values: `own 0` the value, `own 1` what is handed over to it, `shared 0` what is only read -/
def builderOps : List Call := [
  ⟨dawg_Builder_Initialise, [.own 0]⟩, ⟨dawg_Builder_Add, [.own 0, .own 1]⟩, ⟨dawg_Builder_Finish, [.own 0]⟩, ⟨dawg_New, [.own 1]⟩,
  ⟨sortints_SortedInts_Add, [.own 0, .shared 0]⟩, ⟨sortints_SortedInts_Remove, [.own 0, .scalar]⟩, ⟨sortints_SortedInts_Union, [.own 0, .shared 0]⟩,
  ⟨ints_Sort, [.own 0]⟩, ⟨ints_Add, [.own 0, .shared 0]⟩, ⟨ints_Reverse, [.own 0]⟩,
  ⟨disjoint_New, [.scalar]⟩, ⟨disjoint_Set_Find, [.own 0, .scalar]⟩, ⟨disjoint_Set_Union, [.own 0, .scalar, .scalar]⟩,
  ⟨disjoint_Set_FindBuffered, [.own 0, .scalar, .own 1]⟩, ⟨disjoint_Set_UnionBuffered, [.own 0, .scalar, .scalar, .own 1]⟩,
  ⟨disjoint_Set_SmallestRep, [.own 0]⟩, ⟨disjoint_Set_Sets, [.own 0]⟩, ⟨disjoint_Set_Roots, [.own 0]⟩,
  ⟨graph_NewDense, [.scalar, .shared 0]⟩, ⟨graph_NewSparse, [.scalar, .shared 0]⟩,
  ⟨graph_DenseGraph_AddEdge, [.own 0, .scalar, .scalar]⟩, ⟨graph_DenseGraph_RemoveEdge, [.own 0, .scalar, .scalar]⟩,
  ⟨graph_DenseGraph_AddVertex, [.own 0, .shared 0]⟩, ⟨graph_DenseGraph_RemoveVertex, [.own 0, .scalar]⟩,
  ⟨graph_SparseGraph_AddEdge, [.own 0, .scalar, .scalar]⟩, ⟨graph_SparseGraph_RemoveEdge, [.own 0, .scalar, .scalar]⟩,
  ⟨graph_SparseGraph_AddVertex, [.own 0, .shared 0]⟩, ⟨graph_SparseGraph_RemoveVertex, [.own 0, .scalar]⟩ ]

def ownedOps : List Call := searchOps ++ canonicalOps ++ iteratorOps ++ builderOps

/-- every call pattern of the property's scenarios -/
def scenarioCalls : List Call := sharedQueries ++ ownedOps

/-! ### Obligations discharged from the extracted facts (re-checked on every run) -/

/-- Every read-only query of the property has an admissible footprint when its receiver / arguments are
shared: no store through them, no package-level variable written, nothing unattributed, no callback. -/
theorem shared_queries_admissible : sharedQueries.all Call.admissibleQuery = true := by decide +kernel

/-- Every operation on goroutine-owned values stores only through what the goroutine owns. -/
theorem owned_ops_admissible : ownedOps.all Call.admissible = true := by decide +kernel

/-- No function of the module at all (exported or not) may store to a package-level variable or to memory
reachable from one, none hands package-level memory out (into its result or its arguments), and no store is
unattributed. -/
theorem no_function_writes_package_level_state :
    Gen.Footprints.all.all (fun a => a.globalsWritten.isEmpty && a.exposesGlobals.isEmpty && !a.unknownWrites) = true := by
  decide +kernel

/-- Package-level variables are stored to by package initialisation only (read-only tables): no store site
outside the functions that can only run during package initialisation (`pkg.init`, declared `init()`s and
unexported helpers all of whose callers are such; listed in `initialisationOnly`). Initialisation happens
before any goroutine of the user can call into the package. -/
theorem package_level_variables_read_only : globals.all (fun g => g.2 == 0) = true := by decide +kernel

/-- The library starts no goroutine; the only channel operations are on a channel handed in by the caller
(`AllMaximalCliques` sends on and closes its parameter). -/
theorem no_goroutines_no_own_channels : goStatements.isEmpty = true ∧ channelOpsNotOnParameter.isEmpty = true := by decide +kernel

/-- The module imports neither `unsafe`, `reflect`, `runtime`, `sync/atomic` nor cgo (memory the region
analysis could not follow) and uses nothing of package `sync` except `sync.Pool` (a value obtained from
`Get` is owned by the caller until `Put`, the pool's own state is synchronised by the standard library:
`extract_fp` treats `Get` as fresh memory and lists the packages in `syncPoolUsers`). `sync.Mutex` & co. are
still reported: a hand-rolled synchronised cache is *not* recognised as safe by this analysis. -/
theorem no_unsafe_reflect_sync : specialImports.isEmpty = true := by decide +kernel

/-! ### The property for the library's scenarios -/

theorem scenarioCalls_admissible (c : Call) (h : c ∈ scenarioCalls) : c.admissible = true := by
  simp only [scenarioCalls, List.mem_append] at h
  rcases h with h | h
  · have := List.all_eq_true.mp shared_queries_admissible c h
    simp only [Call.admissibleQuery, Bool.and_eq_true] at this
    exact this.1
  · exact List.all_eq_true.mp owned_ops_admissible c h

/-- **C19 for the model instantiated with the extracted footprints.** Any number `n` of goroutines; each
performs any sequence of calls drawn from the scenario patterns (read-only queries on shared values,
arbitrary operations on values it owns), with arbitrary semantics respecting the extracted footprints;
any schedule that lets all of them finish. Then every goroutine obtains exactly the results it obtains running
alone, and the world ends as after running the goroutines one after another. -/
theorem library_scenarios_interleaving {σ ρ : Type} [Inhabited σ] (n : Nat)
    (calls : Nat → List (Call × ((Loc → σ) → ρ × (Loc → σ))))
    (hc : ∀ t p, p ∈ calls t → p.1 ∈ scenarioCalls) (hn : ∀ t, n ≤ t → calls t = [])
    (w : Loc → σ) (s : List Nat) (hs : ∀ t, s.count t = (calls t).length) :
    let progs := fun t => (calls t).map (fun p => p.1.toOp t p.2)
    (run s (Cfg.init progs w)).world = (runOps (seqOps n progs) w).2 ∧
    ∀ t, (run s (Cfg.init progs w)).log t = (runOps (progs t) w).1 :=
  admissible_calls_interleaving n calls (fun t p hp => scenarioCalls_admissible p.1 (hc t p hp)) hn w s hs

/-- non-vacuity: two goroutines, one looks a word up in the shared Dawg, the other advances its own shard -/
example : ∃ (calls : Nat → List (Call × ((Loc → Nat) → Nat × (Loc → Nat)))),
    (∀ t p, p ∈ calls t → p.1 ∈ scenarioCalls) ∧ (calls 0).length = 1 ∧ (calls 1).length = 1 :=
  ⟨fun t => match t with
    | 0 => [(⟨dawg_Dawg_Lookup, [.shared 0, .shared 1]⟩, fun v => (v (.shared 0), v))]
    | 1 => [(⟨graph_search_GraphIterator_Next, [.own 0]⟩, fun v => (v (.own 1 0), v))]
    | _ => [],
   by
    intro t p hp
    match t with
    | 0 => simp at hp; subst hp; simp [scenarioCalls, sharedQueries, dawgQueries]
    | 1 => simp at hp; subst hp; simp [scenarioCalls, ownedOps, searchOps]
    | _ + 2 => simp at hp,
   rfl, rfl⟩

end C19Fp
