import Mamba.Lemmas.IRIso
/-!
# C01 — canonical labelling is a complete isomorphism invariant

Theorems about the executable model `Mamba/Model/IR.lean` — the unpruned individualisation–refinement tree that the
driver `mdrv` runs for the protocols `canon`, `canon2`, `aut`, `hist` — for every `n` and every graph. They are stated
about exactly the definitions the driver runs (`IR.allLeaves`, `IR.cert`, `IR.canonGraph`), not about a separate
proof-friendly copy.

* `IR.Relabel g g' σ τ`: `g'` is `g` with vertex `v` renamed `σ v` (σ a permutation of `0..n-1` with inverse τ, neighbour
  lists equal up to order) — `σ` is an isomorphism `g → g'`; `IR.Iso g h := ∃ σ τ, Relabel g h σ τ`.
* `IR.WF g`: neighbour lists are in range, duplicate free, symmetric and loop free. Every graph the driver parses
  satisfies it (`IR.ofSpec_ofEdges_wf`).
* `s.work ≠ []`: the start state has a non-empty worklist (true for `IR.init` and for `IR.initSt` with at least one
  class: the Go code starts with every class bin on `binsToCheck`).

The tie with the Go code (`graph/canonical.go`) is at certificate level, by the correspondence check: the Go canonical
graph must be identical to `IR.canonGraph`; that is the statement "the pruning never loses the maximal leaf", which is
proved for the faithful model of the Go code in `Props/C01F.lean` (`C01F.canonF_eq_IR_canon`).
-/
namespace C01
open IR

/-- `leaf_is_perm`: every leaf of the unpruned tree (with the depth fuel `n` and the refinement fuel the driver uses)
is a discrete colouring, i.e. a bijection of `0..n-1` onto `0..n-1`; so the graph relabelled by a leaf is isomorphic to
`g`. In particular the depth fuel `n` always suffices. -/
theorem leaf_is_perm {g : G} (hg : WF g) {s : St} (hw : s.work ≠ []) {l : Array Nat} (hl : l ∈ allLeaves g s) :
    (∀ v, v < g.n → col l v < g.n) ∧ ∀ u v, u < g.n → v < g.n → col l u = col l v → u = v :=
  allLeaves_perm hg hw l hl

example : ∀ l ∈ allLeaves exG (init exG), (∀ v, v < exG.n → col l v < exG.n) ∧
    ∀ u v, u < exG.n → v < exG.n → col l u = col l v → u = v :=
  fun _ hl => leaf_is_perm exG_wf (init_work exG) hl

/-- `leaves_equivariant`: for an isomorphism σ : g → g' and σ-related start states (in particular the initial states,
`IR.init_rel`, and class colourings carried along by σ, `IR.initSt_rel`), the leaves of the unpruned tree of `g'` are,
up to order, the leaves of `g` transported along σ (`ℓ' ∘ σ = ℓ`). (`IR.leaves_rel` is the same for every refinement
fuel and depth fuel.) -/
theorem leaves_equivariant {g g' : G} {σ τ : Nat → Nat} (R : Relabel g g' σ τ) {s s' : St} (h : SRel g σ s s') :
    ∃ l, (allLeaves g' s').Perm l ∧ List.Forall₂ (fun c c' => ∀ v, v < g.n → col c' (σ v) = col c v) (allLeaves g s) l :=
  allLeaves_rel R h

example : ∃ l, (allLeaves exG' (init exG')).Perm l ∧
    List.Forall₂ (fun c c' => ∀ v, v < exG.n → col c' (exσ v) = col c v) (allLeaves exG (init exG)) l :=
  leaves_equivariant exRelabel (init_rel exRelabel)

/-- `leafCerts_perm`: the multiset of leaf certificates of the unpruned tree is invariant under relabelling. -/
theorem leafCerts_perm {g g' : G} {σ τ : Nat → Nat} (R : Relabel g g' σ τ) {s s' : St} (h : SRel g σ s s') :
    ((allLeaves g' s').map (cert g')).Perm ((allLeaves g s).map (cert g)) :=
  allLeafCerts_perm R h

example : ((allLeaves exG' (init exG')).map (cert exG')).Perm ((allLeaves exG (init exG)).map (cert exG)) :=
  leafCerts_perm exRelabel (init_rel exRelabel)

/-- `canon_invariant`: the canonical graph (decoded from the lexicographically largest leaf certificate) of a
relabelled graph is *identical* to that of the graph: `canonGraph (σ·g) = canonGraph g`. No well-formedness needed. -/
theorem canon_invariant {g g' : G} {σ τ : Nat → Nat} (R : Relabel g g' σ τ) : canonGraph g' = canonGraph g :=
  canonGraph_invariant R

example : canonGraph exG' = canonGraph exG := canon_invariant exRelabel

/-- `canon_iso`: the canonical graph is isomorphic to the graph (the isomorphism is the maximal leaf). -/
theorem canon_iso {g : G} (hg : WF g) : Iso g (canonGraph g) :=
  canonGraph_iso hg

example : Iso exG (canonGraph exG) := canon_iso exG_wf

/-- `canon_complete`: two graphs have the same canonical graph if and only if they are isomorphic. -/
theorem canon_complete {g h : G} (hg : WF g) (hh : WF h) : canonGraph g = canonGraph h ↔ Iso g h :=
  canonGraph_complete hg hh

example : canonGraph exG = canonGraph exG' ↔ Iso exG exG' :=
  canon_complete exG_wf ⟨exRelabel.nbrs_lt', by
    intro v (hv : v < 3)
    obtain rfl | rfl | rfl : v = 0 ∨ v = 1 ∨ v = 2 := by omega
    all_goals decide, by
    intro u v (hu : u < 3) (hv : v < 3)
    obtain rfl | rfl | rfl : u = 0 ∨ u = 1 ∨ u = 2 := by omega
    all_goals
      obtain rfl | rfl | rfl : v = 0 ∨ v = 1 ∨ v = 2 := by omega
      all_goals decide, by
    intro v (hv : v < 3)
    obtain rfl | rfl | rfl : v = 0 ∨ v = 1 ∨ v = 2 := by omega
    all_goals decide⟩

/-- the same invariance with vertex classes: a relabelling that carries the class colouring along does not change the
canonical graph computed from the class colouring (the model of `CanonicalIsomorphFull(g, classes)`). -/
theorem canon_invariant_classes {g g' : G} {σ τ : Nat → Nat} (R : Relabel g g' σ τ) (k : Nat) {cls cls' : Nat → Nat}
    (hcls : ∀ v, v < g.n → cls' (σ v) = cls v) :
    canonGraphFrom g' (initSt g' k cls') = canonGraphFrom g (initSt g k cls) :=
  canonGraphFrom_invariant R (initSt_rel R k hcls)

example : canonGraphFrom exG' (initSt exG' 2 (fun v => if v = 2 then 1 else 0)) =
    canonGraphFrom exG (initSt exG 2 (fun v => if v = 2 then 1 else 0)) :=
  canon_invariant_classes exRelabel 2 (by
    intro v (hv : v < 3)
    obtain rfl | rfl | rfl : v = 0 ∨ v = 1 ∨ v = 2 := by omega
    all_goals simp [exσ])

/-- with vertex classes the canonical graph is still isomorphic to the graph -/
theorem canon_iso_classes {g : G} (hg : WF g) {k : Nat} (hk : 1 ≤ k) (cls : Nat → Nat) :
    Iso g (canonGraphFrom g (initSt g k cls)) :=
  canonGraphFrom_iso hg (initSt_work g hk cls)

example : Iso exG (canonGraphFrom exG (initSt exG 2 (fun v => if v = 2 then 1 else 0))) :=
  canon_iso_classes exG_wf (by decide) _

end C01
