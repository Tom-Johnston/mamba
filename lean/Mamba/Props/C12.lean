import Mamba.Lemmas.DawgMinimal
import Mamba.Lemmas.DawgEnc
/-!
# C12 — a built DAWG is an exact, minimal, rank-indexed index of its word set

All statements are about the executable model the driver runs (`Dawg.build`, `Dawg.add`, `Dawg.addAll`, `Dawg.finish`,
`Dawg.lookup`, `Dawg.numberOfWords`, `Dawg.numberOfNodes` in `Mamba/Model/Dawg.lean`, `DawgGob.lean`).

* `accRun [] adds` (Lemmas/DawgBuild.lean) is the specification of a history of `Add`s: an add is accepted iff it is the
  first one or larger than the last accepted word; `.1` = the accepted words, `.2` = the error flags.
* `accepts h p w` / `walk h p x` (Spec/DawgLang.lean): acceptance / the node reached, following the first matching label
  exactly as the code does. `Reach` (Spec/Dawg.lean): reachability along links.
Words (`Word = List Nat`, Spec/DawgLang.lean) are lists of natural numbers (a superset of byte strings), ordered
lexicographically (`bytes.Compare`).
-/
namespace Dawg

/-- The order check of `Add` as it is in `dawg/dawg.go` NOW (`Gen.Dawg.addHasWordFrom`, `Gen.Dawg.addOrderReject`,
regenerated by `extract/c12.go` on every run and used by the model): it applies as soon as one word is stored and rejects
exactly the results 0 and 1 of `bytes.Compare(lastWord, new)`. Every theorem below depends on this one. If `Add` is
restructured beyond recognition the two definitions fall back to the hand-written `1` and `c ≠ -1`
(`Gen.Dawg.foundOrderCheck = false`, which no theorem looks at) and the correspondence alone ties the model to the code. -/
theorem order_check_as_coded :
    Gen.Dawg.addHasWordFrom = 1 ∧ Gen.Dawg.addOrderReject (-1) = false ∧
      Gen.Dawg.addOrderReject 0 = true ∧ Gen.Dawg.addOrderReject 1 = true :=
  genOrder_consistent

/-- For EVERY history of adds (in order, out of order, duplicates, nil/empty words — nil and empty are the same list):
`build` never panics, returns the error flags of the specification, and the finished automaton accepts exactly the
accepted words. -/
theorem lang_build_any (adds : List Word) :
    ∃ d, build adds = .ok (some d, (accRun [] adds).2) ∧
      ∀ w, accepts d.heap d.root w ↔ w ∈ (accRun [] adds).1 := by
  obtain ⟨d, h1, hf⟩ := build_spec adds
  exact ⟨d, h1, hf.rep.accepts_iff⟩

/-- For every strictly increasing word list (including `[]` and `[[]]`) no add is rejected and the finished automaton
accepts exactly those words. -/
theorem lang_build (ws : List Word) (hs : ws.Pairwise (· < ·)) :
    ∃ d, build ws = .ok (some d, List.replicate ws.length false) ∧ ∀ w, accepts d.heap d.root w ↔ w ∈ ws := by
  obtain ⟨d, h1, h2⟩ := lang_build_any ws
  rw [accRun_sorted ws [] (by simpa using hs)] at h1 h2
  exact ⟨d, h1, by simpa using h2⟩

example : ([[], [1], [1, 2], [2]] : List Word).Pairwise (· < ·) := by decide  -- non-vacuity of the hypothesis

/-- `NumberOfWords` is the number of accepted words, and the count stored in the node reached by reading any string `x`
is the number of accepted words that start with `x` (= the size of that node's right language). -/
theorem numWords_spec {adds : List Word} {d : Dawg} {es : List Bool} (hb : build adds = .ok (some d, es)) :
    numberOfWords d = .ok (accRun [] adds).1.length ∧
    ∀ x q, walk d.heap d.root x = some q →
      ∃ n, d.heap[q]? = some n ∧ n.numWords = ((accRun [] adds).1.filter (fun w => x.isPrefixOf w)).length := by
  have hf := finished_of_build hb
  refine ⟨?_, ?_⟩
  · obtain ⟨n, hn, hnum⟩ := hf.rep.numWords
    simp [numberOfWords, getNode_of_some hn, hnum]
  · intro x q hw
    obtain ⟨n, hn, hnum⟩ := (hf.rep.walk x q hw).numWords
    exact ⟨n, hn, by rw [hnum, length_subw]⟩

/-- `Lookup` returns `(rank, true)` for the accepted words — rank = position in the increasing list — and `(0, false)`
for every other string. -/
theorem lookup_spec {adds : List Word} {d : Dawg} {es : List Bool} (hb : build adds = .ok (some d, es)) (w : Word) :
    (w ∈ (accRun [] adds).1 → ∃ k : Nat, (accRun [] adds).1[k]? = some w ∧ lookup d w = .ok ((k : Int), true)) ∧
    (w ∉ (accRun [] adds).1 → lookup d w = .ok (0, false)) := by
  have hf := finished_of_build hb
  obtain ⟨n, hn, _⟩ := hf.rep.numWords
  have hl : lookup d w = .ok (if w ∈ (accRun [] adds).1 then
      ((0 : Int) + (((accRun [] adds).1.filter (· < w)).length : Nat), true) else (0, false)) := by
    unfold lookup
    rw [getNode_of_some hn]
    have := lookupWalk_spec (h := d.heap) w (0 : Int) hf.rep hn
    simpa using this
  refine ⟨fun hw => ?_, fun hw => ?_⟩
  · refine ⟨_, get_count_lt hf.rep.sorted hw, ?_⟩
    rw [hl, if_pos hw]; simp
  · rw [hl, if_neg hw]

/-- `Lookup` as an equivalence: `(k, true)` is returned exactly when the `k`-th accepted word is `w`. -/
theorem lookup_iff {adds : List Word} {d : Dawg} {es : List Bool} (hb : build adds = .ok (some d, es)) (w : Word)
    (k : Nat) : lookup d w = .ok ((k : Int), true) ↔ (accRun [] adds).1[k]? = some w := by
  have hf := finished_of_build hb
  obtain ⟨h1, h2⟩ := lookup_spec hb w
  constructor
  · intro hl
    by_cases hw : w ∈ (accRun [] adds).1
    · obtain ⟨k', hk', hl'⟩ := h1 hw
      rw [hl] at hl'
      simp only [Outcome.ok.injEq, Prod.mk.injEq, Int.natCast_inj, and_true] at hl'
      rw [hl']; exact hk'
    · rw [h2 hw] at hl
      simp at hl
  · intro hk
    have hw : w ∈ (accRun [] adds).1 := List.mem_of_getElem? hk
    obtain ⟨k', hk', hl'⟩ := h1 hw
    have hnd := sorted_nodup hf.rep.sorted
    have : k = k' := by
      have hk1 := (List.getElem?_eq_some_iff.1 hk)
      have hk2 := (List.getElem?_eq_some_iff.1 hk')
      obtain ⟨hlt1, he1⟩ := hk1
      obtain ⟨hlt2, he2⟩ := hk2
      exact (List.Nodup.getElem_inj_iff hnd).1 (he1.trans he2.symm)
    rw [this]; exact hl'

/-- An add that is not larger than the last accepted word (out of order or duplicate) returns an error and leaves the
builder — hence everything it goes on to build — unchanged; on a fresh builder nothing is rejected. This holds after
every history of adds. -/
theorem add_rejected_unchanged (adds : List Word) (b : Builder) (es : List Bool)
    (hb : addAll Builder.init adds = .ok (b, es)) (w : Word) (hrej : (accStep (accRun [] adds).1 w).2 = true) :
    add b w = .ok ⟨b, true⟩ := by
  obtain ⟨b', h1, hst⟩ := addAll_spec adds (b := Builder.init) (ws := []) (Or.inl ⟨rfl, rfl⟩)
  rw [hb] at h1
  simp only [Outcome.ok.injEq, Prod.mk.injEq] at h1
  rw [← h1.1] at hst
  obtain ⟨b'', h2, _⟩ := add_spec hst w
  rw [hrej] at h2
  rcases hst with ⟨hws, _⟩ | ⟨hne, hinv⟩
  · rw [hws] at hrej; simp [accStep] at hrej
  · unfold accStep at hrej
    rw [hinv.last] at hrej
    simp only at hrej
    by_cases hw : b.lastWord < w
    · rw [if_pos hw] at hrej; simp at hrej
    · exact add_rejected hinv w hw

example : (accStep [[1]] [1]).2 = true := by decide  -- non-vacuity: a duplicate is rejected
example : (accStep [[2]] [1]).2 = true := by decide  -- non-vacuity: an out-of-order add is rejected

/-- Minimality: in the finished automaton two reachable nodes that accept the same words are the same node, and every
reachable node accepts at least one word (no dead states; for the empty word set the root is the only node). Hence the
reachable nodes are in one-to-one correspondence with the non-empty right languages of the word set. -/
theorem minimal {adds : List Word} {d : Dawg} {es : List Bool} (hb : build adds = .ok (some d, es)) :
    (∀ p q, Reach d.heap d.root p → Reach d.heap d.root q →
      (∀ w, accepts d.heap p w ↔ accepts d.heap q w) → p = q) ∧
    (∀ p, Reach d.heap d.root p → ((accRun [] adds).1 ≠ [] ∨ p ≠ d.root) → ∃ w, accepts d.heap p w) :=
  (finished_of_build hb).minimal

/-- The finished automaton is well-formed in the sense used by C14 (no dangling links, distinct ids, root id smallest,
everything below 2^64), for byte strings. -/
theorem build_wf {adds : List Word} {d : Dawg} {es : List Bool} (hb : build adds = .ok (some d, es))
    (hbytes : ∀ w ∈ adds, ∀ c ∈ w, c < 256) (hcount : adds.length < 2 ^ 64) (hsize : d.heap.size < 2 ^ 64) : WF d := by
  exact wf_of_build hb hbytes hcount hsize

/-- `numberOfNodes` (the traversal of `listNodesCountEdges`), whenever it returns, returns the number of reachable
nodes — by `minimal`, the number of Myhill–Nerode classes of the word set. -/
theorem numberOfNodes_counts_reachable {d : Dawg} (wf : WF d) (fuel k : Nat) (hk : numberOfNodes fuel d = .ok k)
    (ps : List Nat) (hnd : ps.Nodup) (hall : ∀ p, Reach d.heap d.root p ↔ p ∈ ps) : k = ps.length := by
  unfold numberOfNodes at hk
  cases hl : listNodes fuel d with
  | panic => rw [hl] at hk; cases hk
  | outOfFuel => rw [hl] at hk; cases hk
  | ok L =>
    rw [hl] at hk
    simp only [Outcome.ok.injEq] at hk
    rw [← hk]
    exact (listNodes_spec d wf fuel L hl).count ps hnd hall

/-- On every automaton built from byte strings `numberOfNodes` returns for all sufficiently large fuel, and what it
returns is the number of reachable nodes. -/
theorem numberOfNodes_built {adds : List Word} {d : Dawg} {es : List Bool} (hb : build adds = .ok (some d, es))
    (hbytes : ∀ w ∈ adds, ∀ c ∈ w, c < 256) (hcount : adds.length < 2 ^ 64) (hsize : d.heap.size < 2 ^ 64) :
    ∃ f0 k, (∀ f, f0 ≤ f → numberOfNodes f d = .ok k) ∧
      ∀ ps : List Nat, ps.Nodup → (∀ p, Reach d.heap d.root p ↔ p ∈ ps) → k = ps.length := by
  have hf := finished_of_build hb
  have wf := wf_of_build hb hbytes hcount hsize
  obtain ⟨L, hL⟩ := listNodes_total d wf _ 256 (hf.ranked (accRun_bytes hbytes))
  refine ⟨Qp 256 (langRank d.heap d.root + 1), L.length, ?_, ?_⟩
  · intro f hle
    obtain ⟨k, rfl⟩ := Nat.exists_eq_add_of_le hle
    simp only [numberOfNodes, listNodes_mono d _ L hL k]
  · intro ps hnd hall
    exact (listNodes_spec d wf _ L hL).count ps hnd hall

end Dawg
