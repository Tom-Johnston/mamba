import Mamba.Lemmas.C06Hand
import Mamba.Lemmas.C06AddEdge
import Mamba.Lemmas.C06Compl
import Mamba.Lemmas.C06Partite
import Mamba.Lemmas.C06Line
import Mamba.Lemmas.C06Fam
import Mamba.Lemmas.C06Sparse
import Mamba.Lemmas.C06Trans
import Mamba.Lemmas.C06Snark
import Mamba.Lemmas.C06Rook
import Mamba.Lemmas.C06Induced
import Mamba.Lemmas.C06BiKneser
import Mamba.Lemmas.C06Prufer
import Mamba.Lemmas.C06Multi
import Mamba.Lemmas.C06PruferTree
/-!
# C06 — every graph the library constructs is well formed and matches its definition

Definitions the statements are about:
* `Construct.*` (Model/Construct.lean): the executable models the driver `mdrv` runs; `Construct.Dense.WF`,
  `Construct.GraphI.Sound` state well-formedness of a stored value / of a value seen through the `Graph` interface;
* `Families.*` (Spec/Families.lean): the family and transformation definitions.
-/
namespace Construct
open GraphSpec

/-- The adjacency read off the byte array by `IsEdge` is symmetric, loop-free and supported on `0..n-1` by
construction (only the array size is needed). -/
theorem dense_abs_wf (d : Dense) (hs : d.edges.size = d.n * (d.n - 1) / 2) : d.abs.WF :=
  Dense.abs_wf d hs

/-- A well-formed stored value presents, through `N, M, IsEdge, Neighbours, Degrees`, exactly the graph `d.abs`:
no observer panics on in-range arguments, `M` is its number of edges, `Degrees` its degree sequence and
`Neighbours(v)` its neighbours of `v` in ascending order without repeats. -/
theorem dense_wf_sound (d : Dense) (h : d.WF) : GraphI.Sound d.toI d.abs := h.sound

/-- an abstract graph handed to a transformation by the driver (`ofSpec`) presents itself: the hypotheses
`g.Sound gs` of the transformation theorems below are satisfied by every input the driver feeds -/
theorem ofSpec_sound (g : G) : (ofSpec g).Sound g :=
  ⟨rfl, rfl, fun _ _ _ _ => rfl, fun _ _ => rfl, rfl⟩

/-- `NewDense(n, edges)` with a slice of the documented length returns a well-formed graph whose byte array is a
copy of `edges` (for **every** content of the bytes). -/
theorem newDense_wf (n : Nat) (edges : Array Nat) (hs : edges.size = n * (n - 1) / 2) :
    ∃ d, newDense n (some edges) = .ok d ∧ d.n = n ∧ d.edges = edges ∧ d.WF :=
  newDense_some n edges hs

example : ∃ d, newDense 3 (some #[1, 0, 7]) = .ok d ∧ d.n = 3 ∧ d.edges = #[1, 0, 7] ∧ d.WF :=
  newDense_wf 3 #[1, 0, 7] rfl

/-- a slice of any other length is rejected by the documented panic -/
theorem newDense_wrong_length (n : Nat) (edges : Array Nat) (hs : edges.size ≠ n * (n - 1) / 2) :
    newDense n (some edges) = .panic := by
  simp [newDense, hs]

/-- `NewDense(n, nil)` is the well-formed edgeless graph -/
theorem newDense_nil_wf (n : Nat) :
    newDense n none = .ok (newDenseNil n) ∧ (newDenseNil n).WF ∧ (newDenseNil n).abs = ⟨n, fun _ _ => false⟩ :=
  ⟨rfl, newDenseNil_wf n⟩

/-! ## Hand-filled families: well formed, and edge set = definition, for all accepted parameters -/

theorem completeGraph_spec (n : Nat) : ∃ d, completeGraph n = .ok d ∧ d.WF ∧ d.abs = Families.complete n := by
  obtain ⟨dg, g1, g2, g3⟩ := foldlM_setAt ((n : Int) - 1) (List.range n) (Array.replicate n (0 : Int)) (by simp)
  obtain ⟨e, e1, e2, e3⟩ := writeOnes_zeros (tri n) (List.range (tri n)) (by simp)
  refine ⟨⟨n, (tri n : Nat), dg, e⟩, ?_, ?_⟩
  · simp only [completeGraph, tri_def, Array.size_replicate, writeAll, zeros] at *
    rw [g1]; simp only [Outcome.bind_ok]; rw [e1]; rfl
  · refine dense_of_idxs n _ dg e (List.range (tri n)) _ e2 e3 List.nodup_range (by simp) (fun u v huv hv => ?_)
      (by simp) (by simpa using g2) (fun v hv => ?_)
    · simp [tri_add_lt huv hv]
    · rw [deg_symm n _ v hv, g3 v]
      simp only [Bool.or_self, Bool.and_true, countP_range_bne, hv, ↓reduceIte]
      simp [hv]; omega

/-- `CompletePartiteGraph(nums...)` for every list of part sizes (empty list and empty parts included): the stored
`M` (counted write by write) is the number of edges, the stored degree of a vertex is `n` minus the size of its part,
and two vertices are adjacent iff they lie in different parts. -/
theorem completePartiteGraph_spec (nums : List Nat) :
    ∃ d, completePartiteGraph nums = .ok d ∧ d.WF ∧ d.abs = Families.completePartite nums :=
  completePartiteGraph_ok nums

theorem path_spec (n : Nat) : ∃ d, path n = .ok d ∧ d.WF ∧ d.abs = Families.path n :=
  path_ok n

theorem star_spec (n : Nat) : ∃ d, star n = .ok d ∧ d.WF ∧ d.abs = Families.star n :=
  star_ok n

theorem cycle_spec (n : Nat) (hn : 3 ≤ n) : ∃ d, cycle n = .ok d ∧ d.WF ∧ d.abs = Families.cycle n :=
  cycle_ok n hn

example : ∃ d, cycle 3 = .ok d ∧ d.WF ∧ d.abs = Families.cycle 3 := cycle_spec 3 (by decide)

/-- `FlowerSnark(n)` for every accepted parameter (odd `n ≥ 3`) -/
theorem flowerSnark_spec (n : Nat) (hodd : n % 2 = 1) (hn : 3 ≤ n) :
    ∃ d, flowerSnark n = .ok d ∧ d.WF ∧ d.abs = Families.flowerSnark n :=
  flowerSnark_ok n hodd hn

example : ∃ d, flowerSnark 5 = .ok d ∧ d.WF ∧ d.abs = Families.flowerSnark 5 := flowerSnark_spec 5 (by decide) (by decide)

/-- every other parameter (even `n`, or `n < 3`) is a documented panic -/
theorem flowerSnark_rejects_even_or_small (n : Nat) (h : n % 2 = 0 ∨ n < 3) : flowerSnark n = .panic := by
  unfold flowerSnark
  by_cases h2 : n % 2 = 0
  · simp [h2]
  · have h3 : n < 3 := by omega
    simp [h2, h3]

/-- `Cycle(n)` for `n < 3` is the documented panic -/
theorem cycle_rejects (n : Nat) (hn : n < 3) : cycle n = .panic := by
  simp [cycle, hn]

/-- `(*DenseGraph).AddEdge(i, j)` on a well-formed graph with in-range arguments does not panic, keeps it well formed
and adds exactly the edge `ij` (nothing when `i = j` or the edge is present). -/
theorem addEdge_preserves_WF (d : Dense) (h : d.WF) (i j : Nat) (hi : i < d.n) (hj : j < d.n) :
    ∃ d', addEdge d i j = .ok d' ∧ d'.WF ∧ d'.n = d.n ∧ d'.abs = Families.addEdge d.abs i j :=
  addEdge_ok d h i j hi hj

example : ∃ d', addEdge (newDenseNil 3) 0 2 = .ok d' ∧ d'.WF ∧ d'.n = 3 ∧
    d'.abs = Families.addEdge (newDenseNil 3).abs 0 2 :=
  addEdge_preserves_WF _ (newDenseNil_wf 3).1 0 2 (by decide) (by decide)

/-- `g := NewDense(n, nil)` followed by `g.AddEdge` on any list of in-range pairs: no panic, well formed, and the
edge set is exactly the set of non-loop pairs of the list (`ofPairs`). -/
theorem buildByAddEdge_wf (n : Nat) (ps : List (Nat × Nat)) (h : ∀ p ∈ ps, p.1 < n ∧ p.2 < n) :
    ∃ d, buildByAddEdge n ps = .ok d ∧ d.WF ∧ d.n = n ∧ d.abs = ofPairs n ps :=
  buildByAddEdge_ok n ps h

example : ∃ d, buildByAddEdge 3 [(0, 1), (1, 0), (2, 2)] = .ok d ∧ d.WF ∧ d.n = 3 ∧ d.abs = ofPairs 3 [(0, 1), (1, 0), (2, 2)] :=
  buildByAddEdge_wf 3 _ (by decide)

/-- `RandomGraph(n, p, seed)` is well formed on `n` vertices for **every** random stream (`coin k` = outcome of the
`k`th evaluation of `r.Float64() < p`). -/
theorem randomGraph_wf (n : Nat) (coin : Nat → Bool) : ∃ d, randomGraph n coin = .ok d ∧ d.WF ∧ d.n = n :=
  randomGraph_ok n coin

/-- `ComplementDense(g)` for **every** input that presents a well-formed graph `gs` through the interface:
no panic, the result is well formed (the stored `M` and `Degrees`, which the code derives from `g.M()` and
`g.Degrees()`, agree with the bytes it writes) and it is the complement of `gs`. -/
theorem complementDense_spec (g : GraphI) (gs : G) (hs : g.Sound gs) (hw : gs.WF) :
    ∃ d, complementDense g = .ok d ∧ d.WF ∧ d.abs = gs.complement :=
  complementDense_ok g gs hs hw

example : ∃ d, complementDense (newDenseNil 3).toI = .ok d ∧ d.WF ∧ d.abs = (newDenseNil 3).abs.complement :=
  complementDense_spec _ _ (newDenseNil_wf 3).1.sound (Dense.abs_wf _ (newDenseNil_wf 3).1.size_edges)

/-- The `Complement` view: every observer is a function of the underlying graph, and together they present the
complement of whatever the underlying value presents at the time of the call (so the view tracks later edits). -/
theorem complementView_spec (c : GraphI) (g : G) (hs : c.Sound g) (hw : g.WF) :
    (complementView c).Sound g.complement :=
  complementView_sound c g hs hw

example : (complementView (newDenseNil 3).toI).Sound (newDenseNil 3).abs.complement :=
  complementView_spec _ _ (newDenseNil_wf 3).1.sound (Dense.abs_wf _ (newDenseNil_wf 3).1.size_edges)

/-- `LineGraphDense(g)` for **every** input that presents a graph `gs` through the interface with `M()` equal to its
number of edges: no panic (in particular every index `(mIndex*(mIndex-1))/2+k` is in range), the result is well
formed, its vertices are the edges of `gs` in DenseGraph order and two are adjacent iff the edges share an end point. -/
theorem lineGraphDense_spec (g : GraphI) (gs : G) (hs : g.Sound gs) :
    ∃ d, lineGraphDense g = .ok d ∧ d.WF ∧ d.abs = Families.lineGraph gs :=
  lineGraphDense_ok g gs hs

example : ∃ d, lineGraphDense (newDenseNil 3).toI = .ok d ∧ d.WF ∧ d.abs = Families.lineGraph (newDenseNil 3).abs :=
  lineGraphDense_spec _ _ (newDenseNil_wf 3).1.sound

/-- `RookGraph(n, m) = LineGraphDense(CompletePartiteGraph(n, m))` is well formed and is the rook graph of the `n × m`
board: cell (row `r`, column `c`) is vertex `c * n + r`, two cells adjacent iff they share a row or a column. -/
theorem rookGraph_spec (n m : Nat) :
    ∃ d, rookGraph n m = .ok d ∧ d.WF ∧ d.abs = Families.rook n m := by
  obtain ⟨k, h1, h2, h3⟩ := completePartiteGraph_ok [n, m]
  obtain ⟨d, g1, g2, g3⟩ := lineGraphDense_ok k.toI k.abs h2.sound
  exact ⟨d, by simp [rookGraph, h1, g1], g2, by rw [g3, h3, lineGraph_kpart]⟩

/-! ## Families built through `AddEdge`: well formed (by `addEdge_preserves_WF`) and edge set = definition -/

theorem friendshipGraph_spec (n : Nat) :
    ∃ d, friendshipGraph n = .ok d ∧ d.WF ∧ d.abs = Families.friendship n :=
  friendshipGraph_ok n

/-- all accepted parameters: `n ≥ 3`, `0 ≤ k ≤ (n-1)/2` (the code accepts `k = 0`, where `v_i v_{i+k}` is a loop and is dropped) -/
theorem generalisedPetersenGraph_spec (n k : Nat) (hn : 3 ≤ n) (hk : k ≤ (n - 1) / 2) :
    ∃ d, generalisedPetersenGraph n (k : Int) = .ok d ∧ d.WF ∧ d.abs = Families.generalisedPetersen n k :=
  generalisedPetersenGraph_ok n k hn hk

example : ∃ d, generalisedPetersenGraph 5 (2 : Nat) = .ok d ∧ d.WF ∧ d.abs = Families.generalisedPetersen 5 2 :=
  generalisedPetersenGraph_spec 5 2 (by decide) (by decide)

/-- the documented panics of `GeneralisedPetersenGraph` -/
theorem generalisedPetersenGraph_rejects (n : Nat) (k : Int) (h : n < 3 ∨ k < 0 ∨ k > ((n : Int) - 1) / 2) :
    generalisedPetersenGraph n k = .panic := by
  unfold generalisedPetersenGraph
  by_cases hn : n < 3
  · simp [hn]
  · have : k < 0 ∨ k > ((n : Int) - 1) / 2 := by omega
    simp [hn, this]

/-- `KneserGraph(n, k)`: vertex `i` is the `i`th `k`-subset in co-lexicographic order (`comb.Unrank`, assumed = `colexUnrank`),
adjacent iff disjoint -/
theorem kneserGraph_spec (n k : Nat) :
    ∃ d, kneserGraph n (k : Int) = .ok d ∧ d.WF ∧ d.abs = Families.kneser n k :=
  kneserGraph_ok n k

theorem hypercubeGraph_spec (dim : Nat) :
    ∃ d, hypercubeGraph dim = .ok d ∧ d.WF ∧ d.n = 2 ^ dim ∧ d.abs = Families.hypercube dim :=
  hypercubeGraph_ok dim

/-- `CirculantGraph(n, diffs...)` for every `n` and every list of (possibly negative or large) differences -/
theorem circulantGraph_spec (n : Nat) (diffs : List Int) :
    ∃ d, circulantGraph n diffs = .ok d ∧ d.WF ∧ d.abs = Families.circulant n diffs :=
  circulantGraph_ok n diffs

/-- `CirculantBipartiteGraph(n, m, diffs...)` whenever no remainder modulo 0 is taken -/
theorem circulantBipartiteGraph_spec (n m : Nat) (diffs : List Int) (hm : 0 < m ∨ n = 0 ∨ diffs = []) :
    ∃ d, circulantBipartiteGraph n m diffs = .ok d ∧ d.WF ∧ d.abs = Families.circulantBipartite n m diffs :=
  circulantBipartiteGraph_ok n m diffs hm

example : ∃ d, circulantBipartiteGraph 2 3 [1, -1] = .ok d ∧ d.WF ∧ d.abs = Families.circulantBipartite 2 3 [1, -1] :=
  circulantBipartiteGraph_spec 2 3 [1, -1] (Or.inl (by decide))

/-- `BipartiteKneserGraph(n, k)` for every `k` (`k ≤ n`; for `k > n` both sides are empty): `k`-subsets on one side,
`(n-k)`-subsets on the other (both in co-lexicographic order), two sets on different sides adjacent iff one contains the
other. (The code compares the intersection size with `min(k, n-k)`; `colexUnrank` is proved duplicate-free.) -/
theorem bipartiteKneserGraph_spec (n k : Nat) :
    ∃ d, bipartiteKneserGraph n (k : Int) = .ok d ∧ d.WF ∧ d.abs = Families.bipartiteKneser n k :=
  bipartiteKneserGraph_ok n k

/-- `FoldedHypercubeGraph(dim)`, `dim ≥ 1`: the `(dim-1)`-cube with every vertex also joined to its antipode
(the loop over `i < 2^(dim-2)` with `mask &^ i` reaches every antipodal pair exactly once). -/
theorem foldedHypercubeGraph_spec (dim : Nat) (hd : 1 ≤ dim) :
    ∃ d, foldedHypercubeGraph dim = .ok d ∧ d.WF ∧ d.abs = Families.foldedHypercube dim :=
  foldedHypercubeGraph_ok dim hd

example : ∃ d, foldedHypercubeGraph 1 = .ok d ∧ d.WF ∧ d.abs = Families.foldedHypercube 1 :=
  foldedHypercubeGraph_spec 1 (by decide)

/-- `FoldedHypercubeGraph(0)` is the documented panic -/
theorem foldedHypercubeGraph_rejects : foldedHypercubeGraph 0 = .panic := rfl

/-- `NewSparse(n, neighbourhoods)` for **every** family of `n` neighbour lists that describes a graph (in range,
loop-free, symmetric) — in any order and with repeats: the value presents exactly that graph through the interface
(`M` = number of edges, `Degrees`, `Neighbours` ascending without repeats, `IsEdge` by either end point). -/
theorem newSparse_wf (n : Nat) (L : List (List Nat)) (hlen : L.length = n)
    (hL : ∀ u, u < n → ∀ v ∈ L.getD u [], v < n ∧ v ≠ u ∧ u ∈ L.getD v []) :
    ∃ s, newSparse n (some L) = .ok s ∧ s.toI.Sound (sparseSpec n L) ∧ (sparseSpec n L).WF :=
  newSparse_ok n L hlen hL

example : ∃ s, newSparse 3 (some [[2, 1, 1], [0], [0, 0]]) = .ok s ∧ s.toI.Sound (sparseSpec 3 [[2, 1, 1], [0], [0, 0]]) ∧
    (sparseSpec 3 [[2, 1, 1], [0], [0, 0]]).WF :=
  newSparse_wf 3 _ rfl (by decide)

/-- the nil slice is the list of `n` empty neighbourhoods; a wrong number of lists is the documented panic -/
theorem newSparse_nil_and_wrong_length (n : Nat) :
    newSparse n none = newSparse n (some (List.replicate n [])) ∧
    ∀ L : List (List Nat), L.length ≠ n → newSparse n (some L) = .panic := by
  refine ⟨rfl, ?_⟩
  intro L h
  simp [newSparse, h]

/-! ## `SplitEdge`, `Contract` (expressed through the elementary edits an `EditableGraph` promises) -/

/-- `SplitEdge(g, i, j)` = `RemoveEdge(i, j); AddVertex([i, j])` yields exactly the graph of the definition
(edge `ij` removed if present, new vertex `n` joined to `i` and `j`), for every well-formed `g` and valid `i ≠ j`. -/
theorem splitEdge_spec (g : G) (hg : g.WF) (i j : Nat) (hij : i ≠ j) (hi : i < g.n) (hj : j < g.n) :
    splitEdge g i j = .ok (Families.splitEdge g i j) :=
  splitEdge_ok g hg i j hij

example : splitEdge (Families.path 3) 0 1 = .ok (Families.splitEdge (Families.path 3) 0 1) :=
  splitEdge_spec _ (symm_wf _ _) 0 1 (by decide) (by decide) (by decide)

/-- `SplitEdge(g, i, i)` is the documented panic -/
theorem splitEdge_rejects_loop (g : G) (i : Nat) : splitEdge g i i = .panic := by simp [splitEdge]

/-- `Contract(g, i, j)` = `AddEdge(i, v)` for every neighbour `v` of `j`, then `RemoveVertex(j)`, yields exactly the
graph of the definition, for every well-formed `g` (also when `ij` is not an edge, and when `i = j`). -/
theorem contract_spec (g : G) (hg : g.WF) (i j : Nat) (hi : i < g.n) :
    contract g i j = Families.contract g i j :=
  contract_ok g hg i j hi

/-- The `InducedSubgraph` view over a duplicate-free in-range vertex list `V`: every observer (`N`, `M`, `IsEdge`,
`Neighbours` — ascending, without repeats — and `Degrees`) is a function of the underlying graph, and together they
present the induced subgraph `gs.induced V` (vertex `i` ↦ `V[i]`) of whatever the underlying value presents at the time
of the call. (`sort.Sort` is modelled by a merge sort; for duplicate-free `V` the sorted order is unique.) -/
theorem inducedView_spec (g : GraphI) (gs : G) (hs : g.Sound gs) (hw : gs.WF) (V : List Nat) (hV : V.Nodup)
    (hr : ∀ x ∈ V, x < gs.n) : (inducedView g V).Sound (gs.induced V) :=
  inducedView_sound g gs hs hw V hV hr

example : (inducedView (newDenseNil 3).toI [2, 0]).Sound ((newDenseNil 3).abs.induced [2, 0]) :=
  inducedView_spec _ _ (newDenseNil_wf 3).1.sound (Dense.abs_wf _ (newDenseNil_wf 3).1.size_edges) [2, 0] (by decide) (by decide)

/-- `PruferDecode(p)` for every code whose entries are vertices (`< len(p) + 2`): no panic, the result is well formed
and it is a labelled tree on `len(p) + 2` vertices (`Codec.IsTree`: `n - 1` edges and connected).
Proved by showing that this model computes the same byte array as the C07 model `Codec.pruferDecode`
(`pruferDecode_sim`) and reusing `Codec.prufer_decode_tree`. -/
theorem pruferDecode_spec (p : List Nat) (hp : ∀ v ∈ p, v < p.length + 2) :
    ∃ d, pruferDecode p = .ok d ∧ d.WF ∧ d.n = p.length + 2 ∧ Codec.IsTree d.abs :=
  pruferDecode_tree p hp

example : ∃ d, pruferDecode [3, 3, 0] = .ok d ∧ d.WF ∧ d.n = 5 ∧ Codec.IsTree d.abs :=
  pruferDecode_spec [3, 3, 0] (by decide)

/-- `RandomTree(n, seed)`, `n ≥ 2`, for **every** stream of draws `r.Intn(n) < n`: no panic, a well-formed labelled tree
on `n` vertices. -/
theorem randomTree_spec (n : Nat) (hn : 2 ≤ n) (draw : Nat → Nat) (hdraw : ∀ i, draw i < n) :
    ∃ d, randomTree n draw = .ok d ∧ d.WF ∧ d.n = n ∧ Codec.IsTree d.abs :=
  randomTree_tree n hn draw hdraw

example : ∃ d, randomTree 4 (fun _ => 3) = .ok d ∧ d.WF ∧ d.n = 4 ∧ Codec.IsTree d.abs :=
  randomTree_spec 4 (by decide) _ (fun _ => by decide)

/-- `RandomTree(n)` for `n < 2` dies in `make([]int, n-2)` -/
theorem randomTree_small (n : Nat) (hn : n < 2) (draw : Nat → Nat) : randomTree n draw = .panic := by
  simp [randomTree, hn]

/-- `MulticodeDecode` on the multicode of any well-formed graph `gs` (`multicodeOf gs`: the byte `n`, then for every
vertex but the last its larger neighbours plus one, then `0`; bytes are modelled as `Nat`, i.e. `n ≤ 255`): no panic, the
hand-kept `M` and `Degrees` are consistent with the bytes written (each non-zero byte does exactly what `AddEdge` does
for a new edge), and the decoded graph is `gs`. -/
theorem multicodeDecode_spec (gs : G) (hg : gs.WF) :
    ∃ d, multicodeDecode (multicodeOf gs) = .ok d ∧ d.WF ∧ d.abs = gs :=
  multicodeDecode_ok gs hg

example : ∃ d, multicodeDecode (multicodeOf (Families.cycle 3)) = .ok d ∧ d.WF ∧ d.abs = Families.cycle 3 :=
  multicodeDecode_spec _ (symm_wf _ _)

/-- every graph produced along a sequence of `Contract` / `SplitEdge` steps (as the definitions prescribe them) is a
well-formed abstract graph, whatever the start graph and the arguments -/
theorem tseq_spec (ops : List TOp) (g : G) (gs : List G) (e : tseq tstepSpec g ops = .ok gs) : ∀ h ∈ gs, h.WF := by
  induction ops generalizing g gs with
  | nil => simp only [tseq, Outcome.ok.injEq] at e; subst e; simp
  | cons op t ih =>
    simp only [tseq] at e
    obtain ⟨h, e1, e⟩ := Outcome.bind_eq_ok e
    obtain ⟨rest, e2, e⟩ := Outcome.bind_eq_ok e
    simp only [Outcome.pure_eq, Outcome.ok.injEq] at e; subst e
    intro x hx
    simp only [List.mem_cons] at hx
    rcases hx with rfl | hx
    · exact tstepSpec_wf g _ op e1
    · exact ih h rest e2 x hx

/-- along every valid sequence (arguments are vertices of the current graph, distinct for `SplitEdge`) the steps as the
code performs them (`RemoveEdge; AddVertex` resp. `AddEdge…; RemoveVertex`) produce exactly the prescribed graphs -/
theorem tseq_model_refines (ops : List TOp) (g : G) (hg : g.WF) (hv : ValidSeq g ops) :
    tseq tstepModel g ops = tseq tstepSpec g ops := by
  induction ops generalizing g with
  | nil => rfl
  | cons op t ih =>
    simp only [tseq, tstep_refines g hg op hv.1]
    cases e : tstepSpec g op with
    | ok h => simp only [Outcome.bind_ok]; rw [ih h (tstepSpec_wf g h op e) (hv.2 h e)]
    | panic => rfl
    | outOfFuel => rfl

example : tseq tstepModel (Families.complete 5) [TOp.c 0 1, TOp.s 0 1] = tseq tstepSpec (Families.complete 5) [TOp.c 0 1, TOp.s 0 1] :=
  tseq_model_refines _ _ (symm_wf _ _) (by
    refine ⟨⟨by decide, by decide⟩, ?_⟩
    intro h e; simp only [tstepSpec, Outcome.ok.injEq] at e; subst e
    refine ⟨⟨by decide, by decide, by decide⟩, ?_⟩
    intro h e; trivial)

end Construct
