import Mamba.Lemmas.TspOut
/-!
# C20 — `tsp.LIB`: the TSPLIB output is well formed and faithful, and write failures are reported

All theorems are about `Tsp.lib` (`Model/Tsp.lean`), the definition the driver `mdrv` runs for the protocols `tsp`,
`tspc`, `tspf`; they hold for every `n`, every weight function and every fault function (no size bound).
-/
namespace Tsp

/-! ## Constants regenerated from `tsp/tsplib.go` (`Gen/TspConsts.lean`, rewritten on every run)

The model reads the header/trailer strings and the `tabwriter.NewWriter` arguments from the generated file.  The
theorems below are the only places where concrete values are needed; they are discharged by evaluation of the
generated definitions, so a change of a value the property dictates makes this file stop compiling. Values the
property does not care about are left free: the partition of the header into write calls (any), `minwidth`
(any), `padding` (any value ≥ 1), `AlignRight` on or off, `tabwidth` (unused unless padchar is a tab).  No theorem depends on the
shape of the code (number or order of calls, error checks): that is what the fault-injection stream checks. -/

/-- what the output theorems need from the tabwriter arguments: cells are separated by blanks, at least one -/
theorem tabwriter_config_ok : padChar = ' ' ∧ 0 < padding := ⟨padChar_eq, padding_pos⟩

/-- **The TSPLIB keywords.**  The header written by the code (whatever its partition into write calls) reads back as
`TYPE: TSP` / `DIMENSION: n` / `DISPLAY_DATA_TYPE: NO_DISPLAY` / `EDGE_WEIGHT_TYPE: EXPLICIT` /
`EDGE_WEIGHT_FORMAT: LOWER_DIAG_ROW` / `EDGE_WEIGHT_SECTION`. -/
theorem expectedHeader_tokens (n : Nat) :
    expectedHeader n =
      [["TYPE:".toList, "TSP".toList], ["DIMENSION:".toList, decNat n],
       ["DISPLAY_DATA_TYPE:".toList, "NO_DISPLAY".toList], ["EDGE_WEIGHT_TYPE:".toList, "EXPLICIT".toList],
       ["EDGE_WEIGHT_FORMAT:".toList, "LOWER_DIAG_ROW".toList], ["EDGE_WEIGHT_SECTION".toList]] := by
  rw [expectedHeader_lines]
  simp only [hdrLines, List.map_cons, List.map_nil, fields_dim]
  unfold ln1 ln3 ln4 ln5 ln6
  repeat rw [String.toList_ofList]
  rfl

/-- the trailer reads back as `EOF` followed by nothing -/
theorem expectedTrailer_tokens : (lines trailerText).map fields = [["EOF".toList], []] := by
  rw [lines_trailerText]
  unfold lnEOF
  repeat rw [String.toList_ofList]
  rfl

/-- the write calls before / after the weight section carry exactly the generated header / trailer text -/
theorem hdrWrites_text (n : Nat) : (hdrWrites n).flatten = headerText n ∧ trailerWrites.flatten = trailerText :=
  ⟨hdrWrites_flatten n, trailerWrites_flatten⟩

/-- **Output.**  On a writer that never fails `LIB` returns `nil`, and its output, cut into lines at `\n` and into
fields at blanks, is exactly `expected n w`: the header (`expectedHeader_tokens`: `TYPE: TSP`, `DIMENSION: n`, the
three fixed lines, `EDGE_WEIGHT_SECTION`), then for `i = 0 … n-1` the row `w(i,0) … w(i,i-1) 0` in decimal, then
`EOF`, and nothing after its line break.  For all `n` and all weight functions. -/
theorem lib_output (n : Nat) (w : Nat → Nat → Int) :
    (lib n w noFaults).err = none ∧ parse (lib n w noFaults).out = expected n w :=
  ⟨by rw [lib_noFaults], parse_out n w⟩

/-- `decNat`/`%d` is the decimal numeral: its digits evaluate to `n`, there is at least one, and no leading zero
unless `n = 0`. -/
theorem decNat_is_decimal (n : Nat) :
    digitsValue (decNat n) = n ∧ decNat n ≠ [] ∧ (0 < n → (decNat n).head? ≠ some '0') :=
  ⟨decNat_value n, decNat_ne_nil n, decNat_head n⟩

/-- **The tabwriter on the triangular table** (`body n w` is `format [] lines`, the general model of
`tabwriter.format` applied to the lines buffered by `LIB`): row `i` is written with the widths of the columns
`0 … i`, where the width of column `j` is computed over the single block of rows `j … n-1`; the flush ends with one
empty `Write`. -/
theorem tabwriter_triangle (n : Nat) (w : Nat → Nat → Int) :
    body n w = (List.range' 0 n).flatMap (fun i => writeLine (widthsUpTo n w i) (rowL w i)) ++ [Chunk.tail] :=
  body_eq n w

/-- The width of column `j` is at least the width of every cell of the column plus the padding, so
`writePadding`'s `cellw - textw` is never negative (the model's natural-number subtraction is exact) and every
number is preceded by at least one blank. -/
theorem lib_pad_never_truncated (n : Nat) (w : Nat → Nat → Int) (i : Nat) (hi : i < n) :
    ∀ p ∈ List.zip (widthsUpTo n w i) (rowTexts w i), p.2.length + 1 ≤ p.1 :=
  pad_ok n w i hi

example : ∃ p ∈ List.zip (widthsUpTo 1 (fun _ _ => 0) 0) (rowTexts (fun _ _ => 0) 0), p.2 = ['0'] :=
  ⟨(colW 1 (fun _ _ => 0) 0, ['0']), by simp [widthsUpTo, rowTexts], rfl⟩

/-- **Exact bytes.**  The fault-free output is the header lines, then row `i` as the cells `j = 0 … i`, each
right-aligned in `colW n w j` columns (`cellBytes`), each line ended by `\n`, then `EOF`. -/
theorem lib_bytes (n : Nat) (w : Nat → Nat → Int) :
    (lib n w noFaults).out = (outLines n w).flatMap (fun l => l ++ ['\n']) :=
  out_eq_lines n w

/-- The `Write` calls of a fault-free run, as used by the driver (`libChunks`) to translate byte-addressed
faults into call indices: their number is the number of calls `lib` makes and their concatenation is its output. -/
theorem libChunks_spec (n : Nat) (w : Nat → Nat → Int) :
    (libChunks n w).length = (lib n w noFaults).calls ∧ (libChunks n w).flatten = (lib n w noFaults).out := by
  have h : libChunks n w = hdrWrites n ++ (body n w).map Chunk.bytes ++ trailerWrites := by
    simp only [libChunks, TW.new, rows_eq, TW.flushChunks, TW.lines, body, triLines, List.nil_append,
      List.length_nil, Nat.lt_irrefl, if_false]
  rw [h, lib_noFaults]
  constructor
  · simp; omega
  · simp [List.flatMap_def]

/-- **Domain.**  Whatever the writer does, `weights` is only called with `0 ≤ j < i < n`. -/
theorem lib_weights_domain (n : Nat) (w : Nat → Nat → Int) (f : Nat → WriteResult) :
    ∀ p ∈ (lib n w f).wcalls, p.2 < p.1 ∧ p.1 < n := by
  intro p hp
  rcases lib_wcalls n w f with ⟨h, _⟩ | h
  · rw [h] at hp; simp at hp
  · rw [h] at hp; exact (mem_allPairs n p).mp hp

/-- **Exactly once, row by row.**  The calls are either none at all (only when one of the three header writes
failed) or exactly `(1,0), (2,0), (2,1), (3,0), …` — every pair `j < i < n` once, in row-major order. -/
theorem lib_weights_row_by_row (n : Nat) (w : Nat → Nat → Int) (f : Nat → WriteResult) :
    ((lib n w f).wcalls = [] ∧ ∃ k, k < (hdrWrites n).length ∧ ∃ c, f k = .err c) ∨
      (lib n w f).wcalls = (List.range n).flatMap (fun i => (List.range i).map (fun j => (i, j))) := by
  rw [← allPairs_eq]; exact lib_wcalls n w f

/-- the row-major list of pairs has no repetition and contains exactly the pairs `j < i < n` -/
theorem lib_weights_pairs (n : Nat) :
    ((List.range n).flatMap (fun i => (List.range i).map (fun j => (i, j)))).Nodup ∧
      ∀ p, p ∈ (List.range n).flatMap (fun i => (List.range i).map (fun j => (i, j))) ↔ p.2 < p.1 ∧ p.1 < n := by
  rw [← allPairs_eq]; exact ⟨allPairs_nodup n, mem_allPairs n⟩

/-- If the header was written, the whole table is read. -/
theorem lib_weights_all_read (n : Nat) (w : Nat → Nat → Int) (f : Nat → WriteResult)
    (h : ∀ k, k < (hdrWrites n).length → ∀ c, f k ≠ .err c) :
    (lib n w f).wcalls = (List.range n).flatMap (fun i => (List.range i).map (fun j => (i, j))) := by
  rcases lib_weights_row_by_row n w f with ⟨_, k, hk, c, hc⟩ | h'
  · exact absurd hc (h k hk c)
  · exact h'

example (n : Nat) : ∀ k, k < (hdrWrites n).length → ∀ c, noFaults k ≠ .err c := by intro k _ c h; cases h

/-- **Only the domain matters.**  The result of `LIB` (bytes, error, number of `Write` calls) does not depend on
the values of `weights` outside `0 ≤ j < i < n`. -/
theorem lib_weights_extensional (n : Nat) (w w' : Nat → Nat → Int) (f : Nat → WriteResult)
    (h : ∀ i j, j < i → i < n → w i j = w' i j) : lib n w f = lib n w' f := by
  rw [lib_unfold, lib_unfold, body_congr n w w' h]

example : ∀ i j, j < i → i < 5 → (fun i j => (i * j : Int)) i j = (fun i j => if j < i then (i * j : Int) else 7) i j := by
  intro i j h _; simp [h]

/-- Writing the rows into the tabwriter never reaches the underlying writer (no line has exactly one cell, so
`Write` never flushes): the writer state after the row loops is the one before, for every fault function. -/
theorem lib_rows_buffered (f : Nat → WriteResult) (w : Nat → Nat → Int) (k i : Nat) (s : W) :
    (rows f w k i ⟨TW.new, s, []⟩).w = s := by
  simp [TW.new, rows_eq]

/-- **Every failing `Write` is reported.**  For every fault function `f` (any position, transient or permanent,
with or without a short count): if any of the `Write` calls `LIB` made on the underlying writer returned an
error, `LIB` returns a non-nil error. -/
theorem lib_reports_failure (n : Nat) (w : Nat → Nat → Int) (f : Nat → WriteResult) :
    (∃ k, k < (lib n w f).calls ∧ ∃ c, f k = .err c) → (lib n w f).err ≠ none := by
  intro ⟨k, hk, c, hc⟩ h
  exact lib_clean n w f h k (Nat.zero_le _) hk c hc

example : ∃ k, k < (lib 0 (fun _ _ => 0) (fun _ => .err 0)).calls ∧ ∃ c, (fun _ : Nat => WriteResult.err 0) k = .err c :=
  ⟨0, (by rw [lib_unfold]; simp [writeAll, hdrWrites, hdrSegs, Gen.Tsp.found_header, Gen.Tsp.hdrWrites, write, Res.of]), 0, rfl⟩

/-- The same for writers that honour the `io.Writer` contract (a short count comes with an error, i.e. no
`shortNil`): any attempted `Write` whose result is not `ok` makes `LIB` return a non-nil error. -/
theorem lib_reports_failure_of_contract (n : Nat) (w : Nat → Nat → Int) (f : Nat → WriteResult)
    (hs : ∀ k c, f k ≠ .shortNil c) :
    (∃ k, k < (lib n w f).calls ∧ f k ≠ .ok) → (lib n w f).err ≠ none := by
  intro ⟨k, hk, hne⟩
  apply lib_reports_failure
  refine ⟨k, hk, ?_⟩
  cases hf : f k with
  | ok => exact absurd hf hne
  | err c => exact ⟨c, rfl⟩
  | shortNil c => exact absurd hf (hs k c)

example : (∀ k c, (fun _ : Nat => WriteResult.err 0) k ≠ .shortNil c) ∧
    ∃ k, k < (lib 0 (fun _ _ => 0) (fun _ => .err 0)).calls ∧ (fun _ : Nat => WriteResult.err 0) k ≠ .ok :=
  ⟨(by intro k c h; cases h), 0, (by rw [lib_unfold]; simp [writeAll, hdrWrites, hdrSegs, Gen.Tsp.found_header, Gen.Tsp.hdrWrites, write, Res.of]), (by intro h; cases h)⟩

/-- **No success for truncated output.**  For writers that honour the `io.Writer` contract: if `LIB` returns
`nil`, the writer received exactly the complete output (and the run is the fault-free run). -/
theorem lib_no_silent_truncation (n : Nat) (w : Nat → Nat → Int) (f : Nat → WriteResult)
    (hs : ∀ k c, f k ≠ .shortNil c) (h : (lib n w f).err = none) : lib n w f = lib n w noFaults := by
  -- every call made was answered `ok`, as by `noFaults`
  refine (lib_congr n w fun k hk => ?_).symm
  cases hf : f k with
  | ok => rfl
  | err c => exact absurd hf (lib_clean n w f h k (Nat.zero_le _) hk c)
  | shortNil c => exact absurd hf (hs k c)

example (n : Nat) (w : Nat → Nat → Int) : (∀ k c, noFaults k ≠ .shortNil c) ∧ (lib n w noFaults).err = none :=
  ⟨(by intro k c h; cases h), (lib_output n w).1⟩

/-- Conversely no spurious error: if every `Write` of the complete run succeeds, `LIB` returns `nil` (and the run
is the fault-free run). -/
theorem lib_no_spurious_error (n : Nat) (w : Nat → Nat → Int) (f : Nat → WriteResult)
    (h : ∀ k, k < (lib n w noFaults).calls → f k = .ok) : (lib n w f).err = none := by
  rw [lib_congr n w h]; exact (lib_output n w).1

example (n : Nat) (w : Nat → Nat → Int) : ∀ k, k < (lib n w noFaults).calls → noFaults k = .ok := fun _ _ => rfl

end Tsp
