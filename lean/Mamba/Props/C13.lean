import Mamba.Lemmas.DawgSearchQuery
import Mamba.Lemmas.DawgSearchMultiset
import Mamba.Drv.C13
/-!
# Property C13 — DAWG search returns exactly the matching words with their ranks, in order; searchers restored

Definitions the theorems talk about (all executable, all run by the driver `Drv/C13.lean`):
`search` (explicit stacks, as coded) / `searchRec` (structural recursion) over `build ws`, `goOps` (dynamic
dispatch to `PatternSearcher` / `AnagramSearcher`), `newPatternSearcher`, `newAnagramSearcher`.
Specification side: `rankFilter acc ws 0` = the words of `ws` satisfying `acc`, in order, each with its position;
`patternMatches`, `anagramMatches`.

Generic layer (`Lemmas/DawgSearchSpec`): a searcher is described by a `Spec` (`R rp s`: `s` is a legitimate state
after the path `rp.reverse`; `A`, `W`: the answers of `AllowStep` / `AllowWord` as functions of the path) and
`Lawful ops sp` states that the interface functions behave accordingly (in particular `Backstep` after `Step`
leads back to a legitimate state for the shorter path, and `AllowStep` is the predicate `A`).
-/
namespace DawgSearch

/-- The trie of a strictly increasing word list stores exactly these words, in this (depth-first) order. -/
theorem build_words (ws : List Word) (h : List.Pairwise (· < ·) ws) : (build ws).words = ws :=
  (build_spec ws h).1

/-- … and every node's `numWords` is the number of words below it. -/
theorem build_wf (ws : List Word) (h : List.Pairwise (· < ·) ws) : (build ws).WF :=
  (build_spec ws h).2

/-- `NumberOfWords` of the built automaton. -/
theorem build_numWords (ws : List Word) (h : List.Pairwise (· < ·) ws) : (build ws).numWords = ws.length := by
  rw [(build_wf ws h).numWords_eq, build_words ws h]

example : List.Pairwise (· < ·) ([[], [1], [1, 2], [2]] : List Word) := by decide

/-- The check the driver applies to the word list of a request (adjacent words increasing, the order of
`bytes.Compare`) is the hypothesis `List.Pairwise (· < ·)` of the theorems below. -/
theorem driver_sorted_check : ∀ (ws : List Word), Drv.C13.strictlySorted ws = true → List.Pairwise (· < ·) ws
  | [], _ => List.Pairwise.nil
  | [a], _ => by simp
  | a :: b :: r, h => by
    simp only [Drv.C13.strictlySorted, Bool.and_eq_true, decide_eq_true_eq] at h
    exact pairwise_cons_of_lt_head h.1 (driver_sorted_check (b :: r) h.2)

example : Drv.C13.strictlySorted [[], [1], [1, 2], [2]] = true := by decide

/-- `Search` as coded (three explicit stacks, `continue toCheckLoop`, fuel) computes the structurally recursive
search, for every automaton, every list of searchers (lawful or not: also the same panics) and every fuel of at
least `2 * size` iterations — in particular the fuel the driver uses suffices. -/
theorem search_eq_searchRec {σ : Type} (ops : Ops σ) (t : Node) (ss : List σ) (fuel : Nat)
    (hf : searchFuel t ≤ fuel) : searchFuelled ops fuel t ss = searchRec ops t ss := by
  simp only [searchFuelled, searchRec, searchRS_eq_searchRecRS ops t ss fuel hf]

example (t : Node) : searchFuel t ≤ searchFuel t := Nat.le_refl _

/-- For every automaton whose `numWords` fields are right and every list of lawful searchers in legitimate
initial states: the recursive search returns exactly the words accepted by all searchers, in the automaton's
order, each with its rank, does not panic, and leaves every searcher in a legitimate state for the empty path. -/
theorem searchRec_spec {σ : Type} {ops : Ops σ} {specs : List (Spec σ)}
    (hl : ∀ sp ∈ specs, Lawful ops sp) (t : Node) (hwf : t.WF) (ss : List σ) (h : RAll specs [] ss) :
    ∃ ss', searchRec ops t ss = .ok (rankFilter (accAllFrom specs []) t.words 0, ss') ∧ RAll specs [] ss' := by
  obtain ⟨ss', h1, h2⟩ := visitNode_spec hl t hwf [] (-1) ss [] h
  refine ⟨ss', ?_, h2⟩
  have h0 : (-1 : Int) + 1 = 0 := rfl
  simp only [searchRec, searchRecRS, h1, Outcome.bind_ok, Outcome.pure_eq, h0, emit_nil_path, List.append_nil,
    List.reverse_reverse]

/-- The same for `Search` as coded, with any sufficient fuel: no panic, no fuel exhaustion, exactly the accepted
words with their ranks, in order. -/
theorem search_spec {σ : Type} {ops : Ops σ} {specs : List (Spec σ)}
    (hl : ∀ sp ∈ specs, Lawful ops sp) (t : Node) (hwf : t.WF) (ss : List σ) (h : RAll specs [] ss)
    (fuel : Nat) (hf : searchFuel t ≤ fuel) :
    ∃ ss', searchFuelled ops fuel t ss = .ok (rankFilter (accAllFrom specs []) t.words 0, ss')
      ∧ RAll specs [] ss' := by
  rw [search_eq_searchRec ops t ss fuel hf]
  exact searchRec_spec hl t hwf ss h

-- non-vacuity: the hypotheses are satisfiable (one pattern searcher and one anagram searcher on a real trie)
example : ∃ ss, newAll [.pattern [1, 63] 63, .anagram [2, 1] 63] = .ok ss ∧
    RAll ([Query.pattern [1, 63] 63, Query.anagram [2, 1] 63].map Query.spec) [] ss ∧
    (∀ sp ∈ [Query.pattern [1, 63] 63, Query.anagram [2, 1] 63].map Query.spec, Lawful goOps sp) ∧
    (build [[1], [1, 2], [2]]).WF :=
  let ⟨ss, h1, h2⟩ := newAll_spec [.pattern [1, 63] 63, .anagram [2, 1] 63]
  ⟨ss, h1, h2, Query.specs_lawful _, build_wf _ (by decide)⟩

/-- `rankFilter acc ws 0` is the sub-list of `(word, position)` pairs whose word satisfies `acc`. -/
theorem rankFilter_eq (acc : Word → Bool) (ws : List Word) :
    rankFilter acc ws 0 = (ws.zipIdx.filter (fun p => acc p.1)).map (fun p => (p.1, (p.2 : Int))) :=
  rankFilter_eq_zipIdx acc ws 0

/-- `PatternSearcher`: `Backstep` undoes `Step` exactly. -/
theorem pattern_backstep_step (p : PatternSearcher) (b : UInt8) :
    (p.step b >>= PatternSearcher.backstep) = .ok p := by
  cases p with
  | mk pat bl idx =>
    simp only [PatternSearcher.step, PatternSearcher.backstep, Outcome.bind_ok]
    congr 2
    exact Int.add_sub_cancel _ _

/-- `PatternSearcher` laws: the searcher returned by `NewPatternSearcher` is in a legitimate initial state, the
interface functions are lawful for it (so `search_spec` applies), and the words it accepts are exactly those
matching the pattern. -/
theorem pattern_searcher_laws (pat : List UInt8) (blank : UInt8) :
    (patternSpec pat blank).R [] (.pat (newPatternSearcher pat blank)) ∧
    Lawful goOps (patternSpec pat blank) ∧
    ∀ w, (patternSpec pat blank).accepts w = patternMatches blank pat w :=
  ⟨rfl, patternSpec_lawful pat blank, patternSpec_accepts pat blank⟩

/-- `patternMatches` is the condition of the property: same length, every position equal or blank. -/
theorem patternMatches_iff (blank : UInt8) : ∀ (pat : List UInt8) (w : Word),
    patternMatches blank pat w = true ↔
      w.length = pat.length ∧ ∀ i (h1 : i < pat.length) (h2 : i < w.length), pat[i] = blank ∨ pat[i] = w[i]
  | [], [] => by simp [patternMatches]
  | [], _ :: _ => by simp [patternMatches]
  | _ :: _, [] => by simp [patternMatches]
  | p :: ps, c :: w => by
    simp only [patternMatches, Bool.and_eq_true, Bool.or_eq_true, beq_iff_eq, patternMatches_iff blank ps w,
      List.length_cons, Nat.add_right_cancel_iff]
    constructor
    · rintro ⟨h0, hl, h⟩
      refine ⟨hl, fun i h1 h2 => ?_⟩
      cases i with
      | zero => simpa using h0
      | succ i => simpa using h i (Nat.lt_of_succ_lt_succ h1) (Nat.lt_of_succ_lt_succ h2)
    · rintro ⟨hl, h⟩
      refine ⟨by simpa using h 0 (Nat.succ_pos _) (Nat.succ_pos _), hl, fun i h1 h2 => ?_⟩
      have := h (i + 1) (Nat.succ_lt_succ h1) (Nat.succ_lt_succ h2)
      simp only [List.getElem_cons_succ] at this
      exact this

/-- `AnagramSearcher` laws: `NewAnagramSearcher` (its `sort.Slice` call as modelled by `quirkSort`, of which the proof
uses only that it permutes) does not panic and returns a searcher in a legitimate initial state; the interface functions are lawful for it — in
particular `Backstep` after `Step` restores blanks, `currPath` and every per-letter total; and the words it accepts
are exactly those satisfying the anagram condition. -/
theorem anagram_searcher_laws (anagram : List UInt8) (blank : UInt8) :
    let sp := anagramSpec (anagramLetters blank anagram) (anagramBlanks blank anagram) blank anagram.length
    (∃ a0, newAnagramSearcher anagram blank = .ok a0 ∧ sp.R [] (.ana a0)) ∧
    Lawful goOps sp ∧
    ∀ w, sp.accepts w = anagramMatches blank anagram w := by
  refine ⟨newAnagramSearcher_spec anagram blank,
    anagramSpec_lawful _ _ _ _ (blank_not_mem_anagramLetters blank anagram), fun w => ?_⟩
  exact (Query.anagram anagram blank).spec_accepts w

/-- `anagramMatches` is the condition of the property: same length, and the multiset of letters of `w` minus the
multiset of non-blank letters of the anagram has at most as many elements as the anagram has blanks. -/
theorem anagramMatches_iff (blank : UInt8) (anagram : List UInt8) (w : Word) :
    anagramMatches blank anagram w = true ↔
      w.length = anagram.length ∧
      Multiset.card ((w : Multiset UInt8) - ((anagram.filter (· != blank) : List UInt8) : Multiset UInt8))
        ≤ (anagram.filter (· == blank)).length := by
  simp only [anagramMatches, Bool.and_eq_true, beq_iff_eq, decide_eq_true_eq, deficit_eq_card_sub]

/-- For every strictly increasing word list and every list of pattern / anagram searchers: creating the searchers
does not panic, and `Search` on the automaton of the word list (no panic, fuel sufficient) returns exactly
`[(w, rank w) | w ∈ ws, every searcher's condition holds for w]` in order. -/
theorem search_queries_spec (ws : List Word) (hws : List.Pairwise (· < ·) ws) (qs : List Query) :
    ∃ ss, newAll qs = .ok ss ∧
      ∃ ss', search goOps (build ws) ss = .ok (rankFilter (fun w => qs.all (·.matches w)) ws 0, ss') := by
  obtain ⟨ss, h1, h2⟩ := newAll_spec qs
  obtain ⟨ss', h3, _⟩ := search_spec (Query.specs_lawful qs) (build ws) (build_wf ws hws) ss h2 _ (Nat.le_refl _)
  refine ⟨ss, h1, ss', ?_⟩
  rw [search, h3, build_words ws hws]
  congr 3
  funext w
  exact accAllFrom_queries qs w

/-- After a `Search` the searchers are back in their initial state: pattern searchers literally, anagram searchers
up to the distribution of a letter's count over several entries for that same letter (blanks, `currPath` and every
per-letter total are as before) … -/
theorem search_restores_searchers (ws : List Word) (hws : List.Pairwise (· < ·) ws) (qs : List Query)
    (ss : List SState) (hss : newAll qs = .ok ss) (res : List (Word × Int)) (ss' : List SState)
    (h : search goOps (build ws) ss = .ok (res, ss')) : EquivAll ss ss' := by
  obtain ⟨ss0, h1, h2⟩ := newAll_spec qs
  rw [hss] at h1
  cases h1
  obtain ⟨ss1, h3, h4⟩ := search_spec (Query.specs_lawful qs) (build ws) (build_wf ws hws) ss h2 _ (Nat.le_refl _)
  rw [search, h3] at h
  cases h
  exact RAll_equiv qs [] ss ss' h2 h4

/-- … so that repeating the search with the same searcher objects (any number of times) gives the same result. -/
theorem search_repeat (ws : List Word) (hws : List.Pairwise (· < ·) ws) (qs : List Query)
    (ss : List SState) (hss : newAll qs = .ok ss) (res : List (Word × Int)) (ss' : List SState)
    (h : search goOps (build ws) ss = .ok (res, ss')) :
    ∃ ss'', search goOps (build ws) ss' = .ok (res, ss'') ∧ EquivAll ss ss'' := by
  obtain ⟨ss0, h1, h2⟩ := newAll_spec qs
  rw [hss] at h1
  cases h1
  obtain ⟨ss1, h3, h4⟩ := search_spec (Query.specs_lawful qs) (build ws) (build_wf ws hws) ss h2 _ (Nat.le_refl _)
  rw [search, h3] at h
  cases h
  obtain ⟨ss2, h5, h6⟩ := search_spec (Query.specs_lawful qs) (build ws) (build_wf ws hws) ss' h4 _ (Nat.le_refl _)
  exact ⟨ss2, by rw [search, h5], RAll_equiv qs [] ss ss2 h2 h6⟩

/-- A pattern searcher is literally restored. -/
theorem search_restores_pattern_searcher (ws : List Word) (hws : List.Pairwise (· < ·) ws)
    (pat : List UInt8) (blank : UInt8) (res : List (Word × Int)) (ss' : List SState)
    (h : search goOps (build ws) [.pat (newPatternSearcher pat blank)] = .ok (res, ss')) :
    ss' = [.pat (newPatternSearcher pat blank)] := by
  have := search_restores_searchers ws hws [.pattern pat blank] _ rfl res ss' h
  match ss', this with
  | [t], hh => rw [hh.1.pat_eq]
  | [], hh => exact hh.elim
  | _ :: _ :: _, hh => exact hh.2.elim

end DawgSearch
