import Mamba.Model.Codec
import Mamba.Spec.Formats
import Mamba.Lemmas.CodecG6
import Mamba.Lemmas.CodecS6Dec
import Mamba.Lemmas.CodecS6Enc
/-!
# C08 — text decoders are total: malformed input gives an error, never a crash

`g6Decode s`/`s6Decode s` of the model return `.ok none` for an error return, `.ok (some g)` for a graph, `.panic` where
the Go code would index out of range / call `panic`, `.outOfFuel` if a loop did not finish within its fuel.
The theorems quantify over **all** byte strings (`Array Nat`, not even restricted to values below 256).
-/
namespace Codec
namespace C08
open Formats GraphSpec

/-- **g6Decode_total.** `Graph6Decode` never panics and never runs out of fuel; when it succeeds, the result is a
well-formed `DenseGraph` (array sizes, `DegreeSequence` and `NumberOfEdges` agree with the adjacency) whose number of
vertices is the one the size header of the string (after the optional `>>graph6<<`) declares — `0` for the empty
string. -/
theorem g6Decode_total (s : Bytes) :
    g6Decode s ≠ .panic ∧ g6Decode s ≠ .outOfFuel ∧
    ∀ d, g6Decode s = .ok (some d) → d.WF ∧ d.toG.WF ∧
      ((if hasPrefix s g6Magic then dropBytes s 10 else s).size = 0 ∧ d.n = 0 ∨
        ∃ rest, readN (if hasPrefix s g6Magic then dropBytes s 10 else s).toList = some (d.n, rest)) := by
  rw [g6Decode_eq_core]
  obtain ⟨h1, h2, h3⟩ := g6DecodeCore_total (if hasPrefix s g6Magic then dropBytes s 10 else s)
  exact ⟨h1, h2, fun d hd => ⟨(h3 d hd).1, Dense.toG_wf d, (h3 d hd).2.2.2⟩⟩

/-- **decode_reencode_stable (graph6).** Whenever `Graph6Decode` succeeds, re-encoding the result and decoding again
gives the same `DenseGraph` value. -/
theorem g6_decode_reencode_stable (s : Bytes) (d : Dense) (h : g6Decode s = .ok (some d)) :
    ∃ a, g6Encode (GI.ofDense d) = .ok a ∧ g6Decode a = .ok (some d) := by
  rw [g6Decode_eq_core] at h
  obtain ⟨hwf, h01, hn, _⟩ := (g6DecodeCore_total _).2.2 d h
  -- the decoder has refused `n > 2^32`, so the triangle size fits Go's `int`
  have htri : (GI.ofDense d).n * ((GI.ofDense d).n - 1) / 2 < 2 ^ 63 := by
    have : tri d.n ≤ tri 4294967296 := tri_mono hn
    have h2 : tri 4294967296 = 9223372034707292160 := by decide
    show tri d.n < _
    omega
  obtain ⟨a, ha, hdec, _⟩ := g6_roundtrip_denseOf (GI.ofDense d) (Dense.toG_wf d) htri
  refine ⟨a, ha, ?_⟩
  rw [hdec, show (GI.ofDense d).toG = d.toG from rfl, denseOf_toG d hwf h01]

/-- non-vacuity: the hypothesis is satisfiable (the graph6 string of K2 decodes) -/
example : ∃ s d, g6Decode s = .ok (some d) := by
  obtain ⟨a, _, hd, _⟩ := g6_roundtrip_denseOf (GI.ofG (ofEdges 2 [(0, 1)])) (ofEdges_wf 2 [(0, 1)]) (by decide)
  exact ⟨a, _, hd⟩

/-- **s6Decode_total.** `Sparse6Decode` never panics (no index out of range in the bit cursor, in `AddEdge`, …) and
its stream loop finishes within its fuel (it consumes `k+1 ≥ 1` bits per round); when it succeeds, the result is a
well-formed `SparseGraph` (strictly increasing, symmetric, loop-free neighbour lists inside `0..n-1`; degrees and
edge count agree) whose number of vertices is the one the size header declares (the string after the optional
`>>sparse6<<` is read by the format's reader `s6DecodeSpec`). -/
theorem s6Decode_total (s : Bytes) :
    s6Decode s ≠ .panic ∧ s6Decode s ≠ .outOfFuel ∧
    ∀ g, s6Decode s = .ok (some g) → g.WF ∧
      ∃ es, s6DecodeSpec (if hasPrefix s s6Magic then s.toList.drop 11 else s.toList) = some (g.n, es) :=
  Codec.s6Decode_total s

/-- **decode_reencode_stable (sparse6).** Whenever `Sparse6Decode` succeeds, re-encoding the result and decoding again
gives the same `SparseGraph` value. -/
theorem s6_decode_reencode_stable (s : Bytes) (g : Sparse) (h : s6Decode s = .ok (some g)) :
    ∃ a, s6Encode (GI.ofSparse g) = .ok a ∧ s6Decode a = .ok (some g) := by
  obtain ⟨hwf, es, hes⟩ := (Codec.s6Decode_total s).2.2 g h
  have hn := s6DecodeSpec_n_lt _ _ _ hes
  obtain ⟨a, ha, h0, _, hsp⟩ := Codec.s6_spec_decodes (GI.ofSparse g) (ofSparse_sound g hwf) (by show g.n ≤ _; omega)
  refine ⟨a, ha, ?_⟩
  rw [sp_ofSparse_toG g hwf] at hsp
  rw [(s6_roundtrip_of_spec g.toG hwf.toG_wf a h0 hsp).1, sparseOf_toG g hwf]

/-- non-vacuity: the hypothesis is satisfiable (the sparse6 string of K2 decodes) -/
example : ∃ s g, s6Decode s = .ok (some g) := by
  obtain ⟨a, _, h2, _, h4⟩ := Codec.s6_spec_decodes (GI.ofG (ofEdges 2 [(0, 1)]))
    (ofG_sound _ (ofEdges_wf 2 [(0, 1)])) (by decide)
  exact ⟨a, _, (s6_roundtrip_of_spec _ (ofEdges_wf 2 [(0, 1)]) a h2 h4).1⟩

end C08
end Codec
