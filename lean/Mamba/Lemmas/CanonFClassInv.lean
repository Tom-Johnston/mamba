import Mamba.Lemmas.CanonFSemantic
import Mamba.Lemmas.CanonFClassQ
/-!
# Invariance of the canonical form under relabelling, with vertex classes (faithful model `Model/CanonF.lean`)

If `σ` is an isomorphism `g → g'` that maps the `k`-th vertex class of `g` into the `k`-th vertex class of `g'`, the two
runs of `CanonicalIsomorph` return permutations with the same certificate, hence the same relabelled graph.
-/
namespace CanonF
open GraphSpec

theorem new_bdLen_classes {n m : Nat} {cls : List (List Nat)} {op0 : OP} (hn : 0 < n) (hc : ClassesOK n (some cls))
    (h : newOrderedPartition n m (some cls) = .ok (some op0)) : op0.binDividers.len = cls.length := by
  obtain ⟨op', h', hs, _⟩ := new_spec (m := m) hn hc
  rw [h] at h'
  obtain rfl : op0 = op' := Option.some.inj (Outcome.ok.inj h')
  rw [hs.bdLen]
  simp [bdL]

theorem cellOf_classes {n m : Nat} {cls : List (List Nat)} {op0 : OP} (hn : 0 < n) (hc : ClassesOK n (some cls))
    (h : newOrderedPartition n m (some cls) = .ok (some op0)) :
    ∀ (k : Nat) (c : List Nat), cls[k]? = some c → ∀ v ∈ c, cellOf op0 v = k := by
  intro k c hk v hv
  have hin : ∀ (k : Nat) (c : List Nat), cls[k]? = some c → ∀ v ∈ c, op0.inCell.toList[v]? = some k :=
    new_inCell_classes hn hc h
  unfold cellOf
  rw [hin k c hk v hv]; rfl

theorem canonF_canon_invariant_classes_full (fuel fuel' : Nat) (g g' : G) (hg : g.WF) (hg' : g'.WF) (hn : g.n ≠ 0)
    {σ τ : Nat → Nat} (R : IR.Relabel (IR.ofSpec g) (IR.ofSpec g') σ τ) (cls cls' : List (List Nat))
    (hvc : ClassesOK g.n (some cls)) (hvc' : ClassesOK g'.n (some cls')) (hlen : cls'.length = cls.length)
    (hcls : ∀ (k : Nat) (c c' : List Nat), cls[k]? = some c → cls'[k]? = some c' → ∀ v, v ∈ c → σ v ∈ c')
    (r r' : Res) (h : canonicalIsomorphFull fuel g (some cls) = .ok r)
    (h' : canonicalIsomorphFull fuel' g' (some cls') = .ok r') :
    ∃ p p', r.perm = some p ∧ r'.perm = some p' ∧ p.Perm (List.range g.n) ∧ p'.Perm (List.range g'.n) ∧
      certPos (nbrsOf g') p' g'.n = certPos (nbrsOf g) p g.n ∧ g.induced p = g'.induced p' := by
  have hnn : g'.n = g.n := R.n_eq
  have hn' : g'.n ≠ 0 := by omega
  have hn0 : 0 < g.n := Nat.pos_of_ne_zero hn
  have hn0' : 0 < g'.n := Nat.pos_of_ne_zero hn'
  obtain ⟨op0, p, hnew, hp, hperm, hc⟩ := canonF_complete_full fuel g hg (some cls) hvc hn r h
  obtain ⟨op0', p', hnew', hp', hperm', hc'⟩ := canonF_complete_full fuel' g' hg' (some cls') hvc' hn' r' h'
  have hk : op0.binDividers.len = cls.length := new_bdLen_classes hn0 hvc hnew
  have hk' : op0'.binDividers.len = cls.length := by rw [new_bdLen_classes hn0' hvc' hnew', hlen]
  have hcell : ∀ v, v < (IR.ofSpec g).n → cellOf op0' (σ v) = cellOf op0 v := by
    intro v hv
    have hv' : v < g.n := hv
    have hvf : v ∈ cls.flatten := hvc.1.mem_iff.2 (List.mem_range.2 hv')
    obtain ⟨c, hcm, hvc0⟩ := List.mem_flatten.1 hvf
    obtain ⟨k, hkc⟩ := List.getElem?_of_mem hcm
    have hkl : k < cls'.length := by
      rw [hlen]; exact (List.getElem?_eq_some_iff.1 hkc).1
    have hkc' : cls'[k]? = some cls'[k] := List.getElem?_eq_getElem hkl
    rw [cellOf_classes hn0 hvc hnew k c hkc v hvc0,
      cellOf_classes hn0' hvc' hnew' k _ hkc' (σ v) (hcls k c _ hkc hkc' v hvc0)]
  have hcert : certPos (nbrsOf g') p' g'.n = certPos (nbrsOf g) p g.n := by
    rw [hc, hc']
    unfold irInit
    rw [hk, hk']
    exact IR.canonCertFrom_invariant R (IR.initSt_rel R cls.length hcell)
  refine ⟨p, p', hp, hp', hperm, hperm', hcert, ?_⟩
  apply ofSpec_inj (induced_supp g p) (induced_supp g' p')
  rw [ofSpec_induced_eq_ofCodes g hg p hperm, ofSpec_induced_eq_ofCodes g' hg' p' hperm', hcert, hnn]

end CanonF
