import Mamba.Lemmas.C06AddEdge
/-! C06: `MulticodeDecode` on the code of a graph. `multicodeOf g` (the byte `n`, then for every vertex but the last its
larger neighbours `mcRow g u`, each plus one, and a `0`) is defined here; it occurs in the statement of
`multicodeDecode_spec` (`Props/C06`). -/
namespace Construct
open GraphSpec

/-- one byte of the loop of `MulticodeDecode` -/
def mcStep (st : MultiSt) (b : Nat) : Outcome MultiSt :=
  if b == 0 then pure { st with cur := st.cur + 1 } else do
    let idx := ((b - 1) * (b - 2)) / 2 + st.cur
    let e ← setAt st.edges idx 1
    let d ← incrAt st.deg (b - 1)
    let d ← incrAt d st.cur
    pure { edges := e, deg := d, m := st.m + 1, cur := st.cur }

def MultiSt.dense (n : Nat) (st : MultiSt) : Dense := ⟨n, st.m, st.deg, st.edges⟩

/-- a non-zero byte `w + 1` read while the current vertex is `u < w` does exactly what `AddEdge(u, w)` does when the
edge is new -/
theorem mcStep_eq_addEdge (n : Nat) (st : MultiSt) (w : Nat) (hw : st.cur < w) (hwn : w < n)
    (hwf : (st.dense n).WF) (hnew : (st.dense n).abs.adj st.cur w = false) :
    ∃ st', mcStep st (w + 1) = .ok st' ∧ st'.cur = st.cur ∧ addEdge (st.dense n) st.cur w = .ok (st'.dense n) := by
  have hs : (st.dense n).edges.size = tri (st.dense n).n := hwf.size_edges
  have hds : st.deg.size = n := hwf.size_deg
  have hidx : tri w + st.cur < st.edges.size := by
    have : st.edges.size = tri n := hs
    rw [this]; exact tri_add_lt hw hwn
  have hadjF : (st.dense n).adjF st.cur w = false := by rw [← Dense.abs_adj _ hs]; exact hnew
  obtain ⟨d1, d2, e1, e2, _, g2⟩ := incrAt_two st.deg w st.cur (by omega) (by omega)
  obtain ⟨d1', d2', e1', e2', _, g2'⟩ := incrAt_two st.deg st.cur w (by omega) (by omega)
  -- the two increments commute
  have hdd : d2 = d2' := by
    apply Array.ext_getElem?
    intro x
    rw [g2 x, g2' x]
    congr 1; funext y; exact Int.add_right_comm _ _ _
  refine ⟨{ edges := st.edges.set (tri w + st.cur) 1, deg := d2, m := st.m + 1, cur := st.cur }, ?_, rfl, ?_⟩
  · have hb : (w + 1 == 0) = false := by simp
    simp only [mcStep, hb, Bool.false_eq_true, ↓reduceIte, Nat.add_sub_cancel]
    have : (w * (w + 1 - 2)) / 2 + st.cur = tri w + st.cur := by
      simp [tri, show w + 1 - 2 = w - 1 by omega]
    rw [this, setAt_ok _ hidx]
    simp only [Outcome.bind_ok, e1, e2]; rfl
  · rw [addEdge_unfold]
    have hne : (st.cur == w) = false := by simp; omega
    simp only [hne, Bool.false_eq_true, ↓reduceIte, Dense.isEdge_eq _ hs, hadjF, Outcome.bind_ok]
    have e1'' : incrAt (st.dense n).deg st.cur = .ok d1' := e1'
    rw [e1'']; simp only [Outcome.bind_ok]; rw [e2']; simp only [Outcome.bind_ok, hw, ↓reduceIte, tri_def]
    have hset : setAt (st.dense n).edges (tri w + st.cur) 1 = .ok (st.edges.set (tri w + st.cur) 1) := setAt_ok _ hidx
    rw [hset]; simp only [Outcome.bind_ok, MultiSt.dense, hdd]

/-- the larger neighbours of `u`, ascending -/
def mcRow (g : G) (u : Nat) : List Nat := (List.range' (u + 1) (g.n - (u + 1))).filter fun w => g.adj u w

/-- the multicode of a graph: `n`, then for each vertex but the last its larger neighbours (plus one) and a `0` -/
def multicodeOf (g : G) : List Nat :=
  g.n :: (List.range (g.n - 1)).flatMap fun u => (mcRow g u).map (· + 1) ++ [0]

theorem mcRow_fold (n : Nat) (ws : List Nat) (st : MultiSt) (hwf : (st.dense n).WF)
    (hws : ∀ w ∈ ws, st.cur < w ∧ w < n) (hnd : ws.Nodup)
    (hnew : ∀ w ∈ ws, (st.dense n).abs.adj st.cur w = false) :
    ∃ st', (ws.map (· + 1)).foldlM mcStep st = .ok st' ∧ st'.cur = st.cur ∧ (st'.dense n).WF ∧
      (st'.dense n).abs = (ws.map fun w => (st.cur, w)).foldl (fun g p => Families.addEdge g p.1 p.2) (st.dense n).abs := by
  induction ws generalizing st with
  | nil => exact ⟨st, rfl, rfl, hwf, rfl⟩
  | cons w t ih =>
    obtain ⟨h1, h2⟩ := hws w (by simp)
    have hnd' := List.nodup_cons.mp hnd
    obtain ⟨st1, e1, c1, a1⟩ := mcStep_eq_addEdge n st w h1 h2 hwf (hnew w (by simp))
    have hcur : st.cur < (st.dense n).n := by show st.cur < n; omega
    obtain ⟨d', e', w', n', abs'⟩ := addEdge_ok (st.dense n) hwf st.cur w hcur h2
    rw [a1] at e'; cases e'
    obtain ⟨st2, e2, c2, w2, a2⟩ := ih st1 w' (by rw [c1]; exact fun x hx => hws x (by simp [hx])) hnd'.2 (by
      intro x hx
      rw [abs', c1, addEdge_adj _ _ _ (by omega) hcur h2, hnew x (by simp [hx])]
      simp only [Bool.false_or]
      rw [Bool.eq_false_iff]; intro hp; rw [isPair_iff] at hp
      have hxw : x ≠ w := fun e => hnd'.1 (e ▸ hx)
      have := (hws x (by simp [hx])).1
      omega)
    refine ⟨st2, ?_, by omega, w2, ?_⟩
    · simp only [List.map_cons, List.foldlM_cons, e1, Outcome.bind_ok]; exact e2
    · rw [a2, abs', c1]; rfl

theorem mem_mcRow (g : G) (u w : Nat) : w ∈ mcRow g u ↔ u < w ∧ w < g.n ∧ g.adj u w = true :=
  GraphRep.mem_filter_adj_range'

theorem nodup_mcRow (g : G) (u : Nat) : (mcRow g u).Nodup :=
  (List.nodup_range').sublist List.filter_sublist

theorem mc_fold (gs : G) (hg : gs.WF) (k : Nat) (hk : k ≤ gs.n - 1) :
    ∃ st, ((List.range k).flatMap fun u => (mcRow gs u).map (· + 1) ++ [0]).foldlM mcStep
        { edges := zeros ((gs.n * (gs.n - 1)) / 2), deg := Array.replicate gs.n 0, m := 0, cur := 0 } = .ok st ∧
      st.cur = k ∧ (st.dense gs.n).WF ∧
      ∀ a b, a < b → (st.dense gs.n).abs.adj a b = (decide (a < k) && gs.adj a b) := by
  induction k with
  | zero =>
    refine ⟨_, rfl, rfl, (newDenseNil_wf gs.n).1, ?_⟩
    intro a b _
    have := (newDenseNil_wf gs.n).2
    simp only [MultiSt.dense]
    rw [show (⟨gs.n, 0, Array.replicate gs.n 0, zeros ((gs.n * (gs.n - 1)) / 2)⟩ : Dense) = newDenseNil gs.n from rfl, this]
    simp
  | succ k ih =>
    obtain ⟨st, e, c, w, q⟩ := ih (by omega)
    have hk' : k < gs.n := by omega
    obtain ⟨st1, e1, c1, w1, a1⟩ := mcRow_fold gs.n (mcRow gs k) st w
      (by intro x hx; rw [c]; have := (mem_mcRow gs k x).mp hx; omega) (nodup_mcRow gs k)
      (by
        intro x hx
        have := (mem_mcRow gs k x).mp hx
        rw [c, q k x this.1]; simp)
    refine ⟨{ st1 with cur := st1.cur + 1 }, ?_, by simp only; omega, w1, ?_⟩
    · rw [List.range_succ, List.flatMap_append, List.foldlM_append, e]
      simp only [Outcome.bind_ok, List.flatMap_cons, List.flatMap_nil, List.append_nil, List.foldlM_append, e1,
        List.foldlM_cons, List.foldlM_nil, mcStep, beq_self_eq_true, ↓reduceIte, Outcome.pure_eq]
    · intro a b hab
      show (st1.dense gs.n).abs.adj a b = _
      rw [a1, foldl_addEdge _ _ (by
        intro p hp
        simp only [List.mem_map] at hp
        obtain ⟨x, hx, rfl⟩ := hp
        have := (mem_mcRow gs k x).mp hx
        exact ⟨by show st.cur < gs.n; omega, this.2.1⟩)]
      show ((st.dense gs.n).abs.adj a b || _) = _
      rw [q a b hab, List.any_map, Bool.eq_iff_iff]
      simp only [Bool.or_eq_true, Bool.and_eq_true, decide_eq_true_eq, List.any_eq_true, Function.comp, bne_iff_ne, ne_eq,
        isPair_iff, c]
      constructor
      · rintro (⟨h1, h2⟩ | ⟨x, hx, hne, h⟩)
        · exact ⟨by omega, h2⟩
        · have hm := (mem_mcRow gs k x).mp hx
          rcases h with ⟨rfl, rfl⟩ | ⟨rfl, rfl⟩
          · exact ⟨by omega, hm.2.2⟩
          · omega
      · rintro ⟨h1, h2⟩
        by_cases hak : a < k
        · exact Or.inl ⟨hak, h2⟩
        · have hak' : a = k := by omega
          subst hak'
          exact Or.inr ⟨b, (mem_mcRow gs a b).mpr ⟨hab, (hg.supp a b h2).2, h2⟩, by omega, Or.inl ⟨rfl, rfl⟩⟩

theorem multicodeDecode_ok (gs : G) (hg : gs.WF) :
    ∃ d, multicodeDecode (multicodeOf gs) = .ok d ∧ d.WF ∧ d.abs = gs := by
  obtain ⟨st, e, c, w, q⟩ := mc_fold gs hg (gs.n - 1) (Nat.le_refl _)
  refine ⟨st.dense gs.n, ?_, w, ?_⟩
  · unfold multicodeDecode multicodeOf
    have : (fun (st : MultiSt) (b : Nat) => (if b == 0 then pure { st with cur := st.cur + 1 } else do
          let idx := ((b - 1) * (b - 2)) / 2 + st.cur
          let e ← setAt st.edges idx 1
          let d ← incrAt st.deg (b - 1)
          let d ← incrAt d st.cur
          pure { edges := e, deg := d, m := st.m + 1, cur := st.cur } : Outcome MultiSt)) = mcStep := rfl
    simp only [this, e, Outcome.bind_ok]
    have hcond : (decide (gs.n > 0) && decide (st.cur ≠ gs.n - 1)) = false := by
      rw [Bool.and_eq_false_iff]; right; simp [c]
    simp only [hcond, Bool.false_eq_true, ↓reduceIte]; rfl
  · refine (Dense.abs_wf _ w.size_edges).ext_lt hg rfl fun a b hab => ?_
    rw [q a b hab]
    by_cases ha : a < gs.n - 1
    · simp [ha]
    · have : gs.adj a b = false := by
        rw [Bool.eq_false_iff]; intro h; have := hg.supp a b h; omega
      simp [this]

end Construct
