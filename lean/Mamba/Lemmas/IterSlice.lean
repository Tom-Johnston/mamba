import Mamba.Model.IterBase
/-! Index facts about `get` / `set` on slices: at a natural-number index, at the split point of `pre ++ a :: suf`, one
and two positions behind it, at the last position, and read-after-write. -/
namespace Iter

theorem get_natCast (a : Sl) (i : Nat) :
    get a (i : Int) = if h : i < a.length then .ok a[i] else .panic := by
  unfold get
  have : ¬ ((i : Int) < 0) := by omega
  simp only [this, if_false, Int.toNat_natCast]
  split
  · next h =>
    obtain ⟨hl, rfl⟩ := List.getElem?_eq_some_iff.mp h
    simp [hl]
  · next h =>
    have hl := List.getElem?_eq_none_iff.mp h
    simp [Nat.not_lt.mpr hl]

theorem set_natCast (a : Sl) (i : Nat) (v : Int) :
    set a (i : Int) v = if i < a.length then .ok (a.set i v) else .panic := by
  unfold set
  have : ¬ ((i : Int) < 0) := by omega
  simp [this]

@[simp] theorem get_append_length (pre suf : Sl) (a : Int) :
    get (pre ++ a :: suf) (pre.length : Int) = .ok a := by
  simp [get_natCast]

@[simp] theorem set_append_length (pre suf : Sl) (a v : Int) :
    set (pre ++ a :: suf) (pre.length : Int) v = .ok (pre ++ v :: suf) := by
  simp [set_natCast]

theorem get_at (pre suf : Sl) (a : Int) (i : Int) (h : i = pre.length) :
    get (pre ++ a :: suf) i = .ok a := by subst h; simp

theorem set_at (pre suf : Sl) (a v : Int) (i : Int) (h : i = pre.length) :
    set (pre ++ a :: suf) i v = .ok (pre ++ v :: suf) := by subst h; simp

theorem get_neg (a : Sl) (i : Int) (h : i < 0) : get a i = .panic := by
  simp [get, h]

/-- Callers `clear` the hypothesis they pass: left in the context, its `(p ++ [a]).length` is one more term that
every later `omega` compares with all other lengths. -/
theorem exists_snoc_of_length_succ {l : List Int} {j : Nat} (h : l.length = j + 1) :
    ∃ p a, l = p ++ [a] ∧ p.length = j :=
  ⟨l.dropLast, l.getLast (by intro h0; simp [h0] at h), (List.dropLast_concat_getLast _).symm, by simp [h]⟩

theorem get_at1 (p s : Sl) (a x : Int) (i : Int) (h : i = p.length + 1) : get (p ++ a :: x :: s) i = .ok x := by
  rw [List.append_cons]; exact get_at _ _ _ _ (by simp [h])

theorem set_at1 (p s : Sl) (a x v : Int) (i : Int) (h : i = p.length + 1) :
    set (p ++ a :: x :: s) i v = .ok (p ++ a :: v :: s) := by
  rw [List.append_cons, List.append_cons p a (v :: s)]; exact set_at _ _ _ _ _ (by simp [h])

theorem set_at2 (p s : Sl) (a b x v : Int) (i : Int) (h : i = p.length + 2) :
    set (p ++ a :: b :: x :: s) i v = .ok (p ++ a :: b :: v :: s) := by
  rw [List.append_cons, List.append_cons p a (b :: v :: s)]; exact set_at1 _ _ _ _ _ _ (by simp [h]; omega)

theorem get_at_last2 (p m : Sl) (a b z : Int) (i : Int) (h : i = p.length + 2 + m.length) :
    get (p ++ a :: b :: (m ++ [z])) i = .ok z := by
  rw [show p ++ a :: b :: (m ++ [z]) = (p ++ a :: b :: m) ++ z :: [] from (List.append_assoc p (a :: b :: m) [z]).symm]
  exact get_at _ _ _ _ (by simp [h]; omega)

theorem set_at_last2 (p m : Sl) (a b z v : Int) (i : Int) (h : i = p.length + 2 + m.length) :
    set (p ++ a :: b :: (m ++ [z])) i v = .ok (p ++ a :: b :: (m ++ [v])) := by
  rw [show p ++ a :: b :: (m ++ [z]) = (p ++ a :: b :: m) ++ z :: [] from (List.append_assoc p (a :: b :: m) [z]).symm,
    show p ++ a :: b :: (m ++ [v]) = (p ++ a :: b :: m) ++ v :: [] from (List.append_assoc p (a :: b :: m) [v]).symm]
  exact set_at _ _ _ _ _ (by simp [h]; omega)

theorem get_last (pre : Sl) (x : Int) : get (pre ++ [x]) (((pre ++ [x]).length : Int) - 1) = .ok x :=
  get_at pre [] x _ (by simp)

theorem set_last (pre : Sl) (x v : Int) : set (pre ++ [x]) (((pre ++ [x]).length : Int) - 1) v = .ok (pre ++ [v]) :=
  set_at pre [] x v _ (by simp)

theorem get_ok_iff (a : Sl) (i w : Int) : get a i = .ok w ↔ 0 ≤ i ∧ a[i.toNat]? = some w := by
  unfold get
  by_cases h : i < 0
  · simp only [h, if_true, reduceCtorEq, false_iff, not_and]
    omega
  · simp only [h, if_false]
    cases a[i.toNat]? with
    | none => simp
    | some v => simp; omega

theorem get_lt_length (l : Sl) (x v : Int) (h : get l x = .ok v) : 0 ≤ x ∧ x.toNat < l.length := by
  obtain ⟨h0, h1⟩ := (get_ok_iff l x v).mp h
  exact ⟨h0, (List.getElem?_eq_some_iff.mp h1).1⟩

theorem set_get_self (l : Sl) (x v : Int) (h : get l x = .ok v) : l.set x.toNat v = l := by
  obtain ⟨hl, he⟩ := List.getElem?_eq_some_iff.mp ((get_ok_iff l x v).mp h).2
  rw [← he]; exact List.set_getElem_self hl

theorem set_ok (l : Sl) (x v : Int) (h0 : 0 ≤ x) (h : x.toNat < l.length) :
    set l x v = .ok (l.set x.toNat v) := by
  have : ¬ x < 0 := by omega
  simp [set, this, h]

theorem get_set_eq (l : Sl) (x v : Int) (h0 : 0 ≤ x) (h : x.toNat < l.length) :
    get (l.set x.toNat v) x = .ok v := by
  have : ¬ x < 0 := by omega
  simp [get, this, h]

theorem get_set_ne (l : Sl) (x y v : Int) (h0 : 0 ≤ x) (hne : y ≠ x) :
    get (l.set x.toNat v) y = get l y := by
  unfold get
  by_cases hy : y < 0
  · simp [hy]
  · have : x.toNat ≠ y.toNat := by omega
    simp [hy, List.getElem?_set_ne this]

theorem set_spec (a : Sl) (i v w : Int) (h : get a i = .ok w) :
    ∃ a', set a i v = .ok a' ∧ a'.length = a.length ∧
      ∀ e, get a' e = if e = i then .ok v else get a e := by
  obtain ⟨h0, hlt⟩ := get_lt_length a i w h
  refine ⟨a.set i.toNat v, set_ok a i v h0 hlt, by simp, fun e => ?_⟩
  split
  · next he => rw [he]; exact get_set_eq a i v h0 hlt
  · next he => exact get_set_ne a i e v h0 he

end Iter
