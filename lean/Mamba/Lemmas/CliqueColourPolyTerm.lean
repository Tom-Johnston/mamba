import Mamba.Lemmas.CliqueColourPoly
/-! C09: the explicit-stack deletion–contraction loop terminates within its fuel, never panics, and
`evalPoly (chromaticPolynomial g) k = countColourings g k`. -/
namespace CliqueColour
open GraphSpec

theorem length_lt_of_nodup_subset {α : Type} [DecidableEq α] {l₁ l₂ : List α} {a : α} (h₁ : l₁.Nodup)
    (hs : ∀ x ∈ l₁, x ∈ l₂) (ha : a ∈ l₂) (hna : a ∉ l₁) : l₁.length < l₂.length := by
  have hnd : (a :: l₁).Nodup := List.nodup_cons.2 ⟨hna, h₁⟩
  have := (List.subperm_of_subset hnd (fun x hx => by
    rcases List.mem_cons.1 hx with rfl | hx
    · exact ha
    · exact hs x hx)).length_le
  simp only [List.length_cons] at this
  omega

theorem removeEdge_m_lt {g : G} (hw : g.WF) {i j : Nat} (hadj : g.adj i j = true) (hji : j < i) :
    (removeEdge g i j).m < g.m := by
  apply length_lt_of_nodup_subset (a := (j, i)) (G.nodup_edges _)
  · rintro ⟨u, v⟩ h
    rw [G.mem_edges] at h ⊢
    exact ⟨h.1, h.2.1, (removeEdge_adj_true.1 h.2.2).1⟩
  · rw [G.mem_edges]
    exact ⟨hji, (hw.supp i j hadj).1, by rw [hw.symm]; exact hadj⟩
  · rw [G.mem_edges]
    rintro ⟨_, _, h⟩
    exact (removeEdge_adj_true.1 h).2.2 ⟨rfl, rfl⟩

theorem upj_lt_upj {j a b : Nat} (h : a < b) : upj j a < upj j b := by
  simp only [upj]; split_ifs <;> omega

theorem upj_inj {j a b : Nat} (h : upj j a = upj j b) : a = b := by
  simp only [upj] at h; split_ifs at h <;> omega

def conEdge (g : G) (i j : Nat) (e : Nat × Nat) : Nat × Nat :=
  if g.adj (upj j e.1) (upj j e.2) then (upj j e.1, upj j e.2)
  else if upj j e.1 = i then opair j (upj j e.2) else opair j (upj j e.1)

theorem conEdge_shape {g : G} {i j : Nat} {a b : Nat}
    (h : (a, b) ∈ (contract g i j).edges) :
    ∃ A B, A = upj j a ∧ B = upj j b ∧ A < B ∧ B < g.n ∧ A ≠ j ∧ B ≠ j ∧
      ((g.adj A B = true ∧ conEdge g i j (a, b) = (A, B)) ∨
       (g.adj A B = false ∧ A = i ∧ B ≠ i ∧ g.adj j B = true ∧ conEdge g i j (a, b) = opair j B) ∨
       (g.adj A B = false ∧ B = i ∧ A ≠ i ∧ g.adj j A = true ∧ conEdge g i j (a, b) = opair j A)) := by
  rw [G.mem_edges] at h
  obtain ⟨hab, hbn, hadj⟩ := h
  have hbn' : b < g.n - 1 := hbn
  rw [contract_adj] at hadj
  simp only [Bool.and_eq_true, Bool.or_eq_true, decide_eq_true_eq, beq_iff_eq, bne_iff_ne] at hadj
  refine ⟨upj j a, upj j b, rfl, rfl, upj_lt_upj hab, upj_lt hbn', upj_ne j a, upj_ne j b, ?_⟩
  cases hAB : g.adj (upj j a) (upj j b)
  · rcases hadj.2 with (h | h) | h
    · rw [hAB] at h; cases h
    · right; left
      refine ⟨rfl, h.1.1, h.1.2, h.2, ?_⟩
      show (if g.adj (upj j a) (upj j b) = true then _ else if upj j a = i then _ else _) = _
      rw [hAB, if_neg (by simp), if_pos h.1.1]
    · right; right
      have hne : upj j a ≠ i := h.1.2
      refine ⟨rfl, h.1.1, hne, h.2, ?_⟩
      show (if g.adj (upj j a) (upj j b) = true then _ else if upj j a = i then _ else _) = _
      rw [hAB, if_neg (by simp), if_neg hne]
  · left
    refine ⟨rfl, ?_⟩
    show (if g.adj (upj j a) (upj j b) = true then _ else if upj j a = i then _ else _) = _
    rw [hAB, if_pos rfl]

def conBack (i j : Nat) (e : Nat × Nat) : Nat × Nat :=
  if e.1 = j then opair i e.2 else if e.2 = j then opair i e.1 else e

theorem conBack_conEdge {g : G} {i j a b : Nat} (hji : j < i) (h : (a, b) ∈ (contract g i j).edges) :
    conBack i j (conEdge g i j (a, b)) = (upj j a, upj j b) := by
  obtain ⟨A, B, rfl, rfl, hAB, _, hAj, hBj, h | h | h⟩ := conEdge_shape h
  · rw [h.2]
    simp only [conBack, hAj, hBj, if_false]
  · obtain ⟨_, hAi, _, _, he⟩ := h
    rw [he, opair_of_lt (Nat.lt_trans hji (hAi ▸ hAB))]
    simp only [conBack, if_true]
    rw [opair_of_lt (hAi ▸ hAB), hAi]
  · obtain ⟨_, hBi, _, _, he⟩ := h
    have hAi : upj j a < i := hBi ▸ hAB
    rw [he, hBi]
    rcases Nat.lt_or_gt_of_ne hAj with hlt | hgt
    · rw [opair_comm, opair_of_lt hlt]
      simp only [conBack, hAj, if_true, if_false]
      rw [opair_comm, opair_of_lt hAi]
    · rw [opair_of_lt hgt]
      simp only [conBack, if_true]
      rw [opair_comm, opair_of_lt hAi]

theorem conEdge_mem {g : G} (hw : g.WF) {i j : Nat} {e : Nat × Nat} (h : e ∈ (contract g i j).edges) :
    conEdge g i j e ∈ g.edges := by
  obtain ⟨a, b⟩ := e
  obtain ⟨A, B, _, _, hAB, hBn, _, _, h | h | h⟩ := conEdge_shape h
  · rw [h.2]; exact G.mem_edges.2 ⟨hAB, hBn, h.1⟩
  · rw [h.2.2.2.2]; exact opair_mem hw h.2.2.2.1
  · rw [h.2.2.2.2]; exact opair_mem hw h.2.2.2.1

/-- contracting the edge `ij` loses it: `conEdge` embeds the edges of the contracted graph into the other edges of `g` -/
theorem contract_m_lt {g : G} (hw : g.WF) {i j : Nat} (hadj : g.adj i j = true) (hji : j < i) :
    (contract g i j).m < g.m := by
  have hinj : ∀ e ∈ (contract g i j).edges, ∀ e' ∈ (contract g i j).edges,
      conEdge g i j e = conEdge g i j e' → e = e' := by
    rintro ⟨a, b⟩ he ⟨a', b'⟩ he' heq
    have := conBack_conEdge hji he
    rw [heq, conBack_conEdge hji he'] at this
    rw [upj_inj (Prod.mk.inj this).1, upj_inj (Prod.mk.inj this).2]
  have := length_lt_of_nodup_subset (a := (j, i)) (List.Nodup.map_on hinj (G.nodup_edges _)) (l₂ := g.edges)
    (fun x hx => by
      obtain ⟨e, he, rfl⟩ := List.mem_map.1 hx
      exact conEdge_mem hw he)
    (G.mem_edges.2 ⟨hji, (hw.supp i j hadj).1, by rw [hw.symm]; exact hadj⟩)
    (fun hx => by
      obtain ⟨⟨a, b⟩, he, heq⟩ := List.mem_map.1 hx
      have hb := conBack_conEdge hji he
      rw [heq] at hb
      simp only [conBack, if_true, opair, Nat.min_self, Nat.max_self] at hb
      have hab : a = b := upj_inj ((Prod.mk.inj hb).1.symm.trans (Prod.mk.inj hb).2)
      exact Nat.lt_irrefl a (hab ▸ (G.mem_edges.1 he).1 : a < a))
  rwa [List.length_map] at this

/-- fuel needed to process a stack -/
def stackWeight (stack : List (G × Int)) : Nat := (stack.map fun hs => 2 ^ (hs.1.n + hs.1.m + 1)).sum

theorem stackWeight_cons (a : G × Int) (t : List (G × Int)) :
    stackWeight (a :: t) = 2 ^ (a.1.n + a.1.m + 1) + stackWeight t := rfl

/-- the weights of the contraction and the deletion leave room for the step that produced them -/
theorem weight_split {n m mc md : Nat} (hn : 0 < n) (hc : mc < m) (hd : md < m) :
    2 ^ (n - 1 + mc + 1) + 2 ^ (n + md + 1) + 1 ≤ 2 ^ (n + m + 1) := by
  have e1 : 2 ^ (n - 1 + mc + 1) ≤ 2 ^ (n + m - 1) := Nat.pow_le_pow_right (by omega) (by omega)
  have e2 : 2 ^ (n + md + 1) ≤ 2 ^ (n + m) := Nat.pow_le_pow_right (by omega) (by omega)
  have e3 : 2 ^ (n + m + 1) = 2 * 2 ^ (n + m) := by rw [Nat.pow_succ, Nat.mul_comm]
  have e4 : 2 ^ (n + m) = 2 * 2 ^ (n + m - 1) := two_pow_pred (Nat.add_pos_left hn m)
  have e5 : 0 < 2 ^ (n + m - 1) := Nat.two_pow_pos _
  omega

/-- what the stacked graphs still contribute to the polynomial at `k` -/
def stackSum (stack : List (G × Int)) (k : Nat) : Int :=
  (stack.map fun hs => hs.2 * (countColourings hs.1 k : Int)).sum

theorem stackSum_cons (a : G × Int) (t : List (G × Int)) (k : Nat) :
    stackSum (a :: t) k = a.2 * (countColourings a.1 k : Int) + stackSum t k := rfl

theorem cpLoop_spec : ∀ (fuel : Nat) (stack : List (G × Int)) (poly : List Int),
    (∀ hs ∈ stack, hs.1.WF ∧ hs.1.n < poly.length) → stackWeight stack ≤ fuel →
    ∃ res, cpLoop fuel stack poly = .ok res ∧ res.length = poly.length ∧
      ∀ k : Nat, evalPoly res k = evalPoly poly k + stackSum stack k := by
  have hnil : ∀ (fuel : Nat) (poly : List Int), ∃ res, cpLoop fuel [] poly = .ok res ∧ res.length = poly.length ∧
      ∀ k : Nat, evalPoly res k = evalPoly poly k + stackSum [] k := fun fuel poly =>
    ⟨poly, by cases fuel <;> rfl, rfl, fun k => (Int.add_zero _).symm⟩
  intro fuel
  induction fuel with
  | zero =>
    intro stack poly _ hwt
    cases stack with
    | nil => exact hnil 0 poly
    | cons a t =>
      rw [stackWeight_cons] at hwt
      exact absurd (Nat.two_pow_pos (a.1.n + a.1.m + 1)) (by omega)
  | succ fuel ih =>
    intro stack poly hst hwt
    cases stack with
    | nil => exact hnil _ poly
    | cons a rest =>
      obtain ⟨g, s⟩ := a
      obtain ⟨hw, hn⟩ : g.WF ∧ g.n < poly.length := hst (g, s) List.mem_cons_self
      have hrest : ∀ hs ∈ rest, hs.1.WF ∧ hs.1.n < poly.length := fun hs hm => hst hs (List.mem_cons_of_mem _ hm)
      have hwt : 2 ^ (g.n + g.m + 1) + stackWeight rest ≤ fuel + 1 := hwt
      rcases cpLoop_step hw hn fuel s rest with ⟨hm, e⟩ | ⟨i, j, hji, hi, hadj, e⟩
      · rw [e]
        have hpos : 0 < 2 ^ (g.n + g.m + 1) := Nat.two_pow_pos _
        obtain ⟨res, he, hl, hev⟩ := ih rest (poly.set g.n (poly.getD g.n 0 + s))
          (by rw [List.length_set]; exact hrest) (by omega)
        refine ⟨res, he, by rw [hl, List.length_set], fun k => ?_⟩
        rw [hev k, evalPoly_set poly g.n s k hn, stackSum_cons, countColourings_edgeless hw hm k]
        push_cast; ring
      · rw [e]
        have := weight_split (Nat.lt_of_le_of_lt (Nat.zero_le i) hi) (contract_m_lt hw hadj hji)
          (removeEdge_m_lt hw hadj hji)
        obtain ⟨res, he, hl, hev⟩ := ih _ poly (stackOK_step hw hn hrest i j s) (by
          rw [stackWeight_cons, stackWeight_cons]
          show 2 ^ (g.n - 1 + (contract g i j).m + 1) + (2 ^ (g.n + (removeEdge g i j).m + 1) + stackWeight rest) ≤ fuel
          generalize stackWeight rest = w at hwt
          omega)
        refine ⟨res, he, hl, fun k => ?_⟩
        rw [hev k, stackSum_cons, stackSum_cons, stackSum_cons, deletion_contraction hw hadj k]
        push_cast; ring

theorem chromaticPolynomial_spec {g : G} (hw : g.WF) :
    ∃ p, chromaticPolynomial g = .ok p ∧ p.length = g.n + 1 ∧
      ∀ k : Nat, evalPoly p (k : Int) = (countColourings g k : Int) := by
  rw [chromaticPolynomial, tabulate_eq hw]
  obtain ⟨p, he, hl, hev⟩ := cpLoop_spec (2 ^ (g.n + g.m + 1)) [(g, 1)] (List.replicate (g.n + 1) 0)
    (fun hs hm => by
      have : hs = (g, 1) := by simpa using hm
      subst this
      exact ⟨hw, by simp⟩)
    (by simp [stackWeight])
  refine ⟨p, he, by simpa using hl, fun k => ?_⟩
  rw [hev k, evalPoly_replicate]
  simp [stackSum]

end CliqueColour
