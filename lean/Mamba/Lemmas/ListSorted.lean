/-!
# Lists related pairwise by an asymmetric relation are determined by their members

The module imports nothing, so that every development can use it.
-/
namespace List

theorem Pairwise.eq_of_mem_iff_of_asymm {α : Type} {r : α → α → Prop} (hasym : ∀ a b, r a b → ¬ r b a) {a b : List α}
    (ha : a.Pairwise r) (hb : b.Pairwise r) (h : ∀ x, x ∈ a ↔ x ∈ b) : a = b :=
  have nd : ∀ {l : List α}, l.Pairwise r → l.Nodup := fun hl =>
    hl.imp (S := (· ≠ ·)) fun {x y} hr (e : x = y) => hasym x y hr (e ▸ hr)
  ((perm_ext_iff_of_nodup (nd ha) (nd hb)).2 h).eq_of_pairwise (fun _ _ _ _ h1 h2 => absurd h1 (hasym _ _ h2)) ha hb

theorem strictSorted_ext {a b : List Nat} (ha : a.Pairwise (· < ·)) (hb : b.Pairwise (· < ·))
    (h : ∀ x, x ∈ a ↔ x ∈ b) : a = b :=
  ha.eq_of_mem_iff_of_asymm (fun _ _ => Nat.lt_asymm) hb h

end List
