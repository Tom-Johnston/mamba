import Mamba.Model.DawgSearch
/-!
# The recursive search against a list of lawful searchers (C13)

`Spec σ` describes one searcher by what it does as a function of the (reversed) path walked so far:
`R rp s` — `s` is a legitimate state of the searcher after the steps `rp.reverse`; `A rp c` — the answer of
`AllowStep(c)` there; `W rp` — the answer of `AllowWord()` there. `Lawful ops sp` says that the interface
functions `ops` behave like that. `RAll specs rp ss`: the list `ss` holds one legitimate state per `Spec` of `specs`,
in order, all after the same path. Nothing here is specific to the two concrete searchers.
-/
namespace DawgSearch

structure Spec (σ : Type) where
  R : Word → σ → Prop
  A : Word → UInt8 → Bool
  W : Word → Bool

structure Lawful {σ : Type} (ops : Ops σ) (sp : Spec σ) : Prop where
  allowStep : ∀ rp s c, sp.R rp s → ops.allowStep s c = .ok (sp.A rp c)
  step : ∀ rp s c, sp.R rp s → sp.A rp c = true → ∃ s', ops.step s c = .ok s' ∧ sp.R (c :: rp) s'
  backstep : ∀ rp s c, sp.R (c :: rp) s → ∃ s', ops.backstep s = .ok s' ∧ sp.R rp s'
  allowWord : ∀ rp s, sp.R rp s → ops.allowWord s = .ok (sp.W rp)
  chosen : ∀ rp s, sp.R rp s → ∃ s', ops.chosen s = .ok s' ∧ sp.R rp s'

/-- the searcher accepts the continuation `w` from the reversed path `rp`: every step allowed, then the word
allowed -/
def Spec.accFrom {σ : Type} (sp : Spec σ) : Word → Word → Bool
  | rp, [] => sp.W rp
  | rp, c :: w => sp.A rp c && sp.accFrom (c :: rp) w

def Spec.accepts {σ : Type} (sp : Spec σ) (w : Word) : Bool := sp.accFrom [] w

def accAllFrom {σ : Type} (specs : List (Spec σ)) (rp w : Word) : Bool := specs.all (·.accFrom rp w)

def RAll {σ : Type} : List (Spec σ) → Word → List σ → Prop
  | [], _, [] => True
  | sp :: sps, rp, s :: ss => sp.R rp s ∧ RAll sps rp ss
  | _, _, _ => False

section
variable {σ : Type} {ops : Ops σ}

/-- a loop `g` that applies `f` to every searcher in turn takes legitimate states for `rp` to legitimate states for
`rp'` if `f` does so for each searcher -/
theorem forAll_spec {f : σ → Outcome σ} {g : List σ → Outcome (List σ)} (hnil : g [] = .ok [])
    (hcons : ∀ s r, g (s :: r) = (do let s' ← f s; let r' ← g r; pure (s' :: r'))) {rp rp' : Word} :
    ∀ (specs : List (Spec σ)) (ss : List σ),
    (∀ sp ∈ specs, ∀ s, sp.R rp s → ∃ s', f s = .ok s' ∧ sp.R rp' s') → RAll specs rp ss →
    ∃ ss', g ss = .ok ss' ∧ RAll specs rp' ss'
  | [], [], _, _ => ⟨[], hnil, trivial⟩
  | [], _ :: _, _, h => h.elim
  | _ :: _, [], _, h => h.elim
  | sp :: sps, s :: ss, hf, h => by
    obtain ⟨s', h1, h2⟩ := hf sp List.mem_cons_self s h.1
    obtain ⟨ss', h3, h4⟩ := forAll_spec hnil hcons sps ss (fun x hx => hf x (List.mem_cons_of_mem _ hx)) h.2
    exact ⟨s' :: ss', by rw [hcons, h1, Outcome.bind_ok, h3]; rfl, h2, h4⟩

/-- a loop `g` that asks every searcher in turn and stops at the first refusal returns the conjunction of the answers -/
theorem askAll_spec {f : σ → Outcome Bool} {g : List σ → Outcome Bool} (hnil : g [] = .ok true)
    (hcons : ∀ s r, g (s :: r) = (do let a ← f s; if a then g r else pure false)) {rp : Word} (B : Spec σ → Bool) :
    ∀ (specs : List (Spec σ)) (ss : List σ),
    (∀ sp ∈ specs, ∀ s, sp.R rp s → f s = .ok (B sp)) → RAll specs rp ss → g ss = .ok (specs.all B)
  | [], [], _, _ => hnil
  | [], _ :: _, _, h => h.elim
  | _ :: _, [], _, h => h.elim
  | sp :: sps, s :: ss, hf, h => by
    have ih := askAll_spec hnil hcons B sps ss (fun x hx => hf x (List.mem_cons_of_mem _ hx)) h.2
    rw [hcons, hf sp List.mem_cons_self s h.1, Outcome.bind_ok, List.all_cons]
    cases B sp
    · rfl
    · exact ih

theorem allowStepAll_spec (specs : List (Spec σ)) (ss : List σ) (rp : Word) (c : UInt8)
    (hl : ∀ sp ∈ specs, Lawful ops sp) (h : RAll specs rp ss) :
    allowStepAll ops ss c = .ok (specs.all (·.A rp c)) :=
  askAll_spec (g := fun ss => allowStepAll ops ss c) rfl (fun _ _ => rfl) (·.A rp c) specs ss
    (fun sp hsp s hR => (hl sp hsp).allowStep rp s c hR) h

theorem allowWordAll_spec (specs : List (Spec σ)) (ss : List σ) (rp : Word)
    (hl : ∀ sp ∈ specs, Lawful ops sp) (h : RAll specs rp ss) :
    allowWordAll ops ss = .ok (specs.all (·.W rp)) :=
  askAll_spec (g := allowWordAll ops) rfl (fun _ _ => rfl) (·.W rp) specs ss
    (fun sp hsp s hR => (hl sp hsp).allowWord rp s hR) h

theorem stepAll_spec (specs : List (Spec σ)) (ss : List σ) (rp : Word) (c : UInt8)
    (hl : ∀ sp ∈ specs, Lawful ops sp) (h : RAll specs rp ss) (ha : specs.all (·.A rp c) = true) :
    ∃ ss', stepAll ops ss c = .ok ss' ∧ RAll specs (c :: rp) ss' :=
  forAll_spec (g := fun ss => stepAll ops ss c) rfl (fun _ _ => rfl) specs ss
    (fun sp hsp s hR => (hl sp hsp).step rp s c hR (List.all_eq_true.mp ha sp hsp)) h

theorem backstepAll_spec (specs : List (Spec σ)) (ss : List σ) (rp : Word) (c : UInt8)
    (hl : ∀ sp ∈ specs, Lawful ops sp) (h : RAll specs (c :: rp) ss) :
    ∃ ss', backstepAll ops ss = .ok ss' ∧ RAll specs rp ss' :=
  forAll_spec (g := backstepAll ops) rfl (fun _ _ => rfl) specs ss
    (fun sp hsp s hR => (hl sp hsp).backstep rp s c hR) h

theorem chosenAll_spec (specs : List (Spec σ)) (ss : List σ) (rp : Word)
    (hl : ∀ sp ∈ specs, Lawful ops sp) (h : RAll specs rp ss) :
    ∃ ss', chosenAll ops ss = .ok ss' ∧ RAll specs rp ss' :=
  forAll_spec (g := chosenAll ops) rfl (fun _ _ => rfl) specs ss
    (fun sp hsp s hR => (hl sp hsp).chosen rp s hR) h

end

theorem rankFilter_append (acc : Word → Bool) : ∀ (a b : List Word) (k : Int),
    rankFilter acc (a ++ b) k = rankFilter acc a k ++ rankFilter acc b (k + a.length)
  | [], b, k => by simp [rankFilter]
  | w :: a, b, k => by
    have ih := rankFilter_append acc a b (k + 1)
    have e : k + 1 + (a.length : Int) = k + ((a.length : Int) + 1) := by omega
    simp only [List.cons_append, rankFilter, ih, List.length_cons, Int.natCast_add, Int.cast_ofNat_Int, e]
    split <;> simp

theorem rankFilter_map_cons (acc : Word → Bool) (c : UInt8) : ∀ (ws : List Word) (k : Int),
    rankFilter acc (ws.map (c :: ·)) k
      = (rankFilter (fun w => acc (c :: w)) ws k).map (fun p => (c :: p.1, p.2))
  | [], _ => rfl
  | w :: ws, k => by
    have ih := rankFilter_map_cons acc c ws (k + 1)
    simp only [List.map_cons, rankFilter, ih]
    split <;> simp

theorem rankFilter_false (acc : Word → Bool) : ∀ (ws : List Word) (k : Int),
    (∀ w ∈ ws, acc w = false) → rankFilter acc ws k = []
  | [], _, _ => rfl
  | w :: ws, k, h => by
    simp [rankFilter, h w List.mem_cons_self, rankFilter_false acc ws (k + 1) (fun x hx => h x (List.mem_cons_of_mem _ hx))]

theorem rankFilter_congr (acc acc' : Word → Bool) : ∀ (ws : List Word) (k : Int),
    (∀ w ∈ ws, acc w = acc' w) → rankFilter acc ws k = rankFilter acc' ws k
  | [], _, _ => rfl
  | w :: ws, k, h => by
    simp [rankFilter, h w List.mem_cons_self, rankFilter_congr acc acc' ws (k + 1) (fun x hx => h x (List.mem_cons_of_mem _ hx))]

/-! A trie is well-formed when every `numWords` is the number of words below the node. -/

mutual
def Node.WF : Node → Prop
  | .mk f n ls => n = (if f then 1 else 0) + ls.words.length ∧ ls.WF
def Links.WF : Links → Prop
  | .nil => True
  | .cons _ ch r => ch.WF ∧ r.WF
end

theorem Node.WF.numWords_eq : ∀ {t : Node}, t.WF → t.numWords = t.words.length
  | .mk f n ls, h => by
    unfold Node.WF at h
    show n = ((if f then [[]] else []) ++ ls.words).length
    rw [h.1, List.length_append]
    cases f <;> rfl

theorem accAllFrom_nil {σ : Type} (specs : List (Spec σ)) (rp : Word) :
    accAllFrom specs rp [] = specs.all (·.W rp) := by
  simp [accAllFrom, Spec.accFrom]

theorem accAllFrom_cons {σ : Type} (specs : List (Spec σ)) (rp : Word) (c : UInt8) (w : Word) :
    accAllFrom specs rp (c :: w) = (specs.all (·.A rp c) && accAllFrom specs (c :: rp) w) := by
  induction specs with
  | nil => rfl
  | cons sp sps ih =>
    simp only [accAllFrom, List.all_cons, Spec.accFrom] at ih ⊢
    rw [ih]
    cases sp.A rp c <;> cases sp.accFrom (c :: rp) w <;> simp

/-- what the search appends to `solns`/`ids` for the continuations `ws` of the path `rp`, the first of them having
rank `k` -/
def emit {σ : Type} (specs : List (Spec σ)) (rp : Word) (ws : List Word) (k : Int) : List (Word × Int) :=
  (rankFilter (accAllFrom specs rp) ws k).map (fun p => (rp.reverse ++ p.1, p.2))

theorem emit_append {σ : Type} (specs : List (Spec σ)) (rp : Word) (a b : List Word) (k : Int) :
    emit specs rp (a ++ b) k = emit specs rp a k ++ emit specs rp b (k + a.length) := by
  simp [emit, rankFilter_append]

theorem emit_map_refused {σ : Type} (specs : List (Spec σ)) (rp : Word) (c : UInt8) (ws : List Word) (k : Int)
    (h : specs.all (·.A rp c) = false) : emit specs rp (ws.map (c :: ·)) k = [] := by
  unfold emit
  rw [rankFilter_false]
  · rfl
  · intro w hw
    obtain ⟨v, _, rfl⟩ := List.mem_map.1 hw
    rw [accAllFrom_cons, h]; rfl

theorem emit_map_allowed {σ : Type} (specs : List (Spec σ)) (rp : Word) (c : UInt8) (ws : List Word) (k : Int)
    (h : specs.all (·.A rp c) = true) : emit specs rp (ws.map (c :: ·)) k = emit specs (c :: rp) ws k := by
  unfold emit
  rw [rankFilter_map_cons, List.map_map]
  rw [rankFilter_congr (fun w => accAllFrom specs rp (c :: w)) (accAllFrom specs (c :: rp))]
  · apply List.map_congr_left
    intro p _
    simp
  · intro w _
    rw [accAllFrom_cons, h]; rfl

section
variable {σ : Type} {ops : Ops σ} {specs : List (Spec σ)}

theorem visitFinal_spec (hl : ∀ sp ∈ specs, Lawful ops sp) (f : Bool) (rp : Word) (k : Int) (ss : List σ)
    (o : List (Word × Int)) (h : RAll specs rp ss) :
    ∃ ss', visitFinal ops f rp ⟨k, ss, o⟩
        = .ok ⟨k + (if f then 1 else 0), ss', (emit specs rp (if f then [[]] else []) (k + 1)).reverse ++ o⟩
      ∧ RAll specs rp ss' := by
  cases f
  · exact ⟨ss, by simp [visitFinal, emit, rankFilter], h⟩
  · have hw := allowWordAll_spec (ops := ops) specs ss rp hl h
    cases hall : specs.all (·.W rp)
    · refine ⟨ss, ?_, h⟩
      simp [visitFinal, hw, hall, emit, rankFilter, accAllFrom_nil]
    · obtain ⟨ss', h1, h2⟩ := chosenAll_spec (ops := ops) specs ss rp hl h
      refine ⟨ss', ?_, h2⟩
      simp [visitFinal, hw, hall, h1, emit, rankFilter, accAllFrom_nil]

/-- a block of two calls whose joint result is known, inside a longer sequence -/
theorem bind_bind_of_bind_eq_ok {α β γ : Type} {x : Outcome α} {f : α → Outcome β} {b : β} (h : (x >>= f) = .ok b)
    (K : β → Outcome γ) : (x >>= fun a => f a >>= K) = K b := by
  cases x with
  | ok a => exact (congrArg (· >>= K) h : _)
  | panic => cases h
  | outOfFuel => cases h

mutual
theorem visitNode_spec (hl : ∀ sp ∈ specs, Lawful ops sp) : (t : Node) → t.WF → ∀ (rp : Word) (k : Int)
    (ss : List σ) (o : List (Word × Int)), RAll specs rp ss →
    ∃ ss', (visitFinal ops t.final rp ⟨k, ss, o⟩ >>= dfsNode ops t rp)
        = .ok ⟨k + t.words.length, ss', (emit specs rp t.words (k + 1)).reverse ++ o⟩
      ∧ RAll specs rp ss'
  | .mk f n ls, hwf, rp, k, ss, o, h => by
    unfold Node.WF at hwf
    obtain ⟨ss1, h1, h2⟩ := visitFinal_spec hl f rp k ss o h
    obtain ⟨ss2, h3, h4⟩ := dfsLinks_spec hl ls hwf.2 rp (k + (if f then 1 else 0)) ss1
      ((emit specs rp (if f then [[]] else []) (k + 1)).reverse ++ o) h2
    refine ⟨ss2, ?_, h4⟩
    rw [Node.final, h1, Outcome.bind_ok, dfsNode, h3, Node.words, emit_append, List.reverse_append, List.append_assoc,
      List.length_append, Int.natCast_add, ← Int.add_assoc]
    cases f <;> simp
theorem dfsLinks_spec (hl : ∀ sp ∈ specs, Lawful ops sp) : (ls : Links) → ls.WF → ∀ (rp : Word) (k : Int)
    (ss : List σ) (o : List (Word × Int)), RAll specs rp ss →
    ∃ ss', dfsLinks ops ls rp ⟨k, ss, o⟩
        = .ok ⟨k + ls.words.length, ss', (emit specs rp ls.words (k + 1)).reverse ++ o⟩
      ∧ RAll specs rp ss'
  | .nil, _, rp, k, ss, o, h => ⟨ss, by simp [dfsLinks, Links.words, emit, rankFilter], h⟩
  | .cons l child rest, hwf, rp, k, ss, o, h => by
    unfold Links.WF at hwf
    have ha := allowStepAll_spec (ops := ops) specs ss rp l hl h
    -- the words of the first subtree take the ranks `k + 1 … k + child.words.length`
    have hlen : k + ((Links.cons l child rest).words.length : Int) = k + child.words.length + rest.words.length := by
      rw [Links.words, List.length_append, List.length_map, Int.natCast_add, Int.add_assoc]
    have hemit : emit specs rp (Links.cons l child rest).words (k + 1)
        = emit specs rp (child.words.map (l :: ·)) (k + 1) ++ emit specs rp rest.words (k + child.words.length + 1) := by
      rw [Links.words, emit_append, List.length_map, Int.add_right_comm]
    rw [hlen, hemit]
    cases hall : specs.all (·.A rp l)
    · -- refused: the whole subtree is skipped
      obtain ⟨ss', h1, h2⟩ := dfsLinks_spec hl rest hwf.2 rp (k + child.numWords) ss o h
      refine ⟨ss', ?_, h2⟩
      simp only [dfsLinks, ha, hall, Outcome.bind_ok, Bool.false_eq_true, if_false]
      rw [h1, hwf.1.numWords_eq, emit_map_refused specs rp l _ _ hall, List.nil_append]
    · obtain ⟨ss1, h1, h2⟩ := stepAll_spec (ops := ops) specs ss rp l hl h hall
      obtain ⟨ss2, h3, h4⟩ := visitNode_spec hl child hwf.1 (l :: rp) k ss1 o h2
      obtain ⟨ss3, h5, h6⟩ := backstepAll_spec (ops := ops) specs ss2 rp l hl h4
      obtain ⟨ss4, h7, h8⟩ := dfsLinks_spec hl rest hwf.2 rp (k + child.words.length) ss3
        ((emit specs (l :: rp) child.words (k + 1)).reverse ++ o) h6
      refine ⟨ss4, ?_, h8⟩
      simp only [dfsLinks, ha, hall, Outcome.bind_ok, if_true]
      rw [h1, Outcome.bind_ok, bind_bind_of_bind_eq_ok h3, h5, Outcome.bind_ok, h7,
        emit_map_allowed specs rp l _ _ hall, List.reverse_append, List.append_assoc]
end
end

theorem emit_nil_path {σ : Type} (specs : List (Spec σ)) (ws : List Word) (k : Int) :
    emit specs [] ws k = rankFilter (accAllFrom specs []) ws k := by
  unfold emit
  conv => rhs; rw [← List.map_id (rankFilter (accAllFrom specs []) ws k)]
  apply List.map_congr_left
  intro p _
  simp

end DawgSearch
