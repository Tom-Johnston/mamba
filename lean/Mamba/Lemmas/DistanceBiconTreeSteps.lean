import Mamba.Lemmas.DistanceBiconTree
/-!
# Preservation of the DFS-tree invariant by the three state transformers

The descend to `u` from `v` extends the parent function by `u ↦ v` (`Function.update`); emit and pop keep it.
`BicReach h com out0 st`: `st` is reached from `bicInit h.n out0` by successful iterations `bicStep`.
-/
namespace GDist
open GraphSpec Model

variable {h : G} {st : BicSt} {tp : Nat → Nat}

theorem stackPath_congr {tp tp' : Nat → Nat} : ∀ (l : List Nat), (∀ x ∈ l, tp' x = tp x) →
    StackPath tp l → StackPath tp' l
  | [], _, _ => trivial
  | [_], _, hp => hp
  | x :: y :: t, heq, hp => by
    obtain ⟨h1, h2, h3⟩ := hp
    exact ⟨by rw [heq x List.mem_cons_self]; exact h1, h2,
      stackPath_congr (y :: t) (fun z hz => heq z (List.mem_cons_of_mem _ hz)) h3⟩

theorem dt_descend (hsym : ∀ u v, h.adj u v = h.adj v u)
    (dt : DT h st tp) {v u : Nat} {rest cur : List Nat} (hstk : st.toCheck = v :: rest)
    (hu : u < h.n) (hunv : ¬ bvis st u) (hadj : h.adj v u = true)
    (hfirst : ∀ w, h.adj v w = true → w < u → bvis st w)
    (hcur : st.bicoms.getLast? = some cur) :
    DT h (descendSt st v u cur) (Function.update tp u v) := by
  obtain ⟨hvs, hvn, hvv⟩ := dt.top hstk
  have hvpos := dt.dnn v hvv
  have hne : ∀ x, bvis st x → x ≠ u := fun x hx h0 => hunv (h0 ▸ hx)
  have hvu : v ≠ u := hne v hvv
  have h0u : (0 : Nat) ≠ u := hne 0 dt.root_vis
  have hd := dt.ok.dI_descendSt (v := v) (cur := cur) hu
  have hvis := dt.bvis_descendSt (cur := cur) hstk hu
  have htp : ∀ x, x ≠ u → Function.update tp u v x = tp x := fun x hx => Function.update_of_ne hx v tp
  have htpu : Function.update tp u v u = v := Function.update_self u v tp
  have hstack' : (descendSt st v u cur).toCheck = u :: v :: rest := congrArg (u :: ·) hstk
  have hunot : u ∉ st.toCheck := fun hm => hunv (dt.svis u hm).2
  refine { ok := bok_descend dt.ok hu hcur hvpos, root := ?_, tp0 := ?_, tree := ?_, dnn := ?_, path := ?_,
           svis := ?_, sdec := ?_, fin := ?_, nocross := ?_, first := ?_, pastk := ?_, pa0 := ?_, lostk := ?_ }
  · rw [hd]; simp [h0u, dt.root]
  · rw [htp 0 h0u]; exact dt.tp0
  · intro x hx hxv hx0
    by_cases hxu : x = u
    · subst hxu
      rw [htpu]
      refine ⟨hvn, (hvis v).2 (.inr hvv), hadj, ?_⟩
      rw [hd, hd]; simp [hvu]
    · have hxv' : bvis st x := by
        exact ((hvis x).1 hxv).resolve_left hxu
      obtain ⟨h1, h2, h3, h4⟩ := dt.tree x hx hxv' hx0
      rw [htp x hxu]
      refine ⟨h1, (hvis _).2 (.inr h2), h3, ?_⟩
      rw [hd, hd]; simp [hxu, hne _ h2, h4]
  · intro x hxv
    rw [hd]
    by_cases hxu : x = u
    · simp [hxu]; omega
    · simp only [hxu, if_false]
      rcases (hvis x).1 hxv with h0 | h0
      · exact absurd h0 hxu
      · exact dt.dnn x h0
  · rw [hstack']
    refine ⟨htpu, fun h0 => h0u h0.symm, ?_⟩
    have := dt.path
    rw [hstk] at this
    exact stackPath_congr (v :: rest) (fun x hx => htp x (fun h0 => hunot (by rw [hstk, ← h0]; exact hx))) this
  · intro x hx
    rw [hstack'] at hx
    rcases List.mem_cons.1 hx with rfl | hx
    · exact ⟨hu, (hvis x).2 (.inl rfl)⟩
    · obtain ⟨h1, h2⟩ := dt.svis x (by rw [hstk]; exact hx)
      exact ⟨h1, (hvis x).2 (.inr h2)⟩
  · rw [hstack', List.pairwise_cons]
    have hsd := dt.sdec
    rw [hstk] at hsd
    constructor
    · intro y hy
      have hyu : y ≠ u := fun h0 => hunot (by rw [hstk, ← h0]; exact hy)
      rw [hd, hd]; simp only [hyu, if_false, if_true]
      rcases List.mem_cons.1 hy with rfl | hy
      · omega
      · have := (List.pairwise_cons.1 hsd).1 y hy; omega
    · refine List.Pairwise.imp_of_mem ?_ hsd
      intro a b ha hb hab
      have hau : a ≠ u := fun h0 => hunot (by rw [hstk, ← h0]; exact ha)
      have hbu : b ≠ u := fun h0 => hunot (by rw [hstk, ← h0]; exact hb)
      rw [hd, hd]; simp [hau, hbu, hab]
  · intro x hx hxv hxs w hw hwn
    rw [hstack'] at hxs
    have hxu : x ≠ u := fun h0 => hxs (h0 ▸ List.mem_cons_self)
    have hxv' : bvis st x := ((hvis x).1 hxv).resolve_left hxu
    exact (hvis w).2 (.inr (dt.fin x hx hxv' (by
      rw [hstk]; intro hm; exact hxs (List.mem_cons_of_mem _ hm)) w hw hwn))
  · have hold : ∀ y, y < h.n → bvis st y → h.adj y u = true → Anc (Function.update tp u v) y u := by
      intro y hy hyv hyadj
      by_cases hys : y ∈ st.toCheck
      · have hp := dt.path
        rw [hstk] at hp hys
        have := stackPath_anc rest v hp y hys
        have := anc_update dt hunv hvn hvv this (u := u) (v := v)
        exact Anc.parent (by rw [htpu]; exact this)
      · exact absurd (dt.fin y hy hyv hys u hyadj hu) hunv
    intro x y hx hy hxv hyv hxy
    by_cases hxu : x = u
    · subst hxu
      by_cases hyu : y = x
      · subst hyu; exact .inl (Anc.refl _ _)
      · have hyv' : bvis st y := by
          exact ((hvis y).1 hyv).resolve_left hyu
        exact .inr (hold y hy hyv' (by rw [hsym]; exact hxy))
    · have hxv' : bvis st x := by
        exact ((hvis x).1 hxv).resolve_left hxu
      by_cases hyu : y = u
      · subst hyu
        exact .inl (hold x hx hxv' hxy)
      · have hyv' : bvis st y := by
          exact ((hvis y).1 hyv).resolve_left hyu
        rcases dt.nocross x y hx hy hxv' hyv' hxy with h0 | h0
        · exact .inl (anc_update dt hunv hy hyv' h0)
        · exact .inr (anc_update dt hunv hx hxv' h0)
  · intro x hx hx0 w hw hwx
    rw [hstack'] at hx
    rcases List.mem_cons.1 hx with rfl | hx
    · rw [htpu] at hw
      exact (hvis w).2 (.inr (hfirst w hw hwx))
    · have hxu : x ≠ u := fun h0 => hunot (by rw [hstk, ← h0]; exact hx)
      rw [htp x hxu] at hw
      exact (hvis w).2 (.inr (dt.first x (by rw [hstk]; exact hx) hx0 w hw hwx))
  · intro x hx hx0
    rw [hstack'] at hx
    rw [dt.ok.pa_descendSt hu]
    rcases List.mem_cons.1 hx with rfl | hx
    · simp
    · have hxu : x ≠ u := fun h0 => hunot (by rw [hstk, ← h0]; exact hx)
      simp only [hxu, if_false, htp x hxu]
      exact dt.pastk x (by rw [hstk]; exact hx) hx0
  · rw [dt.ok.pa_descendSt hu]; simp [h0u, dt.pa0]
  · intro x hx
    rw [hstack'] at hx
    rw [dt.ok.lo_descendSt hu, hd]
    rcases List.mem_cons.1 hx with rfl | hx
    · simp
    · have hxu : x ≠ u := fun h0 => hunot (by rw [hstk, ← h0]; exact hx)
      simp only [hxu, if_false]
      exact dt.lostk x (by rw [hstk]; exact hx)

/-- a vertex whose recorded parent is the top `v` is not on the stack: it would be one level deeper than the top -/
theorem emit_not_on_stack (dt : DT h st tp) {v u : Nat} {rest : List Nat}
    (hstk : st.toCheck = v :: rest) (hv0 : v ≠ 0) (hpu : pa st u = (v : Int)) : u ∉ st.toCheck := by
  intro hm
  have hu0 : u ≠ 0 := by
    intro h0; subst h0
    have := dt.pa0; rw [hpu] at this; omega
  have h1 := dt.pastk u hm hu0
  rw [hpu] at h1
  obtain ⟨hun, huv⟩ := dt.svis u hm
  have h4 := (dt.tree u hun huv hu0).2.2.2
  rw [show tp u = v by omega] at h4
  have := (dt.stack_depth_le hstk hm).1
  omega

theorem dt_emit (com : List Nat) (dt : DT h st tp) {v u : Nat} {cur : List Nat} (hu : u < h.n) (hu0 : u ≠ 0)
    (hunot : u ∉ st.toCheck) : DT h (emitSt com st v u cur) tp := by
  refine { ok := bok_emit com dt.ok, root := dt.root, tp0 := dt.tp0, tree := dt.tree, dnn := dt.dnn,
           path := dt.path, svis := dt.svis, sdec := dt.sdec, fin := dt.fin, nocross := dt.nocross,
           first := dt.first, pastk := ?_, pa0 := ?_, lostk := dt.lostk }
  · intro x hx hx0
    have hx' : x ∈ st.toCheck := hx
    rw [dt.ok.pa_emitSt com hu]
    have : x ≠ u := fun h0 => hunot (h0 ▸ hx')
    simp only [this, if_false]
    exact dt.pastk x hx' hx0
  · rw [dt.ok.pa_emitSt com hu]
    simp [Ne.symm hu0, dt.pa0]

theorem dt_pop (dt : DT h st tp) {v : Nat} {rest : List Nat} {t : Int} {bs : List (List Nat)} {c2 : List Nat}
    (hstk : st.toCheck = v :: rest) (hc2 : bs.getLast? = some c2)
    (hbs2 : ∀ b ∈ bs.dropLast, b ≠ []) (hbs3 : ∀ b ∈ bs, ∀ x ∈ b, x < h.n)
    (hnb : ∀ w, h.adj v w = true → w < h.n → bvis st w) :
    DT h (popSt st v rest t bs c2) tp := by
  obtain ⟨hvs, hvn, hvv⟩ := dt.top hstk
  have hsd := dt.sdec
  rw [hstk] at hsd
  have hvnot : v ∉ rest := dt.top_not_in_rest hstk
  have hsub : ∀ x ∈ rest, x ∈ st.toCheck := fun x hx => by rw [hstk]; exact List.mem_cons_of_mem _ hx
  refine { ok := bok_pop dt.ok hvn hstk hc2 hbs2 hbs3, root := dt.root, tp0 := dt.tp0, tree := dt.tree,
           dnn := dt.dnn, path := ?_, svis := fun x hx => dt.svis x (hsub x hx),
           sdec := (List.pairwise_cons.1 hsd).2, fin := ?_, nocross := dt.nocross,
           first := fun x hx => dt.first x (hsub x hx), pastk := fun x hx => dt.pastk x (hsub x hx),
           pa0 := dt.pa0, lostk := ?_ }
  · have := dt.path
    rw [hstk] at this
    exact stackPath_tail this
  · intro x hx hxv hxs w hw hwn
    have hxs' : x ∉ rest := hxs
    by_cases hxeq : x = v
    · subst hxeq; exact hnb w hw hwn
    · exact dt.fin x hx hxv (by rw [hstk]; exact List.not_mem_cons_of_ne_of_not_mem hxeq hxs') w hw hwn
  · intro x hx
    have hx' : x ∈ rest := hx
    rw [dt.ok.lo_popSt rest t bs c2 hvn]
    have : x ≠ v := fun h0 => hvnot (h0 ▸ hx')
    simp only [this, if_false]
    exact dt.lostk x (hsub x hx')

theorem dt_init (hn : 0 < h.n) (out0 : List (List Nat))
    (hout : ∀ b ∈ out0, b.Pairwise (fun a b => decide (a ≤ b) = true)) :
    DT h (bicInit h.n out0) (fun _ => 0) := by
  have hd := dI_bicInit hn out0
  have hvis := bvis_bicInit hn out0
  have hstk : ∀ x ∈ (bicInit h.n out0).toCheck, x = 0 := fun x hx => by simpa [bicInit] using hx
  refine { ok := bok_init hn hout, root := by rw [hd]; simp, tp0 := rfl, tree := ?_, dnn := ?_, path := rfl,
           svis := ?_, sdec := List.pairwise_singleton _ _, fin := ?_, nocross := ?_, first := ?_, pastk := ?_,
           pa0 := pa_bicInit _ _ 0, lostk := ?_ }
  · intro x _ hxv hx0; exact absurd ((hvis x).1 hxv) hx0
  · intro x hxv; rw [(hvis x).1 hxv, hd]; simp
  · intro x hx
    rw [hstk x hx]; exact ⟨hn, (hvis 0).2 rfl⟩
  · intro x _ hxv hxs
    exact absurd (by rw [(hvis x).1 hxv]; simp [bicInit]) hxs
  · intro x y _ _ hxv hyv _
    rw [(hvis x).1 hxv, (hvis y).1 hyv]; exact .inl (Anc.refl _ _)
  · intro x hx hx0; exact absurd (hstk x hx) hx0
  · intro x hx hx0; exact absurd (hstk x hx) hx0
  · intro x hx
    rw [hstk x hx, lo_bicInit, hd]; simp

inductive BicReach (h : G) (com : List Nat) (out0 : List (List Nat)) : BicSt → Prop
  | init : BicReach h com out0 (bicInit h.n out0)
  | step {st s : BicSt} : BicReach h com out0 st → bicStep h com st = .ok (some s) → BicReach h com out0 s

end GDist
