import Mamba.Model.Dawg
/-! Dereferencing a pointer of the node heap (`getNode`): used by the builder chain (C12) and by the traversal (C14). -/
namespace Dawg

theorem getNode_eq_ok {h : Heap} {p : Nat} {n : Node} : getNode h p = .ok n ↔ h[p]? = some n := by
  unfold getNode
  split <;> simp_all

theorem getNode_of_some {h : Heap} {p : Nat} {n : Node} (hp : h[p]? = some n) : getNode h p = .ok n :=
  getNode_eq_ok.2 hp

end Dawg
