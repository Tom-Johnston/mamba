import Mamba.Lemmas.DsaturCInvBacktrack
import Mamba.Lemmas.CliqueGoLoop
/-! DSATUR model: one iteration, the loop, and the functions `ChromaticNumber` and `IsKColorable`. -/
namespace CliqueColour
open GraphSpec

/-- what a finished search guarantees (`U0` = the internal initial upper bound) -/
def DsFinal (g : G) (U0 : Nat) (lower : Int) (k : Int) (c : Option (List Int)) : Prop :=
  (c = none ∧ k = -1 ∧ ¬ ∃ f, Good g (U0 : Int) f) ∨
  (∃ best, c = some best ∧ BestOK g best k ∧ k < (U0 : Int) ∧ (k ≤ lower ∨ ¬ ∃ f, Good g k f))

def IterPost (g : G) (U0 : Nat) (lower : Int) (s : Dsat) : DsStep → Prop
  | .next r => DSInv g U0 r ∧ CInv g r ∧ ColUp r ∧ dsMeasure g r < dsMeasure g s
  | .done k c => DsFinal g U0 lower k c
  | .panic => False

theorem backtrackPost_iter {g : G} {U0 : Nat} {lower : Int} {s s0 : Dsat} (h : DSInv g U0 s)
    (hm : dsMeasure g s = dsMeasure g s0) {st : DsStep} (hp : BacktrackPost g U0 s st) :
    IterPost g U0 lower s0 st := by
  cases st with
  | next r => exact ⟨hp.1, hp.2.1, hp.2.2.1, hm ▸ hp.2.2.2⟩
  | done k c =>
    obtain ⟨hnone, hres⟩ := hp
    rcases hres with ⟨hb, hk, hc⟩ | ⟨hb, hk, hc⟩
    · left
      refine ⟨hc, hk, ?_⟩
      rcases h.best with ⟨_, hup⟩ | ⟨hbo, _⟩
      · rw [← hup]; exact hnone _ (Int.le_refl _)
      · have := (hbo.2.1 0 h.npos).1
        omega
    · right
      refine ⟨s.best, hc, ?_⟩
      rcases h.best with ⟨hrep, _⟩ | ⟨hbo, hlt⟩
      · exfalso
        apply hb
        rw [hrep]
        simp [List.getD_eq_getElem?_getD, h.npos]
      · rw [hk]
        exact ⟨hbo, hlt, Or.inr (hnone _ (Int.le_refl _))⟩
  | panic => exact hp

theorem dsIter_spec {g : G} (hw : g.WF) {U0 : Nat} (lower : Int) {s : Dsat} (h : DSInv g U0 s) (hc : CInv g s)
    (hcu : ColUp s) : IterPost g U0 lower s (dsIter g lower s) := by
  unfold dsIter
  by_cases hheap : s.heap.length > 0
  · rw [if_pos hheap]
    obtain ⟨v, t, hvt⟩ : ∃ v t, s.heap = v :: t := by
      cases hh : s.heap with
      | nil => rw [hh] at hheap; simp at hheap
      | cons v t => exact ⟨v, t, rfl⟩
    have hv0 : s.heap.getD 0 0 = v := by rw [hvt]; rfl
    simp only [hv0]
    have hvheap : v ∈ s.heap := by rw [hvt]; exact List.mem_cons_self
    cases hopt : dsOptions s v with
    | nil =>
      simp only
      exact backtrackPost_iter h rfl (dsBacktrack_spec h hc (fun u hu f hf => dead_no_options h hvheap hopt hu hf))
    | cons tc rest =>
      simp only
      generalize hr : dsForward g _ v (tc :: rest) tc = r
      obtain ⟨hinv, hm, hv, hcur, hcho⟩ := dsForward_inv h hvt hopt hr
      refine ⟨hinv, hm.cinv_push hinv hc hcur (fun u hu f hf he => ?_),
        hm.colUp (fun j hj => hcu _ (getD_mem hj)) ?_, hm.measure_push hinv⟩
      · rw [hv, hcho, ← hopt]; exact node_local h hvheap hu hf he
      · rw [(hinv.pos _ hm.lt).col, hcho, hcur]
        exact (mem_dsOptions.1 (hopt ▸ List.mem_cons_self : tc ∈ dsOptions s v)).2.1
  · rw [if_neg hheap]
    have hempty : s.heap = [] := by
      cases hh : s.heap with
      | nil => rfl
      | cons v t => rw [hh] at hheap; simp at hheap
    have h0 : 0 ∈ s.chosen := h.all_chosen hempty 0 h.npos
    have hle : s.maxUsed + 1 ≤ s.upper := by
      rcases maxCol_attained (colOf s) s.chosen with hm | ⟨w, hwc, hwe⟩
      · have := h.up1; rw [h.mused]; omega
      · have := hcu w hwc
        rw [h.mused]; omega
    obtain ⟨hinv', hbo⟩ := dsRecord_inv hw h hempty hle
    simp only
    by_cases hexit : s.maxUsed + 1 ≤ lower
    · rw [if_pos hexit]
      right
      refine ⟨s.colouring, rfl, hbo, ?_, Or.inl hexit⟩
      rcases hinv'.best with ⟨_, hup⟩ | ⟨_, hlt⟩
      · exfalso
        have hb0 := (hbo.2.1 0 h.npos).1
        rename_i hrep
        have : ({ s with best := s.colouring, upper := s.maxUsed + 1 } : Dsat).best.getD 0 0 = -1 := by
          rw [hrep]; simp [List.getD_eq_getElem?_getD, h.npos]
        have e : ({ s with best := s.colouring, upper := s.maxUsed + 1 } : Dsat).best = s.colouring := rfl
        rw [e] at this
        omega
      · exact hlt
    · rw [if_neg hexit]
      have hc' : CInv g ({ s with best := s.colouring, upper := s.maxUsed + 1 } : Dsat) := by
        intro u hu hex
        have hu' : u ≤ s.upper := by
          have : u ≤ s.maxUsed + 1 := hu
          omega
        obtain ⟨f, hf, hopen⟩ := hc u hu' hex
        exact ⟨f, hf, hopen.imp id fun ⟨j, t, ha⟩ =>
          ⟨j, t, ha.transfer ⟨rfl, fun _ _ => rfl, fun _ _ => rfl, fun _ _ => rfl⟩ ha.pos⟩⟩
      refine backtrackPost_iter (s0 := s) hinv' rfl (dsBacktrack_spec hinv' hc' ?_)
      intro u hu f hf he
      exact dead_complete h hempty hu hf he

theorem dsLoop_spec {g : G} (hw : g.WF) {U0 : Nat} (lower : Int) : ∀ (fuel : Nat) (s : Dsat),
    DSInv g U0 s → CInv g s → ColUp s → dsMeasure g s + 1 ≤ fuel →
    ∃ k c, dsLoop g lower fuel s = .ok (k, c) ∧ DsFinal g U0 lower k c := by
  intro fuel
  induction fuel with
  | zero => intro s _ _ _ hf; omega
  | succ fuel ih =>
    intro s h hc hcu hf
    have hpost := dsIter_spec hw lower h hc hcu
    simp only [dsLoop]
    cases hit : dsIter g lower s with
    | next r =>
      rw [hit] at hpost
      obtain ⟨h1, h2, h3, h4⟩ := hpost
      have hpos := dsMeasure_pos g r
      exact ih r h1 h2 h3 (by omega)
    | done k c =>
      rw [hit] at hpost
      exact ⟨k, c, rfl, hpost⟩
    | panic => rw [hit] at hpost; exact absurd hpost id

def dsInit (g : G) (upper : Int) : Dsat :=
  { heap := heapInit (List.replicate g.n (0 : Int)) g.degrees (List.range g.n), num := List.replicate g.n (0 : Int),
    seen := List.replicate g.n (List.replicate upper.toNat 0), deg := g.degrees,
    colouring := List.replicate g.n (-1), best := List.replicate g.n (-1),
    chosen := [], cur := [], choices := [], maxUsed := -1, upper := upper }

theorem getD_replicate {α : Type} (n : Nat) (a d : α) {v : Nat} (hv : v < n) : (List.replicate n a).getD v d = a := by
  simp [List.getD_eq_getElem?_getD, hv]

theorem dsInit_inv (g : G) (hn : 0 < g.n) {upper : Int} (hup : 1 ≤ upper) :
    DSInv g upper.toNat (dsInit g upper) ∧ CInv g (dsInit g upper) ∧ ColUp (dsInit g upper) ∧
      dsMeasure g (dsInit g upper) = (g.n + 2) ^ (g.n + 1) := by
  have hinit := heapInit_spec (List.replicate g.n (0 : Int)) g.degrees (List.range g.n)
  refine ⟨?_, ?_, ?_, ?_⟩
  · exact
      { npos := hn
        lcol := by simp [dsInit]
        lseen := by simp [dsInit]
        lrow := fun v hv => by
          show ((List.replicate g.n (List.replicate upper.toNat (0 : Int))).getD v []).length = _
          rw [getD_replicate _ _ _ hv]; simp
        chn := by simp [dsInit]
        chlt := by simp [dsInit]
        lcur := rfl
        lcho := rfl
        hnd := hinit.1.nodup_iff.2 List.nodup_range
        hmem := fun v => by
          show v ∈ heapInit _ _ _ ↔ _
          rw [hinit.1.mem_iff]; simp [dsInit]
        colun := fun v hv _ => by
          show (List.replicate g.n (-1 : Int)).getD v 0 = -1
          exact getD_replicate _ _ _ hv
        pos := fun i hi => absurd hi (Nat.not_lt_zero i)
        hok := hinit.2
        seenH := fun u hu c hc => by
          have hun : u < g.n := by
            have : u ∈ List.range g.n := hinit.1.subset hu
            exact List.mem_range.1 this
          show ((List.replicate g.n (List.replicate upper.toNat (0 : Int))).getD u []).getD c 0 = _
          rw [getD_replicate _ _ _ hun, getD_replicate _ _ _ hc]
          rfl
        mused := rfl
        uple := by show upper ≤ ((upper.toNat : Nat) : Int); omega
        up1 := hup
        best := Or.inl ⟨rfl, by show upper = ((upper.toNat : Nat) : Int); omega⟩ }
  · intro u _ hex
    obtain ⟨f, hf⟩ := hex
    exact ⟨f, hf, Or.inl (fun w hw => by simp [dsInit] at hw)⟩
  · intro w hw; simp [dsInit] at hw
  · simp [dsMeasure, dsInit, psum]

theorem dfsDsatur_spec {g : G} (hw : g.WF) (hn : 0 < g.n) (lower : Int) {upper0 : Int} (hup : 0 ≤ upper0) :
    ∃ k c, dfsDsatur g lower upper0 = .ok (k, c) ∧ DsFinal g (upper0 + 1).toNat lower k c := by
  obtain ⟨h1, h2, h3, h4⟩ := dsInit_inv g hn (upper := upper0 + 1) (by omega)
  have hfuel : dsMeasure g (dsInit g (upper0 + 1)) + 1 ≤ (g.n + 2) ^ (g.n + 2) := by
    rw [h4]
    have hpos : 0 < (g.n + 2) ^ (g.n + 1) := Nat.pow_pos (by omega)
    have e : (g.n + 2) ^ (g.n + 2) = (g.n + 2) ^ (g.n + 1) * (g.n + 2) := Nat.pow_succ _ _
    have h2' : (g.n + 2) ^ (g.n + 1) * 2 ≤ (g.n + 2) ^ (g.n + 1) * (g.n + 2) := Nat.mul_le_mul_left _ (by omega)
    omega
  obtain ⟨k, c, he, hf⟩ := dsLoop_spec hw lower _ _ h1 h2 h3 hfuel
  refine ⟨k, c, ?_, hf⟩
  have hn0 : (g.n == 0) = false := by simpa using (by omega : g.n ≠ 0)
  unfold dfsDsatur
  simp only [hn0, Bool.false_eq_true, if_false]
  rw [if_neg (by omega), if_neg (by omega)]
  exact he

theorem good_iff_colourable {g : G} {u : Int} (hu : 1 ≤ u) : (∃ f, Good g u f) ↔ Colourable g (u - 1).toNat := by
  constructor
  · rintro ⟨f, hp, hb⟩
    exact ⟨f, hp, fun v hv => by have := hb v hv; omega⟩
  · rintro ⟨f, hp, hb⟩
    exact ⟨f, hp, fun v hv => by have := hb v hv; omega⟩

theorem bestOK_colourable {g : G} {best : List Int} {k : Int} (h : BestOK g best k) : Colourable g k.toNat := by
  refine ⟨fun v => (best.getD v 0).toNat, fun u v hu hv hadj => ?_, fun v hv => ?_⟩
  · have h1 := (h.2.1 u hu).1
    have h2 := (h.2.1 v hv).1
    have := h.2.2.1 u v hu hv hadj
    show (best.getD u 0).toNat ≠ (best.getD v 0).toNat
    omega
  · have := h.2.1 v hv
    show (best.getD v 0).toNat < k.toNat
    omega

theorem clique_le_chromatic {g : G} (hw : g.WF) : cliqueNumberSpec g ≤ chromaticNumberSpec g := by
  obtain ⟨s, _, hs, hlen⟩ := cliqueNumberSpec_witness g
  obtain ⟨⟨f, hp, hb⟩, _, _⟩ := chromaticNumberSpec_props hw
  have hnd : (s.map f).Nodup := by
    refine List.Nodup.map_on ?_ hs.1
    intro a ha b hb' hab
    by_contra hne
    exact hp a b (hs.2.1 a ha) (hs.2.1 b hb') (hs.2.2 a ha b hb' hne) hab
  have := hnd.length_le_of_lt (n := chromaticNumberSpec g) fun x hx => by
    obtain ⟨a, ha, rfl⟩ := List.mem_map.1 hx
    exact hb a (hs.2.1 a ha)
  rw [List.length_map] at this
  omega

theorem bestOK_nil {g : G} (hn : g.n = 0) : BestOK g [] 0 :=
  ⟨by simp [hn], fun v hv => by omega, fun u v hu => by omega, fun c hc => by omega⟩

theorem bestOK_bounds {g : G} (hw : g.WF) (hn : g.n ≠ 0) {best : List Int} {k : Int} (hbo : BestOK g best k) :
    1 ≤ k ∧ (chromaticNumberSpec g : Int) ≤ k := by
  have hk1 : 1 ≤ k := by have := hbo.2.1 0 (Nat.pos_of_ne_zero hn); omega
  have hge : chromaticNumberSpec g ≤ k.toNat := by
    by_contra hlt
    exact (chromaticNumberSpec_props hw).2.1 _ (Nat.lt_of_not_le hlt) (bestOK_colourable hbo)
  exact ⟨hk1, by omega⟩

theorem chromaticNumberGo_spec {g : G} (hw : g.WF) :
    ∃ c, chromaticNumberGo g = .ok ((chromaticNumberSpec g : Int), some c) ∧
      BestOK g c (chromaticNumberSpec g : Int) := by
  obtain ⟨hchi, hleast, hle⟩ := chromaticNumberSpec_props hw
  unfold chromaticNumberGo
  rw [cliqueNumberGo_spec hw]
  simp only
  by_cases hn : g.n = 0
  · have hchi0 : chromaticNumberSpec g = 0 := by omega
    refine ⟨[], ?_, by rw [hchi0]; exact bestOK_nil hn⟩
    simp [dfsDsatur, hn, hchi0]
  · obtain ⟨k, c, he, hfin⟩ := dfsDsatur_spec hw (Nat.pos_of_ne_zero hn) (cliqueNumberSpec g : Int)
      (upper0 := (g.n : Int) + 1) (by omega)
    rw [he]
    rcases hfin with ⟨_, _, hno⟩ | ⟨best, hc, hbo, hlt, hopt⟩
    · exfalso
      apply hno
      rw [good_iff_colourable (by omega)]
      exact (colourable_n hw).mono (by omega)
    · obtain ⟨hk1, hge⟩ := bestOK_bounds hw hn hbo
      have hkeq : k = (chromaticNumberSpec g : Int) := by
        rcases hopt with hkl | hno
        · have := clique_le_chromatic hw
          omega
        · rw [good_iff_colourable hk1] at hno
          have : ¬ ((k - 1).toNat ≥ chromaticNumberSpec g) := fun hh => hno (hchi.mono hh)
          omega
      subst hc
      refine ⟨best, by rw [hkeq], by rw [← hkeq]; exact hbo⟩

theorem isKColorableGo_spec {g : G} (hw : g.WF) (k : Nat) :
    (chromaticNumberSpec g ≤ k → ∃ c k', isKColorableGo g (k : Int) = .ok (true, some c) ∧ BestOK g c k' ∧
      k' ≤ (k : Int)) ∧
    (k < chromaticNumberSpec g → isKColorableGo g (k : Int) = .ok (false, none)) := by
  obtain ⟨hchi, hleast, hle⟩ := chromaticNumberSpec_props hw
  unfold isKColorableGo
  by_cases hn : g.n = 0
  · have hchi0 : chromaticNumberSpec g = 0 := by omega
    have he : dfsDsatur g (k : Int) (k : Int) = .ok (0, some []) := by simp [dfsDsatur, hn]
    rw [he]
    refine ⟨fun _ => ⟨[], 0, by simp, bestOK_nil hn, by omega⟩, fun h => by omega⟩
  · obtain ⟨k', c, he, hfin⟩ := dfsDsatur_spec hw (Nat.pos_of_ne_zero hn) (k : Int) (upper0 := (k : Int)) (by omega)
    rw [he]
    rcases hfin with ⟨hc, hk', hno⟩ | ⟨best, hc, hbo, hlt, _⟩
    · rw [good_iff_colourable (by omega)] at hno
      have hnk : ¬ Colourable g k := by
        intro h; apply hno
        exact h.mono (by omega)
      have hklt : k < chromaticNumberSpec g := by
        by_contra hge
        exact hnk (hchi.mono (by omega))
      subst hc; subst hk'
      exact ⟨fun h => by omega, fun _ => by simp⟩
    · obtain ⟨hk1, hge⟩ := bestOK_bounds hw hn hbo
      subst hc
      have hne : (k' == -1) = false := by
        rw [beq_eq_false_iff_ne]; omega
      simp only [hne, Bool.false_eq_true, if_false]
      exact ⟨fun _ => ⟨best, k', rfl, hbo, by omega⟩, fun h => by omega⟩

end CliqueColour
