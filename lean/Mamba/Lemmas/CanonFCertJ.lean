import Mamba.Lemmas.CanonFMainJ
import Mamba.Lemmas.CanonFGens
/-!
# The certificate / generator invariants as a state-level invariant of the main loop (`MainJ` instance)

`CertA` / `CertN` / `CertM` are the predicates `JA` / `JN` (also used as `JS`) / `JM` of this layer: the generator and orbit
invariant `GInv` (CanonFGens.lean), the state of the certificate `VAny` / `VN` (at all times: clean or stale; at a node: clean;
CanonFCert.lean) and `BestOK`. `certMainJ` is the bottom layer that all further ones are stacked on (`MainJ.extend`);
`ordMainJX` is the first of them: an invariant `OrdQ` of the partition with what it implies for the reference leaves and the
recorded generators (`KInv`).
-/
namespace CanonF

/-- facts about the length of `currentBest` that hold at all times -/
structure BestOK (m : Nat) (s : LS) : Prop where
  zero : s.count = 0 → s.currentBest.len = 0
  pos : 0 < s.count → s.currentBest.len = m

section
variable (n m : Nat) (nb : Nbrs)

def CertA (_lv : List (Nat × Nat)) (s : LS) : Prop :=
  GInv n m nb s ∧ VAny nb s.currentBest s.firstLeaf s.op ∧ BestOK m s
def CertN (_lv : List (Nat × Nat)) (s : LS) : Prop :=
  GInv n m nb s ∧ VN nb s.currentBest s.firstLeaf s.op ∧ BestOK m s
def CertM (_lv : List (Nat × Nat)) (worse : Bool) (s : LS) : Prop :=
  GInv n m nb s ∧ VAny nb s.currentBest s.firstLeaf s.op ∧ (worse = false → VN nb s.currentBest s.firstLeaf s.op) ∧
    BestOK m s
end

theorem bestOrbits_if_size {s : LS} {ps : List Nat} {c ce : Nat} {b : Bool} {bo : Disjoint.DS}
    (h : (if (decide (s.count > 0) && !hasPrefix s.flPath.toList ps.reverse && hasPrefix s.bestPath.toList ps.reverse) = true
      then h2Best s.op s.bestOrbits (c - 1) ce else Outcome.ok (false, s.bestOrbits)) = .ok (b, bo)) :
    bo.size = s.bestOrbits.size := by
  split at h
  · exact h2Best_size h
  · cases h; rfl

theorem certMainJ (hx : ExpandCert) {n m : Nat} {nb : Nbrs} (hnb : NbOK nb n)
    (hlenm : ∀ o : List Nat, o.Perm (List.range n) → (certPos nb o n).length = m) :
    MainJ n m nb (CertA n m nb) (CertN n m nb) (CertN n m nb) (CertM n m nb) where
  step :=
    { na := fun _ _ h => ⟨h.1, h.2.1.any, h.2.2⟩
      deage := fun _ _ _ _ hc ht _ hage h hd =>
        ⟨h.1.congr rfl rfl rfl rfl rfl rfl rfl rfl rfl rfl, deage_cert hc.part hc.age (ht.age_pos hage) h.2.1 hd,
          ⟨h.2.2.zero, h.2.2.pos⟩⟩
      noskip := fun _ _ _ h => ⟨h.1.congr rfl rfl rfl rfl rfl rfl rfl rfl rfl rfl, h.2.1, ⟨h.2.2.zero, h.2.2.pos⟩⟩
      skipA := fun _ _ _ _ _ _ _ _ _ _ _ _ _ _ _ _ _ _ _ _ _ h =>
        ⟨h.1.congr rfl rfl rfl rfl rfl rfl rfl rfl rfl rfl, h.2.1, ⟨h.2.2.zero, h.2.2.pos⟩⟩
      skipB := fun _ _ _ _ _ _ _ _ _ _ _ _ _ _ _ _ _ _ _ hh h =>
        ⟨h.1.withBestOrbits rfl rfl rfl rfl rfl rfl rfl rfl (h2Best_size hh) rfl, h.2.1, ⟨h.2.2.zero, h.2.2.pos⟩⟩
      split := fun _ _ _ s c cs _ ps ce bo _ op' k hc _ _ _ _ _ hget hh hns _ hs h => by
        have hin : c - 1 < n := by
          have := hc.part.lenOrder
          have := (Sl.get_eq_ok.1 hget).1
          omega
        obtain ⟨q1, q2⟩ := splitBin_cert hx hc.part hc.age hin hns h.2.1 hs
        have hg := h.1.withBestOrbits (s2 := { s with choices := (c - 1) :: cs, bestOrbits := bo, op := op', path := k :: ps })
          rfl rfl rfl rfl rfl rfl rfl rfl (bestOrbits_if_size (ps := ps) (c := c) (ce := ce) hh) rfl
        exact ⟨fun hw => ⟨hg, q1 hw, ⟨h.2.2.zero, h.2.2.pos⟩⟩, fun hw => ⟨hg, q2 hw, ⟨h.2.2.zero, h.2.2.pos⟩⟩⟩
      pop := fun _ _ _ _ _ _ _ _ h =>
        ⟨h.1.congr rfl rfl rfl rfl rfl rfl rfl rfl rfl rfl, h.2.1.any, ⟨h.2.2.zero, h.2.2.pos⟩⟩ }
  node := fun lv worse s s1 hI hw hlv hM hs1 => by
    obtain ⟨hg, hva, hvn, hb⟩ := hM
    obtain ⟨lv1, c1, l1, g1, _, f1, p1⟩ := node_step hI hw hlv s1 hs1
    have hbest : BestOK m s1 := ⟨fun h0 => (p1 h0).1, f1⟩
    rcases node_cases hI hlv hs1 with ⟨hwf, hleaf, hs1⟩ | ⟨hwf, _, st, sz, rfl, _⟩ | ⟨_, rfl⟩
    · obtain ⟨hvc, hspl⟩ := leaf_clean hI.core.part hleaf (hvn hwf)
      obtain ⟨q1, q2⟩ := leafNode_cert hnb hlenm (certStepQ hx n nb s.currentBest s.firstLeaf)
        hI.core hlv hI.age hg hvc hspl hs1
      exact ⟨lv1, l1, ⟨q1, q2.any, hbest⟩, fun _ => ⟨q1, q2, hbest⟩⟩
    · have hvn' := hvn hwf
      exact ⟨lv1, l1, ⟨hg.congr rfl rfl rfl rfl rfl rfl rfl rfl rfl rfl, hvn'.any, hbest⟩,
        fun _ => ⟨hg.congr rfl rfl rfl rfl rfl rfl rfl rfl rfl rfl, hvn', hbest⟩⟩
    · exact ⟨lv1, l1, ⟨hg, hva, hbest⟩, fun hsk => (by rw [hI.skip] at hsk; cases hsk)⟩
  refine := fun _ s w _ _ hc _ _ _ _ h hr => by
    obtain ⟨rc1, rc2⟩ := refine_cert stablePerm hx hc.part hc.age hc.scr h.2.1 hr
    refine ⟨h.1.congr rfl rfl rfl rfl rfl rfl rfl rfl rfl rfl, ?_, fun hw => rc1 hw, ⟨h.2.2.zero, h.2.2.pos⟩⟩
    cases w with
    | false => exact (rc1 rfl).any
    | true => exact rc2 rfl

theorem ordMainJX {n m : Nat} {nb : Nbrs} {QA QN QS : OP → Prop} {PL R : List Nat → Prop}
    (hO : OrdQ n nb QA QN QS PL R) :
    MainJX n m nb (CertA n m nb) (CertN n m nb) (CertN n m nb) (CertM n m nb)
      (fun _ s => KInv PL R n s ∧ QA s.op) (fun _ s => KInv PL R n s ∧ QN s.op) (fun _ s => KInv PL R n s ∧ QS s.op)
      (fun _ w s => KInv PL R n s ∧ (w = false → QN s.op) ∧ QA s.op) where
  na := fun _ _ _ h => ⟨h.1, hO.na _ h.2⟩
  deage := fun _ _ _ _ hc ht _ hage _ h hd =>
    ⟨h.1.congr rfl rfl rfl rfl rfl, hO.deage _ _ hc.part hc.age (ht.age_pos hage) h.2 hd⟩
  noskip := fun _ _ _ _ h => ⟨h.1.congr rfl rfl rfl rfl rfl, h.2⟩
  skipA := fun _ _ _ _ _ _ _ _ _ _ _ _ _ _ _ _ _ _ _ _ _ _ h => ⟨h.1.congr rfl rfl rfl rfl rfl, h.2⟩
  skipB := fun _ _ _ _ _ _ _ _ _ _ _ _ _ _ _ _ _ _ _ _ _ h => ⟨h.1.congr rfl rfl rfl rfl rfl, h.2⟩
  split := fun _ _ _ s c _ _ _ _ _ _ _ _ hc _ _ _ _ _ hget _ hns hfb hs _ h => by
    have hin : c - 1 < n := by
      have := hc.part.lenOrder
      have := (Sl.get_eq_ok.1 hget).1
      omega
    obtain ⟨q1, q2⟩ := hO.split _ _ _ _ _ _ hc.part hc.age hin hns hfb h.2 hs
    exact ⟨fun hw _ => ⟨h.1.congr rfl rfl rfl rfl rfl, q1 hw⟩, fun hw _ => ⟨h.1.congr rfl rfl rfl rfl rfl, q2 hw⟩⟩
  pop := fun _ _ _ _ _ _ _ _ _ h => ⟨h.1.congr rfl rfl rfl rfl rfl, hO.na _ h.2⟩
  node := fun lv worse s s1 _ hI _ hlv hM hX hs1 _ _ _ => by
    obtain ⟨hK, hqn, hqa⟩ := hX
    rcases node_cases hI hlv hs1 with ⟨hwf, hleaf, hs1⟩ | ⟨hwf, _, st, sz, rfl, _⟩ | ⟨_, rfl⟩
    · obtain ⟨q1, q2⟩ := leafNode_cls hO hI.core hlv hI.age hM.1 hK (hqn hwf) hleaf hs1
      exact ⟨⟨q1, hO.na _ q2⟩, fun _ => ⟨q1, q2⟩⟩
    · exact ⟨⟨hK.congr rfl rfl rfl rfl rfl, hO.na _ (hqn hwf)⟩, fun _ => ⟨hK.congr rfl rfl rfl rfl rfl, hqn hwf⟩⟩
    · exact ⟨⟨hK, hqa⟩, fun hsk => (by rw [hI.skip] at hsk; cases hsk)⟩
  refine := fun _ s w _ _ hc _ _ _ htl _ h hr _ => by
    obtain ⟨x1, x2⟩ := hO.refine _ _ _ _ _ _ _ _ hc.part hc.age hc.scr htl h.2 hr
    refine ⟨h.1.congr rfl rfl rfl rfl rfl, x1, ?_⟩
    cases w with
    | false => exact hO.na _ (x1 rfl)
    | true => exact x2 rfl

end CanonF
