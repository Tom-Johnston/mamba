import Mamba.Lemmas.CanonFOrbBase
import Mamba.Lemmas.CanonFDfsLoop
/-!
# Orbit completeness (A-layer) through every transition of the main loop that is not a leaf

In the order of the fields of `GhLayer` (`CanonFGhLayer.lean`):
* `orb_na`, `orb_deage`, `orb_noskip`: nothing the A-layer reads changes; `orb_inner`: a frame is pushed, nothing of it is
  processed, its node is on neither stored path;
* `orb_skipA`, `orb_skipB` (Heuristic 2 in `jLoop`): the counter of the top frame goes down and the skipped child is covered,
  by deferral to the root of its class of `firstLeafOrbits`, resp. through an orbit mate that is already covered
  (`Heritable.skipB`);
* `orb_split`, `orb_refine`: the child starts being explored, or it is pruned as "worse" and covered vacuously
  (`WorseCut.acov`);
* `orb_pop`: all children of the top frame are processed or deferred, hence its node is covered (`popped_node_acov`, by
  `Heritable.of_deferred`), and it is the child that was being explored in the frame below (`acov_finish_top`).
-/
namespace CanonF

section
variable {n m : Nat} {nb : Nbrs} {rf : Nat} {r : IR.St}

theorem orb_na (gh : Gh) (lv : List (Nat × Nat)) (s : LS) (hDv : DNv n nb rf r gh lv s) (hAv : ANv n nb rf r gh lv s) :
    AAv n nb rf r gh lv s := by
  obtain ⟨a1, a2, a3⟩ := hAv
  refine ⟨a1, a2, a3, ?_⟩
  intro hp
  obtain ⟨⟨_, _, h3, _⟩, _⟩ := hDv
  rw [hp] at h3
  simp at h3

theorem orb_deage (gh : Gh) (lv : List (Nat × Nat)) (s : LS) (op' : OP) (hAv : AAv n nb rf r gh lv s) :
    ANv n nb rf r gh lv { s with op := op' } := by
  obtain ⟨a1, a2, a3, _⟩ := hAv
  exact ⟨⟨a1.bgf, a1.bestA, a1.bgsM, a1.gensM⟩, a2.congr rfl rfl (fun _ => rfl) rfl (fun _ _ => rfl),
    a3.congr rfl rfl rfl (fun _ _ => rfl)⟩

theorem orb_noskip (gh : Gh) (lv : List (Nat × Nat)) (s : LS) (hAv : ANv n nb rf r gh lv s) :
    ANv n nb rf r gh lv { s with skipDeage := false } := by
  obtain ⟨a1, a2, a3⟩ := hAv
  exact ⟨⟨a1.bgf, a1.bestA, a1.bgsM, a1.gensM⟩, a2.congr rfl rfl (fun _ => rfl) rfl (fun _ _ => rfl),
    a3.congr rfl rfl rfl (fun _ _ => rfl)⟩

theorem orb_inner {gh : Gh} {lv : List (Nat × Nat)} {s s1 : LS} {st sz : Nat} (hAv : ANodev n nb rf r gh lv s)
    (I : InnerAt n nb rf r gh lv s s1 st sz) : ANv n nb rf r gh ((st, sz) :: lv) s1 := by
  obtain ⟨a1, a2, a3⟩ := hAv
  rw [I.s1_eq]
  exact ⟨⟨a1.bgf, a1.bestA, a1.bgsM, a1.gensM⟩, acov_push st sz I.cell a2,
    FrameAuxA.mk (FrameAuxA1.of_off I.offF I.offB) (a3.congr rfl rfl rfl (fun _ _ => rfl))⟩

theorem ANv.skip {gh : Gh} {st sz : Nat} {ls : List (Nat × Nat)} {s : LS} {c p : Nat} {cs ps : List Nat}
    (bo : Disjoint.DS) (hch : s.choices = c :: cs) (hpth : s.path = p :: ps) (hst : st < c)
    (haux : FrameAux n nb rf r gh s gh.vs true s.path s.choices ((st, sz) :: ls))
    (hAv : ANv n nb rf r gh ((st, sz) :: ls) s)
    (hnew : ∀ w, (cellL n nb rf r gh.vs ps.length st)[c - 1 - st]? = some w → ACovChild n nb rf r gh s gh.vs ps st w) :
    ANv n nb rf r gh ((st, sz) :: ls) { s with choices := (c - 1) :: cs, bestOrbits := bo, skipDeage := true } := by
  obtain ⟨hGA, hcovA, hauxA⟩ := hAv
  rw [hpth, hch] at hcovA hauxA haux
  refine ⟨⟨hGA.bgf, hGA.bestA, hGA.bgsM, hGA.gensM⟩, ?_, ?_⟩
  · apply ACovFrames.path_eq hpth
    exact (hcovA.step_head hst hnew p).congr rfl rfl (fun _ => rfl) rfl (fun _ _ => rfl)
  · apply FrameAuxA.path_eq hpth
    exact (FrameAuxA.mk (hauxA.head.step_head haux.head) hauxA.tail).congr rfl rfl rfl (fun _ _ => rfl)

theorem orb_skipA (gh : Gh) (st sz : Nat) (ls : List (Nat × Nat)) (s : LS) (c : Nat) (cs : List Nat) (p : Nat) (ps : List Nat)
    (ce : Nat) (x : Int) (k : Nat) (hc : Core n s) (ht : TopOK s.op (k + 1) s.path s.choices ((st, sz) :: ls))
    (hch : s.choices = c :: cs) (hpth : s.path = p :: ps) (hget : s.op.order.get (c - 1) = .ok ce)
    (hon : (decide (s.count > 0) && hasPrefix s.flPath.toList ps.reverse) = true)
    (hx : s.flOrbits[ce]? = some x) (hx0 : x ≥ 0)
    (hDv : DNv n nb rf r gh ((st, sz) :: ls) s)
    (hAv : ANv n nb rf r gh ((st, sz) :: ls) s) :
    ANv n nb rf r gh ((st, sz) :: ls) { s with choices := (c - 1) :: cs, skipDeage := true } := by
  obtain ⟨hw, _, _, haux⟩ := hDv
  obtain ⟨m1, m2, m3, _, _⟩ := top_member hc ht hch hpth hget hw
  refine ANv.skip s.bestOrbits hch hpth m3 haux hAv (fun w hw' => ?_)
  rw [m2, m1] at hw'
  cases hw'
  exact Or.inr ⟨hon, x, hx, hx0⟩

theorem orb_skipB (hnb : NbOK nb n) (gh : Gh) (st sz : Nat) (ls : List (Nat × Nat)) (s : LS) (c : Nat) (cs : List Nat)
    (p : Nat) (ps : List Nat)
    (ce : Nat) (bo : Disjoint.DS) (k : Nat) (hc : Core n s) (ht : TopOK s.op (k + 1) s.path s.choices ((st, sz) :: ls))
    (hch : s.choices = c :: cs) (hpth : s.path = p :: ps) (hget : s.op.order.get (c - 1) = .ok ce)
    (hon : (decide (s.count > 0) && !hasPrefix s.flPath.toList ps.reverse && hasPrefix s.bestPath.toList ps.reverse) = true)
    (hh : h2Best s.op s.bestOrbits (c - 1) ce = .ok (true, bo))
    (hDv : DNv n nb rf r gh ((st, sz) :: ls) s)
    (hAv : ANv n nb rf r gh ((st, sz) :: ls) s) :
    ANv n nb rf r gh ((st, sz) :: ls) { s with choices := (c - 1) :: cs, bestOrbits := bo, skipDeage := true } := by
  have S := skipB_at hc ht hch hpth hget hon hDv
  obtain ⟨hw, -, -, haux⟩ := hDv
  obtain ⟨hGA, hcovA, hauxA⟩ := hAv
  obtain ⟨m1, m2, m3, m4, -⟩ := top_member hc ht hch hpth hget hw
  have hT : Heritable n nb rf (ACov n nb rf (lFof n gh) s.firstLeaf.toList (ORel s))
      (fun γ => ∀ x, x < n → ORel s x (γ.getD x 0)) := acov_heritable_rep hnb _ _ s.flOrbits
  have hchild := hT.skipB st sz ls s c cs p ps ce bo k hc ht hch hpth hget S.notFirst hh hw
    (fun i w hi hw' => by
      have := hcovA
      rw [hpth, hch] at this
      exact this.head i w (by simp only [if_true]; exact hi) hw')
    (fun γ => γ ∈ gh.bgs) (fun γ hγ => ⟨(S.bgs γ hγ).1, (S.bgs γ hγ).2, hGA.bgsM γ hγ⟩) S.orbInv S.orbSize S.orbGen
  refine ANv.skip bo hch hpth m3 haux ⟨hGA, hcovA, hauxA⟩ (fun w hw' => ?_)
  rw [m2, m1] at hw'
  cases hw'
  rw [m4] at hchild
  exact Or.inl hchild

end

section
variable {n m : Nat} {nb : Nbrs} {rf : Nat} {r : IR.St}
  (hnb : NbOK nb n) (hsz : nb.size = n) (hm : m = ((nb.toList.map List.length).sum) / 2) (hrf : 3 * n + 3 ≤ rf)
  (hA : IR.InvA (irG n nb) r) (hD : IR.InvD (irG n nb) r)
include hnb hsz hm hA hD in
theorem orb_split (gh : Gh) (st sz : Nat) (ls : List (Nat × Nat)) (s : LS) (c : Nat) (cs : List Nat) (p : Nat) (ps : List Nat)
    (ce : Nat) (bo : Disjoint.DS) (w : Bool) (op' : OP) (k : Nat) (hc : Core n s)
    (ht : TopOK s.op (k + 1) s.path s.choices ((st, sz) :: ls)) (hch : s.choices = c :: cs)
    (hpth : s.path = p :: ps) (hget : s.op.order.get (c - 1) = .ok ce)
    (hs : splitBin nb s.currentBest s.firstLeaf s.op (c - 1) = .ok (w, op'))
    (hJ : CertN n m nb ((st, sz) :: ls) s) (hDv : DNv n nb rf r gh ((st, sz) :: ls) s)
    (hAv : ANv n nb rf r gh ((st, sz) :: ls) s) :
    (w = false → ∀ t v, DSv n nb rf r gh t v ((st, sz) :: ls)
        { s with choices := (c - 1) :: cs, bestOrbits := bo, op := op', path := k :: ps } →
      ASv n nb rf r gh v ((st, sz) :: ls)
        { s with choices := (c - 1) :: cs, bestOrbits := bo, op := op', path := k :: ps }) ∧
    (w = true → AAv n nb rf r gh ((st, sz) :: ls)
      { s with choices := (c - 1) :: cs, bestOrbits := bo, op := op', path := k :: ps }) := by
  obtain ⟨hw, hG, hcov, haux⟩ := hDv
  obtain ⟨hGA, hacov, hauxA⟩ := hAv
  obtain ⟨m1, m2, m3, m4, m5⟩ := top_member hc ht hch hpth hget hw
  have hGA' : GlobalA n gh { s with choices := (c - 1) :: cs, bestOrbits := bo, op := op', path := k :: ps } :=
    ⟨hGA.bgf, hGA.bestA, hGA.bgsM, hGA.gensM⟩
  rw [hpth, hch] at hacov hauxA haux
  constructor
  · intro _ t v _
    have hpre : ∀ L, L < (k :: ps).length → (gh.vs ++ [v]).take L = gh.vs.take L :=
      fun L hL => List.take_append_of_le_length (by simp only [List.length_cons] at hL; omega)
    exact ⟨hGA', (hacov.start_child k).congr rfl rfl (fun _ => rfl) rfl hpre,
      (FrameAuxA.mk (p := k) (hauxA.head.start_child m3) hauxA.tail).congr rfl rfl rfl hpre⟩
  · intro hwt
    subst hwt
    have hcomp := fun v hv => (split_worse_cut hnb hA hD st sz ls s c cs p ps op' k hc ht hch hpth hs hw hJ v
      hv).acov rf hnb hsz hm hJ.1 (lFof n gh) (ORel s)
    refine ⟨hGA', ?_, ?_, fun hp => by cases hp⟩
    · refine (hacov.step_head m3 (fun w' hw' => Or.inl ?_) k).congr rfl rfl (fun _ => rfl) rfl (fun _ _ => rfl)
      rw [m2, ← m4] at hw'
      rw [← m4]
      exact hcomp w' hw'
    · exact (FrameAuxA.mk (p := k) (hauxA.head.step_head haux.head) hauxA.tail).congr rfl rfl rfl (fun _ _ => rfl)

include hnb hsz hm hrf hA hD in
theorem orb_refine (gh : Gh) (t v : Nat) (lv : List (Nat × Nat)) (s : LS) (w : Bool) (op' : OP) (sc' sc2 : Scratch) (hc : Core n s)
    (hl : LevelsOK s.op s.path s.choices lv)
    (htl : s.sc.timesSeen.len = n) (hJ : CertN n m nb lv s) (hDv : DSv n nb rf r gh t v lv s)
    (hAv : ASv n nb rf r gh v lv s)
    (hr : refine nb s.currentBest s.firstLeaf {} s.op s.sc = .ok (w, op', sc')) :
    (w = true → AAv n nb rf r gh lv { s with op := op', sc := sc2 }) ∧
    (w = false → ANodev n nb rf r { gh with vs := gh.vs ++ [v] } lv { s with op := op', sc := sc2 }) := by
  obtain ⟨hw, hG, hcov, haux, hoff⟩ := hDv
  obtain ⟨hGA, hacov, hauxA⟩ := hAv
  constructor
  · intro hwt
    subst hwt
    obtain ⟨p, ps, c, cs, sz, ls, hpth, hch, rfl, -, hvl, hmem, hpre⟩ := walkS_top hl hw
    have hcomp := (refine_worse_cut hnb hrf hA hD ((t, sz) :: ls) s op' sc' hc htl hw hJ hr).acov rf hnb hsz hm hJ.1
      (lFof n gh) (ORel s)
    rw [hvl] at hcomp
    have hnew : ∀ w', (cellL n nb rf r gh.vs ps.length t)[c - t]? = some w' →
        ACov n nb rf (lFof n gh) s.firstLeaf.toList (ORel s)
          (IR.childSt (irG n nb) rf (nodeL n nb rf r gh.vs ps.length) t w') := by
      intro w' hw'
      cases hw'.symm.trans hmem; exact hcomp
    rw [hpth, hch] at hacov hauxA
    have ha1 : ACovFrames n nb rf r gh s gh.vs false (p :: ps) (c :: cs) ((t, sz) :: ls) :=
      hacov.congr rfl rfl (fun _ => rfl) rfl hpre
    have hx1 : FrameAuxA n nb rf r gh s gh.vs false (p :: ps) (c :: cs) ((t, sz) :: ls) :=
      hauxA.congr rfl rfl rfl hpre
    refine ⟨⟨hGA.bgf, hGA.bestA, hGA.bgsM, hGA.gensM⟩, ?_, ?_, ?_⟩
    · show ACovFrames n nb rf r gh _ gh.vs true s.path s.choices _
      rw [hpth, hch]
      exact (ha1.finish_child (fun w' hw' => Or.inl (hnew w' hw'))).congr rfl rfl (fun _ => rfl) rfl (fun _ _ => rfl)
    · show FrameAuxA n nb rf r gh _ gh.vs true s.path s.choices _
      rw [hpth, hch]
      exact (FrameAuxA.mk (hx1.head.finish_child (fun w' hw' _ => hnew w' hw')) hx1.tail).congr rfl rfl rfl
        (fun _ _ => rfl)
    · intro hp
      have : s.path = [] := hp
      rw [hpth] at this
      cases this
  · intro _
    exact ⟨⟨hGA.bgf, hGA.bestA, hGA.bgsM, hGA.gensM⟩, hacov.congr rfl rfl (fun _ => rfl) rfl (fun _ _ => rfl),
      hauxA.mono (fun h0 => h0) rfl (fun _ _ _ _ h => h) rfl rfl rfl (fun _ _ => rfl)⟩

end

theorem popped_node_acov {n m : Nat} {nb : Nbrs} {rf : Nat} {r : IR.St} (hnb : NbOK nb n) {gh : Gh}
    (st sz : Nat) (ls : List (Nat × Nat)) (s : LS) (c : Nat) (cs : List Nat) (p : Nat) (ps : List Nat)
    (hcst : c = st)
    (h5 : FramesOK n nb rf r gh.vs (p :: ps) (c :: cs) ((st, sz) :: ls)) (hg : GInv n m nb s)
    (hGA : GlobalA n gh s)
    (hcov : ACovFrames n nb rf r gh s gh.vs true (p :: ps) (c :: cs) ((st, sz) :: ls))
    (hE1 : onFirstB s ps = true → ∀ k, k < s.ngens → ∀ γ, s.gens[k]? = some γ →
      ∀ u, u < n → IR.col (nodeL n nb rf r gh.vs ps.length).c (γ.toList.getD u 0)
        = IR.col (nodeL n nb rf r gh.vs ps.length).c u) :
    ACov n nb rf (lFof n gh) s.firstLeaf.toList (ORel s) (nodeL n nb rf r gh.vs ps.length) := by
  have hT : Heritable n nb rf (ACov n nb rf (lFof n gh) s.firstLeaf.toList (ORel s))
      (fun γ => ∀ x, x < n → ORel s x (γ.getD x 0)) := acov_heritable_rep hnb _ _ s.flOrbits
  refine hT.of_deferred hg h5.1 (fun w hwm => ?_)
    (fun hof => ⟨(onFirstB_eq_true hof).1, fun k hk γ e => ⟨hE1 hof k hk γ e, hGA.gensM k hk γ e⟩⟩)
  obtain ⟨i, hi⟩ := List.getElem?_of_mem hwm
  exact ACovFrames.head hcov i w (by simp only [if_true]; omega) hi

section
variable {n m : Nat} {nb : Nbrs} {rf : Nat} {r : IR.St}
  (hnb : NbOK nb n)

include hnb in
theorem orb_pop (gh : Gh) (st sz : Nat) (ls : List (Nat × Nat)) (s : LS)
    (ht : TopOK s.op 0 s.path s.choices ((st, sz) :: ls))
    (hJ : CertN n m nb ((st, sz) :: ls) s) (hDv : DNv n nb rf r gh ((st, sz) :: ls) s)
    (hAv : ANv n nb rf r gh ((st, sz) :: ls) s) :
    AAv n nb rf r { gh with vs := gh.vs.dropLast } ls { s with path := s.path.drop 1, choices := s.choices.drop 1 } := by
  obtain ⟨p, ps, c, cs, P⟩ := pop_at ht hDv
  obtain ⟨hGA, hacov, hauxA⟩ := hAv
  have e1 := P.hpth
  have e2 := P.hch
  rw [e1, e2] at hacov hauxA
  have hcomp := popped_node_acov hnb st sz ls s c cs p ps P.cst P.frames hJ.1 hGA hacov P.gensPres
  have hB : ACovFrames n nb rf r gh s gh.vs true ps cs ls ∧ FrameAuxA n nb rf r gh s gh.vs true ps cs ls :=
    acov_finish_top P.path P.lvl P.frames.tail (Nat.le_of_eq P.len) hcomp hacov.tail hauxA.tail
  refine ⟨⟨hGA.bgf, hGA.bestA, hGA.bgsM, hGA.gensM⟩, ?_, ?_, ?_⟩
  · show ACovFrames n nb rf r _ _ gh.vs.dropLast true (s.path.drop 1) (s.choices.drop 1) ls
    rw [e1, e2]
    exact hB.1.congr rfl rfl (fun _ => rfl) rfl P.dropLast
  · show FrameAuxA n nb rf r _ _ gh.vs.dropLast true (s.path.drop 1) (s.choices.drop 1) ls
    rw [e1, e2]
    exact hB.2.mono (fun h0 => h0) rfl (fun _ _ _ _ hab => hab) rfl rfl rfl P.dropLast
  · intro hp
    have hp' : s.path.drop 1 = [] := hp
    rw [e1] at hp'
    cases (hp' : ps = [])
    exact hcomp

end
end CanonF
