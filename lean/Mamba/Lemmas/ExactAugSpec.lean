import Mamba.Lemmas.ExactCanonSpecs
/-! `addAugmentations` on a built graph: it pushes one block of masks per size `0 … mindeg+1`, each block one representative
of every `Aut(g)`-orbit of neighbour sets of that size (`addAugmentations_spec`); hence range, distinctness and
completeness of the choices, and `Specs` from `OracleSpec`. -/
namespace Search
open GSearch Disjoint GraphSpec

variable {O : Oracle} {n : Nat}

/-- the only way to fail is the reslice beyond `C(n, n/2)` (excluded in `TermRun`) -/
theorem addAugmentations_spec (hO : OracleSpec O n) {g : DG} (hb : Built g) (hlt : g.nv < n) {c : Option Ans}
    (hc : c = none ∨ ∃ P x, Built P ∧ InRange P x ∧ AccK O n P x g c) :
    ∃ (md : Int) (blocks : List (List Nat)) (c' : Option Ans), minInts g.degs = .ok md ∧
      List.Forall₂ (fun k b => BlockOK g k b) (0 :: 1 :: List.range' 2 ((md + 1).toNat - 1)) blocks ∧
      ∀ base : Array Nat,
        addAugmentations O n g base c = .ok (base ++ blocks.flatten.toArray, c', blocks.flatten.length) ∨
        (addAugmentations O n g base c = .panic ∧ ∃ k, choose n (n / 2) < choose g.nv k) := by
  have hpos := hb.pos
  obtain ⟨md, hmd⟩ : ∃ md, minInts g.degs = .ok md :=
    ⟨_, by simp only [minInts, Array.getElem?_eq_getElem (show 0 < g.degs.size by rw [hb.sized.degs]; omega)]; rfl⟩
  obtain ⟨a1, hd, hcall⟩ : ∃ a1 : Ans, AutData g a1.orbits a1.gens ∧ ∀ base : Array Nat,
      addAugmentations O n g base c =
        match sizeLoop n g.nv a1.gens (List.range' 2 ((md + 1).toNat - 1)) (orbitRoots a1.orbits (base.push 0) 1).1
          (orbitRoots a1.orbits (base.push 0) 1).2 with
        | .ok (ch2, num2) => .ok (ch2, some a1, num2)
        | .panic => .panic
        | .outOfFuel => .outOfFuel := by
    cases c with
    | none =>
      obtain ⟨a, ha⟩ := hO.total hb (Nat.le_of_lt hlt)
      exact ⟨a, autData_of_answer hO hb ha, fun base => by unfold addAugmentations; simp only [hmd, ha]; rfl⟩
    | some c0 =>
      rcases hc with hc | ⟨P, x, hP, hx, hacc⟩
      · cases hc
      · have hPlt : P.nv < n := by have := addVertex_nv hacc.1; omega
        exact ⟨c0, autData_of_acc hO hP hPlt hx hacc, fun base => by unfold addAugmentations; simp only [hmd]; rfl⟩
  obtain ⟨blocks, hbl, hs⟩ := sizeLoop_ok hd.gensAut hd.gensGen n (List.range' 2 ((md + 1).toNat - 1))
  refine ⟨md, [0] :: rootMasks a1.orbits :: blocks, some a1, hmd, .cons (blockOK_zero g) (.cons (blockOK_one hd) hbl),
    fun base => ?_⟩
  rw [hcall, orbitRoots_form]
  rcases hs _ _ with h | ⟨h, k, -, hk⟩
  · left
    rw [h]
    simp [rootMasks, Array.append_assoc]
    omega
  · exact .inr ⟨by rw [h], k, hk⟩

theorem aug_blocks (hO : OracleSpec O n) {g : DG} (hb : Built g) (hlt : g.nv < n) {c c' : Option Ans}
    {new : Array Nat} {num : Nat} (hc : c = none ∨ ∃ P x, Built P ∧ InRange P x ∧ AccK O n P x g c)
    (haug : addAugmentations O n g #[] c = .ok (new, c', num)) :
    ∃ (md : Int) (blocks : List (List Nat)), minInts g.degs = .ok md ∧ new.toList = blocks.flatten ∧
      List.Forall₂ (fun k b => BlockOK g k b) (0 :: 1 :: List.range' 2 ((md + 1).toNat - 1)) blocks := by
  obtain ⟨md, blocks, c1, hmd, hbl, hall⟩ := addAugmentations_spec hO hb hlt hc
  rcases hall #[] with h | ⟨h, -⟩ <;> rw [haug] at h
  · cases h
    exact ⟨md, blocks, hmd, by simp, hbl⟩
  · cases h

theorem aug_range_of_oracle (hO : OracleSpec O n) {g : DG} {c c' : Option Ans} {new : Array Nat} {num : Nat}
    (hb : Built g) (hlt : g.nv < n) (hc : c = none ∨ ∃ P x, Built P ∧ InRange P x ∧ AccK O n P x g c)
    (haug : addAugmentations O n g #[] c = .ok (new, c', num)) : ∀ x ∈ new.toList, InRange g x := by
  obtain ⟨md, blocks, -, hnew, hblocks⟩ := aug_blocks hO hb hlt hc haug
  intro x hx
  obtain ⟨k, -, b, hbk, hxb, -⟩ := forall2_of_mem_flatten hblocks x (hnew ▸ hx)
  obtain ⟨c0, hc0, rfl⟩ := hbk.form x hxb
  exact fun v hv => hc0.2.2 v (mem_bitsOf_maskOf.1 hv)

theorem aug_distinct_of_oracle (hO : OracleSpec O n) {g : DG} {c c' : Option Ans} {new : Array Nat} {num : Nat}
    (hb : Built g) (hlt : g.nv < n) (hc : c = none ∨ ∃ P x, Built P ∧ InRange P x ∧ AccK O n P x g c)
    (haug : addAugmentations O n g #[] c = .ok (new, c', num)) :
    new.toList.Pairwise fun x y => ¬ ExtEquiv g (bitsOf x) g (bitsOf y) := by
  obtain ⟨md, blocks, -, hnew, hblocks⟩ := aug_blocks hO hb hlt hc haug
  rw [hnew]
  exact (blocks_pairwise _ _ hblocks (sizes_lt _)).1

theorem aug_complete_of_oracle (hO : OracleSpec O n) {g : DG} {c c' : Option Ans} {new : Array Nat} {num : Nat}
    (hb : Built g) (hlt : g.nv < n) (hc : c = none ∨ ∃ P x, Built P ∧ InRange P x ∧ AccK O n P x g c)
    (haug : addAugmentations O n g #[] c = .ok (new, c', num))
    (T : List Nat) (P0 g0 : DG) (x0 : Nat) (c0 : Option Ans) (hb0 : Built P0) (hr0 : InRange P0 x0)
    (ha0 : AccK O n P0 x0 g0 c0) (hT : ExtEquiv g T P0 (bitsOf x0)) :
    ∃ x ∈ new.toList, ExtEquiv g T g (bitsOf x) := by
  obtain ⟨md, blocks, hmd, hnew, hblocks⟩ := aug_blocks hO hb hlt hc haug
  -- the set T as a sorted list, and its size
  let cT : List Nat := (List.range g.nv).filter fun v => decide (v ∈ T)
  have hcT : IsSub g.nv (cardIn g.nv T) cT :=
    ⟨rfl, (List.pairwise_lt_range).filter _, fun v hv => List.mem_range.1 (List.mem_filter.1 hv).1⟩
  have heT : ExtEquiv g T g cT := by
    refine ⟨rfl, fun u => u, IsBij.id _, fun _ _ _ _ => rfl, ?_⟩
    intro v hv
    simp only [cT, List.mem_filter, List.mem_range, decide_eq_true_eq]
    exact ⟨fun h => ⟨hv, h⟩, fun h => h.2⟩
  have hk : ((cardIn g.nv T : Nat) : Int) ≤ md + 1 := by
    obtain ⟨i, hi, hdi⟩ := minInts_mem hmd
    rw [hb.sized.degs] at hi
    have hdeg := hb.degOK i hi
    rw [hdeg] at hdi
    have hmdv : md = ((g.toG.deg i : Nat) : Int) := (Option.some.inj hdi).symm
    have hcardT := cardIn_equiv hT
    obtain ⟨hn0, σ, hσ, hadj, -⟩ := hT
    have hiso := deg_iso (g := g.toG) (h := P0.toG) hn0 hσ hadj (show i < g.toG.n from hi)
    have hle := acc_card_le hO hb0 (hn0 ▸ hlt) hr0 ha0 (σ i) (hn0 ▸ hσ.maps i hi)
    rw [hiso, ← hcardT] at hle
    rw [hmdv]
    exact_mod_cast hle
  have hk2 : cardIn g.nv T ∈ 0 :: 1 :: List.range' 2 ((md + 1).toNat - 1) := by
    simp only [List.mem_cons, List.mem_range'_1]
    omega
  obtain ⟨b, hbk, hsub⟩ := forall2_block hblocks _ hk2
  obtain ⟨x, hx, hex⟩ := hbk.complete cT hcT
  exact ⟨x, hnew ▸ hsub x hx, heT.trans hex⟩

theorem specs_of_oracle {O : Oracle} {n : Nat} {P : G → Bool} (hO : OracleSpec O n) (hP : Hereditary P)
    (hC : CanonSpecs O n) : Specs O n (pruneOf P) where
  canon_iso := hC.canon_iso
  canon_inv := hC.canon_inv
  canon_exists := hC.canon_exists
  aug_range := fun hb hlt hc haug => aug_range_of_oracle hO hb hlt hc haug
  aug_complete := fun hb hlt hc haug T P0 g0 x0 c0 hb0 hr0 ha0 hT =>
    aug_complete_of_oracle hO hb hlt hc haug T P0 g0 x0 c0 hb0 hr0 ha0 hT
  aug_distinct := fun hb hlt hc haug => aug_distinct_of_oracle hO hb hlt hc haug
  pre_iso := fun _ _ i => pruneOf_iso hP i
  pre_her := fun hb _ ha h => pruneOf_her hP hb (bitsOf_nodup _) ha h

end Search
