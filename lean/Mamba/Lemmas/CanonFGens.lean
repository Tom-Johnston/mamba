import Mamba.Lemmas.CanonFOrbit
import Mamba.Lemmas.CanonFAut
import Mamba.Lemmas.CanonFMain
import Mamba.Lemmas.CanonFCertDeage
import Mamba.Lemmas.CanonFCertSplit
import Mamba.Lemmas.CanonFCertRefine
import Mamba.Lemmas.CanonFCertExpand
import Mamba.Lemmas.CanonFCount
/-!
# Certificates of leaves, generators and orbits in the main loop of `CanonicalIsomorphAllocated`
(faithful model `Model/CanonF.lean`)

* `sameCert_step`: a leaf whose certificate equals that of a reference leaf (`currentBest` or `firstLeaf`) yields the
  automorphism "vertex at position `p` of the reference leaf ↦ vertex at position `p` of this leaf"; the union–find is
  merged along it and it is recorded as a generator iff something was merged.
* `GInv`: `currentBest`/`firstLeaf` are full certificates `certPos nb o n` of leaves `o` whose inverse permutations are
  `currentBestPermInv`/`firstLeafPermInv`; every recorded generator is an automorphism; two vertices with the same
  representative in `firstLeafOrbits` are connected by recorded generators.
-/
namespace CanonF
open Relation

def InvOf (o : List Nat) (pinv : Sl Nat) : Prop := ∀ i x : Nat, o[i]? = some x → pinv.toList[x]? = some i

def GenRelA (gens : Array (Sl Nat)) (ngens : Nat) (x y : Nat) : Prop :=
  ∃ k γ, k < ngens ∧ gens[k]? = some γ ∧ γ.toList[x]? = some y

theorem eqvGen_of_imp {α : Type} {R S : α → α → Prop} (h : ∀ x y, R x y → EqvGen S x y) {a b : α}
    (hab : EqvGen R a b) : EqvGen S a b := by
  induction hab with
  | rel x y hxy => exact h x y hxy
  | refl x => exact EqvGen.refl x
  | symm x y _ ih => exact EqvGen.symm _ _ ih
  | trans x y z _ _ ih1 ih2 => exact EqvGen.trans _ _ _ ih1 ih2

theorem eqvGen_le {n : Nat} {S : List Nat → Prop} (hS : ∀ γ, S γ → γ.Perm (List.range n)) {R : Nat → Nat → Prop}
    (hrefl : ∀ a, a < n → R a a) (hsymm : ∀ a b, a < n → b < n → R a b → R b a)
    (htrans : ∀ a b c, a < n → b < n → c < n → R a b → R b c → R a c)
    (hgen : ∀ γ, S γ → ∀ a, a < n → R a (γ.getD a 0)) {a b : Nat} (ha : a < n)
    (h : EqvGen (fun x y => ∃ γ, S γ ∧ γ[x]? = some y) a b) : b < n ∧ R a b := by
  have key : (a < n ↔ b < n) ∧ (a < n → R a b) := by
    clear ha
    induction h with
    | rel x y hxy =>
      obtain ⟨γ, hs, hg⟩ := hxy
      obtain ⟨hl, -, hmem⟩ := perm_range_facts (hS γ hs)
      obtain ⟨hx, e⟩ := List.getElem?_eq_some_iff.1 hg
      have hx' : x < n := by omega
      have hy : y < n := (hmem y).1 (by rw [← e]; exact List.getElem_mem _)
      refine ⟨⟨fun _ => hy, fun _ => hx'⟩, fun _ => ?_⟩
      have := hgen γ hs x hx'
      rwa [List.getD_eq_getElem?_getD, hg] at this
    | refl x => exact ⟨Iff.rfl, hrefl x⟩
    | symm x y _ ih => exact ⟨ih.1.symm, fun hy => hsymm x y (ih.1.2 hy) hy (ih.2 (ih.1.2 hy))⟩
    | trans x y z _ _ ih1 ih2 =>
      exact ⟨ih1.1.trans ih2.1, fun hx => htrans x y z hx (ih1.1.1 hx) (ih2.1.1 (ih1.1.1 hx)) (ih1.2 hx)
        (ih2.2 (ih1.1.1 hx))⟩
  exact ⟨key.1.1 ha, key.2 ha⟩

theorem recorded_transport {n : Nat} {order pinv tmp : Sl Nat} {o1 : List Nat} (ho1 : o1.Perm (List.range n))
    (hinvof : InvOf o1 pinv) (hl : tmp.toList.length = n)
    (h5 : ∀ i, i < n → ∃ p v, pinv.get i = .ok p ∧ order.get p = .ok v ∧ tmp.toList[i]? = some v) :
    tmp.toList = transport n o1 order.toList := by
  rw [← transport_eq (o2 := order.toList) (pinv := pinv.toList) ho1 hinvof]
  apply List.ext_getElem?
  intro i
  by_cases hi : i < n
  · obtain ⟨p, v, hp, hv, hv'⟩ := h5 i hi
    rw [hv', List.getElem?_map, List.getElem?_range hi, Option.map_some, List.getD_eq_getElem?_getD,
      List.getD_eq_getElem?_getD, Sl.get_eq_toList.1 hp, Option.getD_some, Sl.get_eq_toList.1 hv, Option.getD_some]
  · rw [List.getElem?_eq_none (by rw [hl]; exact Nat.le_of_not_lt hi),
      List.getElem?_eq_none (by rw [List.length_map, List.length_range]; exact Nat.le_of_not_lt hi)]

theorem sameCert_cls {n : Nat} {R : List Nat → Prop} {order pinv : Sl Nat} {o1 : List Nat}
    {gens gens' : Array (Sl Nat)} {ngens ngens' : Nat} {merges : Bool}
    (ho1 : o1.Perm (List.range n)) (hlen : order.len = n) (hinvof : InvOf o1 pinv)
    (hR : R (transport n o1 order.toList))
    (hgens : ∀ k, k < ngens → ∃ γ, gens[k]? = some γ ∧ R γ.toList)
    (hrec : (if merges = true then recordGenerator n order pinv gens ngens else Outcome.ok (gens, ngens)) = .ok (gens', ngens')) :
    ∀ k, k < ngens' → ∃ γ, gens'[k]? = some γ ∧ R γ.toList := by
  by_cases hm : merges = true
  · rw [if_pos hm] at hrec
    obtain ⟨r1, r2, r3, r4, tmp, t1, t2, t3, t4, t5⟩ := recordGenerator_spec hlen hrec
    subst r1
    have htmp : tmp.toList = transport n o1 order.toList := recorded_transport ho1 hinvof t4 t5
    intro k hk
    by_cases hkn : k = ngens
    · subst hkn; exact ⟨tmp, t1, by rw [htmp]; exact hR⟩
    · obtain ⟨γ, g1, g2⟩ := hgens k (by omega)
      exact ⟨γ, by rw [r4 k hkn]; exact g1, g2⟩
  · rw [if_neg hm] at hrec
    cases hrec
    exact hgens

theorem sameCert_step {n : Nat} {nb : Nbrs} (hnb : NbOK nb n) {order pinv : Sl Nat} {o1 : List Nat}
    {ds ds' : Disjoint.DS} {gens gens' : Array (Sl Nat)} {ngens ngens' : Nat} {merges : Bool}
    (ho1 : o1.Perm (List.range n)) (hord : order.toList.Perm (List.range n)) (hlen : order.len = n)
    (hinvof : InvOf o1 pinv) (hcert : certPos nb o1 n = certPos nb order.toList n)
    (hds : Disjoint.Inv ds) (hsz : ds.size = n)
    (hgens : ∀ k, k < ngens → ∃ γ, gens[k]? = some γ ∧ IsAutL nb n γ.toList)
    (horb : ∀ a b, a < n → b < n → Disjoint.rep ds a = Disjoint.rep ds b → EqvGen (GenRelA gens ngens) a b)
    (hloop : forRange (orbitStep order pinv) n 0 (ds, false) = .ok (ds', merges))
    (hrec : (if merges = true then recordGenerator n order pinv gens ngens else Outcome.ok (gens, ngens)) = .ok (gens', ngens')) :
    Disjoint.Inv ds' ∧ ds'.size = n ∧
      (∀ k, k < ngens' → ∃ γ, gens'[k]? = some γ ∧ IsAutL nb n γ.toList) ∧
      (∀ a b, a < n → b < n → Disjoint.rep ds' a = Disjoint.rep ds' b → EqvGen (GenRelA gens' ngens') a b) := by
  obtain ⟨i1, i2, i3, i4, i5, i6⟩ := orbitLoop_spec hds hsz hloop
  refine ⟨i1, i2, sameCert_cls (R := IsAutL nb n) ho1 hlen hinvof (aut_of_cert hnb ho1 hord hcert) hgens hrec, ?_⟩
  by_cases hm : merges = true
  · rw [if_pos hm] at hrec
    obtain ⟨r1, r2, r3, r4, tmp, t1, t2, t3, t4, t5⟩ := recordGenerator_spec hlen hrec
    subst r1
    intro a b ha hb hab
    apply eqvGen_of_imp _ (i5 a b ha hb hab)
    rintro x y ⟨hx, hy, hxy | ⟨p, hp, hv⟩⟩
    · apply eqvGen_of_imp _ (horb x y hx hy hxy)
      rintro u w ⟨k, γ, hk, g1, g2⟩
      exact EqvGen.rel _ _ ⟨k, γ, Nat.lt_succ_of_lt hk, by rw [r4 k (Nat.ne_of_lt hk)]; exact g1, g2⟩
    · obtain ⟨p', v', hp', hv', hvt⟩ := t5 x hx
      rw [hp] at hp'; cases hp'
      rw [hv] at hv'; cases hv'
      exact EqvGen.rel _ _ ⟨ngens, tmp, Nat.lt_succ_self _, t1, hvt⟩
  · rw [if_neg hm] at hrec
    cases hrec
    have hm' : merges = false := by simpa using hm
    intro a b ha hb hab
    rw [i6 hm' a ha, i6 hm' b hb] at hab
    exact horb a b ha hb hab


structure GInv (n m : Nat) (nb : Nbrs) (s : LS) : Prop where
  best : 0 < s.count →
    s.currentBest.toList = certPos nb s.bestPerm.toList n ∧ InvOf s.bestPerm.toList s.bestPermInv
  flLen : s.firstLeaf.len = m ∧ s.firstLeaf.WF
  first : 0 < s.count → ∃ o1, o1.Perm (List.range n) ∧ s.firstLeaf.toList = certPos nb o1 n ∧ InvOf o1 s.flPermInv
  gens : ∀ k, k < s.ngens → ∃ γ, s.gens[k]? = some γ ∧ IsAutL nb n γ.toList
  orb : 0 < s.count → Disjoint.Inv s.flOrbits ∧
    ∀ a b, a < n → b < n → Disjoint.rep s.flOrbits a = Disjoint.rep s.flOrbits b →
      Relation.EqvGen (GenRelA s.gens s.ngens) a b
  orbSz : s.flOrbits.size = n ∧ s.bestOrbits.size = n
  pinv : s.flPermInv.len = n ∧ s.flPermInv.WF
  bpinv : s.bestPermInv.len = n ∧ s.bestPermInv.WF


theorem copyFrom_data_full {α : Type} (a : Array α) (src : List α) (h : src.length = a.size) :
    (Sl.copyFrom ⟨a, a.size⟩ src).data = src.toArray := by
  have hw : (⟨a, a.size⟩ : Sl α).WF := Nat.le_refl _
  have := Sl.copyFrom_toList ⟨a, a.size⟩ hw src h
  apply Array.ext'
  simp only [Sl.toList, Sl.copyFrom_len] at this
  rw [List.take_of_length_le (by simp [Sl.copyFrom])] at this
  simpa using this

theorem GInv.withBestOrbits {n m : Nat} {nb : Nbrs} {s s2 : LS} (h : GInv n m nb s)
    (e1 : s2.currentBest = s.currentBest) (e2 : s2.bestPerm = s.bestPerm) (e3 : s2.bestPermInv = s.bestPermInv)
    (e4 : s2.firstLeaf = s.firstLeaf) (e5 : s2.flPermInv = s.flPermInv) (e6 : s2.gens = s.gens)
    (e7 : s2.ngens = s.ngens) (e8 : s2.flOrbits = s.flOrbits) (e9 : s2.bestOrbits.size = s.bestOrbits.size)
    (e10 : s2.count = s.count) : GInv n m nb s2 := by
  constructor
  · rw [e10, e1, e2, e3]; exact h.best
  · rw [e4]; exact h.flLen
  · rw [e10, e4, e5]; exact h.first
  · rw [e7, e6]; exact h.gens
  · rw [e10, e8, e6, e7]; exact h.orb
  · exact ⟨by rw [e8]; exact h.orbSz.1, by rw [e9]; exact h.orbSz.2⟩
  · rw [e5]; exact h.pinv
  · rw [e3]; exact h.bpinv

theorem GInv.congr {n m : Nat} {nb : Nbrs} {s s2 : LS} (h : GInv n m nb s)
    (e1 : s2.currentBest = s.currentBest) (e2 : s2.bestPerm = s.bestPerm) (e3 : s2.bestPermInv = s.bestPermInv)
    (e4 : s2.firstLeaf = s.firstLeaf) (e5 : s2.flPermInv = s.flPermInv) (e6 : s2.gens = s.gens)
    (e7 : s2.ngens = s.ngens) (e8 : s2.flOrbits = s.flOrbits) (e9 : s2.bestOrbits = s.bestOrbits)
    (e10 : s2.count = s.count) : GInv n m nb s2 :=
  h.withBestOrbits e1 e2 e3 e4 e5 e6 e7 e8 (by rw [e9]) e10


theorem GInv.res_spec {n m : Nat} {nb : Nbrs} {s : LS} (h : GInv n m nb s) (hpos : 0 < s.count) :
    (∀ γ ∈ (s.gens.toList.take s.ngens).map Sl.toList, IsAutL nb n γ) ∧ s.flOrbits.toList.length = n ∧
      ∀ a b, a < n → b < n → Disjoint.rep s.flOrbits.toList.toArray a = Disjoint.rep s.flOrbits.toList.toArray b →
        EqvGen (fun x y => ∃ γ ∈ (s.gens.toList.take s.ngens).map Sl.toList, γ[x]? = some y) a b := by
  obtain ⟨-, o2⟩ := h.orb hpos
  refine ⟨fun γ hγ => ?_, by simp [h.orbSz.1], fun a b hab hb hrep => ?_⟩
  · obtain ⟨t, ht, rfl⟩ := List.mem_map.1 hγ
    obtain ⟨k, hk⟩ := List.getElem?_of_mem ht
    rw [List.getElem?_take] at hk
    by_cases hkn : k < s.ngens
    · rw [if_pos hkn, Array.getElem?_toList] at hk
      obtain ⟨γ', g1, g2⟩ := h.gens k hkn
      rw [g1] at hk
      cases hk
      exact g2
    · rw [if_neg hkn] at hk
      cases hk
  · apply eqvGen_of_imp _ (o2 a b hab hb (by simpa using hrep))
    rintro x y ⟨k, γ, hk, g1, g2⟩
    refine EqvGen.rel _ _ ⟨γ.toList, List.mem_map.2 ⟨γ, ?_, rfl⟩, g2⟩
    apply List.mem_of_getElem? (i := k)
    rw [List.getElem?_take, if_pos hk, Array.getElem?_toList]; exact g1

theorem link_size {ds d' : Disjoint.DS} {a b : Nat} (h : Disjoint.link ds a b = .ok d') : d'.size = ds.size := by
  unfold Disjoint.link at h
  osplit h <;> (cases h; simp)

theorem union_size {ds d' : Disjoint.DS} {x y : Nat} (h : Disjoint.union ds x y = .ok d') : d'.size = ds.size := by
  unfold Disjoint.union at h
  cases h1 : Disjoint.find ds x with
  | ok r1 =>
    obtain ⟨d1, px⟩ := r1
    rw [h1] at h; simp only at h
    cases h2 : Disjoint.find d1 y with
    | ok r2 =>
      obtain ⟨d2, py⟩ := r2
      rw [h2] at h; simp only at h
      rw [link_size h, find_size h2, find_size h1]
    | panic => rw [h2] at h; cases h
    | outOfFuel => rw [h2] at h; cases h
  | panic => rw [h1] at h; cases h
  | outOfFuel => rw [h1] at h; cases h

theorem orbitStep_size {order permInv : Sl Nat} {i : Nat} {st st' : Disjoint.DS × Bool}
    (h : orbitStep order permInv i st = .ok st') : st'.1.size = st.1.size := by
  obtain ⟨ds, mm⟩ := st
  obtain ⟨ds', mm'⟩ := st'
  obtain ⟨_, v, d1, _, d2, _, _, _, h1, h2, ⟨_, h3, _⟩ | ⟨_, e, _⟩⟩ := orbitStep_ok h
  · show ds'.size = ds.size
    rw [union_size h3, find_size h2, find_size h1]
  · show ds'.size = ds.size
    rw [e, find_size h2, find_size h1]

theorem orbitLoop_size {order permInv : Sl Nat} {n : Nat} {ds ds' : Disjoint.DS} {mm mm' : Bool}
    (h : forRange (orbitStep order permInv) n 0 (ds, mm) = .ok (ds', mm')) : ds'.size = ds.size := by
  have := forRange_inv (orbitStep order permInv) (fun _ (st : Disjoint.DS × Bool) => st.1.size = ds.size)
    n 0 (ds, mm) (ds', mm') rfl (fun i st st' _ _ hst hs => by rw [orbitStep_size hs]; exact hst) h
  exact this

theorem resetLoop_spec {n : Nat} {order pinv pinv' : Sl Nat} {orb orb' : Disjoint.DS}
    (hperm : order.toList.Perm (List.range n)) (hwf : order.WF) (hlen : order.len = n) (horb : orb.size = n)
    (h : forRange (resetStep order) order.len 0 (pinv, orb) = .ok (pinv', orb')) :
    pinv'.len = pinv.len ∧ pinv'.data.size = pinv.data.size ∧
      (∀ (i x : Nat), order.toList[i]? = some x → pinv'.toList[x]? = some i) ∧
      orb' = Disjoint.new n ∧ Disjoint.Inv orb' ∧
      (∀ y : Nat, (∀ i : Nat, i < n → order.toList[i]? ≠ some y) → pinv'.data[y]? = pinv.data[y]?) := by
  have hnd : order.toList.Nodup := hperm.nodup_iff.2 List.nodup_range
  have hll : order.toList.length = n := by rw [Sl.length_toList _ hwf, hlen]
  have key := forRange_inv (resetStep order)
    (fun j (st : Sl Nat × Disjoint.DS) =>
      st.1.len = pinv.len ∧ st.1.data.size = pinv.data.size ∧ st.2.size = n ∧
      (∀ i, i < j → ∀ x, order.toList[i]? = some x → x < pinv.len ∧ st.1.data[x]? = some i) ∧
      (∀ i, i < j → st.2[i]? = some (-1)) ∧
      (∀ y, (∀ i, i < j → order.toList[i]? ≠ some y) → st.1.data[y]? = pinv.data[y]?))
    order.len 0 (pinv, orb) (pinv', orb')
    ⟨rfl, rfl, horb, fun i hi => absurd hi (Nat.not_lt_zero _), fun i hi => absurd hi (Nat.not_lt_zero _),
      fun _ _ => rfl⟩ ?_ h
  · rw [Nat.zero_add, hlen] at key
    obtain ⟨k1, k2, k3, k4, k5, k6⟩ := key
    simp only at k1 k2 k3 k4 k5 k6
    have ho : orb' = Disjoint.new n := by
      apply Array.ext_getElem?
      intro i
      by_cases hi : i < n
      · rw [k5 i hi]; simp [Disjoint.new, hi]
      · simp [Disjoint.new, hi]; omega
    refine ⟨k1, k2, ?_, ho, by rw [ho]; exact Disjoint.inv_new' n, k6⟩
    intro i x hix
    have hi : i < n := by
      rw [← hll]; exact (List.getElem?_eq_some_iff.1 hix).1
    obtain ⟨a, b⟩ := k4 i hi x hix
    rw [Sl.getElem?_toList, k1, if_pos a, b]
  · rintro i ⟨p, o⟩ ⟨p', o'⟩ _ hi ⟨j1, j2, j3, j4, j5, j6⟩ hstep
    simp only at j1 j2 j3 j4 j5 j6 ⊢
    unfold resetStep at hstep
    simp only at hstep
    cases hv : order.get i with
    | ok v =>
      rw [hv] at hstep; simp only at hstep
      cases hs : p.set v i with
      | ok p1 =>
        rw [hs] at hstep; simp only at hstep
        by_cases hio : i < o.size
        · rw [if_pos hio] at hstep
          injection hstep with hstep
          injection hstep with e1 e2
          subst e1; subst e2
          have hvi : order.toList[i]? = some v := Sl.get_eq_toList.1 hv
          obtain ⟨⟨s1, s2⟩, _⟩ := Sl.set_eq_ok.1 hs
          refine ⟨by rw [Sl.set_len hs, j1], by rw [Sl.set_cap hs, j2], by simpa using j3, ?_, ?_, ?_⟩
          · intro t ht x hx
            by_cases hti : t = i
            · subst hti
              rw [hvi] at hx; injection hx with hx; subst hx
              exact ⟨j1 ▸ s1, by rw [Sl.set_data hs, if_pos rfl]⟩
            · obtain ⟨a, b⟩ := j4 t (Nat.lt_of_le_of_ne (Nat.le_of_lt_succ ht) hti) x hx
              have hxv : x ≠ v := by
                intro e; subst e
                have : order.toList[t]? = order.toList[i]? := by rw [hx, hvi]
                exact hti ((List.getElem?_inj (List.getElem?_eq_some_iff.1 hx).1 hnd).1 this)
              exact ⟨a, by rw [Sl.set_data hs, if_neg hxv, b]⟩
          · intro t ht
            rw [Array.getElem?_setIfInBounds]
            by_cases hti : i = t
            · subst hti; rw [if_pos rfl, if_pos hio]
            · rw [if_neg hti]; exact j5 t (Nat.lt_of_le_of_ne (Nat.le_of_lt_succ ht) (Ne.symm hti))
          · intro y hy
            have hyv : y ≠ v := by
              intro e; subst e; exact hy i (Nat.lt_succ_self i) hvi
            rw [Sl.set_data hs, if_neg hyv]
            exact j6 y (fun t ht => hy t (Nat.lt_succ_of_lt ht))
        · rw [if_neg hio] at hstep; simp at hstep
      | panic => rw [hs] at hstep; simp at hstep
      | outOfFuel => rw [hs] at hstep; simp at hstep
    | panic => rw [hv] at hstep; simp at hstep
    | outOfFuel => rw [hv] at hstep; simp at hstep

/-- what the reset loop and the copies of the store branch leave behind -/
structure Stored (n : Nat) (s : LS) (pinv' : Sl Nat) (orb' : Disjoint.DS) : Prop where
  bestPerm : (s.bestPerm.copyFrom s.op.order.toList).toList = s.op.order.toList
  inv : InvOf s.op.order.toList pinv'
  orb : orb' = Disjoint.new n
  len : pinv'.len = n
  wf : pinv'.WF
  flInv : (s.flPermInv.copyFrom pinv'.toList).toList = pinv'.toList
  flOrb : (Sl.copyFrom ⟨s.flOrbits, s.flOrbits.size⟩ orb'.toList).data = Disjoint.new n

theorem store_facts {n m : Nat} {nb : Nbrs} {s : LS} {pinv' : Sl Nat} {orb' : Disjoint.DS} (hc : Core n s)
    (hg : GInv n m nb s)
    (hloop : forRange (resetStep s.op.order) s.op.order.len 0 (s.bestPermInv, s.bestOrbits) = .ok (pinv', orb')) :
    Stored n s pinv' orb' := by
  obtain ⟨r1, r2, r3, r4, -, -⟩ := resetLoop_spec hc.part.perm hc.part.wfOrder hc.part.lenOrder hg.orbSz.2 hloop
  have hw : pinv'.WF := by have := hg.bpinv.2; unfold Sl.WF at this ⊢; rw [r1, r2]; exact this
  have hl : pinv'.len = n := by rw [r1]; exact hg.bpinv.1
  exact ⟨Sl.copyFrom_toList _ hc.bestWf _ (by
      rw [hc.part.length_order, hc.bestLen]), r3, r4, hl, hw,
    Sl.copyFrom_toList _ hg.pinv.2 _ (by rw [Sl.length_toList _ hw, hl, hg.pinv.1]),
    by rw [copyFrom_data_full _ _ (by rw [r4]; simp [Disjoint.new, hg.orbSz.1]), r4]⟩

theorem store_cert {m : Nat} {b cb : Sl Nat} {v : List Nat} (hrs : b.reslice m = .ok cb) (hv : v.length = m) :
    (cb.copyFrom v).toList = v := by
  obtain ⟨cbl, -, cbw⟩ := Sl.reslice_len hrs
  exact Sl.copyFrom_toList cb cbw _ (by rw [hv, cbl])

theorem leafNode_cert {n m : Nat} {nb : Nbrs} (hnb : NbOK nb n)
    (hlenm : ∀ o : List Nat, o.Perm (List.range n) → (certPos nb o n).length = m)
    {s s' : LS} {lv : List (Nat × Nat)}
    (hq : StepQ n nb s.currentBest s.firstLeaf (VAny nb s.currentBest s.firstLeaf) (VN nb s.currentBest s.firstLeaf)
      (VN nb s.currentBest s.firstLeaf))
    (hc : Core n s) (hl : LevelsOK s.op s.path s.choices lv) (hage : s.op.age = s.path.length)
    (hg : GInv n m nb s)
    (hvc : VClean nb s.op) (hspl : s.op.spl = n)
    (h : leafNode n m s = .ok s') :
    GInv n m nb s' ∧ VN nb s'.currentBest s'.firstLeaf s'.op := by
  have hval : s.op.value.toList = certPos nb s.op.order.toList n := by rw [← hspl]; exact hvc.val
  have hvlen : s.op.value.toList.length = m := by rw [hval]; exact hlenm _ hc.part.perm
  have hbest : ∀ {cb pinv' orb'}, s.currentBest.reslice m = .ok cb → Stored n s pinv' orb' →
      (cb.copyFrom s.op.value.toList).toList = certPos nb (s.bestPerm.copyFrom s.op.order.toList).toList n ∧
        InvOf (s.bestPerm.copyFrom s.op.order.toList).toList pinv' :=
    fun hrs S => ⟨by rw [store_cert hrs hvlen, S.bestPerm]; exact hval, by rw [S.bestPerm]; exact S.inv⟩
  cases leafNode_case h with
  | @first cb pinv' orb' hcnt hrs hloop =>
    have S := store_facts hc hg hloop
    refine ⟨⟨fun _ => hbest hrs S, ⟨by rw [Sl.copyFrom_len]; exact hg.flLen.1, Sl.copyFrom_wf hg.flLen.2 _⟩,
      fun _ => ⟨s.op.order.toList, hc.part.perm, ?_, ?_⟩, hg.gens, fun _ => ?_, ⟨?_, ?_⟩,
      ⟨by rw [Sl.copyFrom_len]; exact hg.pinv.1, Sl.copyFrom_wf hg.pinv.2 _⟩, ⟨S.len, S.wf⟩⟩, hvc⟩
    · show (s.firstLeaf.copyFrom s.op.value.toList).toList = _
      rw [Sl.copyFrom_toList _ hg.flLen.2 _ (by rw [hvlen, hg.flLen.1])]; exact hval
    · intro i x hx
      show (s.flPermInv.copyFrom pinv'.toList).toList[x]? = some i
      rw [S.flInv]; exact S.inv i x hx
    · show Disjoint.Inv (Sl.copyFrom ⟨s.flOrbits, s.flOrbits.size⟩ orb'.toList).data ∧ _
      rw [S.flOrb]
      refine ⟨Disjoint.inv_new' n, fun a b ha hb hab => ?_⟩
      rw [Disjoint.rep_new n a ha, Disjoint.rep_new n b hb] at hab
      subst hab; exact EqvGen.refl _
    · show (Sl.copyFrom ⟨s.flOrbits, s.flOrbits.size⟩ orb'.toList).data.size = n
      rw [S.flOrb]; exact Disjoint.size_new n
    · show orb'.size = n; rw [S.orb]; exact Disjoint.size_new n
  | @accept cb pinv' orb' hpos _ hrs hloop =>
    have S := store_facts hc hg hloop
    exact ⟨⟨fun _ => hbest hrs S, hg.flLen, fun _ => hg.first hpos, hg.gens, fun _ => hg.orb hpos,
      ⟨hg.orbSz.1, by show orb'.size = n; rw [S.orb]; exact Disjoint.size_new n⟩, hg.pinv, ⟨S.len, S.wf⟩⟩, hvc⟩
  | @eq pinv ref bo fo merges gens' ngens' _ hpos _ hX hloop2 hrec hbj =>
    -- the stored leaf `o1` with the same certificate
    obtain ⟨o1, p1, p3, hcert, hbo⟩ : ∃ o1 : List Nat, o1.Perm (List.range n) ∧ InvOf o1 pinv ∧
        s.op.value.toList = certPos nb o1 n ∧ bo.size = n := by
      cases hX with
      | best heq hl1 =>
        exact ⟨_, hc.bestPerm hpos, (hg.best hpos).2, by rw [heq, (hg.best hpos).1],
          by rw [orbitLoop_size hl1]; exact hg.orbSz.2⟩
      | first _ heq =>
        obtain ⟨o1, p1, p2, p3⟩ := hg.first hpos
        exact ⟨o1, p1, p3, by rw [heq, p2], hg.orbSz.2⟩
    obtain ⟨o1f, o2f⟩ := hg.orb hpos
    obtain ⟨k1, k2, k3, k4⟩ := sameCert_step hnb p1 hc.part.perm hc.part.lenOrder p3
      (by rw [← hcert, hval]) o1f hg.orbSz.1 hg.gens o2f hloop2 hrec
    obtain ⟨lv', c1, c2, c3, c4, c5⟩ := backJump_spec hq (n := n) (lv := lv)
      (by exact Core.congr hc rfl rfl rfl (fun _ => hpos)) (by exact hl) (by exact hage) (by exact hvc) hbj
    refine ⟨?_, by rw [c4]; exact c5⟩
    refine GInv.congr (s := { s with count := s.count + 1, bestOrbits := bo, flOrbits := fo, gens := gens', ngens := ngens' })
      ?_ (by rw [c4]) (by rw [c4]) (by rw [c4]) (by rw [c4]) (by rw [c4])
      (by rw [c4]) (by rw [c4]) (by rw [c4]) (by rw [c4]) (by rw [c4])
    exact ⟨fun _ => hg.best hpos, hg.flLen, fun _ => hg.first hpos, k3, fun _ => ⟨k1, k4⟩, ⟨k2, hbo⟩, hg.pinv, hg.bpinv⟩
  | other hpos _ _ _ =>
    exact ⟨⟨fun _ => hg.best hpos, hg.flLen, fun _ => hg.first hpos, hg.gens, fun _ => hg.orb hpos, hg.orbSz, hg.pinv,
      hg.bpinv⟩, hvc⟩


theorem certStepQ (hx : ExpandCert) (n : Nat) (nb : Nbrs) (cb fl : Sl Nat) :
    StepQ n nb cb fl (VAny nb cb fl) (VN nb cb fl) (VN nb cb fl) where
  na := fun _ h => h.any
  sa := fun _ h => h.any
  deage := fun _ _ hp ha hage hv hd => deage_cert hp ha hage hv hd
  split := fun _ _ _ _ hp ha hi hns _ hv hs => splitBin_cert hx hp ha hi hns hv hs

/-- at a leaf (all bins singletons) the whole order is the prefix -/
theorem leaf_clean {n : Nat} {nb : Nbrs} {cb fl : Sl Nat} {op : OP} (hp : PartInv n op) (hleaf : op.binDividers.len = n)
    (hv : VN nb cb fl op) : VClean nb op ∧ op.spl = n := by
  have hsing := hp.leaf_dividers hleaf
  have hc : VClean nb op := hv
  refine ⟨hc, ?_⟩
  have := hc.pre.le
  rcases Nat.lt_or_ge op.spl n with hlt | hge
  · exact absurd (hsing _ hlt) hc.pre.next
  · omega

/-- the certificate part of the main-loop invariant -/
structure CInv (n m : Nat) (nb : Nbrs) (s : LS) (worse : Bool) : Prop where
  g : GInv n m nb s
  vn : worse = false → VN nb s.currentBest s.firstLeaf s.op
  va : VAny nb s.currentBest s.firstLeaf s.op


/-- closure properties of an additional invariant of the partition through the whole search: `QA` holds at all times,
`QN` at a node (after a refinement that has not reported "worse", after a `deage`), `QS` after a `splitBin` (the state
handed to the refinement; also the initial partition). `PL` is what `QN` says about the order of a leaf, `R` what follows
for the map between two such leaves. -/
structure OrdQ (n : Nat) (nb : Nbrs) (QA QN QS : OP → Prop) (PL R : List Nat → Prop) : Prop where
  na : ∀ op, QN op → QA op
  sa : ∀ op, QS op → QA op
  frame : ∀ op op' : OP, op'.order = op.order → op'.binDividers = op.binDividers → op'.binAges = op.binAges →
    op'.binsToCheck = op.binsToCheck → op'.age = op.age → op'.inCell = op.inCell → QN op → QN op'
  deage : ∀ op op', PartInv n op → AgeInv op → 0 < op.age → QA op → deage op = .ok op' → QN op'
  split : ∀ (cb fl : Sl Nat) op op' i w, PartInv n op → AgeInv op → i < n → NonSingleton op.binDividers.toList i →
    (∀ t, t < binStartOf op.binDividers.toList i → t + 1 ∈ op.binDividers.toList) →
    QN op → splitBin nb cb fl op i = .ok (w, op') → (w = false → QS op') ∧ (w = true → QA op')
  refine : ∀ (cb fl : Sl Nat) (opts : Options) op op' sc sc' w, PartInv n op → AgeInv op → ScratchOK n sc →
    sc.timesSeen.len = n → QS op →
    refine nb cb fl opts op sc = .ok (w, op', sc') → (w = false → QN op') ∧ (w = true → QA op')
  leaf : ∀ op : OP, PartInv n op → AgeInv op → QN op → op.binDividers.len = n → PL op.order.toList
  rel : ∀ o1 o2 : List Nat, o1.Perm (List.range n) → o2.Perm (List.range n) → PL o1 → PL o2 → R (transport n o1 o2)

theorem OrdQ.stepQ {n : Nat} {nb : Nbrs} {QA QN QS : OP → Prop} {PL R : List Nat → Prop} (h : OrdQ n nb QA QN QS PL R)
    (cb fl : Sl Nat) : StepQ n nb cb fl QA QN QS where
  na := h.na
  sa := h.sa
  deage := fun op op' hp ha hage hq hd => h.deage op op' hp ha hage hq hd
  split := fun op op' i w hp ha hi hns hf hq hs => h.split cb fl op op' i w hp ha hi hns hf hq hs

/-- an invariant that does not distinguish the three kinds of states -/
theorem OrdQ.ofSimple {n : Nat} {nb : Nbrs} {PO : OP → Prop} {PL R : List Nat → Prop}
    (hframe : ∀ op op' : OP, op'.order = op.order → op'.binDividers = op.binDividers → op'.binAges = op.binAges →
      PO op → PO op')
    (hdeage : ∀ op op', PartInv n op → AgeInv op → 0 < op.age → PO op → CanonF.deage op = .ok op' → PO op')
    (hsplit : ∀ (cb fl : Sl Nat) op op' i w, PartInv n op → AgeInv op → i < n → NonSingleton op.binDividers.toList i →
      PO op → splitBin nb cb fl op i = .ok (w, op') → PO op')
    (hrefine : ∀ (cb fl : Sl Nat) (opts : Options) op op' sc sc' w, PartInv n op → AgeInv op → ScratchOK n sc → PO op →
      CanonF.refine nb cb fl opts op sc = .ok (w, op', sc') → PO op')
    (hleaf : ∀ op : OP, PO op → PL op.order.toList)
    (hrel : ∀ o1 o2 : List Nat, o1.Perm (List.range n) → o2.Perm (List.range n) → PL o1 → PL o2 →
      R (transport n o1 o2)) :
    OrdQ n nb PO PO PO PL R where
  na := fun _ h => h
  sa := fun _ h => h
  frame := fun op op' e1 e2 e3 _ _ _ h => hframe op op' e1 e2 e3 h
  deage := hdeage
  split := fun cb fl op op' i w hp ha hi hns _ h hs =>
    ⟨fun _ => hsplit cb fl op op' i w hp ha hi hns h hs, fun _ => hsplit cb fl op op' i w hp ha hi hns h hs⟩
  refine := fun cb fl opts op op' sc sc' w hp ha hsc _ h hr =>
    ⟨fun _ => hrefine cb fl opts op op' sc sc' w hp ha hsc h hr, fun _ => hrefine cb fl opts op op' sc sc' w hp ha hsc h hr⟩
  leaf := fun op _ _ h _ => hleaf op h
  rel := hrel

/-- the reference leaves satisfy `PL`, the recorded generators satisfy `R` -/
structure KInv (PL R : List Nat → Prop) (n : Nat) (s : LS) : Prop where
  best : 0 < s.count → PL s.bestPerm.toList
  first : 0 < s.count → ∃ o1, o1.Perm (List.range n) ∧ PL o1 ∧ InvOf o1 s.flPermInv
  gens : ∀ k, k < s.ngens → ∃ γ, s.gens[k]? = some γ ∧ R γ.toList

theorem KInv.congr {PL R : List Nat → Prop} {n : Nat} {s s2 : LS} (h : KInv PL R n s)
    (e2 : s2.bestPerm = s.bestPerm) (e5 : s2.flPermInv = s.flPermInv) (e6 : s2.gens = s.gens)
    (e7 : s2.ngens = s.ngens) (e10 : s2.count = s.count) : KInv PL R n s2 := by
  constructor
  · rw [e10, e2]; exact h.best
  · rw [e10, e5]; exact h.first
  · rw [e7, e6]; exact h.gens

theorem leafNode_cls {n m : Nat} {nb : Nbrs} {QA QN QS : OP → Prop} {PL R : List Nat → Prop}
    (hO : OrdQ n nb QA QN QS PL R)
    {s s' : LS} {lv : List (Nat × Nat)}
    (hc : Core n s) (hl : LevelsOK s.op s.path s.choices lv) (hage : s.op.age = s.path.length)
    (hg : GInv n m nb s) (hk : KInv PL R n s) (hpo : QN s.op) (hleaf : s.op.binDividers.len = n)
    (h : leafNode n m s = .ok s') :
    KInv PL R n s' ∧ QN s'.op := by
  have hpl : PL s.op.order.toList := hO.leaf _ hc.part hc.age hpo hleaf
  cases leafNode_case h with
  | @first cb pinv' orb' _ _ hloop =>
    have S := store_facts hc hg hloop
    exact ⟨⟨fun _ => by show PL (s.bestPerm.copyFrom s.op.order.toList).toList; rw [S.bestPerm]; exact hpl,
      fun _ => ⟨s.op.order.toList, hc.part.perm, hpl, fun i x hx => by
        show (s.flPermInv.copyFrom pinv'.toList).toList[x]? = some i
        rw [S.flInv]; exact S.inv i x hx⟩, hk.gens⟩, hpo⟩
  | @accept cb pinv' orb' hpos _ _ hloop =>
    have S := store_facts hc hg hloop
    exact ⟨⟨fun _ => by show PL (s.bestPerm.copyFrom s.op.order.toList).toList; rw [S.bestPerm]; exact hpl,
      fun _ => hk.first hpos, hk.gens⟩, hpo⟩
  | @eq pinv ref bo fo merges gens' ngens' _ hpos _ hX _ hrec hbj =>
    obtain ⟨o1, p1, p3, p2⟩ : ∃ o1 : List Nat, o1.Perm (List.range n) ∧ InvOf o1 pinv ∧ PL o1 := by
      cases hX with
      | best _ _ => exact ⟨_, hc.bestPerm hpos, (hg.best hpos).2, hk.best hpos⟩
      | first _ _ => obtain ⟨o1, p1, p2, p3⟩ := hk.first hpos; exact ⟨o1, p1, p3, p2⟩
    have k3 := sameCert_cls (R := R) p1 hc.part.lenOrder p3 (hO.rel _ _ p1 hc.part.perm p2 hpl) hk.gens hrec
    obtain ⟨lv', c1, c2, c3, c4, c5⟩ := backJump_spec (hO.stepQ s.currentBest s.firstLeaf) (n := n) (lv := lv)
      (by exact Core.congr hc rfl rfl rfl (fun _ => hpos)) (by exact hl) (by exact hage) (by exact hpo) hbj
    refine ⟨?_, c5⟩
    refine KInv.congr (s := { s with count := s.count + 1, bestOrbits := bo, flOrbits := fo, gens := gens', ngens := ngens' })
      ?_ (by rw [c4]) (by rw [c4]) (by rw [c4]) (by rw [c4]) (by rw [c4])
    exact ⟨fun _ => hk.best hpos, fun _ => hk.first hpos, k3⟩
  | other hpos _ _ _ => exact ⟨⟨fun _ => hk.best hpos, fun _ => hk.first hpos, hk.gens⟩, hpo⟩


end CanonF
