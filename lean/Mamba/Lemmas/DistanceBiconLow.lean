import Mamba.Lemmas.DistanceBiconTreeSteps
/-!
# Lowpoint and articulation bookkeeping invariant of the `BiconnectedComponents` model, and its preservation by
the three moves

`lowpoints[v]` becomes final when `v` is popped: the scan hands over the minimum it has accumulated (`LowT`), and
`la_pop` turns that into `lob`/`loatt` for `v`.
-/
namespace GDist
open GraphSpec Model

/-- `isArticulation[v]` -/
def isA (st : BicSt) (v : Nat) : Bool := st.isArt.getD v false

/-- lowpoints and the bookkeeping of the emissions: `lowpoints[x] ≤ depths[x]` (`lole`); for a vertex `x` that has left the
stack, `lowpoints[x]` is a lower bound of the depths at the far ends of the edges that leave the subtree of `x` other than
tree edges to a parent, and it is attained (`lob`, `loatt`); `parents[c]` is the tree parent or `-1`, the latter only for
a finished child that closes a block at a non-root parent, which is then marked (`ar1`, `ar2`); a marked vertex is a
non-root with such a child (`ar4`); a finished child that closes a block and still has its parent entry has its parent
on top of the stack, scanned up to it (`ar3`); `childCount` counts the tree children of the root (`ar5`) -/
structure LA (h : G) (st : BicSt) (tp : Nat → Nat) : Prop where
  lole : ∀ x, x < h.n → bvis st x → lo st x ≤ dI st x
  lob : ∀ x, x < h.n → bvis st x → x ∉ st.toCheck → ∀ z a, z < h.n → Anc tp x z → bvis st z →
    h.adj z a = true → a < h.n → a ≠ tp z → lo st x ≤ dI st a
  loatt : ∀ x, x < h.n → bvis st x → x ∉ st.toCheck → lo st x = dI st x ∨
    ∃ z a, z < h.n ∧ Anc tp x z ∧ bvis st z ∧ h.adj z a = true ∧ a < h.n ∧ a ≠ tp z ∧ lo st x = dI st a
  ar1 : ∀ c, c < h.n → bvis st c → c ≠ 0 → pa st c = (tp c : Int) ∨ pa st c = -1
  ar2 : ∀ c, c < h.n → bvis st c → c ≠ 0 → pa st c = -1 →
    c ∉ st.toCheck ∧ tp c ≠ 0 ∧ lo st c ≥ dI st (tp c) ∧ isA st (tp c) = true
  ar3 : ∀ c, c < h.n → bvis st c → c ∉ st.toCheck → c ≠ 0 → pa st c = (tp c : Int) → tp c ≠ 0 →
    lo st c ≥ dI st (tp c) → ∃ rest, st.toCheck = tp c :: rest ∧ ∀ w, h.adj (tp c) w = true → w < c → bvis st w
  ar4 : ∀ v, v < h.n → isA st v = true → v ≠ 0 ∧
    ∃ c, c < h.n ∧ bvis st c ∧ c ∉ st.toCheck ∧ c ≠ 0 ∧ tp c = v ∧ lo st c ≥ dI st v
  ar5 : ∃ L : List Nat, L.Nodup ∧ L.length = st.childCount ∧
    ∀ c, c ∈ L ↔ (c < h.n ∧ bvis st c ∧ c ≠ 0 ∧ tp c = 0)

/-- no finished child of `v` is waiting for its block to be emitted -/
def NoPend (h : G) (st : BicSt) (v : Nat) : Prop :=
  ∀ c, c < h.n → bvis st c → c ∉ st.toCheck → c ≠ 0 → pa st c = (v : Int) → v ≠ 0 → lo st c ≥ dI st v → False

variable {h : G} {st : BicSt} {tp : Nat → Nat}

theorem LA.tp_of_pa (la : LA h st tp) {c v : Nat} (hc : c < h.n) (hcv : bvis st c) (hc0 : c ≠ 0)
    (hpc : pa st c = (v : Int)) : tp c = v := by
  rcases la.ar1 c hc hcv hc0 with h1 | h1
  · rw [hpc] at h1; omega
  · rw [hpc] at h1; omega

theorem LA.no_pend (la : LA h st tp) {v c : Nat} {rest : List Nat} (hstk : st.toCheck = v :: rest)
    (hnp : NoPend h st v) (hc : c < h.n) (hcv : bvis st c) (hcs : c ∉ st.toCheck) (hc0 : c ≠ 0)
    (hpc : pa st c = (tp c : Int)) (htc : tp c ≠ 0) : lo st c < dI st (tp c) := by
  by_contra hlt
  have hge : lo st c ≥ dI st (tp c) := Int.not_lt.1 hlt
  obtain ⟨rest', hr, _⟩ := la.ar3 c hc hcv hcs hc0 hpc htc hge
  rw [hstk] at hr
  rw [← (List.cons.inj hr).1] at hpc htc hge
  exact hnp c hc hcv hcs hc0 hpc htc hge

theorem isA_descendSt (st : BicSt) (v u : Nat) (cur : List Nat) (x : Nat) :
    isA (descendSt st v u cur) x = isA st x := rfl
theorem isA_popSt (st : BicSt) (v : Nat) (rest : List Nat) (t : Int) (bs : List (List Nat)) (c : List Nat) (x : Nat) :
    isA (popSt st v rest t bs c) x = isA st x := rfl
theorem isA_emitSt (com : List Nat) {st : BicSt} {v u : Nat} {cur : List Nat} (hv : v < st.isArt.size) (x : Nat) :
    isA (emitSt com st v u cur) x = if x = v then true else isA st x := by
  unfold isA emitSt; simp only; exact getD_setIfInBounds hv _ _ _

theorem la_descend (dt : DT h st tp) (la : LA h st tp) {v u : Nat} {rest cur : List Nat}
    (hstk : st.toCheck = v :: rest) (hu : u < h.n) (hunv : ¬ bvis st u)
    (hnopend : NoPend h st v) :
    LA h (descendSt st v u cur) (Function.update tp u v) := by
  obtain ⟨hvs, hvn, hvv⟩ := dt.top hstk
  have hne : ∀ x, bvis st x → x ≠ u := fun x hx h0 => hunv (h0 ▸ hx)
  have hvu : v ≠ u := hne v hvv
  have hd := dt.ok.dI_descendSt (v := v) (cur := cur) hu
  have hl := dt.ok.lo_descendSt (v := v) (cur := cur) hu
  have hp := dt.ok.pa_descendSt (v := v) (cur := cur) hu
  have hvpos := dt.dnn v hvv
  have hvis := dt.bvis_descendSt (cur := cur) hstk hu
  have hold : ∀ x, x ≠ u → bvis (descendSt st v u cur) x → bvis st x := by
    intro x hxu hxv
    exact ((hvis x).1 hxv).resolve_left hxu
  have htp : ∀ x, x ≠ u → Function.update tp u v x = tp x := fun x hx => Function.update_of_ne hx v tp
  have htpu : Function.update tp u v u = v := Function.update_self u v tp
  have hstack' : (descendSt st v u cur).toCheck = u :: st.toCheck := rfl
  have hfin : ∀ x, bvis (descendSt st v u cur) x → x ∉ (descendSt st v u cur).toCheck →
      x ≠ u ∧ bvis st x ∧ x ∉ st.toCheck := by
    intro x hxv hxs
    rw [hstack'] at hxs
    have hxu : x ≠ u := fun h0 => hxs (h0 ▸ List.mem_cons_self)
    exact ⟨hxu, hold x hxu hxv, fun hm => hxs (List.mem_cons_of_mem _ hm)⟩
  have hsub : ∀ x z, x < h.n → bvis st x → x ∉ st.toCheck → z < h.n → bvis (descendSt st v u cur) z →
      Anc (Function.update tp u v) x z → z ≠ u ∧ bvis st z ∧ Anc tp x z ∧ z ∉ st.toCheck := by
    intro x z hx hxv hxs hz hzv ha
    have hzu : z ≠ u := by
      rintro rfl
      obtain ⟨k, hk⟩ := ha
      cases k with
      | zero => exact hne x hxv hk.symm
      | succ k =>
        rw [Function.iterate_succ_apply, htpu, iterate_update dt hunv hvn hvv] at hk
        exact hxs (dt.anc_of_top_on_stack hstk ⟨k, hk⟩)
    have hzv' := hold z hzu hzv
    have ha' := (anc_update_iff dt hunv hz hzv').1 ha
    exact ⟨hzu, hzv', ha', dt.sub_finished hxs ha'⟩
  refine { lole := ?_, lob := ?_, loatt := ?_, ar1 := ?_, ar2 := ?_, ar3 := ?_, ar4 := ?_, ar5 := ?_ }
  · intro x hx hxv
    rw [hl, hd]
    by_cases hxu : x = u
    · simp [hxu]
    · simp only [hxu, if_false]; exact la.lole x hx (hold x hxu hxv)
  · intro x hx hxv hxs z a hz ha hzv hza han hatp
    obtain ⟨hxu, hxv', hxs'⟩ := hfin x hxv hxs
    obtain ⟨hzu, hzv', ha', hzs⟩ := hsub x z hx hxv' hxs' hz hzv ha
    have hav : bvis st a := dt.fin z hz hzv' hzs a hza han
    rw [htp z hzu] at hatp
    rw [hl, hd]
    simp only [hxu, if_false, hne a hav]
    exact la.lob x hx hxv' hxs' z a hz ha' hzv' hza han hatp
  · intro x hx hxv hxs
    obtain ⟨hxu, hxv', hxs'⟩ := hfin x hxv hxs
    rw [hl, hd]
    simp only [hxu, if_false]
    rcases la.loatt x hx hxv' hxs' with h0 | ⟨z, a, hz, ha, hzv, hza, han, hatp, hlo⟩
    · exact .inl h0
    · right
      have hzs := dt.sub_finished hxs' ha
      have hav : bvis st a := dt.fin z hz hzv hzs a hza han
      have hzu := hne z hzv
      refine ⟨z, a, hz, anc_update dt hunv hz hzv ha, (hvis z).2 (.inr hzv), hza, han, by rw [htp z hzu]; exact hatp, ?_⟩
      rw [hd]; simp only [hne a hav, if_false]; exact hlo
  · intro c hc hcv hc0
    rw [hp]
    by_cases hcu : c = u
    · simp [hcu]
    · simp only [hcu, if_false, htp c hcu]
      exact la.ar1 c hc (hold c hcu hcv) hc0
  · intro c hc hcv hc0 hpc
    rw [hp] at hpc
    have hcu : c ≠ u := by
      rintro rfl
      simp at hpc
    simp only [hcu, if_false] at hpc
    obtain ⟨h1, h2, h3, h4⟩ := la.ar2 c hc (hold c hcu hcv) hc0 hpc
    have htv := (dt.tree c hc (hold c hcu hcv) hc0).2.1
    refine ⟨?_, by rw [htp c hcu]; exact h2, ?_, by rw [htp c hcu, isA_descendSt]; exact h4⟩
    · rw [hstack']; intro hm
      rcases List.mem_cons.1 hm with h0 | h0
      · exact hcu h0
      · exact h1 h0
    · rw [htp c hcu, hl, hd]
      simp only [hcu, if_false, hne _ htv]
      exact h3
  · intro c hc hcv hcs hc0 hpc htc hlc
    exfalso
    obtain ⟨hcu, hcv', hcs'⟩ := hfin c hcv hcs
    rw [hp] at hpc
    simp only [hcu, if_false, htp c hcu] at hpc
    rw [htp c hcu] at htc hlc
    have htv := (dt.tree c hc hcv' hc0).2.1
    rw [hl, hd] at hlc
    simp only [hcu, if_false, hne _ htv] at hlc
    exact Int.not_le.2 (la.no_pend hstk hnopend hc hcv' hcs' hc0 hpc htc) hlc
  · intro x hx hxa
    rw [isA_descendSt] at hxa
    obtain ⟨hx0, c, hc, hcv, hcs, hc0, htc, hlc⟩ := la.ar4 x hx hxa
    have hcu := hne c hcv
    have hxv : bvis st x := by rw [← htc]; exact (dt.tree c hc hcv hc0).2.1
    refine ⟨hx0, c, hc, (hvis c).2 (.inr hcv), ?_, hc0, by rw [htp c hcu]; exact htc, ?_⟩
    · rw [hstack']; intro hm
      rcases List.mem_cons.1 hm with h0 | h0
      · exact hcu h0
      · exact hcs h0
    · rw [hl, hd]; simp only [hcu, if_false, hne x hxv]; exact hlc
  · obtain ⟨L, hnd, hlen, hmem⟩ := la.ar5
    by_cases hv0 : v = 0
    · refine ⟨u :: L, List.nodup_cons.2 ⟨fun hm => hunv ((hmem u).1 hm).2.1, hnd⟩, ?_, ?_⟩
      · show (u :: L).length = (if v = 0 then st.childCount + 1 else st.childCount)
        simp [hv0, hlen]
      · intro c
        rw [List.mem_cons, hmem]
        constructor
        · rintro (rfl | ⟨h1, h2, h3, h4⟩)
          · refine ⟨hu, (hvis c).2 (.inl rfl), fun h0 => ?_, by rw [htpu]; exact hv0⟩
            subst h0
            exact hunv dt.root_vis
          · exact ⟨h1, (hvis c).2 (.inr h2), h3, by rw [htp c (hne c h2)]; exact h4⟩
        · rintro ⟨h1, h2, h3, h4⟩
          by_cases hcu : c = u
          · exact .inl hcu
          · exact .inr ⟨h1, hold c hcu h2, h3, by rw [htp c hcu] at h4; exact h4⟩
    · refine ⟨L, hnd, ?_, ?_⟩
      · show L.length = (if v = 0 then st.childCount + 1 else st.childCount)
        simp [hv0, hlen]
      · intro c
        rw [hmem]
        constructor
        · rintro ⟨h1, h2, h3, h4⟩
          exact ⟨h1, (hvis c).2 (.inr h2), h3, by rw [htp c (hne c h2)]; exact h4⟩
        · rintro ⟨h1, h2, h3, h4⟩
          have hcu : c ≠ u := by
            rintro rfl
            rw [htpu] at h4; exact hv0 h4
          exact ⟨h1, hold c hcu h2, h3, by rw [htp c hcu] at h4; exact h4⟩

theorem la_emit (com : List Nat) (dt : DT h st tp) (la : LA h st tp) {v u : Nat} {cur : List Nat}
    (hvn : v < h.n) (hu : u < h.n) (huv : bvis st u) (hu0 : u ≠ 0) (hunot : u ∉ st.toCheck)
    (hpu : pa st u = (v : Int)) (hv0 : v ≠ 0) (hlu : lo st u ≥ dI st v) :
    LA h (emitSt com st v u cur) tp := by
  have hvA : v < st.isArt.size := by rw [dt.ok.asz]; exact hvn
  have hp := dt.ok.pa_emitSt com (v := v) (cur := cur) hu
  have hia : ∀ x, isA (emitSt com st v u cur) x = if x = v then true else isA st x := isA_emitSt com hvA
  have htu : tp u = v := la.tp_of_pa hu huv hu0 hpu
  refine { lole := la.lole, lob := la.lob, loatt := la.loatt, ar1 := ?_, ar2 := ?_, ar3 := ?_, ar4 := ?_,
           ar5 := la.ar5 }
  · intro c hc hcv hc0
    rw [hp]
    by_cases hcu : c = u
    · simp [hcu]
    · simp only [hcu, if_false]; exact la.ar1 c hc hcv hc0
  · intro c hc hcv hc0 hpc
    rw [hp] at hpc
    by_cases hcu : c = u
    · subst hcu
      refine ⟨hunot, by rw [htu]; exact hv0, by rw [htu]; exact hlu, ?_⟩
      rw [htu, hia]; simp
    · simp only [hcu, if_false] at hpc
      obtain ⟨h1, h2, h3, h4⟩ := la.ar2 c hc hcv hc0 hpc
      refine ⟨h1, h2, h3, ?_⟩
      rw [hia]; split
      · rfl
      · exact h4
  · intro c hc hcv hcs hc0 hpc htc hlc
    rw [hp] at hpc
    have hcu : c ≠ u := by
      rintro rfl
      simp at hpc
    simp only [hcu, if_false] at hpc
    exact la.ar3 c hc hcv hcs hc0 hpc htc hlc
  · intro x hx hxa
    rw [hia] at hxa
    by_cases hxv : x = v
    · subst hxv
      exact ⟨hv0, u, hu, huv, hunot, hu0, htu, hlu⟩
    · simp only [hxv, if_false] at hxa
      exact la.ar4 x hx hxa

/-- facts about the value `t` assigned to `lowpoints[v]` when the scan of `v` is complete -/
structure LowT (h : G) (st : BicSt) (v : Nat) (t : Int) : Prop where
  le : t ≤ dI st v
  lb : ∀ u, h.adj v u = true → u < h.n → (u : Int) ≠ pa st v → t ≤ lo st u
  att : t = dI st v ∨ ∃ u, h.adj v u = true ∧ u < h.n ∧ (u : Int) ≠ pa st v ∧ t = lo st u

theorem la_pop (dt : DT h st tp) (la : LA h st tp) {v : Nat} {rest : List Nat}
    {t : Int} {bs : List (List Nat)} {c2 : List Nat} (hstk : st.toCheck = v :: rest)
    (hnb : ∀ w, h.adj v w = true → w < h.n → bvis st w) (lt : LowT h st v t)
    (hnopend : NoPend h st v) :
    LA h (popSt st v rest t bs c2) tp := by
  obtain ⟨hvs, hvn, hvv⟩ := dt.top hstk
  have hl := dt.ok.lo_popSt rest t bs c2 hvn
  have hsd := dt.sdec
  rw [hstk] at hsd
  have hvnot : v ∉ rest := dt.top_not_in_rest hstk
  -- the exclusion `u ≠ pa v` is the exclusion of the tree parent
  have hpav : ∀ a : Nat, h.adj v a = true → a ≠ tp v → ((a : Nat) : Int) ≠ pa st v := by
    intro a hadj hne
    by_cases hv0 : v = 0
    · subst hv0
      rw [dt.pa0]
      rw [dt.tp0] at hne
      omega
    · rw [dt.pastk v hvs hv0]; omega
  have hpav' : ∀ a : Nat, ((a : Nat) : Int) ≠ pa st v → a ≠ tp v ∨ v = 0 := by
    intro a hne
    by_cases hv0 : v = 0
    · exact .inr hv0
    · left; rw [dt.pastk v hvs hv0] at hne; omega
  have hfin : ∀ x, x ∉ rest → x = v ∨ x ∉ st.toCheck := by
    intro x hx
    by_cases hxv : x = v
    · exact .inl hxv
    · right; rw [hstk]; exact List.not_mem_cons_of_ne_of_not_mem hxv hx
  have hsubne : ∀ x, x ∉ st.toCheck → ∀ z, Anc tp x z → z ≠ v := by
    intro x hxs z ha hzv
    exact dt.sub_finished hxs ha (hzv ▸ hvs)
  refine { lole := ?_, lob := ?_, loatt := ?_, ar1 := la.ar1, ar2 := ?_, ar3 := ?_, ar4 := ?_, ar5 := la.ar5 }
  · intro x hx hxv
    rw [hl]
    by_cases hxeq : x = v
    · simp only [hxeq, if_true]; exact lt.le
    · simp only [hxeq, if_false]; exact la.lole x hx hxv
  · intro x hx hxv hxs z a hz ha hzv hza han hatp
    rw [hl]
    rcases hfin x hxs with rfl | hxs'
    · simp only [if_true]
      by_cases hzx : z = x
      · subst hzx
        have := lt.lb a hza han (hpav a hza hatp)
        show t ≤ dI st a
        exact Int.le_trans this (la.lole a han (hnb a hza han))
      · obtain ⟨c, hc1, hc2, hc3⟩ := anc_child ha hzx
        have hcn : c < h.n ∧ bvis st c := by
          obtain ⟨k, hk⟩ := hc3
          have := dt.iter_vis hz hzv k
          rw [hk] at this; exact this
        have hc0 : c ≠ 0 := by
          intro h0; rw [h0, dt.tp0] at hc1; exact hc2 (h0.trans hc1)
        obtain ⟨_, _, hcadj, hcd⟩ := dt.tree c hcn.1 hcn.2 hc0
        rw [hc1] at hcadj hcd
        have hcs : c ∉ st.toCheck := by
          rw [hstk]; intro hm
          rcases List.mem_cons.1 hm with h0 | h0
          · exact hc2 h0
          · have := (List.pairwise_cons.1 hsd).1 c h0; omega
        have hctp : c ≠ tp x := by
          intro h0
          by_cases hx0 : x = 0
          · rw [hx0, dt.tp0] at h0; exact hc0 h0
          · obtain ⟨_, _, _, hxd⟩ := dt.tree x hx hvv hx0
            rw [← h0] at hxd; omega
        have h1 := lt.lb c hcadj hcn.1 (hpav c hcadj hctp)
        have h2 := la.lob c hcn.1 hcn.2 hcs z a hz hc3 hzv hza han hatp
        show t ≤ dI st a
        omega
    · have hxv' : x ≠ v := fun h0 => hxs' (h0 ▸ hvs)
      simp only [hxv', if_false]
      exact la.lob x hx hxv hxs' z a hz ha hzv hza han hatp
  · intro x hx hxv hxs
    rw [hl]
    rcases hfin x hxs with rfl | hxs'
    · simp only [if_true]
      rcases lt.att with h0 | ⟨u, hadj, hun, hupa, htu⟩
      · exact .inl h0
      · right
        have huvis := hnb u hadj hun
        have hutp : u ≠ tp x := by
          rcases hpav' u hupa with h0 | h0
          · exact h0
          · subst h0; rw [dt.tp0]; rw [dt.pa0] at hupa; omega
        by_cases hus : u ∈ st.toCheck
        · exact ⟨x, u, hx, Anc.refl _ _, hxv, hadj, hun, hutp, by rw [htu, dt.lostk u hus]; rfl⟩
        · rcases la.loatt u hun huvis hus with h1 | ⟨z, a, hz, ha, hzv, hza, han, hatp, hlo⟩
          · exact ⟨x, u, hx, Anc.refl _ _, hxv, hadj, hun, hutp, by rw [htu, h1]; rfl⟩
          · -- `u` is a finished neighbour of the top, hence a descendant
            have hanc : Anc tp x u := by
              rcases dt.nocross x u hx hun hxv huvis hadj with h1 | h1
              · exact h1
              · exact absurd (dt.anc_of_top_on_stack hstk h1) hus
            exact ⟨z, a, hz, hanc.trans ha, hzv, hza, han, hatp, by rw [htu, hlo]; rfl⟩
    · have hxv' : x ≠ v := fun h0 => hxs' (h0 ▸ hvs)
      simp only [hxv', if_false]
      exact la.loatt x hx hxv hxs'
  · intro c hc hcv hc0 hpc
    obtain ⟨h1, h2, h3, h4⟩ := la.ar2 c hc hcv hc0 hpc
    have hcv' : c ≠ v := fun h0 => h1 (h0 ▸ hvs)
    refine ⟨fun hm => h1 (by rw [hstk]; exact List.mem_cons_of_mem _ hm), h2, ?_, h4⟩
    rw [hl]; simp only [hcv', if_false]; exact h3
  · intro c hc hcv hcs hc0 hpc htc hlc
    rcases hfin c hcs with rfl | hcs'
    · -- the vertex just popped may be pending for its parent, which is the new top
      have hp := dt.path
      rw [hstk] at hp
      cases rest with
      | nil =>
        have : c = 0 := hp
        exact absurd this hc0
      | cons y rest' =>
        obtain ⟨hty, _, _⟩ := hp
        exact ⟨rest', by show y :: rest' = tp c :: rest'; rw [hty], dt.first c hvs hc0⟩
    · exfalso
      have hcv' : c ≠ v := fun h0 => hcs' (h0 ▸ hvs)
      rw [hl] at hlc
      simp only [hcv', if_false] at hlc
      exact Int.not_le.2 (la.no_pend hstk hnopend hc hcv hcs' hc0 hpc htc) hlc
  · intro x hx hxa
    obtain ⟨hx0, c, hc, hcv, hcs, hc0, htc, hlc⟩ := la.ar4 x hx hxa
    have hcv' : c ≠ v := fun h0 => hcs (h0 ▸ hvs)
    refine ⟨hx0, c, hc, hcv, fun hm => hcs (by rw [hstk]; exact List.mem_cons_of_mem _ hm), hc0, htc, ?_⟩
    rw [hl]; simp only [hcv', if_false]; exact hlc

end GDist
