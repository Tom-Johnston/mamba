import Mamba.Lemmas.CanonFStepJ
import Mamba.Lemmas.CanonFRefine
import Mamba.Lemmas.CanonFReset
import Mamba.Lemmas.CanonFSort
import Mamba.Lemmas.CanonFEdgeless
/-!
# The main loop of `CanonicalIsomorphAllocated` (faithful model `Model/CanonF.lean`): the loop-head invariant, the leaf
branch and the node step

`MInv` is the invariant at the head of the main `for` loop: the ordered-partition invariant, the stack invariant
`LevelsOK` of `CanonFStep.lean`, `age = len(path)`, and two phases:

* before the first leaf (`count = 0`): `currentBest` is empty, so no certificate comparison can prune
  (`refine_not_worse`, `splitBin_not_worse`): the search walks straight down to the first leaf, which is always accepted
  as the new best (`comp == 1 || count == 1`): `currentBestPerm` becomes a copy of `order`;
* afterwards (`count > 0`): `currentBest` has length `m` and `currentBestPerm` is a copy of `order` at some leaf.

`order` is a permutation at all times (`PartInv`), hence so is the returned `currentBestPerm` (`canonF_perm_full`,
CanonFAllocJ.lean). `leafNode_case` (the relation `LeafCase`) / `node_cases` take the leaf branch and the node step apart
once.
-/
namespace CanonF

theorem Core.congr {n : Nat} {s s2 : LS} (hc : Core n s) (e1 : s2.op = s.op) (e2 : s2.sc = s.sc)
    (e3 : s2.bestPerm = s.bestPerm) (e5 : 0 < s2.count → 0 < s.count) : Core n s2 := by
  constructor
  · rw [e1]; exact hc.part
  · rw [e1]; exact hc.age
  · rw [e2]; exact hc.scr
  · rw [e3]; exact hc.bestWf
  · rw [e3]; exact hc.bestLen
  · intro h; rw [e3]; exact hc.bestPerm (e5 h)


theorem splitBin_not_worse {n : Nat} {nb : Nbrs} {cb fl : Sl Nat} {op op' : OP} {i : Nat} {w : Bool}
    (hcb : cb.len = 0) (h : PartInv n op) (hi : i < n)
    (hs : splitBin nb cb fl op i = .ok (w, op')) : w = false := by
  obtain ⟨op1, _, hif⟩ := splitBin_step h hi hs
  split at hif
  · unfold expandValue at hif
    exact expandLoop_not_worse hcb _ _ _ _ _ hif
  · exact hif.1


theorem compare_nil_right (l : List Nat) : compare l [] = if l = [] then 0 else 1 := by
  cases l <;> simp [compare]

/-- `bestPermInv[order[i]] = i; bestOrbits[i] = -1`: the body of the loop of `leafNode` that records a new best leaf -/
def resetStep (order : Sl Nat) (i : Nat) (st : Sl Nat × Disjoint.DS) : Outcome (Sl Nat × Disjoint.DS) :=
  match order.get i with
  | .ok v =>
    match st.1.set v i with
    | .ok pinv => if i < st.2.size then .ok (pinv, st.2.setIfInBounds i (-1)) else .panic
    | .panic => .panic
    | .outOfFuel => .outOfFuel
  | .panic => .panic
  | .outOfFuel => .outOfFuel

theorem compare_eq_zero : ∀ (a b : List Nat), compare a b = 0 ↔ a = b := by
  intro a
  induction a with
  | nil => intro b; cases b <;> simp [compare]
  | cons x xs ih =>
    intro b
    cases b with
    | nil => simp [compare]
    | cons y ys =>
      simp only [compare]
      by_cases h1 : x > y
      · simp [h1]; omega
      · by_cases h2 : x < y
        · simp [h1, h2]; omega
        · have : x = y := by omega
          subst this
          simp [ih ys]

/-- the stored leaf `X` against which an equal-certificate leaf is processed: the best leaf (then `bestOrbits` is merged
too, giving `bo`), or else the first leaf -/
inductive EqRef (n : Nat) (s : LS) : Sl Nat → Sl Nat → Disjoint.DS → Prop
  | best {bo mm} : s.op.value.toList = s.currentBest.toList →
      forRange (orbitStep s.op.order s.bestPermInv) n 0 (s.bestOrbits, false) = .ok (bo, mm) →
      EqRef n s s.bestPermInv s.bestPath bo
  | first : s.op.value.toList ≠ s.currentBest.toList → s.op.value.toList = s.firstLeaf.toList →
      EqRef n s s.flPermInv s.flPath s.bestOrbits

def storeBest (s : LS) (cb pinv' : Sl Nat) (orb' : Disjoint.DS) : LS :=
  { s with count := s.count + 1, currentBest := cb.copyFrom s.op.value.toList,
           bestPath := s.bestPath.copyFrom s.path.reverse, bestPerm := s.bestPerm.copyFrom s.op.order.toList,
           bestPermInv := pinv', bestOrbits := orb' }

/-- the four things `leafNode` can do: store the first leaf (as best and as first leaf), store a better leaf, process a
leaf with the certificate of a stored leaf (orbits, generator, back-jump), pass any other leaf -/
inductive LeafCase (n m : Nat) (s : LS) : LS → Prop
  | first {cb pinv' orb'} : s.count = 0 → s.currentBest.reslice m = .ok cb →
      forRange (resetStep s.op.order) s.op.order.len 0 (s.bestPermInv, s.bestOrbits) = .ok (pinv', orb') →
      LeafCase n m s { storeBest s cb pinv' orb' with
        firstLeaf := s.firstLeaf.copyFrom s.op.value.toList, flPath := s.flPath.copyFrom s.path.reverse,
        flPermInv := s.flPermInv.copyFrom pinv'.toList,
        flOrbits := (Sl.copyFrom ⟨s.flOrbits, s.flOrbits.size⟩ orb'.toList).data }
  | accept {cb pinv' orb'} : 0 < s.count → compare s.op.value.toList s.currentBest.toList = 1 →
      s.currentBest.reslice m = .ok cb →
      forRange (resetStep s.op.order) s.op.order.len 0 (s.bestPermInv, s.bestOrbits) = .ok (pinv', orb') →
      LeafCase n m s (storeBest s cb pinv' orb')
  | eq {pinv ref bo fo merges gens' ngens' s'} : 0 < s.count → compare s.op.value.toList s.currentBest.toList ≠ 1 →
      EqRef n s pinv ref bo →
      forRange (orbitStep s.op.order pinv) n 0 (s.flOrbits, false) = .ok (fo, merges) →
      (if merges = true then recordGenerator n s.op.order pinv s.gens s.ngens else Outcome.ok (s.gens, s.ngens))
        = .ok (gens', ngens') →
      backJump { s with count := s.count + 1, bestOrbits := bo, flOrbits := fo, gens := gens', ngens := ngens' } ref
        = .ok s' →
      LeafCase n m s s'
  | other : 0 < s.count → compare s.op.value.toList s.currentBest.toList ≠ 1 →
      s.op.value.toList ≠ s.currentBest.toList → s.op.value.toList ≠ s.firstLeaf.toList →
      LeafCase n m s { s with count := s.count + 1 }

theorem leafNode_case {n m : Nat} {s s' : LS} (h : leafNode n m s = .ok s') : LeafCase n m s s' := by
  unfold leafNode at h
  dsimp only at h
  by_cases hc1 : (compare s.op.value.toList s.currentBest.toList == 1 || s.count + 1 == 1) = true
  · rw [if_pos hc1] at h
    split at h
    · rename_i cb hrs
      split at h
      · rename_i pinv' orb' hloop
        by_cases hcnt : s.count + 1 = 1
        · rw [if_pos hcnt] at h
          cases h
          exact .first (by omega) hrs hloop
        · rw [if_neg hcnt] at h
          cases h
          refine .accept (by omega) ?_ hrs hloop
          simp only [Bool.or_eq_true, beq_iff_eq] at hc1
          exact hc1.resolve_right hcnt
      · cases h
      · cases h
    · cases h
    · cases h
  · rw [if_neg hc1] at h
    simp only [Bool.or_eq_true, beq_iff_eq, not_or] at hc1
    have hpos : 0 < s.count := by omega
    by_cases hc0 : (compare s.op.value.toList s.currentBest.toList == 0) = true
    · rw [if_pos hc0] at h
      have heq := (compare_eq_zero _ _).1 (beq_iff_eq.1 hc0)
      split at h
      · rename_i bo mm hl1
        split at h
        · rename_i fo merges hl2
          split at h
          · rename_i gens' ngens' hrec
            exact .eq hpos hc1.1 (.best heq hl1) hl2 hrec h
          · cases h
          · cases h
        · cases h
        · cases h
      · cases h
      · cases h
    · rw [if_neg hc0] at h
      have hne : s.op.value.toList ≠ s.currentBest.toList := fun e => hc0 (beq_iff_eq.2 ((compare_eq_zero _ _).2 e))
      by_cases hcf : (compare s.op.value.toList s.firstLeaf.toList == 0) = true
      · rw [if_pos hcf] at h
        have heq := (compare_eq_zero _ _).1 (beq_iff_eq.1 hcf)
        split at h
        · rename_i fo merges hl2
          split at h
          · rename_i gens' ngens' hrec
            exact .eq hpos hc1.1 (.first hne heq) hl2 hrec h
          · cases h
          · cases h
        · cases h
        · cases h
      · rw [if_neg hcf] at h
        cases h
        exact .other hpos hc1.1 hne (fun e => hcf (beq_iff_eq.2 ((compare_eq_zero _ _).2 e)))


theorem leafNode_spec {n m : Nat} {s s' : LS} {lv : List (Nat × Nat)} (hc : Core n s)
    (hl : LevelsOK s.op s.path s.choices lv) (hage : s.op.age = s.path.length) (h : leafNode n m s = .ok s') :
    ∃ lv', Core n s' ∧ LevelsOK s'.op s'.path s'.choices lv' ∧ s'.op.age = s'.path.length ∧
      s'.skipDeage = s.skipDeage ∧ s'.count = s.count + 1 ∧ s'.sc = s.sc ∧
      ((0 < s.count → s.currentBest.len = m) → s'.currentBest.len = m) := by
  have hbest : (s.bestPerm.copyFrom s.op.order.toList).toList.Perm (List.range n) := by
    rw [Sl.copyFrom_toList _ hc.bestWf _ (by rw [hc.part.length_order, hc.bestLen])]
    exact hc.part.perm
  have hstore : ∀ {cb : Sl Nat}, s.currentBest.reslice m = .ok cb → (cb.copyFrom s.op.value.toList).len = m :=
    fun hrs => by rw [Sl.copyFrom_len]; exact (Sl.reslice_len hrs).1
  cases leafNode_case h with
  | first _ hrs _ =>
    exact ⟨lv, ⟨hc.part, hc.age, hc.scr, Sl.copyFrom_wf hc.bestWf _, hc.bestLen, fun _ => hbest⟩, hl, hage, rfl, rfl,
      rfl, fun _ => hstore hrs⟩
  | accept _ _ hrs _ =>
    exact ⟨lv, ⟨hc.part, hc.age, hc.scr, Sl.copyFrom_wf hc.bestWf _, hc.bestLen, fun _ => hbest⟩, hl, hage, rfl, rfl,
      rfl, fun _ => hstore hrs⟩
  | @eq pinv ref bo fo merges gens' ngens' _ hpos _ _ _ _ hbj =>
    obtain ⟨lv', b1, b2, b3, b4, _⟩ := backJump_spec (StepQ.trivial n #[] default default) (lv := lv)
      (by exact Core.congr hc rfl rfl rfl (fun _ => hpos)) (by exact hl) (by exact hage) True.intro hbj
    exact ⟨lv', b1, b2, b3, by rw [b4], by rw [b4], by rw [b4], fun hf => by rw [b4]; exact hf hpos⟩
  | other hpos _ _ _ =>
    exact ⟨lv, Core.congr hc rfl rfl rfl (fun _ => hpos), hl, hage, rfl, rfl, rfl, fun hf => hf hpos⟩


theorem stepLoop_phase1 {n : Nat} {nb : Nbrs} {s : LS} {st sz k : Nat} {b : Bool} {s2 : LS}
    (hp : PartInv n s.op) (hcount : s.count = 0) (hcb : s.currentBest.len = 0)
    (hd : s.op.binDividers.toList[st]? = some (st + sz)) (hsz : 2 ≤ sz)
    (h : stepLoop nb (k + 1) { s with choices := (st + sz) :: s.choices, path := sz :: s.path, skipDeage := true } = .ok (b, s2)) :
    b = true := by
  have hi : st + sz - 1 < n := by have := hp.bd_le st _ hd; omega
  rw [stepLoop] at h
  dsimp only at h
  cases hj : jLoop nb sz { s with choices := (st + sz) :: s.choices, path := sz :: s.path, skipDeage := true } with
  | panic => rw [hj] at h; cases h
  | outOfFuel => rw [hj] at h; cases h
  | ok r =>
    obtain ⟨b1, s1⟩ := r
    rw [hj] at h
    cases b1 with
    | true => cases h; rfl
    | false =>
      exfalso
      obtain ⟨j, rfl⟩ : ∃ j, sz = j + 1 := ⟨sz - 1, by omega⟩
      rcases jLoop_succ hj with ⟨b2, s3, hi, _, h1⟩ | ⟨hbad, _⟩
      · -- with `count = 0` no child is skipped, with `currentBest` empty no `splitBin` reports "worse"
        cases hi with
        | skipA hd hon _ _ => cases hd.deage; rw [show s.count = 0 from hcount] at hon; cases hon
        | skipB hd hon _ => cases hd.deage; rw [show s.count = 0 from hcount] at hon; cases hon
        | @split _ _ _ _ _ _ _ w _ hd _ hsp =>
          cases hd.deage
          cases hd.choices
          cases splitBin_not_worse hcb hp hi hsp
          cases h1 rfl
      · exact hbad _ rfl

/-- the neighbour lists contain an edge (given in both directions) -/
def HasEdge (nb : Nbrs) (n : Nat) : Prop :=
  ∃ u v, u < n ∧ v < n ∧ u ≠ v ∧ v ∈ nb.getD u [] ∧ u ∈ nb.getD v []

theorem leaf_value_ne {n : Nat} {nb : Nbrs} {op : OP} (hp : PartInv n op) (hcl : CleanPrefix op)
    (hno : NoEarlierNbr nb op) (hleaf : op.binDividers.len = n) (he : HasEdge nb n) : op.value.toList ≠ [] := by
  intro hv
  have hsing := hp.leaf_dividers hleaf
  have hspl : op.spl = n := by
    have := hcl.le
    rcases Nat.lt_or_ge op.spl n with hlt | hge
    · exact absurd (hsing _ hlt) hcl.next
    · omega
  obtain ⟨u, v, hu, hv', hne, huv, hvu⟩ := he
  have hmem : ∀ x : Nat, x < n → ∃ p : Nat, op.order.toList[p]? = some x := by
    intro x hx
    have : x ∈ op.order.toList := hp.perm.mem_iff.2 (List.mem_range.2 hx)
    exact List.getElem?_of_mem this
  obtain ⟨pu, hpu⟩ := hmem u hu
  obtain ⟨pv, hpv⟩ := hmem v hv'
  have hol : op.order.toList.length = n := hp.length_order
  have hpun : pu < n := by have := (List.getElem?_eq_some_iff.1 hpu).1; omega
  have hpvn : pv < n := by have := (List.getElem?_eq_some_iff.1 hpv).1; omega
  have h1 := hno hv pu u v pv (by omega) hpu huv hpv
  have h2 := hno hv pv v u pu (by omega) hpv hvu hpu
  have : pu = pv := by omega
  subst this
  rw [hpu] at hpv
  exact hne (Option.some.inj hpv)


structure MInv (n m : Nat) (nb : Nbrs) (s : LS) : Prop where
  core : Core n s
  lev : ∃ lv, LevelsOK s.op s.path s.choices lv
  age : s.op.age = s.path.length
  skip : s.skipDeage = false
  tsCap : n ≤ s.sc.timesSeen.data.size
  tsLen : s.sc.timesSeen.len = n
  phase1 : s.count = 0 → s.currentBest.len = 0
  found : 0 < s.count → s.currentBest.len = m

/-- re-wrapping the scratch slices with length `n` (the caller's slice headers) -/
theorem scratch_rewrap {n : Nat} {sc sc1 : Scratch} (h : ScratchOK n sc) (ht : n ≤ sc.timesSeen.data.size)
    (e1 : sc1.timesSeen.data.size = sc.timesSeen.data.size) (e2 : sc1.maxCell.data.size = sc.maxCell.data.size)
    (e3 : sc1.numberOfMax.data.size = sc.numberOfMax.data.size) :
    ScratchOK n { dws := ⟨sc1.dws.data, n⟩, nbs := ⟨sc1.nbs.data, n⟩, space := ⟨sc1.space.data, n⟩,
                  timesSeen := ⟨sc1.timesSeen.data, n⟩, maxCell := ⟨sc1.maxCell.data, n⟩,
                  numberOfMax := ⟨sc1.numberOfMax.data, n⟩ } := by
  have w1 := h.wfM; have w2 := h.wfN; have l1 := h.lenM; have l2 := h.lenN
  unfold Sl.WF at w1 w2
  constructor
  · show n ≤ sc1.timesSeen.data.size
    omega
  · show n ≤ sc1.maxCell.data.size; omega
  · show n ≤ sc1.numberOfMax.data.size; omega
  · rfl
  · rfl

theorem node_cases {n m : Nat} {nb : Nbrs} {worse : Bool} {s s1 : LS} {lv : List (Nat × Nat)} (hI : MInv n m nb s)
    (hlv : LevelsOK s.op s.path s.choices lv)
    (h : (if (!worse && s.op.binDividers.len == n) = true then leafNode n m s
      else if (!worse) = true then innerNode s else Outcome.ok s) = .ok s1) :
    (worse = false ∧ s.op.binDividers.len = n ∧ leafNode n m s = .ok s1) ∨
    (worse = false ∧ s.op.binDividers.len ≠ n ∧ ∃ st sz,
      s1 = { s with choices := (st + sz) :: s.choices, path := sz :: s.path, skipDeage := true } ∧
      LevelsOK s.op (sz :: s.path) ((st + sz) :: s.choices) ((st, sz) :: lv) ∧
      s.op.binDividers.toList[st]? = some (st + sz) ∧ 2 ≤ sz ∧ ∀ t, t < st → s.op.binDividers.toList[t]? = some (t + 1)) ∨
    (worse = true ∧ s1 = s) := by
  cases worse with
  | true => exact .inr (.inr ⟨rfl, (Outcome.ok.inj h).symm⟩)
  | false =>
    by_cases hleaf : s.op.binDividers.len = n
    · rw [if_pos (by simp [hleaf])] at h; exact .inl ⟨rfl, hleaf, h⟩
    · rw [if_neg (by simp [hleaf]), if_pos (by rfl)] at h
      exact .inr (.inl ⟨rfl, hleaf, innerNode_spec hI.core hlv hI.age hleaf h⟩)

theorem node_step {n m : Nat} {nb : Nbrs} {worse : Bool} {s : LS} {lv : List (Nat × Nat)}
    (hI : MInv n m nb s) (hw : s.count = 0 → worse = false) (hlv : LevelsOK s.op s.path s.choices lv) :
    ∀ s1, (if (!worse && s.op.binDividers.len == n) = true then leafNode n m s
    else if (!worse) = true then innerNode s else Outcome.ok s) = .ok s1 →
    ∃ lv1, Core n s1 ∧ LevelsOK s1.op s1.path s1.choices lv1 ∧
      s1.op.age + (if s1.skipDeage then 1 else 0) = s1.path.length ∧ s1.sc = s.sc ∧
      (0 < s1.count → s1.currentBest.len = m) ∧
      (s1.count = 0 → s1.currentBest.len = 0 ∧ ∀ b s2, stepLoop nb s1.path.length s1 = .ok (b, s2) →
        b = true) := by
  intro s1 h1
  rcases node_cases hI hlv h1 with ⟨_, _, h1⟩ | ⟨_, _, st, sz, rfl, i1, i2, i3, i4⟩ | ⟨hwt, rfl⟩
  · obtain ⟨lv1, a1, a2, a3, a4, a5, a6, a7⟩ := leafNode_spec hI.core hlv hI.age h1
    exact ⟨lv1, a1, a2, by rw [a4, hI.skip]; simpa using a3, a6, fun _ => a7 hI.found, fun h0 => by omega⟩
  · refine ⟨(st, sz) :: lv, Core.of_frame hI.core (by unfold StepFrame; rfl) hI.core.part hI.core.age, i1,
      by simp only [if_true, List.length_cons]; have := hI.age; omega, rfl, hI.found, ?_⟩
    intro h0
    have h0' : s.count = 0 := h0
    have p1 := hI.phase1 h0'
    refine ⟨p1, ?_⟩
    intro b s2 hs
    simp only [List.length_cons] at hs
    exact stepLoop_phase1 hI.core.part h0' p1 i2 i3 hs
  · have hpos : 0 < s1.count := by
      rcases Nat.eq_zero_or_pos s1.count with h0 | h0
      · have := hw h0; rw [this] at hwt; cases hwt
      · exact h0
    exact ⟨lv, hI.core, hlv, by rw [hI.skip]; simpa using hI.age, rfl, hI.found, fun h0 => by omega⟩

theorem slOf_iff {α : Type} {a : Array α} {k : Nat} {s : Sl α} : slOf a k = .ok s ↔ k ≤ a.size ∧ s = ⟨a, k⟩ :=
  Sl.reslice_eq_ok

theorem sum_pos_exists : ∀ (l : List Nat), 0 < l.sum → ∃ x ∈ l, 0 < x := by
  intro l
  induction l with
  | nil => intro h; simp at h
  | cons x xs ih =>
    intro h
    simp only [List.sum_cons] at h
    by_cases hx : 0 < x
    · exact ⟨x, List.mem_cons_self .., hx⟩
    · obtain ⟨y, hy, hy'⟩ := ih (by omega)
      exact ⟨y, List.mem_cons_of_mem _ hy, hy'⟩

theorem hasEdge_of_wf (g : GraphSpec.G) (hg : g.WF)
    (hm : ((nbrsOf g).toList.map List.length).sum / 2 ≠ 0) : HasEdge (nbrsOf g) g.n := by
  have hpos : 0 < ((nbrsOf g).toList.map List.length).sum := by omega
  obtain ⟨x, hx, hx0⟩ := sum_pos_exists _ hpos
  obtain ⟨l, hl, rfl⟩ := List.mem_map.1 hx
  unfold nbrsOf at hl
  simp only [List.mem_map, List.mem_range] at hl
  obtain ⟨v, hv, rfl⟩ := hl
  obtain ⟨u, hu⟩ := List.exists_mem_of_length_pos hx0
  unfold GraphSpec.G.nbrs at hu
  rw [List.mem_filter, List.mem_range] at hu
  have hne : v ≠ u := by
    intro e; subst e
    have := hg.irrefl v; rw [this] at hu; exact absurd hu.2 (by simp)
  refine ⟨v, u, hv, hu.1, hne, ?_, ?_⟩
  · rw [nbrsOf_getD, if_pos hv]
    unfold GraphSpec.G.nbrs
    rw [List.mem_filter, List.mem_range]; exact hu
  · rw [nbrsOf_getD, if_pos hu.1]
    unfold GraphSpec.G.nbrs
    rw [List.mem_filter, List.mem_range]
    exact ⟨hv, by rw [hg.symm]; exact hu.2⟩


theorem scanl_tail_head (l : List Nat) (c : Nat) (cs : List Nat) (h : l = c :: cs) :
    ((l.scanl (· + ·) 0).tail)[0]? = some c := by
  subst h
  rw [List.scanl_cons]
  simp only [List.tail_cons, Nat.zero_add]
  cases cs <;> simp [List.scanl_cons]

/-- the hypothesis about the hand-written stable sort is a theorem (`CanonFSort.lean`) -/
theorem stablePerm : StablePerm := fun _ _ _ h => stable_perm h

end CanonF
