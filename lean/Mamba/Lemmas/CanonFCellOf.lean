import Mamba.Lemmas.CanonFCellBin
import Mamba.Lemmas.IRPerm
/-!
# The colouring of an ordered partition: what `cellOf`, `colOf`, `irG`, `Match` say, for the files that tie the faithful model
to the unpruned tree
-/
namespace CanonF

theorem getElem?_idxOf_of_mem {o : List Nat} {v : Nat} (h : v ∈ o) : o[o.idxOf v]? = some v := by
  have hi := List.idxOf_lt_length_of_mem h
  rw [List.getElem?_eq_getElem hi, List.getElem_idxOf hi]

theorem irG_wf {n : Nat} {nb : Nbrs} (hnb : NbOK nb n) : IR.WF (irG n nb) where
  lt := fun v _ w hw => (hnb.lt v w hw).2
  nodup := fun v _ => hnb.nodup v
  symm := fun u v _ _ h => hnb.symm u v h
  irrefl := fun v _ => hnb.irrefl v

theorem col_colOf {n : Nat} {op : OP} {v : Nat} (hv : v < n) : IR.col (colOf n op) v = cellOf op v :=
  IR.col_tab _ hv

theorem cnt_colOf {n : Nat} {nb : Nbrs} (hnb : NbOK nb n) (op : OP) (i v : Nat) :
    IR.cnt (irG n nb) (colOf n op) i v = cntIn nb op i v := by
  unfold IR.cnt cntIn
  show ((irG n nb).adj.getD v []).countP _ = _
  apply List.countP_congr
  intro w hw
  have hwn : w < n := (hnb.lt v w hw).2
  rw [col_colOf hwn]

theorem cell_nonempty {n : Nat} {op : OP} (hp : PartInv n op) {x : Nat} (hx : x < op.binDividers.len) :
    ∃ v, v < n ∧ cellOf op v = x := by
  have hbl : op.binDividers.toList.length = op.binDividers.len := hp.length_bd
  have hs : op.binDividers.toList.Pairwise (· < ·) := (List.pairwise_cons.1 hp.sorted).2
  obtain ⟨bs, hbs⟩ : ∃ bs, (0 :: op.binDividers.toList)[x]? = some bs :=
    ⟨_, List.getElem?_eq_getElem (by simp only [List.length_cons]; omega)⟩
  obtain ⟨d, hd⟩ : ∃ d, op.binDividers.toList[x]? = some d := ⟨_, List.getElem?_eq_getElem (by omega)⟩
  have hlt := rf_sorted_start_lt hp.sorted hbs hd
  have hdn : d ≤ n := rf_bd_le_last hs hp.last d (List.mem_of_getElem? hd)
  have holen : op.order.toList.length = n := hp.length_order
  obtain ⟨v, hv⟩ : ∃ v, op.order.toList[bs]? = some v := ⟨_, List.getElem?_eq_getElem (by omega)⟩
  refine ⟨v, perm_range_lt hp.perm hv, ?_⟩
  rw [cellOf_order hp hv]
  exact (binIdx_eq_iff_mem_bin hs hbs hd bs).2 ⟨Nat.le_refl _, hlt⟩

theorem Match.col_eq {n : Nat} {op : OP} {s : IR.St} (h : Match n op s) {v : Nat} (hv : v < n) :
    IR.col s.c v = cellOf op v := by
  rw [h.col]; exact col_colOf hv

theorem Match.cnt_eq {n : Nat} {nb : Nbrs} {op : OP} {s : IR.St} (h : Match n op s) (hnb : NbOK nb n) (i v : Nat) :
    IR.cnt (irG n nb) s.c i v = cntIn nb op i v := by
  rw [h.col]; exact cnt_colOf hnb op i v

theorem Match.invA {n : Nat} {nb : Nbrs} {op : OP} {s : IR.St} (h : Match n op s) (hp : PartInv n op) :
    IR.InvA (irG n nb) s := by
  intro v hv
  rw [h.col_eq hv, h.cells]
  exact cellOf_lt hp hv

theorem Match.work_nil {n : Nat} {op : OP} {s : IR.St} (h : Match n op s) (hbt : op.binsToCheck.len = 0) : s.work = [] := by
  apply List.eq_nil_iff_forall_not_mem.2
  intro x hx
  have := (h.work x).1 hx
  rw [Sl.toList_of_len_zero hbt] at this
  cases this

end CanonF
