import Mamba.Lemmas.CanonFDeage
import Mamba.Lemmas.CanonFCertExpand
/-!
# `deage` and the certificate invariant

`spl` drops exactly to the index of the first removed divider if that index is `< spl` (loop invariant `DeageInv2`,
`deage_first_removed`); dividers, ages and order in front of it are untouched (`deage_frame`), and a singleton bin of the
result was a surviving singleton bin before. Hence `VAny` before `deage` gives `VN` (= `VClean`) after it (`deage_cert`).
`deage_loop_with`: a further loop invariant next to `DeageInv` only has to be kept when a surviving divider is copied
forward (to index `j` of the dividers: the `set` equation).
-/
namespace CanonF

theorem deage_loop_with {n : Nat} {op : OP} {st : DeageSt} (P : DeageSt → Prop) (h : PartInv n op)
    (h0 : P { op := op, j := 0, prev1 := 0, prevDiv := 0 })
    (hk : ∀ (i : Nat) (st : DeageSt) (di : Nat) (a : Int) (bd : Sl Nat) (ages : Sl Int) (opm : OP),
      DeageInv op i st → P st → (divs op)[i]? = some (di, a) → a ≠ op.age →
      st.op.binDividers.set st.j di = .ok bd →
      (if i > st.prev1 then deageMergeBin { st.op with binDividers := bd, binAges := ages } st.j st.prevDiv di
        else .ok { st.op with binDividers := bd, binAges := ages }) = .ok opm →
      P { op := opm, j := st.j + 1, prev1 := i + 1, prevDiv := di })
    (hloop : forRange (deageStep op.age) op.binAges.len 0 { op := op, j := 0, prev1 := 0, prevDiv := 0 } = .ok st) :
    DeageInv op op.binAges.len st ∧ P st := by
  have := forRange_inv (deageStep op.age) (fun i st => DeageInv op i st ∧ P st) op.binAges.len 0 _ st
    ⟨DeageInv.init op, h0⟩ ?_ hloop
  · simpa using this
  · intro i s s' _ hi hP hs
    refine ⟨deageStep_inv h hP.1 (by omega) hs, ?_⟩
    obtain ⟨di, a, hD, ⟨_, rfl⟩ | ⟨ha, bd, ages, opm, hs1, _, hm, rfl⟩⟩ := deageStep_cases h hP.1 (by omega) hs
    · exact hP.2
    · exact hk i s di a bd ages opm hP.1 hP.2 hD ha hs1 hm

/-- the last divider is kept, so at the end of the loop `prev1` is the number of dividers -/
theorem DeageInv.prev_final {n : Nat} {op : OP} {st : DeageSt} (h : PartInv n op) (ha : AgeInv op) (hage : 0 < op.age)
    (hinv : DeageInv op op.binAges.len st) : st.prev1 = op.binAges.len := by
  have hLpos : 0 < op.binAges.len := by rw [h.lenAges]; exact h.bdLen_pos
  by_cases hc : st.prev1 = op.binAges.len
  · exact hc
  · exfalso
    have := hinv.prevLe
    obtain ⟨d, hdd⟩ := hinv.prevRemoved (op.binAges.len - 1) (by omega) (by omega)
    have h1 := (divs_getElem?.1 hdd).2
    have h3 := ha.last
    rw [List.getLast?_eq_getElem?, Sl.length_toList _ h.wfAges, h1] at h3
    have := Option.some.inj h3
    omega
structure DeageInv2 (op : OP) (st : DeageSt) : Prop where
  jLe : st.j ≤ st.prev1
  jPrev : st.j = st.prev1 ∨ ∃ k d, k ≤ st.j ∧ k < st.prev1 ∧ (divs op)[k]? = some (d, op.age)
  splCase :
    (st.op.spl = op.spl ∧ st.op.value.len = op.value.len ∧
      ∀ k d, k < st.prev1 → (divs op)[k]? = some (d, op.age) → op.spl ≤ k) ∨
    (st.op.spl < st.j ∧ st.op.spl < op.spl ∧ (∀ k d, k < st.op.spl → (divs op)[k]? ≠ some (d, op.age)) ∧
      ∃ d, (divs op)[st.op.spl]? = some (d, op.age))

theorem DeageInv2.init (op : OP) : DeageInv2 op { op := op, j := 0, prev1 := 0, prevDiv := 0 } := by
  refine ⟨Nat.le_refl _, Or.inl rfl, Or.inl ⟨rfl, rfl, ?_⟩⟩
  intro k d hk
  exact absurd hk (Nat.not_lt_zero _)

theorem DeageInv2.keep {op : OP} {st : DeageSt} {i di : Nat} {a : Int} {bd : Sl Nat} {ages : Sl Int} {opm : OP}
    (hinv : DeageInv op i st) (h2 : DeageInv2 op st)
    (hD : (divs op)[i]? = some (di, a)) (ha : a ≠ op.age)
    (hm : (if i > st.prev1 then deageMergeBin { st.op with binDividers := bd, binAges := ages } st.j st.prevDiv di
           else .ok { st.op with binDividers := bd, binAges := ages }) = .ok opm) :
    DeageInv2 op { op := opm, j := st.j + 1, prev1 := i + 1, prevDiv := di } := by
  have hji : st.j ≤ i := by rw [hinv.hj]; exact deageKept_length_le op i
  have hpl := hinv.prevLe
  have hnot : ∀ d, (divs op)[i]? ≠ some (d, op.age) := by
    intro d hc; rw [hD] at hc; cases hc; exact ha rfl
  refine ⟨?_, ?_, ?_⟩
  · exact Nat.succ_le_succ hji
  · show st.j + 1 = i + 1 ∨ ∃ k d, k ≤ st.j + 1 ∧ k < i + 1 ∧ (divs op)[k]? = some (d, op.age)
    rcases h2.jPrev with e | ⟨k, d, k1, k2, k3⟩
    · by_cases hc : st.prev1 = i
      · exact Or.inl (by rw [e, hc])
      · obtain ⟨d, hd⟩ := hinv.prevRemoved st.prev1 (Nat.le_refl _) (Nat.lt_of_le_of_ne hpl hc)
        exact Or.inr ⟨st.prev1, d, by rw [e]; exact Nat.le_succ _, Nat.lt_succ_of_le hpl, hd⟩
    · exact Or.inr ⟨k, d, Nat.le_succ_of_le k1, Nat.lt_succ_of_le (Nat.le_trans (Nat.le_of_lt k2) hpl), k3⟩
  · show (opm.spl = op.spl ∧ opm.value.len = op.value.len ∧
        ∀ k d, k < i + 1 → (divs op)[k]? = some (d, op.age) → op.spl ≤ k) ∨
      (opm.spl < st.j + 1 ∧ opm.spl < op.spl ∧ (∀ k d, k < opm.spl → (divs op)[k]? ≠ some (d, op.age)) ∧
        ∃ d, (divs op)[opm.spl]? = some (d, op.age))
    by_cases hc : i > st.prev1
    · rw [if_pos hc] at hm
      obtain ⟨_, _, _, _, _, _, _, m8⟩ := deageMergeBin_spec hm
      simp only at m8
      rcases m8 with ⟨e1, e2, e3⟩ | ⟨e1, e2, _⟩
      · rw [e1, e2]
        rcases h2.splCase with ⟨c1, c2, c3⟩ | ⟨c1, c2, c3, c4⟩
        · refine Or.inl ⟨c1, c2, ?_⟩
          intro k d hk hkd
          by_cases hki : k = i
          · subst hki; exact absurd hkd (hnot d)
          · by_cases hkp : k < st.prev1
            · exact c3 k d hkp hkd
            · have := h2.jLe; omega
        · exact Or.inr ⟨Nat.lt_succ_of_lt c1, c2, c3, c4⟩
      · rcases h2.splCase with ⟨c1, c2, c3⟩ | ⟨c1, _⟩
        · have hjp : st.j = st.prev1 := by
            rcases h2.jPrev with e | ⟨k, d, k1, k2, k3⟩
            · exact e
            · have := c3 k d k2 k3; omega
          rw [e2]
          refine Or.inr ⟨by omega, by omega, ?_, ?_⟩
          · intro k d hk hkd
            have := c3 k d (by omega) hkd
            omega
          · rw [hjp]
            exact hinv.prevRemoved st.prev1 (Nat.le_refl _) hc
        · omega
    · rw [if_neg hc] at hm
      simp only [Outcome.ok.injEq] at hm
      subst hm
      have hpi : st.prev1 = i := Nat.le_antisymm hpl (Nat.le_of_not_lt hc)
      rcases h2.splCase with ⟨c1, c2, c3⟩ | ⟨c1, c2, c3, c4⟩
      · refine Or.inl ⟨c1, c2, ?_⟩
        intro k d hk hkd
        by_cases hki : k = i
        · subst hki; exact absurd hkd (hnot d)
        · exact c3 k d (by rw [hpi]; exact Nat.lt_of_le_of_ne (Nat.le_of_lt_succ hk) hki) hkd
      · exact Or.inr ⟨Nat.lt_succ_of_lt c1, c2, c3, c4⟩

theorem Sl.deage_ext {α : Type} (s t : Sl α) (h1 : s.data = t.data) (h2 : s.len = t.len) : s = t := by
  cases s; cases t; simp_all

theorem deage_first_removed {n : Nat} {op op' : OP} (h : PartInv n op) (ha : AgeInv op) (hage : 0 < op.age)
    (hd : deage op = .ok op') :
    ((∀ k d, (divs op)[k]? = some (d, op.age) → op.spl ≤ k) ∧ op'.spl = op.spl ∧ op'.value = op.value) ∨
    (op'.spl < op.spl ∧ (∀ k d, k < op'.spl → (divs op)[k]? ≠ some (d, op.age)) ∧
      (∃ d, (divs op)[op'.spl]? = some (d, op.age)) ∧
      op'.value.data = op.value.data ∧ op'.value.len ≤ op.value.len ∧
      (∀ x ∈ (op.value.toList.drop op'.value.len), ((op'.spl - 1) * op'.spl) / 2 ≤ x) ∧
      (op'.value.len = 0 ∨ ∃ x, op.value.toList[op'.value.len - 1]? = some x ∧ x < ((op'.spl - 1) * op'.spl) / 2)) := by
  obtain ⟨st, hloop⟩ := deage_loop_of_ok hd
  obtain ⟨hinv, h2⟩ := deage_loop_with (DeageInv2 op) h (DeageInv2.init op)
    (fun _ _ _ _ _ _ _ hinv h2 hD ha _ hm => DeageInv2.keep hinv h2 hD ha hm) hloop
  obtain ⟨op'', hd', _, _, e2, e3⟩ := deage_of_loop h ha hage hloop hinv
  rw [hd] at hd'
  cases hd'
  rw [e2, e3]
  have hL := h.divs_length
  have hprev := hinv.prev_final h ha hage
  rcases h2.splCase with ⟨c1, c2, c3⟩ | ⟨c1, c2, c3, c4⟩
  · refine Or.inl ⟨?_, c1, Sl.deage_ext _ _ hinv.valData c2⟩
    intro k d hk
    have hkl : k < (divs op).length := (List.getElem?_eq_some_iff.1 hk).1
    exact c3 k d (by omega) hk
  · rcases hinv.valCase with ⟨v1, _⟩ | ⟨_, _, v3, v4⟩
    · omega
    · exact Or.inr ⟨c2, c3, c4, hinv.valData, hinv.valLen, v3, v4⟩

theorem deage_filter_prefix {α : Type} (p : α → Bool) (l : List α) (s : Nat) (hs : s ≤ l.length)
    (hp : ∀ k x, k < s → l[k]? = some x → p x = true) : ∀ k, k < s → (l.filter p)[k]? = l[k]? := by
  intro k hk
  have h1 : (l.take s).filter p = l.take s := by
    rw [List.filter_eq_self]
    intro x hx
    obtain ⟨i, hi⟩ := List.mem_iff_getElem?.1 hx
    rw [List.getElem?_take] at hi
    split at hi
    · exact hp i x ‹_› hi
    · cases hi
  have h2 : l.filter p = l.take s ++ (l.drop s).filter p := by
    conv => lhs; rw [← List.take_append_drop s l, List.filter_append, h1]
  rw [h2, List.getElem?_append_left (by rw [List.length_take]; omega), List.getElem?_take, if_pos hk]

theorem PartInv.bd_eq_map_divs {n : Nat} {op : OP} (h : PartInv n op) :
    op.binDividers.toList = (divs op).map Prod.fst := by
  unfold divs
  rw [List.map_fst_zip (Nat.le_of_eq (by
    rw [h.length_bd, h.length_ages]))]

theorem deage_bin_single {n : Nat} {op op' : OP} (h : PartInv n op) (ha : AgeInv op) (hage : 0 < op.age)
    (hd : deage op = .ok op') (s : Nat) (hps : ∀ k, k < s → op.binDividers.toList[k]? = some (k + 1))
    (hb : op'.binDividers.toList[s]? = some (s + 1)) :
    op.binDividers.toList[s]? = some (s + 1) ∧ ∃ a, op.binAges.toList[s]? = some a ∧ a ≠ op.age := by
  obtain ⟨hP', _, _, hdiv, _⟩ := deage_inv h ha hage hd
  have hsl : s < op'.binAges.toList.length := by
    have := (List.getElem?_eq_some_iff.1 hb).1
    rw [hP'.length_bd] at this
    rw [hP'.length_ages]; exact this
  have hda : (divs op')[s]? = some (s + 1, op'.binAges.toList[s]) :=
    divs_getElem?.2 ⟨hb, List.getElem?_eq_getElem hsl⟩
  have hmem := List.mem_of_getElem? hda
  rw [hdiv, List.mem_filter] at hmem
  obtain ⟨hm1, hm2⟩ := hmem
  simp only [decide_eq_true_eq] at hm2
  obtain ⟨m, hm⟩ := List.mem_iff_getElem?.1 hm1
  obtain ⟨b1, b2⟩ := divs_getElem?.1 hm
  have hge := h.bd_ge m _ b1
  have hms : m = s := by
    by_cases hlt : m < s
    · have := hps m hlt
      rw [b1] at this
      cases this
      omega
    · omega
  subst hms
  exact ⟨b1, _, b2, hm2⟩


theorem deage_take_unique (l A B : List Nat) (t m : Nat) (hl : l = A ++ B) (hA : ∀ x ∈ A, x < t)
    (hB : ∀ x ∈ B, t ≤ x) (hdrop : ∀ x ∈ l.drop m, t ≤ x)
    (hlast : m = 0 ∨ ∃ x, l[m - 1]? = some x ∧ x < t) : l.take m = A := by
  subst hl
  have hm : A.length = m := by
    rcases Nat.lt_trichotomy m A.length with hlt | heq | hgt
    · exfalso
      have h1 : A[m] ∈ (A ++ B).drop m := by
        apply List.mem_iff_getElem?.2
        refine ⟨0, ?_⟩
        rw [List.getElem?_drop, Nat.add_zero, List.getElem?_append_left hlt, List.getElem?_eq_getElem hlt]
      have h2 := hdrop _ h1
      have h3 := hA _ (List.getElem_mem hlt)
      omega
    · exact heq.symm
    · exfalso
      rcases hlast with h0 | ⟨x, hx1, hx2⟩
      · omega
      · rw [List.getElem?_append_right (by omega)] at hx1
        have := hB x (List.mem_of_getElem? hx1)
        omega
  exact List.take_left' hm

theorem deage_frame {n : Nat} {op op' : OP} (h : PartInv n op) (ha : AgeInv op) (hage : 0 < op.age)
    (hd : deage op = .ok op') (s : Nat) (hs : s ≤ op.binDividers.len)
    (hkeep : ∀ k d, k < s → (divs op)[k]? ≠ some (d, op.age)) :
    (∀ k, k < s → (divs op')[k]? = (divs op)[k]?) ∧ ∀ p, p < s → op'.order.toList[p]? = op.order.toList[p]? := by
  obtain ⟨_, _, _, hdiv, _⟩ := deage_inv h ha hage hd
  refine ⟨fun k hk => ?_, ?_⟩
  · rw [hdiv]
    exact deage_filter_prefix _ (divs op) s (by rw [h.divs_length, h.lenAges]; exact hs)
      (fun k x hk hx => by rw [decide_eq_true_eq]; exact fun hc => hkeep k x.1 hk (by rw [hx, ← hc])) k hk
  · exact deage_order_prefix h ha hage hd s hkeep

theorem deage_prefixSingle {n : Nat} {op op' : OP} (h : PartInv n op) (ha : AgeInv op) (hage : 0 < op.age)
    (hd : deage op = .ok op') (s : Nat) (hs : s ≤ op.binDividers.len)
    (hsing : ∀ k, k < s → op.binDividers.toList[k]? = some (k + 1))
    (hkeep : ∀ k d, k < s → (divs op)[k]? ≠ some (d, op.age)) (hspl : op'.spl = s) : PrefixSingle op' := by
  obtain ⟨hP', _⟩ := deage_inv h ha hage hd
  have hbd : ∀ k, k < s → op'.binDividers.toList[k]? = op.binDividers.toList[k]? := fun k hk => by
    rw [hP'.bd_eq_map_divs, h.bd_eq_map_divs, List.getElem?_map, List.getElem?_map,
      (deage_frame h ha hage hd s hs hkeep).1 k hk]
  constructor
  · rw [hspl]
    by_cases h0 : s = 0
    · omega
    · have h1 := hbd (s - 1) (by omega)
      rw [hsing (s - 1) (by omega)] at h1
      have := (List.getElem?_eq_some_iff.1 h1).1
      rw [hP'.length_bd] at this
      omega
  · intro j hj
    rw [hspl] at hj
    rw [hbd j hj]; exact hsing j hj

theorem deage_cert {n : Nat} {nb : Nbrs} {cb fl : Sl Nat} {op op' : OP} (h : PartInv n op) (ha : AgeInv op)
    (hage : 0 < op.age) (hv : VAny nb cb fl op) (hd : deage op = .ok op') : VN nb cb fl op' := by
  obtain ⟨hP', _⟩ := deage_inv h ha hage hd
  have hcommon : PrefixSingle op ∧ op.value.WF ∧
      ∃ extra, op.value.toList = certPos nb op.order.toList op.spl ++ extra ∧ ∀ x ∈ extra, tri op.spl ≤ x := by
    rcases hv with c | ⟨c, _⟩
    · exact ⟨c.pre.toPrefixSingle, c.wf, [], by rw [c.val]; simp, by simp⟩
    · exact ⟨c.pre, c.wf, [], by rw [c.val]; simp, by simp⟩
  obtain ⟨hps, hwf, extra, hval, hextra⟩ := hcommon
  show VClean nb op'
  have hol : op.order.toList.length = n := h.length_order
  have hol' : op'.order.toList.length = n := hP'.length_order
  have hsn : op.spl ≤ n := Nat.le_trans hps.le h.bdLen_le
  have hfr := deage_first_removed h ha hage hd
  -- in front of the new `spl` no divider is removed, so dividers, order and certificate are those of `op`
  have hpre : op'.spl ≤ op.spl ∧ ∀ k d, k < op'.spl → (divs op)[k]? ≠ some (d, op.age) := by
    rcases hfr with ⟨r1, r2, _⟩ | ⟨r1, r2, _⟩
    · exact ⟨Nat.le_of_eq r2, fun k d hk hc => absurd (r1 k d hc) (Nat.not_le_of_lt (r2 ▸ hk))⟩
    · exact ⟨Nat.le_of_lt r1, r2⟩
  obtain ⟨hle, hkeep⟩ := hpre
  have hsing : ∀ k, k < op'.spl → op.binDividers.toList[k]? = some (k + 1) :=
    fun k hk => hps.single k (Nat.lt_of_lt_of_le hk hle)
  have hsn' : op'.spl ≤ n := Nat.le_trans hle hsn
  have hcert : certPos nb op'.order.toList op'.spl = certPos nb op.order.toList op'.spl :=
    certPos_frame nb _ _ _ (by rw [hol]; exact hsn') (by rw [hol']; exact hsn')
      (deage_frame h ha hage hd op'.spl (Nat.le_trans hle hps.le) hkeep).2
  have hps' : PrefixSingle op' :=
    deage_prefixSingle h ha hage hd op'.spl (Nat.le_trans hle hps.le) hsing hkeep rfl
  rcases hfr with ⟨_, r2, r3⟩ | ⟨r1, _, r3, r4, r5, r6, r7⟩
  · -- no divider in front of `spl` is removed
    rcases hv with c | ⟨c, hsa⟩
    · refine ⟨⟨hps', ?_⟩, by rw [r3]; exact c.wf, by rw [r3, hcert, r2]; exact c.val⟩
      intro hb
      obtain ⟨b1, _⟩ := deage_bin_single h ha hage hd op'.spl hsing hb
      exact c.pre.next (r2 ▸ b1)
    · -- `StaleAge`: some divider in front of `spl` is removed
      obtain ⟨k, d, hk, hkd⟩ := hsa
      exact absurd hkd (hkeep k d (r2 ▸ hk))
  · -- the first removed divider has index `op'.spl < op.spl`
    have hnext : op'.binDividers.toList[op'.spl]? ≠ some (op'.spl + 1) := by
      intro hb
      obtain ⟨_, a, b2, b3⟩ := deage_bin_single h ha hage hd op'.spl hsing hb
      obtain ⟨d, hdd⟩ := r3
      have := (divs_getElem?.1 hdd).2
      rw [b2] at this
      exact b3 (Option.some.inj this)
    have hwf' : op'.value.WF := by
      unfold Sl.WF at hwf ⊢; rw [r4]; exact Nat.le_trans r5 hwf
    have htake : op'.value.toList = op.value.toList.take op'.value.len := by
      unfold Sl.toList
      rw [r4, List.take_take, Nat.min_eq_left r5]
    obtain ⟨R, hR1, hR2⟩ := certPos_split nb op.order.toList op'.spl op.spl (Nat.le_of_lt r1)
    have hcut : op.value.toList.take op'.value.len = certPos nb op.order.toList op'.spl := by
      apply deage_take_unique _ _ (R ++ extra) (tri op'.spl)
      · rw [hval, hR1, List.append_assoc]
      · intro x hx; exact certPos_lt_tri hx
      · intro x hx
        rcases List.mem_append.1 hx with hx | hx
        · exact hR2 x hx
        · exact Nat.le_trans (tri_mono (Nat.le_of_lt r1)) (hextra x hx)
      · intro x hx
        rw [← tri_eq]; exact r6 x hx
      · rw [← tri_eq]; exact r7
    exact ⟨⟨hps', hnext⟩, hwf', by rw [htake, hcut, hcert]⟩

end CanonF
