import Mamba.Lemmas.CanonFTreeDef
import Mamba.Lemmas.CanonFCertSplit
import Mamba.Lemmas.CanonFCellOf
/-!
# `splitBin` at the level of colourings = `IR.individualise`

The members of cell `t` of `colOf n op` are the vertices at the positions of bin `t` (`cellMembers_perm`), so `IR.target`
is the first non-singleton bin (`target_match`; `target_none` at a leaf). The partition step of `splitBin` moves the chosen
vertex to the front of its bin and puts a divider behind it; on cells this is the shift of `IR.individualise`
(`cellOf_partStep`, the arithmetic in `partStep_bin`), and on an empty work list `splitBin` is `IR.individualise`
(`splitBin_match`).
-/
namespace CanonF

theorem filter_eq_segment {α : Type} (P : α → Bool) : ∀ (l : List α) (bs d : Nat),
    (∀ p v, l[p]? = some v → (P v = true ↔ bs ≤ p ∧ p < d)) → l.filter P = (l.drop bs).take (d - bs) := by
  intro l
  induction l with
  | nil => intro bs d _; rw [List.drop_nil, List.take_nil]; rfl
  | cons x xs ih =>
    intro bs d h
    have hx := h 0 x rfl
    have hxs := ih (bs - 1) (d - 1) (fun p v hv => by rw [h (p + 1) v hv]; omega)
    rw [List.filter_cons]
    cases bs with
    | zero =>
      cases d with
      | zero => rw [if_neg (fun h => Nat.lt_irrefl 0 (hx.1 h).2), hxs]; rfl
      | succ d => rw [if_pos (hx.2 ⟨Nat.le_refl _, Nat.succ_pos d⟩), hxs]; rfl
    | succ b =>
      rw [if_neg (fun h => Nat.not_succ_le_zero b (hx.1 h).1), hxs, List.drop_succ_cons, Nat.add_sub_cancel, Nat.sub_sub,
        Nat.add_comm 1 b]

theorem cellMembers_perm {n : Nat} {nb : Nbrs} {op : OP} (hp : PartInv n op) {t bs d : Nat}
    (hbs : (0 :: op.binDividers.toList)[t]? = some bs) (hd : op.binDividers.toList[t]? = some d) :
    (IR.cellMembers (irG n nb) (colOf n op) t).Perm ((op.order.toList.drop bs).take (d - bs)) := by
  have hs : op.binDividers.toList.Pairwise (· < ·) := (List.pairwise_cons.1 hp.sorted).2
  unfold IR.cellMembers
  show ((List.range n).filter (fun v => IR.col (colOf n op) v == t)).Perm _
  rw [← filter_eq_segment (fun v => IR.col (colOf n op) v == t) op.order.toList bs d]
  · exact List.Perm.filter _ hp.perm.symm
  · intro p v hv
    have hvn : v < n := perm_range_lt hp.perm hv
    rw [beq_iff_eq, col_colOf hvn, cellOf_order hp hv]
    exact binIdx_eq_iff_mem_bin hs hbs hd p

theorem cellMembers_length {n : Nat} {nb : Nbrs} {op : OP} (hp : PartInv n op) {t bs d : Nat}
    (hbs : (0 :: op.binDividers.toList)[t]? = some bs) (hd : op.binDividers.toList[t]? = some d) :
    (IR.cellMembers (irG n nb) (colOf n op) t).length = d - bs := by
  have hol : op.order.toList.length = n := hp.length_order
  have hdn := hp.bd_le t d hd
  rw [(cellMembers_perm (nb := nb) hp hbs hd).length_eq, List.length_take, List.length_drop, hol]
  omega

theorem firstBin_single {n : Nat} {op : OP} (hp : PartInv n op) {i : Nat} (hi : i < n)
    (hfb : FirstBin op.binDividers.toList i) :
    ∀ k, k < binIdx op.binDividers.toList i → op.binDividers.toList[k]? = some (k + 1) := by
  have hs : op.binDividers.toList.Pairwise (· < ·) := (List.pairwise_cons.1 hp.sorted).2
  have hb := binIdx_lt _ n i hp.last hi
  have hst := binStartOf_get_cons _ i hb
  intro k
  induction k using Nat.strongRecOn with
  | _ k ih =>
    intro hk
    have hkl : k < op.binDividers.toList.length := Nat.lt_trans hk hb
    have hge := hp.bd_ge k _ (List.getElem?_eq_getElem hkl)
    -- `bd[k]` is at most the start of the bin of `i`, which is `bd[t - 1]`
    have hle : op.binDividers.toList[k] ≤ binStartOf op.binDividers.toList i := by
      obtain ⟨t, ht⟩ := Nat.exists_eq_succ_of_ne_zero (Nat.ne_of_gt (Nat.zero_lt_of_lt hk))
      rw [ht] at hk
      rw [ht, List.getElem?_cons_succ] at hst
      obtain ⟨h1, h2⟩ := List.getElem?_eq_some_iff.1 hst
      rcases Nat.eq_or_lt_of_le (Nat.le_of_lt_succ hk) with e | hlt
      · subst e; exact Nat.le_of_eq h2
      · exact h2 ▸ Nat.le_of_lt (List.pairwise_iff_getElem.1 hs k t hkl h1 hlt)
    -- so `k + 1` is a divider `bd[j]`, and `j < k` is impossible: `bd[j] = j + 1` by induction
    obtain ⟨j, hjl, hjv⟩ := List.getElem_of_mem (hfb k (Nat.lt_of_lt_of_le hge hle))
    have hgej := hp.bd_ge j _ (List.getElem?_eq_getElem hjl)
    rw [hjv] at hgej
    have hjk : j ≤ k := Nat.le_of_succ_le_succ hgej
    rw [List.getElem?_eq_getElem hkl]
    congr 1
    rcases Nat.eq_or_lt_of_le hjk with e | hlt
    · subst e; exact hjv
    · have := ih j hlt (Nat.lt_trans hlt hk)
      rw [List.getElem?_eq_getElem hjl, hjv] at this
      exact absurd (Nat.succ.inj (Option.some.inj this)) (Nat.ne_of_gt hlt)

theorem single_start {bd : List Nat} {m : Nat} (hsing : ∀ k, k < m → bd[k]? = some (k + 1)) {j : Nat} (hj : j ≤ m) :
    (0 :: bd)[j]? = some j := by
  cases j with
  | zero => rfl
  | succ k => rw [List.getElem?_cons_succ]; exact hsing k hj

theorem cellMembers_single {n : Nat} {nb : Nbrs} {op : OP} (hp : PartInv n op) {m : Nat}
    (hsing : ∀ k, k < m → op.binDividers.toList[k]? = some (k + 1)) {j : Nat} (hj : j < m) :
    (IR.cellMembers (irG n nb) (colOf n op) j).length = 1 := by
  rw [cellMembers_length hp (single_start hsing (Nat.le_of_lt hj)) (hsing j hj), Nat.add_sub_cancel_left]

theorem target_match {n : Nat} {nb : Nbrs} {op : OP} {s : IR.St} (hp : PartInv n op) (hm : Match n op s) {i : Nat} (hi : i < n)
    (hns : NonSingleton op.binDividers.toList i) (hfb : FirstBin op.binDividers.toList i) :
    IR.target (irG n nb) s = some (binIdx op.binDividers.toList i) := by
  have hs : op.binDividers.toList.Pairwise (· < ·) := (List.pairwise_cons.1 hp.sorted).2
  have hb := binIdx_lt _ n i hp.last hi
  rw [IR.target_eq_some_iff, hm.col, hm.cells]
  refine ⟨by rw [← hp.length_bd]; exact hb, ?_,
    fun j hj => Nat.le_of_eq (cellMembers_single hp (firstBin_single hp hi hfb) hj)⟩
  rw [cellMembers_length (nb := nb) hp (binStartOf_get_cons _ i hb) (List.getElem?_eq_getElem hb)]
  exact Nat.lt_sub_of_add_lt (by rw [Nat.add_comm]; exact binStartOf_succ_lt _ hs i hb hns)

theorem target_none {n : Nat} {nb : Nbrs} {op : OP} {s : IR.St} (hp : PartInv n op) (hm : Match n op s)
    (hleaf : op.binDividers.len = n) : IR.target (irG n nb) s = none := by
  unfold IR.target
  rw [hm.col, hm.cells, List.find?_eq_none]
  intro j hj
  rw [List.mem_range, hleaf] at hj
  rw [decide_eq_true_eq, cellMembers_single hp (hp.leaf_dividers hleaf) hj]
  exact Nat.lt_irrefl 1

/-- the arithmetic of the partition step, for a monotone bin index `B` whose bin `t` is `[st, d)` and contains `i`: the
vertex that `moveFront` brings from position `q` to position `p'` gets the bin index `B p'`, plus one behind the new
divider `st + 1` -/
theorem partStep_bin {B : Nat → Nat} (hmono : ∀ a b, a ≤ b → B a ≤ B b) {t st d i : Nat}
    (hbin : ∀ p, B p = t ↔ st ≤ p ∧ p < d) (hsi : st ≤ i) (hid : i < d) {p' q : Nat}
    (hq : q = if p' = st then i else if st < p' ∧ p' ≤ i then p' - 1 else p') :
    B p' + (if st + 1 ≤ p' then 1 else 0) =
      if q = i then t else if B q > t then B q + 1 else if B q = t then t + 1 else B q := by
  have hti : B i = t := (hbin i).2 ⟨hsi, hid⟩
  by_cases h1 : p' = st
  · rw [if_pos h1] at hq
    rw [h1, if_pos hq, if_neg (Nat.not_succ_le_self st)]
    exact (hbin st).2 ⟨Nat.le_refl _, Nat.lt_of_le_of_lt hsi hid⟩
  · rw [if_neg h1] at hq
    by_cases h2 : st < p' ∧ p' ≤ i
    · rw [if_pos h2] at hq
      have ⟨a, b, c⟩ : st ≤ q ∧ q < d ∧ q ≠ i := by omega
      rw [if_pos (show st + 1 ≤ p' from h2.1), if_neg c, (hbin p').2 ⟨Nat.le_of_lt h2.1, Nat.lt_of_le_of_lt h2.2 hid⟩, (hbin q).2 ⟨a, b⟩,
        if_neg (Nat.lt_irrefl t), if_pos rfl]
    · rw [if_neg h2] at hq
      subst hq
      rcases Nat.lt_or_ge q st with h3 | h3
      · have ⟨a, b, c⟩ : q ≤ i ∧ ¬ st + 1 ≤ q ∧ q ≠ i := by omega
        have hm := hmono q i a
        rw [hti] at hm
        rw [if_neg b, if_neg c, if_neg (Nat.not_lt.2 hm), if_neg fun e => Nat.not_le.2 h3 ((hbin q).1 e).1]
        rfl
      · have ⟨a, b, c⟩ : i ≤ q ∧ st + 1 ≤ q ∧ q ≠ i := by omega
        have hm := hmono i q a
        rw [hti] at hm
        rw [if_pos b, if_neg c]
        by_cases h4 : B q > t
        · rw [if_pos h4]
        · rw [if_neg h4, if_pos (Nat.le_antisymm (Nat.not_lt.1 h4) hm), Nat.le_antisymm (Nat.not_lt.1 h4) hm]

theorem cellOf_partStep {n : Nat} {op op1 : OP} {i v : Nat} (hp : PartInv n op) (hp1 : PartInv n op1) (hi : i < n)
    (hv : op.order.toList[i]? = some v)
    (eb : op1.binDividers.toList = op.binDividers.toList.take (binIdx op.binDividers.toList i) ++
      (binStartOf op.binDividers.toList i + 1) :: op.binDividers.toList.drop (binIdx op.binDividers.toList i))
    (eo : op1.order.toList = moveFront op.order.toList (binStartOf op.binDividers.toList i) i)
    (u : Nat) (hu : u < n) :
    cellOf op1 u = if u = v then binIdx op.binDividers.toList i
      else if cellOf op u > binIdx op.binDividers.toList i then cellOf op u + 1
      else if cellOf op u = binIdx op.binDividers.toList i then binIdx op.binDividers.toList i + 1 else cellOf op u := by
  have hs : op.binDividers.toList.Pairwise (· < ·) := (List.pairwise_cons.1 hp.sorted).2
  have hb := binIdx_lt _ n i hp.last hi
  have hsi := binStartOf_le _ hs i hb
  have hol : op.order.toList.length = n := hp.length_order
  have hbin := binIdx_eq_iff_mem_bin hs (binStartOf_get_cons _ i hb) (List.getElem?_eq_getElem hb)
  obtain ⟨p', hp'⟩ := List.getElem?_of_mem (hp1.perm.mem_iff.2 (List.mem_range.2 hu))
  rw [cellOf_order hp1 hp', eb, binIdx_insert]
  rw [eo, moveFront_getElem? _ _ _ hsi (hol.symm ▸ hi), ← apply_ite (fun x => op.order.toList[x]?),
    ← apply_ite (fun x => op.order.toList[x]?)] at hp'
  generalize hq : (if p' = binStartOf op.binDividers.toList i then i
    else if binStartOf op.binDividers.toList i < p' ∧ p' ≤ i then p' - 1 else p') = q at hp'
  have huv : u = v ↔ q = i :=
    ⟨fun e => perm_range_inj hp.perm (e ▸ hp') hv, fun e => by rw [e, hv] at hp'; exact (Option.some.inj hp').symm⟩
  rw [cellOf_order hp hp', if_congr huv rfl rfl]
  exact partStep_bin (fun _ _ h => binIdx_mono _ h) hbin hsi (binIdx_lt_div _ hs i hb) hq.symm

theorem splitBin_of_empty {n : Nat} {nb : Nbrs} {cb fl : Sl Nat} {op op' : OP} {i : Nat} {w : Bool}
    (hp : PartInv n op) (ha : AgeInv op) (hi : i < n) (hns : NonSingleton op.binDividers.toList i)
    (hbt : op.binsToCheck.len = 0) (hs : splitBin nb cb fl op i = .ok (w, op')) :
    ∃ op1 : OP, PartInv n op1 ∧
      op1.binDividers.toList = op.binDividers.toList.take (binIdx op.binDividers.toList i) ++
        (binStartOf op.binDividers.toList i + 1) :: op.binDividers.toList.drop (binIdx op.binDividers.toList i) ∧
      op1.order.toList = moveFront op.order.toList (binStartOf op.binDividers.toList i) i ∧
      op'.inCell = op1.inCell ∧ op'.binDividers.len = op.binDividers.len + 1 ∧ op'.binsToCheck.WF ∧
      op'.binsToCheck.toList =
        [(binIdx op.binDividers.toList i : Int), (binIdx op.binDividers.toList i : Int) + 1] := by
  have hnil := Sl.toList_of_len_zero hbt
  obtain ⟨op1, st, hif⟩ := splitBin_step hp hi hs
  have lb := st.lenBd
  obtain ⟨wbtc, ebtc, _⟩ := st.btc (by rw [hnil]; exact List.Pairwise.nil)
  rw [hnil, SortInts.union] at ebtc
  refine ⟨op1, (st.inv hp ha hi hns).1, st.bd, st.order, ?_⟩
  by_cases hsp : binIdx op.binDividers.toList i = op.spl
  · rw [if_pos hsp] at hif
    obtain ⟨_, f2, _, f4, _, f6⟩ := expandValue_frame hif
    exact ⟨f6, by rw [f2]; exact lb, by rw [f4]; exact wbtc, by rw [f4]; exact ebtc⟩
  · rw [if_neg hsp] at hif
    obtain ⟨_, rfl⟩ := hif
    exact ⟨rfl, lb, wbtc, ebtc⟩

theorem splitBin_match {n : Nat} {nb : Nbrs} {cb fl : Sl Nat} {op op' : OP} {i : Nat} {w : Bool} {s : IR.St}
    (hp : PartInv n op) (ha : AgeInv op) (hi : i < n) (hns : NonSingleton op.binDividers.toList i)
    (hm : Match n op s) (hbt : op.binsToCheck.len = 0) (hs : splitBin nb cb fl op i = .ok (w, op')) :
    ∃ v, op.order.toList[i]? = some v ∧ v ∈ IR.cellMembers (irG n nb) s.c (binIdx op.binDividers.toList i) ∧
      Match n op' (IR.individualise (irG n nb) s (binIdx op.binDividers.toList i) v) := by
  obtain ⟨op1, p1, eb, eo, f6, lb, _, ebtc⟩ := splitBin_of_empty hp ha hi hns hbt hs
  have hol : op.order.toList.length = n := hp.length_order
  have hv : op.order.toList[i]? = some (op.order.toList[i]'(hol.symm ▸ hi)) := List.getElem?_eq_getElem _
  have hvn := perm_range_lt hp.perm hv
  have hcv : IR.col s.c (op.order.toList[i]'(hol.symm ▸ hi)) = binIdx op.binDividers.toList i := by
    rw [hm.col, col_colOf hvn, cellOf_order hp hv]
  refine ⟨_, hv, IR.mem_cellMembers.2 ⟨hvn, hcv⟩, ?_, ?_, ?_, ?_⟩
  · show IR.tab n _ = colOf n op'
    refine IR.tab_congr fun u hu => ?_
    show _ = (op'.inCell.toList[u]?).getD 0
    rw [f6]
    show _ = cellOf op1 u
    rw [cellOf_partStep hp p1 hi hv eb eo u hu, hm.col, col_colOf hu]
  · show s.cells + 1 = op'.binDividers.len
    rw [lb, hm.cells]
  · show [binIdx op.binDividers.toList i, binIdx op.binDividers.toList i + 1].Nodup
    simp
  · intro x
    show x ∈ [binIdx op.binDividers.toList i, binIdx op.binDividers.toList i + 1] ↔ _
    rw [ebtc]
    simp only [List.mem_cons, List.not_mem_nil, or_false]
    omega

theorem splitBin_btcInv {n : Nat} {nb : Nbrs} {cb fl : Sl Nat} {op op' : OP} {i : Nat} {w : Bool}
    (hp : PartInv n op) (ha : AgeInv op) (hi : i < n) (hns : NonSingleton op.binDividers.toList i)
    (hbt : op.binsToCheck.len = 0) (hs : splitBin nb cb fl op i = .ok (w, op')) : BtcInv op' := by
  obtain ⟨_, _, _, _, _, lb, wbtc, ebtc⟩ := splitBin_of_empty hp ha hi hns hbt hs
  have hb := binIdx_lt _ n i hp.last hi
  rw [hp.length_bd] at hb
  refine ⟨wbtc, by rw [ebtc]; simp, fun x hx => ?_⟩
  rw [ebtc] at hx
  rw [lb]
  simp only [List.mem_cons, List.not_mem_nil, or_false] at hx
  omega

end CanonF
