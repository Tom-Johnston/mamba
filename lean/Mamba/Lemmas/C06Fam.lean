import Mamba.Lemmas.C06AddEdge
import Mathlib.Data.Nat.Bitwise
import Mathlib.Data.Int.Basic
import Mathlib.Algebra.Order.Group.Int
import Mathlib.Tactic.Ring
/-! C06: the families built through `AddEdge`: each is `buildByAddEdge` over a list of pairs that enumerates `symm n rel`. -/
namespace Construct
open GraphSpec

/-- A family given as the symmetric closure of a directed relation, against a list of pairs: every listed non-loop
pair is related in one of the two directions, and every related pair is listed in one of the two orders. -/
theorem ofPairs_eq_symm (n : Nat) (ps : List (Nat × Nat)) (rel : Nat → Nat → Bool)
    (hr : ∀ p ∈ ps, p.1 < n ∧ p.2 < n)
    (hs : ∀ p ∈ ps, p.1 ≠ p.2 → rel p.1 p.2 = true ∨ rel p.2 p.1 = true)
    (hc : ∀ u v, u ≠ v → u < n → v < n → rel u v = true → (u, v) ∈ ps ∨ (v, u) ∈ ps) :
    ofPairs n ps = Families.symm n rel := by
  refine GraphRep.G_ext rfl fun u v => ?_
  simp only [ofPairs, Families.symm]
  rw [Bool.eq_iff_iff]
  simp only [List.any_eq_true, Bool.and_eq_true, bne_iff_ne, ne_eq, isPair_iff, decide_eq_true_eq, Bool.or_eq_true]
  constructor
  · rintro ⟨p, hp, hne, ⟨rfl, rfl⟩ | ⟨rfl, rfl⟩⟩
    · exact ⟨⟨⟨hne, (hr p hp).1⟩, (hr p hp).2⟩, hs p hp hne⟩
    · exact ⟨⟨⟨Ne.symm hne, (hr p hp).2⟩, (hr p hp).1⟩, (hs p hp hne).symm⟩
  · rintro ⟨⟨⟨hne, hu⟩, hv⟩, h | h⟩
    · rcases hc u v hne hu hv h with hm | hm
      · exact ⟨_, hm, hne, Or.inl ⟨rfl, rfl⟩⟩
      · exact ⟨_, hm, Ne.symm hne, Or.inr ⟨rfl, rfl⟩⟩
    · rcases hc v u (Ne.symm hne) hv hu h with hm | hm
      · exact ⟨_, hm, Ne.symm hne, Or.inr ⟨rfl, rfl⟩⟩
      · exact ⟨_, hm, hne, Or.inl ⟨rfl, rfl⟩⟩

theorem buildByAddEdge_symm (n : Nat) (ps : List (Nat × Nat)) (rel : Nat → Nat → Bool)
    (hr : ∀ p ∈ ps, p.1 < n ∧ p.2 < n)
    (hs : ∀ p ∈ ps, p.1 ≠ p.2 → rel p.1 p.2 = true ∨ rel p.2 p.1 = true)
    (hc : ∀ u v, u ≠ v → u < n → v < n → rel u v = true → (u, v) ∈ ps ∨ (v, u) ∈ ps) :
    ∃ d, buildByAddEdge n ps = .ok d ∧ d.WF ∧ d.n = n ∧ d.abs = Families.symm n rel := by
  obtain ⟨d, e, w, hn, a⟩ := buildByAddEdge_ok n ps hr
  exact ⟨d, e, w, hn, a.trans (ofPairs_eq_symm n ps rel hr hs hc)⟩

/-- The same for a list that gives, for every `i < N`, the partners `φ i x` (`x ∈ g i`) of vertex `i`: every partner is
in range and related to `i` one way round, and every related pair has one end that lists the other. -/
theorem buildByAddEdge_nbrs {α : Type} (n N : Nat) (g : Nat → List α) (φ : Nat → α → Nat) (rel : Nat → Nat → Bool)
    (hN : N ≤ n)
    (hs : ∀ u, u < N → ∀ x ∈ g u, φ u x < n ∧ (u ≠ φ u x → rel u (φ u x) = true ∨ rel (φ u x) u = true))
    (hc : ∀ u v, u ≠ v → u < n → v < n → rel u v = true →
      (u < N ∧ ∃ x ∈ g u, v = φ u x) ∨ (v < N ∧ ∃ x ∈ g v, u = φ v x)) :
    ∃ d, buildByAddEdge n ((List.range N).flatMap fun i => (g i).map fun x => (i, φ i x)) = .ok d ∧ d.WF ∧ d.n = n ∧
      d.abs = Families.symm n rel := by
  have hmem : ∀ p : Nat × Nat, p ∈ ((List.range N).flatMap fun i => (g i).map fun x => (i, φ i x)) ↔
      p.1 < N ∧ ∃ x ∈ g p.1, p.2 = φ p.1 x := by
    rintro ⟨u, v⟩
    simp only [List.mem_flatMap, List.mem_range, List.mem_map, Prod.mk.injEq]
    constructor
    · rintro ⟨i, hi, x, hx, rfl, rfl⟩; exact ⟨hi, x, hx, rfl⟩
    · rintro ⟨hi, x, hx, rfl⟩; exact ⟨u, hi, x, hx, rfl, rfl⟩
  refine buildByAddEdge_symm n _ rel (fun p hp => ?_) (fun p hp hne => ?_) (fun u v hne hu hv h => ?_)
  · obtain ⟨hi, x, hx, h⟩ := (hmem p).mp hp
    exact ⟨Nat.lt_of_lt_of_le hi hN, h ▸ (hs p.1 hi x hx).1⟩
  · obtain ⟨hi, x, hx, h⟩ := (hmem p).mp hp
    rw [h] at hne ⊢
    exact (hs p.1 hi x hx).2 hne
  · rcases hc u v hne hu hv h with ⟨hi, x, hx, e⟩ | ⟨hi, x, hx, e⟩
    · exact Or.inl ((hmem _).mpr ⟨hi, x, hx, e⟩)
    · exact Or.inr ((hmem _).mpr ⟨hi, x, hx, e⟩)

theorem friendshipGraph_ok (n : Nat) :
    ∃ d, friendshipGraph n = .ok d ∧ d.WF ∧ d.abs = Families.friendship n := by
  have hmem : ∀ p : Nat × Nat, p ∈ ((List.range n).flatMap fun i => [(2 * i + 1, 2 * i + 2), (0, 2 * i + 1), (0, 2 * i + 2)]) ↔
      ∃ i, i < n ∧ (p = (2 * i + 1, 2 * i + 2) ∨ p = (0, 2 * i + 1) ∨ p = (0, 2 * i + 2)) := by
    intro p
    simp only [List.mem_flatMap, List.mem_range, List.mem_cons, List.not_mem_nil, or_false]
  obtain ⟨d, e, w, _, a⟩ := buildByAddEdge_symm (2 * n + 1) _
    (fun x y => x == 0 || (0 < x && 0 < y && (x - 1) / 2 == (y - 1) / 2))
    (fun p hp => by obtain ⟨i, hi, rfl | rfl | rfl⟩ := (hmem p).mp hp <;> constructor <;> simp only <;> omega)
    (fun p hp _ => by
      obtain ⟨i, hi, rfl | rfl | rfl⟩ := (hmem p).mp hp
      · refine Or.inl ?_
        simp only [Bool.or_eq_true, beq_iff_eq, Bool.and_eq_true, decide_eq_true_eq]
        omega
      · exact Or.inl rfl
      · exact Or.inl rfl)
    (fun u v hne hu hv h => by
      simp only [Bool.or_eq_true, beq_iff_eq, Bool.and_eq_true, decide_eq_true_eq] at h
      rcases h with rfl | ⟨⟨hu0, hv0⟩, h⟩
      · -- the edge from the hub `0` to `v = 2k + 1` or `2k + 2`, written in round `k`
        refine Or.inl ((hmem _).mpr ?_)
        obtain ⟨k, hk | hk⟩ := Nat.even_or_odd' v
        · exact ⟨k - 1, by omega, Or.inr (Or.inr (by rw [show 2 * (k - 1) + 2 = v by omega]))⟩
        · exact ⟨k, by omega, Or.inr (Or.inl (by rw [hk]))⟩
      · -- the outer edge of a triangle, listed with the odd end first
        rcases Nat.lt_or_gt_of_ne hne with hlt | hlt
        · have hi : u = 2 * ((u - 1) / 2) + 1 ∧ v = 2 * ((u - 1) / 2) + 2 := by omega
          generalize (u - 1) / 2 = i at hi
          exact Or.inl ((hmem _).mpr ⟨i, by omega, Or.inl (by rw [hi.1, hi.2])⟩)
        · have hi : v = 2 * ((v - 1) / 2) + 1 ∧ u = 2 * ((v - 1) / 2) + 2 := by omega
          generalize (v - 1) / 2 = i at hi
          exact Or.inr ((hmem _).mpr ⟨i, by omega, Or.inl (by rw [hi.1, hi.2])⟩))
  exact ⟨d, e, w, a⟩

theorem generalisedPetersenGraph_ok (n k : Nat) (hn : 3 ≤ n) (hk : k ≤ (n - 1) / 2) :
    ∃ d, generalisedPetersenGraph n (k : Int) = .ok d ∧ d.WF ∧ d.abs = Families.generalisedPetersen n k := by
  have hn0 : 0 < n := by omega
  have hmem : ∀ p : Nat × Nat, p ∈ ((List.range n).flatMap fun i => [(i, (i + 1) % n), (i, n + i), (n + i, n + ((i + k) % n))]) ↔
      ∃ i, i < n ∧ (p = (i, (i + 1) % n) ∨ p = (i, n + i) ∨ p = (n + i, n + ((i + k) % n))) := by
    intro p
    simp only [List.mem_flatMap, List.mem_range, List.mem_cons, List.not_mem_nil, or_false]
  obtain ⟨d, e, w, _, a⟩ := buildByAddEdge_symm (2 * n) _
    (fun x y => (x < n && y < n && (x + 1) % n == y) || (x < n && y == n + x) || (n ≤ x && n ≤ y && (x - n + k) % n == y - n))
    (fun p hp => by
      obtain ⟨i, hi, rfl | rfl | rfl⟩ := (hmem p).mp hp
      · have := Nat.mod_lt (i + 1) hn0; constructor <;> simp only <;> omega
      · constructor <;> simp only <;> omega
      · have := Nat.mod_lt (i + k) hn0; constructor <;> simp only <;> omega)
    (fun p hp _ => by
      refine Or.inl ?_
      simp only [Bool.or_eq_true, beq_iff_eq, Bool.and_eq_true, decide_eq_true_eq]
      obtain ⟨i, hi, rfl | rfl | rfl⟩ := (hmem p).mp hp
      · exact Or.inl (Or.inl ⟨⟨hi, Nat.mod_lt _ hn0⟩, rfl⟩)
      · exact Or.inl (Or.inr ⟨hi, rfl⟩)
      · exact Or.inr ⟨⟨Nat.le_add_right n i, Nat.le_add_right n _⟩, by
          rw [Nat.add_sub_cancel_left, Nat.add_sub_cancel_left]⟩)
    (fun u v _ _ _ h => by
      refine Or.inl ((hmem _).mpr ?_)
      simp only [Bool.or_eq_true, beq_iff_eq, Bool.and_eq_true, decide_eq_true_eq] at h
      rcases h with (⟨⟨hu, _⟩, rfl⟩ | ⟨hu, rfl⟩) | ⟨⟨hu, hv⟩, h⟩
      · exact ⟨u, hu, Or.inl rfl⟩
      · exact ⟨u, hu, Or.inr (Or.inl rfl)⟩
      · exact ⟨u - n, by omega, Or.inr (Or.inr (by rw [h, Nat.add_sub_cancel' hu, Nat.add_sub_cancel' hv]))⟩)
  refine ⟨d, ?_, w, a⟩
  have h2 : ¬ ((k : Int) < 0 ∨ (k : Int) > ((n : Int) - 1) / 2) := by omega
  simpa only [generalisedPetersenGraph, show ¬ n < 3 by omega, ↓reduceIte, Bool.or_eq_true, decide_eq_true_eq, h2,
    Int.toNat_natCast] using e

theorem intersectionSize_zero (a b : List Nat) : (intersectionSize a b == 0) = Families.disjoint a b := by
  rw [Bool.eq_iff_iff]
  simp only [intersectionSize, beq_iff_eq, List.length_eq_zero_iff, List.filter_eq_nil_iff, Families.disjoint,
    List.all_eq_true, Bool.not_eq_true']
  constructor
  · intro h x hx; simpa using h x hx
  · intro h x hx; simpa using h x hx

theorem disjoint_comm (a b : List Nat) : Families.disjoint a b = Families.disjoint b a := by
  rw [Bool.eq_iff_iff]
  simp only [Families.disjoint, List.all_eq_true, Bool.not_eq_true', List.contains_eq_mem, decide_eq_false_iff_not]
  constructor <;> intro h x hx hx' <;> exact h x hx' hx

theorem kneserGraph_ok (n k : Nat) :
    ∃ d, kneserGraph n (k : Int) = .ok d ∧ d.WF ∧ d.abs = Families.kneser n k := by
  have hc : coeff n (k : Int) = Families.choose n k := by simp [coeff]
  obtain ⟨d, e, w, _, a⟩ := buildByAddEdge_nbrs (Families.choose n k) (Families.choose n k)
    (fun i => (List.range' i (Families.choose n k - i)).filter fun j =>
      intersectionSize (Families.colexUnrank i k) (Families.colexUnrank j k) == 0) (fun _ j => j)
    (fun i j => Families.disjoint (Families.colexUnrank i k) (Families.colexUnrank j k)) (Nat.le_refl _)
    (fun u _ j hj => by
      obtain ⟨hr, hd⟩ := List.mem_filter.1 hj
      rw [List.mem_range'_1] at hr
      exact ⟨by omega, fun _ => Or.inl (by rw [← intersectionSize_zero]; exact hd)⟩)
    (fun u v hne hu hv h => by
      -- listed at the smaller end
      rcases Nat.lt_or_gt_of_ne hne with hlt | hlt
      · exact Or.inl ⟨hu, v, List.mem_filter.2 ⟨List.mem_range'_1.2 (by omega), by rw [intersectionSize_zero]; exact h⟩, rfl⟩
      · exact Or.inr ⟨hv, u, List.mem_filter.2 ⟨List.mem_range'_1.2 (by omega), by
          rw [intersectionSize_zero, disjoint_comm]; exact h⟩, rfl⟩)
  refine ⟨d, ?_, w, a⟩
  simpa only [kneserGraph, hc, Int.toNat_natCast] using e

theorem mem_hypercubePairs (dim : Nat) (p : Nat × Nat) :
    p ∈ hypercubePairs dim ↔ p.1 < 2 ^ dim ∧ ∃ j, j < dim ∧ p.2 = p.1 ^^^ 2 ^ j := by
  obtain ⟨u, v⟩ := p
  simp only [hypercubePairs, Nat.one_shiftLeft, List.mem_flatMap, List.mem_range, List.mem_map, Prod.mk.injEq]
  constructor
  · rintro ⟨i, hi, j, hj, rfl, rfl⟩; exact ⟨hi, j, hj, rfl⟩
  · rintro ⟨hi, j, hj, rfl⟩; exact ⟨u, hi, j, hj, rfl, rfl⟩

theorem hypercubeGraph_ok (dim : Nat) :
    ∃ d, hypercubeGraph dim = .ok d ∧ d.WF ∧ d.n = 2 ^ dim ∧ d.abs = Families.hypercube dim := by
  obtain ⟨d, e, w, hn, a⟩ := buildByAddEdge_nbrs (2 ^ dim) (2 ^ dim) (fun _ => List.range dim) (fun i j => i ^^^ 2 ^ j)
    (fun u v => (List.range dim).any fun j => u ^^^ v == 2 ^ j) (Nat.le_refl _)
    (fun u hu j hj => ⟨Nat.xor_lt_two_pow hu (Nat.pow_lt_pow_right (by decide) (List.mem_range.1 hj)), fun _ =>
      Or.inl (List.any_eq_true.mpr ⟨j, hj, by rw [Nat.xor_xor_cancel_left]; exact beq_self_eq_true _⟩)⟩)
    (fun u v _ hu _ h => by
      obtain ⟨j, hj, h⟩ := List.any_eq_true.mp h
      exact Or.inl ⟨hu, j, hj, by rw [← eq_of_beq h, Nat.xor_xor_cancel_left]⟩)
  refine ⟨d, ?_, w, hn, a⟩
  simpa only [hypercubeGraph, hypercubePairs, Nat.one_shiftLeft] using e

theorem modStep_spec (i : Nat) (v : Int) (n : Nat) (hn : 0 < n) :
    modStep i v n < n ∧ (n : Int) ∣ ((modStep i v n : Int) - i - v) := by
  have hn' : (0 : Int) < n := by omega
  have h1 := Int.tmod_lt_of_pos ((i : Int) + v) hn'
  have h2 := Int.lt_tmod_of_pos ((i : Int) + v) hn'
  have h3 := Int.mul_tdiv_add_tmod ((i : Int) + v) n
  unfold modStep
  generalize ((i : Int) + v).tmod n = r at *
  generalize ((i : Int) + v).tdiv n = q at *
  by_cases hr : r < 0
  · simp only [hr, ↓reduceIte]
    have : ((r + n).toNat : Int) = r + n := Int.toNat_of_nonneg (by omega)
    refine ⟨by omega, ?_⟩
    rw [this]
    exact ⟨-q + 1, by rw [← sub_eq_zero]; have := h3; ring_nf; ring_nf at this; omega⟩
  · simp only [hr, ↓reduceIte]
    have : (r.toNat : Int) = r := Int.toNat_of_nonneg (by omega)
    refine ⟨by omega, ?_⟩
    rw [this]
    exact ⟨-q, by rw [← sub_eq_zero]; have := h3; ring_nf; ring_nf at this; omega⟩

theorem modStep_unique (i : Nat) (v : Int) (n t : Nat) (hn : 0 < n) (ht : t < n) (hd : (n : Int) ∣ ((t : Int) - i - v)) :
    t = modStep i v n := by
  obtain ⟨h1, h2⟩ := modStep_spec i v n hn
  have hdvd : (n : Int) ∣ ((t : Int) - (modStep i v n : Int)) := by
    have := Int.dvd_sub hd h2
    have e : (t : Int) - i - v - ((modStep i v n : Int) - i - v) = (t : Int) - (modStep i v n : Int) := by ring
    rwa [e] at this
  have habs : |(t : Int) - (modStep i v n : Int)| < (n : Int) := by
    rw [abs_lt]; omega
  have := Int.eq_zero_of_abs_lt_dvd hdvd habs
  omega

theorem circulantGraph_ok (n : Nat) (diffs : List Int) :
    ∃ d, circulantGraph n diffs = .ok d ∧ d.WF ∧ d.abs = Families.circulant n diffs := by
  obtain ⟨d, e, w, _, a⟩ := buildByAddEdge_nbrs n n (fun _ => diffs) (fun i x => modStep i x n)
    (fun u v => diffs.any fun d => ((v : Int) - (u : Int) - d) % (n : Int) == 0) (Nat.le_refl _)
    (fun u hu x hx => ⟨(modStep_spec u x n (by omega)).1, fun _ => Or.inl (List.any_eq_true.mpr ⟨x, hx, by
      rw [beq_iff_eq]; exact Int.emod_eq_zero_of_dvd (modStep_spec u x n (by omega)).2⟩)⟩)
    (fun u v _ hu hv h => by
      obtain ⟨x, hx, h⟩ := List.any_eq_true.mp h
      exact Or.inl ⟨hu, x, hx, modStep_unique u x n v (by omega) hv (Int.dvd_of_emod_eq_zero (eq_of_beq h))⟩)
  exact ⟨d, e, w, a⟩

theorem circulantBipartiteGraph_ok (n m : Nat) (diffs : List Int) (hm : 0 < m ∨ n = 0 ∨ diffs = []) :
    ∃ d, circulantBipartiteGraph n m diffs = .ok d ∧ d.WF ∧ d.abs = Families.circulantBipartite n m diffs := by
  -- a pair is listed only if the loop body runs, and then `m` is positive
  have hm0 : ∀ u x, u < n → x ∈ diffs → 0 < m := by
    intro u x hu hx
    rcases hm with h | h | h
    · exact h
    · omega
    · rw [h] at hx; cases hx
  obtain ⟨d, e, w, _, a⟩ := buildByAddEdge_nbrs (n + m) n (fun _ => diffs) (fun i x => n + modStep i x m)
    (fun x y => x < n && n ≤ y && diffs.any fun d => (((y - n : Nat) : Int) - (x : Int) - d) % (m : Int) == 0)
    (Nat.le_add_right _ _)
    (fun u hu x hx => by
      obtain ⟨h1, h2⟩ := modStep_spec u x m (hm0 u x hu hx)
      refine ⟨by omega, fun _ => Or.inl ?_⟩
      simp only [Bool.and_eq_true, decide_eq_true_eq, List.any_eq_true, beq_iff_eq]
      refine ⟨⟨hu, Nat.le_add_right _ _⟩, x, hx, ?_⟩
      rw [Nat.add_sub_cancel_left]
      exact Int.emod_eq_zero_of_dvd h2)
    (fun u v _ _ hv h => by
      simp only [Bool.and_eq_true, decide_eq_true_eq, List.any_eq_true, beq_iff_eq] at h
      obtain ⟨⟨hu, hnv⟩, x, hx, h⟩ := h
      have := modStep_unique u x m (v - n) (hm0 u x hu hx) (by omega) (Int.dvd_of_emod_eq_zero h)
      exact Or.inl ⟨hu, x, hx, by omega⟩)
  refine ⟨d, ?_, w, a⟩
  have hc : (m == 0 && decide (n > 0) && !diffs.isEmpty) = false := by
    rcases hm with h | h | h
    · rw [beq_false_of_ne (by omega)]; rfl
    · rw [h]; simp
    · rw [h]; simp
  simpa only [circulantBipartiteGraph, hc, Bool.false_eq_true, ↓reduceIte] using e

theorem mask_xor (D x : Nat) (h : x < 2 ^ D) : (2 ^ D - 1) ^^^ x = 2 ^ D - 1 - x := by
  apply Nat.eq_of_testBit_eq
  intro i
  rw [Nat.testBit_xor, Nat.testBit_two_pow_sub_one, show 2 ^ D - 1 - x = 2 ^ D - (x + 1) by omega,
    Nat.testBit_two_pow_sub_succ h]
  by_cases hi : i < D
  · simp [hi]
  · have : x.testBit i = false := by
      apply Nat.testBit_lt_two_pow
      exact Nat.lt_of_lt_of_le h (Nat.pow_le_pow_right (by decide) (by omega))
    simp [hi, this]

theorem mask_and (D x : Nat) (h : x < 2 ^ D) : (2 ^ D - 1) &&& x = x := by
  rw [Nat.and_comm, Nat.and_two_pow_sub_one_eq_mod, Nat.mod_eq_of_lt h]

/-- the hypercube followed by further `AddEdge` calls is one run of `buildByAddEdge` -/
theorem buildByAddEdge_append (n : Nat) (ps qs : List (Nat × Nat)) :
    buildByAddEdge n (ps ++ qs) = buildByAddEdge n ps >>= fun g => qs.foldlM (fun g p => addEdge g p.1 p.2) g := by
  unfold buildByAddEdge
  generalize newDenseNil n = g
  induction ps generalizing g with
  | nil => rfl
  | cons p t ih =>
    simp only [List.cons_append, List.foldlM_cons]
    cases addEdge g p.1 p.2 with
    | ok g' => exact ih g'
    | panic => rfl
    | outOfFuel => rfl

/-- The loop over `i < 2^(dim-2)` joins `i` to its antipode `mask &^ i = mask - i`; since antipodes add up to `mask`,
the smaller of two antipodes is below `2^(dim-2)`, so every antipodal pair is reached. -/
theorem foldedHypercubeGraph_ok (dim : Nat) (hd : 1 ≤ dim) :
    ∃ d, foldedHypercubeGraph dim = .ok d ∧ d.WF ∧ d.abs = Families.foldedHypercube dim := by
  let bound := if dim < 2 then 0 else 1 <<< (dim - 2)
  have hbound : ∀ i, i < bound → 2 * i < 2 ^ (dim - 1) := by
    intro i hi
    by_cases h2 : dim < 2
    · simp only [bound, h2, ↓reduceIte] at hi; omega
    · simp only [bound, h2, ↓reduceIte, Nat.one_shiftLeft] at hi
      rw [show dim - 1 = (dim - 2) + 1 by omega, Nat.pow_succ]; omega
  have hmemA : ∀ p : Nat × Nat, p ∈ (List.range bound).map (fun i => (i, andNot ((1 <<< (dim - 1)) - 1) i)) ↔
      p.1 < bound ∧ p.2 = 2 ^ (dim - 1) - 1 - p.1 := by
    rintro ⟨u, v⟩
    simp only [List.mem_map, List.mem_range, Prod.mk.injEq]
    constructor
    · rintro ⟨i, hi, rfl, rfl⟩
      have : i < 2 ^ (dim - 1) := by have := hbound i hi; omega
      exact ⟨hi, by rw [andNot, Nat.one_shiftLeft, mask_and _ _ this, mask_xor _ _ this]⟩
    · rintro ⟨hi, rfl⟩
      have : u < 2 ^ (dim - 1) := by have := hbound u hi; omega
      exact ⟨u, hi, rfl, by rw [andNot, Nat.one_shiftLeft, mask_and _ _ this, mask_xor _ _ this]⟩
  obtain ⟨d, e, w, _, a⟩ := buildByAddEdge_symm (2 ^ (dim - 1))
    (hypercubePairs (dim - 1) ++ (List.range bound).map fun i => (i, andNot ((1 <<< (dim - 1)) - 1) i))
    (fun u v => ((List.range (dim - 1)).any fun j => u ^^^ v == 2 ^ j) || u ^^^ v == 2 ^ (dim - 1) - 1)
    (fun p hp => by
      rcases List.mem_append.mp hp with hp | hp
      · obtain ⟨hi, j, hj, h⟩ := (mem_hypercubePairs _ p).mp hp
        exact ⟨hi, h ▸ Nat.xor_lt_two_pow hi (Nat.pow_lt_pow_right (by decide) hj)⟩
      · obtain ⟨hi, h⟩ := (hmemA p).mp hp
        have := hbound p.1 hi
        omega)
    (fun p hp _ => by
      refine Or.inl (Bool.or_eq_true_iff.mpr ?_)
      rcases List.mem_append.mp hp with hp | hp
      · obtain ⟨_, j, hj, h⟩ := (mem_hypercubePairs _ p).mp hp
        refine Or.inl (List.any_eq_true.mpr ⟨j, List.mem_range.mpr hj, ?_⟩)
        rw [h, Nat.xor_xor_cancel_left]; exact beq_self_eq_true _
      · obtain ⟨hi, h⟩ := (hmemA p).mp hp
        have hlt : p.1 < 2 ^ (dim - 1) := by have := hbound p.1 hi; omega
        rw [h, ← mask_xor _ _ hlt, Nat.xor_comm (2 ^ (dim - 1) - 1), Nat.xor_xor_cancel_left]
        exact Or.inr (beq_self_eq_true _))
    (fun u v hne hu hv h => by
      rcases Bool.or_eq_true_iff.mp h with h | h
      · obtain ⟨j, hj, h⟩ := List.any_eq_true.mp h
        refine Or.inl (List.mem_append_left _ ((mem_hypercubePairs _ _).mpr ⟨hu, j, List.mem_range.mp hj, ?_⟩))
        rw [← eq_of_beq h, Nat.xor_xor_cancel_left]
      · have hv' : v = 2 ^ (dim - 1) - 1 - u := by
          rw [← mask_xor _ _ hu, ← eq_of_beq h, Nat.xor_comm (u ^^^ v), Nat.xor_xor_cancel_left]
        have h2 : ¬ dim < 2 := by
          intro hc
          rw [show dim - 1 = 0 by omega] at hu hv; omega
        have hb : bound = 2 ^ (dim - 2) := by simp only [bound, h2, ↓reduceIte, Nat.one_shiftLeft]
        have hP : 2 ^ (dim - 1) = 2 * 2 ^ (dim - 2) := by
          rw [show dim - 1 = (dim - 2) + 1 by omega, Nat.pow_succ]; omega
        rcases Nat.lt_or_ge u v with hlt | hge
        · exact Or.inl (List.mem_append_right _ ((hmemA _).mpr ⟨by simp only; omega, hv'⟩))
        · exact Or.inr (List.mem_append_right _ ((hmemA _).mpr ⟨by simp only; omega, by simp only; omega⟩)))
  refine ⟨d, ?_, w, a⟩
  simp only [buildByAddEdge_append, List.foldlM_map] at e
  simpa only [foldedHypercubeGraph, hypercubeGraph, Nat.one_shiftLeft, bound, show ¬ dim < 1 by omega, ↓reduceIte] using e

theorem foldedHypercubeGraph_wf (dim : Nat) (hd : 1 ≤ dim) :
    ∃ d, foldedHypercubeGraph dim = .ok d ∧ d.WF ∧ d.n = 2 ^ (dim - 1) := by
  obtain ⟨d, e, w, a⟩ := foldedHypercubeGraph_ok dim hd
  exact ⟨d, e, w, congrArg G.n a⟩

end Construct
