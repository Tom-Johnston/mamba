import Mamba.Lemmas.CanonFSplit
import Mamba.Lemmas.CanonFCert
import Mamba.Lemmas.CanonFCertRefine
/-!
# `splitBin` is a split of one bin (`SplitRel` of `CanonFRefineCall.lean`); the certificate invariant across it

`splitBin` cuts the bin of `i` into `[order[i]]` and the rest, which keeps its order (`moveFront_splice`), and gives the
new divider the new age: with the age advanced first this is the relation `SplitRel` that describes one effective
`splitCell` of the refinement (`splitBin_split`). What the invariants need from a split is therefore proved once, about
`SplitRel` (`SplitRel.cert` in `CanonFCertRefine.lean`, `SplitRel.binsSorted_of`, `SplitRel.rearr`).

* `spl_le_binIdx`, `spl_le_binStartOf`, `binStartOf_of_eq_spl` — a position in a non-singleton bin lies behind the
  singleton prefix;
* `splitBin_cert` — the interface theorem (`ExpandCert` is a hypothesis).
-/
namespace CanonF

theorem perm_cons_eraseIdx {α : Type} (l : List α) (k : Nat) (hk : k < l.length) : (l[k] :: l.eraseIdx k).Perm l := by
  rw [List.eraseIdx_eq_take_drop_succ]
  conv => rhs; rw [← List.take_append_drop k l, List.drop_eq_getElem_cons hk]
  exact List.perm_middle.symm

theorem moveFront_splice (o : List Nat) (s i d : Nat) (hsi : s ≤ i) (hid : i < d) (hd : d ≤ o.length) :
    moveFront o s i = o.take s ++ (o.getD i 0 :: (rfSeg o s d).eraseIdx (i - s)) ++ o.drop d := by
  have hi : i < o.length := Nat.lt_of_lt_of_le hid hd
  have hsd : s ≤ d := Nat.le_of_lt (Nat.lt_of_le_of_lt hsi hid)
  have hA : (o.take s).length = s := List.length_take_of_le (Nat.le_trans hsd hd)
  have hS : (rfSeg o s d).length = d - s := length_rfSeg _ _ _ hsd hd
  have e : o = o.take s ++ (rfSeg o s d ++ o.drop d) := by
    unfold rfSeg
    conv => lhs; rw [← List.take_append_drop s o, ← List.take_append_drop (d - s) (o.drop s), List.drop_drop,
      Nat.add_sub_cancel' hsd]
  have he : o.eraseIdx i = o.take s ++ ((rfSeg o s d).eraseIdx (i - s) ++ o.drop d) := by
    conv => lhs; rw [e]
    rw [List.eraseIdx_append_of_length_le (by rw [hA]; exact hsi), hA,
      List.eraseIdx_append_of_lt_length (by rw [hS]; exact Nat.sub_lt_sub_right hsi hid)]
  rw [moveFront_eq o s i hsi hi, he, List.take_left' hA, List.drop_left' hA, List.append_assoc]
  rfl

theorem SplitStep.splitRel {n : Nat} {op op1 : OP} {i : Nat} (st : SplitStep n op i op1) (h : PartInv n op) (hi : i < n)
    (hns : NonSingleton op.binDividers.toList i) (hP : PartInv n op1) :
    ∃ d, i < d ∧
      SplitRel n (binIdx op.binDividers.toList i) (binStartOf op.binDividers.toList i) d
        (op.order.toList.getD i 0 ::
          (rfSeg op.order.toList (binStartOf op.binDividers.toList i) d).eraseIdx (i - binStartOf op.binDividers.toList i))
        [binStartOf op.binDividers.toList i + 1] { op with age := op.age + 1 } op1 := by
  have eo := st.order
  have eb := st.bd
  have ea := st.binAges
  have hbs : op.binDividers.toList.Pairwise (· < ·) := h.bdSorted
  have hbl := binIdx_lt _ n i h.last hi
  have hsi := binStartOf_le _ hbs i hbl
  have hid := binIdx_lt_div _ hbs i hbl
  have hlt := binStartOf_succ_lt _ hbs i hbl hns
  have hdn : op.binDividers.toList[binIdx op.binDividers.toList i] ≤ op.order.toList.length := by
    rw [h.length_order]
    exact h.bd_le _ _ (List.getElem?_eq_getElem hbl)
  have h1 := binStartOf_get_cons _ i hbl
  have h2 : op.binDividers.toList[binIdx op.binDividers.toList i]? = some _ := List.getElem?_eq_getElem hbl
  refine ⟨_, hid, ?_⟩
  -- from here on only the order, the index `t`, the start `s` and the end `d` of the bin matter
  generalize op.binDividers.toList[binIdx op.binDividers.toList i] = d at hid hlt hdn h2 ⊢
  generalize binStartOf op.binDividers.toList i = s at hsi hlt eo eb h1 ⊢
  generalize binIdx op.binDividers.toList i = t at eb ea h1 h2 ⊢
  have hsd : s < d := Nat.lt_of_le_of_lt hsi hid
  have hk : i - s < (rfSeg op.order.toList s d).length := by
    rw [length_rfSeg _ _ _ (Nat.le_of_lt hsd) hdn]
    exact Nat.sub_lt_sub_right hsi hid
  have hv : op.order.toList.getD i 0 = (rfSeg op.order.toList s d)[i - s] := by
    apply Option.some.inj
    rw [← List.getElem?_eq_getElem hk, getElem?_rfSeg, if_pos (Nat.sub_lt_sub_right hsi hid), Nat.add_sub_cancel' hsi,
      List.getD_eq_getElem?_getD, List.getElem?_eq_getElem (Nat.lt_of_lt_of_le hid hdn)]
    rfl
  exact
    { hbs := h1, hdj := h2, ne1 := Nat.ne_of_gt hlt,
      order := eo.trans (moveFront_splice _ _ _ _ hsi hid hdn),
      kperm := by rw [hv]; exact perm_cons_eraseIdx _ _ hk,
      bd := by rw [eb, List.append_assoc]; rfl, nsorted := List.pairwise_singleton _ _,
      nrange := fun x hx => by rw [List.mem_singleton.1 hx]; exact ⟨Nat.lt_succ_self _, hlt⟩,
      ages := by rw [ea, List.append_assoc]; rfl, age := st.age, value := st.value, spl := st.spl, inv := hP,
      szOrder := st.szOrder, szInCell := st.szInCell, szBd := st.szBd, szAges := st.szAges }

theorem splitBin_split {n : Nat} {nb : Nbrs} {cb fl : Sl Nat} {op op' : OP} {i : Nat} {w : Bool}
    (h : PartInv n op) (ha : AgeInv op) (hi : i < n) (hns : NonSingleton op.binDividers.toList i)
    (hs : splitBin nb cb fl op i = .ok (w, op')) :
    ∃ (d : Nat) (op1 : OP), i < d ∧
      SplitRel n (binIdx op.binDividers.toList i) (binStartOf op.binDividers.toList i) d
        (op.order.toList.getD i 0 ::
          (rfSeg op.order.toList (binStartOf op.binDividers.toList i) d).eraseIdx (i - binStartOf op.binDividers.toList i))
        [binStartOf op.binDividers.toList i + 1] { op with age := op.age + 1 } op1 ∧
      AgeInv op1 ∧ op1.binDividers.len = op.binDividers.len + 1 ∧
      (op.binsToCheck.toList.Pairwise (· < ·) → op1.binsToCheck.WF ∧
        op1.binsToCheck.toList = SortInts.union op.binsToCheck.toList
          [(binIdx op.binDividers.toList i : Int), (binIdx op.binDividers.toList i : Int) + 1]) ∧
      (if binIdx op.binDividers.toList i = op.spl then expandValue nb cb fl op1 = .ok (w, op')
        else (w = false ∧ op' = op1)) := by
  obtain ⟨op1, s, hif⟩ := splitBin_step h hi hs
  obtain ⟨hP, hA, _⟩ := s.inv h ha hi hns
  obtain ⟨d, hid, hrel⟩ := s.splitRel h hi hns hP
  exact ⟨d, op1, hid, hrel, hA, s.lenBd, fun hsb => ⟨(s.btc hsb).1, (s.btc hsb).2.1⟩, hif⟩

theorem PartInv.bin_of {n : Nat} {op : OP} (h : PartInv n op) {p : Nat} (hp : p < n) :
    ∃ t a b : Nat, (0 :: op.binDividers.toList)[t]? = some a ∧ op.binDividers.toList[t]? = some b ∧ a ≤ p ∧ p < b := by
  have hbl := binIdx_lt _ n p h.last hp
  exact ⟨_, _, _, binStartOf_get_cons _ p hbl, List.getElem?_eq_getElem hbl, binStartOf_le _ h.bdSorted p hbl,
    binIdx_lt_div _ h.bdSorted p hbl⟩

theorem bin_same_side {bd : List Nat} (hs : bd.Pairwise (· < ·)) {t a b : Nat} (ha : (0 :: bd)[t]? = some a)
    (hb : bd[t]? = some b) {p q : Nat} (hap : a ≤ p) (hpb : p < b) (haq : a ≤ q) (hqb : q < b) {d : Nat} (hd : d ∈ bd) :
    d ≤ q ↔ d ≤ p := by
  rcases no_div_inside _ hs ha hb hd with hle | hge
  · exact ⟨fun _ => Nat.le_trans hle hap, fun _ => Nat.le_trans hle haq⟩
  · exact ⟨fun h => absurd (Nat.lt_of_lt_of_le hqb hge) (Nat.not_lt_of_le h),
      fun h => absurd (Nat.lt_of_lt_of_le hpb hge) (Nat.not_lt_of_le h)⟩

theorem spl_le_binIdx {n : Nat} {op : OP} {i : Nat} (h : PartInv n op) (hp : PrefixSingle op)
    (hns : NonSingleton op.binDividers.toList i) : op.spl ≤ binIdx op.binDividers.toList i := by
  apply Nat.le_of_not_lt
  intro hlt
  have hi : i < op.spl := (binIdx_lt_iff_of_single _ h.sorted op.spl hp.single i).1 hlt
  apply hns
  constructor
  · by_cases h0 : i = 0
    · rw [h0]; exact List.mem_cons_self ..
    · have := List.mem_of_getElem? (hp.single (i - 1) (by omega))
      rw [show i - 1 + 1 = i by omega] at this
      exact List.mem_cons_of_mem _ this
  · exact List.mem_of_getElem? (hp.single i hi)

theorem spl_le_binStartOf {n : Nat} {op : OP} {i : Nat} (h : PartInv n op) (hi : i < n) (hp : PrefixSingle op)
    (hns : NonSingleton op.binDividers.toList i) : op.spl ≤ binStartOf op.binDividers.toList i := by
  have hb := spl_le_binIdx h hp hns
  have hbl := binIdx_lt _ n i h.last hi
  unfold binStartOf
  by_cases h0 : binIdx op.binDividers.toList i = 0
  · rw [if_pos h0]; omega
  · rw [if_neg h0]
    have hk : binIdx op.binDividers.toList i - 1 < op.binDividers.toList.length := by omega
    rw [getD_eq_getElem hk]
    have := h.bd_ge (binIdx op.binDividers.toList i - 1) _ (List.getElem?_eq_getElem hk)
    omega

theorem binStartOf_of_eq_spl {op : OP} {i : Nat} (hp : PrefixSingle op)
    (hbi : binIdx op.binDividers.toList i = op.spl) : binStartOf op.binDividers.toList i = op.spl := by
  unfold binStartOf
  rw [hbi]
  by_cases h0 : op.spl = 0
  · rw [if_pos h0, h0]
  · rw [if_neg h0]
    have := hp.single (op.spl - 1) (by omega)
    rw [List.getD_eq_getElem?_getD, this]; simp; omega

theorem splitBin_cert (hx : ExpandCert) {n : Nat} {nb : Nbrs} {cb fl : Sl Nat} {op op' : OP} {i : Nat} {w : Bool}
    (h : PartInv n op) (ha : AgeInv op) (hi : i < n) (hns : NonSingleton op.binDividers.toList i)
    (hv : VN nb cb fl op) (hs : splitBin nb cb fl op i = .ok (w, op')) :
    (w = false → VN nb cb fl op') ∧ (w = true → VAny nb cb fl op') := by
  obtain ⟨d, op1, _, hrel, _, _, _, hif⟩ := splitBin_split h ha hi hns hs
  exact hrel.cert hx (h.of_frame rfl rfl rfl rfl) (VClean.of_age hv _) (by rw [hrel.spl]; exact hif)

end CanonF
