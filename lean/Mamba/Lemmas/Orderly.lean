import Mathlib.Data.List.Basic
/-!
# Orderly generation by canonical augmentation — the abstract argument

Objects `α` with an equivalence `E` ("isomorphic") and a relation `Par X Z` ("`X` is, up to `E`, the canonical parent of
`Z`") that respects `E` on both sides and determines the parent up to `E`.  If every object `X` comes with a list of
children that is an exact transversal (up to `E`) of `{Z | Par X Z}`, then the objects listed `d` levels below `X`
form an exact transversal of `{Y | Anc d X Y}` (the objects whose `d`-th canonical ancestor is `X`).
No group theory is needed at this level: orbit representatives and the canonical-deletion test only enter through
the three properties of the children lists.
-/
namespace Orderly

variable {α : Type}

structure Laws (E Par : α → α → Prop) : Prop where
  refl : ∀ x, E x x
  symm : ∀ {x y}, E x y → E y x
  trans : ∀ {x y z}, E x y → E y z → E x z
  par_left : ∀ {x x' z}, E x x' → Par x z → Par x' z
  par_right : ∀ {x z z'}, E z z' → Par x z → Par x z'
  par_unique : ∀ {x x' z}, Par x z → Par x' z → E x x'

def Anc (E Par : α → α → Prop) : Nat → α → α → Prop
  | 0, X, Y => E X Y
  | d + 1, X, Y => ∃ Z, Par X Z ∧ Anc E Par d Z Y

variable {E Par : α → α → Prop}

theorem anc_left (L : Laws E Par) : ∀ {d : Nat} {X X' Y : α}, E X X' → Anc E Par d X Y → Anc E Par d X' Y
  | 0, _, _, _, h, ha => L.trans (L.symm h) ha
  | _ + 1, _, _, _, h, ⟨Z, hp, ha⟩ => ⟨Z, L.par_left h hp, ha⟩

theorem anc_right (L : Laws E Par) : ∀ {d : Nat} {X Y Y' : α}, E Y Y' → Anc E Par d X Y → Anc E Par d X Y'
  | 0, _, _, _, h, ha => L.trans ha h
  | _ + 1, _, _, _, h, ⟨Z, hp, ha⟩ => ⟨Z, hp, anc_right L h ha⟩

theorem anc_unique (L : Laws E Par) : ∀ {d : Nat} {X X' Y Y' : α}, E Y Y' → Anc E Par d X Y → Anc E Par d X' Y' → E X X'
  | 0, _, _, _, _, h, ha, ha' => L.trans (L.trans ha h) (L.symm ha')
  | _ + 1, _, _, _, _, h, ⟨Z, hp, ha⟩, ⟨Z', hp', ha'⟩ =>
    have hz : E Z Z' := anc_unique L h ha ha'
    L.par_unique (L.par_right hz hp) hp'

theorem anc_snoc (L : Laws E Par) : ∀ {d : Nat} {X W Z : α}, Anc E Par d X W → Par W Z → Anc E Par (d + 1) X Z
  | 0, _, _, Z, ha, hp => ⟨Z, L.par_left (L.symm ha) hp, L.refl Z⟩
  | _ + 1, _, _, _, ⟨Z', hp', ha⟩, hp => ⟨Z', hp', anc_snoc L ha hp⟩

structure IsTrans (E : α → α → Prop) (S : α → Prop) (l : List α) : Prop where
  sound : ∀ y ∈ l, S y
  distinct : l.Pairwise fun a b => ¬ E a b
  complete : ∀ y, S y → ∃ y' ∈ l, E y y'

theorem trans_flatMap (L : Laws E Par) {β : Type} (ks : List β) (obj : β → α) (outs : β → List α) (d : Nat) (X : α)
    (hk1 : ∀ z ∈ ks, Par X (obj z))
    (hk2 : ks.Pairwise fun a b => ¬ E (obj a) (obj b))
    (hk3 : ∀ Z, Par X Z → ∃ z ∈ ks, E Z (obj z))
    (hout : ∀ z ∈ ks, IsTrans E (Anc E Par d (obj z)) (outs z)) :
    IsTrans E (Anc E Par (d + 1) X) (ks.flatMap outs) where
  sound := by
    intro y hy
    obtain ⟨z, hz, hyz⟩ := List.mem_flatMap.1 hy
    exact ⟨obj z, hk1 z hz, (hout z hz).sound y hyz⟩
  distinct := by
    rw [List.pairwise_flatMap]
    refine ⟨fun z hz => (hout z hz).distinct, ?_⟩
    refine hk2.imp_of_mem ?_
    intro a b ha hb hab x hx y hy hxy
    exact hab (anc_unique L hxy ((hout a ha).sound x hx) ((hout b hb).sound y hy))
  complete := by
    rintro y ⟨Z, hp, ha⟩
    obtain ⟨z, hz, hzE⟩ := hk3 Z hp
    obtain ⟨y', hy', hE⟩ := (hout z hz).complete y (anc_left L hzE ha)
    exact ⟨y', List.mem_flatMap.2 ⟨z, hz, hy'⟩, hE⟩

theorem trans_zero (L : Laws E Par) (X : α) : IsTrans E (Anc E Par 0 X) [X] where
  sound := by intro y hy; rw [List.mem_singleton] at hy; subst hy; exact L.refl _
  distinct := List.pairwise_singleton _ _
  complete := by intro y hy; exact ⟨X, List.mem_singleton.2 rfl, L.symm hy⟩

end Orderly
