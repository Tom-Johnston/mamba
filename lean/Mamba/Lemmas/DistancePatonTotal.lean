import Mamba.Model.Subgraph
import Mamba.Lemmas.DistanceModel
/-!
# Lemmas for C10: Paton's spanning-tree phase of `NumberOfCycles`, one neighbour at a time

A neighbour `u` of the examined vertex `v` either closes a fundamental cycle (`closeCycle`) or joins the tree
(`addLeaf`). The two evaluation equations `patonScan_closeCycle`, `patonScan_addLeaf` say when the Go code gets there
without a panic: following `T` from a tree vertex never meets `-1`, and `length := depth[v] - depth[T[u]] + 2` is at
least 2 when the parent of `u` is no deeper than `v` (Paton's remark "the back edge leads to something distance exactly
one from the path to v": `u` waits on the stack, and the parents of the vertices on the stack are ancestors of `v`).
-/
namespace GDist
open GraphSpec Model

/-- parent of `x` as a natural number -/
def par (T : Array Int) (x : Nat) : Nat := (T.getD x (-1)).toNat
def inTree (T : Array Int) (x : Nat) : Prop := T.getD x (-1) ≠ -1
def dep (D : Array Nat) (x : Nat) : Nat := D.getD x 0

theorem edgeRemoved_cons {rm : List (Nat × Nat)} {a b u v : Nat} :
    edgeRemoved ((a, b) :: rm) u v = true ↔ ((a = u ∧ b = v) ∨ (a = v ∧ b = u) ∨ edgeRemoved rm u v = true) := by
  simp only [edgeRemoved, List.contains_cons, Bool.or_eq_true, beq_iff_eq, Prod.mk.injEq]
  constructor
  · rintro ((⟨h1, h2⟩ | h) | (⟨h1, h2⟩ | h))
    · exact .inl ⟨h1.symm, h2.symm⟩
    · exact .inr (.inr (.inl h))
    · exact .inr (.inl ⟨h1.symm, h2.symm⟩)
    · exact .inr (.inr (.inr h))
  · rintro (⟨h1, h2⟩ | ⟨h1, h2⟩ | (h | h))
    · exact .inl (.inl ⟨h1.symm, h2.symm⟩)
    · exact .inr (.inl ⟨h1.symm, h2.symm⟩)
    · exact .inl (.inr h)
    · exact .inr (.inr h)

theorem edgeRemoved_tail {rm : List (Nat × Nat)} {e : Nat × Nat} {u v : Nat} (h : edgeRemoved rm u v = true) :
    edgeRemoved (e :: rm) u v = true :=
  edgeRemoved_cons.2 (.inr (.inr h))

theorem edgeRemoved_symm (rm : List (Nat × Nat)) (u v : Nat) : edgeRemoved rm u v = edgeRemoved rm v u :=
  Bool.or_comm _ _

theorem edgeRemoved_eq_false {rm : List (Nat × Nat)} {u v : Nat} (h : edgeRemoved rm u v = false) :
    (u, v) ∉ rm ∧ (v, u) ∉ rm := by
  simpa [edgeRemoved] using h

/-- the edge codes `patonBack` collects: those of `k` tree edges upwards from `p` -/
def backCodes (T : Array Int) : Nat → Nat → List Nat
  | 0, _ => []
  | k+1, p => edgeCode p (par T p) :: backCodes T k (par T p)

/-- the loop `for i := 2; i < length; i++` computes the codes of the tree path -/
theorem patonBack_spec (T : Array Int) (n : Nat) (hsz : T.size = n)
    (ptree : ∀ x, x < n → inTree T x → 0 ≤ T.getD x (-1) ∧ par T x < n ∧ inTree T (par T x)) :
    ∀ (k p : Nat) (acc : List Nat), p < n → inTree T p →
      patonBack T k p acc = .ok (acc ++ backCodes T k p) := by
  intro k
  induction k with
  | zero => intro p acc _ _; simp [patonBack, backCodes]
  | succ k ih =>
    intro p acc hp ht
    have hpT : p < T.size := by rw [hsz]; exact hp
    obtain ⟨h0, h1, h2⟩ := ptree p hp ht
    have hget := getElem_eq_getD hpT (-1)
    have : ¬ T[p] < 0 := by rw [hget]; omega
    rw [patonBack, dif_pos hpT]
    simp only [this, if_false]
    rw [show T[p].toNat = par T p by rw [par, hget], ih _ _ h1 h2, backCodes, List.append_assoc]
    rfl

/-- `u` is in the tree: the fundamental cycle `u, v, T[v], …, T[u]` is recorded -/
def closeCycle (st : PatonSt) (u v : Nat) : PatonSt :=
  { st with
    fund := st.fund ++ [sortInts ([edgeCode u (par st.T u), edgeCode u v] ++
      backCodes st.T (dep st.depth v - dep st.depth (par st.T u)) v)]
    removed := (u, v) :: st.removed }

/-- `u` is not in the tree: it becomes a child of `v` and is pushed on the stack -/
def addLeaf (st : PatonSt) (u v : Nat) : PatonSt :=
  { st with
    T := st.T.setIfInBounds u (v : Int)
    X := u :: st.X
    depth := st.depth.setIfInBounds u (dep st.depth v + 1)
    removed := (u, v) :: st.removed }

section addLeaf
variable {st : PatonSt} {u v x : Nat}

theorem getD_addLeaf_self (hu : u < st.T.size) : (addLeaf st u v).T.getD u (-1) = v := by
  unfold addLeaf
  rw [getD_setIfInBounds_eq, if_pos ⟨rfl, hu⟩]

theorem getD_addLeaf_of_ne (hx : x ≠ u) : (addLeaf st u v).T.getD x (-1) = st.T.getD x (-1) := by
  unfold addLeaf
  rw [getD_setIfInBounds_eq, if_neg fun h => hx h.1]

theorem inTree_addLeaf_self (hu : u < st.T.size) : inTree (addLeaf st u v).T u := by
  unfold inTree
  rw [getD_addLeaf_self hu]
  omega

theorem inTree_addLeaf_of_inTree (hu : ¬ inTree st.T u) (h : inTree st.T x) : inTree (addLeaf st u v).T x := by
  unfold inTree
  rw [getD_addLeaf_of_ne fun h0 => hu (by rw [← h0]; exact h)]
  exact h

theorem inTree_of_inTree_addLeaf (h : inTree (addLeaf st u v).T x) (hx : x ≠ u) : inTree st.T x := by
  unfold inTree at h
  rwa [getD_addLeaf_of_ne hx] at h

theorem par_addLeaf_self (hu : u < st.T.size) : par (addLeaf st u v).T u = v := by
  unfold par
  rw [getD_addLeaf_self hu]
  rfl

theorem par_addLeaf_of_ne (hx : x ≠ u) : par (addLeaf st u v).T x = par st.T x := by
  unfold par
  rw [getD_addLeaf_of_ne hx]

theorem dep_addLeaf_self (hu : u < st.depth.size) : dep (addLeaf st u v).depth u = dep st.depth v + 1 := by
  rw [dep, addLeaf, getD_setIfInBounds_eq, if_pos ⟨rfl, hu⟩]

theorem dep_addLeaf_of_ne (hx : x ≠ u) : dep (addLeaf st u v).depth x = dep st.depth x := by
  rw [dep, dep, addLeaf, getD_setIfInBounds_eq, if_neg fun h => hx h.1]

theorem count_addLeaf (hu : u < st.T.size) (ht : ¬ inTree st.T u) :
    (addLeaf st u v).T.count (-1) + 1 = st.T.count (-1) := by
  have hTu : st.T[u] = -1 := by
    rw [getElem_eq_getD hu (-1)]; exact Decidable.not_not.1 ht
  have hpos : 0 < st.T.count (-1) := by
    rw [Array.count_pos_iff, ← hTu]; exact Array.getElem_mem hu
  have hv1 : ((v : Int) == -1) = false := by
    rw [beq_eq_false_iff_ne]; omega
  show (st.T.setIfInBounds u (v : Int)).count (-1) + 1 = _
  rw [← set_eq_setIfInBounds hu, Array.count_set hu, hTu, hv1]
  simp only [beq_self_eq_true, if_true, Bool.false_eq_true, if_false]
  omega

end addLeaf

section scan
variable {n : Nat} {st : PatonSt} {v u : Nat} {us : List Nat}

theorem patonScan_closeCycle (tsz : st.T.size = n) (dsz : st.depth.size = n)
    (ptree : ∀ x, x < n → inTree st.T x → 0 ≤ st.T.getD x (-1) ∧ par st.T x < n ∧ inTree st.T (par st.T x))
    (hv : v < n) (hvt : inTree st.T v) (hu : u < n) (ht : inTree st.T u)
    (hle : dep st.depth (par st.T u) ≤ dep st.depth v) :
    patonScan v (u :: us) st = patonScan v us (closeCycle st u v) := by
  have huT : u < st.T.size := by rw [tsz]; exact hu
  have hvD : v < st.depth.size := by rw [dsz]; exact hv
  have hpD : par st.T u < st.depth.size := by rw [dsz]; exact (ptree u hu ht).2.1
  have hgetu := getElem_eq_getD huT (-1)
  have htree : st.T[u] ≠ -1 := by rw [hgetu]; exact ht
  have hpar : st.T[u].toNat = par st.T u := by rw [par, hgetu]
  have hlen : ¬ ((dep st.depth v : Int) - (dep st.depth (par st.T u) : Int) + 2 < 2) := by omega
  have hkk : ((dep st.depth v : Int) - (dep st.depth (par st.T u) : Int) + 2).toNat - 2
      = dep st.depth v - dep st.depth (par st.T u) := by omega
  rw [patonScan]
  simp only [huT, dif_pos, htree, ne_eq, not_false_eq_true, if_true, hvD]
  rw [hpar]
  simp only [hpD, dif_pos]
  have hdv : st.depth[v] = dep st.depth v := getElem_eq_getD hvD 0
  have hdp : st.depth[par st.T u] = dep st.depth (par st.T u) := getElem_eq_getD hpD 0
  rw [hdv, hdp]
  simp only [hlen, if_false]
  rw [hkk, patonBack_spec st.T n tsz ptree _ v _ hv hvt]
  rfl

theorem patonScan_addLeaf (tsz : st.T.size = n) (dsz : st.depth.size = n) (hv : v < n) (hu : u < n)
    (ht : ¬ inTree st.T u) : patonScan v (u :: us) st = patonScan v us (addLeaf st u v) := by
  have huT : u < st.T.size := by rw [tsz]; exact hu
  have huD : u < st.depth.size := by rw [dsz]; exact hu
  have hvD : v < st.depth.size := by rw [dsz]; exact hv
  have hTu : ¬ st.T[u] ≠ -1 := by rw [getElem_eq_getD huT (-1)]; exact ht
  rw [patonScan]
  simp only [huT, dif_pos, hTu, if_false, huD, hvD]
  rw [set_eq_setIfInBounds, set_eq_setIfInBounds, getElem_eq_getD hvD 0]
  rfl

end scan

/-- the neighbours the Go code iterates over after `h.RemoveEdge`: those whose edge to `v` is still there -/
theorem mem_liveNbrs {a : G} {rm : List (Nat × Nat)} {v u : Nat} :
    u ∈ (a.nbrs v).filter (fun u => !edgeRemoved rm u v) ↔
      u < a.n ∧ a.adj v u = true ∧ edgeRemoved rm u v = false := by
  rw [List.mem_filter, G.mem_nbrs, and_assoc, Bool.not_eq_true']

/-- the initial state of Paton's phase in `cyclesOfBlock` -/
def patonInit (n : Nat) : PatonSt :=
  { removed := [], T := (Array.replicate n (-1)).setIfInBounds 0 0, depth := Array.replicate n 0, X := [0],
    fund := [] }

section init
variable {n : Nat}

theorem getD_patonInit (hn : 0 < n) (w : Nat) : (patonInit n).T.getD w (-1) = if w = 0 then 0 else -1 := by
  unfold patonInit
  simp only [getD_setIfInBounds_eq, Array.size_replicate, hn, and_true]
  split_ifs
  · rfl
  · by_cases hwn : w < n <;> simp [Array.getD, hwn]

theorem inTree_patonInit (hn : 0 < n) {x : Nat} : inTree (patonInit n).T x ↔ x = 0 := by
  unfold inTree
  rw [getD_patonInit hn]
  by_cases hx : x = 0 <;> simp [hx]

theorem par_patonInit (hn : 0 < n) : par (patonInit n).T 0 = 0 := by
  unfold par
  rw [getD_patonInit hn]
  rfl

theorem count_patonInit (hn : 0 < n) : (patonInit n).T.count (-1) + 1 = n := by
  unfold patonInit
  simp only
  rw [← set_eq_setIfInBounds (by simpa using hn), Array.count_set (by simpa using hn)]
  simp
  omega

end init

end GDist
