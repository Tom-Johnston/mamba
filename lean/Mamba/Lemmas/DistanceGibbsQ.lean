import Mamba.Lemmas.DistanceXor
import Mamba.Lemmas.DistancePatonTotal
import Mamba.Lemmas.DistanceGibbsStep3
import Mathlib.Data.List.Sublists
/-!
# Gibbs' loop: `Q` is the list of all non-empty XOR combinations of the processed fundamental cycles
-/
namespace GDist
open Model

def occ (I : List (List Nat)) (x : Nat) : Nat := I.countP fun f => decide (x ∈ f)

/-- `t` is (the strictly increasing list of) the XOR of the lists of `I` -/
def IsXorOf (I : List (List Nat)) (t : List Nat) : Prop :=
  t.Pairwise (· < ·) ∧ ∀ x, x ∈ t ↔ occ I x % 2 = 1

structure QInv (F : List (List Nat)) (Q : List (List Nat)) : Prop where
  sound : ∀ t ∈ Q, ∃ I, I ≠ [] ∧ I.Sublist F ∧ IsXorOf I t
  complete : ∀ I, I ≠ [] → I.Sublist F → ∃ t ∈ Q, IsXorOf I t
  len : Q.length + 1 = 2 ^ F.length

theorem occ_append (I J : List (List Nat)) (x : Nat) : occ (I ++ J) x = occ I x + occ J x := by
  unfold occ; rw [List.countP_append]

theorem occ_single (f : List Nat) (x : Nat) : occ [f] x = if x ∈ f then 1 else 0 := by
  unfold occ; simp [List.countP_cons]

theorem isXorOf_single {f : List Nat} (hf : f.Pairwise (· < ·)) : IsXorOf [f] f :=
  ⟨hf, fun x => by rw [occ_single]; split <;> simp_all⟩

theorem isXorOf_snoc {I : List (List Nat)} {t fc : List Nat} (ht : IsXorOf I t) (hf : fc.Pairwise (· < ·)) :
    IsXorOf (I ++ [fc]) (sXor t fc) := by
  obtain ⟨h1, h2⟩ := sXor_spec t fc ht.1 hf
  refine ⟨h1, fun x => ?_⟩
  rw [h2 x, occ_append, occ_single, ht.2 x]
  by_cases hx : x ∈ fc
  · simp only [hx, if_true, not_true_eq_false, and_false, and_true, false_or]
    rcases Nat.mod_two_eq_zero_or_one (occ I x) with h | h <;> rw [Nat.add_mod, h] <;> decide
  · simp only [hx, if_false, not_false_eq_true, and_true, and_false, or_false, Nat.add_zero]

theorem IsXorOf.exists_mem {I : List (List Nat)} {t : List Nat} (h : IsXorOf I t) {x : Nat} (hx : x ∈ t) :
    ∃ f ∈ I, x ∈ f := by
  have hodd := (h.2 x).1 hx
  have hpos : 0 < occ I x := Nat.pos_of_ne_zero fun h0 => by rw [h0] at hodd; exact absurd hodd (by decide)
  obtain ⟨f, hf, hxf⟩ := List.countP_pos_iff.1 hpos
  exact ⟨f, hf, of_decide_eq_true hxf⟩

theorem qinv_step {F Q : List (List Nat)} {fc : List Nat} (h : QInv F Q) (hf : fc.Pairwise (· < ·)) :
    QInv (F ++ [fc]) (Q ++ (Q.map fun t => sXor t fc) ++ [fc]) := by
  refine ⟨?_, ?_, ?_⟩
  · intro t ht
    rcases List.mem_append.1 ht with ht | ht
    · rcases List.mem_append.1 ht with ht | ht
      · obtain ⟨I, h1, h2, h3⟩ := h.sound t ht
        exact ⟨I, h1, h2.trans (List.sublist_append_left _ _), h3⟩
      · obtain ⟨t0, ht0, rfl⟩ := List.mem_map.1 ht
        obtain ⟨I, h1, h2, h3⟩ := h.sound t0 ht0
        exact ⟨I ++ [fc], by simp, List.Sublist.append h2 (List.Sublist.refl _), isXorOf_snoc h3 hf⟩
    · simp at ht; subst ht
      exact ⟨[t], by simp, List.sublist_append_right _ _, isXorOf_single hf⟩
  · intro J hJ hsub
    obtain ⟨I, K, rfl, hI, hK⟩ := List.sublist_append_iff.1 hsub
    have hK' : K = [] ∨ K = [fc] := List.sublist_singleton.1 hK
    rcases hK' with rfl | rfl
    · rw [List.append_nil] at hJ ⊢
      obtain ⟨t, ht, hx⟩ := h.complete I hJ hI
      exact ⟨t, List.mem_append.2 (.inl (List.mem_append.2 (.inl ht))), hx⟩
    · by_cases hI0 : I = []
      · subst hI0
        exact ⟨fc, by simp, isXorOf_single hf⟩
      · obtain ⟨t, ht, hx⟩ := h.complete I hI0 hI
        exact ⟨sXor t fc, List.mem_append.2 (.inl (List.mem_append.2 (.inr (List.mem_map.2 ⟨t, ht, rfl⟩)))),
          isXorOf_snoc hx hf⟩
  · have := h.len
    simp only [List.length_append, List.length_map, List.length_cons, List.length_nil]
    rw [Nat.pow_succ]
    omega

/-- the list `R` of step 2: the sets `t XOR fc`, `t ∈ Q`, that are not disjoint unions -/
def gibbsR (Q : List (List Nat)) (fc : List Nat) : List (List Nat) :=
  ((Q.map fun t => (t, sXor t fc)).filter fun (t, tmp) => tmp.length != t.length + fc.length).map (·.2)

theorem mem_gibbsR {Q : List (List Nat)} {fc V : List Nat} :
    V ∈ gibbsR Q fc ↔ ∃ t ∈ Q, V = sXor t fc ∧ (sXor t fc).length ≠ t.length + fc.length := by
  simp only [gibbsR, List.mem_map, List.mem_filter, bne_iff_ne, ne_eq]
  constructor
  · rintro ⟨p, ⟨⟨t, ht, rfl⟩, hc⟩, rfl⟩
    exact ⟨t, ht, rfl, hc⟩
  · rintro ⟨t, ht, rfl, hc⟩
    exact ⟨(t, sXor t fc), ⟨⟨t, ht, rfl⟩, hc⟩, rfl⟩

/-- the state after steps 2–4 for the fundamental cycle `fc`, when step 3 has returned `R'` -/
def gibbsNext (st : GibbsSt) (fc : List Nat) (R' : Array (List Nat)) : GibbsSt :=
  { S := st.S ++ R'.toList ++ [fc], Q := st.Q ++ (st.Q.map fun t => sXor t fc) ++ [fc] }

theorem gibbsLoop_cons (fc : List Nat) (fcs : List (List Nat)) (st : GibbsSt) :
    gibbsLoop (fc :: fcs) st =
      match gibbsStep3 (gibbsR st.Q fc).length (gibbsR st.Q fc).toArray [] with
      | .ok (R', _) => gibbsLoop fcs (gibbsNext st fc R')
      | .panic => .panic
      | .outOfFuel => .outOfFuel := by
  rw [gibbsLoop]
  simp only [gibbsNext, List.map_map]
  rfl

theorem gibbsLoop_total : ∀ (fcs : List (List Nat)) (st : GibbsSt), ∃ st', gibbsLoop fcs st = .ok st' := by
  intro fcs
  induction fcs with
  | nil => intro st; exact ⟨st, rfl⟩
  | cons fc fcs ih =>
    intro st
    obtain ⟨⟨R', P'⟩, hres⟩ := gibbsStep3_total (gibbsR st.Q fc).length (gibbsR st.Q fc).toArray []
      (Nat.le_of_eq List.size_toArray.symm)
    rw [gibbsLoop_cons, hres]
    exact ih _

/-- Induction along Gibbs' loop for an invariant `P Fp fcs st` of the processed cycles `Fp`, the cycles `fcs` still
to come and the state. -/
theorem gibbsLoop_ind (P : List (List Nat) → List (List Nat) → GibbsSt → Prop)
    (step : ∀ Fp fc fcs st R' P', P Fp (fc :: fcs) st →
      gibbsStep3 (gibbsR st.Q fc).length (gibbsR st.Q fc).toArray [] = .ok (R', P') →
      P (Fp ++ [fc]) fcs (gibbsNext st fc R')) :
    ∀ (fcs : List (List Nat)) (st : GibbsSt) (Fp : List (List Nat)), P Fp fcs st →
      ∀ gs, gibbsLoop fcs st = .ok gs → P (Fp ++ fcs) [] gs := by
  intro fcs
  induction fcs with
  | nil =>
    intro st Fp h gs hres
    cases hres
    rwa [List.append_nil]
  | cons fc fcs ih =>
    intro st Fp h gs hres
    rw [gibbsLoop_cons] at hres
    split at hres
    · next R' P' hstep =>
      have := ih _ _ (step Fp fc fcs st R' P' h hstep) gs hres
      rwa [List.append_assoc] at this
    · cases hres
    · cases hres

end GDist
