import Mamba.Lemmas.ExactCanonScan
import Mathlib.Algebra.BigOperators.Group.List.Basic
/-! `isCanonical` on a built graph returns, and accepts iff the last vertex is a best vertex in the orbit of the first best
vertex (`isCanonical_spec`);
isomorphisms transport keys, best vertices and the condition; extensions that differ by an isomorphism fixing the new vertex. -/
namespace Search
open Disjoint GSearch GraphSpec

section
variable {O : Oracle} {n : Nat}

/-- the condition under which `isCanonical` accepts: the last vertex is a best vertex and lies in the orbit of the first
best vertex in the order of the canonical labelling -/
def CanonLast (g : DG) (a : Ans) : Prop :=
  Best g (g.nv - 1) ∧ ∃ w, firstBest g a.perm.toList = some w ∧ rep a.orbits w = rep a.orbits (g.nv - 1)

theorem firstBest_some {g : DG} {l : List Nat} {w : Nat} (h : firstBest g l = some w) : w ∈ l ∧ Best g w := by
  unfold firstBest at h
  exact ⟨List.mem_of_find?_eq_some h, by simpa using List.find?_some h⟩

theorem firstBest_unique {g : DG} {l : List Nat} (hL : Best g (g.nv - 1)) (hmem : g.nv - 1 ∈ l)
    (huniq : ∀ u, Best g u → u = g.nv - 1) : firstBest g l = some (g.nv - 1) := by
  unfold firstBest
  cases hf : l.find? fun u => decide (Best g u) with
  | none =>
    have := List.find?_eq_none.1 hf _ hmem
    simp [hL] at this
  | some w =>
    have hw : Best g w := by simpa using List.find?_some hf
    rw [huniq w hw]

theorem getAut_le {cap : Nat} {g : DG} {vb : Option Nat} {r : Option Ans}
    (h : getAut O cap g vb = .ok r) : g.nv ≤ cap := by
  unfold getAut at h
  by_contra hgt
  rw [if_pos (by omega)] at h
  cases h

theorem isCanonical_spec (hO : OracleSpec O n) {g : DG} (hb : Built g) {aug : List Nat}
    (haug : wsum g aug = nkey g (g.nv - 1)) (haugr : ∀ v ∈ aug, v < g.nv) {a : Ans}
    (ha : getAut O n g none = .ok (some a)) :
    ∃ c b, isCanonical O n g aug none = .ok (c, b) ∧ (b = true ↔ CanonLast g a) ∧
      ∀ c0, c = some c0 → AutData g c0.orbits c0.gens := by
  have hpos := hb.pos
  have hLlt : g.nv - 1 < g.nv := by omega
  have hd := autData_of_answer hO hb ha
  have hperm := hO.perm hb ha
  have hpl : ∀ u ∈ a.perm.toList, u < g.nv := fun u hu => by simpa using hperm.mem_iff.1 hu
  have hLmem : g.nv - 1 ∈ a.perm.toList := hperm.mem_iff.2 (List.mem_range.2 hLlt)
  have hdg : ∀ i, i < g.nv → g.degs[i]? = some (dgi g i) := fun i hi => hb.degOK i hi
  have hdL := hb.degOK (g.nv - 1) hLlt
  obtain ⟨r0, hr0⟩ := degreeScan_total g.degs (dgi g (g.nv - 1)) (List.range (g.nv - 1)) 0 (by
    intro i hi
    rw [hb.sized.degs]
    have := List.mem_range.1 hi; omega)
  obtain ⟨s1, s2⟩ := degreeScan_spec _ _ _ _ _ hr0
  have hr0' : degreeScan g.degs ((g.toG.deg (g.nv - 1) : Nat) : Int) (List.range (g.nv - 1)) 0 = .ok r0 := hr0
  unfold isCanonical
  have hnv : ¬ g.nv = 0 := by omega
  simp only [hnv, if_false, hdL]
  rw [hr0']
  cases r0 with
  | none =>
    -- a vertex of smaller degree
    refine ⟨none, false, rfl, ⟨fun hh => Bool.noConfusion hh, ?_⟩, fun _ hh => nomatch hh⟩
    obtain ⟨i, hi, d, hd', hlt⟩ := s1 rfl
    have hi' : i < g.nv - 1 := List.mem_range.1 hi
    rw [hdg i (by omega)] at hd'
    have : dgi g i < dgi g (g.nv - 1) := by rw [Option.some.inj hd']; exact hlt
    rintro ⟨hbest, -⟩
    have := (hbest.2 i (by omega)).1
    omega
  | some vb0 =>
    obtain ⟨hge, hbits0⟩ := s2 vb0 rfl
    have hvb0 : ∀ u, vb0.testBit u = true ↔ (u < g.nv - 1 ∧ dgi g u = dgi g (g.nv - 1)) := by
      intro u
      rw [hbits0 u]
      simp only [Nat.zero_testBit, Bool.false_or, decide_eq_true_eq, List.mem_range]
      constructor
      · rintro ⟨hu, he⟩
        rw [hdg u (by omega)] at he
        exact ⟨hu, Option.some.inj he⟩
      · rintro ⟨hu, he⟩
        exact ⟨hu, by rw [hdg u (by omega), he]⟩
    have hmin : ∀ u, u < g.nv → dgi g (g.nv - 1) ≤ dgi g u := by
      intro u hu
      by_cases hul : u < g.nv - 1
      · obtain ⟨d, hd', hle⟩ := hge u (List.mem_range.2 hul)
        rw [hdg u hu] at hd'
        rw [Option.some.inj hd']; exact hle
      · have : u = g.nv - 1 := by omega
        rw [this]
    -- the answer when the last vertex is the only candidate left
    have hsole : (∀ u, Best g u → u = g.nv - 1) → Best g (g.nv - 1) → (true = true ↔ CanonLast g a) :=
      fun huniq hbest => ⟨fun _ => ⟨hbest, g.nv - 1, firstBest_unique hbest hLmem huniq, rfl⟩, fun _ => rfl⟩
    simp only
    by_cases hz : vb0 = 0
    · -- no other vertex of minimum degree
      simp only [hz, if_true]
      have hnone : ∀ u, u < g.nv → dgi g u = dgi g (g.nv - 1) → u = g.nv - 1 := by
        intro u hu he
        by_contra hne
        have := (hvb0 u).2 ⟨by omega, he⟩
        rw [hz] at this; simp at this
      have hbest : Best g (g.nv - 1) := by
        refine ⟨hLlt, fun u hu => ⟨hmin u hu, fun he => ?_⟩⟩
        rw [hnone u hu he]; exact keyGt_irrefl _
      exact ⟨none, true, rfl, hsole (fun u hu => hnone u hu.1 ((best_iff hbest hu.1).1 hu).1) hbest,
        fun _ hh => nomatch hh⟩
    · simp only [hz, if_false]
      rw [sumSq_spec hb aug (0, 0) haugr]
      simp only
      have hkey : nkey g (g.nv - 1) = (0 + (wsum g aug).1, 0 + (wsum g aug).2) := by
        rw [← haug, Int.zero_add, Int.zero_add]
      have hl0 : ∀ v ∈ bitsOf vb0, v < g.nv ∧ vb0.testBit v = true := by
        intro v hv
        have := mem_bitsOf.1 hv
        exact ⟨by have := ((hvb0 v).1 this).1; omega, this⟩
      obtain ⟨r1, hr1⟩ := sumScan_total hb (0 + (wsum g aug).1) (0 + (wsum g aug).2) (bitsOf vb0) vb0
        (fun v hv => (hl0 v hv).1)
      obtain ⟨t1, t2⟩ := sumScan_spec hb _ _ _ _ _ (bitsOf_nodup vb0) hl0 hr1
      rw [hr1]
      cases r1 with
      | none =>
        -- a vertex of minimum degree with a larger key
        refine ⟨none, false, rfl, ⟨fun hh => Bool.noConfusion hh, ?_⟩, fun _ hh => nomatch hh⟩
        obtain ⟨v, hv, hgt⟩ := t1 rfl
        have hv' := (hvb0 v).1 (mem_bitsOf.1 hv)
        rintro ⟨hbest, -⟩
        have := (hbest.2 v (by omega)).2 hv'.2
        rw [hkey] at this
        exact absurd hgt this
      | some vb =>
        obtain ⟨hnogt, hbits⟩ := t2 vb rfl
        have hbest : Best g (g.nv - 1) := by
          refine ⟨hLlt, fun u hu => ⟨hmin u hu, fun he => ?_⟩⟩
          by_cases hul : u < g.nv - 1
          · have := hnogt u (mem_bitsOf.2 ((hvb0 u).2 ⟨hul, he⟩))
            rw [hkey]; exact this
          · have : u = g.nv - 1 := by omega
            rw [this]; exact keyGt_irrefl _
        have hvb : ∀ u, vb.testBit u = true ↔ (u < g.nv - 1 ∧ Best g u) := by
          intro u
          rw [hbits u]
          simp only [Bool.and_eq_true, Bool.not_eq_eq_eq_not, Bool.not_true, decide_eq_false_iff_not, not_and,
            Decidable.not_not]
          constructor
          · rintro ⟨h1, h2⟩
            have h1' := (hvb0 u).1 h1
            have hk := h2 (mem_bitsOf.2 h1)
            exact ⟨h1'.1, (best_iff hbest (by omega)).2 ⟨h1'.2, by rw [hk, hkey]⟩⟩
          · rintro ⟨hu, hbu⟩
            have := (best_iff hbest (by omega : u < g.nv)).1 hbu
            exact ⟨(hvb0 u).2 ⟨hu, this.1⟩, fun _ => by rw [this.2, hkey]⟩
        simp only
        by_cases hz2 : vb = 0
        · -- no other best vertex
          simp only [hz2, if_true]
          refine ⟨none, true, rfl, hsole (fun u hu => ?_) hbest, fun _ hh => nomatch hh⟩
          by_contra hne
          have := (hvb u).2 ⟨by have := hu.1; omega, hu⟩
          rw [hz2] at this; simp at this
        · -- the scan of `perm`
          simp only [hz2, if_false]
          have hfh := firstHit_eq_firstBest hbest hvb hpl
          have hLO : g.nv - 1 < a.orbits.size := by rw [hd.size]; exact hLlt
          obtain ⟨d1, f1, i1, sz1, r1'⟩ := find_spec hd.inv (g.nv - 1) hLO
          have hlt1 : ∀ u ∈ a.perm.toList, u < d1.size := fun u hu => by rw [sz1, hd.size]; exact hpl u hu
          obtain ⟨ds2, b', hp⟩ := permScan_total g.nv vb (rep a.orbits (g.nv - 1)) a.perm.toList d1 i1 hlt1
          obtain ⟨i2, sz2, r2, hb'⟩ := permScan_spec _ _ _ _ _ _ _ i1 hlt1 hp
          have hval : b' = true ↔ CanonLast g a := by
            rw [hfh] at hb'
            constructor
            · intro hbt
              subst hbt
              cases hfb : firstBest g a.perm.toList with
              | none =>
                have := List.find?_eq_none.1 hfb _ hLmem
                simp [hbest] at this
              | some w =>
                rw [hfb] at hb'
                simp only at hb'
                have hw := firstBest_some hfb
                refine ⟨hbest, w, hfb, ?_⟩
                have hwO : w < a.orbits.size := by rw [hd.size]; exact hpl w hw.1
                by_cases hwl : w = g.nv - 1
                · rw [hwl]
                · have hne : (w == g.nv - 1) = false := by simpa using hwl
                  rw [hne, Bool.false_or] at hb'
                  have := (beq_iff_eq.1 hb'.symm)
                  rw [r1' w hwO] at this
                  exact this.symm
            · rintro ⟨-, w, hfb, hrep⟩
              rw [hfb] at hb'
              simp only at hb'
              have hw := firstBest_some hfb
              have hwO : w < a.orbits.size := by rw [hd.size]; exact hpl w hw.1
              rw [hb', r1' w hwO, hrep]
              simp
          rcases hO.early vb hb with he | he
          · -- early exit: the full scan rejects as well
            rw [he]
            have := hO.early_reject hb he ha f1 hp
            subst this
            exact ⟨none, false, rfl, hval, fun _ hh => nomatch hh⟩
          · rw [he, ha]
            simp only [f1, hp]
            refine ⟨_, b', rfl, hval, fun c0 hc0 => ?_⟩
            cases hc0
            refine ⟨i2, by simp only; rw [sz2, sz1, hd.size], ?_, hd.gensAut, hd.gensGen⟩
            intro u v hu hv
            have hu1 : u < a.orbits.size := by rw [hd.size]; exact hu
            have hv1 : v < a.orbits.size := by rw [hd.size]; exact hv
            simp only
            rw [r2 u (by omega), r2 v (by omega), r1' u hu1, r1' v hv1]
            exact hd.orbits u v hu hv

theorem accept_iff (hO : OracleSpec O n) {g : DG} (hb : Built g) {aug : List Nat}
    (haug : wsum g aug = nkey g (g.nv - 1)) (haugr : ∀ v ∈ aug, v < g.nv) {a : Ans}
    (ha : getAut O n g none = .ok (some a)) {c : Option Ans} {b : Bool}
    (h : isCanonical O n g aug none = .ok (c, b)) : b = true ↔ CanonLast g a := by
  obtain ⟨c', b', h', hiff, -⟩ := isCanonical_spec hO hb haug haugr ha
  rw [h'] at h
  cases h
  exact hiff

end

structure IsIso (g h : DG) (σ : Nat → Nat) : Prop where
  nv : g.nv = h.nv
  bij : IsBij g.nv σ
  adj : ∀ u v, u < g.nv → v < g.nv → g.toG.adj u v = h.toG.adj (σ u) (σ v)

theorem IsIso.deg {g h : DG} {σ : Nat → Nat} (i : IsIso g h σ) {v : Nat} (hv : v < g.nv) :
    dgi h (σ v) = dgi g v := by
  unfold dgi
  rw [deg_iso (g := g.toG) (h := h.toG) i.nv i.bij i.adj hv]

theorem wsum_perm {g : DG} {l l' : List Nat} (h : l.Perm l') : wsum g l = wsum g l' := by
  unfold wsum
  rw [(h.map _).sum_eq, (h.map _).sum_eq]

theorem IsIso.nbrs_perm {g h : DG} {σ : Nat → Nat} (i : IsIso g h σ) {v : Nat} (hv : v < g.nv) :
    (h.toG.nbrs (σ v)).Perm ((g.toG.nbrs v).map σ) := by
  unfold G.nbrs
  have hn : h.toG.n = g.toG.n := i.nv.symm
  rw [hn]
  have hp : ((List.range g.toG.n).filter fun u => h.toG.adj (σ v) u).Perm
      (((List.range g.toG.n).map σ).filter fun u => h.toG.adj (σ v) u) := (perm_of_isBij i.bij).symm.filter _
  refine hp.trans ?_
  rw [List.filter_map]
  apply List.Perm.of_eq
  congr 1
  apply List.filter_congr
  intro u hu
  simp only [Function.comp]
  exact (i.adj v u hv (List.mem_range.1 hu)).symm

theorem IsIso.nkey {g h : DG} {σ : Nat → Nat} (i : IsIso g h σ) {v : Nat} (hv : v < g.nv) :
    nkey h (σ v) = nkey g v := by
  unfold Search.nkey
  rw [wsum_perm (i.nbrs_perm hv)]
  unfold wsum
  simp only [List.map_map]
  have hmem : ∀ j ∈ g.toG.nbrs v, j < g.nv := by
    intro j hj
    unfold G.nbrs at hj
    exact List.mem_range.1 (List.mem_filter.1 hj).1
  congr 1
  · congr 1
    apply List.map_congr_left
    intro j hj
    have := i.deg (hmem j hj)
    unfold dgi at this
    simpa using this
  · congr 1
    apply List.map_congr_left
    intro j hj
    have := i.deg (hmem j hj)
    unfold dgi at this
    simp only [Function.comp]
    rw [this]

theorem IsIso.best {g h : DG} {σ : Nat → Nat} (i : IsIso g h σ) {v : Nat} (hv : v < g.nv) :
    Best h (σ v) ↔ Best g v := by
  unfold Best
  constructor
  · rintro ⟨-, hall⟩
    refine ⟨hv, fun u hu => ?_⟩
    have := hall (σ u) (i.nv ▸ i.bij.maps u hu)
    rw [i.deg hu, i.deg hv, i.nkey hu, i.nkey hv] at this
    exact this
  · rintro ⟨-, hall⟩
    refine ⟨i.nv ▸ i.bij.maps v hv, fun w hw => ?_⟩
    obtain ⟨u, hu, rfl⟩ := i.bij.surj w (i.nv ▸ hw)
    rw [i.deg hu, i.deg hv, i.nkey hu, i.nkey hv]
    exact hall u hu

theorem IsIso.symm {g h : DG} {σ : Nat → Nat} (i : IsIso g h σ) : IsIso h g i.bij.inv := by
  refine ⟨i.nv.symm, i.nv ▸ i.bij.inv_isBij, ?_⟩
  intro u v hu hv
  rw [← i.nv] at hu hv
  have := i.adj _ _ (i.bij.inv_spec hu).1 (i.bij.inv_spec hv).1
  rw [(i.bij.inv_spec hu).2, (i.bij.inv_spec hv).2] at this
  exact this.symm

theorem IsIso.comp {g h k : DG} {σ τ : Nat → Nat} (i : IsIso g h σ) (j : IsIso h k τ) :
    IsIso g k (fun u => τ (σ u)) := by
  refine ⟨i.nv.trans j.nv, i.bij.comp (i.nv ▸ j.bij), ?_⟩
  intro u v hu hv
  rw [i.adj u v hu hv, j.adj _ _ (i.nv ▸ i.bij.maps u hu) (i.nv ▸ i.bij.maps v hv)]

section
variable {O : Oracle} {n : Nat}

theorem perm_eq_map {p : Array Nat} {nv : Nat} (hp : p.toList.Perm (List.range nv)) :
    p.toList = (List.range nv).map fun i => p.getD i 0 := by
  have hlen : p.toList.length = nv := by simpa using hp.length_eq
  apply List.ext_getElem
  · simp [hlen]
  · intro i h1 h2
    simp only [List.getElem_map, List.getElem_range, Array.getElem_toList]
    have : i < p.size := by simpa using h1
    simp [Array.getD_eq_getD_getElem?, Array.getElem?_eq_getElem this]

theorem isBij_of_arrayPerm {p : Array Nat} {nv : Nat} (hp : p.toList.Perm (List.range nv)) :
    IsBij nv (fun i => p.getD i 0) := by
  have := isBij_of_perm hp
  refine ⟨fun u hu => ?_, fun u v hu hv h => ?_, fun w hw => ?_⟩
  · have := this.maps u hu; simpa [Array.getD_eq_getD_getElem?, List.getD_eq_getElem?_getD] using this
  · apply this.inj u v hu hv
    simpa [Array.getD_eq_getD_getElem?, List.getD_eq_getElem?_getD] using h
  · obtain ⟨u, hu, he⟩ := this.surj w hw
    exact ⟨u, hu, by simpa [Array.getD_eq_getD_getElem?, List.getD_eq_getElem?_getD] using he⟩

theorem canon_transport (hO : OracleSpec O n) {g h : DG} (hg : Built g) (hh : Built h) (i : IsoD g h) {a b : Ans}
    (ha : getAut O n g none = .ok (some a)) (hb : getAut O n h none = .ok (some b)) :
    ∃ θ, IsIso g h θ ∧ ∀ w, firstBest g a.perm.toList = some w → firstBest h b.perm.toList = some (θ w) := by
  have hnv : g.nv = h.nv := i.1
  have hpa := hO.perm hg ha
  have hpb := hO.perm hh hb
  have ba := isBij_of_arrayPerm hpa
  have bb := isBij_of_arrayPerm hpb
  rw [← hnv] at hpb bb
  let pa : Nat → Nat := fun i => a.perm.getD i 0
  let pb : Nat → Nat := fun i => b.perm.getD i 0
  let θ : Nat → Nat := fun v => pb (ba.inv v)
  have hθ : IsIso g h θ := by
    refine ⟨hnv, ba.inv_isBij.comp bb, ?_⟩
    intro u v hu hv
    have e1 := (ba.inv_spec hu)
    have e2 := (ba.inv_spec hv)
    have := hO.canon hg hh i ha hb (ba.inv u) (ba.inv v) e1.1 e2.1
    show g.toG.adj u v = h.toG.adj (pb (ba.inv u)) (pb (ba.inv v))
    rw [← this]
    show g.toG.adj u v = g.toG.adj (a.perm.getD (ba.inv u) 0) (a.perm.getD (ba.inv v) 0)
    rw [e1.2, e2.2]
  refine ⟨θ, hθ, ?_⟩
  intro w hw
  have hθpa : ∀ i, i < g.nv → θ (pa i) = pb i := by
    intro i hi
    show pb (ba.inv (pa i)) = pb i
    rw [ba.inv_left hi]
  unfold firstBest at hw ⊢
  rw [perm_eq_map hpa] at hw
  rw [perm_eq_map hpb]
  rw [List.find?_map] at hw ⊢
  have hcongr : ∀ (l : List Nat), (∀ i ∈ l, i < g.nv) →
      l.find? ((fun u => decide (Best h u)) ∘ fun i => b.perm.getD i 0) =
      l.find? ((fun u => decide (Best g u)) ∘ fun i => a.perm.getD i 0) := by
    intro l hl
    induction l with
    | nil => rfl
    | cons x xs ih =>
      have hx := hl x List.mem_cons_self
      have hbest : Best h (pb x) ↔ Best g (pa x) := by
        rw [← hθpa x hx]; exact hθ.best (ba.maps x hx)
      simp only [List.find?_cons, Function.comp]
      have : decide (Best h (b.perm.getD x 0)) = decide (Best g (a.perm.getD x 0)) := by
        simp only [decide_eq_decide]; exact hbest
      rw [this, ih (fun i hi => hl i (List.mem_cons_of_mem _ hi))]
  rw [hcongr _ (fun i hi => List.mem_range.1 hi)]
  cases hf : (List.range g.nv).find? ((fun u => decide (Best g u)) ∘ fun i => a.perm.getD i 0) with
  | none => rw [hf] at hw; simp at hw
  | some i0 =>
    rw [hf] at hw
    simp only [Option.map_some, Option.some.injEq] at hw ⊢
    subst hw
    have hi0 : i0 < g.nv := List.mem_range.1 (List.mem_of_find?_eq_some hf)
    exact (hθpa i0 hi0).symm

end

theorem restrict_last {P Q g2 h2 : DG} {x y : Nat} (hP : Built P) (hQ : Built Q)
    (ha : P.addVertex (bitsOf x) = .ok g2) (hb : Q.addVertex (bitsOf y) = .ok h2) {ψ : Nat → Nat}
    (i : IsIso g2 h2 ψ) (hlast : ψ P.nv = Q.nv) : ExtEquiv P (bitsOf x) Q (bitsOf y) := by
  have n1 : g2.nv = P.nv + 1 := addVertex_nv ha
  have hnv : P.nv = Q.nv := by have := i.nv; rw [n1, addVertex_nv hb] at this; omega
  obtain ⟨r1, r2, r3⟩ := ext_restrict (g := P.toG) (h := Q.toG) (S := bitsOf x) (T := bitsOf y) hnv (n1 ▸ i.bij)
    (fun u v hu hv => by
      have := i.adj u v (n1 ▸ hu) (n1 ▸ hv)
      rwa [addVertex_toG hP.sized (bitsOf_nodup x) ha, addVertex_toG hQ.sized (bitsOf_nodup y) hb] at this) hlast
  exact ⟨hnv, ψ, r1, r2, r3⟩

theorem extend_last {P Q g2 h2 : DG} {x y : Nat} (hP : Built P) (hQ : Built Q)
    (ha : P.addVertex (bitsOf x) = .ok g2) (hb : Q.addVertex (bitsOf y) = .ok h2)
    (e : ExtEquiv P (bitsOf x) Q (bitsOf y)) : ∃ ψ, IsIso g2 h2 ψ ∧ ψ P.nv = Q.nv := by
  obtain ⟨hn, σ, hσ, hadj, hS⟩ := e
  have n1 : g2.nv = P.nv + 1 := addVertex_nv ha
  refine ⟨liftLast P.nv σ, ⟨by rw [n1, addVertex_nv hb, hn], n1 ▸ hσ.liftLast, fun u v hu hv => ?_⟩,
    (liftLast_last _ _).trans hn⟩
  rw [addVertex_toG hP.sized (bitsOf_nodup x) ha, addVertex_toG hQ.sized (bitsOf_nodup y) hb]
  exact ext_adj_liftLast (g := P.toG) (h := Q.toG) hn hσ hadj hS (n1 ▸ hu) (n1 ▸ hv)

end Search
