import Mamba.Lemmas.DawgInv
/-! `addSuffix`: appends a fresh chain below an unregistered node. -/
namespace Dawg

theorem addSuffix_spec (R : List Nat) : ∀ (x : Word) (h : Heap) (p lid : Nat) (L : List Word) (n : Node),
    NodeRep h R p L 1 n → RegOK h R → HeapIds h → lid + 1 = h.size →
    (∀ b ∈ x.head?, ∀ a ∈ n.labels, a < b) → (∀ u ∈ L, u < x) →
    ∃ h' news, addSuffix h p x lid = .ok (h', lid + x.length) ∧
      Spine h' R 0 (p :: news) x (L ++ [x]) [[]] ∧ h'.size = h.size + x.length ∧
      (∀ i, i < h.size → i ≠ p → h'[i]? = h[i]?) ∧ (∀ q ∈ news, h.size ≤ q) ∧ news.Nodup ∧ HeapIds h' := by
  intro x
  induction x with
  | nil =>
    intro h p lid L n hn hreg hids _ _ hL
    have hp : p < h.size := lt_size_of_get hn.get
    obtain rfl : L = [] := List.eq_nil_iff_forall_not_mem.2 fun u hu => List.not_lt_nil u (hL u hu)
    obtain ⟨hlab, hlinks⟩ := hn.leaf fun _ => rfl
    refine ⟨h.setIfInBounds p { n with final := true }, [], ?_, ?_, Array.size_setIfInBounds, ?_,
      fun _ hq => absurd hq List.not_mem_nil, List.nodup_nil, hids.set hn.get rfl⟩
    · simp only [addSuffix, getNode_of_some hn.get, List.length_nil, Nat.add_zero]
    · refine Spine.last (n := { n with final := true })
        ⟨Array.getElem?_setIfInBounds_self_of_lt hp, hn.notReg, List.pairwise_singleton _ _,
          ⟨fun _ => List.mem_singleton.2 rfl, fun _ => rfl⟩, hn.num, hn.labs, hn.lens, ?_, ?_⟩
      · intro c
        rw [show n.labels = [] from hlab]
        exact ⟨fun hc => absurd hc List.not_mem_nil, fun hc => absurd rfl hc⟩
      · intro j c q hj
        rw [show n.labels = [] from hlab] at hj
        cases hj
    · intro i _ hip
      exact Array.getElem?_setIfInBounds_ne (Ne.symm hip)
  | cons b rest ih =>
    intro h p lid L n hn hreg hids hlid hb hL
    have hp : p < h.size := lt_size_of_get hn.get
    have hb : ∀ a ∈ n.labels, a < b := hb b rfl
    let n1 : Node := { n with labels := n.labels ++ [b], links := n.links ++ [h.size] }
    let fresh : Node := { id := lid + 1, numWords := 1, final := false, labels := [], links := [] }
    let h2 : Heap := (h.setIfInBounds p n1).push fresh
    have hsz2 : h2.size = h.size + 1 := by simp [h2]
    have hlt2 : h.size < h2.size := hsz2 ▸ Nat.lt_succ_self _
    have hfresh : h2[h.size]? = some fresh := by
      show ((h.setIfInBounds p n1).push fresh)[h.size]? = some fresh
      rw [Array.getElem?_push, Array.size_setIfInBounds, if_pos rfl]
    have hold : ∀ i, i < h.size → i ≠ p → h2[i]? = h[i]? := by
      intro i hi hip
      show ((h.setIfInBounds p n1).push fresh)[i]? = _
      rw [Array.getElem?_push, Array.size_setIfInBounds, if_neg (Nat.ne_of_lt hi),
        Array.getElem?_setIfInBounds_ne (Ne.symm hip)]
    have hp2 : h2[p]? = some n1 := by
      show ((h.setIfInBounds p n1).push fresh)[p]? = _
      rw [Array.getElem?_push, Array.size_setIfInBounds, if_neg (Nat.ne_of_lt hp),
        Array.getElem?_setIfInBounds_self_of_lt hp]
    have hag : AgreeOn h h2 R := fun u hu => hold u (hreg.lt_size hu) (fun h1 => hn.notReg (h1 ▸ hu))
    have hids2 : HeapIds h2 :=
      (hids.set hn.get (n' := n1) rfl).push (by rw [Array.size_setIfInBounds]; exact hlid)
    have hfreshR : h.size ∉ R := fun hmem => Nat.lt_irrefl _ (hreg.lt_size hmem)
    -- the fresh node, with its count of one, stands for the empty language with one word still to come
    obtain ⟨h', news, hres, hsp, hsz, hfr, hnews, hnd, hids'⟩ :=
      ih h2 h.size (lid + 1) [] fresh
        ⟨hfresh, hfreshR, List.Pairwise.nil, by simp [fresh], rfl, List.Pairwise.nil, rfl, by simp [fresh, sub_nil],
          by simp [fresh]⟩
        (hreg.frame hag) hids2 (by rw [hsz2, hlid]) (fun _ _ a ha => absurd ha List.not_mem_nil)
        (fun u hu => absurd hu List.not_mem_nil)
    have hbnot : b ∉ n.labels := fun hmem => Nat.lt_irrefl _ (hb b hmem)
    have hsubb : sub L b = [] := Decidable.byContradiction fun h1 => hbnot ((hn.mem b).2 h1)
    have hsubne : ∀ {c'}, c' ≠ b → sub (L ++ [b :: rest]) c' = sub L c' := by
      intro c' hc'
      rw [sub_append, sub_cons_cons, sub_nil, if_neg (Ne.symm hc'), List.append_nil]
    have hag' : AgreeOn h h' R := by
      intro u hu
      have := hreg.lt_size hu
      rw [hfr u (Nat.lt_trans this hlt2) (Nat.ne_of_lt this), hag u hu]
    refine ⟨h', h.size :: news, ?_, ?_, by rw [hsz, hsz2, List.length_cons, Nat.add_assoc, Nat.add_comm 1], ?_, ?_, ?_, hids'⟩
    · simp only [addSuffix, getNode_of_some hn.get]
      rw [List.length_cons, ← Nat.add_assoc, Nat.add_right_comm]
      exact hres
    · refine Spine.node (ls := n.labels) (qs := n.links) (by rw [hfr p (Nat.lt_trans hp hlt2) (Nat.ne_of_lt hp), hp2]) hn.notReg
        (Nat.pos_iff_ne_zero.1 (Nat.zero_lt_of_lt hp)) ?_ ?_ ?_ ?_ rfl rfl hn.lens ?_ ?_ ?_
      · exact List.pairwise_append.2 ⟨hn.sorted, List.pairwise_singleton _ _,
          fun u hu v hv => List.mem_singleton.1 hv ▸ hL u hu⟩
      · show n.final = true ↔ _
        rw [hn.fin, List.mem_append, List.mem_singleton]
        exact ⟨Or.inl, fun h1 => h1.resolve_right (List.cons_ne_nil _ _).symm⟩
      · show n.numWords = _
        rw [hn.num, List.length_append]; rfl
      · exact List.pairwise_append.2 ⟨hn.labs, List.pairwise_singleton _ _,
          fun a ha c hc => List.mem_singleton.1 hc ▸ hb a ha⟩
      · intro c'
        show c' ∈ n.labels ++ [b] ↔ _
        rw [List.mem_append, List.mem_singleton]
        by_cases hcb : c' = b
        · subst hcb
          rw [sub_append, sub_cons_cons, if_pos rfl]
          exact ⟨fun _ => List.append_ne_nil_of_right_ne_nil _ (List.cons_ne_nil _ _), fun _ => Or.inr rfl⟩
        · rw [hsubne hcb, ← hn.mem c']
          exact ⟨fun h1 => h1.resolve_right hcb, Or.inl⟩
      · intro j c' q hj hq
        have hc' : c' ≠ b := fun h3 => hbnot (h3 ▸ List.mem_of_getElem? hj)
        rw [hsubne hc']
        exact kids_frame hreg hag' (fun _ hu => hu) hn.kids j c' q hj hq
      · rw [sub_append, hsubb, sub_cons_cons, sub_nil, if_pos rfl]
        exact hsp
    · intro i hi hip
      rw [hfr i (Nat.lt_trans hi hlt2) (Nat.ne_of_lt hi), hold i hi hip]
    · intro q hq
      rcases List.mem_cons.1 hq with rfl | hq
      · exact Nat.le_refl _
      · exact Nat.le_trans (Nat.le_of_lt hlt2) (hnews q hq)
    · refine List.nodup_cons.2 ⟨fun hmem => ?_, hnd⟩
      exact Nat.lt_irrefl _ (Nat.lt_of_lt_of_le hlt2 (hnews _ hmem))

end Dawg
