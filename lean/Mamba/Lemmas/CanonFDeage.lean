import Mamba.Lemmas.CanonFPhase
/-!
# `deage` of `Model/CanonF.lean` (Go: `(*CanonicalOrderedPartition).deage`)

`DeageInv op i st` is the invariant of the main loop after `i` iterations (`deageKept op i` = the surviving dividers among
the first `i`). One iteration skips a divider of the current age, or copies it forward after the merge of the bins in
between (`deageStep_cases`). The interface is `deage_inv`, `deage_no_panic`, `deage_value`, `deage_order_prefix`,
`deage_order_perm` (`deage_total`: the first two together, in the form a repeated `deage` needs). Each is read off the
final loop state: `deage_loop_of_ok` (the state), `deage_loop_inv` (its `DeageInv`), `deage_of_loop` (what follows the
loop); a further fact about `deage` is proved the same way. `DeageInv` knows `order` only up to a permutation and a
frame: the closed form (which bins are merged and sorted) is `deage_mergedBins` in `CanonFDeageBins`, and a stronger loop
invariant rides along with `DeageInv` through `deage_loop_with` in `CanonFCertDeage`.
-/
namespace CanonF

theorem truncLen_spec (value : Sl Nat) (maxPos : Nat) : ∀ (k r : Nat), truncLen value maxPos k = .ok r →
    r ≤ k ∧ (∀ i x, r ≤ i → i < k → value.data[i]? = some x → maxPos ≤ x) ∧
      (r = 0 ∨ ∃ x, value.data[r - 1]? = some x ∧ x < maxPos) := by
  intro k
  induction k with
  | zero =>
    intro r h
    simp [truncLen] at h
    subst h
    exact ⟨Nat.le_refl _, by intro i x h1 h2; omega, Or.inl rfl⟩
  | succ k ih =>
    intro r h
    rw [truncLen] at h
    cases hg : value.get k with
    | ok x =>
      rw [hg] at h
      simp only at h
      obtain ⟨g1, g2⟩ := Sl.get_eq_ok.1 hg
      by_cases hx : x < maxPos
      · rw [if_pos hx] at h
        simp only [Outcome.ok.injEq] at h
        subst h
        exact ⟨Nat.le_refl _, by intro i y h1 h2; omega, Or.inr ⟨x, by simpa using g2, hx⟩⟩
      · rw [if_neg hx] at h
        obtain ⟨a1, a2, a3⟩ := ih r h
        refine ⟨by omega, ?_, a3⟩
        intro i y h1 h2 hy
        by_cases hik : i = k
        · subst hik
          rw [g2] at hy
          cases hy
          omega
        · exact a2 i y h1 (by omega) hy
    | panic => rw [hg] at h; cases h
    | outOfFuel => rw [hg] at h; cases h

theorem truncLen_ok (value : Sl Nat) (hw : value.WF) (maxPos : Nat) : ∀ k, k ≤ value.len →
    ∃ r, truncLen value maxPos k = .ok r := by
  intro k
  induction k with
  | zero => intro _; exact ⟨0, rfl⟩
  | succ k ih =>
    intro hk
    obtain ⟨x, hx, _⟩ := Sl.get_ok_of_lt hw (show k < value.len by omega)
    rw [truncLen, hx]
    simp only
    by_cases hc : x < maxPos
    · rw [if_pos hc]; exact ⟨_, rfl⟩
    · rw [if_neg hc]; exact ih (by omega)


def deageKept (op : OP) (i : Nat) : List (Nat × Int) := ((divs op).take i).filter (fun x => decide (x.2 ≠ op.age))

theorem deageKept_succ {op : OP} {i : Nat} {x : Nat × Int} (hx : (divs op)[i]? = some x) :
    deageKept op (i + 1) = deageKept op i ++ (if x.2 ≠ op.age then [x] else []) := by
  unfold deageKept
  rw [List.take_add_one, hx, List.filter_append]
  by_cases h : x.2 ≠ op.age
  · simp [h]
  · simp [h]

theorem deageKept_length_le (op : OP) (i : Nat) : (deageKept op i).length ≤ i := by
  unfold deageKept
  have h1 := List.length_filter_le (fun x : Nat × Int => decide (x.2 ≠ op.age)) ((divs op).take i)
  have h2 : ((divs op).take i).length ≤ i := by rw [List.length_take]; omega
  omega

/-- the part of `deageStep` executed when bins were merged (`i - prev > 1`) -/
def deageMergeBin (op : OP) (j prevDiv di : Nat) : Outcome OP :=
  let op1 : Outcome OP :=
    if j < op.spl then
      let maxPos := ((j - 1) * j) / 2
      match truncLen op.value maxPos op.value.len with
      | .ok k =>
        match op.value.reslice k with
        | .ok value => .ok { op with spl := j, value := value }
        | .panic => .panic
        | .outOfFuel => .outOfFuel
      | .panic => .panic
      | .outOfFuel => .outOfFuel
    else .ok op
  match op1 with
  | .ok op =>
    match op.order.sortRange prevDiv di with
    | .ok order => .ok { op with order := order }
    | .panic => .panic
    | .outOfFuel => .outOfFuel
  | o => o

theorem deageStep_eq (age : Int) (i : Nat) (st : DeageSt) :
    deageStep age i st =
      match st.op.binAges.get i with
      | .ok a =>
        if a ≠ age then
          match st.op.binDividers.get i with
          | .ok di =>
            match st.op.binDividers.set st.j di, st.op.binAges.set st.j a with
            | .ok bd, .ok ages =>
              match (if i > st.prev1 then deageMergeBin { st.op with binDividers := bd, binAges := ages } st.j st.prevDiv di
                     else .ok { st.op with binDividers := bd, binAges := ages }) with
              | .ok op => .ok { op := op, j := st.j + 1, prev1 := i + 1, prevDiv := di }
              | .panic => .panic
              | .outOfFuel => .outOfFuel
            | _, _ => .panic
          | .panic => .panic
          | .outOfFuel => .outOfFuel
        else .ok st
      | .panic => .panic
      | .outOfFuel => .outOfFuel := by
  rfl

theorem deageMergeBin_spec {op op' : OP} {j pd di : Nat} (h : deageMergeBin op j pd di = .ok op') :
    op'.binDividers = op.binDividers ∧ op'.binAges = op.binAges ∧ op'.binsToCheck = op.binsToCheck ∧
      op'.age = op.age ∧ op'.inCell = op.inCell ∧ op.order.sortRange pd di = .ok op'.order ∧
      op'.value.data = op.value.data ∧
      ((op'.spl = op.spl ∧ op'.value = op.value ∧ ¬ j < op.spl) ∨
       (j < op.spl ∧ op'.spl = j ∧ truncLen op.value (((j - 1) * j) / 2) op.value.len = .ok op'.value.len)) := by
  unfold deageMergeBin at h
  by_cases hj : j < op.spl
  · simp only [hj, if_true] at h
    cases ht : truncLen op.value (((j - 1) * j) / 2) op.value.len with
    | ok k =>
      rw [ht] at h
      simp only at h
      cases hr : op.value.reslice k with
      | ok value =>
        rw [hr] at h
        simp only at h
        obtain ⟨r1, r2, _⟩ := Sl.reslice_len hr
        cases hs : op.order.sortRange pd di with
        | ok order =>
          rw [hs] at h
          simp only [Outcome.ok.injEq] at h
          subst h
          exact ⟨rfl, rfl, rfl, rfl, rfl, rfl, r2, Or.inr ⟨hj, rfl, by simp only [r1]⟩⟩
        | panic => rw [hs] at h; cases h
        | outOfFuel => rw [hs] at h; cases h
      | panic => rw [hr] at h; cases h
      | outOfFuel => rw [hr] at h; cases h
    | panic => rw [ht] at h; cases h
    | outOfFuel => rw [ht] at h; cases h
  · simp only [hj, if_false] at h
    cases hs : op.order.sortRange pd di with
    | ok order =>
      rw [hs] at h
      simp only [Outcome.ok.injEq] at h
      subst h
      exact ⟨rfl, rfl, rfl, rfl, rfl, rfl, rfl, Or.inl ⟨rfl, rfl, hj⟩⟩
    | panic => rw [hs] at h; cases h
    | outOfFuel => rw [hs] at h; cases h

theorem deageMergeBin_ok {op : OP} {j pd di : Nat} (hv : op.value.WF) (h1 : pd ≤ di) (h2 : di ≤ op.order.data.size) :
    ∃ op', deageMergeBin op j pd di = .ok op' := by
  unfold deageMergeBin
  by_cases hj : j < op.spl
  · simp only [hj, if_true]
    obtain ⟨k, hk⟩ := truncLen_ok op.value hv (((j - 1) * j) / 2) op.value.len (Nat.le_refl _)
    rw [hk]
    simp only
    obtain ⟨k1, _, _⟩ := truncLen_spec _ _ _ _ hk
    have hr : op.value.reslice k = .ok ⟨op.value.data, k⟩ := Sl.reslice_eq_ok.2 ⟨by have := hv.le; omega, rfl⟩
    rw [hr]
    simp only
    obtain ⟨o, ho⟩ := Sl.sortRange_ok (s := op.order) h1 h2
    rw [ho]
    exact ⟨_, rfl⟩
  · simp only [hj, if_false]
    obtain ⟨o, ho⟩ := Sl.sortRange_ok (s := op.order) h1 h2
    rw [ho]
    exact ⟨_, rfl⟩


structure DeageInv (op : OP) (i : Nat) (st : DeageSt) : Prop where
  hj : st.j = (deageKept op i).length
  bdLen : st.op.binDividers.len = op.binDividers.len
  bdSize : st.op.binDividers.data.size = op.binDividers.data.size
  agLen : st.op.binAges.len = op.binAges.len
  agSize : st.op.binAges.data.size = op.binAges.data.size
  bdHi : ∀ k, i ≤ k → st.op.binDividers.data[k]? = op.binDividers.data[k]?
  agHi : ∀ k, i ≤ k → st.op.binAges.data[k]? = op.binAges.data[k]?
  lo : ∀ (k : Nat) (x : Nat × Int), (deageKept op i)[k]? = some x →
    st.op.binDividers.data[k]? = some x.1 ∧ st.op.binAges.data[k]? = some x.2
  prevLe : st.prev1 ≤ i
  prevRemoved : ∀ k, st.prev1 ≤ k → k < i → ∃ d, (divs op)[k]? = some (d, op.age)
  prevDiv : (0 :: op.binDividers.toList)[st.prev1]? = some st.prevDiv
  ordLen : st.op.order.len = op.order.len
  ordSize : st.op.order.data.size = op.order.data.size
  ordPerm : st.op.order.toList.Perm op.order.toList
  ordFrame : ∀ p, (∀ k d, k < i → (divs op)[k]? = some (d, op.age) →
      p < (if k = 0 then 0 else op.binDividers.toList.getD (k - 1) 0)) →
    st.op.order.data[p]? = op.order.data[p]?
  valData : st.op.value.data = op.value.data
  valLen : st.op.value.len ≤ op.value.len
  valCase : (st.op.spl = op.spl ∧ st.op.value.len = op.value.len) ∨
    (st.op.spl < st.j ∧ st.op.spl < op.spl ∧
      (∀ x ∈ (op.value.toList.drop st.op.value.len), ((st.op.spl - 1) * st.op.spl) / 2 ≤ x) ∧
      (st.op.value.len = 0 ∨
        ∃ x, op.value.toList[st.op.value.len - 1]? = some x ∧ x < ((st.op.spl - 1) * st.op.spl) / 2))
  inCell : st.op.inCell = op.inCell
  btc : st.op.binsToCheck = op.binsToCheck
  age : st.op.age = op.age

theorem DeageInv.init (op : OP) : DeageInv op 0 { op := op, j := 0, prev1 := 0, prevDiv := 0 } := by
  constructor <;> simp [deageKept]

section
variable {op : OP} {i : Nat} {st : DeageSt} (hinv : DeageInv op i st)
include hinv

theorem DeageInv.wfOrder (hw : op.order.WF) : st.op.order.WF := by
  unfold Sl.WF; rw [hinv.ordLen, hinv.ordSize]; exact hw

theorem DeageInv.wfBd (hw : op.binDividers.WF) : st.op.binDividers.WF := by
  unfold Sl.WF; rw [hinv.bdLen, hinv.bdSize]; exact hw

theorem DeageInv.wfAges (hw : op.binAges.WF) : st.op.binAges.WF := by
  unfold Sl.WF; rw [hinv.agLen, hinv.agSize]; exact hw

theorem DeageInv.wfValue (hw : op.value.WF) : st.op.value.WF := by
  unfold Sl.WF; rw [hinv.valData]; exact Nat.le_trans hinv.valLen hw

end

theorem DeageInv.skip {op : OP} {st : DeageSt} {i d : Nat} (hinv : DeageInv op i st)
    (hD : (divs op)[i]? = some (d, op.age)) : DeageInv op (i + 1) st := by
  have hk : deageKept op (i + 1) = deageKept op i := by rw [deageKept_succ hD]; simp
  exact { hinv with
    hj := by rw [hk]; exact hinv.hj
    bdHi := fun k hk => hinv.bdHi k (Nat.le_of_succ_le hk)
    agHi := fun k hk => hinv.agHi k (Nat.le_of_succ_le hk)
    lo := by rw [hk]; exact hinv.lo
    prevLe := Nat.le_succ_of_le hinv.prevLe
    prevRemoved := fun k h1 h2 => by
      by_cases hki : k = i
      · subst hki; exact ⟨d, hD⟩
      · exact hinv.prevRemoved k h1 (Nat.lt_of_le_of_ne (Nat.le_of_lt_succ h2) hki)
    ordFrame := fun p hp => hinv.ordFrame p (fun k d hk => hp k d (Nat.lt_succ_of_lt hk)) }

theorem deage_merged_order {n : Nat} {op : OP} {st : DeageSt} {i di : Nat} {a : Int} {bd : Sl Nat} {ages : Sl Int}
    {opm : OP} (h : PartInv n op) (hinv : DeageInv op i st) (hD : (divs op)[i]? = some (di, a))
    (hm : (if i > st.prev1 then deageMergeBin { st.op with binDividers := bd, binAges := ages } st.j st.prevDiv di
           else .ok { st.op with binDividers := bd, binAges := ages }) = .ok opm) :
    st.op.order.WF ∧ di ≤ st.op.order.len ∧
      ((st.prev1 < i ∧ st.op.order.sortRange st.prevDiv di = .ok opm.order) ∨
       (st.prev1 = i ∧ opm.order = st.op.order)) := by
  refine ⟨?_, ?_, ?_⟩
  · exact hinv.wfOrder h.wfOrder
  · rw [hinv.ordLen, h.lenOrder]
    exact h.bd_mem_le di (List.mem_of_getElem? (divs_getElem?.1 hD).1)
  · by_cases hc : i > st.prev1
    · rw [if_pos hc] at hm
      exact Or.inl ⟨hc, (deageMergeBin_spec hm).2.2.2.2.2.1⟩
    · rw [if_neg hc] at hm
      cases hm
      exact Or.inr ⟨by have := hinv.prevLe; omega, rfl⟩

theorem deage_merged_facts {n : Nat} {op : OP} {st : DeageSt} {i di : Nat} {a : Int} {bd : Sl Nat} {ages : Sl Int} {opm : OP}
    (h : PartInv n op) (hinv : DeageInv op i st) (hD : (divs op)[i]? = some (di, a))
    (hm : (if i > st.prev1 then deageMergeBin { st.op with binDividers := bd, binAges := ages } st.j st.prevDiv di
           else .ok { st.op with binDividers := bd, binAges := ages }) = .ok opm) :
    opm.binDividers = bd ∧ opm.binAges = ages ∧ opm.binsToCheck = st.op.binsToCheck ∧ opm.age = st.op.age ∧
      opm.inCell = st.op.inCell ∧ opm.value.data = st.op.value.data ∧
      opm.order.len = st.op.order.len ∧ opm.order.data.size = st.op.order.data.size ∧
      opm.order.toList.Perm st.op.order.toList ∧
      (∀ p, ¬ (st.prev1 < i ∧ st.prevDiv ≤ p ∧ p < di) → opm.order.data[p]? = st.op.order.data[p]?) ∧
      ((opm.spl = st.op.spl ∧ opm.value = st.op.value) ∨
       (st.j < st.op.spl ∧ opm.spl = st.j ∧
         truncLen st.op.value (((st.j - 1) * st.j) / 2) st.op.value.len = .ok opm.value.len)) := by
  obtain ⟨hw, hdi, _⟩ := deage_merged_order h hinv hD hm
  by_cases hc : i > st.prev1
  · rw [if_pos hc] at hm
    obtain ⟨m1, m2, m3, m4, m5, m6, m7, m8⟩ := deageMergeBin_spec hm
    simp only at m1 m2 m3 m4 m5 m6 m7 m8
    obtain ⟨s1, s2, s3, s4, _, s6⟩ := Sl.sortRange_spec hw hdi m6
    refine ⟨m1, m2, m3, m4, m5, m7, s2, s3, s6, ?_, ?_⟩
    · intro p hp
      exact s4 p (by omega)
    · rcases m8 with ⟨e1, e2, _⟩ | ⟨e1, e2, e3⟩
      · exact Or.inl ⟨e1, e2⟩
      · exact Or.inr ⟨e1, e2, e3⟩
  · rw [if_neg hc] at hm
    simp only [Outcome.ok.injEq] at hm
    subst hm
    exact ⟨rfl, rfl, rfl, rfl, rfl, rfl, rfl, rfl, List.Perm.refl _, fun _ _ => rfl, Or.inl ⟨rfl, rfl⟩⟩


theorem DeageInv.keep {n : Nat} {op : OP} {st : DeageSt} {i di : Nat} {a : Int} {bd : Sl Nat} {ages : Sl Int} {opm : OP}
    (h : PartInv n op) (hinv : DeageInv op i st) (hD : (divs op)[i]? = some (di, a)) (ha : a ≠ op.age)
    (hs1 : st.op.binDividers.set st.j di = .ok bd) (hs2 : st.op.binAges.set st.j a = .ok ages)
    (hm : (if i > st.prev1 then deageMergeBin { st.op with binDividers := bd, binAges := ages } st.j st.prevDiv di
           else .ok { st.op with binDividers := bd, binAges := ages }) = .ok opm) :
    DeageInv op (i + 1) { op := opm, j := st.j + 1, prev1 := i + 1, prevDiv := di } := by
  obtain ⟨f1, f2, f3, f4, f5, f6, f7, f8, f9, f10, f11⟩ := deage_merged_facts h hinv hD hm
  have hk : deageKept op (i + 1) = deageKept op i ++ [(di, a)] := by rw [deageKept_succ hD]; simp [ha]
  have hji : st.j ≤ i := by rw [hinv.hj]; exact deageKept_length_le op i
  obtain ⟨hb, hag⟩ := divs_getElem?.1 hD
  constructor
  · show st.j + 1 = _
    rw [hk, List.length_append, ← hinv.hj]; rfl
  · show opm.binDividers.len = _
    rw [f1, Sl.set_len hs1]; exact hinv.bdLen
  · show opm.binDividers.data.size = _
    rw [f1, Sl.set_cap hs1]; exact hinv.bdSize
  · show opm.binAges.len = _
    rw [f2, Sl.set_len hs2]; exact hinv.agLen
  · show opm.binAges.data.size = _
    rw [f2, Sl.set_cap hs2]; exact hinv.agSize
  · intro k hk'
    show opm.binDividers.data[k]? = _
    rw [f1, Sl.set_data hs1, if_neg (by omega)]; exact hinv.bdHi k (by omega)
  · intro k hk'
    show opm.binAges.data[k]? = _
    rw [f2, Sl.set_data hs2, if_neg (by omega)]; exact hinv.agHi k (by omega)
  · intro k x hx
    show opm.binDividers.data[k]? = some x.1 ∧ opm.binAges.data[k]? = some x.2
    rw [f1, f2, Sl.set_data hs1, Sl.set_data hs2]
    rw [hk] at hx
    by_cases hkj : k = st.j
    · rw [if_pos hkj, if_pos hkj]
      rw [List.getElem?_append_right (by rw [← hinv.hj]; omega)] at hx
      rw [← hinv.hj, hkj, Nat.sub_self] at hx
      simp at hx; subst hx; exact ⟨rfl, rfl⟩
    · rw [if_neg hkj, if_neg hkj]
      have hlt : k < st.j := by
        have := (List.getElem?_eq_some_iff.1 hx).1
        rw [List.length_append, ← hinv.hj] at this; simp at this; omega
      rw [List.getElem?_append_left (by rw [← hinv.hj]; exact hlt)] at hx
      exact hinv.lo k x hx
  · show i + 1 ≤ i + 1
    exact Nat.le_refl _
  · intro k h1 h2
    have h1' : i + 1 ≤ k := h1
    omega
  · show (0 :: op.binDividers.toList)[i + 1]? = some di
    simpa using hb
  · show opm.order.len = _
    rw [f7]; exact hinv.ordLen
  · show opm.order.data.size = _
    rw [f8]; exact hinv.ordSize
  · exact f9.trans hinv.ordPerm
  · intro p hp
    show opm.order.data[p]? = _
    have hold := hinv.ordFrame p (fun k d hk => hp k d (by omega))
    rw [f10 p ?_, hold]
    rintro ⟨c1, c2, c3⟩
    obtain ⟨d, hd⟩ := hinv.prevRemoved st.prev1 (Nat.le_refl _) c1
    have hlt := hp st.prev1 d (by omega) hd
    have hpd := hinv.prevDiv
    by_cases h0 : st.prev1 = 0
    · rw [if_pos h0] at hlt; omega
    · rw [if_neg h0] at hlt
      obtain ⟨m, hm⟩ : ∃ m, st.prev1 = m + 1 := ⟨st.prev1 - 1, by omega⟩
      rw [hm] at hpd hlt
      simp only [List.getElem?_cons_succ, Nat.add_sub_cancel] at hpd hlt
      rw [List.getD_eq_getElem?_getD, hpd] at hlt
      simp at hlt
      omega
  · show opm.value.data = _
    exact f6.trans hinv.valData
  · show opm.value.len ≤ _
    rcases f11 with ⟨e1, e2⟩ | ⟨e1, e2, e3⟩
    · rw [e2]; exact hinv.valLen
    · obtain ⟨t1, _, _⟩ := truncLen_spec _ _ _ _ e3
      have := hinv.valLen; omega
  · show (opm.spl = op.spl ∧ opm.value.len = op.value.len) ∨
      (opm.spl < st.j + 1 ∧ opm.spl < op.spl ∧
        (∀ x ∈ (op.value.toList.drop opm.value.len), ((opm.spl - 1) * opm.spl) / 2 ≤ x) ∧
        (opm.value.len = 0 ∨
          ∃ x, op.value.toList[opm.value.len - 1]? = some x ∧ x < ((opm.spl - 1) * opm.spl) / 2))
    rcases f11 with ⟨e1, e2⟩ | ⟨e1, e2, e3⟩
    · rw [e1, e2]
      rcases hinv.valCase with c | ⟨c1, c2, c3, c4⟩
      · exact Or.inl c
      · exact Or.inr ⟨by omega, c2, c3, c4⟩
    · rcases hinv.valCase with ⟨c1, c2⟩ | ⟨c1, _⟩
      · obtain ⟨t1, t2, t3⟩ := truncLen_spec _ _ _ _ e3
        rw [e2]
        refine Or.inr ⟨by omega, by omega, ?_, ?_⟩
        · intro x hx
          obtain ⟨idx, hidx⟩ := List.mem_iff_getElem?.1 hx
          rw [List.getElem?_drop, Sl.getElem?_toList] at hidx
          split at hidx
          next hlt =>
            exact t2 (opm.value.len + idx) x (by omega) (by omega) (by rw [hinv.valData]; exact hidx)
          next => cases hidx
        · rcases t3 with t3 | ⟨x, hx1, hx2⟩
          · exact Or.inl t3
          · by_cases hz : opm.value.len = 0
            · exact Or.inl hz
            · refine Or.inr ⟨x, ?_, hx2⟩
              rw [Sl.getElem?_toList, if_pos (by omega), ← hinv.valData]; exact hx1
      · omega
  · show opm.inCell = _
    rw [f5]; exact hinv.inCell
  · show opm.binsToCheck = _
    rw [f3]; exact hinv.btc
  · show opm.age = _
    rw [f4]; exact hinv.age


theorem DeageInv.entry {n : Nat} {op : OP} {st : DeageSt} {i : Nat} (h : PartInv n op) (hinv : DeageInv op i st)
    (hi : i < op.binAges.len) :
    ∃ di a, st.op.binDividers.get i = .ok di ∧ st.op.binAges.get i = .ok a ∧ (divs op)[i]? = some (di, a) := by
  have hl := h.lenAges
  obtain ⟨di, g1, g2⟩ := Sl.get_ok_of_lt (hinv.wfBd h.wfBd) (show i < st.op.binDividers.len by rw [hinv.bdLen]; omega)
  obtain ⟨a, g3, g4⟩ := Sl.get_ok_of_lt (hinv.wfAges h.wfAges) (show i < st.op.binAges.len by rw [hinv.agLen]; omega)
  refine ⟨di, a, g1, g3, divs_getElem?.2 ⟨?_, ?_⟩⟩
  · rw [Sl.getElem?_toList, if_pos (by omega), ← hinv.bdHi i (Nat.le_refl _)]; exact g2
  · rw [Sl.getElem?_toList, if_pos (by omega), ← hinv.agHi i (Nat.le_refl _)]; exact g4

theorem deageStep_cases {n : Nat} {op : OP} {st st' : DeageSt} {i : Nat} (h : PartInv n op) (hinv : DeageInv op i st)
    (hi : i < op.binAges.len) (hs : deageStep op.age i st = .ok st') :
    ∃ di a, (divs op)[i]? = some (di, a) ∧
      ((a = op.age ∧ st' = st) ∨
       (a ≠ op.age ∧ ∃ bd ages opm, st.op.binDividers.set st.j di = .ok bd ∧ st.op.binAges.set st.j a = .ok ages ∧
         (if i > st.prev1 then deageMergeBin { st.op with binDividers := bd, binAges := ages } st.j st.prevDiv di
           else .ok { st.op with binDividers := bd, binAges := ages }) = .ok opm ∧
         st' = { op := opm, j := st.j + 1, prev1 := i + 1, prevDiv := di })) := by
  obtain ⟨di, a, g1, g3, hD⟩ := hinv.entry h hi
  refine ⟨di, a, hD, ?_⟩
  rw [deageStep_eq, g3] at hs
  dsimp only at hs
  by_cases ha : a = op.age
  · rw [if_neg (fun h => h ha)] at hs
    exact Or.inl ⟨ha, (Outcome.ok.inj hs).symm⟩
  · rw [if_pos ha, g1] at hs
    dsimp only at hs
    split at hs
    · rename_i bd ages hs1 hs2
      split at hs
      · rename_i opm hm
        exact Or.inr ⟨ha, bd, ages, opm, hs1, hs2, hm, (Outcome.ok.inj hs).symm⟩
      · cases hs
      · cases hs
    · cases hs

theorem deageStep_inv {n : Nat} {op : OP} {st st' : DeageSt} {i : Nat} (h : PartInv n op) (hinv : DeageInv op i st)
    (hi : i < op.binAges.len) (hs : deageStep op.age i st = .ok st') : DeageInv op (i + 1) st' := by
  obtain ⟨di, a, hD, ⟨rfl, rfl⟩ | ⟨ha, bd, ages, opm, hs1, hs2, hm, rfl⟩⟩ := deageStep_cases h hinv hi hs
  · exact hinv.skip hD
  · exact DeageInv.keep h hinv hD ha hs1 hs2 hm

theorem deageStep_ok {n : Nat} {op : OP} {st : DeageSt} {i : Nat} (h : PartInv n op) (hinv : DeageInv op i st)
    (hi : i < op.binAges.len) (hv : op.value.WF) : ∃ st', deageStep op.age i st = .ok st' := by
  obtain ⟨di, a, g1, g3, hD⟩ := hinv.entry h hi
  rw [deageStep_eq, g3]
  simp only
  by_cases ha : a = op.age
  · subst ha
    rw [if_neg (fun h => h rfl)]
    exact ⟨_, rfl⟩
  · rw [if_pos ha, g1]
    simp only
    have hl := h.lenAges
    have hji : st.j ≤ i := by rw [hinv.hj]; exact deageKept_length_le op i
    have hs1 := Sl.set_ok_of_lt (hinv.wfBd h.wfBd) (show st.j < st.op.binDividers.len by rw [hinv.bdLen]; omega) di
    have hs2 := Sl.set_ok_of_lt (hinv.wfAges h.wfAges) (show st.j < st.op.binAges.len by rw [hinv.agLen]; omega) a
    rw [hs1, hs2]
    simp only
    by_cases hc : i > st.prev1
    · rw [if_pos hc]
      obtain ⟨hb, _⟩ := divs_getElem?.1 hD
      have hle : st.prevDiv ≤ di := Nat.le_of_lt (h.start_lt hinv.prevDiv hb hinv.prevLe)
      have hdn : di ≤ st.op.order.data.size := by
        have h1 := h.bd_mem_le di (List.mem_of_getElem? hb)
        have h2 := h.wfOrder.le
        rw [hinv.ordSize]; have := h.lenOrder; omega
      obtain ⟨opm, hm⟩ := deageMergeBin_ok (op := { st.op with
        binDividers := ⟨st.op.binDividers.data.setIfInBounds st.j di, st.op.binDividers.len⟩,
        binAges := ⟨st.op.binAges.data.setIfInBounds st.j a, st.op.binAges.len⟩ }) (j := st.j) (hinv.wfValue hv) hle hdn
      rw [hm]
      exact ⟨_, rfl⟩
    · rw [if_neg hc]
      exact ⟨_, rfl⟩


theorem deageKept_full {n : Nat} {op : OP} (h : PartInv n op) :
    deageKept op op.binAges.len = (divs op).filter (fun x => decide (x.2 ≠ op.age)) := by
  unfold deageKept
  rw [List.take_of_length_le (by rw [h.divs_length]; exact Nat.le_refl _)]

theorem deage_filt_facts {n : Nat} {op : OP} (h : PartInv n op) (ha : AgeInv op) (hage : 0 < op.age)
    (K : List (Nat × Int)) (hK : K = (divs op).filter (fun x => decide (x.2 ≠ op.age))) :
    (0 :: K.map Prod.fst).Pairwise (· < ·) ∧ (K.map Prod.fst).getLast? = some n ∧
      (K.map Prod.snd).getLast? = some 0 ∧ (∀ a ∈ K.map Prod.snd, a ≤ op.age - 1) ∧
      (K.map Prod.fst).zip (K.map Prod.snd) = K := by
  have hlen : op.binDividers.toList.length = op.binAges.toList.length := by
    rw [h.length_bd, h.length_ages]
  obtain ⟨ys, hy⟩ := h.divs_last ha
  have hK2 : K = ys.filter (fun x => decide (x.2 ≠ op.age)) ++ [(n, 0)] := by
    rw [hK, hy, List.filter_append]
    congr 1
    have : (0 : Int) ≠ op.age := by omega
    simp [this]
  refine ⟨?_, ?_, ?_, ?_, ?_⟩
  · have hsub : (K.map Prod.fst).Sublist op.binDividers.toList := by
      have h1 : K.Sublist (divs op) := by rw [hK]; exact List.filter_sublist
      have h2 := h1.map Prod.fst
      unfold divs at h2
      rw [List.map_fst_zip (by omega)] at h2
      exact h2
    exact List.Pairwise.sublist (List.Sublist.cons_cons 0 hsub) h.sorted
  · rw [hK2]; simp
  · rw [hK2]; simp
  · intro a hmem
    obtain ⟨x, hx, rfl⟩ := List.mem_map.1 hmem
    rw [hK, List.mem_filter] at hx
    obtain ⟨hx1, hx2⟩ := hx
    have hx3 : x.2 ∈ op.binAges.toList := by
      unfold divs at hx1
      exact (List.of_mem_zip (a := x.1) (b := x.2) hx1).2
    have := ha.le _ hx3
    simp at hx2
    omega
  · rw [List.zip_map']
    simp

theorem deage_of_loop {n : Nat} {op : OP} {st : DeageSt} (h : PartInv n op) (ha : AgeInv op) (hage : 0 < op.age)
    (hloop : forRange (deageStep op.age) op.binAges.len 0 { op := op, j := 0, prev1 := 0, prevDiv := 0 } = .ok st)
    (hinv : DeageInv op op.binAges.len st) :
    ∃ op', deage op = .ok op' ∧
      (PartInv n op' ∧ AgeInv op' ∧ op'.age = op.age - 1 ∧
        divs op' = (divs op).filter (fun x => decide (x.2 ≠ op.age)) ∧
        op'.binsToCheck.len = 0 ∧ op'.binsToCheck.data = op.binsToCheck.data ∧
        op'.value.data = op.value.data ∧ op'.value.len ≤ op.value.len ∧ op'.spl ≤ op.spl ∧
        op'.order.data.size = op.order.data.size ∧ op'.inCell.data.size = op.inCell.data.size ∧
        op'.binDividers.data.size = op.binDividers.data.size ∧ op'.binAges.data.size = op.binAges.data.size) ∧
      op'.order = st.op.order ∧ op'.value = st.op.value ∧ op'.spl = st.op.spl := by
  have hw1 := h.wfBd.le; have hw2 := h.wfAges.le; have hl := h.lenAges
  have hjl : st.j ≤ op.binAges.len := by rw [hinv.hj]; exact deageKept_length_le _ _
  have hkf := deageKept_full h
  have hr1 : st.op.binDividers.reslice st.j = .ok ⟨st.op.binDividers.data, st.j⟩ :=
    Sl.reslice_eq_ok.2 ⟨by rw [hinv.bdSize]; omega, rfl⟩
  have hr2 : st.op.binAges.reslice st.j = .ok ⟨st.op.binAges.data, st.j⟩ :=
    Sl.reslice_eq_ok.2 ⟨by rw [hinv.agSize]; omega, rfl⟩
  have hr3 : st.op.binsToCheck.reslice 0 = .ok ⟨st.op.binsToCheck.data, 0⟩ :=
    Sl.reslice_eq_ok.2 ⟨Nat.zero_le _, rfl⟩
  obtain ⟨k1, k2, k3, k4, k5⟩ := deage_filt_facts h ha hage _ rfl
  have hbd : (⟨st.op.binDividers.data, st.j⟩ : Sl Nat).toList =
      ((divs op).filter (fun x => decide (x.2 ≠ op.age))).map Prod.fst := by
    apply List.ext_getElem?
    intro k
    rw [Sl.getElem?_toList, List.getElem?_map, ← hkf]
    by_cases hk : k < st.j
    · rw [if_pos hk]
      have hk' : k < (deageKept op op.binAges.len).length := by rw [← hinv.hj]; exact hk
      rw [List.getElem?_eq_getElem hk']
      exact (hinv.lo k _ (List.getElem?_eq_getElem hk')).1
    · rw [if_neg hk, List.getElem?_eq_none (by rw [← hinv.hj]; omega)]; rfl
  have hag : (⟨st.op.binAges.data, st.j⟩ : Sl Int).toList =
      ((divs op).filter (fun x => decide (x.2 ≠ op.age))).map Prod.snd := by
    apply List.ext_getElem?
    intro k
    rw [Sl.getElem?_toList, List.getElem?_map, ← hkf]
    by_cases hk : k < st.j
    · rw [if_pos hk]
      have hk' : k < (deageKept op op.binAges.len).length := by rw [← hinv.hj]; exact hk
      rw [List.getElem?_eq_getElem hk']
      exact (hinv.lo k _ (List.getElem?_eq_getElem hk')).2
    · rw [if_neg hk, List.getElem?_eq_none (by rw [← hinv.hj]; omega)]; rfl
  have hwo := hinv.wfOrder h.wfOrder
  have hwb : (⟨st.op.binDividers.data, st.j⟩ : Sl Nat).WF := Sl.wf_mk.2 (by rw [hinv.bdSize]; omega)
  have hwa : (⟨st.op.binAges.data, st.j⟩ : Sl Int).WF := Sl.wf_mk.2 (by rw [hinv.agSize]; omega)
  obtain ⟨ic, hrec, i1, i2, i3, i4⟩ := recomputeInCell_spec (n := n)
    (op := { st.op with binDividers := ⟨st.op.binDividers.data, st.j⟩, binAges := ⟨st.op.binAges.data, st.j⟩,
                        binsToCheck := ⟨st.op.binsToCheck.data, 0⟩ })
    hwo hwb (by show st.op.inCell.WF; rw [hinv.inCell]; exact h.wfInCell)
    (by show st.op.order.len = n; rw [hinv.ordLen]; exact h.lenOrder)
    (by show st.op.inCell.len = n; rw [hinv.inCell]; exact h.lenInCell)
    (hinv.ordPerm.trans h.perm)
    (by show (0 :: (⟨st.op.binDividers.data, st.j⟩ : Sl Nat).toList).Pairwise (· < ·); rw [hbd]; exact k1)
    (by show (⟨st.op.binDividers.data, st.j⟩ : Sl Nat).toList.getLast? = some n; rw [hbd]; exact k2)
  simp only at hrec i3 i4
  refine ⟨{ st.op with binDividers := ⟨st.op.binDividers.data, st.j⟩, binAges := ⟨st.op.binAges.data, st.j⟩,
                        binsToCheck := ⟨st.op.binsToCheck.data, 0⟩, inCell := ic, age := st.op.age - 1 }, ?_, ⟨?_, ?_, ?_, ?_, ?_, ?_, ?_, ?_, ?_, ?_, ?_, ?_, ?_⟩, rfl, rfl, rfl⟩
  · unfold deage
    rw [hloop]
    simp only
    rw [hr1, hr2, hr3]
    simp only
    rw [hrec]
  · constructor
    · exact hwo
    · exact hwb
    · exact hwa
    · exact i1
    · show st.op.order.len = n; rw [hinv.ordLen]; exact h.lenOrder
    · exact i2
    · rfl
    · exact hinv.ordPerm.trans h.perm
    · show (0 :: (⟨st.op.binDividers.data, st.j⟩ : Sl Nat).toList).Pairwise (· < ·); rw [hbd]; exact k1
    · show (⟨st.op.binDividers.data, st.j⟩ : Sl Nat).toList.getLast? = some n; rw [hbd]; exact k2
    · exact i4
  · constructor
    · show ∀ a ∈ (⟨st.op.binAges.data, st.j⟩ : Sl Int).toList, a ≤ st.op.age - 1
      rw [hag, hinv.age]; exact k4
    · show (⟨st.op.binAges.data, st.j⟩ : Sl Int).toList.getLast? = some 0
      rw [hag]; exact k3
  · show st.op.age - 1 = op.age - 1
    rw [hinv.age]
  · show (⟨st.op.binDividers.data, st.j⟩ : Sl Nat).toList.zip (⟨st.op.binAges.data, st.j⟩ : Sl Int).toList = _
    rw [hbd, hag]; exact k5
  · rfl
  · show st.op.binsToCheck.data = _
    rw [hinv.btc]
  · exact hinv.valData
  · exact hinv.valLen
  · show st.op.spl ≤ op.spl
    rcases hinv.valCase with ⟨c, _⟩ | ⟨_, c, _⟩ <;> omega
  · exact hinv.ordSize
  · show ic.data.size = _
    rw [i3, hinv.inCell]
  · exact hinv.bdSize
  · exact hinv.agSize


theorem deage_loop_inv {n : Nat} {op : OP} {st : DeageSt} (h : PartInv n op)
    (hloop : forRange (deageStep op.age) op.binAges.len 0 { op := op, j := 0, prev1 := 0, prevDiv := 0 } = .ok st) :
    DeageInv op op.binAges.len st := by
  have := forRange_inv (deageStep op.age) (fun i st => DeageInv op i st) op.binAges.len 0 _ st (DeageInv.init op)
    (fun i s s' _ hi hP hs => deageStep_inv h hP (by omega) hs) hloop
  simpa using this

theorem deage_loop_total {n : Nat} {op : OP} (h : PartInv n op) (hv : op.value.WF) :
    ∃ st, forRange (deageStep op.age) op.binAges.len 0 { op := op, j := 0, prev1 := 0, prevDiv := 0 } = .ok st := by
  obtain ⟨r, hr, _⟩ := forRange_total (deageStep op.age) (fun i st => DeageInv op i st) op.binAges.len 0 _ (DeageInv.init op)
    (fun i s _ hi hP => by
      obtain ⟨s', hs'⟩ := deageStep_ok h hP (by omega) hv
      exact ⟨s', hs', deageStep_inv h hP (by omega) hs'⟩)
  exact ⟨r, hr⟩

theorem deage_loop_of_ok {op op' : OP} (hd : deage op = .ok op') :
    ∃ st, forRange (deageStep op.age) op.binAges.len 0 { op := op, j := 0, prev1 := 0, prevDiv := 0 } = .ok st := by
  cases hloop : forRange (deageStep op.age) op.binAges.len 0 { op := op, j := 0, prev1 := 0, prevDiv := 0 } with
  | ok st => exact ⟨st, rfl⟩
  | panic => unfold deage at hd; rw [hloop] at hd; cases hd
  | outOfFuel => unfold deage at hd; rw [hloop] at hd; cases hd

theorem deage_inv {n : Nat} {op op' : OP} (h : PartInv n op) (ha : AgeInv op) (hage : 0 < op.age)
    (hd : deage op = .ok op') :
    PartInv n op' ∧ AgeInv op' ∧ op'.age = op.age - 1 ∧
      divs op' = (divs op).filter (fun x => decide (x.2 ≠ op.age)) ∧
      op'.binsToCheck.len = 0 ∧ op'.binsToCheck.data = op.binsToCheck.data ∧
      op'.value.data = op.value.data ∧ op'.value.len ≤ op.value.len ∧ op'.spl ≤ op.spl ∧
      op'.order.data.size = op.order.data.size ∧ op'.inCell.data.size = op.inCell.data.size ∧
      op'.binDividers.data.size = op.binDividers.data.size ∧ op'.binAges.data.size = op.binAges.data.size := by
  obtain ⟨st, hloop⟩ := deage_loop_of_ok hd
  obtain ⟨op'', hd', hC, _⟩ := deage_of_loop h ha hage hloop (deage_loop_inv h hloop)
  rw [hd] at hd'
  cases hd'
  exact hC

theorem deage_no_panic {n : Nat} {op : OP} (h : PartInv n op) (ha : AgeInv op) (hage : 0 < op.age)
    (hv : op.value.WF) : ∃ op', deage op = .ok op' := by
  obtain ⟨st, hloop⟩ := deage_loop_total h hv
  obtain ⟨op', hd, _⟩ := deage_of_loop h ha hage hloop (deage_loop_inv h hloop)
  exact ⟨op', hd⟩

theorem deage_total {n : Nat} {op : OP} (h : PartInv n op) (ha : AgeInv op) (hage : 0 < op.age) (hv : op.value.WF) :
    ∃ op', deage op = .ok op' ∧ PartInv n op' ∧ AgeInv op' ∧ op'.age = op.age - 1 ∧ op'.value.WF := by
  obtain ⟨op', hd⟩ := deage_no_panic h ha hage hv
  obtain ⟨d1, d2, d3, _, _, _, d7, d8, _⟩ := deage_inv h ha hage hd
  exact ⟨op', hd, d1, d2, d3, by unfold Sl.WF; rw [d7]; exact Nat.le_trans d8 hv⟩

/-- if no bin inside the singleton prefix is merged, `value` and `spl` are untouched; otherwise `spl` drops to the index
`j` of the first merged bin and `value` is cut after its last entry `< (j-1)*j/2` -/
theorem deage_value {n : Nat} {op op' : OP} (h : PartInv n op) (ha : AgeInv op) (hage : 0 < op.age)
    (hd : deage op = .ok op') :
    (op'.spl = op.spl ∧ op'.value.len = op.value.len) ∨
    (op'.spl < op.spl ∧
      (∀ x ∈ (op.value.toList.drop op'.value.len), ((op'.spl - 1) * op'.spl) / 2 ≤ x) ∧
      (op'.value.len = 0 ∨ ∃ x, op.value.toList[op'.value.len - 1]? = some x ∧ x < ((op'.spl - 1) * op'.spl) / 2)) := by
  obtain ⟨st, hloop⟩ := deage_loop_of_ok hd
  have hinv := deage_loop_inv h hloop
  obtain ⟨op'', hd', _, _, e2, e3⟩ := deage_of_loop h ha hage hloop hinv
  rw [hd] at hd'
  cases hd'
  rw [e2, e3]
  rcases hinv.valCase with c | ⟨_, c2, c3, c4⟩
  · exact Or.inl c
  · exact Or.inr ⟨c2, c3, c4⟩

theorem deage_order_prefix {n : Nat} {op op' : OP} (h : PartInv n op) (ha : AgeInv op) (hage : 0 < op.age)
    (hd : deage op = .ok op') (s : Nat) (hkeep : ∀ k d, k < s → (divs op)[k]? ≠ some (d, op.age)) (p : Nat) (hp : p < s) :
    op'.order.toList[p]? = op.order.toList[p]? := by
  obtain ⟨st, hloop⟩ := deage_loop_of_ok hd
  have hinv := deage_loop_inv h hloop
  obtain ⟨op'', hd', _, e1, _, _⟩ := deage_of_loop h ha hage hloop hinv
  rw [hd] at hd'
  cases hd'
  rw [e1, Sl.getElem?_toList, Sl.getElem?_toList, hinv.ordLen, hinv.ordFrame p]
  -- a removed divider has index `k ≥ s`, and bin `k` starts at `k` or later
  intro k d _ hkd
  have hsk : s ≤ k := Nat.le_of_not_lt (fun hlt => hkeep k d hlt hkd)
  have hk0 : k ≠ 0 := fun e => Nat.not_lt_zero p (Nat.lt_of_lt_of_le hp (e ▸ hsk))
  have hk1 : k - 1 < op.binDividers.toList.length :=
    Nat.lt_of_le_of_lt (Nat.sub_le k 1) (List.getElem?_eq_some_iff.1 (divs_getElem?.1 hkd).1).1
  rw [if_neg hk0, List.getD_eq_getElem?_getD, List.getElem?_eq_getElem hk1, Option.getD_some]
  have hge := h.bd_ge (k - 1) _ (List.getElem?_eq_getElem hk1)
  rw [Nat.sub_add_cancel (Nat.pos_of_ne_zero hk0)] at hge
  exact Nat.lt_of_lt_of_le hp (Nat.le_trans hsk hge)

theorem deage_order_perm {n : Nat} {op op' : OP} (h : PartInv n op) (ha : AgeInv op) (hage : 0 < op.age)
    (hd : deage op = .ok op') : op'.order.toList.Perm op.order.toList :=
  (deage_inv h ha hage hd).1.perm.trans h.perm.symm

end CanonF
