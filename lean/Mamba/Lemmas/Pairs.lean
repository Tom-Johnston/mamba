/-!
# The pairs `i < j < n` in DenseGraph order 01 02 12 03 13 23 …

`Construct.pairs` (C06), `GSearch.pairs` (C03/C04) and the codec proofs (C07/C08) enumerate the upper triangle in this
order; the three expressions are this one (`rfl`). This file needs nothing but core; what involves the packed index
`tri j + i` or the abstract graph is in `PairsTri`.
-/
namespace GraphRep

def upperPairs (n : Nat) : List (Nat × Nat) := (List.range n).flatMap fun j => (List.range j).map fun i => (i, j)

theorem upperPairs_succ (n : Nat) : upperPairs (n + 1) = upperPairs n ++ (List.range n).map fun i => (i, n) := by
  simp [upperPairs, List.range_succ, List.flatMap_append]

theorem mem_upperPairs {n : Nat} {p : Nat × Nat} : p ∈ upperPairs n ↔ p.1 < p.2 ∧ p.2 < n := by
  obtain ⟨a, b⟩ := p
  simp only [upperPairs, List.mem_flatMap, List.mem_range, List.mem_map, Prod.mk.injEq]
  constructor
  · rintro ⟨j, hj, i, hi, rfl, rfl⟩; exact ⟨hi, hj⟩
  · rintro ⟨h1, h2⟩; exact ⟨b, h2, a, h1, rfl, rfl⟩

theorem upperPairs_nodup (n : Nat) : (upperPairs n).Nodup := by
  induction n with
  | zero => simp [upperPairs]
  | succ k ih =>
    rw [upperPairs_succ, List.nodup_append]
    refine ⟨ih, ?_, ?_⟩
    · exact List.Pairwise.map _ (fun a b h => by simpa using h) List.nodup_range
    · intro p hp q hq hpq
      subst hpq
      rw [mem_upperPairs] at hp
      simp only [List.mem_map, List.mem_range] at hq
      obtain ⟨i, _, rfl⟩ := hq
      simp at hp

theorem upperPairs_pairwise_snd (n : Nat) : (upperPairs n).Pairwise fun p q => p.2 ≤ q.2 := by
  induction n with
  | zero => simp [upperPairs]
  | succ k ih =>
    rw [upperPairs_succ, List.pairwise_append]
    refine ⟨ih, ?_, ?_⟩
    · rw [List.pairwise_map]; exact List.pairwise_of_forall (by intros; exact Nat.le_refl _)
    · intro a ha b hb
      simp only [List.mem_map, List.mem_range] at hb
      obtain ⟨i, _, rfl⟩ := hb
      exact Nat.le_of_lt (mem_upperPairs.1 ha).2

end GraphRep
