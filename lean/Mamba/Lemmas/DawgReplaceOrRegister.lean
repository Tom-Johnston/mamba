import Mamba.Lemmas.DawgAddSuffix
/-! `replaceOrRegister` on a spine segment, and the test it relies on (`areEquivalent`, `findEquiv`): nodes with the same
content represent the same language. -/
namespace Dawg

/-- what `areEquivalent` compares: the same final flag, labels and link targets (ids and word counts are not looked at) -/
def Equiv (t u : Node) : Prop := t.final = u.final ∧ t.labels = u.labels ∧ t.links = u.links

instance (t u : Node) : Decidable (Equiv t u) := by unfold Equiv; infer_instance

theorem cmpN_eq : ∀ (n : Nat) (a b : List Nat), n ≤ a.length → n ≤ b.length →
    cmpN n a b = .ok (decide (a.take n = b.take n)) := by
  intro n
  induction n with
  | zero => intro a b _ _; simp [cmpN]
  | succ n ih =>
    intro a b ha hb
    cases a with
    | nil => simp at ha
    | cons x a =>
      cases b with
      | nil => simp at hb
      | cons y b =>
        simp only [cmpN, List.take_succ_cons, List.cons.injEq]
        by_cases hxy : x = y
        · subst hxy
          rw [if_neg (by simp), ih a b (by simpa using ha) (by simpa using hb)]
          simp
        · rw [if_pos hxy]; simp [hxy]

theorem areEquivalent_eq (t u : Node) (ht : t.labels.length = t.links.length) (hu : u.labels.length = u.links.length) :
    areEquivalent t u = .ok (decide (Equiv t u)) := by
  unfold areEquivalent Equiv
  by_cases hf : t.final = u.final
  · rw [if_neg (by simpa using hf)]
    by_cases hl : t.links.length = u.links.length
    · rw [if_neg (by simpa using hl)]
      rw [cmpN_eq _ _ _ (Nat.le_of_eq ht.symm) (Nat.le_of_eq (hl.trans hu.symm)),
        List.take_of_length_le (Nat.le_of_eq ht), List.take_of_length_le (Nat.le_of_eq (hu.trans hl.symm))]
      by_cases hlab : t.labels = u.labels
      · simp only [hlab, decide_true]
        rw [cmpN_eq _ _ _ (Nat.le_refl _) (Nat.le_of_eq hl), List.take_length,
          List.take_of_length_le (Nat.le_of_eq hl.symm)]
        simp [hf]
      · simp [hlab]
    · rw [if_pos (by simpa using hl)]
      have : t.links ≠ u.links := fun h => hl (by rw [h])
      simp [this]
  · rw [if_pos (by simpa using hf)]
    simp [hf]

theorem findEquiv_spec (h : Heap) (lc : Node) (hlc : lc.labels.length = lc.links.length) :
    ∀ (reg : List Nat), (∀ u ∈ reg, ∃ un, h[u]? = some un ∧ un.labels.length = un.links.length) →
      (∃ u un, findEquiv h lc reg = .ok (some u) ∧ u ∈ reg ∧ h[u]? = some un ∧ Equiv lc un) ∨
      (findEquiv h lc reg = .ok none ∧ ∀ u ∈ reg, ∀ un, h[u]? = some un → ¬ Equiv lc un) := by
  intro reg
  induction reg with
  | nil => intro _; right; exact ⟨rfl, fun u hu => by cases hu⟩
  | cons u us ih =>
    intro hreg
    obtain ⟨un, hun, hlen⟩ := hreg u List.mem_cons_self
    simp only [findEquiv, getNode_of_some hun, areEquivalent_eq lc un hlc hlen]
    by_cases he : Equiv lc un
    · left
      exact ⟨u, un, by simp [he], List.mem_cons_self, hun, he⟩
    · simp only [he, decide_false]
      rcases ih (fun u' hu' => hreg u' (List.mem_cons_of_mem _ hu')) with ⟨u', un', h1, h2, h3, h4⟩ | ⟨h1, h2⟩
      · left; exact ⟨u', un', h1, List.mem_cons_of_mem _ h2, h3, h4⟩
      · right
        refine ⟨h1, ?_⟩
        intro u' hu' un' hun'
        rw [List.mem_cons] at hu'
        rcases hu' with rfl | hu'
        · rw [hun] at hun'; cases hun'; exact he
        · exact h2 u' hu' un' hun'

theorem accepts_of_equiv {h : Heap} {p q : Nat} {n m : Node} (hp : h[p]? = some n) (hq : h[q]? = some m)
    (he : Equiv n m) (w : Word) : accepts h p w ↔ accepts h q w := by
  obtain ⟨h1, h2, h3⟩ := he
  cases w with
  | nil =>
    simp only [accepts]
    constructor
    · rintro ⟨n', hn', hf⟩; rw [hp] at hn'; cases hn'; exact ⟨m, hq, by rw [← h1]; exact hf⟩
    · rintro ⟨n', hn', hf⟩; rw [hq] at hn'; cases hn'; exact ⟨n, hp, by rw [h1]; exact hf⟩
  | cons c w =>
    simp only [accepts]
    constructor
    · rintro ⟨n', j, r, hn', hfl, hr, hacc⟩
      rw [hp] at hn'; cases hn'
      exact ⟨m, j, r, hq, by rw [← h2]; exact hfl, by rw [← h3]; exact hr, hacc⟩
    · rintro ⟨n', j, r, hn', hfl, hr, hacc⟩
      rw [hq] at hn'; cases hn'
      exact ⟨n, j, r, hp, by rw [h2]; exact hfl, by rw [h3]; exact hr, hacc⟩

theorem NodeRep.toRep {h : Heap} {R : List Nat} {p : Nat} {L : List Word} {n : Node} (hn : NodeRep h R p L 0 n) :
    Rep h p L :=
  Rep.mk hn.get hn.sorted hn.fin (by simpa using hn.num) hn.labs hn.lens hn.mem
    (fun j c q hj hq => (hn.kids j c q hj hq).2)

theorem Rep.eq_of_accepts {h : Heap} {p q : Nat} {A B : List Word} (hA : Rep h p A) (hB : Rep h q B)
    (hsame : ∀ w, accepts h p w ↔ accepts h q w) : A = B :=
  hA.sorted.eq_of_mem_iff_of_asymm (fun _ _ => word_lt_asymm) hB.sorted fun w => by
    rw [← hA.accepts_iff, ← hB.accepts_iff, hsame w]

theorem Rep.eq_of_equiv {h : Heap} {p q : Nat} {n m : Node} {A B : List Word} (hp : h[p]? = some n)
    (hq : h[q]? = some m) (he : Equiv n m) (hA : Rep h p A) (hB : Rep h q B) : A = B :=
  hA.eq_of_accepts hB (accepts_of_equiv hp hq he)

theorem Rep.lens {h : Heap} {p : Nat} {L : List Word} (hr : Rep h p L) :
    ∃ n, h[p]? = some n ∧ n.labels.length = n.links.length := by
  cases hr with
  | mk hn hs hf hnum hlab hlen hmem hkids => exact ⟨_, hn, hlen⟩

/-- the part of `replaceOrRegister` after the recursive call -/
def rorCont (t lc : Nat) (r : Outcome (Heap × List Nat)) : Outcome (Heap × List Nat) :=
  match r with
  | .ok (h1, reg1) =>
    match getNode h1 lc with
    | .ok lcn =>
      match findEquiv h1 lcn reg1 with
      | .ok (some u) =>
        match getNode h1 t with
        | .ok tn1 => .ok (h1.setIfInBounds t { tn1 with links := tn1.links.dropLast ++ [u] }, reg1)
        | .panic => .panic
        | .outOfFuel => .outOfFuel
      | .ok none => .ok (h1, reg1 ++ [lc])
      | .panic => .panic
      | .outOfFuel => .outOfFuel
    | .panic => .panic
    | .outOfFuel => .outOfFuel
  | .panic => .panic
  | .outOfFuel => .outOfFuel

theorem replaceOrRegister_succ (fuel : Nat) (h : Heap) (t : Nat) (register : List Nat) (tn lcn0 : Node) (lc : Nat)
    (ht : h[t]? = some tn) (hl : tn.links.getLast? = some lc) (hlc : h[lc]? = some lcn0) :
    replaceOrRegister (fuel + 1) h t register =
      rorCont t lc (if lcn0.links.length ≠ 0 then replaceOrRegister fuel h lc register else .ok (h, register)) := by
  simp only [replaceOrRegister, getNode_of_some ht, hl, getNode_of_some hlc, rorCont]
  rfl

theorem rorCont_spec (h1 : Heap) (R1 : List Nat) (t s c k : Nat) (L : List Word) (tn sn : Node) (ls qs : List Nat)
    (htn : h1[t]? = some tn) (htR : t ∉ R1) (hts : t ≠ s) (hs0 : s ≠ 0)
    (hsort : L.Pairwise (· < ·)) (hfin : tn.final = true ↔ [] ∈ L) (hnum : tn.numWords = L.length + dlt k)
    (hlab : tn.labels.Pairwise (· < ·)) (hlabs : tn.labels = ls ++ [c]) (hlinks : tn.links = qs ++ [s])
    (hlen : ls.length = qs.length) (hmem : ∀ c', c' ∈ tn.labels ↔ sub L c' ≠ [])
    (hkids : ∀ (j c' q : Nat), ls[j]? = some c' → qs[j]? = some q → q ∈ R1 ∧ Rep h1 q (sub L c'))
    (hsn : NodeRep h1 R1 s (sub L c) 0 sn) (hne : sub L c ≠ []) (hreg : RegOK h1 R1) :
    ∃ h2 R2 n2, rorCont t s (.ok (h1, R1)) = .ok (h2, R2) ∧ NodeRep h2 R2 t L (dlt k) n2 ∧ RegOK h2 R2 ∧
      h2.size = h1.size ∧ (∀ i, i ≠ t → h2[i]? = h1[i]?) ∧ (∀ u ∈ R1, u ∈ R2) ∧ (∀ u ∈ R2, u ∈ R1 ∨ u = s) ∧
      (∃ n2', h2[t]? = some n2' ∧ n2'.id = tn.id) := by
  have htlt : t < h1.size := lt_size_of_get htn
  have hregl : ∀ u ∈ R1, ∃ un, h1[u]? = some un ∧ un.labels.length = un.links.length := by
    intro u hu
    obtain ⟨Lu, hLu, _⟩ := hreg.rep u hu
    exact hLu.lens
  simp only [rorCont, getNode_of_some hsn.get]
  rcases findEquiv_spec h1 sn hsn.lens R1 hregl with ⟨u, un, hfe, huR, hun, heq⟩ | ⟨hfe, hnone⟩
  · -- replace the last child by the registered equivalent node `u`
    rw [hfe]
    simp only [getNode_of_some htn]
    obtain ⟨Lu, hLu, _⟩ := hreg.rep u huR
    have hLu' : Lu = sub L c := (Rep.eq_of_equiv hsn.get hun heq hsn.toRep hLu).symm
    subst hLu'
    have hdrop : tn.links.dropLast = qs := by rw [hlinks, List.dropLast_concat]
    let n2 : Node := { tn with links := qs ++ [u] }
    have hag : AgreeOn h1 (h1.setIfInBounds t n2) R1 := AgreeOn.set htR n2
    refine ⟨h1.setIfInBounds t n2, R1, n2, by rw [hdrop], ?_, hreg.frame hag, Array.size_setIfInBounds, ?_, fun x hx => hx,
      fun x hx => Or.inl hx, ⟨n2, Array.getElem?_setIfInBounds_self_of_lt htlt, rfl⟩⟩
    · refine ⟨Array.getElem?_setIfInBounds_self_of_lt htlt, htR, hsort, hfin, hnum, hlab, ?_, hmem, ?_⟩
      · show tn.labels.length = (qs ++ [u]).length
        rw [hlabs, List.length_append, List.length_append, hlen]
        rfl
      · rw [hlabs]
        exact kids_snoc hlen (kids_frame hreg hag (fun _ hu => hu) hkids) ⟨huR, hLu.frame hreg.closed hag huR⟩
    · intro i hi
      rw [Array.getElem?_setIfInBounds_ne (Ne.symm hi)]
  · -- register `s`
    rw [hfe]
    have hsR : s ∉ R1 := hsn.notReg
    refine ⟨h1, R1 ++ [s], tn, rfl, ?_, ?_, rfl, fun _ _ => rfl, fun x hx => List.mem_append_left _ hx, ?_, ⟨tn, htn, rfl⟩⟩
    · refine ⟨htn, ?_, hsort, hfin, hnum, hlab, ?_, hmem, ?_⟩
      · rw [List.mem_append, List.mem_singleton]
        rintro (h3 | h3)
        · exact htR h3
        · exact hts h3
      · rw [hlabs, hlinks, List.length_append, List.length_append, hlen]
        rfl
      · rw [hlabs, hlinks]
        exact kids_snoc hlen (fun j c' q hj hq => ⟨List.mem_append_left _ (hkids j c' q hj hq).1, (hkids j c' q hj hq).2⟩)
          ⟨List.mem_append_right _ (List.mem_singleton.2 rfl), hsn.toRep⟩
    · refine ⟨?_, ?_, ?_, ?_⟩
      · intro x hx
        rw [List.mem_append, List.mem_singleton] at hx
        rcases hx with hx | rfl
        · exact hreg.rep x hx
        · exact ⟨_, hsn.toRep, hne⟩
      · intro x hx n hn q hq
        rw [List.mem_append, List.mem_singleton] at hx
        rcases hx with hx | rfl
        · exact List.mem_append_left _ (hreg.closed x hx n hn q hq)
        · rw [hsn.get] at hn; cases hn
          exact List.mem_append_left _ (hsn.links_mem q hq)
      · intro x hx y hy nx ny hnx hny h3 h4 h5
        rw [List.mem_append, List.mem_singleton] at hx hy
        rcases hx with hx | rfl
        · rcases hy with hy | rfl
          · exact hreg.distinct x hx y hy nx ny hnx hny h3 h4 h5
          · rw [hsn.get] at hny; cases hny
            exact absurd ⟨h3.symm, h4.symm, h5.symm⟩ (hnone x hx nx hnx)
        · rcases hy with hy | rfl
          · rw [hsn.get] at hnx; cases hnx
            exact absurd ⟨h3, h4, h5⟩ (hnone y hy ny hny)
          · rfl
      · rw [List.mem_append, List.mem_singleton]
        rintro (h3 | h3)
        · exact hreg.nz h3
        · exact hs0 h3.symm
    · intro x hx
      rw [List.mem_append, List.mem_singleton] at hx
      exact hx

/-- What `Add` and `Finish` do below the node `t` that heads a complete spine (`replaceOrRegister` if `t` has links,
nothing otherwise): afterwards `t` is an unregistered node with registered children only; only spine nodes were
touched, only spine nodes below `t` were registered. -/
theorem minimise_spec {h : Heap} {R : List Nat} (hreg : RegOK h R) :
    ∀ (sp : List Nat) (fuel k t : Nat) (v : Word) (L : List Word),
      k ≤ 1 → Spine h R k (t :: sp) v L [[]] → (t :: sp).Nodup → sp.length ≤ fuel →
      ∃ h2 R2 n2 tn, h[t]? = some tn ∧
        (if tn.links.length ≠ 0 then replaceOrRegister fuel h t R else .ok (h, R)) = .ok (h2, R2) ∧
        NodeRep h2 R2 t L (dlt k) n2 ∧ RegOK h2 R2 ∧ h2.size = h.size ∧ (∀ i, i ∉ t :: sp → h2[i]? = h[i]?) ∧
        (∀ u ∈ R, u ∈ R2) ∧ (∀ u ∈ R2, u ∈ R ∨ u ∈ sp) ∧ (HeapIds h → HeapIds h2) := by
  intro sp
  induction sp with
  | nil =>
    intro fuel k t v L _ hsp _ _
    cases hsp with
    | @last _ _ _ tn htn =>
      refine ⟨h, R, tn, tn, htn.get, ?_, htn, hreg, rfl, fun _ _ => rfl, fun u hu => hu, fun u hu => Or.inl hu,
        fun hi => hi⟩
      rw [(htn.leaf fun _ => rfl).2]
      rfl
  | cons s sp ih =>
    intro fuel k t v L hk hsp hnd hfuel
    obtain ⟨f, rfl⟩ : ∃ f, fuel = f + 1 := 
      ⟨fuel - 1, (Nat.sub_add_cancel (Nat.le_trans (Nat.succ_le_succ (Nat.zero_le _)) hfuel)).symm⟩
    cases hsp with
    | @node _ _ _ c _ _ _ _ tn ls qs htn htR hs0 hsort hfin hnum hlab hlabs hlinks hlen hmem hkids hsub =>
      have hk0 : k - 1 = 0 := Nat.sub_eq_zero_of_le hk
      rw [hk0] at hsub
      have hvalid := hsub.valid
      rw [List.nodup_cons] at hnd
      obtain ⟨h1, R1, sn1, sn0, hsn0, hres1, hsn1, hreg1, hsz1, hfr1, hsub1, hsup1, hids1⟩ :=
        ih f 0 s _ _ (Nat.zero_le _) hsub hnd.2 (Nat.le_of_succ_le_succ hfuel)
      have htR1 : t ∉ R1 := fun hmem =>
        (hsup1 t hmem).elim htR (fun h3 => hnd.1 (List.mem_cons_of_mem _ h3))
      obtain ⟨h2, R2, n2, hres2, hn2, hreg2, hsz2, hfr2, hsub2, hsup2, n2', hn2', hid2⟩ :=
        rorCont_spec h1 R1 t s c k L tn sn1 ls qs (by rw [hfr1 t hnd.1]; exact htn) htR1
          (fun h1 => hnd.1 (h1 ▸ List.mem_cons_self)) hs0 hsort hfin hnum hlab hlabs hlinks hlen hmem
          (kids_frame hreg (fun u hu => hfr1 u (fun hmem => (hvalid u hmem).2 hu)) hsub1 hkids) hsn1
          (List.ne_nil_of_mem hsub.word_mem) hreg1
      refine ⟨h2, R2, n2, tn, htn, ?_, hn2, hreg2, by rw [hsz2, hsz1], ?_, fun u hu => hsub2 u (hsub1 u hu), ?_, ?_⟩
      · rw [if_pos (by rw [hlinks, List.length_append]; exact Nat.succ_ne_zero _),
          replaceOrRegister_succ f h t R tn sn0 s htn (by rw [hlinks, List.getLast?_concat]) hsn0, hres1]
        exact hres2
      · intro i hi
        rw [List.mem_cons, not_or] at hi
        rw [hfr2 i hi.1, hfr1 i hi.2]
      · intro u hu
        rcases hsup2 u hu with h3 | h3
        · exact (hsup1 u h3).imp_right (List.mem_cons_of_mem _)
        · exact Or.inr (h3 ▸ List.mem_cons_self)
      · intro hids i n' hn'
        by_cases hit : i = t
        · subst hit
          rw [hn2'] at hn'; cases hn'
          rw [hid2]; exact hids i tn htn
        · rw [hfr2 i hit] at hn'
          exact hids1 hids i n' hn'

end Dawg
