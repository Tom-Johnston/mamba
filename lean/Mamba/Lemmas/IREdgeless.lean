import Mamba.Lemmas.IRPass
import Mamba.Lemmas.IRIso
/-!
# Graphs without edges: every bijective colouring is a leaf of the unpruned tree

With no edges every count `cnt g c i v` is `0`, so a refinement pass on a tight colouring changes neither the colouring
nor the number of cells (`pass_edgeless`, from `pass_char`), hence neither does `refine` (`refine_edgeless`, any fuel).
For a bijection `π` of `0..n-1` the path that individualises `π⁻¹ 0`, `π⁻¹ 1`, … passes through the colourings
`v ↦ if π v < k then π v else k` (`lvl π k`) and ends in `tab n π` (`edgeless_leaves`, `edgeless_perm_leaf`);
`edgeless_identity_leaf` is the case `π = id`.
-/
namespace IR

theorem edgeless_wf {g : G} (hE : ∀ v, g.nbrs v = []) : WF g := by
  refine ⟨fun v _ w hw => ?_, fun v _ => ?_, fun u v _ _ h => ?_, fun v _ h => ?_⟩
  · rw [hE v] at hw; cases hw
  · rw [hE v]; exact List.nodup_nil
  · rw [hE u] at h; cases h
  · rw [hE v] at h; cases h

theorem edgeless_cnt {g : G} (hE : ∀ v, g.nbrs v = []) (c : Array Nat) (i v : Nat) : cnt g c i v = 0 := by
  unfold cnt
  rw [hE v]
  rfl

theorem pass_edgeless {g : G} (hE : ∀ v, g.nbrs v = []) (s : St) (f : Nat → Nat) (hc : s.c = tab g.n f)
    (hlt : ∀ v, v < g.n → f v < s.cells) (honto : ∀ x, x < s.cells → ∃ v, v < g.n ∧ f v = x)
    (i : Nat) (rest : List Nat) (hrest : ∀ x ∈ rest, x < s.cells) :
    (pass g s i rest).c = tab g.n f ∧ (pass g s i rest).cells = s.cells ∧
      ∀ x ∈ (pass g s i rest).work, x < s.cells := by
  have hg := edgeless_wf hE
  have hcol : ∀ v, v < g.n → col s.c v = f v := fun v hv => by rw [hc, col_tab _ hv]
  have hA : InvA g s := fun v hv => by rw [hcol v hv]; exact hlt v hv
  have hne : ∀ x, x < s.cells → ∃ v, v < g.n ∧ col s.c v = x := by
    intro x hx
    obtain ⟨v, hv, e⟩ := honto x hx
    exact ⟨v, hv, by rw [hcol v hv, e]⟩
  obtain ⟨h1, h2, _, h4⟩ := pass_char hg s hA i rest hrest hne f s.cells (fun x => x ∈ rest) hlt honto
    (by
      intro u v hu hv
      rw [hcol u hu, hcol v hv, edgeless_cnt hE, edgeless_cnt hE]
      omega)
    (by
      intro v hv
      rw [hcol v hv]
      constructor
      · intro h
        exact Or.inl ⟨h, fun u _ _ => by rw [edgeless_cnt hE, edgeless_cnt hE]⟩
      · rintro (⟨h, _⟩ | ⟨u, _, _, h⟩)
        · exact h
        · rw [edgeless_cnt hE, edgeless_cnt hE] at h; exact absurd rfl h)
  exact ⟨h1, h2, fun x hx => ((h4 x).1 hx).1⟩

theorem popMax_sub {w : List Nat} {i : Nat} {rest : List Nat} (h : popMax w = some (i, rest)) :
    ∀ y ∈ rest, y ∈ w := by
  cases w with
  | nil => simp [popMax] at h
  | cons x xs =>
    simp only [popMax, Option.some.injEq, Prod.mk.injEq] at h
    obtain ⟨_, rfl⟩ := h
    intro y hy
    exact List.mem_of_mem_erase hy

theorem refine_edgeless {g : G} (hE : ∀ v, g.nbrs v = []) (f : Nat → Nat) (rf : Nat) (s : St)
    (hc : s.c = tab g.n f) (hlt : ∀ v, v < g.n → f v < s.cells) (honto : ∀ x, x < s.cells → ∃ v, v < g.n ∧ f v = x)
    (hw : ∀ x ∈ s.work, x < s.cells) :
    (refine g rf s).c = tab g.n f ∧ (refine g rf s).cells = s.cells := by
  have h := refine_induction (g := g)
    (P := fun s' => s'.c = tab g.n f ∧ s'.cells = s.cells ∧ ∀ x ∈ s'.work, x < s.cells)
    (by
      rintro s' i rest hp ⟨h1, h2, h3⟩
      have := pass_edgeless hE s' f h1 (h2 ▸ hlt) (h2 ▸ honto) i rest
        (fun x hx => h2 ▸ h3 x (popMax_sub hp x hx))
      rwa [h2] at this)
    rf s ⟨hc, rfl, hw⟩
  exact ⟨h.1, h.2.1⟩

def lvl (π : Nat → Nat) (k : Nat) (v : Nat) : Nat := if π v < k then π v else k

theorem lvl_of_le {π : Nat → Nat} {k v : Nat} (h : π v ≤ k) : lvl π k v = π v := by
  unfold lvl; split_ifs <;> omega

theorem lvl_le (π : Nat → Nat) (k v : Nat) : lvl π k v ≤ k := by
  unfold lvl; split_ifs <;> omega

theorem lvl_of_ge {π : Nat → Nat} {k v : Nat} (h : k ≤ π v) : lvl π k v = k :=
  if_neg (Nat.not_lt.2 h)

theorem lvl_eq_iff {π : Nat → Nat} {k v j : Nat} (hj : j < k) : lvl π k v = j ↔ π v = j := by
  unfold lvl; split_ifs <;> omega

section
variable {n : Nat} {π : Nat → Nat} (hlt : ∀ v, v < n → π v < n) (hinj : ∀ u v, u < n → v < n → π u = π v → u = v)
include hlt hinj

theorem lvl_onto {k x : Nat} (hk : k < n) (hx : x < k + 1) : ∃ v, v < n ∧ lvl π k v = x := by
  obtain ⟨v, hv, rfl⟩ := inj_surj hlt hinj (x := x) (Nat.lt_of_lt_of_le hx hk)
  exact ⟨v, hv, lvl_of_le (Nat.le_of_lt_succ hx)⟩

omit hinj in
theorem tab_lvl_last {k : Nat} (hk : n ≤ k + 1) : tab n (lvl π k) = tab n π :=
  tab_congr fun v hv => lvl_of_le (Nat.le_of_lt_succ (Nat.lt_of_lt_of_le (hlt v hv) hk))

end

section
variable {g : G} {π : Nat → Nat} (hlt : ∀ v, v < g.n → π v < g.n)
  (hinj : ∀ u v, u < g.n → v < g.n → π u = π v → u = v) {s : St} {k : Nat}
  (hcol : ∀ v, v < g.n → col s.c v = lvl π k v)
include hlt hinj hcol

theorem lvl_target_none (hk : g.n ≤ k + 1) : target g s = none := by
  apply target_none_of_inj
  intro u w hu hw e
  rw [hcol u hu, hcol w hw, lvl_of_le (Nat.le_of_lt_succ (Nat.lt_of_lt_of_le (hlt u hu) hk)),
    lvl_of_le (Nat.le_of_lt_succ (Nat.lt_of_lt_of_le (hlt w hw) hk))] at e
  exact hinj u w hu hw e

/-- the target cell is `k`: the cell `j < k` holds the vertex `π⁻¹ j` only -/
theorem lvl_target_some (hk : k + 1 < g.n) (hcells : s.cells = k + 1) {a : Nat} (ha : a < g.n) (hak : π a = k) :
    target g s = some k ∧ a ∈ cellMembers g s.c k := by
  obtain ⟨b, hb, hbk⟩ := inj_surj hlt hinj (x := k + 1) hk
  have hmem : a ∈ cellMembers g s.c k := mem_cellMembers.2 ⟨ha, by rw [hcol a ha, lvl_of_ge (Nat.le_of_eq hak.symm)]⟩
  refine ⟨target_eq_some_iff.2 ⟨by rw [hcells]; exact Nat.lt_succ_self k, cell_len_gt_one_iff.2 ⟨a, b, ha, hb,
    fun e => Nat.succ_ne_self k (hbk.symm.trans (e ▸ hak)),
    (mem_cellMembers.1 hmem).2, by rw [hcol b hb, lvl_of_ge (by rw [hbk]; exact Nat.le_succ k)]⟩, fun j hj => Nat.le_of_not_lt fun hp => ?_⟩, hmem⟩
  obtain ⟨u, w, hu, hw, hne, hut, hwt⟩ := cell_len_gt_one_iff.1 hp
  rw [hcol u hu, lvl_eq_iff hj] at hut
  rw [hcol w hw, lvl_eq_iff hj] at hwt
  exact hne (hinj u w hu hw (by rw [hut, hwt]))

omit hlt in
theorem lvl_individualise {a : Nat} (ha : a < g.n) (hak : π a = k) :
    (individualise g s k a).c = tab g.n (lvl π (k + 1)) := by
  show tab g.n _ = _
  apply tab_congr
  intro u hu
  rw [hcol u hu]
  by_cases hua : u = a
  · rw [if_pos hua, hua, lvl_of_le (by rw [hak]; exact Nat.le_succ k), hak]
  · rw [if_neg hua]
    rcases Nat.lt_or_gt_of_ne (fun e => hua (hinj u a hu ha (by rw [e, hak])) : π u ≠ k) with h | h
    · rw [lvl_of_le (Nat.le_of_lt h), lvl_of_le (Nat.le_succ_of_le (Nat.le_of_lt h)),
        if_neg (Nat.lt_asymm h), if_neg (Nat.ne_of_lt h)]
    · rw [lvl_of_ge (Nat.le_of_lt h), lvl_of_ge h, if_neg (Nat.lt_irrefl k), if_pos rfl]

end

theorem edgeless_leaves {g : G} (hE : ∀ v, g.nbrs v = []) (π : Nat → Nat) (hlt : ∀ v, v < g.n → π v < g.n)
    (hinj : ∀ u v, u < g.n → v < g.n → π u = π v → u = v) (rf : Nat) : ∀ (fuel k : Nat) (s : St),
    k < g.n → g.n ≤ k + 1 + fuel → s.c = tab g.n (lvl π k) → s.cells = k + 1 →
    tab g.n π ∈ leaves g rf fuel s := by
  intro fuel
  induction fuel with
  | zero =>
    intro k s hk hn hc _
    rw [leaves, hc, tab_lvl_last hlt hn]
    exact List.mem_singleton_self _
  | succ fuel ih =>
    intro k s hk hn hc hcells
    have hcol : ∀ v, v < g.n → col s.c v = lvl π k v := fun v hv => by rw [hc, col_tab _ hv]
    rw [leaves]
    by_cases hlast : k + 1 = g.n
    · rw [lvl_target_none hlt hinj hcol (Nat.le_of_eq hlast.symm), hc, tab_lvl_last hlt (Nat.le_of_eq hlast.symm)]
      exact List.mem_singleton_self _
    · have hk1 : k + 1 < g.n := Nat.lt_of_le_of_ne hk hlast
      obtain ⟨a, ha, hak⟩ := inj_surj hlt hinj hk
      obtain ⟨ht, hmem⟩ := lvl_target_some hlt hinj hcol hk1 hcells ha hak
      rw [ht]
      refine List.mem_flatMap.2 ⟨a, hmem, ?_⟩
      obtain ⟨r1, r2⟩ := refine_edgeless hE (lvl π (k + 1)) rf (individualise g s k a)
        (lvl_individualise hinj hcol ha hak)
        (fun v _ => by show _ < s.cells + 1; rw [hcells]; exact Nat.lt_succ_of_le (lvl_le π (k + 1) v))
        (fun x hx => lvl_onto hlt hinj hk1 (by rw [← hcells]; exact hx))
        (fun x (hx : x ∈ [k, k + 1]) => by
          show _ < s.cells + 1
          simp only [List.mem_cons, List.not_mem_nil, or_false] at hx
          omega)
      exact ih (k + 1) _ hk1 (by rw [Nat.add_assoc, Nat.add_comm 1 fuel]; exact hn) r1
        (by rw [r2]; show s.cells + 1 = _; rw [hcells])

theorem edgeless_perm_leaf (g : G) (hn : 0 < g.n) (hE : ∀ v, g.nbrs v = []) (π : Nat → Nat)
    (hlt : ∀ v, v < g.n → π v < g.n) (hinj : ∀ u v, u < g.n → v < g.n → π u = π v → u = v) :
    tab g.n π ∈ allLeaves g (init g) := by
  unfold allLeaves
  have hc : (init g).c = tab g.n (lvl π 0) :=
    tab_congr fun v _ => (lvl_of_ge (Nat.zero_le _)).symm
  obtain ⟨r1, r2⟩ := refine_edgeless hE (lvl π 0) (rfuel g) (init g) hc
    (fun v _ => by rw [lvl_of_ge (Nat.zero_le _)]; exact Nat.zero_lt_one)
    (fun x hx => lvl_onto hlt hinj hn hx)
    (fun x (hx : x ∈ List.range 1) => List.mem_range.1 hx)
  exact edgeless_leaves hE π hlt hinj (rfuel g) g.n 0 _ hn (Nat.le_add_left _ _) r1 r2

theorem edgeless_identity_leaf (g : G) (hn : 0 < g.n) (hE : ∀ v, g.nbrs v = []) :
    tab g.n (fun v => v) ∈ allLeaves g (init g) :=
  edgeless_perm_leaf g hn hE (fun v => v) (fun _ h => h) (fun _ _ _ _ h => h)

theorem cert_edgeless (g : G) (hE : ∀ v, g.nbrs v = []) (c : Array Nat) : cert g c = [] := by
  have : codes g c = [] := by
    unfold codes
    apply List.flatMap_eq_nil_iff.2
    intro u _
    rw [hE u]; rfl
  unfold cert
  rw [this]; simp

end IR
