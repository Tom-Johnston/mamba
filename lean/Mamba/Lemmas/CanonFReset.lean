import Mamba.Lemmas.CanonFInv
/-!
# `NewOrderedPartition` and `(*CanonicalOrderedPartition).Reset` of `Model/CanonF.lean`

What `classLoop` writes into `order` and `binDividers` is a `Sl.writeList` of a list (the classes, each sorted by
`sortNat`, concatenated, resp. the running sums of their lengths), so successive writes compose by
`Sl.writeList_append`; `inCell` is described entry by entry. `InitSpec n vc op` is the observable initial state (`ordL`,
`bdL` = vertex order / dividers determined by the classes; `binsToCheck` is `[0, …, len(binDividers) - 1]`). Both
functions are one of two loops (`identLoop_init`, `classLoop_init`: they leave an `InitCore`) followed by one of two
tails (`InitSpec.new`: fresh zero arrays; `InitSpec.reset`: the old arrays re-sliced); `new_spec`, `reset_spec` put them
together; `InitSpec.partInv` derives `PartInv`, `AgeInv`. The interface theorems are `newOrderedPartition_inv`,
`reset_eq_new`, `reset_inv`, `reset_panics_small_n/m`.
-/
namespace CanonF

/-- valid vertex classes: `none` (Go nil), or non-empty classes whose concatenation is a permutation of `0..n-1` -/
def ClassesOK (n : Nat) : Classes → Prop
  | none => True
  | some cls => cls.flatten.Perm (List.range n) ∧ ∀ c ∈ cls, c ≠ []

def psums (off : Nat) : List Nat → List Nat
  | [] => []
  | x :: xs => (off + x) :: psums (off + x) xs

theorem scanl_tail_eq_psums (l : List Nat) (off : Nat) : (l.scanl (· + ·) off).tail = psums off l := by
  induction l generalizing off with
  | nil => simp [psums]
  | cons x xs ih =>
    have := ih (off + x)
    cases hs : List.scanl (· + ·) (off + x) xs with
    | nil => cases xs <;> simp [List.scanl_cons] at hs
    | cons y ys =>
      have hy : y = off + x := by cases xs <;> simp [List.scanl_cons] at hs <;> omega
      rw [hs] at this
      simp only [List.scanl_cons, List.tail_cons, psums, hs]
      simp only [List.tail_cons] at this
      rw [← this, hy]

@[simp] theorem length_psums (off : Nat) (l : List Nat) : (psums off l).length = l.length := by
  induction l generalizing off with
  | nil => rfl
  | cons x xs ih => simp [psums, ih]

theorem psums_ge (off : Nat) (l : List Nat) : ∀ d ∈ psums off l, off ≤ d := by
  induction l generalizing off with
  | nil => simp [psums]
  | cons x xs ih =>
    intro d hd
    simp only [psums, List.mem_cons] at hd
    rcases hd with rfl | hd
    · omega
    · have := ih _ d hd; omega

theorem psums_sorted (off : Nat) (l : List Nat) (hp : ∀ x ∈ l, 0 < x) : (off :: psums off l).Pairwise (· < ·) := by
  induction l generalizing off with
  | nil => simp [psums]
  | cons x xs ih =>
    have hx : 0 < x := hp x (List.mem_cons_self ..)
    have h1 := ih (off + x) (fun y hy => hp y (List.mem_cons_of_mem _ hy))
    rw [psums, List.pairwise_cons]
    refine ⟨?_, h1⟩
    intro a ha
    rcases List.mem_cons.1 ha with rfl | ha
    · omega
    · have := psums_ge _ _ a ha; omega

theorem psums_getLast? (off : Nat) (l : List Nat) (hne : l ≠ []) : (psums off l).getLast? = some (off + l.sum) := by
  induction l generalizing off with
  | nil => exact absurd rfl hne
  | cons x xs ih =>
    cases xs with
    | nil => simp [psums]
    | cons y ys =>
      have := ih (off + x) (by simp)
      rw [psums, psums, List.getLast?_cons_cons, ← psums, this]
      simp [Nat.add_assoc]

theorem classInner_spec (i : Nat) : ∀ (c : List Nat) (order inCell : Sl Nat) (index : Nat),
    order.WF → inCell.WF → index + c.length ≤ order.len → (∀ v ∈ c, v < inCell.len) →
    ∃ ic', forList (classLoopInner i) c (order, inCell, index) =
        .ok (⟨Sl.writeList order.data index c, order.len⟩, ic', index + c.length) ∧
      ic'.len = inCell.len ∧ ic'.data.size = inCell.data.size ∧
      (∀ v, ic'.data[v]? = if v ∈ c then some i else inCell.data[v]?) := by
  intro c
  induction c with
  | nil =>
    intro order inCell index _ _ _ _
    exact ⟨inCell, rfl, rfl, rfl, fun v => by simp⟩
  | cons x xs ih =>
    intro order inCell index hwo hwi hlen hv
    rw [List.length_cons] at hlen
    have hs1 := Sl.set_ok_of_lt hwo (show index < order.len by omega) x
    have hs2 := Sl.set_ok_of_lt hwi (hv x (List.mem_cons_self ..)) i
    obtain ⟨ic', hr, l2, z2, d2⟩ := ih ⟨order.data.setIfInBounds index x, order.len⟩
      ⟨inCell.data.setIfInBounds x i, inCell.len⟩ (index + 1) (Sl.set_wf hwo hs1) (Sl.set_wf hwi hs2)
      (by show index + 1 + xs.length ≤ order.len; omega) (fun v hv' => hv v (List.mem_cons_of_mem _ hv'))
    refine ⟨ic', ?_, l2, by rw [z2, Array.size_setIfInBounds], fun v => ?_⟩
    · rw [forList]
      simp only [classLoopInner, hs1, hs2]
      rw [hr, List.length_cons, Nat.add_assoc, Nat.add_comm 1]
      rfl
    · rw [d2, Sl.set_data hs2]
      by_cases h1 : v ∈ xs
      · simp [h1]
      · by_cases h2 : v = x
        · simp [h2]
        · simp [h1, h2]

theorem flatten_sorted_perm (cs : List (List Nat)) : (cs.map sortNat).flatten.Perm cs.flatten := by
  induction cs with
  | nil => simp
  | cons c cs ih => simp only [List.map_cons, List.flatten_cons]; exact (sortNat_perm c).append ih

theorem length_flatten_sorted (cs : List (List Nat)) : (cs.map sortNat).flatten.length = cs.flatten.length :=
  (flatten_sorted_perm cs).length_eq

theorem classLoop_spec (n : Nat) : ∀ (cs : List (List Nat)) (i index : Nat) (order inCell bd : Sl Nat),
    order.WF → inCell.WF → bd.WF → order.len = n → inCell.len = n → index + cs.flatten.length ≤ n →
    (∀ v ∈ cs.flatten, v < n) → cs.flatten.Nodup → i + cs.length ≤ bd.len →
    ∃ ic', classLoop cs i (order, inCell, bd, index) =
        .ok (⟨Sl.writeList order.data index (cs.map sortNat).flatten, n⟩, ic',
          ⟨Sl.writeList bd.data i (psums index (cs.map List.length)), bd.len⟩, index + cs.flatten.length) ∧
      ic'.len = n ∧ ic'.data.size = inCell.data.size ∧
      (∀ v, v ∉ cs.flatten → ic'.data[v]? = inCell.data[v]?) ∧
      (∀ q v, (cs.map sortNat).flatten[q]? = some v →
        ic'.data[v]? = some (i + binIdx (psums index (cs.map List.length)) (index + q))) := by
  intro cs
  induction cs with
  | nil =>
    intro i index order inCell bd _ _ _ ho hi _ _ _ _
    subst ho
    exact ⟨inCell, rfl, hi, rfl, fun v _ => rfl, fun q v h => by simp at h⟩
  | cons c cs ih =>
    intro i index order inCell bd hwo hwi hwb ho hi hlen hv hnd hbl
    simp only [List.flatten_cons, List.length_append] at hlen
    simp only [List.flatten_cons] at hv hnd
    rw [List.nodup_append] at hnd
    obtain ⟨_, hnd2, hdisj⟩ := hnd
    simp only [List.length_cons] at hbl
    have hwo0 : order.len ≤ order.data.size := hwo
    obtain ⟨ic1, hr1, l2, z2, d2⟩ := classInner_spec i c order inCell index hwo hwi (by omega)
      (fun v hv' => by rw [hi]; exact hv v (List.mem_append_left _ hv'))
    have hlc : (sortNat c).length = c.length := length_sortNat c
    -- the sort reads back the class just written
    have hsort : (⟨Sl.writeList order.data index c, order.len⟩ : Sl Nat).sortRange index (index + c.length) =
        .ok ⟨Sl.writeList order.data index (sortNat c), order.len⟩ := by
      rw [Sl.sortRange_eq_ok]
      refine ⟨⟨Nat.le_add_right .., by rw [Sl.size_writeList]; omega⟩, ?_⟩
      rw [Sl.extract_writeList _ _ _ (by omega), Sl.writeList_writeList _ _ _ _ hlc.symm]
    have hs := Sl.set_ok_of_lt hwb (show i < bd.len by omega) (index + c.length)
    obtain ⟨ic', hr, l4, z4, e2, e3⟩ := ih (i + 1) (index + c.length)
      ⟨Sl.writeList order.data index (sortNat c), order.len⟩ ic1
      ⟨bd.data.setIfInBounds i (index + c.length), bd.len⟩
      (by show order.len ≤ (Sl.writeList _ _ _).size; rw [Sl.size_writeList]; exact hwo0)
      (by show ic1.len ≤ ic1.data.size; rw [l2, z2]; exact hwi) (Sl.set_wf hwb hs) ho (l2.trans hi)
      (by omega) (fun v hv' => hv v (List.mem_append_right _ hv')) hnd2 (by show i + 1 + cs.length ≤ bd.len; omega)
    refine ⟨ic', ?_, l4, z4.trans z2, fun v hvn => ?_, fun q v hq => ?_⟩
    · rw [classLoop]
      simp only [hr1, hsort, hs]
      rw [hr, ← hlc, ← Sl.writeList_append, hlc, List.flatten_cons, List.length_append, Nat.add_assoc]
      rfl
    · rw [List.flatten_cons, List.mem_append, not_or] at hvn
      rw [e2 v hvn.2, d2, if_neg hvn.1]
    · rw [List.map_cons, List.flatten_cons, List.getElem?_append, hlc] at hq
      rw [List.map_cons, psums, binIdx_cons]
      by_cases h1 : q < c.length
      · rw [if_pos h1] at hq
        have hvc : v ∈ c := mem_sortNat.1 (List.mem_of_getElem? hq)
        have hvn : v ∉ cs.flatten := fun h => hdisj v hvc v h rfl
        rw [e2 v hvn, d2, if_pos hvc, if_neg (by omega),
          binIdx_eq_zero _ _ (fun d hd => by have := psums_ge _ _ d hd; omega)]
        rfl
      · rw [if_neg h1] at hq
        rw [e3 _ v hq, if_pos (by omega)]
        congr 1
        rw [show index + c.length + (q - c.length) = index + q by omega]; omega

theorem identLoop_spec (n : Nat) (order : Sl Nat) (hw : order.WF) (hn : n ≤ order.len) :
    ∃ o', identLoop n order = .ok o' ∧ o'.len = order.len ∧ o'.data.size = order.data.size ∧
      ∀ p, o'.data[p]? = if p < n then some p else order.data[p]? := by
  obtain ⟨r, hr, hP⟩ := forRange_total (fun i (o : Sl Nat) => o.set i i)
    (fun i (o : Sl Nat) => o.WF ∧ o.len = order.len ∧ o.data.size = order.data.size ∧
      ∀ p, o.data[p]? = if p < i then some p else order.data[p]?)
    n 0 order ⟨hw, rfl, rfl, by intro p; simp⟩
    (by
      intro i o _ hi ⟨w, l, z, d⟩
      have hs := Sl.set_ok_of_lt w (show i < o.len by omega) i
      refine ⟨_, hs, Sl.set_wf w hs, by rw [Sl.set_len hs]; exact l, by rw [Sl.set_cap hs]; exact z, ?_⟩
      intro p
      rw [Sl.set_data hs, d]
      by_cases h1 : p = i
      · subst h1; simp
      · rw [if_neg h1]
        by_cases h2 : p < i
        · rw [if_pos h2, if_pos (by omega)]
        · rw [if_neg h2, if_neg (by omega)])
  obtain ⟨_, l, z, d⟩ := hP
  exact ⟨r, hr, l, z, by simpa using d⟩

def ordL (n : Nat) : Classes → List Nat
  | none => List.range n
  | some cls => (cls.map sortNat).flatten

def bdL (n : Nat) : Classes → List Nat
  | none => [n]
  | some cls => psums 0 (cls.map List.length)

structure InitSpec (n : Nat) (vc : Classes) (op : OP) : Prop where
  wfOrder : op.order.WF
  wfBd : op.binDividers.WF
  wfAges : op.binAges.WF
  wfInCell : op.inCell.WF
  lenOrder : op.order.len = n
  lenInCell : op.inCell.len = n
  order : op.order.toList = ordL n vc
  bd : op.binDividers.toList = bdL n vc
  ages : op.binAges.toList = List.replicate (bdL n vc).length 0
  btc : op.binsToCheck.toList = (List.range (bdL n vc).length).map Int.ofNat
  value : op.value.len = 0
  age : op.age = 0
  spl : op.spl = 0
  inCell : ∀ p v, (ordL n vc)[p]? = some v → op.inCell.toList[v]? = some (binIdx (bdL n vc) p)

theorem length_le_flatten (cls : List (List Nat)) (h : ∀ c ∈ cls, c ≠ []) : cls.length ≤ cls.flatten.length := by
  induction cls with
  | nil => simp
  | cons c cs ih =>
    have h1 : c ≠ [] := h c (List.mem_cons_self ..)
    have h2 := ih (fun d hd => h d (List.mem_cons_of_mem _ hd))
    have : 0 < c.length := List.length_pos_iff.2 h1
    simp only [List.flatten_cons, List.length_append, List.length_cons]; omega

structure InitCore (n : Nat) (vc : Classes) (o ic bd : Sl Nat) : Prop where
  lenO : o.len = n
  capO : n ≤ o.data.size
  lenI : ic.len = n
  capI : n ≤ ic.data.size
  wfBd : bd.WF
  order : o.toList = ordL n vc
  bd : bd.toList = bdL n vc
  inCell : ∀ p v, (ordL n vc)[p]? = some v → ic.toList[v]? = some (binIdx (bdL n vc) p)

theorem classLoop_init {n : Nat} {cls : List (List Nat)} (hn : 0 < n) (hc : ClassesOK n (some cls))
    (od ic bd : Array Nat) (h1 : n ≤ od.size) (h2 : n ≤ ic.size) (h3 : n ≤ bd.size) :
    cls.length ≤ n ∧ 0 < cls.length ∧
    ∃ o' ic' bd' idx, classLoop cls 0 (⟨od, n⟩, ⟨ic, n⟩, ⟨bd, cls.length⟩, 0) = .ok (o', ic', bd', idx) ∧
      InitCore n (some cls) o' ic' bd' ∧ bd'.len = cls.length ∧
      o'.data.size = od.size ∧ ic'.data.size = ic.size ∧ bd'.data.size = bd.size := by
  obtain ⟨hperm, hne⟩ := hc
  have hfl : cls.flatten.length = n := by rw [hperm.length_eq]; simp
  have hcl : cls.length ≤ n := by rw [← hfl]; exact length_le_flatten cls hne
  have hpos : 0 < cls.length := by
    cases cls with
    | nil => simp at hfl; omega
    | cons _ _ => simp
  have hlt : ∀ v ∈ cls.flatten, v < n := fun v hv => by simpa using hperm.mem_iff.1 hv
  have hnd : cls.flatten.Nodup := hperm.nodup_iff.2 List.nodup_range
  obtain ⟨ic', hr, l2, z2, _, e3⟩ := classLoop_spec n cls 0 0 ⟨od, n⟩ ⟨ic, n⟩ ⟨bd, cls.length⟩
    h1 h2 (show cls.length ≤ bd.size by omega) rfl rfl (by omega) hlt hnd (by simp)
  refine ⟨hcl, hpos, _, ic', _, _, hr,
    ⟨rfl, by show n ≤ (Sl.writeList od 0 _).size; rw [Sl.size_writeList]; exact h1, l2, by rw [z2]; exact h2,
      by show cls.length ≤ (Sl.writeList bd 0 _).size; rw [Sl.size_writeList]; omega, ?_, ?_, ?_⟩,
    rfl, Sl.size_writeList .., z2, Sl.size_writeList ..⟩
  · show _ = (cls.map sortNat).flatten
    rw [Sl.toList_mk_writeList ⟨od, n⟩ h1 0 _ (by show 0 + _ ≤ n; rw [length_flatten_sorted]; omega), List.take_zero,
      List.nil_append, List.drop_eq_nil_of_le, List.append_nil]
    rw [Sl.length_toList ⟨od, n⟩ h1, length_flatten_sorted]; show n ≤ _; omega
  · show _ = psums 0 (cls.map List.length)
    have hb : (⟨bd, cls.length⟩ : Sl Nat).WF := show cls.length ≤ bd.size by omega
    rw [Sl.toList_mk_writeList ⟨bd, cls.length⟩ hb 0 _ (by show 0 + _ ≤ cls.length; simp), List.take_zero,
      List.nil_append, List.drop_eq_nil_of_le, List.append_nil]
    rw [Sl.length_toList _ hb]; simp
  · intro p v (hp : (cls.map sortNat).flatten[p]? = some v)
    show _ = some (binIdx (psums 0 (cls.map List.length)) p)
    have hv : v < n := hlt v ((flatten_sorted_perm cls).mem_iff.1 (List.mem_of_getElem? hp))
    rw [Sl.getElem?_toList, if_pos (by omega), e3 p v hp]
    simp

theorem identLoop_init {n : Nat} (od bd : Array Nat) (ic : Sl Nat) (h1 : n ≤ od.size) (h3 : 0 < bd.size)
    (hil : ic.len = n) (hic : n ≤ ic.data.size) (hiz : ∀ v, v < n → ic.data[v]? = some 0) :
    ∃ o', identLoop n ⟨od, n⟩ = .ok o' ∧ InitCore n none o' ic ⟨bd.setIfInBounds 0 n, 1⟩ ∧ o'.data.size = od.size := by
  obtain ⟨o', hr, l1, z1, d1⟩ := identLoop_spec n ⟨od, n⟩ h1 (Nat.le_refl _)
  refine ⟨o', hr, ⟨l1, by rw [z1]; exact h1, hil, hic,
    by show 1 ≤ (bd.setIfInBounds 0 n).size; rw [Array.size_setIfInBounds]; exact h3, ?_, ?_, fun p v hp => ?_⟩, z1⟩
  · apply Sl.toList_eq_of _ _ (by rw [l1]; exact List.length_range)
    intro i hi
    rw [l1] at hi
    rw [d1, if_pos hi]; exact (List.getElem?_range hi).symm
  · apply Sl.toList_eq_of _ _ (by simp [bdL])
    intro i hi
    obtain rfl : i = 0 := Nat.lt_one_iff.1 hi
    simp [bdL, h3]
  · simp only [ordL] at hp
    obtain ⟨h1, h2⟩ := List.getElem?_eq_some_iff.1 hp
    simp at h1 h2
    subst h2
    rw [Sl.getElem?_toList, if_pos (hil ▸ h1), hiz p h1]
    simp [bdL, binIdx, h1]

theorem initSpec_classesFacts {n : Nat} {vc : Classes} (hn : 0 < n) (hc : ClassesOK n vc) :
    (ordL n vc).Perm (List.range n) ∧ (0 :: bdL n vc).Pairwise (· < ·) ∧ (bdL n vc).getLast? = some n := by
  cases vc with
  | none => simp [ordL, bdL]; omega
  | some cls =>
    obtain ⟨hperm, hne⟩ := hc
    have hfl : cls.flatten.length = n := by rw [hperm.length_eq]; simp
    refine ⟨(flatten_sorted_perm cls).trans hperm, ?_, ?_⟩
    · apply psums_sorted
      intro x hx
      obtain ⟨c, hc, rfl⟩ := List.mem_map.1 hx
      exact List.length_pos_iff.2 (hne c hc)
    · simp only [bdL]
      rw [psums_getLast?, ← List.length_flatten, hfl]; simp
      intro h; simp at h; subst h; simp at hfl; omega

theorem allBins_size (b : Sl Int) : (allBins b).data.size = b.data.size := by simp [allBins]

theorem allBins_data (b : Sl Int) (hw : b.len ≤ b.data.size) (i : Nat) (hi : i < b.len) :
    (allBins b).data[i]? = some (i : Int) := by
  have h2 : i < b.data.size := by omega
  simp only [allBins]
  rw [Array.getElem?_mapIdx, Array.getElem?_eq_getElem h2, Option.map_some, if_pos hi]

theorem InitSpec.build {n : Nat} {vc : Classes} {o ic bd : Sl Nat} (h : InitCore n vc o ic bd) (ages btc : Sl Int)
    (val : Sl Nat) (hal : ages.len = bd.len) (haz : ages.WF) (had : ∀ i, i < ages.len → ages.data[i]? = some 0)
    (hbtl : btc.len = bd.len) (hbtd : ∀ i, i < btc.len → btc.data[i]? = some (i : Int)) (hv : val.len = 0) :
    InitSpec n vc { order := o, binDividers := bd, binAges := ages, binsToCheck := btc, age := 0, value := val,
                    spl := 0, inCell := ic } := by
  have hbl' : (bdL n vc).length = bd.len := by rw [← h.bd, Sl.length_toList _ h.wfBd]
  refine ⟨by show o.len ≤ o.data.size; rw [h.lenO]; exact h.capO, h.wfBd, haz,
    by show ic.len ≤ ic.data.size; rw [h.lenI]; exact h.capI, h.lenO, h.lenI, h.order, h.bd, ?_, ?_, hv, rfl, rfl, h.inCell⟩
  · apply Sl.toList_eq_of _ _ (by simp; omega)
    intro i hi'
    simp only at hi' ⊢
    rw [had i hi', List.getElem?_replicate, if_pos (by omega)]
  · apply Sl.toList_eq_of _ _ (by simp; omega)
    intro i hi'
    simp only at hi' ⊢
    rw [hbtd i hi', List.getElem?_map, List.getElem?_range (by omega)]; rfl

theorem InitSpec.new {n m : Nat} {vc : Classes} {o ic bd : Sl Nat} (h : InitCore n vc o ic bd) (hk : bd.len ≤ n) :
    InitSpec n vc { order := o, binDividers := bd, binAges := ⟨Array.replicate n 0, bd.len⟩,
                    binsToCheck := allBins ⟨Array.replicate n 0, bd.len⟩, age := 0, value := ⟨Array.replicate m 0, 0⟩,
                    spl := 0, inCell := ic } ∧ (allBins ⟨Array.replicate n 0, bd.len⟩).WF := by
  have hz : bd.len ≤ (Array.replicate n (0 : Int)).size := by rw [Array.size_replicate]; exact hk
  have hb : bd.len ≤ (allBins ⟨Array.replicate n 0, bd.len⟩).data.size := by rw [allBins_size]; exact hz
  exact ⟨InitSpec.build h _ _ _ rfl hz
    (fun i hi => by
      show (Array.replicate n (0 : Int))[i]? = some 0
      rw [Array.getElem?_replicate, if_pos (Nat.lt_of_lt_of_le hi hk)])
    rfl (fun i hi => allBins_data _ hz i hi) rfl, hb⟩

theorem InitSpec.reset {n : Nat} {vc : Classes} {o ic bd : Sl Nat} (h : InitCore n vc o ic bd) (agesD btcD : Array Int)
    (valD : Array Nat) (h4 : bd.len ≤ agesD.size) (h5 : bd.len ≤ btcD.size) :
    InitSpec n vc { order := o, binDividers := bd,
                    binAges := ⟨agesD.mapIdx (fun i v => if i < bd.len then 0 else v), bd.len⟩,
                    binsToCheck := allBins ⟨btcD, bd.len⟩, age := 0, value := ⟨valD, 0⟩, spl := 0, inCell := ic } ∧
      (allBins ⟨btcD, bd.len⟩).WF := by
  have hb : bd.len ≤ (allBins ⟨btcD, bd.len⟩).data.size := by rw [allBins_size]; exact h5
  exact ⟨InitSpec.build h _ _ _ rfl
    (by show bd.len ≤ (agesD.mapIdx _).size; rw [Array.size_mapIdx]; exact h4)
    (fun i hi => by
      have h2 : i < agesD.size := Nat.lt_of_lt_of_le hi h4
      show (agesD.mapIdx _)[i]? = some 0
      rw [Array.getElem?_mapIdx, Array.getElem?_eq_getElem h2, Option.map_some, if_pos hi])
    rfl (fun i hi => allBins_data _ h5 i hi) rfl, hb⟩

theorem new_spec {n m : Nat} {vc : Classes} (hn : 0 < n) (hc : ClassesOK n vc) :
    ∃ op, newOrderedPartition n m vc = .ok (some op) ∧ InitSpec n vc op ∧
      op.order.data.size = n ∧ op.inCell.data.size = n ∧ op.binDividers.data.size = n ∧ op.binAges.data.size = n ∧
      op.binsToCheck.data.size = n ∧ op.value.data.size = m ∧
      op.binsToCheck.WF ∧ op.binsToCheck.len = op.binDividers.len := by
  have hn0 : n ≠ 0 := Nat.ne_of_gt hn
  cases vc with
  | none =>
    obtain ⟨o', hr, hcore, z1⟩ := identLoop_init (Array.replicate n 0) (Array.replicate n 0)
      ⟨Array.replicate n 0, n⟩ (by simp) (by simpa using hn) rfl (by simp)
      (fun v hv => by rw [Array.getElem?_replicate, if_pos hv])
    simp only [Array.size_replicate] at z1
    have hset : (⟨Array.replicate n 0, 1⟩ : Sl Nat).set 0 n = .ok ⟨(Array.replicate n 0).setIfInBounds 0 n, 1⟩ := by
      simp [Sl.set, hn]
    obtain ⟨hs, hw⟩ := InitSpec.new (m := m) hcore hn
    refine ⟨_, ?_, hs, ?_⟩
    · simp only [newOrderedPartition, if_neg hn0, Sl.mk', hr, Sl.reslice, Array.size_replicate,
        if_pos (show 1 ≤ n from hn), hset]
    · exact ⟨z1, by simp, by simp, by simp, by simp [allBins_size], by simp, hw, rfl⟩
  | some cls =>
    obtain ⟨hcl, hpos, o', ic', bd', idx, hr, hcore, l3, z1, z2, z3⟩ :=
      classLoop_init hn hc (Array.replicate n 0) (Array.replicate n 0) (Array.replicate n 0) (by simp) (by simp) (by simp)
    simp only [Array.size_replicate] at z1 z2 z3
    obtain ⟨hs, hw⟩ := InitSpec.new (m := m) hcore (l3 ▸ hcl)
    refine ⟨_, ?_, hs, ?_⟩
    · simp only [newOrderedPartition, if_neg hn0, Sl.mk', Sl.reslice, Array.size_replicate, if_pos hcl, hr]
    · exact ⟨z1, z2, z3, by simp, by simp [allBins_size], by simp, hw, rfl⟩

theorem reset_spec {n m : Nat} {vc : Classes} (op : OP) (hn : 0 < n) (hc : ClassesOK n vc)
    (c1 : n ≤ op.order.data.size) (c2 : n ≤ op.inCell.data.size) (c3 : n ≤ op.binDividers.data.size)
    (c4 : n ≤ op.binAges.data.size) (c5 : n ≤ op.binsToCheck.data.size) (c6 : m ≤ op.value.data.size) :
    ∃ opR, reset op n m vc = .ok opR ∧ InitSpec n vc opR ∧
      opR.order.data.size = op.order.data.size ∧ opR.inCell.data.size = op.inCell.data.size ∧
      opR.binDividers.data.size = op.binDividers.data.size ∧ opR.binAges.data.size = op.binAges.data.size ∧
      opR.binsToCheck.data.size = op.binsToCheck.data.size ∧ opR.value.data = op.value.data ∧
      opR.binsToCheck.WF ∧ opR.binsToCheck.len = opR.binDividers.len := by
  have b1 : 1 ≤ op.binDividers.data.size := Nat.le_trans hn c3
  have a1 : 1 ≤ op.binAges.data.size := Nat.le_trans hn c4
  have t1 : 1 ≤ op.binsToCheck.data.size := Nat.le_trans hn c5
  cases vc with
  | none =>
    obtain ⟨o', hr, hcore, z1⟩ := identLoop_init op.order.data op.binDividers.data
      (⟨op.inCell.data, n⟩ : Sl Nat).fill0 c1 b1 rfl (by simp [Sl.fill0]; exact c2)
      (fun v hv => by
        have : v < op.inCell.data.size := Nat.lt_of_lt_of_le hv c2
        simp [Sl.fill0, hv, this])
    have hset : (⟨op.binDividers.data, 1⟩ : Sl Nat).set 0 n = .ok ⟨op.binDividers.data.setIfInBounds 0 n, 1⟩ :=
      Sl.set_ok_of_lt (s := ⟨op.binDividers.data, 1⟩) b1 (Nat.zero_lt_one) n
    obtain ⟨hs, hw⟩ := InitSpec.reset hcore op.binAges.data op.binsToCheck.data op.value.data a1 t1
    refine ⟨_, ?_, hs, ?_⟩
    · simp only [reset, Sl.cap, if_neg (Nat.not_lt.2 c1), if_neg (Nat.not_lt.2 c6), Sl.reslice, if_pos c1, if_pos c2,
        hr, if_pos hn, if_pos b1, hset, if_pos a1, if_pos t1]
    · exact ⟨z1, by simp [Sl.fill0], by simp, by simp, by simp [allBins_size], rfl, hw, rfl⟩
  | some cls =>
    obtain ⟨hcl, hpos, o', ic', bd', idx, hr, hcore, l3, z1, z2, z3⟩ :=
      classLoop_init hn hc op.order.data op.inCell.data op.binDividers.data c1 c2 c3
    obtain ⟨hs, hw⟩ := InitSpec.reset hcore op.binAges.data op.binsToCheck.data op.value.data
      (l3 ▸ Nat.le_trans hcl c4) (l3 ▸ Nat.le_trans hcl c5)
    refine ⟨_, ?_, hs, ?_⟩
    · simp only [reset, Sl.cap, if_neg (Nat.not_lt.2 c1), if_neg (Nat.not_lt.2 c6), Sl.reslice, if_pos c1, if_pos c2,
        if_pos (Nat.le_trans hcl c3), hr, if_pos hn,
        if_pos (l3 ▸ Nat.le_trans hcl c4), if_pos (l3 ▸ Nat.le_trans hcl c5)]
    · exact ⟨z1, z2, z3, by simp, by simp [allBins_size], rfl, hw, rfl⟩

theorem InitSpec.bdLen {n : Nat} {vc : Classes} {op : OP} (h : InitSpec n vc op) :
    op.binDividers.len = (bdL n vc).length := by
  rw [← Sl.length_toList _ h.wfBd, h.bd]

theorem InitSpec.partInv {n : Nat} {vc : Classes} {op : OP} (hn : 0 < n) (hc : ClassesOK n vc) (h : InitSpec n vc op) :
    PartInv n op ∧ AgeInv op := by
  obtain ⟨hperm, hsorted, hlast⟩ := initSpec_classesFacts hn hc
  have hlen : op.binAges.len = op.binDividers.len := by
    rw [← Sl.length_toList _ h.wfAges, h.ages, h.bdLen]; simp
  have hne : bdL n vc ≠ [] := by intro e; rw [e] at hlast; simp at hlast
  constructor
  · refine ⟨h.wfOrder, h.wfBd, h.wfAges, h.wfInCell, h.lenOrder, h.lenInCell, hlen, ?_, ?_, ?_, ?_⟩
    · rw [h.order]; exact hperm
    · rw [h.bd]; exact hsorted
    · rw [h.bd]; exact hlast
    · rw [h.order, h.bd]; exact h.inCell
  · constructor
    · intro a ha
      rw [h.ages] at ha
      rw [List.eq_of_mem_replicate ha, h.age]; exact Int.le_refl _
    · rw [h.ages]
      have : 0 < (bdL n vc).length := List.length_pos_iff.2 hne
      rw [List.getLast?_replicate]; simp; omega

theorem InitSpec.inCell_eq {n : Nat} {vc : Classes} {op1 op2 : OP} (hn : 0 < n) (hc : ClassesOK n vc)
    (h1 : InitSpec n vc op1) (h2 : InitSpec n vc op2) : op1.inCell.toList = op2.inCell.toList := by
  obtain ⟨hperm, _, _⟩ := initSpec_classesFacts hn hc
  apply List.ext_getElem?
  intro v
  by_cases hv : v < n
  · have : v ∈ ordL n vc := hperm.mem_iff.2 (by simpa using hv)
    obtain ⟨p, hp⟩ := List.mem_iff_getElem?.1 this
    rw [h1.inCell p v hp, h2.inCell p v hp]
  · rw [Sl.getElem?_toList, Sl.getElem?_toList, if_neg (by rw [h1.lenInCell]; exact hv),
      if_neg (by rw [h2.lenInCell]; exact hv)]

theorem InitSpec.btc_range {n : Nat} {vc : Classes} {op : OP} (h : InitSpec n vc op) :
    op.binsToCheck.toList = (List.range op.binDividers.len).map Int.ofNat := by
  rw [h.btc, h.bdLen]

theorem ordL_eq (n : Nat) (vc : Classes) :
    ordL n vc = (match vc with | none => List.range n | some cls => (cls.map sortNat).flatten) := by
  cases vc <;> rfl

theorem bdL_eq (n : Nat) (vc : Classes) :
    bdL n vc = (match vc with | none => [n] | some cls => (cls.map List.length).scanl (· + ·) 0 |>.tail) := by
  cases vc with
  | none => rfl
  | some cls => simp only [bdL, scanl_tail_eq_psums]

theorem newOrderedPartition_inv {n m : Nat} {vc : Classes} (hn : 0 < n) (hc : ClassesOK n vc) :
    ∃ op, newOrderedPartition n m vc = .ok (some op) ∧ PartInv n op ∧ AgeInv op ∧ op.age = 0 ∧ op.spl = 0 ∧
      op.value.len = 0 ∧ op.value.data.size = m ∧
      op.binsToCheck.toList = (List.range op.binDividers.len).map Int.ofNat ∧
      op.order.data.size = n ∧ op.inCell.data.size = n ∧ op.binDividers.data.size = n ∧ op.binAges.data.size = n ∧
      op.binsToCheck.data.size = n ∧
      op.order.toList = (match vc with | none => List.range n | some cls => (cls.map sortNat).flatten) ∧
      op.binDividers.toList = (match vc with | none => [n] | some cls => (cls.map List.length).scanl (· + ·) 0 |>.tail) := by
  obtain ⟨op, hr, hs, z1, z2, z3, z4, z5, z6, _⟩ := new_spec (m := m) hn hc
  obtain ⟨hp, ha⟩ := hs.partInv hn hc
  refine ⟨op, hr, hp, ha, hs.age, hs.spl, hs.value, z6, hs.btc_range, z1, z2, z3, z4, z5, ?_, ?_⟩
  · rw [hs.order]; cases vc <;> rfl
  · rw [hs.bd, bdL_eq]; cases vc <;> rfl

theorem reset_eq_new {n m : Nat} {vc : Classes} (op : OP) (hn : 0 < n) (hc : ClassesOK n vc)
    (c1 : n ≤ op.order.data.size) (c2 : n ≤ op.inCell.data.size) (c3 : n ≤ op.binDividers.data.size)
    (c4 : n ≤ op.binAges.data.size) (c5 : n ≤ op.binsToCheck.data.size) (c6 : m ≤ op.value.data.size) :
    ∃ opN opR, newOrderedPartition n m vc = .ok (some opN) ∧ reset op n m vc = .ok opR ∧
      opR.order.toList = opN.order.toList ∧ opR.binDividers.toList = opN.binDividers.toList ∧
      opR.binAges.toList = opN.binAges.toList ∧ opR.binsToCheck.toList = opN.binsToCheck.toList ∧
      opR.value.toList = opN.value.toList ∧ opR.age = opN.age ∧ opR.spl = opN.spl ∧
      opR.inCell.toList = opN.inCell.toList ∧
      opR.order.data.size = op.order.data.size ∧ opR.inCell.data.size = op.inCell.data.size ∧
      opR.binDividers.data.size = op.binDividers.data.size ∧ opR.binAges.data.size = op.binAges.data.size ∧
      opR.binsToCheck.data.size = op.binsToCheck.data.size ∧ opR.value.data.size = op.value.data.size := by
  obtain ⟨opN, hN, sN, _⟩ := new_spec (m := m) hn hc
  obtain ⟨opR, hR, sR, z1, z2, z3, z4, z5, z6, _⟩ := reset_spec (m := m) op hn hc c1 c2 c3 c4 c5 c6
  refine ⟨opN, opR, hN, hR, by rw [sR.order, sN.order], by rw [sR.bd, sN.bd], by rw [sR.ages, sN.ages],
    by rw [sR.btc, sN.btc], ?_, by rw [sR.age, sN.age], by rw [sR.spl, sN.spl], InitSpec.inCell_eq hn hc sR sN,
    z1, z2, z3, z4, z5, by rw [z6]⟩
  simp [Sl.toList, sR.value, sN.value]

/-! non-vacuity: a partition value with stale contents and arbitrary lengths, reset to `n = 3`, `m = 2` -/

def staleOP : OP :=
  { order := ⟨#[9, 9, 9, 9], 1⟩, binDividers := ⟨#[7, 7, 7], 3⟩, binAges := ⟨#[5, 5, 5], 2⟩, binsToCheck := ⟨#[4, 4, 4], 2⟩,
    age := 17, value := ⟨#[8, 8, 8], 3⟩, spl := 2, inCell := ⟨#[6, 6, 6, 6], 4⟩ }

def obs (op : OP) : List Nat × List Nat × List Int × List Int × List Nat × Int × Nat × List Nat :=
  (op.order.toList, op.binDividers.toList, op.binAges.toList, op.binsToCheck.toList, op.value.toList, op.age, op.spl,
    op.inCell.toList)

example : (match reset staleOP 3 2 none with | .ok r => some (obs r) | _ => none)
    = some ([0, 1, 2], [3], [0], [0], [], 0, 0, [0, 0, 0]) := by rfl
/-- the hypotheses of `reset_eq_new` are satisfiable (stale contents, unsorted class `[1, 0]`); `List.mergeSort` does not
reduce by `rfl`, so the concrete vertex order is read off the theorems -/
example : ∃ opN opR, newOrderedPartition 3 2 (some [[2], [1, 0]]) = .ok (some opN) ∧
    reset staleOP 3 2 (some [[2], [1, 0]]) = .ok opR ∧ opR.order.toList = [2, 0, 1] ∧
    opR.binDividers.toList = [1, 3] ∧ opR.inCell.toList = opN.inCell.toList := by
  have hc : ClassesOK 3 (some [[2], [1, 0]]) := ⟨by decide, by decide⟩
  obtain ⟨opN, opR, h1, h2, ho, hb, _, _, _, _, _, h3, _⟩ :=
    reset_eq_new (n := 3) (m := 2) (vc := some [[2], [1, 0]]) staleOP (by decide) hc
      (by decide) (by decide) (by decide) (by decide) (by decide) (by decide)
  obtain ⟨opN', h1', _, _, _, _, _, _, _, _, _, _, _, _, ho', hb'⟩ := newOrderedPartition_inv (n := 3) (m := 2) (by decide) hc
  rw [h1] at h1'
  obtain rfl : opN = opN' := Option.some.inj (Outcome.ok.inj h1')
  refine ⟨opN, opR, h1, h2, ?_, ?_, h3⟩
  · rw [ho, ho']
    simp [sortNat, List.mergeSort, List.MergeSort.Internal.splitInTwo]
  · rw [hb, hb']; rfl

theorem reset_inv {n m : Nat} {vc : Classes} (op : OP) (hn : 0 < n) (hc : ClassesOK n vc)
    (c1 : n ≤ op.order.data.size) (c2 : n ≤ op.inCell.data.size) (c3 : n ≤ op.binDividers.data.size)
    (c4 : n ≤ op.binAges.data.size) (c5 : n ≤ op.binsToCheck.data.size) (c6 : m ≤ op.value.data.size) :
    ∃ opR, reset op n m vc = .ok opR ∧ PartInv n opR ∧ AgeInv opR ∧ opR.age = 0 ∧ opR.spl = 0 ∧
      opR.value.len = 0 ∧ opR.binsToCheck.toList = (List.range opR.binDividers.len).map Int.ofNat := by
  obtain ⟨opR, hR, sR, _⟩ := reset_spec (m := m) op hn hc c1 c2 c3 c4 c5 c6
  obtain ⟨hp, ha⟩ := sR.partInv hn hc
  exact ⟨opR, hR, hp, ha, sR.age, sR.spl, sR.value, sR.btc_range⟩

theorem reset_panics_small_n (op : OP) (n m : Nat) (vc : Classes) (h : op.order.data.size < n) :
    reset op n m vc = .panic := by
  simp [reset, Sl.cap, h]

theorem reset_panics_small_m (op : OP) (n m : Nat) (vc : Classes) (h : op.value.data.size < m) :
    reset op n m vc = .panic := by
  unfold reset
  by_cases h1 : op.order.cap < n
  · rw [if_pos h1]
  · rw [if_neg h1, if_pos (by simpa [Sl.cap] using h)]

end CanonF
