import Mamba.Lemmas.CanonFCov
import Mamba.Lemmas.CanonFHeritable
import Mamba.Lemmas.CanonFCovWorse
/-!
# The coverage invariant through the transitions of the stepping loops and of the refinement
-/
namespace CanonF

theorem top_member {n : Nat} {nb : Nbrs} {rf : Nat} {r : IR.St} {st sz : Nat} {ls : List (Nat × Nat)} {s : LS}
    {c : Nat} {cs : List Nat} {p : Nat} {ps : List Nat} {ce k : Nat} (hc : Core n s)
    (ht : TopOK s.op (k + 1) s.path s.choices ((st, sz) :: ls))
    (hch : s.choices = c :: cs) (hpth : s.path = p :: ps) (hget : s.op.order.get (c - 1) = .ok ce)
    {vs : List Nat} (h : WalkNv n nb rf r vs ((st, sz) :: ls) s) :
    (cellL n nb rf r vs ps.length st)[k]? = some ce ∧ c - 1 - st = k ∧ st < c ∧ vs.length = ps.length ∧ ce < n := by
  have F := walkN_top_frame hc ht hch hpth h
  have hv := Sl.get_eq_toList.1 hget
  refine ⟨?_, by rw [F.pos, Nat.add_sub_cancel_left], Nat.lt_of_sub_pos (F.idx ▸ Nat.succ_pos k), F.len,
    perm_range_lt hc.part.perm hv⟩
  rw [← F.len, ← F.order k F.lt, ← F.pos]
  exact hv

/-- `deage`, the refinement, … : the coverage does not look at the partition -/
theorem cov_congr_op {n : Nat} {nb : Nbrs} {rf : Nat} {r : IR.St} {s : LS} {vs : List Nat} {incl : Bool}
    {lv : List (Nat × Nat)} (op' : OP) (sc' : Scratch) (b : Bool)
    (h : CovFrames n nb rf r s vs incl s.path s.choices lv) :
    CovFrames n nb rf r { s with op := op', sc := sc', skipDeage := b } vs incl s.path s.choices lv :=
  CovFrames.congr (s := s) (s' := { s with op := op', sc := sc', skipDeage := b }) rfl (fun _ => rfl) rfl incl _ _ _
    (fun _ _ => rfl) h

/-- Heuristic 2 on the first-leaf path: the skipped child is covered by the "not a root" clause -/
theorem cov_skipA {n : Nat} {nb : Nbrs} {rf : Nat} {r : IR.St} (st sz : Nat) (ls : List (Nat × Nat)) (s : LS)
    (c : Nat) (cs : List Nat) (p : Nat) (ps : List Nat) (ce : Nat) (x : Int) (k : Nat) (hc : Core n s)
    (ht : TopOK s.op (k + 1) s.path s.choices ((st, sz) :: ls)) (hage : s.op.age + 1 = s.path.length)
    (hch : s.choices = c :: cs) (hpth : s.path = p :: ps) (hget : s.op.order.get (c - 1) = .ok ce)
    (hon : (decide (s.count > 0) && hasPrefix s.flPath.toList ps.reverse) = true)
    (hx : s.flOrbits[ce]? = some x) (hx0 : x ≥ 0)
    {vs : List Nat} (hw : WalkNv n nb rf r vs ((st, sz) :: ls) s)
    (hcov : CovFrames n nb rf r s vs true s.path s.choices ((st, sz) :: ls)) :
    CovFrames n nb rf r { s with choices := (c - 1) :: cs, skipDeage := true } vs true (p :: ps) ((c - 1) :: cs)
      ((st, sz) :: ls) := by
  have _ := hage
  obtain ⟨m1, m2, m3, -, -⟩ := top_member hc ht hch hpth hget hw
  rw [hpth, hch] at hcov
  have h' := hcov.step_head m3 (fun w hw' => by
    rw [m2, m1] at hw'
    cases hw'
    exact Or.inr ⟨hon, x, hx, hx0⟩) p
  exact CovFrames.congr (s := s) (s' := { s with choices := (c - 1) :: cs, skipDeage := true }) rfl (fun _ => rfl) rfl
    true _ _ _ (fun _ _ => rfl) h'

/-- `splitBin` that does not report "worse": the child is now being explored -/
theorem cov_split_ok {n : Nat} {nb : Nbrs} {rf : Nat} {r : IR.St} (st sz : Nat) (ls : List (Nat × Nat)) (s : LS)
    (c : Nat) (cs : List Nat) (p : Nat) (ps : List Nat) (bo : Disjoint.DS) (op' : OP) (k : Nat)
    (hch : s.choices = c :: cs) (hpth : s.path = p :: ps) (hst : st < c) {vs : List Nat}
    (hcov : CovFrames n nb rf r s vs true s.path s.choices ((st, sz) :: ls)) :
    CovFrames n nb rf r { s with choices := (c - 1) :: cs, bestOrbits := bo, op := op', path := k :: ps } vs false
      (k :: ps) ((c - 1) :: cs) ((st, sz) :: ls) := by
  rw [hpth, hch] at hcov
  exact CovFrames.congr (s := s)
    (s' := { s with choices := (c - 1) :: cs, bestOrbits := bo, op := op', path := k :: ps }) rfl (fun _ => rfl) rfl
    false _ _ _ (fun _ _ => rfl) (hcov.start_child hst k)

/-- a new frame: nothing is processed yet -/
theorem cov_push {n : Nat} {nb : Nbrs} {rf : Nat} {r : IR.St} {s : LS} {vs : List Nat} {lv : List (Nat × Nat)}
    (st sz : Nat) (hlen : (cellL n nb rf r vs s.path.length st).length = sz)
    (hcov : CovFrames n nb rf r s vs false s.path s.choices lv) :
    CovFrames n nb rf r { s with choices := (st + sz) :: s.choices, path := sz :: s.path, skipDeage := true } vs true
      (sz :: s.path) ((st + sz) :: s.choices) ((st, sz) :: lv) := by
  simp only [CovFrames]
  refine ⟨fun i w hi hw => ?_, CovFrames.congr (s := s)
    (s' := { s with choices := (st + sz) :: s.choices, path := sz :: s.path, skipDeage := true }) rfl (fun _ => rfl) rfl
    false _ _ _ (fun _ _ => rfl) hcov⟩
  simp only [if_true] at hi
  have := (List.getElem?_eq_some_iff.1 hw).1
  omega

/-- Heuristic 2 on the best-leaf path: the skipped child is complete because an orbit mate at a later position is -/
theorem cov_skipB_step {n : Nat} {nb : Nbrs} {rf : Nat} {r : IR.St} (hnb : NbOK nb n)
    (st sz : Nat) (ls : List (Nat × Nat)) (s : LS) (c : Nat) (cs : List Nat) (p : Nat) (ps : List Nat) (ce : Nat)
    (bo : Disjoint.DS) (k : Nat) (hc : Core n s) (ht : TopOK s.op (k + 1) s.path s.choices ((st, sz) :: ls))
    (hage : s.op.age + 1 = s.path.length) (hch : s.choices = c :: cs) (hpth : s.path = p :: ps)
    (hget : s.op.order.get (c - 1) = .ok ce) (hnf : onFirstB s ps = false)
    (hh : h2Best s.op s.bestOrbits (c - 1) ce = .ok (true, bo))
    {vs : List Nat} (hw : WalkNv n nb rf r vs ((st, sz) :: ls) s)
    (hcov : CovFrames n nb rf r s vs true s.path s.choices ((st, sz) :: ls))
    (S : List Nat → Prop)
    (hS : ∀ γ, S γ → IsAutL nb n γ ∧ ∀ u, u < n →
      IR.col (nodeL n nb rf r vs vs.length).c (γ.getD u 0) = IR.col (nodeL n nb rf r vs vs.length).c u)
    (hds : Disjoint.Inv s.bestOrbits) (hdsz : s.bestOrbits.size = n)
    (horb : ∀ a b, a < n → b < n → Disjoint.rep s.bestOrbits a = Disjoint.rep s.bestOrbits b →
      Relation.EqvGen (fun x y => ∃ γ, S γ ∧ γ[x]? = some y) a b) :
    CovFrames n nb rf r { s with choices := (c - 1) :: cs, bestOrbits := bo, skipDeage := true } vs true (p :: ps)
      ((c - 1) :: cs) ((st, sz) :: ls) := by
  have _ := hage
  obtain ⟨m1, m2, m3, m4, -⟩ := top_member hc ht hch hpth hget hw
  rw [hpth, hch] at hcov
  have hcomp := (complete_heritable hnb s.currentBest.toList).skipB st sz ls s c cs p ps ce bo k hc ht hch hpth hget
    hnf hh hw (fun i w hi hw' => hcov.1 i w (by simp only [if_true]; exact hi) hw') S
    (fun γ hγ => ⟨(hS γ hγ).1, (hS γ hγ).2, trivial⟩) hds hdsz horb
  have h' := hcov.step_head m3 (fun w hw' => by
    rw [m2, m1] at hw'
    cases hw'
    rw [m4] at hcomp
    exact Or.inl hcomp) p
  exact CovFrames.congr (s := s) (s' := { s with choices := (c - 1) :: cs, bestOrbits := bo, skipDeage := true })
    rfl (fun _ => rfl) rfl true _ _ _ (fun _ _ => rfl) h'

/-- `splitBin` reports "worse": the child is complete (partial-certificate pruning) -/
theorem cov_split_worse_step {n m : Nat} {nb : Nbrs} {rf : Nat} {r : IR.St} (hnb : NbOK nb n) (hsz : nb.size = n)
    (hm : m = ((nb.toList.map List.length).sum) / 2) (hrf : 3 * n + 3 ≤ rf)
    (hA : IR.InvA (irG n nb) r) (hD : IR.InvD (irG n nb) r)
    (st sz : Nat) (ls : List (Nat × Nat)) (s : LS) (c : Nat) (cs : List Nat) (p : Nat) (ps : List Nat) (ce : Nat)
    (bo : Disjoint.DS) (op' : OP) (k : Nat) (hc : Core n s) (ht : TopOK s.op (k + 1) s.path s.choices ((st, sz) :: ls))
    (hage : s.op.age + 1 = s.path.length) (hch : s.choices = c :: cs) (hpth : s.path = p :: ps)
    (hget : s.op.order.get (c - 1) = .ok ce)
    (hs : splitBin nb s.currentBest s.firstLeaf s.op (c - 1) = .ok (true, op'))
    {vs : List Nat} (hw : WalkNv n nb rf r vs ((st, sz) :: ls) s) (hcert : CertN n m nb ((st, sz) :: ls) s)
    (hcov : CovFrames n nb rf r s vs true s.path s.choices ((st, sz) :: ls)) :
    CovFrames n nb rf r { s with choices := (c - 1) :: cs, bestOrbits := bo, op := op', path := k :: ps } vs true
      (k :: ps) ((c - 1) :: cs) ((st, sz) :: ls) := by
  obtain ⟨m1, m2, m3, m4, -⟩ := top_member hc ht hch hpth hget hw
  have _ := hrf
  have _ := hage
  have hcomp := fun v hv => (split_worse_cut hnb hA hD st sz ls s c cs p ps op' k hc ht hch hpth hs hw hcert v
    hv).complete rf hnb hsz hm hc hcert.1 hcert.2.2
  rw [hpth, hch] at hcov
  have h' := hcov.step_head m3 (fun w hw' => by
    rw [m2] at hw'
    rw [← m4] at hw'
    exact Or.inl (by rw [← m4]; exact hcomp w hw')) k
  exact CovFrames.congr (s := s)
    (s' := { s with choices := (c - 1) :: cs, bestOrbits := bo, op := op', path := k :: ps })
    rfl (fun _ => rfl) rfl true _ _ _ (fun _ _ => rfl) h'

/-- the refinement reports "worse": the child that was being explored is complete -/
theorem cov_refine_worse_step {n m : Nat} {nb : Nbrs} {rf : Nat} {r : IR.St} (hnb : NbOK nb n) (hsz : nb.size = n)
    (hm : m = ((nb.toList.map List.length).sum) / 2) (hrf : 3 * n + 3 ≤ rf)
    (hA : IR.InvA (irG n nb) r) (hD : IR.InvD (irG n nb) r)
    (st sz : Nat) (ls : List (Nat × Nat)) (s : LS) (c : Nat) (cs : List Nat) (p : Nat) (ps : List Nat)
    (op' : OP) (sc' sc2 : Scratch) (hc : Core n s) (htl : s.sc.timesSeen.len = n)
    (hch : s.choices = c :: cs) (hpth : s.path = p :: ps) (hcp : c = st + p)
    {vs : List Nat} {t v : Nat} (hw : WalkSv n nb rf r vs t v ((st, sz) :: ls) s) (hcert : CertN n m nb ((st, sz) :: ls) s)
    (hr : refine nb s.currentBest s.firstLeaf {} s.op s.sc = .ok (true, op', sc'))
    (hcov : CovFrames n nb rf r s vs false s.path s.choices ((st, sz) :: ls)) :
    CovFrames n nb rf r { s with op := op', sc := sc2 } vs true (p :: ps) (c :: cs) ((st, sz) :: ls) := by
  have hcomp := (refine_worse_cut hnb hrf hA hD ((st, sz) :: ls) s op' sc' hc htl hw hcert hr).complete rf hnb hsz hm hc
    hcert.1 hcert.2.2
  obtain ⟨hvl, rfl, hcv⟩ := walkS_child hw hch hpth hcp
  rw [hpth, hch] at hcov
  rw [hvl] at hcomp
  exact CovFrames.congr (s := s) (s' := { s with op := op', sc := sc2 }) rfl (fun _ => rfl) rfl true _ _ _
    (fun _ _ => rfl) (hcov.finish_child fun w hw' => by
      rw [hcv] at hw'
      cases hw'
      exact Or.inl hcomp)

/-- all children of the top frame are processed: the node of the frame is complete, the frame is popped and the child of
the frame below that was being explored (that node) is covered -/
theorem cov_pop_step {n m : Nat} {nb : Nbrs} {rf : Nat} {r : IR.St} (hnb : NbOK nb n)
    (st sz : Nat) (ls : List (Nat × Nat)) (s : LS)
    (ht : TopOK s.op 0 s.path s.choices ((st, sz) :: ls))
    {vs : List Nat} (hw : WalkNv n nb rf r vs ((st, sz) :: ls) s) (hg : GInv n m nb s)
    (hcov : CovFrames n nb rf r s vs true s.path s.choices ((st, sz) :: ls))
    (hE1 : ∀ ps, s.path.drop 1 = ps → onFirstB s ps = true → ∀ k, k < s.ngens → ∀ γ, s.gens[k]? = some γ →
      ∀ u, u < n → IR.col (nodeL n nb rf r vs ps.length).c (γ.toList.getD u 0) = IR.col (nodeL n nb rf r vs ps.length).c u) :
    Complete n nb rf s.currentBest.toList (nodeL n nb rf r vs (s.path.length - 1)) ∧
    CovFrames n nb rf r { s with path := s.path.drop 1, choices := s.choices.drop 1 } vs.dropLast true
      (s.path.drop 1) (s.choices.drop 1) ls := by
  obtain ⟨p, ps, c, cs, st', sz', ls', e1, e2, e3, -, -, tc, -, tl⟩ := ht.elim
  cases e3
  have h1 := hw.path
  have h3 := hw.len
  have h5 := hw.framesOK
  rw [e1, e2] at hcov h5
  rw [e1] at h3
  have hcomp : Complete n nb rf s.currentBest.toList (nodeL n nb rf r vs ps.length) :=
    (complete_heritable hnb _).of_deferred hg h5.1
      (fun w hwm => by
        obtain ⟨i, hi⟩ := List.getElem?_of_mem hwm
        exact hcov.1 i w (by simp only [if_true]; omega) hi)
      (fun hof => ⟨(onFirstB_eq_true hof).1, fun k hk γ e => ⟨hE1 ps (by rw [e1]; rfl) hof k hk γ e, trivial⟩⟩)
  refine ⟨by rw [e1]; exact hcomp, ?_⟩
  have hvl : ps.length = vs.length := Nat.succ.inj h3.symm
  simp only [e1, e2, List.drop_succ_cons, List.drop_zero]
  exact CovFrames.congr (s := s) (s' := { s with path := ps, choices := cs }) rfl (fun _ => rfl) rfl true _ _ _
    (fun L hL => take_dropLast vs (by omega)) (hcov.tail.finish_top h1 tl h5.tail (Nat.le_of_eq hvl) hcomp)

end CanonF
