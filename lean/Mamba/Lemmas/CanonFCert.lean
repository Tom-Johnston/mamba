import Mamba.Lemmas.CanonFPhase
import Mamba.Lemmas.TriNat
/-!
# The certificate invariant of the faithful model `Model/CanonF.lean`

`op.value` is the certificate of the singleton prefix: for every prefix position `j < spl` (in order) the sorted list of
the codes `tri j + q` of the neighbours of `order[j]` that sit at an earlier position `q < j`.

* `certPos nb o s` — this list, computed from the order `o` alone (positions via `List.idxOf`);
* `VClean nb op`   — `CleanPrefix`, `value` well formed and `value.toList = certPos nb order spl`;
* `VStale nb cb fl op` — the state after `expandValue` has reported "worse" (it records how far it
  got: `spl := j + 1`): `value.toList = certPos nb order spl` for a singleton prefix that need not end at a non-singleton bin;
* `VAny` = clean, or `VStale` with a prefix divider of the current age (`StaleAge`); `VN` = clean.

The `deage` that undoes the split of a prefix bin truncates `value` after its last entry `< tri j` and makes the state
clean again.
-/
namespace CanonF

def tri (j : Nat) : Nat := j * (j - 1) / 2

def rawCodes (nb : Nbrs) (o : List Nat) (j : Nat) : List Nat :=
  (nb.getD (o.getD j 0) []).filterMap (fun v => if o.idxOf v < j then some (tri j + o.idxOf v) else none)

def blockCodes (nb : Nbrs) (o : List Nat) (j : Nat) : List Nat := sortNat (rawCodes nb o j)

def certPos (nb : Nbrs) (o : List Nat) (s : Nat) : List Nat := (List.range s).flatMap (blockCodes nb o)

structure VClean (nb : Nbrs) (op : OP) : Prop where
  pre : CleanPrefix op
  wf : op.value.WF
  val : op.value.toList = certPos nb op.order.toList op.spl

/-- `cb`, `fl` are unused; kept for uniform signatures -/
structure VStale (nb : Nbrs) (cb fl : Sl Nat) (op : OP) : Prop where
  pre : PrefixSingle op
  wf : op.value.WF
  val : op.value.toList = certPos nb op.order.toList op.spl

/-- some divider inside the singleton prefix was created at the current age, so that the next `deage` merges a prefix
bin and truncates the certificate -/
def StaleAge (op : OP) : Prop := ∃ k d, k < op.spl ∧ (divs op)[k]? = some (d, op.age)

def VAny (nb : Nbrs) (cb fl : Sl Nat) (op : OP) : Prop := VClean nb op ∨ (VStale nb cb fl op ∧ StaleAge op)

def VN (nb : Nbrs) (_cb _fl : Sl Nat) (op : OP) : Prop := VClean nb op

theorem VN.any {nb : Nbrs} {cb fl : Sl Nat} {op : OP} (h : VN nb cb fl op) : VAny nb cb fl op := Or.inl h

theorem VAny.facts {nb : Nbrs} {cb fl : Sl Nat} {op : OP} (hv : VAny nb cb fl op) :
    PrefixSingle op ∧ op.value.WF ∧ op.value.toList = certPos nb op.order.toList op.spl := by
  rcases hv with hc | ⟨hs, _⟩
  · exact ⟨hc.pre.toPrefixSingle, hc.wf, hc.val⟩
  · exact ⟨hs.pre, hs.wf, hs.val⟩

/-- what `expandValue` does to a certificate of a singleton prefix (proved in `CanonFCertExpand.lean` as
`expandValue_cert`) -/
def ExpandCert : Prop :=
  ∀ (n : Nat) (nb : Nbrs) (cb fl : Sl Nat) (op op' : OP) (w : Bool), PartInv n op → PrefixSingle op → op.value.WF →
    op.value.toList = certPos nb op.order.toList op.spl → expandValue nb cb fl op = .ok (w, op') →
    (w = false → VClean nb op') ∧ (w = true → VStale nb cb fl op' ∧ op.spl < op'.spl)

theorem tri_succ (p : Nat) : tri (p + 1) = tri p + p := TriNat.succ p

theorem tri_mono {s t : Nat} (h : s ≤ t) : tri s ≤ tri t := TriNat.mono h

theorem certPos_succ (nb : Nbrs) (o : List Nat) (j : Nat) :
    certPos nb o (j + 1) = certPos nb o j ++ blockCodes nb o j := by
  simp [certPos, List.range_succ, List.flatMap_append]

theorem tri_eq (j : Nat) : ((j - 1) * j) / 2 = tri j := by
  unfold tri; rw [Nat.mul_comm]

theorem mem_blockCodes_range {nb : Nbrs} {o : List Nat} {p x : Nat} (h : x ∈ blockCodes nb o p) :
    tri p ≤ x ∧ x < tri (p + 1) := by
  unfold blockCodes at h
  rw [(sortNat_perm _).mem_iff] at h
  unfold rawCodes at h
  rw [List.mem_filterMap] at h
  obtain ⟨v, _, hv⟩ := h
  split at hv
  · cases hv
    rw [tri_succ]; omega
  · cases hv

theorem certPos_lt_tri {nb : Nbrs} {o : List Nat} {j x : Nat} (h : x ∈ certPos nb o j) : x < tri j := by
  unfold certPos at h
  rw [List.mem_flatMap] at h
  obtain ⟨p, hp, hx⟩ := h
  have hp' : p < j := List.mem_range.1 hp
  have h1 := (mem_blockCodes_range hx).2
  have h2 := tri_mono (show p + 1 ≤ j by omega)
  omega

theorem idxOf_lt_iff_mem_take (o : List Nat) (v j : Nat) (hj : j ≤ o.length) :
    (o.idxOf v < j ↔ v ∈ o.take j) ∧ (v ∈ o.take j → (o.take j).idxOf v = o.idxOf v) := by
  have hl : (o.take j).length = j := List.length_take_of_le hj
  have e : o.idxOf v = if v ∈ o.take j then (o.take j).idxOf v else (o.drop j).idxOf v + (o.take j).length := by
    conv => lhs; rw [← List.take_append_drop j o]
    exact List.idxOf_append
  by_cases hm : v ∈ o.take j
  · rw [if_pos hm] at e
    exact ⟨⟨fun _ => hm, fun _ => by
      rw [e]; exact Nat.lt_of_lt_of_le (List.idxOf_lt_length_of_mem hm) (Nat.le_of_eq hl)⟩, fun _ => e.symm⟩
  · rw [if_neg hm, hl] at e
    exact ⟨⟨fun h => absurd (e ▸ h) (Nat.not_lt_of_le (Nat.le_add_left _ _)), fun h => absurd h hm⟩, fun h => absurd h hm⟩

theorem certPos_frame (nb : Nbrs) (o o' : List Nat) (s : Nat) (hs : s ≤ o.length) (hs' : s ≤ o'.length)
    (hagree : ∀ p, p < s → o'[p]? = o[p]?) : certPos nb o' s = certPos nb o s := by
  unfold certPos
  rw [List.flatMap_def, List.flatMap_def]
  congr 1
  apply List.map_congr_left
  intro j hj
  have hj' : j < s := List.mem_range.1 hj
  unfold blockCodes rawCodes
  have hgj : o'.getD j 0 = o.getD j 0 := by
    rw [List.getD_eq_getElem?_getD, List.getD_eq_getElem?_getD, hagree j hj']
  -- the first `j` entries are the same, and only they are looked at
  have hA : o'.take j = o.take j := by
    apply List.ext_getElem?
    intro p
    rw [List.getElem?_take, List.getElem?_take]
    by_cases hp : p < j
    · rw [if_pos hp, if_pos hp, hagree p (Nat.lt_trans hp hj')]
    · rw [if_neg hp, if_neg hp]
  rw [hgj]
  congr 2
  funext v
  obtain ⟨a1, a2⟩ := idxOf_lt_iff_mem_take o v j (Nat.le_trans (Nat.le_of_lt hj') hs)
  obtain ⟨b1, b2⟩ := idxOf_lt_iff_mem_take o' v j (Nat.le_trans (Nat.le_of_lt hj') hs')
  rw [hA] at b1 b2
  by_cases h1 : o.idxOf v < j
  · rw [if_pos h1, if_pos (b1.2 (a1.1 h1)), ← a2 (a1.1 h1), ← b2 (a1.1 h1)]
  · rw [if_neg h1, if_neg (fun h2 => h1 (a1.2 (b1.1 h2)))]

structure NbOK (nb : Nbrs) (n : Nat) : Prop where
  lt : ∀ u v, v ∈ nb.getD u [] → u < n ∧ v < n
  symm : ∀ u v, v ∈ nb.getD u [] → u ∈ nb.getD v []
  irrefl : ∀ u, u ∉ nb.getD u []
  nodup : ∀ u, (nb.getD u []).Nodup

def IsAutL (nb : Nbrs) (n : Nat) (γ : List Nat) : Prop :=
  γ.Perm (List.range n) ∧ ∀ x y, x < n → y < n → (y ∈ nb.getD x [] ↔ γ.getD y 0 ∈ nb.getD (γ.getD x 0) [])

/-- the map "vertex at position `p` of `o1` ↦ vertex at position `p` of `o2`" as a list (`order[permInv[i]]` in the Go code) -/
def transport (n : Nat) (o1 o2 : List Nat) : List Nat := (List.range n).map (fun x => o2.getD (o1.idxOf x) 0)

end CanonF
