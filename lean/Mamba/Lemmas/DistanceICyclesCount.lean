import Mamba.Lemmas.DistanceICyclesSeq
import Mamba.Lemmas.DistanceIPathsEmb
import Mamba.Lemmas.DistanceIPathsCount
/-!
# The faithful model of `NumberOfInducedCycles` returns the reference counts

The stack DFS over partial induced paths adds, for every path it completes, the number of its closing vertices to the
entry of the cycle length (`icLoop_spec`, stated as an accumulation `Adds`); summed over the start vertices and the
connected components, and transferred from the component graph to `g` through the embedding (`Emb`), entry `c` is
`Σ_p |closers p|` over the directed induced paths with `c - 1` vertices, i.e. `2c` times the number of induced
cycles (`closers_sum`), which the final division undoes (`numberOfInducedCycles_eq`).
-/
namespace GDist
open GraphSpec Model

def clW (g : G) (q : List Nat) : Nat := if 2 ≤ q.length then (closers g q).length else 0

/-- the records of the cycle DFS: those of the path DFS with the set `allowedEnds` of the neighbours of the first
vertex that are still neither on the path nor adjacent to an interior vertex -/
structure RecOKc (h : G) (M : Nat) (P : ICyc) : Prop extends RecOK h P.p P.length P.banned where
  lenM : P.length = 0 ∨ P.length + 2 ≤ M
  ae0 : P.length = 0 → ∀ x, x ∈ P.allowedEnds ↔ (x < h.n ∧ h.adj (P.p.getLastD 0) x = true)
  ae1 : 1 ≤ P.length → ∀ x, x ∈ P.allowedEnds ↔
    (x < h.n ∧ h.adj (P.p.getLastD 0) x = true ∧ x ∉ P.p ∧ ∀ y ∈ P.p.tail.dropLast, h.adj y x = false)

variable {h : G}

theorem mem_sInter {a b : List Nat} {x : Nat} : x ∈ sInter a b ↔ (x ∈ a ∧ x ∈ b) := by
  simp [sInter, List.mem_filter]

theorem mem_sRemove {a : List Nat} {v x : Nat} : x ∈ sRemove a v ↔ (x ∈ a ∧ x ≠ v) := by
  simp [sRemove, List.mem_filter]

/-- the closing count of the Go code -/
theorem length_sInter_allowedEnds {M : Nat} {P : ICyc} (ok : RecOKc h M P) (hL : 1 ≤ P.length) {last : Nat}
    {t : List Nat} (hp : P.p = last :: t) :
    (sInter (h.nbrs last) P.allowedEnds).length = (closers h P.p).length := by
  congr 1
  unfold sInter G.nbrs closers
  rw [List.filter_filter]
  apply List.filter_congr
  intro w hw
  have hwn := List.mem_range.1 hw
  have hae := ok.ae1 hL w
  rw [Bool.eq_iff_iff]
  simp only [Bool.and_eq_true, List.contains_iff_mem, Bool.not_eq_true', List.all_eq_true, hp,
    List.headD_cons]
  rw [← hp, hae]
  constructor
  · rintro ⟨⟨_, h1, h2, h3⟩, h0⟩
    refine ⟨⟨⟨h0, h1⟩, ?_⟩, h3⟩
    simpa using h2
  · rintro ⟨⟨⟨h0, h1⟩, h2⟩, h3⟩
    exact ⟨⟨hwn, h1, by simpa using h2, h3⟩, h0⟩

theorem child_okc (hirr : ∀ v, h.adj v v = false) {M : Nat} {P : ICyc}
    (ok : RecOKc h M P) {last : Nat} {t : List Nat} (hp : P.p = last :: t) {v : Nat}
    (hv : v ∈ sMinus (h.nbrs last) P.banned) (hnc : P.length + 2 < M) :
    RecOKc h M { p := v :: P.p, length := P.length + 1,
                 allowedEnds := if P.length > 0 then sMinus P.allowedEnds (h.nbrs last)
                                else sRemove P.allowedEnds v,
                 banned := sAdd (sUnion P.banned (h.nbrs last)) v } := by
  have base := child_ok ok.toRecOK hp hv
  obtain ⟨hvn, hvb⟩ := mem_sMinus.1 hv
  have hvn' : v < h.n ∧ h.adj last v = true := by simpa [G.nbrs, List.mem_filter] using hvn
  have hlastD : (v :: P.p).getLastD 0 = P.p.getLastD 0 := getLastD_cons_of_ne_nil ok.ne
  refine { toRecOK := base, lenM := .inr (by show P.length + 1 + 2 ≤ M; omega), ae0 := fun h0 => by simp at h0,
           ae1 := ?_ }
  intro _ x
  show x ∈ (if P.length > 0 then sMinus P.allowedEnds (h.nbrs last) else sRemove P.allowedEnds v) ↔
    (x < h.n ∧ h.adj ((v :: P.p).getLastD 0) x = true ∧ x ∉ v :: P.p ∧
      ∀ y ∈ (v :: P.p).tail.dropLast, h.adj y x = false)
  rw [hlastD]
  simp only [List.tail_cons]
  by_cases hL : P.length > 0
  · simp only [hL, if_true]
    have htne : t ≠ [] := by
      intro ht
      have := ok.len; rw [hp, ht] at this; simp at this; omega
    have hdl : P.p.dropLast = last :: t.dropLast := by rw [hp, List.dropLast_cons_of_ne_nil htne]
    have htl : P.p.tail.dropLast = t.dropLast := by rw [hp]; rfl
    rw [mem_sMinus, ok.ae1 (by omega) x, hdl, htl]
    simp only [G.nbrs, List.mem_filter, List.mem_range, List.mem_cons, not_and, not_or, forall_eq_or_imp]
    constructor
    · rintro ⟨⟨h1, h2, h3, h4⟩, h5⟩
      have hlx : h.adj last x = false := by
        cases hh : h.adj last x with
        | false => rfl
        | true => exact absurd hh (h5 h1)
      refine ⟨h1, h2, ⟨?_, h3⟩, hlx, h4⟩
      rintro rfl
      rw [hvn'.2] at hlx; cases hlx
    · rintro ⟨h1, h2, ⟨_, h3⟩, hlx, h4⟩
      exact ⟨⟨h1, h2, h3, h4⟩, fun _ => by rw [hlx]; simp⟩
  · have hL0 : P.length = 0 := by omega
    simp only [hL, if_false]
    have hpl : P.p = [last] := by
      have := ok.len; rw [hp, hL0] at this
      have : t = [] := by
        cases t with
        | nil => rfl
        | cons a b => simp at this
      rw [hp, this]
    rw [mem_sRemove, ok.ae0 hL0 x, hpl]
    have hd : [last].dropLast = ([] : List Nat) := rfl
    have hg : [last].getLastD 0 = last := rfl
    rw [hd, hg]
    constructor
    · rintro ⟨⟨h1, h2⟩, h3⟩
      refine ⟨h1, h2, ?_, fun y hy => by cases hy⟩
      intro hm
      rcases List.mem_cons.1 hm with rfl | hm
      · exact h3 rfl
      · simp at hm; subst hm
        rw [hirr] at h2; cases h2
    · rintro ⟨h1, h2, h3, _⟩
      exact ⟨⟨h1, h2⟩, fun hxv => h3 (by simp [hxv])⟩

theorem icLoop_step (hsym : ∀ u v, h.adj u v = h.adj v u) (hirr : ∀ v, h.adj v v = false) (M f : Nat) (P : ICyc)
    (st : List ICyc) (r : Array Nat) (okP : RecOKc h M P) (hsize : M + 1 ≤ r.size) :
    ∃ ch r', icLoop h (M : Int) (f + 1) (P :: st) r = icLoop h (M : Int) f (ch ++ st) r' ∧
      r'.size = r.size ∧ (∀ c ∈ ch, RecOKc h M c) ∧ (ch.map fun c => wtP h c.p).sum + 1 ≤ wtP h P.p ∧
      ∀ l, lbl r' l + (ch.map fun c => contribW h (goodInduced h) (clW h) 1 M c.p l).sum
        = lbl r l + contribW h (goodInduced h) (clW h) 1 M P.p l := by
  obtain ⟨last, t, hp⟩ := List.exists_cons_of_ne_nil okP.ne
  have hext := extend_eq_options hsym okP.toRecOK hp
  obtain ⟨r1, er1, hs1, hr1⟩ : ∃ r1 : Array Nat,
      (if P.length > 0 then
        (if hi : P.length + 2 < r.size then
          Outcome.ok (r.set (P.length + 2) (r[P.length + 2] + (sInter (h.nbrs last) P.allowedEnds).length))
         else Outcome.panic)
       else Outcome.ok r) = Outcome.ok r1 ∧ r1.size = r.size ∧
      ∀ l, lbl r1 l = lbl r l + (if l = P.p.length + 1 then clW h P.p else 0) := by
    by_cases hL : P.length > 0
    · have hidx : P.length + 2 < r.size := by
        rcases okP.lenM with h0 | h0 <;> omega
      refine ⟨r.set (P.length + 2) (r[P.length + 2]'hidx + (sInter (h.nbrs last) P.allowedEnds).length) hidx,
        by simp only [hL, if_true, hidx, dif_pos], by simp, fun l => ?_⟩
      rw [lbl_set hidx, length_sInter_allowedEnds okP (by omega) hp]
      have hlen2 : 2 ≤ P.p.length := by have := okP.len; omega
      have hidx2 : P.p.length + 1 = P.length + 2 := by have := okP.len; omega
      simp only [clW, hlen2, if_true, hidx2]
      by_cases hl : l = P.length + 2
      · simp [hl, lbl_of_lt hidx]
      · simp [hl]
    · refine ⟨r, by simp only [hL, if_false], rfl, fun l => ?_⟩
      have hlen1 : ¬ 2 ≤ P.p.length := by have := okP.len; omega
      simp [clW, hlen1]
  rw [icLoop]
  simp only [hp]
  rw [← hp, er1]
  simp only
  by_cases hcut : (P.length : Int) ≥ (M : Int) - 2
  · have hnlt : ¬ P.p.length + 1 < M := by have := okP.len; omega
    simp only [hcut, if_true]
    refine ⟨[], r1, rfl, hs1, fun _ hc => absurd hc List.not_mem_nil, wtN_pos _ _, fun l => ?_⟩
    rw [hr1 l, contribW_step, if_neg hnlt]
    rfl
  · have hlt : P.p.length + 1 < M := by have := okP.len; omega
    have hnc : P.length + 2 < M := by have := okP.len; omega
    simp only [hcut, if_false]
    refine ⟨_, r1, rfl, hs1, fun P' hP' => ?_, ?_, fun l => ?_⟩
    · obtain ⟨v', hv', rfl⟩ := List.mem_map.1 (List.mem_reverse.1 hP')
      exact child_okc hirr okP hp hv' hnc
    · rw [List.map_reverse, List.sum_reverse, List.map_map]
      refine Nat.le_trans (Nat.le_of_eq ?_) (wt_children hsym okP.toRecOK hp)
      rw [show (fun c : ICyc => wtP h c.p) ∘ _ = fun _ => wtN h.n (h.n - (P.p.length + 1)) from rfl,
        List.map_const', List.sum_replicate_nat]
    · rw [hr1 l, contribW_step, if_pos hlt, List.map_reverse, List.sum_reverse, List.map_map, hext, List.map_map]
      exact Nat.add_assoc ..

theorem icLoop_spec (hsym : ∀ u v, h.adj u v = h.adj v u) (hirr : ∀ v, h.adj v v = false) (M fuel : Nat)
    (st : List ICyc) (hok : ∀ P ∈ st, RecOKc h M P) (hf : (st.map fun P => wtP h P.p).sum + 1 ≤ fuel) :
    Adds (M + 1) (icLoop h (M : Int) fuel st) fun l =>
      (st.map fun P => contribW h (goodInduced h) (clW h) 1 M P.p l).sum :=
  stackLoop_adds (fun _ _ => rfl) (fun f P st r => icLoop_step hsym hirr M f P st r) fuel st hok hf

end GDist

namespace GDist
open GraphSpec Model

variable {g h : G} {f : Nat → Nat}

theorem headD_map {d : List Nat} (hne : d ≠ []) : (d.map f).headD 0 = f (d.headD 0) := by
  obtain ⟨a, t, rfl⟩ := List.exists_cons_of_ne_nil hne
  rfl

theorem getLastD_map {d : List Nat} (hne : d ≠ []) : (d.map f).getLastD 0 = f (d.getLastD 0) := by
  rw [List.getLastD_eq_getLast?, List.getLastD_eq_getLast?, List.getLast?_map, getLast?_of_ne_nil hne]
  rfl

theorem closers_map (e : Emb g h f) {d : List Nat} (hne : d ≠ []) (hd : ∀ x ∈ d, x < h.n) :
    (closers g (d.map f)).length = (closers h d).length := by
  have hhead : d.headD 0 < h.n := by
    obtain ⟨a, t, rfl⟩ := List.exists_cons_of_ne_nil hne
    exact hd a List.mem_cons_self
  have hlast : d.getLastD 0 < h.n := hd _ (getLastD_mem hne)
  have hnd1 : (closers g (d.map f)).Nodup := List.nodup_range.filter _
  have hnd2 : ((closers h d).map f).Nodup := by
    apply List.Nodup.map_on
    · intro a ha b hb hab
      exact e.inj a b (mem_closers.1 ha).1 (mem_closers.1 hb).1 hab
    · exact List.nodup_range.filter _
  have hperm : (closers g (d.map f)).Perm ((closers h d).map f) := by
    refine (List.perm_ext_iff_of_nodup hnd1 hnd2).2 ?_
    intro w'
    rw [List.mem_map, mem_closers, headD_map hne, getLastD_map hne]
    have htl : (d.map f).tail.dropLast = (d.tail.dropLast).map f := by
      rw [← List.map_tail, ← List.map_dropLast]
    rw [htl]
    constructor
    · rintro ⟨hw', h1, h2, h3, h4⟩
      obtain ⟨w, hw, rfl⟩ := e.closed _ w' hhead hw' h1
      refine ⟨w, mem_closers.2 ⟨hw, ?_, ?_, ?_, ?_⟩, rfl⟩
      · rw [e.adj _ _ hhead hw]; exact h1
      · rw [e.adj _ _ hlast hw]; exact h2
      · intro hm; exact h3 (List.mem_map.2 ⟨w, hm, rfl⟩)
      · intro y hy
        have hyn : y < h.n := hd y (List.mem_of_mem_tail (List.mem_of_mem_dropLast hy))
        rw [e.adj _ _ hyn hw]
        exact h4 (f y) (List.mem_map.2 ⟨y, hy, rfl⟩)
    · rintro ⟨w, hw, rfl⟩
      obtain ⟨hwn, h1, h2, h3, h4⟩ := mem_closers.1 hw
      refine ⟨e.rng w hwn, ?_, ?_, ?_, ?_⟩
      · rw [← e.adj _ _ hhead hwn]; exact h1
      · rw [← e.adj _ _ hlast hwn]; exact h2
      · intro hm
        obtain ⟨a, ha, hfa⟩ := List.mem_map.1 hm
        rw [e.inj a w (hd a ha) hwn hfa] at ha
        exact h3 ha
      · intro y' hy'
        obtain ⟨y, hy, rfl⟩ := List.mem_map.1 hy'
        have hyn : y < h.n := hd y (List.mem_of_mem_tail (List.mem_of_mem_dropLast hy))
        rw [← e.adj _ _ hyn hwn]
        exact h4 y hy
  rw [hperm.length_eq, List.length_map]

theorem clW_map (e : Emb g h f) {d : List Nat} (hne : d ≠ []) (hd : ∀ x ∈ d, x < h.n) :
    clW g (d.map f) = clW h d := by
  unfold clW
  rw [List.length_map, closers_map e hne hd]

theorem icStarts_spec {h : G} (hsym : ∀ u v, h.adj u v = h.adj v u) (hirr : ∀ v, h.adj v v = false)
    (M fuel : Nat) (hf : wtN h.n (h.n - 1) + 1 ≤ fuel) (is : List Nat) (his : ∀ i ∈ is, i < h.n) :
    Adds (M + 1) (icStarts h (M : Int) fuel is) fun l =>
      (is.map fun i => contribW h (goodInduced h) (clW h) 1 M [i] l).sum :=
  Adds.list
    (one := fun i => icLoop h (M : Int) fuel [{ p := [i], length := 0, allowedEnds := h.nbrs i, banned := [i] }])
    (fun _ => rfl) (fun _ _ _ => rfl) _ is fun i hi =>
    (icLoop_spec hsym hirr M fuel [{ p := [i], length := 0, allowedEnds := h.nbrs i, banned := [i] }]
      (fun P hP => by
        obtain rfl := List.mem_singleton.1 hP
        exact { ne := by simp, len := rfl, nd := by simp, rng := fun x hx => List.mem_singleton.1 hx ▸ his i hi,
                ban := fun x => by simp, lenM := .inl rfl,
                ae0 := fun _ x => by simp [G.nbrs, List.mem_filter],
                ae1 := fun h1 => by simp at h1 })
      (by simpa [wtP] using hf)).congr fun l => by simp

theorem icComps_spec (hsym : ∀ u v, g.adj u v = g.adj v u) (hirr : ∀ v, g.adj v v = false) (M fuel : Nat)
    (hf : stackFuel g.n ≤ fuel) (coms : List (List Nat)) (hgood : ∀ c ∈ coms, GoodCom g c) :
    Adds (M + 1) (icComps g (M : Int) fuel coms) fun l =>
      (coms.map fun com => (com.map fun s => contribW g (goodInduced g) (clW g) 1 M [s] l).sum).sum :=
  Adds.list (one := fun com => icStarts (g.induced com) (M : Int) fuel (List.range (g.induced com).n))
    (fun _ => rfl) (fun _ _ _ => rfl) _ coms fun com hcom => by
    have gc := hgood com hcom
    have hlen : com.length ≤ g.n := by
      have := (List.subperm_of_subset gc.nd (fun x hx => List.mem_range.2 (gc.rng x hx))).length_le
      simpa using this
    refine (icStarts_spec (induced_symm hsym com) (induced_irrefl hirr com) M fuel
      (Nat.le_trans (stackFuel_ge hlen) hf) _ fun i hi => List.mem_range.1 hi).congr fun l => ?_
    rw [← sum_range_getD com]
    refine congrArg _ (List.map_congr_left fun i hi => ?_)
    exact (contribW_map (goodCom_emb gc) (fun d => clW_map (goodCom_emb gc)) 1 M (q := [i]) (by simp)
      (fun x hx => List.mem_singleton.1 hx ▸ List.mem_range.1 hi) l).symm

theorem sum_clW (hsym : ∀ u v, g.adj u v = g.adj v u) {c : Nat} (hc : 3 ≤ c) :
    ((allInducedPaths g (c - 2)).map (clW g)).sum = 2 * c * numInducedCycles g c := by
  rw [← closers_sum hsym hc]
  refine congrArg _ (List.map_congr_left fun p hp => ?_)
  have := (mem_allInducedPaths.1 hp).1
  rw [clW, if_pos (by omega)]

theorem numInducedCycles_small (g : G) {l : Nat} (hl : l < 3) : numInducedCycles g l = 0 := by
  simp [numInducedCycles, canonInducedCycles, canonCycles, hl]

theorem numberOfInducedCycles_eq (g : G) (hsym : ∀ u v, g.adj u v = g.adj v u) (hirr : ∀ v, g.adj v v = false)
    (b : Int) (fuel : Nat) (hf : stackFuel g.n ≤ fuel) :
    Model.numberOfInducedCycles g b fuel =
      .ok ((List.range (g.n + 1)).map fun l => if l ≤ cycBound g b then numInducedCycles g l else 0) := by
  unfold Model.numberOfInducedCycles
  obtain ⟨cs, ecs, hgood', hflat'⟩ := connectedComponents_good g hsym
  rw [ecs]
  simp only
  have hbool : ((b < 0 || b > (g.n : Int)) = true) ↔ (b < 0 ∨ b > (g.n : Int)) := by
    rw [Bool.or_eq_true, decide_eq_true_eq, decide_eq_true_eq]
  have hM : (if b < 0 ∨ b > (g.n : Int) then (g.n : Int) else b) = ((cycBound g b : Nat) : Int) := by
    unfold cycBound
    by_cases hb : b < 0 ∨ b > (g.n : Int)
    · rw [if_pos hb, if_pos (hbool.2 hb)]
    · rw [if_neg hb, if_neg (mt hbool.1 hb)]
      omega
  have hMle : cycBound g b ≤ g.n := by
    unfold cycBound
    by_cases hb : b < 0 ∨ b > (g.n : Int)
    · rw [if_pos (hbool.2 hb)]
    · rw [if_neg (mt hbool.1 hb)]; omega
  rw [hM]
  obtain ⟨r, er, hsz, hr⟩ := icComps_spec hsym hirr (cycBound g b) fuel hf cs hgood' (Array.replicate (g.n + 1) 0)
    (by simp; omega)
  rw [er]
  simp only
  beta_reduce at hr
  congr 1
  apply List.map_congr_left
  intro l hl
  -- entry `l` before the division
  have hval : r.getD l 0 = if 3 ≤ l ∧ l ≤ cycBound g b then 2 * l * numInducedCycles g l else 0 := by
    rw [show r.getD l 0 = lbl r l from rfl, hr l, lbl_replicate, Nat.zero_add, sum_coms hflat', sum_contribW_single]
    by_cases h3 : 3 ≤ l ∧ l ≤ cycBound g b
    · rw [if_pos (.inr h3), if_pos h3, Nat.sub_sub, sum_clW hsym h3.1]
    · rw [if_neg h3]
      split
      · next hc =>
        -- entry 2 collects the closing weights of single vertices, which are 0
        obtain rfl : l = 2 := hc.resolve_right h3
        refine List.sum_eq_zero fun x hx => ?_
        obtain ⟨p, hp, rfl⟩ := List.mem_map.1 hx
        have := (mem_allInducedPaths.1 hp).1
        rw [clW, if_neg (by omega)]
      · rfl
  by_cases hl0 : l = 0
  · subst hl0
    rw [if_pos rfl, hval, if_neg (by omega), if_pos (Nat.zero_le _), numInducedCycles_small g (by decide)]
  · rw [if_neg hl0, hval]
    by_cases h3 : 3 ≤ l ∧ l ≤ cycBound g b
    · rw [if_pos h3, if_pos h3.2, Nat.mul_div_cancel_left _ (by omega : 0 < 2 * l)]
    · rw [if_neg h3, Nat.zero_div]
      split
      · exact (numInducedCycles_small g (by omega)).symm
      · rfl

end GDist
