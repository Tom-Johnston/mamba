import Mamba.Lemmas.IRCanon
import Mathlib.Data.Finset.Card
import Mathlib.Data.Finset.Image
import Mathlib.Data.List.Count
/-!
# Tight colourings: what a refinement pass and an individualisation keep, and why a leaf is a permutation

A state of `Model/IR.lean` is kept tight: every colour is below `s.cells` (`InvA`) and exactly `s.cells` colours occur
(`InvD`, with `D` the number of distinct colours), so every cell below `s.cells` has a member (`cell_nonempty`). The
colours after a pass are the ranks of the keys among the distinct keys, so the state after a pass is tight whatever it
was before (`pass_invA`, `pass_invD`), and so is the state after the refinement loop (`refine_inv`, `refine_inv'`, by
`refine_induction`); an individualisation in a cell with two members keeps tightness (`ind_invA`, `ind_invD`). A pass
orders the vertices by (old colour, count) (`pass_lt_iff`, from `key_lt_iff` and the monotonicity of `rank`).
`target_eq_some_iff` characterises the target cell; a node without target cell is a bijective colouring
(`isPerm_of_leaf`). The invariance under relabelling (`IRCanon.lean`) needs none of this and stands below in the import
order; `IRPath.lean` and `IRIso.lean` build on both.
-/

namespace IR
open Finset

noncomputable def D (n : Nat) (c : Array Nat) : Nat := ((Finset.range n).image (col c)).card

theorem card_image_le_of_refines {n : Nat} {f f' : Nat → Nat}
    (h : ∀ u v, u < n → v < n → f' u = f' v → f u = f v) :
    ((Finset.range n).image f).card ≤ ((Finset.range n).image f').card := by
  classical
  let φ : Nat → Nat := fun y' => if hx : ∃ x, x < n ∧ f' x = y' then f (Classical.choose hx) else 0
  apply Finset.card_le_card_of_surjOn φ
  intro y hy
  simp only [Finset.coe_image, Set.mem_image, Finset.mem_coe, Finset.mem_range] at hy ⊢
  obtain ⟨x, hx, rfl⟩ := hy
  refine ⟨f' x, ⟨x, hx, rfl⟩, ?_⟩
  have hex : ∃ x0, x0 < n ∧ f' x0 = f' x := ⟨x, hx, rfl⟩
  show (if hx : ∃ x0, x0 < n ∧ f' x0 = f' x then f (Classical.choose hx) else 0) = f x
  rw [dif_pos hex]
  exact h _ _ (Classical.choose_spec hex).1 hx (Classical.choose_spec hex).2

theorem rank_lt {ds : List Nat} {k : Nat} (hk : k ∈ ds) : rank ds k < ds.length := by
  unfold rank
  rw [← List.countP_eq_length_filter]
  have hle := List.countP_le_length (p := fun x => decide (x < k)) (l := ds)
  rcases Nat.lt_or_eq_of_le hle with h | h
  · exact h
  · exfalso
    have := (List.countP_eq_length.1 h) k hk
    simp at this

theorem rank_mono {ds : List Nat} {a b : Nat} (hab : a ≤ b) : rank ds a ≤ rank ds b := by
  unfold rank
  rw [← List.countP_eq_length_filter, ← List.countP_eq_length_filter]
  apply List.countP_mono_left
  intro x _ hx
  simp only [decide_eq_true_eq] at hx ⊢
  omega

theorem filter_split (l : List Nat) {a b : Nat} (hab : a ≤ b) :
    (l.filter (· < a)).length + (l.filter (fun k => decide (a ≤ k) && decide (k < b))).length
      = (l.filter (· < b)).length := by
  simp only [← List.countP_eq_length_filter]
  induction l with
  | nil => rfl
  | cons x xs ih =>
    simp only [List.countP_cons, Bool.and_eq_true, decide_eq_true_eq]
    by_cases h1 : x < a
    · rw [if_pos h1, if_neg (fun h => Nat.not_le.2 h1 h.1), if_pos (Nat.lt_of_lt_of_le h1 hab), ← ih]
      exact Nat.add_right_comm _ 1 _
    · by_cases h2 : x < b
      · rw [if_neg h1, if_pos ⟨Nat.le_of_not_lt h1, h2⟩, if_pos h2, ← ih]; rfl
      · rw [if_neg h1, if_neg (fun h => h2 h.2), if_neg h2]; exact ih

theorem rank_lt_rank {ds : List Nat} {a b : Nat} (ha : a ∈ ds) (hab : a < b) : rank ds a < rank ds b := by
  have h := filter_split ds (Nat.le_of_lt hab)
  have hm : a ∈ ds.filter (fun k => decide (a ≤ k) && decide (k < b)) :=
    List.mem_filter.2 ⟨ha, by simp [hab]⟩
  have := List.length_pos_of_mem hm
  unfold rank
  omega

theorem rank_lt_rank_iff {ds : List Nat} {a b : Nat} (ha : a ∈ ds) : rank ds a < rank ds b ↔ a < b := by
  refine ⟨fun h => ?_, rank_lt_rank ha⟩
  by_contra hn
  have := rank_mono (ds := ds) (Nat.le_of_not_lt hn)
  omega

theorem rank_inj {ds : List Nat} {a b : Nat} (ha : a ∈ ds) (hb : b ∈ ds) (h : rank ds a = rank ds b) : a = b := by
  rcases Nat.lt_trichotomy a b with hlt | heq | hgt
  · have := rank_lt_rank ha hlt; omega
  · exact heq
  · have := rank_lt_rank hb hgt; omega

structure WF (g : G) : Prop where
  lt : ∀ v, v < g.n → ∀ w ∈ g.nbrs v, w < g.n
  nodup : ∀ v, v < g.n → (g.nbrs v).Nodup
  symm : ∀ u v, u < g.n → v < g.n → v ∈ g.nbrs u → u ∈ g.nbrs v
  irrefl : ∀ v, v < g.n → v ∉ g.nbrs v

theorem nbrs_length_le {g : G} (hg : WF g) {v : Nat} (hv : v < g.n) : (g.nbrs v).length ≤ g.n := by
  have hsub : g.nbrs v ⊆ List.range g.n := fun w hw => List.mem_range.2 (hg.lt v hv w hw)
  have := ((hg.nodup v hv).subperm hsub).length_le
  simpa using this

theorem cnt_le {g : G} (hg : WF g) (c : Array Nat) (i : Nat) {v : Nat} (hv : v < g.n) : cnt g c i v ≤ g.n :=
  Nat.le_trans List.countP_le_length (nbrs_length_le hg hv)

theorem pair_lt_iff {N a b : Nat} (x y : Nat) (ha : a < N) (hb : b < N) :
    x * N + a < y * N + b ↔ (x < y ∨ (x = y ∧ a < b)) := by
  rcases Nat.lt_trichotomy x y with h | rfl | h
  · have : (x + 1) * N ≤ y * N := Nat.mul_le_mul_right N h
    rw [Nat.add_mul] at this; omega
  · omega
  · have : (y + 1) * N ≤ x * N := Nat.mul_le_mul_right N h
    rw [Nat.add_mul] at this; omega

theorem key_lt_iff {g : G} (hg : WF g) (c : Array Nat) (i : Nat) {u v : Nat} (hu : u < g.n) (hv : v < g.n) :
    key g c i u < key g c i v ↔ (col c u < col c v ∨ (col c u = col c v ∧ cnt g c i u < cnt g c i v)) :=
  pair_lt_iff _ _ (Nat.lt_succ_of_le (cnt_le hg c i hu)) (Nat.lt_succ_of_le (cnt_le hg c i hv))

theorem key_eq_iff {g : G} (hg : WF g) (c : Array Nat) (i : Nat) {u v : Nat} (hu : u < g.n) (hv : v < g.n) :
    key g c i u = key g c i v ↔ (col c u = col c v ∧ cnt g c i u = cnt g c i v) := by
  have h1 := key_lt_iff hg c i hu hv
  have h2 := key_lt_iff hg c i hv hu
  omega

theorem key_lt_mul_iff {g : G} (hg : WF g) (c : Array Nat) (i : Nat) {v : Nat} (hv : v < g.n) (j : Nat) :
    key g c i v < j * (g.n + 1) ↔ col c v < j := by
  have := pair_lt_iff (N := g.n + 1) (col c v) j (Nat.lt_succ_of_le (cnt_le hg c i hv)) (Nat.succ_pos g.n)
  unfold key
  omega

def InvA (g : G) (s : St) : Prop := ∀ v, v < g.n → col s.c v < s.cells
def InvD (g : G) (s : St) : Prop := D g.n s.c = s.cells

theorem D_le (n : Nat) (c : Array Nat) : D n c ≤ n := by
  unfold D
  exact Nat.le_trans Finset.card_image_le (by simp)

theorem D_tab (n : Nat) (F : Nat → Nat) : D n (tab n F) = ((Finset.range n).image F).card := by
  unfold D
  congr 1
  apply Finset.image_congr
  intro v hv
  exact col_tab F (Finset.mem_coe.1 hv |> Finset.mem_range.1)

theorem mem_ds {g : G} {c : Array Nat} {i : Nat} {k : Nat} :
    k ∈ dedup (keys g c i) ↔ ∃ v, v < g.n ∧ key g c i v = k := by
  rw [dedup_eq, List.mem_dedup]
  unfold keys
  simp only [List.mem_map, List.mem_range]

theorem ds_nodup (g : G) (c : Array Nat) (i : Nat) : (dedup (keys g c i)).Nodup := by
  rw [dedup_eq]; exact List.nodup_dedup _

theorem key_mem {g : G} (c : Array Nat) (i : Nat) {v : Nat} (hv : v < g.n) : key g c i v ∈ dedup (keys g c i) :=
  mem_ds.2 ⟨v, hv, rfl⟩

theorem pass_col {g : G} (s : St) (i : Nat) (rest : List Nat) {v : Nat} (hv : v < g.n) :
    col (pass g s i rest).c v = rank (dedup (keys g s.c i)) (key g s.c i v) := by
  show col (tab g.n _) v = _
  rw [col_tab _ hv]

theorem pass_invA (g : G) (s : St) (i : Nat) (rest : List Nat) : InvA g (pass g s i rest) := by
  intro v hv
  rw [pass_col s i rest hv]
  exact rank_lt (key_mem s.c i hv)

theorem tight_card {n k : Nat} {f : Nat → Nat} (hlt : ∀ v, v < n → f v < k)
    (honto : ∀ x, x < k → ∃ v, v < n ∧ f v = x) : k = ((Finset.range n).image f).card := by
  have : (Finset.range n).image f = Finset.range k := by
    ext x
    simp only [Finset.mem_image, Finset.mem_range]
    constructor
    · rintro ⟨u, hu, rfl⟩; exact hlt u hu
    · intro hx
      obtain ⟨u, hu, rfl⟩ := honto x hx
      exact ⟨u, hu, rfl⟩
  rw [this, Finset.card_range]

theorem rank_surj {ds : List Nat} (hnd : ds.Nodup) {x : Nat} (hx : x < ds.length) :
    ∃ k, k ∈ ds ∧ rank ds k = x := by
  have hsub : ds.toFinset.image (rank ds) ⊆ Finset.range ds.length := by
    intro y hy
    obtain ⟨k, hk, rfl⟩ := Finset.mem_image.1 hy
    exact Finset.mem_range.2 (rank_lt (List.mem_toFinset.1 hk))
  have hcard : (ds.toFinset.image (rank ds)).card = ds.length := by
    rw [Finset.card_image_of_injOn, List.toFinset_card_of_nodup hnd]
    intro a ha b hb hab
    exact rank_inj (List.mem_toFinset.1 (Finset.mem_coe.1 ha)) (List.mem_toFinset.1 (Finset.mem_coe.1 hb)) hab
  have heq := Finset.eq_of_subset_of_card_le hsub (by rw [hcard, Finset.card_range])
  have : x ∈ ds.toFinset.image (rank ds) := by rw [heq]; exact Finset.mem_range.2 hx
  obtain ⟨k, hk, rfl⟩ := Finset.mem_image.1 this
  exact ⟨k, List.mem_toFinset.1 hk, rfl⟩

theorem pass_invD (g : G) (s : St) (i : Nat) (rest : List Nat) : InvD g (pass g s i rest) := by
  show D g.n (tab g.n _) = (dedup (keys g s.c i)).length
  rw [D_tab]
  refine (tight_card (fun v hv => rank_lt (key_mem s.c i hv)) fun x hx => ?_).symm
  obtain ⟨k, hk, e⟩ := rank_surj (ds_nodup g s.c i) hx
  obtain ⟨v, hv, rfl⟩ := mem_ds.1 hk
  exact ⟨v, hv, e⟩

theorem pass_lt_iff {g : G} (hg : WF g) (s : St) (i : Nat) (rest : List Nat) {u v : Nat} (hu : u < g.n) (hv : v < g.n) :
    col (pass g s i rest).c u < col (pass g s i rest).c v ↔
      (col s.c u < col s.c v ∨ (col s.c u = col s.c v ∧ cnt g s.c i u < cnt g s.c i v)) := by
  rw [pass_col s i rest hu, pass_col s i rest hv, rank_lt_rank_iff (key_mem s.c i hu), key_lt_iff hg s.c i hu hv]

theorem pass_refines {g : G} (hg : WF g) (s : St) (i : Nat) (rest : List Nat) {u v : Nat} (hu : u < g.n) (hv : v < g.n)
    (h : col (pass g s i rest).c u = col (pass g s i rest).c v) : col s.c u = col s.c v := by
  rw [pass_col s i rest hu, pass_col s i rest hv] at h
  exact ((key_eq_iff hg s.c i hu hv).1 (rank_inj (key_mem s.c i hu) (key_mem s.c i hv) h)).1

theorem refine_of_popMax {g : G} {fuel : Nat} {s : St} {i : Nat} {rest : List Nat} (h : popMax s.work = some (i, rest)) :
    refine g (fuel + 1) s = refine g fuel (pass g s i rest) := by
  rw [refine, h]

theorem refine_of_work_nil {g : G} {fuel : Nat} {s : St} (h : s.work = []) : refine g fuel s = s := by
  cases fuel with
  | zero => rfl
  | succ f => rw [refine, h]; rfl

theorem refine_induction {g : G} {P : St → Prop}
    (hpass : ∀ s i rest, popMax s.work = some (i, rest) → P s → P (pass g s i rest)) :
    ∀ (fuel : Nat) (s : St), P s → P (refine g fuel s) := by
  intro fuel
  induction fuel with
  | zero => exact fun _ h => h
  | succ f ih =>
    intro s h
    unfold refine
    cases hp : popMax s.work with
    | none => exact h
    | some p => obtain ⟨i, rest⟩ := p; exact ih _ (hpass s i rest hp h)

theorem refine_refines {g : G} (hg : WF g) (fuel : Nat) : ∀ (s : St) {u v : Nat}, u < g.n → v < g.n →
    col (refine g fuel s).c u = col (refine g fuel s).c v → col s.c u = col s.c v := by
  intro s u v hu hv
  exact refine_induction (P := fun s' => col s'.c u = col s'.c v → col s.c u = col s.c v)
    (fun s' i rest _ ih h => ih (pass_refines hg s' i rest hu hv h)) fuel s id

theorem refine_inv {g : G} (fuel : Nat) : ∀ (s : St), InvA g s ∧ InvD g s →
    InvA g (refine g fuel s) ∧ InvD g (refine g fuel s) :=
  refine_induction (fun s i rest _ _ => ⟨pass_invA g s i rest, pass_invD g s i rest⟩) fuel

theorem refine_inv' {g : G} {fuel : Nat} (hf : 1 ≤ fuel) {s : St} (hw : s.work ≠ []) :
    InvA g (refine g fuel s) ∧ InvD g (refine g fuel s) := by
  obtain ⟨f, rfl⟩ : ∃ f, fuel = f + 1 := ⟨fuel - 1, by omega⟩
  unfold refine
  cases hs : s.work with
  | nil => exact absurd hs hw
  | cons x xs =>
    simp only [popMax]
    exact refine_inv f _ ⟨pass_invA g s _ _, pass_invD g s _ _⟩

theorem refine_cells_le {g : G} (hg : WF g) (fuel : Nat) {s : St} (h : InvA g s ∧ InvD g s) :
    s.cells ≤ (refine g fuel s).cells := by
  have h' := refine_inv fuel s h
  rw [← h.2, ← h'.2]
  unfold D
  exact card_image_le_of_refines (fun u v hu hv e => refine_refines hg fuel s hu hv e)

theorem ind_col {g : G} (s : St) (t v : Nat) {u : Nat} (hu : u < g.n) :
    col (individualise g s t v).c u =
      if u = v then t else if col s.c u > t then col s.c u + 1 else if col s.c u = t then t + 1 else col s.c u := by
  show col (tab g.n _) u = _
  rw [col_tab _ hu]

theorem ind_col_self {g : G} (s : St) (t : Nat) {v : Nat} (hv : v < g.n) : col (individualise g s t v).c v = t := by
  rw [ind_col s t v hv, if_pos rfl]

theorem ind_col_ne {g : G} (s : St) (t : Nat) {v u : Nat} (hu : u < g.n) (huv : u ≠ v) :
    col (individualise g s t v).c u = if col s.c u < t then col s.c u else col s.c u + 1 := by
  rw [ind_col s t v hu, if_neg huv]
  by_cases h1 : col s.c u < t
  · rw [if_pos h1, if_neg (Nat.lt_asymm h1), if_neg (Nat.ne_of_lt h1)]
  · rw [if_neg h1]
    by_cases h2 : col s.c u = t
    · rw [h2, if_neg (Nat.lt_irrefl t), if_pos rfl]
    · rw [if_pos (Nat.lt_of_le_of_ne (Nat.le_of_not_lt h1) (Ne.symm h2))]

theorem shift_lt {t a b : Nat} (h : a < b) : (if a < t then a else a + 1) < (if b < t then b else b + 1) := by
  by_cases hb : b < t
  · rw [if_pos (Nat.lt_trans h hb), if_pos hb]; exact h
  · rw [if_neg hb]
    by_cases ha : a < t
    · rw [if_pos ha]; exact Nat.lt_succ_of_lt h
    · rw [if_neg ha]; exact Nat.succ_lt_succ h

theorem shift_ne (t c : Nat) : (if c < t then c else c + 1) ≠ t := by
  by_cases hc : c < t
  · rw [if_pos hc]; exact Nat.ne_of_lt hc
  · rw [if_neg hc]; exact Nat.ne_of_gt (Nat.lt_succ_of_le (Nat.le_of_not_lt hc))

theorem ind_invA {g : G} {s : St} (h : InvA g s) {t : Nat} (ht : t < s.cells) (v : Nat) :
    InvA g (individualise g s t v) := by
  intro u hu
  have := h u hu
  show _ < s.cells + 1
  by_cases huv : u = v
  · subst huv; rw [ind_col_self s t hu]; exact Nat.lt_succ_of_lt ht
  · rw [ind_col_ne s t hu huv]
    by_cases hc : col s.c u < t
    · rw [if_pos hc]; exact Nat.lt_succ_of_lt this
    · rw [if_neg hc]; exact Nat.succ_lt_succ this

theorem cellMembers_nodup (g : G) (c : Array Nat) (t : Nat) : (cellMembers g c t).Nodup :=
  List.Nodup.filter _ List.nodup_range

theorem one_lt_length_of_mem {l : List Nat} {a b : Nat} (ha : a ∈ l) (hb : b ∈ l) (hab : a ≠ b) : 1 < l.length := by
  have hsub : [a, b] ⊆ l := by
    intro x hx
    simp only [List.mem_cons, List.not_mem_nil, or_false] at hx
    rcases hx with rfl | rfl <;> assumption
  exact ((List.nodup_cons.2 ⟨by simpa using hab, List.nodup_singleton b⟩).subperm hsub).length_le

theorem nodup_exists_ne {l : List Nat} (hnd : l.Nodup) (hlen : 1 < l.length) (v : Nat) : ∃ w, w ∈ l ∧ w ≠ v := by
  match l, hnd, hlen with
  | a :: b :: _, hnd, _ =>
    have hab : a ≠ b := by
      intro e; subst e; simp at hnd
    by_cases h : a = v
    · exact ⟨b, by simp, by rw [← h]; exact hab.symm⟩
    · exact ⟨a, by simp, h⟩

theorem exists_other {g : G} {c : Array Nat} {t v : Nat} (hlen : (cellMembers g c t).length > 1) :
    ∃ w, w ∈ cellMembers g c t ∧ w ≠ v :=
  nodup_exists_ne (cellMembers_nodup g c t) hlen v

theorem cell_len_gt_one_iff {g : G} {c : Array Nat} {t : Nat} :
    (cellMembers g c t).length > 1 ↔
      ∃ u w, u < g.n ∧ w < g.n ∧ u ≠ w ∧ col c u = t ∧ col c w = t := by
  constructor
  · intro h
    obtain ⟨u, hu, _⟩ := exists_other (v := 0) h
    obtain ⟨w, hw, hwu⟩ := exists_other (v := u) h
    obtain ⟨hun, hut⟩ := mem_cellMembers.1 hu
    obtain ⟨hwn, hwt⟩ := mem_cellMembers.1 hw
    exact ⟨u, w, hun, hwn, fun e => hwu e.symm, hut, hwt⟩
  · rintro ⟨u, w, hu, hw, hne, hut, hwt⟩
    exact one_lt_length_of_mem (mem_cellMembers.2 ⟨hu, hut⟩) (mem_cellMembers.2 ⟨hw, hwt⟩) hne

theorem exists_of_card_image {n k : Nat} {f : Nat → Nat} (hlt : ∀ v, v < n → f v < k)
    (hcard : ((Finset.range n).image f).card = k) {x : Nat} (hx : x < k) : ∃ v, v < n ∧ f v = x := by
  have hsub : (Finset.range n).image f ⊆ Finset.range k := by
    intro y hy
    obtain ⟨u, hu, rfl⟩ := Finset.mem_image.1 hy
    exact Finset.mem_range.2 (hlt u (Finset.mem_range.1 hu))
  have heq := Finset.eq_of_subset_of_card_le hsub (by rw [hcard, Finset.card_range])
  have : x ∈ (Finset.range n).image f := by rw [heq]; exact Finset.mem_range.2 hx
  obtain ⟨v, hv, e⟩ := Finset.mem_image.1 this
  exact ⟨v, Finset.mem_range.1 hv, e⟩

theorem inj_surj {n : Nat} {π : Nat → Nat} (hlt : ∀ v, v < n → π v < n)
    (hinj : ∀ u v, u < n → v < n → π u = π v → u = v) {x : Nat} (hx : x < n) : ∃ v, v < n ∧ π v = x := by
  refine exists_of_card_image hlt ?_ hx
  rw [Finset.card_image_of_injOn, Finset.card_range]
  intro a ha b hb hab
  exact hinj a b (Finset.mem_range.1 (Finset.mem_coe.1 ha)) (Finset.mem_range.1 (Finset.mem_coe.1 hb)) hab

theorem cell_nonempty {g : G} {s : St} (hA : InvA g s) (hD : InvD g s) {p : Nat} (hp : p < s.cells) :
    ∃ u, u < g.n ∧ col s.c u = p :=
  exists_of_card_image hA hD hp

theorem ind_invD {g : G} {s : St} (hA : InvA g s) (hD : InvD g s) {t v : Nat} (ht : t < s.cells)
    (hv : v ∈ cellMembers g s.c t) (hlen : (cellMembers g s.c t).length > 1) :
    InvD g (individualise g s t v) := by
  obtain ⟨hvn, hvt⟩ := mem_cellMembers.1 hv
  -- every colour below `cells + 1` occurs: `x < t` where it was, `t` at `v`, `x > t` where `x - 1` was (not at `v`)
  refine (tight_card (ind_invA hA ht v) fun x (hx : x < s.cells + 1) => ?_).symm
  rcases Nat.lt_trichotomy x t with hlt | rfl | hgt
  · obtain ⟨u, hu, hux⟩ := cell_nonempty hA hD (Nat.lt_trans hlt ht)
    refine ⟨u, hu, ?_⟩
    rw [ind_col_ne s t hu (fun e => Nat.ne_of_lt hlt (by rw [← hux, e, hvt])), hux, if_pos hlt]
  · exact ⟨v, hvn, ind_col_self s x hvn⟩
  · obtain ⟨y, rfl⟩ := Nat.exists_eq_succ_of_ne_zero (Nat.ne_of_gt (Nat.zero_lt_of_lt hgt))
    obtain ⟨u, hu, huy, huv⟩ : ∃ u, u < g.n ∧ col s.c u = y ∧ u ≠ v := by
      rcases Nat.eq_or_lt_of_le (Nat.le_of_lt_succ hgt) with rfl | hty
      · obtain ⟨w, hw, hwv⟩ := exists_other (v := v) hlen
        exact ⟨w, (mem_cellMembers.1 hw).1, (mem_cellMembers.1 hw).2, hwv⟩
      · obtain ⟨u, hu, huy⟩ := cell_nonempty hA hD (Nat.lt_of_succ_lt_succ hx)
        exact ⟨u, hu, huy, fun e => Nat.ne_of_gt hty (by rw [← huy, e, hvt])⟩
    exact ⟨u, hu, by rw [ind_col_ne s t hu huv, huy, if_neg (Nat.not_lt.2 (Nat.le_of_lt_succ hgt))]⟩

theorem target_eq_some_iff {g : G} {s : St} {t : Nat} : target g s = some t ↔
    t < s.cells ∧ (cellMembers g s.c t).length > 1 ∧ ∀ j, j < t → (cellMembers g s.c j).length ≤ 1 := by
  unfold target
  rw [List.find?_range_eq_some]
  simp only [decide_eq_true_eq, List.mem_range, Bool.not_eq_true', decide_eq_false_iff_not, Nat.not_lt]
  exact ⟨fun ⟨a, b, c⟩ => ⟨b, a, c⟩, fun ⟨a, b, c⟩ => ⟨b, a, c⟩⟩

theorem target_some {g : G} {s : St} {t : Nat} (h : target g s = some t) :
    t < s.cells ∧ (cellMembers g s.c t).length > 1 :=
  ⟨(target_eq_some_iff.1 h).1, (target_eq_some_iff.1 h).2.1⟩

theorem target_none_inj {g : G} {s : St} (hA : InvA g s) (h : target g s = none) {u v : Nat} (hu : u < g.n) (hv : v < g.n)
    (e : col s.c u = col s.c v) : u = v := by
  by_contra hne
  unfold target at h
  rw [List.find?_eq_none] at h
  exact h (col s.c u) (List.mem_range.2 (hA u hu)) (decide_eq_true
    (one_lt_length_of_mem (mem_cellMembers.2 ⟨hu, rfl⟩) (mem_cellMembers.2 ⟨hv, e.symm⟩) hne))

theorem target_none_of_inj {g : G} {s : St}
    (hinj : ∀ u v, u < g.n → v < g.n → col s.c u = col s.c v → u = v) : target g s = none := by
  unfold target
  rw [List.find?_eq_none]
  intro t _ hlen
  obtain ⟨u, w, hu, hw, hne, hut, hwt⟩ := cell_len_gt_one_iff.1 (of_decide_eq_true hlen)
  exact hne (hinj u w hu hw (by rw [hut, hwt]))

theorem target_none_of_cells {g : G} {s : St} (hD : InvD g s) (hn : g.n ≤ s.cells) : target g s = none := by
  have hDn : ((Finset.range g.n).image (col s.c)).card = (Finset.range g.n).card := by
    have h1 := D_le g.n s.c
    have h2 : ((Finset.range g.n).image (col s.c)).card = s.cells := hD
    rw [Finset.card_range]
    unfold D at h1
    omega
  have hinj := Finset.card_image_iff.1 hDn
  exact target_none_of_inj (fun u v hu hv e => hinj (by simpa using hu) (by simpa using hv) e)

def IsPerm (n : Nat) (l : Array Nat) : Prop :=
  (∀ v, v < n → col l v < n) ∧ ∀ u v, u < n → v < n → col l u = col l v → u = v

theorem isPerm_of_leaf {g : G} {s : St} (hA : InvA g s) (hD : InvD g s) (ht : target g s = none) : IsPerm g.n s.c := by
  refine ⟨fun v hv => ?_, fun u v hu hv e => target_none_inj hA ht hu hv e⟩
  have := hA v hv
  have := D_le g.n s.c
  rw [hD] at this
  omega

theorem one_le_rfuel (g : G) : 1 ≤ rfuel g :=
  Nat.le_trans (by decide : 1 ≤ 10) (Nat.le_add_left 10 _)

end IR
