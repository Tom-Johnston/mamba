import Mamba.Lemmas.DistanceComp
/-!
# Lemmas for C10: the subset enumeration, the component list of `g[V]`, the block reference
-/
namespace GDist
open GraphSpec

theorem mem_subsets {l S : List Nat} : S ∈ subsets l ↔ S.Sublist l := by
  induction l generalizing S with
  | nil => simp [subsets]
  | cons x xs ih =>
    simp only [subsets, List.mem_append, List.mem_map, List.sublist_cons_iff]
    constructor
    · rintro (h | ⟨S', h, rfl⟩)
      · exact .inl (ih.1 h)
      · exact .inr ⟨S', rfl, ih.1 h⟩
    · rintro (h | ⟨S', rfl, h⟩)
      · exact .inl (ih.2 h)
      · exact .inr ⟨S', ih.2 h, rfl⟩

theorem subsetB_iff {S T : List Nat} : subsetB S T = true ↔ ∀ x ∈ S, x ∈ T := by
  simp [subsetB, List.all_eq_true]

variable {g : G}

theorem componentsIn_facts (hsym : ∀ u v, g.adj u v = g.adj v u) (V : List Nat) :
    (∀ c ∈ componentsIn g V, ∃ s ∈ V, c = componentIn g V s) ∧
    (∀ s ∈ V, componentIn g V s ∈ componentsIn g V) ∧
    (componentsIn g V).Nodup := by
  have hV : ∀ r ∈ V, r ∈ V := fun _ h => h
  have hcl : ∀ x ∈ ([] : List Nat), ∀ y, ReachIn g V x y → y ∈ ([] : List Nat) := fun x hx => by cases hx
  obtain ⟨h1, h2, _, h4⟩ := componentsFrom_spec hsym V [] hV hcl
  refine ⟨fun c hc => ?_, fun s hs => ?_, ?_⟩
  · obtain ⟨s, hs, _, rfl⟩ := h1 c hc
    exact ⟨s, hs, rfl⟩
  · rcases h2 s hs with h | ⟨c, hc, hsc⟩
    · cases h
    · obtain ⟨t, _, _, rfl⟩ := h1 c hc
      have : componentIn g V s = componentIn g V t := (componentIn_congr hsym (mem_componentIn.1 hsc)).symm
      rw [this]; exact hc
  · refine List.Pairwise.imp_of_mem ?_ h4
    intro a b ha _ hdis hab
    subst hab
    obtain ⟨t, ht, _, rfl⟩ := h1 a ha
    have : t ∈ componentIn g V t := mem_componentIn.2 (ReachIn.refl ht)
    exact hdis t this this

theorem componentIn_eq_iff (hsym : ∀ u v, g.adj u v = g.adj v u) {V : List Nat} {s t : Nat} (hs : s ∈ V) :
    componentIn g V s = componentIn g V t ↔ ReachIn g V s t := by
  constructor
  · intro h
    have : s ∈ componentIn g V t := by rw [← h]; exact mem_componentIn.2 (ReachIn.refl hs)
    exact (mem_componentIn.1 this).symm hsym
  · exact componentIn_congr hsym

theorem connectedIn_iff (hsym : ∀ u v, g.adj u v = g.adj v u) (V : List Nat) :
    connectedIn g V = true ↔ ∀ x ∈ V, ∀ y ∈ V, ReachIn g V x y := by
  obtain ⟨h1, h2, h3⟩ := componentsIn_facts hsym V
  have hiff : connectedIn g V = true ↔ (componentsIn g V).length ≤ 1 := by
    unfold connectedIn numComponentsIn
    exact decide_eq_true_iff
  rw [hiff]
  generalize componentsIn g V = L at h1 h2 h3
  constructor
  · intro hlen x hx y hy
    refine (componentIn_eq_iff hsym hx).1 ?_
    match L, hlen, h2 x hx, h2 y hy with
    | [a], _, hx', hy' => rw [List.mem_singleton.1 hx', List.mem_singleton.1 hy']
  · intro hreach
    match L, h1, h3 with
    | [], _, _ => simp
    | [a], _, _ => simp
    | a :: b :: rest, h1, h3 =>
      exfalso
      obtain ⟨s, hs, rfl⟩ := h1 a List.mem_cons_self
      obtain ⟨t, ht, rfl⟩ := h1 b (List.mem_cons_of_mem _ List.mem_cons_self)
      exact (List.nodup_cons.1 h3).1 (componentIn_congr hsym (hreach s hs t ht) ▸ List.mem_cons_self)

theorem mem_blocks {S : List Nat} :
    S ∈ blocks g ↔
      (S.Sublist (List.range g.n) ∧ isBlockSet g S = true ∧
        ∀ T, T.Sublist (List.range g.n) → isBlockSet g T = true → (∀ x ∈ S, x ∈ T) → S = T) := by
  simp only [blocks, List.mem_filter, mem_subsets, List.all_eq_true, Bool.or_eq_true, Bool.not_eq_true',
    beq_iff_eq, and_imp]
  constructor
  · rintro ⟨⟨h1, h2⟩, h3⟩
    refine ⟨h1, h2, ?_⟩
    intro T hT1 hT2 hsub
    rcases h3 T hT1 hT2 with h | h
    · have := subsetB_iff.2 hsub
      rw [h] at this; cases this
    · exact h
  · rintro ⟨h1, h2, h3⟩
    refine ⟨⟨h1, h2⟩, ?_⟩
    intro T hT1 hT2
    cases hsub : subsetB S T with
    | false => exact .inl rfl
    | true => exact .inr (h3 T hT1 hT2 (subsetB_iff.1 hsub))

end GDist
