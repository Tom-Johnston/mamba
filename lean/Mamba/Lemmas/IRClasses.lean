import Mamba.Lemmas.IRIso
/-!
# Every node below a node refines its colouring monotonically; what this says about the leaves

A pass, the refinement loop and an individualisation never reverse the order of two colours (`Mono`: `pass_mono`,
`refine_mono`, `ind_mono`), so every node below `s`, in particular every leaf, refines the colouring of `s`
monotonically (`path_mono`, `allLeaves_mono`). A leaf that refines `c0` monotonically lists the cells of `c0` one after
the other (`mono_lt_card_iff`); a vertex that is alone in its cell sits at the number of vertices of the cells before
(`mono_singleton_pos`). Two such leaves that put `x` and `v` at the same position have `x` and `v` in the same cell of
`c0` (`same_class_of_leaves`): the automorphisms of `autGroupFrom` preserve the start colouring (`autGroupFrom_classes`).
-/

namespace IR
open Finset

def Mono (n : Nat) (c0 c : Array Nat) : Prop := ∀ u v, u < n → v < n → col c0 u < col c0 v → col c u < col c v

theorem Mono.trans {n : Nat} {a b c : Array Nat} (h1 : Mono n a b) (h2 : Mono n b c) : Mono n a c :=
  fun u v hu hv h => h2 u v hu hv (h1 u v hu hv h)

theorem pass_mono {g : G} (hg : WF g) (s : St) (i : Nat) (rest : List Nat) : Mono g.n s.c (pass g s i rest).c :=
  fun _ _ hu hv h => (pass_lt_iff hg s i rest hu hv).2 (Or.inl h)

theorem refine_mono {g : G} (hg : WF g) (fuel : Nat) : ∀ s : St, Mono g.n s.c (refine g fuel s).c := fun s =>
  refine_induction (P := fun s' => Mono g.n s.c s'.c) (fun s' i rest _ ih => ih.trans (pass_mono hg s' i rest))
    fuel s (fun _ _ _ _ h => h)

theorem ind_mono {g : G} (s : St) {t v : Nat} (hv : col s.c v = t) : Mono g.n s.c (individualise g s t v).c := by
  intro u w hu hw h
  by_cases e1 : u = v <;> by_cases e2 : w = v
  · subst e1; subst e2; exact absurd h (Nat.lt_irrefl _)
  · subst e1
    rw [hv] at h
    rw [ind_col_self s t hu, ind_col_ne s t hw e2, if_neg (Nat.lt_asymm h)]
    exact Nat.lt_succ_of_lt h
  · subst e2
    rw [hv] at h
    rw [ind_col_self s t hw, ind_col_ne s t hu e1, if_pos h]
    exact h
  · rw [ind_col_ne s t hu e1, ind_col_ne s t hw e2]; exact shift_lt h

theorem childSt_mono {g : G} (hg : WF g) (rf : Nat) (s : St) {t v : Nat} (hv : v ∈ cellMembers g s.c t) :
    Mono g.n s.c (childSt g rf s t v).c :=
  (ind_mono s (mem_cellMembers.1 hv).2).trans (refine_mono hg rf _)

theorem path_mono {g : G} (hg : WF g) {rf : Nat} : ∀ (vs : List Nat) (s : St), IsPath g rf s vs →
    Mono g.n s.c (nodeAt g rf s vs).c := by
  intro vs
  induction vs with
  | nil => intro s _ u v _ _ h; exact h
  | cons x xs ih =>
    rintro s ⟨t, ht, hx, hp'⟩
    simp only [nodeAt, ht]
    exact (childSt_mono hg rf s hx).trans (ih _ hp')

theorem mono_levels {g : G} (hg : WF g) {rf : Nat} {s : St} {vs : List Nat} (hp : IsPath g rf s vs) {L K : Nat}
    (hLK : L ≤ K) : Mono g.n (nodeAt g rf s (vs.take L)).c (nodeAt g rf s (vs.take K)).c := by
  obtain ⟨-, h2, e⟩ := isPath_split (isPath_take vs s K hp) L
  rw [List.take_take, Nat.min_eq_left hLK] at h2 e
  rw [e]
  exact path_mono hg _ _ h2

theorem Mono.refines {n : Nat} {c0 c : Array Nat} (hm : Mono n c0 c) {u v : Nat} (hu : u < n) (hv : v < n)
    (e : col c u = col c v) : col c0 u = col c0 v :=
  Nat.le_antisymm (Nat.le_of_not_lt fun h => Nat.ne_of_gt (hm v u hv hu h) e)
    (Nat.le_of_not_lt fun h => Nat.ne_of_lt (hm u v hu hv h) e)

theorem childSt_single {g : G} (hg : WF g) (rf : Nat) (s : St) (t : Nat) {v u : Nat} (hv : v < g.n) (hu : u < g.n)
    (e : col (childSt g rf s t v).c u = col (childSt g rf s t v).c v) : u = v := by
  have e' := refine_refines hg rf (individualise g s t v) hu hv e
  by_contra hne
  rw [ind_col_self s t hv, ind_col_ne s t hu hne] at e'
  exact shift_ne t _ e'

theorem path_vertex_single {g : G} (hg : WF g) {rf : Nat} {s : St} {vs : List Nat} (hp : IsPath g rf s vs) {j K v u : Nat}
    (hj : j < K) (hv : vs[j]? = some v) (hu : u < g.n)
    (e : col (nodeAt g rf s (vs.take K)).c u = col (nodeAt g rf s (vs.take K)).c v) : u = v := by
  obtain ⟨t, -, hm, hs⟩ := path_level hp hv
  have hvn := (mem_cellMembers.1 hm).1
  have e1 := (mono_levels hg hp (Nat.succ_le_of_lt hj)).refines hu hvn e
  rw [hs] at e1
  exact childSt_single hg rf _ t hvn hu e1

theorem allLeaves_mono {g : G} (hg : WF g) (s : St) : ∀ l ∈ allLeaves g s, Mono g.n s.c l := by
  intro l hl
  obtain ⟨vs, hp, rfl, _⟩ := mem_leaves_iff.1 hl
  exact (refine_mono hg _ s).trans (path_mono hg vs _ hp)

theorem card_filter_lt {n k : Nat} {f : Nat → Nat} (honto : ∀ x, x < k → ∃ u, u < n ∧ f u = x)
    (hinj : ∀ a b, a < n → b < n → f b < k → f a = f b → a = b) :
    ((Finset.range n).filter (fun u => f u < k)).card = k := by
  have himg : ((Finset.range n).filter (fun u => f u < k)).image f = Finset.range k := by
    ext x
    simp only [Finset.mem_image, Finset.mem_filter, Finset.mem_range]
    constructor
    · rintro ⟨u, ⟨_, h⟩, rfl⟩; exact h
    · intro hx
      obtain ⟨u, hu, rfl⟩ := honto x hx
      exact ⟨u, ⟨hu, hx⟩, rfl⟩
  rw [← Finset.card_image_of_injOn (f := f), himg, Finset.card_range]
  intro a ha b hb e
  simp only [Finset.coe_filter, Finset.mem_range, Set.mem_ofPred_eq] at ha hb
  exact hinj a b ha.1 hb.1 hb.2 e

theorem perm_card_lt {n : Nat} {l : Array Nat} (hp : IsPerm n l) {p : Nat} (h : p ≤ n) :
    ((Finset.range n).filter (fun u => col l u < p)).card = p :=
  card_filter_lt (fun _ hx => perm_surj hp (Nat.lt_of_lt_of_le hx h)) (fun a b ha hb _ e => hp.2 a b ha hb e)

theorem mono_lt_card_iff {n : Nat} {c0 l : Array Nat} (hp : IsPerm n l) (hm : Mono n c0 l) (k : Nat) {v : Nat}
    (hv : v < n) : col l v < ((Finset.range n).filter (fun u => col c0 u < k)).card ↔ col c0 v < k := by
  constructor
  · intro h
    by_contra hk
    -- the vertices below `k` are in front of `v`
    have := Finset.card_le_card (s := (Finset.range n).filter (fun u => col c0 u < k))
      (t := (Finset.range n).filter (fun u => col l u < col l v)) (fun u hu => by
        rw [Finset.mem_filter] at hu ⊢
        exact ⟨hu.1, hm u v (Finset.mem_range.1 hu.1) hv (Nat.lt_of_lt_of_le hu.2 (Nat.le_of_not_lt hk))⟩)
    rw [perm_card_lt hp (Nat.le_of_lt (hp.1 v hv))] at this
    exact Nat.not_le.2 h this
  · intro hk
    -- the vertices up to the position of `v` are below `k`
    have := Finset.card_le_card (s := (Finset.range n).filter (fun u => col l u < col l v + 1))
      (t := (Finset.range n).filter (fun u => col c0 u < k)) (fun u hu => by
        rw [Finset.mem_filter] at hu ⊢
        refine ⟨hu.1, Nat.lt_of_le_of_lt (Nat.le_of_not_lt fun h => ?_) hk⟩
        exact Nat.not_le.2 (hm v u hv (Finset.mem_range.1 hu.1) h) (Nat.le_of_lt_succ hu.2))
    rw [perm_card_lt hp (hp.1 v hv)] at this
    exact this

theorem mono_singleton_pos {n : Nat} {c0 l : Array Nat} (hp : IsPerm n l) (hm : Mono n c0 l) {v : Nat} (hv : v < n)
    (hs : ∀ u, u < n → col c0 u = col c0 v → u = v) :
    col l v = ((Finset.range n).filter (fun u => col c0 u < col c0 v)).card := by
  apply Nat.le_antisymm
  · -- the vertices in front of `v` are in smaller cells
    rw [← perm_card_lt hp (Nat.le_of_lt (hp.1 v hv))]
    apply Finset.card_le_card
    intro u hu
    rw [Finset.mem_filter] at hu ⊢
    have hu' := Finset.mem_range.1 hu.1
    refine ⟨hu.1, Nat.lt_of_le_of_ne (Nat.le_of_not_lt fun h => Nat.lt_asymm hu.2 (hm v u hv hu' h)) fun e => ?_⟩
    rw [hs u hu' e] at hu
    exact Nat.lt_irrefl _ hu.2
  · exact Nat.le_of_not_lt fun h => Nat.lt_irrefl _ ((mono_lt_card_iff hp hm _ hv).1 h)

theorem class_le_of_leaves {n : Nat} {c0 l0 l : Array Nat} (hp0 : IsPerm n l0) (hp : IsPerm n l)
    (hm0 : Mono n c0 l0) (hm : Mono n c0 l) {v x : Nat} (hv : v < n) (hx : x < n) (e : col l x = col l0 v) :
    col c0 v ≤ col c0 x := by
  apply Nat.le_of_not_lt
  intro h
  have h1 := (mono_lt_card_iff hp hm (col c0 v) hx).2 h
  rw [e] at h1
  exact Nat.lt_irrefl _ ((mono_lt_card_iff hp0 hm0 (col c0 v) hv).1 h1)

theorem same_class_of_leaves {n : Nat} {c0 l0 l : Array Nat} (hp0 : IsPerm n l0) (hp : IsPerm n l)
    (hm0 : Mono n c0 l0) (hm : Mono n c0 l) {v x : Nat} (hv : v < n) (hx : x < n) (e : col l x = col l0 v) :
    col c0 x = col c0 v :=
  Nat.le_antisymm (class_le_of_leaves hp hp0 hm hm0 hx hv e.symm) (class_le_of_leaves hp0 hp hm0 hm hv hx e)

theorem autGroupFrom_classes {g : G} (hg : WF g) {s : St} (hw : s.work ≠ []) {a : Array Nat} (ha : a ∈ autGroupFrom g s)
    {v : Nat} (hv : v < g.n) : col s.c (col a v) = col s.c v := by
  obtain ⟨l0, l, h0, hl, _, rfl⟩ := mem_autGroupFrom.1 ha
  have h0 := List.mem_of_mem_head? h0
  have p0 := allLeaves_perm hg hw l0 h0
  have p := allLeaves_perm hg hw l hl
  rw [autOf_col p0 hv]
  have hr := inv_right p (p0.1 v hv)
  exact same_class_of_leaves p0 p (allLeaves_mono hg s l0 h0) (allLeaves_mono hg s l hl) hv hr.1 hr.2

end IR
