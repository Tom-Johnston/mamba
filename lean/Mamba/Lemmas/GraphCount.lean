import Mamba.Lemmas.GraphBasic
import Mamba.Spec.GraphOps
import Mathlib.Data.List.Nodup
/-!
# Counting on the abstract graph `GraphSpec.G` (property C05)

How `G.deg` and `G.m` change under the spec operations, and that the spec operations preserve `G.WF`; extensionality of
graphs, membership in `G.nbrs` and `G.edges`, the handshake lemma (`sum_deg`). The counts are taken in the two forms
`cnt k p` (how many `i < k` satisfy `p`) and `sumTo k f` (the sum of `f i` over `i < k`): `g.deg v = cnt g.n (g.adj v)` and
`g.m` is the sum over `v < g.n` of `cnt v (fun u => g.adj u v)`, and both forms have a successor equation.
-/
namespace GraphRep
open GraphSpec

def cnt (k : Nat) (p : Nat → Bool) : Nat := ((List.range k).filter p).length
def sumTo (k : Nat) (f : Nat → Nat) : Nat := ((List.range k).map f).sum

@[simp] theorem cnt_zero (p) : cnt 0 p = 0 := rfl
@[simp] theorem sumTo_zero (f) : sumTo 0 f = 0 := rfl

theorem cnt_succ (k p) : cnt (k + 1) p = cnt k p + (p k).toNat := by
  unfold cnt
  rw [List.range_succ, List.filter_append, List.length_append]
  cases h : p k <;> simp [h]

theorem sumTo_succ (k f) : sumTo (k + 1) f = sumTo k f + f k := by
  unfold sumTo
  rw [List.range_succ, List.map_append, List.sum_append]; simp

theorem cnt_congr {k : Nat} {p q : Nat → Bool} (h : ∀ i, i < k → p i = q i) : cnt k p = cnt k q := by
  induction k with
  | zero => rfl
  | succ k ih =>
    rw [cnt_succ, cnt_succ, ih (fun i hi => h i (by omega)), h k (by omega)]

theorem sumTo_congr {k : Nat} {f g : Nat → Nat} (h : ∀ i, i < k → f i = g i) : sumTo k f = sumTo k g := by
  induction k with
  | zero => rfl
  | succ k ih =>
    rw [sumTo_succ, sumTo_succ, ih (fun i hi => h i (by omega)), h k (by omega)]

theorem cnt_eq_sumTo (k p) : cnt k p = sumTo k (fun i => (p i).toNat) := by
  induction k with
  | zero => rfl
  | succ k ih => rw [cnt_succ, sumTo_succ, ih]

theorem sumTo_add (k f g) : sumTo k (fun i => f i + g i) = sumTo k f + sumTo k g := by
  induction k with
  | zero => rfl
  | succ k ih => rw [sumTo_succ, sumTo_succ, sumTo_succ, ih]; omega

theorem cnt_le (k p) : cnt k p ≤ k := by
  induction k with
  | zero => simp
  | succ k ih => rw [cnt_succ]; cases p k <;> simp <;> omega

theorem sumTo_add_one {k a : Nat} {f g : Nat → Nat} (ha : a < k) (hg : g a = f a + 1)
    (h : ∀ i, i ≠ a → g i = f i) : sumTo k g = sumTo k f + 1 := by
  induction k with
  | zero => omega
  | succ k ih =>
    rw [sumTo_succ, sumTo_succ]
    by_cases hak : a = k
    · subst hak
      rw [sumTo_congr (f := g) (g := f) (fun i hi => h i (by omega)), hg]; omega
    · rw [ih (by omega), h k (by omega)]; omega

theorem cnt_set_true {k a : Nat} {p q : Nat → Bool} (ha : a < k) (hp : p a = false) (hq : q a = true)
    (h : ∀ i, i ≠ a → q i = p i) : cnt k q = cnt k p + 1 := by
  rw [cnt_eq_sumTo, cnt_eq_sumTo]
  exact sumTo_add_one ha (by rw [hp, hq]; rfl) fun i hi => by rw [h i hi]

theorem up_lt {v a : Nat} (h : a < v) : up v a = a := by simp [up, h]
theorem up_ge {v a : Nat} (h : v ≤ a) : up v a = a + 1 := by simp [up]; omega
theorem up_ne (v a : Nat) : up v a ≠ v := by unfold up; split <;> omega

theorem sumTo_skip {n v : Nat} (f : Nat → Nat) (hv : v < n) :
    sumTo n f = sumTo (n - 1) (fun a => f (up v a)) + f v := by
  induction n with
  | zero => omega
  | succ k ih =>
    rw [sumTo_succ, Nat.add_sub_cancel]
    by_cases hvk : v = k
    · subst hvk
      rw [sumTo_congr (f := fun a => f (up v a)) (g := f) (fun i hi => by simp [up_lt hi])]
    · have hk : v < k := by omega
      rw [ih hk]
      obtain ⟨k', rfl⟩ : ∃ k', k = k' + 1 := ⟨k - 1, by omega⟩
      rw [Nat.add_sub_cancel, sumTo_succ, up_ge (by omega : v ≤ k')]; omega

theorem cnt_skip {n v : Nat} (p : Nat → Bool) (hv : v < n) :
    cnt n p = cnt (n - 1) (fun a => p (up v a)) + (p v).toNat := by
  rw [cnt_eq_sumTo, sumTo_skip _ hv, ← cnt_eq_sumTo]

theorem sumTo_below {k v : Nat} (f : Nat → Nat) (hv : v ≤ k) :
    sumTo k (fun w => if w < v then f w else 0) = sumTo v f := by
  induction k with
  | zero => have : v = 0 := by omega
            subst this; rfl
  | succ k ih =>
    rw [sumTo_succ]
    by_cases hvk : v = k + 1
    · subst hvk
      rw [sumTo_succ, sumTo_congr (f := fun w => if w < k + 1 then f w else 0) (g := f)
        (fun i hi => by simp; omega)]
      simp
    · rw [ih (by omega)]; simp; omega

theorem cnt_contains {n : Nat} {S : List Nat} (hn : S.Nodup) (hS : ∀ s ∈ S, s < n) :
    cnt n (fun w => S.contains w) = S.length := by
  unfold cnt
  apply List.Perm.length_eq
  rw [List.perm_ext_iff_of_nodup (List.nodup_range.filter _) hn]
  intro a
  simp only [List.mem_filter, List.mem_range, List.contains_iff_mem]
  exact ⟨fun h => h.2, fun h => ⟨hS a h, h⟩⟩

theorem deg_eq_cnt (g : G) (v : Nat) : g.deg v = cnt g.n (g.adj v) := rfl

theorem m_eq_sumTo (g : G) : g.m = sumTo g.n (fun v => cnt v (fun u => g.adj u v)) := by
  unfold G.m G.edges sumTo cnt
  rw [List.length_flatMap]
  simp

theorem degrees_eq (g : G) : g.degrees = (List.range g.n).map (fun v => cnt g.n (g.adj v)) := rfl

theorem addVertexG_wf {g : G} (h : g.WF) {S : List Nat} (hS : ∀ s ∈ S, s < g.n) : (addVertexG g S).WF where
  symm := by
    intro u v
    simp only [addVertexG]
    rw [h.symm u v]
    cases (u == g.n && S.contains v) <;> cases (v == g.n && S.contains u) <;> simp
  irrefl := by
    intro v
    simp only [addVertexG, h.irrefl, Bool.or_false, Bool.or_self, Bool.and_eq_false_imp, beq_iff_eq]
    intro hv
    subst hv
    cases hc : S.contains g.n
    · rfl
    · have := hS g.n (by simpa using hc); omega
  supp := by
    intro u v
    simp only [addVertexG, Bool.or_eq_true, Bool.and_eq_true, beq_iff_eq, List.contains_iff_mem]
    rintro ((⟨rfl, hv⟩ | ⟨rfl, hu⟩) | huv)
    · have := hS v hv; omega
    · have := hS u hu; omega
    · have := h.supp u v huv; omega

theorem removeVertexG_wf {g : G} (h : g.WF) {v : Nat} (hv : v < g.n) : (removeVertexG g v).WF where
  symm := by intro a b; simp only [removeVertexG]; exact h.symm _ _
  irrefl := by intro a; simp only [removeVertexG]; exact h.irrefl _
  supp := by
    intro a b hab
    simp only [removeVertexG] at hab ⊢
    have := h.supp _ _ hab
    unfold up at this
    constructor
    · split at this <;> omega
    · have := this.2; split at this <;> omega

theorem addEdgeG_wf {g : G} (h : g.WF) {i j : Nat} (hi : i < g.n) (hj : j < g.n) : (addEdgeG g i j).WF where
  symm := by
    intro u v
    simp only [addEdgeG]
    rw [h.symm u v, Bool.or_comm (u == i && v == j), Bool.and_comm (u == j), Bool.and_comm (v == j)]
  irrefl := by
    intro v
    simp only [addEdgeG, h.irrefl, Bool.false_or]
    by_cases hij : i = j
    · simp [hij]
    · cases h1 : v == i <;> cases h2 : v == j <;> simp_all
  supp := by
    intro u v
    simp only [addEdgeG, Bool.or_eq_true, Bool.and_eq_true, beq_iff_eq]
    rintro (huv | ⟨_, (⟨rfl, rfl⟩ | ⟨rfl, rfl⟩)⟩)
    · exact h.supp u v huv
    · exact ⟨hi, hj⟩
    · exact ⟨hj, hi⟩

theorem removeEdgeG_wf {g : G} (h : g.WF) (i j : Nat) : (removeEdgeG g i j).WF where
  symm := by
    intro u v
    simp only [removeEdgeG]
    rw [h.symm u v, Bool.or_comm (u == i && v == j), Bool.and_comm (u == j), Bool.and_comm (v == j)]
  irrefl := by intro v; simp [removeEdgeG, h.irrefl]
  supp := by
    intro u v
    simp only [removeEdgeG, Bool.and_eq_true]
    rintro ⟨huv, _⟩
    exact h.supp u v huv

theorem induced_wf {g : G} (h : g.WF) (V : List Nat) : (g.induced V).WF where
  symm := by
    intro u v
    simp only [G.induced]
    rw [h.symm, Bool.and_comm (decide (u < V.length))]
  irrefl := by intro v; simp [G.induced, h.irrefl]
  supp := by
    intro u v
    simp only [G.induced, Bool.and_eq_true, decide_eq_true_eq]
    rintro ⟨⟨hu, hv⟩, _⟩
    exact ⟨hu, hv⟩

theorem addVertexG_adj_true (g : G) (S : List Nat) (u v : Nat) :
    (addVertexG g S).adj u v = true ↔ (u = g.n ∧ v ∈ S) ∨ (v = g.n ∧ u ∈ S) ∨ g.adj u v = true := by
  simp [addVertexG, or_assoc]

theorem addEdgeG_adj_true (g : G) {i j : Nat} (hij : i ≠ j) (u v : Nat) :
    (addEdgeG g i j).adj u v = true ↔ g.adj u v = true ∨ (u = i ∧ v = j) ∨ (u = j ∧ v = i) := by
  have : (i != j) = true := by simpa using hij
  simp [addEdgeG, this]

theorem removeEdgeG_adj_true (g : G) (i j u v : Nat) :
    (removeEdgeG g i j).adj u v = true ↔ g.adj u v = true ∧ (u = i → ¬ v = j) ∧ (u = j → ¬ v = i) := by
  simp only [removeEdgeG, Bool.and_eq_true, Bool.not_eq_true', Bool.or_eq_false_iff, Bool.and_eq_false_imp,
    beq_iff_eq, beq_eq_false_iff_ne, ne_eq]

theorem G_ext {g h : G} (hn : g.n = h.n) (ha : ∀ u v, g.adj u v = h.adj u v) : g = h := by
  cases g; cases h; simp only [G.mk.injEq] at *
  exact ⟨hn, funext fun u => funext fun v => ha u v⟩

theorem _root_.GraphSpec.G.WF.ext_lt {g h : G} (hg : g.WF) (hh : h.WF) (hn : g.n = h.n)
    (ha : ∀ u v, u < v → g.adj u v = h.adj u v) : g = h := by
  refine G_ext hn fun u v => ?_
  rcases Nat.lt_trichotomy u v with huv | rfl | huv
  · exact ha u v huv
  · rw [hg.irrefl, hh.irrefl]
  · rw [hg.symm, hh.symm]; exact ha v u huv

theorem addEdgeG_comm (g : G) (i j : Nat) : addEdgeG g i j = addEdgeG g j i := by
  refine G_ext rfl ?_
  intro u v
  simp only [addEdgeG]
  rw [bne_comm, Bool.or_comm (u == i && v == j)]

theorem addEdgeG_noop {g : G} (h : g.WF) {i j : Nat} (hij : i = j ∨ g.adj i j = true) : addEdgeG g i j = g := by
  refine G_ext rfl ?_
  intro u v
  simp only [addEdgeG]
  rcases hij with rfl | hadj
  · simp
  · by_cases h1 : u = i ∧ v = j
    · obtain ⟨rfl, rfl⟩ := h1; simp [hadj]
    · by_cases h2 : u = j ∧ v = i
      · obtain ⟨rfl, rfl⟩ := h2; rw [h.symm]; simp [hadj]
      · have e1 : (u == i && v == j) = false := by simpa using h1
        have e2 : (u == j && v == i) = false := by simpa using h2
        simp [e1, e2]

theorem removeEdgeG_noop {g : G} (h : g.WF) {i j : Nat} (hadj : g.adj i j = false) : removeEdgeG g i j = g := by
  refine G_ext rfl ?_
  intro u v
  simp only [removeEdgeG]
  by_cases h1 : u = i ∧ v = j
  · obtain ⟨rfl, rfl⟩ := h1; simp [hadj]
  · by_cases h2 : u = j ∧ v = i
    · obtain ⟨rfl, rfl⟩ := h2; rw [h.symm]; simp [hadj]
    · have e1 : (u == i && v == j) = false := by simpa using h1
      have e2 : (u == j && v == i) = false := by simpa using h2
      simp [e1, e2]

theorem addEdgeG_removeEdgeG {g : G} (h : g.WF) {i j : Nat} (hij : i ≠ j) (hadj : g.adj i j = true) :
    addEdgeG (removeEdgeG g i j) i j = g := by
  refine G_ext rfl ?_
  intro u v
  simp only [addEdgeG, removeEdgeG]
  by_cases h1 : u = i ∧ v = j
  · obtain ⟨rfl, rfl⟩ := h1; simp [hadj, hij]
  · by_cases h2 : u = j ∧ v = i
    · obtain ⟨rfl, rfl⟩ := h2; rw [h.symm]; simp [hadj, hij]
    · have e1 : (u == i && v == j) = false := by simpa using h1
      have e2 : (u == j && v == i) = false := by simpa using h2
      simp [e1, e2]

theorem removeEdgeG_adj_self (g : G) (i j : Nat) : (removeEdgeG g i j).adj i j = false := by
  simp [removeEdgeG]

theorem deg_addEdgeG {g : G} (h : g.WF) {i j : Nat} (hi : i < g.n) (hj : j < g.n) (hij : i ≠ j)
    (hadj : g.adj i j = false) (u : Nat) :
    (addEdgeG g i j).deg u = g.deg u + (if u = i ∨ u = j then 1 else 0) := by
  rw [deg_eq_cnt, deg_eq_cnt]
  show cnt g.n ((addEdgeG g i j).adj u) = _
  by_cases hui : u = i
  · subst hui
    rw [cnt_set_true (a := j) (p := g.adj u) hj hadj]
    · simp
    · simp [addEdgeG, hij]
    · intro w hw
      have : (w == j) = false := by simpa using hw
      have e : (u == j) = false := by simpa using hij
      simp [addEdgeG, this, e]
  · by_cases huj : u = j
    · subst huj
      rw [cnt_set_true (a := i) (p := g.adj u) hi (by rw [h.symm]; exact hadj)]
      · simp
      · simp [addEdgeG, hij]
      · intro w hw
        have : (w == i) = false := by simpa using hw
        have e : (u == i) = false := by simpa using hui
        simp [addEdgeG, this, e]
    · have e1 : (u == i) = false := by simpa using hui
      have e2 : (u == j) = false := by simpa using huj
      rw [cnt_congr (q := g.adj u)]
      · simp [hui, huj]
      · intro w _; simp [addEdgeG, e1, e2]

theorem m_addEdgeG_lt {g : G} {i j : Nat} (hj : j < g.n) (hij : i < j)
    (hadj : g.adj i j = false) : (addEdgeG g i j).m = g.m + 1 := by
  rw [m_eq_sumTo, m_eq_sumTo]
  show sumTo g.n (fun v => cnt v (fun u => (addEdgeG g i j).adj u v)) = _
  apply sumTo_add_one (a := j) hj
  · apply cnt_set_true (a := i) hij hadj
    · have : (i != j) = true := by simp; omega
      simp [addEdgeG, this]
    · intro w hw
      have : (w == i) = false := by simpa using hw
      have e : (j == i) = false := by simp; omega
      simp [addEdgeG, this, e]
  · intro v hv
    apply cnt_congr
    intro u hu
    have e1 : (v == j) = false := by simpa using hv
    have e2 : (u == j && v == i) = false := by
      simp only [Bool.and_eq_false_imp, beq_iff_eq, beq_eq_false_iff_ne]; intro a b; omega
    simp [addEdgeG, e1, e2]

theorem m_addEdgeG {g : G} (h : g.WF) {i j : Nat} (hi : i < g.n) (hj : j < g.n) (hij : i ≠ j)
    (hadj : g.adj i j = false) : (addEdgeG g i j).m = g.m + 1 := by
  by_cases hlt : i < j
  · exact m_addEdgeG_lt hj hlt hadj
  · rw [addEdgeG_comm]
    exact m_addEdgeG_lt hi (by omega) (by rw [h.symm]; exact hadj)

theorem deg_removeEdgeG {g : G} (h : g.WF) {i j : Nat} (hi : i < g.n) (hj : j < g.n) (hij : i ≠ j)
    (hadj : g.adj i j = true) (u : Nat) :
    (removeEdgeG g i j).deg u + (if u = i ∨ u = j then 1 else 0) = g.deg u := by
  have := deg_addEdgeG (removeEdgeG_wf h i j) (i := i) (j := j) hi hj hij (removeEdgeG_adj_self g i j) u
  rw [addEdgeG_removeEdgeG h hij hadj] at this
  exact this.symm

theorem m_removeEdgeG {g : G} (h : g.WF) {i j : Nat} (hi : i < g.n) (hj : j < g.n) (hij : i ≠ j)
    (hadj : g.adj i j = true) : (removeEdgeG g i j).m + 1 = g.m := by
  have := m_addEdgeG (removeEdgeG_wf h i j) (i := i) (j := j) hi hj hij (removeEdgeG_adj_self g i j)
  rw [addEdgeG_removeEdgeG h hij hadj] at this
  exact this.symm

theorem addVertexG_adj_old {g : G} (S : List Nat) {u w : Nat} (hu : u < g.n) (hw : w < g.n) :
    (addVertexG g S).adj u w = g.adj u w := by
  have e1 : (u == g.n) = false := by simp; omega
  have e2 : (w == g.n) = false := by simp; omega
  simp [addVertexG, e1, e2]

theorem addVertexG_adj_new {g : G} (h : g.WF) (S : List Nat) {u : Nat} (hu : u < g.n) :
    (addVertexG g S).adj u g.n = S.contains u := by
  have e1 : (u == g.n) = false := by simp; omega
  have e2 : g.adj u g.n = false := by
    cases hc : g.adj u g.n
    · rfl
    · have := (h.supp _ _ hc).2; omega
  simp [addVertexG, e1, e2]

theorem deg_addVertexG_old {g : G} (h : g.WF) (S : List Nat) {u : Nat} (hu : u < g.n) :
    (addVertexG g S).deg u = g.deg u + (S.contains u).toNat := by
  rw [deg_eq_cnt, deg_eq_cnt]
  show cnt (g.n + 1) _ = _
  rw [cnt_succ, addVertexG_adj_new h S hu]
  congr 1
  exact cnt_congr fun w hw => addVertexG_adj_old S hu hw

theorem deg_addVertexG_new {g : G} (h : g.WF) {S : List Nat} (hn : S.Nodup) (hS : ∀ s ∈ S, s < g.n) :
    (addVertexG g S).deg g.n = S.length := by
  have hwf := addVertexG_wf h hS
  rw [deg_eq_cnt]
  show cnt (g.n + 1) _ = _
  rw [cnt_succ, hwf.irrefl, ← cnt_contains hn hS]
  simp only [Bool.toNat_false, Nat.add_zero]
  exact cnt_congr fun w hw => by rw [hwf.symm, addVertexG_adj_new h S hw]

theorem m_addVertexG {g : G} (h : g.WF) {S : List Nat} (hn : S.Nodup) (hS : ∀ s ∈ S, s < g.n) :
    (addVertexG g S).m = g.m + S.length := by
  rw [m_eq_sumTo, m_eq_sumTo]
  show sumTo (g.n + 1) _ = _
  rw [sumTo_succ, ← cnt_contains hn hS]
  congr 1
  · exact sumTo_congr fun v hv => cnt_congr fun u hu => addVertexG_adj_old S (by omega) hv
  · exact cnt_congr fun w hw => addVertexG_adj_new h S hw

theorem deg_removeVertexG (g : G) {v : Nat} (hv : v < g.n) (a : Nat) :
    (removeVertexG g v).deg a + (g.adj (up v a) v).toNat = g.deg (up v a) := by
  rw [deg_eq_cnt, deg_eq_cnt, cnt_skip (g.adj (up v a)) hv]
  rfl

theorem m_removeVertexG {g : G} (h : g.WF) {v : Nat} (hv : v < g.n) :
    (removeVertexG g v).m + g.deg v = g.m := by
  -- the edges above `v` that disappear
  let H : Nat → Nat := fun a => if v ≤ a then (g.adj v (a + 1)).toNat else 0
  have hrow : ∀ a, a < g.n - 1 →
      cnt (up v a) (fun u => g.adj u (up v a)) =
        cnt a (fun u => g.adj (up v u) (up v a)) + H a := by
    intro a _
    by_cases hav : a < v
    · have : H a = 0 := by simp [H]; omega
      rw [this, up_lt hav, Nat.add_zero]
      exact cnt_congr fun u hu => by rw [up_lt (by omega : u < v)]
    · have hva : v ≤ a := by omega
      have : H a = (g.adj v (a + 1)).toNat := by simp [H, hva]
      rw [this, up_ge hva, cnt_skip (fun u => g.adj u (a + 1)) (by omega : v < a + 1), Nat.add_sub_cancel]
  have hm : g.m = (removeVertexG g v).m + sumTo (g.n - 1) H + cnt v (fun u => g.adj u v) := by
    rw [m_eq_sumTo g, sumTo_skip (fun w => cnt w (fun u => g.adj u w)) hv, sumTo_congr hrow, sumTo_add,
      m_eq_sumTo (removeVertexG g v)]
    rfl
  have hd : g.deg v = cnt v (fun u => g.adj u v) + sumTo (g.n - 1) H := by
    rw [deg_eq_cnt, cnt_skip (g.adj v) hv, h.irrefl, cnt_eq_sumTo]
    simp only [Bool.toNat_false, Nat.add_zero]
    rw [sumTo_congr (g := fun a => (if a < v then (g.adj v a).toNat else 0) + H a), sumTo_add,
      sumTo_below _ (by omega : v ≤ g.n - 1), ← cnt_eq_sumTo]
    · congr 1
      exact cnt_congr fun u _ => h.symm v u
    · intro a _
      by_cases hav : a < v
      · have : H a = 0 := by simp [H]; omega
        rw [this, up_lt hav]; simp [hav]
      · have hva : v ≤ a := by omega
        have : H a = (g.adj v (a + 1)).toNat := by simp [H, hva]
        rw [this, up_ge hva]; simp [hav]
  omega

theorem up_lt_up {v a b : Nat} (h : a < b) : up v a < up v b := by
  unfold up; split <;> split <;> omega

theorem cnt_false (k : Nat) : cnt k (fun _ => false) = 0 := by
  induction k with
  | zero => rfl
  | succ k ih => rw [cnt_succ, ih]; rfl

theorem sumTo_const_zero (k : Nat) : sumTo k (fun _ => 0) = 0 := by
  induction k with
  | zero => rfl
  | succ k ih => rw [sumTo_succ, ih]

theorem empty_counts {g : G} (h : ∀ u v, g.adj u v = false) : g.m = 0 ∧ ∀ v, g.deg v = 0 := by
  constructor
  · rw [m_eq_sumTo, sumTo_congr (g := fun _ => 0) (fun v _ => by
      rw [cnt_congr (q := fun _ => false) (fun u _ => h u v), cnt_false]), sumTo_const_zero]
  · intro v
    rw [deg_eq_cnt, cnt_congr (q := fun _ => false) (fun u _ => h v u), cnt_false]

theorem nbrs_pairwise (g : G) (v : Nat) : (g.nbrs v).Pairwise (· < ·) :=
  List.Pairwise.filter _ List.pairwise_lt_range

theorem mem_nbrs {g : G} (h : g.WF) (v u : Nat) : u ∈ g.nbrs v ↔ g.adj v u = true :=
  G.mem_nbrs.trans ⟨fun x => x.2, fun x => ⟨(h.supp _ _ x).2, x⟩⟩

theorem _root_.GraphSpec.G.mem_edges {g : G} {u v : Nat} : (u, v) ∈ g.edges ↔ u < v ∧ v < g.n ∧ g.adj u v = true := by
  simp only [G.edges, List.mem_flatMap, List.mem_range, List.mem_map, List.mem_filter, Prod.mk.injEq]
  constructor
  · rintro ⟨b, hb, a, ⟨ha, hadj⟩, rfl, rfl⟩
    exact ⟨ha, hb, hadj⟩
  · rintro ⟨h1, h2, h3⟩
    exact ⟨v, h2, u, ⟨h1, h3⟩, rfl, rfl⟩

theorem _root_.GraphSpec.G.nodup_edges (g : G) : g.edges.Nodup := by
  simp only [G.edges]
  rw [List.nodup_flatMap]
  refine ⟨fun v _ => ?_, ?_⟩
  · exact ((List.nodup_range).sublist List.filter_sublist).map (fun a b h => by simpa using h)
  · refine List.Pairwise.imp_of_mem (R := fun a b => a ≠ b) ?_ (List.nodup_range (n := g.n))
    intro a b _ _ hab e hea heb
    apply hab
    obtain ⟨x, _, rfl⟩ := List.mem_map.1 hea
    obtain ⟨y, _, h⟩ := List.mem_map.1 heb
    exact (Prod.mk.inj h).2.symm

theorem sum_deg {g : G} (h : g.WF) : ((List.range g.n).map g.deg).sum = 2 * g.m := by
  show sumTo g.n g.deg = 2 * g.m
  generalize hn : g.n = n
  induction n generalizing g with
  | zero => rw [m_eq_sumTo, hn]; rfl
  | succ k ih =>
    have hv : k < g.n := by omega
    have hw := removeVertexG_wf h hv
    have hn' : (removeVertexG g k).n = k := by simp [removeVertexG, hn]
    have ih' := ih hw hn'
    have hm := m_removeVertexG h hv
    have hdeg : ∀ a, a < k → g.deg a = (removeVertexG g k).deg a + (g.adj a k).toNat := by
      intro a ha
      have := deg_removeVertexG g hv a
      rw [up_lt ha] at this
      omega
    have hlast : g.deg k = cnt k (fun a => g.adj a k) := by
      rw [deg_eq_cnt, hn, cnt_succ, h.irrefl]
      simp only [Bool.toNat_false, Nat.add_zero]
      exact cnt_congr fun a _ => h.symm k a
    rw [sumTo_succ, sumTo_congr hdeg, sumTo_add, ih', ← cnt_eq_sumTo, ← hlast]
    omega

theorem induced_adj (g : G) (V : List Nat) {i j : Nat} (hi : i < V.length) (hj : j < V.length) :
    (g.induced V).adj i j = g.adj (V.getD i 0) (V.getD j 0) := by
  simp [G.induced, hi, hj]

end GraphRep
