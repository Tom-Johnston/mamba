import Mamba.Lemmas.ExactStruct
import Mamba.Lemmas.IsoPreds
/-! The masks `addAugmentations` pushes for the sizes 0 and 1 are blocks like those of the larger sizes (`blockOK_zero`,
`blockOK_one`); the three statements about `isCanonical` that the exactness argument uses (`CanonSpecs`). -/
namespace Search
open GSearch

section
open Disjoint GraphSpec

/-- the neighbour masks of size 1: the roots of the orbit structure -/
def rootMasks (orb : DS) : List Nat :=
  (orb.toList.zipIdx.filter fun vi => decide (vi.1 < 0)).map fun vi => 1 <<< vi.2

theorem forall2_of_mem_flatten {α : Type} {R : Nat → List α → Prop} :
    ∀ {ks : List Nat} {blocks : List (List α)}, List.Forall₂ R ks blocks → ∀ x ∈ blocks.flatten,
      ∃ k ∈ ks, ∃ b, R k b ∧ x ∈ b ∧ ∀ y ∈ b, y ∈ blocks.flatten
  | _, _, .nil, x, hx => by simp at hx
  | _, _, .cons (a := k) (b := b) (l₁ := ks) (l₂ := bs) h hrest, x, hx => by
    simp only [List.flatten_cons, List.mem_append] at hx
    rcases hx with hx | hx
    · exact ⟨k, List.mem_cons_self, b, h, hx, fun y hy => by simp [hy]⟩
    · obtain ⟨k', hk', b', hr, hxb, hsub⟩ := forall2_of_mem_flatten hrest x hx
      exact ⟨k', List.mem_cons_of_mem _ hk', b', hr, hxb, fun y hy => by simp [hsub y hy]⟩

theorem forall2_block {α : Type} {R : Nat → List α → Prop} :
    ∀ {ks : List Nat} {blocks : List (List α)}, List.Forall₂ R ks blocks → ∀ k ∈ ks,
      ∃ b, R k b ∧ ∀ y ∈ b, y ∈ blocks.flatten
  | _, _, .nil, k, hk => by simp at hk
  | _, _, .cons (a := k0) (b := b) (l₁ := ks) (l₂ := bs) h hrest, k, hk => by
    rcases List.mem_cons.1 hk with rfl | hk
    · exact ⟨b, h, fun y hy => by simp [hy]⟩
    · obtain ⟨b', hr, hsub⟩ := forall2_block hrest k hk
      exact ⟨b', hr, fun y hy => by simp [hsub y hy]⟩

theorem mem_rootMasks {orb : DS} {x : Nat} :
    x ∈ rootMasks orb ↔ ∃ i, i < orb.size ∧ orb.getD i 0 < 0 ∧ x = 1 <<< i := by
  unfold rootMasks
  simp only [List.mem_map, List.mem_filter, decide_eq_true_eq]
  constructor
  · rintro ⟨⟨v, i⟩, ⟨hm, hneg⟩, rfl⟩
    have := List.mem_zipIdx_iff_getElem?.1 hm
    simp only [Array.getElem?_toList] at this
    obtain ⟨hi, he⟩ := Array.getElem?_eq_some_iff.1 this
    refine ⟨i, hi, ?_, rfl⟩
    simp only [Array.getD_eq_getD_getElem?, Array.getElem?_eq_getElem hi, Option.getD_some, he]
    exact hneg
  · rintro ⟨i, hi, hneg, rfl⟩
    refine ⟨(orb[i], i), ⟨?_, ?_⟩, rfl⟩
    · rw [List.mem_zipIdx_iff_getElem?]; simp [hi]
    · simpa [Array.getD_eq_getD_getElem?, Array.getElem?_eq_getElem hi] using hneg

theorem rootMasks_pairwise {g : DG} {orb : DS} {gens : List (Array Nat)} (hd : AutData g orb gens) :
    (rootMasks orb).Pairwise fun x y => ¬ ExtEquiv g (bitsOf x) g (bitsOf y) := by
  unfold rootMasks
  rw [List.pairwise_map]
  have hnd : (orb.toList.zipIdx).Pairwise fun a b => a.2 ≠ b.2 := by
    have : ((orb.toList.zipIdx).map Prod.snd).Nodup := by
      rw [List.zipIdx_map_snd]; exact List.nodup_range' (s := 0) (n := orb.toList.length) 1 (by decide)
    exact List.pairwise_map.1 this
  refine (hnd.filter _).imp_of_mem ?_
  rintro ⟨v, i⟩ ⟨v', i'⟩ h1 h2 hne e
  have m1 : (1 <<< i) ∈ rootMasks orb := List.mem_map.2 ⟨(v, i), h1, rfl⟩
  have m2 : (1 <<< i') ∈ rootMasks orb := List.mem_map.2 ⟨(v', i'), h2, rfl⟩
  obtain ⟨j, hj, hjn, hje⟩ := mem_rootMasks.1 m1
  obtain ⟨j', hj', hjn', hje'⟩ := mem_rootMasks.1 m2
  have ej : i = j := by
    have : i ∈ bitsOf (1 <<< j) := by rw [← hje]; exact mem_bitsOf_shift.2 rfl
    exact mem_bitsOf_shift.1 this
  have ej' : i' = j' := by
    have : i' ∈ bitsOf (1 <<< j') := by rw [← hje']; exact mem_bitsOf_shift.2 rfl
    exact mem_bitsOf_shift.1 this
  subst ej; subst ej'
  simp only at hne e
  obtain ⟨-, σ, hσ, hadj, hS⟩ := e
  rw [hd.size] at hj hj'
  have := (hS i hj).1 (mem_bitsOf_shift.2 rfl)
  have hσi : σ i = i' := mem_bitsOf_shift.1 this
  have hrep := (hd.orbits i i' hj hj').2 ⟨σ, ⟨hσ, hadj⟩, hσi⟩
  rw [rep_of_root orb i hjn, rep_of_root orb i' hjn'] at hrep
  exact hne hrep

theorem minInts_mem {a : Array Int} {m : Int} (h : minInts a = .ok m) : ∃ i, i < a.size ∧ a[i]? = some m := by
  unfold minInts at h
  split at h
  · cases h
  · rename_i x hx
    simp only [Outcome.ok.injEq] at h
    have key : ∀ (l : List Int) (init : Int), (init = x ∨ init ∈ a.toList) → (∀ v ∈ l, v ∈ a.toList) →
        (l.foldl (fun m v => if v < m then v else m) init = x ∨
          l.foldl (fun m v => if v < m then v else m) init ∈ a.toList) := by
      intro l
      induction l with
      | nil => intro init hi _; exact hi
      | cons v vs ih =>
        intro init hi hl
        simp only [List.foldl_cons]
        apply ih
        · split
          · exact Or.inr (hl v List.mem_cons_self)
          · exact hi
        · exact fun w hw => hl w (List.mem_cons_of_mem _ hw)
    have hx0 : x ∈ a.toList := by
      have := Array.getElem?_eq_some_iff.1 hx
      obtain ⟨h0, he⟩ := this
      rw [← he]; simp
    have := key a.toList x (Or.inl rfl) (fun v hv => hv)
    rw [← Array.foldl_toList] at h
    rw [h] at this
    have hm : m ∈ a.toList := by
      rcases this with h1 | h1
      · rw [h1]; exact hx0
      · exact h1
    obtain ⟨i, hi, he⟩ := List.getElem_of_mem hm
    exact ⟨i, by simpa using hi, by simp [Array.getElem?_eq_getElem (by simpa using hi : i < a.size)]; simpa using he⟩

theorem blockOK_zero (g : DG) : BlockOK g 0 [0] where
  form := fun x hx => ⟨[], ⟨rfl, List.Pairwise.nil, fun _ h => nomatch h⟩, by rw [List.mem_singleton.1 hx]; rfl⟩
  complete := fun c hc => ⟨0, List.mem_singleton.2 rfl, by
    rw [List.length_eq_zero_iff.1 hc.1, bitsOf_zero]; exact ExtEquiv.refl g []⟩
  distinct := List.pairwise_singleton _ _

theorem maskOf_single (i : Nat) : maskOf [i] = 1 <<< i := by simp [maskOf]

theorem blockOK_one {g : DG} {orb : DS} {gens : List (Array Nat)} (hd : AutData g orb gens) :
    BlockOK g 1 (rootMasks orb) where
  form := fun x hx => by
    obtain ⟨i, hi, -, rfl⟩ := mem_rootMasks.1 hx
    exact ⟨[i], ⟨rfl, List.pairwise_singleton _ _, fun v hv => by
      rw [List.mem_singleton.1 hv, ← hd.size]; exact hi⟩, (maskOf_single i).symm⟩
  complete := fun c hc => by
    obtain ⟨t, rfl⟩ := List.length_eq_one_iff.1 hc.1
    have htlt : t < g.nv := hc.2.2 t List.mem_cons_self
    have htO : t < orb.size := hd.size ▸ htlt
    have hj : rep orb t < orb.size := rep_lt hd.inv t htO
    refine ⟨1 <<< rep orb t, mem_rootMasks.2 ⟨_, hj, rep_isRoot hd.inv t htO, rfl⟩, ?_⟩
    obtain ⟨σ, hσ, hσt⟩ := (hd.orbits t (rep orb t) htlt (hd.size ▸ hj)).1 (rep_rep hd.inv t htO).symm
    refine ⟨rfl, σ, hσ.1, hσ.2, fun v hv => ?_⟩
    rw [mem_bitsOf_shift, List.mem_singleton]
    exact ⟨fun h => h ▸ hσt, fun h => hσ.1.inj v t hv htlt (h.trans hσt.symm)⟩
  distinct := rootMasks_pairwise hd

theorem sizes_lt (m : Nat) : (0 :: 1 :: List.range' 2 m).Pairwise (· < ·) := by
  have : (0 :: 1 :: List.range' 2 m) = List.range' 0 (m + 2) := by
    rw [List.range'_succ, List.range'_succ]
  rw [this]; exact List.pairwise_lt_range'

end

section
open GraphSpec

structure CanonSpecs (O : Oracle) (n : Nat) : Prop where
  canon_iso : ∀ {P1 P2 g1 g2 : DG} {x1 x2 : Nat} {c1 c2 : Option Ans}, Built P1 → Built P2 → P1.nv < n → P2.nv < n →
    InRange P1 x1 → InRange P2 x2 → AccK O n P1 x1 g1 c1 → AccK O n P2 x2 g2 c2 → IsoD g1 g2 →
    ExtEquiv P1 (bitsOf x1) P2 (bitsOf x2)
  canon_inv : ∀ {P1 P2 g1 g2 : DG} {x1 x2 : Nat} {c1 c2 : Option Ans} {b : Bool}, Built P1 → Built P2 →
    P1.nv < n → P2.nv < n → InRange P1 x1 → InRange P2 x2 → AccK O n P1 x1 g1 c1 → ExtEquiv P1 (bitsOf x1) P2 (bitsOf x2) →
    P2.addVertex (bitsOf x2) = .ok g2 → isCanonical O n g2 (bitsOf x2) none = .ok (c2, b) → b = true
  canon_exists : ∀ (Y : G), Y.WF → 2 ≤ Y.n → Y.n ≤ n →
    ∃ (P g2 : DG) (x : Nat) (c : Option Ans), Built P ∧ InRange P x ∧ AccK O n P x g2 c ∧ Iso Y g2.toG

end

end Search
