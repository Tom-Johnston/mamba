import Mamba.Lemmas.DistanceModel
import Mamba.Lemmas.DistanceEcc
import Mamba.Lemmas.DistanceComp
/-!
# Lemmas for C10: the faithful model of `Eccentricity` returns the reference eccentricities

Reuses the queue invariant `DInv` of `DistanceModel.lean` with target `j := i` (the source is never labelled because
of the `l != i` guard) and adds the counters `e` (largest label) and `seenVertices` (number of labelled vertices, the
complement of the zero count in the fuel measure).
-/
namespace GDist
open GraphSpec

/-- the counters of `Eccentricity`: `seen` counts the labelled entries (the zeros are the rest), `e` is the largest
label -/
structure CInv (g : G) (i : Nat) (D : Array Nat) (e seen : Nat) : Prop where
  cnt : seen + D.count 0 = g.n
  le : ∀ v, lbl D v ≤ e
  att : e = 0 ∨ ∃ v, v < g.n ∧ v ≠ i ∧ lbl D v = e

variable {g : G} {i : Nat}

theorem cinv_init : CInv g i (Array.replicate g.n 0) 0 0 :=
  { cnt := by rw [Array.count_replicate_self, Nat.zero_add],
    le := fun v => by rw [lbl_replicate]; exact Nat.le_refl _, att := .inl rfl }

theorem cinv_label {D : Array Nat} {e seen d v : Nat} (c : CInv g i D e seen)
    (hv : v < D.size) (hsize : D.size = g.n) (hvi : v ≠ i) (hz : lbl D v = 0) :
    CInv g i (D.set v (d+1) hv) (if d + 1 > e then d + 1 else e) (seen + 1) := by
  have hvn : v < g.n := by rw [← hsize]; exact hv
  have hl : ∀ w, lbl (D.set v (d+1) hv) w = if w = v then d + 1 else lbl D w := fun w => lbl_set hv
  generalize he' : (if d + 1 > e then d + 1 else e) = e'
  have he : e ≤ e' ∧ d + 1 ≤ e' ∧ (e' = d + 1 ∨ (e' = e ∧ d + 1 ≤ e)) := by rw [← he']; split <;> omega
  refine { cnt := ?_, le := ?_, att := ?_ }
  · rw [← c.cnt, ← count_label (d := d) hv ((lbl_of_lt hv).trans hz)]; omega
  · intro w
    rw [hl]
    split
    · exact he.2.1
    · exact Nat.le_trans (c.le w) he.1
  · right
    rcases he.2.2 with h | ⟨h, hde⟩
    · exact ⟨v, hvn, hvi, by rw [hl, if_pos rfl, h]⟩
    · rcases c.att with h0 | ⟨w, hw, hwi, hwe⟩
      · rw [h0] at hde; exact absurd hde (Nat.not_succ_le_zero d)
      · have hwv : w ≠ v := by
          rintro rfl
          rw [hwe] at hz; rw [hz] at hde
          exact Nat.not_succ_le_zero d hde
        exact ⟨w, hw, hwi, by rw [hl, if_neg hwv, hwe, h]⟩

theorem eccInner_spec {d : Nat} {A' : List Nat} {k : Nat} (hkd : k ≠ i → IsDist g i k d) :
    ∀ (vs : List Nat) (B : List Nat) (D : Array Nat) (e seen : Nat),
      DInv g i i d A' B D k vs → CInv g i D e seen →
      (∀ v ∈ vs, v < g.n ∧ g.adj k v = true) →
      ∃ D' B' e' seen',
        Model.eccInner i d vs { D := D, Q := A' ++ B, e := e, seen := seen } =
          .ok { D := D', Q := A' ++ B', e := e', seen := seen' } ∧
        DInv g i i d A' B' D' k [] ∧ CInv g i D' e' seen' ∧
        (A' ++ B').length + D'.count 0 = (A' ++ B).length + D.count 0 := by
  intro vs
  induction vs with
  | nil =>
    intro B D e seen inv c _
    exact ⟨D, B, e, seen, rfl, inv, c, rfl⟩
  | cons v vs ih =>
    intro B D e seen inv c hvs
    have ⟨hvn, hadj⟩ := hvs v List.mem_cons_self
    have hvs' : ∀ w ∈ vs, w < g.n ∧ g.adj k w = true := fun w hw => hvs w (List.mem_cons_of_mem _ hw)
    have hvD : v < D.size := by rw [inv.size]; exact hvn
    unfold Model.eccInner
    simp only [hvD, dif_pos]
    rw [lbl_of_lt hvD]
    by_cases hcond : v ≠ i ∧ lbl D v = 0
    · simp only [hcond, ne_eq, not_false_eq_true, and_self, if_true]
      obtain ⟨hvi, hz⟩ := hcond
      have inv' := dinv_label inv hkd hadj hvD hz hvi
      have c' := cinv_label (d := d) c hvD inv.size hvi hz
      obtain ⟨D', B', e', seen', h1, h2, h3, h4⟩ := ih (B ++ [v]) _ _ _ inv' c' hvs'
      rw [← List.append_assoc] at h1 h4
      refine ⟨D', B', e', seen', h1, h2, h3, ?_⟩
      exact h4.trans (measure_label _ hvD ((lbl_of_lt hvD).trans hz))
    · simp only [hcond, if_false]
      have hnz : v ≠ i → lbl D v ≠ 0 := fun h1 h2 => hcond ⟨h1, h2⟩
      exact ih B D e seen (dinv_skip inv hnz) c hvs'

theorem eccOuter_spec :
    ∀ (fuel : Nat) (D : Array Nat) (Q : List Nat) (e seen : Nat) (d : Nat) (A B : List Nat) (k0 : Nat),
      Q = A ++ B → DInv g i i d A B D k0 [] → CInv g i D e seen → Q.length + D.count 0 + 1 ≤ fuel →
      ∃ D' e' seen' d' k', Model.eccOuter g i fuel { D := D, Q := Q, e := e, seen := seen } =
          .ok { D := D', Q := [], e := e', seen := seen' } ∧
        DInv g i i d' [] [] D' k' [] ∧ CInv g i D' e' seen' := by
  intro fuel
  induction fuel with
  | zero => intro D Q e seen d A B k0 _ _ _ hf; omega
  | succ f ih =>
    intro D Q e seen d A B k0 hQ inv c hf
    cases Q with
    | nil =>
      obtain ⟨hA, hB⟩ := List.append_eq_nil_iff.1 hQ.symm
      subst hA; subst hB
      exact ⟨D, e, seen, d, k0, by simp [Model.eccOuter], inv, c⟩
    | cons k Q' =>
      obtain ⟨d', A', B', hQ', hkD, hkl, hkd, inv2⟩ := dinv_next inv hQ
      have hnb : ∀ v ∈ g.nbrs k, v < g.n ∧ g.adj k v = true := fun v hv => G.mem_nbrs.1 hv
      obtain ⟨D', B'', e', seen', h1, h2, h3, h4⟩ :=
        eccInner_spec hkd (g.nbrs k) B' D e seen inv2 c hnb
      simp only [Model.eccOuter, hkD, dif_pos]
      rw [lbl_of_lt hkD, hkl, hQ', h1]
      simp only
      apply ih D' (A' ++ B'') e' seen' d' A' B'' k rfl h2 h3
      rw [h4, ← hQ']
      simp only [List.length_cons] at hf
      omega

/-- `seenVertices == n-1` iff the source's own entry is the only zero left -/
theorem cinv_seen_iff {D : Array Nat} {e seen : Nat} (c : CInv g i D e seen) (hsize : D.size = g.n) (hi : i < g.n)
    (h0 : lbl D i = 0) : seen = g.n - 1 ↔ ∀ v, v < g.n → v ≠ i → lbl D v ≠ 0 := by
  have hiD : i < D.size := hsize ▸ hi
  -- without the source's entry there are `D.count 0 - 1` zeros
  have hc := count_label (d := 0) hiD ((lbl_of_lt hiD).trans h0)
  have hs : seen = g.n - 1 ↔ (D.set i (0 + 1) hiD).count 0 = 0 := by
    rw [← c.cnt, ← hc, ← Nat.add_assoc, Nat.add_sub_cancel]
    exact ⟨fun h => Nat.add_left_cancel (h.symm.trans (Nat.add_zero seen).symm), fun h => by rw [h, Nat.add_zero]⟩
  rw [hs, Array.count_eq_zero]
  constructor
  · intro hno v hv hvi hz
    have hvD : v < D.size := hsize ▸ hv
    refine hno (Array.mem_iff_getElem.2 ⟨v, by rw [Array.size_set]; exact hvD, ?_⟩)
    rw [Array.getElem_set_ne hiD hvD (Ne.symm hvi), lbl_of_lt hvD, hz]
  · intro hall hm
    obtain ⟨v, hv, hz⟩ := Array.mem_iff_getElem.1 hm
    rw [Array.size_set] at hv
    rw [Array.getElem_set] at hz
    split at hz
    · cases hz
    · exact hall v (hsize ▸ hv) (Ne.symm ‹_›) ((lbl_of_lt hv).symm.trans hz)

/-- the test `seenVertices == n - 1` of the Go code is on `int`s -/
theorem cast_eq_sub_one {a n : Nat} (hn : 0 < n) : (a : Int) = (n : Int) - 1 ↔ a = n - 1 := by omega

theorem eccOne_spec (hi : i < g.n) (fuel : Nat) (hf : g.n + 2 ≤ fuel) :
    ((∀ v, v < g.n → Reach g i v) → ∃ e : Nat, Model.eccOne g i fuel = .ok (e : Int) ∧ IsEcc g i e) ∧
    ((¬ ∀ v, v < g.n → Reach g i v) → Model.eccOne g i fuel = .ok (-1)) := by
  have hfuel : ([i] : List Nat).length + (Array.replicate g.n 0).count 0 + 1 ≤ fuel := by
    simp only [List.length_cons, List.length_nil, Array.count_replicate_self]; omega
  obtain ⟨D', e', seen', d', k', h1, inv, c⟩ :=
    eccOuter_spec fuel (Array.replicate g.n 0) [i] 0 0 0 [i] [] 0 rfl (dinv_init hi) cinv_init hfuel
  have hseen := cinv_seen_iff c inv.size hi inv.tgt
  unfold Model.eccOne
  rw [h1]
  simp only
  constructor
  · intro hall
    have hlab : ∀ v, v < g.n → v ≠ i → lbl D' v ≠ 0 := fun v hv hvi => (dinv_final inv hv hvi).1 (hall v hv)
    have hs : seen' = g.n - 1 := hseen.2 hlab
    refine ⟨e', by rw [if_pos ((cast_eq_sub_one (Nat.zero_lt_of_lt hi)).2 hs)], ?_, ?_⟩
    · intro x hx
      by_cases hxi : x = i
      · subst hxi; exact ⟨0, isDist_self hi, Nat.zero_le _⟩
      · exact ⟨lbl D' x, (dinv_final inv hx hxi).2 (hlab x hx hxi), c.le x⟩
    · by_cases he : e' = 0
      · subst he; exact ⟨i, hi, isDist_self hi⟩
      · rcases c.att with h0 | ⟨v, hv, hvi, hve⟩
        · exact absurd h0 he
        · refine ⟨v, hv, ?_⟩
          have := (dinv_final inv hv hvi).2 (by rw [hve]; exact he)
          rwa [hve] at this
  · intro hnot
    have hs : seen' ≠ g.n - 1 := by
      intro hs
      apply hnot
      intro v hv
      by_cases hvi : v = i
      · subst hvi; exact ReachIn.refl (List.mem_range.2 hi)
      · have := (dinv_final inv hv hvi).2 (hseen.1 hs v hv hvi)
        exact ⟨_, this.1⟩
    rw [if_neg (mt (cast_eq_sub_one (Nat.zero_lt_of_lt hi)).1 hs)]

theorem connectedB_iff_reach_from (hsym : ∀ u v, g.adj u v = g.adj v u) (hi : i < g.n) :
    connectedB g = true ↔ ∀ v, v < g.n → Reach g i v := by
  rw [connectedB_iff]
  constructor
  · intro h v hv; exact h i v hi hv
  · intro h s x hs hx
    exact ((h s hs).symm hsym).trans (h x hx)

theorem eccOne_eq_ecc (hsym : ∀ u v, g.adj u v = g.adj v u) (hi : i < g.n) (fuel : Nat) (hf : g.n + 2 ≤ fuel) :
    Model.eccOne g i fuel = .ok (ecc g i) := by
  obtain ⟨h1, h2⟩ := eccOne_spec hi fuel hf
  by_cases hc : connectedB g = true
  · obtain ⟨e, he, hecc⟩ := h1 ((connectedB_iff_reach_from hsym hi).1 hc)
    rw [he, hecc.unique (eccNat_isEcc hc hi)]
    simp [ecc, hc]
  · rw [h2 (fun h => hc ((connectedB_iff_reach_from hsym hi).2 h))]
    simp [ecc, hc]

theorem eccAll_eq (hsym : ∀ u v, g.adj u v = g.adj v u) (fuel : Nat) (hf : g.n + 2 ≤ fuel) :
    ∀ l : List Nat, (∀ x ∈ l, x < g.n) → Model.eccAll g fuel l = .ok (l.map (ecc g)) := by
  intro l
  induction l with
  | nil => intro _; rfl
  | cons a t ih =>
    intro h
    simp only [Model.eccAll, eccOne_eq_ecc hsym (h a List.mem_cons_self) fuel hf,
      ih (fun x hx => h x (List.mem_cons_of_mem _ hx)), List.map_cons]

theorem eccentricity_eq_eccs (g : G) (hsym : ∀ u v, g.adj u v = g.adj v u) (fuel : Nat) (hf : g.n + 2 ≤ fuel) :
    Model.eccentricity g fuel = .ok (eccs g) := by
  unfold Model.eccentricity
  rw [eccAll_eq hsym fuel hf _ (fun x hx => List.mem_range.1 hx), eccs_eq]

theorem foldl_min_eq (x : Int) (xs : List Int) : xs.foldl min x = listMinInt (x :: xs) := by
  induction xs generalizing x with
  | nil => rfl
  | cons y ys ih =>
    rw [List.foldl_cons, ih]
    cases ys with
    | nil => simp [listMinInt]
    | cons z zs => simp only [listMinInt]; rw [Int.min_assoc]

theorem foldl_max_eq (x : Int) (xs : List Int) : xs.foldl max x = listMaxInt (x :: xs) := by
  induction xs generalizing x with
  | nil => rfl
  | cons y ys ih =>
    rw [List.foldl_cons, ih]
    cases ys with
    | nil => simp [listMaxInt]
    | cons z zs => simp only [listMaxInt]; rw [Int.max_assoc]

theorem minInt_eq (l : List Int) : Model.minInt l = listMinInt l := by
  cases l with
  | nil => rfl
  | cons x xs => exact foldl_min_eq x xs

theorem maxInt_eq (l : List Int) : Model.maxInt l = listMaxInt l := by
  cases l with
  | nil => rfl
  | cons x xs => exact foldl_max_eq x xs

theorem listMinInt_eccs (g : G) (hn : 0 < g.n) : listMinInt (eccs g) = -1 ↔ connectedB g = false := by
  have hne : eccs g ≠ [] := eccs_ne_nil hn
  have hmem := listMinInt_mem hne
  by_cases hc : connectedB g = true
  · simp only [hc, Bool.true_eq_false, iff_false]
    intro h
    rw [h] at hmem
    simp only [eccs, hc, if_true, List.mem_map, List.mem_range] at hmem
    obtain ⟨v, _, hv⟩ := hmem
    omega
  · have hc' : connectedB g = false := by simpa using hc
    simp only [hc', iff_true]
    have he : eccs g = (List.range g.n).map fun _ => (-1 : Int) := by simp [eccs, hc']
    rw [he] at hmem ⊢
    simp only [List.mem_map, List.mem_range] at hmem
    obtain ⟨_, _, hv⟩ := hmem
    exact hv.symm

theorem diameterM_eq (g : G) (hsym : ∀ u v, g.adj u v = g.adj v u) : Model.diameterM g = .ok (diameter g) := by
  unfold Model.diameterM diameter
  by_cases hn : g.n = 0
  · simp [hn]
  · simp only [hn, if_false]
    rw [eccentricity_eq_eccs g hsym (g.n + 2) (Nat.le_refl _)]
    simp only [minInt_eq, maxInt_eq]
    have := listMinInt_eccs g (by omega)
    by_cases hc : connectedB g = true
    · have hmin : ¬ listMinInt (eccs g) = -1 := by rw [this, hc]; simp
      simp [hmin, hc]
    · have hc' : connectedB g = false := by simpa using hc
      simp [this.2 hc', hc']

theorem radiusM_eq (g : G) (hsym : ∀ u v, g.adj u v = g.adj v u) : Model.radiusM g = .ok (radius g) := by
  unfold Model.radiusM radius
  by_cases hn : g.n = 0
  · simp [hn]
  · simp only [hn, if_false]
    rw [eccentricity_eq_eccs g hsym (g.n + 2) (Nat.le_refl _)]
    simp only [minInt_eq]
    by_cases hc : connectedB g = true
    · simp [hc]
    · have hc' : connectedB g = false := by simpa using hc
      simp [(listMinInt_eccs g (by omega)).2 hc', hc']

end GDist
