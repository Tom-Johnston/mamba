import Mamba.Lemmas.IterGeneric
import Mamba.Lemmas.IterSlice
import Mamba.Model.IterPerm
import Mamba.Lemmas.IterFuel
import Mamba.Lemmas.IterBacktrack
import Mathlib.Data.List.Nodup
import Mathlib.Data.List.Perm.Subperm
import Mathlib.Data.List.Range
/-!
# `PermutationsByPattern(n, f)` (`Iter.Pat`)

The goto machine yields exactly the depth-first list `patList f n` of the tree whose nodes are permutations `P` of
`0..l-1`, children `child P x` visited for `x = l, l-1, …, 0`, pruned by `f`; afterwards `Next` keeps returning false
(`Pat.next_owes`).  The machine follows the backtracking search (`IterBacktrack`) on that tree (`pat_step`: x1 enters a
level, x2 tries, x3 tries again or backtracks; a configuration is the path `xs` of choices); between two calls it rests
at label `x3` on a node (`AtP`), and `Pat.Owes` says what the iterator still owes there.  The specification (`patList`,
`child`, `std`) stands at the top, in `namespace Iter.Spec`.  The notions of the backtracking layer as instantiated for
this machine carry the suffix `P` (pattern): `treeP`, `stackP`, `posP`, `ValidP`, `RepP`, `RetP`, `AtP`, `ResP`.

`patList f n` consists, without repetition, of the permutations of `0..n-1` all of whose standardised non-empty prefixes
pass `f` (`mem_patList`, `patList_nodup`).
-/

namespace Iter.Spec

/-- the child `x` of the permutation `P`: append `x` and add 1 to every entry `≥ x` -/
def child (P : List Int) (x : Int) : List Int := P.map (fun v => if v ≥ x then v + 1 else v) ++ [x]

/-- the DFS below the (already accepted) node `P`, `rem` levels to go; children in the order `l, l-1, …, 0` -/
def patSub (f : List Int → Bool) : List Int → Nat → List (List Int)
  | P, 0 => [P]
  | P, rem + 1 => (List.range (P.length + 1)).reverse.flatMap
      (fun (x : Nat) => if f (child P (x : Int)) then patSub f (child P (x : Int)) rem else [])

/-- the advertised output of `PermutationsByPattern(n, f)` -/
def patList (f : List Int → Bool) (n : Nat) : List (List Int) := patSub f [] n

/-- `x` is a permutation of `0..n-1` (as a list) -/
def IsPerm (n : Nat) (x : List Int) : Prop := x.Perm ((List.range n).map (fun (i : Nat) => (i : Int)))

/-- standardisation: each entry is replaced by its rank among the entries -/
def std (p : List Int) : List Int := p.map (fun v => ((p.filter (· < v)).length : Int))

def patBlk (f : List Int → Bool) (P : List Int) (rem : Nat) (x : Nat) : List (List Int) :=
  if f (child P (x : Int)) then patSub f (child P (x : Int)) rem else []

/-- the node reached by the (reversed) path of choices `xs` -/
def node : List Nat → List Int
  | [] => []
  | x :: xs => child (node xs) (x : Int)

/-- valid paths: the choice at a node of length `l` is `≤ l` -/
def VP : List Nat → Prop
  | [] => True
  | x :: xs => x ≤ xs.length ∧ VP xs


end Iter.Spec

namespace Iter
open Spec

theorem patList_zero (f : List Int → Bool) : patList f 0 = [[]] := rfl

theorem patSub_succ (f : List Int → Bool) (P : List Int) (rem : Nat) :
    patSub f P (rem + 1) = (List.range (P.length + 1)).reverse.flatMap (patBlk f P rem) := rfl

theorem child_length (P : List Int) (x : Int) : (child P x).length = P.length + 1 := by simp [child]

theorem node_length : ∀ xs : List Nat, (node xs).length = xs.length
  | [] => rfl
  | x :: xs => by simp [node, child_length, node_length xs]

theorem node_bounds : ∀ xs : List Nat, VP xs → ∀ v ∈ node xs, 0 ≤ v ∧ v < (xs.length : Int)
  | [], _ => by simp [node]
  | x :: xs, h => by
    intro v hv
    have ih := node_bounds xs h.2
    have hx := h.1
    simp only [node, child, List.mem_append, List.mem_map, List.mem_singleton] at hv
    simp only [List.length_cons, Int.natCast_add, Int.natCast_one]
    rcases hv with ⟨w, hw, rfl⟩ | rfl
    · have := ih w hw
      split <;> omega
    · omega

theorem child_nodup (P : List Int) (x : Int) (h : P.Nodup) : (child P x).Nodup := by
  simp only [child]
  rw [List.nodup_append]
  refine ⟨List.Nodup.map ?_ h, by simp, ?_⟩
  · intro a b hab
    simp only at hab
    split at hab <;> split at hab <;> omega
  · intro a ha b hb
    simp only [List.mem_map] at ha
    simp only [List.mem_singleton] at hb
    obtain ⟨w, _, rfl⟩ := ha
    subst hb
    split <;> omega

theorem node_nodup : ∀ xs : List Nat, (node xs).Nodup
  | [] => by simp [node]
  | x :: xs => child_nodup _ _ (node_nodup xs)

theorem ext_eq_child (P : List Int) (h : ∀ v ∈ P, v < (P.length : Int)) :
    P ++ [(P.length : Int)] = child P (P.length : Int) := by
  simp only [child]
  congr 1
  conv => lhs; rw [← List.map_id P]
  apply List.map_congr_left
  intro v hv
  have := h v hv
  simp only [id]
  split <;> omega

theorem pop_child (P : List Int) (h : ∀ v ∈ P, 0 ≤ v) :
    ((child P 0).dropLast).map (fun v => if v > 0 then v - 1 else v) = P := by
  simp only [child, List.dropLast_concat, List.map_map]
  conv => rhs; rw [← List.map_id P]
  apply List.map_congr_left
  intro v hv
  have := h v hv
  simp only [Function.comp, id]
  split <;> split <;> omega

theorem bump_append (x y : Int) (h : y ≠ x - 1) : ∀ L : List Int, Pat.bump x (L ++ [y]) = Pat.bump x L ++ [y]
  | [] => by simp [Pat.bump, h]
  | v :: r => by
    simp only [List.cons_append, Pat.bump]
    split
    · rfl
    · rw [bump_append x y h r]; rfl

theorem bump_map (x : Int) : ∀ P : List Int, P.Nodup →
    Pat.bump (x + 1) (P.map (fun v => if v ≥ x + 1 then v + 1 else v)) = P.map (fun v => if v ≥ x then v + 1 else v)
  | [], _ => rfl
  | v :: r, h => by
    rw [List.nodup_cons] at h
    simp only [List.map_cons, Pat.bump]
    by_cases hv : v = x
    · subst hv
      have e1 : ¬ (v ≥ v + 1) := by omega
      simp only [e1, if_false, Int.add_sub_cancel, beq_self_eq_true, if_true, ge_iff_le, Int.le_refl]
      congr 1
      apply List.map_congr_left
      intro w hw
      have : w ≠ v := fun e => h.1 (e ▸ hw)
      by_cases h1 : v + 1 ≤ w
      · have h2 : v ≤ w := by omega
        simp [h1, h2]
      · have h2 : ¬ v ≤ w := by omega
        simp [h1, h2]
    · have e : ((if v ≥ x + 1 then v + 1 else v) == x + 1 - 1) = false := by
        simp only [beq_eq_false_iff_ne]
        split <;> omega
      simp only [e, Bool.false_eq_true, if_false]
      rw [bump_map x r h.2]
      congr 1
      by_cases h1 : x + 1 ≤ v
      · have h2 : x ≤ v := by omega
        simp [h1, h2]
      · have h2 : ¬ x ≤ v := by omega
        simp [h1, h2]

theorem bump_child (P : List Int) (x : Int) (h : P.Nodup) :
    Pat.bump (x + 1) (child P (x + 1)) = P.map (fun v => if v ≥ x then v + 1 else v) ++ [x + 1] := by
  simp only [child]
  rw [bump_append (x + 1) (x + 1) (by omega), bump_map x P h]

theorem Pat.run_x1 (f : List Int → Bool) (n : Int) (fuel : Nat) (xs : List Nat) (h : VP xs) :
    Pat.run f n (fuel + 1) .x1 (node xs) = Pat.run f n fuel .x2 (node (xs.length :: xs)) := by
  simp only [Pat.run]
  have hb : ∀ v ∈ node xs, v < ((node xs).length : Int) := by
    intro v hv; rw [node_length]; exact (node_bounds xs h v hv).2
  rw [ext_eq_child (node xs) hb, node_length]
  rfl

theorem Pat.run_x3_snoc0 (f : List Int → Bool) (n : Int) (fuel : Nat) (pre : Sl) :
    Pat.run f n (fuel + 1) .x3 (pre ++ [0]) =
      Pat.run f n fuel .x3 (pre.map (fun v => if v > 0 then v - 1 else v)) := by
  have hl : ((pre ++ [(0 : Int)]).length == 0) = false := by simp
  simp only [Pat.run, get_last, Outcome.bind_ok, hl, Bool.false_eq_true, if_false, beq_self_eq_true, if_true,
    List.dropLast_concat]

theorem Pat.run_x3_snoc (f : List Int → Bool) (n : Int) (fuel : Nat) (pre : Sl) (x : Int) (hx : x ≠ 0) (pre' : Sl)
    (hb : Pat.bump x (pre ++ [x]) = pre' ++ [x]) :
    Pat.run f n (fuel + 1) .x3 (pre ++ [x]) = Pat.run f n fuel .x2 (pre' ++ [x - 1]) := by
  have hl : ((pre ++ [x]).length == 0) = false := by simp
  have hx' : (x == 0) = false := by simpa using hx
  simp only [Pat.run, get_last, Outcome.bind_ok, hl, Bool.false_eq_true, if_false, hx', hb, set_last]

theorem Pat.run_x3_zero (f : List Int → Bool) (n : Int) (fuel : Nat) (xs : List Nat) (h : VP xs) :
    Pat.run f n (fuel + 1) .x3 (node (0 :: xs)) = Pat.run f n fuel .x3 (node xs) := by
  have hp := pop_child (node xs) (fun v hv => (node_bounds xs h v hv).1)
  simp only [node, child, Int.natCast_zero, List.dropLast_concat] at hp ⊢
  rw [Pat.run_x3_snoc0, hp]

theorem Pat.run_x3_succ (f : List Int → Bool) (n : Int) (fuel : Nat) (x : Nat) (xs : List Nat) :
    Pat.run f n (fuel + 1) .x3 (node ((x + 1) :: xs)) = Pat.run f n fuel .x2 (node (x :: xs)) := by
  have hb := bump_child (node xs) (x : Int) (node_nodup xs)
  simp only [node, child, Int.natCast_add, Int.natCast_one] at hb ⊢
  rw [Pat.run_x3_snoc f n fuel _ _ (by omega) _ hb]
  simp


section machine
open DFS

/-- the tree of `PermutationsByPattern`: the children of `P` are `child P x` for `x = l, l-1, …, 0` -/
def treeP (f : List Int → Bool) : Tree (List Int) (List Int) where
  kids P := (List.range (P.length + 1)).reverse.map fun (x : Nat) => child P (x : Int)
  val P := P
  ok := f

theorem sub_treeP (f : List Int → Bool) : ∀ (rem : Nat) (P : List Int), sub (treeP f) rem P = patSub f P rem := by
  intro rem
  induction rem with
  | zero => intro P; rfl
  | succ rem ih =>
    intro P
    rw [sub_succ, patSub_succ]
    show List.flatMap _ (List.map _ _) = _
    rw [List.flatMap_map]
    congr 1
    funext x
    simp only [blk, patBlk, ih]
    rfl

def sibsP (P : List Int) (x : Nat) : List (List Int) := (List.range x).reverse.map fun (y : Nat) => child P (y : Int)

/-- the stack of the search at `node xs`: for every choice of the path, innermost first, the node it leads to with its
later siblings -/
def stackP : List Nat → List (List Int × List (List Int))
  | [] => []
  | x :: xs => (node (x :: xs), sibsP (node xs) x) :: stackP xs

/-- where the machine stands at each label (`rem` = levels below `node xs`) -/
def posP : Pat.Lbl → List Nat → Nat → Pos (List Int)
  | .x1, xs, rem => .down (rem - 1) (node xs) (stackP xs)
  | .x2, x :: xs, rem => .test rem (node (x :: xs)) (sibsP (node xs) x) (stackP xs)
  | .x2, [], rem => .up rem []
  | .x3, x :: xs, rem => .next rem (stackP (x :: xs))
  | .x3, [], rem => .up rem []

def ValidP (lbl : Pat.Lbl) (xs : List Nat) (rem : Nat) : Prop :=
  VP xs ∧ (lbl = .x1 → rem ≠ 0) ∧ (lbl = .x2 → xs ≠ [])

theorem sibsP_succ (P : List Int) (x : Nat) : sibsP P (x + 1) = child P (x : Int) :: sibsP P x := by
  simp [sibsP, List.range_succ]

/-- the machine returns at `b`: the search is over, or `b` tests an accepted leaf, after which the machine rests at
label `x3` -/
def RetP (f : List Int → Bool) (n : Nat) (b : Pos (List Int)) (r : Sl × Bool) : Prop :=
  (owed (treeP f) b = [] ∧ r = ([], false)) ∨
  ∃ xs, VP xs ∧ xs.length = n ∧ r = (node xs, true) ∧ owed (treeP f) b = node xs :: owed (treeP f) (posP .x3 xs 0) ∧
    cost (treeP f) (posP .x3 xs 0) ≤ cost (treeP f) b

def runP (f : List Int → Bool) (n : Int) (fuel : Nat) (c : Pat.Lbl × Sl) : Outcome (Sl × Bool) :=
  Pat.run f n fuel c.1 c.2

/-- the configuration `(lbl, a)`: `a` is the node of a valid path, and stands at the position of `lbl` there -/
def RepP (n : Nat) (c : Pat.Lbl × Sl) (a : Pos (List Int)) : Prop :=
  ∃ xs rem, xs.length + rem = n ∧ ValidP c.1 xs rem ∧ c.2 = node xs ∧ a = posP c.1 xs rem

theorem pat_step (f : List Int → Bool) (n : Nat) (lbl : Pat.Lbl) (xs : List Nat) (rem : Nat)
    (hn : xs.length + rem = n) (hv : ValidP lbl xs rem) :
    Follows (treeP f) (runP f n) (RepP n) (RetP f n) (lbl, node xs) (posP lbl xs rem) := by
  obtain ⟨hvp, hx1, hx2⟩ := hv
  cases lbl with
  | x1 =>
    obtain ⟨rem', rfl⟩ : ∃ r', rem = r' + 1 := ⟨rem - 1, by have := hx1 rfl; omega⟩
    refine .step (c' := (Pat.Lbl.x2, node (xs.length :: xs))) (Step.enter _ _ _ _ _ ?_)
      ⟨xs.length :: xs, rem', by simp; omega, ⟨⟨Nat.le_refl _, hvp⟩, by simp, by simp⟩, rfl, rfl⟩
      (fun fuel => Pat.run_x1 f n fuel xs hvp)
    show List.map _ (List.range ((node xs).length + 1)).reverse = _
    rw [node_length, List.range_succ, List.reverse_append]
    rfl
  | x2 =>
    obtain ⟨x, xs', rfl⟩ := List.exists_cons_of_ne_nil (hx2 rfl)
    have hn' : xs'.length + 1 + rem = n := by simpa using hn
    by_cases ht : f (node (x :: xs')) = true
    · by_cases hr : rem = 0
      · subst hr
        refine .ret (r := (node (x :: xs'), true)) (fun fuel => ?_) (Or.inr ⟨x :: xs', hvp, hn, rfl, ?_, ?_⟩)
        · have hl : (((node (x :: xs')).length : Int) == (n : Int)) = true := by
            rw [node_length]; simp; omega
          simp only [runP, Pat.run, ht, if_true, hl]
        · have hok : (treeP f).ok (node (x :: xs')) = true := ht
          simp only [posP, owed, blk, hok, if_true, stackP]
          rfl
        · simp only [posP, cost, stackP]; omega
      · obtain ⟨rem', rfl⟩ : ∃ r', rem = r' + 1 := ⟨rem - 1, by omega⟩
        refine .step (c' := (Pat.Lbl.x1, node (x :: xs'))) (Step.accept _ _ _ _ ht)
          ⟨x :: xs', rem' + 1, hn, ⟨hvp, by simp, by simp⟩, rfl, rfl⟩ (fun fuel => ?_)
        have hl : (((node (x :: xs')).length : Int) == (n : Int)) = false := by
          rw [node_length]; simp; omega
        simp only [runP, Pat.run, ht, if_true, hl, Bool.false_eq_true, if_false]
    · refine .step (c' := (Pat.Lbl.x3, node (x :: xs'))) (Step.reject _ _ _ _ (Bool.eq_false_iff.mpr ht))
        ⟨x :: xs', rem, hn, ⟨hvp, by simp, by simp⟩, rfl, rfl⟩ (fun fuel => ?_)
      simp only [runP, Pat.run, ht, if_false, Bool.false_eq_true]
  | x3 =>
    cases xs with
    | nil => exact .ret (r := ([], false)) (by simp [runP, Pat.run, node]) (Or.inl ⟨rfl, rfl⟩)
    | cons x xs' =>
      cases x with
      | zero =>
        have hr : RepP n (.x3, node xs') (posP .x3 xs' (rem + 1)) :=
          ⟨xs', rem + 1, by simp at hn; omega, ⟨hvp.2, by simp, by simp⟩, rfl, rfl⟩
        cases xs' with
        | nil => exact .step (Step.leave _ _ _) hr (fun fuel => Pat.run_x3_zero f n fuel [] hvp.2)
        | cons y ys =>
          exact .step₂ (Step.leave _ _ _) (Step.back _ _ _) hr (fun fuel => Pat.run_x3_zero f n fuel (y :: ys) hvp.2)
      | succ x =>
        refine .step (c' := (Pat.Lbl.x2, node (x :: xs'))) (b := posP .x2 (x :: xs') rem) ?_
          ⟨x :: xs', rem, by simpa using hn, ⟨⟨by have := hvp.1; omega, hvp.2⟩, by simp, by simp⟩, rfl, rfl⟩
          (fun fuel => Pat.run_x3_succ f n fuel x xs')
        simp only [posP, stackP, sibsP_succ]
        exact Step.again _ _ _ _ _

/-- the machine stands at label `x3` on `y`: the search below `y` is finished and still produces `rest`, within the
fuel of one call -/
def AtP (f : List Int → Bool) (n : Nat) (y : List Int) (rest : List (List Int)) : Prop :=
  ∃ xs rem, VP xs ∧ xs.length + rem = n ∧ y = node xs ∧ rest = owed (treeP f) (posP .x3 xs rem) ∧
    cost (treeP f) (posP .x3 xs rem) ≤ Pat.fuel (n : Int)

theorem AtP.nil (f : List Int → Bool) (n : Nat) : AtP f n [] [] :=
  ⟨[], n, trivial, by simp, rfl, rfl, by simp only [posP, cost, costNext, Pat.fuel]; omega⟩

/-- result of one run of the machine, as determined by the remaining output -/
def ResP (f : List Int → Bool) (n : Nat) (rem : List (List Int)) (r : Sl × Bool) : Prop :=
  match rem with
  | y :: rest => r = (y, true) ∧ AtP f n y rest
  | [] => r = ([], false)

theorem pat_run (f : List Int → Bool) (n : Nat) (lbl : Pat.Lbl) (xs : List Nat) (rem : Nat)
    (hn : xs.length + rem = n) (hv : ValidP lbl xs rem) (hf : cost (treeP f) (posP lbl xs rem) ≤ Pat.fuel (n : Int)) :
    ∃ r, Pat.run f (n : Int) (Pat.fuel (n : Int)) lbl (node xs) = .ok r ∧
      ResP f n (owed (treeP f) (posP lbl xs rem)) r := by
  obtain ⟨r, b, h1, h2, h3, h4⟩ := run_owed (T := treeP f) (run := runP f n) (Rep := RepP n) (Ret := RetP f n) (by
      rintro ⟨lbl, st⟩ a ⟨xs, rem, hn, hv, rfl, rfl⟩
      exact pat_step f n lbl xs rem hn hv)
    _ (lbl, node xs) _ ⟨xs, rem, hn, hv, rfl, rfl⟩ hf
  replace h4 : cost (treeP f) b ≤ cost (treeP f) (posP lbl xs rem) := h4
  refine ⟨r, h1, ?_⟩
  rw [← h3]
  rcases h2 with ⟨e, h5⟩ | ⟨xs', h5, h6, rfl, e, h8⟩
  · rw [e]; exact h5
  · rw [e]; exact ⟨rfl, xs', 0, h5, by simpa using h6, rfl, rfl, by omega⟩

/-- a node of length `l` has `l + 1 = n - rem` children: the steps below it are bounded by a falling factorial -/
theorem wt_treeP (f : List Int → Bool) (n : Nat) : ∀ (rem : Nat) (P : List Int), P.length + rem = n →
    wt (treeP f) rem P + 1 ≤ 4 * (rem + 1) * n.descFactorial rem
  | 0, P, _ => by simp [wt]
  | rem + 1, P, h => by
    have := wt_succ_le (T := treeP f) rem P (4 * (rem + 1) * n.descFactorial rem) (by
      intro c hc
      obtain ⟨x, -, rfl⟩ := List.mem_map.mp hc
      exact wt_treeP f n rem _ (by rw [child_length]; omega))
    have hl : ((treeP f).kids P).length = n - rem := by simp [treeP]; omega
    have hp : 0 < n.descFactorial (rem + 1) := Nat.descFactorial_pos.mpr (by omega)
    rw [hl, Nat.mul_left_comm, ← Nat.descFactorial_succ] at this
    rw [Nat.mul_succ 4 (rem + 1), Nat.add_mul]
    omega

theorem Pat.first_run (f : List Int → Bool) (n : Nat) (hn : 1 ≤ n) :
    ∃ r, Pat.run f (n : Int) (Pat.fuel (n : Int)) .x1 [] = .ok r ∧ ResP f n (patList f n) r := by
  have hf : cost (treeP f) (posP .x1 [] n) ≤ Pat.fuel (n : Int) := by
    have h2 := wt_treeP f n n [] (by simp)
    obtain ⟨m, rfl⟩ : ∃ m, n = m + 1 := ⟨n - 1, by omega⟩
    rw [Nat.descFactorial_self, Nat.mul_assoc, ← Nat.factorial_succ] at h2
    simp only [posP, cost, stackP, costNext, node, Nat.add_sub_cancel, Pat.fuel, Int.toNat_natCast,
      foldl_mul_succ_eq_factorial] at h2 ⊢
    omega
  obtain ⟨r, h1, h2⟩ := pat_run f n .x1 [] n (by simp) ⟨trivial, fun _ => by omega, by simp⟩ hf
  have e : owed (treeP f) (posP .x1 [] n) = patList f n := by
    obtain ⟨m, rfl⟩ : ∃ m, n = m + 1 := ⟨n - 1, by omega⟩
    simp only [posP, owed, stackP, after, List.append_nil, Nat.add_sub_cancel, node]
    exact sub_treeP f _ _
  rw [e] at h2
  exact ⟨r, h1, h2⟩

end machine

/-- what the iterator still owes in state `s`: everything before the first call, afterwards what follows the
position `s.a` of the machine -/
def Pat.Owes (f : List Int → Bool) (n : Nat) (s : Pat) (rem : List (List Int)) : Prop :=
  s.n = (n : Int) ∧
    ((s.a = none ∧ rem = patList f n) ∨ (s.first = false ∧ ∃ y, s.a = some y ∧ AtP f n y rem))

theorem Pat.next_owes (f : List Int → Bool) (n : Nat) (s : Pat) (rem : List (List Int))
    (h : Pat.Owes f n s rem) :
    ∃ r, ResP f n rem r ∧ Pat.next f s = .ok ({ s with a := some r.1, first := false }, r.2) ∧
      Pat.Owes f n { s with a := some r.1, first := false } rem.tail := by
  have owes : ∀ r, ResP f n rem r → Pat.Owes f n { s with a := some r.1, first := false } rem.tail := by
    intro r hr
    refine ⟨h.1, Or.inr ⟨rfl, r.1, rfl, ?_⟩⟩
    cases rem with
    | nil => rw [show r = ([], false) from hr]; exact AtP.nil f n
    | cons y rest => rw [hr.1]; exact hr.2
  obtain ⟨hn, ⟨ha, rfl⟩ | ⟨hf, y, ha, hat⟩⟩ := h
  · by_cases hn0 : n = 0
    · subst hn0
      have hr : ResP f 0 (patList f 0) ([], true) := ⟨rfl, AtP.nil f 0⟩
      exact ⟨([], true), hr, by simp [Pat.next, ha, hn], owes _ hr⟩
    · obtain ⟨r, h1, h2⟩ := Pat.first_run f n (by omega)
      have c1 : ¬ ((n : Int) < 0) := by omega
      have c2 : ((n : Int) == 0) = false := by simp; omega
      exact ⟨r, h2, by simp [Pat.next, ha, hn, c1, c2, h1], owes r h2⟩
  · obtain ⟨xs, rem', hv, hn', rfl, rfl, hc⟩ := hat
    obtain ⟨r, h1, h2⟩ := pat_run f n .x3 xs rem' hn' ⟨hv, by simp, by simp⟩ hc
    refine ⟨r, h2, ?_, owes r h2⟩
    cases s
    simp_all [Pat.next]

theorem isPerm_iff (n : Nat) (x : List Int) :
    IsPerm n x ↔ x.length = n ∧ x.Nodup ∧ ∀ v ∈ x, 0 ≤ v ∧ v < (n : Int) := by
  have hnd : ((List.range n).map (fun (i : Nat) => (i : Int))).Nodup :=
    List.Nodup.map (fun a b h => by have h' : (a : Int) = (b : Int) := h; omega) List.nodup_range
  constructor
  · intro h
    refine ⟨by simpa using h.length_eq, h.nodup_iff.mpr hnd, ?_⟩
    intro v hv
    have := h.mem_iff.mp hv
    simp only [List.mem_map, List.mem_range] at this
    obtain ⟨i, hi, rfl⟩ := this
    omega
  · rintro ⟨hl, hn, hb⟩
    have hsub : x ⊆ (List.range n).map (fun (i : Nat) => (i : Int)) := by
      intro v hv
      have := hb v hv
      simp only [List.mem_map, List.mem_range]
      exact ⟨v.toNat, by omega, by omega⟩
    exact (List.subperm_of_subset hn hsub).perm_of_length_le (by simp [hl])

theorem countP_range_lt (v : Int) (hv : 0 ≤ v) (n : Nat) :
    (List.range n).countP (fun i : Nat => decide ((i : Int) < v)) = min v.toNat n := by
  obtain ⟨V, rfl⟩ := Int.eq_ofNat_of_zero_le hv
  simp only [Int.toNat_natCast, Int.ofNat_lt]
  induction n with
  | zero => simp
  | succ n ih =>
    rw [List.range_succ, List.countP_append, ih]
    simp only [List.countP_cons, List.countP_nil, decide_eq_true_eq]
    split <;> omega

theorem rank_eq_countP (p : List Int) (v : Int) : (p.filter (· < v)).length = p.countP (· < v) :=
  (List.countP_eq_length_filter).symm

theorem std_of_isPerm (n : Nat) (x : List Int) (h : IsPerm n x) : std x = x := by
  have hb := ((isPerm_iff n x).mp h).2.2
  simp only [std]
  conv => rhs; rw [← List.map_id x]
  apply List.map_congr_left
  intro v hv
  have := hb v hv
  rw [rank_eq_countP, h.countP_eq, List.countP_map]
  have e := countP_range_lt v this.1 n
  simp only [Function.comp_def]
  rw [e]
  simp only [id]
  omega

theorem rank_mono (p : List Int) (a v : Int) (h : a ≤ v) : p.countP (· < a) ≤ p.countP (· < v) :=
  List.countP_mono_left (fun u _ hu => by simp only [decide_eq_true_eq] at hu ⊢; omega)

theorem rank_lt : ∀ (p : List Int) (v a : Int), v ∈ p → v < a → p.countP (· < v) < p.countP (· < a)
  | [], _, _, hv, _ => by simp at hv
  | u :: r, v, a, hv, hlt => by
    simp only [List.countP_cons, decide_eq_true_eq]
    have hm := rank_mono r v a (by omega)
    rcases List.mem_cons.mp hv with rfl | hv'
    · have h1 : ¬ v < v := by omega
      simp only [h1, hlt, if_true, if_false]; omega
    · have ih := rank_lt r v a hv' hlt
      split <;> split <;> omega

theorem rank_le_length (p : List Int) (a : Int) : p.countP (· < a) ≤ p.length := List.countP_le_length

theorem std_snoc (p : List Int) (a : Int) (ha : a ∉ p) :
    std (p ++ [a]) = child (std p) ((p.countP (· < a) : Nat) : Int) := by
  simp only [std, child, rank_eq_countP, List.map_append, List.map_map, List.map_cons, List.map_nil,
    List.countP_append, List.countP_cons, List.countP_nil]
  congr 1
  · apply List.map_congr_left
    intro v hv
    have hne : v ≠ a := fun e => ha (e ▸ hv)
    simp only [Function.comp, decide_eq_true_eq]
    by_cases hlt : a < v
    · have := rank_mono p a v (by omega)
      simp only [hlt, if_true]
      split <;> omega
    · have := rank_lt p v a hv (by omega)
      simp only [hlt, if_false]
      split <;> omega
  · simp

/-- the parent of a node: drop the last entry `x` and subtract 1 from every entry `> x` -/
def Spec.parent (q : List Int) : List Int :=
  q.dropLast.map (fun v => if v > q.getLast?.getD 0 then v - 1 else v)

theorem parent_child (P : List Int) (c : Int) : parent (child P c) = P := by
  simp only [parent, child, List.dropLast_concat, List.getLast?_concat, Option.getD_some, List.map_map]
  conv => rhs; rw [← List.map_id P]
  apply List.map_congr_left
  intro v _
  simp only [Function.comp, id]
  split <;> split <;> omega

theorem child_inj {P P' : List Int} {c c' : Int} (h : child P c = child P' c') : P = P' ∧ c = c' := by
  constructor
  · rw [← parent_child P c, h, parent_child]
  · have := congrArg List.getLast? h
    simpa [child] using this

theorem child_isPerm (l : Nat) (P : List Int) (c : Nat) (h : IsPerm l P) (hc : c ≤ l) :
    IsPerm (l + 1) (child P (c : Int)) := by
  rw [isPerm_iff] at h ⊢
  obtain ⟨hl, hn, hb⟩ := h
  refine ⟨by simp [child_length, hl], child_nodup P c hn, ?_⟩
  · intro v hv
    simp only [child, List.mem_append, List.mem_map, List.mem_singleton] at hv
    rcases hv with ⟨w, hw, rfl⟩ | rfl
    · have := hb w hw
      split <;> omega
    · omega

theorem std_take_succ (x : List Int) (l : Nat) (hl : l < x.length) (hn : x.Nodup) :
    ∃ c : Nat, c ≤ l ∧ std (x.take (l + 1)) = child (std (x.take l)) (c : Int) := by
  have e : x.take (l + 1) = x.take l ++ [x[l]] := by simp
  have hnd : (x.take (l + 1)).Nodup := hn.sublist (List.take_sublist _ _)
  rw [e] at hnd ⊢
  have ha : x[l] ∉ x.take l := by
    intro hmem
    have := (List.nodup_append.mp hnd).2.2 _ hmem x[l] (by simp)
    exact this rfl
  refine ⟨(x.take l).countP (· < x[l]), ?_, std_snoc _ _ ha⟩
  have := rank_le_length (x.take l) x[l]
  simp only [List.length_take] at this
  omega

theorem mem_patSub (f : List Int → Bool) : ∀ (rem : Nat) (P : List Int) (l : Nat), IsPerm l P →
    ∀ x, x ∈ patSub f P rem ↔
      IsPerm (l + rem) x ∧ std (x.take l) = P ∧ ∀ j, l < j → j ≤ l + rem → f (std (x.take j)) = true
  | 0, P, l, hP => by
    intro x
    have hPl : P.length = l := ((isPerm_iff l P).mp hP).1
    simp only [patSub, List.mem_singleton, Nat.add_zero]
    constructor
    · rintro rfl
      refine ⟨hP, ?_, fun j h1 h2 => by omega⟩
      rw [← hPl, List.take_length, std_of_isPerm l x hP]
    · rintro ⟨hx, hs, _⟩
      have hxl : x.length = l := ((isPerm_iff l x).mp hx).1
      rw [← hxl, List.take_length, std_of_isPerm l x hx] at hs
      exact hs
  | rem + 1, P, l, hP => by
    intro x
    have hPl : P.length = l := ((isPerm_iff l P).mp hP).1
    have earith : l + 1 + rem = l + (rem + 1) := by omega
    simp only [patSub_succ, List.mem_flatMap, List.mem_reverse, List.mem_range, patBlk, hPl]
    constructor
    · rintro ⟨c, hc, hx⟩
      by_cases hf : f (child P (c : Int)) = true
      · simp only [hf, if_true] at hx
        have ih := (mem_patSub f rem (child P (c : Int)) (l + 1) (child_isPerm l P c hP (by omega)) x).mp hx
        obtain ⟨h1, h2, h3⟩ := ih
        rw [earith] at h1 h3
        obtain ⟨hxl, hxn, _⟩ := (isPerm_iff _ x).mp h1
        obtain ⟨c', _, hc'⟩ := std_take_succ x l (by omega) hxn
        have hpar : std (x.take l) = P := by
          rw [hc'] at h2
          exact (child_inj h2).1
        refine ⟨h1, hpar, ?_⟩
        intro j hj1 hj2
        by_cases hj : j = l + 1
        · subst hj; rw [h2]; exact hf
        · exact h3 j (by omega) hj2
      · simp [hf] at hx
    · rintro ⟨h1, h2, h3⟩
      obtain ⟨hxl, hxn, _⟩ := (isPerm_iff _ x).mp h1
      obtain ⟨c, hc, hc'⟩ := std_take_succ x l (by omega) hxn
      rw [h2] at hc'
      have hf : f (child P (c : Int)) = true := by
        rw [← hc']; exact h3 (l + 1) (by omega) (by omega)
      refine ⟨c, by omega, ?_⟩
      simp only [hf, if_true]
      refine (mem_patSub f rem (child P (c : Int)) (l + 1) (child_isPerm l P c hP hc) x).mpr ⟨?_, hc', ?_⟩
      · rw [earith]; exact h1
      · intro j hj1 hj2
        exact h3 j (by omega) (by omega)

theorem isPerm_zero : IsPerm 0 [] := by simp [IsPerm]

theorem mem_patList (f : List Int → Bool) (n : Nat) (x : List Int) :
    x ∈ patList f n ↔ IsPerm n x ∧ ∀ j, 0 < j → j ≤ n → f (std (x.take j)) = true := by
  have := mem_patSub f n [] 0 isPerm_zero x
  simp only [Nat.zero_add, List.take_zero] at this
  rw [patList, this]
  simp [std]

theorem patSub_nodup (f : List Int → Bool) : ∀ (rem : Nat) (P : List Int) (l : Nat), IsPerm l P →
    (patSub f P rem).Nodup
  | 0, P, l, _ => by simp [patSub]
  | rem + 1, P, l, hP => by
    have hPl : P.length = l := ((isPerm_iff l P).mp hP).1
    rw [patSub_succ, List.nodup_flatMap]
    constructor
    · intro c hc
      simp only [List.mem_reverse, List.mem_range, hPl] at hc
      simp only [patBlk]
      split
      · exact patSub_nodup f rem _ (l + 1) (child_isPerm l P c hP (by omega))
      · exact List.nodup_nil
    · have hnd : (List.range (P.length + 1)).reverse.Nodup := List.nodup_reverse.mpr List.nodup_range
      refine hnd.pairwise_of_forall_ne ?_
      intro c hc c' hc' hne
      simp only [List.mem_reverse, List.mem_range, hPl] at hc hc'
      simp only [Function.onFun, patBlk]
      intro x hx hx'
      by_cases h1 : f (child P (c : Int)) = true
      · by_cases h2 : f (child P (c' : Int)) = true
        · simp only [h1, h2, if_true] at hx hx'
          have e1 := ((mem_patSub f rem _ (l + 1) (child_isPerm l P c hP (by omega)) x).mp hx).2.1
          have e2 := ((mem_patSub f rem _ (l + 1) (child_isPerm l P c' hP (by omega)) x).mp hx').2.1
          rw [e1] at e2
          have := (child_inj e2).2
          omega
        · simp [h2] at hx'
      · simp [h1] at hx

theorem patList_nodup (f : List Int → Bool) (n : Nat) : (patList f n).Nodup :=
  patSub_nodup f n [] 0 isPerm_zero

theorem std_child (l : Nat) (P : List Int) (c : Nat) (h : IsPerm l P) (hc : c ≤ l) :
    std (child P (c : Int)) = child P (c : Int) :=
  std_of_isPerm (l + 1) _ (child_isPerm l P c h hc)

theorem std_take_child (l : Nat) (P : List Int) (c : Nat) (h : IsPerm l P) (hc : c ≤ l) :
    std ((child P (c : Int)).take l) = P := by
  have hq := child_isPerm l P c h hc
  obtain ⟨hql, hqn, _⟩ := (isPerm_iff _ _).mp hq
  obtain ⟨c', _, hc'⟩ := std_take_succ (child P (c : Int)) l (by omega) hqn
  rw [List.take_of_length_le (by omega), std_child l P c h hc] at hc'
  exact (child_inj hc').1.symm

theorem isPerm_succ_eq_child (l : Nat) (x : List Int) (h : IsPerm (l + 1) x) :
    ∃ c : Nat, c ≤ l ∧ x = child (std (x.take l)) (c : Int) := by
  obtain ⟨hxl, hxn, _⟩ := (isPerm_iff _ _).mp h
  obtain ⟨c, hc, hc'⟩ := std_take_succ x l (by omega) hxn
  rw [List.take_of_length_le (by omega), std_of_isPerm _ x h] at hc'
  exact ⟨c, hc, hc'⟩

end Iter
