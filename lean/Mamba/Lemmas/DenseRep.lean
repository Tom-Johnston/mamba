import Mamba.Lemmas.ListGetD
import Mamba.Lemmas.Tri
import Mamba.Lemmas.GraphCount
/-!
# DenseGraph refines the abstract graph (property C05)

`Dense.abs` reads the graph off the bytes; `Dense.WF` says that the sizes and the cached counts agree with it (`deg_size`,
`edges_size`: the degree array has `n` entries, the byte array `tri n`; `m_eq`, `deg_eq`: `m` and `deg[v]` are the number of
edges and the degrees of `abs`). An
operation that rebuilds the arrays describes the bytes and counts of its result and calls `Dense.wf_of`; `AddEdge` /
`RemoveEdge` write one byte (`Dense.abs_setPair`). In front stand the facts about the checked accessors and the `for`
loops of the model that all C05 modules use.
-/
namespace GraphRep
open GraphSpec

theorem getElem?_eq_some_getD {a : Array Nat} {k : Nat} (h : k < a.size) : a[k]? = some (a.getD k 0) := by
  simp [Array.getD, h]

theorem addA_ok {a : Array Int} {i : Nat} {x : Int} (d : Int) (h : a[i]? = some x) :
    addA a i d = .ok (a.setIfInBounds i (x + d)) := by
  simp [addA, h]

theorem setA_ok {α : Type} {a : Array α} {i : Nat} (x : α) (h : i < a.size) :
    setA a i x = .ok (a.setIfInBounds i x) := by
  simp [setA, h]

theorem get?_set_add {a : Array Int} {i : Nat} {x : Int} (d : Int) (h : a[i]? = some x) (v : Nat) :
    (a.setIfInBounds i (x + d))[v]? = if v = i then some (x + d) else a[v]? := by
  rw [Array.getElem?_setIfInBounds]
  have hi : i < a.size := by
    by_contra hc
    rw [Array.getElem?_eq_none (by omega)] at h; cases h
  by_cases hv : v = i
  · subst hv; simp [hi]
  · have : ¬ i = v := fun e => hv e.symm
    simp [this, hv]

theorem loopM_filter {f : List Nat → Nat → Outcome (List Nat)} {p : Nat → Bool} :
    ∀ (l : List Nat) (r : List Nat),
      (∀ r i, i ∈ l → f r i = .ok (if p i then r ++ [i] else r)) → loopM f l r = .ok (r ++ l.filter p) := by
  intro l
  induction l with
  | nil => intro r _; simp [loopM]
  | cons x xs ih =>
    intro r h
    rw [loopM, h r x (by simp)]
    simp only
    rw [ih _ (fun r i hi => h r i (by simp [hi]))]
    cases hp : p x <;> simp [hp]

/-- invariant reasoning for `for j := a; j < a + k; j++` -/
theorem loopM_range' {σ : Type} (f : σ → Nat → Outcome σ) (I : Nat → σ → Prop) (a : Nat) :
    ∀ (k t : Nat) (s : σ), I t s →
      (∀ t' s', t ≤ t' → t' < t + k → I t' s' → ∃ s'', f s' (a + t') = .ok s'' ∧ I (t' + 1) s'') →
      ∃ s', loopM f (List.range' (a + t) k) s = .ok s' ∧ I (t + k) s' := by
  intro k
  induction k with
  | zero => intro t s hI _; exact ⟨s, rfl, hI⟩
  | succ k ih =>
    intro t s hI hstep
    obtain ⟨s1, hf, hI1⟩ := hstep t s (Nat.le_refl _) (by omega) hI
    obtain ⟨s2, hrun, hI2⟩ := ih (t + 1) s1 hI1 (fun t' s' h1 h2 h3 => hstep t' s' (by omega) (by omega) h3)
    refine ⟨s2, ?_, ?_⟩
    · rw [List.range'_succ, loopM, hf]
      exact hrun
    · have : t + (k + 1) = t + 1 + k := by omega
      rw [this]; exact hI2

theorem eraseAt_ok {α : Type} {a : Array α} {v : Nat} (hv : v < a.size) :
    ∃ a', eraseAt a v = .ok a' ∧ a'.size = a.size - 1 ∧ ∀ k, a'[k]? = a[up v k]? := by
  unfold eraseAt
  rw [if_pos (by omega)]
  refine ⟨_, rfl, ?_, ?_⟩
  · simp [Array.eraseIdxIfInBounds, hv]
  · intro k
    simp only [Array.eraseIdxIfInBounds, hv, dite_true]
    rw [Array.getElem?_eraseIdx]
    unfold up
    split <;> rfl

/-- the byte of the pair `u < v` -/
def Dense.bit (g : Dense) (u v : Nat) : Bool := decide (g.edges.getD (tri v + u) 0 > 0)

def Dense.abs (g : Dense) : G where
  n := g.n
  adj u v := decide (u < g.n) && decide (v < g.n) &&
    ((decide (u < v) && g.bit u v) || (decide (v < u) && g.bit v u))

structure Dense.WF (g : Dense) : Prop where
  deg_size : g.deg.size = g.n
  edges_size : g.edges.size = tri g.n
  m_eq : g.m = (g.abs.m : Int)
  deg_eq : ∀ v, v < g.n → g.deg[v]? = some (g.abs.deg v : Int)

theorem Dense.abs_wf (g : Dense) : g.abs.WF where
  symm := by
    intro u v
    simp only [Dense.abs]
    rw [Bool.and_comm (decide (u < g.n)), Bool.or_comm]
  irrefl := by intro v; simp [Dense.abs]
  supp := by
    intro u v h
    simp only [Dense.abs, Bool.and_eq_true, decide_eq_true_eq] at h
    exact h.1

theorem Dense.abs_adj_lt (g : Dense) {u v : Nat} (huv : u < v) :
    g.abs.adj u v = (decide (v < g.n) && g.bit u v) := by
  simp only [Dense.abs]
  have h1 : decide (u < v) = true := by simpa using huv
  have h2 : decide (v < u) = false := by simp; omega
  rw [h1, h2]
  by_cases hv : v < g.n
  · have : decide (u < g.n) = true := by simp; omega
    simp [this, hv]
  · simp [hv]

theorem Dense.wf_of {g' : Dense} {G0 : G} (hG : G0.WF) (hn : g'.n = G0.n) (hds : g'.deg.size = g'.n)
    (hes : g'.edges.size = tri g'.n) (hbit : ∀ u v, u < v → v < g'.n → g'.bit u v = G0.adj u v)
    (hdeg : ∀ v, v < g'.n → g'.deg[v]? = some (G0.deg v : Int)) (hm : g'.m = (G0.m : Int)) :
    g'.WF ∧ g'.abs = G0 := by
  have habs : g'.abs = G0 := by
    refine g'.abs_wf.ext_lt hG hn fun u v huv => ?_
    rw [g'.abs_adj_lt huv]
    by_cases hv : v < g'.n
    · rw [hbit u v huv hv, decide_eq_true hv, Bool.true_and]
    · rw [decide_eq_false hv, Bool.false_and]
      cases hc : G0.adj u v
      · rfl
      · exact absurd (hn ▸ (hG.supp _ _ hc).2) hv
  exact ⟨⟨hds, hes, by rw [habs]; exact hm, fun v hv => by rw [habs]; exact hdeg v hv⟩, habs⟩

theorem Dense.isEdge_eq {g : Dense} (hs : g.edges.size = tri g.n) (i j : Nat) :
    g.isEdge i j = .ok (g.abs.adj i j) := by
  unfold Dense.isEdge
  by_cases hr : i ≥ g.n ∨ j ≥ g.n
  · rw [if_pos hr]
    have : g.abs.adj i j = false := by
      cases h : g.abs.adj i j
      · rfl
      · have := g.abs_wf.supp i j h
        simp only [Dense.abs] at this; omega
    rw [this]
  · rw [if_neg hr]
    have hi : i < g.n := by omega
    have hj : j < g.n := by omega
    by_cases hij : i < j
    · rw [if_pos hij, getElem?_eq_some_getD (by rw [hs]; exact tri_add_lt hij hj)]
      rw [g.abs_adj_lt hij]; simp [Dense.bit, hj]
    · rw [if_neg hij]
      by_cases hji : i > j
      · rw [if_pos hji, getElem?_eq_some_getD (by rw [hs]; exact tri_add_lt hji hi)]
        rw [g.abs_wf.symm, g.abs_adj_lt hji]; simp [Dense.bit, hi]
      · rw [if_neg hji]
        have : i = j := by omega
        subst this; rw [g.abs_wf.irrefl]

theorem Dense.neighbours_eq {g : Dense} (h : g.WF) {v : Nat} (hv : v < g.n) :
    g.neighbours v = .ok (g.abs.nbrs v) := by
  unfold Dense.neighbours
  rw [h.deg_eq v hv]
  simp only
  rw [if_neg (by omega)]
  rw [loopM_filter (p := fun i => g.bit i v) (List.range v) []]
  · simp only
    rw [loopM_filter (p := fun i => g.bit v i)]
    · congr 1
      unfold G.nbrs
      show _ = List.filter _ (List.range g.n)
      rw [range_split hv, List.filter_append, List.filter_cons, g.abs_wf.irrefl]
      simp only [List.nil_append, Bool.false_eq_true, if_false]
      congr 1
      · apply List.filter_congr
        intro i hi
        have hi : i < v := by simpa using hi
        rw [g.abs_wf.symm, g.abs_adj_lt hi]; simp [hv]
      · apply List.filter_congr
        intro i hi
        simp only [List.mem_range'_1] at hi
        rw [g.abs_adj_lt (by omega : v < i)]
        have : decide (i < g.n) = true := by simp; omega
        simp [this]
    · intro r i hi
      simp only [List.mem_range'_1] at hi
      rw [getElem?_eq_some_getD (by rw [h.edges_size]; exact tri_add_lt (by omega) (by omega))]
      simp [Dense.bit]
  · intro r i hi
    have hi : i < v := by simpa using hi
    rw [getElem?_eq_some_getD (by rw [h.edges_size]; exact tri_add_lt hi hv)]
    simp [Dense.bit]

theorem Dense.bit_set {g g' : Dense} {idx : Nat} (x : Nat)
    (he : g'.edges = g.edges.setIfInBounds idx x) (hidx : idx < g.edges.size) (a b : Nat) :
    g'.bit a b = if tri b + a = idx then decide (x > 0) else g.bit a b := by
  unfold Dense.bit
  rw [he, Array.getD_eq_getD_getElem?, Array.getD_eq_getD_getElem?, Array.getElem?_setIfInBounds]
  by_cases h : idx = tri b + a
  · subst h; simp [hidx]
  · have : ¬ tri b + a = idx := fun e => h e.symm
    simp [h, this]

theorem Dense.abs_setPair {g g' : Dense} {lo hi : Nat} (hlt : lo < hi) (hhi : hi < g.n)
    (hs : g.edges.size = tri g.n) (x : Nat) (hn : g'.n = g.n)
    (he : g'.edges = g.edges.setIfInBounds (tri hi + lo) x) (u v : Nat) (huv : u < v) :
    g'.abs.adj u v = if u = lo ∧ v = hi then decide (x > 0) else g.abs.adj u v := by
  rw [g'.abs_adj_lt huv, g.abs_adj_lt huv,
    Dense.bit_set x he (by rw [hs]; exact tri_add_lt hlt hhi), hn]
  simp only [tri_eq_iff huv hlt]
  by_cases h : u = lo ∧ v = hi
  · obtain ⟨rfl, rfl⟩ := h; simp [hhi]
  · simp [h]

theorem pair_beq {i j lo hi u v : Nat} (hlt : lo < hi) (huv : u < v)
    (hp : (i = lo ∧ j = hi) ∨ (i = hi ∧ j = lo)) :
    ((u == i && v == j) || (u == j && v == i)) = (u == lo && v == hi) := by
  rcases hp with ⟨rfl, rfl⟩ | ⟨rfl, rfl⟩
  · have : (u == j && v == i) = false := by
      simp only [Bool.and_eq_false_imp, beq_iff_eq, beq_eq_false_iff_ne]; intro a b; omega
    rw [this]; simp
  · have : (u == i && v == j) = false := by
      simp only [Bool.and_eq_false_imp, beq_iff_eq, beq_eq_false_iff_ne]; intro a b; omega
    rw [this]; simp

theorem pair_order {i j n : Nat} (hi : i < n) (hj : j < n) (hij : i ≠ j) :
    ∃ lo hi, lo < hi ∧ hi < n ∧ ((i = lo ∧ j = hi) ∨ (i = hi ∧ j = lo)) ∧
      (if i < j then tri j + i else tri i + j) = tri hi + lo := by
  by_cases hlt : i < j
  · exact ⟨i, j, hlt, hj, Or.inl ⟨rfl, rfl⟩, if_pos hlt⟩
  · exact ⟨j, i, by omega, hi, Or.inr ⟨rfl, rfl⟩, if_neg hlt⟩

theorem Dense.edit_run {g : Dense} (h : g.WF) {i j : Nat} (hi : i < g.n) (hj : j < g.n) (hij : i ≠ j)
    (c : Int) (x : Nat) :
    ∃ d1 d2, addA g.deg i c = .ok d1 ∧ addA d1 j c = .ok d2 ∧
      setA g.edges (if i < j then tri j + i else tri i + j) x =
        .ok (g.edges.setIfInBounds (if i < j then tri j + i else tri i + j) x) ∧
      d2.size = g.n ∧
      ∀ v, v < g.n → d2[v]? = some ((g.abs.deg v : Int) + (if v = i ∨ v = j then c else 0)) := by
  have hj' : (g.deg.setIfInBounds i (↑(g.abs.deg i) + c))[j]? = some (g.abs.deg j : Int) := by
    rw [get?_set_add c (h.deg_eq i hi), if_neg (fun e => hij e.symm)]; exact h.deg_eq j hj
  obtain ⟨lo, hi', hlt, hhi, _, hidx⟩ := pair_order hi hj hij
  refine ⟨_, _, addA_ok c (h.deg_eq i hi), addA_ok c hj',
    setA_ok x (by rw [hidx, h.edges_size]; exact tri_add_lt hlt hhi), by simp [h.deg_size], ?_⟩
  intro v hv
  rw [get?_set_add c hj', get?_set_add c (h.deg_eq i hi)]
  by_cases hvj : v = j
  · simp [hvj]
  · by_cases hvi : v = i
    · simp [hvi, hij]
    · simp [hvi, hvj, h.deg_eq v hv]

theorem Dense.addEdge_core {g g' : Dense} (h : g.WF) {i j : Nat} (hi : i < g.n) (hj : j < g.n) (hij : i ≠ j)
    (hadj : g.abs.adj i j = false) (hn : g'.n = g.n) (hm : g'.m = g.m + 1)
    (he : g'.edges = g.edges.setIfInBounds (if i < j then tri j + i else tri i + j) 1)
    (hds : g'.deg.size = g.n)
    (hd : ∀ v, v < g.n → g'.deg[v]? = some ((g.abs.deg v : Int) + (if v = i ∨ v = j then 1 else 0))) :
    g'.WF ∧ g'.abs = addEdgeG g.abs i j := by
  obtain ⟨lo, hi', hlt, hhi, hp, hidx⟩ := pair_order hi hj hij
  rw [hidx] at he
  have habs : g'.abs = addEdgeG g.abs i j := by
    refine g'.abs_wf.ext_lt (addEdgeG_wf g.abs_wf hi hj) hn ?_
    intro u v huv
    rw [Dense.abs_setPair hlt hhi h.edges_size 1 hn he u v huv]
    simp only [addEdgeG]
    rw [pair_beq hlt huv hp]
    have : (i != j) = true := by simpa using hij
    rw [this]
    by_cases hc : u = lo ∧ v = hi'
    · simp [hc]
    · have : (u == lo && v == hi') = false := by simpa using hc
      simp [hc, this]
  refine ⟨⟨by rw [hds, hn], ?_, ?_, ?_⟩, habs⟩
  · rw [he, Array.size_setIfInBounds, h.edges_size, hn]
  · rw [habs, m_addEdgeG g.abs_wf hi hj hij hadj, hm, h.m_eq]; simp
  · intro v hv
    rw [hn] at hv
    rw [habs, deg_addEdgeG g.abs_wf hi hj hij hadj, hd v hv]
    split <;> simp

theorem Dense.addEdge_spec {g : Dense} (h : g.WF) {i j : Nat} (hi : i < g.n) (hj : j < g.n) :
    ∃ g', g.addEdge i j = .ok g' ∧ g'.WF ∧ g'.abs = addEdgeG g.abs i j := by
  unfold Dense.addEdge
  by_cases hij : i = j
  · rw [if_pos hij]; exact ⟨g, rfl, h, (addEdgeG_noop g.abs_wf (Or.inl hij)).symm⟩
  · rw [if_neg hij, Dense.isEdge_eq h.edges_size]
    cases hadj : g.abs.adj i j
    · obtain ⟨d1, d2, r1, r2, r3, hds, hd⟩ := Dense.edit_run h hi hj hij 1 1
      simp only [r1, r2, r3]
      exact ⟨_, rfl, Dense.addEdge_core h hi hj hij hadj rfl rfl rfl hds hd⟩
    · exact ⟨g, rfl, h, (addEdgeG_noop g.abs_wf (Or.inr hadj)).symm⟩

theorem Dense.removeEdge_core {g g' : Dense} (h : g.WF) {i j : Nat} (hi : i < g.n) (hj : j < g.n) (hij : i ≠ j)
    (hadj : g.abs.adj i j = true) (hn : g'.n = g.n) (hm : g'.m = g.m - 1)
    (he : g'.edges = g.edges.setIfInBounds (if i < j then tri j + i else tri i + j) 0)
    (hds : g'.deg.size = g.n)
    (hd : ∀ v, v < g.n → g'.deg[v]? = some ((g.abs.deg v : Int) + (if v = i ∨ v = j then -1 else 0))) :
    g'.WF ∧ g'.abs = removeEdgeG g.abs i j := by
  obtain ⟨lo, hi', hlt, hhi, hp, hidx⟩ := pair_order hi hj hij
  rw [hidx] at he
  have habs : g'.abs = removeEdgeG g.abs i j := by
    refine g'.abs_wf.ext_lt (removeEdgeG_wf g.abs_wf i j) hn ?_
    intro u v huv
    rw [Dense.abs_setPair hlt hhi h.edges_size 0 hn he u v huv]
    simp only [removeEdgeG]
    rw [pair_beq hlt huv hp]
    by_cases hc : u = lo ∧ v = hi'
    · simp [hc]
    · have : (u == lo && v == hi') = false := by simpa using hc
      simp [hc, this]
  refine ⟨⟨by rw [hds, hn], ?_, ?_, ?_⟩, habs⟩
  · rw [he, Array.size_setIfInBounds, h.edges_size, hn]
  · have := m_removeEdgeG g.abs_wf hi hj hij hadj
    rw [habs, hm, h.m_eq, ← this]; simp
  · intro v hv
    rw [hn] at hv
    have := deg_removeEdgeG g.abs_wf hi hj hij hadj v
    rw [habs, hd v hv, ← this]
    split <;> simp [Int.add_neg_cancel_right]

theorem Dense.removeEdge_spec {g : Dense} (h : g.WF) {i j : Nat} (hi : i < g.n) (hj : j < g.n) :
    ∃ g', g.removeEdge i j = .ok g' ∧ g'.WF ∧ g'.abs = removeEdgeG g.abs i j := by
  unfold Dense.removeEdge
  rw [Dense.isEdge_eq h.edges_size]
  cases hadj : g.abs.adj i j
  · exact ⟨g, rfl, h, (removeEdgeG_noop g.abs_wf hadj).symm⟩
  · have hij : i ≠ j := by
      intro e; subst e; rw [g.abs_wf.irrefl] at hadj; cases hadj
    obtain ⟨d1, d2, r1, r2, r3, hds, hd⟩ := Dense.edit_run h hi hj hij (-1) 0
    simp only [if_neg hij, r1, r2, r3]
    exact ⟨_, rfl, Dense.removeEdge_core h hi hj hij hadj rfl rfl rfl hds hd⟩

theorem degs_aux (d : Array Int) (n : Nat) (f : Nat → Nat) (hs : d.size = n)
    (hd : ∀ v, v < n → d[v]? = some (f v : Int)) :
    d.toList = ((List.range n).map f).map Int.ofNat := by
  apply List.ext_getElem?
  intro k
  rw [Array.getElem?_toList, List.map_map, List.getElem?_map]
  by_cases hk : k < n
  · rw [hd k hk, List.getElem?_range hk]; rfl
  · rw [Array.getElem?_eq_none (by omega), List.getElem?_eq_none (by simp; omega)]; rfl

theorem Dense.new_adj (n u v : Nat) : (Dense.new n).abs.adj u v = false := by
  have hb : ∀ a b, (Dense.new n).bit a b = false := by
    intro a b
    unfold Dense.bit Dense.new
    rw [Array.getD_eq_getD_getElem?]
    simp only [Array.getElem?_replicate]
    split <;> simp
  simp [Dense.abs, hb]

theorem Dense.new_wf (n : Nat) : (Dense.new n).WF := by
  have hc := empty_counts (g := (Dense.new n).abs) (Dense.new_adj n)
  refine ⟨by simp [Dense.new], by simp [Dense.new], ?_, ?_⟩
  · rw [hc.1]; rfl
  · intro v hv
    rw [hc.2 v]
    have hv' : v < n := hv
    simp [Dense.new, hv']

end GraphRep
