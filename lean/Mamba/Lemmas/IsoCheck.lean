import Mamba.Lemmas.IsoCanon
import Mamba.Lemmas.GraphCount
namespace GSearch
open GraphSpec

/-! Soundness of the transversal checker `GSearch.checkLevels`; one-vertex extensions `ext` and isomorphisms between them. -/

def Complete (P : G → Bool) (k : Nat) (L : List G) : Prop :=
  ∀ g : G, g.WF → g.n = k → P g = true → ∃ h ∈ L, Iso g h

/-- `L` contains exactly one representative of every isomorphism class of graphs on `k` vertices with `P`,
and nothing else -/
structure Transversal (P : G → Bool) (k : Nat) (L : List G) : Prop where
  size : ∀ h ∈ L, h.n = k
  sat : ∀ h ∈ L, P h = true
  distinct : L.Pairwise fun a b => ¬ Iso a b
  complete : Complete P k L

def ExtClosed (P : G → Bool) (prev out : List G) : Prop :=
  ∀ g ∈ prev, ∀ S ∈ subsets (List.range g.n), P (ext g S) = true → bfCanon (ext g S) ∈ out.map bfCanon

theorem filter_mem_subsets (f : Nat → Bool) : ∀ l : List Nat, l.filter f ∈ subsets l
  | [] => by simp [subsets]
  | x :: xs => by
    simp only [subsets, List.mem_append, List.mem_map, List.filter_cons]
    cases hf : f x
    · left; simpa using filter_mem_subsets f xs
    · right; exact ⟨xs.filter f, filter_mem_subsets f xs, by simp⟩

theorem firstBad_none {α : Type} (f : α → Bool) : ∀ (l : List α) (i : Nat), firstBad f l i = none → ∀ x ∈ l, f x = true
  | [], _, _ => by simp
  | x :: xs, i, h => by
    simp only [firstBad] at h
    cases hf : f x
    · simp [hf] at h
    · simp only [hf, if_true] at h
      intro y hy
      rcases List.mem_cons.1 hy with rfl | hy
      · exact hf
      · exact firstBad_none f xs (i + 1) h y hy

theorem firstDup_none : ∀ (seen cs : List Nat) (j : Nat), firstDup seen cs j = none →
    cs.Nodup ∧ ∀ c ∈ cs, c ∉ seen
  | _, [], _, _ => by simp
  | seen, c :: cs, j, h => by
    simp only [firstDup] at h
    cases hi : seen.reverse.idxOf? c with
    | some i => simp [hi] at h
    | none =>
      simp only [hi] at h
      have hc : c ∉ seen := by
        have := List.idxOf?_eq_none_iff.1 hi
        simpa using this
      obtain ⟨hnd, hns⟩ := firstDup_none (c :: seen) cs (j + 1) h
      refine ⟨List.nodup_cons.2 ⟨fun hm => (hns c hm) (List.mem_cons_self), hnd⟩, ?_⟩
      intro x hx
      rcases List.mem_cons.1 hx with rfl | hx
      · exact hc
      · exact fun hm => hns x hx (List.mem_cons_of_mem _ hm)

theorem firstMissingExt_none (P : G → Bool) (canons : List Nat) (g : G) :
    ∀ l : List (List Nat), firstMissingExt P canons g l = none →
      ∀ S ∈ l, P (ext g S) = true → bfCanon (ext g S) ∈ canons
  | [], _ => by simp
  | S :: rest, h => by
    simp only [firstMissingExt, bfCanonFast_eq] at h
    split at h
    · simp at h
    · rename_i hc
      intro T hT hP
      rcases List.mem_cons.1 hT with rfl | hT
      · simp only [Bool.and_eq_true, Bool.not_eq_eq_eq_not, Bool.not_true, not_and, Bool.not_eq_false] at hc
        exact List.contains_iff_mem.1 (hc hP)
      · exact firstMissingExt_none P canons g rest h T hT hP

theorem firstMissing_none (P : G → Bool) (canons : List Nat) :
    ∀ (pl : List G) (i : Nat), firstMissing P canons pl i = none →
      ∀ g ∈ pl, ∀ S ∈ subsets (List.range g.n), P (ext g S) = true → bfCanon (ext g S) ∈ canons
  | [], _, _ => by simp
  | g :: gs, i, h => by
    simp only [firstMissing] at h
    cases hm : firstMissingExt P canons g (subsets (List.range g.n)) with
    | some S => simp [hm] at h
    | none =>
      simp only [hm] at h
      intro x hx
      rcases List.mem_cons.1 hx with rfl | hx
      · exact firstMissingExt_none P canons x _ hm
      · exact firstMissing_none P canons gs (i + 1) h x hx

theorem wf_of_pairs (n : Nat) (f : Nat → Nat → Bool) :
    G.WF { n := n, adj := fun u v => u != v && decide (u < n) && decide (v < n) && (if u < v then f u v else f v u) } where
  symm := by
    intro u v
    rcases Nat.lt_trichotomy u v with h | rfl | h
    · simp only [if_pos h, if_neg (Nat.lt_asymm h), bne_comm (a := v), Bool.and_right_comm _ (decide (v < n))]
    · rfl
    · simp only [if_pos h, if_neg (Nat.lt_asymm h), bne_comm (a := v), Bool.and_right_comm _ (decide (v < n))]
  irrefl := by intro v; simp
  supp := by
    intro u v h
    simp only [Bool.and_eq_true, decide_eq_true_eq] at h
    exact ⟨h.1.1.2, h.1.2⟩

theorem ofMask_wf (n mask : Nat) : (ofMask n mask).WF :=
  wf_of_pairs n fun u v => mask.testBit (pairIndex u v)

theorem ext_wf {g : G} (hg : g.WF) (S : List Nat) : (ext g S).WF where
  symm := by
    intro u v
    simp only [ext]
    rw [hg.symm u v, Bool.and_comm (decide (u < g.n)), Bool.or_assoc, Bool.or_assoc, Bool.or_comm (u == g.n && _ && _)]
  irrefl := by
    intro v
    simp only [ext, hg.irrefl]
    by_cases h : v < g.n
    · have : (v == g.n) = false := by simp [Nat.ne_of_lt h]
      simp [this]
    · simp [h]
  supp := by
    intro u v h
    simp only [ext, Bool.or_eq_true, Bool.and_eq_true, decide_eq_true_eq, beq_iff_eq] at h
    rcases h with (h | h) | h
    · exact ⟨Nat.lt_succ_of_lt h.1.1, Nat.lt_succ_of_lt h.1.2⟩
    · exact ⟨h.1.1 ▸ Nat.lt_succ_self _, Nat.lt_succ_of_lt h.1.2⟩
    · exact ⟨Nat.lt_succ_of_lt h.1.2, h.1.1 ▸ Nat.lt_succ_self _⟩

theorem delLast_wf {g : G} (hg : g.WF) : (delLast g).WF where
  symm := by
    intro u v
    simp only [delLast]
    rw [hg.symm u v]
    cases decide (u < g.n - 1) <;> cases decide (v < g.n - 1) <;> simp
  irrefl := by intro v; simp [delLast, hg.irrefl]
  supp := by
    intro u v h
    simp only [delLast, Bool.and_eq_true, decide_eq_true_eq] at h
    exact ⟨h.1.1, h.1.2⟩

theorem ext_adj_old {g : G} (S : List Nat) {u v : Nat} (hu : u < g.n) (hv : v < g.n) : (ext g S).adj u v = g.adj u v := by
  simp [ext, hu, hv, beq_false_of_ne (Nat.ne_of_lt hu), beq_false_of_ne (Nat.ne_of_lt hv)]

theorem ext_adj_new {g : G} (S : List Nat) {v : Nat} (hv : v < g.n) : (ext g S).adj v g.n = S.contains v := by
  simp [ext, hv, beq_false_of_ne (Nat.ne_of_lt hv)]

theorem ext_adj_new_left {g : G} (S : List Nat) {v : Nat} (hv : v < g.n) : (ext g S).adj g.n v = S.contains v := by
  simp [ext, hv, beq_false_of_ne (Nat.ne_of_lt hv)]

theorem ext_adj_last (g : G) (S : List Nat) : (ext g S).adj g.n g.n = false := by
  simp [ext]

def liftLast (n : Nat) (σ : Nat → Nat) : Nat → Nat := fun u => if u < n then σ u else u

theorem liftLast_lt {n : Nat} (σ : Nat → Nat) {u : Nat} (h : u < n) : liftLast n σ u = σ u := if_pos h

theorem liftLast_last (n : Nat) (σ : Nat → Nat) : liftLast n σ n = n := if_neg (Nat.lt_irrefl n)

theorem IsBij.liftLast {n : Nat} {σ : Nat → Nat} (hσ : IsBij n σ) : IsBij (n + 1) (GSearch.liftLast n σ) := by
  have key : ∀ u, u < n + 1 → (u < n ∧ GSearch.liftLast n σ u = σ u ∧ σ u < n) ∨ (u = n ∧ GSearch.liftLast n σ u = n) :=
    fun u hu => (Nat.lt_or_eq_of_le (Nat.le_of_lt_succ hu)).imp
      (fun h => ⟨h, liftLast_lt σ h, hσ.maps u h⟩) (fun h => ⟨h, h ▸ liftLast_last n σ⟩)
  refine ⟨fun u hu => ?_, fun u v hu hv he => ?_, fun w hw => ?_⟩
  · rcases key u hu with ⟨-, e, h⟩ | ⟨-, e⟩ <;> omega
  · rcases key u hu with ⟨h1, e1, m1⟩ | ⟨h1, e1⟩ <;> rcases key v hv with ⟨h2, e2, m2⟩ | ⟨h2, e2⟩
    · exact hσ.inj u v h1 h2 (e1 ▸ e2 ▸ he)
    · omega
    · omega
    · omega
  · rcases Nat.lt_or_eq_of_le (Nat.le_of_lt_succ hw) with h | rfl
    · obtain ⟨u, hu, rfl⟩ := hσ.surj w h
      exact ⟨u, Nat.lt_succ_of_lt hu, liftLast_lt σ hu⟩
    · exact ⟨w, hw, liftLast_last w σ⟩

theorem ext_adj_liftLast {g h : G} {S T : List Nat} {σ : Nat → Nat} (hn : g.n = h.n) (hσ : IsBij g.n σ)
    (hadj : ∀ u v, u < g.n → v < g.n → g.adj u v = h.adj (σ u) (σ v))
    (hS : ∀ v, v < g.n → (v ∈ S ↔ σ v ∈ T)) {u v : Nat} (hu : u < g.n + 1) (hv : v < g.n + 1) :
    (ext g S).adj u v = (ext h T).adj (liftLast g.n σ u) (liftLast g.n σ v) := by
  have hc : ∀ w, w < g.n → S.contains w = T.contains (σ w) := fun w hw => by
    rw [Bool.eq_iff_iff, List.contains_iff_mem, List.contains_iff_mem]; exact hS w hw
  have hm : ∀ w, w < g.n → σ w < h.n := fun w hw => hn ▸ hσ.maps w hw
  rcases Nat.lt_or_eq_of_le (Nat.le_of_lt_succ hu) with h1 | rfl <;>
    rcases Nat.lt_or_eq_of_le (Nat.le_of_lt_succ hv) with h2 | rfl
  · rw [liftLast_lt σ h1, liftLast_lt σ h2, ext_adj_old S h1 h2, ext_adj_old T (hm u h1) (hm v h2)]
    exact hadj u v h1 h2
  · rw [liftLast_lt σ h1, liftLast_last, ext_adj_new S h1, hn, ext_adj_new T (hm u h1)]
    exact hc u h1
  · rw [liftLast_lt σ h2, liftLast_last, ext_adj_new_left S h2, hn, ext_adj_new_left T (hm v h2)]
    exact hc v h2
  · rw [liftLast_last, ext_adj_last, hn, ext_adj_last]

theorem ext_iso {g h : G} {S T : List Nat} {σ : Nat → Nat} (hn : g.n = h.n) (hσ : IsBij g.n σ)
    (hadj : ∀ u v, u < g.n → v < g.n → g.adj u v = h.adj (σ u) (σ v))
    (hS : ∀ v, v < g.n → (v ∈ S ↔ σ v ∈ T)) : Iso (ext g S) (ext h T) :=
  ⟨congrArg (· + 1) hn, liftLast g.n σ, hσ.liftLast, fun _ _ hu hv => ext_adj_liftLast hn hσ hadj hS hu hv⟩

theorem ext_congr (g : G) {S T : List Nat} (h : ∀ v, v ∈ S ↔ v ∈ T) : ext g S = ext g T := by
  have : ∀ v, S.contains v = T.contains v := fun v => by
    rw [Bool.eq_iff_iff, List.contains_iff_mem, List.contains_iff_mem]; exact h v
  simp only [ext, this]

theorem eq_of_small {g h : G} (hg : g.WF) (hh : h.WF) (hn : g.n = h.n) (h1 : g.n ≤ 1) : g = h :=
  hg.ext_lt hh hn fun u v huv => by
    have key : ∀ w : G, w.WF → w.n ≤ 1 → w.adj u v = false := fun w hw hw1 => by
      cases hc : w.adj u v
      · rfl
      · have := (hw.supp u v hc).2; omega
    rw [key g hg h1, key h hh (hn ▸ h1)]

theorem ext_delLast {g : G} (hg : g.WF) {j : Nat} (hgn : g.n = j + 1) :
    g = ext (delLast g) ((List.range j).filter fun u => g.adj u j) := by
  have hdn : (delLast g).n = j := by simp [delLast, hgn]
  refine hg.ext_lt (ext_wf (delLast_wf hg) _) (by rw [hgn]; simp [ext, hdn]) fun u v huv => ?_
  rcases Nat.lt_trichotomy v j with hv | rfl | hv
  · rw [ext_adj_old _ (hdn ▸ Nat.lt_trans huv hv) (hdn ▸ hv)]
    simp [delLast, hgn, hv, Nat.lt_trans huv hv]
  · have := ext_adj_new (g := delLast g) ((List.range v).filter fun u => g.adj u v) (hdn ▸ huv)
    rw [hdn] at this
    rw [this, Bool.eq_iff_iff, List.contains_iff_mem]
    simp [huv]
  · have h1 : g.adj u v = false := by
      cases h : g.adj u v
      · rfl
      · have := (hg.supp u v h).2; omega
    have h2 : (ext (delLast g) ((List.range j).filter fun u => g.adj u j)).adj u v = false := by
      cases h : (ext (delLast g) ((List.range j).filter fun u => g.adj u j)).adj u v
      · rfl
      · have := ((ext_wf (delLast_wf hg) _).supp u v h).2; simp only [ext, hdn] at this; omega
    rw [h1, h2]

theorem iso_ext_of_iso_delLast {g h : G} (hg : g.WF) {j : Nat} (hgn : g.n = j + 1)
    (i : Iso (delLast g) h) : ∃ S ∈ subsets (List.range h.n), Iso g (ext h S) := by
  obtain ⟨hn, σ, hσ, hadj⟩ := i
  have hdn : (delLast g).n = j := by simp [delLast, hgn]
  let img : List Nat := ((List.range j).filter fun u => g.adj u j).map σ
  refine ⟨(List.range h.n).filter fun w => img.contains w, filter_mem_subsets _ _, ?_⟩
  rw [ext_delLast hg hgn]
  refine ext_iso hn hσ hadj fun v hv => ?_
  rw [hdn] at hv hσ
  simp only [img, List.mem_filter, List.mem_range, List.contains_iff_mem, List.mem_map]
  constructor
  · rintro ⟨-, ha⟩
    exact ⟨hn ▸ hdn ▸ hσ.maps v hv, v, ⟨hv, ha⟩, rfl⟩
  · rintro ⟨-, u, ⟨hu, ha⟩, he⟩
    exact ⟨hv, hσ.inj u v hu hv he ▸ ha⟩

theorem complete_succ {P : G → Bool} (hP : Hereditary P) {k : Nat} {prev out : List G}
    (hprevWF : ∀ h ∈ prev, h.WF) (hprevN : ∀ h ∈ prev, h.n = k)
    (houtWF : ∀ o ∈ out, o.WF) (houtN : ∀ o ∈ out, o.n = k + 1)
    (hc : Complete P k prev) (hext : ExtClosed P prev out) : Complete P (k + 1) out := by
  intro g hg hgn hPg
  have hdn : (delLast g).n = k := by simp [delLast, hgn]
  obtain ⟨h, hh, i⟩ := hc (delLast g) (delLast_wf hg) hdn (hP.del g hg (by omega) hPg)
  obtain ⟨S, hS, i2⟩ := iso_ext_of_iso_delLast hg hgn i
  have hPe : P (ext h S) = true := hP.iso g _ hg (ext_wf (hprevWF h hh) S) i2 hPg
  obtain ⟨o, ho, hoc⟩ := List.mem_map.1 (hext h hh S hS hPe)
  have hon : o.n = (ext h S).n := by rw [houtN o ho]; simp [ext, hprevN h hh]
  have i3 : Iso o (ext h S) := (bfCanon_eq_iff_iso (houtWF o ho) (ext_wf (hprevWF h hh) S) hon).1 hoc
  exact ⟨o, ho, i2.trans i3.symm⟩

theorem checkLevel_ok {P : G → Bool} {k : Nat} {prev : Option (List G)} {cur : List G}
    (h : checkLevel P k prev cur = .ok) :
    (∀ g ∈ cur, g.n = k) ∧ (∀ g ∈ cur, P g = true) ∧ (cur.map bfCanon).Nodup ∧
    (prev = none → P (ofMask 0 0) = true → cur ≠ []) ∧
    (∀ pl, prev = some pl → ExtClosed P pl cur) := by
  unfold checkLevel at h
  rw [bfCanonFast_eq] at h
  split at h
  · simp at h
  · rename_i h1
    split at h
    · simp at h
    · rename_i h2
      simp only at h
      split at h
      · simp at h
      · rename_i h3
        refine ⟨?_, firstBad_none _ _ _ h2, (firstDup_none _ _ _ h3).1, ?_, ?_⟩
        · intro g hg
          have := firstBad_none _ _ _ h1 g hg
          simpa using this
        · intro hp hP hc
          subst hp
          subst hc
          simp [hP] at h
        · intro pl hp
          subst hp
          simp only at h
          split at h
          · simp at h
          · rename_i h4
            exact firstMissing_none P _ pl 0 h4

theorem pairwise_not_iso {cur : List G} {k : Nat} (hwf : ∀ g ∈ cur, g.WF) (hn : ∀ g ∈ cur, g.n = k)
    (hnd : (cur.map bfCanon).Nodup) : cur.Pairwise fun a b => ¬ Iso a b := by
  have : cur.Pairwise fun a b => bfCanon a ≠ bfCanon b := List.pairwise_map.1 hnd
  refine this.imp_of_mem ?_
  intro a b ha hb hne i
  exact hne ((bfCanon_eq_iff_iso (hwf a ha) (hwf b hb) ((hn a ha).trans (hn b hb).symm)).2 i)

theorem complete_zero {P : G → Bool} {cur : List G} (hn : ∀ g ∈ cur, g.n = 0)
    (hne : P (ofMask 0 0) = true → cur ≠ []) : Complete P 0 cur := by
  intro g hg hgn hPg
  have hz : ∀ u v, g.adj u v = false := by
    intro u v
    cases hc : g.adj u v
    · rfl
    · have := (hg.supp u v hc).1; omega
  have : g = ofMask 0 0 := GraphRep.G_ext (by simp [ofMask, hgn]) (by intro u v; simp [hz, ofMask])
  rw [this] at hPg
  obtain ⟨h, hh⟩ := List.exists_mem_of_ne_nil _ (hne hPg)
  refine ⟨h, hh, (hgn.trans (hn h hh).symm), fun u => u, IsBij.id _, ?_⟩
  intro u v hu; omega

theorem checkFrom_sound {P : G → Bool} (hP : Hereditary P) :
    ∀ (rest : List (List G)) (k : Nat) (prev : Option (List G)),
      (∀ l ∈ rest, ∀ g ∈ l, g.WF) →
      (match prev with
       | none => k = 0
       | some pl => ∃ j, k = j + 1 ∧ (∀ h ∈ pl, h.WF) ∧ Transversal P j pl) →
      checkFrom P k prev rest = .ok →
      ∀ i (hi : i < rest.length), Transversal P (k + i) rest[i]
  | [], _, _, _, _, _ => by intro i hi; simp at hi
  | cur :: rest, k, prev, hwf, hprev, hc => by
    simp only [checkFrom] at hc
    cases hl : checkLevel P k prev cur with
    | ok =>
      simp only [hl] at hc
      obtain ⟨hn, hsat, hnd, hx0, hx1⟩ := checkLevel_ok hl
      have hcwf : ∀ g ∈ cur, g.WF := hwf cur (List.mem_cons_self)
      have tcur : Transversal P k cur := by
        refine ⟨hn, hsat, pairwise_not_iso hcwf hn hnd, ?_⟩
        cases prev with
        | none =>
          simp only at hprev
          subst hprev
          exact complete_zero hn (hx0 rfl)
        | some pl =>
          simp only at hprev
          obtain ⟨j, rfl, hplwf, tpl⟩ := hprev
          exact complete_succ hP hplwf tpl.size hcwf hn tpl.complete (hx1 pl rfl)
      have ih := checkFrom_sound hP rest (k + 1) (some cur)
        (fun l hl' => hwf l (List.mem_cons_of_mem _ hl')) ⟨k, rfl, hcwf, tcur⟩ hc
      intro i hi
      cases i with
      | zero => simpa using tcur
      | succ i' =>
        have := ih i' (by simpa using hi)
        simpa [Nat.add_assoc, Nat.add_comm 1 i'] using this
    | badSize _ _ => simp [hl] at hc
    | notP _ _ => simp [hl] at hc
    | dup _ _ _ => simp [hl] at hc
    | missing _ _ _ => simp [hl] at hc
    | noEmpty => simp [hl] at hc

/-! ## the checker over any canon function

The same checker with the canon function as a parameter: with `bfCanonFast` it is `checkLevels`, hence, `bfCanonFast` being
`bfCanon`, `checkLevels` can be computed with the plain `bfCanon` (`checkLevels_eq_plain`; for evaluation in the kernel,
where the `Array.ofFn` table of `bfCanonFast` is walked again at every lookup). -/

def firstMissingExtBy (c : G → Nat) (P : G → Bool) (canons : List Nat) (g : G) : List (List Nat) → Option Nat
  | [] => none
  | S :: rest =>
    if P (ext g S) && !canons.contains (c (ext g S)) then some (maskOfSet S)
    else firstMissingExtBy c P canons g rest

def firstMissingBy (c : G → Nat) (P : G → Bool) (canons : List Nat) : List G → Nat → Option (Nat × Nat)
  | [], _ => none
  | g :: gs, i =>
    match firstMissingExtBy c P canons g (subsets (List.range g.n)) with
    | some S => some (i, S)
    | none => firstMissingBy c P canons gs (i + 1)

def checkLevelBy (c : G → Nat) (P : G → Bool) (k : Nat) (prev : Option (List G)) (cur : List G) : Verdict :=
  match firstBad (fun g => g.n == k) cur 0 with
  | some i => .badSize k i
  | none =>
  match firstBad P cur 0 with
  | some i => .notP k i
  | none =>
  let canons := cur.map c
  match firstDup [] canons 0 with
  | some (i, j) => .dup k i j
  | none =>
  match prev with
  | none => if P (ofMask 0 0) && cur.isEmpty then .noEmpty else .ok
  | some pl =>
    match firstMissingBy c P canons pl 0 with
    | some (i, S) => .missing k i S
    | none => .ok

def checkFromBy (c : G → Nat) (P : G → Bool) : Nat → Option (List G) → List (List G) → Verdict
  | _, _, [] => .ok
  | k, prev, cur :: rest =>
    match checkLevelBy c P k prev cur with
    | .ok => checkFromBy c P (k + 1) (some cur) rest
    | v => v

theorem firstMissingExtBy_fast (P : G → Bool) (canons : List Nat) (g : G) :
    ∀ l, firstMissingExtBy bfCanonFast P canons g l = firstMissingExt P canons g l
  | [] => rfl
  | S :: rest => by rw [firstMissingExtBy, firstMissingExt, firstMissingExtBy_fast P canons g rest]

theorem firstMissingBy_fast (P : G → Bool) (canons : List Nat) :
    ∀ l i, firstMissingBy bfCanonFast P canons l i = firstMissing P canons l i
  | [], _ => rfl
  | g :: gs, i => by rw [firstMissingBy, firstMissing, firstMissingExtBy_fast, firstMissingBy_fast P canons gs]; rfl

theorem checkLevelBy_fast (P : G → Bool) (k : Nat) (prev : Option (List G)) (cur : List G) :
    checkLevelBy bfCanonFast P k prev cur = checkLevel P k prev cur := by
  unfold checkLevelBy checkLevel
  simp only [firstMissingBy_fast]
  rfl

theorem checkFromBy_fast (P : G → Bool) : ∀ l k prev, checkFromBy bfCanonFast P k prev l = checkFrom P k prev l
  | [], _, _ => rfl
  | cur :: rest, k, prev => by rw [checkFromBy, checkFrom, checkLevelBy_fast, checkFromBy_fast P rest]; rfl

theorem checkLevels_eq_plain (P : G → Bool) (levels : List (List G)) :
    checkLevels P levels = checkFromBy bfCanon P 0 none levels := by
  rw [← bfCanonFast_eq, checkFromBy_fast]; rfl

end GSearch
