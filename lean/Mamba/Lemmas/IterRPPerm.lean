import Mathlib.Data.List.Lex
import Mamba.Model.IterPerm
import Mamba.Lemmas.IterRPProd
import Mamba.Lemmas.IterFuel
import Mamba.Lemmas.IterBacktrack
/-! `RestrictedPrefixPermutations(n, f)` (Knuth's Algorithm X with a linked list `l` of the unused values).
`rppermList` = filter of the lexicographic list of permutations (`subP_eq`).  The goto machine follows the backtracking
search (`IterBacktrack`) on the tree `treeR` of prefixes with their unused values, label for label (`RepR`, `rpp_step`:
x2 enters a level, x3 tries and unlinks, x5 tries again, x6 relinks and backtracks); `LInv` says that `l` lists the
unused values of the current level and that undoing the unlinks restores the levels above.  The specification
(`permList`, `rppermList`, `subP`) stands at the top, in `namespace Iter.Spec`.  The notions of the backtracking layer as
instantiated for this machine carry the suffix `R` (restricted prefix permutations; `P` is `IterPattern`'s): `treeR`,
`stackR`, `CfgR`, `runR`, `RepR`, `RetR`, `FollowsR`. -/

namespace Iter.Spec

/-- a choice of one element `q` of a list: the elements before it, `q`, the elements after it -/
structure Fr where
  b : List Int
  q : Int
  a : List Int

def Fr.rest (fr : Fr) : List Int := fr.b ++ fr.a

/-- all ways of choosing one element of the second list, in order (`b` is put in front of the before-parts) -/
def splits : List Int → List Int → List Fr
  | _, [] => []
  | b, x :: xs => ⟨b, x, xs⟩ :: splits (b ++ [x]) xs

/-- all arrangements of `m` elements of `av`, in the order induced by the order of `av` -/
def permsOf : Nat → List Int → List (List Int)
  | 0, _ => [[]]
  | m+1, av => (splits [] av).flatMap (fun fr => (permsOf m fr.rest).map (fr.q :: ·))

def iotaL (n : Nat) : List Int := (List.range n).map Int.ofNat

/-- all permutations of `0..n-1` in lexicographic order -/
def permList (n : Int) : List (List Int) := permsOf n.toNat (iotaL n.toNat)

/-- the advertised family of `RestrictedPrefixPermutations(n, f)` -/
def rppermList (f : List Int → Bool) (n : Int) : List (List Int) := (permList n).filter (accept f)

end Iter.Spec

namespace Iter
open Spec

theorem mem_splits (fr : Fr) : ∀ (a0 b0 : List Int),
    fr ∈ splits b0 a0 ↔ ∃ a1, fr.b = b0 ++ a1 ∧ a0 = a1 ++ fr.q :: fr.a := by
  intro a0
  induction a0 with
  | nil => intro b0; simp [splits]
  | cons x xs ih =>
    intro b0
    simp only [splits, List.mem_cons, ih]
    constructor
    · rintro (rfl | ⟨a1, h1, h2⟩)
      · exact ⟨[], by simp, by simp⟩
      · exact ⟨x :: a1, by simp [h1], by simp [h2]⟩
    · rintro ⟨a1, h1, h2⟩
      cases a1 with
      | nil =>
        left
        simp at h1 h2
        cases fr; simp_all
      | cons y a1 =>
        right
        simp at h2
        exact ⟨a1, by simp [h1, h2.1], h2.2⟩

theorem mem_permsOf : ∀ (m : Nat) (av x : List Int), av.length = m → (x ∈ permsOf m av ↔ x.Perm av) := by
  intro m
  induction m with
  | zero =>
    intro av x h
    have : av = [] := List.length_eq_zero_iff.mp h
    subst this
    simp [permsOf]
  | succ m ih =>
    intro av x h
    simp only [permsOf, List.mem_flatMap, List.mem_map, mem_splits, List.nil_append]
    constructor
    · rintro ⟨fr, ⟨a1, h1, h2⟩, y, hy, rfl⟩
      have hl : fr.rest.length = m := by
        have := congrArg List.length h2
        simp [Fr.rest, h1] at this ⊢; omega
      have := (ih fr.rest y hl).mp hy
      rw [h2, ← h1]
      exact (this.cons fr.q).trans (List.perm_middle.symm)
    · intro hp
      cases x with
      | nil => have := hp.length_eq; simp at this; omega
      | cons q y =>
        have hq : q ∈ av := hp.subset (by simp)
        obtain ⟨b, a, rfl⟩ := List.append_of_mem hq
        refine ⟨⟨b, q, a⟩, ⟨b, rfl, rfl⟩, y, ?_, rfl⟩
        have hl : (b ++ a).length = m := by simp at h ⊢; omega
        apply (ih (b ++ a) y hl).mpr
        exact (List.perm_cons q).mp (hp.trans List.perm_middle)

theorem mem_permList (n : Int) (x : List Int) :
    x ∈ permList n ↔ x.Perm ((List.range n.toNat).map Int.ofNat) :=
  mem_permsOf n.toNat (iotaL n.toNat) x (by simp [iotaL])

theorem splits_q_mem (fr : Fr) (a0 b0 : List Int) (h : fr ∈ splits b0 a0) : fr.q ∈ a0 := by
  obtain ⟨a1, _, h2⟩ := (mem_splits fr a0 b0).mp h
  simp [h2]

theorem splits_pairwise : ∀ (a0 b0 : List Int), a0.Pairwise (· < ·) →
    (splits b0 a0).Pairwise (fun f1 f2 => f1.q < f2.q) := by
  intro a0
  induction a0 with
  | nil => intro b0 _; simp [splits]
  | cons x xs ih =>
    intro b0 h
    rw [List.pairwise_cons] at h
    simp only [splits, List.pairwise_cons]
    exact ⟨fun fr hfr => h.1 _ (splits_q_mem fr _ _ hfr), ih _ h.2⟩

theorem splits_rest_sorted (fr : Fr) (a0 : List Int) (h : a0.Pairwise (· < ·)) (hfr : fr ∈ splits [] a0) :
    fr.rest.Pairwise (· < ·) := by
  obtain ⟨a1, h1, h2⟩ := (mem_splits fr a0 []).mp hfr
  simp at h1
  subst h2
  rw [Fr.rest, h1]
  exact h.sublist (by simp)

theorem permsOf_sorted : ∀ (m : Nat) (av : List Int), av.Pairwise (· < ·) →
    (permsOf m av).Pairwise (· < ·) := by
  intro m
  induction m with
  | zero => intro av _; simp [permsOf]
  | succ m ih =>
    intro av h
    simp only [permsOf, List.pairwise_flatMap]
    refine ⟨?_, ?_⟩
    · intro fr hfr
      rw [List.pairwise_map]
      exact (ih fr.rest (splits_rest_sorted fr av h hfr)).imp (fun hxy => List.cons_lt_cons_iff.mpr (Or.inr ⟨rfl, hxy⟩))
    · refine (splits_pairwise av [] h).imp ?_
      intro f1 f2 hq x hx y hy
      simp only [List.mem_map] at hx hy
      obtain ⟨x', _, rfl⟩ := hx
      obtain ⟨y', _, rfl⟩ := hy
      exact List.cons_lt_cons_iff.mpr (Or.inl hq)

theorem iotaL_sorted (n : Nat) : (iotaL n).Pairwise (· < ·) := by
  simp only [iotaL, List.pairwise_map]
  exact (List.pairwise_lt_range (n := n)).imp (fun h => by simpa using h)

theorem permList_sorted (n : Int) : (permList n).Pairwise (· < ·) :=
  permsOf_sorted _ _ (iotaL_sorted _)

theorem rppermList_sorted (f : List Int → Bool) (n : Int) : (rppermList f n).Pairwise (· < ·) :=
  (permList_sorted n).filter _

theorem mem_rppermList (f : List Int → Bool) (n : Int) (x : List Int) :
    x ∈ rppermList f n ↔ x.Perm ((List.range n.toNat).map Int.ofNat) ∧
      ∀ l, 0 < l → l ≤ x.length → f (x.take l) = true := by
  simp [rppermList, mem_permList, accept_iff]

end Iter

namespace Iter.Spec

/-- accepted arrangements below the (already accepted) prefix `p`, `m` positions still to fill from `av` -/
def subP (f : List Int → Bool) : Nat → List Int → List Int → List (List Int)
  | 0, p, _ => [p]
  | m+1, p, av => (splits [] av).flatMap
      (fun fr => if f (p ++ [fr.q]) then subP f m (p ++ [fr.q]) fr.rest else [])

def blkP (f : List Int → Bool) (m : Nat) (p : List Int) (fr : Fr) : List (List Int) :=
  if f (p ++ [fr.q]) then subP f m (p ++ [fr.q]) fr.rest else []

/-- the prefix chosen by a stack of choices (top of the stack = last position) -/
def pref : List Fr → List Int
  | [] => []
  | fr :: st => pref st ++ [fr.q]


end Iter.Spec

namespace Iter
open Spec

theorem subP_succ (f : List Int → Bool) (m : Nat) (p av : List Int) :
    subP f (m+1) p av = (splits [] av).flatMap (blkP f m p) := rfl

theorem subP_eq (f : List Int → Bool) : ∀ (m : Nat) (p av : List Int),
    subP f m p av = ((permsOf m av).filter (acceptAbove f p)).map (p ++ ·) := by
  intro m
  induction m with
  | zero => intro p av; simp [subP, permsOf, acceptAbove]
  | succ m ih =>
    intro p av
    simp only [subP, permsOf, List.filter_flatMap, List.map_flatMap]
    congr 1
    funext fr
    rw [List.filter_map, List.map_map]
    have : (acceptAbove f p ∘ fun x => fr.q :: x) =
        fun c => (f (p ++ [fr.q]) && acceptAbove f (p ++ [fr.q]) c) := by
      funext c; simp [acceptAbove_cons]
    rw [this]
    by_cases h : f (p ++ [fr.q])
    · simp [h, ih, Function.comp_def]
    · simp [h]

theorem subP_nil (f : List Int → Bool) (n : Int) :
    subP f n.toNat [] (iotaL n.toNat) = rppermList f n := by
  rw [subP_eq]
  have : accept f = acceptAbove f [] := rfl
  simp [rppermList, permList, this]

theorem pref_length (st : List Fr) : (pref st).length = st.length := by
  induction st with
  | nil => rfl
  | cons fr st ih => simp [pref, ih]
/-- consecutive entries are linked by `l` -/
def Links (l : Sl) : List Int → Prop
  | x :: y :: r => get l x = .ok y ∧ Links l (y :: r)
  | _ => True

theorem links_append (l : Sl) : ∀ (xs : List Int) (y : Int) (ys : List Int),
    Links l (xs ++ y :: ys) ↔ Links l (xs ++ [y]) ∧ Links l (y :: ys) := by
  intro xs
  induction xs with
  | nil => intro y ys; simp [Links]
  | cons x xs ih =>
    intro y ys
    cases xs with
    | nil => simp [Links]
    | cons x' xs' =>
      have := ih y ys
      simp only [List.cons_append, Links] at this ⊢
      rw [this, and_assoc]

theorem links_congr (l l' : Sl) : ∀ (xs : List Int) (e : Int), Links l (xs ++ [e]) →
    (∀ x ∈ xs, get l' x = get l x) → Links l' (xs ++ [e]) := by
  intro xs
  induction xs with
  | nil => intro e _ _; simp [Links]
  | cons x xs ih =>
    intro e h hc
    cases xs with
    | nil =>
      simp only [List.cons_append, List.nil_append, Links, and_true] at h ⊢
      rw [hc x (by simp)]; exact h
    | cons x' xs' =>
      simp only [List.cons_append, Links] at h ⊢
      refine ⟨by rw [hc x (by simp)]; exact h.1, ?_⟩
      exact ih e h.2 (fun z hz => hc z (by simp [hz]))

/-- the predecessor pointer of a choice: the last element before it, or the list head `n` -/
def lastP (n : Int) (b : List Int) : Int := (n :: b).getLast (List.cons_ne_nil _ _)

@[simp] theorem lastP_nil (n : Int) : lastP n [] = n := rfl

@[simp] theorem lastP_concat (n : Int) (b : List Int) (q : Int) : lastP n (b ++ [q]) = q := by
  simp [lastP, List.getLast_cons]

theorem lastP_split (n : Int) (b : List Int) : ∃ B, n :: b = B ++ [lastP n b] :=
  ⟨(n :: b).dropLast, (List.dropLast_append_getLast _).symm⟩

def Good (N : Nat) (av : List Int) : Prop := av.Nodup ∧ ∀ v ∈ av, 0 ≤ v ∧ v < (N : Int)

theorem good_iotaL (N : Nat) : Good N (iotaL N) := by
  refine ⟨?_, ?_⟩
  · exact (iotaL_sorted N).imp (fun h => by omega)
  · intro v hv
    simp only [iotaL, List.mem_map, List.mem_range] at hv
    obtain ⟨i, hi, rfl⟩ := hv
    simp only [Int.ofNat_eq_natCast]; omega

theorem Good.rest {N : Nat} {b a : List Int} {q : Int} (h : Good N (b ++ q :: a)) : Good N (b ++ a) :=
  ⟨List.Nodup.sublist (by simp) h.1, fun v hv => h.2 v (by simp at hv ⊢; tauto)⟩

theorem links_unlink (N : Nat) (l : Sl) (b a : List Int) (q lq : Int)
    (hg : Good N (b ++ q :: a)) (hl : Links l ((N : Int) :: (b ++ q :: a) ++ [(N : Int)]))
    (hq : get l q = .ok lq) :
    Links (l.set (lastP N b).toNat lq) ((N : Int) :: (b ++ a) ++ [(N : Int)]) := by
  obtain ⟨B, hB⟩ := lastP_split N b
  have e1 : (N : Int) :: (b ++ q :: a) ++ [(N : Int)] = B ++ lastP N b :: (q :: (a ++ [(N : Int)])) := by
    rw [← List.cons_append, ← List.cons_append, hB]; simp
  have e2 : (N : Int) :: (b ++ a) ++ [(N : Int)] = B ++ lastP N b :: (a ++ [(N : Int)]) := by
    rw [← List.cons_append, ← List.cons_append, hB]; simp
  have hnd : ((N : Int) :: (b ++ q :: a)).Nodup := by
    rw [List.nodup_cons]
    exact ⟨fun hm => by have := (hg.2 _ hm).2; omega, hg.1⟩
  rw [← List.cons_append, hB, List.append_assoc] at hnd
  have hnd' := List.nodup_append.mp hnd
  have hpB : lastP N b ∉ B := fun hm => hnd'.2.2 _ hm _ (by simp) rfl
  have hpa : lastP N b ∉ a := by
    have := hnd'.2.1
    simp only [List.cons_append, List.nil_append, List.nodup_cons, List.mem_cons, not_or] at this
    exact this.1.2
  have hp0 : 0 ≤ lastP N b := by
    have hm : lastP N b ∈ (N : Int) :: b := List.getLast_mem _
    rcases List.mem_cons.mp hm with h | h
    · omega
    · exact (hg.2 _ (by simp [h])).1
  rw [e1, links_append] at hl
  obtain ⟨h1, h2⟩ := hl
  have h2' : get l (lastP N b) = .ok q ∧ Links l (q :: (a ++ [(N : Int)])) := h2
  have hplen := (get_lt_length l _ _ h2'.1).2
  rw [e2, links_append]
  refine ⟨links_congr l _ B _ h1 (fun x hx => get_set_ne l _ x _ hp0 (fun hc => hpB (hc ▸ hx))), ?_⟩
  have h3 : Links l (a ++ [(N : Int)]) ∧ (a ++ [(N : Int)]).head? = some lq := by
    cases a with
    | nil =>
      have := h2'.2
      simp only [List.nil_append, Links, and_true] at this
      rw [hq] at this
      simp [Links]; injection this with h; exact h.symm
    | cons y a' =>
      have := h2'.2
      simp only [List.cons_append, Links] at this
      rw [hq] at this
      refine ⟨this.2, ?_⟩
      simp; injection this.1 with h; exact h.symm
  have h4 : Links (l.set (lastP N b).toNat lq) (a ++ [(N : Int)]) :=
    links_congr l _ a _ h3.1 (fun x hx => get_set_ne l _ x _ hp0 (fun hc => hpa (hc ▸ hx)))
  cases hh : a ++ [(N : Int)] with
  | nil => simp at hh
  | cons z r =>
    rw [hh] at h3 h4
    simp only [List.head?_cons, Option.some.injEq] at h3
    show get _ _ = .ok z ∧ _
    exact ⟨by rw [h3.2]; exact get_set_eq l _ _ hp0 hplen, h4⟩

/-- the predecessor pointers recorded in `u` -/
def ppref (N : Nat) : List Fr → List Int
  | [] => []
  | fr :: st => ppref N st ++ [lastP N fr.b]

theorem ppref_length (N : Nat) (st : List Fr) : (ppref N st).length = st.length := by
  induction st with
  | nil => rfl
  | cons fr st ih => simp [ppref, ih]

/-- the dancing-links invariant: `l` lists the unused values `av` of the current level, and undoing the
unlink of the top choice gives a state satisfying the invariant one level up -/
def LInv (N : Nat) : List Fr → List Int → Sl → Prop
  | [], av, l => av = iotaL N ∧ Links l ((N : Int) :: av ++ [(N : Int)])
  | fr :: st, av, l => av = fr.rest ∧ Links l ((N : Int) :: av ++ [(N : Int)]) ∧
      LInv N st (fr.b ++ fr.q :: fr.a) (l.set (lastP N fr.b).toNat fr.q)

theorem LInv.links {N : Nat} {st : List Fr} {av : List Int} {l : Sl} (h : LInv N st av l) :
    Links l ((N : Int) :: av ++ [(N : Int)]) := by
  cases st with
  | nil => exact h.2
  | cons fr st => exact h.2.1

theorem LInv.good {N : Nat} : ∀ {st : List Fr} {av : List Int} {l : Sl}, LInv N st av l → Good N av := by
  intro st
  induction st with
  | nil => intro av l h; rw [h.1]; exact good_iotaL N
  | cons fr st ih =>
    intro av l h
    rw [h.1]
    exact (ih h.2.2).rest

theorem LInv.len {N : Nat} : ∀ {st : List Fr} {av : List Int} {l : Sl}, LInv N st av l →
    av.length + st.length = N := by
  intro st
  induction st with
  | nil => intro av l h; rw [h.1]; simp [iotaL]
  | cons fr st ih =>
    intro av l h
    have := ih h.2.2
    rw [h.1]
    simp [Fr.rest] at this ⊢
    omega

/-- the arrays `a` and `u` hold the prefix and the predecessor pointers of the stack -/
def Arr (N : Nat) (st : List Fr) (a u : Sl) : Prop :=
  ∃ ga gu, a = pref st ++ ga ∧ u = ppref N st ++ gu ∧ a.length = N ∧ u.length = N
theorem links_pred (N : Nat) (l : Sl) (b a : List Int) (q : Int)
    (hl : Links l ((N : Int) :: (b ++ q :: a) ++ [(N : Int)])) : get l (lastP N b) = .ok q := by
  obtain ⟨B, hB⟩ := lastP_split N b
  have e1 : (N : Int) :: (b ++ q :: a) ++ [(N : Int)] = B ++ lastP N b :: (q :: (a ++ [(N : Int)])) := by
    rw [← List.cons_append, ← List.cons_append, hB]; simp
  rw [e1, links_append] at hl
  exact hl.2.1

theorem links_next (N : Nat) (l : Sl) (b a : List Int) (q : Int)
    (hl : Links l ((N : Int) :: (b ++ q :: a) ++ [(N : Int)])) :
    get l q = .ok ((a ++ [(N : Int)]).headD 0) := by
  have e1 : (N : Int) :: (b ++ q :: a) ++ [(N : Int)] = ((N : Int) :: b) ++ q :: (a ++ [(N : Int)]) := by simp
  rw [e1, links_append] at hl
  cases a with
  | nil => exact hl.2.1
  | cons y a' => exact hl.2.1

theorem lastP_range (N : Nat) (b a : List Int) (q : Int) (hg : Good N (b ++ q :: a)) :
    0 ≤ lastP N b ∧ (lastP N b).toNat < N + 1 := by
  have hm : lastP N b ∈ (N : Int) :: b := List.getLast_mem _
  rcases List.mem_cons.mp hm with h | h
  · omega
  · have := hg.2 _ (by simp [h] : lastP N b ∈ b ++ q :: a); omega

theorem Arr.tail {N : Nat} {fr : Fr} {st : List Fr} {a u : Sl} (h : Arr N (fr :: st) a u) : Arr N st a u := by
  obtain ⟨ga, gu, ha, hu, hal, hul⟩ := h
  exact ⟨fr.q :: ga, lastP N fr.b :: gu, by simp [ha, pref], by simp [hu, ppref], hal, hul⟩
section machine
open DFS

/-- the tree of Algorithm X: a node is a prefix with the values still available -/
def treeR (f : List Int → Bool) : Tree (List Int × List Int) (List Int) where
  kids v := (splits [] v.2).map fun fr => (v.1 ++ [fr.q], fr.rest)
  val v := v.1
  ok v := f v.1

theorem sub_treeR (f : List Int → Bool) : ∀ (m : Nat) (p av : List Int), sub (treeR f) m (p, av) = subP f m p av := by
  intro m
  induction m with
  | zero => intro p av; rfl
  | succ m ih =>
    intro p av
    rw [sub_succ, subP_succ]
    show List.flatMap _ (List.map _ _) = _
    rw [List.flatMap_map]
    congr 1
    funext fr
    simp only [blk, blkP, ih]
    rfl

def sibsR (p : List Int) (fr : Fr) : List (List Int × List Int) :=
  (splits (fr.b ++ [fr.q]) fr.a).map fun g => (p ++ [g.q], g.rest)

/-- the stack of the search for the stack of choices `st` (innermost first): the node each choice leads to, with its later
siblings -/
def stackR : List Fr → List ((List Int × List Int) × List (List Int × List Int))
  | [] => []
  | fr :: st => ((pref (fr :: st), fr.rest), sibsR (pref st) fr) :: stackR st

/-- the state in which `Next` returns true: `a` is a full arrangement, the machine will go on at `x6` below it, the
rest of the output is `rest` and the fuel of one call suffices for it -/
def Leaf (f : List Int → Bool) (N : Nat) (rest : List (List Int)) (a l u : Sl) : Prop :=
  ∃ st av, LInv N st av l ∧ Arr N st a u ∧ l.length = N + 1 ∧ st.length + 1 = N ∧
    owed (treeR f) (.up 1 (stackR st)) = rest ∧ cost (treeR f) (.up 1 (stackR st)) ≤ RPP.fuel (N : Int)

/-- result of one run of the machine, as determined by the remaining output -/
def Res (f : List Int → Bool) (N : Nat) (rem : List (List Int)) (r : Sl × Sl × Sl × Bool) : Prop :=
  match rem with
  | [] => r.2.2.2 = false
  | y :: rest => r.2.2.2 = true ∧ r.1 = y ∧ Leaf f N rest r.1 r.2.1 r.2.2.1

/-- a configuration of the machine: label, `k p q`, arrays `a l u` -/
abbrev CfgR := RPP.Lbl × Int × Int × Int × Sl × Sl × Sl

def runR (f : List Int → Bool) (N : Int) (fuel : Nat) (c : CfgR) : Outcome (Sl × Sl × Sl × Bool) :=
  RPP.run f N fuel c.1 c.2.1 c.2.2.1 c.2.2.2.1 c.2.2.2.2.1 c.2.2.2.2.2.1 c.2.2.2.2.2.2

/-- the configurations at the four labels and the positions they stand at: `k` is the depth of the stack, at `x3`
and `x5` the top choice `fr` is in `q` (and at `x3` its predecessor in `p`), `l` links the available values -/
inductive RepR (N : Nat) : CfgR → Pos (List Int × List Int) → Prop
  | x2 (m st av a l u p q) : LInv N st av l → Arr N st a u → l.length = N + 1 → st.length + (m + 1) = N →
      RepR N (.x2, st.length, p, q, a, l, u) (.down m (pref st, av) (stackR st))
  | x3 (m st fr av a l u p) : p = lastP N fr.b → av = fr.b ++ fr.q :: fr.a → LInv N st av l → Arr N st a u →
      l.length = N + 1 → st.length + 1 + m = N →
      RepR N (.x3, st.length, p, fr.q, a, l, u) (.test m (pref (fr :: st), fr.rest) (sibsR (pref st) fr) (stackR st))
  | x5 (m st fr av a l u p) : av = fr.b ++ fr.q :: fr.a → LInv N st av l → Arr N st a u →
      l.length = N + 1 → st.length + 1 + m = N →
      RepR N (.x5, st.length, p, fr.q, a, l, u) (.next m (stackR (fr :: st)))
  | x6 (m st av a l u p q) : LInv N st av l → Arr N st a u → l.length = N + 1 → st.length + m = N →
      RepR N (.x6, st.length, p, q, a, l, u) (.up m (stackR st))

/-- the machine returns at the position `b`: the search is over, or `b` tests an accepted leaf -/
def RetR (f : List Int → Bool) (N : Nat) (b : Pos (List Int × List Int)) (r : Sl × Sl × Sl × Bool) : Prop :=
  (owed (treeR f) b = [] ∧ r.2.2.2 = false) ∨
  (r.2.2.2 = true ∧ ∃ st av, LInv N st av r.2.1 ∧ Arr N st r.1 r.2.2.1 ∧ r.2.1.length = N + 1 ∧ st.length + 1 = N ∧
    owed (treeR f) b = r.1 :: owed (treeR f) (.up 1 (stackR st)) ∧
    cost (treeR f) (.up 1 (stackR st)) ≤ cost (treeR f) b)

abbrev FollowsR (f : List Int → Bool) (N : Nat) : CfgR → Pos (List Int × List Int) → Prop :=
  Follows (treeR f) (runR f N) (RepR N) (RetR f N)

theorem step_x2 (f : List Int → Bool) (N m : Nat) (st : List Fr) (av : List Int) (a l u : Sl) (p q : Int)
    (hL : LInv N st av l) (hA : Arr N st a u) (hlen : l.length = N + 1) (hk : st.length + (m + 1) = N) :
    FollowsR f N (.x2, st.length, p, q, a, l, u) (.down m (pref st, av) (stackR st)) := by
  have hlen' := hL.len
  obtain ⟨x, xs, rfl⟩ : ∃ x xs, av = x :: xs := by
    cases av with
    | nil => simp at hlen'; omega
    | cons x xs => exact ⟨x, xs, rfl⟩
  have hg : get l (N : Int) = .ok x := hL.links.1
  exact .step (Step.enter _ _ _ _ _ rfl) (.x3 m st ⟨[], x, xs⟩ (x :: xs) a l u _ rfl rfl hL hA hlen (by omega))
    (fun fuel => by simp [runR, RPP.run, hg])

theorem step_x5 (f : List Int → Bool) (N m : Nat) (st : List Fr) (fr : Fr) (av : List Int) (a l u : Sl) (p : Int)
    (hav : av = fr.b ++ fr.q :: fr.a) (hL : LInv N st av l) (hA : Arr N st a u) (hlen : l.length = N + 1)
    (hk : st.length + 1 + m = N) :
    FollowsR f N (.x5, st.length, p, fr.q, a, l, u) (.next m (stackR (fr :: st))) := by
  obtain ⟨b, q, aa⟩ := fr
  simp only at hav
  have hlk := hL.links
  rw [hav] at hlk
  have hnx := links_next N l b aa q hlk
  cases aa with
  | nil =>
    simp only [List.nil_append, List.headD_cons] at hnx
    exact .step (Step.leave _ _ _) (.x6 (m + 1) st av a l u q (N : Int) hL hA hlen (by omega))
      (fun fuel => by simp [runR, RPP.run, hnx])
  | cons x xs =>
    simp only [List.cons_append, List.headD_cons] at hnx
    have hx : x ≠ (N : Int) := by
      have := (hL.good).2 x (by rw [hav]; simp)
      omega
    exact .step (Step.again _ _ _ _ _)
      (.x3 m st ⟨b ++ [q], x, xs⟩ av a l u _ (lastP_concat _ _ _).symm (by simp [hav]) hL hA hlen hk)
      (fun fuel => by simp [runR, RPP.run, hnx, hx])

theorem step_x6 (f : List Int → Bool) (N m : Nat) (st : List Fr) (av : List Int) (a l u : Sl) (p q : Int)
    (hL : LInv N st av l) (hA : Arr N st a u) (hlen : l.length = N + 1) (hk : st.length + m = N) :
    FollowsR f N (.x6, st.length, p, q, a, l, u) (.up m (stackR st)) := by
  cases st with
  | nil => exact .ret (r := (a, l, u, false)) (fun fuel => by simp [runR, RPP.run]) (Or.inl ⟨rfl, rfl⟩)
  | cons fr st =>
    obtain ⟨ga, gu, ha, hu, hal, hul⟩ := hA
    have hk1 : (((fr :: st).length : Nat) : Int) - 1 = (st.length : Int) := by simp
    have hk0 : ¬ ((st.length : Int) < 0) := by omega
    have gu' : get u (st.length : Int) = .ok (lastP N fr.b) := by
      rw [hu, ← ppref_length N st]
      simp only [ppref, List.append_assoc, List.cons_append, List.nil_append]
      exact get_append_length _ _ _
    have ga' : get a (st.length : Int) = .ok fr.q := by
      rw [ha, ← pref_length st]
      simp only [pref, List.append_assoc, List.cons_append, List.nil_append]
      exact get_append_length _ _ _
    have hr := lastP_range N fr.b fr.a fr.q hL.2.2.good
    have hs : set l (lastP N fr.b) fr.q = .ok (l.set (lastP N fr.b).toNat fr.q) :=
      set_ok l _ _ hr.1 (by rw [hlen]; exact hr.2)
    exact .step (Step.back _ _ _)
      (.x5 m st fr _ a _ u (lastP N fr.b) rfl hL.2.2 (Arr.tail ⟨ga, gu, ha, hu, hal, hul⟩) (by simpa using hlen)
        (by simp only [List.length_cons] at hk; omega))
      (fun fuel => by simp only [runR, RPP.run, hk1, hk0, if_false, gu', ga', hs, Outcome.bind_ok])

theorem step_x3 (f : List Int → Bool) (N m : Nat) (st : List Fr) (fr : Fr) (av : List Int) (a l u : Sl)
    (hav : av = fr.b ++ fr.q :: fr.a) (hL : LInv N st av l) (hA : Arr N st a u) (hlen : l.length = N + 1)
    (hk : st.length + 1 + m = N) :
    FollowsR f N (.x3, st.length, lastP N fr.b, fr.q, a, l, u)
      (.test m (pref (fr :: st), fr.rest) (sibsR (pref st) fr) (stackR st)) := by
  -- index arithmetic first, while the context holds few `length` terms for `omega` to compare
  have htn : ((st.length : Int) + 1).toNat = st.length + 1 := by omega
  have hc : ¬ ((st.length : Int) + 1 < 0 ∨ st.length + 1 > N) := by omega
  have hkn : (st.length : Int) = (N : Int) - 1 ↔ m = 0 := by omega
  have hfa : fr.b.length + fr.a.length = m := by
    have := hL.len
    rw [hav] at this
    simp at this; omega
  obtain ⟨ga, gu, ha, hu, hal, hul⟩ := hA
  have hga : ga.length = m + 1 := by
    have := congrArg List.length ha
    rw [List.length_append, pref_length, hal] at this; omega
  have hgu : gu.length = m + 1 := by
    have := congrArg List.length hu
    rw [List.length_append, ppref_length, hul] at this; omega
  obtain ⟨g, ga', rfl⟩ := List.exists_cons_of_length_eq_add_one hga
  have hsa : set a (st.length : Int) fr.q = .ok (pref st ++ fr.q :: ga') := by
    rw [ha, ← pref_length st]; exact set_append_length _ _ _ _
  have hal' : (pref st ++ fr.q :: ga').length = N := by
    rw [ha] at hal; simpa using hal
  have ht : (pref st ++ fr.q :: ga').take (st.length + 1) = pref st ++ [fr.q] := by
    rw [← pref_length st]
    simp [List.take_append, List.take_of_length_le]
  have hA' : Arr N st (pref st ++ fr.q :: ga') u := ⟨fr.q :: ga', gu, rfl, hu, hal', hul⟩
  by_cases hf : f (pref st ++ [fr.q]) = true
  · have hok : (treeR f).ok (pref (fr :: st), fr.rest) = true := hf
    cases m with
    | zero =>
      have hkn' : ((st.length : Int) == (N : Int) - 1) = true := by simpa using hkn.mpr rfl
      have hga' : ga' = [] := List.length_eq_zero_iff.mp (by simpa using hga)
      have hfa' : fr.a = [] := List.length_eq_zero_iff.mp (Nat.add_eq_zero_iff.mp hfa).2
      subst hga'
      refine .ret (r := (pref st ++ [fr.q], l, u, true)) (fun fuel => ?_)
        (Or.inr ⟨rfl, st, av, hL, hA', hlen, by omega, ?_, ?_⟩)
      · simp only [runR, RPP.run, hsa, Outcome.bind_ok, htn, hal', hc, if_false, ht, hf, Bool.not_true,
          Bool.false_eq_true, hkn', if_true]
        rfl
      · simp only [owed, blk, hok, if_true, after, sibsR, hfa', splits, List.map_nil, List.flatMap_nil,
          List.nil_append]
        rfl
      · simp only [cost, costNext, wt, sibsR, hfa', splits, List.map_nil, List.sum_nil, Nat.zero_add]; omega
    | succ m' =>
      have hkn' : ((st.length : Int) == (N : Int) - 1) = false := by simpa using hkn.not.mpr (by simp)
      obtain ⟨g2, gu', rfl⟩ := List.exists_cons_of_length_eq_add_one hgu
      have hsu : set u (st.length : Int) (lastP N fr.b) = .ok (ppref N st ++ lastP N fr.b :: gu') := by
        rw [hu, ← ppref_length N st]; exact set_append_length _ _ _ _
      have hlk := hL.links
      rw [hav] at hlk
      have hnx := links_next N l fr.b fr.a fr.q hlk
      have hpd := links_pred N l fr.b fr.a fr.q hlk
      have hg := hL.good
      rw [hav] at hg
      have hr := lastP_range N fr.b fr.a fr.q hg
      have hsl : set l (lastP N fr.b) ((fr.a ++ [(N : Int)]).headD 0) =
          .ok (l.set (lastP N fr.b).toNat ((fr.a ++ [(N : Int)]).headD 0)) :=
        set_ok l _ _ hr.1 (by rw [hlen]; exact hr.2)
      have hun := links_unlink N l fr.b fr.a fr.q _ hg hlk hnx
      have hL' : LInv N (fr :: st) fr.rest (l.set (lastP N fr.b).toNat ((fr.a ++ [(N : Int)]).headD 0)) := by
        refine ⟨rfl, hun, ?_⟩
        rw [List.set_set, set_get_self l _ _ hpd, ← hav]
        exact hL
      have hA2 : Arr N (fr :: st) (pref st ++ fr.q :: ga') (ppref N st ++ lastP N fr.b :: gu') := by
        refine ⟨ga', gu', by simp [pref], by simp [ppref], hal', ?_⟩
        rw [hu] at hul; simpa using hul
      have hk1 : (st.length : Int) + 1 = (((fr :: st).length : Nat) : Int) := by simp
      refine .step (Step.accept _ _ _ _ hok)
        (.x2 m' (fr :: st) fr.rest _ _ _ (lastP N fr.b) fr.q hL' hA2 (by simpa using hlen)
          (by simp only [List.length_cons]; omega)) (fun fuel => ?_)
      simp only [runR, RPP.run, hsa, Outcome.bind_ok, htn, hal', hc, if_false, ht, hf, Bool.not_true,
        Bool.false_eq_true, hkn']
      simp only [hsu, hnx, hsl, Outcome.bind_ok, hk1]
  · have hf' : f (pref st ++ [fr.q]) = false := by simpa using hf
    refine .step (Step.reject _ _ _ _ hf') (.x5 m st fr av _ l u (lastP N fr.b) hav hL hA' hlen hk) (fun fuel => ?_)
    simp only [runR, RPP.run, hsa, Outcome.bind_ok, htn, hal', hc, if_false, ht, hf', Bool.not_false, if_true]

theorem rpp_step (f : List Int → Bool) (N : Nat) (c : CfgR) (b : Pos (List Int × List Int)) (h : RepR N c b) :
    FollowsR f N c b := by
  cases h with
  | x2 m st av a l u p q hL hA hlen hk => exact step_x2 f N m st av a l u p q hL hA hlen hk
  | x3 m st fr av a l u p hp hav hL hA hlen hk => subst hp; exact step_x3 f N m st fr av a l u hav hL hA hlen hk
  | x5 m st fr av a l u p hav hL hA hlen hk => exact step_x5 f N m st fr av a l u p hav hL hA hlen hk
  | x6 m st av a l u p q hL hA hlen hk => exact step_x6 f N m st av a l u p q hL hA hlen hk

theorem rpp_run (f : List Int → Bool) (N : Nat) (c : CfgR) (b : Pos (List Int × List Int)) (h : RepR N c b)
    (hf : cost (treeR f) b ≤ RPP.fuel (N : Int)) :
    ∃ r, runR f N (RPP.fuel (N : Int)) c = .ok r ∧ Res f N (owed (treeR f) b) r := by
  obtain ⟨r, b', h1, h2, h3, h4⟩ := run_owed (rpp_step f N) _ c b h hf
  refine ⟨r, h1, ?_⟩
  rw [← h3]
  rcases h2 with ⟨e, h5⟩ | ⟨h5, st, av, hL, hA, hlen, hk, e, h6⟩
  · rw [e]; exact h5
  · rw [e]; exact ⟨h5, rfl, st, av, hL, hA, hlen, hk, rfl, by omega⟩

theorem splits_length : ∀ (a0 b0 : List Int), (splits b0 a0).length = a0.length
  | [], _ => rfl
  | _ :: xs, b0 => by simp [splits, splits_length xs]

theorem wt_treeR (f : List Int → Bool) : ∀ (m : Nat) (p av : List Int), av.length = m →
    wt (treeR f) m (p, av) + 1 ≤ 4 * (m + 1).factorial
  | 0, p, av, _ => by simp [wt]
  | m + 1, p, av, h => by
    have := wt_succ_le (T := treeR f) m (p, av) (4 * (m + 1).factorial) (by
      intro c hc
      obtain ⟨fr, hfr, rfl⟩ := List.mem_map.mp hc
      obtain ⟨a1, h1, h2⟩ := (mem_splits fr av []).mp hfr
      apply wt_treeR f m
      have := congrArg List.length h2
      simp only [Fr.rest, h1, List.nil_append, List.length_append, List.length_cons] at this ⊢
      omega)
    have hl : ((treeR f).kids (p, av)).length = m + 1 := by simp [treeR, splits_length, h]
    rw [hl] at this
    have hp := Nat.factorial_pos (m + 1)
    rw [Nat.factorial_succ (m + 1), Nat.succ_mul (m + 1)]
    rw [Nat.mul_left_comm] at this
    omega

theorem links_iota (l : Sl) : ∀ (k s : Nat),
    (∀ i : Nat, s ≤ i → i < s + k → get l (i : Int) = .ok ((i : Int) + 1)) →
    Links l ((List.range' s k).map Int.ofNat ++ [((s + k : Nat) : Int)]) := by
  intro k
  induction k with
  | zero => intro s _; simp [Links]
  | succ k ih =>
    intro s h
    have h1 := ih (s + 1) (fun i h1 h2 => h i (by omega) (by omega))
    have h0 := h s (by omega) (by omega)
    rw [List.range'_succ]
    cases k with
    | zero =>
      simp only [List.range'_zero, List.map_nil, List.nil_append, List.map_cons, List.cons_append, Links, and_true]
      rw [show Int.ofNat s = (s : Int) from rfl, h0]; congr 1
    | succ k' =>
      rw [List.range'_succ] at h1 ⊢
      simp only [List.map_cons, List.cons_append, Links] at h1 ⊢
      refine ⟨?_, ?_⟩
      · rw [show Int.ofNat s = (s : Int) from rfl, h0]; congr 1
      · have e : s + 1 + (k' + 1) = s + (k' + 1 + 1) := by omega
        rw [e] at h1; exact h1

def l0 (N : Nat) : Sl := (List.range N).map (fun (i : Nat) => (i : Int) + 1) ++ [0]

theorem linv_init (N : Nat) : LInv N [] (iotaL N) (l0 N) := by
  refine ⟨rfl, ?_⟩
  have hN : get (l0 N) (N : Int) = .ok 0 := by
    have : (N : Int) = (((List.range N).map (fun (i : Nat) => (i : Int) + 1)).length : Int) := by simp
    rw [l0, this]; exact get_append_length _ _ _
  have hi : ∀ i : Nat, 0 ≤ i → i < 0 + N → get (l0 N) (i : Int) = .ok ((i : Int) + 1) := by
    intro i _ hi
    rw [get_natCast]
    have : i < (l0 N).length := by simp [l0]; omega
    simp only [this, dite_true]
    congr 1
    simp [l0, (by omega : i < N)]
  have h := links_iota (l0 N) N 0 hi
  rw [← List.range_eq_range', Nat.zero_add] at h
  show Links (l0 N) ((N : Int) :: (iotaL N ++ [(N : Int)]))
  cases N with
  | zero => simpa [iotaL, Links] using hN
  | succ M =>
    have e : iotaL (M + 1) ++ [((M + 1 : Nat) : Int)] = 0 :: ((List.range' 1 M).map Int.ofNat ++ [((M + 1 : Nat) : Int)]) := by
      simp [iotaL, List.range_eq_range', List.range'_succ]
    rw [e] at ⊢
    refine ⟨hN, ?_⟩
    rw [← e]; exact h

theorem RPP.first_run (f : List Int → Bool) (N : Nat) (hN : 1 ≤ N) :
    ∃ r, RPP.run f (N : Int) (RPP.fuel (N : Int)) .x2 0 0 0 (List.replicate N 0) (l0 N) (List.replicate N 0) = .ok r ∧
      Res f N (rppermList f (N : Int)) r := by
  obtain ⟨m, rfl⟩ : ∃ m, N = m + 1 := ⟨N - 1, by omega⟩
  have hA : Arr (m + 1) [] (List.replicate (m + 1) 0) (List.replicate (m + 1) 0) :=
    ⟨List.replicate (m + 1) 0, List.replicate (m + 1) 0, by simp [pref], by simp [ppref], by simp, by simp⟩
  have hc : cost (treeR f) (.down m (pref [], iotaL (m + 1)) (stackR [])) ≤ RPP.fuel ((m + 1 : Nat) : Int) := by
    have := wt_treeR f (m + 1) [] (iotaL (m + 1)) (by simp [iotaL])
    simp only [cost, stackR, costNext, pref, RPP.fuel, Int.toNat_natCast, foldl_mul_succ_eq_factorial] at this ⊢
    omega
  obtain ⟨r, h1, h2⟩ := rpp_run f (m + 1) _ _
    (.x2 m [] (iotaL (m + 1)) _ _ _ 0 0 (linv_init (m + 1)) hA (by simp [l0]) (by simp)) hc
  refine ⟨r, by simpa [runR] using h1, ?_⟩
  have e : owed (treeR f) (.down m (pref [], iotaL (m + 1)) (stackR [])) = rppermList f ((m + 1 : Nat) : Int) := by
    have := subP_nil f ((m + 1 : Nat) : Int)
    simp only [Int.toNat_natCast] at this
    simp only [owed, stackR, after, List.append_nil, pref, sub_treeR, this]
  rw [e] at h2; exact h2

theorem RPP.leaf_run (f : List Int → Bool) (N : Nat) (rem : List (List Int)) (a l u : Sl)
    (h : Leaf f N rem a l u) :
    ∃ r, RPP.run f (N : Int) (RPP.fuel (N : Int)) .x6 ((N : Int) - 1) 0 0 a l u = .ok r ∧ Res f N rem r := by
  obtain ⟨st, av, hL, hA, hlen, hk, rfl, hc⟩ := h
  obtain ⟨r, h1, h2⟩ := rpp_run f N _ _ (.x6 1 st av a l u 0 0 hL hA hlen hk) hc
  have e : (st.length : Int) = (N : Int) - 1 := by omega
  exact ⟨r, by rw [← e]; exact h1, h2⟩

end machine

/-- the states of the iterator, with the output still to come -/
def RPP.Owes (f : List Int → Bool) (N : Nat) (s : RPP) (rem : List (List Int)) : Prop :=
  s.n = (N : Int) ∧
  ((s.a = none ∧ s.done = false ∧ s.l = l0 N ∧ s.u = List.replicate N 0 ∧ rem = rppermList f (N : Int)) ∨
   (∃ a, s.a = some a ∧ s.done = false ∧ Leaf f N rem a s.l s.u) ∨
   (s.a ≠ none ∧ s.done = true ∧ rem = []))
theorem RPP.next_run (f : List Int → Bool) (N : Nat) (hN : 1 ≤ N) (s : RPP) (rem : List (List Int))
    (h : RPP.Owes f N s rem) (hnd : s.done = false) :
    ∃ a l u b, Res f N rem (a, l, u, b) ∧ RPP.next f s = .ok (⟨(N : Int), some a, l, u, !b⟩, b) := by
  obtain ⟨hn, h⟩ := h
  have hN0 : ((N : Int) == 0) = false := by simp only [beq_eq_false_iff_ne, ne_eq]; omega
  have hmk : make (N : Int) = .ok (List.replicate N 0) := by simp [make]
  rcases h with ⟨ha, _, hl, hu, hrem⟩ | ⟨a, ha, _, hleaf⟩ | ⟨_, hd, _⟩
  · obtain ⟨⟨a', l', u', b'⟩, h1, h2⟩ := RPP.first_run f N hN
    rw [← hrem] at h2
    refine ⟨a', l', u', b', h2, ?_⟩
    cases s
    simp only at hn ha hl hu
    subst hn ha hl hu
    simp [RPP.next, hmk, hN0, h1]
  · obtain ⟨⟨a', l', u', b'⟩, h1, h2⟩ := RPP.leaf_run f N rem a s.l s.u hleaf
    refine ⟨a', l', u', b', h2, ?_⟩
    cases s
    simp only at hn ha hnd h1
    subst hn ha hnd
    simp [RPP.next, h1]
  · rw [hd] at hnd; cases hnd

theorem RPP.next_owes (f : List Int → Bool) (N : Nat) (hN : 1 ≤ N) (s : RPP) (rem : List (List Int))
    (h : RPP.Owes f N s rem) :
    ∃ s', (RPP.it f).next s = .ok (s', !rem.isEmpty) ∧ (∀ x ∈ rem.head?, s'.a.getD [] = x) ∧
      RPP.Owes f N s' rem.tail := by
  by_cases hd : s.done = true
  · obtain ⟨hn, ⟨_, h2, _⟩ | ⟨_, _, h2, _⟩ | ⟨ha, _, rfl⟩⟩ := h
    · rw [hd] at h2; cases h2
    · rw [hd] at h2; cases h2
    · refine ⟨s, ?_, by simp, hn, Or.inr (Or.inr ⟨ha, hd, rfl⟩)⟩
      cases hsa : s.a with
      | none => exact absurd hsa ha
      | some a => simp [RPP.it, RPP.next, hsa, hd]
  · obtain ⟨a, l, u, b, h1, h2⟩ := RPP.next_run f N hN s rem h (by simpa using hd)
    cases rem with
    | nil =>
      obtain rfl : b = false := h1
      exact ⟨_, h2, by simp, rfl, Or.inr (Or.inr ⟨by simp, rfl, rfl⟩)⟩
    | cons x rest =>
      obtain ⟨hb, hax, hleaf⟩ := h1
      simp only at hb hax hleaf
      subst hb hax
      exact ⟨_, h2, by simp, rfl, Or.inr (Or.inl ⟨a, rfl, rfl, hleaf⟩)⟩

theorem rppermList_zero (f : List Int → Bool) : rppermList f 0 = [[]] := by
  simp [rppermList, permList, permsOf, accept, acceptAbove]

end Iter
