import Mamba.Spec.SortInts
import Mathlib.Data.List.Sort
/-! Lemmas for C17: the two-pointer functions of `sortints` on strictly increasing lists.

`Union`, `Intersection`, `SetMinus` and `XOR` are one loop: the smaller of the two heads is consumed and is
emitted or not according to whether it stood on the left only, on both sides, or on the right only
(`merge3 l m r`).  Membership and sortedness are proved once for `merge3`: in each step an element `z` either
is the consumed head, which occurs nowhere in what is left, or the step does not concern it. -/
namespace SortInts

theorem mem_cons_ne {z h : Int} {t : List Int} (hz : z ≠ h) : z ∈ h :: t ↔ z ∈ t := by
  rw [List.mem_cons]; exact or_iff_right hz

theorem lt_of_mem_cons_of_lt {x y v : Int} {ys : List Int} (h : SS (y :: ys)) (hxy : x < y) (hv : v ∈ y :: ys) :
    x < v := by
  rcases List.mem_cons.mp hv with rfl | hv
  · exact hxy
  · exact Int.lt_trans hxy (List.rel_of_pairwise_cons h hv)

theorem head_not_mem {x : Int} {xs : List Int} (h : SS (x :: xs)) : x ∉ xs :=
  fun hm => Int.lt_irrefl x (List.rel_of_pairwise_cons h hm)

theorem not_mem_cons_of_lt {x y : Int} {ys : List Int} (h : SS (y :: ys)) (hxy : x < y) : x ∉ y :: ys :=
  fun hm => Int.lt_irrefl x (lt_of_mem_cons_of_lt h hxy hm)

def keepIf (c : Bool) (l : List Int) : List Int := if c then l else []

theorem mem_keepIf {c : Bool} {z : Int} {t : List Int} : z ∈ keepIf c t ↔ c ∧ z ∈ t := by
  cases c <;> simp [keepIf]

theorem keepIf_append_sorted {c : Bool} {h : Int} {t : List Int} (ht : SS t) (hh : ∀ v ∈ t, h < v) :
    SS (keepIf c [h] ++ t) := by
  cases c
  · exact ht
  · exact List.pairwise_cons.mpr ⟨hh, ht⟩

def merge3 (l m r : Bool) : List Int → List Int → List Int
  | [], b => keepIf r b
  | x :: xs, [] => keepIf l (x :: xs)
  | x :: xs, y :: ys =>
    if x = y then keepIf m [x] ++ merge3 l m r xs ys
    else if x > y then keepIf r [y] ++ merge3 l m r (x :: xs) ys
    else keepIf l [x] ++ merge3 l m r xs (y :: ys)
termination_by a b => a.length + b.length

theorem mem_merge3 (l m r : Bool) (a b : List Int) (ha : SS a) (hb : SS b) (z : Int) :
    z ∈ merge3 l m r a b ↔ (l ∧ z ∈ a ∧ z ∉ b) ∨ (m ∧ z ∈ a ∧ z ∈ b) ∨ (r ∧ z ∉ a ∧ z ∈ b) := by
  fun_induction merge3 l m r a b
  · simp [mem_keepIf]
  · simp [mem_keepIf]
  case case3 xs x ys ih =>
    rw [List.mem_append, mem_keepIf, ih ha.of_cons hb.of_cons]
    by_cases hz : z = x
    · subst hz
      simp [head_not_mem ha, head_not_mem hb]
    · simp only [mem_cons_ne hz, List.not_mem_nil, and_false, false_or]
  case case4 x xs y ys hne hgt ih =>
    rw [List.mem_append, mem_keepIf, ih ha hb.of_cons]
    by_cases hz : z = y
    · subst hz
      simp [head_not_mem hb, not_mem_cons_of_lt ha hgt]
    · simp only [mem_cons_ne hz, List.not_mem_nil, and_false, false_or]
  case case5 x xs y ys hne hgt ih =>
    rw [List.mem_append, mem_keepIf, ih ha.of_cons hb]
    by_cases hz : z = x
    · subst hz
      simp [head_not_mem ha, not_mem_cons_of_lt hb (show z < y by omega)]
    · simp only [mem_cons_ne hz, List.not_mem_nil, and_false, false_or]

theorem mem_or_of_mem_merge3 {l m r : Bool} {a b : List Int} (ha : SS a) (hb : SS b) {z : Int}
    (h : z ∈ merge3 l m r a b) : z ∈ a ∨ z ∈ b := by
  rcases (mem_merge3 l m r a b ha hb z).mp h with h | h | h
  · exact Or.inl h.2.1
  · exact Or.inl h.2.1
  · exact Or.inr h.2.2

theorem merge3_sorted (l m r : Bool) (a b : List Int) (ha : SS a) (hb : SS b) : SS (merge3 l m r a b) := by
  fun_induction merge3 l m r a b
  · cases r <;> simp [keepIf, hb]
  · cases l <;> simp [keepIf, ha]
  case case3 xs x ys ih =>
    refine keepIf_append_sorted (ih ha.of_cons hb.of_cons) fun v hv => ?_
    rcases mem_or_of_mem_merge3 ha.of_cons hb.of_cons hv with hv | hv
    · exact List.rel_of_pairwise_cons ha hv
    · exact List.rel_of_pairwise_cons hb hv
  case case4 x xs y ys hne hgt ih =>
    refine keepIf_append_sorted (ih ha hb.of_cons) fun v hv => ?_
    rcases mem_or_of_mem_merge3 ha hb.of_cons hv with hv | hv
    · exact lt_of_mem_cons_of_lt ha hgt hv
    · exact List.rel_of_pairwise_cons hb hv
  case case5 x xs y ys hne hgt ih =>
    refine keepIf_append_sorted (ih ha.of_cons hb) fun v hv => ?_
    rcases mem_or_of_mem_merge3 ha.of_cons hb hv with hv | hv
    · exact List.rel_of_pairwise_cons ha hv
    · exact lt_of_mem_cons_of_lt hb (show x < y by omega) hv

theorem union_eq_merge3 (a b : List Int) : union a b = merge3 true true true a b := by
  fun_induction union a b <;> simp [merge3, keepIf, *]

theorem intersection_eq_merge3 (a b : List Int) : intersection a b = merge3 false true false a b := by
  fun_induction intersection a b <;> simp [merge3, keepIf, *]

theorem setMinus_eq_merge3 (a b : List Int) : setMinus a b = merge3 true false false a b := by
  fun_induction setMinus a b <;> simp [merge3, keepIf, *]

theorem xor_eq_merge3 (a b : List Int) : xor a b = merge3 true false true a b := by
  fun_induction xor a b <;> simp [merge3, keepIf, *]

theorem mem_union (a b : List Int) (x : Int) : x ∈ union a b ↔ x ∈ a ∨ x ∈ b := by
  fun_induction union a b
  · simp
  · simp
  case case3 ih => rw [List.mem_cons, ih, List.mem_cons, List.mem_cons, or_or_distrib_left]
  case case4 x xs y ys _ _ ih => rw [List.mem_cons, ih, List.mem_cons (b := y), or_left_comm]
  case case5 x xs y ys _ _ ih => rw [List.mem_cons, ih, List.mem_cons (l := xs), or_assoc]

theorem union_sorted (a b : List Int) (ha : SS a) (hb : SS b) : SS (union a b) :=
  union_eq_merge3 a b ▸ merge3_sorted _ _ _ a b ha hb

theorem union_nil_right (L : List Int) : union L [] = L := by cases L <;> simp [union]

theorem union_cons_of_lt {L : List Int} {v : Int} (K : List Int) (h : ∀ y ∈ L, v < y) :
    union L (v :: K) = v :: union L K := by
  cases L with
  | nil => simp [union]
  | cons y ys =>
    have := h y List.mem_cons_self
    rw [union, if_neg (by omega), if_pos (by omega)]

theorem union_append_of_lt {A : List Int} (B K : List Int) (h : ∀ a ∈ A, ∀ k ∈ K, a < k) :
    union (A ++ B) K = A ++ union B K := by
  induction A with
  | nil => rfl
  | cons a A ih =>
    cases K with
    | nil => rw [union_nil_right, union_nil_right]
    | cons k K =>
      have := h a List.mem_cons_self k List.mem_cons_self
      rw [List.cons_append, union, if_neg (by omega), if_neg (by omega), ih fun a' ha' => h a' (List.mem_cons_of_mem _ ha'),
        List.cons_append]

theorem mem_intersection (a b : List Int) (ha : SS a) (hb : SS b) (x : Int) :
    x ∈ intersection a b ↔ x ∈ a ∧ x ∈ b := by
  rw [intersection_eq_merge3, mem_merge3 _ _ _ a b ha hb]; simp

theorem intersection_sorted (a b : List Int) (ha : SS a) (hb : SS b) : SS (intersection a b) :=
  intersection_eq_merge3 a b ▸ merge3_sorted _ _ _ a b ha hb

theorem mem_setMinus (a b : List Int) (ha : SS a) (hb : SS b) (x : Int) :
    x ∈ setMinus a b ↔ x ∈ a ∧ x ∉ b := by
  rw [setMinus_eq_merge3, mem_merge3 _ _ _ a b ha hb]; simp

theorem setMinus_sorted (a b : List Int) (ha : SS a) (hb : SS b) : SS (setMinus a b) :=
  setMinus_eq_merge3 a b ▸ merge3_sorted _ _ _ a b ha hb

theorem mem_xor (a b : List Int) (ha : SS a) (hb : SS b) (x : Int) :
    x ∈ xor a b ↔ (x ∈ a ∧ x ∉ b) ∨ (x ∉ a ∧ x ∈ b) := by
  rw [xor_eq_merge3, mem_merge3 _ _ _ a b ha hb]; simp

theorem xor_sorted (a b : List Int) (ha : SS a) (hb : SS b) : SS (xor a b) :=
  xor_eq_merge3 a b ▸ merge3_sorted _ _ _ a b ha hb

theorem containsSorted_eq (a b : List Int) : containsSorted a b = (setMinus b a).isEmpty := by
  fun_induction containsSorted a b
  case case1 b => cases b <;> simp [setMinus]
  case case2 => simp [setMinus]
  case case3 xs x ys ih => rw [ih, setMinus, if_pos rfl]
  case case4 x xs y ys hne hgt => rw [setMinus, if_neg (Ne.symm hne), if_neg (by omega)]; rfl
  case case5 x xs y ys hne hgt ih => rw [ih, setMinus, if_neg (Ne.symm hne), if_pos (by omega)]

end SortInts
