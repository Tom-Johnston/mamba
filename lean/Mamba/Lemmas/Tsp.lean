import Mamba.Model.Tsp
import Mamba.Lemmas.Pairs
/-! `tsp.LIB` (C20): the rows stay in the tabwriter's buffer until `Flush`, the `Write` calls of a run are one script
(header, the chunks of `Flush`, trailer) on which the result depends only through the calls actually made, and `format` on
the triangular table prints column `j` as one block over rows `j..n-1`. -/
namespace Tsp

/-- a character that the tabwriter treats as ordinary text and that is not a blank -/
def Plain (c : Char) : Prop := c ≠ '\t' ∧ c ≠ '\n' ∧ c ≠ ' '

theorem digitChar_plain (d : Nat) : Plain (digitChar d) := by
  unfold digitChar Plain; split <;> decide

theorem decNat_plain (n : Nat) : ∀ c ∈ decNat n, Plain c := by
  induction n using Nat.strongRecOn with
  | _ n ih =>
    intro c hc
    rw [decNat] at hc
    split at hc
    · simp at hc; subst hc; exact digitChar_plain n
    · simp at hc
      rcases hc with hc | hc
      · exact ih (n / 10) (by omega) c hc
      · subst hc; exact digitChar_plain _

theorem decNat_ne_nil (n : Nat) : decNat n ≠ [] := by
  rw [decNat]; split <;> simp

theorem decInt_plain (x : Int) : ∀ c ∈ decInt x, Plain c := by
  intro c hc
  cases x with
  | ofNat m => exact decNat_plain m c hc
  | negSucc m =>
    simp [decInt] at hc
    rcases hc with rfl | hc
    · unfold Plain; decide
    · exact decNat_plain _ c hc

theorem decInt_ne_nil (x : Int) : decInt x ≠ [] := by
  cases x with
  | ofNat m => exact decNat_ne_nil m
  | negSucc m => simp [decInt]


theorem twWrite_text_tab (f : Nat → WriteResult) (txt : List Char) (h : ∀ c ∈ txt, Plain c) (t : TW) (s : W) :
    twWrite f t s (txt ++ ['\t']) = (⟨[], t.done, t.cur ++ [⟨t.cell ++ txt, true⟩]⟩, s, none) := by
  induction txt generalizing t with
  | nil => simp [twWrite, twWriteChar]
  | cons c cs ih =>
    have hc := h c (by simp)
    have h1 : c ≠ '\t' := hc.1
    have h2 : c ≠ '\n' := hc.2.1
    simp only [List.cons_append, twWrite, twWriteChar, h1, h2, if_false]
    rw [ih (fun x hx => h x (by simp [hx]))]
    simp

theorem twWrite_nl (f : Nat → WriteResult) (t : TW) (s : W) (h : t.cur ≠ []) :
    twWrite f t s ['\n'] = (⟨[], t.done ++ [t.cur ++ [⟨t.cell, false⟩]], []⟩, s, none) := by
  simp [twWrite, twWriteChar, h]

/-- the cells of row `i` as the tabwriter sees them: `i` weights and the diagonal `0`, all tab-terminated, and
the empty text between the last tab and the line break -/
def rowCells (w : Nat → Nat → Int) (i : Nat) : List Cell :=
  (List.range' 0 i).map (fun j => ⟨decInt (w i j), true⟩) ++ [⟨['0'], true⟩, ⟨[], false⟩]

def rowPairs (i : Nat) : List (Nat × Nat) := (List.range' 0 i).map (fun j => (i, j))

theorem inner_eq (f : Nat → WriteResult) (w : Nat → Nat → Int) (i : Nat) :
    ∀ (k j : Nat) (done : List (List Cell)) (cur : List Cell) (s : W) (wc : List (Nat × Nat)),
    inner f w i k j ⟨⟨[], done, cur⟩, s, wc⟩ =
      ⟨⟨[], done, cur ++ (List.range' j k).map (fun j => ⟨decInt (w i j), true⟩)⟩, s,
        wc ++ (List.range' j k).map (fun j => (i, j))⟩ := by
  intro k
  induction k with
  | zero => intro j done cur s wc; simp [inner]
  | succ k ih =>
    intro j done cur s wc
    simp only [inner]
    rw [twWrite_text_tab f _ (decInt_plain _)]
    simp only [List.nil_append]
    rw [ih]
    simp [List.range'_succ]

theorem rows_eq (f : Nat → WriteResult) (w : Nat → Nat → Int) :
    ∀ (k i : Nat) (done : List (List Cell)) (s : W) (wc : List (Nat × Nat)),
    rows f w k i ⟨⟨[], done, []⟩, s, wc⟩ =
      ⟨⟨[], done ++ (List.range' i k).map (rowCells w), []⟩, s, wc ++ (List.range' i k).flatMap rowPairs⟩ := by
  intro k
  induction k with
  | zero => intro i done s wc; simp [rows]
  | succ k ih =>
    intro i done s wc
    simp only [rows]
    rw [inner_eq]
    have hplain : ∀ c ∈ ['0'], Plain c := by
      intro c hc; simp at hc; subst hc; unfold Plain; decide
    have h0 := twWrite_text_tab f ['0'] hplain
    simp only [List.cons_append, List.nil_append] at h0
    rw [h0]
    rw [twWrite_nl _ _ _ (by simp)]
    simp only [List.nil_append]
    rw [ih]
    simp [List.range'_succ, rowCells, rowPairs]

/-- the buffered lines at `Flush` time -/
def triLines (n : Nat) (w : Nat → Nat → Int) : List Line :=
  ((List.range' 0 n).map (rowCells w)).map (fun c => ⟨c, false⟩) ++ [⟨[], true⟩]

/-- the `Write` calls of `Flush` -/
def body (n : Nat) (w : Nat → Nat → Int) : List Chunk := format [] (triLines n w)

def allPairs (n : Nat) : List (Nat × Nat) := (List.range' 0 n).flatMap rowPairs

theorem lib_unfold (n : Nat) (w : Nat → Nat → Int) (f : Nat → WriteResult) :
    lib n w f =
      match writeAll f ⟨0, []⟩ (hdrWrites n) with
      | (s3, some e) => Res.of s3 (some e) []
      | (s3, none) =>
      match writeAll0 f s3 (body n w) with
      | (s4, some e) => Res.of s4 (some e) (allPairs n)
      | (s4, none) =>
      match writeAll f s4 trailerWrites with
      | (s5, some e) => Res.of s5 (some e) (allPairs n)
      | (s5, none) => Res.of s5 none (allPairs n) := by
  simp only [lib, TW.new, rows_eq, twFlush, TW.flushChunks, TW.lines, List.nil_append, body, triLines, allPairs,
    List.length_nil, Nat.lt_irrefl, if_false]
  rcases writeAll f ⟨0, []⟩ (hdrWrites n) with ⟨s3, _ | e3⟩
  rotate_left
  · rfl
  dsimp only
  generalize writeAll0 f s3 _ = r
  rcases r with ⟨s4, _ | e⟩ <;> rfl

/-! ### the `Write` calls of `LIB` as one script

The header and trailer calls go to the writer directly, the calls of `Flush` through the tabwriter's `write0`; they differ
in one flag only (what a short count without an error means), so the protocol is stated for one loop over one list of calls. -/

/-- what one `Write` call does given the writer's answer: calls flagged `true` are the tabwriter's (`write0`: a short
count without an error becomes `io.ErrShortWrite`), the others are `io.WriteString`/`Fprintf` on the writer itself -/
def answer (r : WriteResult) (s : W) (c : Bool × List Char) : W × Option Err :=
  match r with
  | .ok => (⟨s.calls + 1, s.out ++ c.2⟩, none)
  | .err k => (⟨s.calls + 1, s.out ++ c.2.take k⟩, some .writer)
  | .shortNil k =>
    (⟨s.calls + 1, s.out ++ c.2.take k⟩, if c.1 = true ∧ min k c.2.length ≠ c.2.length then some .shortWrite else none)

/-- a list of `Write` calls, each followed by `if err != nil { return err }` -/
def runCalls (f : Nat → WriteResult) (s : W) : List (Bool × List Char) → W × Option Err
  | [] => (s, none)
  | c :: cs =>
    match answer (f s.calls) s c with
    | (s', some e) => (s', some e)
    | (s', none) => runCalls f s' cs

theorem answer_calls (r : WriteResult) (s : W) (c : Bool × List Char) : (answer r s c).1.calls = s.calls + 1 := by
  cases r <;> rfl

theorem write_answer (f : Nat → WriteResult) (s : W) (p : List Char) :
    ((write f s p).1, (write f s p).2.2) = answer (f s.calls) s (false, p) := by
  unfold write answer
  cases f s.calls <;> simp

theorem write0_answer (f : Nat → WriteResult) (s : W) (p : List Char) :
    write0 f s p = answer (f s.calls) s (true, p) := by
  unfold write0 write answer
  cases f s.calls with
  | ok => simp
  | err k => rfl
  | shortNil k => by_cases h : min k p.length = p.length <;> simp [h]

theorem writeAll_run (f : Nat → WriteResult) (ps : List (List Char)) :
    ∀ s, writeAll f s ps = runCalls f s (ps.map (Prod.mk false)) := by
  induction ps with
  | nil => intro s; rfl
  | cons p ps ih =>
    intro s
    rw [List.map_cons, runCalls, ← write_answer, writeAll]
    rcases write f s p with ⟨s', m, _ | e⟩
    · exact ih s'
    · rfl

theorem writeAll0_run (f : Nat → WriteResult) (cs : List Chunk) :
    ∀ s, writeAll0 f s cs = runCalls f s (cs.map fun c => (true, c.bytes)) := by
  induction cs with
  | nil => intro s; rfl
  | cons c cs ih =>
    intro s
    rw [List.map_cons, runCalls, ← write0_answer, writeAll0]
    rcases write0 f s c.bytes with ⟨s', _ | e⟩
    · exact ih s'
    · rfl

theorem runCalls_append (f : Nat → WriteResult) (a b : List (Bool × List Char)) :
    ∀ s, runCalls f s (a ++ b) =
      match runCalls f s a with
      | (s', some e) => (s', some e)
      | (s', none) => runCalls f s' b := by
  induction a with
  | nil => intro s; rfl
  | cons c a ih =>
    intro s
    rw [List.cons_append, runCalls, runCalls]
    rcases answer (f s.calls) s c with ⟨s', _ | e⟩
    · exact ih s'
    · rfl

theorem runCalls_calls_le (f : Nat → WriteResult) (cs : List (Bool × List Char)) :
    ∀ s, s.calls ≤ (runCalls f s cs).1.calls := by
  induction cs with
  | nil => intro s; exact Nat.le_refl _
  | cons c cs ih =>
    intro s
    have h := answer_calls (f s.calls) s c
    rw [runCalls]
    generalize answer (f s.calls) s c = r at h
    rcases r with ⟨s', _ | e⟩
    · exact Nat.le_trans (Nat.le_of_lt (Nat.lt_of_succ_le (Nat.le_of_eq h.symm))) (ih s')
    · exact Nat.le_of_lt (Nat.lt_of_succ_le (Nat.le_of_eq h.symm))

theorem runCalls_cons_lt (f : Nat → WriteResult) (c : Bool × List Char) (cs : List (Bool × List Char)) (s : W) :
    s.calls < (runCalls f s (c :: cs)).1.calls := by
  have h := answer_calls (f s.calls) s c
  rw [runCalls]
  generalize answer (f s.calls) s c = r at h
  rcases r with ⟨s', _ | e⟩
  · exact Nat.lt_of_lt_of_le (Nat.lt_of_succ_le (Nat.le_of_eq h.symm)) (runCalls_calls_le f cs s')
  · exact Nat.lt_of_succ_le (Nat.le_of_eq h.symm)

theorem runCalls_congr {f g : Nat → WriteResult} (cs : List (Bool × List Char)) :
    ∀ s, (∀ k, s.calls ≤ k → k < (runCalls f s cs).1.calls → g k = f k) → runCalls g s cs = runCalls f s cs := by
  induction cs with
  | nil => intro s _; rfl
  | cons c cs ih =>
    intro s h
    have hg := h s.calls (Nat.le_refl _) (runCalls_cons_lt f c cs s)
    have hc := answer_calls (f s.calls) s c
    rw [runCalls, runCalls, hg]
    rw [runCalls] at h
    generalize answer (f s.calls) s c = r at h hc
    rcases r with ⟨s', _ | e⟩
    · exact ih s' fun k hk => h k (Nat.le_trans (Nat.le_of_lt (Nat.lt_of_succ_le (Nat.le_of_eq hc.symm))) hk)
    · rfl

theorem runCalls_ok {f : Nat → WriteResult} (cs : List (Bool × List Char)) :
    ∀ s, (∀ k, s.calls ≤ k → k < s.calls + cs.length → f k = .ok) →
      runCalls f s cs = (⟨s.calls + cs.length, s.out ++ (cs.map Prod.snd).flatten⟩, none) := by
  induction cs with
  | nil => intro s _; rw [runCalls, List.map_nil, List.flatten_nil, List.append_nil]; rfl
  | cons c cs ih =>
    intro s h
    rw [runCalls, h s.calls (Nat.le_refl _) (Nat.lt_add_of_pos_right (Nat.succ_pos _))]
    dsimp only [answer]
    rw [ih _ fun k h1 h2 => h k (Nat.le_of_succ_le h1) (Nat.succ_add_eq_add_succ s.calls cs.length ▸ h2),
      List.map_cons, List.flatten_cons, List.append_assoc, Nat.succ_add_eq_add_succ]
    rfl

/-- no `Write` call with index in `[a, b)` returned an error -/
def Clean (f : Nat → WriteResult) (a b : Nat) : Prop := ∀ k, a ≤ k → k < b → ∀ c, f k ≠ .err c

theorem runCalls_none {f : Nat → WriteResult} (cs : List (Bool × List Char)) :
    ∀ s, (runCalls f s cs).2 = none → Clean f s.calls (runCalls f s cs).1.calls := by
  induction cs with
  | nil => intro s _ k h1 h2; exact absurd h2 (Nat.not_lt.mpr h1)
  | cons c cs ih =>
    intro s h k h1 h2 m hm
    have hc := answer_calls (f s.calls) s c
    rw [runCalls] at h h2
    rcases Nat.eq_or_lt_of_le h1 with rfl | h1
    · rw [hm] at h; cases h
    · generalize answer (f s.calls) s c = r at h h2 hc
      rcases r with ⟨s', _ | e⟩
      · exact ih s' h k (hc ▸ h1) h2 m hm
      · cases h

theorem runCalls_some {f : Nat → WriteResult} (ps : List (List Char)) :
    ∀ s s' e, runCalls f s (ps.map (Prod.mk false)) = (s', some e) →
      ∃ k, s.calls ≤ k ∧ k < s.calls + ps.length ∧ ∃ c, f k = .err c := by
  induction ps with
  | nil => intro s s' e h; cases h
  | cons p ps ih =>
    intro s s' e h
    rw [List.map_cons, runCalls] at h
    cases hf : f s.calls with
    | err c => exact ⟨s.calls, Nat.le_refl _, Nat.lt_add_of_pos_right (Nat.succ_pos _), c, hf⟩
    | ok =>
      rw [hf] at h
      obtain ⟨k, h1, h2, hc⟩ := ih _ s' e h
      exact ⟨k, Nat.le_of_succ_le h1, Nat.succ_add_eq_add_succ s.calls ps.length ▸ h2, hc⟩
    | shortNil c =>
      rw [hf] at h
      dsimp only [answer] at h
      rw [if_neg (fun h => Bool.noConfusion h.1)] at h
      obtain ⟨k, h1, h2, hc⟩ := ih _ s' e h
      exact ⟨k, Nat.le_of_succ_le h1, Nat.succ_add_eq_add_succ s.calls ps.length ▸ h2, hc⟩

theorem writeAll_calls_le (f : Nat → WriteResult) (ps : List (List Char)) :
    ∀ s : W, s.calls ≤ (writeAll f s ps).1.calls := by
  intro s
  rw [writeAll_run]
  exact runCalls_calls_le f _ s

/-- the `Write` calls of `LIB`, in order: header, the chunks of `Flush` (flagged `true`: they go through `write0`), trailer -/
def script (n : Nat) (w : Nat → Nat → Int) : List (Bool × List Char) :=
  (hdrWrites n).map (Prod.mk false) ++
    ((body n w).map (fun c => (true, c.bytes)) ++ trailerWrites.map (Prod.mk false))

theorem lib_run (n : Nat) (w : Nat → Nat → Int) (f : Nat → WriteResult) :
    lib n w f = Res.of (runCalls f ⟨0, []⟩ (script n w)).1 (runCalls f ⟨0, []⟩ (script n w)).2
      (if (runCalls f ⟨0, []⟩ ((hdrWrites n).map (Prod.mk false))).2 = none then allPairs n else []) := by
  rw [lib_unfold, script, runCalls_append, writeAll_run]
  rcases runCalls f ⟨0, []⟩ ((hdrWrites n).map (Prod.mk false)) with ⟨s3, _ | e3⟩
  · dsimp only
    rw [runCalls_append, writeAll0_run, if_pos rfl]
    generalize runCalls f s3 _ = r4
    rcases r4 with ⟨s4, _ | e4⟩
    · dsimp only
      rw [writeAll_run]
      generalize runCalls f s4 _ = r5
      rcases r5 with ⟨s5, _ | e5⟩ <;> rfl
    · rfl
  · rfl

theorem hdr_calls_le (n : Nat) (w : Nat → Nat → Int) (f : Nat → WriteResult) :
    (runCalls f ⟨0, []⟩ ((hdrWrites n).map (Prod.mk false))).1.calls ≤ (lib n w f).calls := by
  rw [lib_run, script, runCalls_append]
  rcases runCalls f ⟨0, []⟩ ((hdrWrites n).map (Prod.mk false)) with ⟨s3, _ | e3⟩
  · exact runCalls_calls_le f _ s3
  · exact Nat.le_refl _

theorem lib_congr (n : Nat) (w : Nat → Nat → Int) {f g : Nat → WriteResult}
    (h : ∀ k, k < (lib n w f).calls → g k = f k) : lib n w g = lib n w f := by
  rw [lib_run n w g, lib_run n w f,
    runCalls_congr (script n w) ⟨0, []⟩ fun k _ hk => h k (by rw [lib_run]; exact hk),
    runCalls_congr ((hdrWrites n).map (Prod.mk false)) ⟨0, []⟩ fun k _ hk =>
      h k (Nat.lt_of_lt_of_le hk (hdr_calls_le n w f))]

theorem lib_clean (n : Nat) (w : Nat → Nat → Int) (f : Nat → WriteResult)
    (h : (lib n w f).err = none) : Clean f 0 (lib n w f).calls := by
  rw [lib_run] at h ⊢
  exact runCalls_none (script n w) ⟨0, []⟩ h

theorem lib_wcalls (n : Nat) (w : Nat → Nat → Int) (f : Nat → WriteResult) :
    ((lib n w f).wcalls = [] ∧ ∃ k, k < (hdrWrites n).length ∧ ∃ c, f k = .err c) ∨
      (lib n w f).wcalls = allPairs n := by
  rw [lib_run]
  rcases h : runCalls f ⟨0, []⟩ ((hdrWrites n).map (Prod.mk false)) with ⟨s3, _ | e3⟩
  · exact .inr (by dsimp only [Res.of]; rw [if_pos rfl])
  · obtain ⟨k, _, h2, hc⟩ := runCalls_some _ _ _ _ h
    exact .inl ⟨by dsimp only [Res.of]; exact if_neg (fun h => nomatch h), k, by rwa [Nat.zero_add] at h2, hc⟩

theorem takeWhile_all {α : Type} {p : α → Bool} {l : List α} (h : ∀ x ∈ l, p x = true) : l.takeWhile p = l := by
  simpa using List.takeWhile_append_of_pos (l₂ := []) h

theorem dropWhile_all {α : Type} {p : α → Bool} {l : List α} (h : ∀ x ∈ l, p x = true) : l.dropWhile p = [] := by
  simpa using List.dropWhile_append_of_pos (l₂ := []) h

theorem takeWhile_none {α : Type} {p : α → Bool} {l : List α} (h : ∀ x ∈ l, p x = false) : l.takeWhile p = [] := by
  cases l with
  | nil => rfl
  | cons a as => exact List.takeWhile_cons_of_neg (by simp [h a List.mem_cons_self])

theorem dropWhile_none {α : Type} {p : α → Bool} {l : List α} (h : ∀ x ∈ l, p x = false) : l.dropWhile p = l := by
  cases l with
  | nil => rfl
  | cons a as => exact List.dropWhile_cons_of_neg (by simp [h a List.mem_cons_self])

def rowL (w : Nat → Nat → Int) (i : Nat) : Line := ⟨rowCells w i, false⟩
def lastL : Line := ⟨[], true⟩

def rowsFrom (w : Nat → Nat → Int) (k m : Nat) : List Line := (List.range' k m).map (rowL w)

theorem triLines_eq (n : Nat) (w : Nat → Nat → Int) : triLines n w = rowsFrom w 0 n ++ [lastL] := by
  simp [triLines, rowsFrom, rowL, lastL, List.map_map, Function.comp_def]

theorem rowCells_length (w : Nat → Nat → Int) (i : Nat) : (rowCells w i).length = i + 2 := by
  simp [rowCells]

theorem hasCell_rowL (w : Nat → Nat → Int) (c i : Nat) : hasCell c (rowL w i) = decide (c < i + 1) := by
  simp [hasCell, rowL, rowCells_length]

theorem format_nil (ws : List Nat) : format ws [] = [] := by
  rw [format]; simp [writeLines]

theorem hasCell_rowsFrom (w : Nat → Nat → Int) (c k m : Nat) (h : c < k + 1) :
    ∀ l ∈ rowsFrom w k m, hasCell c l = true := by
  intro l hl
  simp [rowsFrom] at hl
  obtain ⟨i, hi, rfl⟩ := hl
  simp [hasCell_rowL] at *
  omega

/-- one column step of `format`: the first row has no cell in column `k+1`, all later rows do and form one block -/
theorem format_step (w : Nat → Nat → Int) (ws : List Nat) (k m : Nat) (hws : ws.length = k + 1) :
    format ws (rowsFrom w k (m + 1)) =
      writeLine ws (rowL w k) ++
        (if m = 0 then [] else format (ws ++ [blockWidth (k + 1) (rowsFrom w (k + 1) m)]) (rowsFrom w (k + 1) m)) := by
  have hsplit : rowsFrom w k (m + 1) = rowL w k :: rowsFrom w (k + 1) m := by
    simp [rowsFrom, List.range'_succ]
  have hrest := hasCell_rowsFrom w (k + 1) (k + 1) m (by omega)
  have hrest' : ∀ l ∈ rowsFrom w (k + 1) m, (!hasCell (k + 1) l) = false := by
    intro l hl; simp [hrest l hl]
  have h0 : (!hasCell (k + 1) (rowL w k)) = true := by simp [hasCell_rowL]
  rw [format, hws, hsplit]
  simp only [List.takeWhile_cons, List.dropWhile_cons, h0, if_true, takeWhile_none hrest', dropWhile_none hrest']
  by_cases hm : m = 0
  · subst hm
    simp [rowsFrom, writeLines]
  · have hne : rowsFrom w (k + 1) m ≠ [] := by
      cases m with
      | zero => exact absurd rfl hm
      | succ m => simp [rowsFrom, List.range'_succ]
    simp only [hne, dite_false, hm, if_false, takeWhile_all hrest, dropWhile_all hrest, format_nil, List.append_nil]
    simp [writeLines]

/-- the width of column `j`: one block over rows `j .. n-1` -/
def colW (n : Nat) (w : Nat → Nat → Int) (j : Nat) : Nat := blockWidth j (rowsFrom w j (n - j))

/-- the widths of columns `0 .. i` (those in force when row `i` is printed) -/
def widthsUpTo (n : Nat) (w : Nat → Nat → Int) (i : Nat) : List Nat := (List.range' 0 (i + 1)).map (colW n w)

theorem widthsUpTo_length (n : Nat) (w : Nat → Nat → Int) (i : Nat) : (widthsUpTo n w i).length = i + 1 := by
  rw [widthsUpTo, List.length_map, List.length_range']

theorem widthsUpTo_succ (n : Nat) (w : Nat → Nat → Int) (i : Nat) :
    widthsUpTo n w (i + 1) = widthsUpTo n w i ++ [colW n w (i + 1)] := by
  simp [widthsUpTo, List.range'_concat]

theorem format_rows (n : Nat) (w : Nat → Nat → Int) :
    ∀ (m k : Nat), k + m + 1 = n →
      format (widthsUpTo n w k) (rowsFrom w k (m + 1)) =
        (List.range' k (m + 1)).flatMap (fun i => writeLine (widthsUpTo n w i) (rowL w i)) := by
  intro m
  induction m with
  | zero =>
    intro k _
    rw [format_step w _ k 0 (widthsUpTo_length n w k)]
    simp
  | succ m ih =>
    intro k hk
    rw [format_step w _ k (m + 1) (widthsUpTo_length n w k)]
    have hcw : blockWidth (k + 1) (rowsFrom w (k + 1) (m + 1)) = colW n w (k + 1) := by
      have : n - (k + 1) = m + 1 := by omega
      simp [colW, this]
    rw [hcw, ← widthsUpTo_succ, if_neg (by omega), ih (k + 1) (by omega)]
    rw [List.range'_succ (s := k) (n := m + 1)]
    simp

theorem format_last : format [] [lastL] = [Chunk.tail] := by
  rw [format]
  simp [hasCell, lastL, writeLines, writeLine, writeCells]

theorem takeWhile_append_single {α : Type} {p : α → Bool} {l : List α} {x : α}
    (h : ∀ y ∈ l, p y = true) (hx : p x = false) : (l ++ [x]).takeWhile p = l := by
  rw [List.takeWhile_append_of_pos h, List.takeWhile_cons_of_neg (by simp [hx]), List.append_nil]

theorem dropWhile_append_single {α : Type} {p : α → Bool} {l : List α} {x : α}
    (h : ∀ y ∈ l, p y = true) (hx : p x = false) : (l ++ [x]).dropWhile p = [x] := by
  rw [List.dropWhile_append_of_pos h, List.dropWhile_cons_of_neg (by simp [hx])]

theorem body_eq (n : Nat) (w : Nat → Nat → Int) :
    body n w = (List.range' 0 n).flatMap (fun i => writeLine (widthsUpTo n w i) (rowL w i)) ++ [Chunk.tail] := by
  rw [body, triLines_eq]
  cases n with
  | zero => simp [rowsFrom, format_last]
  | succ m =>
    have hall := hasCell_rowsFrom w 0 0 (m + 1) (by omega)
    have hall' : ∀ l ∈ rowsFrom w 0 (m + 1), (!hasCell 0 l) = false := by
      intro l hl; simp [hall l hl]
    have hsplit : rowsFrom w 0 (m + 1) = rowL w 0 :: rowsFrom w 1 m := by
      simp [rowsFrom, List.range'_succ]
    have hlast : hasCell 0 lastL = false := by simp [hasCell, lastL]
    have hne : rowsFrom w 0 (m + 1) ++ [lastL] ≠ [] := by simp
    have htw : (rowsFrom w 0 (m + 1) ++ [lastL]).takeWhile (fun l => !hasCell 0 l) = [] := by
      rw [hsplit]; simp [hasCell_rowL]
    have hdw : (rowsFrom w 0 (m + 1) ++ [lastL]).dropWhile (fun l => !hasCell 0 l) =
        rowsFrom w 0 (m + 1) ++ [lastL] := by
      rw [hsplit]; simp [hasCell_rowL]
    rw [format]
    simp only [List.length_nil, htw, hdw, hne, dite_false, takeWhile_append_single hall hlast,
      dropWhile_append_single hall hlast, format_last, writeLines, List.flatMap_nil, List.nil_append]
    have hw0 : [blockWidth 0 (rowsFrom w 0 (m + 1))] = widthsUpTo (m + 1) w 0 := by
      simp [widthsUpTo, colW]
    rw [hw0, format_rows (m + 1) w m 0 (by omega)]

theorem allPairs_eq (n : Nat) :
    allPairs n = (List.range n).flatMap (fun i => (List.range i).map (fun j => (i, j))) := by
  simp only [allPairs, List.range_eq_range']
  rfl

theorem allPairs_swap (n : Nat) : allPairs n = (GraphRep.upperPairs n).map Prod.swap := by
  rw [allPairs_eq, GraphRep.upperPairs, List.map_flatMap]
  simp only [List.map_map]; rfl

theorem mem_allPairs (n : Nat) (p : Nat × Nat) : p ∈ allPairs n ↔ p.2 < p.1 ∧ p.1 < n := by
  rw [allPairs_swap, List.mem_map]
  constructor
  · rintro ⟨q, hq, rfl⟩; exact GraphRep.mem_upperPairs.1 hq
  · intro h; exact ⟨p.swap, GraphRep.mem_upperPairs.2 h, Prod.swap_swap p⟩

theorem allPairs_nodup (n : Nat) : (allPairs n).Nodup := by
  rw [allPairs_swap]
  exact List.Pairwise.map _ (fun a b h e => h (by simpa using congrArg Prod.swap e)) (GraphRep.upperPairs_nodup n)

theorem rowCells_congr (w w' : Nat → Nat → Int) (i : Nat) (h : ∀ j, j < i → w i j = w' i j) :
    rowCells w i = rowCells w' i := by
  unfold rowCells
  congr 1
  apply List.map_congr_left
  intro j hj
  rw [List.mem_range'_1] at hj
  rw [h j (by omega)]

theorem body_congr (n : Nat) (w w' : Nat → Nat → Int) (h : ∀ i j, j < i → i < n → w i j = w' i j) :
    body n w = body n w' := by
  unfold body triLines
  congr 3
  apply List.map_congr_left
  intro i hi
  rw [List.mem_range'_1] at hi
  exact rowCells_congr w w' i (fun j hj => h i j hj (by omega))

end Tsp
