import Mamba.Lemmas.DsaturState
/-! DSATUR model: a backtracking step (`dsBacktrackTo`: uncolouring loop, recolouring, `heap.Init`) preserves the state
invariant. -/
namespace CliqueColour
open GraphSpec

/-- state of the uncolouring loop: the path has been cut back to the prefix `pre` of `s.chosen` -/
structure UInv (g : G) (U0 : Nat) (s : Dsat) (pre : List Nat) (t : Dsat) : Prop where
  chosen : t.chosen = s.chosen
  cur : t.cur = s.cur
  choices : t.choices = s.choices
  maxUsed : t.maxUsed = s.maxUsed
  upper : t.upper = s.upper
  best : t.best = s.best
  lcol : t.colouring.length = g.n
  lseen : t.seen.length = g.n
  lrow : ∀ v, v < g.n → (t.seen.getD v []).length = U0
  colpre : ∀ w ∈ pre, colOf t w = colOf s w
  colrest : ∀ w, w < g.n → w ∉ pre → colOf t w = -1
  hnd : t.heap.Nodup
  hmem : ∀ w, w ∈ t.heap ↔ (w < g.n ∧ w ∉ pre)
  seenH : ∀ u ∈ t.heap, ∀ c, c < U0 → seenAt t u c = cntCol g (colOf s) pre u c
  seenP : ∀ w ∈ pre, ∀ c, seenAt t w c = seenAt s w c

theorem UInv.init {g : G} {U0 : Nat} {s : Dsat} (h : DSInv g U0 s) : UInv g U0 s s.chosen s :=
  { chosen := rfl, cur := rfl, choices := rfl, maxUsed := rfl, upper := rfl, best := rfl,
    lcol := h.lcol, lseen := h.lseen, lrow := h.lrow, colpre := fun _ _ => rfl,
    colrest := h.colun, hnd := h.hnd, hmem := h.hmem, seenH := h.seenH, seenP := fun _ _ _ => rfl }

theorem prefix_facts {l pre : List Nat} {x : Nat} (hp : (pre ++ [x]) <+: l) :
    pre.length < l.length ∧ l.getD pre.length 0 = x ∧ l.take pre.length = pre := by
  obtain ⟨r, hr⟩ := hp
  subst hr
  refine ⟨by simp, ?_, ?_⟩
  · simp [List.getD_eq_getElem?_getD]
  · simp

theorem undo_step {g : G} (st : Dsat) (cv kc u : Nat) (hu : u < st.seen.length)
    (hk : kc < (st.seen.getD u []).length) :
    SameFrame st (if g.adj u cv then seeDec st u kc else st) ∧
      (if g.adj u cv then seeDec st u kc else st).heap = st.heap ∧
      ∀ u' c', seenAt (if g.adj u cv then seeDec st u kc else st) u' c' = seenAt st u' c' +
        (if u' = u then (if g.adj u cv = true ∧ c' = kc then -1 else 0) else 0) := by
  by_cases hadj : g.adj u cv = true
  · have e : (if g.adj u cv then seeDec st u kc else st) = seeDec st u kc := by simp [hadj]
    rw [e]
    refine ⟨(seeDec_frame st u kc).1, (seeDec_frame st u kc).2, fun u' c' => ?_⟩
    rw [seeDec_seenAt st u kc hu hk]
    by_cases h1 : u' = u
    · by_cases h2 : c' = kc
      · rw [if_pos ⟨h1, h2⟩, if_pos h1, if_pos ⟨hadj, h2⟩]; omega
      · rw [if_neg (fun hh => h2 hh.2), if_pos h1, if_neg (fun hh => h2 hh.2)]; omega
    · rw [if_neg (fun hh => h1 hh.1), if_neg h1]; omega
  · have e : (if g.adj u cv then seeDec st u kc else st) = st := by simp [hadj]
    rw [e]
    refine ⟨SameFrame.refl st, rfl, fun u' c' => ?_⟩
    have : ¬ (g.adj u cv = true ∧ c' = kc) := fun hh => hadj hh.1
    rw [if_neg this]
    split <;> omega

theorem uncolour_one {g : G} {U0 : Nat} {s : Dsat} (h : DSInv g U0 s) {pre : List Nat} {cv : Nat}
    (hp : (pre ++ [cv]) <+: s.chosen) {t : Dsat} (hu : UInv g U0 s (pre ++ [cv]) t) :
    UInv g U0 s pre
      (let s1 := undoLoop g cv (t.colouring.getD cv 0).toNat t
       let s2 := { s1 with colouring := s1.colouring.set cv (-1) }
       { s2 with heap := heapPush s2.num s2.deg s2.heap cv }) := by
  obtain ⟨hk, hget, htake⟩ := prefix_facts hp
  have hcvch : cv ∈ s.chosen := by rw [← hget]; exact getD_mem hk
  have hcvn : cv < g.n := h.chlt cv hcvch
  have hprend : (pre ++ [cv]).Nodup := (List.IsPrefix.sublist hp).nodup h.chn
  have hcvpre : cv ∉ pre := fun hm => (List.nodup_append.1 hprend).2.2 cv hm cv (by simp) rfl
  have hpk := h.pos pre.length hk
  have hcurk := hpk.cur
  have hcolk := hpk.col
  rw [hget] at hcolk
  generalize hkc : (s.choices.getD pre.length []).getD (s.cur.getD pre.length 0) 0 = kc at hcolk hcurk
  have hkcU : kc + 2 ≤ U0 := by
    have := (hpk.optF kc (by rw [← hkc]; exact getD_mem hcurk)).2.1
    exact this
  have hcolt : t.colouring.getD cv 0 = (kc : Int) := by
    have := hu.colpre cv (by simp)
    unfold colOf at this hcolk
    rw [this, hcolk]
  have hcvheap : cv ∉ t.heap := fun hm => ((hu.hmem cv).1 hm).2 (by simp)
  obtain ⟨hfr, hheap, hseen⟩ := foldl_counters
    (fun st u => if g.adj u cv then seeDec st u kc else st)
    (fun u c' => if g.adj u cv = true ∧ c' = kc then -1 else 0)
    (fun st u => u < st.seen.length ∧ kc < (st.seen.getD u []).length)
    (fun st st' u hfr hP => by rw [hfr.seenLen, hfr.rowLen]; exact hP)
    (fun st u hP => undo_step st cv kc u hP.1 hP.2)
    t.heap t hu.hnd
    (fun u hum => by
      have hun := ((hu.hmem u).1 hum).1
      rw [hu.lseen, hu.lrow u hun]; exact ⟨hun, by omega⟩)
  have hundo : undoLoop g cv (t.colouring.getD cv 0).toNat t =
      t.heap.foldl (fun st u => if g.adj u cv then seeDec st u kc else st) t := by
    unfold undoLoop; rw [hcolt]; rfl
  simp only [hundo]
  generalize t.heap.foldl (fun st u => if g.adj u cv then seeDec st u kc else st) t = t1 at hfr hheap hseen
  have hcolset : ∀ w, (t1.colouring.set cv (-1)).getD w 0 = if w = cv then -1 else colOf t w := by
    intro w
    rw [getD_set]
    by_cases hwc : w = cv
    · subst hwc; rw [if_pos ⟨rfl, by rw [hfr.colouring, hu.lcol]; exact hcvn⟩, if_pos rfl]
    · rw [if_neg (fun e => hwc e.1.symm), if_neg hwc, hfr.colouring]; rfl
  have hpush := heapPush_perm t1.num t1.deg t1.heap cv
  exact
    { chosen := hfr.chosen.trans hu.chosen
      cur := hfr.cur.trans hu.cur
      choices := hfr.choices.trans hu.choices
      maxUsed := hfr.maxUsed.trans hu.maxUsed
      upper := hfr.upper.trans hu.upper
      best := hfr.best.trans hu.best
      lcol := by show (t1.colouring.set cv (-1)).length = g.n; rw [List.length_set, hfr.colouring]; exact hu.lcol
      lseen := by show t1.seen.length = g.n; rw [hfr.seenLen]; exact hu.lseen
      lrow := fun w hw => by show (t1.seen.getD w []).length = U0; rw [hfr.rowLen]; exact hu.lrow w hw
      colpre := by
        intro w hw
        show (t1.colouring.set cv (-1)).getD w 0 = _
        have hne : w ≠ cv := fun e => hcvpre (by rw [← e]; exact hw)
        rw [hcolset w, if_neg hne]
        exact hu.colpre w (List.mem_append_left _ hw)
      colrest := by
        intro w hw hwp
        show (t1.colouring.set cv (-1)).getD w 0 = _
        rw [hcolset w]
        by_cases hwc : w = cv
        · rw [if_pos hwc]
        · rw [if_neg hwc]
          exact hu.colrest w hw (fun hm => by
            rcases List.mem_append.1 hm with h1 | h1
            · exact hwp h1
            · exact hwc (by simpa using h1))
      hnd := by
        show (heapPush t1.num t1.deg t1.heap cv).Nodup
        rw [hpush.nodup_iff, hheap]
        exact List.nodup_cons.2 ⟨hcvheap, hu.hnd⟩
      hmem := by
        intro w
        show w ∈ heapPush t1.num t1.deg t1.heap cv ↔ _
        rw [hpush.mem_iff, hheap, List.mem_cons, hu.hmem w]
        constructor
        · rintro (rfl | ⟨h1, h2⟩)
          · exact ⟨hcvn, hcvpre⟩
          · exact ⟨h1, fun hm => h2 (List.mem_append_left _ hm)⟩
        · rintro ⟨h1, h2⟩
          by_cases hwc : w = cv
          · exact Or.inl hwc
          · exact Or.inr ⟨h1, fun hm => by
              rcases List.mem_append.1 hm with h3 | h3
              · exact h2 h3
              · exact hwc (by simpa using h3)⟩
      seenH := by
        intro u hum c hc
        have hum' : u ∈ cv :: t.heap := by
          have : u ∈ heapPush t1.num t1.deg t1.heap cv := hum
          rw [hpush.mem_iff, hheap] at this; exact this
        show seenAt t1 u c = _
        rw [hseen u c]
        rcases List.mem_cons.1 hum' with rfl | huh
        · rw [if_neg hcvheap, Int.add_zero, hu.seenP u (by simp), ← hget, (h.pos pre.length hk).seenC c hc, htake]
        · rw [if_pos huh, hu.seenH u huh c hc, cntCol_snoc_nat g _ hcolk]
          split <;> omega
      seenP := by
        intro w hw c
        show seenAt t1 w c = _
        have hwh : w ∉ t.heap := fun hm => ((hu.hmem w).1 hm).2 (List.mem_append_left _ hw)
        rw [hseen w c, if_neg hwh, Int.add_zero]
        exact hu.seenP w (List.mem_append_left _ hw) c }

theorem uncolourLoop_inv {g : G} {U0 : Nat} {s : Dsat} (h : DSInv g U0 s) : ∀ (js pre : List Nat) (t : Dsat),
    (pre ++ js.reverse) <+: s.chosen → UInv g U0 s (pre ++ js.reverse) t → UInv g U0 s pre (uncolourLoop g js t) := by
  intro js
  induction js with
  | nil =>
    intro pre t _ hu
    have e : pre ++ ([] : List Nat).reverse = pre := by simp
    rw [e] at hu
    exact hu
  | cons cv rest ih =>
    intro pre t hp hu
    have e : pre ++ (cv :: rest).reverse = (pre ++ rest.reverse) ++ [cv] := by simp
    rw [e] at hp hu
    have h1 := uncolour_one h hp hu
    have hp' : (pre ++ rest.reverse) <+: s.chosen :=
      List.IsPrefix.trans (List.prefix_append _ _) hp
    exact ih pre _ hp' h1

theorem recolour_step {g : G} (st : Dsat) (cv old nc u : Nat) (hu : u < st.seen.length)
    (hk1 : old < (st.seen.getD u []).length) (hk2 : nc < (st.seen.getD u []).length) :
    SameFrame st (if g.adj u cv then seeInc (seeDec st u old) u nc else st) ∧
      (if g.adj u cv then seeInc (seeDec st u old) u nc else st).heap = st.heap ∧
      ∀ u' c', seenAt (if g.adj u cv then seeInc (seeDec st u old) u nc else st) u' c' = seenAt st u' c' +
        (if u' = u then ((if g.adj u cv = true ∧ c' = nc then 1 else 0) -
          (if g.adj u cv = true ∧ c' = old then 1 else 0)) else 0) := by
  by_cases hadj : g.adj u cv = true
  · rw [if_pos hadj]
    have f1 := seeDec_frame st u old
    have f2 := seeInc_frame (seeDec st u old) u nc
    refine ⟨SameFrame.trans f1.1 f2.1, f2.2.trans f1.2, fun u' c' => ?_⟩
    rw [seeInc_seenAt _ u nc (by rw [f1.1.seenLen]; exact hu) (by rw [f1.1.rowLen]; exact hk2),
      seeDec_seenAt st u old hu hk1]
    by_cases h1 : u' = u
    · simp only [h1, hadj, true_and, if_true]; omega
    · simp only [h1, false_and, if_false]; omega
  · rw [if_neg hadj]
    refine ⟨SameFrame.refl st, rfl, fun u' c' => ?_⟩
    simp only [hadj, Bool.false_eq_true, false_and, if_false, Int.sub_self, ite_self, Int.add_zero]

theorem dsBacktrackTo_facts (g : G) {U0 : Nat} {s : Dsat} (h : DSInv g U0 s) {i : Nat} (hi : i < s.chosen.length)
    (hadv : s.cur.getD i 0 + 1 < (s.choices.getD i []).length) :
    ∃ t r oc nc, dsBacktrackTo g s i = r ∧ UInv g U0 s (s.chosen.take (i + 1)) t ∧
      oc = (s.choices.getD i []).getD (s.cur.getD i 0) 0 ∧ nc = (s.choices.getD i []).getD (s.cur.getD i 0 + 1) 0 ∧
      r.heap.Perm t.heap ∧ HeapOK r.num r.deg r.heap ∧
      r.chosen = s.chosen.take (i + 1) ∧ r.cur = (s.cur.take (i + 1)).set i (s.cur.getD i 0 + 1) ∧
      r.choices = s.choices.take (i + 1) ∧ r.colouring = t.colouring.set (s.chosen.getD i 0) (nc : Int) ∧
      r.maxUsed = (s.chosen.take (i + 1)).foldl
        (fun m u => if (t.colouring.set (s.chosen.getD i 0) (nc : Int)).getD u 0 > m
          then (t.colouring.set (s.chosen.getD i 0) (nc : Int)).getD u 0 else m) 0 ∧
      r.upper = s.upper ∧ r.best = s.best ∧ r.seen.length = g.n ∧
      (∀ v, v < g.n → (r.seen.getD v []).length = U0) ∧
      ∀ u c', seenAt r u c' = seenAt t u c' + (if u ∈ t.heap then
        ((if g.adj u (s.chosen.getD i 0) = true ∧ c' = nc then 1 else 0) -
          (if g.adj u (s.chosen.getD i 0) = true ∧ c' = oc then 1 else 0)) else 0) := by
  have hpre : (s.chosen.take (i + 1) ++ ((s.chosen.drop (i + 1)).reverse).reverse) <+: s.chosen := by
    rw [List.reverse_reverse, List.take_append_drop]; exact List.prefix_refl _
  have hu0 : UInv g U0 s (s.chosen.take (i + 1) ++ ((s.chosen.drop (i + 1)).reverse).reverse) s := by
    rw [List.reverse_reverse, List.take_append_drop]; exact UInv.init h
  have hu := uncolourLoop_inv h _ _ s hpre hu0
  generalize ht : uncolourLoop g (s.chosen.drop (i + 1)).reverse s = t at hu
  have hcur := (h.pos i hi).cur
  have hcol := (h.pos i hi).col
  have hcvC : s.chosen.getD i 0 ∈ s.chosen.take (i + 1) := (mem_take_iff_getD (by omega)).2 ⟨i, by omega, rfl⟩
  have hcvn : s.chosen.getD i 0 < g.n := h.chlt _ (getD_mem hi)
  have hcolt : t.colouring.getD (s.chosen.getD i 0) 0 =
      (((s.choices.getD i []).getD (s.cur.getD i 0) 0 : Nat) : Int) := by
    have := hu.colpre _ hcvC
    unfold colOf at this hcol
    rw [this, hcol]
  have hocU : (s.choices.getD i []).getD (s.cur.getD i 0) 0 + 2 ≤ U0 := ((h.pos i hi).optF _ (getD_mem hcur)).2.1
  have hncU : (s.choices.getD i []).getD (s.cur.getD i 0 + 1) 0 + 2 ≤ U0 := ((h.pos i hi).optF _ (getD_mem hadv)).2.1
  have hgetcv : (t.chosen.take (i + 1)).getD i 0 = s.chosen.getD i 0 := by
    rw [hu.chosen, getD_take_lt 0 (by omega)]
  obtain ⟨hfr, hheap, hseen⟩ := foldl_counters
    (fun st u => if g.adj u (s.chosen.getD i 0) then
      seeInc (seeDec st u ((s.choices.getD i []).getD (s.cur.getD i 0) 0)) u
        ((s.choices.getD i []).getD (s.cur.getD i 0 + 1) 0) else st)
    (fun u c' => (if g.adj u (s.chosen.getD i 0) = true ∧ c' = (s.choices.getD i []).getD (s.cur.getD i 0 + 1) 0
        then 1 else 0) -
      (if g.adj u (s.chosen.getD i 0) = true ∧ c' = (s.choices.getD i []).getD (s.cur.getD i 0) 0 then 1 else 0))
    (fun st u => u < st.seen.length ∧ (s.choices.getD i []).getD (s.cur.getD i 0) 0 < (st.seen.getD u []).length ∧
      (s.choices.getD i []).getD (s.cur.getD i 0 + 1) 0 < (st.seen.getD u []).length)
    (fun st st' u hfr hP => by rw [hfr.seenLen, hfr.rowLen]; exact hP)
    (fun st u hP => recolour_step st _ _ _ u hP.1 hP.2.1 hP.2.2)
    t.heap ({ t with cur := t.cur.take (i + 1), choices := t.choices.take (i + 1),
                     chosen := t.chosen.take (i + 1) } : Dsat) hu.hnd
    (fun u hum => by
      have hun := ((hu.hmem u).1 hum).1
      show u < t.seen.length ∧ _ < (t.seen.getD u []).length ∧ _ < (t.seen.getD u []).length
      rw [hu.lseen, hu.lrow u hun]; exact ⟨hun, by omega, by omega⟩)
  refine ⟨t, dsBacktrackTo g s i, _, _, rfl, hu, rfl, rfl, ?_⟩
  simp only [dsBacktrackTo, ht, hgetcv, hcolt, Int.toNat_natCast]
  generalize t.heap.foldl _ _ = s3 at hfr hheap hseen
  have hinit := heapInit_spec s3.num s3.deg s3.heap
  refine ⟨hinit.1.trans (by rw [hheap]), hinit.2, hfr.chosen.trans (by simp [hu.chosen]), ?_,
    hfr.choices.trans (by simp [hu.choices]), ?_, ?_, hfr.upper.trans hu.upper, hfr.best.trans hu.best,
    hfr.seenLen.trans hu.lseen, fun v hv => (hfr.rowLen v).trans (hu.lrow v hv), fun u c' => ?_⟩
  · show s3.cur.set i _ = _
    rw [hfr.cur]; simp [hu.cur]
  · show s3.colouring.set _ _ = _
    rw [hfr.colouring]
  · show List.foldl _ 0 s3.chosen = _
    rw [hfr.chosen, hfr.colouring]
    show List.foldl _ 0 (t.chosen.take (i + 1)) = _
    rw [hu.chosen]
  · exact hseen u c'

theorem getD_set_take {α : Type} (l : List α) (i k : Nat) (x d : α) (hi : i < l.length) (hk : k ≤ i) :
    ((l.take (i + 1)).set i x).getD k d = if k = i then x else l.getD k d := by
  rw [getD_set]
  by_cases hki : k = i
  · subst hki
    rw [if_pos ⟨rfl, by simp; omega⟩, if_pos rfl]
  · rw [if_neg (fun e => hki e.1.symm), if_neg hki, getD_take_lt d (by omega)]

theorem dsBacktrackTo_inv {g : G} {U0 : Nat} {s : Dsat} (h : DSInv g U0 s) {i : Nat} (hi : i < s.chosen.length)
    (hadv : s.cur.getD i 0 + 1 < (s.choices.getD i []).length) {r : Dsat} (hr : dsBacktrackTo g s i = r) :
    DSInv g U0 r ∧ Move i s r ∧ r.chosen.getD i 0 = s.chosen.getD i 0 ∧ r.cur.getD i 0 = s.cur.getD i 0 + 1 ∧
      r.choices.getD i [] = s.choices.getD i [] := by
  obtain ⟨t, r', oc, nc, hr', hu, hoc, hnc, hperm, hokr, hch, hcur, hcho, hcolr, hmax, hupp, hbest, hsl, hrl, hseen⟩ :=
    dsBacktrackTo_facts g h hi hadv
  rw [hr] at hr'
  subst hr'
  obtain ⟨_, hcolI, hIseen, hIoptS, hIoptF⟩ := h.pos i hi
  rw [← hoc] at hcolI
  generalize hcvdef : s.chosen.getD i 0 = cv at *
  have hcvn : cv < g.n := h.chlt cv (by rw [← hcvdef]; exact getD_mem hi)
  have hCsplit : s.chosen.take (i + 1) = s.chosen.take i ++ [cv] := by rw [take_succ_getD hi, hcvdef]
  have hCnd : (s.chosen.take i ++ [cv]).Nodup := by rw [← hCsplit]; exact h.chn.sublist (List.take_sublist _ _)
  have hcvpre : cv ∉ s.chosen.take i := fun hm =>
    (List.nodup_append.1 hCnd).2.2 cv hm cv (List.mem_singleton_self cv) rfl
  have hcol : ∀ w, colOf r w = if w = cv then (nc : Int) else colOf t w := by
    intro w
    unfold colOf
    rw [hcolr, getD_set]
    by_cases hwc : w = cv
    · subst hwc; rw [if_pos ⟨rfl, by rw [hu.lcol]; exact hcvn⟩, if_pos rfl]
    · rw [if_neg (fun e => hwc e.1.symm), if_neg hwc]
  have hcolv : colOf r cv = (nc : Int) := by rw [hcol cv, if_pos rfl]
  have hcolpre : ∀ w ∈ s.chosen.take i, colOf r w = colOf s w := by
    intro w hw
    have hne : w ≠ cv := fun e => hcvpre (by rw [← e]; exact hw)
    rw [hcol w, if_neg hne]
    exact hu.colpre w (by rw [hCsplit]; exact List.mem_append_left _ hw)
  have hlen : r.chosen.length = i + 1 := by rw [hch, List.length_take]; exact Nat.min_eq_left hi
  have hmaxC : maxCol (colOf r) (s.chosen.take (i + 1)) = max (maxCol (colOf s) (s.chosen.take i)) (nc : Int) := by
    rw [hCsplit, maxCol_snoc, hcolv, maxCol_congr hcolpre]
  have hseenC : ∀ w ∈ s.chosen.take (i + 1), ∀ c, seenAt r w c = seenAt s w c := by
    intro w hw c
    rw [hseen w c, if_neg (fun hm => ((hu.hmem w).1 hm).2 hw), Int.add_zero]
    exact hu.seenP w hw c
  have hcvC : cv ∈ s.chosen.take (i + 1) := by rw [hCsplit]; exact List.mem_append_right _ (List.mem_singleton_self cv)
  have hii := Nat.lt_succ_self i
  have hicur : i < s.cur.length := by rw [h.lcur]; exact hi
  have hpre : PathEq i s r :=
    ⟨by rw [hch, take_take_le (Nat.le_succ i)],
      fun j hj => by rw [hcur, getD_set_take s.cur i j _ 0 hicur (Nat.le_of_lt hj), if_neg (Nat.ne_of_lt hj)],
      fun j hj => by rw [hcho, getD_take_lt [] (Nat.lt_succ_of_lt hj)], hcolpre⟩
  have hgcur : r.cur.getD i 0 = s.cur.getD i 0 + 1 := by
    rw [hcur, getD_set_take s.cur i i _ 0 hicur (Nat.le_refl _), if_pos rfl]
  have hgcho : r.choices.getD i [] = s.choices.getD i [] := by rw [hcho, getD_take_lt [] hii]
  have hgch : r.chosen.getD i 0 = cv := by rw [hch, getD_take_lt 0 hii, hcvdef]
  refine ⟨?_, ⟨hpre, Nat.le_of_lt hi, hlen, hupp⟩, hgch, hgcur, hgcho⟩
  exact
    { npos := h.npos
      lcol := by rw [hcolr, List.length_set]; exact hu.lcol
      lseen := hsl
      lrow := hrl
      chn := by rw [hch]; exact h.chn.sublist (List.take_sublist _ _)
      chlt := fun w hw => h.chlt w (by rw [hch] at hw; exact List.mem_of_mem_take hw)
      lcur := by rw [hcur, hch, List.length_set, List.length_take, List.length_take, h.lcur]
      lcho := by rw [hcho, hch, List.length_take, List.length_take, h.lcho]
      hnd := hperm.nodup_iff.2 hu.hnd
      hmem := by
        intro w
        rw [hperm.mem_iff, hu.hmem w, hch]
      colun := by
        intro w hw hwn
        rw [hch] at hwn
        have hne : w ≠ cv := fun e => hwn (e ▸ hcvC)
        rw [hcol w, if_neg hne]
        exact hu.colrest w hw hwn
      pos := by
        intro k hk
        rw [hlen] at hk
        rcases Nat.lt_or_eq_of_le (Nat.le_of_lt_succ hk) with hlt | rfl
        · exact (h.pos k (Nat.lt_trans hlt hi)).transfer (Nat.lt_trans hlt hi) (hpre.mono hlt)
            (hseenC _ ((mem_take_iff_getD hi).2 ⟨k, hk, rfl⟩))
        · have htake : r.chosen.take k = s.chosen.take k := hpre.chosen
          have hmaxpre : maxCol (colOf r) (s.chosen.take k) = maxCol (colOf s) (s.chosen.take k) :=
            maxCol_congr hcolpre
          exact
            { cur := by rw [hgcur, hgcho]; exact hadv
              col := by rw [hgch, hgcur, hgcho, hcolv, hnc]
              seenC := fun c hc => by
                rw [hgch, htake, hseenC cv hcvC, cntCol_congr hcolpre]
                exact hIseen c hc
              optS := by rw [hgcho]; exact hIoptS
              optF := fun c hc => by
                rw [hgch, htake, hmaxpre, hseenC cv hcvC]
                exact hIoptF c (by rw [← hgcho]; exact hc) }
      hok := hokr
      seenH := by
        intro u hum c hc
        have hut : u ∈ t.heap := hperm.subset hum
        rw [hseen u c, if_pos hut, hu.seenH u hut c hc, hch, hCsplit, cntCol_snoc_nat g _ hcolI,
          cntCol_snoc_nat g _ hcolv, cntCol_congr hcolpre u c, Int.add_assoc, Int.add_comm _ (_ - _), Int.sub_add_cancel]
      mused := by
        rw [hmax]
        have hfold := foldl_max (colOf r) (s.chosen.take (i + 1)) 0 (by decide)
        have hcr : (fun (m : Int) (u : Nat) => if (t.colouring.set cv (nc : Int)).getD u 0 > m
            then (t.colouring.set cv (nc : Int)).getD u 0 else m) =
            (fun m u => if colOf r u > m then colOf r u else m) := by
          funext m u; unfold colOf; rw [hcolr]
        rw [hcr, hfold, hch, hmaxC]
        exact Int.max_eq_right (Int.le_trans (Int.natCast_nonneg nc) (Int.le_max_right _ _))
      uple := by rw [hupp]; exact h.uple
      up1 := by rw [hupp]; exact h.up1
      best := by rw [hbest, hupp]; exact h.best }

end CliqueColour
