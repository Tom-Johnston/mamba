import Mamba.Lemmas.CanonFStep
/-!
# The stepping loops `jLoop` / `stepLoop` (faithful model `Model/CanonF.lean`)

The set of children of a search-tree node that have been processed is recorded in `choices`, not in the partition, so the
bookkeeping of the depth-first search needs predicates on the loop state `LS` (and the ghost stack of target cells `lv`).
`StepJ` lists the transitions of the two loops as closure conditions: `JA` holds at all times, `JN` after a `deage` / a
skipped `deage` (the partition is the node of the top frame), `JS` after a `splitBin` that has not reported "worse".

The loops themselves are read off once, for an arbitrary outcome: `jLoop nb (j + 1) s` makes one iteration `JIter` and
goes on, or an operation of the iteration does not return (`JStuck`) (`jLoop_succ`; `stepLoop_succ` one level up).
`JIter.keeps` / `JPre.pop` say what an iteration preserves (`JPre`, `SPre`: what holds when the loops are entered);
`jLoop_core` / `stepLoop_core` are inductions over these, and so are the totality and the termination measure of the loops
(`CanonFTotalLoop.lean`). Predicates on the partition alone (`StepQ`, CanonFStep.lean) are the
special case `StepQ.toJ`.
-/
namespace CanonF

structure StepJ (n : Nat) (nb : Nbrs) (JA JN JS : List (Nat × Nat) → LS → Prop) : Prop where
  na : ∀ lv s, JN lv s → JA lv s
  /-- `maybeDeage` with `skipDeage = false` -/
  deage : ∀ lv s op' k, Core n s → TopOK s.op k s.path s.choices lv → s.skipDeage = false →
    s.op.age = s.path.length → JA lv s → deage s.op = .ok op' → JN lv { s with op := op' }
  /-- `maybeDeage` with `skipDeage = true` -/
  noskip : ∀ lv s, s.skipDeage = true → JN lv s → JN lv { s with skipDeage := false }
  /-- Heuristic 2 on the first-leaf path skips the child at position `c - 1` -/
  skipA : ∀ st sz ls s c cs p ps ce x k, Core n s → TopOK s.op (k + 1) s.path s.choices ((st, sz) :: ls) →
    s.skipDeage = false → s.op.age + 1 = s.path.length → s.choices = c :: cs → s.path = p :: ps →
    s.op.order.get (c - 1) = .ok ce →
    (decide (s.count > 0) && hasPrefix s.flPath.toList ps.reverse) = true → s.flOrbits[ce]? = some x → x ≥ 0 →
    JN ((st, sz) :: ls) s → JN ((st, sz) :: ls) { s with choices := (c - 1) :: cs, skipDeage := true }
  /-- Heuristic 2 on the best-leaf path skips the child at position `c - 1` -/
  skipB : ∀ st sz ls s c cs p ps ce bo k, Core n s → TopOK s.op (k + 1) s.path s.choices ((st, sz) :: ls) →
    s.skipDeage = false → s.op.age + 1 = s.path.length → s.choices = c :: cs → s.path = p :: ps →
    s.op.order.get (c - 1) = .ok ce →
    (decide (s.count > 0) && !hasPrefix s.flPath.toList ps.reverse && hasPrefix s.bestPath.toList ps.reverse) = true →
    h2Best s.op s.bestOrbits (c - 1) ce = .ok (true, bo) →
    JN ((st, sz) :: ls) s →
    JN ((st, sz) :: ls) { s with choices := (c - 1) :: cs, bestOrbits := bo, skipDeage := true }
  /-- `splitBin` at position `c - 1` of the top cell (the first non-singleton bin of the partition) -/
  split : ∀ st sz ls s c cs p ps ce bo w op' k, Core n s → TopOK s.op (k + 1) s.path s.choices ((st, sz) :: ls) →
    s.skipDeage = false → s.op.age + 1 = s.path.length → s.choices = c :: cs → s.path = p :: ps →
    s.op.order.get (c - 1) = .ok ce →
    (if (decide (s.count > 0) && !hasPrefix s.flPath.toList ps.reverse && hasPrefix s.bestPath.toList ps.reverse) = true
      then h2Best s.op s.bestOrbits (c - 1) ce else Outcome.ok (false, s.bestOrbits)) = .ok (false, bo) →
    NonSingleton s.op.binDividers.toList (c - 1) →
    (∀ t, t < binStartOf s.op.binDividers.toList (c - 1) → t + 1 ∈ s.op.binDividers.toList) →
    splitBin nb s.currentBest s.firstLeaf s.op (c - 1) = .ok (w, op') →
    JN ((st, sz) :: ls) s →
    (w = false → JS ((st, sz) :: ls) { s with choices := (c - 1) :: cs, bestOrbits := bo, op := op', path := k :: ps }) ∧
    (w = true → JA ((st, sz) :: ls) { s with choices := (c - 1) :: cs, bestOrbits := bo, op := op', path := k :: ps })
  /-- all children of the top frame have been processed: the frame is popped -/
  pop : ∀ st sz ls s, Core n s → TopOK s.op 0 s.path s.choices ((st, sz) :: ls) → s.skipDeage = false →
    s.op.age + 1 = s.path.length → JN ((st, sz) :: ls) s →
    JA ls { s with path := s.path.drop 1, choices := s.choices.drop 1 }

theorem StepQ.toJ {n : Nat} {nb : Nbrs} {cb fl : Sl Nat} {QA QN QS : OP → Prop} (hq : StepQ n nb cb fl QA QN QS) :
    StepJ n nb (fun _ s => s.currentBest = cb ∧ s.firstLeaf = fl ∧ QA s.op)
      (fun _ s => s.currentBest = cb ∧ s.firstLeaf = fl ∧ QN s.op)
      (fun _ s => s.currentBest = cb ∧ s.firstLeaf = fl ∧ QS s.op) where
  na := fun _ _ h => ⟨h.1, h.2.1, hq.na _ h.2.2⟩
  deage := fun _ _ _ _ hc ht _ hage h hd => ⟨h.1, h.2.1, hq.deage _ _ hc.part hc.age (ht.age_pos hage) h.2.2 hd⟩
  noskip := fun _ _ _ h => h
  skipA := fun _ _ _ _ _ _ _ _ _ _ _ _ _ _ _ _ _ _ _ _ _ h => h
  skipB := fun _ _ _ _ _ _ _ _ _ _ _ _ _ _ _ _ _ _ _ _ h => h
  split := fun _ _ _ s c _ _ _ _ _ w op' _ hc ht _ _ _ _ _ _ hns hfb hs h => by
    have hin : c - 1 < n := by
      have := hc.part.lenOrder
      rename_i hget _
      have := (Sl.get_eq_ok.1 hget).1
      omega
    obtain ⟨q1, q2⟩ := hq.split _ _ _ _ hc.part hc.age hin hns hfb h.2.2 (by rw [← h.1, ← h.2.1]; exact hs)
    exact ⟨fun hw => ⟨h.1, h.2.1, q1 hw⟩, fun hw => ⟨h.1, h.2.1, q2 hw⟩⟩
  pop := fun _ _ _ _ _ _ _ _ h => ⟨h.1, h.2.1, hq.na _ h.2.2⟩

structure JPre (n : Nat) (JA JN : List (Nat × Nat) → LS → Prop) (k : Nat) (lv : List (Nat × Nat)) (s : LS) : Prop where
  core : Core n s
  top : TopOK s.op k s.path s.choices lv
  age : s.op.age + (if s.skipDeage then 1 else 0) = s.path.length
  ja : JA lv s
  jn : s.skipDeage = true → JN lv s

theorem JPre.deage {n : Nat} {nb : Nbrs} {JA JN JS : List (Nat × Nat) → LS → Prop} (hj : StepJ n nb JA JN JS)
    {k : Nat} {lv : List (Nat × Nat)} {s s1 : LS} (hp : JPre n JA JN k lv s) (hm : maybeDeage s = .ok s1) :
    Core n s1 ∧ TopOK s1.op k s1.path s1.choices lv ∧ s1.op.age + 1 = s1.path.length ∧ s1.skipDeage = false ∧
      s1.path = s.path ∧ StepFrame s s1 ∧ s1.bestOrbits = s.bestOrbits ∧ JN lv s1 := by
  unfold maybeDeage at hm
  by_cases hsk : s.skipDeage = true
  · have hage := hp.age
    rw [hsk, if_pos rfl] at hage
    rw [hsk] at hm
    cases hm
    exact ⟨Core.of_frame hp.core rfl hp.core.part hp.core.age, hp.top, hage, rfl, rfl, rfl, rfl,
      hj.noskip lv s hsk (hp.jn hsk)⟩
  · have hsk' : s.skipDeage = false := by simpa using hsk
    have hage := hp.age
    rw [hsk', if_neg Bool.false_ne_true, Int.add_zero] at hage
    rw [hsk', if_pos (by rfl)] at hm
    cases hd : CanonF.deage s.op with
    | ok op' =>
      rw [hd] at hm
      cases hm
      obtain ⟨d1, d2, d3, d4, _⟩ := deage_inv hp.core.part hp.core.age (hp.top.age_pos hage) hd
      have h' := hj.deage lv s op' k hp.core hp.top hsk' hage hp.ja hd
      rw [hsk'] at h'
      exact ⟨Core.of_frame hp.core rfl d1 d2,
        TopOK_frame (fun a ha => oldDivs_of_filter d4 a ha) k _ _ _ (Int.le_of_eq hage.symm) hp.top,
        by show op'.age + 1 = _; rw [d3, hage]; exact Int.sub_add_cancel _ _, rfl, rfl, by unfold StepFrame; simp, rfl, h'⟩
    | panic => rw [hd] at hm; cases hm
    | outOfFuel => rw [hd] at hm; cases hm

/-- the child `c - 1` of the top frame that an iteration of `jLoop` looks at (`s1`: after `maybeDeage`) -/
structure JHead (s s1 : LS) (c : Nat) (cs : List Nat) (p : Nat) (ps : List Nat) (ce : Nat) : Prop where
  deage : maybeDeage s = .ok s1
  choices : s1.choices = c :: cs
  path : s1.path = p :: ps
  pos : c ≠ 0
  get : s1.op.order.get (c - 1) = .ok ce

/-- one iteration of `jLoop nb (j + 1) s`: the loop goes on with the successor (flag `false`) or leaves `stepLoop` with it -/
inductive JIter (nb : Nbrs) (j : Nat) (s : LS) : Bool → LS → Prop
  | skipA {s1 c cs p ps ce x} : JHead s s1 c cs p ps ce →
      (decide (s1.count > 0) && hasPrefix s1.flPath.toList ps.reverse) = true → s1.flOrbits[ce]? = some x → x ≥ 0 →
      JIter nb j s false { s1 with choices := (c - 1) :: cs, skipDeage := true }
  | skipB {s1 c cs p ps ce bo} : JHead s s1 c cs p ps ce →
      (decide (s1.count > 0) && !hasPrefix s1.flPath.toList ps.reverse && hasPrefix s1.bestPath.toList ps.reverse) = true →
      h2Best s1.op s1.bestOrbits (c - 1) ce = .ok (true, bo) →
      JIter nb j s false { s1 with choices := (c - 1) :: cs, bestOrbits := bo, skipDeage := true }
  | split {s1 c cs p ps ce bo w op'} : JHead s s1 c cs p ps ce →
      (if (decide (s1.count > 0) && !hasPrefix s1.flPath.toList ps.reverse && hasPrefix s1.bestPath.toList ps.reverse) = true
        then h2Best s1.op s1.bestOrbits (c - 1) ce else Outcome.ok (false, s1.bestOrbits)) = .ok (false, bo) →
      splitBin nb s1.currentBest s1.firstLeaf s1.op (c - 1) = .ok (w, op') →
      JIter nb j s (!w) { s1 with choices := (c - 1) :: cs, bestOrbits := bo, op := op', path := j :: ps }

inductive JStuck (nb : Nbrs) (s : LS) : Prop
  | deage : (∀ s1, maybeDeage s ≠ .ok s1) → JStuck nb s
  | shape {s1} : maybeDeage s = .ok s1 → (∀ c cs p ps ce, ¬ JHead s s1 c cs p ps ce) → JStuck nb s
  | flOrb {s1 c cs p ps ce} : JHead s s1 c cs p ps ce →
      (decide (s1.count > 0) && hasPrefix s1.flPath.toList ps.reverse) = true → s1.flOrbits[ce]? = none → JStuck nb s
  | h2 {s1 c cs p ps ce} : JHead s s1 c cs p ps ce →
      (decide (s1.count > 0) && !hasPrefix s1.flPath.toList ps.reverse && hasPrefix s1.bestPath.toList ps.reverse) = true →
      (∀ r, h2Best s1.op s1.bestOrbits (c - 1) ce ≠ .ok r) → JStuck nb s
  | split {s1 c cs p ps ce} : JHead s s1 c cs p ps ce →
      (∀ r, splitBin nb s1.currentBest s1.firstLeaf s1.op (c - 1) ≠ .ok r) → JStuck nb s

theorem jLoop_succ {nb : Nbrs} {j : Nat} {s : LS} {o : Outcome (Bool × LS)} (h : jLoop nb (j + 1) s = o) :
    (∃ b s2, JIter nb j s b s2 ∧ (b = false → jLoop nb j s2 = o) ∧ (b = true → o = .ok (true, s2))) ∨
    ((∀ v, o ≠ .ok v) ∧ JStuck nb s) := by
  rw [jLoop] at h
  cases hm : maybeDeage s with
  | panic => rw [hm] at h; subst h; exact .inr ⟨fun _ e => (nomatch e), .deage (fun _ e => by rw [hm] at e; cases e)⟩
  | outOfFuel => rw [hm] at h; subst h; exact .inr ⟨fun _ e => (nomatch e), .deage (fun _ e => by rw [hm] at e; cases e)⟩
  | ok s1 =>
    rw [hm] at h
    dsimp only at h
    split at h
    case h_2 hno =>
      subst h
      exact .inr ⟨fun _ e => (nomatch e), .shape hm (fun c cs p ps ce hd => hno c cs p ps hd.choices hd.path)⟩
    rename_i c cs p ps hch hpath
    have hshape : ∀ {P : Prop}, (∀ ce, s1.op.order.get (c - 1) = .ok ce → c ≠ 0 → P) →
        ∀ c' cs' p' ps' ce, JHead s s1 c' cs' p' ps' ce → P := by
      intro P hP c' cs' p' ps' ce hd
      have e := hd.choices; rw [hch] at e; cases e
      exact hP ce hd.get hd.pos
    by_cases hc0 : c = 0
    · rw [if_pos hc0] at h; subst h
      exact .inr ⟨fun _ e => (nomatch e), .shape hm (hshape fun _ _ h0 => h0 hc0)⟩
    rw [if_neg hc0] at h
    split at h
    case h_2 hget =>
      subst h; exact .inr ⟨fun _ e => (nomatch e), .shape hm (hshape fun _ e _ => by rw [hget] at e; cases e)⟩
    case h_3 hget =>
      subst h; exact .inr ⟨fun _ e => (nomatch e), .shape hm (hshape fun _ e _ => by rw [hget] at e; cases e)⟩
    rename_i ce hget
    have hd : JHead s s1 c cs p ps ce := ⟨hm, hch, hpath, hc0, hget⟩
    split at h
    · -- Heuristic 2 on the first-leaf path skips the child
      rename_i hh
      split at hh
      · rename_i hon
        split at hh
        · rename_i x hx
          exact .inl ⟨false, _, .skipA hd hon hx (of_decide_eq_true (Outcome.ok.inj hh)), fun _ => h, fun e => (nomatch e)⟩
        · cases hh
      · cases hh
    · -- the Heuristic-2 test on the best-leaf path, then `splitBin`
      split at h
      · rename_i bo hh
        split at hh
        · rename_i hon
          exact .inl ⟨false, _, .skipB hd hon hh, fun _ => h, fun e => (nomatch e)⟩
        · cases hh
      · rename_i bo hh
        split at h
        · rename_i w op' hsp
          refine .inl ⟨!w, _, .split hd hh hsp, ?_, ?_⟩
          · intro hw; rw [Bool.not_eq_false'] at hw; rw [hw, if_pos rfl] at h; exact h
          · intro hw; rw [Bool.not_eq_true'] at hw; rw [hw, if_neg Bool.false_ne_true] at h; exact h.symm
        · rename_i hsp
          subst h; exact .inr ⟨fun _ e => (nomatch e), .split hd (fun r e => by rw [hsp] at e; cases e)⟩
        · rename_i hsp
          subst h; exact .inr ⟨fun _ e => (nomatch e), .split hd (fun r e => by rw [hsp] at e; cases e)⟩
      · rename_i hh
        subst h
        refine .inr ⟨fun _ e => (nomatch e), ?_⟩
        split at hh
        · rename_i hon; exact .h2 hd hon (fun r e => by rw [hh] at e; cases e)
        · cases hh
      · rename_i hh
        subst h
        refine .inr ⟨fun _ e => (nomatch e), ?_⟩
        split at hh
        · rename_i hon; exact .h2 hd hon (fun r e => by rw [hh] at e; cases e)
        · cases hh
    · rename_i hh
      subst h
      refine .inr ⟨fun _ e => (nomatch e), ?_⟩
      split at hh
      · rename_i hon
        split at hh
        · cases hh
        · rename_i hx; exact .flOrb hd hon hx
      · cases hh
    · rename_i hh
      split at hh
      · split at hh <;> cases hh
      · cases hh

/-- the top frame during an iteration of `jLoop` with counter `j + 1`, in the state `s1` after `maybeDeage`: the child
`c - 1 = st + j` lies in the top cell `[st, st + sz)`, which is the first non-singleton bin of the partition -/
structure JTop (n : Nat) (JN : List (Nat × Nat) → LS → Prop) (j st sz : Nat) (ls : List (Nat × Nat)) (s1 : LS)
    (c : Nat) (cs : List Nat) (p : Nat) (ps : List Nat) : Prop where
  choices : s1.choices = c :: cs
  path : s1.path = p :: ps
  core : Core n s1
  top : TopOK s1.op (j + 1) s1.path s1.choices ((st, sz) :: ls)
  skip : s1.skipDeage = false
  age : s1.op.age + 1 = s1.path.length
  bin : IsBinAt ((ps.length : Int) + 1) s1.op st sz
  sz2 : 2 ≤ sz
  child : c - 1 = st + j
  pos : c ≠ 0
  jsz : j + 1 ≤ sz
  lev : LevelsOK s1.op ps cs ls
  lt : c - 1 < n
  ns : NonSingleton s1.op.binDividers.toList (c - 1)
  first : ∀ t, t < binStartOf s1.op.binDividers.toList (c - 1) → t + 1 ∈ s1.op.binDividers.toList
  jn : JN ((st, sz) :: ls) s1

theorem JPre.head {n : Nat} {nb : Nbrs} {JA JN JS : List (Nat × Nat) → LS → Prop} (hj : StepJ n nb JA JN JS)
    {j : Nat} {lv : List (Nat × Nat)} {s s1 : LS} (hp : JPre n JA JN (j + 1) lv s) (hm : maybeDeage s = .ok s1) :
    (StepFrame s s1 ∧ s1.path = s.path ∧ s1.bestOrbits = s.bestOrbits) ∧
    ∃ st sz ls c cs p ps, lv = (st, sz) :: ls ∧ JTop n JN j st sz ls s1 c cs p ps := by
  obtain ⟨c1, t1, a1, k1, p1, f1, bo1, n1⟩ := hp.deage hj hm
  refine ⟨⟨f1, p1, bo1⟩, ?_⟩
  match hpath : s1.path, hch : s1.choices, lv, t1, n1 with
  | p :: ps, c :: cs, (st, sz) :: ls, t1, n1 =>
    have t1' : TopOK s1.op (j + 1) s1.path s1.choices ((st, sz) :: ls) := by rw [hpath, hch]; exact t1
    obtain ⟨tb, tsz, tc, tk, tl⟩ := t1
    have hage1 : s1.op.age = ps.length := by rw [hpath] at a1; simp only [List.length_cons] at a1; omega
    have hc1 : c - 1 = st + j := by rw [tc]; rfl
    have hbin := top_isBin c1.part c1.age (a := (ps.length : Int) + 1) (by rw [hage1]) tb
    have hcsz : c - 1 < st + sz := by rw [hc1]; exact Nat.add_lt_add_left tk st
    obtain ⟨hns, hin⟩ := nonSingleton_of_isBin c1.part hbin tsz (c - 1) (by rw [hc1]; exact Nat.le_add_right st j) hcsz
    exact ⟨st, sz, ls, c, cs, p, ps, rfl, hch, hpath, c1, t1', k1, a1, tb, tsz, hc1, by rw [tc]; exact Nat.succ_ne_zero _, tk, tl,
      hin, hns, fun t ht => top_firstBin c1.part c1.age (a := (ps.length : Int) + 1) (by rw [hage1]) tb t
        (Nat.lt_of_lt_of_le ht (binStartOf_le_start c1.part hbin.2.2 hin hcsz)), n1⟩

theorem JIter.keeps {n : Nat} {nb : Nbrs} {JA JN JS : List (Nat × Nat) → LS → Prop} (hj : StepJ n nb JA JN JS)
    {j : Nat} {lv : List (Nat × Nat)} {s s2 : LS} {b : Bool} (hp : JPre n JA JN (j + 1) lv s) (hi : JIter nb j s b s2) :
    StepFrame s s2 ∧ s2.path.length = s.path.length ∧ s2.bestOrbits.size = s.bestOrbits.size ∧
    (b = false → JPre n JA JN j lv s2) ∧
    (b = true → Core n s2 ∧ LevelsOK s2.op s2.path s2.choices lv ∧ s2.op.age = s2.path.length ∧ s2.skipDeage = false ∧
      JS lv s2) := by
  have key : ∀ {s1 c cs p ps ce}, JHead s s1 c cs p ps ce → (StepFrame s s1 ∧ s1.path = s.path ∧ s1.bestOrbits = s.bestOrbits) ∧
      ∃ st sz ls, lv = (st, sz) :: ls ∧ JTop n JN j st sz ls s1 c cs p ps := by
    intro s1 c cs p ps ce hd
    obtain ⟨hf, st, sz, ls, c', cs', p', ps', rfl, jt⟩ := hp.head hj hd.deage
    have e1 := jt.choices; rw [hd.choices] at e1; cases e1
    have e2 := jt.path; rw [hd.path] at e2; cases e2
    exact ⟨hf, st, sz, ls, rfl, jt⟩
  -- a skipped child: the loop goes on in the same frame
  have hskip : ∀ {s1 c cs p ps st sz ls} (bo : Disjoint.DS), JTop n JN j st sz ls s1 c cs p ps →
      JN ((st, sz) :: ls) { s1 with choices := (c - 1) :: cs, bestOrbits := bo, skipDeage := true } →
      JPre n JA JN j ((st, sz) :: ls) { s1 with choices := (c - 1) :: cs, bestOrbits := bo, skipDeage := true } :=
    fun bo jt hjn =>
      ⟨Core.of_frame jt.core ((StepFrame.refl _).set ..) jt.core.part jt.core.age,
        by show TopOK _ j _ _ _; rw [jt.path]; exact .intro jt.bin jt.sz2 jt.child (Nat.le_of_succ_le jt.jsz) jt.lev,
        by show _ + (if true = true then 1 else 0) = _; rw [if_pos rfl]; exact jt.age,
        hj.na _ _ hjn, fun _ => hjn⟩
  cases hi with
  | @skipA s1 c cs p ps ce x hd hon hx hx0 =>
    obtain ⟨⟨f1, p1, bo1⟩, st, sz, ls, rfl, jt⟩ := key hd
    refine ⟨f1.trans ((StepFrame.refl s1).set ..), by rw [← p1], by rw [← bo1], fun _ => ?_, fun e => (nomatch e)⟩
    exact hskip s1.bestOrbits jt
      (hj.skipA st sz ls s1 c cs p ps ce x j jt.core jt.top jt.skip jt.age hd.choices hd.path hd.get hon hx hx0 jt.jn)
  | @skipB s1 c cs p ps ce bo hd hon hh =>
    obtain ⟨⟨f1, p1, bo1⟩, st, sz, ls, rfl, jt⟩ := key hd
    refine ⟨f1.trans ((StepFrame.refl s1).set ..), by rw [← p1], by rw [← bo1]; exact h2Best_size hh, fun _ => ?_,
      fun e => (nomatch e)⟩
    exact hskip bo jt
      (hj.skipB st sz ls s1 c cs p ps ce bo j jt.core jt.top jt.skip jt.age hd.choices hd.path hd.get hon hh jt.jn)
  | @split s1 c cs p ps ce bo w op' hd hh hsp =>
    obtain ⟨⟨f1, p1, bo1⟩, st, sz, ls, rfl, jt⟩ := key hd
    have hbo : bo.size = s1.bestOrbits.size := by
      split at hh
      · exact h2Best_size hh
      · cases hh; rfl
    have hage1 : s1.op.age = ps.length := by have := jt.age; rw [hd.path] at this; simp only [List.length_cons] at this; omega
    obtain ⟨q1, q2, q3, q4, _⟩ := splitBin_inv jt.core.part jt.core.age jt.lt jt.ns hsp
    obtain ⟨qn, qa⟩ := hj.split st sz ls s1 c cs p ps ce bo w op' j jt.core jt.top jt.skip jt.age hd.choices hd.path hd.get
      hh jt.ns jt.first hsp jt.jn
    have hfrm : ∀ a : Int, a ≤ (ps.length : Int) + 1 → oldDivs a op' = oldDivs a s1.op :=
      fun a ha => oldDivs_of_ne q4 a (by rw [hage1]; exact ha)
    have hlev : LevelsOK op' ps cs ls := LevelsOK_frame hfrm ps cs ls (Int.le_add_one (Int.le_refl _)) jt.lev
    have hbin' : IsBinAt ((ps.length : Int) + 1) op' st sz := (IsBinAt_frame (hfrm _ (Int.le_refl _)) st sz).2 jt.bin
    have hage' : op'.age = ((j :: ps).length : Nat) := by rw [q3, hage1]; rfl
    have hfr := f1.trans ((StepFrame.refl s1).set op' (j :: ps) ((c - 1) :: cs) s1.skipDeage bo)
    refine ⟨hfr, by rw [← p1, hd.path]; rfl, by rw [← bo1]; exact hbo, fun hw => ?_, fun hw => ?_⟩
    · rw [Bool.not_eq_false'] at hw
      exact ⟨Core.of_frame hp.core hfr q1 q2, .intro hbin' jt.sz2 jt.child (Nat.le_of_succ_le jt.jsz) hlev,
        by show op'.age + (if s1.skipDeage = true then 1 else 0) = ((j :: ps).length : Nat)
           rw [jt.skip, if_neg Bool.false_ne_true, Int.add_zero, hage'],
        qa hw, fun h => by rw [show s1.skipDeage = false from jt.skip] at h; cases h⟩
    · rw [Bool.not_eq_true'] at hw
      exact ⟨Core.of_frame hp.core hfr q1 q2, ⟨hbin', jt.sz2, jt.child, Nat.le_of_succ_le jt.jsz, hlev⟩, hage', jt.skip, qn hw⟩

theorem jLoop_core {n : Nat} {nb : Nbrs} {JA JN JS : List (Nat × Nat) → LS → Prop} (hj : StepJ n nb JA JN JS) :
    ∀ (k : Nat) (s : LS) (lv : List (Nat × Nat)) (b : Bool) (s' : LS), JPre n JA JN k lv s →
    jLoop nb k s = .ok (b, s') →
    StepFrame s s' ∧ s'.path.length = s.path.length ∧ s'.bestOrbits.size = s.bestOrbits.size ∧
    (b = false → JPre n JA JN 0 lv s') ∧
    (b = true → Core n s' ∧ LevelsOK s'.op s'.path s'.choices lv ∧ s'.op.age = s'.path.length ∧ s'.skipDeage = false ∧
      JS lv s') := by
  intro k
  induction k with
  | zero =>
    intro s lv b s' hp h
    obtain ⟨rfl, rfl⟩ := Prod.mk.inj (Outcome.ok.inj h)
    exact ⟨StepFrame.refl _, rfl, rfl, fun _ => hp, fun e => (nomatch e)⟩
  | succ j ih =>
    intro s lv b s' hp h
    rcases jLoop_succ h with ⟨b2, s2, hi, h0, h1⟩ | ⟨hbad, _⟩
    · obtain ⟨f, l, z, k0, k1⟩ := hi.keeps hj hp
      cases b2 with
      | true => obtain ⟨rfl, rfl⟩ := Prod.mk.inj (Outcome.ok.inj (h1 rfl)); exact ⟨f, l, z, fun e => (nomatch e), k1⟩
      | false =>
        obtain ⟨f', l', z', r⟩ := ih s2 lv b s' (k0 rfl) (h0 rfl)
        exact ⟨f.trans f', l'.trans l, z'.trans z, r⟩
    · exact absurd rfl (hbad _)

structure SPre (n : Nat) (JA JN : List (Nat × Nat) → LS → Prop) (lv : List (Nat × Nat)) (s : LS) : Prop where
  core : Core n s
  lev : LevelsOK s.op s.path s.choices lv
  age : s.op.age + (if s.skipDeage then 1 else 0) = s.path.length
  ja : JA lv s
  jn : s.skipDeage = true → JN lv s

theorem SPre.top {n : Nat} {JA JN : List (Nat × Nat) → LS → Prop} {lv : List (Nat × Nat)} {s : LS} {p : Nat}
    {ps : List Nat} (h : SPre n JA JN lv s) (hp : s.path = p :: ps) : JPre n JA JN p lv s :=
  ⟨h.core, by have := h.lev; rw [hp] at this ⊢; exact LevelsOK_top this, h.age, h.ja, h.jn⟩

theorem stepLoop_succ {nb : Nbrs} {k : Nat} {s : LS} {o : Outcome (Bool × LS)} (h : stepLoop nb (k + 1) s = o) :
    (s.path = [] ∧ o = .ok (false, s)) ∨
    ∃ p ps, s.path = p :: ps ∧
      ((∃ s1, jLoop nb p s = .ok (true, s1) ∧ o = .ok (true, s1)) ∨
       (∃ s1 s2, jLoop nb p s = .ok (false, s1) ∧ maybeDeage s1 = .ok s2 ∧
          stepLoop nb k { s2 with path := s2.path.drop 1, choices := s2.choices.drop 1 } = o) ∨
       ((∀ v, o ≠ .ok v) ∧ ((∀ r, jLoop nb p s ≠ .ok r) ∨
          ∃ s1, jLoop nb p s = .ok (false, s1) ∧ ∀ s2, maybeDeage s1 ≠ .ok s2))) := by
  rw [stepLoop] at h
  split at h
  · rename_i hp; exact .inl ⟨hp, h.symm⟩
  · rename_i p ps hp
    refine .inr ⟨p, ps, hp, ?_⟩
    split at h
    · rename_i s1 hj; exact .inl ⟨s1, hj, h.symm⟩
    · rename_i s1 hj
      split at h
      · rename_i s2 hm; exact .inr (.inl ⟨s1, s2, hj, hm, h⟩)
      all_goals
        rename_i hm
        subst h
        exact .inr (.inr ⟨fun _ e => (nomatch e), .inr ⟨s1, hj, fun s2 e => by rw [hm] at e; cases e⟩⟩)
    all_goals
      rename_i hj
      subst h
      exact .inr (.inr ⟨fun _ e => (nomatch e), .inl (fun r e => by rw [hj] at e; cases e)⟩)

theorem JPre.pop {n : Nat} {nb : Nbrs} {JA JN JS : List (Nat × Nat) → LS → Prop} (hj : StepJ n nb JA JN JS)
    {lv : List (Nat × Nat)} {s1 s2 : LS} (hp : JPre n JA JN 0 lv s1) (hm : maybeDeage s1 = .ok s2) :
    ∃ ls, SPre n JA JN ls { s2 with path := s2.path.drop 1, choices := s2.choices.drop 1 } ∧
      StepFrame s1 { s2 with path := s2.path.drop 1, choices := s2.choices.drop 1 } ∧ s2.bestOrbits = s1.bestOrbits ∧
      s2.path = s1.path := by
  obtain ⟨c2, t2, a2, k2, p2, f2, bo2, n2⟩ := hp.deage hj hm
  obtain ⟨p', ps', c', cs', st, sz, ls, hpath, hch, rfl, -, -, -, -, tl⟩ := t2.elim
  have hfr : StepFrame s1 { s2 with path := s2.path.drop 1, choices := s2.choices.drop 1 } := f2.set ..
  refine ⟨ls, ⟨Core.of_frame hp.core hfr c2.part c2.age, ?_, ?_, hj.pop st sz ls s2 c2 t2 k2 a2 n2,
    fun h => by rw [show s2.skipDeage = false from k2] at h; cases h⟩, hfr, bo2, p2⟩
  · show LevelsOK s2.op (s2.path.drop 1) (s2.choices.drop 1) ls
    rw [hpath, hch]; exact tl
  · show s2.op.age + (if s2.skipDeage = true then 1 else 0) = ((s2.path.drop 1).length : Nat)
    rw [hpath] at a2 ⊢
    rw [k2, if_neg (by decide)]
    simp only [List.length_cons, List.drop_succ_cons, List.drop_zero] at a2 ⊢; omega

theorem stepLoop_core {n : Nat} {nb : Nbrs} {JA JN JS : List (Nat × Nat) → LS → Prop} (hj : StepJ n nb JA JN JS) :
    ∀ (k : Nat) (s : LS) (lv : List (Nat × Nat)) (b : Bool) (s' : LS), SPre n JA JN lv s →
    stepLoop nb k s = .ok (b, s') →
    StepFrame s s' ∧ s'.bestOrbits.size = s.bestOrbits.size ∧
    ∃ lv', Core n s' ∧ LevelsOK s'.op s'.path s'.choices lv' ∧
      s'.op.age + (if s'.skipDeage then 1 else 0) = s'.path.length ∧
      (b = false → s'.path = [] ∧ lv' = [] ∧ JA [] s') ∧ (b = true → s'.skipDeage = false ∧ JS lv' s') := by
  have hnil : ∀ (s : LS) (lv : List (Nat × Nat)), SPre n JA JN lv s → s.path = [] →
      StepFrame s s ∧ s.bestOrbits.size = s.bestOrbits.size ∧
      ∃ lv', Core n s ∧ LevelsOK s.op s.path s.choices lv' ∧
        s.op.age + (if s.skipDeage then 1 else 0) = s.path.length ∧
        (false = false → s.path = [] ∧ lv' = [] ∧ JA [] s) ∧ (false = true → s.skipDeage = false ∧ JS lv' s) :=
    fun s lv hp e =>
      have hl : lv = [] := LevelsOK_nil (e ▸ hp.lev)
      ⟨StepFrame.refl _, rfl, lv, hp.core, hp.lev, hp.age, fun _ => ⟨e, hl, hl ▸ hp.ja⟩, fun e => (nomatch e)⟩
  intro k
  induction k with
  | zero =>
    intro s lv b s' hp h
    rw [stepLoop] at h
    split at h
    · rename_i e; obtain ⟨rfl, rfl⟩ := Prod.mk.inj (Outcome.ok.inj h); exact hnil _ lv hp e
    · cases h
  | succ k ih =>
    intro s lv b s' hp h
    rcases stepLoop_succ h with ⟨e, h⟩ | ⟨p, ps, hpath, ⟨s1, hjl, h⟩ | ⟨s1, s2, hjl, hm, h⟩ | ⟨hbad, _⟩⟩
    · obtain ⟨rfl, rfl⟩ := Prod.mk.inj (Outcome.ok.inj h); exact hnil _ lv hp e
    · obtain ⟨rfl, rfl⟩ := Prod.mk.inj (Outcome.ok.inj h)
      obtain ⟨f, _, z, _, k1⟩ := jLoop_core hj p s lv true s' (hp.top hpath) hjl
      obtain ⟨c1, l1, a1, sk1, js1⟩ := k1 rfl
      exact ⟨f, z, lv, c1, l1, by rw [sk1, a1]; exact Int.add_zero _, fun e => (nomatch e), fun _ => ⟨sk1, js1⟩⟩
    · obtain ⟨f, _, z, k0, _⟩ := jLoop_core hj p s lv false s1 (hp.top hpath) hjl
      obtain ⟨ls, hp2, f2, bo2, _⟩ := (k0 rfl).pop hj hm
      obtain ⟨f', z', r⟩ := ih _ ls b s' hp2 h
      exact ⟨f.trans (f2.trans f'), by rw [z', ← z]; show s2.bestOrbits.size = _; rw [bo2], r⟩
    · exact absurd rfl (hbad _)

end CanonF
