import Mamba.Lemmas.C06AddEdge
/-! C06: `NewSparse` and the observers of a `*SparseGraph`. `sparseSpec n L`, the graph that the neighbour lists `L`
describe, is defined here; it occurs in the statement of `newSparse_wf` (`Props/C06`). -/
namespace Construct
open GraphSpec

theorem dedupAdj_spec : ∀ (l : List Nat), l.Pairwise (· ≤ ·) →
    (dedupAdj l).Pairwise (· < ·) ∧ ∀ x, x ∈ dedupAdj l ↔ x ∈ l
  | [], _ => by simp [dedupAdj]
  | [a], _ => by simp [dedupAdj]
  | a :: b :: t, h => by
    have h' := List.pairwise_cons.mp h
    obtain ⟨ih1, ih2⟩ := dedupAdj_spec (b :: t) h'.2
    by_cases hab : a = b
    · subst hab
      simp only [dedupAdj, beq_self_eq_true, ↓reduceIte]
      exact ⟨ih1, fun x => by rw [ih2]; simp⟩
    · have hab' : (a == b) = false := by simp [hab]
      simp only [dedupAdj, hab', Bool.false_eq_true, ↓reduceIte]
      refine ⟨?_, fun x => by simp only [List.mem_cons, ih2]⟩
      rw [List.pairwise_cons]
      refine ⟨?_, ih1⟩
      intro x hx
      rw [ih2] at hx
      have h1 := h'.1 b (by simp)
      have h2 : b ≤ x := by
        simp only [List.mem_cons] at hx
        rcases hx with rfl | hx
        · exact Nat.le_refl _
        · exact (List.pairwise_cons.mp h'.2).1 x hx
      omega

theorem newSortedInts_spec (l : List Nat) : (newSortedInts l).Pairwise (· < ·) ∧ ∀ x, x ∈ newSortedInts l ↔ x ∈ l := by
  have hs : (l.mergeSort fun a b => a ≤ b).Pairwise (· ≤ ·) := by
    have := List.pairwise_mergeSort (le := fun a b : Nat => decide (a ≤ b))
      (by intro a b c; simp; omega) (by intro a b; simp; omega) l
    simpa using this
  obtain ⟨h1, h2⟩ := dedupAdj_spec _ hs
  exact ⟨h1, fun x => by rw [newSortedInts, h2, List.mem_mergeSort]⟩

/-- the graph described by neighbour lists -/
def sparseSpec (n : Nat) (L : List (List Nat)) : G :=
  { n := n, adj := fun u v => decide (u < n) && (L.getD u []).contains v }

theorem sparseSpec_wf (n : Nat) (L : List (List Nat))
    (hL : ∀ u, u < n → ∀ v ∈ L.getD u [], v < n ∧ v ≠ u ∧ u ∈ L.getD v []) : (sparseSpec n L).WF where
  symm := by
    intro u v
    simp only [sparseSpec]
    rw [Bool.eq_iff_iff]
    simp only [Bool.and_eq_true, decide_eq_true_eq, List.contains_eq_mem]
    constructor
    · rintro ⟨hu, hv⟩; have := hL u hu v hv; exact ⟨this.1, this.2.2⟩
    · rintro ⟨hv, hu⟩; have := hL v hv u hu; exact ⟨this.1, this.2.2⟩
  irrefl := by
    intro v
    simp only [sparseSpec]
    rw [Bool.eq_false_iff]
    simp only [ne_eq, Bool.and_eq_true, decide_eq_true_eq, List.contains_eq_mem, not_and]
    intro hv hmem
    exact (hL v hv v hmem).2.1 rfl
  supp := by
    intro u v h
    simp only [sparseSpec, Bool.and_eq_true, decide_eq_true_eq, List.contains_eq_mem] at h
    exact ⟨h.1, (hL u h.1 v h.2).1⟩

theorem sparse_nbrs (n : Nat) (L : List (List Nat))
    (hL : ∀ u, u < n → ∀ v ∈ L.getD u [], v < n ∧ v ≠ u ∧ u ∈ L.getD v []) (v : Nat) (hv : v < n) :
    newSortedInts (L.getD v []) = (sparseSpec n L).nbrs v := by
  obtain ⟨h1, h2⟩ := newSortedInts_spec (L.getD v [])
  apply List.strictSorted_ext h1
  · exact (List.pairwise_lt_range).sublist List.filter_sublist
  · intro x
    rw [h2]
    simp only [G.nbrs, sparseSpec, List.mem_filter, List.mem_range, hv, decide_true, Bool.true_and, List.contains_eq_mem,
      decide_eq_true_eq]
    constructor
    · intro hx; exact ⟨(hL v hv x hx).1, hx⟩
    · intro hx; exact hx.2

/-- `M` as the code computes it from the degrees: half their sum (handshake lemma `GraphRep.sum_deg`) -/
theorem half_sum_degrees {g : G} (hw : g.WF) : ((g.degrees.map Int.ofNat).foldl (· + ·) 0) / 2 = (g.m : Int) := by
  rw [List.foldl_int_sum]
  have := GraphRep.sum_deg hw
  have e : ((g.degrees.map Int.ofNat).sum : Int) = (((List.range g.n).map g.deg).sum : Nat) := by
    simp only [G.degrees]
    generalize List.range g.n = l
    induction l with
    | nil => simp
    | cons x t ih => simp only [List.map_cons, List.sum_cons, ih]; push_cast; rfl
  rw [e, this]; push_cast; omega

theorem newSparse_ok (n : Nat) (L : List (List Nat)) (hlen : L.length = n)
    (hL : ∀ u, u < n → ∀ v ∈ L.getD u [], v < n ∧ v ≠ u ∧ u ∈ L.getD v []) :
    ∃ s, newSparse n (some L) = .ok s ∧ s.toI.Sound (sparseSpec n L) ∧ (sparseSpec n L).WF := by
  have hwf := sparseSpec_wf n L hL
  have hne : ¬ L.length ≠ n := by simp [hlen]
  let gs := sparseSpec n L
  let s : Sparse := { n := n, m := (((L.map newSortedInts).map fun l => (l.length : Int)).foldl (· + ·) 0) / 2,
                      nbrs := (L.map newSortedInts).toArray, deg := ((L.map newSortedInts).map fun l => (l.length : Int)).toArray }
  have hnb : ∀ v, v < n → s.nbrs[v]? = some (gs.nbrs v) := by
    intro v hv
    have hv' : v < L.length := by omega
    simp only [s, List.getElem?_toArray, List.getElem?_map, List.getElem?_eq_getElem hv', Option.map_some, Option.some.injEq]
    have := sparse_nbrs n L hL v hv
    simp only [List.getD, List.getElem?_eq_getElem hv', Option.getD_some] at this
    exact this
  have hdeg : ∀ v, v < n → s.deg[v]? = some (gs.deg v : Int) := by
    intro v hv
    have hv' : v < L.length := by omega
    simp only [s, List.getElem?_toArray, List.getElem?_map, List.getElem?_eq_getElem hv', Option.map_some, Option.some.injEq]
    have := sparse_nbrs n L hL v hv
    simp only [List.getD, List.getElem?_eq_getElem hv', Option.getD_some] at this
    rw [this]; rfl
  have hdegs : ((L.map newSortedInts).map fun l => (l.length : Int)) = (gs.degrees.map Int.ofNat) := by
    apply List.ext_getElem?
    intro v
    by_cases hv : v < n
    · have := hdeg v hv
      simp only [s, List.getElem?_toArray] at this
      rw [this]
      simp [G.degrees, gs, sparseSpec, List.getElem?_map, List.getElem?_range hv]
    · have h1 : L.length ≤ v := by omega
      simp [G.degrees, gs, sparseSpec, hv, h1]
  refine ⟨s, ?_, ⟨rfl, ?_, ?_, ?_, ?_⟩, hwf⟩
  · simp only [newSparse, hne, ↓reduceIte]; rfl
  · show Outcome.ok s.m = Outcome.ok ((gs.m : Nat) : Int)
    congr 1
    show (((L.map newSortedInts).map fun l => (l.length : Int)).foldl (· + ·) 0) / 2 = _
    rw [hdegs]; exact half_sum_degrees hwf
  · intro u v hu hv
    have hu' : u < n := hu
    have hv' : v < n := hv
    show s.isEdge u v = _
    simp only [Sparse.isEdge, getAt_eq_ok_iff.mpr (hdeg u hu'), getAt_eq_ok_iff.mpr (hdeg v hv'), Outcome.bind_ok,
      getAt_eq_ok_iff.mpr (hnb u hu'), getAt_eq_ok_iff.mpr (hnb v hv'), Outcome.pure_eq]
    have h1 : (gs.nbrs u).contains v = gs.adj u v := by
      rw [Bool.eq_iff_iff, List.contains_eq_mem, decide_eq_true_eq, G.nbrs, List.mem_filter, List.mem_range]
      exact ⟨fun h => h.2, fun h => ⟨hv, h⟩⟩
    have h2 : (gs.nbrs v).contains u = gs.adj u v := by
      rw [hwf.symm u v, Bool.eq_iff_iff, List.contains_eq_mem, decide_eq_true_eq, G.nbrs, List.mem_filter, List.mem_range]
      exact ⟨fun h => h.2, fun h => ⟨hu, h⟩⟩
    rw [h1, h2]; split <;> rfl
  · intro v hv
    show getAt s.nbrs v = _
    exact getAt_eq_ok_iff.mpr (hnb v hv)
  · show Outcome.ok s.deg.toList = _
    congr 1

end Construct
