import Mamba.Lemmas.SortIntsBasic
/-! Lemmas for C17: `Range`.  The upward loop by induction on its fuel; the downward loop is the upward loop on the
negated numbers; the reversal loop exchanges the ends of the middle part of `A ++ M ++ B`. -/
namespace SortInts

theorem reverseLoop_step (k : Nat) (A M B : List Int) (m0 m1 : Int) {i j : Int} (hi : i = A.length)
    (hj : j = (A.length + M.length + 1 : Nat)) :
    reverseLoop (k + 1) (A ++ m0 :: (M ++ m1 :: B)) i j =
      reverseLoop k ((A ++ [m1]) ++ M ++ m0 :: B) (i + 1) (j - 1) := by
  have e : A ++ m0 :: (M ++ m1 :: B) = (A ++ m0 :: M) ++ m1 :: B := by simp
  have hj' : j = ((A ++ m0 :: M).length : Nat) := by rw [hj]; simp; omega
  have g2 : getI (A ++ m0 :: (M ++ m1 :: B)) j = some m1 := by rw [e, hj']; exact getI_append_mid _ _ _
  have s2 : setI (A ++ m1 :: (M ++ m1 :: B)) j m0 = some ((A ++ [m1]) ++ M ++ m0 :: B) := by
    have : A ++ m1 :: (M ++ m1 :: B) = (A ++ m1 :: M) ++ m1 :: B := by simp
    rw [this, hj', show (A ++ m0 :: M).length = (A ++ m1 :: M).length by simp, setI_append_mid]; simp
  rw [reverseLoop, if_pos (by omega)]
  simp only [hi ▸ getI_append_mid A m0 _, g2, hi ▸ setI_append_mid A m0 _ m1, s2]

theorem reverseLoop_spec : ∀ (k : Nat) (A M B : List Int), M.length / 2 ≤ k →
    reverseLoop k (A ++ M ++ B) (A.length : Int) ((A.length + M.length : Nat) - 1 : Int) = .ok (A ++ M.reverse ++ B) := by
  intro k
  induction k with
  | zero =>
    intro A M B hk
    have : M.reverse = M := by
      match M, (show M.length ≤ 1 by omega) with
      | [], _ => rfl
      | [a], _ => rfl
    rw [this, reverseLoop, if_neg (by omega)]
  | succ k ih =>
    intro A M B hk
    match M with
    | [] => rw [reverseLoop, if_neg (by simp only [List.length_nil]; omega)]; rfl
    | [a] => rw [reverseLoop, if_neg (by simp only [List.length_singleton]; omega)]; rfl
    | m0 :: m :: M1 =>
      obtain ⟨M', m1, hM⟩ : ∃ M' m1, m :: M1 = M' ++ [m1] := by
        rcases List.eq_nil_or_concat (m :: M1) with h | ⟨M', m1, h⟩
        · cases h
        · exact ⟨M', m1, by simpa using h⟩
      rw [hM] at hk ⊢
      have hl : (m0 :: (M' ++ [m1])).length = M'.length + 2 := by simp
      rw [show A ++ m0 :: (M' ++ [m1]) ++ B = A ++ m0 :: (M' ++ m1 :: B) by simp,
        reverseLoop_step k A M' B m0 m1 rfl (by rw [hl]; omega)]
      have := ih (A ++ [m1]) M' (m0 :: B) (by rw [hl] at hk; omega)
      rw [show ((A ++ [m1]).length : Int) = (A.length : Int) + 1 by simp,
        show (((A ++ [m1]).length + M'.length : Nat) : Int) - 1 = ((A.length + (m0 :: (M' ++ [m1])).length : Nat) : Int) - 1 - 1 by
          rw [hl]; simp; omega] at this
      rw [this]; simp

theorem rangeUp_spec (e step : Int) (hs : 0 < step) : ∀ (f : Nat) (i : Int), e - i ≤ f →
    ∃ r, rangeUp f i e step = .ok r ∧ (∀ x ∈ r, i ≤ x) ∧ SS r ∧
      ∀ x, x ∈ r ↔ ∃ k : Nat, x = i + k * step ∧ x < e := by
  have hdone : ∀ i : Int, ¬ i < e → ∀ x, x ∈ ([] : List Int) ↔ ∃ k : Nat, x = i + k * step ∧ x < e := by
    intro i hi x
    simp only [List.not_mem_nil, false_iff]
    rintro ⟨k, rfl, hlt⟩
    have : 0 ≤ (k : Int) * step := Int.mul_nonneg (by omega) (by omega)
    omega
  intro f
  induction f with
  | zero =>
    intro i hf
    have hi : ¬ i < e := by omega
    exact ⟨[], by simp [rangeUp, hi], by simp, by simp [SS], hdone i hi⟩
  | succ f ih =>
    intro i hf
    by_cases hi : i < e
    · obtain ⟨r, hr, hge, hss, hmem⟩ := ih (i + step) (by omega)
      refine ⟨i :: r, by simp [rangeUp, hi, hr], ?_, ?_, ?_⟩
      · intro x hx
        rcases List.mem_cons.mp hx with rfl | hx
        · exact Int.le_refl _
        · have := hge x hx; omega
      · rw [SS, List.pairwise_cons]
        exact ⟨fun x hx => by have := hge x hx; omega, hss⟩
      · intro x
        rw [List.mem_cons, hmem]
        constructor
        · rintro (rfl | ⟨k, rfl, hlt⟩)
          · exact ⟨0, by simp, hi⟩
          · exact ⟨k + 1, by rw [Int.natCast_succ, Int.add_mul, Int.one_mul]; omega, hlt⟩
        · rintro ⟨k, rfl, hlt⟩
          cases k with
          | zero => left; simp
          | succ k => right; exact ⟨k, by rw [Int.natCast_succ, Int.add_mul, Int.one_mul]; omega, hlt⟩
    · exact ⟨[], by simp [rangeUp, hi], by simp, by simp [SS], hdone i hi⟩

theorem rangeDown_of_rangeUp_neg : ∀ (f : Nat) (i e step : Int) (r : List Int),
    rangeUp f (-i) (-e) (-step) = .ok r → rangeDown f i e step = .ok (r.map (- ·))
  | 0, i, e, step, r, h => by
    rw [rangeUp] at h
    rw [rangeDown]
    by_cases hi : i > e
    · rw [if_pos (by omega)] at h; cases h
    · rw [if_neg (by omega)] at h; cases h; rw [if_neg hi]; rfl
  | f + 1, i, e, step, r, h => by
    rw [rangeUp] at h
    rw [rangeDown]
    by_cases hi : i > e
    · rw [if_pos (by omega), ← Int.neg_add] at h
      rw [if_pos hi]
      cases hr : rangeUp f (-(i + step)) (-e) (-step) with
      | ok r' => rw [hr] at h; cases h; rw [rangeDown_of_rangeUp_neg f _ _ _ _ hr]; simp
      | panic => rw [hr] at h; cases h
      | outOfFuel => rw [hr] at h; cases h
    · rw [if_neg (by omega)] at h; cases h; rw [if_neg hi]; rfl

theorem rangeDown_spec (e step : Int) (hs : step < 0) (f : Nat) (i : Int) (hf : i - e ≤ f) :
    ∃ r, rangeDown f i e step = .ok r ∧ (∀ x ∈ r, x ≤ i) ∧ r.Pairwise (· > ·) ∧
      ∀ x, x ∈ r ↔ ∃ k : Nat, x = i + k * step ∧ e < x := by
  obtain ⟨r, hr, hge, hss, hmem⟩ := rangeUp_spec (-e) (-step) (by omega) f (-i) (by omega)
  refine ⟨r.map (- ·), rangeDown_of_rangeUp_neg f i e step r hr, ?_, ?_, ?_⟩
  · intro x hx
    obtain ⟨y, hy, rfl⟩ := List.mem_map.mp hx
    have := hge y hy; omega
  · rw [List.pairwise_map]
    exact hss.imp (fun h => Int.neg_lt_neg h)
  · intro x
    rw [List.mem_map]
    constructor
    · rintro ⟨y, hy, rfl⟩
      obtain ⟨k, hk, hlt⟩ := (hmem y).mp hy
      exact ⟨k, by rw [hk, Int.mul_neg]; omega, by omega⟩
    · rintro ⟨k, rfl, hlt⟩
      exact ⟨-(i + k * step), (hmem _).mpr ⟨k, by rw [Int.mul_neg]; omega, by omega⟩, Int.neg_neg _⟩

/-- the rejection test of the source (regenerated) is the documented one -/
theorem rangeRejects_iff (start e step : Int) :
    Gen.Sort.rangeRejects start e step = true ↔
      ((e < start ∧ step > 0) ∨ (e > start ∧ step < 0) ∨ (e ≠ start ∧ step = 0)) := by
  unfold Gen.Sort.rangeRejects
  simp only [Bool.or_eq_true, Bool.and_eq_true, decide_eq_true_eq]
  omega

theorem range_result (start e step : Int)
    (h : ¬ ((e < start ∧ step > 0) ∨ (e > start ∧ step < 0) ∨ (e ≠ start ∧ step = 0))) :
    ∃ r, range start e step = .ok r ∧ SS r ∧ ∀ x, x ∈ r ↔ InRange start e step x := by
  unfold range
  rw [if_neg (fun h' => h ((rangeRejects_iff start e step).mp h'))]
  by_cases h1 : e = start
  · subst h1
    refine ⟨[], by simp, by simp [SS], ?_⟩
    intro x; simp only [List.not_mem_nil, false_iff, InRange]
    rintro ⟨k, _, h | h⟩ <;> omega
  rw [if_neg h1]
  by_cases h2 : e < start
  · rw [if_pos h2]
    have hs : step < 0 := by omega
    have hcap : ¬ Int.tdiv (start - e - step - 1) (-step) < 0 := by
      have := Int.tdiv_nonneg (a := start - e - step - 1) (b := -step) (by omega) (by omega)
      omega
    rw [if_neg hcap]
    obtain ⟨r, hr, hle, hdec, hmem⟩ := rangeDown_spec e step hs (start - e).toNat start (by omega)
    simp only [hr]
    have hrev := reverseLoop_spec (r.length / 2) [] r [] (Nat.le_refl _)
    simp only [List.nil_append, List.append_nil, List.length_nil, Nat.zero_add] at hrev
    have e0 : (((0 : Nat) : Int)) = 0 := rfl
    rw [e0] at hrev
    refine ⟨r.reverse, hrev, ?_, ?_⟩
    · rw [SS, List.pairwise_reverse]; exact hdec
    · intro x
      rw [List.mem_reverse, hmem]
      constructor
      · rintro ⟨k, rfl, hlt⟩
        refine ⟨k, rfl, Or.inr ⟨hlt, ?_⟩⟩
        have : (k : Int) * step ≤ 0 := Int.mul_nonpos_of_nonneg_of_nonpos (by omega) (by omega)
        omega
      · rintro ⟨k, rfl, h | h⟩
        · omega
        · exact ⟨k, rfl, h.1⟩
  · rw [if_neg h2]
    have hs : 0 < step := by omega
    have hcap : ¬ Int.tdiv (e - start + step - 1) step < 0 := by
      have := Int.tdiv_nonneg (a := e - start + step - 1) (b := step) (by omega) (by omega)
      omega
    rw [if_neg hcap]
    obtain ⟨r, hr, hge, hss, hmem⟩ := rangeUp_spec e step hs (e - start).toNat start (by omega)
    refine ⟨r, hr, hss, ?_⟩
    intro x
    rw [hmem]
    constructor
    · rintro ⟨k, rfl, hlt⟩
      refine ⟨k, rfl, Or.inl ⟨?_, hlt⟩⟩
      have : 0 ≤ (k : Int) * step := Int.mul_nonneg (by omega) (by omega)
      omega
    · rintro ⟨k, rfl, h | h⟩
      · exact ⟨k, rfl, h.2⟩
      · omega

end SortInts
