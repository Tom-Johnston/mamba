import Mamba.Lemmas.GraphBasic
import Mamba.Lemmas.CliqueGoFrame
import Mathlib.Data.List.Nodup
/-! Correctness of the faithful Bron–Kerbosch model: the inner loop, the main loop, the three Go functions. -/
namespace CliqueColour
open GraphSpec

/-- to be reported below the frame AND containing a processed vertex among `cands` -/
def qP (g : G) (R : List Nat) (piv : Int) (cands X : List Nat) (C : List Nat) : Bool :=
  respP R X C && cands.any (fun v => C.contains v && procB g piv v)

theorem qP_iff {g : G} {R : List Nat} {piv : Int} {cands X C : List Nat} :
    qP g R piv cands X C = true ↔
      ((∀ r ∈ R, r ∈ C) ∧ ∀ x ∈ X, x ∉ C) ∧ ∃ w ∈ cands, w ∈ C ∧ procB g piv w = true := by
  simp [qP, respP_iff, List.any_eq_true]

def bkWeight (st : List BKFrame) : Nat := (st.map fun f => 2 ^ f.P.length).sum

theorem child_ok {g : G} (hw : g.WF) {R P X : List Nat} {v : Nat} (hR : IsClique g R) (hPn : P.Nodup)
    (hd : ∀ w ∈ P, w ∉ X) (hc : ∀ w, (w ∈ P ∨ w ∈ X) ↔ CommonNbr g R w) (hv : v ∈ P) :
    FrameOK g { R := R ++ [v], P := P.filter (fun u => u != v && g.adj u v),
                X := X.filter (fun u => u != v && g.adj u v) } := by
  have hvN := (hc v).1 (Or.inl hv)
  refine ⟨⟨?_, ?_, ?_⟩, hPn.sublist List.filter_sublist, ?_, ?_⟩
  · exact List.nodup_append.2 ⟨hR.1, by simp, fun a ha b hb hab => by
      have : b = v := List.mem_singleton.1 hb
      subst this; subst hab; exact hvN.2.1 ha⟩
  · intro w hw'
    rcases List.mem_append.1 hw' with h | h
    · exact hR.2.1 w h
    · have : w = v := List.mem_singleton.1 h
      subst this; exact hvN.1
  · intro a ha b hb hab
    rcases List.mem_append.1 ha with h1 | h1 <;> rcases List.mem_append.1 hb with h2 | h2
    · exact hR.2.2 a h1 b h2 hab
    · have : b = v := List.mem_singleton.1 h2
      subst this; exact hvN.2.2 a h1
    · have : a = v := List.mem_singleton.1 h1
      subst this; rw [hw.symm]; exact hvN.2.2 b h2
    · have e1 : a = v := List.mem_singleton.1 h1
      have e2 : b = v := List.mem_singleton.1 h2
      exact absurd (e1.trans e2.symm) hab
  · intro w hwP hwX
    exact hd w (List.mem_filter.1 hwP).1 (List.mem_filter.1 hwX).1
  · intro w
    simp only [List.mem_filter, Bool.and_eq_true, bne_iff_ne, ne_eq]
    constructor
    · intro h
      have hmem : (w ∈ P ∨ w ∈ X) ∧ w ≠ v ∧ g.adj w v = true := by
        rcases h with h | h
        · exact ⟨Or.inl h.1, h.2⟩
        · exact ⟨Or.inr h.1, h.2⟩
      have hwN := (hc w).1 hmem.1
      refine ⟨hwN.1, ?_, ?_⟩
      · intro hm
        rcases List.mem_append.1 hm with h' | h'
        · exact hwN.2.1 h'
        · exact hmem.2.1 (by simpa using h')
      · intro r hr
        rcases List.mem_append.1 hr with h' | h'
        · exact hwN.2.2 r h'
        · have : r = v := List.mem_singleton.1 h'
          subst this; rw [hw.symm]; exact hmem.2.2
    · rintro ⟨hwn, hnm, hadj⟩
      have hwv : w ≠ v := fun h => hnm (by simp [h])
      have hvw : g.adj w v = true := by rw [hw.symm]; exact hadj v (by simp)
      have : CommonNbr g R w :=
        ⟨hwn, fun h => hnm (List.mem_append_left _ h), fun r hr => hadj r (List.mem_append_left _ hr)⟩
      rcases (hc w).2 this with h | h
      · exact Or.inl ⟨h, hwv, hvw⟩
      · exact Or.inr ⟨h, hwv, hvw⟩

theorem bkInner_spec {g : G} (hw : g.WF) {R : List Nat} {u : Nat} (hR : IsClique g R) :
    ∀ (i : Nat) (P X : List Nat) (st : List BKFrame),
      i ≤ P.length → P.Nodup → (∀ v ∈ P, v ∉ X) → (∀ v, (v ∈ P ∨ v ∈ X) ↔ CommonNbr g R v) →
      (∀ f ∈ st, FrameOK g f) →
      ∃ st', bkInner g R (u : Int) i P X st = .ok st' ∧ (∀ f ∈ st', FrameOK g f) ∧
        (st'.flatMap (Resp g)).Perm
          ((allMaximalCliquesSpec g).filter (qP g R u (P.take i) X) ++ st.flatMap (Resp g)) ∧
        bkWeight st' + 1 ≤ bkWeight st + 2 ^ P.length := by
  intro i
  induction i with
  | zero =>
    intro P X st _ _ _ _ hst
    refine ⟨st, rfl, hst, ?_, ?_⟩
    · have : (allMaximalCliquesSpec g).filter (qP g R u (P.take 0) X) = [] := by
        rw [List.filter_eq_nil_iff]
        intro C _
        simp [qP]
      rw [this]; simp
    · exact Nat.add_le_add_left (Nat.two_pow_pos _) _
  | succ i ih =>
    intro P X st hi hPn hd hc hst
    have hi' : i < P.length := hi
    have hget : P[i]? = some P[i] := List.getElem?_eq_getElem hi'
    have hvP : P[i] ∈ P := List.getElem_mem hi'
    have htake : P.take (i + 1) = P.take i ++ [P[i]] := by rw [List.take_add_one, hget]; rfl
    simp only [bkInner, hget]
    cases hcond : (((P[i] : Nat) : Int) != (u : Int)) && adjInt g P[i] (u : Int)
    · have hproc : procB g (u : Int) P[i] = true := by simp [procB, hcond]
      simp only [Bool.false_eq_true, if_false]
      obtain ⟨hn', hl', hm'⟩ := swapRemove_facts hi' hPn
      have hchild := child_ok hw hR hPn hd hc hvP
      obtain ⟨st', he, hok, hperm, hwt⟩ := ih (swapRemove P i) (X ++ [P[i]]) (_ :: st)
        (Nat.le_of_succ_le_succ (Nat.le_trans hi (Nat.le_of_eq hl'.symm))) hn'
        (by
          intro w hwm hwx
          rcases List.mem_append.1 hwx with h | h
          · exact hd w ((hm' w).1 hwm).1 h
          · exact ((hm' w).1 hwm).2 (by simpa using h))
        (by
          intro w
          rw [← hc w, hm' w, List.mem_append]
          constructor
          · rintro (h | h | h)
            · exact Or.inl h.1
            · exact Or.inr h
            · have : w = P[i] := List.mem_singleton.1 h
              subst this; exact Or.inl hvP
          · rintro (h | h)
            · by_cases hwv : w = P[i]
              · exact Or.inr (Or.inr (by simp [hwv]))
              · exact Or.inl ⟨h, hwv⟩
            · exact Or.inr (Or.inl h))
        (by
          intro f hf
          rcases List.mem_cons.1 hf with rfl | hf
          · exact hchild
          · exact hst f hf)
      refine ⟨st', he, hok, ?_, ?_⟩
      · rw [swapRemove_take hi'] at hperm
        refine hperm.trans ?_
        simp only [List.flatMap_cons]
        rw [← List.append_assoc]
        refine List.Perm.append_right _ (List.Perm.symm ?_)
        show ((allMaximalCliquesSpec g).filter (qP g R u (P.take (i + 1)) X)).Perm
          ((allMaximalCliquesSpec g).filter (qP g R u (P.take i) (X ++ [P[i]])) ++
            (allMaximalCliquesSpec g).filter (respP (R ++ [P[i]]) (X.filter fun w => w != P[i] && g.adj w P[i])))
        have hvX : P[i] ∉ X := hd _ hvP
        have hq2 : ∀ C, IsClique g C →
            (respP (R ++ [P[i]]) (X.filter fun w => w != P[i] && g.adj w P[i]) C = true ↔
              ((∀ r ∈ R, r ∈ C) ∧ ∀ x ∈ X, x ∉ C) ∧ P[i] ∈ C) := by
          intro C hC
          rw [respP_iff]
          constructor
          · rintro ⟨h1, h2⟩
            have hvC : P[i] ∈ C := h1 _ (by simp)
            refine ⟨⟨fun r hr => h1 r (List.mem_append_left _ hr), fun x hx hxC => ?_⟩, hvC⟩
            have hxv : x ≠ P[i] := fun h => hvX (h ▸ hx)
            exact h2 x (List.mem_filter.2 ⟨hx, by simp [hxv, hC.2.2 x hxC _ hvC hxv]⟩) hxC
          · rintro ⟨⟨h1, h2⟩, hvC⟩
            refine ⟨fun r hr => ?_, fun x hx => h2 x (List.mem_filter.1 hx).1⟩
            rcases List.mem_append.1 hr with h | h
            · exact h1 r h
            · have : r = P[i] := List.mem_singleton.1 h
              subst this; exact hvC
        apply filter_partition
        · intro C hC
          have hCl := (mem_allMax.1 hC).2.1
          rw [Bool.eq_iff_iff, Bool.or_eq_true, qP_iff, qP_iff, hq2 C hCl, htake]
          constructor
          · rintro ⟨⟨h1, h2⟩, w, hwm, hwC, hwp⟩
            by_cases hvC : P[i] ∈ C
            · exact Or.inr ⟨⟨h1, h2⟩, hvC⟩
            · left
              refine ⟨⟨h1, fun x hx => ?_⟩, w, ?_, hwC, hwp⟩
              · rcases List.mem_append.1 hx with h | h
                · exact h2 x h
                · have : x = P[i] := List.mem_singleton.1 h
                  subst this; exact hvC
              · rcases List.mem_append.1 hwm with h | h
                · exact h
                · have : w = P[i] := List.mem_singleton.1 h
                  subst this; exact absurd hwC hvC
          · rintro (⟨⟨h1, h2⟩, w, hwm, hwC, hwp⟩ | ⟨⟨h1, h2⟩, hvC⟩)
            · exact ⟨⟨h1, fun x hx => h2 x (List.mem_append_left _ hx)⟩, w, List.mem_append_left _ hwm, hwC, hwp⟩
            · exact ⟨⟨h1, h2⟩, P[i], List.mem_append_right _ (List.mem_singleton.2 rfl), hvC, hproc⟩
        · intro C hC
          have hCl := (mem_allMax.1 hC).2.1
          rw [qP_iff, hq2 C hCl]
          rintro ⟨⟨⟨_, h2⟩, _⟩, ⟨_, hvC⟩⟩
          exact h2 P[i] (by simp) hvC
      · have hlt : (P.filter fun w => w != P[i] && g.adj w P[i]).length < P.length :=
          List.length_filter_lt_length_iff_exists.2 ⟨P[i], hvP, by simp⟩
        have h1 : 2 ^ (P.filter fun w => w != P[i] && g.adj w P[i]).length ≤ 2 ^ (P.length - 1) :=
          Nat.pow_le_pow_right (by decide) (Nat.le_pred_of_lt hlt)
        have h2 : 2 ^ P.length = 2 * 2 ^ (P.length - 1) := two_pow_pred (Nat.lt_of_le_of_lt (Nat.zero_le i) hi')
        have h3 : (swapRemove P i).length = P.length - 1 := Nat.eq_sub_of_add_eq hl'
        simp only [bkWeight, List.map_cons, List.sum_cons] at hwt ⊢
        rw [h3] at hwt
        omega
    · have hproc : procB g (u : Int) P[i] = false := by simp [procB, hcond]
      simp only [if_true]
      obtain ⟨st', he, hok, hperm, hwt⟩ := ih P X st (Nat.le_of_succ_le hi) hPn hd hc hst
      refine ⟨st', he, hok, ?_, hwt⟩
      have : (allMaximalCliquesSpec g).filter (qP g R u (P.take (i + 1)) X) =
          (allMaximalCliquesSpec g).filter (qP g R u (P.take i) X) := by
        apply List.filter_congr
        intro C _
        simp only [qP, htake, List.any_append, List.any_cons, List.any_nil, hproc, Bool.and_false, Bool.or_false]
      rw [this]; exact hperm

theorem bkLoop_spec {g : G} (hw : g.WF) : ∀ (fuel : Nat) (stack : List BKFrame) (acc : List (List Nat)),
    (∀ f ∈ stack, FrameOK g f) → bkWeight stack ≤ fuel → (∀ c ∈ acc, IsClique g c) →
    ∃ res, bkLoop g (fun acc R => R :: acc) fuel stack acc = .ok res ∧ (∀ c ∈ res, IsClique g c) ∧
      (res.map (canon g.n)).Perm (stack.flatMap (Resp g) ++ acc.map (canon g.n)) := by
  intro fuel
  induction fuel with
  | zero =>
    intro stack acc _ hwt hacc
    cases stack with
    | nil => exact ⟨acc, rfl, hacc, by simp⟩
    | cons f rest =>
      exact absurd hwt (Nat.not_le.2 (Nat.lt_of_lt_of_le (Nat.two_pow_pos f.P.length) (Nat.le_add_right _ _)))
  | succ fuel ih =>
    intro stack acc hst hwt hacc
    cases stack with
    | nil => exact ⟨acc, rfl, hacc, by simp⟩
    | cons f rest =>
      have hf := hst f List.mem_cons_self
      have hrest : ∀ f' ∈ rest, FrameOK g f' := fun f' h => hst f' (List.mem_cons_of_mem _ h)
      simp only [bkWeight, List.map_cons, List.sum_cons] at hwt
      simp only [bkLoop]
      by_cases hleaf : (f.P.isEmpty && f.X.isEmpty) = true
      · rw [if_pos hleaf]
        simp only [Bool.and_eq_true, List.isEmpty_iff] at hleaf
        obtain ⟨hmax, hresp⟩ := resp_leaf hf hleaf.1 hleaf.2
        have hpos := Nat.two_pow_pos f.P.length
        obtain ⟨res, he, hcl, hperm⟩ := ih rest (f.R :: acc) hrest
          (Nat.le_of_lt_succ (Nat.lt_of_lt_of_le (Nat.lt_add_of_pos_left hpos) hwt))
          (by
            intro c hc
            rcases List.mem_cons.1 hc with rfl | hc
            · exact hf.clique
            · exact hacc c hc)
        refine ⟨res, he, hcl, hperm.trans ?_⟩
        simp only [List.flatMap_cons, hresp, List.map_cons, List.cons_append]
        exact List.perm_middle
      · rw [if_neg hleaf]
        have hne : ¬ (f.P = [] ∧ f.X = []) := by
          intro h; apply hleaf; simp [h.1, h.2]
        obtain ⟨u, hu, humem⟩ := choosePivot_mem g hne
        rw [hu]
        obtain ⟨st', he, hok, hperm, hwt'⟩ := bkInner_spec hw (u := u) hf.clique f.P.length f.P f.X rest
          (Nat.le_refl _) hf.pnodup hf.disj hf.cover hrest
        rw [he]
        simp only
        obtain ⟨res, he2, hcl, hperm2⟩ := ih st' acc hok
          (Nat.le_of_succ_le_succ (Nat.le_trans hwt' (by rw [Nat.add_comm]; exact hwt))) hacc
        refine ⟨res, he2, hcl, hperm2.trans (List.Perm.append_right _ (hperm.trans ?_))⟩
        simp only [List.flatMap_cons, List.take_length]
        refine List.Perm.append_right _ (List.Perm.of_eq ?_)
        unfold Resp
        apply List.filter_congr
        intro C hC
        have hCm := (mem_allMax.1 hC).2
        rw [Bool.eq_iff_iff, qP_iff]
        constructor
        · rintro ⟨hr, w, hwP, hwC, hwp⟩
          exact respP_iff.2 hr
        · intro hr
          obtain ⟨v, hvP, hvC, hvp⟩ := pivot_lemma hw hf humem hCm hr
          exact ⟨respP_iff.1 hr, v, hvP, hvC, hvp⟩

theorem bkStart_ok (g : G) : ∀ f ∈ bkStart g, FrameOK g f := by
  intro f hf
  have : f = { R := [], P := List.range g.n, X := [] } := by simpa [bkStart] using hf
  subst this
  exact ⟨isClique_nil g, List.nodup_range, by simp, fun v => by simp [CommonNbr]⟩

theorem resp_start (g : G) : (bkStart g).flatMap (Resp g) = allMaximalCliquesSpec g := by
  simp only [bkStart, List.flatMap_cons, List.flatMap_nil, List.append_nil, Resp]
  rw [List.filter_eq_self]
  intro C _
  simp [respP]

theorem allMaximalCliquesGo_spec {g : G} (hw : g.WF) :
    ∃ out, allMaximalCliquesGo g = .ok out ∧ (∀ c ∈ out, IsClique g c) ∧
      (out.map (canon g.n)).Perm (allMaximalCliquesSpec g) := by
  obtain ⟨res, he, hcl, hperm⟩ := bkLoop_spec hw (2 ^ g.n) (bkStart g) [] (bkStart_ok g)
    (by simp [bkWeight, bkStart]) (by simp)
  refine ⟨res.reverse, by simp only [allMaximalCliquesGo, he], fun c hc => hcl c (List.mem_reverse.1 hc), ?_⟩
  rw [List.map_reverse]
  refine (List.reverse_perm _).trans (hperm.trans ?_)
  rw [resp_start]; simp

theorem bkLoop_generic {α : Type} (g : G) (leaf : α → List Nat → α) (a : α) :
    ∀ (fuel : Nat) (stack : List BKFrame) (l : List (List Nat)),
      bkLoop g leaf fuel stack (l.foldr (fun R acc => leaf acc R) a) =
        match bkLoop g (fun acc R => R :: acc) fuel stack l with
        | .ok res => .ok (res.foldr (fun R acc => leaf acc R) a)
        | .panic => .panic
        | .outOfFuel => .outOfFuel := by
  intro fuel
  induction fuel with
  | zero =>
    intro stack l
    cases stack <;> simp [bkLoop]
  | succ fuel ih =>
    intro stack l
    cases stack with
    | nil => simp [bkLoop]
    | cons f rest =>
      simp only [bkLoop]
      split
      · exact ih rest (f.R :: l)
      · cases bkInner g f.R (choosePivot g f.P f.X) f.P.length f.P f.X rest with
        | ok st => exact ih st l
        | panic => rfl
        | outOfFuel => rfl

theorem foldr_max_eq (l : List (List Nat)) :
    l.foldr (fun R best => if best < R.length then R.length else best) 0 = maxList (l.map List.length) := by
  induction l with
  | nil => rfl
  | cons a t ih =>
    simp only [List.foldr_cons, List.map_cons, maxList] at ih ⊢
    rw [ih]
    split <;> omega

theorem cliqueNumberGo_spec {g : G} (hw : g.WF) : cliqueNumberGo g = .ok (cliqueNumberSpec g) := by
  obtain ⟨res, he, hcl, hperm⟩ := bkLoop_spec hw (2 ^ g.n) (bkStart g) [] (bkStart_ok g)
    (by simp [bkWeight, bkStart]) (by simp)
  have hgen := bkLoop_generic g (fun best R => if best < R.length then R.length else best) 0 (2 ^ g.n)
    (bkStart g) []
  simp only [List.foldr_nil, he] at hgen
  rw [cliqueNumberGo, hgen, foldr_max_eq]
  congr 1
  apply Nat.le_antisymm
  · exact maxList_le fun x hx => by
      obtain ⟨c, hc, rfl⟩ := List.mem_map.1 hx
      exact cliqueNumberSpec_bound (hcl c hc)
  · obtain ⟨s, hsub, hs, hlen⟩ := cliqueNumberSpec_witness g
    have hmax : IsMaximalClique g s := by
      refine ⟨hs, fun v hv hvs => ?_⟩
      by_contra hcon
      push Not at hcon
      have hbig : IsClique g (v :: s) := by
        refine ⟨List.nodup_cons.2 ⟨hvs, hs.1⟩, ?_, ?_⟩
        · intro w hw'
          rcases List.mem_cons.1 hw' with rfl | h
          · exact hv
          · exact hs.2.1 w h
        · intro a ha b hb hab
          have hc := fun r hr => by
            have := hcon r hr
            simp only [Bool.and_eq_true, ne_eq, Bool.not_eq_false] at this
            exact this
          rcases List.mem_cons.1 ha with rfl | h1 <;> rcases List.mem_cons.1 hb with rfl | h2
          · exact absurd rfl hab
          · exact (hc b h2).2
          · exact (hc a h1).1
          · exact hs.2.2 a h1 b h2 hab
      have := cliqueNumberSpec_bound hbig
      simp only [List.length_cons] at this
      omega
    have hin : s ∈ allMaximalCliquesSpec g := mem_allMax.2 ⟨hsub, hmax⟩
    rw [resp_start] at hperm
    have := hperm.symm.subset (List.mem_append_left _ hin)
    obtain ⟨c, hc, hce⟩ := List.mem_map.1 this
    have hcp := canon_perm (hcl c hc).1 (hcl c hc).2.1
    rw [← hlen, ← hce, hcp.length_eq]
    exact le_maxList (List.mem_map.2 ⟨c, hc, rfl⟩)

end CliqueColour
