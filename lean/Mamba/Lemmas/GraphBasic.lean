import Mamba.Spec.Graph
/-!
# First facts on the notions of `Mamba/Spec/Graph.lean`

The neighbour list `g.nbrs v` holds the `u < g.n` adjacent to `v`, without repetition; the complement of a well-formed
graph is well formed. The file imports the specification only, so that every development can use it.
-/
namespace GraphSpec

theorem G.mem_nbrs {g : G} {v u : Nat} : u ∈ g.nbrs v ↔ u < g.n ∧ g.adj v u = true := by
  rw [G.nbrs, List.mem_filter, List.mem_range]

theorem G.nodup_nbrs (g : G) (v : Nat) : (g.nbrs v).Nodup := List.Pairwise.filter _ List.nodup_range

theorem complement_wf (g : G) (hw : g.WF) : g.complement.WF where
  symm := by intro u v; simp only [G.complement, hw.symm u v, bne_comm, Bool.and_comm (decide (u < g.n)), Bool.and_assoc]
  irrefl := by intro v; simp [G.complement]
  supp := by
    intro u v h
    simp only [G.complement, Bool.and_eq_true, decide_eq_true_eq] at h
    exact ⟨h.1.1.2, h.1.2⟩

end GraphSpec
