import Mamba.Lemmas.IRAut
import Mamba.Lemmas.IRClasses
/-!
# Where the vertices sit in the leaves below a node

`invOrder n l` is the leaf `l` (vertex ↦ position) read as the list position ↦ vertex. `cert` only depends on the
colouring on `0..n-1` (`cert_congr`). A leaf that refines a colouring `c0` monotonically (`Mono`) keeps the vertices of
the leading singleton cells `0..s-1` of `c0` at the positions `0..s-1` (`mono_singleton_prefix`, `invOrder_prefix`, from
`mono_singleton_pos`).

`child_pos`: in every leaf below the child obtained by individualising `v` in the target cell `t` of the node `s`, the
vertex `v` has position `t`. The leaf is a permutation (`isPerm_of_leaf`) refining the individualised colouring monotonically
(`path_mono`), and `v` is alone in its cell there, so its position is the number of vertices in the cells before
(`mono_singleton_pos`); these are singletons (`target_eq_some_iff`) and non-empty (`cell_nonempty`): `t` vertices.
-/
namespace IR
open Finset

section

def invOrder (n : Nat) (l : Array Nat) : List Nat := (List.range n).map (invFn n l)

theorem invOrder_length (n : Nat) (l : Array Nat) : (invOrder n l).length = n := by
  simp [invOrder]

theorem invOrder_perm {n : Nat} {l : Array Nat} (hl : IsPerm n l) : (invOrder n l).Perm (List.range n) :=
  range_map_perm (σ := col l) (τ := invFn n l) (fun _ hv => inv_left hl hv) (fun _ hp => (inv_right hl hp).2)
    hl.1 (fun _ hp => (inv_right hl hp).1)

theorem invOrder_nodup {n : Nat} {l : Array Nat} (hl : IsPerm n l) : (invOrder n l).Nodup :=
  (invOrder_perm hl).nodup_iff.2 List.nodup_range

theorem invOrder_getElem? {n : Nat} {l : Array Nat} {p : Nat} (hp : p < n) :
    (invOrder n l)[p]? = some (invFn n l p) := by
  simp [invOrder, hp]

theorem invOrder_idxOf {n : Nat} {l : Array Nat} (hl : IsPerm n l) {v : Nat} (hv : v < n) :
    (invOrder n l).idxOf v = col l v := by
  have hlt : col l v < (invOrder n l).length := by rw [invOrder_length]; exact hl.1 v hv
  have e : (invOrder n l)[col l v] = v := by
    simp only [invOrder, List.getElem_map, List.getElem_range]
    exact inv_left hl hv
  have := (invOrder_nodup hl).idxOf_getElem (col l v) hlt
  rwa [e] at this

theorem codes_congr {g : G} (hg : WF g) {l l' : Array Nat} (h : ∀ v, v < g.n → col l v = col l' v) :
    codes g l = codes g l' := by
  unfold codes
  apply List.flatMap_congr
  intro u hu
  have hu' := List.mem_range.1 hu
  apply List.filterMap_congr
  intro v hv
  rw [h u hu', h v (hg.lt u hu' v hv)]

theorem cert_congr {g : G} (hg : WF g) {l l' : Array Nat} (h : ∀ v, v < g.n → col l v = col l' v) :
    cert g l = cert g l' := by
  unfold cert
  rw [codes_congr hg h]

theorem cert_tab_invOrder {g : G} (hg : WF g) {l : Array Nat} (hl : IsPerm g.n l) :
    cert g (tab g.n (fun v => (invOrder g.n l).idxOf v)) = cert g l := by
  apply cert_congr hg
  intro v hv
  rw [col_tab _ hv, invOrder_idxOf hl hv]

theorem mono_singleton_prefix {n : Nat} {c0 l : Array Nat} (hp : IsPerm n l) (hm : Mono n c0 l) {s : Nat}
    {f : Nat → Nat}
    (hf : ∀ p, p < s → f p < n ∧ col c0 (f p) = p)
    (hrest : ∀ v, v < n → (∀ p, p < s → v ≠ f p) → s ≤ col c0 v)
    (hinj : ∀ p q, p < s → q < s → f p = f q → p = q) :
    ∀ p, p < s → col l (f p) = p := by
  intro p hps
  obtain ⟨hvn, hvc⟩ := hf p hps
  have hcell : ∀ u, u < n → col c0 u < s → u = f (col c0 u) := by
    intro u hu hlt
    by_contra hne
    refine Nat.not_le.2 hlt (hrest u hu fun q hq e => hne ?_)
    rw [e, (hf q hq).2]
  rw [mono_singleton_pos hp hm hvn (fun u hu e => by rw [hcell u hu (by rw [e, hvc]; exact hps), e, hvc]), hvc]
  have : (Finset.range n).filter (fun u => col c0 u < p) = (Finset.range p).image f := by
    ext u
    simp only [Finset.mem_filter, Finset.mem_range, Finset.mem_image]
    constructor
    · rintro ⟨hu, hlt⟩; exact ⟨col c0 u, hlt, (hcell u hu (Nat.lt_trans hlt hps)).symm⟩
    · rintro ⟨q, hq, rfl⟩
      obtain ⟨h1, h2⟩ := hf q (Nat.lt_trans hq hps)
      exact ⟨h1, by rw [h2]; exact hq⟩
  rw [this, Finset.card_image_of_injOn, Finset.card_range]
  intro a ha b hb e
  exact hinj a b (Nat.lt_trans (Finset.mem_range.1 ha) hps) (Nat.lt_trans (Finset.mem_range.1 hb) hps) e

theorem invOrder_prefix {n : Nat} {c0 l : Array Nat} (hp : IsPerm n l) (hm : Mono n c0 l) {s : Nat}
    {f : Nat → Nat}
    (hf : ∀ p, p < s → f p < n ∧ col c0 (f p) = p)
    (hrest : ∀ v, v < n → (∀ p, p < s → v ≠ f p) → s ≤ col c0 v)
    (hinj : ∀ p q, p < s → q < s → f p = f q → p = q) :
    ∀ p, p < s → (invOrder n l)[p]? = some (f p) := by
  intro p hps
  have e := mono_singleton_prefix hp hm hf hrest hinj p hps
  have hvn := (hf p hps).1
  have hpn : p < n := e ▸ hp.1 (f p) hvn
  rw [invOrder_getElem? hpn]
  have := inv_left hp hvn
  rw [e] at this
  rw [this]

end

section

theorem card_lt_of_single {g : G} {s : St} (hA : InvA g s) (hD : InvD g s) {t : Nat} (ht : t ≤ s.cells)
    (hs : ∀ x, x < t → (cellMembers g s.c x).length ≤ 1) :
    ((Finset.range g.n).filter (fun u => col s.c u < t)).card = t :=
  card_filter_lt (fun _ hx => cell_nonempty hA hD (Nat.lt_of_lt_of_le hx ht)) (fun _ _ ha hb hlt e =>
    Decidable.of_not_not fun hne => Nat.not_lt.2 (hs _ hlt)
      (one_lt_length_of_mem (mem_cellMembers.2 ⟨ha, e⟩) (mem_cellMembers.2 ⟨hb, rfl⟩) hne))

theorem child_pos {g : G} (hg : WF g) (rf : Nat) {s : St} (hA : InvA g s) (hD : InvD g s) {t v : Nat}
    (ht : target g s = some t) (hv : v ∈ cellMembers g s.c t) (vs : List Nat)
    (hpath : IsPath g rf (childSt g rf s t v) vs)
    (hleaf : target g (nodeAt g rf (childSt g rf s t v) vs) = none) :
    col (nodeAt g rf (childSt g rf s t v) vs).c v = t := by
  have htc := (target_some ht).1
  obtain ⟨hvn, hvt⟩ := mem_cellMembers.1 hv
  obtain ⟨hA1, hD1, _⟩ := childSt_inv hg rf hA hD ht hv
  obtain ⟨_, hAN, hDN⟩ := path_cells hg vs (childSt g rf s t v) hA1 hD1 hpath
  have hmono : Mono g.n (individualise g s t v).c (nodeAt g rf (childSt g rf s t v) vs).c :=
    (refine_mono hg rf (individualise g s t v)).trans (path_mono hg vs _ hpath)
  rw [mono_singleton_pos (isPerm_of_leaf hAN hDN hleaf) hmono hvn, ind_col_self s t hvn]
  · refine Eq.trans (congrArg Finset.card ?_) (card_lt_of_single hA hD (Nat.le_of_lt htc) (target_eq_some_iff.1 ht).2.2)
    apply Finset.filter_congr
    intro u hu
    by_cases huv : u = v
    · rw [huv, ind_col_self s t hvn, hvt]
    · rw [ind_col_ne s t (Finset.mem_range.1 hu) huv]
      by_cases h : col s.c u < t
      · rw [if_pos h]
      · rw [if_neg h]; exact ⟨fun h' => absurd (Nat.lt_of_succ_lt h') h, fun h' => absurd h' h⟩
  · intro u hu e
    by_contra huv
    rw [ind_col_self s t hvn, ind_col_ne s t hu huv] at e
    exact shift_ne t _ e

end

end IR
