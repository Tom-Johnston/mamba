import Mamba.Lemmas.CanonFGens
import Mamba.Lemmas.CanonFClassDef
import Mamba.Lemmas.CanonFClassSplit
import Mamba.Lemmas.CanonFDeageBins
import Mamba.Lemmas.CanonFInitBins
/-!
# The vertex classes through the search: the class invariant is an `OrdQ`, generators preserve the classes

`clsOrdQ`: `ClsInv` (`CanonFClassDef.lean`) is kept by everything that only rearranges `order` between kept dividers
(`ClsInv.of_rearr`), which is what `deage_rearr` (`CanonFDeageBins.lean`), `splitBin_rearr` and `refine_rearr`
(`CanonFClassSplit.lean`) say. At a leaf it gives `ClsPL`; a generator is the map between two leaves (`transport`), so it
preserves the initial cell (`transport_cls`), which is the class index (`new_inCell_classes`, `cls_of_inCell`).
-/
namespace CanonF

def ClsPL (cl : Nat → Nat) (bd0 : List Nat) (o : List Nat) : Prop := ∀ p v, o[p]? = some v → cl v = binIdx bd0 p

def ClsR (cl : Nat → Nat) (γ : List Nat) : Prop := ∀ v w, γ[v]? = some w → cl w = cl v

theorem transport_cls {n : Nat} {cl : Nat → Nat} {bd0 o1 o2 : List Nat} (h1 : o1.Perm (List.range n))
    (h2 : o2.Perm (List.range n)) (p1 : ClsPL cl bd0 o1) (p2 : ClsPL cl bd0 o2) : ClsR cl (transport n o1 o2) := by
  obtain ⟨hl1, hnd1, hmem1⟩ := perm_range_facts h1
  obtain ⟨hl2, _, _⟩ := perm_range_facts h2
  intro v w hvw
  unfold transport at hvw
  rw [List.getElem?_map] at hvw
  by_cases hv : v < n
  · rw [List.getElem?_range hv] at hvw
    simp only [Option.map_some, Option.some.injEq] at hvw
    have hmem : v ∈ o1 := (hmem1 v).2 hv
    have hidx : o1.idxOf v < o1.length := List.idxOf_lt_length_of_mem hmem
    have e1 : o1[o1.idxOf v]? = some v := by
      rw [List.getElem?_eq_getElem hidx, List.getElem_idxOf hidx]
    have e2 : o2[o1.idxOf v]? = some w := by
      rw [← hvw, List.getD_eq_getElem?_getD, List.getElem?_eq_getElem (by omega), Option.getD_some]
    rw [p1 _ _ e1, p2 _ _ e2]
  · rw [List.getElem?_eq_none (by simp; omega)] at hvw
    cases hvw

theorem clsOrdQ (hst : StablePerm) (n : Nat) (nb : Nbrs) (cl : Nat → Nat) (bd0 : List Nat) :
    OrdQ n nb (ClsInv cl bd0) (ClsInv cl bd0) (ClsInv cl bd0) (ClsPL cl bd0) (ClsR cl) := by
  apply OrdQ.ofSimple
  · exact fun _ _ e1 e2 e3 h => h.of_frame e1 e2 e3
  · intro op op' hp ha hage h hd
    apply h.of_rearr
    · intro p v hv
      obtain ⟨q, hq, hs⟩ := deage_rearr hp ha hage hd p v hv
      exact ⟨q, hq, fun d a hda ha0 => hs d a hda (by omega)⟩
    · intro d a hda ha0
      obtain ⟨_, _, _, d4, _⟩ := deage_inv hp ha hage hd
      rw [d4]
      have hne : a ≠ op.age := by omega
      exact List.mem_filter.2 ⟨hda, by simpa using hne⟩
  · intro cb fl op op' i w hp ha hi hns h hs
    obtain ⟨r1, r2⟩ := splitBin_rearr hp ha hi hns hs
    apply h.of_rearr
    · intro p v hv
      obtain ⟨q, hq, hsep⟩ := r1 p v hv
      exact ⟨q, hq, fun d a hda _ => hsep d (List.of_mem_zip hda).1⟩
    · intro d a hda _; exact r2 _ hda
  · intro cb fl opts op op' sc sc' w hp ha hsc h hr
    obtain ⟨r1, r2⟩ := refine_rearr hst hp ha hsc hr
    apply h.of_rearr
    · intro p v hv
      obtain ⟨q, hq, hsep⟩ := r1 p v hv
      exact ⟨q, hq, fun d a hda _ => hsep d (List.of_mem_zip hda).1⟩
    · intro d a hda _; exact r2 _ hda
  · exact fun _ h => h.pos
  · exact fun _ _ h1 h2 p1 p2 => transport_cls h1 h2 p1 p2

theorem cls_of_inCell {n m : Nat} {cls : List (List Nat)} {op0 : OP} (hn : 0 < n) (hc : ClassesOK n (some cls))
    (h : newOrderedPartition n m (some cls) = .ok (some op0)) {γ : List Nat} (hperm : γ.Perm (List.range n))
    (hR : ClsR (fun v => (op0.inCell.toList[v]?).getD 0) γ) :
    ∀ c ∈ cls, ∀ v ∈ c, ∀ w, γ[v]? = some w → w ∈ c := by
  have hin : ∀ (k : Nat) (c : List Nat), cls[k]? = some c → ∀ v ∈ c, op0.inCell.toList[v]? = some k :=
    new_inCell_classes hn hc h
  intro c hcm v hv w hvw
  obtain ⟨k, hk⟩ := List.getElem?_of_mem hcm
  have hwn : w < n := by
    have : w ∈ γ := List.mem_of_getElem? hvw
    simpa using hperm.mem_iff.1 this
  have hwf : w ∈ cls.flatten := hc.1.mem_iff.2 (List.mem_range.2 hwn)
  obtain ⟨c', hc', hwc'⟩ := List.mem_flatten.1 hwf
  obtain ⟨k', hk'⟩ := List.getElem?_of_mem hc'
  have e := hR v w hvw
  simp only [hin k c hk v hv, hin k' c' hk' w hwc', Option.getD_some] at e
  subst e
  rw [hk] at hk'
  cases hk'
  exact hwc'

end CanonF
