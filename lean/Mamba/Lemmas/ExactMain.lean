import Mamba.Lemmas.ExactIso
import Mamba.Lemmas.IsoCheck
/-! Exactness of canonical augmentation from `Specs`: the kept children of a node are a transversal of the graphs with
that canonical parent (`subNode_exact`), by the abstract argument of `Lemmas/Orderly.lean`. -/
namespace Search
open GraphSpec GSearch Orderly

section
variable (O : Oracle) (n : Nat) (pre : DG → Bool)

def kidOf (g : DG) (x : Nat) : Option (DG × Option Ans) :=
  match kid O pre noPrune n g x with
  | .ok k => k
  | _ => none

def accKids (g : DG) (xs : List Nat) : List (DG × Option Ans) := xs.filterMap (kidOf O n pre g)

theorem kidOf_some {g g2 : DG} {x : Nat} {c : Option Ans} (h : kidOf O n pre g x = some (g2, c)) :
    AccK O n g x g2 c ∧ pre g2 = false := by
  unfold kidOf at h
  cases hk : kid O pre noPrune n g x with
  | panic => rw [hk] at h; cases h
  | outOfFuel => rw [hk] at h; cases h
  | ok k =>
    rw [hk] at h
    cases h
    have := kid_some hk
    exact ⟨⟨this.1, this.2.2.1⟩, this.2.1⟩

theorem subKids_acc (node : DG → Option Ans → Outcome (List DG)) (g : DG) :
    ∀ (xs : List Nat) (i : Nat) (r : List DG), xs.length ≤ i →
      subKids O pre noPrune n (skipAM n 0 1) node g xs i = .ok r →
      r = (accKids O n pre g xs).flatMap (fun z => outs (node z.1 z.2)) ∧
      (∀ z ∈ accKids O n pre g xs, ∃ o, node z.1 z.2 = .ok o) ∧
      (∀ x ∈ xs, ∃ k, kid O pre noPrune n g x = .ok k)
  | [], _, r, _, h => by
    simp only [subKids] at h; cases h
    simp [accKids]
  | x :: xs, 0, r, hl, _ => absurd hl (Nat.not_succ_le_zero _)
  | x :: xs, i + 1, r, hl, h => by
    rw [subKids_cons, skip_one, if_neg Bool.false_ne_true] at h
    obtain ⟨k, hk, h⟩ := Outcome.bind_eq_ok h
    have hko : kidOf O n pre g x = k := by simp only [kidOf, hk]
    have hev : ∀ y ∈ x :: xs, (∀ y ∈ xs, ∃ k, kid O pre noPrune n g y = .ok k) →
        ∃ k, kid O pre noPrune n g y = .ok k := fun y hy h3 => by
      rcases List.mem_cons.1 hy with rfl | hy
      · exact ⟨k, hk⟩
      · exact h3 y hy
    cases k with
    | none =>
      obtain ⟨h1, h2, h3⟩ := subKids_acc node g xs i r (Nat.le_of_succ_le_succ hl) h
      simp only [accKids, List.filterMap_cons, hko]
      exact ⟨h1, h2, fun y hy => hev y hy h3⟩
    | some z =>
      obtain ⟨o1, o2, hn, hrest, rfl⟩ := withKid_some_ok h
      obtain ⟨h1, h2, h3⟩ := subKids_acc node g xs i o2 (Nat.le_of_succ_le_succ hl) hrest
      simp only [accKids, List.filterMap_cons, hko, List.flatMap_cons]
      refine ⟨by rw [hn, h1]; rfl, fun z' hz => ?_, fun y hy => hev y hy h3⟩
      rcases List.mem_cons.1 hz with rfl | hz
      · exact ⟨o1, hn⟩
      · exact h2 z' hz

end

section
variable {O : Oracle} {n : Nat} {pre : DG → Bool}

theorem child_iso {P Q g2 h2 : DG} {x y : Nat} (hP : Built P) (hQ : Built Q)
    (ha : P.addVertex (bitsOf x) = .ok g2) (hb : Q.addVertex (bitsOf y) = .ok h2)
    (e : ExtEquiv P (bitsOf x) Q (bitsOf y)) : IsoD g2 h2 := by
  unfold IsoD
  rw [addVertex_toG hP.sized (bitsOf_nodup x) ha, addVertex_toG hQ.sized (bitsOf_nodup y) hb]
  obtain ⟨hn, σ, hσ, hadj, hS⟩ := e
  exact ext_iso (g := P.toG) (h := Q.toG) hn hσ hadj hS

theorem subNode_exact (S : Specs O n pre) :
    ∀ (d : Nat) (g : DG) (c : Option Ans) (r : List DG), Built g → pre g = false →
      (c = none ∨ ∃ P x, Built P ∧ InRange P x ∧ AccK O n P x g c) → g.nv + d = n →
      subNode O pre noPrune n (skipAM n 0 1) d g c = .ok r →
      IsTrans IsoD (Anc IsoD (ParD O n pre) d g) r
  | 0, g, c, r, _, _, _, hnv, h => by
    have : g.nv = n := by omega
    simp only [subNode, this, if_true, Outcome.ok.injEq] at h
    subst h
    exact trans_zero (parD_laws S) g
  | d + 1, g, c, r, hb, hpg, hc, hnv, h => by
    have hne : g.nv ≠ n := by omega
    have hlt : g.nv < n := by omega
    simp only [subNode, hne, if_false] at h
    cases haug : addAugmentations O n g #[] c with
    | panic => simp [haug] at h
    | outOfFuel => simp [haug] at h
    | ok p =>
      obtain ⟨new, c', num⟩ := p
      simp only [haug] at h
      have hlen : (new.toList.reverse).length ≤ new.size := by simp
      obtain ⟨h1, h2, h3⟩ := subKids_acc O n pre (subNode O pre noPrune n (skipAM n 0 1) d) g _ _ r hlen h
      have hrange : ∀ x ∈ new.toList.reverse, InRange g x := fun x hx =>
        S.aug_range hb hlt hc haug x (List.mem_reverse.1 hx)
      rw [h1]
      refine trans_flatMap (parD_laws S) _ (fun z => z.1) _ d g ?_ ?_ ?_ ?_
      · -- every kid is a child of g
        intro z hz
        obtain ⟨x, hx, hk⟩ := List.mem_filterMap.1 hz
        obtain ⟨g2, c2⟩ := z
        have := kidOf_some O n pre hk
        exact ⟨g, g2, x, c2, hb, hlt, hrange x hx, this.1, this.2, IsoD.refl g, IsoD.refl g2⟩
      · -- kids are pairwise non-isomorphic
        have hd := S.aug_distinct hb hlt hc haug
        have hd' : (new.toList.reverse).Pairwise fun x y => ¬ ExtEquiv g (bitsOf x) g (bitsOf y) := by
          rw [List.pairwise_reverse]
          exact hd.imp (fun hxy e => hxy e.symm)
        have hd'' : (new.toList.reverse).Pairwise fun x y =>
            InRange g x ∧ InRange g y ∧ ¬ ExtEquiv g (bitsOf x) g (bitsOf y) :=
          hd'.imp_of_mem (fun hx hy hxy => ⟨hrange _ hx, hrange _ hy, hxy⟩)
        refine List.Pairwise.filterMap (kidOf O n pre g) ?_ hd''
        intro x x' hxx z hz z' hz' hiso
        obtain ⟨g2, c2⟩ := z
        obtain ⟨g3, c3⟩ := z'
        have k2 := kidOf_some O n pre hz
        have k3 := kidOf_some O n pre hz'
        exact hxx.2.2 (S.canon_iso hb hb hlt hlt hxx.1 hxx.2.1 k2.1 k3.1 hiso)
      · -- every graph with canonical parent g is isomorphic to a kid
        rintro Z ⟨P0, Z', x0, c0, hb0, hlt0, hr0, ha0, hp0, hX, hZ⟩
        obtain ⟨hn0, σ, hσ, hadj⟩ := hX
        have hnv0 : g.nv = P0.nv := hn0
        let T : List Nat := (List.range g.nv).filter fun v => decide (σ v ∈ bitsOf x0)
        have hT : ExtEquiv g T P0 (bitsOf x0) := by
          refine ⟨hnv0, σ, hσ, hadj, ?_⟩
          intro v hv
          simp only [T, List.mem_filter, List.mem_range, decide_eq_true_eq]
          exact ⟨fun hh => hh.2, fun hh => ⟨hv, hh⟩⟩
        obtain ⟨x, hx, hxe⟩ := S.aug_complete hb hlt hc haug T P0 Z' x0 c0 hb0 hr0 ha0 hT
        have hx' : x ∈ new.toList.reverse := List.mem_reverse.2 hx
        have hxr := hrange x hx'
        have hE : ExtEquiv P0 (bitsOf x0) g (bitsOf x) := hT.symm.trans hxe
        obtain ⟨k, hk⟩ := h3 x hx'
        obtain ⟨g2, hadd, hev⟩ := kid_ok hk
        have hb2 : Built g2 := hb.child hxr hadd
        have hbZ : Built Z' := hb0.child hr0 ha0.1
        have hiso : IsoD Z' g2 := child_iso hb0 hb ha0.1 hadd hE
        have hpre2 : pre g2 = false := by rw [← S.pre_iso hbZ hb2 hiso]; exact hp0
        rcases hev with ⟨hev, -⟩ | ⟨-, c2, b, hcan, rfl⟩
        · rw [hpre2] at hev; cases hev
        · have hbt : b = true := S.canon_inv hb0 hb hlt0 hlt hr0 hxr ha0 hE hadd hcan
          subst hbt
          have hk : kidOf O n pre g x = some (g2, c2) := by simp only [kidOf, hk]; rfl
          exact ⟨(g2, c2), List.mem_filterMap.2 ⟨x, hx', hk⟩, hZ.trans hiso⟩
      · -- below every kid: induction
        intro z hz
        obtain ⟨x, hx, hk⟩ := List.mem_filterMap.1 hz
        obtain ⟨g2, c2⟩ := z
        have k2 := kidOf_some O n pre hk
        obtain ⟨o, ho⟩ := h2 (g2, c2) hz
        have hb2 : Built g2 := hb.child (hrange x hx) k2.1.1
        have hnv2 : g2.nv + d = n := by rw [addVertex_nv k2.1.1]; omega
        have := subNode_exact S d g2 c2 o hb2 k2.2 (Or.inr ⟨g, x, hb, hrange x hx, k2.1⟩) hnv2 ho
        simpa [outs, ho] using this

end

section
variable {O : Oracle} {n : Nat}

def pruneOf (P : G → Bool) : DG → Bool := fun g => !P g.toG

theorem delLast_ext {g : G} (hg : g.WF) (S : List Nat) : delLast (ext g S) = g := by
  apply GraphRep.G_ext
  · simp [delLast, ext]
  · intro u v
    simp only [delLast, ext, Nat.add_sub_cancel]
    by_cases hu : u < g.n <;> by_cases hv : v < g.n
    · have e1 : (u == g.n) = false := by simp [Nat.ne_of_lt hu]
      have e2 : (v == g.n) = false := by simp [Nat.ne_of_lt hv]
      simp [hu, hv, e1, e2]
    · have : g.adj u v = false := by
        cases hc : g.adj u v
        · rfl
        · exact absurd (hg.supp u v hc).2 hv
      simp [hv, this]
    · have : g.adj u v = false := by
        cases hc : g.adj u v
        · rfl
        · exact absurd (hg.supp u v hc).1 hu
      simp [hu, this]
    · have : g.adj u v = false := by
        cases hc : g.adj u v
        · rfl
        · exact absurd (hg.supp u v hc).1 hu
      simp [hu, this]

theorem pruneOf_iso {P : G → Bool} (hP : Hereditary P) {g h : DG} (i : IsoD g h) : pruneOf P g = pruneOf P h := by
  unfold pruneOf
  cases h1 : P g.toG <;> cases h2 : P h.toG <;> simp
  · have := hP.iso h.toG g.toG (toG_wf h) (toG_wf g) i.symm h2
    rw [h1] at this; cases this
  · have := hP.iso g.toG h.toG (toG_wf g) (toG_wf h) i h1
    rw [h2] at this; cases this

theorem pruneOf_her {P : G → Bool} (hP : Hereditary P) {Q g2 : DG} {l : List Nat} (hQ : Built Q) (hnd : l.Nodup)
    (ha : Q.addVertex l = .ok g2) (h : pruneOf P g2 = false) : pruneOf P Q = false := by
  unfold pruneOf at h ⊢
  have h2 : P g2.toG = true := by simpa using h
  rw [addVertex_toG hQ.sized hnd ha] at h2
  have := hP.del (ext Q.toG l) (ext_wf (toG_wf Q) l) (by simp [ext]) h2
  rw [delLast_ext (toG_wf Q)] at this
  simp [this]

theorem iso_of_small {Y : G} (hY : Y.WF) {g : DG} (hn : Y.n = g.nv) (h1 : g.nv ≤ 1) : Iso Y g.toG := by
  rw [eq_of_small hY (toG_wf g) hn (hn ▸ h1)]
  exact Iso.refl _

theorem anc_exists {P : G → Bool} (hP : Hereditary P) (S : Specs O n (pruneOf P)) :
    ∀ (k : Nat) (Y : G), Y.WF → Y.n = k + 1 → k + 1 ≤ n → P Y = true →
      ∃ Y' : DG, Built Y' ∧ pruneOf P Y' = false ∧ Iso Y Y'.toG ∧ Anc IsoD (ParD O n (pruneOf P)) k K1 Y'
  | 0, Y, hY, hn, _, hPY => by
    have i := iso_of_small (g := K1) hY hn (Nat.le_refl 1)
    refine ⟨K1, Built.one, ?_, i, IsoD.refl K1⟩
    have := hP.iso Y K1.toG hY (toG_wf K1) i hPY
    simp [pruneOf, this]
  | k + 1, Y, hY, hn, hle, hPY => by
    obtain ⟨P0, g2, x, c, hb0, hr0, ha0, i⟩ := S.canon_exists Y hY (by omega) (by omega)
    have hp2 : pruneOf P g2 = false := by
      have := hP.iso Y g2.toG hY (toG_wf g2) i hPY
      simp [pruneOf, this]
    have hp0 : pruneOf P P0 = false := S.pre_her hb0 hr0 ha0.1 hp2
    have hn0 : P0.toG.n = k + 1 := by
      have h1 : g2.toG.n = Y.n := i.1.symm
      have h2 : g2.nv = P0.nv + 1 := addVertex_nv ha0.1
      show P0.nv = k + 1
      have : g2.nv = Y.n := h1
      omega
    have hPP0 : P P0.toG = true := by simpa [pruneOf] using hp0
    obtain ⟨W, hbW, hpW, iW, hanc⟩ := anc_exists hP S k P0.toG (toG_wf P0) hn0 (by omega) hPP0
    have hpar : ParD O n (pruneOf P) W g2 :=
      ⟨P0, g2, x, c, hb0, (by have : P0.nv = k + 1 := hn0; omega), hr0, ha0, hp2, IsoD.symm iW, IsoD.refl g2⟩
    exact ⟨g2, hb0.child hr0 ha0.1, hp2, i, anc_snoc (parD_laws S) hanc hpar⟩

theorem anc_unpruned {P : G → Bool} (hP : Hereditary P) :
    ∀ (d : Nat) (X Y : DG), pruneOf P X = false → Anc IsoD (ParD O n (pruneOf P)) d X Y → pruneOf P Y = false
  | 0, X, Y, hX, h => by rw [← pruneOf_iso hP h]; exact hX
  | d + 1, X, Y, _, ⟨Z, ⟨P0, Z', x, c, _, _, _, _, hpZ, _, hZ⟩, ha⟩ =>
    anc_unpruned hP d Z Y (by rw [pruneOf_iso hP hZ]; exact hpZ) ha

theorem exact_of_specs {P : G → Bool} (hP : Hereditary P) (S : Specs O n (pruneOf P)) (hn : 2 ≤ n) (fuel lim : Nat)
    {outs : List DG} {t : State}
    (h : exhaust O (pruneOf P) noPrune fuel lim (init n 0 1) = .ok (outs, t)) :
    Transversal P n (outs.map DG.toG) := by
  have e := exhaust_init n 0 1 hn fuel lim h
  have hsize : ∀ g ∈ outs, g.nv = n := fun g hg =>
    (exhaust_outputs O _ _ fuel lim _ _ _ h (init_inv n 0 1) g hg).1
  simp only [noPrune, Bool.or_false] at e
  by_cases hpK : pruneOf P K1 = true
  · -- the one-vertex graph is pruned: nothing is yielded, and no graph has P
    simp only [hpK, if_true, Outcome.ok.injEq] at e
    subst e
    refine ⟨by simp, by simp, by simp, ?_⟩
    intro Y hY hYn hPY
    exfalso
    obtain ⟨Y', _, _, _, hanc⟩ := anc_exists hP S (n - 1) Y hY (by omega) (by omega) hPY
    -- K1 is an induced subgraph of every non-empty graph, so P K1 must hold
    have : pruneOf P K1 = false := by
      clear hanc
      have key : ∀ (k : Nat) (Z : G), Z.WF → Z.n = k + 1 → P Z = true → P K1.toG = true := by
        intro k
        induction k with
        | zero => intro Z hZ hZn hPZ; exact hP.iso Z K1.toG hZ (toG_wf K1) (iso_of_small (g := K1) hZ hZn (Nat.le_refl 1)) hPZ
        | succ k ih =>
          intro Z hZ hZn hPZ
          exact ih (delLast Z) (delLast_wf hZ) (by simp [delLast, hZn]) (hP.del Z hZ (by omega) hPZ)
      have := key (n - 1) Y hY (by omega) hPY
      simp [pruneOf, this]
    rw [this] at hpK; cases hpK
  · have hpK' : pruneOf P K1 = false := by simpa using hpK
    simp only [hpK', Bool.false_eq_true, if_false] at e
    have T := subNode_exact S (n - 1) K1 none outs Built.one hpK' (Or.inl rfl) (by show 1 + (n - 1) = n; omega) e
    refine ⟨?_, ?_, ?_, ?_⟩
    · intro g hg
      obtain ⟨d, hd, rfl⟩ := List.mem_map.1 hg
      exact hsize d hd
    · intro g hg
      obtain ⟨d, hd, rfl⟩ := List.mem_map.1 hg
      have := anc_unpruned hP (n - 1) K1 d hpK' (T.sound d hd)
      simpa [pruneOf] using this
    · rw [List.pairwise_map]
      exact T.distinct
    · intro Y hY hYn hPY
      obtain ⟨Y', _, _, i, hanc⟩ := anc_exists hP S (n - 1) Y hY (by omega) (by omega) hPY
      obtain ⟨o, ho, io⟩ := T.complete Y' hanc
      exact ⟨o.toG, List.mem_map.2 ⟨o, ho, rfl⟩, i.trans io⟩

end

end Search
