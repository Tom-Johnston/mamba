import Mamba.Lemmas.C06Dense
/-! C06: hand-filled constructors. `dense_of_idxs`: a record whose set bytes are a duplicate-free list of positions that
enumerates a relation is well formed and stores `symm n rel`; then `Path`, `Star`, `Cycle`: the byte positions they
write, their edge counts and degrees (`CompleteGraph` is done from `dense_of_idxs` under its theorem in `Props/C06`). -/
namespace Construct
open GraphSpec

theorem writeOnes_ok (a : Array Nat) (idxs : List Nat) (h : ∀ k ∈ idxs, k < a.size) :
    ∃ e, writeOnes a idxs = .ok e ∧ e.size = a.size ∧ ∀ k, bitAt e k = (bitAt a k || decide (k ∈ idxs)) := by
  obtain ⟨e, h1, h2, h3⟩ := foldlM_setAt 1 idxs a h
  refine ⟨e, h1, h2, ?_⟩
  intro k
  unfold bitAt
  rw [Array.getD_eq_getD_getElem?, Array.getD_eq_getD_getElem?, h3 k]
  by_cases hk : k ∈ idxs
  · simp [hk, h k hk]
  · simp [hk]

theorem writeOnes_zeros (len : Nat) (idxs : List Nat) (h : ∀ k ∈ idxs, k < len) :
    ∃ e, writeOnes (zeros len) idxs = .ok e ∧ e.size = len ∧ ∀ k, bitAt e k = decide (k ∈ idxs) := by
  obtain ⟨e, h1, h2, h3⟩ := writeOnes_ok (zeros len) idxs (by simpa [zeros] using h)
  exact ⟨e, h1, by simpa [zeros] using h2, fun k => by rw [h3 k, bitAt_zeros, Bool.false_or]⟩

theorem writeOnes_append (a : Array Nat) (l1 l2 : List Nat) :
    writeOnes a (l1 ++ l2) = writeOnes a l1 >>= fun a' => writeOnes a' l2 := by
  simp only [writeOnes, List.foldlM_append]

theorem map_pos_pairs (n : Nat) : (pairs n).map pos = List.range (tri n) := by
  apply List.ext_getElem
  · simp [length_pairs]
  · intro k h1 h2
    simp only [List.getElem_map, List.getElem_range]
    exact pos_getElem_pairs n k (by simpa using h1)

theorem countP_range_mem (N : Nat) (idxs : List Nat) (hnd : idxs.Nodup) (hb : ∀ k ∈ idxs, k < N) :
    (List.range N).countP (fun k => decide (k ∈ idxs)) = idxs.length := by
  rw [List.countP_eq_length_filter, ← GraphRep.cnt_contains hnd hb]
  simp only [GraphRep.cnt, List.contains_eq_mem]

theorem abs_eq_symm (d : Dense) (hs : d.edges.size = tri d.n) (rel : Nat → Nat → Bool)
    (h : ∀ u v, u < v → v < d.n → bitAt d.edges (tri v + u) = (rel u v || rel v u)) :
    d.abs = Families.symm d.n rel := by
  refine Dense.abs_eq d hs (symm_wf _ _) rfl fun u v huv hv => ?_
  rw [h u v huv hv]
  simp only [Families.symm, bne_iff_ne.mpr (Nat.ne_of_lt huv), decide_eq_true hv, decide_eq_true (Nat.lt_trans huv hv),
    Bool.and_self, Bool.true_and]

theorem m_of_idxs (d : Dense) (hs : d.edges.size = tri d.n) (idxs : List Nat) (hnd : idxs.Nodup)
    (hb : ∀ k ∈ idxs, k < tri d.n) (hbit : ∀ k, bitAt d.edges k = decide (k ∈ idxs)) :
    d.abs.m = idxs.length := by
  rw [m_eq_countP, ← countP_range_mem _ _ hnd hb, ← map_pos_pairs, List.countP_map]
  apply List.countP_congr
  intro p hp
  obtain ⟨h1, h2⟩ := mem_pairs.mp (show p ∈ pairs d.n from hp)
  rw [Dense.abs_adj_lt d hs h1 h2, hbit]; rfl

theorem deg_symm (n : Nat) (rel : Nat → Nat → Bool) (v : Nat) (hv : v < n) :
    (Families.symm n rel).deg v = (List.range n).countP (fun u => u != v && (rel v u || rel u v)) := by
  simp only [G.deg, G.nbrs, Families.symm, List.countP_eq_length_filter]
  congr 1
  apply List.filter_congr
  intro u hu
  have := List.mem_range.mp hu
  simp [hv, this, bne_comm]

theorem countP_range_bne (n v : Nat) : (List.range n).countP (fun u => u != v) = n - if v < n then 1 else 0 := by
  have h := List.length_eq_countP_add_countP (fun u => u == v) (l := List.range n)
  rw [countP_range_beq] at h
  simp only [List.length_range] at h
  have : (List.range n).countP (fun u => u != v) = (List.range n).countP (fun a => ¬(a == v) = true) := by
    apply List.countP_congr; intro u _; simp
  rw [this]; omega

theorem writeAll_replicate (n : Nat) (is : List Nat) (x : Int) (a : Array Int) (h : ∀ k ∈ is, k < a.size) :
    ∃ a', writeAll a is x = .ok a' ∧ a'.size = a.size ∧
      ∀ k, a'[k]? = if k ∈ is ∧ k < a.size then some x else a[k]? :=
  foldlM_setAt x is a h

/-- A hand-filled graph: the bytes set are the duplicate-free positions `idxs`, which are the pairs related by `rel`;
the stored edge count is their number and the stored degrees are those of `symm n rel`. -/
theorem dense_of_idxs (n : Nat) (m : Int) (dg : Array Int) (e : Array Nat) (idxs : List Nat) (rel : Nat → Nat → Bool)
    (he : e.size = tri n) (hbit : ∀ k, bitAt e k = decide (k ∈ idxs)) (hnd : idxs.Nodup) (hlt : ∀ k ∈ idxs, k < tri n)
    (hrel : ∀ u v, u < v → v < n → (tri v + u ∈ idxs ↔ rel u v = true ∨ rel v u = true))
    (hm : m = (idxs.length : Int)) (hsz : dg.size = n)
    (hdeg : ∀ v, v < n → dg[v]? = some (((Families.symm n rel).deg v : Nat) : Int)) :
    (⟨n, m, dg, e⟩ : Dense).WF ∧ (⟨n, m, dg, e⟩ : Dense).abs = Families.symm n rel := by
  have habs : (⟨n, m, dg, e⟩ : Dense).abs = Families.symm n rel := by
    refine abs_eq_symm _ he rel fun u v huv hv => ?_
    rw [Bool.eq_iff_iff, hbit, decide_eq_true_eq, Bool.or_eq_true]
    exact hrel u v huv hv
  refine ⟨⟨he, hsz, ?_, fun v hv => ?_⟩, habs⟩
  · rw [m_of_idxs _ he idxs hnd hlt hbit]; exact hm
  · rw [habs]; exact hdeg v hv

theorem succ_mul_div_two (i : Nat) : ((i + 1) * i) / 2 = tri (i + 1) := by simp [tri]

/-- the byte positions written by the first loop of `Path` / `Cycle` -/
def pathIdxs (n : Nat) : List Nat := (List.range (n - 1)).map fun i => ((i + 1) * i) / 2 + i

theorem pathIdxs_lt (n : Nat) : ∀ k ∈ pathIdxs n, k < tri n := by
  intro k hk
  simp only [pathIdxs, List.mem_map, List.mem_range] at hk
  obtain ⟨i, hi, rfl⟩ := hk
  rw [succ_mul_div_two]; exact tri_add_lt (by omega) (by omega)

theorem mem_pathIdxs (n u v : Nat) (huv : u < v) (hv : v < n) : tri v + u ∈ pathIdxs n ↔ u + 1 = v := by
  simp only [pathIdxs, List.mem_map, List.mem_range]
  constructor
  · rintro ⟨i, hi, h⟩
    rw [succ_mul_div_two] at h
    have := tri_inj (show i < i + 1 by omega) huv h
    omega
  · intro h; subst h
    exact ⟨u, by omega, by rw [succ_mul_div_two]⟩

theorem nodup_pathIdxs (n : Nat) : (pathIdxs n).Nodup := by
  unfold pathIdxs
  rw [List.Nodup, List.pairwise_map]
  refine List.Pairwise.imp ?_ (List.nodup_range (n := n - 1))
  intro a b hab h
  rw [succ_mul_div_two, succ_mul_div_two] at h
  have := tri_inj (show a < a + 1 by omega) (show b < b + 1 by omega) h
  omega

theorem path_deg (n v : Nat) (hv : v < n) :
    (Families.path n).deg v = (if v + 1 < n then 1 else 0) + (if 1 ≤ v then 1 else 0) := by
  rw [Families.path, deg_symm n _ v hv]
  have : (List.range n).countP (fun u => u != v && (v + 1 == u || u + 1 == v)) =
      (List.range n).countP (fun u => (u == v + 1) || (u == v - 1 && decide (1 ≤ v))) := by
    apply List.countP_congr
    intro u _
    simp only [bne_iff_ne, ne_eq, Bool.and_eq_true, decide_eq_true_eq, Bool.or_eq_true, beq_iff_eq]
    omega
  rw [this, countP_or_disjoint _ _ _ (by intro u _; simp; omega), countP_range_beq,
    GraphRep.countP_range_eq_and (v - 1) (fun _ => decide (1 ≤ v))]
  have : v - 1 < n := by omega
  simp [this]

/-- the degree array of `Path(n)` -/
theorem path_degrees (n : Nat) : ∃ dg : Array Int, (if n > 1 then (do
    let d ← setAt (Array.replicate n (0 : Int)) 0 1
    let d ← setAt d (n - 1) 1
    writeAll d (List.range' 1 (n - 1 - 1)) 2) else pure (Array.replicate n (0 : Int))) = Outcome.ok dg ∧ dg.size = n ∧
    ∀ v, v < n → dg[v]? = some (((if v + 1 < n then 1 else 0) + (if 1 ≤ v then 1 else 0) : Nat) : Int) := by
  by_cases hn : n > 1
  · have h0 : 0 < (Array.replicate n (0 : Int)).size := by simp; omega
    have h1 : n - 1 < ((Array.replicate n (0 : Int)).set 0 1).size := by simp; omega
    obtain ⟨dg, g1, g2, g3⟩ := foldlM_setAt (2 : Int) (List.range' 1 (n - 1 - 1))
      (((Array.replicate n (0 : Int)).set 0 1).set (n - 1) 1) (by
        intro k hk; rw [List.mem_range'_1] at hk; simp; omega)
    refine ⟨dg, ?_, by simpa using g2, ?_⟩
    · simp only [hn, ↓reduceIte, setAt_ok _ h0, Outcome.bind_ok, setAt_ok _ h1, writeAll]; exact g1
    · intro v hv
      rw [g3 v]
      simp only [List.mem_range'_1, Array.size_set, Array.size_replicate]
      by_cases c1 : 1 ≤ v ∧ v < 1 + (n - 1 - 1)
      · have : v + 1 < n := by omega
        simp [c1, hv, this]
      · by_cases c2 : v = n - 1
        · have c3 : ¬ v + 1 < n := by omega
          have c4 : 1 ≤ v := by omega
          have c5 : ¬ (1 ≤ n - 1 ∧ n - 1 < 1 + (n - 1 - 1)) := by omega
          subst c2
          simp [c3, c4]
        · have c3 : v = 0 := by omega
          subst c3
          have c4 : 0 + 1 < n := by omega
          simp [c4, Ne.symm c2, hv]
  · refine ⟨Array.replicate n 0, by simp [hn], by simp, ?_⟩
    intro v hv
    have h1 : ¬ v + 1 < n := by omega
    have h2 : ¬ 1 ≤ v := by omega
    simp [hv, h1, h2]

theorem path_ok (n : Nat) : ∃ d, path n = .ok d ∧ d.WF ∧ d.abs = Families.path n := by
  obtain ⟨e, e1, e2, e3⟩ := writeOnes_zeros (tri n) (pathIdxs n) (pathIdxs_lt n)
  obtain ⟨dg, g1, g2, g3⟩ := path_degrees n
  refine ⟨⟨n, if n == 0 then 0 else (n : Int) - 1, dg, e⟩, ?_, ?_⟩
  · simp only [path, tri_def]
    rw [show ((List.range (n - 1)).map fun i => ((i + 1) * i) / 2 + i) = pathIdxs n from rfl, e1]
    simp only [Outcome.bind_ok]
    rw [g1]; rfl
  · refine dense_of_idxs n _ dg e (pathIdxs n) _ e2 e3 (nodup_pathIdxs n) (pathIdxs_lt n) (fun u v huv hv => ?_)
      ?_ g2 (fun v hv => by rw [← Families.path, path_deg n v hv, g3 v hv])
    · rw [mem_pathIdxs n u v huv hv]
      simp only [beq_iff_eq]; omega
    · simp only [pathIdxs, List.length_map, List.length_range]
      by_cases hn : n = 0
      · subst hn; simp
      · simp [hn]; omega

def starIdxs (n : Nat) : List Nat := (List.range' 1 (n - 1)).map fun i => (i * (i - 1)) / 2

theorem starIdxs_lt (n : Nat) : ∀ k ∈ starIdxs n, k < tri n := by
  intro k hk
  simp only [starIdxs, List.mem_map, List.mem_range'_1] at hk
  obtain ⟨i, hi, rfl⟩ := hk
  have := tri_add_lt (show 0 < i by omega) (show i < n by omega)
  simpa [tri] using this

theorem mem_starIdxs (n u v : Nat) (huv : u < v) (hv : v < n) : tri v + u ∈ starIdxs n ↔ u = 0 := by
  simp only [starIdxs, List.mem_map, List.mem_range'_1, tri_def]
  constructor
  · rintro ⟨i, hi, h⟩
    have := tri_inj (show 0 < i by omega) huv (by simpa using h)
    omega
  · intro h; subst h
    exact ⟨v, by omega, by simp⟩

theorem nodup_starIdxs (n : Nat) : (starIdxs n).Nodup := by
  unfold starIdxs
  rw [List.Nodup, List.pairwise_map]
  refine List.Pairwise.imp_of_mem ?_ (List.nodup_range' (s := 1) (n := n - 1))
  intro a b ha hb hab h
  rw [List.mem_range'_1] at ha hb
  simp only [tri_def] at h
  have := tri_inj (show 0 < a by omega) (show 0 < b by omega) (by simpa using h)
  omega

theorem star_deg (n v : Nat) (hv : v < n) :
    (Families.star n).deg v = if v = 0 then n - 1 else 1 := by
  rw [Families.star, deg_symm n _ v hv]
  by_cases h0 : v = 0
  · subst h0
    have : (List.range n).countP (fun u => u != 0 && (0 == 0 || u == 0)) = (List.range n).countP (fun u => u != 0) := by
      apply List.countP_congr; intro u _; simp
    rw [this, countP_range_bne]; simp [hv]
  · have : (List.range n).countP (fun u => u != v && (v == 0 || u == 0)) = (List.range n).countP (fun u => u == 0) := by
      apply List.countP_congr; intro u _; simp [h0]; omega
    rw [this, countP_range_beq]; simp [h0]; omega

/-- the degree array of `Star(n)` -/
theorem star_degrees (n : Nat) : ∃ dg : Array Int, (if n > 0 then (do
    let d ← setAt (Array.replicate n (0 : Int)) 0 ((n : Int) - 1)
    writeAll d (List.range' 1 (n - 1)) 1) else pure (Array.replicate n (0 : Int))) = Outcome.ok dg ∧ dg.size = n ∧
    ∀ v, v < n → dg[v]? = some (((if v = 0 then n - 1 else 1 : Nat)) : Int) := by
  by_cases hn : n > 0
  · have h0 : 0 < (Array.replicate n (0 : Int)).size := by simp; omega
    obtain ⟨dg, g1, g2, g3⟩ := foldlM_setAt (1 : Int) (List.range' 1 (n - 1))
      ((Array.replicate n (0 : Int)).set 0 ((n : Int) - 1)) (by
        intro k hk; rw [List.mem_range'_1] at hk; simp; omega)
    refine ⟨dg, ?_, by simpa using g2, ?_⟩
    · simp only [hn, ↓reduceIte, setAt_ok _ h0, Outcome.bind_ok, writeAll]; exact g1
    · intro v hv
      rw [g3 v]
      simp only [List.mem_range'_1, Array.size_set, Array.size_replicate]
      by_cases c1 : v = 0
      · subst c1; simp [hn]
      · have : 1 ≤ v ∧ v < 1 + (n - 1) := by omega
        simp [this, hv, c1]
  · exact ⟨Array.replicate n 0, by simp [hn], by simp, by intro v hv; omega⟩

theorem star_ok (n : Nat) : ∃ d, star n = .ok d ∧ d.WF ∧ d.abs = Families.star n := by
  obtain ⟨e, e1, e2, e3⟩ := writeOnes_zeros (tri n) (starIdxs n) (starIdxs_lt n)
  obtain ⟨dg, g1, g2, g3⟩ := star_degrees n
  refine ⟨⟨n, if n == 0 then 0 else (n : Int) - 1, dg, e⟩, ?_, ?_⟩
  · have e1' : writeOnes (zeros (n * (n - 1) / 2)) ((List.range' 1 (n - 1)).map fun i => (i * (i - 1)) / 2) = .ok e := e1
    simp only [star]
    rw [e1']
    simp only [Outcome.bind_ok]
    rw [g1]; rfl
  · refine dense_of_idxs n _ dg e (starIdxs n) _ e2 e3 (nodup_starIdxs n) (starIdxs_lt n) (fun u v huv hv => ?_)
      ?_ g2 (fun v hv => by rw [← Families.star, star_deg n v hv, g3 v hv])
    · rw [mem_starIdxs n u v huv hv]
      simp only [beq_iff_eq]; omega
    · simp only [starIdxs, List.length_map, List.length_range']
      by_cases hn : n = 0
      · subst hn; simp
      · simp [hn]; omega

theorem succ_mod (x n : Nat) (hx : x < n) : (x + 1) % n = if x + 1 = n then 0 else x + 1 := by
  by_cases h : x + 1 = n
  · simp [h]
  · simp [h, Nat.mod_eq_of_lt (show x + 1 < n by omega)]

theorem succ_mod_ne (x n : Nat) (hn : 2 ≤ n) (hx : x < n) : (x + 1) % n ≠ x := by
  rw [succ_mod x n hx]; split <;> omega

theorem succ_mod_eq_iff {n u v : Nat} (hu : u < n) (hv : v < n) : (u + 1) % n = v ↔ u = (v + (n - 1)) % n := by
  constructor
  · intro h
    rw [← h, Nat.mod_add_mod, show u + 1 + (n - 1) = u + n by omega, Nat.add_mod_right, Nat.mod_eq_of_lt hu]
  · intro h
    rw [h, Nat.mod_add_mod, show v + (n - 1) + 1 = v + n by omega, Nat.add_mod_right, Nat.mod_eq_of_lt hv]

theorem writeOnes_snoc (a : Array Nat) (l : List Nat) (c : Nat) :
    writeOnes a (l ++ [c]) = writeOnes a l >>= fun a' => setAt a' c 1 := by
  rw [writeOnes_append]
  congr 1; funext a'
  simp only [writeOnes, List.foldlM_cons, List.foldlM_nil]
  cases setAt a' c 1 <;> rfl

def cycleIdxs (n : Nat) : List Nat := pathIdxs n ++ [((n - 1) * (n - 2)) / 2]

theorem cycle_last (n : Nat) : ((n - 1) * (n - 2)) / 2 = tri (n - 1) + 0 := by
  simp [tri, Nat.sub_sub]

theorem cycleIdxs_lt (n : Nat) (hn : 3 ≤ n) : ∀ k ∈ cycleIdxs n, k < tri n := by
  intro k hk
  simp only [cycleIdxs, List.mem_append, List.mem_singleton] at hk
  rcases hk with hk | hk
  · exact pathIdxs_lt n k hk
  · rw [hk, cycle_last]; exact tri_add_lt (by omega) (by omega)

theorem mem_cycleIdxs (n u v : Nat) (hn : 3 ≤ n) (huv : u < v) (hv : v < n) :
    tri v + u ∈ cycleIdxs n ↔ (u + 1 = v ∨ (u = 0 ∧ v = n - 1)) := by
  simp only [cycleIdxs, List.mem_append, List.mem_singleton, mem_pathIdxs n u v huv hv, cycle_last]
  constructor
  · rintro (h | h)
    · exact Or.inl h
    · have := tri_inj huv (show 0 < n - 1 by omega) h
      exact Or.inr ⟨this.1, this.2⟩
  · rintro (h | ⟨h1, h2⟩)
    · exact Or.inl h
    · subst h1 h2; exact Or.inr rfl

theorem nodup_cycleIdxs (n : Nat) (hn : 3 ≤ n) : (cycleIdxs n).Nodup := by
  unfold cycleIdxs
  rw [List.nodup_append]
  refine ⟨nodup_pathIdxs n, by simp, ?_⟩
  intro a ha b hb hab
  simp only [List.mem_singleton] at hb
  subst hb hab
  rw [cycle_last, mem_pathIdxs n 0 (n - 1) (by omega) (by omega)] at ha
  omega

theorem cycle_deg (n v : Nat) (hn : 3 ≤ n) (hv : v < n) : (Families.cycle n).deg v = 2 := by
  rw [Families.cycle, deg_symm n _ v hv]
  have hs : (v + 1) % n < n := Nat.mod_lt _ (by omega)
  have hp : (v + (n - 1)) % n < n := Nat.mod_lt _ (by omega)
  -- the successor and the predecessor of `v` are different vertices, and neither is `v`
  have hsp : (v + 1) % n ≠ (v + (n - 1)) % n := by
    intro e
    have := (succ_mod_eq_iff hs hv).mpr e
    rw [succ_mod _ n hs, succ_mod v n hv] at this
    split_ifs at this <;> omega
  have : (List.range n).countP (fun u => u != v && ((v + 1) % n == u || (u + 1) % n == v)) =
      (List.range n).countP (fun u => u == (v + 1) % n || u == (v + (n - 1)) % n) := by
    apply List.countP_congr
    intro u hu
    have hu' : u < n := List.mem_range.mp hu
    simp only [bne_iff_ne, ne_eq, Bool.and_eq_true, Bool.or_eq_true, beq_iff_eq, succ_mod_eq_iff hu' hv]
    constructor
    · rintro ⟨_, h | h⟩
      · exact Or.inl h.symm
      · exact Or.inr h
    · rintro (h | h)
      · exact ⟨fun e => succ_mod_ne v n (by omega) hv (h.symm.trans e), Or.inl h.symm⟩
      · exact ⟨fun e => succ_mod_ne u n (by omega) hu' (((succ_mod_eq_iff hu' hv).mpr h).trans e.symm), Or.inr h⟩
  rw [this, countP_or_disjoint _ _ _ (by
      intro u _ ⟨c1, c2⟩
      exact hsp ((eq_of_beq c1).symm.trans (eq_of_beq c2))),
    countP_range_beq, countP_range_beq, if_pos hs, if_pos hp]

theorem mem_cycleIdxs_iff (n u v : Nat) (hn : 3 ≤ n) (huv : u < v) (hv : v < n) :
    tri v + u ∈ cycleIdxs n ↔ ((u + 1) % n = v ∨ (v + 1) % n = u) := by
  rw [mem_cycleIdxs n u v hn huv hv, succ_mod u n (Nat.lt_trans huv hv), succ_mod v n hv]
  split_ifs <;> omega

theorem cycle_ok (n : Nat) (hn : 3 ≤ n) : ∃ d, cycle n = .ok d ∧ d.WF ∧ d.abs = Families.cycle n := by
  obtain ⟨e, e1, e2, e3⟩ := writeOnes_zeros (tri n) (cycleIdxs n) (cycleIdxs_lt n hn)
  obtain ⟨dg, g1, g2, g3⟩ := foldlM_setAt (2 : Int) (List.range n) (Array.replicate n (0 : Int)) (by simp)
  refine ⟨⟨n, n, dg, e⟩, ?_, ?_⟩
  · have e1' : (writeOnes (zeros (n * (n - 1) / 2)) ((List.range (n - 1)).map fun i => ((i + 1) * i) / 2 + i) >>=
        fun a => setAt a (((n - 1) * (n - 2)) / 2) 1) = .ok e := by
      rw [← e1]; exact (writeOnes_snoc _ _ _).symm
    have hn' : ¬ n < 3 := by omega
    simp only [cycle, hn', ↓reduceIte, Array.size_replicate, writeAll]
    cases h : writeOnes (zeros (n * (n - 1) / 2)) ((List.range (n - 1)).map fun i => ((i + 1) * i) / 2 + i) with
    | ok a1 =>
      rw [h] at e1'
      simp only [Outcome.bind_ok] at e1' ⊢
      rw [e1']; simp only [Outcome.bind_ok]; rw [g1]; rfl
    | panic => rw [h] at e1'; cases e1'
    | outOfFuel => rw [h] at e1'; cases e1'
  · refine dense_of_idxs n _ dg e (cycleIdxs n) _ e2 e3 (nodup_cycleIdxs n hn) (cycleIdxs_lt n hn)
      (fun u v huv hv => ?_) ?_ (by simpa using g2) (fun v hv => ?_)
    · rw [mem_cycleIdxs_iff n u v hn huv hv]
      simp only [beq_iff_eq]
    · simp only [cycleIdxs, pathIdxs, List.length_append, List.length_map, List.length_range, List.length_singleton]
      omega
    · rw [← Families.cycle, cycle_deg n v hn hv, g3 v]
      simp [hv]

end Construct
