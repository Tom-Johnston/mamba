import Mamba.Lemmas.ListGetD
import Mamba.Lemmas.CanonFCert
import Mathlib.Data.List.Perm.Subperm
import Mathlib.Data.List.Nodup
/-!
# Two leaves with the same certificate differ by an automorphism

`aut_of_cert`: if the vertex orders `o1`, `o2` have the same full certificate `certPos nb · n`, then `transport n o1 o2`
(vertex at position `p` of `o1` ↦ vertex at position `p` of `o2`) is an automorphism of `nb`; `transport_eq` is the form
in which the model computes it (through the inverse permutation of `o1`).
-/
namespace CanonF

theorem aut_tri_inj {q p q' p' : Nat} (h1 : q < p) (h2 : q' < p') (e : tri p + q = tri p' + q') : p = p' ∧ q = q' :=
  TriNat.inj h1 h2 e

theorem mem_certPos {nb : Nbrs} {o : List Nat} {n s x : Nat} (ho : o.Perm (List.range n)) (hs : s ≤ n) :
    x ∈ certPos nb o s ↔ ∃ p q, q < p ∧ p < s ∧ x = tri p + q ∧ o.getD q 0 ∈ nb.getD (o.getD p 0) [] := by
  obtain ⟨hl, hnd, hmem⟩ := perm_range_facts ho
  unfold certPos
  simp only [List.mem_flatMap, List.mem_range, blockCodes, sortNat, List.mem_mergeSort, rawCodes, List.mem_filterMap]
  constructor
  · rintro ⟨j, hj, v, hv, h⟩
    split at h
    · next hlt =>
      simp only [Option.some.injEq] at h
      refine ⟨j, o.idxOf v, hlt, hj, h.symm, ?_⟩
      rw [getD_idxOf (List.idxOf_lt_length_iff.1 (by omega))]
      exact hv
    · simp at h
  · rintro ⟨p, q, hqp, hps, rfl, hm⟩
    refine ⟨p, hps, o.getD q 0, hm, ?_⟩
    rw [idxOf_getD hnd (by omega)]
    simp [hqp]

theorem aut_transport_getD {n : Nat} {o1 o2 : List Nat} {x : Nat} (hx : x < n) :
    (transport n o1 o2).getD x 0 = o2.getD (o1.idxOf x) 0 := by
  unfold transport
  rw [List.getD_eq_getElem?_getD, List.getElem?_map, List.getElem?_range hx]
  rfl

theorem aut_transport_perm {n : Nat} {o1 o2 : List Nat}
    (h1 : o1.Perm (List.range n)) (h2 : o2.Perm (List.range n)) : (transport n o1 o2).Perm (List.range n) := by
  obtain ⟨hl1, hnd1, hmem1⟩ := perm_range_facts h1
  obtain ⟨hl2, hnd2, hmem2⟩ := perm_range_facts h2
  have hidx : ∀ x, x < n → o1.idxOf x < n := fun x hx => by
    rw [← hl1]; exact List.idxOf_lt_length_of_mem ((hmem1 x).2 hx)
  have hnd : (transport n o1 o2).Nodup := by
    unfold transport
    apply List.Nodup.map_on _ List.nodup_range
    intro x hx y hy e
    rw [List.mem_range] at hx hy
    have e2 : o1.idxOf x = o1.idxOf y := by
      have := congrArg o2.idxOf e
      rwa [idxOf_getD hnd2 (by rw [hl2]; exact hidx x hx),
        idxOf_getD hnd2 (by rw [hl2]; exact hidx y hy)] at this
    rw [← getD_idxOf ((hmem1 x).2 hx), ← getD_idxOf ((hmem1 y).2 hy), e2]
  have hsub : transport n o1 o2 ⊆ List.range n := by
    intro z hz
    unfold transport at hz
    rw [List.mem_map] at hz
    obtain ⟨x, hx, rfl⟩ := hz
    rw [List.mem_range] at hx ⊢
    rw [← hmem2, List.getD_eq_getElem?_getD, List.getElem?_eq_getElem (by rw [hl2]; exact hidx x hx), Option.getD_some]
    exact List.getElem_mem _
  exact (hnd.subperm hsub).perm_of_length_le (by simp [transport])

theorem aut_adj_lt {nb : Nbrs} {n : Nat} {o1 o2 : List Nat}
    (h1 : o1.Perm (List.range n)) (h2 : o2.Perm (List.range n))
    (hc : certPos nb o1 n = certPos nb o2 n) {p q : Nat} (hqp : q < p) (hp : p < n) :
    o1.getD q 0 ∈ nb.getD (o1.getD p 0) [] → o2.getD q 0 ∈ nb.getD (o2.getD p 0) [] := by
  intro h
  have m1 : tri p + q ∈ certPos nb o1 n := (mem_certPos h1 (Nat.le_refl n)).2 ⟨p, q, hqp, hp, rfl, h⟩
  rw [hc, mem_certPos h2 (Nat.le_refl n)] at m1
  obtain ⟨p', q', a, b, c, d⟩ := m1
  obtain ⟨rfl, rfl⟩ := aut_tri_inj hqp a c
  exact d

theorem aut_adj {nb : Nbrs} {n : Nat} {o1 o2 : List Nat} (hnb : NbOK nb n)
    (h1 : o1.Perm (List.range n)) (h2 : o2.Perm (List.range n))
    (hc : certPos nb o1 n = certPos nb o2 n) {p q : Nat} (hq : q < n) (hp : p < n) :
    o1.getD q 0 ∈ nb.getD (o1.getD p 0) [] → o2.getD q 0 ∈ nb.getD (o2.getD p 0) [] := by
  intro h
  rcases Nat.lt_trichotomy q p with hlt | heq | hgt
  · exact aut_adj_lt h1 h2 hc hlt hp h
  · subst heq; exact absurd h (hnb.irrefl _)
  · exact hnb.symm _ _ (aut_adj_lt h1 h2 hc hgt hq (hnb.symm _ _ h))

theorem aut_of_cert {nb : Nbrs} {n : Nat} {o1 o2 : List Nat} (hnb : NbOK nb n)
    (h1 : o1.Perm (List.range n)) (h2 : o2.Perm (List.range n))
    (hc : certPos nb o1 n = certPos nb o2 n) : IsAutL nb n (transport n o1 o2) := by
  refine ⟨aut_transport_perm h1 h2, ?_⟩
  intro x y hx hy
  obtain ⟨hl1, hnd1, hmem1⟩ := perm_range_facts h1
  have hidx : ∀ x, x < n → o1.idxOf x < n := fun x hx => by
    rw [← hl1]; exact List.idxOf_lt_length_of_mem ((hmem1 x).2 hx)
  rw [aut_transport_getD hx, aut_transport_getD hy]
  have ex := getD_idxOf ((hmem1 x).2 hx)
  have ey := getD_idxOf ((hmem1 y).2 hy)
  constructor
  · intro h
    apply aut_adj hnb h1 h2 hc (hidx y hy) (hidx x hx)
    rw [ex, ey]; exact h
  · intro h
    have := aut_adj hnb h2 h1 hc.symm (hidx y hy) (hidx x hx) h
    rwa [ex, ey] at this

theorem transport_eq {n : Nat} {o1 o2 pinv : List Nat} (h1 : o1.Perm (List.range n))
    (hinv : ∀ i x : Nat, o1[i]? = some x → pinv[x]? = some i) :
    (List.range n).map (fun x => o2.getD (pinv.getD x 0) 0) = transport n o1 o2 := by
  obtain ⟨hl1, hnd1, hmem1⟩ := perm_range_facts h1
  unfold transport
  apply List.map_congr_left
  intro x hx
  rw [List.mem_range] at hx
  have hm := (hmem1 x).2 hx
  have hlt := List.idxOf_lt_length_of_mem hm
  have := hinv (o1.idxOf x) x (by rw [List.getElem?_eq_getElem hlt, List.getElem_idxOf hlt])
  rw [List.getD_eq_getElem?_getD (l := pinv), this, Option.getD_some]

end CanonF
