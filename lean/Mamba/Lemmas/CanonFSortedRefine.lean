import Mamba.Lemmas.CanonFSortedSplit
import Mamba.Lemmas.CanonFTreeRefine
/-!
# The refinement keeps every bin in ascending order: `refine_binsSorted`

The fill of `dws` is a stable sort by the counts (`SplitX.ksort`), a new divider is put wherever the count changes
(`SplitX.nmem`), so neighbours without a divider between them are neighbours in a sublist of the old, ascending segment
(`SplitRel.binsSorted_of`).
-/
namespace CanonF

theorem pair_sublist_filter {K : List Nat} {a : Nat} (h : a + 1 < K.length) (p : Nat → Bool)
    (h1 : p (K[a]'(Nat.lt_of_succ_lt h)) = true) (h2 : p K[a + 1] = true) :
    [K[a]'(Nat.lt_of_succ_lt h), K[a + 1]].Sublist (K.filter p) := by
  have := (pair_sublist h).filter p
  rwa [List.filter_cons_of_pos h1, List.filter_cons_of_pos h2] at this

theorem SplitRel.binsSorted {n j bs dj : Nat} {K nbsL : List Nat} {op op2 : OP} {ts : Sl Nat}
    (h : SplitRel n j bs dj K nbsL op op2) (hS : SplitX ts j bs dj K nbsL op op2) (hp : PartInv n op)
    (hb : BinsSorted op) : BinsSorted op2 := by
  apply h.binsSorted_of hp hb
  intro x hx hnd
  -- no new divider between them: equal counts
  have hT : rfTv ts K[x + 1] = rfTv ts (K[x]'(Nat.lt_of_succ_lt hx)) := by
    apply Classical.byContradiction
    intro hne
    apply hnd
    refine (hS.nmem (bs + x + 1)).2 ⟨x + 1, Nat.succ_le_succ (Nat.zero_le x), hx, Nat.add_assoc bs x 1, ?_⟩
    rw [List.getD_eq_getElem?_getD, List.getD_eq_getElem?_getD, List.getElem?_eq_getElem hx, Nat.add_sub_cancel,
      List.getElem?_eq_getElem (Nat.lt_of_succ_lt hx)]
    exact hne
  have hsub := pair_sublist_filter hx (fun y => rfTv ts y == rfTv ts (K[x]'(Nat.lt_of_succ_lt hx)))
    (beq_self_eq_true _) (beq_iff_eq.2 hT)
  rw [hS.ksort.stable] at hsub
  exact hsub.trans List.filter_sublist

theorem carried_binsSorted (hst : StablePerm) (nb : Nbrs) (n : Nat) (cb fl : Sl Nat) (opts : Options) :
    Carried nb n cb fl opts BinsSorted :=
  Carried.of_split hst (fun hp hrel hS hq => hrel.binsSorted hS hp hq)
    (fun _ _ e1 e2 _ _ _ hq => by unfold BinsSorted; rw [e1, e2]; exact hq)

theorem refine_binsSorted (hst : StablePerm) {n : Nat} {nb : Nbrs} {cb fl : Sl Nat} {opts : Options} {op op' : OP}
    {sc sc' : Scratch} {w : Bool} (hp : PartInv n op) (ha : AgeInv op) (hsc : ScratchOK n sc)
    (hb : BinsSorted op) (hr : refine nb cb fl opts op sc = .ok (w, op', sc')) : BinsSorted op' := by
  unfold refine at hr
  rw [hp.lenOrder] at hr
  exact (refineLoop_inv hst (carried_binsSorted hst nb n cb fl opts) _ op op' sc sc' w hp ha hb hsc.scrInv hr).2.1

end CanonF
