import Mamba.Lemmas.DistancePatonTotal
import Mathlib.Logic.Function.Iterate
/-!
# Paton's phase: tree paths, the tree `PTree` and the scan invariant `PS`

`upPath T k v` is the tree path `[v, par v, …, par^k v]`; its edge codes are what `patonBack` collects
(`pathCodes_upPath`). Depths drop by exactly one per tree edge, so a path along which the depth drops by `k` in `k`
steps is duplicate-free and a path of the graph (`dep_exact`, `upPath_nodup`, `chainAdj_upPath`). `PS` says that the
parents of the vertices waiting on the stack are ancestors of the examined vertex at exactly the depth difference
(`AncD`): Paton's stack discipline.
-/
namespace GDist
open GraphSpec Model

def pathCodes : List Nat → List Nat
  | a :: b :: t => edgeCode a b :: pathCodes (b :: t)
  | _ => []

def cycCodes (c : List Nat) : List Nat := edgeCode (c.headD 0) (c.getLastD 0) :: pathCodes c

def upPath (T : Array Int) : Nat → Nat → List Nat
  | 0, v => [v]
  | k+1, v => v :: upPath T k (par T v)

theorem pathCodes_length : ∀ p : List Nat, (pathCodes p).length = p.length - 1
  | [] => rfl
  | [_] => rfl
  | _ :: b :: t => by
    rw [pathCodes, List.length_cons, pathCodes_length (b :: t)]
    rfl

theorem cycCodes_length {c : List Nat} (hc : c ≠ []) : (cycCodes c).length = c.length := by
  rw [cycCodes, List.length_cons, pathCodes_length]
  have := List.length_pos_iff.2 hc
  omega

theorem upPath_ne_nil (T : Array Int) (k v : Nat) : upPath T k v ≠ [] := by
  cases k <;> simp [upPath]

theorem upPath_head (T : Array Int) (k v : Nat) : ∃ t, upPath T k v = v :: t := by
  cases k <;> simp [upPath]

theorem pathCodes_upPath (T : Array Int) : ∀ k v, pathCodes (upPath T k v) = backCodes T k v
  | 0, v => by simp [upPath, pathCodes, backCodes]
  | k+1, v => by
    obtain ⟨t, ht⟩ := upPath_head T k (par T v)
    simp only [upPath, backCodes]
    rw [ht, pathCodes, ← ht, pathCodes_upPath T k (par T v)]

theorem upPath_length (T : Array Int) : ∀ k v, (upPath T k v).length = k + 1
  | 0, _ => rfl
  | k+1, v => by simp [upPath, upPath_length T k]

theorem mem_upPath (T : Array Int) : ∀ k v x, x ∈ upPath T k v ↔ ∃ i, i ≤ k ∧ (par T)^[i] v = x
  | 0, v, x => by
    simp only [upPath, List.mem_singleton]
    constructor
    · intro h; exact ⟨0, Nat.le_refl _, h.symm⟩
    · rintro ⟨i, hi, h⟩
      have : i = 0 := by omega
      subst this; exact h.symm
  | k+1, v, x => by
    simp only [upPath, List.mem_cons, mem_upPath T k]
    constructor
    · rintro (h | ⟨i, hi, h⟩)
      · exact ⟨0, Nat.zero_le _, h.symm⟩
      · exact ⟨i + 1, by omega, by rw [Function.iterate_succ_apply]; exact h⟩
    · rintro ⟨i, hi, h⟩
      cases i with
      | zero => exact .inl h.symm
      | succ i => exact .inr ⟨i, by omega, by rw [Function.iterate_succ_apply] at h; exact h⟩

theorem upPath_getLast? (T : Array Int) : ∀ k v, (upPath T k v).getLast? = some ((par T)^[k] v)
  | 0, v => by simp [upPath]
  | k+1, v => by
    obtain ⟨t, ht⟩ := upPath_head T k (par T v)
    have ih := upPath_getLast? T k (par T v)
    simp only [upPath]
    rw [ht, List.getLast?_cons_cons, ← ht, ih, Function.iterate_succ_apply]

theorem upPath_getLast (T : Array Int) (k v : Nat) : (upPath T k v).getLastD 0 = (par T)^[k] v := by
  rw [List.getLastD_eq_getLast?, upPath_getLast?]; rfl

theorem mem_backCodes (T : Array Int) : ∀ k p c, c ∈ backCodes T k p →
    ∃ i, i < k ∧ c = edgeCode ((par T)^[i] p) (par T ((par T)^[i] p))
  | 0, _, c, h => by simp [backCodes] at h
  | k+1, p, c, h => by
    simp only [backCodes, List.mem_cons] at h
    rcases h with h | h
    · exact ⟨0, by omega, h⟩
    · obtain ⟨i, hi, hc⟩ := mem_backCodes T k (par T p) c h
      exact ⟨i + 1, by omega, by rw [Function.iterate_succ_apply]; exact hc⟩


/-- `z` is the ancestor of `v` exactly `dep v - dep z` tree edges above it -/
def AncD (T : Array Int) (D : Array Nat) (z v : Nat) : Prop :=
  ∃ k, (par T)^[k] v = z ∧ dep D z + k = dep D v

def IsCycCode (a : G) (f : List Nat) : Prop := ∃ c, IsCycleSeq a c ∧ f = sortInts (cycCodes c)

/-- `T`, `D` describe a tree on vertices of `a` rooted in `0`: the parent of a tree vertex is a tree vertex, one level
up and joined to it by an edge of `a` -/
structure PTree (a : G) (T : Array Int) (D : Array Nat) : Prop where
  tsz : T.size = a.n
  dsz : D.size = a.n
  root : T.getD 0 (-1) = 0
  ptree : ∀ x, x < a.n → inTree T x → 0 ≤ T.getD x (-1) ∧ par T x < a.n ∧ inTree T (par T x)
  pdep : ∀ x, x < a.n → inTree T x → x ≠ 0 → dep D x = dep D (par T x) + 1 ∧ a.adj x (par T x) = true

/-- Invariant during the scan of the neighbours of `v`: the stack `X` holds leaves of the tree whose parents are
ancestors of `v`, deeper ones on top (`AncD`); every edge at a tree vertex that is neither on the stack nor `v` has
been removed. -/
structure PS (a : G) (st : PatonSt) (v : Nat) : Prop extends PTree a st.T st.depth where
  xin : ∀ x ∈ st.X, x < a.n ∧ inTree st.T x ∧ x ≠ 0
  xnd : st.X.Nodup
  vnx : v ∉ st.X
  cur : v < a.n ∧ inTree st.T v
  leaf : ∀ x, x < a.n → inTree st.T x → par st.T x ∉ st.X
  xanc : ∀ x ∈ st.X, AncD st.T st.depth (par st.T x) v
  xpair : st.X.Pairwise fun up lo => AncD st.T st.depth (par st.T lo) (par st.T up)
  exam : ∀ x, x < a.n → inTree st.T x → x ∉ st.X → x ≠ v → ∀ w, a.adj x w = true → w < a.n →
    edgeRemoved st.removed w x = true

variable {a : G}

theorem par_root {T : Array Int} (h : T.getD 0 (-1) = 0) : par T 0 = 0 := by unfold par; rw [h]; rfl

theorem iter_root {T : Array Int} (h : T.getD 0 (-1) = 0) : ∀ k, (par T)^[k] 0 = 0 := by
  intro k
  induction k with
  | zero => rfl
  | succ k ih => rw [Function.iterate_succ_apply', ih, par_root h]

section tree
variable {T : Array Int} {D : Array Nat} {n : Nat}
  (root : T.getD 0 (-1) = 0)
  (ptree : ∀ x, x < n → inTree T x → 0 ≤ T.getD x (-1) ∧ par T x < n ∧ inTree T (par T x))
  (pdep : ∀ x, x < n → inTree T x → x ≠ 0 → dep D x = dep D (par T x) + 1)
include root ptree pdep

omit root pdep in
theorem iter_in : ∀ k x, x < n → inTree T x → (par T)^[k] x < n ∧ inTree T ((par T)^[k] x) := by
  intro k
  induction k with
  | zero => intro x hx ht; exact ⟨hx, ht⟩
  | succ k ih =>
    intro x hx ht
    rw [Function.iterate_succ_apply]
    exact ih _ (ptree x hx ht).2.1 (ptree x hx ht).2.2

theorem dep_mono : ∀ k x, x < n → inTree T x → dep D x ≤ dep D ((par T)^[k] x) + k := by
  intro k
  induction k with
  | zero => intro x _ _; exact Nat.le_refl _
  | succ k ih =>
    intro x hx ht
    rw [Function.iterate_succ_apply]
    have h1 := ih _ (ptree x hx ht).2.1 (ptree x hx ht).2.2
    by_cases hx0 : x = 0
    · subst hx0
      rw [par_root root] at h1 ⊢
      omega
    · have := pdep x hx ht hx0
      omega

theorem dep_exact : ∀ k x, x < n → inTree T x → dep D ((par T)^[k] x) + k = dep D x →
    ∀ i, i ≤ k → dep D ((par T)^[i] x) + i = dep D x ∧ (i < k → (par T)^[i] x ≠ 0) := by
  intro k
  induction k with
  | zero =>
    intro x _ _ _ i hi
    have : i = 0 := by omega
    subst this; exact ⟨rfl, fun h => by omega⟩
  | succ k ih =>
    intro x hx ht hk i hi
    rw [Function.iterate_succ_apply] at hk
    have hp := ptree x hx ht
    have hx0 : x ≠ 0 := by
      intro h0; subst h0
      rw [par_root root, iter_root root] at hk
      omega
    have hd := pdep x hx ht hx0
    cases i with
    | zero => exact ⟨rfl, fun _ => hx0⟩
    | succ i =>
      rw [Function.iterate_succ_apply]
      obtain ⟨h1, h2⟩ := ih (par T x) hp.2.1 hp.2.2 (by omega) i (by omega)
      exact ⟨by omega, fun h => h2 (by omega)⟩

theorem upPath_nodup {k x : Nat} (hx : x < n) (ht : inTree T x)
    (hk : dep D ((par T)^[k] x) + k = dep D x) : (upPath T k x).Nodup := by
  induction k generalizing x with
  | zero => simp [upPath]
  | succ k ih =>
    have hp := ptree x hx ht
    obtain ⟨h1, _⟩ := dep_exact root ptree pdep (k + 1) x hx ht hk 1 (by omega)
    simp only [Function.iterate_one] at h1
    rw [Function.iterate_succ_apply] at hk
    simp only [upPath, List.nodup_cons]
    refine ⟨?_, ih hp.2.1 hp.2.2 (by omega)⟩
    intro hm
    obtain ⟨i, hi, hix⟩ := (mem_upPath T k (par T x) x).1 hm
    obtain ⟨h2, _⟩ := dep_exact root ptree pdep k (par T x) hp.2.1 hp.2.2 (by omega) i hi
    rw [hix] at h2
    omega

end tree

theorem chainAdj_cons {g : G} {x : Nat} : ∀ {l : List Nat}, chainAdj g l → (∀ y, l.head? = some y → g.adj y x = true) →
    chainAdj g (x :: l)
  | [], _, _ => trivial
  | y :: _, h, hx => ⟨hx y rfl, h⟩

theorem chainAdj_upPath {T : Array Int} {D : Array Nat} (hsym : ∀ u v, a.adj u v = a.adj v u)
    (root : T.getD 0 (-1) = 0)
    (ptree : ∀ x, x < a.n → inTree T x → 0 ≤ T.getD x (-1) ∧ par T x < a.n ∧ inTree T (par T x))
    (pdep : ∀ x, x < a.n → inTree T x → x ≠ 0 → dep D x = dep D (par T x) + 1 ∧ a.adj x (par T x) = true) :
    ∀ k x, x < a.n → inTree T x → dep D ((par T)^[k] x) + k = dep D x → chainAdj a (upPath T k x) := by
  intro k
  induction k with
  | zero => intro x _ _ _; simp [upPath, chainAdj]
  | succ k ih =>
    intro x hx ht hk
    have hp := ptree x hx ht
    obtain ⟨h1, h2⟩ := dep_exact root ptree (fun x hx ht h0 => (pdep x hx ht h0).1) (k + 1) x hx ht hk 0 (by omega)
    have hx0 : x ≠ 0 := h2 (by omega)
    rw [Function.iterate_succ_apply] at hk
    have hd := pdep x hx ht hx0
    simp only [upPath]
    apply chainAdj_cons (ih _ hp.2.1 hp.2.2 (by omega))
    intro y hy
    obtain ⟨t, ht'⟩ := upPath_head T k (par T x)
    rw [ht'] at hy
    simp at hy
    subst hy
    rw [hsym]; exact hd.2

end GDist
