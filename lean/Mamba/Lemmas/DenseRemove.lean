import Mamba.Lemmas.DenseRep
/-!
# DenseGraph.RemoveVertex refines `removeVertexG` (property C05)

The backing array is compacted by a sequence of overlapping left-moving `copy`s. Invariant after `t` iterations
(`j = v + 1 + t`): positions below `newIndex = rvNi v t` already hold their final value
`E[tri (up w) + up u]`, positions from `newIndex` on are untouched, and `oldIndex + 1 = rvSrc v t`.
-/
namespace GraphRep
open GraphSpec

theorem copyWithin_ok {e : Array Nat} {dst src stop : Nat} (h1 : dst ≤ src) (h2 : src ≤ stop)
    (h3 : stop ≤ e.size) :
    ∃ e', copyWithin e dst src stop = .ok (e', stop - src) ∧ e'.size = e.size ∧
      ∀ p, e'[p]? = if dst ≤ p ∧ p < dst + (stop - src) then e[src + (p - dst)]? else e[p]? := by
  unfold copyWithin
  rw [if_neg (by omega)]
  have hc : min (e.size - dst) (stop - src) = stop - src := by omega
  simp only [hc]
  refine ⟨_, rfl, by simp, ?_⟩
  intro p
  by_cases hp : p < e.size
  · rw [Array.getElem?_eq_getElem (by simpa using hp), Array.getElem_ofFn]
    simp only
    by_cases hcnd : dst ≤ p ∧ p < dst + (stop - src)
    · rw [if_pos hcnd, if_pos hcnd, getElem?_eq_some_getD (by omega)]
    · rw [if_neg hcnd, if_neg hcnd, Array.getElem?_eq_getElem hp]
      rfl
  · have hcnd : ¬ (dst ≤ p ∧ p < dst + (stop - src)) := by omega
    rw [if_neg hcnd, Array.getElem?_eq_none (by simp; omega), Array.getElem?_eq_none (by omega)]

theorem row_bounds {a b u w : Nat} (huw : u < w) (h1 : tri a ≤ tri w + u) (h2 : tri w + u < tri b) :
    a ≤ w ∧ w < b := by
  constructor
  · by_contra hc
    have := tri_mono (show w + 1 ≤ a by omega)
    rw [tri_succ] at this; omega
  · by_contra hc
    have := tri_mono (show b ≤ w by omega)
    omega

/-- `newIndex` after `t` iterations -/
def rvNi (v t : Nat) : Nat := if t = 0 then tri v else tri (v + t - 1) + v
/-- `oldIndex + 1` after `t` iterations -/
def rvSrc (v t : Nat) : Nat := if t = 0 then tri (v + 1) else tri (v + t) + v + 1

structure RvInv (E : Array Nat) (v t : Nat) (s : Array Nat × Nat × Nat) : Prop where
  size : s.1.size = E.size
  ni : s.2.1 = rvNi v t
  src : s.2.2 = rvSrc v t
  keep : ∀ p, rvNi v t ≤ p → s.1[p]? = E[p]?
  done : ∀ u w, u < w → tri w + u < rvNi v t → s.1[tri w + u]? = E[tri (up v w) + up v u]?

theorem rvNi_le_rvSrc (v t : Nat) : rvNi v t ≤ rvSrc v t := by
  unfold rvNi rvSrc
  by_cases ht : t = 0
  · simp only [ht, if_true]; exact tri_mono (by omega)
  · simp only [ht, if_false]
    have := tri_mono (show v + t - 1 ≤ v + t by omega); omega

theorem rvSrc_le (v t : Nat) : rvSrc v t ≤ tri (v + t + 1) := by
  cases t with
  | zero => exact Nat.le_refl _
  | succ t' =>
    have := tri_succ (v + t' + 1)
    show tri (v + t' + 1) + v + 1 ≤ tri (v + t' + 1 + 1)
    omega

/-- the `t`th `copy` up to `tri (v + t + 1) + v` advances `newIndex` to its next value -/
theorem rvNi_succ (v t : Nat) : rvNi v t + (tri (v + t + 1) + v - rvSrc v t) = rvNi v (t + 1) := by
  rw [show rvNi v (t + 1) = tri (v + t) + v from if_neg (Nat.succ_ne_zero _)]
  cases t with
  | zero =>
    show tri v + (tri (v + 1) + v - tri (v + 1)) = tri v + v
    rw [Nat.add_sub_cancel_left]
  | succ t' =>
    have h0 := tri_succ (v + t')
    have h1 := tri_succ (v + t' + 1)
    show tri (v + t') + v + (tri (v + t' + 1 + 1) + v - (tri (v + t' + 1) + v + 1)) = tri (v + t' + 1) + v
    omega

/-- the final `copy`, up to the end of the array, fills the new array exactly -/
theorem rvNi_last (v t : Nat) : rvNi v t + (tri (v + t + 1) - rvSrc v t) = tri (v + t) := by
  cases t with
  | zero =>
    show tri v + (tri (v + 1) - tri (v + 1)) = tri v
    rw [Nat.sub_self]; rfl
  | succ t' =>
    have h0 := tri_succ (v + t')
    have h1 := tri_succ (v + t' + 1)
    show tri (v + t') + v + (tri (v + t' + 1 + 1) - (tri (v + t' + 1) + v + 1)) = tri (v + t' + 1)
    omega

/-- Where the `t`th `copy` reads: the new position `tri w + u` inside the segment it fills receives the old position of
the renumbered pair. (The segment covers the tail of old row `v + t`, columns above `v`, and the head of old row
`v + t + 1`, columns below `v`; for `t = 0` only the latter.) -/
theorem rv_index {v t u w stop : Nat} (huw : u < w) (hlo : rvNi v t ≤ tri w + u)
    (hhi : tri w + u + rvSrc v t < rvNi v t + stop) (h2 : stop ≤ tri (v + t + 1) + v) :
    rvSrc v t + (tri w + u) = tri (up v w) + up v u + rvNi v t := by
  cases t with
  | zero =>
    have hNI : rvNi v 0 = tri v := if_pos rfl
    have hSR : rvSrc v 0 = tri (v + 1) := if_pos rfl
    rw [hNI] at hlo hhi; rw [hSR] at hhi
    have h2 : stop ≤ tri (v + 1) + v := h2
    have hs0 := tri_succ v
    have hb := row_bounds huw hlo (show tri w + u < tri (v + 1) by omega)
    obtain rfl : w = v := by omega
    rw [up_ge (Nat.le_refl _), up_lt huw, hNI, hSR]; omega
  | succ t' =>
    have hNI : rvNi v (t' + 1) = tri (v + t') + v := if_neg (Nat.succ_ne_zero _)
    have hSR : rvSrc v (t' + 1) = tri (v + t' + 1) + v + 1 := if_neg (Nat.succ_ne_zero _)
    rw [hNI] at hlo hhi; rw [hSR] at hhi
    have h2 : stop ≤ tri (v + t' + 1 + 1) + v := h2
    have hs0 := tri_succ (v + t')
    have hs1 := tri_succ (v + t' + 1)
    have hb := row_bounds huw (show tri (v + t') ≤ tri w + u by omega)
      (show tri w + u < tri (v + t' + 1 + 1) by omega)
    rw [hNI, hSR]
    by_cases hw : w = v + t'
    · subst hw
      rw [up_ge (Nat.le_add_right v t'), up_ge (show v ≤ u by omega)]; omega
    · obtain rfl : w = v + t' + 1 := by omega
      rw [up_ge (by omega : v ≤ v + t' + 1), up_lt (show u < v by omega)]; omega

/-- one `copy` of the compaction, up to an arbitrary `stop` inside the current segment -/
theorem rv_copy {E : Array Nat} {v t : Nat} {s : Array Nat × Nat × Nat} {stop : Nat}
    (hinv : RvInv E v t s)
    (h1 : rvSrc v t ≤ stop) (h2 : stop ≤ tri (v + t + 1) + v) (h3 : stop ≤ E.size) :
    ∃ e', copyWithin s.1 s.2.1 s.2.2 stop = .ok (e', stop - rvSrc v t) ∧ e'.size = E.size ∧
      (∀ p, rvNi v t + (stop - rvSrc v t) ≤ p → e'[p]? = E[p]?) ∧
      (∀ u w, u < w → tri w + u < rvNi v t + (stop - rvSrc v t) →
        e'[tri w + u]? = E[tri (up v w) + up v u]?) := by
  have hle := rvNi_le_rvSrc v t
  obtain ⟨e', hrun, hsz, hget⟩ := copyWithin_ok (e := s.1) (dst := s.2.1) (src := s.2.2) (stop := stop)
    (by rw [hinv.ni, hinv.src]; exact hle) (by rw [hinv.src]; exact h1) (by rw [hinv.size]; exact h3)
  refine ⟨e', by rw [hrun, hinv.src], by rw [hsz, hinv.size], ?_, ?_⟩
  · intro p hp
    rw [hget p, hinv.ni, hinv.src, if_neg (by omega)]
    exact hinv.keep p (by omega)
  · intro u w huw hp
    rw [hget, hinv.ni, hinv.src]
    by_cases hlow : tri w + u < rvNi v t
    · rw [if_neg (by omega)]; exact hinv.done u w huw hlow
    · have := rv_index huw (Nat.le_of_not_lt hlow) (by omega) h2
      rw [if_pos (by omega), hinv.keep _ (by omega)]
      congr 1; omega

theorem Dense.rvEdges_spec {g : Dense} (hs : g.edges.size = tri g.n) {v : Nat} (hv : v < g.n) :
    ∃ e, g.rvEdges v = .ok e ∧ e.size = tri (g.n - 1) ∧
      ∀ u w, u < w → w < g.n - 1 → e[tri w + u]? = g.edges[tri (up v w) + up v u]? := by
  have hinit : RvInv g.edges v 0 (g.edges, tri v, v * (v + 1) / 2) := by
    refine ⟨rfl, (if_pos rfl).symm, by simp [rvSrc, tri_succ'], fun p _ => rfl, ?_⟩
    intro u w huw hp
    rw [show rvNi v 0 = tri v from if_pos rfl] at hp
    have hb := row_bounds (a := 0) huw (Nat.zero_le _) hp
    rw [up_lt hb.2, up_lt (Nat.lt_trans huw hb.2)]
  obtain ⟨s, hrun, hinv⟩ := loopM_range' (rvStep v) (fun t s => RvInv g.edges v t s) (v + 1)
    (g.n - (v + 1)) 0 _ hinit (by
      intro t s _ ht hinv
      have hlt := tri_add_lt (show v < v + t + 1 by omega) (show v + t + 1 < g.n by omega)
      obtain ⟨e', hc, hsz, hkeep, hdone⟩ := rv_copy (stop := tri (v + t + 1) + v) hinv (Nat.le_trans (rvSrc_le v t) (Nat.le_add_right _ _))
        (Nat.le_refl _) (by rw [hs]; exact Nat.le_of_lt hlt)
      rw [rvNi_succ] at hkeep hdone
      refine ⟨(e', s.2.1 + (tri (v + t + 1) + v - rvSrc v t), tri (v + t + 1) + v + 1), ?_, ?_⟩
      · unfold rvStep
        simp only
        rw [show v + 1 + t = v + t + 1 by omega, hc]
      · exact ⟨hsz, by rw [hinv.ni, rvNi_succ], (if_neg (Nat.succ_ne_zero _)).symm, hkeep, hdone⟩)
  have hT : v + (0 + (g.n - (v + 1))) + 1 = g.n := by omega
  generalize hTdef : 0 + (g.n - (v + 1)) = T at hinv hT
  have hn1 : g.n - 1 = v + T := by omega
  have hsz' : g.edges.size = tri (v + T + 1) := by rw [hs, hT]
  obtain ⟨e', hc, hsz, _, hdone⟩ := rv_copy (stop := g.edges.size) hinv
    (by rw [hsz']; exact rvSrc_le v T)
    (by rw [hsz']; exact Nat.le_add_right _ _) (Nat.le_refl _)
  rw [hsz', rvNi_last, ← hn1] at hdone
  have hle : tri (g.n - 1) ≤ e'.size := by
    rw [hsz, hs]; exact tri_mono (Nat.sub_le _ _)
  refine ⟨e'.extract 0 (tri (g.n - 1)), ?_, ?_, ?_⟩
  · unfold Dense.rvEdges
    rw [hrun]
    simp only
    rw [hinv.size, hc]
    simp only
    rw [if_pos hle]
  · rw [Array.size_extract]; omega
  · intro u w huw hw
    have hp : tri w + u < tri (g.n - 1) := tri_add_lt huw hw
    rw [Array.getElem?_extract, if_pos (by omega), Nat.zero_add]
    exact hdone u w huw hp

theorem sub_ite_eq (x : Int) (c1 c2 : Prop) [Decidable c1] [Decidable c2] (b : Bool)
    (h : (c1 ∨ c2) ↔ b = true) (hex : ¬ (c1 ∧ c2)) :
    x - (if c1 then 1 else 0) - (if c2 then 1 else 0) = x - (b.toNat : Int) := by
  by_cases h1 : c1 <;> by_cases h2 : c2 <;> cases b <;> simp_all

theorem Dense.rvDeg_loop (g : Dense) (idx : Nat → Nat) (n : Nat) :
    ∀ (l : List Nat) (d : Array Int), l.Nodup → (∀ i ∈ l, idx i < g.edges.size ∧ i < n) → d.size = n →
    ∃ d', loopM (Dense.rvDegStep g idx) l d = .ok d' ∧ d'.size = n ∧
      ∀ k, d'[k]? = (d[k]?).map (fun x => x - (if k ∈ l ∧ g.edges.getD (idx k) 0 > 0 then 1 else 0)) := by
  intro l
  induction l with
  | nil => intro d _ _ hd; exact ⟨d, rfl, hd, by simp⟩
  | cons i l ih =>
    intro d hnd hl hd
    have hi := hl i (by simp)
    have hnd' := List.nodup_cons.mp hnd
    have hstep : ∃ d1, Dense.rvDegStep g idx d i = .ok d1 ∧ d1.size = n ∧
        ∀ k, d1[k]? = (d[k]?).map (fun x => x - (if k = i ∧ g.edges.getD (idx i) 0 > 0 then 1 else 0)) := by
      unfold Dense.rvDegStep
      rw [getElem?_eq_some_getD hi.1]
      simp only
      by_cases hb : g.edges.getD (idx i) 0 > 0
      · rw [if_pos hb]
        have hx : d[i]? = some d[i] := Array.getElem?_eq_getElem (by omega)
        rw [addA_ok (-1) hx]
        refine ⟨_, rfl, by simp [hd], ?_⟩
        intro k
        rw [get?_set_add (-1) hx]
        by_cases hk : k = i
        · subst hk
          rw [if_pos rfl, hx, Option.map_some, if_pos ⟨rfl, hb⟩]
          rfl
        · have : ¬ (k = i ∧ g.edges.getD (idx i) 0 > 0) := fun c => hk c.1
          rw [if_neg hk, if_neg this]
          cases d[k]? <;> simp
      · rw [if_neg hb]
        refine ⟨d, rfl, hd, ?_⟩
        intro k
        have : ¬ (k = i ∧ g.edges.getD (idx i) 0 > 0) := fun c => hb c.2
        rw [if_neg this]
        cases d[k]? <;> simp
    obtain ⟨d1, h1, hs1, hg1⟩ := hstep
    obtain ⟨d2, h2, hs2, hg2⟩ := ih d1 hnd'.2 (fun j hj => hl j (by simp [hj])) hs1
    refine ⟨d2, ?_, hs2, ?_⟩
    · rw [loopM, h1]; exact h2
    · intro k
      rw [hg2 k, hg1 k]
      cases hdk : d[k]? with
      | none => simp
      | some x =>
        simp only [Option.map_some, List.mem_cons]
        by_cases hki : k = i
        · subst hki
          have : ¬ k ∈ l := hnd'.1
          simp [this]
        · simp [hki]

theorem Dense.rvDegrees_spec {g : Dense} (h : g.WF) {v : Nat} (hv : v < g.n) :
    ∃ d, g.rvDegrees v = .ok d ∧ d.size = g.n ∧
      ∀ k, k < g.n → d[k]? = some ((g.abs.deg k : Int) - (g.abs.adj k v).toNat) := by
  obtain ⟨d1, h1, hs1, hg1⟩ := Dense.rvDeg_loop g (fun i => tri v + i) g.n (List.range v) g.deg
    List.nodup_range (fun i hi => by
      have hi : i < v := by simpa using hi
      exact ⟨by rw [h.edges_size]; exact tri_add_lt hi hv, by omega⟩) h.deg_size
  obtain ⟨d2, h2, hs2, hg2⟩ := Dense.rvDeg_loop g (fun i => tri i + v) g.n
    (List.range' (v + 1) (g.n - (v + 1))) d1 (List.nodup_range' ..) (fun i hi => by
      simp only [List.mem_range'_1] at hi
      exact ⟨by rw [h.edges_size]; exact tri_add_lt (by omega) (by omega), by omega⟩) hs1
  refine ⟨d2, ?_, hs2, ?_⟩
  · unfold Dense.rvDegrees
    rw [h1]; exact h2
  · intro k hk
    rw [hg2 k, hg1 k, h.deg_eq k hk]
    simp only [Option.map_some]
    congr 1
    apply sub_ite_eq
    · simp only [List.mem_range, List.mem_range'_1]
      rcases Nat.lt_trichotomy k v with hlt | heq | hgt
      · rw [g.abs_adj_lt hlt]
        simp only [Dense.bit, Bool.and_eq_true, decide_eq_true_eq]
        constructor
        · rintro (⟨_, hb⟩ | ⟨⟨hc, _⟩, _⟩)
          · exact ⟨hv, hb⟩
          · omega
        · rintro ⟨_, hb⟩; exact Or.inl ⟨hlt, hb⟩
      · subst heq
        rw [g.abs_wf.irrefl]
        constructor
        · rintro (⟨hc, _⟩ | ⟨⟨hc, _⟩, _⟩) <;> omega
        · intro hc; cases hc
      · rw [g.abs_wf.symm, g.abs_adj_lt hgt]
        simp only [Dense.bit, Bool.and_eq_true, decide_eq_true_eq]
        constructor
        · rintro (⟨hc, _⟩ | ⟨_, hb⟩)
          · omega
          · exact ⟨hk, hb⟩
        · rintro ⟨_, hb⟩; exact Or.inr ⟨by omega, hb⟩
    · simp only [List.mem_range, List.mem_range'_1]
      rintro ⟨⟨h1, _⟩, ⟨h2, _⟩, _⟩
      omega

theorem Dense.removeVertex_spec {g : Dense} (h : g.WF) {v : Nat} (hv : v < g.n) :
    ∃ g', g.removeVertex v = .ok g' ∧ g'.WF ∧ g'.abs = removeVertexG g.abs v := by
  obtain ⟨d, hd, hds, hdg⟩ := Dense.rvDegrees_spec h hv
  obtain ⟨d', hd', hds', hdg'⟩ := eraseAt_ok (a := d) (v := v) (by omega)
  obtain ⟨e, he, hes, heg⟩ := Dense.rvEdges_spec h.edges_size hv
  unfold Dense.removeVertex
  rw [if_neg (by omega), h.deg_eq v hv]
  simp only [hd, hd', he]
  refine ⟨_, rfl, Dense.wf_of (removeVertexG_wf g.abs_wf hv) rfl (by rw [hds', hds]) hes ?_ ?_ ?_⟩
  · intro a b hab hb
    have hb' : b < g.n - 1 := hb
    have hub : up v b < g.n := by unfold up; split <;> omega
    show decide ((e.getD (tri b + a) 0) > 0) = g.abs.adj (up v a) (up v b)
    rw [g.abs_adj_lt (up_lt_up hab), decide_eq_true hub, Bool.true_and, Dense.bit,
      Array.getD_eq_getD_getElem?, Array.getD_eq_getD_getElem?, heg a b hab hb']
  · intro k hk
    have hk' : k < g.n - 1 := hk
    have huk : up v k < g.n := by unfold up; split <;> omega
    show d'[k]? = _
    rw [hdg' k, hdg (up v k) huk, ← deg_removeVertexG g.abs hv k]; simp
  · show g.m - (g.abs.deg v : Int) = _
    rw [h.m_eq, ← m_removeVertexG g.abs_wf hv]; simp

end GraphRep
