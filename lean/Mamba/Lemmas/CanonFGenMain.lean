import Mamba.Lemmas.CanonFOrbMain
import Mamba.Lemmas.CanonFGenLoop
import Mamba.Lemmas.CanonFGenLeaf
import Mamba.Lemmas.CanonFEdgelessGen
/-!
# The generators: the G-layer is carried by the main loop

Assembly of the G-layer (`CanonFGenDef.lean`, stabiliser chain along the first-leaf path) with the D- and A-layer as a
`MainJX` instance (same ghost data): `genLayer` pairs every field of `orbLayer` with the `gen_*` theorem of the same
transition (`gen_pop` is the one that uses the A-layer), `genMainJX` is `GhLayer.mainJX` of it; `gen_init`: the initial state.
The theorems about the returned generators are drawn from it in `CanonFSemantic.lean`.
-/
namespace CanonF

section
variable {n m : Nat} {nb : Nbrs} {rf : Nat} {r : IR.St}
  (hnb : NbOK nb n) (hsz : nb.size = n) (hm : m = ((nb.toList.map List.length).sum) / 2) (hrf : 3 * n + 3 ≤ rf)
  (hA : IR.InvA (irG n nb) r) (hD : IR.InvD (irG n nb) r)
  (hlenm : ∀ o : List Nat, o.Perm (List.range n) → (certPos nb o n).length = m)

include hnb hsz hm hrf hA hD in
theorem genLayer : GhLayer n m nb rf r (fun gh lv s => AAv n nb rf r gh lv s ∧ GAv n nb rf r gh lv s)
    (fun gh lv s => ANv n nb rf r gh lv s ∧ GNv n nb rf r gh lv s)
    (fun gh lv s => ANodev n nb rf r gh lv s ∧ GNodev n nb rf r gh lv s)
    (fun gh v lv s => ASv n nb rf r gh v lv s ∧ GSv n nb rf r gh v lv s) :=
  have hO := orbLayer hnb hsz hm hrf hA hD
  { na := fun gh lv s hd h => ⟨hO.na gh lv s hd h.1, gen_na gh lv s hd h.2⟩
    deage := fun gh lv s op' h => ⟨hO.deage gh lv s op' h.1, gen_deage gh lv s op' h.2⟩
    noskip := fun gh lv s h => ⟨hO.noskip gh lv s h.1, gen_noskip gh lv s h.2⟩
    skipA := fun gh st sz ls s c cs p ps ce x k hc ht hage hch hpth hget hon hx hx0 hd h =>
      ⟨hO.skipA gh st sz ls s c cs p ps ce x k hc ht hage hch hpth hget hon hx hx0 hd h.1,
        gen_skip s.bestOrbits hch hpth hd.2.2.2 h.2⟩
    skipB := fun gh st sz ls s c cs p ps ce bo k hc ht hage hch hpth hget hon hh hd h =>
      ⟨hO.skipB gh st sz ls s c cs p ps ce bo k hc ht hage hch hpth hget hon hh hd h.1,
        gen_skip bo hch hpth hd.2.2.2 h.2⟩
    split := fun gh st sz ls s c cs p ps ce bo w op' k hc ht hage hch hpth hget hs hJ hd h => by
      obtain ⟨a1, a2⟩ := hO.split gh st sz ls s c cs p ps ce bo w op' k hc ht hage hch hpth hget hs hJ hd h.1
      obtain ⟨g1, g2⟩ := gen_split gh st sz ls s c cs p ps ce bo w op' k hc ht hch hpth hget hd h.2
      exact ⟨fun hw t v hds => ⟨a1 hw t v hds, g1 hw t v hds⟩, fun hw => ⟨a2 hw, g2 hw⟩⟩
    pop := fun gh st sz ls s ht hJ hd h =>
      ⟨hO.pop gh st sz ls s ht hJ hd h.1, gen_pop hnb gh st sz ls s ht hJ hd h.1 h.2⟩
    leaf := fun gh gh' lv lv1 s s1 hI hlv hleaf hJ hd h L hg hd' => by
      refine ⟨hO.leaf gh gh' lv lv1 s s1 hI hlv hleaf hJ hd h.1 L hg hd', ?_⟩
      cases hg with
      | first hcnt S => exact gen_leaf_first hnb hA hD hlv hd L hcnt S
      | accept hpos _ S =>
        rw [S.s1_eq]
        exact gen_leaf_keep hlv hd h.2 L hpos rfl rfl (fun _ hγ => hγ) rfl rfl
      | eq E => exact gen_leaf_eq hI h.2 E
      | other hpos _ _ _ e =>
        rw [e]
        exact gen_leaf_keep hlv hd h.2 L hpos rfl rfl (fun _ hγ => hγ) rfl rfl
    inner := fun gh lv s s1 st sz hd h I => ⟨hO.inner gh lv s s1 st sz hd h.1 I, gen_inner h.2 I⟩
    refine := fun gh t v lv s w op' sc' sc2 hc hl htl hJ hd h hr => by
      obtain ⟨a1, a2⟩ := hO.refine gh t v lv s w op' sc' sc2 hc hl htl hJ hd h.1 hr
      obtain ⟨g1, g2⟩ := gen_refine gh t v lv s w op' sc2 hl hd h.2
      exact ⟨fun hw => ⟨a1 hw, g1 hw⟩, fun hw => ⟨a2 hw, g2 hw⟩⟩ }

include hnb hsz hm hrf hA hD hlenm in
theorem genMainJX :
    MainJX n m nb (CertA n m nb) (CertN n m nb) (CertN n m nb) (CertM n m nb)
      (FA n nb rf r) (FN n nb rf r) (FS n nb rf r) (FM n nb rf r) :=
  (genLayer hnb hsz hm hrf hA hD).mainJX hnb hsz hm hrf hA hD hlenm

end

theorem gen_init {n m : Nat} {nb : Nbrs} {rf : Nat} (hnb : NbOK nb n) (hrf : 3 * n + 3 ≤ rf) {opts : Options}
    {op0 : OP} {s0 : LS} {si : IR.St} (hp : PartInv n op0) (ha : AgeInv op0) (hm0 : Match n op0 si) (hb0 : BtcInv op0)
    (hbs : BinsSorted op0) (hage0 : op0.age = 0) (hi : InitSt n m nb opts op0 s0) :
    CertM n m nb [] false s0 ∧ FM n nb rf (IR.refine (irG n nb) rf si) [] false s0 := by
  have hpth := hi.path
  have hch := hi.choices
  obtain ⟨hc, he⟩ := orb_init hnb hrf hp ha hm0 hb0 hbs hage0 hi
  refine ⟨hc, ?_⟩
  unfold EM at he
  rw [if_neg (by simp)] at he
  obtain ⟨gh, hd, hA⟩ := he
  unfold FM
  rw [if_neg (by simp)]
  refine ⟨gh, hd, hA, ?_⟩
  unfold GNodev
  rw [hpth, hch]; trivial

end CanonF
