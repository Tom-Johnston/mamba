import Mamba.Lemmas.DistanceGirthSound
import Mamba.Lemmas.DistanceGirthComb
import Mamba.Lemmas.DistanceCanon
import Mamba.Lemmas.DistanceRelabel
/-!
# Lemmas for C10: the `Girth` model finds every cycle through each of its roots, and returns the girth
-/
namespace GDist
open GraphSpec

theorem DF.mono {D P : Nat → Nat} {γ γ' i p0 x y : Nat} (h : DF D P γ i p0 x y) (hle : γ' ≤ γ) :
    DF D P γ' i p0 x y := by
  rcases h with h | h | ⟨h1, h2⟩ | ⟨h1, h2⟩ | ⟨h1, h2, h3, h4⟩
  · exact .inl h
  · exact .inr (.inl h)
  · exact .inr (.inr (.inl ⟨h1, Nat.le_trans hle h2⟩))
  · exact .inr (.inr (.inr (.inl ⟨h1, Nat.le_trans hle h2⟩)))
  · refine .inr (.inr (.inr (.inr ⟨h1, h2, h3, ?_⟩)))
    rcases h4 with h4 | h4
    · exact .inl h4
    · exact .inr (Nat.le_trans hle h4)

theorem DF.relabel {D P D' P' : Nat → Nat} {γ i p0 x y j : Nat} (h : DF D P γ i p0 x y)
    (hD : ∀ w, w ≠ j → D' w = D w) (hP : ∀ w, w ≠ j → P' w = P w) (hj0 : D j = 0) (hxj : x ≠ j) :
    DF D' P' γ i p0 x y := by
  rcases h with ⟨h1, h2⟩ | h | ⟨h1, h2⟩ | ⟨h1, h2⟩ | ⟨h1, h2, h3, h4⟩
  · exact .inl ⟨h1, by rw [hP x hxj]; exact h2⟩
  · exact .inr (.inl h)
  · exact .inr (.inr (.inl ⟨h1, by rw [hD x hxj]; exact h2⟩))
  · exact .inr (.inr (.inr (.inl ⟨h1, by rw [hD x hxj]; exact h2⟩)))
  · have hyj : y ≠ j := by rintro rfl; exact h2 hj0
    refine .inr (.inr (.inr (.inr ⟨h1, by rw [hD y hyj]; exact h2, by rw [hD y hyj, hD x hxj]; exact h3, ?_⟩)))
    rw [hP y hyj, hD y hyj, hD x hxj]; exact h4

/-- the scan invariant of the BFS from root `i` while the neighbours `js` of `k` remain to be scanned: the queue is
level `d` (`A`) followed by level `d + 1` (`B`), and every pair `x → y` scanned so far carries the fact `DF` that
records why no shorter cycle was seen through it; `p0` is what earlier roots left in `parentVertices[i]` -/
structure GC (g : G) (i p0 : Nat) (st : Model.GirthSt) (k : Nat) (js : List Nat) (d : Nat) (A B : List Nat) :
    Prop where
  qsplit : st.Q = A ++ B
  qok : ∀ x ∈ st.Q, x = i ∨ lbl st.D x ≠ 0
  labA : ∀ x ∈ A, lbl st.D x = d
  labB : ∀ x ∈ B, lbl st.D x = d + 1
  bnd : ∀ v, lbl st.D v ≤ d + 1
  p0eq : lbl st.P i = p0
  groot : ∀ x, x ≠ i → lbl st.D x ≠ 0 → lbl st.P x = i → x ≠ p0
  done : ∀ x y, x < g.n → (x = i ∨ lbl st.D x ≠ 0) → x ∉ st.Q → g.adj x y = true → y < g.n →
    (x = k → y ∉ js) → DF (lbl st.D) (lbl st.P) st.girth i p0 x y

variable {g : G} {i p0 : Nat}

theorem gc_step {st : Model.GirthSt} {k j d v : Nat} {js A B : List Nat} (gc : GC g i p0 st k (j :: js) d A B)
    (hv : v ≤ st.girth) (hdf : DF (lbl st.D) (lbl st.P) v i p0 k j) :
    GC g i p0 { st with girth := v } k js d A B :=
  { qsplit := gc.qsplit, qok := gc.qok, labA := gc.labA, labB := gc.labB, bnd := gc.bnd, p0eq := gc.p0eq, groot := gc.groot,
    done := by
      intro x y hx hxr hxq hadj hy hcl
      by_cases hc : x = k ∧ y = j
      · obtain ⟨rfl, rfl⟩ := hc; exact hdf
      · refine (gc.done x y hx hxr hxq hadj hy ?_).mono hv
        intro hxk hm
        rcases List.mem_cons.1 hm with h | h
        · exact hc ⟨hxk, h⟩
        · exact hcl hxk h }

theorem gc_label {st st' : Model.GirthSt} {k j d : Nat} {js A B : List Nat} (gc : GC g i p0 st k (j :: js) d A B)
    (hkr : k = i ∨ lbl st.D k ≠ 0) (hdk : lbl st.D k = d) (hpk : k = i → j ≠ p0)
    (hji : j ≠ i) (hz : lbl st.D j = 0) (L : Labels st st' j k (d + 1)) :
    GC g i p0 st' k js d A (B ++ [j]) := by
  have hnotj : ∀ w, (w = i ∨ lbl st.D w ≠ 0) → w ≠ j := by
    rintro w (h | h) rfl
    · exact hji h
    · exact h hz
  have hkj : k ≠ j := hnotj k hkr
  refine { qsplit := ?_, qok := ?_, labA := ?_, labB := ?_, bnd := ?_, p0eq := ?_, groot := ?_, done := ?_ }
  · rw [L.Q, gc.qsplit, List.append_assoc]
  · intro x hx
    rw [L.Q] at hx
    rw [L.D]
    rcases List.mem_append.1 hx with hx | hx
    · rw [if_neg (hnotj x (gc.qok x hx))]; exact gc.qok x hx
    · rw [if_pos (List.mem_singleton.1 hx)]; exact .inr (Nat.succ_ne_zero _)
  · intro x hx
    have hxq : x ∈ st.Q := by rw [gc.qsplit]; exact List.mem_append.2 (.inl hx)
    rw [L.D, if_neg (hnotj x (gc.qok x hxq))]
    exact gc.labA x hx
  · intro x hx
    rw [L.D]
    split
    · rfl
    · rcases List.mem_append.1 hx with hx | hx
      · exact gc.labB x hx
      · exact absurd (List.mem_singleton.1 hx) ‹_›
  · intro w
    rw [L.D]
    split
    · exact Nat.le_refl _
    · exact gc.bnd w
  · rw [L.P, if_neg (Ne.symm hji)]; exact gc.p0eq
  · intro x hxi hlab hpx
    by_cases hxj : x = j
    · subst hxj
      rw [L.P, if_pos rfl] at hpx
      exact hpk hpx
    · rw [L.D, if_neg hxj] at hlab
      rw [L.P, if_neg hxj] at hpx
      exact gc.groot x hxi hlab hpx
  · intro x y hx hxr hxq hadj hy hcl
    rw [L.Q] at hxq
    have hxj : x ≠ j := fun h => hxq (List.mem_append.2 (.inr (List.mem_singleton.2 h)))
    rw [L.D, if_neg hxj] at hxr
    rw [L.girth]
    by_cases hc : x = k ∧ y = j
    · obtain ⟨rfl, rfl⟩ := hc
      refine .inr (.inr (.inr (.inr ⟨hji, ?_, ?_, .inl ?_⟩)))
      · rw [L.D, if_pos rfl]; exact Nat.succ_ne_zero _
      · rw [L.D, if_pos rfl, L.D, if_neg hkj, hdk]
      · rw [L.P, if_pos rfl]
    · refine (gc.done x y hx hxr (fun h => hxq (List.mem_append.2 (.inl h))) hadj hy ?_).relabel (j := j)
        (fun w hw => by rw [L.D, if_neg hw]) (fun w hw => by rw [L.P, if_neg hw]) hz hxj
      intro hxk hm
      rcases List.mem_cons.1 hm with h | h
      · exact hc ⟨hxk, h⟩
      · exact hcl hxk h

theorem girthInner_inv (hsym : ∀ u v, g.adj u v = g.adj v u) (hirr : ∀ v, g.adj v v = false) (hi : i < g.n)
    {k d pk : Nat} {A' : List Nat} (hk : k < g.n) :
    ∀ (js : List Nat) (st : Model.GirthSt) (B : List Nat), GInv g i st k js → GC g i p0 st k js d A' B →
      js.Nodup → (∀ j ∈ js, j < g.n ∧ g.adj k j = true) →
      (k = i ∨ lbl st.D k ≠ 0) → lbl st.D k = d → lbl st.P k = pk →
      ∀ st', Model.girthInner i k d pk js st = .ok st' →
        ∃ B', GInv g i st' k [] ∧ GC g i p0 st' k [] d A' B' ∧ st'.girth ≤ st.girth := by
  intro js
  induction js with
  | nil =>
    intro st B inv gc _ _ _ _ _ st' h
    cases h; exact ⟨B, inv, gc, Nat.le_refl _⟩
  | cons j js ih =>
    intro st B inv gc hnd hjs hkr hdk hpk st' h
    have ⟨hjn, hadj⟩ := hjs j List.mem_cons_self
    have hjs' : ∀ x ∈ js, x < g.n ∧ g.adj k x = true := fun x hx => hjs x (List.mem_cons_of_mem _ hx)
    obtain ⟨hjnot, hnd'⟩ := List.nodup_cons.1 hnd
    have hjD : j < st.D.size := by rw [inv.dsize]; exact hjn
    have hjP : j < st.P.size := by rw [inv.psize]; exact hjn
    have hkj : k ≠ j := by rintro rfl; rw [hirr] at hadj; cases hadj
    have hstep : ∀ v, v ≤ st.girth → (v = st.girth ∨ CycLe g v) → DF (lbl st.D) (lbl st.P) v i p0 k j →
        Model.girthInner i k d pk js { st with girth := v } = .ok st' →
        ∃ B', GInv g i st' k [] ∧ GC g i p0 st' k [] d A' B' ∧ st'.girth ≤ st.girth := by
      intro v hv hcyc hdf h'
      obtain ⟨B', h1, h2, h3⟩ :=
        ih { st with girth := v } B (ginv_next inv hcyc) (gc_step gc hv hdf) hnd' hjs' hkr hdk hpk st' h'
      exact ⟨B', h1, h2, Nat.le_trans h3 hv⟩
    -- an edge to a vertex of the tree that is not the edge to the parent of `k` closes a cycle
    have hcyc : (j = i ∨ lbl st.D j ≠ 0) → j ≠ pk → CycLe g (d + lbl st.D j + 1) := by
      intro hjr h1
      rw [← hdk]
      refine ginv_cycle hsym hi inv hk hjn hkr hjr hadj hkj (fun h6 => h1 (by rw [← hpk]; exact h6.2.2.symm)) ?_
      rintro ⟨hji, hjl, h6⟩
      exact inv.scan j hjn hji hjl h6 List.mem_cons_self
    obtain ⟨e1, e2, e3, e4⟩ := girthInner_cons (i := i) (k := k) (dk := d) (pk := pk) (js := js) hjD hjP
    by_cases h1 : j = pk
    · -- the edge to the parent of `k` (for the root: the hidden edge)
      rw [e1 h1] at h
      refine hstep st.girth (Nat.le_refl _) (.inl rfl) ?_ h
      by_cases hki : k = i
      · exact .inr (.inl ⟨hki, by rw [h1, ← hpk, hki, gc.p0eq]⟩)
      · exact .inl ⟨hki, by rw [h1, hpk]⟩
    by_cases h2 : j = i
    · -- back at the root
      rw [e2 h1 h2] at h
      by_cases hg : d + 1 < st.girth
      · rw [if_pos hg] at h
        refine hstep (d + 1) (Nat.le_of_lt hg) (.inr ?_) (.inr (.inr (.inr (.inl ⟨h2, by rw [hdk]⟩)))) h
        have := hcyc (.inl h2) h1
        rwa [h2, inv.root0] at this
      · rw [if_neg hg] at h
        exact hstep st.girth (Nat.le_refl _) (.inl rfl)
          (.inr (.inr (.inr (.inl ⟨h2, by rw [hdk]; exact Nat.le_of_not_lt hg⟩)))) h
    by_cases h3 : lbl st.D j = 0
    · -- an unlabelled vertex
      rw [e3 h1 h2 h3] at h
      by_cases hg : d + 2 < st.girth
      · rw [if_pos hg] at h
        have L := labels_set (k := k) (v := d + 1) hjD hjP
        exact ih _ (B ++ [j]) (ginv_label inv hk hkr hdk hjn hadj h2 h3 hjnot L)
          (gc_label gc hkr hdk (by intro hki; rw [hki, gc.p0eq] at hpk; rw [hpk]; exact h1) h2 h3 L)
          hnd' hjs'
          (hkr.imp_right fun h0 hl => h0 (by rw [← hl]; exact ((lbl_set hjD).trans (if_neg hkj)).symm))
          ((lbl_set hjD).trans ((if_neg hkj).trans hdk)) ((lbl_set hjP).trans ((if_neg hkj).trans hpk)) st' h
      · rw [if_neg hg] at h
        exact hstep st.girth (Nat.le_refl _) (.inl rfl)
          (.inr (.inr (.inl ⟨h2, by rw [hdk]; exact Nat.le_of_not_lt hg⟩))) h
    · -- a labelled vertex: a non-tree edge
      rw [e4 h1 h2 h3] at h
      have hdf : ∀ v, v ≤ d + lbl st.D j + 1 → DF (lbl st.D) (lbl st.P) v i p0 k j := fun v hv =>
        .inr (.inr (.inr (.inr ⟨h2, h3, by rw [hdk]; exact gc.bnd j, .inr (by rw [hdk]; exact hv)⟩)))
      by_cases hg : d + lbl st.D j + 1 < st.girth
      · rw [if_pos hg] at h
        exact hstep _ (Nat.le_of_lt hg) (.inr (hcyc (.inr h3) h1)) (hdf _ (Nat.le_refl _)) h
      · rw [if_neg hg] at h
        exact hstep st.girth (Nat.le_refl _) (.inl rfl) (hdf _ (Nat.le_of_not_lt hg)) h

theorem gc_rebracket {st : Model.GirthSt} {k d : Nat} {B : List Nat} (gc : GC g i p0 st k [] d [] B) :
    GC g i p0 st k [] (d + 1) B [] :=
  { qsplit := (by rw [gc.qsplit]; simp), qok := gc.qok, labA := gc.labB,
    labB := fun x hx => (by cases hx), bnd := fun v => Nat.le_succ_of_le (gc.bnd v),
    p0eq := gc.p0eq, groot := gc.groot, done := gc.done }

theorem gc_pop {st : Model.GirthSt} {k k0 d : Nat} {A' B Q' : List Nat} (gc : GC g i p0 st k0 [] d (k :: A') B)
    (hQ : st.Q = k :: Q') : GC g i p0 { st with Q := Q' } k (g.nbrs k) d A' B := by
  have hsplit : Q' = A' ++ B := by
    have := gc.qsplit
    rw [hQ] at this
    simpa using this
  refine { qsplit := hsplit, qok := fun x hx => gc.qok x (by rw [hQ]; exact List.mem_cons_of_mem _ hx),
           labA := fun x hx => gc.labA x (List.mem_cons_of_mem _ hx), labB := gc.labB, bnd := gc.bnd,
           p0eq := gc.p0eq, groot := gc.groot, done := ?_ }
  intro x y hx hxr hxq hadj hy hcl
  have hxq' : x ∉ Q' := hxq
  by_cases hxk : x = k
  · exact absurd (G.mem_nbrs.2 ⟨hy, by rw [← hxk]; exact hadj⟩) (hcl hxk)
  · refine gc.done x y hx hxr ?_ hadj hy (fun _ => by simp)
    rw [hQ]; intro hm
    rcases List.mem_cons.1 hm with h | h
    · exact hxk h
    · exact hxq' h

theorem gc_next {st : Model.GirthSt} {k k0 d : Nat} {A B Q' : List Nat} (gc : GC g i p0 st k0 [] d A B)
    (hQ : st.Q = k :: Q') :
    ∃ d' A' B', lbl st.D k = d' ∧ GC g i p0 { st with Q := Q' } k (g.nbrs k) d' A' B' := by
  obtain ⟨d', A', B', gc'⟩ : ∃ d' A' B', GC g i p0 st k0 [] d' (k :: A') B' := by
    have hs := gc.qsplit
    rw [hQ] at hs
    cases A with
    | nil =>
      rw [List.nil_append] at hs
      subst hs
      exact ⟨d + 1, Q', [], gc_rebracket gc⟩
    | cons a A' =>
      rw [List.cons_append, List.cons.injEq] at hs
      obtain ⟨rfl, _⟩ := hs
      exact ⟨d, A', B, gc⟩
  exact ⟨d', A', B', gc'.labA k List.mem_cons_self, gc_pop gc' hQ⟩

theorem gc_init {st : Model.GirthSt} :
    GC g i (lbl st.P i) { st with D := Array.replicate g.n 0, Q := [i] } g.n [] 0 [i] [] :=
  { qsplit := rfl, qok := fun x hx => .inl (List.mem_singleton.1 hx),
    labA := fun x _ => lbl_replicate g.n x, labB := fun x hx => (by cases hx),
    bnd := fun v => (by rw [lbl_replicate]; exact Nat.zero_le _),
    p0eq := rfl, groot := fun x _ h => absurd (lbl_replicate g.n x) h,
    done := fun x y _ hxr hxq => by
      rcases hxr with h0 | h0
      · exact absurd (List.mem_singleton.2 h0) hxq
      · exact absurd (lbl_replicate g.n x) h0 }

theorem girthOuter_inv (hsym : ∀ u v, g.adj u v = g.adj v u) (hirr : ∀ v, g.adj v v = false) (hi : i < g.n) :
    ∀ (fuel : Nat) (st : Model.GirthSt) (d : Nat) (A B : List Nat) (k0 : Nat), GInv g i st k0 [] →
      GC g i p0 st k0 [] d A B →
      ∀ st', Model.girthOuter g i fuel st = .ok st' →
        ∃ d' k', GInv g i st' k' [] ∧ GC g i p0 st' k' [] d' [] [] ∧ st'.girth ≤ st.girth ∧ st'.Q = [] := by
  intro fuel
  induction fuel with
  | zero => intro st d A B k0 _ _ st' h; simp [Model.girthOuter] at h
  | succ f ih =>
    intro st d A B k0 inv gc st' h
    unfold Model.girthOuter at h
    match hQ : st.Q with
    | [] =>
      rw [hQ] at h
      simp only at h
      cases h
      have hs := gc.qsplit
      rw [hQ] at hs
      obtain ⟨hA, hB⟩ := List.append_eq_nil_iff.1 hs.symm
      subst hA; subst hB
      exact ⟨d, k0, inv, gc, Nat.le_refl _, hQ⟩
    | k :: Q' =>
      rw [hQ] at h
      obtain ⟨hk, hkr⟩ := inv.qok k (by rw [hQ]; exact List.mem_cons_self)
      have hkD : k < st.D.size := by rw [inv.dsize]; exact hk
      have hkP : k < st.P.size := by rw [inv.psize]; exact hk
      simp only [hkD, hkP, dif_pos] at h
      obtain ⟨d', A', B', hdk, gc1⟩ := gc_next gc hQ
      cases hin : Model.girthInner i k st.D[k] st.P[k] (g.nbrs k) { st with Q := Q' } with
      | ok st1 =>
        rw [hin] at h
        simp only at h
        rw [lbl_of_lt hkD, hdk] at hin
        obtain ⟨B'', inv2, gc2, hle⟩ := girthInner_inv hsym hirr hi (pk := st.P[k]) hk (g.nbrs k) _ B'
          (ginv_pop inv hQ) gc1 (G.nodup_nbrs g k) (fun v hv => G.mem_nbrs.1 hv) hkr hdk
          (lbl_of_lt hkP).symm st1 hin
        obtain ⟨d2, k2, inv3, gc3, hle2, hq2⟩ := ih st1 d' A' B'' k inv2 gc2 st' h
        exact ⟨d2, k2, inv3, gc3, Nat.le_trans hle2 hle, hq2⟩
      | panic => rw [hin] at h; simp at h
      | outOfFuel => rw [hin] at h; simp at h

theorem cycFrom_of_cycleSeq (hsym : ∀ u v, g.adj u v = g.adj v u) {c : List Nat} (hc : IsCycleSeq g c)
    {r : Nat} (hr : r ∈ c) : ∃ m y, CycFrom g r m y ∧ m + 1 = c.length := by
  obtain ⟨A, B, rfl⟩ := List.append_of_mem hr
  have h0 := isRotated_concat A B r
  have hc0 := isCycleSeq_of_isRotated hc h0
  have hlen : ((B ++ A) ++ [r]).length = (A ++ r :: B).length := h0.perm.length_eq.symm
  generalize B ++ A = X at hc0 hlen
  rw [isCycleSeq_iff] at hc0
  obtain ⟨h1, h2, h3, h4, h5⟩ := hc0
  have hX2 : 2 ≤ X.length := by
    rw [List.length_append, List.length_singleton] at h1
    exact Nat.le_of_succ_le_succ h1
  rw [List.isChain_append] at h4
  obtain ⟨hchX, _, hjoin⟩ := h4
  obtain ⟨hXnd, _, hXr⟩ := List.nodup_append.1 h2
  have hXne : X ≠ [] := by intro h; rw [h] at hX2; simp at hX2
  refine ⟨X.length, fun t => X.getD t 0,
    { len := hX2, ne := ?_, inj := ?_, rng := ?_, first := ?_, chain := ?_, close := ?_ },
    by rw [← hlen, List.length_append, List.length_singleton]⟩
  · intro t ht
    show X.getD t 0 ≠ r
    rw [getD_eq_getElem ht]
    exact hXr _ (List.getElem_mem ht) r (by simp)
  · intro a b ha hb h
    have h : X.getD a 0 = X.getD b 0 := h
    rw [getD_eq_getElem ha, getD_eq_getElem hb] at h
    exact (hXnd.getElem_inj_iff).1 h
  · intro t ht
    show X.getD t 0 < g.n
    rw [getD_eq_getElem ht]
    exact h3 _ (List.mem_append.2 (.inl (List.getElem_mem ht)))
  · have h : 0 < X.length := Nat.lt_of_lt_of_le Nat.zero_lt_two hX2
    have hl : (X ++ [r]).getLast? = some r := by rw [List.getLast?_append]; simp
    have hh : (X ++ [r]).head? = some X[0] := by
      rw [List.head?_append_of_ne_nil _ hXne, List.head?_eq_getElem?, List.getElem?_eq_getElem h]
    show g.adj r (X.getD 0 0) = true
    rw [getD_eq_getElem h, hsym]
    exact h5 r hl X[0] hh
  · intro t h
    show g.adj (X.getD t 0) (X.getD (t + 1) 0) = true
    rw [getD_eq_getElem (Nat.lt_of_succ_lt h), getD_eq_getElem h, hsym]
    exact (List.isChain_iff_getElem.1 hchX) t h
  · have h : X.length - 1 < X.length := Nat.sub_lt (Nat.lt_of_lt_of_le Nat.zero_lt_two hX2) Nat.one_pos
    have hl : X.getLast? = some X[X.length - 1] := by
      rw [List.getLast?_eq_getElem?, List.getElem?_eq_getElem h]
    show g.adj (X.getD (X.length - 1) 0) r = true
    rw [getD_eq_getElem h, hsym]
    exact hjoin _ hl r rfl

/-- a cycle has a vertex among the roots `0 .. n-3` -/
theorem cycle_has_root {c : List Nat} (hc : IsCycleSeq g c) : ∃ r ∈ c, r < g.n - 2 := by
  by_contra hcon
  have hall : ∀ x ∈ c, x ∈ [g.n - 2, g.n - 1] := by
    intro x hx
    have h1 := hc.2.2.1 x hx
    have h2 : ¬ x < g.n - 2 := fun h => hcon ⟨x, hx, h⟩
    simp only [List.mem_cons, List.not_mem_nil, or_false]; omega
  have h2 : c.length ≤ 2 := (List.subperm_of_subset hc.2.1 hall).length_le
  have := hc.1
  omega

theorem girthRoots_inv (hsym : ∀ u v, g.adj u v = g.adj v u) (hirr : ∀ v, g.adj v v = false) (fuel : Nat) :
    ∀ (roots : List Nat) (st : Model.GirthSt), (∀ r ∈ roots, r < g.n) → st.P.size = g.n →
      (st.girth = g.n + 2 ∨ CycLe g st.girth) →
      ∀ st', Model.girthRoots g fuel roots st = .ok st' →
        (st'.girth = g.n + 2 ∨ CycLe g st'.girth) ∧ st'.girth ≤ st.girth ∧
          ∀ r ∈ roots, ∀ m y, CycFrom g r m y → st'.girth ≤ m + 1 := by
  intro roots
  induction roots with
  | nil =>
    intro st _ _ hs st' h
    cases h
    exact ⟨hs, Nat.le_refl _, fun r hr => by cases hr⟩
  | cons i is ih =>
    intro st hr hP hs st' h
    have hi : i < g.n := hr i List.mem_cons_self
    unfold Model.girthRoots at h
    cases hout : Model.girthOuter g i fuel { st with D := Array.replicate g.n 0, Q := [i] } with
    | ok st1 =>
      rw [hout] at h
      simp only at h
      obtain ⟨d', k', inv1, gc1, hle1, hq1⟩ :=
        girthOuter_inv hsym hirr hi fuel _ 0 [i] [] g.n (ginv_init hi hP hs) gc_init st1 hout
      have hfin : FinalSt g (lbl st1.D) (lbl st1.P) st1.girth i (lbl st.P i) :=
        { hi := hi, root0 := inv1.root0,
          tree := fun x hx hxi hl => by
            obtain ⟨h1, _, h3⟩ := inv1.tree x hx hxi hl
            exact ⟨h1, h3⟩,
          df := fun x y hx hxr hadj hy => gc1.done x y hx hxr (by rw [hq1]; simp) hadj hy (fun _ => by simp),
          groot := gc1.groot }
      obtain ⟨hs2, hle2, hrest⟩ :=
        ih st1 (fun r hr' => hr r (List.mem_cons_of_mem _ hr')) inv1.psize inv1.sound st' h
      refine ⟨hs2, Nat.le_trans hle2 hle1, ?_⟩
      intro r hr' m y cy
      rcases List.mem_cons.1 hr' with rfl | hr'
      · exact Nat.le_trans hle2 (final_girth_le hfin hsym cy)
      · exact hrest r hr' m y cy
    | panic => rw [hout] at h; simp at h
    | outOfFuel => rw [hout] at h; simp at h

theorem girthRoots_any_parents (g : G) (hsym : ∀ u v, g.adj u v = g.adj v u) (hirr : ∀ v, g.adj v v = false)
    (fuel : Nat) (hf : g.n + 2 ≤ fuel) (P0 : Array Nat) (hP0 : P0.size = g.n) :
    ∃ st, Model.girthRoots g fuel (List.range (g.n - 2))
        { girth := g.n + 2, D := Array.replicate g.n 0, P := P0, Q := [] } = .ok st ∧
      (girthOpt g = none → st.girth = g.n + 2) ∧ (∀ l, girthOpt g = some l → st.girth = l) := by
  have hroots_lt : ∀ x ∈ List.range (g.n - 2), x < g.n := fun x hx => by have := List.mem_range.1 hx; omega
  obtain ⟨st, hst⟩ := girthRoots_total g fuel hf (List.range (g.n - 2))
    { girth := g.n + 2, D := Array.replicate g.n 0, P := P0, Q := [] } hroots_lt hP0
  obtain ⟨hs, _, hc⟩ := girthRoots_inv hsym hirr fuel (List.range (g.n - 2)) _ hroots_lt hP0 (.inl rfl) st hst
  refine ⟨st, hst, ?_, ?_⟩
  · intro hnone
    rcases hs with h | ⟨c, hc', _⟩
    · exact h
    · exact absurd ⟨c, hc'⟩ ((girthOpt_eq_none_iff g).1 hnone)
  · intro l hl
    obtain ⟨⟨c, hcyc, hcl⟩, hmin⟩ := (girthOpt_eq_some_iff g l).1 hl
    obtain ⟨r0, hr0c, hr0⟩ := cycle_has_root hcyc
    obtain ⟨m, y, cy, hYlen⟩ := cycFrom_of_cycleSeq hsym hcyc hr0c
    have hle : st.girth ≤ l := by rw [← hcl, ← hYlen]; exact hc r0 (List.mem_range.2 hr0) m y cy
    rcases hs with h | ⟨c', hc', hlen'⟩
    · have hcn := hcyc.length_le
      omega
    · exact Nat.le_antisymm hle (Nat.le_trans (hmin c' hc') hlen')

theorem girthM_eq_girth (g : G) (hsym : ∀ u v, g.adj u v = g.adj v u) (hirr : ∀ v, g.adj v v = false)
    (fuel : Nat) (hf : g.n + 2 ≤ fuel) : Model.girthM g fuel = .ok (girth g) := by
  unfold Model.girthM girth
  by_cases hn : g.n < 3
  · have hno : girthOpt g = none := by
      rw [girthOpt_eq_none_iff]
      rintro ⟨c, hc⟩
      have := hc.length_le; have := hc.1; omega
    rw [if_pos hn, hno]; rfl
  · obtain ⟨st, hst, hnone, hsome⟩ :=
      girthRoots_any_parents g hsym hirr fuel hf (Array.replicate g.n 0) Array.size_replicate
    rw [if_neg hn, hst]
    cases hgo : girthOpt g with
    | none => simp only [hnone hgo, if_true]; rfl
    | some l =>
      obtain ⟨⟨c, hc, hcl⟩, _⟩ := (girthOpt_eq_some_iff g l).1 hgo
      have hne : l ≠ g.n + 2 := by have := hc.length_le; omega
      simp only [hsome l hgo, hne, if_false]; rfl

end GDist
