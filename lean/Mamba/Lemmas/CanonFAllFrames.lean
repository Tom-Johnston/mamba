/-!
# Predicates that hold frame by frame along the three parallel stacks `path`, `choices` and target cells
-/
namespace CanonF

/-- `P incl p ps c st sz` holds of every stack frame: `p`, `c`, `(st, sz)` are the frame's entries of `path`, `choices`
and of the ghost list of target cells, `ps` is the part of `path` below the frame; `incl` is the given flag at the top
frame and `false` below. `FramesOK`, `LevelsOK`, `CovFrames` and `FrameAux` are of this form. -/
def AllFrames (P : Bool → Nat → List Nat → Nat → Nat → Nat → Prop) :
    Bool → List Nat → List Nat → List (Nat × Nat) → Prop
  | _, [], [], [] => True
  | incl, p :: ps, c :: cs, (st, sz) :: ls => P incl p ps c st sz ∧ AllFrames P false ps cs ls
  | _, _, _, _ => False

namespace AllFrames
variable {P Q : Bool → Nat → List Nat → Nat → Nat → Nat → Prop} {incl : Bool} {path choices : List Nat}
  {lv : List (Nat × Nat)}

theorem cases (h : AllFrames P incl path choices lv) :
    (path = [] ∧ choices = [] ∧ lv = []) ∨
    ∃ p ps c cs st sz ls, path = p :: ps ∧ choices = c :: cs ∧ lv = (st, sz) :: ls ∧
      P incl p ps c st sz ∧ AllFrames P false ps cs ls := by
  match path, choices, lv, h with
  | [], [], [], _ => exact Or.inl ⟨rfl, rfl, rfl⟩
  | p :: ps, c :: cs, (st, sz) :: ls, h => exact Or.inr ⟨p, ps, c, cs, st, sz, ls, rfl, rfl, rfl, h⟩

/-- frame-wise implication; only the flags that occur are asked for: `incl` (at the top frame) and `false` -/
theorem imp_flags (h : AllFrames P incl path choices lv)
    (H : ∀ i p ps c st sz, (i = incl ∨ i = false) → ps.length < path.length → P i p ps c st sz → Q i p ps c st sz) :
    AllFrames Q incl path choices lv := by
  induction path generalizing incl choices lv with
  | nil =>
    obtain ⟨-, rfl, rfl⟩ | ⟨_, _, _, _, _, _, _, e, _⟩ := h.cases
    · trivial
    · cases e
  | cons p ps ih =>
    obtain ⟨e, -⟩ | ⟨_, _, c, cs, st, sz, ls, e, rfl, rfl, h1, h2⟩ := h.cases
    · cases e
    · cases e
      exact ⟨H _ _ _ _ _ _ (Or.inl rfl) (Nat.lt_succ_self _) h1,
        ih h2 (fun i p' ps' c' st' sz' hi hl => H i p' ps' c' st' sz' (Or.inr (hi.elim id id)) (Nat.lt_succ_of_lt hl))⟩

theorem imp (h : AllFrames P incl path choices lv)
    (H : ∀ incl p ps c st sz, ps.length < path.length → P incl p ps c st sz → Q incl p ps c st sz) :
    AllFrames Q incl path choices lv :=
  h.imp_flags fun i p ps c st sz _ => H i p ps c st sz

theorem imp_false (h : AllFrames P false path choices lv)
    (H : ∀ p ps c st sz, ps.length < path.length → P false p ps c st sz → Q false p ps c st sz) :
    AllFrames Q false path choices lv :=
  h.imp_flags fun i p ps c st sz hi => by
    obtain rfl : i = false := hi.elim id id
    exact H p ps c st sz

theorem and (h : AllFrames P incl path choices lv) (h' : AllFrames Q incl path choices lv) :
    AllFrames (fun incl p ps c st sz => P incl p ps c st sz ∧ Q incl p ps c st sz) incl path choices lv := by
  induction path generalizing incl choices lv with
  | nil =>
    obtain ⟨-, rfl, rfl⟩ | ⟨_, _, _, _, _, _, _, e, _⟩ := h.cases
    · trivial
    · cases e
  | cons p ps ih =>
    obtain ⟨e, -⟩ | ⟨_, _, c, cs, st, sz, ls, e, rfl, rfl, h1, h2⟩ := h.cases
    · cases e
    · cases e
      exact ⟨⟨h1, h'.1⟩, ih h2 h'.2⟩

theorem length (h : AllFrames P incl path choices lv) : choices.length = path.length ∧ lv.length = path.length := by
  induction path generalizing incl choices lv with
  | nil =>
    obtain ⟨-, rfl, rfl⟩ | ⟨_, _, _, _, _, _, _, e, _⟩ := h.cases
    · exact ⟨rfl, rfl⟩
    · cases e
  | cons p ps ih =>
    obtain ⟨e, -⟩ | ⟨_, _, c, cs, st, sz, ls, e, rfl, rfl, -, h2⟩ := h.cases
    · cases e
    · cases e
      simp only [List.length_cons, (ih h2).1, (ih h2).2, and_self]

theorem tail {p c : Nat} {ps cs : List Nat} {x : Nat × Nat} {ls : List (Nat × Nat)}
    (h : AllFrames P incl (p :: ps) (c :: cs) (x :: ls)) : AllFrames P false ps cs ls := h.2

theorem drop (j : Nat) (h : AllFrames P false path choices lv) :
    AllFrames P false (path.drop j) (choices.drop j) (lv.drop j) := by
  induction j generalizing path choices lv with
  | zero => exact h
  | succ j ih =>
    obtain ⟨rfl, rfl, rfl⟩ | ⟨_, _, _, _, _, _, _, rfl, rfl, rfl, _, h2⟩ := h.cases
    · exact h
    · exact ih h2

end AllFrames

end CanonF
