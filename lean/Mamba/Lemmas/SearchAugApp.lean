import Mamba.Lemmas.SearchInv
/-! `addAugmentations` only appends to the choices stack: the appended block does not depend on what is below. -/
namespace Search

theorem push_append_eq {α : Type} (ch : Array α) (x : α) (new : Array α) :
    ch.push x ++ new = ch ++ (#[x] ++ new) := by
  apply Array.toList_inj.1; simp

theorem rootPass_append (ds : Disjoint.DS) :
    ∀ (l : List (List Nat × Nat)) (ch : Array Nat) (num : Nat) (ch' : Array Nat) (num' : Nat),
      rootPass ds l ch num = .ok (ch', num') →
      ∃ new : Array Nat, ch' = ch ++ new ∧ num' = num + new.size ∧
        ∀ (base : Array Nat) (k : Nat), rootPass ds l base k = .ok (base ++ new, k + new.size)
  | [], ch, num, ch', num', h => by
    simp only [rootPass] at h; cases h
    exact ⟨#[], by simp, by simp, fun base k => by simp [rootPass]⟩
  | (c, i) :: rest, ch, num, ch', num', h => by
    simp only [rootPass] at h
    split at h
    · cases h
    · rename_i v hv
      split at h
      · rename_i hneg
        obtain ⟨new, h1, h2, h3⟩ := rootPass_append ds rest _ _ _ _ h
        refine ⟨#[maskOf c] ++ new, ?_, ?_, ?_⟩
        · rw [h1, push_append_eq]
        · rw [h2]; simp only [Array.size_append, List.size_toArray, List.length_cons, List.length_nil]; omega
        · intro base k
          simp only [rootPass, hv, hneg, if_true]
          rw [h3 (base.push (maskOf c)) (k + 1), push_append_eq]
          simp only [Array.size_append, List.size_toArray, List.length_cons, List.length_nil]
          congr 2; omega
      · rename_i hneg
        obtain ⟨new, h1, h2, h3⟩ := rootPass_append ds rest _ _ _ _ h
        refine ⟨new, h1, h2, ?_⟩
        intro base k
        simp only [rootPass, hv, hneg, if_false]
        exact h3 base k

theorem sizeLoop_append (cap n : Nat) (gens : List (Array Nat)) :
    ∀ (ks : List Nat) (ch : Array Nat) (num : Nat) (ch' : Array Nat) (num' : Nat),
      sizeLoop cap n gens ks ch num = .ok (ch', num') →
      ∃ new : Array Nat, ch' = ch ++ new ∧ num' = num + new.size ∧
        ∀ (base : Array Nat) (k : Nat), sizeLoop cap n gens ks base k = .ok (base ++ new, k + new.size)
  | [], ch, num, ch', num', h => by
    simp only [sizeLoop] at h; cases h
    exact ⟨#[], by simp, by simp, fun base k => by simp [sizeLoop]⟩
  | k0 :: ks, ch, num, ch', num', h => by
    simp only [sizeLoop] at h
    split at h
    · cases h
    · rename_i hcap
      split at h
      · rename_i ds hds
        split at h
        · rename_i ch1 num1 hr
          obtain ⟨new1, a1, a2, a3⟩ := rootPass_append ds _ _ _ _ _ hr
          obtain ⟨new2, b1, b2, b3⟩ := sizeLoop_append cap n gens ks _ _ _ _ h
          refine ⟨new1 ++ new2, ?_, ?_, ?_⟩
          · rw [b1, a1, Array.append_assoc]
          · rw [b2, a2]; simp only [Array.size_append]; omega
          · intro base k
            simp only [sizeLoop, hcap, if_false, hds, a3 base k, b3 (base ++ new1) (k + new1.size)]
            simp only [Array.append_assoc, Array.size_append]
            congr 2; omega
        · cases h
        · cases h
      · cases h
      · cases h

theorem orbitRoots_form_aux :
    ∀ (l : List (Int × Nat)) (ch : Array Nat) (num : Nat),
      l.foldl (fun (p : Array Nat × Nat) (vi : Int × Nat) =>
          if vi.1 < 0 then (p.1.push (1 <<< vi.2), p.2 + 1) else p) (ch, num) =
        (ch ++ ((l.filter fun vi => decide (vi.1 < 0)).map fun vi => 1 <<< vi.2).toArray,
         num + (l.filter fun vi => decide (vi.1 < 0)).length)
  | [], ch, num => by simp
  | (v, i) :: rest, ch, num => by
    simp only [List.foldl_cons, List.filter_cons]
    by_cases hneg : v < 0
    · simp only [hneg, if_true, decide_true, orbitRoots_form_aux rest, List.map_cons, List.length_cons]
      congr 1
      · apply Array.toList_inj.1; simp
      · omega
    · simp only [hneg, if_false, decide_false, orbitRoots_form_aux rest]
      rfl

theorem orbitRoots_form (orbits : Array Int) (ch : Array Nat) (num : Nat) :
    orbitRoots orbits ch num =
      (ch ++ ((orbits.toList.zipIdx.filter fun vi => decide (vi.1 < 0)).map fun vi => 1 <<< vi.2).toArray,
       num + (orbits.toList.zipIdx.filter fun vi => decide (vi.1 < 0)).length) := by
  unfold orbitRoots
  exact orbitRoots_form_aux _ ch num

theorem orbitRoots_append (orbits : Array Int) :
    ∃ new : Array Nat, ∀ (base : Array Nat) (k : Nat), orbitRoots orbits base k = (base ++ new, k + new.size) :=
  ⟨_, fun base k => by rw [orbitRoots_form, List.size_toArray, List.length_map]⟩

theorem augTail_append (cap n : Nat) (orbs : Array Int) (gens : List (Array Nat)) (ks : List Nat)
    (c1 : Option Ans) (ch : Array Nat) {ch' : Array Nat} {cache' : Option Ans} {num : Nat}
    (h : (match sizeLoop cap n gens ks (orbitRoots orbs (ch.push 0) 1).1 (orbitRoots orbs (ch.push 0) 1).2 with
          | .ok (ch2, num2) => Outcome.ok (ch2, c1, num2)
          | .panic => .panic
          | .outOfFuel => .outOfFuel) = .ok (ch', cache', num)) :
    ∃ new : Array Nat, ch' = ch ++ new ∧ num = new.size ∧ cache' = c1 ∧
      ∀ base : Array Nat,
        (match sizeLoop cap n gens ks (orbitRoots orbs (base.push 0) 1).1 (orbitRoots orbs (base.push 0) 1).2 with
          | .ok (ch2, num2) => Outcome.ok (ch2, c1, num2)
          | .panic => .panic
          | .outOfFuel => .outOfFuel) = .ok (base ++ new, c1, new.size) := by
  obtain ⟨newO, hO⟩ := orbitRoots_append orbs
  rw [hO] at h
  simp only at h
  split at h
  · rename_i ch2 num2 hs
    cases h
    obtain ⟨newS, s1, s2, s3⟩ := sizeLoop_append _ _ _ _ _ _ _ _ hs
    refine ⟨#[0] ++ newO ++ newS, ?_, ?_, rfl, ?_⟩
    · rw [s1, push_append_eq, Array.append_assoc, Array.append_assoc]
    · rw [s2]; simp only [Array.size_append, List.size_toArray, List.length_cons, List.length_nil]; try omega
    · intro base
      rw [hO]
      simp only [s3 (base.push 0 ++ newO) (1 + newO.size)]
      rw [push_append_eq, Array.append_assoc, Array.append_assoc]
      simp only [Array.size_append, List.size_toArray, List.length_cons, List.length_nil]
      congr 3; omega
  · cases h
  · cases h

theorem addAugmentations_append (O : Oracle) (cap : Nat) (g : DG) (cache : Option Ans) (ch : Array Nat)
    {ch' : Array Nat} {cache' : Option Ans} {num : Nat}
    (h : addAugmentations O cap g ch cache = .ok (ch', cache', num)) :
    ∃ new : Array Nat, ch' = ch ++ new ∧ num = new.size ∧
      ∀ base : Array Nat, addAugmentations O cap g base cache = .ok (base ++ new, cache', new.size) := by
  unfold addAugmentations at h
  split at h
  · cases h
  · cases h
  · rename_i minDegree hmin
    simp only at h
    split at h
    · cases h
    · cases h
    · rename_i c1 hc1
      obtain ⟨new, h1, h2, h3, h4⟩ := augTail_append _ _ _ _ _ c1 ch h
      refine ⟨new, h1, h2, ?_⟩
      intro base
      unfold addAugmentations
      simp only [hmin, hc1]
      rw [h3]
      exact h4 base

end Search
