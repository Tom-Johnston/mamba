import Mamba.Lemmas.CanonFDfs
/-!
# Basic lemmas about `FrameAux`: frame-wise implication, congruence, moving the threshold of the top frame; the current
node at a leaf of the search
-/
namespace CanonF

/-- `FrameAux1` only looks at `count`, `currentBest`, `gens`, `ngens` and at `us.take L`, `us[L]` is not used -/
theorem FrameAux1.congr {n : Nat} {nb : Nbrs} {rf : Nat} {r : IR.St} {gh : Gh} {s s' : LS} {us us' : List Nat}
    {incl : Bool} {ps : List Nat} {c st sz : Nat} (h : FrameAux1 n nb rf r gh s us incl ps c st sz)
    (e1 : s'.count = s.count) (e2 : s'.currentBest = s.currentBest) (e3 : s'.gens = s.gens) (e4 : s'.ngens = s.ngens)
    (ev : us'.take ps.length = us.take ps.length) : FrameAux1 n nb rf r gh s' us' incl ps c st sz := by
  have ec := cellL_congr (n := n) (nb := nb) (rf := rf) (r := r) (st := st) ev
  have en := nodeL_congr (n := n) (nb := nb) (rf := rf) (r := r) ev
  constructor
  · rw [e1, ec, ev]; exact h.futF
  · rw [e1, ec, ev]; exact h.futB
  · rw [e1, e2, ec, ev, en]; exact h.bpF
  · rw [e1, e2, ec, ev, en]; exact h.bpB
  · rw [e1, e3, e4, ev, en]; exact h.e1
  · rw [e1, ev, en]; exact h.e2
  · rw [e1, ev]; exact h.fb
  · rw [e1]; exact h.ph1

section
variable {n : Nat} {nb : Nbrs} {rf : Nat} {r : IR.St} {gh gh' : Gh} {s s' : LS} {us us' : List Nat} {incl : Bool}
  {path choices : List Nat} {lv : List (Nat × Nat)}

theorem frameAux_iff : FrameAux n nb rf r gh s us incl path choices lv ↔
    AllFrames (fun incl _ ps c st sz => FrameAux1 n nb rf r gh s us incl ps c st sz) incl path choices lv := by
  induction path generalizing incl choices lv with
  | nil => cases choices <;> cases lv <;> simp [FrameAux, AllFrames]
  | cons p ps ih =>
    cases choices with
    | nil => simp [FrameAux, AllFrames]
    | cons c cs =>
      cases lv with
      | nil => simp [FrameAux, AllFrames]
      | cons x ls => obtain ⟨st, sz⟩ := x; simp only [FrameAux, AllFrames, ih (incl := false)]

theorem FrameAux.imp (h : FrameAux n nb rf r gh s us incl path choices lv)
    (H : ∀ incl ps c st sz, ps.length < path.length → FrameAux1 n nb rf r gh s us incl ps c st sz →
      FrameAux1 n nb rf r gh' s' us' incl ps c st sz) : FrameAux n nb rf r gh' s' us' incl path choices lv :=
  frameAux_iff.2 ((frameAux_iff.1 h).imp fun incl _ ps c st sz => H incl ps c st sz)

end

theorem FrameAux.congr {n : Nat} {nb : Nbrs} {rf : Nat} {r : IR.St} {gh : Gh} {s s' : LS} {us us' : List Nat}
    (e1 : s'.count = s.count) (e2 : s'.currentBest = s.currentBest) (e3 : s'.gens = s.gens) (e4 : s'.ngens = s.ngens) :
    ∀ (incl : Bool) (path choices : List Nat) (lv : List (Nat × Nat)),
      (∀ L, L < path.length → us'.take L = us.take L) →
      FrameAux n nb rf r gh s us incl path choices lv → FrameAux n nb rf r gh s' us' incl path choices lv :=
  fun _ _ _ _ hv h => h.imp fun _ _ _ _ _ hps h1 => h1.congr e1 e2 e3 e4 (hv _ hps)

theorem FrameAux.tail {n : Nat} {nb : Nbrs} {rf : Nat} {r : IR.St} {gh : Gh} {s : LS} {us : List Nat} {incl : Bool}
    {p c : Nat} {ps cs : List Nat} {x : Nat × Nat} {ls : List (Nat × Nat)}
    (h : FrameAux n nb rf r gh s us incl (p :: ps) (c :: cs) (x :: ls)) :
    FrameAux n nb rf r gh s us false ps cs ls :=
  frameAux_iff.2 (frameAux_iff.1 h).tail

theorem FrameAux.head {n : Nat} {nb : Nbrs} {rf : Nat} {r : IR.St} {gh : Gh} {s : LS} {us : List Nat} {incl : Bool}
    {p c : Nat} {ps cs : List Nat} {st sz : Nat} {ls : List (Nat × Nat)}
    (h : FrameAux n nb rf r gh s us incl (p :: ps) (c :: cs) ((st, sz) :: ls)) :
    FrameAux1 n nb rf r gh s us incl ps c st sz :=
  h.1

theorem FrameAux.mk {n : Nat} {nb : Nbrs} {rf : Nat} {r : IR.St} {gh : Gh} {s : LS} {us : List Nat} {incl : Bool}
    {p c : Nat} {ps cs : List Nat} {st sz : Nat} {ls : List (Nat × Nat)}
    (h1 : FrameAux1 n nb rf r gh s us incl ps c st sz) (h2 : FrameAux n nb rf r gh s us false ps cs ls) :
    FrameAux n nb rf r gh s us incl (p :: ps) (c :: cs) ((st, sz) :: ls) :=
  ⟨h1, h2⟩

theorem FrameAux.drop {n : Nat} {nb : Nbrs} {rf : Nat} {r : IR.St} {gh : Gh} {s : LS} {us : List Nat} (j : Nat)
    {path choices : List Nat} {lv : List (Nat × Nat)} (h : FrameAux n nb rf r gh s us false path choices lv) :
    FrameAux n nb rf r gh s us false (path.drop j) (choices.drop j) (lv.drop j) :=
  frameAux_iff.2 ((frameAux_iff.1 h).drop j)

/-- the top frame: the member with index `c - 1 - st` becomes processed (skip, `splitBin` worse); it does not lie on a
stored path because it was unprocessed -/
theorem FrameAux1.step_head {n : Nat} {nb : Nbrs} {rf : Nat} {r : IR.St} {gh : Gh} {s : LS} {us : List Nat}
    {ps : List Nat} {c st sz : Nat} (h : FrameAux1 n nb rf r gh s us true ps c st sz) (hc : st < c)
    (hcnt : 0 < s.count) : FrameAux1 n nb rf r gh s us true ps (c - 1) st sz := by
  constructor
  · intro h0 j w hj hw; exact h.futF h0 j w (by omega) hw
  · intro h0 j w hj hw; exact h.futB h0 j w (by omega) hw
  · intro h0 hpre i w hi hw hx
    simp only [if_true] at hi
    rcases Nat.lt_or_ge i (c - st) with hlt | hge
    · exact absurd ⟨hpre, hx⟩ (h.futF h0 i w hlt hw)
    · exact h.bpF h0 hpre i w (by simp only [if_true]; exact hge) hw hx
  · intro h0 hpre i w hi hw hx
    simp only [if_true] at hi
    rcases Nat.lt_or_ge i (c - st) with hlt | hge
    · exact absurd ⟨hpre, hx⟩ (h.futB h0 i w hlt hw)
    · exact h.bpB h0 hpre i w (by simp only [if_true]; exact hge) hw hx
  · exact h.e1
  · exact h.e2
  · exact h.fb
  · intro h0; omega

theorem FrameAux1.start_child {n : Nat} {nb : Nbrs} {rf : Nat} {r : IR.St} {gh : Gh} {s : LS} {us : List Nat}
    {ps : List Nat} {c st sz : Nat} (h : FrameAux1 n nb rf r gh s us true ps c st sz) (hc : st < c) :
    FrameAux1 n nb rf r gh s us false ps (c - 1) st sz := by
  constructor
  · intro h0 j w hj hw; exact h.futF h0 j w (by omega) hw
  · intro h0 j w hj hw; exact h.futB h0 j w (by omega) hw
  · intro h0 hpre i w hi hw hx
    simp only [Bool.false_eq_true, if_false] at hi
    exact h.bpF h0 hpre i w (by simp only [if_true]; omega) hw hx
  · intro h0 hpre i w hi hw hx
    simp only [Bool.false_eq_true, if_false] at hi
    exact h.bpB h0 hpre i w (by simp only [if_true]; omega) hw hx
  · exact h.e1
  · exact h.e2
  · exact h.fb
  · intro h0
    have := h.ph1 h0
    simp only [if_true] at this
    simp only [Bool.false_eq_true, if_false]
    omega

theorem FrameAux1.finish_child {n : Nat} {nb : Nbrs} {rf : Nat} {r : IR.St} {gh : Gh} {s : LS} {us : List Nat}
    {ps : List Nat} {c st sz : Nat} (h : FrameAux1 n nb rf r gh s us false ps c st sz) (hcnt : 0 < s.count)
    (hnew : ∀ w, (cellL n nb rf r us ps.length st)[c - st]? = some w →
      (gh.vsF[ps.length]? = some w ∨ gh.vsB[ps.length]? = some w) →
      Complete n nb rf s.currentBest.toList (IR.childSt (irG n nb) rf (nodeL n nb rf r us ps.length) st w)) :
    FrameAux1 n nb rf r gh s us true ps c st sz := by
  constructor
  · exact h.futF
  · exact h.futB
  · intro h0 hpre i w hi hw hx
    simp only [if_true] at hi
    rcases Nat.lt_or_ge (c - st) i with hlt | hge
    · exact h.bpF h0 hpre i w (by simp only [Bool.false_eq_true, if_false]; exact hlt) hw hx
    · have : i = c - st := by omega
      subst this
      exact hnew w hw (Or.inl hx)
  · intro h0 hpre i w hi hw hx
    simp only [if_true] at hi
    rcases Nat.lt_or_ge (c - st) i with hlt | hge
    · exact h.bpB h0 hpre i w (by simp only [Bool.false_eq_true, if_false]; exact hlt) hw hx
    · have : i = c - st := by omega
      subst this
      exact hnew w hw (Or.inr hx)
  · exact h.e1
  · exact h.e2
  · exact h.fb
  · intro h0; omega

theorem FrameAux.finish_top {n : Nat} {nb : Nbrs} {rf : Nat} {r : IR.St} {gh : Gh} {s : LS} {us : List Nat} {op : OP}
    {path choices : List Nat} {lv : List (Nat × Nat)} (hpath : IR.IsPath (irG n nb) rf r us)
    (hl : LevelsOK op path choices lv) (hf : FramesOK n nb rf r us path choices lv) (hlen : path.length ≤ us.length)
    (hcnt : 0 < s.count) (hcomp : Complete n nb rf s.currentBest.toList (nodeL n nb rf r us path.length))
    (h : FrameAux n nb rf r gh s us false path choices lv) : FrameAux n nb rf r gh s us true path choices lv := by
  obtain ⟨rfl, rfl, rfl⟩ | ⟨p, ps, c, cs, st, sz, ls, rfl, rfl, rfl, _, _⟩ := (frameAux_iff.1 h).cases
  · exact h
  · exact FrameAux.mk (h.head.finish_child hcnt fun w hw _ => by
      rw [← (top_child_node hpath hl hf hlen hw).2]; exact hcomp) h.tail

/-- one frame when `count` stays positive and generators are added, to `gens` and to `bgs`, that preserve the colouring
of the frame's node if it is on the first-leaf path, resp. on the best-leaf path -/
theorem FrameAux1.upd {n : Nat} {nb : Nbrs} {rf : Nat} {r : IR.St} {gh gh' : Gh} {s s' : LS} {us us' : List Nat}
    {incl : Bool} {ps : List Nat} {c st sz : Nat} (h : FrameAux1 n nb rf r gh s us incl ps c st sz)
    (hpos : 0 < s.count) (hpos' : 0 < s'.count) (ecb : s'.currentBest = s.currentBest)
    (eF : gh'.vsF = gh.vsF) (eB : gh'.vsB = gh.vsB) (ev : us'.take ps.length = us.take ps.length)
    (hE1 : us.take ps.length = gh.vsF.take ps.length →
      (∀ k, k < s.ngens → ∀ γ, s.gens[k]? = some γ → ∀ u, u < n →
        IR.col (nodeL n nb rf r us ps.length).c (γ.toList.getD u 0) = IR.col (nodeL n nb rf r us ps.length).c u) →
      ∀ k, k < s'.ngens → ∀ γ, s'.gens[k]? = some γ → ∀ u, u < n →
        IR.col (nodeL n nb rf r us ps.length).c (γ.toList.getD u 0) = IR.col (nodeL n nb rf r us ps.length).c u)
    (hE2 : us.take ps.length = gh.vsB.take ps.length →
      (∀ γ, γ ∈ gh.bgs → ∀ u, u < n →
        IR.col (nodeL n nb rf r us ps.length).c (γ.getD u 0) = IR.col (nodeL n nb rf r us ps.length).c u) →
      ∀ γ, γ ∈ gh'.bgs → ∀ u, u < n →
        IR.col (nodeL n nb rf r us ps.length).c (γ.getD u 0) = IR.col (nodeL n nb rf r us ps.length).c u) :
    FrameAux1 n nb rf r gh' s' us' incl ps c st sz := by
  have ec := cellL_congr (n := n) (nb := nb) (rf := rf) (r := r) (st := st) ev
  have en := nodeL_congr (n := n) (nb := nb) (rf := rf) (r := r) ev
  constructor
  · intro _; rw [ec, ev, eF]; exact h.futF hpos
  · intro _; rw [ec, ev, eB]; exact h.futB hpos
  · intro _; rw [ecb, ec, ev, en, eF]; exact h.bpF hpos
  · intro _; rw [ecb, ec, ev, en, eB]; exact h.bpB hpos
  · intro _; rw [ev, en, eF]
    intro hpre
    exact hE1 hpre (h.e1 hpos hpre)
  · intro _; rw [ev, en, eB]
    intro hpre
    exact hE2 hpre (h.e2 hpos hpre)
  · intro _; rw [ev, eF, eB]; exact h.fb hpos
  · intro h0; omega

theorem FrameAux1.congr_gh {n : Nat} {nb : Nbrs} {rf : Nat} {r : IR.St} {gh gh' : Gh} {s : LS} {us : List Nat}
    {incl : Bool} {ps : List Nat} {c st sz : Nat} (h : FrameAux1 n nb rf r gh s us incl ps c st sz)
    (e1 : gh'.vsF = gh.vsF) (e2 : gh'.vsB = gh.vsB) (e3 : gh'.bgs = gh.bgs) :
    FrameAux1 n nb rf r gh' s us incl ps c st sz := by
  constructor
  · rw [e1]; exact h.futF
  · rw [e2]; exact h.futB
  · rw [e1]; exact h.bpF
  · rw [e2]; exact h.bpB
  · rw [e1]; exact h.e1
  · rw [e2, e3]; exact h.e2
  · rw [e1, e2]; exact h.fb
  · exact h.ph1

theorem FrameAux.congr_gh {n : Nat} {nb : Nbrs} {rf : Nat} {r : IR.St} {gh gh' : Gh} {s : LS} {us : List Nat}
    (e1 : gh'.vsF = gh.vsF) (e2 : gh'.vsB = gh.vsB) (e3 : gh'.bgs = gh.bgs) :
    ∀ (incl : Bool) (path choices : List Nat) (lv : List (Nat × Nat)),
      FrameAux n nb rf r gh s us incl path choices lv → FrameAux n nb rf r gh' s us incl path choices lv :=
  fun _ _ _ _ h => h.imp fun _ _ _ _ _ _ h1 => h1.congr_gh e1 e2 e3

section
variable {n : Nat} {nb : Nbrs} {rf : Nat} {r : IR.St}

theorem GlobalInv.congr_pos {gh gh' : Gh} {s s' : LS} (h : GlobalInv n nb rf r gh s) (hp : 0 < s.count)
    (hp' : 0 < s'.count) (e2 : s'.firstLeaf = s.firstLeaf) (e3 : s'.flPermInv = s.flPermInv)
    (e4 : s'.flPath = s.flPath) (e5 : s'.bestPerm = s.bestPerm) (e6 : s'.currentBest = s.currentBest)
    (e7 : s'.bestPermInv = s.bestPermInv) (e8 : s'.bestPath = s.bestPath) (e9 : s'.bestOrbits = s.bestOrbits)
    (g1 : gh'.vsF = gh.vsF) (g2 : gh'.oF = gh.oF) (g3 : gh'.vsB = gh.vsB) (g4 : gh'.bgs = gh.bgs) :
    GlobalInv n nb rf r gh' s' := by
  constructor
  · intro _; rw [e2, e3, e4, g1, g2]; exact h.first hp
  · intro _; rw [e5, e6, e7, e8, g3]; exact h.best hp
  · rw [g4]; exact h.bgsAut
  · intro h0; omega
  · intro _; rw [e9, g4]; exact h.bestOrb hp
  · rw [e8]; exact h.bpLen
  · rw [e4]; exact h.fpLen

/-- `h2Best` only compresses paths of `bestOrbits`: the classes stay, and so does what generates them -/
theorem GlobalInv.bestOrb_h2Best {gh : Gh} {s : LS} {cp ce : Nat} {b : Bool} {bo : Disjoint.DS} (hc : Core n s)
    (hG : GlobalInv n nb rf r gh s) (hpos : 0 < s.count) (hh : h2Best s.op s.bestOrbits cp ce = .ok (b, bo)) :
    Disjoint.Inv bo ∧ bo.size = n ∧ ∀ a b, a < n → b < n → Disjoint.rep bo a = Disjoint.rep bo b →
      Relation.EqvGen (fun x y => ∃ γ, γ ∈ gh.bgs ∧ γ[x]? = some y) a b := by
  obtain ⟨b1, b2, b3⟩ := hG.bestOrb hpos
  obtain ⟨a1, a2, a3, -⟩ := h2Best_spec hc.part b1 b2 hh
  exact ⟨a1, a2, fun a b ha hb hab => b3 a b ha hb (by rw [← a3 a ha, ← a3 b hb]; exact hab)⟩

theorem GlobalInv.bestOrb_if_h2Best {gh : Gh} {s : LS} {cp ce : Nat} {b : Bool} {bo : Disjoint.DS} {cond : Bool}
    (hc : Core n s) (hG : GlobalInv n nb rf r gh s) (hpos : 0 < s.count)
    (hh : (if cond = true then h2Best s.op s.bestOrbits cp ce else Outcome.ok (false, s.bestOrbits)) = .ok (b, bo)) :
    Disjoint.Inv bo ∧ bo.size = n ∧ ∀ a b, a < n → b < n → Disjoint.rep bo a = Disjoint.rep bo b →
      Relation.EqvGen (fun x y => ∃ γ, γ ∈ gh.bgs ∧ γ[x]? = some y) a b := by
  by_cases hcond : cond = true
  · rw [if_pos hcond] at hh
    exact hG.bestOrb_h2Best hc hpos hh
  · rw [if_neg hcond] at hh
    cases hh
    exact hG.bestOrb hpos

theorem orbits_new (n : Nat) (R : Nat → Nat → Prop) :
    Disjoint.Inv (Disjoint.new n) ∧ (Disjoint.new n).size = n ∧
      ∀ a b, a < n → b < n → Disjoint.rep (Disjoint.new n) a = Disjoint.rep (Disjoint.new n) b →
        Relation.EqvGen R a b := by
  refine ⟨Disjoint.inv_new' n, Disjoint.size_new n, fun a b ha hb hab => ?_⟩
  rw [Disjoint.rep_new n a ha, Disjoint.rep_new n b hb] at hab
  subst hab; exact Relation.EqvGen.refl _

theorem NodeOff.ne_nil {gh : Gh} {s : LS} {us : List Nat} (h : NodeOff gh s us) (hcnt : 0 < s.count) : us ≠ [] :=
  fun e => (h hcnt).1 (by rw [e]; rfl)

theorem cellL_idx_unique {vs : List Nat} {L st i j w : Nat} (hi : (cellL n nb rf r vs L st)[i]? = some w)
    (hj : (cellL n nb rf r vs L st)[j]? = some w) : i = j :=
  (List.getElem?_inj (List.getElem?_eq_some_iff.1 hi).1 (IR.cellMembers_nodup _ _ _)).1 (hi.trans hj.symm)

theorem frames_on_path {op : OP} {vs path choices : List Nat} {lv : List (Nat × Nat)}
    (hl : LevelsOK op path choices lv) (hf : FramesOK n nb rf r vs path choices lv) (hlen : path.length ≤ vs.length) :
    AllFrames (fun _ _ ps c st _ => ∀ i w, (cellL n nb rf r vs ps.length st)[i]? = some w → vs[ps.length]? = some w →
      i = c - st) false path choices lv :=
  ((levelsOK_iff (incl := false)).1 hl).and (framesOK_iff.1 hf) |>.imp_false fun p ps c st _ hps ⟨hL, hF⟩ i w hi hw => by
    rw [(hF.2.2 (Nat.lt_of_lt_of_le hps hlen)).1] at hw
    rw [hL.2.2.1, Nat.add_sub_cancel_left]
    exact cellL_idx_unique hi hw

theorem frames_first_child {gh : Gh} {s : LS} {vs path choices : List Nat} {lv : List (Nat × Nat)} (h0 : s.count = 0)
    (hf : FramesOK n nb rf r vs path choices lv) (h : FrameAux n nb rf r gh s vs false path choices lv) :
    AllFrames (fun _ _ ps c st sz => c - st + 1 = sz ∧
      ∀ i w, c - st < i → (cellL n nb rf r vs ps.length st)[i]? = some w → False) false path choices lv :=
  ((framesOK_iff (incl := false)).1 hf).and (frameAux_iff.1 h) |>.imp_false fun _ ps c st sz _ ⟨hF, hA⟩ => by
    have hph : c - st + 1 = sz := hA.ph1 h0
    refine ⟨hph, fun i w hi hw => ?_⟩
    have := (List.getElem?_eq_some_iff.1 hw).1
    rw [hF.2.1] at this
    omega

theorem nodeL_length (vs : List Nat) : nodeL n nb rf r vs vs.length = IR.nodeAt (irG n nb) rf r vs := by
  unfold nodeL; rw [List.take_length]

/-- a leaf has been handled without a back-jump: the walk returns to the frame of the parent -/
theorem walk_leaf {s s' : LS} {vs : List Nat} {lv : List (Nat × Nat)} (hc : Core n s) (e1 : s'.op = s.op)
    (e2 : s'.path = s.path) (e3 : s'.choices = s.choices) (hw : WalkNodev n nb rf r vs lv s) :
    WalkAv n nb rf r vs.dropLast lv s' := by
  have := walk_truncate (s' := s') 0 hc.part hc.age (Nat.zero_le _) (fun hne => List.length_pos_iff.2 hne)
    (by rw [e1]; rfl) (by rw [e2]; rfl) (by rw [e3]; rfl) hw
  rw [List.dropLast_eq_take, hw.len]
  simpa using this

theorem walkNode_leaf {s : LS} {vs : List Nat} {lv : List (Nat × Nat)} (hc : Core n s)
    (hw : WalkNodev n nb rf r vs lv s) (hleaf : s.op.binDividers.len = n) :
    Match n s.op (IR.nodeAt (irG n nb) rf r vs) ∧ IR.target (irG n nb) (IR.nodeAt (irG n nb) rf r vs) = none ∧
      (IR.nodeAt (irG n nb) rf r vs).c = IR.tab n (fun v => s.op.order.toList.idxOf v) := by
  have hm : Match n s.op (IR.nodeAt (irG n nb) rf r vs) := nodeL_length (n := n) (nb := nb) vs ▸ hw.matchTop hc
  exact ⟨hm, target_none hc.part hm hleaf, by rw [hm.col, leaf_colOf hc.part hleaf]⟩

end

end CanonF
