import Mamba.Lemmas.CanonFPhase
import Mamba.Lemmas.CanonFDeage
import Mamba.Lemmas.CanonFSplit
/-!
# The stepping machinery of the main loop of `CanonicalIsomorphAllocated` (faithful model `Model/CanonF.lean`)

The depth-first search keeps, for every level `ℓ` of the stack (`path`, `choices`), the target cell that was chosen at that
level. The ghost list `lv` of `(start, size)` pairs records these cells; `LevelsOK` says that the cell of level `ℓ` is a
cell of the partition formed by the dividers of age `< ℓ` (ages are attached to dividers; `splitBin`/the refinement of
level `ℓ` only add dividers of age `ℓ`, `deage` removes exactly them), that it has at least two elements, and that
`choices[ℓ] = start + path[ℓ]`. This is what makes every `splitBin` of `jLoop` hit a position inside a non-singleton bin,
which in turn keeps the ordered-partition invariant `PartInv` (`innerNode_spec`, `backJump_spec`; the loops themselves
are in `CanonFStepJ.lean`). `Core n s` is what every transition may assume of the loop state beside the stack: `PartInv`,
`AgeInv`, `ScratchOK` of its partition and scratch, and `bestPerm` is a slice of length `n`, a permutation of `0..n-1` once a
leaf has been found.
-/
namespace CanonF

def oldDivs (a : Int) (op : OP) : List Nat := ((divs op).filter (fun x => decide (x.2 < a))).map (·.1)

/-- `[start, start+size)` is a bin of the partition formed by the dividers of age `< a` -/
def IsBinAt (a : Int) (op : OP) (start size : Nat) : Prop :=
  (start = 0 ∨ start ∈ oldDivs a op) ∧ start + size ∈ oldDivs a op ∧
    (∀ d ∈ oldDivs a op, ¬ (start < d ∧ d < start + size)) ∧
    ∀ t, t < start → t + 1 ∈ oldDivs a op

theorem filter_filter_of_imp {α : Type} (p q : α → Bool) (l : List α) (h : ∀ x, p x = true → q x = true) :
    (l.filter q).filter p = l.filter p := by
  rw [List.filter_filter]
  apply List.filter_congr
  intro x _
  cases hp : p x <;> simp
  exact h x hp

theorem oldDivs_of_ne {op op' : OP} {A : Int} (h : (divs op').filter (fun x => decide (x.2 ≠ A)) = divs op)
    (a : Int) (ha : a ≤ A) : oldDivs a op' = oldDivs a op := by
  unfold oldDivs
  rw [← h, filter_filter_of_imp]
  intro x hx; simp at hx ⊢; omega

theorem oldDivs_of_lt {op op' : OP} {A : Int}
    (h : (divs op').filter (fun x => decide (x.2 < A)) = (divs op).filter (fun x => decide (x.2 < A)))
    (a : Int) (ha : a ≤ A) : oldDivs a op' = oldDivs a op := by
  unfold oldDivs
  rw [← filter_filter_of_imp (fun x => decide (x.2 < a)) (fun x => decide (x.2 < A)) (divs op'), h, filter_filter_of_imp]
  all_goals (intro x hx; simp at hx ⊢; omega)

theorem oldDivs_of_filter {op op' : OP} {A : Int} (h : divs op' = (divs op).filter (fun x => decide (x.2 ≠ A)))
    (a : Int) (ha : a ≤ A) : oldDivs a op' = oldDivs a op := by
  unfold oldDivs
  rw [h, filter_filter_of_imp]
  intro x hx; simp at hx ⊢; omega

theorem oldDivs_all {op : OP} {a : Int} (hw1 : op.binDividers.WF) (hw2 : op.binAges.WF)
    (hl : op.binAges.len = op.binDividers.len) (h : ∀ x ∈ op.binAges.toList, x < a) :
    oldDivs a op = op.binDividers.toList := by
  unfold oldDivs divs
  rw [List.filter_eq_self.2]
  · rw [List.map_fst_zip]
    rw [Sl.length_toList _ hw1, Sl.length_toList _ hw2]; omega
  · intro x hx
    have := h x.2 (List.of_mem_zip hx).2
    simpa using this


/-- the stack of target cells: level `ℓ` (1-based from the bottom) has the cell `[st, st+sz)` of the partition formed by
the dividers of age `< ℓ`; `choices[ℓ] = st + path[ℓ]`; lists are reversed (head = top level) -/
def LevelsOK (op : OP) : List Nat → List Nat → List (Nat × Nat) → Prop
  | [], [], [] => True
  | p :: ps, c :: cs, (st, sz) :: ls =>
      IsBinAt ((ps.length : Int) + 1) op st sz ∧ 2 ≤ sz ∧ c = st + p ∧ p ≤ sz ∧ LevelsOK op ps cs ls
  | _, _, _ => False

theorem IsBinAt_frame {op op' : OP} {a : Int} (h : oldDivs a op' = oldDivs a op) (st sz : Nat) :
    IsBinAt a op' st sz ↔ IsBinAt a op st sz := by
  unfold IsBinAt; rw [h]

theorem LevelsOK_frame {op op' : OP} {A : Int} (h : ∀ a : Int, a ≤ A → oldDivs a op' = oldDivs a op) :
    ∀ (path choices : List Nat) (lv : List (Nat × Nat)), (path.length : Int) ≤ A →
      LevelsOK op path choices lv → LevelsOK op' path choices lv := by
  intro path
  induction path with
  | nil => intro choices lv _ hl; cases choices <;> cases lv <;> simp_all [LevelsOK]
  | cons p ps ih =>
    intro choices lv hA hl
    cases choices with
    | nil => simp [LevelsOK] at hl
    | cons c cs =>
      cases lv with
      | nil => simp [LevelsOK] at hl
      | cons x ls =>
        obtain ⟨st, sz⟩ := x
        simp only [LevelsOK] at hl ⊢
        obtain ⟨h1, h2, h3, h4, h5⟩ := hl
        simp only [List.length_cons] at hA
        refine ⟨(IsBinAt_frame (h _ (by omega)) st sz).2 h1, h2, h3, h4, ih cs ls (by omega) h5⟩

theorem LevelsOK_length {op : OP} : ∀ (path choices : List Nat) (lv : List (Nat × Nat)),
    LevelsOK op path choices lv → choices.length = path.length ∧ lv.length = path.length := by
  intro path
  induction path with
  | nil => intro choices lv hl; cases choices <;> cases lv <;> simp_all [LevelsOK]
  | cons p ps ih =>
    intro choices lv hl
    cases choices with
    | nil => simp [LevelsOK] at hl
    | cons c cs =>
      cases lv with
      | nil => simp [LevelsOK] at hl
      | cons x ls =>
        obtain ⟨st, sz⟩ := x
        simp only [LevelsOK] at hl
        have := ih cs ls hl.2.2.2.2
        simp; omega

theorem nonSingleton_of_isBin {n : Nat} {op : OP} (h : PartInv n op) {st sz : Nat}
    (hb : (st = 0 ∨ st ∈ op.binDividers.toList) ∧ st + sz ∈ op.binDividers.toList ∧
      ∀ d ∈ op.binDividers.toList, ¬ (st < d ∧ d < st + sz))
    (hsz : 2 ≤ sz) (i : Nat) (h1 : st ≤ i) (h2 : i < st + sz) :
    NonSingleton op.binDividers.toList i ∧ i < n := by
  refine ⟨?_, ?_⟩
  · intro hc
    obtain ⟨c1, c2⟩ := hc
    -- a singleton `{i}` makes `i + 1` a divider; there is none strictly inside the cell, so `i + 1 = st + sz`, and then
    -- `i > st` would itself have to be a divider (or 0)
    have hne : ¬ (st < i + 1 ∧ i + 1 < st + sz) := hb.2.2 _ c2
    have hi : i + 1 = st + sz := by omega
    rcases List.mem_cons.1 c1 with h0 | hm
    · omega
    · have := hb.2.2 _ hm; omega
  · have hk := List.getElem?_of_mem hb.2.1
    obtain ⟨k, hk⟩ := hk
    have := h.bd_le k _ hk
    omega


structure Core (n : Nat) (s : LS) : Prop where
  part : PartInv n s.op
  age : AgeInv s.op
  scr : ScratchOK n s.sc
  bestWf : s.bestPerm.WF
  bestLen : s.bestPerm.len = n
  bestPerm : 0 < s.count → s.bestPerm.toList.Perm (List.range n)

/-- like `LevelsOK`, but the top level is in the middle of its `jLoop`: `choices.head = st + k` for the loop counter `k` -/
def TopOK (op : OP) (k : Nat) : List Nat → List Nat → List (Nat × Nat) → Prop
  | _ :: ps, c :: cs, (st, sz) :: ls =>
      IsBinAt ((ps.length : Int) + 1) op st sz ∧ 2 ≤ sz ∧ c = st + k ∧ k ≤ sz ∧ LevelsOK op ps cs ls
  | _, _, _ => False

theorem TopOK.intro {op : OP} {k p c st sz : Nat} {ps cs : List Nat} {ls : List (Nat × Nat)}
    (hb : IsBinAt ((ps.length : Int) + 1) op st sz) (hsz : 2 ≤ sz) (hc : c = st + k) (hk : k ≤ sz)
    (hl : LevelsOK op ps cs ls) : TopOK op k (p :: ps) (c :: cs) ((st, sz) :: ls) := by
  unfold TopOK; exact ⟨hb, hsz, hc, hk, hl⟩

theorem TopOK.elim {op : OP} {k : Nat} {path choices : List Nat} {lv : List (Nat × Nat)} (h : TopOK op k path choices lv) :
    ∃ p ps c cs st sz ls, path = p :: ps ∧ choices = c :: cs ∧ lv = (st, sz) :: ls ∧
      IsBinAt ((ps.length : Int) + 1) op st sz ∧ 2 ≤ sz ∧ c = st + k ∧ k ≤ sz ∧ LevelsOK op ps cs ls := by
  match path, choices, lv, h with
  | p :: ps, c :: cs, (st, sz) :: ls, h => exact ⟨p, ps, c, cs, st, sz, ls, rfl, rfl, rfl, h⟩

theorem TopOK.age_pos {op : OP} {k : Nat} {path choices : List Nat} {lv : List (Nat × Nat)}
    (h : TopOK op k path choices lv) (hage : op.age = path.length) : 0 < op.age := by
  obtain ⟨_, _, _, _, _, _, _, hpth, _⟩ := h.elim
  rw [hage, hpth]; simp

theorem TopOK_frame {op op' : OP} {A : Int} (h : ∀ a : Int, a ≤ A → oldDivs a op' = oldDivs a op) (k : Nat)
    (path choices : List Nat) (lv : List (Nat × Nat)) (hA : (path.length : Int) ≤ A)
    (ht : TopOK op k path choices lv) : TopOK op' k path choices lv := by
  match path, choices, lv, ht with
  | _ :: ps, c :: cs, (st, sz) :: ls, ht =>
    simp only [TopOK] at ht ⊢
    simp only [List.length_cons] at hA
    obtain ⟨h1, h2, h3, h4, h5⟩ := ht
    exact ⟨(IsBinAt_frame (h _ (by omega)) st sz).2 h1, h2, h3, h4, LevelsOK_frame h ps cs ls (by omega) h5⟩

/-- the frame of the stepping loops: only `op`, `path`, `choices`, `skipDeage` and (through path compression in the
Heuristic-2 scan) `bestOrbits` change -/
def StepFrame (s s' : LS) : Prop :=
  s' = { s with op := s'.op, path := s'.path, choices := s'.choices, skipDeage := s'.skipDeage,
                bestOrbits := s'.bestOrbits }

theorem StepFrame.refl (s : LS) : StepFrame s s := rfl

theorem StepFrame.trans {a b c : LS} (h1 : StepFrame a b) (h2 : StepFrame b c) : StepFrame a c := by
  unfold StepFrame at *
  rw [h2, h1]

theorem StepFrame.set {s s1 : LS} (h : StepFrame s s1) (op : OP) (path choices : List Nat) (skip : Bool)
    (bo : Disjoint.DS) :
    StepFrame s { s1 with op := op, path := path, choices := choices, skipDeage := skip, bestOrbits := bo } := by
  unfold StepFrame at h ⊢; rw [h]

theorem Core.of_frame {n : Nat} {s s' : LS} (hc : Core n s) (hf : StepFrame s s') (hp : PartInv n s'.op)
    (ha : AgeInv s'.op) : Core n s' := by
  unfold StepFrame at hf
  constructor
  · exact hp
  · exact ha
  · rw [hf]; exact hc.scr
  · rw [hf]; exact hc.bestWf
  · rw [hf]; exact hc.bestLen
  · rw [hf]; exact hc.bestPerm


theorem compress_size (tmp : Nat) : ∀ (xs : List Nat) (ds : Disjoint.DS), (Disjoint.compress ds tmp xs).size = ds.size := by
  intro xs
  induction xs with
  | nil => intro ds; rfl
  | cons x xs ih =>
    intro ds
    have : Disjoint.compress ds tmp (x :: xs) = Disjoint.compress (ds.setIfInBounds x (tmp : Int)) tmp xs := rfl
    rw [this, ih]; simp

theorem find_size {ds d' : Disjoint.DS} {x r : Nat} (h : Disjoint.find ds x = .ok (d', r)) : d'.size = ds.size := by
  unfold Disjoint.find Disjoint.findF at h
  osplit h
  · cases h; rfl
  · cases h; exact compress_size _ _ _

theorem orbitScan_succ {order : Sl Nat} {rep c k : Nat} {ds ds' : Disjoint.DS} {b : Bool} :
    orbitScan order rep (c + 1) k ds = .ok (b, ds') ↔
      ∃ v d1 r, order.get k = .ok v ∧ Disjoint.find ds v = .ok (d1, r) ∧
        (if r = rep then b = true ∧ ds' = d1 else orbitScan order rep c (k + 1) d1 = .ok (b, ds')) := by
  rw [orbitScan]
  constructor
  · intro h
    split at h
    · rename_i v hv
      split at h
      · rename_i d1 r hf
        refine ⟨v, d1, r, hv, hf, ?_⟩
        by_cases hr : r = rep
        · rw [if_pos hr] at h ⊢
          obtain ⟨e1, e2⟩ := Prod.mk.inj (Outcome.ok.inj h)
          exact ⟨e1.symm, e2.symm⟩
        · rw [if_neg hr] at h ⊢; exact h
      · cases h
      · cases h
    · cases h
    · cases h
  · rintro ⟨v, d1, r, e1, e2, h⟩
    simp only [e1, e2]
    by_cases hr : r = rep
    · rw [if_pos hr] at h ⊢; rw [h.1, h.2]
    · rw [if_neg hr] at h ⊢; exact h

theorem orbitScan_size (order : Sl Nat) (rep : Nat) : ∀ (c k : Nat) (ds ds' : Disjoint.DS) (b : Bool),
    orbitScan order rep c k ds = .ok (b, ds') → ds'.size = ds.size := by
  intro c
  induction c with
  | zero => intro k ds ds' b h; simp [orbitScan] at h; rw [h.2]
  | succ c ih =>
    intro k ds ds' b h
    obtain ⟨v, d1, r, _, hf, h⟩ := orbitScan_succ.1 h
    by_cases hr : r = rep
    · rw [if_pos hr] at h; rw [h.2]; exact find_size hf
    · rw [if_neg hr] at h; rw [ih _ _ _ _ h]; exact find_size hf

theorem h2Best_ok {op : OP} {ds : Disjoint.DS} {cp ce : Nat} {x : Bool × Disjoint.DS} :
    h2Best op ds cp ce = .ok x ↔
      ∃ binEnd d1 rep, binEndLoop op.binDividers cp op.order.len op.binDividers.len 0 = .ok binEnd ∧
        Disjoint.find ds ce = .ok (d1, rep) ∧ orbitScan op.order rep (binEnd - (cp + 1)) (cp + 1) d1 = .ok x := by
  unfold h2Best
  constructor
  · intro h
    split at h
    · rename_i binEnd hb
      split at h
      · rename_i d1 rep hf; exact ⟨binEnd, d1, rep, hb, hf, h⟩
      · cases h
      · cases h
    · cases h
    · cases h
  · rintro ⟨binEnd, d1, rep, e1, e2, h⟩
    simp only [e1, e2]
    exact h

theorem h2Best_size {op : OP} {ds ds' : Disjoint.DS} {cp ce : Nat} {b : Bool}
    (h : h2Best op ds cp ce = .ok (b, ds')) : ds'.size = ds.size := by
  obtain ⟨_, d1, rep, _, hf, h⟩ := h2Best_ok.1 h
  rw [orbitScan_size _ _ _ _ _ _ _ h]; exact find_size hf


/-- an additional invariant of the partition carried through the stepping loops (used for the certificate): `QA` holds at
all times, `QN` after a `deage` and before every `splitBin`; `cb`, `fl` are `currentBest`, `firstLeaf` (unchanged by the
stepping loops) -/
structure StepQ (n : Nat) (nb : Nbrs) (cb fl : Sl Nat) (QA QN QS : OP → Prop) : Prop where
  na : ∀ op, QN op → QA op
  sa : ∀ op, QS op → QA op
  deage : ∀ op op', PartInv n op → AgeInv op → 0 < op.age → QA op → deage op = .ok op' → QN op'
  /-- `splitBin` is only ever called on a position of the first bin with at least two elements; `QS` holds after a
  `splitBin` that has not reported "worse" (the state handed to the refinement) -/
  split : ∀ op op' i w, PartInv n op → AgeInv op → i < n → NonSingleton op.binDividers.toList i →
    (∀ t, t < binStartOf op.binDividers.toList i → t + 1 ∈ op.binDividers.toList) → QN op →
    splitBin nb cb fl op i = .ok (w, op') → (w = false → QS op') ∧ (w = true → QA op')

theorem StepQ.trivial (n : Nat) (nb : Nbrs) (cb fl : Sl Nat) :
    StepQ n nb cb fl (fun _ => True) (fun _ => True) (fun _ => True) :=
  ⟨fun _ _ => True.intro, fun _ _ => True.intro, fun _ _ _ _ _ _ _ => True.intro,
    fun _ _ _ _ _ _ _ _ _ _ _ => ⟨fun _ => True.intro, fun _ => True.intro⟩⟩


theorem ageInv_lt {op : OP} (ha : AgeInv op) : ∀ x ∈ op.binAges.toList, x < op.age + 1 := by
  intro x hx; have := ha.le x hx; omega

theorem top_isBin {n : Nat} {op : OP} (hp : PartInv n op) (ha : AgeInv op) {a : Int} (hage : op.age + 1 = a)
    {st sz : Nat} (hb : IsBinAt a op st sz) :
    (st = 0 ∨ st ∈ op.binDividers.toList) ∧ st + sz ∈ op.binDividers.toList ∧
      ∀ d ∈ op.binDividers.toList, ¬ (st < d ∧ d < st + sz) := by
  have := oldDivs_all (a := a) hp.wfBd hp.wfAges hp.lenAges (by intro x hx; have := ha.le x hx; omega)
  unfold IsBinAt at hb
  rw [this] at hb
  exact ⟨hb.1, hb.2.1, hb.2.2.1⟩

theorem top_firstBin {n : Nat} {op : OP} (hp : PartInv n op) (ha : AgeInv op) {a : Int} (hage : op.age + 1 = a)
    {st sz : Nat} (hb : IsBinAt a op st sz) : ∀ t, t < st → t + 1 ∈ op.binDividers.toList := by
  have := oldDivs_all (a := a) hp.wfBd hp.wfAges hp.lenAges (by intro x hx; have := ha.le x hx; omega)
  unfold IsBinAt at hb
  rw [this] at hb
  exact hb.2.2.2

theorem binStartOf_le_start {n : Nat} {op : OP} (hp : PartInv n op) {st sz i : Nat}
    (hb : ∀ d ∈ op.binDividers.toList, ¬ (st < d ∧ d < st + sz)) (hi : i < n) (h2 : i < st + sz) :
    binStartOf op.binDividers.toList i ≤ st := by
  have hsd : op.binDividers.toList.Pairwise (· < ·) := hp.bdSorted
  have hbl : binIdx op.binDividers.toList i < op.binDividers.toList.length := binIdx_lt _ n i hp.last hi
  have hle := binStartOf_le _ hsd i hbl
  rcases List.mem_cons.1 (binStartOf_mem _ i hbl) with h0 | hm
  · omega
  · have := hb _ hm
    omega

theorem LevelsOK_top {op : OP} {p : Nat} {ps choices : List Nat} {lv : List (Nat × Nat)}
    (h : LevelsOK op (p :: ps) choices lv) : TopOK op p (p :: ps) choices lv := by
  match choices, lv, h with
  | c :: cs, (st, sz) :: ls, h => simpa [LevelsOK, TopOK] using h

theorem LevelsOK_nil {op : OP} {choices : List Nat} {lv : List (Nat × Nat)} (h : LevelsOK op [] choices lv) :
    lv = [] := by
  match choices, lv, h with
  | [], [], _ => rfl

/-- `pickCell` finds the first non-singleton bin: its index `i'` is also its start position -/
theorem pickCell_spec (bd : Sl Nat) (hs : (0 :: bd.toList).Pairwise (· < ·)) :
    ∀ (k i prev : Nat) (r : Option (Nat × Nat)), i + k = bd.toList.length → prev = i →
      (∀ t, t < i → bd.toList[t]? = some (t + 1)) →
      pickCell bd k i prev = .ok r →
      (r = none → ∀ t, t < bd.toList.length → bd.toList[t]? = some (t + 1)) ∧
      (∀ d sz, r = some (d, sz) → ∃ i', bd.toList[i']? = some d ∧ sz = d - i' ∧ 2 ≤ sz ∧
        ∀ t, t < i' → bd.toList[t]? = some (t + 1)) := by
  intro k
  induction k with
  | zero =>
    intro i prev r hik hprev hsing h
    rw [pickCell] at h
    cases h
    exact ⟨fun _ t ht => hsing t (by rw [← hik] at ht; exact ht), fun _ _ he => nomatch he⟩
  | succ k ih =>
    intro i prev r hik hprev hsing h
    rw [pickCell] at h
    cases hg : bd.get i with
    | panic => rw [hg] at h; cases h
    | outOfFuel => rw [hg] at h; cases h
    | ok d =>
      rw [hg] at h
      simp only at h
      have hd : bd.toList[i]? = some d := Sl.get_eq_toList.1 hg
      have hdi : i < d := by
        have hl := (List.getElem?_eq_some_iff.1 hd).1
        have := sorted_getElem_ge (0 :: bd.toList) hs (i + 1) (Nat.succ_lt_succ hl)
        rw [List.getElem_cons_succ, (List.getElem?_eq_some_iff.1 hd).2, List.getElem_cons_zero, Nat.zero_add] at this
        exact this
      by_cases hgt : d - prev > 1
      · rw [if_pos hgt] at h
        cases h
        refine ⟨fun he => (nomatch he), ?_⟩
        intro d' sz' he
        cases he
        exact ⟨i, hd, by rw [hprev], hgt, hsing⟩
      · rw [if_neg hgt] at h
        have hd1 : d = i + 1 := by omega
        exact ih (i + 1) d r (by rw [← hik, Nat.add_assoc, Nat.add_comm 1 k]) hd1
          (by
            intro t ht
            by_cases hti : t = i
            · subst hti; rw [hd, hd1]
            · exact hsing t (Nat.lt_of_le_of_ne (Nat.le_of_lt_succ ht) hti)) h

theorem innerNode_spec {n : Nat} {s s' : LS} {lv : List (Nat × Nat)} (hc : Core n s)
    (hl : LevelsOK s.op s.path s.choices lv) (hage : s.op.age = s.path.length)
    (hnl : s.op.binDividers.len ≠ n) (h : innerNode s = .ok s') :
    ∃ st sz, s' = { s with choices := (st + sz) :: s.choices, path := sz :: s.path, skipDeage := true } ∧
      LevelsOK s.op (sz :: s.path) ((st + sz) :: s.choices) ((st, sz) :: lv) ∧
      s.op.binDividers.toList[st]? = some (st + sz) ∧ 2 ≤ sz ∧
      ∀ t, t < st → s.op.binDividers.toList[t]? = some (t + 1) := by
  unfold innerNode at h
  have hbl : s.op.binDividers.toList.length = s.op.binDividers.len := hc.part.length_bd
  cases hp : pickCell s.op.binDividers s.op.binDividers.len 0 0 with
  | panic => rw [hp] at h; cases h
  | outOfFuel => rw [hp] at h; cases h
  | ok r =>
    rw [hp] at h
    obtain ⟨h1, h2⟩ := pickCell_spec s.op.binDividers hc.part.sorted _ 0 0 r (by rw [Nat.zero_add, hbl]) rfl
      (fun t ht => absurd ht (Nat.not_lt_zero t)) hp
    cases r with
    | none =>
      exfalso
      -- all bins are singletons: the last divider is its index + 1 = n
      have hall := h1 rfl
      have hpos := hc.part.bdLen_pos
      have hlast := hc.part.last
      rw [List.getLast?_eq_getElem?, hall _ (by omega)] at hlast
      have := Option.some.inj hlast
      omega
    | some x =>
      obtain ⟨d, sz⟩ := x
      simp only at h
      cases h
      obtain ⟨i', g1, g2, g3, g4⟩ := h2 d sz rfl
      have hdi : d = i' + sz := by
        rw [g2, Nat.add_sub_cancel' (Nat.le_of_succ_le (hc.part.bd_ge i' d g1))]
      subst hdi
      refine ⟨i', sz, rfl, ?_, g1, g3, g4⟩
      simp only [LevelsOK]
      refine ⟨?_, g3, trivial, Nat.le_refl _, hl⟩
      unfold IsBinAt
      rw [← hage, oldDivs_all hc.part.wfBd hc.part.wfAges hc.part.lenAges (ageInv_lt hc.age)]
      have hs' : s.op.binDividers.toList.Pairwise (· < ·) := (List.pairwise_cons.1 hc.part.sorted).2
      refine ⟨?_, List.mem_of_getElem? g1, ?_, fun t ht => List.mem_of_getElem? (g4 t ht)⟩
      · by_cases h0 : i' = 0
        · exact Or.inl h0
        · right
          have := g4 (i' - 1) (Nat.sub_lt (Nat.pos_of_ne_zero h0) Nat.one_pos)
          have hm := List.mem_of_getElem? this
          rwa [Nat.sub_add_cancel (Nat.pos_of_ne_zero h0)] at hm
      · intro e he hcon
        obtain ⟨t, ht⟩ := List.getElem?_of_mem he
        have htl := (List.getElem?_eq_some_iff.1 ht).1
        have htv := (List.getElem?_eq_some_iff.1 ht).2
        have hil := (List.getElem?_eq_some_iff.1 g1).1
        have hiv := (List.getElem?_eq_some_iff.1 g1).2
        rcases Nat.lt_trichotomy t i' with hlt | heq | hgt
        · have := g4 t hlt
          rw [ht] at this
          have := Option.some.inj this
          omega
        · subst heq; omega
        · have := List.pairwise_iff_getElem.1 hs' i' t hil htl hgt
          omega


theorem binIdx_of_cell (bd : List Nat) (hs : (0 :: bd).Pairwise (· < ·)) (t sz i : Nat)
    (hsing : ∀ j, j < t → bd[j]? = some (j + 1)) (hd : bd[t]? = some (t + sz)) (h1 : t ≤ i) (h2 : i < t + sz) :
    binIdx bd i = t := by
  have hbs : (0 :: bd)[t]? = some t := by
    cases t with
    | zero => rfl
    | succ q => rw [List.getElem?_cons_succ]; exact hsing q (Nat.lt_succ_self q)
  exact (binIdx_eq_iff_mem_bin (List.pairwise_cons.1 hs).2 hbs hd i).2 ⟨h1, h2⟩

theorem splitBin_phase1 {n : Nat} {nb : Nbrs} {cb fl : Sl Nat} {op op' : OP} {i : Nat} {w : Bool}
    (h : PartInv n op) (ha : AgeInv op) (hcl : CleanPrefix op) (hno : NoEarlierNbr nb op) (hcb : cb.len = 0)
    (hi : i < n) (hns : NonSingleton op.binDividers.toList i) (hbi : binIdx op.binDividers.toList i = op.spl)
    (hs : splitBin nb cb fl op i = .ok (w, op')) :
    w = false ∧ CleanPrefix op' ∧ NoEarlierNbr nb op' := by
  obtain ⟨op1, st, hif⟩ := splitBin_step h hi hs
  obtain ⟨p1, _, _⟩ := st.inv h ha hi hns
  have v1 := st.value
  have s1 := st.spl
  rw [if_pos hbi] at hif
  have hstart : binStartOf op.binDividers.toList i = op.spl := by
    unfold binStartOf
    rw [hbi]
    by_cases h0 : op.spl = 0
    · rw [if_pos h0, h0]
    · rw [if_neg h0, List.getD_eq_getElem?_getD, hcl.single (op.spl - 1) (Nat.sub_lt (Nat.pos_of_ne_zero h0) Nat.one_pos),
        Option.getD_some]
      exact Nat.sub_add_cancel (Nat.pos_of_ne_zero h0)
  have hbd := st.bd
  have hord := st.order
  rw [hbi, hstart] at hbd
  rw [hstart] at hord
  unfold moveFront at hord
  have hbl : op.binDividers.toList.length = op.binDividers.len := h.length_bd
  have hbl1 : op1.binDividers.toList.length = op1.binDividers.len := p1.length_bd
  have htk : (op.binDividers.toList.take op.spl).length = op.spl :=
    List.length_take_of_le (by rw [hbl]; exact hcl.le)
  have hpre : PrefixSingle op1 := by
    constructor
    · rw [s1, ← hbl1, hbd, List.length_append, htk]; exact Nat.le_add_right _ _
    · intro j hj
      rw [s1] at hj
      rw [hbd, List.getElem?_append_left (by rw [htk]; exact hj), List.getElem?_take, if_pos hj]
      exact hcl.single j hj
  have hno1 : NoEarlierNbr nb op1 := by
    intro hv j u v q hj hu hv' hq
    rw [v1] at hv
    rw [s1] at hj
    have hol : op.order.toList.length = n := h.length_order
    have hsn : op.spl ≤ n := Nat.le_trans hcl.le h.bdLen_le
    have hlow : ∀ q, q < op.spl → op1.order.toList[q]? = op.order.toList[q]? := by
      intro q hq
      rw [hord, List.getElem?_append_left (by rw [List.length_take_of_le (by rw [hol]; exact hsn)]; exact hq),
        List.getElem?_take, if_pos hq]
    rcases Nat.lt_or_ge q op.spl with hql | hqg
    · rw [hlow q hql] at hq
      rw [hlow j hj] at hu
      exact hno hv j u v q hj hu hv' hq
    · omega
  obtain ⟨r1, _, r3, r4, _, _⟩ := expandValue_phase1 hcb p1 hpre hno1 hif
  exact ⟨r1, r3, r4⟩


theorem LevelsOK_drop {op : OP} : ∀ (k : Nat) (path choices : List Nat) (lv : List (Nat × Nat)),
    LevelsOK op path choices lv → LevelsOK op (path.drop k) (choices.drop k) (lv.drop k) := by
  intro k
  induction k with
  | zero => intro path choices lv h; simpa using h
  | succ k ih =>
    intro path choices lv h
    match path, choices, lv, h with
    | [], [], [], _ => simp [LevelsOK]
    | p :: ps, c :: cs, (st, sz) :: ls, h =>
      simp only [List.drop_succ_cons]
      simp only [LevelsOK] at h
      exact ih ps cs ls h.2.2.2.2

theorem deageTimes_succ {k : Nat} {op op' : OP} :
    deageTimes (k + 1) op = .ok op' ↔ ∃ op1, deage op = .ok op1 ∧ deageTimes k op1 = .ok op' := by
  rw [deageTimes]
  cases deage op with
  | ok op1 => exact ⟨fun h => ⟨op1, rfl, h⟩, fun ⟨_, e, h⟩ => by cases e; exact h⟩
  | panic => exact ⟨fun h => (nomatch h), fun ⟨_, e, _⟩ => (nomatch e)⟩
  | outOfFuel => exact ⟨fun h => (nomatch h), fun ⟨_, e, _⟩ => (nomatch e)⟩

theorem deageTimes_spec {n : Nat} {nb : Nbrs} {cb fl : Sl Nat} {QA QN QS : OP → Prop} (hq : StepQ n nb cb fl QA QN QS) :
    ∀ (k : Nat) (op op' : OP), PartInv n op → AgeInv op → (k : Int) ≤ op.age → QN op →
    deageTimes k op = .ok op' →
    PartInv n op' ∧ AgeInv op' ∧ op'.age = op.age - k ∧
      (∀ a : Int, a ≤ op.age - k + 1 → oldDivs a op' = oldDivs a op) ∧ QN op' := by
  intro k
  induction k with
  | zero =>
    intro op op' hp ha _ hN h
    simp [deageTimes] at h; subst h
    exact ⟨hp, ha, by simp, fun _ _ => rfl, hN⟩
  | succ k ih =>
    intro op op' hp ha hk hN h
    obtain ⟨op1, hd, h⟩ := deageTimes_succ.1 h
    have hk' : (k : Int) + 1 ≤ op.age := by rw [← Int.natCast_succ]; exact hk
    have hpos : 0 < op.age := Int.lt_of_lt_of_le (Int.lt_add_one_iff.2 (Int.natCast_nonneg k)) hk'
    obtain ⟨d1, d2, d3, d4, _⟩ := deage_inv hp ha hpos hd
    obtain ⟨r1, r2, r3, r4, r5⟩ := ih op1 op' d1 d2 (by rw [d3]; omega)
      (hq.deage _ _ hp ha hpos (hq.na _ hN) hd) h
    have e : op.age - 1 - (k : Int) = op.age - ((k + 1 : Nat) : Int) := by rw [Int.natCast_succ]; omega
    refine ⟨r1, r2, by rw [r3, d3, e], ?_, r5⟩
    intro a ha'
    rw [← e] at ha'
    rw [r4 a (by rw [d3]; exact ha')]
    exact oldDivs_of_filter d4 a (Int.le_trans ha' (by omega))

/-- Heuristic 1: below the returned index the path agrees with `ref`; unless the whole path does, it differs from `ref`
just below it -/
theorem h1Index_prefix (path : List Nat) (ref : Sl Nat) : ∀ (k i r : Nat), h1Index path ref k i = .ok r →
    (∀ t, i ≤ t → t + 1 < r → t < i + k → ref.toList[t]? = some (path.getD t 0)) ∧
    (r = path.length ∨
      (i + 1 ≤ r ∧ r ≤ i + k ∧ ∃ rv, ref.toList[r - 1]? = some rv ∧ path.getD (r - 1) 0 ≠ rv)) := by
  intro k
  induction k with
  | zero =>
    intro i r h
    simp only [h1Index] at h
    injection h with h
    exact ⟨fun t _ _ h3 => absurd h3 (by omega), Or.inl h.symm⟩
  | succ k ih =>
    intro i r h
    rw [h1Index] at h
    cases hg : ref.get i with
    | ok rv =>
      rw [hg] at h; simp only at h
      have hg' := Sl.get_eq_toList.1 hg
      by_cases hne : path.getD i 0 ≠ rv
      · rw [if_pos hne] at h
        injection h with h
        subst h
        exact ⟨fun t h1 h2 _ => absurd h2 (by omega), Or.inr ⟨Nat.le_refl _, by omega, rv, hg', hne⟩⟩
      · rw [if_neg hne] at h
        have heq : path.getD i 0 = rv := Classical.not_not.1 hne
        obtain ⟨a1, a2⟩ := ih (i + 1) r h
        refine ⟨fun t h1 h2 h3 => ?_, ?_⟩
        · by_cases hti : t = i
          · subst hti; rw [hg', heq]
          · exact a1 t (by omega) h2 (by omega)
        · rcases a2 with e | ⟨b1, b2, b3⟩
          · exact Or.inl e
          · exact Or.inr ⟨by omega, by omega, b3⟩
    | panic => rw [hg] at h; simp at h
    | outOfFuel => rw [hg] at h; simp at h

theorem h1Index_spec (path : List Nat) (ref : Sl Nat) (k i r : Nat) (h : h1Index path ref k i = .ok r) :
    r = path.length ∨ (i + 1 ≤ r ∧ r ≤ i + k) :=
  (h1Index_prefix path ref k i r h).2.imp_right fun ⟨a, b, _⟩ => ⟨a, b⟩

theorem backJump_ok {s s' : LS} {ref : Sl Nat} :
    backJump s ref = .ok s' ↔
      ∃ idx op', h1Index s.path.reverse ref (s.path.length - 1) 0 = .ok idx ∧
        deageTimes (s.path.length - idx) s.op = .ok op' ∧
        s' = { s with op := op', path := s.path.drop (s.path.length - idx),
                      choices := s.choices.drop (s.choices.length - idx) } := by
  unfold backJump
  simp only [List.length_reverse, List.take_reverse, List.reverse_reverse]
  constructor
  · intro h
    split at h
    · rename_i idx hi
      split at h
      · rename_i op' hd; exact ⟨idx, op', hi, hd, (Outcome.ok.inj h).symm⟩
      · cases h
      · cases h
    · cases h
    · cases h
  · rintro ⟨idx, op', e1, e2, rfl⟩
    simp only [e1, e2]

theorem backJump_spec {n : Nat} {nb : Nbrs} {cb fl : Sl Nat} {QA QN QS : OP → Prop} (hq : StepQ n nb cb fl QA QN QS)
    {s s' : LS} {lv : List (Nat × Nat)} {ref : Sl Nat} (hc : Core n s)
    (hl : LevelsOK s.op s.path s.choices lv) (hage : s.op.age = s.path.length) (hN : QN s.op)
    (h : backJump s ref = .ok s') :
    ∃ lv', Core n s' ∧ LevelsOK s'.op s'.path s'.choices lv' ∧ s'.op.age = s'.path.length ∧
      s' = { s with op := s'.op, path := s'.path, choices := s'.choices } ∧ QN s'.op := by
  obtain ⟨idx1, op', hi, hd, rfl⟩ := backJump_ok.1 h
  have hidx := h1Index_spec _ _ _ _ _ hi
  simp only [List.length_reverse] at hidx
  have hk : ((s.path.length - idx1 : Nat) : Int) ≤ s.op.age := by omega
  obtain ⟨r1, r2, r3, r4, r5⟩ := deageTimes_spec hq _ _ _ hc.part hc.age hk hN hd
  obtain ⟨l1, l2⟩ := LevelsOK_length _ _ _ hl
  refine ⟨lv.drop (s.path.length - idx1), Core.of_frame hc (by unfold StepFrame; rfl) r1 r2, ?_, ?_, rfl, r5⟩
  · show LevelsOK op' (s.path.drop _) (s.choices.drop _) _
    rw [l1]
    apply LevelsOK_frame r4
    · simp only [List.length_drop]; omega
    · exact LevelsOK_drop _ _ _ _ hl
  · show op'.age = ((s.path.drop _).length : Nat)
    simp only [List.length_drop]; rw [r3]; omega

end CanonF
