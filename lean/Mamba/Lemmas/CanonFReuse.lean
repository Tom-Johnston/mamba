import Mamba.Lemmas.CanonFTotal
/-!
# Storage reuse

A partition value that has been `Reset` has the initial facts of a new one: `reset op n m vc` on ANY partition value of
sufficient capacity (arbitrary stale contents and lengths) yields a partition with the invariants of
`newOrderedPartition n m vc`, the same initial IR state, and the capacities of `op` (`reset_init_facts`).
A run of `CanonicalIsomorphAllocated` never shrinks a backing array: `SizeInv n N M` (CanonFCapJ.lean) through the whole
call: `allocated_sizeInv` (general path), `edgeless_keeps_caps` (the `m = 0` shortcut).
-/
namespace CanonF

theorem reset_init_facts {n m : Nat} {vc : Classes} (nb : Nbrs) (op : OP) (hn : 0 < n) (hc : ClassesOK n vc)
    (c1 : n ≤ op.order.data.size) (c2 : n ≤ op.inCell.data.size) (c3 : n ≤ op.binDividers.data.size)
    (c4 : n ≤ op.binAges.data.size) (c5 : n ≤ op.binsToCheck.data.size) (c6 : m ≤ op.value.data.size) :
    ∃ opN opR, newOrderedPartition n m vc = .ok (some opN) ∧ reset op n m vc = .ok opR ∧
      PartInv n opR ∧ AgeInv opR ∧ opR.age = 0 ∧ opR.spl = 0 ∧ opR.value.len = 0 ∧ opR.value.WF ∧
      Match n opR (IR.initSt (irG n nb) opR.binDividers.len (cellOf opR)) ∧ BtcInv opR ∧ BinsSorted opR ∧
      opR.binDividers.len = opN.binDividers.len ∧ (∀ v, cellOf opR v = cellOf opN v) ∧ OpCap n m opR := by
  obtain ⟨opN, hN, hsN, _⟩ := new_spec (m := m) hn hc
  obtain ⟨opR, hR, hs, z1, z2, z3, z4, z5, z6, hwf, _⟩ := reset_spec (m := m) op hn hc c1 c2 c3 c4 c5 c6
  obtain ⟨hp, ha⟩ := hs.partInv hn hc
  obtain ⟨hm0, hb0⟩ := hs.init_match hwf nb
  refine ⟨opN, opR, hN, hR, hp, ha, hs.age, hs.spl, hs.value, ?_, hm0, hb0, hs.binsSorted hn hc, ?_, ?_,
    ⟨z1 ▸ c1, z2 ▸ c2, z3 ▸ c3, z4 ▸ c4, z5 ▸ c5, by rw [z6]; exact c6⟩⟩
  · show opR.value.len ≤ opR.value.data.size
    rw [hs.value]
    exact Nat.zero_le _
  · rw [hs.bdLen, hsN.bdLen]
  · intro v
    unfold cellOf
    rw [InitSpec.inCell_eq hn hc hs hsN]

theorem SizeInv.storeBack {n N M : Nat} {s : LS} (h : SizeInv n N M s) (st : Storage) {bestRest flRest : Array Int}
    (hb : N ≤ n + bestRest.size) (hf : N ≤ n + flRest.size) : StorageOK N M (storeBack st s bestRest flRest) :=
  ⟨h.gens, h.cb, h.bpath, h.bperm, h.bpinv, by show N ≤ (s.bestOrbits ++ bestRest).size; rw [Array.size_append, h.borb]; exact hb,
    h.fl, h.fpinv, by show N ≤ (s.flOrbits ++ flRest).size; rw [Array.size_append, h.forb]; exact hf, h.fpath,
    h.sc.space, h.sc.dws, h.sc.nbs, h.sc.ts, h.sc.mc, h.sc.nm⟩

theorem allocated_sizeInv {fuel n m : Nat} {nb : Nbrs} {op0 : OP} {st : Storage} {r : Res} {opR : Option OP}
    {stR : Storage} (hn : n ≠ 0) (hgen : m = 0 → op0.binDividers.len ≠ 1)
    (hp : PartInv n op0) (ha : AgeInv op0) (hage : op0.age = 0)
    (h : canonicalIsomorphAllocated fuel n m nb (some op0) st {} = .ok (r, opR, stR)) {N M : Nat}
    (hS : StorageOK N M st) (hop : OpCap N M op0) :
    ∃ s bestRest flRest, SizeInv n N M s ∧ opR = some s.op ∧ stR = storeBack st s bestRest flRest ∧
      n + bestRest.size = st.currentBestOrbits.size ∧ n + flRest.size = st.firstLeafOrbits.size := by
  obtain ⟨hsl, w, op1, sc1, href, ⟨hv, _⟩ | ⟨_, w2, op2, s, hexp, hmain, hx⟩⟩ := (allocated_iff hn hgen).1 h
  · cases hv
  obtain ⟨rfl, rfl, rfl⟩ : r = _ ∧ opR = _ ∧ stR = _ :=
    ⟨(Prod.mk.inj hx).1, (Prod.mk.inj (Prod.mk.inj hx).2).1, (Prod.mk.inj (Prod.mk.inj hx).2).2⟩
  have hsc := scratchSt_ok hsl
  obtain rfl := refine_not_worse (cb := ⟨st.currentBest, 0⟩) rfl rfl href
  have c := ScCap.of_refine (N := N) hp ha hsc href ⟨hS.dws, hS.nbs, hS.space, hS.ts, hS.mc, hS.nm⟩
  have sz {k : Nat} {a : Array Int} (hk : k ≤ a.size) : (a.extract 0 k).size = k ∧ k + (a.extract k a.size).size = a.size := by
    rw [Array.size_extract, Array.size_extract, Nat.min_eq_left hk, Nat.min_self, Nat.sub_zero]
    exact ⟨rfl, Nat.add_sub_of_le hk⟩
  refine ⟨s, _, _, (mainLoop_core stablePerm ((MainJ.trivial n m nb).extend (sizeMainJX (N := N) (M := M))) fuel false _ s []
    (entrySt_minv stablePerm hsl hp ha hage href hexp) (fun _ => rfl) (by simp [entrySt, LevelsOK]) ⟨trivial, ?_⟩ hmain).2.2,
    rfl, rfl, (sz hsl.borb).2, (sz hsl.forb).2⟩
  exact ⟨hop.mono ((OpGe.of_refine hp ha hsc href).trans (OpGe.of_expandValue hexp)), ⟨c.dws, c.nbs, c.space, c.ts, c.mc, c.nm⟩,
    hS.cb, hS.fl, hS.bpath, hS.bperm, hS.bpinv, hS.fpinv, hS.fpath, hS.gens, (sz hsl.borb).1, (sz hsl.forb).1⟩

theorem edgeless_keeps_caps {n : Nat} {st st' : Storage} {r : Res} (h : edgeless n st = .ok (r, st')) (N M : Nat)
    (hS : StorageOK N M st) : StorageOK N M st' := by
  obtain ⟨_, e, z1, z2, z3⟩ := edgeless_result h
  rw [e]
  exact ⟨by show N ≤ st'.generators.size + 1; rw [z3]; exact hS.gens, hS.cb, hS.bpath,
    by show N ≤ st'.currentBestPerm.size; rw [z1]; exact hS.bperm, hS.bpinv, hS.borb, hS.fl, hS.fpinv,
    by show N ≤ st'.firstLeafOrbits.size; rw [z2]; exact hS.forb, hS.fpath, hS.space, hS.dws, hS.nbs, hS.ts, hS.mc, hS.nm⟩

end CanonF
