import Mamba.Lemmas.DistanceEvenSets
import Mamba.Lemmas.DistanceCycles
/-!
# Gibbs' selection keeps only simple cycles

Step 3 is run on the list `R` of the sets `t XOR fc` that meet `fc`. Every element `V` of `R` is even and contains the
private non-tree edge of `fc`, so it contains a simple cycle `W` through that edge; `W` is again the XOR of `fc` and
earlier fundamental cycles meeting `fc`, i.e. an element of `R` (`gibbs_stage`). By `gibbsStep3_kept_all` what
step 3 keeps is therefore a simple cycle, and so is everything in `S` at the end (`gibbs_kept_cycle`), with at most
`n` edges.
-/
namespace GDist
open GraphSpec Model

variable {a : G}

theorem gibbs_stage {st : PatonSt} {nt : List (Nat × Nat)} (F : PFinal a st nt)
    (hsym : ∀ u v, a.adj u v = a.adj v u) (hirr : ∀ v, a.adj v v = false)
    {Fp rest : List (List Nat)} {fc : List Nat} (hfund : st.fund = Fp ++ fc :: rest)
    {Q : List (List Nat)} (hq : QInv Fp Q) (hqe : ∀ t ∈ Q, EvenSet a.n t) {R0 : List (List Nat)}
    (hR0 : ∀ V, V ∈ R0 ↔ ∃ t ∈ Q, V = sXor t fc ∧ (sXor t fc).length ≠ t.length + fc.length) :
    (∀ V ∈ R0, V.Pairwise (· < ·)) ∧ ∀ V ∈ R0, ∃ W ∈ R0, IsCycCode a W ∧ ∀ x ∈ W, x ∈ V := by
  obtain ⟨hlen, hZ1, hZ2, hleft, hright, hfnd⟩ := zip_facts F hirr
  have hfcm : fc ∈ st.fund := by rw [hfund]; simp
  have hFpsub : ∀ f ∈ Fp, f ∈ st.fund := fun f hf => by rw [hfund]; exact List.mem_append.2 (.inl hf)
  have hfcc : IsCycCode a fc := F.pi.cyc fc hfcm
  have hfcs := isCycCode_strict hfcc
  have hfce := isCycCode_even hfcc
  rw [hfund] at hfnd
  have hfcFp : fc ∉ Fp := fun h => (List.nodup_append.1 hfnd).2.2 fc h fc (by simp) rfl
  have hrestFp : ∀ f ∈ rest, f ∉ Fp ∧ f ≠ fc := by
    intro f hf
    refine ⟨fun h => (List.nodup_append.1 hfnd).2.2 f h f (List.mem_cons_of_mem _ hf) rfl, ?_⟩
    have := (List.nodup_cons.1 (List.nodup_append.1 hfnd).2.1).1
    intro h; exact this (h ▸ hf)
  -- the private non-tree edge of `fc`
  have hpair : ∀ f ∈ st.fund, ∃ ε, (f, ε) ∈ st.fund.zip nt := by
    intro f hf
    rw [← hZ1] at hf
    obtain ⟨p, hp, rfl⟩ := List.mem_map.1 hf
    exact ⟨p.2, hp⟩
  obtain ⟨ε, hε⟩ := hpair fc hfcm
  have hεnt : ε ∈ nt := (List.of_mem_zip hε).2
  have hRfc : FundOf a st.T fc ε := (List.forall₂_iff_zip.1 F.pi.fnt).2 hε
  obtain ⟨hp, hq', hadjε, _, _⟩ := F.pc.rin ε (F.pi.ntrm ε hεnt)
  have hpq : ε.1 ≠ ε.2 := by
    intro h0; rw [h0, hirr] at hadjε; cases hadjε
  -- a private code lying in a fundamental cycle identifies it
  have hpriv : ∀ f ε', (f, ε') ∈ st.fund.zip nt → ∀ f2 ∈ st.fund, edgeCode ε'.1 ε'.2 ∈ f2 → f2 = f := by
    intro f ε' hfε' f2 hf2 hin
    obtain ⟨ε2, hε2⟩ := hpair f2 hf2
    have := (fund_private F hirr hε2 (List.of_mem_zip hfε').2).1 hin
    subst this
    exact hleft f2 ε' f hε2 hfε'
  constructor
  · intro V hV
    obtain ⟨t, ht, rfl, _⟩ := (hR0 V).1 hV
    obtain ⟨I, _, _, hIt⟩ := hq.sound t ht
    exact (sXor_spec t fc hIt.1 hfcs).1
  · intro V hV
    obtain ⟨t, ht, rfl, hcond⟩ := (hR0 V).1 hV
    obtain ⟨I, hI0, hIsub, hIt⟩ := hq.sound t ht
    obtain ⟨hVs, hVm⟩ := sXor_spec t fc hIt.1 hfcs
    have hVe : EvenSet a.n (sXor t fc) := even_sXor (hqe t ht) hfce
    have htI : ∀ x ∈ t, ∃ f ∈ I, x ∈ f := fun x hx => hIt.exists_mem hx
    -- the private edge of `fc` is not in `t`, hence it is in `V`
    have heV : edgeCode ε.1 ε.2 ∈ sXor t fc := by
      rw [hVm]
      right
      refine ⟨fun hx => ?_, hRfc.1⟩
      obtain ⟨f, hf, hxf⟩ := htI _ hx
      have := hpriv fc ε hε f (hFpsub f (hIsub.subset hf)) hxf
      exact hfcFp (this ▸ hIsub.subset hf)
    -- a cycle through it inside `V`
    obtain ⟨c, hclen, hcnd, hcn, _, _, hcsub, hcin⟩ :=
      even_edge_on_cycle (hVs.imp (fun h => Nat.ne_of_lt h)) hVe hp hq' hpq heV
    -- the codes of `V` are codes of edges of the block
    have hVedge : ∀ z ∈ sXor t fc, ∃ p q, p < a.n ∧ q < a.n ∧ a.adj p q = true ∧ z = edgeCode p q := by
      intro z hz
      rcases sXor_subset t fc z hz with h | h
      · obtain ⟨f, hf, hzf⟩ := htI z h
        exact cycCode_edges hsym (F.pi.cyc f (hFpsub f (hIsub.subset hf))) z hzf
      · exact cycCode_edges hsym hfcc z h
    have hadjV : ∀ x y, (codeG a.n (sXor t fc)).adj x y = true → a.adj x y = true := by
      intro x y hxy
      obtain ⟨hne, _, _, hin⟩ := codeG_adj.1 hxy
      obtain ⟨p, q, _, _, hpqa, hz⟩ := hVedge _ hin
      have hpq' : p ≠ q := by intro h0; rw [h0, hirr] at hpqa; cases hpqa
      rcases normE_eq (edgeCode_inj (e := (x, y)) (e' := (p, q)) hne hpq' hz) with h | h
      · rw [h.1, h.2]; exact hpqa
      · rw [h.1, h.2, hsym]; exact hpqa
    obtain ⟨_, _, _, hch, hcl⟩ := isCycleSeq_of_codes hclen hcnd hcn hcsub
    have hcyc : IsCycleSeq a c := ⟨hclen, hcnd, hcn, chainAdj_mono hadjV c hch, hadjV _ _ hcl⟩
    have hW : IsCycCode a (sortInts (cycCodes c)) := ⟨c, hcyc, rfl⟩
    have hWsub : ∀ x ∈ sortInts (cycCodes c), x ∈ sXor t fc := fun x hx => hcsub x (mem_sortInts.1 hx)
    have heW : edgeCode ε.1 ε.2 ∈ sortInts (cycCodes c) := mem_sortInts.2 hcin
    refine ⟨_, ?_, hW, hWsub⟩
    -- `W` is an element of `R0`
    have hWne : sortInts (cycCodes c) ≠ [] := List.ne_nil_of_mem heW
    obtain ⟨IW, hIW0, hIWsub, hIWx, hIWm⟩ := even_span F hirr (isCycCode_strict hW) (isCycCode_even hW) hWne
      (fun x hx => by
        obtain ⟨p, q, hp', hq'', hadj, hz⟩ := cycCode_edges hsym hW x hx
        rw [hz]; exact edge_class F hsym hp' hq'' hadj)
    have hfcIW : fc ∈ IW := (hIWm fc ε hε).2 heW
    have hIWin : ∀ f ∈ IW, f ∈ Fp ∨ f = fc := by
      intro f hf
      obtain ⟨ε', hε'⟩ := hpair f (hIWsub.subset hf)
      have hin := hWsub _ ((hIWm f ε' hε').1 hf)
      rcases sXor_subset t fc _ hin with h | h
      · obtain ⟨f2, hf2, hzf2⟩ := htI _ h
        have := hpriv f ε' hε' f2 (hFpsub f2 (hIsub.subset hf2)) hzf2
        exact .inl (this ▸ hIsub.subset hf2)
      · exact .inr (hpriv f ε' hε' fc hfcm h).symm
    -- split `IW` into its part in `Fp` and `[fc]`
    rw [hfund] at hIWsub
    obtain ⟨I1, I2, rfl, hI1, hI2⟩ := List.sublist_append_iff.1 hIWsub
    have hI2eq : I2 = [fc] := by
      -- everything in `I2` is `fc` or lies in `rest`, and nothing in `rest` is in `IW`
      have hrest : ∀ f ∈ I2, f ∈ rest → False := fun f hf hr =>
        (hIWin f (List.mem_append.2 (.inr hf))).elim (hrestFp f hr).1 (hrestFp f hr).2
      rcases List.sublist_cons_iff.1 hI2 with h | ⟨r, rfl, hr⟩
      · rcases List.mem_append.1 hfcIW with hm | hm
        · exact absurd (hI1.subset hm) hfcFp
        · exact (hrest fc hm (h.subset hm)).elim
      · rw [List.eq_nil_iff_forall_not_mem.2 fun f hf => hrest f (List.mem_cons_of_mem _ hf) (hr.subset hf)]
    subst hI2eq
    -- `fc ⊆ V` is impossible
    have hnotsub : ∀ s, s.Pairwise (· < ·) → (sXor s fc).length ≠ s.length + fc.length →
        ¬ ∀ x ∈ fc, x ∈ sXor s fc := by
      intro s hs hc hsubfc
      exact hc (sXor_length_disjoint hs hfcs (disjoint_of_sub_sXor hs hfcs hsubfc))
    have hI10 : I1 ≠ [] := by
      intro h0; subst h0
      have : sortInts (cycCodes c) = fc := isXorOf_ext hIWx (by simpa using isXorOf_single hfcs)
      exact hnotsub t hIt.1 hcond (fun x hx => hWsub x (this ▸ hx))
    obtain ⟨t', ht'Q, ht'x⟩ := hq.complete I1 hI10 hI1
    have hWeq : sortInts (cycCodes c) = sXor t' fc := isXorOf_ext hIWx (isXorOf_snoc ht'x hfcs)
    rw [hR0]
    refine ⟨t', ht'Q, hWeq, ?_⟩
    intro hlen'
    have hdisj : ∀ x ∈ fc, x ∈ sXor t' fc := by
      intro x hx
      have hl := sXor_length ht'x.1 hfcs
      have hz : (t'.filter fun y => decide (y ∈ fc)).length = 0 := by omega
      have hxt' : x ∉ t' := fun h => by
        have : x ∈ t'.filter fun y => decide (y ∈ fc) := List.mem_filter.2 ⟨h, by simpa using hx⟩
        rw [List.length_eq_zero_iff.1 hz] at this; cases this
      exact ((sXor_spec t' fc ht'x.1 hfcs).2 x).2 (.inr ⟨hxt', hx⟩)
    exact hnotsub t hIt.1 hcond (fun x hx => hWsub x (hWeq ▸ hdisj x hx))


theorem gibbs_step_good {pst : PatonSt} {nt : List (Nat × Nat)} (F : PFinal a pst nt)
    (hsym : ∀ u v, a.adj u v = a.adj v u) (hirr : ∀ v, a.adj v v = false)
    {Fp rest : List (List Nat)} {fc : List Nat} (hfund : pst.fund = Fp ++ fc :: rest) {st : GibbsSt}
    (hq : QInv Fp st.Q) (hqe : ∀ t ∈ st.Q, EvenSet a.n t) (hS : ∀ V ∈ st.S, IsCycCode a V)
    {R' : Array (List Nat)} {P' : List (List Nat)}
    (hstep : gibbsStep3 (gibbsR st.Q fc).length (gibbsR st.Q fc).toArray [] = .ok (R', P')) :
    ∀ V ∈ (gibbsNext st fc R').S, IsCycCode a V := by
  obtain ⟨hs0, hC⟩ := gibbs_stage F hsym hirr hfund hq hqe (fun V => mem_gibbsR)
  intro V hV
  simp only [gibbsNext, List.mem_append, List.mem_singleton] at hV
  rcases hV with (hV | hV) | hV
  · exact hS V hV
  · exact gibbsStep3_kept_all (IsCycCode a) _ hs0 hC R' P' hstep V hV
  · rw [hV]; exact F.pi.cyc fc (by rw [hfund]; simp)

theorem gibbs_kept_cycle (a : G) (hsym : ∀ u v, a.adj u v = a.adj v u) (hirr : ∀ v, a.adj v v = false)
    (hn : 0 < a.n) (hconn : ∀ x, x < a.n → Reach a 0 x) (fuel : Nat) (st : PatonSt)
    (hres : patonLoop a fuel (patonInit a.n) = .ok st)
    (f0 : List Nat) (fs : List (List Nat)) (hfund : st.fund = f0 :: fs) (gs : GibbsSt)
    (hg : gibbsLoop fs { S := [f0], Q := [f0] } = .ok gs) :
    ∀ V ∈ gs.S, IsCycCode a V ∧ V.length ≤ a.n := by
  obtain ⟨nt, F⟩ := paton_final a hsym hirr hn hconn fuel st hres
  have h0 : IsCycCode a f0 := F.pi.cyc f0 (by rw [hfund]; simp)
  have hgood := (gibbsLoop_ind
    (fun Fp fcs s => st.fund = Fp ++ fcs ∧ (QInv Fp s.Q ∧ (∀ t ∈ s.Q, EvenSet a.n t) ∧ ∀ V ∈ s.S, V ∈ s.Q) ∧
      ∀ V ∈ s.S, IsCycCode a V)
    (fun Fp fc fcs s R' P' ⟨hf, hinv, hS⟩ hstep =>
      ⟨by rw [hf, List.append_assoc]; rfl,
        gibbs_step_inv (F.pi.cyc fc (by rw [hf]; simp)) hinv hstep,
        gibbs_step_good F hsym hirr hf hinv.1 hinv.2.1 hS hstep⟩)
    fs { S := [f0], Q := [f0] } [f0]
    ⟨hfund, ⟨qinv_init (isCycCode_strict h0), fun t ht => by rw [List.mem_singleton.1 ht]; exact isCycCode_even h0,
      fun V hV => hV⟩, fun V hV => by rw [List.mem_singleton.1 hV]; exact h0⟩ gs hg).2.2
  intro V hV
  have hc := hgood V hV
  refine ⟨hc, ?_⟩
  obtain ⟨c, hcyc, rfl⟩ := hc
  have hlen : (sortInts (cycCodes c)).length = c.length := by
    rw [← cycCodes_length hcyc.ne_nil]
    exact (List.mergeSort_perm _ _).length_eq
  rw [hlen]
  exact hcyc.length_le

end GDist
