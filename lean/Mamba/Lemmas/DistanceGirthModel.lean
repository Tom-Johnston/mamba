import Mamba.Lemmas.DistanceModel
/-!
# Lemmas for C10: the faithful model of `Girth` is total (no panic, fuel `n + 2` suffices)
-/
namespace GDist
open GraphSpec

structure GOk (n : Nat) (st : Model.GirthSt) : Prop where
  dsize : st.D.size = n
  psize : st.P.size = n
  qlt : ∀ x ∈ st.Q, x < n

theorem girthInner_cons {i k dk pk j : Nat} {js : List Nat} {st : Model.GirthSt}
    (hD : j < st.D.size) (hP : j < st.P.size) :
    (j = pk → Model.girthInner i k dk pk (j :: js) st = Model.girthInner i k dk pk js st) ∧
    (j ≠ pk → j = i → Model.girthInner i k dk pk (j :: js) st =
      Model.girthInner i k dk pk js (if dk + 1 < st.girth then { st with girth := dk + 1 } else st)) ∧
    (j ≠ pk → j ≠ i → lbl st.D j = 0 → Model.girthInner i k dk pk (j :: js) st =
      Model.girthInner i k dk pk js (if dk + 2 < st.girth then
        { st with P := st.P.set j k hP, D := st.D.set j (dk + 1) hD, Q := st.Q ++ [j] } else st)) ∧
    (j ≠ pk → j ≠ i → lbl st.D j ≠ 0 → Model.girthInner i k dk pk (j :: js) st =
      Model.girthInner i k dk pk js
        (if dk + lbl st.D j + 1 < st.girth then { st with girth := dk + lbl st.D j + 1 } else st)) := by
  have hl := lbl_of_lt hD
  refine ⟨fun h => ?_, fun h1 h2 => ?_, fun h1 h2 h3 => ?_, fun h1 h2 h3 => ?_⟩
  · rw [Model.girthInner, if_neg (fun hne : j ≠ pk => hne h)]
  · rw [Model.girthInner, if_pos h1, dif_pos hD]
    by_cases hg : dk + 1 < st.girth
    · rw [if_pos ⟨h2, hg⟩, if_pos hg]
    · rw [if_neg (fun h => hg h.2), if_neg (fun h => h.1 h2), if_neg (fun h => h.1 h2), if_neg hg]
  · rw [Model.girthInner, if_pos h1, dif_pos hD, if_neg (fun h => h2 h.1), if_pos ⟨h2, hl.trans h3⟩]
    by_cases hg : dk + 2 < st.girth
    · rw [if_pos hg, dif_pos hP, if_pos hg]
    · rw [if_neg hg, if_neg hg]
  · rw [Model.girthInner, if_pos h1, dif_pos hD, if_neg (fun h => h2 h.1),
      if_neg (fun h => h3 (hl.symm.trans h.2)), hl]
    by_cases hg : dk + lbl st.D j + 1 < st.girth
    · rw [if_pos ⟨h2, hg⟩, if_pos hg]
    · rw [if_neg (fun h => hg h.2), if_neg hg]

theorem girthInner_total {n : Nat} (i k dk pk : Nat) :
    ∀ (js : List Nat) (st : Model.GirthSt), GOk n st → (∀ j ∈ js, j < n) →
      ∃ st', Model.girthInner i k dk pk js st = .ok st' ∧ GOk n st' ∧
        st'.Q.length + st'.D.count 0 = st.Q.length + st.D.count 0 := by
  intro js
  induction js with
  | nil => intro st ok _; exact ⟨st, rfl, ok, rfl⟩
  | cons j js ih =>
    intro st ok hjs
    have hj : j < n := hjs j List.mem_cons_self
    have hjs' : ∀ x ∈ js, x < n := fun x hx => hjs x (List.mem_cons_of_mem _ hx)
    have hjD : j < st.D.size := by rw [ok.dsize]; exact hj
    have hjP : j < st.P.size := by rw [ok.psize]; exact hj
    obtain ⟨e1, e2, e3, e4⟩ := girthInner_cons (i := i) (k := k) (dk := dk) (pk := pk) (js := js) hjD hjP
    -- a new girth value changes neither the arrays nor the queue
    have hgirth := fun v => ih { st with girth := v } ⟨ok.dsize, ok.psize, ok.qlt⟩ hjs'
    by_cases h1 : j = pk
    · rw [e1 h1]; exact ih st ok hjs'
    by_cases h2 : j = i
    · rw [e2 h1 h2]; split
      · exact hgirth _
      · exact ih st ok hjs'
    by_cases h3 : lbl st.D j = 0
    · rw [e3 h1 h2 h3]; split
      · obtain ⟨st', e, ok', hc⟩ := ih { st with P := st.P.set j k hjP, D := st.D.set j (dk + 1) hjD, Q := st.Q ++ [j] }
          ⟨(Array.size_set hjD).trans ok.dsize, (Array.size_set hjP).trans ok.psize, fun x hx =>
            (List.mem_append.1 hx).elim (ok.qlt x) fun h => by rw [List.mem_singleton.1 h]; exact hj⟩ hjs'
        exact ⟨st', e, ok', hc.trans (measure_label _ hjD ((lbl_of_lt hjD).trans h3))⟩
      · exact ih st ok hjs'
    · rw [e4 h1 h2 h3]; split
      · exact hgirth _
      · exact ih st ok hjs'

theorem girthOuter_total (g : G) (i : Nat) :
    ∀ (fuel : Nat) (st : Model.GirthSt), GOk g.n st → st.Q.length + st.D.count 0 + 1 ≤ fuel →
      ∃ st', Model.girthOuter g i fuel st = .ok st' ∧ GOk g.n st' := by
  intro fuel
  induction fuel with
  | zero => intro st _ hf; omega
  | succ f ih =>
    intro st ok hf
    unfold Model.girthOuter
    match hQ : st.Q with
    | [] => exact ⟨st, by simp, ok⟩
    | k :: Q =>
      have hk : k < g.n := ok.qlt k (by rw [hQ]; exact List.mem_cons_self)
      have hkD : k < st.D.size := by rw [ok.dsize]; exact hk
      have hkP : k < st.P.size := by rw [ok.psize]; exact hk
      have ok2 : GOk g.n { st with Q := Q } :=
        ⟨ok.dsize, ok.psize, fun x hx => ok.qlt x (by rw [hQ]; exact List.mem_cons_of_mem _ hx)⟩
      obtain ⟨st', e, ok', hc⟩ := girthInner_total (n := g.n) i k st.D[k] st.P[k] (g.nbrs k) { st with Q := Q } ok2
        (fun v hv => (G.mem_nbrs.1 hv).1)
      simp only [hkD, hkP, dif_pos, e]
      apply ih st' ok'
      rw [hc]
      rw [hQ] at hf
      simp only [List.length_cons] at hf
      simpa using (by omega : Q.length + st.D.count 0 + 1 ≤ f)

theorem girthRoots_total (g : G) (fuel : Nat) (hf : g.n + 2 ≤ fuel) :
    ∀ (roots : List Nat) (st : Model.GirthSt), (∀ r ∈ roots, r < g.n) → st.P.size = g.n →
      ∃ st', Model.girthRoots g fuel roots st = .ok st' := by
  intro roots
  induction roots with
  | nil => intro st _ _; exact ⟨st, rfl⟩
  | cons i is ih =>
    intro st hr hP
    have hi : i < g.n := hr i List.mem_cons_self
    obtain ⟨st', e, ok'⟩ := girthOuter_total g i fuel { st with D := Array.replicate g.n 0, Q := [i] }
      ⟨by simp, hP, by intro x hx; simp at hx; subst hx; exact hi⟩
      (by simp only [List.length_cons, List.length_nil, Array.count_replicate_self]; omega)
    simp only [Model.girthRoots, e]
    exact ih st' (fun r hr' => hr r (List.mem_cons_of_mem _ hr')) ok'.psize

theorem girthM_total (g : G) (fuel : Nat) (hf : g.n + 2 ≤ fuel) : ∃ r, Model.girthM g fuel = .ok r := by
  unfold Model.girthM
  by_cases hn : g.n < 3
  · exact ⟨-1, by rw [if_pos hn]⟩
  · rw [if_neg hn]
    obtain ⟨st', e⟩ := girthRoots_total g fuel hf (List.range (g.n - 2))
      { girth := g.n + 2, D := Array.replicate g.n 0, P := Array.replicate g.n 0, Q := [] }
      (fun r hr => Nat.lt_of_lt_of_le (List.mem_range.1 hr) (Nat.sub_le _ _)) Array.size_replicate
    rw [e]
    simp only
    split
    · exact ⟨_, rfl⟩
    · exact ⟨_, rfl⟩

end GDist
