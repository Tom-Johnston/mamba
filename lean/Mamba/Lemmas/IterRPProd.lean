import Mamba.Lemmas.IterProd
import Mamba.Lemmas.IterGeneric
import Mamba.Lemmas.IterSlice
import Mamba.Lemmas.IterBacktrack
/-! `RestrictedPrefixProduct(t, dims...)`: the goto machine of `Next` follows the backtracking search (`IterBacktrack`)
on the tree of prefixes `treeT` (`rpprod_step`: x1 enters a level, x3 tries, x2 tries again or backtracks), so each call
returns the next accepted tuple (`RPProd.next_owes`); the search lists the filter of the unrestricted product
(`subT_eq`).  The specification (`rpprodList`, `subT`) stands at the top, in `namespace Iter.Spec`.  The notions of the
backtracking layer as instantiated for this machine carry the suffix `T` of `subT` (tuples): `treeT`, `stackT`, `posT`,
`ValidT`, `RepT`, `RetT`. -/
namespace Iter.Spec

/-- all prefixes of `p ++ c` that are longer than `p` pass the test -/
def acceptAbove (t : List Int → Bool) (p c : List Int) : Bool :=
  (List.range c.length).all (fun l => t (p ++ c.take (l + 1)))

/-- all non-empty prefixes pass the test -/
def accept (t : List Int → Bool) (x : List Int) : Bool := acceptAbove t [] x

/-- the advertised family of `RestrictedPrefixProduct(t, dims...)`: the filter of the unrestricted enumeration -/
def rpprodList (t : List Int → Bool) (dims : List Int) : List (List Int) :=
  (prodList dims).filter (accept t)

/-- accepted tuples below the (already accepted) prefix `p`, in DFS = lexicographic order -/
def subT (t : List Int → Bool) : List Int → List Int → List (List Int)
  | p, [] => [p]
  | p, n :: ns => (List.range n.toNat).flatMap
      (fun (a : Nat) => if t (p ++ [(a : Int)]) then subT t (p ++ [(a : Int)]) ns else [])

end Iter.Spec

namespace Iter
open Spec

theorem acceptAbove_cons (t : List Int → Bool) (p : List Int) (a : Int) (c : List Int) :
    acceptAbove t p (a :: c) = (t (p ++ [a]) && acceptAbove t (p ++ [a]) c) := by
  simp [acceptAbove, List.range_succ_eq_map, List.all_map, Function.comp_def]

theorem subT_eq (t : List Int → Bool) : ∀ (ns p : List Int),
    subT t p ns = ((prodList ns).filter (acceptAbove t p)).map (p ++ ·) := by
  intro ns
  induction ns with
  | nil => intro p; simp [subT, prodList, acceptAbove]
  | cons n ns ih =>
    intro p
    simp only [subT, prodList, List.filter_flatMap, List.map_flatMap]
    congr 1
    funext a
    rw [List.filter_map, List.map_map]
    have : (acceptAbove t p ∘ fun x => (a : Int) :: x) = fun c => (t (p ++ [(a : Int)]) && acceptAbove t (p ++ [(a : Int)]) c) := by
      funext c; simp [acceptAbove_cons]
    rw [this]
    by_cases h : t (p ++ [(a : Int)])
    · simp [h, ih, Function.comp_def]
    · simp [h]

theorem subT_nil (t : List Int → Bool) (dims : List Int) : subT t [] dims = rpprodList t dims := by
  rw [subT_eq]
  have : accept t = acceptAbove t [] := rfl
  simp [rpprodList, this]

end Iter

namespace Iter.Spec

def blkT (t : List Int → Bool) (p ns : List Int) (a : Nat) : List (List Int) :=
  if t (p ++ [(a : Int)]) then subT t (p ++ [(a : Int)]) ns else []

end Iter.Spec

namespace Iter
open Spec

theorem subT_cons (t : List Int → Bool) (p : List Int) (n : Int) (ns : List Int) :
    subT t p (n :: ns) = (List.range n.toNat).flatMap (blkT t p ns) := rfl

open DFS

/-- the tree of prefixes: a node is a prefix together with the factors of the levels below it -/
def treeT (t : List Int → Bool) : Tree (List Int × List Int) (List Int) where
  kids v := match v.2 with
    | [] => []
    | n :: ns => (List.range n.toNat).map fun (a : Nat) => (v.1 ++ [(a : Int)], ns)
  val v := v.1
  ok v := t v.1

theorem kids_treeT (t : List Int → Bool) (p : List Int) (n : Int) (ns : List Int) :
    (treeT t).kids (p, n :: ns) = (List.range n.toNat).map fun (a : Nat) => (p ++ [(a : Int)], ns) := rfl

theorem sub_treeT (t : List Int → Bool) : ∀ (ns p : List Int), sub (treeT t) ns.length (p, ns) = subT t p ns := by
  intro ns
  induction ns with
  | nil => intro p; rfl
  | cons n ns ih =>
    intro p
    rw [List.length_cons, sub_succ, kids_treeT, List.flatMap_map, subT_cons]
    congr 1
    funext a
    simp only [blk, blkT, ih]
    rfl

def sibsT (rp : List Int) (a n : Int) (ns : List Int) : List (List Int × List Int) :=
  (List.range' (a.toNat + 1) (n.toNat - (a.toNat + 1))).map fun (b : Nat) => (rp.reverse ++ [(b : Int)], ns)

/-- The position is a zipper: `rp` = the prefix reversed, `rd` = the factors of its levels reversed, `ns` = the
remaining factors (so the factors are `rd.reverse ++ ns`). -/
def stackT : List Int → List Int → List Int → List ((List Int × List Int) × List (List Int × List Int))
  | a :: rp, n :: rd, ns => (((a :: rp).reverse, ns), sibsT rp a n ns) :: stackT rp rd (n :: ns)
  | _, _, _ => []

/-- where the machine stands at each label (at `x1` there is a level below: `ns ≠ []`, see `ValidT`) -/
def posT : RPProd.Lbl → List Int → List Int → List Int → Pos (List Int × List Int)
  | .x1, rp, rd, ns => .down (ns.length - 1) (rp.reverse, ns) (stackT rp rd ns)
  | .x2, rp, rd, ns => .next ns.length (stackT rp rd ns)
  | .x3, a :: rp, n :: rd, ns => .test ns.length ((a :: rp).reverse, ns) (sibsT rp a n ns) (stackT rp rd (n :: ns))
  | .x3, _, _, _ => .up 0 []

def ValidT (lbl : RPProd.Lbl) (rp rd ns : List Int) : Prop :=
  List.Forall₂ (fun a n => 0 ≤ a ∧ a < n) rp rd ∧ (∀ n ∈ ns, (1 : Int) ≤ n) ∧
    (lbl = .x1 → ns ≠ []) ∧ (lbl ≠ .x1 → rp ≠ [])

/-- the states in which `Next` keeps returning false -/
def DeadSt (dims st : List Int) : Prop :=
  ∃ v n ns, st = [v] ∧ dims = n :: ns ∧ ¬ v < n - 1

/-- `y` is a leaf of the search tree after which the search still produces `rest` -/
def LeafT (t : List Int → Bool) (dims y : List Int) (rest : List (List Int)) : Prop :=
  ∃ rp rd, List.Forall₂ (fun a n => 0 ≤ a ∧ a < n) rp rd ∧ rp ≠ [] ∧ rd.reverse = dims ∧ y = rp.reverse ∧
    rest = owed (treeT t) (.next 0 (stackT rp rd [])) ∧ cost (treeT t) (.next 0 (stackT rp rd [])) ≤ RPProd.fuel dims

/-- the machine returns at the position `b`: the search is over, or `b` tests an accepted leaf -/
def RetT (t : List Int → Bool) (dims : List Int) (b : Pos (List Int × List Int)) (r : Sl × Bool) : Prop :=
  (owed (treeT t) b = [] ∧ r.2 = false ∧ DeadSt dims r.1) ∨
  ∃ rp rd, List.Forall₂ (fun a n => 0 ≤ a ∧ a < n) rp rd ∧ rp ≠ [] ∧ rd.reverse = dims ∧ r = (rp.reverse, true) ∧
    owed (treeT t) b = rp.reverse :: owed (treeT t) (.next 0 (stackT rp rd [])) ∧
    cost (treeT t) (.next 0 (stackT rp rd [])) ≤ cost (treeT t) b

/-- result of one run of the machine, as determined by the remaining output -/
def ResT (t : List Int → Bool) (dims : List Int) (rem : List (List Int)) (r : Sl × Bool) : Prop :=
  match rem with
  | y :: rest => r = (y, true) ∧ LeafT t dims y rest
  | [] => r.2 = false ∧ DeadSt dims r.1

theorem sibsT_cons (rp : List Int) (a n : Int) (ns : List Int) (h0 : 0 ≤ a) (h : a < n - 1) :
    sibsT rp a n ns = (((a + 1) :: rp).reverse, ns) :: sibsT rp (a + 1) n ns := by
  obtain ⟨A, rfl⟩ := Int.eq_ofNat_of_zero_le h0
  obtain ⟨M, rfl⟩ := Int.eq_ofNat_of_zero_le (by omega : 0 ≤ n)
  obtain ⟨j, hj⟩ : ∃ j, M - (A + 1) = j + 1 := ⟨M - (A + 1) - 1, by omega⟩
  simp only [sibsT, Int.toNat_natCast, Int.toNat_natCast_add_one]
  rw [show M - (A + 1 + 1) = j by omega, hj, List.range'_succ]
  simp

theorem sibsT_nil (rp : List Int) (a n : Int) (ns : List Int) (h : ¬ a < n - 1) : sibsT rp a n ns = [] := by
  have : n.toNat - (a.toNat + 1) = 0 := by omega
  simp [sibsT, this]

theorem kids_treeT_pos (t : List Int → Bool) (rp : List Int) (n : Int) (ns : List Int) (h : 1 ≤ n) :
    (treeT t).kids (rp.reverse, n :: ns) = ((0 :: rp).reverse, ns) :: sibsT rp 0 n ns := by
  obtain ⟨j, hj⟩ : ∃ j, n.toNat = j + 1 := ⟨n.toNat - 1, by omega⟩
  rw [kids_treeT, sibsT, hj, List.range_eq_range', List.range'_succ]
  simp

def runT (t : List Int → Bool) (dims : List Int) (fuel : Nat) (c : RPProd.Lbl × Sl) : Outcome (Sl × Bool) :=
  RPProd.run t dims fuel c.1 c.2

/-- the configuration `(lbl, st)`: `st` is the prefix of a zipper, and stands at the position of `lbl` there -/
def RepT (dims : List Int) (c : RPProd.Lbl × Sl) (a : Pos (List Int × List Int)) : Prop :=
  ∃ rp rd ns, ValidT c.1 rp rd ns ∧ rd.reverse ++ ns = dims ∧ c.2 = rp.reverse ∧ a = posT c.1 rp rd ns

theorem rpprod_step (t : List Int → Bool) (lbl : RPProd.Lbl) (rp rd ns : List Int) (hv : ValidT lbl rp rd ns) :
    Follows (treeT t) (runT t (rd.reverse ++ ns)) (RepT (rd.reverse ++ ns)) (RetT t (rd.reverse ++ ns))
      (lbl, rp.reverse) (posT lbl rp rd ns) := by
  obtain ⟨hfa, hpos, hx1, hnx1⟩ := hv
  cases lbl with
  | x1 =>
    obtain ⟨n', ns', rfl⟩ : ∃ n' ns', ns = n' :: ns' := by
      cases ns with
      | nil => exact absurd rfl (hx1 rfl)
      | cons a b => exact ⟨a, b, rfl⟩
    have hn' : 1 ≤ n' := hpos n' (by simp)
    exact .step (c' := (.x3, (0 :: rp).reverse)) (Step.enter _ _ _ _ _ (kids_treeT_pos t rp n' ns' hn'))
      ⟨0 :: rp, n' :: rd, ns', ⟨.cons ⟨by omega, by omega⟩ hfa, fun n hn => hpos n (by simp [hn]), by simp, by simp⟩,
        by simp, rfl, rfl⟩
      (fun fuel => by simp [runT, RPProd.run])
  | x2 =>
    cases hfa with
    | nil => exact absurd rfl (hnx1 (by simp))
    | @cons a n rp' rd' han hfa' =>
      have hlen : rp'.length = rd'.length := hfa'.length_eq
      have hst : (a :: rp').reverse = rp'.reverse ++ [a] := by simp
      have hdm : (n :: rd').reverse ++ ns = rd'.reverse ++ n :: ns := by simp
      have g2 : get (rd'.reverse ++ n :: ns) (((rp'.reverse ++ [a]).length : Int) - 1) = .ok n := by
        have : (((rp'.reverse ++ [a]).length : Int) - 1) = (rd'.reverse.length : Int) := by simp [hlen]
        rw [this]; exact get_append_length rd'.reverse ns n
      by_cases hlt : a < n - 1
      · refine .step (c' := (.x3, ((a + 1) :: rp').reverse)) (b := posT .x3 ((a + 1) :: rp') (n :: rd') ns) ?_
          ⟨(a + 1) :: rp', n :: rd', ns, ⟨.cons ⟨by omega, by omega⟩ hfa', hpos, by simp, by simp⟩, rfl, rfl, rfl⟩
          (fun fuel => ?_)
        · simp only [posT, stackT, sibsT_cons rp' a n ns han.1 hlt]
          exact Step.again _ _ _ _ _
        · simp only [runT]
          rw [hst, hdm, List.reverse_cons]
          simp only [RPProd.run, get_last, g2, Outcome.bind_ok, hlt, if_true, set_last]
      · cases rp' with
        | nil =>
          cases hfa'
          refine .ret (r := ([a], false)) (fun fuel => ?_) (Or.inl ⟨?_, rfl, a, n, ns, by simp, by simp, hlt⟩)
          · simp only [runT]
            rw [hst, hdm]
            simp only [RPProd.run, get_last, g2, Outcome.bind_ok, hlt, if_false]
            simp
          · simp only [posT, stackT, sibsT_nil [] a n ns hlt, owed, after, List.flatMap_nil, List.append_nil]
        | cons b rp'' =>
          obtain ⟨n2, rd'', rfl⟩ : ∃ n2 rd'', rd' = n2 :: rd'' := by cases hfa'; exact ⟨_, _, rfl⟩
          have hpos' : ∀ m ∈ n :: ns, (1 : Int) ≤ m := by
            intro m hm
            rcases List.mem_cons.mp hm with rfl | h
            · omega
            · exact hpos m h
          refine .step₂ (c' := (.x2, (b :: rp'').reverse)) (b' := posT .x2 (b :: rp'') (n2 :: rd'') (n :: ns)) (b := .up (ns.length + 1) (stackT (b :: rp'') (n2 :: rd'') (n :: ns))) ?_ ?_
            ⟨b :: rp'', n2 :: rd'', n :: ns, ⟨hfa', hpos', by simp, by simp⟩, by simp, rfl, rfl⟩ (fun fuel => ?_)
          · simp only [posT, stackT, sibsT_nil (b :: rp'') a n ns hlt]
            exact Step.leave _ _ _
          · exact Step.back _ _ _
          · simp only [runT]
            rw [hst, hdm]
            have hne : ((((b :: rp'').reverse ++ [a]).length == 1) = true) = False := by simp
            simp only [RPProd.run, get_last, g2, Outcome.bind_ok, hlt, if_false, hne, List.dropLast_concat]
  | x3 =>
    cases hfa with
    | nil => exact absurd rfl (hnx1 (by simp))
    | @cons a n rp' rd' han hfa' =>
      by_cases ht : t (a :: rp').reverse
      · cases ns with
        | cons n' ns' =>
          refine .step (c' := (.x1, (a :: rp').reverse)) (Step.accept _ _ _ _ ht)
            ⟨a :: rp', n :: rd', n' :: ns', ⟨.cons han hfa', hpos, by simp, by simp⟩, rfl, rfl, rfl⟩ (fun fuel => ?_)
          have hl : (a :: rp').reverse.length < ((n :: rd').reverse ++ n' :: ns').length := by
            simp [hfa'.length_eq]
          simp only [runT, RPProd.run, ht, Bool.not_true, Bool.false_eq_true, if_false, hl, if_true]
        | nil =>
          refine .ret (r := ((a :: rp').reverse, true)) (fun fuel => ?_)
            (Or.inr ⟨a :: rp', n :: rd', .cons han hfa', by simp, by simp, rfl, ?_, ?_⟩)
          · have hl : ¬ (a :: rp').reverse.length < ((n :: rd').reverse ++ []).length := by
              simp [hfa'.length_eq]
            simp only [runT, RPProd.run, ht, Bool.not_true, Bool.false_eq_true, if_false, hl]
          · have hok : (treeT t).ok ((a :: rp').reverse, []) = true := ht
            simp only [posT, owed, blk, hok, if_true, stackT]
            rfl
          · simp only [posT, cost, stackT, List.length_nil]; omega
      · refine .step (c' := (.x2, (a :: rp').reverse)) (Step.reject _ _ _ _ (Bool.eq_false_iff.mpr ht))
          ⟨a :: rp', n :: rd', ns, ⟨.cons han hfa', hpos, by simp, by simp⟩, rfl, rfl, rfl⟩ (fun fuel => ?_)
        simp only [runT, RPProd.run, ht, Bool.not_false, if_true]

theorem rpprod_run (t : List Int → Bool) (lbl : RPProd.Lbl) (rp rd ns : List Int)
    (hv : ValidT lbl rp rd ns) (hf : cost (treeT t) (posT lbl rp rd ns) ≤ RPProd.fuel (rd.reverse ++ ns)) :
    ∃ r, RPProd.run t (rd.reverse ++ ns) (RPProd.fuel (rd.reverse ++ ns)) lbl rp.reverse = .ok r ∧
      ResT t (rd.reverse ++ ns) (owed (treeT t) (posT lbl rp rd ns)) r := by
  obtain ⟨r, b, h1, h2, h3, h4⟩ := run_owed (T := treeT t) (run := runT t (rd.reverse ++ ns))
    (Rep := RepT (rd.reverse ++ ns)) (Ret := RetT t (rd.reverse ++ ns)) (by
      rintro ⟨lbl, st⟩ a ⟨rp, rd', ns', hv, hd, rfl, rfl⟩
      rw [← hd]
      exact rpprod_step t lbl rp rd' ns' hv)
    _ (lbl, rp.reverse) _ ⟨rp, rd, ns, hv, rfl, rfl, rfl⟩ hf
  replace h4 : cost (treeT t) b ≤ cost (treeT t) (posT lbl rp rd ns) := h4
  refine ⟨r, h1, ?_⟩
  rw [← h3]
  rcases h2 with ⟨e, h5⟩ | ⟨rp', rd', h5, h6, h7, rfl, e, h8⟩
  · rw [e]; exact h5
  · rw [e]; exact ⟨rfl, rp', rd', h5, h6, h7, rfl, rfl, by omega⟩

theorem wt_treeT (t : List Int → Bool) : ∀ (ns p : List Int), wt (treeT t) ns.length (p, ns) + 1 ≤ 4 * treeSize ns := by
  intro ns
  induction ns with
  | nil => intro p; simp [wt, treeSize]
  | cons n ns ih =>
    intro p
    have := wt_succ_le (T := treeT t) ns.length (p, n :: ns) (4 * treeSize ns) (by
      intro c hc
      rw [kids_treeT, List.mem_map] at hc
      obtain ⟨a, -, rfl⟩ := hc
      exact ih _)
    rw [kids_treeT, List.length_map, List.length_range] at this
    rw [List.length_cons, treeSize, Nat.mul_add, Nat.mul_left_comm]
    omega

theorem RPProd.first_run (t : List Int → Bool) (dims : List Int) (hne : dims ≠ [])
    (hpos : ∀ n ∈ dims, (1 : Int) ≤ n) :
    ∃ r, RPProd.run t dims (RPProd.fuel dims) .x1 [] = .ok r ∧ ResT t dims (rpprodList t dims) r := by
  have hv : ValidT .x1 [] [] dims := ⟨List.Forall₂.nil, hpos, fun _ => hne, by simp⟩
  obtain ⟨n, ns, rfl⟩ := List.exists_cons_of_ne_nil hne
  have hf : cost (treeT t) (posT .x1 [] [] (n :: ns)) ≤ RPProd.fuel (n :: ns) := by
    have := wt_treeT t (n :: ns) []
    simp only [posT, cost, stackT, costNext, RPProd.fuel, List.length_cons, Nat.add_sub_cancel, List.reverse_nil] at this ⊢
    omega
  obtain ⟨r, h1, h2⟩ := rpprod_run t .x1 [] [] (n :: ns) hv hf
  have e : owed (treeT t) (posT .x1 [] [] (n :: ns)) = rpprodList t (n :: ns) := by
    simp only [posT, owed, stackT, after, List.append_nil, List.length_cons, Nat.add_sub_cancel]
    exact (sub_treeT t (n :: ns) []).trans (subT_nil t _)
  rw [e] at h2
  exact ⟨r, by simpa using h1, by simpa using h2⟩

theorem RPProd.leaf_run (t : List Int → Bool) (dims y : List Int) (rest : List (List Int))
    (h : LeafT t dims y rest) :
    y ≠ [] ∧ ∃ r, RPProd.run t dims (RPProd.fuel dims) .x2 y = .ok r ∧ ResT t dims rest r := by
  obtain ⟨rp, rd, hf, hne, rfl, rfl, rfl, hc⟩ := h
  obtain ⟨r, h1, h2⟩ := rpprod_run t .x2 rp rd [] ⟨hf, by simp, by simp, fun _ => hne⟩ (by simpa [posT] using hc)
  exact ⟨by simpa using hne, r, by simpa using h1, by simpa [posT] using h2⟩

theorem rpprodList_nil_of_lt (t : List Int → Bool) (dims : List Int) (h : ∃ n ∈ dims, n < 1) :
    rpprodList t dims = [] := by
  simp [rpprodList, (prodList_eq_nil_iff dims).mpr h]

theorem RPProd.run_dead (t : List Int → Bool) (dims st : List Int) (k : Nat) (h : DeadSt dims st) :
    RPProd.run t dims (k + 1) .x2 st = .ok (st, false) := by
  obtain ⟨v, n, ns, rfl, rfl, hlt⟩ := h
  have g1 : get [v] (((([v] : List Int).length : Nat) : Int) - 1) = .ok v := by simp [get]
  have g2 : get (n :: ns) (((([v] : List Int).length : Nat) : Int) - 1) = .ok n := by simp [get]
  simp only [RPProd.run, g1, g2, Outcome.bind_ok, hlt, if_false]
  simp

/-- what the iterator still owes in state `s`: nothing once `empty` is set or the machine has stopped, the whole
family before the first call, and what follows the leaf `s.state` in between -/
def RPProd.Owes (t : List Int → Bool) (dims : List Int) (s : RPProd) (rem : List (List Int)) : Prop :=
  s.n = dims ∧
    ((s.empty = true ∧ rem = []) ∨
     (s.empty = false ∧ s.state = [] ∧ (∀ n ∈ dims, (1 : Int) ≤ n) ∧ rem = rpprodList t dims) ∨
     (s.empty = false ∧ LeafT t dims s.state rem) ∨
     (s.empty = false ∧ DeadSt dims s.state ∧ rem = []))

theorem RPProd.next_owes (t : List Int → Bool) (dims : List Int) (s : RPProd) (rem : List (List Int))
    (h : RPProd.Owes t dims s rem) :
    ∃ s', (RPProd.it t).next s = .ok (s', !rem.isEmpty) ∧ (∀ x ∈ rem.head?, s'.state = x) ∧
      RPProd.Owes t dims s' rem.tail := by
  obtain ⟨hn, h⟩ := h
  have run : ∀ r, ResT t dims rem r → RPProd.next t s = .ok ({ s with state := r.1 }, r.2) → s.empty = false →
      ∃ s', (RPProd.it t).next s = .ok (s', !rem.isEmpty) ∧ (∀ x ∈ rem.head?, s'.state = x) ∧
        RPProd.Owes t dims s' rem.tail := by
    intro r hr h2 he
    cases rem with
    | nil =>
      refine ⟨{ s with state := r.1 }, ?_, by simp, hn, Or.inr (Or.inr (Or.inr ⟨he, hr.2, rfl⟩))⟩
      rw [show (RPProd.it t).next = RPProd.next t from rfl, h2, hr.1]; rfl
    | cons x l =>
      obtain ⟨rfl, hleaf⟩ := hr
      exact ⟨{ s with state := x }, h2, by simp, hn, Or.inr (Or.inr (Or.inl ⟨he, hleaf⟩))⟩
  rcases h with ⟨he, rfl⟩ | ⟨he, hs, hpos, hrem⟩ | ⟨he, hleaf⟩ | ⟨he, hdead, rfl⟩
  · exact ⟨s, by simp [RPProd.it, RPProd.next, he], by simp, hn, Or.inl ⟨he, rfl⟩⟩
  · by_cases hd : dims = []
    · subst hd
      have : rem = [[]] := by simpa [rpprodList, prodList, accept, acceptAbove] using hrem
      subst this
      exact ⟨{ s with empty := true }, by simp [RPProd.it, RPProd.next, he, hn, hs], by simp [hs], hn,
        Or.inl ⟨rfl, rfl⟩⟩
    · subst hrem
      obtain ⟨r, h1, h2⟩ := RPProd.first_run t dims hd hpos
      have hl : dims.length ≠ 0 := by simpa using hd
      exact run r h2 (by simp [RPProd.next, he, hn, hs, hl, h1]) he
  · obtain ⟨hne, r, h1, h2⟩ := RPProd.leaf_run t dims s.state rem hleaf
    have hl : s.state.length ≠ 0 := by simpa using hne
    exact run r h2 (by simp [RPProd.next, he, hn, hl, h1]) he
  · obtain ⟨k, hk⟩ : ∃ k, RPProd.fuel dims = k + 1 := ⟨4 * treeSize dims + 3, by simp [RPProd.fuel]⟩
    have hl : s.state.length ≠ 0 := by obtain ⟨v, _, _, hs, _⟩ := hdead; simp [hs]
    exact run (s.state, false) ⟨rfl, hdead⟩
      (by simp [RPProd.next, he, hn, hl, hk, RPProd.run_dead t dims s.state k hdead]) he

theorem accept_iff (t : List Int → Bool) (x : List Int) :
    accept t x = true ↔ ∀ l, 0 < l → l ≤ x.length → t (x.take l) = true := by
  simp only [accept, acceptAbove, List.all_eq_true, List.mem_range, List.nil_append]
  constructor
  · intro h l h0 hl
    have := h (l - 1) (by omega)
    rwa [show l - 1 + 1 = l by omega] at this
  · intro h l hl
    exact h (l + 1) (by omega) (by omega)

theorem mem_rpprodList (t : List Int → Bool) (dims x : List Int) :
    x ∈ rpprodList t dims ↔ InProd dims x ∧ ∀ l, 0 < l → l ≤ x.length → t (x.take l) = true := by
  simp [rpprodList, mem_prodList, accept_iff]

theorem rpprodList_sorted (t : List Int → Bool) (dims : List Int) :
    (rpprodList t dims).Pairwise (· < ·) :=
  (prodList_sorted dims).filter _

end Iter
