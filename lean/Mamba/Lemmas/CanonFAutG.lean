import Mamba.Lemmas.CanonFAllocJ
import Mamba.Lemmas.CanonFClassQ
import Mamba.Lemmas.CanonFEdgeless
/-!
# Automorphisms and orbits of a graph of `Spec/Graph.lean`, for the statements about `CanonicalIsomorphFull`

`IsAutG g γ` (the list `γ` is an automorphism of the graph `g`; `isAutG_of_isAutL` from the adjacency-list form, through
`mem_nbrsOf`), `SameOrbit g` (the orbit relation of the automorphism group). For the `m == 0` shortcut: a graph with
`M() = 0` has no edges (`no_edges_of_m_zero`), a partition with one bin has every vertex in cell 0 (`inCell_single`).
What the returned generators and orbits satisfy is `canonF_gens_full` and the theorems after it in `CanonFSemantic.lean`.
-/
namespace CanonF
open Relation GraphSpec


/-- `γ` (as a list) is an automorphism of `g` -/
def IsAutG (g : G) (γ : List Nat) : Prop :=
  γ.Perm (List.range g.n) ∧ ∀ u v, u < g.n → v < g.n → g.adj (γ.getD u 0) (γ.getD v 0) = g.adj u v

theorem mem_nbrsOf (g : G) (hg : g.WF) (x y : Nat) : y ∈ (nbrsOf g).getD x [] ↔ g.adj x y = true := by
  rw [nbrsOf_getD]
  by_cases hx : x < g.n
  · rw [if_pos hx]
    unfold G.nbrs
    rw [List.mem_filter, List.mem_range]
    constructor
    · exact fun h => h.2
    · intro h; exact ⟨(hg.supp x y h).2, h⟩
  · rw [if_neg hx]
    constructor
    · intro h; cases h
    · intro h; exact absurd (hg.supp x y h).1 hx

theorem isAutG_of_isAutL (g : G) (hg : g.WF) (γ : List Nat) (h : IsAutL (nbrsOf g) g.n γ) : IsAutG g γ := by
  refine ⟨h.1, ?_⟩
  intro u v hu hv
  have := h.2 u v hu hv
  rw [mem_nbrsOf g hg, mem_nbrsOf g hg] at this
  cases h1 : g.adj u v <;> cases h2 : g.adj (γ.getD u 0) (γ.getD v 0) <;> simp_all


/-- two vertices are connected by automorphisms of `g` -/
def SameOrbit (g : G) (a b : Nat) : Prop := EqvGen (fun x y => ∃ γ, IsAutG g γ ∧ γ[x]? = some y) a b

/-- a graph with `g.M() = 0` has no edges -/
theorem no_edges_of_m_zero (g : G) (hg : g.WF) (hm : ((nbrsOf g).toList.map List.length).sum / 2 = 0)
    (u v : Nat) : g.adj u v = false := by
  cases hadj : g.adj u v with
  | false => rfl
  | true =>
    exfalso
    obtain ⟨hnbok, hsz⟩ := nbOK_nbrsOf g hg
    obtain ⟨hu, hv⟩ := hg.supp u v hadj
    have hne : u ≠ v := by
      intro e; subst e; rw [hg.irrefl] at hadj; cases hadj
    have hlen := certPos_length hnbok hsz (List.Perm.refl (List.range g.n))
    rw [hm] at hlen
    have hnil : certPos (nbrsOf g) (List.range g.n) g.n = [] := List.eq_nil_of_length_eq_zero hlen
    have hmem : ∀ p q, q < p → p < g.n → g.adj p q = true → False := by
      intro p q hqp hp hpq
      have : tri p + q ∈ certPos (nbrsOf g) (List.range g.n) g.n := by
        rw [mem_certPos (List.Perm.refl _) (Nat.le_refl _)]
        refine ⟨p, q, hqp, hp, rfl, ?_⟩
        have e1 : (List.range g.n).getD q 0 = q := by
          rw [List.getD_eq_getElem?_getD, List.getElem?_range (by omega)]; rfl
        have e2 : (List.range g.n).getD p 0 = p := by
          rw [List.getD_eq_getElem?_getD, List.getElem?_range hp]; rfl
        rw [e1, e2, mem_nbrsOf g hg]; exact hpq
      rw [hnil] at this; cases this
    rcases Nat.lt_or_gt_of_ne hne with hlt | hgt
    · exact hmem v u hlt hv (by rw [hg.symm]; exact hadj)
    · exact hmem u v hgt hu hadj

theorem inCell_single {n : Nat} {op : OP} (hp : PartInv n op) (h1 : op.binDividers.len = 1) :
    ∀ v, v < n → op.inCell.toList[v]? = some 0 := by
  intro v hv
  have hmem : v ∈ op.order.toList := hp.perm.mem_iff.2 (List.mem_range.2 hv)
  obtain ⟨p, hpv⟩ := List.getElem?_of_mem hmem
  have hpl := (List.getElem?_eq_some_iff.1 hpv).1
  have holen : op.order.toList.length = n := hp.length_order
  have hbl : op.binDividers.toList.length = 1 := by rw [hp.length_bd, h1]
  rw [hp.inCell p v hpv]
  congr 1
  match hb : op.binDividers.toList, hbl with
  | [x], _ =>
    have hlast := hp.last
    rw [hb] at hlast
    simp only [List.getLast?_singleton, Option.some.injEq] at hlast
    subst hlast
    unfold binIdx
    simp only [List.countP_cons, List.countP_nil, decide_eq_true_eq]
    rw [if_neg (by omega)]

end CanonF
