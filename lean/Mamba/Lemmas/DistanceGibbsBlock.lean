import Mamba.Lemmas.DistanceGibbsEven
import Mamba.Lemmas.DistanceBiconBK
/-!
# Gibbs' loop on the fundamental cycles of a block

The edge codes of a simple cycle are distinct, so its sorted code list is strictly increasing (`isCycCode_strict`) and
`sXor` acts on fundamental cycles as symmetric difference; along Gibbs' loop `Q` is then the list of all non-empty XOR
combinations of the cycles processed so far, all of even degree, and `S ⊆ Q` (`gibbs_on_block`).
-/
namespace GDist
open GraphSpec Model

theorem mem_pathCodes : ∀ (p : List Nat), p.Nodup → ∀ c, c ∈ pathCodes p →
    ∃ x y, x ∈ p ∧ y ∈ p ∧ x ≠ y ∧ c = edgeCode x y
  | [], _, c, h => by simp [pathCodes] at h
  | [_], _, c, h => by simp [pathCodes] at h
  | a :: b :: t, hnd, c, h => by
    obtain ⟨hanot, hnd'⟩ := List.nodup_cons.1 hnd
    rw [pathCodes, List.mem_cons] at h
    rcases h with h | h
    · exact ⟨a, b, by simp, by simp, fun h0 => hanot (by simp [h0]), h⟩
    · obtain ⟨x, y, hx, hy, hxy, hc⟩ := mem_pathCodes (b :: t) hnd' c h
      exact ⟨x, y, List.mem_cons_of_mem _ hx, List.mem_cons_of_mem _ hy, hxy, hc⟩

theorem pathCodes_nodup : ∀ (p : List Nat), p.Nodup → (pathCodes p).Nodup
  | [], _ => by simp [pathCodes]
  | [_], _ => by simp [pathCodes]
  | a :: b :: t, hnd => by
    obtain ⟨hanot, hnd'⟩ := List.nodup_cons.1 hnd
    rw [pathCodes, List.nodup_cons]
    refine ⟨?_, pathCodes_nodup (b :: t) hnd'⟩
    intro hm
    obtain ⟨x, y, hx, hy, hxy, hc⟩ := mem_pathCodes (b :: t) hnd' _ hm
    have hab : a ≠ b := fun h0 => hanot (by simp [h0])
    rcases normE_eq (edgeCode_inj (e := (a, b)) (e' := (x, y)) hab hxy hc) with h | h
    · exact hanot (h.1 ▸ hx)
    · exact hanot (h.1 ▸ hy)

theorem cycCodes_nodup {a : G} {c : List Nat} (hc : IsCycleSeq a c) : (cycCodes c).Nodup := by
  obtain ⟨hlen, hnd, _, _, _⟩ := hc
  match c, hlen, hnd with
  | x :: b :: t, hlen, hnd =>
    have ht : t ≠ [] := by
      intro h; subst h; simp at hlen
    obtain ⟨hxnot, hnd'⟩ := List.nodup_cons.1 hnd
    obtain ⟨hbnot, _⟩ := List.nodup_cons.1 hnd'
    unfold cycCodes
    have hlt : (x :: b :: t).getLastD 0 ∈ t := by
      obtain ⟨t0, t', rfl⟩ := List.exists_cons_of_ne_nil ht
      rw [List.getLastD_eq_getLast?, List.getLast?_cons_cons, List.getLast?_cons_cons,
        List.getLast?_eq_some_getLast (by simp)]
      exact List.getLast_mem _
    generalize (x :: b :: t).getLastD 0 = l at hlt
    have hxl : x ≠ l := fun h => hxnot (h ▸ List.mem_cons_of_mem _ hlt)
    rw [List.nodup_cons]
    refine ⟨?_, pathCodes_nodup _ hnd⟩
    rw [List.headD_cons, pathCodes, List.mem_cons]
    rintro (h | h)
    · have hxb : x ≠ b := fun h0 => hxnot (by simp [h0])
      rcases normE_eq (edgeCode_inj (e := (x, l)) (e' := (x, b)) hxl hxb h) with h' | h'
      · exact hbnot (h'.2 ▸ hlt)
      · exact hxb h'.1
    · obtain ⟨y, z, hy, hz, hyz, hcz⟩ := mem_pathCodes (b :: t) hnd' _ h
      rcases normE_eq (edgeCode_inj (e := (x, l)) (e' := (y, z)) hxl hyz hcz) with h' | h'
      · exact hxnot (h'.1 ▸ hy)
      · exact hxnot (h'.1 ▸ hz)

theorem isCycCode_strict {a : G} {f : List Nat} (h : IsCycCode a f) : f.Pairwise (· < ·) := by
  obtain ⟨c, hc, rfl⟩ := h
  exact sortInts_strict (cycCodes_nodup hc)


theorem qinv_init {f0 : List Nat} (h : f0.Pairwise (· < ·)) : QInv [f0] [f0] := by
  refine ⟨?_, ?_, by simp⟩
  · intro t ht
    simp at ht; subst ht
    exact ⟨[t], by simp, List.Sublist.refl _, isXorOf_single h⟩
  · intro I hI hsub
    have : I = [f0] := (List.sublist_singleton.1 hsub).resolve_left hI
    subst this
    exact ⟨f0, by simp, isXorOf_single h⟩

theorem gibbs_step_inv {a : G} {Fp : List (List Nat)} {fc : List Nat} {st : GibbsSt} {R' : Array (List Nat)}
    {P' : List (List Nat)} (hfc : IsCycCode a fc)
    (h : QInv Fp st.Q ∧ (∀ t ∈ st.Q, EvenSet a.n t) ∧ ∀ V ∈ st.S, V ∈ st.Q)
    (hstep : gibbsStep3 (gibbsR st.Q fc).length (gibbsR st.Q fc).toArray [] = .ok (R', P')) :
    QInv (Fp ++ [fc]) (gibbsNext st fc R').Q ∧ (∀ t ∈ (gibbsNext st fc R').Q, EvenSet a.n t) ∧
      ∀ V ∈ (gibbsNext st fc R').S, V ∈ (gibbsNext st fc R').Q := by
  obtain ⟨hq, hqe, hS⟩ := h
  refine ⟨qinv_step hq (isCycCode_strict hfc), fun t ht => ?_, fun V hV => ?_⟩
  · simp only [gibbsNext, List.mem_append, List.mem_map, List.mem_singleton] at ht
    rcases ht with (ht | ⟨t0, ht0, rfl⟩) | rfl
    · exact hqe t ht
    · exact even_sXor (hqe t0 ht0) (isCycCode_even hfc)
    · exact isCycCode_even hfc
  · simp only [gibbsNext, List.mem_append, List.mem_singleton] at hV ⊢
    rcases hV with (hV | hV) | hV
    · exact .inl (.inl (hS V hV))
    · obtain ⟨t, ht, rfl, _⟩ := mem_gibbsR.1 (by simpa using gibbsStep3_subset _ _ _ _ _ (by simp) hstep V hV)
      exact .inl (.inr (List.mem_map.2 ⟨t, ht, rfl⟩))
    · exact .inr hV

theorem gibbs_on_block (a : G) (hsym : ∀ u v, a.adj u v = a.adj v u) (hirr : ∀ v, a.adj v v = false)
    (hn : 0 < a.n) (fuel : Nat) (st : PatonSt) (hres : patonLoop a fuel (patonInit a.n) = .ok st)
    (f0 : List Nat) (fs : List (List Nat)) (hfund : st.fund = f0 :: fs) (gs : GibbsSt)
    (hg : gibbsLoop fs { S := [f0], Q := [f0] } = .ok gs) :
    QInv (f0 :: fs) gs.Q ∧ (∀ t ∈ gs.Q, EvenSet a.n t) ∧ (∀ V ∈ gs.S, V ∈ gs.Q) := by
  have hs := paton_fund_sound a hsym hirr hn fuel st hres
  rw [hfund] at hs
  have h0 := hs f0 List.mem_cons_self
  have := gibbsLoop_ind
    (fun Fp fcs s => (∀ f ∈ fcs, IsCycCode a f) ∧ QInv Fp s.Q ∧ (∀ t ∈ s.Q, EvenSet a.n t) ∧ ∀ V ∈ s.S, V ∈ s.Q)
    (fun Fp fc fcs s R' P' h hstep =>
      ⟨fun f hf => h.1 f (List.mem_cons_of_mem _ hf), gibbs_step_inv (h.1 fc List.mem_cons_self) h.2 hstep⟩)
    fs { S := [f0], Q := [f0] } [f0]
    ⟨fun f hf => hs f (List.mem_cons_of_mem _ hf), qinv_init (isCycCode_strict h0),
      fun t ht => by rw [List.mem_singleton.1 ht]; exact isCycCode_even h0, fun V hV => hV⟩ gs hg
  exact this.2

end GDist
