import Mamba.Lemmas.C06Line
/-! C06: `RookGraph` — the line graph of `K_{n,m}` is the rook graph. -/
namespace Construct
open GraphSpec

theorem kpart_adj (n m u v : Nat) (huv : u < v) (hv : v < n + m) :
    (Families.completePartite [n, m]).adj u v = (decide (u < n) && decide (n ≤ v)) := by
  have hu : u < n + m := by omega
  have hne : (u != v) = true := by simp; omega
  simp only [Families.completePartite, Families.symm, List.sum_cons, List.sum_nil, Nat.add_zero, hne, hu, hv, decide_true,
    Bool.true_and, Bool.and_self, Families.partOf]
  by_cases h1 : u < n <;> by_cases h2 : v < n
  · simp [h1, h2]
  · simp [h1, h2]; omega
  · omega
  · have h3 : u - n < m := by omega
    have h4 : v - n < m := by omega
    simp [h1, h2, h3, h4]

theorem range_mul (n m : Nat) :
    List.range (n * m) = (List.range m).flatMap fun c => (List.range n).map fun r => c * n + r := by
  induction m with
  | zero => simp
  | succ k ih =>
    rw [Nat.mul_succ, List.range_add, ih, List.range_succ, List.flatMap_append]
    simp [Nat.mul_comm]

theorem filter_range_lt (n j : Nat) (h : n ≤ j) : (List.range j).filter (fun i => decide (i < n)) = List.range n := by
  obtain ⟨k, rfl⟩ := Nat.exists_eq_add_of_le h
  rw [List.range_add, List.filter_append]
  have h1 : (List.range n).filter (fun i => decide (i < n)) = List.range n := by
    rw [List.filter_eq_self]; intro a ha; simpa using List.mem_range.mp ha
  have h2 : ((List.range k).map (n + ·)).filter (fun i => decide (i < n)) = [] := by
    rw [List.filter_eq_nil_iff]; intro a ha
    simp only [List.mem_map, List.mem_range] at ha
    obtain ⟨b, _, rfl⟩ := ha; simp
  rw [h1, h2, List.append_nil]

theorem kpart_edges (n m : Nat) :
    (Families.completePartite [n, m]).edges = (List.range (n * m)).map fun x => (x % n, n + x / n) := by
  have hN : (Families.completePartite [n, m]).n = n + m := by simp [Families.completePartite, Families.symm]
  rw [G.edges, hN, List.range_add, List.flatMap_append]
  -- columns below n contribute nothing
  have h1 : ((List.range n).flatMap fun v => ((List.range v).filter fun u => (Families.completePartite [n, m]).adj u v).map fun u => (u, v)) = [] := by
    rw [List.flatMap_eq_nil_iff]
    intro v hv
    have hv' := List.mem_range.mp hv
    rw [List.map_eq_nil_iff, List.filter_eq_nil_iff]
    intro u hu
    have hu' := List.mem_range.mp hu
    rw [kpart_adj n m u v hu' (by omega)]
    simp; omega
  rw [h1, List.nil_append, List.flatMap_map, range_mul, List.map_flatMap]
  apply List.flatMap_congr
  intro c hc
  have hc' := List.mem_range.mp hc
  have : ((List.range (n + c)).filter fun u => (Families.completePartite [n, m]).adj u (n + c)) = List.range n := by
    rw [← filter_range_lt n (n + c) (by omega)]
    apply List.filter_congr
    intro u hu
    have hu' := List.mem_range.mp hu
    rw [kpart_adj n m u (n + c) hu' (by omega)]
    simp
  rw [this, List.map_map]
  apply List.map_congr_left
  intro r hr
  have hr' := List.mem_range.mp hr
  have hn0 : 0 < n := by omega
  simp only [Function.comp, Prod.mk.injEq]
  constructor
  · rw [Nat.mul_comm, Nat.mul_add_mod, Nat.mod_eq_of_lt hr']
  · rw [Nat.mul_comm, Nat.mul_add_div hn0, Nat.div_eq_of_lt hr', Nat.add_zero]

theorem lineGraph_kpart (n m : Nat) : Families.lineGraph (Families.completePartite [n, m]) = Families.rook n m := by
  rw [lineGraph_eq, kpart_edges, Families.rook]
  simp only [List.length_map, List.length_range]
  refine GraphRep.G_ext (show _ = _ from rfl) ?_
  intro a b
  simp only [Families.symm]
  by_cases ha : a < n * m
  · by_cases hb : b < n * m
    · have hn0 : 0 < n := by
        rcases Nat.eq_zero_or_pos n with h | h
        · subst h; simp at ha
        · exact h
      have ham := Nat.mod_lt a hn0
      have hbm := Nat.mod_lt b hn0
      simp only [List.getD, List.getElem?_map, List.getElem?_range ha, List.getElem?_range hb, Option.map_some,
        Option.getD_some, share]
      congr 1
      rw [Bool.eq_iff_iff]
      simp only [Bool.or_eq_true, beq_iff_eq]
      generalize a % n = p at *
      generalize b % n = q at *
      generalize a / n = p' at *
      generalize b / n = q' at *
      omega
    · simp [hb]
  · simp [ha]

end Construct
