import Mamba.Lemmas.CanonFGenBy
/-!
# The stabiliser chain along the first-leaf path, tree level

Base: an automorphism that preserves the root colouring and fixes a whole path to a leaf is the identity
(`aut_fix_leaf_id`). Step (`autgen_step`): at a covered node of level `L` of the first-leaf path whose colouring the
recorded generators preserve, `AutGen (L + 1)` gives `AutGen L`: an automorphism `γ` fixing the first `L` vertices maps
`w = vsF[L]` into its class of `firstLeafOrbits` (`acov_node_aut`, which is `acov_root_aut` at an inner node), some product
`β` of recorded generators maps `w` to `γ w` (`genBy_of_eqvGen`); `β` preserves the colouring of the node, hence fixes the
first `L` vertices and preserves the root colouring (`pres_node_fix_path`, `pres_node_pres_root`), so `β⁻¹ ∘ γ` fixes `L + 1`
vertices (`genBy_factor`).
-/
namespace CanonF
open Relation

theorem map_eq_self_of_fix {σ : Nat → Nat} {l : List Nat} (h : ∀ (j v : Nat), l[j]? = some v → σ v = v) : l.map σ = l := by
  have : l.map σ = l.map id := by
    apply List.map_congr_left
    intro v hv
    obtain ⟨j, hj⟩ := List.getElem?_of_mem hv
    exact h j v hj
  rw [this, List.map_id]

theorem perm_eq_range_of_fix {n : Nat} {γ : List Nat} (hγ : γ.Perm (List.range n)) (h : ∀ v, v < n → γ.getD v 0 = v) :
    γ = List.range n := by
  have hl : γ.length = n := by simpa using hγ.length_eq
  apply List.ext_getElem (by simp [hl])
  intro i h1 h2
  have hi : i < n := by omega
  have := h i hi
  rw [List.getD_eq_getElem?_getD, List.getElem?_eq_getElem h1, Option.getD_some] at this
  rw [this, List.getElem_range]

section
variable {n : Nat} {nb : Nbrs} {rf : Nat} {r : IR.St}

theorem aut_fix_leaf_id (hnb : NbOK nb n) (hA : IR.InvA (irG n nb) r) (hD : IR.InvD (irG n nb) r) {vs γ : List Nat}
    (hγ : IsAutL nb n γ) (hcol : ∀ v, v < n → IR.col r.c (γ.getD v 0) = IR.col r.c v)
    (hp : IR.IsPath (irG n nb) rf r vs) (ht : IR.target (irG n nb) (IR.nodeAt (irG n nb) rf r vs) = none)
    (hfix : ∀ (j v : Nat), vs[j]? = some v → γ.getD v 0 = v) : γ = List.range n := by
  obtain ⟨τ, Rl⟩ := relabel_of_isAutL hnb hγ
  have hS : IR.SRel (irG n nb) (fun v => γ.getD v 0) r r := ⟨fun u hu => hcol u hu, rfl, rfl⟩
  obtain ⟨_, h2⟩ := IR.path_rel Rl rf vs hS hp
  rw [map_eq_self_of_fix (σ := fun v => γ.getD v 0) hfix] at h2
  obtain ⟨_, hAl, _⟩ := IR.path_cells (irG_wf hnb) (rf := rf) vs r hA hD hp
  apply perm_eq_range_of_fix hγ.1
  intro v hv
  have hσ : γ.getD v 0 < n := Rl.σ_lt v hv
  exact IR.target_none_inj hAl ht (u := γ.getD v 0) (v := v) hσ hv (h2.1 v hv)

theorem acov_node_aut (hnb : NbOK nb n) {R : Nat → Nat → Prop} {vsF oF : List Nat} {K : Nat}
    (hp : IR.IsPath (irG n nb) rf r vsF) (ht : IR.target (irG n nb) (IR.nodeAt (irG n nb) rf r vsF) = none)
    (hc : (IR.nodeAt (irG n nb) rf r vsF).c = IR.tab n (fun v => oF.idxOf v)) (hoF : oF.Perm (List.range n))
    (h : ACov n nb rf (IR.tab n (fun v => oF.idxOf v)) (certPos nb oF n) R (nodeL n nb rf r vsF K))
    {γ : List Nat} (hγ : IsAutL nb n γ) (hcol : ∀ v, v < n → IR.col r.c (γ.getD v 0) = IR.col r.c v)
    (hfix : ∀ j v, j < K → vsF[j]? = some v → γ.getD v 0 = v) :
    ∀ u, u < n → R u (γ.getD u 0) := by
  intro u hu
  obtain ⟨τ, Rl⟩ := relabel_of_isAutL hnb hγ
  have hS : IR.SRel (irG n nb) (fun v => γ.getD v 0) r r := ⟨fun u hu => hcol u hu, rfl, rfl⟩
  obtain ⟨h1, h2⟩ := IR.path_rel Rl rf vsF hS hp
  -- the image path starts with the first `K` vertices of the first-leaf path
  have hsplit : vsF.map (fun v => γ.getD v 0) = vsF.take K ++ (vsF.drop K).map (fun v => γ.getD v 0) := by
    conv_lhs => rw [← List.take_append_drop K vsF]
    rw [List.map_append]
    congr 1
    apply map_eq_self_of_fix
    intro j v hj
    rw [List.getElem?_take] at hj
    split at hj
    · next hjK => exact hfix j v hjK hj
    · cases hj
  rw [hsplit] at h1 h2
  obtain ⟨hpre, hsuf⟩ := (IR.isPath_append (vsF.take K) r _).1 h1
  rw [IR.nodeAt_append (vsF.take K) r _ hpre] at h2
  have h2 : IR.SRel (irG n nb) (fun v => γ.getD v 0) (IR.nodeAt (irG n nb) rf r vsF)
      (IR.nodeAt (irG n nb) rf (nodeL n nb rf r vsF K) ((vsF.drop K).map (fun v => γ.getD v 0))) := h2
  have hsuf : IR.IsPath (irG n nb) rf (nodeL n nb rf r vsF K) ((vsF.drop K).map (fun v => γ.getD v 0)) := hsuf
  have hσu : γ.getD u 0 < n := Rl.σ_lt u hu
  apply h ((vsF.drop K).map (fun v => γ.getD v 0)) hsuf (by rw [IR.target_rel Rl h2]; exact ht)
    (by rw [IR.cert_rel Rl h2.1, hc]; exact cert_link hnb hoF) u (γ.getD u 0) hu hσu
  have := h2.1 u hu
  rw [hc] at this
  exact this.symm

/-- a permutation that preserves the colouring of the node of level `K` of a path fixes the first `K` vertices of the
path (they are alone in their cells there: `IR.path_vertex_single`) … -/
theorem pres_node_fix_path (hnb : NbOK nb n) {vs γ : List Nat}
    {K : Nat} (hp : IR.IsPath (irG n nb) rf r vs) (hγ : γ.Perm (List.range n))
    (hcol : ∀ v, v < n → IR.col (nodeL n nb rf r vs K).c (γ.getD v 0) = IR.col (nodeL n nb rf r vs K).c v) :
    ∀ j v, j < K → vs[j]? = some v → γ.getD v 0 = v := by
  intro j v hj hv
  obtain ⟨hl, _, hmem⟩ := perm_range_facts hγ
  obtain ⟨t, -, hm, -⟩ := IR.path_level hp hv
  have hvn : v < n := (IR.mem_cellMembers.1 hm).1
  exact IR.path_vertex_single (irG_wf hnb) hp hj hv ((hmem _).1 (getD_mem (by omega))) (hcol v hvn)

/-- … and preserves the colouring of the root (the node refines the root: `IR.mono_levels`) -/
theorem pres_node_pres_root (hnb : NbOK nb n) {vs γ : List Nat} {K : Nat} (hp : IR.IsPath (irG n nb) rf r vs)
    (hγ : γ.Perm (List.range n))
    (hcol : ∀ v, v < n → IR.col (nodeL n nb rf r vs K).c (γ.getD v 0) = IR.col (nodeL n nb rf r vs K).c v) :
    ∀ v, v < n → IR.col r.c (γ.getD v 0) = IR.col r.c v := by
  intro v hv
  obtain ⟨hl, _, hmem⟩ := perm_range_facts hγ
  exact (IR.mono_levels (irG_wf hnb) hp (Nat.zero_le K)).refines ((hmem _).1 (getD_mem (by omega))) hv (hcol v hv)

end

theorem isPath_mem_lt {n : Nat} {nb : Nbrs} {rf : Nat} {r : IR.St} {vs : List Nat} (hp : IR.IsPath (irG n nb) rf r vs)
    {j v : Nat} (hv : vs[j]? = some v) : v < n := by
  obtain ⟨t, -, hm, -⟩ := IR.path_level hp hv
  exact (IR.mem_cellMembers.1 hm).1

theorem RecGen.isAut {n m : Nat} {nb : Nbrs} {s : LS} (hg : GInv n m nb s) {γ : List Nat} (h : RecGen s γ) :
    IsAutL nb n γ := by
  obtain ⟨k, g, hk, hgk, rfl⟩ := h
  obtain ⟨g', e, ha⟩ := hg.gens k hk
  rw [hgk] at e
  cases e
  exact ha

section
variable {n m : Nat} {nb : Nbrs} {rf : Nat} {r : IR.St}

theorem autgen_step (hnb : NbOK nb n) {gh : Gh} {s : LS} {L : Nat}
    (hF : LeafRec n nb rf r gh.vsF gh.oF s.firstLeaf.toList s.flPermInv s.flPath.toList) (hL : L < gh.vsF.length)
    (hpos : 0 < s.count) (hg : GInv n m nb s) (hGA : GlobalA n gh s)
    (he1 : ∀ k, k < s.ngens → ∀ γ, s.gens[k]? = some γ → ∀ u, u < n →
      IR.col (nodeL n nb rf r gh.vsF L).c (γ.toList.getD u 0) = IR.col (nodeL n nb rf r gh.vsF L).c u)
    (hcov : ACov n nb rf (lFof n gh) s.firstLeaf.toList (ORel s) (nodeL n nb rf r gh.vsF L))
    (hnext : AutGen n nb r gh s (L + 1)) : AutGen n nb r gh s L := by
  have _ := hGA
  intro γ hγ hcol hfix
  have hSp : ∀ γ', RecGen s γ' → γ'.Perm (List.range n) := fun γ' h => (RecGen.isAut hg h).1
  have hwv : gh.vsF[L]? = some (gh.vsF[L]) := List.getElem?_eq_getElem hL
  generalize gh.vsF[L] = w at hwv
  have hwn : w < n := isPath_mem_lt hF.path hwv
  have hγw : γ.getD w 0 < n := perm_getD_lt hγ.1 hwn
  -- `w` and `γ w` are in the same class of `firstLeafOrbits`
  have hcov' : ACov n nb rf (IR.tab n (fun v => gh.oF.idxOf v)) (certPos nb gh.oF n) (ORel s)
      (nodeL n nb rf r gh.vsF L) := by
    rw [← hF.cert]; exact hcov
  have horel : ORel s w (γ.getD w 0) :=
    acov_node_aut hnb hF.path hF.leaf hF.col hF.perm hcov' hγ hcol hfix w hwn
  -- a chain of generator steps from `w` to `γ w`
  have hchain : EqvGen (fun x y => ∃ γ', RecGen s γ' ∧ γ'[x]? = some y) w (γ.getD w 0) := by
    apply eqvGen_of_imp _ ((hg.orb hpos).2 w (γ.getD w 0) hwn hγw horel)
    rintro x y ⟨k, g, hk, hgk, hxy⟩
    exact EqvGen.rel _ _ ⟨g.toList, ⟨k, g, hk, hgk, rfl⟩, hxy⟩
  obtain ⟨β, hβ, hβw⟩ := genBy_of_eqvGen hSp hwn hchain
  have hβp : β.Perm (List.range n) := GenBy.perm hSp hβ
  have hβa : IsAutL nb n β := GenBy.isAut (fun γ' h => RecGen.isAut hg h) hβ
  -- `β` preserves the colouring of the node, hence fixes the path and preserves the root colouring
  have hβc : ∀ v, v < n → IR.col (nodeL n nb rf r gh.vsF L).c (β.getD v 0) = IR.col (nodeL n nb rf r gh.vsF L).c v := by
    apply GenBy.pres hSp _ _ hβ
    rintro γ' ⟨k, g, hk, hgk, rfl⟩ v hv
    exact he1 k hk g hgk v hv
  have hβfix := pres_node_fix_path hnb hF.path hβp hβc
  have hβroot := pres_node_pres_root hnb hF.path hβp hβc
  have hip := invL_perm hβp
  -- `δ = β⁻¹ ∘ γ`
  have hδ : GenBy (RecGen s) n (compL n (invL n β) γ) := by
    apply hnext _ (isAutL_comp (isAutL_inv hβa) hγ)
    · intro v hv
      have hγv := perm_getD_lt hγ.1 hv
      rw [compL_getD hv, ← hcol v hv]
      have := hβroot _ (perm_getD_lt hip hγv)
      rw [invL_right hβp hγv] at this
      exact this.symm
    · intro j v hj hv
      have hvn : v < n := isPath_mem_lt hF.path hv
      rw [compL_getD hvn]
      rcases Nat.lt_or_ge j L with hlt | hge
      · rw [hfix j v hlt hv]
        have := invL_left hβp hvn
        rw [hβfix j v hlt hv] at this
        exact this
      · have hjL : j = L := by omega
        subst hjL
        rw [hwv] at hv
        cases hv
        rw [← hβw]
        exact invL_left hβp hwn
  exact genBy_factor hβp hγ.1 hβ hδ

end
end CanonF
