import Mamba.Spec.IntSort
/-! Lemmas for C17 (`ints.Sort`): every write is a swap, so every function of the file preserves the
multiset of the elements of the slice. -/
namespace IntSort

/-- the multiset of the elements of a slice: its list of elements up to permutation -/
def ms (d : Data) : Quotient (⟨List.Perm, List.Perm.refl, List.Perm.symm, List.Perm.trans⟩ : Setoid (List Int)) :=
  Quotient.mk _ d.toList

theorem swap_ok {d d' : Data} {i j : Int} (h : swap d i j = .ok d') :
    ∃ (hi : i.toNat < d.size) (hj : j.toNat < d.size), 0 ≤ i ∧ 0 ≤ j ∧ d' = d.swap i.toNat j.toNat hi hj := by
  unfold swap at h
  split at h
  · rename_i hc
    exact ⟨hc.2.1, hc.2.2.2, hc.1, hc.2.2.1, by cases h; rfl⟩
  · cases h

theorem swap_ms {d d' : Data} {i j : Int} (h : swap d i j = .ok d') : ms d' = ms d := by
  obtain ⟨hi, hj, _, _, rfl⟩ := swap_ok h
  exact Quotient.sound (Array.swap_perm hi hj).toList

theorem swapIfLt_ms {d d' : Data} {i j : Int} (h : swapIfLt d i j = .ok d') : ms d' = ms d := by
  unfold swapIfLt at h
  split at h
  · exact swap_ms h
  · cases h; rfl
  · cases h
  · cases h

theorem insertInner_ms (d : Data) (a j : Int) : ∀ d', insertInner d a j = .ok d' → ms d' = ms d := by
  fun_induction insertInner d a j <;> intro d' h <;> try cases h
  case case1 hsw ih => rw [ih d' h, swap_ms hsw]
  all_goals rfl

theorem insertOuter_ms (d : Data) (a b i : Int) : ∀ d', insertOuter d a b i = .ok d' → ms d' = ms d := by
  fun_induction insertOuter d a b i <;> intro d' h <;> try cases h
  case case1 hin ih => rw [ih d' h, insertInner_ms _ _ _ _ hin]
  all_goals rfl

theorem insertionSort_ms {d : Data} {a b : Int} {d' : Data} (h : insertionSort d a b = .ok d') : ms d' = ms d :=
  insertOuter_ms d a b (a+1) d' h

theorem siftLoop_ms (c : Cfg) (f : Nat) (d : Data) (root hi first : Int) :
    ∀ d', siftLoop c f d root hi first = .ok d' → ms d' = ms d := by
  fun_induction siftLoop c f d root hi first <;> intro d' h <;> try cases h
  case case4 hsw ih => rw [ih d' h, swap_ms hsw]
  all_goals rfl

theorem siftDown_ms {c : Cfg} {d : Data} {lo hi first : Int} {d' : Data} (h : siftDown c d lo hi first = .ok d') :
    ms d' = ms d := siftLoop_ms c _ d lo hi first d' h

theorem heapBuild_ms (c : Cfg) (d : Data) (i hi first : Int) : ∀ d', heapBuild c d i hi first = .ok d' → ms d' = ms d := by
  fun_induction heapBuild c d i hi first <;> intro d' h <;> try cases h
  case case1 hsd ih => rw [ih d' h, siftDown_ms hsd]
  all_goals rfl

theorem heapPop_ms (c : Cfg) (d : Data) (i first : Int) : ∀ d', heapPop c d i first = .ok d' → ms d' = ms d := by
  fun_induction heapPop c d i first <;> intro d' h <;> try cases h
  case case1 hsw _ hsd ih => rw [ih d' h, siftDown_ms hsd, swap_ms hsw]
  all_goals rfl

theorem heapSort_ms {c : Cfg} {d : Data} {a b : Int} {d' : Data} (h : heapSort c d a b = .ok d') : ms d' = ms d := by
  unfold heapSort at h
  simp only at h
  split at h <;> try cases h
  rename_i d1 h1
  rw [heapPop_ms _ _ _ _ _ h, heapBuild_ms _ _ _ _ _ _ h1]

theorem medianOfThree_ms {d : Data} {m1 m0 m2 : Int} {d' : Data} (h : medianOfThree d m1 m0 m2 = .ok d') :
    ms d' = ms d := by
  unfold medianOfThree at h
  split at h <;> try cases h
  rename_i d1 h1
  rw [← swapIfLt_ms h1]
  split at h <;> try cases h
  · split at h <;> try cases h
    rename_i d2 h2
    rw [swapIfLt_ms h, swap_ms h2]
  · rfl

theorem partLoop_ms (f : Nat) (d : Data) (pivot b c : Int) :
    ∀ r, partLoop f d pivot b c = .ok r → ms r.1 = ms d := by
  fun_induction partLoop f d pivot b c <;> intro r h <;> try cases h
  case case3 hsw ih => rw [ih r h, swap_ms hsw]
  all_goals rfl

theorem protectLoop_ms (f : Nat) (d : Data) (pivot a b : Int) :
    ∀ r, protectLoop f d pivot a b = .ok r → ms r.1 = ms d := by
  fun_induction protectLoop f d pivot a b <;> intro r h <;> try cases h
  case case3 hsw ih => rw [ih r h, swap_ms hsw]
  all_goals rfl

theorem dupsTail_ms {d : Data} {pivot hi c : Int} {r : Data × Int × Nat} (h : dupsTail d pivot hi c = .ok r) :
    ms r.1 = ms d := by
  unfold dupsTail at h
  split at h <;> try cases h
  · split at h <;> try cases h
    rename_i d1 h1
    exact swap_ms h1
  · rfl

theorem dupsMid_ms {d : Data} {pivot m b : Int} {n : Nat} {r : Data × Int × Nat} (h : dupsMid d pivot m b n = .ok r) :
    ms r.1 = ms d := by
  unfold dupsMid at h
  split at h <;> try cases h
  · split at h <;> try cases h
    rename_i d1 h1
    exact swap_ms h1
  · rfl

theorem dupsBlock_ms {d : Data} {pivot m hi b c : Int} {r : Data × Int × Int × Nat}
    (h : dupsBlock d pivot m hi b c = .ok r) : ms r.1 = ms d := by
  unfold dupsBlock at h
  split at h <;> try cases h
  rename_i d1 c1 n1 h1
  split at h <;> try cases h
  split at h <;> try cases h
  rename_i d3 b3 n3 h3
  exact (dupsMid_ms h3).trans (dupsTail_ms h1)

theorem ninther_ms {c : Cfg} {d : Data} {lo hi m : Int} {d' : Data} (h : ninther c d lo hi m = .ok d') :
    ms d' = ms d := by
  unfold ninther at h
  split at h
  · simp only at h
    split at h <;> try cases h
    rename_i d1 h1
    split at h <;> try cases h
    rename_i d2 h2
    rw [medianOfThree_ms h, medianOfThree_ms h2, medianOfThree_ms h1]
  · cases h; rfl

theorem dupsStage_ms {c : Cfg} {d : Data} {lo m hi b c' : Int} {r : Data × Int × Int × Bool}
    (h : dupsStage c d lo m hi b c' = .ok r) : ms r.1 = ms d := by
  unfold dupsStage at h
  simp only at h
  split at h
  · split at h <;> try cases h
    rename_i h1
    exact dupsBlock_ms h1
  · cases h; rfl

theorem protectStage_ms {f : Nat} {d : Data} {lo a b : Int} {p : Bool} {r : Data × Int}
    (h : protectStage f d lo a b p = .ok r) : ms r.1 = ms d := by
  unfold protectStage at h
  split at h
  · split at h <;> try cases h
    rename_i h1
    exact protectLoop_ms _ _ _ _ _ _ h1
  · cases h; rfl

theorem doPivot_ms {c : Cfg} {d : Data} {lo hi : Int} {r : Data × Int × Int} (h : doPivot c d lo hi = .ok r) :
    ms r.1 = ms d := by
  unfold doPivot at h
  split at h
  · cases h
  simp only at h
  split at h <;> try cases h
  rename_i d0 h0
  split at h <;> try cases h
  rename_i d1 h1
  split at h <;> try cases h
  split at h <;> try cases h
  rename_i d2 b c2 h2
  split at h <;> try cases h
  rename_i d3 b3 c3 p h3
  split at h <;> try cases h
  rename_i d4 b4 h4
  split at h <;> try cases h
  rename_i d5 h5
  rw [swap_ms h5, protectStage_ms h4, dupsStage_ms h3, partLoop_ms _ _ _ _ _ _ h2, medianOfThree_ms h1, ninther_ms h0]

theorem shellPass_ms (c : Cfg) (d : Data) (b i : Int) : ∀ d', shellPass c d b i = .ok d' → ms d' = ms d := by
  fun_induction shellPass c d b i <;> intro d' h <;> try cases h
  case case1 hsw ih => rw [ih d' h, swapIfLt_ms hsw]
  all_goals rfl

theorem quickSort_ms (c : Cfg) (f : Nat) (d : Data) (a b : Int) (md : Nat) :
    ∀ d', quickSort c f d a b md = .ok d' → ms d' = ms d := by
  fun_induction quickSort c f d a b md <;> intro d' h <;> try cases h
  case case2 => exact heapSort_ms h
  case case3 hp _ _ h1 ih1 ih2 => rw [ih2 d' h, ih1 _ h1, doPivot_ms hp]
  case case6 hp _ _ h1 ih1 ih2 => rw [ih2 d' h, ih1 _ h1, doPivot_ms hp]
  case case11 hs => rw [insertionSort_ms h, shellPass_ms _ _ _ _ _ hs]
  all_goals rfl

theorem sort_ms {c : Cfg} {d d' : Data} (h : sort c d = .ok d') : ms d' = ms d := by
  unfold sort at h
  split at h <;> try cases h
  exact quickSort_ms _ _ _ _ _ _ _ h

theorem sort_perm_toList {c : Cfg} {d d' : Data} (h : sort c d = .ok d') : d'.toList.Perm d.toList :=
  Quotient.exact (sort_ms h)

end IntSort
