import Mamba.Lemmas.SearchStep
import Mamba.Lemmas.TriNat
/-! Invariants of the search iterator model: sizes of the current graph, parameters never change. -/
namespace Search

theorem tri_succ (n : Nat) : tri (n + 1) = tri n + n := TriNat.succ n

theorem tri_mono {a b : Nat} (h : a ≤ b) : tri a ≤ tri b := TriNat.mono h

theorem tri_add_lt {u v n : Nat} (huv : u < v) (hv : v < n) : tri v + u < tri n := TriNat.add_lt huv hv

structure DG.Sized (g : DG) : Prop where
  degs : g.degs.size = g.nv
  edges : g.edges.size = tri g.nv

theorem addVertex_fold_sizes (oldSize : Nat) :
    ∀ (nbrs : List Nat) (p q : Array Nat × Array Int),
      nbrs.foldlM (m := Outcome) (fun (p : Array Nat × Array Int) v =>
        if oldSize + v < p.1.size ∧ v < p.2.size then
          Outcome.ok (p.1.setIfInBounds (oldSize + v) 1, p.2.modify v (· + 1))
        else Outcome.panic) p = .ok q → q.1.size = p.1.size ∧ q.2.size = p.2.size
  | [], p, q, h => by
    simp only [List.foldlM_nil] at h
    cases h; exact ⟨rfl, rfl⟩
  | v :: vs, p, q, h => by
    simp only [List.foldlM_cons] at h
    by_cases hc : oldSize + v < p.1.size ∧ v < p.2.size
    · simp only [hc, and_self, if_true] at h
      have := addVertex_fold_sizes oldSize vs _ q h
      simpa using this
    · simp only [hc, if_false] at h
      cases h

theorem addVertex_sized {g g' : DG} {nbrs : List Nat} (h : g.addVertex nbrs = .ok g') (hs : g.Sized) :
    g'.Sized ∧ g'.nv = g.nv + 1 := by
  unfold DG.addVertex at h
  try simp only at h
  split at h
  · cases h
  · split at h
    · rename_i e d heq
      cases h
      have := addVertex_fold_sizes _ _ _ _ heq
      simp only [Array.size_append, Array.size_replicate] at this
      refine ⟨⟨?_, ?_⟩, rfl⟩
      · simp [this.2, hs.degs]
      · simp [this.1, hs.edges, tri_succ]
    · cases h
    · cases h

theorem decNbrs_size (edges : Array Nat) (base : Nat) :
    ∀ (l : List Nat) (d d' : Array Int), decNbrs edges base l d = .ok d' → d'.size = d.size
  | [], d, d', h => by simp only [decNbrs] at h; cases h; rfl
  | i :: is, d, d', h => by
    simp only [decNbrs] at h
    split at h
    · cases h
    · split at h
      · split at h
        · have := decNbrs_size edges base is _ d' h
          simpa using this
        · cases h
      · exact decNbrs_size edges base is d d' h

theorem removeLast_sized {g g' : DG} (h : g.removeLast = .ok g') : g'.Sized ∧ g'.nv + 1 = g.nv := by
  unfold DG.removeLast at h
  split at h
  · cases h
  · rename_i hnv
    try simp only at h
    split at h
    · cases h
    · rename_i hsz
      split at h
      · cases h
      · split at h
        · rename_i d hd
          cases h
          have hds := decNbrs_size _ _ _ _ _ hd
          have hsz' : g.edges.size = tri g.nv ∧ g.degs.size = g.nv := by
            constructor
            · exact Classical.byContradiction fun hh => hsz (Or.inl hh)
            · exact Classical.byContradiction fun hh => hsz (Or.inr hh)
          refine ⟨⟨?_, ?_⟩, by simp only; omega⟩
          · simp only [Array.size_pop, hds, hsz'.2]
          · simp only [Array.size_extract, hsz'.1]
            have := tri_mono (Nat.sub_le g.nv 1)
            omega
        · cases h
        · cases h

def SameParams (s s' : State) : Prop := s'.n = s.n ∧ s'.a = s.a ∧ s'.m = s.m ∧ s'.first = s.first

theorem SameParams.refl (s : State) : SameParams s s := ⟨rfl, rfl, rfl, rfl⟩

theorem SameParams.trans {s t u : State} (h1 : SameParams s t) (h2 : SameParams t u) : SameParams s u :=
  ⟨h2.1.trans h1.1, h2.2.1.trans h1.2.1, h2.2.2.1.trans h1.2.2.1, h2.2.2.2.trans h1.2.2.2⟩

theorem parentOf_nv {g P : DG} {sf : Bool} {k : Nat} (hp : parentOf g sf = .ok P)
    (hl : g.nv = k + (if sf then 0 else 1)) : P.nv = k := by
  cases sf with
  | true => cases hp; exact hl
  | false => have := (removeLast_sized hp).2; simp only [Bool.false_eq_true, if_false] at hl; omega

theorem parentOf_sized {g P : DG} {sf : Bool} (hp : parentOf g sf = .ok P) (hs : g.Sized) : P.Sized := by
  cases sf with
  | true => cases hp; exact hs
  | false => exact (removeLast_sized hp).1

theorem parentOf_lt {g P : DG} {sf : Bool} {n : Nat} (hp : parentOf g sf = .ok P) (hle : g.nv ≤ n)
    (hlt : sf = true → g.nv < n) : P.nv < n := by
  cases sf with
  | true => cases hp; exact hlt rfl
  | false => have := (removeLast_sized hp).2; omega

/-- the effective `stepForward` of a configuration: the current graph is the one the children of the top frame extend -/
def Mode.eff : Mode → Bool
  | .outer false _ => false
  | .outer true sf => sf
  | .step sf => sf
  | .inner sf _ => sf

structure ModeInv (mode : Mode) (s : State) : Prop where
  sized : s.g.Sized
  le : s.g.nv ≤ s.n
  lt : mode.eff = true → s.g.nv < s.n

variable {O : Oracle} {pre pr : DG → Bool}

theorem Trans.sameParams {mode mode' : Mode} {s s' : State} (h : Trans O pre pr mode s mode' s') :
    SameParams s s' := by
  cases h <;> exact ⟨rfl, rfl, rfl, rfl⟩

theorem Trans.modeInv {mode mode' : Mode} {s s' : State} (h : Trans O pre pr mode s mode' s')
    (hi : ModeInv mode s) : ModeInv mode' s' := by
  cases h with
  | resume | enter | skip => exact ⟨hi.sized, hi.le, hi.lt⟩
  | push hne => exact ⟨hi.sized, hi.le, fun _ => Nat.lt_of_le_of_ne hi.le hne⟩
  | back hp => exact ⟨parentOf_sized hp hi.sized, Nat.le_of_lt (parentOf_lt hp hi.le hi.lt), fun h => Bool.noConfusion h⟩
  | reject _ _ _ hp hadd | accept _ _ _ hp hadd =>
    have h2 := addVertex_sized hadd (parentOf_sized hp hi.sized)
    exact ⟨h2.1, by rw [h2.2]; exact parentOf_lt hp hi.le hi.lt, fun h => Bool.noConfusion h⟩

theorem run_sameParams {f : Nat} {mode : Mode} {s : State} {r : State × Bool}
    (h : run O pre pr f mode s = .ok r) : SameParams s r.1 :=
  run_rec (I := fun _ _ => True) (C := fun _ s r => SameParams s r.1)
    (fun hr _ => by cases hr <;> exact SameParams.refl _)
    (fun _ ht _ => ⟨trivial, ht.sameParams.trans⟩) f mode s r h trivial

theorem run_sized {f : Nat} {mode : Mode} {s : State} {r : State × Bool}
    (h : run O pre pr f mode s = .ok r) (hi : ModeInv mode s) : r.1.g.Sized ∧ r.1.g.nv ≤ r.1.n :=
  run_rec (I := ModeInv) (C := fun _ _ r => r.1.g.Sized ∧ r.1.g.nv ≤ r.1.n)
    (fun hr hi => by cases hr <;> exact ⟨hi.sized, hi.le⟩)
    (fun _ ht hi => ⟨ht.modeInv hi, id⟩) f mode s r h hi

end Search
