import Mamba.Lemmas.CanonFOrbLoop
import Mamba.Lemmas.CanonFOrbLeaf
import Mamba.Lemmas.CanonFEdgelessOrb
import Mamba.Lemmas.CanonFGhLayer
/-!
# Orbit completeness: the A-layer is carried by the main loop

Assembly of the A-layer (`CanonFOrbDef.lean`) with the D-layer as a `MainJX` instance (same ghost data): `orbLayer` collects
the `orb_*` theorems as a `GhLayer`, `orbMainJX` is `GhLayer.mainJX` of it; `orb_init`: the initial state. The theorems about
the returned `firstLeafOrbits` are drawn from it in `CanonFSemantic.lean`.
-/
namespace CanonF

section
variable {n m : Nat} {nb : Nbrs} {rf : Nat} {r : IR.St}
  (hnb : NbOK nb n) (hsz : nb.size = n) (hm : m = ((nb.toList.map List.length).sum) / 2) (hrf : 3 * n + 3 ≤ rf)
  (hA : IR.InvA (irG n nb) r) (hD : IR.InvD (irG n nb) r)
  (hlenm : ∀ o : List Nat, o.Perm (List.range n) → (certPos nb o n).length = m)

include hnb hsz hm hrf hA hD in
theorem orbLayer : GhLayer n m nb rf r (AAv n nb rf r) (ANv n nb rf r) (ANodev n nb rf r) (ASv n nb rf r) where
  na := orb_na
  deage := fun gh lv s op' h => orb_deage gh lv s op' h
  noskip := orb_noskip
  skipA := fun gh st sz ls s c cs p ps ce x k hc ht hage hch hpth hget hon hx hx0 hd ha =>
    orb_skipA gh st sz ls s c cs p ps ce x k hc ht hch hpth hget hon hx hx0 hd ha
  skipB := fun gh st sz ls s c cs p ps ce bo k hc ht hage hch hpth hget hon hh hd ha =>
    orb_skipB hnb gh st sz ls s c cs p ps ce bo k hc ht hch hpth hget hon hh hd ha
  split := fun gh st sz ls s c cs p ps ce bo w op' k hc ht hage hch hpth hget hs hJ hd ha =>
    orb_split hnb hsz hm hA hD gh st sz ls s c cs p ps ce bo w op' k hc ht hch hpth hget hs hJ hd ha
  pop := fun gh st sz ls s ht hJ hd ha => orb_pop hnb gh st sz ls s ht hJ hd ha
  leaf := fun gh gh' lv lv1 s s1 hI hlv hleaf hJ hd ha L hg _ => by
    cases hg with
    | first hcnt S => exact orb_leaf_first hI hlv hd L hcnt S
    | accept hpos hcmp S => exact orb_leaf_accept hnb hI hlv hleaf hd ha L hpos hcmp S
    | eq E => exact orb_leaf_eq hnb hA hD hI hJ hd ha E
    | other hpos _ _ hne e => rw [e]; exact orb_leaf_other hnb hI hlv hleaf hd ha L hpos hne
  inner := fun _ _ _ _ _ _ _ ha I => orb_inner ha I
  refine := fun gh t v lv s w op' sc' sc2 hc hl htl hJ hd ha hr =>
    orb_refine hnb hsz hm hrf hA hD gh t v lv s w op' sc' sc2 hc hl htl hJ hd ha hr

include hnb hsz hm hrf hA hD hlenm in
theorem orbMainJX :
    MainJX n m nb (CertA n m nb) (CertN n m nb) (CertN n m nb) (CertM n m nb)
      (EA n nb rf r) (EN n nb rf r) (ES n nb rf r) (EM n nb rf r) :=
  (orbLayer hnb hsz hm hrf hA hD).mainJX hnb hsz hm hrf hA hD hlenm

end

theorem orb_init {n m : Nat} {nb : Nbrs} {rf : Nat} (hnb : NbOK nb n) (hrf : 3 * n + 3 ≤ rf) {opts : Options}
    {op0 : OP} {s0 : LS} {si : IR.St} (hp : PartInv n op0) (ha : AgeInv op0) (hm0 : Match n op0 si) (hb0 : BtcInv op0)
    (hbs : BinsSorted op0) (hage0 : op0.age = 0) (hi : InitSt n m nb opts op0 s0) :
    CertM n m nb [] false s0 ∧ EM n nb rf (IR.refine (irG n nb) rf si) [] false s0 := by
  obtain ⟨hc, hd⟩ := dfs_init_v hnb hrf hp ha hm0 hb0 hbs hage0 hi
  have hpos : ¬ 0 < s0.count := by rw [hi.count]; exact Nat.lt_irrefl 0
  refine ⟨hc, ⟨[], [], [], [], []⟩, hd, ⟨fun h => absurd h hpos, fun h => absurd h hpos, fun γ hγ => by simp at hγ,
    fun k hk => by rw [hi.ngens] at hk; exact absurd hk (Nat.not_lt_zero _)⟩, ?_, ?_⟩
  · rw [hi.path, hi.choices]; trivial
  · rw [hi.path, hi.choices]; trivial

theorem isAutL_of_isAutG (g : GraphSpec.G) (hg : g.WF) (γ : List Nat) (h : IsAutG g γ) : IsAutL (nbrsOf g) g.n γ := by
  refine ⟨h.1, ?_⟩
  intro x y hx hy
  rw [mem_nbrsOf g hg, mem_nbrsOf g hg, h.2 x y hx hy]

theorem root_col_of_cellOf {n : Nat} {nb : Nbrs} (hnb : NbOK nb n) {γ : List Nat} (hγ : IsAutL nb n γ) (op : OP) (rf : Nat)
    (hcls : ∀ v, v < n → cellOf op (γ.getD v 0) = cellOf op v) (v : Nat) (hv : v < n) :
    IR.col (IR.refine (irG n nb) rf (IR.initSt (irG n nb) op.binDividers.len (cellOf op))).c (γ.getD v 0) =
      IR.col (IR.refine (irG n nb) rf (IR.initSt (irG n nb) op.binDividers.len (cellOf op))).c v := by
  obtain ⟨τ, Rl⟩ := relabel_of_isAutL hnb hγ
  exact (IR.refine_rel Rl rf (IR.initSt_rel Rl _ (fun v hv => hcls v hv))).1 v hv

open GraphSpec in
theorem cellOf_none {g : G} (hn : g.n ≠ 0) {m : Nat} {op0 : OP} (hnew : newOrderedPartition g.n m none = .ok (some op0))
    (v : Nat) (hv : v < g.n) : cellOf op0 v = 0 := by
  obtain ⟨op, hnew', hp, _, _, _, _, _, _, _, _, _, _, _, _, hbd⟩ :=
    newOrderedPartition_inv (n := g.n) (m := m) (vc := none) (Nat.pos_of_ne_zero hn) trivial
  rw [hnew] at hnew'
  cases hnew'
  simp only at hbd
  have hlen1 : op0.binDividers.len = 1 := by
    rw [← hp.length_bd, hbd]; rfl
  unfold cellOf
  rw [inCell_single hp hlen1 v hv]; rfl

end CanonF
