import Mamba.Lemmas.CanonFCovStep
/-!
# The coverage invariant through the leaf branch `leafNode` (branches without a back-jump)

A leaf node is the only leaf below itself (`complete_leaf`), so as soon as its certificate is `≤ currentBest` the child of
the top frame that was being explored — the leaf — is covered (`cov_finish_leaf`). This gives the branch that stores
nothing (`cov_leaf_other`) and, with `CovFrames.mono_best`, the branch that stores a better leaf (`cov_leaf_accept`). The
branches with `backJump` are in `CanonFCovBackjump.lean`.
-/
namespace CanonF

theorem leaf_colOf {n : Nat} {op : OP} (hp : PartInv n op) (hleaf : op.binDividers.len = n) :
    colOf n op = IR.tab n (fun v => op.order.toList.idxOf v) := by
  unfold colOf
  apply IR.tab_congr
  intro v hv
  have hmem : v ∈ op.order.toList := hp.perm.mem_iff.2 (List.mem_range.2 hv)
  rw [cellOf_order hp (getElem?_idxOf_of_mem hmem)]
  have hi := List.idxOf_lt_length_of_mem hmem
  have holen : op.order.toList.length = n := hp.length_order
  exact binIdx_eq_of_single _ hp.sorted n (hp.leaf_dividers hleaf) _ (by omega)

theorem complete_leaf {n : Nat} {nb : Nbrs} {rf : Nat} (hnb : NbOK nb n) {op : OP} {ν : IR.St} {best : List Nat}
    (hp : PartInv n op) (hleaf : op.binDividers.len = n) (hm : Match n op ν) (hvc : VClean nb op) (hspl : op.spl = n)
    (hle : compare op.value.toList best ≠ 1) : Complete n nb rf best ν := by
  intro x hx
  have htn := target_none (nb := nb) hp hm hleaf
  rw [IR.certBelow_of_target_none htn] at hx
  rw [← hx, hm.col, leaf_colOf hp hleaf, cert_link hnb hp.perm]
  have := hvc.val
  rw [hspl] at this
  rw [← this]
  exact hle

theorem CovFrames.mono_best {n : Nat} {nb : Nbrs} {rf : Nat} {r : IR.St} {s s' : LS} {vs : List Nat}
    (hb : ∀ x, compare x s.currentBest.toList ≠ 1 → compare x s'.currentBest.toList ≠ 1)
    (e2 : ∀ qs, onFirstB s' qs = onFirstB s qs) (e4 : s'.flOrbits = s.flOrbits) :
    ∀ (incl : Bool) (path choices : List Nat) (lv : List (Nat × Nat)),
      CovFrames n nb rf r s vs incl path choices lv → CovFrames n nb rf r s' vs incl path choices lv :=
  fun _ _ _ _ h => h.imp (fun _ _ => rfl) fun _ _ _ _ hc => by
    rcases hc with hcomp | ⟨hon, hdef⟩
    · exact Or.inl (fun x hx => hb x (hcomp x hx))
    · exact Or.inr ⟨by rw [e2]; exact hon, by rw [e4]; exact hdef⟩

theorem cov_finish_leaf {n : Nat} {nb : Nbrs} {rf : Nat} {r : IR.St} (hnb : NbOK nb n) {s s' : LS}
    {lv : List (Nat × Nat)} {vs : List Nat} (hc : Core n s) (hl : LevelsOK s.op s.path s.choices lv)
    (hw : WalkNodev n nb rf r vs lv s) (hleaf : s.op.binDividers.len = n) (hvc : VClean nb s.op)
    (hspl : s.op.spl = n) (hle : compare s.op.value.toList s'.currentBest.toList ≠ 1)
    (hcov : CovFrames n nb rf r s' vs false s.path s.choices lv) :
    CovFrames n nb rf r s' vs true s.path s.choices lv := by
  refine hcov.finish_top hw.path hl hw.framesOK (Nat.le_of_eq hw.len.symm) ?_
  rw [← hw.len]
  exact complete_leaf hnb hc.part hleaf (hw.matchTop hc) hvc hspl hle

/-- replacing `firstLeafOrbits` by a union–find in which every non-root stays a non-root -/
theorem CovFrames.mono_orbits {n : Nat} {nb : Nbrs} {rf : Nat} {r : IR.St} {s s' : LS} {vs : List Nat}
    (e1 : s'.currentBest = s.currentBest) (e2 : ∀ qs, onFirstB s' qs = onFirstB s qs)
    (e4 : ∀ (w : Nat) (y : Int), s.flOrbits[w]? = some y → y ≥ 0 → ∃ y' : Int, s'.flOrbits[w]? = some y' ∧ y' ≥ 0) :
    ∀ (incl : Bool) (path choices : List Nat) (lv : List (Nat × Nat)),
      CovFrames n nb rf r s vs incl path choices lv → CovFrames n nb rf r s' vs incl path choices lv :=
  fun _ _ _ _ h => h.imp (fun _ _ => rfl) fun _ _ w _ hc => by
    rcases hc with hcomp | ⟨hon, y, hy1, hy2⟩
    · exact Or.inl (by rw [e1]; exact hcomp)
    · exact Or.inr ⟨by rw [e2]; exact hon, e4 w y hy1 hy2⟩

theorem onFirstB_count_succ {s s' : LS} (hpos : 0 < s.count) (e2 : s'.count = s.count + 1) (e3 : s'.flPath = s.flPath)
    (qs : List Nat) : onFirstB s' qs = onFirstB s qs := by
  unfold onFirstB
  rw [e2, e3]
  have h1 : decide (s.count + 1 > 0) = true := by simp
  have h2 : decide (s.count > 0) = true := by simpa using hpos
  rw [h1, h2]

/-- the leaf branch, case "not better, equal to neither the best nor the first leaf" -/
theorem cov_leaf_other {n m : Nat} {nb : Nbrs} {rf : Nat} {r : IR.St} (hnb : NbOK nb n) {s s' : LS}
    {lv : List (Nat × Nat)} {vs : List Nat} (hc : Core n s) (hl : LevelsOK s.op s.path s.choices lv)
    (hw : WalkNodev n nb rf r vs lv s) (hleaf : s.op.binDividers.len = n) (hvc : VClean nb s.op) (hspl : s.op.spl = n)
    (hc1 : (compare s.op.value.toList s.currentBest.toList == 1 || s.count + 1 == 1) = false)
    (hc0 : (compare s.op.value.toList s.currentBest.toList == 0) = false)
    (hcf : (compare s.op.value.toList s.firstLeaf.toList == 0) = false)
    (h : leafNode n m s = .ok s')
    (hcov : CovFrames n nb rf r s vs false s.path s.choices lv) :
    s'.path = s.path ∧ s'.choices = s.choices ∧ s'.op = s.op ∧ CovFrames n nb rf r s' vs true s.path s.choices lv := by
  have hc1' := hc1
  simp only [Bool.or_eq_false_iff, beq_eq_false_iff_ne, ne_eq] at hc1'
  have hpos : 0 < s.count := by omega
  have es := leafNode_other hc1 hc0 hcf h
  subst es
  refine ⟨rfl, rfl, rfl, ?_⟩
  have hcov' := CovFrames.congr (s := s) (s' := { s with count := s.count + 1 }) (vs' := vs) rfl
    (onFirstB_count_succ hpos rfl rfl) rfl false s.path s.choices lv (fun _ _ => rfl) hcov
  exact cov_finish_leaf hnb hc hl hw hleaf hvc hspl (s' := { s with count := s.count + 1 }) hc1'.1 hcov'

set_option linter.unusedVariables false in
/-- the leaf branch, case "better than `currentBest`" (not the first leaf) -/
theorem cov_leaf_accept {n m : Nat} {nb : Nbrs} {rf : Nat} {r : IR.St} (hnb : NbOK nb n)
    (hlenm : ∀ o : List Nat, o.Perm (List.range n) → (certPos nb o n).length = m) {s s' : LS}
    {lv : List (Nat × Nat)} {vs : List Nat} (hc : Core n s) (hl : LevelsOK s.op s.path s.choices lv)
    (hw : WalkNodev n nb rf r vs lv s) (hleaf : s.op.binDividers.len = n) (hvc : VClean nb s.op) (hspl : s.op.spl = n)
    (hb : BestOK m s) (hg : GInv n m nb s)
    (hcmp : compare s.op.value.toList s.currentBest.toList = 1) (hcnt : 0 < s.count)
    (h : leafNode n m s = .ok s')
    (hcov : CovFrames n nb rf r s vs false s.path s.choices lv) :
    s'.path = s.path ∧ s'.choices = s.choices ∧ s'.op = s.op ∧ s'.currentBest.toList = s.op.value.toList ∧
      CovFrames n nb rf r s' vs true s.path s.choices lv := by
  have hval : s.op.value.toList = certPos nb s.op.order.toList n := by rw [← hspl]; exact hvc.val
  obtain ⟨cb, bpi, bo, rfl, hcbT⟩ : ∃ (cb bpi : Sl Nat) (bo : Disjoint.DS),
      s' = { s with count := s.count + 1, currentBest := cb, bestPath := s.bestPath.copyFrom s.path.reverse,
                    bestPerm := s.bestPerm.copyFrom s.op.order.toList, bestPermInv := bpi, bestOrbits := bo } ∧
      cb.toList = s.op.value.toList := by
    cases leafNode_case h with
    | first h0 _ _ => omega
    | accept _ _ hrs _ => exact ⟨_, _, _, rfl, store_cert hrs (by rw [hval]; exact hlenm _ hc.part.perm)⟩
    | eq _ hne _ _ _ _ => exact absurd hcmp hne
    | other _ hne _ _ => exact absurd hcmp hne
  refine ⟨rfl, rfl, rfl, hcbT, ?_⟩
  have hbv : compare s.currentBest.toList s.op.value.toList = -1 := (compare_eq_neg_one_iff _ _).2 hcmp
  refine cov_finish_leaf hnb hc hl hw hleaf hvc hspl (by
    show compare s.op.value.toList cb.toList ≠ 1
    rw [hcbT, compare_self]; decide) ?_
  refine CovFrames.mono_best (s := s) (fun x hx => ?_) ?_ ?_ false _ _ _ hcov
  · show compare x cb.toList ≠ 1
    rw [hcbT, compare_trans_le_lt x _ _ hx hbv]; decide
  · exact onFirstB_count_succ hcnt rfl rfl
  · rfl

end CanonF
