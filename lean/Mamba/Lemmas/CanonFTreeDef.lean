import Mamba.Lemmas.CanonFCert
import Mamba.Lemmas.CanonFSplit
import Mamba.Lemmas.CanonFRefine
import Mamba.Model.IR
/-!
# Link between the faithful model (`Model/CanonF.lean`) and the unpruned tree of `Model/IR.lean`: definitions

The colouring of an ordered partition is `inCell` (`cellOf`); `Match n op s` says that the IR state `s` is the ordered
partition `op` seen as a colouring: same colouring, same number of cells, same work list (as a set).

`CountSem` and `RefineIterCol` below, `IR.PassChar` (`IRPassChar.lean`) and `RefineMatch` (`CanonFTree.lean`) are closed
propositions written as `def … : Prop`. The statement stands in a file of definitions; the file that proves it and the
files that use it, as a hypothesis `(hcs : CountSem)`, do not import each other and are checked side by side; the
hypothesis is discharged where both are in scope. `countLoop_sem : CountSem` is in `CanonFTreeCount.lean`,
`IR.pass_char` in `IRPass.lean`; `refineIter_col` (`CanonFTreeRefine.lean`) and `refine_match` (`CanonFTreeLoop.lean`)
take the others as hypotheses in turn, and `CanonFTreeFinal.lean` has the closed forms `refineIterCol`, `refineMatch`,
which the files from `CanonFWalk.lean` on use. `StablePerm`, `StableTotal` (`CanonFRefineCall.lean`; `stablePerm` at the
end of `CanonFMain.lean`, `stable_no_panic` in `CanonFSort.lean`) and `ExpandCert` (`CanonFCert.lean`;
`expandValue_cert` in `CanonFCertExpand.lean`) are of the same kind.
-/
namespace CanonF

/-- the cell (bin index) of a vertex -/
def cellOf (op : OP) (v : Nat) : Nat := (op.inCell.toList[v]?).getD 0

/-- number of neighbours of `v` in cell `i` -/
def cntIn (nb : Nbrs) (op : OP) (i v : Nat) : Nat := (nb.getD v []).countP (fun w => cellOf op w == i)

/-- the IR graph with the same neighbour lists -/
def irG (n : Nat) (nb : Nbrs) : IR.G := { n := n, adj := nb }

/-- the IR colouring of an ordered partition -/
def colOf (n : Nat) (op : OP) : Array Nat := IR.tab n (cellOf op)

/-- the IR state `s` is the ordered partition `op` seen as a colouring -/
structure Match (n : Nat) (op : OP) (s : IR.St) : Prop where
  col : s.c = colOf n op
  cells : s.cells = op.binDividers.len
  nodup : s.work.Nodup
  work : ∀ x : Nat, x ∈ s.work ↔ (x : Int) ∈ op.binsToCheck.toList

/-- all positions in front of the bin of position `i` are singleton bins: the bin of `i` is the first bin that may be
split (`pickCell`) -/
def FirstBin (bd : List Nat) (i : Nat) : Prop := ∀ t, t < binStartOf bd i → t + 1 ∈ bd

/-- the counting loop of one refinement iteration computes, for every vertex, the number of its neighbours in the
splitter bin `i` (proved in `CanonFTreeCount.lean`) -/
def CountSem : Prop :=
  ∀ {n : Nat} {nb : Nbrs} {op : OP} {ts mc nm ts' mc' nm' : Sl Nat} {i bs di : Nat},
    PartInv n op → NbOK nb n →
    (0 :: op.binDividers.toList)[i]? = some bs → op.binDividers.toList[i]? = some di →
    ts.WF → ts.len = n → (∀ v, v < n → ts.toList[v]? = some 0) →
    forRange (countBinStep nb op.order op.inCell) (di - bs) bs (ts, mc, nm) = .ok (ts', mc', nm') →
    ts'.len = n ∧ ts'.WF ∧ ∀ v, v < n → ts'.toList[v]? = some (cntIn nb op i v)

/-- one iteration of the refinement at the level of colourings: the splitter `i` is the largest entry of the work list;
the new cells are ordered by (old cell, number of neighbours in the splitter cell); the new work list consists of the first
fragment of every old entry (other than `i`) and of all fragments of every cell that has been split
(proved in `CanonFTreeRefine.lean`) -/
def RefineIterCol : Prop :=
  ∀ {n : Nat} {nb : Nbrs} {cb fl : Sl Nat} {opts : Options} {op op' : OP} {sc sc' : Scratch},
    PartInv n op → AgeInv op → ScrInv n sc → sc.timesSeen.WF → sc.timesSeen.len = n → BtcInv op →
    0 < op.binsToCheck.len → NbOK nb n →
    refineIter nb n cb fl opts op sc = .ok (false, op', sc') →
    ∃ i : Nat, i < op.binDividers.len ∧ (i : Int) ∈ op.binsToCheck.toList ∧
      (∀ x ∈ op.binsToCheck.toList, x ≤ (i : Int)) ∧
      (∀ u v, u < n → v < n → (cellOf op' u < cellOf op' v ↔
        (cellOf op u < cellOf op v ∨ (cellOf op u = cellOf op v ∧ cntIn nb op i u < cntIn nb op i v)))) ∧
      (∀ v, v < n → (((cellOf op' v : Nat) : Int) ∈ op'.binsToCheck.toList ↔
        ((((cellOf op v : Nat) : Int) ∈ op.binsToCheck.toList ∧ cellOf op v ≠ i ∧
            ∀ u, u < n → cellOf op u = cellOf op v → cntIn nb op i v ≤ cntIn nb op i u) ∨
          (∃ u, u < n ∧ cellOf op u = cellOf op v ∧ cntIn nb op i u ≠ cntIn nb op i v)))) ∧
      BtcInv op' ∧ sc'.timesSeen.WF ∧ sc'.timesSeen.len = n ∧ ScrInv n sc'

end CanonF
