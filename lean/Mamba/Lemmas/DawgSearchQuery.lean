import Mamba.Lemmas.DawgSearchLoop
import Mamba.Lemmas.DawgSearchTrie
import Mamba.Lemmas.DawgSearchPattern
import Mamba.Lemmas.DawgSearchAnagram
/-!
# Queries as the harness poses them, equivalence of searcher states
-/
namespace DawgSearch

inductive Query where
  | pattern (pat : List UInt8) (blank : UInt8)
  | anagram (an : List UInt8) (blank : UInt8)

def Query.new : Query → Outcome SState
  | .pattern pat blank => .ok (.pat (newPatternSearcher pat blank))
  | .anagram an blank => do let a ← newAnagramSearcher an blank; pure (.ana a)

/-- the condition the property associates with the searcher -/
def Query.matches : Query → Word → Bool
  | .pattern pat blank, w => patternMatches blank pat w
  | .anagram an blank, w => anagramMatches blank an w

def Query.spec : Query → Spec SState
  | .pattern pat blank => patternSpec pat blank
  | .anagram an blank => anagramSpec (anagramLetters blank an) (anagramBlanks blank an) blank an.length

def newAll : List Query → Outcome (List SState)
  | [] => .ok []
  | q :: r => do let s ← q.new; let t ← newAll r; pure (s :: t)

theorem Query.spec_lawful : ∀ q : Query, Lawful goOps q.spec
  | .pattern pat blank => patternSpec_lawful pat blank
  | .anagram an blank => anagramSpec_lawful _ _ _ _ (blank_not_mem_anagramLetters blank an)

theorem Query.specs_lawful (qs : List Query) : ∀ sp ∈ qs.map Query.spec, Lawful goOps sp := by
  intro sp hsp
  obtain ⟨q, _, rfl⟩ := List.mem_map.1 hsp
  exact q.spec_lawful

theorem Query.new_spec : ∀ q : Query, ∃ s, q.new = .ok s ∧ q.spec.R [] s
  | .pattern pat blank => ⟨_, rfl, rfl⟩
  | .anagram an blank => by
    obtain ⟨a0, h1, h2⟩ := newAnagramSearcher_spec an blank
    exact ⟨.ana a0, by simp [Query.new, h1], h2⟩

theorem Query.spec_accepts : ∀ (q : Query) (w : Word), q.spec.accepts w = q.matches w
  | .pattern pat blank, w => patternSpec_accepts pat blank w
  | .anagram an blank, w => by
    simp only [Query.spec, Query.matches, anagramMatches]
    rw [anagramSpec_accepts]
    rfl

theorem newAll_spec : ∀ qs : List Query, ∃ ss, newAll qs = .ok ss ∧ RAll (qs.map Query.spec) [] ss
  | [] => ⟨[], rfl, trivial⟩
  | q :: r => by
    obtain ⟨s, h1, h2⟩ := q.new_spec
    obtain ⟨t, h3, h4⟩ := newAll_spec r
    exact ⟨s :: t, by simp [newAll, h1, h3], h2, h4⟩

theorem accAllFrom_queries (qs : List Query) (w : Word) :
    accAllFrom (qs.map Query.spec) [] w = qs.all (·.matches w) := by
  induction qs with
  | nil => rfl
  | cons q r ih =>
    simp only [accAllFrom, List.map_cons, List.all_cons] at ih ⊢
    rw [ih]
    congr 1
    exact q.spec_accepts w

/-- two searcher states that the interface cannot tell apart: equal, or anagram searchers that differ only in how
the count of a letter is spread over several entries for that letter -/
def SState.Equiv : SState → SState → Prop
  | .pat p, .pat p' => p = p'
  | .ana a, .ana a' => a.blank = a'.blank ∧ a.targetLength = a'.targetLength ∧ a.currPath = a'.currPath ∧
      a.blanks = a'.blanks ∧ (∀ c, tot a.counts c = tot a'.counts c)
  | _, _ => False

def EquivAll : List SState → List SState → Prop
  | [], [] => True
  | s :: ss, t :: ts => s.Equiv t ∧ EquivAll ss ts
  | _, _ => False

theorem Query.R_equiv : ∀ (q : Query) (rp : Word) (s t : SState), q.spec.R rp s → q.spec.R rp t → s.Equiv t
  | .pattern pat blank, rp, s, t, hs, ht => by
    simp only [Query.spec, patternSpec] at hs ht
    subst hs; subst ht
    rfl
  | .anagram an blank, rp, s, t, hs, ht => by
    obtain ⟨a, rfl, h1, h2, h3, h4, _, h6, _⟩ := hs
    obtain ⟨a', rfl, g1, g2, g3, g4, _, g6, _⟩ := ht
    exact ⟨by rw [h1, g1], by rw [h2, g2], by rw [h3, g3], by rw [h4, g4], fun c => by rw [h6 c, g6 c]⟩

theorem RAll_equiv : ∀ (qs : List Query) (rp : Word) (ss ts : List SState),
    RAll (qs.map Query.spec) rp ss → RAll (qs.map Query.spec) rp ts → EquivAll ss ts
  | [], _, [], [], _, _ => trivial
  | [], _, [], _ :: _, _, h => h.elim
  | [], _, _ :: _, _, h, _ => h.elim
  | _ :: _, _, [], _, h, _ => h.elim
  | _ :: _, _, _ :: _, [], _, h => h.elim
  | q :: r, rp, s :: ss, t :: ts, h, g => ⟨q.R_equiv rp s t h.1 g.1, RAll_equiv r rp ss ts h.2 g.2⟩

theorem SState.Equiv.pat_eq {p : PatternSearcher} {t : SState} (h : (SState.pat p).Equiv t) : t = .pat p := by
  cases t with
  | pat p' => exact congrArg _ (Eq.symm h)
  | ana _ => exact h.elim

theorem rankFilter_eq_zipIdx (acc : Word → Bool) : ∀ (ws : List Word) (k : Nat),
    rankFilter acc ws k = ((ws.zipIdx k).filter (fun p => acc p.1)).map (fun p => (p.1, (p.2 : Int)))
  | [], _ => rfl
  | w :: ws, k => by
    have ih := rankFilter_eq_zipIdx acc ws (k + 1)
    simp only [rankFilter, List.zipIdx_cons, List.filter_cons]
    have e : (k : Int) + 1 = ((k + 1 : Nat) : Int) := by omega
    rw [e, ih]
    split <;> simp

theorem pairwise_cons_of_lt_head {a b : Word} {r : List Word} (hab : a < b) (h : List.Pairwise (· < ·) (b :: r)) :
    List.Pairwise (· < ·) (a :: b :: r) :=
  List.Pairwise.cons (fun x hx => by
    rcases List.mem_cons.1 hx with rfl | hx
    · exact hab
    · exact List.lt_trans hab ((List.pairwise_cons.1 h).1 x hx)) h

/-- a word list in which every word is smaller than the next is strictly increasing (the fact behind `driver_sorted_check`
of `Props/C13.lean`, stated on indices) -/
theorem pairwise_of_chain : ∀ (ws : List Word), (∀ i, (h : i + 1 < ws.length) → ws[i] < ws[i + 1]) →
    List.Pairwise (· < ·) ws
  | [], _ => List.Pairwise.nil
  | [a], _ => by simp
  | a :: b :: r, h =>
    pairwise_cons_of_lt_head (by simpa using h 0 (by simp)) (pairwise_of_chain (b :: r) (fun i hi => by
      have := h (i + 1) (by simp at hi ⊢; omega)
      simpa using this))

end DawgSearch
