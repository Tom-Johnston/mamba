import Mamba.Lemmas.C06Prufer
import Mamba.Lemmas.CodecPrufer
/-! C06: the model `Construct.pruferDecode` of `PruferDecode` follows the C07 model `Codec.pruferDecode` step by step whenever
the latter succeeds, and writes the same byte array; hence (by `Codec.prufer_decode_tree`) its result is a labelled tree.
The C07 model keeps its degrees in `Nat` (`x - 1` stops at 0), this one in `Int`: the two arrays agree up to `Int.toNat`, and
the only test made on them (`== 1`) does not see the difference, so no invariant of the run is needed. -/
namespace Construct
open GraphSpec

theorem foldlM_sim {α β γ : Type} (R : α → β → Prop) (f : α → γ → Outcome α) (g : β → γ → Outcome β)
    (hstep : ∀ a b c b', R a b → g b c = .ok b' → ∃ a', f a c = .ok a' ∧ R a' b') :
    ∀ (l : List γ) (a : α) (b b' : β), R a b → l.foldlM g b = .ok b' → ∃ a', l.foldlM f a = .ok a' ∧ R a' b' := by
  intro l
  induction l with
  | nil => intro a b b' r h; cases h; exact ⟨a, rfl, r⟩
  | cons c t ih =>
    intro a b b' r h
    rw [List.foldlM_cons] at h
    obtain ⟨b1, h1, h2⟩ := Outcome.bind_eq_ok h
    obtain ⟨a1, e1, r1⟩ := hstep a b c b1 r h1
    obtain ⟨a', e2, r2⟩ := ih a1 b1 b' r1 h2
    exact ⟨a', by rw [List.foldlM_cons, e1]; exact e2, r2⟩

theorem sim_incr (b : Array Nat) (i : Nat) (b' : Array Nat) (h : Codec.incr b i = .ok b') :
    incrAt (b.map Int.ofNat) i = .ok (b'.map Int.ofNat) := by
  unfold Codec.incr at h
  by_cases hi : i < b.size
  · rw [Array.getElem?_eq_getElem hi] at h
    cases h
    have hi' : i < (b.map Int.ofNat).size := by simpa using hi
    simp only [incrAt, getAt_ok hi', Outcome.bind_ok, setAt_ok _ hi']
    congr 1
    apply Array.ext_getElem?
    intro x
    simp only [Array.getElem?_set, Array.getElem?_map, Array.getElem?_setIfInBounds, Array.getElem_map]
    by_cases hx : i = x
    · subst hx; simp [hi]
    · simp [hx]
  · rw [Array.getElem?_eq_none (by omega)] at h; cases h

theorem toNat_eq_one (y : Int) : (y.toNat = 1) = (y = 1) := by
  apply propext; omega

theorem sim_firstDegOne (a : Array Int) (js : List Nat) (r : Option Nat)
    (h : Codec.firstDegOne (a.map Int.toNat) js = .ok r) : js.find? (fun j => a[j]? == some 1) = r := by
  induction js with
  | nil => cases h; rfl
  | cons j t ih =>
    simp only [Codec.firstDegOne, Array.getElem?_map] at h
    cases ha : a[j]? with
    | none => rw [ha] at h; cases h
    | some y =>
      rw [ha] at h
      simp only [Option.map_some, toNat_eq_one] at h
      rw [List.find?_cons, ha]
      by_cases hy : y = 1
      · subst hy
        simp only [↓reduceIte, Outcome.ok.injEq] at h
        simp [h]
      · simp only [hy, ↓reduceIte] at h
        have : (some y == some (1 : Int)) = false := by simp [hy]
        rw [this]; exact ih h

/-- `d[i]--` -/
theorem sim_decr (a : Array Int) (i : Nat) (b' : Array Nat) (h : Codec.decr (a.map Int.toNat) i = .ok b') :
    ∃ a', (getAt a i >>= fun x => setAt a i (x - 1)) = .ok a' ∧ a'.size = a.size ∧ b' = a'.map Int.toNat := by
  unfold Codec.decr at h
  by_cases hi : i < a.size
  · rw [Array.getElem?_eq_getElem (by simpa using hi)] at h
    cases h
    refine ⟨a.set i (a[i] - 1), by simp only [getAt_ok hi, Outcome.bind_ok, setAt_ok _ hi], by simp, ?_⟩
    apply Array.ext_getElem?
    intro x
    simp only [Array.getElem?_set, Array.getElem?_map, Array.getElem?_setIfInBounds, Array.getElem_map, Array.size_map]
    by_cases hx : i = x
    · subst hx; simp [hi]
    · simp [hx]
  · rw [Array.getElem?_eq_none (by simpa using Nat.le_of_not_lt hi)] at h; cases h

theorem sim_setAt (e : Array Nat) (i : Nat) (e' : Array Nat) (h : Codec.setAt e i 1 = .ok e') : setAt e i 1 = .ok e' := by
  unfold Codec.setAt at h
  by_cases hi : i < e.size
  · rw [if_pos hi] at h; cases h
    rw [setAt_ok _ hi, Array.setIfInBounds_def, dif_pos hi]
  · rw [if_neg hi] at h; cases h

/-- the states of the two main loops: same bytes, degrees equal up to truncation at 0 -/
def StSim (st : Array Int × Array Nat) (st2 : Array Nat × Array Nat) : Prop :=
  st2.1 = st.1.map Int.toNat ∧ st2.2 = st.2

theorem sim_step (n : Nat) (st : Array Int × Array Nat) (st2 : Array Nat × Array Nat) (v : Nat) (st2' : Array Nat × Array Nat)
    (hR : StSim st st2) (h : Codec.pruferDecStep n st2 v = .ok st2') :
    ∃ st', pruferStep n st v = .ok st' ∧ StSim st' st2' := by
  obtain ⟨a, e⟩ := st
  obtain ⟨b, e2⟩ := st2
  obtain ⟨h1, h2⟩ := hR
  simp only at h1 h2
  subst h1 h2
  unfold Codec.pruferDecStep at h
  cases hfd : Codec.firstDegOne (a.map Int.toNat) (List.range n) with
  | panic => simp only [hfd] at h; cases h
  | outOfFuel => simp only [hfd] at h; cases h
  | ok r =>
    have hfl : firstLeaf a n = r := sim_firstDegOne a _ r hfd
    simp only [hfd] at h
    cases r with
    | none => cases h; exact ⟨(a, e2), by simp only [pruferStep, hfl]; rfl, rfl, rfl⟩
    | some j =>
      simp only at h
      cases hs : Codec.setAt e2 (Codec.edgeIdx j v) 1 with
      | panic => simp only [hs] at h; cases h
      | outOfFuel => simp only [hs] at h; cases h
      | ok e' =>
        simp only [hs] at h
        cases hd1 : Codec.decr (a.map Int.toNat) j with
        | panic => simp only [hd1] at h; cases h
        | outOfFuel => simp only [hd1] at h; cases h
        | ok b1 =>
          simp only [hd1] at h
          obtain ⟨a1, f1, _, rfl⟩ := sim_decr a j b1 hd1
          cases hd2 : Codec.decr (a1.map Int.toNat) v with
          | panic => simp only [hd2] at h; cases h
          | outOfFuel => simp only [hd2] at h; cases h
          | ok b2 =>
            simp only [hd2] at h
            cases h
            obtain ⟨a2, f2, _, rfl⟩ := sim_decr a1 v b2 hd2
            refine ⟨(a2, e'), ?_, rfl, rfl⟩
            have hset : (if j > v then setAt e2 ((j * (j - 1)) / 2 + v) 1 else setAt e2 ((v * (v - 1)) / 2 + j) 1 :
                Outcome (Array Nat)) = .ok e' := by
              rw [← sim_setAt e2 _ e' hs, Codec.edgeIdx]; split <;> rfl
            simp only [pruferStep, hfl, hset, Outcome.bind_ok]
            obtain ⟨x1, g1, g2⟩ := Outcome.bind_eq_ok f1
            rw [g1]; simp only [Outcome.bind_ok]; rw [g2]; simp only [Outcome.bind_ok]
            obtain ⟨x2, k1, k2⟩ := Outcome.bind_eq_ok f2
            rw [k1]; simp only [Outcome.bind_ok]; rw [k2]; rfl

/-- the last edge -/
theorem sim_last (n : Nat) (a : Array Int) (e : Array Nat) (d' : Codec.Dense)
    (h : (match Codec.firstDegOne (a.map Int.toNat) (List.range n) with
        | .ok none => Codec.newDense n e
        | .ok (some i) =>
          match Codec.firstDegOne (a.map Int.toNat) (List.range' (i + 1) (n - (i + 1))) with
          | .ok none => Codec.newDense n e
          | .ok (some j) =>
            match Codec.setAt e (j * (j - 1) / 2 + i) 1 with
            | .ok e2 => Codec.newDense n e2
            | .panic => .panic
            | .outOfFuel => .outOfFuel
          | .panic => .panic
          | .outOfFuel => .outOfFuel
        | .panic => .panic
        | .outOfFuel => .outOfFuel) = .ok d') :
    ∃ e', (match firstLeaf a n with
      | none => pure e
      | some i =>
        match (List.range' (i + 1) (n - (i + 1))).find? fun j => a[j]? == some 1 with
        | none => pure e
        | some j => setAt e ((j * (j - 1)) / 2 + i) 1 : Outcome (Array Nat)) = .ok e' ∧ Codec.newDense n e' = .ok d' := by
  cases h1 : Codec.firstDegOne (a.map Int.toNat) (List.range n) with
  | panic => simp only [h1] at h; cases h
  | outOfFuel => simp only [h1] at h; cases h
  | ok r =>
    have hfl : firstLeaf a n = r := sim_firstDegOne a _ r h1
    simp only [h1] at h
    rw [hfl]
    cases r with
    | none => exact ⟨e, rfl, h⟩
    | some i =>
      simp only at h ⊢
      cases h2 : Codec.firstDegOne (a.map Int.toNat) (List.range' (i + 1) (n - (i + 1))) with
      | panic => simp only [h2] at h; cases h
      | outOfFuel => simp only [h2] at h; cases h
      | ok r2 =>
        rw [sim_firstDegOne a _ r2 h2]
        simp only [h2] at h
        cases r2 with
        | none => exact ⟨e, rfl, h⟩
        | some j =>
          simp only at h ⊢
          cases h3 : Codec.setAt e (j * (j - 1) / 2 + i) 1 with
          | panic => simp only [h3] at h; cases h
          | outOfFuel => simp only [h3] at h; cases h
          | ok e' => simp only [h3] at h; exact ⟨e', sim_setAt e _ e' h3, h⟩

theorem pruferDecode_sim (p : List Nat) (d' : Codec.Dense) (h : Codec.pruferDecode p = .ok d') :
    ∃ d, pruferDecode p = .ok d ∧ d.WF ∧ d.n = p.length + 2 ∧ d'.n = d.n ∧ d'.edges = d.edges := by
  unfold Codec.pruferDecode at h
  cases h1 : p.foldlM Codec.incr (Array.replicate (p.length + 2) 1) with
  | panic => simp only [h1] at h; cases h
  | outOfFuel => simp only [h1] at h; cases h
  | ok b1 =>
    simp only [h1] at h
    obtain ⟨a1, f1, rfl⟩ := foldlM_sim (fun (a : Array Int) (b : Array Nat) => a = b.map Int.ofNat)
      (fun d v => incrAt d v) Codec.incr (fun a b c b' r hb => ⟨_, r ▸ sim_incr b c b' hb, rfl⟩) p
      (Array.replicate (p.length + 2) (1 : Int)) _ b1 (by simp) h1
    cases h2 : p.foldlM (Codec.pruferDecStep (p.length + 2)) (b1, Array.replicate ((p.length + 2) * (p.length + 2 - 1) / 2) 0) with
    | panic => simp only [h2] at h; cases h
    | outOfFuel => simp only [h2] at h; cases h
    | ok st2 =>
      simp only [h2] at h
      obtain ⟨st, f2, r2, r3⟩ := foldlM_sim StSim (pruferStep (p.length + 2)) (Codec.pruferDecStep (p.length + 2))
        (fun a b c b' r hb => sim_step _ a b c b' r hb) p
        (b1.map Int.ofNat, zeros ((p.length + 2) * (p.length + 2 - 1) / 2)) _ st2
        ⟨by simp [Array.map_map, Function.comp_def], rfl⟩ h2
      obtain ⟨b2, e2⟩ := st2
      simp only at r2 r3 h
      subst r2 r3
      obtain ⟨e', l1, l2⟩ := sim_last (p.length + 2) st.1 st.2 d' h
      have hsz : e'.size = tri (p.length + 2) := by
        by_contra hc
        have : e'.size ≠ (p.length + 2) * (p.length + 2 - 1) / 2 := hc
        unfold Codec.newDense at l2
        rw [if_pos this] at l2; cases l2
      obtain ⟨d, m1, m2, m3, m4⟩ := newDense_some (p.length + 2) e' hsz
      obtain ⟨d'', n1, _, n3, n4⟩ := Codec.newDense_ok (p.length + 2) e' hsz
      rw [l2] at n1; cases n1
      refine ⟨d, ?_, m4, m2, by rw [n3, m2], by rw [n4, m3]⟩
      rw [pruferDecode_unfold, f1]
      simp only [Outcome.bind_ok]
      rw [f2]; simp only [Outcome.bind_ok]
      refine (congrArg (fun x => x >>= fun edges => newDense (p.length + 2) (some edges)) (show _ = Outcome.ok e' from l1)).trans m1

theorem tri_eq_codec (n : Nat) : Codec.tri n = tri n := rfl

theorem toG_eq_abs (d : Dense) (d' : Codec.Dense) (hn : d'.n = d.n) (he : d'.edges = d.edges)
    (hs : d.edges.size = tri d.n) : d'.toG = d.abs := by
  have hs' : d'.edges.size = Codec.tri d'.n := by rw [he, hn]; exact hs
  refine (Dense.abs_eq d hs (Codec.Dense.toG_wf d') hn.symm fun u v huv hv => ?_).symm
  rw [Codec.Dense.toG_adj_lt hs' huv (by rw [hn]; exact hv), he]; rfl

theorem pruferDecode_tree (p : List Nat) (hp : ∀ v ∈ p, v < p.length + 2) :
    ∃ d, pruferDecode p = .ok d ∧ d.WF ∧ d.n = p.length + 2 ∧ Codec.IsTree d.abs := by
  obtain ⟨d', g1, _, _, ht⟩ := Codec.prufer_decode_tree p hp
  obtain ⟨d, h1, w, hn, hn', he⟩ := pruferDecode_sim p d' g1
  refine ⟨d, h1, w, hn, ?_⟩
  rw [← toG_eq_abs d d' hn' he w.size_edges]
  exact ht

theorem randomTree_tree (n : Nat) (hn : 2 ≤ n) (draw : Nat → Nat) (hdraw : ∀ i, draw i < n) :
    ∃ d, randomTree n draw = .ok d ∧ d.WF ∧ d.n = n ∧ Codec.IsTree d.abs := by
  have hlen : ((List.range (n - 2)).map draw).length + 2 = n := by simp; omega
  obtain ⟨d, e, w, h, t⟩ := pruferDecode_tree ((List.range (n - 2)).map draw) (by
    intro v hv
    simp only [List.mem_map] at hv
    obtain ⟨i, _, rfl⟩ := hv
    rw [hlen]; exact hdraw i)
  refine ⟨d, ?_, w, by omega, t⟩
  have : ¬ n < 2 := by omega
  simp only [randomTree, this, ↓reduceIte]
  exact e

theorem randomTree_ok (n : Nat) (hn : 2 ≤ n) (draw : Nat → Nat) (hdraw : ∀ i, draw i < n) :
    ∃ d, randomTree n draw = .ok d ∧ d.WF ∧ d.n = n := by
  obtain ⟨d, e, w, h, _⟩ := randomTree_tree n hn draw hdraw
  exact ⟨d, e, w, h⟩

end Construct
