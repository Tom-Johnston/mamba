import Mamba.Lemmas.CanonFTotalDef
import Mamba.Lemmas.CanonFDfsMain
/-!
# Totality: the capacity invariant and the concrete invariant used for the progress lemmas

`CapInv`: the capacities that the Go code relies on (`NewStorage(n, m)` / `NewOrderedPartition(n, m, …)`), and the bound
`ngens + #classes(firstLeafOrbits) ≤ n` that keeps `generators = generators[:len+1]` within its capacity `n - 1` (a
generator is recorded only when it merges two classes). `TA/TN/TS/TM`: certificate invariants ⊕ DFS invariant ⊕ `CapInv`.

`numRoots` through the orbit loop: `Find` only redirects non-roots to non-negative parents (the number of roots does not
change or, without the invariant, at least does not grow); `Union` of two different classes turns exactly one root into a
non-root (`numRoots_orbitLoop`).
-/
namespace CanonF

/-- number of classes of a union–find (entries `< 0` are roots) -/
def numRoots (ds : Disjoint.DS) : Nat := (ds.toList.filter (fun x => decide (x < 0))).length

structure CapInv (n m : Nat) (s : LS) : Prop where
  bd : n ≤ s.op.binDividers.data.size
  ages : n ≤ s.op.binAges.data.size
  btc : n ≤ s.op.binsToCheck.data.size
  dws : n ≤ s.sc.dws.data.size
  nbs : n ≤ s.sc.nbs.data.size
  space : n ≤ s.sc.space.data.size
  cb : m ≤ s.currentBest.data.size
  gens : n ≤ s.gens.size + 1
  genCnt : 0 < s.count → s.ngens + numRoots s.flOrbits ≤ n

section
variable (n m : Nat) (nb : Nbrs) (rf : Nat) (r : IR.St)

def TA (lv : List (Nat × Nat)) (s : LS) : Prop := (CertA n m nb lv s ∧ DA n nb rf r lv s) ∧ CapInv n m s
def TN (lv : List (Nat × Nat)) (s : LS) : Prop := (CertN n m nb lv s ∧ DN n nb rf r lv s) ∧ CapInv n m s
def TS (lv : List (Nat × Nat)) (s : LS) : Prop := (CertN n m nb lv s ∧ DS n nb rf r lv s) ∧ CapInv n m s
def TM (lv : List (Nat × Nat)) (worse : Bool) (s : LS) : Prop :=
  (CertM n m nb lv worse s ∧ DM n nb rf r lv worse s) ∧ CapInv n m s

end

/-- the depth of a node is below `n`: the number of cells grows along the path -/
theorem WalkNodev.depth_lt {n : Nat} {nb : Nbrs} {rf : Nat} {r : IR.St} (hnb : NbOK nb n) (hA : IR.InvA (irG n nb) r)
    (hD : IR.InvD (irG n nb) r) (hn : 0 < n) {vs : List Nat} {lv : List (Nat × Nat)} {s : LS}
    (hw : WalkNodev n nb rf r vs lv s) : s.path.length < n := by
  have h3 := hw.len
  obtain ⟨hcells, _, hDν⟩ := IR.path_cells (irG_wf hnb) (rf := rf) vs r hA hD hw.path
  have hr1 : 1 ≤ r.cells := by have := hA 0 hn; omega
  have hle : (IR.nodeAt (irG n nb) rf r vs).cells ≤ n := by
    have := IR.D_le (irG n nb).n (IR.nodeAt (irG n nb) rf r vs).c
    rw [hDν] at this
    exact this
  omega

theorem numRoots_eq_countP (ds : Disjoint.DS) : numRoots ds = ds.toList.countP (fun x => decide (x < 0)) := by
  unfold numRoots; rw [List.countP_eq_length_filter]

theorem numRoots_set (ds : Disjoint.DS) (i : Nat) (v : Int) (hi : i < ds.size) :
    numRoots (ds.setIfInBounds i v) =
      (numRoots ds - if ds[i] < 0 then 1 else 0) + if v < 0 then 1 else 0 := by
  rw [numRoots_eq_countP, numRoots_eq_countP, Array.toList_setIfInBounds, List.countP_set (by simpa using hi)]
  simp only [Array.getElem_toList, decide_eq_true_eq]

theorem numRoots_pos_of_root (ds : Disjoint.DS) (i : Nat) (hi : i < ds.size) (h : ds[i] < 0) : 1 ≤ numRoots ds := by
  rw [numRoots_eq_countP]
  exact List.countP_pos_iff.2 ⟨ds[i], by simp, by simpa using h⟩

theorem numRoots_set_nonneg_le (ds : Disjoint.DS) (i : Nat) (v : Int) (hv : 0 ≤ v) :
    numRoots (ds.setIfInBounds i v) ≤ numRoots ds := by
  by_cases hi : i < ds.size
  · have h2 : (if v < 0 then 1 else 0) = 0 := if_neg (by omega)
    rw [numRoots_set ds i v hi, h2]
    omega
  · rw [Array.setIfInBounds_eq_of_size_le (Nat.le_of_not_lt hi)]

theorem numRoots_set_root (ds : Disjoint.DS) (i : Nat) (v : Int) (hi : i < ds.size) (hr : ds[i] < 0) (hv : 0 ≤ v) :
    numRoots (ds.setIfInBounds i v) + 1 = numRoots ds := by
  have := numRoots_pos_of_root ds i hi hr
  have h2 : (if v < 0 then 1 else 0) = 0 := if_neg (by omega)
  rw [numRoots_set ds i v hi, if_pos hr, h2]
  omega

theorem numRoots_set_neg (ds : Disjoint.DS) (i : Nat) (v : Int) (hi : i < ds.size) (hr : ds[i] < 0) (hv : v < 0) :
    numRoots (ds.setIfInBounds i v) = numRoots ds := by
  have := numRoots_pos_of_root ds i hi hr
  rw [numRoots_set ds i v hi, if_pos hr, if_pos hv]
  omega

theorem numRoots_compress_le (tmp : Nat) : ∀ (xs : List Nat) (ds : Disjoint.DS),
    numRoots (Disjoint.compress ds tmp xs) ≤ numRoots ds := by
  intro xs
  induction xs with
  | nil => intro ds; exact Nat.le_refl _
  | cons x xs ih =>
    intro ds
    have e : Disjoint.compress ds tmp (x :: xs) = Disjoint.compress (ds.setIfInBounds x (tmp : Int)) tmp xs := rfl
    rw [e]
    exact Nat.le_trans (ih _) (numRoots_set_nonneg_le ds x _ (by omega))

theorem numRoots_find_le {ds ds' : Disjoint.DS} {x r : Nat} (h : Disjoint.find ds x = .ok (ds', r)) :
    numRoots ds' ≤ numRoots ds := by
  unfold Disjoint.find Disjoint.findF at h
  osplit h
  · cases h; exact Nat.le_refl _
  · cases h; exact numRoots_compress_le _ _ _

theorem nr_getD {ds : Disjoint.DS} {i : Nat} (hi : i < ds.size) : ds.getD i 0 = ds[i] := by
  simp [Array.getD, hi]

theorem numRoots_link {ds ds' : Disjoint.DS} {a b : Nat} (h : Disjoint.link ds a b = .ok ds') (hab : a ≠ b)
    (ha : a < ds.size) (hb : b < ds.size) (hra : ds[a] < 0) (hrb : ds[b] < 0) :
    numRoots ds' + 1 = numRoots ds := by
  unfold Disjoint.link at h
  rw [if_neg hab] at h
  have ea : ds[a]? = some ds[a] := by simp [ha]
  have eb : ds[b]? = some ds[b] := by simp [hb]
  rw [ea, eb] at h
  by_cases c1 : ds[a] < ds[b]
  · simp only [c1, if_true] at h
    cases h; exact numRoots_set_root ds b _ hb hrb (by omega)
  · by_cases c2 : ds[b] < ds[a]
    · simp only [c1, c2, if_true, if_false] at h
      cases h; exact numRoots_set_root ds a _ ha hra (by omega)
    · simp only [c1, c2, if_false] at h
      cases h
      have h1 := numRoots_set_root ds a (b : Int) ha hra (by omega)
      have hb' : b < (ds.setIfInBounds a (b : Int)).size := by simpa using hb
      have hval : (ds.setIfInBounds a (b : Int))[b] = ds[b] := by
        have h2 : (ds.setIfInBounds a (b : Int))[b]? = ds[b]? := by
          rw [Array.getElem?_setIfInBounds, if_neg hab]
        rw [Array.getElem?_eq_getElem hb', Array.getElem?_eq_getElem hb] at h2
        exact Option.some.inj h2
      rw [numRoots_set_neg _ b _ hb' (by rw [hval]; exact hrb) (by omega)]
      exact h1

theorem numRoots_union {ds ds' : Disjoint.DS} {x y : Nat} (hds : Disjoint.Inv ds) (h : Disjoint.union ds x y = .ok ds')
    (hne : Disjoint.rep ds x ≠ Disjoint.rep ds y) : numRoots ds' + 1 ≤ numRoots ds := by
  unfold Disjoint.union at h
  cases hf1 : Disjoint.find ds x with
  | ok pr1 =>
    obtain ⟨d1, px⟩ := pr1
    rw [hf1] at h; simp only at h
    obtain ⟨hx, hpx, i1, s1, k1⟩ := h2_find_ok hds hf1
    cases hf2 : Disjoint.find d1 y with
    | ok pr2 =>
      obtain ⟨d2, py⟩ := pr2
      rw [hf2] at h; simp only at h
      obtain ⟨hy, hpy, i2, s2, k2⟩ := h2_find_ok i1 hf2
      have hpx2 : px = Disjoint.rep d2 x := by rw [k2 x (by omega), k1 x hx]; exact hpx
      have hpy2 : py = Disjoint.rep d2 y := by rw [k2 y hy]; exact hpy
      obtain ⟨lx, yx, ex, nx⟩ := rep_is_root i2 (v := x) (by omega)
      obtain ⟨ly, yy, ey, ny⟩ := rep_is_root i2 (v := y) (by omega)
      rw [← hpx2] at lx ex
      rw [← hpy2] at ly ey
      have hrx : d2[px] < 0 := by
        have : d2[px]? = some d2[px] := by simp [lx]
        rw [this] at ex; injection ex with ex; omega
      have hry : d2[py] < 0 := by
        have : d2[py]? = some d2[py] := by simp [ly]
        rw [this] at ey; injection ey with ey; omega
      have hpne : px ≠ py := by
        rw [hpx, hpy, k1 y (by omega)]; exact hne
      have := numRoots_link h hpne lx ly hrx hry
      have := numRoots_find_le hf1
      have := numRoots_find_le hf2
      omega
    | panic => rw [hf2] at h; simp at h
    | outOfFuel => rw [hf2] at h; simp at h
  | panic => rw [hf1] at h; simp at h
  | outOfFuel => rw [hf1] at h; simp at h

theorem numRoots_orbitStep {order permInv : Sl Nat} {i : Nat} {ds ds' : Disjoint.DS} {mm mm' : Bool}
    (hds : Disjoint.Inv ds) (h : orbitStep order permInv i (ds, mm) = .ok (ds', mm')) :
    numRoots ds' ≤ numRoots ds ∧ (mm' = true → mm = true ∨ numRoots ds' + 1 ≤ numRoots ds) := by
  obtain ⟨p, v, d1, r1, d2, r2, _, _, hf1, hf2, hcase⟩ := orbitStep_ok h
  obtain ⟨hx1, hr1, i1, s1, k1⟩ := h2_find_ok hds hf1
  obtain ⟨hx2, hr2, i2, s2, k2⟩ := h2_find_ok i1 hf2
  have l1 := numRoots_find_le hf1
  have l2 := numRoots_find_le hf2
  rcases hcase with ⟨hne, hu, rfl⟩ | ⟨_, rfl, rfl⟩
  · have hne' : Disjoint.rep d2 i ≠ Disjoint.rep d2 v := by
      rw [k2 i hx2, k2 v (by omega), ← hr2, k1 v hx1, ← hr1]
      exact fun e => hne e.symm
    have := numRoots_union i2 hu hne'
    exact ⟨by omega, fun _ => Or.inr (by omega)⟩
  · exact ⟨by omega, fun e => Or.inl e⟩

theorem numRoots_new (n : Nat) : numRoots (Disjoint.new n) = n := by
  unfold numRoots Disjoint.new
  simp

theorem numRoots_orbitLoop {n : Nat} {order permInv : Sl Nat} {ds ds' : Disjoint.DS} {merges : Bool}
    (hinv : Disjoint.Inv ds) (hsz : ds.size = n) (hn : 0 < n)
    (h : forRange (orbitStep order permInv) n 0 (ds, false) = .ok (ds', merges)) :
    numRoots ds' ≤ numRoots ds ∧ (merges = true → numRoots ds' + 1 ≤ numRoots ds) ∧ 1 ≤ numRoots ds' := by
  have key := forRange_inv (orbitStep order permInv)
    (fun _ (st : Disjoint.DS × Bool) => Disjoint.Inv st.1 ∧ numRoots st.1 ≤ numRoots ds ∧
      (st.2 = true → numRoots st.1 + 1 ≤ numRoots ds))
    n 0 (ds, false) (ds', merges) ⟨hinv, Nat.le_refl _, fun e => by cases e⟩ ?_ h
  · obtain ⟨k1, k2, k3⟩ := key
    simp only at k1 k2 k3
    refine ⟨k2, k3, ?_⟩
    have hs' : ds'.size = n := by rw [orbitLoop_size h]; exact hsz
    obtain ⟨hl, y, hy, hneg⟩ := rep_is_root k1 (v := 0) (by omega)
    have : ds'[Disjoint.rep ds' 0]? = some ds'[Disjoint.rep ds' 0] := by simp [hl]
    rw [this] at hy; injection hy with hy
    exact numRoots_pos_of_root ds' _ hl (by omega)
  · rintro i ⟨d, m⟩ ⟨d', m'⟩ _ _ ⟨j1, j2, j3⟩ hstep
    simp only at j1 j2 j3 ⊢
    obtain ⟨a, b⟩ := numRoots_orbitStep j1 hstep
    refine ⟨(nonroot_orbitStep j1 hstep).1, by omega, fun hm' => ?_⟩
    rcases b hm' with hm | hlt
    · have := j3 hm; omega
    · omega

end CanonF
