import Mamba.Model.DegeneracyGo
import Mamba.Lemmas.CliqueGoFrame
/-! Correctness of the faithful model of `graph.Degeneracy`: helpers and the neighbour-update loop. -/
namespace CliqueColour
open GraphSpec

/-- the vertices not yet removed -/
def remOf (n : Nat) (removed : List Nat) : List Nat := (List.range n).filter fun w => !removed.contains w

theorem mem_remOf {n : Nat} {r : List Nat} {w : Nat} : w ∈ remOf n r ↔ w < n ∧ w ∉ r := by
  simp [remOf]

theorem nodup_remOf (n : Nat) (r : List Nat) : (remOf n r).Nodup := List.nodup_range.sublist List.filter_sublist

theorem remOf_cons (n v : Nat) (r : List Nat) : remOf n (v :: r) = (remOf n r).filter (fun w => w != v) := by
  simp only [remOf, List.filter_filter]
  apply List.filter_congr
  intro w _
  by_cases h : w = v
  · subst h; simp
  · simp [h]

def curDeg (g : G) (order : List Nat) (w : Nat) : Nat := degIn g (remOf g.n order) w

theorem degIn_cons (g : G) (a : Nat) (t : List Nat) (w : Nat) :
    degIn g (a :: t) w = (if g.adj w a then 1 else 0) + degIn g t w := by
  unfold degIn
  by_cases ha : g.adj w a = true
  · rw [List.filter_cons, if_pos ha, if_pos ha, List.length_cons]; omega
  · rw [List.filter_cons, if_neg ha, if_neg ha]; omega

theorem degIn_remove (g : G) (w v : Nat) : ∀ (S : List Nat), S.Nodup → v ∈ S →
    degIn g S w = degIn g (S.filter fun x => x != v) w + (if g.adj w v then 1 else 0) := by
  intro S
  induction S with
  | nil => intro _ h; cases h
  | cons a t ih =>
    intro hn hv
    have hn' := List.nodup_cons.1 hn
    by_cases hav : a = v
    · subst hav
      have hfil : t.filter (fun x => x != a) = t := by
        rw [List.filter_eq_self]
        intro x hx
        have : x ≠ a := fun h => hn'.1 (h ▸ hx)
        simp [this]
      rw [List.filter_cons, if_neg (by simp), hfil, degIn_cons]; omega
    · have hvt : v ∈ t := by
        rcases List.mem_cons.1 hv with h | h
        · exact absurd h.symm hav
        · exact h
      have := ih hn'.2 hvt
      rw [List.filter_cons, if_pos (by simp [hav]), degIn_cons, degIn_cons, this]; omega

theorem curDeg_cons {g : G} {order : List Nat} {v : Nat} (hv : v < g.n) (hvo : v ∉ order) (w : Nat) :
    curDeg g order w = curDeg g (v :: order) w + (if g.adj w v then 1 else 0) := by
  unfold curDeg
  rw [remOf_cons]
  exact degIn_remove g w v _ (nodup_remOf _ _) (mem_remOf.2 ⟨hv, hvo⟩)

/-- number of pending decrements for `w` -/
def pend (us : List Nat) (w : Nat) : Nat := if w ∈ us then 1 else 0

/-- invariant inside the neighbour loop: `us` are the neighbours of the removed vertex still to be handled -/
structure MInv (g : G) (B : Nat) (order us : List Nat) (bins : List (List Nat)) (degrees : List Int) : Prop where
  dlen : degrees.length = g.n
  blen : bins.length = B
  removed : ∀ w ∈ order, degrees.getD w 0 = -1
  live : ∀ w, w < g.n → w ∉ order →
    degrees.getD w 0 = ((curDeg g order w + pend us w : Nat) : Int) ∧ curDeg g order w + pend us w < B ∧
      w ∈ bins.getD (curDeg g order w + pend us w) []
  binsok : ∀ k, k < B → (bins.getD k []).Nodup ∧
    ∀ w ∈ bins.getD k [], w < g.n ∧ w ∉ order ∧ curDeg g order w + pend us w = k

theorem degUpdate_spec {g : G} {B : Nat} {order us : List Nat} {bins : List (List Nat)} {degrees : List Int}
    {u : Nat} (hinv : MInv g B order (u :: us) bins degrees) (hun : u < g.n) (hus : u ∉ us) :
    ∃ b' d', degUpdate bins degrees u = .ok (b', d') ∧ MInv g B order us b' d' := by
  have hud : u < degrees.length := by rw [hinv.dlen]; exact hun
  have hpend_ne : ∀ w, w ≠ u → pend (u :: us) w = pend us w := by
    intro w hw; simp [pend, hw]
  simp only [degUpdate, getElem?_eq_some_getD hud 0]
  by_cases huo : u ∈ order
  · have hdu := hinv.removed u huo
    rw [hdu]
    simp only [beq_self_eq_true, if_true]
    refine ⟨bins, degrees, rfl, hinv.dlen, hinv.blen, hinv.removed, fun w hw hwo => ?_, fun k hk => ?_⟩
    · have hne : w ≠ u := fun h => hwo (h ▸ huo)
      rw [← hpend_ne w hne]; exact hinv.live w hw hwo
    · refine ⟨(hinv.binsok k hk).1, fun w hwm => ?_⟩
      obtain ⟨h1, h2, h3⟩ := (hinv.binsok k hk).2 w hwm
      have hne : w ≠ u := fun h => h2 (h ▸ huo)
      rw [← hpend_ne w hne]; exact ⟨h1, h2, h3⟩
  · -- live neighbour: move it one bin down
    obtain ⟨hdu, hcB, hmem⟩ := hinv.live u hun huo
    have hpu : pend (u :: us) u = 1 := by simp [pend]
    have hpu' : pend us u = 0 := by simp [pend, hus]
    rw [hpu] at hdu hcB hmem
    generalize hc : curDeg g order u = cu at hdu hcB hmem
    rw [hdu]
    have h1 : ((((cu + 1 : Nat) : Int)) == -1) = false := by
      rw [beq_eq_false_iff_ne]; omega
    have h2 : ¬ (((cu + 1 : Nat) : Int) < 0) := by omega
    simp only [h1, Bool.false_eq_true, if_false, h2, Int.toNat_natCast]
    have hkB : cu + 1 < bins.length := by rw [hinv.blen]; exact hcB
    rw [getElem?_eq_some_getD hkB []]
    simp only
    have hpos : (bins.getD (cu + 1) []).idxOf u < (bins.getD (cu + 1) []).length :=
      List.idxOf_lt_length_of_mem hmem
    rw [if_pos hpos, if_neg (by omega)]
    have hlen1 : (bins.set (cu + 1) (swapRemove (bins.getD (cu + 1) []) ((bins.getD (cu + 1) []).idxOf u))).length
        = bins.length := by simp
    have hk1 : cu + 1 - 1 < (bins.set (cu + 1)
        (swapRemove (bins.getD (cu + 1) []) ((bins.getD (cu + 1) []).idxOf u))).length := by
      rw [hlen1]; omega
    rw [getElem?_eq_some_getD hk1 []]
    simp only
    have hsub : cu + 1 - 1 = cu := by omega
    rw [hsub, getD_set, if_neg (by omega)]
    obtain ⟨hbn, hbm⟩ := hinv.binsok (cu + 1) hcB
    have hcuB : cu < B := by omega
    obtain ⟨hb2n, hb2m⟩ := hinv.binsok cu hcuB
    obtain ⟨hsn, _, hsm⟩ := swapRemove_facts hpos hbn
    have hgetu : (bins.getD (cu + 1) [])[(bins.getD (cu + 1) []).idxOf u] = u := List.getElem_idxOf hpos
    rw [hgetu] at hsm
    have hu_b2 : u ∉ bins.getD cu [] := by
      intro h
      have := (hb2m u h).2.2
      rw [hc, hpu] at this; omega
    have hget : ∀ k, (((bins.set (cu + 1) (swapRemove (bins.getD (cu + 1) [])
          ((bins.getD (cu + 1) []).idxOf u))).set cu (bins.getD cu [] ++ [u])).getD k []) =
        if k = cu then bins.getD cu [] ++ [u]
        else if k = cu + 1 then swapRemove (bins.getD (cu + 1) []) ((bins.getD (cu + 1) []).idxOf u)
        else bins.getD k [] := by
      intro k
      rw [getD_set, getD_set]
      by_cases hk : k = cu
      · subst hk; rw [if_pos ⟨rfl, by rw [hlen1]; omega⟩, if_pos rfl]
      · rw [if_neg (fun h => hk h.1.symm), if_neg hk]
        by_cases hk' : k = cu + 1
        · subst hk'; rw [if_pos ⟨rfl, hkB⟩, if_pos rfl]
        · rw [if_neg (fun h => hk' h.1.symm), if_neg hk']
    refine ⟨_, _, rfl, by simpa using hinv.dlen, by simpa using hinv.blen, fun w hwo => ?_, fun w hw hwo => ?_,
      fun k hk => ?_⟩
    · have hne : w ≠ u := fun h => huo (h ▸ hwo)
      rw [getD_set, if_neg (fun h => hne h.1.symm)]
      exact hinv.removed w hwo
    · by_cases hwu : w = u
      · subst hwu
        simp only [hc, hpu', Nat.add_zero]
        rw [getD_set, if_pos ⟨rfl, hud⟩, hget, if_pos rfl]
        exact ⟨by push_cast; omega, hcuB, by simp⟩
      · obtain ⟨l1, l2, l3⟩ := hinv.live w hw hwo
        rw [hpend_ne w hwu] at l1 l2 l3
        rw [getD_set, if_neg (fun h => hwu h.1.symm)]
        refine ⟨l1, l2, ?_⟩
        rw [hget]
        by_cases hk : curDeg g order w + pend us w = cu
        · rw [if_pos hk]; rw [hk] at l3; exact List.mem_append_left _ l3
        · rw [if_neg hk]
          by_cases hk' : curDeg g order w + pend us w = cu + 1
          · rw [if_pos hk']; rw [hk'] at l3; exact (hsm w).2 ⟨l3, hwu⟩
          · rw [if_neg hk']; exact l3
    · rw [hget]
      by_cases hkc : k = cu
      · subst hkc
        rw [if_pos rfl]
        refine ⟨List.nodup_append.2 ⟨hb2n, by simp, fun a ha b hb hab => ?_⟩, fun w hwm => ?_⟩
        · have : b = u := by simpa using hb
          subst this; subst hab; exact hu_b2 ha
        · rcases List.mem_append.1 hwm with h | h
          · obtain ⟨m1, m2, m3⟩ := hb2m w h
            have hne : w ≠ u := fun e => hu_b2 (e ▸ h)
            rw [hpend_ne w hne] at m3
            exact ⟨m1, m2, m3⟩
          · have : w = u := by simpa using h
            subst this
            exact ⟨hun, huo, by rw [hc, hpu']; rfl⟩
      · rw [if_neg hkc]
        by_cases hkc' : k = cu + 1
        · subst hkc'
          rw [if_pos rfl]
          refine ⟨hsn, fun w hwm => ?_⟩
          obtain ⟨hwb, hne⟩ := (hsm w).1 hwm
          obtain ⟨m1, m2, m3⟩ := hbm w hwb
          rw [hpend_ne w hne] at m3
          exact ⟨m1, m2, m3⟩
        · rw [if_neg hkc']
          obtain ⟨hn0, hm0⟩ := hinv.binsok k hk
          refine ⟨hn0, fun w hwm => ?_⟩
          obtain ⟨m1, m2, m3⟩ := hm0 w hwm
          have hne : w ≠ u := by
            intro e
            subst e
            rw [hc, hpu] at m3
            exact hkc' m3.symm
          rw [hpend_ne w hne] at m3
          exact ⟨m1, m2, m3⟩

theorem degNbrs_spec {g : G} {B : Nat} {order : List Nat} : ∀ (us : List Nat) (bins : List (List Nat))
    (degrees : List Int), MInv g B order us bins degrees → us.Nodup → (∀ u ∈ us, u < g.n) →
    ∃ b' d', degNbrs us bins degrees = .ok (b', d') ∧ MInv g B order [] b' d' := by
  intro us
  induction us with
  | nil => intro bins degrees h _ _; exact ⟨bins, degrees, rfl, h⟩
  | cons u us ih =>
    intro bins degrees h hn hlt
    have hn' := List.nodup_cons.1 hn
    obtain ⟨b1, d1, he, h1⟩ := degUpdate_spec h (hlt u List.mem_cons_self) hn'.1
    obtain ⟨b2, d2, he2, h2⟩ := ih b1 d1 h1 hn'.2 (fun w hw => hlt w (List.mem_cons_of_mem _ hw))
    exact ⟨b2, d2, by simp only [degNbrs, he, he2], h2⟩

end CliqueColour
