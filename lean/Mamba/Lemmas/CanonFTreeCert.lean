import Mamba.Lemmas.CanonFTreeDef
import Mamba.Lemmas.CanonFCount
import Mamba.Lemmas.IREquiv
/-!
# The IR certificate of a leaf is the certificate of its vertex order (`cert_link`)

For a vertex order `o` (a permutation of `0..n-1`) the leaf colouring is `vertex ↦ position in o`. `IR.cert` sorts the
codes `tri (position of u) + position of v` of all edges, collected vertex by vertex (`vertexCodes`,
`codes_eq_vertexCodes`); `certPos` concatenates the sorted codes of the positions `0, 1, …` (`blockCodes`). Both lists have
the same elements (`codes_perm_certPos`) and both are ascending (`certPos_sorted`: the codes of position `j` lie in
`[tri j, tri (j + 1))`), hence they are equal.
-/
namespace CanonF

theorem blockCodes_sorted (nb : Nbrs) (o : List Nat) (j : Nat) : (blockCodes nb o j).Pairwise (· ≤ ·) := by
  unfold blockCodes sortNat
  exact IR.mergeSort_le_sorted _

theorem certPos_sorted (nb : Nbrs) (o : List Nat) (n : Nat) : (certPos nb o n).Pairwise (· ≤ ·) := by
  induction n with
  | zero => simp [certPos]
  | succ s ih =>
    rw [certPos_succ, List.pairwise_append]
    refine ⟨ih, blockCodes_sorted nb o s, ?_⟩
    intro x hx y hy
    have h1 := certPos_lt_tri hx
    have h2 := (mem_blockCodes_range hy).1
    omega

def vertexCodes (nb : Nbrs) (o : List Nat) (u : Nat) : List Nat :=
  (nb.getD u []).filterMap (fun v => if o.idxOf v < o.idxOf u then some (tri (o.idxOf u) + o.idxOf v) else none)

theorem codes_eq_vertexCodes {n : Nat} {nb : Nbrs} (o : List Nat) (hnb : NbOK nb n) :
    IR.codes (irG n nb) (IR.tab n (fun v => o.idxOf v)) = (List.range n).flatMap (vertexCodes nb o) := by
  unfold IR.codes
  rw [List.flatMap_def, List.flatMap_def]
  congr 1
  apply List.map_congr_left
  intro u hu
  have hu' : u < n := List.mem_range.1 hu
  unfold vertexCodes
  show List.filterMap _ (nb.getD u []) = _
  apply List.filterMap_congr
  intro v hv
  have hv' : v < n := (hnb.lt u v hv).2
  rw [IR.col_tab _ hu', IR.col_tab _ hv']
  rfl

theorem vertexCodes_getD {nb : Nbrs} {o : List Nat} (ho : o.Nodup) (j : Nat) (hj : j < o.length) :
    vertexCodes nb o (o.getD j 0) = rawCodes nb o j := by
  have e : o.getD j 0 = o[j] := by
    rw [List.getD_eq_getElem?_getD, List.getElem?_eq_getElem hj]; rfl
  unfold vertexCodes rawCodes
  rw [e, ho.idxOf_getElem j hj]

theorem codes_perm_certPos {n : Nat} {nb : Nbrs} {o : List Nat} (hnb : NbOK nb n) (ho : o.Perm (List.range n)) :
    (IR.codes (irG n nb) (IR.tab n (fun v => o.idxOf v))).Perm (certPos nb o n) := by
  have hnd : o.Nodup := ho.nodup_iff.2 List.nodup_range
  have hlen : o.length = n := by simpa using ho.length_eq
  rw [codes_eq_vertexCodes o hnb]
  refine (List.Perm.flatMap_right _ ho.symm).trans ?_
  have eo : o = (List.range n).map (fun j => o.getD j 0) := by
    apply List.ext_getElem
    · simp [hlen]
    · intro i h1 h2
      simp [h1]
  have e2 : o.flatMap (vertexCodes nb o) = (List.range n).flatMap (rawCodes nb o) := by
    rw [congrArg (List.flatMap (vertexCodes nb o)) eo, List.flatMap_map]
    rw [List.flatMap_def, List.flatMap_def]
    congr 1
    apply List.map_congr_left
    intro j hj
    exact vertexCodes_getD hnd j (by rw [hlen]; exact List.mem_range.1 hj)
  rw [e2]
  unfold certPos
  exact List.Perm.flatMap_left _ (fun j _ => (List.mergeSort_perm _ _).symm)

theorem cert_link {n : Nat} {nb : Nbrs} {o : List Nat} (hnb : NbOK nb n) (ho : o.Perm (List.range n)) :
    IR.cert (irG n nb) (IR.tab n (fun v => o.idxOf v)) = certPos nb o n := by
  unfold IR.cert
  exact List.Perm.eq_of_pairwise (le := (· ≤ ·)) (fun a b _ _ h1 h2 => Nat.le_antisymm h1 h2) (IR.mergeSort_le_sorted _)
    (certPos_sorted nb o n) ((List.mergeSort_perm _ _).trans (codes_perm_certPos hnb ho))

end CanonF
