import Mamba.Lemmas.MinorBasic
import Mathlib.Data.List.Basic
import Mathlib.Data.List.Nodup
import Mathlib.Data.List.Perm.Subperm
import Mathlib.Data.List.Range
/-!
# The decision procedure `hasMinorExec` computes the definition (property C11)

`leaf` decides whether `H` is a spanning subgraph of the graph at hand under some bijection. `search` is sound because
each of its moves is a minor operation, and complete because every model is reduced, removing vertices in decreasing
order, to a bijective one (`Red`, `reduce`).
-/
namespace Minor
open GraphSpec

theorem mem_verts {p : PG} {v : Nat} : v ∈ p.verts ↔ p.V v := by
  simp [PG.verts, PG.V]

theorem verts_nodup (p : PG) : p.verts.Nodup := List.nodup_range.filter _

/-- `img l i`: the image of vertex `i` of `H` when `l` lists the images of `0 .. l.length-1` in reverse order -/
def img (l : List Nat) (i : Nat) : Nat := l.reverse.getD i 0

theorem img_cons_lt (w : Nat) (ws : List Nat) {i : Nat} (h : i < ws.length) : img (w :: ws) i = img ws i := by
  unfold img
  rw [List.reverse_cons, List.getD_eq_getElem?_getD, List.getD_eq_getElem?_getD,
    List.getElem?_append_left (by simpa using h)]

theorem img_cons_last (w : Nat) (ws : List Nat) : img (w :: ws) ws.length = w := by
  unfold img
  rw [List.reverse_cons, List.getD_eq_getElem?_getD, List.getElem?_append_right (by simp)]
  simp

theorem okNew_spec (p : PG) (H : G) (h v : Nat) (l : List Nat) :
    okNew p H h v l = true ↔ ∀ i, i < l.length →
      (H.adj h i = true → p.adj v (img l i) = true) ∧ (H.adj i h = true → p.adj (img l i) v = true) := by
  induction l with
  | nil => simp [okNew]
  | cons w ws ih =>
    simp only [okNew, Bool.and_eq_true, Bool.or_eq_true, Bool.not_eq_true', ih, List.length_cons]
    constructor
    · rintro ⟨⟨h1, h2⟩, h3⟩ i hi
      by_cases hi' : i < ws.length
      · rw [img_cons_lt w ws hi']; exact h3 i hi'
      · have : i = ws.length := by omega
        subst this
        rw [img_cons_last]
        constructor
        · intro ha; rcases h1 with h1 | h1
          · rw [h1] at ha; cases ha
          · exact h1
        · intro ha; rcases h2 with h2 | h2
          · rw [h2] at ha; cases ha
          · exact h2
    · intro hall
      refine ⟨⟨?_, ?_⟩, ?_⟩
      · have := (hall ws.length (by omega)).1
        rw [img_cons_last] at this
        cases hh : H.adj h ws.length
        · left; rfl
        · right; exact this hh
      · have := (hall ws.length (by omega)).2
        rw [img_cons_last] at this
        cases hh : H.adj ws.length h
        · left; rfl
        · right; exact this hh
      · intro i hi
        have := hall i (by omega)
        rw [img_cons_lt w ws hi] at this
        exact this

def Good (p : PG) (H : G) : List Nat → Prop
  | [] => True
  | v :: l => okNew p H l.length v l = true ∧ Good p H l

theorem good_iff (p : PG) (H : G) (l : List Nat) :
    Good p H l ↔ ∀ i j, i < l.length → j < l.length → i ≠ j → H.adj i j = true →
      p.adj (img l i) (img l j) = true := by
  induction l with
  | nil => simp [Good]
  | cons w ws ih =>
    simp only [Good, ih, okNew_spec, List.length_cons]
    constructor
    · rintro ⟨h1, h2⟩ i j hi hj hne hadj
      by_cases hi' : i < ws.length
      · by_cases hj' : j < ws.length
        · rw [img_cons_lt w ws hi', img_cons_lt w ws hj']
          exact h2 i j hi' hj' hne hadj
        · have : j = ws.length := Nat.le_antisymm (Nat.le_of_lt_succ hj) (Nat.le_of_not_lt hj')
          subst this
          rw [img_cons_lt w ws hi', img_cons_last]
          exact (h1 i hi').2 hadj
      · have : i = ws.length := Nat.le_antisymm (Nat.le_of_lt_succ hi) (Nat.le_of_not_lt hi')
        subst this
        have hj' : j < ws.length := Nat.lt_of_le_of_ne (Nat.le_of_lt_succ hj) (Ne.symm hne)
        rw [img_cons_lt w ws hj', img_cons_last]
        exact (h1 j hj').1 hadj
    · intro hall
      constructor
      · intro i hi
        constructor
        · intro hadj
          have := hall ws.length i (Nat.lt_succ_self _) (Nat.lt_succ_of_lt hi) (Nat.ne_of_gt hi) hadj
          rwa [img_cons_last, img_cons_lt w ws hi] at this
        · intro hadj
          have := hall i ws.length (Nat.lt_succ_of_lt hi) (Nat.lt_succ_self _) (Nat.ne_of_lt hi) hadj
          rwa [img_cons_last, img_cons_lt w ws hi] at this
      · intro i j hi hj hne hadj
        have := hall i j (Nat.lt_succ_of_lt hi) (Nat.lt_succ_of_lt hj) hne hadj
        rwa [img_cons_lt w ws hi, img_cons_lt w ws hj] at this

theorem good_of_append (p : PG) (H : G) (a b : List Nat) (h : Good p H (a ++ b)) : Good p H b := by
  induction a with
  | nil => exact h
  | cons x xs ih => exact ih h.2

theorem embedGo_sound (p : PG) (H : G) : ∀ (k : Nat) (avail l : List Nat),
    embedGo p H k avail l = true → Good p H l → l.Nodup → avail.Nodup → (∀ x ∈ l, x ∉ avail) →
    ∃ L, L.length = k + l.length ∧ Good p H L ∧ L.Nodup ∧ ∀ x ∈ L, x ∈ l ∨ x ∈ avail := by
  intro k
  induction k with
  | zero =>
    intro avail l _ hg hn _ _
    exact ⟨l, by simp, hg, hn, fun x hx => Or.inl hx⟩
  | succ k ih =>
    intro avail l h hg hn ha hd
    simp only [embedGo, List.any_eq_true, Bool.and_eq_true] at h
    obtain ⟨v, hv, hok, hrec⟩ := h
    have hvl : v ∉ l := fun hvl => hd v hvl hv
    obtain ⟨L, hlen, hG, hN, hmem⟩ := ih (avail.erase v) (v :: l) hrec ⟨hok, hg⟩
      (List.nodup_cons.2 ⟨hvl, hn⟩) (ha.erase v) (by
        intro x hx hx'
        rcases List.mem_cons.1 hx with rfl | hx
        · exact (ha.mem_erase_iff.1 hx').1 rfl
        · exact hd x hx (List.mem_of_mem_erase hx'))
    refine ⟨L, by simp at hlen; omega, hG, hN, ?_⟩
    intro x hx
    rcases hmem x hx with h1 | h1
    · rcases List.mem_cons.1 h1 with rfl | h1
      · exact Or.inr hv
      · exact Or.inl h1
    · exact Or.inr (List.mem_of_mem_erase h1)

theorem embedGo_complete (p : PG) (H : G) : ∀ (m avail l : List Nat),
    m.Nodup → (∀ x ∈ m, x ∈ avail) → Good p H (m.reverse ++ l) → embedGo p H m.length avail l = true := by
  intro m
  induction m with
  | nil => intro _ _ _ _ _; rfl
  | cons v m ih =>
    intro avail l hn hsub hg
    have hn' := List.nodup_cons.1 hn
    rw [List.reverse_cons, List.append_assoc, List.singleton_append] at hg
    simp only [List.length_cons, embedGo, List.any_eq_true, Bool.and_eq_true]
    refine ⟨v, hsub v List.mem_cons_self, (good_of_append p H _ _ hg).1, ?_⟩
    refine ih (avail.erase v) (v :: l) hn'.2 ?_ hg
    intro x hx
    have hxv : x ≠ v := fun e => hn'.1 (e ▸ hx)
    exact (List.mem_erase_of_ne hxv).2 (hsub x (List.mem_cons_of_mem _ hx))

theorem model_of_images {p : PG} {H : G} (M : List Nat) (hlen : M.length = H.n) (hN : M.Nodup)
    (hV : ∀ x ∈ M, p.V x)
    (hE : ∀ i j, i < H.n → j < H.n → i ≠ j → H.adj i j = true → p.adj (M.getD i 0) (M.getD j 0) = true) :
    IsModel p H (fun v => M.idxOf v) := by
  have hget : ∀ i (hi : i < M.length), M.getD i 0 = M[i] := by
    intro i hi; simp [List.getD_eq_getElem?_getD, hi]
  refine ⟨?_, ?_, ?_⟩
  · intro h hh
    have hh' : h < M.length := hlen ▸ hh
    exact ⟨M[h], hV _ (List.getElem_mem hh'), hN.idxOf_getElem h hh'⟩
  · intro u v hu _ hlt heq
    have hu' : M.idxOf u < M.length := hlen ▸ hlt
    have hv' : M.idxOf v < M.length := heq ▸ hu'
    have e1 := List.getElem_idxOf hu'
    have e2 := List.getElem_idxOf hv'
    have : u = v := by
      rw [← e1, ← e2]
      simp only [heq]
    subst this
    exact .refl hu rfl
  · intro h h' hh hh' hne hadj
    have h1 : h < M.length := hlen ▸ hh
    have h2 : h' < M.length := hlen ▸ hh'
    refine ⟨M[h], M[h'], hV _ (List.getElem_mem h1), hV _ (List.getElem_mem h2),
      hN.idxOf_getElem h h1, hN.idxOf_getElem h' h2, ?_⟩
    have := hE h h' hh hh' hne hadj
    rwa [hget h h1, hget h' h2] at this

theorem leaf_sound {p : PG} {H : G} (h : leaf p H = true) : HasMinorP p H := by
  simp only [leaf, Bool.and_eq_true, beq_iff_eq] at h
  obtain ⟨hcnt, hgo⟩ := h
  obtain ⟨L, hlen, hG, hN, hmem⟩ := embedGo_sound p H H.n p.verts [] hgo trivial List.nodup_nil
    (verts_nodup p) (by simp)
  simp only [List.length_nil, Nat.add_zero] at hlen
  refine ⟨_, model_of_images L.reverse (by simpa using hlen) (List.nodup_reverse.2 hN) ?_ ?_⟩
  · intro x hx
    rcases hmem x (List.mem_reverse.1 hx) with h1 | h1
    · cases h1
    · exact mem_verts.1 h1
  · intro i j hi hj hne hadj
    exact (good_iff p H L).1 hG i j (hlen ▸ hi) (hlen ▸ hj) hne hadj

theorem exists_images {p : PG} {H : G} {f : Nat → Nat} (hm : IsModel p H f) :
    ∃ M : List Nat, M.length = H.n ∧ M.Nodup ∧ (∀ x ∈ M, p.V x) ∧ ∀ i, i < H.n → f (M.getD i 0) = i := by
  classical
  let σ : Nat → Nat := fun h => if hh : h < H.n then Classical.choose (hm.nonempty h hh) else 0
  have hσ : ∀ h, h < H.n → p.V (σ h) ∧ f (σ h) = h := by
    intro h hh
    simp only [σ, hh, dif_pos]
    exact Classical.choose_spec (hm.nonempty h hh)
  refine ⟨(List.range H.n).map σ, by simp, ?_, ?_, ?_⟩
  · refine List.Nodup.map_on ?_ List.nodup_range
    intro x hx y hy hxy
    have hx' := List.mem_range.1 hx
    have hy' := List.mem_range.1 hy
    rw [← (hσ x hx').2, ← (hσ y hy').2, hxy]
  · intro x hx
    obtain ⟨h, hh, rfl⟩ := List.mem_map.1 hx
    exact (hσ h (List.mem_range.1 hh)).1
  · intro i hi
    have : ((List.range H.n).map σ).getD i 0 = σ i := by
      simp [List.getD_eq_getElem?_getD, hi]
    rw [this]
    exact (hσ i hi).2

theorem le_verts_of_model {p : PG} {H : G} {f : Nat → Nat} (hm : IsModel p H f) : H.n ≤ p.verts.length := by
  obtain ⟨M, hlen, hN, hV, _⟩ := exists_images hm
  rw [← hlen]
  exact (List.subperm_of_subset hN (fun x hx => mem_verts.2 (hV x hx))).length_le

theorem leaf_complete {p : PG} {H : G} {f : Nat → Nat} (hm : IsModel p H f) (hle : p.verts.length ≤ H.n) :
    leaf p H = true := by
  obtain ⟨M, hlen, hN, hV, hf⟩ := exists_images hm
  have hsub : M ⊆ p.verts := fun x hx => mem_verts.2 (hV x hx)
  have hperm : M.Perm p.verts :=
    (List.subperm_of_subset hN hsub).perm_of_length_le (by rw [hlen]; exact hle)
  have hcnt : p.verts.length = H.n := by rw [← hperm.length_eq, hlen]
  have hrep : ∀ u, p.V u → f u < H.n → u = M.getD (f u) 0 := by
    intro u hu hlt
    have hmem : u ∈ M := hperm.mem_iff.2 (mem_verts.2 hu)
    obtain ⟨i, hi, rfl⟩ := List.getElem_of_mem hmem
    have hi' : i < H.n := hlen ▸ hi
    have e : M.getD i 0 = M[i] := by simp [List.getD_eq_getElem?_getD, hi]
    have : f M[i] = i := by rw [← e]; exact hf i hi'
    rw [this, e]
  simp only [leaf, Bool.and_eq_true, beq_iff_eq]
  refine ⟨hcnt, ?_⟩
  have := embedGo_complete p H M p.verts [] hN (fun x hx => hsub hx) (by
    rw [List.append_nil]
    refine (good_iff p H M.reverse).2 ?_
    intro i j hi hj hne hadj
    simp only [List.length_reverse, hlen] at hi hj
    obtain ⟨u, v, hu, hv, hfu, hfv, huv⟩ := hm.edge i j hi hj hne hadj
    have eu := hrep u hu (hfu ▸ hi)
    have ev := hrep v hv (hfv ▸ hj)
    rw [hfu] at eu
    rw [hfv] at ev
    simp only [img, List.reverse_reverse]
    rw [← eu, ← ev]
    exact huv)
  rwa [hlen] at this

theorem search_sound (H : G) : ∀ (lim : Nat) (p : PG), p.Sym → search H lim p = true → HasMinorP p H := by
  intro lim
  induction lim with
  | zero => intro p _ h; exact leaf_sound h
  | succ v ih =>
    intro p hs h
    rw [search] at h
    split at h
    · exact leaf_sound h
    · simp only [Bool.or_eq_true, Bool.and_eq_true, decide_eq_true_eq, List.any_eq_true, List.mem_filter] at h
      rcases h with h | ⟨⟨hvn, hal⟩, h | ⟨u, ⟨hu, hlt, hadj⟩, h⟩⟩
      · exact ih p hs h
      · exact (ih _ (delV_sym hs v) h).of_sub (delV_sub p v)
      · have hu' := mem_verts.1 hu
        have hne : u ≠ v := by omega
        exact (ih _ (contract_sym hs u v) h).of_contract hs hu' ⟨hvn, hal⟩ hne hadj


def Removable (p : PG) (H : G) (f : Nat → Nat) (x : Nat) : Prop :=
  H.n ≤ f x ∨ ∃ y, p.V y ∧ f y = f x ∧ y < x

/-- the vertices `lim-1, …, 0` are, in this order, kept, deleted, or contracted into a smaller neighbour -/
inductive Red : Nat → PG → PG → Prop
  | stop (p : PG) : Red 0 p p
  | keep {v : Nat} {p q : PG} : Red v p q → Red (v + 1) p q
  | del {v : Nat} {p q : PG} : p.V v → Red v (p.delV v) q → Red (v + 1) p q
  | con {v u : Nat} {p q : PG} : p.V v → p.V u → u < v → p.adj u v = true → Red v (p.contract u v) q →
      Red (v + 1) p q

theorem Red.ops {lim : Nat} {p q : PG} (h : Red lim p q) : Ops p q := by
  induction h with
  | stop p => exact .refl p
  | keep _ ih => exact ih
  | del hv _ ih => exact .head (.delV _ _ hv) ih
  | con hv hu huv ha _ ih => exact .head (.contract _ _ _ hu hv (Nat.ne_of_lt huv) ha) ih

theorem reduce (H : G) : ∀ (lim : Nat) (p : PG) (f : Nat → Nat), p.Sym → IsModel p H f →
    (∀ x, p.V x → Removable p H f x → x < lim) →
    ∃ q, Red lim p q ∧ IsModel q H f ∧ ∀ x, q.V x → ¬ Removable q H f x := by
  intro lim
  induction lim with
  | zero =>
    intro p f _ hm hinv
    exact ⟨p, .stop p, hm, fun x hx hr => absurd (hinv x hx hr) (Nat.not_lt_zero x)⟩
  | succ v ih =>
    intro p f hs hm hinv
    have hbelow : ∀ (p' : PG), (∀ x, p'.V x → p.V x ∧ x ≠ v) → ∀ x, p'.V x → Removable p' H f x → x < v := by
      intro p' hsub x hx hrx
      have hx' := hsub x hx
      refine Nat.lt_of_le_of_ne (Nat.le_of_lt_succ (hinv x hx'.1 ?_)) hx'.2
      rcases hrx with h | ⟨y, hy, hfy, hyx⟩
      · exact Or.inl h
      · exact Or.inr ⟨y, (hsub y hy).1, hfy, hyx⟩
    by_cases hrem : p.V v ∧ Removable p H f v
    · obtain ⟨hv, hr⟩ := hrem
      by_cases hun : H.n ≤ f v
      · obtain ⟨q, hred, hq⟩ := ih (p.delV v) f (delV_sym hs v) (hm.delV hun) (hbelow _ fun x => delV_V.1)
        exact ⟨q, .del hv hred, hq⟩
      · rcases hr with h | ⟨y, hy, hfy, hyv⟩
        · exact absurd h hun
        · have hc := hm.conn v y hv hy (Nat.lt_of_not_le hun) hfy.symm
          obtain ⟨w, hw, hfw, hwv, hadj⟩ := hc.exists_nbr (Nat.ne_of_gt hyv)
          have hwlt : w < v := by
            by_contra hge
            have hvw : v < w := Nat.lt_of_le_of_ne (Nat.le_of_not_lt hge) (Ne.symm hwv)
            exact absurd (hinv w hw (Or.inr ⟨v, hv, hfw.symm, hvw⟩)) (Nat.not_lt.2 (Nat.succ_le_of_lt hvw))
          obtain ⟨q, hred, hq⟩ := ih (p.contract w v) f (contract_sym hs w v) (hm.contract hw hwv hfw)
            (hbelow _ fun x => contract_V.1)
          exact ⟨q, .con hv hw hwlt (by rw [hs]; exact hadj) hred, hq⟩
    · obtain ⟨q, hred, hq⟩ := ih p f hs hm (fun x hx hrx =>
        Nat.lt_of_le_of_ne (Nat.le_of_lt_succ (hinv x hx hrx)) (fun e => hrem (e ▸ ⟨hx, hrx⟩)))
      exact ⟨q, .keep hred, hq⟩

theorem bij_of_irreducible {q : PG} {H : G} {f : Nat → Nat} (hnr : ∀ x, q.V x → ¬ Removable q H f x) :
    (∀ x, q.V x → f x < H.n) ∧ ∀ x y, q.V x → q.V y → f x = f y → x = y := by
  refine ⟨fun x hx => Nat.lt_of_not_le fun hc => hnr x hx (Or.inl hc), fun x y hx hy hxy => ?_⟩
  by_contra hne
  rcases Nat.lt_or_gt_of_ne hne with h | h
  · exact hnr y hy (Or.inr ⟨x, hx, hxy, h⟩)
  · exact hnr x hx (Or.inr ⟨y, hy, hxy.symm, h⟩)

theorem verts_le_of_irreducible {q : PG} {H : G} {f : Nat → Nat} (hnr : ∀ x, q.V x → ¬ Removable q H f x) :
    q.verts.length ≤ H.n := by
  obtain ⟨hlt, hinj⟩ := bij_of_irreducible hnr
  have hnd : (q.verts.map f).Nodup :=
    List.Nodup.map_on (fun x hx y hy => hinj x y (mem_verts.1 hx) (mem_verts.1 hy)) (verts_nodup q)
  have hsub : q.verts.map f ⊆ List.range H.n := by
    intro a ha
    obtain ⟨x, hx, rfl⟩ := List.mem_map.1 ha
    exact List.mem_range.2 (hlt x (mem_verts.1 hx))
  simpa using (List.subperm_of_subset hnd hsub).length_le

/-- `search` follows every ordered reduction that ends in a graph passing the leaf test (when it stops early, the
graph at hand still has the model, by `HasMinorP.of_ops`) -/
theorem search_of_red {H : G} {lim : Nat} {p q : PG} (h : Red lim p q) (hs : p.Sym) (hq : HasMinorP q H)
    (hle : q.verts.length ≤ H.n) : search H lim p = true := by
  have hearly : ∀ {v : Nat} {p : PG}, Red (v + 1) p q → p.Sym → p.verts.length ≤ H.n → leaf p H = true :=
    fun hred hs hple => by
      obtain ⟨f, hf⟩ := HasMinorP.of_ops hred.ops hs hq
      exact leaf_complete hf hple
  induction h with
  | stop p => obtain ⟨f, hf⟩ := hq; exact leaf_complete hf hle
  | @keep v p q hred ih =>
    rw [search]
    split
    · exact hearly (.keep hred) hs ‹_›
    · rw [ih hs hq hle @hearly]; rfl
  | @del v p q hv hred ih =>
    rw [search]
    split
    · exact hearly (.del hv hred) hs ‹_›
    · rw [ih (delV_sym hs v) hq hle @hearly, decide_eq_true hv.1, hv.2]; simp
  | @con v u p q hv hu huv ha hred ih =>
    rw [search]
    split
    · exact hearly (.con hv hu huv ha hred) hs ‹_›
    · simp only [Bool.or_eq_true, Bool.and_eq_true, decide_eq_true_eq, List.any_eq_true, List.mem_filter]
      exact Or.inr ⟨hv, Or.inr ⟨u, ⟨mem_verts.2 hu, huv, ha⟩, ih (contract_sym hs u v) hq hle @hearly⟩⟩

theorem search_complete (H : G) (lim : Nat) (p : PG) (f : Nat → Nat) (hs : p.Sym) (hm : IsModel p H f)
    (hinv : ∀ x, p.V x → Removable p H f x → x < lim) : search H lim p = true := by
  obtain ⟨q, hred, hq, hnr⟩ := reduce H lim p f hs hm hinv
  exact search_of_red hred hs ⟨f, hq⟩ (verts_le_of_irreducible hnr)

theorem tab_n (g : G) : (tab g).n = g.n := by unfold tab; rfl

theorem tab_adj (g : G) {u v : Nat} (hu : u < g.n) (hv : v < g.n) : (tab g).adj u v = g.adj u v := by
  simp [tab, Array.getD, hu, hv]

theorem ofG_tab_V (g : G) (v : Nat) : (ofG (tab g)).V v ↔ (ofG g).V v := by
  rw [ofG_V, ofG_V, tab_n]

theorem ofG_tab_adj (g : G) {u v : Nat} (hu : (ofG g).V u) (hv : (ofG g).V v) :
    (ofG (tab g)).adj u v = (ofG g).adj u v := by
  have hu' := (ofG_V g u).1 hu
  have hv' := (ofG_V g v).1 hv
  show ((tab g).adj u v || (tab g).adj v u) = _
  rw [tab_adj g hu' hv', tab_adj g hv' hu']
  rfl

theorem ofG_tab_sub (g : G) : (ofG (tab g)).Sub (ofG g) :=
  ⟨fun v => (ofG_tab_V g v).1, fun u v hu hv _ h => by
    rwa [ofG_tab_adj g ((ofG_tab_V g u).1 hu) ((ofG_tab_V g v).1 hv)] at h⟩

theorem ofG_sub_tab (g : G) : (ofG g).Sub (ofG (tab g)) :=
  ⟨fun v => (ofG_tab_V g v).2, fun u v hu hv _ h => by rwa [ofG_tab_adj g hu hv]⟩

theorem hasMinorExec_iff' (g H : G) : hasMinorExec g H = true ↔ HasMinor g H := by
  unfold hasMinorExec HasMinor
  constructor
  · intro h
    exact (search_sound H g.n _ (ofG_sym _) h).of_sub (ofG_tab_sub g)
  · intro h
    obtain ⟨f, hf⟩ := h.of_sub (ofG_sub_tab g)
    refine search_complete H g.n _ f (ofG_sym _) hf ?_
    intro x hx _
    exact (ofG_V g x).1 ((ofG_tab_V g x).1 hx)

end Minor
