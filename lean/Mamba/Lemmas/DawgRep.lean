import Mamba.Lemmas.DawgWords
import Mamba.Lemmas.DawgHeap
/-! What follows from `Rep h p L`: accepted language, word counts, `Lookup`. -/
namespace Dawg

theorem findLabel_some {ls : List Nat} {c j : Nat} (h : findLabel ls c = some j) : ls[j]? = some c := by
  induction ls generalizing j with
  | nil => simp [findLabel] at h
  | cons l ls ih =>
    simp only [findLabel] at h
    split at h
    · next hl => cases h; simp [hl]
    · cases hf : findLabel ls c with
      | none => rw [hf] at h; simp at h
      | some j' =>
        rw [hf] at h
        simp only [Option.map_some, Option.some.injEq] at h
        subst h
        simpa using ih hf

theorem findLabel_none {ls : List Nat} {c : Nat} : findLabel ls c = none ↔ c ∉ ls := by
  induction ls with
  | nil => simp [findLabel]
  | cons l ls ih =>
    simp only [findLabel, List.mem_cons]
    split
    · next hl => simp [hl]
    · next hl =>
      rw [Option.map_eq_none_iff, ih]
      constructor
      · rintro h (h1 | h1)
        · exact hl h1.symm
        · exact h h1
      · intro h h1; exact h (Or.inr h1)

theorem findLabel_of_get {ls : List Nat} (hnd : ls.Nodup) {c j : Nat} (h : ls[j]? = some c) :
    findLabel ls c = some j := by
  induction ls generalizing j with
  | nil => simp at h
  | cons l ls ih =>
    rw [List.nodup_cons] at hnd
    cases j with
    | zero =>
      simp only [List.getElem?_cons_zero, Option.some.injEq] at h
      simp [findLabel, h]
    | succ j =>
      simp only [List.getElem?_cons_succ] at h
      have hne : l ≠ c := by
        intro hlc; subst hlc
        exact hnd.1 (List.mem_of_getElem? h)
      simp [findLabel, hne, ih hnd.2 h]

theorem Rep.accepts_iff {h : Heap} {p : Nat} {L : List Word} (hr : Rep h p L) (w : Word) :
    accepts h p w ↔ w ∈ L := by
  induction w generalizing p L with
  | nil =>
    cases hr with
    | mk hn hs hf hnum hlab hlen hmem hkids =>
      simp only [accepts]
      constructor
      · rintro ⟨n', hn', hfin⟩
        rw [hn] at hn'; cases hn'
        exact hf.1 hfin
      · intro h1; exact ⟨_, hn, hf.2 h1⟩
  | cons c w ih =>
    cases hr with
    | mk hn hs hf hnum hlab hlen hmem hkids =>
      simp only [accepts]
      constructor
      · rintro ⟨n', j, q, hn', hfl, hq, hacc⟩
        rw [hn] at hn'; cases hn'
        have := (ih (hkids j c q (findLabel_some hfl) hq)).1 hacc
        exact mem_sub.1 this
      · intro h1
        have hw : w ∈ sub L c := mem_sub.2 h1
        have hc := (hmem c).2 (List.ne_nil_of_mem hw)
        cases hfl : findLabel _ c with
        | none => exact absurd hc (findLabel_none.1 hfl)
        | some j =>
          have hj := findLabel_some hfl
          have hjlt : j < _ := (List.getElem?_eq_some_iff.1 hj).1
          rw [hlen] at hjlt
          exact ⟨_, j, _, hn, hfl, List.getElem?_eq_getElem hjlt,
            (ih (hkids j c _ hj (List.getElem?_eq_getElem hjlt))).2 hw⟩

theorem Rep.walk {h : Heap} {p : Nat} {L : List Word} (hr : Rep h p L) (x : Word) (q : Nat)
    (hw : walk h p x = some q) : Rep h q (subw L x) := by
  induction x generalizing p L with
  | nil => simp only [Dawg.walk, Option.some.injEq] at hw; subst hw; exact hr
  | cons c x ih =>
    cases hr with
    | @mk _ n _ hn hs hf hnum hlab hlen hmem hkids =>
      simp only [Dawg.walk, hn] at hw
      cases hfl : findLabel n.labels c with
      | none => rw [hfl] at hw; cases hw
      | some j =>
        rw [hfl] at hw
        simp only at hw
        cases hq : n.links[j]? with
        | none => rw [hq] at hw; cases hw
        | some q' =>
          rw [hq] at hw
          exact ih (hkids j c q' (findLabel_some hfl) hq) hw

theorem Rep.numWords {h : Heap} {p : Nat} {L : List Word} (hr : Rep h p L) :
    ∃ n, h[p]? = some n ∧ n.numWords = L.length := by
  cases hr with
  | mk hn hs hf hnum hlab hlen hmem hkids => exact ⟨_, hn, hnum⟩

theorem Rep.sorted {h : Heap} {p : Nat} {L : List Word} (hr : Rep h p L) : L.Pairwise (· < ·) := by
  cases hr with
  | mk hn hs hf hnum hlab hlen hmem hkids => exact hs

def cntLt (L : List Word) (labs : List Nat) (l : Nat) : Nat :=
  ((labs.filter (· < l)).map (fun a => (sub L a).length)).sum

theorem lookupScan_spec (h : Heap) (L : List Word) (l : Nat) :
    ∀ (labs links : List Nat) (index : Int), labs.length = links.length → labs.Pairwise (· < ·) →
      (∀ (j c q : Nat), labs[j]? = some c → links[j]? = some q → Rep h q (sub L c)) →
      (l ∉ labs → lookupScan h l labs links index = .ok none) ∧
      (∀ (j q : Nat) (qn : Node), labs[j]? = some l → links[j]? = some q → h[q]? = some qn →
        lookupScan h l labs links index =
          .ok (some (q, index + (cntLt L labs l : Nat) + (if qn.final then 1 else 0)))) := by
  intro labs
  induction labs with
  | nil =>
    intro links index _ _ _
    exact ⟨fun _ => rfl, fun j q qn hj => by simp at hj⟩
  | cons lab labs ih =>
    intro links index hlen hs hkids
    cases links with
    | nil => simp at hlen
    | cons q0 qs =>
      rw [List.pairwise_cons] at hs
      have hrep0 := hkids 0 lab q0 rfl rfl
      obtain ⟨qn0, hqn0, hnum0⟩ := hrep0.numWords
      have hkids' : ∀ (j c q : Nat), labs[j]? = some c → qs[j]? = some q → Rep h q (sub L c) :=
        fun j c q h1 h2 => hkids (j + 1) c q (by simpa using h1) (by simpa using h2)
      obtain ⟨ih1, ih2⟩ := ih qs (index + qn0.numWords) (by simpa using hlen) hs.2 hkids'
      simp only [lookupScan, getNode_of_some hqn0]
      refine ⟨?_, ?_⟩
      · intro hnot
        rw [List.mem_cons, not_or] at hnot
        rw [if_neg (fun h => hnot.1 h.symm)]
        exact ih1 hnot.2
      · intro j q qn hj hq hqn
        cases j with
        | zero =>
          simp only [List.getElem?_cons_zero, Option.some.injEq] at hj hq
          subst hj; subst hq
          rw [hqn0] at hqn; cases hqn
          rw [if_pos rfl]
          have : cntLt L (lab :: labs) lab = 0 := by
            unfold cntLt
            have : (lab :: labs).filter (· < lab) = [] := by
              rw [List.filter_eq_nil_iff]
              intro a ha
              simp only [decide_eq_true_eq]
              rw [List.mem_cons] at ha
              rcases ha with rfl | ha
              · exact Nat.lt_irrefl _
              · exact Nat.lt_asymm (hs.1 a ha)
            rw [this]; rfl
          rw [this]; simp
          split <;> simp
        | succ j =>
          simp only [List.getElem?_cons_succ] at hj hq
          have hl : l ∈ labs := List.mem_of_getElem? hj
          have hlt : lab < l := hs.1 l hl
          rw [if_neg (Nat.ne_of_lt hlt)]
          rw [ih2 j q qn hj hq hqn]
          have : cntLt L (lab :: labs) l = (sub L lab).length + cntLt L labs l := by
            unfold cntLt
            rw [List.filter_cons_of_pos (by simpa using hlt)]
            simp
          rw [this, hnum0]
          rw [Int.natCast_add]
          simp only [Int.add_assoc]

theorem cntLt_eq {L : List Word} {labs : List Nat} (hlab : labs.Pairwise (· < ·))
    (hmem : ∀ c, c ∈ labs ↔ sub L c ≠ []) (c : Nat) :
    cntLt L labs c = (L.filter (headLt c)).length := by
  unfold cntLt
  rw [sum_sub_length L _ ((hlab.imp Nat.ne_of_lt).filter _)]
  congr 1
  apply List.filter_congr
  intro u hu
  cases u with
  | nil => rfl
  | cons a t =>
    simp only [headIn, headLt, List.mem_filter, decide_eq_true_eq]
    have : a ∈ labs := (hmem a).2 (List.ne_nil_of_mem (mem_sub.2 hu))
    simp [this]

theorem lookupWalk_spec {h : Heap} (w : Word) :
    ∀ {p : Nat} {L : List Word} {n : Node} (base : Int), Rep h p L → h[p]? = some n →
      lookupWalk h p (base + (if n.final then 0 else -1)) w =
        .ok (if w ∈ L then (base + ((L.filter (· < w)).length : Nat), true) else (0, false)) := by
  induction w with
  | nil =>
    intro p L n base hr hn
    cases hr with
    | mk hn' hs hf hnum hlab hlen hmem hkids =>
      rw [hn] at hn'; cases hn'
      simp only [lookupWalk, getNode_of_some hn]
      by_cases hfin : n.final = true
      · have hz : (L.filter (· < ([] : Word))).length = 0 := by
          rw [List.length_eq_zero_iff, List.filter_eq_nil_iff]
          exact fun a _ h => List.not_lt_nil a (of_decide_eq_true h)
        rw [if_pos hfin, if_pos hfin, if_pos (hf.1 hfin), hz]
        rfl
      · rw [if_neg hfin, if_neg (fun h1 => hfin (hf.2 h1))]
  | cons c w ih =>
    intro p L n base hr hn
    cases hr with
    | mk hn' hs hf hnum hlab hlen hmem hkids =>
      rw [hn] at hn'; cases hn'
      simp only [lookupWalk, getNode_of_some hn]
      obtain ⟨hsc1, hsc2⟩ := lookupScan_spec h L c n.labels n.links (base + (if n.final then 0 else -1)) hlen hlab hkids
      by_cases hc : c ∈ n.labels
      · obtain ⟨j, hjlt, hj⟩ := List.getElem_of_mem hc
        have hj' : n.labels[j]? = some c := by rw [← hj]; exact List.getElem?_eq_getElem hjlt
        have hjlt' : j < n.links.length := by rw [← hlen]; exact hjlt
        have hq : n.links[j]? = some n.links[j] := List.getElem?_eq_getElem hjlt'
        have hrq := hkids j c _ hj' hq
        obtain ⟨qn, hqn, _⟩ := hrq.numWords
        rw [hsc2 j _ qn hj' hq hqn]
        simp only
        -- the final flags of `n` and of the child, as the `-1` offsets the walk carries
        have e1 : (if n.final then (0 : Int) else -1) = (if [] ∈ L then 1 else 0) - 1 := by
          by_cases h1 : n.final = true
          · rw [if_pos h1, if_pos (hf.1 h1)]; rfl
          · rw [if_neg h1, if_neg (fun h3 => h1 (hf.2 h3))]; rfl
        have e2 : (if qn.final then (1 : Int) else 0) = (if qn.final then 0 else -1) + 1 := by
          cases qn.final <;> rfl
        have hidx : base + (if n.final then 0 else -1) + (cntLt L n.labels c : Nat) + (if qn.final then 1 else 0)
            = (base + (if [] ∈ L then 1 else 0) + (cntLt L n.labels c : Nat)) + (if qn.final then 0 else -1) := by
          rw [e1, e2]
          omega
        rw [hidx, ih _ hrq hqn]
        have hmem' : (c :: w ∈ L) ↔ w ∈ sub L c := mem_sub.symm
        by_cases hw : w ∈ sub L c
        · rw [if_pos hw, if_pos (hmem'.2 hw), count_lt_cons hs, cntLt_eq hlab hmem]
          congr 2
          have e3 : ((if [] ∈ L then 1 else 0 : Nat) : Int) = if [] ∈ L then 1 else 0 := by split <;> rfl
          rw [Int.natCast_add, Int.natCast_add, e3]
          simp only [Int.add_assoc]
        · rw [if_neg hw, if_neg (fun h => hw (hmem'.1 h))]
      · rw [hsc1 hc]
        simp only
        have : c :: w ∉ L := by
          intro h1
          exact hc ((hmem c).2 (List.ne_nil_of_mem (mem_sub.2 h1)))
        rw [if_neg this]

end Dawg
