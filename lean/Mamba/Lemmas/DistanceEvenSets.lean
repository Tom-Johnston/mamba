import Mamba.Lemmas.DistanceCycleSpace
/-!
# Edge sets with even degrees contain cycles

`codeG n t` is the graph whose edges are the pairs with code in `t`. In an even set, delete an edge `p – q`: `q` now
has odd degree, and by the handshake lemma (`degsum_even`) inside the reachability class of `q` the only other odd
vertex `p` is still reachable (`even_reach`); a shortest walk back is a simple path, which the deleted edge closes to a
simple cycle inside the set (`even_edge_on_cycle`). So a minimal non-empty even set is a single cycle
(`minimal_even_is_cycle`).
-/
namespace GDist
open GraphSpec Model

def codeG (n : Nat) (t : List Nat) : G :=
  { n := n, adj := fun x y => decide (x ≠ y) && decide (x < n) && decide (y < n) && decide (edgeCode x y ∈ t) }

theorem codeG_adj {n : Nat} {t : List Nat} {x y : Nat} :
    (codeG n t).adj x y = true ↔ (x ≠ y ∧ x < n ∧ y < n ∧ edgeCode x y ∈ t) := by
  simp [codeG, and_assoc]

theorem codeG_symm (n : Nat) (t : List Nat) (x y : Nat) : (codeG n t).adj x y = (codeG n t).adj y x := by
  rw [Bool.eq_iff_iff, codeG_adj, codeG_adj, edgeCode_comm x y]
  exact ⟨fun ⟨h1, h2, h3, h4⟩ => ⟨Ne.symm h1, h3, h2, h4⟩, fun ⟨h1, h2, h3, h4⟩ => ⟨Ne.symm h1, h3, h2, h4⟩⟩

theorem deg_bij {n : Nat} {t : List Nat} (hnd : t.Nodup) {v : Nat} (hv : v < n) :
    ((codeG n t).nbrs v).length = degIn n t v := by
  unfold degIn
  rw [List.countP_eq_length_filter]
  have hmap : (((codeG n t).nbrs v).map fun x => edgeCode v x).Nodup := by
    apply List.Nodup.map_on
    · intro x hx y hy hxy
      obtain ⟨_, hax⟩ := G.mem_nbrs.1 hx
      obtain ⟨_, hay⟩ := G.mem_nbrs.1 hy
      have h1 := (codeG_adj.1 hax).1
      have h2 := (codeG_adj.1 hay).1
      rcases normE_eq (edgeCode_inj (e := (v, x)) (e' := (v, y)) h1 h2 hxy) with h | h
      · exact h.2
      · exact absurd h.1 h2
    · exact List.nodup_range.filter _
  have hperm : (((codeG n t).nbrs v).map fun x => edgeCode v x).Perm (t.filter (incid n v)) := by
    rw [List.perm_ext_iff_of_nodup hmap (hnd.filter _)]
    intro c
    simp only [List.mem_map, List.mem_filter]
    constructor
    · rintro ⟨x, hx, rfl⟩
      obtain ⟨hxn, hax⟩ := G.mem_nbrs.1 hx
      obtain ⟨h1, _, _, h4⟩ := codeG_adj.1 hax
      refine ⟨h4, ?_⟩
      unfold incid
      simp only [List.any_eq_true, List.mem_range, Bool.and_eq_true, bne_iff_ne, ne_eq, beq_iff_eq]
      exact ⟨x, hxn, Ne.symm h1, rfl⟩
    · rintro ⟨hct, hinc⟩
      unfold incid at hinc
      simp only [List.any_eq_true, List.mem_range, Bool.and_eq_true, bne_iff_ne, ne_eq, beq_iff_eq] at hinc
      obtain ⟨x, hxn, hxv, hc⟩ := hinc
      exact ⟨x, G.mem_nbrs.2 ⟨hxn, codeG_adj.2 ⟨fun h => hxv h.symm, hv, hxn, hc ▸ hct⟩⟩, hc.symm⟩
  have := hperm.length_eq
  simpa using this

theorem degsum_cons_inner (adj : Nat → Nat → Bool) (s : Nat) (B : List Nat) : ∀ (A : List Nat),
    (A.map fun v => ((s :: B).filter fun x => adj v x).length).sum
      = A.countP (fun v => adj v s) + (A.map fun v => (B.filter fun x => adj v x).length).sum
  | [] => rfl
  | v :: A => by
    have ih := degsum_cons_inner adj s B A
    rw [List.map_cons, List.sum_cons, List.map_cons, List.sum_cons, List.countP_cons, ih, List.filter_cons]
    by_cases h : adj v s = true
    · rw [if_pos h, if_pos h, List.length_cons]; omega
    · rw [if_neg h, if_neg h]; omega

theorem degsum_even (adj : Nat → Nat → Bool) (hs : ∀ x y, adj x y = adj y x) (hi : ∀ x, adj x x = false) :
    ∀ (S : List Nat), ((S.map fun v => (S.filter fun x => adj v x).length).sum) % 2 = 0
  | [] => by simp
  | s :: S => by
    have ih := degsum_even adj hs hi S
    have h1 : ((s :: S).filter fun x => adj s x).length = (S.filter fun x => adj s x).length := by
      rw [List.filter_cons, if_neg (by rw [hi]; exact Bool.false_ne_true)]
    have h2 := degsum_cons_inner adj s S S
    have h3 : S.countP (fun v => adj v s) = (S.filter fun x => adj s x).length := by
      rw [List.countP_eq_length_filter]
      congr 1
      apply List.filter_congr
      intro x _; exact hs x s
    simp only [List.map_cons, List.sum_cons]
    rw [h1, h2, h3, ← Nat.add_assoc, ← Nat.two_mul, Nat.mul_add_mod]
    exact ih


theorem sum_even (f : Nat → Nat) : ∀ (S : List Nat), (∀ v ∈ S, f v % 2 = 0) → (S.map f).sum % 2 = 0
  | [], _ => rfl
  | s :: S, h => by
    rw [List.map_cons, List.sum_cons, Nat.add_mod, h s List.mem_cons_self,
      sum_even f S fun v hv => h v (List.mem_cons_of_mem _ hv)]

theorem sum_parity_one (f : Nat → Nat) (q : Nat) : ∀ (S : List Nat), S.Nodup → q ∈ S → f q % 2 = 1 →
    (∀ v ∈ S, v ≠ q → f v % 2 = 0) → (S.map f).sum % 2 = 1
  | [], _, h, _, _ => nomatch h
  | s :: S, hnd, hm, hq, hev => by
    obtain ⟨hsnot, hnd'⟩ := List.nodup_cons.1 hnd
    rw [List.map_cons, List.sum_cons, Nat.add_mod]
    rcases List.mem_cons.1 hm with rfl | hm
    · rw [hq, sum_even f S fun v hv => hev v (List.mem_cons_of_mem _ hv) fun h => hsnot (h ▸ hv)]
    · rw [hev s List.mem_cons_self fun h => hsnot (h ▸ hm),
        sum_parity_one f q S hnd' hm hq fun v hv hne => hev v (List.mem_cons_of_mem _ hv) hne]

theorem degIn_erase {n : Nat} {t : List Nat} {ex : Nat} (hex : ex ∈ t) (v : Nat) :
    degIn n (t.erase ex) v + (if incid n v ex = true then 1 else 0) = degIn n t v := by
  unfold degIn
  have := (List.perm_cons_erase hex).countP_eq (incid n v)
  rw [this, List.countP_cons]

theorem even_reach {n : Nat} {t : List Nat} (hnd : t.Nodup) (hev : EvenSet n t) {p q : Nat} (hp : p < n)
    (hq : q < n) (hpq : p ≠ q) (hex : edgeCode p q ∈ t) :
    ReachIn (codeG n (t.erase (edgeCode p q))) (List.range n) q p := by
  set H := codeG n (t.erase (edgeCode p q)) with hH
  have hsymH := codeG_symm n (t.erase (edgeCode p q))
  have hnd' : (t.erase (edgeCode p q)).Nodup := hnd.erase _
  by_contra hnr
  let S := componentIn H (List.range n) q
  have hSnd : S.Nodup := List.nodup_range.sublist (componentIn_sublist H _ q)
  have hqS : q ∈ S := mem_componentIn.2 (ReachIn.refl (List.mem_range.2 hq))
  have hpS : p ∉ S := fun h => hnr (mem_componentIn.1 h)
  have hSn : ∀ v ∈ S, v < n := fun v hv => List.mem_range.1 (mem_componentIn.1 hv).mem_V
  have hcl : ∀ v ∈ S, ∀ x, H.adj v x = true → x ∈ S := by
    intro v hv x hadj
    have hxn : x < n := (codeG_adj.1 hadj).2.2.1
    obtain ⟨k, hk⟩ := mem_componentIn.1 hv
    exact mem_componentIn.2 ⟨k + 1, .step hk hadj (List.mem_range.2 hxn)⟩
  have hdeg : ∀ v ∈ S, (S.filter fun x => H.adj v x).length = degIn n (t.erase (edgeCode p q)) v := by
    intro v hv
    rw [← deg_bij hnd' (hSn v hv)]
    apply List.Perm.length_eq
    have hn2 : (H.nbrs v).Nodup := List.nodup_range.filter _
    rw [List.perm_ext_iff_of_nodup (hSnd.filter _) hn2]
    intro x
    rw [List.mem_filter, G.mem_nbrs]
    constructor
    · rintro ⟨hx, hadj⟩; exact ⟨hSn x hx, hadj⟩
    · rintro ⟨_, hadj⟩; exact ⟨hcl v hv x hadj, hadj⟩
  have hhs := degsum_even H.adj hsymH (fun x => by
    cases h : H.adj x x with
    | false => rfl
    | true => exact absurd rfl (codeG_adj.1 h).1) S
  have hmap : (S.map fun v => (S.filter fun x => H.adj v x).length)
      = S.map fun v => degIn n (t.erase (edgeCode p q)) v := List.map_congr_left hdeg
  rw [hmap] at hhs
  have hinc : ∀ v, v < n → (incid n v (edgeCode p q) = true ↔ (v = p ∨ v = q)) :=
    fun v _ => incid_edgeCode hp hq hpq
  have hodd := sum_parity_one (fun v => degIn n (t.erase (edgeCode p q)) v) q S hSnd hqS
    (by
      have h1 := degIn_erase (n := n) hex q
      have h2 := hev q hq
      rw [if_pos ((hinc q hq).2 (.inr rfl))] at h1
      rw [← h1] at h2
      omega)
    (by
      intro v hv hvq
      have h1 := degIn_erase (n := n) hex v
      have hvp : v ≠ p := fun h => hpS (h ▸ hv)
      have : ¬ incid n v (edgeCode p q) = true := fun h => ((hinc v (hSn v hv)).1 h).elim hvp hvq
      rw [if_neg this, Nat.add_zero] at h1
      show degIn n (t.erase (edgeCode p q)) v % 2 = 0
      rw [h1]
      exact hev v (hSn v hv))
  rw [hhs] at hodd
  exact absurd hodd (by decide)


theorem even_edge_on_cycle {n : Nat} {t : List Nat} (hnd : t.Nodup) (hev : EvenSet n t) {p q : Nat}
    (hp : p < n) (hq : q < n) (hpq : p ≠ q) (hex : edgeCode p q ∈ t) :
    ∃ c : List Nat, 3 ≤ c.length ∧ c.Nodup ∧ (∀ x ∈ c, x < n) ∧ c.headD 0 = p ∧ c.getLastD 0 = q ∧
      (∀ z ∈ cycCodes c, z ∈ t) ∧ edgeCode p q ∈ cycCodes c := by
  obtain ⟨k0, hk0⟩ := even_reach hnd hev hp hq hpq hex
  obtain ⟨k, _, hd⟩ := exists_isDistIn_of_walk hk0
  obtain ⟨l, hlen, hlnd, hV, hch, hh, hl, _⟩ := hd.path
  have hmemt : ∀ {x y : Nat}, (codeG n (t.erase (edgeCode p q))).adj x y = true →
      edgeCode x y ∈ t ∧ edgeCode x y ≠ edgeCode p q := by
    intro x y h
    have := (codeG_adj.1 h).2.2.2
    exact ⟨List.mem_of_mem_erase this, fun h0 => by
      rw [h0] at this
      exact (List.Nodup.mem_erase_iff hnd).1 this |>.1 rfl⟩
  have hhead : l.headD 0 = p := by
    cases l with
    | nil => simp at hh
    | cons a t' => simp at hh; simp [hh]
  have hlast : l.getLastD 0 = q := by rw [List.getLastD_eq_getLast?, hl]; rfl
  have hk2 : 2 ≤ k := by
    match l, hh, hl, hlen, hch with
    | [a], hh, hl, hlen, _ =>
      simp at hh hl
      exact absurd (hh.symm.trans hl) hpq
    | [a, b], hh, hl, hlen, hch =>
      exfalso
      simp at hh
      rw [List.getLast?_cons_cons] at hl
      simp at hl
      subst hh; subst hl
      have := (hmemt hch.1).2
      exact this (edgeCode_comm _ _)
    | a :: b :: c :: t', _, _, hlen, _ => simp at hlen; omega
  refine ⟨l, by omega, hlnd, fun x hx => List.mem_range.1 (hV x hx), hhead, hlast, ?_, ?_⟩
  · intro z hz
    unfold cycCodes at hz
    rcases List.mem_cons.1 hz with h | h
    · rw [h, hhead, hlast]; exact hex
    · obtain ⟨x, y, _, _, hadj, hzc⟩ := mem_pathCodes_adj l hch z h
      rw [hzc, edgeCode_comm]
      exact (hmemt hadj).1
  · unfold cycCodes
    rw [hhead, hlast]; exact List.mem_cons_self


theorem chainAdj_of_codes {n : Nat} {t : List Nat} : ∀ (c : List Nat), c.Nodup → (∀ x ∈ c, x < n) →
    (∀ z ∈ pathCodes c, z ∈ t) → chainAdj (codeG n t) c
  | [], _, _, _ => trivial
  | [_], _, _, _ => trivial
  | x :: y :: r, hnd, hn, hc => by
    obtain ⟨hxnot, hnd'⟩ := List.nodup_cons.1 hnd
    refine ⟨codeG_adj.2 ⟨fun h => hxnot (by simp [h]), hn y (by simp), hn x (by simp), ?_⟩,
      chainAdj_of_codes (y :: r) hnd' (fun z hz => hn z (List.mem_cons_of_mem _ hz))
        (fun z hz => hc z (by rw [pathCodes]; exact List.mem_cons_of_mem _ hz))⟩
    rw [edgeCode_comm]
    exact hc _ (by rw [pathCodes]; exact List.mem_cons_self)

theorem isCycleSeq_of_codes {n : Nat} {t : List Nat} {c : List Nat} (hlen : 3 ≤ c.length) (hnd : c.Nodup)
    (hn : ∀ x ∈ c, x < n) (hc : ∀ z ∈ cycCodes c, z ∈ t) : IsCycleSeq (codeG n t) c := by
  refine ⟨hlen, hnd, hn, chainAdj_of_codes c hnd hn (fun z hz => hc z (List.mem_cons_of_mem _ hz)), ?_⟩
  match c, hlen, hnd, hn, hc with
  | x :: y :: r, hlen, hnd, hn, hc =>
    have hr : r ≠ [] := by intro h; subst h; simp at hlen
    have hlm : (x :: y :: r).getLastD 0 ∈ y :: r := by
      rw [List.getLastD_eq_getLast?, List.getLast?_cons_cons,
        List.getLast?_eq_some_getLast (by simp)]
      exact List.getLast_mem _
    have hxl : x ≠ (x :: y :: r).getLastD 0 := fun h => (List.nodup_cons.1 hnd).1 (h ▸ hlm)
    rw [List.headD_cons]
    exact codeG_adj.2 ⟨hxl, hn x List.mem_cons_self, hn _ (List.mem_cons_of_mem _ hlm),
      hc _ (by unfold cycCodes; rw [List.headD_cons]; exact List.mem_cons_self)⟩

theorem minimal_even_is_cycle {n : Nat} {t : List Nat} (hnd : t.Nodup) (hne : t ≠ [])
    (hcodes : ∀ z ∈ t, ∃ p q, p < n ∧ q < n ∧ p ≠ q ∧ z = edgeCode p q) (hev : EvenSet n t)
    (hmin : ∀ u : List Nat, u.Nodup → u ≠ [] → (∀ z ∈ u, z ∈ t) → EvenSet n u → ∀ z ∈ t, z ∈ u) :
    ∃ c, IsCycleSeq (codeG n t) c ∧ t.Perm (cycCodes c) := by
  obtain ⟨z0, r, rfl⟩ := List.exists_cons_of_ne_nil hne
  obtain ⟨p, q, hp, hq, hpq, hz0⟩ := hcodes z0 List.mem_cons_self
  obtain ⟨c, hlen, hcnd, hcn, _, _, hsub, _⟩ := even_edge_on_cycle hnd hev hp hq hpq (hz0 ▸ List.mem_cons_self)
  have hcyc := isCycleSeq_of_codes hlen hcnd hcn hsub
  have hund := cycCodes_nodup hcyc
  refine ⟨c, hcyc, (List.perm_ext_iff_of_nodup hnd hund).2 fun z => ⟨?_, hsub z⟩⟩
  exact hmin (cycCodes c) hund (by simp [cycCodes]) hsub (cycle_even hcyc) z

end GDist
