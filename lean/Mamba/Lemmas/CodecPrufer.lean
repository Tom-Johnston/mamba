import Mamba.Lemmas.ListGetD
import Mamba.Lemmas.CodecBase
import Mamba.Lemmas.CodecCount
import Mamba.Lemmas.CodecDense
import Mathlib.Logic.Relation
import Mathlib.Data.List.Basic
import Mathlib.Data.List.Nodup
/-!
# Prüfer codes (C07): `pruferEncode` / `pruferDecode` are mutually inverse bijections between codes and labelled trees

Architecture.  `pr_Run adj S q` is the abstract leaf-removal run on a present set `S` (an ascending list of vertices)
that produces the code `q`.  It is linked
* to the model's encoder (`pr_encode_run`: a run on `0..n-1` is what `pruferEncode` computes),
* to the abstract decoder `pr_edges S q` (`pr_Run.spec` / `pr_run_of_spec`: the run exists iff the adjacency relation on `S`
  is the edge list the decoder builds), which the model's `pruferDecode` implements (`pr_decode_run`),
* to trees (`pr_run_of_tree`: every tree has a run; `pr_Run.conn`, `pr_Run.deg`: a run certifies a tree).
-/
namespace Codec
open GraphSpec

/-- labelled tree on `0..n-1`: well formed, `n-1` edges, connected -/
def IsTree (g : G) : Prop :=
  g.WF ∧ g.m + 1 = g.n ∧
    ∀ u v, u < g.n → v < g.n → Relation.ReflTransGen (fun a b => g.adj a b = true) u v

def pr_deg (adj : Nat → Nat → Bool) (S : List Nat) (w : Nat) : Nat := S.countP (adj w)

structure pr_Adj (adj : Nat → Nat → Bool) : Prop where
  symm : ∀ u v, adj u v = adj v u
  irrefl : ∀ v, adj v v = false

/-- `pr_Run adj S q`: leaf removal on the present set `S` (ascending) produces the code `q`:
each round removes the first vertex `v` of `S` of degree one (inside `S`), which is not the last vertex of `S`,
and emits its neighbour `u`; two adjacent vertices remain. -/
inductive pr_Run (adj : Nat → Nat → Bool) : List Nat → List Nat → Prop
  | base (a b : Nat) : a < b → adj a b = true → pr_Run adj [a, b] []
  | step (A B : List Nat) (v u : Nat) (q : List Nat) :
      (A ++ v :: B).Pairwise (· < ·) →
      (∀ a ∈ A, pr_deg adj (A ++ v :: B) a ≠ 1) →
      pr_deg adj (A ++ v :: B) v = 1 →
      B ≠ [] → u ∈ A ++ B → adj u v = true →
      pr_Run adj (A ++ B) q → pr_Run adj (A ++ v :: B) (u :: q)

theorem sorted_drop_mid {A B : List Nat} {v : Nat} (h : (A ++ v :: B).Pairwise (· < ·)) :
    (A ++ B).Pairwise (· < ·) := by
  rw [List.pairwise_append] at h ⊢
  obtain ⟨h1, h2, h3⟩ := h
  rw [List.pairwise_cons] at h2
  exact ⟨h1, h2.2, fun a ha b hb => h3 a ha b (List.mem_cons_of_mem _ hb)⟩

theorem sorted_pair_lt {a b : Nat} (h : [a, b].Pairwise (· < ·)) : a < b :=
  List.rel_of_pairwise_cons h (List.mem_singleton.2 rfl)

theorem sorted_mid_not_mem {A B : List Nat} {v : Nat} (h : (A ++ v :: B).Pairwise (· < ·)) : v ∉ A ++ B := by
  rw [List.pairwise_append] at h
  obtain ⟨_, h2, h3⟩ := h
  rw [List.pairwise_cons] at h2
  intro hm
  rcases List.mem_append.1 hm with hm | hm
  · exact Nat.lt_irrefl _ (h3 v hm v (List.mem_cons_self))
  · exact Nat.lt_irrefl _ (h2.1 v hm)

theorem mem_append_cons {A B : List Nat} {v w : Nat} : w ∈ A ++ v :: B ↔ w = v ∨ w ∈ A ++ B := by
  rw [List.mem_append, List.mem_cons, List.mem_append, or_left_comm]

theorem pr_Run.sorted {adj S q} (h : pr_Run adj S q) : S.Pairwise (· < ·) := by
  cases h with
  | base a b hab _ => simp [hab]
  | step A B v u q h1 => exact h1

theorem pr_Run.length {adj S q} (h : pr_Run adj S q) : S.length = q.length + 2 := by
  induction h with
  | base a b _ _ => rfl
  | step A B v u q _ _ _ _ _ _ _ ih => simp only [List.length_append, List.length_cons] at ih ⊢; omega

theorem pr_Run.sub {adj S q} (h : pr_Run adj S q) : ∀ x ∈ q, x ∈ S := by
  induction h with
  | base a b _ _ => intro x hx; cases hx
  | step A B v u q _ _ _ _ hu _ _ ih =>
    intro x hx
    rcases List.mem_cons.1 hx with rfl | hx
    · exact mem_append_cons.2 (Or.inr hu)
    · exact mem_append_cons.2 (Or.inr (ih x hx))

theorem eq_of_countP_eq_one {L : List Nat} {p : Nat → Bool} (h : L.countP p = 1) {a b : Nat}
    (ha : a ∈ L) (hb : b ∈ L) (pa : p a = true) (pb : p b = true) : a = b := by
  rw [List.countP_eq_length_filter, List.length_eq_one_iff] at h
  obtain ⟨c, hc⟩ := h
  have h1 : a ∈ L.filter p := List.mem_filter.2 ⟨ha, pa⟩
  have h2 : b ∈ L.filter p := List.mem_filter.2 ⟨hb, pb⟩
  rw [hc, List.mem_singleton] at h1 h2
  rw [h1, h2]

theorem pr_deg_split (adj : Nat → Nat → Bool) (A B : List Nat) (v w : Nat) :
    pr_deg adj (A ++ v :: B) w = pr_deg adj (A ++ B) w + if adj w v then 1 else 0 := by
  unfold pr_deg
  simp only [List.countP_append, List.countP_cons]
  omega

theorem pr_leaf_nbr {adj : Nat → Nat → Bool} (ha : pr_Adj adj) {S : List Nat} {v u w : Nat}
    (hd : pr_deg adj S v = 1) (hu : u ∈ S) (huv : adj u v = true) (hw : w ∈ S) :
    adj w v = true ↔ w = u := by
  constructor
  · intro h
    exact eq_of_countP_eq_one hd hw hu (by rw [ha.symm]; exact h) (by rw [ha.symm]; exact huv)
  · rintro rfl; exact huv

theorem pr_Run.deg {adj S q} (ha : pr_Adj adj) (h : pr_Run adj S q) :
    ∀ w ∈ S, pr_deg adj S w = 1 + q.count w := by
  induction h with
  | base a b hab hadj =>
    intro w hw
    have hne : a ≠ b := Nat.ne_of_lt hab
    have hba : adj b a = true := by rw [ha.symm]; exact hadj
    simp only [List.mem_cons, List.not_mem_nil, or_false] at hw
    rcases hw with rfl | rfl
    · simp [pr_deg, ha.irrefl, hadj]
    · simp [pr_deg, ha.irrefl, hba]
  | step A B v u q hs hA hv hB hu huv hr ih =>
    intro w hw
    have huS : u ∈ A ++ v :: B := mem_append_cons.2 (Or.inr hu)
    have hvn : v ∉ A ++ B := sorted_mid_not_mem hs
    rcases mem_append_cons.1 hw with rfl | hw'
    · rw [hv]
      have h1 : w ≠ u := fun e => hvn (e ▸ hu)
      have h2 : w ∉ q := fun hm => hvn (hr.sub _ hm)
      rw [List.count_cons, List.count_eq_zero_of_not_mem h2]
      simp [Ne.symm h1]
    · rw [pr_deg_split, ih w hw', List.count_cons]
      have := pr_leaf_nbr ha hv huS huv hw
      by_cases e : w = u
      · subst e; rw [if_pos huv, if_pos (beq_self_eq_true w)]; omega
      · have h3 : adj w v = false := by
          cases h4 : adj w v with
          | false => rfl
          | true => exact absurd (this.1 h4) e
        rw [h3, if_neg (by simp), if_neg (fun e' => e (beq_iff_eq.1 e').symm)]; rfl

theorem pr_Run.conn {adj S q} (ha : pr_Adj adj) (h : pr_Run adj S q) :
    ∀ a ∈ S, ∀ b ∈ S, Relation.ReflTransGen (fun x y => adj x y = true) a b := by
  induction h with
  | base a b hab hadj =>
    have hba : adj b a = true := by rw [ha.symm]; exact hadj
    intro x hx y hy
    simp only [List.mem_cons, List.not_mem_nil, or_false] at hx hy
    rcases hx with rfl | rfl <;> rcases hy with rfl | rfl
    · exact Relation.ReflTransGen.refl
    · exact Relation.ReflTransGen.single hadj
    · exact Relation.ReflTransGen.single hba
    · exact Relation.ReflTransGen.refl
  | step A B v u q hs hA hv hB hu huv hr ih =>
    have hvu : adj v u = true := by rw [ha.symm]; exact huv
    intro x hx y hy
    rcases mem_append_cons.1 hx with rfl | hx' <;> rcases mem_append_cons.1 hy with rfl | hy'
    · exact Relation.ReflTransGen.refl
    · exact Relation.ReflTransGen.head hvu (ih u hu y hy')
    · exact Relation.ReflTransGen.tail (ih x hx' u hu) huv
    · exact ih x hx' y hy'

/-- abstract decoder relative to the present set `S`: the edge list `pruferDecode` builds -/
def pr_edges : List Nat → List Nat → List (Nat × Nat)
  | S, [] =>
    match S with
    | [a, b] => [(a, b)]
    | _ => []
  | S, v :: q =>
    match S.find? (fun x => !(v :: q).contains x) with
    | some j => (j, v) :: pr_edges (S.erase j) q
    | none => pr_edges S q

def pr_Sym (E : List (Nat × Nat)) (a b : Nat) : Prop := (a, b) ∈ E ∨ (b, a) ∈ E

theorem pr_Sym_cons {E : List (Nat × Nat)} {j v a b : Nat} :
    pr_Sym ((j, v) :: E) a b ↔ (a = j ∧ b = v) ∨ (a = v ∧ b = j) ∨ pr_Sym E a b := by
  unfold pr_Sym
  rw [List.mem_cons, List.mem_cons, Prod.mk.injEq, Prod.mk.injEq, or_or_or_comm, and_comm (a := b = j), or_assoc]

theorem pr_find_split {A B : List Nat} {j : Nat} {q : List Nat} (hA : ∀ a ∈ A, a ∈ q) (hj : j ∉ q) :
    (A ++ j :: B).find? (fun x => !q.contains x) = some j := by
  rw [List.find?_eq_some_iff_append]
  refine ⟨by simpa using hj, A, B, rfl, ?_⟩
  intro a ha
  simpa using hA a ha

theorem pr_edges_step {A B : List Nat} {j v : Nat} {q : List Nat} (hs : (A ++ j :: B).Pairwise (· < ·))
    (hA : ∀ a ∈ A, a ∈ v :: q) (hj : j ∉ v :: q) :
    pr_edges (A ++ j :: B) (v :: q) = (j, v) :: pr_edges (A ++ B) q := by
  have hjA : j ∉ A := fun h => sorted_mid_not_mem hs (List.mem_append_left _ h)
  rw [pr_edges, pr_find_split hA hj]
  simp only [List.erase_append_right _ hjA, List.erase_cons_head]

theorem pr_edges_sub : ∀ (q S : List Nat), (∀ x ∈ q, x ∈ S) → ∀ p ∈ pr_edges S q, p.1 ∈ S ∧ p.2 ∈ S := by
  intro q
  induction q with
  | nil =>
    intro S _ p hp
    unfold pr_edges at hp
    split at hp
    · simp only [List.mem_singleton] at hp; subst hp; simp
    · cases hp
  | cons v q ih =>
    intro S hq p hp
    rw [pr_edges] at hp
    split at hp
    · rename_i j hj
      have hjS : j ∈ S := List.mem_of_find?_eq_some hj
      have hjq : j ∉ v :: q := by simpa using List.find?_some hj
      rcases List.mem_cons.1 hp with rfl | hp
      · exact ⟨hjS, hq v (List.mem_cons_self)⟩
      · have := ih (S.erase j) (by
          intro x hx
          have hne : x ≠ j := fun e => hjq (e ▸ List.mem_cons_of_mem _ hx)
          exact (List.mem_erase_of_ne hne).2 (hq x (List.mem_cons_of_mem _ hx))) p hp
        exact ⟨List.mem_of_mem_erase this.1, List.mem_of_mem_erase this.2⟩
    · exact ih S (fun x hx => hq x (List.mem_cons_of_mem _ hx)) p hp

theorem pr_edges_notmem {q S : List Nat} (hq : ∀ x ∈ q, x ∈ S) {v : Nat} (hv : v ∉ S) (x : Nat) :
    ¬ pr_Sym (pr_edges S q) v x := by
  rintro (h | h)
  · exact hv (pr_edges_sub q S hq _ h).1
  · exact hv (pr_edges_sub q S hq _ h).2

theorem pr_edges_irrefl : ∀ (q S : List Nat), S.Nodup → ∀ a, (a, a) ∉ pr_edges S q := by
  intro q
  induction q with
  | nil =>
    intro S hS a hp
    unfold pr_edges at hp
    split at hp
    · simp only [List.mem_singleton, Prod.mk.injEq] at hp
      obtain ⟨rfl, rfl⟩ := hp
      simp at hS
    · cases hp
  | cons v q ih =>
    intro S hS a hp
    rw [pr_edges] at hp
    split at hp
    · rename_i j hj
      have hjq : j ∉ v :: q := by simpa using List.find?_some hj
      rcases List.mem_cons.1 hp with h | hp
      · simp only [Prod.mk.injEq] at h
        obtain ⟨rfl, rfl⟩ := h
        exact hjq (List.mem_cons_self)
      · exact ih _ (hS.erase j) a hp
    · exact ih S hS a hp

theorem pr_Run.spec {adj S q} (ha : pr_Adj adj) (h : pr_Run adj S q) :
    ∀ a ∈ S, ∀ b ∈ S, (adj a b = true ↔ pr_Sym (pr_edges S q) a b) := by
  induction h with
  | base a b hab hadj =>
    have hne : a ≠ b := Nat.ne_of_lt hab
    have hba : adj b a = true := by rw [ha.symm]; exact hadj
    intro x hx y hy
    simp only [List.mem_cons, List.not_mem_nil, or_false] at hx hy
    simp only [pr_edges, pr_Sym, List.mem_singleton, Prod.mk.injEq]
    rcases hx with rfl | rfl <;> rcases hy with rfl | rfl
    · simp [ha.irrefl, hne]
    · simp [hadj]
    · simp [hba]
    · simp [ha.irrefl, Ne.symm hne]
  | step A B v u q hs hA hv hB hu huv hr ih =>
    have huS : u ∈ A ++ v :: B := mem_append_cons.2 (Or.inr hu)
    have hvn : v ∉ A ++ B := sorted_mid_not_mem hs
    have hvS : v ∈ A ++ v :: B := mem_append_cons.2 (Or.inl rfl)
    have hdeg := pr_Run.deg ha (pr_Run.step A B v u q hs hA hv hB hu huv hr)
    have hvq : v ∉ u :: q := by
      intro hm
      have := hdeg v hvS
      rw [hv] at this
      have : 0 < List.count v (u :: q) := List.count_pos_iff.2 hm
      omega
    have hAq : ∀ a ∈ A, a ∈ u :: q := by
      intro a haA
      have h1 := hdeg a (List.mem_append_left _ haA)
      have h2 := hA a haA
      apply List.count_pos_iff.1
      omega
    rw [pr_edges_step hs hAq hvq]
    have hE : ∀ x, ¬ pr_Sym (pr_edges (A ++ B) q) v x := pr_edges_notmem hr.sub hvn
    have hE' : ∀ x, ¬ pr_Sym (pr_edges (A ++ B) q) x v := fun x hx => hE x (Or.symm hx)
    have hvu : v ≠ u := fun e => hvn (e ▸ hu)
    intro x hx y hy
    rw [pr_Sym_cons]
    rcases mem_append_cons.1 hx with rfl | hx' <;> rcases mem_append_cons.1 hy with rfl | hy'
    · rw [ha.irrefl]
      constructor
      · intro h; cases h
      · rintro (⟨_, h⟩ | ⟨h, _⟩ | h)
        · exact absurd h hvu
        · exact absurd h hvu
        · exact absurd h (hE _)
    · rw [ha.symm, pr_leaf_nbr ha hv huS huv hy]
      constructor
      · intro h; exact Or.inl ⟨rfl, h⟩
      · rintro (⟨_, h⟩ | ⟨_, h⟩ | h)
        · exact h
        · exact absurd h.symm (fun e => hvn (e ▸ hy'))
        · exact absurd h (hE _)
    · rw [pr_leaf_nbr ha hv huS huv hx]
      constructor
      · intro h; exact Or.inr (Or.inl ⟨h, rfl⟩)
      · rintro (⟨h, _⟩ | ⟨h, _⟩ | h)
        · exact absurd h.symm (fun e => hvn (e ▸ hx'))
        · exact h
        · exact absurd h (hE' _)
    · rw [ih x hx' y hy']
      constructor
      · intro h; exact Or.inr (Or.inr h)
      · rintro (⟨h, _⟩ | ⟨_, h⟩ | h)
        · exact absurd h.symm (fun e => hvn (e ▸ hx'))
        · exact absurd h.symm (fun e => hvn (e ▸ hy'))
        · exact h

theorem exists_not_mem_of_length_lt {L q : List Nat} (hL : L.Nodup) (h : q.length < L.length) :
    ∃ x ∈ L, x ∉ q := by
  by_contra hc
  have hsub : L ⊆ q := by
    intro x hx
    by_contra hn
    exact hc ⟨x, hx, hn⟩
  exact absurd (hL.length_le_of_subset hsub) (by omega)

theorem exists_split_first_not_mem {S q : List Nat} (hS : S.Nodup) (h : q.length < S.length) :
    ∃ A j B, S = A ++ j :: B ∧ (∀ a ∈ A, a ∈ q) ∧ j ∉ q := by
  obtain ⟨x, hxS, hxq⟩ := exists_not_mem_of_length_lt hS h
  cases hf : S.find? (fun x => !q.contains x) with
  | none =>
    rw [List.find?_eq_none] at hf
    have := hf x hxS
    simp only [Bool.not_eq_true, Bool.not_eq_false', List.contains_eq_mem, decide_eq_true_eq] at this
    exact absurd this hxq
  | some j =>
    obtain ⟨hj, A, B, e, hA⟩ := List.find?_eq_some_iff_append.1 hf
    exact ⟨A, j, B, e, fun a haA => by simpa using hA a haA, by simpa using hj⟩

theorem countP_eq_one_of_iff {L : List Nat} (hL : L.Nodup) {p : Nat → Bool} {u : Nat} (hu : u ∈ L)
    (hp : ∀ x ∈ L, (p x = true ↔ x = u)) : L.countP p = 1 := by
  have : L.countP p = L.countP (· == u) := by
    apply List.countP_congr
    intro x hx
    rw [hp x hx]; simp
  rw [this]
  exact List.count_eq_one_of_mem hL hu

theorem pr_run_of_spec {adj : Nat → Nat → Bool} (ha : pr_Adj adj) :
    ∀ (q S : List Nat), S.Pairwise (· < ·) → (∀ x ∈ q, x ∈ S) → S.length = q.length + 2 →
      (∀ a ∈ S, ∀ b ∈ S, (adj a b = true ↔ pr_Sym (pr_edges S q) a b)) → pr_Run adj S q := by
  intro q
  induction q with
  | nil =>
    intro S hs _ hl hspec
    obtain ⟨a, b, rfl⟩ := List.length_eq_two.1 hl
    have hab : a < b := sorted_pair_lt hs
    refine pr_Run.base a b hab ?_
    rw [hspec a (by simp) b (by simp)]
    exact Or.inl (by simp [pr_edges])
  | cons u q ih =>
    intro S hs hq hl hspec
    have hnd := hs.imp Nat.ne_of_lt
    obtain ⟨A, j, B, rfl, hAq, hjq⟩ := exists_split_first_not_mem (q := u :: q) hnd (by rw [hl]; simp)
    rw [pr_edges_step hs hAq hjq] at hspec
    have hjn : j ∉ A ++ B := sorted_mid_not_mem hs
    have hs' := sorted_drop_mid hs
    have huS : u ∈ A ++ j :: B := hq u (List.mem_cons_self)
    have huj : u ≠ j := fun e => hjq (e ▸ List.mem_cons_self)
    have hu : u ∈ A ++ B := by
      rcases mem_append_cons.1 huS with h | h
      · exact absurd h huj
      · exact h
    have hq' : ∀ x ∈ q, x ∈ A ++ B := by
      intro x hx
      rcases mem_append_cons.1 (hq x (List.mem_cons_of_mem _ hx)) with h | h
      · exact absurd (h ▸ List.mem_cons_of_mem _ hx) hjq
      · exact h
    have hl' : (A ++ B).length = q.length + 2 := by
      simp only [List.length_append, List.length_cons] at hl ⊢; omega
    have hE : ∀ x, ¬ pr_Sym (pr_edges (A ++ B) q) j x := pr_edges_notmem hq' hjn
    have hr : pr_Run adj (A ++ B) q := by
      apply ih (A ++ B) hs' hq' hl'
      intro a ha' b hb'
      rw [hspec a (mem_append_cons.2 (Or.inr ha')) b (mem_append_cons.2 (Or.inr hb')), pr_Sym_cons]
      constructor
      · rintro (⟨h, _⟩ | ⟨_, h⟩ | h)
        · exact absurd h (fun e => hjn (e ▸ ha'))
        · exact absurd h (fun e => hjn (e ▸ hb'))
        · exact h
      · intro h; exact Or.inr (Or.inr h)
    have hjS : j ∈ A ++ j :: B := mem_append_cons.2 (Or.inl rfl)
    have hnb : ∀ b ∈ A ++ j :: B, (adj j b = true ↔ b = u) := by
      intro b hb
      rw [hspec j hjS b hb, pr_Sym_cons]
      constructor
      · rintro (⟨_, h⟩ | ⟨h, _⟩ | h)
        · exact h
        · exact absurd h.symm huj
        · exact absurd h (hE _)
      · intro h; exact Or.inl ⟨rfl, h⟩
    have hdj : pr_deg adj (A ++ j :: B) j = 1 := countP_eq_one_of_iff hnd huS hnb
    have huv : adj u j = true := by rw [ha.symm]; exact (hnb u huS).2 rfl
    have hB : B ≠ [] := by
      obtain ⟨y, hy, hyq⟩ := exists_not_mem_of_length_lt (L := A ++ B) (q := u :: q) (hs'.imp Nat.ne_of_lt)
        (by rw [hl']; simp)
      rcases List.mem_append.1 hy with h | h
      · exact absurd (hAq y h) hyq
      · exact List.ne_nil_of_mem h
    refine pr_Run.step A B j u q hs ?_ hdj hB hu huv hr
    intro a haA
    have haS' : a ∈ A ++ B := List.mem_append_left _ haA
    have haS : a ∈ A ++ j :: B := List.mem_append_left _ haA
    rw [pr_deg_split, pr_Run.deg ha hr a haS']
    have h1 : adj a j = true ↔ a = u := by rw [ha.symm]; exact hnb a haS
    rcases List.mem_cons.1 (hAq a haA) with rfl | h
    · rw [if_pos (h1.2 rfl)]; omega
    · have : 0 < List.count a q := List.count_pos_iff.2 h
      omega

/-- the part of `pruferDecode` after the degree count, from an arbitrary loop state and remaining code -/
def pr_decRest (n : Nat) (q : List Nat) (st : Array Nat × Array Nat) : Outcome Dense :=
  match q.foldlM (pruferDecStep n) st with
  | .ok (deg2, edges) =>
    match firstDegOne deg2 (List.range n) with
    | .ok none => newDense n edges
    | .ok (some i) =>
      match firstDegOne deg2 (List.range' (i + 1) (n - (i + 1))) with
      | .ok none => newDense n edges
      | .ok (some j) =>
        match setAt edges (j * (j - 1) / 2 + i) 1 with
        | .ok e => newDense n e
        | .panic => .panic
        | .outOfFuel => .outOfFuel
      | .panic => .panic
      | .outOfFuel => .outOfFuel
    | .panic => .panic
    | .outOfFuel => .outOfFuel
  | .panic => .panic
  | .outOfFuel => .outOfFuel

theorem pr_decode_unfold (p : List Nat) :
    pruferDecode p =
      match p.foldlM incr (Array.replicate (p.length + 2) 1) with
      | .ok degrees =>
        pr_decRest (p.length + 2) p (degrees, Array.replicate ((p.length + 2) * (p.length + 2 - 1) / 2) 0)
      | .panic => .panic
      | .outOfFuel => .outOfFuel := rfl

theorem pr_decRest_cons (n v : Nat) (q : List Nat) (st st' : Array Nat × Array Nat)
    (h : pruferDecStep n st v = .ok st') : pr_decRest n (v :: q) st = pr_decRest n q st' := by
  unfold pr_decRest
  simp only [List.foldlM_cons]
  show (match (pruferDecStep n st v >>= fun s => List.foldlM (pruferDecStep n) s q) with
    | .ok (deg2, edges) => _ | .panic => _ | .outOfFuel => _) = _
  rw [h]
  rfl

def pr_Rep (n : Nat) (E : List (Nat × Nat)) (edg : Array Nat) : Prop :=
  edg.size = tri n ∧ ∀ a b, a < b → b < n →
    (pr_Sym E a b → edg.getD (tri b + a) 0 = 1) ∧ (¬ pr_Sym E a b → edg.getD (tri b + a) 0 = 0)

theorem pr_Sym_congr {E E' : List (Nat × Nat)} (h : ∀ p, p ∈ E ↔ p ∈ E') {a b : Nat} :
    pr_Sym E a b ↔ pr_Sym E' a b := or_congr (h _) (h _)

theorem pr_Rep_congr {n : Nat} {E E' : List (Nat × Nat)} {edg : Array Nat}
    (h : ∀ a b, pr_Sym E a b ↔ pr_Sym E' a b) (hr : pr_Rep n E edg) : pr_Rep n E' edg := by
  refine ⟨hr.1, ?_⟩
  intro a b hab hb
  rw [← h a b]
  exact hr.2 a b hab hb

theorem pr_Rep_nil (n : Nat) : pr_Rep n [] (Array.replicate (n * (n - 1) / 2) 0) := by
  refine ⟨by rw [Array.size_replicate]; rfl, ?_⟩
  intro a b _ _
  constructor
  · intro h; rcases h with h | h <;> cases h
  · intro _
    rw [Array.getD_eq_getD_getElem?, Array.getElem?_replicate]
    split <;> rfl

theorem pr_edgeIdx_lt {j v : Nat} (h : j < v) : edgeIdx j v = tri v + j := by
  unfold edgeIdx tri
  rw [if_neg (by omega)]

theorem pr_edgeIdx_gt {j v : Nat} (h : v < j) : edgeIdx j v = tri j + v := by
  unfold edgeIdx tri
  rw [if_pos h]

theorem pr_Rep_set_lt {n : Nat} {E : List (Nat × Nat)} {edg : Array Nat} (hr : pr_Rep n E edg)
    {lo hi : Nat} (hlt : lo < hi) (hhi : hi < n) :
    setAt edg (tri hi + lo) 1 = .ok (edg.setIfInBounds (tri hi + lo) 1) ∧
      pr_Rep n ((lo, hi) :: E) (edg.setIfInBounds (tri hi + lo) 1) := by
  have hidx : tri hi + lo < edg.size := by rw [hr.1]; exact tri_add_lt hlt hhi
  refine ⟨setAt_ok hidx, by rw [Array.size_setIfInBounds]; exact hr.1, ?_⟩
  intro a b hab hb
  rw [Array.getD_eq_getD_getElem?, Array.getElem?_setIfInBounds, pr_Sym_cons]
  by_cases e : tri hi + lo = tri b + a
  · obtain ⟨rfl, rfl⟩ := tri_inj hlt hab e
    rw [if_pos e, if_pos hidx]
    exact ⟨fun _ => rfl, fun h => absurd (Or.inl ⟨rfl, rfl⟩) h⟩
  · rw [if_neg e, ← Array.getD_eq_getD_getElem?]
    have hne : ¬ (a = lo ∧ b = hi) := by rintro ⟨rfl, rfl⟩; exact e rfl
    have hne' : ¬ (a = hi ∧ b = lo) := by rintro ⟨rfl, rfl⟩; omega
    constructor
    · rintro (h | h | h)
      · exact absurd h hne
      · exact absurd h hne'
      · exact (hr.2 a b hab hb).1 h
    · intro h
      exact (hr.2 a b hab hb).2 (fun h' => h (Or.inr (Or.inr h')))

theorem pr_Sym_cons_swap {E : List (Nat × Nat)} {j v a b : Nat} :
    pr_Sym ((j, v) :: E) a b ↔ pr_Sym ((v, j) :: E) a b := by
  rw [pr_Sym_cons, pr_Sym_cons, or_left_comm]

/-- the statement `edges[edgeIdx(j, v)] = 1` -/
theorem pr_Rep_set {n : Nat} {E : List (Nat × Nat)} {edg : Array Nat} (hr : pr_Rep n E edg)
    {j v : Nat} (hne : j ≠ v) (hj : j < n) (hv : v < n) :
    ∃ e, setAt edg (edgeIdx j v) 1 = .ok e ∧ pr_Rep n ((j, v) :: E) e := by
  rcases Nat.lt_or_gt_of_ne hne with h | h
  · rw [pr_edgeIdx_lt h]
    exact ⟨_, pr_Rep_set_lt hr h hv⟩
  · rw [pr_edgeIdx_gt h]
    obtain ⟨h1, h2⟩ := pr_Rep_set_lt hr h hj
    exact ⟨_, h1, pr_Rep_congr (fun a b => pr_Sym_cons_swap) h2⟩

theorem pr_firstDegOne_split (deg : Array Nat) (L1 L2 : List Nat) (j : Nat)
    (h1 : ∀ i ∈ L1, ∃ d, deg[i]? = some d ∧ d ≠ 1) (hj : deg[j]? = some 1) :
    firstDegOne deg (L1 ++ j :: L2) = .ok (some j) := by
  induction L1 with
  | nil => simp [firstDegOne, hj]
  | cons x xs ih =>
    obtain ⟨d, hd, hd1⟩ := h1 x (List.mem_cons_self)
    simp only [List.cons_append, firstDegOne, hd, hd1, if_false]
    exact ih (fun i hi => h1 i (List.mem_cons_of_mem _ hi))

theorem range'_split {s m j : Nat} (h1 : s ≤ j) (h2 : j < s + m) :
    List.range' s m = List.range' s (j - s) ++ j :: List.range' (j + 1) (s + m - (j + 1)) := by
  have e : m = (j - s) + (1 + (s + m - (j + 1))) := by omega
  conv => lhs; rw [e]
  rw [← List.range'_append_1, ← List.range'_append_1]
  have : s + (j - s) = j := by omega
  rw [this]
  rfl

theorem pr_incr_loop (n : Nat) : ∀ (p : List Nat) (a : Array Nat), a.size = n → (∀ x ∈ p, x < n) →
    ∃ a', p.foldlM incr a = .ok a' ∧ a'.size = n ∧ ∀ w, w < n → a'[w]? = some (a.getD w 0 + p.count w) := by
  intro p
  induction p with
  | nil =>
    intro a ha _
    refine ⟨a, rfl, ha, ?_⟩
    intro w hw
    simp [Array.getD, ha, hw]
  | cons x xs ih =>
    intro a ha hp
    have hx : x < a.size := by rw [ha]; exact hp x (List.mem_cons_self)
    obtain ⟨a', h1, h2, h3⟩ := ih (a.setIfInBounds x (a[x] + 1)) (by rw [Array.size_setIfInBounds]; exact ha)
      (fun y hy => hp y (List.mem_cons_of_mem _ hy))
    refine ⟨a', ?_, h2, ?_⟩
    · simp only [List.foldlM_cons]
      show (incr a x >>= fun s => List.foldlM incr s xs) = _
      rw [incr_ok hx]; exact h1
    · intro w hw
      rw [h3 w hw, List.count_cons]
      rw [Array.getD_eq_getD_getElem?, Array.getElem?_setIfInBounds, Array.getD_eq_getD_getElem?]
      by_cases e : x = w
      · subst e; simp [hx]; omega
      · have : ¬ (x == w) = true := by simpa using e
        simp [e]

/-- invariant of the main loop: present set `S` (ascending), remaining code `q`, edges set so far `E` -/
structure pr_DecInv (n : Nat) (S q : List Nat) (E : List (Nat × Nat)) (st : Array Nat × Array Nat) : Prop where
  sorted : S.Pairwise (· < ·)
  bound : ∀ x ∈ S, x < n
  sub : ∀ x ∈ q, x ∈ S
  len : S.length = q.length + 2
  size : st.1.size = n
  deg : ∀ w, w < n → st.1[w]? = some ((if w ∈ S then 1 else 0) + q.count w)
  rep : pr_Rep n E st.2

theorem sorted_mid_lt_mem {A B : List Nat} {j i : Nat} (hs : (A ++ j :: B).Pairwise (· < ·))
    (hi : i ∈ A ++ j :: B) (hlt : i < j) : i ∈ A := by
  rw [List.pairwise_append] at hs
  obtain ⟨_, h2, _⟩ := hs
  rw [List.pairwise_cons] at h2
  rcases List.mem_append.1 hi with h | h
  · exact h
  · rcases List.mem_cons.1 h with h | h
    · omega
    · have := h2.1 i h; omega

theorem pr_decStep_inv {n : Nat} {A B : List Nat} {j v : Nat} {q : List Nat} {E : List (Nat × Nat)}
    {st : Array Nat × Array Nat} (h : pr_DecInv n (A ++ j :: B) (v :: q) E st)
    (hA : ∀ a ∈ A, a ∈ v :: q) (hj : j ∉ v :: q) :
    ∃ st', pruferDecStep n st v = .ok st' ∧ pr_DecInv n (A ++ B) q ((j, v) :: E) st' := by
  have hjS : j ∈ A ++ j :: B := mem_append_cons.2 (Or.inl rfl)
  have hjn : j < n := h.bound j hjS
  have hvS : v ∈ A ++ j :: B := h.sub v (List.mem_cons_self)
  have hvn : v < n := h.bound v hvS
  have hne : j ≠ v := fun e => hj (e ▸ List.mem_cons_self)
  have hjnot : j ∉ A ++ B := sorted_mid_not_mem h.sorted
  have hdj : st.1[j]? = some 1 := by
    rw [h.deg j hjn, if_pos hjS, List.count_eq_zero_of_not_mem hj]
  have hfd : firstDegOne st.1 (List.range n) = .ok (some j) := by
    rw [range_split hjn]
    apply pr_firstDegOne_split _ _ _ _ _ hdj
    intro i hi
    have hij : i < j := List.mem_range.1 hi
    refine ⟨_, h.deg i (by omega), ?_⟩
    by_cases hiS : i ∈ A ++ j :: B
    · have : 0 < List.count i (v :: q) := List.count_pos_iff.2 (hA i (sorted_mid_lt_mem h.sorted hiS hij))
      rw [if_pos hiS]; omega
    · have : i ∉ v :: q := fun hm => hiS (h.sub i hm)
      rw [if_neg hiS, List.count_eq_zero_of_not_mem this]; omega
  obtain ⟨e, he, hrep⟩ := pr_Rep_set h.rep hne hjn hvn
  have hd1 := decr_of_getElem? hdj
  have hdv : (st.1.setIfInBounds j (1 - 1))[v]? = some (1 + (q.count v + 1)) := by
    rw [Array.getElem?_setIfInBounds, if_neg hne, h.deg v hvn, if_pos hvS, List.count_cons_self]
  have hd2 := decr_of_getElem? hdv
  refine ⟨((st.1.setIfInBounds j (1 - 1)).setIfInBounds v (1 + (q.count v + 1) - 1), e), ?_, ?_⟩
  · unfold pruferDecStep
    rw [hfd]; simp only []
    rw [he]; simp only []
    rw [hd1]; simp only []
    rw [hd2]
  · refine ⟨sorted_drop_mid h.sorted, fun x hx => h.bound x (mem_append_cons.2 (Or.inr hx)), ?_, ?_, ?_, ?_, hrep⟩
    · intro x hx
      rcases mem_append_cons.1 (h.sub x (List.mem_cons_of_mem _ hx)) with e | e
      · exact absurd (e ▸ List.mem_cons_of_mem _ hx) hj
      · exact e
    · have := h.len
      simp only [List.length_append, List.length_cons] at this ⊢; omega
    · simp only [Array.size_setIfInBounds]; exact h.size
    · intro w hw
      simp only [Array.getElem?_setIfInBounds, Array.size_setIfInBounds, h.size, hvn, hjn, if_true]
      by_cases e1 : v = w
      · subst e1
        have : v ∈ A ++ B := by
          rcases mem_append_cons.1 hvS with e | e
          · exact absurd e.symm hne
          · exact e
        rw [if_pos rfl, if_pos this]
        congr 1
      · rw [if_neg e1]
        by_cases e2 : j = w
        · subst e2
          have : j ∉ q := fun hm => hj (List.mem_cons_of_mem _ hm)
          rw [if_pos rfl, if_neg hjnot, List.count_eq_zero_of_not_mem this]
        · rw [if_neg e2, h.deg w hw, List.count_cons, if_neg (show ¬ (v == w) = true by simpa using e1)]
          have : w ∈ A ++ j :: B ↔ w ∈ A ++ B := by
            rw [mem_append_cons]
            constructor
            · rintro (e | e)
              · exact absurd e.symm e2
              · exact e
            · exact Or.inr
          simp only [this, Nat.add_zero]

theorem pr_decRest_nil {n i j : Nat} {E : List (Nat × Nat)} {st : Array Nat × Array Nat}
    (h : pr_DecInv n [i, j] [] E st) :
    ∃ edg, pr_decRest n [] st = newDense n edg ∧ pr_Rep n ((i, j) :: E) edg := by
  have hij : i < j := sorted_pair_lt h.sorted
  have hin : i < n := h.bound i (by simp)
  have hjn : j < n := h.bound j (by simp)
  have hdeg : ∀ w, w < n → st.1[w]? = some (if w = i ∨ w = j then 1 else 0) := by
    intro w hw
    rw [h.deg w hw]
    simp
  have hf1 : firstDegOne st.1 (List.range n) = .ok (some i) := by
    rw [range_split hin]
    apply pr_firstDegOne_split
    · intro k hk
      have hki : k < i := List.mem_range.1 hk
      refine ⟨_, hdeg k (by omega), ?_⟩
      rw [if_neg (by omega)]; omega
    · rw [hdeg i hin]; simp
  have hf2 : firstDegOne st.1 (List.range' (i + 1) (n - (i + 1))) = .ok (some j) := by
    rw [range'_split (s := i + 1) (m := n - (i + 1)) (j := j) (by omega) (by omega)]
    apply pr_firstDegOne_split
    · intro k hk
      rw [List.mem_range'_1] at hk
      refine ⟨_, hdeg k (by omega), ?_⟩
      rw [if_neg (by omega)]; omega
    · rw [hdeg j hjn]; simp
  obtain ⟨hs, hrep⟩ := pr_Rep_set_lt h.rep hij hjn
  refine ⟨_, ?_, hrep⟩
  obtain ⟨deg, edg⟩ := st
  have e : pr_decRest n [] (deg, edg) =
      match firstDegOne deg (List.range n) with
      | .ok none => newDense n edg
      | .ok (some i) =>
        match firstDegOne deg (List.range' (i + 1) (n - (i + 1))) with
        | .ok none => newDense n edg
        | .ok (some j) =>
          match setAt edg (tri j + i) 1 with
          | .ok e => newDense n e
          | .panic => .panic
          | .outOfFuel => .outOfFuel
        | .panic => .panic
        | .outOfFuel => .outOfFuel
      | .panic => .panic
      | .outOfFuel => .outOfFuel := rfl
  rw [e]
  simp only at hf1 hf2 hs
  rw [hf1]; simp only []
  rw [hf2]; simp only []
  rw [hs]

theorem pr_Sym_append {E1 E2 : List (Nat × Nat)} {a b : Nat} :
    pr_Sym (E1 ++ E2) a b ↔ pr_Sym E1 a b ∨ pr_Sym E2 a b := by
  unfold pr_Sym; rw [List.mem_append, List.mem_append, or_or_or_comm]

theorem pr_decRest_spec (n : Nat) : ∀ (q S : List Nat) (E : List (Nat × Nat)) (st : Array Nat × Array Nat),
    pr_DecInv n S q E st →
    ∃ edg, pr_decRest n q st = newDense n edg ∧ pr_Rep n (pr_edges S q ++ E) edg := by
  intro q
  induction q with
  | nil =>
    intro S E st h
    have hl := h.len
    obtain ⟨i, j, rfl⟩ := List.length_eq_two.1 hl
    exact pr_decRest_nil h
  | cons v q ih =>
    intro S E st h
    obtain ⟨A, j, B, rfl, hA, hj⟩ := exists_split_first_not_mem (q := v :: q) (h.sorted.imp Nat.ne_of_lt)
      (by rw [h.len]; omega)
    obtain ⟨st', hstep, hinv⟩ := pr_decStep_inv h hA hj
    obtain ⟨edg, h1, h2⟩ := ih _ _ _ hinv
    refine ⟨edg, by rw [pr_decRest_cons n v q st st' hstep]; exact h1, ?_⟩
    rw [pr_edges_step h.sorted hA hj]
    exact pr_Rep_congr (fun a b => pr_Sym_congr fun p => List.perm_middle.mem_iff) h2

theorem pr_decode_run (p : List Nat) (hp : ∀ x ∈ p, x < p.length + 2) :
    ∃ edg, pruferDecode p = newDense (p.length + 2) edg ∧
      pr_Rep (p.length + 2) (pr_edges (List.range (p.length + 2)) p) edg := by
  obtain ⟨deg, h1, h2, h3⟩ := pr_incr_loop (p.length + 2) p (Array.replicate (p.length + 2) 1)
    (Array.size_replicate) hp
  have hinv : pr_DecInv (p.length + 2) (List.range (p.length + 2)) p []
      (deg, Array.replicate ((p.length + 2) * (p.length + 2 - 1) / 2) 0) := by
    refine ⟨?_, fun x hx => List.mem_range.1 hx, fun x hx => List.mem_range.2 (hp x hx), by simp, h2, ?_,
      pr_Rep_nil _⟩
    · exact List.pairwise_lt_range
    · intro w hw
      rw [h3 w hw, if_pos (List.mem_range.2 hw)]
      simp [Array.getD, hw]
  obtain ⟨edg, h4, h5⟩ := pr_decRest_spec _ _ _ _ _ hinv
  refine ⟨edg, ?_, by simpa using h5⟩
  rw [pr_decode_unfold, h1]
  exact h4

theorem sum_count_eq_length {S q : List Nat} (hS : S.Nodup) (hq : ∀ x ∈ q, x ∈ S) :
    (S.map fun w => q.count w).sum = q.length := by
  induction q with
  | nil => simp
  | cons x q ih =>
    have e : (S.map fun w => (x :: q).count w) = S.map (fun w => q.count w + if x == w then 1 else 0) := by
      apply List.map_congr_left
      intro w _
      rw [List.count_cons]
    rw [e, sum_map_add, ih (fun y hy => hq y (List.mem_cons_of_mem _ hy)), sum_ite]
    have : S.countP (fun w => x == w) = 1 := by
      have := List.count_eq_one_of_mem hS (hq x (List.mem_cons_self))
      rw [← this]
      unfold List.count
      apply List.countP_congr
      intro w _
      rw [beq_iff_eq, beq_iff_eq]; exact eq_comm
    rw [this]; rfl

theorem pr_deg_eq (g : G) (v : Nat) : g.deg v = pr_deg g.adj (List.range g.n) v := by
  unfold G.deg G.nbrs pr_deg
  rw [List.countP_eq_length_filter]

theorem pr_Run.deg_sum {adj S q} (ha : pr_Adj adj) (h : pr_Run adj S q) :
    (S.map (pr_deg adj S)).sum + 2 = 2 * S.length := by
  have e : S.map (pr_deg adj S) = S.map (fun w => 1 + q.count w) :=
    List.map_congr_left (fun w hw => h.deg ha w hw)
  rw [e, sum_map_add, sum_count_eq_length (h.sorted.imp Nat.ne_of_lt) h.sub]
  have := h.length
  simp only [List.map_const', List.sum_replicate_nat, Nat.mul_one]
  omega

theorem pr_Adj_of_wf {g : G} (h : g.WF) : pr_Adj g.adj := ⟨h.symm, h.irrefl⟩

theorem pr_Sym_comm {E : List (Nat × Nat)} {a b : Nat} : pr_Sym E a b ↔ pr_Sym E b a := Or.comm

theorem pr_decode_spec (p : List Nat) (hp : ∀ x ∈ p, x < p.length + 2) :
    ∃ d, pruferDecode p = .ok d ∧ d.WF ∧ d.n = p.length + 2 ∧
      ∀ a b, (d.toG.adj a b = true ↔ pr_Sym (pr_edges (List.range (p.length + 2)) p) a b) := by
  obtain ⟨edg, hrun, hrep⟩ := pr_decode_run p hp
  obtain ⟨d, hd, hwf, hn, he⟩ := newDense_ok (p.length + 2) edg hrep.1
  refine ⟨d, hrun.trans hd, hwf, hn, ?_⟩
  have hs : d.edges.size = tri d.n := by rw [he, hn]; exact hrep.1
  have hG := Dense.toG_wf d
  have hsub := pr_edges_sub p (List.range (p.length + 2)) (fun x hx => List.mem_range.2 (hp x hx))
  have hirr := pr_edges_irrefl p (List.range (p.length + 2)) List.nodup_range
  have key : ∀ a b, a < b → (d.toG.adj a b = true ↔ pr_Sym (pr_edges (List.range (p.length + 2)) p) a b) := by
    intro a b hab
    by_cases hb : b < p.length + 2
    · rw [Dense.toG_adj_lt hs hab (by rw [hn]; exact hb), he]
      obtain ⟨h1, h2⟩ := hrep.2 a b hab hb
      constructor
      · intro h
        by_contra hc
        rw [h2 hc] at h
        simp at h
      · intro h
        rw [h1 h]; rfl
    · constructor
      · intro h
        have := (hG.supp a b h).2
        rw [show d.toG.n = d.n from rfl, hn] at this
        exact absurd this hb
      · rintro (h | h)
        · exact absurd (List.mem_range.1 (hsub _ h).2) hb
        · exact absurd (List.mem_range.1 (hsub _ h).1) hb
  intro a b
  rcases Nat.lt_trichotomy a b with c | c | c
  · exact key a b c
  · subst c
    rw [hG.irrefl]
    constructor
    · intro h; cases h
    · rintro (h | h) <;> exact absurd h (hirr a)
  · rw [hG.symm, pr_Sym_comm]
    exact key b a c

theorem pr_decode_runs (p : List Nat) (hp : ∀ x ∈ p, x < p.length + 2) :
    ∃ d, pruferDecode p = .ok d ∧ d.WF ∧ d.n = p.length + 2 ∧
      pr_Run d.toG.adj (List.range (p.length + 2)) p := by
  obtain ⟨d, h1, h2, h3, h4⟩ := pr_decode_spec p hp
  refine ⟨d, h1, h2, h3, ?_⟩
  exact pr_run_of_spec (pr_Adj_of_wf (Dense.toG_wf d)) p _ List.pairwise_lt_range
    (fun x hx => List.mem_range.2 (hp x hx)) (by simp) (fun a _ b _ => h4 a b)

theorem pr_tree_of_run {g : G} (h : g.WF) {q : List Nat} (hr : pr_Run g.adj (List.range g.n) q) : IsTree g := by
  have ha := pr_Adj_of_wf h
  refine ⟨h, ?_, ?_⟩
  · have h1 := hr.deg_sum ha
    have h2 := GraphRep.sum_deg h
    have e : (List.range g.n).map g.deg = (List.range g.n).map (pr_deg g.adj (List.range g.n)) :=
      List.map_congr_left (fun v _ => pr_deg_eq g v)
    rw [e] at h2
    rw [h2, List.length_range] at h1
    omega
  · intro u v hu hv
    exact hr.conn ha u (List.mem_range.2 hu) v (List.mem_range.2 hv)

theorem prufer_decode_ok (p : List Nat) (hp : ∀ x ∈ p, x < p.length + 2) :
    ∃ d, pruferDecode p = .ok d ∧ d.WF ∧ d.n = p.length + 2 ∧ d.m = p.length + 1 := by
  obtain ⟨d, h1, h2, h3, h4⟩ := pr_decode_runs p hp
  refine ⟨d, h1, h2, h3, ?_⟩
  have hn : d.toG.n = p.length + 2 := h3
  have ht := pr_tree_of_run (Dense.toG_wf d) (hn ▸ h4)
  rw [h2.m_eq]
  have := ht.2.1
  omega

theorem prufer_decode_tree (p : List Nat) (hp : ∀ x ∈ p, x < p.length + 2) :
    ∃ d, pruferDecode p = .ok d ∧ d.WF ∧ d.n = p.length + 2 ∧ IsTree d.toG := by
  obtain ⟨d, h1, h2, h3, h4⟩ := pr_decode_runs p hp
  have hn : d.toG.n = p.length + 2 := h3
  exact ⟨d, h1, h2, h3, pr_tree_of_run (Dense.toG_wf d) (hn ▸ h4)⟩

theorem pr_findLeaf_split (deg : Array Int) (A R : List Nat) (v j0 : Nat)
    (hA : ∀ a ∈ A, ∃ d, deg[a]? = some d ∧ d ≠ 1) (hv : deg[v]? = some 1) :
    pruferFindLeaf deg j0 (A ++ v :: R) = .ok (some (j0 + A.length, v)) := by
  induction A generalizing j0 with
  | nil => simp [pruferFindLeaf, hv]
  | cons x xs ih =>
    obtain ⟨d, hd, hd1⟩ := hA x (List.mem_cons_self)
    simp only [List.cons_append, pruferFindLeaf, hd, hd1, if_false]
    rw [ih (j0 + 1) (fun a ha => hA a (List.mem_cons_of_mem _ ha))]
    rw [List.length_cons, show j0 + 1 + xs.length = j0 + (xs.length + 1) by omega]

theorem pr_shiftDown_split (A R : List Nat) (v l : Nat) (hl : (A ++ v :: R).getLast? = some l) :
    shiftDown (A ++ v :: R) A.length = A ++ R ++ [l] := by
  unfold shiftDown
  rw [hl]
  simp only []
  rw [List.eraseIdx_append_of_length_le (Nat.le_refl _), Nat.sub_self, List.eraseIdx_cons_zero]

/-- invariant of the outer loop of `PruferEncode`: `vl = S ++ D`, `D` copies of the last vertex `l` of `S` -/
structure pr_EncInv (g : GI) (S D : List Nat) (l : Nat) (deg : Array Int) : Prop where
  last : S.getLast? = some l
  dup : ∀ x ∈ D, x = l
  deg : ∀ w ∈ S, deg[w]? = some (Int.ofNat (pr_deg g.isEdge S w))

theorem getLast?_drop_mid {A B : List Nat} {v l : Nat} (hB : B ≠ []) (h : (A ++ v :: B).getLast? = some l) :
    (A ++ B).getLast? = some l := by
  obtain ⟨b, B', rfl⟩ := List.exists_cons_of_ne_nil hB
  simpa [List.getLast?_append, List.getLast?_cons_cons] using h

theorem getLast?_append_const {S D : List Nat} {l : Nat} (h : S.getLast? = some l) (hD : ∀ x ∈ D, x = l) :
    (S ++ D).getLast? = some l := by
  rw [List.getLast?_append]
  cases hd : D.getLast? with
  | none => simpa using h
  | some x =>
    have : x ∈ D := List.mem_of_getLast? hd
    rw [hD x this]; rfl

theorem pr_encStep_inv {g : GI} (ha : pr_Adj g.isEdge) {A B : List Nat} {v u : Nat} {D : List Nat} {l : Nat}
    {deg : Array Int} {out : Array Nat}
    (hs : (A ++ v :: B).Pairwise (· < ·))
    (hA : ∀ a ∈ A, pr_deg g.isEdge (A ++ v :: B) a ≠ 1)
    (hv : pr_deg g.isEdge (A ++ v :: B) v = 1)
    (hB : B ≠ []) (hu : u ∈ A ++ B) (huv : g.isEdge u v = true)
    (hinv : pr_EncInv g (A ++ v :: B) D l deg) :
    ∃ deg', pruferEncStep g ((A ++ v :: B) ++ D, deg, out) = .ok ((A ++ B) ++ (D ++ [l]), deg', out.push u) ∧
      pr_EncInv g (A ++ B) (D ++ [l]) l deg' := by
  have huS : u ∈ A ++ v :: B := mem_append_cons.2 (Or.inr hu)
  have hvS : v ∈ A ++ v :: B := mem_append_cons.2 (Or.inl rfl)
  have hvn : v ∉ A ++ B := sorted_mid_not_mem hs
  have hlS : l ∈ A ++ v :: B := List.mem_of_getLast? hinv.last
  have e1 : (A ++ v :: B) ++ D = A ++ v :: (B ++ D) := by simp
  have hfl : pruferFindLeaf deg 0 (A ++ v :: (B ++ D)) = .ok (some (0 + A.length, v)) := by
    apply pr_findLeaf_split
    · intro a haA
      refine ⟨_, hinv.deg a (List.mem_append_left _ haA), ?_⟩
      have := hA a haA
      simp only [Int.ofNat_eq_natCast, ne_eq]
      omega
    · rw [hinv.deg v hvS, hv]; rfl
  have hfind : ((A ++ v :: B) ++ D).find? (fun u' => g.isEdge u' v) = some u := by
    cases hf : ((A ++ v :: B) ++ D).find? (fun u' => g.isEdge u' v) with
    | none =>
      rw [List.find?_eq_none] at hf
      exact absurd huv (hf u (List.mem_append_left _ huS))
    | some u' =>
      have h1 : g.isEdge u' v = true := List.find?_some (p := fun u' => g.isEdge u' v) hf
      have h2 : u' ∈ (A ++ v :: B) ++ D := List.mem_of_find?_eq_some hf
      have h3 : u' ∈ A ++ v :: B := by
        rcases List.mem_append.1 h2 with h | h
        · exact h
        · rw [hinv.dup u' h]; exact hlS
      rw [(pr_leaf_nbr ha hv huS huv h3).1 h1]
  have hdu := hinv.deg u huS
  have hsd : shiftDown (A ++ v :: (B ++ D)) A.length = A ++ (B ++ D) ++ [l] :=
    pr_shiftDown_split A (B ++ D) v l (e1 ▸ getLast?_append_const hinv.last hinv.dup)
  rw [← e1] at hfl hsd
  refine ⟨deg.setIfInBounds u (Int.ofNat (pr_deg g.isEdge (A ++ v :: B) u) - 1), ?_, ?_⟩
  · unfold pruferEncStep
    simp only []
    rw [hfl]
    simp only [Nat.zero_add]
    rw [hfind]
    simp only []
    rw [hdu]
    simp only []
    rw [hsd]
    simp
  · refine ⟨getLast?_drop_mid hB hinv.last, ?_, ?_⟩
    · intro x hx
      rcases List.mem_append.1 hx with h | h
      · exact hinv.dup x h
      · simpa using h
    · intro w hw
      have hwS : w ∈ A ++ v :: B := mem_append_cons.2 (Or.inr hw)
      have hsplit := pr_deg_split g.isEdge A B v w
      have hnb := pr_leaf_nbr ha hv huS huv hwS
      rw [Array.getElem?_setIfInBounds]
      by_cases e : u = w
      · subst e
        have hlt : u < deg.size := by
          rcases Nat.lt_or_ge u deg.size with h | h
          · exact h
          · rw [Array.getElem?_eq_none h] at hdu; cases hdu
        rw [if_pos rfl, if_pos hlt, hsplit, if_pos huv]
        simp only [Int.ofNat_eq_natCast]
        congr 1; omega
      · rw [if_neg e, hinv.deg w hwS, hsplit]
        have : g.isEdge w v = false := by
          cases h4 : g.isEdge w v with
          | false => rfl
          | true => exact absurd (hnb.1 h4).symm e
        rw [this]; simp

theorem pr_iterM_succ {α : Type} (f : α → Outcome α) (k : Nat) (a a' : α) (h : f a = .ok a') :
    iterM f (k + 1) a = iterM f k a' := by
  rw [iterM, h]

theorem pr_encode_loop {g : GI} (ha : pr_Adj g.isEdge) {S q : List Nat} (hr : pr_Run g.isEdge S q) :
    ∀ (D : List Nat) (l : Nat) (deg : Array Int) (out : Array Nat), pr_EncInv g S D l deg →
      ∃ st, iterM (pruferEncStep g) q.length (S ++ D, deg, out) = .ok st ∧ st.2.2.toList = out.toList ++ q := by
  induction hr with
  | base a b _ _ =>
    intro D l deg out _
    exact ⟨_, rfl, by simp⟩
  | step A B v u q hs hA hv hB hu huv _ ih =>
    intro D l deg out hinv
    obtain ⟨deg', hstep, hinv'⟩ := pr_encStep_inv ha (out := out) hs hA hv hB hu huv hinv
    obtain ⟨st, h1, h2⟩ := ih (D ++ [l]) l deg' (out.push u) hinv'
    refine ⟨st, ?_, ?_⟩
    · rw [List.length_cons, pr_iterM_succ _ _ _ _ hstep]; exact h1
    · rw [h2]; simp

theorem pr_encode_run (g : GI) (hn : 2 ≤ g.n) (ha : pr_Adj g.isEdge)
    (hdeg : ∀ v, v < g.n → g.deg v = pr_deg g.isEdge (List.range g.n) v)
    {q : List Nat} (hr : pr_Run g.isEdge (List.range g.n) q) : pruferEncode g = .ok q := by
  have hl : q.length = g.n - 2 := by have := hr.length; rw [List.length_range] at this; omega
  have hinv : pr_EncInv g (List.range g.n) [] (g.n - 1) (g.degrees.map Int.ofNat) := by
    refine ⟨?_, (fun x hx => by cases hx), ?_⟩
    · rw [List.getLast?_range, if_neg (by omega)]
    · intro w hw
      have hw' : w < g.n := List.mem_range.1 hw
      rw [← hdeg w hw']
      simp [GI.degrees, hw']
  obtain ⟨st, h1, h2⟩ := pr_encode_loop ha hr [] (g.n - 1) (g.degrees.map Int.ofNat) #[] hinv
  unfold pruferEncode
  rw [if_neg (by omega), ← hl]
  rw [List.append_nil] at h1
  rw [h1]
  simp only []
  rw [h2]; simp

def pr_RelTree (adj : Nat → Nat → Bool) (S : List Nat) : Prop :=
  (∀ a ∈ S, ∀ b ∈ S, Relation.ReflTransGen (fun x y => adj x y = true ∧ x ∈ S ∧ y ∈ S) a b) ∧
    (S.map (pr_deg adj S)).sum + 2 = 2 * S.length

theorem two_mul_length_le_sum {L : List Nat} {f : Nat → Nat} (h : ∀ x ∈ L, 2 ≤ f x) :
    2 * L.length ≤ (L.map f).sum := by
  induction L with
  | nil => simp
  | cons x xs ih =>
    have h1 := h x (List.mem_cons_self)
    have h2 := ih (fun y hy => h y (List.mem_cons_of_mem _ hy))
    simp only [List.length_cons, List.map_cons, List.sum_cons]
    omega

theorem pr_deg_pos {adj : Nat → Nat → Bool} {S : List Nat} (hS : S.Nodup) (hl : 2 ≤ S.length)
    (hc : ∀ a ∈ S, ∀ b ∈ S, Relation.ReflTransGen (fun x y => adj x y = true ∧ x ∈ S ∧ y ∈ S) a b)
    {w : Nat} (hw : w ∈ S) : 0 < pr_deg adj S w := by
  obtain ⟨x, hx, hxw⟩ := exists_not_mem_of_length_lt (q := [w]) hS (by simp only [List.length_singleton]; omega)
  have hne : w ≠ x := fun e => hxw (by simp [e])
  rcases (hc w hw x hx).cases_head with e | ⟨c, ⟨h1, _, h2⟩, _⟩
  · exact absurd e hne
  · exact List.countP_pos_iff.2 ⟨c, h2, h1⟩

theorem pr_conn_drop {adj : Nat → Nat → Bool} (ha : pr_Adj adj) {A B : List Nat} {v u : Nat}
    (hs : (A ++ v :: B).Pairwise (· < ·)) (hv : pr_deg adj (A ++ v :: B) v = 1)
    (hu : u ∈ A ++ B) (huv : adj u v = true)
    (hc : ∀ a ∈ A ++ v :: B, ∀ b ∈ A ++ v :: B,
      Relation.ReflTransGen (fun x y => adj x y = true ∧ x ∈ A ++ v :: B ∧ y ∈ A ++ v :: B) a b) :
    ∀ a ∈ A ++ B, ∀ b ∈ A ++ B,
      Relation.ReflTransGen (fun x y => adj x y = true ∧ x ∈ A ++ B ∧ y ∈ A ++ B) a b := by
  have huS : u ∈ A ++ v :: B := mem_append_cons.2 (Or.inr hu)
  have hvn : v ∉ A ++ B := sorted_mid_not_mem hs
  intro a haS' b hbS'
  have key : ∀ x, Relation.ReflTransGen (fun x y => adj x y = true ∧ x ∈ A ++ v :: B ∧ y ∈ A ++ v :: B) a x →
      (x ≠ v → Relation.ReflTransGen (fun x y => adj x y = true ∧ x ∈ A ++ B ∧ y ∈ A ++ B) a x) ∧
      (x = v → Relation.ReflTransGen (fun x y => adj x y = true ∧ x ∈ A ++ B ∧ y ∈ A ++ B) a u) := by
    intro x hx
    induction hx with
    | refl =>
      exact ⟨fun _ => Relation.ReflTransGen.refl, fun e => absurd (e ▸ haS') hvn⟩
    | @tail x y _ hstep ih =>
      obtain ⟨hxy, hxS, hyS⟩ := hstep
      constructor
      · intro hyv
        have hyS' : y ∈ A ++ B := by
          rcases mem_append_cons.1 hyS with e | e
          · exact absurd e hyv
          · exact e
        by_cases hxv : x = v
        · have : y = u := (pr_leaf_nbr ha hv huS huv hyS).1 (by rw [ha.symm, ← hxv]; exact hxy)
          rw [this]; exact ih.2 hxv
        · have hxS' : x ∈ A ++ B := by
            rcases mem_append_cons.1 hxS with e | e
            · exact absurd e hxv
            · exact e
          exact Relation.ReflTransGen.tail (ih.1 hxv) ⟨hxy, hxS', hyS'⟩
      · intro hyv
        subst hyv
        have hxv : x ≠ y := by
          intro e; subst e; rw [ha.irrefl] at hxy; cases hxy
        have : x = u := (pr_leaf_nbr ha hv huS huv hxS).1 hxy
        rw [← this]; exact ih.1 hxv
  exact (key b (hc a (mem_append_cons.2 (Or.inr haS')) b (mem_append_cons.2 (Or.inr hbS')))).1
    (fun e => hvn (e ▸ hbS'))

theorem pr_sum_drop {adj : Nat → Nat → Bool} (ha : pr_Adj adj) {A B : List Nat} {v : Nat}
    (hv : pr_deg adj (A ++ v :: B) v = 1) :
    ((A ++ v :: B).map (pr_deg adj (A ++ v :: B))).sum = ((A ++ B).map (pr_deg adj (A ++ B))).sum + 2 := by
  have e1 : ((A ++ v :: B).map (pr_deg adj (A ++ v :: B))).sum =
      ((A ++ B).map (pr_deg adj (A ++ v :: B))).sum + 1 := by
    simp only [List.map_append, List.map_cons, List.sum_append, List.sum_cons, hv]; omega
  have e2 : (A ++ B).map (pr_deg adj (A ++ v :: B)) =
      (A ++ B).map (fun w => pr_deg adj (A ++ B) w + if adj w v then 1 else 0) :=
    List.map_congr_left (fun w _ => pr_deg_split adj A B v w)
  have e3 : (A ++ B).countP (fun w => adj w v) = 1 := by
    have h1 := pr_deg_split adj A B v v
    rw [hv, ha.irrefl] at h1
    have h2 : (A ++ B).countP (fun w => adj w v) = pr_deg adj (A ++ B) v := by
      unfold pr_deg
      apply List.countP_congr
      intro w _
      rw [ha.symm]
    rw [h2]; simpa using h1.symm
  rw [e1, e2, sum_map_add, sum_ite, e3]

theorem pr_run_of_tree {adj : Nat → Nat → Bool} (ha : pr_Adj adj) :
    ∀ (k : Nat) (S : List Nat), S.length = k + 2 → S.Pairwise (· < ·) → pr_RelTree adj S → ∃ q, pr_Run adj S q := by
  intro k
  induction k with
  | zero =>
    intro S hl hs ht
    obtain ⟨a, b, rfl⟩ := List.length_eq_two.1 hl
    have hab : a < b := sorted_pair_lt hs
    refine ⟨[], pr_Run.base a b hab ?_⟩
    rcases (ht.1 a (by simp) b (by simp)).cases_head with e | ⟨c, ⟨h1, _, h2⟩, _⟩
    · omega
    · simp only [List.mem_cons, List.not_mem_nil, or_false] at h2
      rcases h2 with rfl | rfl
      · rw [ha.irrefl] at h1; cases h1
      · exact h1
  | succ k ih =>
    intro S hl hs ht
    have hnd := hs.imp Nat.ne_of_lt
    have hpos : ∀ w ∈ S, 0 < pr_deg adj S w := fun w hw => pr_deg_pos hnd (by omega) ht.1 hw
    cases hf : S.find? (fun w => pr_deg adj S w == 1) with
    | none =>
      rw [List.find?_eq_none] at hf
      have := two_mul_length_le_sum (L := S) (f := pr_deg adj S) (by
        intro x hx
        have h1 := hf x hx
        have h2 := hpos x hx
        simp only [beq_iff_eq] at h1
        omega)
      have := ht.2
      omega
    | some v =>
      obtain ⟨hv, A, B, rfl, hA⟩ := List.find?_eq_some_iff_append.1 hf
      have hv1 : pr_deg adj (A ++ v :: B) v = 1 := by simpa using hv
      have hA1 : ∀ a ∈ A, pr_deg adj (A ++ v :: B) a ≠ 1 := by intro a haA; simpa using hA a haA
      have hvS : v ∈ A ++ v :: B := mem_append_cons.2 (Or.inl rfl)
      have hB : B ≠ [] := by
        rintro rfl
        have h1 := two_mul_length_le_sum (L := A) (f := pr_deg adj (A ++ [v])) (by
          intro x hx
          have h1 := hA1 x hx
          have h2 := hpos x (List.mem_append_left _ hx)
          omega)
        have h2 := ht.2
        simp only [List.map_append, List.map_cons, List.map_nil, List.sum_append, List.sum_cons, List.sum_nil,
          hv1, List.length_append, List.length_cons, List.length_nil] at h2
        omega
      obtain ⟨u, huS, hvu⟩ := List.countP_pos_iff.1 (hpos v hvS)
      have huv : adj u v = true := by rw [ha.symm]; exact hvu
      have hu : u ∈ A ++ B := by
        rcases mem_append_cons.1 huS with e | e
        · subst e; rw [ha.irrefl] at huv; cases huv
        · exact e
      have ht' : pr_RelTree adj (A ++ B) := by
        refine ⟨pr_conn_drop ha hs hv1 hu huv ht.1, ?_⟩
        have h1 := pr_sum_drop ha hv1
        have h2 := ht.2
        simp only [List.length_append, List.length_cons] at h2 ⊢
        omega
      obtain ⟨q, hq⟩ := ih (A ++ B) (by simp only [List.length_append, List.length_cons] at hl ⊢; omega)
        (sorted_drop_mid hs) ht'
      exact ⟨u :: q, pr_Run.step A B v u q hs hA1 hv1 hB hu huv hq⟩

theorem pr_relTree_of_isTree {g : G} (h : IsTree g) : pr_RelTree g.adj (List.range g.n) := by
  obtain ⟨hwf, hm, hc⟩ := h
  refine ⟨?_, ?_⟩
  · intro a ha b hb
    refine Relation.ReflTransGen.mono ?_ _ _ (hc a b (List.mem_range.1 ha) (List.mem_range.1 hb))
    intro x y hxy
    have := hwf.supp x y hxy
    exact ⟨hxy, List.mem_range.2 this.1, List.mem_range.2 this.2⟩
  · have e : (List.range g.n).map g.deg = (List.range g.n).map (pr_deg g.adj (List.range g.n)) :=
      List.map_congr_left (fun v _ => pr_deg_eq g v)
    rw [← e, GraphRep.sum_deg hwf, List.length_range]
    omega

theorem pr_run_of_isTree {g : G} (h : IsTree g) (hn : 2 ≤ g.n) : ∃ q, pr_Run g.adj (List.range g.n) q :=
  pr_run_of_tree (pr_Adj_of_wf h.1) (g.n - 2) (List.range g.n) (by rw [List.length_range]; omega)
    List.pairwise_lt_range (pr_relTree_of_isTree h)

theorem pr_encode_runs (g : GI) (hs : g.Sound) (ht : IsTree g.toG) (hn : 2 ≤ g.n) :
    ∃ p, pruferEncode g = .ok p ∧ pr_Run g.isEdge (List.range g.n) p := by
  obtain ⟨q, hq⟩ := pr_run_of_isTree ht hn
  have hq' : pr_Run g.isEdge (List.range g.n) q := hq
  refine ⟨q, ?_, hq'⟩
  apply pr_encode_run g hn (pr_Adj_of_wf hs.wf) _ hq'
  intro v hv
  rw [hs.deg_eq v hv]
  exact pr_deg_eq g.toG v

theorem prufer_encode_ok (g : GI) (hs : g.Sound) (ht : IsTree g.toG) (hn : 2 ≤ g.n) :
    ∃ p, pruferEncode g = .ok p ∧ p.length = g.n - 2 ∧ ∀ x ∈ p, x < g.n := by
  obtain ⟨p, h1, h2⟩ := pr_encode_runs g hs ht hn
  refine ⟨p, h1, ?_, fun x hx => List.mem_range.1 (h2.sub x hx)⟩
  have := h2.length
  rw [List.length_range] at this
  omega

theorem prufer_encode_decode (g : GI) (hs : g.Sound) (ht : IsTree g.toG) (hn : 2 ≤ g.n) :
    ∃ p d, pruferEncode g = .ok p ∧ pruferDecode p = .ok d ∧ d.n = g.n ∧ ∀ u v, d.toG.adj u v = g.isEdge u v := by
  obtain ⟨p, h1, h2⟩ := pr_encode_runs g hs ht hn
  have hl : p.length + 2 = g.n := by
    have := h2.length
    rw [List.length_range] at this
    omega
  obtain ⟨d, h3, _, h5, h6⟩ := pr_decode_spec p (fun x hx => by rw [hl]; exact List.mem_range.1 (h2.sub x hx))
  refine ⟨p, d, h1, h3, h5.trans hl, ?_⟩
  rw [hl] at h6
  have hspec := h2.spec (pr_Adj_of_wf hs.wf)
  have hG := Dense.toG_wf d
  have hdn : d.toG.n = g.n := h5.trans hl
  refine adj_ext_upper hG hs.wf hdn fun i j hij hj => ?_
  have hj' : j < g.n := hdn ▸ hj
  rw [Bool.eq_iff_iff, h6]
  exact (hspec i (List.mem_range.2 (Nat.lt_trans hij hj')) j (List.mem_range.2 hj')).symm

-- test (sanity check of the model only; the theorems above are general)
example : pruferDecode [3, 3, 3] =
    .ok { n := 5, m := 4, deg := #[1, 1, 1, 4, 1], edges := #[0, 0, 0, 1, 1, 1, 0, 0, 0, 1] } := by decide

end Codec
