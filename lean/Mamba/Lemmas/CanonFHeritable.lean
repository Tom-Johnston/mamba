import Mamba.Lemmas.CanonFCov
/-!
# Properties of subtrees that the pruning arguments of the search can carry

The search never looks below a child it prunes; what it knows about that child's subtree comes from elsewhere: from all
the children of a node (pop), from a sibling that an automorphism maps to it (Heuristic 2: orbit mate; Heuristic 1: the
automorphism read off two equal leaves). `Heritable T Adm` is what a property `T` of tree nodes needs for these three
arguments. `Complete best` (every leaf below is `≤ best`; every automorphism is admissible) and `ACov lF certF R` (the
leaves below with certificate `certF` are `R`-images of the first leaf; admissible: moves every vertex inside its
`R`-class, `CanonFOrbTree.lean`) are the two instances.
-/
namespace CanonF
open Relation

structure Heritable (n : Nat) (nb : Nbrs) (rf : Nat) (T : IR.St → Prop) (Adm : List Nat → Prop) : Prop where
  of_children : ∀ {ν : IR.St} {t : Nat}, IR.target (irG n nb) ν = some t →
    (∀ w, w ∈ IR.cellMembers (irG n nb) ν.c t → T (IR.childSt (irG n nb) rf ν t w)) → T ν
  transfer : ∀ {ν : IR.St} {γ : List Nat} {t a : Nat}, IsAutL nb n γ →
    (∀ v, v < n → IR.col ν.c (γ.getD v 0) = IR.col ν.c v) → Adm γ → a < n →
    (T (IR.childSt (irG n nb) rf ν t a) ↔ T (IR.childSt (irG n nb) rf ν t (γ.getD a 0)))

section
variable {n m : Nat} {nb : Nbrs} {rf : Nat}

theorem complete_heritable (hnb : NbOK nb n) (best : List Nat) :
    Heritable n nb rf (Complete n nb rf best) (fun _ => True) where
  of_children := fun ht h x hx => by
    obtain ⟨w, hwm, hcb⟩ := (IR.certBelow_of_target_some ht).1 hx
    exact h w hwm x hcb
  transfer := fun haut hcol _ ha =>
    ⟨fun h x hx => h x ((certBelow_child_autL_iff hnb rf haut hcol ha _ x).1 hx),
     fun h x hx => h x ((certBelow_child_autL_iff hnb rf haut hcol ha _ x).2 hx)⟩

variable {T : IR.St → Prop} {Adm : List Nat → Prop}

theorem Heritable.eqvGen (hT : Heritable n nb rf T Adm) {ν : IR.St} {S : List Nat → Prop}
    (hS : ∀ γ, S γ → IsAutL nb n γ ∧ (∀ v, v < n → IR.col ν.c (γ.getD v 0) = IR.col ν.c v) ∧ Adm γ)
    {t a b : Nat} (ha : a < n) (h : EqvGen (fun x y => ∃ γ, S γ ∧ γ[x]? = some y) a b) :
    b < n ∧ IR.col ν.c b = IR.col ν.c a ∧
      (T (IR.childSt (irG n nb) rf ν t a) ↔ T (IR.childSt (irG n nb) rf ν t b)) :=
  eqvGen_le (fun γ hγ => (hS γ hγ).1.1)
    (R := fun a b => IR.col ν.c b = IR.col ν.c a ∧
      (T (IR.childSt (irG n nb) rf ν t a) ↔ T (IR.childSt (irG n nb) rf ν t b)))
    (fun _ _ => ⟨rfl, Iff.rfl⟩) (fun _ _ _ _ h => ⟨h.1.symm, h.2.symm⟩)
    (fun _ _ _ _ _ _ h h' => ⟨h'.1.trans h.1, h.2.trans h'.2⟩)
    (fun γ hγ a ha => ⟨(hS γ hγ).2.1 a ha, hT.transfer (hS γ hγ).1 (hS γ hγ).2.1 (hS γ hγ).2.2 ha⟩) ha h

/-- Pop. Every member of the target cell of `ν` leads to a `T`-node or is deferred (`D`: the frame is on the first-leaf
path) to the root of its class of `firstLeafOrbits`, a member of the same cell; the recorded generators, which generate
the classes, are admissible and preserve the colouring of `ν`. -/
theorem Heritable.of_deferred (hT : Heritable n nb rf T Adm) {s : LS} {ν : IR.St} {t : Nat} {D : Prop}
    (hg : GInv n m nb s) (ht : IR.target (irG n nb) ν = some t)
    (hcov : ∀ w, w ∈ IR.cellMembers (irG n nb) ν.c t →
      T (IR.childSt (irG n nb) rf ν t w) ∨ (D ∧ ∃ x : Int, s.flOrbits[w]? = some x ∧ x ≥ 0))
    (hgen : D → 0 < s.count ∧ ∀ k, k < s.ngens → ∀ γ, s.gens[k]? = some γ →
      (∀ u, u < n → IR.col ν.c (γ.toList.getD u 0) = IR.col ν.c u) ∧ Adm γ.toList) : T ν := by
  refine hT.of_children ht fun w hwm => ?_
  rcases hcov w hwm with h | ⟨hd, y, hy, hy0⟩
  · exact h
  · obtain ⟨hcnt, hgens⟩ := hgen hd
    obtain ⟨hinv, horb⟩ := hg.orb hcnt
    have hsz := hg.orbSz.1
    obtain ⟨hwn, hwc⟩ := IR.mem_cellMembers.1 hwm
    have hwn' : w < n := hwn
    obtain ⟨hρ, y', hy', hneg⟩ := rep_is_root hinv (v := w) (by rw [hsz]; exact hwn')
    rw [hsz] at hρ
    have hself := rep_self_of_root hy' hneg
    have hS : ∀ γ, (∃ k g, k < s.ngens ∧ s.gens[k]? = some g ∧ g.toList = γ) →
        IsAutL nb n γ ∧ (∀ v, v < n → IR.col ν.c (γ.getD v 0) = IR.col ν.c v) ∧ Adm γ := by
      rintro γ ⟨k, g, hk, hgk, rfl⟩
      obtain ⟨g', hg', haut⟩ := hg.gens k hk
      rw [hgk] at hg'
      cases hg'
      exact ⟨haut, hgens k hk g hgk⟩
    have h' : EqvGen (fun x y => ∃ γ, (∃ k g, k < s.ngens ∧ s.gens[k]? = some g ∧ g.toList = γ) ∧ γ[x]? = some y)
        w (Disjoint.rep s.flOrbits w) := by
      apply eqvGen_of_imp _ (horb w _ hwn' hρ hself.symm)
      rintro x y ⟨k, g, hk, hgk, e⟩
      exact EqvGen.rel _ _ ⟨g.toList, ⟨k, g, hk, hgk, rfl⟩, e⟩
    obtain ⟨_, hcol, hiff⟩ := hT.eqvGen hS (t := t) hwn' h'
    -- the root is a member of the cell and not deferred itself
    rcases hcov _ (IR.mem_cellMembers.2 ⟨hρ, by rw [hcol]; exact hwc⟩) with h | ⟨_, z, hz, hz0⟩
    · exact hiff.2 h
    · rw [hy'] at hz
      cases hz
      omega

end

theorem pos_in_bin {st k sz q : Nat} (hq : st + k < q) (hk : k < sz) (h : ¬ (st + k < st + sz ∧ st + sz ≤ q)) :
    ∃ d, q = st + d ∧ k < d ∧ d < sz := by
  obtain ⟨e, rfl⟩ := Nat.exists_eq_add_of_lt hq
  exact ⟨k + e + 1, by omega, by omega, by omega⟩

section
variable {n : Nat} {nb : Nbrs} {rf : Nat} {r : IR.St}

/-- Heuristic 2 on the best-leaf path skips the member `ce` at index `k` of the top frame's cell: a member `w'` at a later
index `d` lies in the class of `ce` in `bestOrbits`; hence the skipped child has `T`, because the mate has: it is
processed and the frame is off the first-leaf path; `S` generates the classes of `bestOrbits` -/
theorem Heritable.skipB {T : IR.St → Prop} {Adm : List Nat → Prop} (hT : Heritable n nb rf T Adm)
    (st sz : Nat) (ls : List (Nat × Nat)) (s : LS) (c : Nat) (cs : List Nat) (p : Nat) (ps : List Nat) (ce : Nat)
    (bo : Disjoint.DS) (k : Nat) (hc : Core n s) (ht : TopOK s.op (k + 1) s.path s.choices ((st, sz) :: ls))
    (hch : s.choices = c :: cs) (hpth : s.path = p :: ps)
    (hget : s.op.order.get (c - 1) = .ok ce) (hnf : onFirstB s ps = false)
    (hh : h2Best s.op s.bestOrbits (c - 1) ce = .ok (true, bo))
    {vs : List Nat} (hw : WalkNv n nb rf r vs ((st, sz) :: ls) s)
    (hcov : ∀ i w, c - st ≤ i → (cellL n nb rf r vs ps.length st)[i]? = some w →
      T (IR.childSt (irG n nb) rf (nodeL n nb rf r vs ps.length) st w) ∨
        (onFirstB s ps = true ∧ ∃ x : Int, s.flOrbits[w]? = some x ∧ x ≥ 0))
    (S : List Nat → Prop)
    (hS : ∀ γ, S γ → IsAutL nb n γ ∧ (∀ u, u < n →
      IR.col (nodeL n nb rf r vs vs.length).c (γ.getD u 0) = IR.col (nodeL n nb rf r vs vs.length).c u) ∧ Adm γ)
    (hds : Disjoint.Inv s.bestOrbits) (hdsz : s.bestOrbits.size = n)
    (horb : ∀ a b, a < n → b < n → Disjoint.rep s.bestOrbits a = Disjoint.rep s.bestOrbits b →
      EqvGen (fun x y => ∃ γ, S γ ∧ γ[x]? = some y) a b) :
    T (IR.childSt (irG n nb) rf (nodeL n nb rf r vs vs.length) st ce) := by
  have F := walkN_top_frame hc ht hch hpth hw
  have hvl := F.len
  obtain ⟨-, -, -, hsp⟩ := h2Best_spec hc.part hds hdsz hh
  obtain ⟨q, w', hq, hord, hrep, hnodiv⟩ := hsp rfl
  obtain ⟨d, rfl, hkd, hd⟩ := pos_in_bin (F.pos ▸ hq) F.lt (F.pos ▸ hnodiv (st + sz) (List.mem_of_getElem? F.cell.divider))
  have hw'n := perm_range_lt hc.part.perm hord
  rcases hcov d w' (by rw [F.idx]; exact hkd) (by rw [← hvl]; exact (F.order d hd).symm.trans hord) with h | ⟨hof, _⟩
  · rw [hvl]
    exact (hT.eqvGen (fun γ hγ => hvl ▸ hS γ hγ) hw'n
      (horb w' ce hw'n (hc.part.lt_of_order_get hget).2 hrep)).2.2.1 h
  · rw [hnf] at hof; cases hof

end
end CanonF
