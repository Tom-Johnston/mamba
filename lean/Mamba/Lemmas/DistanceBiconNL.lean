import Mamba.Lemmas.DistanceBiconArticulation
/-!
# Blocks of the `BiconnectedComponents` model described through the DFS tree and the lowpoints (`NL`, `IsBlk`)

`NL` stands for "no leader": a leader (`Ldr` in `DistanceBiconStatic`) is a non-root vertex that closes a block, the block
being its parent together with what hangs below it with no further leader in between. `NL` below `x` reads only
lowpoints of finished vertices (`NL_congr`), so the moves of the DFS do not change it.
-/
namespace GDist
open GraphSpec Model

variable {h : G} {st : BicSt} {tp : Nat → Nat}

/-- `y` lies in the subtree of `x` and no vertex strictly below `x` on the tree path to `y` closes a block -/
def NL (st : BicSt) (tp : Nat → Nat) (x y : Nat) : Prop :=
  Anc tp x y ∧ ∀ z, Anc tp x z → Anc tp z y → z ≠ x → lo st z < dI st (tp z)

theorem NL.refl (dt : DT h st tp) {x : Nat} (hx : x < h.n) (hv : bvis st x) : NL st tp x x :=
  ⟨Anc.refl _ _, fun _ h1 h2 hne => absurd (dt.anc_antisymm hx hv h2 h1) hne⟩

theorem NL.pre {x y w : Nat} (hn : NL st tp x y) (h1 : Anc tp x w) (h2 : Anc tp w y) : NL st tp x w :=
  ⟨h1, fun z hz1 hz2 hne => hn.2 z hz1 (hz2.trans h2) hne⟩

theorem NL_child_iff (dt : DT h st tp) {v y : Nat} (hy : y < h.n) (hyv : bvis st y) :
    NL st tp v y ↔ y = v ∨ ∃ c, tp c = v ∧ c ≠ v ∧ lo st c < dI st v ∧ NL st tp c y := by
  constructor
  · intro hn
    by_cases hyv' : y = v
    · exact .inl hyv'
    · right
      obtain ⟨c, hc1, hc2, hc3⟩ := anc_child hn.1 hyv'
      refine ⟨c, hc1, hc2, ?_, hc3, ?_⟩
      · have := hn.2 c (anc_of_parent hc1) hc3 hc2
        rwa [hc1] at this
      · intro z hz1 hz2 hzc
        refine hn.2 z ((anc_of_parent hc1).trans hz1) hz2 ?_
        intro hzv
        subst hzv
        obtain ⟨hcn, hcv⟩ := dt.anc_vis hy hyv hc3
        exact hc2 (dt.anc_antisymm hcn hcv (anc_of_parent hc1) hz1).symm
  · rintro (rfl | ⟨c, hc1, hc2, hc3, hc4⟩)
    · exact NL.refl dt hy hyv
    · refine ⟨(anc_of_parent hc1).trans hc4.1, ?_⟩
      intro z hz1 hz2 hzv
      obtain ⟨hcn, hcv⟩ := dt.anc_vis hy hyv hc4.1
      obtain ⟨hzn, hzvis⟩ := dt.anc_vis hy hyv hz2
      rcases anc_linear hc4.1 hz2 with hcz | hzc
      · by_cases hzc' : z = c
        · subst hzc'; rw [hc1]; exact hc3
        · exact hc4.2 z hcz hz2 hzc'
      · by_cases hzc' : z = c
        · subst hzc'; rw [hc1]; exact hc3
        · exfalso
          have l1 := dt.anc_lt hcn hcv hzc hzc'
          have l2 := dt.anc_lt hzn hzvis hz1 (Ne.symm hzv)
          have hc0 : c ≠ 0 := by
            intro h0; subst h0
            have : v = 0 := by rw [← hc1, dt.tp0]
            exact hc2 this.symm
          have := (dt.tree c hcn hcv hc0).2.2.2
          rw [hc1] at this
          omega

theorem NL_congr {s : BicSt} {tp' : Nat → Nat} (dt : DT h st tp)
    (hA : ∀ a z, z < h.n → bvis st z → (Anc tp' a z ↔ Anc tp a z))
    (hL : ∀ z, z < h.n → bvis st z → z ∉ st.toCheck → z ≠ 0 → lo s z = lo st z ∧ dI s (tp' z) = dI st (tp z))
    {x y : Nat} (hxs : ∀ z, Anc tp x z → z ≠ x → z ∉ st.toCheck) (hy : y < h.n) (hyv : bvis st y) :
    NL s tp' x y ↔ NL st tp x y := by
  have key : ∀ z, Anc tp x z → Anc tp z y → z ≠ x → (lo s z < dI s (tp' z) ↔ lo st z < dI st (tp z)) := by
    intro z hz1 hz2 hne
    obtain ⟨hzn, hzv⟩ := dt.anc_vis hy hyv hz2
    have hz0 : z ≠ 0 := by
      intro h0; subst h0
      obtain ⟨k, hk⟩ := hz1
      rw [Function.iterate_fixed dt.tp0] at hk
      exact hne hk
    obtain ⟨e1, e2⟩ := hL z hzn hzv (hxs z hz1 hne) hz0
    rw [e1, e2]
  constructor
  · rintro ⟨h1, h2⟩
    refine ⟨(hA x y hy hyv).1 h1, fun z hz1 hz2 hne => ?_⟩
    obtain ⟨hzn, hzv⟩ := dt.anc_vis hy hyv hz2
    exact (key z hz1 hz2 hne).1 (h2 z ((hA x z hzn hzv).2 hz1) ((hA z y hy hyv).2 hz2) hne)
  · rintro ⟨h1, h2⟩
    refine ⟨(hA x y hy hyv).2 h1, fun z hz1 hz2 hne => ?_⟩
    have hz2' := (hA z y hy hyv).1 hz2
    obtain ⟨hzn, hzv⟩ := dt.anc_vis hy hyv hz2'
    have hz1' := (hA x z hzn hzv).1 hz1
    exact (key z hz1' hz2' hne).2 (h2 z hz1' hz2' hne)

/-- `c` is a finished non-root vertex and `S` is the increasing list of the global labels of
`{tp c} ∪ {y | NL c y}` -/
def IsBlk (h : G) (com : List Nat) (st : BicSt) (tp : Nat → Nat) (S : List Nat) (c : Nat) : Prop :=
  (c < h.n ∧ bvis st c ∧ c ∉ st.toCheck ∧ c ≠ 0) ∧ S.Pairwise (· < ·) ∧
    ∀ w, w ∈ S ↔ ∃ y, y < h.n ∧ bvis st y ∧ com.getD y 0 = w ∧ (y = tp c ∨ NL st tp c y)

end GDist
