import Mamba.Model.Search
import Mamba.Lemmas.SearchInv
/-! The iterator between calls of `Next` (properties C03, C04): the cached automorphism data is never live across a
`Next` boundary, the invariant `Inv` of reachable states, `Next` by cases, `load ∘ save`, and what `Next` yields (a graph
on exactly `n` vertices with consistent array sizes). -/
namespace Search

def State.core (s : State) : State := { s with cache := none }

def eraseCache : Outcome (State × Bool) → Outcome (State × Bool)
  | .ok (s, b) => .ok (s.core, b)
  | .panic => .panic
  | .outOfFuel => .outOfFuel

/-- the modes of `run` in which the entry cache is dead: everything except the head of the outer loop with
`cont = false` (which is where `addAugmentations` may use what `isCanonical` has just computed) -/
def Mode.cacheDead : Mode → Bool
  | .outer cont _ => cont
  | .step _ => true
  | .inner _ _ => true

theorem core_eq_iff {s1 s2 : State} : s1.core = s2.core ↔
    s1.n = s2.n ∧ s1.a = s2.a ∧ s1.m = s2.m ∧ s1.first = s2.first ∧ s1.g = s2.g ∧ s1.choices = s2.choices ∧
      s1.currentPath = s2.currentPath := by
  cases s1; cases s2; simp [State.core]

theorem run_cache_dead (O : Oracle) (pre pr : DG → Bool) :
    ∀ (fuel : Nat) (mode : Mode) (s : State) (c : Option Ans), mode.cacheDead = true →
      eraseCache (run O pre pr fuel mode { s with cache := c }) = eraseCache (run O pre pr fuel mode s)
  | 0, _, _, _, _ => rfl
  | f + 1, .outer cont sf, s, c, h => by
    simp only [Mode.cacheDead] at h
    subst h
    exact run_cache_dead O pre pr f (.step sf) s c rfl
  | f + 1, .step sf, s, c, _ => by
    rw [run_step, run_step]
    by_cases h0 : s.choices.size = 0
    · simp only [h0, if_true]; rfl
    · simp only [h0, if_false]
      cases s.currentPath.back? with
      | none => rfl
      | some cp => exact run_cache_dead O pre pr f (.inner sf cp) s c rfl
  | f + 1, .inner sf 0, s, c, _ => by
    rw [run_inner_zero, run_inner_zero]
    cases sf with
    | false =>
      -- removeClear overwrites the cache
      simp only [Bool.not_false, if_true, removeClear]
    | true =>
      simp only [Bool.not_true, Bool.false_eq_true, if_false]
      by_cases h0 : s.currentPath.size = 0
      · simp only [h0, if_true]
      · simp only [h0, if_false]
        exact run_cache_dead O pre pr f (.step false) { s with currentPath := s.currentPath.pop } c rfl
  | f + 1, .inner sf (i + 1), s, c, _ => by
    rw [run_inner_succ, run_inner_succ]
    cases s.choices.back? with
    | none => rfl
    | some x =>
      simp only
      by_cases hm : s.m = 0
      · simp only [hm, if_true]
      · simp only [hm, if_false]
        by_cases hsplit : (i % s.m != s.a && ((s.currentPath.size : Nat) : Int) == splitLevel s.n) = true
        · simp only [hsplit, if_true]
          exact run_cache_dead O pre pr f (.inner sf i) { s with choices := s.choices.pop } c rfl
        · have hs : (i % s.m != s.a && ((s.currentPath.size : Nat) : Int) == splitLevel s.n) = false := by
            simpa using hsplit
          simp only [hs, Bool.false_eq_true, if_false]
          cases sf with
          | false => simp only [Bool.not_false, if_true, removeClear]
          | true => simp only [Bool.not_true, Bool.false_eq_true, if_false]

/-- what holds of the iterator between calls of `Next`: the arrays of the current graph have the sizes its vertex count
asks for (`sized`), it has at most `n` vertices (`le`), and before the first call the cache is empty and the graph is the
start graph on at most one vertex (`fresh`) -/
structure Inv (s : State) : Prop where
  sized : s.g.Sized
  le : s.g.nv ≤ s.n
  fresh : s.first = true → s.cache = none ∧ s.g.nv ≤ 1

theorem init_inv (n a m : Nat) : Inv (init n a m) :=
  ⟨⟨by simp [init, DG.empty], by simp [init, DG.empty, tri]⟩, Nat.zero_le _, fun _ => ⟨rfl, Nat.zero_le _⟩⟩

theorem core_inv {s : State} (h : Inv s) : Inv s.core :=
  ⟨h.sized, h.le, fun hf => ⟨rfl, (h.fresh hf).2⟩⟩

theorem tri_le_one {k : Nat} (h : k ≤ 1) : tri k = 0 := by
  cases k with
  | zero => rfl
  | succ k => cases k with
    | zero => rfl
    | succ k => omega

theorem single_sized {g : DG} (hs : g.Sized) (h1 : g.nv ≤ 1) : g.single.Sized ∧ g.single.nv = 1 := by
  refine ⟨⟨by simp [DG.single], ?_⟩, rfl⟩
  have := hs.edges
  rw [tri_le_one h1] at this
  simp only [DG.single, this]
  rfl

theorem next_zero (O : Oracle) (pre pr : DG → Bool) (fuel : Nat) {s : State} (h0 : s.n = 0) :
    next O pre pr fuel s =
      if s.first && s.a == 0 && !pre s.g && !pr s.g then .ok ({ s with first := false }, true) else .ok (s, false) := by
  unfold next
  rw [if_pos h0]

theorem next_one (O : Oracle) (pre pr : DG → Bool) (fuel : Nat) {s : State} (h1 : s.n = 1) :
    next O pre pr fuel s =
      if s.first && s.a == 0 && !pre s.g.single && !pr s.g.single then
        .ok ({ s with g := s.g.single, first := false }, true)
      else .ok ({ s with g := s.g.single }, false) := by
  unfold next
  rw [if_neg (by omega), if_pos h1]

theorem next_first (O : Oracle) (pre pr : DG → Bool) (fuel : Nat) {s : State} (h2 : 2 ≤ s.n) (hf : s.first = true) :
    next O pre pr fuel s =
      if pre s.g.single || pr s.g.single then .ok ({ s with g := s.g.single, first := false }, false)
      else run O pre pr fuel (.outer false false) { s with g := s.g.single, first := false } := by
  unfold next
  rw [if_neg (by omega), if_neg (by omega), if_pos hf]

theorem next_later (O : Oracle) (pre pr : DG → Bool) (fuel : Nat) {s : State} (h2 : 2 ≤ s.n) (hf : s.first = false) :
    next O pre pr fuel s = run O pre pr fuel (.outer true false) s := by
  unfold next
  rw [if_neg (by omega), if_neg (by omega), if_neg (by rw [hf]; exact Bool.false_ne_true)]

theorem next_params {O : Oracle} {pre pr : DG → Bool} {fuel : Nat} {s s' : State} {b : Bool}
    (h : next O pre pr fuel s = .ok (s', b)) :
    s'.n = s.n ∧ s'.a = s.a ∧ s'.m = s.m ∧ (s'.first = true → s.first = true) := by
  have hrun : ∀ {mode s1}, run O pre pr fuel mode s1 = .ok (s', b) → s'.n = s1.n ∧ s'.a = s1.a ∧ s'.m = s1.m ∧
      (s'.first = true → s1.first = true) := fun hr =>
    have := run_sameParams hr
    ⟨this.1, this.2.1, this.2.2.1, fun h => this.2.2.2 ▸ h⟩
  by_cases h0 : s.n = 0
  · rw [next_zero O pre pr fuel h0] at h
    split at h <;> cases h
    · exact ⟨rfl, rfl, rfl, fun h => Bool.noConfusion h⟩
    · exact ⟨rfl, rfl, rfl, id⟩
  by_cases h1 : s.n = 1
  · rw [next_one O pre pr fuel h1] at h
    split at h <;> cases h
    · exact ⟨rfl, rfl, rfl, fun h => Bool.noConfusion h⟩
    · exact ⟨rfl, rfl, rfl, id⟩
  by_cases hf : s.first = true
  · rw [next_first O pre pr fuel (by omega) hf] at h
    split at h
    · cases h; exact ⟨rfl, rfl, rfl, fun h => Bool.noConfusion h⟩
    · have := hrun h
      exact ⟨this.1, this.2.1, this.2.2.1, fun h => Bool.noConfusion (this.2.2.2 h)⟩
  · rw [next_later O pre pr fuel (by omega) (eq_false_of_ne_true hf)] at h
    exact hrun h

theorem next_inv (O : Oracle) (pre pr : DG → Bool) (fuel : Nat) {s s' : State} {b : Bool}
    (h : next O pre pr fuel s = .ok (s', b)) (hi : Inv s) : Inv s' := by
  have hfirst := (next_params h).2.2.2
  have hrun : ∀ {mode s1}, run O pre pr fuel mode s1 = .ok (s', b) → ModeInv mode s1 → s.first = false → Inv s' :=
    fun hr hm hf =>
      have hz := run_sized hr hm
      ⟨hz.1, hz.2, fun hf' => Bool.noConfusion ((hfirst hf').symm.trans hf)⟩
  by_cases h0 : s.n = 0
  · rw [next_zero O pre pr fuel h0] at h
    split at h <;> cases h
    · exact ⟨hi.sized, hi.le, fun hf => Bool.noConfusion hf⟩
    · exact hi
  by_cases h1 : s.n = 1
  · rw [next_one O pre pr fuel h1] at h
    have hs := single_sized hi.sized (h1 ▸ hi.le)
    split at h <;> cases h
    · exact ⟨hs.1, by simp [hs.2, h1], fun hf => Bool.noConfusion hf⟩
    · exact ⟨hs.1, by simp [hs.2, h1], fun hf => ⟨(hi.fresh hf).1, by simp [hs.2]⟩⟩
  by_cases hf : s.first = true
  · rw [next_first O pre pr fuel (by omega) hf] at h
    have hs := single_sized hi.sized (hi.fresh hf).2
    have hle : s.g.single.nv ≤ s.n := by rw [hs.2]; omega
    split at h
    · cases h; exact ⟨hs.1, hle, fun hf' => Bool.noConfusion hf'⟩
    · have hz := run_sized h ⟨hs.1, hle, fun hh => Bool.noConfusion hh⟩
      exact ⟨hz.1, hz.2, fun hf' => Bool.noConfusion ((run_sameParams h).2.2.2.symm.trans hf')⟩
  · exact hrun (next_later O pre pr fuel (by omega) (eq_false_of_ne_true hf) ▸ h)
      ⟨hi.sized, hi.le, fun hh => Bool.noConfusion hh⟩ (eq_false_of_ne_true hf)

theorem copyInto_eq {α : Type} (dst src : Array α) (h : dst.size = src.size) : copyInto dst src = src := by
  apply Array.ext
  · simp [copyInto, h]
  · intro i h1 h2
    simp [copyInto, h2]

theorem load_save_core {s : State} (hi : Inv s) : load (save s) = .ok s.core := by
  unfold load save
  have h1 : ¬ s.g.nv > s.n := Nat.not_lt.2 hi.le
  have h2 : ¬ s.g.edges.size > tri s.n := by
    rw [hi.sized.edges]; exact Nat.not_lt.2 (tri_mono hi.le)
  simp only [h1, h2, if_false, init, State.core]
  rw [copyInto_eq _ _ (by simp [hi.sized.degs]), copyInto_eq _ _ (by simp)]

/-- two iterators that differ at most in the cached automorphism data (`core`), and not even there before the first
call of `Next` (`first`) -/
structure Similar (s t : State) : Prop where
  core : s.core = t.core
  first : s.first = true → s.cache = t.cache

theorem State.eq_with_cache (s t : State) (h : s.core = t.core) : s = { t with cache := s.cache } := by
  cases s; cases t
  simp only [State.core, State.mk.injEq] at h
  simp [h]

/-- **`Next` does not depend on the cached automorphism data** (no hypothesis on the oracle is needed: between two
calls of `Next` the cache is overwritten before it is read, except in the very first call, where it is empty) -/
theorem next_similar (O : Oracle) (pre pr : DG → Bool) (fuel : Nat) {s t : State} (h : Similar s t) :
    eraseCache (next O pre pr fuel s) = eraseCache (next O pre pr fuel t) := by
  by_cases hf : s.first = true
  · rw [State.eq_with_cache s t h.core, h.first hf]
  · have hf' : s.first = false := by simpa using hf
    have ht : t.first = false := by
      have := (core_eq_iff.1 h.core).2.2.2.1; rw [← this]; exact hf'
    rw [State.eq_with_cache s t h.core]
    generalize s.cache = c
    obtain ⟨n, a, m, first, g, ch, cp, tc⟩ := t
    simp only at ht
    subst ht
    unfold next
    simp only [Bool.false_and, Bool.false_eq_true, if_false]
    split
    · rfl
    · split
      · rfl
      · exact run_cache_dead O pre pr fuel (.outer true false) ⟨n, a, m, false, g, ch, cp, tc⟩ c rfl

theorem eraseCache_ok {r : Outcome (State × Bool)} {s : State} {b : Bool} (h : eraseCache r = .ok (s, b)) :
    ∃ s0, r = .ok (s0, b) ∧ s0.core = s := by
  cases r with
  | ok p => obtain ⟨s0, b0⟩ := p; simp only [eraseCache, Outcome.ok.injEq, Prod.mk.injEq] at h; exact ⟨s0, by rw [h.2], h.1⟩
  | panic => cases h
  | outOfFuel => cases h

theorem next_similar_ok (O : Oracle) (pre pr : DG → Bool) (fuel : Nat) {s t s' : State} {b : Bool}
    (h : Similar s t) (hs : Inv s) (ht : Inv t) (hn : next O pre pr fuel s = .ok (s', b)) :
    ∃ t', next O pre pr fuel t = .ok (t', b) ∧ Similar s' t' := by
  have := next_similar O pre pr fuel h
  rw [hn] at this
  obtain ⟨t', ht', hc⟩ := eraseCache_ok this.symm
  refine ⟨t', ht', ⟨hc.symm, fun hf => ?_⟩⟩
  have h1 := (next_inv O pre pr fuel hn hs).fresh hf
  have hf2 : t'.first = true := by
    have := (core_eq_iff.1 hc).2.2.2.1; rw [this]; exact hf
  have h2 := (next_inv O pre pr fuel ht' ht).fresh hf2
  rw [h1.1, h2.1]

theorem next_similar_fail (O : Oracle) (pre pr : DG → Bool) (fuel : Nat) {s t : State} (h : Similar s t) :
    (next O pre pr fuel s = .panic → next O pre pr fuel t = .panic) ∧
    (next O pre pr fuel s = .outOfFuel → next O pre pr fuel t = .outOfFuel) := by
  have := next_similar O pre pr fuel h
  constructor <;> intro hn <;> rw [hn] at this <;> cases ht : next O pre pr fuel t <;>
    simp [ht, eraseCache] at this ⊢

theorem Similar.g_eq {s t : State} (h : Similar s t) : s.g = t.g := (core_eq_iff.1 h.core).2.2.2.2.1

def eraseOut : Outcome (List DG × State) → Outcome (List DG × State)
  | .ok (l, s) => .ok (l, s.core)
  | .panic => .panic
  | .outOfFuel => .outOfFuel

theorem advance_similar (O : Oracle) (pre pr : DG → Bool) (fuel : Nat) :
    ∀ (k : Nat) (s t : State), Similar s t → Inv s → Inv t →
      eraseOut (advance O pre pr fuel k s) = eraseOut (advance O pre pr fuel k t)
  | 0, s, t, h, _, _ => by simp [advance, eraseOut, h.core]
  | k + 1, s, t, h, hs, ht => by
    simp only [advance]
    cases hn : next O pre pr fuel s with
    | ok p =>
      obtain ⟨s1, b⟩ := p
      obtain ⟨t1, ht1, hsim⟩ := next_similar_ok O pre pr fuel h hs ht hn
      rw [ht1]
      simp only
      have ih := advance_similar O pre pr fuel k s1 t1 hsim (next_inv O pre pr fuel hn hs)
        (next_inv O pre pr fuel ht1 ht)
      rw [hsim.g_eq]
      cases ha : advance O pre pr fuel k s1 <;> cases hb : advance O pre pr fuel k t1 <;>
        simp only [ha, hb, eraseOut] at ih ⊢ <;> try cases ih
      all_goals (try rfl)
      rename_i p q
      obtain ⟨l1, u1⟩ := p
      obtain ⟨l2, u2⟩ := q
      simp only [Outcome.ok.injEq, Prod.mk.injEq] at ih
      simp [ih.1, ih.2]
    | panic => rw [(next_similar_fail O pre pr fuel h).1 hn]
    | outOfFuel => rw [(next_similar_fail O pre pr fuel h).2 hn]

theorem exhaust_similar (O : Oracle) (pre pr : DG → Bool) (fuel : Nat) :
    ∀ (lim : Nat) (s t : State), Similar s t → Inv s → Inv t →
      eraseOut (exhaust O pre pr fuel lim s) = eraseOut (exhaust O pre pr fuel lim t)
  | 0, _, _, _, _, _ => rfl
  | k + 1, s, t, h, hs, ht => by
    simp only [exhaust]
    cases hn : next O pre pr fuel s with
    | ok p =>
      obtain ⟨s1, b⟩ := p
      obtain ⟨t1, ht1, hsim⟩ := next_similar_ok O pre pr fuel h hs ht hn
      rw [ht1]
      cases b with
      | false => simp [eraseOut, hsim.core]
      | true =>
        simp only
        have ih := exhaust_similar O pre pr fuel k s1 t1 hsim (next_inv O pre pr fuel hn hs)
          (next_inv O pre pr fuel ht1 ht)
        rw [hsim.g_eq]
        cases ha : exhaust O pre pr fuel k s1 <;> cases hb : exhaust O pre pr fuel k t1 <;>
          simp only [ha, hb, eraseOut] at ih ⊢ <;> try cases ih
        all_goals (try rfl)
        rename_i p q
        obtain ⟨l1, u1⟩ := p
        obtain ⟨l2, u2⟩ := q
        simp only [Outcome.ok.injEq, Prod.mk.injEq] at ih
        simp [ih.1, ih.2]
    | panic => rw [(next_similar_fail O pre pr fuel h).1 hn]
    | outOfFuel => rw [(next_similar_fail O pre pr fuel h).2 hn]

theorem similar_core {s : State} (hi : Inv s) : Similar s.core s :=
  ⟨by cases s; rfl, fun hf => by
    have : s.first = true := by cases s; exact hf
    rw [(hi.fresh this).1]; cases s; rfl⟩

theorem advance_inv (O : Oracle) (pre pr : DG → Bool) (fuel : Nat) :
    ∀ (k : Nat) (s s' : State) (out : List DG), advance O pre pr fuel k s = .ok (out, s') → Inv s → Inv s'
  | 0, s, s', out, h, hi => by simp only [advance] at h; cases h; exact hi
  | k + 1, s, s', out, h, hi => by
    simp only [advance] at h
    split at h
    · rename_i s1 b hn
      split at h
      · rename_i out' s2 ha
        cases h
        exact advance_inv O pre pr fuel k s1 _ _ ha (next_inv O pre pr fuel hn hi)
      · cases h
      · cases h
    · cases h
    · cases h

theorem eraseOut_ok {r : Outcome (List DG × State)} {l : List DG} {s : State} (h : eraseOut r = .ok (l, s)) :
    ∃ s0, r = .ok (l, s0) ∧ s0.core = s := by
  cases r with
  | ok p =>
    obtain ⟨l0, s0⟩ := p
    simp only [eraseOut, Outcome.ok.injEq, Prod.mk.injEq] at h
    exact ⟨s0, by rw [h.1], h.2⟩
  | panic => cases h
  | outOfFuel => cases h

theorem eraseOut_fail {r r' : Outcome (List DG × State)} (h : eraseOut r = eraseOut r') :
    (r = .panic → r' = .panic) ∧ (r = .outOfFuel → r' = .outOfFuel) := by
  constructor <;> intro hr <;> subst hr <;> cases r' <;> simp [eraseOut] at h ⊢

theorem save_core (s : State) : save s.core = save s := rfl

theorem chain_similar (O : Oracle) (pre pr : DG → Bool) (fuel lim : Nat) (ks : List Nat) {s t : State}
    (h : Similar s t) (hs : Inv s) (ht : Inv t) :
    chain O pre pr fuel lim ks s = chain O pre pr fuel lim ks t := by
  cases ks with
  | nil =>
    simp only [chain]
    have := exhaust_similar O pre pr fuel lim s t h hs ht
    cases ha : exhaust O pre pr fuel lim s with
    | ok p =>
      obtain ⟨l, s1⟩ := p
      rw [ha] at this
      obtain ⟨t1, ht1, _⟩ := eraseOut_ok this.symm
      rw [ht1]
    | panic => rw [(eraseOut_fail this).1 ha]
    | outOfFuel => rw [(eraseOut_fail this).2 ha]
  | cons k ks =>
    simp only [chain]
    have := advance_similar O pre pr fuel k s t h hs ht
    cases ha : advance O pre pr fuel k s with
    | ok p =>
      obtain ⟨l, s1⟩ := p
      rw [ha] at this
      obtain ⟨t1, ht1, hc⟩ := eraseOut_ok this.symm
      rw [ht1]
      simp only
      have e1 := load_save_core (advance_inv O pre pr fuel k s s1 l ha hs)
      have e2 := load_save_core (advance_inv O pre pr fuel k t t1 l ht1 ht)
      rw [e1, e2, hc]
    | panic => rw [(eraseOut_fail this).1 ha]
    | outOfFuel => rw [(eraseOut_fail this).2 ha]

theorem chain_walk (O : Oracle) (pre pr : DG → Bool) (fuel lim : Nat) :
    ∀ (ks : List Nat) (s : State), Inv s → chain O pre pr fuel lim ks s = walk O pre pr fuel lim ks s
  | [], _, _ => rfl
  | k :: ks, s, hs => by
    simp only [chain, walk]
    cases ha : advance O pre pr fuel k s with
    | ok p =>
      obtain ⟨l, s1⟩ := p
      simp only
      have hi := advance_inv O pre pr fuel k s s1 l ha hs
      rw [load_save_core hi]
      simp only
      rw [chain_similar O pre pr fuel lim ks (similar_core hi) (core_inv hi) hi, chain_walk O pre pr fuel lim ks s1 hi]
    | panic => rfl
    | outOfFuel => rfl

/-- states reachable from `WithPruning` by any interleaving of `Next` and `Load ∘ Save` -/
inductive Reachable (O : Oracle) (pre pr : DG → Bool) : State → Prop
  | init (n a m : Nat) : Reachable O pre pr (init n a m)
  | next {s s' : State} {b : Bool} (fuel : Nat) : Reachable O pre pr s → next O pre pr fuel s = .ok (s', b) →
      Reachable O pre pr s'
  | load {s s' : State} : Reachable O pre pr s → load (save s) = .ok s' → Reachable O pre pr s'

theorem Reachable.inv {O : Oracle} {pre pr : DG → Bool} {s : State} (h : Reachable O pre pr s) : Inv s := by
  induction h with
  | init n a m => exact init_inv n a m
  | next fuel _ hn ih => exact next_inv O pre pr fuel hn ih
  | load _ hl ih =>
    rw [load_save_core ih] at hl
    cases hl
    exact core_inv ih

theorem run_true_nv {O : Oracle} {pre pr : DG → Bool} {f : Nat} {mode : Mode} {s s' : State}
    (h : run O pre pr f mode s = .ok (s', true)) : s'.g.nv = s'.n :=
  run_rec (I := fun _ _ => True) (C := fun _ _ r => r.2 = true → r.1.g.nv = r.1.n)
    (fun hr _ => by
      cases hr with
      | yield hn => exact fun _ => hn
      | done => exact fun h => Bool.noConfusion h)
    (fun _ _ _ => ⟨trivial, id⟩) f mode s _ h trivial rfl

theorem next_true_nv (O : Oracle) (pre pr : DG → Bool) (fuel : Nat) {s s' : State}
    (h : next O pre pr fuel s = .ok (s', true)) (hi : Inv s) : s'.g.nv = s'.n := by
  by_cases h0 : s.n = 0
  · rw [next_zero O pre pr fuel h0] at h
    split at h <;> cases h
    have := hi.le; simp only at *; omega
  by_cases h1 : s.n = 1
  · rw [next_one O pre pr fuel h1] at h
    split at h <;> cases h
    exact h1.symm
  by_cases hf : s.first = true
  · rw [next_first O pre pr fuel (by omega) hf] at h
    split at h
    · cases h
    · exact run_true_nv h
  · exact run_true_nv (next_later O pre pr fuel (by omega) (eq_false_of_ne_true hf) ▸ h)

theorem exhaust_outputs (O : Oracle) (pre pr : DG → Bool) (fuel : Nat) :
    ∀ (lim : Nat) (s s' : State) (out : List DG), exhaust O pre pr fuel lim s = .ok (out, s') → Inv s →
      ∀ g ∈ out, g.nv = s.n ∧ g.Sized
  | 0, _, _, _, h, _ => by simp [exhaust] at h
  | k + 1, s, s', out, h, hi => by
    simp only [exhaust] at h
    split at h
    · rename_i s1 hn
      split at h
      · rename_i out' s2 he
        cases h
        have hi1 := next_inv O pre pr fuel hn hi
        have hp : s1.n = s.n := (next_params hn).1
        intro g hg
        rcases List.mem_cons.1 hg with rfl | hg
        · exact ⟨(next_true_nv O pre pr fuel hn hi).trans hp, hi1.sized⟩
        · have := exhaust_outputs O pre pr fuel k s1 _ _ he hi1 g hg
          exact ⟨this.1.trans hp, this.2⟩
      · cases h
      · cases h
    · rename_i s1 hn; cases h; intro g hg; cases hg
    · cases h
    · cases h

end Search
