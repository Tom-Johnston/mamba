import Mamba.Lemmas.IntSortHeap
import Mamba.Lemmas.IntSortPivot
/-! Lemmas for C17 (`ints.Sort`): `quickSort` sorts, given the partition contract of `doPivot`; `Sort` sorts and permutes
for every admissible configuration (`sort_full`). -/
namespace IntSort

section
variable {cf : Cfg} (h : cf.Admissible)
include h
theorem Cfg.Admissible.qsSmall : 2 ≤ cf.qsSmall := h.1
theorem Cfg.Admissible.qsMin : cf.qsMin ≤ 1 := h.2.1
theorem Cfg.Admissible.shellGap : 0 ≤ cf.shellGapIdx ∧ cf.shellGapIdx ≤ cf.shellGap := h.2.2.1
theorem Cfg.Admissible.pivotShift : cf.pivotShift = 1 := h.2.2.2.1
theorem Cfg.Admissible.nintherDiv : 3 ≤ cf.nintherDiv := h.2.2.2.2.1
theorem Cfg.Admissible.nintherMul_nonneg : 0 ≤ cf.nintherMul ∧ 0 ≤ cf.nintherMul2 := h.2.2.2.2.2.1
theorem Cfg.Admissible.nintherMul_lt : cf.nintherMul < cf.nintherDiv ∧ cf.nintherMul2 < cf.nintherDiv := h.2.2.2.2.2.2.1
theorem Cfg.Admissible.dupsDiv : cf.dupsDiv < 0 ∨ 3 ≤ cf.dupsDiv := h.2.2.2.2.2.2.2.1
theorem Cfg.Admissible.heapOK : cf.HeapOK :=
  ⟨h.2.2.2.2.2.2.2.2.1, h.2.2.2.2.2.2.2.2.2.1, h.2.2.2.2.2.2.2.2.2.2.1⟩
theorem Cfg.Admissible.buildOK : cf.BuildOK := h.2.2.2.2.2.2.2.2.2.2.2.1
theorem Cfg.Admissible.mdShift : 1 ≤ cf.mdShift := h.2.2.2.2.2.2.2.2.2.2.2.2
end

theorem shellPass_spec (cf : Cfg) (hg : 0 ≤ cf.shellGapIdx ∧ cf.shellGapIdx ≤ cf.shellGap) (a : Int) (d : Data) (b i : Int) :
    0 ≤ a → a + cf.shellGap ≤ i → b ≤ d.size →
    ∃ d', shellPass cf d b i = .ok d' ∧ RP a b d d' := by
  fun_induction shellPass cf d b i
  all_goals intro h0 hi hb
  case case1 d i hib d1 hsw ih =>
    obtain ⟨d1', hr, hrp, _⟩ := swapIfLt_spec d i (i-cf.shellGapIdx) a b ⟨by omega, hib⟩ ⟨by omega, by omega⟩ h0 hb
    rw [hr] at hsw; cases hsw
    obtain ⟨d', hr', hrp'⟩ := ih h0 (by omega) (by rw [hrp.1]; exact hb)
    exact ⟨d', hr', hrp.trans hrp'⟩
  case case2 d i hib hsw =>
    obtain ⟨d1', hr, hrp, _⟩ := swapIfLt_spec d i (i-cf.shellGapIdx) a b ⟨by omega, hib⟩ ⟨by omega, by omega⟩ h0 hb
    rw [hr] at hsw; cases hsw
  case case3 d i hib hsw =>
    obtain ⟨d1', hr, hrp, _⟩ := swapIfLt_spec d i (i-cf.shellGapIdx) a b ⟨by omega, hib⟩ ⟨by omega, by omega⟩ h0 hb
    rw [hr] at hsw; cases hsw
  case case4 d i hib => exact ⟨d, rfl, RP.refl _ _ _⟩

theorem sorted_glue {a b mlo mhi : Int} {d1 d' : Data}
    (c1 : ∀ p q, a ≤ p → p < mlo → mlo ≤ q → q < b → vi d1 p ≤ vi d1 q)
    (c2 : ∀ p q, mlo ≤ p → p < mhi → mlo ≤ q → q < mhi → vi d1 p = vi d1 q)
    (c3 : ∀ p q, mlo ≤ p → p < mhi → mhi ≤ q → q < b → vi d1 p ≤ vi d1 q)
    (fromL : ∀ k, a ≤ k → k < mlo → ∃ k', a ≤ k' ∧ k' < mlo ∧ vi d' k = vi d1 k')
    (sameM : ∀ k, mlo ≤ k → k < mhi → vi d' k = vi d1 k)
    (fromR : ∀ k, mhi ≤ k → k < b → ∃ k', mhi ≤ k' ∧ k' < b ∧ vi d' k = vi d1 k')
    (hb2 : mlo ≤ mhi)
    (sL : SortedOn a mlo d') (sR : SortedOn mhi b d') : SortedOn a b d' := by
  intro p q hp hpq hq
  by_cases hp1 : p < mlo
  · by_cases hq1 : q < mlo
    · exact sL p q hp hpq hq1
    · obtain ⟨p', hp'1, hp'2, hpe⟩ := fromL p hp hp1
      rw [hpe]
      by_cases hq2 : q < mhi
      · rw [sameM q (by omega) hq2]; exact c1 p' q hp'1 hp'2 (by omega) (by omega)
      · obtain ⟨q', hq'1, hq'2, hqe⟩ := fromR q (by omega) hq
        rw [hqe]; exact c1 p' q' hp'1 hp'2 (by omega) hq'2
  · by_cases hp2 : p < mhi
    · rw [sameM p (by omega) hp2]
      by_cases hq2 : q < mhi
      · rw [sameM q (by omega) hq2]; exact Int.le_of_eq (c2 p q (by omega) hp2 (by omega) hq2)
      · obtain ⟨q', hq'1, hq'2, hqe⟩ := fromR q (by omega) hq
        rw [hqe]; exact c3 p q' (by omega) hp2 hq'1 hq'2
    · exact sR p q (by omega) hpq hq

theorem SortedOn.congr {a b : Int} {d d' : Data} (h : SortedOn a b d) (he : ∀ k, a ≤ k → k < b → vi d' k = vi d k) :
    SortedOn a b d' := by
  intro p q hp hpq hq
  rw [he p hp (by omega), he q (by omega) hq]; exact h p q hp hpq hq

theorem RP.disjoint {a1 b1 a2 b2 : Int} {d1 d2 d3 : Data} (h1 : RP a1 b1 d1 d2) (h2 : RP a2 b2 d2 d3)
    (hd : b1 ≤ a2 ∨ b2 ≤ a1) :
    (∀ k, a1 ≤ k → k < b1 → ∃ k', a1 ≤ k' ∧ k' < b1 ∧ vi d3 k = vi d1 k') ∧
    (∀ k, a2 ≤ k → k < b2 → ∃ k', a2 ≤ k' ∧ k' < b2 ∧ vi d3 k = vi d1 k') ∧
    (∀ k, (k < a1 ∨ b1 ≤ k) → (k < a2 ∨ b2 ≤ k) → vi d3 k = vi d1 k) := by
  refine ⟨fun k hk1 hk2 => ?_, fun k hk1 hk2 => ?_, fun k hk1 hk2 => (h2.2.1 k hk2).trans (h1.2.1 k hk1)⟩
  · obtain ⟨k', g1, g2, e⟩ := h1.2.2 k hk1 hk2
    exact ⟨k', g1, g2, (h2.2.1 k (by omega)).trans e⟩
  · obtain ⟨k', g1, g2, e⟩ := h2.2.2 k hk1 hk2
    exact ⟨k', g1, g2, e.trans (h1.2.1 k' (by omega))⟩

theorem quickSort_spec (cf : Cfg) (hk : cf.HeapOK) (hbo : cf.BuildOK) (hmin : cf.qsMin ≤ 1)
    (hg : 0 ≤ cf.shellGapIdx ∧ cf.shellGapIdx ≤ cf.shellGap)
    (hpiv : ∀ (d : Data) (lo hi : Int), 0 ≤ lo → hi - lo > cf.qsSmall → hi ≤ d.size → PivotOK cf d lo hi) :
    ∀ (f : Nat) (d : Data) (a b : Int) (md : Nat), 0 ≤ a → a ≤ b → b ≤ d.size → md < f →
      ∃ d', quickSort cf f d a b md = .ok d' ∧ RP a b d d' ∧ SortedOn a b d' := by
  intro f
  induction f with
  | zero => intro d a b md _ _ _ h; omega
  | succ f ih =>
    intro d a b md h0 hab hb hmd
    unfold quickSort
    by_cases hbig : b - a > cf.qsSmall
    · rw [if_pos hbig]
      cases md with
      | zero => exact heapSort_spec cf hk hbo d a b h0 hab hb
      | succ md =>
        simp only
        obtain ⟨d1, mlo, mhi, hr1, hrp1, b1, b2, b3, c1, c2, c3⟩ := hpiv d a b h0 hbig hb
        rw [hr1]
        simp only
        have B : 0 ≤ mhi ∧ mlo ≤ d1.size ∧ b ≤ d1.size ∧ md < f ∧ a ≤ mhi ∧ mlo ≤ b := by
          have := hrp1.1; omega
        obtain ⟨g1, g2, g3, g4, g5, g6⟩ := B
        by_cases hbr : mlo - a < b - mhi
        · rw [if_pos hbr]
          obtain ⟨d2, hr2, hrp2, hso2⟩ := ih d1 a mlo md h0 b1 g2 g4
          obtain ⟨d3, hr3, hrp3, hso3⟩ := ih d2 mhi b md g1 b3 (hrp2.1 ▸ g3) g4
          obtain ⟨fromL, fromR, same⟩ := hrp2.disjoint hrp3 (Or.inl b2)
          simp only [hr2, hr3]
          exact ⟨d3, rfl, (hrp1.trans (hrp2.mono (Int.le_refl _) g6)).trans (hrp3.mono g5 (Int.le_refl _)),
            sorted_glue c1 c2 c3 fromL (fun k k1 k2 => same k (Or.inr k1) (Or.inl k2)) fromR b2
              (hso2.congr fun k _ k2 => hrp3.2.1 k (Or.inl (Int.lt_of_lt_of_le k2 b2))) hso3⟩
        · rw [if_neg hbr]
          obtain ⟨d2, hr2, hrp2, hso2⟩ := ih d1 mhi b md g1 b3 g3 g4
          obtain ⟨d3, hr3, hrp3, hso3⟩ := ih d2 a mlo md h0 b1 (hrp2.1 ▸ g2) g4
          obtain ⟨fromR, fromL, same⟩ := hrp2.disjoint hrp3 (Or.inr b2)
          simp only [hr2, hr3]
          exact ⟨d3, rfl, (hrp1.trans (hrp2.mono g5 (Int.le_refl _))).trans (hrp3.mono (Int.le_refl _) g6),
            sorted_glue c1 c2 c3 fromL (fun k k1 k2 => same k (Or.inl k2) (Or.inr k1)) fromR b2 hso3
              (hso2.congr fun k k1 _ => hrp3.2.1 k (Or.inr (Int.le_trans b2 k1)))⟩
    · rw [if_neg hbig]
      by_cases h1 : b - a > cf.qsMin
      · rw [if_pos h1]
        obtain ⟨d1, hr1, hrp1⟩ := shellPass_spec cf hg a d b (a+cf.shellGap) h0 (Int.le_refl _) hb
        rw [hr1]
        simp only
        obtain ⟨d2, hr2, hrp2, hso2⟩ := insertionSort_spec d1 a b h0 (by rw [hrp1.1]; exact hb)
        exact ⟨d2, hr2, hrp1.trans hrp2, hso2⟩
      · rw [if_neg h1]
        exact ⟨d, rfl, RP.refl _ _ _, fun p q h2 h3 h4 => by omega⟩

theorem maxDepthLoop_total (cf : Cfg) (hs : 1 ≤ cf.mdShift) :
    ∀ (f i depth : Nat), i < f → ∃ r, maxDepthLoop cf f i depth = .ok r := by
  intro f
  induction f with
  | zero => intro i depth h; omega
  | succ f ih =>
    intro i depth h
    unfold maxDepthLoop
    by_cases hi : i > 0
    · rw [if_pos hi]
      apply ih
      rw [Nat.shiftRight_eq_div_pow]
      have h2 : 2 ≤ 2 ^ cf.mdShift := by
        calc 2 = 2 ^ 1 := rfl
          _ ≤ 2 ^ cf.mdShift := Nat.pow_le_pow_right (by omega) hs
      have : i / 2 ^ cf.mdShift ≤ i / 2 := Nat.div_le_div_left h2 (by omega)
      omega
    · rw [if_neg hi]; exact ⟨depth, rfl⟩

theorem maxDepth_total (cf : Cfg) (hs : 1 ≤ cf.mdShift) (n : Nat) : ∃ md, maxDepth cf n = .ok md := by
  unfold maxDepth
  obtain ⟨r, hr⟩ := maxDepthLoop_total cf hs (n + 1) n 0 (by omega)
  rw [hr]; exact ⟨_, rfl⟩

theorem vi_eq_getElem (d : Data) (k : Nat) (h : k < d.size) : vi d (k : Int) = d[k] := by
  unfold vi
  simp [h]

theorem sortedOn_iff_slice (d : Data) (a b : Nat) (hb : b ≤ d.size) :
    SortedOn a b d ↔ ((d.toList.drop a).take (b - a)).Pairwise (· ≤ ·) := by
  have hl : ((d.toList.drop a).take (b - a)).length = b - a := by
    rw [List.length_take, List.length_drop, Array.length_toList]; omega
  -- the `i`-th element of the slice is `data[a+i]`
  have hget : ∀ i (hi : i < ((d.toList.drop a).take (b - a)).length),
      ((d.toList.drop a).take (b - a))[i] = vi d ((a + i : Nat) : Int) := by
    intro i hi
    rw [vi_eq_getElem d (a + i) (by omega), List.getElem_take, List.getElem_drop, Array.getElem_toList]
  rw [List.pairwise_iff_getElem]
  constructor
  · intro h i j hi hj hij
    rw [hget, hget]
    exact h _ _ (by omega) (by omega) (by omega)
  · intro h p q hp hpq hq
    obtain ⟨P, rfl⟩ := Int.eq_ofNat_of_zero_le (Int.le_trans (Int.natCast_nonneg a) hp)
    obtain ⟨Q, rfl⟩ := Int.eq_ofNat_of_zero_le (Int.le_trans (Int.natCast_nonneg P) (Int.le_of_lt hpq))
    obtain ⟨i, rfl⟩ := Nat.exists_eq_add_of_le (Int.ofNat_le.mp hp)
    obtain ⟨j, rfl⟩ := Nat.exists_eq_add_of_le (Nat.le_trans (Nat.le_add_right a i) (Nat.le_of_lt (Int.ofNat_lt.mp hpq)))
    have hij : i < j ∧ j < b - a := by omega
    have hj : j < ((d.toList.drop a).take (b - a)).length := by rw [hl]; exact hij.2
    rw [← hget i (Nat.lt_trans hij.1 hj), ← hget j hj]
    exact h i j _ _ hij.1

theorem sortedOn_toList {d : Data} (h : SortedOn 0 d.size d) : d.toList.Pairwise (· ≤ ·) := by
  have := (sortedOn_iff_slice d 0 d.size (Nat.le_refl _)).mp h
  rwa [List.drop_zero, Nat.sub_zero, ← Array.length_toList, List.take_length] at this

theorem sort_full (cf : Cfg) (h : cf.Admissible) (d : Data) :
    ∃ d', sort cf d = .ok d' ∧ d'.toList.Pairwise (· ≤ ·) ∧ d'.toList.Perm d.toList := by
  unfold sort
  obtain ⟨md, hmd⟩ := maxDepth_total cf h.mdShift d.size
  rw [hmd]
  simp only
  obtain ⟨d', hr, hrp, hso⟩ := quickSort_spec cf h.heapOK h.buildOK h.qsMin h.shellGap
    (fun d lo hi h0 hbig hsz => doPivot_spec cf h.pivotShift h.nintherDiv h.nintherMul_nonneg h.nintherMul_lt h.dupsDiv
      d lo hi h0 (by have := h.qsSmall; omega) hsz)
    (md + 2) d 0 d.size md (Int.le_refl _) (by omega) (Int.le_refl _) (by omega)
  refine ⟨d', hr, ?_, ?_⟩
  · apply sortedOn_toList
    rw [hrp.1]; exact hso
  · exact Quotient.exact (quickSort_ms _ _ _ _ _ _ _ hr)

end IntSort
