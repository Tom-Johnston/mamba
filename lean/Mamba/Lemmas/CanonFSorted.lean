import Mamba.Lemmas.CanonFGens
import Mamba.Lemmas.CanonFInitBins
import Mamba.Lemmas.CanonFSortedSplit
import Mamba.Lemmas.CanonFDeageBins
import Mamba.Lemmas.CanonFSortedRefine
/-!
# `BinsSorted` is an invariant of the whole search; conjunction of two search invariants

`sortedOrdQ` shows what an invariant `Q` of `order` and the dividers needs to become an invariant of the search
(`OrdQ.ofSimple` of `CanonFGens.lean`): one lemma per operation on the partition.
* `expandValue`, the work list: `Q` reads nothing they write (frame).
* `deage`: a lemma about `MergedBins` (every bin of the result is a bin of the input or a sorted union of bins;
  `deage_mergedBins`, `CanonFDeageBins.lean`).
* `splitBin`: a lemma about `SplitRel` (`CanonFRefineCall.lean`): `splitBin_split` (`CanonFCertSplit.lean`) gives the split, what
  follows it is `expandValue` or nothing.
* the refinement: the same lemma about `SplitRel` (with `SplitX` for what the sort by counts does), run through the bins by
  `Carried.of_split` and `refineLoop_inv`.
* the initial partition: `initBin_classes` (bin `t` is the sorted class `t`; `CanonFInitBins.lean`).
The class invariant is the second instance (`clsOrdQ`, `CanonFClassQ.lean`). The certificate invariant also reads `value`
and `spl`, which `expandValue` writes, and has its own lemma per operation (`CanonFCert*.lean`).
-/
namespace CanonF

theorem BinsSorted.of_frame {op op' : OP} (h : BinsSorted op) (e1 : op'.order = op.order)
    (e2 : op'.binDividers = op.binDividers) : BinsSorted op' := by
  unfold BinsSorted; rw [e1, e2]; exact h

theorem sortedOrdQ (hst : StablePerm) (n : Nat) (nb : Nbrs) :
    OrdQ n nb BinsSorted BinsSorted BinsSorted (fun _ => True) (fun _ => True) := by
  apply OrdQ.ofSimple
  · exact fun _ _ e1 e2 _ h => h.of_frame e1 e2
  · exact fun _ _ hp ha hage h hd => deage_binsSorted hp ha hage h hd
  · exact fun _ _ _ _ _ _ hp ha hi hns h hs => splitBin_binsSorted hp ha hi hns h hs
  · exact fun _ _ _ _ _ _ _ _ hp ha hsc h hr => refine_binsSorted hst hp ha hsc h hr
  · exact fun _ _ => trivial
  · exact fun _ _ _ _ _ _ => trivial

theorem OrdQ.and {n : Nat} {nb : Nbrs} {QA QN QS QA' QN' QS' : OP → Prop} {PL R PL' R' : List Nat → Prop}
    (h : OrdQ n nb QA QN QS PL R) (h' : OrdQ n nb QA' QN' QS' PL' R') :
    OrdQ n nb (fun op => QA op ∧ QA' op) (fun op => QN op ∧ QN' op) (fun op => QS op ∧ QS' op) PL R where
  na := fun op x => ⟨h.na op x.1, h'.na op x.2⟩
  sa := fun op x => ⟨h.sa op x.1, h'.sa op x.2⟩
  frame := fun op op' e1 e2 e3 e4 e5 e6 x => ⟨h.frame op op' e1 e2 e3 e4 e5 e6 x.1, h'.frame op op' e1 e2 e3 e4 e5 e6 x.2⟩
  deage := fun op op' hp ha hage x hd => ⟨h.deage op op' hp ha hage x.1 hd, h'.deage op op' hp ha hage x.2 hd⟩
  split := fun cb fl op op' i w hp ha hi hns hf x hs =>
    ⟨fun hw => ⟨(h.split cb fl op op' i w hp ha hi hns hf x.1 hs).1 hw, (h'.split cb fl op op' i w hp ha hi hns hf x.2 hs).1 hw⟩,
     fun hw => ⟨(h.split cb fl op op' i w hp ha hi hns hf x.1 hs).2 hw, (h'.split cb fl op op' i w hp ha hi hns hf x.2 hs).2 hw⟩⟩
  refine := fun cb fl opts op op' sc sc' w hp ha hsc htl x hr =>
    ⟨fun hw => ⟨(h.refine cb fl opts op op' sc sc' w hp ha hsc htl x.1 hr).1 hw,
        (h'.refine cb fl opts op op' sc sc' w hp ha hsc htl x.2 hr).1 hw⟩,
     fun hw => ⟨(h.refine cb fl opts op op' sc sc' w hp ha hsc htl x.1 hr).2 hw,
        (h'.refine cb fl opts op op' sc sc' w hp ha hsc htl x.2 hr).2 hw⟩⟩
  leaf := fun op hp ha x hl => h.leaf op hp ha x.1 hl
  rel := h.rel

end CanonF
