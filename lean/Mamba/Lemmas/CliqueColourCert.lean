import Mamba.Lemmas.CliqueColourCol
import Mamba.Lemmas.GraphCount
/-! C09: tabulate, Go's IsProperColouring, edge-colouring checker, degeneracy certificate. -/
namespace CliqueColour
open GraphSpec

theorem tabulate_n (g : G) : (tabulate g).n = g.n := rfl

theorem tabulate_adj (g : G) (u v : Nat) :
    (tabulate g).adj u v = (decide (u < g.n) && decide (v < g.n) && g.adj u v) := by
  simp only [tabulate]
  by_cases hu : u < g.n <;> by_cases hv : v < g.n <;> simp only [hu, hv, decide_true, decide_false,
    Bool.true_and, Bool.false_and, Bool.and_false]
  have hlt : u * g.n + v < g.n * g.n := by
    calc u * g.n + v < u * g.n + g.n := by omega
      _ = (u + 1) * g.n := by rw [Nat.add_mul, Nat.one_mul]
      _ ≤ g.n * g.n := Nat.mul_le_mul_right _ hu
  have hpos : 0 < g.n := by omega
  simp only [Array.getD_eq_getD_getElem?, List.getElem?_toArray, List.getElem?_map,
    List.getElem?_range hlt, Option.map_some, Option.getD_some]
  have h1 : (u * g.n + v) / g.n = u := by
    rw [Nat.add_comm, Nat.add_mul_div_right _ _ hpos, Nat.div_eq_of_lt hv]; simp
  have h2 : (u * g.n + v) % g.n = v := by
    rw [Nat.add_comm, Nat.add_mul_mod_self_right, Nat.mod_eq_of_lt hv]
  rw [h1, h2]

theorem tabulate_adj_wf {g : G} (hw : g.WF) (u v : Nat) : (tabulate g).adj u v = g.adj u v := by
  rw [tabulate_adj]
  cases h : g.adj u v
  · simp
  · have := hw.supp u v h
    simp [this.1, this.2]

theorem tabulate_wf {g : G} (hw : g.WF) : (tabulate g).WF where
  symm := fun u v => by rw [tabulate_adj_wf hw, tabulate_adj_wf hw, hw.symm]
  irrefl := fun v => by rw [tabulate_adj_wf hw, hw.irrefl]
  supp := fun u v h => by rw [tabulate_adj_wf hw] at h; exact hw.supp u v h

theorem takeWhile_le_eq_filter (i : Nat) : ∀ (l : List Nat), l.Pairwise (· < ·) →
    l.takeWhile (· ≤ i) = l.filter (· ≤ i) := by
  intro l
  induction l with
  | nil => intro _; rfl
  | cons a t ih =>
    intro hp
    have hp' := List.pairwise_cons.1 hp
    by_cases ha : a ≤ i
    · simp [ha, ih hp'.2]
    · have : t.filter (· ≤ i) = [] := by
        rw [List.filter_eq_nil_iff]
        intro x hx
        have := hp'.1 x hx
        simp; omega
      simp [ha, this]

def ProperInt (g : G) (c : List Int) : Prop :=
  c.length = g.n ∧ (∀ i, i < g.n → 0 ≤ c.getD i 0) ∧
    ∀ u v, u < g.n → v < g.n → g.adj u v = true → c.getD u 0 ≠ c.getD v 0

theorem isProperColouringGo_iff {g : G} (hw : g.WF) (col : Option (List Int)) :
    isProperColouringGo g col = true ↔ ∃ c, col = some c ∧ ProperInt g c := by
  cases col with
  | none => simp [isProperColouringGo]
  | some c =>
    simp only [isProperColouringGo, Option.some.injEq, exists_eq_left', ProperInt]
    by_cases hl : c.length = g.n
    · simp only [hl, bne_self_eq_false, Bool.false_eq_true, if_false, List.all_eq_true, List.mem_range,
        Bool.and_eq_true, decide_eq_true_eq, true_and, bne_iff_ne]
      constructor
      · intro h
        refine ⟨fun i hi => (h i hi).1, fun u v hu hv ha => ?_⟩
        rcases Nat.lt_trichotomy u v with hlt | heq | hgt
        · have := (h v hv).2 u (by
            rw [takeWhile_le_eq_filter _ _ (GraphRep.nbrs_pairwise g v)]
            exact List.mem_filter.2 ⟨G.mem_nbrs.2 ⟨hu, by rw [hw.symm]; exact ha⟩, by simp; omega⟩)
          exact this
        · subst heq; rw [hw.irrefl] at ha; cases ha
        · have := (h u hu).2 v (by
            rw [takeWhile_le_eq_filter _ _ (GraphRep.nbrs_pairwise g u)]
            exact List.mem_filter.2 ⟨G.mem_nbrs.2 ⟨hv, ha⟩, by simp; omega⟩)
          exact fun e => this e.symm
      · rintro ⟨h0, hp⟩ i hi
        refine ⟨h0 i hi, fun v hv => ?_⟩
        rw [takeWhile_le_eq_filter _ _ (GraphRep.nbrs_pairwise g i)] at hv
        have := G.mem_nbrs.1 (List.mem_filter.1 hv).1
        exact fun e => hp i v hi this.1 this.2 e.symm
    · rw [if_pos (bne_iff_ne.2 hl)]
      exact ⟨fun h => absurd h Bool.false_ne_true, fun h => absurd h.1 hl⟩

theorem eidx_comm (u v : Nat) : eidx u v = eidx v u := by
  unfold eidx
  rcases Nat.lt_trichotomy u v with h | h | h
  · rw [if_pos h, if_neg (by omega)]
  · subst h; rfl
  · rw [if_neg (by omega), if_pos h]

/-- the colour (0-based) the byte array gives to the pair `{u, v}` -/
def edgeCol (b : List Nat) (u v : Nat) : Nat := b.getD (eidx u v) 0 - 1

theorem isProperEdgeColouring_sound' {g : G} (hw : g.WF) {b : List Nat} {k : Nat}
    (h : isProperEdgeColouring g b k = true) :
    ProperEdge g k (edgeCol b) ∧ b.length = g.n * (g.n - 1) / 2 ∧
      ∀ u v, u < g.n → v < g.n → u ≠ v → g.adj u v = false → b.getD (eidx u v) 0 = 0 := by
  simp only [isProperEdgeColouring, Bool.and_eq_true, beq_iff_eq, List.all_eq_true, List.mem_range] at h
  obtain ⟨⟨hl, hr⟩, hp⟩ := h
  have hrange : ∀ u v, u < g.n → v < g.n → g.adj u v = true →
      1 ≤ b.getD (eidx u v) 0 ∧ b.getD (eidx u v) 0 ≤ k := by
    intro u v hu hv ha
    rcases Nat.lt_trichotomy u v with hlt | heq | hgt
    · have := hr v hv u hlt
      simp only [ha, if_true, Bool.and_eq_true, decide_eq_true_eq] at this
      exact this
    · subst heq; rw [hw.irrefl] at ha; cases ha
    · have := hr u hu v hgt
      rw [hw.symm] at ha
      simp only [ha, if_true, Bool.and_eq_true, decide_eq_true_eq] at this
      rw [eidx_comm]; exact this
  refine ⟨⟨fun u v => by simp [edgeCol, eidx_comm], fun u v hu hv ha => ?_, fun u v w hu hv hw' hne ha1 ha2 => ?_⟩,
    hl, fun u v hu hv hne ha => ?_⟩
  · have := hrange u v hu hv ha
    simp only [edgeCol]; omega
  · have h1 := hrange u v hu hv ha1
    have h2 := hrange u w hu hw' ha2
    have := hp u hu v hv w hw'
    simp only [ha1, ha2, Bool.and_true, Bool.or_eq_true, Bool.not_eq_true', bne_eq_false_iff_eq,
      bne_iff_ne] at this
    rcases this with h3 | h3
    · exact absurd h3 hne
    · simp only [edgeCol]; omega
  · rcases Nat.lt_trichotomy u v with hlt | heq | hgt
    · have := hr v hv u hlt
      simpa [ha] using this
    · exact absurd heq hne
    · have := hr u hu v hgt
      rw [hw.symm] at ha
      rw [eidx_comm]
      simpa [ha] using this

theorem degIn_le_of_subset {g : G} {S T : List Nat} {v : Nat} (hS : S.Nodup)
    (h : ∀ u ∈ S, g.adj v u = true → u ∈ T) : degIn g S v ≤ degIn g T v := by
  unfold degIn
  apply List.Subperm.length_le
  apply List.subperm_of_subset (hS.sublist List.filter_sublist)
  intro u hu
  have := List.mem_filter.1 hu
  exact List.mem_filter.2 ⟨h u this.1 this.2, this.2⟩

theorem degIn_perm {g : G} {S T : List Nat} (hp : S.Perm T) (v : Nat) : degIn g S v = degIn g T v := by
  unfold degIn
  exact (hp.filter _).length_eq

theorem backOK_bound {g : G} (hw : g.WF) {d : Nat} : ∀ (rev : List Nat), backOK g d rev = true →
    ∀ S : List Nat, S.Nodup → S ≠ [] → (∀ v ∈ S, v ∈ rev) → ∃ v ∈ S, degIn g S v ≤ d := by
  intro rev
  induction rev with
  | nil =>
    intro _ S _ hne hsub
    cases S with
    | nil => exact absurd rfl hne
    | cons a t => exact absurd (hsub a List.mem_cons_self) (by simp)
  | cons x earlier ih =>
    intro hb S hS hne hsub
    simp only [backOK, Bool.and_eq_true, decide_eq_true_eq] at hb
    by_cases hx : x ∈ S
    · refine ⟨x, hx, Nat.le_trans (degIn_le_of_subset hS fun u hu ha => ?_) hb.1⟩
      rcases List.mem_cons.1 (hsub u hu) with h | h
      · subst h; rw [hw.irrefl] at ha; cases ha
      · exact h
    · refine ih hb.2 S hS hne fun v hv => ?_
      rcases List.mem_cons.1 (hsub v hv) with h | h
      · subst h; exact absurd hv hx
      · exact h

theorem perm_range_of_nodup {n : Nat} {l : List Nat} (hl : l.length = n) (hn : l.Nodup) (hb : ∀ v ∈ l, v < n) :
    l.Perm (List.range n) := by
  have hsp : l.Subperm (List.range n) := List.subperm_of_subset hn fun v hv => List.mem_range.2 (hb v hv)
  exact hsp.perm_of_length_le (by simp [hl])

theorem degeneracyCert_isDegeneracy {g : G} (hw : g.WF) {d : Nat} {order : List Nat}
    (h : degeneracyCert g d order = true) : IsDegeneracy g d := by
  simp only [degeneracyCert, Bool.and_eq_true, beq_iff_eq, nodupB_iff, List.all_eq_true, decide_eq_true_eq,
    Bool.or_eq_true, List.any_eq_true, List.mem_range] at h
  obtain ⟨⟨⟨⟨hl, hn⟩, hb⟩, hback⟩, hlow⟩ := h
  have hperm := perm_range_of_nodup hl hn hb
  refine ⟨fun S hS hne => ?_, ?_⟩
  · refine backOK_bound hw _ hback S hS.1 hne fun v hv => ?_
    rw [List.mem_reverse]
    exact hperm.symm.subset (List.mem_range.2 (hS.2 v hv))
  · rcases hlow with h0 | ⟨j, hj, hP⟩
    · exact Or.inl h0
    · refine Or.inr ⟨order.take (j + 1), ⟨hn.sublist (List.take_sublist _ _), fun v hv => hb v (List.mem_of_mem_take hv)⟩,
        ?_, hP⟩
      intro he
      have : (order.take (j + 1)).length = 0 := by rw [he]; rfl
      rw [List.length_take] at this
      omega

theorem isDegeneracy_unique {g : G} {d d' : Nat} (h : IsDegeneracy g d) (h' : IsDegeneracy g d') : d = d' := by
  have key : ∀ {a b : Nat}, IsDegeneracy g a → IsDegeneracy g b → a ≤ b := by
    intro a b ha hb
    rcases ha.2 with h0 | ⟨S, hS, hne, hlow⟩
    · omega
    · obtain ⟨v, hv, hle⟩ := hb.1 S hS hne
      exact Nat.le_trans (hlow v hv) hle
  exact Nat.le_antisymm (key h h') (key h' h)

theorem degeneracySpec_isDegeneracy (g : G) : IsDegeneracy g (degeneracySpec g) := by
  refine ⟨fun S hS hne => ?_, ?_⟩
  · have hp := canon_perm hS.1 hS.2
    have hT : canon g.n S ∈ lexSubs (List.range g.n) := by
      refine mem_lexSubs.2 ⟨fun he => hne ?_, canon_sublist _ _⟩
      have := hp.length_eq
      rw [he] at this
      exact List.length_eq_zero_iff.1 this.symm
    have hne' : (canon g.n S).map (degIn g (canon g.n S)) ≠ [] := by
      intro he
      exact (mem_lexSubs.1 hT).1 (List.map_eq_nil_iff.1 he)
    obtain ⟨w, hw, hwe⟩ := List.mem_map.1 (minList_mem hne')
    refine ⟨w, hp.subset hw, ?_⟩
    rw [← degIn_perm hp w, hwe]
    exact le_maxList (List.mem_map.2 ⟨_, hT, rfl⟩)
  · by_cases hn : g.n = 0
    · left
      refine ⟨hn, ?_⟩
      simp [degeneracySpec, hn, lexSubs, maxList]
    · right
      have hne : (lexSubs (List.range g.n)).map (minDegIn g) ≠ [] := by
        intro he
        have h2 := List.map_eq_nil_iff.1 he
        have : [0] ∈ lexSubs (List.range g.n) :=
          mem_lexSubs.2 ⟨by simp, by simpa using (List.mem_range.2 (Nat.pos_of_ne_zero hn))⟩
        rw [h2] at this; cases this
      obtain ⟨T, hT, hTe⟩ := List.mem_map.1 (maxList_mem hne)
      have hsub := (mem_lexSubs.1 hT).2
      refine ⟨T, ⟨(List.nodup_range).sublist hsub, fun v hv => List.mem_range.1 (hsub.subset hv)⟩,
        (mem_lexSubs.1 hT).1, fun v hv => ?_⟩
      show degeneracySpec g ≤ _
      unfold degeneracySpec
      rw [← hTe]
      exact minList_le (List.mem_map.2 ⟨v, hv, rfl⟩)

end CliqueColour
