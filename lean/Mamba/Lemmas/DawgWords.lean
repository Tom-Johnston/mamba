import Mamba.Spec.DawgLang
import Mamba.Lemmas.ListSorted
/-! Lemmas about strictly increasing word lists, `sub`, and counting. -/
namespace Dawg

theorem mem_sub {L : List Word} {c : Nat} {t : Word} : t ∈ sub L c ↔ c :: t ∈ L := by
  unfold sub
  rw [List.mem_filterMap]
  constructor
  · rintro ⟨u, hu, hs⟩
    cases u with
    | nil => simp [stripC] at hs
    | cons a t' =>
      simp only [stripC] at hs
      split at hs
      · next h => cases hs; subst h; exact hu
      · cases hs
  · intro h
    exact ⟨c :: t, h, by simp [stripC]⟩

theorem sub_sorted {L : List Word} (c : Nat) (hs : L.Pairwise (· < ·)) : (sub L c).Pairwise (· < ·) := by
  unfold sub
  refine List.Pairwise.filterMap _ ?_ hs
  intro u u' hlt t ht t' ht'
  cases u with
  | nil => simp [stripC] at ht
  | cons a s =>
    cases u' with
    | nil => simp [stripC] at ht'
    | cons a' s' =>
      simp only [stripC] at ht ht'
      split at ht
      · next h1 =>
        split at ht'
        · next h2 =>
          cases ht; cases ht'; subst h1; subst h2
          rw [List.cons_lt_cons_iff] at hlt
          rcases hlt with h | ⟨_, h⟩
          · exact absurd h (Nat.lt_irrefl _)
          · exact h
        · cases ht'
      · cases ht

theorem sub_nil (c : Nat) : sub [] c = [] := rfl

theorem sub_cons_nil (L : List Word) (c : Nat) : sub ([] :: L) c = sub L c := by
  unfold sub
  rw [List.filterMap_cons_none rfl]

theorem sub_cons_cons (L : List Word) (a c : Nat) (t : Word) :
    sub ((a :: t) :: L) c = if a = c then t :: sub L c else sub L c := by
  simp only [sub, List.filterMap_cons, stripC]
  split <;> simp_all

theorem sub_append (L M : List Word) (c : Nat) : sub (L ++ M) c = sub L c ++ sub M c := by
  simp [sub, List.filterMap_append]

theorem word_lt_irrefl (w : Word) : ¬ w < w := List.lt_irrefl w

theorem word_lt_trans {a b c : Word} (h1 : a < b) (h2 : b < c) : a < c := List.lt_trans h1 h2

theorem word_lt_asymm {a b : Word} (h1 : a < b) : ¬ b < a := List.lt_asymm h1

theorem sorted_nodup {L : List Word} (hs : L.Pairwise (· < ·)) : L.Nodup := by
  refine hs.imp ?_
  intro a b h hab
  subst hab
  exact word_lt_irrefl a h

theorem get_count_lt {L : List Word} (hs : L.Pairwise (· < ·)) {w : Word} (hw : w ∈ L) :
    L[(L.filter (· < w)).length]? = some w := by
  induction L with
  | nil => cases hw
  | cons u L ih =>
    rw [List.pairwise_cons] at hs
    rw [List.mem_cons] at hw
    rcases hw with rfl | hw
    · have : (List.filter (fun x => decide (x < w)) (w :: L)) = [] := by
        rw [List.filter_eq_nil_iff]
        intro v hv
        simp only [decide_eq_true_eq]
        rw [List.mem_cons] at hv
        rcases hv with rfl | hv
        · exact word_lt_irrefl _
        · exact word_lt_asymm (hs.1 v hv)
      rw [this]; rfl
    · rw [List.filter_cons_of_pos (p := fun x => decide (x < w)) (decide_eq_true (hs.1 w hw)), List.length_cons,
        List.getElem?_cons_succ]
      exact ih hs.2 hw

def headLt (c : Nat) : Word → Bool
  | a :: _ => decide (a < c)
  | [] => false

def headIn (A : List Nat) : Word → Bool
  | a :: _ => decide (a ∈ A)
  | [] => false

theorem count_nil_of_sorted {L : List Word} (hs : L.Pairwise (· < ·)) :
    (L.filter (fun u => decide (u = []))).length = if [] ∈ L then 1 else 0 := by
  induction L with
  | nil => simp
  | cons u L ih =>
    rw [List.pairwise_cons] at hs
    cases u with
    | nil =>
      have hnot : [] ∉ L := fun h => word_lt_irrefl _ (hs.1 [] h)
      have := ih hs.2
      simp only [hnot, if_false] at this
      simp [this]
    | cons a t =>
      have := ih hs.2
      simp [this]

theorem count_lt_cons {L : List Word} (hs : L.Pairwise (· < ·)) (c : Nat) (w : Word) :
    (L.filter (· < c :: w)).length =
      (if [] ∈ L then 1 else 0) + (L.filter (headLt c)).length + ((sub L c).filter (· < w)).length := by
  rw [← count_nil_of_sorted hs]
  clear hs
  induction L with
  | nil => simp [sub]
  | cons u L ih =>
    cases u with
    | nil =>
      simp only [sub_cons_nil]
      rw [List.filter_cons_of_pos (by simp), List.filter_cons_of_pos (by simp),
        List.filter_cons_of_neg (by simp [headLt])]
      simp only [List.length_cons, ih, Nat.add_right_comm _ 1]
    | cons a t =>
      rw [sub_cons_cons]
      rw [List.filter_cons_of_neg (p := fun u => decide (u = [])) (by simp)]
      by_cases hac : a < c
      · have h1 : (a :: t) < c :: w := List.cons_lt_cons_iff.2 (Or.inl hac)
        have hne : ¬ a = c := Nat.ne_of_lt hac
        rw [List.filter_cons_of_pos (by simpa using h1), List.filter_cons_of_pos (by simpa [headLt] using hac),
          if_neg hne]
        simp only [List.length_cons, ih, ← Nat.add_assoc, Nat.add_right_comm _ 1]
      · rw [List.filter_cons_of_neg (p := headLt c) (by simpa [headLt] using hac)]
        by_cases hace : a = c
        · subst hace
          rw [if_pos rfl]
          by_cases htw : t < w
          · have h1 : (a :: t) < a :: w := List.cons_lt_cons_iff.2 (Or.inr ⟨rfl, htw⟩)
            rw [List.filter_cons_of_pos (by simpa using h1), List.filter_cons_of_pos (by simpa using htw)]
            simp only [List.length_cons, ih, ← Nat.add_assoc]
          · have h1 : ¬ (a :: t) < a :: w := by
              rw [List.cons_lt_cons_iff]; rintro (h | ⟨_, h⟩)
              · exact Nat.lt_irrefl _ h
              · exact htw h
            rw [List.filter_cons_of_neg (by simpa using h1), List.filter_cons_of_neg (by simpa using htw)]
            exact ih
        · have h1 : ¬ (a :: t) < c :: w := by
            rw [List.cons_lt_cons_iff]; rintro (h | ⟨h, _⟩)
            · exact hac h
            · exact hace h
          rw [List.filter_cons_of_neg (by simpa using h1), if_neg hace]
          exact ih

theorem sum_sub_length (L : List Word) (A : List Nat) (hA : A.Nodup) :
    (A.map (fun a => (sub L a).length)).sum = (L.filter (headIn A)).length := by
  have hz : ∀ A : List Nat, (A.map (fun _ => 0)).sum = 0 := by
    intro A; induction A <;> simp_all
  induction L with
  | nil => simpa [sub] using hz A
  | cons u L ih =>
    cases u with
    | nil =>
      rw [List.filter_cons_of_neg (by simp [headIn])]
      simpa [sub_cons_nil] using ih
    | cons a t =>
      have key : (A.map (fun b => (sub ((a :: t) :: L) b).length)).sum =
          (A.map (fun b => (sub L b).length)).sum + if a ∈ A then 1 else 0 := by
        clear ih
        induction A with
        | nil => simp
        | cons b A ihA =>
          rw [List.nodup_cons] at hA
          simp only [List.map_cons, List.sum_cons, List.mem_cons]
          rw [ihA hA.2, sub_cons_cons]
          by_cases hab : a = b
          · subst hab
            simp [hA.1]; omega
          · by_cases haA : a ∈ A <;> simp [hab, haA] <;> omega
      rw [key, ih]
      by_cases haA : a ∈ A
      · rw [List.filter_cons_of_pos (by simpa [headIn] using haA)]; simp [haA]
      · rw [List.filter_cons_of_neg (by simpa [headIn] using haA)]; simp [haA]

theorem length_sub_filter_prefix (L : List Word) (c : Nat) (x : Word) :
    ((sub L c).filter (fun w => x.isPrefixOf w)).length = (L.filter (fun w => (c :: x).isPrefixOf w)).length := by
  induction L with
  | nil => simp [sub]
  | cons u L ih =>
    cases u with
    | nil =>
      have e : (c :: x).isPrefixOf ([] : Word) = false := rfl
      rw [sub_cons_nil, List.filter_cons, e]
      simpa using ih
    | cons a t =>
      rw [sub_cons_cons]
      by_cases hac : a = c
      · subst hac
        have e : (a :: x).isPrefixOf (a :: t) = x.isPrefixOf t := by simp [List.isPrefixOf]
        rw [if_pos rfl, List.filter_cons, List.filter_cons, e]
        split <;> simp [ih]
      · have e : (c :: x).isPrefixOf (a :: t) = false := by
          simp only [List.isPrefixOf]
          have : (c == a) = false := by simpa using fun h => hac h.symm
          rw [this]; rfl
        rw [if_neg hac, List.filter_cons, e]
        simpa using ih

theorem length_subw (L : List Word) (x : Word) :
    (subw L x).length = (L.filter (fun w => x.isPrefixOf w)).length := by
  induction x generalizing L with
  | nil =>
    rw [List.filter_eq_self.2 (by intros; rfl)]; rfl
  | cons c x ih =>
    rw [subw, ih, length_sub_filter_prefix]

end Dawg
