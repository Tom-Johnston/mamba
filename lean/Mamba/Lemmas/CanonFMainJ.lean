import Mamba.Lemmas.CanonFStepJ
import Mamba.Lemmas.CanonFMain
/-!
# The main loop with an invariant of the whole loop state (faithful model `Model/CanonF.lean`)

An invariant is a family of predicates on the loop state `LS` and the ghost stack `lv`, one per kind of control point: `JA`
at all times, `JN` when the partition is the node of the top frame (after `maybeDeage`), `JS` after a `splitBin` that has
not reported "worse" (the state handed to `refine`), `JM` at the head of the main loop (with the flag `worse`). `StepJ`
(CanonFStepJ.lean) and `MainJ` say that the family is closed under the transitions, one field per transition with its guard
and its successor state written out: `deage`, `noskip` (the two branches of `maybeDeage`), `skipA`, `skipB`, `split` (the
constructors of `JIter`), `pop`, `node` (the three cases of `node_cases`, CanonFMain.lean), `refine`. What the loops
themselves guarantee (`Core`, `TopOK`/`LevelsOK`, the age, that `splitBin` hits the first non-singleton bin) is handed to
every field as a hypothesis.

`main_iter` is one iteration of `mainLoop` from a state with `MInv` and such a family; `mainLoop_core` is the induction over
it (at the end a leaf has been found and `JA [] s'` holds), and so is the totality of the main loop (CanonFTotalLoop.lean).

`MainJX` is `MainJ` relative to a family that is already known to be carried: its fields get the `J…` predicates as further
hypotheses. `MainJ.extend` puts it on top of that family, `MainJ.toX` turns a `MainJ` that does not look at the stack into a
`MainJX` over anything, `MainJX.weakenJ` strengthens the family underneath, `MainJ.trivial` is the bottom. The invariant layers of the development are such instances
(`certMainJ`, `ordMainJX` in CanonFCertJ.lean), and `allocated_core` (CanonFAllocJ.lean) hands the final state of any of
them to the end results.
-/
namespace CanonF

structure MainJ (n m : Nat) (nb : Nbrs) (JA JN JS : List (Nat × Nat) → LS → Prop)
    (JM : List (Nat × Nat) → Bool → LS → Prop) : Prop where
  step : StepJ n nb JA JN JS
  node : ∀ lv worse s s1, MInv n m nb s → (s.count = 0 → worse = false) → LevelsOK s.op s.path s.choices lv →
    JM lv worse s →
    (if (!worse && s.op.binDividers.len == n) = true then leafNode n m s
      else if (!worse) = true then innerNode s else Outcome.ok s) = .ok s1 →
    ∃ lv1, LevelsOK s1.op s1.path s1.choices lv1 ∧ JA lv1 s1 ∧ (s1.skipDeage = true → JN lv1 s1)
  refine : ∀ lv s w op' sc', Core n s → LevelsOK s.op s.path s.choices lv → s.op.age = s.path.length →
    s.skipDeage = false → s.sc.timesSeen.len = n → JS lv s →
    refine nb s.currentBest s.firstLeaf {} s.op s.sc = .ok (w, op', sc') →
    JM lv w { s with op := op', sc := { dws := ⟨sc'.dws.data, n⟩, nbs := ⟨sc'.nbs.data, n⟩, space := ⟨sc'.space.data, n⟩,
                                          timesSeen := ⟨sc'.timesSeen.data, n⟩, maxCell := ⟨sc'.maxCell.data, n⟩,
                                          numberOfMax := ⟨sc'.numberOfMax.data, n⟩ } }

def afterRefine (n : Nat) (s : LS) (op' : OP) (sc' : Scratch) : LS :=
  { s with op := op', sc := { dws := ⟨sc'.dws.data, n⟩, nbs := ⟨sc'.nbs.data, n⟩, space := ⟨sc'.space.data, n⟩,
                              timesSeen := ⟨sc'.timesSeen.data, n⟩, maxCell := ⟨sc'.maxCell.data, n⟩,
                              numberOfMax := ⟨sc'.numberOfMax.data, n⟩ } }

theorem main_node {n m : Nat} {nb : Nbrs} {JA JN JS : List (Nat × Nat) → LS → Prop}
    {JM : List (Nat × Nat) → Bool → LS → Prop} (hJ : MainJ n m nb JA JN JS JM)
    {worse : Bool} {s s1 : LS} {lv : List (Nat × Nat)}
    (hI : MInv n m nb s) (hw : s.count = 0 → worse = false) (hlv : LevelsOK s.op s.path s.choices lv) (hM : JM lv worse s)
    (hs1 : (if (!worse && s.op.binDividers.len == n) = true then leafNode n m s
        else if (!worse) = true then innerNode s else Outcome.ok s) = .ok s1) :
    ∃ lv1, SPre n JA JN lv1 s1 := by
  obtain ⟨_, c1, _, g1, _⟩ := node_step hI hw hlv s1 hs1
  obtain ⟨lv1, l1, ja1, jn1⟩ := hJ.node lv worse s s1 hI hw hlv hM hs1
  exact ⟨lv1, c1, l1, g1, ja1, jn1⟩

theorem main_iter (hst : StablePerm) {n m : Nat} {nb : Nbrs} {JA JN JS : List (Nat × Nat) → LS → Prop}
    {JM : List (Nat × Nat) → Bool → LS → Prop} (hJ : MainJ n m nb JA JN JS JM)
    {worse : Bool} {s s1 s2 : LS} {lv : List (Nat × Nat)} {b : Bool}
    (hI : MInv n m nb s) (hw : s.count = 0 → worse = false) (hlv : LevelsOK s.op s.path s.choices lv) (hM : JM lv worse s)
    (hs1 : (if (!worse && s.op.binDividers.len == n) = true then leafNode n m s
        else if (!worse) = true then innerNode s else Outcome.ok s) = .ok s1)
    (hst2 : stepLoop nb s1.path.length s1 = .ok (b, s2)) :
    (b = false → (0 < s2.count ∧ Core n s2 ∧ s2.currentBest.len = m) ∧ JA [] s2) ∧
    (b = true → ∃ lv2, (Core n s2 ∧ LevelsOK s2.op s2.path s2.choices lv2 ∧ s2.op.age = s2.path.length ∧
        s2.skipDeage = false ∧ s2.sc.timesSeen.len = n ∧ JS lv2 s2) ∧
      ∀ w op' sc', refine nb s2.currentBest s2.firstLeaf {} s2.op s2.sc = .ok (w, op', sc') →
        MInv n m nb (afterRefine n s2 op' sc') ∧ ((afterRefine n s2 op' sc').count = 0 → w = false) ∧
        LevelsOK op' s2.path s2.choices lv2 ∧ JM lv2 w (afterRefine n s2 op' sc')) := by
  obtain ⟨_, _, _, _, esc, f1, p1⟩ := node_step hI hw hlv s1 hs1
  obtain ⟨lv1, hp1⟩ := main_node hJ hI hw hlv hM hs1
  obtain ⟨fr2, _, lv2, c2, l2, g2, r0, r1⟩ := stepLoop_core hJ.step _ s1 lv1 b s2 hp1 hst2
  have hcnt : s2.count = s1.count := by rw [fr2]
  have hcb : s2.currentBest = s1.currentBest := by rw [fr2]
  have hsc : s2.sc = s1.sc := by rw [fr2]
  refine ⟨fun hb => ?_, fun hb => ?_⟩
  · subst hb
    obtain ⟨_, _, q1⟩ := r0 rfl
    have hpos : 0 < s1.count := by
      rcases Nat.eq_zero_or_pos s1.count with h0 | h0
      · have := (p1 h0).2 false s2 hst2; cases this
      · exact h0
    exact ⟨⟨by rw [hcnt]; exact hpos, c2, by rw [hcb]; exact f1 hpos⟩, q1⟩
  · subst hb
    obtain ⟨hskip, js2⟩ := r1 rfl
    have hage2 : s2.op.age = s2.path.length := by
      rw [hskip] at g2; simpa using g2
    have htc : n ≤ s2.sc.timesSeen.data.size := by rw [hsc, esc]; exact hI.tsCap
    have htl : s2.sc.timesSeen.len = n := by rw [hsc, esc]; exact hI.tsLen
    refine ⟨lv2, ⟨c2, l2, hage2, hskip, htl, js2⟩, fun w op' sc' hr => ?_⟩
    obtain ⟨r1, r2, r3, r4, _, _, _, z1, z2, z3, _⟩ := refine_inv hst c2.part c2.age c2.scr hr
    have hl' : LevelsOK op' s2.path s2.choices lv2 :=
      LevelsOK_frame (fun a ha => oldDivs_of_lt r4 a ha) _ _ _ (Int.le_of_eq hage2.symm) l2
    have h0cb : s2.count = 0 → s2.currentBest.len = 0 := fun h0 => by rw [hcb]; exact (p1 (hcnt ▸ h0)).1
    exact ⟨⟨⟨r1, r2, scratch_rewrap c2.scr htc z1 z2 z3, c2.bestWf, c2.bestLen, c2.bestPerm⟩, ⟨lv2, hl'⟩,
        by show op'.age = _; rw [r3]; exact hage2, hskip, by show n ≤ sc'.timesSeen.data.size; rw [z1]; exact htc, rfl,
        h0cb, fun (hpos : 0 < s2.count) => by show s2.currentBest.len = m; rw [hcb]; exact f1 (hcnt ▸ hpos)⟩,
      fun (h0 : s2.count = 0) => refine_not_worse (h0cb h0) rfl hr, hl',
      hJ.refine lv2 s2 w op' sc' c2 l2 hage2 hskip htl js2 hr⟩

theorem mainLoop_core (hst : StablePerm) {n m : Nat} {nb : Nbrs} {JA JN JS : List (Nat × Nat) → LS → Prop}
    {JM : List (Nat × Nat) → Bool → LS → Prop} (hJ : MainJ n m nb JA JN JS JM) :
    ∀ (fuel : Nat) (worse : Bool) (s s' : LS) (lv : List (Nat × Nat)), MInv n m nb s → (s.count = 0 → worse = false) →
      LevelsOK s.op s.path s.choices lv → JM lv worse s →
      mainLoop nb n m fuel worse s = .ok s' → (0 < s'.count ∧ Core n s' ∧ s'.currentBest.len = m) ∧ JA [] s' := by
  intro fuel
  induction fuel with
  | zero => intro worse s s' lv _ _ _ _ h; simp [mainLoop] at h
  | succ f ih =>
    intro worse s s' lv hI hw hlv hM h
    rw [mainLoop] at h
    split at h
    case h_2 => cases h
    case h_3 => cases h
    rename_i s1 hs1
    split at h
    case h_3 => cases h
    case h_4 => cases h
    · rename_i s2 hst2
      cases h
      exact (main_iter hst hJ hI hw hlv hM hs1 hst2).1 rfl
    · rename_i s2 hst2
      obtain ⟨lv2, _, hnext⟩ := (main_iter hst hJ hI hw hlv hM hs1 hst2).2 rfl
      split at h
      case h_2 => cases h
      case h_3 => cases h
      rename_i w op' sc' hr
      obtain ⟨a, b, c, d⟩ := hnext w op' sc' hr
      exact ih w _ s' lv2 a b c d h

theorem MainJ.trivial (n m : Nat) (nb : Nbrs) :
    MainJ n m nb (fun _ _ => True) (fun _ _ => True) (fun _ _ => True) (fun _ _ _ => True) where
  step :=
    { na := fun _ _ _ => True.intro
      deage := by intros; exact True.intro
      noskip := by intros; exact True.intro
      skipA := by intros; exact True.intro
      skipB := by intros; exact True.intro
      split := by intros; exact ⟨fun _ => True.intro, fun _ => True.intro⟩
      pop := by intros; exact True.intro }
  node := fun lv worse s s1 hI hw hlv _ hs1 => by
    obtain ⟨lv1, _, l1, _⟩ := node_step hI hw hlv s1 hs1
    exact ⟨lv1, l1, True.intro, fun _ => True.intro⟩
  refine := by intros; exact True.intro

/-- closure conditions of additional predicates `X…` that may use the predicates `J…` of an invariant that is already
known to be carried (before the transition, and after it where that is cheap) -/
structure MainJX (n m : Nat) (nb : Nbrs) (JA JN JS : List (Nat × Nat) → LS → Prop)
    (JM : List (Nat × Nat) → Bool → LS → Prop) (XA XN XS : List (Nat × Nat) → LS → Prop)
    (XM : List (Nat × Nat) → Bool → LS → Prop) : Prop where
  na : ∀ lv s, JN lv s → XN lv s → XA lv s
  deage : ∀ lv s op' k, Core n s → TopOK s.op k s.path s.choices lv → s.skipDeage = false →
    s.op.age = s.path.length → JA lv s → XA lv s → deage s.op = .ok op' → XN lv { s with op := op' }
  noskip : ∀ lv s, s.skipDeage = true → JN lv s → XN lv s → XN lv { s with skipDeage := false }
  skipA : ∀ st sz ls s c cs p ps ce x k, Core n s → TopOK s.op (k + 1) s.path s.choices ((st, sz) :: ls) →
    s.skipDeage = false → s.op.age + 1 = s.path.length → s.choices = c :: cs → s.path = p :: ps →
    s.op.order.get (c - 1) = .ok ce →
    (decide (s.count > 0) && hasPrefix s.flPath.toList ps.reverse) = true → s.flOrbits[ce]? = some x → x ≥ 0 →
    JN ((st, sz) :: ls) s → XN ((st, sz) :: ls) s →
    XN ((st, sz) :: ls) { s with choices := (c - 1) :: cs, skipDeage := true }
  skipB : ∀ st sz ls s c cs p ps ce bo k, Core n s → TopOK s.op (k + 1) s.path s.choices ((st, sz) :: ls) →
    s.skipDeage = false → s.op.age + 1 = s.path.length → s.choices = c :: cs → s.path = p :: ps →
    s.op.order.get (c - 1) = .ok ce →
    (decide (s.count > 0) && !hasPrefix s.flPath.toList ps.reverse && hasPrefix s.bestPath.toList ps.reverse) = true →
    h2Best s.op s.bestOrbits (c - 1) ce = .ok (true, bo) →
    JN ((st, sz) :: ls) s → XN ((st, sz) :: ls) s →
    XN ((st, sz) :: ls) { s with choices := (c - 1) :: cs, bestOrbits := bo, skipDeage := true }
  split : ∀ st sz ls s c cs p ps ce bo w op' k, Core n s → TopOK s.op (k + 1) s.path s.choices ((st, sz) :: ls) →
    s.skipDeage = false → s.op.age + 1 = s.path.length → s.choices = c :: cs → s.path = p :: ps →
    s.op.order.get (c - 1) = .ok ce →
    (if (decide (s.count > 0) && !hasPrefix s.flPath.toList ps.reverse && hasPrefix s.bestPath.toList ps.reverse) = true
      then h2Best s.op s.bestOrbits (c - 1) ce else Outcome.ok (false, s.bestOrbits)) = .ok (false, bo) →
    NonSingleton s.op.binDividers.toList (c - 1) →
    (∀ t, t < binStartOf s.op.binDividers.toList (c - 1) → t + 1 ∈ s.op.binDividers.toList) →
    splitBin nb s.currentBest s.firstLeaf s.op (c - 1) = .ok (w, op') →
    JN ((st, sz) :: ls) s → XN ((st, sz) :: ls) s →
    (w = false → JS ((st, sz) :: ls) { s with choices := (c - 1) :: cs, bestOrbits := bo, op := op', path := k :: ps } →
      XS ((st, sz) :: ls) { s with choices := (c - 1) :: cs, bestOrbits := bo, op := op', path := k :: ps }) ∧
    (w = true → JA ((st, sz) :: ls) { s with choices := (c - 1) :: cs, bestOrbits := bo, op := op', path := k :: ps } →
      XA ((st, sz) :: ls) { s with choices := (c - 1) :: cs, bestOrbits := bo, op := op', path := k :: ps })
  pop : ∀ st sz ls s, Core n s → TopOK s.op 0 s.path s.choices ((st, sz) :: ls) → s.skipDeage = false →
    s.op.age + 1 = s.path.length → JN ((st, sz) :: ls) s → XN ((st, sz) :: ls) s →
    XA ls { s with path := s.path.drop 1, choices := s.choices.drop 1 }
  node : ∀ lv worse s s1 lv1, MInv n m nb s → (s.count = 0 → worse = false) → LevelsOK s.op s.path s.choices lv →
    JM lv worse s → XM lv worse s →
    (if (!worse && s.op.binDividers.len == n) = true then leafNode n m s
      else if (!worse) = true then innerNode s else Outcome.ok s) = .ok s1 →
    LevelsOK s1.op s1.path s1.choices lv1 → JA lv1 s1 → (s1.skipDeage = true → JN lv1 s1) →
    XA lv1 s1 ∧ (s1.skipDeage = true → XN lv1 s1)
  refine : ∀ lv s w op' sc', Core n s → LevelsOK s.op s.path s.choices lv → s.op.age = s.path.length →
    s.skipDeage = false → s.sc.timesSeen.len = n → JS lv s → XS lv s →
    refine nb s.currentBest s.firstLeaf {} s.op s.sc = .ok (w, op', sc') →
    JM lv w { s with op := op', sc := { dws := ⟨sc'.dws.data, n⟩, nbs := ⟨sc'.nbs.data, n⟩, space := ⟨sc'.space.data, n⟩,
                                          timesSeen := ⟨sc'.timesSeen.data, n⟩, maxCell := ⟨sc'.maxCell.data, n⟩,
                                          numberOfMax := ⟨sc'.numberOfMax.data, n⟩ } } →
    XM lv w { s with op := op', sc := { dws := ⟨sc'.dws.data, n⟩, nbs := ⟨sc'.nbs.data, n⟩, space := ⟨sc'.space.data, n⟩,
                                          timesSeen := ⟨sc'.timesSeen.data, n⟩, maxCell := ⟨sc'.maxCell.data, n⟩,
                                          numberOfMax := ⟨sc'.numberOfMax.data, n⟩ } }

theorem MainJ.extend {n m : Nat} {nb : Nbrs} {JA JN JS : List (Nat × Nat) → LS → Prop}
    {JM : List (Nat × Nat) → Bool → LS → Prop} {XA XN XS : List (Nat × Nat) → LS → Prop}
    {XM : List (Nat × Nat) → Bool → LS → Prop} (hJ : MainJ n m nb JA JN JS JM) (hX : MainJX n m nb JA JN JS JM XA XN XS XM) :
    MainJ n m nb (fun lv s => JA lv s ∧ XA lv s) (fun lv s => JN lv s ∧ XN lv s) (fun lv s => JS lv s ∧ XS lv s)
      (fun lv w s => JM lv w s ∧ XM lv w s) where
  step :=
    { na := fun lv s h => ⟨hJ.step.na lv s h.1, hX.na lv s h.1 h.2⟩
      deage := fun lv s op' k hc ht hsk hage h hd =>
        ⟨hJ.step.deage lv s op' k hc ht hsk hage h.1 hd, hX.deage lv s op' k hc ht hsk hage h.1 h.2 hd⟩
      noskip := fun lv s hsk h => ⟨hJ.step.noskip lv s hsk h.1, hX.noskip lv s hsk h.1 h.2⟩
      skipA := fun st sz ls s c cs p ps ce x k hc ht hsk hage hch hpth hget hon hx hx0 h =>
        ⟨hJ.step.skipA st sz ls s c cs p ps ce x k hc ht hsk hage hch hpth hget hon hx hx0 h.1,
          hX.skipA st sz ls s c cs p ps ce x k hc ht hsk hage hch hpth hget hon hx hx0 h.1 h.2⟩
      skipB := fun st sz ls s c cs p ps ce bo k hc ht hsk hage hch hpth hget hon hh h =>
        ⟨hJ.step.skipB st sz ls s c cs p ps ce bo k hc ht hsk hage hch hpth hget hon hh h.1,
          hX.skipB st sz ls s c cs p ps ce bo k hc ht hsk hage hch hpth hget hon hh h.1 h.2⟩
      split := fun st sz ls s c cs p ps ce bo w op' k hc ht hsk hage hch hpth hget hh hns hfb hs h => by
        obtain ⟨b1, b2⟩ := hJ.step.split st sz ls s c cs p ps ce bo w op' k hc ht hsk hage hch hpth hget hh hns hfb hs h.1
        obtain ⟨x1, x2⟩ := hX.split st sz ls s c cs p ps ce bo w op' k hc ht hsk hage hch hpth hget hh hns hfb hs h.1 h.2
        exact ⟨fun hw => ⟨b1 hw, x1 hw (b1 hw)⟩, fun hw => ⟨b2 hw, x2 hw (b2 hw)⟩⟩
      pop := fun st sz ls s hc ht hsk hage h =>
        ⟨hJ.step.pop st sz ls s hc ht hsk hage h.1, hX.pop st sz ls s hc ht hsk hage h.1 h.2⟩ }
  node := fun lv worse s s1 hI hw hlv hM hs1 => by
    obtain ⟨lv1, l1, a1, n1⟩ := hJ.node lv worse s s1 hI hw hlv hM.1 hs1
    obtain ⟨x1, x2⟩ := hX.node lv worse s s1 lv1 hI hw hlv hM.1 hM.2 hs1 l1 a1 n1
    exact ⟨lv1, l1, ⟨a1, x1⟩, fun hsk => ⟨n1 hsk, x2 hsk⟩⟩
  refine := fun lv s w op' sc' hc hl hage hsk htl h hr => by
    have b := hJ.refine lv s w op' sc' hc hl hage hsk htl h.1 hr
    exact ⟨b, hX.refine lv s w op' sc' hc hl hage hsk htl h.1 h.2 hr b⟩

theorem MainJ.toX {n m : Nat} {nb : Nbrs} {JA JN JS : List (Nat × Nat) → LS → Prop}
    {JM : List (Nat × Nat) → Bool → LS → Prop} {PA PN PS : LS → Prop} {PM : Bool → LS → Prop}
    (hP : MainJ n m nb (fun _ s => PA s) (fun _ s => PN s) (fun _ s => PS s) (fun _ w s => PM w s)) :
    MainJX n m nb JA JN JS JM (fun _ s => PA s) (fun _ s => PN s) (fun _ s => PS s) (fun _ w s => PM w s) where
  na := fun lv s _ h => hP.step.na lv s h
  deage := fun lv s op' k hc ht hsk hage _ h hd => hP.step.deage lv s op' k hc ht hsk hage h hd
  noskip := fun lv s hsk _ h => hP.step.noskip lv s hsk h
  skipA := fun st sz ls s c cs p ps ce x k hc ht hsk hage hch hpth hget hon hx hx0 _ h =>
    hP.step.skipA st sz ls s c cs p ps ce x k hc ht hsk hage hch hpth hget hon hx hx0 h
  skipB := fun st sz ls s c cs p ps ce bo k hc ht hsk hage hch hpth hget hon hh _ h =>
    hP.step.skipB st sz ls s c cs p ps ce bo k hc ht hsk hage hch hpth hget hon hh h
  split := fun st sz ls s c cs p ps ce bo w op' k hc ht hsk hage hch hpth hget hh hns hfb hs _ h => by
    obtain ⟨q1, q2⟩ := hP.step.split st sz ls s c cs p ps ce bo w op' k hc ht hsk hage hch hpth hget hh hns hfb hs h
    exact ⟨fun hw _ => q1 hw, fun hw _ => q2 hw⟩
  pop := fun st sz ls s hc ht hsk hage _ h => hP.step.pop st sz ls s hc ht hsk hage h
  node := fun lv worse s s1 _ hI hw hlv _ hM hs1 _ _ _ => by
    obtain ⟨_, _, a1, n1⟩ := hP.node lv worse s s1 hI hw hlv hM hs1
    exact ⟨a1, n1⟩
  refine := fun lv s w op' sc' hc hl hage hsk htl _ h hr _ => hP.refine lv s w op' sc' hc hl hage hsk htl h hr

/-- a `MainJX` stays one over a stronger family -/
theorem MainJX.weakenJ {n m : Nat} {nb : Nbrs} {JA JN JS JA' JN' JS' : List (Nat × Nat) → LS → Prop}
    {JM JM' : List (Nat × Nat) → Bool → LS → Prop} {XA XN XS : List (Nat × Nat) → LS → Prop}
    {XM : List (Nat × Nat) → Bool → LS → Prop} (hX : MainJX n m nb JA JN JS JM XA XN XS XM)
    (hA : ∀ lv s, JA' lv s → JA lv s) (hN : ∀ lv s, JN' lv s → JN lv s) (hS : ∀ lv s, JS' lv s → JS lv s)
    (hM : ∀ lv w s, JM' lv w s → JM lv w s) : MainJX n m nb JA' JN' JS' JM' XA XN XS XM where
  na := fun lv s h x => hX.na lv s (hN _ _ h) x
  deage := fun lv s op' k hc ht hsk hage h x hd => hX.deage lv s op' k hc ht hsk hage (hA _ _ h) x hd
  noskip := fun lv s hsk h x => hX.noskip lv s hsk (hN _ _ h) x
  skipA := fun st sz ls s c cs p ps ce x k hc ht hsk hage hch hpth hget hon hx hx0 h xx =>
    hX.skipA st sz ls s c cs p ps ce x k hc ht hsk hage hch hpth hget hon hx hx0 (hN _ _ h) xx
  skipB := fun st sz ls s c cs p ps ce bo k hc ht hsk hage hch hpth hget hon hh h xx =>
    hX.skipB st sz ls s c cs p ps ce bo k hc ht hsk hage hch hpth hget hon hh (hN _ _ h) xx
  split := fun st sz ls s c cs p ps ce bo w op' k hc ht hsk hage hch hpth hget hh hns hfb hs h xx => by
    obtain ⟨q1, q2⟩ := hX.split st sz ls s c cs p ps ce bo w op' k hc ht hsk hage hch hpth hget hh hns hfb hs (hN _ _ h) xx
    exact ⟨fun hw hj => q1 hw (hS _ _ hj), fun hw hj => q2 hw (hA _ _ hj)⟩
  pop := fun st sz ls s hc ht hsk hage h xx => hX.pop st sz ls s hc ht hsk hage (hN _ _ h) xx
  node := fun lv worse s s1 lv1 hI hw hlv hJ hx hs1 hl1 ha hn =>
    hX.node lv worse s s1 lv1 hI hw hlv (hM _ _ _ hJ) hx hs1 hl1 (hA _ _ ha) (fun hsk => hN _ _ (hn hsk))
  refine := fun lv s w op' sc' hc hl hage hsk htl hJ hx hr hm =>
    hX.refine lv s w op' sc' hc hl hage hsk htl (hS _ _ hJ) hx hr (hM _ _ _ hm)

end CanonF
