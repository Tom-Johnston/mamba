import Mamba.Lemmas.CanonFInv
/-!
# The certificate prefix before the first leaf (no pruning is possible while `currentBest` is empty)

* `PrefixSingle op` — bins `0 .. spl-1` are the singletons at positions `0 .. spl-1`;
* `CleanPrefix op`  — moreover bin `spl` (if there is one) is not a singleton: `spl` is the index of the target cell;
* `NoEarlierNbr nb op` — as long as the certificate `value` is empty (as a list: `value.toList = []`), no vertex of the
  prefix has a neighbour at an earlier position (so an empty certificate at a leaf means that the graph has no edges).

Behind singleton bins `0 .. j-1` `expandLoop` reads `bd[j] - j` as the size of bin `j` and stops at the first bin that is
not `[j, j + 1)`.
-/
namespace CanonF

structure PrefixSingle (op : OP) : Prop where
  le : op.spl ≤ op.binDividers.len
  single : ∀ j, j < op.spl → op.binDividers.toList[j]? = some (j + 1)

structure CleanPrefix (op : OP) : Prop extends PrefixSingle op where
  next : op.binDividers.toList[op.spl]? ≠ some (op.spl + 1)

def NoEarlierNbr (nb : Nbrs) (op : OP) : Prop :=
  op.value.toList = [] → ∀ j u v q, j < op.spl → op.order.toList[j]? = some u → v ∈ nb.getD u [] →
    op.order.toList[q]? = some v → j ≤ q

theorem single_bin {bd : List Nat} {j : Nat} (hsing : ∀ t, t < j → bd[t]? = some (t + 1)) {q : Nat} (hq : q < j) :
    (0 :: bd)[q]? = some q ∧ bd[q]? = some (q + 1) := by
  refine ⟨?_, hsing q hq⟩
  cases q with
  | zero => rfl
  | succ q => rw [List.getElem?_cons_succ]; exact hsing q (Nat.lt_of_succ_lt hq)

theorem binIdx_lt_iff_of_single (bd : List Nat) (hs : (0 :: bd).Pairwise (· < ·)) (j : Nat)
    (hsing : ∀ t, t < j → bd[t]? = some (t + 1)) (q : Nat) : binIdx bd q < j ↔ q < j := by
  have hs' : bd.Pairwise (· < ·) := (List.pairwise_cons.1 hs).2
  constructor
  · intro h
    obtain ⟨h1, h2⟩ := single_bin hsing h
    exact Nat.lt_of_le_of_lt (Nat.le_of_lt_succ ((binIdx_eq_iff_mem_bin hs' h1 h2 q).1 rfl).2) h
  · intro h
    obtain ⟨h1, h2⟩ := single_bin hsing h
    rw [(binIdx_eq_iff_mem_bin hs' h1 h2 q).2 ⟨Nat.le_refl _, Nat.lt_succ_self _⟩]
    exact h

theorem PartInv.single_lt_len {n : Nat} {op : OP} (hp : PartInv n op) {j : Nat}
    (hsing : ∀ t, t < j → op.binDividers.toList[t]? = some (t + 1)) (hj : j < n) : j < op.binDividers.len := by
  rw [← hp.length_bd]
  apply Nat.lt_of_not_le
  intro hle
  have hpos : 0 < op.binDividers.toList.length := List.length_pos_of_mem (List.mem_of_getLast? hp.last)
  have h1 := hsing (op.binDividers.toList.length - 1) (by omega)
  have h2 := hp.last
  rw [List.getLast?_eq_getElem?, h1] at h2
  have := Option.some.inj h2
  omega

theorem binSizeAt_lt {op : OP} {j bs : Nat} (h : binSizeAt op j = .ok bs) : j < op.binDividers.len := by
  unfold binSizeAt at h
  by_cases hj0 : j = 0
  · subst hj0; rw [if_pos rfl] at h; exact Sl.get_lt h
  · rw [if_neg hj0] at h
    split at h
    · exact Sl.get_lt ‹_›
    · cases h

theorem binSizeAt_eq {n : Nat} {op : OP} {j : Nat} (hp : PartInv n op)
    (hsing : ∀ t, t < j → op.binDividers.toList[t]? = some (t + 1)) (hj : j < op.binDividers.len) :
    ∃ a, op.binDividers.toList[j]? = some a ∧ j + 1 ≤ a ∧ binSizeAt op j = .ok (a - j) := by
  obtain ⟨a, hga, _⟩ := Sl.get_ok_of_lt hp.wfBd hj
  have hal : op.binDividers.toList[j]? = some a := Sl.get_eq_toList.1 hga
  refine ⟨a, hal, hp.bd_ge j a hal, ?_⟩
  unfold binSizeAt
  by_cases h0 : j = 0
  · subst h0; rw [if_pos rfl]; exact hga
  · have hg1 : op.binDividers.get (j - 1) = .ok j := by
      rw [Sl.get_eq_toList, hsing (j - 1) (by omega)]; congr 1; omega
    rw [if_neg h0, hga, hg1]

theorem binSizeAt_spec {n : Nat} {op : OP} {j bs : Nat} (hp : PartInv n op)
    (hsing : ∀ t, t < j → op.binDividers.toList[t]? = some (t + 1)) (h : binSizeAt op j = .ok bs) :
    j < op.binDividers.len ∧ (bs = 1 ↔ op.binDividers.toList[j]? = some (j + 1)) := by
  have hj := binSizeAt_lt h
  obtain ⟨a, hal, hja, he⟩ := binSizeAt_eq hp hsing hj
  obtain rfl : a - j = bs := Outcome.ok.inj (he.symm.trans h)
  refine ⟨hj, ?_⟩
  rw [hal]
  exact ⟨fun h => by congr 1; omega, fun h => by have := Option.some.inj h; omega⟩

theorem expandLoop_succ {n : Nat} {nb : Nbrs} {cb fl : Sl Nat} {k j : Nat} {op : OP} (hp : PartInv n op)
    (hsing : ∀ t, t < j → op.binDividers.toList[t]? = some (t + 1)) (hjn : j < n) :
    j < op.binDividers.len ∧
    expandLoop nb cb fl (k + 1) j op =
      if op.binDividers.toList[j]? = some (j + 1) then expandBody nb cb fl k j op
      else .ok (false, { op with spl := j }) := by
  have hj := hp.single_lt_len hsing hjn
  obtain ⟨a, hal, hja, he⟩ := binSizeAt_eq hp hsing hj
  refine ⟨hj, ?_⟩
  rw [expandLoop_unfold, he, hal]
  dsimp only
  by_cases h1 : a = j + 1
  · subst h1
    rw [if_neg (by omega), if_pos rfl]
  · rw [if_pos (by omega), if_neg (fun e => h1 (Option.some.inj e))]

theorem cleanPrefix_full {n : Nat} {op : OP} (inv : PartInv n op)
    (hsing : ∀ t, t < n → op.binDividers.toList[t]? = some (t + 1)) : CleanPrefix { op with spl := op.order.len } := by
  have hlo := inv.lenOrder
  have hbl : op.binDividers.toList.length = op.binDividers.len := inv.length_bd
  refine ⟨⟨?_, fun t ht => hsing t (hlo ▸ ht)⟩, ?_⟩
  · show op.order.len ≤ op.binDividers.len
    rw [hlo]
    by_cases hn : n = 0
    · omega
    · have := (List.getElem?_eq_some_iff.1 (hsing (n - 1) (by omega))).1
      omega
  · show op.binDividers.toList[op.order.len]? ≠ some (op.order.len + 1)
    intro hc
    have := inv.bd_le _ _ hc
    omega

theorem codeStep_len {inCell : Sl Nat} {j v : Nat} {value value' : Sl Nat}
    (h : codeStep inCell j v value = .ok value') :
    value.toList.length ≤ value'.toList.length ∧ ∃ k, inCell.get v = .ok k ∧ (k < j → value'.toList ≠ []) := by
  unfold codeStep at h
  cases hk : inCell.get v with
  | ok k =>
    rw [hk] at h
    simp only at h
    by_cases hkj : k < j
    · rw [if_pos hkj] at h
      cases h
      exact ⟨(Sl.append_toList_length _ _).1, k, rfl, fun _ => (Sl.append_toList_length _ _).2⟩
    · rw [if_neg hkj] at h; cases h
      exact ⟨Nat.le_refl _, k, rfl, fun h => absurd h hkj⟩
  | panic => rw [hk] at h; cases h
  | outOfFuel => rw [hk] at h; cases h

theorem codeLoop_len {inCell : Sl Nat} {j : Nat} : ∀ (l : List Nat) (value value' : Sl Nat),
    forList (codeStep inCell j) l value = .ok value' →
    value.toList.length ≤ value'.toList.length ∧
      ∀ v ∈ l, ∃ k, inCell.get v = .ok k ∧ (k < j → value'.toList ≠ []) := by
  intro l
  induction l with
  | nil => intro value value' h; simp [forList] at h; subst h; exact ⟨Nat.le_refl _, by simp⟩
  | cons x xs ih =>
    intro value value' h
    rw [forList] at h
    cases hx : codeStep inCell j x value with
    | ok v1 =>
      rw [hx] at h
      obtain ⟨a1, k, a2, a3⟩ := codeStep_len hx
      obtain ⟨b1, b2⟩ := ih v1 value' h
      refine ⟨by omega, ?_⟩
      intro v hv
      rcases List.mem_cons.1 hv with rfl | hv
      · refine ⟨k, a2, fun hk => ?_⟩
        have := a3 hk
        intro hc
        have h1 : v1.toList.length ≠ 0 := by
          intro h0; exact this (List.eq_nil_of_length_eq_zero h0)
        rw [hc] at b1; simp only [List.length_nil] at b1; omega
      · exact b2 v hv
    | panic => rw [hx] at h; cases h
    | outOfFuel => rw [hx] at h; cases h

theorem sortRange_len {s s' : Sl Nat} {a b : Nat} (h : s.sortRange a b = .ok s') :
    s'.len = s.len ∧ s'.toList.length = s.toList.length := by
  obtain ⟨l, z⟩ := Sl.sortRange_len_size h
  exact ⟨l, by simp [Sl.toList, l, z]⟩

theorem worseTest_empty {value cb fl : Sl Nat} (h : cb.len = 0) : worseTest value cb fl = .ok false := by
  unfold worseTest; simp [h]


/-- the state of `expandLoop` at iteration `j` while `currentBest` is empty -/
structure ExpSt (n : Nat) (nb : Nbrs) (j : Nat) (op : OP) : Prop where
  inv : PartInv n op
  single : ∀ t, t < j → op.binDividers.toList[t]? = some (t + 1)
  noNbr : op.value.toList = [] → ∀ t u v q, t < j → op.order.toList[t]? = some u → v ∈ nb.getD u [] →
    op.order.toList[q]? = some v → t ≤ q

theorem nbrsGet_eq {nb : Nbrs} {u : Nat} {l : List Nat} (h : nbrsGet nb u = .ok l) : nb.getD u [] = l := by
  unfold nbrsGet at h
  cases hu : nb[u]? with
  | some l' => rw [hu] at h; cases h; simp [Array.getD_eq_getD_getElem?, hu]
  | none => rw [hu] at h; cases h

theorem ExpBlock.len {nb : Nbrs} {op : OP} {j : Nat} {v2 : Sl Nat} (h : ExpBlock nb op j v2) :
    op.value.toList.length ≤ v2.toList.length ∧
      ∃ u, op.order.toList[j]? = some u ∧
        ∀ v ∈ nb.getD u [], ∃ c, op.inCell.get v = .ok c ∧ (c < j → v2.toList ≠ []) := by
  obtain ⟨u, nbrs, v1, hu, hn, hc, hs⟩ := h
  have hl2 : v2.toList.length = v1.toList.length := (sortRange_len hs).2
  obtain ⟨hmono, hcodes⟩ := codeLoop_len nbrs op.value v1 hc
  refine ⟨by omega, u, Sl.get_eq_toList.1 hu, fun v hv => ?_⟩
  rw [nbrsGet_eq hn] at hv
  obtain ⟨c, hc1, hc2⟩ := hcodes v hv
  refine ⟨c, hc1, fun hcj hnil => hc2 hcj (List.eq_nil_of_length_eq_zero ?_)⟩
  rw [hnil, List.length_nil] at hl2; omega

theorem ExpRun.not_worse {nb : Nbrs} {cb fl : Sl Nat} (hcb : cb.len = 0) {k j : Nat} {op op' : OP} {w : Bool}
    (h : ExpRun nb cb fl k j op w op') : w = false := by
  induction h with
  | done | stop => rfl
  | worse _ _ hw => rw [worseTest_empty hcb] at hw; cases hw
  | next _ _ _ _ ih => exact ih

theorem ExpRun.phase1 {n : Nat} {nb : Nbrs} {cb fl : Sl Nat} (hcb : cb.len = 0) {k j : Nat} {op op' : OP} {w : Bool}
    (h : ExpRun nb cb fl k j op w op') : j + k = n → ExpSt n nb j op →
      w = false ∧ PartInv n op' ∧ CleanPrefix op' ∧ NoEarlierNbr nb op' ∧
        op.value.toList.length ≤ op'.value.toList.length ∧ j ≤ op'.spl := by
  induction h with
  | done j op =>
    intro hjk hst
    obtain rfl : j = n := hjk
    exact ⟨rfl, PartInv.of_frame hst.inv rfl rfl rfl rfl, cleanPrefix_full hst.inv hst.single,
      fun hv t u v q ht => hst.noNbr hv t u v q (hst.inv.lenOrder ▸ ht), Nat.le_refl _,
      Nat.le_of_eq hst.inv.lenOrder.symm⟩
  | @stop k j op bs hb hne =>
    intro _ hst
    obtain ⟨hjlt, hiff⟩ := binSizeAt_spec hst.inv hst.single hb
    exact ⟨rfl, PartInv.of_frame hst.inv rfl rfl rfl rfl, ⟨⟨Nat.le_of_lt hjlt, hst.single⟩, fun hc => hne (hiff.2 hc)⟩,
      fun hv t u v q ht => hst.noNbr hv t u v q ht, Nat.le_refl _, Nat.le_refl _⟩
  | worse _ _ hw => rw [worseTest_empty hcb] at hw; cases hw
  | @next k j op v2 w op' hb hblk _ _ ih =>
    intro hjk hst
    have haj1 := (binSizeAt_spec hst.inv hst.single hb).2.1 rfl
    obtain ⟨hmono, u, hu, hcodes⟩ := hblk.len
    have hst' : ExpSt n nb (j + 1) { op with value := v2 } := by
      refine ⟨PartInv.of_frame hst.inv rfl rfl rfl rfl, fun t ht => ?_, fun hv t u' v q ht hu' hv' hq => ?_⟩
      · by_cases htj : t = j
        · subst htj; exact haj1
        · exact hst.single t (Nat.lt_of_le_of_ne (Nat.le_of_lt_succ ht) htj)
      · have hv0 : op.value.toList = [] := by
          apply List.eq_nil_of_length_eq_zero
          rw [show v2.toList = [] from hv] at hmono; exact Nat.le_zero.1 hmono
        by_cases htj : t = j
        · subst htj
          obtain rfl : u' = u := by rw [show op.order.toList[t]? = some u' from hu'] at hu; exact Option.some.inj hu
          obtain ⟨c, hc1, hc2⟩ := hcodes v hv'
          have hc1' := Sl.get_eq_toList.1 hc1
          rw [hst.inv.inCell q v hq] at hc1'
          obtain rfl : binIdx op.binDividers.toList q = c := Option.some.inj hc1'
          rcases Nat.lt_or_ge q t with hlt | hge
          · exact absurd hv (hc2 ((binIdx_lt_iff_of_single _ hst.inv.sorted t hst.single q).2 hlt))
          · exact hge
        · exact hst.noNbr hv0 t u' v q (Nat.lt_of_le_of_ne (Nat.le_of_lt_succ ht) htj) hu' hv' hq
    obtain ⟨r1, r2, r3, r4, r5, r6⟩ := ih (by omega) hst'
    exact ⟨r1, r2, r3, r4, Nat.le_trans hmono r5, Nat.le_of_succ_le r6⟩

theorem expandValue_phase1 {n : Nat} {nb : Nbrs} {cb fl : Sl Nat} {op op' : OP} {w : Bool} (hcb : cb.len = 0)
    (h : PartInv n op) (hp : PrefixSingle op) (hno : NoEarlierNbr nb op)
    (he : expandValue nb cb fl op = .ok (w, op')) :
    w = false ∧ PartInv n op' ∧ CleanPrefix op' ∧ NoEarlierNbr nb op' ∧
      op.value.toList.length ≤ op'.value.toList.length ∧ op.spl ≤ op'.spl := by
  unfold expandValue at he
  have hle : op.spl ≤ n := Nat.le_trans hp.le h.bdLen_le
  exact (expandLoop_run he).phase1 hcb (by rw [h.lenOrder]; omega) ⟨h, hp.single, hno⟩


end CanonF
