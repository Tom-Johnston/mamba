import Mamba.Lemmas.DistanceICyclesChord
import Mamba.Lemmas.DistanceIPathsLoop
/-!
# Rooted directed induced cycle sequences

`IsIndCycleSeq g c q`: `q` is the vertex sequence of an induced cycle with `c` vertices, from some root in some
direction. They are the rotations of the canonical sequences and of their reversals, `2c` for every induced cycle
(`orbitList`, `indCycleSeq_count`: a canonical sequence is never a rotation of its own reversal). They are also the
directed induced paths with `c - 1` vertices extended by a closing vertex (`closers`, `allIndCycleSeqs`), which is how
`NumberOfInducedCycles` counts them: `closers_sum` is what makes its final division by `2c` exact.
-/
namespace GDist
open GraphSpec List

variable {g : G}

def IsIndCycleSeq (g : G) (c : Nat) (q : List Nat) : Prop :=
  IsCycleSeq g q ∧ chordlessCyc g q = true ∧ q.length = c

theorem canon_no_reflection {l : Nat} {cn : List Nat} (hc : IsCanonCycle g l cn) : ¬ cn ~r cn.reverse := by
  intro hr
  obtain ⟨hdX, hX2⟩ := canon_decomp hc
  have h2 : cn.reverse ~r (cn.dropLast.reverse ++ [cn.getLastD 0]) := by
    conv_lhs => rw [hdX, List.reverse_append]
    simpa using (IsRotated.cons_append_singleton (a := cn.getLastD 0) (l := cn.dropLast.reverse))
  have h3 := hr.trans h2
  have hlast : cn.getLast? = (cn.dropLast.reverse ++ [cn.getLastD 0]).getLast? := by
    rw [getLast?_of_ne_nil hc.1.ne_nil, List.getLast?_append]; simp
  have heq := rot_eq_of_last hc.1.2.1 h3 hlast
  have hX : cn.dropLast = cn.dropLast.reverse := by
    have := congrArg List.dropLast heq
    rwa [List.dropLast_concat] at this
  have hnd : cn.dropLast.Nodup := by
    have := hc.1.2.1
    rw [hdX] at this
    exact (List.nodup_append.1 this).1
  have hne := head_ne_last_of_nodup hnd hX2
  apply hne
  conv_lhs => rw [hX]
  exact headD_reverse _

def orbitList (cn : List Nat) : List (List Nat) := cyclicPermutations cn ++ cyclicPermutations cn.reverse

theorem mem_orbitList {cn q : List Nat} : q ∈ orbitList cn ↔ (q ~r cn ∨ q ~r cn.reverse) := by
  simp [orbitList, mem_cyclicPermutations_iff]

theorem length_orbitList {cn : List Nat} (h : cn ≠ []) : (orbitList cn).length = 2 * cn.length := by
  simp only [orbitList, List.length_append]
  rw [length_cyclicPermutations_of_ne_nil _ h, length_cyclicPermutations_of_ne_nil _ (by simpa using h)]
  simp; omega

theorem indCycleSeq_count (hsym : ∀ u v, g.adj u v = g.adj v u) (c : Nat) {R : List (List Nat)}
    (hnd : R.Nodup) (hmem : ∀ q, q ∈ R ↔ IsIndCycleSeq g c q) :
    R.length = 2 * c * numInducedCycles g c := by
  have hCN : ∀ cn, cn ∈ canonInducedCycles g c ↔ (IsCanonCycle g c cn ∧ chordlessCyc g cn = true) :=
    fun cn => mem_canonInducedCycles
  have hperm : R.Perm ((canonInducedCycles g c).flatMap orbitList) := by
    have hnd2 : ((canonInducedCycles g c).flatMap orbitList).Nodup := by
      rw [List.nodup_flatMap]
      constructor
      · intro cn hcn
        obtain ⟨hcan, _⟩ := (hCN cn).1 hcn
        unfold orbitList
        rw [List.nodup_append]
        refine ⟨hcan.1.2.1.cyclicPermutations, (List.nodup_reverse.2 hcan.1.2.1).cyclicPermutations, ?_⟩
        intro a ha b hb hab
        subst hab
        rw [mem_cyclicPermutations_iff] at ha hb
        exact canon_no_reflection hcan (ha.symm.trans hb)
      · refine List.Pairwise.imp_of_mem ?_ (nodup_canonInducedCycles c)
        intro cn cn' hcn hcn' hne
        simp only [Function.onFun]
        rw [List.disjoint_left]
        intro q hq hq'
        apply hne
        obtain ⟨hcan, _⟩ := (hCN cn).1 hcn
        obtain ⟨hcan', _⟩ := (hCN cn').1 hcn'
        apply canon_unique hcan hcan'
        rcases mem_orbitList.1 hq with h1 | h1 <;> rcases mem_orbitList.1 hq' with h2 | h2
        · exact .inl (h1.symm.trans h2)
        · exact .inr (h1.symm.trans h2)
        · exact .inr (by simpa using (h1.symm.trans h2).reverse)
        · exact .inl (by simpa using (h1.symm.trans h2).reverse)
    refine (List.perm_ext_iff_of_nodup hnd hnd2).2 ?_
    intro q
    rw [hmem, List.mem_flatMap]
    constructor
    · rintro ⟨hcyc, hch, hlen⟩
      obtain ⟨c', hcan, hrel⟩ := canon_exists hsym hcyc
      rw [hlen] at hcan
      have hch' : chordlessCyc g c' = true := by
        rcases hrel with h | h
        · exact chordlessCyc_of_isRotated hsym hch h.symm
        · exact chordlessCyc_of_isRotated hsym (chordlessCyc_reverse hsym hch) h.symm
      refine ⟨c', (hCN c').2 ⟨hcan, hch'⟩, mem_orbitList.2 ?_⟩
      rcases hrel with h | h
      · exact .inl h.symm
      · exact .inr (by simpa using h.symm.reverse)
    · rintro ⟨cn, hcn, hq⟩
      obtain ⟨hcan, hch⟩ := (hCN cn).1 hcn
      rcases mem_orbitList.1 hq with h | h
      · exact ⟨isCycleSeq_of_isRotated hcan.1 h.symm, chordlessCyc_of_isRotated hsym hch h.symm,
          by rw [h.perm.length_eq]; exact hcan.2.1⟩
      · exact ⟨isCycleSeq_of_isRotated (isCycleSeq_reverse hsym hcan.1) h.symm,
          chordlessCyc_of_isRotated hsym (chordlessCyc_reverse hsym hch) h.symm,
          by rw [h.perm.length_eq]; simpa using hcan.2.1⟩
  rw [hperm.length_eq, List.length_flatMap]
  have : ((canonInducedCycles g c).map fun cn => (orbitList cn).length)
      = (canonInducedCycles g c).map fun _ => 2 * c := by
    apply List.map_congr_left
    intro cn hcn
    obtain ⟨hcan, _⟩ := (hCN cn).1 hcn
    rw [length_orbitList hcan.1.ne_nil, hcan.2.1]
  rw [this]
  simp [numInducedCycles, Nat.mul_comm]

end GDist

namespace GDist
open GraphSpec

/-- the vertices that close the (reversed) induced path `p` to an induced cycle: adjacent to both ends, not on the
path, not adjacent to an interior vertex -/
def closers (g : G) (p : List Nat) : List Nat :=
  (List.range g.n).filter fun w =>
    g.adj (p.headD 0) w && g.adj (p.getLastD 0) w && !p.contains w && p.tail.dropLast.all fun y => !g.adj y w

theorem mem_closers {g : G} {p : List Nat} {w : Nat} :
    w ∈ closers g p ↔ (w < g.n ∧ g.adj (p.headD 0) w = true ∧ g.adj (p.getLastD 0) w = true ∧ w ∉ p ∧
      ∀ y ∈ p.tail.dropLast, g.adj y w = false) := by
  simp [closers, List.mem_filter, and_assoc]

def allIndCycleSeqs (g : G) (c : Nat) : List (List Nat) :=
  (allInducedPaths g (c - 2)).flatMap fun p => (closers g p).map (· :: p)

variable {g : G}

theorem mem_allIndCycleSeqs (hsym : ∀ u v, g.adj u v = g.adj v u) {c : Nat} (hc : 3 ≤ c) {q : List Nat} :
    q ∈ allIndCycleSeqs g c ↔ IsIndCycleSeq g c q := by
  simp only [allIndCycleSeqs, List.mem_flatMap, List.mem_map]
  constructor
  · rintro ⟨p, hp, w, hw, rfl⟩
    obtain ⟨hlen, hnd, hrng, hchain, hch⟩ := mem_allInducedPaths.1 hp
    obtain ⟨hwn, h1, h2, h3, h4⟩ := mem_closers.1 hw
    have hne : p ≠ [] := by intro h; rw [h] at hlen; simp at hlen
    obtain ⟨a, t, rfl⟩ := List.exists_cons_of_ne_nil hne
    refine ⟨⟨by simp at hlen ⊢; omega, List.nodup_cons.2 ⟨h3, hnd⟩, ?_, ⟨h1, hchain⟩, ?_⟩, ?_, by simp at hlen ⊢; omega⟩
    · intro x hx
      rcases List.mem_cons.1 hx with rfl | hx
      · exact hwn
      · exact hrng x hx
    · rw [getLastD_cons_of_ne_nil (List.cons_ne_nil a t), List.headD_cons, hsym]; exact h2
    · simp only [chordlessCyc, Bool.and_eq_true, List.all_eq_true, Bool.not_eq_true']
      exact ⟨fun y hy => by rw [hsym]; exact h4 y hy, hch⟩
  · rintro ⟨⟨h1, h2, h3, h4, h5⟩, hch, hlen⟩
    have hne : q ≠ [] := by intro h; rw [h] at h1; simp at h1
    obtain ⟨w, p, rfl⟩ := List.exists_cons_of_ne_nil hne
    have hpne : p ≠ [] := by intro h; rw [h] at h1; simp at h1
    obtain ⟨a, t, rfl⟩ := List.exists_cons_of_ne_nil hpne
    simp only [chordlessCyc, Bool.and_eq_true, List.all_eq_true, Bool.not_eq_true'] at hch
    obtain ⟨hnd1, hnd2⟩ := List.nodup_cons.1 h2
    refine ⟨a :: t, mem_allInducedPaths.2 ⟨by simp at hlen ⊢; omega, hnd2,
      fun x hx => h3 x (List.mem_cons_of_mem _ hx), h4.2, hch.2⟩, w, mem_closers.2 ⟨h3 w List.mem_cons_self, h4.1, ?_, hnd1, ?_⟩, rfl⟩
    · rw [getLastD_cons_of_ne_nil (List.cons_ne_nil a t), List.headD_cons] at h5
      rw [hsym]; exact h5
    · intro y hy
      rw [hsym]; exact hch.1 y hy

theorem nodup_allIndCycleSeqs (c : Nat) : (allIndCycleSeqs g c).Nodup := by
  unfold allIndCycleSeqs
  rw [List.nodup_flatMap]
  constructor
  · intro p _
    apply List.Nodup.map
    · intro a b hab; simpa using hab
    · exact List.nodup_range.filter _
  · refine List.Pairwise.imp ?_ (nodup_allInducedPaths (c - 2))
    intro p p' hne
    simp only [Function.onFun]
    rw [List.disjoint_left]
    intro q hq hq'
    obtain ⟨w, _, rfl⟩ := List.mem_map.1 hq
    obtain ⟨w', _, h⟩ := List.mem_map.1 hq'
    simp at h
    exact hne h.2.symm

theorem closers_sum (hsym : ∀ u v, g.adj u v = g.adj v u) {c : Nat} (hc : 3 ≤ c) :
    ((allInducedPaths g (c - 2)).map fun p => (closers g p).length).sum = 2 * c * numInducedCycles g c := by
  rw [← indCycleSeq_count hsym c (nodup_allIndCycleSeqs c) (fun q => mem_allIndCycleSeqs hsym hc)]
  unfold allIndCycleSeqs
  rw [List.length_flatMap]
  congr 1
  apply List.map_congr_left
  intro p _
  simp

end GDist
