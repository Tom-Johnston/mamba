import Mamba.Lemmas.DistanceBiconTotal
import Mathlib.Logic.Function.Iterate
/-!
# DFS-tree invariant of the `BiconnectedComponents` model (stack = root path, no cross edges)

`Anc tp a x`: `a` is `x` or an ancestor of `x` under the parent function `tp` (the root `0` is its own parent).
`StackPath tp l`: every entry of `l` but the last is a non-root vertex followed by its parent, the last is the root.
-/
namespace GDist
open GraphSpec Model

def Anc (tp : Nat → Nat) (a x : Nat) : Prop := ∃ k, tp^[k] x = a

def StackPath (tp : Nat → Nat) : List Nat → Prop
  | [] => True
  | [x] => x = 0
  | x :: y :: t => tp x = y ∧ x ≠ 0 ∧ StackPath tp (y :: t)

/-- the DFS-tree invariant, `tp` being the parent function of the tree (a ghost: `parents[x]` is overwritten when the
block of `x` is emitted): every visited non-root vertex hangs one level below its parent by an edge (`tree`); the stack is
the tree path from the current vertex to the root, depths increasing towards the top (`path`, `svis`, `sdec`); a vertex
that has left the stack has all its neighbours visited (`fin`); edges between visited vertices join an ancestor and a
descendant (`nocross`); the neighbours of the parent of a stack vertex `x` that are smaller than `x` are visited (`first`:
neighbours are scanned in increasing order); on the stack `parents[x]` still is the tree parent and `lowpoints[x]` still
is `depths[x]` (`pastk`, `pa0`, `lostk`) -/
structure DT (h : G) (st : BicSt) (tp : Nat → Nat) : Prop where
  ok : BOk h.n st
  root : dI st 0 = 0
  tp0 : tp 0 = 0
  tree : ∀ x, x < h.n → bvis st x → x ≠ 0 →
    tp x < h.n ∧ bvis st (tp x) ∧ h.adj (tp x) x = true ∧ dI st x = dI st (tp x) + 1
  dnn : ∀ x, bvis st x → 0 ≤ dI st x
  path : StackPath tp st.toCheck
  svis : ∀ x ∈ st.toCheck, x < h.n ∧ bvis st x
  sdec : st.toCheck.Pairwise fun up lw => dI st lw < dI st up
  fin : ∀ x, x < h.n → bvis st x → x ∉ st.toCheck → ∀ w, h.adj x w = true → w < h.n → bvis st w
  nocross : ∀ x y, x < h.n → y < h.n → bvis st x → bvis st y → h.adj x y = true → Anc tp x y ∨ Anc tp y x
  first : ∀ x ∈ st.toCheck, x ≠ 0 → ∀ w, h.adj (tp x) w = true → w < x → bvis st w
  pastk : ∀ x ∈ st.toCheck, x ≠ 0 → pa st x = (tp x : Int)
  pa0 : pa st 0 = 0
  lostk : ∀ x ∈ st.toCheck, lo st x = dI st x

variable {h : G} {st : BicSt} {tp : Nat → Nat}

theorem Anc.refl (tp : Nat → Nat) (x : Nat) : Anc tp x x := ⟨0, rfl⟩

theorem Anc.parent {a x : Nat} (h1 : Anc tp a (tp x)) : Anc tp a x := by
  obtain ⟨k, hk⟩ := h1
  exact ⟨k + 1, by rw [Function.iterate_succ_apply]; exact hk⟩

theorem Anc.trans {a b x : Nat} (h1 : Anc tp a b) (h2 : Anc tp b x) : Anc tp a x := by
  obtain ⟨j, hj⟩ := h1
  obtain ⟨k, hk⟩ := h2
  exact ⟨j + k, by rw [Function.iterate_add_apply, hk, hj]⟩

theorem DT.root_vis (dt : DT h st tp) : bvis st 0 := by
  unfold bvis; rw [dt.root]; omega

theorem DT.top (dt : DT h st tp) {v : Nat} {rest : List Nat} (hstk : st.toCheck = v :: rest) :
    v ∈ st.toCheck ∧ v < h.n ∧ bvis st v :=
  have hvs : v ∈ st.toCheck := by rw [hstk]; exact List.mem_cons_self
  ⟨hvs, dt.svis v hvs⟩

theorem DT.iter_vis (dt : DT h st tp) {x : Nat} (hx : x < h.n) (hv : bvis st x) :
    ∀ k, tp^[k] x < h.n ∧ bvis st (tp^[k] x) := by
  intro k
  induction k with
  | zero => exact ⟨hx, hv⟩
  | succ k ih =>
    rw [Function.iterate_succ_apply']
    by_cases h0 : tp^[k] x = 0
    · rw [h0, dt.tp0]; rw [h0] at ih; exact ih
    · obtain ⟨h1, h2, _, _⟩ := dt.tree _ ih.1 ih.2 h0
      exact ⟨h1, h2⟩

theorem DT.anc_depth (dt : DT h st tp) {a x : Nat} (hx : x < h.n) (hv : bvis st x) (ha : Anc tp a x) :
    dI st a ≤ dI st x := by
  obtain ⟨k, rfl⟩ := ha
  induction k with
  | zero => exact Int.le_refl _
  | succ k ih =>
    rw [Function.iterate_succ_apply']
    obtain ⟨h1, h2⟩ := dt.iter_vis hx hv k
    by_cases h0 : tp^[k] x = 0
    · rw [h0, dt.tp0]; rw [h0] at ih; exact ih
    · obtain ⟨_, _, _, h4⟩ := dt.tree _ h1 h2 h0
      omega

theorem stackPath_anc : ∀ (l : List Nat) (v : Nat), StackPath tp (v :: l) → ∀ y ∈ v :: l, Anc tp y v
  | [], v, _, y, hy => by simp at hy; subst hy; exact Anc.refl _ _
  | w :: l, v, hp, y, hy => by
    obtain ⟨h1, _, h3⟩ := hp
    rcases List.mem_cons.1 hy with rfl | hy
    · exact Anc.refl _ _
    · have := stackPath_anc l w h3 y hy
      exact Anc.parent (by rw [h1]; exact this)

theorem stackPath_tail : ∀ {v : Nat} {l : List Nat}, StackPath tp (v :: l) → StackPath tp l
  | _, [], _ => trivial
  | _, _ :: _, hp => hp.2.2

theorem iterate_update (dt : DT h st tp) {u v x : Nat} (hu : ¬ bvis st u) (hx : x < h.n) (hv : bvis st x) :
    ∀ k, (Function.update tp u v)^[k] x = tp^[k] x := by
  intro k
  induction k with
  | zero => rfl
  | succ k ih =>
    rw [Function.iterate_succ_apply', Function.iterate_succ_apply', ih]
    have hne : tp^[k] x ≠ u := fun h0 => hu (h0 ▸ (dt.iter_vis hx hv k).2)
    simp [Function.update, hne]

theorem anc_update (dt : DT h st tp) {u v a x : Nat} (hu : ¬ bvis st u) (hx : x < h.n) (hv : bvis st x)
    (ha : Anc tp a x) : Anc (Function.update tp u v) a x := by
  obtain ⟨k, hk⟩ := ha
  exact ⟨k, by rw [iterate_update dt hu hx hv]; exact hk⟩

theorem anc_linear {a b z : Nat} (ha : Anc tp a z) (hb : Anc tp b z) : Anc tp a b ∨ Anc tp b a := by
  obtain ⟨j, hj⟩ := ha
  obtain ⟨k, hk⟩ := hb
  rcases Nat.le_total j k with hle | hle
  · right
    refine ⟨k - j, ?_⟩
    rw [← hj, ← Function.iterate_add_apply, Nat.sub_add_cancel hle, hk]
  · left
    refine ⟨j - k, ?_⟩
    rw [← hk, ← Function.iterate_add_apply, Nat.sub_add_cancel hle, hj]

theorem anc_parent_of_ne {c z : Nat} (ha : Anc tp c z) (hne : z ≠ c) : Anc tp c (tp z) := by
  obtain ⟨k, hk⟩ := ha
  cases k with
  | zero => exact absurd hk hne
  | succ k => exact ⟨k, by rw [← Function.iterate_succ_apply]; exact hk⟩

theorem stackPath_iter (tp0 : tp 0 = 0) : ∀ (l : List Nat) (v : Nat), StackPath tp (v :: l) →
    ∀ k, tp^[k] v ∈ v :: l
  | [], v, hp, k => by
    have hv : v = 0 := hp
    subst hv
    rw [Function.iterate_fixed tp0]; simp
  | w :: l, v, hp, k => by
    obtain ⟨h1, _, h3⟩ := hp
    cases k with
    | zero => simp
    | succ k =>
      rw [Function.iterate_succ_apply, h1]
      exact List.mem_cons_of_mem _ (stackPath_iter tp0 l w h3 k)

theorem DT.anc_of_top_on_stack (dt : DT h st tp) {v : Nat} {rest : List Nat} (hstk : st.toCheck = v :: rest)
    {a : Nat} (ha : Anc tp a v) : a ∈ st.toCheck := by
  obtain ⟨k, rfl⟩ := ha
  have hp := dt.path
  rw [hstk] at hp ⊢
  exact stackPath_iter dt.tp0 rest v hp k

theorem anc_child {x z : Nat} (ha : Anc tp x z) (hne : z ≠ x) : ∃ c, tp c = x ∧ c ≠ x ∧ Anc tp c z := by
  obtain ⟨k, hk⟩ := ha
  induction k generalizing z with
  | zero => exact absurd hk hne
  | succ k ih =>
    rw [Function.iterate_succ_apply] at hk
    by_cases hz : tp z = x
    · exact ⟨z, hz, hne, Anc.refl _ _⟩
    · obtain ⟨c, h1, h2, h3⟩ := ih hz hk
      exact ⟨c, h1, h2, Anc.parent h3⟩

theorem stackPath_mem_anc (tp0 : tp 0 = 0) : ∀ (l : List Nat), StackPath tp l → ∀ z ∈ l, ∀ k, tp^[k] z ∈ l
  | [], _, z, hz, _ => by cases hz
  | [x], hp, z, hz, k => by
    have hx : x = 0 := hp
    subst hx
    have hz0 : z = 0 := by simpa using hz
    subst hz0
    exact stackPath_iter tp0 [] 0 hp k
  | x :: y :: t, hp, z, hz, k => by
    rcases List.mem_cons.1 hz with rfl | hz
    · exact stackPath_iter tp0 (y :: t) z hp k
    · exact List.mem_cons_of_mem _ (stackPath_mem_anc tp0 (y :: t) hp.2.2 z hz k)

theorem DT.sub_finished (dt : DT h st tp) {x z : Nat} (hxs : x ∉ st.toCheck) (ha : Anc tp x z) :
    z ∉ st.toCheck := by
  intro hz
  obtain ⟨k, rfl⟩ := ha
  exact hxs (stackPath_mem_anc dt.tp0 _ dt.path z hz k)

theorem anc_update_iff (dt : DT h st tp) {u v a x : Nat} (hu : ¬ bvis st u) (hx : x < h.n) (hv : bvis st x) :
    Anc (Function.update tp u v) a x ↔ Anc tp a x := by
  constructor
  · rintro ⟨k, hk⟩; exact ⟨k, by rw [← iterate_update dt hu hx hv]; exact hk⟩
  · exact anc_update dt hu hx hv

theorem DT.anc_lt (dt : DT h st tp) {a x : Nat} (hx : x < h.n) (hv : bvis st x) (ha : Anc tp a x) (hne : a ≠ x) :
    dI st a < dI st x := by
  by_cases hx0 : x = 0
  · subst hx0
    obtain ⟨k, hk⟩ := ha
    rw [Function.iterate_fixed dt.tp0] at hk
    exact absurd hk.symm hne
  · obtain ⟨h1, h2, _, h4⟩ := dt.tree x hx hv hx0
    have := dt.anc_depth h1 h2 (anc_parent_of_ne ha (Ne.symm hne))
    omega

theorem DT.anc_vis (dt : DT h st tp) {a x : Nat} (hx : x < h.n) (hv : bvis st x) (ha : Anc tp a x) :
    a < h.n ∧ bvis st a := by
  obtain ⟨k, rfl⟩ := ha
  exact dt.iter_vis hx hv k

theorem DT.anc_antisymm (dt : DT h st tp) {a x : Nat} (hx : x < h.n) (hv : bvis st x) (h1 : Anc tp a x)
    (h2 : Anc tp x a) : a = x := by
  by_contra hne
  obtain ⟨ha, hav⟩ := dt.anc_vis hx hv h1
  have l1 := dt.anc_lt hx hv h1 hne
  have l2 := dt.anc_lt ha hav h2 (Ne.symm hne)
  omega

theorem anc_of_parent {c v : Nat} (hc : tp c = v) : Anc tp v c := ⟨1, by simpa using hc⟩

theorem DT.top_max (dt : DT h st tp) {v : Nat} {rest : List Nat} (hstk : st.toCheck = v :: rest) :
    ∀ y ∈ rest, dI st y < dI st v := by
  have := dt.sdec
  rw [hstk] at this
  exact (List.pairwise_cons.1 this).1

theorem DT.top_not_in_rest (dt : DT h st tp) {v : Nat} {rest : List Nat} (hstk : st.toCheck = v :: rest) :
    v ∉ rest := fun hm => by
  have := dt.top_max hstk v hm
  omega

theorem DT.stack_depth_le (dt : DT h st tp) {v : Nat} {rest : List Nat} (hstk : st.toCheck = v :: rest)
    {y : Nat} (hy : y ∈ st.toCheck) : dI st y ≤ dI st v ∧ (dI st y = dI st v → y = v) := by
  rw [hstk] at hy
  rcases List.mem_cons.1 hy with rfl | hy
  · exact ⟨Int.le_refl _, fun _ => rfl⟩
  · have := dt.top_max hstk y hy
    exact ⟨by omega, fun h0 => by omega⟩

theorem DT.child_of_top_fin (dt : DT h st tp) {v c : Nat} {rest : List Nat} (hstk : st.toCheck = v :: rest)
    (htc : tp c = v) (hne : c ≠ v) : c ∉ st.toCheck := by
  intro hm
  have hp := dt.path
  rw [hstk] at hp hm
  have h1 := stackPath_anc rest v hp c hm
  obtain ⟨hvs, hvn, hvv⟩ := dt.top hstk
  exact hne (dt.anc_antisymm hvn hvv h1 (anc_of_parent htc))

theorem DT.parent_of_top (dt : DT h st tp) {v : Nat} {rest : List Nat} (hstk : st.toCheck = v :: rest)
    (hv0 : v ≠ 0) : ∃ rest', rest = tp v :: rest' := by
  have hp := dt.path
  rw [hstk] at hp
  cases rest with
  | nil => exact absurd hp hv0
  | cons p rest' => exact ⟨rest', by rw [hp.1]⟩

theorem DT.bvis_descendSt (dt : DT h st tp) {v u : Nat} {rest cur : List Nat} (hstk : st.toCheck = v :: rest)
    (hu : u < h.n) (x : Nat) : bvis (descendSt st v u cur) x ↔ (x = u ∨ bvis st x) :=
  GDist.bvis_descendSt (by rw [dt.ok.dsz]; exact hu)
    (dt.dnn v (dt.svis v (by rw [hstk]; exact List.mem_cons_self)).2) x

end GDist
