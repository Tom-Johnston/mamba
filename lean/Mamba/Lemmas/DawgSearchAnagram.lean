import Mamba.Lemmas.DawgSearchSpec
/-!
# `AnagramSearcher` is lawful and accepts exactly the anagram matches (C13)

An `AnagramSearcher` may hold several `letterCount` entries for one letter (the odd comparator of the `sort.Slice`
call in `NewAnagramSearcher` can leave equal letters apart, and the `i > 1` test never merges the first two
elements), and `Backstep` gives a letter back to the *first* entry with that letter, not necessarily the one `Step`
took it from. All statements are therefore about the per-letter totals `tot`.
-/
namespace DawgSearch
open AnagramSearcher

def tot : List LetterCount → UInt8 → Int
  | [], _ => 0
  | e :: r, c => (if e.letter = c then e.count else 0) + tot r c

def NonNeg (cs : List LetterCount) : Prop := ∀ e ∈ cs, 0 ≤ e.count

theorem NonNeg.cons {e : LetterCount} {r : List LetterCount} : NonNeg (e :: r) ↔ 0 ≤ e.count ∧ NonNeg r :=
  List.forall_mem_cons

theorem tot_nonneg : ∀ (cs : List LetterCount) (c : UInt8), NonNeg cs → 0 ≤ tot cs c
  | [], _, _ => Int.le_refl 0
  | e :: r, c, h => by
    have h' := NonNeg.cons.1 h
    have := tot_nonneg r c h'.2
    show 0 ≤ (if e.letter = c then e.count else 0) + tot r c
    split
    · exact Int.add_nonneg h'.1 this
    · exact Int.add_nonneg (Int.le_refl 0) this

theorem tot_cons_add (e : LetterCount) (r : List LetterCount) (d : Int) (c : UInt8) :
    tot ({ e with count := e.count + d } :: r) c = tot (e :: r) c + if c = e.letter then d else 0 := by
  show (if e.letter = c then e.count + d else 0) + tot r c = (if e.letter = c then e.count else 0) + tot r c + _
  by_cases h : e.letter = c
  · rw [if_pos h, if_pos h, if_pos h.symm, Int.add_right_comm]
  · rw [if_neg h, if_neg h, if_neg (Ne.symm h), Int.add_zero]

theorem hasLetter_iff : ∀ (cs : List LetterCount) (b : UInt8), NonNeg cs → (hasLetter cs b = true ↔ 0 < tot cs b)
  | [], _, _ => ⟨fun h => absurd h Bool.false_ne_true, fun h => absurd h (Int.lt_irrefl 0)⟩
  | e :: r, b, h => by
    have h' := NonNeg.cons.1 h
    have hr := tot_nonneg r b h'.2
    have hcond : (e.letter == b && decide (e.count > 0)) = true ↔ e.letter = b ∧ e.count > 0 := by simp
    show hasLetter (e :: r) b = true ↔ 0 < (if e.letter = b then e.count else 0) + tot r b
    by_cases hc : e.letter = b ∧ e.count > 0
    · rw [hasLetter, if_pos (hcond.2 hc), if_pos hc.1]
      exact ⟨fun _ => Int.add_pos_of_pos_of_nonneg hc.2 hr, fun _ => rfl⟩
    · have h0 : (if e.letter = b then e.count else 0) = 0 := by
        split
        · next hl => exact Int.le_antisymm (Int.not_lt.1 fun hpos => hc ⟨hl, hpos⟩) h'.1
        · rfl
      rw [hasLetter, if_neg (mt hcond.1 hc), hasLetter_iff r b h'.2, h0, Int.zero_add]

theorem takeLetter_none : ∀ (cs : List LetterCount) (b : UInt8), takeLetter cs b = none ↔ hasLetter cs b = false
  | [], _ => by simp [takeLetter, hasLetter]
  | e :: r, b => by
    have ih := takeLetter_none r b
    simp only [takeLetter, hasLetter]
    split <;> simp [ih]

theorem takeLetter_some : ∀ (cs cs' : List LetterCount) (b : UInt8), NonNeg cs → takeLetter cs b = some cs' →
    NonNeg cs' ∧ (∀ c, tot cs' c = tot cs c - (if c = b then 1 else 0)) ∧
      cs'.map (·.letter) = cs.map (·.letter)
  | [], _, _, _, h => nomatch h
  | e :: r, cs', b, hn, h => by
    have hn' := NonNeg.cons.1 hn
    rw [takeLetter] at h
    split at h
    · next hc =>
      have hc' : e.letter = b ∧ e.count > 0 := by simpa using hc
      cases h
      refine ⟨NonNeg.cons.2 ⟨Int.sub_nonneg_of_le hc'.2, hn'.2⟩, fun c => ?_, rfl⟩
      show tot ({ e with count := e.count + -1 } :: r) c = _
      rw [tot_cons_add, hc'.1]
      split <;> rfl
    · cases ht : takeLetter r b with
      | none => rw [ht] at h; cases h
      | some r' =>
        rw [ht] at h
        cases h
        obtain ⟨h1, h2, h3⟩ := takeLetter_some r r' b hn'.2 ht
        refine ⟨NonNeg.cons.2 ⟨hn'.1, h1⟩, fun c => ?_, congrArg (e.letter :: ·) h3⟩
        show _ + tot r' c = _ + tot r c - _
        rw [h2 c, Int.add_sub_assoc]

theorem giveLetter_spec : ∀ (cs : List LetterCount) (b : UInt8), NonNeg cs → b ∈ cs.map (·.letter) →
    NonNeg (giveLetter cs b) ∧ (∀ c, tot (giveLetter cs b) c = tot cs c + (if c = b then 1 else 0)) ∧
      (giveLetter cs b).map (·.letter) = cs.map (·.letter)
  | [], _, _, h => nomatch h
  | e :: r, b, hn, hm => by
    have hn' := NonNeg.cons.1 hn
    rw [giveLetter]
    by_cases hl : e.letter = b
    · rw [if_pos (beq_iff_eq.2 hl)]
      refine ⟨NonNeg.cons.2 ⟨Int.add_nonneg hn'.1 (by decide), hn'.2⟩, fun c => ?_, rfl⟩
      rw [tot_cons_add, hl]
    · rw [if_neg (mt beq_iff_eq.1 hl)]
      obtain ⟨h1, h2, h3⟩ := giveLetter_spec r b hn'.2
        ((List.mem_cons.1 hm).resolve_left (fun h => hl h.symm))
      refine ⟨NonNeg.cons.2 ⟨hn'.1, h1⟩, fun c => ?_, congrArg (e.letter :: ·) h3⟩
      show _ + tot (giveLetter r b) c = _ + tot r c + _
      rw [h2 c, Int.add_assoc]

/-- letters still available after the (reversed) path `rp`, starting from the multiset `L` -/
def remL (L : List UInt8) : Word → List UInt8
  | [] => L
  | c :: rp => (remL L rp).erase c

def blanksLeft (L : List UInt8) (B : Int) : Word → Int
  | [] => B
  | c :: rp => if c ∈ remL L rp then blanksLeft L B rp else blanksLeft L B rp - 1

/-- the searcher's `currPath` (last element first) after the path -/
def pathOf (L : List UInt8) (blank : UInt8) : Word → List UInt8
  | [] => []
  | c :: rp => (if c ∈ remL L rp then c else blank) :: pathOf L blank rp

theorem pathOf_length (L : List UInt8) (blank : UInt8) : ∀ rp, (pathOf L blank rp).length = rp.length
  | [] => rfl
  | c :: rp => by simp [pathOf, pathOf_length L blank rp]

theorem remL_subset (L : List UInt8) : ∀ rp c, c ∈ remL L rp → c ∈ L
  | [], _, h => h
  | _ :: rp, c, h => remL_subset L rp c (List.mem_of_mem_erase h)

/-- what an `AnagramSearcher` with letters `L` (no blank among them), `B` blanks and target length `n` does as a
function of the path -/
def anagramSpec (L : List UInt8) (B : Int) (blank : UInt8) (n : Nat) : Spec SState where
  R rp s := ∃ a, s = .ana a ∧ a.blank = blank ∧ a.targetLength = n ∧ a.currPath = pathOf L blank rp ∧
    a.blanks = blanksLeft L B rp ∧ NonNeg a.counts ∧ (∀ c, tot a.counts c = (remL L rp).count c) ∧
    (∀ c ∈ L, c ∈ a.counts.map (·.letter))
  A rp c := decide (rp.length < n) && (decide (0 < blanksLeft L B rp) || decide (c ∈ remL L rp))
  W rp := n == rp.length

theorem hasLetter_eq_mem {cs : List LetterCount} {M : List UInt8} (h5 : NonNeg cs)
    (h6 : ∀ c, tot cs c = (M.count c : Int)) (c : UInt8) : hasLetter cs c = true ↔ c ∈ M := by
  rw [hasLetter_iff _ _ h5, h6 c, ← List.count_pos_iff]
  exact Int.natCast_pos

theorem count_erase_int {M : List UInt8} {c : UInt8} (hin : c ∈ M) (d : UInt8) :
    ((M.erase c).count d : Int) = (M.count d : Int) - (if d = c then 1 else 0) := by
  by_cases hdc : d = c
  · subst hdc
    have := List.count_pos_iff.2 hin
    rw [if_pos rfl, List.count_erase_self]
    omega
  · rw [if_neg hdc, List.count_erase_of_ne hdc, Int.sub_zero]

theorem anagramSpec_lawful (L : List UInt8) (B : Int) (blank : UInt8) (n : Nat) (hb : blank ∉ L) :
    Lawful goOps (anagramSpec L B blank n) where
  allowStep := by
    rintro rp s c ⟨a, rfl, h1, h2, h3, h4, h5, h6, h7⟩
    simp only [goOps, AnagramSearcher.allowStep, anagramSpec, h2, h3, pathOf_length, h4]
    by_cases hn : n ≤ rp.length
    · have : ¬ rp.length < n := Nat.not_lt.2 hn
      simp [hn, this]
    · have : rp.length < n := Nat.not_le.1 hn
      simp only [hn, if_false, this, decide_true, Bool.true_and]
      by_cases hbl : 0 < blanksLeft L B rp
      · simp [hbl]
      · have : ¬ blanksLeft L B rp > 0 := hbl
        simp only [this, if_false, decide_false, Bool.false_or]
        congr 1
        rw [Bool.eq_iff_iff, hasLetter_eq_mem h5 h6 c, decide_eq_true_iff]
  step := by
    rintro rp s c ⟨a, rfl, h1, h2, h3, h4, h5, h6, h7⟩ _
    simp only [goOps, AnagramSearcher.step]
    cases ht : takeLetter a.counts c with
    | none =>
      have hnot : c ∉ remL L rp := fun hc =>
        Bool.false_ne_true ((takeLetter_none _ _).1 ht ▸ (hasLetter_eq_mem h5 h6 c).2 hc)
      refine ⟨_, rfl, _, rfl, h1, h2, ?_, ?_, h5, ?_, h7⟩
      · show a.blank :: a.currPath = (if c ∈ remL L rp then c else blank) :: pathOf L blank rp
        rw [if_neg hnot, h1, h3]
      · show a.blanks - 1 = if c ∈ remL L rp then blanksLeft L B rp else blanksLeft L B rp - 1
        rw [if_neg hnot, h4]
      · intro d
        show _ = (((remL L rp).erase c).count d : Int)
        rw [List.erase_of_not_mem hnot]
        exact h6 d
    | some cs' =>
      have hin : c ∈ remL L rp := by
        refine (hasLetter_eq_mem h5 h6 c).1 ?_
        cases hx : hasLetter a.counts c with
        | true => rfl
        | false => rw [(takeLetter_none _ _).2 hx] at ht; cases ht
      obtain ⟨g1, g2, g3⟩ := takeLetter_some a.counts cs' c h5 ht
      refine ⟨_, rfl, _, rfl, h1, h2, ?_, ?_, g1, ?_, ?_⟩
      · show c :: a.currPath = (if c ∈ remL L rp then c else blank) :: pathOf L blank rp
        rw [if_pos hin, h3]
      · show a.blanks = if c ∈ remL L rp then blanksLeft L B rp else blanksLeft L B rp - 1
        rw [if_pos hin, h4]
      · intro d
        rw [g2 d, h6 d]
        exact (count_erase_int hin d).symm
      · rw [g3]; exact h7
  backstep := by
    rintro rp s c ⟨a, rfl, h1, h2, h3, h4, h5, h6, h7⟩
    simp only [goOps, AnagramSearcher.backstep, h3, pathOf]
    by_cases hin : c ∈ remL L rp
    · have hcb : c ≠ blank := fun h => hb (h ▸ remL_subset L rp c hin)
      have hcb' : (c == a.blank) = false := by simp [h1, hcb]
      simp only [hin, if_true, hcb', Bool.false_eq_true, if_false, Outcome.bind_ok, Outcome.pure_eq]
      obtain ⟨g1, g2, g3⟩ := giveLetter_spec a.counts c h5 (h7 c (remL_subset L rp c hin))
      refine ⟨_, rfl, _, rfl, h1, h2, rfl, ?_, g1, ?_, ?_⟩
      · rw [h4]; exact if_pos hin
      · intro d
        rw [g2 d, h6 d]
        exact (count_erase_int hin d).symm ▸ Int.sub_add_cancel _ _
      · rw [g3]; exact h7
    · simp only [hin, if_false, h1, beq_self_eq_true, if_true, Outcome.bind_ok, Outcome.pure_eq]
      refine ⟨_, rfl, _, rfl, rfl, h2, rfl, ?_, h5, ?_, h7⟩
      · rw [h4]
        show (if c ∈ remL L rp then blanksLeft L B rp else blanksLeft L B rp - 1) + 1 = _
        rw [if_neg hin, Int.sub_add_cancel]
      · intro d
        rw [h6 d]
        show (((remL L rp).erase c).count d : Int) = _
        rw [List.erase_of_not_mem hin]
  allowWord := by
    rintro rp s ⟨a, rfl, h1, h2, h3, h4, h5, h6, h7⟩
    simp [goOps, AnagramSearcher.allowWord, anagramSpec, h2, h3, pathOf_length]
  chosen := by
    rintro rp s ⟨a, rfl, h⟩
    exact ⟨.ana a, rfl, a, rfl, h⟩

theorem len_split {a b n : Nat} : (a < n ∧ a + 1 + b = n) ↔ a + (b + 1) = n := by omega

/-- a letter not among the remaining ones costs a blank -/
theorem blank_split {d : Nat} {bl : Int} : (0 < bl ∧ (d : Int) ≤ bl - 1) ↔ ((d + 1 : Nat) : Int) ≤ bl := by omega

theorem anagramSpec_accFrom (L : List UInt8) (B : Int) (blank : UInt8) (n : Nat) : ∀ (w rp : Word),
    0 ≤ blanksLeft L B rp →
    ((anagramSpec L B blank n).accFrom rp w = true ↔
      rp.length + w.length = n ∧ (deficit (remL L rp) w : Int) ≤ blanksLeft L B rp)
  | [], rp, h0 => by
    show (n == rp.length) = true ↔ _
    rw [beq_iff_eq]
    exact ⟨fun h => ⟨h.symm, h0⟩, fun h => h.1.symm⟩
  | c :: w, rp, h0 => by
    have hA : (anagramSpec L B blank n).A rp c
        = (decide (rp.length < n) && (decide (0 < blanksLeft L B rp) || decide (c ∈ remL L rp))) := rfl
    simp only [Spec.accFrom, Bool.and_eq_true, hA, decide_eq_true_eq, Bool.or_eq_true, List.length_cons]
    by_cases hin : c ∈ remL L rp
    · have e2 : blanksLeft L B (c :: rp) = blanksLeft L B rp := if_pos hin
      have e3 : deficit (remL L rp) (c :: w) = deficit ((remL L rp).erase c) w := if_pos hin
      rw [anagramSpec_accFrom L B blank n w (c :: rp) (e2 ▸ h0), e2, e3, ← len_split (a := rp.length)]
      simp only [hin, or_true, and_true, List.length_cons, remL, and_assoc]
    · have e1 : remL L (c :: rp) = remL L rp := List.erase_of_not_mem hin
      have e2 : blanksLeft L B (c :: rp) = blanksLeft L B rp - 1 := if_neg hin
      have e3 : deficit (remL L rp) (c :: w) = deficit (remL L rp) w + 1 := if_neg hin
      rw [e3, ← len_split (a := rp.length), ← blank_split]
      simp only [hin, or_false]
      by_cases hpos : 0 < blanksLeft L B rp
      · rw [anagramSpec_accFrom L B blank n w (c :: rp) (e2 ▸ Int.sub_nonneg_of_le hpos), e1, e2]
        simp only [List.length_cons, and_assoc, and_left_comm]
      · exact ⟨fun h => absurd h.1.2 hpos, fun h => absurd h.2.1 hpos⟩

theorem anagramSpec_accepts (L : List UInt8) (B : Nat) (blank : UInt8) (n : Nat) (w : Word) :
    (anagramSpec L B blank n).accepts w = (w.length == n && decide (deficit L w ≤ B)) := by
  rw [Bool.eq_iff_iff, Spec.accepts, anagramSpec_accFrom L B blank n w [] (by simp [blanksLeft])]
  simp [remL, blanksLeft]

theorem swapAdj_perm : ∀ (l : List UInt8) (j : Nat), (swapAdj l j).Perm l
  | [], _ => by simp [swapAdj]
  | [a], 0 => by simp [swapAdj]
  | a :: b :: r, 0 => by simpa [swapAdj] using List.Perm.swap a b r
  | a :: r, j + 1 => by
    cases r with
    | nil => simp [swapAdj]
    | cons b r' => simpa [swapAdj] using swapAdj_perm (b :: r') j

theorem insInner_perm (orig : List UInt8) : ∀ (j : Nat) (tmp : List UInt8), (insInner orig tmp j).Perm tmp
  | 0, tmp => by simp [insInner]
  | j + 1, tmp => by
    simp only [insInner]
    split
    · split
      · exact (insInner_perm orig j _).trans (swapAdj_perm tmp j)
      · exact List.Perm.refl _
    · exact List.Perm.refl _

theorem insOuter_perm (orig : List UInt8) : ∀ (k i : Nat) (tmp : List UInt8), (insOuter orig tmp i k).Perm tmp
  | 0, _, tmp => by simp [insOuter]
  | k + 1, i, tmp => by
    simp only [insOuter]
    exact (insOuter_perm orig k (i + 1) _).trans (insInner_perm orig i tmp)

theorem quirkSort_perm (a : List UInt8) : (quirkSort a).Perm a := insOuter_perm a _ _ _

theorem tot_append (cs ds : List LetterCount) (c : UInt8) : tot (cs ++ ds) c = tot cs c + tot ds c := by
  induction cs with
  | nil => simp [tot]
  | cons e r ih => simp only [List.cons_append, tot, ih]; omega

theorem NonNeg.append_singleton {cs : List LetterCount} {e : LetterCount} (h : NonNeg cs) (he : 0 ≤ e.count) :
    NonNeg (cs ++ [e]) := fun x hx =>
  (List.mem_append.1 hx).elim (h x) (fun hx => List.mem_singleton.1 hx ▸ he)

theorem tot_append_singleton (cs : List LetterCount) (e : LetterCount) (c : UInt8) :
    tot (cs ++ [e]) c = tot cs c + if e.letter = c then e.count else 0 := by
  rw [tot_append]
  exact congrArg _ (Int.add_zero _)

theorem bumpLast_spec : ∀ (cs : List LetterCount) (e : LetterCount),
    bumpLast (cs ++ [e]) = .ok (cs ++ [{ e with count := e.count + 1 }])
  | [], e => rfl
  | [d], e => by simp [bumpLast]
  | d :: d' :: r, e => by
    have := bumpLast_spec (d' :: r) e
    simp only [List.cons_append] at this ⊢
    simp [bumpLast, this]

/-- the invariant of the counting loop: if the previous element was a non-blank letter, it is the letter of the
last entry -/
def LastIs (blank : UInt8) (prev : Option UInt8) (cs : List LetterCount) : Prop :=
  ∀ x, prev = some x → x ≠ blank → ∃ init e, cs = init ++ [e] ∧ e.letter = x

theorem countLoop_spec (blank : UInt8) : ∀ (tmp : List UInt8) (i : Nat) (prev : Option UInt8)
    (cs : List LetterCount) (bl : Int), NonNeg cs → LastIs blank prev cs →
    ∃ cs' bl', countLoop blank tmp i prev cs bl = .ok (cs', bl') ∧ NonNeg cs' ∧
      bl' = bl + (tmp.filter (· == blank)).length ∧
      (∀ c, tot cs' c = tot cs c + (tmp.filter (· != blank)).count c) ∧
      (∀ c, c ∈ cs.map (·.letter) ∨ c ∈ tmp.filter (· != blank) → c ∈ cs'.map (·.letter))
  | [], i, prev, cs, bl, hn, _ =>
    ⟨cs, bl, rfl, hn, (Int.add_zero bl).symm, fun c => (Int.add_zero _).symm,
      fun c hc => hc.resolve_right List.not_mem_nil⟩
  | l :: r, i, prev, cs, bl, hn, hlast => by
    by_cases hb : l = blank
    · subst hb
      obtain ⟨cs', bl', h1, h2, h3, h4, h5⟩ := countLoop_spec l r (i + 1) (some l) cs (bl + 1) hn
        (fun x hx hne => absurd (Option.some.inj hx).symm hne)
      have hf : (l :: r).filter (· != l) = r.filter (· != l) :=
        List.filter_cons_of_neg (by rw [bne_self_eq_false]; exact Bool.false_ne_true)
      have hg : (l :: r).filter (· == l) = l :: r.filter (· == l) := List.filter_cons_of_pos (beq_self_eq_true l)
      refine ⟨cs', bl', ?_, h2, ?_, hf ▸ h4, hf ▸ h5⟩
      · rw [countLoop, if_pos (beq_self_eq_true l)]; exact h1
      · rw [h3, hg, List.length_cons, Int.natCast_add, Int.add_assoc, Int.add_comm 1]
        rfl
    · have hf : (l :: r).filter (· != blank) = l :: r.filter (· != blank) :=
        List.filter_cons_of_pos (bne_iff_ne.2 hb)
      have hg : (l :: r).filter (· == blank) = r.filter (· == blank) :=
        List.filter_cons_of_neg (mt beq_iff_eq.1 hb)
      obtain ⟨cs₁, hstep, hn₁, htot₁, hlet₁, hlast₁⟩ : ∃ cs₁,
          countLoop blank (l :: r) i prev cs bl = countLoop blank r (i + 1) (some l) cs₁ bl ∧ NonNeg cs₁ ∧
          (∀ c, tot cs₁ c = tot cs c + if l = c then 1 else 0) ∧
          (∀ c, c ∈ cs.map (·.letter) ∨ c = l → c ∈ cs₁.map (·.letter)) ∧ LastIs blank (some l) cs₁ := by
        rw [countLoop, if_neg (mt beq_iff_eq.1 hb)]
        by_cases hq : (decide (i > 1) && prev == some l) = true
        · rw [if_pos hq]
          obtain ⟨init, e, rfl, hel⟩ := hlast l (beq_iff_eq.1 (Bool.and_eq_true _ _ ▸ hq).2) hb
          refine ⟨init ++ [{ e with count := e.count + 1 }], by rw [bumpLast_spec]; rfl, ?_, ?_, ?_,
            fun x hx _ => ⟨init, _, rfl, Option.some.inj hx ▸ hel⟩⟩
          · exact NonNeg.append_singleton (fun x hx => hn x (List.mem_append_left _ hx))
              (Int.add_nonneg (hn e (List.mem_append_right _ (List.mem_singleton.2 rfl))) (by decide))
          · intro c
            rw [tot_append_singleton, tot_append_singleton, hel, Int.add_assoc]
            split <;> rfl
          · intro c hc
            rw [List.map_append] at hc ⊢
            rcases hc with hc | rfl
            · exact hc
            · exact List.mem_append_right _ (List.mem_singleton.2 hel.symm)
        · rw [if_neg hq]
          refine ⟨cs ++ [⟨l, 1⟩], rfl, ?_, ?_, ?_, fun x hx _ => ⟨cs, _, rfl, Option.some.inj hx⟩⟩
          · exact NonNeg.append_singleton hn (show (0 : Int) ≤ 1 by decide)
          · exact fun c => tot_append_singleton cs ⟨l, 1⟩ c
          · intro c hc
            rw [List.map_append]
            rcases hc with hc | rfl
            · exact List.mem_append_left _ hc
            · exact List.mem_append_right _ (List.mem_singleton.2 rfl)
      obtain ⟨cs', bl', h1, h2, h3, h4, h5⟩ := countLoop_spec blank r (i + 1) (some l) cs₁ bl hn₁ hlast₁
      refine ⟨cs', bl', hstep ▸ h1, h2, hg ▸ h3, ?_, ?_⟩
      · intro c
        rw [h4 c, htot₁ c, hf, List.count_cons]
        by_cases hlc : l = c
        · rw [if_pos hlc, if_pos (beq_iff_eq.2 hlc)]; omega
        · rw [if_neg hlc, if_neg (mt beq_iff_eq.1 hlc)]; omega
      · intro c hc
        rw [hf, List.mem_cons] at hc
        rcases hc with hc | hc | hc
        · exact h5 c (Or.inl (hlet₁ c (Or.inl hc)))
        · exact h5 c (Or.inl (hlet₁ c (Or.inr hc)))
        · exact h5 c (Or.inr hc)

def anagramLetters (blank : UInt8) (anagram : List UInt8) : List UInt8 := anagram.filter (· != blank)
def anagramBlanks (blank : UInt8) (anagram : List UInt8) : Nat := (anagram.filter (· == blank)).length

theorem blank_not_mem_anagramLetters (blank : UInt8) (anagram : List UInt8) :
    blank ∉ anagramLetters blank anagram := by
  simp [anagramLetters]

/-- `NewAnagramSearcher` never panics and returns a searcher in a legitimate initial state. Its odd `sort.Slice` call is
modelled by `quirkSort`; the proof uses of it only that it permutes (`quirkSort_perm`; `countLoop_spec` holds for any list). -/
theorem newAnagramSearcher_spec (anagram : List UInt8) (blank : UInt8) :
    ∃ a0, newAnagramSearcher anagram blank = .ok a0 ∧
      (anagramSpec (anagramLetters blank anagram) (anagramBlanks blank anagram) blank anagram.length).R []
        (.ana a0) := by
  obtain ⟨cs', bl', h1, h2, h3, h4, h5⟩ := countLoop_spec blank (quirkSort anagram) 0 none [] 0
    (by intro x hx; simp at hx) (by intro x hx; cases hx)
  have hp := quirkSort_perm anagram
  refine ⟨⟨cs', bl', blank, anagram.length, []⟩, by simp [newAnagramSearcher, h1], _, rfl, rfl, rfl, rfl, ?_, h2,
    ?_, ?_⟩
  · simp only [blanksLeft, h3, anagramBlanks]
    rw [(hp.filter _).length_eq]; simp
  · intro c
    simp only [h4 c, tot, remL, anagramLetters]
    rw [(hp.filter _).count_eq]; simp
  · intro c hc
    apply h5
    right
    exact ((hp.filter _).mem_iff).2 hc

end DawgSearch
