import Mamba.Lemmas.CliqueColourPoly
import Mathlib.Data.Fintype.Card
import Mathlib.Data.Fintype.Pi
/-! `countColourings g k` is the cardinality of the type of proper colourings `Fin n → Fin k`. -/
namespace CliqueColour
open GraphSpec

theorem countColourings_eq_card {g : G} (hw : g.WF) (k : Nat) :
    countColourings g k =
      Fintype.card {f : Fin g.n → Fin k // ∀ u v : Fin g.n, g.adj u v = true → f u ≠ f v} := by
  rw [countColourings_eq_length hw, ← List.toFinset_card_of_nodup (nodup_Cols g k), ← Finset.card_univ]
  have hlt : ∀ c ∈ (Cols g k).toFinset, ∀ v : Fin g.n, c.getD v 0 < k := by
    intro c hc v
    obtain ⟨hl, hk, _⟩ := mem_Cols.1 (List.mem_toFinset.1 hc)
    exact hk _ (getD_mem (by rw [hl]; exact v.2))
  refine Finset.card_bij (fun c hc => ⟨fun v => ⟨c.getD v 0, hlt c hc v⟩, ?_⟩) (fun _ _ => Finset.mem_univ _) ?_ ?_
  · intro u v ha he
    obtain ⟨hl, _, hp⟩ := mem_Cols.1 (List.mem_toFinset.1 hc)
    exact hp u v (by rw [hl]; exact u.2) (by rw [hl]; exact v.2) ha (Fin.mk.inj he)
  · intro c1 hc1 c2 hc2 he
    obtain ⟨hl1, _, _⟩ := mem_Cols.1 (List.mem_toFinset.1 hc1)
    obtain ⟨hl2, _, _⟩ := mem_Cols.1 (List.mem_toFinset.1 hc2)
    apply list_ext_getD (by rw [hl1, hl2])
    intro x hx
    rw [hl1] at hx
    have := congrFun (congrArg Subtype.val he) ⟨x, hx⟩
    exact Fin.mk.inj this
  · rintro ⟨f, hf⟩ _
    refine ⟨tab g.n (fun v => if h : v < g.n then (f ⟨v, h⟩).val else 0), ?_, ?_⟩
    · rw [List.mem_toFinset, mem_Cols]
      refine ⟨tab_length _ _, fun y hy => ?_, fun u v hu hv ha => ?_⟩
      · obtain ⟨x, hx, rfl⟩ := mem_tab.1 hy
        rw [dif_pos hx]; exact (f ⟨x, hx⟩).2
      · rw [tab_length] at hu hv
        rw [tab_getD hu, tab_getD hv, dif_pos hu, dif_pos hv]
        intro he
        exact hf ⟨u, hu⟩ ⟨v, hv⟩ ha (Fin.ext he)
    · apply Subtype.ext
      funext v
      apply Fin.ext
      show (tab g.n _).getD v 0 = (f v).val
      rw [tab_getD v.2, dif_pos v.2]

end CliqueColour
