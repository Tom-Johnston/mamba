import Mamba.Lemmas.DawgSearchSpec
/-! # The trie built from a strictly increasing word list (C13) -/
namespace DawgSearch

theorem chain_words : ∀ w : Word, (chain w).words = [w]
  | [] => rfl
  | c :: w => by simp [chain, Node.words, Links.words, chain_words w]

theorem chain_wf : ∀ w : Word, (chain w).WF
  | [] => by simp [chain, Node.WF, Links.WF, Links.words]
  | c :: w => by
    have := chain_wf w
    simp [chain, Node.WF, Links.WF, Links.words, chain_words w, this]

mutual
theorem Node.insert_spec : (t : Node) → (w : Word) → t.WF → (∀ v ∈ t.words, v < w) →
    (t.insert w).words = t.words ++ [w] ∧ (t.insert w).WF
  | .mk f n ls, [], hwf, hlt => by
    have hnil : (Node.mk f n ls).words = [] := by
      cases h : (Node.mk f n ls).words with
      | nil => rfl
      | cons v r => exact absurd (hlt v (by simp [h])) (List.not_lt_nil v)
    unfold Node.WF at hwf
    cases f
    · simp only [Node.words, Bool.false_eq_true, if_false, List.nil_append] at hnil
      simp [Node.insert, Node.words, Node.WF, hnil, hwf.2, hwf.1]
    · simp [Node.words] at hnil
  | .mk f n ls, c :: w, hwf, hlt => by
    unfold Node.WF at hwf
    have := Links.insert_spec ls c w hwf.2 (fun v hv => hlt v (by simp [Node.words, hv]))
    simp only [Node.insert, Node.words, this.1, Node.WF, this.2, and_true, List.append_assoc, true_and,
      List.length_append, List.length_cons, List.length_nil, hwf.1]
    omega
theorem Links.insert_spec : (ls : Links) → (c : UInt8) → (w : Word) → ls.WF → (∀ v ∈ ls.words, v < c :: w) →
    (ls.insert c w).words = ls.words ++ [c :: w] ∧ (ls.insert c w).WF
  | .nil, c, w, _, _ => by simp [Links.insert, Links.words, chain_words, Links.WF, chain_wf]
  | .cons l ch .nil, c, w, hwf, hlt => by
    unfold Links.WF at hwf
    by_cases hlc : l = c
    · subst hlc
      have := Node.insert_spec ch w hwf.1 (fun v hv => by
        have := hlt (l :: v) (by simp [Links.words, hv])
        simpa using this)
      simp [Links.insert, Links.words, this.1, Links.WF, this.2]
    · simp [Links.insert, hlc, Links.words, chain_words, Links.WF, chain_wf, hwf.1]
  | .cons l ch (.cons l' ch' r), c, w, hwf, hlt => by
    unfold Links.WF at hwf
    have := Links.insert_spec (.cons l' ch' r) c w hwf.2 (fun v hv => hlt v (by
      rw [Links.words]; exact List.mem_append_right _ hv))
    rw [Links.insert, Links.words, this.1, Links.WF]
    refine ⟨by simp [Links.words], hwf.1, this.2⟩
end

theorem foldl_insert_spec : ∀ (ws : List Word) (t : Node), t.WF →
    List.Pairwise (· < ·) (t.words ++ ws) →
    (ws.foldl Node.insert t).words = t.words ++ ws ∧ (ws.foldl Node.insert t).WF
  | [], t, hwf, _ => by simp [hwf]
  | w :: ws, t, hwf, hp => by
    have hlt : ∀ v ∈ t.words, v < w := by
      intro v hv
      exact (List.pairwise_append.1 hp).2.2 v hv w (by simp)
    have h1 := Node.insert_spec t w hwf hlt
    have := foldl_insert_spec ws (t.insert w) h1.2 (by simpa [h1.1] using hp)
    simpa [h1.1] using this

theorem build_spec (ws : List Word) (h : List.Pairwise (· < ·) ws) : (build ws).words = ws ∧ (build ws).WF :=
  foldl_insert_spec ws (.mk false 0 .nil) (by simp [Node.WF, Links.WF, Links.words]) h

end DawgSearch
