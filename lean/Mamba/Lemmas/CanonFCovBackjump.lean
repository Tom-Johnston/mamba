import Mamba.Lemmas.CanonFCovLeaf
/-!
# Two leaves with the same certificate, at tree level: Heuristic 1 (back-jump) and the recorded generator

`γ = transport n o1 o2`, read off the orders of the two leaves, is an automorphism. At their deepest common ancestor the
child on the path of the current leaf is the `γ`-image of the child on the path of the stored leaf, so it has every
heritable property that child has (`Heritable.backjump`; for `Complete`: `backjump_child_complete`): the search may jump
back to that ancestor. `γ` preserves the colouring of every common ancestor (`recorded_gen_preserves`): it may be merged
into the orbits kept for these nodes. The program stores index paths (`firstLeafPath`, `currentBestPath`), the proofs use
vertex paths; `IdxPath` relates the two, and equal index paths give equal vertex paths (`same_prefix_of_idx`).
-/
namespace CanonF

theorem cg_mono_take {n : Nat} {nb : Nbrs} {rf : Nat} {r : IR.St} (hnb : NbOK nb n) {vs : List Nat} (L : Nat)
    (hp : IR.IsPath (irG n nb) rf r vs) :
    IR.Mono n (nodeL n nb rf r vs L).c (IR.nodeAt (irG n nb) rf r vs).c := by
  obtain ⟨-, h2, e⟩ := IR.isPath_split hp L
  rw [e]
  exact IR.path_mono (irG_wf hnb) _ _ h2

section
variable {n : Nat} {nb : Nbrs} {rf : Nat} {r : IR.St}

theorem leaf_level_facts (hnb : NbOK nb n) (hA : IR.InvA (irG n nb) r) (hD : IR.InvD (irG n nb) r) {vs o : List Nat}
    {i st c : Nat} (hp : IR.IsPath (irG n nb) rf r vs)
    (ht : IR.target (irG n nb) (IR.nodeAt (irG n nb) rf r vs) = none)
    (hc : (IR.nodeAt (irG n nb) rf r vs).c = IR.tab n (fun v => o.idxOf v)) (hcv : vs[i]? = some c)
    (hst : IR.target (irG n nb) (nodeL n nb rf r vs i) = some st) :
    c < n ∧ IR.Mono n (nodeL n nb rf r vs i).c (IR.tab n (fun v => o.idxOf v)) ∧ o.idxOf c = st := by
  obtain ⟨t, ht', hcm, hs⟩ := IR.path_level hp hcv
  rw [show IR.target (irG n nb) (IR.nodeAt (irG n nb) rf r (vs.take i)) = some st from hst] at ht'
  cases ht'
  have hcn : c < n := (IR.mem_cellMembers.1 hcm).1
  obtain ⟨h1, -, -⟩ := IR.isPath_split hp i
  obtain ⟨-, h2, e⟩ := IR.isPath_split hp (i + 1)
  obtain ⟨-, hAν, hDν⟩ := IR.path_cells (irG_wf hnb) (rf := rf) _ r hA hD h1
  rw [hs] at h2 e
  rw [e] at ht hc
  have hpos := IR.child_pos (irG_wf hnb) rf hAν hDν hst hcm _ h2 ht
  rw [hc, IR.col_tab _ hcn] at hpos
  refine ⟨hcn, ?_, hpos⟩
  rw [← hc, ← e]
  exact cg_mono_take hnb i hp

/-- two leaves (orders `o1`, `o2`) with the same certificate below the node of level `i`: the child `c` on the path of
the second has `T` if the child `b` on the path of the first has, `transport n o1 o2` being admissible -/
theorem Heritable.backjump {T : IR.St → Prop} {Adm : List Nat → Prop}
    (hT : Heritable n nb rf T Adm) (hnb : NbOK nb n) (hA : IR.InvA (irG n nb) r) (hD : IR.InvD (irG n nb) r)
    {vs vsR : List Nat} {o1 o2 : List Nat} {i st b c : Nat}
    (hp1 : IR.IsPath (irG n nb) rf r vsR) (ht1 : IR.target (irG n nb) (IR.nodeAt (irG n nb) rf r vsR) = none)
    (hc1 : (IR.nodeAt (irG n nb) rf r vsR).c = IR.tab n (fun v => o1.idxOf v)) (ho1 : o1.Perm (List.range n))
    (hp2 : IR.IsPath (irG n nb) rf r vs) (ht2 : IR.target (irG n nb) (IR.nodeAt (irG n nb) rf r vs) = none)
    (hc2 : (IR.nodeAt (irG n nb) rf r vs).c = IR.tab n (fun v => o2.idxOf v)) (ho2 : o2.Perm (List.range n))
    (hcert : certPos nb o1 n = certPos nb o2 n)
    (hcommon : vsR.take i = vs.take i) (hb : vsR[i]? = some b) (hcv : vs[i]? = some c)
    (hst : IR.target (irG n nb) (nodeL n nb rf r vs i) = some st) (hadm : Adm (transport n o1 o2))
    (h : T (IR.childSt (irG n nb) rf (nodeL n nb rf r vs i) st b)) :
    T (IR.childSt (irG n nb) rf (nodeL n nb rf r vs i) st c) := by
  have en : nodeL n nb rf r vsR i = nodeL n nb rf r vs i := nodeL_congr hcommon
  obtain ⟨hbn, hm1, hi1⟩ := leaf_level_facts hnb hA hD hp1 ht1 hc1 hb (en ▸ hst)
  obtain ⟨hcn, hm2, hi2⟩ := leaf_level_facts hnb hA hD hp2 ht2 hc2 hcv hst
  rw [en] at hm1
  have hpos : o2[o1.idxOf b]? = some c := by
    rw [hi1, ← hi2]; exact getElem?_idxOf_of_mem (ho2.mem_iff.2 (List.mem_range.2 hcn))
  have e : (transport n o1 o2).getD b 0 = c := by
    rw [aut_transport_getD hbn, List.getD_eq_getElem?_getD, hpos, Option.getD_some]
  rw [← e]
  exact (hT.transfer (aut_of_cert hnb ho1 ho2 hcert) (transport_preserves ho1 ho2 hm1 hm2) hadm hbn).1 h

end

theorem backjump_child_complete {n : Nat} {nb : Nbrs} {rf : Nat} {r : IR.St} (hnb : NbOK nb n)
    (hA : IR.InvA (irG n nb) r) (hD : IR.InvD (irG n nb) r) {best : List Nat}
    {vs vsR : List Nat} {o1 o2 : List Nat} {i st b c : Nat}
    (hp1 : IR.IsPath (irG n nb) rf r vsR) (ht1 : IR.target (irG n nb) (IR.nodeAt (irG n nb) rf r vsR) = none)
    (hc1 : (IR.nodeAt (irG n nb) rf r vsR).c = IR.tab n (fun v => o1.idxOf v)) (ho1 : o1.Perm (List.range n))
    (hp2 : IR.IsPath (irG n nb) rf r vs) (ht2 : IR.target (irG n nb) (IR.nodeAt (irG n nb) rf r vs) = none)
    (hc2 : (IR.nodeAt (irG n nb) rf r vs).c = IR.tab n (fun v => o2.idxOf v)) (ho2 : o2.Perm (List.range n))
    (hcert : certPos nb o1 n = certPos nb o2 n)
    (hcommon : vsR.take i = vs.take i) (hb : vsR[i]? = some b) (hcv : vs[i]? = some c)
    (hst : IR.target (irG n nb) (nodeL n nb rf r vs i) = some st)
    (hcomp : Complete n nb rf best (IR.childSt (irG n nb) rf (nodeL n nb rf r vs i) st b)) :
    Complete n nb rf best (IR.childSt (irG n nb) rf (nodeL n nb rf r vs i) st c) :=
  (complete_heritable hnb best).backjump hnb hA hD hp1 ht1 hc1 ho1 hp2 ht2 hc2 ho2 hcert hcommon hb hcv hst trivial hcomp

set_option linter.unusedVariables false in
theorem recorded_gen_preserves {n : Nat} {nb : Nbrs} {rf : Nat} {r : IR.St} (hnb : NbOK nb n)
    (hA : IR.InvA (irG n nb) r) (hD : IR.InvD (irG n nb) r) {vs vsR : List Nat} {o1 o2 : List Nat} {L : Nat}
    (hp1 : IR.IsPath (irG n nb) rf r vsR) (hc1 : (IR.nodeAt (irG n nb) rf r vsR).c = IR.tab n (fun v => o1.idxOf v))
    (ho1 : o1.Perm (List.range n))
    (hp2 : IR.IsPath (irG n nb) rf r vs) (hc2 : (IR.nodeAt (irG n nb) rf r vs).c = IR.tab n (fun v => o2.idxOf v))
    (ho2 : o2.Perm (List.range n))
    (hcommon : vsR.take L = vs.take L) :
    ∀ u, u < n → IR.col (nodeL n nb rf r vs L).c ((transport n o1 o2).getD u 0) = IR.col (nodeL n nb rf r vs L).c u := by
  have hm1 := cg_mono_take hnb L hp1
  rw [nodeL_congr hcommon, hc1] at hm1
  have hm2 := cg_mono_take hnb L hp2
  rw [hc2] at hm2
  exact transport_preserves ho1 ho2 hm1 hm2

/-- `P` lists, for the levels `< L`, the index of the path vertex in the target cell of its node -/
def IdxPath (n : Nat) (nb : Nbrs) (rf : Nat) (r : IR.St) (vs : List Nat) (P : List Nat) (L : Nat) : Prop :=
  ∀ i, i < L → ∃ t j v, IR.target (irG n nb) (nodeL n nb rf r vs i) = some t ∧ vs[i]? = some v ∧
    (cellL n nb rf r vs i t)[j]? = some v ∧ P[i]? = some j

theorem same_prefix_of_idx {n : Nat} {nb : Nbrs} {rf : Nat} {r : IR.St} {vs vsR P : List Nat} {L : Nat}
    (h1 : IdxPath n nb rf r vs P L) (h2 : IdxPath n nb rf r vsR P L) : vs.take L = vsR.take L := by
  induction L with
  | zero => simp
  | succ L ih =>
    have e := ih (fun i hi => h1 i (by omega)) (fun i hi => h2 i (by omega))
    obtain ⟨t, j, v, a1, a2, a3, a4⟩ := h1 L (by omega)
    obtain ⟨t', j', v', b1, b2, b3, b4⟩ := h2 L (by omega)
    have en : nodeL n nb rf r vs L = nodeL n nb rf r vsR L := nodeL_congr e
    unfold cellL at a3 b3
    rw [en] at a1 a3
    rw [a1] at b1
    cases b1
    rw [a4] at b4
    cases b4
    rw [a3] at b3
    cases b3
    rw [List.take_add_one, List.take_add_one, e, a2, b2]

end CanonF
