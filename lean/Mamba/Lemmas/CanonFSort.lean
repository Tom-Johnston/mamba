import Mamba.Lemmas.CanonFInv
/-!
# The hand-written stable sort of `[]keyValue` (`stable` and its helpers in `Model/CanonF.lean`)

First, and independent of the rest: every function permutes the visible part of the slice (`*_same` / `*_perm`,
unconditional, from `= .ok`).

Then everything is said about the segments `kvSeg d a b` = `data[a:b]`: sorted by value (`Srt`), all per-value sub-lists
equal (`StEq`, stability). A step is described by what it does to a region `[a, b)`: nothing outside it (`Frame`), a
stable rearrangement inside (`Stb`), stably sorted (`Sorts`), the blocks `[a, m)` and `[m, b)` exchanged (`Rot`). The
loops that only move data all exchange blocks: `swapRange` two blocks of equal length (`Swp`), `rotate` and the two
one-element insertions of `symMerge` adjacent blocks (`Rot`); the loops are compositions of such exchanges. With
in-range arguments nothing panics, every fuel of the model suffices and the region is sorted stably (`*_sorts`, one
theorem per function). The three cases of `symMerge` are the same step, `Sorts.glue`: exchange two blocks, then two
sorted halves. `stable_no_panic`, `stable_sorted`, `stable_stable` are read off `stable_sorts`.
-/
namespace CanonF

def KVSame (d d' : Sl KV) : Prop := d'.len = d.len ∧ d'.data.size = d.data.size ∧ d'.toList.Perm d.toList

theorem KVSame.refl (d : Sl KV) : KVSame d d := ⟨rfl, rfl, List.Perm.refl _⟩

theorem KVSame.trans {d1 d2 d3 : Sl KV} (h1 : KVSame d1 d2) (h2 : KVSame d2 d3) : KVSame d1 d3 :=
  ⟨h2.1.trans h1.1, h2.2.1.trans h1.2.1, h2.2.2.trans h1.2.2⟩

theorem KVSame.of_swap {d d' : Sl KV} {i j : Nat} (h : d.swap i j = .ok d') : KVSame d d' := by
  obtain ⟨_, _, _, _, hl, hz, _⟩ := Sl.swap_spec h
  exact ⟨hl, hz, Sl.swap_perm h⟩

theorem insInner_same : ∀ (c j : Nat) (d d' : Sl KV), insInner c j d = .ok d' → KVSame d d' := by
  intro c
  induction c with
  | zero => intro j d d' h; simp [insInner] at h; subst h; exact KVSame.refl _
  | succ c ih =>
    intro j d d' h
    rw [insInner] at h
    osplit h
    · next d1 hs => exact (KVSame.of_swap hs).trans (ih _ _ _ h)
    · next hne => exact (hne _ h).elim
    · simp at h; subst h; exact KVSame.refl _

theorem forRange_same (f : Nat → Sl KV → Outcome (Sl KV)) (hf : ∀ i d d', f i d = .ok d' → KVSame d d')
    (k lo : Nat) (d d' : Sl KV) (h : forRange f k lo d = .ok d') : KVSame d d' :=
  forRange_inv f (fun _ s => KVSame d s) k lo d d' (KVSame.refl _) (fun i s s' _ _ hp hs => hp.trans (hf i s s' hs)) h

theorem forDown_same (f : Nat → Sl KV → Outcome (Sl KV)) (hf : ∀ i d d', f i d = .ok d' → KVSame d d')
    (k : Nat) (d d' : Sl KV) (h : forDown f k d = .ok d') : KVSame d d' :=
  forDown_inv f (fun _ s => KVSame d s) k d d' (KVSame.refl _) (fun i s s' _ hp hs => hp.trans (hf i s s' hs)) h

theorem insertionSortKV_same {d d' : Sl KV} {a b : Nat} (h : insertionSortKV d a b = .ok d') : KVSame d d' :=
  forRange_same _ (fun _ _ _ h => insInner_same _ _ _ _ h) _ _ _ _ h

theorem swapRange_same {d d' : Sl KV} {a b n : Nat} (h : swapRange d a b n = .ok d') : KVSame d d' :=
  forRange_same _ (fun _ _ _ h => KVSame.of_swap h) _ _ _ _ h

theorem rotateLoop_same (m : Nat) : ∀ (f i j : Nat) (d d' : Sl KV) (g : Nat),
    rotateLoop m f i j d = .ok (d', g) → KVSame d d' := by
  intro f
  induction f with
  | zero => intro i j d d' g h; simp [rotateLoop] at h
  | succ f ih =>
    intro i j d d' g h
    rw [rotateLoop] at h
    osplit h
    · next d1 hs => exact (swapRange_same hs).trans (ih _ _ _ _ _ h)
    · next d1 hs => exact (swapRange_same hs).trans (ih _ _ _ _ _ h)
    · simp at h; rw [h.1]; exact KVSame.refl _

theorem rotate_same {d d' : Sl KV} {a m b : Nat} (h : rotate d a m b = .ok d') : KVSame d d' := by
  unfold rotate at h
  osplit h
  next d1 i hl => exact (rotateLoop_same _ _ _ _ _ _ _ hl).trans (swapRange_same h)

theorem KVSame.of_ite {c : Prop} [Decidable c] {x : Outcome (Sl KV)} {d d' : Sl KV}
    (h : (if c then x else .ok d) = .ok d') (hx : x = .ok d' → KVSame d d') : KVSame d d' := by
  by_cases hc : c
  · rw [if_pos hc] at h; exact hx h
  · rw [if_neg hc] at h; cases h; exact KVSame.refl _

theorem symMerge_same : ∀ (f : Nat) (d d' : Sl KV) (a m b : Nat), symMerge f d a m b = .ok d' → KVSame d d' := by
  intro f
  induction f with
  | zero => intro d d' a m b h; simp [symMerge] at h
  | succ f ih =>
    intro d d' a m b h
    rw [symMerge] at h
    by_cases h1 : m - a = 1
    · rw [if_pos h1] at h
      split at h
      · exact forRange_same _ (fun _ _ _ h => KVSame.of_swap h) _ _ _ _ h
      · cases h
      · cases h
    · rw [if_neg h1] at h
      by_cases h2 : b - m = 1
      · rw [if_pos h2] at h
        split at h
        · exact forDown_same _ (fun _ _ _ h => KVSame.of_swap h) _ _ _ h
        · cases h
        · cases h
      · rw [if_neg h2] at h
        dsimp only at h
        split at h
        · split at h
          · next d1 h1 =>
            split at h
            · next d2 h2 =>
              exact ((KVSame.of_ite h1 rotate_same).trans (KVSame.of_ite h2 (ih _ _ _ _ _))).trans
                (KVSame.of_ite h (ih _ _ _ _ _))
            · next hne => exact (hne _ h).elim
          · next hne => exact (hne _ h).elim
        · cases h
        · cases h

theorem stableBlocks_same (bs n : Nat) : ∀ (f a b : Nat) (d d' : Sl KV) (a' : Nat),
    stableBlocks bs n f a b d = .ok (d', a') → KVSame d d' := by
  intro f
  induction f with
  | zero => intro a b d d' a' h; simp [stableBlocks] at h
  | succ f ih =>
    intro a b d d' a' h
    rw [stableBlocks] at h
    osplit h
    · next d1 hs => exact (insertionSortKV_same hs).trans (ih _ _ _ _ _ h)
    · simp at h; rw [h.1]; exact KVSame.refl _

theorem stableMergeRow_same (bs n : Nat) : ∀ (f a b : Nat) (d d' : Sl KV) (a' : Nat),
    stableMergeRow bs n f a b d = .ok (d', a') → KVSame d d' := by
  intro f
  induction f with
  | zero => intro a b d d' a' h; simp [stableMergeRow] at h
  | succ f ih =>
    intro a b d d' a' h
    rw [stableMergeRow] at h
    osplit h
    · next d1 hs => exact (symMerge_same _ _ _ _ _ _ hs).trans (ih _ _ _ _ _ h)
    · simp at h; rw [h.1]; exact KVSame.refl _

theorem stableMerge_same (n : Nat) : ∀ (f bs : Nat) (d d' : Sl KV), stableMerge n f bs d = .ok d' → KVSame d d' := by
  intro f
  induction f with
  | zero => intro bs d d' h; simp [stableMerge] at h
  | succ f ih =>
    intro bs d d' h
    rw [stableMerge] at h
    split at h
    · split at h
      · next d1 a hr =>
        dsimp only at h
        split at h
        · next d2 h2 =>
          exact ((stableMergeRow_same _ _ _ _ _ _ _ _ hr).trans (KVSame.of_ite h2 (symMerge_same _ _ _ _ _ _))).trans
            (ih _ _ _ h)
        · next hne => exact (hne _ h).elim
      · cases h
      · cases h
    · simp at h; subst h; exact KVSame.refl _

theorem stable_same {d d' : Sl KV} {n : Nat} (h : stable d n = .ok d') : KVSame d d' := by
  unfold stable at h
  dsimp only at h
  split at h
  · next d1 a hb =>
    split at h
    · next d2 hi =>
      exact ((stableBlocks_same _ _ _ _ _ _ _ _ hb).trans (insertionSortKV_same hi)).trans (stableMerge_same _ _ _ _ _ h)
    · next hne => exact (hne _ h).elim
  · cases h
  · cases h

theorem insertionSortKV_perm {d d' : Sl KV} {a b : Nat} (h : insertionSortKV d a b = .ok d') :
    d'.len = d.len ∧ d'.data.size = d.data.size ∧ d'.toList.Perm d.toList := insertionSortKV_same h

theorem swapRange_perm {d d' : Sl KV} {a b n : Nat} (h : swapRange d a b n = .ok d') :
    d'.len = d.len ∧ d'.data.size = d.data.size ∧ d'.toList.Perm d.toList := swapRange_same h

theorem rotate_perm {d d' : Sl KV} {a m b : Nat} (h : rotate d a m b = .ok d') :
    d'.len = d.len ∧ d'.data.size = d.data.size ∧ d'.toList.Perm d.toList := rotate_same h

theorem symMerge_perm {f : Nat} {d d' : Sl KV} {a m b : Nat} (h : symMerge f d a m b = .ok d') :
    d'.len = d.len ∧ d'.data.size = d.data.size ∧ d'.toList.Perm d.toList := symMerge_same _ _ _ _ _ _ h

theorem stable_perm {d d' : Sl KV} {n : Nat} (h : stable d n = .ok d') :
    d'.len = d.len ∧ d'.data.size = d.data.size ∧ d'.toList.Perm d.toList := stable_same h

def Srt (l : List KV) : Prop := l.Pairwise (fun x y => x.1 ≤ y.1)

def kvFilter (v : Nat) (l : List KV) : List KV := l.filter (fun x => x.1 == v)

def StEq (l l' : List KV) : Prop := ∀ v, kvFilter v l' = kvFilter v l

theorem fv_append (v : Nat) (l1 l2 : List KV) : kvFilter v (l1 ++ l2) = kvFilter v l1 ++ kvFilter v l2 := List.filter_append ..

theorem StEq.refl (l : List KV) : StEq l l := fun _ => rfl

theorem StEq.trans {l1 l2 l3 : List KV} (h1 : StEq l1 l2) (h2 : StEq l2 l3) : StEq l1 l3 :=
  fun v => (h2 v).trans (h1 v)

theorem StEq.append {a a' b b' : List KV} (h1 : StEq a a') (h2 : StEq b b') : StEq (a ++ b) (a' ++ b') := by
  intro v; rw [fv_append, fv_append, h1 v, h2 v]

theorem StEq.mem {l l' : List KV} (h : StEq l l') {x : KV} (hx : x ∈ l') : x ∈ l := by
  have : x ∈ kvFilter x.1 l' := by simp [kvFilter, hx]
  rw [h x.1] at this
  exact (List.mem_filter.1 this).1

theorem fv_comm (v : Nat) {l1 l2 : List KV} (h : ∀ x ∈ l1, ∀ y ∈ l2, x.1 ≠ y.1) :
    kvFilter v l1 ++ kvFilter v l2 = kvFilter v l2 ++ kvFilter v l1 := by
  by_cases hx : ∃ x ∈ l1, x.1 = v
  · obtain ⟨x, hx1, hx2⟩ := hx
    have : kvFilter v l2 = [] := by
      unfold kvFilter; rw [List.filter_eq_nil_iff]
      intro y hy; have := h x hx1 y hy; simp; omega
    simp [this]
  · have : kvFilter v l1 = [] := by
      unfold kvFilter; rw [List.filter_eq_nil_iff]
      intro x hx1; simp; intro h2; exact hx ⟨x, hx1, h2⟩
    simp [this]

theorem Srt.left {l1 l2 : List KV} (h : Srt (l1 ++ l2)) : Srt l1 := (List.pairwise_append.1 h).1
theorem Srt.right {l1 l2 : List KV} (h : Srt (l1 ++ l2)) : Srt l2 := (List.pairwise_append.1 h).2.1
theorem Srt.cross {l1 l2 : List KV} (h : Srt (l1 ++ l2)) : ∀ x ∈ l1, ∀ y ∈ l2, x.1 ≤ y.1 :=
  (List.pairwise_append.1 h).2.2

theorem Srt.nil : Srt [] := List.Pairwise.nil
theorem Srt.single (x : KV) : Srt [x] := List.pairwise_singleton _ _

theorem Srt.app {l1 l2 : List KV} (h1 : Srt l1) (h2 : Srt l2) (h : ∀ x ∈ l1, ∀ y ∈ l2, x.1 ≤ y.1) : Srt (l1 ++ l2) :=
  List.pairwise_append.2 ⟨h1, h2, h⟩

theorem Srt.of_length_le_one {l : List KV} (h : l.length ≤ 1) : Srt l := by
  match l, h with
  | [], _ => exact Srt.nil
  | [x], _ => exact Srt.single x
  | _ :: _ :: _, h => simp at h

/-- the combination step of `symMerge`: `L1 L2 R1 R2 ↦ merge(L1,R1) merge(L2,R2)` -/
theorem merge_split {L1 L2 R1 R2 M1 M2 : List KV} (hL : Srt (L1 ++ L2)) (hR : Srt (R1 ++ R2))
    (h1 : ∀ x ∈ R1, ∀ y ∈ L2, x.1 < y.1) (h2 : ∀ x ∈ L1, ∀ y ∈ R2, x.1 ≤ y.1)
    (s1 : Srt M1) (s2 : Srt M2) (e1 : StEq (L1 ++ R1) M1) (e2 : StEq (L2 ++ R2) M2) :
    Srt (M1 ++ M2) ∧ StEq ((L1 ++ L2) ++ (R1 ++ R2)) (M1 ++ M2) := by
  constructor
  · apply Srt.app s1 s2
    intro x hx y hy
    have hx' := e1.mem hx
    have hy' := e2.mem hy
    rw [List.mem_append] at hx' hy'
    rcases hx' with hx' | hx' <;> rcases hy' with hy' | hy'
    · exact hL.cross x hx' y hy'
    · exact h2 x hx' y hy'
    · exact Nat.le_of_lt (h1 x hx' y hy')
    · exact hR.cross x hx' y hy'
  · intro v
    rw [fv_append, e1 v, e2 v]
    simp only [fv_append, List.append_assoc]
    congr 1
    rw [← List.append_assoc, ← List.append_assoc]
    congr 1
    apply fv_comm
    intro x hx y hy
    have := h1 x hx y hy
    omega

def kvSeg (d : Sl KV) (a b : Nat) : List KV := (d.data.toList.drop a).take (b - a)

theorem seg_getElem? (d : Sl KV) (a b i : Nat) : (kvSeg d a b)[i]? = if i < b - a then d.data[a + i]? else none := by
  simp only [kvSeg, List.getElem?_take, List.getElem?_drop, Array.getElem?_toList]

theorem seg_length {d : Sl KV} {a b : Nat} (hb : b ≤ d.data.size) : (kvSeg d a b).length = b - a := by
  simp only [kvSeg, List.length_take, List.length_drop, Array.length_toList]; omega

theorem seg_nil {d : Sl KV} {a b : Nat} (h : b ≤ a) : kvSeg d a b = [] := by
  simp [kvSeg, Nat.sub_eq_zero_of_le h]

theorem seg_eq_of {d d' : Sl KV} {a b a' b' : Nat} (hn : b' - a' = b - a)
    (h : ∀ i, i < b - a → d'.data[a' + i]? = d.data[a + i]?) : kvSeg d' a' b' = kvSeg d a b := by
  apply List.ext_getElem?
  intro i
  rw [seg_getElem?, seg_getElem?, hn]
  split
  · exact h i ‹_›
  · rfl

theorem seg_append {d : Sl KV} {a m b : Nat} (h1 : a ≤ m) (h2 : m ≤ b) :
    kvSeg d a b = kvSeg d a m ++ kvSeg d m b := by
  unfold kvSeg
  rw [show b - a = (m - a) + (b - m) by omega, List.take_add, List.drop_drop, show a + (m - a) = m by omega]

theorem seg_single {d : Sl KV} {a : Nat} {x : KV} (hx : d.data[a]? = some x) : kvSeg d a (a + 1) = [x] := by
  apply List.ext_getElem?
  intro i
  rw [seg_getElem?]
  cases i with
  | zero => simp [hx]
  | succ i => simp

theorem seg_snoc {d : Sl KV} {a b : Nat} {x : KV} (hab : a ≤ b) (hx : d.data[b]? = some x) :
    kvSeg d a (b + 1) = kvSeg d a b ++ [x] := by
  rw [seg_append hab (Nat.le_succ b), seg_single hx]

theorem toList_eq_seg (d : Sl KV) : d.toList = kvSeg d 0 d.len := by
  simp [Sl.toList, kvSeg]

theorem mem_seg {d : Sl KV} {a b : Nat} {x : KV} :
    x ∈ kvSeg d a b ↔ ∃ k, a ≤ k ∧ k < b ∧ d.data[k]? = some x := by
  rw [List.mem_iff_getElem?]
  constructor
  · rintro ⟨i, hi⟩
    rw [seg_getElem?] at hi
    split at hi
    · exact ⟨a + i, by omega, by omega, hi⟩
    · cases hi
  · rintro ⟨k, h1, h2, h3⟩
    refine ⟨k - a, ?_⟩
    rw [seg_getElem?, if_pos (by omega), show a + (k - a) = k by omega]; exact h3

theorem Srt.le_of_seg {d : Sl KV} {a b : Nat} (h : Srt (kvSeg d a b)) {i j : Nat} {x y : KV}
    (hi : a ≤ i) (hij : i ≤ j) (hj : j < b) (hx : d.data[i]? = some x) (hy : d.data[j]? = some y) : x.1 ≤ y.1 := by
  by_cases he : i = j
  · subst he; rw [hx] at hy; cases hy; exact Nat.le_refl _
  · have h1 : (kvSeg d a b)[i - a]? = some x := by
      rw [seg_getElem?, if_pos (by omega), show a + (i - a) = i by omega]; exact hx
    have h2 : (kvSeg d a b)[j - a]? = some y := by
      rw [seg_getElem?, if_pos (by omega), show a + (j - a) = j by omega]; exact hy
    obtain ⟨l1, e1⟩ := List.getElem?_eq_some_iff.1 h1
    obtain ⟨l2, e2⟩ := List.getElem?_eq_some_iff.1 h2
    have := List.pairwise_iff_getElem.1 h (i - a) (j - a) l1 l2 (by omega)
    rw [e1, e2] at this; exact this

theorem Srt.seg_bounds {d : Sl KV} {p q p' q' : Nat} (h1 : Srt (kvSeg d p q)) (h2 : Srt (kvSeg d p' q'))
    {u v x y : KV} (hu : d.data[q - 1]? = some u) (hv : d.data[p']? = some v) (hx : x ∈ kvSeg d p q)
    (hy : y ∈ kvSeg d p' q') : x.1 ≤ u.1 ∧ v.1 ≤ y.1 := by
  obtain ⟨k, k1, k2, k3⟩ := mem_seg.1 hx
  obtain ⟨l, l1, l2, l3⟩ := mem_seg.1 hy
  exact ⟨h1.le_of_seg k1 (by omega) (by omega) k3 hu, h2.le_of_seg (Nat.le_refl _) l1 l2 hv l3⟩

theorem Srt.seg_app_of_le {d : Sl KV} {p q p' q' : Nat} (h1 : Srt (kvSeg d p q)) (h2 : Srt (kvSeg d p' q'))
    (h : q ≤ p ∨ q' ≤ p') : Srt (kvSeg d p q ++ kvSeg d p' q') := by
  rcases h with h | h
  · rw [seg_nil h]; exact h2
  · rw [seg_nil h, List.append_nil]; exact h1

structure Frame (a b : Nat) (d d' : Sl KV) : Prop where
  len : d'.len = d.len
  size : d'.data.size = d.data.size
  frame : ∀ k, k < a ∨ b ≤ k → d'.data[k]? = d.data[k]?

structure Stb (a b : Nat) (d d' : Sl KV) : Prop extends Frame a b d d' where
  steq : StEq (kvSeg d a b) (kvSeg d' a b)

structure Sorts (a b : Nat) (d d' : Sl KV) : Prop extends Stb a b d d' where
  sorted : Srt (kvSeg d' a b)

theorem Frame.refl (a b : Nat) (d : Sl KV) : Frame a b d d := ⟨rfl, rfl, fun _ _ => rfl⟩

theorem Frame.trans {a b : Nat} {d1 d2 d3 : Sl KV} (h1 : Frame a b d1 d2) (h2 : Frame a b d2 d3) : Frame a b d1 d3 :=
  ⟨h2.len.trans h1.len, h2.size.trans h1.size, fun k hk => (h2.frame k hk).trans (h1.frame k hk)⟩

theorem Frame.wf {a b : Nat} {d d' : Sl KV} (h : Frame a b d d') (hw : d.WF) : d'.WF := Sl.WF.of_eq hw h.len h.size

theorem Frame.seg_out {a b : Nat} {d d' : Sl KV} (h : Frame a b d d') {x y : Nat} (hxy : y ≤ a ∨ b ≤ x) :
    kvSeg d' x y = kvSeg d x y :=
  seg_eq_of rfl fun i hi => h.frame _ (by omega)

theorem Stb.refl (a b : Nat) (d : Sl KV) : Stb a b d d := ⟨Frame.refl a b d, StEq.refl _⟩

theorem Stb.trans {a b : Nat} {d1 d2 d3 : Sl KV} (h1 : Stb a b d1 d2) (h2 : Stb a b d2 d3) : Stb a b d1 d3 :=
  ⟨h1.toFrame.trans h2.toFrame, h1.steq.trans h2.steq⟩

theorem Stb.mono {a b a' b' : Nat} {d d' : Sl KV} (h : Stb a b d d') (h1 : a' ≤ a) (hab : a ≤ b) (h2 : b ≤ b') :
    Stb a' b' d d' := by
  refine ⟨⟨h.len, h.size, fun k hk => h.frame k (by omega)⟩, ?_⟩
  have ha : a ≤ b' := Nat.le_trans hab h2
  rw [seg_append h1 ha, seg_append hab h2, seg_append (d := d') h1 ha, seg_append (d := d') hab h2,
    h.seg_out (Or.inl (Nat.le_refl _)), h.seg_out (Or.inr (Nat.le_refl _))]
  exact (StEq.refl _).append (h.steq.append (StEq.refl _))

theorem Sorts.of_sorted {a b : Nat} {d : Sl KV} (h : Srt (kvSeg d a b)) : Sorts a b d d := ⟨Stb.refl a b d, h⟩

structure Rot (a m b : Nat) (d d' : Sl KV) : Prop extends Frame a b d d' where
  seg : kvSeg d' a b = kvSeg d m b ++ kvSeg d a m

theorem Rot.refl_of {a m b : Nat} (d : Sl KV) (h : a = m ∨ m = b) : Rot a m b d d := by
  refine ⟨Frame.refl _ _ _, ?_⟩
  rcases h with rfl | rfl
  · rw [seg_nil (Nat.le_refl _), List.append_nil]
  · rw [seg_nil (Nat.le_refl _), List.nil_append]

theorem Rot.segs {d d1 : Sl KV} {start mid m e : Nat} (rt : Rot start m e d d1) (a b : Nat) (hez : e ≤ d.data.size)
    (h2 : start ≤ mid) (hm1 : start ≤ m) (hm2 : m ≤ e) (hme : e - m = mid - start) :
    kvSeg d1 a start = kvSeg d a start ∧ kvSeg d1 start mid = kvSeg d m e ∧ kvSeg d1 mid e = kvSeg d start m ∧
      kvSeg d1 e b = kvSeg d e b := by
  have := rt.seg
  rw [seg_append h2 (show mid ≤ e by omega)] at this
  obtain ⟨s2, s3⟩ := List.append_inj this (by rw [seg_length (by rw [rt.size]; omega), seg_length hez, hme])
  exact ⟨rt.seg_out (Or.inl (Nat.le_refl _)), s2, s3, rt.seg_out (Or.inr (Nat.le_refl _))⟩

theorem swap_total {d : Sl KV} (hw : d.WF) {i j : Nat} (hi : i < d.len) (hj : j < d.len) :
    ∃ d', d.swap i j = .ok d' ∧ d'.len = d.len ∧ d'.data.size = d.data.size ∧
      ∀ k, d'.data[k]? = if k = j then d.data[i]? else if k = i then d.data[j]? else d.data[k]? := by
  obtain ⟨x, hx, hx'⟩ := Sl.get_ok_of_lt hw hi
  obtain ⟨y, hy, hy'⟩ := Sl.get_ok_of_lt hw hj
  have h1 := Sl.set_ok_of_lt hw hi y
  have hw1 : (⟨d.data.setIfInBounds i y, d.len⟩ : Sl KV).WF := Sl.set_wf hw h1
  have h2 := Sl.set_ok_of_lt hw1 (show j < _ from hj) x
  have hs : d.swap i j = .ok ⟨(d.data.setIfInBounds i y).setIfInBounds j x, d.len⟩ := by
    simp only [Sl.swap, hx, hy, h1, h2]
  obtain ⟨_, _, _, _, hl, hz, x', y', e1, e2, hd⟩ := Sl.swap_spec hs
  refine ⟨_, hs, hl, hz, ?_⟩
  intro k; rw [hd, e1, e2]

theorem swap_frame {d : Sl KV} (hw : d.WF) {i j : Nat} (hi : i < d.len) (hj : j < d.len) :
    ∃ d', d.swap i j = .ok d' ∧ d'.len = d.len ∧ d'.data.size = d.data.size ∧ d'.data[j]? = d.data[i]? ∧
      d'.data[i]? = d.data[j]? ∧ ∀ k, k ≠ i → k ≠ j → d'.data[k]? = d.data[k]? := by
  obtain ⟨d', hs, hl, hz, hd⟩ := swap_total hw hi hj
  refine ⟨d', hs, hl, hz, by rw [hd, if_pos rfl], ?_, fun k h1 h2 => by rw [hd, if_neg h2, if_neg h1]⟩
  rw [hd]
  split
  · next h => rw [h]
  · rw [if_pos rfl]

theorem swap_adj_rot {d : Sl KV} (hw : d.WF) {i p q : Nat} (h : i + 1 < d.len)
    (hpq : p = i ∧ q = i + 1 ∨ p = i + 1 ∧ q = i) : ∃ d', d.swap p q = .ok d' ∧ Rot i (i + 1) (i + 2) d d' := by
  obtain ⟨x, _, hx⟩ := Sl.get_ok_of_lt hw (show i < d.len by omega)
  obtain ⟨y, _, hy⟩ := Sl.get_ok_of_lt hw h
  obtain ⟨d', hs, hl, hz, e1, e2, ef⟩ := swap_frame hw (show p < d.len by omega) (show q < d.len by omega)
  have e : d'.data[i]? = some y ∧ d'.data[i + 1]? = some x := by
    rcases hpq with ⟨rfl, rfl⟩ | ⟨rfl, rfl⟩
    · exact ⟨e2.trans hy, e1.trans hx⟩
    · exact ⟨e1.trans hy, e2.trans hx⟩
  refine ⟨d', hs, ⟨hl, hz, fun k hk => ef k (by omega) (by omega)⟩, ?_⟩
  rw [seg_append (Nat.le_succ i) (Nat.le_succ (i + 1)), seg_single e.1, seg_single e.2, seg_single hx, seg_single hy]

/-- `x U V W y ↦ x V U W y ↦ x V W U y` -/
theorem Rot.comp_up {a m b c p : Nat} {d s s' : Sl KV} (h1 : Rot a m b d s) (h2 : Rot p b c s s') (hp : p = a + (b - m))
    (ham : a ≤ m) (hmb : m ≤ b) (hbc : b ≤ c) (hz : b ≤ d.data.size) : Rot a m c d s' := by
  subst hp
  obtain ⟨_, s2, s3, _⟩ := h1.segs (mid := a + (b - m)) a b hz (Nat.le_add_right ..) ham hmb (by omega)
  refine ⟨⟨h2.len.trans h1.len, h2.size.trans h1.size, fun k hk => ?_⟩, ?_⟩
  · rw [h2.frame k (by omega), h1.frame k (by omega)]
  · rw [seg_append (show a ≤ a + (b - m) by omega) (show a + (b - m) ≤ c by omega),
      h2.seg_out (Or.inl (Nat.le_refl _)), h2.seg, h1.seg_out (Or.inr (Nat.le_refl _)), s2, s3,
      seg_append (d := d) hmb hbc, List.append_assoc]

/-- `x U V W y ↦ x U W V y ↦ x W U V y` -/
theorem Rot.comp_down {a m b c e : Nat} {d s s' : Sl KV} (h1 : Rot m b c d s) (h2 : Rot a m e s s')
    (he : e = m + (c - b)) (ham : a ≤ m) (hmb : m ≤ b) (hbc : b ≤ c) (hz : c ≤ d.data.size) : Rot a b c d s' := by
  subst he
  obtain ⟨_, s2, s3, _⟩ := h1.segs (mid := m + (c - b)) a c hz (Nat.le_add_right ..) hmb hbc (by omega)
  refine ⟨⟨h2.len.trans h1.len, h2.size.trans h1.size, fun k hk => ?_⟩, ?_⟩
  · rw [h2.frame k (by omega), h1.frame k (by omega)]
  · rw [seg_append (show a ≤ m + (c - b) by omega) (show m + (c - b) ≤ c by omega),
      h2.seg_out (Or.inr (Nat.le_refl _)), h2.seg, h1.seg_out (Or.inl (Nat.le_refl _)), s2, s3,
      seg_append (d := d) ham hmb, List.append_assoc]

/-- `for k := a; k < a + c; k++ { swap(k, k+1) }` moves `data[a]` up to position `a + c` -/
theorem bubbleUp_rot {d : Sl KV} (hw : d.WF) {a c : Nat} (h : a + c < d.len) :
    ∃ d', forRange (fun k (d : Sl KV) => d.swap k (k + 1)) c a d = .ok d' ∧ Rot a (a + 1) (a + c + 1) d d' :=
  forRange_total (fun k (d : Sl KV) => d.swap k (k + 1)) (fun t s => Rot a (a + 1) (t + 1) d s) c a d
    (Rot.refl_of d (.inr rfl))
    (fun i s h1 h2 rt => by
      obtain ⟨s', hs', rt'⟩ := swap_adj_rot (rt.wf hw) (i := i) (by rw [rt.len]; omega) (.inl ⟨rfl, rfl⟩)
      exact ⟨s', hs', rt.comp_up rt' (by omega) (Nat.le_succ a) (by omega) (Nat.le_succ _)
        (by have := hw.le; omega)⟩)

/-- `for k := i + c; k > i; k-- { swap(k, k-1) }` moves `data[i+c]` down to position `i` -/
theorem bubbleDown_rot {d : Sl KV} (hw : d.WF) {i c : Nat} (h : i + c < d.len) :
    ∃ d', forDown (fun t (d : Sl KV) => d.swap (i + 1 + t) (i + t)) c d = .ok d' ∧ Rot i (i + c) (i + c + 1) d d' :=
  forDown_total (fun t (d : Sl KV) => d.swap (i + 1 + t) (i + t)) (fun t s => Rot (i + t) (i + c) (i + c + 1) d s) c d
    (Rot.refl_of d (.inl rfl))
    (fun t s h1 rt => by
      obtain ⟨s', hs', rt'⟩ := swap_adj_rot (rt.wf hw) (i := i + t) (p := i + 1 + t) (q := i + t) (by rw [rt.len]; omega)
        (.inr ⟨by omega, rfl⟩)
      exact ⟨s', hs', rt.comp_down rt' (by omega) (Nat.le_succ _) (by omega) (Nat.le_succ _)
        (by have := hw.le; omega)⟩)

structure Swp (a b n : Nat) (d d' : Sl KV) : Prop where
  len : d'.len = d.len
  size : d'.data.size = d.data.size
  frame : ∀ k, k < a ∨ a + n ≤ k → k < b ∨ b + n ≤ k → d'.data[k]? = d.data[k]?
  left : kvSeg d' a (a + n) = kvSeg d b (b + n)
  right : kvSeg d' b (b + n) = kvSeg d a (a + n)

theorem Swp.wf {a b n : Nat} {d d' : Sl KV} (h : Swp a b n d d') (hw : d.WF) : d'.WF := Sl.WF.of_eq hw h.len h.size

theorem Swp.mid {a b n : Nat} {d d' : Sl KV} (h : Swp a b n d d') : kvSeg d' (a + n) b = kvSeg d (a + n) b :=
  seg_eq_of rfl fun t ht => h.frame _ (by omega) (by omega)

theorem swapRange_swp {d : Sl KV} (hw : d.WF) {a b n : Nat} (h1 : a + n ≤ b) (h2 : b + n ≤ d.len) :
    ∃ d', swapRange d a b n = .ok d' ∧ Swp a b n d d' := by
  have := forRange_total (fun i (d : Sl KV) => d.swap (a + i) (b + i)) (fun t s => Swp a b t d s) n 0 d
    ⟨rfl, rfl, fun _ _ _ => rfl, by rw [seg_nil (Nat.le_of_eq (Nat.add_zero a)), seg_nil (Nat.le_of_eq (Nat.add_zero b))],
      by rw [seg_nil (Nat.le_of_eq (Nat.add_zero a)), seg_nil (Nat.le_of_eq (Nat.add_zero b))]⟩
    (fun i s _ hi sw => by
      obtain ⟨ha, hb, hab⟩ : a + i < d.len ∧ b + i < d.len ∧ a + i < b := by omega
      obtain ⟨x, _, hx⟩ := Sl.get_ok_of_lt hw ha
      obtain ⟨y, _, hy⟩ := Sl.get_ok_of_lt hw hb
      obtain ⟨s', hs', hl, hz, e1, e2, ef⟩ := swap_frame (sw.wf hw) (show a + i < s.len from sw.len.symm ▸ ha)
        (show b + i < s.len from sw.len.symm ▸ hb)
      rw [sw.frame _ (.inr (Nat.le_refl _)) (.inl hab), hx] at e1
      rw [sw.frame _ (.inr (Nat.le_trans (Nat.le_of_lt hab) (Nat.le_add_right b i))) (.inr (Nat.le_refl _)), hy] at e2
      refine ⟨s', hs', hl.trans sw.len, hz.trans sw.size, fun k k1 k2 => ?_, ?_, ?_⟩
      · have : k ≠ a + i ∧ k ≠ b + i ∧ (k < a ∨ a + i ≤ k) ∧ (k < b ∨ b + i ≤ k) := by omega
        rw [ef k this.1 this.2.1, sw.frame k this.2.2.1 this.2.2.2]
      · rw [← Nat.add_assoc, ← Nat.add_assoc, seg_snoc (Nat.le_add_right ..) e2, seg_snoc (Nat.le_add_right ..) hy,
          ← sw.left, seg_eq_of rfl fun t ht => ef (a + t) (by omega) (by omega)]
      · rw [← Nat.add_assoc, ← Nat.add_assoc, seg_snoc (Nat.le_add_right ..) e1, seg_snoc (Nat.le_add_right ..) hx,
          ← sw.right, seg_eq_of rfl fun t ht => ef (b + t) (by omega) (by omega)])
  rwa [Nat.zero_add] at this

theorem Swp.rot {a b n : Nat} {d d' : Sl KV} (sw : Swp a b n d d') (hb : b = a + n) : Rot a b (b + n) d d' := by
  subst hb
  refine ⟨⟨sw.len, sw.size, fun k hk => sw.frame k (by omega) (by omega)⟩, ?_⟩
  rw [seg_append (Nat.le_add_right a n) (Nat.le_add_right (a + n) n), sw.left, sw.right]

/-- `x U₁ U₂ V y ↦ x V U₂ U₁ y ↦ x V U₁ U₂ y` -/
theorem Swp.comp_rot_left {a m n p : Nat} {d d1 d' : Sl KV} (sw : Swp a m n d d1) (rt : Rot p m (m + n) d1 d')
    (hp : p = a + n) (h : a + n ≤ m) : Rot a m (m + n) d d' := by
  subst hp
  refine ⟨⟨rt.len.trans sw.len, rt.size.trans sw.size, fun k hk => ?_⟩, ?_⟩
  · rw [rt.frame k (by omega), sw.frame k (by omega) (by omega)]
  · rw [seg_append (Nat.le_add_right a n) (show a + n ≤ m + n by omega), rt.seg_out (Or.inl (Nat.le_refl _)), rt.seg,
      sw.left, sw.right, sw.mid, seg_append (d := d) (Nat.le_add_right a n) h]

/-- `x U V₁ V₂ y ↦ x V₂ V₁ U y ↦ x V₁ V₂ U y` -/
theorem Swp.comp_rot_right {a m b n : Nat} {d d1 d' : Sl KV} (sw : Swp a b n d d1) (rt : Rot a m b d1 d')
    (hm : m = a + n) (hmb : m ≤ b) : Rot a m (b + n) d d' := by
  subst hm
  refine ⟨⟨rt.len.trans sw.len, rt.size.trans sw.size, fun k hk => ?_⟩, ?_⟩
  · rw [rt.frame k (by omega), sw.frame k (by omega) (by omega)]
  · rw [seg_append (show a ≤ b by omega) (Nat.le_add_right b n), rt.seg_out (Or.inr (Nat.le_refl _)), rt.seg,
      sw.left, sw.right, sw.mid, seg_append (d := d) hmb (Nat.le_add_right b n), List.append_assoc]

/-- the loop of `rotate` followed by the final `swapRange` exchanges the blocks `[lo, m)` and `[m, m+j)` -/
theorem rotateLoop_rot (m : Nat) : ∀ (f lo i j : Nat) (d : Sl KV), d.WF → 1 ≤ i → 1 ≤ j → m = lo + i → m + j ≤ d.len →
    i + j < f →
    ∃ d1 g d', rotateLoop m f i j d = .ok (d1, g) ∧ swapRange d1 (m - g) m g = .ok d' ∧ Rot lo m (m + j) d d' := by
  intro f
  induction f with
  | zero => intro lo i j d _ _ _ _ _ h; exact absurd h (Nat.not_lt_zero _)
  | succ f ih =>
    intro lo i j d hw hi hj hm hjl hf
    have elo : m - i = lo := Nat.sub_eq_of_eq_add hm
    rw [rotateLoop]
    by_cases hij : i = j
    · subst hij
      obtain ⟨d', hs, sw⟩ := swapRange_swp hw (a := lo) (b := m) (n := i) (Nat.le_of_eq hm.symm) hjl
      exact ⟨d, i, d', by rw [if_neg (fun h => h rfl)], by rw [elo]; exact hs, sw.rot hm⟩
    · rw [if_pos hij]
      by_cases hgt : i > j
      · obtain ⟨q1, q2, q3⟩ : lo + j ≤ m ∧ m = lo + j + (i - j) ∧ i - j + j < f := by omega
        obtain ⟨d1, hs1, sw⟩ := swapRange_swp hw (a := lo) (b := m) (n := j) q1 hjl
        obtain ⟨d2, g, d', hloop, hs, rt⟩ := ih (lo + j) (i - j) j d1 (sw.wf hw) (Nat.sub_pos_of_lt hgt) hj q2
          (sw.len.symm ▸ hjl) q3
        exact ⟨d2, g, d', by rw [if_pos hgt, elo, hs1]; exact hloop, hs, sw.comp_rot_left rt rfl q1⟩
      · have hlt : i < j := Nat.lt_of_le_of_ne (Nat.le_of_not_lt hgt) hij
        obtain ⟨q1, q2, q3, q4, q5, q6⟩ : lo + i ≤ m + j - i ∧ m + j - i + i = m + j ∧ m + (j - i) ≤ d.len ∧
            i + (j - i) < f ∧ m + (j - i) = m + j - i ∧ m ≤ m + j - i := by omega
        obtain ⟨d1, hs1, sw⟩ := swapRange_swp hw (a := lo) (b := m + j - i) (n := i) q1 (q2.symm ▸ hjl)
        obtain ⟨d2, g, d', hloop, hs, rt⟩ := ih lo i (j - i) d1 (sw.wf hw) hi (Nat.sub_pos_of_lt hlt) hm
          (sw.len.symm ▸ q3) q4
        rw [q5] at rt
        have := sw.comp_rot_right rt hm q6
        rw [q2] at this
        exact ⟨d2, g, d', by rw [if_neg hgt, elo, hs1]; exact hloop, hs, this⟩

theorem rotate_rot {d : Sl KV} (hw : d.WF) {a m b : Nat} (h1 : a < m) (h2 : m < b) (h3 : b ≤ d.len) :
    ∃ d', rotate d a m b = .ok d' ∧ Rot a m b d d' := by
  obtain ⟨d1, g, d', hloop, hs, rt⟩ := rotateLoop_rot m ((m - a) + (b - m) + 1) a (m - a) (b - m) d hw
    (by omega) (by omega) (by omega) (by omega) (by omega)
  refine ⟨d', by rw [rotate, hloop]; exact hs, ?_⟩
  rwa [show m + (b - m) = b by omega] at rt

theorem Sorts.glue {d d1 d2 d3 : Sl KV} {a start mid m e b : Nat} (hbz : b ≤ d.data.size)
    (g1 : a ≤ start) (g2 : start ≤ mid) (g3 : mid ≤ e) (g4 : e ≤ b) (hm1 : start ≤ m) (hm2 : m ≤ e)
    (hme : e - m = mid - start) (rt : Rot start m e d d1)
    (st2 : Sorts a mid d1 d2) (st3 : Sorts mid b d2 d3)
    (hL : Srt (kvSeg d a m)) (hR : Srt (kvSeg d m b))
    (x1 : ∀ x ∈ kvSeg d m e, ∀ y ∈ kvSeg d start m, x.1 < y.1)
    (x2 : ∀ x ∈ kvSeg d a start, ∀ y ∈ kvSeg d e b, x.1 ≤ y.1) : Sorts a b d d3 := by
  obtain ⟨s1, s2, s3, s4⟩ := rt.segs a b (Nat.le_trans g4 hbz) g2 hm1 hm2 hme
  have eM1 : kvSeg d3 a mid = kvSeg d2 a mid := st3.seg_out (Or.inl (Nat.le_refl _))
  have e1 : StEq (kvSeg d a start ++ kvSeg d m e) (kvSeg d3 a mid) := by
    have := st2.steq
    rwa [seg_append g1 g2, s1, s2, ← eM1] at this
  have e2 : StEq (kvSeg d start m ++ kvSeg d e b) (kvSeg d3 mid b) := by
    have := st3.steq
    rwa [st2.seg_out (Or.inr (Nat.le_refl _)), seg_append g3 g4, s3, s4] at this
  rw [seg_append g1 hm1] at hL
  rw [seg_append hm2 g4] at hR
  have := merge_split hL hR x1 x2 (by rw [eM1]; exact st2.sorted) st3.sorted e1 e2
  rw [← seg_append g1 hm1, ← seg_append hm2 g4, ← seg_append (Nat.le_trans g1 hm1) (Nat.le_trans hm2 g4),
    ← seg_append (Nat.le_trans g1 g2) (Nat.le_trans g3 g4)] at this
  refine ⟨⟨⟨(st3.len.trans st2.len).trans rt.len, (st3.size.trans st2.size).trans rt.size, fun k hk => ?_⟩, this.2⟩,
    this.1⟩
  rw [st3.frame k (by omega), st2.frame k (by omega), rt.frame k (by omega)]

theorem bsearch_total (test : Nat → Outcome Bool) : ∀ (f i j : Nat), i ≤ j → j - i < f →
    (∀ h, i ≤ h → h < j → ∃ t, test h = .ok t) →
    ∃ r, bsearch test f i j = .ok r ∧ i ≤ r ∧ r ≤ j ∧ (i < r → test (r - 1) = .ok true) ∧
      (r < j → test r = .ok false) := by
  intro f
  induction f with
  | zero => intro i j _ h; exact absurd h (Nat.not_lt_zero _)
  | succ f ih =>
    intro i j hij hf ht
    rw [bsearch]
    by_cases hlt : i < j
    · rw [if_pos hlt]
      -- only `i ≤ h < j` matters of the midpoint `h`
      obtain ⟨h1, h2⟩ : i ≤ (i + j) / 2 ∧ (i + j) / 2 < j := by omega
      dsimp only
      generalize (i + j) / 2 = h at h1 h2 ⊢
      obtain ⟨t, htt⟩ := ht h h1 h2
      rw [htt]
      cases t with
      | true =>
        obtain ⟨r, hr, r1, r2, r3, r4⟩ := ih (h + 1) j h2 (by omega) (fun k k1 k2 => ht k (by omega) k2)
        refine ⟨r, hr, by omega, r2, fun _ => ?_, r4⟩
        by_cases hr' : h + 1 < r
        · exact r3 hr'
        · rw [show r - 1 = h by omega]; exact htt
      | false =>
        obtain ⟨r, hr, r1, r2, r3, r4⟩ := ih i h h1 (by omega) (fun k k1 k2 => ht k k1 (by omega))
        refine ⟨r, hr, r1, by omega, r3, fun _ => ?_⟩
        by_cases hr' : r < h
        · exact r4 hr'
        · rw [show r = h by omega]; exact htt
    · rw [if_neg hlt]
      exact ⟨i, rfl, Nat.le_refl _, hij, fun h => absurd h (Nat.lt_irrefl _), fun h => absurd h hlt⟩

theorem insInner_sorts : ∀ (c j : Nat) (d : Sl KV), d.WF → c ≤ j → j < d.len → Srt (kvSeg d (j - c) j) →
    ∃ d', insInner c j d = .ok d' ∧ Sorts (j - c) (j + 1) d d' := by
  intro c
  induction c with
  | zero =>
    intro j d hw _ hj _
    have hz : d.len ≤ d.data.size := hw
    exact ⟨d, rfl, Sorts.of_sorted (Srt.of_length_le_one (by rw [seg_length (by omega)]; omega))⟩
  | succ c ih =>
    intro j d hw hc hj hs
    obtain ⟨i, rfl⟩ : ∃ i, j = i + 1 := ⟨j - 1, (Nat.succ_pred_eq_of_pos (Nat.lt_of_lt_of_le (Nat.succ_pos c) hc)).symm⟩
    have hz : d.len ≤ d.data.size := hw
    obtain ⟨x, hx, hx'⟩ := Sl.get_ok_of_lt hw hj
    obtain ⟨y, hy, hy'⟩ := Sl.get_ok_of_lt hw (Nat.lt_of_succ_lt hj)
    have hlo : i - c ≤ i := Nat.sub_le ..
    rw [Nat.add_sub_add_right] at hs ⊢
    rw [insInner]
    simp only [Nat.add_sub_cancel, hx, hy]
    by_cases hlt : x.1 < y.1
    · rw [if_pos hlt]
      obtain ⟨d1, hsw, rt⟩ := swap_adj_rot hw hj (.inr ⟨rfl, rfl⟩)
      have hpre : kvSeg d1 (i - c) i = kvSeg d (i - c) i := rt.seg_out (Or.inl (Nat.le_refl _))
      obtain ⟨d', hd', st⟩ := ih i d1 (rt.wf hw) (Nat.le_of_succ_le_succ hc) (rt.len.symm ▸ Nat.lt_of_succ_lt hj)
        (by rw [hpre]; rw [seg_append hlo (Nat.le_succ i)] at hs; exact hs.left)
      refine ⟨d', by rw [hsw]; exact hd', ?_⟩
      refine Sorts.glue (Nat.le_trans hj hz) hlo (Nat.le_succ i) (Nat.le_succ _) (Nat.le_refl _) (Nat.le_succ i)
        (Nat.le_succ _) (by omega) rt st (Sorts.of_sorted (Srt.of_length_le_one ?_)) hs ?_ ?_ ?_
      · rw [seg_length (by rw [st.size, rt.size]; omega)]; omega
      · rw [seg_single hx']; exact Srt.single x
      · intro p hp q hq
        rw [seg_single hx'] at hp
        rw [seg_single hy'] at hq
        cases List.mem_singleton.1 hp; cases List.mem_singleton.1 hq; exact hlt
      · intro p _ q hq
        rw [seg_nil (Nat.le_refl _)] at hq
        cases hq
    · rw [if_neg hlt]
      refine ⟨d, rfl, Sorts.of_sorted ?_⟩
      rw [seg_snoc (Nat.le_succ_of_le hlo) hx']
      refine Srt.app hs (Srt.single x) fun p hp q hq => ?_
      cases List.mem_singleton.1 hq
      obtain ⟨k, k1, k2, k3⟩ := mem_seg.1 hp
      exact Nat.le_trans (hs.le_of_seg k1 (Nat.le_of_lt_succ k2) (Nat.lt_succ_self i) k3 hy') (Nat.le_of_not_lt hlt)

theorem insertionSortKV_sorts {d : Sl KV} (hw : d.WF) {a b : Nat} (hab : a ≤ b) (hb : b ≤ d.len) :
    ∃ d', insertionSortKV d a b = .ok d' ∧ Sorts a b d d' := by
  have hz : d.len ≤ d.data.size := hw
  rcases Nat.eq_or_lt_of_le hab with rfl | hlt
  · exact ⟨d, by rw [insertionSortKV, Nat.sub_eq_zero_of_le (Nat.le_succ a)]; rfl,
      Sorts.of_sorted (by rw [seg_nil (Nat.le_refl a)]; exact Srt.nil)⟩
  obtain ⟨d', hd', st, so⟩ := forRange_total (fun i (d : Sl KV) => insInner (i - a) i d)
    (fun i s => Stb a b d s ∧ Srt (kvSeg s a i)) (b - (a + 1)) (a + 1) d
    ⟨Stb.refl _ _ _, Srt.of_length_le_one (by rw [seg_length (by omega)]; omega)⟩
    (fun i s h1 h2 ⟨st, so⟩ => by
      have e : i - (i - a) = a := Nat.sub_sub_self (Nat.le_of_succ_le h1)
      obtain ⟨s', hs', st'⟩ := insInner_sorts (i - a) i s (st.wf hw) (Nat.sub_le ..) (by rw [st.len]; omega)
        (by rw [e]; exact so)
      rw [e] at st'
      exact ⟨s', hs', st.trans (st'.toStb.mono (Nat.le_refl _) (Nat.le_succ_of_le (Nat.le_of_succ_le h1)) (by omega)), st'.sorted⟩)
  rw [show a + 1 + (b - (a + 1)) = b by omega] at so
  exact ⟨d', hd', st, so⟩

/-- the case `m - a = 1` of `symMerge`: `data[a] = x` has been moved behind `data[m:i]` -/
theorem symMerge_left_one {d d' : Sl KV} {a b i : Nat} {x : KV} (hbz : b ≤ d.data.size) (i1 : a + 1 ≤ i) (i2 : i ≤ b)
    (rt : Rot a (a + 1) i d d') (hx : d.data[a]? = some x)
    (c1 : a + 1 < i → ∃ u, d.data[i - 1]? = some u ∧ u.1 < x.1)
    (c2 : i < b → ∃ u, d.data[i]? = some u ∧ x.1 ≤ u.1)
    (hR : Srt (kvSeg d (a + 1) b)) : Sorts a b d d' := by
  have hR' := hR
  rw [seg_append i1 i2] at hR'
  have hi : i - 1 ≤ i := Nat.sub_le ..
  have hxs := seg_single hx
  obtain ⟨p1, p2, p3⟩ : a ≤ i - 1 ∧ i - (a + 1) = i - 1 - a ∧ i - 1 < i := by omega
  obtain ⟨_, s2, s3, s4⟩ := rt.segs a b (Nat.le_trans i2 hbz) p1 (Nat.le_succ a) i1 p2
  refine Sorts.glue hbz (Nat.le_refl a) p1 hi i2 (Nat.le_succ a) i1 p2 rt
    (Sorts.of_sorted (by rw [s2]; exact hR'.left)) (Sorts.of_sorted ?_) (by rw [hxs]; exact Srt.single x) hR ?_ ?_
  · rw [seg_append hi i2, s3, s4, hxs]
    refine Srt.app (Srt.single x) hR'.right fun p hp q hq => ?_
    cases List.mem_singleton.1 hp
    obtain ⟨k, k1, k2, k3⟩ := mem_seg.1 hq
    obtain ⟨u, hu, h⟩ := c2 (Nat.lt_of_le_of_lt k1 k2)
    exact Nat.le_trans h (hR'.right.le_of_seg (Nat.le_refl i) k1 k2 hu k3)
  · intro p hp q hq
    rw [hxs] at hq
    cases List.mem_singleton.1 hq
    obtain ⟨k, k1, k2, k3⟩ := mem_seg.1 hp
    obtain ⟨u, hu, h⟩ := c1 (Nat.lt_of_le_of_lt k1 k2)
    exact Nat.lt_of_le_of_lt (hR'.left.le_of_seg k1 (Nat.le_sub_one_of_lt k2) p3 k3 hu) h
  · intro p hp
    rw [seg_nil (Nat.le_refl a)] at hp
    cases hp

/-- the case `b - m = 1` of `symMerge`: `data[m] = y` has been moved in front of `data[i:m]` -/
theorem symMerge_right_one {d d' : Sl KV} {a m i : Nat} {y : KV} (hbz : m + 1 ≤ d.data.size) (i1 : a ≤ i) (i2 : i ≤ m)
    (rt : Rot i m (m + 1) d d') (hy : d.data[m]? = some y)
    (c1 : a < i → ∃ u, d.data[i - 1]? = some u ∧ u.1 ≤ y.1)
    (c2 : i < m → ∃ u, d.data[i]? = some u ∧ y.1 < u.1)
    (hL : Srt (kvSeg d a m)) : Sorts a (m + 1) d d' := by
  have hL' := hL
  rw [seg_append i1 i2] at hL'
  have hys := seg_single hy
  have p2 : m + 1 - m = i + 1 - i := by rw [Nat.add_sub_cancel_left, Nat.add_sub_cancel_left]
  obtain ⟨s1, s2, s3, _⟩ := rt.segs a (m + 1) hbz (Nat.le_succ i) i2 (Nat.le_succ m) p2
  refine Sorts.glue hbz i1 (Nat.le_succ i) (Nat.succ_le_succ i2) (Nat.le_refl _) i2 (Nat.le_succ m) p2 rt
    (Sorts.of_sorted ?_) (Sorts.of_sorted (by rw [s3]; exact hL'.right)) hL (by rw [hys]; exact Srt.single y) ?_ ?_
  · rw [seg_append i1 (Nat.le_succ i), s1, s2, hys]
    refine Srt.app hL'.left (Srt.single y) fun p hp q hq => ?_
    cases List.mem_singleton.1 hq
    obtain ⟨k, k1, k2, k3⟩ := mem_seg.1 hp
    obtain ⟨u, hu, h⟩ := c1 (Nat.lt_of_le_of_lt k1 k2)
    exact Nat.le_trans (hL'.left.le_of_seg k1 (Nat.le_sub_one_of_lt k2)
      (Nat.sub_lt (Nat.zero_lt_of_lt k2) Nat.one_pos) k3 hu) h
  · intro p hp q hq
    rw [hys] at hp
    cases List.mem_singleton.1 hp
    obtain ⟨k, k1, k2, k3⟩ := mem_seg.1 hq
    obtain ⟨u, hu, h⟩ := c2 (Nat.lt_of_le_of_lt k1 k2)
    exact Nat.lt_of_lt_of_le h (hL'.right.le_of_seg (Nat.le_refl i) k1 k2 hu k3)
  · intro p _ q hq
    rw [seg_nil (Nat.le_refl _)] at hq
    cases hq

theorem symMerge_left_idx {a b i len : Nat} (i1 : a + 1 ≤ i) (i2 : i ≤ b) (hbl : b ≤ len) :
    a + (i - 1 - a) < len ∧ a + (i - 1 - a) + 1 = i ∧ i - 1 < b := by
  omega

/-- the two positions compared by the binary search of the recursive case lie in `[a, b)` -/
theorem symMerge_test_idx {a m b mid s0 r0 c : Nat} (hmb : m < b) (hmid : (a + b) / 2 = mid)
    (hsr : (m > mid ∧ s0 = mid + m - b ∧ r0 = mid) ∨ (m ≤ mid ∧ s0 = a ∧ r0 = m)) (hc1 : s0 ≤ c) (hc2 : c < r0) :
    mid + m - 1 - c < b ∧ c < b := by
  omega

/-- where the binary search of the recursive case of `symMerge` ends: between `a`, `m` and `mid`, and not below
`mid + m - b`; the two strict bounds say that the comparisons at the ends of the result were made -/
theorem symMerge_bounds {a m b mid s0 r0 start : Nat} (hmid : (a + b) / 2 = mid)
    (hsr : (m > mid ∧ s0 = mid + m - b ∧ r0 = mid) ∨ (m ≤ mid ∧ s0 = a ∧ r0 = m)) (i1 : s0 ≤ start) (i2 : start ≤ r0) :
    a ≤ start ∧ start ≤ mid ∧ start ≤ m ∧ mid + m ≤ b + start ∧ (start < mid → start < m → start < r0) ∧
      (a < start → mid + m < b + start → s0 < start) := by
  omega

/-- the index arithmetic of the recursive case of `symMerge` (`mid + m - start` is the end of the part of the right
run that goes to the left half) -/
theorem symMerge_arith {a m b mid start f : Nat} (ham : a < m) (hmb : m < b) (hf : b - a ≤ f + 1)
    (hmid : (a + b) / 2 = mid) (g2 : start ≤ mid) (hm1 : start ≤ m) (g4 : mid + m ≤ b + start) :
    mid ≤ mid + m - start ∧ mid + m - start ≤ b ∧ m ≤ mid + m - start ∧ mid + m - start - m = mid - start ∧
      mid - a ≤ f ∧ b - mid ≤ f ∧ (¬(a < start ∧ start < mid) → start ≤ a ∨ mid + m - start ≤ m) ∧
      (¬(mid < mid + m - start ∧ mid + m - start < b) → m ≤ start ∨ b ≤ mid + m - start) := by
  omega

/-- the comparison that ended the binary search from above, when `data[m:e]` and `data[start:m]` are inhabited -/
theorem symMerge_arith_hi {m b mid r0 start k l : Nat} (hmb : m < b) (g4 : mid + m ≤ b + start)
    (qr : start < mid → start < m → start < r0) (k1 : m ≤ k) (k2 : k < mid + m - start) (l1 : start ≤ l) (l2 : l < m) :
    start < r0 ∧ mid + m - start - 1 = mid + m - 1 - start ∧ mid + m - 1 - start < b ∧ start < b := by
  omega

/-- the same from below, when `data[a:start]` and `data[e:b]` are inhabited -/
theorem symMerge_arith_lo {a m b mid s0 start k l : Nat} (hmb : m < b) (hm1 : start ≤ m)
    (qs : a < start → mid + m < b + start → s0 < start) (k1 : a ≤ k) (k2 : k < start) (l1 : mid + m - start ≤ l)
    (l2 : l < b) :
    s0 < start ∧ mid + m - 1 - (start - 1) = mid + m - start ∧ mid + m - 1 - (start - 1) < b ∧ start - 1 < b := by
  omega

theorem symMerge_sorts : ∀ (f : Nat) (d : Sl KV) (a m b : Nat), d.WF → a < m → m < b → b ≤ d.len → b - a ≤ f →
    Srt (kvSeg d a m) → Srt (kvSeg d m b) → ∃ d', symMerge f d a m b = .ok d' ∧ Sorts a b d d' := by
  intro f
  induction f with
  | zero =>
    intro d a m b _ ham hmb _ h
    exact absurd (Nat.lt_trans ham hmb) (Nat.not_lt.2 (Nat.sub_eq_zero_iff_le.1 (Nat.le_zero.1 h)))
  | succ f ih =>
    intro d a m b hw ham hmb hbl hf hL hR
    have hbz : b ≤ d.data.size := Nat.le_trans hbl hw
    have hget : ∀ k, k < b → ∃ x, d.get k = .ok x ∧ d.data[k]? = some x := fun k hk =>
      Sl.get_ok_of_lt hw (Nat.lt_of_lt_of_le hk hbl)
    rw [symMerge]
    by_cases h1 : m - a = 1
    · rw [if_pos h1]
      obtain rfl : m = a + 1 := by omega
      obtain ⟨x, gx, hx⟩ := hget a (Nat.lt_trans ham hmb)
      have ht : ∀ h, a + 1 ≤ h → h < b → ∃ t, (match d.get h, d.get a with
          | .ok x, .ok y => Outcome.ok (decide (x.1 < y.1))
          | _, _ => Outcome.panic) = .ok t := by
        intro h _ h2
        obtain ⟨u, gu, _⟩ := hget h h2
        simp only [gu, gx]; exact ⟨_, rfl⟩
      generalize hT : bsearch _ _ _ _ = o
      obtain ⟨i, hb, i1, i2, i3, i4⟩ := bsearch_total _ (b - (a + 1) + 1) (a + 1) b (Nat.le_of_lt hmb)
        (Nat.lt_succ_self _) ht
      cases hT.symm.trans hb
      obtain ⟨q1, q2, q3⟩ : a + (i - 1 - a) < d.len ∧ a + (i - 1 - a) + 1 = i ∧ i - 1 < b :=
        symMerge_left_idx i1 i2 hbl
      obtain ⟨d', hd', rt⟩ := bubbleUp_rot hw (a := a) (c := i - 1 - a) q1
      rw [q2] at rt
      refine ⟨d', hd', symMerge_left_one hbz i1 i2 rt hx ?_ ?_ hR⟩
      · intro hi
        obtain ⟨u, gu, hu⟩ := hget (i - 1) q3
        have := i3 hi
        simp only [gu, gx, Outcome.ok.injEq, decide_eq_true_eq] at this
        exact ⟨u, hu, this⟩
      · intro hi
        obtain ⟨u, gu, hu⟩ := hget i hi
        have := i4 hi
        simp only [gu, gx, Outcome.ok.injEq, decide_eq_false_iff_not, Nat.not_lt] at this
        exact ⟨u, hu, this⟩
    · rw [if_neg h1]
      by_cases h2 : b - m = 1
      · rw [if_pos h2]
        obtain rfl : b = m + 1 := by omega
        obtain ⟨y, gy, hy⟩ := hget m (Nat.lt_succ_self m)
        have ht : ∀ h, a ≤ h → h < m → ∃ t, (match d.get m, d.get h with
            | .ok x, .ok y => Outcome.ok (decide (x.1 ≥ y.1))
            | _, _ => Outcome.panic) = .ok t := by
          intro h _ h2
          obtain ⟨u, gu, _⟩ := hget h (Nat.lt_succ_of_lt h2)
          simp only [gu, gy]; exact ⟨_, rfl⟩
        generalize hT : bsearch _ _ _ _ = o
        obtain ⟨i, hb, i1, i2, i3, i4⟩ := bsearch_total _ (m - a + 1) a m (Nat.le_of_lt ham)
          (Nat.lt_succ_self _) ht
        cases hT.symm.trans hb
        obtain ⟨d', hd', rt⟩ := bubbleDown_rot hw (i := i) (c := m - i) (by rw [Nat.add_sub_cancel' i2]; exact hbl)
        rw [Nat.add_sub_cancel' i2] at rt
        refine ⟨d', hd', symMerge_right_one hbz i1 i2 rt hy ?_ ?_ hL⟩
        · intro hi
          obtain ⟨u, gu, hu⟩ := hget (i - 1) (Nat.lt_succ_of_le (Nat.le_trans (Nat.sub_le i 1) i2))
          have := i3 hi
          simp only [gu, gy, Outcome.ok.injEq, decide_eq_true_eq, ge_iff_le] at this
          exact ⟨u, hu, this⟩
        · intro hi
          obtain ⟨u, gu, hu⟩ := hget i (Nat.lt_succ_of_lt hi)
          have := i4 hi
          simp only [gu, gy, Outcome.ok.injEq, decide_eq_false_iff_not, ge_iff_le, Nat.not_le] at this
          exact ⟨u, hu, this⟩
      · rw [if_neg h2]
        dsimp only
        generalize hmid : (a + b) / 2 = mid
        generalize hsr : (if m > mid then (mid + m - b, mid) else (a, m)) = sr
        obtain ⟨s0, r0⟩ := sr
        have hsr' : s0 ≤ r0 ∧ ((m > mid ∧ s0 = mid + m - b ∧ r0 = mid) ∨ (m ≤ mid ∧ s0 = a ∧ r0 = m)) := by
          split at hsr <;> simp only [Prod.mk.injEq] at hsr <;> omega
        dsimp only
        have ht : ∀ c, s0 ≤ c → c < r0 → ∃ t, (match d.get (mid + m - 1 - c), d.get c with
            | .ok x, .ok y => Outcome.ok (decide (x.1 ≥ y.1))
            | _, _ => Outcome.panic) = .ok t := by
          intro c hc1 hc2
          obtain ⟨qu, qv⟩ := symMerge_test_idx hmb hmid hsr'.2 hc1 hc2
          obtain ⟨u, gu, _⟩ := hget _ qu
          obtain ⟨v, gv, _⟩ := hget _ qv
          simp only [gu, gv]; exact ⟨_, rfl⟩
        generalize hT : bsearch _ _ _ _ = o
        obtain ⟨start, hb, i1, i2, i3, i4⟩ := bsearch_total _ (r0 - s0 + 1) s0 r0 hsr'.1
          (Nat.lt_succ_self _) ht
        cases hT.symm.trans hb
        dsimp only
        obtain ⟨g1, g2, hm1, g4', qr, qs⟩ := symMerge_bounds hmid hsr'.2 i1 i2
        obtain ⟨g3, g4, hm2, hme, ga, gb, n2, n3⟩ := symMerge_arith ham hmb hf hmid g2 hm1 g4'
        obtain ⟨d1, e1, rt⟩ : ∃ d1, (if start < m ∧ m < mid + m - start then rotate d start m (mid + m - start)
            else Outcome.ok d) = .ok d1 ∧ Rot start m (mid + m - start) d d1 := by
          by_cases hc : start < m ∧ m < mid + m - start
          · rw [if_pos hc]
            exact rotate_rot hw hc.1 hc.2 (Nat.le_trans g4 hbl)
          · rw [if_neg hc]
            exact ⟨d, rfl, Rot.refl_of d (by omega)⟩
        rw [e1]; dsimp only
        obtain ⟨s1, s2, s3, s4⟩ := rt.segs a b (Nat.le_trans g4 hbz) g2 hm1 hm2 hme
        have hL' := hL
        rw [seg_append g1 hm1] at hL'
        have hR' := hR
        rw [seg_append hm2 g4] at hR'
        obtain ⟨d2, e2, f2⟩ : ∃ d2, (if a < start ∧ start < mid then symMerge f d1 a start mid
            else Outcome.ok d1) = .ok d2 ∧ Sorts a mid d1 d2 := by
          by_cases hc : a < start ∧ start < mid
          · rw [if_pos hc]
            exact ih d1 a start mid (rt.wf hw) hc.1 hc.2 (by rw [rt.len]; omega) ga
              (by rw [s1]; exact hL'.left) (by rw [s2]; exact hR'.left)
          · rw [if_neg hc]
            refine ⟨d1, rfl, Sorts.of_sorted ?_⟩
            rw [seg_append g1 g2, s1, s2]
            exact hL'.left.seg_app_of_le hR'.left (n2 hc)
        rw [e2]; dsimp only
        have t3 : kvSeg d2 mid (mid + m - start) = kvSeg d start m := by
          rw [f2.seg_out (Or.inr (Nat.le_refl _)), s3]
        have t4 : kvSeg d2 (mid + m - start) b = kvSeg d (mid + m - start) b := by
          rw [f2.seg_out (Or.inr g3), s4]
        obtain ⟨d3, e3, f3⟩ : ∃ d3, (if mid < mid + m - start ∧ mid + m - start < b then
            symMerge f d2 mid (mid + m - start) b else Outcome.ok d2) = .ok d3 ∧ Sorts mid b d2 d3 := by
          by_cases hc : mid < mid + m - start ∧ mid + m - start < b
          · rw [if_pos hc]
            exact ih d2 mid (mid + m - start) b (f2.wf (rt.wf hw)) hc.1 hc.2 (by rw [f2.len, rt.len]; exact hbl)
              gb (by rw [t3]; exact hL'.right) (by rw [t4]; exact hR'.right)
          · rw [if_neg hc]
            refine ⟨d2, rfl, Sorts.of_sorted ?_⟩
            rw [seg_append g3 g4, t3, t4]
            exact hL'.right.seg_app_of_le hR'.right (n3 hc)
        refine ⟨d3, e3, Sorts.glue hbz g1 g2 g3 g4 hm1 hm2 hme rt f2 f3 hL hR ?_ ?_⟩
        · intro x hx y hy
          obtain ⟨k, k1, k2, _⟩ := mem_seg.1 hx
          obtain ⟨l, l1, l2, _⟩ := mem_seg.1 hy
          obtain ⟨q, qe, qu, qv⟩ := symMerge_arith_hi hmb g4' qr k1 k2 l1 l2
          obtain ⟨u, gu, hu⟩ := hget _ qu
          obtain ⟨v, gv, hv⟩ := hget _ qv
          have := i4 q
          simp only [gu, gv, Outcome.ok.injEq, decide_eq_false_iff_not, ge_iff_le, Nat.not_le] at this
          rw [← qe] at hu
          have := Srt.seg_bounds hR'.left hL'.right hu hv hx hy
          omega
        · intro x hx y hy
          obtain ⟨k, k1, k2, _⟩ := mem_seg.1 hx
          obtain ⟨l, l1, l2, _⟩ := mem_seg.1 hy
          obtain ⟨q, qe, qu, qv⟩ := symMerge_arith_lo hmb hm1 qs k1 k2 l1 l2
          obtain ⟨u, gu, hu⟩ := hget _ qu
          obtain ⟨v, gv, hv⟩ := hget _ qv
          have := i3 q
          simp only [gu, gv, Outcome.ok.injEq, decide_eq_true_eq, ge_iff_le] at this
          rw [qe] at hu
          have := Srt.seg_bounds hL'.left hR'.right hv hu hx hy
          omega

theorem kv_dvd_step {c x a : Nat} (hx : c ∣ x) (ha : c ∣ a) (h : x < a + c) : x ≤ a := by
  obtain ⟨p, rfl⟩ := hx
  obtain ⟨q, rfl⟩ := ha
  have h' : c * p < c * (q + 1) := by rw [Nat.mul_succ]; exact h
  have : p < q + 1 := Nat.lt_of_mul_lt_mul_left h'
  exact Nat.mul_le_mul_left c (by omega)

theorem kv_dvd_step' {c x a : Nat} (hx : c ∣ x) (ha : c ∣ a) (h : x < a) : x + c ≤ a := by
  by_cases h' : x + c ≤ a
  · exact h'
  · have := kv_dvd_step ha hx (by omega); omega

def Blk (d : Sl KV) (bs n : Nat) : Prop := ∀ x, bs ∣ x → Srt (kvSeg d x (min (x + bs) n))

theorem Blk.of_tail {d d' : Sl KV} {bs n a : Nat} (hdv : bs ∣ a) (r1 : a ≤ n) (r2 : n < a + bs)
    (hpre : ∀ x, bs ∣ x → x < a → Srt (kvSeg d x (x + bs))) (st : Sorts a n d d') : Blk d' bs n := by
  intro x hx
  by_cases hxa : x < a
  · have := kv_dvd_step' hx hdv hxa
    rw [Nat.min_eq_left (by omega), st.seg_out (Or.inl this)]
    exact hpre x hx hxa
  · by_cases hxe : x = a
    · subst hxe
      rw [Nat.min_eq_right (Nat.le_of_lt r2)]; exact st.sorted
    · have : a + bs ≤ x := kv_dvd_step' hdv hx (by omega)
      rw [seg_nil (by omega)]; exact Srt.nil

theorem blocks_step {d d' : Sl KV} {bs a b : Nat} (hab : b = a + bs) (hdv : bs ∣ a)
    (hpre : ∀ x, bs ∣ x → x < a → Srt (kvSeg d x (x + bs))) (st : Sorts a b d d') :
    ∀ x, bs ∣ x → x < b → Srt (kvSeg d' x (x + bs)) := by
  intro x hx hxb
  by_cases hxa : x < a
  · have := kv_dvd_step' hx hdv hxa
    rw [st.seg_out (Or.inl this)]; exact hpre x hx hxa
  · have : x ≤ a := kv_dvd_step hx hdv (by omega)
    obtain rfl : x = a := by omega
    rw [← hab]; exact st.sorted

theorem stableBlocks_sorts (bs n : Nat) (hbs : 1 ≤ bs) : ∀ (f a b : Nat) (d : Sl KV), d.WF → n ≤ d.len →
    b = a + bs → a ≤ n → bs ∣ a → n + 1 - b < f → (∀ x, bs ∣ x → x < a → Srt (kvSeg d x (x + bs))) →
    ∃ d' a', stableBlocks bs n f a b d = .ok (d', a') ∧ Stb 0 n d d' ∧ a' ≤ n ∧ n < a' + bs ∧ bs ∣ a' ∧
      (∀ x, bs ∣ x → x < a' → Srt (kvSeg d' x (x + bs))) := by
  intro f
  induction f with
  | zero => intro a b d _ _ _ _ _ h; exact absurd h (Nat.not_lt_zero _)
  | succ f ih =>
    intro a b d hw hn hab han hdv hf hpre
    rw [stableBlocks]
    by_cases hb : b ≤ n
    · rw [if_pos hb]
      obtain ⟨d1, h1, st1⟩ := insertionSortKV_sorts hw (a := a) (b := b) (hab ▸ Nat.le_add_right a bs)
        (Nat.le_trans hb hn)
      rw [h1]; dsimp only
      obtain ⟨d', a', h2, st, r⟩ := ih b (b + bs) d1 (st1.wf hw) (by rw [st1.len]; exact hn) rfl hb
        (by rw [hab]; exact Nat.dvd_add hdv (Nat.dvd_refl _)) (by omega) (blocks_step hab hdv hpre st1)
      exact ⟨d', a', h2, (st1.toStb.mono (Nat.zero_le _) (by omega) hb).trans st, r⟩
    · rw [if_neg hb]; exact ⟨d, a, rfl, Stb.refl _ _ _, han, by omega, hdv, hpre⟩

theorem stableMergeRow_sorts (bs n : Nat) (hbs : 1 ≤ bs) : ∀ (f a b : Nat) (d : Sl KV), d.WF → n ≤ d.len →
    b = a + 2 * bs → a ≤ n → (2 * bs) ∣ a → n + 1 - b < f →
    (∀ x, (2 * bs) ∣ x → x < a → Srt (kvSeg d x (x + 2 * bs))) →
    (∀ x, bs ∣ x → a ≤ x → Srt (kvSeg d x (min (x + bs) n))) →
    ∃ d' a', stableMergeRow bs n f a b d = .ok (d', a') ∧ Stb 0 n d d' ∧ a' ≤ n ∧ n < a' + 2 * bs ∧ (2 * bs) ∣ a' ∧
      (∀ x, (2 * bs) ∣ x → x < a' → Srt (kvSeg d' x (x + 2 * bs))) ∧
      (∀ x, bs ∣ x → a' ≤ x → Srt (kvSeg d' x (min (x + bs) n))) := by
  intro f
  induction f with
  | zero => intro a b d _ _ _ _ _ h; exact absurd h (Nat.not_lt_zero _)
  | succ f ih =>
    intro a b d hw hn hab han hdv hf hpre hpost
    have hdv1 : bs ∣ a := Nat.dvd_trans (Nat.dvd_mul_left bs 2) hdv
    rw [stableMergeRow]
    by_cases hb : b ≤ n
    · rw [if_pos hb]
      obtain ⟨q1, q2, q3, q4, q5, q6⟩ : a + bs ≤ n ∧ a + bs + bs = b ∧ a < a + bs ∧ a + bs < b ∧ b - a ≤ n + 2 ∧
          n + 1 - (b + 2 * bs) < f := by omega
      have hL : Srt (kvSeg d a (a + bs)) := by
        have := hpost a hdv1 (Nat.le_refl _)
        rwa [Nat.min_eq_left q1] at this
      have hR : Srt (kvSeg d (a + bs) b) := by
        have := hpost (a + bs) (Nat.dvd_add hdv1 (Nat.dvd_refl _)) (Nat.le_add_right a bs)
        rwa [Nat.min_eq_left (q2 ▸ hb), q2] at this
      obtain ⟨d1, h1, st1⟩ := symMerge_sorts (n + 2) d a (a + bs) b hw q3 q4 (Nat.le_trans hb hn) q5 hL hR
      rw [h1]; dsimp only
      obtain ⟨d', a', h2, st, r⟩ := ih b (b + 2 * bs) d1 (st1.wf hw) (by rw [st1.len]; exact hn) rfl hb
        (by rw [hab]; exact Nat.dvd_add hdv (Nat.dvd_refl _)) q6 (blocks_step hab hdv hpre st1)
        (fun x hx hxb => by
          rw [st1.seg_out (Or.inr hxb)]
          exact hpost x hx (Nat.le_trans (Nat.le_of_lt (Nat.lt_trans q3 q4)) hxb))
      exact ⟨d', a', h2, (st1.toStb.mono (Nat.zero_le _) (Nat.le_of_lt (Nat.lt_trans q3 q4)) hb).trans st, r⟩
    · rw [if_neg hb]; exact ⟨d, a, rfl, Stb.refl _ _ _, han, by omega, hdv, hpre, hpost⟩

theorem stableMerge_sorts (n : Nat) : ∀ (f bs : Nat) (d : Sl KV), d.WF → n ≤ d.len → 1 ≤ bs → n - bs < f →
    Blk d bs n → ∃ d', stableMerge n f bs d = .ok d' ∧ Sorts 0 n d d' := by
  intro f
  induction f with
  | zero => intro bs d _ _ _ h; exact absurd h (Nat.not_lt_zero _)
  | succ f ih =>
    intro bs d hw hn hbs hf hblk
    rw [stableMerge]
    by_cases hb : bs < n
    · rw [if_pos hb]
      obtain ⟨d1, a1, h1, st1, r1, r2, r3, r4, r5⟩ := stableMergeRow_sorts bs n hbs (n + 1) 0 (2 * bs) d hw hn
        (Nat.zero_add _).symm (Nat.zero_le _) (Nat.dvd_zero _) (by omega) (fun x _ hx => absurd hx (Nat.not_lt_zero x))
        (fun x hx _ => hblk x hx)
      rw [h1]; dsimp only
      have hw1 := st1.wf hw
      have hdv1 : bs ∣ a1 := Nat.dvd_trans (Nat.dvd_mul_left bs 2) r3
      have hL := r5 a1 hdv1 (Nat.le_refl _)
      obtain ⟨d2, e2, f2⟩ : ∃ d2, (if a1 + bs < n then symMerge (n + 2) d1 a1 (a1 + bs) n else Outcome.ok d1) = .ok d2 ∧
          Sorts a1 n d1 d2 := by
        by_cases hc : a1 + bs < n
        · rw [if_pos hc]
          have hR := r5 (a1 + bs) (Nat.dvd_add hdv1 (Nat.dvd_refl _)) (Nat.le_add_right a1 bs)
          rw [Nat.min_eq_left (Nat.le_of_lt hc)] at hL
          rw [Nat.min_eq_right (by omega)] at hR
          exact symMerge_sorts _ _ _ _ _ hw1 (Nat.lt_add_of_pos_right hbs) hc (by rw [st1.len]; exact hn)
            (Nat.le_trans (Nat.sub_le n a1) (Nat.le_add_right n 2)) hL hR
        · rw [if_neg hc]
          rw [Nat.min_eq_right (Nat.le_of_not_lt hc)] at hL
          exact ⟨d1, rfl, Sorts.of_sorted hL⟩
      rw [e2]; dsimp only
      obtain ⟨d3, e3, f3⟩ := ih (bs * 2) d2 (f2.wf hw1) (by rw [f2.len, st1.len]; exact hn) (by omega) (by omega)
        (by rw [Nat.mul_comm]; exact Blk.of_tail r3 r1 r2 r4 f2)
      exact ⟨d3, e3, ((st1.trans (f2.toStb.mono (Nat.zero_le _) r1 (Nat.le_refl _))).trans f3.toStb), f3.sorted⟩
    · rw [if_neg hb]
      have := hblk 0 (Nat.dvd_zero _)
      rw [Nat.zero_add, Nat.min_eq_right (Nat.le_of_not_lt hb)] at this
      exact ⟨d, rfl, Sorts.of_sorted this⟩

theorem stable_sorts {d : Sl KV} (hw : d.WF) : ∃ d', stable d d.len = .ok d' ∧ Sorts 0 d.len d d' := by
  unfold stable
  dsimp only
  obtain ⟨d1, a1, h1, st1, r1, r2, r3, r4⟩ := stableBlocks_sorts 20 d.len (by omega) (d.len + 1) 0 20 d hw
    (Nat.le_refl _) rfl (Nat.zero_le _) (Nat.dvd_zero _) (by omega) (fun x _ hx => absurd hx (Nat.not_lt_zero x))
  rw [h1]; dsimp only
  have hw1 := st1.wf hw
  obtain ⟨d2, h2, st2⟩ := insertionSortKV_sorts hw1 r1 (by rw [st1.len]; exact Nat.le_refl _)
  rw [h2]; dsimp only
  obtain ⟨d3, h3, st3⟩ := stableMerge_sorts d.len (d.len + 1) 20 d2 (st2.wf hw1)
    (by rw [st2.len, st1.len]; exact Nat.le_refl _) (by omega) (by omega) (Blk.of_tail r3 r1 r2 r4 st2)
  exact ⟨d3, h3, (st1.trans (st2.toStb.mono (Nat.zero_le _) r1 (Nat.le_refl _))).trans st3.toStb, st3.sorted⟩

theorem stable_no_panic {d : Sl KV} (hw : d.WF) : ∃ d', stable d d.len = .ok d' :=
  let ⟨d', h, _⟩ := stable_sorts hw; ⟨d', h⟩

theorem stable_sorted {d d' : Sl KV} (hw : d.WF) (h : stable d d.len = .ok d') :
    d'.toList.Pairwise (fun x y => x.1 ≤ y.1) := by
  obtain ⟨d'', h', st⟩ := stable_sorts hw
  cases h.symm.trans h'
  rw [toList_eq_seg, st.len]; exact st.sorted

theorem stable_stable {d d' : Sl KV} (hw : d.WF) (h : stable d d.len = .ok d') (v : Nat) :
    d'.toList.filter (fun x => x.1 == v) = d.toList.filter (fun x => x.1 == v) := by
  obtain ⟨d'', h', st⟩ := stable_sorts hw
  cases h.symm.trans h'
  rw [toList_eq_seg, toList_eq_seg, st.len]; exact st.steq v

end CanonF
