import Mamba.Lemmas.DistanceBiconBlocksOf
/-!
# Static theory of the blocks described by the final DFS tree

At the end of the DFS (`DFinal`) the blocks are the sets `{tp l} ∪ {y | NL l y}` (`InBlk l`) of the block-closing
vertices `l` (`Ldr`, "leader"; `NL`, "no leader" in between). Every edge lies in exactly one of them, each is connected and
has no articulation vertex, every connected vertex set without articulation vertex (`BSet h T`: `T` non-empty,
duplicate-free, connected in itself, separated by none of its vertices) lies inside one of them, and they are not nested.
The subtree of a block-closing vertex can be left only through its parent (`sealed`); the DFS criterion for
articulation vertices (`crit_iff_sep`) and the maximality of the blocks rest on that.
-/
namespace GDist
open GraphSpec Model

variable {h : G} {st : BicSt} {tp : Nat → Nat}

/-- `c` closes a block: a non-root vertex whose lowpoint does not pass above its parent -/
def Ldr (h : G) (st : BicSt) (tp : Nat → Nat) (c : Nat) : Prop := c < h.n ∧ c ≠ 0 ∧ lo st c ≥ dI st (tp c)

def InBlk (st : BicSt) (tp : Nat → Nat) (l x : Nat) : Prop := x = tp l ∨ NL st tp l x

namespace DFinal
variable (df : DFinal h st tp)
include df

theorem lob {x z a : Nat} (hx : x < h.n) (hz : z < h.n) (ha : a < h.n) (hxz : Anc tp x z)
    (hadj : h.adj z a = true) (hne : a ≠ tp z) : lo st x ≤ dI st a :=
  df.la.lob x hx (df.hall x hx) (df.fin x) z a hz hxz (df.hall z hz) hadj ha hne

theorem loatt {x : Nat} (hx : x < h.n) : lo st x = dI st x ∨
    ∃ z a, z < h.n ∧ Anc tp x z ∧ h.adj z a = true ∧ a < h.n ∧ a ≠ tp z ∧ lo st x = dI st a := by
  rcases df.la.loatt x hx (df.hall x hx) (df.fin x) with h0 | ⟨z, a, h1, h2, _, h4, h5, h6, h7⟩
  · exact .inl h0
  · exact .inr ⟨z, a, h1, h2, h4, h5, h6, h7⟩

theorem lo_nonneg {x : Nat} (hx : x < h.n) : 0 ≤ lo st x := by
  rcases df.loatt hx with h0 | ⟨z, a, _, _, _, ha, _, h0⟩
  · rw [h0]; exact df.dt.dnn x (df.hall x hx)
  · rw [h0]; exact df.dt.dnn a (df.hall a ha)

theorem depth_child {c : Nat} (hc : c < h.n) (hc0 : c ≠ 0) : dI st c = dI st (tp c) + 1 :=
  (df.dt.tree c hc (df.hall c hc) hc0).2.2.2

theorem parent_lt {c : Nat} (hc : c < h.n) (hc0 : c ≠ 0) : tp c < h.n :=
  (df.dt.tree c hc (df.hall c hc) hc0).1

theorem anc_eq_of_depth {a b x : Nat} (hx : x < h.n) (ha : Anc tp a x) (hb : Anc tp b x)
    (hd : dI st a = dI st b) : a = b := by
  have han := df.anc_n hx ha
  have hbn := df.anc_n hx hb
  rcases anc_linear ha hb with h1 | h1
  · by_contra hne
    have := df.anc_lt hbn h1 hne; omega
  · by_contra hne
    have := df.anc_lt han h1 (Ne.symm hne); omega

theorem ne_zero_of_proper {a x : Nat} (ha : Anc tp a x) (hne : x ≠ a) : x ≠ 0 := by
  intro h0; subst h0
  obtain ⟨k, hk⟩ := ha
  rw [Function.iterate_fixed df.dt.tp0] at hk
  exact hne hk

theorem child_root_ldr {c : Nat} (hc : c < h.n) (hc0 : c ≠ 0) (htc : tp c = 0) : Ldr h st tp c := by
  refine ⟨hc, hc0, ?_⟩
  rw [htc, df.dt.root]
  exact df.lo_nonneg hc

theorem leader_exists : ∀ (m : Nat) (y : Nat), y < h.n → dI st y = (m : Int) → y ≠ 0 →
    ∃ l, Ldr h st tp l ∧ NL st tp l y := by
  intro m
  induction m with
  | zero =>
    intro y hy hd hy0
    have := df.depth_child hy hy0
    have := df.dt.dnn _ (df.hall _ (df.parent_lt hy hy0))
    simp at hd; omega
  | succ m ih =>
    intro y hy hd hy0
    by_cases hl : lo st y ≥ dI st (tp y)
    · exact ⟨y, ⟨hy, hy0, hl⟩, NL.refl df.dt hy (df.hall y hy)⟩
    · have hp := df.parent_lt hy hy0
      have hp0 : tp y ≠ 0 := by
        intro h0
        exact hl (df.child_root_ldr hy hy0 h0).2.2
      have hdc := df.depth_child hy hy0
      obtain ⟨l, hl1, hl2⟩ := ih (tp y) hp (by push_cast at hd; omega) hp0
      refine ⟨l, hl1, hl2.1.trans (anc_of_parent rfl), ?_⟩
      intro z hz1 hz2 hne
      by_cases hzy : z = y
      · subst hzy; omega
      · exact hl2.2 z hz1 (anc_parent_of_ne hz2 (Ne.symm hzy)) hne

theorem leader_of {y : Nat} (hy : y < h.n) (hy0 : y ≠ 0) : ∃ l, Ldr h st tp l ∧ NL st tp l y := by
  have hnn := df.dt.dnn y (df.hall y hy)
  exact df.leader_exists (dI st y).toNat y hy (by omega) hy0

omit df in
theorem leader_unique {l l' y : Nat} (h1 : Ldr h st tp l) (h2 : Ldr h st tp l')
    (n1 : NL st tp l y) (n2 : NL st tp l' y) : l = l' := by
  by_contra hne
  rcases anc_linear n1.1 n2.1 with ha | ha
  · have := n1.2 l' ha n2.1 (Ne.symm hne)
    have := h2.2.2; omega
  · have := n2.2 l ha n1.1 hne
    have := h1.2.2; omega

theorem edge_block_aux (hsym : ∀ u v, h.adj u v = h.adj v u) {x y : Nat} (hx : x < h.n) (hy : y < h.n)
    (hxy : Anc tp x y) (hne : y ≠ x) (hadj : h.adj x y = true) :
    ∃ l, Ldr h st tp l ∧ InBlk st tp l x ∧ InBlk st tp l y ∧
      ∀ l', Ldr h st tp l' → InBlk st tp l' x → InBlk st tp l' y → l' = l := by
  obtain ⟨c, hc1, hc2, hc3⟩ := anc_child hxy hne
  have hcn := df.anc_n hy hc3
  have hy0 := df.ne_zero_of_proper hxy hne
  have hc0 : c ≠ 0 := df.ne_zero_of_proper (anc_of_parent hc1) hc2
  have hdc := df.depth_child hcn hc0
  rw [hc1] at hdc
  obtain ⟨l, hl1, hl2⟩ := df.leader_of hy hy0
  have hln := hl1.1
  have hex : InBlk st tp l x := by
    rcases anc_linear hl2.1 hc3 with ha | ha
    · by_cases hlc : l = c
      · subst hlc; exact .inl hc1.symm
      · right
        have := anc_parent_of_ne ha (Ne.symm hlc)
        rw [hc1] at this
        exact hl2.pre this hxy
    · by_cases hlc : l = c
      · subst hlc; exact .inl hc1.symm
      · exfalso
        -- `l` strictly below `c`: its lowpoint reaches `x`, above its parent
        have hxty : x ≠ tp y := by
          intro h0
          have hdy := df.depth_child hy hy0
          rw [← h0] at hdy
          have : c = y := df.anc_eq_of_depth hy hc3 (Anc.refl _ _) (by omega)
          subst this
          exact hlc (df.dt.anc_antisymm hcn (df.hall c hcn) hl2.1 ha)
        have h1 := df.lob hln hy hx hl2.1 (by rw [hsym]; exact hadj) hxty
        have h2 := anc_parent_of_ne ha hlc
        have h3 := df.dt.anc_depth (df.parent_lt hln hl1.2.1) (df.hall _ (df.parent_lt hln hl1.2.1)) h2
        have := hl1.2.2
        omega
  refine ⟨l, hl1, hex, .inr hl2, ?_⟩
  intro l' hl' hx' hy'
  rcases hy' with hy' | hy'
  · exfalso
    rcases hx' with hx' | hx'
    · exact hne (hy'.trans hx'.symm)
    · have h1 : Anc tp l' (tp l') := by
        have := hx'.1.trans hxy
        rwa [hy'] at this
      have hp := df.parent_lt hl'.1 hl'.2.1
      have h2 := df.dt.anc_depth hp (df.hall _ hp) h1
      have := df.depth_child hl'.1 hl'.2.1
      omega
  · exact leader_unique hl' hl1 hy' hl2

theorem edge_block (hsym : ∀ u v, h.adj u v = h.adj v u) (hirr : ∀ v, h.adj v v = false) {x y : Nat}
    (hx : x < h.n) (hy : y < h.n) (hadj : h.adj x y = true) :
    ∃ l, Ldr h st tp l ∧ InBlk st tp l x ∧ InBlk st tp l y ∧
      ∀ l', Ldr h st tp l' → InBlk st tp l' x → InBlk st tp l' y → l' = l := by
  have hne : y ≠ x := by
    intro h0; subst h0; rw [hirr] at hadj; cases hadj
  rcases df.dt.nocross x y hx hy (df.hall x hx) (df.hall y hy) hadj with h1 | h1
  · exact df.edge_block_aux hsym hx hy h1 hne hadj
  · obtain ⟨l, h2, h3, h4, h5⟩ := df.edge_block_aux hsym hy hx h1 (Ne.symm hne) (by rw [hsym]; exact hadj)
    exact ⟨l, h2, h4, h3, fun l' a b c => h5 l' a c b⟩

theorem block_connected (hsym : ∀ u v, h.adj u v = h.adj v u) {l : Nat} (hl : Ldr h st tp l) (B : List Nat)
    (hB : ∀ w, w ∈ B ↔ (w < h.n ∧ InBlk st tp l w)) :
    ∀ x ∈ B, ∀ y ∈ B, ReachIn h B x y := by
  have hlB : l ∈ B := (hB l).2 ⟨hl.1, .inr (NL.refl df.dt hl.1 (df.hall l hl.1))⟩
  have hp := df.parent_lt hl.1 hl.2.1
  have hpB : tp l ∈ B := (hB _).2 ⟨hp, .inl rfl⟩
  have hadj := (df.dt.tree l hl.1 (df.hall l hl.1) hl.2.1).2.2.1
  have hpl : ReachIn h B (tp l) l := ⟨1, .step (.base hpB) hadj hlB⟩
  have key : ∀ x ∈ B, ReachIn h B x l := by
    intro x hx
    obtain ⟨hxn, hor⟩ := (hB x).1 hx
    rcases hor with h0 | h0
    · rw [h0]; exact hpl
    · obtain ⟨k, hk⟩ := h0.1
      rw [← hk]
      apply df.tree_walk_up_in hsym B k x hxn
      intro j hj
      have h1 : Anc tp (tp^[j] x) x := ⟨j, rfl⟩
      have h2 : Anc tp l (tp^[j] x) := ⟨k - j, by
        rw [← Function.iterate_add_apply, Nat.sub_add_cancel hj, hk]⟩
      exact (hB _).2 ⟨df.anc_n hxn h1, .inr (h0.pre h2 h1)⟩
  intro x hx y hy
  exact (key x hx).trans ((key y hy).symm hsym)

end DFinal

namespace DFinal
variable (df : DFinal h st tp)
include df

theorem block_back_edge {l v c : Nat} (hl : Ldr h st tp l) (hv : NL st tp l v) (hvn : v < h.n) (hc : c < h.n)
    (htc : tp c = v) (hcv : c ≠ v) (hnc : NL st tp l c) :
    ∃ z a, z < h.n ∧ a < h.n ∧ NL st tp l z ∧ Anc tp c z ∧ h.adj z a = true ∧ InBlk st tp l a ∧
      Anc tp a v ∧ a ≠ v := by
  have hln := hl.1
  have hvc : Anc tp v c := anc_of_parent htc
  have hc0 : c ≠ 0 := df.ne_zero_of_proper hvc hcv
  have hdc := df.depth_child hc hc0
  rw [htc] at hdc
  have hcl : c ≠ l := by
    intro h0; subst h0
    exact hcv (df.dt.anc_antisymm hvn (df.hall v hvn) hv.1 hvc)
  have hlow : lo st c < dI st v := by
    have := hnc.2 c hnc.1 (Anc.refl _ _) hcl
    rwa [htc] at this
  rcases df.loatt hc with h0 | ⟨z, a, hz, hcz, hadj, ha, hne, h0⟩
  · omega
  have hda : dI st a < dI st v := by omega
  have hdz := df.dt.anc_depth hz (df.hall z hz) hcz
  have haz : Anc tp a z := by
    rcases df.dt.nocross z a hz ha (df.hall z hz) (df.hall a ha) hadj with h1 | h1
    · have := df.dt.anc_depth ha (df.hall a ha) h1; omega
    · exact h1
  have hvz : Anc tp v z := hvc.trans hcz
  have hav : Anc tp a v := by
    rcases anc_linear haz hvz with h1 | h1
    · exact h1
    · have := df.dt.anc_depth ha (df.hall a ha) h1; omega
  have hav' : a ≠ v := fun h0 => by rw [h0] at hda; omega
  have hlz : Anc tp l z := hv.1.trans hvz
  have hlo := df.lob hln hz ha hlz hadj hne
  have hp := df.parent_lt hln hl.2.1
  have hpl : Anc tp (tp l) l := anc_of_parent rfl
  have hpv : Anc tp (tp l) v := hpl.trans hv.1
  have hdl := df.depth_child hln hl.2.1
  have hge := hl.2.2
  have hina : InBlk st tp l a := by
    rcases anc_linear hpv hav with h1 | h1
    · by_cases hap : a = tp l
      · exact .inl hap
      · right
        rcases anc_linear hv.1 hav with h2 | h2
        · exact hv.pre h2 hav
        · by_cases hal : a = l
          · subst hal; exact NL.refl df.dt hln (df.hall _ hln)
          · exfalso
            have l1 := df.anc_lt hln h2 hal
            have l2 := df.anc_lt ha h1 (Ne.symm hap)
            omega
    · left
      have := df.dt.anc_depth hp (df.hall _ hp) h1
      exact df.anc_eq_of_depth hvn hav hpv (by omega)
  refine ⟨z, a, hz, ha, ⟨hlz, ?_⟩, hcz, hadj, hina, hav, hav'⟩
  intro w hw1 hw2 hwl
  rcases anc_linear hw2 hcz with h1 | h1
  · exact hnc.2 w hw1 h1 hwl
  · by_cases hwc : w = c
    · subst hwc; exact hnc.2 w hw1 (Anc.refl _ _) hwl
    · have hwn := df.anc_n hz hw2
      have l1 := df.lob hwn hz ha hw2 hadj hne
      have h2 := anc_parent_of_ne h1 hwc
      have hw0 : w ≠ 0 := df.ne_zero_of_proper h1 hwc
      have hpw := df.parent_lt hwn hw0
      have l2 := df.dt.anc_depth hpw (df.hall _ hpw) h2
      omega

theorem block_no_sep (hsym : ∀ u v, h.adj u v = h.adj v u) {l : Nat} (hl : Ldr h st tp l) (B : List Nat)
    (hB : ∀ w, w ∈ B ↔ (w < h.n ∧ InBlk st tp l w)) (hnd : B.Nodup) : ∀ v ∈ B, ¬ SepIn h B v := by
  intro v hvB
  have hln := hl.1
  have hp := df.parent_lt hln hl.2.1
  have hdl := df.depth_child hln hl.2.1
  have hlB : l ∈ B := (hB l).2 ⟨hln, .inr (NL.refl df.dt hln (df.hall l hln))⟩
  have hpB : tp l ∈ B := (hB _).2 ⟨hp, .inl rfl⟩
  have hadjl := (df.dt.tree l hln (df.hall l hln) hl.2.1).2.2.1
  have hNLB : ∀ w, w < h.n → NL st tp l w → w ∈ B := fun w hw hn => (hB w).2 ⟨hw, .inr hn⟩
  suffices hR : ∃ R, ∀ y ∈ B, y ≠ v → ReachIn h (B.erase v) y R by
    obtain ⟨R, hR⟩ := hR
    rintro ⟨x, y, hx, hy, _, hnr⟩
    obtain ⟨hx1, hx2⟩ := (mem_erase_nodup hnd).1 hx
    obtain ⟨hy1, hy2⟩ := (mem_erase_nodup hnd).1 hy
    exact hnr ((hR x hx1 hx2).trans ((hR y hy1 hy2).symm hsym))
  obtain ⟨hvn, hvor⟩ := (hB v).1 hvB
  rcases hvor with hvp | hvN
  · refine ⟨l, ?_⟩
    intro y hy hyv
    obtain ⟨hyn, hor⟩ := (hB y).1 hy
    rcases hor with h0 | h0
    · exact absurd (h0.trans hvp.symm) hyv
    · apply df.walk_up_to hsym _ hyn h0.1
      intro w hw1 hw2
      have hwn := df.anc_n hyn hw2
      refine (mem_erase_nodup hnd).2 ⟨hNLB w hwn (h0.pre hw1 hw2), ?_⟩
      intro h1
      have := df.dt.anc_depth hwn (df.hall w hwn) hw1
      rw [h1, hvp] at this; omega
  · have hvp : v ≠ tp l := by
      intro h0
      have := df.dt.anc_depth hvn (df.hall v hvn) hvN.1
      rw [h0] at this; omega
    have hpE : tp l ∈ B.erase v := (mem_erase_nodup hnd).2 ⟨hpB, Ne.symm hvp⟩
    refine ⟨tp l, ?_⟩
    have hU : ∀ y, y < h.n → NL st tp l y → ¬ Anc tp v y → ReachIn h (B.erase v) y (tp l) := by
      intro y hyn hyN hnv
      have h1 : ReachIn h (B.erase v) y l := by
        apply df.walk_up_to hsym _ hyn hyN.1
        intro w hw1 hw2
        have hwn := df.anc_n hyn hw2
        refine (mem_erase_nodup hnd).2 ⟨hNLB w hwn (hyN.pre hw1 hw2), ?_⟩
        intro h0; subst h0; exact hnv hw2
      have h2 : ReachIn h (B.erase v) l (tp l) :=
        ⟨1, .step (.base h1.mem_V) (by rw [hsym]; exact hadjl) hpE⟩
      exact h1.trans h2
    intro y hy hyv
    obtain ⟨hyn, hor⟩ := (hB y).1 hy
    rcases hor with h0 | hyN
    · rw [h0]; exact ReachIn.refl hpE
    · by_cases hvy : Anc tp v y
      · obtain ⟨c, hc1, hc2, hc3⟩ := anc_child hvy hyv
        have hcn := df.anc_n hyn hc3
        have hvc : Anc tp v c := anc_of_parent hc1
        have hcN : NL st tp l c := hyN.pre (hvN.1.trans hvc) hc3
        have hdc := df.depth_child hcn (df.ne_zero_of_proper hvc hc2)
        rw [hc1] at hdc
        have hbelow : ∀ x, x < h.n → NL st tp l x → Anc tp c x → ∀ w, Anc tp c w → Anc tp w x →
            w ∈ B.erase v := by
          intro x hxn hxN _ w hw1 hw2
          have hwn := df.anc_n hxn hw2
          refine (mem_erase_nodup hnd).2 ⟨hNLB w hwn (hxN.pre ((hvN.1.trans hvc).trans hw1) hw2), ?_⟩
          intro h0
          have := df.dt.anc_depth hwn (df.hall w hwn) hw1
          rw [h0] at this; omega
        have r1 : ReachIn h (B.erase v) y c := df.walk_up_to hsym _ hyn hc3 (hbelow y hyn hyN hc3)
        -- `c` stays in the block, so the back edge that realises its lowpoint ends in the block strictly above `v`
        obtain ⟨z, a, hz, ha, hzN, hcz, hadj, hina, hav, hav'⟩ := df.block_back_edge hl hvN hvn hcn hc1 hc2 hcN
        have r2 : ReachIn h (B.erase v) z c := df.walk_up_to hsym _ hz hcz (hbelow z hz hzN hcz)
        have haB : a ∈ B.erase v := (mem_erase_nodup hnd).2 ⟨(hB a).2 ⟨ha, hina⟩, hav'⟩
        have r3 : ReachIn h (B.erase v) z a := ⟨1, .step (.base (hbelow z hz hzN hcz z hcz (Anc.refl _ _))) hadj haB⟩
        have r4 : ReachIn h (B.erase v) a (tp l) := by
          rcases hina with h0 | h0
          · rw [h0]; exact ReachIn.refl hpE
          · apply hU a ha h0
            intro hva
            exact hav' (df.dt.anc_antisymm hvn (df.hall v hvn) hav hva)
        exact (r1.trans (r2.symm hsym)).trans (r3.trans r4)
      · exact hU y hyn hyN hvy

end DFinal

def BSet (h : G) (T : List Nat) : Prop :=
  T ≠ [] ∧ T.Nodup ∧ (∀ x ∈ T, x < h.n) ∧ (∀ x ∈ T, ∀ y ∈ T, ReachIn h T x y) ∧ ∀ v ∈ T, ¬ SepIn h T v

theorem exists_min_depth (st : BicSt) : ∀ (T : List Nat), T ≠ [] → ∃ r ∈ T, ∀ x ∈ T, dI st r ≤ dI st x
  | [], h0 => absurd rfl h0
  | [a], _ => ⟨a, List.mem_cons_self, fun x hx => by simp at hx; subst hx; exact Int.le_refl _⟩
  | a :: b :: t, _ => by
    obtain ⟨r, hr, hmin⟩ := exists_min_depth st (b :: t) (by simp)
    by_cases hle : dI st a ≤ dI st r
    · refine ⟨a, List.mem_cons_self, fun x hx => ?_⟩
      rcases List.mem_cons.1 hx with rfl | hx
      · exact Int.le_refl _
      · exact Int.le_trans hle (hmin x hx)
    · refine ⟨r, List.mem_cons_of_mem _ hr, fun x hx => ?_⟩
      rcases List.mem_cons.1 hx with rfl | hx
      · omega
      · exact hmin x hx

namespace DFinal
variable (df : DFinal h st tp)
include df

theorem ldr_exit {w : Nat} (hw : Ldr h st tp w) :
    ∀ z u, z < h.n → Anc tp w z → h.adj z u = true → u < h.n → u ≠ tp w → Anc tp w u := by
  intro z u hz hwz hadj hu huq
  have hwn := hw.1
  rcases df.exit_cases hz hu hwz hadj with h1 | ⟨h1, h2⟩
  · exact h1
  · exfalso
    have hutz : u ≠ tp z := by
      intro h0
      by_cases hzw : z = w
      · subst hzw; exact huq h0
      · have := anc_parent_of_ne hwz hzw
        rw [← h0] at this
        exact h2 (df.dt.anc_antisymm hwn (df.hall w hwn) h1 this)
    have l1 := df.lob hwn hz hu hwz hadj hutz
    have hp := df.parent_lt hwn hw.2.1
    have h3 : Anc tp u (tp w) := anc_parent_of_ne h1 (Ne.symm h2)
    have l2 := df.dt.anc_depth hp (df.hall _ hp) h3
    have := hw.2.2
    exact huq (df.anc_eq_of_depth hwn h1 (anc_of_parent rfl) (by omega))

theorem sealed {w : Nat} (hw : Ldr h st tp w) (V : List Nat) (hV : ∀ y ∈ V, y < h.n ∧ y ≠ tp w) {x : Nat}
    (hx : Anc tp w x) : ∀ u k, WalkIn h V x u k → Anc tp w u :=
  stay_in V (fun z u hz hu ha hadj => df.ldr_exit hw z u (hV z hz).1 ha hadj (hV u hu).1 (hV u hu).2) hx

theorem crit_ldr {i : Nat} (hi : i < h.n) (hc : Crit h st tp i) :
    ∃ c y, Ldr h st tp c ∧ tp c = i ∧ y < h.n ∧ y ≠ i ∧ ¬ Anc tp c y := by
  rcases hc with ⟨hi0, c, hcn, hc0, htc, hlc⟩ | ⟨hi0, c1, c2, hne, h1, h2, h10, h20, ht1, ht2⟩
  · have hpn := df.parent_lt hi hi0
    have hdi := df.depth_child hi hi0
    have hdc := df.depth_child hcn hc0
    rw [htc] at hdc
    refine ⟨c, tp i, ⟨hcn, hc0, by rw [htc]; exact hlc⟩, htc, hpn, fun h0 => by rw [h0] at hdi; omega, fun ha => ?_⟩
    have := df.dt.anc_depth hpn (df.hall _ hpn) ha
    omega
  · subst hi0
    refine ⟨c1, c2, df.child_root_ldr h1 h10 ht1, ht1, h2, h20, fun ha => ?_⟩
    have h0 := anc_parent_of_ne ha (Ne.symm hne)
    rw [ht2] at h0
    exact df.ne_zero_of_proper h0 (Ne.symm h10) rfl

theorem crit_sep (hsym : ∀ u v, h.adj u v = h.adj v u) {i : Nat} (hi : i < h.n)
    (hc : Crit h st tp i) : SepIn h (List.range h.n) i := by
  obtain ⟨c, y, hl, htc, hy, hyi, hcy⟩ := df.crit_ldr hi hc
  have up : ∀ z, z < h.n → ReachIn h (List.range h.n) z 0 := fun z hz =>
    df.walk_up_to hsym _ hz (df.anc_root z hz) (fun w _ hw => List.mem_range.2 (df.anc_n hz hw))
  have hci : c ≠ i := fun h0 => by
    have := df.depth_child hl.1 hl.2.1
    rw [htc, h0] at this; omega
  refine ⟨c, y, mem_range_erase.2 ⟨hl.1, hci⟩, mem_range_erase.2 ⟨hy, hyi⟩,
    (up c hl.1).trans ((up y hy).symm hsym), ?_⟩
  rintro ⟨k, hk⟩
  exact hcy (df.sealed hl _ (fun z hz => htc ▸ mem_range_erase.1 hz) (Anc.refl _ _) y k hk)

theorem sep_crit (hsym : ∀ u v, h.adj u v = h.adj v u) {i : Nat} (hi : i < h.n)
    (hs : SepIn h (List.range h.n) i) : Crit h st tp i := by
  by_contra hnc
  obtain ⟨x, y, hx, hy, _, hnr⟩ := hs
  obtain ⟨hxn, hxi⟩ := mem_range_erase.1 hx
  obtain ⟨hyn, hyi⟩ := mem_range_erase.1 hy
  apply hnr
  by_cases hi0 : i = 0
  · -- root with at most one child: everything else hangs below that child
    subst hi0
    have hchild : ∀ z, z < h.n → z ≠ 0 → ∃ c, c < h.n ∧ c ≠ 0 ∧ tp c = 0 ∧
        ReachIn h ((List.range h.n).erase 0) z c := by
      intro z hz hz0
      obtain ⟨c, hc1, hc2, hc3⟩ := anc_child (df.anc_root z hz) hz0
      have hcn : c < h.n := by
        obtain ⟨k, hk⟩ := hc3
        have := (df.dt.iter_vis hz (df.hall z hz) k).1
        rwa [hk] at this
      refine ⟨c, hcn, hc2, hc1, df.reach_child hsym hz hc3 ?_⟩
      rintro ⟨j, hj⟩
      rw [Function.iterate_fixed df.dt.tp0] at hj
      exact hc2 hj.symm
    obtain ⟨cx, hcx1, hcx2, hcx3, hrx⟩ := hchild x hxn hxi
    obtain ⟨cy, hcy1, hcy2, hcy3, hry⟩ := hchild y hyn hyi
    have : cx = cy := by
      by_contra hne
      exact hnc (.inr ⟨rfl, cx, cy, hne, hcx1, hcy1, hcx2, hcy2, hcx3, hcy3⟩)
    rw [this] at hrx
    exact hrx.trans (hry.symm hsym)
  · -- non-root without critical child: everything else is joined to the root avoiding `i`
    have h0E : (0 : Nat) ∈ (List.range h.n).erase i :=
      (List.mem_erase_of_ne (Ne.symm hi0)).2 (List.mem_range.2 (by omega))
    have up : ∀ z, z < h.n → ¬ Anc tp i z → ReachIn h ((List.range h.n).erase i) z 0 := fun z hz hna =>
      df.walk_up_to hsym _ hz (df.anc_root z hz) (fun w _ hw =>
        mem_range_erase.2 ⟨df.anc_n hz hw, fun h0 => hna (h0 ▸ hw)⟩)
    have toroot : ∀ z, z < h.n → z ≠ i → ReachIn h ((List.range h.n).erase i) z 0 := by
      intro z hz hzi
      by_cases hanc : Anc tp i z
      · obtain ⟨c, hc1, hc2, hc3⟩ := anc_child hanc hzi
        have hcn : c < h.n := by
          obtain ⟨k, hk⟩ := hc3
          have := (df.dt.iter_vis hz (df.hall z hz) k).1
          rwa [hk] at this
        have hc0 : c ≠ 0 := by
          intro h0; rw [h0, df.dt.tp0] at hc1; exact hi0 hc1.symm
        obtain ⟨_, _, _, hdc⟩ := df.dt.tree c hcn (df.hall c hcn) hc0
        rw [hc1] at hdc
        have hlow : lo st c < dI st i := by
          by_contra hge
          exact hnc (.inl ⟨hi0, c, hcn, hc0, hc1, by omega⟩)
        have hnotci : ¬ Anc tp c i := by
          intro h1
          have := df.dt.anc_depth hi (df.hall i hi) h1
          omega
        rcases df.la.loatt c hcn (df.hall c hcn) (df.fin c) with h1 | ⟨w, a, hw, haw, _, hadj, han, _, hla⟩
        · omega
        · have hai : a ≠ i := by intro h1; rw [h1] at hla; omega
          have hnai : ¬ Anc tp i a := by
            intro h1
            have := df.dt.anc_depth han (df.hall a han) h1
            omega
          have hwi : w ≠ i := fun h1 => hnotci (h1 ▸ haw)
          have r1 := df.reach_child hsym hz hc3 hnotci
          have r2 := df.reach_child hsym hw haw hnotci
          have hwE : w ∈ (List.range h.n).erase i := (List.mem_erase_of_ne hwi).2 (List.mem_range.2 hw)
          have haE : a ∈ (List.range h.n).erase i := (List.mem_erase_of_ne hai).2 (List.mem_range.2 han)
          have r3 : ReachIn h ((List.range h.n).erase i) w a := ⟨1, .step (.base hwE) hadj haE⟩
          exact (r1.trans (r2.symm hsym)).trans (r3.trans (up a han hnai))
      · exact up z hz hanc
    exact (toroot x hxn hxi).trans ((toroot y hyn hyi).symm hsym)

theorem crit_iff_sep (hsym : ∀ u v, h.adj u v = h.adj v u) {i : Nat} (hi : i < h.n) :
    Crit h st tp i ↔ SepIn h (List.range h.n) i :=
  ⟨df.crit_sep hsym hi, df.sep_crit hsym hi⟩

/-- **every connected vertex set without articulation vertex lies inside one block** -/
theorem bset_in_block (hn2 : 1 < h.n) (T : List Nat) (hT : BSet h T) :
    ∃ l, Ldr h st tp l ∧ ∀ x ∈ T, InBlk st tp l x := by
  obtain ⟨hne, hnd, hTn, hconn, hnosep⟩ := hT
  obtain ⟨r, hrT, hmin⟩ := exists_min_depth st T hne
  have hrn := hTn r hrT
  have hbelow : ∀ x ∈ T, Anc tp r x := by
    intro x hx
    obtain ⟨k, hk⟩ := hconn r hrT x hx
    refine stay_in T (fun a u ha hu ih hadj => ?_) (Anc.refl _ _) x k hk
    have han := hTn a ha
    have hun := hTn u hu
    rcases df.dt.nocross a u han hun (df.hall a han) (df.hall u hun) hadj with h1 | h1
    · exact ih.trans h1
    · rcases anc_linear ih h1 with h2 | h2
      · exact h2
      · have l1 := df.dt.anc_depth hrn (df.hall r hrn) h2
        have l2 := hmin u hu
        have : u = r := df.anc_eq_of_depth han h1 ih (by omega)
        rw [this]; exact Anc.refl _ _
  by_cases hall : ∀ x ∈ T, x = r
  · by_cases hr0 : r = 0
    · subst hr0
      obtain ⟨c, hc1, hc2, hc3⟩ := anc_child (df.anc_root 1 hn2) (by omega : (1 : Nat) ≠ 0)
      have hcn := df.anc_n hn2 hc3
      refine ⟨c, df.child_root_ldr hcn hc2 hc1, fun x hx => ?_⟩
      rw [hall x hx]; exact .inl hc1.symm
    · obtain ⟨l, hl1, hl2⟩ := df.leader_of hrn hr0
      exact ⟨l, hl1, fun x hx => by rw [hall x hx]; exact .inr hl2⟩
  · have ⟨t, htT, htr⟩ : ∃ t ∈ T, t ≠ r := by
      by_contra hno
      apply hall
      intro x hx
      by_contra hxr
      exact hno ⟨x, hx, hxr⟩
    have htn := hTn t htT
    obtain ⟨c1, hc1, hc2, hc3⟩ := anc_child (hbelow t htT) htr
    have hc1n := df.anc_n htn hc3
    have hrc1 : Anc tp r c1 := anc_of_parent hc1
    have hc10 : c1 ≠ 0 := df.ne_zero_of_proper hrc1 hc2
    have hdc1 := df.depth_child hc1n hc10
    rw [hc1] at hdc1
    have hsub : ∀ x ∈ T, x ≠ r → Anc tp c1 x := by
      intro x hx hxr
      have hreach : ReachIn h (T.erase r) t x := by
        by_contra hnr
        exact hnosep r hrT ⟨t, x, (mem_erase_nodup hnd).2 ⟨htT, htr⟩, (mem_erase_nodup hnd).2 ⟨hx, hxr⟩,
          hconn t htT x hx, hnr⟩
      obtain ⟨k, hk⟩ := hreach
      refine stay_in (T.erase r) (fun a u ha huE ih hadj => ?_) hc3 x k hk
      obtain ⟨huT, hur⟩ := (mem_erase_nodup hnd).1 huE
      have han := hTn a (List.mem_of_mem_erase ha)
      have hun := hTn u huT
      rcases df.dt.nocross a u han hun (df.hall a han) (df.hall u hun) hadj with h1 | h1
      · exact ih.trans h1
      · rcases anc_linear ih h1 with h2 | h2
        · exact h2
        · by_cases huc : u = c1
          · rw [huc]; exact Anc.refl _ _
          · exfalso
            have l1 := df.anc_lt hc1n h2 huc
            have l2 := df.anc_lt hun (hbelow u huT) (Ne.symm hur)
            omega
    obtain ⟨l, hl1, hl2⟩ := df.leader_of hc1n hc10
    have hlr : InBlk st tp l r := by
      by_cases hlc : l = c1
      · subst hlc; exact .inl hc1.symm
      · right
        have := anc_parent_of_ne hl2.1 (Ne.symm hlc)
        rw [hc1] at this
        exact hl2.pre this hrc1
    refine ⟨l, hl1, fun x hx => ?_⟩
    by_cases hxr : x = r
    · rw [hxr]; exact hlr
    · right
      have hxn := hTn x hx
      have hc1x := hsub x hx hxr
      refine ⟨hl2.1.trans hc1x, ?_⟩
      intro w hw1 hw2 hwl
      rcases anc_linear hw2 hc1x with h1 | h1
      · exact hl2.2 w hw1 h1 hwl
      · by_cases hwc : w = c1
        · subst hwc; exact hl2.2 w hw1 (Anc.refl _ _) hwl
        · by_contra hge
          have hwn := df.anc_n hxn hw2
          have hw0 : w ≠ 0 := df.ne_zero_of_proper h1 hwc
          have hwL : Ldr h st tp w := ⟨hwn, hw0, by omega⟩
          have hq := df.parent_lt hwn hw0
          have hc1q : Anc tp c1 (tp w) := anc_parent_of_ne h1 hwc
          have hdq := df.dt.anc_depth hq (df.hall _ hq) hc1q
          have hdw := df.depth_child hwn hw0
          have hqr : r ≠ tp w := by
            intro h0; rw [← h0] at hdq; omega
          have hxq : x ≠ tp w := by
            intro h0
            have := df.dt.anc_depth hxn (df.hall x hxn) hw2
            rw [h0] at this; omega
          have hwalk : ∃ V : List Nat, (∀ y ∈ V, y < h.n ∧ y ≠ tp w) ∧ ReachIn h V x r := by
            by_cases hqT : tp w ∈ T
            · refine ⟨T.erase (tp w), fun y hy => ?_, ?_⟩
              · obtain ⟨h1', h2'⟩ := (mem_erase_nodup hnd).1 hy
                exact ⟨hTn y h1', h2'⟩
              · by_contra hnr
                exact hnosep (tp w) hqT ⟨x, r, (mem_erase_nodup hnd).2 ⟨hx, hxq⟩,
                  (mem_erase_nodup hnd).2 ⟨hrT, hqr⟩, hconn x hx r hrT, hnr⟩
            · exact ⟨T, fun y hy => ⟨hTn y hy, fun h0 => hqT (h0 ▸ hy)⟩, hconn x hx r hrT⟩
          obtain ⟨V, hV, k, hk⟩ := hwalk
          have hwr := df.sealed hwL V hV hw2 r k hk
          have := df.dt.anc_depth hrn (df.hall r hrn) hwr
          have := df.dt.anc_depth hwn (df.hall w hwn) h1
          have := df.anc_lt hwn h1 (Ne.symm hwc)
          omega

/-- **blocks are not nested** -/
theorem block_not_nested {l l' : Nat} (hl : Ldr h st tp l) (hl' : Ldr h st tp l')
    (hsub : ∀ x, x < h.n → InBlk st tp l x → InBlk st tp l' x) : l = l' := by
  have hln := hl.1
  have hp := df.parent_lt hln hl.2.1
  rcases hsub l hln (.inr (NL.refl df.dt hln (df.hall l hln))) with h0 | h0
  · exfalso
    rcases hsub (tp l) hp (.inl rfl) with h1 | h1
    · have := df.depth_child hln hl.2.1
      rw [h1, ← h0] at this; omega
    · have h2 : Anc tp l l' := by rw [h0]; exact anc_of_parent rfl
      have h3 := h2.trans h1.1
      have := df.dt.anc_depth hp (df.hall _ hp) h3
      have := df.depth_child hln hl.2.1
      omega
  · exact leader_unique hl hl' (NL.refl df.dt hln (df.hall l hln)) h0

end DFinal

end GDist
