import Mamba.Lemmas.DsaturHeap
/-! DSATUR model: the saturation counters and the forward update loop (`dsatur_visits_all`). -/
namespace CliqueColour
open GraphSpec

/-- `seenColours[c]` of vertex `u` -/
def seenAt (s : Dsat) (u c : Nat) : Int := (s.seen.getD u []).getD c 0

theorem incAt_getD (l : List Int) (i : Nat) (d : Int) (k : Nat) :
    (incAt l i d).getD k 0 = if k = i ∧ i < l.length then l.getD k 0 + d else l.getD k 0 := by
  unfold incAt
  rw [getD_set]
  by_cases h : i = k ∧ i < l.length
  · rw [if_pos h, if_pos ⟨h.1.symm, h.2⟩, h.1]
  · rw [if_neg h, if_neg (fun h' => h ⟨h'.1.symm, h'.2⟩)]

theorem incAt_length (l : List Int) (i : Nat) (d : Int) : (incAt l i d).length = l.length := by simp [incAt]

theorem seenAt_bump (s : Dsat) (u c : Nat) (d : Int) (num : List Int) (hu : u < s.seen.length)
    (hc : c < (s.seen.getD u []).length) (u' c' : Nat) :
    seenAt { s with seen := s.seen.set u (incAt (s.seen.getD u []) c d), num := num } u' c' =
      seenAt s u' c' + (if u' = u ∧ c' = c then d else 0) := by
  unfold seenAt
  simp only
  rw [getD_set]
  by_cases hu' : u' = u
  · subst hu'
    rw [if_pos ⟨rfl, hu⟩, incAt_getD]
    by_cases hc' : c' = c
    · subst hc'; rw [if_pos ⟨rfl, hc⟩, if_pos ⟨rfl, rfl⟩]
    · rw [if_neg (fun h => hc' h.1), if_neg (fun h => hc' h.2), Int.add_zero]
  · rw [if_neg (fun h => hu' h.1.symm), if_neg (fun h => hu' h.1), Int.add_zero]

theorem seeInc_seenAt (s : Dsat) (u c : Nat) (hu : u < s.seen.length) (hc : c < (s.seen.getD u []).length)
    (u' c' : Nat) :
    seenAt (seeInc s u c) u' c' = seenAt s u' c' + (if u' = u ∧ c' = c then 1 else 0) :=
  seenAt_bump s u c 1 _ hu hc u' c'

theorem seeDec_seenAt (s : Dsat) (u c : Nat) (hu : u < s.seen.length) (hc : c < (s.seen.getD u []).length)
    (u' c' : Nat) :
    seenAt (seeDec s u c) u' c' = seenAt s u' c' - (if u' = u ∧ c' = c then 1 else 0) := by
  refine (seenAt_bump s u c (-1) _ hu hc u' c').trans ?_
  split <;> rfl

structure SameFrame (s t : Dsat) : Prop where
  deg : t.deg = s.deg
  colouring : t.colouring = s.colouring
  best : t.best = s.best
  chosen : t.chosen = s.chosen
  cur : t.cur = s.cur
  choices : t.choices = s.choices
  maxUsed : t.maxUsed = s.maxUsed
  upper : t.upper = s.upper
  numLen : t.num.length = s.num.length
  seenLen : t.seen.length = s.seen.length
  rowLen : ∀ u, (t.seen.getD u []).length = (s.seen.getD u []).length

theorem SameFrame.refl (s : Dsat) : SameFrame s s :=
  ⟨rfl, rfl, rfl, rfl, rfl, rfl, rfl, rfl, rfl, rfl, fun _ => rfl⟩

theorem SameFrame.trans {s t r : Dsat} (h1 : SameFrame s t) (h2 : SameFrame t r) : SameFrame s r :=
  ⟨h2.deg.trans h1.deg, h2.colouring.trans h1.colouring, h2.best.trans h1.best, h2.chosen.trans h1.chosen,
    h2.cur.trans h1.cur, h2.choices.trans h1.choices, h2.maxUsed.trans h1.maxUsed, h2.upper.trans h1.upper,
    h2.numLen.trans h1.numLen, h2.seenLen.trans h1.seenLen, fun u => (h2.rowLen u).trans (h1.rowLen u)⟩

theorem row_set_length (seen : List (List Int)) (u : Nat) (row : List Int)
    (hrow : row.length = (seen.getD u []).length) (u' : Nat) :
    ((seen.set u row).getD u' []).length = (seen.getD u' []).length := by
  rw [getD_set]
  by_cases h : u = u' ∧ u < seen.length
  · rw [if_pos h, hrow, h.1]
  · rw [if_neg h]

theorem counters_frame (s : Dsat) (u : Nat) (row num : List Int) (hrow : row.length = (s.seen.getD u []).length)
    (hnum : num.length = s.num.length) : SameFrame s { s with seen := s.seen.set u row, num := num } :=
  ⟨rfl, rfl, rfl, rfl, rfl, rfl, rfl, rfl, hnum, List.length_set, row_set_length _ _ _ hrow⟩

theorem seeInc_frame (s : Dsat) (u c : Nat) : SameFrame s (seeInc s u c) ∧ (seeInc s u c).heap = s.heap :=
  ⟨counters_frame s u _ _ (incAt_length _ _ _) (by split <;> simp only [incAt_length]), rfl⟩

theorem seeDec_frame (s : Dsat) (u c : Nat) : SameFrame s (seeDec s u c) ∧ (seeDec s u c).heap = s.heap :=
  ⟨counters_frame s u _ _ (incAt_length _ _ _) (by split <;> simp only [incAt_length]), rfl⟩

theorem seeInc_num (s : Dsat) (u c : Nat) (w : Nat) :
    (w ≠ u → (seeInc s u c).num.getD w 0 = s.num.getD w 0) ∧ s.num.getD w 0 ≤ (seeInc s u c).num.getD w 0 := by
  simp only [seeInc]
  split
  · rw [incAt_getD]
    constructor
    · intro hw; rw [if_neg (fun h => hw h.1)]
    · split <;> omega
  · exact ⟨fun _ => rfl, Int.le_refl _⟩

theorem leV_improve {num num' : List Int} {deg : List Nat} {a b : Nat} (h : leV num deg a b)
    (ha : num.getD a 0 ≤ num'.getD a 0) (hb : num'.getD b 0 = num.getD b 0) : leV num' deg a b := by
  unfold leV lessV at *; omega

theorem ind_add {A B C : Prop} [Decidable A] [Decidable B] [Decidable C] (hx : ¬ (A ∧ B)) (hc : C ↔ (A ∨ B)) :
    ((if A then 1 else 0 : Int) + (if B then 1 else 0)) = (if C then 1 else 0) := by
  by_cases hA : A <;> by_cases hB : B <;> by_cases hC : C <;> simp_all

/-- the loop `for k, u := range uh.intHeap { if edge(u, v) { seen[u][c]++ … }; heap.Fix(&uh, k) }`: started on a valid
heap it visits every entry exactly once (`dsatur_visits_all`) and leaves a valid heap with the same entries -/
theorem fwdLoop_inv (g : G) (v c : Nat) (s : Dsat) (hnd : s.heap.Nodup)
    (hrows : ∀ u ∈ s.heap, u < s.seen.length ∧ c < (s.seen.getD u []).length) :
    ∀ (fuel k : Nat) (t : Dsat), s.heap.length + 1 ≤ fuel + k → k ≤ s.heap.length →
      t.heap.Perm s.heap → HeapOK t.num t.deg t.heap →
      (∀ p, k ≤ p → t.heap.getD p 0 = s.heap.getD p 0) → SameFrame s t →
      (∀ u c', seenAt t u c' = seenAt s u c' +
        (if (∃ p, p < k ∧ s.heap.getD p 0 = u) ∧ g.adj u v = true ∧ c' = c then 1 else 0)) →
      (fwdLoop g v c fuel k t).heap.Perm s.heap ∧
        HeapOK (fwdLoop g v c fuel k t).num (fwdLoop g v c fuel k t).deg (fwdLoop g v c fuel k t).heap ∧
        SameFrame s (fwdLoop g v c fuel k t) ∧
        ∀ u c', seenAt (fwdLoop g v c fuel k t) u c' = seenAt s u c' +
          (if u ∈ s.heap ∧ g.adj u v = true ∧ c' = c then 1 else 0) := by
  intro fuel
  induction fuel with
  | zero =>
    intro k t hf hk
    exact absurd (Nat.le_trans hf (by rw [Nat.zero_add]; exact hk)) (Nat.not_succ_le_self _)
  | succ fuel ih =>
    intro k t hf hk hperm hok hun hfr hseen
    have hlen : t.heap.length = s.heap.length := hperm.length_eq
    simp only [fwdLoop]
    by_cases hkl : k < t.heap.length
    · rw [if_pos hkl]
      have hkl' : k < s.heap.length := hlen ▸ hkl
      have htn : t.heap.Nodup := hperm.nodup_iff.2 hnd
      have hu_eq : t.heap.getD k 0 = s.heap.getD k 0 := hun k (Nat.le_refl _)
      generalize hudef : t.heap.getD k 0 = u at hu_eq
      have huH : u ∈ s.heap := by rw [hu_eq]; exact getD_mem hkl'
      have hnotvisited : ¬ ∃ p, p < k ∧ s.heap.getD p 0 = u := by
        rintro ⟨p, hp, he⟩
        exact Nat.ne_of_lt hp (getD_inj_of_nodup hnd (Nat.lt_trans hp hkl') hkl' (he.trans hu_eq))
      obtain ⟨hus, hcs⟩ := hrows u huH
      generalize ht1 : (if g.adj u v = true then seeInc t u c else t) = t1
      have ht1heap : t1.heap = t.heap := by
        rw [← ht1]; split
        · exact (seeInc_frame t u c).2
        · rfl
      have ht1fr : SameFrame t t1 := by
        rw [← ht1]; split
        · exact (seeInc_frame t u c).1
        · exact SameFrame.refl t
      have ht1num : ∀ w, (w ≠ u → t1.num.getD w 0 = t.num.getD w 0) ∧ t.num.getD w 0 ≤ t1.num.getD w 0 := by
        intro w
        rw [← ht1]; split
        · exact seeInc_num t u c w
        · exact ⟨fun _ => rfl, Int.le_refl _⟩
      have ht1seen : ∀ u' c', seenAt t1 u' c' = seenAt t u' c' +
          (if u' = u ∧ g.adj u v = true ∧ c' = c then 1 else 0) := by
        intro u' c'
        rw [← ht1]
        by_cases hadj : g.adj u v = true
        · rw [if_pos hadj, seeInc_seenAt t u c (by rw [hfr.seenLen]; exact hus) (by rw [hfr.rowLen]; exact hcs)]
          congr 1
          by_cases h1 : u' = u ∧ c' = c
          · rw [if_pos h1, if_pos ⟨h1.1, hadj, h1.2⟩]
          · rw [if_neg h1, if_neg (fun h => h1 ⟨h.1, h.2.2⟩)]
        · rw [if_neg hadj, if_neg (fun h => hadj h.2.1), Int.add_zero]
      have hA : ∀ e, e < t.heap.length → e ≠ k → t.heap.getD e 0 ≠ u := by
        intro e he hek heq
        exact hek (getD_inj_of_nodup htn he hkl (heq.trans hudef.symm))
      have hdeg : t1.deg = t.deg := ht1fr.deg
      obtain ⟨hfp, hfok, hfun⟩ := heapFix_spec t1.num t1.deg t.heap hkl
        (by
          intro e he0 hel hek
          have := hok e he0 hel
          unfold EdgeOK at this ⊢
          rw [hdeg]
          exact leV_improve this (ht1num _).2 ((ht1num _).1 (hA e hel hek)))
        (by
          intro c2 hc0 hcl hpc hk0
          have e1 := hok k hk0 hkl
          have e2 := hok c2 hc0 hcl
          unfold EdgeOK at e1 e2
          rw [hpc] at e2
          rw [hdeg]
          exact leV_improve (leV_trans e1 e2) (ht1num _).2 ((ht1num _).1 (hA c2 hcl (Nat.ne_of_gt (lt_of_parent hc0 hpc)))))
      have hstate : ({ t1 with heap := heapFix t1.num t1.deg t1.heap k } : Dsat) =
          { t1 with heap := heapFix t1.num t1.deg t.heap k } := by rw [ht1heap]
      rw [hstate]
      refine ih (k + 1) _ (by rw [Nat.add_comm k 1, ← Nat.add_assoc]; exact hf) hkl' (hfp.trans hperm) hfok ?_ ?_ ?_
      · intro p hp
        show (heapFix t1.num t1.deg t.heap k).getD p 0 = _
        rw [hfun p hp]; exact hun p (Nat.le_of_succ_le hp)
      · exact SameFrame.trans hfr ⟨ht1fr.deg, ht1fr.colouring, ht1fr.best, ht1fr.chosen, ht1fr.cur, ht1fr.choices,
          ht1fr.maxUsed, ht1fr.upper, ht1fr.numLen, ht1fr.seenLen, ht1fr.rowLen⟩
      · intro u' c'
        show seenAt t1 u' c' = _
        have hind : ((if (∃ p, p < k ∧ s.heap.getD p 0 = u') ∧ g.adj u' v = true ∧ c' = c then 1 else 0) : Int) +
            (if u' = u ∧ g.adj u v = true ∧ c' = c then 1 else 0) =
            (if (∃ p, p < k + 1 ∧ s.heap.getD p 0 = u') ∧ g.adj u' v = true ∧ c' = c then 1 else 0) := by
          apply ind_add
          · rintro ⟨⟨hvis, _⟩, ⟨hu', _⟩⟩
            rw [hu'] at hvis
            exact hnotvisited hvis
          · constructor
            · rintro ⟨⟨p, hp, he⟩, h4⟩
              by_cases hpk : p < k
              · exact Or.inl ⟨⟨p, hpk, he⟩, h4⟩
              · have : p = k := Nat.le_antisymm (Nat.le_of_lt_succ hp) (Nat.le_of_not_lt hpk)
                subst this
                have hu' : u' = u := he.symm.trans hu_eq.symm
                exact Or.inr ⟨hu', by rw [← hu']; exact h4.1, h4.2⟩
            · rintro (⟨⟨p, hp, he⟩, h4⟩ | ⟨hu', h4⟩)
              · exact ⟨⟨p, Nat.lt_succ_of_lt hp, he⟩, h4⟩
              · exact ⟨⟨k, Nat.lt_succ_self k, by rw [hu']; exact hu_eq.symm⟩, by rw [hu']; exact h4.1, h4.2⟩
        rw [ht1seen u' c', hseen u' c', Int.add_assoc, hind]
    · rw [if_neg hkl]
      have hkeq : k = s.heap.length := Nat.le_antisymm hk (hlen ▸ Nat.le_of_not_lt hkl)
      refine ⟨hperm, hok, hfr, fun u c' => ?_⟩
      rw [hseen u c']
      congr 1
      by_cases h : u ∈ s.heap ∧ g.adj u v = true ∧ c' = c
      · obtain ⟨p, hp, he⟩ := mem_iff_getD.1 h.1
        rw [if_pos h, if_pos ⟨⟨p, hkeq ▸ hp, he⟩, h.2⟩]
      · rw [if_neg h, if_neg]
        rintro ⟨⟨p, hp, he⟩, h2⟩
        exact h ⟨mem_iff_getD.2 ⟨p, hkeq ▸ hp, he⟩, h2⟩

theorem fwdLoop_spec (g : G) (v c : Nat) (s : Dsat) (hnd : s.heap.Nodup) (hok : HeapOK s.num s.deg s.heap)
    (hrows : ∀ u ∈ s.heap, u < s.seen.length ∧ c < (s.seen.getD u []).length) :
    (fwdLoop g v c (s.heap.length + 1) 0 s).heap.Perm s.heap ∧
      HeapOK (fwdLoop g v c (s.heap.length + 1) 0 s).num (fwdLoop g v c (s.heap.length + 1) 0 s).deg
        (fwdLoop g v c (s.heap.length + 1) 0 s).heap ∧
      SameFrame s (fwdLoop g v c (s.heap.length + 1) 0 s) ∧
      ∀ u c', seenAt (fwdLoop g v c (s.heap.length + 1) 0 s) u c' = seenAt s u c' +
        (if u ∈ s.heap ∧ g.adj u v = true ∧ c' = c then 1 else 0) :=
  fwdLoop_inv g v c s hnd hrows (s.heap.length + 1) 0 s (by omega) (Nat.zero_le _) (List.Perm.refl _) hok
    (fun _ _ => rfl) (SameFrame.refl s) (fun u c' => by
      rw [if_neg]; · omega
      · rintro ⟨⟨p, hp, _⟩, _⟩; omega)

end CliqueColour
