import Mamba.Lemmas.C06Hand
import Mamba.Lemmas.C06Sparse
import Mathlib.Data.List.Perm.Basic
import Mathlib.Data.List.Nodup
/-! C06: the `InducedSubgraph` view. -/
namespace Construct
open GraphSpec

theorem inducedView_isEdge (g : GraphI) (gs : G) (hs : g.Sound gs) (V : List Nat) (hV : ∀ x ∈ V, x < gs.n)
    (i j : Nat) (hi : i < V.length) (hj : j < V.length) :
    (inducedView g V).isEdge i j = .ok ((gs.induced V).adj i j) := by
  have h1 : i < V.toArray.size := by simpa using hi
  have h2 : j < V.toArray.size := by simpa using hj
  simp only [inducedView, getAt_ok h1, getAt_ok h2, Outcome.bind_ok, G.induced, hi, hj, decide_true, Bool.true_and]
  rw [hs.isEdge _ _ (hV _ (by simp)) (hV _ (by simp))]
  simp [List.getD, hi, hj]

theorem sortedInsert_spec (x : Nat) : ∀ (r : List Nat), r.Pairwise (· < ·) →
    (sortedInsert x r).Pairwise (· < ·) ∧ ∀ i, i ∈ sortedInsert x r ↔ i = x ∨ i ∈ r
  | [], _ => by simp [sortedInsert]
  | y :: ys, h => by
    have h' := List.pairwise_cons.mp h
    unfold sortedInsert
    by_cases hxy : x < y
    · simp only [hxy, ↓reduceIte]
      refine ⟨?_, fun i => by simp⟩
      rw [List.pairwise_cons]
      refine ⟨?_, h⟩
      intro z hz
      simp only [List.mem_cons] at hz
      rcases hz with rfl | hz
      · exact hxy
      · have := h'.1 z hz; omega
    · by_cases hxe : x = y
      · subst hxe
        simp only [Nat.lt_irrefl, ↓reduceIte, beq_self_eq_true]
        exact ⟨h, fun i => by simp⟩
      · have hxe' : (x == y) = false := by simp [hxe]
        simp only [hxy, ↓reduceIte, hxe', Bool.false_eq_true]
        obtain ⟨ih1, ih2⟩ := sortedInsert_spec x ys h'.2
        refine ⟨?_, fun i => by simp only [List.mem_cons, ih2]; tauto⟩
        rw [List.pairwise_cons]
        refine ⟨?_, ih1⟩
        intro z hz
        rw [ih2] at hz
        rcases hz with rfl | hz
        · omega
        · exact h'.1 z hz

theorem intersectionByIndex_spec : ∀ (fuel : Nat) (a : List Nat) (b : List (Nat × Nat)) (r : List Nat),
    a.length + b.length ≤ fuel → a.Pairwise (· < ·) → b.Pairwise (fun p q => p.1 < q.1) → r.Pairwise (· < ·) →
    (intersectionByIndex fuel a b r).Pairwise (· < ·) ∧
      ∀ i, i ∈ intersectionByIndex fuel a b r ↔ i ∈ r ∨ ∃ y, (y, i) ∈ b ∧ y ∈ a
  | 0, a, b, r, hf, _, _, hr => by
    have ha : a = [] := by cases a <;> simp_all
    have hb : b = [] := by cases b <;> simp_all
    subst ha hb
    simp [intersectionByIndex, hr]
  | fuel + 1, [], b, r, _, _, _, hr => by simp [intersectionByIndex, hr]
  | fuel + 1, x :: a, [], r, _, _, _, hr => by simp [intersectionByIndex, hr]
  | fuel + 1, x :: a, (y, iy) :: b, r, hf, ha, hb, hr => by
    have ha' := List.pairwise_cons.mp ha
    have hb' := List.pairwise_cons.mp hb
    simp only [List.length_cons] at hf
    unfold intersectionByIndex
    by_cases hxy : x = y
    · subst hxy
      simp only [beq_self_eq_true, ↓reduceIte]
      obtain ⟨s1, s2⟩ := sortedInsert_spec iy r hr
      obtain ⟨i1, i2⟩ := intersectionByIndex_spec fuel a b (sortedInsert iy r) (by omega) ha'.2 hb'.2 s1
      refine ⟨i1, ?_⟩
      intro i
      rw [i2, s2]
      constructor
      · rintro ((rfl | h) | ⟨z, hz1, hz2⟩)
        · exact Or.inr ⟨x, by simp, by simp⟩
        · exact Or.inl h
        · exact Or.inr ⟨z, by simp [hz1], by simp [hz2]⟩
      · rintro (h | ⟨z, hz1, hz2⟩)
        · exact Or.inl (Or.inr h)
        · simp only [List.mem_cons, Prod.mk.injEq] at hz1 hz2
          rcases hz1 with ⟨rfl, rfl⟩ | hz1
          · exact Or.inl (Or.inl rfl)
          · rcases hz2 with rfl | hz2
            · have := hb'.1 _ hz1; simp only at this; omega
            · exact Or.inr ⟨z, hz1, hz2⟩
    · have hxy' : (x == y) = false := by simp [hxy]
      simp only [hxy', Bool.false_eq_true, ↓reduceIte]
      by_cases hgt : x > y
      · simp only [hgt, ↓reduceIte]
        obtain ⟨i1, i2⟩ := intersectionByIndex_spec fuel (x :: a) b r (by simp; omega) ha hb'.2 hr
        refine ⟨i1, ?_⟩
        intro i
        rw [i2]
        constructor
        · rintro (h | ⟨z, hz1, hz2⟩)
          · exact Or.inl h
          · exact Or.inr ⟨z, by simp [hz1], hz2⟩
        · rintro (h | ⟨z, hz1, hz2⟩)
          · exact Or.inl h
          · simp only [List.mem_cons, Prod.mk.injEq] at hz1
            rcases hz1 with ⟨rfl, rfl⟩ | hz1
            · simp only [List.mem_cons] at hz2
              rcases hz2 with rfl | hz2
              · omega
              · have := ha'.1 _ hz2; omega
            · exact Or.inr ⟨z, hz1, hz2⟩
      · simp only [hgt, ↓reduceIte]
        obtain ⟨i1, i2⟩ := intersectionByIndex_spec fuel a ((y, iy) :: b) r (by simp; omega) ha'.2 hb hr
        refine ⟨i1, ?_⟩
        intro i
        rw [i2]
        constructor
        · rintro (h | ⟨z, hz1, hz2⟩)
          · exact Or.inl h
          · exact Or.inr ⟨z, hz1, by simp [hz2]⟩
        · rintro (h | ⟨z, hz1, hz2⟩)
          · exact Or.inl h
          · simp only [List.mem_cons] at hz2
            rcases hz2 with rfl | hz2
            · simp only [List.mem_cons, Prod.mk.injEq] at hz1
              rcases hz1 with ⟨rfl, _⟩ | hz1
              · omega
              · have := hb'.1 _ hz1; simp only at this; omega
            · exact Or.inr ⟨z, hz1, hz2⟩

theorem mem_zip_range (V : List Nat) (y i : Nat) :
    (y, i) ∈ V.zip (List.range V.length) ↔ ∃ h : i < V.length, V[i] = y := by
  rw [List.mem_iff_getElem]
  constructor
  · rintro ⟨k, hk, h⟩
    simp only [List.getElem_zip, List.getElem_range, Prod.mk.injEq] at h
    simp only [List.length_zip, List.length_range, Nat.min_self] at hk
    obtain ⟨h1, rfl⟩ := h
    exact ⟨hk, h1⟩
  · rintro ⟨h, rfl⟩
    exact ⟨i, by simpa using h, by simp⟩

/-- what `intsSort` (sort.Sort on values carrying their positions) returns, for a duplicate-free `V` -/
theorem intsSort_spec (V : List Nat) (hV : V.Nodup) :
    let S := (intsSort V).1.zip (intsSort V).2
    S.Pairwise (fun p q => p.1 < q.1) ∧ (∀ y i, (y, i) ∈ S ↔ ∃ h : i < V.length, V[i] = y) ∧
    (∀ x, x ∈ (intsSort V).1 ↔ x ∈ V) := by
  simp only [intsSort, List.zip_map', Prod.mk.eta, List.map_id']
  set S := (V.zip (List.range V.length)).mergeSort fun a b => decide (a.1 ≤ b.1) with hS
  have hperm : S.Perm (V.zip (List.range V.length)) := List.mergeSort_perm _ _
  have hle : S.Pairwise (fun p q => p.1 ≤ q.1) := by
    have := List.pairwise_mergeSort (le := fun a b : Nat × Nat => decide (a.1 ≤ b.1))
      (by intro a b c; simp; omega) (by intro a b; simp; omega) (V.zip (List.range V.length))
    simpa using this
  have hfst : (S.map (·.1)).Perm V := by
    have := hperm.map (·.1)
    rwa [List.map_fst_zip (by simp)] at this
  have hnd : (S.map (·.1)).Nodup := hfst.nodup_iff.mpr hV
  refine ⟨?_, ?_, ?_⟩
  · rw [List.Nodup, List.pairwise_map] at hnd
    exact (hle.and hnd).imp (fun ⟨h1, h2⟩ => by omega)
  · intro y i
    rw [hperm.mem_iff, mem_zip_range]
  · intro x
    exact hfst.mem_iff

theorem countP_mem_comm (A B : List Nat) (hA : A.Nodup) (hB : B.Nodup) :
    A.countP (fun x => decide (x ∈ B)) = B.countP (fun y => decide (y ∈ A)) := by
  induction A with
  | nil => simp
  | cons a t ih =>
    have hA' := List.nodup_cons.mp hA
    rw [List.countP_cons, ih hA'.2]
    have : B.countP (fun y => decide (y ∈ a :: t)) = B.countP (fun y => decide (y ∈ t)) + B.countP (fun y => y == a) := by
      have h1 : B.countP (fun y => decide (y ∈ a :: t)) = B.countP (fun y => decide (y ∈ t) || (y == a)) := by
        apply List.countP_congr; intro y _; simp [or_comm]
      rw [h1, countP_or_disjoint _ _ _ (by
        intro y _ ⟨c1, c2⟩
        simp only [beq_iff_eq] at c2; subst c2
        simp only [decide_eq_true_eq] at c1; exact hA'.1 c1)]
    rw [this]
    congr 1
    have : B.countP (fun y => y == a) = B.count a := by
      rw [List.count_eq_countP]
    rw [this]
    by_cases ha : a ∈ B
    · simp [ha, List.count_eq_one_of_mem hB ha]
    · simp [ha, List.count_eq_zero_of_not_mem ha]

theorem inducedView_unfold (g : GraphI) (V : List Nat) : inducedView g V =
    { n := V.length
      degrees := V.mapM fun v => do
        let nb ← g.neighbours v
        pure (Int.ofNat (intersectionSize nb (intsSort V).1))
      m := do
        let d ← V.mapM fun v => do
          let nb ← g.neighbours v
          pure (Int.ofNat (intersectionSize nb (intsSort V).1))
        pure ((d.foldl (· + ·) 0) / 2)
      isEdge := fun i j => do
        let a ← getAt V.toArray i
        let b ← getAt V.toArray j
        g.isEdge a b
      neighbours := fun v => do
        let a ← getAt V.toArray v
        let nb ← g.neighbours a
        pure (intersectionByIndex (nb.length + (intsSort V).1.length) nb ((intsSort V).1.zip (intsSort V).2) []) } := by
  rfl

theorem countP_getD (V : List Nat) (p : Nat → Bool) :
    (List.range V.length).countP (fun j => p (V.getD j 0)) = V.countP p := by
  have hVmap : V = (List.range V.length).map fun j => V.getD j 0 := by
    apply List.ext_getElem
    · simp
    · intro k h1 h2; simp [List.getD, h1]
  conv => rhs; rw [hVmap, List.countP_map]
  rfl

theorem induced_deg_eq (gs : G) (V : List Nat) (hV : V.Nodup) (hr : ∀ x ∈ V, x < gs.n) (i : Nat) (hi : i < V.length) :
    intersectionSize (gs.nbrs V[i]) (intsSort V).1 = (gs.induced V).deg i := by
  obtain ⟨_, _, hmem⟩ := intsSort_spec V hV
  have e1 : intersectionSize (gs.nbrs V[i]) (intsSort V).1 = (gs.nbrs V[i]).countP (fun x => decide (x ∈ V)) := by
    rw [intersectionSize, ← List.countP_eq_length_filter]
    apply List.countP_congr; intro x _; simp [hmem x]
  have e2a : (gs.induced V).deg i = V.countP (fun y => gs.adj V[i] y) := by
    simp only [G.deg, G.nbrs, G.induced, ← List.countP_eq_length_filter]
    rw [← countP_getD V (fun y => gs.adj V[i] y)]
    apply List.countP_congr
    intro j hj
    have hj' := List.mem_range.mp hj
    simp [hi, hj', List.getD]
  have e2 : (gs.induced V).deg i = V.countP (fun y => decide (y ∈ gs.nbrs V[i])) := by
    rw [e2a]
    apply List.countP_congr
    intro y hy
    simp [G.nbrs, hr y hy]
  rw [e1, e2, countP_mem_comm _ _ (G.nodup_nbrs _ _) hV]

theorem inducedView_sound (g : GraphI) (gs : G) (hs : g.Sound gs) (hw : gs.WF) (V : List Nat) (hV : V.Nodup)
    (hr : ∀ x ∈ V, x < gs.n) : (inducedView g V).Sound (gs.induced V) := by
  obtain ⟨hS1, hS2, hS3⟩ := intsSort_spec V hV
  have hdegs : (V.mapM fun v => do
        let nb ← g.neighbours v
        pure (Int.ofNat (intersectionSize nb (intsSort V).1)) : Outcome (List Int)) =
      .ok ((gs.induced V).degrees.map Int.ofNat) := by
    rw [Outcome.mapM_ok _ (fun v => Int.ofNat (intersectionSize (gs.nbrs v) (intsSort V).1)) V (by
      intro x hx; rw [hs.neighbours x (hr x hx)]; rfl)]
    congr 1
    apply List.ext_getElem
    · simp [G.degrees, G.induced]
    · intro k h1 h2
      have hk : k < V.length := by simpa using h1
      simp only [List.getElem_map, G.degrees, List.getElem_range]
      rw [induced_deg_eq gs V hV hr k hk]
  rw [inducedView_unfold]
  refine ⟨rfl, ?_, ?_, ?_, hdegs⟩
  · show (do
        let d ← V.mapM fun v => do
          let nb ← g.neighbours v
          pure (Int.ofNat (intersectionSize nb (intsSort V).1))
        pure ((d.foldl (· + ·) 0) / 2) : Outcome Int) = _
    rw [hdegs]
    simp only [Outcome.bind_ok, Outcome.pure_eq]
    congr 1
    exact half_sum_degrees (GraphRep.induced_wf hw V)
  · exact inducedView_isEdge g gs hs V hr
  · intro v hv
    have hv' : v < V.length := hv
    have h1 : v < V.toArray.size := by simpa using hv'
    have ha : V[v] < gs.n := hr _ (List.getElem_mem hv')
    simp only [getAt_ok h1, Outcome.bind_ok, List.getElem_toArray, hs.neighbours _ ha, Outcome.pure_eq]
    congr 1
    have hnbs : (gs.nbrs V[v]).Pairwise (· < ·) := (List.pairwise_lt_range).sublist List.filter_sublist
    obtain ⟨r1, r2⟩ := intersectionByIndex_spec ((gs.nbrs V[v]).length + (intsSort V).1.length) (gs.nbrs V[v])
      ((intsSort V).1.zip (intsSort V).2) [] (by
      have := Nat.min_le_left (intsSort V).1.length (intsSort V).2.length
      rw [List.length_zip]; omega) hnbs hS1 List.Pairwise.nil
    apply List.strictSorted_ext r1 ((List.pairwise_lt_range).sublist List.filter_sublist)
    intro i
    rw [r2]
    simp only [List.not_mem_nil, false_or, hS2, G.nbrs, List.mem_filter, List.mem_range, G.induced, hv', decide_true,
      Bool.true_and, Bool.and_eq_true, decide_eq_true_eq]
    constructor
    · rintro ⟨y, ⟨hi, rfl⟩, _, hadj⟩
      refine ⟨hi, hi, ?_⟩
      simpa [List.getD, hv', hi] using hadj
    · rintro ⟨hi, _, hadj⟩
      refine ⟨V[i], ⟨hi, rfl⟩, hr _ (List.getElem_mem hi), ?_⟩
      simpa [List.getD, hv', hi] using hadj

end Construct
