/-!
# `List.getD`, `List.idxOf` and permutations of `List.range n`

Orders, permutations and colourings are lists read with `l.getD i d` (mostly lists of naturals with `d = 0`). Inside the
list this is the entry at `i`; on a list without repetition `idxOf` is its inverse; a permutation of `List.range n` has
length `n`, no repetition and the members `< n`; a list without repetition of members `< n` has length at most `n`. The file
imports nothing, so that every development can use it.
-/

variable {α : Type _}

theorem getD_eq_getElem {l : List α} {i : Nat} (h : i < l.length) {d : α} : l.getD i d = l[i] :=
  (List.getElem_eq_getD (h := h) d).symm

theorem getElem?_eq_some_getD {l : List α} {i : Nat} (h : i < l.length) (d : α) : l[i]? = some (l.getD i d) := by
  rw [getD_eq_getElem h, List.getElem?_eq_getElem h]

theorem getD_mem_of_lt {l : List α} {i : Nat} (d : α) (h : i < l.length) : l.getD i d ∈ l := by
  rw [getD_eq_getElem h]; exact List.getElem_mem h

theorem getD_mem {l : List Nat} {i : Nat} (h : i < l.length) : l.getD i 0 ∈ l := getD_mem_of_lt 0 h

theorem mem_iff_getD {l : List Nat} {u : Nat} : u ∈ l ↔ ∃ p, p < l.length ∧ l.getD p 0 = u := by
  constructor
  · intro h
    obtain ⟨p, hp, he⟩ := List.getElem_of_mem h
    exact ⟨p, hp, by rw [getD_eq_getElem hp]; exact he⟩
  · rintro ⟨p, hp, rfl⟩; exact getD_mem hp

theorem getD_set (l : List α) (k j : Nat) (a d : α) :
    (l.set k a).getD j d = if k = j ∧ k < l.length then a else l.getD j d := by
  simp only [List.getD_eq_getElem?_getD, List.getElem?_set]
  by_cases h : k = j
  · subst h
    by_cases h2 : k < l.length
    · simp [h2]
    · simp [h2]
  · simp [h]

theorem getD_map_range {n : Nat} (f : Nat → α) {i : Nat} (h : i < n) {d : α} : ((List.range n).map f).getD i d = f i := by
  rw [List.getD_eq_getElem?_getD, List.getElem?_map, List.getElem?_range h]; rfl

theorem getD_range {n i : Nat} (h : i < n) : (List.range n).getD i 0 = i := by
  rw [List.getD_eq_getElem?_getD, List.getElem?_range h]; rfl

theorem Array.getD_of_getElem? {a : Array α} {i : Nat} {x d : α} (h : a[i]? = some x) : a.getD i d = x := by
  rw [Array.getD_eq_getD_getElem?, h]; rfl

/-! ### Lists without repetition -/

theorem idxOf_of_getElem? {o : List Nat} (hnd : o.Nodup) {q v : Nat} (h : o[q]? = some v) : o.idxOf v = q := by
  obtain ⟨hq, e⟩ := List.getElem?_eq_some_iff.1 h
  rw [← e]; exact hnd.idxOf_getElem q hq

theorem idxOf_getD {o : List Nat} (hn : o.Nodup) {p : Nat} (hp : p < o.length) : o.idxOf (o.getD p 0) = p :=
  idxOf_of_getElem? hn (getElem?_eq_some_getD hp 0)

theorem getD_idxOf {o : List Nat} {x : Nat} (hx : x ∈ o) : o.getD (o.idxOf x) 0 = x := by
  have h := List.idxOf_lt_length_of_mem hx
  rw [getD_eq_getElem h]
  exact List.getElem_idxOf h

theorem getD_inj_of_nodup {l : List Nat} (hn : l.Nodup) {i j : Nat} (hi : i < l.length) (hj : j < l.length)
    (h : l.getD i 0 = l.getD j 0) : i = j := by
  rw [← idxOf_getD hn hi, h, idxOf_getD hn hj]

/-! ### Permutations of `List.range n` -/

theorem perm_range_facts {o : List Nat} {n : Nat} (ho : o.Perm (List.range n)) :
    o.length = n ∧ o.Nodup ∧ ∀ x, x ∈ o ↔ x < n :=
  ⟨by simpa using ho.length_eq, ho.nodup_iff.2 List.nodup_range, fun x => by rw [ho.mem_iff, List.mem_range]⟩

theorem perm_getD_lt {n : Nat} {o : List Nat} (ho : o.Perm (List.range n)) {x : Nat} (hx : x < n) : o.getD x 0 < n := by
  obtain ⟨hl, _, hmem⟩ := perm_range_facts ho
  exact (hmem _).1 (getD_mem (by omega))

theorem perm_getD_inj {n : Nat} {o : List Nat} (ho : o.Perm (List.range n)) {x y : Nat} (hx : x < n) (hy : y < n)
    (e : o.getD x 0 = o.getD y 0) : x = y := by
  obtain ⟨hl, hnd, _⟩ := perm_range_facts ho
  exact getD_inj_of_nodup hnd (by omega) (by omega) e

theorem range_split {v n : Nat} (hv : v < n) :
    List.range n = List.range v ++ v :: List.range' (v + 1) (n - (v + 1)) := by
  have h1 : n = v + ((n - (v + 1)) + 1) := by omega
  conv => lhs; rw [h1, List.range_eq_range', ← List.range'_append (step := 1)]
  rw [List.range_eq_range', List.range'_succ]
  simp

/-- Pigeonhole: a list without repetition whose members are all `< n` has at most `n` entries. -/
theorem List.Nodup.length_le_of_lt {l : List Nat} {n : Nat} (h : l.Nodup) (hb : ∀ x ∈ l, x < n) : l.length ≤ n := by
  induction n generalizing l with
  | zero => exact Nat.le_of_eq (List.length_eq_zero_iff.2 (List.eq_nil_iff_forall_not_mem.2 fun a ha => Nat.not_lt_zero a (hb a ha)))
  | succ n ih =>
    refine Nat.le_add_of_sub_le (Nat.le_trans List.le_length_erase (ih (h.erase n) fun x hx => ?_))
    have hx := h.mem_erase_iff.1 hx
    exact Nat.lt_of_le_of_ne (Nat.le_of_lt_succ (hb x hx.2)) hx.1
