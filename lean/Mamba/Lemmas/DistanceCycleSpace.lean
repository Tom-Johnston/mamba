import Mamba.Lemmas.DistanceGibbsBlock
import Mamba.Lemmas.DistancePatonLoopInv
import Mamba.Lemmas.DistanceBiconFold
/-!
# The fundamental cycles of Paton's phase span the even edge sets of the block

On a connected simple graph, at the end of Paton's phase (`PFinal`): every edge is a tree edge or the private non-tree
edge of exactly one fundamental cycle (`edge_class`, `fund_private`), and an even set of tree edges is empty
(`tree_even_empty`: the deepest vertex with a tree edge of the set to its parent would have degree one). Hence an even
edge set is the XOR of the fundamental cycles whose private edges it contains (`even_span`); in particular every
simple cycle lies in Gibbs' `Q` (`cycle_in_Q`).
-/
namespace GDist
open GraphSpec Model

variable {a : G}

def TreeCode (a : G) (T : Array Int) (c : Nat) : Prop :=
  ∃ x, x < a.n ∧ inTree T x ∧ x ≠ 0 ∧ c = edgeCode x (par T x)

theorem exists_argmax (f : Nat → Nat) (P : Nat → Prop) : ∀ n, (∃ x, x < n ∧ P x) →
    ∃ x, x < n ∧ P x ∧ ∀ y, y < n → P y → f y ≤ f x := by
  intro n
  induction n with
  | zero => rintro ⟨x, hx, _⟩; omega
  | succ n ih =>
    rintro ⟨x, hx, hPx⟩
    by_cases hex : ∃ x, x < n ∧ P x
    · obtain ⟨m, hm, hPm, hmax⟩ := ih hex
      by_cases hPn : P n
      · by_cases hle : f n ≤ f m
        · refine ⟨m, by omega, hPm, fun y hy hPy => ?_⟩
          by_cases hyn : y = n
          · subst hyn; exact hle
          · exact hmax y (by omega) hPy
        · refine ⟨n, by omega, hPn, fun y hy hPy => ?_⟩
          by_cases hyn : y = n
          · subst hyn; exact Nat.le_refl _
          · have := hmax y (by omega) hPy; omega
      · refine ⟨m, by omega, hPm, fun y hy hPy => ?_⟩
        by_cases hyn : y = n
        · subst hyn; exact absurd hPy hPn
        · exact hmax y (by omega) hPy
    · have hxn : x = n := by
        by_contra h; exact hex ⟨x, by omega, hPx⟩
      subst hxn
      refine ⟨x, by omega, hPx, fun y hy hPy => ?_⟩
      by_cases hyn : y = x
      · subst hyn; exact Nat.le_refl _
      · exact absurd ⟨y, by omega, hPy⟩ hex

theorem countP_eq_one {p : Nat → Bool} : ∀ (t : List Nat), t.Nodup → ∀ c0, c0 ∈ t → p c0 = true →
    (∀ c ∈ t, p c = true → c = c0) → t.countP p = 1
  | [], _, _, h, _, _ => by cases h
  | c :: t, hnd, c0, hm, hp, huniq => by
    obtain ⟨hcnot, hnd'⟩ := List.nodup_cons.1 hnd
    rw [List.countP_cons]
    rcases List.mem_cons.1 hm with rfl | hm
    · have : t.countP p = 0 := by
        rw [List.countP_eq_zero]
        intro x hx hpx
        exact hcnot ((huniq x (List.mem_cons_of_mem _ hx) hpx) ▸ hx)
      simp [this, hp]
    · have hc : ¬ p c = true := fun h => hcnot ((huniq c List.mem_cons_self h) ▸ hm)
      rw [countP_eq_one t hnd' c0 hm hp (fun x hx => huniq x (List.mem_cons_of_mem _ hx))]
      simp [hc]

theorem tree_even_empty {st : PatonSt} (o : PO a st) {t : List Nat} (hnd : t.Nodup)
    (htree : ∀ c ∈ t, TreeCode a st.T c) (hev : EvenSet a.n t) : t = [] := by
  by_contra hne
  obtain ⟨c1, t', rfl⟩ := List.exists_cons_of_ne_nil hne
  obtain ⟨x1, hx1, ht1, hx10, hc1⟩ := htree c1 List.mem_cons_self
  let P : Nat → Prop := fun x => inTree st.T x ∧ x ≠ 0 ∧ edgeCode x (par st.T x) ∈ c1 :: t'
  obtain ⟨x, hx, ⟨hxt, hx0, hxm⟩, hmax⟩ := exists_argmax (dep st.depth) P a.n
    ⟨x1, hx1, ht1, hx10, by rw [← hc1]; exact List.mem_cons_self⟩
  have hpx := o.ptree x hx hxt
  have hdx := (o.pdep x hx hxt hx0).1
  have hxp : x ≠ par st.T x := fun h => by rw [← h] at hdx; omega
  have hcount : degIn a.n (c1 :: t') x = 1 := by
    unfold degIn
    apply countP_eq_one _ hnd _ hxm
    · exact (incid_edgeCode hx hpx.2.1 hxp).2 (.inl rfl)
    · intro c hc hinc
      obtain ⟨y, hy, hyt, hy0, hcy⟩ := htree c hc
      have hpy := o.ptree y hy hyt
      have hdy := (o.pdep y hy hyt hy0).1
      have hyp : y ≠ par st.T y := fun h => by rw [← h] at hdy; omega
      rw [hcy] at hinc
      rcases (incid_edgeCode hy hpy.2.1 hyp).1 hinc with h | h
      · rw [hcy, h]
      · exfalso
        have := hmax y hy ⟨hyt, hy0, by rw [← hcy]; exact hc⟩
        rw [h] at this; omega
  have := hev x hx
  rw [hcount] at this
  exact absurd this (by decide)


theorem mem_pathCodes_adj : ∀ (p : List Nat), chainAdj a p → ∀ c, c ∈ pathCodes p →
    ∃ x y, x ∈ p ∧ y ∈ p ∧ a.adj y x = true ∧ c = edgeCode x y
  | [], _, c, h => by simp [pathCodes] at h
  | [_], _, c, h => by simp [pathCodes] at h
  | x :: y :: t, hch, c, h => by
    rw [pathCodes, List.mem_cons] at h
    rcases h with h | h
    · exact ⟨x, y, by simp, by simp, hch.1, h⟩
    · obtain ⟨x', y', hx, hy, hadj, hc⟩ := mem_pathCodes_adj (y :: t) hch.2 c h
      exact ⟨x', y', List.mem_cons_of_mem _ hx, List.mem_cons_of_mem _ hy, hadj, hc⟩

section final
variable {st : PatonSt} {nt : List (Nat × Nat)} (F : PFinal a st nt) (hsym : ∀ u v, a.adj u v = a.adj v u)
  (hirr : ∀ v, a.adj v v = false)
include F hsym hirr

omit hsym in
theorem nt_not_tree : ∀ e ∈ nt, ¬ TreeCode a st.T (edgeCode e.1 e.2) := by
  rintro e he ⟨x, hx, ht, hx0, hc⟩
  have := F.pc.code_inj hirr e (F.pi.ntrm e he) _ (F.pi.trm x hx ht hx0) hc
  exact F.pi.ntt e he x hx ht hx0 this

omit hirr in
theorem edge_class {p q : Nat} (hp : p < a.n) (hq : q < a.n) (hadj : a.adj p q = true) :
    TreeCode a st.T (edgeCode p q) ∨ ∃ e ∈ nt, edgeCode p q = edgeCode e.1 e.2 := by
  have := F.o.exam q hq (F.all q hq) (by rw [F.xe]; simp) p (by rw [hsym]; exact hadj) hp
  unfold edgeRemoved at this
  simp only [Bool.or_eq_true, List.contains_iff_mem] at this
  rcases this with h | h
  · rcases F.pi.rcov _ h with h1 | ⟨x, hx, ht, hx0, hex⟩
    · exact .inr ⟨_, h1, rfl⟩
    · left
      refine ⟨x, hx, ht, hx0, ?_⟩
      have h1 : p = x := congrArg Prod.fst hex
      have h2 : q = par st.T x := congrArg Prod.snd hex
      rw [h1, h2]
  · rcases F.pi.rcov _ h with h1 | ⟨x, hx, ht, hx0, hex⟩
    · exact .inr ⟨_, h1, edgeCode_comm _ _⟩
    · left
      refine ⟨x, hx, ht, hx0, ?_⟩
      have h1 : q = x := congrArg Prod.fst hex
      have h2 : p = par st.T x := congrArg Prod.snd hex
      rw [h1, h2]; exact edgeCode_comm _ _

omit hsym in
theorem fund_private {f : List Nat} {e : Nat × Nat} (hfe : (f, e) ∈ st.fund.zip nt) {e' : Nat × Nat}
    (he' : e' ∈ nt) : edgeCode e'.1 e'.2 ∈ f ↔ e' = e := by
  have hR : FundOf a st.T f e := (List.forall₂_iff_zip.1 F.pi.fnt).2 hfe
  have he : e ∈ nt := (List.of_mem_zip hfe).2
  constructor
  · intro hm
    rcases hR.2 _ hm with h | h
    · exact F.pc.code_inj hirr e' (F.pi.ntrm e' he') e (F.pi.ntrm e he) h
    · exact absurd h (nt_not_tree F hirr e' he')
  · rintro rfl; exact hR.1

end final

end GDist

namespace GDist
open GraphSpec Model


theorem sXor_length {s t : List Nat} (hs : s.Pairwise (· < ·)) (ht : t.Pairwise (· < ·)) :
    (sXor s t).length + 2 * (s.filter fun x => decide (x ∈ t)).length = s.length + t.length := by
  obtain ⟨h1, h2⟩ := sXor_spec s t hs ht
  have n1 : (sXor s t).Nodup := h1.imp (fun h => Nat.ne_of_lt h)
  have ns : s.Nodup := hs.imp (fun h => Nat.ne_of_lt h)
  have nt : t.Nodup := ht.imp (fun h => Nat.ne_of_lt h)
  have e1 : s.length = (s.filter fun x => decide (x ∈ t)).length + (s.filter fun x => !decide (x ∈ t)).length :=
    (List.filter_append_perm (fun x => decide (x ∈ t)) s).length_eq.symm.trans (by simp)
  have e2 : t.length = (t.filter fun x => decide (x ∈ s)).length + (t.filter fun x => !decide (x ∈ s)).length :=
    (List.filter_append_perm (fun x => decide (x ∈ s)) t).length_eq.symm.trans (by simp)
  have e3 : (s.filter fun x => decide (x ∈ t)).length = (t.filter fun x => decide (x ∈ s)).length := by
    apply List.Perm.length_eq
    rw [List.perm_ext_iff_of_nodup (ns.filter _) (nt.filter _)]
    intro x; simp [List.mem_filter, and_comm]
  have e4 : (sXor s t).length
      = (s.filter fun x => !decide (x ∈ t)).length + (t.filter fun x => !decide (x ∈ s)).length := by
    have n2 : ((s.filter fun x => !decide (x ∈ t)) ++ (t.filter fun x => !decide (x ∈ s))).Nodup := by
      rw [List.nodup_append]
      refine ⟨ns.filter _, nt.filter _, ?_⟩
      intro a ha b hb hab
      subst hab
      have h1' := (List.mem_filter.1 ha)
      have h2' := (List.mem_filter.1 hb)
      simp at h1' h2'
      exact h1'.2 h2'.1
    have := ((List.perm_ext_iff_of_nodup n1 n2).2 (fun x => by
      rw [h2 x, List.mem_append, List.mem_filter, List.mem_filter]
      simp only [Bool.not_eq_true', decide_eq_false_iff_not]
      exact ⟨fun h => h.elim .inl (fun h => .inr ⟨h.2, h.1⟩), fun h => h.elim .inl (fun h => .inr ⟨h.2, h.1⟩)⟩)).length_eq
    simpa using this
  omega

theorem sXor_length_disjoint {s t : List Nat} (hs : s.Pairwise (· < ·)) (ht : t.Pairwise (· < ·))
    (hd : ∀ x ∈ s, x ∉ t) : (sXor s t).length = s.length + t.length := by
  have := sXor_length hs ht
  rw [List.filter_eq_nil_iff.2 fun x hx => by rw [decide_eq_true_eq]; exact hd x hx] at this
  exact this

theorem disjoint_of_sub_sXor {t fc : List Nat} (ht : t.Pairwise (· < ·)) (hf : fc.Pairwise (· < ·))
    (h : ∀ x ∈ fc, x ∈ sXor t fc) : ∀ x ∈ t, x ∉ fc := by
  intro x hxt hxf
  rcases ((sXor_spec t fc ht hf).2 x).1 (h x hxf) with ⟨_, h2⟩ | ⟨h1, _⟩
  · exact h2 hxf
  · exact h1 hxt

theorem isXorOf_nil : IsXorOf [] [] := ⟨List.Pairwise.nil, fun x => by simp [occ]⟩

theorem isXorOf_ext {I : List (List Nat)} {s t : List Nat} (hs : IsXorOf I s) (ht : IsXorOf I t) : s = t :=
  List.strictSorted_ext hs.1 ht.1 (fun x => by rw [hs.2 x, ht.2 x])

theorem exists_xor (n : Nat) : ∀ (I : List (List Nat)), (∀ f ∈ I, f.Pairwise (· < ·)) → (∀ f ∈ I, EvenSet n f) →
    ∃ t, IsXorOf I t ∧ EvenSet n t := by
  intro I
  induction I using List.reverseRecOn with
  | nil => intro _ _; exact ⟨[], isXorOf_nil, fun w _ => by simp [degIn]⟩
  | append_singleton I f ih =>
    intro hs he
    obtain ⟨t, ht, hte⟩ := ih (fun g hg => hs g (List.mem_append.2 (.inl hg)))
      (fun g hg => he g (List.mem_append.2 (.inl hg)))
    exact ⟨sXor t f, isXorOf_snoc ht (hs f (by simp)), even_sXor hte (he f (by simp))⟩

theorem cycCode_edges {a : G} (hsym : ∀ u v, a.adj u v = a.adj v u) {f : List Nat} (h : IsCycCode a f) :
    ∀ z ∈ f, ∃ p q, p < a.n ∧ q < a.n ∧ a.adj p q = true ∧ z = edgeCode p q := by
  obtain ⟨c, ⟨hlen, _, hn, hch, hclose⟩, rfl⟩ := h
  intro z hz
  rw [mem_sortInts] at hz
  unfold cycCodes at hz
  have hcne : c ≠ [] := by intro h0; subst h0; simp at hlen
  rcases List.mem_cons.1 hz with h | h
  · have hh : c.headD 0 ∈ c := by
      obtain ⟨y, t, rfl⟩ := List.exists_cons_of_ne_nil hcne; simp
    have hl : c.getLastD 0 ∈ c := by
      rw [List.getLastD_eq_getLast?, List.getLast?_eq_some_getLast hcne]
      exact List.getLast_mem _
    exact ⟨_, _, hn _ hh, hn _ hl, hclose, h⟩
  · obtain ⟨x, y, hx, hy, hadj, hc⟩ := mem_pathCodes_adj c hch z h
    exact ⟨x, y, hn x hx, hn y hy, by rw [hsym]; exact hadj, hc⟩


variable {a : G}

section final
variable {st : PatonSt} {nt : List (Nat × Nat)} (F : PFinal a st nt) (hsym : ∀ u v, a.adj u v = a.adj v u)
  (hirr : ∀ v, a.adj v v = false)
include F hsym hirr

omit hsym in
theorem zip_facts :
    st.fund.length = nt.length ∧ (st.fund.zip nt).map Prod.fst = st.fund ∧ (st.fund.zip nt).map Prod.snd = nt ∧
    (∀ f ε f', (f, ε) ∈ st.fund.zip nt → (f', ε) ∈ st.fund.zip nt → f = f') ∧
    (∀ f ε ε', (f, ε) ∈ st.fund.zip nt → (f, ε') ∈ st.fund.zip nt → ε = ε') ∧
    st.fund.Nodup := by
  have hlen : st.fund.length = nt.length := F.pi.fnt.length_eq
  have hZ1 : (st.fund.zip nt).map Prod.fst = st.fund := List.map_fst_zip (by omega)
  have hZ2 : (st.fund.zip nt).map Prod.snd = nt := List.map_snd_zip (by omega)
  have hnd2 : ((st.fund.zip nt).map Prod.snd).Nodup := by rw [hZ2]; exact F.pi.ntnd
  have hleft : ∀ f ε f', (f, ε) ∈ st.fund.zip nt → (f', ε) ∈ st.fund.zip nt → f = f' := by
    intro f ε f' h1 h2
    have := List.inj_on_of_nodup_map hnd2 h1 h2 rfl
    exact congrArg Prod.fst this
  have hright : ∀ f ε ε', (f, ε) ∈ st.fund.zip nt → (f, ε') ∈ st.fund.zip nt → ε = ε' := by
    intro f ε ε' h1 h2
    have hR : FundOf a st.T f ε := (List.forall₂_iff_zip.1 F.pi.fnt).2 h1
    exact (fund_private F hirr h2 (List.of_mem_zip h1).2).1 hR.1
  refine ⟨hlen, hZ1, hZ2, hleft, hright, ?_⟩
  rw [← hZ1]
  apply List.Nodup.map_on
  · rintro ⟨f, ε⟩ h1 ⟨f', ε'⟩ h2 hff
    simp only at hff
    subst hff
    rw [hright f ε ε' h1 h2]
  · exact List.Nodup.of_map _ hnd2

omit hsym in
theorem even_span {t0 : List Nat} (h0s : t0.Pairwise (· < ·)) (h0e : EvenSet a.n t0) (h0ne : t0 ≠ [])
    (codes0 : ∀ x ∈ t0, TreeCode a st.T x ∨ ∃ e ∈ nt, x = edgeCode e.1 e.2) :
    ∃ I, I ≠ [] ∧ I.Sublist st.fund ∧ IsXorOf I t0 ∧
      ∀ f ε, (f, ε) ∈ st.fund.zip nt → (f ∈ I ↔ edgeCode ε.1 ε.2 ∈ t0) := by
  obtain ⟨hlen, hZ1, hZ2, hleft, hright, _⟩ := zip_facts F hirr
  let Z := st.fund.zip nt
  let sel := Z.filter fun p => decide (edgeCode p.2.1 p.2.2 ∈ t0)
  have hselZ : ∀ p ∈ sel, p ∈ Z := fun p hp => (List.mem_filter.1 hp).1
  have hIsub : (sel.map Prod.fst).Sublist st.fund := by
    rw [← hZ1]; exact List.filter_sublist.map _
  have hsel_nt : ∀ e ∈ nt, edgeCode e.1 e.2 ∈ t0 → ∃ p ∈ sel, p.2 = e := by
    intro e he hin
    rw [← hZ2] at he
    obtain ⟨p, hp, rfl⟩ := List.mem_map.1 he
    exact ⟨p, List.mem_filter.2 ⟨hp, by simpa using hin⟩, rfl⟩
  have hocc : ∀ e ∈ nt, occ (sel.map Prod.fst) (edgeCode e.1 e.2) = if edgeCode e.1 e.2 ∈ t0 then 1 else 0 := by
    intro e he
    unfold occ
    rw [List.countP_map]
    have h1 : sel.countP ((fun f => decide (edgeCode e.1 e.2 ∈ f)) ∘ Prod.fst)
        = sel.countP ((fun e' => e' == e) ∘ Prod.snd) := by
      apply List.countP_congr
      intro p hp
      have hpZ : (p.1, p.2) ∈ st.fund.zip nt := hselZ p hp
      simp only [Function.comp, decide_eq_true_eq, beq_iff_eq]
      rw [fund_private F hirr hpZ he]
      exact ⟨fun h => h.symm, fun h => h.symm⟩
    rw [h1, ← List.countP_map]
    have hnd2 : (sel.map Prod.snd).Nodup := by
      have : (sel.map Prod.snd).Sublist nt := by rw [← hZ2]; exact List.filter_sublist.map _
      exact F.pi.ntnd.sublist this
    have := hnd2.count (a := e)
    rw [List.count] at this
    rw [this]
    by_cases hin : edgeCode e.1 e.2 ∈ t0
    · obtain ⟨p, hp, hpe⟩ := hsel_nt e he hin
      have : e ∈ sel.map Prod.snd := List.mem_map.2 ⟨p, hp, hpe⟩
      simp [this, hin]
    · have : e ∉ sel.map Prod.snd := by
        intro hm
        obtain ⟨p, hp, hpe⟩ := List.mem_map.1 hm
        have := (List.mem_filter.1 hp).2
        rw [hpe] at this
        exact hin (by simpa using this)
      simp [this, hin]
  have hnd0 : t0.Nodup := h0s.imp (fun h => Nat.ne_of_lt h)
  have hI : sel.map Prod.fst ≠ [] := by
    intro hI
    have hsel : sel = [] := by simpa using hI
    apply h0ne
    apply tree_even_empty F.o hnd0 _ h0e
    intro x hx
    rcases codes0 x hx with h | ⟨e, he, hxe⟩
    · exact h
    · exfalso
      obtain ⟨p, hp, _⟩ := hsel_nt e he (hxe ▸ hx)
      rw [hsel] at hp; cases hp
  have hfundI : ∀ f ∈ sel.map Prod.fst, IsCycCode a f := fun f hf => F.pi.cyc f (hIsub.subset hf)
  obtain ⟨t, ⟨hts, htm⟩, hte⟩ := exists_xor a.n (sel.map Prod.fst) (fun f hf => isCycCode_strict (hfundI f hf))
    (fun f hf => isCycCode_even (hfundI f hf))
  obtain ⟨hDs, hDm⟩ := sXor_spec t t0 hts h0s
  have hDe : EvenSet a.n (sXor t t0) := even_sXor hte h0e
  have hDtree : ∀ x ∈ sXor t t0, TreeCode a st.T x := by
    intro x hx
    rcases (hDm x).1 hx with ⟨hxt, hx0⟩ | ⟨hxt, hx0⟩
    · obtain ⟨f, hf, hxf'⟩ := IsXorOf.exists_mem ⟨hts, htm⟩ hxt
      obtain ⟨p, hp, rfl⟩ := List.mem_map.1 hf
      have hR : FundOf a st.T p.1 p.2 := (List.forall₂_iff_zip.1 F.pi.fnt).2 (hselZ p hp)
      rcases hR.2 x hxf' with h | h
      · exfalso
        have := (List.mem_filter.1 hp).2
        rw [← h] at this
        exact hx0 (by simpa using this)
      · exact h
    · rcases codes0 x hx0 with h | ⟨e, he, hxe⟩
      · exact h
      · exfalso
        have := hocc e he
        rw [← hxe, if_pos hx0] at this
        exact hxt ((htm x).2 (by rw [this]))
  have hD : sXor t t0 = [] := tree_even_empty F.o (hDs.imp (fun h => Nat.ne_of_lt h)) hDtree hDe
  have heq : t = t0 := by
    apply List.strictSorted_ext hts h0s
    intro x
    have := hDm x
    rw [hD] at this
    simp only [List.not_mem_nil, false_iff, not_or, not_and, not_not] at this
    exact ⟨this.1, fun h => by_contra fun hn => this.2 hn h⟩
  refine ⟨sel.map Prod.fst, hI, hIsub, heq ▸ ⟨hts, htm⟩, ?_⟩
  intro f ε hfε
  constructor
  · intro hf
    obtain ⟨p, hp, hpf⟩ := List.mem_map.1 hf
    have hpZ : (f, p.2) ∈ st.fund.zip nt := by rw [← hpf]; exact hselZ p hp
    have := hright f ε p.2 hfε hpZ
    rw [this]
    simpa using (List.mem_filter.1 hp).2
  · intro hin
    exact List.mem_map.2 ⟨(f, ε), List.mem_filter.2 ⟨hfε, by simpa using hin⟩, rfl⟩

end final

theorem cycle_in_Q {st : PatonSt} {nt : List (Nat × Nat)} (F : PFinal a st nt)
    (hsym : ∀ u v, a.adj u v = a.adj v u) (hirr : ∀ v, a.adj v v = false) {Q : List (List Nat)}
    (hq : QInv st.fund Q) (c : List Nat) (hc : IsCycleSeq a c) :
    sortInts (cycCodes c) ∈ Q := by
  have hcc : IsCycCode a (sortInts (cycCodes c)) := ⟨c, hc, rfl⟩
  have hne : sortInts (cycCodes c) ≠ [] :=
    List.ne_nil_of_mem (mem_sortInts.2 (List.mem_cons_self : edgeCode (c.headD 0) (c.getLastD 0) ∈ cycCodes c))
  -- a cycle is an even set of edges, hence the XOR of a set `I` of fundamental cycles; `Q` holds that XOR
  obtain ⟨I, hI, hIsub, hIx, _⟩ := even_span F hirr (isCycCode_strict hcc) (isCycCode_even hcc) hne
    (fun x hx => by
      obtain ⟨p, q, hp, hq', hadj, hz⟩ := cycCode_edges hsym hcc x hx
      rw [hz]; exact edge_class F hsym hp hq' hadj)
  obtain ⟨t, htQ, htx⟩ := hq.complete I hI hIsub
  rw [isXorOf_ext hIx htx]
  exact htQ

end GDist
