import Mamba.Lemmas.CanonFDfsBase
/-!
# Index paths of the stack frames and of the stored leaves

The Heuristic-2 tests determine common ancestors (`prefixF_of_onFirst`, `prefixB_of_onBest`). Heuristic 1: `backJump`
lands on the frame of the deepest common ancestor of the current leaf and the stored leaf it is compared with
(`backjump_leaf_frame`); the child of that frame on the stored path has been processed (`backjump_frame_child`), so the child
on the current path is complete (`Heritable.backjump_frame`).
-/
namespace CanonF

theorem frames_idxPath {n : Nat} {nb : Nbrs} {rf : Nat} {r : IR.St} {us : List Nat} :
    ∀ (path choices : List Nat) (lv : List (Nat × Nat)),
      FramesOK n nb rf r us path choices lv → path.length ≤ us.length →
      IdxPath n nb rf r us path.reverse path.length := by
  intro path
  induction path with
  | nil => intro _ _ _ _ i hi; simp at hi
  | cons p ps ih =>
    intro choices lv h hlen
    obtain ⟨e, -⟩ | ⟨_, _, c, cs, st, sz, ls, e, rfl, rfl, -, -⟩ := ((framesOK_iff (incl := false)).1 h).cases
    · cases e
    cases e
    obtain ⟨a1, -, a3, a4⟩ := h
    simp only [List.length_cons] at hlen
    have ih' := ih cs ls a4 (by omega)
    intro i hi
    simp only [List.length_cons] at hi
    simp only [List.reverse_cons]
    rcases Nat.lt_or_ge i ps.length with hlt | hge
    · obtain ⟨t, j, v, b1, b2, b3, b4⟩ := ih' i hlt
      refine ⟨t, j, v, b1, b2, b3, ?_⟩
      rw [List.getElem?_append_left (by simpa using hlt)]
      exact b4
    · have e : i = ps.length := by omega
      subst e
      have hl : ps.length < us.length := by omega
      obtain ⟨c1, -⟩ := a3 hl
      refine ⟨st, p, us[ps.length], a1, List.getElem?_eq_getElem hl, ?_, ?_⟩
      · rw [← c1]; exact List.getElem?_eq_getElem hl
      · rw [List.getElem?_append_right (by simp)]
        simp

theorem copyFrom_toList_prefix {s : Sl Nat} (hw : s.WF) (src : List Nat) (hl : src.length ≤ s.len) {i : Nat}
    (hi : i < src.length) : (s.copyFrom src).toList[i]? = src[i]? := by
  rw [Sl.getElem?_toList, Sl.copyFrom_len, if_pos (by omega), Sl.copyFrom_data s hw, if_pos ⟨hi, by omega⟩]

theorem IdxPath.congr {n : Nat} {nb : Nbrs} {rf : Nat} {r : IR.St} {vs P P' : List Nat} {L : Nat}
    (h : IdxPath n nb rf r vs P L) (e : ∀ i, i < L → P'[i]? = P[i]?) : IdxPath n nb rf r vs P' L := by
  intro i hi
  obtain ⟨t, j, v, b1, b2, b3, b4⟩ := h i hi
  exact ⟨t, j, v, b1, b2, b3, by rw [e i hi]; exact b4⟩

theorem hasPrefix_getElem? {P q : List Nat} (h : hasPrefix P q = true) : ∀ i, i < q.length → q[i]? = P[i]? := by
  unfold hasPrefix at h
  simp only [Bool.and_eq_true, decide_eq_true_eq, beq_iff_eq] at h
  intro i hi
  rw [← h.2, List.getElem?_take, if_pos hi]

theorem prefix_of_agree {n : Nat} {nb : Nbrs} {rf : Nat} {r : IR.St} {us vsX P Q : List Nat} {k : Nat}
    (hI : IdxPath n nb rf r us Q k) (hp : IR.IsPath (irG n nb) rf r us) (hlen : k ≤ us.length)
    (hlX : IR.target (irG n nb) (IR.nodeAt (irG n nb) rf r vsX) = none)
    (hIX : IdxPath n nb rf r vsX P vsX.length) (hagree : ∀ i, i < k → Q[i]? = P[i]?) :
    us.take k = vsX.take k ∧ k ≤ vsX.length := by
  have key : ∀ L, L ≤ k → L ≤ vsX.length → us.take L = vsX.take L := by
    intro L h1 h2
    apply same_prefix_of_idx (P := P)
    · intro i hi
      obtain ⟨t, j, v, b1, b2, b3, b4⟩ := hI i (by omega)
      exact ⟨t, j, v, b1, b2, b3, by rw [← hagree i (by omega)]; exact b4⟩
    · intro i hi
      exact hIX i (by omega)
  rcases Nat.lt_or_ge vsX.length k with hlt | hge
  · exfalso
    have e := key vsX.length (by omega) (Nat.le_refl _)
    rw [List.take_length] at e
    have hl : vsX.length < us.length := by omega
    obtain ⟨t, ht, -, -⟩ := IR.path_level hp (List.getElem?_eq_getElem hl)
    rw [e, hlX] at ht
    cases ht
  · exact ⟨key k (Nat.le_refl _) hge, hge⟩

theorem prefix_of_hasPrefix {n : Nat} {nb : Nbrs} {rf : Nat} {r : IR.St} {us vsX P ps : List Nat}
    (hI : IdxPath n nb rf r us ps.reverse ps.length) (hp : IR.IsPath (irG n nb) rf r us) (hlen : ps.length ≤ us.length)
    (hlX : IR.target (irG n nb) (IR.nodeAt (irG n nb) rf r vsX) = none)
    (hIX : IdxPath n nb rf r vsX P vsX.length) (hh : hasPrefix P ps.reverse = true) :
    us.take ps.length = vsX.take ps.length ∧ ps.length ≤ vsX.length :=
  prefix_of_agree hI hp hlen hlX hIX fun i hi => hasPrefix_getElem? hh i (by simpa using hi)

theorem onBestB_eq_true {s : LS} {ps : List Nat} (h : onBestB s ps = true) :
    0 < s.count ∧ hasPrefix s.bestPath.toList ps.reverse = true := by
  unfold onBestB at h
  simpa only [Bool.and_eq_true, decide_eq_true_eq] using h

theorem prefixF_of_onFirst {n : Nat} {nb : Nbrs} {rf : Nat} {r : IR.St} {gh : Gh} {s : LS} {us ps : List Nat}
    (hI : IdxPath n nb rf r us ps.reverse ps.length) (hp : IR.IsPath (irG n nb) rf r us) (hlen : ps.length ≤ us.length)
    (hG : GlobalInv n nb rf r gh s) (h : onFirstB s ps = true) : us.take ps.length = gh.vsF.take ps.length := by
  obtain ⟨hc, hh⟩ := onFirstB_eq_true h
  have L := hG.first hc
  exact (prefix_of_hasPrefix hI hp hlen L.leaf L.idx hh).1

theorem prefixB_of_onBest {n : Nat} {nb : Nbrs} {rf : Nat} {r : IR.St} {gh : Gh} {s : LS} {us ps : List Nat}
    (hI : IdxPath n nb rf r us ps.reverse ps.length) (hp : IR.IsPath (irG n nb) rf r us) (hlen : ps.length ≤ us.length)
    (hG : GlobalInv n nb rf r gh s) (h : onBestB s ps = true) : us.take ps.length = gh.vsB.take ps.length := by
  obtain ⟨hc, hh⟩ := onBestB_eq_true h
  have L := hG.best hc
  exact (prefix_of_hasPrefix hI hp hlen L.leaf L.idx hh).1

/-- the Heuristic-1 back-jump (from a state `s'` with the partition and stack of `s`): `j` frames are dropped; the new top
frame `p :: ps` agrees with `ref` below its level `ps.length` and, unless no frame was dropped, differs from it at that
level -/
theorem backJump_frame {n : Nat} {nb : Nbrs} {s s' s1 : LS} {ref : Sl Nat} {lv : List (Nat × Nat)}
    (hp : PartInv n s.op) (ha : AgeInv s.op) (hage : s.op.age = s.path.length)
    (hlv : LevelsOK s.op s.path s.choices lv) (hne : 0 < s.path.length)
    (h : backJump s' ref = .ok s1) (e1 : s'.op = s.op) (e2 : s'.path = s.path) (e3 : s'.choices = s.choices) :
    ∃ j op' p ps c cs st sz ls, j + ps.length + 1 = s.path.length ∧ deageTimes j s.op = .ok op' ∧
      s1 = { s' with op := op', path := s.path.drop j, choices := s.choices.drop j } ∧
      s.path.drop j = p :: ps ∧ s.choices.drop j = c :: cs ∧ lv.drop j = (st, sz) :: ls ∧ c = st + p ∧
      LevelsOK s.op (p :: ps) (c :: cs) ((st, sz) :: ls) ∧ LevelsOK op' (p :: ps) (c :: cs) ((st, sz) :: ls) ∧
      (∀ t, t < ps.length → ref.toList[t]? = ps.reverse[t]?) ∧
      (j = 0 ∨ ∃ x, ref.toList[ps.length]? = some x ∧ x ≠ p) := by
  obtain ⟨idx, op', hi, hd, rfl⟩ := backJump_ok.1 h
  rw [e2] at hi
  rw [e2, e1] at hd
  obtain ⟨hA, hB⟩ := h1Index_prefix _ _ _ _ _ hi
  simp only [List.length_reverse, Nat.zero_add, Nat.zero_le, true_implies] at hA hB
  -- `j` frames are dropped, `idx = ps.length + 1` stay
  obtain ⟨j, hj, hjlt⟩ : ∃ j, j + idx = s.path.length ∧ j < s.path.length := by
    rcases hB with e | ⟨b1, b2, -⟩
    · exact ⟨0, by rw [e, Nat.zero_add], hne⟩
    · exact ⟨s.path.length - idx, Nat.sub_add_cancel (Nat.le_trans b2 (Nat.sub_le _ _)), Nat.sub_lt hne b1⟩
  have hLj : s.path.length - idx = j := by rw [← hj, Nat.add_sub_cancel]
  rw [hLj] at hd
  obtain ⟨p, ps, hpd⟩ : ∃ p ps, s.path.drop j = p :: ps := ⟨_, _, List.drop_eq_getElem_cons hjlt⟩
  have hpsl : ps.length + 1 = idx := by
    have := congrArg List.length hpd
    rw [List.length_drop, List.length_cons, ← hj, Nat.add_sub_cancel_left] at this
    exact this.symm
  subst hpsl
  have hlvd := LevelsOK_drop j _ _ _ hlv
  rw [hpd] at hlvd
  obtain ⟨c, cs, st, sz, ls, hcd, hld, hcp⟩ := levelsOK_path_ne hlvd
  rw [hcd, hld] at hlvd
  obtain ⟨-, -, -, q4, -⟩ := deageTimes_spec (StepQ.trivial n nb s.currentBest s.firstLeaf) j s.op op' hp ha
    (by rw [hage]; exact Int.ofNat_le.2 (Nat.le_of_lt hjlt)) trivial hd
  have hrev : s.path.reverse = ps.reverse ++ p :: (s.path.take j).reverse := by
    conv_lhs => rw [← List.take_append_drop j s.path, hpd]
    rw [List.reverse_append, List.reverse_cons, List.append_assoc, List.singleton_append]
  have hget : ∀ t, t < ps.length → s.path.reverse.getD t 0 = ps.reverse[t]?.getD 0 := fun t ht => by
    rw [List.getD_eq_getElem?_getD, hrev, List.getElem?_append_left (by simpa using ht)]
  have hpk : s.path.reverse.getD ps.length 0 = p := by
    rw [List.getD_eq_getElem?_getD, hrev, List.getElem?_append_right (by simp)]
    simp
  obtain ⟨l1, -⟩ := LevelsOK_length _ _ _ hlv
  refine ⟨j, op', p, ps, c, cs, st, sz, ls, by rw [← hj, Nat.add_assoc], hd, ?_, hpd, hcd, hld, hcp, hlvd,
    LevelsOK_frame q4 _ _ _ (by rw [hage, ← hj]; simp only [List.length_cons]; omega) hlvd, fun t ht => ?_, ?_⟩
  · rw [e2, e3, l1, hLj]
  · have e' : ps.reverse[t]? = some (ps.reverse[t]?.getD 0) := by
      rw [List.getElem?_eq_getElem (by simpa using ht)]; rfl
    rw [e', ← hget t ht]
    exact hA t (Nat.succ_lt_succ ht) (by omega)
  · rcases hB with e | ⟨-, -, rv, a4, a5⟩
    · exact Or.inl (by omega)
    · rw [Nat.add_sub_cancel] at a4 a5
      exact Or.inr ⟨rv, a4, fun e => a5 (by rw [hpk, e])⟩

section
variable {n : Nat} {nb : Nbrs} {rf : Nat} {r : IR.St}

theorem offPath_mismatch {vs vsX P : List Nat} {p c st sz : Nat} {ps cs : List Nat} {ls : List (Nat × Nat)}
    (hp : IR.IsPath (irG n nb) rf r vs) (hf : FramesOK n nb rf r vs (p :: ps) (c :: cs) ((st, sz) :: ls))
    (hlen : ps.length + 1 = vs.length) (hlX : IR.target (irG n nb) (IR.nodeAt (irG n nb) rf r vsX) = none)
    (hIX : IdxPath n nb rf r vsX P vsX.length) (hP : vs.length ≤ P.length)
    (hagree : ∀ t, t < ps.length → P[t]? = ps.reverse[t]?) (hoff : ¬ vs = vsX.take vs.length) :
    ∃ x, P[ps.length]? = some x ∧ x ≠ p := by
  have hlt : ps.length < P.length := by omega
  refine ⟨_, List.getElem?_eq_getElem hlt, fun hxp => hoff ?_⟩
  have hI := frames_idxPath (p :: ps) (c :: cs) ((st, sz) :: ls) hf (Nat.le_of_eq hlen)
  have hag : ∀ i, i < (p :: ps).length → (p :: ps).reverse[i]? = P[i]? := by
    intro i hi
    simp only [List.length_cons] at hi
    simp only [List.reverse_cons]
    rcases Nat.lt_or_ge i ps.length with hlt' | hge
    · rw [List.getElem?_append_left (by simpa using hlt'), hagree i hlt']
    · have : i = ps.length := by omega
      subst this
      rw [List.getElem?_append_right (by simp), List.getElem?_eq_getElem hlt, hxp]
      simp
  have e := (prefix_of_agree hI hp (Nat.le_of_eq hlen) hlX hIX hag).1
  simp only [List.length_cons] at e
  rw [hlen, List.take_length] at e
  exact e

theorem backjump_frame_child {op : OP} {vs vsX o1 cert PX : List Nat} {pinv : Sl Nat}
    (hp2 : IR.IsPath (irG n nb) rf r vs) (hX : LeafRec n nb rf r vsX o1 cert pinv PX)
    {p c st sz : Nat} {ps cs : List Nat} {ls : List (Nat × Nat)}
    (hl : LevelsOK op (p :: ps) (c :: cs) ((st, sz) :: ls))
    (hf : FramesOK n nb rf r vs (p :: ps) (c :: cs) ((st, sz) :: ls)) (hlen : ps.length < vs.length)
    (hagree : ∀ t, t < ps.length → PX[t]? = ps.reverse[t]?) (hdiff : ∃ x, PX[ps.length]? = some x ∧ x ≠ p)
    (fut : ∀ j w, j < c - st → (cellL n nb rf r vs ps.length st)[j]? = some w →
      ¬ (vs.take ps.length = vsX.take ps.length ∧ vsX[ps.length]? = some w)) :
    vs.take ps.length = vsX.take ps.length ∧
      ∃ j v, c - st < j ∧ (cellL n nb rf r vs ps.length st)[j]? = some v ∧ vsX[ps.length]? = some v := by
  obtain ⟨htar, -, -, g4⟩ := hf
  have hcp : c - st = p := by rw [hl.2.2.1, Nat.add_sub_cancel_left]
  have hIk := frames_idxPath ps cs ls g4 (Nat.le_of_lt hlen)
  obtain ⟨hpre, -⟩ := prefix_of_agree hIk hp2 (Nat.le_of_lt hlen) hX.leaf hX.idx (fun i hi => (hagree i hi).symm)
  refine ⟨hpre, ?_⟩
  have hk : ps.length < vsX.length := by
    rcases Nat.lt_or_ge ps.length vsX.length with h | h
    · exact h
    · exfalso
      have e : vsX = vs.take ps.length := by rw [hpre, List.take_of_length_le h]
      have := hX.leaf
      rw [e] at this
      have htar' : IR.target (irG n nb) (IR.nodeAt (irG n nb) rf r (vs.take ps.length)) = some st := htar
      rw [this] at htar'
      cases htar'
  obtain ⟨t, j', v', b1, b2, b3, b4⟩ := hX.idx ps.length hk
  have en : nodeL n nb rf r vsX ps.length = nodeL n nb rf r vs ps.length := nodeL_congr hpre.symm
  unfold cellL at b3
  rw [en] at b1 b3
  rw [htar] at b1
  cases b1
  obtain ⟨x, hx, hxp⟩ := hdiff
  rw [hx] at b4
  have ej : x = j' := Option.some.inj b4
  have hge : ¬ j' < c - st := fun hlt => fut j' v' hlt b3 ⟨hpre, b2⟩
  exact ⟨j', v', by omega, b3, b2⟩

theorem Heritable.backjump_frame {T : IR.St → Prop} {Adm : List Nat → Prop} (hT : Heritable n nb rf T Adm)
    (hnb : NbOK nb n) (hA : IR.InvA (irG n nb) r) (hD : IR.InvD (irG n nb) r)
    {vs vsX o1 o2 cert PX : List Nat} {pinv : Sl Nat}
    (hp2 : IR.IsPath (irG n nb) rf r vs) (ht2 : IR.target (irG n nb) (IR.nodeAt (irG n nb) rf r vs) = none)
    (hc2 : (IR.nodeAt (irG n nb) rf r vs).c = IR.tab n (fun v => o2.idxOf v)) (ho2 : o2.Perm (List.range n))
    (hX : LeafRec n nb rf r vsX o1 cert pinv PX) (hcert : certPos nb o1 n = certPos nb o2 n)
    {p c st sz : Nat} {ps cs : List Nat} {ls : List (Nat × Nat)}
    (hf : FramesOK n nb rf r vs (p :: ps) (c :: cs) ((st, sz) :: ls)) (hlen : ps.length < vs.length)
    (hpre : vs.take ps.length = vsX.take ps.length)
    (hch : ∃ j v, c - st < j ∧ (cellL n nb rf r vs ps.length st)[j]? = some v ∧ vsX[ps.length]? = some v)
    (ab : ∀ i w, c - st < i → (cellL n nb rf r vs ps.length st)[i]? = some w → vsX[ps.length]? = some w →
      T (IR.childSt (irG n nb) rf (nodeL n nb rf r vs ps.length) st w))
    (hadm : Adm (transport n o1 o2)) : T (nodeL n nb rf r vs (ps.length + 1)) := by
  obtain ⟨j, v, hlt, hj, hv⟩ := hch
  have hvs : vs[ps.length]? = some vs[ps.length] := List.getElem?_eq_getElem hlen
  rw [nodeL_succ hp2 hvs hf.1]
  exact hT.backjump hnb hA hD hX.path hX.leaf hX.col hX.perm hp2 ht2 hc2 ho2 hcert hpre.symm hv hvs hf.1 hadm
    (ab j v hlt hj hv)

theorem backjump_leaf_frame {m : Nat} (hnb : NbOK nb n) (hA : IR.InvA (irG n nb) r) (hD : IR.InvD (irG n nb) r)
    {gh : Gh} {lv : List (Nat × Nat)} {s s' s1 : LS} {ref : Sl Nat} {vsX o1 cert : List Nat} {pinv : Sl Nat}
    (hI : MInv n m nb s) (hlv : LevelsOK s.op s.path s.choices lv) (hw : WalkNodev n nb rf r gh.vs lv s)
    (hbj : backJump s' ref = .ok s1) (e1 : s'.op = s.op) (e2 : s'.path = s.path) (e3 : s'.choices = s.choices)
    (hX : LeafRec n nb rf r vsX o1 cert pinv ref.toList) (hlen : ref.len = n ∧ ref.WF)
    (hoff : ¬ gh.vs = vsX.take gh.vs.length) (hne : gh.vs ≠ []) :
    ∃ j op' p ps c cs st sz ls, j + ps.length + 1 = s.path.length ∧ deageTimes j s.op = .ok op' ∧
      s1 = { s' with op := op', path := s.path.drop j, choices := s.choices.drop j } ∧
      s.path.drop j = p :: ps ∧ s.choices.drop j = c :: cs ∧ lv.drop j = (st, sz) :: ls ∧
      LevelsOK s.op (p :: ps) (c :: cs) ((st, sz) :: ls) ∧ LevelsOK op' (p :: ps) (c :: cs) ((st, sz) :: ls) ∧
      FramesOK n nb rf r gh.vs (p :: ps) (c :: cs) ((st, sz) :: ls) ∧ (p :: ps).length ≤ gh.vs.length ∧
      (∀ t, t < ps.length → ref.toList[t]? = ps.reverse[t]?) ∧ ∃ x, ref.toList[ps.length]? = some x ∧ x ≠ p := by
  have h1 := hw.path
  have h3 := hw.len
  have h5 := hw.framesOK
  have hd0 : 0 < s.path.length := by rw [← h3]; exact List.length_pos_iff.2 hne
  obtain ⟨j, op', p, ps, c, cs, st, sz, ls, hjl, hdt, es, hpd, hcd, hld, -, hlvd, hlvd', hagree, hmis⟩ :=
    backJump_frame (nb := nb) hI.core.part hI.core.age hI.age hlv hd0 hbj e1 e2 e3
  have hfr : FramesOK n nb rf r gh.vs (p :: ps) (c :: cs) ((st, sz) :: ls) := by
    have := h5.drop j; rwa [hpd, hcd, hld] at this
  refine ⟨j, op', p, ps, c, cs, st, sz, ls, hjl, hdt, es, hpd, hcd, hld, hlvd, hlvd', hfr,
    by rw [h3, ← hjl, List.length_cons]; omega, hagree, ?_⟩
  rcases hmis with e | hx
  · rw [e, Nat.zero_add] at hjl
    exact offPath_mismatch h1 hfr (by rw [h3, hjl]) hX.leaf hX.idx
      (by rw [Sl.length_toList _ hlen.2, hlen.1]
          exact Nat.le_trans (Nat.le_add_left _ _) (IR.path_length_le (irG_wf hnb) hA hD h1).1) hagree hoff
  · exact hx

theorem recorded_gens {order pinv : Sl Nat} {o1 : List Nat} {gens gens' : Array (Sl Nat)} {ngens ngens' : Nat}
    {merges : Bool} (ho1 : o1.Perm (List.range n)) (hlen : order.len = n) (hinvof : InvOf o1 pinv)
    (hrec : (if merges = true then recordGenerator n order pinv gens ngens else Outcome.ok (gens, ngens)) = .ok (gens', ngens')) :
    ∀ k γ, k < ngens' → gens'[k]? = some γ → (k < ngens ∧ gens[k]? = some γ) ∨ γ.toList = transport n o1 order.toList := by
  intro k γ hk hγ
  by_cases hm : merges = true
  · rw [if_pos hm] at hrec
    obtain ⟨r1, r2, r3, r4, tmp, t1, t2, t3, t4, t5⟩ := recordGenerator_spec hlen hrec
    subst r1
    by_cases hkn : k = ngens
    · right
      subst hkn
      rw [t1] at hγ
      injection hγ with hγ
      subst hγ
      exact recorded_transport ho1 hinvof t4 t5
    · left
      exact ⟨by omega, by rw [← r4 k hkn]; exact hγ⟩
  · rw [if_neg hm] at hrec
    injection hrec with hrec
    injection hrec with hg hn
    subst hg; subst hn
    exact Or.inl ⟨hk, hγ⟩

end

end CanonF
