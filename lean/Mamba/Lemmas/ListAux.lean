import Mamba.Lemmas.ListGetD
import Mamba.Lemmas.ListSorted
import Mathlib.Data.List.Perm.Subperm
import Mathlib.Data.List.Nodup
/-! Facts about lists that several areas use. -/

namespace List

theorem foldl_int_sum (l : List Int) (a : Int) : l.foldl (· + ·) a = a + l.sum := by
  induction l generalizing a with
  | nil => simp
  | cons x t ih => rw [foldl_cons, ih, sum_cons, Int.add_assoc]

theorem getD_snoc_lt {α : Type} {l : List α} {k : Nat} (hk : k < l.length) (x d : α) :
    (l ++ [x]).getD k d = l.getD k d := by
  simp [getD_eq_getElem?_getD, getElem?_append_left hk]

theorem getD_snoc_length {α : Type} (l : List α) (x d : α) : (l ++ [x]).getD l.length d = x := by
  simp [getD_eq_getElem?_getD]

end List

