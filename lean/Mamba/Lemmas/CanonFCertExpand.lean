import Mamba.Lemmas.CanonFCert
/-!
# `expandValue` maintains the certificate invariant (`ExpandCert` of `CanonFCert.lean`)

The inner loop appends `rawCodes` (`codeLoop_spec`, `code_fun`) and `Sl.sortRange a len` sorts exactly this tail
(`sortRange_spec`), so along a run of `expandLoop`, `value.toList = certPos nb order j` (`ExpRun.cert`). On "worse" the loop
records `spl := j' + 1`, so `value` is again the certificate of the prefix (`expandValue_cert`).
-/
namespace CanonF

theorem sortRange_spec {s s' : Sl Nat} {a : Nat} (hw : s.WF)
    (h : s.sortRange a s.len = .ok s') :
    s'.WF ∧ s'.len = s.len ∧ s'.toList = s.toList.take a ++ sortNat (s.toList.drop a) := by
  obtain ⟨_, s2, s3, _, s5, _⟩ := Sl.sortRange_spec hw (Nat.le_refl _) h
  have hl := Sl.length_toList s hw
  refine ⟨hw.of_eq s2 s3, s2, ?_⟩
  have h1 : s.toList.drop s.len = [] := List.drop_of_length_le (Nat.le_of_eq hl)
  have h2 : (s.toList.drop a).take (s.len - a) = s.toList.drop a :=
    List.take_of_length_le (by rw [List.length_drop, hl]; exact Nat.le_refl _)
  rw [s5, h1, h2, List.append_nil]

theorem certPos_split (nb : Nbrs) (o : List Nat) (s : Nat) : ∀ t, s ≤ t →
    ∃ extra, certPos nb o t = certPos nb o s ++ extra ∧ ∀ x ∈ extra, tri s ≤ x := by
  intro t ht
  obtain ⟨d, rfl⟩ : ∃ d, t = s + d := ⟨t - s, by omega⟩
  clear ht
  induction d with
  | zero => exact ⟨[], by simp, by simp⟩
  | succ d ih =>
    obtain ⟨e, he, hx⟩ := ih
    refine ⟨e ++ blockCodes nb o (s + d), by rw [← Nat.add_assoc, certPos_succ, he, List.append_assoc], ?_⟩
    intro x hx'
    rcases List.mem_append.1 hx' with h | h
    · exact hx x h
    · exact Nat.le_trans (tri_mono (Nat.le_add_right s d)) (mem_blockCodes_range h).1

theorem codeLoop_spec {inCell : Sl Nat} {j : Nat} (f : Nat → Option Nat)
    (hf : ∀ v k, inCell.get v = .ok k → f v = if k < j then some (tri j + k) else none) :
    ∀ (l : List Nat) (value value' : Sl Nat), value.WF →
      forList (codeStep inCell j) l value = .ok value' →
      value'.WF ∧ value'.toList = value.toList ++ l.filterMap f := by
  intro l
  induction l with
  | nil => intro value value' hw h; simp [forList] at h; subst h; exact ⟨hw, by simp⟩
  | cons x xs ih =>
    intro value value' hw h
    rw [forList] at h
    cases hx : codeStep inCell j x value with
    | ok v1 =>
      rw [hx] at h
      simp only at h
      unfold codeStep at hx
      cases hk : inCell.get x with
      | ok k =>
        rw [hk] at hx
        simp only at hx
        have hfx := hf x k hk
        by_cases hkj : k < j
        · rw [if_pos hkj] at hx hfx
          cases hx
          obtain ⟨w1, _, t1⟩ := Sl.append_spec value hw (j * (j - 1) / 2 + k)
          obtain ⟨w2, t2⟩ := ih _ _ w1 h
          refine ⟨w2, ?_⟩
          rw [t2, t1, List.filterMap_cons, hfx]
          simp [tri]
        · rw [if_neg hkj] at hx hfx
          cases hx
          obtain ⟨w2, t2⟩ := ih _ _ hw h
          refine ⟨w2, ?_⟩
          rw [t2, List.filterMap_cons, hfx]
      | panic => rw [hk] at hx; cases hx
      | outOfFuel => rw [hk] at hx; cases hx
    | panic => rw [hx] at h; cases h
    | outOfFuel => rw [hx] at h; cases h

theorem binIdx_eq_of_single (bd : List Nat) (hs : (0 :: bd).Pairwise (· < ·)) (j : Nat)
    (hsing : ∀ t, t < j → bd[t]? = some (t + 1)) (q : Nat) (hq : q < j) : binIdx bd q = q := by
  have h1 := (binIdx_lt_iff_of_single bd hs (q + 1) (fun t ht => hsing t (by omega)) q).2 (by omega)
  have h2 := (binIdx_lt_iff_of_single bd hs q (fun t ht => hsing t (by omega)) q)
  omega

theorem code_fun {n : Nat} {op : OP} (inv : PartInv n op) (j : Nat)
    (hsing : ∀ t, t < j → op.binDividers.toList[t]? = some (t + 1)) (v k : Nat) (hk : op.inCell.get v = .ok k) :
    (if op.order.toList.idxOf v < j then some (tri j + op.order.toList.idxOf v) else none) =
      if k < j then some (tri j + k) else none := by
  have hvn : v < n := by rw [← inv.lenInCell]; exact Sl.get_lt hk
  have hmem : v ∈ op.order.toList := inv.perm.mem_iff.2 (by simpa using hvn)
  have hlt : op.order.toList.idxOf v < op.order.toList.length := List.idxOf_lt_length_of_mem hmem
  have hq : op.order.toList[op.order.toList.idxOf v]? = some v := by
    rw [List.getElem?_eq_getElem hlt, List.getElem_idxOf hlt]
  have hic := inv.inCell _ _ hq
  have hk' := Sl.get_eq_toList.1 hk
  rw [hic] at hk'
  have hke : k = binIdx op.binDividers.toList (op.order.toList.idxOf v) := (Option.some.inj hk').symm
  have hiff := binIdx_lt_iff_of_single _ inv.sorted j hsing (op.order.toList.idxOf v)
  by_cases hlt' : op.order.toList.idxOf v < j
  · have := binIdx_eq_of_single _ inv.sorted j hsing _ hlt'
    rw [if_pos hlt', if_pos (by omega)]
    congr 2; omega
  · rw [if_neg hlt', if_neg (by rw [hke, hiff]; exact hlt')]

theorem ExpBlock.cert {n : Nat} {nb : Nbrs} {op : OP} {j : Nat} {value2 : Sl Nat} (hb : ExpBlock nb op j value2)
    (inv : PartInv n op) (hsing : ∀ t, t < j → op.binDividers.toList[t]? = some (t + 1)) (hwf : op.value.WF) :
    value2.WF ∧ value2.toList = op.value.toList ++ blockCodes nb op.order.toList j := by
  obtain ⟨u, nbrs, value1, hu, hnb, hcode, hsort⟩ := hb
  obtain ⟨w1, t1⟩ := codeLoop_spec
    (fun v => if op.order.toList.idxOf v < j then some (tri j + op.order.toList.idxOf v) else none)
    (code_fun inv j hsing) nbrs op.value value1 hwf hcode
  have hlen0 : op.value.toList.length = op.value.len := Sl.length_toList _ hwf
  obtain ⟨w2, _, t2⟩ := sortRange_spec w1 hsort
  have hraw : rawCodes nb op.order.toList j = nbrs.filterMap
      (fun v => if op.order.toList.idxOf v < j then some (tri j + op.order.toList.idxOf v) else none) := by
    unfold rawCodes
    have : op.order.toList.getD j 0 = u := by
      rw [List.getD_eq_getElem?_getD, Sl.get_eq_toList.1 hu]; rfl
    rw [this, nbrsGet_eq hnb]
  exact ⟨w2, by rw [t2, t1, ← hlen0, List.take_left, List.drop_left, blockCodes, hraw]⟩

theorem ExpRun.cert {n : Nat} {nb : Nbrs} {cb fl : Sl Nat} {k j : Nat} {op op' : OP} {w : Bool}
    (h : ExpRun nb cb fl k j op w op') : j + k = n → PartInv n op →
      (∀ t, t < j → op.binDividers.toList[t]? = some (t + 1)) → op.value.WF →
      op.value.toList = certPos nb op.order.toList j →
      (w = false → CleanPrefix op' ∧ op'.value.WF ∧ op'.value.toList = certPos nb op'.order.toList op'.spl) ∧
      (w = true → op'.value.WF ∧
        ∃ j', j ≤ j' ∧ op'.spl = j' + 1 ∧ j' < op.binDividers.len ∧
          (∀ t, t < j' + 1 → op.binDividers.toList[t]? = some (t + 1)) ∧
          op'.value.toList = certPos nb op.order.toList (j' + 1) ∧
          worseTest op'.value cb fl = .ok true) := by
  induction h with
  | done j op =>
    intro hjk inv hsing hwf hval
    obtain rfl : j = n := hjk
    exact ⟨fun _ => ⟨cleanPrefix_full inv hsing, hwf, by
      show op.value.toList = certPos nb op.order.toList op.order.len
      rw [inv.lenOrder]; exact hval⟩, fun hc => by cases hc⟩
  | @stop k j op bs hb hne =>
    intro _ inv hsing hwf hval
    obtain ⟨hjlt, hiff⟩ := binSizeAt_spec inv hsing hb
    exact ⟨fun _ => ⟨⟨⟨Nat.le_of_lt hjlt, hsing⟩, fun hc => hne (hiff.2 hc)⟩, hwf, hval⟩, fun hc => by cases hc⟩
  | @worse k j op v hb hblk hw =>
    intro _ inv hsing hwf hval
    obtain ⟨hjlt, hiff⟩ := binSizeAt_spec inv hsing hb
    obtain ⟨w2, t2⟩ := hblk.cert inv hsing hwf
    refine ⟨fun hc => (by cases hc), fun _ => ⟨w2, j, Nat.le_refl _, rfl, hjlt, ?_, ?_, hw⟩⟩
    · intro t ht
      rcases Nat.lt_succ_iff_lt_or_eq.1 ht with h1 | rfl
      · exact hsing t h1
      · exact hiff.1 rfl
    · show v.toList = _
      rw [t2, hval, certPos_succ]
  | @next k j op v w op' hb hblk _ _ ih =>
    intro hjk inv hsing hwf hval
    obtain ⟨hjlt, hiff⟩ := binSizeAt_spec inv hsing hb
    obtain ⟨w2, t2⟩ := hblk.cert inv hsing hwf
    obtain ⟨r1, r2⟩ := ih (by rw [← hjk, Nat.add_assoc, Nat.add_comm 1 k])
      (PartInv.of_frame inv rfl rfl rfl rfl)
      (fun t ht => by
        rcases Nat.lt_succ_iff_lt_or_eq.1 ht with h1 | rfl
        · exact hsing t h1
        · exact hiff.1 rfl)
      w2 (by show v.toList = _; rw [t2, hval, certPos_succ])
    refine ⟨r1, fun hw => ?_⟩
    obtain ⟨s2, j', s3, s4, s5, s6, s7, s8⟩ := r2 hw
    exact ⟨s2, j', Nat.le_of_succ_le s3, s4, s5, s6, s7, s8⟩

theorem expandValue_cert : ExpandCert := by
  intro n nb cb fl op op' w inv hp hwf hval h
  obtain ⟨e1, e2, _, _, _, _⟩ := expandValue_frame h
  unfold expandValue at h
  have hle : op.spl ≤ n := Nat.le_trans hp.le inv.bdLen_le
  obtain ⟨r1, r2⟩ := (expandLoop_run h).cert (by rw [inv.lenOrder]; omega) inv hp.single hwf hval
  refine ⟨fun hw => ?_, fun hw => ?_⟩
  · obtain ⟨a1, a2, a3⟩ := r1 hw
    exact ⟨a1, a2, a3⟩
  · obtain ⟨s2, j', s3, s4, s5, s6, s7, _⟩ := r2 hw
    refine ⟨⟨⟨?_, ?_⟩, s2, ?_⟩, by omega⟩
    · rw [s4, e2]; omega
    · rw [s4, e2]; exact s6
    · rw [s4, e1]; exact s7

end CanonF
