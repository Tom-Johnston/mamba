import Mamba.Lemmas.DawgDec
import Mamba.Lemmas.ListAux
/-! `gobDecode (gobEncode d)` is an id-preserving isomorphic copy of `d`. -/
namespace Dawg

theorem decIds_spec : ∀ (L : List Nat) (i : Nat) (ts : Heap) (rest : List Nat),
    i + L.length ≤ ts.size → (∀ x ∈ L, x < 2 ^ 64) →
    ∃ ts', decIds ts L.length i (L.flatMap encodeUint64 ++ rest) = .ok (ts', rest) ∧ ts'.size = ts.size ∧
      (∀ m, m < i → ts'[m]? = ts[m]?) ∧
      (∀ m x, L[m]? = some x → ts'[i + m]? = (ts[i + m]?).map (fun n => { n with id := x })) := by
  intro L
  induction L with
  | nil =>
    intro i ts rest _ _
    exact ⟨ts, by simp [decIds], rfl, fun _ _ => rfl, fun m x h => by simp at h⟩
  | cons a L ih =>
    intro i ts rest hsz hsmall
    simp only [List.length_cons] at hsz
    have hlt : i < ts.size := Nat.lt_of_lt_of_le (Nat.lt_add_of_pos_right (Nat.succ_pos _)) hsz
    simp only [List.length_cons, List.flatMap_cons, List.append_assoc, decIds]
    rw [decodeUint64_encodeUint64_append a (hsmall a List.mem_cons_self)]
    simp only [Array.getElem?_eq_getElem hlt]
    obtain ⟨ts', hdec, hsize, hlow, hmine⟩ := ih (i + 1) (ts.setIfInBounds i { ts[i] with id := a }) rest
      (by rw [Array.size_setIfInBounds, Nat.add_right_comm]; exact hsz) (fun x hx => hsmall x (List.mem_cons_of_mem _ hx))
    refine ⟨ts', hdec, by rw [hsize, Array.size_setIfInBounds], ?_, ?_⟩
    · intro m hm
      rw [hlow m (Nat.lt_succ_of_lt hm), Array.getElem?_setIfInBounds_ne (Nat.ne_of_gt hm)]
    · intro m x hx
      cases m with
      | zero =>
        simp only [List.getElem?_cons_zero, Option.some.injEq] at hx
        subst hx
        rw [Nat.add_zero, hlow i (Nat.lt_succ_self i), Array.getElem?_setIfInBounds_self]
        simp [hlt]
      | succ m =>
        simp only [List.getElem?_cons_succ] at hx
        have := hmine m x hx
        rw [show i + (m + 1) = i + 1 + m from (Nat.add_right_comm i 1 m).symm, this,
          Array.getElem?_setIfInBounds_ne (Nat.ne_of_lt (Nat.lt_of_lt_of_le (Nat.lt_succ_self i) (Nat.le_add_right _ m)))]

theorem gobDecode_of_encodePost (d : Dawg) (wf : WF d) (bs : List Nat) (hpost : EncodePost d bs) :
    ∃ L d', ListNodesPost d L ∧ gobDecode bs = .ok d' ∧ IsoVia (posOf d.heap L) d d' ∧ d'.heap.size = L.length ∧
      L.length < 2 ^ 64 := by
  obtain ⟨L, tl, recs, hL, hnd, hall, hem, hbs⟩ := hpost
  have hLs := hL.sorted.imp Nat.le_of_lt
  obtain ⟨rn, hrn⟩ := wf.closed d.root Reach.root
  have hlenL : L.length = (d.root :: tl).length := hL.count _ hnd hall
  have hbound : ∀ x ∈ d.root :: tl, x < d.heap.size := by
    intro x hx
    obtain ⟨n, hn⟩ := wf.closed x ((hall x).2 hx)
    rcases Array.getElem?_eq_some_iff.1 hn with ⟨h, _⟩
    exact h
  have hN : L.length < 2 ^ 64 := hlenL ▸ Nat.lt_of_le_of_lt (hnd.length_le_of_lt hbound) wf.size
  have hN0 : L.length ≠ 0 := by rw [hlenL]; simp
  have hLsmall : ∀ x ∈ L, x < 2 ^ 64 := by
    intro x hx
    obtain ⟨p, n, hp, hn, rfl⟩ := (hL.mem x).1 hx
    exact (wf.small p n hp hn).1
  subst hbs
  unfold gobDecode
  rw [List.append_assoc, decodeUint64_encodeUint64_append _ hN]
  simp only [hN0, if_false]
  rw [if_neg (Nat.not_lt.2 (length_le_flatMap_encode L hLsmall recs))]
  obtain ⟨ts, hids, hsz, _, htsid⟩ := decIds_spec L 0 (Array.replicate L.length Node.zero) (recs ++ [])
    (by simp) hLsmall
  rw [List.append_nil] at hids
  rw [hids]
  simp only
  have hsz' : ts.size = L.length := by rw [hsz, Array.size_replicate]
  have hposlt : ∀ p, Reach d.heap d.root p → posOf d.heap L p < ts.size := by
    intro p hp
    obtain ⟨n, hn⟩ := wf.closed p hp
    rw [hsz']
    simp only [posOf, hn]
    exact searchGE_lt_of_mem L n.id hLs ((hL.mem _).2 ⟨p, n, hp, hn, rfl⟩)
  have hposget : ∀ p n, Reach d.heap d.root p → d.heap[p]? = some n → L[posOf d.heap L p]? = some n.id := by
    intro p n hp hn
    simp only [posOf, hn]
    exact (get_searchGE_iff L n.id hLs).2 ((hL.mem _).2 ⟨p, n, hp, hn, rfl⟩)
  have hposinj : ∀ p, p ∈ d.root :: tl → ∀ q, q ∈ d.root :: tl → posOf d.heap L p = posOf d.heap L q → p = q := by
    intro p hp q hq hpq
    have hpr := (hall p).2 hp
    have hqr := (hall q).2 hq
    obtain ⟨np, hnp⟩ := wf.closed p hpr
    obtain ⟨nq, hnq⟩ := wf.closed q hqr
    have h1 := hposget p np hpr hnp
    have h2 := hposget q nq hqr hnq
    rw [hpq, h2] at h1
    exact wf.idInj p q np nq hpr hqr hnp hnq (by simpa using h1.symm)
  obtain ⟨ts', hdec, hsz2, _, hmine⟩ := decRecords_emitted d wf L _ _ hem ts []
    (fun p hp => (hall p).2 hp) hposlt (by omega) (List.Nodup.map_on hposinj hnd)
  rw [List.append_nil] at hdec
  rw [← hlenL] at hdec
  rw [hdec]
  refine ⟨L, ⟨ts', 0⟩, hL, rfl, ⟨?_, ?_⟩, by simp [hsz2]; omega, hN⟩
  · simp only [posOf, hrn]
    cases hLc : L with
    | nil => simp [searchGE]
    | cons a L' =>
      simp only [searchGE]
      have ha : a ∈ L := by rw [hLc]; exact List.mem_cons_self
      obtain ⟨p, n, hp, hn, hid⟩ := (hL.mem a).1 ha
      by_cases hpr : p = d.root
      · subst hpr; rw [hrn] at hn; cases hn; rw [← hid]; simp
      · have := wf.rootMin p n rn hp hpr hn hrn
        rw [← hid]
        simp; omega
  · intro p hp
    obtain ⟨n, hn⟩ := wf.closed p hp
    refine ⟨n, hn, ?_⟩
    simp only
    rw [hmine p n ((hall p).1 hp) hn]
    have hg := hposget p n hp hn
    have := htsid _ _ hg
    rw [Nat.zero_add] at this
    rw [this, Array.getElem?_replicate]
    have hlt := hposlt p hp
    rw [hsz] at hlt
    simp only [Array.size_replicate] at hlt
    simp [hlt, fillFrom, Node.zero]

end Dawg
