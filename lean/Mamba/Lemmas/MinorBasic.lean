import Mamba.Spec.Minor
import Mathlib.Tactic.Tauto
import Mathlib.Tactic.Push
import Mathlib.Tactic.Set
/-!
# Basic lemmas about branch-set models (property C11)

A model is pushed forward along a vertex map that sends edges to edges or collapses them (`IsModel.map`: deletion of an
unused vertex, contraction inside a branch set) and pulled back from a subgraph or a contraction; hence a model after
minor operations gives a model before them (`HasMinorP.of_ops`).
-/
namespace Minor
open GraphSpec

def PG.Sym (p : PG) : Prop := ∀ u v, p.adj u v = p.adj v u

theorem ofG_sym (g : G) : (ofG g).Sym := by
  intro u v; simp [ofG, Bool.or_comm]

theorem ofG_V (g : G) (v : Nat) : (ofG g).V v ↔ v < g.n := by
  simp [PG.V, ofG]

theorem delV_sym {p : PG} (h : p.Sym) (x : Nat) : (p.delV x).Sym := fun u v => h u v

theorem delE_sym {p : PG} (h : p.Sym) (a b : Nat) : (p.delE a b).Sym := by
  intro u v
  simp only [PG.delE]
  rw [h u v]
  have : ((u == a && v == b) || (u == b && v == a)) = ((v == a && u == b) || (v == b && u == a)) := by
    cases (u == a) <;> cases (v == b) <;> cases (u == b) <;> cases (v == a) <;> rfl
  rw [this]

theorem contract_sym {p : PG} (h : p.Sym) (x y : Nat) : (p.contract x y).Sym := by
  intro u v
  simp only [PG.contract]
  by_cases huv : u = v
  · subst huv; rfl
  · have hvu : ¬ v = u := fun e => huv e.symm
    have e1 : (u != v) = true := by simpa using huv
    have e2 : (v != u) = true := by simpa using hvu
    by_cases hux : u = x
    · subst hux
      simp [e1, e2, hvu, h u v, h y v]
    · by_cases hvx : v = x
      · subst hvx
        simp [e1, e2, huv, h u v, h u y]
      · simp [e1, e2, hux, hvx, h u v]

theorem delV_V {p : PG} {x v : Nat} : (p.delV x).V v ↔ p.V v ∧ v ≠ x := by
  simp [PG.V, PG.delV]; tauto

theorem delE_V {p : PG} {a b v : Nat} : (p.delE a b).V v ↔ p.V v := Iff.rfl

theorem contract_V {p : PG} {x y v : Nat} : (p.contract x y).V v ↔ p.V v ∧ v ≠ y := by
  simp [PG.V, PG.contract]; tauto

namespace PG.Conn

variable {p : PG} {f : Nat → Nat} {c : Nat}

theorem left {u w : Nat} (h : p.Conn f c u w) : p.V u ∧ f u = c := by
  cases h with
  | refl hv hf => exact ⟨hv, hf⟩
  | step hv hf _ _ => exact ⟨hv, hf⟩

theorem right {u w : Nat} (h : p.Conn f c u w) : p.V w ∧ f w = c := by
  induction h with
  | refl hv hf => exact ⟨hv, hf⟩
  | step _ _ _ _ ih => exact ih

theorem trans {u v w : Nat} (h1 : p.Conn f c u v) (h2 : p.Conn f c v w) : p.Conn f c u w := by
  induction h1 with
  | refl _ _ => exact h2
  | step hv hf ha _ ih => exact .step hv hf ha (ih h2)

theorem single {u v : Nat} (hu : p.V u) (hfu : f u = c) (hv : p.V v) (hfv : f v = c) (ha : p.adj u v = true) :
    p.Conn f c u v := .step hu hfu ha (.refl hv hfv)

theorem symm (hs : p.Sym) {u w : Nat} (h : p.Conn f c u w) : p.Conn f c w u := by
  induction h with
  | refl hv hf => exact .refl hv hf
  | step hv hf ha h' ih =>
    exact ih.trans (single h'.left.1 h'.left.2 hv hf (by rw [hs]; exact ha))

theorem exists_nbr {u w : Nat} (h : p.Conn f c u w) (hne : u ≠ w) :
    ∃ x, p.V x ∧ f x = c ∧ x ≠ u ∧ p.adj u x = true := by
  induction h with
  | refl _ _ => exact absurd rfl hne
  | @step u v w _ _ ha h' ih =>
    by_cases huv : v = u
    · subst huv; exact ih hne
    · exact ⟨v, h'.left.1, h'.left.2, huv, ha⟩

theorem map {p' : PG} {f' : Nat → Nat} {c' : Nat} (r : Nat → Nat)
    (hV : ∀ v, p.V v → f v = c → p'.V (r v) ∧ f' (r v) = c')
    (hadj : ∀ u v, p.V u → p.V v → f u = c → f v = c → p.adj u v = true → r u = r v ∨ p'.adj (r u) (r v) = true)
    {u w : Nat} (h : p.Conn f c u w) : p'.Conn f' c' (r u) (r w) := by
  induction h with
  | refl hv hf => exact .refl (hV _ hv hf).1 (hV _ hv hf).2
  | @step u v w hv hf ha h' ih =>
    rcases hadj u v hv h'.left.1 hf h'.left.2 ha with e | e
    · rw [e]; exact ih
    · exact .step (hV _ hv hf).1 (hV _ hv hf).2 e ih

theorem lift {p' : PG} {f' : Nat → Nat} {c' : Nat}
    (hstep : ∀ u v, p'.V u → p'.V v → f' u = c' → f' v = c' → p'.adj u v = true → p.Conn f c u v)
    (hrefl : ∀ v, p'.V v → f' v = c' → p.V v ∧ f v = c)
    {u w : Nat} (h : p'.Conn f' c' u w) : p.Conn f c u w := by
  induction h with
  | refl hv hf => exact .refl (hrefl _ hv hf).1 (hrefl _ hv hf).2
  | step hv hf ha h' ih => exact (hstep _ _ hv h'.left.1 hf h'.left.2 ha).trans ih

end PG.Conn

theorem IsModel.map {p p' : PG} {H : G} {f f' : Nat → Nat} (hm : IsModel p H f) (r : Nat → Nat)
    (hV : ∀ v, p.V v → f v < H.n → p'.V (r v) ∧ f' (r v) = f v)
    (hadj : ∀ u v, p.V u → p.V v → f u < H.n → f v < H.n → p.adj u v = true →
      r u = r v ∨ p'.adj (r u) (r v) = true)
    (hsurj : ∀ w, p'.V w → f' w < H.n → ∃ v, p.V v ∧ f v = f' w ∧ r v = w) : IsModel p' H f' where
  nonempty := by
    intro h hh
    obtain ⟨v, hv, hfv⟩ := hm.nonempty h hh
    have := hV v hv (hfv ▸ hh)
    exact ⟨r v, this.1, this.2.trans hfv⟩
  conn := by
    intro w w' hw hw' hlt heq
    obtain ⟨v, hv, hfv, rfl⟩ := hsurj w hw hlt
    obtain ⟨v', hv', hfv', rfl⟩ := hsurj w' hw' (heq ▸ hlt)
    have hc := hm.conn v v' hv hv' (hfv ▸ hlt) (by rw [hfv, hfv', heq])
    rw [← hfv]
    refine PG.Conn.map (c := f v) r ?_ ?_ hc
    · intro x hx hfx
      have := hV x hx (by rw [hfx, hfv]; exact hlt)
      exact ⟨this.1, this.2.trans hfx⟩
    · intro a b ha hb hfa hfb hab
      have hl : f v < H.n := hfv ▸ hlt
      exact hadj a b ha hb (hfa ▸ hl) (hfb ▸ hl) hab
  edge := by
    intro h h' hh hh' hne hadjH
    obtain ⟨u, v, hu, hv, hfu, hfv, huv⟩ := hm.edge h h' hh hh' hne hadjH
    have h1 := hV u hu (hfu ▸ hh)
    have h2 := hV v hv (hfv ▸ hh')
    refine ⟨r u, r v, h1.1, h2.1, h1.2.trans hfu, h2.2.trans hfv, ?_⟩
    rcases hadj u v hu hv (hfu ▸ hh) (hfv ▸ hh') huv with e | e
    · exfalso
      apply hne
      rw [← hfu, ← hfv, ← h1.2, ← h2.2, e]
    · exact e

structure PG.Sub (p' p : PG) : Prop where
  V : ∀ v, p'.V v → p.V v
  adj : ∀ u v, p'.V u → p'.V v → u ≠ v → p'.adj u v = true → p.adj u v = true

theorem IsModel.of_sub {p p' : PG} {H : G} {f' : Nat → Nat} (hs : p'.Sub p) (hm : IsModel p' H f') :
    IsModel p H (fun v => if p'.V v then f' v else H.n) where
  nonempty := by
    intro h hh
    obtain ⟨v, hv, hfv⟩ := hm.nonempty h hh
    exact ⟨v, hs.V v hv, by simp [hv, hfv]⟩
  conn := by
    intro u v hu hv hlt heq
    by_cases hu' : p'.V u
    · by_cases hv' : p'.V v
      · simp only [hu', hv', if_true] at hlt heq ⊢
        refine PG.Conn.lift ?_ ?_ (hm.conn u v hu' hv' hlt heq)
        · intro a b ha hb hfa hfb hab
          by_cases hab' : a = b
          · subst hab'; exact .refl (hs.V a ha) (by simp [ha, hfa])
          · exact PG.Conn.single (hs.V a ha) (by simp [ha, hfa]) (hs.V b hb) (by simp [hb, hfb])
              (hs.adj a b ha hb hab' hab)
        · intro a ha hfa
          exact ⟨hs.V a ha, by simp [ha, hfa]⟩
      · simp [hu', hv'] at hlt heq
        omega
    · simp [hu'] at hlt
  edge := by
    intro h h' hh hh' hne hadjH
    obtain ⟨u, v, hu, hv, hfu, hfv, huv⟩ := hm.edge h h' hh hh' hne hadjH
    have huv' : u ≠ v := by
      rintro rfl
      exact hne (hfu.symm.trans hfv)
    exact ⟨u, v, hs.V u hu, hs.V v hv, by simp [hu, hfu], by simp [hv, hfv], hs.adj u v hu hv huv' huv⟩

theorem HasMinorP.of_sub {p p' : PG} {H : G} (hs : p'.Sub p) (h : HasMinorP p' H) : HasMinorP p H := by
  obtain ⟨f, hf⟩ := h
  exact ⟨_, hf.of_sub hs⟩

theorem delV_sub (p : PG) (x : Nat) : (p.delV x).Sub p :=
  ⟨fun _ hv => (delV_V.1 hv).1, fun _ _ _ _ _ h => h⟩

theorem delE_sub (p : PG) (a b : Nat) : (p.delE a b).Sub p :=
  ⟨fun _ hv => hv, fun u v _ _ _ h => by simp only [PG.delE, Bool.and_eq_true] at h; exact h.2⟩

/-- a model in `p / xy` gives a model in `p`: `y` joins the branch set of `x` -/
theorem IsModel.of_contract {p : PG} {H : G} {f' : Nat → Nat} {x y : Nat} (hs : p.Sym)
    (hx : p.V x) (hy : p.V y) (hxy : x ≠ y) (ha : p.adj x y = true) (hm : IsModel (p.contract x y) H f') :
    IsModel p H (fun z => if z = y then f' x else f' z) := by
  set f : Nat → Nat := fun z => if z = y then f' x else f' z with hf
  have hfy : f y = f' x := by simp [hf]
  have hfz : ∀ z, z ≠ y → f z = f' z := by intro z hz; simp [hf, hz]
  have hfx : f x = f' x := hfz x hxy
  have hVx : (p.contract x y).V x := contract_V.2 ⟨hx, hxy⟩
  have hlift : ∀ c u w, (p.contract x y).Conn f' c u w → p.Conn f c u w := by
    intro c u w h
    refine PG.Conn.lift ?_ ?_ h
    · intro a b ha' hb' hfa hfb hab
      have ha2 := contract_V.1 ha'
      have hb2 := contract_V.1 hb'
      have hfa2 : f a = c := (hfz a ha2.2).trans hfa
      have hfb2 : f b = c := (hfz b hb2.2).trans hfb
      simp only [PG.contract, Bool.and_eq_true, bne_iff_ne, ne_eq] at hab
      obtain ⟨hne, hab⟩ := hab
      by_cases hax : a = x
      · subst hax
        simp only [beq_self_eq_true, if_true, Bool.or_eq_true] at hab
        rcases hab with h1 | h1
        · exact PG.Conn.single ha2.1 hfa2 hb2.1 hfb2 h1
        · exact .step ha2.1 hfa2 ha (PG.Conn.single hy (hfy.trans hfa) hb2.1 hfb2 h1)
      · by_cases hbx : b = x
        · subst hbx
          simp only [beq_iff_eq, hax, if_false, beq_self_eq_true, if_true, Bool.or_eq_true] at hab
          rcases hab with h1 | h1
          · exact PG.Conn.single ha2.1 hfa2 hb2.1 hfb2 h1
          · exact .step ha2.1 hfa2 h1 (PG.Conn.single hy (hfy.trans hfb) hb2.1 hfb2 (by rw [hs]; exact ha))
        · simp only [beq_iff_eq, hax, hbx, if_false] at hab
          exact PG.Conn.single ha2.1 hfa2 hb2.1 hfb2 hab
    · intro a ha' hfa
      have ha2 := contract_V.1 ha'
      exact ⟨ha2.1, (hfz a ha2.2).trans hfa⟩
  refine ⟨?_, ?_, ?_⟩
  · intro h hh
    obtain ⟨v, hv, hfv⟩ := hm.nonempty h hh
    have hv2 := contract_V.1 hv
    exact ⟨v, hv2.1, (hfz v hv2.2).trans hfv⟩
  · intro u v hu hv hlt heq
    have key : ∀ u, p.V u → ∃ u', (p.contract x y).V u' ∧ f' u' = f u ∧ p.Conn f (f u) u u' := by
      intro u hu
      by_cases huy : u = y
      · subst huy
        exact ⟨x, hVx, hfy.symm, PG.Conn.single hu rfl hx (hfx.trans hfy.symm) (by rw [hs]; exact ha)⟩
      · exact ⟨u, contract_V.2 ⟨hu, huy⟩, (hfz u huy).symm, .refl hu rfl⟩
    obtain ⟨u', hu', hfu', hcu⟩ := key u hu
    obtain ⟨v', hv', hfv', hcv⟩ := key v hv
    have hc := hm.conn u' v' hu' hv' (hfu' ▸ hlt) (by rw [hfu', hfv', heq])
    have hc2 := hlift _ _ _ hc
    rw [hfu'] at hc2
    rw [← heq] at hcv
    exact hcu.trans (hc2.trans (hcv.symm hs))
  · intro h h' hh hh' hne hadjH
    obtain ⟨u, v, hu, hv, hfu, hfv, huv⟩ := hm.edge h h' hh hh' hne hadjH
    have hu2 := contract_V.1 hu
    have hv2 := contract_V.1 hv
    simp only [PG.contract, Bool.and_eq_true, bne_iff_ne, ne_eq] at huv
    obtain ⟨hne', huv⟩ := huv
    by_cases hux : u = x
    · subst hux
      simp only [beq_self_eq_true, if_true, Bool.or_eq_true] at huv
      rcases huv with h1 | h1
      · exact ⟨u, v, hu2.1, hv2.1, (hfz u hu2.2).trans hfu, (hfz v hv2.2).trans hfv, h1⟩
      · exact ⟨y, v, hy, hv2.1, hfy.trans hfu, (hfz v hv2.2).trans hfv, h1⟩
    · by_cases hvx : v = x
      · subst hvx
        simp only [beq_iff_eq, hux, if_false, beq_self_eq_true, if_true, Bool.or_eq_true] at huv
        rcases huv with h1 | h1
        · exact ⟨u, v, hu2.1, hv2.1, (hfz u hu2.2).trans hfu, (hfz v hv2.2).trans hfv, h1⟩
        · exact ⟨u, y, hu2.1, hy, (hfz u hu2.2).trans hfu, hfy.trans hfv, h1⟩
      · simp only [beq_iff_eq, hux, hvx, if_false] at huv
        exact ⟨u, v, hu2.1, hv2.1, (hfz u hu2.2).trans hfu, (hfz v hv2.2).trans hfv, huv⟩

theorem HasMinorP.of_contract {p : PG} {H : G} {x y : Nat} (hs : p.Sym)
    (hx : p.V x) (hy : p.V y) (hxy : x ≠ y) (ha : p.adj x y = true) (h : HasMinorP (p.contract x y) H) :
    HasMinorP p H := by
  obtain ⟨f, hf⟩ := h
  exact ⟨_, hf.of_contract hs hx hy hxy ha⟩

theorem IsModel.contract {p : PG} {H : G} {f : Nat → Nat} {x y : Nat} (hm : IsModel p H f)
    (hx : p.V x) (hxy : x ≠ y) (hf : f x = f y) : IsModel (p.contract x y) H f := by
  refine hm.map (fun z => if z = y then x else z) ?_ ?_ ?_
  · intro v hv _
    by_cases hvy : v = y
    · subst hvy
      simp only [if_true]
      exact ⟨contract_V.2 ⟨hx, hxy⟩, hf⟩
    · simp only [hvy, if_false]
      exact ⟨contract_V.2 ⟨hv, hvy⟩, trivial⟩
  · intro u v _ _ _ _ huv
    by_cases huy : u = y <;> by_cases hvy : v = y
    · left; simp [huy, hvy]
    · by_cases hvx : v = x
      · left; simp [huy, hvx]
      · right
        subst huy
        have : ¬ x = v := fun e => hvx e.symm
        simp [PG.contract, hvy, this, huv]
    · by_cases hux : u = x
      · left; simp [hvy, hux]
      · right
        subst hvy
        simp [PG.contract, huy, hux, huv]
    · simp only [huy, hvy, if_false]
      by_cases huv' : u = v
      · left; exact huv'
      · right
        simp only [PG.contract, Bool.and_eq_true, bne_iff_ne, ne_eq, huv', not_false_eq_true, true_and]
        by_cases hux : u = x
        · subst hux; simp [huv]
        · by_cases hvx : v = x
          · subst hvx; simp [hux, huv]
          · simp [hux, hvx, huv]
  · intro w hw _
    have hw2 := contract_V.1 hw
    exact ⟨w, hw2.1, rfl, by simp [hw2.2]⟩

theorem IsModel.delV {p : PG} {H : G} {f : Nat → Nat} {x : Nat} (hm : IsModel p H f)
    (hx : H.n ≤ f x) : IsModel (p.delV x) H f := by
  refine hm.map id ?_ ?_ ?_
  · intro v hv hlt
    refine ⟨delV_V.2 ⟨hv, ?_⟩, rfl⟩
    rintro rfl
    exact absurd hlt (Nat.not_lt.2 hx)
  · intro u v _ _ _ _ huv
    right; exact huv
  · intro w hw _
    exact ⟨w, (delV_V.1 hw).1, rfl, rfl⟩

theorem Step.sym {p q : PG} (h : Step p q) (hs : p.Sym) : q.Sym := by
  cases h with
  | delV v _ => exact delV_sym hs v
  | delE u v => exact delE_sym hs u v
  | contract u v _ _ _ _ => exact contract_sym hs u v

theorem Ops.sym {p q : PG} (h : Ops p q) (hs : p.Sym) : q.Sym := by
  induction h with
  | refl => exact hs
  | head st _ ih => exact ih (st.sym hs)

theorem HasMinorP.of_step {p q : PG} {H : G} (st : Step p q) (hs : p.Sym) (h : HasMinorP q H) : HasMinorP p H := by
  cases st with
  | delV v _ => exact h.of_sub (delV_sub p v)
  | delE u v => exact h.of_sub (delE_sub p u v)
  | contract u v hu hv hne hadj => exact h.of_contract hs hu hv hne hadj

theorem HasMinorP.of_ops {p q : PG} {H : G} (ops : Ops p q) (hs : p.Sym) (h : HasMinorP q H) : HasMinorP p H := by
  induction ops with
  | refl => exact h
  | head st _ ih => exact (ih (st.sym hs) h).of_step st hs

end Minor
