import Mamba.Lemmas.DawgRep
/-! Builder invariants for C12: the register (`RegOK`), the unregistered last-word path (`Spine`), ids that are heap
positions (`HeapIds`), frame lemmas. -/
namespace Dawg

/-- 0 for exact word counts, 1 for "incremented by the `commonPrefix` walk of the add in progress" -/
def dlt (k : Nat) : Nat := if k = 0 then 0 else 1

/-- every node's id is its heap position (pointer identity = id identity in the builder) -/
@[reducible] def HeapIds (h : Heap) : Prop := ∀ (i : Nat) (n : Node), h[i]? = some n → n.id = i

/-- the register: every registered node represents a non-empty language, links of registered nodes are registered,
no two registered nodes have the same (final, labels, links), the root (pointer 0) is never registered -/
structure RegOK (h : Heap) (R : List Nat) : Prop where
  rep : ∀ u ∈ R, ∃ L, Rep h u L ∧ L ≠ []
  closed : ∀ u ∈ R, ∀ n, h[u]? = some n → ∀ q ∈ n.links, q ∈ R
  distinct : ∀ u ∈ R, ∀ v ∈ R, ∀ nu nv, h[u]? = some nu → h[v]? = some nv →
    nu.final = nv.final → nu.labels = nv.labels → nu.links = nv.links → u = v
  nz : 0 ∉ R

/-- an unregistered node all of whose children are registered and represent the right sub-languages -/
structure NodeRep (h : Heap) (R : List Nat) (p : Nat) (L : List Word) (δ : Nat) (n : Node) : Prop where
  get : h[p]? = some n
  notReg : p ∉ R
  sorted : L.Pairwise (· < ·)
  fin : n.final = true ↔ [] ∈ L
  num : n.numWords = L.length + δ
  labs : n.labels.Pairwise (· < ·)
  lens : n.labels.length = n.links.length
  mem : ∀ c, c ∈ n.labels ↔ sub L c ≠ []
  kids : ∀ (j c q : Nat), n.labels[j]? = some c → n.links[j]? = some q → q ∈ R ∧ Rep h q (sub L c)

/-- `Spine h R k sp v L Le`: `sp` is a path of unregistered nodes spelling `v`, each following the *last* link of its
predecessor; the head represents `L`, the end node represents `Le` with registered children only; all other children
are registered; the first `k` nodes carry a word count that is one too large. The spine is complete when `Le = [[]]`. -/
inductive Spine (h : Heap) (R : List Nat) : Nat → List Nat → Word → List Word → List Word → Prop where
  | last {k p : Nat} {L : List Word} {n : Node} : NodeRep h R p L (dlt k) n → Spine h R k [p] [] L L
  | node {k p s c : Nat} {sp : List Nat} {v : Word} {L Le : List Word} {n : Node} {ls qs : List Nat} :
      h[p]? = some n → p ∉ R → s ≠ 0 → L.Pairwise (· < ·) → (n.final = true ↔ [] ∈ L) →
      n.numWords = L.length + dlt k → n.labels.Pairwise (· < ·) →
      n.labels = ls ++ [c] → n.links = qs ++ [s] → ls.length = qs.length →
      (∀ c', c' ∈ n.labels ↔ sub L c' ≠ []) →
      (∀ (j c' q : Nat), ls[j]? = some c' → qs[j]? = some q → q ∈ R ∧ Rep h q (sub L c')) →
      Spine h R (k - 1) (s :: sp) v (sub L c) Le →
      Spine h R k (p :: s :: sp) (c :: v) L Le

def AgreeOn (h h' : Heap) (S : List Nat) : Prop := ∀ u ∈ S, h'[u]? = h[u]?

theorem lt_size_of_get {h : Heap} {p : Nat} {n : Node} (hn : h[p]? = some n) : p < h.size :=
  (Array.getElem?_eq_some_iff.1 hn).1

theorem HeapIds.set {h : Heap} (hids : HeapIds h) {p : Nat} {n n' : Node} (hn : h[p]? = some n) (hid : n'.id = n.id) :
    HeapIds (h.setIfInBounds p n') := by
  intro i m hm
  rw [Array.getElem?_setIfInBounds] at hm
  split at hm
  · next e =>
    subst e
    rw [if_pos (lt_size_of_get hn)] at hm
    cases hm
    rw [hid]
    exact hids p n hn
  · exact hids i m hm

theorem HeapIds.push {h : Heap} (hids : HeapIds h) {n : Node} (hid : n.id = h.size) : HeapIds (h.push n) := by
  intro i m hm
  rw [Array.getElem?_push] at hm
  split at hm
  · next e => cases hm; rw [hid, e]
  · exact hids i m hm

theorem AgreeOn.set {h : Heap} {S : List Nat} {p : Nat} (hp : p ∉ S) (n : Node) :
    AgreeOn h (h.setIfInBounds p n) S :=
  fun u hu => Array.getElem?_setIfInBounds_ne (fun (e : p = u) => hp (e ▸ hu))

theorem Rep.frame {h h' : Heap} {R : List Nat} (hclosed : ∀ u ∈ R, ∀ n, h[u]? = some n → ∀ q ∈ n.links, q ∈ R)
    (hag : AgreeOn h h' R) {p : Nat} {L : List Word} (hr : Rep h p L) (hp : p ∈ R) : Rep h' p L := by
  induction hr with
  | @mk p n L hn hs hf hnum hlab hlen hmem hkids ih =>
    refine Rep.mk (by rw [hag p hp]; exact hn) hs hf hnum hlab hlen hmem ?_
    intro j c q hj hq
    exact ih j c q hj hq (hclosed p hp n hn q (List.mem_of_getElem? hq))

theorem RegOK.frame {h h' : Heap} {R : List Nat} (hreg : RegOK h R) (hag : AgreeOn h h' R) : RegOK h' R := by
  refine ⟨?_, ?_, ?_, hreg.nz⟩
  · intro u hu
    obtain ⟨L, hL, hne⟩ := hreg.rep u hu
    exact ⟨L, hL.frame hreg.closed hag hu, hne⟩
  · intro u hu n hn
    rw [hag u hu] at hn
    exact hreg.closed u hu n hn
  · intro u hu v hv nu nv hnu hnv
    rw [hag u hu] at hnu
    rw [hag v hv] at hnv
    exact hreg.distinct u hu v hv nu nv hnu hnv

theorem RegOK.lt_size {h : Heap} {R : List Nat} (hreg : RegOK h R) {u : Nat} (hu : u ∈ R) : u < h.size := by
  obtain ⟨L, hL, _⟩ := hreg.rep u hu
  obtain ⟨n, hn, _⟩ := hL.numWords
  exact lt_size_of_get hn

/-- the children part of `NodeRep` / `Spine.node` survives a heap change outside the register and a larger register -/
theorem kids_frame {h h' : Heap} {R R' : List Nat} (hreg : RegOK h R) (hag : AgreeOn h h' R) (hsub : ∀ u ∈ R, u ∈ R')
    {L : List Word} {ls qs : List Nat}
    (hk : ∀ (j c q : Nat), ls[j]? = some c → qs[j]? = some q → q ∈ R ∧ Rep h q (sub L c))
    (j c q : Nat) (hj : ls[j]? = some c) (hq : qs[j]? = some q) : q ∈ R' ∧ Rep h' q (sub L c) :=
  ⟨hsub q (hk j c q hj hq).1, (hk j c q hj hq).2.frame hreg.closed hag (hk j c q hj hq).1⟩

theorem kids_snoc {h : Heap} {R : List Nat} {L : List Word} {ls qs : List Nat} {c s : Nat} (hlen : ls.length = qs.length)
    (hk : ∀ (j c' q : Nat), ls[j]? = some c' → qs[j]? = some q → q ∈ R ∧ Rep h q (sub L c'))
    (hs : s ∈ R ∧ Rep h s (sub L c)) (j c' q : Nat) (hj : (ls ++ [c])[j]? = some c') (hq : (qs ++ [s])[j]? = some q) :
    q ∈ R ∧ Rep h q (sub L c') := by
  rcases Nat.lt_or_ge j ls.length with hjl | hjl
  · rw [List.getElem?_append_left hjl] at hj
    rw [List.getElem?_append_left (hlen ▸ hjl)] at hq
    exact hk j c' q hj hq
  · rw [List.getElem?_append_right hjl] at hj
    rw [List.getElem?_append_right (hlen ▸ hjl), ← hlen] at hq
    cases hjj : j - ls.length with
    | zero => rw [hjj] at hj hq; cases hj; cases hq; exact hs
    | succ m => rw [hjj] at hj; cases hj

theorem NodeRep.links_mem {h : Heap} {R : List Nat} {p δ : Nat} {L : List Word} {n : Node}
    (hn : NodeRep h R p L δ n) : ∀ q ∈ n.links, q ∈ R := by
  intro q hq
  obtain ⟨j, hj, hjq⟩ := List.getElem_of_mem hq
  have hj' : j < n.labels.length := by rw [hn.lens]; exact hj
  exact (hn.kids j _ q (List.getElem?_eq_getElem hj') (by rw [← hjq]; exact List.getElem?_eq_getElem hj)).1

theorem NodeRep.leaf {h : Heap} {R : List Nat} {p δ : Nat} {L : List Word} {n : Node} (hn : NodeRep h R p L δ n)
    (hL : ∀ c, sub L c = []) : n.labels = [] ∧ n.links = [] := by
  have h1 : n.labels = [] := List.eq_nil_iff_forall_not_mem.2 fun a ha => (hn.mem a).1 ha (hL a)
  exact ⟨h1, List.eq_nil_of_length_eq_zero (by rw [← hn.lens, h1]; rfl)⟩

theorem NodeRep.frame {h h' : Heap} {R : List Nat} {p : Nat} {L : List Word} {δ : Nat} {n : Node}
    (hreg : RegOK h R) (hag : AgreeOn h h' R) (hp : h'[p]? = h[p]?) (hn : NodeRep h R p L δ n) :
    NodeRep h' R p L δ n :=
  ⟨by rw [hp]; exact hn.get, hn.notReg, hn.sorted, hn.fin, hn.num, hn.labs, hn.lens, hn.mem,
    kids_frame hreg hag (fun _ hu => hu) hn.kids⟩

theorem Spine.frame {h h' : Heap} {R : List Nat} (hreg : RegOK h R) (hag : AgreeOn h h' R)
    {k : Nat} {sp : List Nat} {v : Word} {L Le : List Word} (hs : Spine h R k sp v L Le)
    (hsp : AgreeOn h h' sp) : Spine h' R k sp v L Le := by
  induction hs with
  | last hn => exact Spine.last (hn.frame hreg hag (hsp _ List.mem_cons_self))
  | node hn hpR hs0 hsort hf hnum hlab hlabs hlinks hlen hmem hkids _ ih =>
    exact Spine.node (by rw [hsp _ List.mem_cons_self]; exact hn) hpR hs0 hsort hf hnum hlab hlabs hlinks hlen hmem
      (kids_frame hreg hag (fun _ hu => hu) hkids) (ih (fun u hu => hsp u (List.mem_cons_of_mem _ hu)))

theorem Spine.mono {h : Heap} {R R' : List Nat} (hsub : ∀ u ∈ R, u ∈ R')
    {k : Nat} {sp : List Nat} {v : Word} {L Le : List Word} (hs : Spine h R k sp v L Le)
    (hsp : ∀ p ∈ sp, p ∉ R') : Spine h R' k sp v L Le := by
  induction hs with
  | last hn =>
    refine Spine.last ⟨hn.get, hsp _ List.mem_cons_self, hn.sorted, hn.fin, hn.num, hn.labs, hn.lens, hn.mem, ?_⟩
    intro j c q hj hq
    obtain ⟨h1, h2⟩ := hn.kids j c q hj hq
    exact ⟨hsub _ h1, h2⟩
  | node hn hpR hs0 hsort hf hnum hlab hlabs hlinks hlen hmem hkids _ ih =>
    refine Spine.node hn (hsp _ List.mem_cons_self) hs0 hsort hf hnum hlab hlabs hlinks hlen hmem ?_
      (ih (fun u hu => hsp u (List.mem_cons_of_mem _ hu)))
    intro j c' q hj hq
    obtain ⟨h1, h2⟩ := hkids j c' q hj hq
    exact ⟨hsub _ h1, h2⟩

theorem Spine.word_mem {h : Heap} {R : List Nat} {k : Nat} {sp : List Nat} {v : Word} {L : List Word}
    (hs : Spine h R k sp v L [[]]) : v ∈ L := by
  generalize hLe : ([[]] : List Word) = Le at hs
  induction hs with
  | last hn => subst hLe; simp
  | node _ _ _ _ _ _ _ _ _ _ _ _ _ ih => exact mem_sub.1 (ih hLe)

theorem Spine.valid {h : Heap} {R : List Nat} {k : Nat} {sp : List Nat} {v : Word} {L Le : List Word}
    (hs : Spine h R k sp v L Le) : ∀ p ∈ sp, p < h.size ∧ p ∉ R := by
  induction hs with
  | last hn =>
    intro p hp
    simp only [List.mem_singleton] at hp
    subst hp
    exact ⟨lt_size_of_get hn.get, hn.notReg⟩
  | node hn hpR _ _ _ _ _ _ _ _ _ _ _ ih =>
    intro p' hp'
    rw [List.mem_cons] at hp'
    rcases hp' with rfl | hp'
    · exact ⟨lt_size_of_get hn, hpR⟩
    · exact ih p' hp'

theorem Spine.head_mem {h : Heap} {R : List Nat} {k p : Nat} {sp : List Nat} {v : Word} {L Le : List Word} {n : Node}
    (hs : Spine h R k (p :: sp) v L Le) (hn : h[p]? = some n) : ∀ c, c ∈ n.labels ↔ sub L c ≠ [] := by
  cases hs with
  | last hn' => rw [hn'.get] at hn; cases hn; exact hn'.mem
  | node hn' _ _ _ _ _ _ _ _ _ hmem => rw [hn'] at hn; cases hn; exact hmem

theorem Spine.length_eq {h : Heap} {R : List Nat} {k : Nat} {sp : List Nat} {v : Word} {L Le : List Word}
    (hs : Spine h R k sp v L Le) : sp.length = v.length + 1 := by
  induction hs with
  | last _ => rfl
  | node _ _ _ _ _ _ _ _ _ _ _ _ _ ih => simp [ih]

end Dawg
