import Mamba.Model.Footprint
/-! Lemmas for property C19: independent steps commute; a schedule can be permuted. -/
namespace Footprint

section
variable {ι σ ρ : Type} [DecidableEq ι] [Inhabited σ]

theorem view_congr {rs : List ι} {w w' : ι → σ} (h : ∀ i, i ∈ rs → w i = w' i) : view rs w = view rs w' := by
  funext i
  unfold view
  by_cases hi : i ∈ rs
  · simp [hi, h i hi]
  · simp [hi]

theorem view_after_exec (a b : Op ι σ ρ) (h : a.noWriteInto b) (w : ι → σ) :
    view b.reads (a.exec w).2 = view b.reads w := by
  apply view_congr
  intro i hi
  have : i ∉ a.writes := fun hw => (h i hw).1 hi
  simp [Op.exec, this]

theorem exec_comm (a b : Op ι σ ρ) (hab : a.noWriteInto b) (hba : b.noWriteInto a) (w : ι → σ) :
    (b.exec (a.exec w).2).1 = (b.exec w).1 ∧ (a.exec (b.exec w).2).1 = (a.exec w).1 ∧
    (b.exec (a.exec w).2).2 = (a.exec (b.exec w).2).2 := by
  have hb := view_after_exec a b hab w
  have ha := view_after_exec b a hba w
  refine ⟨?_, ?_, ?_⟩
  · show (b.act (view b.reads (a.exec w).2)).1 = (b.act (view b.reads w)).1
    rw [hb]
  · show (a.act (view a.reads (b.exec w).2)).1 = (a.act (view a.reads w)).1
    rw [ha]
  · funext i
    show (if i ∈ b.writes then (b.act (view b.reads (a.exec w).2)).2 i else (a.exec w).2 i) =
         (if i ∈ a.writes then (a.act (view a.reads (b.exec w).2)).2 i else (b.exec w).2 i)
    rw [hb, ha]
    by_cases hib : i ∈ b.writes
    · have hia : i ∉ a.writes := fun h => (hab i h).2 hib
      simp [Op.exec, hib, hia]
    · by_cases hia : i ∈ a.writes
      · simp [Op.exec, hib, hia]
      · simp [Op.exec, hib, hia]

theorem upd_same {α : Type} (f : Nat → α) (t : Nat) (v : α) : upd f t v t = v := by simp [upd]
theorem upd_other {α : Type} (f : Nat → α) {t u : Nat} (v : α) (h : u ≠ t) : upd f t v u = f u := by simp [upd, h]

theorem upd_comm {α : Type} (f : Nat → α) {t u : Nat} (a b : α) (h : t ≠ u) :
    upd (upd f t a) u b = upd (upd f u b) t a := by
  funext x
  unfold upd
  by_cases hx : x = u
  · subst hx
    have : x ≠ t := fun e => h e.symm
    simp [this]
  · simp [hx]

theorem step_nil (c : Cfg ι σ ρ) (t : Nat) (h : c.rest t = []) : step c t = c := by
  unfold step; rw [h]

theorem step_cons (c : Cfg ι σ ρ) (t : Nat) {o : Op ι σ ρ} {os : List (Op ι σ ρ)} (h : c.rest t = o :: os) :
    step c t = { world := (o.exec c.world).2, rest := upd c.rest t os,
                 log := upd c.log t (c.log t ++ [(o.exec c.world).1]) } := by
  unfold step; rw [h]

theorem step_comm (c : Cfg ι σ ρ) {t u : Nat} (htu : t ≠ u)
    (h : ∀ a, a ∈ c.rest t → ∀ b, b ∈ c.rest u → a.noWriteInto b ∧ b.noWriteInto a) :
    step (step c t) u = step (step c u) t := by
  have hut : u ≠ t := fun e => htu e.symm
  cases ht : c.rest t with
  | nil =>
    cases hu : c.rest u with
    | nil => rw [step_nil c t ht, step_nil c u hu, step_nil c t ht]
    | cons b bs =>
      rw [step_nil c t ht]
      have h2 : (step c u).rest t = [] := by rw [step_cons c u hu]; simp [upd_other _ _ htu, ht]
      rw [step_nil _ t h2]
  | cons a as =>
    cases hu : c.rest u with
    | nil =>
      rw [step_nil c u hu]
      have h2 : (step c t).rest u = [] := by rw [step_cons c t ht]; simp [upd_other _ _ hut, hu]
      rw [step_nil _ u h2]
    | cons b bs =>
      have hab := h a (by simp [ht]) b (by simp [hu])
      obtain ⟨e1, e2, e3⟩ := exec_comm a b hab.1 hab.2 c.world
      have r1 : (step c t).rest u = b :: bs := by rw [step_cons c t ht]; simp [upd_other _ _ hut, hu]
      have r2 : (step c u).rest t = a :: as := by rw [step_cons c u hu]; simp [upd_other _ _ htu, ht]
      rw [step_cons _ u r1, step_cons _ t r2, step_cons c t ht, step_cons c u hu]
      simp only [upd_other _ _ hut, upd_other _ _ htu]
      rw [e1, e2, e3, upd_comm c.rest as bs htu, upd_comm c.log _ _ htu]

theorem mem_rest_step (c : Cfg ι σ ρ) (t u : Nat) (a : Op ι σ ρ) (h : a ∈ (step c t).rest u) : a ∈ c.rest u := by
  cases ht : c.rest t with
  | nil => rwa [step_nil c t ht] at h
  | cons o os =>
    rw [step_cons c t ht] at h
    by_cases hu : u = t
    · subst hu
      simp only [upd_same] at h
      rw [ht]; exact List.mem_cons_of_mem _ h
    · simpa [upd_other _ _ hu] using h

theorem independent_step (c : Cfg ι σ ρ) (t : Nat) (h : Independent c.rest) : Independent (step c t).rest := by
  intro x y hxy a ha b hb
  exact h x y hxy a (mem_rest_step c t x a ha) b (mem_rest_step c t y b hb)

@[simp] theorem run_nil (c : Cfg ι σ ρ) : run [] c = c := rfl
@[simp] theorem run_cons (t : Nat) (s : List Nat) (c : Cfg ι σ ρ) : run (t :: s) c = run s (step c t) := rfl
theorem run_append (s₁ s₂ : List Nat) (c : Cfg ι σ ρ) : run (s₁ ++ s₂) c = run s₂ (run s₁ c) := by
  simp [run, List.foldl_append]

theorem independent_run (s : List Nat) : ∀ (c : Cfg ι σ ρ), Independent c.rest → Independent (run s c).rest := by
  induction s with
  | nil => intro c h; exact h
  | cons t s ih => intro c h; exact ih _ (independent_step c t h)

theorem run_perm {s₁ s₂ : List Nat} (p : s₁.Perm s₂) :
    ∀ (c : Cfg ι σ ρ), Independent c.rest → run s₁ c = run s₂ c := by
  induction p with
  | nil => intro c _; rfl
  | cons x _ ih => intro c h; exact ih _ (independent_step c x h)
  | swap x y l =>
    intro c h
    simp only [run_cons]
    by_cases hxy : y = x
    · subst hxy; rfl
    · rw [step_comm c hxy (fun a ha b hb => ⟨h y x hxy a ha b hb, h x y (fun e => hxy e.symm) b hb a ha⟩)]
  | trans _ _ ih₁ ih₂ => intro c h; rw [ih₁ c h, ih₂ c h]

theorem step_other (c : Cfg ι σ ρ) {t u : Nat} (h : t ≠ u) :
    (step c u).log t = c.log t ∧ (step c u).rest t = c.rest t := by
  cases hu : c.rest u with
  | nil => rw [step_nil c u hu]; exact ⟨rfl, rfl⟩
  | cons o os => rw [step_cons c u hu]; simp [upd_other _ _ h]

theorem run_others (s : List Nat) (t : Nat) (hs : ∀ u, u ∈ s → u ≠ t) :
    ∀ (c : Cfg ι σ ρ), (run s c).log t = c.log t ∧ (run s c).rest t = c.rest t := by
  induction s with
  | nil => intro c; exact ⟨rfl, rfl⟩
  | cons u s ih =>
    intro c
    have hu : t ≠ u := fun e => hs u (by simp) e.symm
    have := ih (fun v hv => hs v (List.mem_cons_of_mem _ hv)) (step c u)
    rw [run_cons, this.1, this.2]
    exact step_other c hu

theorem run_replicate (t : Nat) : ∀ (k : Nat) (c : Cfg ι σ ρ),
    (run (List.replicate k t) c).log t = c.log t ++ (runOps ((c.rest t).take k) c.world).1 ∧
    (run (List.replicate k t) c).world = (runOps ((c.rest t).take k) c.world).2 ∧
    (run (List.replicate k t) c).rest t = (c.rest t).drop k ∧
    (∀ u, u ≠ t → (run (List.replicate k t) c).log u = c.log u ∧ (run (List.replicate k t) c).rest u = c.rest u) := by
  intro k
  induction k with
  | zero => intro c; simp [runOps]
  | succ k ih =>
    intro c
    rw [List.replicate_succ, run_cons]
    cases ht : c.rest t with
    | nil =>
      have := ih c
      rw [step_nil c t ht]
      rw [ht] at this
      simpa [runOps] using this
    | cons o os =>
      have := ih (step c t)
      rw [step_cons c t ht] at this ⊢
      simp only [upd_same] at this
      obtain ⟨h1, h2, h3, h4⟩ := this
      refine ⟨?_, ?_, ?_, ?_⟩
      · rw [h1]; simp [runOps, List.append_assoc]
      · rw [h2]; simp [runOps]
      · rw [h3]; simp
      · intro u hu
        have := h4 u hu
        simpa [upd_other _ _ hu] using this

omit [DecidableEq ι] [Inhabited σ] in
theorem count_seqSched (progs : Nat → List (Op ι σ ρ)) (t : Nat) : ∀ n,
    (seqSched n progs).count t = if t < n then (progs t).length else 0 := by
  intro n
  induction n with
  | zero => simp [seqSched]
  | succ n ih =>
    simp only [seqSched, List.count_append, ih, List.count_replicate]
    by_cases h1 : t < n
    · have : ¬ (n = t) := by omega
      have h2 : t < n + 1 := by omega
      simp [h1, h2, this]
    · by_cases h2 : n = t
      · subst h2; simp
      · have : ¬ t < n + 1 := by omega
        simp [h1, h2, this]

theorem sched_split (s : List Nat) (t : Nat) :
    s.Perm (List.replicate (s.count t) t ++ s.filter (fun u => !(u == t))) := by
  have h := List.filter_append_perm (fun u => u == t) s
  rw [List.filter_beq] at h
  exact h.symm

theorem runOps_append (xs ys : List (Op ι σ ρ)) (w : ι → σ) :
    runOps (xs ++ ys) w = ((runOps xs w).1 ++ (runOps ys (runOps xs w).2).1, (runOps ys (runOps xs w).2).2) := by
  induction xs generalizing w with
  | nil => simp [runOps]
  | cons x xs ih => simp [runOps, ih]

theorem log_rest_alone (progs : Nat → List (Op ι σ ρ)) (w : ι → σ) (h : Independent progs) (s : List Nat) (t : Nat) :
    (run s (Cfg.init progs w)).log t = (runOps ((progs t).take (s.count t)) w).1 ∧
    (run s (Cfg.init progs w)).rest t = (progs t).drop (s.count t) := by
  rw [run_perm (sched_split s t) _ h, run_append]
  have h1 := run_replicate (ι := ι) (σ := σ) (ρ := ρ) t (s.count t) (Cfg.init progs w)
  have h2 := run_others (s.filter (fun u => !(u == t))) t (by intro u hu; simpa using (List.mem_filter.mp hu).2)
    (run (List.replicate (s.count t) t) (Cfg.init progs w))
  rw [h2.1, h2.2, h1.1, h1.2.2.1]
  simp [Cfg.init]

theorem run_seqSched (progs : Nat → List (Op ι σ ρ)) (w : ι → σ) : ∀ n,
    (run (seqSched n progs) (Cfg.init progs w)).world = (runOps (seqOps n progs) w).2 ∧
    ∀ u, n ≤ u → (run (seqSched n progs) (Cfg.init progs w)).rest u = progs u := by
  intro n
  induction n with
  | zero => simp [seqSched, seqOps, runOps, Cfg.init]
  | succ n ih =>
    obtain ⟨hw, hr⟩ := ih
    simp only [seqSched, seqOps, run_append]
    have h1 := run_replicate (ι := ι) (σ := σ) (ρ := ρ) n (progs n).length (run (seqSched n progs) (Cfg.init progs w))
    rw [hr n (Nat.le_refl _)] at h1
    refine ⟨?_, ?_⟩
    · rw [h1.2.1, hw, runOps_append]; simp
    · intro u hu
      have hne : u ≠ n := by omega
      rw [(h1.2.2.2 u hne).2]
      exact hr u (by omega)

end

def Loc.notOwnedByOther (u : Nat) : Loc → Prop
  | .own t _ => t = u
  | _ => True

theorem bind_loc_notOther (u : Nat) (b : Bind) (l : Loc) (h : b.loc u = some l) : l.notOwnedByOther u := by
  cases b <;> simp [Bind.loc] at h <;> subst h <;> simp [Loc.notOwnedByOther]

theorem reads_notOther (c : Call) (u : Nat) (l : Loc) (h : l ∈ c.reads u) : l.notOwnedByOther u := by
  simp only [Call.reads, List.mem_append, List.mem_filterMap, List.mem_map] at h
  rcases h with ⟨b, _, hb⟩ | ⟨g, _, hg⟩
  · exact bind_loc_notOther u b l hb
  · subst hg; simp [Loc.notOwnedByOther]

theorem writes_notOther (c : Call) (u : Nat) (l : Loc) (h : l ∈ c.writes u) : l.notOwnedByOther u := by
  simp only [Call.writes, List.mem_append, List.mem_filterMap, List.mem_map] at h
  rcases h with ⟨i, _, hb⟩ | ⟨g, _, hg⟩
  · cases hi : c.binds[i]? with
    | none => simp [hi] at hb
    | some b => simp [hi] at hb; exact bind_loc_notOther u b l hb
  · subst hg; simp [Loc.notOwnedByOther]

theorem admissible_writes_own (c : Call) (hc : c.admissible = true) (t : Nat) (l : Loc) (h : l ∈ c.writes t) :
    ∃ k, l = .own t k := by
  simp only [Call.admissible, Bool.and_eq_true, List.all_eq_true, List.isEmpty_iff] at hc
  obtain ⟨⟨⟨⟨⟨⟨hg, _⟩, _⟩, _⟩, _⟩, hp⟩, _⟩ := hc
  simp only [Call.writes, hg, List.map_nil, List.append_nil, List.mem_filterMap] at h
  obtain ⟨i, hi, hb⟩ := h
  have := hp i hi
  cases hbi : c.binds[i]? with
  | none => simp [hbi] at this
  | some b =>
    cases b with
    | own k => simp [hbi, Bind.loc] at hb; exact ⟨k, hb.symm⟩
    | shared k => simp [hbi] at this
    | scalar => simp [hbi] at this

theorem admissible_independent {σ ρ : Type} (calls : Nat → List (Call × ((Loc → σ) → ρ × (Loc → σ))))
    (h : ∀ t p, p ∈ calls t → p.1.admissible = true) :
    Independent (fun t => (calls t).map (fun p => p.1.toOp t p.2)) := by
  intro t u htu a ha b hb l hl
  simp only [List.mem_map] at ha hb
  obtain ⟨p, hp, rfl⟩ := ha
  obtain ⟨q, hq, rfl⟩ := hb
  obtain ⟨k, rfl⟩ := admissible_writes_own p.1 (h t p hp) t l hl
  constructor
  · intro hr
    have := reads_notOther q.1 u _ hr
    exact htu this
  · intro hw
    have := writes_notOther q.1 u _ hw
    exact htu this

/-! ## A concrete independent program (used for the non-vacuity examples of `Props/C19.lean`) -/

/-- goroutine `t` adds the shared constant (identity 0) to its own counter (identity `t+1`) and reports it -/
def exAdd (t : Nat) : Op Nat Nat Nat :=
  { reads := [0, t + 1], writes := [t + 1],
    act := fun v => (v (t + 1) + v 0, fun i => if i = t + 1 then v (t + 1) + v 0 else v i) }

def exProgs : Nat → List (Op Nat Nat Nat)
  | 0 => [exAdd 0, exAdd 0]
  | 1 => [exAdd 1]
  | _ => []

theorem exProgs_independent : Independent exProgs := by
  intro t u htu a ha b hb i hi
  match t, u with
  | 0, 0 => exact absurd rfl htu
  | 1, 1 => exact absurd rfl htu
  | 0, 1 =>
    simp only [exProgs, List.mem_cons, List.not_mem_nil, or_false, or_self] at ha hb
    subst ha hb
    simp only [exAdd, List.mem_cons, List.not_mem_nil, or_false] at hi ⊢
    omega
  | 1, 0 =>
    simp only [exProgs, List.mem_cons, List.not_mem_nil, or_false, or_self] at ha hb
    subst ha hb
    simp only [exAdd, List.mem_cons, List.not_mem_nil, or_false] at hi ⊢
    omega
  | _ + 2, _ => simp [exProgs] at ha
  | 0, _ + 2 => simp [exProgs] at hb
  | 1, _ + 2 => simp [exProgs] at hb

end Footprint
