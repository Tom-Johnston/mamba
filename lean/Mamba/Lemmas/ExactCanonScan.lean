import Mamba.Lemmas.ExactAug
/-! The key `(Σ deg, Σ deg²)` of a vertex as `isCanonical` computes it (`sumSq`, `sumSqNbrs`, `sumScan`), and the first best
vertex in the order of the canonical labelling. `ExactCanonScan`, `ExactCanonAccept`, `ExactCanonSpecs` are about
`isCanonical` of the search (search_all.go); the modules `CanonF*` are about canonical.go and have nothing in common with
them, nor has `GSearch.Complete` with `CanonF.Complete`. -/
namespace Search
open Disjoint GSearch GraphSpec

theorem Built.edges01 {g : DG} (h : Built g) : ∀ j, j < g.edges.size → g.edges[j]? = some 0 ∨ g.edges[j]? = some 1 := by
  induction h with
  | one => intro j hj; simp [K1, DG.single, DG.empty] at hj
  | @add P g2 l hb hnd hl ha ih =>
    intro j hj
    obtain ⟨e, d, rfl, hes, -, -, hold, hnew, -, -⟩ := addVertex_spec hb.sized hnd ha
    have hj : j < tri P.nv + P.nv := hes ▸ hj
    show e[j]? = some 0 ∨ e[j]? = some 1
    by_cases hjo : j < tri P.nv
    · rw [hold j hjo]; exact ih j (hb.sized.edges ▸ hjo)
    · have hnew := hnew (j - tri P.nv) (by omega)
      rw [show tri P.nv + (j - tri P.nv) = j by omega] at hnew
      rw [hnew]
      by_cases hm : j - tri P.nv ∈ l
      · rw [if_pos hm]; exact .inr rfl
      · rw [if_neg hm]; exact .inl rfl

theorem edgeAt_adj {g : DG} (hb : Built g) {lo hi : Nat} (hlt : lo < hi) (hhi : hi < g.nv) :
    ∃ b, g.edgeAt lo hi = some b ∧ (b = 1 ↔ g.toG.adj lo hi = true) := by
  have hidx : tri hi + lo < g.edges.size := by rw [hb.sized.edges]; exact tri_add_lt hlt hhi
  have h01 := hb.edges01 _ hidx
  have hlo : lo < g.nv := Nat.lt_trans hlt hhi
  have hne : (lo != hi) = true := by simp [Nat.ne_of_lt hlt]
  unfold DG.edgeAt
  rcases h01 with h0 | h1
  · refine ⟨0, h0, ?_⟩
    simp [DG.toG, hne, hlt, hlo, hhi, Array.getD_eq_getD_getElem?, h0]
  · refine ⟨1, h1, ?_⟩
    simp [DG.toG, hne, hlt, hlo, hhi, Array.getD_eq_getD_getElem?, h1]

def wsum (g : DG) (l : List Nat) : Int × Int :=
  ((l.map fun j => ((g.toG.deg j : Nat) : Int)).sum, (l.map fun j => ((g.toG.deg j : Nat) : Int) * ((g.toG.deg j : Nat) : Int)).sum)

theorem sumSq_spec {g : DG} (hb : Built g) :
    ∀ (l : List Nat) (acc : Int × Int), (∀ v ∈ l, v < g.nv) →
      sumSq g.degs l acc = .ok (acc.1 + (wsum g l).1, acc.2 + (wsum g l).2)
  | [], acc, _ => by simp [sumSq, wsum]
  | v :: vs, (s, q), hl => by
    have hv := hl v List.mem_cons_self
    simp only [sumSq, hb.degOK v hv]
    rw [sumSq_spec hb vs _ (fun w hw => hl w (List.mem_cons_of_mem _ hw))]
    simp only [wsum, List.map_cons, List.sum_cons]
    congr 2 <;> omega

theorem wsum_cons (g : DG) (j : Nat) (l : List Nat) :
    wsum g (j :: l) = (((g.toG.deg j : Nat) : Int) + (wsum g l).1,
      ((g.toG.deg j : Nat) : Int) * ((g.toG.deg j : Nat) : Int) + (wsum g l).2) := by
  simp [wsum]

theorem sumSqNbrs_spec {g : DG} (hb : Built g) {v : Nat} (hv : v < g.nv) :
    ∀ (l : List Nat) (acc : Int × Int), (∀ j ∈ l, j < g.nv) →
      sumSqNbrs g v l acc =
        .ok (acc.1 + (wsum g (l.filter fun j => g.toG.adj v j)).1, acc.2 + (wsum g (l.filter fun j => g.toG.adj v j)).2)
  | [], acc, _ => by simp [sumSqNbrs, wsum]
  | j :: js, (s, q), hl => by
    have hj := hl j List.mem_cons_self
    have ih := fun acc => sumSqNbrs_spec hb hv js acc (fun w hw => hl w (List.mem_cons_of_mem _ hw))
    have hdj := hb.degOK j hj
    simp only [sumSqNbrs, List.filter_cons]
    rcases Nat.lt_trichotomy v j with hlt | heq | hgt
    · have h1 : ¬ v > j := by omega
      obtain ⟨b, hb1, hb2⟩ := edgeAt_adj hb hlt hj
      simp only [h1, if_false, hlt, if_true, hb1, hdj]
      by_cases hadj : g.toG.adj v j = true
      · have : b = 1 := hb2.2 hadj
        simp only [this, if_true, ih, hadj, wsum_cons]
        congr 2 <;> omega
      · have : ¬ b = 1 := fun h => hadj (hb2.1 h)
        have hadj' : g.toG.adj v j = false := by simpa using hadj
        simp only [this, if_false, ih, hadj', Bool.false_eq_true]
    · subst heq
      have h1 : ¬ v > v := by omega
      have hadj : g.toG.adj v v = false := (toG_wf g).irrefl v
      simp only [h1, if_false, ih, hadj, Bool.false_eq_true]
    · obtain ⟨b, hb1, hb2⟩ := edgeAt_adj hb hgt hv
      rw [(toG_wf g).symm j v] at hb2
      simp only [hgt, if_true, hb1, hdj]
      by_cases hadj : g.toG.adj v j = true
      · have : b = 1 := hb2.2 hadj
        simp only [this, if_true, ih, hadj, wsum_cons]
        congr 2 <;> omega
      · have : ¬ b = 1 := fun h => hadj (hb2.1 h)
        have hadj' : g.toG.adj v j = false := by simpa using hadj
        simp only [this, if_false, ih, hadj', Bool.false_eq_true]

def nkey (g : DG) (v : Nat) : Int × Int := wsum g (g.toG.nbrs v)

theorem sumSqNbrs_range {g : DG} (hb : Built g) {v : Nat} (hv : v < g.nv) :
    sumSqNbrs g v (List.range g.nv) (0, 0) = .ok (nkey g v) := by
  rw [sumSqNbrs_spec hb hv _ _ (fun j hj => List.mem_range.1 hj)]
  simp [nkey, G.nbrs, DG.toG]

def keyGt (k : Int × Int) (s q : Int) : Prop := k.1 > s ∨ (k.1 = s ∧ k.2 > q)

instance (k : Int × Int) (s q : Int) : Decidable (keyGt k s q) := by unfold keyGt; infer_instance

/-- second loop of `isCanonical` -/
theorem sumScan_spec {g : DG} (hb : Built g) (sum square : Int) :
    ∀ (l : List Nat) (vb : Nat) (r : Option Nat), l.Nodup → (∀ v ∈ l, v < g.nv ∧ vb.testBit v = true) →
      sumScan g sum square l vb = .ok r →
      (r = none → ∃ v ∈ l, keyGt (nkey g v) sum square) ∧
      (∀ vb', r = some vb' → (∀ v ∈ l, ¬ keyGt (nkey g v) sum square) ∧
        ∀ u, vb'.testBit u = (vb.testBit u && !decide (u ∈ l ∧ nkey g u ≠ (sum, square))))
  | [], vb, r, _, _, h => by
    simp only [sumScan, Outcome.ok.injEq] at h
    subst h
    simp
  | v :: vs, vb, r, hnd, hl, h => by
    have hnd' := List.nodup_cons.1 hnd
    have hv := hl v List.mem_cons_self
    simp only [sumScan, sumSqNbrs_range hb hv.1] at h
    have hrest : ∀ vb2 : Nat, (∀ u, u ≠ v → vb2.testBit u = vb.testBit u) → ∀ w ∈ vs, w < g.nv ∧ vb2.testBit w = true := by
      intro vb2 h2 w hw
      have hwv : w ≠ v := fun e => hnd'.1 (e ▸ hw)
      exact ⟨(hl w (List.mem_cons_of_mem _ hw)).1, by rw [h2 w hwv]; exact (hl w (List.mem_cons_of_mem _ hw)).2⟩
    -- `v` is not larger: the scan goes on, with the bit of `v` cleared unless its key is equal
    have cont : ∀ vb2 : Nat,
        (∀ u, vb2.testBit u = (vb.testBit u && !decide (u = v ∧ nkey g v ≠ (sum, square)))) →
        ¬ keyGt (nkey g v) sum square → sumScan g sum square vs vb2 = .ok r →
        (r = none → ∃ w ∈ v :: vs, keyGt (nkey g w) sum square) ∧
        (∀ vb', r = some vb' → (∀ w ∈ v :: vs, ¬ keyGt (nkey g w) sum square) ∧
          ∀ u, vb'.testBit u = (vb.testBit u && !decide (u ∈ v :: vs ∧ nkey g u ≠ (sum, square)))) := by
      intro vb2 hvb2 hng h
      obtain ⟨a1, a2⟩ := sumScan_spec hb sum square vs vb2 r hnd'.2
        (hrest vb2 fun u hu => by rw [hvb2 u]; simp [hu]) h
      refine ⟨fun hr => ?_, fun vb' hr => ?_⟩
      · obtain ⟨w, hw, hg⟩ := a1 hr
        exact ⟨w, List.mem_cons_of_mem _ hw, hg⟩
      · obtain ⟨b1, b2⟩ := a2 vb' hr
        refine ⟨fun w hw => ?_, fun u => ?_⟩
        · rcases List.mem_cons.1 hw with rfl | hw
          · exact hng
          · exact b1 w hw
        · rw [b2 u, hvb2 u]
          by_cases huv : u = v
          · subst huv; simp [hnd'.1]
          · simp [huv]
    have hclear : nkey g v ≠ (sum, square) →
        ∀ u, (vb ^^^ (1 <<< v)).testBit u = (vb.testBit u && !decide (u = v ∧ nkey g v ≠ (sum, square))) := by
      intro hne u
      rw [testBit_xor_shift]
      by_cases huv : u = v
      · subst huv; simp [hv.2, hne]
      · simp [huv]
    by_cases h1 : (nkey g v).1 > sum
    · simp only [h1, if_true, Outcome.ok.injEq] at h
      subst h
      exact ⟨fun _ => ⟨v, List.mem_cons_self, Or.inl h1⟩, fun vb' h => by cases h⟩
    simp only [h1, if_false] at h
    by_cases h2 : (nkey g v).1 < sum
    · simp only [h2, if_true] at h
      exact cont _ (hclear fun e => by rw [e] at h2; exact Int.lt_irrefl _ h2)
        (by rintro (hg | ⟨hg, -⟩) <;> omega) h
    simp only [h2, if_false] at h
    have heq : (nkey g v).1 = sum := by omega
    by_cases h3 : (nkey g v).2 > square
    · simp only [h3, if_true, Outcome.ok.injEq] at h
      subst h
      exact ⟨fun _ => ⟨v, List.mem_cons_self, Or.inr ⟨heq, h3⟩⟩, fun vb' h => by cases h⟩
    simp only [h3, if_false] at h
    by_cases h4 : (nkey g v).2 < square
    · simp only [h4, if_true] at h
      exact cont _ (hclear fun e => by rw [e] at h4; exact Int.lt_irrefl _ h4)
        (by rintro (hg | ⟨-, hg⟩) <;> omega) h
    simp only [h4, if_false] at h
    have he : nkey g v = (sum, square) := Prod.ext heq (by omega)
    exact cont vb (fun u => by simp [he]) (by rintro (hg | ⟨-, hg⟩) <;> omega) h

theorem sumScan_total {g : DG} (hb : Built g) (sum square : Int) :
    ∀ (l : List Nat) (vb : Nat), (∀ v ∈ l, v < g.nv) → ∃ r, sumScan g sum square l vb = .ok r
  | [], vb, _ => ⟨some vb, rfl⟩
  | v :: vs, vb, h => by
    have hv := h v List.mem_cons_self
    have ih := fun vb' => sumScan_total hb sum square vs vb' (fun w hw => h w (List.mem_cons_of_mem _ hw))
    simp only [sumScan, sumSqNbrs_range hb hv]
    by_cases h1 : (nkey g v).1 > sum
    · rw [if_pos h1]; exact ⟨none, rfl⟩
    rw [if_neg h1]
    by_cases h2 : (nkey g v).1 < sum
    · rw [if_pos h2]; exact ih _
    rw [if_neg h2]
    by_cases h3 : (nkey g v).2 > square
    · rw [if_pos h3]; exact ⟨none, rfl⟩
    rw [if_neg h3]
    by_cases h4 : (nkey g v).2 < square
    · rw [if_pos h4]; exact ih _
    · rw [if_neg h4]; exact ih _

def dgi (g : DG) (v : Nat) : Int := ((g.toG.deg v : Nat) : Int)

/-- `v` is a candidate for the canonical deletion: minimum degree and, among the vertices of minimum degree,
lexicographically largest (Σ deg, Σ deg²) of the neighbours -/
def Best (g : DG) (v : Nat) : Prop :=
  v < g.nv ∧ ∀ u, u < g.nv → dgi g v ≤ dgi g u ∧ (dgi g u = dgi g v → ¬ keyGt (nkey g u) (nkey g v).1 (nkey g v).2)

instance (g : DG) (v : Nat) : Decidable (Best g v) := by
  unfold Best
  exact instDecidableAnd (dq := Nat.decidableBallLT _ _)

theorem keyGt_irrefl (k : Int × Int) : ¬ keyGt k k.1 k.2 := by
  rintro (h | ⟨-, h⟩) <;> omega

theorem keyGt_trichotomy (k k' : Int × Int) : keyGt k k'.1 k'.2 ∨ k = k' ∨ keyGt k' k.1 k.2 := by
  unfold keyGt
  rcases Int.lt_trichotomy k.1 k'.1 with h | h | h
  · right; right; left; exact h
  · rcases Int.lt_trichotomy k.2 k'.2 with h2 | h2 | h2
    · right; right; right; exact ⟨h.symm, h2⟩
    · right; left; exact Prod.ext h h2
    · left; right; exact ⟨h, h2⟩
  · left; left; exact h

theorem best_iff {g : DG} {L : Nat} (hL : Best g L) {u : Nat} (hu : u < g.nv) :
    Best g u ↔ dgi g u = dgi g L ∧ nkey g u = nkey g L := by
  constructor
  · intro hbu
    have h1 := (hL.2 u hu).1
    have h2 := (hbu.2 L hL.1).1
    have hd : dgi g u = dgi g L := by omega
    refine ⟨hd, ?_⟩
    have n1 := (hL.2 u hu).2 hd
    have n2 := (hbu.2 L hL.1).2 hd.symm
    rcases keyGt_trichotomy (nkey g u) (nkey g L) with h | h | h
    · exact absurd h n1
    · exact h
    · exact absurd h n2
  · rintro ⟨hd, hk⟩
    refine ⟨hu, fun w hw => ?_⟩
    rw [hd, hk]
    exact hL.2 w hw

def firstBest (g : DG) (l : List Nat) : Option Nat := l.find? fun u => decide (Best g u)

theorem firstHit_eq_firstBest {g : DG} {vb : Nat} (hL : Best g (g.nv - 1))
    (hvb : ∀ u, vb.testBit u = true ↔ (u < g.nv - 1 ∧ Best g u)) {l : List Nat} (hl : ∀ u ∈ l, u < g.nv) :
    firstHit g.nv vb l = firstBest g l := by
  unfold firstHit firstBest
  have key : ∀ u, u < g.nv → (u == g.nv - 1 || vb.testBit u) = decide (Best g u) := by
    intro u hu'
    by_cases h1 : u = g.nv - 1
    · subst h1; simp [hL]
    · have hne : (u == g.nv - 1) = false := by simpa using h1
      rw [hne, Bool.false_or]
      by_cases hbu : Best g u
      · have : vb.testBit u = true := (hvb u).2 ⟨by omega, hbu⟩
        simp [this, hbu]
      · have : vb.testBit u = false := by
          cases hc : vb.testBit u
          · rfl
          · exact absurd ((hvb u).1 hc).2 hbu
        simp [this, hbu]
  induction l with
  | nil => rfl
  | cons x xs ih =>
    simp only [List.find?_cons, key x (hl x List.mem_cons_self)]
    rw [ih (fun u hu => hl u (List.mem_cons_of_mem _ hu))]

end Search
