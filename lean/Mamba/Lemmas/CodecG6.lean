import Mamba.Lemmas.CodecG6Enc
import Mamba.Lemmas.CodecCount
import Mamba.Lemmas.CodecDense
/-! `Graph6Decode` of the model: the edge bytes it reads are the bit stream `unR` behind the size header; the part after the
optional header (`g6DecodeCore`) ends in one of three ways (`g6DecodeCore_cases`), from which follow the round trip through
the encoder, totality, and that every accepted string is read as the format says; the format's string determines the graph.
`g6DecodeCore` is the text of the model function behind the header test, written out once more (the model has no name for
it; `g6Decode_eq_core` is `rfl`), so that the cases are proved once for both branches of the test. -/
namespace Codec
open Formats GraphSpec

/-- the value `g6Bit` computes when its index is in range -/
def g6BitVal (s : Bytes) (i j : Nat) : Nat :=
  (bsub (s.getD (i + j / 6) 0) 63 &&& (1 <<< (5 - j % 6))) >>> (5 - j % 6)

theorem g6Bit_ok (s : Bytes) (i j : Nat) (h : i + j / 6 < s.size) : g6Bit s i j = .ok (g6BitVal s i j) := by
  unfold g6Bit g6BitVal
  rw [Array.getElem?_eq_getElem h]
  simp [Array.getD, h]

theorem g6BitVal_le_one (s : Bytes) (i j : Nat) : g6BitVal s i j = 0 ∨ g6BitVal s i j = 1 := by
  unfold g6BitVal
  rw [and_shiftLeft_shiftRight]
  exact Nat.mod_two_eq_zero_or_one _

theorem g6BitVal_unR (s : Bytes) (hr : inRange s = true) (i j : Nat) (h : i + j / 6 < s.size) :
    g6BitVal s i j = if (unR (s.toList.drop i))[j]? = some true then 1 else 0 := by
  have hc := (inRange_iff s).1 hr s[i + j / 6] (by simp)
  have hget : s.getD (i + j / 6) 0 = s[i + j / 6] := by simp [Array.getD, h]
  rw [unR_getElem?, List.getElem?_drop, Array.getElem?_toList, Array.getElem?_eq_getElem h, Option.map_some]
  unfold g6BitVal
  rw [hget, bsub_of_le hc.1 (by omega), and_shiftLeft_shiftRight]
  rcases Nat.mod_two_eq_zero_or_one ((s[i + j / 6] - 63) / 2 ^ (5 - j % 6)) with e | e <;> rw [e] <;> rfl

theorem outcome_match_ok {α β : Type} (x : Outcome α) (a : α) (h : x = .ok a) (f : α → Outcome β) :
    (match x with | .ok a => f a | .panic => .panic | .outOfFuel => .outOfFuel) = f a := by
  subst h; rfl

theorem g6Spec_not_magic (g : G) : hasPrefix (g6Spec g).toArray g6Magic = false := by
  obtain ⟨c, t, hNn, hc⟩ := Nn_head g.n
  unfold g6Spec; rw [hNn]
  exact hasPrefix_false_of_head c _ 62 _ (by omega)

theorem g6_edges_of_spec (g : G) (hn : g.n ≤ 68719476735) :
    (List.range (tri g.n)).mapM (g6Bit (g6Spec g).toArray (Nn g.n).length) = .ok (upperBits g) := by
  have hbl := g6Bits_length g
  have hR := R_length (g6Bits g)
  have hr : inRange (g6Spec g).toArray = true := (inRange_iff _).2 (g6Spec_range g hn)
  have hsz : ∀ j, j < tri g.n → (Nn g.n).length + j / 6 < (g6Spec g).toArray.size := by
    intro j hj
    simp only [g6Spec, List.size_toArray, List.length_append, hR, hbl]
    omega
  rw [Outcome.mapM_ok _ (g6BitVal (g6Spec g).toArray (Nn g.n).length) _
    fun j hj => g6Bit_ok _ _ _ (hsz j (List.mem_range.1 hj))]
  congr 1
  rw [← g6Bits_upperBits]
  apply List.ext_getElem
  · simp [hbl]
  · intro j h1 h2
    have hj : j < (g6Bits g).length := by simpa using h2
    have hd : (g6Spec g).toArray.toList.drop (Nn g.n).length = R (g6Bits g) := List.drop_left
    rw [List.getElem_map, List.getElem_map, List.getElem_range, g6BitVal_unR _ hr _ _ (hsz j (hbl ▸ hj)), hd, unR_R,
      List.getElem?_append_left hj, List.getElem?_eq_getElem hj]
    cases (g6Bits g)[j] <;> rfl

theorem g6Decode_spec_string (g : G) (hn : g.n ≤ 4294967296) :
    g6Decode (g6Spec g).toArray =
      match newDense g.n (upperBits g).toArray with
      | .ok d => .ok (some d)
      | .panic => .panic
      | .outOfFuel => .outOfFuel := by
  have hn' : g.n ≤ 68719476735 := by omega
  obtain ⟨c, t, hNn, hc⟩ := Nn_head g.n
  have hbl := g6Bits_length g
  have hR := R_length (g6Bits g)
  have hrange : inRange (g6Spec g).toArray = true := (inRange_iff _).2 (g6Spec_range g hn')
  have hsize : (g6Spec g).toArray.size = (Nn g.n).length + (tri g.n + 5) / 6 := by
    simp [g6Spec, hR, hbl]
  have hpos : 0 < (g6Spec g).toArray.size := by
    rw [hsize, hNn]; exact Nat.lt_add_right _ (Nat.succ_pos _)
  have hpre := g6Spec_not_magic g
  have hdec : decHeader (g6Spec g).toArray = .ok (some (g.n, (Nn g.n).length)) := by
    rcases decHeader_spec _ hpos hrange with ⟨_, h2⟩ | ⟨n', i, h1, h2, h3, _⟩
    · simp [g6Spec, readN_Nn g.n hn'] at h2
    · simp only [g6Spec, readN_Nn g.n hn', Option.some.injEq, Prod.mk.injEq] at h2
      obtain ⟨rfl, h2⟩ := h2
      have hl := congrArg List.length h2
      simp only [List.length_drop, List.length_append] at hl
      have : i = (Nn g.n).length := by
        rw [hsize] at h3; rw [hR, hbl] at hl; omega
      rw [h1, this]
  have hlen8 : ((Nn g.n).length = 8 && decide (g.n > 4294967296)) = false := by
    rw [decide_eq_false (Nat.not_lt.2 hn), Bool.and_false]
  unfold g6Decode
  simp only [hpre, if_false, Bool.false_eq_true, hrange, Bool.not_true, hdec, hlen8]
  rw [if_neg (by omega)]
  rw [if_neg (by rw [hsize]; show ¬ (Nn g.n).length + (tri g.n + 5) / 6 > _; omega)]
  have hed := g6_edges_of_spec g hn'
  show (match (List.range (tri g.n)).mapM (g6Bit (g6Spec g).toArray (Nn g.n).length) with
    | .ok edges => _ | .panic => _ | .outOfFuel => _) = _
  rw [hed]
  rfl

theorem n_le_of_tri {n : Nat} (h : n * (n - 1) / 2 < 2 ^ 63) : n ≤ 4294967296 := by
  by_contra hc
  have h1 : tri 4294967297 ≤ tri n := tri_mono (by omega)
  have h2 : tri 4294967297 = 9223372039002259456 := by decide
  have : tri n = n * (n - 1) / 2 := rfl
  omega

/-- the part of `Graph6Decode` after the optional header has been stripped -/
def g6DecodeCore (s : Bytes) : Outcome (Option Dense) :=
  if !inRange s then .ok none
  else if s.size = 0 then .ok (some (newDenseNil 0))
  else
    match decHeader s with
    | .ok none => .ok none
    | .ok (some (n, i)) =>
      if i = 8 && n > 4294967296 then .ok none
      else if i + (n * (n - 1) / 2 + 5) / 6 > s.size then .ok none
      else
        match (List.range (n * (n - 1) / 2)).mapM (g6Bit s i) with
        | .ok edges =>
          match newDense n edges.toArray with
          | .ok d => .ok (some d)
          | .panic => .panic
          | .outOfFuel => .outOfFuel
        | .panic => .panic
        | .outOfFuel => .outOfFuel
    | .panic => .panic
    | .outOfFuel => .outOfFuel

theorem g6Decode_eq_core (s0 : Bytes) :
    g6Decode s0 = g6DecodeCore (if hasPrefix s0 g6Magic then dropBytes s0 10 else s0) := rfl

theorem g6DecodeCore_cases (s : Bytes) :
    g6DecodeCore s = .ok none ∨ (s.size = 0 ∧ g6DecodeCore s = .ok (some (newDenseNil 0))) ∨
    ∃ n i d, inRange s = true ∧ readN s.toList = some (n, s.toList.drop i) ∧ n ≤ 4294967296 ∧
      i + (tri n + 5) / 6 ≤ s.size ∧ g6DecodeCore s = .ok (some d) ∧ d.WF ∧ d.n = n ∧
      d.edges = ((List.range (tri n)).map (g6BitVal s i)).toArray := by
  by_cases hr : inRange s = true
  swap
  · exact Or.inl (by unfold g6DecodeCore; simp [hr])
  by_cases h0 : s.size = 0
  · exact Or.inr (Or.inl ⟨h0, by unfold g6DecodeCore; simp [hr, h0]⟩)
  rcases decHeader_spec s (by omega) hr with ⟨h1, _⟩ | ⟨n, i, h1, h2, h3, h4, h5, h6, h7⟩
  · exact Or.inl (by unfold g6DecodeCore; simp [hr, h0, h1])
  by_cases c1 : (i = 8 && n > 4294967296) = true
  · exact Or.inl (by unfold g6DecodeCore; simp only [hr, h0, h1, c1]; simp)
  by_cases c2 : i + (n * (n - 1) / 2 + 5) / 6 > s.size
  · exact Or.inl (by unfold g6DecodeCore; simp only [hr, h0, h1, c1, c2]; simp)
  have hm : (List.range (n * (n - 1) / 2)).mapM (g6Bit s i)
      = .ok ((List.range (n * (n - 1) / 2)).map (g6BitVal s i)) :=
    Outcome.mapM_ok _ _ _ fun j hj => g6Bit_ok _ _ _ (by have := List.mem_range.1 hj; omega)
  obtain ⟨d, hd, hwf, hdn, hde⟩ :=
    newDense_ok n ((List.range (n * (n - 1) / 2)).map (g6BitVal s i)).toArray (by simp)
  refine Or.inr (Or.inr ⟨n, i, d, hr, h2, ?_, Nat.le_of_not_gt c2, ?_, hwf, hdn, hde⟩)
  · rcases h4 with rfl | rfl | rfl
    · have := h6 rfl; omega
    · have := h7 rfl; omega
    · simp at c1; omega
  · unfold g6DecodeCore
    simp only [hr, h0, h1, c1, c2, hm, hd, Bool.not_true, Bool.false_eq_true, if_false]

theorem g6DecodeCore_total (s : Bytes) :
    g6DecodeCore s ≠ .panic ∧ g6DecodeCore s ≠ .outOfFuel ∧
    ∀ d, g6DecodeCore s = .ok (some d) →
      d.WF ∧ (∀ e ∈ d.edges.toList, e = 0 ∨ e = 1) ∧ d.n ≤ 4294967296 ∧
      ((s.size = 0 ∧ d.n = 0) ∨ ∃ rest, readN s.toList = some (d.n, rest)) := by
  rcases g6DecodeCore_cases s with h | ⟨h0, h⟩ | ⟨n, i, d, _, h2, h3, _, h, hwf, hdn, hde⟩ <;>
    rw [h] <;> refine ⟨ok_ne_panic _, ok_ne_outOfFuel _, fun d' hd' => ?_⟩
  · cases hd'
  · cases hd'
    exact ⟨newDenseNil_wf 0, by simp [newDenseNil], Nat.zero_le _, Or.inl ⟨h0, rfl⟩⟩
  · cases hd'
    refine ⟨hwf, ?_, hdn ▸ h3, Or.inr ⟨_, hdn ▸ h2⟩⟩
    intro e he
    rw [hde] at he
    simp only [List.mem_map] at he
    obtain ⟨j, _, rfl⟩ := he
    exact g6BitVal_le_one s i j

theorem g6Decode_g6Spec (g : G) (h : g.WF) (hn : g.n ≤ 4294967296) :
    g6Decode (g6Spec g).toArray = .ok (some (denseOf g)) := by
  rw [g6Decode_spec_string g hn, newDense_denseOf g h]

theorem g6Decode_magic_g6Spec (g : G) (h : g.WF) (hn : g.n ≤ 4294967296) :
    g6Decode (g6Magic.toArray ++ (g6Spec g).toArray) = .ok (some (denseOf g)) := by
  have h0 := g6Decode_g6Spec g h hn
  have hp := g6Spec_not_magic g
  rw [g6Decode_eq_core] at h0 ⊢
  rw [hasPrefix_append, if_pos rfl]
  rw [hp] at h0
  simp only [Bool.false_eq_true, if_false] at h0
  have : dropBytes (g6Magic.toArray ++ (g6Spec g).toArray) 10 = (g6Spec g).toArray :=
    dropBytes_append g6Magic _
  rw [this]; exact h0

theorem g6_roundtrip_denseOf (g : GI) (hwf : g.toG.WF) (hn : g.n * (g.n - 1) / 2 < 2 ^ 63) :
    ∃ a, g6Encode g = .ok a ∧ g6Decode a = .ok (some (denseOf g.toG)) ∧
      g6Decode (g6Magic.toArray ++ a) = .ok (some (denseOf g.toG)) := by
  have hn' := n_le_of_tri hn
  obtain ⟨a, ha, hs, _⟩ := g6Encode_eq_spec g hwf.symm (by omega)
  have : a = (g6Spec g.toG).toArray := by rw [← hs]
  refine ⟨a, ha, ?_, ?_⟩
  · rw [this]; exact g6Decode_g6Spec g.toG hwf hn'
  · rw [this]; exact g6Decode_magic_g6Spec g.toG hwf hn'

theorem g6DecodeCore_reads (s : Bytes) (hs : s.size ≠ 0) (d : Dense) (h : g6DecodeCore s = .ok (some d)) :
    ∃ rest, readN s.toList = some (d.n, rest) ∧
      ∀ i j, i < j → j < d.n → d.toG.adj i j = ((unR rest)[tri j + i]? == some true) := by
  rcases g6DecodeCore_cases s with h' | ⟨h0, _⟩ | ⟨n, i, d', hr, h2, _, c2, h', hwf, hdn, hde⟩
  · rw [h'] at h; cases h
  · exact absurd h0 hs
  · rw [h'] at h; cases h
    refine ⟨s.toList.drop i, hdn ▸ h2, ?_⟩
    intro a b hab hb
    have hb' : b < n := hdn ▸ hb
    have hidx : tri b + a < tri n := tri_add_lt hab hb'
    rw [Dense.toG_adj_lt hwf.edges_size hab hb, hde, Array.getD_eq_getD_getElem?, List.getElem?_toArray,
      List.getElem?_map, List.getElem?_range hidx, Option.map_some, Option.getD_some,
      g6BitVal_unR s hr i _ (by omega)]
    cases hx : (unR (s.toList.drop i))[tri b + a]? with
    | none => simp
    | some x => cases x <;> simp

theorem g6Spec_injective (g h : G) (hn : g.n ≤ 68719476735) (hn' : h.n ≤ 68719476735) (e : g6Spec g = g6Spec h) :
    g.n = h.n ∧ ∀ i j, i < j → j < g.n → g.adj i j = h.adj i j := by
  have r1 := readN_Nn g.n hn (R (g6Bits g))
  have r2 := readN_Nn h.n hn' (R (g6Bits h))
  unfold g6Spec at e
  rw [e, r2] at r1
  simp only [Option.some.injEq, Prod.mk.injEq] at r1
  obtain ⟨en, eR⟩ := r1
  refine ⟨en.symm, ?_⟩
  have eu := congrArg unR eR
  rw [unR_R, unR_R] at eu
  have el : (g6Bits h).length = (g6Bits g).length := by rw [g6Bits_length, g6Bits_length, en]
  have eb : g6Bits h = g6Bits g := by
    have := congrArg (List.take (g6Bits g).length) eu
    rw [List.take_left' el, List.take_left' rfl] at this
    exact this
  intro i j hij hj
  have := congrArg (fun l => l[tri j + i]?) eb
  simp only [g6Bits_eq, List.getElem?_map, upperPairs_getElem? hij hj, upperPairs_getElem? hij (en.symm ▸ hj : j < h.n),
    Option.map_some, Option.some.injEq] at this
  exact this.symm

end Codec
