import Mamba.Lemmas.IRIso
import Mamba.Spec.Aut
import Mathlib.Logic.Relation

namespace AutSpec
open IR

theorem isPerm_sound {n : Nat} {p : Array Nat} (h : isPerm n p = true) : IsPerm n p := by
  unfold isPerm at h
  simp only [Bool.and_eq_true, List.all_eq_true, List.mem_range, decide_eq_true_eq, Bool.or_eq_true, beq_iff_eq,
    bne_iff_ne, ne_eq] at h
  obtain ⟨⟨_, h1⟩, h2⟩ := h
  refine ⟨h1, ?_⟩
  intro u v hu hv e
  rcases h2 u hu v hv with h | h
  · exact h
  · exact absurd e h

theorem has_iff {g : G} {u v : Nat} : has g u v = true ↔ v ∈ g.nbrs u := by
  unfold has; simp

theorem isAutomorphism_sound {g : G} (hg : WF g) {p : Array Nat} (h : isAutomorphism g p = true) :
    ∃ τ, Relabel g g (col p) τ := by
  unfold isAutomorphism at h
  simp only [Bool.and_eq_true, List.all_eq_true, List.mem_range, beq_iff_eq] at h
  obtain ⟨hp, hadj⟩ := h
  have hP := isPerm_sound hp
  refine ⟨invFn g.n p, ?_⟩
  exact {
    n_eq := rfl
    left := fun v hv => inv_left hP hv
    right := fun v hv => (inv_right hP hv).2
    σ_lt := hP.1
    τ_lt := fun v hv => (inv_right hP hv).1
    nbrs_lt := hg.lt
    nbrs := by
      intro v hv
      apply (List.perm_ext_iff_of_nodup (hg.nodup _ (hP.1 v hv)) ?_).2
      · intro k
        constructor
        · intro hk
          have hkn := hg.lt _ (hP.1 v hv) k hk
          obtain ⟨w, hw, rfl⟩ := perm_surj hP hkn
          have := hadj v hv w hw
          have h1 : has g (col p v) (col p w) = true := has_iff.2 hk
          rw [this] at h1
          exact List.mem_map.2 ⟨w, has_iff.1 h1, rfl⟩
        · intro hk
          obtain ⟨w, hw, rfl⟩ := List.mem_map.1 hk
          have hwn := hg.lt v hv w hw
          have := hadj v hv w hwn
          have h1 : has g v w = true := has_iff.2 hw
          rw [← this] at h1
          exact has_iff.1 h1
      · apply List.Nodup.map_on _ (hg.nodup v hv)
        intro a ha b hb e
        exact hP.2 a b (hg.lt v hv a ha) (hg.lt v hv b hb) e }

/-- the permutations (as functions on `0..n-1`) obtained from the identity by composing with generators -/
inductive Gen (n : Nat) (gens : List (Array Nat)) : Array Nat → Prop where
  | id : Gen n gens (tab n id)
  | mul {ge p : Array Nat} : ge ∈ gens → Gen n gens p → Gen n gens (comp n ge p)

theorem foldl_keeps {α β : Type} {P : β → Prop} {f : β → α → β} : ∀ (l : List α),
    (∀ b, ∀ a ∈ l, P b → P (f b a)) → ∀ b, P b → P (l.foldl f b)
  | [], _, _, h => h
  | a :: l, hf, b, h =>
    foldl_keeps l (fun b x hx => hf b x (List.mem_cons_of_mem _ hx)) _ (hf b a (List.mem_cons_self ..) h)

theorem closureGo_sound {n : Nat} {gens : List (Array Nat)} (cap : Nat) (fuel : Nat) :
    ∀ (seen queue : List (Array Nat)), (∀ q ∈ seen, Gen n gens q) → (∀ q ∈ queue, Gen n gens q) →
      ∀ q ∈ closureGo n gens cap fuel seen queue, Gen n gens q := by
  induction fuel with
  | zero => intro seen queue hs _ q hq; unfold closureGo at hq; exact hs q hq
  | succ f ih =>
    intro seen queue hs hq q hmem
    cases queue with
    | nil => unfold closureGo at hmem; exact hs q hmem
    | cons p rest =>
      unfold closureGo at hmem
      split_ifs at hmem with hcap
      · exact hs q hmem
      · have hp : Gen n gens p := hq p (List.mem_cons_self ..)
        have hnew' : ∀ x ∈ gens.foldl (fun (acc : List (Array Nat)) ge =>
            if seen.contains (comp n ge p) || acc.contains (comp n ge p) then acc else acc ++ [comp n ge p]) [],
            Gen n gens x :=
          foldl_keeps (P := fun acc : List (Array Nat) => ∀ x ∈ acc, Gen n gens x) gens
            (fun acc ge hge hacc y hy => by
              split_ifs at hy
              · exact hacc y hy
              · rcases List.mem_append.1 hy with h | h
                · exact hacc y h
                · rw [List.mem_singleton.1 h]; exact Gen.mul hge hp) [] (by simp)
        apply ih _ _ _ _ q hmem
        · intro y hy
          rcases List.mem_append.1 hy with h | h
          · exact hs y h
          · exact hnew' y h
        · intro y hy
          rcases List.mem_append.1 hy with h | h
          · exact hq y (List.mem_cons_of_mem _ h)
          · exact hnew' y h

theorem closure_sound {n : Nat} {gens : List (Array Nat)} {cap : Nat} {q : Array Nat} (h : q ∈ closure n gens cap) :
    Gen n gens q := by
  unfold closure at h
  exact closureGo_sound cap _ _ _ (by simp; exact Gen.id) (by simp; exact Gen.id) q h

/-- one step of the orbit relation: `v` is the image of `u` under one of the permutations -/
def Step (n : Nat) (ps : List (Array Nat)) (u v : Nat) : Prop := u < n ∧ ∃ p ∈ ps, v = col p u

/-- `u` and `v` are in the same orbit of the group generated by `ps` -/
def SameOrbit (n : Nat) (ps : List (Array Nat)) : Nat → Nat → Prop := Relation.EqvGen (Step n ps)

theorem col_map (rep : Array Nat) (f : Nat → Nat) {x : Nat} (hx : x < rep.size) :
    col (rep.map f) x = f (col rep x) := by
  simp [col, Array.getD, hx]

theorem col_merge (rep : Array Nat) (a b : Nat) {x : Nat} (hx : x < rep.size) :
    col (merge rep a b) x =
      if col rep a = col rep b then col rep x
      else if col rep x = max (col rep a) (col rep b) then min (col rep a) (col rep b) else col rep x := by
  unfold merge
  simp only [beq_iff_eq]
  split_ifs with h1 h2
  · rfl
  · rw [col_map _ _ hx]; simp [h2]
  · rw [col_map _ _ hx]; simp [h2]

theorem merge_size (rep : Array Nat) (a b : Nat) : (merge rep a b).size = rep.size := by
  unfold merge; simp only [beq_iff_eq]; split_ifs <;> simp

theorem merge_eq {rep : Array Nat} {a b : Nat} (ha : a < rep.size) (hb : b < rep.size) :
    col (merge rep a b) a = col (merge rep a b) b := by
  rw [col_merge rep a b ha, col_merge rep a b hb]
  by_cases h1 : col rep a = col rep b
  · rw [if_pos h1, if_pos h1]; exact h1
  · rw [if_neg h1, if_neg h1]
    rcases Nat.lt_or_gt_of_ne h1 with h | h
    · rw [Nat.max_eq_right (Nat.le_of_lt h), Nat.min_eq_left (Nat.le_of_lt h), if_neg h1, if_pos rfl]
    · rw [Nat.max_eq_left (Nat.le_of_lt h), Nat.min_eq_right (Nat.le_of_lt h), if_pos rfl, if_neg (Ne.symm h1)]

theorem merge_pres {rep : Array Nat} (a b : Nat) {x y : Nat} (hx : x < rep.size) (hy : y < rep.size)
    (h : col rep x = col rep y) : col (merge rep a b) x = col (merge rep a b) y := by
  rw [col_merge rep a b hx, col_merge rep a b hy, h]

/-! Both loops of `orbitsOf` are folds; what is proved about them comes from two facts about folds: `foldl_keeps` (above;
the inner loop of `closureGo` is a fold too) and `foldl_reaches`. -/

/-- what the step for `a` establishes and every step keeps (under an invariant `P`) holds after a fold over a list
that contains `a` -/
theorem foldl_reaches {α β : Type} {P Q : β → Prop} {f : β → α → β} {a : α} : ∀ (l : List α), a ∈ l →
    (∀ b, ∀ x ∈ l, P b → P (f b x)) → (∀ b, P b → Q (f b a)) → (∀ b, ∀ x ∈ l, P b → Q b → Q (f b x)) →
    ∀ b, P b → Q (l.foldl f b)
  | x :: l, ha, hP, hQ, hQ', b, h => by
    have hP' : ∀ b, ∀ y ∈ l, P b → P (f b y) := fun b y hy => hP b y (List.mem_cons_of_mem _ hy)
    have hx := hP b x (List.mem_cons_self ..) h
    rcases List.mem_cons.1 ha with rfl | ha
    · exact (foldl_keeps (P := fun b => P b ∧ Q b) l
        (fun b y hy hb => ⟨hP' b y hy hb.1, hQ' b y (List.mem_cons_of_mem _ hy) hb.1 hb.2⟩) _ ⟨hx, hQ b h⟩).2
    · exact foldl_reaches l ha hP' hQ (fun b y hy => hQ' b y (List.mem_cons_of_mem _ hy)) _ hx

theorem inner_size (p : Array Nat) (vs : List Nat) (rep : Array Nat) :
    (vs.foldl (fun rep v => merge rep v (col p v)) rep).size = rep.size :=
  foldl_keeps (P := fun r : Array Nat => r.size = rep.size) vs (fun _ _ _ h => by rw [merge_size]; exact h) rep rfl

theorem outer_size (n : Nat) (qs : List (Array Nat)) : ∀ rep : Array Nat,
    (qs.foldl (fun rep p => (List.range n).foldl (fun rep v => merge rep v (col p v)) rep) rep).size = rep.size :=
  fun rep => foldl_keeps (P := fun r : Array Nat => r.size = rep.size) qs
    (fun _ _ _ h => by rw [inner_size]; exact h) rep rfl

def J (n : Nat) (ps : List (Array Nat)) (rep : Array Nat) : Prop :=
  rep.size = n ∧ ∀ u, u < n → SameOrbit n ps u (col rep u)

theorem merge_J {n : Nat} {ps : List (Array Nat)} {rep : Array Nat} (h : J n ps rep) {a b : Nat} (ha : a < n) (hb : b < n)
    (hab : SameOrbit n ps a b) : J n ps (merge rep a b) := by
  refine ⟨by rw [merge_size]; exact h.1, ?_⟩
  intro u hu
  rw [col_merge rep a b (by rw [h.1]; exact hu)]
  have hu' := h.2 u hu
  have hra := h.2 a ha
  have hrb := h.2 b hb
  have hrr : SameOrbit n ps (col rep a) (col rep b) :=
    Relation.EqvGen.trans _ _ _ (Relation.EqvGen.symm _ _ hra) (Relation.EqvGen.trans _ _ _ hab hrb)
  split_ifs with h1 h2
  · exact hu'
  · rw [h2] at hu'
    rcases Nat.le_total (col rep a) (col rep b) with hle | hle
    · rw [Nat.max_eq_right hle] at hu'; rw [Nat.min_eq_left hle]
      exact Relation.EqvGen.trans _ _ _ hu' (Relation.EqvGen.symm _ _ hrr)
    · rw [Nat.max_eq_left hle] at hu'; rw [Nat.min_eq_right hle]
      exact Relation.EqvGen.trans _ _ _ hu' hrr
  · exact hu'

theorem orbitsOf_sound {n : Nat} {ps : List (Array Nat)} (hlt : ∀ p ∈ ps, ∀ v, v < n → col p v < n) {u v : Nat}
    (hu : u < n) (hv : v < n) (h : col (orbitsOf n ps) u = col (orbitsOf n ps) v) : SameOrbit n ps u v := by
  have hJ : J n ps (orbitsOf n ps) := by
    refine foldl_keeps ps (fun rep p hp hrep => foldl_keeps (List.range n) (fun rep v hv hrep => ?_) rep hrep) _
      ⟨by simp [tab], fun w hw => by rw [col_tab _ hw]; exact Relation.EqvGen.refl _⟩
    have hv := List.mem_range.1 hv
    exact merge_J hrep hv (hlt p hp v hv) (Relation.EqvGen.rel _ _ ⟨hv, p, hp, rfl⟩)
  have h1 := hJ.2 u hu
  have h2 := hJ.2 v hv
  rw [h] at h1
  exact Relation.EqvGen.trans _ _ _ h1 (Relation.EqvGen.symm _ _ h2)

theorem orbitsOf_complete {n : Nat} {ps : List (Array Nat)} (hlt : ∀ p ∈ ps, ∀ v, v < n → col p v < n)
    {p : Array Nat} (hp : p ∈ ps) {v : Nat} (hv : v < n) :
    col (orbitsOf n ps) v = col (orbitsOf n ps) (col p v) := by
  have hpv := hlt p hp v hv
  -- the inner loop keeps the size, and keeps `v` and `p v` together once they are
  have inner : ∀ q : Array Nat, ∀ rep : Array Nat, rep.size = n →
      ((List.range n).foldl (fun rep w => merge rep w (col q w)) rep).size = n ∧
      (col rep v = col rep (col p v) →
        col ((List.range n).foldl (fun rep w => merge rep w (col q w)) rep) v =
          col ((List.range n).foldl (fun rep w => merge rep w (col q w)) rep) (col p v)) := fun q rep hsz =>
    ⟨by rw [inner_size, hsz], fun h =>
      (foldl_keeps (P := fun r : Array Nat => r.size = n ∧ col r v = col r (col p v)) (List.range n)
        (fun r w _ hr => ⟨by rw [merge_size]; exact hr.1,
          merge_pres _ _ (by rw [hr.1]; exact hv) (by rw [hr.1]; exact hpv) hr.2⟩) rep ⟨hsz, h⟩).2⟩
  unfold orbitsOf
  refine foldl_reaches (P := fun r : Array Nat => r.size = n) (Q := fun r : Array Nat => col r v = col r (col p v)) ps hp
    (fun rep q _ h => (inner q rep h).1) (fun rep hsz => ?_) (fun rep q _ hsz h => (inner q rep hsz).2 h) _ (by simp [tab])
  -- the loop over `p` itself merges `v` with `p v`
  refine foldl_reaches (P := fun r : Array Nat => r.size = n) (Q := fun r : Array Nat => col r v = col r (col p v))
    (f := fun rep w => merge rep w (col p w)) (List.range n) (List.mem_range.2 hv)
    (fun r w _ h => by rw [merge_size]; exact h) (fun r h => merge_eq (by rw [h]; exact hv) (by rw [h]; exact hpv))
    (fun r w _ hr h => merge_pres _ _ (by rw [hr]; exact hv) (by rw [hr]; exact hpv) h) rep hsz

end AutSpec
