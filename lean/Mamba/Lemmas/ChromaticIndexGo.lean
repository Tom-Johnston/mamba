import Mamba.Model.ChromaticIndexGo
import Mamba.Lemmas.DsaturLoop
import Mamba.Lemmas.CliqueColourLine
import Mamba.Lemmas.C06Line
/-! Correctness of the faithful model of `graph.ChromaticIndex`: C06's `LineGraphDense` + the DSATUR model + the byte
array loop. -/
namespace CliqueColour
open GraphSpec

theorem ofSpec_sound (g : G) : Construct.GraphI.Sound (Construct.ofSpec g) g :=
  ⟨rfl, rfl, fun _ _ _ _ => rfl, fun _ _ => rfl, rfl⟩

theorem families_lineGraph_eq (g : G) : Families.lineGraph g = lineGraph g := by
  rw [Construct.lineGraph_eq]
  refine GraphRep.G_ext rfl fun u v => ?_
  rw [lineGraph_adj]
  simp only [Families.symm]
  have e : Construct.share (g.edges.getD u (0, 0)) (g.edges.getD v (0, 0)) =
      share (g.edges.getD u (0, 0)) (g.edges.getD v (0, 0)) := rfl
  have e' : Construct.share (g.edges.getD v (0, 0)) (g.edges.getD u (0, 0)) =
      share (g.edges.getD u (0, 0)) (g.edges.getD v (0, 0)) := by
    rw [show Construct.share (g.edges.getD v (0, 0)) (g.edges.getD u (0, 0)) =
      share (g.edges.getD v (0, 0)) (g.edges.getD u (0, 0)) from rfl, share_comm]
  rw [e, e', Bool.or_self]

def ciByte (g : G) (col : List Int) (p : Nat × Nat) : Nat :=
  if g.adj p.1 p.2 then ((col.getD (g.edges.idxOf p) 0 + 1) % 256).toNat else 0

theorem ciFill_spec (g : G) (col : List Int) (hl : col.length = g.edges.length) :
    ∀ (rest P : List (Nat × Nat)) (ci : Nat) (acc : List Nat), Construct.pairs g.n = P ++ rest →
      acc.reverse = P.map (ciByte g col) → ci = (P.filter fun p => g.adj p.1 p.2).length →
      ciFill g col rest ci acc = .ok ((Construct.pairs g.n).map (ciByte g col)) := by
  have hes := Construct.edges_eq_filter g
  intro rest
  induction rest with
  | nil =>
    intro P ci acc hP hacc _
    simp only [ciFill]
    rw [hacc, hP]; simp
  | cons p rest ih =>
    intro P ci acc hP hacc hci
    obtain ⟨i, j⟩ := p
    have hP' : Construct.pairs g.n = (P ++ [(i, j)]) ++ rest := by rw [hP]; simp
    simp only [ciFill]
    by_cases hadj : g.adj i j = true
    · rw [if_pos hadj]
      have hedges : g.edges = (P.filter fun p => g.adj p.1 p.2) ++ (i, j) :: (rest.filter fun p => g.adj p.1 p.2) := by
        rw [hes, hP, List.filter_append, List.filter_cons]
        simp [hadj]
      have hnd := G.nodup_edges g
      rw [hedges] at hnd
      have hnotin : (i, j) ∉ (P.filter fun p => g.adj p.1 p.2) := by
        intro hm
        exact (List.nodup_append.1 hnd).2.2 _ hm _ List.mem_cons_self rfl
      have hidx : g.edges.idxOf (i, j) = ci := by
        rw [hedges, List.idxOf_append_of_notMem hnotin, List.idxOf_cons_self, hci]; simp
      have hcilt : ci < col.length := by
        rw [hl, hedges, hci, List.length_append, List.length_cons]; omega
      rw [getElem?_eq_some_getD hcilt 0]
      simp only
      refine ih (P ++ [(i, j)]) (ci + 1) _ hP' ?_ ?_
      · rw [List.reverse_cons, hacc, List.map_append]
        simp [ciByte, hadj, hidx]
      · rw [List.filter_append, hci]; simp [hadj]
    · rw [if_neg hadj]
      refine ih (P ++ [(i, j)]) ci _ hP' ?_ ?_
      · rw [List.reverse_cons, hacc, List.map_append]
        simp [ciByte, hadj]
      · rw [List.filter_append, hci]
        have : (g.adj i j) = false := by simpa using hadj
        simp [this]

theorem eidx_eq_pos {u v : Nat} (h : u < v) : eidx u v = Construct.pos (u, v) := by
  unfold eidx Construct.pos
  rw [if_pos h]
  rfl

theorem eidx_opair (u v : Nat) (h : u ≠ v) : eidx u v = Construct.pos (opair u v) := by
  rcases Nat.lt_or_gt_of_ne h with hlt | hgt
  · rw [eidx_eq_pos hlt, opair_of_lt hlt]
  · rw [eidx_comm, eidx_eq_pos hgt, opair_comm, opair_of_lt hgt]

theorem pairs_getD_pos {n : Nat} {p : Nat × Nat} (hp : p ∈ Construct.pairs n) :
    Construct.pos p < (Construct.pairs n).length ∧ (Construct.pairs n)[Construct.pos p]? = some p := by
  obtain ⟨h1, h2⟩ := Construct.mem_pairs.1 hp
  have := GraphRep.upperPairs_getElem? h1 h2
  exact ⟨(List.getElem?_eq_some_iff.1 this).1, this⟩

theorem map_getD_pos (g : G) (col : List Int) {p : Nat × Nat} (hp : p ∈ Construct.pairs g.n) :
    ((Construct.pairs g.n).map (ciByte g col)).getD (Construct.pos p) 0 = ciByte g col p := by
  obtain ⟨_, h2⟩ := pairs_getD_pos hp
  rw [List.getD_eq_getElem?_getD, List.getElem?_map, h2]
  rfl

theorem byte_of_colour {c : Int} {k : Nat} (h0 : 0 ≤ c) (hk : c < (k : Int)) (h256 : k < 256) :
    ((c + 1) % 256).toNat = (c + 1).toNat := by
  rw [Int.emod_eq_of_lt (by omega) (by omega)]

theorem chromaticIndexGo_spec {g : G} (hw : g.WF) (h256 : chromaticIndexSpec g < 256) :
    ∃ b, chromaticIndexGo g = .ok ((chromaticIndexSpec g : Int), some b) ∧
      isProperEdgeColouring g b (chromaticIndexSpec g) = true ∧ usesExactly1 b (chromaticIndexSpec g) = true := by
  obtain ⟨d, hd, _, habs⟩ := Construct.lineGraphDense_ok (Construct.ofSpec g) g (ofSpec_sound g)
  rw [families_lineGraph_eq] at habs
  obtain ⟨col, hcn, hlen, hrange, hproper, huses⟩ := chromaticNumberGo_spec (lineGraph_wf g)
  rw [lineGraph_n] at hlen
  have hfill := ciFill_spec g col hlen (Construct.pairs g.n) [] 0 [] (by simp) (by simp) (by simp)
  refine ⟨(Construct.pairs g.n).map (ciByte g col), ?_, ?_, ?_⟩
  · unfold chromaticIndexGo
    rw [hd]
    simp only
    rw [habs, hcn]
    simp only
    have hne : (((chromaticNumberSpec (lineGraph g) : Nat) : Int) == -1) = false := by
      rw [beq_eq_false_iff_ne]; omega
    rw [hne]
    simp only [Bool.false_eq_true, if_false, hfill]
    rfl
  · have hχ : chromaticIndexSpec g = chromaticNumberSpec (lineGraph g) := rfl
    have hbyte : ∀ u v, g.adj u v = true → u ≠ v →
        ((Construct.pairs g.n).map (ciByte g col)).getD (eidx u v) 0 =
          (col.getD (g.edges.idxOf (opair u v)) 0 + 1).toNat ∧
        g.edges.idxOf (opair u v) < g.edges.length ∧
        0 ≤ col.getD (g.edges.idxOf (opair u v)) 0 ∧
        col.getD (g.edges.idxOf (opair u v)) 0 < (chromaticIndexSpec g : Int) := by
      intro u v hadj hne
      have hmem := opair_mem hw hadj
      have hmemp : opair u v ∈ Construct.pairs g.n := by
        rw [Construct.edges_eq_filter] at hmem
        exact (List.mem_filter.1 hmem).1
      have hadjp : g.adj (opair u v).1 (opair u v).2 = true := (G.mem_edges.1 hmem).2.2
      have hidx := List.idxOf_lt_length_of_mem hmem
      have hr := hrange (g.edges.idxOf (opair u v)) (by rw [lineGraph_n]; exact hidx)
      rw [eidx_opair u v hne, map_getD_pos g col hmemp]
      refine ⟨?_, hidx, hr.1, hr.2⟩
      unfold ciByte
      rw [if_pos hadjp]
      exact byte_of_colour hr.1 hr.2 h256
    simp only [isProperEdgeColouring, Bool.and_eq_true, beq_iff_eq, List.all_eq_true, List.mem_range]
    refine ⟨⟨?_, ?_⟩, ?_⟩
    · rw [List.length_map, Construct.length_pairs]; rfl
    · intro v hv u hu
      by_cases hadj : g.adj u v = true
      · obtain ⟨hb, _, h0, hlt⟩ := hbyte u v hadj (by omega)
        simp only [hadj, if_true, Bool.and_eq_true, decide_eq_true_eq]
        rw [hb]; omega
      · have hf : g.adj u v = false := by simpa using hadj
        simp only [hf, Bool.false_eq_true, if_false, beq_iff_eq]
        have hmemp : (u, v) ∈ Construct.pairs g.n := Construct.mem_pairs.2 ⟨hu, hv⟩
        rw [eidx_eq_pos hu, map_getD_pos g col hmemp]
        simp [ciByte, hf]
    · intro u hu v hv w hw'
      by_cases hc : (v != w && g.adj u v && g.adj u w) = true
      · simp only [Bool.and_eq_true, bne_iff_ne, ne_eq] at hc
        obtain ⟨⟨hvw, ha1⟩, ha2⟩ := hc
        have hne1 : u ≠ v := by intro e; subst e; rw [hw.irrefl] at ha1; cases ha1
        have hne2 : u ≠ w := by intro e; subst e; rw [hw.irrefl] at ha2; cases ha2
        obtain ⟨hb1, hi1, h01, _⟩ := hbyte u v ha1 hne1
        obtain ⟨hb2, hi2, h02, _⟩ := hbyte u w ha2 hne2
        simp only [Bool.or_eq_true, Bool.not_eq_true', bne_iff_ne, ne_eq]
        right
        rw [hb1, hb2]
        have := hproper _ _ (by rw [lineGraph_n]; exact hi1) (by rw [lineGraph_n]; exact hi2)
          (lineGraph_adj_opair hw hvw ha1 ha2)
        omega
      · simp only [Bool.or_eq_true, Bool.not_eq_true']
        left
        simpa using hc
  · simp only [usesExactly1, List.all_eq_true, List.mem_range, List.contains_iff_mem]
    intro x hx
    obtain ⟨a, ha, hax⟩ := huses x (by
      have : x < chromaticNumberSpec (lineGraph g) := hx
      omega)
    rw [lineGraph_n] at ha
    have hmem : g.edges[a] ∈ g.edges := List.getElem_mem ha
    have hmemp : g.edges[a] ∈ Construct.pairs g.n := by
      have : g.edges[a] ∈ (Construct.pairs g.n).filter fun p => g.adj p.1 p.2 := by
        rw [← Construct.edges_eq_filter]; exact hmem
      exact (List.mem_filter.1 this).1
    have hadjp : g.adj (g.edges[a]).1 (g.edges[a]).2 = true := by
      have := (G.mem_edges (u := (g.edges[a]).1) (v := (g.edges[a]).2)).1 hmem
      exact this.2.2
    refine List.mem_map.2 ⟨g.edges[a], hmemp, ?_⟩
    unfold ciByte
    rw [if_pos hadjp]
    have hidx : g.edges.idxOf g.edges[a] = a := (G.nodup_edges g).idxOf_getElem a ha
    rw [hidx, byte_of_colour (k := chromaticIndexSpec g) (by rw [hax]; exact Int.natCast_nonneg x)
      (by rw [hax]; exact Int.ofNat_lt.2 hx) h256, hax]
    rfl

end CliqueColour
