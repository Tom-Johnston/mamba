import Mamba.Lemmas.DawgReplaceOrRegister
/-! One `Add` on a builder whose last word is spelled by a complete spine. -/
namespace Dawg

/-- the part of `Add` after `commonPrefix` -/
def addTail (R : List Nat) (lastID : Nat) (r : Heap × List Nat × Nat) : Outcome (Heap × List Nat × Nat) :=
  match getNode r.1 r.2.2 with
  | .ok ln =>
    match (if ln.links.length ≠ 0 then replaceOrRegister (r.1.size + 1) r.1 r.2.2 R else .ok (r.1, R)) with
    | .ok (h2, reg2) =>
      match addSuffix h2 r.2.2 r.2.1 lastID with
      | .ok (h3, lid) => .ok (h3, reg2, lid)
      | .panic => .panic
      | .outOfFuel => .outOfFuel
    | .panic => .panic
    | .outOfFuel => .outOfFuel
  | .panic => .panic
  | .outOfFuel => .outOfFuel

/-- `Add` from the node `p` on: the walk along the common prefix of `x` (`cpWalk`), then `addTail`; the result is the new
heap, the new register and the new `lastID` -/
def walkAdd (R : List Nat) (lid : Nat) (h : Heap) (p : Nat) (x : Word) : Outcome (Heap × List Nat × Nat) :=
  match cpWalk h p x with
  | .ok r => addTail R lid r
  | .panic => .panic
  | .outOfFuel => .outOfFuel

theorem sorted_append_last {ls : List Nat} {c : Nat} (hs : (ls ++ [c]).Pairwise (· < ·)) :
    c ∉ ls ∧ ∀ l ∈ ls ++ [c], l ≤ c := by
  rw [List.pairwise_append] at hs
  obtain ⟨_, _, h3⟩ := hs
  refine ⟨fun hmem => Nat.lt_irrefl _ (h3 c hmem c (by simp)), ?_⟩
  intro l hl
  rw [List.mem_append, List.mem_singleton] at hl
  rcases hl with hl | rfl
  · exact Nat.le_of_lt (h3 l hl c (by simp))
  · exact Nat.le_refl _

theorem Spine.bump {h : Heap} {R : List Nat} {s : Nat} {sp : List Nat} {v : Word} {L Le : List Word} {sn : Node}
    (hs : Spine h R 0 (s :: sp) v L Le) (hreg : RegOK h R) (hnd : (s :: sp).Nodup) (hsn : h[s]? = some sn) :
    Spine (h.setIfInBounds s { sn with numWords := sn.numWords + 1 }) R 1 (s :: sp) v L Le := by
  have hsR : s ∉ R := (hs.valid s List.mem_cons_self).2
  have hag : AgreeOn h (h.setIfInBounds s { sn with numWords := sn.numWords + 1 }) R := AgreeOn.set hsR _
  have hget : (h.setIfInBounds s { sn with numWords := sn.numWords + 1 })[s]? =
      some { sn with numWords := sn.numWords + 1 } := Array.getElem?_setIfInBounds_self_of_lt (lt_size_of_get hsn)
  rw [List.nodup_cons] at hnd
  cases hs with
  | last hn =>
    have := hn.get
    rw [hsn] at this; cases this
    refine Spine.last (n := { sn with numWords := sn.numWords + 1 }) ⟨hget, hn.notReg, hn.sorted, hn.fin, ?_, hn.labs, hn.lens, hn.mem, ?_⟩
    · show sn.numWords + 1 = _
      rw [hn.num]; simp [dlt]
    · exact kids_frame hreg hag (fun _ hu => hu) hn.kids
  | node hn hpR hs0 hsort hf hnum hlab hlabs hlinks hlen hmem hkids hsub =>
    rw [hsn] at hn; cases hn
    refine Spine.node (n := { sn with numWords := sn.numWords + 1 }) hget hpR hs0 hsort hf ?_ hlab hlabs hlinks hlen hmem ?_ ?_
    · show sn.numWords + 1 = _
      rw [hnum]; simp [dlt]
    · exact kids_frame hreg hag (fun _ hu => hu) hkids
    · exact hsub.frame hreg hag (AgreeOn.set hnd.1 _)

/-- what `walkAdd` started at the head `p` of the spine `sp` (which spells the last word of `L`) leaves when it has added
`x`: heap `h3`, register `R3`, and a spine `sp'` for `x`. `spine`, `head`, `nodup`: `sp'` is a complete spine for `x` over
`L ++ [x]`, starts at `p`, repeats no node; `reg`, `ids`: register and ids stay sound; `size`: the heap only grows;
`frame`: nodes off the old spine are untouched; `spNew`: the new spine consists of old spine nodes and fresh nodes;
`regSub`: nothing leaves the register; `regSup`: what enters it comes from the old spine. -/
structure AddPost (h : Heap) (R : List Nat) (sp : List Nat) (p : Nat) (x : Word) (L : List Word)
    (h3 : Heap) (R3 : List Nat) (sp' : List Nat) : Prop where
  spine : Spine h3 R3 0 sp' x (L ++ [x]) [[]]
  head : sp'.head? = some p
  nodup : sp'.Nodup
  reg : RegOK h3 R3
  ids : HeapIds h3
  size : h.size ≤ h3.size
  frame : ∀ i, i < h.size → i ∉ sp → h3[i]? = h[i]?
  spNew : ∀ q ∈ sp', q ∈ sp ∨ h.size ≤ q
  regSub : ∀ u ∈ R, u ∈ R3
  regSup : ∀ u ∈ R3, u ∈ R ∨ u ∈ sp

/-- the walk of `Add` stops at the head `p` of the spine, because no stored word starts with the next letter `a`:
the old branch below `p` is minimised, then the new suffix is hung below `p` -/
theorem addAt_stop {h : Heap} {R : List Nat} {p lid a : Nat} {sp : List Nat} {v x' : Word} {L : List Word}
    (hs : Spine h R 1 (p :: sp) v L [[]]) (hnd : (p :: sp).Nodup) (hreg : RegOK h R) (hids : HeapIds h)
    (hlid : lid + 1 = h.size) (hfuel : sp.length ≤ h.size + 1) (hlt : ∀ u ∈ L, u < a :: x')
    (hstop : ∀ c, sub L c ≠ [] → c < a) :
    ∃ h3 R3 sp', walkAdd R lid h p (a :: x') = .ok (h3, R3, h3.size - 1) ∧
      AddPost h R (p :: sp) p (a :: x') L h3 R3 sp' := by
  obtain ⟨h2, R2, n2, n, hn, hres2, hn2, hreg2, hsz2, hfr2, hsub2, hsup2, hids2⟩ :=
    minimise_spec hreg sp (h.size + 1) 1 p v L (Nat.le_refl _) hs hnd hfuel
  have hplt : p < h.size := lt_size_of_get hn
  obtain ⟨h3, news, hres3, hsp3, hsz3, hfr3, hnews, hndn, hids3⟩ :=
    addSuffix_spec R2 (a :: x') h2 p lid L n2 hn2 hreg2 (hids2 hids) (hlid.trans hsz2.symm)
      (fun _ hb' l hl => Option.some.inj hb' ▸ hstop l ((hn2.mem l).1 hl)) hlt
  have hag : AgreeOn h2 h3 R2 := fun u hu => hfr3 u (hreg2.lt_size hu) (fun h1 => hn2.notReg (h1 ▸ hu))
  refine ⟨h3, R2, p :: news, ?_, hsp3, rfl, ?_, hreg2.frame hag, hids3,
    by rw [hsz3, hsz2]; exact Nat.le_add_right _ _, ?_, ?_, hsub2,
    fun u hu => (hsup2 u hu).imp_right (List.mem_cons_of_mem _)⟩
  · have hfl : findLabel n.labels a = none :=
      findLabel_none.2 fun hmem => Nat.lt_irrefl a (hstop a ((hs.head_mem hn a).1 hmem))
    simp only [walkAdd, cpWalk, getNode_of_some hn, hfl, addTail, hres2, hres3]
    rw [hsz3, hsz2, ← hlid, Nat.add_right_comm, Nat.add_sub_cancel]
  · refine List.nodup_cons.2 ⟨fun hmem => ?_, hndn⟩
    exact Nat.lt_irrefl p (Nat.lt_of_lt_of_le hplt (hsz2 ▸ hnews p hmem))
  · intro i hi hisp
    rw [hfr3 i (hsz2.symm ▸ hi) (fun e => hisp (e ▸ List.mem_cons_self)), hfr2 i hisp]
  · intro q hq
    rcases List.mem_cons.1 hq with rfl | hq
    · exact Or.inl List.mem_cons_self
    · exact Or.inr (hsz2 ▸ hnews q hq)

theorem addAt : ∀ (sp : List Nat) (R : List Nat) (lid : Nat) (h : Heap) (v x : Word) (L : List Word),
    Spine h R 1 sp v L [[]] → sp.Nodup → RegOK h R → HeapIds h → lid + 1 = h.size →
    sp.length ≤ h.size → (∀ u ∈ L, u < x) →
    ∃ p h3 R3 sp', sp.head? = some p ∧ walkAdd R lid h p x = .ok (h3, R3, h3.size - 1) ∧
      AddPost h R sp p x L h3 R3 sp' := by
  intro sp
  induction sp with
  | nil => intro R lid h v x L hs; cases hs
  | cons p sp ih =>
    intro R lid h v x L hs hnd hreg hids hlid hfuel hlt
    -- the new word is larger than the last one, so it is not empty
    obtain ⟨a, x', rfl⟩ : ∃ a x', x = a :: x' := by
      cases x with
      | nil => exact absurd (hlt v hs.word_mem) (List.not_lt_nil v)
      | cons a x' => exact ⟨a, x', rfl⟩
    have hfirst : ∀ c, sub L c ≠ [] → c ≤ a := by
      intro c hc
      obtain ⟨t, ht⟩ := List.exists_mem_of_ne_nil _ hc
      rcases List.cons_lt_cons_iff.1 (hlt _ (mem_sub.1 ht)) with h1 | ⟨h1, _⟩
      · exact Nat.le_of_lt h1
      · exact Nat.le_of_eq h1
    by_cases hsuba : sub L a = []
    · obtain ⟨h3, R3, sp', hres, hpost⟩ := addAt_stop hs hnd hreg hids hlid
        (Nat.le_trans (Nat.le_succ _) (Nat.le_trans hfuel (Nat.le_succ _))) hlt
        (fun c hc => Nat.lt_of_le_of_ne (hfirst c hc) (fun e => hc (e ▸ hsuba)))
      exact ⟨p, h3, R3, sp', rfl, hres, hpost⟩
    · -- some stored word starts with `a`: the walk continues into the last child, whose label must be `a`
      cases hs with
      | last hn => exact absurd rfl hsuba
      | @node _ _ s c sp0 v0 _ _ n ls qs hn hpR hs0 hsort hfin hnum hlab hlabs hlinks hlen hmem hkids hsub =>
        have hk0 : (1 : Nat) - 1 = 0 := rfl
        rw [hk0] at hsub
        have hplt : p < h.size := lt_size_of_get hn
        obtain ⟨hcls, hle⟩ := sorted_append_last (hlabs ▸ hlab)
        obtain rfl : a = c :=
          Nat.le_antisymm (hle a (hlabs ▸ (hmem a).2 hsuba)) (hfirst c (List.ne_nil_of_mem hsub.word_mem))
        rw [List.nodup_cons] at hnd
        have hvalid := hsub.valid
        have hv0x : ∀ u ∈ sub L a, u < x' := by
          intro u hu
          have := hlt _ (mem_sub.1 hu)
          rw [List.cons_lt_cons_iff] at this
          rcases this with h1 | ⟨_, h1⟩
          · exact absurd h1 (Nat.lt_irrefl _)
          · exact h1
        obtain ⟨sn, hsn⟩ : ∃ sn, h[s]? = some sn := by
          have := (hvalid s List.mem_cons_self).1
          exact ⟨h[s], by simp [this]⟩
        let h' : Heap := h.setIfInBounds s { sn with numWords := sn.numWords + 1 }
        have hsub' : Spine h' R 1 (s :: sp0) v0 (sub L a) [[]] := hsub.bump hreg hnd.2 hsn
        have hsR : s ∉ R := (hvalid s List.mem_cons_self).2
        have hag' : AgreeOn h h' R := AgreeOn.set hsR _
        have hids' : HeapIds h' := hids.set hsn rfl
        have hsz' : h'.size = h.size := by simp [h']
        obtain ⟨p', h3, R3, sp', hhead, hres, hpost⟩ :=
          ih R lid h' v0 x' (sub L a) hsub' hnd.2 (hreg.frame hag') hids' (hlid.trans hsz'.symm)
            (hsz'.symm ▸ Nat.le_trans (Nat.le_succ _) hfuel) hv0x
        simp only [List.head?_cons, Option.some.injEq] at hhead
        subst hhead
        obtain ⟨sp'', hsp''⟩ : ∃ sp'', sp' = s :: sp'' := by
          cases sp' with
          | nil => exact absurd hpost.head (fun h => nomatch h)
          | cons q sp'' => exact ⟨sp'', congrArg (· :: sp'') (Option.some.inj hpost.head)⟩
        subst hsp''
        have hp3 : h3[p]? = some n := by
          rw [hpost.frame p (hsz'.symm ▸ hplt) hnd.1]
          show (h.setIfInBounds s _)[p]? = _
          rw [Array.getElem?_setIfInBounds_ne (fun (h1 : s = p) => hnd.1 (by rw [← h1]; exact List.mem_cons_self))]
          exact hn
        have hpR3 : p ∉ R3 := by
          intro hmem
          rcases hpost.regSup p hmem with h1 | h1
          · exact hpR h1
          · exact hnd.1 h1
        have hag3 : AgreeOn h h3 R := by
          intro u hu
          rw [hpost.frame u (hsz'.symm ▸ hreg.lt_size hu) (fun hmem => (hvalid u hmem).2 hu)]
          exact hag' u hu
        refine ⟨p, h3, R3, p :: s :: sp'', rfl, ?_, ?_, rfl, ?_, hpost.reg, hpost.ids, hsz' ▸ hpost.size, ?_, ?_,
          hpost.regSub, ?_⟩
        · have hfl : findLabel n.labels a = some ls.length :=
            findLabel_of_get (hlab.imp Nat.ne_of_lt) (by rw [hlabs, List.getElem?_concat_length])
          have hlk : n.links[ls.length]? = some s := by
            rw [hlinks, hlen, List.getElem?_append_right (Nat.le_refl _)]; simp
          simp only [walkAdd, cpWalk, getNode_of_some hn, hfl, hlk, getNode_of_some hsn]
          exact hres
        · refine Spine.node hp3 hpR3 hs0 ?_ ?_ ?_ hlab hlabs hlinks hlen ?_ ?_ ?_
          · exact List.pairwise_append.2 ⟨hsort, List.pairwise_singleton _ _,
              fun u hu v hv => List.mem_singleton.1 hv ▸ hlt u hu⟩
          · rw [hfin, List.mem_append, List.mem_singleton]
            exact ⟨Or.inl, fun h1 => h1.resolve_right (List.cons_ne_nil _ _).symm⟩
          · rw [hnum, List.length_append]; rfl
          · intro c'
            rw [sub_append, sub_cons_cons, sub_nil]
            by_cases hcc : a = c'
            · subst hcc
              rw [if_pos rfl]
              exact ⟨fun _ => List.append_ne_nil_of_right_ne_nil _ (List.cons_ne_nil _ _),
                fun _ => hlabs ▸ List.mem_append_right _ (List.mem_singleton.2 rfl)⟩
            · rw [if_neg hcc, List.append_nil]; exact hmem c'
          · intro j c' q hj hq
            obtain ⟨h1, h2⟩ := hkids j c' q hj hq
            have hc' : a ≠ c' := by
              intro h3; subst h3; exact hcls (List.mem_of_getElem? hj)
            rw [sub_append, sub_cons_cons, sub_nil, if_neg hc', List.append_nil]
            exact ⟨hpost.regSub q h1, h2.frame hreg.closed hag3 h1⟩
          · have : sub (L ++ [a :: x']) a = sub L a ++ [x'] := by
              rw [sub_append, sub_cons_cons, sub_nil, if_pos rfl]
            rw [this]
            exact hpost.spine
        · rw [List.nodup_cons]
          refine ⟨?_, hpost.nodup⟩
          intro hmem
          rcases hpost.spNew p hmem with h1 | h1
          · exact hnd.1 h1
          · exact Nat.lt_irrefl p (Nat.lt_of_lt_of_le hplt (hsz' ▸ h1))
        · intro i hi hisp
          rw [List.mem_cons, not_or] at hisp
          rw [hpost.frame i (hsz'.symm ▸ hi) hisp.2]
          show (h.setIfInBounds s _)[i]? = _
          rw [Array.getElem?_setIfInBounds_ne (fun (h1 : s = i) => hisp.2 (by rw [← h1]; exact List.mem_cons_self))]
        · intro q hq
          rw [List.mem_cons] at hq
          rcases hq with rfl | hq
          · exact Or.inl List.mem_cons_self
          · rcases hpost.spNew q hq with h1 | h1
            · exact Or.inl (List.mem_cons_of_mem _ h1)
            · exact Or.inr (hsz' ▸ h1)
        · intro u hu
          rcases hpost.regSup u hu with h1 | h1
          · exact Or.inl h1
          · exact Or.inr (List.mem_cons_of_mem _ h1)

end Dawg
