import Mamba.Lemmas.CodecBase
import Mamba.Lemmas.CodecCount
/-!
`NewDense`, `DenseGraph.IsEdge` and the canonical dense value `denseOf` (C07/C08).
-/
namespace Codec
open GraphSpec
open GraphRep (upperPairs)

theorem foldlM_flatMap_outcome {α β γ : Type} (f : β → α → Outcome β) (h : γ → List α) (l : List γ) (b : β) :
    (l.flatMap h).foldlM f b = l.foldlM (fun b c => (h c).foldlM f b) b := by
  induction l generalizing b with
  | nil => rfl
  | cons x xs ih =>
    simp only [List.flatMap_cons, List.foldlM_cons, List.foldlM_append]
    cases (h x).foldlM f b with
    | ok b1 => exact ih b1
    | panic => rfl
    | outOfFuel => rfl

theorem newDense_loop_eq (n : Nat) (edges : Array Nat) (st : Array Nat × Nat × Nat) :
    (List.range n).foldlM (fun st j => (List.range j).foldlM (newDenseStep edges j) st) st =
      (upperPairs n).foldlM (fun st p => newDenseStep edges p.2 st p.1) st := by
  unfold upperPairs
  rw [foldlM_flatMap_outcome]
  congr 1; funext st j
  rw [List.foldlM_map]

theorem Dense.isEdge_symm (d : Dense) (i j : Nat) : d.isEdge i j = d.isEdge j i := by
  unfold Dense.isEdge
  rcases Nat.lt_trichotomy i j with h | h | h
  · have h1 : ¬ j < i := by omega
    simp only [h, h1, if_true, if_false, Bool.or_comm]
  · subst h; rfl
  · have h1 : ¬ i < j := by omega
    simp only [h, h1, if_true, if_false, Bool.or_comm]

theorem Dense.isEdge_lt {d : Dense} (hs : d.edges.size = tri d.n) {i j : Nat} (hij : i < j) (hj : j < d.n) :
    d.isEdge i j = .ok (decide (0 < d.edges.getD (tri j + i) 0)) := by
  have hlt : tri j + i < d.edges.size := hs ▸ tri_add_lt hij hj
  unfold Dense.isEdge
  have h1 : ¬ i ≥ d.n := by omega
  have h2 : ¬ j ≥ d.n := by omega
  have e : d.edges[j * (j - 1) / 2 + i]? = some (d.edges.getD (tri j + i) 0) := by
    show d.edges[tri j + i]? = _
    simp [Array.getD, hlt]
  simp only [h1, h2, hij, decide_false, Bool.or_self, Bool.false_eq_true, if_false, if_true, e]

theorem Dense.isEdge_ok {d : Dense} (hs : d.edges.size = tri d.n) (i j : Nat) :
    d.isEdge i j = .ok (d.toG.adj i j) := by
  have key : ∀ b : Bool, d.isEdge i j = .ok b → d.isEdge i j = .ok (d.toG.adj i j) := by
    intro b hb
    show _ = Outcome.ok (d.isEdge i j == .ok true)
    rw [hb]; cases b <;> rfl
  rcases Nat.lt_trichotomy i j with h | h | h
  · by_cases hj : j < d.n
    · exact key _ (Dense.isEdge_lt hs h hj)
    · refine key false ?_
      unfold Dense.isEdge
      have : j ≥ d.n := by omega
      simp [this]
  · subst h
    refine key false ?_
    unfold Dense.isEdge
    simp
  · by_cases hi : i < d.n
    · exact key _ ((Dense.isEdge_symm d i j).trans (Dense.isEdge_lt hs h hi))
    · refine key false ?_
      unfold Dense.isEdge
      have : i ≥ d.n := by omega
      simp [this]

theorem Dense.isEdge_ne_panic {d : Dense} (hs : d.edges.size = tri d.n) (i j : Nat) : d.isEdge i j ≠ .panic := by
  rw [Dense.isEdge_ok hs]; exact ok_ne_panic _

theorem Dense.isEdge_ne_outOfFuel {d : Dense} (hs : d.edges.size = tri d.n) (i j : Nat) :
    d.isEdge i j ≠ .outOfFuel := by
  rw [Dense.isEdge_ok hs]; exact ok_ne_outOfFuel _

theorem Dense.toG_wf (d : Dense) : d.toG.WF where
  symm := by intro u v; show (d.isEdge u v == .ok true) = (d.isEdge v u == .ok true); rw [Dense.isEdge_symm]
  irrefl := by intro v; show (d.isEdge v v == .ok true) = false; unfold Dense.isEdge; simp
  supp := by
    intro u v h
    have h' : (d.isEdge u v == .ok true) = true := h
    unfold Dense.isEdge at h'
    by_cases hc : (decide (u ≥ d.n) || decide (v ≥ d.n)) = true
    · rw [if_pos hc] at h'; simp at h'
    · simp only [Bool.or_eq_true, decide_eq_true_eq, not_or] at hc
      show u < d.n ∧ v < d.n
      exact ⟨by omega, by omega⟩

theorem Dense.WF.toG_wf {d : Dense} (_h : d.WF) : d.toG.WF := Dense.toG_wf d

theorem Dense.toG_adj_lt {d : Dense} (hs : d.edges.size = tri d.n) {i j : Nat} (hij : i < j) (hj : j < d.n) :
    d.toG.adj i j = decide (0 < d.edges.getD (tri j + i) 0) := by
  show (d.isEdge i j == .ok true) = _
  rw [Dense.isEdge_lt hs hij hj]
  cases decide (0 < d.edges.getD (tri j + i) 0) <;> rfl

theorem newDenseStep_pos {edges : Array Nat} {st : Array Nat × Nat × Nat} {i j e x y : Nat}
    (he : edges[st.2.2]? = some e) (hpos : 0 < e) (hij : i ≠ j)
    (hx : st.1[i]? = some x) (hy : st.1[j]? = some y) :
    newDenseStep edges j st i =
      .ok ((st.1.setIfInBounds i (x + 1)).setIfInBounds j (y + 1), st.2.1 + 1, st.2.2 + 1) := by
  unfold newDenseStep
  rw [he]
  simp only [gt_iff_lt, hpos, if_true]
  rw [incr_of_getElem? hx]
  simp only []
  have hy' : (st.1.setIfInBounds i (x + 1))[j]? = some y := by
    rw [Array.getElem?_setIfInBounds, if_neg hij]; exact hy
  rw [incr_of_getElem? hy']

theorem newDenseStep_zero {edges : Array Nat} {st : Array Nat × Nat × Nat} {i j e : Nat}
    (he : edges[st.2.2]? = some e) (hz : ¬ 0 < e) :
    newDenseStep edges j st i = .ok (st.1, st.2.1, st.2.2 + 1) := by
  unfold newDenseStep
  rw [he]
  simp only [gt_iff_lt, hz, if_false]

def touchAdj (g : G) (v : Nat) (p : Nat × Nat) : Bool := g.adj p.1 p.2 && (p.1 == v || p.2 == v)

/-- invariant of the loop of `NewDense` after `t` pairs -/
def NDInv (n : Nat) (g : G) (t : Nat) (st : Array Nat × Nat × Nat) : Prop :=
  st.2.2 = t ∧ st.2.1 = ((upperPairs n).take t).countP (fun p => g.adj p.1 p.2) ∧ st.1.size = n ∧
    ∀ v, v < n → st.1[v]? = some (((upperPairs n).take t).countP (touchAdj g v))

theorem newDense_step_inv (n : Nat) (edges : Array Nat) (g : G) (hs : edges.size = tri n)
    (hg : ∀ i j, i < j → j < n → g.adj i j = decide (0 < edges.getD (tri j + i) 0))
    (t : Nat) (ht : t < (upperPairs n).length) (st : Array Nat × Nat × Nat) (hinv : NDInv n g t st) :
    ∃ st', newDenseStep edges (upperPairs n)[t].2 st (upperPairs n)[t].1 = .ok st' ∧ NDInv n g (t + 1) st' := by
  obtain ⟨h1, h2, h3, h4⟩ := hinv
  have hp : (upperPairs n)[t]? = some (upperPairs n)[t] := List.getElem?_eq_getElem ht
  generalize (upperPairs n)[t] = p at hp
  obtain ⟨i, j⟩ := p
  obtain ⟨hij, hj, hidx⟩ := upperPairs_index hp
  simp only at hij hj hidx
  have htake : (upperPairs n).take (t + 1) = (upperPairs n).take t ++ [(i, j)] := by
    rw [List.take_succ_eq_append_getElem ht]
    congr 2
    exact Option.some.inj ((List.getElem?_eq_getElem ht).symm.trans hp)
  have hts : t < edges.size := by rw [hs, ← upperPairs_length]; exact ht
  have he : edges[st.2.2]? = some (edges.getD t 0) := by
    rw [h1]; simp [Array.getD, hts]
  have hadj : g.adj i j = decide (0 < edges.getD t 0) := by rw [hg i j hij hj, hidx]
  by_cases hpos : 0 < edges.getD t 0
  · have ha : g.adj i j = true := by rw [hadj]; exact decide_eq_true hpos
    have hi : i < n := by omega
    refine ⟨_, newDenseStep_pos he hpos (by omega) (h4 i hi) (h4 j hj), ?_, ?_, ?_, ?_⟩
    · simp only [h1]
    · simp only [h2, htake, List.countP_append, List.countP_singleton, ha, if_true]
    · simp only [Array.size_setIfInBounds, h3]
    · intro v hv
      simp only [htake, List.countP_append, List.countP_singleton, touchAdj, ha, Bool.true_and]
      rw [Array.getElem?_setIfInBounds, Array.getElem?_setIfInBounds, h4 v hv]
      simp only [Array.size_setIfInBounds, h3, hi, hj, if_true]
      by_cases c1 : j = v
      · have c2 : ¬ i = v := by omega
        simp [c1]
      · by_cases c2 : i = v
        · simp [c1, c2]
        · simp [c1, c2]
  · have ha : g.adj i j = false := by rw [hadj]; exact decide_eq_false hpos
    refine ⟨_, newDenseStep_zero he hpos, ?_, ?_, ?_, ?_⟩
    · simp only [h1]
    · simp only [h2, htake, List.countP_append, List.countP_singleton, ha]; simp
    · exact h3
    · intro v hv
      simp only [htake, List.countP_append, List.countP_singleton, touchAdj, ha, Bool.false_and]
      simpa using h4 v hv

theorem newDense_loop (n : Nat) (edges : Array Nat) (g : G) (hs : edges.size = tri n)
    (hg : ∀ i j, i < j → j < n → g.adj i j = decide (0 < edges.getD (tri j + i) 0)) :
    ∃ st, (upperPairs n).foldlM (fun st p => newDenseStep edges p.2 st p.1) (Array.replicate n 0, 0, 0) = .ok st ∧
      st.2.1 = (upperPairs n).countP (fun p => g.adj p.1 p.2) ∧ st.1.size = n ∧
      ∀ v, v < n → st.1[v]? = some ((upperPairs n).countP (touchAdj g v)) := by
  obtain ⟨st, h, hinv⟩ := foldlM_inv (fun st p => newDenseStep edges p.2 st p.1) (NDInv n g) (upperPairs n) 0
    (Array.replicate n 0, 0, 0)
    ⟨rfl, by simp, by simp, by intro v hv; simp [hv]⟩
    (by
      intro t ht st hinv
      rw [Nat.zero_add] at hinv ⊢
      exact newDense_step_inv n edges g hs hg t ht st hinv)
  obtain ⟨_, h2, h3, h4⟩ := hinv
  rw [Nat.zero_add, List.take_length] at h2 h4
  exact ⟨st, h, h2, h3, h4⟩

theorem countP_touchAdj (g : G) (h : g.WF) {v : Nat} (hv : v < g.n) :
    (upperPairs g.n).countP (touchAdj g v) = g.deg v := by
  have := GraphRep.countP_upperPairs_incident g.adj h.symm h.irrefl g.n v
  rw [if_pos hv] at this
  exact this.trans List.countP_eq_length_filter

theorem newDense_ok (n : Nat) (edges : Array Nat) (h : edges.size = n * (n - 1) / 2) :
    ∃ d, newDense n edges = .ok d ∧ d.WF ∧ d.n = n ∧ d.edges = edges := by
  have hs : edges.size = tri n := h
  let d0 : Dense := { n := n, m := 0, deg := #[], edges := edges }
  have hg : ∀ i j, i < j → j < n → d0.toG.adj i j = decide (0 < edges.getD (tri j + i) 0) :=
    fun i j hij hj => Dense.toG_adj_lt (d := d0) hs hij hj
  obtain ⟨st, hrun, hm, hsz, hdeg⟩ := newDense_loop n edges d0.toG hs hg
  refine ⟨{ n := n, m := st.2.1, deg := st.1, edges := edges }, ?_, ?_, rfl, rfl⟩
  · unfold newDense
    rw [if_neg (fun hne => hne h), newDense_loop_eq, hrun]
  · have e : ({ n := n, m := st.2.1, deg := st.1, edges := edges } : Dense).toG = d0.toG := rfl
    refine ⟨h, hsz, ?_, ?_⟩
    · intro v hv
      rw [e, ← countP_touchAdj d0.toG (Dense.toG_wf d0) (v := v) hv]
      exact hdeg v hv
    · rw [e, GraphRep.m_eq_countP]; exact hm

theorem Dense.WF.ext {d1 d2 : Dense} (h1 : d1.WF) (h2 : d2.WF) (hn : d1.n = d2.n) (he : d1.edges = d2.edges) :
    d1 = d2 := by
  have hG : d1.toG = d2.toG := by
    show ({ n := d1.n, adj := fun u v => d1.isEdge u v == .ok true } : G) =
      { n := d2.n, adj := fun u v => d2.isEdge u v == .ok true }
    unfold Dense.isEdge
    rw [hn, he]
  have hm : d1.m = d2.m := by rw [h1.m_eq, h2.m_eq, hG]
  have hd : d1.deg = d2.deg := by
    apply Array.ext
    · rw [h1.deg_size, h2.deg_size, hn]
    · intro v hv1 hv2
      have a := h1.deg_eq v (by rw [← h1.deg_size]; exact hv1)
      have b := h2.deg_eq v (by rw [← h2.deg_size]; exact hv2)
      rw [Array.getElem?_eq_getElem hv1] at a
      rw [Array.getElem?_eq_getElem hv2] at b
      rw [Option.some.inj a, Option.some.inj b, hG]
  cases d1; cases d2
  simp only at hn he hm hd
  subst hn he hm hd
  rfl

theorem denseOf_adj (g : G) (h : g.WF) (u v : Nat) : (denseOf g).toG.adj u v = g.adj u v := by
  have hs : (denseOf g).edges.size = tri (denseOf g).n := by
    show (upperBits g).toArray.size = tri g.n
    rw [List.size_toArray, upperBits_length]
  have key : ∀ i j, i < j → j < g.n → (denseOf g).toG.adj i j = g.adj i j := by
    intro i j hij hj
    rw [Dense.toG_adj_lt hs hij hj]
    show decide (0 < (upperBits g).toArray.getD (tri j + i) 0) = _
    have : (upperBits g).toArray.getD (tri j + i) 0 = if g.adj i j then 1 else 0 := by
      have := upperBits_getElem? g hij hj
      rw [Array.getD_eq_getD_getElem?, List.getElem?_toArray, this]; rfl
    rw [this]
    cases g.adj i j <;> rfl
  exact adj_ext_upper (Dense.toG_wf (denseOf g)) h rfl key u v

theorem denseOf_toG_eq (g : G) (h : g.WF) : (denseOf g).toG = g := by
  have : (denseOf g).toG.adj = g.adj := by funext u v; exact denseOf_adj g h u v
  cases g
  show ({ n := _, adj := _ } : G) = _
  congr 1

theorem denseOf_wf (g : G) (h : g.WF) : (denseOf g).WF where
  edges_size := by
    show (upperBits g).toArray.size = tri g.n
    rw [List.size_toArray, upperBits_length]
  deg_size := by show ((List.range g.n).map g.deg).toArray.size = g.n; simp
  deg_eq := by
    intro v hv
    rw [denseOf_toG_eq g h]
    show ((List.range g.n).map g.deg).toArray[v]? = _
    have hv' : v < g.n := hv
    simp [hv']
  m_eq := by rw [denseOf_toG_eq g h]; rfl

theorem newDense_denseOf (g : G) (h : g.WF) : newDense g.n (upperBits g).toArray = .ok (denseOf g) := by
  obtain ⟨d, hd, hwf, hn, he⟩ := newDense_ok g.n (upperBits g).toArray (by
    rw [List.size_toArray, upperBits_length]; rfl)
  rw [hd, Dense.WF.ext hwf (denseOf_wf g h) hn he]

theorem newDenseNil_adj (n u v : Nat) : (newDenseNil n).toG.adj u v = false := by
  have hs : (newDenseNil n).edges.size = tri (newDenseNil n).n := by
    show (Array.replicate (n * (n - 1) / 2) 0).size = tri n
    rw [Array.size_replicate]; rfl
  have hempty : ({ n := n, adj := fun _ _ => false } : G).WF := ⟨fun _ _ => rfl, fun _ => rfl, fun _ _ h => by cases h⟩
  refine adj_ext_upper (Dense.toG_wf (newDenseNil n)) hempty rfl ?_ u v
  intro i j hij hj
  rw [Dense.toG_adj_lt hs hij hj]
  have hz : (newDenseNil n).edges.getD (tri j + i) 0 = 0 := by
    show (Array.replicate (n * (n - 1) / 2) 0).getD (tri j + i) 0 = 0
    rw [Array.getD_eq_getD_getElem?, Array.getElem?_replicate]
    split <;> rfl
  rw [hz]; rfl

theorem newDenseNil_wf (n : Nat) : (newDenseNil n).WF where
  edges_size := by show (Array.replicate (n * (n - 1) / 2) 0).size = _; rw [Array.size_replicate]; rfl
  deg_size := by show (Array.replicate n 0).size = n; rw [Array.size_replicate]
  deg_eq := by
    intro v hv
    rw [(GraphRep.empty_counts (newDenseNil_adj n)).2 v]
    show (Array.replicate n 0)[v]? = some 0
    rw [Array.getElem?_replicate, if_pos (show v < n from hv)]
  m_eq := by rw [(GraphRep.empty_counts (newDenseNil_adj n)).1]; rfl

theorem denseOf_toG (d : Dense) (h : d.WF) (h01 : ∀ e ∈ d.edges.toList, e = 0 ∨ e = 1) : denseOf d.toG = d := by
  have hs : d.edges.size = tri d.n := h.edges_size
  refine Dense.WF.ext (denseOf_wf d.toG (Dense.toG_wf d)) h rfl ?_
  show (upperBits d.toG).toArray = d.edges
  apply Array.ext'
  show upperBits d.toG = d.edges.toList
  apply List.ext_getElem?
  intro k
  by_cases hk : k < tri d.n
  · have hk' : k < (upperPairs d.n).length := by rw [upperPairs_length]; exact hk
    have hp : (upperPairs d.n)[k]? = some (upperPairs d.n)[k] := List.getElem?_eq_getElem hk'
    generalize (upperPairs d.n)[k] = p at hp
    obtain ⟨i, j⟩ := p
    obtain ⟨hij, hj, hidx⟩ := upperPairs_index hp
    simp only at hij hj hidx
    have hj' : j < d.toG.n := hj
    rw [hidx, upperBits_getElem? d.toG hij hj', Dense.toG_adj_lt hs hij hj, ← hidx]
    have hks : k < d.edges.size := by rw [hs]; exact hk
    have hget : d.edges.getD k 0 = d.edges[k] := by simp [Array.getD, hks]
    rw [hget, Array.getElem?_toList, Array.getElem?_eq_getElem hks]
    have hmem : d.edges[k] ∈ d.edges.toList := by
      rw [Array.mem_toList_iff]; exact Array.getElem_mem hks
    rcases h01 _ hmem with e | e <;> rw [e] <;> rfl
  · rw [List.getElem?_eq_none (by rw [upperBits_length]; exact Nat.le_of_not_lt hk),
      List.getElem?_eq_none (by rw [Array.length_toList, hs]; exact Nat.le_of_not_lt hk)]

end Codec
