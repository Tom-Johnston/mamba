import Mathlib.Data.List.Chain
import Mathlib.Data.List.Nodup
import Mamba.Lemmas.IterMSCombInv
import Mamba.Lemmas.IterChain
/-!
# `MultisetCombinations` (Knuth 7.2.1.3, Algorithm Q): the unexported `next()`

The family as a list in generation order (`msColexList`: colexicographic, the LAST differing type decides), its successor
as a pointwise relation (`MsNextN`) and as a function (`msSucc`), and the list as a chain of successor steps from the
greedy fill to a vector without successor (`msColexN_chain`).  Refinement: on multiplicities `m` with `MGood m` (none is
negative, `m[0] ≥ 1`, and `m[0] = 1`, `m[1] = 0` is not followed by a positive one; on the others `next()` as coded
misses members or panics) one call of `next()` neither panics nor runs out of fuel, moves the count vector to its
successor and keeps the pointer invariant `ISat ∨ IZero` (`MSComb.next0_step`, `MSComb.next0_first`).  The exported
`Next()` is assembled in `IterMSCombScatter`.
-/

namespace Iter.Spec

/-- the count vectors of the first `n` types with total `k`, in colexicographic order (the count of the LAST type
is the most significant): for each feasible count `v` of type `n`, from the smallest to the largest, the vectors
of the first `n` types with total `k - v`, each with `v` appended. -/
def msColexN (m : List Int) : Nat → Int → List (List Int)
  | 0, k => if k = 0 then [[]] else []
  | n+1, k =>
    (List.range (min (m.getD n 0) k + 1 - max 0 (k - (m.take n).sum)).toNat).flatMap
      (fun (t : Nat) => (msColexN m n (k - (max 0 (k - (m.take n).sum) + (t : Int)))).map
        (fun c => c ++ [max 0 (k - (m.take n).sum) + (t : Int)]))

/-- the family of `MultisetCombinations(m, k)` (count vectors) in the order of generation -/
def msColexList (m : List Int) (k : Int) : List (List Int) := msColexN m m.length k

/-- greedy fill of `x` copies into the first `n` types, from type 0 -/
def msGreedy (m : List Int) (n : Nat) (x : Int) : List Int :=
  (List.range n).map (fun i => min (m.getD i 0) (max 0 (x - (m.take i).sum)))

/-- increment type `j`, keep the types above, refill the rest (one copy less) greedily from type 0 -/
def msSuccAt (m c : List Int) (j : Nat) : List Int :=
  msGreedy m j ((c.take j).sum - 1) ++ (c.getD j 0 + 1) :: c.drop (j + 1)

/-- the colex successor: `j` is the lowest type `≥ 1` that is not saturated and has a copy below it -/
def msSucc (m c : List Int) : Option (List Int) :=
  ((List.range c.length).find? (fun j => decide (1 ≤ j ∧ c.getD j 0 < m.getD j 0 ∧ 0 < (c.take j).sum))).map
    (msSuccAt m c)

end Iter.Spec

namespace Iter
open Spec

theorem G_set_lt {c : List Int} {i : Nat} (h : i < c.length) (v : Int) (j : Nat) :
    G (c.set i v) j = if j = i then v else G c j := by
  rw [G_set]
  by_cases hj : j = i
  · rw [if_pos hj, if_pos ⟨hj.symm, h⟩]
  · rw [if_neg hj, if_neg fun hh => hj hh.1.symm]

theorem G_ge (c : List Int) (i : Nat) (h : c.length ≤ i) : G c i = 0 := by
  simp [G, List.getD_eq_getElem?_getD, List.getElem?_eq_none h]

theorem G_lt (c : List Int) (i : Nat) (h : i < c.length) : G c i = c[i] := by
  simp [G, List.getD_eq_getElem?_getD, List.getElem?_eq_getElem h]

theorem G_append (a b : List Int) (i : Nat) : G (a ++ b) i = if i < a.length then G a i else G b (i - a.length) := by
  simp only [G, List.getD_eq_getElem?_getD]
  by_cases h : i < a.length
  · simp [h, List.getElem?_append_left h]
  · simp only [h, if_false]; rw [List.getElem?_append_right (by omega)]

theorem G_snoc (x : List Int) (v : Int) (i : Nat) :
    G (x ++ [v]) i = if i < x.length then G x i else if i = x.length then v else 0 := by
  rw [G_append]
  by_cases h : i < x.length
  · rw [if_pos h, if_pos h]
  · rw [if_neg h, if_neg h]
    by_cases h2 : i = x.length
    · rw [if_pos h2, h2, Nat.sub_self]; rfl
    · obtain ⟨t, ht⟩ : ∃ t, i - x.length = t + 1 := ⟨i - x.length - 1, by omega⟩
      rw [if_neg h2, ht]; rfl

theorem PS_snoc (x : List Int) (v : Int) (i : Nat) (h : i ≤ x.length) : PS (x ++ [v]) i = PS x i := by
  simp only [PS]; rw [List.take_append_of_le_length h]

theorem PS_ge (x : List Int) (i : Nat) (h : x.length ≤ i) : PS x i = x.sum := by
  simp only [PS]; rw [List.take_of_length_le h]

theorem G_ext (a b : List Int) (hl : a.length = b.length) (h : ∀ i, i < a.length → G a i = G b i) : a = b := by
  apply List.ext_getElem hl
  intro i h1 h2
  have := h i h1
  rwa [G_lt a i h1, G_lt b i h2] at this

theorem PS_bounds (m c : List Int) (n : Nat) (hb : ∀ i, i < n → 0 ≤ G c i ∧ G c i ≤ G m i) :
    ∀ j, j ≤ n → 0 ≤ PS c j ∧ PS c j ≤ PS m j := by
  intro j
  induction j with
  | zero => intro _; simp [PS]
  | succ j ih =>
    intro hj
    have := ih (by omega)
    have := hb j (by omega)
    rw [PS_succ, PS_succ]; omega

theorem PS_zeros (c : List Int) (a : Nat) (b : Nat) (hab : a ≤ b) (hs : ∀ i, a ≤ i → i < b → G c i = 0) :
    PS c b = PS c a := by
  have := PS_sat [] c a b hab (fun i h1 h2 => by rw [hs i h1 h2]; rfl)
  simp only [PS, List.take_nil, List.sum_nil, Int.sub_self] at this
  simp only [PS]; omega

def InFamN (m : List Int) (n : Nat) (k : Int) (c : List Int) : Prop :=
  c.length = n ∧ (∀ i, i < n → 0 ≤ G c i ∧ G c i ≤ G m i) ∧ c.sum = k

theorem msColexN_succ (m : List Int) (n : Nat) (k : Int) :
    msColexN m (n + 1) k = (List.range (min (G m n) k + 1 - max 0 (k - PS m n)).toNat).flatMap
      (fun (t : Nat) => (msColexN m n (k - (max 0 (k - PS m n) + (t : Int)))).map
        (fun c => c ++ [max 0 (k - PS m n) + (t : Int)])) := rfl

theorem InFamN_snoc (m : List Int) (n : Nat) (k v : Int) (c0 : List Int) :
    InFamN m (n + 1) k (c0 ++ [v]) ↔ InFamN m n (k - v) c0 ∧ 0 ≤ v ∧ v ≤ G m n := by
  constructor
  · rintro ⟨hl, hb, hs⟩
    have hl0 : c0.length = n := by simpa using hl
    refine ⟨⟨hl0, ?_, ?_⟩, ?_⟩
    · intro i hi
      have := hb i (by omega)
      rw [G_snoc] at this
      simpa [hl0, hi] using this
    · simp only [List.sum_append, List.sum_cons, List.sum_nil] at hs; omega
    · have := hb n (by omega)
      rw [G_snoc] at this
      simpa [hl0] using this
  · rintro ⟨⟨hl0, hb, hs⟩, hv0, hv1⟩
    refine ⟨by simp [hl0], ?_, ?_⟩
    · intro i hi
      rw [G_snoc]
      by_cases h : i < n
      · simpa [hl0, h] using hb i h
      · have : i = n := by omega
        subst this; simp [hl0]; exact ⟨hv0, hv1⟩
    · simp only [List.sum_append, List.sum_cons, List.sum_nil]; omega

theorem InFamN.sum_bounds {m : List Int} {n : Nat} {k : Int} {c : List Int} (h : InFamN m n k c) :
    0 ≤ k ∧ k ≤ PS m n := by
  obtain ⟨hl, hb, hs⟩ := h
  have := PS_bounds m c n hb n (le_refl _)
  rw [PS_ge c n (by omega), hs] at this
  exact this

theorem mem_msColexN (m : List Int) : ∀ (n : Nat) (k : Int) (c : List Int), c ∈ msColexN m n k ↔ InFamN m n k c := by
  intro n
  induction n with
  | zero =>
    intro k c
    simp only [msColexN, InFamN]
    constructor
    · intro h
      split at h
      · next hk => simp at h; subst h; simp [hk]
      · simp at h
    · rintro ⟨hl, _, hs⟩
      have : c = [] := List.length_eq_zero_iff.mp hl
      subst this
      simp at hs
      simp [← hs]
  | succ n ih =>
    intro k c
    rw [msColexN_succ]
    simp only [List.mem_flatMap, List.mem_range, List.mem_map]
    constructor
    · rintro ⟨t, ht, c0, hc0, rfl⟩
      rw [InFamN_snoc]
      rw [ih] at hc0
      refine ⟨hc0, by omega, by omega⟩
    · intro h
      rcases List.eq_nil_or_concat c with rfl | ⟨c0, v, rfl⟩
      · have := h.1; simp at this
      · rw [List.concat_eq_append] at h ⊢
        rw [InFamN_snoc] at h
        obtain ⟨h0, hv0, hv1⟩ := h
        have hsb := h0.sum_bounds
        have e : max 0 (k - PS m n) + ((v - max 0 (k - PS m n)).toNat : Int) = v := by omega
        refine ⟨(v - max 0 (k - PS m n)).toNat, by omega, c0, ?_, by rw [e]⟩
        rw [ih, e]; exact h0

theorem InFamN_iff_InFam (m : List Int) (k : Int) (c : List Int) : InFamN m m.length k c ↔ InFam m k c := Iff.rfl

theorem mem_msColexList (m : List Int) (k : Int) (c : List Int) :
    c ∈ msColexList m k ↔ c.length = m.length ∧ (∀ i, i < m.length → 0 ≤ G c i ∧ G c i ≤ G m i) ∧ c.sum = k :=
  mem_msColexN m m.length k c

/-- `c'` is the colex successor of `c` among the vectors of the first `n` types: `j ≥ 1` is the lowest type that is not
saturated and has a copy below it; it is incremented, the types above are kept, and the remaining `PS c j - 1` copies
are redistributed greedily from type 0. -/
def MsNextN (m : List Int) (n : Nat) (c c' : List Int) : Prop :=
  ∃ j, 1 ≤ j ∧ j < n ∧ G c j < G m j ∧ 0 < PS c j ∧ (∀ i, 1 ≤ i → i < j → G c i < G m i → PS c i ≤ 0) ∧
    c.length = n ∧ c'.length = n ∧
    (∀ i, i < j → G c' i = min (G m i) (max 0 (PS c j - 1 - PS m i))) ∧ G c' j = G c j + 1 ∧
    ∀ i, j < i → G c' i = G c i

/-- no type can be incremented -/
def NoNextN (m : List Int) (n : Nat) (c : List Int) : Prop :=
  ∀ j, 1 ≤ j → j < n → G c j < G m j → PS c j ≤ 0

/-- the greedy fill of `k` copies from type 0 -/
def IsGreedyN (m : List Int) (n : Nat) (k : Int) (c : List Int) : Prop :=
  c.length = n ∧ ∀ i, i < n → G c i = min (G m i) (max 0 (k - PS m i))

theorem MsNextN.not_noNext {m : List Int} {n : Nat} {c c' : List Int} (h : MsNextN m n c c') : ¬ NoNextN m n c := by
  obtain ⟨j, h1, h2, h3, h4, _⟩ := h
  intro hn
  have := hn j h1 h2 h3
  omega

theorem MsNextN.unique {m : List Int} {n : Nat} {c c1 c2 : List Int} (h1 : MsNextN m n c c1) (h2 : MsNextN m n c c2) :
    c1 = c2 := by
  obtain ⟨j1, a1, a2, a3, a4, a5, a6, a7, a8, a9, a10⟩ := h1
  obtain ⟨j2, b1, b2, b3, b4, b5, b6, b7, b8, b9, b10⟩ := h2
  have hj : j1 = j2 := by
    rcases Nat.lt_trichotomy j1 j2 with h | h | h
    · have := b5 j1 a1 h a3; omega
    · exact h
    · have := a5 j2 b1 h b3; omega
  subst hj
  apply G_ext c1 c2 (by omega)
  intro i hi
  rcases Nat.lt_trichotomy i j1 with h | h | h
  · rw [a8 i h, b8 i h]
  · subst h; rw [a9, b9]
  · rw [a10 i h, b10 i h]

theorem IsGreedyN.unique {m : List Int} {n : Nat} {k : Int} {c1 c2 : List Int} (h1 : IsGreedyN m n k c1)
    (h2 : IsGreedyN m n k c2) : c1 = c2 := by
  apply G_ext c1 c2 (by rw [h1.1, h2.1])
  intro i hi
  rw [h1.2 i (by rw [← h1.1]; exact hi), h2.2 i (by rw [← h1.1]; exact hi)]

theorem MsNextN.snoc {m : List Int} {n : Nat} {a b : List Int} (v : Int) (h : MsNextN m n a b) :
    MsNextN m (n + 1) (a ++ [v]) (b ++ [v]) := by
  obtain ⟨j, a1, a2, a3, a4, a5, a6, a7, a8, a9, a10⟩ := h
  refine ⟨j, a1, by omega, ?_, ?_, ?_, by simp [a6], by simp [a7], ?_, ?_, ?_⟩
  · rw [G_snoc]; simpa [a6, a2] using a3
  · rw [PS_snoc a v j (by omega)]; exact a4
  · intro i h1 h2
    rw [G_snoc, PS_snoc a v i (by omega)]
    have : i < a.length := by omega
    simpa [this] using a5 i h1 h2
  · intro i hi
    rw [G_snoc, PS_snoc a v j (by omega)]
    have : i < b.length := by omega
    simpa [this] using a8 i hi
  · rw [G_snoc, G_snoc]
    have h1 : j < b.length := by omega
    have h2 : j < a.length := by omega
    simpa [h1, h2] using a9
  · intro i hi
    rw [G_snoc, G_snoc, a6, a7]
    by_cases h : i < n
    · simpa [h] using a10 i hi
    · simp [h]

theorem greedy_of_sat (m c : List Int) (x : Int) (j n : Nat) (hm : ∀ i, 0 ≤ G m i)
    (hsat : ∀ i, i < j → G c i = G m i) (hj : G c j = x - PS m j) (hj0 : 0 ≤ G c j) (hjm : G c j ≤ G m j)
    (hz : ∀ i, j < i → i < n → G c i = 0) (i : Nat) (hi : i < n) :
    G c i = min (G m i) (max 0 (x - PS m i)) := by
  have hmi := hm i
  rcases Nat.lt_trichotomy i j with h | h | h
  · have := PS_mono m hm (i + 1) j (by omega)
    rw [PS_succ] at this
    rw [hsat i h]; omega
  · subst h; omega
  · have := PS_mono m hm (j + 1) i (by omega)
    rw [PS_succ] at this
    rw [hz i h hi]; omega

theorem min_max_of_le {g a b : Int} (ha : g ≤ a) (hb : g ≤ b) : min g (max 0 a) = min g (max 0 b) := by omega

theorem msColexN_chain (m : List Int) (hm : ∀ i, 0 ≤ G m i) : ∀ (n : Nat) (k : Int), 0 ≤ k → k ≤ PS m n →
    msColexN m n k ≠ [] ∧ (msColexN m n k).IsChain (MsNextN m n) ∧
    (∀ x ∈ (msColexN m n k).head?, IsGreedyN m n k x) ∧ (∀ x ∈ (msColexN m n k).getLast?, NoNextN m n x) := by
  intro n
  induction n with
  | zero =>
    intro k hk0 hk1
    rw [PS_zero] at hk1
    have : k = 0 := by omega
    subst this
    refine ⟨by simp [msColexN], by simp [msColexN], ?_, ?_⟩
    · intro x hx
      simp [msColexN] at hx
      subst hx
      exact ⟨rfl, by intro i hi; omega⟩
    · intro x hx j h1 h2; omega
  | succ n ih =>
    intro k hk0 hk1
    rw [PS_succ] at hk1
    have hPn := PS_nonneg m hm n
    have hmn := hm n
    rw [msColexN_succ]
    generalize hlo : max 0 (k - PS m n) = lo
    generalize hhi : min (G m n) k = hi
    have hlohi : lo ≤ hi := by omega
    have hfeas : ∀ t : Nat, t < (hi + 1 - lo).toNat → 0 ≤ k - (lo + (t : Int)) ∧ k - (lo + (t : Int)) ≤ PS m n := by
      intro t ht; omega
    obtain ⟨hc, hl⟩ := isChain_flatMap_range (MsNextN m (n + 1))
      (fun (t : Nat) => (msColexN m n (k - (lo + (t : Int)))).map (fun c => c ++ [lo + (t : Int)]))
      (hi + 1 - lo).toNat
      (by
        intro t ht
        obtain ⟨_, h2, _, _⟩ := ih _ (hfeas t ht).1 (hfeas t ht).2
        rw [List.isChain_map]
        exact h2.imp (fun a b hab => hab.snoc _))
      (by
        intro t ht
        obtain ⟨h1, _, _, _⟩ := ih _ (hfeas t ht).1 (hfeas t ht).2
        simpa using h1)
      (by
        intro t ht x hx y hy
        obtain ⟨_, _, _, h4⟩ := ih _ (hfeas t (by omega)).1 (hfeas t (by omega)).2
        obtain ⟨_, _, h3', _⟩ := ih _ (hfeas (t + 1) ht).1 (hfeas (t + 1) ht).2
        simp only [List.getLast?_map, Option.mem_def, Option.map_eq_some_iff] at hx
        simp only [List.head?_map, Option.mem_def, Option.map_eq_some_iff] at hy
        obtain ⟨x0, hx0, rfl⟩ := hx
        obtain ⟨y0, hy0, rfl⟩ := hy
        have hxn := h4 x0 hx0
        have hxm := (mem_msColexN m n _ x0).mp (List.mem_of_mem_getLast? hx0)
        have hyg := h3' y0 hy0
        obtain ⟨xl, xb, xs⟩ := hxm
        obtain ⟨yl, yg⟩ := hyg
        have hxPS : PS x0 n = k - (lo + (t : Int)) := by rw [PS_ge x0 n (by omega), xs]
        have hn1 : 1 ≤ n := by
          by_contra hc
          have : n = 0 := by omega
          subst this
          rw [PS_zero] at hPn
          have := (hfeas (t + 1) ht).2
          have := (hfeas (t + 1) ht).1
          rw [PS_zero] at *
          push_cast at *
          omega
        refine ⟨n, hn1, by omega, ?_, ?_, ?_, by simp [xl], by simp [yl], ?_, ?_, ?_⟩
        · rw [G_snoc]; simp [xl]; omega
        · rw [PS_snoc x0 _ n (by omega), hxPS]
          have := (hfeas (t + 1) ht).1
          push_cast at this; omega
        · intro i h1 h2
          rw [G_snoc, PS_snoc x0 _ i (by omega)]
          have : i < x0.length := by omega
          simpa [this] using hxn i h1 h2
        · intro i hi
          rw [G_snoc, PS_snoc x0 _ n (by omega), hxPS]
          have : i < y0.length := by omega
          simp only [this, if_true]
          rw [yg i hi]
          push_cast
          have e : k - (lo + ((t : Int) + 1)) = k - (lo + (t : Int)) - 1 := by omega
          rw [e]
        · rw [G_snoc, G_snoc]; simp [xl, yl]; omega
        · intro i hi
          rw [G_snoc, G_snoc, xl, yl]
          have h1 : ¬ i < n := by omega
          have h2 : ¬ i = n := by omega
          simp [h1, h2])
    have hcnt : 0 < (hi + 1 - lo).toNat := by omega
    obtain ⟨hlast, hhead⟩ := hl hcnt
    refine ⟨?_, hc, ?_, ?_⟩
    · intro he
      rw [he] at hhead
      obtain ⟨h1, _, _, _⟩ := ih _ (hfeas 0 hcnt).1 (hfeas 0 hcnt).2
      simp only [List.head?_nil, List.head?_map] at hhead
      cases hh : (msColexN m n (k - (lo + ((0 : Nat) : Int)))).head? with
      | none => rw [List.head?_eq_none_iff] at hh; exact h1 hh
      | some z => rw [hh] at hhead; simp at hhead
    · intro x hx
      rw [hhead] at hx
      obtain ⟨_, _, h3, _⟩ := ih _ (hfeas 0 hcnt).1 (hfeas 0 hcnt).2
      simp only [List.head?_map, Option.mem_def, Option.map_eq_some_iff] at hx
      obtain ⟨x0, hx0, rfl⟩ := hx
      obtain ⟨xl, xg⟩ := h3 x0 hx0
      refine ⟨by simp [xl], ?_⟩
      intro i hi
      rw [G_snoc, xl]
      by_cases h : i < n
      · simp only [h, if_true]
        rw [xg i h]
        have hmi := hm i
        have hmono : PS m (i + 1) ≤ PS m n := PS_mono m hm (i + 1) n (by omega)
        rw [PS_succ] at hmono
        push_cast
        -- either nothing is forced into type `n` (`lo = 0`), or so much that type `i` is saturated anyway
        rcases Int.le_total k (PS m n) with hkn | hkn
        · congr 2; omega
        · exact min_max_of_le (by omega) (by omega)
      · have : i = n := by omega
        subst this
        simp only [lt_irrefl, if_false, if_true]
        push_cast
        omega
    · intro x hx
      rw [hlast] at hx
      have hcnt' : (hi + 1 - lo).toNat - 1 < (hi + 1 - lo).toNat := by omega
      obtain ⟨_, _, _, h4⟩ := ih _ (hfeas _ hcnt').1 (hfeas _ hcnt').2
      simp only [List.getLast?_map, Option.mem_def, Option.map_eq_some_iff] at hx
      obtain ⟨x0, hx0, rfl⟩ := hx
      have hxm := (mem_msColexN m n _ x0).mp (List.mem_of_mem_getLast? hx0)
      obtain ⟨xl, xb, xs⟩ := hxm
      have hxn := h4 x0 hx0
      have ev : lo + (((hi + 1 - lo).toNat - 1 : Nat) : Int) = hi := by omega
      rw [ev] at xs ⊢
      intro j h1 h2
      rw [G_snoc, xl]
      by_cases h : j < n
      · simp only [h, if_true]
        rw [PS_snoc x0 _ j (by omega)]
        exact hxn j h1 h
      · have : j = n := by omega
        subst this
        simp only [lt_irrefl, if_false, if_true]
        intro hlt
        rw [PS_snoc x0 _ j (by omega), PS_ge x0 j (by omega), xs]
        omega

/-- colexicographic order on count vectors: compare the last type where they differ -/
def MsColexLt (a b : List Int) : Prop := ∃ j, G a j < G b j ∧ ∀ i, j < i → G a i = G b i

theorem MsColexLt.trans {a b c : List Int} (h1 : MsColexLt a b) (h2 : MsColexLt b c) : MsColexLt a c := by
  obtain ⟨j1, a1, a2⟩ := h1
  obtain ⟨j2, b1, b2⟩ := h2
  rcases Nat.lt_trichotomy j1 j2 with h | h | h
  · exact ⟨j2, by rw [a2 j2 h]; exact b1, fun i hi => by rw [a2 i (by omega), b2 i hi]⟩
  · subst h; exact ⟨j1, by omega, fun i hi => by rw [a2 i hi, b2 i hi]⟩
  · exact ⟨j1, by rw [← b2 j1 h]; exact a1, fun i hi => by rw [a2 i hi, b2 i (by omega)]⟩

theorem MsColexLt.ne {a b : List Int} (h : MsColexLt a b) : a ≠ b := by
  rintro rfl
  obtain ⟨j, h1, _⟩ := h
  omega

instance : Trans MsColexLt MsColexLt MsColexLt := ⟨MsColexLt.trans⟩

theorem MsNextN.colexLt {m : List Int} {n : Nat} {c c' : List Int} (h : MsNextN m n c c') : MsColexLt c c' := by
  obtain ⟨j, _, _, _, _, _, _, _, _, a9, a10⟩ := h
  exact ⟨j, by omega, fun i hi => (a10 i hi).symm⟩

theorem msColexN_eq_nil (m : List Int) (n : Nat) (k : Int) (h : ¬ (0 ≤ k ∧ k ≤ PS m n)) : msColexN m n k = [] := by
  rw [List.eq_nil_iff_forall_not_mem]
  intro c hc
  exact h ((mem_msColexN m n k c).mp hc).sum_bounds

theorem msColexN_isChain (m : List Int) (hm : ∀ i, 0 ≤ G m i) (n : Nat) (k : Int) :
    (msColexN m n k).IsChain (MsNextN m n) := by
  by_cases h : 0 ≤ k ∧ k ≤ PS m n
  · exact (msColexN_chain m hm n k h.1 h.2).2.1
  · rw [msColexN_eq_nil m n k h]; simp

theorem msColexN_sorted (m : List Int) (hm : ∀ i, 0 ≤ G m i) (n : Nat) (k : Int) :
    (msColexN m n k).Pairwise MsColexLt := by
  rw [← List.isChain_iff_pairwise]
  exact (msColexN_isChain m hm n k).imp (fun a b h => h.colexLt)

theorem msColexList_sorted (m : List Int) (k : Int) (hm : ∀ v ∈ m, 0 ≤ v) : (msColexList m k).Pairwise MsColexLt :=
  msColexN_sorted m (G_nonneg_all m hm) m.length k

theorem msColexList_nodup (m : List Int) (k : Int) (hm : ∀ v ∈ m, 0 ≤ v) : (msColexList m k).Nodup :=
  (msColexList_sorted m k hm).imp (fun h => h.ne)

theorem G_drop (c : List Int) (t i : Nat) : G (c.drop t) i = G c (t + i) := by
  simp [G, List.getD_eq_getElem?_getD, List.getElem?_drop]

theorem msGreedy_length (m : List Int) (n : Nat) (x : Int) : (msGreedy m n x).length = n := by simp [msGreedy]

theorem G_msGreedy (m : List Int) (n : Nat) (x : Int) (i : Nat) (h : i < n) :
    G (msGreedy m n x) i = min (G m i) (max 0 (x - PS m i)) := by
  rw [G_lt _ _ (by rw [msGreedy_length]; exact h)]
  simp [msGreedy, G, PS]

theorem msGreedy_isGreedy (m : List Int) (n : Nat) (x : Int) : IsGreedyN m n x (msGreedy m n x) :=
  ⟨msGreedy_length m n x, fun i hi => G_msGreedy m n x i hi⟩

theorem msSuccAt_next (m c : List Int) (j : Nat) (h1 : 1 ≤ j) (h2 : j < c.length) (h3 : G c j < G m j)
    (h4 : 0 < PS c j) (h5 : ∀ i, 1 ≤ i → i < j → G c i < G m i → PS c i ≤ 0) :
    MsNextN m c.length c (msSuccAt m c j) := by
  refine ⟨j, h1, h2, h3, h4, h5, rfl, ?_, ?_, ?_, ?_⟩
  · simp [msSuccAt, msGreedy_length]; omega
  · intro i hi
    unfold msSuccAt
    rw [G_append, msGreedy_length]
    simp only [hi, if_true]
    exact G_msGreedy m j _ i hi
  · unfold msSuccAt
    rw [G_append, msGreedy_length]
    simp only [lt_irrefl, if_false, Nat.sub_self]
    simp [G]
  · intro i hi
    unfold msSuccAt
    rw [G_append, msGreedy_length]
    have : ¬ i < j := by omega
    simp only [this, if_false]
    obtain ⟨t, ht⟩ : ∃ t, i - j = t + 1 := ⟨i - j - 1, by omega⟩
    rw [ht, G_cons_succ, G_drop]
    congr 1; omega

theorem msSucc_eq_some_iff (m c c' : List Int) (n : Nat) (hl : c.length = n) :
    msSucc m c = some c' ↔ MsNextN m n c c' := by
  subst hl
  unfold msSucc
  rw [Option.map_eq_some_iff]
  constructor
  · rintro ⟨j, hj, rfl⟩
    rw [List.find?_range_eq_some] at hj
    obtain ⟨p1, p2, p3⟩ := hj
    simp only [decide_eq_true_eq] at p1
    rw [List.mem_range] at p2
    apply msSuccAt_next m c j p1.1 p2 p1.2.1 p1.2.2
    intro i h1 h2 h3
    have := p3 i h2
    simp only [Bool.not_eq_true', decide_eq_false_iff_not] at this
    by_contra hc
    exact this ⟨h1, h3, by simp only [PS] at hc; omega⟩
  · intro h
    obtain ⟨j, a1, a2, a3, a4, a5, a6, a7, a8, a9, a10⟩ := id h
    refine ⟨j, ?_, (msSuccAt_next m c j a1 a2 a3 a4 a5).unique h⟩
    rw [List.find?_range_eq_some]
    refine ⟨by simp only [decide_eq_true_eq]; exact ⟨a1, a3, a4⟩, List.mem_range.mpr a2, ?_⟩
    intro i hi
    simp only [Bool.not_eq_true', decide_eq_false_iff_not]
    rintro ⟨b1, b2, b3⟩
    have := a5 i b1 hi b2
    simp only [PS] at this; omega

theorem msSucc_eq_none_iff (m c : List Int) (n : Nat) (hl : c.length = n) :
    msSucc m c = none ↔ NoNextN m n c := by
  subst hl
  unfold msSucc
  rw [Option.map_eq_none_iff, List.find?_eq_none]
  constructor
  · intro h j h1 h2 h3
    have := h j (List.mem_range.mpr h2)
    simp only [decide_eq_true_eq] at this
    by_contra hc
    exact this ⟨h1, h3, by simp only [PS] at hc; omega⟩
  · intro h j hj
    simp only [decide_eq_true_eq]
    rintro ⟨b1, b2, b3⟩
    have := h j b1 (List.mem_range.mp hj) b2
    simp only [PS] at this; omega

theorem ms_get_ok (a : Sl) (i : Nat) (h : i < a.length) : get a (i : Int) = .ok (G a i) := by
  rw [get_natCast, G_lt a i h]; simp [h]

theorem ms_set_ok (a : Sl) (i : Nat) (v : Int) (h : i < a.length) : set a (i : Int) v = .ok (a.set i v) := by
  rw [set_natCast]; simp [h]

/-- `b`: `x` was used up, at index `jn` -/
theorem q2_spec (m : Sl) : ∀ (cnt j : Nat) (x : Int) (st : Sl), st.length = m.length → j + cnt ≤ m.length →
    ∃ st' x' j' b, MSComb.q2 m cnt (j : Int) x st = .ok (st', x', j', b) ∧
    st'.length = m.length ∧ ∃ jn : Nat, j' = (jn : Int) ∧ j ≤ jn ∧
      (∀ i, j ≤ i → i < jn → G st' i = G m i) ∧ (∀ i, i < j → G st' i = G st i) ∧
      (∀ i, jn < i → G st' i = G st i) ∧
      (b = true → jn < m.length ∧ G st' jn = x - (PS m jn - PS m j) ∧ G st' jn ≤ G m jn ∧ x' = 0 ∧
        (0 < x → 0 < G st' jn) ∧ (0 ≤ x → 0 ≤ G st' jn)) ∧
      (b = false → jn = j + cnt ∧ x' = x - (PS m jn - PS m j) ∧ (0 < x → 0 < x') ∧ (0 ≤ x → 0 ≤ x')) := by
  intro cnt
  induction cnt with
  | zero =>
    intro j x st hl _
    exact ⟨st, x, (j : Int), false, rfl, hl, j, rfl, le_refl _, by intro i h1 h2; omega, fun _ _ => rfl,
      fun _ _ => rfl, by simp, fun _ => ⟨by simp, by simp, fun h => h, fun h => h⟩⟩
  | succ cnt ih =>
    intro j x st hl hj
    have hjm : j < m.length := by omega
    have hjl : j < st.length := by omega
    have hset : ∀ v i, i ≠ j → G (st.set j v) i = G st i := fun v i hi => by rw [G_set_lt hjl, if_neg hi]
    have hsetj : ∀ v, G (st.set j v) j = v := fun v => by rw [G_set_lt hjl, if_pos rfl]
    unfold MSComb.q2
    rw [ms_get_ok m j hjm]
    simp only [Outcome.bind_ok]
    split
    · next hgt =>
      rw [ms_set_ok st j _ hjl]
      simp only [Outcome.bind_ok]
      have hc : ((j : Int) + 1) = ((j + 1 : Nat) : Int) := by push_cast; rfl
      rw [hc]
      obtain ⟨st', x', j', b, e, g1, jn, q1, q2, q3, q4, q5, q6, q7⟩ :=
        ih (j + 1) (x - G m j) (st.set j (G m j)) (by simpa using hl) (by omega)
      refine ⟨st', x', j', b, e, g1, jn, q1, by omega, ?_, ?_,
        fun i hi => by rw [q5 i hi, hset _ i (by omega)], ?_, ?_⟩
      · intro i hi1 hi2
        by_cases hij : i = j
        · subst hij; rw [q4 i (by omega), hsetj]
        · exact q3 i (by omega) hi2
      · intro i hi; rw [q4 i (by omega), hset _ i (by omega)]
      · intro hb
        obtain ⟨r1, r2, r3, r4, r5, r7⟩ := q6 hb
        refine ⟨r1, ?_, r3, r4, fun hx => r5 (by omega), fun hx => r7 (by omega)⟩
        rw [r2, PS_succ m j]; omega
      · intro hb
        obtain ⟨r1, r2, r3, r6⟩ := q7 hb
        refine ⟨by omega, ?_, fun hx => r3 (by omega), fun hx => r6 (by omega)⟩
        rw [r2, PS_succ m j]; omega
    · next hle =>
      rw [ms_set_ok st j _ hjl]
      refine ⟨st.set j x, 0, (j : Int), true, rfl, by simpa using hl, j, rfl, le_refl _, by intro i h1 h2; omega,
        fun i hi => hset x i (by omega), fun i hi => hset x i (by omega), fun _ => ?_, by simp⟩
      rw [hsetj]
      exact ⟨hjm, by simp, by omega, rfl, fun hx => hx, fun hx => hx⟩

/-- `none`: every entry from `j` up is saturated -/
theorem q5_spec (m : Sl) : ∀ (fuel j : Nat) (x : Int) (st : Sl), st.length = m.length → j ≤ m.length →
    m.length + 1 ≤ fuel + j →
    ∃ st' r, MSComb.q5 m fuel (j : Int) x st = .ok (st', r) ∧ st'.length = m.length ∧
      (r = none → ∀ i, j ≤ i → i < m.length → G st i = G m i) ∧
      ∀ j' x', r = some (j', x') → ∃ jn : Nat, j' = (jn : Int) ∧ j ≤ jn ∧ jn < m.length ∧
        (∀ i, j ≤ i → i < jn → G st i = G m i ∧ G st' i = 0) ∧
        (∀ i, (i < j ∨ jn ≤ i) → G st' i = G st i) ∧
        x' = x + (PS m jn - PS m j) ∧ G st jn ≠ G m jn := by
  intro fuel
  induction fuel with
  | zero => intro j x st _ h1 h2; omega
  | succ fuel ih =>
    intro j x st hl h1 h2
    unfold MSComb.q5
    split
    · next hge => exact ⟨st, none, rfl, hl, by intro _ i h3 h4; omega, by intro _ _ h; simp at h⟩
    · next hlt =>
      have hj : j < m.length := by omega
      have hjl : j < st.length := by omega
      rw [ms_get_ok st j hjl, ms_get_ok m j hj]
      simp only [Outcome.bind_ok]
      split
      · next heq =>
        have heq' : G st j = G m j := by simpa using heq
        rw [ms_set_ok st j _ hjl]
        simp only [Outcome.bind_ok]
        have hc : ((j : Int) + 1) = ((j + 1 : Nat) : Int) := by push_cast; rfl
        rw [hc]
        obtain ⟨st', r, e, g1, hr, g2⟩ :=
          ih (j + 1) (x + G m j) (st.set j 0) (by simpa using hl) (by omega) (by omega)
        have hset : ∀ i, i ≠ j → G (st.set j 0) i = G st i := fun i hi => by rw [G_set_lt hjl, if_neg hi]
        refine ⟨st', r, e, g1, ?_, ?_⟩
        · intro hn i h3 h4
          by_cases hij : i = j
          · subst hij; exact heq'
          · rw [← hset i hij]; exact hr hn i (by omega) h4
        · intro j' x' hr'
          obtain ⟨jn, q1, q2, q3, q4, q5, q6, q7⟩ := g2 j' x' hr'
          refine ⟨jn, q1, by omega, q3, ?_, ?_, ?_, ?_⟩
          · intro i hi1 hi2
            by_cases hij : i = j
            · subst hij
              refine ⟨heq', ?_⟩
              rw [q5 i (Or.inl (by omega)), G_set]; simp [hjl]
            · rw [← hset i hij]; exact q4 i (by omega) hi2
          · intro i hi
            rw [q5 i (by omega), hset i (by omega)]
          · rw [q6, PS_succ m j]; omega
          · rwa [hset jn (by omega)] at q7
      · next hne =>
        refine ⟨st, some ((j : Int), x), rfl, hl, by intro h; simp at h, ?_⟩
        intro j' x' hr
        simp only [Option.some.injEq, _root_.Prod.mk.injEq] at hr
        obtain ⟨r1, r2⟩ := hr
        exact ⟨j, r1.symm, le_refl _, hj, by intro i h1 h2; omega, by intro i _; rfl, by rw [← r2]; simp,
          by simpa using hne⟩

/-- `none`: every entry from `j` up equals its multiplicity -/
theorem q7up_spec (m st : Sl) (hl : st.length = m.length) : ∀ (fuel j : Nat), j < m.length → m.length ≤ fuel + j →
    ∃ r, MSComb.q7up m st fuel (j : Int) = .ok r ∧ (r = none → ∀ i, j ≤ i → i < m.length → G st i = G m i) ∧
      ∀ j', r = some j' → ∃ jn : Nat, j' = (jn : Int) ∧ j ≤ jn ∧ jn < m.length ∧ jn < st.length ∧
        (∀ i, j ≤ i → i < jn → G st i = G m i) ∧ G st jn ≠ G m jn := by
  intro fuel
  induction fuel with
  | zero => intro j h1 h2; omega
  | succ fuel ih =>
    intro j h1 h2
    unfold MSComb.q7up
    rw [ms_get_ok st j (by omega), ms_get_ok m j h1]
    simp only [Outcome.bind_ok]
    split
    · next heq =>
      have heq' : G st j = G m j := by simpa using heq
      split
      · next hge =>
        refine ⟨none, rfl, ?_, fun j' h => by simp at h⟩
        intro _ i h3 h4
        have : i = j := by omega
        subst this; exact heq'
      · next hlt =>
        have hc : ((j : Int) + 1) = ((j + 1 : Nat) : Int) := by push_cast; rfl
        rw [hc]
        obtain ⟨r, e, hr, hs⟩ := ih (j + 1) (by omega) (by omega)
        refine ⟨r, e, ?_, fun j' hj' => ?_⟩
        · intro hn i h3 h4
          by_cases hij : i = j
          · subst hij; exact heq'
          · exact hr hn i (by omega) h4
        · obtain ⟨jn, q1, q2, q3, q4, q5, q6⟩ := hs j' hj'
          refine ⟨jn, q1, by omega, q3, q4, fun i hi1 hi2 => ?_, q6⟩
          by_cases hij : i = j
          · subst hij; exact heq'
          · exact q5 i (by omega) hi2
    · next hne =>
      exact ⟨some (j : Int), rfl, by intro h; simp at h, fun j' hj' =>
        ⟨j, (Option.some.inj hj').symm, le_refl _, h1, by omega, fun i a b => by omega, by simpa using hne⟩⟩

theorem q7down_spec (st : Sl) : ∀ (fuel j : Nat), j < st.length → (∃ i, i ≤ j ∧ G st i ≠ 0) → j + 1 ≤ fuel →
    ∃ jn : Nat, MSComb.q7down st fuel (j : Int) = .ok (jn : Int) ∧ jn ≤ j ∧ jn < st.length ∧ G st jn ≠ 0 ∧
      ∀ i, jn < i → i ≤ j → G st i = 0 := by
  intro fuel
  induction fuel with
  | zero => intro j _ _ h; omega
  | succ fuel ih =>
    intro j h1 h2 h3
    unfold MSComb.q7down
    rw [ms_get_ok st j h1]
    simp only [Outcome.bind_ok]
    split
    · next heq =>
      have heq' : G st j = 0 := by simpa using heq
      obtain ⟨i, hi1, hi2⟩ := h2
      have hij : i ≠ j := by rintro rfl; exact hi2 heq'
      have hc : ((j : Int) - 1) = ((j - 1 : Nat) : Int) := by omega
      rw [hc]
      obtain ⟨jn, q1, q2, q3, q4, q5⟩ := ih (j - 1) (by omega) ⟨i, by omega, hi2⟩ (by omega)
      refine ⟨jn, q1, by omega, q3, q4, fun i' hi1' hi2' => ?_⟩
      by_cases hit : i' = j
      · rw [hit]; exact heq'
      · exact q5 i' hi1' (by omega)
    · next hne =>
      exact ⟨j, rfl, le_refl _, h1, by simpa using hne, fun i a b => by omega⟩

/-- shape of the vector after the successor step at type `jn`, with `x` copies redistributed below it -/
def Shape (m : List Int) (jn : Nat) (x : Int) (old c' : List Int) : Prop :=
  c'.length = m.length ∧ (∀ i, i < jn → G c' i = min (G m i) (max 0 (x - PS m i))) ∧ G c' jn = G old jn + 1 ∧
    ∀ i, jn < i → G c' i = G old i

theorem Shape.iZero {m : List Int} {jn : Nat} {old c' : List Int} (hm : ∀ i, 0 ≤ G m i) (h1 : 1 ≤ jn)
    (h2 : jn < m.length) (h3 : 0 ≤ G old jn) (h : Shape m jn 0 old c') : IZero m c' jn := by
  obtain ⟨_, s2, s3, _⟩ := h
  refine ⟨h1, h2, fun i hi => ?_, by omega⟩
  rw [s2 i hi]; have := hm i; have := PS_nonneg m hm i; omega

theorem Shape.of_zeros {m : List Int} {jn : Nat} {old c' : List Int} (hm : ∀ i, 0 ≤ G m i) (hl : c'.length = m.length)
    (hz : ∀ i, i < jn → G c' i = 0) (hj : G c' jn = G old jn + 1) (ha : ∀ i, jn < i → G c' i = G old i) :
    Shape m jn 0 old c' := by
  refine ⟨hl, fun i hi => ?_, hj, ha⟩
  rw [hz i hi]; have := hm i; have := PS_nonneg m hm i; omega

/-- steps Q5, Q6, Q2 from a state prepared by Q4 -/
theorem stepQ56 (m : List Int) (hm : MGood m) (st1 : List Int) (x : Int) (j1 : Nat)
    (hl : st1.length = m.length) (hj1 : 1 ≤ j1) (hj1l : j1 ≤ m.length)
    (hz : ∀ i, 1 ≤ i → i < j1 → G st1 i = 0)
    (hb : ∀ i, j1 ≤ i → i < m.length → 0 ≤ G st1 i ∧ G st1 i ≤ G m i)
    (hx0 : 0 ≤ x) (hxb : x + 1 ≤ PS m j1) :
    ∃ st2 r, MSComb.q5 m (m.length + 1) (j1 : Int) x st1 = .ok (st2, r) ∧
      (r = none → ∀ i, j1 ≤ i → i < m.length → G st1 i = G m i) ∧
      (∀ j' x', r = some (j', x') → ∃ jn : Nat, j' = (jn : Int) ∧ j1 ≤ jn ∧ jn < m.length ∧
        (∀ i, j1 ≤ i → i < jn → G st1 i = G m i) ∧ G st1 jn < G m jn ∧ x' = x + (PS m jn - PS m j1) ∧
        ∃ sj st3, get st2 j' = .ok sj ∧ set st2 j' (sj + 1) = .ok st3 ∧
          (x' = 0 → ∃ c', set st3 0 0 = .ok c' ∧ Shape m jn x' st1 c') ∧
          (x' ≠ 0 → ∃ c' a j'' b, MSComb.q2 m m.length 0 x' st3 = .ok (c', a, j'', b) ∧ Shape m jn x' st1 c' ∧
            ∃ j2 : Nat, j'' = (j2 : Int) ∧ ISat m c' j2)) := by
  obtain ⟨st2, r, hq5, hl2, hnone, hq⟩ := q5_spec m (m.length + 1) j1 x st1 hl hj1l (by omega)
  refine ⟨st2, r, hq5, hnone, ?_⟩
  intro j' x' hr
  subst hr
  obtain ⟨jn, e1, hjn1, hjn2, q4, q5, q6, q7⟩ := hq j' x' rfl
  subst e1
  have hjl2 : jn < st2.length := by omega
  have eg := ms_get_ok st2 jn hjl2
  have es := ms_set_ok st2 jn (G st2 jn + 1) hjl2
  have hmono := PS_mono m hm.nonneg j1 jn hjn1
  have hG2jn : G st2 jn = G st1 jn := q5 jn (Or.inr (le_refl _))
  have hbjn := hb jn hjn1 hjn2
  have hlt : G st1 jn < G m jn := by omega
  have hz2 : ∀ i, 1 ≤ i → i < jn → G st2 i = 0 := by
    intro i h1 h2
    by_cases h3 : i < j1
    · rw [q5 i (Or.inl h3)]; exact hz i h1 h3
    · exact (q4 i (by omega) h2).2
  generalize hst3 : st2.set jn (G st2 jn + 1) = st3 at es
  have hl3 : st3.length = m.length := by rw [← hst3]; simpa using hl2
  have hG3 : ∀ i, G st3 i = if i = jn then G st1 jn + 1 else G st2 i := by
    intro i; rw [← hst3, G_set_lt hjl2, hG2jn]
  have hnn := hm.nonneg
  refine ⟨jn, rfl, hjn1, hjn2, fun i h1 h2 => (q4 i h1 h2).1, hlt, q6, G st2 jn, st3, eg, es, ?_, ?_⟩
  · intro hx'
    have h0l : 0 < st3.length := by omega
    rw [hx']
    refine ⟨st3.set 0 0, ms_set_ok st3 0 0 h0l, Shape.of_zeros hnn (by simpa using hl3) ?_ ?_ ?_⟩
    · intro i hi
      rw [G_set]
      by_cases h0 : i = 0
      · subst h0; simp [h0l]
      · rw [if_neg (by omega), hG3 i, if_neg (by omega)]
        exact hz2 i (by omega) hi
    · rw [G_set, if_neg (by omega)]
      rw [hG3 jn]; simp
    · intro i hi
      rw [G_set, if_neg (by omega)]
      rw [hG3 i, if_neg (by omega)]
      exact q5 i (Or.inr (by omega))
  · intro hx'
    have hx'pos : 0 < x' := by omega
    obtain ⟨c', a, j'', b, hq2, hlc, j2, e2, _, r3, _, r5, r6, r7⟩ := q2_spec m m.length 0 x' st3 hl3 (by omega)
    have hbt : b = true := by
      cases b with
      | true => rfl
      | false =>
        obtain ⟨t1, t2, t3, _⟩ := r7 rfl
        have := t3 hx'pos
        have hm2 := PS_mono m hm.nonneg jn j2 (by omega)
        rw [PS_zero] at t2; omega
    obtain ⟨s1, s2, s3, _, s5, _⟩ := r6 hbt
    have hj2pos := s5 hx'pos
    rw [PS_zero] at s2
    have hj2lt : j2 < jn := by
      by_contra hc
      have := PS_mono m hm.nonneg jn j2 (by omega)
      omega
    refine ⟨c', a, j'', b, by simpa using hq2, ⟨hlc, ?_, ?_, ?_⟩, j2, e2, s1, ?_, fun i hi => r3 i (by omega) hi⟩
    · exact greedy_of_sat m c' x' j2 jn hnn (fun t ht => r3 t (by omega) ht) (by omega) (by omega) s3
        (fun t h1 h2 => by rw [r5 t h1, hG3 t, if_neg (by omega)]; exact hz2 t (by omega) h2)
    · rw [r5 jn hj2lt, hG3 jn]; simp
    · intro i hi
      rw [r5 i (by omega), hG3 i, if_neg (by omega)]
      exact q5 i (Or.inr (by omega))
    · by_cases h0 : j2 = 0
      · subst h0; exact hj2pos
      · rw [r3 0 (by omega) (by omega)]; have := hm.first; omega

theorem stepQ7 (m : List Int) (k : Int) (hm : MGood m) (c : List Int) (j : Nat) (hfam : InFam m k c)
    (hsat : ISat m c j) (hjpos : 1 ≤ j) :
    ∃ r, MSComb.q7up m c (m.length + 1) (j : Int) = .ok r ∧
      (r = none → ∀ i, j ≤ i → i < m.length → G c i = G m i) ∧
      (∀ j', r = some j' → ∃ jn : Nat, j' = (jn : Int) ∧ j ≤ jn ∧ jn < m.length ∧
        (∀ i, i < jn → G c i = G m i) ∧ G c jn < G m jn ∧
        ∃ sj c1 j2 sj2 c2 s0, get c j' = .ok sj ∧ set c j' (sj + 1) = .ok c1 ∧
          MSComb.q7down c1 (c1.length + 2) (j' - 1) = .ok j2 ∧ get c1 j2 = .ok sj2 ∧
          set c1 j2 (sj2 - 1) = .ok c2 ∧ get c2 0 = .ok s0 ∧ Shape m jn (PS m jn - 1) c c2 ∧
          ∃ jf : Nat, (if s0 == 0 then 1 else j2) = (jf : Int) ∧ (ISat m c2 jf ∨ IZero m c2 jf)) := by
  obtain ⟨hl, hbnd, hsum⟩ := hfam
  obtain ⟨hjl, hc0, hsatj⟩ := hsat
  obtain ⟨r, hup, hnone, hsome⟩ := q7up_spec m c hl (m.length + 1) j hjl (by omega)
  refine ⟨r, hup, hnone, ?_⟩
  intro j' hr
  subst hr
  obtain ⟨jn, e1, hjn1, hjn2, hjn3, u5, u6⟩ := hsome j' rfl
  subst e1
  have hsat' : ∀ i, i < jn → G c i = G m i := by
    intro i hi
    by_cases h : i < j
    · exact hsatj i h
    · exact u5 i (by omega) hi
  have hbjn := hbnd jn hjn2
  have hlt : G c jn < G m jn := by omega
  have eg := ms_get_ok c jn hjn3
  have es := ms_set_ok c jn (G c jn + 1) hjn3
  generalize hc1 : c.set jn (G c jn + 1) = c1 at es
  have hG1 : ∀ i, G c1 i = if i = jn then G c jn + 1 else G c i := by
    intro i; rw [← hc1, G_set_lt hjn3]
  have hl1 : c1.length = m.length := by rw [← hc1]; simpa using hl
  have hcast : ((jn : Int) - 1) = ((jn - 1 : Nat) : Int) := by omega
  obtain ⟨jd, hdown, d1, d2, d3, d4⟩ := q7down_spec c1 (c1.length + 2) (jn - 1) (by omega)
    ⟨0, by omega, by rw [hG1 0]; have : ¬ (0 = jn) := by omega
                     simp only [this, if_false]; omega⟩ (by omega)
  have hjd : jd < jn := by omega
  have hG1jd : G c1 jd = G m jd := by
    rw [hG1 jd]; have : ¬ jd = jn := by omega
    simp only [this, if_false]; exact hsat' jd hjd
  have hmjd : 1 ≤ G m jd := by
    have := hm.nonneg jd; rw [hG1jd] at d3; omega
  have eg2 := ms_get_ok c1 jd d2
  have es2 := ms_set_ok c1 jd (G c1 jd - 1) d2
  generalize hc2 : c1.set jd (G c1 jd - 1) = c2 at es2
  have hG2 : ∀ i, G c2 i = if i = jd then G m jd - 1 else G c1 i := by
    intro i; rw [← hc2, G_set_lt d2, hG1jd]
  have hl2 : c2.length = m.length := by rw [← hc2]; simpa using hl1
  have eg0 := ms_get_ok c2 0 (by omega)
  have hmz : ∀ i, jd + 1 ≤ i → i < jn → G m i = 0 := by
    intro i h1 h2
    have := d4 i (by omega) (by omega)
    rw [hG1 i] at this
    have h3 : ¬ i = jn := by omega
    simp only [h3, if_false] at this
    rw [← hsat' i h2]; exact this
  have hPSz := PS_zeros m (jd + 1) jn (by omega) hmz
  rw [PS_succ] at hPSz
  refine ⟨jn, rfl, hjn1, hjn2, hsat', hlt, G c jn, c1, (jd : Int), G c1 jd, c2, G c2 0, eg, es, ?_, eg2, es2,
    by simpa using eg0, ⟨hl2, ?_, ?_, ?_⟩, ?_⟩
  · rw [hcast]; exact hdown
  · have hjd2 : G c2 jd = G m jd - 1 := by rw [hG2 jd, if_pos rfl]
    exact greedy_of_sat m c2 (PS m jn - 1) jd jn hm.nonneg
      (fun t ht => by rw [hG2 t, if_neg (by omega), hG1 t, if_neg (by omega)]; exact hsat' t (by omega))
      (by omega) (by omega) (by omega)
      (fun t h1 h2 => by rw [hG2 t, if_neg (by omega)]; exact d4 t h1 (by omega))
  · rw [hG2 jn, if_neg (by omega)]
    rw [hG1 jn]; simp
  · intro i hi
    rw [hG2 i, if_neg (by omega)]
    rw [hG1 i, if_neg (by omega)]
  · by_cases hs0 : G c2 0 = 0
    · -- type 0 ran empty
      have hjd0 : jd = 0 := by
        by_contra hne
        have : G c2 0 = G c 0 := by rw [hG2 0, if_neg (fun h => hne h.symm), hG1 0, if_neg (by omega)]
        omega
      subst hjd0
      have hm0 : G m 0 = 1 := by have := hG2 0; rw [if_pos rfl] at this; omega
      refine ⟨1, by simp [hs0], Or.inr ⟨le_refl _, by omega, ?_, ?_⟩⟩
      · intro i hi
        have : i = 0 := by omega
        subst this; exact hs0
      · by_cases hjn1' : jn = 1
        · subst hjn1'
          rw [hG2 1, if_neg (by omega), hG1 1, if_pos rfl]
          omega
        · exfalso
          apply hm.notB
          refine ⟨hm0, ?_, jn, by omega, hjn2, by omega⟩
          have h1 := d4 1 (by omega) (by omega)
          rw [hG1 1, if_neg (fun h => hjn1' h.symm)] at h1
          rw [← hsat' 1 (by omega)]; exact h1
    · refine ⟨jd, by simp [hs0], Or.inl ⟨by omega, ?_, ?_⟩⟩
      · have : 0 ≤ G c2 0 := by
          rw [hG2 0]; split
          · omega
          · rw [hG1 0, if_neg (by omega)]; omega
        omega
      · intro i hi
        rw [hG2 i, if_neg (by omega), hG1 i, if_neg (by omega)]; exact hsat' i (by omega)

theorem msNext_of_shape (m c c' : List Int) (jn : Nat) (x' : Int) (hc : c.length = m.length) (h1 : 1 ≤ jn)
    (h2 : jn < m.length) (h3 : G c jn < G m jn) (h4 : 0 < PS c jn)
    (h5 : ∀ i, 1 ≤ i → i < jn → G c i < G m i → PS c i ≤ 0) (hx : x' = PS c jn - 1) (hsh : Shape m jn x' c c') :
    MsNextN m m.length c c' := by
  obtain ⟨s1, s2, s3, s4⟩ := hsh
  subst hx
  exact ⟨jn, h1, h2, h3, h4, h5, hc, s1, s2, s3, s4⟩

theorem Shape.congr_old {m : List Int} {jn : Nat} {x : Int} {old old' c' : List Int} (h : Shape m jn x old c')
    (he : ∀ i, jn ≤ i → G old i = G old' i) : Shape m jn x old' c' := by
  obtain ⟨s1, s2, s3, s4⟩ := h
  exact ⟨s1, s2, by rw [s3, he jn (le_refl _)], fun i hi => by rw [s4 i hi, he i (by omega)]⟩

theorem MSComb.next0_step (m : List Int) (k : Int) (hm : MGood m) (hk : 0 < k) (s : MSComb) (c : List Int)
    (j : Nat) (hs : s.state = some c) (hsm : s.m = m) (hsk : s.k = k) (hsj : s.j = (j : Int))
    (hfam : InFam m k c) (hinv : ISat m c j ∨ IZero m c j) :
    ∃ s' b, MSComb.next0 s = .ok (s', b) ∧
      (b = true → ∃ (c' : List Int) (j' : Nat), s' = { s with state := some c', j := (j' : Int) } ∧
        MsNextN m m.length c c' ∧
        (ISat m c' j' ∨ IZero m c' j')) ∧
      (b = false → NoNextN m m.length c) := by
  have hlen := hm.ne_nil
  have hnn := hm.nonneg
  have hk0 : (k == 0) = false := by rw [beq_eq_false_iff_ne]; omega
  have hl0 : (m.length == 0) = false := by rw [beq_eq_false_iff_ne]; omega
  obtain ⟨hl, hbnd, hsum⟩ := hfam
  have hg0 : get c 0 = .ok (G c 0) := by simpa using ms_get_ok c 0 (by omega)
  unfold MSComb.next0
  simp only [hs, hsm, hsk, hk0, hl0, Bool.or_self, Bool.false_eq_true, if_false, hg0, Outcome.bind_ok]
  by_cases hj0 : j = 0
  · -- Q4, first case
    subst hj0
    have hsj' : s.j = 0 := by simpa using hsj
    simp only [hsj', beq_self_eq_true, if_true, Outcome.pure_eq, Outcome.bind_ok]
    have hsat : ISat m c 0 := by
      rcases hinv with h1 | h1
      · exact h1
      · have := h1.1; omega
    have hc0 := hsat.2.1
    obtain ⟨st2, r, hq5, hnone, hsome⟩ := stepQ56 m hm c (G c 0 - 1) 1 hl (le_refl _) (by omega)
      (by intro i h1 h2; omega) (fun i _ hi => hbnd i hi) (by omega)
      (by rw [PS_one m]; have := (hbnd 0 hlen).2; omega)
    have hq5' : MSComb.q5 m (m.length + 1) 1 (G c 0 - 1) c = .ok (st2, r) := by simpa using hq5
    simp only [hq5', Outcome.bind_ok]
    cases r with
    | none =>
      refine ⟨_, false, rfl, by simp, fun _ => ?_⟩
      intro i h1 h2 h3
      have := hnone rfl i h1 h2
      omega
    | some jx =>
      obtain ⟨j', x'⟩ := jx
      obtain ⟨jn, ej, hjn1, hjn2, hsatr, hlt, hx', sj, st3, hget, hset, K1, K2⟩ := hsome j' x' rfl
      subst ej
      simp only [hget, hset, Outcome.bind_ok]
      have hPS1 : PS c 1 = G c 0 := PS_one c
      have hPSs := PS_sat m c 1 jn hjn1 hsatr
      have hPSm := PS_mono m hm.nonneg 1 jn hjn1
      have hnext : ∀ c', Shape m jn x' c c' → MsNextN m m.length c c' := by
        intro c' hsh
        apply msNext_of_shape m c c' jn x' hl hjn1 hjn2 hlt (by omega) ?_ (by omega) hsh
        intro i h1 h2 h3
        have := hsatr i h1 h2
        omega
      by_cases hx0 : x' = 0
      · obtain ⟨c', hset0, hsh⟩ := K1 hx0
        have hxb : (x' == 0) = true := by simp [hx0]
        simp only [hxb, if_true, hset0, Outcome.bind_ok]
        exact ⟨_, true, rfl, fun _ => ⟨c', jn, rfl, hnext c' hsh,
          Or.inr ((hx0 ▸ hsh).iZero hnn hjn1 hjn2 (hbnd jn hjn2).1)⟩, by simp⟩
      · obtain ⟨c', a, j'', b, hq2, hsh, j2, e2, hsat2⟩ := K2 hx0
        subst e2
        have hx'b : (x' == 0) = false := by simpa using hx0
        simp only [hx'b, Bool.false_eq_true, if_false, hq2, Outcome.bind_ok]
        exact ⟨_, true, rfl, fun _ => ⟨c', j2, rfl, hnext c' hsh, Or.inl hsat2⟩, by simp⟩
  · have hsj0 : (s.j == 0) = false := by rw [beq_eq_false_iff_ne, hsj]; omega
    simp only [hsj0, Bool.false_eq_true, if_false]
    by_cases hs0 : G c 0 = 0
    · -- Q4, second case: `j` is the lowest type present
      have hzero : IZero m c j := by
        rcases hinv with h1 | h1
        · have := h1.2.1; omega
        · exact h1
      obtain ⟨_, hjl, hzz, hcj⟩ := hzero
      simp only [hs0, beq_self_eq_true, if_true, hsj]
      have hgj := ms_get_ok c j (by omega)
      have hsj1 := ms_set_ok c j 0 (by omega)
      generalize hst1 : c.set j 0 = st1 at hsj1
      simp only [hgj, hsj1, Outcome.bind_ok, Outcome.pure_eq]
      have hG1 : ∀ i, G st1 i = if i = j then 0 else G c i := by
        intro i; rw [← hst1, G_set_lt (by omega)]
      have hl1 : st1.length = m.length := by rw [← hst1]; simpa using hl
      have hc : ((j : Int) + 1) = ((j + 1 : Nat) : Int) := by push_cast; rfl
      obtain ⟨st2, r, hq5, hnone, hsome⟩ := stepQ56 m hm st1 (G c j - 1) (j + 1) hl1 (by omega) (by omega)
        (by
          intro i h1 h2; rw [hG1 i]
          by_cases hij : i = j
          · simp [hij]
          · simp only [hij, if_false]; exact hzz i (by omega))
        (by
          intro i h1 h2; rw [hG1 i]
          have : ¬ i = j := by omega
          simp only [this, if_false]; exact hbnd i h2)
        (by omega)
        (by rw [PS_succ m j]; have := (hbnd j hjl).2; have := PS_nonneg m hm.nonneg j; omega)
      rw [← hc] at hq5
      simp only [hq5, Outcome.bind_ok]
      have hPSz : ∀ i, i ≤ j → PS c i = 0 := by
        intro i hi
        rw [PS_zeros c 0 i (by omega) (fun t _ h2 => hzz t (by omega)), PS_zero]
      cases r with
      | none =>
        refine ⟨_, false, rfl, by simp, fun _ => ?_⟩
        intro i h1 h2 h3
        by_cases hij : i ≤ j
        · rw [hPSz i hij]; exact Int.le_refl _
        · have := hnone rfl i (by omega) h2
          rw [hG1 i] at this
          have h4 : ¬ i = j := by omega
          simp only [h4, if_false] at this
          omega
      | some jx =>
        obtain ⟨j', x'⟩ := jx
        obtain ⟨jn, ej, hjn1, hjn2, hsatr, hlt, hx', sj, st3, hget, hset, K1, K2⟩ := hsome j' x' rfl
        subst ej
        simp only [hget, hset, Outcome.bind_ok]
        have hsatc : ∀ i, j + 1 ≤ i → i < jn → G c i = G m i := by
          intro i h1 h2
          have := hsatr i h1 h2
          rw [hG1 i] at this
          have h4 : ¬ i = j := by omega
          simpa [h4] using this
        have hG1jn : ∀ i, jn ≤ i → G st1 i = G c i := by
          intro i hi; rw [hG1 i]
          have h4 : ¬ i = j := by omega
          simp [h4]
        have hPSj1 : PS c (j + 1) = G c j := by rw [PS_succ, hPSz j (le_refl _)]; omega
        have hPSs := PS_sat m c (j + 1) jn hjn1 hsatc
        have hPSm := PS_mono m hm.nonneg (j + 1) jn hjn1
        have hnext : ∀ c', Shape m jn x' st1 c' → MsNextN m m.length c c' := by
          intro c' hsh
          apply msNext_of_shape m c c' jn x' hl (by omega) hjn2 (by rw [← hG1jn jn (le_refl _)]; exact hlt)
            (by omega) ?_ (by omega) (hsh.congr_old hG1jn)
          intro i h1 h2 h3
          by_cases hij : i ≤ j
          · rw [hPSz i hij]; exact Int.le_refl _
          · have := hsatc i (by omega) h2
            omega
        by_cases hx0 : x' = 0
        · obtain ⟨c', hset0, hsh⟩ := K1 hx0
          have hxb : (x' == 0) = true := by simp [hx0]
          simp only [hxb, if_true, hset0, Outcome.bind_ok]
          exact ⟨_, true, rfl, fun _ => ⟨c', jn, rfl, hnext c' hsh, Or.inr ((hx0 ▸ hsh).iZero hnn (by omega) hjn2
            (by rw [hG1jn jn (le_refl _)]; exact (hbnd jn hjn2).1))⟩, by simp⟩
        · obtain ⟨c', a, j'', b, hq2, hsh, j2, e2, hsat2⟩ := K2 hx0
          subst e2
          have hx'b : (x' == 0) = false := by simpa using hx0
          simp only [hx'b, Bool.false_eq_true, if_false, hq2, Outcome.bind_ok]
          exact ⟨_, true, rfl, fun _ => ⟨c', j2, rfl, hnext c' hsh, Or.inl hsat2⟩, by simp⟩
    · -- Q7
      have hs0b : (G c 0 == 0) = false := by simpa using hs0
      simp only [hs0b, Bool.false_eq_true, if_false, Outcome.pure_eq, Outcome.bind_ok, hsj]
      have hsat : ISat m c j := by
        rcases hinv with h1 | h1
        · exact h1
        · have := h1.2.2.1 0 (by omega); omega
      obtain ⟨r, hup, hnone, hsome⟩ := stepQ7 m k hm c j ⟨hl, hbnd, hsum⟩ hsat (by omega)
      simp only [hup, Outcome.bind_ok]
      cases r with
      | none =>
        refine ⟨_, false, rfl, by simp, fun _ => ?_⟩
        intro i h1 h2 h3
        by_cases hij : i < j
        · have := hsat.2.2 i hij; omega
        · have := hnone rfl i (by omega) h2; omega
      | some j' =>
        obtain ⟨jn, ej, hjn1, hjn2, hsatr, hlt, sj, c1, j2, sj2, c2, t0, hget, hset, hdown, hget2, hset2, hget0, hsh,
          jf, ejf, hinvf⟩ := hsome j' rfl
        subst ej
        simp only [hget, hset, hdown, hget2, hset2, hget0, Outcome.bind_ok]
        have hPSs := PS_sat m c 0 jn (by omega) (fun i _ h2 => hsatr i h2)
        rw [PS_zero, PS_zero] at hPSs
        have hPSm := PS_mono m hm.nonneg 1 jn (by omega)
        rw [PS_one m] at hPSm
        have hfirst := hm.first
        refine ⟨_, true, rfl, fun _ => ⟨c2, jf, by rw [ejf], ?_, hinvf⟩, by simp⟩
        apply msNext_of_shape m c c2 jn (PS m jn - 1) hl (by omega) hjn2 hlt (by omega) ?_ (by omega) hsh
        intro i h1 h2 h3
        have := hsatr i h2
        omega

theorem MSComb.next0_first (m : List Int) (k : Int) (hm : ∀ v ∈ m, 0 ≤ v) (hk : 0 ≤ k) (hb : msKnownBad m = false)
    (s : MSComb) (hs : s.state = none) (hsm : s.m = m) (hsk : s.k = k) :
    ∃ s' b, MSComb.next0 s = .ok (s', b) ∧ s'.done = s.done ∧ s'.m = m ∧ s'.k = k ∧ s'.all = s.all ∧
      s'.freq = s.freq ∧ s'.value.length = k.toNat ∧
      (k ≤ PS m m.length → b = true ∧ ∃ c, s'.state = some c ∧ IsGreedyN m m.length k c ∧
        (k = 0 ∨ (MGood m ∧ ∃ j : Nat, s'.j = (j : Int) ∧ ISat m c j))) ∧
      (PS m m.length < k → b = false) := by
  have hnn := G_nonneg_all m hm
  unfold MSComb.next0
  simp only [hs, hsm, hsk]
  have hmk : make k = .ok (List.replicate k.toNat 0) := by simp [make]; omega
  have hml : make (m.length : Int) = .ok (List.replicate m.length 0) := by simp [make]
  simp only [hmk, hml, Outcome.bind_ok]
  obtain ⟨c, x', j', b, hq2, hlc, jn, e1, _, r3, _, r5, r6, r7⟩ :=
    q2_spec m m.length 0 k (List.replicate m.length 0) (by simp) (by omega)
  have hq2' : MSComb.q2 m m.length 0 k (List.replicate m.length 0) = .ok (c, x', j', b) := by simpa using hq2
  simp only [hq2', Outcome.bind_ok]
  cases b with
  | true =>
    obtain ⟨s1, s2, s3, _, s5, s7⟩ := r6 rfl
    rw [PS_zero] at s2
    have hx' : ¬ x' > 0 := by omega
    simp only [hx', if_false, Outcome.pure_eq]
    have hle := PS_mono m hnn (jn + 1) m.length (by omega)
    rw [PS_succ] at hle
    have hc0 := s7 hk
    refine ⟨_, true, rfl, rfl, rfl, rfl, rfl, rfl, by simp, fun _ => ⟨rfl, c, rfl, ⟨hlc, ?_⟩, ?_⟩, fun h => by omega⟩
    · exact greedy_of_sat m c k jn m.length hnn (fun t ht => r3 t (by omega) ht) (by omega) hc0 s3
        (fun t h1 _ => by rw [r5 t h1, G_replicate_zero])
    · by_cases hk0 : k = 0
      · exact Or.inl hk0
      · have hcj := s5 (by omega)
        have h1 : 1 ≤ G m 0 := by
          by_contra hc
          have := msKnownBad_false_zero m hm hb (by have := hnn 0; omega) jn
          omega
        refine Or.inr ⟨msKnownBad_false_first m hm hb h1, jn, e1, s1, ?_, fun i hi => r3 i (by omega) hi⟩
        by_cases hj0 : jn = 0
        · subst hj0; exact hcj
        · rw [r3 0 (by omega) (by omega)]; omega
  | false =>
    obtain ⟨t1, t2, t3, t6⟩ := r7 rfl
    rw [PS_zero] at t2
    have ejn : jn = m.length := by omega
    subst ejn
    by_cases hx' : x' > 0
    · simp only [hx', if_true, Outcome.pure_eq]
      exact ⟨_, false, rfl, rfl, rfl, rfl, rfl, rfl, by simp, fun h => by omega, fun _ => rfl⟩
    · simp only [hx', if_false, Outcome.pure_eq]
      have := t6 hk
      refine ⟨_, true, rfl, rfl, rfl, rfl, rfl, rfl, by simp,
        fun _ => ⟨rfl, c, rfl, ⟨hlc, ?_⟩, Or.inl (by have := t3; omega)⟩, fun h => by omega⟩
      have hcn : G c m.length = 0 := G_ge c _ (by omega)
      exact greedy_of_sat m c k m.length m.length hnn (fun t ht => r3 t (by omega) ht) (by omega) (by omega)
        (by rw [hcn]; exact hnn _) (fun t h1 h2 => by omega)

theorem InFam.mem_nonneg {m : List Int} {k : Int} {c : List Int} (hfam : InFam m k c) : ∀ v ∈ c, 0 ≤ v := by
  intro v hv
  obtain ⟨i, hi, rfl⟩ := List.getElem_of_mem hv
  have := (hfam.2.1 i (by rw [← hfam.1]; exact hi)).1
  rwa [G_lt c i hi] at this

theorem msColexList_chain (m : List Int) (k : Int) (hm : ∀ v ∈ m, 0 ≤ v) :
    (msColexList m k).IsChain (fun x y => msSucc m x = some y) := by
  apply (msColexN_isChain m (G_nonneg_all m hm) m.length k).imp
  intro a b hab
  obtain ⟨j, _, _, _, _, _, hl, _⟩ := id hab
  exact (msSucc_eq_some_iff m a b m.length hl).mpr hab

theorem msColexList_ne_nil_iff (m : List Int) (k : Int) (hm : ∀ v ∈ m, 0 ≤ v) :
    msColexList m k ≠ [] ↔ 0 ≤ k ∧ k ≤ m.sum := by
  have hPS : PS m m.length = m.sum := PS_ge m m.length (le_refl _)
  rw [← hPS]
  constructor
  · intro h
    by_contra hc
    exact h (msColexN_eq_nil m m.length k hc)
  · intro h
    exact (msColexN_chain m (G_nonneg_all m hm) m.length k h.1 h.2).1

theorem msColexList_head (m : List Int) (k : Int) (hm : ∀ v ∈ m, 0 ≤ v) (hk : 0 ≤ k) (hle : k ≤ m.sum) :
    (msColexList m k).head? = some (msGreedy m m.length k) := by
  have hPS : PS m m.length = m.sum := PS_ge m m.length (le_refl _)
  obtain ⟨h1, _, h3, _⟩ := msColexN_chain m (G_nonneg_all m hm) m.length k hk (by rw [hPS]; exact hle)
  cases hh : (msColexN m m.length k).head? with
  | none => rw [List.head?_eq_none_iff] at hh; exact absurd hh h1
  | some x =>
    have := (h3 x hh).unique (msGreedy_isGreedy m m.length k)
    subst this
    exact hh

theorem msColexList_last (m : List Int) (k : Int) (hm : ∀ v ∈ m, 0 ≤ v) :
    ∀ x ∈ (msColexList m k).getLast?, msSucc m x = none := by
  intro x hx
  have hmem := List.mem_of_mem_getLast? hx
  have hfam := (mem_msColexList m k x).mp hmem
  have hsb := InFamN.sum_bounds (m := m) (n := m.length) (k := k) (c := x) hfam
  obtain ⟨_, _, _, h4⟩ := msColexN_chain m (G_nonneg_all m hm) m.length k hsb.1 hsb.2
  exact (msSucc_eq_none_iff m x m.length hfam.1).mpr (h4 x hx)

theorem InFam_cons_iff (a x : Int) (ms cs : List Int) (k : Int) :
    InFam (a :: ms) k (x :: cs) ↔ 0 ≤ x ∧ x ≤ a ∧ InFam ms (k - x) cs := by
  constructor
  · rintro ⟨hl, hb, hs⟩
    have h0 := hb 0 (by simp)
    rw [G_cons_zero, G_cons_zero] at h0
    refine ⟨h0.1, h0.2, by simpa using hl, ?_, by simp only [List.sum_cons] at hs; omega⟩
    intro i hi
    have := hb (i + 1) (by simpa using hi)
    rwa [G_cons_succ, G_cons_succ] at this
  · rintro ⟨h1, h2, hl, hb, hs⟩
    refine ⟨by simp [hl], ?_, by simp only [List.sum_cons]; omega⟩
    intro i hi
    cases i with
    | zero => rw [G_cons_zero, G_cons_zero]; exact ⟨h1, h2⟩
    | succ i => rw [G_cons_succ, G_cons_succ]; exact hb i (by simpa using hi)

theorem InFam_nil_iff (k : Int) (c : List Int) : InFam [] k c ↔ c = [] ∧ k = 0 := by
  constructor
  · rintro ⟨hl, _, hs⟩
    have : c = [] := List.length_eq_zero_iff.mp (by simpa using hl)
    subst this
    exact ⟨rfl, by simpa using hs.symm⟩
  · rintro ⟨rfl, rfl⟩
    exact ⟨rfl, by intro i hi; simp at hi, rfl⟩

theorem mem_msFamily_iff : ∀ (m : List Int) (k : Int) (c : List Int), (∀ v ∈ m, 0 ≤ v) →
    (c ∈ msFamily m k ↔ InFam m k c) := by
  intro m
  induction m with
  | nil =>
    intro k c _
    rw [InFam_nil_iff]
    simp only [msFamily]
    split <;> simp [*]
  | cons a ms ih =>
    intro k c hm
    have ha := hm a (by simp)
    have hms : ∀ w ∈ ms, 0 ≤ w := fun w hw => hm w (by simp [hw])
    simp only [msFamily, List.mem_flatMap, List.mem_range, List.mem_map]
    constructor
    · rintro ⟨t, ht, v, hv, rfl⟩
      exact (InFam_cons_iff a t ms v k).mpr ⟨by omega, by omega, (ih _ v hms).mp hv⟩
    · intro h
      cases c with
      | nil => have := h.1; simp at this
      | cons x cs =>
        obtain ⟨h1, h2, h3⟩ := (InFam_cons_iff a x ms cs k).mp h
        refine ⟨x.toNat, by omega, cs, (ih _ cs hms).mpr ?_, by rw [Int.toNat_of_nonneg h1]⟩
        rwa [Int.toNat_of_nonneg h1]

theorem msFamily_nodup : ∀ (m : List Int) (k : Int), (msFamily m k).Nodup := by
  intro m
  induction m with
  | nil => intro k; simp only [msFamily]; split <;> simp
  | cons a ms ih =>
    intro k
    simp only [msFamily]
    rw [List.nodup_flatMap]
    refine ⟨fun t _ => (ih _).map (List.cons_injective), ?_⟩
    apply List.nodup_range.pairwise_of_forall_ne
    intro t1 _ t2 _ hne x h1 h2
    simp only [List.mem_map] at h1 h2
    obtain ⟨v1, _, rfl⟩ := h1
    obtain ⟨v2, _, e⟩ := h2
    simp only [List.cons.injEq] at e
    omega

theorem mem_msColexList_iff_msFamily (m : List Int) (k : Int) (hm : ∀ v ∈ m, 0 ≤ v) (c : List Int) :
    c ∈ msColexList m k ↔ c ∈ msFamily m k := by
  rw [mem_msColexList, mem_msFamily_iff m k c hm]; exact Iff.rfl

theorem msColexList_perm_msFamily (m : List Int) (k : Int) (hm : ∀ v ∈ m, 0 ≤ v) :
    (msColexList m k).Perm (msFamily m k) :=
  (List.perm_ext_iff_of_nodup (msColexList_nodup m k hm) (msFamily_nodup m k)).mpr
    (mem_msColexList_iff_msFamily m k hm)

end Iter
