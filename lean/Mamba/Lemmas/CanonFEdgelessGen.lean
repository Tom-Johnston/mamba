import Mamba.Lemmas.CanonFEdgelessOrb
import Mamba.Lemmas.CanonFGenBy

/-!
# The generators returned by the `m == 0` shortcut generate the symmetric group
-/
namespace CanonF

def edg_sw (n i : Nat) : List Nat :=
  (List.range n).map (fun x => if x = i then i + 1 else if x = i + 1 then i else x)

def edg_cyc (n : Nat) : List Nat := (List.range n).map (fun i => if i = n - 1 then 0 else i + 1)

theorem edg_sw_getD {n i x : Nat} (hx : x < n) :
    (edg_sw n i).getD x 0 = if x = i then i + 1 else if x = i + 1 then i else x := getD_map_range _ hx

theorem edg_cyc_getD {n x : Nat} (hx : x < n) : (edg_cyc n).getD x 0 = if x = n - 1 then 0 else x + 1 :=
  getD_map_range _ hx

/-- `(i+1 i+2) = c ∘ (i i+1) ∘ c⁻¹` -/
theorem edg_sw_conj {n i : Nat} (hi : i + 2 < n) (hc : (edg_cyc n).Perm (List.range n)) :
    edg_sw n (i + 1) = compL n (edg_cyc n) (compL n (edg_sw n i) (invL n (edg_cyc n))) := by
  apply list_ext_getD (by simp [edg_sw]) (compL_length _ _ _)
  intro x hx
  have hy : (invL n (edg_cyc n)).getD x 0 < n := perm_getD_lt (invL_perm hc) hx
  have hcy := invL_right hc hx
  rw [compL_getD hx, compL_getD hx]
  generalize (invL n (edg_cyc n)).getD x 0 = y at hy hcy
  rw [edg_cyc_getD hy] at hcy
  rw [edg_sw_getD hy, edg_sw_getD hx]
  have hz : (if y = i then i + 1 else if y = i + 1 then i else y) < n := by
    split
    · omega
    · split <;> omega
  rw [edg_cyc_getD hz]
  grind

theorem edg_sw_all {S : List Nat → Prop} {n : Nat} (hS : ∀ γ, S γ → γ.Perm (List.range n))
    (hc : 2 < n → GenBy S n (edg_cyc n)) (h0 : 1 < n → GenBy S n (edg_sw n 0)) :
    ∀ i, i + 1 < n → GenBy S n (edg_sw n i) := by
  intro i
  induction i with
  | zero => intro h; exact h0 (by omega)
  | succ i ih =>
    intro h
    have hcc := hc (by omega)
    rw [edg_sw_conj (by omega) (GenBy.perm hS hcc)]
    exact GenBy.comp _ _ hcc (GenBy.comp _ _ (ih (by omega)) (GenBy.inv _ hcc))

/-- an element of the group that moves `k` to `j ≤ k` and fixes everything above `k` -/
theorem edg_tau {S : List Nat → Prop} {n : Nat}
    (hs : ∀ i, i + 1 < n → GenBy S n (edg_sw n i)) :
    ∀ k j, j ≤ k → k < n → ∃ τ, GenBy S n τ ∧ τ.getD k 0 = j ∧ ∀ x, k < x → x < n → τ.getD x 0 = x := by
  intro k
  induction k with
  | zero =>
    intro j hj hk
    exact ⟨List.range n, GenBy.id, by rw [getD_range hk]; omega, fun x _ hx => getD_range hx⟩
  | succ k ih =>
    intro j hj hk
    by_cases hjk : j = k + 1
    · exact ⟨List.range n, GenBy.id, by rw [getD_range hk]; omega, fun x _ hx => getD_range hx⟩
    · obtain ⟨τ, hτ, e1, e2⟩ := ih j (by omega) (by omega)
      refine ⟨compL n τ (edg_sw n k), GenBy.comp _ _ hτ (hs k hk), ?_, ?_⟩
      · rw [compL_getD hk, edg_sw_getD hk]
        rw [if_neg (by omega), if_pos rfl]
        exact e1
      · intro x hx hxn
        rw [compL_getD hxn, edg_sw_getD hxn, if_neg (by omega), if_neg (by omega)]
        exact e2 x (by omega) hxn

theorem edg_all {S : List Nat → Prop} {n : Nat} (hS : ∀ γ, S γ → γ.Perm (List.range n))
    (hs : ∀ i, i + 1 < n → GenBy S n (edg_sw n i)) :
    ∀ k, k ≤ n → ∀ γ : List Nat, γ.Perm (List.range n) → (∀ x, k ≤ x → x < n → γ.getD x 0 = x) → GenBy S n γ := by
  intro k
  induction k with
  | zero =>
    intro _ γ hγ hfix
    have : γ = List.range n := by
      apply list_ext_getD (perm_range_facts hγ).1 (by simp)
      intro x hx
      rw [hfix x (by omega) hx, getD_range hx]
    rw [this]; exact GenBy.id
  | succ k ih =>
    intro hk γ hγ hfix
    have hkn : k < n := by omega
    have hj : γ.getD k 0 ≤ k := by
      by_contra hcon
      have hjn : γ.getD k 0 < n := perm_getD_lt hγ hkn
      have := hfix (γ.getD k 0) (by omega) hjn
      have := perm_getD_inj hγ hjn hkn this
      omega
    obtain ⟨τ, hτ, e1, e2⟩ := edg_tau hs k _ hj hkn
    have hτp := GenBy.perm hS hτ
    refine genBy_factor hτp hγ hτ (ih (by omega) _ (compL_perm (invL_perm hτp) hγ) ?_)
    intro x hkx hx
    rw [compL_getD hx]
    by_cases hxk : x = k
    · subst hxk
      rw [← e1]; exact invL_left hτp hx
    · rw [hfix x (by omega) hx]
      have := invL_left hτp hx
      rw [e2 x (by omega) hx] at this
      exact this

theorem edgRes_generate {n : Nat} (hn : n ≠ 0) :
    ∃ gs, (edgRes n).gens = some gs ∧ ∀ γ : List Nat, γ.Perm (List.range n) → GenBy (fun x => x ∈ gs) n γ := by
  obtain ⟨gs, ds, hg, _, _, hperm, _⟩ := edgRes_cert hn
  refine ⟨gs, hg, fun γ hγ => ?_⟩
  have hg' : gs = _ := (Option.some.inj hg).symm
  have hsw : ∀ i, i + 1 < n → GenBy (fun x => x ∈ gs) n (edg_sw n i) := by
    apply edg_sw_all hperm
    · intro h2
      apply GenBy.gen
      rw [hg', if_neg (by omega), if_neg (by omega)]
      exact List.mem_cons_self ..
    · intro h1
      apply GenBy.gen
      rw [hg', if_neg (by omega)]
      by_cases h2 : n = 2
      · subst h2; simp [edg_sw]; decide
      · rw [if_neg h2]
        exact List.mem_cons_of_mem _ (List.mem_cons_self ..)
  exact edg_all hperm hsw n (Nat.le_refl _) γ hγ (fun x h1 h2 => by omega)

end CanonF
