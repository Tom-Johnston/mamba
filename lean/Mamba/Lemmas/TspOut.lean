import Mamba.Lemmas.Tsp
import Mamba.Spec.Tsplib
/-! Helper lemmas for `lib_output` (C20): the bytes of the fault-free run and how they read back. -/
namespace Tsp

theorem write_noFaults (s : W) (p : List Char) :
    write noFaults s p = (⟨s.calls + 1, s.out ++ p⟩, p.length, none) := rfl

theorem script_length (n : Nat) (w : Nat → Nat → Int) :
    (script n w).length = (hdrWrites n).length + (body n w).length + trailerWrites.length := by
  simp only [script, List.length_append, List.length_map, Nat.add_assoc]

theorem script_bytes (n : Nat) (w : Nat → Nat → Int) :
    ((script n w).map Prod.snd).flatten =
      (hdrWrites n).flatten ++ (body n w).flatMap Chunk.bytes ++ trailerWrites.flatten := by
  have h1 : ∀ l : List (List Char), (l.map (Prod.mk false)).map Prod.snd = l := fun l => by
    rw [List.map_map]; exact List.map_id' l
  have h2 : ((body n w).map fun c => (true, c.bytes)).map Prod.snd = (body n w).map Chunk.bytes := by
    rw [List.map_map]; exact List.map_congr_left fun _ _ => rfl
  rw [script, List.map_append, List.map_append, h1, h1, h2, List.flatten_append, List.flatten_append,
    List.flatMap_def, List.append_assoc]

theorem lib_ok (n : Nat) (w : Nat → Nat → Int) (f : Nat → WriteResult)
    (h : ∀ k, k < (hdrWrites n).length + (body n w).length + trailerWrites.length → f k = .ok) :
    lib n w f =
      ⟨(hdrWrites n).flatten ++ (body n w).flatMap Chunk.bytes ++ trailerWrites.flatten, none,
        (hdrWrites n).length + (body n w).length + trailerWrites.length, allPairs n⟩ := by
  rw [lib_run, runCalls_ok (script n w) ⟨0, []⟩ fun k _ hk => h k (by rwa [Nat.zero_add, script_length] at hk),
    runCalls_ok _ ⟨0, []⟩ fun k _ hk => h k (by
      rw [Nat.zero_add, List.length_map] at hk; exact Nat.lt_of_lt_of_le hk (by rw [Nat.add_assoc]; exact Nat.le_add_right _ _)),
    if_pos rfl, script_length, script_bytes]
  dsimp only [Res.of]
  rw [List.nil_append, Nat.zero_add]

theorem lib_noFaults (n : Nat) (w : Nat → Nat → Int) :
    lib n w noFaults =
      ⟨(hdrWrites n).flatten ++ (body n w).flatMap Chunk.bytes ++ trailerWrites.flatten, none,
        (hdrWrites n).length + (body n w).length + trailerWrites.length, allPairs n⟩ :=
  lib_ok n w noFaults (fun _ _ => rfl)


/-- the padding character is a blank (the reader cuts fields at blanks) -/
theorem padChar_eq : padChar = ' ' := by decide

theorem padding_pos : 0 < padding := by decide

theorem padChunks_bytes (k : Nat) : (padChunks k).flatMap Chunk.bytes = List.replicate k padChar := by
  induction k using Nat.strongRecOn with
  | _ k ih =>
    rw [padChunks]
    split
    · rename_i h
      simp only [List.flatMap_cons, Chunk.bytes, ih (k - 8) (by omega)]
      rw [List.replicate_append_replicate]
      congr 1
      omega
    · simp [Chunk.bytes]

def rowTexts (w : Nat → Nat → Int) (i : Nat) : List (List Char) :=
  (List.range' 0 i).map (fun j => decInt (w i j)) ++ [['0']]

theorem rowCells_eq (w : Nat → Nat → Int) (i : Nat) :
    rowCells w i = (rowTexts w i).map (fun t => ⟨t, true⟩) ++ [⟨[], false⟩] := by
  simp [rowCells, rowTexts]

/-- a cell as it appears in the output: padding then text (`AlignRight`) or text then padding -/
def cellBytes (p : Nat × List Char) : List Char :=
  if alignRight then List.replicate (p.1 - p.2.length) padChar ++ p.2
  else p.2 ++ List.replicate (p.1 - p.2.length) padChar

theorem writeCells_bytes (ts : List (List Char)) (hne : ∀ t ∈ ts, t ≠ []) :
    ∀ ws : List Nat, ws.length = ts.length →
      (writeCells ws (ts.map (fun t => ⟨t, true⟩) ++ [⟨[], false⟩])).flatMap Chunk.bytes =
        (List.zip ws ts).flatMap cellBytes := by
  induction ts with
  | nil =>
    intro ws h
    have : ws = [] := List.length_eq_zero_iff.mp h
    subst this
    simp [writeCells, writeCell]
  | cons t ts ih =>
    intro ws h
    cases ws with
    | nil => simp at h
    | cons wd ws =>
      have ht : t.length ≠ 0 := by
        have := hne t (by simp)
        intro h0; exact this (List.length_eq_zero_iff.mp h0)
      simp only [List.map_cons, List.cons_append, writeCells, writeCell, ht, if_false, List.flatMap_append,
        List.zip_cons_cons, List.flatMap_cons, cellBytes]
      rw [ih (fun x hx => hne x (by simp [hx])) ws (by simpa using h)]
      by_cases har : alignRight = true
      · simp [har, padChunks_bytes, Chunk.bytes]
      · simp [har, padChunks_bytes, Chunk.bytes]

theorem rowTexts_ne_nil (w : Nat → Nat → Int) (i : Nat) : ∀ t ∈ rowTexts w i, t ≠ [] := by
  intro t ht
  simp [rowTexts] at ht
  rcases ht with ⟨j, _, rfl⟩ | rfl
  · exact decInt_ne_nil _
  · simp

theorem rowTexts_length (w : Nat → Nat → Int) (i : Nat) : (rowTexts w i).length = i + 1 := by
  simp [rowTexts]

def rowBytes (n : Nat) (w : Nat → Nat → Int) (i : Nat) : List Char :=
  (List.zip (widthsUpTo n w i) (rowTexts w i)).flatMap cellBytes

theorem writeLine_bytes (n : Nat) (w : Nat → Nat → Int) (i : Nat) :
    (writeLine (widthsUpTo n w i) (rowL w i)).flatMap Chunk.bytes = rowBytes n w i ++ ['\n'] := by
  simp only [writeLine, rowL, rowCells_eq, List.flatMap_append, Bool.false_eq_true, if_false]
  rw [writeCells_bytes _ (rowTexts_ne_nil w i) _ (by rw [widthsUpTo_length, rowTexts_length])]
  simp [rowBytes, Chunk.bytes]

theorem body_bytes (n : Nat) (w : Nat → Nat → Int) :
    (body n w).flatMap Chunk.bytes = (List.range' 0 n).flatMap (fun i => rowBytes n w i ++ ['\n']) := by
  rw [body_eq]
  simp only [List.flatMap_append, List.flatMap_assoc, writeLine_bytes]
  simp [Chunk.bytes]

/-! ### the padding is at least one blank (and the subtraction in `writePadding` is never truncated) -/

theorem foldl_max_ge (c : Nat) (blk : List Line) :
    ∀ acc : Nat, acc ≤ blk.foldl (fun a l => max a (cellW c l)) acc ∧
      ∀ l ∈ blk, cellW c l ≤ blk.foldl (fun a l => max a (cellW c l)) acc := by
  induction blk with
  | nil => intro acc; simp
  | cons x xs ih =>
    intro acc
    have h := ih (max acc (cellW c x))
    constructor
    · simp only [List.foldl_cons]; have := h.1; omega
    · intro l hl
      simp only [List.foldl_cons]
      rcases List.mem_cons.mp hl with rfl | hl
      · have := h.1; omega
      · exact h.2 l hl

theorem blockWidth_ge (c : Nat) (blk : List Line) (l : Line) (h : l ∈ blk) : cellW c l ≤ blockWidth c blk :=
  (foldl_max_ge c blk minwidth).2 l h

theorem cellW_rowL (w : Nat → Nat → Int) (i j : Nat) (hj : j < (rowTexts w i).length) :
    cellW j (rowL w i) = ((rowTexts w i)[j]).length + padding := by
  have : (rowCells w i)[j]? = some ⟨(rowTexts w i)[j], true⟩ := by
    rw [rowCells_eq, List.getElem?_append_left (by simpa using hj)]
    simp [hj]
  simp [cellW, rowL, this]

theorem pad_ok (n : Nat) (w : Nat → Nat → Int) (i : Nat) (hi : i < n) :
    ∀ p ∈ List.zip (widthsUpTo n w i) (rowTexts w i), p.2.length + 1 ≤ p.1 := by
  intro p hp
  obtain ⟨j, hj, rfl⟩ := List.mem_iff_getElem.mp hp
  have hj' : j < i + 1 := by
    rw [List.length_zip, widthsUpTo_length, rowTexts_length, Nat.min_self] at hj; exact hj
  have hjt : j < (rowTexts w i).length := by rw [rowTexts_length]; exact hj'
  simp only [List.getElem_zip]
  have hw : (widthsUpTo n w i)[j]'(by rw [widthsUpTo_length]; exact hj') = colW n w j := by
    simp [widthsUpTo]
  have hge : ((rowTexts w i)[j]).length + padding ≤ colW n w j := by
    rw [← cellW_rowL w i j hjt]
    apply blockWidth_ge
    simp only [rowsFrom, List.mem_map]
    refine ⟨i, ?_, rfl⟩
    rw [List.mem_range'_1]
    omega
  have := padding_pos
  rw [hw]
  omega

theorem splitAux_append_sep (sep : Char) (a rest : List Char) (h : sep ∉ a) :
    ∀ acc, splitAux sep (a ++ sep :: rest) acc = (acc.reverse ++ a) :: splitAux sep rest [] := by
  induction a with
  | nil => intro acc; simp [splitAux]
  | cons c cs ih =>
    intro acc
    have hc : c ≠ sep := fun e => h (by simp [e])
    simp only [List.cons_append, splitAux, hc, if_false]
    rw [ih (fun hm => h (by simp [hm]))]
    simp

theorem splitAux_no_sep (sep : Char) (a : List Char) (h : sep ∉ a) :
    ∀ acc, splitAux sep a acc = [acc.reverse ++ a] := by
  induction a with
  | nil => intro acc; simp [splitAux]
  | cons c cs ih =>
    intro acc
    have hc : c ≠ sep := fun e => h (by simp [e])
    simp only [splitAux, hc, if_false]
    rw [ih (fun hm => h (by simp [hm]))]
    simp

theorem lines_flatMap (ls : List (List Char)) (h : ∀ l ∈ ls, '\n' ∉ l) :
    lines (ls.flatMap (fun l => l ++ ['\n'])) = ls ++ [[]] := by
  induction ls with
  | nil => simp [lines, splitOn, splitAux]
  | cons l ls ih =>
    have := splitAux_append_sep '\n' l (ls.flatMap (fun l => l ++ ['\n'])) (h l (by simp)) []
    simp only [lines, splitOn] at ih ⊢
    simp only [List.flatMap_cons, List.append_assoc, List.singleton_append, this]
    rw [ih (fun x hx => h x (by simp [hx]))]
    simp

theorem fields_space (l : List Char) : fields (' ' :: l) = fields l := by
  simp [fields, splitOn, splitAux]

theorem fields_spaces (k : Nat) (l : List Char) : fields (List.replicate k ' ' ++ l) = fields l := by
  induction k with
  | zero => simp
  | succ k ih => simp [List.replicate_succ, fields_space, ih]

theorem fields_tok_space (t l : List Char) (hne : t ≠ []) (h : ' ' ∉ t) :
    fields (t ++ ' ' :: l) = t :: fields l := by
  simp only [fields, splitOn, splitAux_append_sep ' ' t l h []]
  cases t with
  | nil => exact absurd rfl hne
  | cons a as => simp

theorem fields_tok (t : List Char) (hne : t ≠ []) (h : ' ' ∉ t) : fields t = [t] := by
  simp only [fields, splitOn, splitAux_no_sep ' ' t h []]
  cases t with
  | nil => exact absurd rfl hne
  | cons a as => simp

def cellBytesR (p : Nat × List Char) : List Char := List.replicate (p.1 - p.2.length) ' ' ++ p.2
def cellBytesL (p : Nat × List Char) : List Char := p.2 ++ List.replicate (p.1 - p.2.length) ' '

theorem fields_cellsR (ps : List (Nat × List Char))
    (h : ∀ p ∈ ps, p.2.length + 1 ≤ p.1 ∧ p.2 ≠ [] ∧ ' ' ∉ p.2) :
    fields (ps.flatMap cellBytesR) = ps.map Prod.snd ∧
      (ps.flatMap cellBytesR = [] ∨ ∃ Y, ps.flatMap cellBytesR = ' ' :: Y) := by
  induction ps with
  | nil => simp [fields, splitOn, splitAux]
  | cons p ps ih =>
    obtain ⟨ih1, ih2⟩ := ih (fun q hq => h q (by simp [hq]))
    obtain ⟨hp1, hp2, hp3⟩ := h p (by simp)
    have hk : p.1 - p.2.length = (p.1 - p.2.length - 1) + 1 := by omega
    constructor
    · simp only [List.flatMap_cons, cellBytesR, List.append_assoc, fields_spaces, List.map_cons]
      rcases ih2 with h0 | ⟨Y, hY⟩
      · rw [h0, List.append_nil, fields_tok _ hp2 hp3]
        rw [h0] at ih1
        rw [← ih1]
        simp [fields, splitOn, splitAux]
      · rw [hY, fields_tok_space _ _ hp2 hp3]
        rw [hY, fields_space] at ih1
        rw [ih1]
    · right
      refine ⟨List.replicate (p.1 - p.2.length - 1) ' ' ++ p.2 ++ ps.flatMap cellBytesR, ?_⟩
      simp only [List.flatMap_cons, cellBytesR]
      rw [hk, List.replicate_succ]
      simp

theorem fields_cellsL (ps : List (Nat × List Char))
    (h : ∀ p ∈ ps, p.2.length + 1 ≤ p.1 ∧ p.2 ≠ [] ∧ ' ' ∉ p.2) :
    fields (ps.flatMap cellBytesL) = ps.map Prod.snd := by
  induction ps with
  | nil => simp [fields, splitOn, splitAux]
  | cons p ps ih =>
    obtain ⟨hp1, hp2, hp3⟩ := h p (by simp)
    have hk : p.1 - p.2.length = (p.1 - p.2.length - 1) + 1 := by omega
    simp only [List.flatMap_cons, cellBytesL, List.map_cons, List.append_assoc]
    rw [hk, List.replicate_succ, List.cons_append, fields_tok_space _ _ hp2 hp3, fields_spaces,
      ih (fun q hq => h q (by simp [hq]))]

theorem cellBytes_eq : cellBytes = if alignRight then cellBytesR else cellBytesL := by
  funext p
  simp only [cellBytes, padChar_eq]
  split <;> rfl

theorem fields_cells (ps : List (Nat × List Char))
    (h : ∀ p ∈ ps, p.2.length + 1 ≤ p.1 ∧ p.2 ≠ [] ∧ ' ' ∉ p.2) :
    fields (ps.flatMap cellBytes) = ps.map Prod.snd := by
  rw [cellBytes_eq]
  split
  · exact (fields_cellsR ps h).1
  · exact fields_cellsL ps h

theorem rowTexts_plain (w : Nat → Nat → Int) (i : Nat) : ∀ t ∈ rowTexts w i, ∀ c ∈ t, Plain c := by
  intro t ht c hc
  simp [rowTexts] at ht
  rcases ht with ⟨j, _, rfl⟩ | rfl
  · exact decInt_plain _ c hc
  · simp at hc; subst hc; unfold Plain; decide

theorem zip_snd_mem {α β : Type} {l₁ : List α} {l₂ : List β} {p : α × β} (h : p ∈ List.zip l₁ l₂) : p.2 ∈ l₂ :=
  (List.of_mem_zip (a := p.1) (b := p.2) h).2

theorem fields_rowBytes (n : Nat) (w : Nat → Nat → Int) (i : Nat) (hi : i < n) :
    fields (rowBytes n w i) = rowTexts w i := by
  have h := fields_cells (List.zip (widthsUpTo n w i) (rowTexts w i)) (by
    intro p hp
    refine ⟨pad_ok n w i hi p hp, rowTexts_ne_nil w i _ (zip_snd_mem hp), ?_⟩
    intro hsp
    exact (rowTexts_plain w i _ (zip_snd_mem hp) ' ' hsp).2.2 rfl)
  rw [rowBytes, h, List.map_snd_zip]
  rw [widthsUpTo_length, rowTexts_length]
  exact Nat.le_refl _

theorem rowBytes_no_nl (n : Nat) (w : Nat → Nat → Int) (i : Nat) : '\n' ∉ rowBytes n w i := by
  intro h
  simp only [rowBytes, List.mem_flatMap, cellBytes] at h
  obtain ⟨p, hp, hc⟩ := h
  have hpad : '\n' ∉ List.replicate (p.1 - p.2.length) padChar := by
    rw [padChar_eq]; intro hm; exact absurd (List.mem_replicate.mp hm).2 (by decide)
  have htxt : '\n' ∉ p.2 := fun hm => (rowTexts_plain w i _ (zip_snd_mem hp) '\n' hm).2.1 rfl
  split at hc <;> rcases List.mem_append.mp hc with hc | hc <;> first | exact hpad hc | exact htxt hc

def ln1 : List Char := "TYPE: TSP".toList
def lnDim : List Char := "DIMENSION: ".toList
def ln3 : List Char := "DISPLAY_DATA_TYPE: NO_DISPLAY".toList
def ln4 : List Char := "EDGE_WEIGHT_TYPE: EXPLICIT".toList
def ln5 : List Char := "EDGE_WEIGHT_FORMAT: LOWER_DIAG_ROW".toList
def ln6 : List Char := "EDGE_WEIGHT_SECTION".toList
def lnEOF : List Char := "EOF".toList

def hdrLines (n : Nat) : List (List Char) := [ln1, lnDim ++ decNat n, ln3, ln4, ln5, ln6]

def outLines (n : Nat) (w : Nat → Nat → Int) : List (List Char) :=
  [ln1, lnDim ++ decNat n, ln3, ln4, ln5, ln6] ++ (List.range' 0 n).map (rowBytes n w) ++ [lnEOF]

theorem outLines_eq (n : Nat) (w : Nat → Nat → Int) :
    outLines n w = hdrLines n ++ (List.range' 0 n).map (rowBytes n w) ++ [lnEOF] := rfl

/-! The facts below depend on the generated string literals.  Each first rewrites `"…".toList` to the literal's
character list with `String.toList_ofList` (a literal is `String.ofList` of its characters by definition), and only
then evaluates: evaluating `String.toList` itself means UTF-8 encoding and decoding, quadratic in the length. -/

theorem hdrWrites_flatten (n : Nat) : (hdrWrites n).flatten = headerText n := by
  unfold headerText
  rw [show hdrBeforeN.toList = _ from String.toList_ofList, show hdrAfterN.toList = _ from String.toList_ofList]
  simp only [hdrWrites, hdrSegs, Gen.Tsp.found_header, Gen.Tsp.hdrWrites, List.map_cons, List.map_nil,
    List.flatMap_cons, List.flatMap_nil, segBytes, List.flatten_cons, List.flatten_nil]
  repeat rw [String.toList_ofList]
  simp only [List.append_assoc]
  rfl

theorem trailerWrites_flatten : trailerWrites.flatten = trailerText := rfl

/-- **the header keywords** (hard-wired: the property dictates them) -/
theorem hdrBeforeN_eq : hdrBeforeN.toList = ln1 ++ '\n' :: lnDim := by
  unfold ln1 lnDim
  rw [show hdrBeforeN.toList = _ from String.toList_ofList]
  repeat rw [String.toList_ofList]
  rfl

theorem hdrAfterN_eq : hdrAfterN.toList =
    '\n' :: (ln3 ++ '\n' :: (ln4 ++ '\n' :: (ln5 ++ '\n' :: (ln6 ++ ['\n'])))) := by
  unfold ln3 ln4 ln5 ln6
  rw [show hdrAfterN.toList = _ from String.toList_ofList]
  repeat rw [String.toList_ofList]
  rfl

theorem headerText_lines (n : Nat) : headerText n = (hdrLines n).flatMap (fun l => l ++ ['\n']) := by
  rw [headerText, hdrBeforeN_eq, hdrAfterN_eq]
  simp only [hdrLines, List.flatMap_cons, List.flatMap_nil, List.append_assoc, List.cons_append, List.nil_append,
    List.append_nil]

theorem trailerText_eq : trailerText = lnEOF ++ ['\n'] := by
  unfold lnEOF
  simp only [trailerText, trailerLits, Gen.Tsp.found_trailer, Gen.Tsp.trailerWrites, List.map_cons, List.map_nil,
    List.flatten_cons, List.flatten_nil]
  repeat rw [String.toList_ofList]
  rfl

theorem out_eq_lines (n : Nat) (w : Nat → Nat → Int) :
    (lib n w noFaults).out = (outLines n w).flatMap (fun l => l ++ ['\n']) := by
  rw [lib_noFaults, body_bytes, outLines_eq, hdrWrites_flatten, headerText_lines, trailerWrites_flatten,
    trailerText_eq]
  simp only [List.flatMap_append, List.flatMap_cons, List.flatMap_nil, List.flatMap_map, List.append_nil]

theorem decNat_no_nl (n : Nat) : '\n' ∉ decNat n := fun h => (decNat_plain n _ h).2.1 rfl
theorem decNat_no_space (n : Nat) : ' ' ∉ decNat n := fun h => (decNat_plain n _ h).2.2 rfl

theorem keywords_no_nl : ∀ l ∈ [lnEOF, ln1, lnDim, ln3, ln4, ln5, ln6], '\n' ∉ l := by
  unfold lnEOF ln1 lnDim ln3 ln4 ln5 ln6
  repeat rw [String.toList_ofList]
  decide

theorem hdrLines_no_nl (n : Nat) : ∀ l ∈ hdrLines n, '\n' ∉ l := by
  have hk := keywords_no_nl
  simp only [List.forall_mem_cons, hdrLines, List.mem_append, not_or] at hk ⊢
  exact ⟨hk.2.1, ⟨hk.2.2.1, decNat_no_nl n⟩, hk.2.2.2⟩

theorem outLines_no_nl (n : Nat) (w : Nat → Nat → Int) : ∀ l ∈ outLines n w, '\n' ∉ l := by
  intro l hl
  simp only [outLines_eq, List.mem_append, List.mem_map, List.mem_singleton] at hl
  rcases hl with (hl | ⟨i, _, rfl⟩) | rfl
  · exact hdrLines_no_nl n l hl
  · exact rowBytes_no_nl n w i
  · exact keywords_no_nl _ List.mem_cons_self

theorem expectedRow_eq (w : Nat → Nat → Int) (i : Nat) : expectedRow w i = rowTexts w i := by
  simp [expectedRow, rowTexts, List.range_eq_range']

theorem expectedHeader_lines (n : Nat) : expectedHeader n = (hdrLines n).map fields := by
  rw [expectedHeader, headerText_lines, lines_flatMap _ (hdrLines_no_nl n), List.dropLast_concat]

theorem lines_trailerText : lines trailerText = [lnEOF, []] := by
  have h : trailerText = [lnEOF].flatMap (fun l => l ++ ['\n']) := by
    rw [trailerText_eq, List.flatMap_cons, List.flatMap_nil, List.append_nil]
  rw [h, lines_flatMap _ (fun l hl => keywords_no_nl l (List.mem_singleton.mp hl ▸ List.mem_cons_self))]
  rfl

theorem parse_out (n : Nat) (w : Nat → Nat → Int) : parse (lib n w noFaults).out = expected n w := by
  rw [parse, out_eq_lines, lines_flatMap _ (outLines_no_nl n w), expected, expectedHeader_lines, lines_trailerText,
    outLines_eq]
  have hrows : ((List.range' 0 n).map (rowBytes n w)).map fields = (List.range n).map (expectedRow w) := by
    rw [List.map_map, List.range_eq_range']
    apply List.map_congr_left
    intro i hi
    rw [List.mem_range'_1] at hi
    simp only [Function.comp, expectedRow_eq]
    exact fields_rowBytes n w i (by omega)
  simp only [List.map_append, hrows, List.append_assoc, List.map_cons, List.map_nil, List.cons_append,
    List.nil_append]

theorem fields_dim (n : Nat) : fields (lnDim ++ decNat n) = ["DIMENSION:".toList, decNat n] := by
  have h : lnDim = "DIMENSION:".toList ++ [' '] ∧ "DIMENSION:".toList ≠ [] ∧ ' ' ∉ "DIMENSION:".toList := by
    unfold lnDim
    repeat rw [String.toList_ofList]
    decide
  rw [h.1, List.append_assoc, List.singleton_append, fields_tok_space _ _ h.2.1 h.2.2,
    fields_tok _ (decNat_ne_nil n) (decNat_no_space n)]

theorem digitsValue_append (l : List Char) (c : Char) :
    digitsValue (l ++ [c]) = 10 * digitsValue l + (c.toNat - '0'.toNat) := by
  simp [digitsValue, List.foldl_append]

theorem digitChar_value : ∀ d, d < 10 → (digitChar d).toNat - '0'.toNat = d := by decide

theorem decNat_value (n : Nat) : digitsValue (decNat n) = n := by
  induction n using Nat.strongRecOn with
  | _ n ih =>
    rw [decNat]
    split
    · rename_i h
      have := digitChar_value n h
      simp only [digitsValue, List.foldl_cons, List.foldl_nil]
      omega
    · rw [digitsValue_append, ih (n / 10) (by omega), digitChar_value _ (Nat.mod_lt _ (by omega))]
      omega

theorem decNat_head (n : Nat) (h : 0 < n) : (decNat n).head? ≠ some '0' := by
  induction n using Nat.strongRecOn with
  | _ n ih =>
    rw [decNat]
    split
    · rename_i h10
      have : ∀ d, d < 10 → 0 < d → digitChar d ≠ '0' := by decide
      simpa using this n h10 h
    · have hne := decNat_ne_nil (n / 10)
      have := ih (n / 10) (by omega) (by omega)
      cases hd : decNat (n / 10) with
      | nil => exact absurd hd hne
      | cons a as => simpa [hd] using this

end Tsp
