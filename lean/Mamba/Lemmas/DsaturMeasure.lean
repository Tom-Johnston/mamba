import Mamba.Lemmas.DsaturCInv
import Mathlib.Tactic.Ring
/-! DSATUR model: the termination measure. -/
namespace CliqueColour
open GraphSpec

def psum (f : Nat → Nat) (d : Nat) : Nat := ((List.range d).map f).sum

theorem psum_zero (f : Nat → Nat) : psum f 0 = 0 := rfl

theorem psum_succ (f : Nat → Nat) (d : Nat) : psum f (d + 1) = psum f d + f d := by
  simp [psum, List.range_succ]

theorem psum_congr {f f' : Nat → Nat} {d : Nat} (h : ∀ i, i < d → f i = f' i) : psum f d = psum f' d := by
  unfold psum
  congr 1
  apply List.map_congr_left
  intro i hi
  exact h i (List.mem_range.1 hi)

theorem psum_mono (f : Nat → Nat) {k d : Nat} (h : k ≤ d) : psum f k ≤ psum f d := by
  induction d with
  | zero => have : k = 0 := by omega
            subst this; exact Nat.le_refl _
  | succ d ih =>
    by_cases hk : k = d + 1
    · subst hk; exact Nat.le_refl _
    · rw [psum_succ]; have := ih (by omega); omega

def remAt (s : Dsat) (i : Nat) : Nat := (s.choices.getD i []).length - 1 - s.cur.getD i 0

/-- upper bound on the number of iterations still to come -/
def dsMeasure (g : G) (s : Dsat) : Nat :=
  (g.n + 2) ^ (g.n + 1 - s.chosen.length) + psum (fun i => remAt s i * (g.n + 2) ^ (g.n - i)) s.chosen.length

theorem DSInv.len_le {g : G} {U0 : Nat} {s : Dsat} (h : DSInv g U0 s) : s.chosen.length ≤ g.n :=
  h.chn.length_le_of_lt h.chlt

theorem DSInv.maxle {g : G} {U0 : Nat} {s : Dsat} (h : DSInv g U0 s) :
    ∀ k, k ≤ s.chosen.length → maxCol (colOf s) (s.chosen.take k) + 1 ≤ (k : Int) := by
  intro k
  induction k with
  | zero => intro _; simp [maxCol]
  | succ k ih =>
    intro hk
    have hk' : k < s.chosen.length := by omega
    rw [take_succ_getD hk', maxCol_snoc]
    have hp := h.pos k hk'
    have := (hp.optF _ (getD_mem hp.cur)).1
    rw [hp.col]
    have := ih (by omega)
    push_cast
    omega

theorem DSInv.choices_len {g : G} {U0 : Nat} {s : Dsat} (h : DSInv g U0 s) {i : Nat} (hi : i < s.chosen.length) :
    (s.choices.getD i []).length ≤ i + 1 := by
  have hsub : (s.choices.getD i []).Sublist (List.range (i + 1)) := by
    rw [sublist_range_iff]
    refine ⟨(h.pos i hi).optS, fun c hc => ?_⟩
    have := ((h.pos i hi).optF c hc).1
    have := h.maxle i (by omega)
    omega
  have := hsub.length_le
  simpa using this

theorem dsMeasure_pos (g : G) (s : Dsat) : 1 ≤ dsMeasure g s := by
  unfold dsMeasure
  have : 0 < (g.n + 2) ^ (g.n + 1 - s.chosen.length) := Nat.pow_pos (by omega)
  omega

theorem Move.measure {g : G} {k : Nat} {s r : Dsat} (hm : Move k s r) :
    dsMeasure g r = (g.n + 2) ^ (g.n - k) + psum (fun j => remAt s j * (g.n + 2) ^ (g.n - j)) k +
      remAt r k * (g.n + 2) ^ (g.n - k) := by
  unfold dsMeasure
  rw [hm.len, psum_succ, Nat.add_sub_add_right, Nat.add_assoc]
  congr 2
  exact psum_congr fun j hj => by
    unfold remAt; rw [hm.pre.choices j hj, hm.pre.cur j hj]

theorem Move.measure_push {g : G} {U0 : Nat} {s r : Dsat} (hm : Move s.chosen.length s r) (hr : DSInv g U0 r) :
    dsMeasure g r < dsMeasure g s := by
  have hdn : s.chosen.length + 1 ≤ g.n := by rw [← hm.len]; exact hr.len_le
  have hlast : remAt r s.chosen.length ≤ s.chosen.length := by
    have := hr.choices_len hm.lt
    unfold remAt
    omega
  rw [hm.measure]
  unfold dsMeasure
  have e2 : g.n + 1 - s.chosen.length = (g.n - s.chosen.length) + 1 := Nat.succ_sub (Nat.le_of_succ_le hdn)
  rw [e2, Nat.pow_succ]
  have hP0 : 0 < (g.n + 2) ^ (g.n - s.chosen.length) := Nat.pow_pos (by omega)
  generalize (g.n + 2) ^ (g.n - s.chosen.length) = P at *
  have : (1 + remAt r s.chosen.length) * P < (g.n + 2) * P := Nat.mul_lt_mul_of_pos_right (by omega) hP0
  have e3 : (1 + remAt r s.chosen.length) * P = P + remAt r s.chosen.length * P := by ring
  have e4 : P * (g.n + 2) = (g.n + 2) * P := by ring
  omega

theorem Move.measure_advance {g : G} {s r : Dsat} {i : Nat} (hm : Move i s r) (hi : i < s.chosen.length)
    (hlast : remAt r i + 1 = remAt s i) : dsMeasure g r < dsMeasure g s := by
  rw [hm.measure]
  unfold dsMeasure
  have hmono := psum_mono (fun j => remAt s j * (g.n + 2) ^ (g.n - j)) (hi : i + 1 ≤ s.chosen.length)
  rw [psum_succ] at hmono
  have hpos : 0 < (g.n + 2) ^ (g.n + 1 - s.chosen.length) := Nat.pow_pos (by omega)
  generalize (g.n + 2) ^ (g.n - i) = P at *
  have e3 : remAt s i * P = remAt r i * P + P := by rw [← hlast]; ring
  omega

end CliqueColour
