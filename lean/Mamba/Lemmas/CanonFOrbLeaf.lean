import Mamba.Lemmas.CanonFOrbBase
import Mamba.Lemmas.CanonFDfsLeafStep
/-!
# Orbit completeness (A-layer) at a leaf: the four cases of `LeafStep` (`CanonFDfsLeafStep.lean`)

* `orb_leaf_first`: after the first leaf `firstLeafOrbits` is the fresh union–find (`ORel` is equality on `0..n-1`), nothing
  is processed except the current children (`ph1`), and the only leaf below the top child is the first leaf itself, which
  is related to itself position by position.
* `orb_leaf_accept` (better than the best leaf) and `orb_leaf_other`: the leaf has not the certificate of the first leaf, so
  it is covered vacuously (`acov_leaf_of_ne`); the top frame turns to "between two children" (`acov_finish_top`); for
  `accept` the current path becomes the best-leaf path (`FrameAuxA.to_best`).
* `orb_leaf_eq` (certificate of a stored leaf `X`, Heuristic 1; companion of `dfs_leaf_eq`, the step is `EqLeafStep`): the
  orbit loop against `X` merges `firstLeafOrbits` position-wise along `γ = transport n oX order` (`orel_orbitLoop`): the
  relation `ORel` grows and relates every vertex to its `γ`-image (`GlobalA.grow`). The child of the divergence node on the
  path of `X` has been processed, hence is covered (`FrameAuxA1.abF` / `.abB`); `Heritable.backjump_frame` transfers the
  coverage to the child on the current path, which becomes the processed child of the new top frame
  (`acov_frames_backjump`).
-/
namespace CanonF

theorem perm_idxOf_inj {n : Nat} {o : List Nat} (ho : o.Perm (List.range n)) {u v : Nat} (hu : u < n) (hv : v < n)
    (h : o.idxOf u = o.idxOf v) : u = v := by
  have h1 := getElem?_idxOf_of_mem (ho.mem_iff.2 (List.mem_range.2 hu))
  have h2 := getElem?_idxOf_of_mem (ho.mem_iff.2 (List.mem_range.2 hv))
  rw [h, h2] at h1
  exact (Option.some.inj h1).symm

section
variable {n : Nat} {nb : Nbrs} {rf : Nat} {r : IR.St}

theorem acovFrames_of_count_zero {gh gh' : Gh} {s s' : LS} {vs : List Nat} (h0 : s.count = 0)
    {path choices : List Nat} {lv : List (Nat × Nat)} (hf : FramesOK n nb rf r vs path choices lv)
    (h : FrameAux n nb rf r gh s vs false path choices lv) : ACovFrames n nb rf r gh' s' vs false path choices lv := by
  rw [acovFrames_iff]
  exact (frames_first_child h0 hf h).imp_false fun _ _ _ _ _ _ hP i w hi hw => (hP.2 i w hi hw).elim

theorem FrameAuxA1.at_first {gh' : Gh} {s1 : LS} {vs : List Nat} (e1 : gh'.vsF = vs) (e2 : gh'.vsB = vs)
    {ps : List Nat} {c st : Nat}
    (key : ∀ i w, (cellL n nb rf r vs ps.length st)[i]? = some w → vs[ps.length]? = some w → i = c - st) :
    FrameAuxA1 n nb rf r gh' s1 vs false ps c st := by
  constructor
  · intro _ _ i w hi hw hx
    rw [e1] at hx
    have hi' : c - st < i := hi
    exact absurd (key i w hw hx ▸ hi') (Nat.lt_irrefl _)
  · intro _ _ i w hi hw hx
    rw [e2] at hx
    have hi' : c - st < i := hi
    exact absurd (key i w hw hx ▸ hi') (Nat.lt_irrefl _)

theorem FrameAuxA.at_first {gh' : Gh} {s1 : LS} {vs : List Nat} {op : OP} (e1 : gh'.vsF = vs) (e2 : gh'.vsB = vs)
    {path choices : List Nat} {lv : List (Nat × Nat)} (hf : FramesOK n nb rf r vs path choices lv)
    (hl : LevelsOK op path choices lv) (hlen : path.length ≤ vs.length) :
    FrameAuxA n nb rf r gh' s1 vs false path choices lv := by
  rw [frameAuxA_iff]
  exact (frames_on_path hl hf hlen).imp_false fun _ _ _ _ _ _ key => FrameAuxA1.at_first e1 e2 key

end

section
variable {n m : Nat} {nb : Nbrs} {rf : Nat} {r : IR.St}

theorem orb_leaf_first {gh : Gh} {lv : List (Nat × Nat)} {s s1 : LS} (hI : MInv n m nb s)
    (hlv : LevelsOK s.op s.path s.choices lv) (hDv : DNodev n nb rf r gh lv s) (L : LeafAt n m nb rf r gh lv s)
    (hcnt : s.count = 0) (S : FirstShape n s s1) :
    AAv n nb rf r { vs := gh.vs.dropLast, oF := s.op.order.toList, vsF := gh.vs, vsB := gh.vs, bgs := [] } lv s1 := by
  obtain ⟨-, hG, -, haux, -⟩ := hDv
  have hc := hI.core
  have h1 := L.path
  have h3 := L.len
  have h5 := L.frames
  have hng1 : s1.ngens = 0 := by rw [S.ngens]; exact hG.ngens0 hcnt
  -- the first leaf is related to itself, position by position
  have hself : ∀ u v, u < n → v < n →
      IR.col (IR.tab n (fun x => s.op.order.toList.idxOf x)) u =
        IR.col (IR.tab n (fun x => s.op.order.toList.idxOf x)) v → ORel s1 u v := by
    intro u v hu hv hcol
    rw [IR.col_tab _ hu, IR.col_tab _ hv] at hcol
    have huv := perm_idxOf_inj hc.part.perm hu hv hcol
    subst huv
    exact ORel.refl s1 u
  have hleafA : ACov n nb rf
      (lFof n { vs := gh.vs.dropLast, oF := s.op.order.toList, vsF := gh.vs, vsB := gh.vs, bgs := [] })
      s1.firstLeaf.toList (ORel s1) (nodeL n nb rf r gh.vs gh.vs.length) := by
    rw [nodeL_length]
    refine acov_leaf L.leafT (fun _ u v hu hv hcol => ?_)
    rw [L.leafC] at hcol
    exact hself u v hu hv hcol
  -- the frames: nothing was processed before, both stored paths are now the current path
  have hfr : ACovFrames n nb rf r
        { vs := gh.vs.dropLast, oF := s.op.order.toList, vsF := gh.vs, vsB := gh.vs, bgs := [] } s1 gh.vs true
        s.path s.choices lv ∧
      FrameAuxA n nb rf r
        { vs := gh.vs.dropLast, oF := s.op.order.toList, vsF := gh.vs, vsB := gh.vs, bgs := [] } s1 gh.vs true
        s.path s.choices lv := by
    have hc0 := acovFrames_of_count_zero
      (gh' := { vs := gh.vs.dropLast, oF := s.op.order.toList, vsF := gh.vs, vsB := gh.vs, bgs := [] }) (s' := s1)
      hcnt h5 haux
    have hx0 := FrameAuxA.at_first
      (gh' := { vs := gh.vs.dropLast, oF := s.op.order.toList, vsF := gh.vs, vsB := gh.vs, bgs := [] }) (s1 := s1)
      (vs := gh.vs) rfl rfl h5 hlv (Nat.le_of_eq h3.symm)
    exact acov_finish_top h1 hlv h5 (Nat.le_of_eq h3.symm) (by rw [← h3]; exact hleafA) hc0 hx0
  refine ⟨?_, ?_, ?_, ?_⟩
  · constructor
    · intro _; rw [S.best, S.first, compare_self]; decide
    · intro _ _ u v hu hv hcol
      rw [S.bestPerm] at hcol
      exact hself u v hu hv hcol
    · intro γ hγ; cases hγ
    · intro k hk; omega
  · show ACovFrames n nb rf r _ s1 gh.vs.dropLast true s1.path s1.choices lv
    rw [S.path, S.choices]
    exact hfr.1.congr rfl rfl (fun _ => rfl) rfl L.dropLast
  · show FrameAuxA n nb rf r _ s1 gh.vs.dropLast true s1.path s1.choices lv
    rw [S.path, S.choices]
    exact hfr.2.congr rfl rfl rfl L.dropLast
  · intro hp
    rw [S.path] at hp
    have hvs : gh.vs = [] := List.eq_nil_of_length_eq_zero (by rw [h3, hp]; rfl)
    have : nodeL n nb rf r gh.vs gh.vs.length = r := by rw [hvs]; simp [nodeL, IR.nodeAt]
    rw [← this]
    exact hleafA

end

section
variable {n : Nat} {nb : Nbrs} {rf : Nat} {r : IR.St}

/-- one frame while its child is explored: the current leaf (vertex path `vs`) becomes the best leaf, so the child on the
new best-leaf path is the one being explored, not a processed one -/
theorem FrameAuxA1.to_best {gh gh' : Gh} {s s' : LS} {vs : List Nat} {ps : List Nat} {c st : Nat}
    (h : FrameAuxA1 n nb rf r gh s vs false ps c st)
    (key : ∀ i w, (cellL n nb rf r vs ps.length st)[i]? = some w → vs[ps.length]? = some w → i = c - st)
    (g0 : gh'.oF = gh.oF) (g1 : gh'.vsF = gh.vsF) (g2 : gh'.vsB = vs)
    (hcnt : 0 < s.count) (e1 : s'.firstLeaf = s.firstLeaf) (e2 : s'.flOrbits = s.flOrbits) :
    FrameAuxA1 n nb rf r gh' s' vs false ps c st := by
  have hR : ∀ a b, a < n → b < n → ORel s a b → ORel s' a b := fun a b _ _ hab => by rw [ORel_congr e2]; exact hab
  constructor
  · intro _ hpre i w hi hw hx
    rw [g1] at hpre hx
    exact acovb_transfer g0 e1 hR (h.abF hcnt hpre i w hi hw hx)
  · intro _ _ i w hi hw hx
    rw [g2] at hx
    have hi' : c - st < i := hi
    exact absurd (key i w hw hx ▸ hi') (Nat.lt_irrefl _)

theorem FrameAuxA.to_best {gh gh' : Gh} {s s' : LS} {vs : List Nat} {op : OP}
    {path choices : List Nat} {lv : List (Nat × Nat)} (h : FrameAuxA n nb rf r gh s vs false path choices lv)
    (g0 : gh'.oF = gh.oF) (g1 : gh'.vsF = gh.vsF) (g2 : gh'.vsB = vs)
    (hcnt : 0 < s.count) (e1 : s'.firstLeaf = s.firstLeaf) (e2 : s'.flOrbits = s.flOrbits)
    (hl : LevelsOK op path choices lv) (hf : FramesOK n nb rf r vs path choices lv) (hlen : path.length ≤ vs.length) :
    FrameAuxA n nb rf r gh' s' vs false path choices lv := by
  rw [frameAuxA_iff] at h ⊢
  exact ((frames_on_path hl hf hlen).and h).imp_false fun _ _ _ _ _ _ ⟨key, hA⟩ =>
    FrameAuxA1.to_best hA key g0 g1 g2 hcnt e1 e2

end

section
variable {n m : Nat} {nb : Nbrs} {rf : Nat} {r : IR.St} (hnb : NbOK nb n)

include hnb in
theorem orb_leaf_accept {gh : Gh} {lv : List (Nat × Nat)} {s s1 : LS} {cb bpi : Sl Nat} (hI : MInv n m nb s)
    (hlv : LevelsOK s.op s.path s.choices lv) (hleaf : s.op.binDividers.len = n)
    (hDv : DNodev n nb rf r gh lv s) (hAv : ANodev n nb rf r gh lv s) (L : LeafAt n m nb rf r gh lv s)
    (hcnt : 0 < s.count) (hcmp : compare s.op.value.toList s.currentBest.toList = 1) (S : AcceptShape n s s1 cb bpi) :
    AAv n nb rf r { gh with vs := gh.vs.dropLast, vsB := gh.vs, bgs := [] } lv s1 := by
  obtain ⟨a1, a2, a3⟩ := hAv
  have h1 := L.path
  have h3 := L.len
  have h5 := L.frames
  have hcbT := S.best
  -- the new best certificate is larger than the first certificate
  have hbv : compare s.currentBest.toList s.op.value.toList = -1 := (compare_eq_neg_one_iff _ _).2 hcmp
  have hfv : compare s.firstLeaf.toList s.op.value.toList = -1 := compare_trans_le_lt _ _ _ (a1.bgf hcnt) hbv
  have hfne : s.op.value.toList ≠ s.firstLeaf.toList := by
    intro e; rw [e, compare_self] at hfv; cases hfv
  -- the leaf is covered vacuously, for every relation and first-leaf colouring
  have hleafA : ∀ (lF : Array Nat) (R : Nat → Nat → Prop),
      ACov n nb rf lF s.firstLeaf.toList R (nodeL n nb rf r gh.vs gh.vs.length) := fun lF R => by
    rw [nodeL_length]
    exact acov_leaf_of_ne hnb hI.core.part hleaf L.mtch L.clean L.spl
      (fun h0 => hfne ((compare_eq_zero _ _).1 h0))
  rw [S.s1_eq]
  -- the frames: the leaf is the child of the top frame that was being explored
  obtain ⟨k1, k2⟩ := acov_finish_top
    (gh := { gh with vs := gh.vs.dropLast, vsB := gh.vs, bgs := [] })
    (s := { s with count := s.count + 1, currentBest := cb, bestPath := s.bestPath.copyFrom s.path.reverse,
                   bestPerm := s.bestPerm.copyFrom s.op.order.toList, bestPermInv := bpi, bestOrbits := Disjoint.new n })
    h1 hlv h5 (Nat.le_of_eq h3.symm) (by rw [← h3]; exact hleafA _ _)
    (a2.congr rfl rfl (onFirstB_count_succ hcnt rfl rfl) rfl (fun _ _ => rfl))
    (a3.to_best rfl rfl rfl hcnt rfl rfl hlv h5 (Nat.le_of_eq h3.symm))
  refine ⟨?_, ?_, ?_, fun hp => absurd hp (L.path_ne hDv.2.2.2.2 hcnt)⟩
  · constructor
    · intro _
      show compare s.firstLeaf.toList cb.toList ≠ 1
      rw [hcbT, hfv]; decide
    · intro _ e
      exfalso
      have e' : cb.toList = s.firstLeaf.toList := e
      rw [hcbT] at e'
      exact hfne e'
    · intro γ hγ; cases hγ
    · exact a1.gensM
  · exact k1.congr rfl rfl (fun _ => rfl) rfl L.dropLast
  · exact k2.congr rfl rfl rfl L.dropLast

end

theorem GlobalA.grow {n : Nat} {nb : Nbrs} {gh gh' : Gh} {s s' : LS} {γ0 : List Nat} (h : GlobalA n gh s)
    (hc : 0 < s.count) (e1 : s'.firstLeaf = s.firstLeaf) (e2 : s'.currentBest = s.currentBest)
    (e3 : s'.bestPerm = s.bestPerm) (eo : gh'.oF = gh.oF)
    (hR : ∀ a b, a < n → b < n → ORel s a b → ORel s' a b) (hRt : ∀ x, x < n → ORel s' x (γ0.getD x 0))
    (haut : ∀ γ ∈ gh.bgs, IsAutL nb n γ) (hbgs : ∀ γ ∈ gh'.bgs, γ = γ0 ∨ γ ∈ gh.bgs)
    (hgaut : ∀ k, k < s.ngens → ∃ g, s.gens[k]? = some g ∧ IsAutL nb n g.toList)
    (hgens : ∀ k g, k < s'.ngens → s'.gens[k]? = some g → (k < s.ngens ∧ s.gens[k]? = some g) ∨ g.toList = γ0) :
    GlobalA n gh' s' := by
  constructor
  · intro _; rw [e1, e2]; exact h.bgf hc
  · intro _ hcbf u v hu hv hcol
    rw [e2, e1] at hcbf
    rw [lFof_congr eo, e3] at hcol
    exact hR u v hu hv (h.bestA hc hcbf u v hu hv hcol)
  · intro γ hγ x hx
    rcases hbgs γ hγ with e | hm
    · rw [e]; exact hRt x hx
    · exact hR x _ hx (perm_getD_lt (haut γ hm).1 hx) (h.bgsM γ hm x hx)
  · intro k hk g hg x hx
    rcases hgens k g hk hg with ⟨hk', hg'⟩ | e
    · obtain ⟨g', e', ha⟩ := hgaut k hk'
      rw [hg'] at e'
      cases e'
      exact hR x _ hx (perm_getD_lt ha.1 hx) (h.gensM k hk' g hg' x hx)
    · rw [e]; exact hRt x hx

section
variable {n : Nat} {nb : Nbrs} {rf : Nat} {r : IR.St}

theorem acov_frames_backjump {gh gh' : Gh} {s s' : LS} {op : OP} {lv : List (Nat × Nat)} (j : Nat)
    {p c st sz : Nat} {ps cs : List Nat} {ls : List (Nat × Nat)} (hp : IR.IsPath (irG n nb) rf r gh.vs)
    (hpd : s.path.drop j = p :: ps) (hcd : s.choices.drop j = c :: cs) (hld : lv.drop j = (st, sz) :: ls)
    (hl : LevelsOK op (p :: ps) (c :: cs) ((st, sz) :: ls))
    (hf : FramesOK n nb rf r gh.vs (p :: ps) (c :: cs) ((st, sz) :: ls)) (hlen : (p :: ps).length ≤ gh.vs.length)
    (hcov : ACovFrames n nb rf r gh s gh.vs false s.path s.choices lv)
    (haux : FrameAuxA n nb rf r gh s gh.vs false s.path s.choices lv) (hc : 0 < s.count)
    (eo : gh'.oF = gh.oF) (eF : gh'.vsF = gh.vsF) (eB : gh'.vsB = gh.vsB) (e1 : s'.firstLeaf = s.firstLeaf)
    (e2 : ∀ qs, onFirstB s' qs = onFirstB s qs) (hR : ∀ a b, a < n → b < n → ORel s a b → ORel s' a b)
    (e4 : ∀ (w : Nat) (y : Int), s.flOrbits[w]? = some y → y ≥ 0 → ∃ y' : Int, s'.flOrbits[w]? = some y' ∧ y' ≥ 0)
    (hnode : ACov n nb rf (lFof n gh') s'.firstLeaf.toList (ORel s') (nodeL n nb rf r gh.vs (p :: ps).length)) :
    ACovFrames n nb rf r gh' s' (gh.vs.take ps.length) true (s.path.drop j) (s.choices.drop j) (lv.drop j) ∧
      FrameAuxA n nb rf r gh' s' (gh.vs.take ps.length) true (s.path.drop j) (s.choices.drop j) (lv.drop j) := by
  have c1 := (hcov.drop j).mono (gh' := gh') (s' := s') (vs' := gh.vs) eo e1 e2 hR e4 (fun _ _ => rfl)
  have a1 := (haux.drop j).mono (gh' := gh') (s' := s') (us' := gh.vs) (fun _ => hc) e1 hR eo eF eB (fun _ _ => rfl)
  rw [hpd, hcd, hld] at c1 a1 ⊢
  obtain ⟨c2, a2⟩ := acov_finish_top hp hl hf hlen hnode c1 a1
  have hv : ∀ L, L < (p :: ps).length → (gh.vs.take ps.length).take L = gh.vs.take L :=
    fun L hL => take_take_le gh.vs (Nat.le_of_lt_succ hL)
  exact ⟨c2.congr rfl rfl (fun _ => rfl) rfl hv, a2.mono (fun h0 => h0) rfl (fun _ _ _ _ h => h) rfl rfl rfl hv⟩

end

section
variable {n m : Nat} {nb : Nbrs} {rf : Nat} {r : IR.St}
  (hnb : NbOK nb n) (hA : IR.InvA (irG n nb) r) (hD : IR.InvD (irG n nb) r)
  {gh : Gh} {lv : List (Nat × Nat)} {s s1 : LS} {vsX oX certX : List Nat} {pinvX refX : Sl Nat}
  {bo fo : Disjoint.DS} {merges : Bool} {gens' : Array (Sl Nat)} {ngens' : Nat} {bgs' : List (List Nat)} {j : Nat}
  {op' : OP} {p c st sz : Nat} {ps cs : List Nat} {ls : List (Nat × Nat)}

include hnb hA hD in
theorem orb_leaf_eq (hI : MInv n m nb s) (hJ : CertM n m nb lv false s) (hDv : DNodev n nb rf r gh lv s)
    (hAv : ANodev n nb rf r gh lv s)
    (E : EqLeafStep n nb rf r gh lv s s1 vsX oX certX pinvX refX bo fo merges gens' ngens' bgs' j op' p ps c cs st sz
      ls) :
    AAv n nb rf r { gh with vs := gh.vs.take ps.length, bgs := bgs' } (lv.drop j) s1 := by
  obtain ⟨hw, hG, -, -, -⟩ := hDv
  obtain ⟨hGA, hcovA, hauxA⟩ := hAv
  have hc := hI.core
  have hpos := E.pos
  have B := E.jump
  have hX := E.stored
  have hfaA : FrameAuxA n nb rf r gh s gh.vs false (p :: ps) (c :: cs) ((st, sz) :: ls) := by
    have := hauxA.drop j; rwa [B.hpd, B.hcd, B.hld] at this
  have abX : ∀ i w, c - st < i → (cellL n nb rf r gh.vs ps.length st)[i]? = some w → vsX[ps.length]? = some w →
      ACov n nb rf (lFof n gh) s.firstLeaf.toList (ORel s)
        (IR.childSt (irG n nb) rf (nodeL n nb rf r gh.vs ps.length) st w) := by
    have hpre := B.pre
    rcases E.which with ⟨rfl, -⟩ | ⟨rfl, -⟩
    · exact fun i w hi hw' hx => hfaA.head.abB hpos hpre i w (by simpa using hi) hw' hx
    · exact fun i w hi hw' hx => hfaA.head.abF hpos hpre i w (by simpa using hi) hw' hx
  have hbgs : ∀ γ, γ ∈ bgs' → γ = transport n oX s.op.order.toList ∨ γ ∈ gh.bgs := by
    rcases E.which with ⟨-, rfl⟩ | ⟨-, rfl⟩
    · exact fun γ hγ => List.mem_cons.1 hγ
    · exact fun γ hγ => Or.inr hγ
  -- the orbit loop: `ORel` grows and relates every vertex to its image under `transport n oX order`
  obtain ⟨-, -, o3, -, o5⟩ := orel_orbitLoop (hJ.1.orb hpos).1 hJ.1.orbSz.1 hc.part.perm hX.perm hX.inv E.loop
  have hnode := (acov_heritable_rep hnb (lFof n gh) s.firstLeaf.toList fo).backjump_frame hnb hA hD hw.path E.leafT E.leafC
    hc.part.perm hX E.cert B.frames B.len B.pre B.later (fun i w hi hw' hx => (abX i w hi hw' hx).mono o3) o5
  rw [B.s1_eq]
  obtain ⟨c2, a2⟩ := acov_frames_backjump (gh' := { gh with vs := gh.vs.take ps.length, bgs := bgs' })
    (s' := { s with count := s.count + 1, bestOrbits := bo, flOrbits := fo, gens := gens', ngens := ngens',
                    op := op', path := s.path.drop j, choices := s.choices.drop j })
    j hw.path B.hpd B.hcd B.hld B.lvl B.frames B.len hcovA hauxA hpos rfl rfl rfl rfl (onFirstB_count_succ hpos rfl rfl) o3
    (fun w y hwy hy => nonroot_orbitLoop (hJ.1.orb hpos).1 E.loop hwy hy) hnode
  refine ⟨hGA.grow hpos rfl rfl rfl rfl o3 o5 hG.bgsAut hbgs hJ.1.gens
    (fun k g hk hg => recorded_gens hX.perm hc.part.lenOrder hX.inv E.record k g hk hg), c2, a2, fun hp0 => ?_⟩
  have hp' : s.path.drop j = [] := hp0
  rw [B.hpd] at hp'
  cases hp'

end

section
variable {n m : Nat} {nb : Nbrs} {rf : Nat} {r : IR.St}
  (hnb : NbOK nb n)

include hnb in
theorem orb_leaf_other {gh : Gh} {lv : List (Nat × Nat)} {s : LS} (hI : MInv n m nb s)
    (hlv : LevelsOK s.op s.path s.choices lv) (hleaf : s.op.binDividers.len = n)
    (hDv : DNodev n nb rf r gh lv s) (hAv : ANodev n nb rf r gh lv s) (L : LeafAt n m nb rf r gh lv s)
    (hcnt : 0 < s.count) (hne : s.op.value.toList ≠ s.firstLeaf.toList) :
    AAv n nb rf r { gh with vs := gh.vs.dropLast } lv { s with count := s.count + 1 } := by
  obtain ⟨hGA, hcovA, hauxA⟩ := hAv
  -- the leaf has not the certificate of the first leaf: it is covered vacuously
  have hleafcov : ACov n nb rf (lFof n gh) s.firstLeaf.toList (ORel s) (nodeL n nb rf r gh.vs s.path.length) := by
    rw [← L.len, nodeL_length]
    exact acov_leaf_of_ne hnb hI.core.part hleaf L.mtch L.clean L.spl (fun h0 => hne ((compare_eq_zero _ _).1 h0))
  obtain ⟨hcovT, hauxT⟩ := acov_finish_top L.path hlv L.frames (Nat.le_of_eq L.len.symm) hleafcov hcovA hauxA
  exact ⟨⟨fun _ => hGA.bgf hcnt, fun _ => hGA.bestA hcnt, hGA.bgsM, hGA.gensM⟩,
    hcovT.congr rfl rfl (onFirstB_count_succ hcnt rfl rfl) rfl L.dropLast,
    hauxT.mono (fun _ => hcnt) rfl (fun _ _ _ _ h => h) rfl rfl rfl L.dropLast,
    fun hp => absurd hp (L.path_ne hDv.2.2.2.2 hcnt)⟩

end
end CanonF
