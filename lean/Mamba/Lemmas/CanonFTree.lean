import Mamba.Lemmas.CanonFGens
import Mamba.Lemmas.CanonFTreeSplit
import Mamba.Lemmas.IRIso
import Mamba.Lemmas.CanonFClassDef
import Mamba.Lemmas.CanonFClassSplit
import Mamba.Lemmas.CanonFDeageBins
/-!
# The levels of the faithful search are nodes of the unpruned tree of `Model/IR.lean`

For every level `L ≤ age` of the depth-first search the colouring "bin index of the position of `v` with respect to the
dividers of age `≤ L`" (`lvCol`) is the colouring of an IR node (`LvOK`): the one reached by individualising the vertices
chosen so far, which the walk invariant records (`LevelsTree`, `CanonFWalk.lean`). `deage` keeps the levels below
(`lv_deage`), so do `splitBin` and the refinement (`lv_split`, `lv_refine`); a refinement that does not report "worse" adds
the next level (`levels_snoc`; `RefineMatch`, proved in `CanonFTreeLoop.lean`).
-/
namespace CanonF

def lvCol (n : Nat) (op : OP) (L : Int) : Array Nat :=
  IR.tab n (fun v => binIdx (oldDivs (L + 1) op) (op.order.toList.idxOf v))

structure LvOK (n : Nat) (op : OP) (L : Int) (s : IR.St) : Prop where
  col : s.c = lvCol n op L
  cells : s.cells = (oldDivs (L + 1) op).length
  work : s.work = []

theorem mem_oldDivs {op : OP} {a : Int} {d : Nat} (h : d ∈ oldDivs a op) : ∃ x : Int, (d, x) ∈ divs op ∧ x < a := by
  unfold oldDivs at h
  obtain ⟨⟨d', x⟩, hm, rfl⟩ := List.mem_map.1 h
  obtain ⟨h1, h2⟩ := List.mem_filter.1 hm
  exact ⟨x, h1, by simpa using h2⟩

theorem LvOK.of_rearr {n : Nat} {op op' : OP} {L : Int} {s : IR.St} (h : LvOK n op L s)
    (hp : PartInv n op) (hp' : PartInv n op')
    (hdiv : oldDivs (L + 1) op' = oldDivs (L + 1) op)
    (hord : ∀ p v, op'.order.toList[p]? = some v →
      ∃ q, op.order.toList[q]? = some v ∧ ∀ d ∈ oldDivs (L + 1) op, (d ≤ q ↔ d ≤ p)) : LvOK n op' L s := by
  refine ⟨?_, by rw [hdiv]; exact h.cells, h.work⟩
  rw [h.col]
  unfold lvCol
  apply IR.tab_congr
  intro v hv
  rw [hdiv]
  have hmem' : v ∈ op'.order.toList := hp'.perm.mem_iff.2 (List.mem_range.2 hv)
  obtain ⟨q, hq, hsep⟩ := hord _ v (getElem?_idxOf_of_mem hmem')
  have hnd : op.order.toList.Nodup := hp.perm.nodup_iff.2 List.nodup_range
  rw [idxOf_of_getElem? hnd hq]
  apply binIdx_congr
  intro d hd
  exact hsep d hd

theorem lvCol_top {n : Nat} {op : OP} {L : Int} (hp : PartInv n op) (ha : AgeInv op) (hL : op.age ≤ L) :
    lvCol n op L = colOf n op ∧ oldDivs (L + 1) op = op.binDividers.toList := by
  have hall : oldDivs (L + 1) op = op.binDividers.toList :=
    oldDivs_all hp.wfBd hp.wfAges hp.lenAges (fun x hx => Int.lt_add_one_iff.2 (Int.le_trans (ha.le x hx) hL))
  refine ⟨?_, hall⟩
  unfold lvCol colOf
  apply IR.tab_congr
  intro v hv
  rw [hall]
  have hmem : v ∈ op.order.toList := hp.perm.mem_iff.2 (List.mem_range.2 hv)
  rw [cellOf_order hp (getElem?_idxOf_of_mem hmem)]

theorem LvOK.toMatch {n : Nat} {op : OP} {L : Int} {s : IR.St} (h : LvOK n op L s) (hp : PartInv n op)
    (ha : AgeInv op) (hL : op.age ≤ L) (hbt : op.binsToCheck.len = 0) : Match n op s := by
  obtain ⟨e1, e2⟩ := lvCol_top hp ha hL
  refine ⟨by rw [h.col, e1], by rw [h.cells, e2, hp.length_bd], by rw [h.work]; exact List.nodup_nil, ?_⟩
  intro x
  rw [h.work, Sl.toList_of_len_zero hbt]
  exact ⟨fun h => absurd h (List.not_mem_nil), fun h => absurd h (List.not_mem_nil)⟩

theorem LvOK.ofMatch {n : Nat} {op : OP} {L : Int} {s : IR.St} (h : Match n op s) (hp : PartInv n op)
    (ha : AgeInv op) (hL : op.age ≤ L) (hbt : op.binsToCheck.len = 0) : LvOK n op L s := by
  obtain ⟨e1, e2⟩ := lvCol_top hp ha hL
  exact ⟨by rw [h.col, e1], by rw [h.cells, e2, hp.length_bd], h.work_nil hbt⟩

theorem mem_bd_of_oldDivs {op : OP} {a : Int} {d : Nat} (h : d ∈ oldDivs a op) : d ∈ op.binDividers.toList := by
  obtain ⟨x, hx, _⟩ := mem_oldDivs h
  exact (List.of_mem_zip hx).1

theorem lv_deage {n : Nat} {op op' : OP} (hp : PartInv n op) (ha : AgeInv op) (hage : 0 < op.age)
    (hd : deage op = .ok op') {L : Nat} (hL : (L : Int) < op.age) {s : IR.St} (h : LvOK n op L s) :
    LvOK n op' L s := by
  obtain ⟨d1, _, _, d4, _⟩ := deage_inv hp ha hage hd
  apply h.of_rearr hp d1 (oldDivs_of_filter d4 _ (by omega))
  intro p v hv
  obtain ⟨q, hq, hs⟩ := deage_rearr hp ha hage hd p v hv
  refine ⟨q, hq, fun d hdm => ?_⟩
  obtain ⟨x, hx, hlt⟩ := mem_oldDivs hdm
  exact hs d x hx (by omega)

theorem lv_split {n : Nat} {nb : Nbrs} {cb fl : Sl Nat} {op op' : OP} {i : Nat} {w : Bool}
    (hp : PartInv n op) (ha : AgeInv op) (hi : i < n) (hns : NonSingleton op.binDividers.toList i)
    (hs : splitBin nb cb fl op i = .ok (w, op')) {L : Nat} (hL : (L : Int) ≤ op.age) {s : IR.St}
    (h : LvOK n op L s) : LvOK n op' L s := by
  obtain ⟨q1, _, _, q4, _⟩ := splitBin_inv hp ha hi hns hs
  obtain ⟨r1, _⟩ := splitBin_rearr hp ha hi hns hs
  apply h.of_rearr hp q1 (oldDivs_of_ne q4 _ (by omega))
  intro p v hv
  obtain ⟨q, hq, hsep⟩ := r1 p v hv
  exact ⟨q, hq, fun d hdm => hsep d (mem_bd_of_oldDivs hdm)⟩

theorem lv_refine (hst : StablePerm) {n : Nat} {nb : Nbrs} {cb fl : Sl Nat} {opts : Options} {op op' : OP}
    {sc sc' : Scratch} {w : Bool} (hp : PartInv n op) (ha : AgeInv op) (hsc : ScratchOK n sc)
    (hr : refine nb cb fl opts op sc = .ok (w, op', sc')) {L : Nat} (hL : (L : Int) < op.age) {s : IR.St}
    (h : LvOK n op L s) : LvOK n op' L s := by
  obtain ⟨r1, _, _, r4, _⟩ := refine_inv hst hp ha hsc hr
  obtain ⟨x1, _⟩ := refine_rearr hst hp ha hsc hr
  apply h.of_rearr hp r1 (oldDivs_of_lt r4 _ (by omega))
  intro p v hv
  obtain ⟨q, hq, hsep⟩ := x1 p v hv
  exact ⟨q, hq, fun d hdm => hsep d (mem_bd_of_oldDivs hdm)⟩

theorem levels_snoc {n : Nat} {nb : Nbrs} {rf : Nat} {r : IR.St} {op : OP} {vs : List Nat} {t v : Nat}
    (hpth : IR.IsPath (irG n nb) rf r vs) (htgt : IR.target (irG n nb) (IR.nodeAt (irG n nb) rf r vs) = some t)
    (hvm : v ∈ IR.cellMembers (irG n nb) (IR.nodeAt (irG n nb) rf r vs).c t)
    (hlv : ∀ L, L ≤ vs.length → LvOK n op (L : Int) (IR.nodeAt (irG n nb) rf r (vs.take L)))
    (hnew : LvOK n op ((vs.length + 1 : Nat) : Int) (IR.childSt (irG n nb) rf (IR.nodeAt (irG n nb) rf r vs) t v)) :
    IR.IsPath (irG n nb) rf r (vs ++ [v]) ∧
      ∀ L, L ≤ vs.length + 1 → LvOK n op (L : Int) (IR.nodeAt (irG n nb) rf r ((vs ++ [v]).take L)) := by
  refine ⟨(IR.isPath_snoc vs r v).2 ⟨hpth, t, htgt, hvm⟩, fun L hL => ?_⟩
  rcases Nat.lt_or_ge L (vs.length + 1) with hlt | hge
  · rw [List.take_append_of_le_length (Nat.le_of_lt_succ hlt)]
    exact hlv L (Nat.le_of_lt_succ hlt)
  · obtain rfl : L = vs.length + 1 := Nat.le_antisymm hL hge
    rw [List.take_of_length_le (l := vs ++ [v]) (i := vs.length + 1) (Nat.le_of_eq List.length_append),
      IR.nodeAt_snoc vs r v t hpth htgt]
    exact hnew

/-- proved as `refine_match` (`CanonFTreeLoop.lean`), without hypotheses as `refineMatch` (`CanonFTreeFinal.lean`) -/
def RefineMatch : Prop :=
  ∀ {n : Nat} {nb : Nbrs} {cb fl : Sl Nat} {opts : Options} {op op' : OP} {sc sc' : Scratch} {s : IR.St},
    PartInv n op → AgeInv op → ScratchOK n sc → sc.timesSeen.len = n → BtcInv op → NbOK nb n → Match n op s →
    refine nb cb fl opts op sc = .ok (false, op', sc') →
    ∀ rf, 3 * n + 3 ≤ rf → Match n op' (IR.refine (irG n nb) rf s) ∧ op'.binsToCheck.len = 0

theorem LvOK.frame {n : Nat} {op op' : OP} {L : Int} {s : IR.St} (h : LvOK n op L s)
    (e1 : op'.order = op.order) (e2 : op'.binDividers = op.binDividers) (e3 : op'.binAges = op.binAges) :
    LvOK n op' L s := by
  have hd : ∀ a, oldDivs a op' = oldDivs a op := by intro a; unfold oldDivs divs; rw [e2, e3]
  exact ⟨by rw [h.col]; unfold lvCol; rw [hd, e1], by rw [hd]; exact h.cells, h.work⟩

end CanonF
