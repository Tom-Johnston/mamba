import Mamba.Lemmas.CodecBase
import Mamba.Lemmas.CodecCount
import Mamba.Lemmas.ListAux
/-!
The model's `SparseGraph` (`Sparse`) against the abstract graph (C07/C08). The well-formed values are exactly the
canonical values `sparseOf g` of well-formed graphs (`sparseOf_toG`, `sparseOf_wf`), so `SparseGraph.AddEdge` is
specified on the abstract graph: on `sparseOf g` it returns `sparseOf (addEdgeG g i j)`, and along an edge list from
`NewSparse(n, nil)` it builds `sparseOf (ofEdges n es)`. Also what the encoders see of a `SparseGraph` (`GI.ofSparse`).
-/
namespace Codec
open GraphSpec

theorem sp_filter_range (l : List Nat) (n : Nat) (h : l.Pairwise (· < ·)) (hr : ∀ x ∈ l, x < n) :
    l = (List.range n).filter (fun u => l.contains u) := by
  apply List.strictSorted_ext h (List.Pairwise.filter _ List.pairwise_lt_range)
  intro x
  simp only [List.mem_filter, List.mem_range, List.contains_iff_mem]
  constructor
  · intro hx; exact ⟨hr x hx, hx⟩
  · intro hx; exact hx.2

theorem sp_toG_adj_iff (s : Sparse) (u v : Nat) :
    s.toG.adj u v = true ↔ ∃ l, s.nbrs[u]? = some l ∧ v ∈ l := by
  unfold Sparse.toG
  cases hu : s.nbrs[u]? with
  | none => simp [hu]
  | some l => simp [hu]

theorem Sparse.WF.toG_wf {s : Sparse} (h : s.WF) : s.toG.WF where
  symm := by
    intro u v
    rw [Bool.eq_iff_iff, sp_toG_adj_iff, sp_toG_adj_iff]
    constructor
    · rintro ⟨l, hl, hv⟩
      have hvn := (h.range u l hl v hv).1
      have e := Array.getElem?_eq_getElem (xs := s.nbrs) (i := v) (by rw [h.nbrs_size]; exact hvn)
      exact ⟨_, e, (h.symm u v _ _ hl e).1 hv⟩
    · rintro ⟨l, hl, hv⟩
      have hvn := (h.range v l hl u hv).1
      have e := Array.getElem?_eq_getElem (xs := s.nbrs) (i := u) (by rw [h.nbrs_size]; exact hvn)
      exact ⟨_, e, (h.symm v u _ _ hl e).1 hv⟩
  irrefl := by
    intro v
    rw [Bool.eq_false_iff]
    intro hc
    obtain ⟨l, hl, hv⟩ := (sp_toG_adj_iff s v v).1 hc
    exact (h.range v l hl v hv).2 rfl
  supp := by
    intro u v hc
    obtain ⟨l, hl, hv⟩ := (sp_toG_adj_iff s u v).1 hc
    have := (Array.getElem?_eq_some_iff.1 hl).1
    rw [h.nbrs_size] at this
    exact ⟨this, (h.range u l hl v hv).1⟩

theorem sp_toG_nbrs (s : Sparse) (h : s.WF) (v : Nat) (l : List Nat) (hl : s.nbrs[v]? = some l) :
    s.toG.nbrs v = l := by
  unfold G.nbrs Sparse.toG
  simp only [hl]
  exact (sp_filter_range l s.n (h.sorted v l hl) (fun x hx => (h.range v l hl x hx).1)).symm

theorem sp_map_range_getElem? {α : Type} (f : Nat → α) (n i : Nat) :
    ((List.range n).map f).toArray[i]? = if i < n then some (f i) else none := by
  rw [List.getElem?_toArray, List.getElem?_map]
  by_cases h : i < n
  · rw [List.getElem?_range h]; simp [h]
  · rw [List.getElem?_eq_none (by simpa using h)]; simp [h]

theorem sp_nbrs_eq (s : Sparse) (h : s.WF) : s.nbrs = ((List.range s.n).map s.toG.nbrs).toArray := by
  apply Array.ext_getElem?
  intro i
  rw [sp_map_range_getElem?]
  by_cases hi : i < s.n
  · have e := Array.getElem?_eq_getElem (xs := s.nbrs) (i := i) (by rw [h.nbrs_size]; exact hi)
    rw [if_pos hi, sp_toG_nbrs s h i _ e, e]
  · rw [if_neg hi, Array.getElem?_eq_none (by rw [h.nbrs_size]; omega)]

theorem sp_deg_eq (s : Sparse) (h : s.WF) : s.deg = ((List.range s.n).map s.toG.deg).toArray := by
  apply Array.ext_getElem?
  intro i
  rw [sp_map_range_getElem?]
  by_cases hi : i < s.n
  · have e := Array.getElem?_eq_getElem (xs := s.nbrs) (i := i) (by rw [h.nbrs_size]; exact hi)
    rw [if_pos hi, h.deg_eq i _ e]
    unfold G.deg
    rw [sp_toG_nbrs s h i _ e]
  · rw [if_neg hi, Array.getElem?_eq_none (by rw [h.deg_size]; omega)]

theorem sp_m_eq (s : Sparse) (h : s.WF) : s.m = s.toG.m := by
  have h1 := h.m_eq
  have h2 := GraphRep.sum_deg h.toG_wf
  have e : s.nbrs.toList.map List.length = (List.range s.toG.n).map s.toG.deg := by
    conv => lhs; rw [sp_nbrs_eq s h]
    rw [List.map_map]; rfl
  rw [e] at h1
  omega

theorem sparseOf_toG (s : Sparse) (h : s.WF) : sparseOf s.toG = s := by
  have e1 := sp_nbrs_eq s h
  have e2 := sp_deg_eq s h
  have e3 := sp_m_eq s h
  cases s with
  | mk n m nbrs deg =>
    simp only [sparseOf, Sparse.mk.injEq]
    exact ⟨rfl, e3.symm, e1.symm, e2.symm⟩

theorem sp_sparseOf_nbrs (g : G) (v : Nat) (l : List Nat) (hl : (sparseOf g).nbrs[v]? = some l) :
    v < g.n ∧ l = g.nbrs v := by
  simp only [sparseOf, sp_map_range_getElem?] at hl
  by_cases hv : v < g.n
  · rw [if_pos hv] at hl; exact ⟨hv, (Option.some.inj hl).symm⟩
  · rw [if_neg hv] at hl; cases hl

theorem sparseOf_wf (g : G) (h : g.WF) : (sparseOf g).WF where
  nbrs_size := by simp [sparseOf]
  deg_size := by simp [sparseOf]
  sorted := by
    intro v l hl
    obtain ⟨_, rfl⟩ := sp_sparseOf_nbrs g v l hl
    exact GraphRep.nbrs_pairwise _ _
  range := by
    intro v l hl u hu
    obtain ⟨_, rfl⟩ := sp_sparseOf_nbrs g v l hl
    rw [GraphRep.mem_nbrs h] at hu
    refine ⟨(h.supp v u hu).2, ?_⟩
    intro e; subst e; rw [h.irrefl] at hu; cases hu
  symm := by
    intro u v lu lv hu hv
    obtain ⟨_, rfl⟩ := sp_sparseOf_nbrs g u lu hu
    obtain ⟨_, rfl⟩ := sp_sparseOf_nbrs g v lv hv
    rw [GraphRep.mem_nbrs h, GraphRep.mem_nbrs h, h.symm]
  deg_eq := by
    intro v l hl
    obtain ⟨hv, rfl⟩ := sp_sparseOf_nbrs g v l hl
    simp only [sparseOf, sp_map_range_getElem?, if_pos hv]
    rfl
  m_eq := by
    have := GraphRep.sum_deg h
    simp only [sparseOf, List.map_map]
    rw [← this]; rfl

theorem sparseOf_get (g : G) {v : Nat} (hv : v < g.n) :
    (sparseOf g).nbrs[v]? = some (g.nbrs v) ∧ (sparseOf g).deg[v]? = some (g.deg v) := by
  simp only [sparseOf, sp_map_range_getElem?, if_pos hv, and_self]

theorem sparseOf_isEdge (g : G) (h : g.WF) {i j : Nat} (hi : i < g.n) (hj : j < g.n) :
    (sparseOf g).isEdge i j = .ok (g.adj i j) := by
  have c : ∀ a b, (g.nbrs a).contains b = g.adj a b := fun a b => by
    rw [Bool.eq_iff_iff, List.contains_iff_mem, GraphRep.mem_nbrs h]
  unfold Sparse.isEdge
  simp only [sparseOf_get g hi, sparseOf_get g hj]
  split
  · rw [c]
  · rw [c, h.symm]

theorem sparseOf_isEdge_out (g : G) {i j : Nat} (hij : ¬ (i < g.n ∧ j < g.n)) : (sparseOf g).isEdge i j = .panic := by
  have e : ∀ v, ¬ v < g.n → (sparseOf g).deg[v]? = none := fun v hv => by
    simp only [sparseOf, sp_map_range_getElem?, if_neg hv]
  unfold Sparse.isEdge
  by_cases hi : i < g.n
  · rw [(sparseOf_get g hi).2, e j fun hj => hij ⟨hi, hj⟩]
  · rw [e i hi]

theorem ofSparse_sparseOf (g : G) (h : g.WF) : (GI.ofSparse (sparseOf g)).toG = g := by
  refine GraphRep.G_ext rfl fun u v => ?_
  show ((sparseOf g).isEdge u v == .ok true) = g.adj u v
  by_cases huv : u < g.n ∧ v < g.n
  · rw [sparseOf_isEdge g h huv.1 huv.2]; cases g.adj u v <;> rfl
  · rw [sparseOf_isEdge_out g huv]
    exact (Bool.eq_false_iff.2 fun hc => huv (h.supp u v hc)).symm

theorem ofSparse_sparseOf_sound (g : G) (h : g.WF) : (GI.ofSparse (sparseOf g)).Sound := by
  have e := ofSparse_sparseOf g h
  refine ⟨e.symm ▸ h, fun v hv => ?_, fun v hv => ?_, ?_⟩
  · rw [e]
    show (sparseOf g).nbrs.getD v [] = g.nbrs v
    rw [Array.getD_eq_getD_getElem?, (sparseOf_get g hv).1]; rfl
  · rw [e]
    show (sparseOf g).deg.getD v 0 = g.deg v
    rw [Array.getD_eq_getD_getElem?, (sparseOf_get g hv).2]; rfl
  · rw [e]; rfl

theorem sp_ofSparse_toG (s : Sparse) (h : s.WF) : (GI.ofSparse s).toG = s.toG := by
  have := ofSparse_sparseOf s.toG h.toG_wf
  rwa [sparseOf_toG s h] at this

theorem sparseOf_adj (g : G) (h : g.WF) (u v : Nat) : (sparseOf g).toG.adj u v = g.adj u v := by
  rw [← sp_ofSparse_toG _ (sparseOf_wf g h), ofSparse_sparseOf g h]

theorem ofSparse_toG_edges (s : Sparse) (h : s.WF) : (GI.ofSparse s).toG.edges = s.toG.edges := by
  rw [sp_ofSparse_toG s h]

theorem ofSparse_sound (s : Sparse) (h : s.WF) : (GI.ofSparse s).Sound := by
  have := ofSparse_sparseOf_sound s.toG h.toG_wf
  rwa [sparseOf_toG s h] at this
open GraphRep

theorem sp_mem_insertSorted (x y : Nat) (l : List Nat) : y ∈ insertSorted x l ↔ y = x ∨ y ∈ l := by
  induction l with
  | nil => simp [insertSorted]
  | cons z zs ih =>
    unfold insertSorted
    by_cases h1 : x < z
    · simp [h1]
    · by_cases h2 : x = z
      · subst h2; simp
      · simp only [h1, h2, if_false, List.mem_cons, ih]
        constructor
        · rintro (h | h | h) <;> simp [h]
        · rintro (h | h | h) <;> simp [h]

theorem sp_insertSorted_pairwise (x : Nat) (l : List Nat) (h : l.Pairwise (· < ·)) :
    (insertSorted x l).Pairwise (· < ·) := by
  induction l with
  | nil => simp [insertSorted]
  | cons z zs ih =>
    rw [List.pairwise_cons] at h
    unfold insertSorted
    by_cases h1 : x < z
    · simp only [h1, if_true]
      rw [List.pairwise_cons]
      refine ⟨?_, List.pairwise_cons.2 h⟩
      intro a ha
      rcases List.mem_cons.1 ha with e | e
      · omega
      · have := h.1 a e; omega
    · by_cases h2 : x = z
      · subst h2; simp only [Nat.lt_irrefl, if_false, if_true]; exact List.pairwise_cons.2 h
      · simp only [h1, h2, if_false]
        rw [List.pairwise_cons]
        refine ⟨?_, ih h.2⟩
        intro a ha
        rcases (sp_mem_insertSorted x a zs).1 ha with e | e
        · omega
        · exact h.1 a e

theorem Sparse.addEdge_eq {g : Sparse} {i j di dj : Nat} {li lj : List Nat} (hij : i ≠ j)
    (he : g.isEdge i j = .ok false) (e1 : g.nbrs[i]? = some li) (e2 : g.nbrs[j]? = some lj)
    (d1 : g.deg[i]? = some di) (d2 : g.deg[j]? = some dj) :
    g.addEdge i j = .ok ⟨g.n, g.m + 1,
      (g.nbrs.setIfInBounds i (insertSorted j li)).setIfInBounds j (insertSorted i lj),
      (g.deg.setIfInBounds i (di + 1)).setIfInBounds j (dj + 1)⟩ := by
  have n1 : (g.nbrs.setIfInBounds i (insertSorted j li))[j]? = some lj := by
    rw [Array.getElem?_setIfInBounds, if_neg hij]; exact e2
  have d2' : (g.deg.setIfInBounds i (di + 1))[j]? = some dj := by
    rw [Array.getElem?_setIfInBounds, if_neg hij]; exact d2
  unfold Sparse.addEdge
  rw [if_neg hij, he]
  simp only [e1, e2, n1, incr_of_getElem? d1, incr_of_getElem? d2']

theorem table_set_set {α : Type} (f f' : Nat → α) (n i j : Nat) (hf : ∀ v, v ≠ i → v ≠ j → f' v = f v) :
    (((List.range n).map f).toArray.setIfInBounds i (f' i)).setIfInBounds j (f' j) = ((List.range n).map f').toArray := by
  apply Array.ext_getElem?
  intro v
  rw [Array.getElem?_setIfInBounds, Array.getElem?_setIfInBounds, sp_map_range_getElem?, sp_map_range_getElem?,
    Array.size_setIfInBounds, List.size_toArray, List.length_map, List.length_range]
  by_cases e : j = v
  · subst e; rw [if_pos rfl]
  · rw [if_neg e]
    by_cases e' : i = v
    · subst e'; rw [if_pos rfl]
    · rw [if_neg e', hf v (Ne.symm e') (Ne.symm e)]

theorem nbrs_addEdgeG_left {g : G} {i j : Nat} (hj : j < g.n) (hij : i ≠ j) :
    (addEdgeG g i j).nbrs i = insertSorted j (g.nbrs i) := by
  refine List.strictSorted_ext (nbrs_pairwise _ _) (sp_insertSorted_pairwise _ _ (nbrs_pairwise _ _)) fun x => ?_
  rw [sp_mem_insertSorted, G.mem_nbrs, G.mem_nbrs]
  have e : (i == j) = false := by simpa using hij
  by_cases hx : x = j
  · subst hx; simp [addEdgeG, hij, hj]
  · have e2 : (x == j) = false := by simpa using hx
    simp [addEdgeG, hx, e2, e]

theorem nbrs_addEdgeG_other (g : G) {i j v : Nat} (hi : v ≠ i) (hj : v ≠ j) : (addEdgeG g i j).nbrs v = g.nbrs v := by
  have e1 : (v == i) = false := by simpa using hi
  have e2 : (v == j) = false := by simpa using hj
  unfold G.nbrs
  simp [addEdgeG, e1, e2]

theorem sparseOf_addEdge (g : G) (h : g.WF) {i j : Nat} (hi : i < g.n) (hj : j < g.n) :
    (sparseOf g).addEdge i j = .ok (sparseOf (addEdgeG g i j)) := by
  by_cases hij : i = j
  · rw [addEdgeG_noop h (Or.inl hij)]; unfold Sparse.addEdge; rw [if_pos hij]
  cases hadj : g.adj i j
  swap
  · rw [addEdgeG_noop h (Or.inr hadj)]; unfold Sparse.addEdge; rw [if_neg hij, sparseOf_isEdge g h hi hj, hadj]
  rw [Sparse.addEdge_eq hij ((sparseOf_isEdge g h hi hj).trans (congrArg _ hadj)) (sparseOf_get g hi).1
    (sparseOf_get g hj).1 (sparseOf_get g hi).2 (sparseOf_get g hj).2]
  have hd := deg_addEdgeG h hi hj hij hadj
  -- the two array equations are stated on their own: `congr` on the record makes the unifier unfold `sparseOf`
  have hN : ((sparseOf g).nbrs.setIfInBounds i (insertSorted j (g.nbrs i))).setIfInBounds j (insertSorted i (g.nbrs j)) =
      (sparseOf (addEdgeG g i j)).nbrs := by
    rw [← nbrs_addEdgeG_left hj hij, ← nbrs_addEdgeG_left hi (Ne.symm hij), addEdgeG_comm g j i]
    exact table_set_set g.nbrs _ g.n i j fun v => nbrs_addEdgeG_other g
  have hD : ((sparseOf g).deg.setIfInBounds i (g.deg i + 1)).setIfInBounds j (g.deg j + 1) =
      (sparseOf (addEdgeG g i j)).deg := by
    have e : ∀ v, (v = i ∨ v = j) → g.deg v + 1 = (addEdgeG g i j).deg v := fun v hv => by rw [hd, if_pos hv]
    rw [e i (Or.inl rfl), e j (Or.inr rfl)]
    exact table_set_set g.deg _ g.n i j fun v h1 h2 => by rw [hd, if_neg (not_or.2 ⟨h1, h2⟩)]; rfl
  rw [hN, hD, show (sparseOf g).m + 1 = (sparseOf (addEdgeG g i j)).m from (m_addEdgeG h hi hj hij hadj).symm]
  rfl

theorem addEdgeG_ofEdges (n : Nat) (es : List (Nat × Nat)) {p : Nat × Nat} (hp : p.1 < n ∧ p.2 < n) :
    addEdgeG (ofEdges n es) p.2 p.1 = ofEdges n (es ++ [p]) := by
  obtain ⟨a, b⟩ := p
  refine G_ext rfl fun u v => ?_
  rw [Bool.eq_iff_iff]
  simp only [addEdgeG, ofEdges, Bool.or_eq_true, Bool.and_eq_true, bne_iff_ne, beq_iff_eq, decide_eq_true_eq,
    List.contains_iff_mem, List.mem_append, List.mem_singleton, Prod.mk.injEq]
  constructor
  · rintro (⟨hr, h | h⟩ | ⟨hne, ⟨rfl, rfl⟩ | ⟨rfl, rfl⟩⟩)
    · exact ⟨hr, Or.inl (Or.inl h)⟩
    · exact ⟨hr, Or.inr (Or.inl h)⟩
    · exact ⟨⟨⟨hne, hp.2⟩, hp.1⟩, Or.inr (Or.inr ⟨rfl, rfl⟩)⟩
    · exact ⟨⟨⟨Ne.symm hne, hp.1⟩, hp.2⟩, Or.inl (Or.inr ⟨rfl, rfl⟩)⟩
  · rintro ⟨hr, (h | ⟨rfl, rfl⟩) | (h | ⟨rfl, rfl⟩)⟩
    · exact Or.inl ⟨hr, Or.inl h⟩
    · exact Or.inr ⟨Ne.symm hr.1.1, Or.inr ⟨rfl, rfl⟩⟩
    · exact Or.inl ⟨hr, Or.inr h⟩
    · exact Or.inr ⟨hr.1.1, Or.inl ⟨rfl, rfl⟩⟩

theorem sparseOf_addEdges (n : Nat) (es : List (Nat × Nat)) (hes : ∀ p ∈ es, p.1 < n ∧ p.2 < n) :
    ∀ es0, addEdges (sparseOf (ofEdges n es0)) es = .ok (sparseOf (ofEdges n (es0 ++ es))) := by
  induction es with
  | nil => intro es0; rw [List.append_nil]; rfl
  | cons p es ih =>
    intro es0
    have hp := hes p List.mem_cons_self
    unfold addEdges
    rw [List.foldlM_cons]
    show ((sparseOf (ofEdges n es0)).addEdge p.2 p.1 >>= fun b => List.foldlM _ b es) = _
    rw [sparseOf_addEdge _ (ofEdges_wf n es0) hp.2 hp.1, addEdgeG_ofEdges n es0 hp, List.append_cons es0 p es]
    exact ih (fun q hq => hes q (List.mem_cons_of_mem _ hq)) _

theorem newSparseNil_eq (n : Nat) : newSparseNil n = sparseOf (ofEdges n []) := by
  have ha : ∀ u v, (ofEdges n []).adj u v = false := fun u v => by simp [ofEdges]
  obtain ⟨hm, hd⟩ := empty_counts ha
  have hn : ∀ v, (ofEdges n []).nbrs v = [] := fun v =>
    List.filter_eq_nil_iff.2 fun u _ => by rw [ha]; exact Bool.false_ne_true
  unfold sparseOf newSparseNil
  rw [hm, funext hd, funext hn]
  simp only [ofEdges, List.map_const', List.length_range, List.toArray_replicate]

theorem addEdges_newSparseNil (n : Nat) (es : List (Nat × Nat)) (hes : ∀ p ∈ es, p.1 < n ∧ p.2 < n) :
    addEdges (newSparseNil n) es = .ok (sparseOf (ofEdges n es)) := by
  rw [newSparseNil_eq, sparseOf_addEdges n es hes, List.nil_append]

theorem ofEdges_edges {g : G} (h : g.WF) : ofEdges g.n g.edges = g := by
  refine G.WF.ext_lt (ofEdges_wf _ _) h rfl fun u v huv => ?_
  rw [Bool.eq_iff_iff]
  simp only [ofEdges, Bool.and_eq_true, Bool.or_eq_true, bne_iff_ne, decide_eq_true_eq, List.contains_iff_mem,
    G.mem_edges]
  constructor
  · rintro ⟨_, hx | hx⟩
    · exact hx.2.2
    · exact absurd hx.1 (Nat.lt_asymm huv)
  · intro hx
    have := h.supp u v hx
    exact ⟨⟨⟨Nat.ne_of_lt huv, this.1⟩, this.2⟩, Or.inl ⟨huv, this.2, hx⟩⟩

theorem addEdges_edges (g : G) (h : g.WF) : addEdges (newSparseNil g.n) g.edges = .ok (sparseOf g) := by
  rw [addEdges_newSparseNil g.n g.edges fun p hp => by
    have := (G.mem_edges (u := p.1) (v := p.2)).1 hp
    exact ⟨Nat.lt_trans this.1 this.2.1, this.2.1⟩, ofEdges_edges h]

end Codec
