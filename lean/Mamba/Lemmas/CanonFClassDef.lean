import Mamba.Lemmas.CanonFInv
/-!
# The vertex classes through the search (faithful model `Model/CanonF.lean`): definitions

`ClsInv cl bd0 op`: the vertex at position `p` of `order` lies in the initial cell `binIdx bd0 p` (`cl` = cell index of a
vertex in the initial partition, `bd0` = the initial dividers), and the initial dividers are still dividers of age `≤ 0`
(so `deage`, which only removes dividers of the current age `> 0`, never removes them). Every operation on the partition
only rearranges `order` inside the current bins (`ClsInv.of_rearr`).
-/
namespace CanonF

structure ClsInv (cl : Nat → Nat) (bd0 : List Nat) (op : OP) : Prop where
  pos : ∀ p v, op.order.toList[p]? = some v → cl v = binIdx bd0 p
  keep : ∀ d ∈ bd0, ∃ a, (d, a) ∈ divs op ∧ a ≤ 0

theorem binIdx_congr (l : List Nat) (p q : Nat) (h : ∀ d ∈ l, d ≤ p ↔ d ≤ q) : binIdx l p = binIdx l q := by
  unfold binIdx
  apply List.countP_congr
  intro d hd
  simp only [decide_eq_true_eq]
  exact h d hd

theorem ClsInv.of_rearr {cl : Nat → Nat} {bd0 : List Nat} {op op' : OP} (h : ClsInv cl bd0 op)
    (hord : ∀ p v, op'.order.toList[p]? = some v →
      ∃ q, op.order.toList[q]? = some v ∧ ∀ d a, (d, a) ∈ divs op → a ≤ 0 → (d ≤ q ↔ d ≤ p))
    (hkeep : ∀ d a, (d, a) ∈ divs op → a ≤ 0 → (d, a) ∈ divs op') : ClsInv cl bd0 op' := by
  constructor
  · intro p v hv
    obtain ⟨q, hq, hsep⟩ := hord p v hv
    rw [h.pos q v hq]
    apply binIdx_congr
    intro d hd
    obtain ⟨a, ha, ha0⟩ := h.keep d hd
    exact hsep d a ha ha0
  · intro d hd
    obtain ⟨a, ha, ha0⟩ := h.keep d hd
    exact ⟨a, hkeep d a ha ha0, ha0⟩

theorem ClsInv.of_frame {cl : Nat → Nat} {bd0 : List Nat} {op op' : OP} (h : ClsInv cl bd0 op)
    (e1 : op'.order = op.order) (e2 : op'.binDividers = op.binDividers) (e3 : op'.binAges = op.binAges) :
    ClsInv cl bd0 op' := by
  constructor
  · rw [e1]; exact h.pos
  · rw [divs_congr e2 e3]; exact h.keep

theorem ClsInv.init {n : Nat} {op : OP} (hp : PartInv n op) (ha : AgeInv op) (hage : op.age = 0) :
    ClsInv (fun v => (op.inCell.toList[v]?).getD 0) op.binDividers.toList op := by
  constructor
  · intro p v hv
    simp only [hp.inCell p v hv, Option.getD_some]
  · intro d hd
    obtain ⟨k, hk⟩ := List.getElem?_of_mem hd
    have hkl := (List.getElem?_eq_some_iff.1 hk).1
    have hlen : op.binAges.toList.length = op.binDividers.toList.length := by
      rw [hp.length_ages, hp.length_bd]
    have hka : k < op.binAges.toList.length := by omega
    refine ⟨op.binAges.toList[k], ?_, ?_⟩
    · apply List.mem_of_getElem? (i := k)
      unfold divs
      rw [List.getElem?_zip_eq_some]
      exact ⟨hk, List.getElem?_eq_getElem hka⟩
    · have := ha.le _ (List.getElem_mem hka)
      omega

end CanonF
