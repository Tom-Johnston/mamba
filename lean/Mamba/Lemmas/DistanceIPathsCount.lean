import Mamba.Lemmas.DistanceIPathsEmb
import Mamba.Lemmas.DistanceIPathsSeq
import Mamba.Lemmas.DistanceCCSpec
/-!
# Lemmas for C10: the faithful model of `NumberOfInducedPaths` returns the reference counts
-/
namespace GDist
open GraphSpec Model

theorem stackFuel_ge {n m : Nat} (hm : m ≤ n) : wtN m (m - 1) + 1 ≤ stackFuel n := by
  have h1 := wtN_le_pow m (m - 1)
  have h2 : (m + 1) ^ (m - 1) ≤ (n + 1) ^ (m - 1) := Nat.pow_le_pow_left (by omega) _
  have h3 : (n + 1) ^ (m - 1) ≤ (n + 1) ^ (n + 2) := Nat.pow_le_pow_right (by omega) (by omega)
  have h4 : (n + 1) ^ (n + 2) < (n + 2) ^ (n + 2) := Nat.pow_lt_pow_left (by omega) (by omega)
  unfold stackFuel
  omega

variable {g : G}

theorem ipStarts_spec {h : G} (hsym : ∀ u v, h.adj u v = h.adj v u) (M fuel : Nat)
    (hf : wtN h.n (h.n - 1) + 1 ≤ fuel) (is : List Nat) (his : ∀ i ∈ is, i < h.n) :
    Adds h.n (ipStarts h (M : Int) fuel is) fun l =>
      (is.map fun i => contribW h (goodInduced h) (extW h) 0 M [i] l).sum :=
  Adds.list (one := fun i => ipLoop h (M : Int) fuel [{ p := [i], length := 0, banned := [i] }]) (fun _ => rfl)
    (fun _ _ _ => rfl) _ is fun i hi =>
    (ipLoop_spec hsym M fuel [{ p := [i], length := 0, banned := [i] }]
      (fun P hP => by
        obtain rfl := List.mem_singleton.1 hP
        exact { ne := by simp, len := rfl, nd := by simp, rng := fun x hx => List.mem_singleton.1 hx ▸ his i hi,
                ban := fun x => by simp })
      (by simpa [wtP] using hf)).congr fun l => by simp

theorem sum_range_getD (com : List Nat) (F : Nat → Nat) :
    ((List.range com.length).map fun i => F (com.getD i 0)).sum = (com.map F).sum := by
  congr 1
  apply List.ext_getElem
  · simp
  · intro i h1 h2
    simp only [List.getElem_map, List.getElem_range]
    rw [getD_eq_getElem (by simpa using h1)]

theorem sum_coms {cs : List (List Nat)} (hflat : cs.flatten.Perm (List.range g.n)) (F : Nat → Nat) :
    (cs.map fun com => (com.map F).sum).sum = ((List.range g.n).map F).sum := by
  rw [← (hflat.map F).sum_eq, List.map_flatten, List.sum_flatten, List.map_map]
  rfl

/-- the contributions of the DFS trees of all start vertices to entry `l`: the total weight of the directed induced
paths with `l - o` vertices, for `l = 1 + o` and, within the bound `M`, beyond -/
theorem sum_contribW_single (g : G) (W : List Nat → Nat) (o M l : Nat) :
    ((List.range g.n).map fun s => contribW g (goodInduced g) W o M [s] l).sum =
      if l = 1 + o ∨ (1 + o + 1 ≤ l ∧ l ≤ M) then ((allInducedPaths g (l - o - 1)).map W).sum else 0 := by
  unfold contribW allInducedPaths
  simp only [List.length_singleton]
  by_cases hc : l = 1 + o ∨ (1 + o + 1 ≤ l ∧ l ≤ M)
  · simp only [if_pos hc]
    rw [sum_map_flatMap]
    exact congrArg _ (List.map_congr_left fun s hs => by rw [pathsFrom_eq_ext g _ (List.mem_range.1 hs)])
  · simp only [if_neg hc, List.map_const', List.sum_replicate_nat, Nat.mul_zero]

theorem ipComps_spec (hsym : ∀ u v, g.adj u v = g.adj v u) (M fuel : Nat) (hf : stackFuel g.n ≤ fuel)
    (coms : List (List Nat)) (hgood : ∀ c ∈ coms, GoodCom g c) :
    Adds g.n (ipComps g (M : Int) fuel coms) fun l =>
      (coms.map fun com => (com.map fun s => contribW g (goodInduced g) (extW g) 0 M [s] l).sum).sum :=
  Adds.list (one := fun com => ipStarts (g.induced com) (M : Int) fuel (List.range (g.induced com).n))
    (fun _ => rfl) (fun _ _ _ => rfl) _ coms fun com hcom => by
    have gc := hgood com hcom
    have hlen : com.length ≤ g.n := by
      have := (List.subperm_of_subset gc.nd (fun x hx => List.mem_range.2 (gc.rng x hx))).length_le
      simpa using this
    refine ((ipStarts_spec (induced_symm hsym com) M fuel (Nat.le_trans (stackFuel_ge hlen) hf) _
      fun i hi => List.mem_range.1 hi).mono hlen).congr fun l => ?_
    rw [← sum_range_getD com]
    refine congrArg _ (List.map_congr_left fun i hi => ?_)
    exact (contribW_map (goodCom_emb gc) (extW_map (goodCom_emb gc)) 0 M (q := [i]) (by simp)
      (fun x hx => List.mem_singleton.1 hx ▸ List.mem_range.1 hi) l).symm

theorem numInducedPaths_zero (g : G) : numInducedPaths g 0 = g.n := by
  unfold numInducedPaths canonInducedPaths
  rw [List.length_flatMap]
  have : ((List.range g.n).map fun s =>
      ((pathsFrom g (goodInduced g) s 0).filter fun p => (0 : Nat) == 0 || decide (s < p.headD 0)).length)
      = (List.range g.n).map fun _ => 1 := by
    apply List.map_congr_left
    intro s hs
    simp [pathsFrom, List.mem_range.1 hs]
  rw [this]
  simp

theorem sum_extW (g : G) (k : Nat) :
    ((allInducedPaths g k).map (extW g)).sum = (allInducedPaths g (k + 1)).length := by
  unfold allInducedPaths extW
  simp only [pathsFrom, ← List.flatMap_assoc, List.length_flatMap]

theorem numberOfInducedPaths_eq (g : G) (hsym : ∀ u v, g.adj u v = g.adj v u) (b : Int) (fuel : Nat)
    (hf : stackFuel g.n ≤ fuel) :
    Model.numberOfInducedPaths g b fuel =
      .ok ((List.range g.n).map fun l => if l ≤ max (pathBound g b) 1 then numInducedPaths g l else 0) := by
  unfold Model.numberOfInducedPaths
  by_cases hn : g.n = 0
  · simp [hn]
  simp only [hn, if_false]
  obtain ⟨cs, ecs, hgood', hflat'⟩ := connectedComponents_good g hsym
  rw [ecs]
  simp only
  have hM : (if b < 0 ∨ b > (g.n : Int) - 1 then (g.n : Int) - 1 else b) = ((pathBound g b : Nat) : Int) := by
    have hbool : ((b < 0 || b > (g.n : Int) - 1) = true) ↔ (b < 0 ∨ b > (g.n : Int) - 1) := by
      rw [Bool.or_eq_true, decide_eq_true_eq, decide_eq_true_eq]
    unfold pathBound
    by_cases hb : b < 0 ∨ b > (g.n : Int) - 1
    · rw [if_pos hb, if_pos (hbool.2 hb)]
      omega
    · rw [if_neg hb, if_neg (mt hbool.1 hb)]
      omega
  rw [hM]
  obtain ⟨r, er, hsz, hr⟩ := ipComps_spec hsym (pathBound g b) fuel hf cs hgood' (Array.replicate g.n 0) (by simp)
  rw [er]
  simp only
  beta_reduce at hr
  congr 1
  apply List.map_congr_left
  intro l hl
  by_cases hl0 : l = 0
  · subst hl0
    simp [numInducedPaths_zero]
  rw [if_neg hl0, show r.getD l 0 = lbl r l from rfl, hr l, lbl_replicate, Nat.zero_add, sum_coms hflat',
    sum_contribW_single]
  by_cases hc : l ≤ max (pathBound g b) 1
  · rw [if_pos hc, if_pos (by omega), sum_extW, show l - 0 - 1 + 1 = l by omega,
      allInducedPaths_length hsym (by omega), Nat.mul_div_cancel_left _ (by decide)]
  · rw [if_neg hc, if_neg (by omega)]

end GDist
