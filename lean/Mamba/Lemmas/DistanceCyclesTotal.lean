import Mamba.Lemmas.DistanceGibbsKept
import Mamba.Lemmas.DistanceBiconBlocksEq
import Mamba.Lemmas.OutcomeLawful
/-!
# `NumberOfCycles`: the model never panics (full totality)
-/
namespace GDist
open GraphSpec Model

theorem walk_to_induced {g : G} {b : List Nat} {i : Nat} (hi : i < b.length) {y k : Nat}
    (hw : WalkIn g b (b.getD i 0) y k) :
    ∃ j, j < b.length ∧ b.getD j 0 = y ∧ WalkIn (g.induced b) (List.range b.length) i j k := by
  induction hw with
  | base _ => exact ⟨i, hi, rfl, .base (List.mem_range.2 hi)⟩
  | @step u x k _ hadj hx ih =>
    obtain ⟨j0, hj0, hj0u, hw0⟩ := ih
    obtain ⟨j1, hj1, hj1x⟩ := List.getElem_of_mem hx
    have hj1' : b.getD j1 0 = x := by rw [getD_eq_getElem hj1]; exact hj1x
    refine ⟨j1, hj1, hj1', .step hw0 ?_ (List.mem_range.2 hj1)⟩
    show (decide (j0 < b.length) && decide (j1 < b.length) && g.adj (b.getD j0 0) (b.getD j1 0)) = true
    rw [hj0u, hj1']
    simp [hj0, hj1, hadj]

theorem cyclesOfBlock_total (g : G) (hsym : ∀ u v, g.adj u v = g.adj v u) (hirr : ∀ v, g.adj v v = false)
    (b : List Nat) (hbnd : b.Nodup) (hbn : ∀ x ∈ b, x < g.n)
    (hbc : ∀ x ∈ b, ∀ y ∈ b, ReachIn g b x y) (found : Array Nat) (hf : g.n + 1 ≤ found.size) :
    ∃ r, cyclesOfBlock g b found = .ok r ∧ r.size = found.size := by
  unfold cyclesOfBlock
  simp only
  by_cases h3 : (g.induced b).n < 3
  · simp only [h3, if_true]; exact ⟨found, rfl, rfl⟩
  simp only [h3, if_false]
  have hn : (g.induced b).n = b.length := rfl
  have hpos : 0 < (g.induced b).n := by omega
  have hsa := induced_symm hsym b
  have hia := induced_irrefl hirr b
  obtain ⟨st, hst⟩ := paton_total (g.induced b) hsa hpos
  have hst' := hst
  unfold patonInit at hst'
  rw [hst']
  simp only
  cases hfund : st.fund with
  | nil => exact ⟨found, rfl, rfl⟩
  | cons f0 fs =>
    simp only
    obtain ⟨gs, hgs⟩ := gibbsLoop_total fs { S := [f0], Q := [f0] }
    rw [hgs]
    simp only
    have hconn : ∀ x, x < (g.induced b).n → Reach (g.induced b) 0 x := by
      intro x hx
      rw [hn] at hx
      have h0 : 0 < b.length := by omega
      have hm0 : b.getD 0 0 ∈ b := by rw [getD_eq_getElem h0]; exact List.getElem_mem _
      have hmx : b.getD x 0 ∈ b := by rw [getD_eq_getElem hx]; exact List.getElem_mem _
      obtain ⟨k, hk⟩ := hbc _ hm0 _ hmx
      obtain ⟨j, hj, hjx, hw⟩ := walk_to_induced h0 hk
      have : j = x := by
        have h1 : b[j] = b[x] := by rw [← getD_eq_getElem hj, ← getD_eq_getElem hx]; exact hjx
        exact (List.Nodup.getElem_inj_iff hbnd).1 h1
      subst this
      exact ⟨k, hw⟩
    have hkept := gibbs_kept_cycle (g.induced b) hsa hia hpos hconn _ st hst f0 fs hfund gs hgs
    have hblen : b.length ≤ g.n := by
      have : b.Subperm (List.range g.n) := List.subperm_of_subset hbnd (fun x hx => List.mem_range.2 (hbn x hx))
      simpa using this.length_le
    refine Outcome.foldlM_inv_mem _ (fun r => r.size = found.size) gs.S found rfl fun V hV r hr => ?_
    have hV' : V.length < r.size := by have := (hkept V hV).2; rw [hn] at this; omega
    exact ⟨_, dif_pos hV', (Array.size_set ..).trans hr⟩

theorem numberOfCycles_total (g : G) (hsym : ∀ u v, g.adj u v = g.adj v u) (hirr : ∀ v, g.adj v v = false) :
    ∃ r, numberOfCycles g = .ok r ∧ r.length = g.n + 1 := by
  unfold numberOfCycles
  simp only
  by_cases hn : g.n = 0
  · simp [hn]
  simp only [hn, if_false]
  obtain ⟨bs, arts, hres, _⟩ := biconnectedComponents_total g hsym
  rw [hres]
  simp only
  have hmem := (bicon_blocks_eq g hsym bs arts hres).2.1
  have hconn := (bicon_blocks_edges_connected g hsym hirr bs arts hres).2
  obtain ⟨r, hr, hs⟩ := Outcome.foldlM_inv_mem (fun acc b => cyclesOfBlock g b acc) (fun r => r.size = g.n + 1) bs
    (Array.replicate (g.n + 1) 0) (by simp) fun b hb r hr => by
      obtain ⟨_, h2, h3, _⟩ := blocks_facts hsym ((hmem b).1 hb)
      obtain ⟨r1, e, s⟩ := cyclesOfBlock_total g hsym hirr b h2 h3 (hconn b hb) r (Nat.le_of_eq hr.symm)
      exact ⟨r1, e, s.trans hr⟩
  rw [hr]
  exact ⟨r.toList, rfl, by simp [hs]⟩

end GDist
