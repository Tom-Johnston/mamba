import Mamba.Lemmas.CanonFDfsMain
/-!
# Invariants carried together with the D-layer on the same ghost data

The orbit layer and the generator layer speak about the ghost data `gh : Gh` of the D-layer, so they cannot be added to it
by `MainJ.extend`, which hides `gh` under its own existential. `GhLayer` lists what such predicates have to satisfy, one
field per transition, with the D-layer before the transition (and after it, where it says what the new ghost data are) as
a hypothesis; `GhLayer.mainJX` then carries D-layer and predicates under one `∃ gh`.

A layer is four predicates, one for each shape of the walk invariant (`CanonFWalk.lean`, `CanonFDfs.lean`): `XN` (head of
`jLoop` after `deage`: the partition is the node of the top frame, `DNv`), `XA` (the weakest shape, `DAv`: what holds after
a leaf, a pop or a "worse" verdict, before the next `deage`), `XS` (after a `splitBin`: the individualised, not yet refined
child `v`, `DSv`), `XNode` (at a node, before the node step, `DNodev`). The fields say from which shape to which shape a
transition leads and how it changes the ghost data. What the D-layer knows at a transition is handed over, or can be had
from the D-layer hypothesis, as a structure made for it: `LeafAt`, `LeafStep`, `EqLeafStep`, `BackjumpAt`
(`CanonFDfsLeafStep.lean`), `InnerAt`; `PopAt` by `pop_at`, `SkipBAt` by `skipB_at` (`CanonFDfsLoop.lean`); `top_member` (skip,
split), `walkS_top` (refine).

The two instances (`orbLayer` in `CanonFOrbMain.lean`, `genLayer` in `CanonFGenMain.lean`), field by field:
* `na`, `deage`, `noskip`: `orb_na`, `orb_deage`, `orb_noskip`; `gen_na`, `gen_deage`, `gen_noskip`;
* `skipA`, `skipB`: `orb_skipA`, `orb_skipB`; `gen_skip` for both;
* `split`, `refine`: `orb_split`, `orb_refine`; `gen_split`, `gen_refine`;
* `pop`: `orb_pop`; `gen_pop`;
* `inner`: `orb_inner`; `gen_inner`;
* `leaf`, by cases of `LeafStep`: `orb_leaf_first`, `orb_leaf_accept`, `orb_leaf_eq`, `orb_leaf_other`; `gen_leaf_first`,
  `gen_leaf_keep` (accept and other), `gen_leaf_eq`.
Everything but `leaf` is in `CanonFOrbLoop.lean` / `CanonFGenLoop.lean`, `leaf` in `CanonFOrbLeaf.lean` / `CanonFGenLeaf.lean`;
what the theorems rest on below the frames in `CanonFOrbTree.lean` / `CanonFGenChain.lean`, the bookkeeping of the per-frame
predicates in `CanonFOrbBase.lean` / `CanonFGenBase.lean`.

The generator layer needs the orbit layer at one transition (`gen_pop`); a layer that rests on another one is therefore
given as the pair of the two (`genLayer`: every field is the field of `orbLayer` beside the `gen_*` theorem), not as a
layer over a layer. Where the two differ: the orbit layer carries a coverage predicate for EVERY processed child of every
frame (`ACovFrames`, the mirror of `CovFrames`) plus the facts about children on stored paths (`FrameAuxA`) and a global part
(`GlobalA`), and its work is done at the pruning transitions (`skipB`, `split`/`refine` reporting "worse", `pop`, the leaf
equal to a stored leaf) through `Heritable`; the generator layer carries one fact per frame on the first-leaf path
(`FrameAuxG`), which no pruning transition touches, and its work is done at the first leaf (base of the stabiliser chain)
and at `pop` (its step).
-/
namespace CanonF

structure GhLayer (n m : Nat) (nb : Nbrs) (rf : Nat) (r : IR.St)
    (XA XN XNode : Gh → List (Nat × Nat) → LS → Prop) (XS : Gh → Nat → List (Nat × Nat) → LS → Prop) : Prop where
  /-- `XN → XA`, nothing changes -/
  na : ∀ gh lv s, DNv n nb rf r gh lv s → XN gh lv s → XA gh lv s
  /-- `XA → XN`: `deage` has made the partition the node of the top frame -/
  deage : ∀ gh lv s op', XA gh lv s → XN gh lv { s with op := op' }
  /-- `XN → XN`: the flag `skipDeage` is cleared -/
  noskip : ∀ gh lv s, XN gh lv s → XN gh lv { s with skipDeage := false }
  /-- Heuristic 2 on the first-leaf path: the child `ce` of the top frame is not the root of its class of
  `firstLeafOrbits` and is skipped -/
  skipA : ∀ gh st sz ls s c cs p ps ce x k, Core n s → TopOK s.op (k + 1) s.path s.choices ((st, sz) :: ls) →
    s.op.age + 1 = s.path.length → s.choices = c :: cs → s.path = p :: ps → s.op.order.get (c - 1) = .ok ce →
    (decide (s.count > 0) && hasPrefix s.flPath.toList ps.reverse) = true → s.flOrbits[ce]? = some x → x ≥ 0 →
    DNv n nb rf r gh ((st, sz) :: ls) s → XN gh ((st, sz) :: ls) s →
    XN gh ((st, sz) :: ls) { s with choices := (c - 1) :: cs, skipDeage := true }
  /-- Heuristic 2 on the best-leaf path (off the first-leaf path): `h2Best` finds a later member of the cell in the class
  of `ce` in `bestOrbits`; `ce` is skipped -/
  skipB : ∀ gh st sz ls s c cs p ps ce bo k, Core n s → TopOK s.op (k + 1) s.path s.choices ((st, sz) :: ls) →
    s.op.age + 1 = s.path.length → s.choices = c :: cs → s.path = p :: ps → s.op.order.get (c - 1) = .ok ce →
    (decide (s.count > 0) && !hasPrefix s.flPath.toList ps.reverse && hasPrefix s.bestPath.toList ps.reverse) = true →
    h2Best s.op s.bestOrbits (c - 1) ce = .ok (true, bo) →
    DNv n nb rf r gh ((st, sz) :: ls) s → XN gh ((st, sz) :: ls) s →
    XN gh ((st, sz) :: ls) { s with choices := (c - 1) :: cs, bestOrbits := bo, skipDeage := true }
  /-- `splitBin` individualises the child `ce`: `XN → XS` for the child, or `XN → XA` if the certificate prefix is already
  "worse" (the child is pruned) -/
  split : ∀ gh st sz ls s c cs p ps ce bo w op' k, Core n s → TopOK s.op (k + 1) s.path s.choices ((st, sz) :: ls) →
    s.op.age + 1 = s.path.length → s.choices = c :: cs → s.path = p :: ps → s.op.order.get (c - 1) = .ok ce →
    splitBin nb s.currentBest s.firstLeaf s.op (c - 1) = .ok (w, op') → CertN n m nb ((st, sz) :: ls) s →
    DNv n nb rf r gh ((st, sz) :: ls) s → XN gh ((st, sz) :: ls) s →
    (w = false → ∀ t v, DSv n nb rf r gh t v ((st, sz) :: ls)
        { s with choices := (c - 1) :: cs, bestOrbits := bo, op := op', path := k :: ps } →
      XS gh v ((st, sz) :: ls) { s with choices := (c - 1) :: cs, bestOrbits := bo, op := op', path := k :: ps }) ∧
    (w = true → XA gh ((st, sz) :: ls) { s with choices := (c - 1) :: cs, bestOrbits := bo, op := op', path := k :: ps })
  /-- the top frame is exhausted (`TopOK … 0`) and popped: `XN → XA` one level up, `gh.vs` loses its last vertex -/
  pop : ∀ gh st sz ls s, TopOK s.op 0 s.path s.choices ((st, sz) :: ls) → CertN n m nb ((st, sz) :: ls) s →
    DNv n nb rf r gh ((st, sz) :: ls) s → XN gh ((st, sz) :: ls) s →
    XA { gh with vs := gh.vs.dropLast } ls { s with path := s.path.drop 1, choices := s.choices.drop 1 }
  /-- node step at a leaf: `XNode → XA`; `LeafStep` says which of the four branches of `leafNode` was taken, the state,
  the ghost data `gh'` and the levels `lv1` after it; the D-layer after the step is a hypothesis -/
  leaf : ∀ gh gh' lv lv1 s s1, MInv n m nb s → LevelsOK s.op s.path s.choices lv → s.op.binDividers.len = n →
    CertM n m nb lv false s → DNodev n nb rf r gh lv s → XNode gh lv s → LeafAt n m nb rf r gh lv s →
    LeafStep n nb rf r gh lv s s1 gh' lv1 → DAv n nb rf r gh' lv1 s1 → XA gh' lv1 s1
  /-- node step at an inner node: a frame for the target cell `(st, sz)` is pushed, `XNode → XN` -/
  inner : ∀ gh lv s s1 st sz, DNodev n nb rf r gh lv s → XNode gh lv s → InnerAt n nb rf r gh lv s s1 st sz →
    XN gh ((st, sz) :: lv) s1
  /-- the refinement of the individualised child `v`: `XS → XNode` at the child (`gh.vs` gains `v`), or `XS → XA` at the
  parent if the certificate prefix is "worse" (the child is pruned) -/
  refine : ∀ gh t v lv s w op' sc' sc2, Core n s → LevelsOK s.op s.path s.choices lv → s.sc.timesSeen.len = n →
    CertN n m nb lv s → DSv n nb rf r gh t v lv s → XS gh v lv s →
    refine nb s.currentBest s.firstLeaf {} s.op s.sc = .ok (w, op', sc') →
    (w = true → XA gh lv { s with op := op', sc := sc2 }) ∧
    (w = false → XNode { gh with vs := gh.vs ++ [v] } lv { s with op := op', sc := sc2 })

section
variable {n m : Nat} {nb : Nbrs} {rf : Nat} {r : IR.St}
  {XA XN XNode : Gh → List (Nat × Nat) → LS → Prop} {XS : Gh → Nat → List (Nat × Nat) → LS → Prop}
  (hnb : NbOK nb n) (hsz : nb.size = n) (hm : m = ((nb.toList.map List.length).sum) / 2) (hrf : 3 * n + 3 ≤ rf)
  (hA : IR.InvA (irG n nb) r) (hD : IR.InvD (irG n nb) r)
  (hlenm : ∀ o : List Nat, o.Perm (List.range n) → (certPos nb o n).length = m)

include hnb hsz hm hrf hA hD hlenm in
theorem GhLayer.mainJX (hX : GhLayer n m nb rf r XA XN XNode XS) :
    MainJX n m nb (CertA n m nb) (CertN n m nb) (CertN n m nb) (CertM n m nb)
      (fun lv s => ∃ gh, DAv n nb rf r gh lv s ∧ XA gh lv s) (fun lv s => ∃ gh, DNv n nb rf r gh lv s ∧ XN gh lv s)
      (fun lv s => ∃ gh t v, DSv n nb rf r gh t v lv s ∧ XS gh v lv s)
      (fun lv w s => if w then ∃ gh, DAv n nb rf r gh lv s ∧ XA gh lv s
        else ∃ gh, DNodev n nb rf r gh lv s ∧ XNode gh lv s) where
  na := fun lv s _ ⟨gh, hd, hx⟩ => ⟨gh, dnv_toA hd, hX.na gh lv s hd hx⟩
  deage := fun lv s op' k hc ht _ hage _ ⟨gh, hd, hx⟩ hde =>
    ⟨gh, dav_deage lv s op' k hc ht hage hd hde, hX.deage gh lv s op' hx⟩
  noskip := fun lv s _ _ ⟨gh, hd, hx⟩ => ⟨gh, dnv_noskip lv s hd, hX.noskip gh lv s hx⟩
  skipA := fun st sz ls s c cs p ps ce x k hc ht hsk hage hch hpth hget hon hx hx0 hJ ⟨gh, hd, ha⟩ =>
    ⟨gh, dfs_skipA_v gh st sz ls s c cs p ps ce x k hc ht hage hch hpth hget hon hx hx0 hd,
      hX.skipA gh st sz ls s c cs p ps ce x k hc ht hage hch hpth hget hon hx hx0 hd ha⟩
  skipB := fun st sz ls s c cs p ps ce bo k hc ht hsk hage hch hpth hget hon hh hJ ⟨gh, hd, ha⟩ =>
    ⟨gh, dfs_skipB_v hnb gh st sz ls s c cs p ps ce bo k hc ht hage hch hpth hget hon hh hd,
      hX.skipB gh st sz ls s c cs p ps ce bo k hc ht hage hch hpth hget hon hh hd ha⟩
  split := fun st sz ls s c cs p ps ce bo w op' k hc ht hsk hage hch hpth hget hh _ _ hs hJ ⟨gh, hd, ha⟩ => by
    obtain ⟨q1, q2⟩ := dfs_split_v hnb hsz hm hrf hA hD st sz ls s c cs p ps ce bo w op' k hc ht hage hch hpth hget hh
      hs hJ gh hd
    obtain ⟨a1, a2⟩ := hX.split gh st sz ls s c cs p ps ce bo w op' k hc ht hage hch hpth hget hs hJ hd ha
    refine ⟨fun hw _ => ?_, fun hw _ => ⟨gh, q2 hw, a2 hw⟩⟩
    obtain ⟨t, v, hds⟩ := q1 hw
    exact ⟨gh, t, v, hds, a1 hw t v hds⟩
  pop := fun st sz ls s hc ht hsk hage hJ ⟨gh, hd, ha⟩ =>
    ⟨_, dfs_pop_v hnb st sz ls s ht hJ gh hd, hX.pop gh st sz ls s ht hJ hd ha⟩
  node := fun lv worse s s1 lv1 hI _ hlv hJ hM hs1 hl1 hJ1 _ => by
    by_cases hleaf : (!worse && s.op.binDividers.len == n) = true
    · rw [if_pos hleaf] at hs1
      simp only [Bool.and_eq_true, Bool.not_eq_true', beq_iff_eq] at hleaf
      obtain ⟨hwf, hleaf⟩ := hleaf
      subst hwf
      obtain ⟨gh, hDv, hXv⟩ : ∃ gh, DNodev n nb rf r gh lv s ∧ XNode gh lv s := hM
      obtain ⟨-, -, -, -, hsk, -⟩ := leafNode_spec hI.core hlv hI.age hs1
      have L := leaf_at hnb hA hD hlenm hI hleaf hJ hDv
      obtain ⟨gh', lv1', hstep⟩ := leaf_step hnb hA hD hI hlv L hJ hDv hs1
      obtain rfl := LevelsOK_unique _ _ _ _ hl1 (hstep.levelsOK hlv)
      have hda := dfs_leaf hnb hA hD hlenm hI hlv hleaf hJ hDv L hs1 hstep
      exact ⟨⟨gh', hda, hX.leaf gh gh' lv _ s s1 hI hlv hleaf hJ hDv hXv L hstep hda⟩,
        fun hc => by rw [hsk, hI.skip] at hc; cases hc⟩
    · rw [if_neg hleaf] at hs1
      by_cases hnw : (!worse) = true
      · rw [if_pos hnw] at hs1
        have hwf : worse = false := by simpa using hnw
        subst hwf
        have hnl : s.op.binDividers.len ≠ n := by
          intro e; apply hleaf; simp [e]
        obtain ⟨gh, hDv, hXv⟩ : ∃ gh, DNodev n nb rf r gh lv s ∧ XNode gh lv s := hM
        obtain ⟨st, sz, I⟩ := inner_at hI hlv hnl hDv hs1
        obtain rfl := LevelsOK_unique _ _ _ _ hl1 I.lvl
        have hdn := dfs_inner_v hDv I
        have hxn := hX.inner gh lv s s1 st sz hDv hXv I
        exact ⟨⟨gh, dnv_toA hdn, hX.na gh _ s1 hdn hxn⟩, fun _ => ⟨gh, hdn, hxn⟩⟩
      · rw [if_neg hnw] at hs1
        cases hs1
        have hwt : worse = true := by simpa using hnw
        subst hwt
        obtain rfl := LevelsOK_unique _ _ _ _ hlv hl1
        exact ⟨hM, fun hc => by rw [hI.skip] at hc; cases hc⟩
  refine := fun lv s w op' sc' hc hl hage hsk htl hJ ⟨gh, t, v, hd, ha⟩ hr _ => by
    obtain ⟨q1, q2⟩ := dfs_refine_v hnb hsz hm hrf hA hD lv s w op' sc' _ hc hl htl hJ gh t v hd hr
    obtain ⟨a1, a2⟩ := hX.refine gh t v lv s w op' sc' _ hc hl htl hJ hd ha hr
    cases w with
    | true => exact ⟨gh, q1 rfl, a1 rfl⟩
    | false => exact ⟨_, q2 rfl, a2 rfl⟩

end
end CanonF
