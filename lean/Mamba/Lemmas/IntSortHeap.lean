import Mamba.Lemmas.IntSortInsertion
/-! Lemmas for C17 (`ints.Sort`): correctness of `heapSort` (siftDown invariant, build, pop).  Heap node `k` is
stored at `first + k`; its children are the nodes `2k+1` and `2k+2`. -/
namespace IntSort

/-- max-heap property between the parents `p ≥ lo` and their children among the first `hi` nodes -/
def HeapFrom (d : Data) (first lo hi : Int) : Prop :=
  ∀ p c, lo ≤ p → c < hi → (c = 2*p+1 ∨ c = 2*p+2) → vi d (first + c) ≤ vi d (first + p)

/-- the heap child arithmetic dictated by the algorithm: `child = 2*root+1`, sibling `child+1` -/
def Cfg.HeapOK (cf : Cfg) : Prop := cf.heapMul = 2 ∧ cf.heapAdd = 1 ∧ (cf.heapSib = 1 ∧ cf.heapSibIdx = 1)

theorem pickChild_spec (cf : Cfg) (hk : cf.HeapOK) (d : Data) (first r hi : Int) (hf : 0 ≤ first) (hr0 : 0 ≤ r)
    (hc : 2*r+1 < hi) (hsz : first + hi ≤ d.size) :
    ∃ c, pickChild cf d first (2*r+1) hi = .ok c ∧ (c = 2*r+1 ∨ c = 2*r+2) ∧ c < hi ∧
      ∀ c', c' < hi → (c' = 2*r+1 ∨ c' = 2*r+2) → vi d (first + c') ≤ vi d (first + c) := by
  unfold pickChild
  rw [hk.2.2.1, hk.2.2.2]
  by_cases h1 : 2*r+1 + 1 < hi
  · have B : first + (2*r+1) + 1 = first + (2*r+2) ∧ 2*r+1+1 = 2*r+2 ∧ 0 ≤ first + (2*r+1) ∧
        first + (2*r+1) < d.size ∧ 0 ≤ first + (2*r+1) + 1 ∧ first + (2*r+1) + 1 < d.size := by omega
    obtain ⟨e, e', b1, b2, b3, b4⟩ := B
    rw [if_pos h1, lt_total b1 b2 b3 b4, e, e']
    by_cases h2 : vi d (first + (2*r+1)) < vi d (first + (2*r+2))
    · refine ⟨2*r+2, by simp only [h2, decide_true], Or.inr rfl, e' ▸ h1, fun c' _ hc' => ?_⟩
      rcases hc' with rfl | rfl
      · exact Int.le_of_lt h2
      · exact Int.le_refl _
    · refine ⟨2*r+1, by simp only [h2, decide_false], Or.inl rfl, hc, fun c' _ hc' => ?_⟩
      rcases hc' with rfl | rfl
      · exact Int.le_refl _
      · exact Int.not_lt.mp h2
  · rw [if_neg h1]
    refine ⟨2*r+1, rfl, Or.inl rfl, hc, fun c' h hc' => ?_⟩
    rcases hc' with rfl | rfl
    · exact Int.le_refl _
    · exact absurd (show 2*r+1+1 < hi by omega) h1

theorem child_gt {p c : Int} (h : c = 2*p+1 ∨ c = 2*p+2) (hp : 0 ≤ p) : p < c := by omega

theorem parent_unique {p r c : Int} (h1 : c = 2*p+1 ∨ c = 2*p+2) (h2 : c = 2*r+1 ∨ c = 2*r+2) : p = r := by omega

theorem off_ne (first : Int) {x y : Int} (h : x ≠ y) : first + x ≠ first + y := fun e => h (Int.add_left_cancel e)

/-- The `siftDown` loop at `root = r`.  Invariant: the heap property holds between every parent other than `r` and
its children, and the parent of `r` dominates the children of `r`. -/
theorem siftLoop_spec (cf : Cfg) (hk : cf.HeapOK) (first lo hi : Int) (hf : 0 ≤ first) (hlo : 0 ≤ lo) :
    ∀ (f : Nat) (d : Data) (r : Int), lo ≤ r → first + hi ≤ d.size → hi - r + 1 ≤ f → 1 ≤ f →
      (∀ p c, lo ≤ p → c < hi → (c = 2*p+1 ∨ c = 2*p+2) → p ≠ r → vi d (first + c) ≤ vi d (first + p)) →
      (∀ p c, lo ≤ p → (r = 2*p+1 ∨ r = 2*p+2) → (c = 2*r+1 ∨ c = 2*r+2) → c < hi →
        vi d (first + c) ≤ vi d (first + p)) →
      ∃ d', siftLoop cf f d r hi first = .ok d' ∧ RP (first + lo) (first + hi) d d' ∧ HeapFrom d' first lo hi := by
  intro f
  induction f with
  | zero => intro d r _ _ _ h1; omega
  | succ f ih =>
    intro d r hr hsz hfuel _ inv1 inv2
    have hr0 : 0 ≤ r := Int.le_trans hlo hr
    unfold siftLoop
    simp only [hk.1, hk.2.1]
    by_cases hch : 2 * r + 1 ≥ hi
    · rw [if_pos hch]
      refine ⟨d, rfl, RP.refl _ _ _, fun p c hp hc hpc => inv1 p c hp hc hpc fun e => ?_⟩
      have := child_gt hpc (Int.le_trans hlo hp); omega
    · rw [if_neg hch]
      obtain ⟨c, hpick, hcc, hchi, hmax⟩ := pickChild_spec cf hk d first r hi hf hr0 (by omega) hsz
      have hrc : r < c := child_gt hcc hr0
      have hb : 0 ≤ first + r ∧ first + r < d.size ∧ 0 ≤ first + c ∧ first + c < d.size := by omega
      rw [hpick]
      simp only
      rw [lt_total hb.1 hb.2.1 hb.2.2.1 hb.2.2.2]
      by_cases hlt : vi d (first + r) < vi d (first + c)
      · obtain ⟨d1, hsw⟩ := swap_total hb.1 hb.2.1 hb.2.2.1 hb.2.2.2
        simp only [hlt, decide_true, hsw]
        obtain ⟨d', hr', hrp', hh'⟩ := ih d1 c (by omega) (by rw [swap_size hsw]; exact hsz) (by omega) (by omega)
          (by
            intro p q hp hq hpq hpc
            by_cases hpr : p = r
            · rw [hpr, swap_vi_left hsw]
              by_cases hqc : q = c
              · rw [hqc, swap_vi_right hsw]; exact Int.le_of_lt hlt
              · rw [swap_vi_other hsw (off_ne _ (Int.ne_of_gt (child_gt (hpr ▸ hpq) hr0))) (off_ne _ hqc)]
                exact hmax q hq (hpr ▸ hpq)
            · rw [swap_vi_other hsw (off_ne _ hpr) (off_ne _ hpc)]
              by_cases hqr : q = r
              · rw [hqr, swap_vi_left hsw]; exact inv2 p c hp (hqr ▸ hpq) hcc hchi
              · rw [swap_vi_other hsw (off_ne _ hqr) (off_ne _ fun e => hpr (parent_unique (e ▸ hpq) hcc))]
                exact inv1 p q hp hq hpq hpr)
          (by
            intro p q hp hcp hqc hq
            have hcq : c < q := child_gt hqc (Int.le_of_lt (Int.lt_of_le_of_lt hr0 hrc))
            rw [parent_unique hcp hcc, swap_vi_left hsw,
              swap_vi_other hsw (off_ne _ (Int.ne_of_gt (Int.lt_trans hrc hcq))) (off_ne _ (Int.ne_of_gt hcq))]
            exact inv1 c q (Int.le_trans hr (Int.le_of_lt hrc)) hq hqc (Int.ne_of_gt hrc))
        have hin : first + lo ≤ first + r ∧ first + r < first + hi ∧ first + lo ≤ first + c ∧ first + c < first + hi := by
          omega
        exact ⟨d', hr', (RP.of_swap hsw ⟨hin.1, hin.2.1⟩ hin.2.2).trans hrp', hh'⟩
      · simp only [hlt, decide_false]
        refine ⟨d, rfl, RP.refl _ _ _, fun p q hp hq hpq => ?_⟩
        by_cases hpr : p = r
        · rw [hpr]; exact Int.le_trans (hmax q hq (hpr ▸ hpq)) (Int.not_lt.mp hlt)
        · exact inv1 p q hp hq hpq hpr

theorem siftDown_spec (cf : Cfg) (hk : cf.HeapOK) (d : Data) (first lo hi : Int) (hf : 0 ≤ first) (hlo : 0 ≤ lo)
    (hsz : first + hi ≤ d.size) (hpre : HeapFrom d first (lo + 1) hi) :
    ∃ d', siftDown cf d lo hi first = .ok d' ∧ RP (first + lo) (first + hi) d d' ∧ HeapFrom d' first lo hi :=
  siftLoop_spec cf hk first lo hi hf hlo _ d lo (Int.le_refl _) hsz (by omega) (by omega)
    (fun p c hp hc hpc hne => hpre p c (by omega) hc hpc) (fun p c hp hr => by omega)

theorem heapBuild_spec (cf : Cfg) (hk : cf.HeapOK) (first hi : Int) (hf : 0 ≤ first) :
    ∀ (n : Nat) (d : Data) (i : Int), (i + 1).toNat = n → first + hi ≤ d.size →
    (∀ p c, i + 1 ≤ p → 0 ≤ p → c < hi → (c = 2*p+1 ∨ c = 2*p+2) → vi d (first + c) ≤ vi d (first + p)) →
    ∃ d', heapBuild cf d i hi first = .ok d' ∧ RP first (first + hi) d d' ∧ HeapFrom d' first 0 hi := by
  intro n
  induction n with
  | zero =>
    intro d i hn hsz hh
    rw [heapBuild, dif_neg (by omega)]
    exact ⟨d, rfl, RP.refl _ _ _, fun p c hp => hh p c (by omega) hp⟩
  | succ n ih =>
    intro d i hn hsz hh
    have h0 : 0 ≤ i := by omega
    replace ih := fun d => ih d (i - 1) (by omega)
    clear hn
    obtain ⟨d1, hr, hrp, hh1⟩ := siftDown_spec cf hk d first i hi hf h0 hsz fun p c hp => hh p c hp (by omega)
    rw [heapBuild, dif_pos h0, hr]
    obtain ⟨d', hr', hrp', hh'⟩ := ih d1 (by rw [hrp.1]; exact hsz)
      fun p c hp _ => hh1 p c (by omega)
    exact ⟨d', hr', (hrp.mono (by omega) (Int.le_refl _)).trans hrp', hh'⟩

theorem heap_root_max (d : Data) (first n : Int) (hh : HeapFrom d first 0 n) :
    ∀ (m : Nat) (k : Int), k.toNat = m → 0 ≤ k → k < n → vi d (first + k) ≤ vi d (first + 0) := by
  intro m
  induction m using Nat.strongRecOn with
  | _ m ih =>
    intro k hkm hk0 hkn
    by_cases hz : k = 0
    · rw [hz]; exact Int.le_refl _
    · have B : 0 ≤ (k - 1) / 2 ∧ (k = 2 * ((k - 1) / 2) + 1 ∨ k = 2 * ((k - 1) / 2) + 2) ∧
          ((k - 1) / 2).toNat < m ∧ (k - 1) / 2 < n := by omega
      exact Int.le_trans (hh ((k - 1) / 2) k B.1 hkn B.2.1) (ih ((k - 1) / 2).toNat B.2.2.1 ((k - 1) / 2) rfl B.1 B.2.2.2)

/-- The pop loop of `heapSort` when `i + 1` nodes are left.  Invariant: they form a heap, and every pair of positions
whose right end lies behind the heap is in order (the tail is sorted and dominates the heap). -/
theorem heapPop_spec (cf : Cfg) (hk : cf.HeapOK) (first hi : Int) (hf : 0 ≤ first) :
    ∀ (n : Nat) (d : Data) (i : Int), (i + 1).toNat = n → first + hi ≤ d.size → i < hi → HeapFrom d first 0 (i + 1) →
    (∀ p q, first ≤ p → p < q → first + i + 1 ≤ q → q < first + hi → vi d p ≤ vi d q) →
    ∃ d', heapPop cf d i first = .ok d' ∧ RP first (first + hi) d d' ∧ SortedOn first (first + hi) d' := by
  intro n
  induction n with
  | zero =>
    intro d i hn hsz hihi hheap hT
    rw [heapPop, dif_neg (by omega)]
    exact ⟨d, rfl, RP.refl _ _ _, fun p q h1 h2 h3 => hT p q h1 h2 (by omega) h3⟩
  | succ n ih =>
    intro d i hn hsz hihi hheap hT
    replace ih := fun d => ih d (i - 1) (by omega)
    have B : 0 ≤ i ∧ first < d.size ∧ 0 ≤ first + i ∧ first + i < d.size ∧ first ≤ first + i ∧ first < first + hi ∧
        first + i < first + hi ∧ first + 0 = first ∧ first ≤ first + 0 ∧ first + i ≤ first + hi ∧ i - 1 < hi ∧
        i - 1 + 1 = i := by omega
    obtain ⟨h0, b1, b2, b3, b4, b5, b6, b7, b8, b9, b10, b11⟩ := B
    clear hn
    obtain ⟨d1, hsw⟩ := swap_total (d := d) (i := first) (j := first + i) hf b1 b2 b3
    have hs1 := swap_size hsw
    obtain ⟨d2, hr2, ⟨hs2, hfr2, hmem2⟩, hh2⟩ := siftDown_spec cf hk d1 first 0 i hf (Int.le_refl _)
      (hs1 ▸ Int.le_of_lt b3) fun p c hp hc hpc => by
        have hpc' := child_gt hpc (Int.le_trans (by decide) hp)
        have N : first + p ≠ first ∧ first + p ≠ first + i ∧ first + c ≠ first ∧ first + c ≠ first + i ∧ 0 ≤ p ∧
          c < i + 1 := by omega
        rw [swap_vi_other hsw N.1 N.2.1, swap_vi_other hsw N.2.2.1 N.2.2.2.1]
        exact hheap p c N.2.2.2.2.1 N.2.2.2.2.2 hpc
    rw [heapPop, dif_pos h0, hsw]
    simp only [hr2]
    -- every element of the old heap, wherever the swap has put it, is at most the old root
    have hmax : ∀ p, first ≤ p → p ≤ first + i → vi d1 p ≤ vi d first := by
      intro p h1 h2
      have hm := heap_root_max d first (i + 1) hheap
      rw [b7] at hm
      by_cases hp : p = first
      · rw [hp, swap_vi_left hsw]; exact hm _ i rfl h0 (Int.lt_add_one_iff.mpr (Int.le_refl _))
      · by_cases hp' : p = first + i
        · rw [hp', swap_vi_right hsw]; exact Int.le_refl _
        · rw [swap_vi_other hsw hp hp']
          have N : first + (p - first) = p ∧ 0 ≤ p - first ∧ p - first < i + 1 := by omega
          have := hm _ (p - first) rfl N.2.1 N.2.2
          rwa [N.1] at this
    obtain ⟨d', hr', hrp', hso'⟩ := ih d2 (by rw [hs2, hs1]; exact hsz) b10 (b11.symm ▸ hh2)
      (by
        intro p q hp hpq hq1 hq2
        have Q : first + i ≤ q ∧ q ≠ first ∨ (first + i = first ∧ q = first) := by omega
        have hleft : vi d2 p ≤ vi d first ∨ (first + i < p ∧ vi d2 p = vi d p) := by
          by_cases hpi : p < first + i
          · obtain ⟨k, hk1, hk2, e⟩ := hmem2 p (b7.symm ▸ hp) hpi
            rw [e]; exact Or.inl (hmax k (b7 ▸ hk1) (Int.le_of_lt hk2))
          · rw [hfr2 p (Or.inr (Int.not_lt.mp hpi))]
            by_cases hp' : p = first + i
            · exact Or.inl (hmax p hp (Int.le_of_eq hp'))
            · exact Or.inr ⟨by omega, swap_vi_other hsw (by omega) hp'⟩
        rw [hfr2 q (Or.inr (by omega))]
        by_cases hqi : q = first + i
        · rw [hqi, swap_vi_right hsw]
          exact hleft.resolve_right fun h => by omega
        · rw [swap_vi_other hsw (by omega) hqi]
          rcases hleft with h | ⟨h1, h2⟩
          · exact Int.le_trans h (hT first q (Int.le_refl _) (by omega) (by omega) hq2)
          · rw [h2]; exact hT p q hp hpq (by omega) hq2)
    have rp1 : RP first (first + hi) d d1 := RP.of_swap hsw ⟨Int.le_refl _, b5⟩ ⟨b4, b6⟩
    have rp2 : RP first (first + hi) d1 d2 := RP.mono ⟨hs2, hfr2, hmem2⟩ b8 b9
    exact ⟨d', hr', (rp1.trans rp2).trans hrp', hso'⟩

/-- the build loop of `heapSort` starts at or after the last inner node -/
def Cfg.BuildOK (cf : Cfg) : Prop :=
  (cf.heapBuildDiv = 2 ∧ cf.heapBuildSub ≤ 2) ∨ (cf.heapBuildDiv = 1 ∧ cf.heapBuildSub ≤ 1)

theorem heapSort_spec (cf : Cfg) (hk : cf.HeapOK) (hbo : cf.BuildOK) (d : Data) (a b : Int) (h0 : 0 ≤ a) (hab : a ≤ b)
    (hb : b ≤ d.size) :
    ∃ d', heapSort cf d a b = .ok d' ∧ RP a b d d' ∧ SortedOn a b d' := by
  unfold heapSort
  simp only
  have B : a + (b - a) = b ∧ b - a - 1 < b - a ∧ b - a - 1 + 1 = b - a := by omega
  obtain ⟨e1, e2, e3⟩ := B
  obtain ⟨d1, hr1, hrp1, hh1⟩ := heapBuild_spec cf hk a (b - a) h0 _ d
    (Int.tdiv (b - a - cf.heapBuildSub) cf.heapBuildDiv) rfl (e1.symm ▸ hb) (by
      intro p c hk1 hk0 hc hpc
      have : 2 * p + 1 ≥ b - a := by
        rcases hbo with ⟨hD, hS⟩ | ⟨hD, hS⟩
        · rw [hD] at hk1
          by_cases hz : 0 ≤ b - a - cf.heapBuildSub
          · rw [Int.tdiv_eq_ediv_of_nonneg hz] at hk1; omega
          · omega
        · rw [hD, Int.tdiv_one] at hk1; omega
      omega)
  rw [hr1]
  simp only
  obtain ⟨d2, hr2, hrp2, hs2⟩ := heapPop_spec cf hk a (b - a) h0 _ d1 (b - a - 1) rfl
    (by rw [hrp1.1, e1]; exact hb) e2 (e3.symm ▸ hh1) (fun p q h1 h2 h3 h4 => by omega)
  rw [e1] at hrp1 hrp2 hs2
  exact ⟨d2, hr2, hrp1.trans hrp2, hs2⟩

end IntSort
