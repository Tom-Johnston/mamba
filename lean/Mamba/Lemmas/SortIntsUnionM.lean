import Mamba.Lemmas.SortIntsUnionLoop
/-! Lemmas for C17: the `Union` method returns `Union(a, b)`. -/
namespace SortInts

theorem unionM_result (a spare b : List Int) (ha : SS a) (hb : SS b) :
    unionM a spare b = .ok (union a b) := by
  have hlenU := length_union_add a b
  have hrev := unionRev_reverse a b ha hb
  have hgeA : a.length ≤ (union a b).length := by
    have := length_unionRev_ge a.reverse b.reverse
    rw [hrev] at this; simpa using this
  unfold unionM
  have hns : ((a.length : Int) + (b.length : Int) - (intersectionSize a b : Int)) = (((union a b).length : Nat) : Int) := by
    omega
  simp only [hns]
  obtain ⟨T, hdst, hTlen, hTal⟩ : ∃ T : List Int,
      (if decide ((((a.length + spare.length : Nat)) : Int) ≥ (((union a b).length : Nat) : Int)) = true
        then sliceI (a ++ spare) 0 (((union a b).length : Nat) : Int)
        else if (((union a b).length : Nat) : Int) < 0 then none
          else some (List.replicate ((((union a b).length : Nat) : Int)).toNat 0)) = some T ∧
      T.length = (union a b).length ∧
      (decide ((((a.length + spare.length : Nat)) : Int) ≥ (((union a b).length : Nat) : Int)) = true → T.take a.length = a) := by
    by_cases hal : (((a.length + spare.length : Nat)) : Int) ≥ (((union a b).length : Nat) : Int)
    · refine ⟨(a ++ spare).take (union a b).length, ?_, ?_, ?_⟩
      · simp only [hal, decide_true, if_true]
        exact sliceI_zero_nat _ _ (by simp; omega)
      · simp; omega
      · intro _
        rw [List.take_take, Nat.min_eq_left hgeA, List.take_left']
        rfl
    · refine ⟨List.replicate (union a b).length 0, ?_, by simp, ?_⟩
      · simp only [hal, decide_false, Bool.false_eq_true, if_false]
        have : ¬ ((((union a b).length : Nat) : Int) < 0) := by omega
        rw [if_neg this]; simp
      · intro h; exact absurd (of_decide_eq_true h) hal
  rw [hdst]
  simp only
  obtain ⟨T', M, ra', rb', hrun, hor, hun, hT', hal', ha', hb'⟩ :=
    unionLoop_spec (decide ((((a.length + spare.length : Nat)) : Int) ≥ (((union a b).length : Nat) : Int)))
      a b a.reverse b.reverse T [] (by simp) (by simp) (by rw [hrev]; simpa using hTlen)
      (by intro h; simpa using hTal h)
  simp only [List.length_reverse, List.append_nil] at hrun
  rw [hrun]
  simp only
  have hU : union a b = (unionRev ra' rb').reverse ++ M := by
    have := congrArg List.reverse hun
    rw [hrev] at this
    simpa using this
  rcases hor with h | h
  · subst h
    have hT'0 : T'.length = rb'.length := by simpa [unionRev] using hT'
    have hi : ¬ ((0 : Int) ≤ (([] : List Int).length : Int) - 1) := by simp
    rw [if_neg hi]
    by_cases hj : (0 : Int) ≤ (rb'.length : Int) - 1
    · rw [if_pos hj]
      have e : ((rb'.length : Int) - 1 + 1) = ((rb'.length : Nat) : Int) := by omega
      have hbl : rb'.length ≤ b.length := by
        have := congrArg List.length hb'; simp at this; omega
      rw [e, sliceI_zero_nat b _ hbl, hb']
      simp only
      rw [copyI_prefix T' M rb'.reverse (by simp; omega)]
      simp only [hU, unionRev]
    · rw [if_neg hj]
      have : rb' = [] := by
        cases rb' with
        | nil => rfl
        | cons y ys => simp at hj
      subst this
      have : T' = [] := by simpa using hT'0
      subst this
      simp [hU, unionRev]
  · subst h
    cases ra' with
    | nil =>
      have : T' = [] := by simpa [unionRev] using hT'
      subst this
      simp [hU, unionRev]
    | cons x xs =>
      have hT'0 : T'.length = (x :: xs).length := by simpa [unionRev] using hT'
      have hi : (0 : Int) ≤ ((x :: xs).length : Int) - 1 := by simp
      rw [if_pos hi]
      have e : (((x :: xs).length : Int) - 1 + 1) = (((x :: xs).length : Nat) : Int) := by omega
      have hsrc : sliceI (if decide ((((a.length + spare.length : Nat)) : Int) ≥ (((union a b).length : Nat) : Int)) = true
            then T' ++ M else a) 0 (((x :: xs).length : Nat) : Int) = some (x :: xs).reverse := by
        split
        · rename_i hd
          rw [sliceI_zero_nat _ _ (by rw [List.length_append, hT'0]; omega)]
          rw [List.take_append_of_le_length (by omega)]
          have := hal' hd
          rw [← this]
        · have hal2 : (x :: xs).length ≤ a.length := by
            have := congrArg List.length ha'; simp at this; simp; omega
          rw [sliceI_zero_nat a _ hal2, ha']
      rw [e, hsrc]
      simp only
      rw [copyI_prefix T' M (x :: xs).reverse (by simp; simpa using hT'0.symm)]
      simp only [hU, unionRev]

end SortInts
