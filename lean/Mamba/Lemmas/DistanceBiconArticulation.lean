import Mamba.Lemmas.DistanceBiconScan
import Mamba.Lemmas.DistanceSep
import Mamba.Lemmas.DistanceEmb
/-!
# Articulation vertices: the end of the DFS of a component, the DFS criterion, separation

`DFinal` is the state at the end of the DFS of a component (the invariants `DT` and `LA`, every vertex visited, the
stack empty), with walks along its tree. `Crit` is the criterion the Go code
tests (a non-root vertex with a child whose lowpoint does not pass above it, or a root with two children); the vertices
the model reports are those that satisfy it (`DFinal.reported_iff`). `SepIn g V v` (two vertices of `V` other than `v` are
joined inside `V` but not inside `V` without `v`) is carried
between `g` and a component graph by an embedding (`Emb.sep_iff`, `sep_transfer`).
-/
namespace GDist
open GraphSpec Model

section
structure DFinal (h : G) (st : BicSt) (tp : Nat → Nat) : Prop where
  dt : DT h st tp
  la : LA h st tp
  hall : ∀ x, x < h.n → bvis st x
  hemp : st.toCheck = []

variable {h : G} {st : BicSt} {tp : Nat → Nat}

theorem mem_erase_nodup {B : List Nat} (hnd : B.Nodup) {y v : Nat} : y ∈ B.erase v ↔ (y ∈ B ∧ y ≠ v) :=
  hnd.mem_erase_iff.trans and_comm

theorem mem_range_erase {n i z : Nat} : z ∈ (List.range n).erase i ↔ z < n ∧ z ≠ i := by
  rw [mem_erase_nodup List.nodup_range, List.mem_range]

theorem stay_in {h : G} {tp : Nat → Nat} {w : Nat} (V : List Nat)
    (hexit : ∀ z u, z ∈ V → u ∈ V → Anc tp w z → h.adj z u = true → Anc tp w u) {x : Nat}
    (hx : Anc tp w x) : ∀ u k, WalkIn h V x u k → Anc tp w u := by
  intro u k hw
  induction hw with
  | base _ => exact hx
  | @step a u k hwa hadj huV ih => exact hexit a u hwa.mem_V huV ih hadj

namespace DFinal

variable (df : DFinal h st tp)
include df

theorem fin (x : Nat) : x ∉ st.toCheck := by rw [df.hemp]; simp

theorem anc_lt {a x : Nat} (hx : x < h.n) (ha : Anc tp a x) (hne : a ≠ x) : dI st a < dI st x :=
  df.dt.anc_lt hx (df.hall x hx) ha hne

theorem reaches_root : ∀ (m : Nat) (x : Nat), x < h.n → dI st x = (m : Int) → tp^[m] x = 0 := by
  intro m
  induction m with
  | zero =>
    intro x hx hd
    by_contra hx0
    obtain ⟨h1, h2, _, h4⟩ := df.dt.tree x hx (df.hall x hx) hx0
    have := df.dt.dnn _ h2
    simp at hd; omega
  | succ m ih =>
    intro x hx hd
    have hx0 : x ≠ 0 := by
      intro h0; subst h0; rw [df.dt.root] at hd; omega
    obtain ⟨h1, h2, _, h4⟩ := df.dt.tree x hx (df.hall x hx) hx0
    rw [Function.iterate_succ_apply]
    exact ih (tp x) h1 (by push_cast at hd; omega)

theorem anc_root (x : Nat) (hx : x < h.n) : Anc tp 0 x := by
  have hnn := df.dt.dnn x (df.hall x hx)
  exact ⟨(dI st x).toNat, df.reaches_root _ x hx (by omega)⟩

theorem anc_n {a x : Nat} (hx : x < h.n) (ha : Anc tp a x) : a < h.n :=
  (df.dt.anc_vis hx (df.hall x hx) ha).1

theorem tree_walk_up_in (hsym : ∀ u v, h.adj u v = h.adj v u) (V : List Nat) :
    ∀ (k : Nat) (z : Nat), z < h.n → (∀ j, j ≤ k → tp^[j] z ∈ V) → ReachIn h V z (tp^[k] z) := by
  intro k
  induction k with
  | zero =>
    intro z _ hV
    exact ReachIn.refl (hV 0 (Nat.le_refl _))
  | succ k ih =>
    intro z hz hV
    have hzV : z ∈ V := hV 0 (Nat.zero_le _)
    rw [Function.iterate_succ_apply]
    by_cases hz0 : z = 0
    · subst hz0
      rw [df.dt.tp0]
      exact ih 0 hz (fun j hj => by
        have := hV (j + 1) (by omega)
        rwa [Function.iterate_succ_apply, df.dt.tp0] at this)
    · obtain ⟨h1, _, h3, _⟩ := df.dt.tree z hz (df.hall z hz) hz0
      have htV : tp z ∈ V := by
        have := hV 1 (by omega)
        simpa using this
      have hstep : ReachIn h V z (tp z) := ⟨1, .step (.base hzV) (by rw [hsym]; exact h3) htV⟩
      exact hstep.trans (ih (tp z) h1 (fun j hj => by
        have := hV (j + 1) (by omega)
        rwa [Function.iterate_succ_apply] at this))

theorem walk_up_to (hsym : ∀ u v, h.adj u v = h.adj v u) (V : List Nat) {c y : Nat} (hy : y < h.n)
    (ha : Anc tp c y) (hV : ∀ w, Anc tp c w → Anc tp w y → w ∈ V) : ReachIn h V y c := by
  obtain ⟨k, hk⟩ := ha
  rw [← hk]
  apply df.tree_walk_up_in hsym V k y hy
  intro j hj
  exact hV _ ⟨k - j, by rw [← Function.iterate_add_apply, Nat.sub_add_cancel hj, hk]⟩ ⟨j, rfl⟩

end DFinal

def SepIn (g : G) (V : List Nat) (v : Nat) : Prop :=
  ∃ x y, x ∈ V.erase v ∧ y ∈ V.erase v ∧ ReachIn g V x y ∧ ¬ ReachIn g (V.erase v) x y

def Crit (h : G) (st : BicSt) (tp : Nat → Nat) (i : Nat) : Prop :=
  (i ≠ 0 ∧ ∃ c, c < h.n ∧ c ≠ 0 ∧ tp c = i ∧ lo st c ≥ dI st i) ∨
  (i = 0 ∧ ∃ c1 c2, c1 ≠ c2 ∧ c1 < h.n ∧ c2 < h.n ∧ c1 ≠ 0 ∧ c2 ≠ 0 ∧ tp c1 = 0 ∧ tp c2 = 0)

namespace DFinal

variable (df : DFinal h st tp)
include df

theorem exit_cases {c z w : Nat} (hz : z < h.n) (hw : w < h.n) (ha : Anc tp c z)
    (hadj : h.adj z w = true) : Anc tp c w ∨ (Anc tp w c ∧ w ≠ c) := by
  rcases df.dt.nocross z w hz hw (df.hall z hz) (df.hall w hw) hadj with h1 | h1
  · exact .inl (ha.trans h1)
  · rcases anc_linear ha h1 with h2 | h2
    · exact .inl h2
    · by_cases hwc : w = c
      · exact .inl (hwc ▸ Anc.refl _ _)
      · exact .inr ⟨h2, hwc⟩

theorem reach_child (hsym : ∀ u v, h.adj u v = h.adj v u) {i c x : Nat} (hx : x < h.n)
    (ha : Anc tp c x) (hnot : ¬ Anc tp c i) : ReachIn h ((List.range h.n).erase i) x c :=
  df.walk_up_to hsym _ hx ha (fun _ hw1 hw2 =>
    mem_range_erase.2 ⟨df.anc_n hx hw2, fun h0 => hnot (h0 ▸ hw1)⟩)

end DFinal

end

section reported
variable {h : G} {st : BicSt} {tp : Nat → Nat}

namespace DFinal
variable (df : DFinal h st tp)
include df

theorem isA_iff {i : Nat} (hi : i < h.n) (hi0 : i ≠ 0) :
    isA st i = true ↔ ∃ c, c < h.n ∧ c ≠ 0 ∧ tp c = i ∧ lo st c ≥ dI st i := by
  constructor
  · intro ha
    obtain ⟨_, c, hc, _, _, hc0, htc, hlc⟩ := df.la.ar4 i hi ha
    exact ⟨c, hc, hc0, htc, hlc⟩
  · rintro ⟨c, hc, hc0, htc, hlc⟩
    rcases df.la.ar1 c hc (df.hall c hc) hc0 with h1 | h1
    · exfalso
      obtain ⟨rest, hr, _⟩ := df.la.ar3 c hc (df.hall c hc) (df.fin c) hc0 h1 (by rw [htc]; exact hi0)
        (by rw [htc]; exact hlc)
      rw [df.hemp] at hr; cases hr
    · have := (df.la.ar2 c hc (df.hall c hc) hc0 h1).2.2.2
      rwa [htc] at this

theorem childCount_iff :
    2 ≤ st.childCount ↔ ∃ c1 c2, c1 ≠ c2 ∧ c1 < h.n ∧ c2 < h.n ∧ c1 ≠ 0 ∧ c2 ≠ 0 ∧ tp c1 = 0 ∧ tp c2 = 0 := by
  obtain ⟨L, hnd, hlen, hmem⟩ := df.la.ar5
  constructor
  · intro h2
    rw [← hlen] at h2
    match L, hnd, h2, hmem with
    | a :: b :: t, hnd, _, hmem =>
      have ha := (hmem a).1 (by simp)
      have hb := (hmem b).1 (by simp)
      have hab : a ≠ b := by
        intro h0; subst h0
        simp at hnd
      exact ⟨a, b, hab, ha.1, hb.1, ha.2.2.1, hb.2.2.1, ha.2.2.2, hb.2.2.2⟩
  · rintro ⟨c1, c2, hne, h1, h2, h10, h20, ht1, ht2⟩
    have m1 := (hmem c1).2 ⟨h1, df.hall c1 h1, h10, ht1⟩
    have m2 := (hmem c2).2 ⟨h2, df.hall c2 h2, h20, ht2⟩
    have hnd2 : [c1, c2].Nodup := by simp [hne]
    have := (List.subperm_of_subset hnd2 (fun x hx => by
      simp at hx
      rcases hx with rfl | rfl
      · exact m1
      · exact m2)).length_le
    simp at this
    omega

theorem reported_iff {i : Nat} (hi : i < h.n) :
    (st.isArt.setIfInBounds 0 (decide (2 ≤ st.childCount))).getD i false = true ↔ Crit h st tp i := by
  have hsz : 0 < st.isArt.size := by rw [df.dt.ok.asz]; omega
  rw [getD_setIfInBounds hsz _ _ _]
  by_cases hi0 : i = 0
  · subst hi0
    simp only [if_true, decide_eq_true_eq]
    rw [df.childCount_iff]
    unfold Crit
    constructor
    · intro hc; exact .inr ⟨rfl, hc⟩
    · rintro (⟨h0, _⟩ | ⟨_, hc⟩)
      · exact absurd rfl h0
      · exact hc
  · simp only [hi0, if_false]
    have : st.isArt.getD i false = isA st i := rfl
    rw [this, df.isA_iff hi hi0]
    unfold Crit
    constructor
    · intro hc; exact .inl ⟨hi0, hc⟩
    · rintro (⟨_, hc⟩ | ⟨h0, _⟩)
      · exact hc
      · exact absurd h0 hi0

end DFinal
end reported

section transfer

variable {g h : G} {f : Nat → Nat} {Vh Vg : List Nat}

/-- `Vh` is the preimage of `Vg` under `f`: its members are vertices of `h` mapped into `Vg` (`fwd`), and every vertex of
`h` mapped into `Vg` is a member (`bwd`) -/
structure Pre (h : G) (f : Nat → Nat) (Vh Vg : List Nat) : Prop where
  fwd : ∀ z ∈ Vh, z < h.n ∧ f z ∈ Vg
  bwd : ∀ z, z < h.n → f z ∈ Vg → z ∈ Vh

theorem Emb.walk_up (e : Emb g h f) (p : Pre h f Vh Vg) {a b k : Nat} (hw : WalkIn h Vh a b k) :
    WalkIn g Vg (f a) (f b) k := by
  induction hw with
  | base ha => exact .base (p.fwd _ ha).2
  | @step u x k hwu hadj hx ih =>
    refine .step ih ?_ (p.fwd _ hx).2
    rw [← e.adj u x (p.fwd _ hwu.mem_V).1 (p.fwd _ hx).1]; exact hadj

theorem Emb.walk_down (e : Emb g h f) (p : Pre h f Vh Vg) (hVg : ∀ y ∈ Vg, y < g.n) {a y k : Nat}
    (ha : a < h.n) (hw : WalkIn g Vg (f a) y k) : ∃ b, b < h.n ∧ f b = y ∧ WalkIn h Vh a b k := by
  induction hw with
  | base hm => exact ⟨a, ha, rfl, .base (p.bwd a ha hm)⟩
  | @step u x k _ hadj hx ih =>
    obtain ⟨b0, hb0, hb0u, hwb⟩ := ih
    rw [← hb0u] at hadj
    obtain ⟨b1, hb1, hb1x⟩ := e.closed b0 x hb0 (hVg x hx) hadj
    refine ⟨b1, hb1, hb1x, .step hwb ?_ (p.bwd b1 hb1 (by rw [hb1x]; exact hx))⟩
    rw [e.adj b0 b1 hb0 hb1, hb1x]; exact hadj

theorem Emb.reach_iff (e : Emb g h f) (p : Pre h f Vh Vg) (hVg : ∀ y ∈ Vg, y < g.n) {a b : Nat}
    (ha : a < h.n) (hb : b < h.n) : ReachIn g Vg (f a) (f b) ↔ ReachIn h Vh a b := by
  constructor
  · rintro ⟨k, hk⟩
    obtain ⟨b', hb', hbb, hw⟩ := e.walk_down p hVg ha hk
    rw [e.inj b' b hb' hb hbb] at hw
    exact ⟨k, hw⟩
  · rintro ⟨k, hk⟩
    exact ⟨k, e.walk_up p hk⟩

theorem Pre.erase (e : Emb g h f) (p : Pre h f Vh Vg) (hh : Vh.Nodup) (hg : Vg.Nodup) {i : Nat} (hi : i < h.n) :
    Pre h f (Vh.erase i) (Vg.erase (f i)) where
  fwd := fun z hz => by
    obtain ⟨hz1, hz2⟩ := (mem_erase_nodup hh).1 hz
    exact ⟨(p.fwd z hz1).1, (mem_erase_nodup hg).2 ⟨(p.fwd z hz1).2, fun h0 => hz2 (e.inj z i (p.fwd z hz1).1 hi h0)⟩⟩
  bwd := fun z hz hm => by
    obtain ⟨h1, h2⟩ := (mem_erase_nodup hg).1 hm
    exact (mem_erase_nodup hh).2 ⟨p.bwd z hz h1, fun h0 => h2 (by rw [h0])⟩

theorem Emb.sep_iff (e : Emb g h f) (p : Pre h f Vh Vg) (hVg : ∀ y ∈ Vg, y < g.n) (hh : Vh.Nodup) (hg : Vg.Nodup)
    {i : Nat} (hi : i < h.n) (hsurj : ∀ x ∈ Vg, ReachIn g Vg x (f i) → ∃ a, a < h.n ∧ f a = x) :
    SepIn g Vg (f i) ↔ SepIn h Vh i := by
  have pe := p.erase e hh hg hi
  have hVge : ∀ y ∈ Vg.erase (f i), y < g.n := fun y hy => hVg y (List.mem_of_mem_erase hy)
  constructor
  · rintro ⟨x, y, hx, hy, ⟨k, hk⟩, hnr⟩
    have hxv : ReachIn g Vg x (f i) := by
      rcases walk_avoid_or_reach hx hk with ⟨j, hj⟩ | h0
      · exact absurd ⟨j, hj⟩ hnr
      · exact h0
    obtain ⟨a, ha, rfl⟩ := hsurj x (List.mem_of_mem_erase hx) hxv
    obtain ⟨b, hb, rfl, hwab⟩ := e.walk_down p hVg ha hk
    exact ⟨a, b, pe.bwd a ha hx, pe.bwd b hb hy, ⟨k, hwab⟩, fun hr => hnr ((e.reach_iff pe hVge ha hb).2 hr)⟩
  · rintro ⟨a, b, ha, hb, hab, hnr⟩
    have ha' := (pe.fwd a ha).1
    have hb' := (pe.fwd b hb).1
    exact ⟨f a, f b, (pe.fwd a ha).2, (pe.fwd b hb).2, (e.reach_iff p hVg ha' hb').2 hab,
      fun hr => hnr ((e.reach_iff pe hVge ha' hb').1 hr)⟩

end transfer

variable {g : G} {com : List Nat}

theorem goodCom_reach_closed (gc : GoodCom g com) {x y : Nat} (hx : x ∈ com)
    (hr : ReachIn g (List.range g.n) x y) : y ∈ com := by
  obtain ⟨k, hk⟩ := hr
  induction hk with
  | base _ => exact hx
  | step _ hadj hy ih => exact gc.closed _ ih _ hadj (List.mem_range.1 hy)

theorem sep_transfer (gc : GoodCom g com) (hsym : ∀ u v, g.adj u v = g.adj v u) {i : Nat} (hi : i < com.length) :
    SepIn g (List.range g.n) (com.getD i 0) ↔ SepIn (g.induced com) (List.range (g.induced com).n) i :=
  have e := goodCom_emb gc
  e.sep_iff ⟨fun z hz => ⟨List.mem_range.1 hz, List.mem_range.2 (e.rng z (List.mem_range.1 hz))⟩,
      fun _ hz _ => List.mem_range.2 hz⟩ (fun _ hy => List.mem_range.1 hy) List.nodup_range List.nodup_range hi
    (fun _ _ hr => mem_iff_getD.1 (goodCom_reach_closed gc (getD_mem hi) (hr.symm hsym)))

end GDist
