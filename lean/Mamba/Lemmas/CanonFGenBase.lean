import Mamba.Lemmas.CanonFGenBy
import Mamba.Lemmas.CanonFOrbBase
/-!
# The recorded generators generate Aut: bookkeeping lemmas for `AutGen` / `FrameAuxG1` / `FrameAuxG`

Mirror of the `FrameAuxA1` / `FrameAuxA` part of `CanonFOrbBase.lean`. `AutGen n nb r gh s K` reads `gh.vsF` and the
recorded generators `RecGen s` (`s.gens`, `s.ngens`); the field `fmax` of `FrameAuxG1` does not depend on `incl`, `c`.
-/
namespace CanonF

theorem RecGen_congr {s s' : LS} (e1 : s'.gens = s.gens) (e2 : s'.ngens = s.ngens) : RecGen s' = RecGen s := by
  funext γ; unfold RecGen; rw [e1, e2]

theorem RecGen.record {n : Nat} {order pinv : Sl Nat} {s s' : LS} {merges : Bool} (hlen : order.len = n)
    (hrec : (if merges = true then recordGenerator n order pinv s.gens s.ngens else Outcome.ok (s.gens, s.ngens))
      = .ok (s'.gens, s'.ngens)) : ∀ γ, RecGen s γ → RecGen s' γ := by
  rintro γ ⟨k, g, hk, hg, e⟩
  by_cases hm : merges = true
  · rw [if_pos hm] at hrec
    obtain ⟨r1, _, _, r4, _⟩ := recordGenerator_spec hlen hrec
    exact ⟨k, g, by omega, by rw [r4 k (by omega)]; exact hg, e⟩
  · rw [if_neg hm] at hrec
    injection hrec with hrec
    injection hrec with e1 e2
    exact ⟨k, g, by rw [← e2]; exact hk, by rw [← e1]; exact hg, e⟩

theorem AutGen.mono {n : Nat} {nb : Nbrs} {r : IR.St} {gh gh' : Gh} {s s' : LS} {K : Nat}
    (h : AutGen n nb r gh s K) (hS : ∀ γ, RecGen s γ → RecGen s' γ) (g : gh'.vsF = gh.vsF) :
    AutGen n nb r gh' s' K := by
  intro γ ha hc hfix
  rw [g] at hfix
  exact (h γ ha hc hfix).mono hS

theorem AutGen.congr {n : Nat} {nb : Nbrs} {r : IR.St} {gh gh' : Gh} {s s' : LS} {K : Nat}
    (h : AutGen n nb r gh s K) (e1 : s'.gens = s.gens) (e2 : s'.ngens = s.ngens) (g : gh'.vsF = gh.vsF) :
    AutGen n nb r gh' s' K :=
  h.mono (fun γ hγ => by rw [RecGen_congr e1 e2]; exact hγ) g

theorem AutGen.mono_level {n : Nat} {nb : Nbrs} {r : IR.St} {gh : Gh} {s : LS} {K K' : Nat}
    (h : AutGen n nb r gh s K) (hK : K ≤ K') : AutGen n nb r gh s K' :=
  fun γ ha hc hfix => h γ ha hc (fun j v hj hv => hfix j v (by omega) hv)

theorem FrameAuxG1.mono {n : Nat} {nb : Nbrs} {rf : Nat} {r : IR.St} {gh gh' : Gh} {s s' : LS} {us us' : List Nat}
    {incl : Bool} {ps : List Nat} {c st sz : Nat} (h : FrameAuxG1 n nb rf r gh s us incl ps c st sz)
    (hc : 0 < s'.count → 0 < s.count) (hS : ∀ γ, RecGen s γ → RecGen s' γ) (g : gh'.vsF = gh.vsF)
    (ev : us'.take ps.length = us.take ps.length) :
    FrameAuxG1 n nb rf r gh' s' us' incl ps c st sz := by
  have ec := cellL_congr (n := n) (nb := nb) (rf := rf) (r := r) (st := st) ev
  constructor
  · intro h0 hpre i w hi hw hx
    rw [ev, g] at hpre; rw [ec] at hw; rw [g] at hx
    exact (h.gF (hc h0) hpre i w hi hw hx).mono hS g
  · intro h0 hpre
    rw [ev, g] at hpre
    rw [g, ec]
    exact h.fmax (hc h0) hpre

theorem FrameAuxG1.congr {n : Nat} {nb : Nbrs} {rf : Nat} {r : IR.St} {gh : Gh} {s s' : LS} {us us' : List Nat}
    {incl : Bool} {ps : List Nat} {c st sz : Nat} (h : FrameAuxG1 n nb rf r gh s us incl ps c st sz)
    (e1 : s'.count = s.count) (e2 : s'.gens = s.gens) (e3 : s'.ngens = s.ngens)
    (ev : us'.take ps.length = us.take ps.length) : FrameAuxG1 n nb rf r gh s' us' incl ps c st sz :=
  h.mono (fun h0 => by rw [← e1]; exact h0) (fun γ hγ => by rw [RecGen_congr e2 e3]; exact hγ) rfl ev

theorem FrameAuxG1.congr_pos {n : Nat} {nb : Nbrs} {rf : Nat} {r : IR.St} {gh : Gh} {s s' : LS} {us us' : List Nat}
    {incl : Bool} {ps : List Nat} {c st sz : Nat} (h : FrameAuxG1 n nb rf r gh s us incl ps c st sz)
    (e1 : 0 < s.count) (e2 : s'.gens = s.gens) (e3 : s'.ngens = s.ngens)
    (ev : us'.take ps.length = us.take ps.length) : FrameAuxG1 n nb rf r gh s' us' incl ps c st sz :=
  h.mono (fun _ => e1) (fun γ hγ => by rw [RecGen_congr e2 e3]; exact hγ) rfl ev

theorem FrameAuxG1.congr_gh {n : Nat} {nb : Nbrs} {rf : Nat} {r : IR.St} {gh gh' : Gh} {s : LS} {us : List Nat}
    {incl : Bool} {ps : List Nat} {c st sz : Nat} (h : FrameAuxG1 n nb rf r gh s us incl ps c st sz)
    (g : gh'.vsF = gh.vsF) : FrameAuxG1 n nb rf r gh' s us incl ps c st sz :=
  h.mono (fun h0 => h0) (fun _ hγ => hγ) g rfl

theorem FrameAuxG1.mono_gens {n : Nat} {nb : Nbrs} {rf : Nat} {r : IR.St} {gh : Gh} {s s' : LS} {us : List Nat}
    {incl : Bool} {ps : List Nat} {c st sz : Nat} (h : FrameAuxG1 n nb rf r gh s us incl ps c st sz)
    (hc : 0 < s'.count → 0 < s.count) (hS : ∀ γ, RecGen s γ → RecGen s' γ) :
    FrameAuxG1 n nb rf r gh s' us incl ps c st sz :=
  h.mono hc hS rfl rfl

theorem FrameAuxG1.of_off {n : Nat} {nb : Nbrs} {rf : Nat} {r : IR.St} {gh : Gh} {s : LS} {us : List Nat}
    {incl : Bool} {ps : List Nat} {c st sz : Nat}
    (hF : 0 < s.count → us.take ps.length ≠ gh.vsF.take ps.length) :
    FrameAuxG1 n nb rf r gh s us incl ps c st sz :=
  ⟨fun h0 hpre => absurd hpre (hF h0), fun h0 hpre => absurd hpre (hF h0)⟩

theorem FrameAuxG1.of_fmax {n : Nat} {nb : Nbrs} {rf : Nat} {r : IR.St} {gh : Gh} {s : LS} {us : List Nat}
    {incl incl' : Bool} {ps : List Nat} {c c' st sz : Nat} (h : FrameAuxG1 n nb rf r gh s us incl ps c st sz)
    (hg : 0 < s.count → us.take ps.length = gh.vsF.take ps.length → ∀ i w,
      (if incl' then c' - st ≤ i else c' - st < i) → (cellL n nb rf r us ps.length st)[i]? = some w →
      gh.vsF[ps.length]? = some w → AutGen n nb r gh s (ps.length + 1)) :
    FrameAuxG1 n nb rf r gh s us incl' ps c' st sz :=
  ⟨hg, h.fmax⟩

/-- the top frame: the member with index `c - 1 - st` becomes processed (skip, `splitBin` worse); it is not the
first-path child because it was unprocessed (`futF` of the D-layer) -/
theorem FrameAuxG1.step_head {n : Nat} {nb : Nbrs} {rf : Nat} {r : IR.St} {gh : Gh} {s : LS} {us : List Nat}
    {ps : List Nat} {c st sz : Nat} (h : FrameAuxG1 n nb rf r gh s us true ps c st sz)
    (hD : FrameAux1 n nb rf r gh s us true ps c st sz) : FrameAuxG1 n nb rf r gh s us true ps (c - 1) st sz := by
  refine h.of_fmax ?_
  intro h0 hpre i w _ hw hx
  rcases Nat.lt_or_ge i (c - st) with hlt | hge
  · exact absurd ⟨hpre, hx⟩ (hD.futF h0 i w hlt hw)
  · exact h.gF h0 hpre i w hge hw hx

theorem FrameAuxG1.start_child {n : Nat} {nb : Nbrs} {rf : Nat} {r : IR.St} {gh : Gh} {s : LS} {us : List Nat}
    {ps : List Nat} {c st sz : Nat} (h : FrameAuxG1 n nb rf r gh s us true ps c st sz) :
    FrameAuxG1 n nb rf r gh s us false ps (c - 1) st sz :=
  h.of_fmax (fun h0 hpre i w hi hw hx => h.gF h0 hpre i w (idx_of_start hi) hw hx)

theorem FrameAuxG1.finish_child' {n : Nat} {nb : Nbrs} {rf : Nat} {r : IR.St} {gh : Gh} {s : LS} {us : List Nat}
    {ps : List Nat} {c st sz : Nat} (h : FrameAuxG1 n nb rf r gh s us false ps c st sz)
    (hnew : 0 < s.count → ∀ w, (cellL n nb rf r us ps.length st)[c - st]? = some w →
      us.take ps.length = gh.vsF.take ps.length → gh.vsF[ps.length]? = some w → AutGen n nb r gh s (ps.length + 1)) :
    FrameAuxG1 n nb rf r gh s us true ps c st sz := by
  refine h.of_fmax ?_
  intro h0 hpre i w hi hw hx
  rcases Nat.lt_or_ge (c - st) i with hlt | hge
  · exact h.gF h0 hpre i w hlt hw hx
  · cases Nat.le_antisymm hge hi
    exact hnew h0 w hw hpre hx

theorem FrameAuxG1.finish_child {n : Nat} {nb : Nbrs} {rf : Nat} {r : IR.St} {gh : Gh} {s : LS} {us : List Nat}
    {ps : List Nat} {c st sz : Nat} (h : FrameAuxG1 n nb rf r gh s us false ps c st sz)
    (hnew : ∀ w, (cellL n nb rf r us ps.length st)[c - st]? = some w → gh.vsF[ps.length]? = some w →
      AutGen n nb r gh s (ps.length + 1)) :
    FrameAuxG1 n nb rf r gh s us true ps c st sz :=
  h.finish_child' (fun _ w hw _ hx => hnew w hw hx)

theorem frameAuxG_iff {n : Nat} {nb : Nbrs} {rf : Nat} {r : IR.St} {gh : Gh} {s : LS} {us : List Nat} (incl : Bool)
    (path choices : List Nat) (lv : List (Nat × Nat)) :
    FrameAuxG n nb rf r gh s us incl path choices lv ↔
      AllFrames (fun incl _ ps c st sz => FrameAuxG1 n nb rf r gh s us incl ps c st sz) incl path choices lv := by
  fun_induction FrameAuxG n nb rf r gh s us incl path choices lv with
  | case1 => exact Iff.rfl
  | case2 incl p ps c cs st sz ls ih => exact and_congr Iff.rfl ih
  | case3 incl path choices lv h1 h2 => rw [AllFrames.eq_3 _ _ _ _ _ h1 h2]

theorem FrameAuxG.mono {n : Nat} {nb : Nbrs} {rf : Nat} {r : IR.St} {gh gh' : Gh} {s s' : LS} {us us' : List Nat}
    (hc : 0 < s'.count → 0 < s.count) (hS : ∀ γ, RecGen s γ → RecGen s' γ) (g : gh'.vsF = gh.vsF)
    (incl : Bool) (path choices : List Nat) (lv : List (Nat × Nat))
    (hv : ∀ L, L < path.length → us'.take L = us.take L) (h : FrameAuxG n nb rf r gh s us incl path choices lv) :
    FrameAuxG n nb rf r gh' s' us' incl path choices lv := by
  rw [frameAuxG_iff] at h ⊢
  exact h.imp (fun incl _ ps c st sz hL hP => hP.mono hc hS g (hv _ hL))

theorem FrameAuxG.congr {n : Nat} {nb : Nbrs} {rf : Nat} {r : IR.St} {gh : Gh} {s s' : LS} {us us' : List Nat}
    (e1 : s'.count = s.count) (e2 : s'.gens = s.gens) (e3 : s'.ngens = s.ngens) :
    ∀ (incl : Bool) (path choices : List Nat) (lv : List (Nat × Nat)),
      (∀ L, L < path.length → us'.take L = us.take L) →
      FrameAuxG n nb rf r gh s us incl path choices lv → FrameAuxG n nb rf r gh s' us' incl path choices lv :=
  FrameAuxG.mono (fun h0 => by rw [← e1]; exact h0) (fun γ hγ => by rw [RecGen_congr e2 e3]; exact hγ) rfl

theorem FrameAuxG.congr_pos {n : Nat} {nb : Nbrs} {rf : Nat} {r : IR.St} {gh : Gh} {s s' : LS} {us us' : List Nat}
    (e1 : 0 < s.count) (e2 : s'.gens = s.gens) (e3 : s'.ngens = s.ngens) :
    ∀ (incl : Bool) (path choices : List Nat) (lv : List (Nat × Nat)),
      (∀ L, L < path.length → us'.take L = us.take L) →
      FrameAuxG n nb rf r gh s us incl path choices lv → FrameAuxG n nb rf r gh s' us' incl path choices lv :=
  FrameAuxG.mono (fun _ => e1) (fun γ hγ => by rw [RecGen_congr e2 e3]; exact hγ) rfl

theorem FrameAuxG.congr_gh {n : Nat} {nb : Nbrs} {rf : Nat} {r : IR.St} {gh gh' : Gh} {s : LS} {us : List Nat}
    (g : gh'.vsF = gh.vsF) (incl : Bool) (path choices : List Nat) (lv : List (Nat × Nat))
    (h : FrameAuxG n nb rf r gh s us incl path choices lv) : FrameAuxG n nb rf r gh' s us incl path choices lv :=
  FrameAuxG.mono (fun h0 => h0) (fun _ hγ => hγ) g incl path choices lv (fun _ _ => rfl) h

theorem FrameAuxG.mono_gens {n : Nat} {nb : Nbrs} {rf : Nat} {r : IR.St} {gh : Gh} {s s' : LS} {us : List Nat}
    (hc : 0 < s'.count → 0 < s.count) (hS : ∀ γ, RecGen s γ → RecGen s' γ)
    (incl : Bool) (path choices : List Nat) (lv : List (Nat × Nat))
    (h : FrameAuxG n nb rf r gh s us incl path choices lv) : FrameAuxG n nb rf r gh s' us incl path choices lv :=
  FrameAuxG.mono hc hS rfl incl path choices lv (fun _ _ => rfl) h

theorem FrameAuxG.tail {n : Nat} {nb : Nbrs} {rf : Nat} {r : IR.St} {gh : Gh} {s : LS} {us : List Nat} {incl : Bool}
    {p c : Nat} {ps cs : List Nat} {x : Nat × Nat} {ls : List (Nat × Nat)}
    (h : FrameAuxG n nb rf r gh s us incl (p :: ps) (c :: cs) (x :: ls)) :
    FrameAuxG n nb rf r gh s us false ps cs ls :=
  h.2

theorem FrameAuxG.head {n : Nat} {nb : Nbrs} {rf : Nat} {r : IR.St} {gh : Gh} {s : LS} {us : List Nat} {incl : Bool}
    {p c : Nat} {ps cs : List Nat} {st sz : Nat} {ls : List (Nat × Nat)}
    (h : FrameAuxG n nb rf r gh s us incl (p :: ps) (c :: cs) ((st, sz) :: ls)) :
    FrameAuxG1 n nb rf r gh s us incl ps c st sz :=
  h.1

theorem FrameAuxG.mk {n : Nat} {nb : Nbrs} {rf : Nat} {r : IR.St} {gh : Gh} {s : LS} {us : List Nat} {incl : Bool}
    {p c : Nat} {ps cs : List Nat} {st sz : Nat} {ls : List (Nat × Nat)}
    (h1 : FrameAuxG1 n nb rf r gh s us incl ps c st sz) (h2 : FrameAuxG n nb rf r gh s us false ps cs ls) :
    FrameAuxG n nb rf r gh s us incl (p :: ps) (c :: cs) ((st, sz) :: ls) :=
  ⟨h1, h2⟩

theorem FrameAuxG.drop {n : Nat} {nb : Nbrs} {rf : Nat} {r : IR.St} {gh : Gh} {s : LS} {us : List Nat}
    {path choices : List Nat} {lv : List (Nat × Nat)} (h : FrameAuxG n nb rf r gh s us false path choices lv) (j : Nat) :
    FrameAuxG n nb rf r gh s us false (path.drop j) (choices.drop j) (lv.drop j) := by
  rw [frameAuxG_iff] at h ⊢
  exact h.drop j

theorem FrameAuxG.finish_top {n : Nat} {nb : Nbrs} {rf : Nat} {r : IR.St} {gh : Gh} {s : LS} {op : OP} {us : List Nat}
    {path choices : List Nat} {lv : List (Nat × Nat)} (hp : IR.IsPath (irG n nb) rf r us)
    (hl : LevelsOK op path choices lv) (hf : FramesOK n nb rf r us path choices lv) (hlen : path.length ≤ us.length)
    (h : FrameAuxG n nb rf r gh s us false path choices lv)
    (hgen : 0 < s.count → us.take path.length = gh.vsF.take path.length → AutGen n nb r gh s path.length) :
    FrameAuxG n nb rf r gh s us true path choices lv := by
  obtain ⟨rfl, rfl, rfl⟩ | ⟨p, ps, c, cs, st, sz, ls, rfl, rfl, rfl, _, _⟩ := ((frameAuxG_iff _ _ _ _).1 h).cases
  · exact h
  · refine FrameAuxG.mk (h.head.finish_child' (fun h0 w hw hpre hx => hgen h0 ?_)) h.tail
    rw [List.length_cons, List.take_add_one, List.take_add_one, hpre, (top_child_node hp hl hf hlen hw).1, hx]

theorem FrameAuxG.path_eq {n : Nat} {nb : Nbrs} {rf : Nat} {r : IR.St} {gh : Gh} {s : LS} {us : List Nat} {incl : Bool}
    {path path' choices : List Nat} {lv : List (Nat × Nat)} (e : path' = path)
    (h : FrameAuxG n nb rf r gh s us incl path choices lv) : FrameAuxG n nb rf r gh s us incl path' choices lv := by
  subst e; exact h

end CanonF
