import Mamba.Lemmas.CanonFDfsLoop
import Mamba.Lemmas.CanonFDfsLeaf
import Mamba.Lemmas.CanonFAllocJ
import Mamba.Lemmas.CanonFTreeFinal
import Mamba.Lemmas.CanonFInduced
/-!
# The pruned search returns the canonical certificate (faithful model `Model/CanonF.lean` = IR model `Model/IR.lean`)

Assembly of the complete DFS invariant (`CanonFDfs.lean`) as a `MainJX` instance on top of the certificate invariants
(`dfsMainJX` over `certMainJ`), its initial state, the step from coverage of the root to the canonical certificate of the
IR model (`canon_eq_of_complete`), the invariants of the root (`root_inv`), and `LeafRec.mem_allLeaves` (a recorded leaf is a
leaf of the unpruned tree). The run itself and the theorems about the result are in `CanonFSemantic.lean`.
-/
namespace CanonF

section
variable {n m : Nat} {nb : Nbrs} {rf : Nat} {r : IR.St}

theorem dnv_toA {gh : Gh} {lv : List (Nat × Nat)} {s : LS} (h : DNv n nb rf r gh lv s) : DAv n nb rf r gh lv s := by
  obtain ⟨hw, hG, hcov, haux⟩ := h
  refine ⟨hw.toA, hG, hcov, haux, fun hp => ?_⟩
  have := hw.len
  rw [hp] at this
  simp at this

theorem dav_deage {gh : Gh} (lv : List (Nat × Nat)) (s : LS) (op' : OP) (k : Nat) (hc : Core n s)
    (ht : TopOK s.op k s.path s.choices lv) (hage : s.op.age = s.path.length) (h : DAv n nb rf r gh lv s)
    (hd : deage s.op = .ok op') : DNv n nb rf r gh lv { s with op := op' } := by
  obtain ⟨hw, hG, hcov, haux, -⟩ := h
  refine ⟨walk_deage lv s op' k hc ht hage hw hd, ?_, ?_, ?_⟩
  · exact skip_globalInv_congr (s := s) (s' := { s with op := op' }) hG rfl rfl rfl rfl rfl rfl rfl rfl rfl rfl
  · exact CovFrames.congr (s := s) (s' := { s with op := op' }) rfl (fun _ => rfl) rfl true _ _ _ (fun _ _ => rfl) hcov
  · exact FrameAux.congr (s := s) (s' := { s with op := op' }) rfl rfl rfl rfl true _ _ _ (fun _ _ => rfl) haux

theorem dnv_noskip {gh : Gh} (lv : List (Nat × Nat)) (s : LS) (h : DNv n nb rf r gh lv s) :
    DNv n nb rf r gh lv { s with skipDeage := false } := by
  obtain ⟨hw, hG, hcov, haux⟩ := h
  refine ⟨hw, ?_, ?_, ?_⟩
  · exact skip_globalInv_congr (s := s) (s' := { s with skipDeage := false }) hG rfl rfl rfl rfl rfl rfl rfl rfl rfl rfl
  · exact CovFrames.congr (s := s) (s' := { s with skipDeage := false }) rfl (fun _ => rfl) rfl true _ _ _
      (fun _ _ => rfl) hcov
  · exact FrameAux.congr (s := s) (s' := { s with skipDeage := false }) rfl rfl rfl rfl true _ _ _ (fun _ _ => rfl) haux

end

section
variable {n m : Nat} {nb : Nbrs} {rf : Nat} {r : IR.St}
  (hnb : NbOK nb n) (hsz : nb.size = n) (hm : m = ((nb.toList.map List.length).sum) / 2) (hrf : 3 * n + 3 ≤ rf)
  (hA : IR.InvA (irG n nb) r) (hD : IR.InvD (irG n nb) r)
  (hlenm : ∀ o : List Nat, o.Perm (List.range n) → (certPos nb o n).length = m)

include hnb hA hD hlenm in
/-- the node step of the main loop (leaf / inner node / nothing after a worse refinement) -/
theorem dfs_node (lv : List (Nat × Nat)) (worse : Bool) (s s1 : LS) (lv1 : List (Nat × Nat)) (hI : MInv n m nb s)
    (hlv : LevelsOK s.op s.path s.choices lv) (hJ : CertM n m nb lv worse s) (hX : DM n nb rf r lv worse s)
    (hs1 : (if (!worse && s.op.binDividers.len == n) = true then leafNode n m s
      else if (!worse) = true then innerNode s else Outcome.ok s) = .ok s1)
    (hl1 : LevelsOK s1.op s1.path s1.choices lv1) (hJ1 : CertA n m nb lv1 s1) :
    DA n nb rf r lv1 s1 ∧ (s1.skipDeage = true → DN n nb rf r lv1 s1) := by
  by_cases hleaf : (!worse && s.op.binDividers.len == n) = true
  · rw [if_pos hleaf] at hs1
    simp only [Bool.and_eq_true, Bool.not_eq_true', beq_iff_eq] at hleaf
    obtain ⟨hwf, hleaf⟩ := hleaf
    subst hwf
    obtain ⟨gh, hX⟩ : ∃ gh, DNodev n nb rf r gh lv s := hX
    obtain ⟨-, -, -, -, hsk, -⟩ := leafNode_spec hI.core hlv hI.age hs1
    have L := leaf_at hnb hA hD hlenm hI hleaf hJ hX
    obtain ⟨gh', lv1', hstep⟩ := leaf_step hnb hA hD hI hlv L hJ hX hs1
    obtain rfl := LevelsOK_unique _ _ _ _ hl1 (hstep.levelsOK hlv)
    exact ⟨⟨gh', dfs_leaf hnb hA hD hlenm hI hlv hleaf hJ hX L hs1 hstep⟩, fun hc => by rw [hsk, hI.skip] at hc; cases hc⟩
  · rw [if_neg hleaf] at hs1
    by_cases hnw : (!worse) = true
    · rw [if_pos hnw] at hs1
      have hwf : worse = false := by simpa using hnw
      subst hwf
      have hnl : s.op.binDividers.len ≠ n := by
        intro e; apply hleaf; simp [e]
      obtain ⟨gh, hX'⟩ : ∃ gh, DNodev n nb rf r gh lv s := hX
      obtain ⟨st, sz, I⟩ := inner_at hI hlv hnl hX' hs1
      obtain rfl := LevelsOK_unique _ _ _ _ hl1 I.lvl
      have hdn := dfs_inner_v hX' I
      exact ⟨⟨gh, dnv_toA hdn⟩, fun _ => ⟨gh, hdn⟩⟩
    · rw [if_neg hnw] at hs1
      cases hs1
      have hwt : worse = true := by simpa using hnw
      subst hwt
      have hX' : DA n nb rf r lv s := hX
      have := LevelsOK_unique _ _ _ _ hlv hl1
      subst this
      exact ⟨hX', fun hc => by rw [hI.skip] at hc; cases hc⟩

include hnb hsz hm hrf hA hD hlenm in
theorem dfsMainJX :
    MainJX n m nb (CertA n m nb) (CertN n m nb) (CertN n m nb) (CertM n m nb)
      (DA n nb rf r) (DN n nb rf r) (DS n nb rf r) (DM n nb rf r) where
  na := fun lv s _ ⟨gh, h⟩ => ⟨gh, dnv_toA h⟩
  deage := fun lv s op' k hc ht _ hage _ ⟨gh, h⟩ hd => ⟨gh, dav_deage lv s op' k hc ht hage h hd⟩
  noskip := fun lv s _ _ ⟨gh, h⟩ => ⟨gh, dnv_noskip lv s h⟩
  skipA := fun st sz ls s c cs p ps ce x k hc ht hsk hage hch hpth hget hon hx hx0 hJ ⟨gh, h⟩ =>
    ⟨gh, dfs_skipA_v gh st sz ls s c cs p ps ce x k hc ht hage hch hpth hget hon hx hx0 h⟩
  skipB := fun st sz ls s c cs p ps ce bo k hc ht hsk hage hch hpth hget hon hh hJ ⟨gh, h⟩ =>
    ⟨gh, dfs_skipB_v hnb gh st sz ls s c cs p ps ce bo k hc ht hage hch hpth hget hon hh h⟩
  split := fun st sz ls s c cs p ps ce bo w op' k hc ht hsk hage hch hpth hget hh _ _ hs hJ ⟨gh, h⟩ => by
    obtain ⟨q1, q2⟩ := dfs_split_v hnb hsz hm hrf hA hD st sz ls s c cs p ps ce bo w op' k hc ht hage hch hpth hget
      hh hs hJ gh h
    refine ⟨fun hw _ => ?_, fun hw _ => ⟨gh, q2 hw⟩⟩
    obtain ⟨t, v, q⟩ := q1 hw
    exact ⟨gh, t, v, q⟩
  pop := fun st sz ls s hc ht hsk hage hJ ⟨gh, h⟩ => ⟨_, dfs_pop_v hnb st sz ls s ht hJ gh h⟩
  node := fun lv worse s s1 lv1 hI _ hlv hJ hX hs1 hl1 hJ1 _ =>
    dfs_node hnb hA hD hlenm lv worse s s1 lv1 hI hlv hJ hX hs1 hl1 hJ1
  refine := fun lv s w op' sc' hc hl hage hsk htl hJ ⟨gh, t, v, h⟩ hr _ => by
    obtain ⟨a, b⟩ := dfs_refine_v hnb hsz hm hrf hA hD lv s w op' sc' _ hc hl htl hJ gh t v h hr
    cases w with
    | false => exact ⟨_, b rfl⟩
    | true => exact ⟨gh, a rfl⟩

end

theorem dfs_init_v {n m : Nat} {nb : Nbrs} {rf : Nat} (hnb : NbOK nb n) (hrf : 3 * n + 3 ≤ rf) {opts : Options}
    {op0 : OP} {s0 : LS} {si : IR.St} (hp : PartInv n op0) (ha : AgeInv op0) (hm0 : Match n op0 si) (hb0 : BtcInv op0)
    (hbs : BinsSorted op0) (hage0 : op0.age = 0) (hi : InitSt n m nb opts op0 s0) :
    CertM n m nb [] false s0 ∧ DNodev n nb rf (IR.refine (irG n nb) rf si) ⟨[], [], [], [], []⟩ [] s0 := by
  obtain ⟨hI, hC, hcnt, hng, hpth, hch, hbl, hfl, sc, op1, sc1, w2, hsc, htl, href, hexp⟩ := hi
  refine ⟨⟨hC.g, hC.va, hC.vn, ⟨hI.phase1, hI.found⟩⟩, ?_⟩
  obtain ⟨r1, r2, r3, -⟩ := refine_inv stablePerm hp ha hsc href
  obtain ⟨hm', hbt'⟩ := refineMatch hp ha hsc htl hb0 hnb hm0 href rf hrf
  obtain ⟨f1, f2, f3, f4, f5, f6⟩ := expandValue_frame hexp
  have hlv1 : LvOK n op1 0 (IR.refine (irG n nb) rf si) := LvOK.ofMatch hm' r1 r2 (by omega) hbt'
  have hlv2 : LvOK n s0.op 0 (IR.refine (irG n nb) rf si) := hlv1.frame f1 f2 f3
  have hbs2 : BinsSorted s0.op := (refine_binsSorted stablePerm hp ha hsc hbs href).of_frame f1 f2
  have hpos : ¬ 0 < s0.count := by omega
  have hage2 : s0.op.age = 0 := by rw [f5, r3, hage0]
  refine ⟨?_, ?_, ?_, ?_, ?_⟩
  · refine ⟨trivial, by rw [hage2]; rfl, by rw [hpth], ?_, by rw [hpth, hch]; trivial, hbs2, by rw [f4]; exact hbt'⟩
    intro L hL
    have : L = 0 := by simpa using hL
    subst this
    simpa [nodeL, IR.nodeAt] using hlv2
  · exact ⟨fun h => absurd h hpos, fun h => absurd h hpos, fun γ hγ => by simp at hγ, fun _ => hng,
      fun h => absurd h hpos, hbl, hfl⟩
  · rw [hpth, hch]; trivial
  · rw [hpth, hch]; trivial
  · exact fun h => absurd h hpos

theorem dfs_init {n m : Nat} {nb : Nbrs} {rf : Nat} (hnb : NbOK nb n) (hrf : 3 * n + 3 ≤ rf) {opts : Options}
    {op0 : OP} {s0 : LS} {si : IR.St} (hp : PartInv n op0) (ha : AgeInv op0) (hm0 : Match n op0 si) (hb0 : BtcInv op0)
    (hbs : BinsSorted op0) (hage0 : op0.age = 0) (hi : InitSt n m nb opts op0 s0) :
    CertM n m nb [] false s0 ∧ DM n nb rf (IR.refine (irG n nb) rf si) [] false s0 :=
  ⟨(dfs_init_v hnb hrf hp ha hm0 hb0 hbs hage0 hi).1, _, (dfs_init_v hnb hrf hp ha hm0 hb0 hbs hage0 hi).2⟩

open GraphSpec in
theorem canon_eq_of_complete {g : G} (hg : g.WF) {s0 : IR.St} (hw : s0.work ≠ []) {p : List Nat}
    (hp : p.Perm (List.range g.n))
    (hleaf : IR.tab g.n (fun v => p.idxOf v) ∈ IR.allLeaves (IR.ofSpec g) s0)
    (hcomp : Complete g.n (nbrsOf g) (IR.rfuel (IR.ofSpec g)) (certPos (nbrsOf g) p g.n)
      (IR.refine (IR.ofSpec g) (IR.rfuel (IR.ofSpec g)) s0)) :
    certPos (nbrsOf g) p g.n = IR.canonCertFrom (IR.ofSpec g) s0 := by
  obtain ⟨hnbok, -⟩ := nbOK_nbrsOf g hg
  have hc : IR.cert (IR.ofSpec g) (IR.tab g.n (fun v => p.idxOf v)) = certPos (nbrsOf g) p g.n :=
    cert_link hnbok hp
  apply le_antisymm
  · rw [← hc]
    unfold IR.canonCertFrom
    exact le_maxCert (List.mem_map.2 ⟨_, hleaf, rfl⟩)
  · obtain ⟨l, hl, e⟩ := IR.canonCertFrom_is_leaf (IR.ofSpec g) s0
    rw [e]
    have hb := IR.certBelow_of_mem_allLeaves (IR.ofSpec_wf hg) hw hl
    exact (compare_ne_one_iff_le _ _).1 (hcomp _ hb)

theorem root_inv {n : Nat} (nb : Nbrs) {op : OP} (hp : PartInv n op) :
    (IR.initSt (irG n nb) op.binDividers.len (cellOf op)).work ≠ [] ∧
    IR.InvA (irG n nb) (IR.refine (irG n nb) (n * n + 10) (IR.initSt (irG n nb) op.binDividers.len (cellOf op))) ∧
    IR.InvD (irG n nb) (IR.refine (irG n nb) (n * n + 10) (IR.initSt (irG n nb) op.binDividers.len (cellOf op))) := by
  have hw : (IR.initSt (irG n nb) op.binDividers.len (cellOf op)).work ≠ [] := by
    show List.range op.binDividers.len ≠ []
    have := hp.bdLen_pos
    intro e
    have := congrArg List.length e
    simp at this
    omega
  exact ⟨hw, IR.refine_inv' (by omega) hw⟩

open GraphSpec in
theorem LeafRec.mem_allLeaves {g : G} (hg : g.WF) {s0 : IR.St} (hw : s0.work ≠ []) {vsX o cert : List Nat} {pinv : Sl Nat}
    {P : List Nat}
    (h : LeafRec g.n (nbrsOf g) (g.n * g.n + 10) (IR.refine (irG g.n (nbrsOf g)) (g.n * g.n + 10) s0) vsX o cert pinv P) :
    IR.tab g.n (fun v => o.idxOf v) ∈ IR.allLeaves (IR.ofSpec g) s0 :=
  (IR.mem_allLeaves_iff (IR.ofSpec_wf hg) hw).2 ⟨vsX, h.path, h.leaf, h.col⟩

end CanonF
