import Mamba.Lemmas.DsaturState
/-! DSATUR model: the forward step preserves the state invariant. -/
namespace CliqueColour
open GraphSpec

/-- the range `0 .. min(upperBound-2, maxColourUsed+1)` of candidate colours -/
theorem lt_maxOption_iff (j : Nat) (a b : Int) :
    j < ((if a < b - 2 then a else b - 2) + 1).toNat ↔ (j : Int) ≤ a ∧ (j : Int) + 2 ≤ b := by
  split <;> omega

theorem mem_dsOptions {s : Dsat} {v j : Nat} :
    j ∈ dsOptions s v ↔ ((j : Int) ≤ s.maxUsed + 1 ∧ (j : Int) + 2 ≤ s.upper ∧ seenAt s v j = 0) := by
  unfold dsOptions seenAt
  simp only [List.mem_filter, List.mem_range, beq_iff_eq, lt_maxOption_iff, and_assoc]

theorem dsOptions_sorted (s : Dsat) (v : Nat) : (dsOptions s v).Pairwise (· < ·) := by
  unfold dsOptions
  exact List.Pairwise.sublist List.filter_sublist List.pairwise_lt_range

theorem colOf_set (s : Dsat) (v : Nat) (x : Int) (hv : v < s.colouring.length) (w : Nat) :
    (s.colouring.set v x).getD w 0 = if w = v then x else colOf s w := by
  rw [getD_set]
  by_cases h : w = v
  · subst h; rw [if_pos ⟨rfl, hv⟩, if_pos rfl]
  · rw [if_neg (fun e => h e.1.symm), if_neg h]; rfl

theorem dsForward_facts (g : G) {U0 : Nat} {s : Dsat} (h : DSInv g U0 s) {v : Nat} {t : List Nat}
    (hheap : s.heap = v :: t) {tc : Nat} (opts : List Nat) (htc : tc + 2 ≤ U0) :
    ∃ s3, dsForward g { s with heap := heapRemove0 s.num s.deg s.heap } v opts tc = s3 ∧
      s3.heap.Perm t ∧ HeapOK s3.num s3.deg s3.heap ∧
      s3.chosen = s.chosen ++ [v] ∧ s3.cur = s.cur ++ [0] ∧ s3.choices = s.choices ++ [opts] ∧
      s3.colouring = s.colouring.set v (tc : Int) ∧
      s3.maxUsed = (if (tc : Int) > s.maxUsed then (tc : Int) else s.maxUsed) ∧
      s3.upper = s.upper ∧ s3.best = s.best ∧ s3.seen.length = s.seen.length ∧
      (∀ u, (s3.seen.getD u []).length = (s.seen.getD u []).length) ∧
      ∀ u c', seenAt s3 u c' = seenAt s u c' + (if u ∈ t ∧ g.adj u v = true ∧ c' = tc then 1 else 0) := by
  have hok0 : HeapOK s.num s.deg (v :: t) := by rw [← hheap]; exact h.hok
  obtain ⟨hrp, hrok⟩ := heapRemove0_spec s.num s.deg v t hok0
  have hnd0 : (v :: t).Nodup := by rw [← hheap]; exact h.hnd
  have htmem : ∀ u ∈ t, u < g.n := fun u hu => ((h.hmem u).1 (by rw [hheap]; exact List.mem_cons_of_mem _ hu)).1
  obtain ⟨hp, hok3, hfr, hseen⟩ := fwdLoop_spec g v tc
    ({ s with heap := heapRemove0 s.num s.deg s.heap, choices := s.choices ++ [opts], cur := s.cur ++ [0],
              chosen := s.chosen ++ [v], colouring := s.colouring.set v (tc : Int),
              maxUsed := if (tc : Int) > s.maxUsed then (tc : Int) else s.maxUsed } : Dsat)
    (by
      show (heapRemove0 s.num s.deg s.heap).Nodup
      rw [hheap]; exact hrp.nodup_iff.2 (List.nodup_cons.1 hnd0).2)
    (by
      show HeapOK s.num s.deg (heapRemove0 s.num s.deg s.heap)
      rw [hheap]; exact hrok)
    (by
      intro u hu
      have hu' : u ∈ t := by
        have : u ∈ heapRemove0 s.num s.deg s.heap := hu
        rw [hheap] at this
        exact hrp.subset this
      have hun := htmem u hu'
      show u < s.seen.length ∧ tc < (s.seen.getD u []).length
      rw [h.lseen, h.lrow u hun]
      exact ⟨hun, by omega⟩)
  refine ⟨_, rfl, ?_, hok3, hfr.chosen, hfr.cur, hfr.choices, hfr.colouring, hfr.maxUsed, hfr.upper, hfr.best,
    hfr.seenLen, hfr.rowLen, fun u c' => ?_⟩
  · refine hp.trans ?_
    show (heapRemove0 s.num s.deg s.heap).Perm t
    rw [hheap]; exact hrp
  · have := hseen u c'
    have hmem : (u ∈ heapRemove0 s.num s.deg s.heap) ↔ u ∈ t := by
      rw [hheap]; exact hrp.mem_iff
    simp only [dsForward]
    rw [this]
    exact congrArg (seenAt s u c' + ·) (if_congr (and_congr_left' hmem) rfl rfl)

theorem dsForward_inv {g : G} {U0 : Nat} {s : Dsat} (h : DSInv g U0 s) {v : Nat} {t : List Nat}
    (hheap : s.heap = v :: t) {tc : Nat} {rest : List Nat} (hopt : dsOptions s v = tc :: rest) {r : Dsat}
    (hr : dsForward g { s with heap := heapRemove0 s.num s.deg s.heap } v (tc :: rest) tc = r) :
    DSInv g U0 r ∧ Move s.chosen.length s r ∧ r.chosen.getD s.chosen.length 0 = v ∧
      r.cur.getD s.chosen.length 0 = 0 ∧ r.choices.getD s.chosen.length [] = tc :: rest := by
  have htcmem : tc ∈ dsOptions s v := by rw [hopt]; exact List.mem_cons_self
  obtain ⟨htc1, htc2, htc3⟩ := mem_dsOptions.1 htcmem
  have hup := h.uple
  have htcU : tc + 2 ≤ U0 := by omega
  obtain ⟨s3, hs3, hperm, hok3, hch, hcur, hcho, hcolr, hmax, hupp, hbest, hsl, hrl, hseen⟩ :=
    dsForward_facts g h hheap (tc :: rest) htcU
  rw [hr] at hs3
  subst hs3
  have hvheap : v ∈ s.heap := by rw [hheap]; exact List.mem_cons_self
  obtain ⟨hvn, hvch⟩ := (h.hmem v).1 hvheap
  have hnd0 : (v :: t).Nodup := by rw [← hheap]; exact h.hnd
  have hvt : v ∉ t := (List.nodup_cons.1 hnd0).1
  have hcol : ∀ w, colOf r w = if w = v then (tc : Int) else colOf s w := by
    intro w
    unfold colOf
    rw [hcolr]
    exact colOf_set s v tc (by rw [h.lcol]; exact hvn) w
  have hcolch : ∀ w ∈ s.chosen, colOf r w = colOf s w := by
    intro w hw
    have hne : w ≠ v := fun e => hvch (by rw [← e]; exact hw)
    rw [hcol w, if_neg hne]
  have hcolv : colOf r v = (tc : Int) := by rw [hcol v, if_pos rfl]
  have hseen_nt : ∀ u, u ∉ t → ∀ c, seenAt r u c = seenAt s u c := by
    intro u hu c
    rw [hseen u c, if_neg (fun hh => hu hh.1), Int.add_zero]
  have hch_nt : ∀ w ∈ s.chosen, w ∉ t := by
    intro w hw hwt
    have : w ∈ s.heap := by rw [hheap]; exact List.mem_cons_of_mem _ hwt
    exact ((h.hmem w).1 this).2 hw
  have hmaxall : maxCol (colOf r) r.chosen = max (maxCol (colOf s) s.chosen) (tc : Int) := by
    rw [hch, maxCol_snoc, hcolv, maxCol_congr (fun w hw => hcolch w hw)]
  have hlast_ch : r.chosen.getD s.chosen.length 0 = v := by rw [hch, List.getD_snoc_length]
  have hlast_cur : r.cur.getD s.chosen.length 0 = 0 := by rw [hcur, ← h.lcur, List.getD_snoc_length]
  have hlast_cho : r.choices.getD s.chosen.length [] = tc :: rest := by rw [hcho, ← h.lcho, List.getD_snoc_length]
  have hpre : PathEq s.chosen.length s r :=
    ⟨by rw [hch, List.take_append_of_le_length (Nat.le_refl _)],
      fun j hj => by rw [hcur, List.getD_snoc_lt (by rw [h.lcur]; exact hj)],
      fun j hj => by rw [hcho, List.getD_snoc_lt (by rw [h.lcho]; exact hj)],
      fun w hw => hcolch w (List.mem_of_mem_take hw)⟩
  refine ⟨?_, ⟨hpre, Nat.le_refl _, by rw [hch, List.length_append]; rfl, hupp⟩, hlast_ch, hlast_cur, hlast_cho⟩
  exact
    { npos := h.npos
      lcol := by rw [hcolr, List.length_set]; exact h.lcol
      lseen := by rw [hsl]; exact h.lseen
      lrow := fun w hw => by rw [hrl]; exact h.lrow w hw
      chn := by
        rw [hch]
        exact List.nodup_append.2 ⟨h.chn, List.nodup_singleton v, fun a ha b hb hab => by
          rw [List.mem_singleton.1 hb] at hab
          exact hvch (hab ▸ ha)⟩
      chlt := by
        intro w hw
        rw [hch] at hw
        rcases List.mem_append.1 hw with h1 | h1
        · exact h.chlt w h1
        · rw [List.mem_singleton.1 h1]; exact hvn
      lcur := by rw [hcur, hch, List.length_append, List.length_append, h.lcur]; rfl
      lcho := by rw [hcho, hch, List.length_append, List.length_append, h.lcho]; rfl
      hnd := hperm.nodup_iff.2 (List.nodup_cons.1 hnd0).2
      hmem := by
        intro w
        rw [hperm.mem_iff, hch]
        constructor
        · intro hwt
          have hwh : w ∈ s.heap := by rw [hheap]; exact List.mem_cons_of_mem _ hwt
          obtain ⟨h1, h2⟩ := (h.hmem w).1 hwh
          refine ⟨h1, fun hm => ?_⟩
          rcases List.mem_append.1 hm with h3 | h3
          · exact h2 h3
          · rw [List.mem_singleton.1 h3] at hwt; exact hvt hwt
        · rintro ⟨h1, h2⟩
          have hwh : w ∈ s.heap := (h.hmem w).2 ⟨h1, fun hm => h2 (List.mem_append_left _ hm)⟩
          rw [hheap] at hwh
          rcases List.mem_cons.1 hwh with h3 | h3
          · exact absurd (List.mem_append_right _ (List.mem_singleton.2 h3)) h2
          · exact h3
      colun := by
        intro w hw hwn
        rw [hch] at hwn
        have h1 : w ≠ v := fun e => hwn (List.mem_append_right _ (List.mem_singleton.2 e))
        rw [hcol w, if_neg h1]
        exact h.colun w hw (fun hm => hwn (List.mem_append_left _ hm))
      pos := by
        intro i hi
        rw [hch, List.length_append] at hi
        rcases Nat.lt_succ_iff_lt_or_eq.1 hi with hid | rfl
        · exact (h.pos i hid).transfer hid (hpre.mono hid) (hseen_nt _ (hch_nt _ (getD_mem hid)))
        · rw [← hopt] at hlast_cho
          have htake : r.chosen.take s.chosen.length = s.chosen := by rw [hpre.chosen, List.take_length]
          have hmaxpre : maxCol (colOf r) s.chosen = s.maxUsed := by
            rw [h.mused]; exact maxCol_congr hcolch
          exact
            { cur := by rw [hlast_cur, hlast_cho, hopt]; exact Nat.succ_pos _
              col := by rw [hlast_ch, hlast_cur, hlast_cho, hopt, hcolv]; rfl
              seenC := fun c hc => by
                rw [hlast_ch, htake, hseen_nt v hvt, cntCol_congr hcolch]
                exact h.seenH v hvheap c hc
              optS := by rw [hlast_cho]; exact dsOptions_sorted s v
              optF := fun c hc => by
                rw [hlast_cho] at hc
                obtain ⟨c1, c2, c3⟩ := mem_dsOptions.1 hc
                rw [hlast_ch, htake, hmaxpre, hseen_nt v hvt]
                exact ⟨c1, by have := h.uple; omega, c3⟩ }
      hok := hok3
      seenH := by
        intro u hu c hc
        have hut : u ∈ t := hperm.subset hu
        have huh : u ∈ s.heap := by rw [hheap]; exact List.mem_cons_of_mem _ hut
        rw [hseen u c, h.seenH u huh c hc, hch, cntCol_snoc_nat g _ hcolv, cntCol_congr (fun w hw => hcolch w hw) u c]
        simp only [hut, true_and]
      mused := by
        rw [hmax, hmaxall, h.mused]
        split <;> omega
      uple := by rw [hupp]; exact h.uple
      up1 := by rw [hupp]; exact h.up1
      best := by rw [hbest, hupp]; exact h.best }

end CliqueColour
