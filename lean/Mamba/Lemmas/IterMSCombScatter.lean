import Mamba.Lemmas.IterGeneric
import Mamba.Lemmas.IterMSCombAlgQ
/-!
# `MultisetCombinations`: the exported `Next()` (`posTypes`, `scatterL`) and the theorem for all `m ≥ 0`, `k ≥ 0`

`Next()` runs Algorithm Q (the unexported `next()`) on the types with a positive multiplicity (`posTypes m`) and
scatters the counts back to their positions in `m` (`scatterL`); `next()` alone, given a zero multiplicity in front of
a positive one, misses members or panics. The results of `IterMSCombInv` / `IterMSCombAlgQ` apply to the inner run (all
multiplicities are `≥ 1` there), this file adds the scattering and assembles the theorem for ALL `m ≥ 0`, `k ≥ 0`
(`MSComb.enumerates_msList`, `msList_eq_msColexList`).
-/

namespace Iter.Spec

def posTypes (m : List Int) : List Int := m.filter (fun v => v > 0)

/-- put the counts `c` of the positive types back at their positions in `m`; the other entries are 0 -/
def scatterL : List Int → List Int → List Int
  | [], _ => []
  | v :: ms, c => if v > 0 then c.headD 0 :: scatterL ms c.tail else 0 :: scatterL ms c

end Iter.Spec

namespace Iter
open Spec

theorem scatterL_length : ∀ (m c : List Int), (scatterL m c).length = m.length := by
  intro m
  induction m with
  | nil => intro c; rfl
  | cons v ms ih => intro c; simp only [scatterL]; split <;> simp [ih]

def ZeroAt (m f : List Int) : Prop := List.Forall₂ (fun v x => v > 0 ∨ x = 0) m f

theorem zeroAt_scatterL : ∀ (m c : List Int), ZeroAt m (scatterL m c) := by
  intro m
  induction m with
  | nil => intro c; exact List.Forall₂.nil
  | cons v ms ih =>
    intro c
    simp only [scatterL]
    split
    · next h => exact List.Forall₂.cons (Or.inl h) (ih _)
    · exact List.Forall₂.cons (Or.inr rfl) (ih _)

theorem zeroAt_replicate (m : List Int) : ZeroAt m (List.replicate m.length 0) := by
  induction m with
  | nil => exact List.Forall₂.nil
  | cons v ms ih => exact List.Forall₂.cons (Or.inr rfl) ih

theorem posTypes_cons_pos (v : Int) (ms : List Int) (h : v > 0) : posTypes (v :: ms) = v :: posTypes ms := by
  simp [posTypes, h]

theorem posTypes_cons_nonpos (v : Int) (ms : List Int) (h : ¬ v > 0) : posTypes (v :: ms) = posTypes ms := by
  simp [posTypes, h]

theorem scatter_spec (st : Sl) : ∀ (rest : List Int) (i : Nat) (fpre fsuf : Sl),
    (st.drop i).length = (posTypes rest).length → ZeroAt rest fsuf →
    MSComb.scatter st rest (i : Int) (fpre.length : Int) (fpre ++ fsuf) = .ok (fpre ++ scatterL rest (st.drop i)) := by
  intro rest
  induction rest with
  | nil =>
    intro i fpre fsuf _ hz
    cases hz
    simp [MSComb.scatter, scatterL]
  | cons v rest ih =>
    intro i fpre fsuf hl hz
    cases hz with
    | @cons _ f _ fs hvf hz' =>
      unfold MSComb.scatter
      by_cases hv : v > 0
      · simp only [hv, if_true]
        rw [posTypes_cons_pos v rest hv] at hl
        have hi : i < st.length := by
          simp only [List.length_drop, List.length_cons] at hl; omega
        have hg : get st (i : Int) = .ok st[i] := by rw [get_natCast]; simp [hi]
        rw [hg]
        simp only [Outcome.bind_ok]
        rw [set_append_length]
        simp only [Outcome.bind_ok]
        have hc1 : ((i : Int) + 1) = ((i + 1 : Nat) : Int) := by push_cast; rfl
        have hc2 : ((fpre.length : Int) + 1) = (((fpre ++ [st[i]]).length : Nat) : Int) := by simp
        have e : fpre ++ st[i] :: fs = (fpre ++ [st[i]]) ++ fs := by simp
        rw [hc1, hc2, e, ih (i + 1) (fpre ++ [st[i]]) fs (by
          simp only [List.length_drop, List.length_cons] at hl ⊢; omega) hz']
        have hd : st.drop i = st[i] :: st.drop (i + 1) := (List.drop_eq_getElem_cons hi)
        rw [hd]
        simp [scatterL, hv, List.getElem?_eq_getElem hi]
      · simp only [hv, if_false]
        rw [posTypes_cons_nonpos v rest hv] at hl
        have hf : f = 0 := by
          rcases hvf with h | h
          · exact absurd h hv
          · exact h
        subst hf
        have hc2 : ((fpre.length : Int) + 1) = (((fpre ++ [0]).length : Nat) : Int) := by simp
        have e : fpre ++ (0 : Int) :: fs = (fpre ++ [0]) ++ fs := by simp
        rw [hc2, e, ih i (fpre ++ [0]) fs hl hz']
        simp [scatterL, hv]

theorem InFam_scatterL : ∀ (m : List Int) (k : Int) (c : List Int), (∀ v ∈ m, 0 ≤ v) →
    InFam (posTypes m) k c → InFam m k (scatterL m c) := by
  intro m
  induction m with
  | nil =>
    intro k c _ h
    obtain ⟨rfl, rfl⟩ := (InFam_nil_iff k c).mp (by simpa [posTypes] using h)
    exact (InFam_nil_iff _ _).mpr ⟨rfl, rfl⟩
  | cons v ms ih =>
    intro k c hm h
    have hms : ∀ w ∈ ms, 0 ≤ w := fun w hw => hm w (by simp [hw])
    by_cases hv : v > 0
    · rw [posTypes_cons_pos v ms hv] at h
      cases c with
      | nil => have := h.1; simp at this
      | cons x cs =>
        obtain ⟨h1, h2, h3⟩ := (InFam_cons_iff v x (posTypes ms) cs k).mp h
        simp only [scatterL, hv, if_true, List.headD_cons, List.tail_cons]
        exact (InFam_cons_iff v x ms _ k).mpr ⟨h1, h2, ih (k - x) cs hms h3⟩
    · rw [posTypes_cons_nonpos v ms hv] at h
      have hv0 : v = 0 := by have := hm v (by simp); omega
      simp only [scatterL, hv, if_false]
      exact (InFam_cons_iff v 0 ms _ k).mpr ⟨Int.le_refl _, by omega, by simpa using ih k c hms h⟩

theorem exists_scatterL : ∀ (m : List Int) (k : Int) (c : List Int), (∀ v ∈ m, 0 ≤ v) → InFam m k c →
    ∃ c', InFam (posTypes m) k c' ∧ scatterL m c' = c := by
  intro m
  induction m with
  | nil =>
    intro k c _ h
    obtain ⟨rfl, rfl⟩ := (InFam_nil_iff k c).mp h
    exact ⟨[], by simpa [posTypes] using h, rfl⟩
  | cons v ms ih =>
    intro k c hm h
    have hms : ∀ w ∈ ms, 0 ≤ w := fun w hw => hm w (by simp [hw])
    cases c with
    | nil => have := h.1; simp at this
    | cons x cs =>
      obtain ⟨h1, h2, h3⟩ := (InFam_cons_iff v x ms cs k).mp h
      obtain ⟨cs', g1, g2⟩ := ih (k - x) cs hms h3
      by_cases hv : v > 0
      · refine ⟨x :: cs', ?_, by simp [scatterL, hv, g2]⟩
        rw [posTypes_cons_pos v ms hv]
        exact (InFam_cons_iff v x _ cs' k).mpr ⟨h1, h2, g1⟩
      · have hx : x = 0 := by omega
        subst hx
        refine ⟨cs', ?_, by simp [scatterL, hv, g2]⟩
        rw [posTypes_cons_nonpos v ms hv]
        simpa using g1

theorem scatterL_injective : ∀ (m a b : List Int), a.length = (posTypes m).length → b.length = (posTypes m).length →
    scatterL m a = scatterL m b → a = b := by
  intro m
  induction m with
  | nil =>
    intro a b ha hb _
    have h1 : a = [] := List.length_eq_zero_iff.mp (by simpa [posTypes] using ha)
    have h2 : b = [] := List.length_eq_zero_iff.mp (by simpa [posTypes] using hb)
    rw [h1, h2]
  | cons v ms ih =>
    intro a b ha hb h
    by_cases hv : v > 0
    · rw [posTypes_cons_pos v ms hv] at ha hb
      cases a with
      | nil => simp at ha
      | cons x as =>
        cases b with
        | nil => simp at hb
        | cons y bs =>
          simp only [scatterL, hv, if_true, List.headD_cons, List.tail_cons, List.cons.injEq] at h
          rw [h.1, ih as bs (by simpa using ha) (by simpa using hb) h.2]
    · rw [posTypes_cons_nonpos v ms hv] at ha hb
      simp only [scatterL, hv, if_false, List.cons.injEq, true_and] at h
      exact ih a b ha hb h

theorem posTypes_pos (m : List Int) : ∀ v ∈ posTypes m, 0 < v := by
  intro v hv
  simp only [posTypes, List.mem_filter, decide_eq_true_eq] at hv
  exact hv.2

theorem msKnownBad_of_pos (l : List Int) (h : ∀ v ∈ l, 0 < v) : msKnownBad l = false := by
  unfold msKnownBad
  split
  · have := h 0 (by simp); omega
  · have := h 0 (by simp); omega
  · rfl

theorem posTypes_nonneg (m : List Int) : ∀ v ∈ posTypes m, 0 ≤ v := fun v hv => by
  have := posTypes_pos m v hv; omega

theorem MSComb.next_wrap_true (all : List Int) (s s1 : MSComb) (c' : List Int) (hd : s.done = false)
    (h0 : MSComb.next0 s = .ok (s1, true)) (hall : s1.all = all) (hst : s1.state = some c')
    (hlen : c'.length = (posTypes all).length)
    (hfr : s1.freq = none ∨ ∃ f, s1.freq = some f ∧ ZeroAt all f) :
    MSComb.next s = .ok ({ s1 with freq := some (scatterL all c') }, true) := by
  have hsc : ∀ f, ZeroAt all f → MSComb.scatter c' all 0 0 f = .ok (scatterL all c') := by
    intro f hz
    have := scatter_spec c' all 0 [] f (by simpa using hlen) hz
    simpa using this
  unfold MSComb.next
  simp only [hd, Bool.false_eq_true, if_false, h0, Outcome.bind_ok, if_true, hst, Option.getD_some, hall]
  rcases hfr with hn | ⟨f, hf, hz⟩
  · have : MSComb.freqBuf s1 = .ok (List.replicate all.length 0) := by
      simp [MSComb.freqBuf, hn, hall, make]
    simp only [this, Outcome.bind_ok, hsc _ (zeroAt_replicate all), Outcome.pure_eq]
  · have : MSComb.freqBuf s1 = .ok f := by simp [MSComb.freqBuf, hf]
    simp only [this, Outcome.bind_ok, hsc f hz, Outcome.pure_eq]

theorem MSComb.next_wrap_false (s s1 : MSComb) (hd : s.done = false) (h0 : MSComb.next0 s = .ok (s1, false)) :
    MSComb.next s = .ok ({ s1 with done := true }, false) := by
  simp [MSComb.next, hd, h0]

theorem MSComb.valueOp_ok (m : List Int) (k : Int) (s : MSComb) (c : List Int) (hs : s.freq = some c)
    (hfam : InFam m k c) (hval : s.value.length = k.toNat) :
    ∃ val, MSComb.valueOp s = .ok ({ s with value := val }, (c, expandList 0 c)) ∧ val.length = k.toNat := by
  have hnn := hfam.mem_nonneg
  have he' : MSComb.expand c 0 0 s.value = .ok (expandList 0 c ++ s.value.drop (expandList 0 c).length) := by
    simpa using expand_spec c 0 [] s.value hnn (by rw [hfam.2.2, hval]; omega)
  have hlen := expandList_length_of_nonneg c 0 hnn
  rw [hfam.2.2] at hlen
  have hdrop : s.value.drop (expandList 0 c).length = [] := by
    apply List.drop_eq_nil_of_le
    rw [hval]; omega
  rw [hdrop, List.append_nil] at he'
  refine ⟨expandList 0 c, ?_, by omega⟩
  simp only [MSComb.valueOp, hs, Option.getD_some, he', Outcome.bind_ok, Outcome.pure_eq]

/-- the inner state holds the counts `c` of the positive types and the pointer satisfies the invariant of Algorithm Q,
`freq` is `c` scattered to the positions of `all` (what `Value()` expands) -/
def MSComb.Rep (all : List Int) (k : Int) (s : MSComb) (c : List Int) : Prop :=
  s.done = false ∧ s.all = all ∧ s.m = posTypes all ∧
    s.k = k ∧ s.state = some c ∧ s.freq = some (scatterL all c) ∧
    s.value.length = k.toNat ∧
    (k = 0 ∨ (MGood (posTypes all) ∧ ∃ j : Nat, s.j = (j : Int) ∧
      (ISat (posTypes all) c j ∨ IZero (posTypes all) c j)))

theorem InFam.PS_le {m : List Int} {k : Int} {c : List Int} (hfam : InFam m k c) (j : Nat) (hj : j ≤ m.length) :
    PS c j ≤ k := by
  have := PS_mono c (G_nonneg_all c hfam.mem_nonneg) j m.length hj
  rw [PS_ge c m.length (by rw [hfam.1]), hfam.2.2] at this
  exact this

theorem MSComb.next_step (all : List Int) (k : Int) (s : MSComb) (c c' : List Int)
    (hfam : InFam (posTypes all) k c)
    (hnext : MsNextN (posTypes all) (posTypes all).length c c') (hrep : MSComb.Rep all k s c) :
    ∃ s', MSComb.next s = .ok (s', true) ∧ MSComb.Rep all k s' c' := by
  obtain ⟨hd, hall, hsm, hsk, hs, hfr, hval, hcase⟩ := hrep
  have hkpos : 0 < k := by
    obtain ⟨j, _, a2, _, a4, _⟩ := id hnext
    have := InFam.PS_le hfam j (by omega)
    omega
  rcases hcase with hk0 | ⟨hgood, j, hsj, hinv⟩
  · omega
  · obtain ⟨s', b, h0, ht, hf⟩ := MSComb.next0_step (posTypes all) k hgood hkpos s c j hs hsm hsk hsj hfam hinv
    cases b with
    | false => exact absurd (hf rfl) hnext.not_noNext
    | true =>
      obtain ⟨c'', j', rfl, hn'', hinv'⟩ := ht rfl
      have hyc' : c'' = c' := hn''.unique hnext
      subst hyc'
      obtain ⟨_, _, _, _, _, _, _, hl', _⟩ := id hn''
      have hw := MSComb.next_wrap_true all s _ c'' hd h0 hall rfl hl'
        (Or.inr ⟨_, hfr, zeroAt_scatterL all c⟩)
      exact ⟨_, hw, hd, hall, hsm, hsk, rfl, rfl, hval, Or.inr ⟨hgood, j', rfl, hinv'⟩⟩

theorem MSComb.next_last (all : List Int) (k : Int) (hk : 0 ≤ k) (s : MSComb) (c0 : List Int)
    (hfam : InFam (posTypes all) k c0)
    (hno : NoNextN (posTypes all) (posTypes all).length c0) (hrep : MSComb.Rep all k s c0) :
    ∃ s', MSComb.next s = .ok (s', false) ∧ s'.done = true := by
  obtain ⟨hd, hall, hsm, hsk, hs, hfr, hval, hcase⟩ := hrep
  have hzero : k = 0 → MSComb.next0 s = .ok (s, false) := by
    intro hk0
    unfold MSComb.next0
    simp [hs, hsk, hk0]
  rcases hcase with hk0 | ⟨hgood, j, hsj, hinv⟩
  · exact ⟨_, MSComb.next_wrap_false s s hd (hzero hk0), rfl⟩
  · by_cases hk0 : k = 0
    · exact ⟨_, MSComb.next_wrap_false s s hd (hzero hk0), rfl⟩
    · obtain ⟨s', b, h0, ht, hf⟩ :=
        MSComb.next0_step (posTypes all) k hgood (by omega) s c0 j hs hsm hsk hsj hfam hinv
      cases b with
      | true =>
        obtain ⟨c'', _, _, hn'', _⟩ := ht rfl
        exact absurd hno hn''.not_noNext
      | false => exact ⟨_, MSComb.next_wrap_false s s' hd h0, rfl⟩

theorem MSComb.next_init (all : List Int) (k : Int) (hk : 0 ≤ k) :
    (k ≤ PS (posTypes all) (posTypes all).length → ∃ s' c, MSComb.next (MSComb.init all k) = .ok (s', true) ∧
        IsGreedyN (posTypes all) (posTypes all).length k c ∧
        MSComb.Rep all k s' c) ∧
    (PS (posTypes all) (posTypes all).length < k →
      ∃ s', MSComb.next (MSComb.init all k) = .ok (s', false) ∧ s'.done = true) := by
  have hm' := posTypes_nonneg all
  have hb := msKnownBad_of_pos (posTypes all) (posTypes_pos all)
  obtain ⟨s', b, h0, hd, e2, e3, e7, e8, e4, ht, hf⟩ :=
    MSComb.next0_first (posTypes all) k hm' hk hb (MSComb.init all k) rfl rfl rfl
  constructor
  · intro hle
    obtain ⟨hbt, c', e1, hgr, f2⟩ := ht hle
    subst hbt
    have hw := MSComb.next_wrap_true all (MSComb.init all k) s' c' rfl h0 (by rw [e7]; rfl) e1 hgr.1
      (Or.inl (by rw [e8]; rfl))
    refine ⟨_, c', hw, hgr, by simp [hd]; rfl, by simp [e7]; rfl, by simp [e2], by simp [e3],
      by simp [e1], rfl, by simp [e4], ?_⟩
    rcases f2 with f2 | ⟨g1, j, g2, g3⟩
    · exact Or.inl f2
    · exact Or.inr ⟨g1, j, by simp [g2], Or.inl g3⟩
  · intro hlt
    have hbf := hf hlt
    subst hbf
    exact ⟨_, MSComb.next_wrap_false _ s' rfl h0, rfl⟩

end Iter

namespace Iter.Spec

/-- the family of `MultisetCombinations(m, k)` (count vectors indexed like `m`) in the order of generation: the
vectors of the positive types in colexicographic order, scattered back -/
def msList (m : List Int) (k : Int) : List (List Int) := (msColexList (posTypes m) k).map (scatterL m)

end Iter.Spec

namespace Iter
open Spec

theorem MSComb.enumerates_msList (m : List Int) (k : Int) (hm : ∀ v ∈ m, 0 ≤ v) (hk : 0 ≤ k) :
    ∀ bound, (msList m k).length < bound →
      ∃ s', outputs MSComb.it bound (MSComb.init m k) =
          ((msList m k).map (fun c => (c, expandList 0 c)), s', .exhausted) ∧
        ∀ n, extras MSComb.it n s' = .ok (List.replicate n none) := by
  intro bound hbound
  have hnn := G_nonneg_all (posTypes m) (posTypes_nonneg m)
  obtain ⟨hinit1, hinit2⟩ := MSComb.next_init m k hk
  have hL : (msList m k).map (fun c => (c, expandList 0 c)) =
      (msColexList (posTypes m) k).map (fun c => (scatterL m c, expandList 0 (scatterL m c))) := by
    simp [msList, List.map_map, Function.comp_def]
  rw [hL]
  have hin : ∀ c ∈ msColexList (posTypes m) k, InFam (posTypes m) k c := fun c hc =>
    (mem_msColexList (posTypes m) k c).mp hc
  have key := enumerates_succ MSComb.it (fun c => (scatterL m c, expandList 0 (scatterL m c))) (MSComb.Rep m k)
    (fun s => s.done = true) (MsNextN (posTypes m) (posTypes m).length) (MSComb.init m k)
    (msColexList (posTypes m) k) (msColexN_isChain (posTypes m) hnn (posTypes m).length k)
    (by
      rintro s c hc hrep
      obtain ⟨hd, hall, hsm, hsk, hs, hfr, hval, hcase⟩ := id hrep
      obtain ⟨val, e1, e2⟩ := MSComb.valueOp_ok m k s _ hfr (InFam_scatterL m k c hm (hin c hc)) hval
      exact ⟨{ s with value := val }, e1, hd, hall, hsm, hsk, hs, hfr, e2, hcase⟩)
    (by
      intro hnil
      have : PS (posTypes m) (posTypes m).length < k := by
        by_contra hc
        exact (msColexN_chain (posTypes m) hnn (posTypes m).length k hk (by omega)).1 hnil
      exact hinit2 this)
    (by
      intro c0 hc0
      have hsb := InFamN.sum_bounds (hin c0 (List.mem_of_mem_head? hc0))
      obtain ⟨_, _, h3, _⟩ := msColexN_chain (posTypes m) hnn (posTypes m).length k hsb.1 hsb.2
      obtain ⟨s', c, e1, e2, e3⟩ := hinit1 hsb.2
      have : c = c0 := e2.unique (h3 c0 hc0)
      subst this
      exact ⟨s', e1, e3⟩)
    (fun x hx y _ hR s hrep => MSComb.next_step m k s x y (hin x hx) hR hrep)
    (by
      intro c0 hc0 s hrep
      have hfam := hin c0 (List.mem_of_mem_getLast? hc0)
      have hsb := InFamN.sum_bounds hfam
      obtain ⟨_, _, _, h4⟩ := msColexN_chain (posTypes m) hnn (posTypes m).length k hsb.1 hsb.2
      exact MSComb.next_last m k hk s c0 hfam (h4 c0 hc0) hrep)
    (by
      intro s hs
      exact ⟨s, by simp [MSComb.it, MSComb.next, hs], hs⟩)
    bound (by simpa [msList] using hbound)
  obtain ⟨s', h1, _, h3⟩ := key
  exact ⟨s', h1, h3⟩

theorem mem_msList (m : List Int) (k : Int) (hm : ∀ v ∈ m, 0 ≤ v) (c : List Int) :
    c ∈ msList m k ↔ c.length = m.length ∧ (∀ i, i < m.length → 0 ≤ G c i ∧ G c i ≤ G m i) ∧ c.sum = k := by
  show c ∈ msList m k ↔ InFam m k c
  simp only [msList, List.mem_map]
  constructor
  · rintro ⟨c', hc', rfl⟩
    exact InFam_scatterL m k c' hm ((mem_msColexList (posTypes m) k c').mp hc')
  · intro h
    obtain ⟨c', h1, h2⟩ := exists_scatterL m k c hm h
    exact ⟨c', (mem_msColexList (posTypes m) k c').mpr h1, h2⟩

theorem msList_nodup (m : List Int) (k : Int) : (msList m k).Nodup := by
  apply List.Nodup.map_on _ (msColexList_nodup (posTypes m) k (posTypes_nonneg m))
  intro a ha b hb hab
  exact scatterL_injective m a b ((mem_msColexList (posTypes m) k a).mp ha).1
    ((mem_msColexList (posTypes m) k b).mp hb).1 hab

theorem msList_perm_msFamily (m : List Int) (k : Int) (hm : ∀ v ∈ m, 0 ≤ v) : (msList m k).Perm (msFamily m k) :=
  (List.perm_ext_iff_of_nodup (msList_nodup m k) (msFamily_nodup m k)).mpr (fun c => by
    rw [mem_msList m k hm c, mem_msFamily_iff m k c hm]; exact Iff.rfl)

theorem MsColexLt_cons_iff (x y : Int) (a b : List Int) :
    MsColexLt (x :: a) (y :: b) ↔ MsColexLt a b ∨ (x < y ∧ ∀ i, G a i = G b i) := by
  constructor
  · rintro ⟨j, h1, h2⟩
    cases j with
    | zero =>
      right
      rw [G_cons_zero, G_cons_zero] at h1
      refine ⟨h1, fun i => ?_⟩
      have := h2 (i + 1) (by omega)
      rwa [G_cons_succ, G_cons_succ] at this
    | succ j =>
      left
      rw [G_cons_succ, G_cons_succ] at h1
      refine ⟨j, h1, fun i hi => ?_⟩
      have := h2 (i + 1) (by omega)
      rwa [G_cons_succ, G_cons_succ] at this
  · rintro (⟨j, h1, h2⟩ | ⟨h1, h2⟩)
    · refine ⟨j + 1, by rw [G_cons_succ, G_cons_succ]; exact h1, fun i hi => ?_⟩
      obtain ⟨t, rfl⟩ : ∃ t, i = t + 1 := ⟨i - 1, by omega⟩
      rw [G_cons_succ, G_cons_succ]; exact h2 t (by omega)
    · refine ⟨0, by rw [G_cons_zero, G_cons_zero]; exact h1, fun i hi => ?_⟩
      obtain ⟨t, rfl⟩ : ∃ t, i = t + 1 := ⟨i - 1, by omega⟩
      rw [G_cons_succ, G_cons_succ]; exact h2 t

theorem scatterL_mono : ∀ (m a b : List Int), a.length = (posTypes m).length → b.length = (posTypes m).length →
    MsColexLt a b → MsColexLt (scatterL m a) (scatterL m b) := by
  intro m
  induction m with
  | nil =>
    intro a b ha hb h
    have h1 : a = [] := List.length_eq_zero_iff.mp (by simpa [posTypes] using ha)
    have h2 : b = [] := List.length_eq_zero_iff.mp (by simpa [posTypes] using hb)
    subst h1 h2
    exact absurd rfl h.ne
  | cons v ms ih =>
    intro a b ha hb h
    by_cases hv : v > 0
    · rw [posTypes_cons_pos v ms hv] at ha hb
      cases a with
      | nil => simp at ha
      | cons x as =>
        cases b with
        | nil => simp at hb
        | cons y bs =>
          simp only [scatterL, hv, if_true, List.headD_cons, List.tail_cons]
          rcases (MsColexLt_cons_iff x y as bs).mp h with h1 | ⟨h1, h2⟩
          · exact (MsColexLt_cons_iff _ _ _ _).mpr (Or.inl (ih as bs (by simpa using ha) (by simpa using hb) h1))
          · have : as = bs := G_ext as bs (by simp at ha hb; omega) (fun i _ => h2 i)
            subst this
            exact (MsColexLt_cons_iff _ _ _ _).mpr (Or.inr ⟨h1, fun _ => rfl⟩)
    · rw [posTypes_cons_nonpos v ms hv] at ha hb
      simp only [scatterL, hv, if_false]
      exact (MsColexLt_cons_iff _ _ _ _).mpr (Or.inl (ih a b ha hb h))

theorem msList_sorted (m : List Int) (k : Int) : (msList m k).Pairwise MsColexLt := by
  simp only [msList]
  rw [List.pairwise_map]
  have hs := msColexList_sorted (posTypes m) k (posTypes_nonneg m)
  have hmem : ∀ a ∈ msColexList (posTypes m) k, a.length = (posTypes m).length :=
    fun a ha => ((mem_msColexList (posTypes m) k a).mp ha).1
  exact hs.imp_of_mem (fun {a b} ha hb h => scatterL_mono m a b (hmem a ha) (hmem b hb) h)

theorem msList_eq_msColexList (m : List Int) (k : Int) (hm : ∀ v ∈ m, 0 ≤ v) : msList m k = msColexList m k := by
  apply List.Perm.eq_of_pairwise (le := MsColexLt) _ (msList_sorted m k) (msColexList_sorted m k hm)
    ((msList_perm_msFamily m k hm).trans (msColexList_perm_msFamily m k hm).symm)
  intro a b _ _ h1 h2
  exact absurd rfl (h1.trans h2).ne

end Iter
