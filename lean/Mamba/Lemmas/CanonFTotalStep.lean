import Mamba.Lemmas.CanonFTotalInv
/-!
# Totality: the operations called by the loops return

The small steps (`pickCell`, `h2Best`, `deage` in the stepping loops, the Heuristic-2 tests, `innerNode`: `prog_deage`,
`prog_flOrb`, `prog_h2`, `prog_inner`); `expandValue` with a non-empty `currentBest` (`expandValue_totalG`: `worseTest`
re-slices the stored certificates to `len(value) ≤ m`); `splitBin` in general (`splitBin_totalG`) and its call in `jLoop`
(`prog_split`).
-/
namespace CanonF

theorem pickCell_total (bd : Sl Nat) (hw : bd.WF) : ∀ (k i prev : Nat), i + k ≤ bd.len →
    ∃ r, pickCell bd k i prev = .ok r := by
  intro k
  induction k with
  | zero => intro i prev _; exact ⟨none, rfl⟩
  | succ k ih =>
    intro i prev hik
    obtain ⟨d, hg, _⟩ := Sl.get_ok_of_lt hw (i := i) (by omega)
    rw [pickCell, hg]
    simp only
    by_cases hc : d - prev > 1
    · rw [if_pos hc]; exact ⟨_, rfl⟩
    · rw [if_neg hc]; exact ih (i + 1) d (by omega)

theorem binEndLoop_total (bd : Sl Nat) (hw : bd.WF) (cp dflt : Nat) : ∀ (k i : Nat), i + k ≤ bd.len →
    ∃ be, binEndLoop bd cp dflt k i = .ok be ∧ (be = dflt ∨ be ∈ bd.toList) := by
  intro k
  induction k with
  | zero => intro i _; exact ⟨dflt, rfl, Or.inl rfl⟩
  | succ k ih =>
    intro i hik
    obtain ⟨d, hg, _⟩ := Sl.get_ok_of_lt hw (i := i) (by omega)
    rw [binEndLoop, hg]
    simp only
    by_cases hc : cp < d
    · rw [if_pos hc]
      exact ⟨d, rfl, Or.inr (List.mem_of_getElem? (Sl.get_eq_toList.1 hg))⟩
    · rw [if_neg hc]; exact ih (i + 1) (by omega)

theorem orbitScan_total {n : Nat} (order : Sl Nat) (hw : order.WF) (hlen : order.len = n)
    (hperm : order.toList.Perm (List.range n)) (r0 : Nat) : ∀ (c k : Nat) (ds : Disjoint.DS),
    Disjoint.Inv ds → ds.size = n → k + c ≤ n → ∃ r, orbitScan order r0 c k ds = .ok r := by
  intro c
  induction c with
  | zero => intro k ds _ _ _; exact ⟨_, rfl⟩
  | succ c ih =>
    intro k ds hds hsz hkc
    obtain ⟨v, hg, _⟩ := Sl.get_ok_of_lt hw (i := k) (by omega)
    have hv : v < n := perm_range_lt hperm (Sl.get_eq_toList.1 hg)
    obtain ⟨d1, e1, i1, s1, _⟩ := Disjoint.find_spec hds v (by omega)
    rw [orbitScan, hg]
    simp only
    rw [e1]
    simp only
    by_cases hr : Disjoint.rep ds v = r0
    · rw [if_pos hr]; exact ⟨_, rfl⟩
    · rw [if_neg hr]; exact ih (k + 1) d1 i1 (by omega) (by omega)

theorem h2Best_totalG {n : Nat} {op : OP} {ds : Disjoint.DS} {cp ce : Nat} (hp : PartInv n op) (hds : Disjoint.Inv ds)
    (hsz : ds.size = n) (hcp : cp < n) (hce : ce < n) : ∃ r, h2Best op ds cp ce = .ok r := by
  obtain ⟨be, hb, hbe⟩ := binEndLoop_total op.binDividers hp.wfBd cp op.order.len op.binDividers.len 0 (by omega)
  have hben : be ≤ n := by
    rcases hbe with e | hm
    · rw [e, hp.lenOrder]
    · exact hp.bd_mem_le be hm
  obtain ⟨d1, e1, i1, s1, _⟩ := Disjoint.find_spec hds ce (by omega)
  unfold h2Best
  rw [hb]
  simp only
  rw [e1]
  simp only
  exact orbitScan_total op.order hp.wfOrder hp.lenOrder hp.perm _ _ _ d1 i1 (by omega) (by omega)

section
variable {n m : Nat} {nb : Nbrs} {rf : Nat} {r : IR.St}
  (hnb : NbOK nb n) (hA : IR.InvA (irG n nb) r) (hD : IR.InvD (irG n nb) r)

theorem prog_deage {lv : List (Nat × Nat)} {s : LS} {k : Nat} (hc : Core n s) (ht : TopOK s.op k s.path s.choices lv)
    (hage : s.op.age = s.path.length) (hA : CertA n m nb lv s) :
    ∃ op', deage s.op = .ok op' := by
  obtain ⟨p, ps, c, cs, st, sz, ls, e1, _, _⟩ := ht.elim
  have hpos : 0 < s.op.age := by rw [hage, e1]; simp
  exact deage_no_panic hc.part hc.age hpos hA.2.1.facts.2.1

theorem prog_flOrb {lv : List (Nat × Nat)} {s : LS} {c ce : Nat} (hc : Core n s)
    (hget : s.op.order.get (c - 1) = .ok ce) (hN : CertN n m nb lv s) : ∃ x, s.flOrbits[ce]? = some x := by
  have hce : ce < n := (hc.part.lt_of_order_get hget).2
  have hsz : s.flOrbits.size = n := hN.1.orbSz.1
  have hlt : ce < s.flOrbits.size := by omega
  exact ⟨s.flOrbits[ce], by simp [hlt]⟩

theorem prog_h2 {lv : List (Nat × Nat)} {s : LS} {c ce : Nat} (hc : Core n s)
    (hget : s.op.order.get (c - 1) = .ok ce) (hcnt : 0 < s.count) (hN : DN n nb rf r lv s) :
    ∃ r', h2Best s.op s.bestOrbits (c - 1) ce = .ok r' := by
  obtain ⟨hcp, hce⟩ := hc.part.lt_of_order_get hget
  obtain ⟨gh, _, hG, _, _⟩ := hN
  obtain ⟨hds, hdsz, _⟩ := hG.bestOrb hcnt
  exact h2Best_totalG hc.part hds hdsz hcp hce

include hnb hA hD in
theorem prog_inner (lv : List (Nat × Nat)) (s : LS) (hI : MInv n m nb s) (hlv : LevelsOK s.op s.path s.choices lv)
    (hnl : s.op.binDividers.len ≠ n) (hM : DM n nb rf r lv false s) :
    ∃ s1, innerNode s = .ok s1 ∧ ∃ sz, s1.path = sz :: s.path ∧ sz ≤ n ∧ s.path.length < n := by
  have hc := hI.core
  obtain ⟨pr, hpk⟩ := pickCell_total s.op.binDividers hc.part.wfBd s.op.binDividers.len 0 0 (by omega)
  have hex : ∃ s1, innerNode s = .ok s1 := by
    unfold innerNode
    rw [hpk]
    cases pr with
    | none => exact ⟨_, rfl⟩
    | some x => obtain ⟨d, bs⟩ := x; exact ⟨_, rfl⟩
  obtain ⟨s1, hs1⟩ := hex
  obtain ⟨st, sz, e, _, hbd, _, _⟩ := innerNode_spec hc hlv hI.age hnl hs1
  have hle : st + sz ≤ n := hc.part.bd_mem_le _ (List.mem_of_getElem? hbd)
  obtain ⟨gh, hw, _⟩ : ∃ gh, DNodev n nb rf r gh lv s := hM
  exact ⟨s1, hs1, sz, by rw [e], by omega, hw.depth_lt hnb hA hD hc.part.n_pos⟩

end

theorem rt_nbr_lt {n : Nat} {nb : Nbrs} (hnb : NbOK nb n) : ∀ (u : Nat) (l : List Nat), nb[u]? = some l → ∀ v ∈ l, v < n := by
  intro u l hl v hv
  have : nb.getD u [] = l := by simp [Array.getD_eq_getD_getElem?, hl]
  exact (hnb.lt u v (by rw [this]; exact hv)).2

theorem worseTest_total {value cb fl : Sl Nat} (hcb : cb.len = 0 ∨ value.len ≤ cb.data.size)
    (hfl : value.len ≤ fl.data.size) : ∃ b, worseTest value cb fl = .ok b := by
  unfold worseTest
  by_cases h0 : cb.len > 0
  · rw [if_pos h0]
    have hc : value.len ≤ cb.data.size := by rcases hcb with h | h <;> omega
    have h1 : cb.reslice value.len = .ok ⟨cb.data, value.len⟩ := Sl.reslice_eq_ok.2 ⟨hc, rfl⟩
    have h2 : fl.reslice value.len = .ok ⟨fl.data, value.len⟩ := Sl.reslice_eq_ok.2 ⟨hfl, rfl⟩
    simp only [h1, h2]
    split
    · exact ⟨_, rfl⟩
    · exact ⟨_, rfl⟩
  · rw [if_neg h0]; exact ⟨_, rfl⟩

theorem certPos_prefix_length_le {n : Nat} {nb : Nbrs} (hnb : NbOK nb n) (hsz : nb.size = n) {o : List Nat}
    (ho : o.Perm (List.range n)) {j : Nat} (hj : j ≤ n) :
    (certPos nb o j).length ≤ ((nb.toList.map List.length).sum) / 2 := by
  obtain ⟨tail, ht, _⟩ := certPos_split nb o j n hj
  have := certPos_length hnb hsz ho
  rw [ht, List.length_append] at this
  omega

theorem expandValue_totalG {n : Nat} {nb : Nbrs} {cb fl : Sl Nat} {op : OP} (hnb : NbOK nb n) (hsz : nb.size = n)
    (hp : PartInv n op) (hps : PrefixSingle op) (hvw : op.value.WF)
    (hval : op.value.toList = certPos nb op.order.toList op.spl)
    (hcb : cb.len = 0 ∨ ((nb.toList.map List.length).sum) / 2 ≤ cb.data.size)
    (hfl : ((nb.toList.map List.length).sum) / 2 ≤ fl.data.size) :
    ∃ r, expandValue nb cb fl op = .ok r := by
  unfold expandValue
  have hle : op.spl ≤ n := Nat.le_trans hps.le hp.bdLen_le
  -- the value is the certificate of a prefix, so it is not longer than the full one, which fits
  obtain ⟨w, op', h, _⟩ := expandLoop_total_of (cb := cb) (fl := fl) hsz (rt_nbr_lt hnb)
    (fun j op => j ≤ n ∧ op.order.toList.Perm (List.range n) ∧ op.value.WF ∧
      op.value.toList = certPos nb op.order.toList j)
    (fun j op v hjn hp hsing hv hP hb hw => ⟨hjn, hP.2.1, hw, by
      show v.toList = certPos nb op.order.toList (j + 1)
      rw [(hb.cert hp hsing hv).2, hP.2.2.2, certPos_succ]⟩)
    (fun j op hP => by
      have hlen : op.value.len ≤ ((nb.toList.map List.length).sum) / 2 := by
        rw [← Sl.length_toList _ hP.2.2.1, hP.2.2.2]
        exact certPos_prefix_length_le hnb hsz hP.2.1 hP.1
      exact worseTest_total (hcb.imp_right (Nat.le_trans hlen)) (Nat.le_trans hlen hfl))
    (op.order.len - op.spl) _ op (by rw [hp.lenOrder]; omega) hp hps.single hvw ⟨hle, hp.perm, hvw, hval⟩
  exact ⟨_, h⟩

theorem splitBin_totalG {n : Nat} {nb : Nbrs} {cb fl : Sl Nat} {op : OP} {i : Nat} (hnb : NbOK nb n) (hsz : nb.size = n)
    (h : PartInv n op) (ha : AgeInv op) (hb : BtcInv op) (hi : i < n) (hns : NonSingleton op.binDividers.toList i)
    (c1 : op.binDividers.len + 1 ≤ op.binDividers.data.size) (c2 : op.binAges.len + 1 ≤ op.binAges.data.size)
    (c3 : op.binDividers.len + 1 ≤ op.binsToCheck.data.size)
    (hv : VClean nb op)
    (hcb : cb.len = 0 ∨ ((nb.toList.map List.length).sum) / 2 ≤ cb.data.size)
    (hfl : ((nb.toList.map List.length).sum) / 2 ≤ fl.data.size) :
    ∃ r, splitBin nb cb fl op i = .ok r := by
  obtain ⟨op1, s, hsb⟩ := splitBin_step_total (nb := nb) (cb := cb) (fl := fl) h hb.sorted hi c1 c2
  obtain ⟨hP, _⟩ := s.inv h ha hi hns
  obtain ⟨d, _, hrel⟩ := s.splitRel h hi hns hP
  have hp0 : PartInv n { op with age := op.age + 1 } := h.of_frame rfl rfl rfl rfl
  have hc : VClean nb { op with age := op.age + 1 } := VClean.of_age hv _
  have hps := hc.pre.toPrefixSingle
  rw [hsb]
  by_cases hsp : binIdx op.binDividers.toList i = op.spl
  · rw [if_pos hsp]
    exact expandValue_totalG hnb hsz hP (hrel.prefixSingle hp0 hps) (by rw [hrel.value]; exact hc.wf)
      (by rw [hrel.value, hrel.spl, hrel.certPos_eq nb hp0 hps]; exact hc.val) hcb hfl
  · rw [if_neg hsp]
    exact ⟨_, rfl⟩

section
variable {n m : Nat} {nb : Nbrs} {rf : Nat} {r : IR.St}
  (hnb : NbOK nb n) (hsz : nb.size = n) (hm : m = ((nb.toList.map List.length).sum) / 2)

include hnb hsz hm in
theorem prog_split {lv : List (Nat × Nat)} {s : LS} {c ce : Nat} (hc : Core n s)
    (hget : s.op.order.get (c - 1) = .ok ce) (hns : NonSingleton s.op.binDividers.toList (c - 1))
    (hT : TN n m nb rf r lv s) : ∃ r', splitBin nb s.currentBest s.firstLeaf s.op (c - 1) = .ok r' := by
  obtain ⟨⟨⟨hg, hvn, _⟩, ⟨gh, hw, _⟩⟩, hcap⟩ := hT
  have hvc : VClean nb s.op := hvn
  have hi : c - 1 < n := (hc.part.lt_of_order_get hget).1
  have hbtc : BtcInv s.op := BtcInv.of_len_zero hw.btcZero
  have hlt := hc.part.bdLen_lt_of_nonSingleton hi hns
  exact splitBin_totalG hnb hsz hc.part hc.age hbtc hi hns (Nat.le_trans hlt hcap.bd)
    (by rw [hc.part.lenAges]; exact Nat.le_trans hlt hcap.ages) (Nat.le_trans hlt hcap.btc) hvc
    (Or.inr (by rw [← hm]; exact hcap.cb)) (by rw [← hm, ← hg.flLen.1]; exact hg.flLen.2)

end
end CanonF
