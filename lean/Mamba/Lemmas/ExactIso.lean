import Mamba.Lemmas.SearchShards
import Mamba.Lemmas.IsoCheck
import Mamba.Lemmas.Orderly
namespace Search
open GraphSpec GSearch

/-! Graph-level vocabulary for the exactness theorem: isomorphism of `DenseGraph` values, equivalence of extensions,
`AddVertex` is the one-vertex extension `GSearch.ext`. -/

theorem toG_wf (g : DG) : g.toG.WF :=
  wf_of_pairs g.nv fun u v => g.edges.getD (tri v + u) 0 > 0

def IsoD (g h : DG) : Prop := Iso g.toG h.toG

theorem IsoD.refl (g : DG) : IsoD g g := Iso.refl _
theorem IsoD.symm {g h : DG} (i : IsoD g h) : IsoD h g := Iso.symm i
theorem IsoD.trans {g h k : DG} (i : IsoD g h) (j : IsoD h k) : IsoD g k := Iso.trans i j

/-- `σ` is an isomorphism `g → h` that carries the vertex set `S` onto the vertex set `T` -/
def ExtEquiv (g : DG) (S : List Nat) (h : DG) (T : List Nat) : Prop :=
  g.nv = h.nv ∧ ∃ σ : Nat → Nat, IsBij g.nv σ ∧
    (∀ u v, u < g.nv → v < g.nv → g.toG.adj u v = h.toG.adj (σ u) (σ v)) ∧
    ∀ v, v < g.nv → (v ∈ S ↔ σ v ∈ T)

theorem ExtEquiv.refl (g : DG) (S : List Nat) : ExtEquiv g S g S :=
  ⟨rfl, fun u => u, IsBij.id _, fun _ _ _ _ => rfl, fun _ _ => Iff.rfl⟩

theorem ExtEquiv.symm {g h : DG} {S T : List Nat} (e : ExtEquiv g S h T) : ExtEquiv h T g S := by
  obtain ⟨hn, σ, hσ, hadj, hS⟩ := e
  refine ⟨hn.symm, hσ.inv, hn ▸ hσ.inv_isBij, ?_, ?_⟩
  · intro u v hu hv
    rw [← hn] at hu hv
    have := hadj _ _ (hσ.inv_spec hu).1 (hσ.inv_spec hv).1
    rw [(hσ.inv_spec hu).2, (hσ.inv_spec hv).2] at this
    exact this.symm
  · intro v hv
    rw [← hn] at hv
    have := hS _ (hσ.inv_spec hv).1
    rw [(hσ.inv_spec hv).2] at this
    exact this.symm

theorem ExtEquiv.trans {g h k : DG} {S T U : List Nat} (e1 : ExtEquiv g S h T) (e2 : ExtEquiv h T k U) :
    ExtEquiv g S k U := by
  obtain ⟨hn, σ, hσ, hadj, hS⟩ := e1
  obtain ⟨hn', τ, hτ, hadj', hT⟩ := e2
  refine ⟨hn.trans hn', fun u => τ (σ u), hσ.comp (hn ▸ hτ), ?_, ?_⟩
  · intro u v hu hv
    rw [hadj u v hu hv, hadj' _ _ (hn ▸ hσ.maps u hu) (hn ▸ hσ.maps v hv)]
  · intro v hv
    rw [hS v hv, hT _ (hn ▸ hσ.maps v hv)]

theorem ExtEquiv.iso {g h : DG} {S T : List Nat} (e : ExtEquiv g S h T) : IsoD g h := by
  obtain ⟨hn, σ, hσ, hadj, -⟩ := e
  exact ⟨hn, σ, hσ, hadj⟩

theorem toG_adj_lt (g : DG) {u v : Nat} (huv : u < v) :
    g.toG.adj u v = (decide (v < g.nv) && decide (g.edges.getD (tri v + u) 0 > 0)) := by
  by_cases hv : v < g.nv
  · simp [DG.toG, Nat.ne_of_lt huv, huv, hv, Nat.lt_trans huv hv]
  · simp [DG.toG, hv]

theorem toG_adj_get {g : DG} (hs : g.Sized) {lo hi : Nat} (hlt : lo < hi) (hhi : hi < g.nv) :
    ∃ b, g.edges[tri hi + lo]? = some b ∧ decide (b > 0) = g.toG.adj lo hi := by
  have hidx : tri hi + lo < g.edges.size := by rw [hs.edges]; exact tri_add_lt hlt hhi
  refine ⟨g.edges[tri hi + lo], Array.getElem?_eq_getElem hidx, ?_⟩
  rw [toG_adj_lt g hlt, decide_eq_true hhi, Bool.true_and, Array.getD_eq_getD_getElem?,
    Array.getElem?_eq_getElem hidx]
  rfl

theorem addVertex_toG {P g2 : DG} {l : List Nat} (hs : P.Sized) (hnd : l.Nodup)
    (h : P.addVertex l = .ok g2) : g2.toG = ext P.toG l := by
  obtain ⟨e, d, rfl, -, -, -, hold, hnew, -, -⟩ := addVertex_spec hs hnd h
  refine (toG_wf _).ext_lt (ext_wf (toG_wf P) l) rfl fun u v huv => ?_
  rw [toG_adj_lt _ huv]
  simp only [ext, toG_adj_lt P huv, Array.getD_eq_getD_getElem?]
  rcases Nat.lt_trichotomy v P.nv with hv | rfl | hv
  · have hu := Nat.lt_trans huv hv
    simp [hold _ (tri_add_lt huv hv), hv, hu, beq_false_of_ne (Nat.ne_of_lt hv), beq_false_of_ne (Nat.ne_of_lt hu), Nat.lt_succ_of_lt hv, DG.toG]
  · by_cases hm : u ∈ l <;> simp [hnew u huv, huv, hm, DG.toG]
  · simp [Nat.not_lt.2 (Nat.le_of_lt hv), beq_false_of_ne (Nat.ne_of_gt hv), DG.toG, Nat.not_lt.2 (Nat.succ_le_of_lt hv)]

section
open Orderly

/-- graphs built from the one-vertex graph by `AddVertex` with duplicate-free in-range neighbour lists -/
inductive Built : DG → Prop
  | one : Built K1
  | add {g g' : DG} {l : List Nat} : Built g → l.Nodup → (∀ v ∈ l, v < g.nv) → g.addVertex l = .ok g' → Built g'

theorem Built.sized {g : DG} (h : Built g) : g.Sized := by
  induction h with
  | one => exact (single_sized ⟨rfl, rfl⟩ (Nat.zero_le _)).1
  | add _ _ _ ha ih => exact (addVertex_sized ha ih).1

theorem Built.pos {g : DG} (h : Built g) : 1 ≤ g.nv := by
  induction h with
  | one => exact Nat.le_refl 1
  | add _ _ _ ha ih => rw [addVertex_nv ha]; omega

def InRange (P : DG) (x : Nat) : Prop := ∀ v ∈ bitsOf x, v < P.nv

theorem Built.child {P g2 : DG} {x : Nat} (h : Built P) (hr : InRange P x) (ha : P.addVertex (bitsOf x) = .ok g2) :
    Built g2 := Built.add h (bitsOf_nodup x) hr ha

/-- the child `P + bitsOf x` exists and is accepted by `isCanonical` (returning the cache `c`) -/
def AccK (O : Oracle) (n : Nat) (P : DG) (x : Nat) (g2 : DG) (c : Option Ans) : Prop :=
  P.addVertex (bitsOf x) = .ok g2 ∧ isCanonical O n g2 (bitsOf x) none = .ok (c, true)

/-- What the exactness argument needs of `isCanonical` and `addAugmentations` (for the oracle `O`, graphs on at most `n`
vertices and the pruning function `pre`). -/
structure Specs (O : Oracle) (n : Nat) (pre : DG → Bool) : Prop where
  /-- two accepted children that are isomorphic come from equivalent extensions (canonical deletion is isomorphism
  invariant) -/
  canon_iso : ∀ {P1 P2 g1 g2 : DG} {x1 x2 : Nat} {c1 c2 : Option Ans}, Built P1 → Built P2 → P1.nv < n → P2.nv < n →
    InRange P1 x1 → InRange P2 x2 → AccK O n P1 x1 g1 c1 → AccK O n P2 x2 g2 c2 → IsoD g1 g2 →
    ExtEquiv P1 (bitsOf x1) P2 (bitsOf x2)
  /-- acceptance is invariant under equivalence of extensions -/
  canon_inv : ∀ {P1 P2 g1 g2 : DG} {x1 x2 : Nat} {c1 c2 : Option Ans} {b : Bool}, Built P1 → Built P2 →
    P1.nv < n → P2.nv < n → InRange P1 x1 → InRange P2 x2 → AccK O n P1 x1 g1 c1 → ExtEquiv P1 (bitsOf x1) P2 (bitsOf x2) →
    P2.addVertex (bitsOf x2) = .ok g2 → isCanonical O n g2 (bitsOf x2) none = .ok (c2, b) → b = true
  /-- every graph with at least two vertices is isomorphic to an accepted child of a built graph -/
  canon_exists : ∀ (Y : G), Y.WF → 2 ≤ Y.n → Y.n ≤ n →
    ∃ (P g2 : DG) (x : Nat) (c : Option Ans), Built P ∧ InRange P x ∧ AccK O n P x g2 c ∧ Iso Y g2.toG
  /-- `addAugmentations` lists in-range neighbour sets, -/
  aug_range : ∀ {g : DG} {c c' : Option Ans} {new : Array Nat} {num : Nat}, Built g → g.nv < n →
    (c = none ∨ ∃ P x, Built P ∧ InRange P x ∧ AccK O n P x g c) →
    addAugmentations O n g #[] c = .ok (new, c', num) → ∀ x ∈ new.toList, InRange g x
  /-- at least one from every `Aut(g)`-orbit of neighbour sets that has an accepted extension somewhere, -/
  aug_complete : ∀ {g : DG} {c c' : Option Ans} {new : Array Nat} {num : Nat}, Built g → g.nv < n →
    (c = none ∨ ∃ P x, Built P ∧ InRange P x ∧ AccK O n P x g c) →
    addAugmentations O n g #[] c = .ok (new, c', num) →
    ∀ (T : List Nat) (P0 g0 : DG) (x0 : Nat) (c0 : Option Ans), Built P0 → InRange P0 x0 → AccK O n P0 x0 g0 c0 →
      ExtEquiv g T P0 (bitsOf x0) → ∃ x ∈ new.toList, ExtEquiv g T g (bitsOf x)
  /-- and at most one from every orbit -/
  aug_distinct : ∀ {g : DG} {c c' : Option Ans} {new : Array Nat} {num : Nat}, Built g → g.nv < n →
    (c = none ∨ ∃ P x, Built P ∧ InRange P x ∧ AccK O n P x g c) →
    addAugmentations O n g #[] c = .ok (new, c', num) →
    new.toList.Pairwise fun x y => ¬ ExtEquiv g (bitsOf x) g (bitsOf y)
  /-- the pruning function is invariant under isomorphism and hereditary -/
  pre_iso : ∀ {g h : DG}, Built g → Built h → IsoD g h → pre g = pre h
  pre_her : ∀ {P g2 : DG} {x : Nat}, Built P → InRange P x → P.addVertex (bitsOf x) = .ok g2 → pre g2 = false →
    pre P = false

variable {O : Oracle} {n : Nat} {pre : DG → Bool}

/-- `ParD X Z`: up to isomorphism, `Z` is an accepted, unpruned child of `X` -/
def ParD (O : Oracle) (n : Nat) (pre : DG → Bool) (X Z : DG) : Prop :=
  ∃ (P0 Z' : DG) (x : Nat) (c : Option Ans), Built P0 ∧ P0.nv < n ∧ InRange P0 x ∧ AccK O n P0 x Z' c ∧
    pre Z' = false ∧ IsoD X P0 ∧ IsoD Z Z'

theorem parD_laws (S : Specs O n pre) : Laws IsoD (ParD O n pre) where
  refl := IsoD.refl
  symm := IsoD.symm
  trans := IsoD.trans
  par_left := by
    rintro x x' z h ⟨P0, Z', y, c, hb, hlt, hr, ha, hp, hx, hz⟩
    exact ⟨P0, Z', y, c, hb, hlt, hr, ha, hp, h.symm.trans hx, hz⟩
  par_right := by
    rintro x z z' h ⟨P0, Z', y, c, hb, hlt, hr, ha, hp, hx, hz⟩
    exact ⟨P0, Z', y, c, hb, hlt, hr, ha, hp, hx, h.symm.trans hz⟩
  par_unique := by
    rintro x x' z ⟨P0, Z', y, c, hb, hlt, hr, ha, hp, hx, hz⟩ ⟨P0', Z'', y', c', hb', hlt', hr', ha', hp', hx', hz'⟩
    have e := S.canon_iso hb hb' hlt hlt' hr hr' ha ha' (hz.symm.trans hz')
    exact hx.trans (e.iso.trans hx'.symm)

end

end Search
