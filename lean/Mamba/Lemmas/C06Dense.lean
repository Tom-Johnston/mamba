import Mamba.Lemmas.C06Basic
import Mathlib.Tactic.Ring
/-! C06 helper lemmas: the graph stored in a `Dense`, the observers, `NewDense`. -/
namespace Construct
open GraphSpec

theorem Dense.abs_adj (d : Dense) (hs : d.edges.size = tri d.n) : d.abs.adj = d.adjF := by
  funext u v
  simp [Dense.abs, Dense.adj, Dense.isEdge_eq d hs]

theorem Dense.adjF_symm (d : Dense) (u v : Nat) : d.adjF u v = d.adjF v u := by
  unfold Dense.adjF
  rcases Nat.lt_trichotomy u v with h | h | h
  · have : ¬ v < u := by omega
    simp [h, this, Bool.and_comm]
  · subst h; rfl
  · have : ¬ u < v := by omega
    simp [h, this, Bool.and_comm]

theorem Dense.adjF_irrefl (d : Dense) (v : Nat) : d.adjF v v = false := by
  simp [Dense.adjF]

theorem Dense.adjF_supp (d : Dense) (u v : Nat) (h : d.adjF u v = true) : u < d.n ∧ v < d.n := by
  simp only [Dense.adjF, Bool.and_eq_true, decide_eq_true_eq] at h
  exact ⟨h.1.1, h.1.2⟩

theorem Dense.abs_wf (d : Dense) (hs : d.edges.size = tri d.n) : d.abs.WF where
  symm := by rw [Dense.abs_adj d hs]; exact d.adjF_symm
  irrefl := by rw [Dense.abs_adj d hs]; exact d.adjF_irrefl
  supp := by rw [Dense.abs_adj d hs]; exact d.adjF_supp

theorem bitAt_zeros (len k : Nat) : bitAt (zeros len) k = false := by
  simp [bitAt, zeros, Array.getD]

theorem Dense.abs_adj_lt (d : Dense) (hs : d.edges.size = tri d.n) {u v : Nat} (huv : u < v) (hv : v < d.n) :
    d.abs.adj u v = bitAt d.edges (tri v + u) := by
  simp only [Dense.abs_adj d hs, Dense.adjF, if_pos huv, decide_eq_true hv,
    decide_eq_true (Nat.lt_trans huv hv), Bool.and_self, Bool.true_and]

/-- a `Dense` stores the well-formed graph `g` as soon as its bytes are the adjacency of `g` on the pairs `u < v < n`
(a well-formed graph is determined by its upper triangle, `G.WF.ext_lt`) -/
theorem Dense.abs_eq (d : Dense) (hs : d.edges.size = tri d.n) {g : G} (hg : g.WF) (hn : d.n = g.n)
    (h : ∀ u v, u < v → v < d.n → bitAt d.edges (tri v + u) = g.adj u v) : d.abs = g := by
  refine (Dense.abs_wf d hs).ext_lt hg hn fun u v huv => ?_
  by_cases hv : v < d.n
  · rw [Dense.abs_adj_lt d hs huv hv, h u v huv hv]
  · have h1 : d.abs.adj u v = false := Bool.eq_false_iff.mpr fun e => hv ((Dense.abs_wf d hs).supp u v e).2
    have h2 : g.adj u v = false := Bool.eq_false_iff.mpr fun e => hv (hn ▸ (hg.supp u v e).2)
    rw [h1, h2]

theorem symm_wf (n : Nat) (rel : Nat → Nat → Bool) : (Families.symm n rel).WF where
  symm := by
    intro u v
    simp only [Families.symm]
    rw [Bool.or_comm (rel u v), bne_comm]
    cases (v != u) <;> cases decide (u < n) <;> cases decide (v < n) <;> simp
  irrefl := by intro v; simp [Families.symm]
  supp := by
    intro u v h
    simp only [Families.symm, Bool.and_eq_true, decide_eq_true_eq] at h
    exact ⟨h.1.1.2, h.1.2⟩

theorem countP_range_beq (k v : Nat) : (List.range k).countP (fun u => u == v) = if v < k then 1 else 0 := by
  simpa using GraphRep.countP_range_eq_and v (fun _ => true) k

theorem foldlM_collect (a : Array Nat) (idx : Nat → Nat) (l : List Nat) (r0 : List Nat)
    (h : ∀ i ∈ l, idx i < a.size) :
    l.foldlM (fun (r : List Nat) i => do
      let b ← getAt a (idx i)
      Outcome.ok (if b > 0 then r ++ [i] else r)) r0 = .ok (r0 ++ l.filter fun i => bitAt a (idx i)) := by
  induction l generalizing r0 with
  | nil => simp
  | cons x t ih =>
    have hx := h x (by simp)
    simp only [List.foldlM_cons, getAt_ok hx, Outcome.bind_ok]
    rw [ih _ (fun i hi => h i (by simp [hi]))]
    simp only [List.filter_cons, bitAt, Array.getD, hx, ↓reduceDIte, gt_iff_lt]
    by_cases hb : 0 < a[idx x]
    · simp [hb]
    · simp [hb]

theorem Dense.neighbours_eq (d : Dense) (hs : d.edges.size = tri d.n) (v : Nat) (hv : v < d.n)
    (c : Int) (hc : d.deg[v]? = some c) (hc0 : 0 ≤ c) :
    d.neighbours v = .ok (d.abs.nbrs v) := by
  unfold Dense.neighbours
  rw [getAt_eq_ok_iff.mpr hc]
  have hc' : ¬ c < 0 := by omega
  simp only [Outcome.bind_ok, Outcome.pure_eq, hc', ↓reduceIte, tri_def]
  rw [foldlM_collect d.edges (fun i => tri v + i) _ _ (by
    intro i hi; rw [hs]; exact tri_add_lt (List.mem_range.mp hi) hv)]
  simp only [Outcome.bind_ok, List.nil_append]
  rw [foldlM_collect d.edges (fun i => tri i + v) _ _ (by
    intro i hi; rw [hs]; rw [List.mem_range'_1] at hi; exact tri_add_lt (by omega) (by omega))]
  congr 1
  simp only [G.nbrs, Dense.abs_adj d hs]
  rw [show d.abs.n = d.n from rfl, range_split hv, List.filter_append, List.filter_cons]
  simp only [d.adjF_irrefl v, Bool.false_eq_true, ↓reduceIte]
  congr 1
  · apply List.filter_congr
    intro i hi
    have hi' : i < v := List.mem_range.mp hi
    have : ¬ v < i := by omega
    have : i < d.n := by omega
    simp [Dense.adjF, *]
  · apply List.filter_congr
    intro i hi
    rw [List.mem_range'_1] at hi
    have : v < i := by omega
    have : i < d.n := by omega
    simp [Dense.adjF, *]

theorem incrAt_ok (a : Array Int) (i : Nat) (h : i < a.size) :
    ∃ a', incrAt a i = .ok a' ∧ a'.size = a.size ∧ ∀ v, a'[v]? = (a[v]?).map fun x => x + if v = i then 1 else 0 := by
  refine ⟨a.set i (a[i] + 1), by simp [incrAt, getAt_ok h, setAt_ok _ h], by simp, ?_⟩
  intro v
  by_cases hv : v = i
  · subst hv; simp [h]
  · simp [hv, Ne.symm hv]

/-- `a[i]++; a[j]++` -/
theorem incrAt_two (a : Array Int) (i j : Nat) (hi : i < a.size) (hj : j < a.size) :
    ∃ d a', incrAt a i = .ok d ∧ incrAt d j = .ok a' ∧ a'.size = a.size ∧
      ∀ v, a'[v]? = (a[v]?).map fun x => x + (if v = i then 1 else 0) + (if v = j then 1 else 0) := by
  obtain ⟨d1, e1, s1, g1⟩ := incrAt_ok a i hi
  obtain ⟨d2, e2, s2, g2⟩ := incrAt_ok d1 j (by rw [s1]; exact hj)
  refine ⟨d1, d2, e1, e2, by rw [s2, s1], fun v => ?_⟩
  rw [g2 v, g1 v, Option.map_map]; rfl

/-- one round of the counting loop of `NewDense` -/
def ndStep (edges : Array Nat) (st : CountSt) (p : Nat × Nat) : Outcome CountSt := do
  let b ← getAt edges st.index
  if b > 0 then
    let d ← incrAt st.deg p.1
    let d ← incrAt d p.2
    pure ⟨d, st.m + 1, st.index + 1⟩
  else pure ⟨st.deg, st.m, st.index + 1⟩

theorem ndFold (edges : Array Nat) (l : List (Nat × Nat)) (st : CountSt)
    (hpos : ∀ k (h : k < l.length), pos l[k] = st.index + k)
    (hsize : st.index + l.length ≤ edges.size)
    (hr : ∀ p ∈ l, p.1 < st.deg.size ∧ p.2 < st.deg.size) :
    ∃ st', l.foldlM (ndStep edges) st = .ok st' ∧
      st'.m = st.m + (l.countP fun p => bitAt edges (pos p)) ∧ st'.deg.size = st.deg.size ∧
      ∀ v, st'.deg[v]? = (st.deg[v]?).map fun (x : Int) =>
        x + ((l.countP fun p => bitAt edges (pos p) && p.1 == v : Nat) : Int) +
          ((l.countP fun p => bitAt edges (pos p) && p.2 == v : Nat) : Int) := by
  induction l generalizing st with
  | nil => exact ⟨st, rfl, by simp, rfl, by intro v; cases st.deg[v]? <;> simp⟩
  | cons p t ih =>
    have hp0 : pos p = st.index := by have := hpos 0 (by simp); simpa using this
    have hidx : st.index < edges.size := by simp at hsize; omega
    have hbit : bitAt edges (pos p) = decide (0 < edges[st.index]) := by
      simp [bitAt, hp0, Array.getD, hidx]
    obtain ⟨hp1, hp2⟩ := hr p (by simp)
    have htail : ∀ (st1 : CountSt), st1.index = st.index + 1 → st1.deg.size = st.deg.size →
        (∀ k (h : k < t.length), pos t[k] = st1.index + k) ∧ st1.index + t.length ≤ edges.size ∧
        (∀ q ∈ t, q.1 < st1.deg.size ∧ q.2 < st1.deg.size) := by
      intro st1 h1 h2
      refine ⟨?_, by simp at hsize; omega, by intro q hq; rw [h2]; exact hr q (by simp [hq])⟩
      intro k hk
      have := hpos (k + 1) (by simp; omega)
      simp only [List.getElem_cons_succ] at this
      omega
    simp only [List.foldlM_cons, ndStep, getAt_ok hidx, Outcome.bind_ok]
    by_cases hb : 0 < edges[st.index]
    · obtain ⟨d1, d2, e1, e2, s2, g2⟩ := incrAt_two st.deg p.1 p.2 hp1 hp2
      simp only [gt_iff_lt, hb, ↓reduceIte, e1, Outcome.bind_ok, e2, Outcome.pure_eq]
      obtain ⟨a1, a2, a3⟩ := htail ⟨d2, st.m + 1, st.index + 1⟩ rfl s2
      obtain ⟨st', f1, f2, f3, f4⟩ := ih ⟨d2, st.m + 1, st.index + 1⟩ a1 a2 a3
      refine ⟨st', f1, ?_, f3.trans s2, ?_⟩
      · rw [f2]; simp only [List.countP_cons, hbit, hb, decide_true, ↓reduceIte]; push_cast; ring
      · intro v
        rw [f4 v, g2 v, Option.map_map]
        congr 1; funext x
        simp only [Function.comp, List.countP_cons, hbit, hb, decide_true, Bool.true_and, beq_iff_eq,
          eq_comm (a := v), Nat.cast_add, Nat.cast_ite, Nat.cast_one, Nat.cast_zero]
        ring
    · obtain ⟨a1, a2, a3⟩ := htail ⟨st.deg, st.m, st.index + 1⟩ rfl rfl
      obtain ⟨st', f1, f2, f3, f4⟩ := ih ⟨st.deg, st.m, st.index + 1⟩ a1 a2 a3
      simp only [gt_iff_lt, hb, ↓reduceIte, Outcome.pure_eq, Outcome.bind_ok]
      refine ⟨st', f1, ?_, f3, ?_⟩
      · rw [f2]; simp [hbit, hb]
      · intro v; rw [f4 v]; simp [hbit, hb]

theorem countP_or_disjoint {α : Type} (l : List α) (p q : α → Bool) (h : ∀ x ∈ l, ¬ (p x = true ∧ q x = true)) :
    l.countP (fun x => p x || q x) = l.countP p + l.countP q := by
  induction l with
  | nil => rfl
  | cons x t ih =>
    rw [List.countP_cons, List.countP_cons, List.countP_cons, ih fun y hy => h y (List.mem_cons_of_mem _ hy)]
    cases hp : p x
    · cases q x <;> simp only [Bool.or_false, Bool.or_true, Bool.false_eq_true, ↓reduceIte] <;> omega
    · cases hq : q x
      · simp only [Bool.or_false, Bool.false_eq_true, ↓reduceIte]; omega
      · exact absurd ⟨hp, hq⟩ (h x (List.mem_cons_self ..))

theorem countP_and_or (l : List (Nat × Nat)) (a b c : Nat × Nat → Bool) (h : ∀ p ∈ l, ¬ (b p = true ∧ c p = true)) :
    l.countP (fun p => a p && (b p || c p)) = l.countP (fun p => a p && b p) + l.countP (fun p => a p && c p) := by
  rw [← countP_or_disjoint l _ _ fun p hp hc => h p hp ⟨(Bool.and_eq_true_iff.mp hc.1).2, (Bool.and_eq_true_iff.mp hc.2).2⟩]
  simp only [Bool.and_or_distrib_left]

theorem Dense.WF.sound {d : Dense} (h : d.WF) : GraphI.Sound d.toI d.abs where
  n := rfl
  m := by simp [Dense.toI, h.m_eq]
  isEdge := by
    intro u v _ _
    have hs : d.edges.size = tri d.n := h.size_edges
    simp [Dense.toI, Dense.isEdge_eq d hs, Dense.abs_adj d hs]
  neighbours := by
    intro v hv
    exact Dense.neighbours_eq d h.size_edges v hv _ (h.deg_eq v hv) (by omega)
  degrees := by
    simp only [Dense.toI, Outcome.ok.injEq]
    apply List.ext_getElem?
    intro v
    simp only [Array.getElem?_toList, G.degrees, List.map_map]
    by_cases hv : v < d.n
    · rw [h.deg_eq v hv]
      simp [List.getElem?_map, List.getElem?_range hv, Dense.abs]
    · have h1 : d.deg.size ≤ v := by rw [h.size_deg]; omega
      have h2 : d.abs.n ≤ v := by simp only [Dense.abs]; omega
      rw [Array.getElem?_eq_none h1]
      simp [h2]

theorem newDenseNil_wf (n : Nat) : (newDenseNil n).WF ∧ (newDenseNil n).abs = ⟨n, fun _ _ => false⟩ := by
  have hs : (newDenseNil n).edges.size = tri (newDenseNil n).n := Array.size_replicate ..
  have habs : (newDenseNil n).abs = ⟨n, fun _ _ => false⟩ :=
    Dense.abs_eq _ hs ⟨fun _ _ => rfl, fun _ => rfl, fun _ _ h => nomatch h⟩ rfl fun u v _ _ => bitAt_zeros _ _
  obtain ⟨hm, hd⟩ := GraphRep.empty_counts (g := ⟨n, fun _ _ => false⟩) fun _ _ => rfl
  refine ⟨⟨hs, Array.size_replicate .., ?_, fun v hv => ?_⟩, habs⟩
  · rw [habs, hm]; rfl
  · rw [habs, hd v]; exact Array.getElem?_replicate.trans (if_pos hv)

theorem newDense_some (n : Nat) (edges : Array Nat) (hs : edges.size = tri n) :
    ∃ d, newDense n (some edges) = .ok d ∧ d.n = n ∧ d.edges = edges ∧ d.WF := by
  have hne : ¬ edges.size ≠ n * (n - 1) / 2 := by simp [hs, tri]
  obtain ⟨st', f1, f2, f3, f4⟩ := ndFold edges (pairs n) ⟨Array.replicate n 0, 0, 0⟩
    (by intro k hk; simpa using pos_getElem_pairs n k hk)
    (by simp [length_pairs, hs])
    (by intro p hp; have := mem_pairs.mp hp; simp; omega)
  refine ⟨⟨n, st'.m, st'.deg, edges⟩, ?_, rfl, rfl, ?_⟩
  · simp only [newDense, hne, ↓reduceIte]
    have : (fun (st : CountSt) (p : Nat × Nat) => (do
        let b ← getAt edges st.index
        if b > 0 then
          let d ← incrAt st.deg p.1
          let d ← incrAt d p.2
          pure ⟨d, st.m + 1, st.index + 1⟩
        else pure ⟨st.deg, st.m, st.index + 1⟩ : Outcome CountSt)) = ndStep edges := rfl
    rw [this, f1]; rfl
  · let d : Dense := ⟨n, st'.m, st'.deg, edges⟩
    have hsd : d.edges.size = tri d.n := hs
    have hadj : ∀ p ∈ pairs n, d.abs.adj p.1 p.2 = bitAt edges (pos p) := by
      intro p hp
      obtain ⟨h1, h2⟩ := mem_pairs.mp hp
      exact Dense.abs_adj_lt d hsd h1 h2
    refine ⟨hs, by simpa using f3, ?_, ?_⟩
    · show st'.m = ((d.abs).m : Int)
      rw [f2, m_eq_countP]
      simp only [Int.zero_add, Nat.cast_inj]
      exact (List.countP_congr (by intro p hp; simp [hadj p hp])).symm
    · intro v hv
      show st'.deg[v]? = some ((d.abs.deg v : Nat) : Int)
      rw [f4 v]
      have hv' : v < n := hv
      simp only [Array.getElem?_replicate, hv', ↓reduceIte, Option.map_some, Int.zero_add, Option.some.injEq]
      have hwf := Dense.abs_wf d hsd
      have h1 : (pairs n).countP (fun p => d.abs.adj p.1 p.2 && (p.1 == v || p.2 == v)) = if v < n then _ else 0 :=
        GraphRep.countP_upperPairs_incident d.abs.adj hwf.symm hwf.irrefl n v
      simp only [hv', ↓reduceIte] at h1
      have h2 : d.abs.deg v = (List.range n).countP (fun u => d.abs.adj v u) := by
        simp [G.deg, G.nbrs, List.countP_eq_length_filter, Dense.abs, d]
      have e1 : (pairs n).countP (fun p => d.abs.adj p.1 p.2 && (p.1 == v || p.2 == v)) =
          (pairs n).countP (fun p => bitAt edges (pos p) && (p.1 == v || p.2 == v)) :=
        List.countP_congr (by intro p hp; simp [hadj p hp])
      have e2 := countP_and_or (pairs n) (fun p => bitAt edges (pos p)) (fun p => p.1 == v) (fun p => p.2 == v) (by
        intro p hp ⟨c1, c2⟩
        have := (mem_pairs.mp hp).1
        simp at c1 c2; omega)
      rw [h2, ← h1, e1, e2]
      push_cast; ring

end Construct
