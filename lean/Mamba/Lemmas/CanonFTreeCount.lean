import Mamba.Lemmas.CanonFTreeDef
/-!
# The counting loop of `refineIter` computes the number of neighbours in the splitter bin (`CountSem`)

`countStep` only increments `timesSeen[v]`; the loop over the positions `[bs, di)` of `order` therefore adds to `timesSeen[u]`
the number of pairs (position `p`, occurrence of `u` in `nb[order[p]]`) (`segCount`). With duplicate-free symmetric
neighbour lists and `PartInv` (the positions `[bs, di)` hold exactly the vertices of cell `i`) this is the number of
neighbours of `u` in cell `i`.
-/
namespace CanonF

theorem countStep_ts {ic ts mc nm ts' mc' nm' : Sl Nat} {v : Nat}
    (h : countStep ic v (ts, mc, nm) = .ok (ts', mc', nm')) :
    ts'.len = ts.len ∧ (ts.WF → ts'.WF) ∧ v < ts.len ∧
      ∀ u, rfTv ts' u = rfTv ts u + (if u = v then 1 else 0) := by
  obtain ⟨t, _, _, hg, hs, _⟩ := countStep_ok h
  refine ⟨Sl.set_len hs, fun hw => Sl.set_wf hw hs, Sl.get_lt hg, ?_⟩
  intro u
  rw [rfTv_set hs]
  by_cases hu : u = v
  · subst hu; rw [if_pos rfl, if_pos rfl, rfTv_of_get hg]
  · rw [if_neg hu, if_neg hu]; rfl

theorem countList_ts {ic : Sl Nat} : ∀ (l : List Nat) {ts mc nm ts' mc' nm' : Sl Nat},
    forList (countStep ic) l (ts, mc, nm) = .ok (ts', mc', nm') →
    ts'.len = ts.len ∧ (ts.WF → ts'.WF) ∧ ∀ u, rfTv ts' u = rfTv ts u + l.count u := by
  intro l
  induction l with
  | nil =>
    intro ts mc nm ts' mc' nm' h
    simp only [forList, Outcome.ok.injEq, Prod.mk.injEq] at h
    obtain ⟨rfl, _, _⟩ := h
    exact ⟨rfl, id, fun u => by simp⟩
  | cons x xs ih =>
    intro ts mc nm ts' mc' nm' h
    rw [forList] at h
    cases hf : countStep ic x (ts, mc, nm) with
    | ok s1 =>
      obtain ⟨ts1, mc1, nm1⟩ := s1
      rw [hf] at h
      obtain ⟨a1, a2, _, a4⟩ := countStep_ts hf
      obtain ⟨b1, b2, b3⟩ := ih h
      refine ⟨b1.trans a1, fun hw => b2 (a2 hw), ?_⟩
      intro u
      rw [b3, a4, List.count_cons, Nat.add_assoc, Nat.add_comm (if u = x then 1 else 0)]
      congr 2
      exact if_congr (by rw [beq_iff_eq]; exact eq_comm) rfl rfl
    | panic => rw [hf] at h; cases h
    | outOfFuel => rw [hf] at h; cases h

def segCount (nb : Nbrs) (o : List Nat) (bs p u : Nat) : Nat :=
  ((rfSeg o bs p).map (fun w => (nb.getD w []).count u)).sum

theorem rfSeg_succ {l : List Nat} {bs p w : Nat} (h : bs ≤ p) (hw : l[p]? = some w) :
    rfSeg l bs (p + 1) = rfSeg l bs p ++ [w] := by
  unfold rfSeg
  rw [Nat.sub_add_comm h, List.take_add_one, List.getElem?_drop, Nat.add_sub_cancel' h, hw]
  rfl

theorem countBinStep_ts {nb : Nbrs} {order ic ts mc nm ts' mc' nm' : Sl Nat} {p : Nat}
    (h : countBinStep nb order ic p (ts, mc, nm) = .ok (ts', mc', nm')) :
    ∃ w, order.toList[p]? = some w ∧ ts'.len = ts.len ∧ (ts.WF → ts'.WF) ∧
      ∀ u, rfTv ts' u = rfTv ts u + (nb.getD w []).count u := by
  unfold countBinStep at h
  cases hg : order.get p with
  | ok w =>
    rw [hg] at h; dsimp only at h
    cases hn : nbrsGet nb w with
    | ok l =>
      rw [hn] at h; dsimp only at h
      have hl : nb.getD w [] = l := by
        unfold nbrsGet at hn
        cases hx : nb[w]? with
        | some l' => rw [hx] at hn; simp at hn; subst hn; simp [Array.getD_eq_getD_getElem?, hx]
        | none => rw [hx] at hn; simp at hn
      refine ⟨w, Sl.get_eq_toList.1 hg, ?_⟩
      rw [hl]
      exact countList_ts l h
    | panic => rw [hn] at h; cases h
    | outOfFuel => rw [hn] at h; cases h
  | panic => rw [hg] at h; cases h
  | outOfFuel => rw [hg] at h; cases h

theorem countLoop_ts {nb : Nbrs} {order ic ts mc nm ts' mc' nm' : Sl Nat} {k bs : Nat}
    (h : forRange (countBinStep nb order ic) k bs (ts, mc, nm) = .ok (ts', mc', nm')) :
    ts'.len = ts.len ∧ (ts.WF → ts'.WF) ∧
      ∀ u, rfTv ts' u = rfTv ts u + segCount nb order.toList bs (bs + k) u := by
  have := forRange_inv (countBinStep nb order ic)
    (fun p (st : Sl Nat × Sl Nat × Sl Nat) => st.1.len = ts.len ∧ (ts.WF → st.1.WF) ∧
      ∀ u, rfTv st.1 u = rfTv ts u + segCount nb order.toList bs p u) k bs (ts, mc, nm) (ts', mc', nm')
    ⟨rfl, id, fun u => by simp [segCount, rfSeg]⟩
    (by
      rintro p ⟨t1, m1, n1⟩ ⟨t2, m2, n2⟩ hp1 _ ⟨a1, a2, a3⟩ hf
      obtain ⟨w, hw, b1, b2, b3⟩ := countBinStep_ts hf
      refine ⟨b1.trans a1, fun hw => b2 (a2 hw), ?_⟩
      intro u
      dsimp only at a3 ⊢
      rw [b3, a3, segCount, segCount, rfSeg_succ hp1 hw, List.map_append, List.sum_append, Nat.add_assoc]
      rfl) h
  exact this

theorem countP_mem_swap {l1 l2 : List Nat} (h1 : l1.Nodup) (h2 : l2.Nodup) (q : Nat → Bool) :
    l1.countP (fun w => decide (w ∈ l2) && q w) = l2.countP (fun w => decide (w ∈ l1) && q w) := by
  have hp : (l1.filter (fun w => decide (w ∈ l2))).Perm (l2.filter (fun w => decide (w ∈ l1))) := by
    rw [List.perm_ext_iff_of_nodup (h1.filter _) (h2.filter _)]
    intro a
    simp only [List.mem_filter, decide_eq_true_eq]
    exact And.comm
  have := hp.countP_eq q
  rw [List.countP_filter, List.countP_filter] at this
  rw [show (fun w => decide (w ∈ l2) && q w) = (fun a => q a && decide (a ∈ l2)) from
      funext fun a => Bool.and_comm _ _,
    show (fun w => decide (w ∈ l1) && q w) = (fun a => q a && decide (a ∈ l1)) from
      funext fun a => Bool.and_comm _ _]
  exact this

theorem segCount_eq {n : Nat} {nb : Nbrs} {op : OP} {i bs di : Nat} (hp : PartInv n op) (hnb : NbOK nb n)
    (hbs : (0 :: op.binDividers.toList)[i]? = some bs) (hdi : op.binDividers.toList[i]? = some di)
    (v : Nat) : segCount nb op.order.toList bs di v = cntIn nb op i v := by
  have hs : op.binDividers.toList.Pairwise (· < ·) := (List.pairwise_cons.1 hp.sorted).2
  have hle : bs ≤ di := Nat.le_of_lt (rf_sorted_start_lt hp.sorted hbs hdi)
  -- every summand is 0/1
  have e1 : segCount nb op.order.toList bs di v =
      (rfSeg op.order.toList bs di).countP (fun w => decide (w ∈ nb.getD v [])) := by
    unfold segCount
    generalize rfSeg op.order.toList bs di = S
    induction S with
    | nil => simp
    | cons w ws ih =>
      rw [List.map_cons, List.sum_cons, ih, List.countP_cons, (hnb.nodup w).count]
      have : v ∈ nb.getD w [] ↔ w ∈ nb.getD v [] := ⟨hnb.symm w v, hnb.symm v w⟩
      by_cases hm : w ∈ nb.getD v []
      · rw [if_pos (this.2 hm), decide_eq_true hm, if_pos rfl]; omega
      · rw [if_neg (mt this.1 hm), decide_eq_false hm, if_neg (by simp)]; omega
  rw [e1, ← count_rfSeg hp.perm hs hp.inCell hbs hdi hle]
  have e2 := countP_mem_swap (List.nodup_range (n := n)) (hnb.nodup v)
    (fun w => decide (op.inCell.toList[w]? = some i))
  rw [show (fun w => decide (op.inCell.toList[w]? = some i) && decide (w ∈ nb.getD v [])) =
      (fun w => decide (w ∈ nb.getD v []) && decide (op.inCell.toList[w]? = some i)) from
    funext fun a => Bool.and_comm _ _, e2]
  unfold cntIn
  apply List.countP_congr
  intro w hw
  have hwn : w < n := (hnb.lt v w hw).2
  have hl : w < op.inCell.toList.length := by rw [hp.length_inCell]; exact hwn
  unfold cellOf
  rw [List.getElem?_eq_getElem hl]
  simp [hwn]

theorem countLoop_sem : CountSem := by
  intro n nb op ts mc nm ts' mc' nm' i bs di hp hnb hbs hdi hw hlen hz h
  have hlt : bs < di := rf_sorted_start_lt hp.sorted hbs hdi
  obtain ⟨a1, a2, a3⟩ := countLoop_ts h
  rw [show bs + (di - bs) = di by omega] at a3
  refine ⟨a1.trans hlen, a2 hw, ?_⟩
  intro v hv
  have hl : v < ts'.toList.length := by rw [Sl.length_toList _ (a2 hw), a1, hlen]; exact hv
  have h1 := a3 v
  unfold rfTv at h1
  rw [hz v hv, List.getElem?_eq_getElem hl] at h1
  rw [List.getElem?_eq_getElem hl, ← segCount_eq hp hnb hbs hdi v]
  simpa using h1

end CanonF
