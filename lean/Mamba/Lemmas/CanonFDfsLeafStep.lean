import Mamba.Lemmas.CanonFDfsLoop
/-!
# What `leafNode` does, as the D-layer sees it

`LeafStep` lists the four branches of `leafNode` at a leaf of the search (`DNodev`, discrete partition): guard, successor
state, new ghost data, new levels. It is computed once (`leaf_step`); every layer of invariants then has one theorem per
branch that takes the data of the branch as a hypothesis.
* `LeafAt`: what holds at every leaf (clean certificate, the current node is a leaf of the tree, …).
* first leaf (`FirstShape`), leaf better than the best (`AcceptShape`), any other leaf: the stacks stay, the vertex path
  loses its last entry.
* leaf with the certificate of a stored leaf `X`, the best or else the first (`EqLeafStep`): `firstLeafOrbits` (and
  `bestOrbits`, if `X` is the best leaf) is merged along `γ = transport n oX order`, an automorphism because the certificates
  are equal; `γ` is recorded if it merged anything; Heuristic 1 jumps back against the index path of `X` (`BackjumpAt`).
-/
namespace CanonF
open Relation

structure FirstShape (n : Nat) (s s1 : LS) : Prop where
  op : s1.op = s.op
  path : s1.path = s.path
  choices : s1.choices = s.choices
  count : s1.count = 1
  ngens : s1.ngens = s.ngens
  best : s1.currentBest.toList = s.op.value.toList
  first : s1.firstLeaf.toList = s.op.value.toList
  bestPerm : s1.bestPerm.toList = s.op.order.toList
  bestInv : InvOf s.op.order.toList s1.bestPermInv
  flInv : InvOf s.op.order.toList s1.flPermInv
  bestOrb : s1.bestOrbits = Disjoint.new n
  bpLen : s1.bestPath.len = n ∧ s1.bestPath.WF
  fpLen : s1.flPath.len = n ∧ s1.flPath.WF
  bestPath : ∀ i, i < s.path.length → s1.bestPath.toList[i]? = s.path.reverse[i]?
  flPath : ∀ i, i < s.path.length → s1.flPath.toList[i]? = s.path.reverse[i]?
  gens : s1.gens = s.gens
  flOrb : s1.flOrbits = Disjoint.new n

theorem leafNode_firstShape {n m : Nat} {nb : Nbrs} {s s1 : LS} (hc : Core n s) (hg : GInv n m nb s)
    (hbp : s.bestPath.len = n ∧ s.bestPath.WF) (hfp : s.flPath.len = n ∧ s.flPath.WF)
    (hvlen : s.op.value.toList.length = m) (hplen : s.path.length ≤ n) (hcnt : s.count = 0)
    (h : leafNode n m s = .ok s1) : FirstShape n s s1 := by
  cases leafNode_case h with
  | @first cb pinv' orb' _ hrs hloop =>
    have S := store_facts hc hg hloop
    refine ⟨rfl, rfl, rfl, by show s.count + 1 = 1; omega, rfl, store_cert hrs hvlen,
      Sl.copyFrom_toList _ hg.flLen.2 _ (by rw [hvlen, hg.flLen.1]), S.bestPerm, S.inv, ?_, S.orb,
      ⟨by show (s.bestPath.copyFrom s.path.reverse).len = n; rw [Sl.copyFrom_len]; exact hbp.1, Sl.copyFrom_wf hbp.2 _⟩,
      ⟨by show (s.flPath.copyFrom s.path.reverse).len = n; rw [Sl.copyFrom_len]; exact hfp.1, Sl.copyFrom_wf hfp.2 _⟩, ?_, ?_, rfl, S.flOrb⟩
    · intro i x hx
      show (s.flPermInv.copyFrom pinv'.toList).toList[x]? = some i
      rw [S.flInv]; exact S.inv i x hx
    · intro i hi
      exact copyFrom_toList_prefix hbp.2 _ (by rw [List.length_reverse, hbp.1]; exact hplen) (by rw [List.length_reverse]; exact hi)
    · intro i hi
      exact copyFrom_toList_prefix hfp.2 _ (by rw [List.length_reverse, hfp.1]; exact hplen) (by rw [List.length_reverse]; exact hi)
  | accept hpos _ _ _ => omega
  | eq hpos _ _ _ _ _ => omega
  | other hpos _ _ _ => omega

structure AcceptShape (n : Nat) (s s1 : LS) (cb bpi : Sl Nat) : Prop where
  s1_eq : s1 = { s with count := s.count + 1, currentBest := cb, bestPath := s.bestPath.copyFrom s.path.reverse,
                        bestPerm := s.bestPerm.copyFrom s.op.order.toList, bestPermInv := bpi,
                        bestOrbits := Disjoint.new n }
  best : cb.toList = s.op.value.toList
  bestPerm : (s.bestPerm.copyFrom s.op.order.toList).toList = s.op.order.toList
  bestInv : InvOf s.op.order.toList bpi

structure LeafAt (n m : Nat) (nb : Nbrs) (rf : Nat) (r : IR.St) (gh : Gh) (lv : List (Nat × Nat)) (s : LS) : Prop where
  clean : VClean nb s.op
  spl : s.op.spl = n
  val : s.op.value.toList = certPos nb s.op.order.toList n
  vlen : s.op.value.toList.length = m
  path : IR.IsPath (irG n nb) rf r gh.vs
  len : gh.vs.length = s.path.length
  vsn : gh.vs.length ≤ n
  frames : FramesOK n nb rf r gh.vs s.path s.choices lv
  mtch : Match n s.op (IR.nodeAt (irG n nb) rf r gh.vs)
  leafT : IR.target (irG n nb) (IR.nodeAt (irG n nb) rf r gh.vs) = none
  leafC : (IR.nodeAt (irG n nb) rf r gh.vs).c = IR.tab n (fun v => s.op.order.toList.idxOf v)
  dropLast : ∀ L, L < s.path.length → gh.vs.dropLast.take L = gh.vs.take L

theorem orbitLoop_bestOrb {n : Nat} {order pinv : Sl Nat} {o1 : List Nat} {ds ds' : Disjoint.DS} {b0 : Bool}
    {bgs : List (List Nat)} (ho1 : o1.Perm (List.range n)) (hinvof : InvOf o1 pinv)
    (hds : Disjoint.Inv ds) (hsz : ds.size = n)
    (horb : ∀ a b, a < n → b < n → Disjoint.rep ds a = Disjoint.rep ds b →
      EqvGen (fun x y => ∃ γ, γ ∈ bgs ∧ γ[x]? = some y) a b)
    (hloop : forRange (orbitStep order pinv) n 0 (ds, false) = .ok (ds', b0)) :
    Disjoint.Inv ds' ∧ ds'.size = n ∧ ∀ a b, a < n → b < n → Disjoint.rep ds' a = Disjoint.rep ds' b →
      EqvGen (fun x y => ∃ γ, γ ∈ transport n o1 order.toList :: bgs ∧ γ[x]? = some y) a b := by
  obtain ⟨i1, i2, -, -, i5, -⟩ := orbitLoop_spec hds hsz hloop
  refine ⟨i1, i2, fun a b ha hb hab => ?_⟩
  apply eqvGen_of_imp _ (i5 a b ha hb hab)
  rintro x y ⟨hx, hy, hxy | ⟨p, hp, hv⟩⟩
  · apply eqvGen_of_imp _ (horb x y hx hy hxy)
    rintro u w ⟨γ, hγ, e⟩
    exact EqvGen.rel _ _ ⟨γ, List.mem_cons_of_mem _ hγ, e⟩
  · refine EqvGen.rel _ _ ⟨_, List.mem_cons_self .., ?_⟩
    rw [← transport_eq (o2 := order.toList) (pinv := pinv.toList) ho1 hinvof, List.getElem?_map,
      List.getElem?_range hx]
    have hp' := Sl.get_eq_toList.1 hp
    have hv' := Sl.get_eq_toList.1 hv
    simp only [Option.map_some, List.getD_eq_getElem?_getD, hp', Option.getD_some, hv']

/-- Heuristic 1 at a leaf (state `s`, ghost data `gh`) against a stored leaf with vertex path `vsX`: `backJump` takes the
state `s'` (which has the stacks of `s`) to `s1` by dropping `j` frames; the new top frame `(p, c, st, sz)` of level
`ps.length` belongs to the deepest common ancestor of the two leaves, and the child on `vsX` comes later in its cell than
the child `c - st` on the current path -/
structure BackjumpAt (n : Nat) (nb : Nbrs) (rf : Nat) (r : IR.St) (gh : Gh) (lv : List (Nat × Nat)) (s s' s1 : LS)
    (vsX : List Nat) (j : Nat) (op' : OP) (p : Nat) (ps : List Nat) (c : Nat) (cs : List Nat) (st sz : Nat)
    (ls : List (Nat × Nat)) : Prop where
  s1_eq : s1 = { s' with op := op', path := s.path.drop j, choices := s.choices.drop j }
  hpd : s.path.drop j = p :: ps
  hcd : s.choices.drop j = c :: cs
  hld : lv.drop j = (st, sz) :: ls
  jl : j + ps.length + 1 = s.path.length
  dt : deageTimes j s.op = .ok op'
  lvl : LevelsOK s.op (p :: ps) (c :: cs) ((st, sz) :: ls)
  lvl' : LevelsOK op' (p :: ps) (c :: cs) ((st, sz) :: ls)
  frames : FramesOK n nb rf r gh.vs (p :: ps) (c :: cs) ((st, sz) :: ls)
  len : (p :: ps).length ≤ gh.vs.length
  aux : FrameAux n nb rf r gh s gh.vs false (p :: ps) (c :: cs) ((st, sz) :: ls)
  pre : gh.vs.take ps.length = vsX.take ps.length
  later : ∃ i v, c - st < i ∧ (cellL n nb rf r gh.vs ps.length st)[i]? = some v ∧ vsX[ps.length]? = some v

section
variable {n m : Nat} {nb : Nbrs} {rf : Nat} {r : IR.St}

theorem leaf_at (hnb : NbOK nb n) (hA : IR.InvA (irG n nb) r) (hD : IR.InvD (irG n nb) r)
    (hlenm : ∀ o : List Nat, o.Perm (List.range n) → (certPos nb o n).length = m)
    {gh : Gh} {lv : List (Nat × Nat)} {s : LS} (hI : MInv n m nb s) (hleaf : s.op.binDividers.len = n)
    (hJ : CertM n m nb lv false s) (h : DNodev n nb rf r gh lv s) : LeafAt n m nb rf r gh lv s := by
  have hc := hI.core
  obtain ⟨hvc, hspl⟩ := leaf_clean hc.part hleaf (hJ.2.2.1 rfl)
  have hval : s.op.value.toList = certPos nb s.op.order.toList n := by rw [← hspl]; exact hvc.val
  obtain ⟨hmt, ht2, hc2⟩ := walkNode_leaf hc h.1 hleaf
  have h1 := h.1.path
  have h3 := h.1.len
  exact ⟨hvc, hspl, hval, by rw [hval]; exact hlenm _ hc.part.perm, h1, h3,
    Nat.le_trans (Nat.le_add_left _ _) (IR.path_length_le (irG_wf hnb) hA hD h1).1, h.1.framesOK, hmt, ht2, hc2,
    fun L hL => take_dropLast gh.vs (by rw [h3]; exact Nat.le_sub_one_of_lt hL)⟩

theorem LeafAt.path_ne {gh : Gh} {lv : List (Nat × Nat)} {s : LS} (L : LeafAt n m nb rf r gh lv s)
    (hoff : NodeOff gh s gh.vs) (hcnt : 0 < s.count) : s.path ≠ [] :=
  fun he => hoff.ne_nil hcnt (List.eq_nil_of_length_eq_zero (by rw [L.len, he]; rfl))

theorem backjump_at (hnb : NbOK nb n) (hA : IR.InvA (irG n nb) r) (hD : IR.InvD (irG n nb) r)
    {gh : Gh} {lv : List (Nat × Nat)} {s s' s1 : LS} {ref : Sl Nat} {vsX o1 cert : List Nat} {pinv : Sl Nat}
    (hI : MInv n m nb s) (hlv : LevelsOK s.op s.path s.choices lv) (hDv : DNodev n nb rf r gh lv s)
    (hpos : 0 < s.count)
    (hbj : backJump s' ref = .ok s1) (e1 : s'.op = s.op) (e2 : s'.path = s.path) (e3 : s'.choices = s.choices)
    (hX : LeafRec n nb rf r vsX o1 cert pinv ref.toList) (hlen : ref.len = n ∧ ref.WF)
    (hoff : ¬ gh.vs = vsX.take gh.vs.length)
    (fut : ∀ {ps : List Nat} {c st sz : Nat}, FrameAux1 n nb rf r gh s gh.vs false ps c st sz →
      ∀ j w, j < c - st → (cellL n nb rf r gh.vs ps.length st)[j]? = some w →
        ¬ (gh.vs.take ps.length = vsX.take ps.length ∧ vsX[ps.length]? = some w)) :
    ∃ j op' p ps c cs st sz ls, BackjumpAt n nb rf r gh lv s s' s1 vsX j op' p ps c cs st sz ls := by
  obtain ⟨hw, -, -, haux, hoff'⟩ := hDv
  obtain ⟨j, op', p, ps, c, cs, st, sz, ls, hjl, hdt, es, hpd, hcd, hld, hlvd, hlvd', hfr, hpsl, hagree, hdiff⟩ :=
    backjump_leaf_frame hnb hA hD hI hlv hw hbj e1 e2 e3 hX hlen hoff (hoff'.ne_nil hpos)
  have hfa : FrameAux n nb rf r gh s gh.vs false (p :: ps) (c :: cs) ((st, sz) :: ls) := by
    have := haux.drop j; rwa [hpd, hcd, hld] at this
  obtain ⟨hpre, hch⟩ := backjump_frame_child hw.path hX hlvd hfr hpsl hagree hdiff (fut hfa.head)
  exact ⟨j, op', p, ps, c, cs, st, sz, ls, es, hpd, hcd, hld, hjl, hdt, hlvd, hlvd', hfr, hpsl, hfa, hpre, hch⟩

variable {gh : Gh} {lv : List (Nat × Nat)} {s s' s1 : LS} {vsX : List Nat} {j : Nat} {op' : OP}
  {p c st sz : Nat} {ps cs : List Nat} {ls : List (Nat × Nat)}

theorem BackjumpAt.levelsOK (B : BackjumpAt n nb rf r gh lv s s' s1 vsX j op' p ps c cs st sz ls) :
    LevelsOK s1.op s1.path s1.choices (lv.drop j) := by
  rw [B.s1_eq]
  show LevelsOK op' (s.path.drop j) (s.choices.drop j) (lv.drop j)
  rw [B.hpd, B.hcd, B.hld]; exact B.lvl'

end

/-- What `leafNode` does at a leaf with the certificate of the stored leaf `X` (`which`: the best leaf, or the first leaf):
orbit loop against `X`, generator recorded, back-jump against the index path of `X`; `bo`, `bgs'` are `bestOrbits` and the
ghost list of its generators after the step. -/
structure EqLeafStep (n : Nat) (nb : Nbrs) (rf : Nat) (r : IR.St) (gh : Gh) (lv : List (Nat × Nat)) (s s1 : LS)
    (vsX oX certX : List Nat) (pinvX refX : Sl Nat) (bo fo : Disjoint.DS) (merges : Bool) (gens' : Array (Sl Nat))
    (ngens' : Nat) (bgs' : List (List Nat)) (j : Nat) (op' : OP) (p : Nat) (ps : List Nat) (c : Nat) (cs : List Nat)
    (st sz : Nat) (ls : List (Nat × Nat)) : Prop where
  pos : 0 < s.count
  stored : LeafRec n nb rf r vsX oX certX pinvX refX.toList
  which : (vsX = gh.vsB ∧ bgs' = transport n oX s.op.order.toList :: gh.bgs) ∨ (vsX = gh.vsF ∧ bgs' = gh.bgs)
  cert : certPos nb oX n = certPos nb s.op.order.toList n
  leafT : IR.target (irG n nb) (IR.nodeAt (irG n nb) rf r gh.vs) = none
  leafC : (IR.nodeAt (irG n nb) rf r gh.vs).c = IR.tab n (fun v => s.op.order.toList.idxOf v)
  loop : forRange (orbitStep s.op.order pinvX) n 0 (s.flOrbits, false) = .ok (fo, merges)
  record : (if merges = true then recordGenerator n s.op.order pinvX s.gens s.ngens
    else Outcome.ok (s.gens, s.ngens)) = .ok (gens', ngens')
  bestOrb : Disjoint.Inv bo ∧ bo.size = n ∧ ∀ a b, a < n → b < n → Disjoint.rep bo a = Disjoint.rep bo b →
    EqvGen (fun x y => ∃ γ, γ ∈ bgs' ∧ γ[x]? = some y) a b
  jump : BackjumpAt n nb rf r gh lv s
    { s with count := s.count + 1, bestOrbits := bo, flOrbits := fo, gens := gens', ngens := ngens' } s1 vsX j op' p ps
    c cs st sz ls

inductive LeafStep (n : Nat) (nb : Nbrs) (rf : Nat) (r : IR.St) (gh : Gh) (lv : List (Nat × Nat)) (s s1 : LS) :
    Gh → List (Nat × Nat) → Prop
  | first : s.count = 0 → FirstShape n s s1 → LeafStep n nb rf r gh lv s s1
      { vs := gh.vs.dropLast, oF := s.op.order.toList, vsF := gh.vs, vsB := gh.vs, bgs := [] } lv
  | accept {cb bpi : Sl Nat} : 0 < s.count → compare s.op.value.toList s.currentBest.toList = 1 →
      AcceptShape n s s1 cb bpi →
      LeafStep n nb rf r gh lv s s1 { gh with vs := gh.vs.dropLast, vsB := gh.vs, bgs := [] } lv
  | eq {vsX oX certX : List Nat} {pinvX refX : Sl Nat} {bo fo : Disjoint.DS} {merges : Bool} {gens' : Array (Sl Nat)}
      {ngens' : Nat} {bgs' : List (List Nat)} {j : Nat} {op' : OP} {p c st sz : Nat} {ps cs : List Nat}
      {ls : List (Nat × Nat)} :
      EqLeafStep n nb rf r gh lv s s1 vsX oX certX pinvX refX bo fo merges gens' ngens' bgs' j op' p ps c cs st sz ls →
      LeafStep n nb rf r gh lv s s1 { gh with vs := gh.vs.take ps.length, bgs := bgs' } (lv.drop j)
  | other : 0 < s.count → compare s.op.value.toList s.currentBest.toList ≠ 1 →
      s.op.value.toList ≠ s.currentBest.toList → s.op.value.toList ≠ s.firstLeaf.toList →
      s1 = { s with count := s.count + 1 } → LeafStep n nb rf r gh lv s s1 { gh with vs := gh.vs.dropLast } lv

section
variable {n m : Nat} {nb : Nbrs} {rf : Nat} {r : IR.St}

theorem LeafStep.levelsOK {gh gh' : Gh} {lv lv1 : List (Nat × Nat)} {s s1 : LS}
    (h : LeafStep n nb rf r gh lv s s1 gh' lv1) (hlv : LevelsOK s.op s.path s.choices lv) :
    LevelsOK s1.op s1.path s1.choices lv1 := by
  cases h with
  | first _ S => rw [S.op, S.path, S.choices]; exact hlv
  | accept _ _ S => rw [S.s1_eq]; exact hlv
  | eq E => exact E.jump.levelsOK
  | other _ _ _ _ e => rw [e]; exact hlv

variable (hnb : NbOK nb n) (hA : IR.InvA (irG n nb) r) (hD : IR.InvD (irG n nb) r)

include hnb hA hD in
theorem leaf_step {lv : List (Nat × Nat)} {s s1 : LS} {gh : Gh} (hI : MInv n m nb s)
    (hlv : LevelsOK s.op s.path s.choices lv) (L : LeafAt n m nb rf r gh lv s) (hJ : CertM n m nb lv false s)
    (h : DNodev n nb rf r gh lv s) (hs1 : leafNode n m s = .ok s1) :
    ∃ gh' lv1, LeafStep n nb rf r gh lv s s1 gh' lv1 := by
  have hc := hI.core
  have hG := h.2.1
  have hoff := h.2.2.2.2
  cases leafNode_case hs1 with
  | @first cb pinv' orb' hcnt hrs hloop =>
    exact ⟨_, _, .first hcnt (leafNode_firstShape hc hJ.1 hG.bpLen hG.fpLen L.vlen (L.len ▸ L.vsn) hcnt hs1)⟩
  | @accept cb pinv' orb' hpos hcmp hrs hloop =>
    have S := store_facts hc hJ.1 hloop
    exact ⟨_, _, .accept hpos hcmp ⟨by rw [S.orb]; rfl, store_cert hrs L.vlen, S.bestPerm, S.inv⟩⟩
  | @eq pinv ref bo fo merges gens' ngens' _ hpos hcmp hX hloop hrec hbj =>
    cases hX with
    | @best bo mm heq hl1 =>
      have hB := hG.best hpos
      have hcert : certPos nb s.bestPerm.toList n = certPos nb s.op.order.toList n := by rw [← hB.cert, ← heq, L.val]
      obtain ⟨j, op', p, ps, c, cs, st, sz, ls, B⟩ := backjump_at hnb hA hD hI hlv h hpos hbj rfl rfl rfl hB hG.bpLen
        (hoff hpos).2 (fun h => h.futB hpos)
      obtain ⟨d1, d2, d3⟩ := hG.bestOrb hpos
      exact ⟨_, _, .eq ⟨hpos, hB, Or.inl ⟨rfl, rfl⟩, hcert, L.leafT, L.leafC, hloop, hrec,
        orbitLoop_bestOrb hB.perm hB.inv d1 d2 d3 hl1, B⟩⟩
    | first hne heq =>
      have LF := hG.first hpos
      have hcert : certPos nb gh.oF n = certPos nb s.op.order.toList n := by rw [← LF.cert, ← heq, L.val]
      obtain ⟨j, op', p, ps, c, cs, st, sz, ls, B⟩ := backjump_at hnb hA hD hI hlv h hpos hbj rfl rfl rfl LF hG.fpLen
        (hoff hpos).1 (fun h => h.futF hpos)
      exact ⟨_, _, .eq ⟨hpos, LF, Or.inr ⟨rfl, rfl⟩, hcert, L.leafT, L.leafC, hloop, hrec, hG.bestOrb hpos, B⟩⟩
  | other hpos hcmp hne1 hne2 => exact ⟨_, _, .other hpos hcmp hne1 hne2 rfl⟩

end
end CanonF
