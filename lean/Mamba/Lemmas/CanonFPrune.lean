import Mamba.Lemmas.CanonFCertExpand
import Mathlib.Data.List.Lex
/-!
# Soundness of the partial-certificate pruning at list level

`ints.Compare` decides the lexicographic order of `List Nat` (`compare_spec`), and a strict difference inside the common
length survives extending both sides (`compare_append_lt`). The certificate of a prefix is a prefix of the full certificate
(`certPos_split`); so when `worseTest` holds for the certificate of the singleton prefix of an order `o`, every complete
order that agrees with `o` on the prefix has a full certificate smaller than `currentBest` (`worseTest_sound`).
-/
namespace CanonF

theorem compare_spec (a b : List Nat) :
    (compare a b = -1 ∧ a < b) ∨ (compare a b = 0 ∧ a = b) ∨ (compare a b = 1 ∧ b < a) := by
  induction a generalizing b with
  | nil =>
    cases b with
    | nil => exact Or.inr (Or.inl ⟨rfl, rfl⟩)
    | cons q bs => exact Or.inl ⟨rfl, List.nil_lt_cons q bs⟩
  | cons p as ih =>
    cases b with
    | nil => exact Or.inr (Or.inr ⟨rfl, List.nil_lt_cons p as⟩)
    | cons q bs =>
      rw [compare]
      by_cases h1 : p > q
      · rw [if_pos h1]; exact Or.inr (Or.inr ⟨rfl, List.cons_lt_cons_iff.2 (Or.inl h1)⟩)
      · rw [if_neg h1]
        by_cases h2 : p < q
        · rw [if_pos h2]; exact Or.inl ⟨rfl, List.cons_lt_cons_iff.2 (Or.inl h2)⟩
        · rw [if_neg h2]
          obtain rfl : p = q := Nat.le_antisymm (Nat.le_of_not_lt h1) (Nat.le_of_not_lt h2)
          rcases ih bs with ⟨e, h⟩ | ⟨e, h⟩ | ⟨e, h⟩
          · exact Or.inl ⟨e, List.cons_lt_cons_iff.2 (Or.inr ⟨rfl, h⟩)⟩
          · exact Or.inr (Or.inl ⟨e, by rw [h]⟩)
          · exact Or.inr (Or.inr ⟨e, List.cons_lt_cons_iff.2 (Or.inr ⟨rfl, h⟩)⟩)

theorem compare_eq_neg_one_iff_lt (a b : List Nat) : compare a b = -1 ↔ a < b := by
  rcases compare_spec a b with ⟨e, h⟩ | ⟨e, h⟩ | ⟨e, h⟩
  · exact ⟨fun _ => h, fun _ => e⟩
  · rw [e, h]; exact ⟨fun c => absurd c (by decide), fun c => absurd c (lt_irrefl b)⟩
  · rw [e]; exact ⟨fun c => absurd c (by decide), fun c => absurd c (lt_asymm h)⟩

theorem compare_eq_one_iff_lt (a b : List Nat) : compare a b = 1 ↔ b < a := by
  rcases compare_spec a b with ⟨e, h⟩ | ⟨e, h⟩ | ⟨e, h⟩
  · rw [e]; exact ⟨fun c => absurd c (by decide), fun c => absurd c (lt_asymm h)⟩
  · rw [e, h]; exact ⟨fun c => absurd c (by decide), fun c => absurd c (lt_irrefl b)⟩
  · exact ⟨fun _ => h, fun _ => e⟩

theorem compare_eq_zero_iff (a b : List Nat) : compare a b = 0 ↔ a = b := by
  rcases compare_spec a b with ⟨e, h⟩ | ⟨e, h⟩ | ⟨e, h⟩
  · rw [e]; exact ⟨fun c => absurd c (by decide), fun c => absurd h (c ▸ lt_irrefl a)⟩
  · exact ⟨fun _ => h, fun _ => e⟩
  · rw [e]; exact ⟨fun c => absurd c (by decide), fun c => absurd h (c ▸ lt_irrefl b)⟩

theorem compare_self (a : List Nat) : compare a a = 0 :=
  (compare_eq_zero_iff a a).2 rfl

theorem compare_eq_neg_one_iff (a b : List Nat) : compare a b = -1 ↔ compare b a = 1 := by
  rw [compare_eq_neg_one_iff_lt, compare_eq_one_iff_lt]

theorem compare_ne_one_iff_le (a b : List Nat) : compare a b ≠ 1 ↔ a ≤ b := by
  rw [Ne, compare_eq_one_iff_lt, not_lt]

example (a b : List Nat) (h : compare a b ≠ 1) : max a b = b := max_eq_right ((compare_ne_one_iff_le a b).1 h)

theorem compare_trans_le_lt (a b c : List Nat) (h1 : compare a b ≠ 1) (h2 : compare b c = -1) : compare a c = -1 := by
  rw [Ne, compare_eq_one_iff_lt, not_lt] at h1
  rw [compare_eq_neg_one_iff_lt] at h2 ⊢
  exact lt_of_le_of_lt h1 h2

theorem append_lt_append_of_lt {a b : List Nat} (hl : a.length = b.length) (h : a < b) (x y : List Nat) :
    a ++ x < b ++ y := by
  induction a generalizing b with
  | nil =>
    cases b with
    | nil => exact absurd h (lt_irrefl _)
    | cons _ _ => cases hl
  | cons p as ih =>
    cases b with
    | nil => cases hl
    | cons q bs =>
      rcases List.cons_lt_cons_iff.1 h with h1 | ⟨rfl, h2⟩
      · exact List.cons_lt_cons_iff.2 (Or.inl h1)
      · exact List.cons_lt_cons_iff.2 (Or.inr ⟨rfl, ih (Nat.succ.inj hl) h2⟩)

theorem compare_append : ∀ (a b x y : List Nat), a.length = b.length → compare a b ≠ 0 →
    compare (a ++ x) (b ++ y) = compare a b := by
  intro a b x y hl hc
  rcases compare_spec a b with ⟨e, h⟩ | ⟨e, _⟩ | ⟨e, h⟩
  · rw [e]; exact (compare_eq_neg_one_iff_lt _ _).2 (append_lt_append_of_lt hl h x y)
  · exact absurd e hc
  · rw [e]; exact (compare_eq_one_iff_lt _ _).2 (append_lt_append_of_lt hl.symm h y x)

theorem compare_append_lt {v w tail : List Nat} (hlen : v.length ≤ w.length) (h : compare v (w.take v.length) = -1) :
    compare (v ++ tail) w = -1 := by
  rw [compare_eq_neg_one_iff_lt] at h ⊢
  have := append_lt_append_of_lt (by rw [List.length_take, Nat.min_eq_left hlen]) h tail (w.drop v.length)
  rwa [List.take_append_drop] at this

theorem worseTest_true {value cb fl : Sl Nat} (h : worseTest value cb fl = .ok true) :
    0 < cb.len ∧ value.len ≤ cb.data.size ∧ value.len ≤ fl.data.size ∧
      compare value.toList (cb.data.toList.take value.len) = -1 ∧
      compare value.toList (fl.data.toList.take value.len) ≠ 0 := by
  unfold worseTest at h
  by_cases h0 : cb.len > 0
  · rw [if_pos h0] at h
    cases h1 : cb.reslice value.len with
    | ok cb' =>
      rw [h1] at h
      obtain ⟨g1, rfl⟩ := Sl.reslice_eq_ok.1 h1
      simp only at h
      by_cases hc : compare value.toList (Sl.toList ⟨cb.data, value.len⟩) = -1
      · rw [if_pos (by rw [hc]; rfl)] at h
        cases h2 : fl.reslice value.len with
        | ok fl' =>
          rw [h2] at h
          obtain ⟨g2, rfl⟩ := Sl.reslice_eq_ok.1 h2
          simp only at h
          refine ⟨h0, g1, g2, hc, ?_⟩
          have h' := Outcome.ok.inj h
          have h'' : compare value.toList (Sl.toList ⟨fl.data, value.len⟩) ≠ 0 := by simpa using h'
          exact h''
        | panic => rw [h2] at h; cases h
        | outOfFuel => rw [h2] at h; cases h
      · rw [if_neg (by simpa using hc)] at h
        cases h
    | panic => rw [h1] at h; cases h
    | outOfFuel => rw [h1] at h; cases h
  · rw [if_neg h0] at h
    cases h

theorem worseTest_sound {nb : Nbrs} {o o' : List Nat} {s n : Nat} {value cb fl : Sl Nat}
    (hval : value.toList = certPos nb o s) (hvw : value.WF) (hs : s ≤ n) (hso : s ≤ o.length) (hso' : s ≤ o'.length)
    (hagree : ∀ p, p < s → o'[p]? = o[p]?)
    (hcb : cb.WF) (hlen : (certPos nb o' n).length = cb.len)
    (h : worseTest value cb fl = .ok true) :
    compare (certPos nb o' n) cb.toList = -1 := by
  obtain ⟨_, _, _, hcmp, _⟩ := worseTest_true h
  obtain ⟨tail, ht, _⟩ := certPos_split nb o' s n hs
  rw [certPos_frame nb o o' s hso hso' hagree, ← hval] at ht
  have hvl : value.toList.length = value.len := Sl.length_toList _ hvw
  have hcl : cb.toList.length = cb.len := Sl.length_toList _ hcb
  have hle : value.len ≤ cb.len := by
    rw [← hlen, ht, List.length_append, hvl]; omega
  rw [ht]
  apply compare_append_lt (by omega)
  have e : cb.toList.take value.toList.length = cb.data.toList.take value.len := by
    rw [hvl, Sl.toList, List.take_take, Nat.min_eq_left hle]
  rw [e]
  exact hcmp

end CanonF
