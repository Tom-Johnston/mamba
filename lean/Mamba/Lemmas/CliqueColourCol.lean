import Mamba.Lemmas.CliqueColourBasic
import Mamba.Lemmas.ListAux
/-! C09: vertex colourings — the symmetry-broken search, the chromatic number, counting. -/
namespace CliqueColour
open GraphSpec

def ProperUpTo (g : G) (p : List Nat) : Prop :=
  ∀ u v, u < p.length → v < p.length → g.adj u v = true → p.getD u 0 ≠ p.getD v 0

theorem compat_iff (g : G) (p : List Nat) (c : Nat) :
    compat g p c = true ↔ ∀ u, u < p.length → g.adj u p.length = true → p.getD u 0 ≠ c := by
  simp only [compat, List.all_eq_true, List.mem_range, Bool.or_eq_true, Bool.not_eq_true', bne_iff_ne]
  constructor
  · intro h u hu ha
    rcases h u hu with h1 | h1
    · rw [h1] at ha; cases ha
    · exact h1
  · intro h u hu
    cases ha : g.adj u p.length
    · exact Or.inl rfl
    · exact Or.inr (h u hu ha)

theorem properUpTo_snoc {g : G} (hw : g.WF) {p : List Nat} {c : Nat} :
    ProperUpTo g (p ++ [c]) ↔ ProperUpTo g p ∧ compat g p c = true := by
  have hlen : (p ++ [c]).length = p.length + 1 := by rw [List.length_append]; rfl
  rw [compat_iff]
  constructor
  · intro h
    refine ⟨fun u v hu hv ha => ?_, fun u hu ha => ?_⟩
    · have := h u v (hlen ▸ Nat.lt_succ_of_lt hu) (hlen ▸ Nat.lt_succ_of_lt hv) ha
      rwa [List.getD_snoc_lt hu, List.getD_snoc_lt hv] at this
    · have := h u p.length (hlen ▸ Nat.lt_succ_of_lt hu) (hlen ▸ Nat.lt_succ_self _) ha
      rwa [List.getD_snoc_lt hu, List.getD_snoc_length] at this
  · rintro ⟨hp, hc⟩ u v hu hv ha
    rw [hlen] at hu hv
    rcases Nat.lt_or_eq_of_le (Nat.le_of_lt_succ hu) with hu' | rfl <;>
      rcases Nat.lt_or_eq_of_le (Nat.le_of_lt_succ hv) with hv' | rfl
    · rw [List.getD_snoc_lt hu', List.getD_snoc_lt hv']; exact hp u v hu' hv' ha
    · rw [List.getD_snoc_lt hu', List.getD_snoc_length]; exact hc u hu' ha
    · rw [List.getD_snoc_lt hv', List.getD_snoc_length]
      rw [hw.symm] at ha
      exact fun h => hc v hv' ha h.symm
    · rw [hw.irrefl] at ha; cases ha

theorem search_sound {g : G} (hw : g.WF) {k : Nat} :
    ∀ (r : Nat) (p : List Nat) (m : Nat), p.length + r = g.n → search g k r p m = true →
      (∀ x ∈ p, x < k) → ProperUpTo g p →
      ∃ c : List Nat, c.length = g.n ∧ (∀ x ∈ c, x < k) ∧ ProperUpTo g c := by
  intro r
  induction r with
  | zero => intro p m hl _ hk hp; exact ⟨p, by omega, hk, hp⟩
  | succ r ih =>
    intro p m hl hs hk hp
    simp only [search, List.any_eq_true, List.mem_range, Bool.and_eq_true] at hs
    obtain ⟨c, hc, hcomp, hrec⟩ := hs
    refine ih (p ++ [c]) _ (by simp; omega) hrec ?_ ((properUpTo_snoc hw).2 ⟨hp, hcomp⟩)
    intro x hx
    rcases List.mem_append.1 hx with h | h
    · exact hk x h
    · have : x = c := List.mem_singleton.1 h
      subst this; omega

theorem colourable_of_list {g : G} {k : Nat} {c : List Nat} (hl : c.length = g.n) (hk : ∀ x ∈ c, x < k)
    (hp : ProperUpTo g c) : Colourable g k := by
  refine ⟨fun v => c.getD v 0, fun u v hu hv ha => hp u v (by omega) (by omega) ha, fun v hv => ?_⟩
  have : v < c.length := by omega
  show c.getD v 0 < k
  rw [List.getD_eq_getElem?_getD, List.getElem?_eq_getElem this]
  exact hk _ (List.getElem_mem this)

def swapCol (a b x : Nat) : Nat := if x = a then b else if x = b then a else x

theorem swapCol_swapCol (a b x : Nat) : swapCol a b (swapCol a b x) = x := by
  unfold swapCol
  by_cases h1 : x = a
  · rw [if_pos h1]
    by_cases h2 : b = a
    · rw [if_pos h2, h2, h1]
    · rw [if_neg h2, if_pos rfl, h1]
  · rw [if_neg h1]
    by_cases h2 : x = b
    · rw [if_pos h2, if_pos rfl, h2]
    · rw [if_neg h2, if_neg h1, if_neg h2]

theorem swapCol_inj (a b : Nat) {x y : Nat} (h : swapCol a b x = swapCol a b y) : x = y := by
  rw [← swapCol_swapCol a b x, h, swapCol_swapCol]

theorem swapCol_of_ne {a b x : Nat} (h1 : x ≠ a) (h2 : x ≠ b) : swapCol a b x = x := by
  unfold swapCol; rw [if_neg h1, if_neg h2]

theorem swapCol_lt {a b x k : Nat} (ha : a < k) (hb : b < k) (hx : x < k) : swapCol a b x < k := by
  unfold swapCol
  split
  · exact hb
  · split
    · exact ha
    · exact hx

theorem Proper.swapCol {g : G} {f : Nat → Nat} (h : Proper g f) (a b : Nat) :
    Proper g (fun v => swapCol a b (f v)) :=
  fun u v hu hv ha e => h u v hu hv ha (swapCol_inj a b e)

/-- the first-unused-colour symmetry: if the vertices in `S` use colours below `m` only, a proper colouring can be
renamed, without touching `S` and within the same bound, so that `v` gets a colour `≤ m` -/
theorem proper_exists_le {g : G} {f : Nat → Nat} (hp : Proper g f) {k m v : Nat} (hk : ∀ w, w < g.n → f w < k)
    (hv : v < g.n) {S : Nat → Prop} (hS : ∀ w, S w → f w < m) :
    ∃ f', Proper g f' ∧ (∀ w, w < g.n → f' w < k) ∧ (∀ w, S w → f' w = f w) ∧ f' v ≤ m := by
  by_cases hle : f v ≤ m
  · exact ⟨f, hp, hk, fun _ _ => rfl, hle⟩
  · have hgt : m < f v := Nat.lt_of_not_le hle
    exact ⟨fun w => swapCol (f v) m (f w), hp.swapCol _ _,
      fun w hw => swapCol_lt (hk v hv) (Nat.lt_trans hgt (hk v hv)) (hk w hw),
      fun w hw => swapCol_of_ne (Nat.ne_of_lt (Nat.lt_trans (hS w hw) hgt)) (Nat.ne_of_lt (hS w hw)),
      Nat.le_of_eq (if_pos rfl)⟩

theorem search_complete {g : G} {k : Nat} :
    ∀ (r : Nat) (p : List Nat) (m : Nat) (f : Nat → Nat), p.length + r = g.n →
      (∀ u, u < p.length → p.getD u 0 = f u) → (∀ u, u < p.length → f u < m) →
      Proper g f → (∀ v, v < g.n → f v < k) → search g k r p m = true := by
  intro r
  induction r with
  | zero => intro p m f _ _ _ _ _; rfl
  | succ r ih =>
    intro p m f hl hpf hm hprop hk
    have hi : p.length < g.n := by omega
    -- wlog the colour of vertex `p.length` is at most `m`
    obtain ⟨f', hprop', hk', hfix, hle⟩ := proper_exists_le hprop hk hi (S := (· < p.length)) hm
    have hpf' : ∀ u, u < p.length → p.getD u 0 = f' u := fun u hu => (hpf u hu).trans (hfix u hu).symm
    have hm' : ∀ u, u < p.length → f' u < m := fun u hu => by rw [hfix u hu]; exact hm u hu
    simp only [search, List.any_eq_true, List.mem_range, Bool.and_eq_true]
    have hlen : (p ++ [f' p.length]).length = p.length + 1 := by rw [List.length_append]; rfl
    have hsplit : ∀ u, u < (p ++ [f' p.length]).length → u < p.length ∨ u = p.length := fun u hu => by
      rw [hlen] at hu
      exact Nat.lt_or_eq_of_le (Nat.le_of_lt_succ hu)
    refine ⟨f' p.length, ?_, ?_, ?_⟩
    · exact Nat.lt_min.2 ⟨Nat.lt_succ_of_le hle, hk' p.length hi⟩
    · rw [compat_iff]
      intro u hu ha
      rw [hpf' u hu]
      exact hprop' u p.length (Nat.lt_trans hu hi) hi ha
    · refine ih (p ++ [f' p.length]) _ f' (by rw [hlen, Nat.add_assoc, Nat.add_comm 1 r]; exact hl) ?_ ?_ hprop' hk'
      · intro u hu
        rcases hsplit u hu with hu' | rfl
        · rw [List.getD_snoc_lt hu']; exact hpf' u hu'
        · exact List.getD_snoc_length _ _ _
      · intro u hu
        rcases hsplit u hu with hu' | rfl
        · have := hm' u hu'; omega
        · omega

theorem colourableB_iff {g : G} (hw : g.WF) (k : Nat) : colourableB g k = true ↔ Colourable g k := by
  constructor
  · intro h
    obtain ⟨c, hl, hk, hp⟩ := search_sound hw g.n [] 0 (by simp) h (by simp) (by intro u v hu; simp at hu)
    exact colourable_of_list hl hk hp
  · rintro ⟨f, hp, hk⟩
    exact search_complete g.n [] 0 f (by simp) (by intro u hu; simp at hu) (by intro u hu; simp at hu) hp hk

theorem Colourable.mono {g : G} {k k' : Nat} (h : Colourable g k) (hk : k ≤ k') : Colourable g k' := by
  obtain ⟨f, hp, hb⟩ := h
  exact ⟨f, hp, fun v hv => Nat.lt_of_lt_of_le (hb v hv) hk⟩

theorem colourable_n {g : G} (hw : g.WF) : Colourable g g.n := by
  refine ⟨id, fun u v _ _ ha h => ?_, fun v hv => hv⟩
  simp only [id] at h
  subst h
  rw [hw.irrefl] at ha; cases ha

theorem leastFrom_spec (p : Nat → Bool) :
    ∀ (fuel k : Nat), p (k + fuel) = true →
      p (leastFrom p fuel k) = true ∧ k ≤ leastFrom p fuel k ∧ leastFrom p fuel k ≤ k + fuel ∧
        ∀ j, k ≤ j → j < leastFrom p fuel k → p j = false := by
  intro fuel
  induction fuel with
  | zero => intro k h; exact ⟨by simpa [leastFrom] using h, by simp [leastFrom], by simp [leastFrom],
      fun j h1 h2 => by simp [leastFrom] at h2; omega⟩
  | succ f ih =>
    intro k h
    simp only [leastFrom]
    by_cases hk : p k = true
    · rw [if_pos hk]
      exact ⟨hk, Nat.le_refl _, by omega, fun j h1 h2 => by omega⟩
    · rw [if_neg hk]
      have := ih (k + 1) (by rw [← h]; congr 1; omega)
      refine ⟨this.1, by omega, by omega, fun j h1 h2 => ?_⟩
      by_cases hj : j = k
      · subst hj; simpa using hk
      · exact this.2.2.2 j (by omega) h2

theorem chromaticNumberSpec_props {g : G} (hw : g.WF) :
    Colourable g (chromaticNumberSpec g) ∧ (∀ k, k < chromaticNumberSpec g → ¬ Colourable g k) ∧
      chromaticNumberSpec g ≤ g.n := by
  have h := leastFrom_spec (colourableB g) g.n 0 (by
    rw [Nat.zero_add]; exact (colourableB_iff hw _).2 (colourable_n hw))
  refine ⟨(colourableB_iff hw _).1 h.1, fun k hk hc => ?_, by simpa [chromaticNumberSpec] using h.2.2.1⟩
  have := h.2.2.2 k (Nat.zero_le _) hk
  rw [(colourableB_iff hw k).2 hc] at this
  cases this

def properB (g : G) (c : List Nat) : Bool :=
  (List.range c.length).all fun u => (List.range c.length).all fun v => !g.adj u v || c.getD u 0 != c.getD v 0

theorem properB_iff (g : G) (c : List Nat) : properB g c = true ↔ ProperUpTo g c := by
  simp only [properB, ProperUpTo, List.all_eq_true, List.mem_range, Bool.or_eq_true, Bool.not_eq_true',
    bne_iff_ne]
  constructor
  · intro h u v hu hv ha
    rcases h u hu v hv with h1 | h1
    · rw [h1] at ha; cases ha
    · exact h1
  · intro h u hu v hv
    cases ha : g.adj u v
    · exact Or.inl rfl
    · exact Or.inr (h u v hu hv ha)

theorem isProperColouring_iff (g : G) (c : List Nat) :
    isProperColouring g c = true ↔ c.length = g.n ∧ ProperUpTo g c := by
  simp only [isProperColouring, Bool.and_eq_true, beq_iff_eq]
  refine and_congr_right fun hl => ?_
  rw [← properB_iff, properB, hl]

theorem mem_exts {k : Nat} : ∀ (r : Nat) (p c : List Nat),
    c ∈ exts k r p ↔ ∃ s : List Nat, c = p ++ s ∧ s.length = r ∧ ∀ x ∈ s, x < k := by
  intro r
  induction r with
  | zero =>
    intro p c
    simp only [exts, List.mem_singleton]
    constructor
    · rintro rfl; exact ⟨[], by simp, rfl, by simp⟩
    · rintro ⟨s, rfl, hs, _⟩
      have : s = [] := List.length_eq_zero_iff.1 hs
      subst this; simp
  | succ r ih =>
    intro p c
    simp only [exts, List.mem_flatMap, List.mem_range, ih]
    constructor
    · rintro ⟨a, ha, s, rfl, hs, hk⟩
      refine ⟨a :: s, by simp, by simp [hs], ?_⟩
      intro x hx
      rcases List.mem_cons.1 hx with rfl | hx
      · exact ha
      · exact hk x hx
    · rintro ⟨s, rfl, hs, hk⟩
      cases s with
      | nil => simp at hs
      | cons a t =>
        exact ⟨a, hk a List.mem_cons_self, t, by simp, by simpa using hs,
          fun x hx => hk x (List.mem_cons_of_mem _ hx)⟩

theorem nodup_exts {k : Nat} : ∀ (r : Nat) (p : List Nat), (exts k r p).Nodup := by
  intro r
  induction r with
  | zero => intro p; simp [exts]
  | succ r ih =>
    intro p
    simp only [exts]
    rw [List.nodup_flatMap]
    refine ⟨fun a _ => ih _, ?_⟩
    refine List.Pairwise.imp_of_mem (R := fun a b => a ≠ b) ?_ (List.nodup_range (n := k))
    intro a b _ _ hab c hca hcb
    obtain ⟨s, h1, _, _⟩ := (mem_exts r _ c).1 hca
    obtain ⟨t, h2, _, _⟩ := (mem_exts r _ c).1 hcb
    apply hab
    have : (p ++ [a] ++ s).getD p.length 0 = (p ++ [b] ++ t).getD p.length 0 := by rw [← h1, ← h2]
    simpa [List.getD_eq_getElem?_getD, List.getElem?_append_left, List.getElem?_append_right] using this

theorem properUpTo_prefix {g : G} {p s : List Nat} (h : ProperUpTo g (p ++ s)) : ProperUpTo g p := by
  intro u v hu hv ha
  have := h u v (by simp; omega) (by simp; omega) ha
  simpa [List.getD_eq_getElem?_getD, List.getElem?_append_left hu, List.getElem?_append_left hv] using this

theorem sumList_map_length {α : Type} (f : Nat → List α) (l : List Nat) :
    (l.flatMap f).length = sumList (l.map fun c => (f c).length) := by
  induction l with
  | nil => simp [sumList]
  | cons a t ih => simp [sumList, List.flatMap_cons, ih] at *

theorem countFrom_eq {g : G} (hw : g.WF) {k : Nat} : ∀ (r : Nat) (p : List Nat), ProperUpTo g p →
    countFrom g k r p = ((exts k r p).filter (properB g)).length := by
  intro r
  induction r with
  | zero =>
    intro p hp
    simp [countFrom, exts, (properB_iff g p).2 hp]
  | succ r ih =>
    intro p hp
    simp only [countFrom, exts, List.filter_flatMap]
    rw [sumList_map_length]
    congr 1
    apply List.map_congr_left
    intro c _
    by_cases hc : compat g p c = true
    · rw [if_pos hc]
      exact ih _ ((properUpTo_snoc hw).2 ⟨hp, hc⟩)
    · rw [if_neg hc]
      symm
      rw [List.length_eq_zero_iff, List.filter_eq_nil_iff]
      intro x hx hpx
      obtain ⟨s, rfl, _, _⟩ := (mem_exts r _ x).1 hx
      have := properUpTo_prefix ((properB_iff g _).1 hpx)
      exact hc ((properUpTo_snoc hw).1 this).2

end CliqueColour
