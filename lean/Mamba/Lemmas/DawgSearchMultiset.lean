import Mathlib.Data.Multiset.AddSub
import Mamba.Lemmas.DawgSearchAnagram
/-! # The anagram condition as a multiset difference (the only C13 file importing Mathlib) -/
namespace DawgSearch

theorem cons_sub_of_not_mem {α : Type} [DecidableEq α] (c : α) (s t : Multiset α) (h : c ∉ t) :
    (c ::ₘ s) - t = c ::ₘ (s - t) := by
  ext a
  rw [Multiset.count_sub, Multiset.count_cons, Multiset.count_cons, Multiset.count_sub]
  by_cases hac : a = c
  · subst hac
    simp [Multiset.count_eq_zero_of_notMem h]
  · simp [hac]

theorem deficit_eq_card_sub : ∀ (w ls : List UInt8),
    deficit ls w = Multiset.card ((w : Multiset UInt8) - (ls : Multiset UInt8))
  | [], ls => by
    simp only [deficit, Multiset.coe_nil]
    rw [Multiset.zero_sub, Multiset.card_zero]
  | c :: w, ls => by
    by_cases hin : c ∈ ls
    · have hp : (ls : Multiset UInt8) = c ::ₘ ((ls.erase c : List UInt8) : Multiset UInt8) := by
        rw [Multiset.cons_coe, Multiset.coe_eq_coe]
        exact List.perm_cons_erase hin
      have e : deficit ls (c :: w) = deficit (ls.erase c) w := by simp [deficit, hin]
      rw [e, deficit_eq_card_sub w (ls.erase c), hp, ← Multiset.cons_coe, Multiset.sub_cons,
        Multiset.erase_cons_head]
    · have e : deficit ls (c :: w) = deficit ls w + 1 := by simp [deficit, hin]
      rw [e, deficit_eq_card_sub w ls, ← Multiset.cons_coe, cons_sub_of_not_mem c _ _ (by simpa using hin),
        Multiset.card_cons]

end DawgSearch
