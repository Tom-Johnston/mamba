import Mamba.Lemmas.ListGetD
import Mathlib.Data.List.Range
import Mathlib.Data.List.Perm.Subperm
import Mathlib.Logic.Function.Basic

/-!
# Union–find as a parent function (helper theory for C18)

`S` is a size and a parent function `p : Nat → Int` (`p x < 0`: root with rank `-(p x) - 1`,
otherwise `p x` is the parent).  `Lemmas/DisjointArr.lean` abstracts the executable `Array Int`
model of `Model/Disjoint.lean` to this structure.

Contents: the invariant `Inv` with a rank potential, pigeonhole termination (`root_isRoot`),
fuel independence, `rep_parent`, a uniqueness principle for representatives (`rep_uniq`), and the
effect on `Inv`/`rep` of (a) redirecting a non-root to its representative (path compression) and
(b) linking one root under another (union by rank, all three cases at once).
-/
namespace Disjoint.Fn

structure S where
  n : Nat
  p : Nat → Int

def root (s : S) : Nat → Nat → Nat
  | 0, x => x
  | f+1, x => if s.p x < 0 then x else root s f (s.p x).toNat

/-- nodes strictly below the root on the walk from x (the Go `seenNumbers` minus its last element) -/
def below (s : S) : Nat → Nat → List Nat
  | 0, _ => []
  | f+1, x => if s.p x < 0 then [] else x :: below s f (s.p x).toNat

structure Inv (s : S) (rk : Nat → Nat) : Prop where
  par_lt : ∀ x, x < s.n → 0 ≤ s.p x → (s.p x).toNat < s.n
  rk_lt : ∀ x, x < s.n → 0 ≤ s.p x → rk x < rk (s.p x).toNat
  rk_root : ∀ x, x < s.n → s.p x < 0 → (rk x : Int) = - s.p x - 1

theorem walk_facts {s : S} {rk : Nat → Nat} (h : Inv s rk) :
    ∀ (f x : Nat), x < s.n →
      root s f x < s.n ∧ rk x ≤ rk (root s f x) ∧
      (∀ y ∈ below s f x, y < s.n ∧ rk x ≤ rk y ∧ rk y < rk (root s f x)) ∧
      (below s f x).Pairwise (fun a b => rk a < rk b) ∧
      (¬ s.p (root s f x) < 0 → (below s f x).length = f) := by
  intro f
  induction f with
  | zero => intro x hx; simp [root, below, hx]
  | succ f ih =>
    intro x hx
    by_cases hr : s.p x < 0
    · simp [root, below, hr, hx]
    · have h0 : 0 ≤ s.p x := Int.not_lt.mp hr
      have hy := h.par_lt x hx h0
      have hlt := h.rk_lt x hx h0
      obtain ⟨a1, a2, a3, a4, a5⟩ := ih _ hy
      have er : root s (f + 1) x = root s f (s.p x).toNat := by rw [root]; simp [hr]
      have eb : below s (f + 1) x = x :: below s f (s.p x).toNat := by rw [below]; simp [hr]
      rw [er, eb]
      refine ⟨a1, le_trans hlt.le a2, ?_, ?_, ?_⟩
      · intro y hy'
        rcases List.mem_cons.1 hy' with rfl | hy''
        · exact ⟨hx, le_refl _, lt_of_lt_of_le hlt a2⟩
        · obtain ⟨b1, b2, b3⟩ := a3 y hy''; exact ⟨b1, le_trans hlt.le b2, b3⟩
      · refine List.pairwise_cons.2 ⟨?_, a4⟩
        intro y hy''; exact lt_of_lt_of_le hlt (a3 y hy'').2.1
      · intro hnr; simp [a5 hnr]

/-- with fuel ≥ n the walk ends in a root (pigeonhole on the strictly increasing potential) -/
theorem root_isRoot {s : S} {rk : Nat → Nat} (h : Inv s rk) (f x : Nat) (hx : x < s.n)
    (hf : s.n ≤ f) : root s f x < s.n ∧ s.p (root s f x) < 0 := by
  obtain ⟨a1, _, a3, a4, a5⟩ := walk_facts h f x hx
  refine ⟨a1, ?_⟩
  by_contra hnr
  have hlen := a5 hnr
  have hpw : (below s f x ++ [root s f x]).Pairwise (fun a b => rk a < rk b) := by
    rw [List.pairwise_append]
    refine ⟨a4, List.pairwise_singleton _ _, ?_⟩
    intro a ha b hb
    rw [List.mem_singleton] at hb; subst hb
    exact (a3 a ha).2.2
  have hnd : (below s f x ++ [root s f x]).Nodup :=
    hpw.imp (fun {a b} h hab => by rw [hab] at h; omega)
  have hle := hnd.length_le_of_lt (n := s.n) (by
    intro y hy
    rcases List.mem_append.1 hy with hy | hy
    · exact (a3 y hy).1
    · rw [List.mem_singleton] at hy; subst hy; exact a1)
  simp [hlen] at hle
  omega

theorem root_fuel_mono {s : S} :
    ∀ (f x : Nat), s.p (root s f x) < 0 → ∀ k, root s (f + k) x = root s f x := by
  intro f
  induction f with
  | zero =>
    intro x hx k
    simp only [root] at hx ⊢
    cases k with
    | zero => rfl
    | succ k => simp [root, hx]
  | succ f ih =>
    intro x hx k
    have e : f + 1 + k = (f + k) + 1 := by omega
    rw [e]
    unfold root at hx ⊢
    by_cases hr : s.p x < 0
    · simp [hr]
    · simp only [hr, if_false] at hx ⊢
      exact ih _ hx k

def rep (s : S) (x : Nat) : Nat := root s s.n x

theorem rep_spec {s : S} {rk : Nat → Nat} (h : Inv s rk) (x : Nat) (hx : x < s.n) :
    rep s x < s.n ∧ s.p (rep s x) < 0 := root_isRoot h s.n x hx (le_refl _)

theorem rep_root {s : S} (x : Nat) (hx : s.p x < 0) : rep s x = x := by
  unfold rep; cases s.n <;> simp [root, hx]

theorem root_fuel_indep {s : S} {rk : Nat → Nat} (h : Inv s rk) (x : Nat) (hx : x < s.n) (f : Nat)
    (hf : s.n ≤ f) : root s f x = rep s x := by
  obtain ⟨k, rfl⟩ : ∃ k, f = s.n + k := ⟨f - s.n, by omega⟩
  exact root_fuel_mono s.n x (rep_spec h x hx).2 k

theorem rep_parent {s : S} {rk : Nat → Nat} (h : Inv s rk) (x : Nat) (hx : x < s.n)
    (h0 : 0 ≤ s.p x) : rep s (s.p x).toNat = rep s x := by
  have e : root s (s.n + 1) x = root s s.n (s.p x).toNat := by
    rw [root]; simp [show ¬ s.p x < 0 by omega]
  have := root_fuel_indep h x hx (s.n + 1) (by omega)
  rw [e] at this
  exact this

theorem rep_idem {s : S} {rk : Nat → Nat} (h : Inv s rk) (x : Nat) (hx : x < s.n) :
    rep s (rep s x) = rep s x := rep_root _ (rep_spec h x hx).2

theorem rk_le_rep {s : S} {rk : Nat → Nat} (h : Inv s rk) (x : Nat) (hx : x < s.n) :
    rk x ≤ rk (rep s x) := (walk_facts h s.n x hx).2.1

theorem rk_lt_rep {s : S} {rk : Nat → Nat} (h : Inv s rk) (x : Nat) (hx : x < s.n)
    (h0 : 0 ≤ s.p x) : rk x < rk (rep s x) := by
  have h1 := h.rk_lt x hx h0
  have h2 := rk_le_rep h _ (h.par_lt x hx h0)
  rw [rep_parent h x hx h0] at h2
  omega

theorem rep_uniq {s : S} {rk : Nat → Nat} (h : Inv s rk) (g : Nat → Nat)
    (hroot : ∀ z, z < s.n → s.p z < 0 → g z = z)
    (hstep : ∀ z, z < s.n → 0 ≤ s.p z → g (s.p z).toNat = g z) :
    ∀ z, z < s.n → g z = rep s z := by
  have key : ∀ f z, z < s.n → g (root s f z) = g z := by
    intro f
    induction f with
    | zero => intro z _; rfl
    | succ f ih =>
      intro z hz
      unfold root
      by_cases hr : s.p z < 0
      · simp [hr]
      · simp only [hr, if_false]
        rw [ih _ (h.par_lt z hz (by omega)), hstep z hz (by omega)]
  intro z hz
  obtain ⟨h1, h2⟩ := rep_spec h z hz
  rw [← key s.n z hz]
  exact hroot _ h1 h2

theorem below_facts {s : S} {rk : Nat → Nat} (h : Inv s rk) :
    ∀ (f x : Nat), x < s.n → ∀ y ∈ below s f x, y < s.n ∧ 0 ≤ s.p y ∧ rep s y = rep s x := by
  intro f
  induction f with
  | zero => intro x _ y hy; simp [below] at hy
  | succ f ih =>
    intro x hx y hy
    unfold below at hy
    by_cases hr : s.p x < 0
    · simp [hr] at hy
    · simp only [hr, if_false] at hy
      have h0 : 0 ≤ s.p x := by omega
      rcases List.mem_cons.1 hy with rfl | hy'
      · exact ⟨hx, h0, rfl⟩
      · obtain ⟨b1, b2, b3⟩ := ih _ (h.par_lt x hx h0) y hy'
        exact ⟨b1, b2, by rw [b3, rep_parent h x hx h0]⟩

def setP (s : S) (y : Nat) (v : Int) : S := { s with p := Function.update s.p y v }

@[simp] theorem setP_n (s : S) (y : Nat) (v : Int) : (setP s y v).n = s.n := rfl

theorem setP_p_self (s : S) (y : Nat) (v : Int) : (setP s y v).p y = v := by simp [setP]

theorem setP_p_ne (s : S) (y : Nat) (v : Int) (z : Nat) (hz : z ≠ y) : (setP s y v).p z = s.p z := by
  simp [setP, Function.update_of_ne hz]

theorem redirect_spec {s : S} {rk : Nat → Nat} (h : Inv s rk) (y : Nat) (hy : y < s.n)
    (hy0 : 0 ≤ s.p y) :
    Inv (setP s y (rep s y : Nat)) rk ∧ ∀ z, z < s.n → rep (setP s y (rep s y : Nat)) z = rep s z := by
  obtain ⟨hr1, hr2⟩ := rep_spec h y hy
  have hinv : Inv (setP s y (rep s y : Nat)) rk := by
    refine ⟨?_, ?_, ?_⟩
    · intro x hx hx0
      by_cases hxy : x = y
      · subst hxy; rw [setP_p_self]; simpa using hr1
      · rw [setP_p_ne _ _ _ _ hxy] at hx0 ⊢; exact h.par_lt x hx hx0
    · intro x hx hx0
      by_cases hxy : x = y
      · subst hxy; rw [setP_p_self]; simpa using rk_lt_rep h x hy hy0
      · rw [setP_p_ne _ _ _ _ hxy] at hx0 ⊢; exact h.rk_lt x hx hx0
    · intro x hx hx0
      by_cases hxy : x = y
      · subst hxy; rw [setP_p_self] at hx0; omega
      · rw [setP_p_ne _ _ _ _ hxy] at hx0 ⊢; exact h.rk_root x hx hx0
  refine ⟨hinv, ?_⟩
  intro z hz
  refine (rep_uniq hinv (rep s) ?_ ?_ z hz).symm
  · intro z hz hz0
    by_cases hzy : z = y
    · subst hzy; rw [setP_p_self] at hz0; omega
    · rw [setP_p_ne _ _ _ _ hzy] at hz0; exact rep_root _ hz0
  · intro z hz hz0
    by_cases hzy : z = y
    · subst hzy; rw [setP_p_self]; simpa using rep_idem h z hy
    · rw [setP_p_ne _ _ _ _ hzy] at hz0 ⊢; exact rep_parent h z hz hz0

/-- `for i := 0; i < len(seen)-2; i++ { ds[seen[i]] = tmp }` on the parent function -/
def compressL (s : S) (r : Nat) (l : List Nat) : S := l.foldl (fun s y => setP s y (r : Nat)) s

theorem compress_spec {rk : Nat → Nat} (r : Nat) :
    ∀ (l : List Nat) (s : S), Inv s rk → (∀ y ∈ l, y < s.n ∧ 0 ≤ s.p y ∧ rep s y = r) →
      Inv (compressL s r l) rk ∧ (compressL s r l).n = s.n ∧
      ∀ z, z < s.n → rep (compressL s r l) z = rep s z := by
  intro l
  induction l with
  | nil => intro s h _; exact ⟨h, rfl, fun _ _ => rfl⟩
  | cons y l ih =>
    intro s h hl
    obtain ⟨hy, hy0, hyr⟩ := hl y (List.mem_cons_self ..)
    obtain ⟨h1, h2⟩ := redirect_spec h y hy hy0
    rw [hyr] at h1 h2
    have hl' : ∀ w ∈ l, w < (setP s y (r : Nat)).n ∧ 0 ≤ (setP s y (r : Nat)).p w ∧
        rep (setP s y (r : Nat)) w = r := by
      intro w hw
      obtain ⟨c1, c2, c3⟩ := hl w (List.mem_cons_of_mem _ hw)
      refine ⟨c1, ?_, by rw [h2 w c1, c3]⟩
      by_cases hwy : w = y
      · subst hwy; rw [setP_p_self]; omega
      · rw [setP_p_ne _ _ _ _ hwy]; exact c2
    obtain ⟨i1, i2, i3⟩ := ih (setP s y (r : Nat)) h1 hl'
    refine ⟨i1, i2, ?_⟩
    intro z hz
    have := i3 z hz
    rw [h2 z hz] at this
    exact this

/-- Linking root `a` under root `b`; the stored value at `b` becomes `c` (either unchanged or one
less), the potential at `b` becomes `k`. Covers the three cases of `Union`. -/
theorem link_spec {s : S} {rk : Nat → Nat} (h : Inv s rk) (a b : Nat) (ha : a < s.n) (hb : b < s.n)
    (hra : s.p a < 0) (hrb : s.p b < 0) (hab : a ≠ b) (c : Int) (k : Nat) (hc : c < 0)
    (hk : (k : Int) = - c - 1) (hkb : rk b ≤ k) (hka : rk a < k) :
    Inv (setP (setP s a (b : Nat)) b c) (Function.update rk b k) ∧
    ∀ z, z < s.n → rep (setP (setP s a (b : Nat)) b c) z = if rep s z = a then b else rep s z := by
  have pa : (setP (setP s a (b : Nat)) b c).p a = (b : Nat) := by
    rw [setP_p_ne _ _ _ _ hab, setP_p_self]
  have pb : (setP (setP s a (b : Nat)) b c).p b = c := setP_p_self _ _ _
  have pz : ∀ z, z ≠ a → z ≠ b → (setP (setP s a (b : Nat)) b c).p z = s.p z := by
    intro z h1 h2; rw [setP_p_ne _ _ _ _ h2, setP_p_ne _ _ _ _ h1]
  have rk_ge : ∀ z, rk z ≤ Function.update rk b k z := by
    intro z
    by_cases hz : z = b
    · subst hz; simpa using hkb
    · simp [Function.update_of_ne hz]
  have hinv : Inv (setP (setP s a (b : Nat)) b c) (Function.update rk b k) := by
    refine ⟨?_, ?_, ?_⟩
    · intro x hx hx0
      by_cases hxa : x = a
      · subst hxa; rw [pa, Int.toNat_natCast]; exact hb
      · by_cases hxb : x = b
        · subst hxb; rw [pb] at hx0; exact absurd hx0 (Int.not_le.mpr hc)
        · rw [pz x hxa hxb] at hx0 ⊢; exact h.par_lt x hx hx0
    · intro x hx hx0
      by_cases hxa : x = a
      · subst hxa; rw [pa]; simp [Function.update_of_ne hab]; exact hka
      · by_cases hxb : x = b
        · subst hxb; rw [pb] at hx0; exact absurd hx0 (Int.not_le.mpr hc)
        · rw [pz x hxa hxb] at hx0 ⊢
          rw [Function.update_of_ne hxb]
          exact lt_of_lt_of_le (h.rk_lt x hx hx0) (rk_ge _)
    · intro x hx hx0
      by_cases hxa : x = a
      · subst hxa; rw [pa] at hx0; exact absurd hx0 (Int.not_lt.mpr (Int.natCast_nonneg b))
      · by_cases hxb : x = b
        · subst hxb; rw [pb]; simpa using hk
        · rw [pz x hxa hxb] at hx0 ⊢
          rw [Function.update_of_ne hxb]
          exact h.rk_root x hx hx0
  refine ⟨hinv, ?_⟩
  intro z hz
  refine (rep_uniq hinv (fun z => if rep s z = a then b else rep s z) ?_ ?_ z hz).symm
  · intro z hz hz0
    by_cases hza : z = a
    · subst hza; rw [pa] at hz0; exact absurd hz0 (Int.not_lt.mpr (Int.natCast_nonneg b))
    · by_cases hzb : z = b
      · subst hzb; simp [rep_root _ hrb, Ne.symm hab]
      · rw [pz z hza hzb] at hz0
        simp [rep_root _ hz0, hza]
  · intro z hz hz0
    by_cases hza : z = a
    · subst hza; rw [pa]; simp [rep_root _ hrb, rep_root _ hra, Ne.symm hab]
    · by_cases hzb : z = b
      · subst hzb; rw [pb] at hz0; exact absurd hz0 (Int.not_le.mpr hc)
      · rw [pz z hza hzb] at hz0 ⊢
        simp only [rep_parent h z hz hz0]

end Disjoint.Fn
