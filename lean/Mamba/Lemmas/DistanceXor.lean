import Mamba.Model.Subgraph
import Mathlib.Data.List.Basic
/-!
# `sortints.XOR` on strictly increasing lists is the symmetric difference
-/
namespace GDist
open Model

theorem sXor_nil_left (b : List Nat) : sXor [] b = b := by
  unfold sXor; rfl

theorem sXor_nil_right (a : List Nat) : sXor a [] = a := by
  cases a with
  | nil => exact sXor_nil_left []
  | cons x a => unfold sXor; rfl

theorem sXor_cons (x y : Nat) (a b : List Nat) :
    sXor (x :: a) (y :: b) =
      if x < y then x :: sXor a (y :: b) else if y < x then y :: sXor (x :: a) b else sXor a b := by
  rw [sXor]

theorem sXor_subset (a b : List Nat) (z : Nat) : z ∈ sXor a b → z ∈ a ∨ z ∈ b := by
  induction a, b using sXor.induct with
  | case1 b => rw [sXor_nil_left]; exact .inr
  | case2 a _ => rw [sXor_nil_right]; exact .inl
  | case3 x a y b h1 ih =>
    rw [sXor_cons, if_pos h1, List.mem_cons]
    rintro (h | h)
    · exact .inl (h ▸ List.mem_cons_self)
    · exact (ih h).imp_left (List.mem_cons_of_mem _)
  | case4 x a y b h1 h2 ih =>
    rw [sXor_cons, if_neg h1, if_pos h2, List.mem_cons]
    rintro (h | h)
    · exact .inr (h ▸ List.mem_cons_self)
    · exact (ih h).imp_right (List.mem_cons_of_mem _)
  | case5 x a y b h1 h2 ih =>
    rw [sXor_cons, if_neg h1, if_neg h2]
    exact fun h => (ih h).imp (List.mem_cons_of_mem _) (List.mem_cons_of_mem _)

theorem sXor_spec (a b : List Nat) (ha : a.Pairwise (· < ·)) (hb : b.Pairwise (· < ·)) :
    (sXor a b).Pairwise (· < ·) ∧ ∀ z, z ∈ sXor a b ↔ ((z ∈ a ∧ z ∉ b) ∨ (z ∉ a ∧ z ∈ b)) := by
  -- a head smaller than everything else occurs in neither tail
  have hlt : ∀ {x z : Nat} {l : List Nat}, (∀ w ∈ l, x < w) → z = x → z ∉ l :=
    fun hl h hm => Nat.lt_irrefl _ (h ▸ hl _ hm)
  induction a, b using sXor.induct with
  | case1 b => rw [sXor_nil_left]; exact ⟨hb, fun z => by simp⟩
  | case2 a _ => rw [sXor_nil_right]; exact ⟨ha, fun z => by simp⟩
  | case3 x a y b h1 ih =>
    obtain ⟨hxa, ha'⟩ := List.pairwise_cons.1 ha
    obtain ⟨hyb, _⟩ := List.pairwise_cons.1 hb
    obtain ⟨ih1, ih2⟩ := ih ha' hb
    have hxb : ∀ w ∈ y :: b, x < w := fun w hw =>
      (List.mem_cons.1 hw).elim (fun h => h ▸ h1) fun h => Nat.lt_trans h1 (hyb w h)
    rw [sXor_cons, if_pos h1]
    refine ⟨List.pairwise_cons.2 ⟨fun z hz => (sXor_subset _ _ z hz).elim (hxa z) (hxb z), ih1⟩, fun z => ?_⟩
    rw [List.mem_cons, ih2 z, List.mem_cons (b := x)]
    by_cases hzx : z = x
    · exact ⟨fun _ => .inl ⟨.inl hzx, hlt hxb hzx⟩, fun _ => .inl hzx⟩
    · simp only [hzx, false_or]
  | case4 x a y b h1 h2 ih =>
    obtain ⟨hxa, _⟩ := List.pairwise_cons.1 ha
    obtain ⟨hyb, hb'⟩ := List.pairwise_cons.1 hb
    obtain ⟨ih1, ih2⟩ := ih ha hb'
    have hya : ∀ w ∈ x :: a, y < w := fun w hw =>
      (List.mem_cons.1 hw).elim (fun h => h ▸ h2) fun h => Nat.lt_trans h2 (hxa w h)
    rw [sXor_cons, if_neg h1, if_pos h2]
    refine ⟨List.pairwise_cons.2 ⟨fun z hz => (sXor_subset _ _ z hz).elim (hya z) (hyb z), ih1⟩, fun z => ?_⟩
    rw [List.mem_cons, ih2 z, List.mem_cons (b := y)]
    by_cases hzy : z = y
    · exact ⟨fun _ => .inr ⟨hlt hya hzy, .inl hzy⟩, fun _ => .inl hzy⟩
    · simp only [hzy, false_or]
  | case5 x a y b h1 h2 ih =>
    obtain rfl : x = y := by omega
    obtain ⟨hxa, ha'⟩ := List.pairwise_cons.1 ha
    obtain ⟨hxb, hb'⟩ := List.pairwise_cons.1 hb
    obtain ⟨ih1, ih2⟩ := ih ha' hb'
    rw [sXor_cons, if_neg h1, if_neg h1]
    refine ⟨ih1, fun z => ?_⟩
    rw [ih2 z, List.mem_cons, List.mem_cons]
    by_cases hzx : z = x
    · have hza := hlt hxa hzx
      have hzb := hlt hxb hzx
      exact ⟨fun h => h.elim (fun h => absurd h.1 hza) fun h => absurd h.2 hzb,
        fun h => h.elim (fun h => absurd (.inl hzx) h.2) fun h => absurd (.inl hzx) h.1⟩
    · simp only [hzx, false_or]

theorem sXor_countP (p : Nat → Bool) (a b : List Nat) :
    ∃ k, (sXor a b).countP p + 2 * k = a.countP p + b.countP p := by
  induction a, b using sXor.induct with
  | case1 b => exact ⟨0, by rw [sXor_nil_left]; simp⟩
  | case2 a _ => exact ⟨0, by rw [sXor_nil_right]; simp⟩
  | case3 x a y b h1 ih =>
    obtain ⟨k, hk⟩ := ih
    refine ⟨k, ?_⟩
    rw [sXor_cons, if_pos h1]
    simp only [List.countP_cons] at hk ⊢
    omega
  | case4 x a y b h1 h2 ih =>
    obtain ⟨k, hk⟩ := ih
    refine ⟨k, ?_⟩
    rw [sXor_cons, if_neg h1, if_pos h2]
    simp only [List.countP_cons] at hk ⊢
    omega
  | case5 x a y b h1 h2 ih =>
    obtain rfl : x = y := by omega
    obtain ⟨k, hk⟩ := ih
    refine ⟨k + (if p x = true then 1 else 0), ?_⟩
    rw [sXor_cons, if_neg h1, if_neg h1]
    simp only [List.countP_cons]
    split <;> omega

end GDist
