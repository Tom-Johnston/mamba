import Mamba.Lemmas.CanonFReset
import Mamba.Lemmas.CanonFSortedSplit
/-!
# The bins of the initial partition (`NewOrderedPartition` / `Reset`) are the vertex classes, each in ascending order

`psums_bin`: cut at its running sums, a concatenation gives back its blocks. With `InitSpec` (`order` = the sorted classes
one after the other, `binDividers` = the running sums of their lengths) bin `t` of the initial partition is the sorted
class `t` (`initBin_classes`). Read off it: the bins are ascending (`InitSpec.binsSorted`, `new_binsSorted`), and
`inCell` of a vertex is the index of the class that lists it (`class_position`, `new_inCell_classes`).
-/
namespace CanonF

theorem rfSeg_append_right (A L : List Nat) (x y : Nat) :
    rfSeg (A ++ L) (A.length + x) (A.length + y) = rfSeg L x y := by
  unfold rfSeg
  rw [List.drop_append, Nat.add_sub_add_left, List.drop_of_length_le (Nat.le_add_right _ _), Nat.add_sub_cancel_left,
    List.nil_append]

theorem psums_bin : ∀ (bs : List (List Nat)) (off t a b : Nat),
    (off :: psums off (bs.map List.length))[t]? = some a → (psums off (bs.map List.length))[t]? = some b →
    ∃ x y, a = off + x ∧ b = off + y ∧ bs[t]? = some (rfSeg bs.flatten x y) := by
  intro bs
  induction bs with
  | nil => intro off t a b _ hb; cases hb
  | cons c cs ih =>
    intro off t a b ha hb
    rw [List.map_cons, psums] at ha hb
    cases t with
    | zero =>
      obtain rfl : off = a := Option.some.inj ha
      obtain rfl : off + c.length = b := Option.some.inj hb
      refine ⟨0, c.length, rfl, rfl, ?_⟩
      rw [List.flatten_cons]
      unfold rfSeg
      rw [List.drop_zero, Nat.sub_zero, List.take_left]
      rfl
    | succ t =>
      obtain ⟨x, y, rfl, rfl, e⟩ := ih (off + c.length) t a b ha hb
      refine ⟨c.length + x, c.length + y, Nat.add_assoc .., Nat.add_assoc .., ?_⟩
      rw [List.flatten_cons, rfSeg_append_right]
      exact e

theorem map_length_sortNat (cls : List (List Nat)) : (cls.map sortNat).map List.length = cls.map List.length := by
  rw [List.map_map]
  exact List.map_congr_left (fun c _ => length_sortNat c)

theorem initBin_classes {n : Nat} {cls : List (List Nat)} {t a b : Nat}
    (ha : (0 :: bdL n (some cls))[t]? = some a) (hb : (bdL n (some cls))[t]? = some b) :
    ∃ c, cls[t]? = some c ∧ rfSeg (ordL n (some cls)) a b = sortNat c := by
  change (0 :: psums 0 (cls.map List.length))[t]? = some a at ha
  change (psums 0 (cls.map List.length))[t]? = some b at hb
  change ∃ c, cls[t]? = some c ∧ rfSeg (cls.map sortNat).flatten a b = sortNat c
  rw [← map_length_sortNat] at ha hb
  obtain ⟨x, y, rfl, rfl, e⟩ := psums_bin _ 0 t a b ha hb
  rw [Nat.zero_add, Nat.zero_add]
  rw [List.getElem?_map] at e
  cases hc : cls[t]? with
  | none => rw [hc] at e; cases e
  | some c => rw [hc] at e; exact ⟨c, rfl, (Option.some.inj e).symm⟩

theorem InitSpec.binsSorted {n : Nat} {vc : Classes} {op : OP} (hn : 0 < n) (hc : ClassesOK n vc)
    (hs : InitSpec n vc op) : BinsSorted op := by
  apply binsSorted_of_bins (hs.partInv hn hc).1
  intro t a b ha hb
  rw [hs.order]
  rw [hs.bd] at ha hb
  cases vc with
  | none => exact List.pairwise_lt_range.sublist ((List.take_sublist _ _).trans (List.drop_sublist _ _))
  | some cls =>
    obtain ⟨c, hct, e⟩ := initBin_classes ha hb
    rw [e]
    exact sortNat_pairwise_lt (((List.sublist_flatten_of_mem (List.mem_of_getElem? hct)).nodup
      (hc.1.nodup_iff.2 List.nodup_range)))

theorem new_binsSorted {n m : Nat} {vc : Classes} {op : OP} (hn : 0 < n) (hc : ClassesOK n vc)
    (h : newOrderedPartition n m vc = .ok (some op)) : BinsSorted op := by
  obtain ⟨op', h', hs, _⟩ := new_spec (m := m) hn hc
  rw [h] at h'
  obtain rfl : op = op' := Option.some.inj (Outcome.ok.inj h')
  exact hs.binsSorted hn hc

theorem class_position {n : Nat} {cls : List (List Nat)} (hn : 0 < n) (hc : ClassesOK n (some cls)) {k : Nat}
    {c : List Nat} {v : Nat} (hk : cls[k]? = some c) (hv : v ∈ c) :
    ∃ q, (ordL n (some cls))[q]? = some v ∧ binIdx (bdL n (some cls)) q = k := by
  obtain ⟨_, hsorted, _⟩ := initSpec_classesFacts hn hc
  have hkl : k < (bdL n (some cls)).length := by
    show k < (psums 0 (cls.map List.length)).length
    rw [length_psums, List.length_map]; exact (List.getElem?_eq_some_iff.1 hk).1
  have ha : (0 :: bdL n (some cls))[k]? = some ((0 :: bdL n (some cls))[k]'(Nat.lt_succ_of_lt hkl)) :=
    List.getElem?_eq_getElem _
  have hb : (bdL n (some cls))[k]? = some (bdL n (some cls))[k] := List.getElem?_eq_getElem hkl
  obtain ⟨c', hc', e⟩ := initBin_classes ha hb
  obtain rfl : c = c' := Option.some.inj (hk.symm.trans hc')
  obtain ⟨q, hq1, hq2, hq3⟩ := mem_rfSeg.1 (e ▸ mem_sortNat.2 hv)
  exact ⟨q, hq3, (binIdx_eq_iff_mem_bin (List.pairwise_cons.1 hsorted).2 ha hb q).2 ⟨hq1, hq2⟩⟩

theorem new_inCell_classes {n m : Nat} {vc : Classes} {op : OP} (hn : 0 < n) (hc : ClassesOK n vc)
    (h : newOrderedPartition n m vc = .ok (some op)) :
    match vc with
    | none => ∀ v, v < n → op.inCell.toList[v]? = some 0
    | some cls => ∀ (k : Nat) (c : List Nat), cls[k]? = some c → ∀ v ∈ c, op.inCell.toList[v]? = some k := by
  obtain ⟨op', h', hs, _⟩ := new_spec (m := m) hn hc
  rw [h] at h'
  obtain rfl : op = op' := Option.some.inj (Outcome.ok.inj h')
  cases vc with
  | none =>
    intro v hv
    have := hs.inCell v v (by simp only [ordL]; exact List.getElem?_range hv)
    rw [this]
    simp [bdL, binIdx, hv]
  | some cls =>
    intro k c hk v hv
    obtain ⟨q, hq, hb⟩ := class_position hn hc hk hv
    rw [hs.inCell q v hq, hb]

end CanonF
