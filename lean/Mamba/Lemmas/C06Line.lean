import Mamba.Lemmas.C06Partite
/-! C06: `LineGraphDense` computes the line graph: the three scans of one round are `writeOnes` on filtered lists (two of
them with an early exit that sortedness justifies), the invariant of the loop over the pairs, the result. -/
namespace Construct
open GraphSpec

theorem foldlM_if_setAt {α : Type} (c : α → Bool) (f : α → Nat) (l : List α) (e : Array Nat) :
    l.foldlM (fun e x => if c x then setAt e (f x) 1 else pure e) e = writeOnes e ((l.filter c).map f) := by
  induction l generalizing e with
  | nil => rfl
  | cons x t ih =>
    rw [List.foldlM_cons, List.filter_cons]
    cases hc : c x
    · simp only [Bool.false_eq_true, ↓reduceIte, Outcome.pure_eq, Outcome.bind_ok]; exact ih e
    · simp only [↓reduceIte, List.map_cons, writeOnes, List.foldlM_cons]
      cases setAt e (f x) 1 with
      | ok e' => exact ih e'
      | panic => rfl
      | outOfFuel => rfl

/-- on an ascending list the scan may stop at the first entry above `i` -/
theorem lineScanUpper_eq (i b : Nat) (l : List (Nat × Nat)) (e : Array Nat) (hsorted : l.Pairwise fun p q => p.2 ≤ q.2) :
    lineScanUpper i b l e = writeOnes e ((l.filter fun kv => i == kv.2).map fun kv => (b * (b - 1)) / 2 + kv.1) := by
  induction l generalizing e with
  | nil => rfl
  | cons kv t ih =>
    obtain ⟨k, v⟩ := kv
    have hs := List.pairwise_cons.mp hsorted
    rw [lineScanUpper, List.filter_cons]
    by_cases hi : i = v
    · subst hi
      simp only [beq_self_eq_true, ↓reduceIte, List.map_cons, writeOnes, List.foldlM_cons]
      cases setAt e (b * (b - 1) / 2 + k) 1 with
      | ok e' => exact ih e' hs.2
      | panic => rfl
      | outOfFuel => rfl
    · have hb : (i == v) = false := by simpa using hi
      simp only [hb, Bool.false_eq_true, ↓reduceIte]
      by_cases hlt : i < v
      · rw [if_pos hlt]
        have : t.filter (fun kv => i == kv.2) = [] := by
          rw [List.filter_eq_nil_iff]; intro q hq
          have := hs.1 q hq
          simp only [beq_iff_eq]; simp only at this; omega
        rw [this]; rfl
      · rw [if_neg hlt]; exact ih e hs.2

/-- on a descending list bounded by `j` the entries equal to `j` come first -/
theorem lineScanBack_eq (j b : Nat) (l : List (Nat × Nat)) (e : Array Nat) (hsorted : l.Pairwise fun p q => q.2 ≤ p.2)
    (hle : ∀ kv ∈ l, kv.2 ≤ j) :
    lineScanBack j b l e = writeOnes e ((l.filter fun kv => kv.2 == j).map fun kv => (b * (b - 1)) / 2 + kv.1) := by
  induction l generalizing e with
  | nil => rfl
  | cons kv t ih =>
    obtain ⟨k, v⟩ := kv
    have hs := List.pairwise_cons.mp hsorted
    rw [lineScanBack, List.filter_cons]
    by_cases hj : v = j
    · subst hj
      simp only [beq_self_eq_true, ↓reduceIte, List.map_cons, writeOnes, List.foldlM_cons]
      cases setAt e (b * (b - 1) / 2 + k) 1 with
      | ok e' => exact ih e' hs.2 (fun q hq => hle q (List.mem_cons_of_mem _ hq))
      | panic => rfl
      | outOfFuel => rfl
    · have hb : (v == j) = false := by simpa using hj
      simp only [hb, Bool.false_eq_true, ↓reduceIte]
      have hvj : v ≤ j := hle (k, v) (List.mem_cons_self ..)
      have : t.filter (fun kv => kv.2 == j) = [] := by
        rw [List.filter_eq_nil_iff]; intro q hq
        have := hs.1 q hq
        simp only [beq_iff_eq]; simp only at this; omega
      rw [this]; rfl

def share (e f : Nat × Nat) : Bool := e.1 == f.1 || e.1 == f.2 || e.2 == f.1 || e.2 == f.2

theorem share_comm (e f : Nat × Nat) : share e f = share f e := by
  unfold share
  rw [Bool.eq_iff_iff]; simp only [Bool.or_eq_true, beq_iff_eq]; omega

/-- the byte array of the line graph of the edge list `E` -/
def lgBit (E : List (Nat × Nat)) (x : Nat) : Bool :=
  (pairs E.length).any fun ab => x == tri ab.2 + ab.1 && share (E.getD ab.1 (0, 0)) (E.getD ab.2 (0, 0))

theorem any_congr_mem {α : Type} (l : List α) (p q : α → Bool) (h : ∀ a ∈ l, p a = q a) : l.any p = l.any q := by
  induction l with
  | nil => rfl
  | cons a t ih => simp [h a (by simp), ih (fun b hb => h b (by simp [hb]))]

theorem lgBit_snoc (E : List (Nat × Nat)) (q : Nat × Nat) (x : Nat) :
    lgBit (E ++ [q]) x = (lgBit E x || (List.range E.length).any fun k => x == tri E.length + k && share (E.getD k (0, 0)) q) := by
  unfold lgBit
  rw [List.length_append, List.length_singleton, pairs_succ, List.any_append, List.any_map]
  congr 1
  · apply any_congr_mem
    intro ab hab
    obtain ⟨h1, h2⟩ := mem_pairs.mp hab
    rw [List.getD_snoc_lt (show ab.1 < E.length by omega), List.getD_snoc_lt h2]
  · apply any_congr_mem
    intro k hk
    have := List.mem_range.mp hk
    simp only [Function.comp]
    rw [List.getD_snoc_lt this, List.getD_snoc_length]

theorem zip_range_eq (L : List Nat) : (List.range L.length).zip L = (List.range L.length).map fun k => (k, L.getD k 0) := by
  apply List.ext_getElem
  · simp
  · intro k h1 h2
    simp at h1
    simp [List.getD, h1]

theorem pairwise_pairs (n : Nat) : (pairs n).Pairwise fun p q => p.2 ≤ q.2 := GraphRep.upperPairs_pairwise_snd n

structure LgInv (m : Nat) (E : List (Nat × Nat)) (st : LineSt) : Prop where
  idx : st.mIndex = E.length
  lower : st.lower.toList = E.map (·.1)
  upper : st.upper.toList = E.map (·.2)
  size : st.edges.size = tri m
  bits : ∀ x, bitAt st.edges x = lgBit E x

/-- one round of the loop of `LineGraphDense` -/
def lgStep (g : GraphI) (st : LineSt) (p : Nat × Nat) : Outcome LineSt := do
  let i := p.1
  let j := p.2
  if (← g.isEdge i j) then
    let e ← (enum st.lower).foldlM (fun e (kv : Nat × Nat) =>
        if i == kv.2 then setAt e ((st.mIndex * (st.mIndex - 1)) / 2 + kv.1) 1 else pure e) st.edges
    let e ← lineScanUpper i st.mIndex (enum st.upper) e
    let e ← lineScanBack j st.mIndex (enum st.upper).reverse e
    pure { edges := e, lower := st.lower.push i, upper := st.upper.push j, mIndex := st.mIndex + 1 }
  else pure st

theorem enum_eq (a : Array Nat) (E : List (Nat × Nat)) (f : Nat × Nat → Nat) (hf : f (0, 0) = 0)
    (h : a.toList = E.map f) : enum a = (List.range E.length).map fun k => (k, f (E.getD k (0, 0))) := by
  have hsz : a.size = E.length := by rw [← Array.length_toList, h]; simp
  unfold enum
  rw [h, hsz]
  have := zip_range_eq (E.map f)
  simp only [List.length_map] at this
  rw [this]
  apply List.map_congr_left
  intro k _
  simp only [List.getD, List.getElem?_map]; cases E[k]? <;> simp [hf]

theorem lgStep_edge (g : GraphI) (m : Nat) (E : List (Nat × Nat)) (st : LineSt) (i j : Nat)
    (hinv : LgInv m E st) (hlen : E.length < m) (hsorted : E.Pairwise fun p q => p.2 ≤ q.2)
    (hE : ∀ p ∈ E, p.1 < p.2 ∧ p.2 ≤ j) (hedge : g.isEdge i j = .ok true) :
    ∃ st', lgStep g st (i, j) = .ok st' ∧ LgInv m (E ++ [(i, j)]) st' := by
  have hb : st.mIndex = E.length := hinv.idx
  have hl1 := enum_eq st.lower E (·.1) rfl hinv.lower
  have hl2 := enum_eq st.upper E (·.2) rfl hinv.upper
  have hsorted2 : (enum st.upper).Pairwise fun p q => p.2 ≤ q.2 := by
    rw [hl2, List.pairwise_map]
    rw [List.pairwise_iff_getElem] at hsorted ⊢
    intro a b ha hb' hab
    simp only [List.length_range] at ha hb'
    simp only [List.getElem_range, List.getD, List.getElem?_eq_getElem ha, List.getElem?_eq_getElem hb', Option.getD_some]
    exact hsorted a b ha hb' hab
  have hle : ∀ kv ∈ (enum st.upper).reverse, kv.2 ≤ j := by
    intro kv hkv; rw [List.mem_reverse, hl2] at hkv; simp only [List.mem_map, List.mem_range] at hkv
    obtain ⟨k, hk, rfl⟩ := hkv
    simp only [List.getD, List.getElem?_eq_getElem hk, Option.getD_some]
    exact (hE _ (List.getElem_mem hk)).2
  -- the three scans write the positions of the earlier edges through `i` (as lower or upper end) or `j`
  let f : Nat × Nat → Nat := fun kv => (E.length * (E.length - 1)) / 2 + kv.1
  let W := ((enum st.lower).filter fun kv => i == kv.2).map f ++ (((enum st.upper).filter fun kv => i == kv.2).map f ++
    ((enum st.upper).reverse.filter fun kv => kv.2 == j).map f)
  have hprog : lgStep g st (i, j) = writeOnes st.edges W >>= fun e =>
      pure { edges := e, lower := st.lower.push i, upper := st.upper.push j, mIndex := st.mIndex + 1 } := by
    have h1 : (enum st.lower).foldlM (fun e (kv : Nat × Nat) =>
        if i == kv.2 then setAt e ((E.length * (E.length - 1)) / 2 + kv.1) 1 else pure e) st.edges =
        writeOnes st.edges (((enum st.lower).filter fun kv => i == kv.2).map f) :=
      foldlM_if_setAt (fun kv : Nat × Nat => i == kv.2) f _ _
    simp only [lgStep, hedge, Outcome.bind_ok, ↓reduceIte, hb, h1, lineScanUpper_eq i E.length _ _ hsorted2,
      lineScanBack_eq j E.length _ _ (List.pairwise_reverse.mpr hsorted2) hle]
    rw [← bind_assoc, ← bind_assoc, ← writeOnes_append, ← writeOnes_append, List.append_assoc]
  have hW : ∀ x, x ∈ W ↔ ∃ k, k < E.length ∧ x = tri E.length + k ∧
      (i = (E.getD k (0, 0)).1 ∨ i = (E.getD k (0, 0)).2 ∨ (E.getD k (0, 0)).2 = j) := by
    intro x
    simp only [W, f, hl1, hl2, List.mem_append, List.mem_map, List.mem_filter, List.mem_reverse, List.mem_range, beq_iff_eq,
      tri_def]
    constructor
    · rintro (⟨_, ⟨⟨k, hk, rfl⟩, h⟩, rfl⟩ | ⟨_, ⟨⟨k, hk, rfl⟩, h⟩, rfl⟩ | ⟨_, ⟨⟨k, hk, rfl⟩, h⟩, rfl⟩)
      · exact ⟨k, hk, rfl, Or.inl h⟩
      · exact ⟨k, hk, rfl, Or.inr (Or.inl h)⟩
      · exact ⟨k, hk, rfl, Or.inr (Or.inr h)⟩
    · rintro ⟨k, hk, rfl, h | h | h⟩
      · exact Or.inl ⟨_, ⟨⟨k, hk, rfl⟩, h⟩, rfl⟩
      · exact Or.inr (Or.inl ⟨_, ⟨⟨k, hk, rfl⟩, h⟩, rfl⟩)
      · exact Or.inr (Or.inr ⟨_, ⟨⟨k, hk, rfl⟩, h⟩, rfl⟩)
  -- from here on only `hprog` and `hW` speak of `W`; with its value in the context the `omega` calls below are slow
  clear_value W f
  obtain ⟨e3, f3, s3, b3⟩ := writeOnes_ok st.edges W (by
    intro x hx
    obtain ⟨k, hk, rfl, _⟩ := (hW x).mp hx
    rw [hinv.size]; exact tri_add_lt hk hlen)
  refine ⟨{ edges := e3, lower := st.lower.push i, upper := st.upper.push j, mIndex := st.mIndex + 1 }, ?_, ?_⟩
  · rw [hprog, f3]; rfl
  · refine ⟨by simp [hb], by simp [hinv.lower], by simp [hinv.upper], by rw [s3, hinv.size], ?_⟩
    intro x
    show bitAt e3 x = _
    rw [b3 x, hinv.bits x, lgBit_snoc]
    congr 1
    rw [Bool.eq_iff_iff, decide_eq_true_eq, hW x]
    simp only [List.any_eq_true, List.mem_range, Bool.and_eq_true, beq_iff_eq, share, Bool.or_eq_true]
    constructor
    · rintro ⟨k, hk, rfl, h⟩
      refine ⟨k, hk, rfl, ?_⟩
      rcases h with h | h | h
      · exact Or.inl (Or.inl (Or.inl h.symm))
      · exact Or.inl (Or.inr h.symm)
      · exact Or.inr h
    · rintro ⟨k, hk, rfl, h⟩
      refine ⟨k, hk, rfl, ?_⟩
      have hEk := hE _ (List.getElem_mem hk)
      have hget : E.getD k (0, 0) = E[k] := by simp [List.getD, hk]
      rw [← hget] at hEk
      rcases h with ((h | h) | h) | h
      · exact Or.inl h.symm
      · omega
      · exact Or.inr (Or.inl h.symm)
      · exact Or.inr (Or.inr h)

theorem lgFold (g : GraphI) (gs : G) (m : Nat) (Q P : List (Nat × Nat)) (st : LineSt)
    (hPQ : P ++ Q = pairs gs.n)
    (hedge : ∀ p ∈ pairs gs.n, g.isEdge p.1 p.2 = .ok (gs.adj p.1 p.2))
    (hm : m = ((pairs gs.n).filter fun p => gs.adj p.1 p.2).length)
    (hinv : LgInv m (P.filter fun p => gs.adj p.1 p.2) st) :
    ∃ st', Q.foldlM (lgStep g) st = .ok st' ∧ LgInv m ((pairs gs.n).filter fun p => gs.adj p.1 p.2) st' := by
  induction Q generalizing P st with
  | nil => refine ⟨st, rfl, ?_⟩; rw [← hPQ]; simpa using hinv
  | cons q Q' ih =>
    have hq : q ∈ pairs gs.n := by rw [← hPQ]; simp
    have hPQ' : (P ++ [q]) ++ Q' = pairs gs.n := by rw [← hPQ]; simp
    by_cases ha : gs.adj q.1 q.2 = true
    · have hpw := pairwise_pairs gs.n
      rw [← hPQ, List.pairwise_append] at hpw
      obtain ⟨hpP, _, hpPQ⟩ := hpw
      obtain ⟨st1, e1, inv1⟩ := lgStep_edge g m (P.filter fun p => gs.adj p.1 p.2) st q.1 q.2 hinv
        (by
          rw [hm, ← hPQ, List.filter_append, List.length_append, List.filter_cons]
          simp [ha])
        (hpP.sublist List.filter_sublist)
        (by
          intro p hp
          have hpP' : p ∈ P := (List.mem_filter.mp hp).1
          have : p ∈ pairs gs.n := by rw [← hPQ]; simp [hpP']
          exact ⟨(mem_pairs.mp this).1, hpPQ p hpP' q (by simp)⟩)
        (by rw [hedge q hq, ha])
      obtain ⟨st', e2, inv2⟩ := ih (P ++ [q]) st1 hPQ' (by
        rw [List.filter_append, List.filter_cons]; simpa [ha] using inv1)
      exact ⟨st', by simp only [List.foldlM_cons]; rw [e1]; exact e2, inv2⟩
    · have ha0 : gs.adj q.1 q.2 = false := by simpa using ha
      obtain ⟨st', e2, inv2⟩ := ih (P ++ [q]) st hPQ' (by
        rw [List.filter_append, List.filter_cons]; simpa [ha0] using hinv)
      refine ⟨st', ?_, inv2⟩
      simp only [List.foldlM_cons, lgStep, hedge q hq, ha0, Outcome.bind_ok, Bool.false_eq_true, ↓reduceIte, Outcome.pure_eq]
      exact e2

theorem lineGraphDense_unfold (g : GraphI) : lineGraphDense g =
    g.m >>= fun gm => if gm < 0 then .panic else
      (pairs g.n).foldlM (lgStep g) { edges := zeros ((gm.toNat * (gm.toNat - 1)) / 2), lower := #[], upper := #[], mIndex := 0 }
        >>= fun st => newDense gm.toNat (some st.edges) := by
  unfold lineGraphDense; rfl

theorem lineGraph_eq (gs : G) : Families.lineGraph gs =
    Families.symm gs.edges.length fun a b => share (gs.edges.getD a (0, 0)) (gs.edges.getD b (0, 0)) := by
  refine GraphRep.G_ext (show _ = _ from rfl) ?_
  intro u v
  simp only [Families.lineGraph, Families.symm]
  by_cases hu : u < gs.edges.length
  · by_cases hv : v < gs.edges.length
    · simp [hu, hv, List.getD, share]
    · simp [hv]
  · simp [hu]

theorem lineGraphDense_ok (g : GraphI) (gs : G) (hs : g.Sound gs) :
    ∃ d, lineGraphDense g = .ok d ∧ d.WF ∧ d.abs = Families.lineGraph gs := by
  have hes : gs.edges = (pairs gs.n).filter fun p => gs.adj p.1 p.2 := edges_eq_filter gs
  have hm : gs.m = ((pairs gs.n).filter fun p => gs.adj p.1 p.2).length := by rw [G.m, hes]
  obtain ⟨st', f1, inv⟩ := lgFold g gs gs.m (pairs gs.n) []
    { edges := zeros (tri gs.m), lower := #[], upper := #[], mIndex := 0 } (by simp)
    (by intro p hp; obtain ⟨h1, h2⟩ := mem_pairs.mp hp; exact hs.isEdge _ _ (by omega) h2) hm
    ⟨rfl, rfl, rfl, by simp [zeros], by intro x; simp [bitAt_zeros, lgBit, pairs]⟩
  obtain ⟨d, e, hn, hedges, hwf⟩ := newDense_some gs.m st'.edges inv.size
  have hsz : d.edges.size = tri d.n := hwf.size_edges
  refine ⟨d, ?_, hwf, ?_⟩
  · rw [lineGraphDense_unfold]
    have h0 : ¬ ((gs.m : Int) < 0) := by omega
    simp only [hs.m, Outcome.bind_ok, h0, ↓reduceIte, Int.toNat_natCast, hs.n, tri_def]
    rw [f1]; exact e
  · have hlen : gs.edges.length = d.n := by rw [hn]; rfl
    rw [lineGraph_eq, hlen]
    apply abs_eq_symm d hsz
    intro a b hab hb
    rw [hedges, inv.bits, ← hes, share_comm (gs.edges.getD b (0, 0)), Bool.or_self]
    have hb' : b < gs.edges.length := by omega
    unfold lgBit
    rw [Bool.eq_iff_iff, List.any_eq_true]
    constructor
    · rintro ⟨ab, hmem, h⟩
      obtain ⟨h1, h2⟩ := mem_pairs.mp hmem
      simp only [Bool.and_eq_true, beq_iff_eq] at h
      have := tri_inj hab h1 h.1
      rw [this.1, this.2]; exact h.2
    · intro h
      exact ⟨(a, b), mem_pairs.mpr ⟨hab, hb'⟩, by simp only [beq_self_eq_true, Bool.true_and]; exact h⟩

end Construct
