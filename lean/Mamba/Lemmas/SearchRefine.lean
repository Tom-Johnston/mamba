import Mamba.Lemmas.SearchSub
import Mamba.Lemmas.SearchAugApp
import Mathlib.Data.List.Nodup
/-! The explicit-stack loop of `Next` lists what the recursive traversal `subNode` lists: the pending work `remM` of a
configuration of `run` is unchanged by every transition (`Trans.rem_eq`), hence `run_rem`. -/
namespace Search

/-- a stack (Go slice used as a stack) as a list, top first -/
def topList {α : Type} (a : Array α) : List α := a.toList.reverse

theorem topList_push {α : Type} (a : Array α) (x : α) : topList (a.push x) = x :: topList a := by
  simp [topList]

theorem topList_pop {α : Type} (a : Array α) : topList a.pop = (topList a).tail := by
  simp [topList, List.tail_reverse]

theorem topList_append {α : Type} (a b : Array α) : topList (a ++ b) = topList b ++ topList a := by
  simp [topList]

theorem topList_eq_nil {α : Type} (a : Array α) : topList a = [] ↔ a.size = 0 := by
  simp [topList]

theorem topList_length {α : Type} (a : Array α) : (topList a).length = a.size := by
  simp [topList]

theorem back?_eq_head? {α : Type} (a : Array α) : a.back? = (topList a).head? := by
  simp [topList, Array.back?_eq_getElem?, List.head?_reverse, List.getLast?_eq_getElem?]

theorem topList_of_back? {α : Type} {a : Array α} {x : α} (h : a.back? = some x) :
    topList a = x :: (topList a).tail := by
  rw [back?_eq_head?] at h
  cases hl : topList a with
  | nil => simp [hl] at h
  | cons y ys => simp [hl] at h; simp [h]

theorem set_last_reverse {α : Type} (x : α) : ∀ (l : List α), l ≠ [] →
    (l.set (l.length - 1) x).reverse = x :: l.reverse.tail := by
  intro l hl
  obtain ⟨l', y, rfl⟩ := List.eq_nil_or_concat' l |>.resolve_left hl
  simp

theorem topList_set_last {α : Type} (a : Array α) (x : α) (h : a.size ≠ 0) :
    topList (a.setIfInBounds (a.size - 1) x) = x :: (topList a).tail := by
  simp only [topList, Array.toList_setIfInBounds]
  have : a.toList ≠ [] := by intro e; apply h; simpa using congrArg List.length e
  have := set_last_reverse x a.toList this
  simpa using this

section
variable (O : Oracle) (pre pr : DG → Bool)

/-- work pending in the open frames: `cnt :: cps` are the counts of children still to be tried (top frame first), `chs`
the choices stack (top first), `P` the graph the children of the top frame extend -/
def remFrames (n : Nat) (K : Nat → Nat → Bool) (node : DG → Option Ans → Outcome (List DG)) :
    DG → List Nat → List Nat → Outcome (List DG)
  | _, [], _ => pure []
  | P, cnt :: cps, chs => do
    let o1 ← subKids O pre pr n K node P (chs.take cnt) cnt
    if chs.drop cnt = [] then pure o1
    else
      let P' ← P.removeLast
      let o2 ← remFrames n K node P' cps (chs.drop cnt)
      pure (o1 ++ o2)

def remStep (n : Nat) (K : Nat → Nat → Bool) (node : DG → Option Ans → Outcome (List DG)) (sf : Bool) (s : State) :
    Outcome (List DG) :=
  if topList s.choices = [] then pure []
  else parentOf s.g sf >>= fun P => remFrames O pre pr n K node P (topList s.currentPath) (topList s.choices)

def remM (n : Nat) (K : Nat → Nat → Bool) (node : DG → Option Ans → Outcome (List DG)) : Mode → State → Outcome (List DG)
  | .outer false _, s => do
    let o ← node s.g s.cache
    let r ← remStep O pre pr n K node false s
    pure (o ++ r)
  | .outer true sf, s => remStep O pre pr n K node sf s
  | .step sf, s => remStep O pre pr n K node sf s
  | .inner sf i, s =>
    parentOf s.g sf >>= fun P => remFrames O pre pr n K node P (i :: (topList s.currentPath).tail) (topList s.choices)

/-- the unfolding equation the traversal of a node satisfies (on graphs with at most `n` vertices) -/
def NodeFix (n : Nat) (K : Nat → Nat → Bool) (node : DG → Option Ans → Outcome (List DG)) : Prop :=
  ∀ g c, g.nv ≤ n → node g c =
    if g.nv = n then pure [g]
    else addAugmentations O n g #[] c >>= fun r => subKids O pre pr n K node g (topList r.1) r.1.size

/-- `subNode` with exactly the fuel it needs -/
def nodeX (n : Nat) (K : Nat → Nat → Bool) : DG → Option Ans → Outcome (List DG) :=
  fun g c => subNode O pre pr n K (n - g.nv) g c

theorem nodeX_fix (n : Nat) (K : Nat → Nat → Bool) : NodeFix O pre pr n K (nodeX O pre pr n K) := by
  intro g c hle
  unfold nodeX
  by_cases hn : g.nv = n
  · simp [hn, subNode]
  · have : n - g.nv = (n - g.nv - 1) + 1 := by omega
    rw [this]
    simp only [subNode, hn, if_false]
    cases haug : addAugmentations O n g #[] c with
    | ok p =>
      apply subKids_congr
      intro g2 c2 h2
      rw [h2, Nat.sub_add_eq]
    | panic => rfl
    | outOfFuel => rfl

theorem bitsOf_nodup (x : Nat) : (bitsOf x).Nodup := by
  unfold bitsOf
  exact List.Nodup.filter _ List.nodup_range

structure MInv (n : Nat) (K : Nat → Nat → Bool) (mode : Mode) (s : State) : Prop extends ModeInv mode s where
  hn : s.n = n
  hK : ∀ i L, K i L = (i % s.m != s.a && (L : Int) == splitLevel s.n)
  level : s.g.nv = s.currentPath.size + (if mode.eff then 0 else 1)

variable {O pre pr}
variable {n : Nat} {K : Nat → Nat → Bool} {node : DG → Option Ans → Outcome (List DG)}

/-- going deeper: the subtree of an accepted node is the pending work of the frame it pushes -/
theorem rem_outer_push (hfix : NodeFix O pre pr n K node) {sf : Bool} {s : State}
    (hi : MInv n K (.outer false sf) s) (hne : s.g.nv ≠ s.n) {ch : Array Nat} {cache : Option Ans} {num : Nat}
    (haug : addAugmentations O s.n s.g s.choices s.cache = .ok (ch, cache, num)) :
    remM O pre pr n K node (.outer false sf) s =
      remM O pre pr n K node (.step true)
        { s with choices := ch, cache := cache, currentPath := s.currentPath.push num } := by
  obtain ⟨new, h1, h2, h3⟩ := addAugmentations_append O s.n s.g s.cache s.choices haug
  have hn := hi.hn
  subst hn
  have hfx := hfix s.g s.cache hi.le
  rw [if_neg hne, h3 #[]] at hfx
  simp only [Array.empty_append, Outcome.bind_ok] at hfx
  simp only [remM, remStep, hfx, parentOf, h1, h2, topList_append, topList_push]
  have htake : (topList new ++ topList s.choices).take new.size = topList new := by
    rw [List.take_append_of_le_length (Nat.le_of_eq (topList_length new).symm),
      List.take_of_length_le (Nat.le_of_eq (topList_length new))]
  have hdrop : (topList new ++ topList s.choices).drop new.size = topList s.choices := by
    rw [List.drop_append_of_le_length (Nat.le_of_eq (topList_length new).symm),
      List.drop_of_length_le (Nat.le_of_eq (topList_length new))]
    rfl
  by_cases hall : topList new ++ topList s.choices = []
  · simp [(List.append_eq_nil_iff.1 hall).1, (List.append_eq_nil_iff.1 hall).2, subKids]
  · simp only [hall, if_false, Bool.false_eq_true, if_true, Outcome.bind_ok, remFrames, htake, hdrop]
    by_cases hc : topList s.choices = []
    · simp [hc]
    · simp only [hc, if_false, bind_assoc]

theorem rem_step_inner {sf : Bool} {s : State} {cp : Nat} (h0 : s.choices.size ≠ 0)
    (hb : s.currentPath.back? = some cp) :
    remM O pre pr n K node (.step sf) s = remM O pre pr n K node (.inner sf cp) s := by
  have hc : topList s.choices ≠ [] := fun e => h0 ((topList_eq_nil _).1 e)
  simp only [remM, remStep, hc, if_false]
  rw [topList_of_back? hb]
  simp only [List.tail_cons]

theorem rem_inner_zero {sf : Bool} {s : State} {P : DG} (hp : parentOf s.g sf = .ok P) :
    remM O pre pr n K node (.inner sf 0) s =
      remM O pre pr n K node (.step false)
        { s with g := P, cache := if sf then s.cache else none, currentPath := s.currentPath.pop } := by
  have hp2 : parentOf P false = P.removeLast := rfl
  simp only [remM, remStep, hp, hp2, topList_pop, remFrames, List.take_zero, List.drop_zero]
  have hk0 : subKids O pre pr n K node P [] 0 = .ok [] := by simp [subKids]
  simp only [hk0, Outcome.bind_ok, List.nil_append, bind_pure]

theorem remFrames_kid_none {P : DG} {i x : Nat} {cps chs' : List Nat}
    (h : subKids O pre pr n K node P (x :: chs'.take i) (i + 1) = subKids O pre pr n K node P (chs'.take i) i) :
    remFrames O pre pr n K node P ((i + 1) :: cps) (x :: chs') = remFrames O pre pr n K node P (i :: cps) chs' := by
  simp only [remFrames, List.take_succ_cons, List.drop_succ_cons, h]

theorem remFrames_kid_node {P g2 : DG} {cache : Option Ans} {i x : Nat} {cps chs' : List Nat}
    (h : subKids O pre pr n K node P (x :: chs'.take i) (i + 1) =
      (do let o1 ← node g2 cache; let o2 ← subKids O pre pr n K node P (chs'.take i) i; pure (o1 ++ o2))) :
    remFrames O pre pr n K node P ((i + 1) :: cps) (x :: chs') =
      (do let o1 ← node g2 cache; let r ← remFrames O pre pr n K node P (i :: cps) chs'; pure (o1 ++ r)) := by
  simp only [remFrames, List.take_succ_cons, List.drop_succ_cons, h, bind_assoc, pure_bind]
  by_cases hd : chs'.drop i = []
  · simp only [hd, if_true, pure_bind]
  · simp only [hd, if_false, bind_assoc, pure_bind, List.append_assoc]

theorem MInv.child {sf : Bool} {i x : Nat} {s : State} {P : DG} (hi : MInv n K (.inner sf (i + 1)) s)
    (hb : s.choices.back? = some x) (hp : parentOf s.g sf = .ok P) :
    topList s.choices = x :: topList s.choices.pop ∧ P.Sized ∧ P.nv = s.currentPath.size :=
  ⟨by rw [topList_pop]; exact topList_of_back? hb, parentOf_sized hp hi.sized, parentOf_nv hp hi.level⟩

theorem rem_inner_skip {sf : Bool} {i x : Nat} {s : State} (hi : MInv n K (.inner sf (i + 1)) s)
    (hb : s.choices.back? = some x)
    (hskip : (i % s.m != s.a && ((s.currentPath.size : Nat) : Int) == splitLevel s.n) = true) :
    remM O pre pr n K node (.inner sf (i + 1)) s =
      remM O pre pr n K node (.inner sf i) { s with choices := s.choices.pop } := by
  have htl : topList s.choices = x :: topList s.choices.pop := by
    rw [topList_pop]; exact topList_of_back? hb
  simp only [remM, htl]
  cases hp : parentOf s.g sf with
  | panic => rfl
  | outOfFuel => rfl
  | ok P =>
    simp only [Outcome.bind_ok]
    apply remFrames_kid_none
    have : K i P.nv = true := by rw [hi.hK, parentOf_nv hp hi.level]; exact hskip
    rw [subKids_cons, if_pos this]

theorem rem_inner_reject {sf : Bool} {i x : Nat} {s : State} {P g2 : DG} {c3 : Option Ans}
    (hi : MInv n K (.inner sf (i + 1)) s) (hb : s.choices.back? = some x)
    (hskip : (i % s.m != s.a && ((s.currentPath.size : Nat) : Int) == splitLevel s.n) = false)
    (hp : parentOf s.g sf = .ok P) (hadd : P.addVertex (bitsOf x) = .ok g2)
    (hrej : pre g2 = true ∨ ∃ canon, isCanonical O s.n g2 (bitsOf x) none = .ok (c3, canon) ∧ (canon && !pr g2) = false) :
    remM O pre pr n K node (.inner sf (i + 1)) s =
      remM O pre pr n K node (.inner false i) { s with choices := s.choices.pop, g := g2, cache := c3 } := by
  obtain ⟨htl, hsz, hnv⟩ := hi.child hb hp
  have hp2 : parentOf g2 false = .ok P := by simp [parentOf, removeLast_addVertex hsz (bitsOf_nodup x) hadd]
  simp only [remM, htl, hp, hp2, Outcome.bind_ok]
  apply remFrames_kid_none
  have hk : K i P.nv = false := by rw [hi.hK, hnv]; exact hskip
  rw [subKids_cons, hk, if_neg Bool.false_ne_true, kid_rejected hadd (hrej.imp_right fun ⟨canon, h⟩ => ⟨c3, canon, hi.hn ▸ h⟩)]
  rfl

theorem rem_inner_accept {sf : Bool} {i x : Nat} {s : State} {P g2 : DG} {c3 : Option Ans} {canon : Bool}
    (hi : MInv n K (.inner sf (i + 1)) s) (hb : s.choices.back? = some x)
    (hskip : (i % s.m != s.a && ((s.currentPath.size : Nat) : Int) == splitLevel s.n) = false)
    (hp : parentOf s.g sf = .ok P) (hadd : P.addVertex (bitsOf x) = .ok g2) (hpre : pre g2 = false)
    (hcan : isCanonical O s.n g2 (bitsOf x) none = .ok (c3, canon)) (hacc : (canon && !pr g2) = true)
    (hcp0 : s.currentPath.size ≠ 0) :
    remM O pre pr n K node (.inner sf (i + 1)) s =
      remM O pre pr n K node (.outer false false)
        { s with choices := s.choices.pop, g := g2, cache := c3,
                 currentPath := s.currentPath.setIfInBounds (s.currentPath.size - 1) i } := by
  obtain ⟨htl, hsz, hnv⟩ := hi.child hb hp
  have hp2 : parentOf g2 false = .ok P := by simp [parentOf, removeLast_addVertex hsz (bitsOf_nodup x) hadd]
  have hk : K i P.nv = false := by rw [hi.hK, hnv]; exact hskip
  rw [hi.hn] at hcan
  simp only [remM, remStep, htl, hp, hp2, topList_set_last _ _ hcp0, Outcome.bind_ok]
  rw [remFrames_kid_node (g2 := g2) (cache := c3)
    (by rw [subKids_cons, hk, if_neg Bool.false_ne_true, kid_accepted hadd hpre hcan hacc]; rfl)]
  by_cases hc : topList s.choices.pop = []
  · simp [hc, remFrames, subKids]
  · simp only [hc, if_false]

end

section
variable {O : Oracle} {pre pr : DG → Bool}
variable {n : Nat} {K : Nat → Nat → Bool} {node : DG → Option Ans → Outcome (List DG)}

theorem MInv.of_eff {mode mode' : Mode} {s : State} (h : MInv n K mode s) (he : mode'.eff = mode.eff) :
    MInv n K mode' s :=
  ⟨⟨h.sized, h.le, fun hh => h.lt (he ▸ hh)⟩, h.hn, h.hK, by rw [he]; exact h.level⟩

theorem Trans.minv {mode mode' : Mode} {s s' : State} (h : Trans O pre pr mode s mode' s') (hi : MInv n K mode s) :
    MInv n K mode' s' := by
  have hsp := h.sameParams
  refine ⟨h.modeInv hi.toModeInv, hsp.1.trans hi.hn, fun i L => by rw [hi.hK, hsp.2.2.1, hsp.2.1, hsp.1], ?_⟩
  have hl := hi.level
  cases h with
  | resume | enter | skip => exact hl
  | push => simp only [Mode.eff, Bool.false_eq_true, if_false, if_true, Array.size_push] at hl ⊢; exact hl
  | back hp hcp0 =>
    simp only [Mode.eff, Bool.false_eq_true, if_false, Array.size_pop, parentOf_nv hp hl]; omega
  | reject _ _ _ hp hadd =>
    simp only [Mode.eff, Bool.false_eq_true, if_false, addVertex_nv hadd, parentOf_nv hp hl]
  | accept _ _ _ hp hadd =>
    simp only [Mode.eff, Bool.false_eq_true, if_false, addVertex_nv hadd, parentOf_nv hp hl, Array.size_setIfInBounds]

theorem Trans.rem_eq (hfix : NodeFix O pre pr n K node) {mode mode' : Mode} {s s' : State}
    (h : Trans O pre pr mode s mode' s') (hi : MInv n K mode s) :
    remM O pre pr n K node mode s = remM O pre pr n K node mode' s' := by
  cases h with
  | resume => rfl
  | push hne haug => exact rem_outer_push hfix hi hne haug
  | enter h0 hb => exact rem_step_inner h0 hb
  | back hp => exact rem_inner_zero hp
  | skip hb _ hskip => exact rem_inner_skip hi hb hskip
  | reject hb _ hskip hp hadd hrej => exact rem_inner_reject hi hb hskip hp hadd (hrej.imp And.left And.right)
  | accept hb _ hskip hp hadd hpre hcan hacc hcp0 => exact rem_inner_accept hi hb hskip hp hadd hpre hcan hacc hcp0

theorem run_rem (hfix : NodeFix O pre pr n K node) {f : Nat} {mode : Mode} {s s1 : State} {b : Bool}
    (h : run O pre pr f mode s = .ok (s1, b)) (hi : MInv n K mode s) :
    (b = true → MInv n K (.step false) s1 ∧
      ∀ L, remM O pre pr n K node (.step false) s1 = .ok L → remM O pre pr n K node mode s = .ok (s1.g :: L)) ∧
    (b = false → remM O pre pr n K node mode s = .ok []) :=
  run_rec (I := MInv n K)
    (C := fun mode s r => (r.2 = true → MInv n K (.step false) r.1 ∧
      ∀ L, remM O pre pr n K node (.step false) r.1 = .ok L → remM O pre pr n K node mode s = .ok (r.1.g :: L)) ∧
      (r.2 = false → remM O pre pr n K node mode s = .ok []))
    (fun {_ s _} hr hi => by
      cases hr with
      | yield hnv =>
        refine ⟨fun _ => ⟨hi.of_eff rfl, fun L hL => ?_⟩, fun hb => Bool.noConfusion hb⟩
        have hfx := hfix s.g s.cache (hi.hn ▸ hi.le)
        rw [if_pos (hi.hn ▸ hnv)] at hfx
        simp only [remM] at hL ⊢
        simp [hfx, hL]
      | done h0 =>
        refine ⟨fun hb => Bool.noConfusion hb, fun _ => ?_⟩
        simp [remM, remStep, (topList_eq_nil _).2 h0])
    (fun _ ht hi => ⟨ht.minv hi, by rw [ht.rem_eq hfix hi]; exact id⟩) f mode s _ h hi

end

end Search
