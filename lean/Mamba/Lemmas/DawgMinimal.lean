import Mamba.Lemmas.DawgBuild
import Mamba.Lemmas.DawgTerm
import Mamba.Spec.Dawg
/-! The finished automaton: minimal, well-formed in the sense of C14, and ranked (acyclic), so that the traversals return
on it. -/
namespace Dawg

def totalLen (L : List Word) : Nat := (L.map List.length).sum

theorem totalLen_cons (u : Word) (L : List Word) : totalLen (u :: L) = u.length + totalLen L := by
  rw [totalLen, List.map_cons, List.sum_cons]; rfl

/-- every word of `sub L c` is one letter shorter than the word of `L` it comes from -/
theorem totalLen_sub_add (L : List Word) (c : Nat) : totalLen (sub L c) + (sub L c).length ≤ totalLen L := by
  induction L with
  | nil => exact Nat.le_refl _
  | cons u L ih =>
    cases u with
    | nil => rw [sub_cons_nil, totalLen_cons]; omega
    | cons a t =>
      rw [sub_cons_cons, totalLen_cons, List.length_cons]
      split
      · rw [totalLen_cons, List.length_cons]; omega
      · omega

theorem totalLen_sub_lt (L : List Word) (c : Nat) (hne : sub L c ≠ []) : totalLen (sub L c) < totalLen L :=
  Nat.lt_of_lt_of_le (Nat.lt_add_of_pos_right (List.length_pos_iff.2 hne)) (totalLen_sub_add L c)

theorem totalLen_subw_lt : ∀ (x : Word) (L : List Word), x ≠ [] → subw L x ≠ [] → totalLen (subw L x) < totalLen L := by
  intro x
  induction x with
  | nil => intro L h; exact absurd rfl h
  | cons c x ih =>
    intro L _ hne
    simp only [subw] at hne ⊢
    have hsub : sub L c ≠ [] := by
      intro h0
      rw [h0] at hne
      have : ∀ y : Word, subw [] y = [] := by
        intro y; induction y with
        | nil => rfl
        | cons d y ihy => simpa [subw, sub_nil] using ihy
      exact hne (this x)
    by_cases hx : x = []
    · subst hx; exact totalLen_sub_lt L c hsub
    · exact Nat.lt_trans (ih (sub L c) hx hne) (totalLen_sub_lt L c hsub)

theorem subw_append (L : List Word) (x : Word) (c : Nat) : subw L (x ++ [c]) = sub (subw L x) c := by
  induction x generalizing L with
  | nil => rfl
  | cons d x ih => simp only [List.cons_append, subw, ih]

theorem mem_subw {L : List Word} {x t : Word} : t ∈ subw L x ↔ x ++ t ∈ L := by
  induction x generalizing L with
  | nil => rfl
  | cons c x ih => simp only [subw, ih, mem_sub, List.cons_append]

theorem reg_unique {h : Heap} {R : List Nat} (hreg : RegOK h R) {u : Nat} {L : List Word} (hru : Rep h u L) :
    ∀ v, u ∈ R → v ∈ R → Rep h v L → u = v := by
  induction hru with
  | @mk u nu L hnu _ hfu _ hlabu hlenu hmemu _ ih =>
    intro v hu hv hrv
    cases hrv with
    | @mk _ nv _ hnv _ hfv _ hlabv hlenv hmemv hkidsv =>
      have hlabs : nu.labels = nv.labels :=
        List.strictSorted_ext hlabu hlabv (fun c => by rw [hmemu c, hmemv c])
      have hfin : nu.final = nv.final := Bool.eq_iff_iff.2 (by rw [hfu, hfv])
      refine hreg.distinct u hu v hv nu nv hnu hnv hfin hlabs
        (List.ext_getElem (by rw [← hlenu, ← hlenv, hlabs]) fun j hj hj' => ?_)
      have hjl : j < nu.labels.length := by rw [hlenu]; exact hj
      exact ih j _ _ (List.getElem?_eq_getElem hjl) (List.getElem?_eq_getElem hj) _
        (hreg.closed u hu nu hnu _ (List.getElem_mem hj)) (hreg.closed v hv nv hnv _ (List.getElem_mem hj'))
        (hkidsv j _ _ (by rw [← hlabs]; exact List.getElem?_eq_getElem hjl) (List.getElem?_eq_getElem hj'))

/-- a finished automaton with its register: the register is sound, every child of a reachable node is registered, and a
reachable node is the root or registered and represents the words of `ws` behind the string `x` that leads to it -/
theorem Finished.reach {d : Dawg} {ws : List Word} (hf : Finished d ws) :
    ∃ R, RegOK d.heap R ∧
      (∀ p np q, Reach d.heap d.root p → d.heap[p]? = some np → q ∈ np.links → q ∈ R) ∧
      ∀ p, Reach d.heap d.root p → (p = d.root ∨ p ∈ R) ∧ ∃ x, Rep d.heap p (subw ws x) ∧ (p ≠ d.root → x ≠ []) := by
  obtain ⟨R, n, hreg, hn, hlinks⟩ := hf.reg
  have hchild : ∀ p np q, (p = d.root ∨ p ∈ R) → d.heap[p]? = some np → q ∈ np.links → q ∈ R := by
    rintro p np q (rfl | hpR) hnp hq
    · rw [hn] at hnp; cases hnp; exact hlinks q hq
    · exact hreg.closed p hpR np hnp q hq
  have hreach : ∀ p, Reach d.heap d.root p →
      (p = d.root ∨ p ∈ R) ∧ ∃ x, Rep d.heap p (subw ws x) ∧ (p ≠ d.root → x ≠ []) := by
    intro p hp
    induction hp with
    | root => exact ⟨Or.inl rfl, [], hf.rep, fun h => absurd rfl h⟩
    | @step p q np _ hnp hq ih =>
      obtain ⟨hpR, x, hrep, _⟩ := ih
      refine ⟨Or.inr (hchild p np q hpR hnp hq), ?_⟩
      cases hrep with
      | @mk _ n' _ hn' hs hfin hnum hlab hlen hmem hkids =>
        rw [hnp] at hn'; cases hn'
        obtain ⟨j, hj, hjq⟩ := List.getElem_of_mem hq
        have hjl : j < np.labels.length := by rw [hlen]; exact hj
        refine ⟨x ++ [np.labels[j]], ?_, fun _ => by simp⟩
        rw [subw_append]
        exact hkids j _ q (List.getElem?_eq_getElem hjl) (by rw [← hjq]; exact List.getElem?_eq_getElem hj)
  exact ⟨R, hreg, fun p np q hp => hchild p np q (hreach p hp).1, hreach⟩

/-- over byte strings a reachable node has at most 256 links: its labels are distinct first letters of stored words -/
theorem Finished.labels_length_le {d : Dawg} {ws : List Word} (hf : Finished d ws)
    (hbytes : ∀ w ∈ ws, ∀ c ∈ w, c < 256) {p : Nat} {np : Node} (hp : Reach d.heap d.root p)
    (hnp : d.heap[p]? = some np) : np.labels.length ≤ 256 := by
  obtain ⟨_, _, _, hreach⟩ := hf.reach
  obtain ⟨_, x, hrep, _⟩ := hreach p hp
  cases hrep with
  | @mk _ n' _ hn' _ _ _ hlab _ hmem _ =>
    rw [hnp] at hn'; cases hn'
    refine List.Nodup.length_le_of_lt (hlab.imp Nat.ne_of_lt) fun c hc => ?_
    obtain ⟨t, ht⟩ := List.exists_mem_of_ne_nil _ ((hmem c).1 hc)
    exact hbytes _ (mem_subw.1 (mem_sub.1 ht)) c (List.mem_append_right _ List.mem_cons_self)

theorem Rep.nonempty_accepts {h : Heap} {p : Nat} {L : List Word} (hr : Rep h p L) (hne : L ≠ []) :
    ∃ w, accepts h p w := by
  cases L with
  | nil => exact absurd rfl hne
  | cons w L => exact ⟨w, (hr.accepts_iff w).2 List.mem_cons_self⟩

theorem Rep.unique {h : Heap} {p : Nat} {A B : List Word} (hA : Rep h p A) (hB : Rep h p B) : A = B := by
  obtain ⟨n, hn, _⟩ := hA.numWords
  exact Rep.eq_of_equiv hn hn ⟨rfl, rfl, rfl⟩ hA hB

theorem Finished.minimal {d : Dawg} {ws : List Word} (hf : Finished d ws) :
    (∀ p q, Reach d.heap d.root p → Reach d.heap d.root q →
      (∀ w, accepts d.heap p w ↔ accepts d.heap q w) → p = q) ∧
    (∀ p, Reach d.heap d.root p → (ws ≠ [] ∨ p ≠ d.root) → ∃ w, accepts d.heap p w) := by
  obtain ⟨R, hreg, _, hreach⟩ := hf.reach
  have hrootR : d.root ∉ R := by rw [hf.root0]; exact hreg.nz
  have hroot_ne : ∀ u, Reach d.heap d.root u → u ∈ R → ¬ (∀ w, accepts d.heap d.root w ↔ accepts d.heap u w) := by
    intro u hur huR hsame
    obtain ⟨_, x, hrep, hx⟩ := hreach u hur
    have hx' : x ≠ [] := hx (fun h => hrootR (h ▸ huR))
    obtain ⟨Lu, hLu, hne⟩ := hreg.rep u huR
    have h1 : subw ws x = Lu := hrep.unique hLu
    have h2 : Lu = ws := hLu.eq_of_accepts hf.rep fun w => (hsame w).symm
    have h3 : subw ws x ≠ [] := by rw [h1]; exact hne
    have := totalLen_subw_lt x ws hx' h3
    rw [h1, h2] at this
    exact Nat.lt_irrefl _ this
  refine ⟨?_, ?_⟩
  · intro p q hp hq hsame
    rcases (hreach p hp).1 with rfl | hpR
    · rcases (hreach q hq).1 with rfl | hqR
      · rfl
      · exact absurd hsame (hroot_ne q hq hqR)
    · rcases (hreach q hq).1 with rfl | hqR
      · exact absurd (fun w => (hsame w).symm) (hroot_ne p hp hpR)
      · obtain ⟨Lp, hLp, _⟩ := hreg.rep p hpR
        obtain ⟨Lq, hLq, _⟩ := hreg.rep q hqR
        have : Lp = Lq := hLp.eq_of_accepts hLq hsame
        subst this
        exact reg_unique hreg hLp q hpR hqR hLq
  · intro p hp hor
    rcases (hreach p hp).1 with rfl | hpR
    · rcases hor with h1 | h1
      · exact hf.rep.nonempty_accepts h1
      · exact absurd rfl h1
    · obtain ⟨Lp, hLp, hne⟩ := hreg.rep p hpR
      exact hLp.nonempty_accepts hne

theorem Finished.wf {d : Dawg} {ws : List Word} (hf : Finished d ws) (hbytes : ∀ w ∈ ws, ∀ c ∈ w, c < 256)
    (hcount : ws.length < 2 ^ 64) (hsize : d.heap.size < 2 ^ 64) : WF d := by
  obtain ⟨R, hreg, hchild, hreach⟩ := hf.reach
  have hget : ∀ p, Reach d.heap d.root p → ∃ np, d.heap[p]? = some np := by
    intro p hp
    obtain ⟨_, x, hrep, _⟩ := hreach p hp
    obtain ⟨np, hnp, _⟩ := hrep.numWords
    exact ⟨np, hnp⟩
  refine ⟨hget, ?_, ?_, ?_, ?_, ?_, hsize⟩
  · intro p np hp hnp
    obtain ⟨_, x, hrep, _⟩ := hreach p hp
    obtain ⟨np', hnp', hl⟩ := hrep.lens
    rw [hnp] at hnp'; cases hnp'; exact hl
  · intro p q np nq _ _ hnp hnq hid
    rw [← hf.ids p np hnp, ← hf.ids q nq hnq, hid]
  · intro p np nr _ hpr hnp hnr
    rw [hf.ids p np hnp, hf.ids _ nr hnr, hf.root0]
    rw [hf.root0] at hpr
    omega
  · intro p np hp hnp hmem
    rw [hf.root0] at hmem
    exact hreg.nz (hchild p np _ hp hnp hmem)
  · intro p np hp hnp
    obtain ⟨_, x, hrep, _⟩ := hreach p hp
    obtain ⟨np', hnp', hnum⟩ := hrep.numWords
    rw [hnp] at hnp'; cases hnp'
    refine ⟨?_, ?_, Nat.lt_of_le_of_lt (hf.labels_length_le hbytes hp hnp) (by decide)⟩
    · rw [hf.ids p np hnp]
      exact Nat.lt_trans (lt_size_of_get hnp) hsize
    · rw [hnum, length_subw]
      exact Nat.lt_of_le_of_lt (List.length_filter_le _ ws) hcount

theorem accRun_sorted : ∀ (ws pre : List Word), (pre ++ ws).Pairwise (· < ·) →
    accRun pre ws = (pre ++ ws, List.replicate ws.length false) := by
  intro ws
  induction ws with
  | nil => intro pre _; simp [accRun]
  | cons w ws ih =>
    intro pre hs
    have hstep : accStep pre w = (pre ++ [w], false) := by
      unfold accStep
      cases hl : pre.getLast? with
      | none => rfl
      | some l =>
        have hlmem : l ∈ pre := List.mem_of_getLast? hl
        rw [List.pairwise_append] at hs
        have : l < w := hs.2.2 l hlmem w List.mem_cons_self
        simp [this]
    simp only [accRun, hstep]
    rw [ih (pre ++ [w]) (by simpa using hs)]
    simp [List.replicate_succ]

theorem finished_of_build {adds : List Word} {d : Dawg} {es : List Bool} (hb : build adds = .ok (some d, es)) :
    Finished d (accRun [] adds).1 := by
  obtain ⟨d', h1, hf⟩ := build_spec adds
  rw [hb] at h1
  simp only [Outcome.ok.injEq, Prod.mk.injEq, Option.some.injEq] at h1
  rw [h1.1]; exact hf

theorem accRun_subset : ∀ (adds pre : List Word), ∀ w ∈ (accRun pre adds).1, w ∈ pre ∨ w ∈ adds := by
  intro adds
  induction adds with
  | nil => intro pre w hw; exact Or.inl hw
  | cons a adds ih =>
    intro pre w hw
    rcases ih _ w hw with h1 | h1
    · have hstep : ∀ u ∈ (accStep pre a).1, u ∈ pre ∨ u = a := by
        intro u hu
        unfold accStep at hu
        split at hu
        · simpa using hu
        · split at hu
          · simpa using hu
          · exact Or.inl hu
      exact (hstep w h1).imp_right fun (e : w = a) => e ▸ List.mem_cons_self
    · exact Or.inr (List.mem_cons_of_mem _ h1)

theorem accRun_bytes {adds : List Word} (hbytes : ∀ w ∈ adds, ∀ c ∈ w, c < 256) :
    ∀ w ∈ (accRun [] adds).1, ∀ c ∈ w, c < 256 := fun w hw =>
  hbytes w ((accRun_subset adds [] w hw).resolve_left List.not_mem_nil)

theorem wf_of_build {adds : List Word} {d : Dawg} {es : List Bool} (hb : build adds = .ok (some d, es))
    (hbytes : ∀ w ∈ adds, ∀ c ∈ w, c < 256) (hcount : adds.length < 2 ^ 64) (hsize : d.heap.size < 2 ^ 64) : WF d := by
  have hf := finished_of_build hb
  -- the accepted words are distinct and were all added, so there are no more of them than adds
  have hlen := (List.subperm_of_subset (sorted_nodup hf.rep.sorted)
    (fun w hw => (accRun_subset adds [] w hw).resolve_left List.not_mem_nil)).length_le
  exact hf.wf (accRun_bytes hbytes) (Nat.lt_of_le_of_lt hlen hcount) hsize

/-- total length of the language represented by a node (0 when the node represents nothing) -/
noncomputable def langRank (h : Heap) (p : Nat) : Nat :=
  open Classical in if ex : ∃ L, Rep h p L then totalLen (Classical.choose ex) else 0

theorem langRank_eq {h : Heap} {p : Nat} {L : List Word} (hr : Rep h p L) : langRank h p = totalLen L := by
  unfold langRank
  have ex : ∃ L, Rep h p L := ⟨L, hr⟩
  rw [dif_pos ex]
  rw [(Classical.choose_spec ex).unique hr]

theorem Finished.ranked {d : Dawg} {ws : List Word} (hf : Finished d ws) (hbytes : ∀ w ∈ ws, ∀ c ∈ w, c < 256) :
    Ranked d (langRank d.heap) 256 := by
  obtain ⟨R, hreg, hchild, hreach⟩ := hf.reach
  refine ⟨?_, ?_⟩
  · intro p np q hp hnp hq
    obtain ⟨_, x, hrep, _⟩ := hreach p hp
    have hqR : q ∈ R := hchild p np q hp hnp hq
    obtain ⟨Lq, hLq, hne⟩ := hreg.rep q hqR
    cases hrep with
    | @mk _ n' _ hn' hs hfin hnum hlab hlen hmem hkids =>
      rw [hnp] at hn'; cases hn'
      obtain ⟨j, hj, hjq⟩ := List.getElem_of_mem hq
      have hjl : j < np.labels.length := by rw [hlen]; exact hj
      have hrq := hkids j _ q (List.getElem?_eq_getElem hjl) (by rw [← hjq]; exact List.getElem?_eq_getElem hj)
      have heq : sub (subw ws x) np.labels[j] = Lq := hrq.unique hLq
      rw [langRank_eq hrq, langRank_eq (Rep.mk hnp hs hfin hnum hlab hlen hmem hkids)]
      exact totalLen_sub_lt _ _ (by rw [heq]; exact hne)
  · intro p np hp hnp
    obtain ⟨_, x, hrep, _⟩ := hreach p hp
    obtain ⟨np', hnp', hlen⟩ := hrep.lens
    rw [hnp] at hnp'; cases hnp'
    rw [← hlen]
    exact hf.labels_length_le hbytes hp hnp

theorem gobEncode_built_total {adds : List Word} {d : Dawg} {es : List Bool} (hb : build adds = .ok (some d, es))
    (hbytes : ∀ w ∈ adds, ∀ c ∈ w, c < 256) (hcount : adds.length < 2 ^ 64) (hsize : d.heap.size < 2 ^ 64) :
    ∃ f0 bs, ∀ f, f0 ≤ f → gobEncode f d = .ok bs := by
  have hf := finished_of_build hb
  have wf := wf_of_build hb hbytes hcount hsize
  obtain ⟨bs, hbs⟩ := gobEncode_total d wf _ 256 (hf.ranked (accRun_bytes hbytes))
  refine ⟨Qp 256 (langRank d.heap d.root + 1), bs, ?_⟩
  intro f hle
  obtain ⟨k, rfl⟩ := Nat.exists_eq_add_of_le hle
  exact gobEncode_mono d _ bs hbs k

end Dawg
