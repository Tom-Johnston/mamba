import Mamba.Lemmas.C06Dense
/-! C06: `AddEdge` on the abstract graph and on a `Dense`; graphs built by `NewDense(n, nil)` + `AddEdge`; `RandomGraph`.
`ofPairs n ps`, the graph on `n` vertices whose edges are the non-loop pairs of `ps`, is defined here; it occurs in the
statement of `buildByAddEdge_wf` (`Props/C06`). -/
namespace Construct
open GraphSpec

def isPair (i j u v : Nat) : Bool := (u == i && v == j) || (u == j && v == i)

theorem isPair_iff (i j u v : Nat) : isPair i j u v = true ↔ (u = i ∧ v = j) ∨ (u = j ∧ v = i) := by
  simp [isPair]

theorem addEdge_adj (g : G) (i j : Nat) (hij : i ≠ j) (hi : i < g.n) (hj : j < g.n) (u v : Nat) :
    (Families.addEdge g i j).adj u v = (g.adj u v || isPair i j u v) := by
  have : (i != j) = true := by simp [hij]
  simp [Families.addEdge, this, hi, hj, isPair]

/-- on vertices of `g` this is the `AddEdge` of the C05 specification, whose edge and degree counts are in `GraphCount` -/
theorem addEdge_eq_addEdgeG (g : G) {i j : Nat} (hi : i < g.n) (hj : j < g.n) :
    Families.addEdge g i j = GraphRep.addEdgeG g i j := by
  simp only [Families.addEdge, GraphRep.addEdgeG, hi, hj, decide_true, Bool.and_true]

theorem addEdge_outside (g : G) {i j : Nat} (h : ¬ (i < g.n ∧ j < g.n)) : Families.addEdge g i j = g := by
  have : (decide (i < g.n) && decide (j < g.n)) = false := by simpa using h
  simp only [Families.addEdge, Bool.and_assoc, this, Bool.and_false, Bool.false_and, Bool.or_false]

theorem addEdge_wf (g : G) (hg : g.WF) (i j : Nat) : (Families.addEdge g i j).WF := by
  by_cases h : i < g.n ∧ j < g.n
  · rw [addEdge_eq_addEdgeG g h.1 h.2]; exact GraphRep.addEdgeG_wf hg h.1 h.2
  · rw [addEdge_outside g h]; exact hg

theorem addEdge_m (g : G) (hg : g.WF) (i j : Nat) (hij : i ≠ j) (hi : i < g.n) (hj : j < g.n) (hnew : g.adj i j = false) :
    (Families.addEdge g i j).m = g.m + 1 := by
  rw [addEdge_eq_addEdgeG g hi hj]; exact GraphRep.m_addEdgeG hg hi hj hij hnew

theorem addEdge_deg (g : G) (hg : g.WF) (i j : Nat) (hij : i ≠ j) (hi : i < g.n) (hj : j < g.n) (hnew : g.adj i j = false)
    (v : Nat) : (Families.addEdge g i j).deg v = g.deg v + (if v = i then 1 else 0) + (if v = j then 1 else 0) := by
  rw [addEdge_eq_addEdgeG g hi hj, GraphRep.deg_addEdgeG hg hi hj hij hnew]
  by_cases h1 : v = i
  · subst h1; simp [hij]
  · simp [h1]

theorem addEdge_unfold (g : Dense) (i j : Nat) : addEdge g i j =
    if i == j then .ok g else
    g.isEdge i j >>= fun b => if b then .ok g else
      incrAt g.deg i >>= fun d => incrAt d j >>= fun d =>
        (if i < j then setAt g.edges ((j * (j - 1)) / 2 + i) 1 else setAt g.edges ((i * (i - 1)) / 2 + j) 1) >>= fun e =>
          .ok { n := g.n, m := g.m + 1, deg := d, edges := e } := by
  unfold addEdge
  by_cases h : i = j
  · simp [h]
  · simp only [beq_iff_eq, h, ↓reduceIte]
    rfl

theorem isPair_swap (i j u v : Nat) : isPair j i u v = isPair i j u v := Bool.or_comm _ _

theorem bitAt_set_pair {e : Array Nat} {a b u v : Nat} (hab : a < b) (huv : u < v) (hk : tri b + a < e.size) :
    bitAt (e.set (tri b + a) 1) (tri v + u) = (bitAt e (tri v + u) || isPair a b u v) := by
  have hp : decide (tri v + u = tri b + a) = isPair a b u v := by
    rw [Bool.eq_iff_iff, isPair_iff, decide_eq_true_eq]
    constructor
    · intro e; exact Or.inl (tri_inj huv hab e)
    · rintro (⟨rfl, rfl⟩ | ⟨rfl, rfl⟩)
      · rfl
      · omega
  rw [bitAt_set _ _ _ hk, hp, Bool.or_comm]

theorem addEdge_new (d : Dense) (h : d.WF) {a b : Nat} (hab : a < b) (hb : b < d.n) (hnew : d.adjF a b = false)
    (hk : tri b + a < d.edges.size) (dg : Array Int) (hsz : dg.size = d.n)
    (hdg : ∀ v, dg[v]? = (d.deg[v]?).map fun x => x + (if v = a then 1 else 0) + (if v = b then 1 else 0)) :
    let d' : Dense := { n := d.n, m := d.m + 1, deg := dg, edges := d.edges.set (tri b + a) 1 }
    d'.WF ∧ d'.abs = Families.addEdge d.abs a b := by
  intro d'
  have hs : d.edges.size = tri d.n := h.size_edges
  have hs' : d'.edges.size = tri d'.n := by simp only [d', Array.size_set]; exact hs
  have hwf := Dense.abs_wf d hs
  have ha : a < d.abs.n := Nat.lt_trans hab hb
  have hne : a ≠ b := Nat.ne_of_lt hab
  have hnew' : d.abs.adj a b = false := by rw [Dense.abs_adj d hs]; exact hnew
  have habs : d'.abs = Families.addEdge d.abs a b := by
    refine Dense.abs_eq d' hs' (addEdge_wf _ hwf a b) rfl fun u v huv hv => ?_
    rw [addEdge_adj d.abs a b hne ha hb, Dense.abs_adj_lt d hs huv hv]
    exact bitAt_set_pair hab huv hk
  refine ⟨⟨hs', hsz, ?_, ?_⟩, habs⟩
  · show d.m + 1 = ((d'.abs).m : Int)
    rw [habs, addEdge_m d.abs hwf a b hne ha hb hnew', h.m_eq, Nat.cast_succ]
  · intro v hv
    show dg[v]? = some ((d'.abs.deg v : Nat) : Int)
    rw [habs, addEdge_deg d.abs hwf a b hne ha hb hnew', hdg v, h.deg_eq v hv]
    simp only [Option.map_some, Nat.cast_add, Nat.cast_ite, Nat.cast_one, Nat.cast_zero]

theorem addEdge_ok (d : Dense) (h : d.WF) (i j : Nat) (hi : i < d.n) (hj : j < d.n) :
    ∃ d', addEdge d i j = .ok d' ∧ d'.WF ∧ d'.n = d.n ∧ d'.abs = Families.addEdge d.abs i j := by
  have hs : d.edges.size = tri d.n := h.size_edges
  rw [addEdge_unfold]
  by_cases hij : i = j
  · subst hij
    refine ⟨d, by simp, h, rfl, GraphRep.G_ext rfl fun u v => ?_⟩
    simp [Families.addEdge]
  · simp only [beq_iff_eq, hij, ↓reduceIte, Dense.isEdge_eq d hs, Outcome.bind_ok]
    by_cases hb : d.adjF i j = true
    · -- the edge is present: nothing changes
      refine ⟨d, by simp [hb], h, rfl, GraphRep.G_ext rfl fun u v => ?_⟩
      rw [addEdge_adj d.abs i j hij hi hj, Dense.abs_adj d hs]
      cases hp : isPair i j u v
      · rw [Bool.or_false]
      · rcases (isPair_iff i j u v).mp hp with ⟨rfl, rfl⟩ | ⟨rfl, rfl⟩
        · rw [hb]; rfl
        · rw [Dense.adjF_symm, hb]; rfl
    · have hb0 : d.adjF i j = false := by simpa using hb
      obtain ⟨d1, d2, e1, e2, s2, g2⟩ := incrAt_two d.deg i j (by rw [h.size_deg]; exact hi)
        (by rw [h.size_deg]; exact hj)
      have hsz : d2.size = d.n := s2.trans h.size_deg
      simp only [hb0, Bool.false_eq_true, ↓reduceIte, e1, Outcome.bind_ok, e2, tri_def]
      rcases Nat.lt_or_gt_of_ne hij with hlt | hlt
      · have hk : tri j + i < d.edges.size := by rw [hs]; exact tri_add_lt hlt hj
        obtain ⟨w, a⟩ := addEdge_new d h hlt hj hb0 hk d2 hsz g2
        exact ⟨_, by rw [if_pos hlt, setAt_ok _ hk]; rfl, w, rfl, a⟩
      · -- `j < i`: the same edge with the roles of the two ends exchanged
        have hk : tri i + j < d.edges.size := by rw [hs]; exact tri_add_lt hlt hi
        obtain ⟨w, a⟩ := addEdge_new d h hlt hi (by rw [Dense.adjF_symm]; exact hb0) hk d2 hsz (fun v => by
          rw [g2 v]; congr 1; funext x; exact Int.add_right_comm _ _ _)
        refine ⟨_, by rw [if_neg (Nat.lt_asymm hlt), setAt_ok _ hk]; rfl, w, rfl, a.trans ?_⟩
        exact GraphRep.G_ext rfl fun u v => by
          rw [addEdge_adj _ j i (Ne.symm hij) hj hi, addEdge_adj _ i j hij hi hj, isPair_swap]

/-- the graph on `n` vertices whose edges are the non-loop pairs of `ps` -/
def ofPairs (n : Nat) (ps : List (Nat × Nat)) : G :=
  { n := n, adj := fun u v => ps.any fun p => p.1 != p.2 && isPair p.1 p.2 u v }

theorem foldl_addEdge (ps : List (Nat × Nat)) (g : G) (h : ∀ p ∈ ps, p.1 < g.n ∧ p.2 < g.n) :
    ps.foldl (fun g p => Families.addEdge g p.1 p.2) g =
      { n := g.n, adj := fun u v => g.adj u v || ps.any fun p => p.1 != p.2 && isPair p.1 p.2 u v } := by
  induction ps generalizing g with
  | nil => simp
  | cons p t ih =>
    have hp := h p (by simp)
    rw [List.foldl_cons, ih (Families.addEdge g p.1 p.2) (fun q hq => h q (by simp [hq]))]
    refine GraphRep.G_ext (show _ = _ from rfl) ?_
    intro u v
    simp only [List.any_cons]
    by_cases hpp : p.1 = p.2
    · have : (Families.addEdge g p.1 p.2).adj u v = g.adj u v := by simp [Families.addEdge, hpp]
      rw [this]; simp [hpp]
    · rw [addEdge_adj g p.1 p.2 hpp hp.1 hp.2]
      have : (p.1 != p.2) = true := by simp [hpp]
      simp [this, Bool.or_assoc]

theorem buildFrom_ok (ps : List (Nat × Nat)) (d : Dense) (hd : d.WF) (h : ∀ p ∈ ps, p.1 < d.n ∧ p.2 < d.n) :
    ∃ d', ps.foldlM (fun g p => addEdge g p.1 p.2) d = .ok d' ∧ d'.WF ∧ d'.n = d.n ∧
      d'.abs = ps.foldl (fun g p => Families.addEdge g p.1 p.2) d.abs := by
  induction ps generalizing d with
  | nil => exact ⟨d, rfl, hd, rfl, rfl⟩
  | cons p t ih =>
    obtain ⟨d1, e1, w1, n1, a1⟩ := addEdge_ok d hd p.1 p.2 (h p (by simp)).1 (h p (by simp)).2
    obtain ⟨d2, e2, w2, n2, a2⟩ := ih d1 w1 (by intro q hq; rw [n1]; exact h q (by simp [hq]))
    refine ⟨d2, ?_, w2, by omega, ?_⟩
    · simp only [List.foldlM_cons, e1, Outcome.bind_ok]; exact e2
    · rw [a2, a1]; rfl

theorem buildByAddEdge_ok (n : Nat) (ps : List (Nat × Nat)) (h : ∀ p ∈ ps, p.1 < n ∧ p.2 < n) :
    ∃ d, buildByAddEdge n ps = .ok d ∧ d.WF ∧ d.n = n ∧ d.abs = ofPairs n ps := by
  obtain ⟨hw, ha⟩ := newDenseNil_wf n
  obtain ⟨d, e, w, hn, a⟩ := buildFrom_ok ps (newDenseNil n) hw h
  refine ⟨d, e, w, hn, ?_⟩
  rw [a, ha, foldl_addEdge ps _ h]
  simp [ofPairs]

theorem randomGraph_ok (n : Nat) (coin : Nat → Bool) : ∃ d, randomGraph n coin = .ok d ∧ d.WF ∧ d.n = n := by
  unfold randomGraph
  obtain ⟨d, e, w, hn, _⟩ := buildByAddEdge_ok n
    ((List.zip (List.range ((List.range n).flatMap fun i => (List.range i).map fun j => (i, j)).length)
      ((List.range n).flatMap fun i => (List.range i).map fun j => (i, j))).filterMap
        fun x => if coin x.1 = true then some x.2 else none) (by
    intro p hp
    simp only [List.mem_filterMap] at hp
    obtain ⟨⟨k, q⟩, hz, hq⟩ := hp
    have hq2 := (List.of_mem_zip hz).2
    simp only [List.mem_flatMap, List.mem_range, List.mem_map] at hq2
    obtain ⟨i, hi, j, hj, rfl⟩ := hq2
    split at hq
    · cases hq; exact ⟨hi, by show j < n; omega⟩
    · cases hq)
  exact ⟨d, e, w, hn⟩

end Construct
