import Mamba.Lemmas.CanonFCovLeaf
import Mamba.Lemmas.CanonFCovBackjump
/-!
# The complete invariant of the depth-first search (definitions)

Ghost data `Gh`: the vertex path `vs` of the current node, the order `oF` and vertex path `vsF` of the first leaf, the
vertex path `vsB` of the best leaf (its order is `currentBestPerm`), the automorphisms `bgs` merged into
`currentBestOrbits` since the best leaf was set.

* `GlobalInv`: the stored leaves are leaves of the unpruned tree reached by their vertex paths, with their index paths
  (`firstLeafPath`, `currentBestPath`); `currentBestOrbits` is generated by `bgs`.
* `FrameAux` (per stack frame of level `L`, target cell `C`, threshold `c - st`: the members with a smaller index are
  unprocessed): no unprocessed child lies on a stored path (`futF`, `futB`); a processed child on a stored path is complete
  (`bpF`, `bpB`); if the frame's node is on the first / best path, the recorded generators / `bgs` preserve its colouring
  (`e1`, `e2`); first path ⇒ best path (`fb`); before the first leaf every frame holds its first child (`ph1`).
* `NodeOff`: a freshly created node is on neither stored path.
* `DN`, `DA`, `DS`, `DM`: the four shapes (cf. `WalkN` …), including `CovFrames`.
-/
namespace CanonF
open Relation

structure Gh where
  vs : List Nat
  oF : List Nat
  vsF : List Nat
  vsB : List Nat
  bgs : List (List Nat)

/-- the best-path test of Heuristic 2 (without the "not on the first path" part) -/
def onBestB (s : LS) (ps : List Nat) : Bool := decide (s.count > 0) && hasPrefix s.bestPath.toList ps.reverse

section
variable (n : Nat) (nb : Nbrs) (rf : Nat) (r : IR.St)

/-- a stored leaf: vertex path, order, certificate, inverse permutation, index path -/
structure LeafRec (vsX o cert : List Nat) (pinv : Sl Nat) (P : List Nat) : Prop where
  path : IR.IsPath (irG n nb) rf r vsX
  leaf : IR.target (irG n nb) (IR.nodeAt (irG n nb) rf r vsX) = none
  col : (IR.nodeAt (irG n nb) rf r vsX).c = IR.tab n (fun v => o.idxOf v)
  perm : o.Perm (List.range n)
  cert : cert = certPos nb o n
  inv : InvOf o pinv
  idx : IdxPath n nb rf r vsX P vsX.length

structure GlobalInv (gh : Gh) (s : LS) : Prop where
  first : 0 < s.count → LeafRec n nb rf r gh.vsF gh.oF s.firstLeaf.toList s.flPermInv s.flPath.toList
  best : 0 < s.count →
    LeafRec n nb rf r gh.vsB s.bestPerm.toList s.currentBest.toList s.bestPermInv s.bestPath.toList
  bgsAut : ∀ γ ∈ gh.bgs, IsAutL nb n γ
  ngens0 : s.count = 0 → s.ngens = 0
  bestOrb : 0 < s.count → Disjoint.Inv s.bestOrbits ∧ s.bestOrbits.size = n ∧
    ∀ a b, a < n → b < n → Disjoint.rep s.bestOrbits a = Disjoint.rep s.bestOrbits b →
      EqvGen (fun x y => ∃ γ, γ ∈ gh.bgs ∧ γ[x]? = some y) a b
  bpLen : s.bestPath.len = n ∧ s.bestPath.WF
  fpLen : s.flPath.len = n ∧ s.flPath.WF

/-- the auxiliary facts of one stack frame (see the file header); `us` is the vertex path the frames refer to -/
structure FrameAux1 (gh : Gh) (s : LS) (us : List Nat) (incl : Bool) (ps : List Nat) (c st sz : Nat) : Prop where
  futF : 0 < s.count → ∀ j w, j < c - st → (cellL n nb rf r us ps.length st)[j]? = some w →
    ¬ (us.take ps.length = gh.vsF.take ps.length ∧ gh.vsF[ps.length]? = some w)
  futB : 0 < s.count → ∀ j w, j < c - st → (cellL n nb rf r us ps.length st)[j]? = some w →
    ¬ (us.take ps.length = gh.vsB.take ps.length ∧ gh.vsB[ps.length]? = some w)
  bpF : 0 < s.count → us.take ps.length = gh.vsF.take ps.length → ∀ i w, (if incl then c - st ≤ i else c - st < i) →
    (cellL n nb rf r us ps.length st)[i]? = some w → gh.vsF[ps.length]? = some w →
    Complete n nb rf s.currentBest.toList (IR.childSt (irG n nb) rf (nodeL n nb rf r us ps.length) st w)
  bpB : 0 < s.count → us.take ps.length = gh.vsB.take ps.length → ∀ i w, (if incl then c - st ≤ i else c - st < i) →
    (cellL n nb rf r us ps.length st)[i]? = some w → gh.vsB[ps.length]? = some w →
    Complete n nb rf s.currentBest.toList (IR.childSt (irG n nb) rf (nodeL n nb rf r us ps.length) st w)
  e1 : 0 < s.count → us.take ps.length = gh.vsF.take ps.length → ∀ k, k < s.ngens → ∀ γ, s.gens[k]? = some γ →
    ∀ u, u < n → IR.col (nodeL n nb rf r us ps.length).c (γ.toList.getD u 0) = IR.col (nodeL n nb rf r us ps.length).c u
  e2 : 0 < s.count → us.take ps.length = gh.vsB.take ps.length → ∀ γ, γ ∈ gh.bgs →
    ∀ u, u < n → IR.col (nodeL n nb rf r us ps.length).c (γ.getD u 0) = IR.col (nodeL n nb rf r us ps.length).c u
  fb : 0 < s.count → us.take ps.length = gh.vsF.take ps.length → us.take ps.length = gh.vsB.take ps.length
  ph1 : s.count = 0 → (if incl then c - st = sz else c - st + 1 = sz)

def FrameAux (gh : Gh) (s : LS) (us : List Nat) : Bool → List Nat → List Nat → List (Nat × Nat) → Prop
  | _, [], [], [] => True
  | incl, _ :: ps, c :: cs, (st, sz) :: ls =>
      FrameAux1 n nb rf r gh s us incl ps c st sz ∧ FrameAux gh s us false ps cs ls
  | _, _, _, _ => False

/-- a freshly created node (path `us`) is on neither stored path -/
def NodeOff (gh : Gh) (s : LS) (us : List Nat) : Prop :=
  0 < s.count → ¬ (us = gh.vsF.take us.length) ∧ ¬ (us = gh.vsB.take us.length)

def DNv (gh : Gh) (lv : List (Nat × Nat)) (s : LS) : Prop :=
  WalkNv n nb rf r gh.vs lv s ∧ GlobalInv n nb rf r gh s ∧ CovFrames n nb rf r s gh.vs true s.path s.choices lv ∧
    FrameAux n nb rf r gh s gh.vs true s.path s.choices lv

def DAv (gh : Gh) (lv : List (Nat × Nat)) (s : LS) : Prop :=
  WalkAv n nb rf r gh.vs lv s ∧ GlobalInv n nb rf r gh s ∧ CovFrames n nb rf r s gh.vs true s.path s.choices lv ∧
    FrameAux n nb rf r gh s gh.vs true s.path s.choices lv ∧
    (s.path = [] → 0 < s.count ∧ Complete n nb rf s.currentBest.toList r)

def DSv (gh : Gh) (t v : Nat) (lv : List (Nat × Nat)) (s : LS) : Prop :=
  WalkSv n nb rf r gh.vs t v lv s ∧ GlobalInv n nb rf r gh s ∧
    CovFrames n nb rf r s (gh.vs ++ [v]) false s.path s.choices lv ∧
    FrameAux n nb rf r gh s (gh.vs ++ [v]) false s.path s.choices lv ∧ NodeOff gh s (gh.vs ++ [v])

def DNodev (gh : Gh) (lv : List (Nat × Nat)) (s : LS) : Prop :=
  WalkNodev n nb rf r gh.vs lv s ∧ GlobalInv n nb rf r gh s ∧ CovFrames n nb rf r s gh.vs false s.path s.choices lv ∧
    FrameAux n nb rf r gh s gh.vs false s.path s.choices lv ∧ NodeOff gh s gh.vs

def DN (lv : List (Nat × Nat)) (s : LS) : Prop := ∃ gh, DNv n nb rf r gh lv s
def DA (lv : List (Nat × Nat)) (s : LS) : Prop := ∃ gh, DAv n nb rf r gh lv s
def DS (lv : List (Nat × Nat)) (s : LS) : Prop := ∃ gh t v, DSv n nb rf r gh t v lv s
def DM (lv : List (Nat × Nat)) (worse : Bool) (s : LS) : Prop :=
  if worse then DA n nb rf r lv s else ∃ gh, DNodev n nb rf r gh lv s

end
end CanonF
