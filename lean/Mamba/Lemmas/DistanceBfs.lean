import Mamba.Lemmas.ListGetD
import Mamba.Spec.Distance
import Mathlib.Data.List.Perm.Subperm
import Mathlib.Data.List.Basic
/-!
# Lemmas for C10: the level BFS of `Spec/Distance.lean` computes exact distances
-/
namespace GDist
open GraphSpec

variable {g : G} {V : List Nat} {s : Nat}

theorem WalkIn.mem_V {x k : Nat} (h : WalkIn g V s x k) : x ∈ V := by
  cases h with
  | base h => exact h
  | step _ _ h => exact h

theorem WalkIn.start_mem {x k : Nat} (h : WalkIn g V s x k) : s ∈ V := by
  induction h with
  | base h => exact h
  | step _ _ _ ih => exact ih

theorem walkIn_zero_iff {x : Nat} : WalkIn g V s x 0 ↔ x = s ∧ s ∈ V := by
  constructor
  · intro h; cases h with
    | base h => exact ⟨rfl, h⟩
  · rintro ⟨rfl, h⟩; exact .base h

theorem walkIn_succ_iff {x k : Nat} :
    WalkIn g V s x (k+1) ↔ ∃ u, WalkIn g V s u k ∧ g.adj u x = true ∧ x ∈ V := by
  constructor
  · intro h; cases h with
    | step h1 h2 h3 => exact ⟨_, h1, h2, h3⟩
  · rintro ⟨u, h1, h2, h3⟩; exact .step h1 h2 h3

theorem IsDistIn.unique {x k k' : Nat} (h : IsDistIn g V s x k) (h' : IsDistIn g V s x k') : k = k' := by
  rcases Nat.lt_trichotomy k k' with hlt | heq | hgt
  · exact absurd h.1 (h'.2 k hlt)
  · exact heq
  · exact absurd h'.1 (h.2 k' hgt)

theorem IsDistIn.pred {x k : Nat} (h : IsDistIn g V s x (k+1)) :
    ∃ u, IsDistIn g V s u k ∧ g.adj u x = true := by
  obtain ⟨u, hu, hadj, hx⟩ := walkIn_succ_iff.1 h.1
  refine ⟨u, ⟨hu, ?_⟩, hadj⟩
  intro j hj hw
  exact h.2 (j+1) (Nat.succ_lt_succ hj) (.step hw hadj hx)

theorem IsDistIn.exists_le {x k : Nat} (h : IsDistIn g V s x k) :
    ∀ j, j ≤ k → ∃ y, IsDistIn g V s y j := by
  induction k generalizing x with
  | zero => intro j hj; exact ⟨x, by rw [Nat.le_zero.1 hj]; exact h⟩
  | succ k ih =>
    intro j hj
    obtain ⟨u, hu, _⟩ := h.pred
    by_cases hjk : j ≤ k
    · exact ih hu j hjk
    · have : j = k + 1 := Nat.le_antisymm hj (Nat.lt_of_not_le hjk)
      subst this; exact ⟨x, h⟩

theorem exists_isDistIn_of_walk {x : Nat} : ∀ {k : Nat}, WalkIn g V s x k → ∃ k', k' ≤ k ∧ IsDistIn g V s x k' := by
  intro k
  induction k using Nat.strongRecOn with
  | _ k ih =>
    intro h
    by_cases hex : ∃ j, j < k ∧ WalkIn g V s x j
    · obtain ⟨j, hj, hw⟩ := hex
      obtain ⟨k', hk', hd⟩ := ih j hj hw
      exact ⟨k', Nat.le_trans hk' (Nat.le_of_lt hj), hd⟩
    · exact ⟨k, Nat.le_refl _, h, fun j hj hw => hex ⟨j, hj, hw⟩⟩

theorem IsDistIn.path {x k : Nat} (h : IsDistIn g V s x k) :
    ∃ l : List Nat, l.length = k + 1 ∧ l.Nodup ∧ (∀ y ∈ l, y ∈ V) ∧ chainAdj g l ∧
      l.head? = some x ∧ l.getLast? = some s ∧ ∀ y ∈ l, ∃ j, j ≤ k ∧ IsDistIn g V s y j := by
  induction k generalizing x with
  | zero =>
    obtain rfl : x = s := (walkIn_zero_iff.1 h.1).1
    exact ⟨[x], rfl, List.pairwise_singleton _ x, fun y hy => List.mem_singleton.1 hy ▸ h.1.mem_V, trivial, rfl, rfl,
      fun y hy => ⟨0, Nat.le_refl _, List.mem_singleton.1 hy ▸ h⟩⟩
  | succ k ih =>
    obtain ⟨u, hu, hadj⟩ := h.pred
    obtain ⟨l, hl, hnd, hV, hch, hhead, hlast, hd⟩ := ih hu
    obtain ⟨a, t, rfl⟩ := List.exists_cons_of_ne_nil (List.ne_nil_of_length_eq_add_one hl)
    obtain rfl : a = u := Option.some.inj hhead
    refine ⟨x :: a :: t, by rw [List.length_cons, hl], List.nodup_cons.2 ⟨?_, hnd⟩, ?_, ⟨hadj, hch⟩, rfl, hlast, ?_⟩
    · intro hx
      obtain ⟨j, hj, hdj⟩ := hd x hx
      rw [hdj.unique h] at hj
      exact Nat.not_succ_le_self k hj
    · intro y hy
      rcases List.mem_cons.1 hy with rfl | hy
      · exact h.1.mem_V
      · exact hV y hy
    · intro y hy
      rcases List.mem_cons.1 hy with rfl | hy
      · exact ⟨k + 1, Nat.le_refl _, h⟩
      · obtain ⟨j, hj, hdj⟩ := hd y hy
        exact ⟨j, Nat.le_succ_of_le hj, hdj⟩

theorem IsDistIn.witness {x k : Nat} (h : IsDistIn g V s x k) :
    ∃ l : List Nat, l.length = k + 1 ∧ l.Nodup ∧ (∀ y ∈ l, y ∈ V) ∧ ∀ y ∈ l, ∃ j, j ≤ k ∧ IsDistIn g V s y j := by
  obtain ⟨l, h1, h2, h3, _, _, _, h4⟩ := h.path
  exact ⟨l, h1, h2, h3, h4⟩

theorem IsDistIn.lt_length {x k : Nat} (h : IsDistIn g V s x k) : k < V.length := by
  obtain ⟨l, hl, hnd, hV, _⟩ := h.witness
  have : l.length ≤ V.length := (List.subperm_of_subset hnd hV).length_le
  rwa [hl] at this

theorem mem_bfsNext {seen fr : List Nat} {x : Nat} :
    x ∈ bfsNext g V seen fr ↔ x ∈ V ∧ x ∉ seen ∧ ∃ u, u ∈ fr ∧ g.adj u x = true := by
  simp [bfsNext, List.mem_filter, List.any_eq_true]

structure BfsInv (g : G) (V : List Nat) (s d : Nat) (seen fr : List Nat) : Prop where
  fr_iff : ∀ x, x ∈ fr ↔ IsDistIn g V s x d
  seen_iff : ∀ x, x ∈ seen ↔ ∃ j, j ≤ d ∧ WalkIn g V s x j

theorem bfsInv_init (hs : s ∈ V) : BfsInv g V s 0 [s] [s] := by
  constructor
  · intro x
    simp only [List.mem_singleton, IsDistIn]
    constructor
    · rintro rfl; exact ⟨.base hs, fun j hj => absurd hj (Nat.not_lt_zero _)⟩
    · rintro ⟨h, _⟩; exact (walkIn_zero_iff.1 h).1
  · intro x
    simp only [List.mem_singleton]
    constructor
    · rintro rfl; exact ⟨0, Nat.le_refl _, .base hs⟩
    · rintro ⟨j, hj, h⟩
      rw [Nat.le_zero.1 hj] at h
      exact (walkIn_zero_iff.1 h).1

theorem bfsInv_next {d : Nat} {seen fr : List Nat} (inv : BfsInv g V s d seen fr) :
    BfsInv g V s (d+1) (bfsNext g V seen fr ++ seen) (bfsNext g V seen fr) := by
  have hfr : ∀ x, x ∈ bfsNext g V seen fr ↔ IsDistIn g V s x (d+1) := by
    intro x
    rw [mem_bfsNext]
    constructor
    · rintro ⟨hxV, hns, u, hu, hadj⟩
      have hud := (inv.fr_iff u).1 hu
      refine ⟨.step hud.1 hadj hxV, ?_⟩
      intro j hj hw
      exact hns ((inv.seen_iff x).2 ⟨j, Nat.le_of_lt_succ hj, hw⟩)
    · intro h
      obtain ⟨u, hu, hadj⟩ := h.pred
      refine ⟨h.1.mem_V, ?_, u, (inv.fr_iff u).2 hu, hadj⟩
      intro hseen
      obtain ⟨j, hj, hw⟩ := (inv.seen_iff x).1 hseen
      exact h.2 j (Nat.lt_succ_of_le hj) hw
  constructor
  · exact hfr
  · intro x
    rw [List.mem_append, hfr, inv.seen_iff]
    constructor
    · rintro (h | ⟨j, hj, hw⟩)
      · exact ⟨d+1, Nat.le_refl _, h.1⟩
      · exact ⟨j, Nat.le_succ_of_le hj, hw⟩
    · rintro ⟨j, hj, hw⟩
      by_cases hex : ∃ j', j' ≤ d ∧ WalkIn g V s x j'
      · exact .inr hex
      · left
        have hjd : j = d + 1 := by
          by_contra hne
          exact hex ⟨j, Nat.le_of_lt_succ (Nat.lt_of_le_of_ne hj hne), hw⟩
        subst hjd
        refine ⟨hw, ?_⟩
        intro j' hj' hw'
        exact hex ⟨j', Nat.le_of_lt_succ hj', hw'⟩

theorem findLevel_bfsLevels (x : Nat) :
    ∀ (f d : Nat) (seen fr : List Nat), BfsInv g V s d seen fr →
      ∀ k, findLevel x (bfsLevels g V f seen fr) d = some k ↔ (d ≤ k ∧ k < d + f ∧ IsDistIn g V s x k) := by
  intro f
  induction f with
  | zero =>
    intro d seen fr _ k
    simp only [bfsLevels, findLevel]
    constructor
    · intro h; cases h
    · rintro ⟨h1, h2, _⟩; omega
  | succ f ih =>
    intro d seen fr inv k
    unfold bfsLevels
    by_cases hemp : fr.isEmpty = true
    · simp only [hemp, if_true, findLevel]
      constructor
      · intro h; cases h
      · rintro ⟨h1, _, h3⟩
        obtain ⟨y, hy⟩ := h3.exists_le d h1
        have := (inv.fr_iff y).2 hy
        have hnil : fr = [] := List.isEmpty_iff.1 hemp
        rw [hnil] at this
        cases this
    · simp only [hemp, Bool.false_eq_true, if_false, findLevel]
      by_cases hx : fr.contains x = true
      · simp only [hx, if_true]
        have hxd := (inv.fr_iff x).1 (by simpa using hx)
        constructor
        · intro h
          have : d = k := by simpa using h
          subst this
          exact ⟨Nat.le_refl _, Nat.lt_add_of_pos_right (Nat.succ_pos f), hxd⟩
        · rintro ⟨_, _, h3⟩
          rw [h3.unique hxd]
      · simp only [hx, Bool.false_eq_true, if_false]
        rw [ih (d+1) _ _ (bfsInv_next inv) k]
        constructor
        · rintro ⟨h1, h2, h3⟩; exact ⟨by omega, by omega, h3⟩
        · rintro ⟨h1, h2, h3⟩
          refine ⟨?_, by omega, h3⟩
          by_contra hlt
          have : k = d := by omega
          subst this
          exact hx (by simpa using (inv.fr_iff x).2 h3)

theorem distIn_eq_some_iff {x k : Nat} : distIn g V s x = some k ↔ IsDistIn g V s x k := by
  unfold distIn levelsIn
  by_cases hs : V.contains s = true
  · have hs' : s ∈ V := by simpa using hs
    simp only [hs, if_true]
    rw [findLevel_bfsLevels x V.length 0 [s] [s] (bfsInv_init hs') k]
    constructor
    · rintro ⟨_, _, h⟩; exact h
    · intro h; exact ⟨Nat.zero_le _, by rw [Nat.zero_add]; exact h.lt_length, h⟩
  · simp only [hs, Bool.false_eq_true, if_false, findLevel]
    constructor
    · intro h; cases h
    · intro h
      exact absurd (by simpa using h.1.start_mem) hs

theorem distIn_eq_none_iff {x : Nat} : distIn g V s x = none ↔ ∀ k, ¬ WalkIn g V s x k := by
  constructor
  · intro h k hw
    obtain ⟨k', _, hd⟩ := exists_isDistIn_of_walk hw
    rw [distIn_eq_some_iff.2 hd] at h
    cases h
  · intro h
    cases hd : distIn g V s x with
    | none => rfl
    | some k => exact absurd (distIn_eq_some_iff.1 hd).1 (h k)

theorem distIn_isSome_iff {x : Nat} : (distIn g V s x).isSome = true ↔ ReachIn g V s x := by
  constructor
  · intro h
    obtain ⟨k, hk⟩ := Option.isSome_iff_exists.1 h
    exact ⟨k, (distIn_eq_some_iff.1 hk).1⟩
  · rintro ⟨k, hw⟩
    obtain ⟨k', _, hd⟩ := exists_isDistIn_of_walk hw
    rw [distIn_eq_some_iff.2 hd]; rfl

end GDist
