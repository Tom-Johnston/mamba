import Mamba.Lemmas.CanonFTotalDef
/-!
# Totality of the loops: `jLoop`, `stepLoop` and the main loop return

Progress: an iteration of `jLoop` makes a step `JIter` or is stuck at one of its operations (`jLoop_succ`); the progress
obligations `StepT` exclude the latter (`JPre.not_stuck`), and the step leads to a state in which the loop can go on
(`JIter.keeps`). The same one level up: `stepLoop_succ`, `JPre.pop`.
Measure: one lemma per transition: a skipped child keeps the path, a `splitBin` lowers the counter of the top frame
(`JIter.pot`), a pop drops the top frame (`pathPot_drop_le`); `jLoop_pot`, `stepLoop_pot` follow the iterations.
`mainLoopT`: the main loop returns within `mainPot + 1` iterations.
-/
namespace CanonF

section
variable {n : Nat} {nb : Nbrs} {JA JN JS : List (Nat × Nat) → LS → Prop}

theorem maybeDeage_total (ht : StepT n nb JA JN JS) {s : LS} {lv : List (Nat × Nat)} {k : Nat}
    (hp : JPre n JA JN k lv s) : ∃ s', maybeDeage s = .ok s' := by
  unfold maybeDeage
  by_cases hsk : s.skipDeage = true
  · rw [hsk]; exact ⟨_, rfl⟩
  · have hsk' : s.skipDeage = false := by simpa using hsk
    have hage := hp.age
    simp only [hsk', Bool.false_eq_true, if_false, Int.add_zero] at hage
    obtain ⟨op', hd⟩ := ht.deage lv s k hp.core hp.top hsk' hage hp.ja
    rw [hsk', hd]
    exact ⟨_, rfl⟩

theorem JPre.not_stuck (hj : StepJ n nb JA JN JS) (ht : StepT n nb JA JN JS) {j : Nat} {lv : List (Nat × Nat)} {s : LS}
    (hp : JPre n JA JN (j + 1) lv s) : ¬ JStuck nb s := by
  have key : ∀ {s1 c cs p ps ce}, JHead s s1 c cs p ps ce → ∃ st sz ls, JTop n JN j st sz ls s1 c cs p ps := by
    intro s1 c cs p ps ce hd
    obtain ⟨_, st, sz, ls, c', cs', p', ps', rfl, jt⟩ := hp.head hj hd.deage
    have e1 := jt.choices; rw [hd.choices] at e1; cases e1
    have e2 := jt.path; rw [hd.path] at e2; cases e2
    exact ⟨st, sz, ls, jt⟩
  intro hs
  cases hs with
  | deage h => obtain ⟨s1, e⟩ := maybeDeage_total ht hp; exact h s1 e
  | @shape s1 hm h =>
    obtain ⟨_, st, sz, ls, c, cs, p, ps, rfl, jt⟩ := hp.head hj hm
    obtain ⟨ce, hget, _⟩ := jt.core.part.order_get jt.lt
    exact h c cs p ps ce ⟨hm, jt.choices, jt.path, jt.pos, hget⟩
  | @flOrb s1 c cs p ps ce hd hon hx =>
    obtain ⟨st, sz, ls, jt⟩ := key hd
    obtain ⟨x, e⟩ := ht.flOrb st sz ls s1 c cs p ps ce j jt.core jt.top jt.skip jt.age hd.choices hd.path hd.get hon jt.jn
    rw [hx] at e; cases e
  | @h2 s1 c cs p ps ce hd hon h =>
    obtain ⟨st, sz, ls, jt⟩ := key hd
    obtain ⟨r, e⟩ := ht.h2 st sz ls s1 c cs p ps ce j jt.core jt.top jt.skip jt.age hd.choices hd.path hd.get hon jt.jn
    exact h r e
  | @split s1 c cs p ps ce hd h =>
    obtain ⟨st, sz, ls, jt⟩ := key hd
    obtain ⟨r, e⟩ := ht.split st sz ls s1 c cs p ps ce j jt.core jt.top jt.skip jt.age hd.choices hd.path hd.get jt.ns
      jt.first jt.jn
    exact h r e

theorem jLoopT (hj : StepJ n nb JA JN JS) (ht : StepT n nb JA JN JS) :
    ∀ (k : Nat) (s : LS) (lv : List (Nat × Nat)), JPre n JA JN k lv s → ∃ b s', jLoop nb k s = .ok (b, s') := by
  intro k
  induction k with
  | zero => intro s lv _; exact ⟨false, s, rfl⟩
  | succ j ih =>
    intro s lv hp
    rcases jLoop_succ (rfl : jLoop nb (j + 1) s = _) with ⟨b2, s2, hi, h0, h1⟩ | ⟨_, hs⟩
    · cases b2 with
      | true => exact ⟨true, s2, h1 rfl⟩
      | false =>
        obtain ⟨b, s', e⟩ := ih s2 lv ((hi.keeps hj hp).2.2.2.1 rfl)
        exact ⟨b, s', (h0 rfl).symm.trans e⟩
    · exact absurd hs (hp.not_stuck hj ht)

/-- `k` bounds the number of frames that can still be popped -/
theorem stepLoopT (hj : StepJ n nb JA JN JS) (ht : StepT n nb JA JN JS) :
    ∀ (k : Nat) (s : LS) (lv : List (Nat × Nat)), SPre n JA JN lv s → s.path.length ≤ k →
    ∃ b s', stepLoop nb k s = .ok (b, s') := by
  intro k
  induction k with
  | zero =>
    intro s lv _ hk
    rw [stepLoop, List.length_eq_zero_iff.1 (Nat.le_zero.1 hk)]
    exact ⟨_, _, rfl⟩
  | succ k ih =>
    intro s lv hp hk
    rcases stepLoop_succ (rfl : stepLoop nb (k + 1) s = _) with ⟨_, h⟩ | ⟨p, ps, hpath, ⟨s1, _, h⟩ | ⟨s1, s2, hjl, hm, h⟩ |
      ⟨_, hbad | ⟨s1, hjl, hbad⟩⟩⟩
    · exact ⟨_, _, h⟩
    · exact ⟨_, _, h⟩
    · obtain ⟨_, l, _, k0, _⟩ := jLoop_core hj p s lv false s1 (hp.top hpath) hjl
      obtain ⟨ls, hp2, _, _, e⟩ := (k0 rfl).pop hj hm
      obtain ⟨b, s', e'⟩ := ih _ ls hp2 (by
        show (s2.path.drop 1).length ≤ k
        rw [List.length_drop, e, l]; omega)
      exact ⟨b, s', h.symm.trans e'⟩
    · obtain ⟨b, s1, e⟩ := jLoopT hj ht p s lv (hp.top hpath)
      exact absurd e (hbad _)
    · obtain ⟨_, _, _, k0, _⟩ := jLoop_core hj p s lv false s1 (hp.top hpath) hjl
      obtain ⟨s2, e⟩ := maybeDeage_total ht (k0 rfl)
      exact absurd e (hbad s2)

end

theorem maybeDeage_path {s s' : LS} (h : maybeDeage s = .ok s') : s'.path = s.path ∧ s'.choices = s.choices := by
  unfold maybeDeage at h
  osplit h
  · cases h; exact ⟨rfl, rfl⟩
  · cases h; exact ⟨rfl, rfl⟩

theorem pathPot_mono (n : Nat) {a b : Nat} (ps : List Nat) (h : a ≤ b) : pathPot n (a :: ps) ≤ pathPot n (b :: ps) := by
  simp only [pathPot]
  exact Nat.add_le_add_right (Nat.mul_le_mul_right _ h) _

theorem pathPot_step (n : Nat) {j p : Nat} (ps : List Nat) (h : j + 1 ≤ p) :
    pathPot n (j :: ps) + 1 + slots n (ps.length + 1) ≤ pathPot n (p :: ps) := by
  have := pathPot_mono n ps h
  simp only [pathPot] at this ⊢
  rw [Nat.add_mul] at this
  omega

theorem pathPot_drop_le (n : Nat) : ∀ (j : Nat) (path : List Nat), pathPot n (path.drop j) ≤ pathPot n path := by
  intro j
  induction j with
  | zero => intro path; simp
  | succ j ih =>
    intro path
    cases path with
    | nil => simp
    | cons a as =>
      simp only [List.drop_succ_cons]
      exact Nat.le_trans (ih as) (by simp only [pathPot]; omega)

theorem JIter.pot {n : Nat} {nb : Nbrs} {j : Nat} {s s2 : LS} {b : Bool} (h : JIter nb j s b s2)
    (hk : ∀ p ps, s.path = p :: ps → j + 1 ≤ p) :
    s2.path.length = s.path.length ∧ (∀ p ps, s2.path = p :: ps → j ≤ p) ∧ pathPot n s2.path ≤ pathPot n s.path ∧
    (b = true → pathPot n s2.path + 1 + slots n s2.path.length ≤ pathPot n s.path) := by
  have skip : ∀ {s1 : LS}, maybeDeage s = .ok s1 →
      s1.path.length = s.path.length ∧ (∀ p ps, s1.path = p :: ps → j ≤ p) ∧ pathPot n s1.path ≤ pathPot n s.path := by
    intro s1 hm
    rw [(maybeDeage_path hm).1]
    exact ⟨rfl, fun p ps e => Nat.le_of_succ_le (hk p ps e), Nat.le_refl _⟩
  cases h with
  | skipA hd _ _ _ => obtain ⟨a, b, c⟩ := skip hd.deage; exact ⟨a, b, c, fun e => (nomatch e)⟩
  | skipB hd _ _ => obtain ⟨a, b, c⟩ := skip hd.deage; exact ⟨a, b, c, fun e => (nomatch e)⟩
  | @split s1 c cs p ps ce bo w op' hd _ _ =>
    have hsp : s.path = p :: ps := (maybeDeage_path hd.deage).1 ▸ hd.path
    have hp := hk p ps hsp
    rw [hsp]
    exact ⟨rfl, fun q qs e => by cases e; exact Nat.le_refl _, pathPot_mono n ps (Nat.le_of_succ_le hp),
      fun _ => pathPot_step n ps hp⟩

theorem jLoop_pot {n : Nat} {nb : Nbrs} : ∀ (k : Nat) (s : LS) (b : Bool) (s' : LS),
    (∀ p ps, s.path = p :: ps → k ≤ p) → jLoop nb k s = .ok (b, s') →
    s'.path.length = s.path.length ∧ pathPot n s'.path ≤ pathPot n s.path ∧
    (b = true → pathPot n s'.path + 1 + slots n s'.path.length ≤ pathPot n s.path) := by
  intro k
  induction k with
  | zero =>
    intro s b s' _ h
    obtain ⟨rfl, rfl⟩ := Prod.mk.inj (Outcome.ok.inj h)
    exact ⟨rfl, Nat.le_refl _, fun e => (nomatch e)⟩
  | succ j ih =>
    intro s b s' hk h
    rcases jLoop_succ h with ⟨b2, s2, hit, h0, h1⟩ | ⟨hbad, _⟩
    · obtain ⟨l2, k2, p2, q2⟩ := hit.pot (n := n) hk
      cases b2 with
      | false =>
        obtain ⟨r1, r2, r3⟩ := ih s2 b s' k2 (h0 rfl)
        exact ⟨r1.trans l2, Nat.le_trans r2 p2, fun hb => Nat.le_trans (r3 hb) p2⟩
      | true =>
        obtain ⟨rfl, rfl⟩ := Prod.mk.inj (Outcome.ok.inj (h1 rfl))
        exact ⟨l2, p2, fun _ => q2 rfl⟩
    · exact absurd rfl (hbad _)

/-- leaving `stepLoop` with a new node costs one child slot and the subtree below it -/
theorem stepLoop_pot {n : Nat} {nb : Nbrs} : ∀ (k : Nat) (s : LS) (s' : LS),
    stepLoop nb k s = .ok (true, s') → pathPot n s'.path + 1 + slots n s'.path.length ≤ pathPot n s.path := by
  intro k
  induction k with
  | zero =>
    intro s s' h
    rw [stepLoop] at h
    split at h <;> cases h
  | succ k ih =>
    intro s s' h
    rcases stepLoop_succ h with ⟨_, h⟩ | ⟨p, ps, hpath, ⟨s1, hjl, h⟩ | ⟨s1, s2, hjl, hm, h⟩ | ⟨hbad, _⟩⟩
    · cases h
    · obtain ⟨-, rfl⟩ := Prod.mk.inj (Outcome.ok.inj h)
      exact (jLoop_pot (n := n) p s true s' (fun p' ps' e => by rw [hpath] at e; cases e; exact Nat.le_refl _) hjl).2.2 rfl
    · have r := (jLoop_pot (n := n) p s false s1 (fun p' ps' e => by rw [hpath] at e; cases e; exact Nat.le_refl _) hjl).2.1
      have := ih _ s' h
      have hd : pathPot n (s2.path.drop 1) ≤ pathPot n s1.path := (maybeDeage_path hm).1 ▸ pathPot_drop_le n 1 s2.path
      exact Nat.le_trans this (Nat.le_trans hd r)
    · exact absurd rfl (hbad _)

theorem mainLoopT (hst : StablePerm) {n m : Nat} {nb : Nbrs} {JA JN JS : List (Nat × Nat) → LS → Prop}
    {JM : List (Nat × Nat) → Bool → LS → Prop} (hJ : MainJ n m nb JA JN JS JM) (hT : MainT n m nb JA JN JS JM) :
    ∀ (fuel : Nat) (worse : Bool) (s : LS) (lv : List (Nat × Nat)), MInv n m nb s → (s.count = 0 → worse = false) →
      LevelsOK s.op s.path s.choices lv → JM lv worse s → mainPot n worse s < fuel →
      ∃ s', mainLoop nb n m fuel worse s = .ok s' := by
  intro fuel
  induction fuel with
  | zero => intro worse s lv _ _ _ _ h; exact absurd h (Nat.not_lt_zero _)
  | succ f ih =>
    intro worse s lv hI hw hlv hM hpot
    obtain ⟨s1, hs1⟩ := hT.node lv worse s hI hw hlv hM
    have hnp := hT.nodePot lv worse s s1 hI hw hlv hM hs1
    obtain ⟨lv1, hp1⟩ := main_node hJ hI hw hlv hM hs1
    obtain ⟨b, s2, hst2⟩ := stepLoopT hJ.step hT.step s1.path.length s1 lv1 hp1 (Nat.le_refl _)
    rw [mainLoop, hs1]
    simp only
    rw [hst2]
    cases b with
    | false => exact ⟨s2, rfl⟩
    | true =>
      obtain ⟨lv2, ⟨c2, l2, hage2, hskip, htl, js2⟩, hnext⟩ := (main_iter hst hJ hI hw hlv hM hs1 hst2).2 rfl
      obtain ⟨⟨w', op', sc'⟩, hr⟩ := hT.refine lv2 s2 c2 l2 hage2 hskip htl js2
      obtain ⟨hI', hw', hl', hM'⟩ := hnext w' op' sc' hr
      have hsp := stepLoop_pot (n := n) _ s1 s2 hst2
      simp only
      rw [hr]
      refine ih w' _ lv2 hI' hw' hl' hM' ?_
      show (if w' then 0 else slots n s2.path.length) + pathPot n s2.path < f
      have : (if w' then 0 else slots n s2.path.length) ≤ slots n s2.path.length := by split <;> omega
      omega

end CanonF
