import Mamba.Lemmas.ExactAugSpec
/-! An oracle that meets `OracleSpec` gives McKay's three facts (`canonSpecs_of_oracle`; existence of a canonical deletion
is `canon_exists_of_oracle`), hence exactness of the search relative to the oracle (`exact_of_oracle`; `n < 2` by hand). -/
namespace Search
open GSearch GraphSpec

section
open Disjoint

variable {O : Oracle} {n : Nat}

def swapFn (a b : Nat) : Nat → Nat := fun u => if u = a then b else if u = b then a else u

theorem swapFn_invol (a b u : Nat) : swapFn a b (swapFn a b u) = u := by
  unfold swapFn
  by_cases h1 : u = a
  · subst h1
    by_cases h3 : b = u
    · simp [h3]
    · simp [h3]
  · by_cases h2 : u = b
    · subst h2; simp [h1]
    · simp [h1, h2]

theorem swapFn_bij {nv a b : Nat} (ha : a < nv) (hb : b < nv) : IsBij nv (swapFn a b) := by
  refine ⟨?_, ?_, ?_⟩
  · intro u hu; unfold swapFn; split
    · exact hb
    · split
      · exact ha
      · exact hu
  · intro u v _ _ h
    have := congrArg (swapFn a b) h
    rwa [swapFn_invol, swapFn_invol] at this
  · intro w hw
    refine ⟨swapFn a b w, ?_, swapFn_invol a b w⟩
    unfold swapFn; split
    · exact hb
    · split
      · exact ha
      · exact hw

theorem firstBest_exists {g : DG} {l : List Nat} {v : Nat} (hv : v ∈ l) (hb : Best g v) :
    ∃ w, firstBest g l = some w := by
  unfold firstBest
  cases hf : l.find? fun u => decide (Best g u) with
  | some w => exact ⟨w, rfl⟩
  | none =>
    have := List.find?_eq_none.1 hf v hv
    simp [hb] at this

theorem canon_exists_of_oracle (hO : OracleSpec O n) (Y : G) (hY : Y.WF) (h2 : 2 ≤ Y.n) (hle : Y.n ≤ n) :
    ∃ (P g2 : DG) (x : Nat) (c : Option Ans), Built P ∧ InRange P x ∧ AccK O n P x g2 c ∧ Iso Y g2.toG := by
  obtain ⟨k, hk⟩ : ∃ k, Y.n = k + 1 + 1 := ⟨Y.n - 2, by omega⟩
  -- a built copy of Y
  obtain ⟨Y0, hY0, rfl⟩ := exists_built_eq (k + 1) Y hY hk
  have hY0n : Y0.nv = k + 1 + 1 := hk
  obtain ⟨a0, hga0⟩ := hO.total hY0 hle
  have hperm0 := hO.perm hY0 hga0
  -- its first best vertex
  obtain ⟨v, hv, hmax⟩ := exists_best Y0 Y0.nv (by omega) (Nat.le_refl _)
  have hbv : Best Y0 v := (best_iff_not_better hv).2 hmax
  obtain ⟨w0, hfb0⟩ := firstBest_exists (hperm0.mem_iff.2 (List.mem_range.2 hv)) hbv
  have hw0 := firstBest_some hfb0
  have hw0lt : w0 < Y0.nv := by simpa using hperm0.mem_iff.1 hw0.1
  -- move it to the last position
  have hLlt : Y0.nv - 1 < Y0.nv := by omega
  let π : Nat → Nat := swapFn w0 (Y0.nv - 1)
  have hπ : IsBij Y0.nv π := swapFn_bij hw0lt hLlt
  have hπL : π (Y0.nv - 1) = w0 := by
    simp only [π, swapFn]
    by_cases h : Y0.nv - 1 = w0 <;> simp [h]
  let Y1 : G := { n := Y0.nv, adj := fun u v => decide (u < Y0.nv) && decide (v < Y0.nv) && Y0.toG.adj (π u) (π v) }
  have hY1 : Y1.WF := by
    refine ⟨?_, ?_, ?_⟩
    · intro u v
      simp only [Y1]
      rw [(toG_wf Y0).symm]
      cases decide (u < Y0.nv) <;> cases decide (v < Y0.nv) <;> simp
    · intro u; simp [Y1, (toG_wf Y0).irrefl]
    · intro u v h
      simp only [Y1, Bool.and_eq_true, decide_eq_true_eq] at h
      exact ⟨h.1.1, h.1.2⟩
  obtain ⟨P, hP, hPY⟩ := exists_built_eq k (delLast Y1) (delLast_wf hY1) (by simp [delLast, Y1, hY0n])
  obtain ⟨x, g2, hxr, hadd, he⟩ := built_step_eq hY1 (show Y1.n = k + 1 + 1 from hY0n) hP hPY
  have hb2 : Built g2 := hP.child hxr hadd
  have hn2 : g2.nv = Y0.nv := congrArg G.n he
  have iπ : IsIso g2 Y0 π := by
    refine ⟨hn2, hn2 ▸ hπ, ?_⟩
    intro u v hu hv
    rw [hn2] at hu hv
    rw [he]
    simp [Y1, hu, hv]
  -- the oracle's answer for the relabelled graph, and the transported first best vertex
  obtain ⟨a2, c, b, hga2, hcan, hiff, -⟩ := isCanonical_child hO hP (by have := addVertex_nv hadd; omega) hxr hadd
  have iD : IsoD Y0 g2 := ⟨iπ.nv.symm, _, iπ.symm.bij, iπ.symm.adj⟩
  obtain ⟨θ, hθ, htr⟩ := canon_transport hO hY0 hb2 iD hga0 hga2
  have hL2 : g2.nv - 1 = Y0.nv - 1 := by rw [hn2]
  have hacc : b = true := by
    apply hiff.2
    refine ⟨?_, θ w0, htr w0 hfb0, ?_⟩
    · have := (iπ.best (v := g2.nv - 1) (by omega)).1 (by rw [hL2, hπL]; exact hw0.2)
      exact this
    · have hθw : θ w0 < g2.nv := hθ.nv ▸ hθ.bij.maps w0 hw0lt
      have hβ := hθ.symm.comp iπ.symm
      refine (hO.orbits hb2 hga2 (θ w0) (g2.nv - 1) hθw (by omega)).2 ⟨_, isAut_iff_isIso.2 hβ, ?_⟩
      show iπ.bij.inv (hθ.bij.inv (θ w0)) = g2.nv - 1
      rw [hθ.bij.inv_left hw0lt, ← hπL, hL2]
      exact iπ.bij.inv_left (by omega)
  subst hacc
  exact ⟨P, g2, x, c, hP, hxr, ⟨hadd, hcan⟩, iD⟩

theorem canonSpecs_of_oracle (hO : OracleSpec O n) : CanonSpecs O n where
  canon_iso := fun hP1 hP2 h1 h2 hx1 hx2 ha1 ha2 i => canon_iso_of_oracle hO hP1 hP2 h1 h2 hx1 hx2 ha1 ha2 i
  canon_inv := fun hP1 hP2 h1 h2 hx1 hx2 ha1 e hadd hcan =>
    canon_inv_of_oracle hO hP1 hP2 h1 h2 hx1 hx2 ha1 e hadd hcan
  canon_exists := fun Y hY h2 hle => canon_exists_of_oracle hO Y hY h2 hle

end

section
variable {O : Oracle} {n : Nat}

theorem exact_of_oracle {P : G → Bool} (hO : OracleSpec O n) (hP : Hereditary P) (fuel lim : Nat) {outs : List DG}
    {t : State} (h : exhaust O (pruneOf P) noPrune fuel lim (init n 0 1) = .ok (outs, t)) :
    Transversal P n (outs.map DG.toG) := by
  by_cases hn : 2 ≤ n
  · exact exact_of_specs hP (specs_of_oracle hO hP (canonSpecs_of_oracle hO)) hn fuel lim h
  · have hn : n < 2 := by omega
    have e := exhaust_small n 0 1 hn fuel lim h
    have hsn : (smallGraph n).nv = n := by
      unfold smallGraph
      rcases (by omega : n = 0 ∨ n = 1) with rfl | rfl <;> simp [DG.empty, K1, DG.single]
    simp only [beq_self_eq_true, Bool.true_and, noPrune, Bool.not_false, Bool.and_true] at e
    by_cases hp : pruneOf P (smallGraph n) = true
    · simp only [hp, Bool.not_true, Bool.false_eq_true, if_false] at e
      subst e
      refine ⟨by simp, by simp, by simp, ?_⟩
      intro Y hY hYn hPY
      exfalso
      have i := iso_of_small hY (hYn.trans hsn.symm) (by omega)
      have := hP.iso Y _ hY (toG_wf _) i hPY
      simp [pruneOf, this] at hp
    · have hp' : pruneOf P (smallGraph n) = false := by simpa using hp
      simp only [hp', Bool.not_false, if_true] at e
      subst e
      refine ⟨?_, ?_, ?_, ?_⟩
      · intro g hg; simp only [List.map_cons, List.map_nil, List.mem_singleton] at hg; subst hg; exact hsn
      · intro g hg; simp only [List.map_cons, List.map_nil, List.mem_singleton] at hg; subst hg
        simpa [pruneOf] using hp'
      · simp
      · intro Y hY hYn _
        exact ⟨_, by simp, iso_of_small hY (hYn.trans hsn.symm) (by omega)⟩

theorem oracleSpec_zero : OracleSpec (fun _ _ _ _ => .panic) 0 := by
  have hpanic : ∀ (g : DG) (vb : Option Nat), getAut (fun _ _ _ _ => .panic) 0 g vb ≠ .ok none ∧
      ∀ a, getAut (fun _ _ _ _ => .panic) 0 g vb ≠ .ok (some a) := by
    intro g vb
    unfold getAut
    split
    · exact ⟨by simp, by simp⟩
    · split <;> exact ⟨by simp, by simp⟩
  have heq : ∀ (g : DG) (vb : Nat), Built g → getAut (fun _ _ _ _ => .panic) 0 g (some vb) =
      getAut (fun _ _ _ _ => .panic) 0 g none := by
    intro g vb hb
    have := hb.pos
    unfold getAut
    have : g.nv > 0 := by omega
    simp [this]
  refine ⟨?_, ?_, ?_, ?_, ?_, ?_, ?_, ?_, ?_⟩
  · intro g hb hle; have := hb.pos; omega
  · intro g a _ h; exact absurd h ((hpanic g none).2 a)
  · intro g h a b _ _ _ h1; exact absurd h1 ((hpanic g none).2 a)
  · intro g a _ h; exact absurd h ((hpanic g none).2 a)
  · intro g a _ h; exact absurd h ((hpanic g none).2 a)
  · intro g a _ h; exact absurd h ((hpanic g none).2 a)
  · intro g a _ h; exact absurd h ((hpanic g none).2 a)
  · intro g vb hb; exact Or.inr (heq g vb hb)
  · intro g a vb ds1 ds2 correct b _ h; exact absurd h (hpanic g (some vb)).1

end

end Search
