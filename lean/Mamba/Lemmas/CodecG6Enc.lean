import Mamba.Lemmas.CodecBits
import Mamba.Lemmas.CodecHeader
/-! `Graph6Encode` of the model produces exactly the string the format prescribes. -/
namespace Codec
open Formats GraphSpec

/-- the bits the encoder pushes, in its own loop order -/
def g6EncBits (g : GI) : List Bool :=
  (List.range' 1 (g.n - 1)).flatMap fun i => (List.range i).map fun j => g.isEdge i j

theorem g6Enc_loop (g : GI) (w : BitW) :
    (List.range' 1 (g.n - 1)).foldl (fun w i => (List.range i).foldl (fun w j => w.pushAdd (g.isEdge i j)) w) w
      = (g6EncBits g).foldl (fun w x => w.pushAdd x) w := by
  unfold g6EncBits
  rw [List.foldl_flatMap]
  congr 1
  funext w i
  rw [List.foldl_map]

theorem g6EncBits_eq (g : GI) (hsym : ∀ u v, g.isEdge u v = g.isEdge v u) (hn : 1 ≤ g.n) :
    g6EncBits g = g6Bits g.toG := by
  unfold g6EncBits g6Bits GI.toG
  have : List.range g.n = 0 :: List.range' 1 (g.n - 1) := by
    rw [List.range_eq_range']
    obtain ⟨k, hk⟩ : ∃ k, g.n = k + 1 := ⟨g.n - 1, by omega⟩
    rw [hk]; simp [List.range'_succ]
  rw [this]
  simp only [List.flatMap_cons, List.range_zero, List.map_nil, List.nil_append]
  congr 1
  funext i
  congr 1
  funext j
  exact hsym i j

theorem g6Bits_small (g : G) (hn : g.n ≤ 1) : g6Bits g = [] := by
  unfold g6Bits
  rcases Nat.lt_or_ge g.n 1 with h | h
  · have : g.n = 0 := by omega
    simp [this]
  · have : g.n = 1 := by omega
    simp [this]

theorem g6Spec_range (g : G) (hn : g.n ≤ 68719476735) : ∀ c ∈ g6Spec g, 63 ≤ c ∧ c ≤ 126 := by
  intro c hc
  rcases List.mem_append.1 hc with h | h
  · exact Nn_range _ hn c h
  · exact R_range _ c h

theorem g6Encode_eq_spec (g : GI) (hsym : ∀ u v, g.isEdge u v = g.isEdge v u) (hn : g.n ≤ 68719476735) :
    ∃ a, g6Encode g = .ok a ∧ a.toList = g6Spec g.toG ∧ ∀ c ∈ a.toList, 63 ≤ c ∧ c ≤ 126 := by
  have hrange := g6Spec_range g.toG hn
  by_cases h1 : g.n ≤ 1
  · have hN : Nn g.n = [g.n + 63] := by unfold Nn; simp [show g.n ≤ 62 by omega]
    have hsp : g6Spec g.toG = [g.n + 63] := by
      unfold g6Spec
      rw [g6Bits_small g.toG h1]
      show Nn g.n ++ R [] = _
      rw [hN]; simp [R]
    refine ⟨#[g.n + 63], by simp [g6Encode, h1], by rw [hsp], ?_⟩
    intro c hc; apply hrange; rw [hsp]; simpa using hc
  · have hrep := BitW.Rep.foldl BitW.Rep.pushAdd (g6EncBits g) (BitW.Rep.init (#[] ++ (Nn g.n).toArray))
    have hfl := hrep.flush
    generalize hw : List.foldl (fun w x => w.pushAdd x) ({ s := #[] ++ (Nn g.n).toArray, b := 0, idx := 0 } : BitW)
      (g6EncBits g) = w at hrep hfl
    refine ⟨(if w.idx ≠ 0 then w.s.push (badd w.b 63) else w.s), ?_, ?_, ?_⟩
    · unfold g6Encode
      simp only [h1, if_false, encHeader_eq #[] g.n hn, g6Enc_loop, hw]
    · rw [hfl, g6EncBits_eq g hsym (by omega)]
      simp [g6Spec]; rfl
    · intro c hc
      apply hrange
      rw [hfl, g6EncBits_eq g hsym (by omega)] at hc
      have hc' : c ∈ Nn g.n ∨ c ∈ R (g6Bits g.toG) := by simpa using hc
      exact List.mem_append.2 hc'

end Codec
