import Mamba.Lemmas.CanonFTotalInv
import Mamba.Lemmas.CanonFTotalLoop
/-!
# Totality: the leaf step returns (`prog_leaf`) and only drops frames (`leaf_pathPot`)
-/
namespace CanonF

theorem leaf_pathPot {n m : Nat} (s s1 : LS) (h : leafNode n m s = .ok s1) : pathPot n s1.path ≤ pathPot n s.path := by
  rcases leafNode_shape h with ⟨_, e2, _⟩ | ⟨s0, ref, _, e2, _, hb⟩
  · rw [e2]
  · obtain ⟨j, op', _, _, _, hs'⟩ := backJump_shape hb
    rw [hs']
    show pathPot n (s0.path.drop j) ≤ _
    rw [e2]
    exact pathPot_drop_le n j s.path

theorem invOf_lt {n : Nat} {o : List Nat} {pinv : Sl Nat} (ho : o.Perm (List.range n)) (h : InvOf o pinv)
    {x : Nat} (hx : x < n) : ∃ i, pinv.toList[x]? = some i ∧ i < n := by
  have hmem : x ∈ o := ho.mem_iff.2 (List.mem_range.2 hx)
  have hl : o.length = n := by simpa using ho.length_eq
  exact ⟨o.idxOf x, h _ _ (getElem?_idxOf_of_mem hmem), by rw [← hl]; exact List.idxOf_lt_length_of_mem hmem⟩

/-- the reset loop of the "better leaf" branch -/
theorem resetLoop_total {n : Nat} {order pinv : Sl Nat} {orb : Disjoint.DS}
    (hperm : order.toList.Perm (List.range n)) (hwf : order.WF) (hlen : order.len = n)
    (hpl : pinv.len = n) (hpw : pinv.WF) (horb : orb.size = n) :
    ∃ r, forRange (resetStep order) order.len 0 (pinv, orb) = .ok r := by
  refine (forRange_total _ (fun _ (st : Sl Nat × Disjoint.DS) => st.1.len = n ∧ st.1.WF ∧ st.2.size = n)
    order.len 0 (pinv, orb) ⟨hpl, hpw, horb⟩ ?_).imp fun _ h => h.1
  rintro i ⟨p, o⟩ _ hi ⟨j1, j2, j3⟩
  dsimp only at j1 j2 j3 ⊢
  obtain ⟨v, hv, _⟩ := Sl.get_ok_of_lt hwf (show i < order.len by omega)
  have hvn : v < n := perm_range_lt hperm (Sl.get_eq_toList.1 hv)
  have hset := Sl.set_ok_of_lt j2 (show v < p.len by omega) i
  refine ⟨(⟨p.data.setIfInBounds v i, p.len⟩, o.setIfInBounds i (-1)), ?_, j1, ?_, by simpa using j3⟩
  · simp only [resetStep, hv, hset]
    rw [if_pos (by omega)]
  · exact Sl.set_wf j2 hset

theorem orbitStep_total {n : Nat} {order pinv : Sl Nat} (hperm : order.toList.Perm (List.range n))
    (hwf : order.WF) (hlen : order.len = n)
    (hpe : ∀ x, x < n → ∃ i, pinv.toList[x]? = some i ∧ i < n)
    {i : Nat} (hi : i < n) {ds : Disjoint.DS} (mm : Bool) (hds : Disjoint.Inv ds) (hsz : ds.size = n) :
    ∃ ds' mm', orbitStep order pinv i (ds, mm) = .ok (ds', mm') ∧ Disjoint.Inv ds' ∧ ds'.size = n := by
  obtain ⟨p, hp, hpn⟩ := hpe i hi
  have hpg : pinv.get i = .ok p := Sl.get_eq_toList.2 hp
  obtain ⟨v, hv, _⟩ := Sl.get_ok_of_lt hwf (show p < order.len by omega)
  have hvn : v < n := perm_range_lt hperm (Sl.get_eq_toList.1 hv)
  obtain ⟨d1, f1, i1, s1, k1⟩ := Disjoint.find_spec hds v (by omega)
  obtain ⟨d2, f2, i2, s2, k2⟩ := Disjoint.find_spec i1 i (by omega)
  unfold orbitStep
  simp only [hpg, hv, f1, f2]
  by_cases hne : Disjoint.rep ds v ≠ Disjoint.rep d1 i
  · rw [if_pos hne]
    obtain ⟨d3, f3, i3, s3, _⟩ := Disjoint.union_spec i2 i v (by omega) (by omega)
    rw [f3]
    exact ⟨d3, true, rfl, i3, by omega⟩
  · rw [if_neg hne]
    exact ⟨d2, mm, rfl, i2, by omega⟩

theorem orbitLoop_total {n : Nat} {order pinv : Sl Nat} (hperm : order.toList.Perm (List.range n))
    (hwf : order.WF) (hlen : order.len = n)
    (hpe : ∀ x, x < n → ∃ i, pinv.toList[x]? = some i ∧ i < n)
    {ds : Disjoint.DS} (mm : Bool) (hds : Disjoint.Inv ds) (hsz : ds.size = n) :
    ∃ ds' mm', forRange (orbitStep order pinv) n 0 (ds, mm) = .ok (ds', mm') := by
  obtain ⟨r, hr, _⟩ := forRange_total (orbitStep order pinv)
    (fun _ (st : Disjoint.DS × Bool) => Disjoint.Inv st.1 ∧ st.1.size = n) n 0 (ds, mm) ⟨hds, hsz⟩ (by
      rintro i ⟨d, m⟩ _ hi ⟨j1, j2⟩
      obtain ⟨d', m', e, a, b⟩ := orbitStep_total hperm hwf hlen hpe (show i < n by omega) m j1 j2
      exact ⟨(d', m'), e, a, b⟩)
  exact ⟨r.1, r.2, hr⟩

/-- the copy loop of `recordGenerator` returns -/
theorem genLoop_total {n : Nat} {order pinv : Sl Nat}
    (hwf : order.WF) (hlen : order.len = n)
    (hpe : ∀ x, x < n → ∃ i, pinv.toList[x]? = some i ∧ i < n) {t0 : Sl Nat} (h0 : t0.len = n ∧ t0.WF) :
    ∃ t, forRange (fun i (t : Sl Nat) =>
              match pinv.get i with
              | .ok pi =>
                match order.get pi with
                | .ok v => t.set i v
                | .panic => .panic
                | .outOfFuel => .outOfFuel
              | .panic => .panic
              | .outOfFuel => .outOfFuel) order.len 0 t0 = .ok t := by
  refine (forRange_total _ (fun _ (t : Sl Nat) => t.len = n ∧ t.WF) order.len 0 t0 h0 ?_).imp fun _ h => h.1
  intro i t _ hi ⟨j1, j2⟩
  obtain ⟨p, hp, hpn⟩ := hpe i (by omega)
  have hpg : pinv.get i = .ok p := Sl.get_eq_toList.2 hp
  obtain ⟨v, hv, _⟩ := Sl.get_ok_of_lt hwf (show p < order.len by omega)
  have hset := Sl.set_ok_of_lt j2 (show i < t.len by omega) v
  exact ⟨⟨t.data.setIfInBounds i v, t.len⟩, by simp only [hpg, hv, hset], j1, Sl.set_wf j2 hset⟩

theorem recordGenerator_total {n : Nat} {order pinv : Sl Nat}
    (hwf : order.WF) (hlen : order.len = n)
    (hpe : ∀ x, x < n → ∃ i, pinv.toList[x]? = some i ∧ i < n)
    {gens : Array (Sl Nat)} {ngens : Nat} (hfree : ngens + 1 ≤ gens.size) :
    ∃ r, recordGenerator n order pinv gens ngens = .ok r := by
  unfold recordGenerator
  rw [if_pos hfree]
  have hg : gens[ngens]? = some gens[ngens] := by simp
  rw [hg]
  simp only
  generalize ht0 : (if gens[ngens].cap ≥ n then (⟨gens[ngens].data, n⟩ : Sl Nat) else Sl.mk' n n 0) = t0
  have ht0l : t0.len = n ∧ t0.WF := by
    subst ht0
    by_cases hc : gens[ngens].cap ≥ n
    · rw [if_pos hc]; exact ⟨rfl, hc⟩
    · rw [if_neg hc]; exact ⟨rfl, by simp [Sl.WF, Sl.mk']⟩
  obtain ⟨t, ht⟩ := genLoop_total hwf hlen hpe ht0l
  split
  · exact ⟨_, rfl⟩
  · next hl => exact absurd (ht.symm.trans hl) (by simp)
  · next hl => exact absurd (ht.symm.trans hl) (by simp)

theorem h1Index_total (path : List Nat) (ref : Sl Nat) (hw : ref.WF) : ∀ (k i : Nat), i + k ≤ ref.len →
    ∃ r, h1Index path ref k i = .ok r := by
  intro k
  induction k with
  | zero => intro i _; exact ⟨_, rfl⟩
  | succ k ih =>
    intro i hik
    obtain ⟨v, hv, _⟩ := Sl.get_ok_of_lt hw (show i < ref.len by omega)
    rw [h1Index, hv]
    simp only
    by_cases hne : path.getD i 0 ≠ v
    · rw [if_pos hne]; exact ⟨_, rfl⟩
    · rw [if_neg hne]; exact ih (i + 1) (by omega)

theorem deageTimes_total {n : Nat} : ∀ (j : Nat) (op : OP), PartInv n op → AgeInv op → (j : Int) ≤ op.age →
    op.value.WF → ∃ op', deageTimes j op = .ok op' := by
  intro j
  induction j with
  | zero => intro op _ _ _ _; exact ⟨op, rfl⟩
  | succ j ih =>
    intro op hp ha hj hv
    obtain ⟨op1, hd, d1, d2, d3, hv1⟩ := deage_total hp ha (by omega) hv
    obtain ⟨op', hd'⟩ := ih op1 d1 d2 (by rw [d3]; push_cast at hj ⊢; omega) hv1
    exact ⟨op', by rw [deageTimes, hd]; exact hd'⟩

theorem backJump_total {n : Nat} {s : LS} {ref : Sl Nat} (hp : PartInv n s.op) (ha : AgeInv s.op)
    (hage : s.op.age = s.path.length) (hv : s.op.value.WF) (hrw : ref.WF) (hrl : s.path.length ≤ ref.len + 1) :
    ∃ s', backJump s ref = .ok s' := by
  unfold backJump
  dsimp only
  obtain ⟨idx, hidx⟩ := h1Index_total s.path.reverse ref hrw (s.path.reverse.length - 1) 0
    (by simp only [List.length_reverse]; omega)
  rw [hidx]
  simp only
  obtain ⟨op', hd⟩ := deageTimes_total (n := n) (s.path.reverse.length - idx) s.op hp ha
    (by simp only [List.length_reverse]; omega) hv
  rw [hd]
  exact ⟨_, rfl⟩

/-- the generator step of an "equal leaf" returns: if something was merged there is a free slot -/
theorem record_total {n m : Nat} {s : LS} {order pinv : Sl Nat} {fo : Disjoint.DS} {mg : Bool}
    (hwf : order.WF) (hlen : order.len = n) (hpe : ∀ x, x < n → ∃ i, pinv.toList[x]? = some i ∧ i < n)
    (hinv : Disjoint.Inv s.flOrbits) (hsz : s.flOrbits.size = n) (hn : 0 < n) (hpos : 0 < s.count) (hcap : CapInv n m s)
    (hl : forRange (orbitStep order pinv) n 0 (s.flOrbits, false) = .ok (fo, mg)) :
    ∃ g, (if mg = true then recordGenerator n order pinv s.gens s.ngens else Outcome.ok (s.gens, s.ngens)) = .ok g := by
  by_cases hm : mg = true
  · rw [if_pos hm]
    obtain ⟨_, q2, _⟩ := numRoots_orbitLoop hinv hsz hn hl
    have := q2 hm
    have := hcap.genCnt hpos
    have := hcap.gens
    exact recordGenerator_total hwf hlen hpe (by omega)
  · rw [if_neg hm]; exact ⟨_, rfl⟩

section
variable {n m : Nat} {nb : Nbrs} {rf : Nat} {r : IR.St}
  (hnb : NbOK nb n) (hA : IR.InvA (irG n nb) r) (hD : IR.InvD (irG n nb) r)

include hnb hA hD in
theorem prog_leaf {lv : List (Nat × Nat)} {s : LS} (hI : MInv n m nb s) (hT : TM n m nb rf r lv false s) :
    ∃ s1, leafNode n m s = .ok s1 := by
  obtain ⟨⟨hJ, hDM⟩, hcap⟩ := hT
  obtain ⟨hg, _, hvn, _⟩ := hJ
  obtain ⟨gh, hw, hG, _⟩ : ∃ gh, DNodev n nb rf r gh lv s := hDM
  have hp := hI.core.part
  have hvc : VClean nb s.op := hvn rfl
  have hdn : s.path.length ≤ n := Nat.le_of_lt (hw.depth_lt hnb hA hD hp.n_pos)
  unfold leafNode
  dsimp only
  by_cases hc1 : (compare s.op.value.toList s.currentBest.toList == 1 || s.count + 1 == 1) = true
  · rw [if_pos hc1]
    have hrs : s.currentBest.reslice m = .ok ⟨s.currentBest.data, m⟩ := by
      unfold Sl.reslice; rw [if_pos hcap.cb]
    rw [hrs]
    dsimp only
    obtain ⟨⟨p', o'⟩, hr⟩ := resetLoop_total hp.perm hp.wfOrder hp.lenOrder hg.bpinv.1 hg.bpinv.2 hg.orbSz.2
    split
    · split <;> exact ⟨_, rfl⟩
    · next hl => exact absurd (hr.symm.trans hl) (by simp)
    · next hl => exact absurd (hr.symm.trans hl) (by simp)
  · rw [if_neg hc1]
    have hc1' : (compare s.op.value.toList s.currentBest.toList == 1 || s.count + 1 == 1) = false := by
      simpa using hc1
    have hpos : 0 < s.count := by
      simp only [Bool.or_eq_false_iff, beq_eq_false_iff_ne, ne_eq] at hc1'
      omega
    by_cases hc0 : (compare s.op.value.toList s.currentBest.toList == 0) = true
    · rw [if_pos hc0]
      have hpe : ∀ x, x < n → ∃ i, s.bestPermInv.toList[x]? = some i ∧ i < n :=
        fun x hx => invOf_lt (hI.core.bestPerm hpos) (hg.best hpos).2 hx
      obtain ⟨bo, m1, hl1⟩ := orbitLoop_total hp.perm hp.wfOrder hp.lenOrder hpe false (hG.bestOrb hpos).1 hg.orbSz.2
      obtain ⟨fo, mg, hl2⟩ := orbitLoop_total hp.perm hp.wfOrder hp.lenOrder hpe false (hg.orb hpos).1 hg.orbSz.1
      obtain ⟨⟨gens', ngens'⟩, hrec⟩ := record_total hp.wfOrder hp.lenOrder hpe (hg.orb hpos).1 hg.orbSz.1 hp.n_pos hpos hcap hl2
      rw [hl1]; dsimp only
      rw [hl2]; dsimp only
      rw [hrec]; dsimp only
      exact backJump_total (n := n)
        (s := { s with count := s.count + 1, bestOrbits := bo, flOrbits := fo, gens := gens', ngens := ngens' })
        hp hI.core.age hI.age hvc.wf hG.bpLen.2 (by show s.path.length ≤ _; rw [hG.bpLen.1]; omega)
    · rw [if_neg hc0]
      by_cases hcf : (compare s.op.value.toList s.firstLeaf.toList == 0) = true
      · rw [if_pos hcf]
        have LF := hG.first hpos
        have hpe : ∀ x, x < n → ∃ i, s.flPermInv.toList[x]? = some i ∧ i < n :=
          fun x hx => invOf_lt LF.perm LF.inv hx
        obtain ⟨fo, mg, hl2⟩ := orbitLoop_total hp.perm hp.wfOrder hp.lenOrder hpe false (hg.orb hpos).1 hg.orbSz.1
        obtain ⟨⟨gens', ngens'⟩, hrec⟩ := record_total hp.wfOrder hp.lenOrder hpe (hg.orb hpos).1 hg.orbSz.1 hp.n_pos hpos hcap hl2
        rw [hl2]; dsimp only
        rw [hrec]; dsimp only
        exact backJump_total (n := n)
          (s := { s with count := s.count + 1, flOrbits := fo, gens := gens', ngens := ngens' })
          hp hI.core.age hI.age hvc.wf hG.fpLen.2 (by show s.path.length ≤ _; rw [hG.fpLen.1]; omega)
      · rw [if_neg hcf]
        exact ⟨_, rfl⟩
end

end CanonF
