import Mamba.Spec.Dawg
import Mamba.Lemmas.DawgInsert
import Mamba.Lemmas.DawgHeap
/-! Partial correctness of the explicit-stack traversal shared by `listNodesCountEdges` and `GobEncode`
(`dfsInner` / `dfsLoop`): when it returns, every reachable node has been inserted exactly once.

`InvBase d V st` (`V` = the nodes visited so far, root first): `sorted`: the id list `st.nodes` is increasing; `vreach`,
`vroot`: visited nodes are reachable, the root is visited; `seen`: a reachable node other than the root has its id in
`st.nodes` iff it is visited (this is the test the code makes); `stackV`: the stack holds visited nodes only.
`DfsPost d emit nodes0 out0 tl st`, the result of the loop started with id list `nodes0` and output `out0`: `nodup`, `all`:
`d.root :: tl` lists the reachable nodes, each once; `sorted`, `ids`: `st.nodes` is increasing and holds `nodes0` and the
ids of `tl`; `out`: the output is `out0` followed by the records of `tl` in that order (`OutRel`, nothing for `emit = none`). -/
namespace Dawg

/-- every link of a visited node leads to a visited node, or an entry of `entries` (the pending stack entries, with the
position of the running inner loop in place of the top one) says it will still be examined -/
def Covered (h : Heap) (V : List Nat) (entries : List (Nat × Nat)) : Prop :=
  ∀ X n k q, X ∈ V → h[X]? = some n → n.links[k]? = some q → q ∈ V ∨ ∃ nxt, (X, nxt) ∈ entries ∧ nxt ≤ k

structure InvBase (d : Dawg) (V : List Nat) (st : DfsSt) : Prop where
  sorted : st.nodes.Pairwise (· ≤ ·)
  vreach : ∀ p ∈ V, Reach d.heap d.root p
  vroot : d.root ∈ V
  seen : ∀ c n, Reach d.heap d.root c → c ≠ d.root → d.heap[c]? = some n → (n.id ∈ st.nodes ↔ c ∈ V)
  stackV : ∀ e ∈ st.stack, e.1 ∈ V

/-- what one run of the inner loop (`dfsInner`, over the remaining links of the top node) leaves. `notFound`: no unvisited
child: invariant and coverage hold with the top entry done, id list and output unchanged; `found`: an unvisited child `c`
was pushed: it joins `V`, its id joins the id list, and its record (if records are emitted) is appended to the output. -/
structure InnerPost (d : Dawg) (emit : Option (Nat → Nat)) (V : List Nat) (st st' : DfsSt) (b : Bool) : Prop where
  notFound : b = false → InvBase d V st' ∧ Covered d.heap V st'.stack.tail ∧ st'.stack ≠ [] ∧
      st'.out = st.out ∧ st'.nodes = st.nodes
  found : b = true → ∃ c cn, c ∉ V ∧ d.heap[c]? = some cn ∧ InvBase d (V ++ [c]) st' ∧
      Covered d.heap (V ++ [c]) st'.stack ∧ st'.nodes.Perm (cn.id :: st.nodes) ∧
      (match emit with
       | none => st'.out = st.out
       | some conv => ∃ r, encRecord d.heap conv cn = .ok r ∧ st'.out = st.out ++ r)

theorem dfsInner_spec (d : Dawg) (wf : WF d) (emit : Option (Nat → Nat)) (pT : Nat) (T : Node)
    (hT : d.heap[pT]? = some T) (hTr : Reach d.heap d.root pT) :
    ∀ (labs : List Nat) (j : Nat) (st : DfsSt) (V : List Nat) (st' : DfsSt) (b : Bool),
      labs.length = T.links.length - j →
      InvBase d V st →
      pT ∈ V →
      Covered d.heap V ((pT, j) :: st.stack.tail) →
      (st.stack.head? = some (pT, j) ∨ ∃ nxt, (pT, nxt) ∈ st.stack.tail ∧ nxt ≤ j) →
      st.stack ≠ [] →
      dfsInner emit d.heap T labs j st = .ok (st', b) →
      InnerPost d emit V st st' b := by
  intro labs
  induction labs with
  | nil =>
    intro j st V st' b hlen hinv hpV hcov htop hne hres
    simp only [dfsInner, Outcome.ok.injEq, Prod.mk.injEq] at hres
    obtain ⟨rfl, rfl⟩ := hres
    refine ⟨fun _ => ⟨hinv, ?_, hne, rfl, rfl⟩, fun h => by cases h⟩
    intro X n k q hX hn hk
    rcases hcov X n k q hX hn hk with h1 | ⟨nxt, h1, hjk⟩
    · exact Or.inl h1
    · rcases List.mem_cons.1 h1 with heq | h1
      · -- the inner loop has run off the end of `T.links`
        cases heq
        rw [hT] at hn
        cases hn
        have : k < T.links.length := (List.getElem?_eq_some_iff.1 hk).1
        exact absurd (Nat.lt_of_lt_of_le this (Nat.le_trans (Nat.le_of_sub_eq_zero hlen.symm) hjk)) (Nat.lt_irrefl k)
      · exact Or.inr ⟨nxt, h1, hjk⟩
  | cons lab labs ih =>
    intro j st V st' b hlen hinv hpV hcov htop hne hres
    simp only [dfsInner] at hres
    have hjlt : j < T.links.length := Nat.lt_of_sub_pos (hlen ▸ Nat.succ_pos _)
    have hlen' : labs.length = T.links.length - (j + 1) := by
      rw [Nat.sub_add_eq, ← hlen]; rfl
    have hc : T.links[j]? = some (T.links[j]) := List.getElem?_eq_getElem hjlt
    generalize hcdef : T.links[j] = c at hc
    rw [hc] at hres
    simp only at hres
    have hcmem : c ∈ T.links := by rw [← hcdef]; exact List.getElem_mem hjlt
    have hcr : Reach d.heap d.root c := Reach.step hTr hT hcmem
    obtain ⟨cn, hcn⟩ := wf.closed c hcr
    have hcroot : c ≠ d.root := by
      intro h; exact wf.noBack pT T hTr hT (h ▸ hcmem)
    cases hst : st.stack with
    | nil => exact absurd hst hne
    | cons top below =>
      obtain ⟨tp, tn⟩ := top
      rw [hst] at hres
      simp only [getNode_of_some hcn] at hres
      rw [hst] at hcov htop
      simp only [List.tail_cons, List.head?_cons, Option.some.injEq, Prod.mk.injEq] at hcov htop
      have htpV : tp ∈ V := hinv.stackV (tp, tn) (by rw [hst]; exact List.mem_cons_self)
      have hbelowV : ∀ e ∈ below, e.1 ∈ V := fun e he => hinv.stackV e (by rw [hst]; exact List.mem_cons_of_mem _ he)
      -- link `j` of `T` leads to `c`; the later ones are covered from position `j + 1` on
      have hstep : ∀ X n k q, X ∈ V → d.heap[X]? = some n → n.links[k]? = some q →
          q ∈ V ∨ q = c ∨ ∃ nxt, (X, nxt) ∈ (pT, j + 1) :: below ∧ nxt ≤ k := by
        intro X n k q hX hn hk
        rcases hcov X n k q hX hn hk with h1 | ⟨nxt, h1, h2⟩
        · exact Or.inl h1
        · rcases List.mem_cons.1 h1 with heq | h1
          · cases heq
            by_cases hkj : k = j
            · rw [hkj] at hk
              rw [hT] at hn; cases hn
              rw [hc] at hk; cases hk
              exact Or.inr (Or.inl rfl)
            · exact Or.inr (Or.inr ⟨j + 1, List.mem_cons_self, Nat.lt_of_le_of_ne h2 (Ne.symm hkj)⟩)
          · exact Or.inr (Or.inr ⟨nxt, List.mem_cons_of_mem _ h1, h2⟩)
      by_cases hseen : st.nodes[searchGE st.nodes cn.id]? = some cn.id
      · rw [if_pos hseen] at hres
        have hcV : c ∈ V := (hinv.seen c cn hcr hcroot hcn).1 ((get_searchGE_iff _ _ hinv.sorted).1 hseen)
        have hinv' : InvBase d V { st with stack := (c, 0) :: (tp, j + 1) :: below } := by
          refine ⟨hinv.sorted, hinv.vreach, hinv.vroot, hinv.seen, ?_⟩
          intro e he
          simp only [List.mem_cons] at he
          rcases he with rfl | rfl | he
          · exact hcV
          · exact htpV
          · exact hbelowV e he
        have := ih (j + 1) { st with stack := (c, 0) :: (tp, j + 1) :: below } V st' b
          hlen' hinv' hpV ?_ ?_ (by simp) hres
        · refine ⟨fun hb => ?_, fun hb => ?_⟩
          · obtain ⟨h1, h2, h3, h4, h5⟩ := this.notFound hb
            exact ⟨h1, h2, h3, h4, h5⟩
          · exact this.found hb
        · intro X n k q hX hn hk
          rcases hstep X n k q hX hn hk with h1 | rfl | ⟨nxt, h1, h2⟩
          · exact Or.inl h1
          · exact Or.inl hcV
          · refine Or.inr ⟨nxt, ?_, h2⟩
            rcases List.mem_cons.1 h1 with heq | h1
            · exact heq ▸ List.mem_cons_self
            · exact List.mem_cons_of_mem _ (List.mem_cons_of_mem _ h1)
        · simp only [List.tail_cons, List.head?_cons]
          right
          rcases htop with ⟨rfl, rfl⟩ | ⟨nxt, h1, h2⟩
          · exact ⟨tn + 1, List.mem_cons_self, Nat.le_refl _⟩
          · exact ⟨nxt, List.mem_cons_of_mem _ h1, Nat.le_succ_of_le h2⟩
      · rw [if_neg hseen] at hres
        have hcV : c ∉ V := fun hV => hseen ((get_searchGE_iff _ _ hinv.sorted).2 ((hinv.seen c cn hcr hcroot hcn).2 hV))
        -- facts independent of `emit`
        have hbase : ∀ out, InvBase d (V ++ [c])
            { nodes := insertAt st.nodes (searchGE st.nodes cn.id) cn.id, stack := (c, 0) :: (tp, j + 1) :: below, out := out } := by
          intro out
          refine ⟨sorted_insertAt _ _ hinv.sorted, ?_, ?_, ?_, ?_⟩
          · intro p hp
            rw [List.mem_append, List.mem_singleton] at hp
            rcases hp with hp | rfl
            · exact hinv.vreach p hp
            · exact hcr
          · exact List.mem_append_left _ hinv.vroot
          · intro c' n' hc'r hc'root hn'
            simp only [mem_insertAt, List.mem_append, List.mem_singleton]
            constructor
            · rintro (h1 | h1)
              · right; exact wf.idInj c' c n' cn hc'r hcr hn' hcn h1
              · left; exact (hinv.seen c' n' hc'r hc'root hn').1 h1
            · rintro (h1 | h1)
              · right; exact (hinv.seen c' n' hc'r hc'root hn').2 h1
              · left; subst h1; rw [hcn] at hn'; cases hn'; rfl
          · intro e he
            simp only [List.mem_cons] at he
            rcases he with rfl | rfl | he
            · simp
            · exact List.mem_append_left _ htpV
            · exact List.mem_append_left _ (hbelowV e he)
        have hcover : Covered d.heap (V ++ [c]) ((c, 0) :: (tp, j + 1) :: below) := by
          intro X n k q hX hn hk
          rw [List.mem_append, List.mem_singleton] at hX
          rcases hX with hX | rfl
          · rcases hstep X n k q hX hn hk with h1 | rfl | ⟨nxt, h1, h2⟩
            · exact Or.inl (List.mem_append_left _ h1)
            · exact Or.inl (List.mem_append_right _ (List.mem_singleton.2 rfl))
            · right
              rcases List.mem_cons.1 h1 with heq | h1
              · -- the entry of `pT` that is really on the stack
                cases heq
                rcases htop with ⟨rfl, rfl⟩ | ⟨nxt', h3, h4⟩
                · exact ⟨tn + 1, List.mem_cons_of_mem _ List.mem_cons_self, h2⟩
                · exact ⟨nxt', List.mem_cons_of_mem _ (List.mem_cons_of_mem _ h3),
                    Nat.le_trans h4 (Nat.le_of_succ_le h2)⟩
              · exact ⟨nxt, List.mem_cons_of_mem _ (List.mem_cons_of_mem _ h1), h2⟩
          · exact Or.inr ⟨0, List.mem_cons_self, Nat.zero_le _⟩
        cases emit with
        | none =>
          simp only [Outcome.ok.injEq, Prod.mk.injEq] at hres
          obtain ⟨rfl, rfl⟩ := hres
          refine ⟨(fun h => by cases h), fun _ => ⟨c, cn, hcV, hcn, hbase _, hcover, insertAt_perm _ _ _, rfl⟩⟩
        | some conv =>
          simp only at hres
          cases henc : encRecord d.heap conv cn with
          | ok r =>
            rw [henc] at hres
            simp only [Outcome.ok.injEq, Prod.mk.injEq] at hres
            obtain ⟨rfl, rfl⟩ := hres
            exact ⟨(fun h => by cases h), fun _ => ⟨c, cn, hcV, hcn, hbase _, hcover, insertAt_perm _ _ _, r, henc, rfl⟩⟩
          | panic => rw [henc] at hres; cases hres
          | outOfFuel => rw [henc] at hres; cases hres

/-- `ids` are the ids of the nodes `ps`, in order -/
inductive IdsOf (h : Heap) : List Nat → List Nat → Prop where
  | nil : IdsOf h [] []
  | cons {c : Nat} {cn : Node} {ps ids : List Nat} : h[c]? = some cn → IdsOf h ps ids → IdsOf h (c :: ps) (cn.id :: ids)

theorem IdsOf.snoc {h : Heap} {ps ids : List Nat} {c : Nat} {cn : Node} (hi : IdsOf h ps ids) (hc : h[c]? = some cn) :
    IdsOf h (ps ++ [c]) (ids ++ [cn.id]) := by
  induction hi with
  | nil => exact IdsOf.cons hc IdsOf.nil
  | cons h1 _ ih => exact IdsOf.cons h1 ih

/-- `bs` is the concatenation of the records of the nodes `ps`, in order -/
inductive Emitted (h : Heap) (conv : Nat → Nat) : List Nat → List Nat → Prop where
  | nil : Emitted h conv [] []
  | cons {c : Nat} {cn : Node} {r : List Nat} {ps bs : List Nat} :
      h[c]? = some cn → encRecord h conv cn = .ok r → Emitted h conv ps bs → Emitted h conv (c :: ps) (r ++ bs)

theorem Emitted.snoc {h : Heap} {conv : Nat → Nat} {ps bs : List Nat} {c : Nat} {cn : Node} {r : List Nat}
    (he : Emitted h conv ps bs) (hc : h[c]? = some cn) (hr : encRecord h conv cn = .ok r) :
    Emitted h conv (ps ++ [c]) (bs ++ r) := by
  induction he with
  | nil => simpa using Emitted.cons hc hr Emitted.nil
  | cons h1 h2 _ ih => rw [List.append_assoc]; exact Emitted.cons h1 h2 ih

def OutRel (h : Heap) (emit : Option (Nat → Nat)) (out0 : List Nat) (tl : List Nat) (out : Array Nat) : Prop :=
  match emit with
  | none => True
  | some conv => ∃ bs, Emitted h conv tl bs ∧ out.toList = out0 ++ bs

/-- the invariant of `dfsLoop`: `InvBase` and `Covered` for `V = d.root :: tl` (`base`, `cover`), no node visited twice
(`nodup`), and the two results so far, as in `DfsPost` (`ids`, `out`) -/
structure InvLoop (d : Dawg) (emit : Option (Nat → Nat)) (nodes0 out0 : List Nat) (tl : List Nat) (st : DfsSt) : Prop where
  base : InvBase d (d.root :: tl) st
  cover : Covered d.heap (d.root :: tl) st.stack
  nodup : (d.root :: tl).Nodup
  ids : ∃ I, IdsOf d.heap tl I ∧ st.nodes.Perm (nodes0 ++ I)
  out : OutRel d.heap emit out0 tl st.out

structure DfsPost (d : Dawg) (emit : Option (Nat → Nat)) (nodes0 out0 : List Nat) (tl : List Nat) (st : DfsSt) : Prop where
  nodup : (d.root :: tl).Nodup
  all : ∀ p, Reach d.heap d.root p ↔ p ∈ d.root :: tl
  sorted : st.nodes.Pairwise (· ≤ ·)
  ids : ∃ I, IdsOf d.heap tl I ∧ st.nodes.Perm (nodes0 ++ I)
  out : OutRel d.heap emit out0 tl st.out

theorem closure_of_covered (d : Dawg) (V : List Nat) (hroot : d.root ∈ V) (hc : Covered d.heap V []) :
    ∀ p, Reach d.heap d.root p → p ∈ V := by
  intro p hp
  induction hp with
  | root => exact hroot
  | step _ hn hq ih =>
    obtain ⟨k, hk, hkq⟩ := List.getElem_of_mem hq
    have hk' := List.getElem?_eq_getElem hk
    rw [hkq] at hk'
    exact (hc _ _ k _ ih hn hk').resolve_right fun ⟨_, h1, _⟩ => absurd h1 List.not_mem_nil

theorem dfsLoop_spec (d : Dawg) (wf : WF d) (emit : Option (Nat → Nat)) (nodes0 out0 : List Nat) :
    ∀ (fuel : Nat) (st : DfsSt) (tl : List Nat) (st' : DfsSt),
      InvLoop d emit nodes0 out0 tl st →
      dfsLoop emit d.heap fuel st = .ok st' →
      ∃ tl', DfsPost d emit nodes0 out0 tl' st' := by
  intro fuel
  induction fuel with
  | zero => intro st tl st' _ hres; simp [dfsLoop] at hres
  | succ fuel ih =>
    intro st tl st' hinv hres
    simp only [dfsLoop] at hres
    cases hst : st.stack with
    | nil => rw [hst] at hres; cases hres
    | cons top rest =>
      obtain ⟨p, nxt⟩ := top
      rw [hst] at hres
      simp only at hres
      have hpV : p ∈ d.root :: tl := hinv.base.stackV (p, nxt) (by rw [hst]; exact List.mem_cons_self)
      have hpr := hinv.base.vreach p hpV
      obtain ⟨T, hT⟩ := wf.closed p hpr
      rw [getNode_of_some hT] at hres
      simp only at hres
      cases hin : dfsInner emit d.heap T (List.drop nxt T.labels) nxt st with
      | panic => rw [hin] at hres; cases hres
      | outOfFuel => rw [hin] at hres; cases hres
      | ok res =>
        obtain ⟨st1, b⟩ := res
        rw [hin] at hres
        have hlen : (List.drop nxt T.labels).length = T.links.length - nxt := by
          rw [List.length_drop, wf.lens p T hpr hT]
        have hcov : Covered d.heap (d.root :: tl) ((p, nxt) :: st.stack.tail) := by
          rw [hst]
          exact hst ▸ hinv.cover
        have hpost := dfsInner_spec d wf emit p T hT hpr _ nxt st (d.root :: tl) st1 b hlen hinv.base hpV hcov
          (Or.inl (by rw [hst]; rfl)) (by rw [hst]; simp) hin
        cases b with
        | true =>
          simp only at hres
          obtain ⟨c, cn, hcV, hcn, hbase, hcover, hperm, hout⟩ := hpost.found rfl
          obtain ⟨I, hI, hIperm⟩ := hinv.ids
          refine ih st1 (tl ++ [c]) st' ⟨by simpa using hbase, by simpa using hcover, ?_, ?_, ?_⟩ hres
          · have : (d.root :: tl ++ [c]).Nodup := by
              rw [List.nodup_append]
              refine ⟨hinv.nodup, by simp, ?_⟩
              intro a ha b hb
              simp only [List.mem_singleton] at hb
              subst hb
              intro hab; subst hab; exact hcV ha
            simpa using this
          · refine ⟨I ++ [cn.id], hI.snoc hcn, ?_⟩
            refine hperm.trans ?_
            refine (List.Perm.cons _ hIperm).trans ?_
            rw [← List.append_assoc]
            exact (List.perm_append_singleton _ _).symm
          · unfold OutRel
            have ho := hinv.out
            unfold OutRel at ho
            cases emit with
            | none => trivial
            | some conv =>
              simp only at ho hout ⊢
              obtain ⟨bs, hbs, hobs⟩ := ho
              obtain ⟨r, hr, hor⟩ := hout
              refine ⟨bs ++ r, hbs.snoc hcn hr, ?_⟩
              rw [hor]; simp [hobs]
        | false =>
          simp only at hres
          obtain ⟨hbase, hcover, hne, hout, hnodes⟩ := hpost.notFound rfl
          cases hst1 : st1.stack with
          | nil => exact absurd hst1 hne
          | cons top1 rest1 =>
            rw [hst1] at hres hcover
            simp only [List.tail_cons] at hcover
            cases rest1 with
            | nil =>
              simp only [Outcome.ok.injEq] at hres
              subst hres
              refine ⟨tl, hinv.nodup, ?_, hbase.sorted, ?_, ?_⟩
              · intro q
                exact ⟨closure_of_covered d _ hbase.vroot hcover q, hbase.vreach q⟩
              · simpa [hnodes] using hinv.ids
              · simpa [hout] using hinv.out
            | cons e2 rest2 =>
              simp only at hres
              refine ih _ tl st' ⟨?_, hcover, hinv.nodup, ?_, ?_⟩ hres
              · refine ⟨hbase.sorted, hbase.vreach, hbase.vroot, hbase.seen, ?_⟩
                intro e he
                exact hbase.stackV e (by rw [hst1]; exact List.mem_cons_of_mem _ he)
              · simpa [hnodes] using hinv.ids
              · simpa [hout] using hinv.out

end Dawg
