import Mamba.Lemmas.DsaturForward
import Mamba.Lemmas.DsaturBacktrack
/-! DSATUR model: the search-completeness invariant `CInv` and how a move of the search keeps it, the node-local
symmetry lemma, dead paths. -/
namespace CliqueColour
open GraphSpec

/-- a proper colouring that only uses the colours `0 .. u-2` (what the search still looks for when the internal upper
bound is `u`) -/
def Good (g : G) (u : Int) (f : Nat → Nat) : Prop := Proper g f ∧ ∀ v, v < g.n → (f v : Int) + 2 ≤ u

def Ext (s : Dsat) (ws : List Nat) (f : Nat → Nat) : Prop := ∀ w ∈ ws, (f w : Int) = colOf s w

/-- the alternative `t` at position `j` of the path is pending, and `f` takes it -/
structure Alt (s : Dsat) (f : Nat → Nat) (j t : Nat) : Prop where
  pos : j < s.chosen.length
  gt : s.cur.getD j 0 < t
  lt : t < (s.choices.getD j []).length
  ext : Ext s (s.chosen.take j) f
  val : f (s.chosen.getD j 0) = (s.choices.getD j []).getD t 0

/-- `f` extends the current path or one of the pending alternatives on the explicit stack -/
def InOpen (s : Dsat) (f : Nat → Nat) : Prop := Ext s s.chosen f ∨ ∃ j t, Alt s f j t

/-- nothing that is still being looked for has been lost -/
def CInv (g : G) (s : Dsat) : Prop :=
  ∀ u : Int, u ≤ s.upper → (∃ f, Good g u f) → ∃ f, Good g u f ∧ InOpen s f

def ColUp (s : Dsat) : Prop := ∀ w ∈ s.chosen, colOf s w + 2 ≤ s.upper

theorem PathEq.ext {k : Nat} {s r : Dsat} (h : PathEq k s r) {f : Nat → Nat} (he : Ext s (s.chosen.take k) f) :
    Ext r (r.chosen.take k) f := fun w hw => by
  rw [h.chosen] at hw
  rw [h.col w hw]; exact he w hw

theorem Alt.transfer {s r : Dsat} {f : Nat → Nat} {j t : Nat} (h : Alt s f j t) (he : PathEq (j + 1) s r)
    (hj : j < r.chosen.length) : Alt r f j t := by
  have hjj := Nat.lt_succ_self j
  exact ⟨hj, by rw [he.cur j hjj]; exact h.gt, by rw [he.choices j hjj]; exact h.lt,
    (he.mono (Nat.le_succ j)).ext h.ext, by rw [he.vertex hjj, he.choices j hjj]; exact h.val⟩

theorem InOpen.of_top {s r : Dsat} {f : Nat → Nat} {k t : Nat} (he : PathEq k s r) (hlen : r.chosen.length = k + 1)
    (hcol : colOf r (r.chosen.getD k 0) = (((r.choices.getD k []).getD (r.cur.getD k 0) 0 : Nat) : Int))
    (hext : Ext s (s.chosen.take k) f) (ht1 : r.cur.getD k 0 ≤ t) (ht2 : t < (r.choices.getD k []).length)
    (hval : f (r.chosen.getD k 0) = (r.choices.getD k []).getD t 0) : InOpen r f := by
  have hk : k < r.chosen.length := by rw [hlen]; exact Nat.lt_succ_self k
  rcases Nat.eq_or_lt_of_le ht1 with rfl | hlt
  · left
    intro w hw
    rw [← List.take_length (l := r.chosen), hlen, take_succ_getD hk] at hw
    rcases List.mem_append.1 hw with h1 | h1
    · exact he.ext hext w h1
    · rw [List.mem_singleton.1 h1, hcol, hval]
  · exact Or.inr ⟨k, t, hk, hlt, ht2, he.ext hext, hval⟩

theorem Move.alt {k : Nat} {s r : Dsat} (h : Move k s r) {f : Nat → Nat} {j t : Nat} (ha : Alt s f j t)
    (hj : j < k) : Alt r f j t :=
  ha.transfer (h.pre.mono hj) (Nat.lt_trans hj h.lt)

theorem Move.cinv_push {g : G} {s r : Dsat} (hm : Move s.chosen.length s r) {U0 : Nat} (hr : DSInv g U0 r)
    (hc : CInv g s) (hcur : r.cur.getD s.chosen.length 0 = 0)
    (hcover : ∀ u : Int, u ≤ s.upper → ∀ f, Good g u f → Ext s s.chosen f → ∃ f', Good g u f' ∧ Ext s s.chosen f' ∧
      f' (r.chosen.getD s.chosen.length 0) ∈ r.choices.getD s.chosen.length []) : CInv g r := by
  intro u hu hex
  rw [hm.upper] at hu
  obtain ⟨f, hf, hopen⟩ := hc u hu hex
  rcases hopen with he | ⟨j, t, ha⟩
  · obtain ⟨f', hf', he', hmem⟩ := hcover u hu f hf he
    obtain ⟨p, hp, hpe⟩ := mem_iff_getD.1 hmem
    exact ⟨f', hf', InOpen.of_top hm.pre hm.len (hr.pos _ hm.lt).col (by rw [List.take_length]; exact he')
      (by rw [hcur]; exact Nat.zero_le p) hp hpe.symm⟩
  · exact ⟨f, hf, Or.inr ⟨j, t, hm.alt ha ha.pos⟩⟩

theorem Move.cinv_advance {g : G} {s r : Dsat} {i : Nat} (hm : Move i s r) {U0 : Nat} (hr : DSInv g U0 r)
    (hc : CInv g s) (hv : r.chosen.getD i 0 = s.chosen.getD i 0) (hcho : r.choices.getD i [] = s.choices.getD i [])
    (hcur : r.cur.getD i 0 = s.cur.getD i 0 + 1)
    (hdead : ∀ u : Int, u ≤ s.upper → ∀ f, Good g u f → ¬ Ext s s.chosen f)
    (habove : ∀ u : Int, u ≤ s.upper → ∀ f, Good g u f → ∀ j t, Alt s f j t → i < j → False) : CInv g r := by
  intro u hu hex
  rw [hm.upper] at hu
  obtain ⟨f, hf, hopen⟩ := hc u hu hex
  refine ⟨f, hf, ?_⟩
  rcases hopen with he | ⟨j, t, ha⟩
  · exact absurd he (hdead u hu f hf)
  · rcases Nat.lt_trichotomy j i with hji | rfl | hij
    · exact Or.inr ⟨j, t, hm.alt ha hji⟩
    · exact InOpen.of_top (t := t) hm.pre hm.len (hr.pos _ hm.lt).col ha.ext (by rw [hcur]; exact ha.gt)
        (by rw [hcho]; exact ha.lt) (by rw [hv, hcho]; exact ha.val)
    · exact (habove u hu f hf j t ha hij).elim

theorem Move.colUp {k : Nat} {s r : Dsat} (hm : Move k s r)
    (hlow : ∀ j, j < k → colOf s (s.chosen.getD j 0) + 2 ≤ s.upper)
    (htop : colOf r (r.chosen.getD k 0) + 2 ≤ s.upper) : ColUp r := by
  intro w hw
  rw [← List.take_length (l := r.chosen), hm.len, take_succ_getD hm.lt, hm.pre.chosen] at hw
  rw [hm.upper]
  rcases List.mem_append.1 hw with h1 | h1
  · obtain ⟨j, hj, rfl⟩ := (mem_take_iff_getD hm.le).1 h1
    rw [hm.pre.col _ h1]; exact hlow j hj
  · rw [List.mem_singleton.1 h1]; exact htop

theorem DSInv.maxUsed_ge {g : G} {U0 : Nat} {s : Dsat} (h : DSInv g U0 s) : -1 ≤ s.maxUsed := by
  rw [h.mused]; exact maxCol_ge _ _

/-- the first-unused-colour symmetry break loses nothing: a good colouring that extends the path can be renamed so
that the next vertex `v` gets one of the options the code generates -/
theorem node_local {g : G} {U0 : Nat} {s : Dsat} (h : DSInv g U0 s) {v : Nat} (hv : v ∈ s.heap)
    {u : Int} (hu : u ≤ s.upper) {f : Nat → Nat} (hf : Good g u f) (he : Ext s s.chosen f) :
    ∃ f', Good g u f' ∧ Ext s s.chosen f' ∧ f' v ∈ dsOptions s v := by
  obtain ⟨hvn, hvch⟩ := (h.hmem v).1 hv
  have hm1 := h.maxUsed_ge
  -- wlog the colour of `v` is at most the first unused colour `maxUsed + 1`
  obtain ⟨f', hp', hk', hfix, hle⟩ := proper_exists_le hf.1 (k := (u - 1).toNat) (m := (s.maxUsed + 1).toNat)
    (fun w hw => by have := hf.2 w hw; omega) hvn (S := (· ∈ s.chosen)) (fun w hwc => by
      have h1 := he w hwc
      have h2 := le_maxCol (colOf s) hwc
      rw [← h.mused] at h2
      omega)
  have hb : ∀ w, w < g.n → (f' w : Int) + 2 ≤ u := fun w hw => by have := hk' w hw; omega
  refine ⟨f', ⟨hp', hb⟩, fun w hwc => by rw [hfix w hwc]; exact he w hwc,
    mem_dsOptions.2 ⟨by omega, by have := hb v hvn; omega, ?_⟩⟩
  have hU : f' v < U0 := by
    have := hb v hvn; have := h.uple; omega
  rw [h.seenH v hv (f' v) hU, cntCol_eq_zero]
  intro w hwc hadj hcol
  have := hfix w hwc
  have := he w hwc
  exact hp' v w hvn (h.chlt w hwc) hadj (by omega)

theorem dead_no_options {g : G} {U0 : Nat} {s : Dsat} (h : DSInv g U0 s) {v : Nat} (hv : v ∈ s.heap)
    (hopt : dsOptions s v = []) {u : Int} (hu : u ≤ s.upper) {f : Nat → Nat} (hf : Good g u f) :
    ¬ Ext s s.chosen f := by
  intro he
  obtain ⟨f', _, _, hmem⟩ := node_local h hv hu hf he
  rw [hopt] at hmem; cases hmem

theorem dead_complete {g : G} {U0 : Nat} {s : Dsat} (h : DSInv g U0 s) (hempty : s.heap = []) {u : Int}
    (hu : u ≤ s.maxUsed + 1) {f : Nat → Nat} (hf : Good g u f) : ¬ Ext s s.chosen f := by
  intro he
  have h0 : 0 ∈ s.chosen := h.all_chosen hempty 0 h.npos
  rcases maxCol_attained (colOf s) s.chosen with hm | ⟨w, hwc, hwe⟩
  · have := le_maxCol (colOf s) h0
    have := h.col_nonneg h0
    omega
  · have h1 := he w hwc
    have h2 := hf.2 w (h.chlt w hwc)
    rw [h.mused] at hu
    omega

end CliqueColour
