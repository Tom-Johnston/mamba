import Mamba.Lemmas.CanonFCertSplit
/-!
# A split of one bin only rearranges `order` inside that bin and keeps the old dividers with their ages

`SplitRel.rearr`, `SplitRel.divs_mem` say this of one split (`SplitRel` of `CanonFRefineCall.lean`). `splitBin` is such a split
(`splitBin_split`) possibly followed by `expandValue`, which does not touch `order` or the dividers: `splitBin_rearr`. The
refinement is a sequence of such splits (`Carried.of_split`; the relation to the input partition is composed in
`carried_rearr`): `refine_rearr`. The class invariant `ClsInv` needs nothing else from these two operations
(`ClsInv.of_rearr`).
-/
namespace CanonF

theorem mem_zip_insert {α β : Type} {l nl : List α} {m nm : List β} {j : Nat} (hl : l.length = m.length)
    (hn : nl.length = nm.length) {x : α × β} (hx : x ∈ l.zip m) :
    x ∈ (l.take j ++ nl ++ l.drop j).zip (m.take j ++ nm ++ m.drop j) := by
  have h1 : (l.take j).length = (m.take j).length := by rw [List.length_take, List.length_take, hl]
  have h2 : (l.take j ++ nl).length = (m.take j ++ nm).length := by rw [List.length_append, List.length_append, h1, hn]
  rw [List.zip_append h2, List.zip_append h1]
  rw [← List.take_append_drop j l, ← List.take_append_drop j m, List.zip_append h1] at hx
  rcases List.mem_append.1 hx with hx | hx
  · exact List.mem_append_left _ (List.mem_append_left _ hx)
  · exact List.mem_append_right _ hx

theorem PartInv.mem_divs_of_mem_bd {n : Nat} {op : OP} (hp : PartInv n op) {d : Nat} (hd : d ∈ op.binDividers.toList) :
    ∃ a, (d, a) ∈ divs op := by
  obtain ⟨i, hi⟩ := List.mem_iff_getElem?.1 hd
  have hil := (List.getElem?_eq_some_iff.1 hi).1
  have hal : i < op.binAges.toList.length := by
    rw [hp.length_ages, ← hp.length_bd]; exact hil
  refine ⟨op.binAges.toList[i], ?_⟩
  apply List.mem_iff_getElem?.2
  refine ⟨i, ?_⟩
  unfold divs
  rw [List.getElem?_zip_eq_some]
  exact ⟨hi, List.getElem?_eq_getElem hal⟩

theorem SplitRel.rearr {n j bs dj : Nat} {K nbsL : List Nat} {op op2 : OP} (h : SplitRel n j bs dj K nbsL op op2)
    (hp : PartInv n op) {p v : Nat} (hv : op2.order.toList[p]? = some v) :
    ∃ q, op.order.toList[q]? = some v ∧ ∀ d ∈ op.binDividers.toList, (d ≤ q ↔ d ≤ p) := by
  by_cases h1 : p < bs
  · rw [h.order_lt hp h1] at hv
    exact ⟨p, hv, fun _ _ => Iff.rfl⟩
  · by_cases h2 : p < dj
    · rw [h.order_in hp (Nat.le_of_not_lt h1) h2] at hv
      obtain ⟨q, q1, q2, q3⟩ := mem_rfSeg.1 (h.kperm.mem_iff.1 (List.mem_of_getElem? hv))
      exact ⟨q, q3, fun d hd => bin_same_side hp.bdSorted h.hbs h.hdj (Nat.le_of_not_lt h1) h2 q1 q2 hd⟩
    · rw [h.order_ge hp (Nat.le_of_not_lt h2)] at hv
      exact ⟨p, hv, fun _ _ => Iff.rfl⟩

theorem SplitRel.divs_mem {n j bs dj : Nat} {K nbsL : List Nat} {op op2 : OP} (h : SplitRel n j bs dj K nbsL op op2)
    (hp : PartInv n op) {x : Nat × Int} (hx : x ∈ divs op) : x ∈ divs op2 := by
  obtain ⟨_, l2⟩ := h.lens hp
  unfold divs at hx ⊢
  rw [h.bd, h.ages]
  exact mem_zip_insert l2 (List.length_replicate ..).symm hx

def RefineRearr (op op1 : OP) : Prop :=
  (∀ p v, op1.order.toList[p]? = some v →
    ∃ q, op.order.toList[q]? = some v ∧ ∀ d ∈ op.binDividers.toList, (d ≤ q ↔ d ≤ p)) ∧
  (∀ x ∈ divs op, x ∈ divs op1)

theorem carried_rearr (hst : StablePerm) (nb : Nbrs) {n : Nat} (cb fl : Sl Nat) (opts : Options) {op : OP}
    (h0 : PartInv n op) : Carried nb n cb fl opts (RefineRearr op) := by
  apply Carried.of_split hst
  · intro j bs dj K nbsL op1 op2 ts hp hrel _ hq
    obtain ⟨qa, qb⟩ := hq
    refine ⟨fun p v hv => ?_, fun x hx => hrel.divs_mem hp (qb x hx)⟩
    obtain ⟨p1, a1, a2⟩ := hrel.rearr hp hv
    obtain ⟨q, b1, b2⟩ := qa p1 v a1
    refine ⟨q, b1, fun d hd0 => ?_⟩
    obtain ⟨a, ha⟩ := h0.mem_divs_of_mem_bd hd0
    exact (b2 d hd0).trans (a2 d (List.of_mem_zip (qb _ ha)).1)
  · intro op1 op' e1 e2 e3 _ _ hq
    unfold RefineRearr divs
    rw [e1, e2, e3]; exact hq

theorem refine_rearr (hst : StablePerm) {n : Nat} {nb : Nbrs} {cb fl : Sl Nat} {opts : Options} {op op' : OP}
    {sc sc' : Scratch} {w : Bool}
    (h : PartInv n op) (ha : AgeInv op) (hsc : ScratchOK n sc)
    (hr : refine nb cb fl opts op sc = .ok (w, op', sc')) :
    RefineRearr op op' := by
  unfold refine at hr
  rw [h.lenOrder] at hr
  exact (refineLoop_inv hst (carried_rearr hst nb cb fl opts h) _ op op' sc sc' w h ha
    ⟨fun p v hv => ⟨p, hv, fun _ _ => Iff.rfl⟩, fun _ hx => hx⟩ hsc.scrInv hr).2.1

theorem splitBin_rearr {n : Nat} {nb : Nbrs} {cb fl : Sl Nat} {op op' : OP} {i : Nat} {w : Bool}
    (h : PartInv n op) (ha : AgeInv op) (hi : i < n) (hns : NonSingleton op.binDividers.toList i)
    (hs : splitBin nb cb fl op i = .ok (w, op')) :
    RefineRearr op op' := by
  obtain ⟨d, op1, _, hrel, _, _, _, hif⟩ := splitBin_split h ha hi hns hs
  have hp0 : PartInv n { op with age := op.age + 1 } := h.of_frame rfl rfl rfl rfl
  have hfr : op'.order = op1.order ∧ divs op' = divs op1 := by
    by_cases hsp : binIdx op.binDividers.toList i = op.spl
    · rw [if_pos hsp] at hif
      obtain ⟨f1, f2, f3, _⟩ := expandValue_frame hif
      exact ⟨f1, divs_congr f2 f3⟩
    · rw [if_neg hsp] at hif
      rw [hif.2]; exact ⟨rfl, rfl⟩
  unfold RefineRearr
  rw [hfr.1, hfr.2]
  exact ⟨fun p v hv => hrel.rearr hp0 hv, fun x hx => hrel.divs_mem hp0 hx⟩

end CanonF
