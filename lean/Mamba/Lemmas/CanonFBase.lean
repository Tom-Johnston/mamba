import Mamba.Model.CanonF
/-!
# Basic lemmas for the faithful model `Model/CanonF.lean`: counted loops, Go slices, `ints.Sort`, `nbrsOf`

Loops: `forRange` / `forDown` / `forList` each have an invariant rule from a successful run (`*_inv`) and one that also
shows that the loop does not panic (`*_total`). Slices: every primitive of `Sl` that can panic has an `_eq_ok` lemma
(when it succeeds, and the result) or a `_spec`, the total ones (`copyFrom`, `fill0`) have `_data` / `_len`. The effect
on the visible part `toList` is the form the other modules use; the pointwise forms on `data` are for entries beyond the
length. The two shifts the model is made of are stated on lists: `shiftRight_toList` (one block one place to the right,
behind `moveFront`) and `growShift_toList` (room for `m` entries, behind `insertAt_spec`).
-/
namespace CanonF

/-- `osplit h`: split every `match`/`if` in the hypothesis `h : … = Outcome.ok _` (repeatedly), discarding the branches
that end in `panic` / `outOfFuel`; the equations of the scrutinees are left in the context (`heq✝`). -/
syntax "osplit " ident : tactic
macro_rules
  | `(tactic| osplit $h:ident) =>
    `(tactic| repeat' (first
        | (split at $h:ident)
        | (dsimp only at $h:ident; split at $h:ident)
        | (exfalso; simp at $h:ident; done)))

theorem forRange_inv {σ : Type} (f : Nat → σ → Outcome σ) (P : Nat → σ → Prop) :
    ∀ (k lo : Nat) (s r : σ), P lo s →
      (∀ i s s', lo ≤ i → i < lo + k → P i s → f i s = .ok s' → P (i + 1) s') →
      forRange f k lo s = .ok r → P (lo + k) r := by
  intro k
  induction k with
  | zero => intro lo s r h0 _ h; simp [forRange] at h; subst h; simpa using h0
  | succ k ih =>
    intro lo s r h0 hs h
    rw [forRange] at h
    cases hf : f lo s with
    | ok s' =>
      rw [hf] at h
      have := ih (lo + 1) s' r (hs lo s s' (Nat.le_refl _) (by omega) h0 hf)
        (fun i s s' h1 h2 => hs i s s' (by omega) (by omega)) h
      rw [show lo + (k + 1) = lo + 1 + k by omega]; exact this
    | panic => rw [hf] at h; cases h
    | outOfFuel => rw [hf] at h; cases h

theorem forRange_total {σ : Type} (f : Nat → σ → Outcome σ) (P : Nat → σ → Prop) :
    ∀ (k lo : Nat) (s : σ), P lo s →
      (∀ i s, lo ≤ i → i < lo + k → P i s → ∃ s', f i s = .ok s' ∧ P (i + 1) s') →
      ∃ r, forRange f k lo s = .ok r ∧ P (lo + k) r := by
  intro k
  induction k with
  | zero => intro lo s h0 _; exact ⟨s, rfl, by simpa using h0⟩
  | succ k ih =>
    intro lo s h0 hs
    obtain ⟨s', hf, hp⟩ := hs lo s (Nat.le_refl _) (by omega) h0
    obtain ⟨r, hr, hpr⟩ := ih (lo + 1) s' hp (fun i s h1 h2 => hs i s (by omega) (by omega))
    refine ⟨r, ?_, ?_⟩
    · rw [forRange, hf]; exact hr
    · rw [show lo + (k + 1) = lo + 1 + k by omega]; exact hpr

theorem forDown_inv {σ : Type} (f : Nat → σ → Outcome σ) (P : Nat → σ → Prop) :
    ∀ (k : Nat) (s r : σ), P k s →
      (∀ i s s', i < k → P (i + 1) s → f i s = .ok s' → P i s') →
      forDown f k s = .ok r → P 0 r := by
  intro k
  induction k with
  | zero => intro s r h0 _ h; simp [forDown] at h; subst h; exact h0
  | succ k ih =>
    intro s r h0 hs h
    rw [forDown] at h
    cases hf : f k s with
    | ok s' =>
      rw [hf] at h
      exact ih s' r (hs k s s' (by omega) h0 hf) (fun i s s' h1 => hs i s s' (by omega)) h
    | panic => rw [hf] at h; cases h
    | outOfFuel => rw [hf] at h; cases h

theorem forDown_total {σ : Type} (f : Nat → σ → Outcome σ) (P : Nat → σ → Prop) :
    ∀ (k : Nat) (s : σ), P k s →
      (∀ i s, i < k → P (i + 1) s → ∃ s', f i s = .ok s' ∧ P i s') →
      ∃ r, forDown f k s = .ok r ∧ P 0 r := by
  intro k
  induction k with
  | zero => intro s h0 _; exact ⟨s, rfl, h0⟩
  | succ k ih =>
    intro s h0 hs
    obtain ⟨s', hf, hp⟩ := hs k s (by omega) h0
    obtain ⟨r, hr, hpr⟩ := ih s' hp (fun i s h1 => hs i s (by omega))
    exact ⟨r, by rw [forDown, hf]; exact hr, hpr⟩

theorem forList_inv {σ β : Type} (f : β → σ → Outcome σ) (P : σ → Prop) :
    ∀ (l : List β) (s r : σ), P s → (∀ x s s', x ∈ l → P s → f x s = .ok s' → P s') →
      forList f l s = .ok r → P r := by
  intro l
  induction l with
  | nil => intro s r h0 _ h; simp [forList] at h; subst h; exact h0
  | cons x xs ih =>
    intro s r h0 hs h
    rw [forList] at h
    cases hf : f x s with
    | ok s' =>
      rw [hf] at h
      exact ih s' r (hs x s s' (List.mem_cons_self ..) h0 hf)
        (fun y s s' hy => hs y s s' (List.mem_cons_of_mem _ hy)) h
    | panic => rw [hf] at h; cases h
    | outOfFuel => rw [hf] at h; cases h

theorem forList_total {σ β : Type} (f : β → σ → Outcome σ) (P : σ → Prop) :
    ∀ (l : List β) (s : σ), P s → (∀ x s, x ∈ l → P s → ∃ s', f x s = .ok s' ∧ P s') →
      ∃ r, forList f l s = .ok r ∧ P r := by
  intro l
  induction l with
  | nil => intro s h0 _; exact ⟨s, rfl, h0⟩
  | cons x xs ih =>
    intro s h0 hs
    obtain ⟨s', hf, hp⟩ := hs x s (List.mem_cons_self ..) h0
    obtain ⟨r, hr, hpr⟩ := ih s' hp (fun y s hy => hs y s (List.mem_cons_of_mem _ hy))
    exact ⟨r, by rw [forList, hf]; exact hr, hpr⟩

theorem List.getElem?_take_cons_drop {α : Type} (l : List α) (b : Nat) (x : α) (hb : b ≤ l.length) (i : Nat) :
    (l.take b ++ x :: l.drop b)[i]? = if i < b then l[i]? else if i = b then some x else l[i - 1]? := by
  have hl : (l.take b).length = b := by rw [List.length_take]; omega
  by_cases hi : i < b
  · rw [if_pos hi, List.getElem?_append_left (by omega), List.getElem?_take, if_pos hi]
  · rw [if_neg hi, List.getElem?_append_right (by omega), hl]
    by_cases hib : i = b
    · rw [if_pos hib, hib, Nat.sub_self, List.getElem?_cons_zero]
    · rw [if_neg hib, show i - b = (i - b - 1) + 1 by omega, List.getElem?_cons_succ, List.getElem?_drop,
        show b + (i - b - 1) = i - 1 by omega]

theorem List.take_succ_of_getElem? {α : Type} {l : List α} {k : Nat} {v : α} (h : l[k]? = some v) :
    l.take (k + 1) = l.take k ++ [v] := by
  rw [List.take_add_one, h]; rfl

theorem List.length_filter_take_lt {α : Type} {S : List α} {p : α → Bool} {k : Nat} {v : α} (hk : S[k]? = some v)
    (hp : p v = true) : ((S.take k).filter p).length < (S.filter p).length := by
  have h := ((List.take_sublist (k + 1) S).filter p).length_le
  rw [List.take_succ_of_getElem? hk, List.filter_append, List.filter_cons_of_pos hp, List.length_append] at h
  exact h

theorem List.eq_take_mid_drop {α : Type} (l : List α) {a b : Nat} (hab : a ≤ b) :
    l = l.take a ++ (l.drop a).take (b - a) ++ l.drop b := by
  rw [List.append_assoc, ← Nat.add_sub_cancel' hab, ← List.drop_drop, Nat.add_sub_cancel_left, List.take_append_drop,
    List.take_append_drop]

/-! ## writing at a cursor

The loops that fill a slice are described on its visible part as `written ++ room ++ rest`: what has been written so far,
then as many entries of unknown content as are still to come, then what the loop does not touch.  Every write of such a
loop is `cursor_write`; that the room is as long as what is still to come makes the write in range and, at the end of the
loop, the room empty. -/

theorem List.cursor_write {α : Type} {W G Q : List α} {r : Nat} (x : α) (h : G.length = r + 1) :
    W.length < (W ++ (G ++ Q)).length ∧
      ∃ G', G'.length = r ∧ (W ++ (G ++ Q)).set W.length x = (W ++ [x]) ++ (G' ++ Q) := by
  cases G with
  | nil => cases h
  | cons g G' =>
    refine ⟨?_, G', Nat.succ.inj h, ?_⟩
    · rw [List.length_append, List.length_append, List.length_cons]; omega
    · rw [List.cons_append, List.set_append_right _ _ (Nat.le_refl _), Nat.sub_self, List.set_cons_zero,
        List.append_assoc, List.singleton_append]

theorem List.room_cons {α β : Type} {G : List β} {p : α → Bool} {v : α} {l : List α} (hp : p v = true)
    (h : G.length = (v :: l).countP p) : G.length = l.countP p + 1 := by
  rw [h, List.countP_cons_of_pos hp]

theorem List.filter_take_succ_pos {α : Type} {S : List α} {k : Nat} {v : α} {p : α → Bool} (hv : S[k]? = some v)
    (hp : p v = true) : (S.take (k + 1)).filter p = (S.take k).filter p ++ [v] := by
  rw [List.take_succ_of_getElem? hv, List.filter_append, List.filter_cons_of_pos hp, List.filter_nil]

theorem List.filter_take_succ_neg {α : Type} {S : List α} {k : Nat} {v : α} {p : α → Bool} (hv : S[k]? = some v)
    (hp : p v = false) : (S.take (k + 1)).filter p = (S.take k).filter p := by
  rw [List.take_succ_of_getElem? hv, List.filter_append, List.filter_cons_of_neg (by rw [hp]; exact Bool.false_ne_true),
    List.filter_nil, List.append_nil]

namespace Sl
variable {α : Type}

def WF (s : Sl α) : Prop := s.len ≤ s.data.size

/-- `WF` in the form arithmetic wants -/
theorem WF.le {s : Sl α} (h : s.WF) : s.len ≤ s.data.size := h

theorem wf_mk {a : Array α} {k : Nat} : (⟨a, k⟩ : Sl α).WF ↔ k ≤ a.size := Iff.rfl

theorem length_toList (s : Sl α) (h : s.WF) : s.toList.length = s.len := by
  simp [toList, WF] at *; omega

theorem length_toList_eq_min (s : Sl α) : s.toList.length = min s.len s.data.size := by
  unfold toList; rw [List.length_take, Array.length_toList]

theorem length_toList_le (s : Sl α) : s.toList.length ≤ s.len := by
  rw [length_toList_eq_min]; exact Nat.min_le_left _ _

theorem getElem?_toList (s : Sl α) (i : Nat) :
    s.toList[i]? = if i < s.len then s.data[i]? else none := by
  simp only [toList, List.getElem?_take]
  split <;> simp

theorem toList_of_len_zero {s : Sl α} (h : s.len = 0) : s.toList = [] := by
  simp [Sl.toList, h]

theorem toList_eq_of (s : Sl α) (l : List α) (hl : l.length = s.len)
    (h : ∀ i, i < s.len → s.data[i]? = l[i]?) : s.toList = l := by
  apply List.ext_getElem?
  intro i
  rw [getElem?_toList]
  by_cases hi : i < s.len
  · rw [if_pos hi, h i hi]
  · rw [if_neg hi]; symm; apply List.getElem?_eq_none; omega

theorem get_eq_ok {s : Sl α} {i : Nat} {v : α} : s.get i = .ok v ↔ i < s.len ∧ s.data[i]? = some v := by
  unfold get
  by_cases h : i < s.len
  · simp only [h, if_true, true_and]
    cases hd : s.data[i]? <;> simp
  · simp [h]

theorem get_ok_of_lt {s : Sl α} (hw : s.WF) {i : Nat} (h : i < s.len) : ∃ v, s.get i = .ok v ∧ s.data[i]? = some v := by
  have : i < s.data.size := Nat.lt_of_lt_of_le h hw
  exact ⟨s.data[i], get_eq_ok.2 ⟨h, by simp [this]⟩, by simp [this]⟩

theorem get_lt {s : Sl α} {i : Nat} {v : α} (h : s.get i = .ok v) : i < s.len := (get_eq_ok.1 h).1

theorem set_eq_ok {s s' : Sl α} {i : Nat} {v : α} :
    s.set i v = .ok s' ↔ (i < s.len ∧ i < s.data.size) ∧ s' = ⟨s.data.setIfInBounds i v, s.len⟩ := by
  unfold set
  by_cases h : i < s.len ∧ i < s.data.size
  · simp [h]; exact eq_comm
  · simp [h]

theorem set_ok_of_lt {s : Sl α} (hw : s.WF) {i : Nat} (h : i < s.len) (v : α) :
    s.set i v = .ok ⟨s.data.setIfInBounds i v, s.len⟩ := by
  have : i < s.data.size := Nat.lt_of_lt_of_le h hw
  simp [set, h, this]

theorem reslice_eq_ok {s s' : Sl α} {k : Nat} : s.reslice k = .ok s' ↔ k ≤ s.data.size ∧ s' = ⟨s.data, k⟩ := by
  unfold reslice
  by_cases h : k ≤ s.data.size
  · simp [h]; exact eq_comm
  · simp [h]

@[simp] theorem size_writeList (a : Array α) (d : Nat) (l : List α) : (writeList a d l).size = a.size := by
  induction l generalizing a d with
  | nil => rfl
  | cons x xs ih => simp [writeList, ih]

theorem getElem?_writeList (a : Array α) (d : Nat) (l : List α) (i : Nat) :
    (writeList a d l)[i]? = if d ≤ i ∧ i < d + l.length ∧ i < a.size then l[i - d]? else a[i]? := by
  induction l generalizing a d with
  | nil => simp [writeList]; intro h1 h2; omega
  | cons x xs ih =>
    rw [writeList, ih]
    simp only [Array.size_setIfInBounds, List.length_cons, Array.getElem?_setIfInBounds]
    by_cases h1 : d + 1 ≤ i ∧ i < d + 1 + xs.length ∧ i < a.size
    · have h2 : d ≤ i ∧ i < d + (xs.length + 1) ∧ i < a.size := by omega
      rw [if_pos h1, if_pos h2]
      have : i - d = (i - (d + 1)) + 1 := by omega
      rw [this, List.getElem?_cons_succ]
    · rw [if_neg h1]
      by_cases h3 : d = i
      · subst h3
        by_cases h4 : d < a.size
        · simp [h4]
        · simp [h4]
      · simp only [h3, if_false]
        have h2 : ¬ (d ≤ i ∧ i < d + (xs.length + 1) ∧ i < a.size) := by omega
        rw [if_neg h2]


/-- what `copy` does when the destination is the shorter one -/
theorem getElem?_writeList_take (a : Array α) (d k : Nat) (l : List α) (i : Nat) :
    (writeList a d (l.take k))[i]? = if d ≤ i ∧ i < d + l.length ∧ i < d + k ∧ i < a.size then l[i - d]? else a[i]? := by
  rw [getElem?_writeList, List.length_take]
  by_cases hc : d ≤ i ∧ i < d + l.length ∧ i < d + k ∧ i < a.size
  · rw [if_pos hc, if_pos (by omega), List.getElem?_take, if_pos (by omega)]
  · rw [if_neg hc, if_neg (by omega)]

theorem toList_eq_of_getElem? {s t : Sl α} (hl : s.len = t.len)
    (h : ∀ i, i < s.len → s.data[i]? = t.data[i]?) : s.toList = t.toList := by
  apply List.ext_getElem?
  intro i
  rw [getElem?_toList, getElem?_toList, ← hl]
  split
  · exact h i ‹_›
  · rfl

theorem toList_set {s s' : Sl α} {i : Nat} {v : α} (h : s.set i v = .ok s') : s'.toList = s.toList.set i v := by
  obtain ⟨⟨h1, h2⟩, rfl⟩ := set_eq_ok.1 h
  apply List.ext_getElem?
  intro j
  simp only [getElem?_toList, List.getElem?_set, Array.getElem?_setIfInBounds]
  by_cases hj : j < s.len
  · simp only [hj, if_true]
    by_cases hij : i = j
    · subst hij; simp [h2, toList]; omega
    · simp [hij]
  · simp only [hj, if_false]
    by_cases hij : i = j
    · subst hij; exact absurd h1 hj
    · simp [hij]

theorem set_of_lt_toList {s : Sl α} (hw : s.WF) {i : Nat} (h : i < s.toList.length) (v : α) :
    ∃ s', s.set i v = .ok s' ∧ s'.len = s.len ∧ s'.data.size = s.data.size ∧ s'.toList = s.toList.set i v := by
  have hs := set_ok_of_lt hw (length_toList s hw ▸ h) v
  exact ⟨_, hs, rfl, Array.size_setIfInBounds .., toList_set hs⟩

theorem set_wf {s s' : Sl α} {i : Nat} {v : α} (hw : s.WF) (h : s.set i v = .ok s') : s'.WF := by
  obtain ⟨_, rfl⟩ := set_eq_ok.1 h
  simpa [WF] using hw

theorem set_len {s s' : Sl α} {i : Nat} {v : α} (h : s.set i v = .ok s') : s'.len = s.len := by
  obtain ⟨_, rfl⟩ := set_eq_ok.1 h; rfl

theorem set_cap {s s' : Sl α} {i : Nat} {v : α} (h : s.set i v = .ok s') : s'.data.size = s.data.size := by
  obtain ⟨_, rfl⟩ := set_eq_ok.1 h; simp

theorem set_data {s s' : Sl α} {i : Nat} {v : α} (h : s.set i v = .ok s') (j : Nat) :
    s'.data[j]? = if j = i then some v else s.data[j]? := by
  obtain ⟨⟨_, h2⟩, rfl⟩ := set_eq_ok.1 h
  simp only [Array.getElem?_setIfInBounds]
  by_cases hj : i = j
  · subst hj; simp [h2]
  · simp [hj, Ne.symm hj]

theorem get_eq_toList {s : Sl α} {i : Nat} {v : α} : s.get i = .ok v ↔ s.toList[i]? = some v := by
  rw [get_eq_ok, getElem?_toList]
  by_cases h : i < s.len <;> simp [h]

theorem reslice_len {s s' : Sl α} {k : Nat} (h : s.reslice k = .ok s') : s'.len = k ∧ s'.data = s.data ∧ s'.WF := by
  obtain ⟨h1, rfl⟩ := reslice_eq_ok.1 h
  exact ⟨rfl, rfl, h1⟩

theorem WF.of_eq {s s' : Sl α} (h : s.WF) (hl : s'.len = s.len) (hz : s'.data.size = s.data.size) : s'.WF := by
  unfold WF at *; rw [hl, hz]; exact h

theorem toList_reslice {s s' : Sl α} {k : Nat} (h : s.reslice k = .ok s') (hk : k ≤ s.len) :
    s'.toList = s.toList.take k := by
  obtain ⟨c1, c2, _⟩ := reslice_len h
  unfold toList
  rw [c1, c2, List.take_take, Nat.min_eq_left hk]

theorem toList_writeList (a : Array α) (d : Nat) (l : List α) (h : d + l.length ≤ a.size) :
    (writeList a d l).toList = a.toList.take d ++ l ++ a.toList.drop (d + l.length) := by
  apply List.ext_getElem?
  intro i
  rw [Array.getElem?_toList, getElem?_writeList]
  by_cases h1 : i < d
  · have : ¬ (d ≤ i ∧ i < d + l.length ∧ i < a.size) := by omega
    rw [if_neg this, List.append_assoc, List.getElem?_append_left (by simp; omega)]
    simp [h1]
  · by_cases h2 : i < d + l.length
    · have : d ≤ i ∧ i < d + l.length ∧ i < a.size := by omega
      rw [if_pos this, List.append_assoc, List.getElem?_append_right (by simp; omega)]
      have hl : (List.take d a.toList).length = d := by simp; omega
      rw [hl, List.getElem?_append_left (by omega)]
    · have : ¬ (d ≤ i ∧ i < d + l.length ∧ i < a.size) := by omega
      have hl : (List.take d a.toList ++ l).length = d + l.length := by simp; omega
      rw [if_neg this, List.getElem?_append_right (by rw [hl]; omega)]
      rw [hl, List.getElem?_drop, show d + l.length + (i - (d + l.length)) = i by omega, Array.getElem?_toList]

theorem copyFrom_len (s : Sl α) (src : List α) : (s.copyFrom src).len = s.len := rfl
theorem copyFrom_cap (s : Sl α) (src : List α) : (s.copyFrom src).data.size = s.data.size := by simp [copyFrom]
theorem copyFrom_wf {s : Sl α} (hw : s.WF) (src : List α) : (s.copyFrom src).WF := by
  simp [WF, copyFrom]; exact hw

theorem copyFrom_data (s : Sl α) (hw : s.WF) (src : List α) (i : Nat) :
    (s.copyFrom src).data[i]? = if i < src.length ∧ i < s.len then src[i]? else s.data[i]? := by
  have hw' : s.len ≤ s.data.size := hw
  rw [copyFrom, getElem?_writeList_take, Nat.sub_zero]
  exact ite_congr (propext (by omega)) (fun _ => rfl) (fun _ => rfl)

theorem copyFrom_toList (s : Sl α) (hw : s.WF) (src : List α) (h : src.length = s.len) :
    (s.copyFrom src).toList = src := by
  apply List.ext_getElem?
  intro i
  rw [getElem?_toList, copyFrom_data s hw, copyFrom_len]
  by_cases hi : i < s.len
  · simp [hi, h]
  · simp [hi]; omega


theorem copyAt_eq_ok {s s' : Sl α} {d : Nat} {src : List α} :
    s.copyAt d src = .ok s' ↔ d ≤ s.len ∧ s' = ⟨writeList s.data d (src.take (s.len - d)), s.len⟩ := by
  unfold copyAt
  by_cases h : d ≤ s.len
  · simp [h]; exact eq_comm
  · simp [h]

theorem copyAt_data {s s' : Sl α} {d : Nat} {src : List α} (hw : s.WF) (h : s.copyAt d src = .ok s') (i : Nat) :
    s'.data[i]? = if d ≤ i ∧ i < d + src.length ∧ i < s.len then src[i - d]? else s.data[i]? := by
  obtain ⟨h1, rfl⟩ := copyAt_eq_ok.1 h
  have hw' : s.len ≤ s.data.size := hw
  rw [getElem?_writeList_take]
  exact ite_congr (propext (by omega)) (fun _ => rfl) (fun _ => rfl)

theorem copyAt_len {s s' : Sl α} {d : Nat} {src : List α} (h : s.copyAt d src = .ok s') :
    s'.len = s.len ∧ s'.data.size = s.data.size := by
  obtain ⟨_, rfl⟩ := copyAt_eq_ok.1 h; simp

theorem copySelf_eq_ok {s s' : Sl α} {d a b : Nat} :
    s.copySelf d a b = .ok s' ↔ (d ≤ s.len ∧ a ≤ b ∧ b ≤ s.data.size) ∧
      s' = ⟨writeList s.data d (((s.data.extract a b).toList).take (s.len - d)), s.len⟩ := by
  unfold copySelf
  by_cases h : d ≤ s.len ∧ a ≤ b ∧ b ≤ s.data.size
  · simp [h]; exact eq_comm
  · simp [h]

theorem copySelf_len {s s' : Sl α} {d a b : Nat} (h : s.copySelf d a b = .ok s') :
    s'.len = s.len ∧ s'.data.size = s.data.size := by
  obtain ⟨_, rfl⟩ := copySelf_eq_ok.1 h; simp

theorem copySelf_data {s s' : Sl α} {d a b : Nat} (hw : s.WF) (h : s.copySelf d a b = .ok s') (i : Nat) :
    s'.data[i]? = if d ≤ i ∧ i < d + (b - a) ∧ i < s.len then s.data[a + (i - d)]? else s.data[i]? := by
  obtain ⟨⟨h1, h2, h3⟩, rfl⟩ := copySelf_eq_ok.1 h
  have hw' : s.len ≤ s.data.size := hw
  rw [getElem?_writeList_take, Array.length_toList, Array.size_extract, Nat.min_eq_left h3]
  by_cases hc : d ≤ i ∧ i < d + (b - a) ∧ i < s.len
  · rw [if_pos hc, if_pos (by omega), Array.getElem?_toList, Array.getElem?_extract, if_pos (by omega)]
  · rw [if_neg hc, if_neg (by omega)]

theorem writeList_append (a : Array α) (d : Nat) (l₁ l₂ : List α) :
    writeList a d (l₁ ++ l₂) = writeList (writeList a d l₁) (d + l₁.length) l₂ := by
  induction l₁ generalizing a d with
  | nil => rfl
  | cons x xs ih => rw [List.cons_append, writeList, writeList, ih, List.length_cons, Nat.add_assoc, Nat.add_comm 1]

theorem writeList_writeList (a : Array α) (d : Nat) (l l' : List α) (h : l.length = l'.length) :
    writeList (writeList a d l) d l' = writeList a d l' := by
  apply Array.ext_getElem?
  intro i
  rw [getElem?_writeList, getElem?_writeList, getElem?_writeList, size_writeList, h]
  split <;> rfl

theorem extract_writeList (a : Array α) (d : Nat) (l : List α) (h : d + l.length ≤ a.size) :
    ((writeList a d l).extract d (d + l.length)).toList = l := by
  apply List.ext_getElem?
  intro i
  rw [Array.getElem?_toList, Array.getElem?_extract, getElem?_writeList, Nat.add_sub_cancel_left]
  by_cases hi : i < l.length
  · rw [if_pos (by rw [size_writeList]; omega), if_pos (by omega)]
  · rw [if_neg (by rw [size_writeList]; omega), List.getElem?_eq_none (by omega)]

theorem toList_mk_writeList (s : Sl α) (hw : s.WF) (d : Nat) (l : List α) (h : d + l.length ≤ s.len) :
    (⟨writeList s.data d l, s.len⟩ : Sl α).toList = s.toList.take d ++ l ++ s.toList.drop (d + l.length) := by
  have hw' : s.len ≤ s.data.size := hw
  unfold toList
  rw [toList_writeList _ _ _ (by omega), List.take_append, List.take_of_length_le (by simp; omega), List.drop_take,
    List.take_take, Nat.min_eq_left (by omega)]
  simp only [List.length_append, List.length_take, Array.length_toList]
  rw [Nat.min_eq_left (by omega)]

theorem extract_toList {s : Sl α} {a b : Nat} (hw : s.WF) (hb : b ≤ s.len) :
    (s.data.extract a b).toList = (s.toList.drop a).take (b - a) := by
  have hw' : s.len ≤ s.data.size := hw
  rw [Array.toList_extract, toList, List.drop_take, List.take_take, Nat.min_eq_left (by omega)]

/-- the list view of `copy(s[d:], s[a:b])` (memmove): the block `s[a:b]`, cut to the room behind `d`, overwrites the
entries from `d` on -/
theorem copySelf_toList {s s' : Sl α} {d a b : Nat} (hw : s.WF) (hb : b ≤ s.len) (h : s.copySelf d a b = .ok s') :
    s'.toList = s.toList.take d ++ ((s.toList.drop a).take (b - a)).take (s.len - d) ++
      s.toList.drop (d + (((s.toList.drop a).take (b - a)).take (s.len - d)).length) := by
  obtain ⟨⟨h1, _, _⟩, rfl⟩ := copySelf_eq_ok.1 h
  rw [← extract_toList hw hb]
  exact toList_mk_writeList s hw d _ (by rw [List.length_take]; omega)

theorem copyAt_toList {s s' : Sl α} {d : Nat} {src : List α} (hw : s.WF) (hd : d + src.length ≤ s.len)
    (h : s.copyAt d src = .ok s') : s'.toList = s.toList.take d ++ src ++ s.toList.drop (d + src.length) := by
  obtain ⟨_, rfl⟩ := copyAt_eq_ok.1 h
  rw [List.take_of_length_le (by omega)]
  exact toList_mk_writeList s hw d src hd

theorem toList_take_succ_set {l : List α} {k : Nat} {v : α} (hk : k < l.length) (r : List α) :
    (l.take (k + 1) ++ r).set k v = l.take k ++ v :: r := by
  have hl : (l.take k).length = k := by rw [List.length_take]; omega
  rw [List.take_succ_eq_append_getElem hk, List.append_assoc, List.set_append_right _ _ (Nat.le_of_eq hl), hl, Nat.sub_self]
  rfl

/-- `copy(s[a+1:], s[a:i]); s[a] = v`: the block `[a, i)` moves one place to the right, over position `i` -/
theorem shiftRight_toList {s o1 o2 : Sl α} {a i : Nat} {v : α} (hw : s.WF) (hai : a ≤ i) (hi : i < s.len)
    (h1 : s.copySelf (a + 1) a i = .ok o1) (h2 : o1.set a v = .ok o2) :
    o2.toList = s.toList.take a ++ v :: ((s.toList.take i).drop a ++ s.toList.drop (i + 1)) := by
  have hl : s.toList.length = s.len := length_toList _ hw
  have hblk : ((s.toList.drop a).take (i - a)).take (s.len - (a + 1)) = (s.toList.drop a).take (i - a) := by
    rw [List.take_take, Nat.min_eq_right (by omega)]
  have hbl : ((s.toList.drop a).take (i - a)).length = i - a := by
    rw [List.length_take, List.length_drop]; omega
  rw [toList_set h2, copySelf_toList hw (Nat.le_of_lt hi) h1, hblk, hbl, List.append_assoc,
    toList_take_succ_set (by omega), List.drop_take, show a + 1 + (i - a) = i + 1 by omega]

/-- `s = s[:len+m]; copy(s[j+m:], s[j:])`: room for `m` entries at `j`; the entries from `j` on move `m` places to the
right (`s1` is the longer slice, it shows `m` entries more than `s`) -/
theorem growShift_toList {s s1 s2 : Sl α} {j m : Nat} (hw : s.WF) (hj : j ≤ s.len)
    (h1 : s.reslice (s.len + m) = .ok s1) (h2 : s1.copySelf (j + m) j s1.len = .ok s2) :
    s2.len = s.len + m ∧ s2.data.size = s.data.size ∧ s2.WF ∧ s1.toList.take s.len = s.toList ∧
      s1.toList.length = s.len + m ∧ s2.toList = s1.toList.take (j + m) ++ s.toList.drop j := by
  obtain ⟨e1, e2, w1⟩ := reslice_len h1
  obtain ⟨l2, z2⟩ := copySelf_len h2
  have ht : s1.toList.take s.len = s.toList := by
    unfold toList; rw [e1, e2, List.take_take, Nat.min_eq_left (Nat.le_add_right ..)]
  have hl1 : s1.toList.length = s.len + m := (length_toList _ w1).trans e1
  have hblk : ((s1.toList.drop j).take (s1.len - j)).take (s1.len - (j + m)) = s.toList.drop j := by
    rw [List.take_take, e1, Nat.add_sub_add_right, Nat.min_eq_left (Nat.sub_le_sub_right (Nat.le_add_right ..) j), ← ht,
      List.drop_take]
  have hdl : (s.toList.drop j).length = s.len - j := by rw [List.length_drop, length_toList _ hw]
  have hnil : s1.toList.drop (j + m + (s.len - j)) = [] := List.drop_of_length_le (by rw [hl1]; omega)
  refine ⟨l2.trans e1, by rw [z2, e2], w1.of_eq l2 z2, ht, hl1, ?_⟩
  rw [copySelf_toList w1 (Nat.le_refl _) h2, hblk, hdl, hnil, List.append_nil]

theorem insertAt_spec {s s' : Sl α} {b : Nat} {v : α} (hw : s.WF) (h : insertAt s b v = .ok s') :
    b ≤ s.len ∧ s.len + 1 ≤ s.data.size ∧ s'.len = s.len + 1 ∧ s'.data.size = s.data.size ∧
      s'.toList = s.toList.take b ++ v :: s.toList.drop b ∧
      (∀ i, s.len + 1 ≤ i → s'.data[i]? = s.data[i]?) := by
  unfold insertAt at h
  cases h1 : s.reslice (s.len + 1) with
  | ok s1 =>
    rw [h1] at h
    simp only at h
    obtain ⟨e1, e2, w1⟩ := reslice_len h1
    cases h2 : s1.copySelf (b + 1) b s1.len with
    | ok s2 =>
      rw [h2] at h
      simp only at h
      obtain ⟨⟨c1, _, _⟩, _⟩ := copySelf_eq_ok.1 h2
      have hsz : s.len + 1 ≤ s.data.size := by rw [← e2, ← e1]; exact w1
      have hb : b ≤ s.len := by rw [e1] at c1; exact Nat.le_of_succ_le_succ c1
      obtain ⟨l2, z2, _, ht, hl1, et⟩ := growShift_toList hw hb h1 h2
      refine ⟨hb, hsz, by rw [set_len h, l2], by rw [set_cap h, z2], ?_, fun i hi => ?_⟩
      · rw [toList_set h, et, toList_take_succ_set (by rw [hl1]; exact Nat.lt_succ_of_le hb), ← ht, List.take_take,
          Nat.min_eq_left hb]
      · obtain ⟨q1, q2⟩ : ¬i = b ∧ ¬(b + 1 ≤ i ∧ i < b + 1 + (s.len + 1 - b) ∧ i < s.len + 1) := by omega
        rw [set_data h, copySelf_data w1 h2, e1, e2, if_neg q1, if_neg q2]
    | panic => rw [h2] at h; cases h
    | outOfFuel => rw [h2] at h; cases h
  | panic => rw [h1] at h; cases h
  | outOfFuel => rw [h1] at h; cases h


theorem swap_spec {s s' : Sl α} {i j : Nat} (h : s.swap i j = .ok s') :
    i < s.len ∧ j < s.len ∧ i < s.data.size ∧ j < s.data.size ∧ s'.len = s.len ∧ s'.data.size = s.data.size ∧
      ∃ x y, s.data[i]? = some x ∧ s.data[j]? = some y ∧
        ∀ k, s'.data[k]? = if k = j then some x else if k = i then some y else s.data[k]? := by
  unfold swap at h
  cases hx : s.get i with
  | ok x =>
    cases hy : s.get j with
    | ok y =>
      rw [hx, hy] at h
      simp only at h
      cases h1 : s.set i y with
      | ok s1 =>
        rw [h1] at h
        simp only at h
        obtain ⟨a1, a2⟩ := get_eq_ok.1 hx
        obtain ⟨b1, b2⟩ := get_eq_ok.1 hy
        obtain ⟨⟨c1, c2⟩, _⟩ := set_eq_ok.1 h1
        obtain ⟨⟨e1, e2⟩, _⟩ := set_eq_ok.1 h
        have l1 := set_len h1; have z1 := set_cap h1
        refine ⟨a1, b1, c2, by omega, by rw [set_len h, l1], by rw [set_cap h, z1], x, y, a2, b2, ?_⟩
        intro k
        rw [set_data h, set_data h1]
      | panic => rw [h1] at h; cases h
      | outOfFuel => rw [h1] at h; cases h
    | panic => rw [hx, hy] at h; cases h
    | outOfFuel => rw [hx, hy] at h; cases h
  | panic => rw [hx] at h; cases h
  | outOfFuel => rw [hx] at h; cases h

theorem swap_perm {s s' : Sl α} {i j : Nat} (h : s.swap i j = .ok s') : s'.toList.Perm s.toList := by
  obtain ⟨hi, hj, hi', hj', hl, hz, x, y, hx, hy, hd⟩ := swap_spec h
  have e : s'.toList = (s.toList.set i y).set j x := by
    apply List.ext_getElem?
    intro k
    rw [getElem?_toList, hd, hl, List.getElem?_set, List.getElem?_set, getElem?_toList]
    by_cases hk : k < s.len
    · simp only [hk, if_true]
      by_cases hkj : j = k
      · subst hkj; simp [toList]; omega
      · rw [if_neg (Ne.symm hkj), if_neg hkj]
        by_cases hki : i = k
        · subst hki; simp [toList]; omega
        · rw [if_neg (Ne.symm hki), if_neg hki]
    · simp only [hk, if_false]
      have : j ≠ k := by omega
      have : i ≠ k := by omega
      simp [*]
  rw [e]
  have hxi : s.toList[i]? = some x := by rw [getElem?_toList, if_pos hi, hx]
  have hyj : s.toList[j]? = some y := by rw [getElem?_toList, if_pos hj, hy]
  have hil : i < s.toList.length := by
    rcases List.getElem?_eq_some_iff.1 hxi with ⟨h, _⟩; exact h
  have hjl : j < s.toList.length := by
    rcases List.getElem?_eq_some_iff.1 hyj with ⟨h, _⟩; exact h
  have hx' : s.toList[i] = x := by rcases List.getElem?_eq_some_iff.1 hxi with ⟨_, h⟩; exact h
  have hy' : s.toList[j] = y := by rcases List.getElem?_eq_some_iff.1 hyj with ⟨_, h⟩; exact h
  rw [← hx', ← hy']
  exact List.set_set_perm hil hjl

theorem fill0_data (s : Sl Nat) (i : Nat) :
    s.fill0.data[i]? = if i < s.len then (if i < s.data.size then some 0 else none) else s.data[i]? := by
  simp only [fill0, Array.getElem?_mapIdx]
  by_cases h1 : i < s.len
  · by_cases h2 : i < s.data.size
    · simp [h1, h2]
    · simp [h1, h2]
  · simp only [h1, if_false]
    cases s.data[i]? <;> simp

theorem fill0_len (s : Sl Nat) : s.fill0.len = s.len := rfl
theorem fill0_size (s : Sl Nat) : s.fill0.data.size = s.data.size := by simp [fill0]

theorem fill0_wf {s : Sl Nat} (h : s.WF) : s.fill0.WF := by
  unfold WF at *; rw [fill0_len, fill0_size]; exact h

end Sl

theorem length_sortNat (l : List Nat) : (sortNat l).length = l.length := List.length_mergeSort l

theorem sortNat_perm (l : List Nat) : (sortNat l).Perm l := List.mergeSort_perm l _

theorem mem_sortNat {l : List Nat} {v : Nat} : v ∈ sortNat l ↔ v ∈ l := (sortNat_perm l).mem_iff

theorem Sl.sortRange_eq_ok {s s' : Sl Nat} {a b : Nat} : s.sortRange a b = .ok s' ↔
    (a ≤ b ∧ b ≤ s.data.size) ∧ s' = ⟨Sl.writeList s.data a (sortNat (s.data.extract a b).toList), s.len⟩ := by
  unfold Sl.sortRange
  by_cases h : a ≤ b ∧ b ≤ s.data.size
  · simp [h]; exact eq_comm
  · simp [h]

theorem Sl.sortRange_len_size {s s' : Sl Nat} {a b : Nat} (h : s.sortRange a b = .ok s') :
    s'.len = s.len ∧ s'.data.size = s.data.size := by
  obtain ⟨_, rfl⟩ := Sl.sortRange_eq_ok.1 h
  exact ⟨rfl, Sl.size_writeList ..⟩

theorem Sl.sortRange_spec {s s' : Sl Nat} {a b : Nat} (hw : s.WF) (hb : b ≤ s.len) (h : s.sortRange a b = .ok s') :
    a ≤ b ∧ s'.len = s.len ∧ s'.data.size = s.data.size ∧
      (∀ i, ¬ (a ≤ i ∧ i < b) → s'.data[i]? = s.data[i]?) ∧
      s'.toList = s.toList.take a ++ sortNat ((s.toList.drop a).take (b - a)) ++ s.toList.drop b ∧
      s'.toList.Perm s.toList := by
  obtain ⟨⟨hab, hbz⟩, rfl⟩ := Sl.sortRange_eq_ok.1 h
  have hlen : (sortNat (s.data.extract a b).toList).length = b - a := by
    rw [length_sortNat, Array.length_toList, Array.size_extract, Nat.min_eq_left hbz]
  have e := Sl.toList_mk_writeList s hw a _ (show a + (sortNat (s.data.extract a b).toList).length ≤ s.len by omega)
  rw [hlen, Nat.add_sub_cancel' hab] at e
  refine ⟨hab, rfl, Sl.size_writeList .., fun i hi => ?_, by rw [← Sl.extract_toList hw hb]; exact e, ?_⟩
  · show (Sl.writeList _ _ _)[i]? = _
    rw [Sl.getElem?_writeList, hlen, if_neg (by omega)]
  · rw [e, Sl.extract_toList hw hb]
    conv => rhs; rw [List.eq_take_mid_drop s.toList hab]
    exact List.Perm.append_right _ (List.Perm.append_left _ (sortNat_perm _))

theorem Sl.sortRange_ok {s : Sl Nat} {a b : Nat} (hab : a ≤ b) (hb : b ≤ s.data.size) :
    ∃ s', s.sortRange a b = .ok s' := by
  unfold Sl.sortRange
  rw [if_pos ⟨hab, hb⟩]
  exact ⟨_, rfl⟩

/-! ## `append` (the one primitive that can reallocate) -/

theorem Sl.append_len (s : Sl Nat) (x : Nat) : (s.append x).len = s.len + 1 := by
  unfold Sl.append; split <;> rfl

/-- on a well-formed slice `append` appends; without `s.WF` the result need not be well formed -/
theorem Sl.append_spec (s : Sl Nat) (hw : s.WF) (x : Nat) :
    (s.append x).WF ∧ (s.append x).len = s.len + 1 ∧ (s.append x).toList = s.toList ++ [x] := by
  unfold Sl.WF at hw
  unfold Sl.append
  split
  · rename_i h
    refine ⟨?_, rfl, ?_⟩
    · show s.len + 1 ≤ (s.data.setIfInBounds s.len x).size
      rw [Array.size_setIfInBounds]; exact h
    · show ((s.data.setIfInBounds s.len x).toList).take (s.len + 1) = s.data.toList.take s.len ++ [x]
      rw [Array.toList_setIfInBounds, List.take_add_one, List.take_set_of_le (Nat.le_refl _),
        List.getElem?_set_self (by rw [Array.length_toList]; exact h)]
      rfl
  · rename_i h
    have hl : s.len = s.data.size := Nat.le_antisymm hw (Nat.le_of_not_lt h)
    refine ⟨?_, rfl, ?_⟩
    · show s.len + 1 ≤ _
      rw [List.size_toArray, List.length_append, List.length_append, List.length_take, Array.length_toList,
        Nat.min_eq_left hw]
      exact Nat.le_add_right _ _
    · have hlen : (s.data.toList.take s.len ++ [x]).length = s.len + 1 := by
        rw [List.length_append, List.length_take, Array.length_toList, Nat.min_eq_left hw]; rfl
      show (((s.data.toList.take s.len ++ [x]) ++ List.replicate _ 0).toArray.toList).take (s.len + 1) = _
      rw [List.take_append_of_le_length (Nat.le_of_eq hlen.symm), List.take_of_length_le (Nat.le_of_eq hlen)]
      rfl

theorem Sl.append_wf {s : Sl Nat} (hw : s.WF) (x : Nat) : (s.append x).WF := (Sl.append_spec s hw x).1

theorem Sl.append_toList {s : Sl Nat} (hw : s.WF) (x : Nat) : (s.append x).toList = s.toList ++ [x] :=
  (Sl.append_spec s hw x).2.2

theorem Sl.append_size_le (s : Sl Nat) (x : Nat) : s.data.size ≤ (s.append x).data.size := by
  unfold Sl.append
  by_cases h : s.len < s.data.size
  · rw [if_pos h]
    exact Nat.le_of_eq (Array.size_setIfInBounds ..).symm
  · rw [if_neg h]
    simp only [List.size_toArray, List.length_append, List.length_take, Array.length_toList, List.length_cons,
      List.length_nil, List.length_replicate, Nat.min_eq_right (Nat.le_of_not_lt h)]
    exact Nat.le_trans (Nat.le_add_right _ _) (Nat.le_add_right _ _)

theorem Sl.append_size_pos (s : Sl Nat) (x : Nat) : 0 < (s.append x).data.size := by
  unfold Sl.append
  by_cases h : s.len < s.data.size
  · rw [if_pos h, Array.size_setIfInBounds]; exact Nat.zero_lt_of_lt h
  · rw [if_neg h, List.size_toArray, List.length_append, List.length_append]
    exact Nat.lt_of_lt_of_le (Nat.lt_add_left _ Nat.one_pos) (Nat.le_add_right _ _)

theorem Sl.append_toList_length (s : Sl Nat) (x : Nat) :
    s.toList.length ≤ (s.append x).toList.length ∧ (s.append x).toList ≠ [] := by
  have h1 := Sl.append_len s x
  have h2 := Sl.append_size_le s x
  have h3 := Sl.append_size_pos s x
  have e := Sl.length_toList_eq_min (s.append x)
  refine ⟨by rw [e, Sl.length_toList_eq_min]; omega, fun hc => ?_⟩
  rw [hc, List.length_nil] at e; omega

theorem nbrsOf_getD (g : GraphSpec.G) (u : Nat) :
    (nbrsOf g).getD u [] = if u < g.n then g.nbrs u else [] := by
  unfold nbrsOf
  rw [Array.getD_eq_getD_getElem?]
  simp only [List.getElem?_toArray, List.getElem?_map]
  by_cases hu : u < g.n
  · rw [if_pos hu, List.getElem?_range hu]; rfl
  · rw [if_neg hu, List.getElem?_eq_none (by simp; omega)]; rfl

end CanonF
