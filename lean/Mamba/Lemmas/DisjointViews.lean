import Mamba.Lemmas.DisjointArr

/-!
# The derived views `SmallestRep`, `Sets`, `Roots` (C18)

Stage 1 removes the state threading: under `Good n R ds` (`DisjointArr.lean`: invariant, size `n`, representatives given
by the fixed function `R`) every `find` returns `R x` and keeps `Good`, so the executable loops equal
pure loops over `R`. Stage 2 characterises the pure loops.
-/
namespace Disjoint

def srInnerP (R : Nat → Nat) (i : Nat) (sr : Array Nat) : Nat → Nat → Nat
  | 0, _ => i
  | k+1, j => if R i = R j then sr.getD j 0 else srInnerP R i sr k (j+1)

def srLoopP (R : Nat → Nat) : Nat → Nat → Array Nat → Array Nat
  | 0, _, sr => sr
  | k+1, i, sr => srLoopP R k (i+1) (sr.push (srInnerP R i sr i 0))

theorem srInner_exec {n : Nat} {R : Nat → Nat} (i : Nat) (sr : Array Nat) (hi : i < n) :
    ∀ (k j : Nat) (ds : DS), Good n R ds → j + k ≤ i →
      ∃ d', smallestRepInner i sr k j ds = .ok (d', srInnerP R i sr k j) ∧ Good n R d' := by
  intro k
  induction k with
  | zero => intro j ds h _; exact ⟨ds, rfl, h⟩
  | succ k ih =>
    intro j ds h hj
    obtain ⟨d1, f1, g1⟩ := find_good h i hi
    obtain ⟨d2, f2, g2⟩ := find_good g1 j (by omega)
    unfold smallestRepInner srInnerP
    rw [f1]; simp only; rw [f2]; simp only
    by_cases e : R i = R j
    · simp only [e, if_true]; exact ⟨d2, rfl, g2⟩
    · simp only [e, if_false]; exact ih (j+1) d2 g2 (le_of_eq_of_le (Nat.succ_add_eq_add_succ j k) hj)

theorem srLoop_exec {n : Nat} {R : Nat → Nat} :
    ∀ (k i : Nat) (ds : DS) (sr : Array Nat), Good n R ds → i + k ≤ n →
      ∃ d', smallestRepLoop k i ds sr = .ok (d', srLoopP R k i sr) ∧ Good n R d' := by
  intro k
  induction k with
  | zero => intro i ds sr h _; exact ⟨ds, rfl, h⟩
  | succ k ih =>
    intro i ds sr h hi
    have hin : i < n := lt_of_lt_of_le (Nat.lt_add_of_pos_right (Nat.succ_pos k)) hi
    obtain ⟨d1, f1, g1⟩ := srInner_exec (R := R) i sr hin i 0 ds h (Nat.zero_add i).le
    unfold smallestRepLoop srLoopP
    rw [f1]
    exact ih (i+1) d1 _ g1 (le_of_eq_of_le (Nat.succ_add_eq_add_succ i k) hi)

def IsLeast (R : Nat → Nat) (v i : Nat) : Prop :=
  v ≤ i ∧ R v = R i ∧ ∀ j, j < i → R j = R i → v ≤ j

theorem srInnerP_spec (R : Nat → Nat) (i : Nat) (sr : Array Nat) (hs : sr.size = i)
    (hsr : ∀ m, m < i → IsLeast R (sr.getD m 0) m) :
    ∀ (k j : Nat), j + k = i → (∀ j', j' < j → R j' ≠ R i) → IsLeast R (srInnerP R i sr k j) i := by
  intro k
  induction k with
  | zero =>
    intro j hj hn
    have : j = i := by omega
    subst this
    exact ⟨le_refl _, rfl, fun j' h1 h2 => absurd h2 (hn j' h1)⟩
  | succ k ih =>
    intro j hj hn
    unfold srInnerP
    by_cases e : R i = R j
    · simp only [e, if_true]
      have hji : j < i := by omega
      obtain ⟨a1, a2, a3⟩ := hsr j hji
      refine ⟨le_trans a1 hji.le, by rw [a2, e], ?_⟩
      intro j' h1 h2
      by_cases hjj : j' < j
      · exact absurd (by rw [h2]) (hn j' hjj)
      · exact le_trans a1 (Nat.le_of_not_lt hjj)
    · simp only [e, if_false]
      refine ih (j+1) (by omega) ?_
      intro j' h1
      by_cases hjj : j' = j
      · subst hjj; exact fun h => e h.symm
      · exact hn j' (by omega)

theorem getD_push_eq (sr : Array Nat) (v : Nat) : (sr.push v).getD sr.size 0 = v := by
  simp [Array.getD]

theorem getD_push_lt (sr : Array Nat) (v m : Nat) (hm : m < sr.size) :
    (sr.push v).getD m 0 = sr.getD m 0 := by
  simp [Array.getD, hm, Array.getElem_push, show m < sr.size + 1 by omega]

theorem srLoopP_spec (R : Nat → Nat) :
    ∀ (k i : Nat) (sr : Array Nat), sr.size = i → (∀ m, m < i → IsLeast R (sr.getD m 0) m) →
      (srLoopP R k i sr).size = i + k ∧
      ∀ m, m < i + k → IsLeast R ((srLoopP R k i sr).getD m 0) m := by
  intro k
  induction k with
  | zero => intro i sr hs h; exact ⟨hs, h⟩
  | succ k ih =>
    intro i sr hs h
    unfold srLoopP
    have hv := srInnerP_spec R i sr hs h i 0 (Nat.zero_add i) (fun j' hj' => absurd hj' (Nat.not_lt_zero j'))
    obtain ⟨a1, a2⟩ := ih (i+1) (sr.push (srInnerP R i sr i 0)) (by simp [hs]) (by
      intro m hm
      by_cases hmi : m = i
      · rw [hmi, ← hs, getD_push_eq, hs]; exact hv
      · have hm' : m < i := Nat.lt_of_le_of_ne (Nat.le_of_lt_succ hm) hmi
        rw [getD_push_lt _ _ _ (lt_of_lt_of_eq hm' hs.symm)]
        exact h m hm')
    rw [Nat.add_right_comm, Nat.add_assoc] at a1 a2
    exact ⟨a1, a2⟩

def setsInnerP (R : Nat → Nat) (i : Nat) : List (List Nat) → Option (List (List Nat))
  | [] => none
  | [] :: _ => none
  | (h :: t) :: rest =>
    if R i = R h then some (((h :: t) ++ [i]) :: rest)
    else match setsInnerP R i rest with
      | some r => some ((h :: t) :: r)
      | none => none

theorem setsInner_exec {n : Nat} {R : Nat → Nat} (i : Nat) (hi : i < n) :
    ∀ (ss : List (List Nat)) (ds : DS), Good n R ds → (∀ s ∈ ss, ∃ h t, s = h :: t ∧ h < n) →
      ∃ d', setsInner i ss ds = .ok (d', setsInnerP R i ss) ∧ Good n R d' := by
  intro ss
  induction ss with
  | nil => intro ds h _; exact ⟨ds, rfl, h⟩
  | cons s rest ih =>
    intro ds h hss
    obtain ⟨hd, t, rfl, hh⟩ := hss s (List.mem_cons_self ..)
    obtain ⟨d1, f1, g1⟩ := find_good h i hi
    obtain ⟨d2, f2, g2⟩ := find_good g1 hd hh
    unfold setsInner setsInnerP
    rw [f1]; simp only; rw [f2]; simp only
    by_cases e : R i = R hd
    · simp only [e, if_true]; exact ⟨d2, rfl, g2⟩
    · simp only [e, if_false]
      obtain ⟨d3, f3, g3⟩ := ih d2 g2 (fun s' hs' => hss s' (List.mem_cons_of_mem _ hs'))
      rw [f3]
      cases setsInnerP R i rest <;> exact ⟨d3, rfl, g3⟩

def cls (R : Nat → Nat) (m h : Nat) : List Nat := (List.range m).filter (fun k => R k == R h)

def isLeader (R : Nat → Nat) (h : Nat) : Bool := (List.range h).all (fun j => R j != R h)

def leaders (R : Nat → Nat) (m : Nat) : List Nat := (List.range m).filter (isLeader R)

/-- closed form of `Sets` after `m` elements: the classes in order of their least members -/
def classes (R : Nat → Nat) (m : Nat) : List (List Nat) := (leaders R m).map (cls R m)

theorem isLeader_iff (R : Nat → Nat) (h : Nat) : isLeader R h = true ↔ ∀ j, j < h → R j ≠ R h := by
  simp [isLeader]

theorem mem_leaders (R : Nat → Nat) (m h : Nat) :
    h ∈ leaders R m ↔ h < m ∧ ∀ j, j < h → R j ≠ R h := by
  simp [leaders, isLeader_iff]

theorem mem_cls (R : Nat → Nat) (m h k : Nat) : k ∈ cls R m h ↔ k < m ∧ R k = R h := by
  simp [cls]

theorem cls_succ (R : Nat → Nat) (m h : Nat) :
    cls R (m+1) h = cls R m h ++ if R m = R h then [m] else [] := by
  simp only [cls, List.range_succ, List.filter_append, List.filter_cons, List.filter_nil]
  by_cases e : R m = R h <;> simp [e]

theorem leaders_succ (R : Nat → Nat) (m : Nat) :
    leaders R (m+1) = leaders R m ++ if isLeader R m then [m] else [] := by
  simp only [leaders, List.range_succ, List.filter_append, List.filter_cons, List.filter_nil]

theorem cls_head (R : Nat → Nat) (m h : Nat) (hm : h < m) :
    ∃ h0 t, cls R m h = h0 :: t ∧ R h0 = R h ∧ h0 < m := by
  have hmem : h ∈ cls R m h := (mem_cls R m h h).2 ⟨hm, rfl⟩
  cases hc : cls R m h with
  | nil => rw [hc] at hmem; cases hmem
  | cons h0 t =>
    have : h0 ∈ cls R m h := by rw [hc]; exact List.mem_cons_self ..
    obtain ⟨a, b⟩ := (mem_cls R m h h0).1 this
    exact ⟨h0, t, rfl, b, a⟩

theorem setsInnerP_map (R : Nat → Nat) (i : Nat) :
    ∀ (L : List Nat), (∀ h ∈ L, h < i) → L.Pairwise (fun a b => R a ≠ R b) →
      setsInnerP R i (L.map (cls R i)) =
        if ∃ h ∈ L, R h = R i then some (L.map (cls R (i+1))) else none := by
  intro L
  induction L with
  | nil => intro _ _; simp [setsInnerP]
  | cons h L ih =>
    intro hL hp
    obtain ⟨hp1, hp2⟩ := List.pairwise_cons.1 hp
    obtain ⟨h0, t, hc, hR, _⟩ := cls_head R i h (hL h (List.mem_cons_self ..))
    rw [List.map_cons, hc, setsInnerP, ← hc, hR]
    by_cases e : R i = R h
    · have ex : ∃ h' ∈ h :: L, R h' = R i := ⟨h, List.mem_cons_self .., e.symm⟩
      rw [if_pos e, if_pos ex, List.map_cons, cls_succ, if_pos e]
      congr 2
      apply List.map_congr_left
      intro h' hh'
      rw [cls_succ, if_neg, List.append_nil]
      intro e'; exact hp1 h' hh' (by rw [← e, e'])
    · rw [if_neg e, ih (fun h' hh' => hL h' (List.mem_cons_of_mem _ hh')) hp2]
      have hcs : cls R (i+1) h = cls R i h := by rw [cls_succ, if_neg e, List.append_nil]
      by_cases ex : ∃ h' ∈ L, R h' = R i
      · have ex' : ∃ h' ∈ h :: L, R h' = R i := by
          obtain ⟨h', a, b⟩ := ex; exact ⟨h', List.mem_cons_of_mem _ a, b⟩
        rw [if_pos ex, if_pos ex', List.map_cons, hcs]
      · have ex' : ¬ ∃ h' ∈ h :: L, R h' = R i := by
          rintro ⟨h', a, b⟩
          rcases List.mem_cons.1 a with rfl | a
          · exact e b.symm
          · exact ex ⟨h', a, b⟩
        rw [if_neg ex, if_neg ex']

theorem leaders_pairwise (R : Nat → Nat) (m : Nat) :
    (leaders R m).Pairwise (fun a b => R a ≠ R b) := by
  have h1 : (leaders R m).Pairwise (· < ·) := List.pairwise_lt_range.filter _
  refine h1.imp_of_mem ?_
  intro a b _ hb hab
  exact ((mem_leaders R m b).1 hb).2 a hab

theorem exists_leader (R : Nat → Nat) (m : Nat) :
    ∀ j, j < m → ∃ h ∈ leaders R m, R h = R j ∧ h ≤ j := by
  intro j
  induction j using Nat.strong_induction_on with
  | _ j ih =>
    intro hj
    by_cases hl : ∀ j', j' < j → R j' ≠ R j
    · exact ⟨j, (mem_leaders R m j).2 ⟨hj, hl⟩, rfl, le_refl _⟩
    · simp only [ne_eq, not_forall, not_not, exists_prop] at hl
      obtain ⟨j', h1, h2⟩ := hl
      obtain ⟨h, a, b, c⟩ := ih j' h1 (by omega)
      exact ⟨h, a, by rw [b, h2], by omega⟩

theorem classes_step (R : Nat → Nat) (i : Nat) :
    (match setsInnerP R i (classes R i) with
     | some s' => s'
     | none => classes R i ++ [[i]]) = classes R (i+1) := by
  unfold classes
  rw [setsInnerP_map R i (leaders R i) (fun h hh => ((mem_leaders R i h).1 hh).1)
    (leaders_pairwise R i), leaders_succ]
  by_cases hl : isLeader R i = true
  · have hl' := (isLeader_iff R i).1 hl
    have nex : ¬ ∃ h ∈ leaders R i, R h = R i := by
      rintro ⟨h, a, b⟩; exact hl' h ((mem_leaders R i h).1 a).1 b
    rw [if_neg nex, if_pos hl, List.map_append]
    simp only [List.map_cons, List.map_nil]
    congr 1
    · apply List.map_congr_left
      intro h hh
      rw [cls_succ, if_neg, List.append_nil]
      intro e; exact nex ⟨h, hh, e.symm⟩
    · rw [cls_succ, if_pos rfl]
      have : cls R i i = [] := by
        rw [List.eq_nil_iff_forall_not_mem]
        intro k hk
        obtain ⟨a, b⟩ := (mem_cls R i i k).1 hk
        exact hl' k a b
      rw [this]; rfl
  · have hl' : ¬ ∀ j, j < i → R j ≠ R i := fun h => hl ((isLeader_iff R i).2 h)
    simp only [ne_eq, not_forall, not_not, exists_prop] at hl'
    obtain ⟨j, hj, hjr⟩ := hl'
    obtain ⟨h, a, b, _⟩ := exists_leader R i j hj
    have ex : ∃ h ∈ leaders R i, R h = R i := ⟨h, a, by rw [b, hjr]⟩
    rw [if_pos ex, if_neg hl, List.append_nil]

theorem classes_heads (R : Nat → Nat) (n i : Nat) (hi : i ≤ n) :
    ∀ s ∈ classes R i, ∃ h t, s = h :: t ∧ h < n := by
  intro s hs
  obtain ⟨h, hh, rfl⟩ := List.mem_map.1 hs
  obtain ⟨h0, t, a, _, c⟩ := cls_head R i h ((mem_leaders R i h).1 hh).1
  exact ⟨h0, t, a, by omega⟩

theorem setsLoop_exec {n : Nat} {R : Nat → Nat} :
    ∀ (k i : Nat) (ds : DS), Good n R ds → i + k ≤ n →
      ∃ d', setsLoop k i ds (classes R i) = .ok (d', classes R (i+k)) ∧ Good n R d' := by
  intro k
  induction k with
  | zero => intro i ds h _; exact ⟨ds, rfl, h⟩
  | succ k ih =>
    intro i ds h hi
    have hin : i < n := lt_of_lt_of_le (Nat.lt_add_of_pos_right (Nat.succ_pos k)) hi
    obtain ⟨d1, f1, g1⟩ := setsInner_exec (R := R) i hin (classes R i) ds h (classes_heads R n i hin.le)
    unfold setsLoop
    rw [f1]
    have st := classes_step R i
    obtain ⟨d2, f2, g2⟩ := ih (i+1) d1 g1 (le_of_eq_of_le (Nat.succ_add_eq_add_succ i k) hi)
    rw [← Nat.succ_add_eq_add_succ i k]
    cases hc : setsInnerP R i (classes R i) with
    | some s' => rw [hc] at st; simp only at st ⊢; rw [st]; exact ⟨d2, f2, g2⟩
    | none => rw [hc] at st; simp only at st ⊢; rw [st]; exact ⟨d2, f2, g2⟩

theorem classes_sorted (R : Nat → Nat) (m : Nat) :
    ∀ s ∈ classes R m, s ≠ [] ∧ s.Pairwise (· < ·) ∧ ∀ a ∈ s, a < m := by
  intro s hs
  obtain ⟨h, hh, rfl⟩ := List.mem_map.1 hs
  obtain ⟨h0, t, a, _, _⟩ := cls_head R m h ((mem_leaders R m h).1 hh).1
  refine ⟨by rw [a]; exact List.cons_ne_nil _ _, List.pairwise_lt_range.filter _, ?_⟩
  intro k hk; exact ((mem_cls R m h k).1 hk).1

theorem cls_head_leader (R : Nat → Nat) (m h : Nat) (hh : h ∈ leaders R m) :
    (cls R m h).head? = some h := by
  obtain ⟨a, b⟩ := (mem_leaders R m h).1 hh
  rw [cls, List.head?_filter, List.find?_range_eq_some]
  refine ⟨by simp, List.mem_range.2 a, ?_⟩
  intro j hj; simpa using b j hj

theorem classes_heads_lt (R : Nat → Nat) (m : Nat) :
    (classes R m).Pairwise (fun s t => ∀ a b, s.head? = some a → t.head? = some b → a < b) := by
  unfold classes
  rw [List.pairwise_map]
  have h1 : (leaders R m).Pairwise (· < ·) := List.pairwise_lt_range.filter _
  refine h1.imp_of_mem ?_
  intro h1 h2 m1 m2 hlt a b ha hb
  rw [cls_head_leader R m h1 m1] at ha
  rw [cls_head_leader R m h2 m2] at hb
  cases ha; cases hb; exact hlt

theorem classes_same (R : Nat → Nat) (m a b : Nat) (ha : a < m) (hb : b < m) :
    (∃ s ∈ classes R m, a ∈ s ∧ b ∈ s) ↔ R a = R b := by
  constructor
  · rintro ⟨s, hs, h1, h2⟩
    obtain ⟨h, _, rfl⟩ := List.mem_map.1 hs
    rw [((mem_cls R m h a).1 h1).2, ((mem_cls R m h b).1 h2).2]
  · intro e
    obtain ⟨h, hh, hr, _⟩ := exists_leader R m a ha
    exact ⟨cls R m h, List.mem_map.2 ⟨h, hh, rfl⟩, (mem_cls R m h a).2 ⟨ha, hr.symm⟩,
      (mem_cls R m h b).2 ⟨hb, by rw [← e, hr]⟩⟩

theorem classes_disjoint (R : Nat → Nat) (m : Nat) : (classes R m).Pairwise List.Disjoint := by
  unfold classes
  rw [List.pairwise_map]
  refine (leaders_pairwise R m).imp ?_
  intro h1 h2 hne k k1 k2
  exact hne (by rw [← ((mem_cls R m h1 k).1 k1).2, ((mem_cls R m h2 k).1 k2).2])

theorem mem_roots (ds : DS) (r : Nat) : r ∈ roots ds ↔ r < ds.size ∧ ds.getD r 0 < 0 := by
  simp [roots]

theorem roots_perm {ds : DS} (h : Inv ds) :
    (roots ds).Perm ((leaders (rep ds) ds.size).map (rep ds)) := by
  rw [List.perm_ext_iff_of_nodup]
  · intro r
    rw [mem_roots, List.mem_map]
    constructor
    · rintro ⟨a, b⟩
      obtain ⟨l, hl, e, _⟩ := exists_leader (rep ds) ds.size r a
      exact ⟨l, hl, by rw [e, rep_of_root ds r b]⟩
    · rintro ⟨l, hl, rfl⟩
      have hlt := ((mem_leaders _ _ _).1 hl).1
      exact ⟨rep_lt h l hlt, rep_isRoot h l hlt⟩
  · exact (List.pairwise_lt_range.filter _).imp (fun hab => Nat.ne_of_lt hab)
  · rw [List.Nodup, List.pairwise_map]
    exact leaders_pairwise (rep ds) ds.size

end Disjoint
