import Mamba.Lemmas.IREquiv
import Mathlib.Data.List.Lex
import Mathlib.Order.Lattice

/-!
# Invariance of the canonical certificate / canonical graph; automorphisms give equal-certificate leaves

A relabelling maps the leaves below related states onto each other up to the order of the list (`allLeaves_rel`, from
`leaves_rel` and `refine_rel` of `IREquiv.lean`) and keeps certificates (`cert_rel`), so the maximal leaf certificate and the
graph decoded from it do not depend on the labelling (`maxCert_perm`, `canonGraph_invariant`); for a relabelling of `g` onto
itself this sends a leaf to a leaf with the same certificate (`leaf_of_aut`). None of this needs the states to be tight,
which is why the file stands below `IRPerm.lean` in the import order.
-/
namespace IR

theorem mx_eq_max (b x : List Nat) : (if b < x then x else b) = max b x := by
  rcases lt_trichotomy b x with h | h | h
  · rw [if_pos h, max_eq_right (le_of_lt h)]
  · subst h; simp
  · rw [if_neg (lt_asymm h), max_eq_left (le_of_lt h)]

theorem foldl_max_spec {α : Type} [LinearOrder α] : ∀ (xs : List α) (x : α),
    xs.foldl max x ∈ x :: xs ∧ ∀ y ∈ x :: xs, y ≤ xs.foldl max x := by
  intro xs
  induction xs with
  | nil => intro x; simp
  | cons a t ih =>
    intro x
    simp only [List.foldl_cons]
    obtain ⟨h1, h2⟩ := ih (max x a)
    constructor
    · rcases List.mem_cons.1 h1 with h | h
      · rw [h]
        rcases le_total x a with hxa | hax
        · rw [max_eq_right hxa]; exact List.mem_cons_of_mem _ (List.mem_cons_self ..)
        · rw [max_eq_left hax]; exact List.mem_cons_self ..
      · exact List.mem_cons_of_mem _ (List.mem_cons_of_mem _ h)
    · intro y hy
      rcases List.mem_cons.1 hy with rfl | hy
      · exact le_trans (le_max_left _ _) (h2 _ (List.mem_cons_self ..))
      · rcases List.mem_cons.1 hy with rfl | hy
        · exact le_trans (le_max_right _ _) (h2 _ (List.mem_cons_self ..))
        · exact h2 _ (List.mem_cons_of_mem _ hy)

theorem maxCert_eq (l : List (List Nat)) : maxCert l = l.foldl max [] := by
  unfold maxCert
  congr 1
  funext b x; exact mx_eq_max b x

theorem maxCert_perm {l l' : List (List Nat)} (p : l.Perm l') : maxCert l = maxCert l' := by
  rw [maxCert_eq, maxCert_eq]
  exact p.foldl_eq (l₁ := l) (l₂ := l') (f := fun b x => max b x) []

theorem initSt_rel {g g' : G} {σ τ : Nat → Nat} (R : Relabel g g' σ τ) (k : Nat) {cls cls' : Nat → Nat}
    (hcls : ∀ v, v < g.n → cls' (σ v) = cls v) : SRel g σ (initSt g k cls) (initSt g' k cls') := by
  refine ⟨?_, rfl, rfl⟩
  intro v hv
  show col (tab g'.n cls') (σ v) = col (tab g.n cls) v
  rw [col_tab _ hv, col_tab _ (by rw [R.n_eq]; exact R.σ_lt v hv), hcls v hv]

theorem init_rel {g g' : G} {σ τ : Nat → Nat} (R : Relabel g g' σ τ) : SRel g σ (init g) (init g') :=
  initSt_rel R 1 (fun _ _ => rfl)

theorem rfuel_eq {g g' : G} {σ τ : Nat → Nat} (R : Relabel g g' σ τ) : rfuel g' = rfuel g := by
  unfold rfuel; rw [R.n_eq]

theorem allLeaves_rel {g g' : G} {σ τ : Nat → Nat} (R : Relabel g g' σ τ) {s s' : St} (h : SRel g σ s s') :
    ∃ l, (allLeaves g' s').Perm l ∧ List.Forall₂ (fun c c' => CRel g σ c c') (allLeaves g s) l := by
  unfold allLeaves
  rw [rfuel_eq R, R.n_eq]
  exact leaves_rel R _ _ (refine_rel R _ h)

theorem allLeafCerts_perm {g g' : G} {σ τ : Nat → Nat} (R : Relabel g g' σ τ) {s s' : St} (h : SRel g σ s s') :
    ((allLeaves g' s').map (cert g')).Perm ((allLeaves g s).map (cert g)) := by
  obtain ⟨l, hp, hf⟩ := allLeaves_rel R h
  exact (hp.map _).trans (List.Perm.of_eq (map_cert_of_forall2 R hf))

theorem canonCertFrom_invariant {g g' : G} {σ τ : Nat → Nat} (R : Relabel g g' σ τ) {s s' : St} (h : SRel g σ s s') :
    canonCertFrom g' s' = canonCertFrom g s := by
  unfold canonCertFrom
  exact maxCert_perm (allLeafCerts_perm R h)

theorem canonGraphFrom_invariant {g g' : G} {σ τ : Nat → Nat} (R : Relabel g g' σ τ) {s s' : St} (h : SRel g σ s s') :
    canonGraphFrom g' s' = canonGraphFrom g s := by
  unfold canonGraphFrom
  rw [canonCertFrom_invariant R h, R.n_eq]

theorem canonGraph_invariant {g g' : G} {σ τ : Nat → Nat} (R : Relabel g g' σ τ) : canonGraph g' = canonGraph g :=
  canonGraphFrom_invariant R (init_rel R)

theorem forall2_mem {α β : Type} {R : α → β → Prop} {l : List α} {l' : List β} (hf : List.Forall₂ R l l')
    {a : α} (ha : a ∈ l) : ∃ b, b ∈ l' ∧ R a b := by
  induction hf with
  | nil => cases ha
  | cons hab _ ih =>
    rcases List.mem_cons.1 ha with e | e
    · subst e; exact ⟨_, List.mem_cons_self .., hab⟩
    · obtain ⟨b, hb, hr⟩ := ih e; exact ⟨b, List.mem_cons_of_mem _ hb, hr⟩

theorem leaf_of_aut {g : G} {γ τ : Nat → Nat} (R : Relabel g g γ τ) {s : St} (h : SRel g γ s s)
    {l0 : Array Nat} (h0 : l0 ∈ allLeaves g s) :
    ∃ l, l ∈ allLeaves g s ∧ cert g l = cert g l0 ∧ ∀ v, v < g.n → col l (γ v) = col l0 v := by
  obtain ⟨ls, hp, hf⟩ := allLeaves_rel R h
  obtain ⟨l, hl, hrel⟩ : ∃ l, l ∈ ls ∧ CRel g γ l0 l := forall2_mem hf h0
  exact ⟨l, hp.mem_iff.2 hl, cert_rel R hrel, hrel⟩

theorem Relabel.of_mem {g g' : G} {σ τ : Nat → Nat} (n_eq : g'.n = g.n)
    (left : ∀ v, v < g.n → τ (σ v) = v) (right : ∀ v, v < g.n → σ (τ v) = v)
    (σ_lt : ∀ v, v < g.n → σ v < g.n) (τ_lt : ∀ v, v < g.n → τ v < g.n)
    (nbrs_lt : ∀ v, v < g.n → ∀ w ∈ g.nbrs v, w < g.n)
    (nodup : ∀ v, v < g.n → (g.nbrs v).Nodup) (nodup' : ∀ v, v < g.n → (g'.nbrs (σ v)).Nodup)
    (hmem : ∀ v, v < g.n → ∀ a, a ∈ g'.nbrs (σ v) ↔ ∃ w, w ∈ g.nbrs v ∧ σ w = a) : Relabel g g' σ τ where
  n_eq := n_eq
  left := left
  right := right
  σ_lt := σ_lt
  τ_lt := τ_lt
  nbrs_lt := nbrs_lt
  nbrs := by
    intro v hv
    refine (List.perm_ext_iff_of_nodup (nodup' v hv) ?_).2 fun a => by rw [hmem v hv, List.mem_map]
    apply List.Nodup.map_on _ (nodup v hv)
    intro a ha b hb e
    have := congrArg τ e
    rwa [left a (nbrs_lt v hv a ha), left b (nbrs_lt v hv b hb)] at this

theorem nbrs_relabel (g : G) (σ τ : Nat → Nat) {u : Nat} (hu : u < g.n) :
    (relabel g σ τ).nbrs u = (g.nbrs (τ u)).map σ := by
  simp [G.nbrs, relabel, hu]

theorem relabel_Relabel (g : G) (σ τ : Nat → Nat)
    (left : ∀ v, v < g.n → τ (σ v) = v) (right : ∀ v, v < g.n → σ (τ v) = v)
    (σ_lt : ∀ v, v < g.n → σ v < g.n) (τ_lt : ∀ v, v < g.n → τ v < g.n)
    (nbrs_lt : ∀ v, v < g.n → ∀ w ∈ g.nbrs v, w < g.n) : Relabel g (relabel g σ τ) σ τ where
  n_eq := rfl
  left := left
  right := right
  σ_lt := σ_lt
  τ_lt := τ_lt
  nbrs_lt := nbrs_lt
  nbrs := by
    intro v hv
    rw [nbrs_relabel g σ τ (σ_lt v hv), left v hv]

end IR
