import Mamba.Lemmas.CanonFStep
import Mamba.Lemmas.CanonFTreeSplit
import Mamba.Lemmas.CanonFSortedSplit
/-!
# The target cell of a stack frame: everything that is known about it, in one place
-/
namespace CanonF

theorem cellMembers_sorted (g : IR.G) (c : Array Nat) (t : Nat) : (IR.cellMembers g c t).Pairwise (· < ·) := by
  unfold IR.cellMembers
  exact List.Pairwise.filter _ List.pairwise_lt_range

/-- The bin `[st, st + sz)` of `op` is the target cell of the node `s`, seen from a position `i` in it: `lt`, `nonSingleton`,
`firstBin`, `bin` are what `splitBin` and `pickCell` ask of `i`; `divider`: the bin ends at `st + sz`; `target`, `cellLen`:
the cell `st` is the target of `s` and has `sz` members; `order`: when the bins are ascending, `order` lists them. -/
structure FrameCell (n : Nat) (nb : Nbrs) (op : OP) (s : IR.St) (st sz i : Nat) : Prop where
  lt : i < n
  nonSingleton : NonSingleton op.binDividers.toList i
  firstBin : FirstBin op.binDividers.toList i
  bin : binIdx op.binDividers.toList i = st
  divider : op.binDividers.toList[st]? = some (st + sz)
  target : IR.target (irG n nb) s = some st
  cellLen : (IR.cellMembers (irG n nb) s.c st).length = sz
  order : BinsSorted op → ∀ k, k < sz → op.order.toList[st + k]? = (IR.cellMembers (irG n nb) s.c st)[k]?

theorem frame_facts {n : Nat} {nb : Nbrs} {op : OP} {s : IR.St} (hp : PartInv n op) (ha : AgeInv op) (hm : Match n op s)
    {st sz i : Nat} (hb : IsBinAt (op.age + 1) op st sz) (hsz : 2 ≤ sz) (h1 : st ≤ i) (h2 : i < st + sz) :
    FrameCell n nb op s st sz i := by
  have hs : op.binDividers.toList.Pairwise (· < ·) := (List.pairwise_cons.1 hp.sorted).2
  have hb' := top_isBin hp ha rfl hb
  have hfb0 := top_firstBin hp ha rfl hb
  obtain ⟨hns, hi⟩ := nonSingleton_of_isBin hp hb' hsz i h1 h2
  have hbl := binIdx_lt _ n i hp.last hi
  have hdi := binIdx_lt_div _ hs i hbl
  have hst := binStartOf_get_cons _ i hbl
  have hdv : op.binDividers.toList[binIdx op.binDividers.toList i]? =
      some (op.binDividers.toList[binIdx op.binDividers.toList i]) := List.getElem?_eq_getElem hbl
  have hle := binStartOf_le_start hp hb'.2.2 hi h2
  have hsti : st < op.binDividers.toList[binIdx op.binDividers.toList i] := Nat.lt_of_le_of_lt h1 hdi
  have hge : st ≤ binStartOf op.binDividers.toList i := by
    rcases hb'.1 with h0 | hmem
    · rw [h0]; exact Nat.zero_le _
    · exact (no_div_inside _ hs hst hdv hmem).resolve_right (Nat.not_le.2 hsti)
  have hstart : binStartOf op.binDividers.toList i = st := Nat.le_antisymm hle hge
  have hfb : FirstBin op.binDividers.toList i := by
    intro t ht; rw [hstart] at ht; exact hfb0 t ht
  have hsing := firstBin_single hp hi hfb
  -- the bins in front are singletons, so the bin index is the start
  have hbi : binIdx op.binDividers.toList i = st := by
    rw [← hstart]
    rcases Nat.eq_zero_or_pos (binIdx op.binDividers.toList i) with h0 | hpos
    · rw [h0] at hst ⊢; exact Option.some.inj hst
    · obtain ⟨t', ht'⟩ := Nat.exists_eq_succ_of_ne_zero (Nat.ne_of_gt hpos)
      have e := hsing t' (ht' ▸ Nat.lt_succ_self t')
      rw [ht', List.getElem?_cons_succ, e] at hst
      rw [ht']; exact Option.some.inj hst
  have hd : op.binDividers.toList[st]? = some (st + sz) := by
    have a := (no_div_inside _ hs hst hdv hb'.2.1).resolve_left fun h =>
      Nat.not_le.2 (Nat.lt_add_of_pos_right (Nat.lt_of_lt_of_le Nat.zero_lt_two hsz)) (hstart ▸ h)
    have e : op.binDividers.toList[binIdx op.binDividers.toList i] = st + sz :=
      Nat.le_antisymm a (Nat.le_of_not_lt fun h => hb'.2.2 _ (List.getElem_mem hbl) ⟨hsti, h⟩)
    rw [← hbi, hdv, e, hbi]
  have hbs : (0 :: op.binDividers.toList)[st]? = some st := by
    have := hst; rw [hbi, hstart] at this; exact this
  have htar : IR.target (irG n nb) s = some st := by
    rw [← hbi]; exact target_match hp hm hi hns hfb
  have hlen : (IR.cellMembers (irG n nb) s.c st).length = sz := by
    rw [hm.col, cellMembers_length hp hbs hd, Nat.add_sub_cancel_left]
  refine ⟨hi, hns, hfb, hbi, hd, htar, hlen, ?_⟩
  intro hsorted k hk
  have heq : IR.cellMembers (irG n nb) (colOf n op) st =
      (op.order.toList.drop st).take (st + sz - st) :=
    List.Perm.eq_of_pairwise (le := fun a b => a < b) (fun a b _ _ x y => absurd x (Nat.lt_asymm y))
      (cellMembers_sorted _ _ _) (binsSorted_segment hp hsorted hbs hd) (cellMembers_perm (nb := nb) hp hbs hd)
  rw [hm.col, heq, List.getElem?_take, if_pos (by rw [Nat.add_sub_cancel_left]; exact hk), List.getElem?_drop]

end CanonF
