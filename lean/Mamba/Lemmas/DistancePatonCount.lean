import Mamba.Lemmas.DistancePatonSound
import Mamba.Lemmas.DistancePatonCode
import Mathlib.Data.List.Nodup
/-!
# Paton's phase: the counting invariant `PC`
-/
namespace GDist
open GraphSpec Model

variable {a : G}

/-- the removed edges are edges between tree vertices, none is removed twice (in either direction), and
`|removed| + #{x | T[x] = -1} + 1 = n + |fundCycles|` -/
structure PC (a : G) (st : PatonSt) : Prop where
  tsz : st.T.size = a.n
  rin : ∀ e ∈ st.removed, e.1 < a.n ∧ e.2 < a.n ∧ a.adj e.1 e.2 = true ∧ inTree st.T e.1 ∧ inTree st.T e.2
  rnd : st.removed.Pairwise fun e e' => normE e ≠ normE e'
  cnt : st.removed.length + st.T.count (-1) + 1 = a.n + st.fund.length

theorem edgeRemoved_false {rm : List (Nat × Nat)} {u v : Nat} (h : edgeRemoved rm u v = false) :
    ∀ e ∈ rm, normE (u, v) ≠ normE e := by
  intro e he hne
  obtain ⟨h1, h2⟩ := edgeRemoved_eq_false h
  obtain ⟨e1, e2⟩ := e
  unfold normE at hne
  simp only at hne
  by_cases c1 : u < v <;> by_cases c2 : e1 < e2 <;> simp only [c1, c2, if_true, if_false, Prod.mk.injEq] at hne
  · exact h1 (by rw [hne.1, hne.2]; exact he)
  · exact h2 (by rw [hne.1, hne.2]; exact he)
  · exact h2 (by rw [hne.1, hne.2]; exact he)
  · exact h1 (by rw [hne.1, hne.2]; exact he)

theorem PC.code_inj {st : PatonSt} (pc : PC a st) (hirr : ∀ v, a.adj v v = false) :
    ∀ e ∈ st.removed, ∀ e' ∈ st.removed, edgeCode e.1 e.2 = edgeCode e'.1 e'.2 → e = e' := by
  have hloop : ∀ e ∈ st.removed, e.1 ≠ e.2 := by
    intro e he h0
    obtain ⟨_, _, h3, _, _⟩ := pc.rin e he
    rw [h0, hirr] at h3; cases h3
  intro e he e' he' hc
  have hnd : (st.removed.map normE).Nodup := by
    rw [List.Nodup, List.pairwise_map]; exact pc.rnd
  exact List.inj_on_of_nodup_map hnd he he' (edgeCode_inj (hloop e he) (hloop e' he') hc)

section step
variable {st : PatonSt} {v u : Nat}

theorem pc_removed (hsym : ∀ u v, a.adj u v = a.adj v u) (pc : PC a st) (hun : u < a.n) (hvn : v < a.n)
    (hadj : a.adj v u = true) (hnr : edgeRemoved st.removed u v = false) {T' : Array Int}
    (hT : ∀ x, inTree st.T x → inTree T' x) (hut : inTree T' u) (hvt : inTree T' v) :
    (∀ e ∈ (u, v) :: st.removed, e.1 < a.n ∧ e.2 < a.n ∧ a.adj e.1 e.2 = true ∧ inTree T' e.1 ∧ inTree T' e.2) ∧
      ((u, v) :: st.removed).Pairwise fun e e' => normE e ≠ normE e' := by
  refine ⟨fun e he => ?_, List.pairwise_cons.2 ⟨edgeRemoved_false hnr, pc.rnd⟩⟩
  rcases List.mem_cons.1 he with rfl | he
  · exact ⟨hun, hvn, by rw [hsym]; exact hadj, hut, hvt⟩
  · obtain ⟨h1, h2, h3, h4, h5⟩ := pc.rin e he
    exact ⟨h1, h2, h3, hT _ h4, hT _ h5⟩

theorem pc_closeCycle (hsym : ∀ u v, a.adj u v = a.adj v u) (pc : PC a st) (hun : u < a.n) (hvn : v < a.n)
    (hadj : a.adj v u = true) (hnr : edgeRemoved st.removed u v = false) (hut : inTree st.T u)
    (hvt : inTree st.T v) : PC a (closeCycle st u v) := by
  obtain ⟨h1, h2⟩ := pc_removed hsym pc hun hvn hadj hnr (fun _ h => h) hut hvt
  refine ⟨pc.tsz, h1, h2, ?_⟩
  have := pc.cnt
  simp only [closeCycle, List.length_cons, List.length_append, List.length_nil]
  omega

theorem pc_addLeaf (hsym : ∀ u v, a.adj u v = a.adj v u) (pc : PC a st) (hun : u < a.n) (hvn : v < a.n)
    (hadj : a.adj v u = true) (hnr : edgeRemoved st.removed u v = false) (hut : ¬ inTree st.T u)
    (hvt : inTree st.T v) : PC a (addLeaf st u v) := by
  have huT : u < st.T.size := by rw [pc.tsz]; exact hun
  obtain ⟨h1, h2⟩ := pc_removed hsym pc hun hvn hadj hnr (fun _ h => inTree_addLeaf_of_inTree (v := v) hut h)
    (inTree_addLeaf_self huT) (inTree_addLeaf_of_inTree hut hvt)
  refine ⟨by rw [← pc.tsz]; exact Array.size_setIfInBounds, h1, h2, ?_⟩
  have := pc.cnt
  have := count_addLeaf (v := v) huT hut
  show ((u, v) :: st.removed).length + (addLeaf st u v).T.count (-1) + 1 = a.n + st.fund.length
  rw [List.length_cons]
  omega

end step

theorem pc_init (hn : 0 < a.n) : PC a (patonInit a.n) := by
  refine ⟨by simp [patonInit], (fun e he => nomatch he), List.Pairwise.nil, ?_⟩
  have := count_patonInit hn
  show 0 + (patonInit a.n).T.count (-1) + 1 = a.n + 0
  omega

end GDist
