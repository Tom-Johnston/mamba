import Mamba.Lemmas.DegGoUpdate
import Mamba.Lemmas.CliqueColourCert
/-! Correctness of the faithful model of `graph.Degeneracy`: one round, the loop, the certificate. -/
namespace CliqueColour
open GraphSpec

structure DInv (g : G) (B : Nat) (st : DegState) : Prop where
  minv : MInv g B st.order [] st.bins st.degrees
  onodup : st.order.Nodup
  olt : ∀ v ∈ st.order, v < g.n
  back : ∀ pre v post, st.order = pre ++ v :: post → degIn g (remOf g.n (v :: post)) v ≤ st.d
  low : st.d = 0 ∨ ∃ newer older, st.order = newer ++ older ∧ remOf g.n older ≠ [] ∧
    ∀ v ∈ remOf g.n older, st.d ≤ degIn g (remOf g.n older) v

theorem pend_nil (w : Nat) : pend [] w = 0 := by simp [pend]

theorem exists_live {n : Nat} {order : List Nat} (hl : order.length < n) :
    ∃ w, w < n ∧ w ∉ order := by
  by_contra hcon
  push Not at hcon
  have hsub : (List.range n).Subperm order :=
    List.subperm_of_subset List.nodup_range fun w hw => hcon w (List.mem_range.1 hw)
  have := hsub.length_le
  simp at this
  omega

theorem degStep_spec {g : G} (hw : g.WF) {B : Nat} {st : DegState} (hinv : DInv g B st)
    (hl : st.order.length < g.n) :
    ∃ st', degStep g st = .ok st' ∧ DInv g B st' ∧ st'.order.length = st.order.length + 1 := by
  have hm := hinv.minv
  have hlive : ∀ w, w < g.n → w ∉ st.order →
      st.degrees.getD w 0 = (curDeg g st.order w : Int) ∧ curDeg g st.order w < B ∧
        w ∈ st.bins.getD (curDeg g st.order w) [] := by
    intro w h1 h2
    have := hm.live w h1 h2
    simpa [pend_nil] using this
  have hbins : ∀ k, k < B → (st.bins.getD k []).Nodup ∧
      ∀ w ∈ st.bins.getD k [], w < g.n ∧ w ∉ st.order ∧ curDeg g st.order w = k := by
    intro k hk
    have := hm.binsok k hk
    simpa [pend_nil] using this
  obtain ⟨w0, hw0, hw0o⟩ := exists_live hl
  obtain ⟨_, hw0B, hw0m⟩ := hlive w0 hw0 hw0o
  have hex : ∃ b ∈ st.bins, (fun b : List Nat => !b.isEmpty) b = true := by
    refine ⟨st.bins.getD (curDeg g st.order w0) [], getD_mem_of_lt [] (by rw [hm.blen]; exact hw0B), ?_⟩
    cases h : st.bins.getD (curDeg g st.order w0) [] with
    | nil => rw [h] at hw0m; cases hw0m
    | cons a t => rfl
  have hjlt : st.bins.findIdx (fun b => !b.isEmpty) < st.bins.length := List.findIdx_lt_length.2 hex
  have hj : firstNonEmpty st.bins = st.bins.findIdx (fun b => !b.isEmpty) := by
    simp only [firstNonEmpty, hjlt, if_true]
  generalize hjdef : st.bins.findIdx (fun b => !b.isEmpty) = j at hj hjlt
  have hjB : j < B := by rw [← hm.blen]; exact hjlt
  have hjne : st.bins.getD j [] ≠ [] := by
    have := List.findIdx_getElem (w := by rw [hjdef]; exact hjlt) (p := fun b : List Nat => !b.isEmpty) (xs := st.bins)
    simp only [hjdef] at this
    intro he
    rw [List.getD_eq_getElem?_getD, List.getElem?_eq_getElem hjlt, Option.getD_some] at he
    rw [he] at this
    simp at this
  have hbefore : ∀ k, k < j → st.bins.getD k [] = [] := by
    intro k hk
    have hklt : k < st.bins.length := by omega
    have := List.not_of_lt_findIdx (p := fun b : List Nat => !b.isEmpty) (xs := st.bins) (i := k)
      (by rw [hjdef]; exact hk)
    rw [List.getD_eq_getElem?_getD, List.getElem?_eq_getElem hklt, Option.getD_some]
    simpa using this
  obtain ⟨v, hvlast⟩ : ∃ v, (st.bins.getD j []).getLast? = some v := by
    cases h : (st.bins.getD j []).getLast? with
    | none => exact absurd (List.getLast?_eq_none_iff.1 h) hjne
    | some v => exact ⟨v, rfl⟩
  have hsplit : st.bins.getD j [] = (st.bins.getD j []).dropLast ++ [v] := by
    have := List.dropLast_append_getLast? v hvlast
    exact this.symm
  obtain ⟨hjn, hjm⟩ := hbins j hjB
  have hvbin : v ∈ st.bins.getD j [] := by rw [hsplit]; simp
  obtain ⟨hvn, hvo, hvdeg⟩ := hjm v hvbin
  have hvdl : v ∉ (st.bins.getD j []).dropLast := by
    rw [hsplit] at hjn
    exact fun h => (List.nodup_append.1 hjn).2.2 v h v (by simp) rfl
  have hge : ∀ w, w < g.n → w ∉ st.order → j ≤ curDeg g st.order w := by
    intro w h1 h2
    by_contra hlt
    have := hbefore _ (by omega : curDeg g st.order w < j)
    have hmem := (hlive w h1 h2).2.2
    rw [this] at hmem; cases hmem
  have hcur : ∀ w, curDeg g st.order w = curDeg g (v :: st.order) w + (if g.adj w v then 1 else 0) :=
    curDeg_cons hvn hvo
  have hpendv : ∀ w, w < g.n → pend (g.nbrs v) w = (if g.adj w v then 1 else 0) := by
    intro w hwn
    simp only [pend, G.mem_nbrs, hwn, true_and]
    rw [hw.symm v w]
  have hvd : v < st.degrees.length := by rw [hm.dlen]; exact hvn
  have hstart : MInv g B (v :: st.order) (g.nbrs v) (st.bins.set j (st.bins.getD j []).dropLast)
      (st.degrees.set v (-1)) := by
    have hgetb : ∀ k, (st.bins.set j (st.bins.getD j []).dropLast).getD k [] =
        if k = j then (st.bins.getD j []).dropLast else st.bins.getD k [] := by
      intro k
      rw [getD_set]
      by_cases hk : k = j
      · subst hk; rw [if_pos ⟨rfl, hjlt⟩, if_pos rfl]
      · rw [if_neg (fun h => hk h.1.symm), if_neg hk]
    refine ⟨by simpa using hm.dlen, by simpa using hm.blen, fun w hwm => ?_, fun w hwn hwo => ?_, fun k hk => ?_⟩
    · rw [getD_set]
      rcases List.mem_cons.1 hwm with rfl | h
      · rw [if_pos ⟨rfl, hvd⟩]
      · have hne : w ≠ v := fun e => hvo (e ▸ h)
        rw [if_neg (fun e => hne e.1.symm)]
        exact hm.removed w h
    · have hne : w ≠ v := fun e => hwo (by simp [e])
      have hwo' : w ∉ st.order := fun h => hwo (List.mem_cons_of_mem _ h)
      obtain ⟨l1, l2, l3⟩ := hlive w hwn hwo'
      rw [hpendv w hwn, ← hcur w, getD_set, if_neg (fun e => hne e.1.symm)]
      refine ⟨l1, l2, ?_⟩
      rw [hgetb]
      by_cases hk : curDeg g st.order w = j
      · rw [if_pos hk]
        rw [hk, hsplit] at l3
        rcases List.mem_append.1 l3 with h | h
        · exact h
        · exact absurd (by simpa using h) hne
      · rw [if_neg hk]; exact l3
    · rw [hgetb]
      by_cases hkj : k = j
      · subst hkj
        rw [if_pos rfl]
        refine ⟨hjn.sublist (List.dropLast_sublist _), fun w hwm => ?_⟩
        have hwb : w ∈ st.bins.getD k [] := (List.dropLast_sublist _).subset hwm
        obtain ⟨m1, m2, m3⟩ := hjm w hwb
        have hne : w ≠ v := fun e => hvdl (e ▸ hwm)
        refine ⟨m1, fun h => ?_, ?_⟩
        · rcases List.mem_cons.1 h with e | h'
          · exact hne e
          · exact m2 h'
        · rw [hpendv w m1, ← hcur w]; exact m3
      · rw [if_neg hkj]
        obtain ⟨hn0, hm0⟩ := hbins k hk
        refine ⟨hn0, fun w hwm => ?_⟩
        obtain ⟨m1, m2, m3⟩ := hm0 w hwm
        have hne : w ≠ v := by
          intro e; subst e; rw [hvdeg] at m3; exact hkj m3.symm
        refine ⟨m1, fun h => ?_, ?_⟩
        · rcases List.mem_cons.1 h with e | h'
          · exact hne e
          · exact m2 h'
        · rw [hpendv w m1, ← hcur w]; exact m3
  obtain ⟨b', d', hrun, hend⟩ := degNbrs_spec (g.nbrs v) _ _ hstart
    (List.nodup_range.sublist List.filter_sublist) (fun u hu => (G.mem_nbrs.1 hu).1)
  refine ⟨{ bins := b', degrees := d', d := if j > st.d then j else st.d, order := v :: st.order }, ?_, ?_, by simp⟩
  · simp only [degStep, hj, getElem?_eq_some_getD hjlt [], hvlast, hvd, if_true, hrun]
  · have hvself : degIn g (remOf g.n (v :: st.order)) v = j := by
      have := hcur v
      rw [hw.irrefl, hvdeg] at this
      simpa [curDeg] using this.symm
    refine ⟨hend, List.nodup_cons.2 ⟨hvo, hinv.onodup⟩, fun w hwm => ?_, fun pre x post hsp => ?_, ?_⟩
    · rcases List.mem_cons.1 hwm with rfl | h
      · exact hvn
      · exact hinv.olt w h
    · show degIn g (remOf g.n (x :: post)) x ≤ (if j > st.d then j else st.d)
      cases pre with
      | nil =>
        simp only [List.nil_append, List.cons.injEq] at hsp
        rw [← hsp.1, ← hsp.2, hvself]
        split <;> omega
      | cons a pre' =>
        simp only [List.cons_append, List.cons.injEq] at hsp
        have := hinv.back pre' x post hsp.2
        split <;> omega
    · show (if j > st.d then j else st.d) = 0 ∨ _
      by_cases hjd : j > st.d
      · right
        rw [if_pos hjd]
        refine ⟨[v], st.order, rfl, ?_, fun w hwm => ?_⟩
        · intro he
          have : v ∈ remOf g.n st.order := mem_remOf.2 ⟨hvn, hvo⟩
          rw [he] at this; cases this
        · obtain ⟨h1, h2⟩ := mem_remOf.1 hwm
          exact hge w h1 h2
      · rw [if_neg hjd]
        rcases hinv.low with h0 | ⟨newer, older, he, hne, hall⟩
        · exact Or.inl h0
        · exact Or.inr ⟨v :: newer, older, by rw [he]; rfl, hne, hall⟩

theorem degLoop_spec {g : G} (hw : g.WF) {B : Nat} : ∀ (k : Nat) (st : DegState), DInv g B st →
    st.order.length + k = g.n → ∃ st', degLoop g k st = .ok st' ∧ DInv g B st' ∧ st'.order.length = g.n := by
  intro k
  induction k with
  | zero => intro st h hl; exact ⟨st, rfl, h, by omega⟩
  | succ k ih =>
    intro st h hl
    obtain ⟨st1, he1, h1, hl1⟩ := degStep_spec hw h (by omega)
    obtain ⟨st2, he2, h2, hl2⟩ := ih st1 h1 (by omega)
    exact ⟨st2, by simp only [degLoop, he1, he2], h2, hl2⟩

theorem degInit_inv (g : G) : DInv g (maxList g.degrees + 1) (degInit g) := by
  have hcur : ∀ w, curDeg g [] w = g.deg w := by
    intro w
    simp [curDeg, remOf, degIn, G.deg, G.nbrs]
  have hdegB : ∀ w, w < g.n → g.deg w < maxList g.degrees + 1 := by
    intro w hw
    have : g.deg w ≤ maxList g.degrees := le_maxList (List.mem_map.2 ⟨w, List.mem_range.2 hw, rfl⟩)
    omega
  refine ⟨⟨by simp [degInit, G.degrees], by simp [degInit], by simp [degInit], fun w hwn _ => ?_, fun k hk => ?_⟩,
    by simp [degInit], by simp [degInit], fun pre v post h => by simp [degInit] at h, Or.inl rfl⟩
  · rw [pend_nil, Nat.add_zero]
    show (degInit g).degrees.getD w 0 = _ ∧ _ ∧ w ∈ (degInit g).bins.getD _ []
    simp only [degInit, hcur]
    refine ⟨?_, hdegB w hwn, ?_⟩
    · simp [G.degrees, List.getD_eq_getElem?_getD, List.getElem?_map, List.getElem?_range hwn]
    · rw [getD_map_range _ (hdegB w hwn)]
      exact List.mem_filter.2 ⟨List.mem_range.2 hwn, by simp⟩
  · show ((degInit g).bins.getD k []).Nodup ∧ _
    simp only [degInit]
    rw [getD_map_range _ hk]
    refine ⟨List.nodup_range.sublist List.filter_sublist, fun w hwm => ?_⟩
    have := List.mem_filter.1 hwm
    refine ⟨List.mem_range.1 this.1, by simp, ?_⟩
    rw [pend_nil, Nat.add_zero]
    show curDeg g [] w = k
    rw [hcur]; simpa using this.2

theorem backOK_iff (g : G) (d : Nat) : ∀ (rev : List Nat),
    backOK g d rev = true ↔ ∀ A v Bs, rev = A ++ v :: Bs → degIn g Bs v ≤ d := by
  intro rev
  induction rev with
  | nil => simp [backOK]
  | cons x t ih =>
    simp only [backOK, Bool.and_eq_true, decide_eq_true_eq, ih]
    constructor
    · rintro ⟨h1, h2⟩ A v Bs he
      cases A with
      | nil =>
        simp only [List.nil_append, List.cons.injEq] at he
        rw [← he.1, ← he.2]; exact h1
      | cons a A' =>
        simp only [List.cons_append, List.cons.injEq] at he
        exact h2 A' v Bs he.2
    · intro h
      exact ⟨h [] x t rfl, fun A v Bs he => h (x :: A) v Bs (by rw [he]; rfl)⟩

theorem degeneracyGo_spec {g : G} (hw : g.WF) :
    ∃ d order, degeneracyGo g = .ok (d, order) ∧ degeneracyCert g d order = true := by
  by_cases hn : g.n = 0
  · refine ⟨0, [], by simp [degeneracyGo, hn], ?_⟩
    simp [degeneracyCert, hn, nodupB, backOK]
  · obtain ⟨st, he, hinv, hlen⟩ := degLoop_spec hw g.n (degInit g) (degInit_inv g) (by simp [degInit])
    refine ⟨st.d, st.order, ?_, ?_⟩
    · have : (g.n == 0) = false := by simpa using hn
      simp only [degeneracyGo, this, Bool.false_eq_true, if_false, he]
    · have hperm := perm_range_of_nodup hlen hinv.onodup hinv.olt
      have hremperm : ∀ pre v post, st.order = pre ++ v :: post → (remOf g.n (v :: post)).Perm pre := by
        intro pre v post hsp
        have hnd := hinv.onodup
        rw [hsp] at hnd
        have hnd' := List.nodup_append.1 hnd
        refine (List.perm_ext_iff_of_nodup (nodup_remOf _ _) hnd'.1).2 fun w => ?_
        rw [mem_remOf]
        constructor
        · rintro ⟨hwn, hwnot⟩
          have : w ∈ st.order := hperm.symm.subset (List.mem_range.2 hwn)
          rw [hsp] at this
          rcases List.mem_append.1 this with h | h
          · exact h
          · exact absurd h hwnot
        · intro hwp
          exact ⟨hinv.olt w (by rw [hsp]; exact List.mem_append_left _ hwp),
            fun h => hnd'.2.2 w hwp w h rfl⟩
      simp only [degeneracyCert, Bool.and_eq_true, beq_iff_eq, nodupB_iff, List.all_eq_true, decide_eq_true_eq,
        Bool.or_eq_true, List.any_eq_true, List.mem_range]
      refine ⟨⟨⟨⟨hlen, hinv.onodup⟩, hinv.olt⟩, ?_⟩, Or.inr ?_⟩
      · rw [backOK_iff]
        intro A v Bs he'
        have hsp : st.order = Bs.reverse ++ v :: A.reverse := by
          have := congrArg List.reverse he'
          simpa using this
        have h1 := hinv.back _ _ _ hsp
        rw [degIn_perm (hremperm _ _ _ hsp), degIn_perm (List.reverse_perm Bs)] at h1
        exact h1
      · rcases hinv.low with h0 | ⟨newer, older, hsp, hne, hall⟩
        · refine ⟨0, Nat.pos_of_ne_zero hn, fun v _ => ?_⟩
          rw [h0]; exact Nat.zero_le _
        · -- `remOf older` is the prefix `newer` of the final order
          have hpre : (remOf g.n older).Perm newer := by
            cases older with
            | nil =>
              have : newer = st.order := by simpa using hsp.symm
              rw [this]
              refine (List.perm_ext_iff_of_nodup (nodup_remOf _ _) hinv.onodup).2 fun w => ?_
              rw [mem_remOf]
              exact ⟨fun h => hperm.symm.subset (List.mem_range.2 h.1), fun h => ⟨hinv.olt w h, by simp⟩⟩
            | cons o os => exact hremperm newer o os hsp
          have hnn : newer ≠ [] := by
            intro he'
            rw [he'] at hpre
            exact hne hpre.eq_nil
          have hnl : newer.length ≤ g.n := by
            rw [← hlen, hsp]; simp
          have hpos : 0 < newer.length := List.length_pos_iff.2 hnn
          refine ⟨newer.length - 1, by omega, fun v hv => ?_⟩
          have htake : st.order.take (newer.length - 1 + 1) = newer := by
            rw [show newer.length - 1 + 1 = newer.length by omega, hsp, List.take_left]
          rw [htake] at hv ⊢
          rw [← degIn_perm hpre]
          exact hall v (hpre.symm.subset hv)

end CliqueColour
