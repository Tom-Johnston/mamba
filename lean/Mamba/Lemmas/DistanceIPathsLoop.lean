import Mamba.Lemmas.DistancePaths
import Mamba.Model.Subgraph
import Mamba.Lemmas.DistanceModel
import Mamba.Lemmas.DistanceAccum
import Mathlib.Algebra.BigOperators.Group.List.Basic
/-!
# Lemmas for C10: the stack DFS of `NumberOfInducedPaths` accumulates the numbers of induced extensions
-/
namespace GDist
open GraphSpec Model

theorem mem_sMinus {a b : List Nat} {x : Nat} : x ∈ sMinus a b ↔ (x ∈ a ∧ x ∉ b) := by
  simp [sMinus, List.mem_filter]

theorem mem_sAdd {a : List Nat} {v x : Nat} : x ∈ sAdd a v ↔ (x ∈ a ∨ x = v) := by
  induction a with
  | nil => simp only [sAdd, List.mem_singleton, List.not_mem_nil, false_or]
  | cons y ys ih =>
    rw [sAdd]
    split_ifs with h1 h2
    · rw [List.mem_cons]; exact or_comm
    · subst h2
      exact ⟨Or.inl, fun h => h.elim id fun e => e ▸ List.mem_cons_self⟩
    · rw [List.mem_cons, ih, List.mem_cons, or_assoc]

theorem mem_sUnion {a b : List Nat} {x : Nat} : x ∈ sUnion a b ↔ (x ∈ a ∨ x ∈ b) := by
  induction a, b using sUnion.induct with
  | case1 b => simp only [sUnion, List.not_mem_nil, false_or]
  | case2 a h => rw [sUnion]; simp only [List.not_mem_nil, or_false]; exact h
  | case3 x' a y b hlt ih =>
    rw [sUnion, if_pos hlt]
    simp only [List.mem_cons, ih, or_assoc]
  | case4 x' a y b hlt hgt ih =>
    rw [sUnion, if_neg hlt, if_pos hgt]
    simp only [List.mem_cons, ih]
    exact or_left_comm
  | case5 x' a y b hlt hgt ih =>
    obtain rfl : x' = y := by omega
    rw [sUnion, if_neg hlt, if_neg hlt]
    simp only [List.mem_cons, ih]
    exact or_or_distrib_left

/-- all paths obtained from `q` by `k` extensions -/
def ext (g : G) (good : List Nat → Nat → Bool) : Nat → List Nat → List (List Nat)
  | 0, q => [q]
  | k+1, q => (ext g good k q).flatMap (extend g good)

theorem ext_succ (g : G) (good : List Nat → Nat → Bool) (k : Nat) (q : List Nat) :
    ext g good (k+1) q = (extend g good q).flatMap (ext g good k) := by
  induction k generalizing q with
  | zero => simp [ext]
  | succ k ih =>
    rw [ext, ih, List.flatMap_assoc]
    rfl

theorem pathsFrom_eq_ext (g : G) (good : List Nat → Nat → Bool) {s : Nat} (hs : s < g.n) (k : Nat) :
    pathsFrom g good s k = ext g good k [s] := by
  induction k with
  | zero => simp [pathsFrom, ext, hs]
  | succ k ih => simp [pathsFrom, ext, ih]

theorem sum_map_flatMap {α β : Type} (l : List α) (F : α → List β) (W : β → Nat) :
    ((l.flatMap F).map W).sum = (l.map fun a => ((F a).map W).sum).sum := by
  induction l with
  | nil => rfl
  | cons a t ih => simp [List.flatMap_cons, ih]

theorem ext_of_extend_nil {g : G} {good : List Nat → Nat → Bool} {q : List Nat} (h : extend g good q = []) :
    ∀ k, ext g good (k+1) q = [] := by
  intro k; rw [ext_succ, h]; rfl

/-- The contribution of the subtree of the DFS below the partial path `q` to entry `l` of the result: the total
weight `W` of the paths `l - o - |q|` extensions below `q`, counted for `l = |q| + o` and, within the effective bound
`M`, beyond. (`NumberOfInducedPaths`: `o = 0` and `W` = number of extensions; `NumberOfInducedCycles`: `o = 1` and
`W` = number of closing vertices.) -/
def contribW (g : G) (good : List Nat → Nat → Bool) (W : List Nat → Nat) (o M : Nat) (q : List Nat) (l : Nat) :
    Nat :=
  if l = q.length + o ∨ (q.length + o + 1 ≤ l ∧ l ≤ M) then ((ext g good (l - o - q.length) q).map W).sum else 0

theorem contribW_step (g : G) (good : List Nat → Nat → Bool) (W : List Nat → Nat) (o M : Nat) (q : List Nat)
    (l : Nat) :
    contribW g good W o M q l =
      (if l = q.length + o then W q else 0) +
      (if q.length + o < M then ((extend g good q).map fun c => contribW g good W o M c l).sum else 0) := by
  have hchild : ∀ c ∈ extend g good q, c.length = q.length + 1 := by
    intro c hc
    obtain ⟨_, _, _, _, _, _, _, rfl⟩ := mem_extend.1 hc
    rfl
  -- within the bound, the children contribute to entry `l` iff `|q| + o < l ≤ M`
  have hsum : q.length + o < M → ((extend g good q).map fun c => contribW g good W o M c l).sum =
      if q.length + o + 1 ≤ l ∧ l ≤ M then ((ext g good (l - o - q.length) q).map W).sum else 0 := by
    intro hlt
    by_cases h2 : q.length + o + 1 ≤ l ∧ l ≤ M
    · rw [if_pos h2, show l - o - q.length = (l - o - q.length - 1) + 1 by omega, ext_succ, sum_map_flatMap]
      congr 1
      apply List.map_congr_left
      intro c hc
      have hcl := hchild c hc
      rw [contribW, if_pos (by omega), show l - o - c.length = l - o - q.length - 1 by omega]
    · rw [if_neg h2]
      apply List.sum_eq_zero
      intro x hx
      obtain ⟨c, hc, rfl⟩ := List.mem_map.1 hx
      have hcl := hchild c hc
      rw [contribW, if_neg (by omega)]
  rw [contribW]
  by_cases hlt : q.length + o < M
  · rw [if_pos hlt, hsum hlt]
    by_cases h1 : l = q.length + o
    · have h2 : ¬ (q.length + o + 1 ≤ l ∧ l ≤ M) := by omega
      rw [if_pos (.inl h1), if_pos h1, if_neg h2, show l - o - q.length = 0 by omega]
      rfl
    · rw [if_neg h1, Nat.zero_add]
      by_cases h2 : q.length + o + 1 ≤ l ∧ l ≤ M
      · rw [if_pos (.inr h2), if_pos h2]
      · rw [if_neg (not_or.2 ⟨h1, h2⟩), if_neg h2]
  · rw [if_neg hlt, Nat.add_zero]
    by_cases h1 : l = q.length + o
    · rw [if_pos (.inl h1), if_pos h1, show l - o - q.length = 0 by omega]
      exact Nat.add_zero _
    · rw [if_neg (by omega), if_neg h1]

def extW (g : G) (q : List Nat) : Nat := (extend g (goodInduced g) q).length

/-- a partial path `p` (reversed) with its cached length and its set of banned vertices: the path and the
neighbours of all its vertices but the last one -/
structure RecOK (h : G) (p : List Nat) (length : Nat) (banned : List Nat) : Prop where
  ne : p ≠ []
  len : length + 1 = p.length
  nd : p.Nodup
  rng : ∀ x ∈ p, x < h.n
  ban : ∀ x, x ∈ banned ↔ (x ∈ p ∨ (x < h.n ∧ ∃ y ∈ p.tail, h.adj y x = true))

/-- an upper bound for the number of stack operations below a path with `d` vertices still unused -/
def wtN (n : Nat) : Nat → Nat
  | 0 => 1
  | d+1 => 1 + n * wtN n d

def wtP (h : G) (p : List Nat) : Nat := wtN h.n (h.n - p.length)

theorem wtN_pos (n d : Nat) : 1 ≤ wtN n d := by cases d <;> simp [wtN]

theorem wtN_le_pow (n d : Nat) : wtN n d ≤ (n + 1) ^ d := by
  induction d with
  | zero => simp [wtN]
  | succ d ih =>
    simp only [wtN, Nat.pow_succ]
    have h1 : 1 ≤ (n + 1) ^ d := Nat.one_le_pow _ _ (by omega)
    calc 1 + n * wtN n d ≤ (n + 1) ^ d + n * (n + 1) ^ d := by
          exact Nat.add_le_add h1 (Nat.mul_le_mul_left n ih)
      _ = (n + 1) ^ d * (n + 1) := by rw [Nat.mul_add_one, Nat.add_comm, Nat.mul_comm]

variable {h : G} {p banned : List Nat} {length last : Nat} {t : List Nat}

theorem options_eq (hsym : ∀ u v, h.adj u v = h.adj v u) (ok : RecOK h p length banned) (hp : p = last :: t) :
    sMinus (h.nbrs last) banned =
      (List.range h.n).filter fun w => h.adj last w && goodInduced h p w := by
  unfold sMinus G.nbrs
  rw [List.filter_filter]
  apply List.filter_congr
  intro w hw
  have hwn := List.mem_range.1 hw
  have hb := ok.ban w
  rw [hp] at hb ⊢
  simp only [List.tail_cons] at hb
  have e1 : (!banned.contains w) = true ↔ w ∉ banned := by simp
  have e2 : goodInduced h (last :: t) w = true ↔ (w ∉ last :: t ∧ ∀ x ∈ t, h.adj w x = false) := by
    simp [goodInduced]
  have key : w ∉ banned ↔ (w ∉ last :: t ∧ ∀ x ∈ t, h.adj w x = false) := by
    rw [hb]
    constructor
    · intro hn
      refine ⟨fun hm => hn (.inl hm), ?_⟩
      intro x hx
      cases hadj : h.adj w x with
      | false => rfl
      | true => exact absurd (.inr ⟨hwn, x, hx, by rw [hsym]; exact hadj⟩) hn
    · rintro ⟨h1, h2⟩ (hm | ⟨_, y, hy, hadj⟩)
      · exact h1 hm
      · have := h2 y hy
        rw [hsym] at this
        rw [this] at hadj; cases hadj
  have : (!banned.contains w) = goodInduced h (last :: t) w := by
    rw [Bool.eq_iff_iff, e1, e2, key]
  rw [this, Bool.and_comm]

theorem extend_eq_options (hsym : ∀ u v, h.adj u v = h.adj v u) (ok : RecOK h p length banned)
    (hp : p = last :: t) :
    extend h (goodInduced h) p = (sMinus (h.nbrs last) banned).map (· :: p) := by
  rw [options_eq hsym ok hp, hp]
  rfl

theorem child_ok (ok : RecOK h p length banned) (hp : p = last :: t) {v : Nat}
    (hv : v ∈ sMinus (h.nbrs last) banned) :
    RecOK h (v :: p) (length + 1) (sAdd (sUnion banned (h.nbrs last)) v) := by
  obtain ⟨hvn, hvb⟩ := mem_sMinus.1 hv
  have hvn' : v < h.n ∧ h.adj last v = true := by simpa [G.nbrs, List.mem_filter] using hvn
  have hvp : v ∉ p := fun hm => hvb ((ok.ban v).2 (.inl hm))
  refine { ne := by simp, len := by simp [ok.len], nd := List.nodup_cons.2 ⟨hvp, ok.nd⟩, rng := ?_, ban := ?_ }
  · intro x hx
    rcases List.mem_cons.1 hx with rfl | hx
    · exact hvn'.1
    · exact ok.rng x hx
  · intro x
    simp only [mem_sAdd, mem_sUnion, ok.ban x, List.tail_cons, List.mem_cons]
    rw [hp]
    simp only [List.tail_cons, List.mem_cons, G.nbrs, List.mem_filter, List.mem_range]
    constructor
    · rintro (((h1 | ⟨h1, y, hy, hadj⟩) | ⟨h1, h2⟩) | h1)
      · exact Or.inl (Or.inr h1)
      · exact Or.inr ⟨h1, y, Or.inr hy, hadj⟩
      · exact Or.inr ⟨h1, last, Or.inl rfl, h2⟩
      · exact Or.inl (Or.inl h1)
    · rintro ((h1 | h1) | ⟨h1, y, (rfl | hy), hadj⟩)
      · exact Or.inr h1
      · exact Or.inl (Or.inl (Or.inl h1))
      · exact Or.inl (Or.inr ⟨h1, hadj⟩)
      · exact Or.inl (Or.inl (Or.inr ⟨h1, y, hy, hadj⟩))

theorem length_lt_of_option (ok : RecOK h p length banned) (hp : p = last :: t)
    (hne : (sMinus (h.nbrs last) banned).length ≠ 0) : p.length + 1 ≤ h.n := by
  obtain ⟨v, hv⟩ := List.exists_mem_of_length_pos (Nat.pos_of_ne_zero hne)
  have cok := child_ok ok hp hv
  have := (List.subperm_of_subset cok.nd fun x hx => List.mem_range.2 (cok.rng x hx)).length_le
  simpa using this

theorem wt_children (hsym : ∀ u v, h.adj u v = h.adj v u) (ok : RecOK h p length banned) (hp : p = last :: t) :
    (sMinus (h.nbrs last) banned).length * wtN h.n (h.n - (p.length + 1)) + 1 ≤ wtP h p := by
  by_cases hne : (sMinus (h.nbrs last) banned).length = 0
  · rw [hne, Nat.zero_mul]; exact wtN_pos _ _
  have hplen := length_lt_of_option ok hp hne
  have hwP : wtP h p = 1 + h.n * wtN h.n (h.n - (p.length + 1)) := by
    rw [wtP, show h.n - p.length = (h.n - (p.length + 1)) + 1 by omega, wtN]
  have hoptle : (sMinus (h.nbrs last) banned).length ≤ h.n := by
    have : (sMinus (h.nbrs last) banned).length ≤ (List.range h.n).length := by
      rw [options_eq hsym ok hp]; exact List.length_filter_le _ _
    simpa using this
  have := Nat.mul_le_mul_right (wtN h.n (h.n - (p.length + 1))) hoptle
  omega

theorem ipLoop_step (hsym : ∀ u v, h.adj u v = h.adj v u) (M f : Nat) (P : IPath) (st : List IPath) (r : Array Nat)
    (okP : RecOK h P.p P.length P.banned) (hsize : h.n ≤ r.size) :
    ∃ ch r', ipLoop h (M : Int) (f + 1) (P :: st) r = ipLoop h (M : Int) f (ch ++ st) r' ∧
      r'.size = r.size ∧ (∀ c ∈ ch, RecOK h c.p c.length c.banned) ∧
      (ch.map fun c => wtP h c.p).sum + 1 ≤ wtP h P.p ∧
      ∀ l, lbl r' l + (ch.map fun c => contribW h (goodInduced h) (extW h) 0 M c.p l).sum
        = lbl r l + contribW h (goodInduced h) (extW h) 0 M P.p l := by
  obtain ⟨last, t, hp⟩ := List.exists_cons_of_ne_nil okP.ne
  have hext := extend_eq_options hsym okP hp
  have hlen_ext : extW h P.p = (sMinus (h.nbrs last) P.banned).length := by
    rw [extW, hext, List.length_map]
  have hwpos : 1 ≤ wtP h P.p := wtN_pos h.n (h.n - P.p.length)
  rw [ipLoop]
  simp only [hp]
  rw [← hp]
  by_cases hopt : (sMinus (h.nbrs last) P.banned).length = 0
  · -- no extension
    simp only [hopt, if_true]
    refine ⟨[], r, rfl, rfl, fun _ hc => absurd hc List.not_mem_nil, hwpos, fun l => ?_⟩
    rw [contribW_step, hext, List.length_eq_zero_iff.1 hopt, hlen_ext, hopt]
    simp
  · simp only [hopt, if_false]
    have hidx : P.length + 1 < r.size := by
      have := length_lt_of_option okP hp hopt
      have := okP.len
      omega
    simp only [hidx, dif_pos]
    have hr1 : ∀ l, lbl (r.set (P.length + 1) (r[P.length + 1]'hidx + (sMinus (h.nbrs last) P.banned).length) hidx) l
        = lbl r l + (if l = P.p.length then extW h P.p else 0) := by
      intro l
      rw [lbl_set hidx, hlen_ext, ← okP.len]
      by_cases hl : l = P.length + 1
      · simp [hl, lbl_of_lt hidx]
      · simp [hl]
    by_cases hcut : (P.length : Int) ≥ (M : Int) - 1
    · have hnlt : ¬ P.p.length + 0 < M := by have := okP.len; omega
      simp only [hcut, if_true]
      refine ⟨[], _, rfl, by simp, fun _ hc => absurd hc List.not_mem_nil, hwpos, fun l => ?_⟩
      rw [hr1 l, contribW_step, if_neg hnlt]
      rfl
    · have hlt : P.p.length + 0 < M := by have := okP.len; omega
      simp only [hcut, if_false]
      refine ⟨_, _, rfl, by simp, fun P' hP' => ?_, ?_, fun l => ?_⟩
      · obtain ⟨v', hv', rfl⟩ := List.mem_map.1 (List.mem_reverse.1 hP')
        exact child_ok okP hp hv'
      · rw [List.map_reverse, List.sum_reverse, List.map_map]
        refine Nat.le_trans (Nat.le_of_eq ?_) (wt_children hsym okP hp)
        rw [show (fun c : IPath => wtP h c.p) ∘ _ = fun _ => wtN h.n (h.n - (P.p.length + 1)) from rfl,
          List.map_const', List.sum_replicate_nat]
      · rw [hr1 l, contribW_step, if_pos hlt, List.map_reverse, List.sum_reverse, List.map_map, hext, List.map_map]
        exact Nat.add_assoc ..

theorem ipLoop_spec (hsym : ∀ u v, h.adj u v = h.adj v u) (M fuel : Nat) (st : List IPath)
    (hok : ∀ P ∈ st, RecOK h P.p P.length P.banned) (hf : (st.map fun P => wtP h P.p).sum + 1 ≤ fuel) :
    Adds h.n (ipLoop h (M : Int) fuel st) fun l =>
      (st.map fun P => contribW h (goodInduced h) (extW h) 0 M P.p l).sum :=
  stackLoop_adds (fun _ _ => rfl) (fun f P st r => ipLoop_step hsym M f P st r) fuel st hok hf

end GDist
