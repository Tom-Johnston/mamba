import Mamba.Lemmas.SearchInv
/-! `AddVertex` and `RemoveVertex(last)` on `DenseGraph` values: what they compute, and that the second undoes the first. -/
namespace Search

theorem addVertex_fold_spec (old : Nat) :
    ∀ (l : List Nat) (p q : Array Nat × Array Int), l.Nodup →
      l.foldlM (m := Outcome) (fun (p : Array Nat × Array Int) v =>
        if old + v < p.1.size ∧ v < p.2.size then
          Outcome.ok (p.1.setIfInBounds (old + v) 1, p.2.modify v (· + 1))
        else Outcome.panic) p = .ok q →
      (∀ v ∈ l, old + v < p.1.size ∧ v < p.2.size) ∧
      (∀ v ∈ l, q.1[old + v]? = some 1) ∧
      (∀ j, (∀ v ∈ l, j ≠ old + v) → q.1[j]? = p.1[j]?) ∧
      (∀ i ∈ l, q.2[i]? = (p.2[i]?).map (· + 1)) ∧
      (∀ i, i ∉ l → q.2[i]? = p.2[i]?) := by
  intro l
  induction l with
  | nil =>
    intro p q _ h
    simp only [List.foldlM_nil] at h
    cases h
    simp
  | cons v vs ih =>
    intro p q hnd h
    simp only [List.foldlM_cons] at h
    by_cases hc : old + v < p.1.size ∧ v < p.2.size
    · simp only [hc, and_self, if_true] at h
      have hnd' := (List.nodup_cons.1 hnd)
      obtain ⟨h1, h2, h3, h4, h5⟩ := ih _ q hnd'.2 h
      simp only [Array.size_setIfInBounds, Array.size_modify] at h1
      refine ⟨?_, ?_, ?_, ?_, ?_⟩
      · intro w hw
        rcases List.mem_cons.1 hw with rfl | hw
        · exact hc
        · exact h1 w hw
      · intro w hw
        rcases List.mem_cons.1 hw with rfl | hw
        · rw [h3 (old + w) (fun a ha he => hnd'.1 ((by omega : w = a) ▸ ha))]
          simp [hc.1]
        · exact h2 w hw
      · intro j hj
        rw [h3 j (fun a ha => hj a (List.mem_cons_of_mem _ ha))]
        have := hj v (List.mem_cons_self)
        simp [Ne.symm this]
      · intro i hi
        rcases List.mem_cons.1 hi with rfl | hi
        · rw [h5 i hnd'.1]
          simp [Array.getElem?_modify]
        · rw [h4 i hi]
          have : i ≠ v := fun e => hnd'.1 (e ▸ hi)
          simp [Array.getElem?_modify, Ne.symm this]
      · intro i hi
        have hiv : i ≠ v := fun e => hi (e ▸ List.mem_cons_self)
        rw [h5 i (fun hm => hi (List.mem_cons_of_mem _ hm))]
        simp [Array.getElem?_modify, Ne.symm hiv]
    · simp only [hc, if_false] at h
      cases h

theorem decNbrs_ok (edges : Array Nat) (base : Nat) :
    ∀ (l : List Nat) (d : Array Int), l.Nodup → (∀ i ∈ l, base + i < edges.size ∧ i < d.size) →
      ∃ d', decNbrs edges base l d = .ok d' ∧ d'.size = d.size ∧
        (∀ i ∈ l, edges.getD (base + i) 0 > 0 → d'[i]? = (d[i]?).map (· - 1)) ∧
        (∀ i, (i ∉ l ∨ edges.getD (base + i) 0 = 0) → d'[i]? = d[i]?) := by
  intro l
  induction l with
  | nil => exact fun d _ _ => ⟨d, rfl, rfl, by simp, by simp⟩
  | cons i is ih =>
    intro d hnd hb
    have hnd' := List.nodup_cons.1 hnd
    have hbi := hb i List.mem_cons_self
    have hb' : ∀ j ∈ is, base + j < edges.size ∧ j < d.size := fun j hj => hb j (List.mem_cons_of_mem _ hj)
    simp only [decNbrs, Array.getElem?_eq_getElem hbi.1]
    have hget : edges.getD (base + i) 0 = edges[base + i] := by
      simp [Array.getD_eq_getD_getElem?, Array.getElem?_eq_getElem hbi.1]
    by_cases hpos : edges[base + i] > 0
    · simp only [hpos, if_true, hbi.2]
      obtain ⟨d', h1, h2, h3, h4⟩ := ih (d.modify i (· - 1)) hnd'.2
        (fun j hj => by simpa using hb' j hj)
      refine ⟨d', h1, by simpa using h2, ?_, ?_⟩
      · intro j hj hp
        rcases List.mem_cons.1 hj with rfl | hj
        · rw [h4 j (Or.inl hnd'.1)]
          simp [Array.getElem?_modify]
        · rw [h3 j hj hp]
          have : j ≠ i := fun e => hnd'.1 (e ▸ hj)
          simp [Array.getElem?_modify, Ne.symm this]
      · intro j hj
        have hji : j ≠ i := by
          rintro rfl
          rcases hj with hj | hj
          · exact hj List.mem_cons_self
          · rw [hget] at hj; omega
        have : d'[j]? = (d.modify i (· - 1))[j]? := by
          apply h4
          rcases hj with hj | hj
          · exact Or.inl fun hm => hj (List.mem_cons_of_mem _ hm)
          · exact Or.inr hj
        rw [this]
        simp [Array.getElem?_modify, Ne.symm hji]
    · simp only [hpos, if_false]
      obtain ⟨d', h1, h2, h3, h4⟩ := ih d hnd'.2 hb'
      refine ⟨d', h1, h2, ?_, ?_⟩
      · intro j hj hp
        rcases List.mem_cons.1 hj with rfl | hj
        · rw [hget] at hp; exact absurd hp hpos
        · exact h3 j hj hp
      · intro j hj
        apply h4
        by_cases hji : j = i
        · subst hji
          right; rw [hget]; omega
        · rcases hj with hj | hj
          · exact Or.inl fun hm => hj (List.mem_cons.2 (Or.inr hm))
          · exact Or.inr hj

theorem addVertex_fold_ok (old : Nat) :
    ∀ (l : List Nat) (p : Array Nat × Array Int), (∀ v ∈ l, old + v < p.1.size ∧ v < p.2.size) →
      ∃ q, l.foldlM (m := Outcome) (fun (p : Array Nat × Array Int) v =>
        if old + v < p.1.size ∧ v < p.2.size then
          Outcome.ok (p.1.setIfInBounds (old + v) 1, p.2.modify v (· + 1))
        else Outcome.panic) p = .ok q
  | [], p, _ => ⟨p, rfl⟩
  | v :: vs, p, h => by
    have hv := h v List.mem_cons_self
    simp only [List.foldlM_cons, hv, and_self, if_true]
    exact addVertex_fold_ok old vs _ (fun w hw => by
      have := h w (List.mem_cons_of_mem _ hw)
      simpa using this)

theorem addVertex_ok {g : DG} (hs : g.Sized) {l : List Nat} (hl : ∀ v ∈ l, v < g.nv) :
    ∃ g', g.addVertex l = .ok g' := by
  unfold DG.addVertex
  simp only [hs.edges, ne_eq, not_true_eq_false, if_false]
  obtain ⟨q, hq⟩ := addVertex_fold_ok (tri g.nv) l (g.edges ++ Array.replicate g.nv 0, g.degs) (by
    intro v hv
    have := hl v hv
    simp only [Array.size_append, Array.size_replicate, hs.edges, hs.degs]
    omega)
  rw [hq]
  exact ⟨_, rfl⟩

theorem addVertex_spec {g g' : DG} {l : List Nat} (hs : g.Sized) (hnd : l.Nodup) (h : g.addVertex l = .ok g') :
    ∃ (e : Array Nat) (d : Array Int), g' = { nv := g.nv + 1, ne := g.ne + l.length, degs := d.push l.length, edges := e } ∧
      e.size = tri g.nv + g.nv ∧ d.size = g.nv ∧ (∀ v ∈ l, v < g.nv) ∧
      (∀ j, j < tri g.nv → e[j]? = g.edges[j]?) ∧
      (∀ u, u < g.nv → e[tri g.nv + u]? = some (if u ∈ l then 1 else 0)) ∧
      (∀ i ∈ l, d[i]? = (g.degs[i]?).map (· + 1)) ∧ (∀ i, i ∉ l → d[i]? = g.degs[i]?) := by
  unfold DG.addVertex at h
  simp only at h
  split at h
  · cases h
  · split at h
    · rename_i e d heq
      cases h
      obtain ⟨f1, f2, f3, f4, f5⟩ := addVertex_fold_spec (tri g.nv) l _ _ hnd heq
      have fs := addVertex_fold_sizes _ _ _ _ heq
      simp only [Array.size_append, Array.size_replicate] at f1 fs
      simp only at f2 f3 f4 f5
      refine ⟨e, d, rfl, by rw [fs.1, hs.edges], by rw [fs.2, hs.degs],
        fun v hv => by have := (f1 v hv).2; rw [hs.degs] at this; exact this, fun j hj => ?_, fun u hu => ?_, f4, f5⟩
      · rw [f3 j (fun v _ => by omega), Array.getElem?_append_left (by rw [hs.edges]; exact hj)]
      · by_cases hm : u ∈ l
        · rw [f2 u hm, if_pos hm]
        · rw [f3 (tri g.nv + u) (fun v hv he => hm ((by omega : u = v) ▸ hv)), if_neg hm,
            Array.getElem?_append_right (by rw [hs.edges]; omega)]
          simp [hs.edges, hu]
    · cases h
    · cases h

theorem removeLast_addVertex {g g' : DG} {l : List Nat} (hs : g.Sized) (hnd : l.Nodup)
    (h : g.addVertex l = .ok g') : g'.removeLast = .ok g := by
  obtain ⟨e, d, rfl, hes, hds, hl, hold, hnew, f4, f5⟩ := addVertex_spec hs hnd h
  have hb : ∀ i ∈ List.range g.nv, tri g.nv + i < e.size ∧ i < (d.push (l.length : Int)).size := by
    intro i hi
    have := List.mem_range.1 hi
    simp only [Array.size_push]
    omega
  obtain ⟨d', h1, h2, h3, h4⟩ := decNbrs_ok e (tri g.nv) (List.range g.nv) (d.push (l.length : Int))
    List.nodup_range hb
  unfold DG.removeLast
  have hsz' : ¬ (e.size ≠ tri (g.nv + 1) ∨ (d.push (l.length : Int)).size ≠ g.nv + 1) := by
    rw [tri_succ, hes]; simp [hds]
  have hlast : (d.push (l.length : Int))[g.nv]? = some (l.length : Int) := by
    rw [← hds]; simp
  simp only [Nat.succ_ne_zero, if_false, Nat.add_sub_cancel, hsz', hlast, h1]
  have hbit : ∀ i, i < g.nv → (e.getD (tri g.nv + i) 0 > 0 ↔ i ∈ l) := by
    intro i hi
    rw [Array.getD_eq_getD_getElem?, hnew i hi]
    by_cases hm : i ∈ l <;> simp [hm]
  congr 1
  have hdegs : d'.pop = g.degs := by
    apply Array.ext_getElem?
    intro i
    by_cases hi : i < g.nv
    · have hpop : d'.pop[i]? = d'[i]? := by
        simp [h2, hi, hds]
      rw [hpop]
      have hpush : (d.push (l.length : Int))[i]? = d[i]? := by
        rw [Array.getElem?_push_lt (by omega)]
        simp [hds, hi]
      by_cases hm : i ∈ l
      · rw [h3 i (List.mem_range.2 hi) ((hbit i hi).2 hm), hpush, f4 i hm]
        cases hg : g.degs[i]? with
        | none => simp
        | some x => simp
      · have hz : e.getD (tri g.nv + i) 0 = 0 := by
          have : ¬ e.getD (tri g.nv + i) 0 > 0 := fun hp => hm ((hbit i hi).1 hp)
          omega
        rw [h4 i (Or.inr hz), hpush, f5 i hm]
    · have : d'.pop.size = g.nv := by simp [h2, hds]
      rw [Array.getElem?_eq_none (by omega), Array.getElem?_eq_none (by rw [hs.degs]; omega)]
  have hedges : e.extract 0 (tri g.nv) = g.edges := by
    apply Array.ext_getElem?
    intro j
    by_cases hj : j < tri g.nv
    · have : (e.extract 0 (tri g.nv))[j]? = e[j]? := by
        simp [Array.getElem?_extract]
        omega
      rw [this, hold j hj]
    · have h1' : (e.extract 0 (tri g.nv)).size = tri g.nv := by simp [hes]
      rw [Array.getElem?_eq_none (by omega), Array.getElem?_eq_none (by rw [hs.edges]; omega)]
  cases g
  simp only at hdegs hedges ⊢
  simp [hdegs, hedges]

end Search
