import Mamba.Model.DawgSearch
/-!
# The explicit-stack loop of `Search` computes the recursive search (C13)

No assumption on the searchers: the two versions call the interface functions in the same order, so they agree
on every outcome (including a panicking searcher), provided the fuel covers the at most `2 * size` iterations.
-/
namespace DawgSearch

theorem Outcome_bind_pure {α : Type} (x : Outcome α) : (x >>= fun a => pure a) = x := by
  cases x <;> rfl

theorem Links.drop_succ_of_drop_cons : ∀ (ls : Links) (j : Nat) (l : UInt8) (ch : Node) (r : Links),
    ls.drop j = .cons l ch r → ls.drop (j + 1) = r
  | ls, 0, l, ch, r, h => by
    cases ls with
    | nil => simp [Links.drop] at h
    | cons l' ch' r' =>
      simp only [Links.drop, Links.cons.injEq] at h
      simp [Links.drop, h.2.2]
  | .nil, j + 1, l, ch, r, h => by simp [Links.drop] at h
  | .cons l' ch' r', j + 1, l, ch, r, h => by
    simp only [Links.drop] at h ⊢
    exact Links.drop_succ_of_drop_cons r' j l ch r h

section
variable {σ : Type} (ops : Ops σ)

/-- what an iteration does once the scan of the top node is exhausted, followed by the rest of the loop -/
def afterExhausted (f : Nat) (decs' : List Int) (dawgs' : List Node) (rw : Word) (rs : RS σ) : Outcome (RS σ) :=
  match rw with
  | [] => pure rs
  | _ :: rw' => do
    let ss' ← backstepAll ops rs.ss
    loop ops f ⟨decs', dawgs', rw', { rs with ss := ss' }⟩

/-- one iteration whose scan starts at `(ls, j)`, followed by the rest of the loop with fuel `f` -/
def loopFrom (f : Nat) (ls : Links) (j : Nat) (cur : Node) (decs' : List Int) (dawgs' : List Node) (rw : Word)
    (rs : RS σ) : Outcome (RS σ) := do
  match ← scanFrom ops ls j rs with
  | .descend j l child rs1 => do
    let rs2 ← visitFinal ops child.final (l :: rw) rs1
    loop ops f ⟨(-1) :: (j : Int) :: decs', child :: cur :: dawgs', l :: rw, rs2⟩
  | .exhausted rs1 => afterExhausted ops f decs' dawgs' rw rs1

theorem loop_succ (f : Nat) (d : Int) (decs' : List Int) (cur : Node) (dawgs' : List Node) (rw : Word) (rs : RS σ) :
    loop ops (f + 1) ⟨d :: decs', cur :: dawgs', rw, rs⟩
      = loopFrom ops f (cur.links.drop (d + 1).toNat) (d + 1).toNat cur decs' dawgs' rw rs := by
  simp only [loop, iter, loopFrom]
  cases scanFrom ops (cur.links.drop (d + 1).toNat) (d + 1).toNat rs with
  | panic => rfl
  | outOfFuel => rfl
  | ok sc =>
    cases sc with
    | descend j l child rs1 =>
      simp only [Outcome.bind_ok]
      cases visitFinal ops child.final (l :: rw) rs1 <;> rfl
    | exhausted rs1 =>
      simp only [Outcome.bind_ok, afterExhausted]
      cases rw with
      | nil => rfl
      | cons c rw' =>
        simp only
        cases backstepAll ops rs1.ss <;> rfl

end

section
variable {σ : Type} (ops : Ops σ)

theorem Node.size_eq (t : Node) : t.size = 1 + t.links.size := by
  cases t; simp [Node.size, Node.links]

theorem Links.drop_zero (ls : Links) : ls.drop 0 = ls := by
  cases ls <;> rfl

theorem loopFrom_cons (F : Nat) (l : UInt8) (child : Node) (rest : Links) (j : Nat) (cur : Node) (decs' : List Int)
    (dawgs' : List Node) (rw : Word) (rs : RS σ) :
    loopFrom ops F (.cons l child rest) j cur decs' dawgs' rw rs =
      (allowStepAll ops rs.ss l >>= fun a =>
        if a then
          stepAll ops rs.ss l >>= fun ss1 =>
          visitFinal ops child.final (l :: rw) { rs with ss := ss1 } >>= fun rs2 =>
          loop ops F ⟨(-1) :: (j : Int) :: decs', child :: cur :: dawgs', l :: rw, rs2⟩
        else loopFrom ops F rest (j + 1) cur decs' dawgs' rw { rs with index := rs.index + child.numWords }) := by
  simp only [loopFrom, scanFrom]
  cases allowStepAll ops rs.ss l with
  | panic => rfl
  | outOfFuel => rfl
  | ok a =>
    cases a with
    | false => rfl
    | true => cases stepAll ops rs.ss l <;> rfl

mutual
theorem loopFrom_node : (t : Node) → ∀ (decs' : List Int) (dawgs' : List Node) (rw : Word) (rs : RS σ),
    ∃ c, c ≤ 2 * t.links.size ∧ ∀ f, loopFrom ops (f + c) t.links 0 t decs' dawgs' rw rs
      = (dfsNode ops t rw rs >>= afterExhausted ops f decs' dawgs' rw)
  | .mk fin n ls, decs', dawgs', rw, rs =>
    loopFrom_links ls 0 (.mk fin n ls) decs' dawgs' rw rs (Links.drop_zero _)
theorem loopFrom_links : (ls : Links) → ∀ (j : Nat) (cur : Node) (decs' : List Int) (dawgs' : List Node)
    (rw : Word) (rs : RS σ), cur.links.drop j = ls →
    ∃ c, c ≤ 2 * ls.size ∧ ∀ f, loopFrom ops (f + c) ls j cur decs' dawgs' rw rs
      = (dfsLinks ops ls rw rs >>= afterExhausted ops f decs' dawgs' rw)
  | .nil, j, cur, decs', dawgs', rw, rs, _ => ⟨0, Nat.zero_le _, fun f => rfl⟩
  | .cons l child rest, j, cur, decs', dawgs', rw, rs, hd => by
    have hrest := Links.drop_succ_of_drop_cons _ _ _ _ _ hd
    have hsz : (Links.cons l child rest).size = 1 + child.links.size + rest.size := by
      rw [Links.size, Node.size_eq]
    -- both sides run the same calls of the searchers; a failing call ends both before any fuel is used
    simp only [loopFrom_cons, dfsLinks, hsz]
    cases allowStepAll ops rs.ss l with
    | panic => exact ⟨0, Nat.zero_le _, fun f => rfl⟩
    | outOfFuel => exact ⟨0, Nat.zero_le _, fun f => rfl⟩
    | ok a =>
      cases a with
      | false =>
        obtain ⟨c, hc, h⟩ := loopFrom_links rest (j + 1) cur decs' dawgs' rw
          { rs with index := rs.index + child.numWords } hrest
        exact ⟨c, Nat.le_trans hc (Nat.mul_le_mul_left 2 (Nat.le_add_left _ _)), h⟩
      | true =>
        simp only [Outcome.bind_ok, if_true]
        cases stepAll ops rs.ss l with
        | panic => exact ⟨0, Nat.zero_le _, fun f => rfl⟩
        | outOfFuel => exact ⟨0, Nat.zero_le _, fun f => rfl⟩
        | ok ss1 =>
          simp only [Outcome.bind_ok]
          cases visitFinal ops child.final (l :: rw) { rs with ss := ss1 } with
          | panic => exact ⟨0, Nat.zero_le _, fun f => rfl⟩
          | outOfFuel => exact ⟨0, Nat.zero_le _, fun f => rfl⟩
          | ok rs2 =>
            simp only [Outcome.bind_ok]
            -- the next iteration starts the scan of the child
            obtain ⟨c1, hc1, h1⟩ := loopFrom_node child ((j : Int) :: decs') (cur :: dawgs') (l :: rw) rs2
            have hc1' : c1 + 1 ≤ 2 * (1 + child.links.size + rest.size) := by omega
            have hL : ∀ F, loop ops (F + c1 + 1) ⟨(-1) :: (j : Int) :: decs', child :: cur :: dawgs', l :: rw, rs2⟩
                = (dfsNode ops child (l :: rw) rs2
                    >>= afterExhausted ops F ((j : Int) :: decs') (cur :: dawgs') (l :: rw)) := by
              intro F
              rw [loop_succ, show ((-1 : Int) + 1).toNat = 0 from rfl, Links.drop_zero, h1 F]
            cases hn : dfsNode ops child (l :: rw) rs2 with
            | panic => exact ⟨c1 + 1, hc1', fun f => by rw [← Nat.add_assoc, hL f, hn]; rfl⟩
            | outOfFuel => exact ⟨c1 + 1, hc1', fun f => by rw [← Nat.add_assoc, hL f, hn]; rfl⟩
            | ok rs3 =>
              simp only [Outcome.bind_ok]
              cases hb : backstepAll ops rs3.ss with
              | panic =>
                refine ⟨c1 + 1, hc1', fun f => ?_⟩
                rw [← Nat.add_assoc, hL f, hn]
                simp only [Outcome.bind_ok, afterExhausted, hb]
                rfl
              | outOfFuel =>
                refine ⟨c1 + 1, hc1', fun f => ?_⟩
                rw [← Nat.add_assoc, hL f, hn]
                simp only [Outcome.bind_ok, afterExhausted, hb]
                rfl
              | ok ss4 =>
                -- …and the one after the child's subtree resumes the scan of `cur` at `j + 1`
                obtain ⟨c2, hc2, h2⟩ := loopFrom_links rest (j + 1) cur decs' dawgs' rw
                  { rs3 with ss := ss4 } hrest
                refine ⟨c2 + 1 + c1 + 1, by omega, fun f => ?_⟩
                rw [show f + (c2 + 1 + c1 + 1) = (f + c2 + 1) + c1 + 1 by simp only [Nat.add_assoc], hL (f + c2 + 1), hn]
                simp only [Outcome.bind_ok, afterExhausted, hb]
                rw [loop_succ, show ((j : Int) + 1).toNat = j + 1 by omega, hrest, h2 f]
end

theorem searchRS_eq_searchRecRS (t : Node) (ss : List σ) (fuel : Nat) (hf : searchFuel t ≤ fuel) :
    searchRS ops fuel t ss = searchRecRS ops t ss := by
  unfold searchRS searchRecRS
  cases hv : visitFinal ops t.final [] ⟨-1, ss, []⟩ with
  | panic => rfl
  | outOfFuel => rfl
  | ok rs0 =>
    obtain ⟨c, hc, h⟩ := loopFrom_node ops t [] [] [] rs0
    simp only [Outcome.bind_ok]
    have hsz := Node.size_eq t
    unfold searchFuel at hf
    have e : fuel = (fuel - c - 1) + c + 1 := by omega
    rw [e, loop_succ]
    have e0 : ((-1 : Int) + 1).toNat = 0 := by decide
    rw [e0, Links.drop_zero, h]
    exact Outcome_bind_pure _

end
end DawgSearch
