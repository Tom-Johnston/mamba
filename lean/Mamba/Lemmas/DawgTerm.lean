import Mamba.Lemmas.DawgIso
/-! The fuel of the explicit-stack traversal: on acyclic automata it returns within an explicit (very generous) bound
(potential argument over the stack); and whatever the automaton, the fuel only decides *whether* a result is produced,
never *which*.

`Ranked d rank D`, the hypothesis of the bound: `dec`: `rank` decreases along every link of a reachable node (so there is
no cycle); `deg`: no reachable node has more than `D` links. -/
namespace Dawg

/-- potential of a fresh stack entry for a node of rank `< r` when no node has more than `D` links -/
def Qp (D : Nat) : Nat → Nat
  | 0 => 0
  | r + 1 => 1 + D * (1 + D * Qp D r)

/-- potential of a stack entry for a node of rank `r` with `m` links still to examine -/
def Pot (D r m : Nat) : Nat := 1 + m * (1 + D * Qp D r)

theorem Qp_mono (D : Nat) : ∀ {r r' : Nat}, r ≤ r' → Qp D r ≤ Qp D r' := by
  have step : ∀ r, Qp D r ≤ Qp D (r + 1) := by
    intro r
    induction r with
    | zero => simp [Qp]
    | succ r ih =>
      simp only [Qp]
      have h1 : D * Qp D r ≤ D * Qp D (r + 1) := Nat.mul_le_mul_left _ ih
      have h2 : D * (1 + D * Qp D r) ≤ D * (1 + D * Qp D (r + 1)) := Nat.mul_le_mul_left _ (by omega)
      simp only [Qp] at h2
      omega
  intro r r' h
  induction h with
  | refl => exact Nat.le_refl _
  | step _ ih => exact Nat.le_trans ih (step _)

theorem Pot_mono (D r : Nat) {m m' : Nat} (h : m ≤ m') : Pot D r m ≤ Pot D r m' := by
  unfold Pot
  have := Nat.mul_le_mul_right (1 + D * Qp D r) h
  omega

theorem Pot_le_Qp (D r m : Nat) (h : m ≤ D) : Pot D r m ≤ Qp D (r + 1) := by
  have := Pot_mono D r h
  simpa [Pot, Qp] using this

theorem Pot_pos (D r m : Nat) : 1 ≤ Pot D r m := by unfold Pot; omega

/-- examining one link: the entry loses `1 + D * Qp D r`, which pays for `m ≤ D` pushed children of smaller rank -/
theorem Pot_step (D r : Nat) {m : Nat} (h1 : 1 ≤ m) (hD : m ≤ D) :
    Pot D r (m - 1) + m * Qp D r + 1 ≤ Pot D r m := by
  obtain ⟨k, rfl⟩ : ∃ k, m = k + 1 := ⟨m - 1, (Nat.sub_add_cancel h1).symm⟩
  unfold Pot
  have h1 : (k + 1) * (1 + D * Qp D r) = k * (1 + D * Qp D r) + (1 + D * Qp D r) := Nat.succ_mul _ _
  have h2 : (k + 1) * Qp D r ≤ D * Qp D r := Nat.mul_le_mul_right _ hD
  rw [Nat.add_sub_cancel]
  omega

/-- an entry that pays `Pot_step` for what was pushed leaves the stack one unit lighter -/
theorem pot_pay {x y p p' nq : Nat} (h2 : x + p ≤ y + p' + nq) (hstep : p' + nq + 1 ≤ p) : x + 1 ≤ y := by omega

/-- the number of links of the node at `p` (0 outside the heap) -/
def nLinks (h : Heap) (p : Nat) : Nat :=
  match h[p]? with
  | some n => n.links.length
  | none => 0

/-- potential of a stack: every entry `(p, nxt)` counts `Pot` for the rank of `p` and the links of `p` from `nxt` on -/
def SP (h : Heap) (rank : Nat → Nat) (D : Nat) (s : List (Nat × Nat)) : Nat :=
  (s.map (fun e => Pot D (rank e.1) (nLinks h e.1 - e.2))).sum

theorem SP_cons (h : Heap) (rank : Nat → Nat) (D : Nat) (e : Nat × Nat) (s : List (Nat × Nat)) :
    SP h rank D (e :: s) = Pot D (rank e.1) (nLinks h e.1 - e.2) + SP h rank D s := by
  simp [SP]

theorem SP_nil (h : Heap) (rank : Nat → Nat) (D : Nat) : SP h rank D [] = 0 := rfl

theorem SP_pos (h : Heap) (rank : Nat → Nat) (D : Nat) (s : List (Nat × Nat)) (hs : s ≠ []) : 1 ≤ SP h rank D s := by
  cases s with
  | nil => exact absurd rfl hs
  | cons e s => rw [SP_cons]; have := Pot_pos D (rank e.1) (nLinks h e.1 - e.2); omega

theorem encLinks_ok (h : Heap) (conv : Nat → Nat) : ∀ (labs links : List Nat), labs.length = links.length →
    (∀ q ∈ links, ∃ qn, h[q]? = some qn) → ∃ r, encLinks h conv labs links = .ok r := by
  intro labs
  induction labs with
  | nil => intro links _ _; cases links <;> exact ⟨[], rfl⟩
  | cons lab labs ih =>
    intro links hlen hq
    cases links with
    | nil => simp at hlen
    | cons q qs =>
      obtain ⟨qn, hqn⟩ := hq q List.mem_cons_self
      obtain ⟨r, hr⟩ := ih qs (by simpa using hlen) (fun q' hq' => hq q' (List.mem_cons_of_mem _ hq'))
      exact ⟨lab :: encodeUint64 (conv qn.id) ++ r, by simp only [encLinks, getNode_of_some hqn, hr]⟩

theorem encRecord_ok (d : Dawg) (wf : WF d) (conv : Nat → Nat) {c : Nat} {cn : Node}
    (hc : Reach d.heap d.root c) (hcn : d.heap[c]? = some cn) : ∃ r, encRecord d.heap conv cn = .ok r := by
  obtain ⟨r, hr⟩ := encLinks_ok d.heap conv cn.labels cn.links (wf.lens c cn hc hcn)
    (fun q hq => wf.closed q (Reach.step hc hcn hq))
  simp only [encRecord, hr]
  exact ⟨_, rfl⟩

structure Ranked (d : Dawg) (rank : Nat → Nat) (D : Nat) : Prop where
  dec : ∀ p n q, Reach d.heap d.root p → d.heap[p]? = some n → q ∈ n.links → rank q < rank p
  deg : ∀ p n, Reach d.heap d.root p → d.heap[p]? = some n → n.links.length ≤ D

/-- pushing an entry of potential `a ≤ q` while the entry below goes from `c` down to `b` -/
theorem pot_push {a b c q s : Nat} (h1 : a ≤ q) (h2 : b ≤ c) : a + (b + s) ≤ c + s + q := by omega

theorem pot_push' {a q : Nat} (b c s : Nat) (h1 : a ≤ q) : a + (b + s) + c ≤ c + s + b + q := by omega

theorem pot_more {x y p z q nq : Nat} (h1 : x ≤ y + nq) (h2 : y + p ≤ z + q) : x + p ≤ z + (nq + q) := by omega

theorem dfsInner_total (d : Dawg) (wf : WF d) (rank : Nat → Nat) (D : Nat) (hr : Ranked d rank D)
    (emit : Option (Nat → Nat)) (pT : Nat) (T : Node) (hT : d.heap[pT]? = some T) (hTr : Reach d.heap d.root pT) :
    ∀ (labs : List Nat) (j : Nat) (st : DfsSt) (tp tn : Nat) (below : List (Nat × Nat)),
      labs.length = T.links.length - j → st.stack = (tp, tn) :: below → tn ≤ j + 1 →
      ∃ st' b, dfsInner emit d.heap T labs j st = .ok (st', b) ∧ st'.stack ≠ [] ∧
        SP d.heap rank D st'.stack ≤ SP d.heap rank D st.stack + labs.length * Qp D (rank pT) ∧
        (labs = [] → b = false) ∧
        (labs ≠ [] → SP d.heap rank D st'.stack + Pot D (rank tp) (nLinks d.heap tp - tn) ≤
          SP d.heap rank D st.stack + Pot D (rank tp) (nLinks d.heap tp - (j + 1)) + labs.length * Qp D (rank pT)) := by
  intro labs
  induction labs with
  | nil =>
    intro j st tp tn below _ hst _
    exact ⟨st, false, rfl, by rw [hst]; exact List.cons_ne_nil _ _, Nat.le_add_right _ _, fun _ => rfl,
      fun h => absurd rfl h⟩
  | cons lab labs ih =>
    intro j st tp tn below hlen hst htn
    have hjlt : j < T.links.length := Nat.lt_of_sub_pos (hlen ▸ Nat.succ_pos _)
    have hlen' : labs.length = T.links.length - (j + 1) := by
      rw [Nat.sub_add_eq, ← hlen]; rfl
    have hc : T.links[j]? = some (T.links[j]) := List.getElem?_eq_getElem hjlt
    generalize hcdef : T.links[j] = c at hc
    have hcmem : c ∈ T.links := by rw [← hcdef]; exact List.getElem_mem hjlt
    have hcr : Reach d.heap d.root c := Reach.step hTr hT hcmem
    obtain ⟨cn, hcn⟩ := wf.closed c hcr
    -- potential of the stack after the push: the child costs at most `Qp D (rank pT)`, the entry below shrinks
    have h1 : Pot D (rank c) (nLinks d.heap c - 0) ≤ Qp D (rank pT) := by
      have hdeg : nLinks d.heap c ≤ D := by simp only [nLinks, hcn]; exact hr.deg c cn hcr hcn
      exact Nat.le_trans (Pot_le_Qp D (rank c) _ hdeg) (Qp_mono D (hr.dec pT T c hTr hT hcmem))
    have h2 : Pot D (rank tp) (nLinks d.heap tp - (j + 1)) ≤ Pot D (rank tp) (nLinks d.heap tp - tn) :=
      Pot_mono D _ (Nat.sub_le_sub_left htn _)
    have hpush : SP d.heap rank D ((c, 0) :: (tp, j + 1) :: below) ≤
        SP d.heap rank D ((tp, tn) :: below) + Qp D (rank pT) := by
      rw [SP_cons, SP_cons, SP_cons]
      exact pot_push h1 h2
    have hpush2 : SP d.heap rank D ((c, 0) :: (tp, j + 1) :: below) + Pot D (rank tp) (nLinks d.heap tp - tn) ≤
        SP d.heap rank D ((tp, tn) :: below) + Pot D (rank tp) (nLinks d.heap tp - (j + 1)) + Qp D (rank pT) := by
      rw [SP_cons, SP_cons, SP_cons]
      exact pot_push' _ _ _ h1
    have hfin : (lab :: labs).length * Qp D (rank pT) = labs.length * Qp D (rank pT) + Qp D (rank pT) :=
      Nat.succ_mul _ _
    have hgrow := Nat.le_add_left (Qp D (rank pT)) (labs.length * Qp D (rank pT))
    simp only [dfsInner, hc, hst, getNode_of_some hcn]
    rw [hfin]
    by_cases hseen : st.nodes[searchGE st.nodes cn.id]? = some cn.id
    · rw [if_pos hseen]
      obtain ⟨st', b, hres, hne, hsp, _, _⟩ := ih (j + 1) { st with stack := (c, 0) :: (tp, j + 1) :: below } c 0
        ((tp, j + 1) :: below) hlen' rfl (Nat.zero_le _)
      exact ⟨st', b, hres, hne, pot_more (p := 0) hsp hpush, (fun h => by cases h), fun _ => pot_more hsp hpush2⟩
    · rw [if_neg hseen]
      have h3 := Nat.le_trans hpush (Nat.add_le_add_left hgrow _)
      have h4 := Nat.le_trans hpush2 (Nat.add_le_add_left hgrow _)
      cases emit with
      | none => exact ⟨_, true, rfl, List.cons_ne_nil _ _, h3, (fun h => by cases h), fun _ => h4⟩
      | some conv =>
        obtain ⟨r, hrr⟩ := encRecord_ok d wf conv hcr hcn
        simp only [hrr]
        exact ⟨_, true, rfl, List.cons_ne_nil _ _, h3, (fun h => by cases h), fun _ => h4⟩

theorem SP_tail_lt (h : Heap) (rank : Nat → Nat) (D : Nat) (e : Nat × Nat) (s : List (Nat × Nat)) :
    SP h rank D s + 1 ≤ SP h rank D (e :: s) := by
  rw [SP_cons]; have := Pot_pos D (rank e.1) (nLinks h e.1 - e.2); omega

theorem dfsInner_total_top (d : Dawg) (wf : WF d) (rank : Nat → Nat) (D : Nat) (hr : Ranked d rank D)
    (emit : Option (Nat → Nat)) {p nxt : Nat} {T : Node} {st : DfsSt} {below : List (Nat × Nat)}
    (hT : d.heap[p]? = some T) (hpr : Reach d.heap d.root p) (hst : st.stack = (p, nxt) :: below) :
    ∃ st' b, dfsInner emit d.heap T (T.labels.drop nxt) nxt st = .ok (st', b) ∧ st'.stack ≠ [] ∧
      SP d.heap rank D st'.stack + (if b then 1 else 0) ≤ SP d.heap rank D st.stack := by
  have hlen : (List.drop nxt T.labels).length = T.links.length - nxt := by
    rw [List.length_drop, wf.lens p T hpr hT]
  obtain ⟨st1, b, hin, hne1, hsp1, hnil, hsp2⟩ :=
    dfsInner_total d wf rank D hr emit p T hT hpr _ nxt st p nxt below hlen hst (Nat.le_succ _)
  refine ⟨st1, b, hin, hne1, ?_⟩
  by_cases hlabs : List.drop nxt T.labels = []
  · rw [hnil hlabs]
    rw [hlabs, List.length_nil, Nat.zero_mul] at hsp1
    exact hsp1
  · -- the entry loses more than the pushed children cost
    have hm : 1 ≤ T.links.length - nxt := hlen ▸ List.length_pos_iff.2 hlabs
    have hstep := Pot_step D (rank p) hm (Nat.le_trans (Nat.sub_le _ _) (hr.deg p T hpr hT))
    have h2 := hsp2 hlabs
    rw [show nLinks d.heap p = T.links.length by simp only [nLinks, hT], hlen, Nat.sub_add_eq] at h2
    have h := pot_pay h2 hstep
    cases b
    · exact Nat.le_of_succ_le h
    · exact h

theorem dfsLoop_total (d : Dawg) (wf : WF d) (rank : Nat → Nat) (D : Nat) (hr : Ranked d rank D)
    (emit : Option (Nat → Nat)) :
    ∀ (n : Nat) (st : DfsSt), (∀ e ∈ st.stack, Reach d.heap d.root e.1) → st.stack ≠ [] →
      SP d.heap rank D st.stack ≤ n → ∃ r, dfsLoop emit d.heap n st = .ok r := by
  intro n
  induction n with
  | zero =>
    intro st _ hne hsp
    exact absurd (Nat.le_trans (SP_pos d.heap rank D st.stack hne) hsp) (Nat.not_succ_le_zero 0)
  | succ n ih =>
    intro st hreach hne hsp
    cases hst : st.stack with
    | nil => exact absurd hst hne
    | cons top below0 =>
      obtain ⟨p, nxt⟩ := top
      have hpr : Reach d.heap d.root p := hreach (p, nxt) (by rw [hst]; exact List.mem_cons_self)
      obtain ⟨T, hT⟩ := wf.closed p hpr
      obtain ⟨st1, b, hin, hne1, hsp1⟩ := dfsInner_total_top d wf rank D hr emit hT hpr hst
      have hreach1 := dfsInner_reach wf emit hpr hT _ nxt st st1 b hreach hin
      simp only [dfsLoop, hst, getNode_of_some hT, hin]
      cases b with
      | true => exact ih st1 hreach1 hne1 (Nat.le_of_succ_le_succ (Nat.le_trans hsp1 hsp))
      | false =>
        simp only
        cases hst1 : st1.stack with
        | nil => exact absurd hst1 hne1
        | cons t1 r1 =>
          cases r1 with
          | nil => exact ⟨_, rfl⟩
          | cons t2 r2 =>
            refine ih { st1 with stack := t2 :: r2 }
              (fun e he => hreach1 e (by rw [hst1]; exact List.mem_cons_of_mem _ he)) (List.cons_ne_nil _ _) ?_
            rw [hst1] at hsp1
            exact Nat.le_of_succ_le_succ
              (Nat.le_trans (SP_tail_lt d.heap rank D t1 (t2 :: r2)) (Nat.le_trans hsp1 hsp))

/-- the potential of the initial stack is the fuel `GobEncode` is given -/
theorem SP_root_le (d : Dawg) (wf : WF d) (rank : Nat → Nat) (D : Nat) (hr : Ranked d rank D) :
    SP d.heap rank D [(d.root, 0)] ≤ Qp D (rank d.root + 1) := by
  obtain ⟨rn, hrn⟩ := wf.closed d.root Reach.root
  have hdeg : nLinks d.heap d.root ≤ D := by simp only [nLinks, hrn]; exact hr.deg d.root rn Reach.root hrn
  have := Pot_le_Qp D (rank d.root) (nLinks d.heap d.root - 0) (by omega)
  rw [SP_cons, SP_nil]
  exact this

theorem listNodes_total (d : Dawg) (wf : WF d) (rank : Nat → Nat) (D : Nat) (hr : Ranked d rank D) :
    ∃ L, listNodes (Qp D (rank d.root + 1)) d = .ok L := by
  obtain ⟨rn, hrn⟩ := wf.closed d.root Reach.root
  obtain ⟨r, hres⟩ := dfsLoop_total d wf rank D hr none (Qp D (rank d.root + 1))
    { nodes := [rn.id], stack := [(d.root, 0)], out := #[] }
    (by intro e he; simp at he; subst he; exact Reach.root) (by simp) (SP_root_le d wf rank D hr)
  exact ⟨r.nodes, by simp only [listNodes, getNode_of_some hrn, hres]⟩

theorem gobEncode_total (d : Dawg) (wf : WF d) (rank : Nat → Nat) (D : Nat) (hr : Ranked d rank D) :
    ∃ bs, gobEncode (Qp D (rank d.root + 1)) d = .ok bs := by
  obtain ⟨rn, hrn⟩ := wf.closed d.root Reach.root
  obtain ⟨L, hL⟩ := listNodes_total d wf rank D hr
  obtain ⟨rr, hrr⟩ := encRecord_ok d wf (searchGE L) Reach.root hrn
  obtain ⟨r, hres⟩ := dfsLoop_total d wf rank D hr (some (searchGE L)) (Qp D (rank d.root + 1))
    ⟨List.replicate L.length 0, [(d.root, 0)], (encodeUint64 L.length ++ List.flatMap encodeUint64 L ++ rr).toArray⟩
    (by intro e he; simp at he; subst he; exact Reach.root) (by simp) (SP_root_le d wf rank D hr)
  exact ⟨r.out.toList, by simp only [gobEncode, hL, getNode_of_some hrn, hrr, hres]⟩

theorem dfsLoop_mono (emit : Option (Nat → Nat)) (h : Heap) :
    ∀ (f : Nat) (st r : DfsSt), dfsLoop emit h f st = .ok r → ∀ k, dfsLoop emit h (f + k) st = .ok r := by
  intro f
  induction f with
  | zero => intro st r hres; simp [dfsLoop] at hres
  | succ f ih =>
    intro st r hres k
    rw [Nat.add_right_comm f 1 k]
    simp only [dfsLoop] at hres ⊢
    cases hst : st.stack with
    | nil => rw [hst] at hres; cases hres
    | cons top rest =>
      obtain ⟨p, nxt⟩ := top
      rw [hst] at hres
      simp only at hres ⊢
      cases hg : getNode h p with
      | panic => rw [hg] at hres; cases hres
      | outOfFuel => rw [hg] at hres; cases hres
      | ok T =>
        rw [hg] at hres
        simp only at hres ⊢
        cases hin : dfsInner emit h T (List.drop nxt T.labels) nxt st with
        | panic => rw [hin] at hres; cases hres
        | outOfFuel => rw [hin] at hres; cases hres
        | ok res =>
          obtain ⟨st1, b⟩ := res
          rw [hin] at hres
          cases b with
          | true => simp only at hres ⊢; exact ih st1 r hres k
          | false =>
            simp only at hres ⊢
            cases hst1 : st1.stack with
            | nil => rw [hst1] at hres; cases hres
            | cons t1 r1 =>
              rw [hst1] at hres
              cases r1 with
              | nil => exact hres
              | cons t2 r2 => simp only at hres ⊢; exact ih _ r hres k

theorem listNodes_mono (d : Dawg) (f : Nat) (L : List Nat) (hres : listNodes f d = .ok L) (k : Nat) :
    listNodes (f + k) d = .ok L := by
  unfold listNodes at hres ⊢
  cases hg : getNode d.heap d.root with
  | panic => rw [hg] at hres; cases hres
  | outOfFuel => rw [hg] at hres; cases hres
  | ok rn =>
    rw [hg] at hres
    simp only at hres ⊢
    cases hl : dfsLoop none d.heap f { nodes := [rn.id], stack := [(d.root, 0)], out := #[] } with
    | panic => rw [hl] at hres; cases hres
    | outOfFuel => rw [hl] at hres; cases hres
    | ok st =>
      rw [hl] at hres
      rw [dfsLoop_mono none d.heap f _ st hl k]
      exact hres

theorem gobEncode_mono (d : Dawg) (f : Nat) (bs : List Nat) (hres : gobEncode f d = .ok bs) (k : Nat) :
    gobEncode (f + k) d = .ok bs := by
  unfold gobEncode at hres ⊢
  cases hL : listNodes f d with
  | panic => rw [hL] at hres; cases hres
  | outOfFuel => rw [hL] at hres; cases hres
  | ok L =>
    rw [hL] at hres
    rw [listNodes_mono d f L hL k]
    simp only at hres ⊢
    cases hg : getNode d.heap d.root with
    | panic => rw [hg] at hres; cases hres
    | outOfFuel => rw [hg] at hres; cases hres
    | ok rn =>
      rw [hg] at hres
      simp only at hres ⊢
      cases hr : encRecord d.heap (searchGE L) rn with
      | panic => rw [hr] at hres; cases hres
      | outOfFuel => rw [hr] at hres; cases hres
      | ok r =>
        rw [hr] at hres
        simp only at hres ⊢
        cases hl : dfsLoop (some (searchGE L)) d.heap f
            ⟨List.replicate L.length 0, [(d.root, 0)], (encodeUint64 L.length ++ List.flatMap encodeUint64 L ++ r).toArray⟩ with
        | panic => rw [hl] at hres; cases hres
        | outOfFuel => rw [hl] at hres; cases hres
        | ok st =>
          rw [hl] at hres
          rw [dfsLoop_mono _ d.heap f _ st hl k]
          exact hres

end Dawg
