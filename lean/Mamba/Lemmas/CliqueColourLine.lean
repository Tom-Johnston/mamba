import Mamba.Lemmas.CliqueColourCert
/-! C09: the line graph — edge colourings of `g` = vertex colourings of `lineGraph g`. -/
namespace CliqueColour
open GraphSpec

theorem share_comm (e f : Nat × Nat) : share e f = share f e := by
  simp only [share]
  rw [BEq.comm (a := f.1) (b := e.1), BEq.comm (a := f.1) (b := e.2), BEq.comm (a := f.2) (b := e.1),
    BEq.comm (a := f.2) (b := e.2), Bool.or_right_comm (e.1 == f.1)]

theorem lineGraph_n (g : G) : (lineGraph g).n = g.edges.length := rfl

theorem lineGraph_adj (g : G) (i j : Nat) :
    (lineGraph g).adj i j =
      (i != j && decide (i < g.edges.length) && decide (j < g.edges.length) &&
        share (g.edges.getD i (0, 0)) (g.edges.getD j (0, 0))) := rfl

theorem lineGraph_wf (g : G) : (lineGraph g).WF where
  symm := fun u v => by
    rw [lineGraph_adj, lineGraph_adj, share_comm, bne_comm, Bool.and_right_comm (v != u)]
  irrefl := fun v => by rw [lineGraph_adj]; simp
  supp := fun u v h => by
    rw [lineGraph_adj] at h
    simp only [Bool.and_eq_true, decide_eq_true_eq] at h
    exact ⟨h.1.1.2, h.1.2⟩

theorem edge_getD {g : G} {i : Nat} (hi : i < g.edges.length) :
    g.edges.getD i (0, 0) ∈ g.edges := by
  rw [List.getD_eq_getElem?_getD, List.getElem?_eq_getElem hi, Option.getD_some]
  exact List.getElem_mem hi

theorem edge_getD_inj {g : G} {i j : Nat} (hi : i < g.edges.length) (hj : j < g.edges.length)
    (h : g.edges.getD i (0, 0) = g.edges.getD j (0, 0)) : i = j := by
  rw [List.getD_eq_getElem?_getD, List.getElem?_eq_getElem hi, List.getD_eq_getElem?_getD,
    List.getElem?_eq_getElem hj, Option.getD_some, Option.getD_some] at h
  exact (List.Nodup.getElem_inj_iff (G.nodup_edges g)).1 h

def opair (u v : Nat) : Nat × Nat := (min u v, max u v)

theorem opair_comm (u v : Nat) : opair u v = opair v u := by
  rw [opair, opair, Nat.min_comm, Nat.max_comm]

theorem opair_of_lt {u v : Nat} (h : u < v) : opair u v = (u, v) := by
  rw [opair, Nat.min_eq_left (Nat.le_of_lt h), Nat.max_eq_right (Nat.le_of_lt h)]

theorem opair_mem {g : G} (hw : g.WF) {u v : Nat} (ha : g.adj u v = true) : opair u v ∈ g.edges := by
  have hs := hw.supp u v ha
  have hne : u ≠ v := by
    intro h; subst h; rw [hw.irrefl] at ha; cases ha
  rcases Nat.lt_or_gt_of_ne hne with h | h
  · rw [opair_of_lt h]
    exact G.mem_edges.2 ⟨h, hs.2, ha⟩
  · rw [opair_comm, opair_of_lt h]
    exact G.mem_edges.2 ⟨h, hs.1, by rw [hw.symm]; exact ha⟩

theorem getD_idxOf_edge {g : G} {e : Nat × Nat} (h : e ∈ g.edges) : g.edges.getD (g.edges.idxOf e) (0, 0) = e := by
  rw [List.getD_eq_getElem?_getD, List.getElem?_eq_getElem (List.idxOf_lt_length_of_mem h), Option.getD_some,
    List.getElem_idxOf]

theorem opair_left_inj {u v w : Nat} (h : opair u v = opair u w) : v = w := by
  simp only [opair, Prod.mk.injEq] at h
  omega

theorem share_opair (u v w : Nat) : share (opair u v) (opair u w) = true := by
  rcases Nat.le_total u v with h1 | h1 <;> rcases Nat.le_total u w with h2 | h2 <;>
    simp only [share, opair, Nat.min_eq_left, Nat.min_eq_right, Nat.max_eq_left, Nat.max_eq_right, h1, h2,
      beq_self_eq_true, Bool.true_or, Bool.or_true]

theorem lineGraph_adj_opair {g : G} (hw : g.WF) {u v w : Nat} (hne : v ≠ w) (ha1 : g.adj u v = true)
    (ha2 : g.adj u w = true) :
    (lineGraph g).adj (g.edges.idxOf (opair u v)) (g.edges.idxOf (opair u w)) = true := by
  have h1 := opair_mem hw ha1
  have h2 := opair_mem hw ha2
  have hidx : g.edges.idxOf (opair u v) ≠ g.edges.idxOf (opair u w) := fun h =>
    hne (opair_left_inj (by rw [← getD_idxOf_edge h1, ← getD_idxOf_edge h2, h]))
  rw [lineGraph_adj, getD_idxOf_edge h1, getD_idxOf_edge h2, share_opair, Bool.and_true,
    decide_eq_true (List.idxOf_lt_length_of_mem h1), decide_eq_true (List.idxOf_lt_length_of_mem h2),
    Bool.and_true, Bool.and_true]
  exact bne_iff_ne.2 hidx

theorem edgeColourable_of_lineColourable {g : G} (hw : g.WF) {k : Nat} (h : Colourable (lineGraph g) k) :
    EdgeColourable g k := by
  obtain ⟨f, hp, hk⟩ := h
  refine ⟨fun u v => f (g.edges.idxOf (opair u v)), fun u v => by simp only [opair_comm],
    fun u v _ _ ha => ?_, fun u v w _ _ _ hne ha1 ha2 => ?_⟩
  · exact hk _ (List.idxOf_lt_length_of_mem (opair_mem hw ha))
  · exact hp _ _ (List.idxOf_lt_length_of_mem (opair_mem hw ha1)) (List.idxOf_lt_length_of_mem (opair_mem hw ha2))
      (lineGraph_adj_opair hw hne ha1 ha2)

theorem lineColourable_of_edgeColourable {g : G} (hw : g.WF) {k : Nat} (h : EdgeColourable g k) :
    Colourable (lineGraph g) k := by
  obtain ⟨ec, hsym, hk, hp⟩ := h
  refine ⟨fun i => ec (g.edges.getD i (0, 0)).1 (g.edges.getD i (0, 0)).2, fun i j hi hj ha => ?_, fun i hi => ?_⟩
  · rw [lineGraph_n] at hi hj
    rw [lineGraph_adj] at ha
    simp only [Bool.and_eq_true, bne_iff_ne, ne_eq, decide_eq_true_eq] at ha
    obtain ⟨⟨⟨hne, _⟩, _⟩, hsh⟩ := ha
    have hm1 := edge_getD hi
    have hm2 := edge_getD hj
    have hpne : g.edges.getD i (0, 0) ≠ g.edges.getD j (0, 0) := fun h => hne (edge_getD_inj hi hj h)
    show ec (g.edges.getD i (0, 0)).1 (g.edges.getD i (0, 0)).2 ≠
      ec (g.edges.getD j (0, 0)).1 (g.edges.getD j (0, 0)).2
    generalize g.edges.getD i (0, 0) = e at *
    generalize g.edges.getD j (0, 0) = e' at *
    obtain ⟨a, b⟩ := e
    obtain ⟨c, d⟩ := e'
    rw [G.mem_edges] at hm1 hm2
    obtain ⟨hab, hbn, hadj1⟩ := hm1
    obtain ⟨hcd, hdn, hadj2⟩ := hm2
    simp only [share, Bool.or_eq_true, beq_iff_eq] at hsh
    have hadj1' : g.adj b a = true := by rw [hw.symm]; exact hadj1
    have hadj2' : g.adj d c = true := by rw [hw.symm]; exact hadj2
    have hne' : ¬ (a = c ∧ b = d) := fun h => hpne (by rw [h.1, h.2])
    show ec a b ≠ ec c d
    have han : a < g.n := Nat.lt_trans hab hbn
    have hcn : c < g.n := Nat.lt_trans hcd hdn
    rcases hsh with ((h | h) | h) | h
    · subst h
      exact hp a b d han hbn hdn (fun e => hne' ⟨rfl, e⟩) hadj1 hadj2
    · subst h
      rw [hsym c a]
      exact hp a b c han hbn hcn (Nat.ne_of_gt (Nat.lt_trans hcd hab)) hadj1 hadj2'
    · subst h
      rw [hsym a b]
      exact hp b a d hbn han hdn (Nat.ne_of_lt (Nat.lt_trans hab hcd)) hadj1' hadj2
    · subst h
      rw [hsym a b, hsym c b]
      exact hp b a c hbn han hcn (fun e => hne' ⟨e, rfl⟩) hadj1' hadj2'
  · rw [lineGraph_n] at hi
    have hm := edge_getD hi
    show ec (g.edges.getD i (0, 0)).1 (g.edges.getD i (0, 0)).2 < k
    generalize g.edges.getD i (0, 0) = e at *
    obtain ⟨a, b⟩ := e
    rw [G.mem_edges] at hm
    exact hk a b (Nat.lt_trans hm.1 hm.2.1) hm.2.1 hm.2.2

theorem edgeColourable_iff {g : G} (hw : g.WF) (k : Nat) :
    EdgeColourable g k ↔ Colourable (lineGraph g) k :=
  ⟨lineColourable_of_edgeColourable hw, edgeColourable_of_lineColourable hw⟩

end CliqueColour
