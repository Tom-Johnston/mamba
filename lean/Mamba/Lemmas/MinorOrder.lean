import Mamba.Lemmas.MinorExec
/-!
# The minor relation is reflexive and transitive; subgraphs and isomorphic copies are minors (property C11)
-/
namespace Minor
open GraphSpec

theorem ofG_adj (g : G) (u v : Nat) : (ofG g).adj u v = (g.adj u v || g.adj v u) := rfl

theorem PG.Conn.coarsen {p : PG} {f F : Nat → Nat} {k c : Nat} (h : ∀ x, p.V x → f x = k → F x = c)
    {u w : Nat} (hc : p.Conn f k u w) : p.Conn F c u w := by
  have := PG.Conn.map (p := p) (p' := p) (f := f) (f' := F) (c := k) (c' := c) (fun z => z)
    (fun v hv hf => ⟨hv, h v hv hf⟩) (fun u v _ _ _ _ ha => Or.inr ha) hc
  exact this

theorem IsModel.trans {p : PG} {K H : G} {f f2 : Nat → Nat} (hs : p.Sym)
    (h1 : IsModel p K f) (h2 : IsModel (ofG K) H f2) :
    IsModel p H (fun v => if f v < K.n ∧ f2 (f v) < H.n then f2 (f v) else H.n) := by
  set F : Nat → Nat := fun v => if f v < K.n ∧ f2 (f v) < H.n then f2 (f v) else H.n with hF
  have hFv : ∀ v, f v < K.n → f2 (f v) < H.n → F v = f2 (f v) := by
    intro v a b; simp [hF, a, b]
  have hFlt : ∀ v, F v < H.n → f v < K.n ∧ f2 (f v) < H.n ∧ F v = f2 (f v) := by
    intro v hv
    by_cases hc : f v < K.n ∧ f2 (f v) < H.n
    · exact ⟨hc.1, hc.2, hFv v hc.1 hc.2⟩
    · simp [hF, hc] at hv
  have hKedge : ∀ k a, k < K.n → a < K.n → k ≠ a → (ofG K).adj k a = true →
      ∃ x y, p.V x ∧ p.V y ∧ f x = k ∧ f y = a ∧ p.adj x y = true := by
    intro k a hk ha hne hadj
    rw [ofG_adj, Bool.or_eq_true] at hadj
    rcases hadj with hadj | hadj
    · exact h1.edge k a hk ha hne hadj
    · obtain ⟨y, x, hy, hx, hfy, hfx, hyx⟩ := h1.edge a k ha hk (Ne.symm hne) hadj
      exact ⟨x, y, hx, hy, hfx, hfy, by rw [hs]; exact hyx⟩
  have hpath : ∀ c, c < H.n → ∀ k1 k2, (ofG K).Conn f2 c k1 k2 →
      ∀ u v, p.V u → p.V v → f u = k1 → f v = k2 → p.Conn F c u v := by
    intro c hc k1 k2 hconn
    induction hconn with
    | @refl k hk hfk =>
      intro u v hu hv hfu hfv
      have hk' : k < K.n := (ofG_V K k).1 hk
      have := h1.conn u v hu hv (hfu ▸ hk') (by rw [hfu, hfv])
      rw [hfu] at this
      refine this.coarsen ?_
      intro x _ hfx
      rw [hFv x (hfx ▸ hk') (by rw [hfx, hfk]; exact hc), hfx, hfk]
    | @step k a k2 hk hfk hadj hrest ih =>
      intro u v hu hv hfu hfv
      have hk' : k < K.n := (ofG_V K k).1 hk
      have ha' : a < K.n := (ofG_V K a).1 hrest.left.1
      by_cases hka : k = a
      · subst hka; exact ih u v hu hv hfu hfv
      · obtain ⟨x, y, hx, hy, hfx, hfy, hxy⟩ := hKedge k a hk' ha' hka hadj
        have hcl : ∀ z, p.V z → f z = k → F z = c := by
          intro z _ hfz
          rw [hFv z (hfz ▸ hk') (by rw [hfz, hfk]; exact hc), hfz, hfk]
        have c1 : p.Conn F c u x := by
          have := h1.conn u x hu hx (hfu ▸ hk') (by rw [hfu, hfx])
          rw [hfu] at this
          exact this.coarsen hcl
        have c2 : p.Conn F c y v := ih y v hy hv hfy hfv
        exact c1.trans (.step hx (hcl x hx hfx) hxy c2)
  refine ⟨?_, ?_, ?_⟩
  · intro h hh
    obtain ⟨k, hk, hfk⟩ := h2.nonempty h hh
    have hk' : k < K.n := (ofG_V K k).1 hk
    obtain ⟨v, hv, hfv⟩ := h1.nonempty k hk'
    exact ⟨v, hv, by rw [hFv v (hfv ▸ hk') (by rw [hfv, hfk]; exact hh), hfv, hfk]⟩
  · intro u v hu hv hlt heq
    obtain ⟨a1, a2, a3⟩ := hFlt u hlt
    obtain ⟨b1, b2, b3⟩ := hFlt v (heq ▸ hlt)
    have hc := h2.conn (f u) (f v) ((ofG_V K _).2 a1) ((ofG_V K _).2 b1) a2 (by rw [← a3, ← b3, heq])
    rw [← a3] at hc
    exact hpath (F u) hlt _ _ hc u v hu hv rfl rfl
  · intro h h' hh hh' hne hadj
    obtain ⟨k, k', hk, hk', hfk, hfk', hkk⟩ := h2.edge h h' hh hh' hne hadj
    have hk1 : k < K.n := (ofG_V K k).1 hk
    have hk2 : k' < K.n := (ofG_V K k').1 hk'
    have hne' : k ≠ k' := by
      rintro rfl
      exact hne (hfk.symm.trans hfk')
    obtain ⟨x, y, hx, hy, hfx, hfy, hxy⟩ := hKedge k k' hk1 hk2 hne' hkk
    refine ⟨x, y, hx, hy, ?_, ?_, hxy⟩
    · rw [hFv x (hfx ▸ hk1) (by rw [hfx, hfk]; exact hh), hfx, hfk]
    · rw [hFv y (hfy ▸ hk2) (by rw [hfy, hfk']; exact hh'), hfy, hfk']

theorem hasMinor_trans' {g K H : G} (h1 : HasMinor g K) (h2 : HasMinor K H) : HasMinor g H := by
  obtain ⟨f, hf⟩ := h1
  obtain ⟨f2, hf2⟩ := h2
  exact ⟨_, hf.trans (ofG_sym g) hf2⟩

theorem hasMinor_of_subgraph {K g : G} (h : IsSubgraph K g) : HasMinor g K := by
  obtain ⟨ι, hι⟩ := h
  refine ⟨_, model_of_images ((List.range K.n).map ι) (by simp) ?_ ?_ ?_⟩
  · refine List.Nodup.map_on ?_ List.nodup_range
    intro x hx y hy hxy
    exact hι.inj x y (List.mem_range.1 hx) (List.mem_range.1 hy) hxy
  · intro x hx
    obtain ⟨a, ha, rfl⟩ := List.mem_map.1 hx
    exact (ofG_V g _).2 (hι.maps a (List.mem_range.1 ha))
  · intro i j hi hj _ hadj
    have e1 : ((List.range K.n).map ι).getD i 0 = ι i := by simp [List.getD_eq_getElem?_getD, hi]
    have e2 : ((List.range K.n).map ι).getD j 0 = ι j := by simp [List.getD_eq_getElem?_getD, hj]
    rw [e1, e2, ofG_adj]
    exact hι.adj i j hi hj (by rw [hadj]; rfl)

theorem hasMinor_refl' (g : G) : HasMinor g g :=
  hasMinor_of_subgraph ⟨fun a => a, ⟨fun _ h => h, fun _ _ _ _ h => h, fun _ _ _ _ h => h⟩⟩

theorem isSubgraph_of_iso {g g' : G} (h : Iso g g') : IsSubgraph g g' := by
  obtain ⟨ι, κ, hi⟩ := h
  refine ⟨ι, ⟨fun a ha => (hi.fwd a ha).1, ?_, ?_⟩⟩
  · intro a b ha hb hab
    rw [← (hi.fwd a ha).2, ← (hi.fwd b hb).2, hab]
  · intro a b ha hb hadj
    rw [← hi.adj a b ha hb]; exact hadj

theorem iso_symm {g g' : G} (h : Iso g g') : Iso g' g := by
  obtain ⟨ι, κ, hi⟩ := h
  refine ⟨κ, ι, ⟨hi.bwd, hi.fwd, ?_⟩⟩
  intro a b ha hb
  have := hi.adj (κ a) (κ b) (hi.bwd a ha).1 (hi.bwd b hb).1
  rw [(hi.bwd a ha).2, (hi.bwd b hb).2] at this
  exact this.symm

/-- relabelling by a permutation list (`InducedSubgraph(π)` / `EG.Relabel` in the harness) is an isomorphism -/
theorem iso_induced_perm (g : G) (π : List Nat) (hπ : π.Perm (List.range g.n)) : Iso (g.induced π) g := by
  have hlen : π.length = g.n := by rw [hπ.length_eq, List.length_range]
  have hnd : π.Nodup := hπ.nodup_iff.2 List.nodup_range
  have hget : ∀ i (hi : i < π.length), π.getD i 0 = π[i] := by
    intro i hi; simp [List.getD_eq_getElem?_getD, hi]
  refine ⟨fun i => π.getD i 0, fun v => π.idxOf v, ⟨?_, ?_, ?_⟩⟩
  · intro a ha
    have ha' : a < π.length := ha
    constructor
    · have : π[a] ∈ List.range g.n := hπ.mem_iff.1 (List.getElem_mem ha')
      rw [hget a ha']; exact List.mem_range.1 this
    · simp only [hget a ha']; exact hnd.idxOf_getElem a ha'
  · intro b hb
    have hmem : b ∈ π := hπ.mem_iff.2 (List.mem_range.2 hb)
    have hlt : π.idxOf b < π.length := List.idxOf_lt_length_iff.2 hmem
    refine ⟨hlt, ?_⟩
    simp only [hget _ hlt]; exact List.getElem_idxOf hlt
  · intro a b ha hb
    have ha' : a < π.length := ha
    have hb' : b < π.length := hb
    simp [G.induced, ha', hb']

end Minor
