import Mamba.Lemmas.SortIntsBasic
/-! Lemmas for C17: `NewSortedInts`.  The in-place de-duplication loop computes `dropRepeats` on any buffer
(`dedupLoop_refines`); that `dropRepeats` of a sorted list is the canonical representation of its elements is a fact
about lists (`dropRepeats_spec`), which `Add` uses as well. -/
namespace SortInts

theorem sortInts_perm (l : List Int) : (sortInts l).Perm l := List.mergeSort_perm l _

theorem sortInts_sorted (l : List Int) : (sortInts l).Pairwise (· ≤ ·) := by
  have := List.pairwise_mergeSort (le := fun a b : Int => decide (a ≤ b))
    (by intro a b c; simp; omega) (by intro a b; simp; omega) l
  unfold sortInts
  simpa using this

theorem mem_sortInts (l : List Int) (x : Int) : x ∈ sortInts l ↔ x ∈ l := (sortInts_perm l).mem_iff

theorem length_sortInts (l : List Int) : (sortInts l).length = l.length := (sortInts_perm l).length_eq

/-- `l` without the elements equal to their predecessor (`prev` stands before `l`) -/
def dropRepeats : Option Int → List Int → List Int
  | _, [] => []
  | prev, c :: r => if prev = some c then dropRepeats (some c) r else c :: dropRepeats (some c) r

theorem dropRepeats_spec : ∀ (l : List Int) (prev : Option Int), l.Pairwise (· ≤ ·) →
    (∀ p, prev = some p → ∀ y ∈ l, p ≤ y) →
    SS (dropRepeats prev l) ∧ (∀ p, prev = some p → ∀ y ∈ dropRepeats prev l, p < y) ∧
      ∀ y, y ∈ dropRepeats prev l ↔ y ∈ l ∧ prev ≠ some y
  | [], prev, _, _ => ⟨List.Pairwise.nil, fun _ _ _ h => absurd h List.not_mem_nil, fun y => by simp [dropRepeats]⟩
  | c :: r, prev, h, hprev => by
    obtain ⟨hc, hr⟩ := List.pairwise_cons.mp h
    obtain ⟨ih1, ih2, ih3⟩ := dropRepeats_spec r (some c) hr (fun p hp y hy => by cases hp; exact hc y hy)
    rw [dropRepeats]
    have hmem : ∀ y, y ∈ c :: dropRepeats (some c) r ↔ y ∈ c :: r := fun y => by
      rw [List.mem_cons, ih3, List.mem_cons]
      exact ⟨fun h => h.elim Or.inl fun h => Or.inr h.1, fun h => h.elim Or.inl fun h =>
        if e : y = c then Or.inl e else Or.inr ⟨h, fun e' => e (Option.some.inj e').symm⟩⟩
    by_cases heq : prev = some c
    · rw [if_pos heq]
      refine ⟨ih1, fun p hp y hy => by cases hp.symm.trans heq; exact ih2 c rfl y hy, fun y => ?_⟩
      rw [ih3, List.mem_cons, heq]
      exact ⟨fun h => ⟨Or.inr h.1, h.2⟩, fun h => ⟨h.1.resolve_left fun e => h.2 (e ▸ rfl), h.2⟩⟩
    · rw [if_neg heq]
      refine ⟨List.pairwise_cons.mpr ⟨ih2 c rfl, ih1⟩, fun p hp y hy => ?_, fun y => ?_⟩
      · have hpc : p < c := by
          have := hprev p hp c List.mem_cons_self
          have : p ≠ c := fun e => heq (e ▸ hp)
          omega
        rcases List.mem_cons.mp hy with rfl | hy
        · exact hpc
        · exact Int.lt_trans hpc (ih2 c rfl y hy)
      · rw [hmem]
        refine ⟨fun h => ⟨h, fun e => heq ?_⟩, fun h => h.1⟩
        have h1 := hprev y e c List.mem_cons_self
        have h2 : c ≤ y := (List.mem_cons.mp h).elim (fun e => Int.le_of_eq e.symm) (hc y)
        rw [e, Int.le_antisymm h1 h2]

/-- The de-duplication loop on any buffer `P ++ G ++ R`: `P` is the prefix rewritten so far, `G` (of length `nr`) the cells
given up, `R` what is still to be read, `p` the element read last. -/
theorem dedupLoop_refines : ∀ (R P G : List Int) (p : Int) (i nr : Int), (P ++ G).getLast? = some p →
    i = ((P ++ G).length : Nat) → nr = (G.length : Nat) →
    ∃ G', dedupLoop R.length (P ++ G ++ R) i nr = .ok (P ++ dropRepeats (some p) R ++ G', (G'.length : Nat)) := by
  intro R
  induction R with
  | nil => intro P G p i nr _ _ hnr; exact ⟨G, by simp [dedupLoop, dropRepeats, hnr]⟩
  | cons c R ih =>
    intro P G p i nr hp hi hnr
    obtain ⟨L, hL⟩ := List.getLast?_eq_some_iff.mp hp
    have hprev : getI (P ++ G ++ c :: R) (i - 1) = some p := by
      rw [hL, List.append_assoc, List.singleton_append]
      exact (show i - 1 = (L.length : Int) by rw [hi, hL]; simp) ▸ getI_append_mid L p _
    have hcur : getI (P ++ G ++ c :: R) i = some c := hi ▸ getI_append_mid _ c R
    rw [List.length_cons, dedupLoop]
    simp only [hprev, hcur]
    by_cases heq : p = c
    · rw [if_pos heq]
      obtain ⟨G', h1⟩ := ih P (G ++ [c]) c (i + 1) (nr + 1) (by rw [← List.append_assoc, List.getLast?_concat])
        (by rw [hi]; simp only [List.length_append, List.length_singleton]; omega) (by rw [hnr]; simp)
      have e : P ++ (G ++ [c]) ++ R = P ++ G ++ c :: R := by simp
      rw [e] at h1
      exact ⟨G', by rw [h1, dropRepeats, if_pos (congrArg some heq)]⟩
    · rw [if_neg heq]
      -- the cell written is the first of `G`, or the cell just read if nothing has been given up
      obtain ⟨G1, hset, hlen⟩ : ∃ G1, setI (P ++ G ++ c :: R) (i - nr) c = some (P ++ [c] ++ G1 ++ R) ∧
          G1.length = G.length ∧ (P ++ [c] ++ G1).getLast? = some c := by
        have hw : i - nr = (P.length : Nat) := by rw [hi, hnr, List.length_append]; omega
        cases G with
        | nil => exact ⟨[], by rw [hw, List.append_nil, setI_append_mid]; simp, rfl, by simp⟩
        | cons g G0 =>
          refine ⟨G0 ++ [c], ?_, by simp, by rw [← List.append_assoc, List.getLast?_concat]⟩
          rw [hw, List.append_assoc, List.cons_append, setI_append_mid]; simp
      rw [hset]
      simp only
      obtain ⟨G', h1⟩ := ih (P ++ [c]) G1 c (i + 1) nr hlen.2
        (by rw [hi]; simp [hlen.1]; omega) (by rw [hnr, hlen.1])
      exact ⟨G', by rw [h1, dropRepeats, if_neg fun h => heq (Option.some.inj h)]; simp⟩

theorem newSortedInts_eq (x : List Int) : newSortedInts x = .ok (dropRepeats none (sortInts x)) := by
  unfold newSortedInts
  cases sortInts x with
  | nil => simp [dedupLoop, sliceI, dropRepeats]
  | cons a t =>
    obtain ⟨G', hrun⟩ := dedupLoop_refines t [a] [] a 1 0 rfl rfl rfl
    simp only [List.length_cons, Nat.add_sub_cancel]
    rw [List.append_nil, List.singleton_append] at hrun
    simp only [hrun]
    rw [sliceI_prefix _ G' (by rw [List.length_append]; omega), dropRepeats, if_neg nofun]
    rfl

end SortInts
