import Mamba.Lemmas.MinorOrder
import Mathlib.Tactic.IntervalCases
/-!
# Vertices of degree at most two cannot matter for minors of minimum degree three (property C11)

Consequences: subdividing an edge, adding an isolated vertex, adding a pendant vertex do not change whether
K5 / K3,3 is a minor.
-/
namespace Minor
open GraphSpec

def MinDeg3 (H : G) : Prop :=
  ∀ c, c < H.n → ∃ h1 h2 h3, h1 < H.n ∧ h2 < H.n ∧ h3 < H.n ∧ h1 ≠ c ∧ h2 ≠ c ∧ h3 ≠ c ∧
    h1 ≠ h2 ∧ h1 ≠ h3 ∧ h2 ≠ h3 ∧ H.adj c h1 = true ∧ H.adj c h2 = true ∧ H.adj c h3 = true

theorem K5_minDeg3 : MinDeg3 K5 := by
  intro c hc
  have hc' : c < 5 := hc
  interval_cases c
  · exact ⟨1, 2, 3, by decide⟩
  · exact ⟨0, 2, 3, by decide⟩
  · exact ⟨0, 1, 3, by decide⟩
  · exact ⟨0, 1, 2, by decide⟩
  · exact ⟨0, 1, 2, by decide⟩

theorem K33_minDeg3 : MinDeg3 K33 := by
  intro c hc
  have hc' : c < 6 := hc
  interval_cases c
  · exact ⟨3, 4, 5, by decide⟩
  · exact ⟨3, 4, 5, by decide⟩
  · exact ⟨3, 4, 5, by decide⟩
  · exact ⟨0, 1, 2, by decide⟩
  · exact ⟨0, 1, 2, by decide⟩
  · exact ⟨0, 1, 2, by decide⟩

theorem not_three_in_two {A B x y z : Nat} (hx : x = A ∨ x = B) (hy : y = A ∨ y = B) (hz : z = A ∨ z = B)
    (hxy : x ≠ y) (hxz : x ≠ z) (hyz : y ≠ z) : False := by
  omega

theorem lowdeg_elim {p : PG} {H : G} {f : Nat → Nat} {w u v : Nat} (hH : MinDeg3 H) (hm : IsModel p H f)
    (hw : p.V w) (hN : ∀ x, p.V x → p.adj w x = true → x = u ∨ x = v) :
    HasMinorP (p.delV w) H ∨
    (p.V u ∧ u ≠ w ∧ p.adj w u = true ∧ HasMinorP (p.contract u w) H) ∨
    (p.V v ∧ v ≠ w ∧ p.adj w v = true ∧ HasMinorP (p.contract v w) H) := by
  by_cases hun : H.n ≤ f w
  · exact Or.inl ⟨f, hm.delV hun⟩
  · have hlt : f w < H.n := by omega
    right
    by_cases hex : ∃ y, p.V y ∧ f y = f w ∧ y ≠ w
    · obtain ⟨y, hy, hfy, hyw⟩ := hex
      have hc := hm.conn w y hw hy hlt hfy.symm
      obtain ⟨x, hx, hfx, hxw, hadj⟩ := hc.exists_nbr (Ne.symm hyw)
      rcases hN x hx hadj with rfl | rfl
      · exact Or.inl ⟨hx, hxw, hadj, ⟨f, hm.contract hx hxw hfx⟩⟩
      · exact Or.inr ⟨hx, hxw, hadj, ⟨f, hm.contract hx hxw hfx⟩⟩
    · exfalso
      have hsing : ∀ a, p.V a → f a = f w → a = w := by
        intro a ha hfa
        by_contra hne
        exact hex ⟨a, ha, hfa, hne⟩
      obtain ⟨h1, h2, h3, l1, l2, l3, n1, n2, n3, d12, d13, d23, a1, a2, a3⟩ := hH (f w) hlt
      have key : ∀ h, h < H.n → h ≠ f w → H.adj (f w) h = true → h = f u ∨ h = f v := by
        intro h hh hne hadj
        obtain ⟨a, b, ha, hb, hfa, hfb, hab⟩ := hm.edge (f w) h hlt hh (Ne.symm hne) hadj
        have := hsing a ha hfa
        subst this
        rcases hN b hb hab with rfl | rfl
        · exact Or.inl hfb.symm
        · exact Or.inr hfb.symm
      exact not_three_in_two (key h1 l1 n1 a1) (key h2 l2 n2 a2) (key h3 l3 n3 a3) d12 d13 d23

theorem delV_sub_of {p q : PG} {w : Nat} (hV : ∀ x, p.V x → x ≠ w → q.V x)
    (hold : ∀ x y, p.V x → p.V y → x ≠ w → y ≠ w → p.adj x y = true → q.adj x y = true) : (p.delV w).Sub q :=
  ⟨fun x hx => hV x (delV_V.1 hx).1 (delV_V.1 hx).2, fun x y hx hy _ h =>
    hold x y (delV_V.1 hx).1 (delV_V.1 hy).1 (delV_V.1 hx).2 (delV_V.1 hy).2 h⟩

theorem contract_sub_of {p q : PG} {c w : Nat} (hp : p.Sym) (hq : q.Sym) (hV : ∀ x, p.V x → x ≠ w → q.V x)
    (hold : ∀ x y, p.V x → p.V y → x ≠ w → y ≠ w → p.adj x y = true → q.adj x y = true)
    (hnew : ∀ y, p.V y → y ≠ w → y ≠ c → p.adj w y = true → q.adj c y = true) : (p.contract c w).Sub q := by
  refine ⟨fun x hx => hV x (contract_V.1 hx).1 (contract_V.1 hx).2, fun x y hx hy hne h => ?_⟩
  obtain ⟨hx1, hx2⟩ := contract_V.1 hx
  obtain ⟨hy1, hy2⟩ := contract_V.1 hy
  simp only [PG.contract, Bool.and_eq_true, bne_iff_ne, ne_eq] at h
  obtain ⟨_, h⟩ := h
  by_cases hxc : x = c
  · subst hxc
    simp only [beq_self_eq_true, if_true, Bool.or_eq_true] at h
    rcases h with h | h
    · exact hold x y hx1 hy1 hx2 hy2 h
    · exact hnew y hy1 hy2 (Ne.symm hne) h
  · by_cases hyc : y = c
    · subst hyc
      simp only [beq_iff_eq, hxc, if_false, beq_self_eq_true, if_true, Bool.or_eq_true] at h
      rcases h with h | h
      · exact hold x y hx1 hy1 hx2 hy2 h
      · rw [hq x y]
        exact hnew x hx1 hx2 hxc (by rw [hp w x]; exact h)
    · simp only [beq_iff_eq, hxc, hyc, if_false] at h
      exact hold x y hx1 hy1 hx2 hy2 h

theorem ofG_V_old {g g' : G} (hn : g'.n = g.n + 1) {x : Nat} (hx : (ofG g').V x) (hne : x ≠ g.n) : (ofG g).V x := by
  rw [ofG_V] at hx ⊢
  rw [hn] at hx
  exact Nat.lt_of_le_of_ne (Nat.le_of_lt_succ hx) hne

theorem hasMinor_lowdeg_iff {g g' H : G} (hH : MinDeg3 H) (hn : g'.n = g.n + 1) {a b : Nat}
    (hN : ∀ x, (ofG g').adj g.n x = true → x = a ∨ x = b)
    (hold : ∀ x y, (ofG g').V x → (ofG g').V y → x ≠ g.n → y ≠ g.n → (ofG g').adj x y = true → (ofG g).adj x y = true)
    (hab : (ofG g').adj g.n a = true → (ofG g').adj g.n b = true → a ≠ b → (ofG g).adj a b = true)
    (hback : HasMinor g' g) : HasMinor g' H ↔ HasMinor g H := by
  refine ⟨?_, hasMinor_trans' hback⟩
  rintro ⟨f, hf⟩
  have hw : (ofG g').V g.n := (ofG_V _ _).2 (by rw [hn]; exact Nat.lt_succ_self _)
  -- contracting the new vertex into a neighbour `c` joins `c` to the other neighbour `d` only
  have hcon : ∀ c d, (∀ y, y ≠ c → (ofG g').adj g.n y = true → y = d) →
      ((ofG g').adj g.n c = true → (ofG g').adj g.n d = true → c ≠ d → (ofG g).adj c d = true) →
      (ofG g').adj g.n c = true → ((ofG g').contract c g.n).Sub (ofG g) := fun c d hd hcd hc =>
    contract_sub_of (ofG_sym g') (ofG_sym g) (fun _ => ofG_V_old hn) hold fun y _ _ hyc h => by
      have hyd := hd y hyc h
      subst hyd
      exact hcd hc h (Ne.symm hyc)
  rcases lowdeg_elim hH hf hw (fun x _ h => hN x h) with h | ⟨_, _, ha, h⟩ | ⟨_, _, hb, h⟩
  · exact h.of_sub (delV_sub_of (fun _ => ofG_V_old hn) hold)
  · exact h.of_sub (hcon a b (fun y hya h => (hN y h).resolve_left hya) hab ha)
  · exact h.of_sub (hcon b a (fun y hyb h => (hN y h).resolve_right hyb)
      (fun h1 h2 hne => by rw [ofG_sym g b a]; exact hab h2 h1 (Ne.symm hne)) hb)

theorem hasMinor_of_extend {g g' : G} (hn : g'.n = g.n + 1)
    (hkeep : ∀ x y, x < g.n → y < g.n → (ofG g).adj x y = true → (ofG g').adj x y = true) : HasMinor g' g :=
  hasMinor_of_subgraph ⟨fun x => x, fun _ hx => by rw [hn]; exact Nat.lt_succ_of_lt hx, fun _ _ _ _ h => h,
    fun x y hx hy h => hkeep x y hx hy h⟩

section subdivide
variable (g : G) (a b : Nat)

theorem subdivide_V (x : Nat) : (ofG (subdivide g a b)).V x ↔ x < g.n + 1 := ofG_V _ _

theorem subdivide_adj_new (x : Nat) (h : (ofG (subdivide g a b)).adj g.n x = true) : x = a ∨ x = b := by
  rw [ofG_adj] at h
  simp only [subdivide] at h
  by_cases hx : x = g.n
  · subst hx; simp at h
  · have hx' : (x == g.n) = false := by simpa using hx
    simp [hx'] at h
    exact h.2

theorem subdivide_adj_old {x y : Nat} (hx : x < g.n) (hy : y < g.n) :
    (ofG (subdivide g a b)).adj x y =
      (!((x == a && y == b) || (x == b && y == a)) && (g.adj x y || g.adj y x)) := by
  have hx' : (x == g.n) = false := by simp; omega
  have hy' : (y == g.n) = false := by simp; omega
  simp only [ofG_adj, subdivide, hx', hy', Bool.false_eq_true, if_false]
  rw [Bool.and_comm (y == a) (x == b), Bool.and_comm (y == b) (x == a), Bool.or_comm (x == b && y == a),
    ← Bool.and_or_distrib_left]

theorem subdivide_adj_old_new {x : Nat} (hx : x < g.n) (hxa : x = a ∨ x = b) :
    (ofG (subdivide g a b)).adj x g.n = true := by
  have hx' : (x == g.n) = false := by simp; omega
  rw [ofG_adj]
  simp only [subdivide]
  simp [hx', hx, hxa]

theorem subdivide_old {x y : Nat} (hx : (ofG (subdivide g a b)).V x) (hy : (ofG (subdivide g a b)).V y)
    (hxn : x ≠ g.n) (hyn : y ≠ g.n) (h : (ofG (subdivide g a b)).adj x y = true) : (ofG g).adj x y = true := by
  rw [subdivide_adj_old g a b ((ofG_V g x).1 (ofG_V_old rfl hx hxn)) ((ofG_V g y).1 (ofG_V_old rfl hy hyn)),
    Bool.and_eq_true] at h
  exact h.2

theorem sub_subdivide_contract (ha : a < g.n) (hne : a ≠ b) :
    (ofG g).Sub ((ofG (subdivide g a b)).contract a g.n) := by
  refine ⟨?_, ?_⟩
  · intro x hx
    have := (ofG_V g x).1 hx
    exact contract_V.2 ⟨(subdivide_V g a b x).2 (by omega), by omega⟩
  · intro x y hx hy hxy h
    have hxn := (ofG_V g x).1 hx
    have hyn := (ofG_V g y).1 hy
    rw [ofG_adj] at h
    have e : (x != y) = true := by simpa using hxy
    simp only [PG.contract, e, Bool.true_and]
    by_cases hxa : x = a
    · subst hxa
      simp only [beq_self_eq_true, if_true, Bool.or_eq_true]
      by_cases hyb : y = b
      · right
        rw [(ofG_sym _) g.n y]
        exact subdivide_adj_old_new g x b hyn (Or.inr hyb)
      · left
        rw [subdivide_adj_old g x b hxn hyn, Bool.and_eq_true]
        refine ⟨?_, h⟩
        simp [hyb, Ne.symm hxy]
    · by_cases hya : y = a
      · subst hya
        simp only [beq_iff_eq, hxa, if_false, beq_self_eq_true, if_true, Bool.or_eq_true]
        by_cases hxb : x = b
        · right
          exact subdivide_adj_old_new g y b hxn (Or.inr hxb)
        · left
          rw [subdivide_adj_old g y b hxn hyn, Bool.and_eq_true]
          refine ⟨?_, h⟩
          simp [hxb, hxa]
      · simp only [beq_iff_eq, hxa, hya, if_false]
        rw [subdivide_adj_old g a b hxn hyn, Bool.and_eq_true]
        refine ⟨?_, h⟩
        simp [hxa, hya]

theorem hasMinor_subdivide_iff {H : G} (hH : MinDeg3 H) (ha : a < g.n) (hne : a ≠ b)
    (hab : (g.adj a b || g.adj b a) = true) : HasMinor (subdivide g a b) H ↔ HasMinor g H :=
  hasMinor_lowdeg_iff hH rfl (subdivide_adj_new g a b) (fun _ _ => subdivide_old g a b) (fun _ _ _ => hab)
    (HasMinorP.of_contract (ofG_sym _) ((subdivide_V g a b a).2 (Nat.lt_succ_of_lt ha))
      ((subdivide_V g a b g.n).2 (Nat.lt_succ_self _)) (Nat.ne_of_lt ha) (subdivide_adj_old_new g a b ha (Or.inl rfl))
      ((hasMinor_refl' g).of_sub (sub_subdivide_contract g a b ha hne)))

end subdivide

theorem addIsolated_adj_new (g : G) (x : Nat) : (ofG (addIsolated g)).adj g.n x = false := by
  simp [ofG_adj, addIsolated]

theorem addIsolated_adj_old (g : G) {x y : Nat} (hx : x < g.n) (hy : y < g.n) :
    (ofG (addIsolated g)).adj x y = (ofG g).adj x y := by
  simp [ofG_adj, addIsolated, hx, hy]

theorem hasMinor_addIsolated_iff (g : G) {H : G} (hH : MinDeg3 H) : HasMinor (addIsolated g) H ↔ HasMinor g H :=
  hasMinor_lowdeg_iff (a := 0) (b := 0) hH rfl (fun x h => by rw [addIsolated_adj_new] at h; cases h)
    (fun x y hx hy hxn hyn h => by
      rwa [addIsolated_adj_old g ((ofG_V g x).1 (ofG_V_old rfl hx hxn)) ((ofG_V g y).1 (ofG_V_old rfl hy hyn))] at h)
    (fun h => by rw [addIsolated_adj_new] at h; cases h)
    (hasMinor_of_extend rfl fun x y hx hy h => by rwa [addIsolated_adj_old g hx hy])

theorem addPendant_adj_new (g : G) (a x : Nat) (h : (ofG (addPendant g a)).adj g.n x = true) : x = a := by
  rw [ofG_adj] at h
  simp only [addPendant] at h
  by_cases hx : x = g.n
  · subst hx; simp at h
  · have hx' : (x == g.n) = false := by simpa using hx
    simp [hx'] at h
    exact h.2

theorem addPendant_adj_old (g : G) (a : Nat) {x y : Nat} (hx : x < g.n) (hy : y < g.n) :
    (ofG (addPendant g a)).adj x y = (ofG g).adj x y := by
  have hx' : ¬ x = g.n := by omega
  have hy' : ¬ y = g.n := by omega
  simp [ofG_adj, addPendant, hx', hy']

theorem hasMinor_addPendant_iff (g : G) (a : Nat) {H : G} (hH : MinDeg3 H) :
    HasMinor (addPendant g a) H ↔ HasMinor g H :=
  hasMinor_lowdeg_iff (a := a) (b := a) hH rfl (fun x h => Or.inl (addPendant_adj_new g a x h))
    (fun x y hx hy hxn hyn h => by
      rwa [addPendant_adj_old g a ((ofG_V g x).1 (ofG_V_old rfl hx hxn)) ((ofG_V g y).1 (ofG_V_old rfl hy hyn))] at h)
    (fun _ _ hne => absurd rfl hne)
    (hasMinor_of_extend rfl fun x y hx hy h => by rwa [addPendant_adj_old g a hx hy])

end Minor
