import Mamba.Lemmas.SparseRemove
/-!
# SparseGraph.InducedSubgraph refines `G.induced` (property C05)

`intsSort V` pairs the vertices of `V` with their positions and sorts by vertex (`intsSort_spec`); the list of the new
vertex `i` is the merge-style intersection of the list of `V[i]` with these pairs, returning positions
(`interLoop_spec`: strictly increasing, with exactly the positions of the neighbours of `V[i]` in `V`). `m` is computed as
half the sum of the lengths, which is the number of edges by the handshake lemma (`sum_deg`).
-/
namespace GraphRep
open GraphSpec

abbrev SIncFst (b : List (Int × Int)) : Prop := b.Pairwise (fun p q => p.1 < q.1)

theorem interLoop_spec : ∀ (a : List Int) (b : List (Int × Int)) (r : List Int),
    SInc a → SIncFst b → SInc r →
    SInc (interLoop a b r) ∧ ∀ z, z ∈ interLoop a b r ↔ z ∈ r ∨ ∃ p ∈ b, p.1 ∈ a ∧ p.2 = z := by
  intro a b r
  induction a, b, r using interLoop.induct with
  | case1 xs y k ys r ih =>
    intro ha hb hr
    obtain ⟨hx, hxs⟩ := sinc_cons ha
    obtain ⟨hy, hys⟩ := List.pairwise_cons.mp hb
    obtain ⟨s1, m1, _⟩ := addSingle_spec hr k
    obtain ⟨i1, i2⟩ := ih hxs hys s1
    rw [interLoop, if_pos rfl]
    refine ⟨i1, ?_⟩
    intro z
    rw [i2 z, m1 z]
    constructor
    · rintro ((rfl | hz) | ⟨p, hp, hp1, hp2⟩)
      · exact Or.inr ⟨(y, z), by simp, by simp, rfl⟩
      · exact Or.inl hz
      · exact Or.inr ⟨p, by simp [hp], by simp [hp1], hp2⟩
    · rintro (hz | ⟨p, hp, hp1, hp2⟩)
      · exact Or.inl (Or.inr hz)
      · rcases List.mem_cons.mp hp with rfl | hp
        · exact Or.inl (Or.inl hp2.symm)
        · have hlt : y < p.1 := hy p hp
          rcases List.mem_cons.mp hp1 with e | hp1
          · omega
          · exact Or.inr ⟨p, hp, hp1, hp2⟩
  | case2 x xs y k ys r hne hgt ih =>
    intro ha hb hr
    obtain ⟨hx, hxs⟩ := sinc_cons ha
    obtain ⟨hy, hys⟩ := List.pairwise_cons.mp hb
    obtain ⟨i1, i2⟩ := ih ha hys hr
    rw [interLoop, if_neg hne, if_pos hgt]
    refine ⟨i1, ?_⟩
    intro z
    rw [i2 z]
    constructor
    · rintro (hz | ⟨p, hp, hp1, hp2⟩)
      · exact Or.inl hz
      · exact Or.inr ⟨p, by simp [hp], hp1, hp2⟩
    · rintro (hz | ⟨p, hp, hp1, hp2⟩)
      · exact Or.inl hz
      · rcases List.mem_cons.mp hp with rfl | hp
        · exfalso
          rcases List.mem_cons.mp hp1 with e | hp1
          · simp only at e; omega
          · have := hx _ hp1; simp only at this; omega
        · exact Or.inr ⟨p, hp, hp1, hp2⟩
  | case3 x xs y k ys r hne hgt ih =>
    intro ha hb hr
    obtain ⟨hx, hxs⟩ := sinc_cons ha
    obtain ⟨hy, hys⟩ := List.pairwise_cons.mp hb
    obtain ⟨i1, i2⟩ := ih hxs hb hr
    rw [interLoop, if_neg hne, if_neg hgt]
    refine ⟨i1, ?_⟩
    intro z
    rw [i2 z]
    have hxy : x < y := by omega
    constructor
    · rintro (hz | ⟨p, hp, hp1, hp2⟩)
      · exact Or.inl hz
      · exact Or.inr ⟨p, hp, by simp [hp1], hp2⟩
    · rintro (hz | ⟨p, hp, hp1, hp2⟩)
      · exact Or.inl hz
      · refine Or.inr ⟨p, hp, ?_, hp2⟩
        rcases List.mem_cons.mp hp1 with e | hp1
        · exfalso
          rcases List.mem_cons.mp hp with rfl | hp
          · simp only at e; omega
          · have := hy p hp; simp only at this; omega
        · exact hp1
  | case4 b r =>
    intro _ _ hr
    rw [interLoop]
    exact ⟨hr, fun z => by simp⟩
  | case5 x xs r =>
    intro _ _ hr
    rw [interLoop]
    exact ⟨hr, fun z => by simp⟩

theorem intsSort_spec {V : List Int} (hn : V.Nodup) :
    SIncFst (intsSort V) ∧ ∀ y k, (y, k) ∈ intsSort V ↔ ∃ idx : Nat, V[idx]? = some y ∧ k = (idx : Int) := by
  unfold intsSort
  have hperm := List.mergeSort_perm ((V.zipIdx).map fun p => (p.1, (p.2 : Int)))
    (fun a b => decide (a.1 ≤ b.1))
  have hle := List.pairwise_mergeSort (le := fun (a b : Int × Int) => decide (a.1 ≤ b.1))
    (by intro a b c; simp only [decide_eq_true_eq]; omega)
    (by intro a b; simp only [Bool.or_eq_true, decide_eq_true_eq]; omega)
    ((V.zipIdx).map fun p => (p.1, (p.2 : Int)))
  generalize ((V.zipIdx).map fun p => (p.1, (p.2 : Int))).mergeSort (fun a b => decide (a.1 ≤ b.1)) = S
    at hperm hle
  have hfst : (S.map Prod.fst).Perm V := by
    have := hperm.map Prod.fst
    rw [List.map_map] at this
    have e : (Prod.fst ∘ fun p : Int × Nat => (p.1, (p.2 : Int))) = Prod.fst := rfl
    rw [e, List.zipIdx_map_fst] at this
    exact this
  have hnd : (S.map Prod.fst).Nodup := hfst.nodup_iff.mpr hn
  have hne : S.Pairwise (fun p q => p.1 ≠ q.1) := List.pairwise_map.mp hnd
  refine ⟨(hle.and hne).imp (fun ⟨h1, h2⟩ => by simp only [decide_eq_true_eq] at h1; omega), ?_⟩
  intro y k
  rw [hperm.mem_iff, List.mem_map]
  constructor
  · rintro ⟨p, hp, he⟩
    have := List.mem_zipIdx_iff_getElem?.mp hp
    simp only [Prod.mk.injEq] at he
    exact ⟨p.2, by rw [this, he.1], he.2.symm⟩
  · rintro ⟨idx, hidx, rfl⟩
    exact ⟨(y, idx), List.mem_zipIdx_iff_getElem?.mpr hidx, rfl⟩

theorem Sparse.is_loop {g : Sparse} (h : g.WF) (bi : List (Int × Int)) :
    ∀ (V : List Nat) (acc : List (List Int)) (m0 : Int), (∀ v ∈ V, v < g.n) →
      loopM (Sparse.isStep g bi) V (acc, m0) =
        .ok (acc ++ V.map (fun v => intersectionByIndex (g.row v) bi),
          m0 + (((V.map (fun v => (intersectionByIndex (g.row v) bi).length)).sum : Nat) : Int)) := by
  intro V
  induction V with
  | nil => intro acc m0 _; simp [loopM]
  | cons v V ih =>
    intro acc m0 hV
    have hv : v < g.n := hV v (by simp)
    have hstep : Sparse.isStep g bi (acc, m0) v =
        .ok (acc ++ [intersectionByIndex (g.row v) bi], m0 + ((intersectionByIndex (g.row v) bi).length : Int)) := by
      unfold Sparse.isStep Sparse.neighbours getA
      rw [Sparse.row_get h hv]
    rw [loopM, hstep]
    simp only
    rw [ih _ _ (fun w hw => hV w (by simp [hw]))]
    simp only [List.map_cons, List.sum_cons, List.append_assoc, List.singleton_append]
    congr 2
    push_cast
    omega

theorem Sparse.inducedSubgraph_spec {g : Sparse} (h : g.WF) {V : List Nat} (hn : V.Nodup)
    (hV : ∀ s ∈ V, s < g.n) :
    ∃ g', g.inducedSubgraph V = .ok g' ∧ g'.WF ∧ g'.abs = g.abs.induced V := by
  have hw := Sparse.abs_wf h
  have hwH := induced_wf hw V
  have hnd : (V.map Int.ofNat).Nodup := hn.map (fun a b hab => Int.ofNat.inj hab)
  obtain ⟨hb1, hb2⟩ := intsSort_spec hnd
  generalize hbi : intsSort (V.map Int.ofNat) = bi at hb1 hb2
  have hR : ∀ i, i < V.length →
      SInc (intersectionByIndex (g.row (V.getD i 0)) bi) ∧
      ∀ z : Int, z ∈ intersectionByIndex (g.row (V.getD i 0)) bi ↔
        ∃ k : Nat, (k : Int) = z ∧ (g.abs.induced V).adj i k = true := by
    intro i hi
    have hvi : V.getD i 0 ∈ V := by
      rw [List.getD_eq_getElem?_getD, List.getElem?_eq_getElem hi]; exact List.getElem_mem hi
    have hv : V.getD i 0 < g.n := hV _ hvi
    obtain ⟨s1, m1⟩ := interLoop_spec (g.row (V.getD i 0)) bi [] (h.sorted _ hv) hb1 List.Pairwise.nil
    refine ⟨s1, ?_⟩
    intro z
    unfold intersectionByIndex
    rw [m1 z]
    constructor
    · rintro (hz | ⟨⟨y, kk⟩, hp, hp1, hp2⟩)
      · cases hz
      · obtain ⟨idx, hidx, rfl⟩ := (hb2 y kk).mp hp
        have hidx' : idx < V.length := by
          by_contra hc
          rw [List.getElem?_eq_none (by simp; omega)] at hidx; cases hidx
        have hy : y = ((V.getD idx 0 : Nat) : Int) := by
          rw [List.getElem?_map, List.getElem?_eq_getElem hidx'] at hidx
          simp only [Option.map_some, Option.some.injEq] at hidx
          rw [← hidx, List.getD_eq_getElem?_getD, List.getElem?_eq_getElem hidx']; rfl
        refine ⟨idx, hp2, ?_⟩
        rw [induced_adj _ V hi hidx', Sparse.abs_adj_true]
        have hvk : V.getD idx 0 < g.n := hV _ (by
          rw [List.getD_eq_getElem?_getD, List.getElem?_eq_getElem hidx']; exact List.getElem_mem hidx')
        exact ⟨hv, hvk, by rw [← hy]; exact hp1⟩
    · rintro ⟨k, rfl, hk⟩
      have hk' : k < V.length := ((hwH.supp _ _ hk).2)
      rw [induced_adj _ V hi hk', Sparse.abs_adj_true] at hk
      refine Or.inr ⟨(((V.getD k 0 : Nat) : Int), (k : Int)), ?_, hk.2.2, rfl⟩
      rw [hb2]
      refine ⟨k, ?_, rfl⟩
      rw [List.getElem?_map, List.getElem?_eq_getElem hk', List.getD_eq_getElem?_getD,
        List.getElem?_eq_getElem hk']
      rfl
  have hlen : ∀ i, i < V.length →
      (intersectionByIndex (g.row (V.getD i 0)) bi).length = (g.abs.induced V).deg i := by
    intro i hi
    obtain ⟨s1, m1⟩ := hR i hi
    have : intersectionByIndex (g.row (V.getD i 0)) bi = ((g.abs.induced V).nbrs i).map Int.ofNat := by
      apply sinc_ext s1 (map_ofNat_sinc (nbrs_pairwise _ _))
      intro x
      rw [m1 x, List.mem_map]
      constructor
      · rintro ⟨k, rfl, hk⟩; exact ⟨k, (mem_nbrs hwH i k).mpr hk, rfl⟩
      · rintro ⟨k, hk, rfl⟩; exact ⟨k, rfl, (mem_nbrs hwH i k).mp hk⟩
    rw [this, List.length_map]; rfl
  have hsum : (V.map (fun v => (intersectionByIndex (g.row v) bi).length)).sum =
      2 * (g.abs.induced V).m := by
    have : V.map (fun v => (intersectionByIndex (g.row v) bi).length) =
        (List.range V.length).map (g.abs.induced V).deg := by
      apply List.ext_getElem?
      intro i
      rw [List.getElem?_map, List.getElem?_map]
      by_cases hi : i < V.length
      · rw [List.getElem?_eq_getElem hi, List.getElem?_range hi]
        simp only [Option.map_some]
        rw [← hlen i hi, List.getD_eq_getElem?_getD, List.getElem?_eq_getElem hi]; rfl
      · rw [List.getElem?_eq_none (by omega), List.getElem?_eq_none (by simp; omega)]; rfl
    rw [this]
    exact sum_deg hwH
  unfold Sparse.inducedSubgraph
  simp only
  rw [hbi, Sparse.is_loop h bi V [] 0 hV]
  simp only [List.nil_append, Int.zero_add]
  refine ⟨_, rfl, ?_⟩
  rw [hsum]
  have hrow : ∀ i, i < V.length →
      Sparse.row ⟨V.length, Int.tdiv ((2 * (g.abs.induced V).m : Nat) : Int) 2,
        (V.map (fun v => intersectionByIndex (g.row v) bi)).toArray,
        ((V.map (fun v => intersectionByIndex (g.row v) bi)).map (fun l => (l.length : Int))).toArray⟩ i =
      intersectionByIndex (g.row (V.getD i 0)) bi := by
    intro i hi
    unfold Sparse.row
    simp only
    rw [Array.getD_eq_getD_getElem?, List.getElem?_toArray, List.getElem?_map, List.getElem?_eq_getElem hi,
      List.getD_eq_getElem?_getD, List.getElem?_eq_getElem hi]
    rfl
  apply Sparse.wf_of hwH
  · rfl
  · simp
  · simp
  · intro i hi; rw [hrow i hi]; exact (hR i hi).1
  · intro i hi x; rw [hrow i hi]; exact (hR i hi).2 x
  · intro i hi
    have hi' : i < V.length := hi
    rw [hrow i hi]
    show (List.toArray _)[i]? = _
    rw [List.getElem?_toArray, List.getElem?_map, List.getElem?_map, List.getElem?_eq_getElem hi',
      List.getD_eq_getElem?_getD, List.getElem?_eq_getElem hi']
    rfl
  · show Int.tdiv (((2 * (g.abs.induced V).m : Nat)) : Int) 2 = ((g.abs.induced V).m : Int)
    push_cast
    rw [Int.mul_tdiv_cancel_left _ (by decide)]

end GraphRep
