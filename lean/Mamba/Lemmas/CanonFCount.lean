import Mamba.Lemmas.CanonFCert
import Mathlib.Data.List.Perm.Basic
import Mathlib.Algebra.BigOperators.Group.List.Basic
/-!
# The full certificate has one entry per edge

What is counted are the entries of the certificate: `certPos_length` says that `(certPos nb o n).length` is half the sum of
the degrees (by counting the ordered adjacent pairs `cntS` inside a growing prefix of `o`). `nbOK_nbrsOf`: the adjacency table
`nbrsOf g` of a well-formed graph satisfies `NbOK`. (The neighbour counts of the refinement are another matter:
`CanonFTreeCount.lean`.)
-/
namespace CanonF

theorem length_filterMap_ite (l : List Nat) (c : Nat → Bool) (f : Nat → Nat) :
    (l.filterMap (fun v => if c v then some (f v) else none)).length = (l.filter c).length := by
  induction l with
  | nil => rfl
  | cons x xs ih =>
    by_cases h : c x
    · simp [h, ih]
    · simp [h, ih]

theorem blockCodes_length {nb : Nbrs} {n : Nat} {o : List Nat} (hnb : NbOK nb n) (ho : o.Nodup)
    (j : Nat) (hj : j ≤ o.length) :
    (blockCodes nb o j).length = (o.take j).countP (fun v => decide (v ∈ nb.getD (o.getD j 0) [])) := by
  unfold blockCodes sortNat rawCodes
  rw [List.length_mergeSort]
  have h1 := length_filterMap_ite (nb.getD (o.getD j 0) []) (fun v => decide (o.idxOf v < j))
    (fun v => tri j + o.idxOf v)
  simp only [decide_eq_true_eq] at h1
  rw [h1, List.countP_eq_length_filter]
  apply List.Perm.length_eq
  rw [List.perm_ext_iff_of_nodup ((hnb.nodup _).filter _) ((ho.sublist (List.take_sublist _ _)).filter _)]
  intro v
  simp only [List.mem_filter, decide_eq_true_eq]
  rw [(idxOf_lt_iff_mem_take o v j hj).1]
  exact And.comm

theorem sum_map_ite_eq_countP (l : List Nat) (p : Nat → Bool) :
    (l.map (fun u => if p u then 1 else 0)).sum = l.countP p := by
  induction l with
  | nil => rfl
  | cons x xs ih =>
    by_cases h : p x
    · simp [h, ih]; omega
    · simp [h, ih]

def cntS (nb : Nbrs) (l : List Nat) : Nat :=
  (l.map (fun u => l.countP (fun v => decide (v ∈ nb.getD u [])))).sum

theorem cntS_snoc {nb : Nbrs} {n : Nat} (hnb : NbOK nb n) (l : List Nat) (x : Nat) :
    cntS nb (l ++ [x]) = cntS nb l + 2 * l.countP (fun v => decide (v ∈ nb.getD x [])) := by
  unfold cntS
  have hxx : x ∉ nb.getD x [] := hnb.irrefl x
  have e1 : ∀ u, (l ++ [x]).countP (fun v => decide (v ∈ nb.getD u [])) =
      l.countP (fun v => decide (v ∈ nb.getD u [])) + (if decide (x ∈ nb.getD u []) then 1 else 0) := by
    intro u
    rw [List.countP_append, List.countP_singleton]
  simp only [e1, List.map_append, List.sum_append, List.map_cons, List.map_nil, List.sum_cons, List.sum_nil,
    List.sum_map_add, sum_map_ite_eq_countP]
  have e2 : l.countP (fun u => decide (x ∈ nb.getD u [])) = l.countP (fun v => decide (v ∈ nb.getD x [])) := by
    apply List.countP_congr
    intro u _
    simp only [decide_eq_true_eq]
    exact ⟨hnb.symm u x, hnb.symm x u⟩
  rw [e2, if_neg (by simpa using hxx)]
  omega

theorem cntS_take {nb : Nbrs} {n : Nat} {o : List Nat} (hnb : NbOK nb n) (ho : o.Nodup) :
    ∀ s, s ≤ o.length → cntS nb (o.take s) = 2 * (certPos nb o s).length := by
  intro s
  induction s with
  | zero => intro _; simp [cntS, certPos]
  | succ s ih =>
    intro hs
    have hlt : s < o.length := by omega
    have e : o.take (s + 1) = o.take s ++ [o.getD s 0] := by
      rw [List.take_add_one, List.getD_eq_getElem?_getD, List.getElem?_eq_getElem hlt]
      rfl
    rw [e, cntS_snoc hnb, ih (by omega), certPos_succ, List.length_append, blockCodes_length hnb ho s (by omega)]
    omega

theorem cntS_full {nb : Nbrs} {n : Nat} {o : List Nat} (hnb : NbOK nb n) (hsz : nb.size = n)
    (ho : o.Perm (List.range n)) : cntS nb o = (nb.toList.map List.length).sum := by
  have hnd : o.Nodup := ho.nodup_iff.2 List.nodup_range
  have e1 : ∀ u, o.countP (fun v => decide (v ∈ nb.getD u [])) = (nb.getD u []).length := by
    intro u
    rw [List.countP_eq_length_filter]
    apply List.Perm.length_eq
    rw [List.perm_ext_iff_of_nodup (hnd.filter _) (hnb.nodup u)]
    intro v
    simp only [List.mem_filter, decide_eq_true_eq]
    constructor
    · exact fun h => h.2
    · intro h
      exact ⟨ho.mem_iff.2 (List.mem_range.2 (hnb.lt u v h).2), h⟩
  unfold cntS
  simp only [e1]
  rw [(ho.map _).sum_eq]
  congr 1
  apply List.ext_getElem
  · simp [hsz]
  · intro i h1 h2
    simp at h1 h2
    simp [Array.getD, h2]

theorem certPos_length {nb : Nbrs} {n : Nat} {o : List Nat} (hnb : NbOK nb n) (hsz : nb.size = n)
    (ho : o.Perm (List.range n)) :
    (certPos nb o n).length = ((nb.toList.map List.length).sum) / 2 := by
  have hnd : o.Nodup := ho.nodup_iff.2 List.nodup_range
  have hlen : o.length = n := by simpa using ho.length_eq
  have h1 := cntS_take hnb hnd n (by omega)
  rw [← hlen, List.take_length, cntS_full hnb hsz ho] at h1
  rw [hlen] at h1
  omega

theorem nbOK_nbrsOf (g : GraphSpec.G) (hg : g.WF) : NbOK (nbrsOf g) g.n ∧ (nbrsOf g).size = g.n := by
  refine ⟨⟨?_, ?_, ?_, ?_⟩, by simp [nbrsOf]⟩
  · intro u v h
    rw [nbrsOf_getD] at h
    split at h
    · next hu =>
      simp only [GraphSpec.G.nbrs, List.mem_filter, List.mem_range] at h
      exact ⟨hu, h.1⟩
    · simp at h
  · intro u v h
    rw [nbrsOf_getD] at h
    split at h
    · next hu =>
      simp only [GraphSpec.G.nbrs, List.mem_filter, List.mem_range] at h
      rw [nbrsOf_getD, if_pos h.1]
      simp only [GraphSpec.G.nbrs, List.mem_filter, List.mem_range]
      exact ⟨hu, by rw [hg.symm]; exact h.2⟩
    · simp at h
  · intro u h
    rw [nbrsOf_getD] at h
    split at h
    · simp only [GraphSpec.G.nbrs, List.mem_filter, List.mem_range] at h
      rw [hg.irrefl] at h
      simp at h
    · simp at h
  · intro u
    rw [nbrsOf_getD]
    split
    · exact List.nodup_range.filter _
    · exact List.nodup_nil

end CanonF
