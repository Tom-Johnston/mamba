import Mamba.Lemmas.SearchRefine
/-! What `exhaust` collects from `WithPruning(n, a, m)` is the recursive traversal of the one-vertex graph; the shards
partition it; a predicate placed as `preprune` or as `prune` gives the same list. -/
namespace Search

section
variable {O : Oracle} {pre pr : DG → Bool}
variable {n : Nat} {K : Nat → Nat → Bool} {node : DG → Option Ans → Outcome (List DG)}

theorem exhaust_rem (hfix : NodeFix O pre pr n K node) (fuel : Nat) :
    ∀ (lim : Nat) (s s' : State) (out : List DG), exhaust O pre pr fuel lim s = .ok (out, s') →
      s.first = false → 2 ≤ s.n → MInv n K (.step false) s →
      remM O pre pr n K node (.step false) s = .ok out
  | 0, _, _, _, h, _, _, _ => by simp [exhaust] at h
  | k + 1, s, s', out, h, hf, h2, hi => by
    simp only [exhaust] at h
    rw [next_later O pre pr fuel h2 hf] at h
    split at h
    · rename_i s1 hrun
      split at h
      · rename_i out' s2 hex
        cases h
        have hr := (run_rem hfix hrun (hi.of_eff rfl)).1 rfl
        have hp := run_sameParams hrun
        have ih := exhaust_rem hfix fuel k s1 _ _ hex (hp.2.2.2.trans hf) (hp.1 ▸ h2) hr.1
        exact hr.2 _ ih
      · cases h
      · cases h
    · rename_i s1 hrun
      cases h
      exact (run_rem hfix hrun (hi.of_eff rfl)).2 rfl
    · cases h
    · cases h

def K1 : DG := DG.empty.single

theorem next_init {n : Nat} (hn : 2 ≤ n) (a m fuel : Nat) :
    next O pre pr fuel (init n a m) =
      if pre K1 || pr K1 then .ok ({ init n a m with g := K1, first := false }, false)
      else run O pre pr fuel (.outer false false) { init n a m with g := K1, first := false } :=
  next_first O pre pr fuel (s := init n a m) hn rfl

theorem exhaust_init (n a m : Nat) (hn : 2 ≤ n) (fuel lim : Nat) {out : List DG} {s' : State}
    (h : exhaust O pre pr fuel lim (init n a m) = .ok (out, s')) :
    (if pre K1 || pr K1 then Outcome.ok [] else subNode O pre pr n (skipAM n a m) (n - 1) K1 none) = .ok out := by
  cases lim with
  | zero => simp [exhaust] at h
  | succ k =>
    simp only [exhaust] at h
    rw [next_init hn] at h
    by_cases hpr : (pre K1 || pr K1) = true
    · simp only [hpr, if_true] at h ⊢
      cases h; rfl
    · simp only [hpr, Bool.false_eq_true, if_false] at h ⊢
      set s1 : State := { init n a m with g := K1, first := false } with hs1
      have hi : MInv n (skipAM n a m) (.outer false false) s1 := by
        refine ⟨⟨(single_sized ⟨rfl, rfl⟩ (Nat.zero_le _)).1, ?_, fun hh => Bool.noConfusion hh⟩, rfl, fun i L => rfl, rfl⟩
        show 1 ≤ n; omega
      have hfix := nodeX_fix O pre pr n (skipAM n a m)
      have hrem : remM O pre pr n (skipAM n a m) (nodeX O pre pr n (skipAM n a m)) (.outer false false) s1 = .ok out := by
        split at h
        · rename_i t hrun
          split at h
          · rename_i out' s2 hex
            cases h
            have hr := (run_rem hfix hrun hi).1 rfl
            have hp := run_sameParams hrun
            have ih := exhaust_rem hfix fuel k t _ _ hex (hp.2.2.2.trans rfl) (hp.1 ▸ hn) hr.1
            exact hr.2 _ ih
          · cases h
          · cases h
        · rename_i t hrun
          cases h
          exact (run_rem hfix hrun hi).2 rfl
        · cases h
        · cases h
      -- nothing else is pending at the root
      simp only [remM, remStep] at hrem
      have he : topList s1.choices = [] := rfl
      simp only [he, if_true] at hrem
      have hx : nodeX O pre pr n (skipAM n a m) s1.g s1.cache = subNode O pre pr n (skipAM n a m) (n - 1) K1 none := rfl
      rw [hx] at hrem
      cases hq : subNode O pre pr n (skipAM n a m) (n - 1) K1 none with
      | ok o => simp [hq] at hrem; rw [hrem]
      | panic => simp [hq] at hrem
      | outOfFuel => simp [hq] at hrem

end

section
variable {O : Oracle} {pre pr : DG → Bool}

def smallGraph (n : Nat) : DG := if n = 0 then DG.empty else K1

theorem exhaust_small (n a m : Nat) (hn : n < 2) (fuel lim : Nat) {out : List DG} {t : State}
    (h : exhaust O pre pr fuel lim (init n a m) = .ok (out, t)) :
    out = if (a == 0 && !pre (smallGraph n) && !pr (smallGraph n)) = true then [smallGraph n] else [] := by
  have hcases : n = 0 ∨ n = 1 := by omega
  cases lim with
  | zero => simp [exhaust] at h
  | succ k =>
    rcases hcases with rfl | rfl
    · simp only [exhaust, next, init, if_true, Bool.true_and, smallGraph] at h ⊢
      by_cases hc : (a == 0 && !pre DG.empty && !pr DG.empty) = true
      · simp only [hc, if_true] at h ⊢
        cases k with
        | zero => simp [exhaust] at h
        | succ k' =>
          simp only [exhaust, next, if_true, Bool.false_and, Bool.false_eq_true, if_false] at h
          cases h; rfl
      · simp only [hc] at h ⊢
        cases h; rfl
    · simp only [exhaust, next, init, Nat.succ_ne_zero, if_false, if_true, Bool.true_and, smallGraph, K1] at h ⊢
      by_cases hc : (a == 0 && !pre DG.empty.single && !pr DG.empty.single) = true
      · simp only [hc, if_true] at h ⊢
        cases k with
        | zero => simp [exhaust] at h
        | succ k' =>
          simp only [exhaust, next, Nat.succ_ne_zero, if_false, if_true, Bool.false_and, Bool.false_eq_true] at h
          cases h; rfl
      · simp only [hc] at h ⊢
        cases h; rfl

theorem shards_perm (n m : Nat) (hm : 0 < m) (fuel lim : Nat)
    {out1 : List DG} {t1 : State} {outs : Nat → List DG} {ts : Nat → State}
    (h1 : exhaust O pre pr fuel lim (init n 0 1) = .ok (out1, t1))
    (ha : ∀ a, a < m → exhaust O pre pr fuel lim (init n a m) = .ok (outs a, ts a)) :
    ((List.range m).flatMap outs).Perm out1 := by
  by_cases hn : 2 ≤ n
  · have e1 := exhaust_init n 0 1 hn fuel lim h1
    have ea := fun a hlt => exhaust_init n a m hn fuel lim (ha a hlt)
    by_cases hpr : (pre K1 || pr K1) = true
    · simp only [hpr, if_true, Outcome.ok.injEq] at e1 ea
      subst e1
      have : (List.range m).flatMap outs = [] := by
        rw [List.flatMap_eq_nil_iff]; intro a hmem
        exact (ea a (List.mem_range.1 hmem)).symm
      rw [this]
    · simp only [hpr, Bool.false_eq_true, if_false] at e1 ea
      refine subNode_shards O pre pr n m hm hn (n - 1) K1 none out1 outs ?_ e1 ea
      have := (splitLevel_range hn).1
      show ((1 : Nat) : Int) ≤ splitLevel n
      omega
  · have hn : n < 2 := by omega
    have e1 := exhaust_small n 0 1 hn fuel lim h1
    have ea := fun a hlt => exhaust_small n a m hn fuel lim (ha a hlt)
    have hfm : (List.range m).flatMap outs = (List.range m).flatMap fun a => if 0 != a then [] else out1 :=
      List.flatMap_congr fun a hmem => by
        rw [ea a (List.mem_range.1 hmem), e1]
        by_cases h0 : a = 0
        · subst h0; rfl
        · rw [if_pos (bne_iff_ne.2 (Ne.symm h0)), beq_false_of_ne h0]; rfl
    rw [hfm, flatMap_single (fun _ => out1) m 0 hm]

end

section
variable (O : Oracle) (n : Nat) (K : Nat → Nat → Bool)

def noPrune : DG → Bool := fun _ => false

theorem kid_place (f : DG → Bool) (P : DG) (x : Nat) {k1 k2 : Option (DG × Option Ans)}
    (h1 : kid O f noPrune n P x = .ok k1) (h2 : kid O noPrune f n P x = .ok k2) : k1 = k2 := by
  obtain ⟨g, hadd, h1⟩ := kid_ok h1
  obtain ⟨g', hadd', h2⟩ := kid_ok h2
  rw [hadd] at hadd'
  cases hadd'
  rcases h2 with ⟨h, -⟩ | ⟨-, c, b, hcan, rfl⟩
  · cases h
  rcases h1 with ⟨hf, rfl⟩ | ⟨hf, c', b', hcan', rfl⟩
  · simp [hf]
  · rw [hcan] at hcan'
    cases hcan'
    simp [noPrune, hf]

theorem subKids_place (f : DG → Bool) (node1 node2 : DG → Option Ans → Outcome (List DG))
    (hnode : ∀ g c o1 o2, node1 g c = .ok o1 → node2 g c = .ok o2 → o1 = o2) (P : DG) :
    ∀ (xs : List Nat) (i : Nat) (o1 o2 : List DG),
      subKids O f noPrune n K node1 P xs i = .ok o1 → subKids O noPrune f n K node2 P xs i = .ok o2 → o1 = o2
  | [], _, o1, o2, h1, h2 => by simp only [subKids] at h1 h2; cases h1; cases h2; rfl
  | _ :: _, 0, o1, o2, h1, h2 => by simp only [subKids] at h1 h2; cases h1; cases h2; rfl
  | x :: xs, i + 1, o1, o2, h1, h2 => by
    rw [subKids_cons] at h1 h2
    by_cases hk : K i P.nv = true
    · rw [if_pos hk] at h1 h2
      exact subKids_place f node1 node2 hnode P xs i o1 o2 h1 h2
    rw [if_neg hk] at h1 h2
    obtain ⟨k1, hk1, h1⟩ := Outcome.bind_eq_ok h1
    obtain ⟨k2, hk2, h2⟩ := Outcome.bind_eq_ok h2
    rw [← kid_place O n f P x hk1 hk2] at h2
    cases k1 with
    | none => exact subKids_place f node1 node2 hnode P xs i o1 o2 h1 h2
    | some z =>
      obtain ⟨a1, r1, hn1, hr1, rfl⟩ := withKid_some_ok h1
      obtain ⟨a2, r2, hn2, hr2, rfl⟩ := withKid_some_ok h2
      rw [hnode z.1 z.2 a1 a2 hn1 hn2, subKids_place f node1 node2 hnode P xs i r1 r2 hr1 hr2]

theorem subNode_place (f : DG → Bool) :
    ∀ (d : Nat) (g : DG) (c : Option Ans) (o1 o2 : List DG),
      subNode O f noPrune n K d g c = .ok o1 → subNode O noPrune f n K d g c = .ok o2 → o1 = o2
  | 0, g, c, o1, o2, h1, h2 => by
    simp only [subNode] at h1 h2
    split at h1
    · rename_i hn; simp only [hn, if_true] at h2; cases h1; cases h2; rfl
    · cases h1
  | d + 1, g, c, o1, o2, h1, h2 => by
    simp only [subNode] at h1 h2
    split at h1
    · rename_i hn; simp only [hn, if_true] at h2; cases h1; cases h2; rfl
    · rename_i hn
      simp only [hn, if_false] at h2
      cases haug : addAugmentations O n g #[] c with
      | panic => simp [haug] at h1
      | outOfFuel => simp [haug] at h1
      | ok p =>
        obtain ⟨new, c', num⟩ := p
        simp only [haug] at h1 h2
        exact subKids_place O n K f _ _ (fun g2 c2 a1 a2 e1 e2 => subNode_place f d g2 c2 a1 a2 e1 e2) g _ _ o1 o2 h1 h2

theorem place_agree (f : DG → Bool) (n a m : Nat) (fuel lim : Nat) {o1 o2 : List DG} {t1 t2 : State}
    (h1 : exhaust O f noPrune fuel lim (init n a m) = .ok (o1, t1))
    (h2 : exhaust O noPrune f fuel lim (init n a m) = .ok (o2, t2)) : o1 = o2 := by
  by_cases hn : 2 ≤ n
  · have e1 := exhaust_init n a m hn fuel lim h1
    have e2 := exhaust_init n a m hn fuel lim h2
    simp only [noPrune, Bool.or_false, Bool.false_or] at e1 e2
    by_cases hf : f K1 = true
    · simp only [hf, if_true, Outcome.ok.injEq] at e1 e2
      rw [← e1, ← e2]
    · have hf' : f K1 = false := by simpa using hf
      simp only [hf', Bool.false_eq_true, if_false] at e1 e2
      exact subNode_place O n _ f _ _ _ o1 o2 e1 e2
  · have e1 := exhaust_small n a m (by omega) fuel lim h1
    have e2 := exhaust_small n a m (by omega) fuel lim h2
    rw [e1, e2]
    simp [noPrune]

end

end Search
