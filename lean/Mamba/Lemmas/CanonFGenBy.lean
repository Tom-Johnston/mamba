import Mamba.Lemmas.CanonFGenDef
import Mamba.Lemmas.CanonFOrbTree
/-!
# List algebra of `compL` / `invL` and closure properties of `GenBy`
-/
namespace CanonF
open Relation

theorem compL_getD {n : Nat} {α β : List Nat} {x : Nat} (hx : x < n) : (compL n α β).getD x 0 = α.getD (β.getD x 0) 0 := by
  unfold compL
  rw [List.getD_eq_getElem?_getD, List.getElem?_map, List.getElem?_range hx]
  rfl

theorem invL_getD {n : Nat} {α : List Nat} {x : Nat} (hx : x < n) : (invL n α).getD x 0 = α.idxOf x := by
  unfold invL
  rw [List.getD_eq_getElem?_getD, List.getElem?_map, List.getElem?_range hx]
  rfl

theorem compL_length (n : Nat) (α β : List Nat) : (compL n α β).length = n := by simp [compL]
theorem invL_length (n : Nat) (α : List Nat) : (invL n α).length = n := by simp [invL]

theorem list_ext_getD {n : Nat} {α β : List Nat} (hα : α.length = n) (hβ : β.length = n)
    (h : ∀ x, x < n → α.getD x 0 = β.getD x 0) : α = β := by
  apply List.ext_getElem?
  intro i
  rcases Nat.lt_or_ge i n with hi | hi
  · have := h i hi
    rw [List.getD_eq_getElem?_getD, List.getD_eq_getElem?_getD, List.getElem?_eq_getElem (by omega),
      List.getElem?_eq_getElem (by omega), Option.getD_some, Option.getD_some] at this
    rw [List.getElem?_eq_getElem (by omega), List.getElem?_eq_getElem (by omega), this]
  · rw [List.getElem?_eq_none (by omega), List.getElem?_eq_none (by omega)]

theorem map_range_perm {n : Nat} (f : Nat → Nat) (hlt : ∀ x, x < n → f x < n)
    (hinj : ∀ x y, x < n → y < n → f x = f y → x = y) : ((List.range n).map f).Perm (List.range n) := by
  have hnd : ((List.range n).map f).Nodup := by
    apply List.Nodup.map_on _ List.nodup_range
    intro x hx y hy e
    exact hinj x y (List.mem_range.1 hx) (List.mem_range.1 hy) e
  have hsub : ((List.range n).map f) ⊆ List.range n := by
    intro z hz
    obtain ⟨x, hx, rfl⟩ := List.mem_map.1 hz
    exact List.mem_range.2 (hlt x (List.mem_range.1 hx))
  exact (List.subperm_of_subset hnd hsub).perm_of_length_le (by simp)

theorem compL_perm {n : Nat} {α β : List Nat} (hα : α.Perm (List.range n)) (hβ : β.Perm (List.range n)) :
    (compL n α β).Perm (List.range n) := by
  unfold compL
  apply map_range_perm
  · intro x hx; exact perm_getD_lt hα (perm_getD_lt hβ hx)
  · intro x y hx hy e
    exact perm_getD_inj hβ hx hy (perm_getD_inj hα (perm_getD_lt hβ hx) (perm_getD_lt hβ hy) e)

theorem invL_perm {n : Nat} {α : List Nat} (hα : α.Perm (List.range n)) : (invL n α).Perm (List.range n) := by
  obtain ⟨hl, hnd, hmem⟩ := perm_range_facts hα
  unfold invL
  apply map_range_perm
  · intro x hx
    have := List.idxOf_lt_length_of_mem ((hmem x).2 hx)
    omega
  · intro x y hx hy e
    have h1 := getD_idxOf ((hmem x).2 hx)
    have h2 := getD_idxOf ((hmem y).2 hy)
    rw [e] at h1
    omega

theorem invL_left {n : Nat} {α : List Nat} (hα : α.Perm (List.range n)) {x : Nat} (hx : x < n) :
    (invL n α).getD (α.getD x 0) 0 = x := by
  obtain ⟨hl, hnd, _⟩ := perm_range_facts hα
  rw [invL_getD (perm_getD_lt hα hx)]
  exact idxOf_getD hnd (by omega)

theorem invL_right {n : Nat} {α : List Nat} (hα : α.Perm (List.range n)) {x : Nat} (hx : x < n) :
    α.getD ((invL n α).getD x 0) 0 = x := by
  obtain ⟨_, _, hmem⟩ := perm_range_facts hα
  rw [invL_getD hx]
  exact getD_idxOf ((hmem x).2 hx)

theorem isAutL_id (nb : Nbrs) (n : Nat) : IsAutL nb n (List.range n) := by
  refine ⟨List.Perm.refl _, fun x y hx hy => ?_⟩
  rw [getD_range hx, getD_range hy]

theorem isAutL_comp {nb : Nbrs} {n : Nat} {α β : List Nat} (hα : IsAutL nb n α) (hβ : IsAutL nb n β) :
    IsAutL nb n (compL n α β) := by
  refine ⟨compL_perm hα.1 hβ.1, fun x y hx hy => ?_⟩
  rw [compL_getD hx, compL_getD hy, hβ.2 x y hx hy]
  exact hα.2 _ _ (perm_getD_lt hβ.1 hx) (perm_getD_lt hβ.1 hy)

theorem isAutL_inv {nb : Nbrs} {n : Nat} {α : List Nat} (hα : IsAutL nb n α) : IsAutL nb n (invL n α) := by
  have hp := invL_perm hα.1
  refine ⟨hp, fun x y hx hy => ?_⟩
  have := hα.2 _ _ (perm_getD_lt hp hx) (perm_getD_lt hp hy)
  rw [invL_right hα.1 hx, invL_right hα.1 hy] at this
  exact this.symm

theorem GenBy.mono {S S' : List Nat → Prop} {n : Nat} (h : ∀ γ, S γ → S' γ) {γ : List Nat} (hγ : GenBy S n γ) :
    GenBy S' n γ := by
  induction hγ with
  | id => exact GenBy.id
  | gen γ hs => exact GenBy.gen γ (h γ hs)
  | comp α β _ _ iha ihb => exact GenBy.comp α β iha ihb
  | inv α _ iha => exact GenBy.inv α iha

theorem GenBy.perm {S : List Nat → Prop} {n : Nat} (hS : ∀ γ, S γ → γ.Perm (List.range n)) {γ : List Nat}
    (hγ : GenBy S n γ) : γ.Perm (List.range n) := by
  induction hγ with
  | id => exact List.Perm.refl _
  | gen γ hs => exact hS γ hs
  | comp α β _ _ iha ihb => exact compL_perm iha ihb
  | inv α _ iha => exact invL_perm iha

theorem GenBy.isAut {S : List Nat → Prop} {nb : Nbrs} {n : Nat} (hS : ∀ γ, S γ → IsAutL nb n γ) {γ : List Nat}
    (hγ : GenBy S n γ) : IsAutL nb n γ := by
  induction hγ with
  | id => exact isAutL_id nb n
  | gen γ hs => exact hS γ hs
  | comp α β _ _ iha ihb => exact isAutL_comp iha ihb
  | inv α _ iha => exact isAutL_inv iha

theorem GenBy.pres {S : List Nat → Prop} {n : Nat} (hS : ∀ γ, S γ → γ.Perm (List.range n)) (c : Array Nat)
    (hc : ∀ γ, S γ → ∀ v, v < n → IR.col c (γ.getD v 0) = IR.col c v) {γ : List Nat} (hγ : GenBy S n γ) :
    ∀ v, v < n → IR.col c (γ.getD v 0) = IR.col c v := by
  induction hγ with
  | id => intro v hv; rw [getD_range hv]
  | gen γ hs => exact hc γ hs
  | comp α β _ hb iha ihb =>
    intro v hv
    rw [compL_getD hv, iha _ (perm_getD_lt (GenBy.perm hS hb) hv), ihb v hv]
  | inv α ha iha =>
    intro v hv
    have hp := GenBy.perm hS ha
    have := iha _ (perm_getD_lt (invL_perm hp) hv)
    rw [invL_right hp hv] at this
    exact this.symm

theorem genBy_of_eqvGen {S : List Nat → Prop} {n : Nat} (hS : ∀ γ, S γ → γ.Perm (List.range n)) {a b : Nat} (ha : a < n)
    (h : EqvGen (fun x y => ∃ γ, S γ ∧ γ[x]? = some y) a b) : ∃ β, GenBy S n β ∧ β.getD a 0 = b :=
  (eqvGen_le hS (R := fun a b => ∃ β, GenBy S n β ∧ β.getD a 0 = b)
    (fun _ hx => ⟨List.range n, GenBy.id, getD_range hx⟩)
    (fun _ _ hx _ ⟨β, hβ, e⟩ => ⟨invL n β, GenBy.inv β hβ, by rw [← e]; exact invL_left (GenBy.perm hS hβ) hx⟩)
    (fun _ _ _ hx _ _ ⟨β1, hβ1, e1⟩ ⟨β2, hβ2, e2⟩ =>
      ⟨compL n β2 β1, GenBy.comp β2 β1 hβ2 hβ1, by rw [compL_getD hx, e1, e2]⟩)
    (fun γ hs _ _ => ⟨γ, GenBy.gen γ hs, rfl⟩) ha h).2

/-- `γ = β ∘ (β⁻¹ ∘ γ)` -/
theorem genBy_factor {S : List Nat → Prop} {n : Nat} {β γ : List Nat} (hβp : β.Perm (List.range n))
    (hγp : γ.Perm (List.range n)) (hβ : GenBy S n β) (hδ : GenBy S n (compL n (invL n β) γ)) : GenBy S n γ := by
  have e : compL n β (compL n (invL n β) γ) = γ := by
    apply list_ext_getD (compL_length _ _ _) (perm_range_facts hγp).1
    intro x hx
    rw [compL_getD hx, compL_getD hx, invL_right hβp (perm_getD_lt hγp hx)]
  rw [← e]
  exact GenBy.comp _ _ hβ hδ

end CanonF
