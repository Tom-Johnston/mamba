import Mamba.Lemmas.CanonFTreeFinal
import Mamba.Lemmas.CanonFAutG
/-!
# `InducedSubgraph(perm)` is the graph decoded from the certificate of `perm`

For a permutation `p` of the vertices of `g` the relabelled graph `g.induced p` (vertex `i` of the result is `p[i]`), seen as
an `IR.G`, is the graph `IR.ofCodes` decodes from the certificate `certPos (nbrsOf g) p g.n` of the order `p`.
-/
namespace CanonF
open GraphSpec

theorem induced_code_mem (g : G) (hg : g.WF) (p : List Nat) (hp : p.Perm (List.range g.n)) {j k : Nat}
    (hj : j < g.n) (hkj : k < j) :
    IR.tri j + k ∈ certPos (nbrsOf g) p g.n ↔ g.adj (p.getD j 0) (p.getD k 0) = true := by
  rw [mem_certPos hp (Nat.le_refl _)]
  constructor
  · rintro ⟨p', q', hq, _, e, hm⟩
    obtain ⟨rfl, rfl⟩ := aut_tri_inj hkj hq e
    exact (mem_nbrsOf g hg _ _).1 hm
  · intro h
    exact ⟨j, k, hkj, hj, rfl, (mem_nbrsOf g hg _ _).2 h⟩

theorem ofSpec_induced_eq_ofCodes (g : G) (hg : g.WF) (p : List Nat) (hp : p.Perm (List.range g.n)) :
    IR.ofSpec (g.induced p) = IR.ofCodes g.n (certPos (nbrsOf g) p g.n) := by
  have hlen : p.length = g.n := by rw [hp.length_eq, List.length_range]
  unfold IR.ofSpec IR.ofCodes
  show IR.G.mk p.length ((List.range p.length).map (g.induced p).nbrs).toArray = _
  rw [hlen]
  congr 2
  apply List.map_congr_left
  intro j hj
  have hj' : j < g.n := List.mem_range.1 hj
  show (List.range p.length).filter _ = _
  rw [hlen]
  apply List.filter_congr
  intro k hk
  have hk' : k < g.n := List.mem_range.1 hk
  show (decide (j < p.length) && decide (k < p.length) && g.adj (p.getD j 0) (p.getD k 0)) = _
  rw [hlen, decide_eq_true hj', decide_eq_true hk', Bool.true_and, Bool.true_and]
  rw [Bool.eq_iff_iff]
  simp only [Bool.or_eq_true, Bool.and_eq_true, decide_eq_true_eq, List.contains_iff_mem]
  rcases Nat.lt_trichotomy k j with h | h | h
  · rw [induced_code_mem g hg p hp hj' h]
    constructor
    · intro ha; exact Or.inl ⟨h, ha⟩
    · rintro (⟨_, ha⟩ | ⟨h2, _⟩)
      · exact ha
      · exact absurd h (Nat.lt_asymm h2)
  · subst h
    rw [hg.irrefl]
    constructor
    · intro ha; cases ha
    · rintro (⟨h2, _⟩ | ⟨h2, _⟩) <;> exact absurd h2 (Nat.lt_irrefl _)
  · rw [induced_code_mem g hg p hp hk' h, hg.symm]
    constructor
    · intro ha; exact Or.inr ⟨h, ha⟩
    · rintro (⟨h2, _⟩ | ⟨_, ha⟩)
      · exact absurd h (Nat.lt_asymm h2)
      · exact ha

end CanonF
