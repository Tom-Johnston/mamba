import Mamba.Lemmas.DistanceBiconLow
/-!
# The scan of the neighbours of the top: scan invariant, one iteration, reachable states

`ScanP2` holds between two neighbours of the scan. `scan_step` reads a successful iteration as a descend or a pop from a
state that still satisfies `DT`, `LA` and any predicate `J` the emissions keep; with `J` trivial every reachable state
satisfies `DT` and `LA` for some parent function (`dtla_reach`), with `J` the block bookkeeping it serves `DistanceBiconBK`.
-/
namespace GDist
open GraphSpec Model

variable {h : G} {st : BicSt} {tp : Nat → Nat}

theorem minI_le_left (a t : Int) : minI a t ≤ a := by unfold minI; split <;> omega
theorem minI_le_right (a t : Int) : minI a t ≤ t := by unfold minI; split <;> omega
theorem minI_eq (a t : Int) : minI a t = a ∨ minI a t = t := by unfold minI; split <;> simp

/-- what holds while the scan of the neighbours of the top `v` has `us` left to look at, in state `st1` with
`tmpLowPoint = t`: the invariants, the progress of the scan, `t` as the minimum so far (`t1`–`t3`), and the children of `v`
that close a block and still wait for it lie ahead (`pend`) -/
structure ScanP2 (h : G) (tp : Nat → Nat) (v : Nat) (rest : List Nat) (us : List Nat) (st1 : BicSt) (t : Int) :
    Prop where
  dt : DT h st1 tp
  la : LA h st1 tp
  stk : st1.toCheck = v :: rest
  usn : ∀ u ∈ us, u < h.n ∧ h.adj v u = true
  sorted : us.Pairwise (· < ·)
  prog : ∀ w, h.adj v w = true → w < h.n → w ∈ us ∨ bvis st1 w
  t1 : t ≤ dI st1 v
  t2 : ∀ u, h.adj v u = true → u < h.n → u ∉ us → (u : Int) ≠ pa st1 v → t ≤ lo st1 u
  t3 : t = dI st1 v ∨ ∃ u, h.adj v u = true ∧ u < h.n ∧ (u : Int) ≠ pa st1 v ∧ t = lo st1 u
  pend : ∀ c, c < h.n → bvis st1 c → c ∉ st1.toCheck → c ≠ 0 → pa st1 c = (v : Int) → v ≠ 0 →
    lo st1 c ≥ dI st1 v → c ∈ us

variable {v : Nat} {rest : List Nat}

theorem scanP2_tail_keep {u : Nat} {us : List Nat} {st1 : BicSt} {t : Int}
    (hP : ScanP2 h tp v rest (u :: us) st1 t) (huv : bvis st1 u)
    (hnp : ¬ ((u : Int) ≠ pa st1 v ∧ v ≠ 0 ∧ pa st1 u = (v : Int) ∧ lo st1 u ≥ dI st1 v))
    (t' : Int) (ht' : (u : Int) ≠ pa st1 v → t' = minI (lo st1 u) t) (ht'' : (u : Int) = pa st1 v → t' = t) :
    ScanP2 h tp v rest us st1 t' := by
  obtain ⟨hvs, hvn, hvv⟩ := hP.dt.top hP.stk
  have ht'le : t' ≤ t := by
    by_cases hpar : (u : Int) = pa st1 v
    · exact Int.le_of_eq (ht'' hpar)
    · rw [ht' hpar]; exact minI_le_right _ _
  refine { dt := hP.dt, la := hP.la, stk := hP.stk, usn := fun x hx => hP.usn x (List.mem_cons_of_mem _ hx),
           sorted := (List.pairwise_cons.1 hP.sorted).2, prog := scan_prog_tail hP.prog huv,
           t1 := Int.le_trans ht'le hP.t1,
           t2 := ?_, t3 := ?_, pend := ?_ }
  · intro x hx hxn hxus hxpa
    by_cases hxu : x = u
    · subst hxu
      rw [ht' hxpa]; exact minI_le_left _ _
    · exact Int.le_trans ht'le (hP.t2 x hx hxn (by
        intro hm
        rcases List.mem_cons.1 hm with h0 | h0
        · exact hxu h0
        · exact hxus h0) hxpa)
  · by_cases hpar : (u : Int) = pa st1 v
    · rw [ht'' hpar]; exact hP.t3
    · rw [ht' hpar]
      rcases minI_eq (lo st1 u) t with h0 | h0
      · exact .inr ⟨u, (hP.usn u List.mem_cons_self).2, (hP.usn u List.mem_cons_self).1, hpar, h0⟩
      · rw [h0]; exact hP.t3
  · intro c hc hcv hcs hc0 hpc hv0 hlc
    have := hP.pend c hc hcv hcs hc0 hpc hv0 hlc
    rcases List.mem_cons.1 this with h0 | h0
    · exfalso
      subst h0
      apply hnp
      refine ⟨?_, hv0, hpc, hlc⟩
      intro hpar
      rw [hP.dt.pastk v hvs hv0] at hpar
      have htc : tp c = v := hP.la.tp_of_pa hc hcv hc0 hpc
      obtain ⟨_, _, _, h4⟩ := hP.dt.tree c hc hcv hc0
      obtain ⟨_, _, _, h5⟩ := hP.dt.tree v hvn hvv hv0
      have : c = tp v := by omega
      rw [htc] at h4; rw [← this] at h5; omega
    · exact h0

theorem scanP2_emit (com : List Nat) {v u : Nat} {rest us cur : List Nat}
    {st1 : BicSt} {t : Int} (hP : ScanP2 h tp v rest (u :: us) st1 t) (huv : bvis st1 u)
    (hpar : (u : Int) ≠ pa st1 v) (hv0 : v ≠ 0) (hpu : pa st1 u = (v : Int)) (hlu : lo st1 u ≥ dI st1 v) :
    ScanP2 h tp v rest us (emitSt com st1 v u cur) (minI (lo st1 u) t) ∧
      u < h.n ∧ u ≠ 0 ∧ u ∉ st1.toCheck := by
  obtain ⟨hvs, hvn, hvv⟩ := hP.dt.top hP.stk
  obtain ⟨hun, hadj⟩ := hP.usn u List.mem_cons_self
  have hunot := emit_not_on_stack hP.dt hP.stk hv0 hpu
  have hu0 : u ≠ 0 := by
    intro h0; subst h0
    have := hP.dt.pa0; rw [hpu] at this; omega
  have hvu : v ≠ u := fun h0 => hunot (by rw [hP.stk, ← h0]; exact List.mem_cons_self)
  have hpa' := hP.dt.ok.pa_emitSt com (v := v) (cur := cur) hun
  have hpav : pa (emitSt com st1 v u cur) v = pa st1 v := by rw [hpa']; simp [hvu]
  refine ⟨{ dt := dt_emit com hP.dt hun hu0 hunot,
            la := la_emit com hP.dt hP.la hvn hun huv hu0 hunot hpu hv0 hlu,
            stk := hP.stk, usn := fun x hx => hP.usn x (List.mem_cons_of_mem _ hx),
            sorted := (List.pairwise_cons.1 hP.sorted).2, prog := scan_prog_tail hP.prog huv,
            t1 := Int.le_trans (minI_le_right _ _) hP.t1, t2 := ?_, t3 := ?_, pend := ?_ }, hun, hu0, hunot⟩
  · intro x hx hxn hxus hxpa
    rw [hpav] at hxpa
    show minI (lo st1 u) t ≤ lo st1 x
    by_cases hxu : x = u
    · subst hxu; exact minI_le_left _ _
    · exact Int.le_trans (minI_le_right _ _) (hP.t2 x hx hxn (by
        intro hm
        rcases List.mem_cons.1 hm with h0 | h0
        · exact hxu h0
        · exact hxus h0) hxpa)
  · rw [hpav]
    show minI (lo st1 u) t = dI st1 v ∨ ∃ x, h.adj v x = true ∧ x < h.n ∧ (x : Int) ≠ pa st1 v ∧
      minI (lo st1 u) t = lo st1 x
    rcases minI_eq (lo st1 u) t with h0 | h0
    · exact .inr ⟨u, hadj, hun, hpar, h0⟩
    · rw [h0]; exact hP.t3
  · intro c hc hcv hcs hc0 hpc hv0' hlc
    rw [hpa'] at hpc
    have hcu : c ≠ u := by
      rintro rfl
      simp at hpc
    simp only [hcu, if_false] at hpc
    have := hP.pend c hc hcv hcs hc0 hpc hv0' hlc
    rcases List.mem_cons.1 this with h0 | h0
    · exact absurd h0 hcu
    · exact h0

theorem ScanP2.init (dt : DT h st tp) (la : LA h st tp) (hT : st.toCheck = v :: rest) :
    ScanP2 h tp v rest (h.nbrs v) st (lo st v) := by
  have hvs : v ∈ st.toCheck := by rw [hT]; exact List.mem_cons_self
  exact
    { dt := dt, la := la, stk := hT, usn := fun u hu => G.mem_nbrs.1 hu,
      sorted := List.pairwise_lt_range.sublist List.filter_sublist,
      prog := fun w hw hwn => .inl (G.mem_nbrs.2 ⟨hwn, hw⟩),
      t1 := Int.le_of_eq (dt.lostk v hvs),
      t2 := fun u hu hun hus => absurd (G.mem_nbrs.2 ⟨hun, hu⟩) hus,
      t3 := .inl (dt.lostk v hvs),
      pend := fun c hc hcv _ hc0 hpc _ _ => by
        obtain ⟨_, _, hadj, _⟩ := dt.tree c hc hcv hc0
        rw [la.tp_of_pa hc hcv hc0 hpc] at hadj
        exact G.mem_nbrs.2 ⟨hc, hadj⟩ }

theorem ScanP2.at_unvisited {u : Nat} {us : List Nat} {st1 : BicSt} {t : Int}
    (hP : ScanP2 h tp v rest (u :: us) st1 t) (hunv : ¬ bvis st1 u) :
    (∀ w, h.adj v w = true → w < u → bvis st1 w) ∧ NoPend h st1 v := by
  obtain ⟨hun, hadj⟩ := hP.usn u List.mem_cons_self
  constructor
  · intro w hw hwu
    rcases hP.prog w hw (by omega) with h0 | h0
    · exfalso
      rcases List.mem_cons.1 h0 with h1 | h1
      · omega
      · have := (List.pairwise_cons.1 hP.sorted).1 w h1; omega
    · exact h0
  · intro c hc hcv hcs hc0 hpc hv0 hlc
    have htc := hP.la.tp_of_pa hc hcv hc0 hpc
    rcases List.mem_cons.1 (hP.pend c hc hcv hcs hc0 hpc hv0 hlc) with h0 | h0
    · exact hunv (h0 ▸ hcv)
    · have hlt := (List.pairwise_cons.1 hP.sorted).1 c h0
      obtain ⟨_, _, hf⟩ := hP.la.ar3 c hc hcv hcs hc0 (by rw [hpc, htc]) (by rw [htc]; exact hv0)
        (by rw [htc]; exact hlc)
      rw [htc] at hf
      exact hunv (hf u hadj hlt)

theorem ScanP2.at_end {st1 : BicSt} {t : Int} (hP : ScanP2 h tp v rest [] st1 t) :
    (∀ w, h.adj v w = true → w < h.n → bvis st1 w) ∧ LowT h st1 v t ∧ NoPend h st1 v :=
  ⟨fun w hw hwn => (hP.prog w hw hwn).elim (fun h0 => by cases h0) id,
    ⟨hP.t1, fun u hu hun hpa => hP.t2 u hu hun (by simp) hpa, hP.t3⟩,
    fun c hc hcv hcs hc0 hpc hv0 hlc => by cases hP.pend c hc hcv hcs hc0 hpc hv0 hlc⟩

theorem scanP2_inv (com : List Nat) {J : BicSt → Prop}
    (hJ : ∀ {u us cur st1 t}, ScanP2 h tp v rest (u :: us) st1 t → J st1 → bvis st1 u → u < h.n → u ≠ 0 →
      u ∉ st1.toCheck → pa st1 u = (v : Int) → v ≠ 0 → lo st1 u ≥ dI st1 v →
      st1.bicoms.getLast? = some cur → J (emitSt com st1 v u cur)) :
    ScanInv com h.n v (fun us st1 t => ScanP2 h tp v rest us st1 t ∧ J st1) where
  bok := fun us st1 t hP => ⟨hP.1.dt.ok, fun u hu => (hP.1.usn u hu).1⟩
  par := fun u us st1 t hP huv hpar =>
    ⟨scanP2_tail_keep hP.1 huv (fun hc => hc.1 hpar) t (fun hne => absurd hpar hne) (fun _ => rfl), hP.2⟩
  emit := fun u us st1 t cur hP huv hpar hcur hv0 hpu hlu => by
    obtain ⟨hP', hun, hu0, hunot⟩ := scanP2_emit (cur := cur) com hP.1 huv hpar hv0 hpu hlu
    exact ⟨hP', hJ hP.1 hP.2 huv hun hu0 hunot hpu hv0 hlu hcur⟩
  keep := fun u us st1 t hP huv hpar hne =>
    ⟨scanP2_tail_keep hP.1 huv (fun hc => hne hc.2) _ (fun _ => rfl) (fun h0 => absurd h0 hpar), hP.2⟩

theorem scan_step (com : List Nat) {J : BicSt → Prop} {s : BicSt}
    (hJ : ∀ {v u rest us cur st1 t}, ScanP2 h tp v rest (u :: us) st1 t → J st1 → bvis st1 u → u < h.n → u ≠ 0 →
      u ∉ st1.toCheck → pa st1 u = (v : Int) → v ≠ 0 → lo st1 u ≥ dI st1 v →
      st1.bicoms.getLast? = some cur → J (emitSt com st1 v u cur))
    (dt : DT h st tp) (la : LA h st tp) (hJ0 : J st) (hs : bicStep h com st = .ok (some s)) :
    ∃ v rest st1, DT h st1 tp ∧ LA h st1 tp ∧ J st1 ∧ st1.toCheck = v :: rest ∧ NoPend h st1 v ∧
      ((∃ u cur, u < h.n ∧ ¬ bvis st1 u ∧ h.adj v u = true ∧ (∀ w, h.adj v w = true → w < u → bvis st1 w) ∧
          st1.bicoms.getLast? = some cur ∧ s = descendSt st1 v u cur) ∨
       (∃ t bs c2, (∀ w, h.adj v w = true → w < h.n → bvis st1 w) ∧ LowT h st1 v t ∧ Merged h.n st1 v bs c2 ∧
          s = popSt st1 v rest t bs c2)) := by
  cases hT : st.toCheck with
  | nil => unfold bicStep at hs; rw [hT] at hs; cases hs
  | cons v rest =>
    rcases bicStep_cases (scanP2_inv (rest := rest) com hJ) hT ⟨ScanP2.init dt la hT, hJ0⟩ hs with
      ⟨u, us, st1, t1, cur, ⟨hP, hJ1⟩, hunv, hcur, rfl⟩ | ⟨st1, t1, bs, c2, ⟨hP, hJ1⟩, rfl, hm⟩
    · obtain ⟨hfirst, hnp⟩ := hP.at_unvisited hunv
      obtain ⟨hun, hadj⟩ := hP.usn u List.mem_cons_self
      exact ⟨v, rest, st1, hP.dt, hP.la, hJ1, hP.stk, hnp, .inl ⟨u, cur, hun, hunv, hadj, hfirst, hcur, rfl⟩⟩
    · obtain ⟨hnb, lt, hnp⟩ := hP.at_end
      exact ⟨v, rest, st1, hP.dt, hP.la, hJ1, hP.stk, hnp, .inr ⟨t1, bs, c2, hnb, lt, hm, rfl⟩⟩

theorem dtla_step (com : List Nat) (hsym : ∀ u v, h.adj u v = h.adj v u)
    {s : BicSt} (dt : DT h st tp) (la : LA h st tp) (hs : bicStep h com st = .ok (some s)) :
    ∃ tp', DT h s tp' ∧ LA h s tp' := by
  obtain ⟨v, rest, st1, dt1, la1, _, hstk, hnp, hend⟩ :=
    scan_step com (J := fun _ => True) (fun _ _ _ _ _ _ _ _ _ _ => trivial) dt la trivial hs
  rcases hend with ⟨u, cur, hun, hunv, hadj, hfirst, hcur, rfl⟩ | ⟨t, bs, c2, hnb, lt, hm, rfl⟩
  · exact ⟨_, dt_descend hsym dt1 hstk hun hunv hadj hfirst hcur, la_descend dt1 la1 hstk hun hunv hnp⟩
  · exact ⟨tp, dt_pop dt1 hstk hm.last hm.pre hm.elem hnb, la_pop dt1 la1 hstk hnb lt hnp⟩

theorem la_init (hn : 0 < h.n) (out0 : List (List Nat)) : LA h (bicInit h.n out0) (fun _ => 0) := by
  have hd := dI_bicInit hn out0
  have hvis := bvis_bicInit hn out0
  have hfin : ∀ x, bvis (bicInit h.n out0) x → x ∈ (bicInit h.n out0).toCheck := fun x hxv => by
    rw [(hvis x).1 hxv]; exact List.mem_cons_self
  refine { lole := ?_, lob := ?_, loatt := ?_, ar1 := ?_, ar2 := ?_, ar3 := ?_, ar4 := ?_, ar5 := ?_ }
  · intro x _ hxv; rw [(hvis x).1 hxv, lo_bicInit, hd]; simp
  · intro x _ hxv hxs; exact absurd (hfin x hxv) hxs
  · intro x _ hxv hxs; exact absurd (hfin x hxv) hxs
  · intro c _ hcv hc0; exact absurd ((hvis c).1 hcv) hc0
  · intro c _ hcv hc0; exact absurd ((hvis c).1 hcv) hc0
  · intro c _ hcv _ hc0; exact absurd ((hvis c).1 hcv) hc0
  · intro v hv hva
    have : isA (bicInit h.n out0) v = false := by simp [isA, bicInit, Array.getD, hv]
    rw [this] at hva; cases hva
  · refine ⟨[], List.nodup_nil, rfl, ?_⟩
    intro c
    simp only [List.not_mem_nil, false_iff]
    rintro ⟨_, hcv, hc0, _⟩
    exact hc0 ((hvis c).1 hcv)

theorem dtla_reach (com : List Nat) (hsym : ∀ u v, h.adj u v = h.adj v u)
    (hn : 0 < h.n) (out0 : List (List Nat))
    (hout : ∀ b ∈ out0, b.Pairwise (fun a b => decide (a ≤ b) = true)) {st : BicSt}
    (hr : BicReach h com out0 st) : ∃ tp, DT h st tp ∧ LA h st tp := by
  induction hr with
  | init => exact ⟨_, dt_init hn out0 hout, la_init hn out0⟩
  | step _ hs ih =>
    obtain ⟨tp, dt, la⟩ := ih
    exact dtla_step com hsym dt la hs

end GDist
