import Mamba.Lemmas.DsaturCount
/-! DSATUR model: the path of the search and its moves (`PathEq`, `Move`), the state invariant `DSInv` (its positional
part `DSPos`), folds over the heap, and recording a complete colouring. -/
namespace CliqueColour
open GraphSpec

theorem getD_take_lt {α : Type} {l : List α} {i j : Nat} (d : α) (hj : j < i) : (l.take i).getD j d = l.getD j d := by
  simp [List.getD_eq_getElem?_getD, List.getElem?_take_of_lt hj]

theorem take_take_le {α : Type} {l : List α} {i j : Nat} (hj : j ≤ i) : (l.take i).take j = l.take j := by
  rw [List.take_take, Nat.min_eq_left hj]

theorem mem_take_iff_getD {l : List Nat} {i : Nat} (hi : i ≤ l.length) {w : Nat} :
    w ∈ l.take i ↔ ∃ k, k < i ∧ l.getD k 0 = w := by
  rw [mem_iff_getD]
  simp only [List.length_take, Nat.min_eq_left hi]
  constructor
  · rintro ⟨p, hp, he⟩; exact ⟨p, hp, by rw [← he, getD_take_lt 0 hp]⟩
  · rintro ⟨p, hp, he⟩; exact ⟨p, hp, by rw [getD_take_lt 0 hp]; exact he⟩

theorem take_succ_getD {l : List Nat} {i : Nat} (hi : i < l.length) : l.take (i + 1) = l.take i ++ [l.getD i 0] := by
  rw [List.take_add_one, List.getElem?_eq_getElem hi, getD_eq_getElem hi]; rfl

/-! A move of the search (colouring the next vertex, or backtracking to position `i` and advancing its choice) keeps the
first `k` positions of the path and puts one new position on top. What the completeness invariant, the bound on the
colours and the termination measure need to know about a move is this relation, not the machine state. -/

/-- the paths of `s` and `r` agree on their first `k` positions: vertices, options, current choices, colours -/
structure PathEq (k : Nat) (s r : Dsat) : Prop where
  chosen : r.chosen.take k = s.chosen.take k
  cur : ∀ j, j < k → r.cur.getD j 0 = s.cur.getD j 0
  choices : ∀ j, j < k → r.choices.getD j [] = s.choices.getD j []
  col : ∀ w ∈ s.chosen.take k, colOf r w = colOf s w

theorem PathEq.mono {k j : Nat} {s r : Dsat} (h : PathEq k s r) (hj : j ≤ k) : PathEq j s r :=
  ⟨by rw [← take_take_le hj, h.chosen, take_take_le hj], fun i hi => h.cur i (Nat.lt_of_lt_of_le hi hj),
    fun i hi => h.choices i (Nat.lt_of_lt_of_le hi hj),
    fun w hw => h.col w (by rw [← take_take_le hj] at hw; exact List.mem_of_mem_take hw)⟩

theorem PathEq.vertex {k j : Nat} {s r : Dsat} (h : PathEq k s r) (hj : j < k) :
    r.chosen.getD j 0 = s.chosen.getD j 0 := by
  rw [← getD_take_lt 0 hj, h.chosen, getD_take_lt 0 hj]

/-- a move to position `k`: `r` agrees with `s` below `k` (`pre`); `k` is a position of the path of `s` or its end (`le`); the
path of `r` ends with position `k` (`len`); the upper bound is unchanged (`upper`) -/
structure Move (k : Nat) (s r : Dsat) : Prop where
  pre : PathEq k s r
  le : k ≤ s.chosen.length
  len : r.chosen.length = k + 1
  upper : r.upper = s.upper

theorem Move.lt {k : Nat} {s r : Dsat} (h : Move k s r) : k < r.chosen.length := by
  rw [h.len]; exact Nat.lt_succ_self k

/-- `best` is a proper colouring of `g` with colours `0 ≤ · < k`, every one of which is used -/
def BestOK (g : G) (best : List Int) (k : Int) : Prop :=
  best.length = g.n ∧ (∀ v, v < g.n → 0 ≤ best.getD v 0 ∧ best.getD v 0 < k) ∧
    (∀ u v, u < g.n → v < g.n → g.adj u v = true → best.getD u 0 ≠ best.getD v 0) ∧
    ∀ c : Nat, (c : Int) < k → ∃ v, v < g.n ∧ best.getD v 0 = (c : Int)

/-- what the invariant says about position `i` of the path: `chosen[i]` has the current one of its options as colour,
its counters are those of the path before it, and each of its options is admissible there (`U0`: the bound the search
was started with, see `DSInv`) -/
structure DSPos (g : G) (U0 : Nat) (s : Dsat) (i : Nat) : Prop where
  cur : s.cur.getD i 0 < (s.choices.getD i []).length
  col : colOf s (s.chosen.getD i 0) = (((s.choices.getD i []).getD (s.cur.getD i 0) 0 : Nat) : Int)
  seenC : ∀ c, c < U0 →
    seenAt s (s.chosen.getD i 0) c = cntCol g (colOf s) (s.chosen.take i) (s.chosen.getD i 0) c
  optS : (s.choices.getD i []).Pairwise (· < ·)
  optF : ∀ c ∈ s.choices.getD i [],
    (c : Int) ≤ maxCol (colOf s) (s.chosen.take i) + 1 ∧ c + 2 ≤ U0 ∧ seenAt s (s.chosen.getD i 0) c = 0

theorem DSPos.transfer {g : G} {U0 : Nat} {s r : Dsat} {i : Nat} (h : DSPos g U0 s i) (hi : i + 1 ≤ s.chosen.length)
    (he : PathEq (i + 1) s r) (hseen : ∀ c, seenAt r (s.chosen.getD i 0) c = seenAt s (s.chosen.getD i 0) c) :
    DSPos g U0 r i := by
  have hii := Nat.lt_succ_self i
  have hv := he.vertex hii
  have hcur := he.cur i hii
  have hcho := he.choices i hii
  have hpre := (he.mono (Nat.le_succ i)).chosen
  have hcolpre := (he.mono (Nat.le_succ i)).col
  have hmax : maxCol (colOf r) (s.chosen.take i) = maxCol (colOf s) (s.chosen.take i) := maxCol_congr hcolpre
  have hcv : colOf r (s.chosen.getD i 0) = colOf s (s.chosen.getD i 0) :=
    he.col _ ((mem_take_iff_getD hi).2 ⟨i, hii, rfl⟩)
  exact
    { cur := by rw [hcur, hcho]; exact h.cur
      col := by rw [hv, hcur, hcho, hcv]; exact h.col
      seenC := fun c hc => by rw [hv, hpre, hseen, cntCol_congr hcolpre]; exact h.seenC c hc
      optS := by rw [hcho]; exact h.optS
      optF := fun c hc => by rw [hv, hpre, hmax, hseen]; exact h.optF c (by rw [← hcho]; exact hc) }

/-- The state invariant of the DSATUR search on `g`. `U0` is the upper bound the search was started with: the length of
every row of `seenColours`; `upper` only goes down from it.
`npos`: the graph has a vertex. `lcol`, `lseen`, `lrow`: the lengths of `colouring`, of `seen` and of its rows.
`chn`, `chlt`: the path `chosen` is duplicate-free and consists of vertices. `lcur`, `lcho`: `cur` and `choices` have one
entry per path position. `hnd`, `hmem`: the heap holds exactly the vertices off the path, each once. `colun`: vertices
off the path are uncoloured (`-1`). `pos`: `DSPos` at every path position. `hok`: the heap order. `seenH`: the counters of
a heap vertex count the colours of its neighbours on the whole path. `mused`: `maxUsed` is the largest colour on the
path. `uple`, `up1`: `1 ≤ upper ≤ U0`. `best`: either nothing has been recorded (`best` all `-1`, `upper = U0`) or `best`
is a proper colouring using exactly the colours below `upper` (`BestOK`) and `upper < U0`. -/
structure DSInv (g : G) (U0 : Nat) (s : Dsat) : Prop where
  npos : 0 < g.n
  lcol : s.colouring.length = g.n
  lseen : s.seen.length = g.n
  lrow : ∀ v, v < g.n → (s.seen.getD v []).length = U0
  chn : s.chosen.Nodup
  chlt : ∀ v ∈ s.chosen, v < g.n
  lcur : s.cur.length = s.chosen.length
  lcho : s.choices.length = s.chosen.length
  hnd : s.heap.Nodup
  hmem : ∀ v, v ∈ s.heap ↔ (v < g.n ∧ v ∉ s.chosen)
  colun : ∀ v, v < g.n → v ∉ s.chosen → colOf s v = -1
  pos : ∀ i, i < s.chosen.length → DSPos g U0 s i
  hok : HeapOK s.num s.deg s.heap
  seenH : ∀ u ∈ s.heap, ∀ c, c < U0 → seenAt s u c = cntCol g (colOf s) s.chosen u c
  mused : s.maxUsed = maxCol (colOf s) s.chosen
  uple : s.upper ≤ (U0 : Int)
  up1 : 1 ≤ s.upper
  best : (s.best = List.replicate g.n (-1) ∧ s.upper = (U0 : Int)) ∨ (BestOK g s.best s.upper ∧ s.upper < (U0 : Int))

theorem DSInv.seg {g : G} {U0 : Nat} {s : Dsat} (h : DSInv g U0 s) : ∀ i, i ≤ s.chosen.length →
    ∀ c : Nat, (c : Int) ≤ maxCol (colOf s) (s.chosen.take i) → ∃ w ∈ s.chosen.take i, colOf s w = (c : Int) := by
  intro i
  induction i with
  | zero =>
    intro _ c hc
    rw [List.take_zero, maxCol_nil] at hc
    exact absurd hc (by omega)
  | succ i ih =>
    intro hi c hc
    rw [take_succ_getD hi, maxCol_snoc] at hc
    rw [take_succ_getD hi]
    by_cases hle : (c : Int) ≤ maxCol (colOf s) (s.chosen.take i)
    · obtain ⟨w, hw, hwc⟩ := ih (Nat.le_of_succ_le hi) c hle
      exact ⟨w, List.mem_append_left _ hw, hwc⟩
    · have hp := h.pos i hi
      have h1 := (hp.optF _ (getD_mem hp.cur)).1
      rw [← hp.col] at h1
      exact ⟨_, List.mem_append_right _ (List.mem_singleton_self _), by omega⟩

theorem DSInv.col_nonneg {g : G} {U0 : Nat} {s : Dsat} (h : DSInv g U0 s) {w : Nat} (hw : w ∈ s.chosen) :
    0 ≤ colOf s w := by
  obtain ⟨i, hi, he⟩ := mem_iff_getD.1 hw
  rw [← he, (h.pos i hi).col]
  exact Int.natCast_nonneg _

theorem DSInv.path_proper {g : G} (hw : g.WF) {U0 : Nat} {s : Dsat} (h : DSInv g U0 s) :
    ∀ a ∈ s.chosen, ∀ b ∈ s.chosen, g.adj a b = true → colOf s a ≠ colOf s b := by
  -- the later of the two saw the colour of the earlier one
  have key : ∀ i j, j < i → i < s.chosen.length → g.adj (s.chosen.getD i 0) (s.chosen.getD j 0) = true →
      colOf s (s.chosen.getD j 0) ≠ colOf s (s.chosen.getD i 0) := by
    intro i j hji hi hadj
    have hp := h.pos i hi
    obtain ⟨_, hc2, hz⟩ := hp.optF _ (getD_mem hp.cur)
    rw [hp.seenC _ (by omega), cntCol_eq_zero] at hz
    rw [hp.col]
    exact hz _ ((mem_take_iff_getD (by omega)).2 ⟨j, hji, rfl⟩) hadj
  intro a ha b hb hadj
  obtain ⟨i, hi, rfl⟩ := mem_iff_getD.1 ha
  obtain ⟨j, hj, rfl⟩ := mem_iff_getD.1 hb
  rcases Nat.lt_trichotomy i j with hlt | heq | hgt
  · exact key j i hlt hj (by rw [hw.symm]; exact hadj)
  · subst heq; rw [hw.irrefl] at hadj; cases hadj
  · exact fun e => key i j hgt hi hadj e.symm

theorem foldl_counters (f : Dsat → Nat → Dsat) (δ : Nat → Nat → Int) (P : Dsat → Nat → Prop)
    (hP : ∀ st st' u, SameFrame st st' → P st u → P st' u)
    (hf : ∀ st u, P st u → SameFrame st (f st u) ∧ (f st u).heap = st.heap ∧
      ∀ u' c', seenAt (f st u) u' c' = seenAt st u' c' + (if u' = u then δ u c' else 0)) :
    ∀ (L : List Nat) (s : Dsat), L.Nodup → (∀ u ∈ L, P s u) →
      SameFrame s (L.foldl f s) ∧ (L.foldl f s).heap = s.heap ∧
        ∀ u' c', seenAt (L.foldl f s) u' c' = seenAt s u' c' + (if u' ∈ L then δ u' c' else 0) := by
  intro L
  induction L with
  | nil => intro s _ _; exact ⟨SameFrame.refl s, rfl, fun u' c' => by simp⟩
  | cons a t ih =>
    intro s hn hp
    have hn' := List.nodup_cons.1 hn
    obtain ⟨hfr, hheap, hseen⟩ := hf s a (hp a List.mem_cons_self)
    obtain ⟨hfr2, hheap2, hseen2⟩ := ih (f s a) hn'.2
      (fun u hu => hP _ _ u hfr (hp u (List.mem_cons_of_mem _ hu)))
    refine ⟨SameFrame.trans hfr hfr2, hheap2.trans hheap, fun u' c' => ?_⟩
    simp only [List.foldl_cons]
    rw [hseen2 u' c', hseen u' c']
    by_cases h1 : u' = a
    · subst h1
      rw [if_pos rfl, if_neg hn'.1, if_pos List.mem_cons_self]; omega
    · rw [if_neg h1]
      by_cases h2 : u' ∈ t
      · rw [if_pos h2, if_pos (List.mem_cons_of_mem _ h2)]; omega
      · rw [if_neg h2, if_neg (by simp [h1, h2])]; omega

theorem DSInv.all_chosen {g : G} {U0 : Nat} {s : Dsat} (h : DSInv g U0 s) (hempty : s.heap = []) :
    ∀ v, v < g.n → v ∈ s.chosen := by
  intro v hv
  by_contra hn
  have := (h.hmem v).2 ⟨hv, hn⟩
  rw [hempty] at this; cases this

theorem dsRecord_inv {g : G} (hw : g.WF) {U0 : Nat} {s : Dsat} (h : DSInv g U0 s) (hempty : s.heap = [])
    (hle : s.maxUsed + 1 ≤ s.upper) :
    DSInv g U0 { s with best := s.colouring, upper := s.maxUsed + 1 } ∧ BestOK g s.colouring (s.maxUsed + 1) := by
  have hall := h.all_chosen hempty
  have h0 : 0 ∈ s.chosen := hall 0 h.npos
  have hmax0 : 0 ≤ s.maxUsed := by
    rw [h.mused]
    exact Int.le_trans (h.col_nonneg h0) (le_maxCol _ h0)
  have hmaxU : s.maxUsed + 2 ≤ (U0 : Int) := by
    rcases maxCol_attained (colOf s) s.chosen with hm | ⟨w, hw', he⟩
    · rw [h.mused] at hmax0; omega
    · obtain ⟨i, hi, rfl⟩ := mem_iff_getD.1 hw'
      have hp := h.pos i hi
      have := (hp.optF _ (getD_mem hp.cur)).2.1
      rw [h.mused, ← he, hp.col]; omega
  have hbest : BestOK g s.colouring (s.maxUsed + 1) := by
    refine ⟨h.lcol, fun v hv => ?_, fun u v hu hv hadj => ?_, fun c hc => ?_⟩
    · have hvc := hall v hv
      have h1 := h.col_nonneg hvc
      have h2 := le_maxCol (colOf s) hvc
      rw [← h.mused] at h2
      exact ⟨h1, by unfold colOf at h2; omega⟩
    · exact h.path_proper hw u (hall u hu) v (hall v hv) hadj
    · obtain ⟨w, hw', hwc⟩ := h.seg s.chosen.length (Nat.le_refl _) c (by
        rw [List.take_length, ← h.mused]; omega)
      rw [List.take_length] at hw'
      exact ⟨w, h.chlt w hw', hwc⟩
  refine ⟨?_, hbest⟩
  exact
    { npos := h.npos, lcol := h.lcol, lseen := h.lseen, lrow := h.lrow, chn := h.chn, chlt := h.chlt,
      lcur := h.lcur, lcho := h.lcho, hnd := h.hnd, hmem := h.hmem, colun := h.colun,
      pos := fun i hi => (h.pos i hi).transfer hi ⟨rfl, fun _ _ => rfl, fun _ _ => rfl, fun _ _ => rfl⟩ (fun _ => rfl),
      hok := h.hok, seenH := h.seenH, mused := h.mused,
      uple := Int.le_trans hle h.uple
      up1 := by show 1 ≤ s.maxUsed + 1; omega
      best := Or.inr ⟨hbest, by show s.maxUsed + 1 < (U0 : Int); omega⟩ }

end CliqueColour
