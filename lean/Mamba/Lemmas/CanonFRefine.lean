import Mamba.Lemmas.CanonFRefineCall
/-!
# The equitable refinement `refine` (Go: `equitableRefinementProcedure`) keeps the partition invariants

What the main proof uses: `refine_inv`, `refine_not_worse`, `refine_total`, `refine_no_panic_partial`, and the loops with
an invariant of their own (`refineLoop_inv`, `refineLoop_inv2`, `refineIter_inv`, `refineIter_inv2`).  `refine_phase1`
stands for itself and reaches no end result of Props: while `currentBest` is empty the refinement keeps `CleanPrefix` and
`NoEarlierNbr` (CanonFPhase.lean), the strand that ends in "the certificate of a graph with an edge is non-empty at a
leaf" (`leaf_value_ne`, CanonFMain.lean).

The loops around `splitCell` (one call: CanonFRefineCall.lean).  The two loops with an early exit have their rules
`splitLoop_rule`, `refineLoop_rule`; an invariant `Q` of the partition goes through them by `Carried` (what `Q` owes one
call and the pop of the work list) or `Carried2`, which gives `refine_inv`, `refine_not_worse`, `refine_phase1`;
`refineIter_counted` is the head of one iteration (counters zeroed, splitter bin counted, `CellCount` for every bin).  For
the absence of panics and termination `CallTotal` is what the loops need of one call (`CallTotal.of_expand`: it suffices
that `expandValue` returns); the potential is `refinePotential`.
-/
namespace CanonF


theorem refineIter_ok {nb : Nbrs} {n : Nat} {cb fl : Sl Nat} {opts : Options} {op : OP} {sc : Scratch}
    {R : Bool × OP × Scratch} (h : refineIter nb n cb fl opts op sc = .ok R) :
    ∃ mc1 nm1 i btc a b ts2 mc2 nm2,
      sc.maxCell.fill0.reslice op.binDividers.len = .ok mc1 ∧
      sc.numberOfMax.fill0.reslice op.binDividers.len = .ok nm1 ∧
      op.binsToCheck.get (op.binsToCheck.len - 1) = .ok i ∧
      op.binsToCheck.reslice (op.binsToCheck.len - 1) = .ok btc ∧ ¬ i < 0 ∧
      (if i.toNat > 0 then op.binDividers.get (i.toNat - 1) else Outcome.ok 0) = .ok a ∧
      op.binDividers.get i.toNat = .ok b ∧
      forRange (countBinStep nb op.order op.inCell) (b - a) a (sc.timesSeen.fill0, mc1, nm1) = .ok (ts2, mc2, nm2) ∧
      forDown (splitCell nb n cb fl opts) op.binDividers.len
        (false, { op with binsToCheck := btc },
          { sc with timesSeen := ts2, maxCell := mc2, numberOfMax := nm2 }) = .ok R := by
  unfold refineIter at h
  osplit h
  exact ⟨_, _, _, _, _, _, _, _, _, ‹_›, ‹_›, ‹_›, ‹_›, ‹_›, ‹_›, ‹_›, ‹_›, h⟩

/-- The loop over the bins with its early exit: an invariant `P` of the states in which no call has returned
`true` yet; the loop ends with `false` and `P 0`, or some call `j` aborts from a state with `P (j + 1)`. -/
theorem splitLoop_rule {nb : Nbrs} {n : Nat} {cb fl : Sl Nat} {opts : Options} (P : Nat → OP → Scratch → Prop)
    (step : ∀ j op sc op1 sc1, P (j + 1) op sc → splitCell nb n cb fl opts j (false, op, sc) = .ok (false, op1, sc1) →
      P j op1 sc1) :
    ∀ (k : Nat) (op op' : OP) (sc sc' : Scratch) (r : Bool), P k op sc →
      forDown (splitCell nb n cb fl opts) k (false, op, sc) = .ok (r, op', sc') →
      (r = false ∧ P 0 op' sc') ∨
      (r = true ∧ ∃ j opj scj, j < k ∧ P (j + 1) opj scj ∧
        splitCell nb n cb fl opts j (false, opj, scj) = .ok (true, op', sc')) := by
  intro k
  induction k with
  | zero =>
    intro op op' sc sc' r hP h
    simp only [forDown, Outcome.ok.injEq, Prod.mk.injEq] at h
    obtain ⟨rfl, rfl, rfl⟩ := h
    exact Or.inl ⟨rfl, hP⟩
  | succ k ih =>
    intro op op' sc sc' r hP h
    rw [forDown] at h
    cases hc : splitCell nb n cb fl opts k (false, op, sc) with
    | ok R =>
      obtain ⟨r1, op1, sc1⟩ := R
      rw [hc] at h
      cases r1 with
      | false =>
        rcases ih op1 op' sc1 sc' r (step k op sc op1 sc1 hP hc) h with h1 | ⟨h1, j, opj, scj, hj, h2, h3⟩
        · exact Or.inl h1
        · exact Or.inr ⟨h1, j, opj, scj, Nat.lt_succ_of_lt hj, h2, h3⟩
      | true =>
        -- every later call passes the result through
        have hpass : ∀ i, forDown (splitCell nb n cb fl opts) i (true, op1, sc1) = .ok (true, op1, sc1) := by
          intro i
          induction i with
          | zero => rfl
          | succ i ihi => rw [forDown, splitCell_true]; exact ihi
        simp only at h
        rw [hpass k] at h
        simp only [Outcome.ok.injEq, Prod.mk.injEq] at h
        obtain ⟨rfl, rfl, rfl⟩ := h
        exact Or.inr ⟨rfl, k, op, sc, Nat.lt_succ_self k, hP, hc⟩
    | panic => rw [hc] at h; simp at h
    | outOfFuel => rw [hc] at h; simp at h

/-- The main loop: `P k` holds after `k` complete iterations; the loop ends after fewer than `f` of them with an empty
work list, or the next iteration aborts. -/
theorem refineLoop_rule {nb : Nbrs} {n : Nat} {cb fl : Sl Nat} {opts : Options} (P : Nat → OP → Scratch → Prop)
    (step : ∀ k op sc op1 sc1, P k op sc → 0 < op.binsToCheck.len →
      refineIter nb n cb fl opts op sc = .ok (false, op1, sc1) → P (k + 1) op1 sc1) :
    ∀ (f k : Nat) (op op' : OP) (sc sc' : Scratch) (w : Bool), P k op sc →
      refineLoop nb n cb fl opts f op sc = .ok (w, op', sc') →
      ∃ i, i < f ∧
        ((w = false ∧ op'.binsToCheck.len = 0 ∧ P (k + i) op' sc') ∨
         (w = true ∧ ∃ opi sci, P (k + i) opi sci ∧ 0 < opi.binsToCheck.len ∧
           refineIter nb n cb fl opts opi sci = .ok (true, op', sc'))) := by
  intro f
  induction f with
  | zero => intro k op op' sc sc' w _ h; simp [refineLoop] at h
  | succ f ih =>
    intro k op op' sc sc' w hP h
    rw [refineLoop] at h
    by_cases hb : op.binsToCheck.len > 0
    · rw [if_pos hb] at h
      cases hit : refineIter nb n cb fl opts op sc with
      | ok R =>
        obtain ⟨r, op1, sc1⟩ := R
        rw [hit] at h
        cases r with
        | true =>
          simp only [Outcome.ok.injEq, Prod.mk.injEq] at h
          obtain ⟨rfl, rfl, rfl⟩ := h
          exact ⟨0, Nat.succ_pos f, Or.inr ⟨rfl, op, sc, hP, hb, hit⟩⟩
        | false =>
          obtain ⟨i, hi, hcase⟩ := ih (k + 1) op1 op' sc1 sc' w (step k op sc op1 sc1 hP hb hit) h
          rw [Nat.add_right_comm, Nat.add_assoc] at hcase
          exact ⟨i + 1, Nat.succ_lt_succ hi, hcase⟩
      | panic => rw [hit] at h; simp at h
      | outOfFuel => rw [hit] at h; simp at h
    · rw [if_neg hb] at h
      simp only [Outcome.ok.injEq, Prod.mk.injEq] at h
      obtain ⟨rfl, rfl, rfl⟩ := h
      exact ⟨0, Nat.succ_pos f, Or.inl ⟨rfl, Nat.eq_zero_of_not_pos hb, hP⟩⟩

/-- the loop-invariant form of `ScratchOK`: `maxCell` may have been re-sliced to a previous number of bins, the entries
between its length and `n` are still zero -/
structure ScrInv (n : Nat) (sc : Scratch) : Prop where
  lenM : sc.maxCell.len ≤ n
  capM : n ≤ sc.maxCell.data.size
  zeroM : ∀ i, sc.maxCell.len ≤ i → i < n → sc.maxCell.data[i]? = some 0

theorem ScratchOK.scrInv {n : Nat} {sc : Scratch} (h : ScratchOK n sc) : ScrInv n sc :=
  ⟨Nat.le_of_eq h.lenM, by have := h.wfM.le; rw [h.lenM] at this; exact this,
    fun i h1 h2 => by rw [h.lenM] at h1; omega⟩

def ScrSz (sc sc' : Scratch) : Prop :=
  sc'.dws.data.size = sc.dws.data.size ∧ sc'.nbs.data.size = sc.nbs.data.size ∧
  sc'.space.data.size = sc.space.data.size ∧ sc'.timesSeen.data.size = sc.timesSeen.data.size ∧
  sc'.maxCell.data.size = sc.maxCell.data.size ∧ sc'.numberOfMax.data.size = sc.numberOfMax.data.size

theorem ScrSz.refl (sc : Scratch) : ScrSz sc sc := ⟨rfl, rfl, rfl, rfl, rfl, rfl⟩

theorem ScrSz.trans {a b c : Scratch} (h1 : ScrSz a b) (h2 : ScrSz b c) : ScrSz a c := by
  obtain ⟨a1, a2, a3, a4, a5, a6⟩ := h1
  obtain ⟨b1, b2, b3, b4, b5, b6⟩ := h2
  exact ⟨b1.trans a1, b2.trans a2, b3.trans a3, b4.trans a4, b5.trans a5, b6.trans a6⟩

/-- what an extra invariant `Q` of the partition has to satisfy to be carried through the refinement -/
structure Carried (nb : Nbrs) (n : Nat) (cb fl : Sl Nat) (opts : Options) (Q : OP → Prop) : Prop where
  split : ∀ (j : Nat) (op op' : OP) (sc sc' : Scratch) (r : Bool), PartInv n op →
    CellCount op sc.timesSeen sc.maxCell sc.numberOfMax j → Q op →
    splitCell nb n cb fl opts j (false, op, sc) = .ok (r, op', sc') → Q op'
  btc : ∀ (op : OP) (b : Sl Int), Q op → Q { op with binsToCheck := b }

theorem carried_true (nb : Nbrs) (n : Nat) (cb fl : Sl Nat) (opts : Options) : Carried nb n cb fl opts (fun _ => True) :=
  ⟨fun _ _ _ _ _ _ _ _ _ _ => trivial, fun _ _ _ => trivial⟩

theorem Carried.of_split (hst : StablePerm) {nb : Nbrs} {n : Nat} {cb fl : Sl Nat} {opts : Options} {Q : OP → Prop}
    (hsplit : ∀ {j bs dj : Nat} {K nbsL : List Nat} {op op2 : OP} {ts : Sl Nat}, PartInv n op →
      SplitRel n j bs dj K nbsL op op2 → SplitX ts j bs dj K nbsL op op2 → Q op → Q op2)
    (hframe : ∀ op op' : OP, op'.order = op.order → op'.binDividers = op.binDividers → op'.binAges = op.binAges →
      op'.inCell = op.inCell → op'.age = op.age → Q op → Q op') : Carried nb n cb fl opts Q := by
  refine ⟨fun j op op' sc sc' r hp hcc hq h => ?_, fun op b hq => hframe op _ rfl rfl rfl rfl rfl hq⟩
  obtain ⟨bs, dj, _, _, ⟨_, _, rfl, _⟩ | ⟨K, nbsL, op2, sc2, hrel, hx, _, ht⟩⟩ := splitCell_split hst hp hcc h
  · exact hq
  · obtain ⟨_, e1, e2, e3, _, e5, e6⟩ := scTail_frame ht
    exact hframe op2 op' e1 e2 e3 e6 e5 (hsplit hp hrel hx hq)

/-- as `Carried`, but the state in which the refinement returns `true` satisfies a second predicate `Q'`, and `Q` need
only survive the pop of the work list (same backing array) -/
structure Carried2 (nb : Nbrs) (n : Nat) (cb fl : Sl Nat) (opts : Options) (Q Q' : OP → Prop) : Prop where
  split : ∀ (j : Nat) (op op' : OP) (sc sc' : Scratch) (r : Bool), PartInv n op →
    CellCount op sc.timesSeen sc.maxCell sc.numberOfMax j → Q op →
    splitCell nb n cb fl opts j (false, op, sc) = .ok (r, op', sc') → (r = false → Q op') ∧ (r = true → Q' op')
  btc : ∀ (op : OP) (b : Sl Int), b.data = op.binsToCheck.data → Q op → Q { op with binsToCheck := b }

theorem Carried.to2 {nb : Nbrs} {n : Nat} {cb fl : Sl Nat} {opts : Options} {Q : OP → Prop}
    (h : Carried nb n cb fl opts Q) : Carried2 nb n cb fl opts Q Q :=
  ⟨fun j op op' sc sc' r hp hcc hq hs => ⟨fun _ => h.split j op op' sc sc' r hp hcc hq hs,
    fun _ => h.split j op op' sc sc' r hp hcc hq hs⟩, fun op b _ hq => h.btc op b hq⟩

theorem splitLoop_inv2 (hst : StablePerm) {nb : Nbrs} {n : Nat} {cb fl : Sl Nat} {opts : Options} {Q Q' : OP → Prop}
    (hQ : Carried2 nb n cb fl opts Q Q') {k : Nat} {op op' : OP} {sc sc' : Scratch} {r : Bool}
    (hp : PartInv n op) (ha : AgeInv op) (hq : Q op)
    (hcc : ∀ j, j < k → CellCount op sc.timesSeen sc.maxCell sc.numberOfMax j)
    (h : forDown (splitCell nb n cb fl opts) k (false, op, sc) = .ok (r, op', sc')) :
    OpRel n op op' ∧ ScrRel sc sc' ∧ (r = false → Q op') ∧ (r = true → Q' op') := by
  -- what one call needs and gives, from a state reached without abort
  have call : ∀ j op1 sc1 r2 op2 sc2,
      (OpRel n op op1 ∧ ScrRel sc sc1 ∧ Q op1 ∧ ∀ i, i < j + 1 → CellCount op1 sc.timesSeen sc.maxCell sc.numberOfMax i) →
      splitCell nb n cb fl opts j (false, op1, sc1) = .ok (r2, op2, sc2) →
      (OpRel n op op2 ∧ ScrRel sc sc2 ∧ ∀ i, i < j → CellCount op2 sc.timesSeen sc.maxCell sc.numberOfMax i) ∧
        (r2 = false → Q op2) ∧ (r2 = true → Q' op2) := by
    intro j op1 sc1 r2 op2 sc2 ⟨h1, h2, hq1, hc1⟩ hf
    obtain ⟨e1, e2, e3, _, _, _⟩ := id h2
    have hcc1 : CellCount op1 sc1.timesSeen sc1.maxCell sc1.numberOfMax j := by
      rw [e1, e2, e3]; exact hc1 j (Nat.lt_succ_self j)
    obtain ⟨g1, g2, g3⟩ := splitCell_step hst h1.1 h1.2.1 hcc1 hf
    refine ⟨⟨h1.trans g1, h2.trans g2, fun i hi => ?_⟩, hQ.split j op1 op2 sc1 sc2 r2 h1.1 hcc1 hq1 hf⟩
    have := g3 i hi (by rw [e1, e2, e3]; exact hc1 i (Nat.lt_succ_of_lt hi))
    rw [e1, e2, e3] at this; exact this
  rcases splitLoop_rule
    (fun i o s => OpRel n op o ∧ ScrRel sc s ∧ Q o ∧ ∀ j, j < i → CellCount o sc.timesSeen sc.maxCell sc.numberOfMax j)
    (fun j o s o1 s1 hP hf => by
      obtain ⟨⟨a, b, c⟩, d, _⟩ := call j o s false o1 s1 hP hf
      exact ⟨a, b, d rfl, c⟩)
    k op op' sc sc' r ⟨OpRel.refl hp ha, ScrRel.refl _, hq, hcc⟩ h with ⟨rfl, a, b, c, _⟩ | ⟨rfl, j, opj, scj, _, hP, hf⟩
  · exact ⟨a, b, fun _ => c, fun h => by cases h⟩
  · obtain ⟨⟨a, b, _⟩, _, d⟩ := call j opj scj true op' sc' hP hf
    exact ⟨a, b, (fun h => by cases h), d⟩

theorem splitLoop_inv (hst : StablePerm) {nb : Nbrs} {n : Nat} {cb fl : Sl Nat} {opts : Options} {Q : OP → Prop}
    (hQ : Carried nb n cb fl opts Q) {k : Nat} {op op' : OP} {sc sc' : Scratch} {r : Bool}
    (hp : PartInv n op) (ha : AgeInv op) (hq : Q op)
    (hcc : ∀ j, j < k → CellCount op sc.timesSeen sc.maxCell sc.numberOfMax j)
    (h : forDown (splitCell nb n cb fl opts) k (false, op, sc) = .ok (r, op', sc')) :
    OpRel n op op' ∧ ScrRel sc sc' ∧ Q op' := by
  obtain ⟨a, b, c, d⟩ := splitLoop_inv2 hst hQ.to2 hp ha hq hcc h
  exact ⟨a, b, (Bool.eq_false_or_eq_true r).elim d c⟩

theorem PartInv.of_btc {n : Nat} {op : OP} (h : PartInv n op) (b : Sl Int) : PartInv n { op with binsToCheck := b } :=
  PartInv.of_frame h rfl rfl rfl rfl

theorem rfDv_fill0_reslice {n k : Nat} {s s1 : Sl Nat} (hc : n ≤ s.data.size)
    (hz : ∀ i, s.len ≤ i → i < n → s.data[i]? = some 0) (h : s.fill0.reslice k = .ok s1) :
    ∀ c, c < n → s1.data[c]? = some 0 := by
  obtain ⟨_, e2, _⟩ := Sl.reslice_len h
  intro c hc'
  rw [e2, Sl.fill0_data]
  by_cases h1 : c < s.len
  · rw [if_pos h1, if_pos (by omega)]
  · rw [if_neg h1]; exact hz c (by omega) hc'

theorem refineIter_counted {n : Nat} {nb : Nbrs} {op : OP} {sc : Scratch} {mc1 nm1 ts2 mc2 nm2 : Sl Nat} {a k : Nat}
    (hp : PartInv n op) (hs : ScrInv n sc)
    (h1 : sc.maxCell.fill0.reslice op.binDividers.len = .ok mc1)
    (h2 : sc.numberOfMax.fill0.reslice op.binDividers.len = .ok nm1)
    (hcnt : forRange (countBinStep nb op.order op.inCell) k a (sc.timesSeen.fill0, mc1, nm1) = .ok (ts2, mc2, nm2))
    (btc : Sl Int) :
    (∀ j, j < op.binDividers.len → CellCount { op with binsToCheck := btc } ts2 mc2 nm2 j) ∧
    ScrInv n { sc with timesSeen := ts2, maxCell := mc2, numberOfMax := nm2 } ∧
    ts2.data.size = sc.timesSeen.data.size ∧ mc2.data.size = sc.maxCell.data.size ∧
    nm2.data.size = sc.numberOfMax.data.size ∧ SlFrame sc.timesSeen.fill0 ts2 ∧ mc2.len = op.binDividers.len ∧
    nm2.len = op.binDividers.len := by
  obtain ⟨m1, m2, _⟩ := Sl.reslice_len h1
  obtain ⟨k1, k2, _⟩ := Sl.reslice_len h2
  have hbn : op.binDividers.len ≤ n := hp.bdLen_le
  have hz1 := rfDv_fill0_reslice hs.capM hs.zeroM h1
  have hI0 : CountInv n op.inCell sc.timesSeen.fill0 mc1 nm1 :=
    countInv_zero (fun v => rfTv_fill0 _ v) (fun c hc => by unfold rfDv; rw [hz1 c (by omega)]; rfl)
  obtain ⟨hI, f1, f2, f3⟩ := countLoop_st (n := n) (Nat.le_of_eq hp.lenInCell) nb op.order _ _ _ hI0 hcnt
  simp only at hI f1 f2 f3
  refine ⟨fun j hj => cellCount_of_countInv (hp.of_btc btc) hI (by rw [f2.1, m1]; exact hj),
    ⟨by show mc2.len ≤ n; rw [f2.1, m1]; exact hbn,
     by show n ≤ mc2.data.size; rw [f2.2.1, m2, Sl.fill0_size]; exact hs.capM,
     fun c h3 h4 => by
      show mc2.data[c]? = some 0
      have h3' : mc2.len ≤ c := h3
      rw [f2.1, m1] at h3'
      rw [f2.2.2 c (by rw [m1]; exact h3')]
      exact hz1 c h4⟩,
    by rw [f1.2.1, Sl.fill0_size], by rw [f2.2.1, m2, Sl.fill0_size], by rw [f3.2.1, k2, Sl.fill0_size], f1,
    f2.1.trans m1, f3.1.trans k1⟩

theorem ScrInv.of_rel {n : Nat} {sc sc' : Scratch} (h : ScrInv n sc) (hr : ScrRel sc sc') : ScrInv n sc' := by
  obtain ⟨_, e2, _, _, _, _⟩ := hr
  exact ⟨by rw [e2]; exact h.lenM, by rw [e2]; exact h.capM, fun i h1 h2 => by rw [e2] at h1 ⊢; exact h.zeroM i h1 h2⟩

theorem refineIter_inv2 (hst : StablePerm) {nb : Nbrs} {n : Nat} {cb fl : Sl Nat} {opts : Options} {Q Q' : OP → Prop}
    (hQ : Carried2 nb n cb fl opts Q Q') {op op' : OP} {sc sc' : Scratch} {r : Bool}
    (hp : PartInv n op) (ha : AgeInv op) (hq : Q op) (hs : ScrInv n sc)
    (h : refineIter nb n cb fl opts op sc = .ok (r, op', sc')) :
    OpRel n op op' ∧ ((r = false → Q op') ∧ (r = true → Q' op')) ∧ ScrInv n sc' ∧ ScrSz sc sc' := by
  obtain ⟨mc1, nm1, i, btc, a, b, ts2, mc2, nm2, h1, h2, _, hbt, _, _, _, hcnt, h⟩ := refineIter_ok h
  obtain ⟨hcc, hs2, z1, z2, z3, _⟩ := refineIter_counted hp hs h1 h2 hcnt btc
  obtain ⟨g1, g2, g3⟩ := splitLoop_inv2 hst hQ (hp.of_btc btc) (AgeInv.of_frame ha rfl rfl)
    (hQ.btc op btc (Sl.reslice_len hbt).2.1 hq) hcc h
  obtain ⟨a1, a2, a3, a4, a5, a6, a7, a8⟩ := g1
  refine ⟨⟨a1, a2, a3, a4, a5, a6, a7, a8⟩, g3, hs2.of_rel g2, ?_⟩
  obtain ⟨s1, s2, s3, s4, s5, s6⟩ := g2
  simp only at s1 s2 s3
  exact ⟨s4, s5, s6, by rw [s1]; exact z1, by rw [s2]; exact z2, by rw [s3]; exact z3⟩


theorem refineIter_inv (hst : StablePerm) {nb : Nbrs} {n : Nat} {cb fl : Sl Nat} {opts : Options} {Q : OP → Prop}
    (hQ : Carried nb n cb fl opts Q) {op op' : OP} {sc sc' : Scratch} {r : Bool}
    (hp : PartInv n op) (ha : AgeInv op) (hq : Q op) (hs : ScrInv n sc)
    (h : refineIter nb n cb fl opts op sc = .ok (r, op', sc')) :
    OpRel n op op' ∧ Q op' ∧ ScrInv n sc' ∧ ScrSz sc sc' := by
  obtain ⟨a, ⟨b1, b2⟩, c, d⟩ := refineIter_inv2 hst hQ.to2 hp ha hq hs h
  exact ⟨a, (Bool.eq_false_or_eq_true r).elim b2 b1, c, d⟩

theorem refineLoop_inv2 (hst : StablePerm) {nb : Nbrs} {n : Nat} {cb fl : Sl Nat} {opts : Options} {Q Q' : OP → Prop}
    (hQ : Carried2 nb n cb fl opts Q Q') : ∀ (f : Nat) (op op' : OP) (sc sc' : Scratch) (w : Bool),
    PartInv n op → AgeInv op → Q op → ScrInv n sc →
    refineLoop nb n cb fl opts f op sc = .ok (w, op', sc') →
    OpRel n op op' ∧ ((w = false → Q op') ∧ (w = true → Q' op')) ∧ ScrSz sc sc' := by
  intro f op op' sc sc' w hp ha hq hs h
  obtain ⟨i, _, ⟨rfl, _, a, b, _, d⟩ | ⟨rfl, opi, sci, ⟨a, b, c, d⟩, _, hit⟩⟩ := refineLoop_rule
    (fun _ o s => OpRel n op o ∧ Q o ∧ ScrInv n s ∧ ScrSz sc s)
    (fun _ o s o1 s1 ⟨a, b, c, d⟩ _ hit => by
      obtain ⟨g1, g2, g3, g4⟩ := refineIter_inv2 hst hQ a.1 a.2.1 b c hit
      exact ⟨a.trans g1, g2.1 rfl, g3, d.trans g4⟩)
    f 0 op op' sc sc' w ⟨OpRel.refl hp ha, hq, hs, ScrSz.refl _⟩ h
  · exact ⟨a, ⟨fun _ => b, fun h => by cases h⟩, d⟩
  · obtain ⟨g1, g2, _, g4⟩ := refineIter_inv2 hst hQ a.1 a.2.1 b c hit
    exact ⟨a.trans g1, ⟨(fun h => by cases h), g2.2⟩, d.trans g4⟩

theorem refineLoop_inv (hst : StablePerm) {nb : Nbrs} {n : Nat} {cb fl : Sl Nat} {opts : Options} {Q : OP → Prop}
    (hQ : Carried nb n cb fl opts Q) (f : Nat) (op op' : OP) (sc sc' : Scratch) (w : Bool)
    (hp : PartInv n op) (ha : AgeInv op) (hq : Q op) (hs : ScrInv n sc)
    (h : refineLoop nb n cb fl opts f op sc = .ok (w, op', sc')) :
    OpRel n op op' ∧ Q op' ∧ ScrSz sc sc' := by
  obtain ⟨a, ⟨b1, b2⟩, c⟩ := refineLoop_inv2 hst hQ.to2 f op op' sc sc' w hp ha hq hs h
  exact ⟨a, (Bool.eq_false_or_eq_true w).elim b2 b1, c⟩

/-- the refinement keeps the partition invariants; every new divider gets age `op.age`, the old dividers keep their
ages and their relative order; all slices keep their capacity -/
theorem refine_inv (hst : StablePerm) {n : Nat} {nb : Nbrs} {cb fl : Sl Nat} {opts : Options} {op op' : OP}
    {sc sc' : Scratch} {w : Bool}
    (h : PartInv n op) (ha : AgeInv op) (hsc : ScratchOK n sc)
    (hr : refine nb cb fl opts op sc = .ok (w, op', sc')) :
    PartInv n op' ∧ AgeInv op' ∧ op'.age = op.age ∧
      (divs op').filter (fun x => decide (x.2 < op.age)) = (divs op).filter (fun x => decide (x.2 < op.age)) ∧
      sc'.dws.data.size = sc.dws.data.size ∧ sc'.nbs.data.size = sc.nbs.data.size ∧
      sc'.space.data.size = sc.space.data.size ∧ sc'.timesSeen.data.size = sc.timesSeen.data.size ∧
      sc'.maxCell.data.size = sc.maxCell.data.size ∧ sc'.numberOfMax.data.size = sc.numberOfMax.data.size ∧
      op'.order.data.size = op.order.data.size ∧ op'.inCell.data.size = op.inCell.data.size ∧
      op'.binDividers.data.size = op.binDividers.data.size ∧ op'.binAges.data.size = op.binAges.data.size := by
  unfold refine at hr
  rw [h.lenOrder] at hr
  obtain ⟨⟨a1, a2, a3, a4, a5, a6, a7, a8⟩, _, b1, b2, b3, b4, b5, b6⟩ :=
    refineLoop_inv hst (carried_true nb n cb fl opts) _ op op' sc sc' w h ha trivial hsc.scrInv hr
  exact ⟨a1, a2, a3, a4, b1, b2, b3, b4, b5, b6, a5, a6, a7, a8⟩


theorem refine_not_worse {nb : Nbrs} {cb fl : Sl Nat} {opts : Options} {op op' : OP} {sc sc' : Scratch} {w : Bool}
    (hcb : cb.len = 0) (hv : opts.checkViability = false)
    (hr : refine nb cb fl opts op sc = .ok (w, op', sc')) : w = false := by
  obtain ⟨i, _, ⟨hw, _⟩ | ⟨rfl, opi, sci, _, _, hit⟩⟩ := refineLoop_rule (fun _ _ _ => True)
    (fun _ _ _ _ _ _ _ _ => trivial) _ 0 op op' sc sc' w trivial hr
  · exact hw
  · obtain ⟨mc1, nm1, i, btc, a, b, ts2, mc2, nm2, _, _, _, _, _, _, _, _, h⟩ := refineIter_ok hit
    rcases splitLoop_rule (fun _ _ _ => True) (fun _ _ _ _ _ _ _ => trivial) _ _ _ _ _ _ trivial h with
      ⟨hr, _⟩ | ⟨_, j, opj, scj, _, _, hf⟩
    · cases hr
    · exact absurd (splitCell_not_worse hcb hv hf) (by simp)

/-- the certificate-prefix facts are preserved by the refinement while `currentBest` is empty -/
theorem refine_phase1 (hst : StablePerm) {n : Nat} {nb : Nbrs} {cb fl : Sl Nat} {opts : Options} {op op' : OP}
    {sc sc' : Scratch} {w : Bool}
    (h : PartInv n op) (ha : AgeInv op) (hsc : ScratchOK n sc) (hc : CleanPrefix op) (hno : NoEarlierNbr nb op)
    (hcb : cb.len = 0) (hv : opts.checkViability = false)
    (hr : refine nb cb fl opts op sc = .ok (w, op', sc')) : CleanPrefix op' ∧ NoEarlierNbr nb op' := by
  have _ := hv
  unfold refine at hr
  rw [h.lenOrder] at hr
  exact (refineLoop_inv hst (Q := fun op => CleanPrefix op ∧ NoEarlierNbr nb op)
    ⟨fun j op op' sc sc' r hp hcc hq h => splitCell_phase1 hst hcb hp hcc hq.1 hq.2 h,
      fun op b hq => ⟨⟨⟨hq.1.le, hq.1.single⟩, hq.1.next⟩, hq.2⟩⟩
    _ op op' sc sc' w h ha ⟨hc, hno⟩ hsc.scrInv hr).2.1


theorem SplitScr.of_rel {n : Nat} {sc sc' : Scratch} (h : SplitScr n sc) (hr : ScrRel sc sc') : SplitScr n sc' := by
  obtain ⟨e1, e2, e3, e4, e5, e6⟩ := hr
  exact ⟨by rw [e4]; exact h.capDws, by rw [e5]; exact h.capNbs, by rw [e6]; exact h.capSpace,
    by rw [e1]; exact h.tsWF, by rw [e1]; exact h.tsLen, by rw [e2]; exact h.mcWF, by rw [e3]; exact h.nmWF⟩

theorem refineIter_eval {nb : Nbrs} {n : Nat} {cb fl : Sl Nat} {opts : Options} {op : OP} {sc : Scratch}
    {mc1 nm1 : Sl Nat} {i : Int} {btc : Sl Int} {a b : Nat} {ts2 mc2 nm2 : Sl Nat}
    (h1 : sc.maxCell.fill0.reslice op.binDividers.len = .ok mc1)
    (h2 : sc.numberOfMax.fill0.reslice op.binDividers.len = .ok nm1)
    (h3 : op.binsToCheck.get (op.binsToCheck.len - 1) = .ok i)
    (h4 : op.binsToCheck.reslice (op.binsToCheck.len - 1) = .ok btc) (hi : ¬ i < 0)
    (h5 : (if i.toNat > 0 then op.binDividers.get (i.toNat - 1) else Outcome.ok 0) = .ok a)
    (h6 : op.binDividers.get i.toNat = .ok b)
    (h7 : forRange (countBinStep nb op.order op.inCell) (b - a) a (sc.timesSeen.fill0, mc1, nm1) = .ok (ts2, mc2, nm2)) :
    refineIter nb n cb fl opts op sc =
      forDown (splitCell nb n cb fl opts) op.binDividers.len
        (false, { op with binsToCheck := btc }, { sc with timesSeen := ts2, maxCell := mc2, numberOfMax := nm2 }) := by
  unfold refineIter
  simp only [h1, h2, h3, h4, if_neg hi, h5, h6, h7]

/-- the scratch slices between two iterations -/
structure RefScr (n : Nat) (sc : Scratch) : Prop where
  capDws : n ≤ sc.dws.data.size
  capNbs : n ≤ sc.nbs.data.size
  capSpace : n ≤ sc.space.data.size
  tsWF : sc.timesSeen.WF
  tsLen : n ≤ sc.timesSeen.len
  inv : ScrInv n sc
  capNm : n ≤ sc.numberOfMax.data.size

theorem PartInv.inCell_lt {n : Nat} {op : OP} (hp : PartInv n op) {v : Nat} (hv : v < n) :
    ∃ c, op.inCell.get v = .ok c ∧ c < op.binDividers.len := by
  have hmem : v ∈ op.order.toList := hp.perm.mem_iff.2 (List.mem_range.2 hv)
  obtain ⟨p, hpv⟩ := List.mem_iff_getElem?.1 hmem
  have hpl : p < n := by
    have := (List.getElem?_eq_some_iff.1 hpv).1
    rw [hp.length_order] at this; exact this
  refine ⟨_, Sl.get_eq_toList.2 (hp.inCell p v hpv), ?_⟩
  have := binIdx_lt _ n p hp.last hpl
  rw [hp.length_bd] at this; exact this

theorem NPOp.pop {n : Nat} {op : OP} (ho : NPOp n op) :
    NPOp n { op with binsToCheck := ⟨op.binsToCheck.data, op.binsToCheck.len - 1⟩ } := by
  have hw : (⟨op.binsToCheck.data, op.binsToCheck.len - 1⟩ : Sl Int).WF := by
    have := ho.btcWF; unfold Sl.WF at *; simp only; omega
  have htl : (⟨op.binsToCheck.data, op.binsToCheck.len - 1⟩ : Sl Int).toList =
      op.binsToCheck.toList.take (op.binsToCheck.len - 1) := by
    unfold Sl.toList
    rw [List.take_take, Nat.min_eq_left (by omega)]
  exact
    { inv := PartInv.of_frame ho.inv rfl rfl rfl rfl
      capBd := ho.capBd
      capAges := ho.capAges
      capBtc := ho.capBtc
      btcWF := hw
      btcSorted := by
        show (⟨op.binsToCheck.data, op.binsToCheck.len - 1⟩ : Sl Int).toList.Pairwise (· < ·)
        rw [htl]; exact List.Pairwise.sublist (List.take_sublist _ _) ho.btcSorted
      btcRange := by
        intro x hx
        have hx' : x ∈ (⟨op.binsToCheck.data, op.binsToCheck.len - 1⟩ : Sl Int).toList := hx
        rw [htl] at hx'
        exact ho.btcRange x (List.mem_of_mem_take hx')
      pre := ⟨ho.pre.le, ho.pre.single⟩
      valWF := ho.valWF }


/-- what the loops need of one call of `splitCell`, with an invariant `Q` of the partition carried beside `NPOp` -/
structure CallTotal (nb : Nbrs) (n : Nat) (cb fl : Sl Nat) (opts : Options) (Q : OP → Prop) : Prop where
  nbSize : nb.size = n
  nbRange : ∀ (u : Nat) (l : List Nat), nb[u]? = some l → ∀ v ∈ l, v < n
  btc : ∀ (op : OP) (b : Sl Int), Q op → Q { op with binsToCheck := b }
  call : ∀ (j : Nat) (op : OP) (sc : Scratch), NPOp n op → Q op → SplitScr n sc → j < op.binDividers.len →
    j < sc.maxCell.len → j < sc.numberOfMax.len → CellCount op sc.timesSeen sc.maxCell sc.numberOfMax j →
    ∃ r op' sc', splitCell nb n cb fl opts j (false, op, sc) = .ok (r, op', sc') ∧
      (r = false → (NPOp n op' ∧ Q op') ∧ refinePotential n op' ≤ refinePotential n op ∧
        op.binDividers.len ≤ op'.binDividers.len)

/-- A call does not panic as soon as `expandValue` does not: `Q` survives an effective split, and on the states that the
refinement reaches `expandValue` returns and, when it says `false`, gives `PrefixSingle`, a well-formed `value` and `Q`
again. -/
theorem CallTotal.of_expand (hst : StablePerm) (htot : StableTotal) {nb : Nbrs} {n : Nat} {cb fl : Sl Nat}
    {opts : Options} {Q : OP → Prop} (hnb : nb.size = n)
    (hnbr : ∀ (u : Nat) (l : List Nat), nb[u]? = some l → ∀ v ∈ l, v < n) (hv : opts.checkViability = false)
    (hbtc : ∀ (op : OP) (b : Sl Int), Q op → Q { op with binsToCheck := b })
    (hsplit : ∀ {j bs dj : Nat} {K nbsL : List Nat} {op op2 : OP}, PartInv n op → PrefixSingle op →
      SplitRel n j bs dj K nbsL op op2 → Q op → Q op2)
    (hexp : ∀ op2 : OP, PartInv n op2 → PrefixSingle op2 → op2.value.WF → Q op2 →
      ∃ w opE, expandValue nb cb fl op2 = .ok (w, opE) ∧ (w = false → PrefixSingle opE ∧ opE.value.WF ∧ Q opE)) :
    CallTotal nb n cb fl opts Q := by
  refine ⟨hnb, hnbr, hbtc, fun j op sc ho hq hs hj hjm hjn hcc => ?_⟩
  rcases splitCell_pre_total hst htot (nb := nb) (fl := fl) (opts := opts) ho hs hj hjm hjn hcc with
    hall | ⟨bs, dj, K, nbsL, op2, sc2, hrel, hx, _, hall⟩
  · exact ⟨false, op, sc, hall cb, fun _ => ⟨⟨ho, hq⟩, Nat.le_refl _, Nat.le_refl _⟩⟩
  · have hps2 := hrel.prefixSingle ho.inv ho.pre
    have hvw2 : op2.value.WF := by rw [hrel.value]; exact ho.valWF
    have hq2 := hsplit ho.inv ho.pre hrel hq
    rw [hall cb]
    by_cases hjs : j = op2.spl
    · obtain ⟨w, opE, hE, hw⟩ := hexp op2 hrel.inv hps2 hvw2 hq2
      obtain ⟨e1, e2, e3, e4, _, e6⟩ := expandValue_frame hE
      cases w with
      | true => exact ⟨true, opE, sc2, scTail_eval_true sc2 (by rw [if_pos hjs]; exact hE), fun h => by cases h⟩
      | false =>
        obtain ⟨g1, g2, g3⟩ := hw rfl
        obtain ⟨q1, q2, q3⟩ := NPOp.of_split ho hrel hx e1 e2 e3 e4 e6 g1 g2
        exact ⟨false, opE, sc2, scTail_eval sc2 hv (by rw [if_pos hjs]; exact hE), fun _ => ⟨⟨q1, g3⟩, q2, q3⟩⟩
    · obtain ⟨q1, q2, q3⟩ := NPOp.of_split ho hrel hx rfl rfl rfl rfl rfl hps2 hvw2
      exact ⟨false, op2, sc2, scTail_eval sc2 hv (by rw [if_neg hjs]), fun _ => ⟨⟨q1, hq2⟩, q2, q3⟩⟩

theorem splitLoop_total (hst : StablePerm) {nb : Nbrs} {n : Nat} {cb fl : Sl Nat} {opts : Options} {Q : OP → Prop}
    (hc : CallTotal nb n cb fl opts Q) {k : Nat} {op : OP} {sc : Scratch}
    (ho : NPOp n op ∧ Q op) (ha : AgeInv op) (hs : SplitScr n sc) (hk : k ≤ op.binDividers.len)
    (hkm : k ≤ sc.maxCell.len) (hkn : k ≤ sc.numberOfMax.len)
    (hcc : ∀ j, j < k → CellCount op sc.timesSeen sc.maxCell sc.numberOfMax j) :
    ∃ r op' sc', forDown (splitCell nb n cb fl opts) k (false, op, sc) = .ok (r, op', sc') ∧
      (r = false → (NPOp n op' ∧ Q op') ∧ AgeInv op' ∧ refinePotential n op' ≤ refinePotential n op ∧ ScrRel sc sc') := by
  obtain ⟨rr, hr, hP⟩ := forDown_total (splitCell nb n cb fl opts)
    (fun i (st : Bool × OP × Scratch) => st.1 = false → ((NPOp n st.2.1 ∧ Q st.2.1) ∧ AgeInv st.2.1 ∧
      refinePotential n st.2.1 ≤ refinePotential n op ∧ ScrRel sc st.2.2 ∧ i ≤ st.2.1.binDividers.len ∧
      ∀ j, j < i → CellCount st.2.1 sc.timesSeen sc.maxCell sc.numberOfMax j))
    k (false, op, sc) (fun _ => ⟨ho, ha, Nat.le_refl _, ScrRel.refl _, hk, hcc⟩)
    (by
      rintro i ⟨ret, op1, sc1⟩ hi hP
      simp only at hP
      cases ret with
      | true => exact ⟨(true, op1, sc1), splitCell_true .., fun h => by cases h⟩
      | false =>
        obtain ⟨h1, h2, h3, h4, h5, h6⟩ := hP rfl
        have h4' := h4
        obtain ⟨e1, e2, e3, _, _, _⟩ := h4'
        have hcc1 : CellCount op1 sc1.timesSeen sc1.maxCell sc1.numberOfMax i := by
          rw [e1, e2, e3]; exact h6 i (Nat.lt_succ_self i)
        obtain ⟨r2, op2, sc2, heq, hg⟩ := hc.call i op1 sc1 h1.1 h1.2 (hs.of_rel h4) (by omega)
          (by rw [e2]; omega) (by rw [e3]; omega) hcc1
        obtain ⟨k1, k2, k3⟩ := splitCell_step hst h1.1.inv h2 hcc1 heq
        refine ⟨(r2, op2, sc2), heq, fun hr2 => ?_⟩
        simp only at hr2
        obtain ⟨g1, g2, g3⟩ := hg hr2
        refine ⟨g1, k1.2.1, Nat.le_trans g2 h3, h4.trans k2, by simp only; omega, ?_⟩
        intro j hj
        have := k3 j hj (by rw [e1, e2, e3]; exact h6 j (by omega))
        rw [e1, e2, e3] at this; exact this)
  obtain ⟨ret, op', sc'⟩ := rr
  refine ⟨ret, op', sc', hr, fun h0 => ?_⟩
  obtain ⟨h1, h2, h3, h4, _, _⟩ := hP h0
  exact ⟨h1, h2, h3, h4⟩

/-- one iteration of the main loop does not panic; if it returns `false` the potential has decreased -/
theorem refineIter_total (hst : StablePerm) {nb : Nbrs} {n : Nat} {cb fl : Sl Nat} {opts : Options} {Q : OP → Prop}
    (hc : CallTotal nb n cb fl opts Q) {op : OP} {sc : Scratch}
    (hoR : NPOp n op ∧ Q op) (ha : AgeInv op) (hs : RefScr n sc) (hb : op.binsToCheck.len > 0) :
    ∃ r op' sc', refineIter nb n cb fl opts op sc = .ok (r, op', sc') ∧
      (r = false → (NPOp n op' ∧ Q op') ∧ AgeInv op' ∧ RefScr n sc' ∧ refinePotential n op' + 1 ≤ refinePotential n op) := by
  have ho := hoR.1
  have hp := ho.inv
  have hbn : op.binDividers.len ≤ n := hp.bdLen_le
  have hbl : op.binDividers.toList.length = op.binDividers.len := hp.length_bd
  have h1 : sc.maxCell.fill0.reslice op.binDividers.len = .ok ⟨sc.maxCell.fill0.data, op.binDividers.len⟩ :=
    Sl.reslice_eq_ok.2 ⟨by rw [Sl.fill0_size]; exact Nat.le_trans hbn hs.inv.capM, rfl⟩
  have h2 : sc.numberOfMax.fill0.reslice op.binDividers.len = .ok ⟨sc.numberOfMax.fill0.data, op.binDividers.len⟩ :=
    Sl.reslice_eq_ok.2 ⟨by rw [Sl.fill0_size]; exact Nat.le_trans hbn hs.capNm, rfl⟩
  obtain ⟨i, h3, _⟩ := Sl.get_ok_of_lt ho.btcWF (show op.binsToCheck.len - 1 < op.binsToCheck.len by omega)
  have h4 : op.binsToCheck.reslice (op.binsToCheck.len - 1) = .ok ⟨op.binsToCheck.data, op.binsToCheck.len - 1⟩ :=
    Sl.reslice_eq_ok.2 ⟨by have := ho.btcWF.le; omega, rfl⟩
  have hir := ho.btcRange i (List.mem_of_getElem? (Sl.get_eq_toList.1 h3))
  have hi : ¬ i < 0 := by omega
  have hil : i.toNat < op.binDividers.len := by omega
  obtain ⟨dj, hgd, _⟩ := Sl.get_ok_of_lt hp.wfBd hil
  have hdj : op.binDividers.toList[i.toNat]? = some dj := Sl.get_eq_toList.1 hgd
  obtain ⟨bs, hbs⟩ : ∃ bs, (0 :: op.binDividers.toList)[i.toNat]? = some bs :=
    ⟨_, List.getElem?_eq_getElem (by simp only [List.length_cons]; omega)⟩
  obtain ⟨hlt, hdn, _⟩ := hp.bin_bounds hbs hdj
  have hnb : ∀ w, w < n → ∃ l, nbrsGet nb w = .ok l ∧ ∀ v ∈ l, v < n := by
    intro w hw
    have hws : w < nb.size := by rw [hc.nbSize]; exact hw
    refine ⟨nb[w], ?_, hc.nbRange w _ (Array.getElem?_eq_getElem hws)⟩
    unfold nbrsGet
    rw [Array.getElem?_eq_getElem hws]
  have hmw : (⟨sc.maxCell.fill0.data, op.binDividers.len⟩ : Sl Nat).WF := (Sl.reslice_len h1).2.2
  have hnw : (⟨sc.numberOfMax.fill0.data, op.binDividers.len⟩ : Sl Nat).WF := (Sl.reslice_len h2).2.2
  obtain ⟨st', h7⟩ := countLoop_total (n := n) (K := op.binDividers.len) (nb := nb) (order := op.order)
    (ic := op.inCell) (ts := sc.timesSeen.fill0) (mc := ⟨sc.maxCell.fill0.data, op.binDividers.len⟩)
    (nm := ⟨sc.numberOfMax.fill0.data, op.binDividers.len⟩) (fun _ hp' => hp.order_get hp') hnb
    (fun v hv => hp.inCell_lt hv)
    (Sl.fill0_wf hs.tsWF) (by rw [Sl.fill0_len]; exact hs.tsLen) hmw (Nat.le_refl _) hnw (Nat.le_refl _)
    (dj - bs) bs (by omega)
  obtain ⟨ts2, mc2, nm2⟩ := st'
  rw [refineIter_eval h1 h2 h3 h4 hi (binStart_iff.2 hbs) hgd h7]
  obtain ⟨hcc, hs2, _, _, z3, f1, hm2l, hn2l⟩ :=
    refineIter_counted hp hs.inv h1 h2 h7 ⟨op.binsToCheck.data, op.binsToCheck.len - 1⟩
  have ho1 : NPOp n { op with binsToCheck := ⟨op.binsToCheck.data, op.binsToCheck.len - 1⟩ } ∧
      Q { op with binsToCheck := ⟨op.binsToCheck.data, op.binsToCheck.len - 1⟩ } := ⟨ho.pop, hc.btc _ _ hoR.2⟩
  have ha1 : AgeInv { op with binsToCheck := ⟨op.binsToCheck.data, op.binsToCheck.len - 1⟩ } :=
    AgeInv.of_frame ha rfl rfl
  have htw2 : ts2.WF := f1.wf (Sl.fill0_wf hs.tsWF)
  have htl2 : n ≤ ts2.len := by rw [f1.1, Sl.fill0_len]; exact hs.tsLen
  have hs1 : SplitScr n { sc with timesSeen := ts2, maxCell := mc2, numberOfMax := nm2 } :=
    ⟨hs.capDws, hs.capNbs, hs.capSpace, htw2, htl2, Nat.le_trans hs2.lenM hs2.capM, by
      show nm2.len ≤ nm2.data.size; rw [hn2l, z3]; exact Nat.le_trans hbn hs.capNm⟩
  obtain ⟨r, op', sc', heq, hg⟩ := splitLoop_total hst hc (k := op.binDividers.len) ho1 ha1 hs1
    (Nat.le_refl _) (Nat.le_of_eq hm2l.symm) (Nat.le_of_eq hn2l.symm) hcc
  refine ⟨r, op', sc', heq, fun hr => ?_⟩
  obtain ⟨g1, g2, g3, g4⟩ := hg hr
  refine ⟨g1, g2, ?_, ?_⟩
  · obtain ⟨e1, _, e3, e4, e5, e6⟩ := id g4
    simp only at e1 e3
    exact
      { capDws := by rw [e4]; exact hs.capDws
        capNbs := by rw [e5]; exact hs.capNbs
        capSpace := by rw [e6]; exact hs.capSpace
        tsWF := by rw [e1]; exact htw2
        tsLen := by rw [e1]; exact htl2
        inv := hs2.of_rel g4
        capNm := by rw [e3, z3]; exact hs.capNm }
  · have : refinePotential n { op with binsToCheck := ⟨op.binsToCheck.data, op.binsToCheck.len - 1⟩ } + 1 =
        refinePotential n op := by
      unfold refinePotential
      show op.binsToCheck.len - 1 + 2 * (n - op.binDividers.len) + 1 = _
      omega
    omega

/-- the main loop terminates within `refinePotential + 1` rounds and does not panic -/
theorem refineLoop_total (hst : StablePerm) {nb : Nbrs} {n : Nat} {cb fl : Sl Nat} {opts : Options} {Q : OP → Prop}
    (hc : CallTotal nb n cb fl opts Q) : ∀ (f : Nat) (op : OP) (sc : Scratch), refinePotential n op < f →
    NPOp n op ∧ Q op → AgeInv op → RefScr n sc →
    ∃ r op' sc', refineLoop nb n cb fl opts f op sc = .ok (r, op', sc') ∧
      (r = false → op'.binsToCheck.len = 0 ∧ NPOp n op' ∧ Q op') := by
  intro f
  induction f with
  | zero => intro op sc h; omega
  | succ f ih =>
    intro op sc hpot ho ha hs
    rw [refineLoop]
    by_cases hb : op.binsToCheck.len > 0
    · rw [if_pos hb]
      obtain ⟨r, op1, sc1, heq, hg⟩ := refineIter_total hst hc ho ha hs hb
      rw [heq]
      cases r with
      | true => exact ⟨true, op1, sc1, rfl, fun h => by cases h⟩
      | false =>
        obtain ⟨g1, g2, g3, g4⟩ := hg rfl
        exact ih op1 sc1 (by omega) g1 g2 g3
    · rw [if_neg hb]
      exact ⟨false, op, sc, rfl, fun _ => ⟨by omega, ho⟩⟩

/-- the refinement terminates within its fuel `3 * n + 3` and does not panic -/
theorem refine_total (hst : StablePerm) {n : Nat} {nb : Nbrs} {cb fl : Sl Nat} {opts : Options} {Q : OP → Prop}
    (hc : CallTotal nb n cb fl opts Q) {op : OP} {sc : Scratch} (ho : NPOp n op ∧ Q op) (ha : AgeInv op)
    (hsc : ScratchOK n sc) (cDws : n ≤ sc.dws.data.size) (cNbs : n ≤ sc.nbs.data.size)
    (cSpace : n ≤ sc.space.data.size) (cTs : n ≤ sc.timesSeen.len) :
    ∃ r op' sc', refine nb cb fl opts op sc = .ok (r, op', sc') ∧
      (r = false → op'.binsToCheck.len = 0 ∧ NPOp n op' ∧ Q op') := by
  have hs : RefScr n sc :=
    ⟨cDws, cNbs, cSpace, hsc.wfT, cTs, hsc.scrInv, by
      have := hsc.wfN.le; rw [hsc.lenN] at this; exact this⟩
  -- the work list is an ascending list of bin numbers, and there are at most `n` bins
  have hpot : refinePotential n op < refineFuel n := by
    unfold refinePotential refineFuel
    have h1 := sortedInt_length_le (op.binDividers.len : Int) op.binsToCheck.toList 0 ho.1.btcSorted
      (fun x hx => by have := ho.1.btcRange x hx; omega) (by omega)
    rw [Sl.length_toList _ ho.1.btcWF] at h1
    have h2 := ho.1.inv.bdLen_le
    omega
  unfold refine
  rw [ho.1.inv.lenOrder]
  exact refineLoop_total hst hc (refineFuel n) op sc hpot ho ha hs

/-- Termination and absence of panics of the refinement (with an empty `currentBest` and without the viability check):
the fuel `3 * n + 3` suffices, the result is `false` and the work list is empty afterwards.

Hypotheses beyond `PartInv` / `AgeInv` / `ScratchOK`: capacities `n ≤ cap` of `binDividers`, `binAges`, `binsToCheck`,
`dws`, `nbs`, `space`; `timesSeen` has length `≥ n`; the work list is well formed, strictly increasing and consists of
bin indices; the singleton prefix is consistent (`PrefixSingle`, needed by `expandValue`); `value` is well formed; the
neighbour lists are valid. -/
theorem refine_no_panic_partial (hst : StablePerm) (htot : StableTotal) {n : Nat} {nb : Nbrs} {cb fl : Sl Nat}
    {opts : Options} {op : OP} {sc : Scratch}
    (h : PartInv n op) (ha : AgeInv op) (hsc : ScratchOK n sc) (hpre : PrefixSingle op) (hval : op.value.WF)
    (cBd : n ≤ op.binDividers.data.size) (cAges : n ≤ op.binAges.data.size) (cBtc : n ≤ op.binsToCheck.data.size)
    (cDws : n ≤ sc.dws.data.size) (cNbs : n ≤ sc.nbs.data.size) (cSpace : n ≤ sc.space.data.size)
    (cTs : n ≤ sc.timesSeen.len)
    (hbw : op.binsToCheck.WF) (hbs : op.binsToCheck.toList.Pairwise (· < ·))
    (hbr : ∀ x ∈ op.binsToCheck.toList, 0 ≤ x ∧ x < (op.binDividers.len : Int))
    (hnb : nb.size = n) (hnbr : ∀ (u : Nat) (l : List Nat), nb[u]? = some l → ∀ v ∈ l, v < n)
    (hcb : cb.len = 0) (hv : opts.checkViability = false) :
    ∃ op' sc', refine nb cb fl opts op sc = .ok (false, op', sc') ∧ op'.binsToCheck.len = 0 ∧
      op'.binsToCheck.WF ∧ n ≤ op'.binsToCheck.data.size ∧ PrefixSingle op' ∧ op'.value.WF := by
  have hc : CallTotal nb n cb fl opts (fun _ => True) :=
    CallTotal.of_expand hst htot hnb hnbr hv (fun _ _ _ => trivial) (fun _ _ _ _ => trivial)
      (fun op2 hp2 hps2 hvw2 _ => by
        obtain ⟨op', he, g1, g2⟩ := expandValue_total hnb hnbr hcb (fl := fl) hp2 hps2 hvw2
        exact ⟨false, op', he, fun _ => ⟨g1, g2, trivial⟩⟩)
  obtain ⟨r, op', sc', heq, hg⟩ := refine_total hst hc (op := op) ⟨⟨h, cBd, cAges, cBtc, hbw, hbs, hbr, hpre, hval⟩, trivial⟩
    ha hsc cDws cNbs cSpace cTs
  obtain rfl := refine_not_worse hcb hv heq
  obtain ⟨g1, g2, _⟩ := hg rfl
  exact ⟨op', sc', heq, g1, g2.btcWF, g2.capBtc, g2.pre, g2.valWF⟩

end CanonF
