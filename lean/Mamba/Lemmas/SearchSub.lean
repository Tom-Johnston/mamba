import Mathlib.Data.List.Perm.Basic
import Mamba.Lemmas.SearchResume
import Mamba.Lemmas.SearchAddRem
import Mamba.Lemmas.OutcomeLawful
/-! The recursive traversal that the explicit-stack loop of `Next` performs, and the shard partition on it. -/
namespace Search

/-- the shard test of `Next` for child index `i` in the frame at `level` -/
def skipAM (n a m : Nat) (i level : Nat) : Bool := i % m != a && (level : Int) == splitLevel n

theorem splitLevel_range {n : Nat} (hn : 2 ≤ n) : 1 ≤ splitLevel n ∧ splitLevel n ≤ (n : Int) - 1 := by
  unfold splitLevel
  omega

theorem shard_unique (i m : Nat) (hm : 0 < m) : ∃ a, a < m ∧ i % m = a ∧ ∀ b, b < m → i % m = b → b = a :=
  ⟨i % m, Nat.mod_lt i hm, rfl, fun _ _ h => h.symm⟩

/-- the `i` pending children of `P`, listed in `xs` (top of the stack first); the child at the head has index `i - 1` -/
def subKids (O : Oracle) (pre pr : DG → Bool) (n : Nat) (K : Nat → Nat → Bool)
    (node : DG → Option Ans → Outcome (List DG)) (P : DG) : List Nat → Nat → Outcome (List DG)
  | [], _ => .ok []
  | _ :: _, 0 => .ok []
  | x :: xs, i + 1 =>
    if K i P.nv then subKids O pre pr n K node P xs i
    else
      match P.addVertex (bitsOf x) with
      | .panic => .panic
      | .outOfFuel => .outOfFuel
      | .ok g2 =>
        if pre g2 then subKids O pre pr n K node P xs i
        else
          match isCanonical O n g2 (bitsOf x) none with
          | .panic => .panic
          | .outOfFuel => .outOfFuel
          | .ok (cache, canon) =>
            if canon && !pr g2 then
              match node g2 cache with
              | .panic => .panic
              | .outOfFuel => .outOfFuel
              | .ok o1 =>
                match subKids O pre pr n K node P xs i with
                | .ok o2 => .ok (o1 ++ o2)
                | .panic => .panic
                | .outOfFuel => .outOfFuel
            else subKids O pre pr n K node P xs i

/-- the subtree below an accepted node `g` (with cached automorphism data `c`); `d` bounds the depth -/
def subNode (O : Oracle) (pre pr : DG → Bool) (n : Nat) (K : Nat → Nat → Bool) :
    Nat → DG → Option Ans → Outcome (List DG)
  | d, g, c =>
    if g.nv = n then .ok [g]
    else
      match d with
      | 0 => .outOfFuel
      | d' + 1 =>
        match addAugmentations O n g #[] c with
        | .ok (new, _, _) => subKids O pre pr n K (subNode O pre pr n K d') g new.toList.reverse new.size
        | .panic => .panic
        | .outOfFuel => .outOfFuel

theorem addVertex_nv {g g' : DG} {l : List Nat} (h : g.addVertex l = .ok g') : g'.nv = g.nv + 1 := by
  unfold DG.addVertex at h
  simp only at h
  split at h
  · cases h
  · split at h
    · cases h; rfl
    · cases h
    · cases h

variable (O : Oracle) (pre pr : DG → Bool) (n : Nat)

/-- what the children loop does with the choice `x` of the frame of `P`: the child `P + bitsOf x`, with the cache left by
`isCanonical`, if it is kept (not prepruned, canonical, not pruned) -/
def kid (P : DG) (x : Nat) : Outcome (Option (DG × Option Ans)) := do
  let g2 ← P.addVertex (bitsOf x)
  if pre g2 then pure none
  else
    let r ← isCanonical O n g2 (bitsOf x) none
    pure (if r.2 && !pr g2 then some (g2, r.1) else none)

def withKid (node : DG → Option Ans → Outcome (List DG)) (k : Option (DG × Option Ans)) (rest : Outcome (List DG)) :
    Outcome (List DG) :=
  match k with
  | none => rest
  | some z => do
    let o1 ← node z.1 z.2
    let o2 ← rest
    pure (o1 ++ o2)

theorem subKids_cons (K : Nat → Nat → Bool) (node : DG → Option Ans → Outcome (List DG)) (P : DG) (x : Nat)
    (xs : List Nat) (i : Nat) :
    subKids O pre pr n K node P (x :: xs) (i + 1) =
      if K i P.nv then subKids O pre pr n K node P xs i
      else kid O pre pr n P x >>= fun k => withKid node k (subKids O pre pr n K node P xs i) := by
  simp only [subKids, kid]
  by_cases hK : K i P.nv = true
  · rw [if_pos hK, if_pos hK]
  rw [if_neg hK, if_neg hK]
  cases P.addVertex (bitsOf x) with
  | panic => rfl
  | outOfFuel => rfl
  | ok g2 =>
    simp only [Outcome.bind_ok]
    cases pre g2 with
    | true => rfl
    | false =>
      simp only [Bool.false_eq_true, if_false]
      cases isCanonical O n g2 (bitsOf x) none with
      | panic => rfl
      | outOfFuel => rfl
      | ok p =>
        obtain ⟨cache, canon⟩ := p
        simp only [Outcome.bind_ok]
        cases canon && !pr g2 with
        | false => rfl
        | true =>
          simp only [if_true, Outcome.pure_eq, Outcome.bind_ok, withKid]
          cases node g2 cache with
          | ok o1 => cases subKids O pre pr n K node P xs i <;> rfl
          | panic => rfl
          | outOfFuel => rfl

variable {O pre pr n}

theorem kid_ok {P : DG} {x : Nat} {k : Option (DG × Option Ans)} (h : kid O pre pr n P x = .ok k) :
    ∃ g2, P.addVertex (bitsOf x) = .ok g2 ∧ (pre g2 = true ∧ k = none ∨ pre g2 = false ∧ ∃ c b,
      isCanonical O n g2 (bitsOf x) none = .ok (c, b) ∧ k = if b && !pr g2 then some (g2, c) else none) := by
  obtain ⟨g2, hadd, h⟩ := Outcome.bind_eq_ok h
  refine ⟨g2, hadd, ?_⟩
  by_cases hpre : pre g2 = true
  · rw [if_pos hpre] at h; cases h; exact .inl ⟨hpre, rfl⟩
  · rw [if_neg hpre] at h
    obtain ⟨r, hcan, h⟩ := Outcome.bind_eq_ok h
    cases h
    exact .inr ⟨eq_false_of_ne_true hpre, r.1, r.2, hcan, rfl⟩

theorem kid_some {P g2 : DG} {x : Nat} {c : Option Ans} (h : kid O pre pr n P x = .ok (some (g2, c))) :
    P.addVertex (bitsOf x) = .ok g2 ∧ pre g2 = false ∧ isCanonical O n g2 (bitsOf x) none = .ok (c, true) ∧
      pr g2 = false := by
  obtain ⟨g, hadd, ⟨-, hk⟩ | ⟨hpre, c', b, hcan, hk⟩⟩ := kid_ok h
  · cases hk
  · by_cases hacc : (b && !pr g) = true
    · rw [if_pos hacc] at hk
      cases hk
      have := Bool.and_eq_true_iff.1 hacc
      exact ⟨hadd, hpre, this.1 ▸ hcan, by simpa using this.2⟩
    · rw [if_neg hacc] at hk; cases hk

theorem kid_rejected {P g2 : DG} {x : Nat} (hadd : P.addVertex (bitsOf x) = .ok g2)
    (hrej : pre g2 = true ∨ ∃ c canon, isCanonical O n g2 (bitsOf x) none = .ok (c, canon) ∧ (canon && !pr g2) = false) :
    kid O pre pr n P x = .ok none := by
  simp only [kid, hadd, Outcome.bind_ok]
  by_cases hpre : pre g2 = true
  · rw [if_pos hpre]; rfl
  · obtain ⟨c, canon, hcan, hacc⟩ := hrej.resolve_left hpre
    rw [if_neg hpre, hcan, Outcome.bind_ok, hacc]; rfl

theorem kid_accepted {P g2 : DG} {x : Nat} {c : Option Ans} {canon : Bool} (hadd : P.addVertex (bitsOf x) = .ok g2)
    (hpre : pre g2 = false) (hcan : isCanonical O n g2 (bitsOf x) none = .ok (c, canon))
    (hacc : (canon && !pr g2) = true) : kid O pre pr n P x = .ok (some (g2, c)) := by
  simp only [kid, hadd, Outcome.bind_ok, hpre, Bool.false_eq_true, if_false, hcan, hacc, if_true]; rfl

theorem withKid_some_ok {node : DG → Option Ans → Outcome (List DG)} {g2 : DG} {c : Option Ans}
    {rest : Outcome (List DG)} {o : List DG} (h : withKid node (some (g2, c)) rest = .ok o) :
    ∃ o1 o2, node g2 c = .ok o1 ∧ rest = .ok o2 ∧ o = o1 ++ o2 := by
  obtain ⟨o1, h1, h⟩ := Outcome.bind_eq_ok h
  obtain ⟨o2, h2, h⟩ := Outcome.bind_eq_ok h
  cases h
  exact ⟨o1, o2, h1, h2, rfl⟩

variable (O pre pr n)

theorem skip_one (i L : Nat) : skipAM n 0 1 i L = false := by simp [skipAM, Nat.mod_one]

theorem subKids_congr (K : Nat → Nat → Bool) (node1 node2 : DG → Option Ans → Outcome (List DG)) (P : DG)
    (h : ∀ g2 c, g2.nv = P.nv + 1 → node1 g2 c = node2 g2 c) :
    ∀ xs i, subKids O pre pr n K node1 P xs i = subKids O pre pr n K node2 P xs i
  | [], _ => rfl
  | _ :: _, 0 => rfl
  | x :: xs, i + 1 => by
    rw [subKids_cons, subKids_cons, subKids_congr K node1 node2 P h xs i]
    cases hk : kid O pre pr n P x with
    | panic => rfl
    | outOfFuel => rfl
    | ok k =>
      cases k with
      | none => rfl
      | some z => simp only [Outcome.bind_ok, withKid, h z.1 z.2 (addVertex_nv (kid_some hk).1)]

def outs (r : Outcome (List DG)) : List DG := match r with | .ok l => l | _ => []

theorem subKids_shards (m : Nat) (node1 : DG → Option Ans → Outcome (List DG))
    (nodeA : Nat → DG → Option Ans → Outcome (List DG)) (P : DG)
    (hkid : ∀ (i : Nat) (g2 : DG) (c : Option Ans) (out1 : List DG) (outA : Nat → List DG), g2.nv = P.nv + 1 →
      node1 g2 c = .ok out1 → (∀ a, a < m → skipAM n a m i P.nv = false → nodeA a g2 c = .ok (outA a)) →
      ((List.range m).flatMap fun a => if skipAM n a m i P.nv then [] else outA a).Perm out1) :
    ∀ (xs : List Nat) (i : Nat) (o1 : List DG) (o : Nat → List DG),
      subKids O pre pr n (skipAM n 0 1) node1 P xs i = .ok o1 →
      (∀ a, a < m → subKids O pre pr n (skipAM n a m) (nodeA a) P xs i = .ok (o a)) →
      ((List.range m).flatMap o).Perm o1 := by
  have hnil : ∀ (o1 : List DG) (o : Nat → List DG), Outcome.ok [] = Outcome.ok o1 →
      (∀ a, a < m → Outcome.ok [] = Outcome.ok (o a)) → ((List.range m).flatMap o).Perm o1 := by
    intro o1 o h1 ha
    cases h1
    rw [List.flatMap_eq_nil_iff.2 fun a hmem => (Outcome.ok.inj (ha a (List.mem_range.1 hmem))).symm]
  intro xs
  induction xs with
  | nil => exact fun _ => hnil
  | cons x xs ih =>
    intro i o1 o h1 ha
    cases i with
    | zero => exact hnil o1 o h1 ha
    | succ i =>
      rw [subKids_cons, skip_one, if_neg Bool.false_ne_true] at h1
      simp only [subKids_cons] at ha
      obtain ⟨k, hk, h1⟩ := Outcome.bind_eq_ok h1
      simp only [hk, Outcome.bind_ok] at ha
      cases k with
      | none => exact ih i o1 o h1 fun a hlt => by simpa only [Outcome.bind_ok, withKid, ite_self] using ha a hlt
      | some z =>
        obtain ⟨g2, c⟩ := z
        obtain ⟨out1, r1, hnode, hrest, rfl⟩ := withKid_some_ok h1
        have hsh : ∀ a, a < m → ∃ ra, subKids O pre pr n (skipAM n a m) (nodeA a) P xs i = .ok ra ∧
            ∃ oa, (skipAM n a m i P.nv = false → nodeA a g2 c = .ok oa) ∧
              o a = (if skipAM n a m i P.nv then [] else oa) ++ ra := by
          intro a hlt
          have := ha a hlt
          by_cases hs : skipAM n a m i P.nv = true
          · rw [if_pos hs] at this
            exact ⟨o a, this, [], fun h => absurd hs (by rw [h]; exact Bool.false_ne_true), by rw [if_pos hs]; rfl⟩
          · rw [if_neg hs] at this
            obtain ⟨oa, ra, h1, h2, h3⟩ := withKid_some_ok this
            exact ⟨ra, h2, oa, fun _ => h1, by rw [if_neg hs]; exact h3⟩
        let r : Nat → List DG := fun a => outs (subKids O pre pr n (skipAM n a m) (nodeA a) P xs i)
        let outA : Nat → List DG := fun a => outs (nodeA a g2 c)
        have hr := ih i r1 r hrest fun a hlt => by
          obtain ⟨ra, h, -⟩ := hsh a hlt
          simp only [r, h]; rfl
        have hk1 := hkid i g2 c out1 outA (addVertex_nv (kid_some hk).1) hnode fun a hlt hs => by
          obtain ⟨-, -, oa, h, -⟩ := hsh a hlt
          simp only [outA, h hs]; rfl
        have e1 : (List.range m).flatMap o =
            (List.range m).flatMap fun a => (if skipAM n a m i P.nv then [] else outA a) ++ r a :=
          List.flatMap_congr fun a hmem => by
            obtain ⟨ra, h, oa, h', e⟩ := hsh a (List.mem_range.1 hmem)
            rw [e]
            simp only [r, h, outs]
            by_cases hs : skipAM n a m i P.nv = true
            · rw [if_pos hs, if_pos hs]
            · rw [if_neg hs, if_neg hs]; simp only [outA, h' (eq_false_of_ne_true hs), outs]
        rw [e1]
        exact (List.flatMap_append_perm _ _ _).symm.trans (hk1.append hr)

theorem subKids_deep (a m : Nat) (node : DG → Option Ans → Outcome (List DG)) (P : DG)
    (hP : (P.nv : Int) ≠ splitLevel n) :
    ∀ xs i, subKids O pre pr n (skipAM n a m) node P xs i = subKids O pre pr n (skipAM n 0 1) node P xs i
  | [], _ => rfl
  | _ :: _, 0 => rfl
  | x :: xs, i + 1 => by
    have h1 : skipAM n a m i P.nv = false := by
      simp only [skipAM, Bool.and_eq_false_imp]; intro _; simpa using hP
    rw [subKids_cons, subKids_cons, h1, skip_one, subKids_deep a m node P hP xs i]

theorem subNode_deep (a m : Nat) :
    ∀ (d : Nat) (g : DG) (c : Option Ans), splitLevel n < (g.nv : Int) →
      subNode O pre pr n (skipAM n a m) d g c = subNode O pre pr n (skipAM n 0 1) d g c
  | 0, g, c, _ => by simp [subNode]
  | d + 1, g, c, hg => by
    simp only [subNode]
    split
    · rfl
    · split
      · rename_i new _ _ _
        rw [subKids_congr O pre pr n _ (subNode O pre pr n (skipAM n a m) d) (subNode O pre pr n (skipAM n 0 1) d) g
          (fun g2 c2 h2 => subNode_deep a m d g2 c2 (by rw [h2]; push_cast; omega)) _ _]
        exact subKids_deep O pre pr n a m _ g (by omega) _ _
      · rfl
      · rfl

theorem flatMap_single (x : Nat → List DG) (m a0 : Nat) (h0 : a0 < m) :
    ((List.range m).flatMap fun a => if a0 != a then [] else x a) = x a0 := by
  have : ∀ l : List Nat, l.Nodup → a0 ∈ l → (l.flatMap fun a => if a0 != a then [] else x a) = x a0 := by
    intro l
    induction l with
    | nil => intro _ h; cases h
    | cons b l ih =>
      intro hnd hm
      have hnd' := List.nodup_cons.1 hnd
      rw [List.flatMap_cons]
      by_cases hb : a0 = b
      · subst hb
        rw [List.flatMap_eq_nil_iff.2 fun a ha => by
          rw [if_pos (bne_iff_ne.2 fun e => hnd'.1 (by rw [e]; exact ha))]]
        simp
      · rw [if_pos (bne_iff_ne.2 hb), List.nil_append]
        exact ih hnd'.2 ((List.mem_cons.1 hm).resolve_left hb)
  exact this _ List.nodup_range (List.mem_range.2 h0)

theorem subNode_shards (m : Nat) (hm : 0 < m) (hn : 2 ≤ n) :
    ∀ (d : Nat) (g : DG) (c : Option Ans) (o1 : List DG) (o : Nat → List DG), (g.nv : Int) ≤ splitLevel n →
      subNode O pre pr n (skipAM n 0 1) d g c = .ok o1 →
      (∀ a, a < m → subNode O pre pr n (skipAM n a m) d g c = .ok (o a)) →
      ((List.range m).flatMap o).Perm o1
  | 0, g, c, o1, o, hg, h1, _ => by
    have hlt : g.nv ≠ n := by
      have := (splitLevel_range hn).2; omega
    simp [subNode, hlt] at h1
  | d + 1, g, c, o1, o, hg, h1, ha => by
    have hlt : g.nv ≠ n := by
      have := (splitLevel_range hn).2; omega
    simp only [subNode, hlt, if_false] at h1 ha
    cases haug : addAugmentations O n g #[] c with
    | panic => simp [haug] at h1
    | outOfFuel => simp [haug] at h1
    | ok p =>
      obtain ⟨new, c', num⟩ := p
      simp only [haug] at h1 ha
      refine subKids_shards O pre pr n m (subNode O pre pr n (skipAM n 0 1) d)
        (fun a => subNode O pre pr n (skipAM n a m) d) g ?_ _ _ o1 o h1 ha
      intro i g2 c2 out1 outA h2 hn1 hnA
      by_cases hsplit : (g.nv : Int) = splitLevel n
      · -- the split frame: exactly the shard `i % m` explores the child, and below it agrees with the unsharded traversal
        have hk : ∀ a, skipAM n a m i g.nv = (i % m != a) := fun a => by simp [skipAM, hsplit]
        have ha0 := Nat.mod_lt i hm
        have := hnA (i % m) ha0 (by rw [hk]; simp)
        rw [subNode_deep O pre pr n (i % m) m d g2 c2 (by rw [h2]; push_cast; omega), hn1] at this
        simp only [hk]
        rw [flatMap_single outA m (i % m) ha0, ← Outcome.ok.inj this]
      · have hk : ∀ a, skipAM n a m i g.nv = false := fun a => by
          simp only [skipAM, Bool.and_eq_false_imp]; intro _; simpa using hsplit
        simp only [hk, Bool.false_eq_true, if_false]
        exact subNode_shards m hm hn d g2 c2 out1 outA (by rw [h2]; push_cast; omega) hn1
          fun a hlt => hnA a hlt (hk a)

end Search
