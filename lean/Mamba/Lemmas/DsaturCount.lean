import Mamba.Lemmas.DsaturCounters
import Mamba.Lemmas.CliqueColourCol
import Mathlib.Data.List.Induction
/-! DSATUR model: colours of the neighbours on the path (`cntCol`) and the largest colour used (`maxCol`). -/
namespace CliqueColour
open GraphSpec

def colOf (s : Dsat) (v : Nat) : Int := s.colouring.getD v 0

def cntCol (g : G) (col : Nat → Int) (ws : List Nat) (u c : Nat) : Int :=
  ((ws.filter fun w => g.adj u w && (col w == (c : Int))).length : Int)

def maxCol (col : Nat → Int) (ws : List Nat) : Int := ws.foldl (fun m w => if col w > m then col w else m) (-1)

theorem foldl_max (col : Nat → Int) : ∀ (ws : List Nat) (a : Int), -1 ≤ a →
    ws.foldl (fun m w => if col w > m then col w else m) a = max a (maxCol col ws) := by
  intro ws
  induction ws with
  | nil => intro a ha; exact (Int.max_eq_left ha).symm
  | cons w t ih =>
    intro a ha
    have hstep : ∀ m : Int, (if col w > m then col w else m) = max m (col w) := fun m => by split <;> omega
    simp only [List.foldl_cons, maxCol, hstep]
    rw [ih _ (Int.le_trans ha (Int.le_max_left _ _)), ih _ (Int.le_max_left _ _), Int.max_assoc, Int.max_assoc,
      ← Int.max_assoc a (-1), Int.max_eq_left ha]

theorem maxCol_nil (col : Nat → Int) : maxCol col [] = -1 := rfl

theorem maxCol_snoc (col : Nat → Int) (ws : List Nat) (w : Nat) :
    maxCol col (ws ++ [w]) = max (maxCol col ws) (col w) := by
  simp only [maxCol, List.foldl_append, List.foldl_cons, List.foldl_nil]
  split <;> omega

theorem maxCol_ge (col : Nat → Int) (ws : List Nat) : -1 ≤ maxCol col ws := by
  induction ws using List.reverseRecOn with
  | nil => simp [maxCol]
  | append_singleton t w ih => rw [maxCol_snoc]; omega

theorem le_maxCol (col : Nat → Int) {ws : List Nat} {w : Nat} (h : w ∈ ws) : col w ≤ maxCol col ws := by
  induction ws using List.reverseRecOn with
  | nil => cases h
  | append_singleton t x ih =>
    rw [maxCol_snoc]
    rcases List.mem_append.1 h with h1 | h1
    · have := ih h1; omega
    · have : w = x := by simpa using h1
      subst this; omega

theorem maxCol_attained (col : Nat → Int) (ws : List Nat) : maxCol col ws = -1 ∨ ∃ w ∈ ws, col w = maxCol col ws := by
  induction ws using List.reverseRecOn with
  | nil => left; rfl
  | append_singleton t x ih =>
    rw [maxCol_snoc]
    by_cases hx : maxCol col t ≤ col x
    · right; exact ⟨x, by simp, by omega⟩
    · rcases ih with h | ⟨w, hw, he⟩
      · have := maxCol_ge col t
        left; omega
      · right; exact ⟨w, List.mem_append_left _ hw, by omega⟩

theorem maxCol_congr {col col' : Nat → Int} {ws : List Nat} (h : ∀ w ∈ ws, col w = col' w) :
    maxCol col ws = maxCol col' ws := by
  induction ws using List.reverseRecOn with
  | nil => rfl
  | append_singleton t x ih =>
    rw [maxCol_snoc, maxCol_snoc, ih (fun w hw => h w (List.mem_append_left _ hw)), h x (by simp)]

theorem cntCol_congr {g : G} {col col' : Nat → Int} {ws : List Nat} (h : ∀ w ∈ ws, col w = col' w) (u c : Nat) :
    cntCol g col ws u c = cntCol g col' ws u c := by
  unfold cntCol
  congr 2
  apply List.filter_congr
  intro w hw
  rw [h w hw]

theorem cntCol_nil (g : G) (col : Nat → Int) (u c : Nat) : cntCol g col [] u c = 0 := rfl

theorem cntCol_snoc (g : G) (col : Nat → Int) (ws : List Nat) (w u c : Nat) :
    cntCol g col (ws ++ [w]) u c = cntCol g col ws u c + (if g.adj u w = true ∧ col w = (c : Int) then 1 else 0) := by
  unfold cntCol
  rw [List.filter_append, List.length_append]
  by_cases h : g.adj u w = true ∧ col w = (c : Int)
  · rw [if_pos h]; simp [h.1, h.2]
  · rw [if_neg h]
    have : (g.adj u w && (col w == (c : Int))) = false := by
      rw [Bool.and_eq_false_iff]
      by_cases h1 : g.adj u w = true
      · right; simpa using fun e => h ⟨h1, e⟩
      · left; simpa using h1
    simp [this]

theorem cntCol_snoc_nat (g : G) {col : Nat → Int} (ws : List Nat) {w k : Nat} (hk : col w = (k : Int)) (u c : Nat) :
    cntCol g col (ws ++ [w]) u c = cntCol g col ws u c + (if g.adj u w = true ∧ c = k then 1 else 0) := by
  rw [cntCol_snoc, hk]
  simp only [Int.natCast_inj, eq_comm]

theorem cntCol_nonneg (g : G) (col : Nat → Int) (ws : List Nat) (u c : Nat) : 0 ≤ cntCol g col ws u c := by
  unfold cntCol; omega

theorem cntCol_eq_zero {g : G} {col : Nat → Int} {ws : List Nat} {u c : Nat} :
    cntCol g col ws u c = 0 ↔ ∀ w ∈ ws, g.adj u w = true → col w ≠ (c : Int) := by
  unfold cntCol
  rw [Int.natCast_eq_zero, List.length_eq_zero_iff, List.filter_eq_nil_iff]
  constructor
  · intro h w hw ha he
    exact h w hw (by simp [ha, he])
  · intro h w hw hb
    simp only [Bool.and_eq_true, beq_iff_eq] at hb
    exact h w hw hb.1 hb.2

end CliqueColour
