import Mamba.Lemmas.CanonFTree
import Mamba.Lemmas.CanonFAutG
import Mamba.Lemmas.CanonFTreeCert
import Mamba.Lemmas.CanonFTreeLoop
import Mamba.Lemmas.CanonFTreeRefine
import Mamba.Lemmas.CanonFTreeCount
import Mamba.Lemmas.IRCanon
import Mamba.Lemmas.IREdgeless
import Mamba.Lemmas.CanonFPrune
/-!
# The tie between the faithful model and the tree of `Model/IR.lean`: start state, discharged hypotheses, small facts

`init_match`: the initial partition matches `irInit`, the IR start state of its class colouring; the hypotheses
`RefineIterCol`, `RefineMatch` of the files before are discharged here (`refineIterCol`, `refineMatch`). That the returned
permutation is a leaf of the tree is `canonF_leaf_complete` (`CanonFSemantic.lean`).
-/
namespace CanonF
open GraphSpec

theorem rfuel_ge (n : Nat) : 3 * n + 3 ≤ n * n + 10 := by
  rcases Nat.lt_or_ge n 3 with h | h
  · have : n = 0 ∨ n = 1 ∨ n = 2 := by omega
    rcases this with rfl | rfl | rfl <;> decide
  · have : 3 * n ≤ n * n := Nat.mul_le_mul_right n h
    omega

def irInit (g : G) (op0 : OP) : IR.St := IR.initSt (IR.ofSpec g) op0.binDividers.len (cellOf op0)

theorem InitSpec.init_match {n : Nat} {vc : Classes} {op : OP} (h : InitSpec n vc op) (hw : op.binsToCheck.WF) (nb : Nbrs) :
    Match n op (IR.initSt (irG n nb) op.binDividers.len (cellOf op)) ∧ BtcInv op := by
  refine ⟨⟨rfl, rfl, List.nodup_range, fun x => ?_⟩, BtcInv.of_range hw h.btc_range⟩
  show x ∈ List.range _ ↔ _
  rw [h.btc_range]
  simp

theorem init_match {n m : Nat} {vc : Classes} {op0 : OP} (hn : 0 < n) (hc : ClassesOK n vc)
    (h : newOrderedPartition n m vc = .ok (some op0)) (nb : Nbrs) :
    Match n op0 (IR.initSt (irG n nb) op0.binDividers.len (cellOf op0)) ∧ BtcInv op0 := by
  obtain ⟨op, hnew, hs, _, _, _, _, _, _, hw, _⟩ := new_spec (m := m) hn hc
  rw [hnew] at h
  cases h
  exact hs.init_match hw nb

theorem irInit_single {g : G} {op0 : OP} (hp : PartInv g.n op0) (hlen : op0.binDividers.len = 1) :
    irInit g op0 = IR.init (IR.ofSpec g) := by
  have h0 := inCell_single hp hlen
  unfold irInit IR.init IR.initSt
  rw [hlen]
  congr 1
  apply IR.tab_congr
  intro v hv
  show cellOf op0 v = 0
  unfold cellOf
  rw [h0 v hv]; rfl

theorem irInit_none {g : G} {m : Nat} {op0 : OP} (hn : 0 < g.n)
    (h : newOrderedPartition g.n m none = .ok (some op0)) : irInit g op0 = IR.init (IR.ofSpec g) := by
  obtain ⟨op, hnew, hp, _, _, _, _, _, _, _, _, _, _, _, _, hbd⟩ :=
    newOrderedPartition_inv (n := g.n) (m := m) (vc := none) hn trivial
  rw [hnew] at h
  cases h
  simp only at hbd
  exact irInit_single hp (by rw [← hp.length_bd, hbd]; rfl)

theorem refineIterCol : RefineIterCol :=
  fun hp ha hs htw htl hb hpos hnb h => refineIter_col stablePerm countLoop_sem hp ha hs htw htl hb hpos hnb h

theorem refineMatch : RefineMatch := refine_match stablePerm refineIterCol IR.pass_char

theorem le_maxCert {l : List (List Nat)} {x : List Nat} (h : x ∈ l) : x ≤ IR.maxCert l := by
  rw [IR.maxCert_eq]
  exact (IR.foldl_max_spec l []).2 x (List.mem_cons_of_mem _ h)

example (a b : List Nat) (h : compare a b = 1) : (if a < b then b else a) = a := by
  rw [IR.mx_eq_max]; exact max_eq_left (le_of_lt ((compare_eq_one_iff_lt a b).1 h))

/-- under the certificate invariant the certificate never outgrows `m` (the capacity bound that independence of stale
storage needs: `worseTest` re-slices `currentBest` / `firstLeaf` to `len(value)`) -/
theorem value_len_le {n : Nat} {nb : Nbrs} {cb fl : Sl Nat} {op : OP} (hnb : NbOK nb n) (hsz : nb.size = n)
    (hp : PartInv n op) (hv : VAny nb cb fl op) : op.value.len ≤ ((nb.toList.map List.length).sum) / 2 := by
  have key : ∀ (hw : op.value.WF) (hval : op.value.toList = certPos nb op.order.toList op.spl)
      (hle : op.spl ≤ op.binDividers.len), op.value.len ≤ ((nb.toList.map List.length).sum) / 2 := by
    intro hw hval hle
    have hbn : op.binDividers.len ≤ n := hp.bdLen_le
    obtain ⟨tail, ht, _⟩ := certPos_split nb op.order.toList op.spl n (by omega)
    have hlen := certPos_length hnb hsz hp.perm
    rw [ht, List.length_append, ← hval, Sl.length_toList _ hw] at hlen
    omega
  rcases hv with hc | ⟨hs, _⟩
  · exact key hc.wf hc.val hc.pre.le
  · exact key hs.wf hs.val hs.pre.le

theorem nbrs_nil_of_no_edges (g : G) (hg : g.WF) (hm : ((nbrsOf g).toList.map List.length).sum / 2 = 0) (v : Nat) :
    (nbrsOf g).getD v [] = [] := by
  rw [nbrsOf_getD]
  split
  · unfold G.nbrs
    apply List.filter_eq_nil_iff.2
    intro u _
    rw [no_edges_of_m_zero g hg hm]
    simp
  · rfl

end CanonF
