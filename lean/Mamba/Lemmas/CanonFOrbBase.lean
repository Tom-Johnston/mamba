import Mamba.Lemmas.CanonFOrbTree
/-!
# Orbit completeness: bookkeeping lemmas for `ACovChild` / `ACovFrames` / `FrameAuxA1` / `FrameAuxA`

Mirror images of the lemmas about `CovChild` / `CovFrames` (`CanonFCov.lean`) and `FrameAux1` / `FrameAux`
(`CanonFDfsBase.lean`); like those, `ACovFrames` and `FrameAuxA` are instances of `AllFrames`.
`ACov … (lFof n gh) s.firstLeaf.toList (ORel s) X` reads `gh.oF`, `s.firstLeaf`, `s.flOrbits`.
-/
namespace CanonF

/-! The children of a frame are visited from the last member of the cell down: with counter `c` the members of index
`≥ c - st` have been visited (the one of index `c - st` is still being explored when `incl = false`). -/

theorem idx_of_start {c st i : Nat} (h : c - 1 - st < i) : c - st ≤ i := by
  rw [Nat.sub_right_comm] at h; exact Nat.le_of_pred_lt h

theorem idx_of_step {c st i : Nat} (h : c - 1 - st ≤ i) (hlt : i < c - st) : i = c - 1 - st := by
  rw [Nat.sub_right_comm] at h ⊢; exact Nat.le_antisymm (Nat.le_sub_one_of_lt hlt) h

theorem ORel_congr {s s' : LS} (e : s'.flOrbits = s.flOrbits) : ORel s' = ORel s := by
  funext a b; unfold ORel; rw [e]

theorem lFof_congr {n : Nat} {gh gh' : Gh} (e : gh'.oF = gh.oF) : lFof n gh' = lFof n gh := by
  unfold lFof; rw [e]

theorem acovb_transfer {n : Nat} {nb : Nbrs} {rf : Nat} {gh gh' : Gh} {s s' : LS} {ν : IR.St}
    (eo : gh'.oF = gh.oF) (e1 : s'.firstLeaf = s.firstLeaf)
    (hR : ∀ a b, a < n → b < n → ORel s a b → ORel s' a b)
    (h : ACov n nb rf (lFof n gh) s.firstLeaf.toList (ORel s) ν) :
    ACov n nb rf (lFof n gh') s'.firstLeaf.toList (ORel s') ν := by
  rw [lFof_congr eo, e1]; exact h.mono hR

theorem ACovChild.mono {n : Nat} {nb : Nbrs} {rf : Nat} {r : IR.St} {gh gh' : Gh} {s s' : LS} {vs vs' ps : List Nat}
    {st w : Nat} (h : ACovChild n nb rf r gh s vs ps st w) (eo : gh'.oF = gh.oF) (e1 : s'.firstLeaf = s.firstLeaf)
    (e2 : ∀ qs, onFirstB s' qs = onFirstB s qs)
    (hR : ∀ a b, a < n → b < n → ORel s a b → ORel s' a b)
    (e4 : ∀ (w : Nat) (y : Int), s.flOrbits[w]? = some y → y ≥ 0 → ∃ y' : Int, s'.flOrbits[w]? = some y' ∧ y' ≥ 0)
    (ev : vs'.take ps.length = vs.take ps.length) :
    ACovChild n nb rf r gh' s' vs' ps st w := by
  unfold ACovChild at *
  rw [nodeL_congr ev]
  rcases h with h | ⟨hon, y, hy1, hy2⟩
  · exact Or.inl (acovb_transfer eo e1 hR h)
  · exact Or.inr ⟨by rw [e2]; exact hon, e4 w y hy1 hy2⟩

theorem ACovChild.congr {n : Nat} {nb : Nbrs} {rf : Nat} {r : IR.St} {gh gh' : Gh} {s s' : LS} {vs vs' ps : List Nat}
    {st w : Nat} (h : ACovChild n nb rf r gh s vs ps st w) (eo : gh'.oF = gh.oF) (e1 : s'.firstLeaf = s.firstLeaf)
    (e2 : ∀ qs, onFirstB s' qs = onFirstB s qs) (e4 : s'.flOrbits = s.flOrbits)
    (ev : vs'.take ps.length = vs.take ps.length) :
    ACovChild n nb rf r gh' s' vs' ps st w :=
  h.mono eo e1 e2 (fun a b _ _ hab => by rw [ORel_congr e4]; exact hab)
    (fun w y hy1 hy2 => ⟨y, by rw [e4]; exact hy1, hy2⟩) ev

theorem acovFrames_iff {n : Nat} {nb : Nbrs} {rf : Nat} {r : IR.St} {gh : Gh} {s : LS} {vs : List Nat} (incl : Bool)
    (path choices : List Nat) (lv : List (Nat × Nat)) :
    ACovFrames n nb rf r gh s vs incl path choices lv ↔
      AllFrames (fun incl _ ps c st _ => ∀ i w, (if incl then c - st ≤ i else c - st < i) →
        (cellL n nb rf r vs ps.length st)[i]? = some w → ACovChild n nb rf r gh s vs ps st w) incl path choices lv := by
  fun_induction ACovFrames n nb rf r gh s vs incl path choices lv with
  | case1 => exact Iff.rfl
  | case2 incl p ps c cs st sz ls ih => exact and_congr Iff.rfl ih
  | case3 incl path choices lv h1 h2 => rw [AllFrames.eq_3 _ _ _ _ _ h1 h2]

theorem ACovFrames.mono {n : Nat} {nb : Nbrs} {rf : Nat} {r : IR.St} {gh gh' : Gh} {s s' : LS} {vs vs' : List Nat}
    {incl : Bool} {path choices : List Nat} {lv : List (Nat × Nat)}
    (h : ACovFrames n nb rf r gh s vs incl path choices lv)
    (eo : gh'.oF = gh.oF) (e1 : s'.firstLeaf = s.firstLeaf) (e2 : ∀ qs, onFirstB s' qs = onFirstB s qs)
    (hR : ∀ a b, a < n → b < n → ORel s a b → ORel s' a b)
    (e4 : ∀ (w : Nat) (y : Int), s.flOrbits[w]? = some y → y ≥ 0 → ∃ y' : Int, s'.flOrbits[w]? = some y' ∧ y' ≥ 0)
    (hv : ∀ L, L < path.length → vs'.take L = vs.take L) : ACovFrames n nb rf r gh' s' vs' incl path choices lv := by
  rw [acovFrames_iff] at h ⊢
  refine h.imp (fun incl _ ps c st _ hL hP i w hi hw => ?_)
  rw [cellL_congr (hv _ hL)] at hw
  exact (hP i w hi hw).mono eo e1 e2 hR e4 (hv _ hL)

theorem ACovFrames.congr {n : Nat} {nb : Nbrs} {rf : Nat} {r : IR.St} {gh gh' : Gh} {s s' : LS} {vs vs' : List Nat}
    {incl : Bool} {path choices : List Nat} {lv : List (Nat × Nat)}
    (h : ACovFrames n nb rf r gh s vs incl path choices lv)
    (eo : gh'.oF = gh.oF) (e1 : s'.firstLeaf = s.firstLeaf) (e2 : ∀ qs, onFirstB s' qs = onFirstB s qs)
    (e4 : s'.flOrbits = s.flOrbits) (hv : ∀ L, L < path.length → vs'.take L = vs.take L) :
    ACovFrames n nb rf r gh' s' vs' incl path choices lv :=
  h.mono eo e1 e2 (fun a b _ _ hab => by rw [ORel_congr e4]; exact hab)
    (fun w y hy1 hy2 => ⟨y, by rw [e4]; exact hy1, hy2⟩) hv

theorem ACovFrames.mono_orbits {n : Nat} {nb : Nbrs} {rf : Nat} {r : IR.St} {gh : Gh} {s s' : LS} {vs : List Nat}
    (e1 : s'.firstLeaf = s.firstLeaf) (e2 : ∀ qs, onFirstB s' qs = onFirstB s qs)
    (hR : ∀ a b, a < n → b < n → ORel s a b → ORel s' a b)
    (e4 : ∀ (w : Nat) (y : Int), s.flOrbits[w]? = some y → y ≥ 0 → ∃ y' : Int, s'.flOrbits[w]? = some y' ∧ y' ≥ 0)
    (incl : Bool) (path choices : List Nat) (lv : List (Nat × Nat))
    (h : ACovFrames n nb rf r gh s vs incl path choices lv) : ACovFrames n nb rf r gh s' vs incl path choices lv :=
  h.mono rfl e1 e2 hR e4 (fun _ _ => rfl)

theorem ACovFrames.step_head {n : Nat} {nb : Nbrs} {rf : Nat} {r : IR.St} {gh : Gh} {s : LS} {vs : List Nat} {p c : Nat}
    {ps cs : List Nat} {st sz : Nat} {ls : List (Nat × Nat)}
    (h : ACovFrames n nb rf r gh s vs true (p :: ps) (c :: cs) ((st, sz) :: ls)) (hc : st < c)
    (hnew : ∀ w, (cellL n nb rf r vs ps.length st)[c - 1 - st]? = some w → ACovChild n nb rf r gh s vs ps st w)
    (p' : Nat) :
    ACovFrames n nb rf r gh s vs true (p' :: ps) ((c - 1) :: cs) ((st, sz) :: ls) := by
  have _ := hc
  refine ⟨fun i w hi hw => ?_, h.2⟩
  rcases Nat.lt_or_ge i (c - st) with hlt | hge
  · cases idx_of_step hi hlt
    exact hnew w hw
  · exact h.1 i w hge hw

theorem ACovFrames.start_child {n : Nat} {nb : Nbrs} {rf : Nat} {r : IR.St} {gh : Gh} {s : LS} {vs : List Nat}
    {p c : Nat} {ps cs : List Nat} {st sz : Nat} {ls : List (Nat × Nat)}
    (h : ACovFrames n nb rf r gh s vs true (p :: ps) (c :: cs) ((st, sz) :: ls)) (p' : Nat) :
    ACovFrames n nb rf r gh s vs false (p' :: ps) ((c - 1) :: cs) ((st, sz) :: ls) :=
  ⟨fun i w hi hw => h.1 i w (idx_of_start hi) hw, h.2⟩

theorem ACovFrames.finish_child {n : Nat} {nb : Nbrs} {rf : Nat} {r : IR.St} {gh : Gh} {s : LS} {vs : List Nat}
    {p c : Nat} {ps cs : List Nat} {st sz : Nat} {ls : List (Nat × Nat)}
    (h : ACovFrames n nb rf r gh s vs false (p :: ps) (c :: cs) ((st, sz) :: ls))
    (hnew : ∀ w, (cellL n nb rf r vs ps.length st)[c - st]? = some w → ACovChild n nb rf r gh s vs ps st w) :
    ACovFrames n nb rf r gh s vs true (p :: ps) (c :: cs) ((st, sz) :: ls) := by
  refine ⟨fun i w hi hw => ?_, h.2⟩
  rcases Nat.lt_or_ge (c - st) i with hlt | hge
  · exact h.1 i w hlt hw
  · cases Nat.le_antisymm hge hi
    exact hnew w hw

theorem ACovFrames.tail {n : Nat} {nb : Nbrs} {rf : Nat} {r : IR.St} {gh : Gh} {s : LS} {vs : List Nat} {incl : Bool}
    {p c : Nat} {ps cs : List Nat} {x : Nat × Nat} {ls : List (Nat × Nat)}
    (h : ACovFrames n nb rf r gh s vs incl (p :: ps) (c :: cs) (x :: ls)) :
    ACovFrames n nb rf r gh s vs false ps cs ls :=
  h.2

theorem ACovFrames.head {n : Nat} {nb : Nbrs} {rf : Nat} {r : IR.St} {gh : Gh} {s : LS} {vs : List Nat} {incl : Bool}
    {p c : Nat} {ps cs : List Nat} {st sz : Nat} {ls : List (Nat × Nat)}
    (h : ACovFrames n nb rf r gh s vs incl (p :: ps) (c :: cs) ((st, sz) :: ls)) :
    ∀ i w, (if incl then c - st ≤ i else c - st < i) → (cellL n nb rf r vs ps.length st)[i]? = some w →
      ACovChild n nb rf r gh s vs ps st w :=
  h.1

theorem ACovFrames.mk {n : Nat} {nb : Nbrs} {rf : Nat} {r : IR.St} {gh : Gh} {s : LS} {vs : List Nat} {incl : Bool}
    {p c : Nat} {ps cs : List Nat} {st sz : Nat} {ls : List (Nat × Nat)}
    (h1 : ∀ i w, (if incl then c - st ≤ i else c - st < i) → (cellL n nb rf r vs ps.length st)[i]? = some w →
      ACovChild n nb rf r gh s vs ps st w)
    (h2 : ACovFrames n nb rf r gh s vs false ps cs ls) :
    ACovFrames n nb rf r gh s vs incl (p :: ps) (c :: cs) ((st, sz) :: ls) :=
  ⟨h1, h2⟩

theorem ACovFrames.drop {n : Nat} {nb : Nbrs} {rf : Nat} {r : IR.St} {gh : Gh} {s : LS} {vs : List Nat}
    {path choices : List Nat} {lv : List (Nat × Nat)} (h : ACovFrames n nb rf r gh s vs false path choices lv) (j : Nat) :
    ACovFrames n nb rf r gh s vs false (path.drop j) (choices.drop j) (lv.drop j) := by
  rw [acovFrames_iff] at h ⊢
  exact h.drop j

theorem acov_congr_op {n : Nat} {nb : Nbrs} {rf : Nat} {r : IR.St} {gh : Gh} {s : LS} {vs : List Nat} {incl : Bool}
    {lv : List (Nat × Nat)} (op' : OP) (sc' : Scratch) (b : Bool)
    (h : ACovFrames n nb rf r gh s vs incl s.path s.choices lv) :
    ACovFrames n nb rf r gh { s with op := op', sc := sc', skipDeage := b } vs incl s.path s.choices lv :=
  h.congr rfl rfl (fun _ => rfl) rfl (fun _ _ => rfl)

theorem acov_split_ok {n : Nat} {nb : Nbrs} {rf : Nat} {r : IR.St} {gh : Gh} (st sz : Nat) (ls : List (Nat × Nat))
    (s : LS) (c : Nat) (cs : List Nat) (p : Nat) (ps : List Nat) (bo : Disjoint.DS) (op' : OP) (k : Nat)
    (hch : s.choices = c :: cs) (hpth : s.path = p :: ps) (hst : st < c) {vs : List Nat}
    (hcov : ACovFrames n nb rf r gh s vs true s.path s.choices ((st, sz) :: ls)) :
    ACovFrames n nb rf r gh { s with choices := (c - 1) :: cs, bestOrbits := bo, op := op', path := k :: ps } vs false
      (k :: ps) ((c - 1) :: cs) ((st, sz) :: ls) := by
  have _ := hst
  rw [hpth, hch] at hcov
  exact (hcov.start_child k).congr rfl rfl (fun _ => rfl) rfl (fun _ _ => rfl)

theorem acov_push {n : Nat} {nb : Nbrs} {rf : Nat} {r : IR.St} {gh : Gh} {s : LS} {vs : List Nat}
    {lv : List (Nat × Nat)} (st sz : Nat) (hlen : (cellL n nb rf r vs s.path.length st).length = sz)
    (hcov : ACovFrames n nb rf r gh s vs false s.path s.choices lv) :
    ACovFrames n nb rf r gh { s with choices := (st + sz) :: s.choices, path := sz :: s.path, skipDeage := true } vs true
      (sz :: s.path) ((st + sz) :: s.choices) ((st, sz) :: lv) := by
  simp only [ACovFrames]
  refine ⟨fun i w hi hw => ?_, hcov.congr rfl rfl (fun _ => rfl) rfl (fun _ _ => rfl)⟩
  simp only [if_true] at hi
  have := (List.getElem?_eq_some_iff.1 hw).1
  omega

theorem FrameAuxA1.mono {n : Nat} {nb : Nbrs} {rf : Nat} {r : IR.St} {gh gh' : Gh} {s s' : LS} {us us' : List Nat}
    {incl : Bool} {ps : List Nat} {c st : Nat} (h : FrameAuxA1 n nb rf r gh s us incl ps c st)
    (hc : 0 < s'.count → 0 < s.count) (e1 : s'.firstLeaf = s.firstLeaf)
    (hR : ∀ a b, a < n → b < n → ORel s a b → ORel s' a b)
    (g1 : gh'.oF = gh.oF) (g2 : gh'.vsF = gh.vsF) (g3 : gh'.vsB = gh.vsB)
    (ev : us'.take ps.length = us.take ps.length) :
    FrameAuxA1 n nb rf r gh' s' us' incl ps c st := by
  have ec := cellL_congr (n := n) (nb := nb) (rf := rf) (r := r) (st := st) ev
  have en := nodeL_congr (n := n) (nb := nb) (rf := rf) (r := r) ev
  constructor
  · intro h0 hpre i w hi hw hx
    rw [ev, g2] at hpre; rw [ec] at hw; rw [g2] at hx; rw [en]
    exact acovb_transfer g1 e1 hR (h.abF (hc h0) hpre i w hi hw hx)
  · intro h0 hpre i w hi hw hx
    rw [ev, g3] at hpre; rw [ec] at hw; rw [g3] at hx; rw [en]
    exact acovb_transfer g1 e1 hR (h.abB (hc h0) hpre i w hi hw hx)

theorem FrameAuxA1.congr {n : Nat} {nb : Nbrs} {rf : Nat} {r : IR.St} {gh : Gh} {s s' : LS} {us us' : List Nat}
    {incl : Bool} {ps : List Nat} {c st : Nat} (h : FrameAuxA1 n nb rf r gh s us incl ps c st)
    (e1 : s'.count = s.count) (e2 : s'.firstLeaf = s.firstLeaf) (e3 : s'.flOrbits = s.flOrbits)
    (ev : us'.take ps.length = us.take ps.length) : FrameAuxA1 n nb rf r gh s' us' incl ps c st :=
  h.mono (fun h0 => by rw [← e1]; exact h0) e2 (fun a b _ _ hab => by rw [ORel_congr e3]; exact hab) rfl rfl rfl ev

theorem FrameAuxA1.congr_pos {n : Nat} {nb : Nbrs} {rf : Nat} {r : IR.St} {gh : Gh} {s s' : LS} {us us' : List Nat}
    {incl : Bool} {ps : List Nat} {c st : Nat} (h : FrameAuxA1 n nb rf r gh s us incl ps c st)
    (e1 : 0 < s.count) (e2 : s'.firstLeaf = s.firstLeaf) (e3 : s'.flOrbits = s.flOrbits)
    (ev : us'.take ps.length = us.take ps.length) : FrameAuxA1 n nb rf r gh s' us' incl ps c st :=
  h.mono (fun _ => e1) e2 (fun a b _ _ hab => by rw [ORel_congr e3]; exact hab) rfl rfl rfl ev

theorem FrameAuxA1.congr_gh {n : Nat} {nb : Nbrs} {rf : Nat} {r : IR.St} {gh gh' : Gh} {s : LS} {us : List Nat}
    {incl : Bool} {ps : List Nat} {c st : Nat} (h : FrameAuxA1 n nb rf r gh s us incl ps c st)
    (e0 : gh'.oF = gh.oF) (e1 : gh'.vsF = gh.vsF) (e2 : gh'.vsB = gh.vsB) :
    FrameAuxA1 n nb rf r gh' s us incl ps c st :=
  h.mono (fun h0 => h0) rfl (fun _ _ _ _ hab => hab) e0 e1 e2 rfl

theorem FrameAuxA1.mono_orbits {n : Nat} {nb : Nbrs} {rf : Nat} {r : IR.St} {gh : Gh} {s s' : LS} {us : List Nat}
    {incl : Bool} {ps : List Nat} {c st : Nat} (h : FrameAuxA1 n nb rf r gh s us incl ps c st)
    (hc : 0 < s'.count → 0 < s.count) (e1 : s'.firstLeaf = s.firstLeaf)
    (hR : ∀ a b, a < n → b < n → ORel s a b → ORel s' a b) : FrameAuxA1 n nb rf r gh s' us incl ps c st :=
  h.mono hc e1 hR rfl rfl rfl rfl

theorem FrameAuxA1.of_off {n : Nat} {nb : Nbrs} {rf : Nat} {r : IR.St} {gh : Gh} {s : LS} {us : List Nat}
    {incl : Bool} {ps : List Nat} {c st : Nat}
    (hF : 0 < s.count → us.take ps.length ≠ gh.vsF.take ps.length)
    (hB : 0 < s.count → us.take ps.length ≠ gh.vsB.take ps.length) : FrameAuxA1 n nb rf r gh s us incl ps c st :=
  ⟨fun h0 hpre => absurd hpre (hF h0), fun h0 hpre => absurd hpre (hB h0)⟩

/-- the top frame: the member with index `c - 1 - st` becomes processed (skip, `splitBin` worse); it does not lie on a
stored path because it was unprocessed (`futF`, `futB` of the D-layer) -/
theorem FrameAuxA1.step_head {n : Nat} {nb : Nbrs} {rf : Nat} {r : IR.St} {gh : Gh} {s : LS} {us : List Nat}
    {ps : List Nat} {c st sz : Nat} (h : FrameAuxA1 n nb rf r gh s us true ps c st)
    (hD : FrameAux1 n nb rf r gh s us true ps c st sz) : FrameAuxA1 n nb rf r gh s us true ps (c - 1) st := by
  constructor
  · intro h0 hpre i w _ hw hx
    rcases Nat.lt_or_ge i (c - st) with hlt | hge
    · exact absurd ⟨hpre, hx⟩ (hD.futF h0 i w hlt hw)
    · exact h.abF h0 hpre i w hge hw hx
  · intro h0 hpre i w _ hw hx
    rcases Nat.lt_or_ge i (c - st) with hlt | hge
    · exact absurd ⟨hpre, hx⟩ (hD.futB h0 i w hlt hw)
    · exact h.abB h0 hpre i w hge hw hx

theorem FrameAuxA1.start_child {n : Nat} {nb : Nbrs} {rf : Nat} {r : IR.St} {gh : Gh} {s : LS} {us : List Nat}
    {ps : List Nat} {c st : Nat} (h : FrameAuxA1 n nb rf r gh s us true ps c st) (hc : st < c) :
    FrameAuxA1 n nb rf r gh s us false ps (c - 1) st := by
  have _ := hc
  exact ⟨fun h0 hpre i w hi hw hx => h.abF h0 hpre i w (idx_of_start hi) hw hx,
    fun h0 hpre i w hi hw hx => h.abB h0 hpre i w (idx_of_start hi) hw hx⟩

theorem FrameAuxA1.finish_child {n : Nat} {nb : Nbrs} {rf : Nat} {r : IR.St} {gh : Gh} {s : LS} {us : List Nat}
    {ps : List Nat} {c st : Nat} (h : FrameAuxA1 n nb rf r gh s us false ps c st)
    (hnew : ∀ w, (cellL n nb rf r us ps.length st)[c - st]? = some w →
      (gh.vsF[ps.length]? = some w ∨ gh.vsB[ps.length]? = some w) →
      ACov n nb rf (lFof n gh) s.firstLeaf.toList (ORel s) (IR.childSt (irG n nb) rf (nodeL n nb rf r us ps.length) st w)) :
    FrameAuxA1 n nb rf r gh s us true ps c st := by
  constructor
  · intro h0 hpre i w hi hw hx
    rcases Nat.lt_or_ge (c - st) i with hlt | hge
    · exact h.abF h0 hpre i w hlt hw hx
    · cases Nat.le_antisymm hge hi
      exact hnew w hw (Or.inl hx)
  · intro h0 hpre i w hi hw hx
    rcases Nat.lt_or_ge (c - st) i with hlt | hge
    · exact h.abB h0 hpre i w hlt hw hx
    · cases Nat.le_antisymm hge hi
      exact hnew w hw (Or.inr hx)

theorem frameAuxA_iff {n : Nat} {nb : Nbrs} {rf : Nat} {r : IR.St} {gh : Gh} {s : LS} {us : List Nat} (incl : Bool)
    (path choices : List Nat) (lv : List (Nat × Nat)) :
    FrameAuxA n nb rf r gh s us incl path choices lv ↔
      AllFrames (fun incl _ ps c st _ => FrameAuxA1 n nb rf r gh s us incl ps c st) incl path choices lv := by
  fun_induction FrameAuxA n nb rf r gh s us incl path choices lv with
  | case1 => exact Iff.rfl
  | case2 incl p ps c cs st sz ls ih => exact and_congr Iff.rfl ih
  | case3 incl path choices lv h1 h2 => rw [AllFrames.eq_3 _ _ _ _ _ h1 h2]

theorem FrameAuxA.mono {n : Nat} {nb : Nbrs} {rf : Nat} {r : IR.St} {gh gh' : Gh} {s s' : LS} {us us' : List Nat}
    {incl : Bool} {path choices : List Nat} {lv : List (Nat × Nat)}
    (h : FrameAuxA n nb rf r gh s us incl path choices lv)
    (hc : 0 < s'.count → 0 < s.count) (e1 : s'.firstLeaf = s.firstLeaf)
    (hR : ∀ a b, a < n → b < n → ORel s a b → ORel s' a b)
    (g1 : gh'.oF = gh.oF) (g2 : gh'.vsF = gh.vsF) (g3 : gh'.vsB = gh.vsB)
    (hv : ∀ L, L < path.length → us'.take L = us.take L) : FrameAuxA n nb rf r gh' s' us' incl path choices lv := by
  rw [frameAuxA_iff] at h ⊢
  exact h.imp (fun incl _ ps c st _ hL hP => hP.mono hc e1 hR g1 g2 g3 (hv _ hL))

theorem FrameAuxA.congr {n : Nat} {nb : Nbrs} {rf : Nat} {r : IR.St} {gh : Gh} {s s' : LS} {us us' : List Nat}
    {incl : Bool} {path choices : List Nat} {lv : List (Nat × Nat)}
    (h : FrameAuxA n nb rf r gh s us incl path choices lv)
    (e1 : s'.count = s.count) (e2 : s'.firstLeaf = s.firstLeaf) (e3 : s'.flOrbits = s.flOrbits)
    (hv : ∀ L, L < path.length → us'.take L = us.take L) : FrameAuxA n nb rf r gh s' us' incl path choices lv :=
  h.mono (fun h0 => by rw [← e1]; exact h0) e2 (fun a b _ _ hab => by rw [ORel_congr e3]; exact hab) rfl rfl rfl hv

theorem FrameAuxA.mono_orbits {n : Nat} {nb : Nbrs} {rf : Nat} {r : IR.St} {gh : Gh} {s s' : LS} {us : List Nat}
    (hc : 0 < s'.count → 0 < s.count) (e1 : s'.firstLeaf = s.firstLeaf)
    (hR : ∀ a b, a < n → b < n → ORel s a b → ORel s' a b)
    (incl : Bool) (path choices : List Nat) (lv : List (Nat × Nat))
    (h : FrameAuxA n nb rf r gh s us incl path choices lv) : FrameAuxA n nb rf r gh s' us incl path choices lv :=
  h.mono hc e1 hR rfl rfl rfl (fun _ _ => rfl)

theorem FrameAuxA.tail {n : Nat} {nb : Nbrs} {rf : Nat} {r : IR.St} {gh : Gh} {s : LS} {us : List Nat} {incl : Bool}
    {p c : Nat} {ps cs : List Nat} {x : Nat × Nat} {ls : List (Nat × Nat)}
    (h : FrameAuxA n nb rf r gh s us incl (p :: ps) (c :: cs) (x :: ls)) :
    FrameAuxA n nb rf r gh s us false ps cs ls :=
  h.2

theorem FrameAuxA.head {n : Nat} {nb : Nbrs} {rf : Nat} {r : IR.St} {gh : Gh} {s : LS} {us : List Nat} {incl : Bool}
    {p c : Nat} {ps cs : List Nat} {st sz : Nat} {ls : List (Nat × Nat)}
    (h : FrameAuxA n nb rf r gh s us incl (p :: ps) (c :: cs) ((st, sz) :: ls)) :
    FrameAuxA1 n nb rf r gh s us incl ps c st :=
  h.1

theorem FrameAuxA.mk {n : Nat} {nb : Nbrs} {rf : Nat} {r : IR.St} {gh : Gh} {s : LS} {us : List Nat} {incl : Bool}
    {p c : Nat} {ps cs : List Nat} {st sz : Nat} {ls : List (Nat × Nat)}
    (h1 : FrameAuxA1 n nb rf r gh s us incl ps c st) (h2 : FrameAuxA n nb rf r gh s us false ps cs ls) :
    FrameAuxA n nb rf r gh s us incl (p :: ps) (c :: cs) ((st, sz) :: ls) :=
  ⟨h1, h2⟩

theorem FrameAuxA.drop {n : Nat} {nb : Nbrs} {rf : Nat} {r : IR.St} {gh : Gh} {s : LS} {us : List Nat}
    {path choices : List Nat} {lv : List (Nat × Nat)} (h : FrameAuxA n nb rf r gh s us false path choices lv) (j : Nat) :
    FrameAuxA n nb rf r gh s us false (path.drop j) (choices.drop j) (lv.drop j) := by
  rw [frameAuxA_iff] at h ⊢
  exact h.drop j

theorem FrameAuxA.path_eq {n : Nat} {nb : Nbrs} {rf : Nat} {r : IR.St} {gh : Gh} {s : LS} {us : List Nat} {incl : Bool}
    {path path' choices : List Nat} {lv : List (Nat × Nat)} (e : path' = path)
    (h : FrameAuxA n nb rf r gh s us incl path choices lv) : FrameAuxA n nb rf r gh s us incl path' choices lv := by
  subst e; exact h

theorem ACovFrames.path_eq {n : Nat} {nb : Nbrs} {rf : Nat} {r : IR.St} {gh : Gh} {s : LS} {vs : List Nat} {incl : Bool}
    {path path' choices : List Nat} {lv : List (Nat × Nat)} (e : path' = path)
    (h : ACovFrames n nb rf r gh s vs incl path choices lv) : ACovFrames n nb rf r gh s vs incl path' choices lv := by
  subst e; exact h

theorem acov_leaf_of_ne {n : Nat} {nb : Nbrs} {rf : Nat} (hnb : NbOK nb n) {op : OP} {ν : IR.St} {lF : Array Nat}
    {certF : List Nat} {R : Nat → Nat → Prop}
    (hp : PartInv n op) (hleaf : op.binDividers.len = n) (hm : Match n op ν) (hvc : VClean nb op) (hspl : op.spl = n)
    (hne : compare op.value.toList certF ≠ 0) : ACov n nb rf lF certF R ν := by
  refine acov_leaf (target_none (nb := nb) hp hm hleaf) (fun hc => ?_)
  exfalso
  rw [hm.col, leaf_colOf hp hleaf, cert_link hnb hp.perm] at hc
  have := hvc.val
  rw [hspl, hc] at this
  rw [this, compare_self] at hne
  exact hne rfl

theorem acov_finish_top {n : Nat} {nb : Nbrs} {rf : Nat} {r : IR.St} {gh : Gh} {s : LS} {op : OP} {vs : List Nat}
    {path choices : List Nat} {lv : List (Nat × Nat)} (hp : IR.IsPath (irG n nb) rf r vs)
    (hl : LevelsOK op path choices lv) (hf : FramesOK n nb rf r vs path choices lv) (hlen : path.length ≤ vs.length)
    (hnode : ACov n nb rf (lFof n gh) s.firstLeaf.toList (ORel s) (nodeL n nb rf r vs path.length))
    (hcov : ACovFrames n nb rf r gh s vs false path choices lv)
    (haux : FrameAuxA n nb rf r gh s vs false path choices lv) :
    ACovFrames n nb rf r gh s vs true path choices lv ∧ FrameAuxA n nb rf r gh s vs true path choices lv := by
  obtain ⟨rfl, rfl, rfl⟩ | ⟨p, ps, c, cs, st, sz, ls, rfl, rfl, rfl, _, _⟩ := ((acovFrames_iff _ _ _ _).1 hcov).cases
  · exact ⟨hcov, haux⟩
  · have hnew : ∀ w, (cellL n nb rf r vs ps.length st)[c - st]? = some w →
        ACov n nb rf (lFof n gh) s.firstLeaf.toList (ORel s)
          (IR.childSt (irG n nb) rf (nodeL n nb rf r vs ps.length) st w) :=
      fun w hw => by rw [← (top_child_node hp hl hf hlen hw).2]; exact hnode
    exact ⟨hcov.finish_child (fun w hw => Or.inl (hnew w hw)),
      FrameAuxA.mk (haux.head.finish_child (fun w hw _ => hnew w hw)) haux.tail⟩

end CanonF
