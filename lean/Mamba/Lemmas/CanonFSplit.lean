-- Not for a tactic: with Mathlib's algebra on `ℕ` in scope, `List.sum` in the statements from here upwards takes its
-- `Zero ℕ` through `MulZeroClass`; the statements of Props/C01F were elaborated so, and these two imports keep it so.
import Mathlib.Tactic.Ring
import Mathlib.Tactic.Linarith
import Mamba.Lemmas.ListGetD
import Mamba.Lemmas.CanonFInv
import Mamba.Lemmas.SortIntsUnionM
/-!
# `splitBin` of `Model/CanonF.lean` (Go: `(*CanonicalOrderedPartition).splitBin`)

The first half (bin search `findBinLoop`, rearrangement of `order`, `inCell` loop `bumpStep`) never panics under
`PartInv` (`splitBin_front`); the rest is `splitTail`. What the partition step leaves is stated once, in `SplitStep`:
`i` moved to the front of its bin and cut off by a new divider that carries the new age, so `PartInv` / `AgeInv` hold
again (`SplitStep.inv`). `splitBin_inv` is the interface theorem; a further fact about `splitBin` is read off `SplitStep`
through `splitBin_step` (from a successful run) or `splitBin_step_total` (given spare capacity, when absence of panics
is wanted too). `BtcInv` is the invariant of the work list `binsToCheck`.
-/
namespace CanonF


def binStartOf (bd : List Nat) (i : Nat) : Nat := if binIdx bd i = 0 then 0 else bd.getD (binIdx bd i - 1) 0

theorem binStartOf_get_cons (bd : List Nat) (i : Nat) (hb : binIdx bd i < bd.length) :
    (0 :: bd)[binIdx bd i]? = some (binStartOf bd i) := by
  unfold binStartOf
  by_cases h0 : binIdx bd i = 0
  · rw [if_pos h0, h0]; rfl
  · rw [if_neg h0]
    have hk : binIdx bd i - 1 < bd.length := by omega
    rw [getD_eq_getElem hk]
    conv => lhs; rw [show binIdx bd i = (binIdx bd i - 1) + 1 by omega]
    rw [List.getElem?_cons_succ]
    exact List.getElem?_eq_getElem hk

theorem bin_of_pos (bd : List Nat) (hs : bd.Pairwise (· < ·)) (i : Nat) (hb : binIdx bd i < bd.length) :
    binStartOf bd i ≤ i ∧ i < bd[binIdx bd i] :=
  (binIdx_eq_iff_mem_bin hs (binStartOf_get_cons bd i hb) (List.getElem?_eq_getElem hb) i).1 rfl

theorem binIdx_lt_div (bd : List Nat) (hs : bd.Pairwise (· < ·)) (i : Nat) (hb : binIdx bd i < bd.length) :
    i < bd[binIdx bd i] :=
  (bin_of_pos bd hs i hb).2

theorem binStartOf_le (bd : List Nat) (hs : bd.Pairwise (· < ·)) (i : Nat) (hb : binIdx bd i < bd.length) :
    binStartOf bd i ≤ i :=
  (bin_of_pos bd hs i hb).1

theorem binIdx_eq_of_mem_bin (bd : List Nat) (hs : bd.Pairwise (· < ·)) (i p : Nat) (hb : binIdx bd i < bd.length)
    (h1 : binStartOf bd i ≤ p) (h2 : p ≤ i) : binIdx bd p = binIdx bd i :=
  (binIdx_eq_iff_mem_bin hs (binStartOf_get_cons bd i hb) (List.getElem?_eq_getElem hb) p).2
    ⟨h1, Nat.lt_of_le_of_lt h2 (binIdx_lt_div bd hs i hb)⟩

theorem lt_binStartOf_of_binIdx_lt (bd : List Nat) (hs : bd.Pairwise (· < ·)) (i p : Nat) (hb : binIdx bd i < bd.length)
    (h : binIdx bd p < binIdx bd i) : p < binStartOf bd i := by
  apply Nat.lt_of_not_le
  intro hc
  rcases Nat.le_total p i with hpi | hip
  · exact Nat.ne_of_lt h (binIdx_eq_of_mem_bin bd hs i p hb hc hpi)
  · exact Nat.not_le_of_lt h (binIdx_mono bd hip)

theorem cons_eq_singleton_block {α : Type} (l₁ l₂ : List α) (x : α) : l₁ ++ x :: l₂ = l₁ ++ [x] ++ l₂ := by
  rw [List.append_assoc]; rfl

theorem binIdx_insert (bd : List Nat) (b s p : Nat) :
    binIdx (bd.take b ++ (s + 1) :: bd.drop b) p = binIdx bd p + if s + 1 ≤ p then 1 else 0 := by
  rw [cons_eq_singleton_block, binIdx_insert_block]
  congr 1
  unfold binIdx
  rw [List.countP_cons, List.countP_nil, Nat.zero_add]
  by_cases h : s + 1 ≤ p
  · rw [if_pos h, if_pos (decide_eq_true h)]
  · rw [if_neg h, if_neg (by rw [decide_eq_false h]; exact Bool.false_ne_true)]

theorem findBinLoop_spec (bd : Sl Nat) (hs : bd.toList.Pairwise (· < ·)) (i : Nat)
    (hb : binIdx bd.toList i < bd.toList.length) (hl : bd.toList.length = bd.len) :
    ∀ k j, j + k = bd.len → j ≤ binIdx bd.toList i → findBinLoop bd i k j = .ok (binIdx bd.toList i) := by
  intro k
  induction k with
  | zero => intro j h1 h2; omega
  | succ k ih =>
    intro j h1 h2
    have hj : j < bd.toList.length := by omega
    have hget : bd.get j = .ok (bd.toList[j]) := by
      rw [Sl.get_eq_toList]; exact List.getElem?_eq_getElem _
    have := sorted_lt_iff_idx bd.toList hs (i + 1) _ hj
    rw [← binIdx_eq] at this
    rw [findBinLoop, hget]
    simp only
    by_cases hlt : i < bd.toList[j]
    · rw [if_pos hlt]
      congr 1; omega
    · rw [if_neg hlt]
      exact ih (j + 1) (by omega) (by omega)

/-- the computation of `binNumber` -/
theorem findBin_spec {n : Nat} {op : OP} (h : PartInv n op) {i : Nat} (hi : i < n) :
    ∃ d0, op.binDividers.get 0 = .ok d0 ∧
      (if d0 ≤ i then findBinLoop op.binDividers i (op.binDividers.len - 1) 1 else .ok 0) =
        .ok (binIdx op.binDividers.toList i) := by
  have hs : op.binDividers.toList.Pairwise (· < ·) := h.bdSorted
  have hl := h.length_bd
  have hb := binIdx_lt _ n i h.last hi
  have h0 : 0 < op.binDividers.toList.length := by omega
  refine ⟨op.binDividers.toList[0], ?_, ?_⟩
  · rw [Sl.get_eq_toList]; exact List.getElem?_eq_getElem _
  · have := sorted_lt_iff_idx op.binDividers.toList hs (i + 1) _ h0
    rw [← binIdx_eq] at this
    by_cases hd : op.binDividers.toList[0] ≤ i
    · rw [if_pos hd]
      exact findBinLoop_spec _ hs i hb hl _ _ (by omega) (by omega)
    · rw [if_neg hd]
      congr 1; omega

/-- the computation of `binStart` -/
theorem binStart_spec {n : Nat} {op : OP} (h : PartInv n op) {i : Nat} (hi : i < n) :
    (if binIdx op.binDividers.toList i > 0 then op.binDividers.get (binIdx op.binDividers.toList i - 1) else .ok 0) =
      .ok (binStartOf op.binDividers.toList i) := by
  have hb := binIdx_lt _ n i h.last hi
  unfold binStartOf
  by_cases h0 : binIdx op.binDividers.toList i = 0
  · simp [h0]
  · rw [if_pos (by omega), if_neg h0]
    have hk : binIdx op.binDividers.toList i - 1 < op.binDividers.toList.length := by omega
    rw [Sl.get_eq_toList, getD_eq_getElem hk]
    exact List.getElem?_eq_getElem _

theorem bumpLoop_spec {n : Nat} (order ic0 : Sl Nat) (hwo : order.WF) (hlo : order.len = n)
    (hperm : order.toList.Perm (List.range n)) (hwi : ic0.WF) (hli : ic0.len = n) (s : Nat) (hs : s ≤ n) :
    ∃ ic, forRange (bumpStep order) (n - s) s ic0 = .ok ic ∧ ic.WF ∧ ic.len = n ∧ ic.data.size = ic0.data.size ∧
      ∀ p v c, order.toList[p]? = some v → ic0.toList[v]? = some c →
        ic.toList[v]? = some (c + if s ≤ p then 1 else 0) := by
  obtain ⟨r, hr, w1, l1, z1, hinv⟩ := forRange_total (bumpStep order)
    (fun j (ic : Sl Nat) => ic.WF ∧ ic.len = n ∧ ic.data.size = ic0.data.size ∧
      ∀ p v c, order.toList[p]? = some v → ic0.toList[v]? = some c →
        ic.toList[v]? = some (c + if s ≤ p ∧ p < j then 1 else 0))
    (n - s) s ic0
    ⟨hwi, hli, rfl, by
      intro p v c _ hc
      rw [if_neg (by omega)]; exact hc⟩
    (by
      intro j ic hj1 hj2 ⟨w1, l1, z1, hinv⟩
      obtain ⟨v, hv, _⟩ := Sl.get_ok_of_lt hwo (show j < order.len by omega)
      have hvl : order.toList[j]? = some v := Sl.get_eq_toList.1 hv
      have hvn : v < n := perm_range_lt hperm hvl
      obtain ⟨c, hc, _⟩ := Sl.get_ok_of_lt w1 (show v < ic.len by omega)
      have hcl : ic.toList[v]? = some c := Sl.get_eq_toList.1 hc
      have hset := Sl.set_ok_of_lt w1 (show v < ic.len by omega) (c + 1)
      refine ⟨_, by simp only [bumpStep, hv, hc, hset], Sl.set_wf w1 hset, by rw [Sl.set_len hset]; exact l1,
        by rw [Sl.set_cap hset]; exact z1, ?_⟩
      intro p u c0 hu hc0
      rw [Sl.toList_set hset, List.getElem?_set]
      by_cases hpj : p = j
      · subst hpj
        have : u = v := by rw [hvl] at hu; exact (Option.some.inj hu).symm
        subst this
        have := hinv p u c0 hu hc0
        rw [if_neg (by omega), hcl] at this
        rw [if_pos rfl, if_pos (by rw [Sl.length_toList _ w1]; omega), if_pos (by omega)]
        simp at this; rw [this]
      · have hne : v ≠ u := by
          intro e; subst e
          exact hpj (perm_range_inj hperm hu hvl)
        rw [if_neg hne, hinv p u c0 hu hc0]
        by_cases hc : s ≤ p ∧ p < j
        · rw [if_pos hc, if_pos (by omega)]
        · rw [if_neg hc, if_neg (by omega)])
  refine ⟨r, hr, w1, l1, z1, ?_⟩
  intro p v c hv hc
  have hp : p < n := by
    have := (List.getElem?_eq_some_iff.1 hv).1
    rw [Sl.length_toList _ hwo] at this; omega
  rw [hinv p v c hv hc]
  by_cases hsp : s ≤ p
  · rw [if_pos hsp, if_pos (by omega)]
  · rw [if_neg hsp, if_neg (by omega)]



/-- the list after moving position `i` to position `s` -/
def moveFront (o : List Nat) (s i : Nat) : List Nat :=
  o.take s ++ o.getD i 0 :: ((o.take i).drop s ++ o.drop (i + 1))

theorem moveFront_perm (o : List Nat) (s i : Nat) (hsi : s ≤ i) (hi : i < o.length) : (moveFront o s i).Perm o := by
  have e : o = o.take s ++ ((o.take i).drop s ++ o.getD i 0 :: o.drop (i + 1)) := by
    rw [getD_eq_getElem hi]
    rw [← List.drop_eq_getElem_cons hi, ← List.append_assoc]
    have : List.take s o = List.take s (List.take i o) := by rw [List.take_take, Nat.min_eq_left hsi]
    rw [this, List.take_append_drop, List.take_append_drop]
  unfold moveFront
  conv => rhs; rw [e]
  exact List.Perm.append_left _ List.perm_middle.symm

theorem moveFront_eq (o : List Nat) (s i : Nat) (hsi : s ≤ i) (hi : i < o.length) :
    moveFront o s i = (o.eraseIdx i).take s ++ o.getD i 0 :: (o.eraseIdx i).drop s := by
  have hs : s ≤ (o.take i).length := by rw [List.length_take]; omega
  rw [List.eraseIdx_eq_take_drop_succ, List.take_append_of_le_length hs, List.drop_append_of_le_length hs,
    List.take_take, Nat.min_eq_left hsi]
  rfl

theorem moveFront_getElem? (o : List Nat) (s i : Nat) (hsi : s ≤ i) (hi : i < o.length) (p : Nat) :
    (moveFront o s i)[p]? = if p = s then o[i]? else if s < p ∧ p ≤ i then o[p - 1]? else o[p]? := by
  rw [moveFront_eq o s i hsi hi, List.getElem?_take_cons_drop _ _ _ (by rw [List.length_eraseIdx_of_lt hi]; omega)]
  by_cases hp1 : p < s
  · rw [if_pos hp1, if_neg (by omega), if_neg (by omega), List.getElem?_eraseIdx_of_lt (by omega)]
  · rw [if_neg hp1]
    by_cases hp2 : p = s
    · rw [if_pos hp2, if_pos hp2, getD_eq_getElem hi, List.getElem?_eq_getElem hi]
    · rw [if_neg hp2, if_neg hp2]
      by_cases hp3 : p ≤ i
      · rw [if_pos ⟨by omega, hp3⟩, List.getElem?_eraseIdx_of_lt (by omega)]
      · rw [if_neg (by omega), List.getElem?_eraseIdx_of_ge (by omega), show p - 1 + 1 = p by omega]

theorem moveFront_src (o : List Nat) (s i : Nat) (hsi : s ≤ i) (hi : i < o.length) (p v : Nat)
    (h : (moveFront o s i)[p]? = some v) :
    ∃ q, o[q]? = some v ∧ (q = p ∨ (s ≤ q ∧ q ≤ i ∧ s ≤ p ∧ p ≤ i)) := by
  rw [moveFront_getElem? o s i hsi hi] at h
  by_cases hp2 : p = s
  · rw [if_pos hp2] at h; exact ⟨i, h, Or.inr ⟨hsi, Nat.le_refl _, by omega, by omega⟩⟩
  · rw [if_neg hp2] at h
    by_cases hp3 : s < p ∧ p ≤ i
    · rw [if_pos hp3] at h; exact ⟨p - 1, h, Or.inr ⟨by omega, by omega, by omega, by omega⟩⟩
    · rw [if_neg hp3] at h; exact ⟨p, h, Or.inl rfl⟩

theorem moveFront_lt (o : List Nat) (s i : Nat) (hsi : s ≤ i) (hi : i < o.length) (p : Nat) (hp : p < s) :
    (moveFront o s i)[p]? = o[p]? := by
  rw [moveFront_getElem? o s i hsi hi, if_neg (by omega), if_neg (by omega)]



/-- `tmp := order[i]; copy(order[s+1:], order[s:i]); order[s] = tmp` -/
theorem moveFront_spec {n : Nat} (o : Sl Nat) (hw : o.WF) (hlen : o.len = n) (s i : Nat) (hsi : s ≤ i) (hi : i < n) :
    ∃ tmp o1 o2, o.get i = .ok tmp ∧ o.copySelf (s + 1) s i = .ok o1 ∧ o1.set s tmp = .ok o2 ∧
      o2.WF ∧ o2.len = n ∧ o2.data.size = o.data.size ∧
      o2.toList = moveFront o.toList s i := by
  have hw' := hw.le
  obtain ⟨tmp, htmp, htmp'⟩ := Sl.get_ok_of_lt hw (show i < o.len by omega)
  obtain ⟨o1, hcopy⟩ : ∃ o1, o.copySelf (s + 1) s i = .ok o1 :=
    ⟨_, Sl.copySelf_eq_ok.2 ⟨⟨by omega, hsi, by omega⟩, rfl⟩⟩
  obtain ⟨l1, z1⟩ := Sl.copySelf_len hcopy
  have w1 : o1.WF := Sl.wf_mk.2 (by omega)
  obtain ⟨o2, hset⟩ : ∃ o2, o1.set s tmp = .ok o2 := ⟨_, Sl.set_ok_of_lt w1 (show s < o1.len by omega) tmp⟩
  have l2 := Sl.set_len hset
  refine ⟨tmp, o1, o2, htmp, hcopy, hset, Sl.set_wf w1 hset, by omega, by rw [Sl.set_cap hset]; exact z1, ?_⟩
  rw [Sl.shiftRight_toList hw hsi (by omega) hcopy hset, moveFront, List.getD_eq_getElem?_getD, Sl.get_eq_toList.1 htmp]
  rfl

/-- the part of `splitBin` after the `inCell` loop -/
def splitTail (nb : Nbrs) (cb fl : Sl Nat) (op : OP) (binNumber binStart : Nat) (order inCell : Sl Nat) :
    Outcome (Bool × OP) :=
  match insertAt op.binDividers binNumber (binStart + 1), insertAt op.binAges binNumber (op.age + 1) with
  | .ok bd, .ok ages =>
    match unionSl op.binsToCheck [(binNumber : Int), (binNumber : Int) + 1] with
    | .ok btc =>
      let op := { op with age := op.age + 1, order := order, inCell := inCell, binDividers := bd, binAges := ages,
                          binsToCheck := btc }
      if binNumber = op.spl then expandValue nb cb fl op else .ok (false, op)
    | .panic => .panic
    | .outOfFuel => .outOfFuel
  | _, _ => .panic

theorem splitBin_front {n : Nat} {nb : Nbrs} {cb fl : Sl Nat} {op : OP} {i : Nat} (h : PartInv n op) (hi : i < n) :
    ∃ order ic : Sl Nat,
      splitBin nb cb fl op i =
        splitTail nb cb fl op (binIdx op.binDividers.toList i) (binStartOf op.binDividers.toList i) order ic ∧
      order.WF ∧ order.len = n ∧ order.data.size = op.order.data.size ∧
      order.toList = moveFront op.order.toList (binStartOf op.binDividers.toList i) i ∧
      ic.WF ∧ ic.len = n ∧ ic.data.size = op.inCell.data.size ∧
      ∀ p v c, order.toList[p]? = some v → op.inCell.toList[v]? = some c →
        ic.toList[v]? = some (c + if binStartOf op.binDividers.toList i + 1 ≤ p then 1 else 0) := by
  have hs : op.binDividers.toList.Pairwise (· < ·) := h.bdSorted
  have hb := binIdx_lt _ n i h.last hi
  have hsi := binStartOf_le _ hs i hb
  obtain ⟨d0, hd0, hfind⟩ := findBin_spec h hi
  have hbs := binStart_spec h hi
  obtain ⟨tmp, o1, o2, htmp, hcopy, hset, w2, l2, z2, e2⟩ :=
    moveFront_spec op.order h.wfOrder h.lenOrder (binStartOf op.binDividers.toList i) i hsi hi
  have hol : op.order.toList.length = n := h.length_order
  have hperm : o2.toList.Perm (List.range n) := by
    rw [e2]; exact (moveFront_perm _ _ _ hsi (by omega)).trans h.perm
  obtain ⟨ic, hloop, wi, li, zi, hic⟩ := bumpLoop_spec o2 op.inCell w2 l2 hperm h.wfInCell h.lenInCell
    (binStartOf op.binDividers.toList i + 1) (by omega)
  rw [← l2] at hloop
  refine ⟨o2, ic, ?_, w2, l2, z2, e2, wi, li, zi, hic⟩
  simp only [splitBin, hd0, hfind, hbs, htmp, hcopy, hset, hloop]
  rfl


theorem binStartOf_mem (bd : List Nat) (i : Nat) (hb : binIdx bd i < bd.length) : binStartOf bd i ∈ 0 :: bd := by
  unfold binStartOf
  split
  · exact List.mem_cons_self ..
  · have hk : binIdx bd i - 1 < bd.length := by omega
    rw [getD_eq_getElem hk]
    exact List.mem_cons_of_mem _ (List.getElem_mem _)

theorem binStartOf_succ_lt (bd : List Nat) (hs : bd.Pairwise (· < ·)) (i : Nat) (hb : binIdx bd i < bd.length)
    (hns : NonSingleton bd i) : binStartOf bd i + 1 < bd[binIdx bd i] := by
  have h1 := binIdx_lt_div bd hs i hb
  have h2 := binStartOf_le bd hs i hb
  apply Nat.lt_of_not_le
  intro hc
  apply hns
  have e : i = binStartOf bd i := by omega
  constructor
  · rw [e]; exact binStartOf_mem bd i hb
  · have : i + 1 = bd[binIdx bd i] := by omega
    rw [this]; exact List.getElem_mem _

theorem filter_divs_insert (bd : List Nat) (ages : List Int) (b x : Nat) (age : Int) (hl : ages.length = bd.length)
    (hle : ∀ a ∈ ages, a ≤ age) :
    ((bd.take b ++ x :: bd.drop b).zip (ages.take b ++ (age + 1) :: ages.drop b)).filter
      (fun y => decide (y.2 ≠ age + 1)) = bd.zip ages := by
  have e := filter_zip_insert (fun y : Nat × Int => decide (y.2 ≠ age + 1)) (l := bd) (nl := [x]) (m := ages)
    (nm := [age + 1]) (j := b) hl.symm rfl (fun y hy => by cases List.mem_singleton.1 hy; exact decide_eq_false (fun h => h rfl))
  rw [cons_eq_singleton_block (bd.take b), cons_eq_singleton_block (ages.take b), e, List.filter_eq_self]
  intro y hy
  have := hle y.2 (List.of_mem_zip hy).2
  exact decide_eq_true (by omega)

theorem insertAt_total {α : Type} {s : Sl α} {b : Nat} (v : α) (hb : b ≤ s.len) (hc : s.len + 1 ≤ s.data.size) :
    ∃ s', insertAt s b v = .ok s' := by
  have h1 : s.reslice (s.len + 1) = .ok ⟨s.data, s.len + 1⟩ := Sl.reslice_eq_ok.2 ⟨hc, rfl⟩
  obtain ⟨s2, h2⟩ : ∃ s2, (⟨s.data, s.len + 1⟩ : Sl α).copySelf (b + 1) b (s.len + 1) = .ok s2 :=
    ⟨_, Sl.copySelf_eq_ok.2 ⟨⟨by show b + 1 ≤ s.len + 1; omega, by omega, hc⟩, rfl⟩⟩
  obtain ⟨l2, z2⟩ := Sl.copySelf_len h2
  have l2' : s2.len = s.len + 1 := l2
  have z2' : s2.data.size = s.data.size := z2
  have h3 : s2.set b v = .ok ⟨s2.data.setIfInBounds b v, s2.len⟩ :=
    Sl.set_eq_ok.2 ⟨⟨by omega, by omega⟩, rfl⟩
  refine ⟨⟨s2.data.setIfInBounds b v, s2.len⟩, ?_⟩
  simp only [insertAt, h1, h2, h3]

theorem unionSl_spec (s : Sl Int) (b : List Int) (hs : s.toList.Pairwise (· < ·)) (hb : b.Pairwise (· < ·)) :
    ∃ s', unionSl s b = .ok s' ∧ s'.WF ∧ s'.toList = SortInts.union s.toList b ∧
      ((SortInts.union s.toList b).length ≤ s.data.size → s'.data.size = s.data.size) := by
  have hu := SortInts.unionM_result s.toList (s.data.toList.drop s.len) b hs hb
  unfold unionSl
  rw [hu]
  simp only
  by_cases hc : (SortInts.union s.toList b).length ≤ s.data.size
  · rw [if_pos hc]
    refine ⟨_, rfl, ?_, ?_, ?_⟩
    · simp [Sl.WF]
    · simp [Sl.toList]
    · intro _; simp; omega
  · rw [if_neg hc]
    refine ⟨_, rfl, ?_, ?_, ?_⟩
    · simp [Sl.WF]
    · simp [Sl.toList]
    · intro h; exact absurd h hc

theorem unionSl_size_mono {s s' : Sl Int} {b : List Int} (h : unionSl s b = .ok s') : s.data.size ≤ s'.data.size := by
  unfold unionSl at h
  split at h
  · rename_i r _
    split at h
    · cases h
      simp only [List.size_toArray, List.length_append, List.length_drop, Array.length_toList]
      omega
    · cases h
      simp only [List.size_toArray]
      omega
  · cases h
  · cases h

/-- what the partition step of `splitBin` at position `i` leaves (`b`, `s` = index and start of the bin of `i`): `i` moved
to the front of its bin and cut off by the new divider `s + 1` of age `age + 1`; `b`, `b + 1` on the work list.
-/
structure SplitStep (n : Nat) (op : OP) (i : Nat) (op1 : OP) : Prop where
  age : op1.age = op.age + 1
  value : op1.value = op.value
  spl : op1.spl = op.spl
  order : op1.order.toList = moveFront op.order.toList (binStartOf op.binDividers.toList i) i
  bd : op1.binDividers.toList = op.binDividers.toList.take (binIdx op.binDividers.toList i) ++
    (binStartOf op.binDividers.toList i + 1) :: op.binDividers.toList.drop (binIdx op.binDividers.toList i)
  binAges : op1.binAges.toList = op.binAges.toList.take (binIdx op.binDividers.toList i) ++
    (op.age + 1) :: op.binAges.toList.drop (binIdx op.binDividers.toList i)
  inCell : ∀ p v c, op1.order.toList[p]? = some v → op.inCell.toList[v]? = some c →
    op1.inCell.toList[v]? = some (c + if binStartOf op.binDividers.toList i + 1 ≤ p then 1 else 0)
  wfOrder : op1.order.WF
  wfInCell : op1.inCell.WF
  wfBd : op1.binDividers.WF
  wfAges : op1.binAges.WF
  lenOrder : op1.order.len = n
  lenInCell : op1.inCell.len = n
  lenBd : op1.binDividers.len = op.binDividers.len + 1
  lenAges : op1.binAges.len = op.binAges.len + 1
  szOrder : op1.order.data.size = op.order.data.size
  szInCell : op1.inCell.data.size = op.inCell.data.size
  szBd : op1.binDividers.data.size = op.binDividers.data.size
  szAges : op1.binAges.data.size = op.binAges.data.size
  szBtc : op.binsToCheck.data.size ≤ op1.binsToCheck.data.size
  btc : op.binsToCheck.toList.Pairwise (· < ·) → op1.binsToCheck.WF ∧
    op1.binsToCheck.toList = SortInts.union op.binsToCheck.toList
      [(binIdx op.binDividers.toList i : Int), (binIdx op.binDividers.toList i : Int) + 1] ∧
    (op1.binsToCheck.toList.length ≤ op.binsToCheck.data.size → op1.binsToCheck.data.size = op.binsToCheck.data.size)

theorem SplitStep.inv {n : Nat} {op op1 : OP} {i : Nat} (s : SplitStep n op i op1) (h : PartInv n op) (ha : AgeInv op)
    (hi : i < n) (hns : NonSingleton op.binDividers.toList i) :
    PartInv n op1 ∧ AgeInv op1 ∧ (divs op1).filter (fun x => decide (x.2 ≠ op.age + 1)) = divs op := by
  have hs : op.binDividers.toList.Pairwise (· < ·) := h.bdSorted
  have hb := binIdx_lt _ n i h.last hi
  have hsi := binStartOf_le _ hs i hb
  have hol : op.order.toList.length = n := h.length_order
  have hal : op.binAges.toList.length = op.binDividers.toList.length := by rw [h.length_ages, h.length_bd]
  refine ⟨⟨s.wfOrder, s.wfBd, s.wfAges, s.wfInCell, s.lenOrder, s.lenInCell, by rw [s.lenAges, s.lenBd, h.lenAges], ?_, ?_, ?_, ?_⟩,
    ⟨?_, ?_⟩, ?_⟩
  · rw [s.order]; exact (moveFront_perm _ _ _ hsi (by omega)).trans h.perm
  · rw [s.bd, cons_eq_singleton_block]
    refine sorted_insert h.sorted (binStartOf_get_cons _ i hb) (List.getElem?_eq_getElem hb) (List.pairwise_singleton _ _)
      fun x hx => ?_
    cases List.mem_singleton.1 hx
    exact ⟨Nat.lt_succ_self _, binStartOf_succ_lt _ hs i hb hns⟩
  · rw [s.bd, cons_eq_singleton_block, getLast?_insert hb]; exact h.last
  · intro p v hv
    rw [s.order] at hv
    obtain ⟨q, hq, hqp⟩ := moveFront_src _ _ _ hsi (by omega) p v hv
    have hc := h.inCell q v hq
    rw [← s.order] at hv
    rw [s.inCell p v _ hv hc, s.bd, binIdx_insert]
    rcases hqp with rfl | ⟨q1, q2, p1, p2⟩
    · rfl
    · rw [binIdx_eq_of_mem_bin _ hs i q hb q1 q2, binIdx_eq_of_mem_bin _ hs i p hb p1 p2]
  · intro a hm
    rw [s.binAges] at hm
    rw [s.age]
    rcases List.mem_append.1 hm with hm | hm
    · have := ha.le a (List.mem_of_mem_take hm); omega
    · rcases List.mem_cons.1 hm with rfl | hm
      · omega
      · have := ha.le a (List.mem_of_mem_drop hm); omega
  · rw [s.binAges, cons_eq_singleton_block, getLast?_insert (by omega)]; exact ha.last
  · unfold divs
    rw [s.bd, s.binAges]
    exact filter_divs_insert _ _ _ _ _ hal ha.le

/-- the state after the partition step -/
def splitOP (op : OP) (order inCell bd : Sl Nat) (ages btc : Sl Int) : OP :=
  { op with age := op.age + 1, order := order, inCell := inCell, binDividers := bd, binAges := ages, binsToCheck := btc }

theorem splitTail_eq {nb : Nbrs} {cb fl : Sl Nat} {op : OP} {b s : Nat} {order ic bd : Sl Nat} {ages btc : Sl Int}
    (hbd : insertAt op.binDividers b (s + 1) = .ok bd) (hag : insertAt op.binAges b (op.age + 1) = .ok ages)
    (hbt : unionSl op.binsToCheck [(b : Int), (b : Int) + 1] = .ok btc) :
    splitTail nb cb fl op b s order ic =
      if b = op.spl then expandValue nb cb fl (splitOP op order ic bd ages btc)
      else .ok (false, splitOP op order ic bd ages btc) := by
  unfold splitTail
  simp only [hbd, hag, hbt]
  rfl

theorem splitTail_ok {nb : Nbrs} {cb fl : Sl Nat} {op : OP} {b s : Nat} {order ic : Sl Nat} {r : Bool × OP}
    (h : splitTail nb cb fl op b s order ic = .ok r) :
    ∃ bd ages btc, insertAt op.binDividers b (s + 1) = .ok bd ∧ insertAt op.binAges b (op.age + 1) = .ok ages ∧
      unionSl op.binsToCheck [(b : Int), (b : Int) + 1] = .ok btc := by
  unfold splitTail at h
  split at h
  · split at h
    · exact ⟨_, _, _, ‹_›, ‹_›, ‹_›⟩
    · cases h
    · cases h
  · cases h

theorem SplitStep.of_parts {n : Nat} {op : OP} {i : Nat} (h : PartInv n op) {order ic bd : Sl Nat} {ages btc : Sl Int}
    (wo : order.WF) (lo : order.len = n) (zo : order.data.size = op.order.data.size)
    (eo : order.toList = moveFront op.order.toList (binStartOf op.binDividers.toList i) i)
    (wi : ic.WF) (li : ic.len = n) (zi : ic.data.size = op.inCell.data.size)
    (hic : ∀ p v c, order.toList[p]? = some v → op.inCell.toList[v]? = some c →
      ic.toList[v]? = some (c + if binStartOf op.binDividers.toList i + 1 ≤ p then 1 else 0))
    (hbd : insertAt op.binDividers (binIdx op.binDividers.toList i) (binStartOf op.binDividers.toList i + 1) = .ok bd)
    (hag : insertAt op.binAges (binIdx op.binDividers.toList i) (op.age + 1) = .ok ages)
    (hbt : unionSl op.binsToCheck [(binIdx op.binDividers.toList i : Int), (binIdx op.binDividers.toList i : Int) + 1] =
      .ok btc) :
    SplitStep n op i (splitOP op order ic bd ages btc) := by
  obtain ⟨_, cb1, lb, zb, eb, _⟩ := Sl.insertAt_spec h.wfBd hbd
  obtain ⟨_, ca1, la, za, ea, _⟩ := Sl.insertAt_spec h.wfAges hag
  refine ⟨rfl, rfl, rfl, eo, eb, ea, hic, wo, wi, ?_, ?_, lo, li, lb, la, zo, zi, zb, za, unionSl_size_mono hbt, fun hsb => ?_⟩
  · show bd.len ≤ bd.data.size; rw [lb, zb]; exact cb1
  · show ages.len ≤ ages.data.size; rw [la, za]; exact ca1
  · obtain ⟨btc', hbt', wbtc, ebtc, zbtc⟩ := unionSl_spec op.binsToCheck _ hsb
      (List.pairwise_pair.2 (Int.lt_succ (binIdx op.binDividers.toList i : Int)))
    cases hbt.symm.trans hbt'
    exact ⟨wbtc, ebtc, fun hl => zbtc (ebtc ▸ hl)⟩

theorem splitBin_step {n : Nat} {nb : Nbrs} {cb fl : Sl Nat} {op op' : OP} {i : Nat} {w : Bool}
    (h : PartInv n op) (hi : i < n) (hs : splitBin nb cb fl op i = .ok (w, op')) :
    ∃ op1 : OP, SplitStep n op i op1 ∧
      (if binIdx op.binDividers.toList i = op.spl then expandValue nb cb fl op1 = .ok (w, op')
        else (w = false ∧ op' = op1)) := by
  obtain ⟨order, ic, hfront, wo, lo, zo, eo, wi, li, zi, hic⟩ := splitBin_front (nb := nb) (cb := cb) (fl := fl) h hi
  rw [hfront] at hs
  obtain ⟨bd, ages, btc, hbd, hag, hbt⟩ := splitTail_ok hs
  rw [splitTail_eq hbd hag hbt] at hs
  refine ⟨_, SplitStep.of_parts h wo lo zo eo wi li zi hic hbd hag hbt, ?_⟩
  by_cases hsp : binIdx op.binDividers.toList i = op.spl
  · rw [if_pos hsp] at hs ⊢; exact hs
  · rw [if_neg hsp] at hs ⊢
    cases hs
    exact ⟨rfl, rfl⟩

theorem splitBin_step_total {n : Nat} {nb : Nbrs} {cb fl : Sl Nat} {op : OP} {i : Nat}
    (h : PartInv n op) (hbt : op.binsToCheck.toList.Pairwise (· < ·)) (hi : i < n)
    (c1 : op.binDividers.len + 1 ≤ op.binDividers.data.size) (c2 : op.binAges.len + 1 ≤ op.binAges.data.size) :
    ∃ op1 : OP, SplitStep n op i op1 ∧ splitBin nb cb fl op i =
      (if binIdx op.binDividers.toList i = op.spl then expandValue nb cb fl op1 else .ok (false, op1)) := by
  obtain ⟨order, ic, hfront, wo, lo, zo, eo, wi, li, zi, hic⟩ := splitBin_front (nb := nb) (cb := cb) (fl := fl) h hi
  have hb := binIdx_lt _ n i h.last hi
  rw [h.length_bd] at hb
  obtain ⟨bd, hbd⟩ := insertAt_total (s := op.binDividers) (b := binIdx op.binDividers.toList i)
    (binStartOf op.binDividers.toList i + 1) (Nat.le_of_lt hb) c1
  obtain ⟨ages, hag⟩ := insertAt_total (s := op.binAges) (b := binIdx op.binDividers.toList i)
    (op.age + 1) (h.lenAges ▸ Nat.le_of_lt hb) c2
  obtain ⟨btc, hun, -⟩ := unionSl_spec op.binsToCheck _ hbt
    (List.pairwise_pair.2 (Int.lt_succ (binIdx op.binDividers.toList i : Int)))
  exact ⟨_, SplitStep.of_parts h wo lo zo eo wi li zi hic hbd hag hun, by rw [hfront, splitTail_eq hbd hag hun]⟩

theorem splitBin_inv {n : Nat} {nb : Nbrs} {cb fl : Sl Nat} {op op' : OP} {i : Nat} {w : Bool}
    (h : PartInv n op) (ha : AgeInv op) (hi : i < n) (hns : NonSingleton op.binDividers.toList i)
    (hs : splitBin nb cb fl op i = .ok (w, op')) :
    PartInv n op' ∧ AgeInv op' ∧ op'.age = op.age + 1 ∧
      (divs op').filter (fun x => decide (x.2 ≠ op.age + 1)) = divs op ∧
      (∀ p, binIdx op.binDividers.toList p < binIdx op.binDividers.toList i → op'.order.toList[p]? = op.order.toList[p]?) := by
  obtain ⟨op1, s, hlast⟩ := splitBin_step h hi hs
  obtain ⟨hP, hA, hD⟩ := s.inv h ha hi hns
  have hage := s.age
  have hbs : op.binDividers.toList.Pairwise (· < ·) := h.bdSorted
  have hb := binIdx_lt _ n i h.last hi
  have hsi := binStartOf_le _ hbs i hb
  have hol : op.order.toList.length = n := h.length_order
  have hord : ∀ p, binIdx op.binDividers.toList p < binIdx op.binDividers.toList i →
      op1.order.toList[p]? = op.order.toList[p]? := by
    intro p hp
    have := lt_binStartOf_of_binIdx_lt _ hbs i p hb hp
    rw [s.order]
    exact moveFront_lt _ _ _ hsi (by omega) p this
  by_cases hsp : binIdx op.binDividers.toList i = op.spl
  · rw [if_pos hsp] at hlast
    obtain ⟨e1, e2, e3, e4, e5, e6⟩ := expandValue_frame hlast
    refine ⟨hP.of_frame e1 e2 e3 e6, hA.of_frame e3 e5, by rw [e5, hage], ?_, ?_⟩
    · rw [divs_congr e2 e3]; exact hD
    · rw [e1]; exact hord
  · rw [if_neg hsp] at hlast
    obtain ⟨_, rfl⟩ := hlast
    exact ⟨hP, hA, hage, hD, hord⟩


structure BtcInv (op : OP) : Prop where
  wf : op.binsToCheck.WF
  sorted : op.binsToCheck.toList.Pairwise (· < ·)
  range : ∀ x ∈ op.binsToCheck.toList, 0 ≤ x ∧ x < (op.binDividers.len : Int)

theorem BtcInv.of_len_zero {op : OP} (h0 : op.binsToCheck.len = 0) : BtcInv op := by
  have hnil := Sl.toList_of_len_zero h0
  exact ⟨by unfold Sl.WF; rw [h0]; exact Nat.zero_le _, by rw [hnil]; exact List.Pairwise.nil,
    fun x hx => by rw [hnil] at hx; cases hx⟩

theorem BtcInv.of_range {op : OP} (hw : op.binsToCheck.WF)
    (hb : op.binsToCheck.toList = (List.range op.binDividers.len).map Int.ofNat) : BtcInv op := by
  refine ⟨hw, ?_, ?_⟩
  · rw [hb, List.pairwise_map]
    exact List.pairwise_lt_range.imp (fun h => by exact Int.ofNat_lt.2 h)
  · intro x hx
    rw [hb] at hx
    obtain ⟨k, hk, rfl⟩ := List.mem_map.1 hx
    exact ⟨Int.natCast_nonneg k, by exact Int.ofNat_lt.2 (List.mem_range.1 hk)⟩

theorem sortedInt_length_le (m : Int) : ∀ (l : List Int) (lo : Int), l.Pairwise (· < ·) → (∀ x ∈ l, lo ≤ x ∧ x < m) → lo ≤ m →
    (l.length : Int) ≤ m - lo := by
  intro l
  induction l with
  | nil => intro lo _ _ h; simp; omega
  | cons x xs ih =>
    intro lo hp hr hlo
    rw [List.pairwise_cons] at hp
    have hx := hr x (List.mem_cons_self ..)
    have := ih (x + 1) hp.2 (by
      intro y hy
      have h1 := hp.1 y hy
      have h2 := hr y (List.mem_cons_of_mem _ hy)
      omega) (by omega)
    simp only [List.length_cons]
    omega

/-- absence of panics of the partition step of `splitBin`; the `expandValue` call is excluded
(hypothesis `binIdx bd i ≠ op.spl`) -/
theorem splitBin_no_panic_partial {n : Nat} {nb : Nbrs} {cb fl : Sl Nat} {op : OP} {i : Nat}
    (h : PartInv n op) (ha : AgeInv op) (hbt : BtcInv op) (hi : i < n) (hns : NonSingleton op.binDividers.toList i)
    (c1 : op.binDividers.len + 1 ≤ op.binDividers.data.size) (c2 : op.binAges.len + 1 ≤ op.binAges.data.size)
    (c3 : op.binDividers.len + 1 ≤ op.binsToCheck.data.size)
    (hsp : binIdx op.binDividers.toList i ≠ op.spl) :
    ∃ op', splitBin nb cb fl op i = .ok (false, op') ∧ BtcInv op' ∧
      op'.binsToCheck.data.size = op.binsToCheck.data.size ∧
      op'.binsToCheck.toList = SortInts.union op.binsToCheck.toList
        [(binIdx op.binDividers.toList i : Int), (binIdx op.binDividers.toList i : Int) + 1] ∧
      op'.binDividers.len = op.binDividers.len + 1 ∧ op'.binAges.len = op.binAges.len + 1 ∧
      op'.value = op.value ∧ op'.spl = op.spl ∧ PartInv n op' ∧ AgeInv op' := by
  obtain ⟨op1, s, hr⟩ := splitBin_step_total (nb := nb) (cb := cb) (fl := fl) h hbt.sorted hi c1 c2
  rw [if_neg hsp] at hr
  obtain ⟨hP, hA, _⟩ := s.inv h ha hi hns
  obtain ⟨wbtc, ebtc, zbtc⟩ := s.btc hbt.sorted
  have hsb : ([(binIdx op.binDividers.toList i : Int), (binIdx op.binDividers.toList i : Int) + 1]).Pairwise (· < ·) :=
    List.pairwise_pair.2 (Int.lt_succ _)
  have hb := binIdx_lt _ n i h.last hi
  rw [h.length_bd] at hb
  have hrange : ∀ x ∈ op1.binsToCheck.toList, 0 ≤ x ∧ x < ((op.binDividers.len + 1 : Nat) : Int) := by
    intro x hx
    rw [ebtc, SortInts.mem_union] at hx
    rcases hx with hx | hx
    · have := hbt.range x hx; omega
    · simp at hx; omega
  have hsorted : op1.binsToCheck.toList.Pairwise (· < ·) := by
    rw [ebtc]; exact SortInts.union_sorted _ _ hbt.sorted hsb
  have hlen : op1.binsToCheck.toList.length ≤ op.binsToCheck.data.size := by
    have := sortedInt_length_le ((op.binDividers.len + 1 : Nat) : Int) _ 0 hsorted hrange (by omega)
    omega
  exact ⟨op1, hr, ⟨wbtc, hsorted, by rw [s.lenBd]; exact hrange⟩, zbtc hlen, ebtc, s.lenBd, s.lenAges, s.value, s.spl,
    hP, hA⟩

end CanonF
