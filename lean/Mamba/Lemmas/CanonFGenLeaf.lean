import Mamba.Lemmas.CanonFDfsLeafStep
import Mamba.Lemmas.CanonFGenBase
import Mamba.Lemmas.CanonFGenChain
/-!
# The generator layer (G-layer) at a leaf: the four cases of `LeafStep` (`CanonFDfsLeafStep.lean`)

* `gen_leaf_first`, the base of the stabiliser chain: after the first leaf the first-leaf path is the current path: every
  frame holds its first child, which is the last member of its cell (`fmax`, from `ph1`), only the top frame has its
  first-path child processed, and an automorphism that fixes the whole first-leaf path is the identity
  (`aut_fix_leaf_id`), so `AutGen vs.length` holds trivially.
* `gen_leaf_keep` (a leaf better than the best leaf, and a leaf with the certificate of no stored leaf): neither the
  generators nor the first-leaf path change, and the leaf is not on the first-leaf path.
* `gen_leaf_eq` (certificate of a stored leaf, companion of `dfs_leaf_eq` / `orb_leaf_eq`): the recorded generators only
  grow, frames are dropped, and the newly processed child of the divergence frame is not the first-path child: if the
  frame is on the first-leaf path, the first-path child is the LAST member of the cell (`fmax`), whereas the child on the
  stored path is a member with a larger index than the current child (`BackjumpAt.later`).
-/
namespace CanonF

section
variable {n : Nat} {nb : Nbrs} {rf : Nat} {r : IR.St}

theorem FrameAuxG1.at_first {gh' : Gh} {s1 : LS} {vs : List Nat} (e1 : gh'.vsF = vs)
    {incl : Bool} {ps : List Nat} {c st sz p : Nat} (hcp : c = st + p) (hsz : p + 1 = sz)
    (hlink : vs[ps.length]? = (cellL n nb rf r vs ps.length st)[p]?)
    (hgen : incl = true → AutGen n nb r gh' s1 (ps.length + 1)) :
    FrameAuxG1 n nb rf r gh' s1 vs incl ps c st sz := by
  have key : ∀ i w, (cellL n nb rf r vs ps.length st)[i]? = some w → vs[ps.length]? = some w → i = p :=
    fun i w hi hw => cellL_idx_unique hi (hlink ▸ hw)
  constructor
  · intro _ _ i w hi hw hx
    rw [e1] at hx
    have hip := key i w hw hx
    cases incl with
    | false => simp only [Bool.false_eq_true, if_false] at hi; omega
    | true => exact hgen rfl
  · intro _ _
    rw [e1, hlink, show sz - 1 = p by omega]

theorem FrameAuxG.at_first {gh gh' : Gh} {s s1 : LS} {vs : List Nat} {op : OP} (e1 : gh'.vsF = vs) (h0 : s.count = 0)
    {path choices : List Nat} {lv : List (Nat × Nat)} (hf : FramesOK n nb rf r vs path choices lv)
    (hl : LevelsOK op path choices lv) (ha : FrameAux n nb rf r gh s vs false path choices lv)
    (hlen : path.length ≤ vs.length) : FrameAuxG n nb rf r gh' s1 vs false path choices lv := by
  rw [frameAuxG_iff]
  refine (((framesOK_iff.1 hf).and (levelsOK_iff.1 hl)).and (frameAux_iff.1 ha)).imp_false ?_
  rintro p ps c st sz hps ⟨⟨hF, hL⟩, hA⟩
  have hph : c - st + 1 = sz := hA.ph1 h0
  exact FrameAuxG1.at_first e1 hL.2.2.1 (by rw [← hph, hL.2.2.1, Nat.add_sub_cancel_left]) (hF.2.2 (by omega)).1
    (fun h => by cases h)

end

section
variable {n m : Nat} {nb : Nbrs} {rf : Nat} {r : IR.St}
  (hnb : NbOK nb n) (hA : IR.InvA (irG n nb) r) (hD : IR.InvD (irG n nb) r)

include hnb hA hD in
theorem gen_leaf_first {gh : Gh} {lv : List (Nat × Nat)} {s s1 : LS} (hlv : LevelsOK s.op s.path s.choices lv)
    (hDv : DNodev n nb rf r gh lv s) (L : LeafAt n m nb rf r gh lv s) (hcnt : s.count = 0) (S : FirstShape n s s1) :
    GAv n nb rf r { vs := gh.vs.dropLast, oF := s.op.order.toList, vsF := gh.vs, vsB := gh.vs, bgs := [] } lv s1 := by
  have haux := hDv.2.2.2.1
  have h1 := L.path
  have h3 := L.len
  have h5 := L.frames
  -- an automorphism that fixes the whole first-leaf path is the identity
  have hAG : ∀ K, gh.vs.length ≤ K → AutGen n nb r
      { vs := gh.vs.dropLast, oF := s.op.order.toList, vsF := gh.vs, vsB := gh.vs, bgs := [] } s1 K := by
    intro K hK γ hγ hcol hfix
    have : γ = List.range n := aut_fix_leaf_id (rf := rf) hnb hA hD hγ hcol h1 L.leafT
      (fun j v hv => hfix j v (by have := (List.getElem?_eq_some_iff.1 hv).1; omega) hv)
    rw [this]
    exact GenBy.id
  refine ⟨?_, fun hp => ?_⟩
  · show FrameAuxG n nb rf r _ s1 gh.vs.dropLast true s1.path s1.choices lv
    rw [S.path, S.choices]
    exact FrameAuxG.congr rfl rfl rfl true _ _ _ L.dropLast
      (FrameAuxG.finish_top h1 hlv h5 (Nat.le_of_eq h3.symm)
        (FrameAuxG.at_first (vs := gh.vs) rfl hcnt h5 hlv haux (Nat.le_of_eq h3.symm))
        (fun _ _ => hAG _ (Nat.le_of_eq h3)))
  · rw [S.path] at hp
    exact hAG 0 (by rw [h3, hp]; exact Nat.le_refl _)

end

section
variable {n m : Nat} {nb : Nbrs} {rf : Nat} {r : IR.St}

theorem gen_leaf_keep {gh gh' : Gh} {lv : List (Nat × Nat)} {s s' : LS} (hlv : LevelsOK s.op s.path s.choices lv)
    (hDv : DNodev n nb rf r gh lv s) (hGv : GNodev n nb rf r gh lv s) (L : LeafAt n m nb rf r gh lv s)
    (hcnt : 0 < s.count) (evs : gh'.vs = gh.vs.dropLast) (eF : gh'.vsF = gh.vsF)
    (hS : ∀ γ, RecGen s γ → RecGen s' γ) (e2 : s'.path = s.path) (e3 : s'.choices = s.choices) :
    GAv n nb rf r gh' lv s' := by
  have hoff := hDv.2.2.2.2
  have hfr : FrameAuxG n nb rf r gh s gh.vs true s.path s.choices lv :=
    FrameAuxG.finish_top L.path hlv L.frames (Nat.le_of_eq L.len.symm) hGv (fun h0 hpre => ((hoff h0).1 (by
      rw [← L.len, List.take_length] at hpre
      exact hpre)).elim)
  refine ⟨?_, fun hp => absurd (e2 ▸ hp) (L.path_ne hoff hcnt)⟩
  show FrameAuxG n nb rf r gh' s' gh'.vs true s'.path s'.choices lv
  rw [evs, e2, e3]
  exact FrameAuxG.mono (fun _ => hcnt) hS eF true _ _ _ L.dropLast hfr

end

theorem gen_frames_backjump {n : Nat} {nb : Nbrs} {rf : Nat} {r : IR.St} {gh gh' : Gh} {s s' : LS}
    {lv : List (Nat × Nat)} (j : Nat) {p c st sz : Nat} {ps cs : List Nat} {ls : List (Nat × Nat)}
    (hpd : s.path.drop j = p :: ps) (hcd : s.choices.drop j = c :: cs) (hld : lv.drop j = (st, sz) :: ls)
    (hG : FrameAuxG n nb rf r gh s gh.vs false s.path s.choices lv) (hc : 0 < s.count)
    (hS : ∀ γ, RecGen s γ → RecGen s' γ) (g : gh'.vsF = gh.vsF)
    (hne : ∀ w, (cellL n nb rf r gh.vs ps.length st)[c - st]? = some w →
      gh.vs.take ps.length = gh.vsF.take ps.length → gh.vsF[ps.length]? = some w → False) :
    FrameAuxG n nb rf r gh' s' (gh.vs.take ps.length) true (s.path.drop j) (s.choices.drop j) (lv.drop j) := by
  have g1 := hG.drop j
  rw [hpd, hcd, hld] at g1 ⊢
  exact FrameAuxG.mono (fun _ => hc) hS g true _ _ _ (fun L hL => take_take_le gh.vs (Nat.le_of_lt_succ hL))
    (FrameAuxG.mk (g1.head.finish_child' (fun _ w hw hpre hx => (hne w hw hpre hx).elim)) g1.tail)

section
variable {n m : Nat} {nb : Nbrs} {rf : Nat} {r : IR.St}
  {gh : Gh} {lv : List (Nat × Nat)} {s s1 : LS} {vsX oX certX : List Nat} {pinvX refX : Sl Nat}
  {bo fo : Disjoint.DS} {merges : Bool} {gens' : Array (Sl Nat)} {ngens' : Nat} {bgs' : List (List Nat)} {j : Nat}
  {op' : OP} {p c st sz : Nat} {ps cs : List Nat} {ls : List (Nat × Nat)}

theorem gen_leaf_eq (hI : MInv n m nb s) (hGv : GNodev n nb rf r gh lv s)
    (E : EqLeafStep n nb rf r gh lv s s1 vsX oX certX pinvX refX bo fo merges gens' ngens' bgs' j op' p ps c cs st sz
      ls) :
    GAv n nb rf r { gh with vs := gh.vs.take ps.length, bgs := bgs' } (lv.drop j) s1 := by
  have hpos := E.pos
  have B := E.jump
  obtain ⟨j', b, hlt, hbj', -⟩ := B.later
  have hg : FrameAuxG n nb rf r gh s gh.vs false (p :: ps) (c :: cs) ((st, sz) :: ls) := by
    have := FrameAuxG.drop hGv j; rwa [B.hpd, B.hcd, B.hld] at this
  rw [B.s1_eq]
  refine ⟨gen_frames_backjump j B.hpd B.hcd B.hld hGv hpos (RecGen.record hI.core.part.lenOrder E.record) rfl
    (fun w hw' hpre hx => ?_), fun hp0 => ?_⟩
  · have hmax := hg.head.fmax hpos hpre
    rw [hx] at hmax
    have e : c - st = sz - 1 := cellL_idx_unique hw' hmax.symm
    have l3 : j' < sz := B.frames.2.1 ▸ (List.getElem?_eq_some_iff.1 hbj').1
    exact Nat.lt_irrefl _ (Nat.lt_of_lt_of_le (e ▸ hlt) (Nat.le_sub_one_of_lt l3))
  · have hp' : s.path.drop j = [] := hp0
    rw [B.hpd] at hp'
    cases hp'

end
end CanonF
