import Mamba.Lemmas.CanonFCertJ
/-!
# `CanonicalIsomorphAllocated` and the wrapper `CanonicalIsomorphFull` (faithful model `Model/CanonF.lean`)

The call is taken apart once, as an equivalence: on the general path it returns `x` iff the storage can be sliced
(`SlicesOK`) and the initial refinement, `expandValue` and the main loop from the entry state `entrySt` return what `x` is
read from (`allocated_iff`); on the `m == 0` shortcut iff `edgeless` does (`allocated_short_iff`). Partial correctness reads
the equivalence forwards, totality backwards. `entrySt_init`: the entry state is the initial state `InitSt` of the search.

`allocated_core`: the state from which the results are read satisfies every invariant of the main loop (`MainJ`) that
holds for the initial state `InitSt`. `canonF_perm_full` (the result is a permutation) needs no invariant; everything else
that is said of the result is read off ONE run, with all layers, in `CanonFSemantic.lean` (`ord_init`, `KInv.of_mem_gens`:
the initial state and the returned generators for the `OrdQ` layer of that run).
-/
namespace CanonF
open Relation

/-- the state with which `CanonicalIsomorphAllocated` enters the main loop (after the initial refinement and
`expandValue`) -/
structure InitSt (n m : Nat) (nb : Nbrs) (opts : Options) (op0 : OP) (s0 : LS) : Prop where
  minv : MInv n m nb s0
  cinv : CInv n m nb s0 false
  count : s0.count = 0
  ngens : s0.ngens = 0
  path : s0.path = []
  choices : s0.choices = []
  bpLen : s0.bestPath.len = n ∧ s0.bestPath.WF
  fpLen : s0.flPath.len = n ∧ s0.flPath.WF
  ref : ∃ sc op1 sc1 w2, ScratchOK n sc ∧ sc.timesSeen.len = n ∧
    refine nb s0.currentBest s0.firstLeaf opts op0 sc = .ok (false, op1, sc1) ∧
    expandValue nb s0.currentBest s0.firstLeaf op1 = .ok (w2, s0.op)

/-- the capacities that slicing the storage needs -/
structure SlicesOK (n m : Nat) (st : Storage) : Prop where
  bpath : n ≤ st.currentBestPath.size
  bperm : n ≤ st.currentBestPerm.size
  bpinv : n ≤ st.currentBestPermInv.size
  borb : n ≤ st.currentBestOrbits.size
  fl : m ≤ st.firstLeaf.size
  fpinv : n ≤ st.firstLeafPermInv.size
  forb : n ≤ st.firstLeafOrbits.size
  fpath : n ≤ st.firstLeafPath.size
  space : n ≤ st.space.size
  dws : n ≤ st.dws.size
  nbs : n ≤ st.nbs.size
  ts : n ≤ st.timesSeen.size
  mc : n ≤ st.maxCell.size
  nm : n ≤ st.numberOfMax.size

/-- the scratch slices `storage.x[:n]` -/
def scratchSt (n : Nat) (st : Storage) : Scratch :=
  { dws := ⟨st.dws, n⟩, nbs := ⟨st.nbs, n⟩, space := ⟨st.space, n⟩, timesSeen := ⟨st.timesSeen, n⟩,
    maxCell := ⟨st.maxCell, n⟩, numberOfMax := ⟨st.numberOfMax, n⟩ }

/-- the state with which the general path enters the main loop: slices of the storage, the partition `op`, and the
scratch arrays `sc` left by the initial refinement under the caller's slice headers of length `n` -/
def entrySt (n m : Nat) (st : Storage) (op : OP) (sc : Scratch) : LS :=
  { op := op,
    sc := { dws := ⟨sc.dws.data, n⟩, nbs := ⟨sc.nbs.data, n⟩, space := ⟨sc.space.data, n⟩,
            timesSeen := ⟨sc.timesSeen.data, n⟩, maxCell := ⟨sc.maxCell.data, n⟩, numberOfMax := ⟨sc.numberOfMax.data, n⟩ },
    count := 0, ngens := 0, gens := st.generators, currentBest := ⟨st.currentBest, 0⟩,
    bestPath := ⟨st.currentBestPath, n⟩, bestPerm := ⟨st.currentBestPerm, n⟩, bestPermInv := ⟨st.currentBestPermInv, n⟩,
    bestOrbits := st.currentBestOrbits.extract 0 n,
    firstLeaf := ⟨st.firstLeaf, m⟩, flPermInv := ⟨st.firstLeafPermInv, n⟩, flOrbits := st.firstLeafOrbits.extract 0 n,
    flPath := ⟨st.firstLeafPath, n⟩, path := [], choices := [], skipDeage := false }

def generalRes (fuel n m : Nat) (nb : Nbrs) (op0 : OP) (st : Storage) (opts : Options) (x : Res × Option OP × Storage) : Prop :=
  ∃ w op1 sc1, refine nb ⟨st.currentBest, 0⟩ ⟨st.firstLeaf, m⟩ opts op0 (scratchSt n st) = .ok (w, op1, sc1) ∧
    (((opts.checkViability && w) = true ∧
        x = ({ perm := none, orbits := none, gens := none }, some op1,
          storeBack st (entrySt n m st op1 sc1) (st.currentBestOrbits.extract n st.currentBestOrbits.size)
            (st.firstLeafOrbits.extract n st.firstLeafOrbits.size))) ∨
     ((opts.checkViability && w) = false ∧ ∃ w2 op2 s,
        expandValue nb ⟨st.currentBest, 0⟩ ⟨st.firstLeaf, m⟩ op1 = .ok (w2, op2) ∧
        mainLoop nb n m fuel w (entrySt n m st op2 sc1) = .ok s ∧
        x = ({ perm := some s.bestPerm.toList, orbits := some s.flOrbits.toList,
               gens := some ((s.gens.toList.take s.ngens).map Sl.toList) }, some s.op,
          storeBack st s (st.currentBestOrbits.extract n st.currentBestOrbits.size)
            (st.firstLeafOrbits.extract n st.firstLeafOrbits.size))))

theorem allocated_iff {fuel n m : Nat} {nb : Nbrs} {op0 : OP} {st : Storage} {opts : Options}
    {x : Res × Option OP × Storage} (hn : n ≠ 0) (hgen : m = 0 → op0.binDividers.len ≠ 1) :
    canonicalIsomorphAllocated fuel n m nb (some op0) st opts = .ok x ↔
      SlicesOK n m st ∧ generalRes fuel n m nb op0 st opts x := by
  have hshort : (if m = 0 then (match (some op0 : Option OP) with
      | none => Outcome.panic
      | some o => Outcome.ok (o.binDividers.len == 1)) else Outcome.ok false) = Outcome.ok false := by
    by_cases hm : m = 0
    · rw [if_pos hm]; simp [hgen hm]
    · rw [if_neg hm]
  unfold canonicalIsomorphAllocated
  rw [if_neg hn]
  dsimp +zetaHave only
  rw [hshort]
  dsimp only
  constructor
  · intro h
    split at h
    case h_2 => cases h
    rename_i bestPath bestPerm bestPermInv bestOrbits bestRest hbp hbpm hbpi hbo
    split at h
    case h_2 => cases h
    rename_i firstLeaf flPermInv flOrbits flRest flPath hfl hfpi hfo hfp
    split at h
    case h_2 => cases h
    rename_i space dws nbs hsp hdw hnb
    split at h
    case h_2 => cases h
    rename_i timesSeen maxCell numberOfMax hts hmc hnm
    obtain ⟨b1, rfl⟩ := slOf_iff.1 hbp; obtain ⟨b2, rfl⟩ := slOf_iff.1 hbpm; obtain ⟨b3, rfl⟩ := slOf_iff.1 hbpi
    obtain ⟨b4, e4⟩ := dsSlice_iff.1 hbo; obtain ⟨b5, rfl⟩ := slOf_iff.1 hfl; obtain ⟨b6, rfl⟩ := slOf_iff.1 hfpi
    obtain ⟨b7, e7⟩ := dsSlice_iff.1 hfo; obtain ⟨b8, rfl⟩ := slOf_iff.1 hfp; obtain ⟨b9, rfl⟩ := slOf_iff.1 hsp
    obtain ⟨b10, rfl⟩ := slOf_iff.1 hdw; obtain ⟨b11, rfl⟩ := slOf_iff.1 hnb; obtain ⟨b12, rfl⟩ := slOf_iff.1 hts
    obtain ⟨b13, rfl⟩ := slOf_iff.1 hmc; obtain ⟨b14, rfl⟩ := slOf_iff.1 hnm
    cases e4; cases e7
    refine ⟨⟨b1, b2, b3, b4, b5, b6, b7, b8, b9, b10, b11, b12, b13, b14⟩, ?_⟩
    split at h
    case h_2 => cases h
    case h_3 => cases h
    rename_i w op1 sc1 href
    refine ⟨w, op1, sc1, href, ?_⟩
    by_cases hv : (opts.checkViability && w) = true
    · rw [if_pos hv] at h
      exact .inl ⟨hv, (Outcome.ok.inj h).symm⟩
    · rw [if_neg hv] at h
      split at h
      case h_2 => cases h
      case h_3 => cases h
      rename_i w2 op2 hexp
      split at h
      case h_2 => cases h
      case h_3 => cases h
      rename_i s hmain
      exact .inr ⟨Bool.eq_false_iff.2 hv, w2, op2, s, hexp, hmain, (Outcome.ok.inj h).symm⟩
  · rintro ⟨hS, w, op1, sc1, href, hcase⟩
    simp only [slOf_iff.2 ⟨hS.bpath, rfl⟩, slOf_iff.2 ⟨hS.bperm, rfl⟩, slOf_iff.2 ⟨hS.bpinv, rfl⟩, dsSlice_iff.2 ⟨hS.borb, rfl⟩,
      slOf_iff.2 ⟨hS.fl, rfl⟩, slOf_iff.2 ⟨hS.fpinv, rfl⟩, dsSlice_iff.2 ⟨hS.forb, rfl⟩, slOf_iff.2 ⟨hS.fpath, rfl⟩,
      slOf_iff.2 ⟨hS.space, rfl⟩, slOf_iff.2 ⟨hS.dws, rfl⟩, slOf_iff.2 ⟨hS.nbs, rfl⟩, slOf_iff.2 ⟨hS.ts, rfl⟩,
      slOf_iff.2 ⟨hS.mc, rfl⟩, slOf_iff.2 ⟨hS.nm, rfl⟩]
    unfold scratchSt at href
    rw [href]
    dsimp only
    rcases hcase with ⟨hv, rfl⟩ | ⟨hv, w2, op2, s, hexp, hmain, rfl⟩
    · rw [if_pos hv]; rfl
    · rw [if_neg (by rw [hv]; exact Bool.false_ne_true), hexp]
      dsimp only
      unfold entrySt at hmain
      rw [hmain]

theorem allocated_short_iff {fuel n m : Nat} {nb : Nbrs} {op0 : OP} {st : Storage} {opts : Options}
    {x : Res × Option OP × Storage} (hn : n ≠ 0) (hm : m = 0) (h1 : op0.binDividers.len = 1) :
    canonicalIsomorphAllocated fuel n m nb (some op0) st opts = .ok x ↔
      ∃ r st', edgeless n st = .ok (r, st') ∧ x = (r, some op0, st') := by
  unfold canonicalIsomorphAllocated
  rw [if_neg hn]
  simp only [hm, if_true, h1, beq_self_eq_true]
  cases he : edgeless n st with
  | panic => exact ⟨fun h => (nomatch h), fun ⟨_, _, e, _⟩ => (nomatch e)⟩
  | outOfFuel => exact ⟨fun h => (nomatch h), fun ⟨_, _, e, _⟩ => (nomatch e)⟩
  | ok y =>
    obtain ⟨r, st'⟩ := y
    exact ⟨fun h => ⟨r, st', rfl, (Outcome.ok.inj h).symm⟩, fun ⟨_, _, e, ex⟩ => by cases e; rw [ex]⟩

theorem allocated_short_res {fuel n m : Nat} {nb : Nbrs} {op0 : OP} {st stR : Storage} {opts : Options} {r : Res}
    {opR : Option OP} (hn : n ≠ 0) (hm : m = 0) (h1 : op0.binDividers.len = 1)
    (h : canonicalIsomorphAllocated fuel n m nb (some op0) st opts = .ok (r, opR, stR)) : r = edgRes n := by
  obtain ⟨_, _, he, e⟩ := (allocated_short_iff hn hm h1).1 h
  cases e
  exact (edgeless_result he).1

theorem scratchSt_ok {n m : Nat} {st : Storage} (hS : SlicesOK n m st) : ScratchOK n (scratchSt n st) :=
  ⟨hS.ts, hS.mc, hS.nm, rfl, rfl⟩

theorem entrySt_minv (hst : StablePerm) {n m : Nat} {nb : Nbrs} {op0 op1 op2 : OP} {st : Storage} {opts : Options}
    {sc1 : Scratch} {w w2 : Bool} (hS : SlicesOK n m st) (hp : PartInv n op0) (ha : AgeInv op0) (hage : op0.age = 0)
    (href : refine nb ⟨st.currentBest, 0⟩ ⟨st.firstLeaf, m⟩ opts op0 (scratchSt n st) = .ok (w, op1, sc1))
    (hexp : expandValue nb ⟨st.currentBest, 0⟩ ⟨st.firstLeaf, m⟩ op1 = .ok (w2, op2)) :
    MInv n m nb (entrySt n m st op2 sc1) := by
  have hsc := scratchSt_ok hS
  obtain ⟨r1, r2, r3, _, _, _, _, z1, z2, z3, _⟩ := refine_inv hst hp ha hsc href
  obtain ⟨f1, f2, f3, _, f5, f6⟩ := expandValue_frame hexp
  have no : ∀ {P : Prop}, 0 < (entrySt n m st op2 sc1).count → P := fun h => absurd h (Nat.lt_irrefl 0)
  exact ⟨⟨PartInv.of_frame r1 f1 f2 f3 f6, AgeInv.of_frame r2 f3 f5, scratch_rewrap hsc hS.ts z1 z2 z3, hS.bperm, rfl, no⟩,
    ⟨[], trivial⟩, by show op2.age = _; rw [f5, r3, hage]; rfl, rfl, z1 ▸ hS.ts, rfl, fun _ => rfl, no⟩

theorem entrySt_init (hst : StablePerm) (hx : ExpandCert) {n m : Nat} {nb : Nbrs} {op0 op1 op2 : OP} {st : Storage}
    {opts : Options} {sc1 : Scratch} {w2 : Bool} (hS : SlicesOK n m st)
    (hp : PartInv n op0) (ha : AgeInv op0) (hage : op0.age = 0) (hspl : op0.spl = 0) (hval : op0.value.len = 0)
    (href : refine nb ⟨st.currentBest, 0⟩ ⟨st.firstLeaf, m⟩ opts op0 (scratchSt n st) = .ok (false, op1, sc1))
    (hexp : expandValue nb ⟨st.currentBest, 0⟩ ⟨st.firstLeaf, m⟩ op1 = .ok (w2, op2)) :
    InitSt n m nb opts op0 (entrySt n m st op2 sc1) := by
  have hsc := scratchSt_ok hS
  obtain ⟨r1, _⟩ := refine_inv hst hp ha hsc href
  obtain ⟨i1, i2, i3⟩ := refine_cert_init hst hx hp ha hsc hspl hval (cb := ⟨st.currentBest, 0⟩)
    (fl := ⟨st.firstLeaf, m⟩) (nb := nb) href
  have hw2 : w2 = false := expandLoop_not_worse (cb := ⟨st.currentBest, 0⟩) rfl _ _ _ _ _ hexp
  have hvc2 : VClean nb op2 := (hx n nb ⟨st.currentBest, 0⟩ ⟨st.firstLeaf, m⟩ op1 op2 w2 r1 i1 i2 i3 hexp).1 hw2
  have no : ∀ {P : Prop}, 0 < (entrySt n m st op2 sc1).count → P := fun h => absurd h (Nat.lt_irrefl 0)
  exact ⟨entrySt_minv hst hS hp ha hage href hexp,
    ⟨⟨no, ⟨rfl, hS.fl⟩, no, fun k hk => absurd hk (Nat.not_lt_zero _), no,
        ⟨by show (st.firstLeafOrbits.extract 0 n).size = n; rw [Array.size_extract, Nat.min_eq_left hS.forb, Nat.sub_zero],
          by show (st.currentBestOrbits.extract 0 n).size = n
             rw [Array.size_extract, Nat.min_eq_left hS.borb, Nat.sub_zero]⟩, ⟨rfl, hS.fpinv⟩, ⟨rfl, hS.bpinv⟩⟩,
      fun _ => hvc2, Or.inl hvc2⟩,
    rfl, rfl, rfl, rfl, ⟨rfl, hS.bpath⟩, ⟨rfl, hS.fpath⟩, ⟨_, op1, sc1, w2, hsc, rfl, href, hexp⟩⟩

theorem allocated_core (hst : StablePerm) (hx : ExpandCert) {fuel n m : Nat} {nb : Nbrs}
    {JA JN JS : List (Nat × Nat) → LS → Prop} {JM : List (Nat × Nat) → Bool → LS → Prop} (hJ : MainJ n m nb JA JN JS JM)
    {op0 : OP} {st : Storage} {opts : Options} {r : Res} {opR : Option OP} {stR : Storage}
    (hn : n ≠ 0) (hgen : m = 0 → op0.binDividers.len ≠ 1) (hv : opts.checkViability = false)
    (hp : PartInv n op0) (ha : AgeInv op0) (hage : op0.age = 0) (hspl : op0.spl = 0)
    (hval : op0.value.len = 0)
    (hinit : ∀ s0, InitSt n m nb opts op0 s0 → JM [] false s0)
    (h : canonicalIsomorphAllocated fuel n m nb (some op0) st opts = .ok (r, opR, stR)) :
    ∃ s, (0 < s.count ∧ Core n s ∧ s.currentBest.len = m) ∧ JA [] s ∧ r.perm = some s.bestPerm.toList ∧
      r.orbits = some s.flOrbits.toList ∧ r.gens = some ((s.gens.toList.take s.ngens).map Sl.toList) := by
  obtain ⟨hS, w, op1, sc1, href, ⟨hvw, _⟩ | ⟨_, w2, op2, s, hexp, hmain, e⟩⟩ := (allocated_iff hn hgen).1 h
  · rw [hv] at hvw; cases hvw
  · cases refine_not_worse (cb := ⟨st.currentBest, 0⟩) rfl hv href
    have hi := entrySt_init hst hx hS hp ha hage hspl hval href hexp
    obtain ⟨hfin, hja⟩ := mainLoop_core hst hJ fuel false _ s [] hi.minv (fun _ => rfl) trivial
      (hinit _ hi) hmain
    cases e
    exact ⟨s, hfin, hja, rfl, rfl, rfl⟩

/-- an `OrdQ` invariant holds of the state with which the main loop is entered -/
theorem ord_init {n m : Nat} {nb : Nbrs} {QA QN QS : OP → Prop} {PL R : List Nat → Prop} (hO : OrdQ n nb QA QN QS PL R)
    {opts : Options} {op0 : OP} {s0 : LS} (hp : PartInv n op0) (ha : AgeInv op0) (hpo : QS op0)
    (hi : InitSt n m nb opts op0 s0) : KInv PL R n s0 ∧ (false = false → QN s0.op) ∧ QA s0.op := by
  obtain ⟨sc, op1, sc1, w2, hsc, hl, href, hexp⟩ := hi.ref
  obtain ⟨f1, f2, f3, f4, f5, f6⟩ := expandValue_frame hexp
  have hq : QN s0.op := hO.frame _ _ f1 f2 f3 f4 f5 f6 ((hO.refine _ _ _ _ _ _ _ _ hp ha hsc hl hpo href).1 rfl)
  exact ⟨⟨fun hc => absurd hc (by rw [hi.count]; exact Nat.lt_irrefl 0),
    fun hc => absurd hc (by rw [hi.count]; exact Nat.lt_irrefl 0),
    fun k hk => absurd hk (by rw [hi.ngens]; exact Nat.not_lt_zero _)⟩, fun _ => hq, hO.na _ hq⟩

/-- what `KInv` knows of the recorded generators, for the list that is returned -/
theorem KInv.of_mem_gens {PL R : List Nat → Prop} {n : Nat} {s : LS} (h : KInv PL R n s) {γ : List Nat}
    (hγ : γ ∈ (s.gens.toList.take s.ngens).map Sl.toList) : R γ := by
  obtain ⟨t, ht, rfl⟩ := List.mem_map.1 hγ
  obtain ⟨k, hk⟩ := List.getElem?_of_mem ht
  rw [List.getElem?_take] at hk
  by_cases hkn : k < s.ngens
  · rw [if_pos hkn, Array.getElem?_toList] at hk
    obtain ⟨γ', g1, g2⟩ := h.gens k hkn
    rw [g1] at hk
    cases hk
    exact g2
  · rw [if_neg hkn] at hk
    cases hk

theorem full_empty {fuel : Nat} {g : GraphSpec.G} {vc : Classes} {r : Res} (hn : g.n = 0)
    (h : canonicalIsomorphFull fuel g vc = .ok r) : r = { perm := some [], orbits := none, gens := none } := by
  unfold canonicalIsomorphFull newOrderedPartition at h
  dsimp only at h
  rw [if_pos hn] at h
  unfold canonicalIsomorphAllocated at h
  dsimp only at h
  rw [if_pos hn] at h
  exact (Outcome.ok.inj h).symm

theorem full_unfold (fuel : Nat) (g : GraphSpec.G) (vc : Classes) (hvc : ClassesOK g.n vc) (hn : g.n ≠ 0)
    (r : Res) (h : canonicalIsomorphFull fuel g vc = .ok r) :
    ∃ op opR stR, newOrderedPartition g.n (((nbrsOf g).toList.map List.length).sum / 2) vc = .ok (some op) ∧
      PartInv g.n op ∧ AgeInv op ∧ op.age = 0 ∧ op.spl = 0 ∧ op.value.len = 0 ∧
      canonicalIsomorphAllocated fuel g.n (((nbrsOf g).toList.map List.length).sum / 2) (nbrsOf g)
        (some op) (newStorage g.n (((nbrsOf g).toList.map List.length).sum / 2)) {} = .ok (r, opR, stR) := by
  unfold canonicalIsomorphFull at h
  dsimp only at h
  obtain ⟨op, hnew, hp, ha, hage, hspl, hval, _⟩ :=
    newOrderedPartition_inv (m := ((nbrsOf g).toList.map List.length).sum / 2) (Nat.pos_of_ne_zero hn) hvc
  rw [hnew] at h
  simp only at h
  cases hal : canonicalIsomorphAllocated fuel g.n (((nbrsOf g).toList.map List.length).sum / 2) (nbrsOf g)
      (some op) (newStorage g.n (((nbrsOf g).toList.map List.length).sum / 2)) {} with
  | panic => rw [hal] at h; cases h
  | outOfFuel => rw [hal] at h; cases h
  | ok x =>
    obtain ⟨r', opR, stR⟩ := x
    rw [hal] at h
    simp only at h
    cases h
    exact ⟨op, opR, stR, hnew, hp, ha, hage, hspl, hval, hal⟩

/-- `CanonicalIsomorphFull` returns a permutation of `0..n-1` (for every valid choice of vertex classes). -/
theorem canonF_perm_full (hst : StablePerm) (fuel : Nat) (g : GraphSpec.G) (vc : Classes)
    (hvc : ClassesOK g.n vc)
    (r : Res) (h : canonicalIsomorphFull fuel g vc = .ok r) :
    ∃ p, r.perm = some p ∧ p.Perm (List.range g.n) := by
  by_cases hn : g.n = 0
  · rw [full_empty hn h, hn]
    exact ⟨[], rfl, List.Perm.refl _⟩
  obtain ⟨op, opR, stR, _, hp, ha, hage, hspl, hval, hal⟩ := full_unfold fuel g vc hvc hn r h
  by_cases hsc : ((nbrsOf g).toList.map List.length).sum / 2 = 0 ∧ op.binDividers.len = 1
  · -- the m == 0 shortcut: the identity
    rw [allocated_short_res hn hsc.1 hsc.2 hal]
    exact ⟨_, rfl, List.Perm.refl _⟩
  · obtain ⟨s, ⟨q1, q2, _⟩, _, e1, _⟩ := allocated_core hst expandValue_cert (MainJ.trivial g.n _ (nbrsOf g)) hn
      (fun hm h1 => hsc ⟨hm, h1⟩) rfl hp ha hage hspl hval (fun _ _ => True.intro) hal
    exact ⟨_, e1, q2.bestPerm q1⟩

end CanonF
