import Mamba.Model.GraphRep
import Mamba.Lemmas.ListSorted
import Mathlib.Data.List.Nodup
/-!
# The `sortints` functions used by `SparseGraph`, on strictly increasing lists (property C05)

`SInc l`: `l` is strictly increasing. The model functions index the list at the lower bound `searchInts l x`; the `_cons`
equations unfold them one element at a time, and on strictly increasing lists they are membership, removal and insertion
(`containsSingle_eq`, `removeS_spec`, `addSingle_spec`: the result is strictly increasing, its members, its length).
-/
namespace GraphRep

abbrev SInc (l : List Int) : Prop := l.Pairwise (· < ·)

theorem sinc_ext {l₁ l₂ : List Int} (h₁ : SInc l₁) (h₂ : SInc l₂) (h : ∀ x, x ∈ l₁ ↔ x ∈ l₂) : l₁ = l₂ :=
  h₁.eq_of_mem_iff_of_asymm (fun _ _ => Int.lt_asymm) h₂ h

theorem sinc_cons {y : Int} {ys : List Int} (h : SInc (y :: ys)) : (∀ z ∈ ys, y < z) ∧ SInc ys :=
  List.pairwise_cons.mp h

theorem searchInts_cons (y : Int) (ys : List Int) (x : Int) :
    searchInts (y :: ys) x = if y < x then searchInts ys x + 1 else 0 := rfl

theorem containsSingle_cons (y : Int) (ys : List Int) (x : Int) :
    containsSingle (y :: ys) x = if y < x then containsSingle ys x else y == x := by
  unfold containsSingle
  rw [searchInts_cons]
  by_cases hlt : y < x
  · rw [if_pos hlt, if_pos hlt, List.getElem?_cons_succ]
  · rw [if_neg hlt, if_neg hlt, List.getElem?_cons_zero]

theorem removeS_cons (y : Int) (ys : List Int) (x : Int) :
    removeS (y :: ys) x = if y < x then y :: removeS ys x else if y = x then ys else y :: ys := by
  by_cases hlt : y < x
  · have hs : searchInts (y :: ys) x = searchInts ys x + 1 := by rw [searchInts_cons, if_pos hlt]
    rw [if_pos hlt]
    unfold removeS
    simp only [hs, List.getElem?_cons_succ, List.eraseIdx_cons_succ]
    cases ys[searchInts ys x]? with
    | none => rfl
    | some z => simp only; split <;> rfl
  · have hs : searchInts (y :: ys) x = 0 := by rw [searchInts_cons, if_neg hlt]
    rw [if_neg hlt]
    unfold removeS
    simp only [hs, List.getElem?_cons_zero, List.eraseIdx_cons_zero]

theorem addSingle_cons (y : Int) (ys : List Int) (x : Int) :
    addSingle (y :: ys) x =
      if y < x then y :: addSingle ys x else if y = x then y :: ys else x :: y :: ys := by
  by_cases hlt : y < x
  · have hs : searchInts (y :: ys) x = searchInts ys x + 1 := by rw [searchInts_cons, if_pos hlt]
    rw [if_pos hlt]
    unfold addSingle
    simp only [hs, List.getElem?_cons_succ, List.take_succ_cons, List.drop_succ_cons]
    cases ys[searchInts ys x]? with
    | none => rfl
    | some z => simp only; split <;> rfl
  · have hs : searchInts (y :: ys) x = 0 := by rw [searchInts_cons, if_neg hlt]
    rw [if_neg hlt]
    unfold addSingle
    simp only [hs, List.getElem?_cons_zero, List.take_zero, List.drop_zero, List.nil_append]

@[simp] theorem containsSingle_nil (x : Int) : containsSingle [] x = false := rfl
@[simp] theorem removeS_nil (x : Int) : removeS [] x = [] := rfl
@[simp] theorem addSingle_nil (x : Int) : addSingle [] x = [x] := rfl

theorem containsSingle_eq {l : List Int} (h : SInc l) (x : Int) : containsSingle l x = decide (x ∈ l) := by
  induction l with
  | nil => simp
  | cons y ys ih =>
    obtain ⟨hy, hys⟩ := sinc_cons h
    rw [containsSingle_cons]
    by_cases hlt : y < x
    · rw [if_pos hlt, ih hys]
      have : x ≠ y := by omega
      simp [this]
    · rw [if_neg hlt]
      by_cases he : y = x
      · subst he; simp
      · have hnot : x ∉ ys := fun hm => by have := hy x hm; omega
        have he' : ¬ x = y := fun e => he e.symm
        simp [he, he', hnot]

theorem removeS_spec {l : List Int} (h : SInc l) (x : Int) :
    SInc (removeS l x) ∧ (∀ z, z ∈ removeS l x ↔ z ∈ l ∧ z ≠ x) ∧
      (removeS l x).length = l.length - (if x ∈ l then 1 else 0) := by
  induction l with
  | nil => simp
  | cons y ys ih =>
    obtain ⟨hy, hys⟩ := sinc_cons h
    obtain ⟨i1, i2, i3⟩ := ih hys
    rw [removeS_cons]
    by_cases hlt : y < x
    · rw [if_pos hlt]
      refine ⟨?_, ?_, ?_⟩
      · exact List.pairwise_cons.mpr ⟨fun z hz => hy z ((i2 z).mp hz).1, i1⟩
      · intro z
        simp only [List.mem_cons, i2]
        constructor
        · rintro (rfl | ⟨h1, h2⟩)
          · exact ⟨Or.inl rfl, by omega⟩
          · exact ⟨Or.inr h1, h2⟩
        · rintro ⟨rfl | h1, h2⟩
          · exact Or.inl rfl
          · exact Or.inr ⟨h1, h2⟩
      · have hxy : x ≠ y := by omega
        simp only [List.length_cons, i3, List.mem_cons, hxy, false_or]
        split
        · rename_i hm
          have : 0 < ys.length := List.length_pos_of_mem hm
          omega
        · omega
    · rw [if_neg hlt]
      by_cases he : y = x
      · subst he
        rw [if_pos rfl]
        refine ⟨hys, ?_, by simp⟩
        intro z
        simp only [List.mem_cons]
        constructor
        · intro hz; have := hy z hz; exact ⟨Or.inr hz, by omega⟩
        · rintro ⟨rfl | h1, h2⟩
          · exact absurd rfl h2
          · exact h1
      · rw [if_neg he]
        have hnot : x ∉ y :: ys := by
          simp only [List.mem_cons, not_or]
          exact ⟨fun e => he e.symm, fun hm => by have := hy x hm; omega⟩
        refine ⟨h, ?_, by simp [hnot]⟩
        intro z
        constructor
        · intro hz; exact ⟨hz, fun e => hnot (e ▸ hz)⟩
        · exact fun hz => hz.1

theorem addSingle_spec {l : List Int} (h : SInc l) (x : Int) :
    SInc (addSingle l x) ∧ (∀ z, z ∈ addSingle l x ↔ z = x ∨ z ∈ l) ∧
      (addSingle l x).length = l.length + (if x ∈ l then 0 else 1) := by
  induction l with
  | nil => simp
  | cons y ys ih =>
    obtain ⟨hy, hys⟩ := sinc_cons h
    obtain ⟨i1, i2, i3⟩ := ih hys
    rw [addSingle_cons]
    by_cases hlt : y < x
    · rw [if_pos hlt]
      refine ⟨?_, ?_, ?_⟩
      · refine List.pairwise_cons.mpr ⟨fun z hz => ?_, i1⟩
        rcases (i2 z).mp hz with rfl | hz
        · exact hlt
        · exact hy z hz
      · intro z
        simp only [List.mem_cons, i2]
        constructor
        · rintro (rfl | rfl | h1)
          · exact Or.inr (Or.inl rfl)
          · exact Or.inl rfl
          · exact Or.inr (Or.inr h1)
        · rintro (rfl | rfl | h1)
          · exact Or.inr (Or.inl rfl)
          · exact Or.inl rfl
          · exact Or.inr (Or.inr h1)
      · have hxy : x ≠ y := by omega
        simp only [List.length_cons, i3, List.mem_cons, hxy, false_or]
        omega
    · rw [if_neg hlt]
      by_cases he : y = x
      · subst he
        rw [if_pos rfl]
        refine ⟨h, ?_, by simp⟩
        intro z
        simp only [List.mem_cons]
        constructor
        · intro hz; exact Or.inr hz
        · rintro (rfl | hz)
          · exact Or.inl rfl
          · exact hz
      · rw [if_neg he]
        have hxy : x < y := by omega
        have hnot : x ∉ y :: ys := by
          simp only [List.mem_cons, not_or]
          exact ⟨fun e => he e.symm, fun hm => by have := hy x hm; omega⟩
        refine ⟨?_, ?_, by simp [hnot]⟩
        · refine List.pairwise_cons.mpr ⟨fun z hz => ?_, h⟩
          rcases List.mem_cons.mp hz with rfl | hz
          · exact hxy
          · have := hy z hz; omega
        · intro z; simp only [List.mem_cons]

end GraphRep
