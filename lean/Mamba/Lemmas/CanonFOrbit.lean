import Mamba.Lemmas.CanonFInv
import Mamba.Lemmas.DisjointRun
/-!
# The orbit partition updates and the generator record of the leaf branch of `Model/CanonF.lean`
-/
namespace CanonF
open Disjoint (rep)

theorem orb_find_lt {ds d' : Disjoint.DS} {x r : Nat} (h : Disjoint.find ds x = .ok (d', r)) : x < ds.size := by
  unfold Disjoint.find Disjoint.findF at h
  apply Classical.byContradiction
  intro hx
  rw [Disjoint.getElem?_none ds x hx] at h
  simp at h

theorem orbitStep_ok {order permInv : Sl Nat} {i : Nat} {ds ds' : Disjoint.DS} {mm mm' : Bool}
    (h : orbitStep order permInv i (ds, mm) = .ok (ds', mm')) :
    ∃ p v d1 r1 d2 r2, permInv.get i = .ok p ∧ order.get p = .ok v ∧ Disjoint.find ds v = .ok (d1, r1) ∧
      Disjoint.find d1 i = .ok (d2, r2) ∧
      ((r1 ≠ r2 ∧ Disjoint.union d2 i v = .ok ds' ∧ mm' = true) ∨ (r1 = r2 ∧ ds' = d2 ∧ mm' = mm)) := by
  unfold orbitStep at h
  dsimp only at h
  split at h
  · rename_i p hp
    split at h
    · rename_i v hv
      split at h
      · rename_i d1 r1 h1
        split at h
        · rename_i d2 r2 h2
          refine ⟨p, v, d1, r1, d2, r2, hp, hv, h1, h2, ?_⟩
          by_cases hne : r1 ≠ r2
          · rw [if_pos hne] at h
            split at h
            · rename_i d3 h3
              obtain ⟨rfl, rfl⟩ := Prod.mk.inj (Outcome.ok.inj h)
              exact .inl ⟨hne, h3, rfl⟩
            · cases h
            · cases h
          · rw [if_neg hne] at h
            obtain ⟨rfl, rfl⟩ := Prod.mk.inj (Outcome.ok.inj h)
            exact .inr ⟨Classical.not_not.1 hne, rfl, rfl⟩
        · cases h
        · cases h
      · cases h
      · cases h
    · cases h
    · cases h
  · cases h
  · cases h

theorem orbitStep_eq {order permInv : Sl Nat} {i p v r1 r2 : Nat} {ds d1 d2 d3 : Disjoint.DS} {mm : Bool}
    (hp : permInv.get i = .ok p) (hv : order.get p = .ok v) (h1 : Disjoint.find ds v = .ok (d1, r1))
    (h2 : Disjoint.find d1 i = .ok (d2, r2)) :
    (r1 = r2 → orbitStep order permInv i (ds, mm) = .ok (d2, mm)) ∧
    (r1 ≠ r2 → Disjoint.union d2 i v = .ok d3 → orbitStep order permInv i (ds, mm) = .ok (d3, true)) := by
  unfold orbitStep
  simp only [hp, hv, h1, h2]
  exact ⟨fun e => by rw [if_neg (fun hne => hne e)], fun hne h3 => by rw [if_pos hne, h3]⟩

theorem orb_step_spec {n : Nat} {order permInv : Sl Nat} {ds ds' : Disjoint.DS} {m m' : Bool} {i : Nat}
    (hinv : Disjoint.Inv ds) (hsz : ds.size = n) (hi : i < n)
    (h : orbitStep order permInv i (ds, m) = .ok (ds', m')) :
    ∃ p v, permInv.get i = .ok p ∧ order.get p = .ok v ∧ v < n ∧ Disjoint.Inv ds' ∧ ds'.size = n ∧
      (∀ z w, z < n → w < n → (rep ds' z = rep ds' w ↔ rep ds z = rep ds w ∨
        ((rep ds z = rep ds i ∨ rep ds z = rep ds v) ∧ (rep ds w = rep ds i ∨ rep ds w = rep ds v)))) ∧
      (m' = false → m = false ∧ ∀ a, a < n → rep ds' a = rep ds a) := by
  subst hsz
  obtain ⟨p, v, d1, r1, d2, r2, hp, hv, hf1, hf2, hcase⟩ := orbitStep_ok h
  have hvlt := orb_find_lt hf1
  obtain ⟨da, e1, i1, s1, k1⟩ := Disjoint.find_spec hinv v hvlt
  rw [e1] at hf1
  obtain ⟨hd, hr⟩ := Prod.mk.inj (Outcome.ok.inj hf1)
  subst hd hr
  obtain ⟨db, e2, i2, s2, k2⟩ := Disjoint.find_spec i1 i (by rw [s1]; exact hi)
  rw [e2, k1 i hi] at hf2
  obtain ⟨hd, hr⟩ := Prod.mk.inj (Outcome.ok.inj hf2)
  subst hd hr
  have s12 : db.size = ds.size := s2.trans s1
  have kk : ∀ z, z < ds.size → rep db z = rep ds z := by
    intro z hz; rw [k2 z (by rw [s1]; exact hz), k1 z hz]
  refine ⟨p, v, hp, hv, hvlt, ?_⟩
  rcases hcase with ⟨hne, h3, rfl⟩ | ⟨hne', rfl, rfl⟩
  · obtain ⟨_, e3, i3, s3, k3⟩ := Disjoint.union_spec i2 i v (by rw [s12]; exact hi) (by rw [s12]; exact hvlt)
    rw [e3] at h3
    cases h3
    refine ⟨i3, s3.trans s12, ?_, fun hm' => nomatch hm'⟩
    intro z w hz hw
    rw [k3 z w (by rw [s12]; exact hz) (by rw [s12]; exact hw), kk z hz, kk w hw, kk i hi, kk v hvlt]
  · refine ⟨i2, s12, ?_, fun hm' => ⟨hm', kk⟩⟩
    intro z w hz hw
    rw [kk z hz, kk w hw, hne']
    constructor
    · exact Or.inl
    · rintro (e | ⟨e1 | e1, e2 | e2⟩)
      · exact e
      all_goals exact e1.trans e2.symm

/-- the relation generating the new orbit partition -/
def orbRel (n : Nat) (order permInv : Sl Nat) (ds : Disjoint.DS) (x y : Nat) : Prop :=
  x < n ∧ y < n ∧ (Disjoint.rep ds x = Disjoint.rep ds y ∨ ∃ p, permInv.get x = .ok p ∧ order.get p = .ok y)

/-- the orbit loop: the new partition is generated by the old one and the steps `i ~ σ i`; without a merge nothing changes -/
theorem orbitLoop_spec {n : Nat} {order permInv : Sl Nat} {ds ds' : Disjoint.DS} {merges : Bool}
    (hinv : Disjoint.Inv ds) (hsz : ds.size = n)
    (h : forRange (orbitStep order permInv) n 0 (ds, false) = .ok (ds', merges)) :
    Disjoint.Inv ds' ∧ ds'.size = n ∧
      (∀ i, i < n → ∃ p v, permInv.get i = .ok p ∧ order.get p = .ok v ∧ v < n ∧ Disjoint.rep ds' i = Disjoint.rep ds' v) ∧
      (∀ a b, a < n → b < n → Disjoint.rep ds a = Disjoint.rep ds b → Disjoint.rep ds' a = Disjoint.rep ds' b) ∧
      (∀ a b, a < n → b < n → Disjoint.rep ds' a = Disjoint.rep ds' b →
        Relation.EqvGen (fun x y => x < n ∧ y < n ∧ (Disjoint.rep ds x = Disjoint.rep ds y ∨
          ∃ p, permInv.get x = .ok p ∧ order.get p = .ok y)) a b) ∧
      (merges = false → ∀ a, a < n → Disjoint.rep ds' a = Disjoint.rep ds a) := by
  have key := forRange_inv (orbitStep order permInv)
    (fun k (st : Disjoint.DS × Bool) =>
      Disjoint.Inv st.1 ∧ st.1.size = n ∧
      (∀ i, i < k → ∃ p v, permInv.get i = .ok p ∧ order.get p = .ok v ∧ v < n ∧ rep st.1 i = rep st.1 v) ∧
      (∀ a b, a < n → b < n → rep ds a = rep ds b → rep st.1 a = rep st.1 b) ∧
      (∀ a b, a < n → b < n → rep st.1 a = rep st.1 b →
        Relation.EqvGen (orbRel n order permInv ds) a b) ∧
      (st.2 = false → ∀ a, a < n → rep st.1 a = rep ds a))
    n 0 (ds, false) (ds', merges)
    ⟨hinv, hsz, fun i hi => absurd hi (Nat.not_lt_zero _), fun _ _ _ _ e => e,
      fun a b ha hb e => Relation.EqvGen.rel _ _ ⟨ha, hb, Or.inl e⟩, fun _ _ _ => rfl⟩
    ?_ h
  · rw [Nat.zero_add] at key; exact key
  · rintro i ⟨d, m⟩ ⟨d', m'⟩ _ hi ⟨j1, j2, j3, j4, j5, j6⟩ hstep
    simp only at j1 j2 j3 j4 j5 j6 ⊢
    have hi : i < n := by omega
    obtain ⟨p, v, hp, hv, hvn, i1, s1, k1, m1⟩ := orb_step_spec j1 j2 hi hstep
    have hE := Relation.EqvGen.is_equivalence (orbRel n order permInv ds)
    have hiv : Relation.EqvGen (orbRel n order permInv ds) i v :=
      Relation.EqvGen.rel _ _ ⟨hi, hvn, Or.inr ⟨p, hp, hv⟩⟩
    refine ⟨i1, s1, ?_, ?_, ?_, ?_⟩
    · intro t ht
      by_cases hti : t = i
      · subst hti
        exact ⟨p, v, hp, hv, hvn, (k1 t v hi hvn).2 (Or.inr ⟨Or.inl rfl, Or.inr rfl⟩)⟩
      · obtain ⟨p', v', hp', hv', hvn', e⟩ := j3 t (by omega)
        exact ⟨p', v', hp', hv', hvn', (k1 t v' (by omega) hvn').2 (Or.inl e)⟩
    · intro a b ha hb e
      exact (k1 a b ha hb).2 (Or.inl (j4 a b ha hb e))
    · intro a b ha hb e
      rcases (k1 a b ha hb).1 e with e | ⟨e1, e2⟩
      · exact j5 a b ha hb e
      · have ha' : Relation.EqvGen (orbRel n order permInv ds) a i ∨ Relation.EqvGen (orbRel n order permInv ds) a v := by
          rcases e1 with e1 | e1
          · exact Or.inl (j5 a i ha hi e1)
          · exact Or.inr (j5 a v ha hvn e1)
        have hb' : Relation.EqvGen (orbRel n order permInv ds) b i ∨ Relation.EqvGen (orbRel n order permInv ds) b v := by
          rcases e2 with e2 | e2
          · exact Or.inl (j5 b i hb hi e2)
          · exact Or.inr (j5 b v hb hvn e2)
        rcases ha' with ha' | ha' <;> rcases hb' with hb' | hb'
        · exact hE.trans ha' (hE.symm hb')
        · exact hE.trans ha' (hE.trans hiv (hE.symm hb'))
        · exact hE.trans ha' (hE.trans (hE.symm hiv) (hE.symm hb'))
        · exact hE.trans ha' (hE.symm hb')
    · intro hm a ha
      obtain ⟨hm0, hk⟩ := m1 hm
      rw [hk a ha, j6 hm0 a ha]

theorem orb_genLoop {order permInv t0 t : Sl Nat} {k : Nat}
    (h : forRange (fun i (t : Sl Nat) =>
              match permInv.get i with
              | .ok pi =>
                match order.get pi with
                | .ok v => t.set i v
                | .panic => .panic
                | .outOfFuel => .outOfFuel
              | .panic => .panic
              | .outOfFuel => .outOfFuel) k 0 t0 = .ok t) :
    t.len = t0.len ∧ t.data.size = t0.data.size ∧
      ∀ i, i < k → ∃ p v, permInv.get i = .ok p ∧ order.get p = .ok v ∧ t.data[i]? = some v := by
  have key := forRange_inv _
    (fun j (t : Sl Nat) => t.len = t0.len ∧ t.data.size = t0.data.size ∧
      ∀ i, i < j → ∃ p v, permInv.get i = .ok p ∧ order.get p = .ok v ∧ t.data[i]? = some v)
    k 0 t0 t ⟨rfl, rfl, fun i hi => absurd hi (Nat.not_lt_zero _)⟩ ?_ h
  · rw [Nat.zero_add] at key; exact key
  · rintro i s s' _ _ ⟨j1, j2, j3⟩ hstep
    cases hp : permInv.get i with
    | ok p =>
      rw [hp] at hstep; simp only at hstep
      cases hv : order.get p with
      | ok v =>
        rw [hv] at hstep; simp only at hstep
        refine ⟨by rw [Sl.set_len hstep, j1], by rw [Sl.set_cap hstep, j2], ?_⟩
        intro t ht
        by_cases hti : t = i
        · subst hti
          exact ⟨p, v, hp, hv, by rw [Sl.set_data hstep, if_pos rfl]⟩
        · obtain ⟨p', v', hp', hv', e⟩ := j3 t (by omega)
          exact ⟨p', v', hp', hv', by rw [Sl.set_data hstep, if_neg hti, e]⟩
      | panic => rw [hv] at hstep; simp at hstep
      | outOfFuel => rw [hv] at hstep; simp at hstep
    | panic => rw [hp] at hstep; simp at hstep
    | outOfFuel => rw [hp] at hstep; simp at hstep

theorem recordGenerator_spec {n : Nat} {order permInv : Sl Nat} {gens gens' : Array (Sl Nat)} {ngens ngens' : Nat}
    (hlen : order.len = n)
    (h : recordGenerator n order permInv gens ngens = .ok (gens', ngens')) :
    ngens' = ngens + 1 ∧ ngens < gens.size ∧ gens'.size = gens.size ∧
      (∀ k, k ≠ ngens → gens'[k]? = gens[k]?) ∧
      ∃ tmp, gens'[ngens]? = some tmp ∧ tmp.len = n ∧ tmp.WF ∧ tmp.toList.length = n ∧
        ∀ i, i < n → ∃ p v, permInv.get i = .ok p ∧ order.get p = .ok v ∧ tmp.toList[i]? = some v := by
  unfold recordGenerator at h
  by_cases hng : ngens + 1 ≤ gens.size
  · rw [if_pos hng] at h
    cases hg : gens[ngens]? with
    | none => rw [hg] at h; simp at h
    | some tmp0 =>
      rw [hg] at h; simp only at h
      generalize ht0 : (if tmp0.cap ≥ n then (⟨tmp0.data, n⟩ : Sl Nat) else Sl.mk' n n 0) = t0 at h
      have ht0l : t0.len = n ∧ t0.WF := by
        subst ht0
        by_cases hc : tmp0.cap ≥ n
        · rw [if_pos hc]; exact ⟨rfl, hc⟩
        · rw [if_neg hc]; exact ⟨rfl, by simp [Sl.WF, Sl.mk']⟩
      rw [hlen] at h
      split at h
      · next t hloop =>
        obtain ⟨l1, l2, l3⟩ := orb_genLoop hloop
        injection h with h
        injection h with hg' hn'
        subst hg'
        have hwf : t.WF := by unfold Sl.WF; rw [l1, l2]; exact ht0l.2
        refine ⟨hn'.symm, by omega, by simp, ?_, t, ?_, by rw [l1, ht0l.1], hwf, ?_, ?_⟩
        · intro k hk
          rw [Array.getElem?_setIfInBounds, if_neg (Ne.symm hk)]
        · rw [Array.getElem?_setIfInBounds, if_pos rfl, if_pos (by omega)]
        · rw [Sl.length_toList t hwf, l1, ht0l.1]
        · intro i hi
          obtain ⟨p, v, hp, hv, e⟩ := l3 i hi
          exact ⟨p, v, hp, hv, by rw [Sl.getElem?_toList, if_pos (by rw [l1, ht0l.1]; exact hi), e]⟩
      · simp at h
      · simp at h
  · rw [if_neg hng] at h; simp at h

end CanonF
