import Mamba.Lemmas.DistanceCanon
/-!
# Lemmas for C10: every induced path with at least one edge has exactly two directed vertex sequences
-/
namespace GDist
open GraphSpec

variable {g : G}

theorem chordlessPath_iff (q : List Nat) :
    chordlessPath g q = true ↔ ∀ i j (hi : i < q.length) (hj : j < q.length), i + 1 < j → g.adj q[i] q[j] = false := by
  induction q with
  | nil => simp [chordlessPath]
  | cons x rest ih =>
    simp only [chordlessPath, Bool.and_eq_true, List.all_eq_true, Bool.not_eq_true']
    rw [ih]
    constructor
    · rintro ⟨h1, h2⟩ i j hi hj hij
      cases i with
      | zero =>
        cases j with
        | zero => omega
        | succ j =>
          simp only [List.getElem_cons_zero, List.getElem_cons_succ]
          apply h1
          have hj' : j < rest.length := by simpa using hj
          cases rest with
          | nil => simp at hj'
          | cons y ys =>
            cases j with
            | zero => omega
            | succ j => simp
      | succ i =>
        cases j with
        | zero => omega
        | succ j =>
          simp only [List.getElem_cons_succ]
          exact h2 i j (by simpa using hi) (by simpa using hj) (by omega)
    · intro hall
      constructor
      · intro y hy
        cases rest with
        | nil => simp at hy
        | cons z zs =>
          simp only [List.tail_cons] at hy
          obtain ⟨k, hk, rfl⟩ := List.mem_iff_getElem.1 hy
          have := hall 0 (k + 2) (by simp) (by simp; omega) (by omega)
          simpa using this
      · intro i j hi hj hij
        have := hall (i+1) (j+1) (by simp; omega) (by simp; omega) (by omega)
        simpa using this

theorem chordlessPath_reverse (hsym : ∀ u v, g.adj u v = g.adj v u) {q : List Nat}
    (h : chordlessPath g q = true) : chordlessPath g q.reverse = true := by
  rw [chordlessPath_iff] at h ⊢
  intro i j hi hj hij
  have hi' : i < q.length := by simpa using hi
  have hj' : j < q.length := by simpa using hj
  rw [List.getElem_reverse, List.getElem_reverse, hsym]
  exact h _ _ (by omega) (by omega) (by omega)

theorem chainAdj_reverse (hsym : ∀ u v, g.adj u v = g.adj v u) {q : List Nat} (h : chainAdj g q) :
    chainAdj g q.reverse := by
  rw [chainAdj_iff_isChain] at h ⊢
  rw [List.isChain_reverse]
  exact h.imp (fun a b hab => by unfold RAdj at hab ⊢; rw [hsym]; exact hab)

/-- directed induced path sequences with `l` edges -/
def IsIndPathSeq (g : G) (l : Nat) (q : List Nat) : Prop :=
  q.length = l + 1 ∧ q.Nodup ∧ (∀ x ∈ q, x < g.n) ∧ chainAdj g q ∧ chordlessPath g q = true

def allInducedPaths (g : G) (l : Nat) : List (List Nat) :=
  (List.range g.n).flatMap fun s => pathsFrom g (goodInduced g) s l

theorem mem_allInducedPaths {l : Nat} {q : List Nat} : q ∈ allInducedPaths g l ↔ IsIndPathSeq g l q := by
  simp only [allInducedPaths, List.mem_flatMap, List.mem_range]
  constructor
  · rintro ⟨s, _, hq⟩
    obtain ⟨hb, hlen⟩ := mem_pathsFrom.1 hq
    obtain ⟨⟨_, h2, h3, h4⟩, hch⟩ := builtFrom_induced_iff.1 hb
    exact ⟨hlen, h2, h3, h4, hch⟩
  · rintro ⟨hlen, h2, h3, h4, hch⟩
    have hne : q ≠ [] := by intro h; rw [h] at hlen; simp at hlen
    refine ⟨q.getLastD 0, h3 _ (getLastD_mem hne), ?_⟩
    exact mem_pathsFrom.2 ⟨builtFrom_induced_iff.2 ⟨⟨getLast?_of_ne_nil hne, h2, h3, h4⟩, hch⟩, hlen⟩

theorem nodup_allInducedPaths (l : Nat) : (allInducedPaths g l).Nodup :=
  nodup_flatMap_pathsFrom (fun _ => goodInduced g) l _ fun _ => List.Sublist.refl _

theorem IsIndPathSeq.reverse (hsym : ∀ u v, g.adj u v = g.adj v u) {l : Nat} {q : List Nat}
    (h : IsIndPathSeq g l q) : IsIndPathSeq g l q.reverse :=
  ⟨by simpa using h.1, List.nodup_reverse.2 h.2.1, by simpa using h.2.2.1, chainAdj_reverse hsym h.2.2.2.1,
    chordlessPath_reverse hsym h.2.2.2.2⟩

theorem canonInducedPaths_eq_filter {l : Nat} (hl : 1 ≤ l) :
    canonInducedPaths g l = (allInducedPaths g l).filter fun q => decide (q.getLastD 0 < q.headD 0) := by
  unfold canonInducedPaths allInducedPaths
  rw [List.filter_flatMap]
  apply List.flatMap_congr
  intro s _
  apply List.filter_congr
  intro q hq
  have h1 := (mem_pathsFrom.1 hq).1.getLast?
  have : (l == 0) = false := by simp; omega
  rw [this, getLastD_of_getLast? h1]
  simp

theorem allInducedPaths_length (hsym : ∀ u v, g.adj u v = g.adj v u) {l : Nat} (hl : 1 ≤ l) :
    (allInducedPaths g l).length = 2 * numInducedPaths g l := by
  unfold numInducedPaths
  rw [canonInducedPaths_eq_filter hl]
  set D := allInducedPaths g l with hD
  set pA : List Nat → Bool := fun q => decide (q.getLastD 0 < q.headD 0) with hpA
  have hsplit : D.length = (D.filter pA).length + (D.filter fun q => !pA q).length := by
    have := List.length_eq_length_filter_add (l := D) pA
    omega
  -- reversal maps the second part bijectively onto the first
  have hends : ∀ q ∈ D, q.headD 0 ≠ q.getLastD 0 := by
    intro q hq
    obtain ⟨hlen, hnd, _⟩ := mem_allInducedPaths.1 hq
    exact head_ne_last_of_nodup hnd (by omega)
  have hperm : ((D.filter fun q => !pA q).map List.reverse).Perm (D.filter pA) := by
    have hnd1 : ((D.filter fun q => !pA q).map List.reverse).Nodup :=
      List.Nodup.map (fun a b hab => List.reverse_injective hab) ((nodup_allInducedPaths l).filter _)
    have hnd2 : (D.filter pA).Nodup := (nodup_allInducedPaths l).filter _
    refine (List.perm_ext_iff_of_nodup hnd1 hnd2).2 ?_
    intro q
    simp only [List.mem_map, List.mem_filter, hpA, Bool.not_eq_true', decide_eq_false_iff_not, decide_eq_true_eq]
    constructor
    · rintro ⟨q', ⟨hq'D, hnlt⟩, rfl⟩
      refine ⟨mem_allInducedPaths.2 ((mem_allInducedPaths.1 hq'D).reverse hsym), ?_⟩
      rw [getLastD_reverse, headD_reverse]
      have := hends q' hq'D
      omega
    · rintro ⟨hqD, hlt⟩
      refine ⟨q.reverse, ⟨mem_allInducedPaths.2 ((mem_allInducedPaths.1 hqD).reverse hsym), ?_⟩, by simp⟩
      rw [getLastD_reverse, headD_reverse]
      omega
  have := hperm.length_eq
  rw [List.length_map] at this
  omega

end GDist
