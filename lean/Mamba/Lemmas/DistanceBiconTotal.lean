import Mamba.Lemmas.DistanceBiconStep
import Mamba.Lemmas.DistanceCCSpec
import Mamba.Lemmas.DistanceBlocks
/-!
# Lemmas for C10: the faithful model of `BiconnectedComponents` is total (no panic, fuel `2n + 2` suffices)

Every iteration from a well-sized state succeeds and lowers `2·#unvisited + |stack|` (`bicStep_total`). The later files
start from what is also set up here: the initial state `bicInit`, `bicComponent` as a run of the loop from it
(`bicComponent_run`), and the components the model iterates over (`model_components`, `bicAll_fold`).
-/
namespace GDist
open GraphSpec Model

def bicMeasure (st : BicSt) : Nat := 2 * st.depths.count (-1) + st.toCheck.length

theorem bicMeasure_descend {st : BicSt} {v u : Nat} {cur : List Nat} (hu : u < st.depths.size)
    (hunv : dI st u = -1) (hvpos : 0 ≤ dI st v) : bicMeasure (descendSt st v u cur) + 1 = bicMeasure st := by
  have hgu : st.depths[u] = -1 := (dI_of_lt hu).trans hunv
  have hpos : 0 < st.depths.count (-1) := by
    rw [Array.count_pos_iff, ← hgu]
    exact Array.getElem_mem hu
  have hne : (dI st v + 1 == -1) = false := by simp only [beq_eq_false_iff_ne, ne_eq]; omega
  have hcount : (st.depths.setIfInBounds u (dI st v + 1)).count (-1) + 1 = st.depths.count (-1) := by
    rw [← set_eq_setIfInBounds hu, Array.count_set hu, hgu, hne]
    simp only [beq_self_eq_true, if_true, Bool.false_eq_true, if_false]
    omega
  show 2 * (st.depths.setIfInBounds u (dI st v + 1)).count (-1) + (st.toCheck.length + 1) + 1 = _
  rw [bicMeasure]
  omega

theorem bicScan_total (com : List Nat) {n v : Nat} (hv : v < n) :
    ∀ (us : List Nat) (st : BicSt) (t : Int), BOk n st → (∀ u ∈ us, u < n) → 0 ≤ dI st v →
      (∃ st', bicScan com n v us st t = .ok (.descend st') ∧ BOk n st' ∧
          bicMeasure st' + 1 = bicMeasure st) ∨
      (∃ st' t', bicScan com n v us st t = .ok (.done st' t') ∧ BOk n st' ∧
          st'.toCheck = st.toCheck ∧ st'.depths = st.depths) := by
  intro us
  induction us with
  | nil => intro st t ok _ _; exact .inr ⟨st, t, rfl, ok, rfl, rfl⟩
  | cons u us ih =>
    intro st t ok hus hvpos
    have hu : u < n := hus u List.mem_cons_self
    have hus' : ∀ x ∈ us, x < n := fun x hx => hus x (List.mem_cons_of_mem _ hx)
    obtain ⟨cur, hcur⟩ := getLast?_isSome_of_ne_nil ok.bne
    rw [bicScan_cons com us t ok hv hu hcur]
    by_cases hunv : dI st u = -1
    · rw [if_pos hunv]
      exact .inl ⟨_, rfl, bok_descend ok hu hcur hvpos,
        bicMeasure_descend (by rw [ok.dsz]; exact hu) hunv hvpos⟩
    · rw [if_neg hunv]
      by_cases hpar : (u : Int) = pa st v
      · rw [if_pos hpar]; exact ih st t ok hus' hvpos
      · rw [if_neg hpar]
        by_cases hem : v ≠ 0 ∧ pa st u = (v : Int) ∧ lo st u ≥ dI st v
        · rw [if_pos hem]; exact ih _ _ (bok_emit com ok) hus' hvpos
        · rw [if_neg hem]; exact ih st _ ok hus' hvpos

theorem bicStep_total (h : G) (com : List Nat) {st : BicSt} (ok : BOk h.n st) :
    (st.toCheck = [] ∧ bicStep h com st = .ok none) ∨
    ∃ s, bicStep h com st = .ok (some s) ∧ BOk h.n s ∧ bicMeasure s < bicMeasure st := by
  unfold bicStep
  cases hT : st.toCheck with
  | nil => exact .inl ⟨rfl, rfl⟩
  | cons v rest =>
    right
    obtain ⟨hv, hvpos⟩ := ok.stk_dI (by rw [hT]; exact List.mem_cons_self)
    have hvL : v < st.low.size := by rw [ok.lsz]; exact hv
    simp only [hvL, dif_pos]
    rcases bicScan_total com hv (h.nbrs v) st st.low[v] ok (fun u hu => (G.mem_nbrs.1 hu).1) hvpos with
      ⟨s, e, ok', hm⟩ | ⟨st1, t, e, ok1, hstk, hdep⟩
    · exact ⟨s, by rw [e], ok', by omega⟩
    · obtain ⟨bs, c2, e2, hm⟩ := bicPop_eq rest t ok1 hv
      refine ⟨popSt st1 v rest t bs c2, by rw [e]; simp only [e2],
        bok_pop ok1 hv (by rw [hstk, hT]) hm.last hm.pre hm.elem, ?_⟩
      show 2 * st1.depths.count (-1) + rest.length < bicMeasure st
      rw [hdep, bicMeasure, hT, List.length_cons]
      omega

theorem bicLoop_total (h : G) (com : List Nat) :
    ∀ (fuel : Nat) (st : BicSt), BOk h.n st → bicMeasure st + 1 ≤ fuel →
      ∃ st', bicLoop h com fuel st = .ok st' ∧ BOk h.n st' := by
  intro fuel
  induction fuel with
  | zero => intro st _ hf; omega
  | succ f ih =>
    intro st ok hf
    rw [bicLoop_succ]
    rcases bicStep_total h com ok with ⟨_, e⟩ | ⟨s, e, ok', hm⟩
    · rw [e]; exact ⟨st, rfl, ok⟩
    · rw [e]; exact ih s ok' (by omega)

def bicInit (n : Nat) (out0 : List (List Nat)) : BicSt :=
  { toCheck := [0], depths := (Array.replicate n (-1)).setIfInBounds 0 0, low := Array.replicate n 0,
    parents := Array.replicate n 0, isArt := Array.replicate n false, childCount := 0, bicoms := [[]],
    out := out0 }

theorem dI_bicInit {n : Nat} (hn : 0 < n) (out0 : List (List Nat)) (x : Nat) :
    dI (bicInit n out0) x = if x = 0 then 0 else -1 := by
  unfold dI bicInit; simp only
  rw [getD_setIfInBounds (by simpa using hn)]
  by_cases hx : x = 0
  · simp [hx]
  · simp only [hx, if_false]
    by_cases hxn : x < n <;> simp [Array.getD, hxn]

theorem bvis_bicInit {n : Nat} (hn : 0 < n) (out0 : List (List Nat)) (x : Nat) :
    bvis (bicInit n out0) x ↔ x = 0 := by
  unfold bvis; rw [dI_bicInit hn]
  by_cases hx : x = 0 <;> simp [hx]

theorem lo_bicInit (n : Nat) (out0 : List (List Nat)) (x : Nat) : lo (bicInit n out0) x = 0 := by
  unfold lo bicInit; simp only
  by_cases hxn : x < n <;> simp [Array.getD, hxn]

theorem pa_bicInit (n : Nat) (out0 : List (List Nat)) (x : Nat) : pa (bicInit n out0) x = 0 := by
  unfold pa bicInit; simp only
  by_cases hxn : x < n <;> simp [Array.getD, hxn]

theorem bok_init {n : Nat} (hn : 0 < n) {out0 : List (List Nat)}
    (hout : ∀ b ∈ out0, b.Pairwise (fun a b => decide (a ≤ b) = true)) : BOk n (bicInit n out0) :=
  { dsz := by simp [bicInit], lsz := by simp [bicInit], psz := by simp [bicInit], asz := by simp [bicInit],
    stk := fun x hx => (by
      have hx0 : x = 0 := by simpa [bicInit] using hx
      subst hx0
      exact stk_of_dI (by simpa [bicInit] using hn) (by rw [dI_bicInit hn]; simp)),
    bne := by simp [bicInit], bpre := by simp [bicInit],
    belem := fun b hb x hx => (by
      have : b = [] := by simpa [bicInit] using hb
      subst this; cases hx),
    osorted := hout }

variable {g : G} {com : List Nat}

theorem bicComponent_eq (hne : com ≠ []) (acc : List (List Nat) × List Nat) :
    bicComponent g com acc =
      match bicLoop (g.induced com) com (2 * (g.induced com).n + 2) (bicInit (g.induced com).n acc.1) with
      | .ok st =>
        .ok (st.out ++ (((st.bicoms.dropLast.map fun b => b ++ [0]) ++
              (match st.bicoms.getLast? with | some c => [c] | none => [])).map
                fun b => sortInts (b.map fun x => com.getD x 0)),
            acc.2 ++ ((List.range (g.induced com).n).filter fun i =>
              (st.isArt.setIfInBounds 0 (decide (2 ≤ st.childCount))).getD i false).map fun i => com.getD i 0)
      | .panic => .panic
      | .outOfFuel => .outOfFuel := by
  have hn0 : ¬ (g.induced com).n = 0 := fun h0 => hne (List.eq_nil_of_length_eq_zero h0)
  unfold bicComponent
  simp only [hn0, if_false]
  rfl

theorem bicComponent_total (g : G) (com : List Nat) (hne : com ≠ []) (acc : List (List Nat) × List Nat)
    (hacc : ∀ b ∈ acc.1, b.Pairwise (fun a b => decide (a ≤ b) = true)) :
    ∃ acc', bicComponent g com acc = .ok acc' ∧
      ∀ b ∈ acc'.1, b.Pairwise (fun a b => decide (a ≤ b) = true) := by
  have hpos : 0 < (g.induced com).n := List.length_pos_iff.2 hne
  have hmeas : bicMeasure (bicInit (g.induced com).n acc.1) + 1 ≤ 2 * (g.induced com).n + 2 := by
    have := Array.count_le_size (a := (-1 : Int)) (xs := (bicInit (g.induced com).n acc.1).depths)
    have hsz : (bicInit (g.induced com).n acc.1).depths.size = (g.induced com).n := by simp [bicInit]
    have hlen : (bicInit (g.induced com).n acc.1).toCheck.length = 1 := rfl
    rw [bicMeasure, hlen]; omega
  obtain ⟨st, e, ok⟩ := bicLoop_total (g.induced com) com _ _ (bok_init hpos hacc) hmeas
  rw [bicComponent_eq hne, e]
  refine ⟨_, rfl, fun b hb => ?_⟩
  rcases List.mem_append.1 hb with h | h
  · exact ok.osorted b h
  · obtain ⟨b', _, rfl⟩ := List.mem_map.1 h
    exact sortInts_sorted _

theorem all_visited {st : BicSt} (gc : GoodCom g com) (hne : com ≠ []) (hconn : ∀ x ∈ com, Reach g (com.getD 0 0) x)
    (hroot : bvis st 0)
    (hfin : ∀ x, x < (g.induced com).n → bvis st x → ∀ w, (g.induced com).adj x w = true →
      w < (g.induced com).n → bvis st w) :
    ∀ x, x < (g.induced com).n → bvis st x := by
  have emb := goodCom_emb gc
  have hpos : 0 < com.length := List.length_pos_iff.2 hne
  have key : ∀ y k, WalkIn g (List.range g.n) (com.getD 0 0) y k →
      ∃ i, i < com.length ∧ com.getD i 0 = y ∧ bvis st i := by
    intro y k hw
    induction hw with
    | base _ => exact ⟨0, hpos, rfl, hroot⟩
    | step _ hadj hy ih =>
      obtain ⟨i, hi, hiy, hiv⟩ := ih
      rw [← hiy] at hadj
      obtain ⟨j, hj, hjy⟩ := emb.closed i _ hi (List.mem_range.1 hy) hadj
      refine ⟨j, hj, hjy, hfin i hi hiv j ?_ hj⟩
      rw [emb.adj i j hi hj, hjy]; exact hadj
  intro x hx
  have hxc : com.getD x 0 ∈ com := getD_mem hx
  obtain ⟨k, hk⟩ := hconn _ hxc
  obtain ⟨i, hi, hix, hiv⟩ := key _ k hk
  rwa [emb.inj i x hi hx hix] at hiv

def ConnCom (g : G) (c : List Nat) : Prop := GoodCom g c ∧ c ≠ [] ∧ ∀ x ∈ c, Reach g (c.getD 0 0) x

theorem bicAll_fold (g : G) (P : List Nat → List (List Nat) → List Nat → Prop)
    (hP : ∀ com acc acc', ConnCom g com → (∀ b ∈ acc.1, b.Pairwise (fun a b => decide (a ≤ b) = true)) →
      bicComponent g com acc = .ok acc' →
      ∃ new arts, acc'.1 = acc.1 ++ new ∧ acc'.2 = acc.2 ++ arts ∧ P com new arts) :
    ∀ (coms : List (List Nat)) (acc acc' : List (List Nat) × List Nat),
      (∀ c ∈ coms, ConnCom g c) → (∀ b ∈ acc.1, b.Pairwise (fun a b => decide (a ≤ b) = true)) →
      bicAll g coms acc = .ok acc' →
      ∃ outs : List (List (List Nat) × List Nat), acc'.1 = acc.1 ++ (outs.map (·.1)).flatten ∧
        acc'.2 = acc.2 ++ (outs.map (·.2)).flatten ∧ List.Forall₂ (fun c o => P c o.1 o.2) coms outs := by
  intro coms
  induction coms with
  | nil =>
    intro acc acc' _ _ hres
    simp only [bicAll] at hres
    cases hres
    exact ⟨[], by simp, by simp, .nil⟩
  | cons com coms ih =>
    intro acc acc' hcoms hacc hres
    have hgc := hcoms com List.mem_cons_self
    obtain ⟨acc1, e1, hs1⟩ := bicComponent_total g com hgc.2.1 acc hacc
    simp only [bicAll, e1] at hres
    obtain ⟨new, arts, hnew, harts, hPn⟩ := hP com acc acc1 hgc hacc e1
    obtain ⟨outs, h1, h2, hF⟩ := ih acc1 acc' (fun c hc => hcoms c (List.mem_cons_of_mem _ hc)) hs1 hres
    exact ⟨(new, arts) :: outs, by rw [h1, hnew]; simp, by rw [h2, harts]; simp, .cons hPn hF⟩

theorem bicAll_total (g : G) :
    ∀ (coms : List (List Nat)) (acc : List (List Nat) × List Nat), (∀ c ∈ coms, c ≠ []) →
      (∀ b ∈ acc.1, b.Pairwise (fun a b => decide (a ≤ b) = true)) →
      ∃ acc', bicAll g coms acc = .ok acc' ∧ ∀ b ∈ acc'.1, b.Pairwise (fun a b => decide (a ≤ b) = true) := by
  intro coms
  induction coms with
  | nil => intro acc _ hacc; exact ⟨acc, rfl, hacc⟩
  | cons com coms ih =>
    intro acc hne hacc
    obtain ⟨acc1, e1, h1⟩ := bicComponent_total g com (hne com List.mem_cons_self) acc hacc
    obtain ⟨acc2, e2, h2⟩ := ih acc1 (fun c hc => hne c (List.mem_cons_of_mem _ hc)) h1
    exact ⟨acc2, by simp only [bicAll, e1]; exact e2, h2⟩

theorem model_components (g : G) (hsym : ∀ u v, g.adj u v = g.adj v u) :
    ∃ cs, Model.connectedComponents g (g.n + 1) = .ok cs ∧ (∀ c ∈ cs, ConnCom g c) ∧
      cs.flatten.Perm (List.range g.n) := by
  obtain ⟨cs, ecs, hperm⟩ := connectedComponents_perm g hsym (g.n + 1) (Nat.le_refl _)
  obtain ⟨hgood, hflat⟩ := components_good g hsym
  refine ⟨cs, ecs, ?_, (List.Perm.flatten hperm).trans hflat⟩
  intro c hc
  have hc' := hperm.mem_iff.1 hc
  obtain ⟨s, hs, rfl⟩ := (componentsIn_facts hsym (List.range g.n)).1 c hc'
  have hsmem : s ∈ componentIn g (List.range g.n) s := mem_componentIn.2 (ReachIn.refl hs)
  have hne : componentIn g (List.range g.n) s ≠ [] := List.ne_nil_of_mem hsmem
  refine ⟨hgood _ hc', hne, ?_⟩
  intro x hx
  have h0 : (componentIn g (List.range g.n) s).getD 0 0 ∈ componentIn g (List.range g.n) s :=
    getD_mem (List.length_pos_iff.2 hne)
  exact ((mem_componentIn.1 h0).symm hsym).trans (mem_componentIn.1 hx)

theorem biconnectedComponents_total (g : G) (hsym : ∀ u v, g.adj u v = g.adj v u) :
    ∃ bs arts, Model.biconnectedComponents g = .ok (bs, arts) ∧
      ∀ b ∈ bs, b.Pairwise (fun a b => decide (a ≤ b) = true) := by
  unfold Model.biconnectedComponents
  obtain ⟨cs, ecs, hgood, _⟩ := model_components g hsym
  rw [ecs]
  obtain ⟨acc, e, h⟩ := bicAll_total g cs ([], []) (fun c hc => (hgood c hc).2.1) (fun b hb => by cases hb)
  exact ⟨acc.1, acc.2, e, h⟩

end GDist
