import Mamba.Lemmas.IRPerm
/-!
# The characterisation of one IR refinement pass that the link between the faithful model and `Model/IR.lean` uses
-/
namespace IR

/-- `IR.pass` is determined by order-theoretic properties: any tight colouring `c'` (onto `0..k'-1`) that orders the
vertices by (old colour, number of neighbours in the splitter cell) is the colouring of the pass; the new work list is,
as a set, described by the predicate `W` on new cells (proved in `IRPass.lean`) -/
def PassChar : Prop :=
  ∀ {g : G}, WF g → ∀ (s : St), InvA g s → ∀ (i : Nat) (rest : List Nat),
    (∀ x ∈ rest, x < s.cells) → (∀ x, x < s.cells → ∃ v, v < g.n ∧ col s.c v = x) →
    ∀ (c' : Nat → Nat) (k' : Nat) (W : Nat → Prop),
    (∀ v, v < g.n → c' v < k') → (∀ x, x < k' → ∃ v, v < g.n ∧ c' v = x) →
    (∀ u v, u < g.n → v < g.n → (c' u < c' v ↔
      (col s.c u < col s.c v ∨ (col s.c u = col s.c v ∧ cnt g s.c i u < cnt g s.c i v)))) →
    (∀ v, v < g.n → (W (c' v) ↔
      ((col s.c v ∈ rest ∧ ∀ u, u < g.n → col s.c u = col s.c v → cnt g s.c i v ≤ cnt g s.c i u) ∨
        (∃ u, u < g.n ∧ col s.c u = col s.c v ∧ cnt g s.c i u ≠ cnt g s.c i v)))) →
    (pass g s i rest).c = tab g.n c' ∧ (pass g s i rest).cells = k' ∧ (pass g s i rest).work.Nodup ∧
      ∀ x, x ∈ (pass g s i rest).work ↔ (x < k' ∧ W x)

end IR
