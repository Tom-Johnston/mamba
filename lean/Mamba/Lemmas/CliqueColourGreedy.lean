import Mamba.Lemmas.CliqueColourCert
/-! C09: the faithful model of `GreedyColor` is proper and first-fit for every vertex order. -/
namespace CliqueColour
open GraphSpec

theorem count_set_true_le (l : List Bool) (k : Nat) : (l.set k true).count true ≤ l.count true + 1 := by
  by_cases h : k < l.length
  · rw [List.count_set h]
    simp
  · rw [List.set_eq_of_length_le (by omega)]; omega

theorem exists_false_of_count_lt {l : List Bool} (h : l.count true < l.length) :
    ∃ j, j < l.length ∧ l.getD j false = false := by
  have : ¬ ∀ b ∈ l, true = b := fun hall => by
    have := List.count_eq_length.2 hall
    omega
  push Not at this
  obtain ⟨b, hb, hne⟩ := this
  obtain ⟨j, hj, he⟩ := List.getElem_of_mem hb
  refine ⟨j, hj, ?_⟩
  rw [List.getD_eq_getElem?_getD, List.getElem?_eq_getElem hj, Option.getD_some, he]
  cases b <;> simp_all

theorem count_true_eq_zero {l : List Bool} (h : ∀ j, l.getD j false = false) : l.count true = 0 := by
  rw [List.count_eq_zero]
  intro hm
  obtain ⟨j, hj, he⟩ := List.getElem_of_mem hm
  have := h j
  rw [List.getD_eq_getElem?_getD, List.getElem?_eq_getElem hj, Option.getD_some, he] at this
  cases this

def ColsOK (c : List Int) (B : Nat) : Prop := ∀ u, c.getD u (-1) = -1 ∨ (0 ≤ c.getD u (-1) ∧ c.getD u (-1) < B)

theorem greedyMark_spec {c : List Int} {B : Nat} (hc : ColsOK c B) :
    ∀ (us : List Nat) (seen : List Bool) (mx : Nat), (∀ u ∈ us, u < c.length) → seen.length = B →
      ∃ seen' mx', greedyMark c us (seen, mx) = .ok (seen', mx') ∧ seen'.length = B ∧
        (∀ j, seen'.getD j false = true ↔ (seen.getD j false = true ∨ ∃ u ∈ us, c.getD u (-1) = (j : Int))) ∧
        mx ≤ mx' ∧ (∀ u ∈ us, c.getD u (-1) ≤ (mx' : Int)) ∧
        (mx' = mx ∨ ∃ u ∈ us, c.getD u (-1) = (mx' : Int)) ∧
        seen'.count true ≤ seen.count true + us.length := by
  intro us
  induction us with
  | nil =>
    intro seen mx _ hl
    exact ⟨seen, mx, rfl, hl, by simp, Nat.le_refl _, by simp, Or.inl rfl, by simp⟩
  | cons u us ih =>
    intro seen mx hus hl
    have hu : u < c.length := hus u List.mem_cons_self
    have hus' : ∀ w ∈ us, w < c.length := fun w hw => hus w (List.mem_cons_of_mem _ hw)
    simp only [greedyMark, getElem?_eq_some_getD hu (-1)]
    rcases hc u with hneg | ⟨h0, hB⟩
    · have hnj : ∀ j : Nat, c.getD u (-1) ≠ (j : Int) := fun j e => by
        have := Int.natCast_nonneg j
        rw [← e, hneg] at this
        exact absurd this (by decide)
      rw [if_neg (by rw [hneg]; decide)]
      obtain ⟨s', m', he, hl', hs, hmono, hm1, hm2, hcnt⟩ := ih seen mx hus' hl
      refine ⟨s', m', he, hl', fun j => ?_, hmono, fun w hw => ?_, ?_, Nat.le_trans hcnt (Nat.le_succ _)⟩
      · rw [hs j]
        refine or_congr_right ⟨fun ⟨w, hw, hwj⟩ => ⟨w, List.mem_cons_of_mem _ hw, hwj⟩, fun ⟨w, hw, hwj⟩ => ?_⟩
        rcases List.mem_cons.1 hw with rfl | hw
        · exact absurd hwj (hnj j)
        · exact ⟨w, hw, hwj⟩
      · rcases List.mem_cons.1 hw with rfl | hw
        · rw [hneg]; exact Int.le_trans (by decide) (Int.natCast_nonneg m')
        · exact hm1 w hw
      · exact hm2.imp_right fun ⟨w, hw, hwj⟩ => ⟨w, List.mem_cons_of_mem _ hw, hwj⟩
    · rw [if_pos (Int.lt_of_lt_of_le (by decide) h0)]
      have hk : ((c.getD u (-1)).toNat : Int) = c.getD u (-1) := Int.toNat_of_nonneg h0
      generalize (c.getD u (-1)).toNat = k at hk
      have hklt : k < seen.length := by rw [hl]; exact Int.ofNat_lt.1 (by rw [hk]; exact hB)
      simp only [hklt, if_true]
      have hmx2 : mx ≤ (if k > mx then k else mx) ∧ k ≤ (if k > mx then k else mx) := by split <;> omega
      obtain ⟨s', m', he, hl', hs, hmono, hm1, hm2, hcnt⟩ :=
        ih (seen.set k true) (if k > mx then k else mx) hus' (by rw [List.length_set]; exact hl)
      refine ⟨s', m', he, hl', fun j => ?_, Nat.le_trans hmx2.1 hmono, fun w hw => ?_, ?_,
        Nat.le_trans hcnt ?_⟩
      · rw [hs j, getD_set]
        constructor
        · rintro (h | ⟨w, hw, hwj⟩)
          · by_cases hkj : k = j ∧ k < seen.length
            · exact Or.inr ⟨u, List.mem_cons_self, by rw [← hk, hkj.1]⟩
            · rw [if_neg hkj] at h; exact Or.inl h
          · exact Or.inr ⟨w, List.mem_cons_of_mem _ hw, hwj⟩
        · rintro (h | ⟨w, hw, hwj⟩)
          · left
            split
            · rfl
            · exact h
          · rcases List.mem_cons.1 hw with rfl | hw
            · left
              rw [if_pos ⟨Int.ofNat_inj.1 (hk.trans hwj), hklt⟩]
            · exact Or.inr ⟨w, hw, hwj⟩
      · rcases List.mem_cons.1 hw with rfl | hw
        · rw [← hk]; exact Int.ofNat_le.2 (Nat.le_trans hmx2.2 hmono)
        · exact hm1 w hw
      · rcases hm2 with h | ⟨w, hw, hwj⟩
        · by_cases hgt : k > mx
          · rw [if_pos hgt] at h
            exact Or.inr ⟨u, List.mem_cons_self, by rw [h, hk]⟩
          · rw [if_neg hgt] at h
            exact Or.inl h
        · exact Or.inr ⟨w, List.mem_cons_of_mem _ hw, hwj⟩
      · have := count_set_true_le seen k
        rw [List.length_cons, ← Nat.add_assoc, Nat.add_right_comm]
        exact Nat.add_le_add_right this _

theorem clear_step {seen : List Bool} {i : Nat} (hi : i < seen.length) (P : Nat → Prop) [DecidablePred P]
    (hP : P i) (j : Nat) :
    (if i + 1 ≤ j ∧ P j then false else (seen.set i false).getD j false) =
      if i ≤ j ∧ P j then false else seen.getD j false := by
  rw [getD_set]
  by_cases hj : j = i
  · subst hj
    rw [if_neg (fun h => Nat.not_succ_le_self _ h.1), if_pos ⟨rfl, hi⟩, if_pos ⟨Nat.le_refl _, hP⟩]
  · by_cases hr : i + 1 ≤ j ∧ P j
    · rw [if_pos hr, if_pos ⟨Nat.le_of_succ_le hr.1, hr.2⟩]
    · rw [if_neg hr, if_neg (fun h => hj h.1.symm),
        if_neg (fun h => hr ⟨Nat.lt_of_le_of_ne h.1 (Ne.symm hj), h.2⟩)]

theorem greedyFind_spec (n : Nat) : ∀ (fuel i : Nat) (seen : List Bool), seen.length = n → n ≤ i + fuel →
    (∃ j, i ≤ j ∧ j < n ∧ seen.getD j false = false) →
    ∃ s2 i2, greedyFind n fuel i seen = (s2, i2, true) ∧ s2.length = n ∧ i ≤ i2 ∧ i2 < n ∧
      seen.getD i2 false = false ∧ (∀ j, i ≤ j → j < i2 → seen.getD j false = true) ∧
      ∀ j, s2.getD j false = if i ≤ j ∧ j < i2 then false else seen.getD j false := by
  intro fuel
  induction fuel with
  | zero =>
    intro i seen _ hf ⟨j, h1, h2, _⟩
    exact absurd (Nat.lt_of_lt_of_le h2 hf) (Nat.not_lt.2 h1)
  | succ fuel ih =>
    intro i seen hl hf ⟨j, h1, h2, h3⟩
    have hi : i < n := Nat.lt_of_le_of_lt h1 h2
    simp only [greedyFind, hi, if_true]
    cases hsi : seen.getD i false
    · simp only [Bool.false_eq_true, if_false]
      exact ⟨seen, i, rfl, hl, Nat.le_refl _, hi, hsi, fun j h1 h2 => absurd h2 (Nat.not_lt.2 h1), fun j => by
        rw [if_neg (fun h => Nat.not_lt.2 h.1 h.2)]⟩
    · simp only [if_true]
      have hij : i < j := Nat.lt_of_le_of_ne h1 (fun h => by rw [h, h3] at hsi; cases hsi)
      have hne : ∀ {k}, i < k → ¬ (i = k ∧ i < seen.length) := fun hk h => Nat.ne_of_lt hk h.1
      obtain ⟨s2, i2, he, hl2, hle, hlt, hf2, hall, hpt⟩ :=
        ih (i + 1) (seen.set i false) (by rw [List.length_set]; exact hl)
          (by rw [Nat.add_right_comm]; exact hf)
          ⟨j, hij, h2, by rw [getD_set, if_neg (hne hij)]; exact h3⟩
      refine ⟨s2, i2, he, hl2, Nat.le_of_succ_le hle, hlt, ?_, fun j' h1' h2' => ?_, fun j' => ?_⟩
      · rw [getD_set, if_neg (hne hle)] at hf2; exact hf2
      · rcases Nat.eq_or_lt_of_le h1' with rfl | hlt'
        · exact hsi
        · have := hall j' hlt' h2'
          rw [getD_set, if_neg (hne hlt')] at this; exact this
      · rw [hpt j']
        exact clear_step (by rw [hl]; exact hi) (· < i2) hle j'

theorem greedyClear_spec : ∀ (fuel i mx : Nat) (seen : List Bool), mx < seen.length → mx + 1 ≤ i + fuel →
    ∃ s3, greedyClear fuel i mx seen = .ok s3 ∧ s3.length = seen.length ∧
      ∀ j, s3.getD j false = if i ≤ j ∧ j ≤ mx then false else seen.getD j false := by
  intro fuel
  induction fuel with
  | zero =>
    intro i mx seen _ hf
    have hmi : ¬ i ≤ mx := Nat.not_le.2 hf
    exact ⟨seen, by simp only [greedyClear]; rw [if_neg hmi], rfl,
      fun j => by rw [if_neg (fun h => hmi (Nat.le_trans h.1 h.2))]⟩
  | succ fuel ih =>
    intro i mx seen hm hf
    simp only [greedyClear]
    by_cases hi : i ≤ mx
    · rw [if_pos hi, if_pos (Nat.lt_of_le_of_lt hi hm)]
      obtain ⟨s3, he, hl, hpt⟩ := ih (i + 1) mx (seen.set i false) (by rw [List.length_set]; exact hm)
        (by rw [Nat.add_right_comm]; exact hf)
      refine ⟨s3, he, by rw [hl, List.length_set], fun j => ?_⟩
      rw [hpt j]
      exact clear_step (Nat.lt_of_le_of_lt hi hm) (· ≤ mx) hi j
    · rw [if_neg hi]
      exact ⟨seen, rfl, rfl, fun j => by rw [if_neg (fun h => hi (Nat.le_trans h.1 h.2))]⟩

def FirstFit (g : G) (col : Nat → Int) (pre : List Nat) (v : Nat) : Prop :=
  (∀ x : Nat, (x : Int) < col v → ∃ u ∈ pre, g.adj v u = true ∧ col u = x) ∧
  (∀ u ∈ pre, g.adj v u = true → col u ≠ col v)

structure GInv (g : G) (done : List Nat) (st : Greedy) : Prop where
  clen : st.c.length = g.n
  slen : st.seen.length = g.n
  sfalse : ∀ j, st.seen.getD j false = false
  undone : ∀ v, v ∉ done → st.c.getD v (-1) = -1
  range : ∀ v ∈ done, 0 ≤ st.c.getD v (-1) ∧ st.c.getD v (-1) < g.n
  proper : ∀ u ∈ done, ∀ v ∈ done, g.adj u v = true → st.c.getD u (-1) ≠ st.c.getD v (-1)
  ff : ∀ pre v post, done = pre ++ v :: post → FirstFit g (fun w => st.c.getD w (-1)) pre v
  maxub : ∀ v ∈ done, st.c.getD v (-1) ≤ st.maxColour
  maxat : (done = [] ∧ st.maxColour = -1) ∨ ∃ v ∈ done, st.c.getD v (-1) = st.maxColour

theorem nbrs_length_lt {g : G} (hw : g.WF) {v : Nat} (hv : v < g.n) : (g.nbrs v).length < g.n := by
  have hnd : (v :: g.nbrs v).Nodup := by
    refine List.nodup_cons.2 ⟨fun hm => ?_, (List.nodup_range).sublist List.filter_sublist⟩
    have := (G.mem_nbrs.1 hm).2
    rw [hw.irrefl] at this; cases this
  exact hnd.length_le_of_lt fun u hu => by
    rcases List.mem_cons.1 hu with rfl | hu
    · exact hv
    · exact (G.mem_nbrs.1 hu).1

theorem snoc_eq_append_cons {α : Type} {done pre post : List α} {v w : α}
    (h : done ++ [v] = pre ++ w :: post) :
    (post = [] ∧ pre = done ∧ w = v) ∨ ∃ post', post = post' ++ [v] ∧ done = pre ++ w :: post' := by
  rcases List.eq_nil_or_concat post with rfl | ⟨post', x, rfl⟩
  · left
    have := List.append_inj' h rfl
    exact ⟨rfl, this.1.symm, by simpa using this.2.symm⟩
  · right
    have h' : done ++ [v] = (pre ++ w :: post') ++ [x] := by simpa using h
    have := List.append_inj' h' rfl
    exact ⟨post', by simpa using this.2.symm, this.1⟩

theorem greedyStep_inv {g : G} (hw : g.WF) {done : List Nat} {st : Greedy} (hinv : GInv g done st)
    {v : Nat} (hv : v < g.n) (hvd : v ∉ done) :
    ∃ st', greedyStep g st v = .ok st' ∧ GInv g (done ++ [v]) st' := by
  have hcols : ColsOK st.c g.n := by
    intro u
    by_cases hu : u ∈ done
    · exact Or.inr (hinv.range u hu)
    · exact Or.inl (hinv.undone u hu)
  obtain ⟨seen1, mx1, hmark, hl1, hs1, _, hmx1, hmx1', hcnt⟩ :=
    greedyMark_spec hcols (g.nbrs v) st.seen 0
      (fun u hu => by rw [hinv.clen]; exact (G.mem_nbrs.1 hu).1) hinv.slen
  have hs1' : ∀ j, seen1.getD j false = true ↔ ∃ u ∈ g.nbrs v, st.c.getD u (-1) = (j : Int) := by
    intro j
    rw [hs1 j, hinv.sfalse j]
    exact ⟨fun h => h.resolve_left Bool.false_ne_true, Or.inr⟩
  have hfree : ∃ j, 0 ≤ j ∧ j < g.n ∧ seen1.getD j false = false := by
    have h0 := count_true_eq_zero hinv.sfalse
    have := nbrs_length_lt hw hv
    rw [h0, Nat.zero_add] at hcnt
    obtain ⟨j, hj, hjf⟩ := exists_false_of_count_lt (l := seen1) (by rw [hl1]; exact Nat.lt_of_le_of_lt hcnt this)
    exact ⟨j, Nat.zero_le _, hl1 ▸ hj, hjf⟩
  obtain ⟨s2, i2, hfind, hl2, _, hi2, hf2, hall2, hpt2⟩ := greedyFind_spec g.n g.n 0 seen1 hl1 (Nat.le_of_eq (Nat.zero_add _).symm) hfree
  have hmx1n : mx1 < g.n := by
    rcases hmx1' with h | ⟨u, hu, hue⟩
    · rw [h]; exact Nat.lt_of_le_of_lt (Nat.zero_le v) hv
    · rcases hcols u with h | h
      · rw [hue] at h
        exact absurd (Int.natCast_nonneg mx1) (by rw [h]; decide)
      · exact Int.ofNat_lt.1 (hue ▸ h.2)
  obtain ⟨s3, hclear, hl3, hpt3⟩ := greedyClear_spec (g.n + 1) i2 mx1 s2 (by rw [hl2]; exact hmx1n)
    (Nat.le_trans hmx1n (Nat.le_trans (Nat.le_succ _) (Nat.le_add_left _ _)))
  have hnot : ∀ u ∈ g.nbrs v, st.c.getD u (-1) ≠ (i2 : Int) := by
    intro u hu he
    have := (hs1' i2).2 ⟨u, hu, he⟩
    rw [hf2] at this; cases this
  have hbelow : ∀ x : Nat, x < i2 → ∃ u ∈ done, g.adj v u = true ∧ st.c.getD u (-1) = (x : Int) := by
    intro x hx
    obtain ⟨u, hu, hue⟩ := (hs1' x).1 (hall2 x (Nat.zero_le _) hx)
    refine ⟨u, ?_, (G.mem_nbrs.1 hu).2, hue⟩
    by_contra hnd
    have := Int.natCast_nonneg x
    rw [← hue, hinv.undone u hnd] at this
    exact absurd this (by decide)
  have hvc : v < st.c.length := by rw [hinv.clen]; exact hv
  have hset_v : (st.c.set v (i2 : Int)).getD v (-1) = (i2 : Int) := by
    rw [getD_set, if_pos ⟨rfl, hvc⟩]
  have hset_ne : ∀ u, u ≠ v → (st.c.set v (i2 : Int)).getD u (-1) = st.c.getD u (-1) := by
    intro u hu
    rw [getD_set, if_neg (by intro h; exact hu h.1.symm)]
  have hset_done : ∀ u ∈ done, (st.c.set v (i2 : Int)).getD u (-1) = st.c.getD u (-1) :=
    fun u hu => hset_ne u (fun h => hvd (h ▸ hu))
  refine ⟨{ c := st.c.set v (i2 : Int), seen := s3,
            maxColour := if (i2 : Int) > st.maxColour then (i2 : Int) else st.maxColour }, ?_, ?_⟩
  · simp only [greedyStep, hv, if_true, hmark, hfind, hclear, Bool.true_and, decide_eq_true_eq]
  · constructor
    · simpa using hinv.clen
    · simpa [hl3] using hl2
    · intro j
      show s3.getD j false = false
      rw [hpt3 j]
      by_cases hr : i2 ≤ j ∧ j ≤ mx1
      · rw [if_pos hr]
      · rw [if_neg hr, hpt2 j]
        by_cases hr2 : 0 ≤ j ∧ j < i2
        · rw [if_pos hr2]
        · rw [if_neg hr2]
          cases hsj : seen1.getD j false
          · rfl
          · obtain ⟨u, hu, hue⟩ := (hs1' j).1 hsj
            exact absurd ⟨Nat.le_of_not_lt (fun h => hr2 ⟨Nat.zero_le j, h⟩), Int.ofNat_le.1 (hue ▸ hmx1 u hu)⟩ hr
    · intro w hwn
      show (st.c.set v (i2 : Int)).getD w (-1) = -1
      have h1 : w ≠ v := fun h => hwn (by simp [h])
      have h2 : w ∉ done := fun h => hwn (List.mem_append_left _ h)
      rw [hset_ne w h1]; exact hinv.undone w h2
    · intro w hwm
      show 0 ≤ (st.c.set v (i2 : Int)).getD w (-1) ∧ (st.c.set v (i2 : Int)).getD w (-1) < g.n
      rcases List.mem_append.1 hwm with h | h
      · rw [hset_done w h]; exact hinv.range w h
      · have : w = v := List.mem_singleton.1 h
        subst this; rw [hset_v]; exact ⟨Int.natCast_nonneg _, Int.ofNat_lt.2 hi2⟩
    · intro u hum w hwm ha
      show (st.c.set v (i2 : Int)).getD u (-1) ≠ (st.c.set v (i2 : Int)).getD w (-1)
      rcases List.mem_append.1 hum with hu | hu <;> rcases List.mem_append.1 hwm with hw' | hw'
      · rw [hset_done u hu, hset_done w hw']; exact hinv.proper u hu w hw' ha
      · have : w = v := List.mem_singleton.1 hw'
        subst this
        rw [hset_done u hu, hset_v]
        refine hnot u (G.mem_nbrs.2 ⟨(hw.supp _ _ ha).1, ?_⟩)
        rw [hw.symm]; exact ha
      · have : u = v := List.mem_singleton.1 hu
        subst this
        rw [hset_done w hw', hset_v]
        exact fun h => hnot w (G.mem_nbrs.2 ⟨(hw.supp _ _ ha).2, ha⟩) h.symm
      · have h1 : u = v := List.mem_singleton.1 hu
        have h2 : w = v := List.mem_singleton.1 hw'
        subst h1; subst h2
        rw [hw.irrefl] at ha; cases ha
    · intro pre w post hsplit
      show FirstFit g (fun x => (st.c.set v (i2 : Int)).getD x (-1)) pre w
      rcases snoc_eq_append_cons hsplit with ⟨_, rfl, rfl⟩ | ⟨post', _, hd⟩
      · constructor
        · intro x hx
          simp only [hset_v] at hx
          obtain ⟨u, hu, hau, hue⟩ := hbelow x (Int.ofNat_lt.1 hx)
          exact ⟨u, hu, hau, by simp only; rw [hset_done u hu]; exact hue⟩
        · intro u hu hau
          simp only [hset_v]
          rw [hset_done u hu]
          exact hnot u (G.mem_nbrs.2 ⟨(hw.supp _ _ hau).2, hau⟩)
      · have hold := hinv.ff pre w post' hd
        have hwd : w ∈ done := by rw [hd]; simp
        have hpre : ∀ u ∈ pre, u ∈ done := fun u hu => by rw [hd]; simp [hu]
        constructor
        · intro x hx
          simp only [hset_done w hwd] at hx
          obtain ⟨u, hu, hau, hue⟩ := hold.1 x hx
          exact ⟨u, hu, hau, by simp only; rw [hset_done u (hpre u hu)]; exact hue⟩
        · intro u hu hau
          simp only [hset_done w hwd, hset_done u (hpre u hu)]
          exact hold.2 u hu hau
    · intro w hwm
      show (st.c.set v (i2 : Int)).getD w (-1) ≤ (if (i2 : Int) > st.maxColour then (i2 : Int) else st.maxColour)
      rcases List.mem_append.1 hwm with h | h
      · rw [hset_done w h]
        have := hinv.maxub w h
        split
        · exact Int.le_trans this (Int.le_of_lt ‹_›)
        · exact this
      · have : w = v := List.mem_singleton.1 h
        subst this; rw [hset_v]
        split
        · exact Int.le_refl _
        · exact Int.not_lt.1 ‹_›
    · right
      show ∃ w ∈ done ++ [v], (st.c.set v (i2 : Int)).getD w (-1) =
        (if (i2 : Int) > st.maxColour then (i2 : Int) else st.maxColour)
      by_cases hgt : (i2 : Int) > st.maxColour
      · exact ⟨v, by simp, by rw [hset_v, if_pos hgt]⟩
      · rw [if_neg hgt]
        rcases hinv.maxat with ⟨_, hm⟩ | ⟨w, hwd, hwe⟩
        · exact absurd (Int.lt_of_lt_of_le (by decide) (Int.natCast_nonneg i2)) (hm ▸ hgt)
        · exact ⟨w, List.mem_append_left _ hwd, by rw [hset_done w hwd]; exact hwe⟩

theorem greedyLoop_inv {g : G} (hw : g.WF) : ∀ (vs done : List Nat) (st : Greedy), GInv g done st →
    (∀ v ∈ vs, v < g.n) → (done ++ vs).Nodup →
    ∃ st', greedyLoop g vs st = .ok st' ∧ GInv g (done ++ vs) st' := by
  intro vs
  induction vs with
  | nil => intro done st hinv _ _; exact ⟨st, rfl, by simpa using hinv⟩
  | cons v vs ih =>
    intro done st hinv hlt hnd
    have hvd : v ∉ done := by
      intro h
      have := List.nodup_append.1 hnd
      exact this.2.2 v h v List.mem_cons_self rfl
    obtain ⟨st1, he1, hinv1⟩ := greedyStep_inv hw hinv (hlt v List.mem_cons_self) hvd
    obtain ⟨st2, he2, hinv2⟩ := ih (done ++ [v]) st1 hinv1 (fun u hu => hlt u (List.mem_cons_of_mem _ hu))
      (by simpa using hnd)
    refine ⟨st2, ?_, by simpa using hinv2⟩
    simp only [greedyLoop, he1, he2]

theorem greedy_init_inv (g : G) :
    GInv g [] { c := List.replicate g.n (-1), seen := List.replicate g.n false, maxColour := -1 } where
  clen := by simp
  slen := by simp
  sfalse := fun j => by
    simp only [List.getD_eq_getElem?_getD, List.getElem?_replicate]
    split <;> rfl
  undone := fun v _ => by
    simp only [List.getD_eq_getElem?_getD, List.getElem?_replicate]
    split <;> rfl
  range := fun v hv => by cases hv
  proper := fun u hu => by cases hu
  ff := fun pre v post h => by simp at h
  maxub := fun v hv => by cases hv
  maxat := Or.inl ⟨rfl, rfl⟩

theorem greedyColor_spec {g : G} (hw : g.WF) {order : List Nat} (hperm : order.Perm (List.range g.n)) :
    ∃ st, greedyColor g order = .ok (st.maxColour, st.c) ∧ GInv g order st := by
  have hl : order.length = g.n := by simpa using hperm.length_eq
  have hnd : order.Nodup := hperm.nodup_iff.2 List.nodup_range
  have hlt : ∀ v ∈ order, v < g.n := fun v hv => List.mem_range.1 (hperm.subset hv)
  obtain ⟨st, he, hinv⟩ := greedyLoop_inv hw order [] _ (greedy_init_inv g) hlt (by simpa using hnd)
  refine ⟨st, ?_, by simpa using hinv⟩
  simp only [greedyColor, hl, bne_self_eq_false, Bool.false_eq_true, if_false, he]

end CliqueColour
