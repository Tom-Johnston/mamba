import Mathlib.Data.List.Chain
import Mamba.Spec.Iter
import Mamba.Lemmas.IterSlice
import Mamba.Model.IterProd
import Mamba.Lemmas.IterChain
import Mamba.Lemmas.IterGeneric
import Mathlib.Data.List.Lex
/-!
# `Product(dims...)` (model `Iter.Prod`)

The specification is in `Spec/Iter.lean`: the list `prodList`, its successor `prodSucc`, membership `InProd`.  `prodList dims`
is a chain of `prodSucc` steps (`prodList_chain`), and `Prod.scan` computes `prodSucc` read from the right (`prodSucc_snoc`,
`prod_scan`).  `Prod.Rep dims s x`: the state shows the tuple `x`; `Prod.Dead`: the `empty` flag is set or the tuple shown
has no successor.  The enumeration theorem is an instance of `enumerates_aux` (IterGeneric).
-/
namespace Iter
open Spec

theorem mem_prodList : ∀ (dims x : List Int), x ∈ prodList dims ↔ InProd dims x := by
  intro dims
  induction dims with
  | nil => intro x; cases x <;> simp [prodList, InProd]
  | cons n ns ih =>
    intro x
    cases x with
    | nil => simp [prodList, InProd]
    | cons a x =>
      simp only [prodList, List.mem_flatMap, List.mem_range, List.mem_map, InProd]
      constructor
      · rintro ⟨b, hb, y, hy, h⟩
        injection h with h1 h2
        subst h1 h2
        exact ⟨by omega, by omega, (ih _).mp hy⟩
      · rintro ⟨h0, h1, h2⟩
        exact ⟨a.toNat, by omega, x, (ih _).mpr h2, by simp [Int.toNat_of_nonneg h0]⟩

theorem prodList_eq_nil_iff : ∀ dims : List Int, prodList dims = [] ↔ ∃ n ∈ dims, n < 1 := by
  intro dims
  induction dims with
  | nil => simp [prodList]
  | cons n ns ih =>
    simp only [prodList, List.flatMap_eq_nil_iff, List.mem_range, List.map_eq_nil_iff, List.mem_cons,
      exists_eq_or_imp]
    rw [ih]
    constructor
    · intro h
      by_cases hn : n < 1
      · exact Or.inl hn
      · exact Or.inr (h 0 (by omega))
    · rintro (h | h)
      · intro a ha; omega
      · intro _ _; exact h

theorem prodList_chain : ∀ dims : List Int,
    (prodList dims).IsChain (fun x y => prodSucc dims x = some y) ∧
    (prodList dims ≠ [] → (prodList dims).head? = some (zeros dims.length) ∧
      ∃ l, (prodList dims).getLast? = some l ∧ prodSucc dims l = none) := by
  intro dims
  induction dims with
  | nil => simp [prodList, prodSucc, zeros]
  | cons n ns ih =>
    obtain ⟨ihc, ihe⟩ := ih
    by_cases hns : prodList ns = []
    · have : prodList (n :: ns) = [] := by simp [prodList, hns]
      simp [this]
    · obtain ⟨hhead, l, hlast, hl⟩ := ihe hns
      have key := isChain_flatMap_range (fun x y => prodSucc (n :: ns) x = some y)
        (fun (a : Nat) => (prodList ns).map (fun x => (a : Int) :: x)) n.toNat
        (by
          intro a _
          rw [List.isChain_map]
          exact ihc.imp (fun x y h => by simp [prodSucc, h]))
        (by intro a _; simpa using hns)
        (by
          intro a ha x hx y hy
          simp only [List.getLast?_map, hlast, Option.map_some, Option.mem_def, Option.some.injEq] at hx
          simp only [List.head?_map, hhead, Option.map_some, Option.mem_def, Option.some.injEq] at hy
          subst hx hy
          have : (a : Int) + 1 < n := by omega
          simp [prodSucc, hl, this])
      refine ⟨key.1, fun hne => ?_⟩
      have hpos : 0 < n.toNat := by
        rcases Nat.eq_zero_or_pos n.toNat with h | h
        · simp [prodList, h] at hne
        · exact h
      obtain ⟨k1, k2⟩ := key.2 hpos
      refine ⟨?_, ?_⟩
      · show ((List.range n.toNat).flatMap _).head? = _
        rw [k2]; simp [hhead, zeros, List.replicate_succ]
      · refine ⟨((n.toNat - 1 : Nat) : Int) :: l, ?_, ?_⟩
        · show ((List.range n.toNat).flatMap _).getLast? = _
          rw [k1]; simp [hlast]
        · have : ¬ (((n.toNat - 1 : Nat) : Int) + 1 < n) := by omega
          simp [prodSucc, hl, this]

theorem prodSucc_snoc : ∀ (dpre pre : List Int) (n a : Int), dpre.length = pre.length →
    prodSucc (dpre ++ [n]) (pre ++ [a]) =
      if a + 1 < n then some (pre ++ [a + 1]) else (prodSucc dpre pre).map (· ++ [0]) := by
  intro dpre
  induction dpre with
  | nil =>
    intro pre n a h
    cases pre with
    | nil => simp [prodSucc, zeros]
    | cons _ _ => simp at h
  | cons d ds ih =>
    intro pre n a h
    cases pre with
    | nil => simp at h
    | cons b p =>
      simp only [List.length_cons, Nat.add_right_cancel_iff] at h
      simp only [List.cons_append, prodSucc, ih p n a h]
      by_cases hn : a + 1 < n
      · simp [hn]
      · simp only [hn, if_false]
        cases hp : prodSucc ds p with
        | some y => simp
        | none =>
          simp only [Option.map_none, List.length_append, List.length_cons, List.length_nil]
          by_cases hb : b + 1 < d
          · simp [hb, zeros, List.replicate_succ']
          · simp [hb]

theorem prod_zero : ∀ (suf pre : List Int),
    Prod.zero suf.length (pre.length : Int) (pre ++ suf) = .ok (pre ++ zeros suf.length) := by
  intro suf
  induction suf with
  | nil => intro pre; simp [Prod.zero, zeros]
  | cons a r ih =>
    intro pre
    have := ih (pre ++ [0])
    simp only [List.length_append, List.length_cons, List.length_nil, List.append_assoc,
      List.cons_append, List.nil_append, Int.natCast_add, Int.natCast_one, Nat.zero_add] at this
    simp [Prod.zero, this, zeros, List.replicate_succ] at this ⊢

theorem prod_scan : ∀ (j : Nat) (pre dpre suf dsuf : List Int), pre.length = j → dpre.length = j →
    suf.length = dsuf.length →
    Prod.scan (dpre ++ dsuf) j (pre ++ suf) = .ok ((prodSucc dpre pre).map (· ++ zeros suf.length)) := by
  intro j
  induction j with
  | zero =>
    intro pre dpre suf dsuf hp hd _
    have : pre = [] := List.length_eq_zero_iff.mp hp
    have : dpre = [] := List.length_eq_zero_iff.mp hd
    subst_vars
    simp [Prod.scan, prodSucc]
  | succ j ih =>
    intro pre dpre suf dsuf hp hd hs
    obtain ⟨pre', a, rfl, hp'⟩ := exists_snoc_of_length_succ hp
    obtain ⟨dpre', n, rfl, hd'⟩ := exists_snoc_of_length_succ hd
    clear hp hd
    rw [prodSucc_snoc dpre' pre' n a (by omega)]
    unfold Prod.scan
    rw [List.append_assoc, List.append_assoc, List.singleton_append, List.singleton_append]
    have hpj : (j : Int) = pre'.length := by rw [hp']
    have hdj : (j : Int) = dpre'.length := by rw [hd']
    simp only [get_at pre' suf a _ hpj, get_at dpre' dsuf n _ hdj, Outcome.bind_ok]
    by_cases hn : a < n - 1
    · have hn' : a + 1 < n := by omega
      simp only [hn, hn', if_true, set_at pre' suf a _ _ hpj, Outcome.bind_ok]
      have z := prod_zero suf (pre' ++ [a + 1])
      simp only [List.length_append, List.length_cons, List.length_nil, Nat.zero_add, hp',
        List.append_assoc, List.cons_append, List.nil_append, Int.natCast_add, Int.natCast_one] at z
      have hl : (pre' ++ (a + 1) :: suf).length - (j + 1) = suf.length := by simp [hp']; omega
      rw [hl, z]
      simp
    · have hn' : ¬ a + 1 < n := by omega
      simp only [hn, hn', if_false]
      have := ih pre' dpre' (a :: suf) (n :: dsuf) hp' hd' (by simp [hs])
      rw [this]
      cases prodSucc dpre' pre' with
      | none => simp
      | some y => simp [zeros, List.replicate_succ]

theorem prodSucc_length : ∀ (dims x y : List Int), prodSucc dims x = some y → y.length = dims.length
  | [], x, y, h => by cases x <;> simp [prodSucc] at h
  | _ :: _, [], y, h => by simp [prodSucc] at h
  | n :: ns, a :: x, y, h => by
    simp only [prodSucc] at h
    split at h
    · next z hz => cases h; simp [prodSucc_length ns x z hz]
    · split at h
      · cases h; simp [zeros]
      · cases h

theorem prodSucc_lt : ∀ (dims x y : List Int), prodSucc dims x = some y → x < y
  | [], x, y, h => by cases x <;> simp [prodSucc] at h
  | _ :: _, [], y, h => by simp [prodSucc] at h
  | n :: ns, a :: x, y, h => by
    simp only [prodSucc] at h
    split at h
    · next z hz => cases h; exact List.cons_lt_cons_iff.mpr (Or.inr ⟨rfl, prodSucc_lt ns x z hz⟩)
    · split at h
      · cases h; exact List.cons_lt_cons_iff.mpr (Or.inl (by omega))
      · cases h

theorem prodList_sorted (dims : List Int) : (prodList dims).Pairwise (· < ·) :=
  List.isChain_iff_pairwise.mp ((prodList_chain dims).1.imp (fun _ _ h => prodSucc_lt dims _ _ h))

theorem prod_scan_full (dims st : List Int) (h : st.length = dims.length) :
    Prod.scan dims st.length st = .ok (prodSucc dims st) := by
  have := prod_scan st.length st dims [] [] rfl h.symm rfl
  simp only [List.append_nil, zeros] at this
  rw [this]
  cases prodSucc dims st <;> simp

def Prod.Rep (dims : List Int) (s : Prod) (x : List Int) : Prop :=
  s.n = dims ∧ s.state = x ∧ x.length = dims.length ∧ s.empty = dims.isEmpty

def Prod.Dead (dims : List Int) (s : Prod) : Prop :=
  s.n = dims ∧ s.state.length = dims.length ∧ (s.empty = true ∨ (prodSucc dims s.state = none ∧ dims ≠ []))

theorem Prod.next_dead (dims : List Int) (s : Prod) (h : Prod.Dead dims s) :
    ∃ s', Prod.next s = .ok (s', false) ∧ Prod.Dead dims s' := by
  obtain ⟨hn, hl, hd⟩ := h
  unfold Prod.next
  rw [hn, prod_scan_full dims s.state hl]
  rcases hd with he | ⟨hs, hne⟩
  · cases hp : prodSucc dims s.state with
    | some y =>
      refine ⟨{ s with state := y }, by simp [he, hn], hn, ?_, Or.inl he⟩
      simp [prodSucc_length dims _ _ hp]
    | none => exact ⟨s, by simp [he], hn, hl, Or.inl he⟩
  · refine ⟨s, ?_, hn, hl, Or.inr ⟨hs, hne⟩⟩
    have : s.state.length ≠ 0 := by
      rw [hl]; intro h0; exact hne (List.length_eq_zero_iff.mp h0)
    simp [hs, this]

theorem Prod.next_step (dims : List Int) (x y : List Int) (hxy : prodSucc dims x = some y) (s : Prod)
    (h : Prod.Rep dims s x) : ∃ s', Prod.next s = .ok (s', true) ∧ Prod.Rep dims s' y := by
  obtain ⟨hn, hs, hl, he⟩ := h
  have hne : dims ≠ [] := by
    rintro rfl; cases x <;> simp [prodSucc] at hxy
  have he' : s.empty = false := by
    rw [he]; cases dims with
    | nil => exact absurd rfl hne
    | cons _ _ => rfl
  refine ⟨{ s with state := y }, ?_, hn, rfl, prodSucc_length dims x y hxy, ?_⟩
  · unfold Prod.next
    rw [hn, hs, prod_scan_full dims x hl, hxy]
    simp [he']
  · simpa using he

theorem Prod.init_eq (dims : List Int) :
    Prod.init dims = .ok ⟨if dims = [] then [] else zeros (dims.length - 1) ++ [-1], dims,
      dims.any (fun v => v < 1)⟩ := by
  unfold Prod.init make
  have h0 : ¬ ((dims.length : Int) < 0) := by omega
  simp only [h0, if_false, Int.toNat_natCast, Outcome.bind_ok, Outcome.pure_eq]
  cases hd : dims.length with
  | zero =>
    have : dims = [] := List.length_eq_zero_iff.mp hd
    simp [this]
  | succ m =>
    have hne : dims ≠ [] := by intro h; simp [h] at hd
    have e : ((m + 1 : Nat) : Int) - 1 = (m : Int) := by omega
    have r : List.replicate (m + 1) (0 : Int) = List.replicate m 0 ++ [0] := List.replicate_succ'
    have hpos : ((m + 1 : Nat) : Int) > 0 := by omega
    simp only [hpos, if_true, e, r, hne, if_false]
    have := set_append_length (List.replicate m (0:Int)) [] 0 (-1)
    simp only [List.length_replicate] at this
    simp [this, zeros]

theorem Prod.enumerates_lemma (dims : List Int) :
    ∃ s0, Prod.init dims = .ok s0 ∧ ∀ bound, (prodList dims).length < bound →
      ∃ s', outputs Prod.it bound s0 = (prodList dims, s', .exhausted) ∧
        ∀ k, extras Prod.it k s' = .ok (List.replicate k none) := by
  refine ⟨_, Prod.init_eq dims, fun bound hb => ?_⟩
  obtain ⟨hchain, hends⟩ := prodList_chain dims
  have hinitlen : (if dims = [] then [] else zeros (dims.length - 1) ++ [-1] : List Int).length = dims.length := by
    cases dims with
    | nil => simp
    | cons a l => simp [zeros]
  obtain ⟨s', h1, _, h3⟩ := enumerates_aux Prod.it (Prod.Rep dims) (Prod.Dead dims)
    (fun x y => prodSucc dims x = some y)
    (⟨if dims = [] then [] else zeros (dims.length - 1) ++ [-1], dims, dims.any (fun v => v < 1)⟩ : Prod)
    (prodList dims) hchain
    (by
      rintro s x ⟨hn, hs, hl, he⟩
      exact ⟨s, by simp [Prod.it, hs], hn, hs, hl, he⟩)
    (by
      intro hnil
      apply Prod.next_dead
      refine ⟨rfl, hinitlen, Or.inl ?_⟩
      obtain ⟨n, hn, hlt⟩ := (prodList_eq_nil_iff dims).mp hnil
      simp only [List.any_eq_true, decide_eq_true_eq]
      exact ⟨n, hn, hlt⟩)
    (by
      intro x hx
      have hne : prodList dims ≠ [] := by intro h; simp [h] at hx
      obtain ⟨hhead, _⟩ := hends hne
      rw [hhead] at hx
      simp only [Option.mem_def, Option.some.injEq] at hx
      subst hx
      have hall : ∀ n ∈ dims, ¬ n < 1 := by
        intro n hn hlt
        exact hne ((prodList_eq_nil_iff dims).mpr ⟨n, hn, hlt⟩)
      have hany : dims.any (fun v => decide (v < 1)) = false := by
        simp only [List.any_eq_false, decide_eq_true_eq]
        exact hall
      rcases List.eq_nil_or_concat dims with rfl | ⟨dpre, n, hcc⟩
      on_goal 2 => rw [List.concat_eq_append] at hcc; subst hcc
      · exact ⟨⟨[], [], true⟩, by simp [Prod.it, Prod.next, Prod.scan], rfl, rfl, rfl, rfl⟩
      · have hn1 : ¬ n < 1 := hall n (by simp)
        refine ⟨⟨zeros (dpre ++ [n]).length, dpre ++ [n], false⟩, ?_, rfl, rfl, by simp [zeros], by simp⟩
        have hne' : dpre ++ [n] ≠ [] := by simp
        have hlen1 : (dpre ++ [n]).length - 1 = dpre.length := by simp
        have hl : (zeros dpre.length ++ [-1]).length = (dpre ++ [n]).length := by simp [zeros]
        have hscan := prod_scan_full (dpre ++ [n]) (zeros dpre.length ++ [-1]) hl
        rw [prodSucc_snoc dpre (zeros dpre.length) n (-1) (by simp [zeros])] at hscan
        have hlt : (-1 : Int) + 1 < n := by omega
        simp only [hlt, if_true] at hscan
        simp only [Prod.it, Prod.next, hne', if_false, hany, hlen1, hscan]
        simp [zeros, List.replicate_succ'])
    (fun x y hxy s hs => Prod.next_step dims x y hxy s hs)
    (by
      intro x hx s hs
      have hne : prodList dims ≠ [] := by intro h; simp [h] at hx
      obtain ⟨_, l, hlast, hl⟩ := hends hne
      rw [hlast] at hx
      simp only [Option.mem_def, Option.some.injEq] at hx
      subst hx
      obtain ⟨hn, hst, hlen, he⟩ := hs
      apply Prod.next_dead
      refine ⟨hn, by rw [hst, hlen], ?_⟩
      cases dims with
      | nil => exact Or.inl (by simpa using he)
      | cons a r => exact Or.inr ⟨by rw [hst]; exact hl, by simp⟩)
    (fun s hs => Prod.next_dead dims s hs) bound hb
  exact ⟨s', h1, h3⟩

end Iter
