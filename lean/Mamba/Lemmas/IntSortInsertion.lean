import Mamba.Lemmas.IntSortPerm
/-! Lemmas for C17 (`ints.Sort`): element access through Go indices (`vi`), the effect of a swap, range
rearrangement (`RP`), and the correctness of `insertionSort`. -/
namespace IntSort

theorem get_ok_iff {d : Data} {i v : Int} : get d i = .ok v ↔ (0 ≤ i ∧ i < d.size ∧ v = vi d i) := by
  unfold get vi
  by_cases h0 : 0 ≤ i
  · simp only [h0, if_true, true_and]
    by_cases h1 : i.toNat < d.size
    · have : i < d.size := by omega
      simp [h1, this, eq_comm]
    · have : ¬ i < d.size := by omega
      simp [h1, this]
  · simp [h0]

theorem lt_ok_iff {d : Data} {i j : Int} {r : Bool} :
    lt d i j = .ok r ↔ (0 ≤ i ∧ i < d.size ∧ 0 ≤ j ∧ j < d.size ∧ r = decide (vi d i < vi d j)) := by
  unfold lt
  constructor
  · intro h
    split at h
    · rename_i x y hx hy
      rw [get_ok_iff] at hx hy
      obtain ⟨a1, a2, rfl⟩ := hx
      obtain ⟨b1, b2, rfl⟩ := hy
      cases h
      exact ⟨a1, a2, b1, b2, rfl⟩
    · cases h
  · rintro ⟨a1, a2, b1, b2, rfl⟩
    rw [get_ok_iff.mpr ⟨a1, a2, rfl⟩, get_ok_iff.mpr ⟨b1, b2, rfl⟩]

theorem lt_total {d : Data} {i j : Int} (hi0 : 0 ≤ i) (hi : i < d.size) (hj0 : 0 ≤ j) (hj : j < d.size) :
    lt d i j = .ok (decide (vi d i < vi d j)) :=
  lt_ok_iff.mpr ⟨hi0, hi, hj0, hj, rfl⟩

theorem swap_total {d : Data} {i j : Int} (hi0 : 0 ≤ i) (hi : i < d.size) (hj0 : 0 ≤ j) (hj : j < d.size) :
    ∃ d', swap d i j = .ok d' :=
  ⟨_, dif_pos ⟨hi0, by omega, hj0, by omega⟩⟩

theorem swap_size {d d' : Data} {i j : Int} (h : swap d i j = .ok d') : d'.size = d.size := by
  obtain ⟨_, _, _, _, rfl⟩ := swap_ok h
  exact Array.size_swap

theorem swap_vi_other {d d' : Data} {i j k : Int} (h : swap d i j = .ok d') (h1 : k ≠ i) (h2 : k ≠ j) :
    vi d' k = vi d k := by
  obtain ⟨hi, hj, hi0, hj0, rfl⟩ := swap_ok h
  unfold vi
  split
  · rw [Array.getElem?_swap, if_neg (by omega), if_neg (by omega)]
  · rfl

theorem swap_vi_right {d d' : Data} {i j : Int} (h : swap d i j = .ok d') : vi d' j = vi d i := by
  obtain ⟨hi, hj, hi0, hj0, rfl⟩ := swap_ok h
  unfold vi
  rw [if_pos hj0, if_pos hi0, Array.getElem?_swap, if_pos rfl, Array.getElem?_eq_getElem hi]

theorem swap_vi_left {d d' : Data} {i j : Int} (h : swap d i j = .ok d') : vi d' i = vi d j := by
  by_cases hij : i = j
  · subst hij; exact swap_vi_right h
  obtain ⟨hi, hj, hi0, hj0, rfl⟩ := swap_ok h
  unfold vi
  rw [if_pos hj0, if_pos hi0, Array.getElem?_swap, if_neg (by omega), if_pos rfl, Array.getElem?_eq_getElem hj]

theorem RP.refl (a b : Int) (d : Data) : RP a b d d :=
  ⟨rfl, fun _ _ => rfl, fun k h1 h2 => ⟨k, h1, h2, rfl⟩⟩

theorem RP.trans {a b : Int} {d1 d2 d3 : Data} (h1 : RP a b d1 d2) (h2 : RP a b d2 d3) : RP a b d1 d3 := by
  obtain ⟨s1, f1, m1⟩ := h1
  obtain ⟨s2, f2, m2⟩ := h2
  refine ⟨s2.trans s1, fun k hk => (f2 k hk).trans (f1 k hk), fun k hk1 hk2 => ?_⟩
  obtain ⟨k', a1, a2, e1⟩ := m2 k hk1 hk2
  obtain ⟨k'', b1, b2, e2⟩ := m1 k' a1 a2
  exact ⟨k'', b1, b2, e1.trans e2⟩

theorem RP.mono {a b a' b' : Int} {d d' : Data} (h : RP a b d d') (ha : a' ≤ a) (hb : b ≤ b') : RP a' b' d d' := by
  obtain ⟨s1, f1, m1⟩ := h
  refine ⟨s1, fun k hk => f1 k (by omega), fun k hk1 hk2 => ?_⟩
  by_cases hin : a ≤ k ∧ k < b
  · obtain ⟨k', a1, a2, e1⟩ := m1 k hin.1 hin.2
    exact ⟨k', by omega, by omega, e1⟩
  · exact ⟨k, hk1, hk2, f1 k (by omega)⟩

theorem RP.of_swap {a b : Int} {d d' : Data} {i j : Int} (h : swap d i j = .ok d')
    (hi : a ≤ i ∧ i < b) (hj : a ≤ j ∧ j < b) : RP a b d d' := by
  refine ⟨swap_size h, fun k hk => swap_vi_other h (by omega) (by omega), fun k hk1 hk2 => ?_⟩
  by_cases h1 : k = i
  · exact ⟨j, hj.1, hj.2, h1 ▸ swap_vi_left h⟩
  · by_cases h2 : k = j
    · exact ⟨i, hi.1, hi.2, h2 ▸ swap_vi_right h⟩
    · exact ⟨k, hk1, hk2, swap_vi_other h h1 h2⟩

theorem swapIfLt_spec (d : Data) (i j a b : Int) (hi : a ≤ i ∧ i < b) (hj : a ≤ j ∧ j < b) (h0 : 0 ≤ a) (hb : b ≤ d.size) :
    ∃ d', swapIfLt d i j = .ok d' ∧ RP a b d d' ∧
      ((vi d i < vi d j ∧ swap d i j = .ok d') ∨ (¬ vi d i < vi d j ∧ d' = d)) := by
  unfold swapIfLt
  rw [lt_total (by omega) (by omega) (by omega) (by omega)]
  by_cases h : vi d i < vi d j
  · simp only [h, decide_true]
    obtain ⟨d', hs⟩ := swap_total (d := d) (i := i) (j := j) (by omega) (by omega) (by omega) (by omega)
    exact ⟨d', hs, RP.of_swap hs hi hj, Or.inl ⟨trivial, hs⟩⟩
  · simp only [h, decide_false]
    exact ⟨d, rfl, RP.refl _ _ _, Or.inr ⟨fun h => h, rfl⟩⟩

/-- The inner loop of insertion sort.  Invariant: `data[a:i+1]` is sorted except that `data[j]` may be smaller
than elements before it, i.e. every pair `p < q` with `q ≠ j` is in order. -/
theorem insertInner_spec (a i : Int) (h0 : 0 ≤ a) : ∀ (n : Nat) (d : Data) (j : Int), (j - a).toNat = n → a ≤ j →
    j ≤ i → i < d.size → (∀ p q, a ≤ p → p < q → q ≤ i → q ≠ j → vi d p ≤ vi d q) →
    ∃ d', insertInner d a j = .ok d' ∧ RP a (i+1) d d' ∧ SortedOn a (i+1) d' := by
  intro n
  induction n with
  | zero =>
    intro d j hn haj hji his hinv
    rw [insertInner, dif_neg (by omega)]
    exact ⟨d, rfl, RP.refl _ _ _, fun p q h1 h2 h3 => hinv p q h1 h2 (by omega) (by omega)⟩
  | succ n ih =>
    intro d j hn haj hji his hinv
    replace ih := fun d => ih d (j - 1) (by omega)
    have B : a < j ∧ 0 ≤ j - 1 ∧ j < d.size ∧ 0 ≤ j ∧ j - 1 < d.size ∧ a ≤ j - 1 ∧ j - 1 ≤ i ∧ j - 1 < i + 1 ∧
        j < i + 1 := by omega
    obtain ⟨haj', hj1, hjs, hj0, hj1s, haj1, hj1i, b8, b9⟩ := B
    clear hn
    rw [insertInner, dif_pos haj', lt_total hj0 hjs hj1 hj1s]
    by_cases hlt : vi d j < vi d (j - 1)
    · obtain ⟨d1, hsw⟩ := swap_total (d := d) (i := j) (j := j - 1) hj0 hjs hj1 hj1s
      simp only [hlt, decide_true, hsw]
      have hinv1 : ∀ p q, a ≤ p → p < q → q ≤ i → q ≠ j - 1 → vi d1 p ≤ vi d1 q := by
        intro p q h1 h2 h3 h4
        by_cases hq : q = j
        · rw [hq, swap_vi_left hsw]
          by_cases hp : p = j - 1
          · rw [hp, swap_vi_right hsw]; omega
          · rw [swap_vi_other hsw (by omega) hp]; exact hinv p (j - 1) h1 (by omega) (by omega) (by omega)
        · rw [swap_vi_other hsw hq h4]
          by_cases hp : p = j
          · rw [hp, swap_vi_left hsw]; exact hinv (j - 1) q (by omega) (by omega) h3 hq
          · by_cases hp' : p = j - 1
            · rw [hp', swap_vi_right hsw]; exact hinv j q (by omega) (by omega) h3 hq
            · rw [swap_vi_other hsw hp hp']; exact hinv p q h1 h2 h3 hq
      obtain ⟨d', hr, hrp, hso⟩ := ih d1 haj1 hj1i (by rw [swap_size hsw]; exact his) hinv1
      exact ⟨d', hr, (RP.of_swap hsw ⟨haj, b9⟩ ⟨haj1, b8⟩).trans hrp, hso⟩
    · simp only [hlt, decide_false]
      refine ⟨d, rfl, RP.refl _ _ _, fun p q h1 h2 h3 => ?_⟩
      by_cases hq : q = j
      · by_cases hp : p = j - 1
        · rw [hq, hp]; omega
        · have := hinv p (j - 1) h1 (by omega) (by omega) (by omega)
          rw [hq]; omega
      · exact hinv p q h1 h2 (by omega) hq

theorem insertOuter_spec (a b : Int) (h0 : 0 ≤ a) : ∀ (n : Nat) (d : Data) (i : Int), (b - i).toNat = n → a < i →
    b ≤ d.size → SortedOn a i d → ∃ d', insertOuter d a b i = .ok d' ∧ RP a b d d' ∧ SortedOn a b d' := by
  intro n
  induction n with
  | zero =>
    intro d i hn hai hb hso
    rw [insertOuter, dif_neg (by omega)]
    exact ⟨d, rfl, RP.refl _ _ _, fun p q h1 h2 h3 => hso p q h1 h2 (by omega)⟩
  | succ n ih =>
    intro d i hn hai hb hso
    replace ih := fun d => ih d (i + 1) (by omega)
    have B : i < b ∧ i < d.size ∧ a < i + 1 ∧ i + 1 ≤ b := by omega
    clear hn
    obtain ⟨d1, hr, hrp, hs1⟩ := insertInner_spec a i h0 _ d i rfl (Int.le_of_lt hai) (Int.le_refl _) B.2.1
      (fun p q h1 h2 h3 h4 => hso p q h1 h2 (by omega))
    rw [insertOuter, dif_pos B.1, hr]
    obtain ⟨d', hr', hrp', hs'⟩ := ih d1 B.2.2.1 (by rw [hrp.1]; exact hb) hs1
    exact ⟨d', hr', (hrp.mono (Int.le_refl _) B.2.2.2).trans hrp', hs'⟩

theorem insertionSort_spec (d : Data) (a b : Int) (h0 : 0 ≤ a) (hb : b ≤ d.size) :
    ∃ d', insertionSort d a b = .ok d' ∧ RP a b d d' ∧ SortedOn a b d' :=
  insertOuter_spec a b h0 _ d (a+1) rfl (by omega) hb (fun p q h1 h2 h3 => by omega)

end IntSort
