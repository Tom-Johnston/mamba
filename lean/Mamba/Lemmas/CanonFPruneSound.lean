import Mamba.Lemmas.CanonFTreeFinal
import Mamba.Lemmas.CanonFTreeRefine
import Mamba.Lemmas.CanonFTree
import Mamba.Lemmas.CanonFTreeCert
import Mamba.Lemmas.CanonFGens
import Mamba.Lemmas.CanonFPrune
import Mamba.Lemmas.IRAut
import Mamba.Lemmas.IRClasses
import Mamba.Lemmas.IRLeafPos
/-!
# Soundness of the prunings of the faithful search at the level of the IR tree

All three prunings are justified by statements about `IR.CertBelow`, the leaf certificates below a node of the unpruned
tree.

* Automorphisms. Two leaves below a node `ν` with the same certificate give the automorphism `transport n o1 o2`
  (`aut_of_cert`, `CanonFAut.lean`); it preserves the colouring of `ν` (`transport_preserves`), and a colour-preserving
  automorphism `γ` maps the subtree of the child `v` onto the subtree of the child `γ v` (`certBelow_child_autL_iff`, from
  `IR.certBelow_child_aut_iff`): `equal_leaves_subtrees`. Hence the backjump (Heuristic 1, `backjump_sound`) and the orbit
  pruning (Heuristic 2, `deferred_root_sound`: vertices connected by colour-preserving generators, `eqvGen_subtree`) skip
  only children whose leaf certificates occur below a child that is visited.
* Partial certificates. The partition in which the refinement aborts with "worse" is coarser than, and order-compatible
  with, the complete IR refinement (`refine_worse_mono`); a leaf below a node that refines the colouring of a partition
  `op` monotonically has the order of `op` on the singleton prefix of `op` (`leaf_below_prefix`); so if `worseTest` holds
  for the certificate of that prefix, every leaf below the node has a certificate smaller than `currentBest`
  (`worse_complete`, from `worseTest_sound`).

The search proof uses `certBelow_child_autL_iff` for an arbitrary property of subtrees (`Heritable`, `CanonFHeritable.lean`:
`Heritable.eqvGen`, `Heritable.of_deferred`; `Heritable.backjump`, `CanonFCovBackjump.lean`) and `refine_worse_mono`,
`worse_complete` through `WorseCut` (`CanonFCovWorse.lean`); `equal_leaves_subtrees`, `eqvGen_subtree`, `deferred_root_sound`,
`backjump_sound` say the same for the set of leaf certificates itself and are what section (g) of `Props/C01F.lean` states.
-/
namespace CanonF

section

theorem relabel_of_isAutL {n : Nat} {nb : Nbrs} {γ : List Nat} (hnb : NbOK nb n) (h : IsAutL nb n γ) :
    ∃ τ : Nat → Nat, IR.Relabel (irG n nb) (irG n nb) (fun v => γ.getD v 0) τ := by
  obtain ⟨hperm, hadj⟩ := h
  obtain ⟨hl, hnd, hmem⟩ := perm_range_facts hperm
  have hleft : ∀ v, v < n → γ.idxOf (γ.getD v 0) = v := fun v hv => idxOf_getD hnd (by omega)
  have hright : ∀ v, v < n → γ.getD (γ.idxOf v) 0 = v := fun v hv => getD_idxOf ((hmem v).2 hv)
  have hσ : ∀ v, v < n → γ.getD v 0 < n := fun v hv => (hmem _).1 (getD_mem (by omega))
  have hτ : ∀ v, v < n → γ.idxOf v < n := fun v hv => by
    rw [← hl]; exact List.idxOf_lt_length_of_mem ((hmem v).2 hv)
  refine ⟨fun w => γ.idxOf w, IR.Relabel.of_mem rfl hleft hright hσ hτ (fun v _ w hw => (hnb.lt v w hw).2)
    (fun v _ => hnb.nodup v) (fun v _ => hnb.nodup _) fun v hv a => ?_⟩
  show a ∈ nb.getD (γ.getD v 0) [] ↔ ∃ w, w ∈ nb.getD v [] ∧ γ.getD w 0 = a
  constructor
  · intro ha
    have han : a < n := (hnb.lt _ _ ha).2
    refine ⟨γ.idxOf a, ?_, hright a han⟩
    rw [hadj v (γ.idxOf a) hv (hτ a han), hright a han]
    exact ha
  · rintro ⟨w, hw, rfl⟩
    exact (hadj v w hv (hnb.lt _ _ hw).2).1 hw

theorem isPerm_idxOf {n : Nat} {o : List Nat} (h : o.Perm (List.range n)) :
    IR.IsPerm n (IR.tab n (fun v => o.idxOf v)) := by
  obtain ⟨hl, hnd, hmem⟩ := perm_range_facts h
  constructor
  · intro v hv
    rw [IR.col_tab _ hv, ← hl]
    exact List.idxOf_lt_length_of_mem ((hmem v).2 hv)
  · intro u v hu hv e
    rw [IR.col_tab _ hu, IR.col_tab _ hv] at e
    rw [← getD_idxOf ((hmem u).2 hu), ← getD_idxOf ((hmem v).2 hv), e]

theorem transport_preserves {n : Nat} {o1 o2 : List Nat} (h1 : o1.Perm (List.range n)) (h2 : o2.Perm (List.range n))
    {c0 : Array Nat}
    (hm1 : IR.Mono n c0 (IR.tab n (fun v => o1.idxOf v))) (hm2 : IR.Mono n c0 (IR.tab n (fun v => o2.idxOf v))) :
    ∀ v, v < n → IR.col c0 ((transport n o1 o2).getD v 0) = IR.col c0 v := by
  intro v hv
  obtain ⟨hl1, hnd1, hmem1⟩ := perm_range_facts h1
  obtain ⟨hl2, hnd2, hmem2⟩ := perm_range_facts h2
  have hi : o1.idxOf v < n := by rw [← hl1]; exact List.idxOf_lt_length_of_mem ((hmem1 v).2 hv)
  have hx : (transport n o1 o2).getD v 0 < n := by
    rw [aut_transport_getD hv]
    exact (hmem2 _).1 (getD_mem (by omega))
  apply IR.same_class_of_leaves (isPerm_idxOf h1) (isPerm_idxOf h2) hm1 hm2 hv hx
  rw [IR.col_tab _ hx, IR.col_tab _ hv, aut_transport_getD hv]
  exact idxOf_getD hnd2 (by omega)

theorem certBelow_child_autL_iff {n : Nat} {nb : Nbrs} (hnb : NbOK nb n) (rf : Nat) {ν : IR.St} {γ : List Nat}
    (haut : IsAutL nb n γ) (hcol : ∀ v, v < n → IR.col ν.c (γ.getD v 0) = IR.col ν.c v)
    {v : Nat} (hv : v < n) (t : Nat) (x : List Nat) :
    IR.CertBelow (irG n nb) rf (IR.childSt (irG n nb) rf ν t (γ.getD v 0)) x ↔
      IR.CertBelow (irG n nb) rf (IR.childSt (irG n nb) rf ν t v) x := by
  obtain ⟨τ, R⟩ := relabel_of_isAutL hnb haut
  have hS : IR.SRel (irG n nb) (fun v => γ.getD v 0) ν ν := ⟨fun u hu => hcol u hu, rfl, rfl⟩
  exact IR.certBelow_child_aut_iff R rf hS (t := t) (v := v) hv

theorem equal_leaves_subtrees {n : Nat} {nb : Nbrs} (hnb : NbOK nb n) (rf : Nat) {s : IR.St} {o1 o2 : List Nat}
    (h1 : o1.Perm (List.range n)) (h2 : o2.Perm (List.range n))
    (hm1 : IR.Mono n s.c (IR.tab n (fun v => o1.idxOf v))) (hm2 : IR.Mono n s.c (IR.tab n (fun v => o2.idxOf v)))
    (hc : certPos nb o1 n = certPos nb o2 n) {t v : Nat} (hv : v < n) (x : List Nat) :
    IR.CertBelow (irG n nb) rf (IR.childSt (irG n nb) rf s t ((transport n o1 o2).getD v 0)) x ↔
      IR.CertBelow (irG n nb) rf (IR.childSt (irG n nb) rf s t v) x :=
  certBelow_child_autL_iff hnb rf (aut_of_cert hnb h1 h2 hc) (transport_preserves h1 h2 hm1 hm2) hv t x

end

section
open Relation

theorem eqvGen_subtree {n : Nat} {nb : Nbrs} (hnb : NbOK nb n) (rf : Nat) {ν : IR.St} {S : List Nat → Prop}
    (hS : ∀ γ, S γ → IsAutL nb n γ ∧ ∀ v, v < n → IR.col ν.c (γ.getD v 0) = IR.col ν.c v)
    {a b : Nat} (ha : a < n) (h : EqvGen (fun x y => ∃ γ, S γ ∧ γ[x]? = some y) a b) :
    b < n ∧ IR.col ν.c b = IR.col ν.c a ∧
      ∀ t x, IR.CertBelow (irG n nb) rf (IR.childSt (irG n nb) rf ν t b) x ↔
        IR.CertBelow (irG n nb) rf (IR.childSt (irG n nb) rf ν t a) x :=
  eqvGen_le (fun γ hγ => (hS γ hγ).1.1)
    (R := fun a b => IR.col ν.c b = IR.col ν.c a ∧
      ∀ t x, IR.CertBelow (irG n nb) rf (IR.childSt (irG n nb) rf ν t b) x ↔
        IR.CertBelow (irG n nb) rf (IR.childSt (irG n nb) rf ν t a) x)
    (fun _ _ => ⟨rfl, fun _ _ => Iff.rfl⟩) (fun _ _ _ _ h => ⟨h.1.symm, fun t x => (h.2 t x).symm⟩)
    (fun _ _ _ _ _ _ h h' => ⟨h'.1.trans h.1, fun t x => (h'.2 t x).trans (h.2 t x)⟩)
    (fun γ hγ a ha => ⟨(hS γ hγ).2 a ha, certBelow_child_autL_iff hnb rf (hS γ hγ).1 (hS γ hγ).2 ha⟩) ha h

theorem deferred_root_sound {n : Nat} {nb : Nbrs} (hnb : NbOK nb n) (rf : Nat) {ν : IR.St} {gens : Array (Sl Nat)}
    {ngens : Nat} {ds : Disjoint.DS}
    (hgens : ∀ k, k < ngens → ∃ γ, gens[k]? = some γ ∧ IsAutL nb n γ.toList ∧
      ∀ v, v < n → IR.col ν.c (γ.toList.getD v 0) = IR.col ν.c v)
    (horb : ∀ a b, a < n → b < n → Disjoint.rep ds a = Disjoint.rep ds b → EqvGen (GenRelA gens ngens) a b)
    {w ρ : Nat} (hw : w < n) (hρ : ρ < n) (hrep : Disjoint.rep ds ρ = Disjoint.rep ds w) :
    IR.col ν.c ρ = IR.col ν.c w ∧
      ∀ t x, IR.CertBelow (irG n nb) rf (IR.childSt (irG n nb) rf ν t ρ) x ↔
        IR.CertBelow (irG n nb) rf (IR.childSt (irG n nb) rf ν t w) x := by
  have hS : ∀ γ, (∃ k g, k < ngens ∧ gens[k]? = some g ∧ g.toList = γ) →
      IsAutL nb n γ ∧ ∀ v, v < n → IR.col ν.c (γ.getD v 0) = IR.col ν.c v := by
    rintro γ ⟨k, g, hk, hg, rfl⟩
    obtain ⟨g', hg', h1, h2⟩ := hgens k hk
    rw [hg] at hg'
    cases hg'
    exact ⟨h1, h2⟩
  have h := horb w ρ hw hρ hrep.symm
  have h' : EqvGen (fun x y => ∃ γ, (∃ k g, k < ngens ∧ gens[k]? = some g ∧ g.toList = γ) ∧ γ[x]? = some y) w ρ := by
    apply eqvGen_of_imp _ h
    rintro x y ⟨k, g, hk, hg, e⟩
    exact EqvGen.rel _ _ ⟨g.toList, ⟨k, g, hk, hg, rfl⟩, e⟩
  exact (eqvGen_subtree hnb rf hS hw h').2

theorem backjump_sound {n : Nat} {nb : Nbrs} (hnb : NbOK nb n) (rf : Nat) {ν : IR.St} {o1 o2 : List Nat}
    (h1 : o1.Perm (List.range n)) (h2 : o2.Perm (List.range n))
    (hm1 : IR.Mono n ν.c (IR.tab n (fun v => o1.idxOf v))) (hm2 : IR.Mono n ν.c (IR.tab n (fun v => o2.idxOf v)))
    (hc : certPos nb o1 n = certPos nb o2 n) {t b c : Nat} (hb : b < n) (hpos : o2[o1.idxOf b]? = some c)
    (x : List Nat) :
    IR.CertBelow (irG n nb) rf (IR.childSt (irG n nb) rf ν t c) x ↔
      IR.CertBelow (irG n nb) rf (IR.childSt (irG n nb) rf ν t b) x := by
  have e : (transport n o1 o2).getD b 0 = c := by
    rw [aut_transport_getD hb, List.getD_eq_getElem?_getD, hpos, Option.getD_some]
  rw [← e]
  exact equal_leaves_subtrees hnb rf h1 h2 hm1 hm2 hc hb x

end

section

theorem refine_worse_mono {n : Nat} {nb : Nbrs} {cb fl : Sl Nat} {opts : Options} {op op' : OP} {sc sc' : Scratch}
    {s : IR.St}
    (hp : PartInv n op) (ha : AgeInv op) (hsc : ScratchOK n sc) (htl : sc.timesSeen.len = n) (hb : BtcInv op)
    (hnb : NbOK nb n) (hm : Match n op s) (hv : opts.checkViability = false)
    (hr : refine nb cb fl opts op sc = .ok (true, op', sc')) (rf : Nat) (hrf : 3 * n + 3 ≤ rf) :
    IR.Mono n (colOf n op') (IR.refine (irG n nb) rf s).c ∧ worseTest op'.value cb fl = .ok true := by
  unfold refine at hr
  rw [hp.lenOrder] at hr
  obtain ⟨j, hj, ⟨hw, _⟩ | ⟨_, opk, sck, sk, hpk, hak, hsk, htwk, htlk, hbk, hmk, hek, hposk, hitk⟩⟩ :=
    refineLoop_passes stablePerm refineIterCol IR.pass_char hnb hp ha hsc.scrInv hsc.wfT htl hb hm hr
  · cases hw
  obtain ⟨i, hil, himem, hmax, hord, hw⟩ :=
    refineIter_worse_col stablePerm countLoop_sem hpk hak hsk htwk htlk hbk hposk hnb hv hitk
  refine ⟨?_, hw⟩
  have hiw : i ∈ sk.work := (hmk.work i).2 himem
  have hmaxw : ∀ x ∈ sk.work, x ≤ i := by
    intro x hx
    have := hmax _ ((hmk.work x).1 hx)
    exact Int.ofNat_le.1 this
  obtain ⟨hpop, _⟩ := popMax_spec hmk.nodup hiw hmaxw
  unfold refineFuel at hj
  obtain ⟨k', rfl⟩ : ∃ k', rf = (k' + 1) + j := ⟨rf - j - 1, by omega⟩
  have e : IR.refine (irG n nb) (k' + 1) sk = IR.refine (irG n nb) k' (IR.pass (irG n nb) sk i (sk.work.erase i)) := by
    rw [IR.refine, hpop]
  rw [hek, e]
  have hg := irG_wf hnb
  have hcol : ∀ v, v < n → IR.col sk.c v = cellOf opk v := fun _ hv => hmk.col_eq hv
  have hcnt : ∀ v, IR.cnt (irG n nb) sk.c i v = cntIn nb opk i v := hmk.cnt_eq hnb i
  have h1 : IR.Mono n (colOf n op') (IR.pass (irG n nb) sk i (sk.work.erase i)).c := by
    intro u v hu hvn hlt
    rw [col_colOf hu, col_colOf hvn] at hlt
    have := hord u v hu hvn hlt
    rw [← hcol u hu, ← hcol v hvn, ← hcnt u, ← hcnt v] at this
    exact (IR.pass_lt_iff hg sk i (sk.work.erase i) (g := irG n nb) hu hvn).2 this
  exact h1.trans (IR.refine_mono hg k' _)

theorem leaf_below_prefix {n : Nat} {nb : Nbrs} (rf : Nat) (hnb : NbOK nb n) {op : OP} {χ : IR.St}
    (hp : PartInv n op) (hps : PrefixSingle op)
    (hmono : IR.Mono n (colOf n op) χ.c) (hA : IR.InvA (irG n nb) χ) (hD : IR.InvD (irG n nb) χ)
    {vs : List Nat} (hpath : IR.IsPath (irG n nb) rf χ vs) (htn : IR.target (irG n nb) (IR.nodeAt (irG n nb) rf χ vs) = none) :
    ∃ o', o'.Perm (List.range n) ∧ (∀ p, p < op.spl → o'[p]? = op.order.toList[p]?) ∧
      IR.cert (irG n nb) (IR.nodeAt (irG n nb) rf χ vs).c = certPos nb o' n := by
  have hg := irG_wf hnb
  obtain ⟨_, hA', hD'⟩ := IR.path_cells hg (rf := rf) vs χ hA hD hpath
  have hperm : IR.IsPerm n (IR.nodeAt (irG n nb) rf χ vs).c := IR.isPerm_of_leaf (g := irG n nb) hA' hD' htn
  have hmono' : IR.Mono n (colOf n op) (IR.nodeAt (irG n nb) rf χ vs).c := hmono.trans (IR.path_mono (irG_wf hnb) vs χ hpath)
  have holen : op.order.toList.length = n := hp.length_order
  have hnd : op.order.toList.Nodup := hp.perm.nodup_iff.2 List.nodup_range
  have hspl : op.spl ≤ n := Nat.le_trans hps.le hp.bdLen_le
  have hget : ∀ q, q < op.spl → op.order.toList[q]? = some (op.order.toList.getD q 0) := fun q hq => by
    rw [List.getD_eq_getElem?_getD, List.getElem?_eq_getElem (holen.symm ▸ Nat.lt_of_lt_of_le hq hspl), Option.getD_some]
  refine ⟨IR.invOrder n (IR.nodeAt (irG n nb) rf χ vs).c, IR.invOrder_perm hperm, fun p hpl => ?_,
    (IR.cert_tab_invOrder hg hperm).symm.trans (cert_link hnb (IR.invOrder_perm hperm))⟩
  rw [hget p hpl]
  refine IR.invOrder_prefix hperm hmono' (s := op.spl) (f := fun p => op.order.toList.getD p 0) (fun q hq => ?_)
    (fun v hv hne => ?_) (fun a b ha hb e => ?_) p hpl
  · refine ⟨perm_range_lt hp.perm (hget q hq), ?_⟩
    rw [col_colOf (perm_range_lt hp.perm (hget q hq)), cellOf_order hp (hget q hq)]
    exact binIdx_eq_of_single _ hp.sorted op.spl hps.single q hq
  · rw [col_colOf hv]
    have hmem : v ∈ op.order.toList := hp.perm.mem_iff.2 (List.mem_range.2 hv)
    have hgv := getElem?_idxOf_of_mem hmem
    rw [cellOf_order hp hgv]
    refine Nat.le_of_not_lt fun hlt => ?_
    have hq := (binIdx_lt_iff_of_single _ hp.sorted op.spl hps.single _).1 hlt
    exact hne _ hq (by rw [List.getD_eq_getElem?_getD, hgv, Option.getD_some])
  · have := (hget a ha).trans ((congrArg some e).trans (hget b hb).symm)
    rw [List.getElem?_eq_getElem (holen.symm ▸ Nat.lt_of_lt_of_le ha hspl),
      List.getElem?_eq_getElem (holen.symm ▸ Nat.lt_of_lt_of_le hb hspl)] at this
    exact (List.getElem_inj hnd).mp (Option.some.inj this)

theorem worse_complete {n : Nat} {nb : Nbrs} (rf : Nat) (hnb : NbOK nb n) (hsz : nb.size = n) {op : OP}
    {cb fl : Sl Nat} {χ : IR.St}
    (hp : PartInv n op) (hps : PrefixSingle op) (hvw : op.value.WF)
    (hval : op.value.toList = certPos nb op.order.toList op.spl)
    (hwt : worseTest op.value cb fl = .ok true) (hcb : cb.WF) (hcbl : cb.len = ((nb.toList.map List.length).sum) / 2)
    (hmono : IR.Mono n (colOf n op) χ.c) (hA : IR.InvA (irG n nb) χ) (hD : IR.InvD (irG n nb) χ) :
    ∀ x, IR.CertBelow (irG n nb) rf χ x → compare x cb.toList = -1 := by
  rintro x ⟨vs, hpath, htn, rfl⟩
  obtain ⟨o', hperm, hagree, hc⟩ := leaf_below_prefix rf hnb hp hps hmono hA hD hpath htn
  have hspl : op.spl ≤ n := Nat.le_trans hps.le hp.bdLen_le
  have holen : op.order.toList.length = n := hp.length_order
  rw [hc]
  exact worseTest_sound hval hvw hspl (holen.symm ▸ hspl) (by rw [hperm.length_eq, List.length_range]; exact hspl) hagree
    hcb (by rw [certPos_length hnb hsz hperm, hcbl]) hwt

end

end CanonF
