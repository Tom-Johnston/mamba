import Mamba.Model.DawgGob
/-! Round trip of `encodeUint64With` / `decodeUint64With` for every consistent set of constants (C14).

`VarintCfg.Consistent` lists what the round trip needs of the literals of the Go code: the byte-count arithmetic is
rigid (64-bit values, leading-zero shift at least 3, 8 bits per byte, 8 value bytes, first value byte at position 1,
full length 9, prefix written = prefix read + 8, big-endian shifts), the one-byte thresholds and the limits have slack
(`encBelow ≤ decBelow ≤ decPrefixBase + 1`, `decTooManyFrom ≥ 9`, `decBufSize ≥ 8`). `genCfg_consistent` discharges it
for the generated constants by `decide`. -/
namespace Dawg

/-- big-endian bytes of `x`, exactly `n` of them (the low `n` bytes) -/
def beBytes : Nat → Nat → List Nat
  | 0, _ => []
  | n + 1, x => beBytes n (x / 256) ++ [x % 256]

def beValue (acc : Nat) : List Nat → Nat
  | [] => acc
  | b :: bs => beValue (acc * 256 + b) bs

def VarintCfg.Consistent (c : VarintCfg) : Prop :=
  c.lzBits = 64 ∧ 3 ≤ c.lzShift ∧ c.encBufFull = 9 ∧ c.encLoopBound = 8 ∧ c.encDstOffset = 1 ∧
  c.encShiftUnit = 8 ∧ c.encShiftTop = 7 ∧ c.decShift = 8 ∧
  c.encPrefixSum = c.decPrefixBase + 8 ∧ c.encPrefixSum ≤ 255 ∧
  1 ≤ c.encBelow ∧ c.encBelow ≤ c.decBelow ∧ c.decBelow ≤ c.decPrefixBase + 1 ∧
  9 ≤ c.decTooManyFrom ∧ 8 ≤ c.decBufSize

instance (c : VarintCfg) : Decidable c.Consistent := by unfold VarintCfg.Consistent; infer_instance

theorem length_beBytes (n x : Nat) : (beBytes n x).length = n := by
  induction n generalizing x with
  | zero => rfl
  | succ n ih => simp [beBytes, ih]

theorem beBytes_lt (n x : Nat) : ∀ b ∈ beBytes n x, b < 256 := by
  induction n generalizing x with
  | zero => intro b hb; cases hb
  | succ n ih =>
    intro b hb
    simp only [beBytes, List.mem_append, List.mem_singleton] at hb
    rcases hb with hb | rfl
    · exact ih _ b hb
    · exact Nat.mod_lt _ (by decide)

theorem beValue_append (acc : Nat) (l : List Nat) (b : Nat) :
    beValue acc (l ++ [b]) = beValue acc l * 256 + b := by
  induction l generalizing acc with
  | nil => rfl
  | cons a l ih => simp [beValue, ih]

theorem beValue_beBytes (n acc x : Nat) : beValue acc (beBytes n x) = acc * 256 ^ n + x % 256 ^ n := by
  induction n generalizing x with
  | zero => simp [beBytes, beValue, Nat.mod_one]
  | succ n ih =>
    rw [beBytes, beValue_append, ih]
    have h : x % 256 ^ (n + 1) = (x / 256 % 256 ^ n) * 256 + x % 256 := by
      rw [Nat.pow_succ, Nat.mul_comm (256 ^ n) 256, Nat.mod_mul]
      omega
    rw [h, Nat.pow_succ]
    rw [Nat.add_mul, Nat.mul_assoc, Nat.add_assoc]

/-- with `l + 1` significant bits out of 64 there are at most `(63 - l) / 8` leading zero bytes -/
theorem zeroBytes_bound {l zb : Nat} (hl : l < 64) (hzb : zb ≤ (64 - (l + 1)) / 2 ^ 3) :
    zb ≤ 7 ∧ l + 1 ≤ 8 * (8 - zb) := by
  omega

/-- `zb = LeadingZeros64(x) >> s` leading zero bytes (fewer when `s > 3`) leave room for all of `x` in `8 - zb` bytes -/
theorem lzBytes_spec {x s : Nat} (hx0 : x ≠ 0) (hx : x < 2 ^ 64) (hs : 3 ≤ s) :
    lz 64 x >>> s ≤ 7 ∧ x < 256 ^ (8 - lz 64 x >>> s) := by
  have hlog : x.log2 < 64 := (Nat.log2_lt hx0).2 hx
  have hzb : lz 64 x >>> s ≤ (64 - (x.log2 + 1)) / 2 ^ 3 := by
    rw [Nat.shiftRight_eq_div_pow, lz, if_neg hx0]
    exact Nat.div_le_div_left (Nat.pow_le_pow_right (by decide) hs) (by decide)
  generalize lz 64 x >>> s = zb at hzb ⊢
  have hnum := zeroBytes_bound hlog hzb
  refine ⟨hnum.1, Nat.lt_of_lt_of_le Nat.lt_log2_self ?_⟩
  rw [show 256 = 2 ^ 8 from rfl, ← Nat.pow_mul]
  exact Nat.pow_le_pow_right (by decide) hnum.2

/-- `x<<8 | b` is `x*256 + b` on bytes, as long as nothing is shifted out of 64 bits -/
theorem beValueWith_eq (acc : Nat) (l : List Nat) (hl : ∀ b ∈ l, b < 256) (hfit : (acc + 1) * 256 ^ l.length ≤ 2 ^ 64) :
    beValueWith 8 acc l = beValue acc l := by
  induction l generalizing acc with
  | nil => rfl
  | cons b l ih =>
    have hb : b < 2 ^ 8 := hl b List.mem_cons_self
    rw [List.length_cons, Nat.pow_succ, Nat.mul_comm _ 256, ← Nat.mul_assoc] at hfit
    have hlt : acc <<< 8 < 2 ^ 64 := by
      have := Nat.le_trans (Nat.le_mul_of_pos_right _ (Nat.pow_pos (n := l.length) (by decide : 0 < 256))) hfit
      rw [Nat.shiftLeft_eq]; omega
    rw [beValueWith, beValue, Nat.mod_eq_of_lt hlt, ← Nat.shiftLeft_add_eq_or_of_lt hb, Nat.shiftLeft_eq]
    exact ih _ (fun b' hb' => hl b' (List.mem_cons_of_mem _ hb'))
      (Nat.le_trans (Nat.mul_le_mul_right _ (by omega)) hfit)

/-- the copy loop writes the big-endian bytes -/
theorem range_map_shift (n x : Nat) :
    (List.range n).map (fun i => (x >>> (8 * (n - 1 - i))) % 256) = beBytes n x := by
  induction n generalizing x with
  | zero => rfl
  | succ n ih =>
    rw [List.range_succ, List.map_append, beBytes, ← ih (x / 256)]
    congr 1
    · apply List.map_congr_left
      intro i hi
      rw [List.mem_range] at hi
      have e : 8 * (n + 1 - 1 - i) = 8 + 8 * (n - 1 - i) := by omega
      rw [e, Nat.shiftRight_eq_div_pow, Nat.shiftRight_eq_div_pow, Nat.pow_add, Nat.div_div_eq_div_mul]
    · simp

theorem encodeUint64With_of_ge (c : VarintCfg) (hc : c.Consistent) {x : Nat} (hx : x < 2 ^ 64) (hge : c.encBelow ≤ x) :
    ∃ n, 1 ≤ n ∧ n ≤ 8 ∧ x < 256 ^ n ∧ encodeUint64With c x = (c.decPrefixBase + n) :: beBytes n x := by
  obtain ⟨hlzb, hlzs, hfull, hloop, hoff, hunit, htop, -, hsum, hsum255, hE1, -⟩ := hc
  obtain ⟨hzb7, hlt⟩ := lzBytes_spec (x := x) (Nat.pos_iff_ne_zero.1 (Nat.lt_of_lt_of_le hE1 hge)) hx hlzs
  rw [encodeUint64With, if_neg (Nat.not_lt.2 hge), hlzb, hfull, hloop, hoff, hunit, htop, hsum]
  dsimp only
  generalize lz 64 x >>> c.lzShift = zb at hzb7 hlt
  have hzb8 : zb ≤ 8 := Nat.le_succ_of_le hzb7
  refine ⟨8 - zb, Nat.le_sub_of_add_le (Nat.add_le_add_left hzb7 1), Nat.sub_le 8 zb, hlt, ?_⟩
  have hbody : (List.range (8 - zb)).map (fun i => (x >>> (8 * (7 - (i + zb)))) % 256) = beBytes (8 - zb) x := by
    rw [← range_map_shift]
    apply List.map_congr_left
    intro i _
    rw [show 7 - (i + zb) = 8 - zb - 1 - i by omega]
  have hfirst : (c.decPrefixBase + 8 - zb) % 256 = c.decPrefixBase + (8 - zb) := by
    rw [Nat.add_sub_assoc hzb8, Nat.mod_eq_of_lt]
    exact Nat.lt_of_le_of_lt (Nat.add_le_add_left (Nat.sub_le 8 zb) _) (Nat.lt_succ_of_le (hsum ▸ hsum255))
  rw [hbody, hfirst, Nat.sub_self, List.replicate_zero, List.singleton_append, List.cons_append, Nat.succ_sub hzb8,
    List.take_succ_cons, List.take_left' (length_beBytes _ _)]

theorem decodeUint64With_cons_beBytes (c : VarintCfg) (hc : c.Consistent) {n : Nat} (hn1 : 1 ≤ n) (hn8 : n ≤ 8)
    (x : Nat) (rest : List Nat) :
    decodeUint64With c ((c.decPrefixBase + n) :: (beBytes n x ++ rest)) = .ok (x % 256 ^ n, rest) := by
  obtain ⟨-, -, -, -, -, -, -, hdsh, -, -, -, -, hDP, hTM, hbuf⟩ := hc
  have hfit : (0 + 1) * 256 ^ (beBytes n x).length ≤ 2 ^ 64 := by
    rw [length_beBytes, Nat.zero_add, Nat.one_mul]
    exact Nat.le_trans (Nat.pow_le_pow_right (by decide) hn8) (by decide)
  simp only [decodeUint64With, Nat.add_sub_cancel_left]
  rw [if_neg (Nat.not_lt.2 (Nat.le_trans hDP (Nat.add_le_add_left hn1 _))), if_neg (Nat.not_lt.2 (Nat.le_add_right _ _)),
    if_neg (Nat.not_le.2 (Nat.lt_of_lt_of_le (Nat.lt_succ_of_le hn8) hTM)), if_neg (Nat.not_lt.2 (Nat.le_trans hn8 hbuf)),
    if_neg (by rw [List.length_append, length_beBytes]; exact Nat.not_lt.2 (Nat.le_add_right _ _)), hdsh,
    List.take_left' (length_beBytes n x), List.drop_left' (length_beBytes n x),
    beValueWith_eq _ _ (beBytes_lt _ _) hfit, beValue_beBytes, Nat.zero_mul, Nat.zero_add]

theorem decode_encode_with (c : VarintCfg) (hc : c.Consistent) (x : Nat) (hx : x < 2 ^ 64) (rest : List Nat) :
    decodeUint64With c (encodeUint64With c x ++ rest) = .ok (x, rest) := by
  by_cases hsmall : x < c.encBelow
  · have hED : c.encBelow ≤ c.decBelow := hc.2.2.2.2.2.2.2.2.2.2.2.1
    rw [encodeUint64With, if_pos hsmall, List.singleton_append, decodeUint64With,
      if_pos (Nat.lt_of_lt_of_le hsmall hED)]
  · obtain ⟨n, hn1, hn8, hlt, henc⟩ := encodeUint64With_of_ge c hc hx (Nat.not_lt.1 hsmall)
    rw [henc, List.cons_append, decodeUint64With_cons_beBytes c hc hn1 hn8, Nat.mod_eq_of_lt hlt]

/-- the constants extracted from the Go source (`Gen/DawgConsts.lean`, regenerated on every run) are consistent -/
theorem genCfg_consistent : genCfg.Consistent := by decide

theorem decodeUint64_encodeUint64_append (x : Nat) (hx : x < 2 ^ 64) (rest : List Nat) :
    decodeUint64 (encodeUint64 x ++ rest) = .ok (x, rest) :=
  decode_encode_with genCfg genCfg_consistent x hx rest

theorem encodeUint64_ne_nil (x : Nat) (hx : x < 2 ^ 64) : encodeUint64 x ≠ [] := by
  intro h
  have := decodeUint64_encodeUint64_append x hx []
  rw [h] at this
  simp [decodeUint64, decodeUint64With] at this

theorem length_le_flatMap_encode (L : List Nat) (hL : ∀ x ∈ L, x < 2 ^ 64) (rest : List Nat) :
    L.length ≤ (L.flatMap encodeUint64 ++ rest).length := by
  induction L with
  | nil => simp
  | cons a L ih =>
    have h1 := encodeUint64_ne_nil a (hL a List.mem_cons_self)
    have h2 : 0 < (encodeUint64 a).length := List.length_pos_iff.2 h1
    have h3 := ih (fun x hx => hL x (List.mem_cons_of_mem _ hx))
    simp only [List.flatMap_cons, List.length_append, List.length_cons] at h3 ⊢
    omega

end Dawg
