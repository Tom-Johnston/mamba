import Mamba.Model.DsaturGo
import Mamba.Lemmas.ListGetD
import Mathlib.Data.List.Perm.Basic
/-! The `container/heap` operations of the DSATUR model: each returns a permutation of its input (`heapInit_perm`,
`heapFix_perm`, `heapRemove0_perm`, `heapPush_perm`); `Init`, `Remove(h, 0)` and `Fix` after an improvement establish
or keep the heap order invariant. `lessV a b`: vertex `a` comes strictly before `b` in the heap order (more seen colours, then
larger degree; `uncolouredHeap.Less` read on vertices: `dsLess_iff`); `leV a b`: `b` does not come strictly before `a`;
`EdgeOK h e`: the parent `h[(e-1)/2]` of entry `e` is `leV` the entry; `HeapOK h`: every entry `e ≥ 1` is `EdgeOK`. -/
namespace CliqueColour
open GraphSpec

theorem swapAt_length (l : List Nat) (i j : Nat) : (swapAt l i j).length = l.length := by simp [swapAt]

theorem swapAt_getD {l : List Nat} {i j : Nat} (hi : i < l.length) (hj : j < l.length) (k : Nat) :
    (swapAt l i j).getD k 0 = if k = j then l.getD i 0 else if k = i then l.getD j 0 else l.getD k 0 := by
  unfold swapAt
  rw [getD_set, getD_set]
  by_cases hkj : k = j
  · subst hkj; rw [if_pos ⟨rfl, by simpa using hj⟩, if_pos rfl]
  · rw [if_neg (fun h => hkj h.1.symm), if_neg hkj]
    by_cases hki : k = i
    · subst hki; rw [if_pos ⟨rfl, hi⟩, if_pos rfl]
    · rw [if_neg (fun h => hki h.1.symm), if_neg hki]

theorem swapAt_perm {l : List Nat} {i j : Nat} (hi : i < l.length) (hj : j < l.length) : (swapAt l i j).Perm l := by
  unfold swapAt
  rw [getD_eq_getElem hi, getD_eq_getElem hj]
  exact List.set_set_perm hi hj

def lessV (num : List Int) (deg : List Nat) (a b : Nat) : Prop :=
  num.getD a 0 > num.getD b 0 ∨ (num.getD a 0 = num.getD b 0 ∧ deg.getD a 0 > deg.getD b 0)

theorem dsLess_iff (num : List Int) (deg : List Nat) (h : List Nat) (i j : Nat) :
    dsLess num deg h i j = true ↔ lessV num deg (h.getD i 0) (h.getD j 0) := by
  unfold dsLess lessV
  simp only
  generalize num.getD (h.getD i 0) 0 = x
  generalize num.getD (h.getD j 0) 0 = y
  generalize deg.getD (h.getD i 0) 0 = p
  generalize deg.getD (h.getD j 0) 0 = q
  by_cases hne : x = y
  · subst hne; simp
  · have hb : (x != y) = true := by simpa using hne
    rw [hb]
    simp only [if_true, decide_eq_true_eq]
    constructor
    · exact Or.inl
    · rintro (h1 | h1)
      · exact h1
      · exact absurd h1.1 hne

/-- `a` may be the parent of `b` -/
def leV (num : List Int) (deg : List Nat) (a b : Nat) : Prop := ¬ lessV num deg b a

theorem leV_trans {num : List Int} {deg : List Nat} {a b c : Nat} (h1 : leV num deg a b) (h2 : leV num deg b c) :
    leV num deg a c := by
  unfold leV lessV at *; omega

theorem leV_of_lessV {num : List Int} {deg : List Nat} {a b : Nat} (h : lessV num deg a b) : leV num deg a b := by
  unfold leV lessV at *; omega

theorem leV_total (num : List Int) (deg : List Nat) (a b : Nat) : leV num deg a b ∨ leV num deg b a := by
  unfold leV lessV; omega

def EdgeOK (num : List Int) (deg : List Nat) (h : List Nat) (e : Nat) : Prop :=
  leV num deg (h.getD ((e - 1) / 2) 0) (h.getD e 0)

theorem parent_lt {j : Nat} (h : 0 < j) : (j - 1) / 2 < j := by omega

theorem parent_of_child {i j : Nat} (h : j = 2 * i + 1 ∨ j = 2 * i + 2) : (j - 1) / 2 = i := by omega

theorem child_of_parent {e i : Nat} (he : 0 < e) (h : (e - 1) / 2 = i) : e = 2 * i + 1 ∨ e = 2 * i + 2 := by omega

theorem lt_of_parent {c j : Nat} (hc : 0 < c) (h : (c - 1) / 2 = j) : j < c := h ▸ parent_lt hc

theorem swapAt_cases {l : List Nat} {i j : Nat} (hi : i < l.length) (hj : j < l.length) (hij : i ≠ j) :
    (swapAt l i j).getD i 0 = l.getD j 0 ∧ (swapAt l i j).getD j 0 = l.getD i 0 ∧
      ∀ k, k ≠ i → k ≠ j → (swapAt l i j).getD k 0 = l.getD k 0 := by
  have hA := swapAt_getD hi hj
  exact ⟨by rw [hA, if_neg hij, if_pos rfl], by rw [hA, if_pos rfl],
    fun k hki hkj => by rw [hA, if_neg hkj, if_neg hki]⟩

theorem heapUp_zero (num : List Int) (deg : List Nat) (fuel : Nat) (h : List Nat) : heapUp num deg fuel h 0 = h := by
  cases fuel with
  | zero => rfl
  | succ fuel => simp only [heapUp]; rfl

theorem heapUp_step {num : List Int} {deg : List Nat} {h : List Nat} {j : Nat}
    (hstop : ¬ ((j - 1) / 2 == j || !dsLess num deg h j ((j - 1) / 2)) = true) :
    0 < j ∧ lessV num deg (h.getD j 0) (h.getD ((j - 1) / 2) 0) := by
  simp only [Bool.or_eq_true, beq_iff_eq, Bool.not_eq_true', not_or, Bool.not_eq_false] at hstop
  exact ⟨Nat.pos_of_ne_zero (fun h0 => hstop.1 (by rw [h0])), (dsLess_iff num deg h j _).1 hstop.2⟩

theorem heapUp_perm (num : List Int) (deg : List Nat) : ∀ (fuel : Nat) (h : List Nat) (j : Nat), j < h.length →
    (heapUp num deg fuel h j).Perm h ∧ ∀ k, j < k → (heapUp num deg fuel h j).getD k 0 = h.getD k 0 := by
  intro fuel
  induction fuel with
  | zero => intro h j _; exact ⟨List.Perm.refl _, fun _ _ => rfl⟩
  | succ fuel ih =>
    intro h j hj
    simp only [heapUp]
    split
    · exact ⟨List.Perm.refl _, fun _ _ => rfl⟩
    · rename_i hstop
      have hlt : (j - 1) / 2 < j := parent_lt (heapUp_step hstop).1
      have hi : (j - 1) / 2 < h.length := Nat.lt_trans hlt hj
      obtain ⟨hp, hun⟩ := ih (swapAt h ((j - 1) / 2) j) _ (by rw [swapAt_length]; exact hi)
      refine ⟨hp.trans (swapAt_perm hi hj), fun k hk => ?_⟩
      rw [hun k (Nat.lt_trans hlt hk), (swapAt_cases hi hj (Nat.ne_of_lt hlt)).2.2 k
        (Nat.ne_of_gt (Nat.lt_trans hlt hk)) (Nat.ne_of_gt hk)]

theorem heapUp_order (num : List Int) (deg : List Nat) : ∀ (fuel : Nat) (h : List Nat) (j : Nat),
    j < h.length → j + 1 ≤ fuel →
    (∀ e, 0 < e → e < h.length → e ≠ j → EdgeOK num deg h e) →
    (∀ c, 0 < c → c < h.length → (c - 1) / 2 = j → 0 < j → leV num deg (h.getD ((j - 1) / 2) 0) (h.getD c 0)) →
    ∀ e, 0 < e → e < h.length → EdgeOK num deg (heapUp num deg fuel h j) e := by
  intro fuel
  induction fuel with
  | zero => intro h j _ hf; exact absurd hf (Nat.not_succ_le_zero j)
  | succ fuel ih =>
    intro h j hj hf hedges hgrand
    simp only [heapUp]
    by_cases hstop : ((j - 1) / 2 == j || !dsLess num deg h j ((j - 1) / 2)) = true
    · rw [if_pos hstop]
      intro e he0 hel
      by_cases hej : e = j
      · subst hej
        simp only [Bool.or_eq_true, beq_iff_eq, Bool.not_eq_true'] at hstop
        rcases hstop with h0 | hl
        · exact absurd h0 (Nat.ne_of_lt (parent_lt he0))
        · unfold EdgeOK leV
          rw [← dsLess_iff, hl]; exact Bool.false_ne_true
      · exact hedges e he0 hel hej
    · rw [if_neg hstop]
      obtain ⟨hj0, hl⟩ := heapUp_step hstop
      have hlt : (j - 1) / 2 < j := parent_lt hj0
      generalize hidef : (j - 1) / 2 = i at hlt hl hgrand
      have hi : i < h.length := Nat.lt_trans hlt hj
      obtain ⟨hSi, hSj, hSo⟩ := swapAt_cases hi hj (Nat.ne_of_lt hlt)
      have hlen := swapAt_length h i j
      rw [← hlen]
      refine ih (swapAt h i j) i (by rw [hlen]; exact hi) (Nat.le_trans hlt (Nat.le_of_succ_le_succ hf)) ?_ ?_
      · intro e he0 hel hei
        rw [hlen] at hel
        unfold EdgeOK
        by_cases hej : e = j
        · rw [hej, hidef, hSi, hSj]
          exact leV_of_lessV hl
        · rw [hSo e hei hej]
          have h1 := hedges e he0 hel hej
          unfold EdgeOK at h1
          by_cases hpj : (e - 1) / 2 = j
          · rw [hpj, hSj]
            exact hgrand e he0 hel hpj hj0
          · by_cases hpi : (e - 1) / 2 = i
            · rw [hpi, hSi]
              rw [hpi] at h1
              exact leV_trans (leV_of_lessV hl) h1
            · rw [hSo _ hpi hpj]
              exact h1
      · intro c hc0 hcl hpc hi0
        rw [hlen] at hcl
        have hpp := parent_lt hi0
        have hedge_i := hedges i hi0 hi (Nat.ne_of_lt hlt)
        unfold EdgeOK at hedge_i
        rw [hSo _ (Nat.ne_of_lt hpp) (Nat.ne_of_lt (Nat.lt_trans hpp hlt))]
        by_cases hcj : c = j
        · rw [hcj, hSj]; exact hedge_i
        · rw [hSo c (Nat.ne_of_gt (lt_of_parent hc0 hpc)) hcj]
          have h1 := hedges c hc0 hcl hcj
          unfold EdgeOK at h1
          rw [hpc] at h1
          exact leV_trans hedge_i h1

theorem leV_refl (num : List Int) (deg : List Nat) (a : Nat) : leV num deg a a := by
  unfold leV lessV; omega

theorem heapDown_child (num : List Int) (deg : List Nat) (m : Nat) (h : List Nat) {i j : Nat} (hleaf : ¬ 2 * i + 1 ≥ m)
    (hjdef : (if (2 * i + 1 + 1 < m && dsLess num deg h (2 * i + 1 + 1) (2 * i + 1)) = true
      then 2 * i + 1 + 1 else 2 * i + 1) = j) :
    (j - 1) / 2 = i ∧ i < j ∧ j < m ∧
      ∀ s, s < m → (s = 2 * i + 1 ∨ s = 2 * i + 2) → leV num deg (h.getD j 0) (h.getD s 0) := by
  by_cases hc : (2 * i + 1 + 1 < m && dsLess num deg h (2 * i + 1 + 1) (2 * i + 1)) = true
  · rw [if_pos hc] at hjdef
    simp only [Bool.and_eq_true, decide_eq_true_eq] at hc
    subst hjdef
    refine ⟨parent_of_child (Or.inr rfl), by omega, hc.1, fun s hs hss => ?_⟩
    rcases hss with rfl | rfl
    · exact leV_of_lessV ((dsLess_iff _ _ _ _ _).1 hc.2)
    · exact leV_refl _ _ _
  · rw [if_neg hc] at hjdef
    subst hjdef
    refine ⟨parent_of_child (Or.inl rfl), by omega, Nat.lt_of_not_le hleaf, fun s hs hss => ?_⟩
    rcases hss with rfl | rfl
    · exact leV_refl _ _ _
    · unfold leV
      rw [← dsLess_iff]
      exact fun hd => hc (by simp only [Bool.and_eq_true, decide_eq_true_eq]; exact ⟨hs, hd⟩)

theorem heapDown_perm (num : List Int) (deg : List Nat) (m : Nat) : ∀ (fuel : Nat) (h : List Nat) (i : Nat),
    m ≤ h.length → (heapDown num deg m fuel h i).1.Perm h ∧
      ∀ k, m ≤ k → (heapDown num deg m fuel h i).1.getD k 0 = h.getD k 0 := by
  intro fuel
  induction fuel with
  | zero => intro h i _; exact ⟨List.Perm.refl _, fun _ _ => rfl⟩
  | succ fuel ih =>
    intro h i hm
    simp only [heapDown]
    by_cases hleaf : 2 * i + 1 ≥ m
    · rw [if_pos hleaf]; exact ⟨List.Perm.refl _, fun _ _ => rfl⟩
    · rw [if_neg hleaf]
      generalize hjdef : (if (2 * i + 1 + 1 < m && dsLess num deg h (2 * i + 1 + 1) (2 * i + 1)) = true
        then 2 * i + 1 + 1 else 2 * i + 1) = j
      obtain ⟨_, hij, hjm, _⟩ := heapDown_child num deg m h hleaf hjdef
      split
      · exact ⟨List.Perm.refl _, fun _ _ => rfl⟩
      · have hj : j < h.length := Nat.lt_of_lt_of_le hjm hm
        have hi : i < h.length := Nat.lt_trans hij hj
        obtain ⟨hp, hun⟩ := ih (swapAt h i j) j (by rw [swapAt_length]; exact hm)
        refine ⟨hp.trans (swapAt_perm hi hj), fun k hk => ?_⟩
        have hjk := Nat.lt_of_lt_of_le hjm hk
        rw [hun k hk, (swapAt_cases hi hj (Nat.ne_of_lt hij)).2.2 k (Nat.ne_of_gt (Nat.lt_trans hij hjk))
          (Nat.ne_of_gt hjk)]

theorem heapDown_order (num : List Int) (deg : List Nat) (m lo : Nat) : ∀ (fuel : Nat) (h : List Nat) (i : Nat),
    m ≤ h.length → m ≤ i + fuel → lo ≤ i →
    (∀ e, 0 < e → e < m → lo ≤ (e - 1) / 2 → (e - 1) / 2 ≠ i → EdgeOK num deg h e) →
    (∀ c, 0 < c → c < m → (c - 1) / 2 = i → 0 < i → lo ≤ (i - 1) / 2 →
      leV num deg (h.getD ((i - 1) / 2) 0) (h.getD c 0)) →
    ∀ e, 0 < e → e < m → lo ≤ (e - 1) / 2 → EdgeOK num deg (heapDown num deg m fuel h i).1 e := by
  intro fuel
  induction fuel with
  | zero =>
    intro h i hm hf hlo hedges _ e he0 hem hle
    exact hedges e he0 hem hle
      (Nat.ne_of_lt (Nat.lt_of_lt_of_le (Nat.lt_of_lt_of_le (parent_lt he0) (Nat.le_of_lt hem)) hf))
  | succ fuel ih =>
    intro h i hm hf hlo hedges hgrand
    simp only [heapDown]
    by_cases hleaf : 2 * i + 1 ≥ m
    · rw [if_pos hleaf]
      refine fun e he0 hem hle => hedges e he0 hem hle (fun hpe => ?_)
      rcases child_of_parent he0 hpe with rfl | rfl
      · exact absurd hem (Nat.not_lt.2 hleaf)
      · exact absurd (Nat.lt_of_succ_lt hem) (Nat.not_lt.2 hleaf)
    · rw [if_neg hleaf]
      generalize hjdef : (if (2 * i + 1 + 1 < m && dsLess num deg h (2 * i + 1 + 1) (2 * i + 1)) = true
        then 2 * i + 1 + 1 else 2 * i + 1) = j
      obtain ⟨hpj, hij, hjm, hjmin⟩ := heapDown_child num deg m h hleaf hjdef
      have hj0 : 0 < j := Nat.lt_of_le_of_lt (Nat.zero_le i) hij
      clear hjdef
      by_cases hstop : (!dsLess num deg h j i) = true
      · rw [if_pos hstop]
        intro e he0 hem hle
        by_cases hpe : (e - 1) / 2 = i
        · have hij' : leV num deg (h.getD i 0) (h.getD j 0) := by
            unfold leV
            rw [← dsLess_iff]; simpa using hstop
          unfold EdgeOK
          rw [hpe]
          exact leV_trans hij' (hjmin e hem (child_of_parent he0 hpe))
        · exact hedges e he0 hem hle hpe
      · rw [if_neg hstop]
        have hless : lessV num deg (h.getD j 0) (h.getD i 0) := by
          rw [← dsLess_iff]; simpa using hstop
        have hj : j < h.length := Nat.lt_of_lt_of_le hjm hm
        have hi : i < h.length := Nat.lt_trans hij hj
        obtain ⟨hSi, hSj, hSo⟩ := swapAt_cases hi hj (Nat.ne_of_lt hij)
        refine ih (swapAt h i j) j (by rw [swapAt_length]; exact hm)
          (Nat.le_trans hf (by rw [Nat.add_comm fuel 1, ← Nat.add_assoc]; exact Nat.add_le_add_right hij fuel))
          (Nat.le_trans hlo (Nat.le_of_lt hij)) ?_ ?_
        · intro e he0 hem hle hpe
          unfold EdgeOK
          by_cases hej : e = j
          · rw [hej, hpj, hSi, hSj]
            exact leV_of_lessV hless
          · by_cases hei : e = i
            · rw [hei, hSi, hSo _ (Nat.ne_of_lt (parent_lt (hei ▸ he0))) (hei ▸ hpe)]
              exact hgrand j hj0 hjm hpj (hei ▸ he0) (hei ▸ hle)
            · rw [hSo e hei hej]
              by_cases hpi : (e - 1) / 2 = i
              · rw [hpi, hSi]
                exact hjmin e hem (child_of_parent he0 hpi)
              · rw [hSo _ hpi hpe]
                exact hedges e he0 hem hle hpi
        · intro c hc0 hcm hpc _ _
          have hjc : j < c := lt_of_parent hc0 hpc
          rw [hpj, hSi, hSo c (Nat.ne_of_gt (Nat.lt_trans hij hjc)) (Nat.ne_of_gt hjc)]
          have := hedges c hc0 hcm (by rw [hpc]; exact Nat.le_trans hlo (Nat.le_of_lt hij))
            (by rw [hpc]; exact Nat.ne_of_gt hij)
          unfold EdgeOK at this
          rw [hpc] at this
          exact this

theorem heapDown_noop (num : List Int) (deg : List Nat) (m : Nat) (fuel : Nat) (h : List Nat) (i : Nat)
    (hc : ∀ c, c < m → (c = 2 * i + 1 ∨ c = 2 * i + 2) → leV num deg (h.getD i 0) (h.getD c 0)) :
    heapDown num deg m fuel h i = (h, i) := by
  cases fuel with
  | zero => rfl
  | succ fuel =>
    simp only [heapDown]
    by_cases hleaf : 2 * i + 1 ≥ m
    · rw [if_pos hleaf]
    · rw [if_neg hleaf]
      have : ∀ j, j < m → (j = 2 * i + 1 ∨ j = 2 * i + 2) → (!dsLess num deg h j i) = true := by
        intro j hj hjj
        have := hc j hj hjj
        unfold leV at this
        rw [← dsLess_iff] at this
        simpa using this
      by_cases hcnd : (2 * i + 1 + 1 < m && dsLess num deg h (2 * i + 1 + 1) (2 * i + 1)) = true
      · rw [if_pos hcnd]
        simp only [Bool.and_eq_true, decide_eq_true_eq] at hcnd
        rw [if_pos (this _ hcnd.1 (Or.inr rfl))]
      · rw [if_neg hcnd, if_pos (this _ (by omega) (Or.inl rfl))]

def HeapOK (num : List Int) (deg : List Nat) (h : List Nat) : Prop :=
  ∀ e, 0 < e → e < h.length → EdgeOK num deg h e

theorem heapPush_perm (num : List Int) (deg : List Nat) (h : List Nat) (x : Nat) :
    (heapPush num deg h x).Perm (x :: h) := by
  unfold heapPush
  exact (heapUp_perm num deg _ (h ++ [x]) h.length (by simp)).1.trans (by simp)

theorem getD_dropLast {l : List Nat} {k : Nat} (hk : k + 1 < l.length) : l.dropLast.getD k 0 = l.getD k 0 := by
  rw [List.dropLast_eq_take, List.getD_eq_getElem?_getD, List.getD_eq_getElem?_getD,
    List.getElem?_take_of_lt (by omega)]

theorem perm_dropLast_of_last {l t : List Nat} {x : Nat} (hne : l ≠ []) (hp : l.Perm (x :: t))
    (hlast : l.getD (l.length - 1) 0 = x) : l.dropLast.Perm t := by
  have hsplit : l = l.dropLast ++ [x] := by
    have h1 := List.dropLast_append_getLast hne
    have h2 : l.getLast hne = x := by
      rw [← hlast, List.getLast_eq_getElem, getD_eq_getElem]
    rw [h2] at h1
    exact h1.symm
  rw [hsplit] at hp
  have : (x :: l.dropLast).Perm (x :: t) := (List.perm_append_comm (l₁ := [x]) (l₂ := l.dropLast)).trans (by simpa using hp)
  exact List.Perm.cons_inv this

theorem heapFix_perm (num : List Int) (deg : List Nat) (h : List Nat) {k : Nat} (hk : k < h.length) :
    (heapFix num deg h k).Perm h := by
  unfold heapFix
  have hd := (heapDown_perm num deg h.length (h.length + 1) h k (Nat.le_refl _)).1
  generalize heapDown num deg h.length (h.length + 1) h k = res at hd
  obtain ⟨h1, i1⟩ := res
  simp only at hd ⊢
  split
  · exact hd
  · exact (heapUp_perm num deg _ h1 k (by rw [hd.length_eq]; exact hk)).1.trans hd

theorem heapInit_perm (num : List Int) (deg : List Nat) (h : List Nat) : (heapInit num deg h).Perm h := by
  unfold heapInit
  generalize (List.range (h.length / 2)).reverse = idx
  induction idx generalizing h with
  | nil => exact List.Perm.refl _
  | cons a t ih =>
    simp only [List.foldl_cons]
    exact (ih _).trans (heapDown_perm num deg h.length (h.length + 1) h a (Nat.le_refl _)).1

theorem heapInit_fold (num : List Int) (deg : List Nat) : ∀ (k : Nat) (h : List Nat),
    (∀ e, 0 < e → e < h.length → k ≤ (e - 1) / 2 → EdgeOK num deg h e) →
    HeapOK num deg ((List.range k).reverse.foldl
      (fun hh i => (heapDown num deg hh.length (hh.length + 1) hh i).1) h) := by
  intro k
  induction k with
  | zero =>
    intro h hed
    exact fun e he0 hel => hed e he0 hel (Nat.zero_le _)
  | succ k ih =>
    intro h hed
    rw [List.range_succ, List.reverse_append, List.reverse_singleton, List.singleton_append, List.foldl_cons]
    have hok := heapDown_order num deg h.length k (h.length + 1) h k (Nat.le_refl _)
      (Nat.le_trans (Nat.le_succ _) (Nat.le_add_left _ _)) (Nat.le_refl _)
      (fun e he0 hel hle hne => hed e he0 hel (Nat.lt_of_le_of_ne hle (Ne.symm hne)))
      (fun c _ _ _ hk0 hle => absurd hle (Nat.not_le.2 (parent_lt hk0)))
    have hlen := (heapDown_perm num deg h.length (h.length + 1) h k (Nat.le_refl _)).1.length_eq
    exact ih _ (fun e he0 hel hle => hok e he0 (by rw [← hlen]; exact hel) hle)

theorem heapInit_spec (num : List Int) (deg : List Nat) (h : List Nat) :
    (heapInit num deg h).Perm h ∧ HeapOK num deg (heapInit num deg h) := by
  refine ⟨heapInit_perm num deg h, ?_⟩
  unfold heapInit
  exact heapInit_fold num deg (h.length / 2) h (fun e he0 hel hle => by omega)

/-- `Remove(h, 0)` on a heap with at least two entries: exchange the first and the last entry, sift the new first
entry down among the others, cut the last entry off (the `up` of `Remove` does nothing at the root) -/
theorem heapRemove0_cons (num : List Int) (deg : List Nat) (x : Nat) {t : List Nat} (ht : t ≠ []) :
    heapRemove0 num deg (x :: t) =
      (heapDown num deg t.length (t.length + 1) (swapAt (x :: t) 0 t.length) 0).1.dropLast := by
  have hne : (t.length != 0) = true := by simpa using ht
  unfold heapRemove0
  simp only [List.length_cons, Nat.add_sub_cancel, hne, if_true, heapUp_zero, ite_self]

theorem heapRemove0_perm (num : List Int) (deg : List Nat) (x : Nat) (t : List Nat) :
    (heapRemove0 num deg (x :: t)).Perm t := by
  by_cases ht : t = []
  · subst ht; exact List.Perm.refl _
  · rw [heapRemove0_cons num deg x ht]
    have h0 : 0 < (x :: t).length := Nat.succ_pos _
    have hn : t.length < (x :: t).length := Nat.lt_succ_self _
    have hlen1 : (swapAt (x :: t) 0 t.length).length = t.length + 1 := swapAt_length _ _ _
    obtain ⟨hp, hun⟩ := heapDown_perm num deg t.length (t.length + 1) (swapAt (x :: t) 0 t.length) 0
      (by rw [hlen1]; exact Nat.le_succ _)
    have hl2 := hp.length_eq.trans hlen1
    refine perm_dropLast_of_last (fun h => by rw [h] at hl2; cases hl2) (hp.trans (swapAt_perm h0 hn)) ?_
    rw [hl2, Nat.add_sub_cancel, hun t.length (Nat.le_refl _), swapAt_getD h0 hn, if_pos rfl]
    rfl

theorem heapRemove0_spec (num : List Int) (deg : List Nat) (x : Nat) (t : List Nat)
    (hok : HeapOK num deg (x :: t)) :
    (heapRemove0 num deg (x :: t)).Perm t ∧ HeapOK num deg (heapRemove0 num deg (x :: t)) := by
  refine ⟨heapRemove0_perm num deg x t, ?_⟩
  by_cases ht : t = []
  · subst ht; exact fun e _ hel => absurd hel (Nat.not_lt_zero e)
  · have hlen := (heapRemove0_perm num deg x t).length_eq
    rw [heapRemove0_cons num deg x ht] at hlen ⊢
    have h0 : 0 < (x :: t).length := Nat.succ_pos _
    have hn : t.length < (x :: t).length := Nat.lt_succ_self _
    have hA := swapAt_getD h0 hn
    have hokd := heapDown_order num deg t.length 0 (t.length + 1) (swapAt (x :: t) 0 t.length) 0
      (by rw [swapAt_length]; exact Nat.le_succ _) (by rw [Nat.zero_add]; exact Nat.le_succ _) (Nat.le_refl _)
      (by
        intro e he0 hel _ hpe
        have hp0 : 0 < (e - 1) / 2 := Nat.pos_of_ne_zero hpe
        unfold EdgeOK
        rw [hA, hA, if_neg (Nat.ne_of_lt hel), if_neg (Nat.ne_of_gt he0),
          if_neg (Nat.ne_of_lt (Nat.lt_trans (parent_lt he0) hel)), if_neg (Nat.ne_of_gt hp0)]
        exact hok e he0 (Nat.lt_trans hel hn))
      (fun c _ _ _ h00 _ => absurd h00 (Nat.lt_irrefl 0))
    intro e he0 hel
    rw [hlen] at hel
    have hl2 : e + 1 < (heapDown num deg t.length (t.length + 1) (swapAt (x :: t) 0 t.length) 0).1.length := by
      rw [List.length_dropLast] at hlen; omega
    unfold EdgeOK
    rw [getD_dropLast (Nat.lt_trans (Nat.succ_lt_succ (parent_lt he0)) hl2), getD_dropLast hl2]
    exact hokd e he0 hel (Nat.zero_le _)

/-- `Fix` at `k` when only the edge above `k` may be wrong (the entry at `k` has improved): `down` does nothing, `up`
restores the order, and the positions behind `k` keep their entries -/
theorem heapFix_spec (num : List Int) (deg : List Nat) (h : List Nat) {k : Nat} (hk : k < h.length)
    (hedges : ∀ e, 0 < e → e < h.length → e ≠ k → EdgeOK num deg h e)
    (hgrand : ∀ c, 0 < c → c < h.length → (c - 1) / 2 = k → 0 < k →
      leV num deg (h.getD ((k - 1) / 2) 0) (h.getD c 0)) :
    (heapFix num deg h k).Perm h ∧ HeapOK num deg (heapFix num deg h k) ∧
      ∀ p, k < p → (heapFix num deg h k).getD p 0 = h.getD p 0 := by
  unfold heapFix
  have hnoop := heapDown_noop num deg h.length (h.length + 1) h k (by
    intro c hc hcc
    have hpc : (c - 1) / 2 = k := parent_of_child hcc
    have hc0 : 0 < c := by rcases hcc with rfl | rfl <;> exact Nat.succ_pos _
    have := hedges c hc0 hc (Nat.ne_of_gt (lt_of_parent hc0 hpc))
    unfold EdgeOK at this
    rw [hpc] at this
    exact this)
  rw [hnoop]
  simp only [gt_iff_lt, Nat.lt_irrefl, if_false]
  obtain ⟨hp, hun⟩ := heapUp_perm num deg (h.length + 1) h k hk
  have hok := heapUp_order num deg (h.length + 1) h k hk (Nat.succ_le_succ (Nat.le_of_lt hk)) hedges hgrand
  exact ⟨hp, fun e he0 hel => hok e he0 (by rw [hp.length_eq] at hel; exact hel), hun⟩

end CliqueColour
