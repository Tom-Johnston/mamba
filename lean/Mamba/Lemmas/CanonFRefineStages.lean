import Mamba.Lemmas.CanonFPhase
import Mamba.Lemmas.CanonFSort
import Mamba.Lemmas.CanonFSplit
import Mamba.Lemmas.SortIntsAlgebra
/-!
# The loops inside one call of `splitCell`, on the visible lists of the slices they write

What each loop of `splitCell j` (Go: the body of the loop over the bins in `equitableRefinementProcedure`) does, as a
statement about lists, in the order of the code: counting (`CountInv`, `CellCount`), filling `dws` (`fillOnes_run`,
`StableSortBy`), writing the bin back (`WBInv`, `newDivs`), inserting the new dividers and ages, the work list; at the end
the absence of panics of the loops not covered before.  CanonFRefineCall.lean puts the stages together.

A loop that fills a slice is described on the visible list as `written ++ room ++ rest`, the room as long as what is still
to come (`List.cursor_write` in CanonFBase.lean; `FOL`, `WBL`).  Each step function is characterised once, given what it
reads (`fillOnesStep_of_reads`, `writeBackStep_of_reads`), so one step lemma serves the walk through a successful run and
the proof that the run succeeds.
-/
namespace CanonF


def rfTv (s : Sl Nat) (v : Nat) : Nat := (s.toList[v]?).getD 0

def rfDv (s : Sl Nat) (c : Nat) : Nat := (s.data[c]?).getD 0

theorem rfTv_of_get {s : Sl Nat} {v t : Nat} (h : s.get v = .ok t) : rfTv s v = t := by
  unfold rfTv; rw [Sl.get_eq_toList.1 h]; rfl

theorem rfDv_of_get {s : Sl Nat} {v t : Nat} (h : s.get v = .ok t) : rfDv s v = t := by
  unfold rfDv; rw [(Sl.get_eq_ok.1 h).2]; rfl

theorem rfTv_set {s s' : Sl Nat} {i x : Nat} (h : s.set i x = .ok s') (u : Nat) :
    rfTv s' u = if u = i then x else rfTv s u := by
  unfold rfTv
  rw [Sl.getElem?_toList, Sl.getElem?_toList, Sl.set_data h, Sl.set_len h]
  obtain ⟨⟨h1, _⟩, _⟩ := Sl.set_eq_ok.1 h
  by_cases hu : u = i
  · subst hu; simp [h1]
  · simp [hu]

theorem rfDv_set {s s' : Sl Nat} {i x : Nat} (h : s.set i x = .ok s') (u : Nat) :
    rfDv s' u = if u = i then x else rfDv s u := by
  unfold rfDv
  rw [Sl.set_data h]
  by_cases hu : u = i
  · subst hu; simp
  · simp [hu]

theorem rfTv_fill0 (s : Sl Nat) (v : Nat) : rfTv s.fill0 v = 0 := by
  unfold rfTv
  rw [Sl.getElem?_toList, Sl.fill0_data, Sl.fill0_len]
  by_cases h1 : v < s.len
  · by_cases h2 : v < s.data.size <;> simp [h1, h2]
  · simp [h1]

def SlFrame {α : Type} (s s' : Sl α) : Prop :=
  s'.len = s.len ∧ s'.data.size = s.data.size ∧ ∀ i, s.len ≤ i → s'.data[i]? = s.data[i]?

theorem SlFrame.refl {α : Type} (s : Sl α) : SlFrame s s := ⟨rfl, rfl, fun _ _ => rfl⟩

theorem SlFrame.trans {α : Type} {s t u : Sl α} (h1 : SlFrame s t) (h2 : SlFrame t u) : SlFrame s u :=
  ⟨h2.1.trans h1.1, h2.2.1.trans h1.2.1, fun i hi => (h2.2.2 i (by rw [h1.1]; exact hi)).trans (h1.2.2 i hi)⟩

theorem SlFrame.of_set {α : Type} {s s' : Sl α} {i : Nat} {x : α} (h : s.set i x = .ok s') : SlFrame s s' := by
  refine ⟨Sl.set_len h, Sl.set_cap h, ?_⟩
  intro k hk
  obtain ⟨⟨h1, _⟩, _⟩ := Sl.set_eq_ok.1 h
  rw [Sl.set_data h, if_neg (by omega)]

theorem countP_range_update (n v : Nat) (hv : v < n) (p p' : Nat → Bool) (h : ∀ u, u < n → u ≠ v → p' u = p u) :
    (List.range n).countP p' + (if p v then 1 else 0) = (List.range n).countP p + (if p' v then 1 else 0) := by
  induction n with
  | zero => omega
  | succ n ih =>
    rw [List.range_succ, List.countP_append, List.countP_append, List.countP_singleton, List.countP_singleton]
    by_cases hvn : v = n
    · subst hvn
      have : (List.range v).countP p' = (List.range v).countP p := by
        apply List.countP_congr
        intro x hx
        rw [h x (by simp at hx; omega) (by simp at hx; omega)]
      rw [this]; omega
    · have := ih (by omega) (fun u hu huv => h u (by omega) huv)
      rw [h n (by omega) (by omega)]
      omega

/-- the counting invariant for one cell `c` with maximum `M` attained `N` times -/
def CellInv (n : Nat) (ic ts : Sl Nat) (M N c : Nat) : Prop :=
  (∀ v, v < n → ic.toList[v]? = some c → rfTv ts v ≤ M) ∧
  (0 < M → N = (List.range n).countP (fun v => decide (ic.toList[v]? = some c) && decide (rfTv ts v = M))) ∧
  (0 < M → 0 < N)

def CountInv (n : Nat) (ic ts mc nm : Sl Nat) : Prop :=
  ∀ c, c < mc.len → CellInv n ic ts (rfDv mc c) (rfDv nm c) c

theorem cellInv_other {n : Nat} {ic ts ts' : Sl Nat} {M N c cell v : Nat}
    (h : CellInv n ic ts M N c) (hv : ic.toList[v]? = some cell) (hc : c ≠ cell)
    (hts : ∀ u, u ≠ v → rfTv ts' u = rfTv ts u) : CellInv n ic ts' M N c := by
  have key : ∀ u, ic.toList[u]? = some c → rfTv ts' u = rfTv ts u := by
    intro u hu
    apply hts
    intro e; subst e
    rw [hv] at hu; exact hc (Option.some.inj hu).symm
  refine ⟨fun u hu hcu => by rw [key u hcu]; exact h.1 u hu hcu, fun hM => ?_, h.2.2⟩
  rw [h.2.1 hM]
  apply List.countP_congr
  intro u _
  by_cases hcu : ic.toList[u]? = some c
  · simp [hcu, key u hcu]
  · simp [hcu]

theorem cellInv_gt {n : Nat} {ic ts ts' : Sl Nat} {M N cell v t : Nat}
    (h : CellInv n ic ts M N cell) (hvn : v < n) (hv : ic.toList[v]? = some cell)
    (ht : rfTv ts v = t) (ht' : rfTv ts' v = t + 1) (hts : ∀ u, u ≠ v → rfTv ts' u = rfTv ts u)
    (hgt : t + 1 > M) : CellInv n ic ts' (t + 1) 1 cell := by
  refine ⟨?_, fun _ => ?_, fun _ => Nat.one_pos⟩
  · intro u hu hcu
    by_cases huv : u = v
    · subst huv; omega
    · rw [hts u huv]; have := h.1 u hu hcu; omega
  · have hupd := countP_range_update n v hvn
      (fun _ => false)
      (fun u => decide (ic.toList[u]? = some cell) && decide (rfTv ts' u = t + 1))
      (by
        intro u h1 huv
        by_cases hcu : ic.toList[u]? = some cell
        · have := h.1 u h1 hcu
          rw [hts u huv]
          have : rfTv ts u ≠ t + 1 := by omega
          simp [this]
        · simp [hcu])
    simp only [hv, ht', decide_true, Bool.and_self, if_true, Bool.false_eq_true, if_false] at hupd
    have : (List.range n).countP (fun _ => false) = 0 := by simp
    omega


theorem cellInv_eq {n : Nat} {ic ts ts' : Sl Nat} {M N cell v t : Nat}
    (h : CellInv n ic ts M N cell) (hvn : v < n) (hv : ic.toList[v]? = some cell)
    (ht : rfTv ts v = t) (ht' : rfTv ts' v = t + 1) (hts : ∀ u, u ≠ v → rfTv ts' u = rfTv ts u)
    (heq : t + 1 = M) : CellInv n ic ts' M (N + 1) cell := by
  refine ⟨?_, fun hM => ?_, fun _ => Nat.succ_pos _⟩
  · intro u hu hcu
    by_cases huv : u = v
    · subst huv; omega
    · rw [hts u huv]; exact h.1 u hu hcu
  · have hupd := countP_range_update n v hvn
      (fun u => decide (ic.toList[u]? = some cell) && decide (rfTv ts u = M))
      (fun u => decide (ic.toList[u]? = some cell) && decide (rfTv ts' u = M))
      (by intro u _ huv; simp only [hts u huv])
    have h1 : rfTv ts v ≠ M := by omega
    have h2 : rfTv ts' v = M := by omega
    simp only [hv, h1, h2, decide_true, decide_false, Bool.and_self, Bool.and_false, if_true, Bool.false_eq_true,
      if_false] at hupd
    rw [h.2.1 hM]; omega

theorem cellInv_lt {n : Nat} {ic ts ts' : Sl Nat} {M N cell v t : Nat}
    (h : CellInv n ic ts M N cell) (hvn : v < n) (hv : ic.toList[v]? = some cell)
    (ht : rfTv ts v = t) (ht' : rfTv ts' v = t + 1) (hts : ∀ u, u ≠ v → rfTv ts' u = rfTv ts u)
    (hlt : t + 1 < M) : CellInv n ic ts' M N cell := by
  refine ⟨?_, fun hM => ?_, h.2.2⟩
  · intro u hu hcu
    by_cases huv : u = v
    · subst huv; omega
    · rw [hts u huv]; exact h.1 u hu hcu
  · have hupd := countP_range_update n v hvn
      (fun u => decide (ic.toList[u]? = some cell) && decide (rfTv ts u = M))
      (fun u => decide (ic.toList[u]? = some cell) && decide (rfTv ts' u = M))
      (by intro u _ huv; simp only [hts u huv])
    have h1 : rfTv ts v ≠ M := by omega
    have h2 : rfTv ts' v ≠ M := by omega
    simp only [hv, h1, h2, decide_true, decide_false, Bool.and_false, Bool.false_eq_true, if_false] at hupd
    rw [h.2.1 hM]; omega

theorem countStep_ok {ic ts mc nm ts' mc' nm' : Sl Nat} {v : Nat}
    (h : countStep ic v (ts, mc, nm) = .ok (ts', mc', nm')) :
    ∃ t cell m, ts.get v = .ok t ∧ ts.set v (t + 1) = .ok ts' ∧ ic.get v = .ok cell ∧ mc.get cell = .ok m ∧
      ((t + 1 > m ∧ nm.set cell 1 = .ok nm' ∧ mc.set cell (t + 1) = .ok mc') ∨
       (t + 1 = m ∧ mc' = mc ∧ ∃ c, nm.get cell = .ok c ∧ nm.set cell (c + 1) = .ok nm') ∨
       (t + 1 < m ∧ mc' = mc ∧ nm' = nm)) := by
  unfold countStep at h
  dsimp only at h
  cases hg : ts.get v with
  | ok t =>
    rw [hg] at h; dsimp only at h
    cases hs : ts.set v (t + 1) with
    | ok ts1 =>
      cases hc : ic.get v with
      | ok cell =>
        rw [hs, hc] at h; dsimp only at h
        cases hm : mc.get cell with
        | ok m =>
          rw [hm] at h; dsimp only at h
          by_cases h1 : t + 1 > m
          · rw [if_pos h1] at h
            osplit h
            simp only [Outcome.ok.injEq, Prod.mk.injEq] at h
            obtain ⟨rfl, rfl, rfl⟩ := h
            exact ⟨t, cell, m, rfl, hs, rfl, hm, Or.inl ⟨h1, ‹_›, ‹_›⟩⟩
          · rw [if_neg h1] at h
            by_cases h2 : t + 1 = m
            · rw [if_pos h2] at h
              osplit h
              simp only [Outcome.ok.injEq, Prod.mk.injEq] at h
              obtain ⟨rfl, rfl, rfl⟩ := h
              exact ⟨t, cell, m, rfl, hs, rfl, hm, Or.inr (Or.inl ⟨h2, rfl, _, ‹_›, ‹_›⟩)⟩
            · rw [if_neg h2] at h
              simp only [Outcome.ok.injEq, Prod.mk.injEq] at h
              obtain ⟨rfl, rfl, rfl⟩ := h
              exact ⟨t, cell, m, rfl, hs, rfl, hm, Or.inr (Or.inr ⟨by omega, rfl, rfl⟩)⟩
        | panic => rw [hm] at h; simp at h
        | outOfFuel => rw [hm] at h; simp at h
      | panic => rw [hs, hc] at h; simp at h
      | outOfFuel => rw [hs, hc] at h; simp at h
    | panic => rw [hs] at h; simp at h
    | outOfFuel => rw [hs] at h; simp at h
  | panic => rw [hg] at h; simp at h
  | outOfFuel => rw [hg] at h; simp at h

theorem countStep_inv {n : Nat} {ic ts mc nm ts' mc' nm' : Sl Nat} {v : Nat} (hic : ic.len ≤ n)
    (hI : CountInv n ic ts mc nm) (h : countStep ic v (ts, mc, nm) = .ok (ts', mc', nm')) :
    CountInv n ic ts' mc' nm' ∧ SlFrame ts ts' ∧ SlFrame mc mc' ∧ SlFrame nm nm' := by
  obtain ⟨t, cell, m, hg, hs, hc, hm, hcase⟩ := countStep_ok h
  have hvn : v < n := Nat.lt_of_lt_of_le (Sl.get_lt hc) hic
  have hv : ic.toList[v]? = some cell := Sl.get_eq_toList.1 hc
  have ht : rfTv ts v = t := rfTv_of_get hg
  have ht' : rfTv ts' v = t + 1 := by rw [rfTv_set hs, if_pos rfl]
  have hts : ∀ u, u ≠ v → rfTv ts' u = rfTv ts u := fun u hu => by rw [rfTv_set hs, if_neg hu]
  have hdm : rfDv mc cell = m := rfDv_of_get hm
  have hcell := hI cell (Sl.get_lt hm)
  rw [hdm] at hcell
  rcases hcase with ⟨hgt, hn1, hm1⟩ | ⟨heq, rfl, cnt, hgn, hn1⟩ | ⟨hlt, rfl, rfl⟩
  · refine ⟨fun c hc' => ?_, SlFrame.of_set hs, SlFrame.of_set hm1, SlFrame.of_set hn1⟩
    rw [Sl.set_len hm1] at hc'
    rw [rfDv_set hm1, rfDv_set hn1]
    by_cases hcc : c = cell
    · subst hcc
      rw [if_pos rfl, if_pos rfl]
      exact cellInv_gt hcell hvn hv ht ht' hts hgt
    · rw [if_neg hcc, if_neg hcc]
      exact cellInv_other (hI c hc') hv hcc hts
  · refine ⟨fun c hc' => ?_, SlFrame.of_set hs, SlFrame.refl _, SlFrame.of_set hn1⟩
    rw [rfDv_set hn1]
    by_cases hcc : c = cell
    · subst hcc
      rw [if_pos rfl, hdm]
      rw [rfDv_of_get hgn] at hcell
      exact cellInv_eq hcell hvn hv ht ht' hts heq
    · rw [if_neg hcc]
      exact cellInv_other (hI c hc') hv hcc hts
  · refine ⟨fun c hc' => ?_, SlFrame.of_set hs, SlFrame.refl _, SlFrame.refl _⟩
    by_cases hcc : c = cell
    · subst hcc
      rw [hdm]
      exact cellInv_lt hcell hvn hv ht ht' hts hlt
    · exact cellInv_other (hI c hc') hv hcc hts


def CountSt (n : Nat) (ic ts mc nm : Sl Nat) (st : Sl Nat × Sl Nat × Sl Nat) : Prop :=
  CountInv n ic st.1 st.2.1 st.2.2 ∧ SlFrame ts st.1 ∧ SlFrame mc st.2.1 ∧ SlFrame nm st.2.2

theorem countStep_st {n : Nat} {ic ts mc nm : Sl Nat} (hic : ic.len ≤ n) (v : Nat) (st st' : Sl Nat × Sl Nat × Sl Nat)
    (hI : CountSt n ic ts mc nm st) (h : countStep ic v st = .ok st') : CountSt n ic ts mc nm st' := by
  obtain ⟨a, b, c⟩ := st
  obtain ⟨a', b', c'⟩ := st'
  obtain ⟨h1, h2, h3, h4⟩ := hI
  obtain ⟨g1, g2, g3, g4⟩ := countStep_inv hic h1 h
  exact ⟨g1, h2.trans g2, h3.trans g3, h4.trans g4⟩

theorem countBinStep_st {n : Nat} {ic ts mc nm : Sl Nat} (hic : ic.len ≤ n) (nb : Nbrs) (order : Sl Nat) (w : Nat)
    (st st' : Sl Nat × Sl Nat × Sl Nat)
    (hI : CountSt n ic ts mc nm st) (h : countBinStep nb order ic w st = .ok st') : CountSt n ic ts mc nm st' := by
  unfold countBinStep at h
  osplit h
  exact forList_inv (countStep ic) (CountSt n ic ts mc nm) _ st st' hI
    (fun x s s' _ hs hf => countStep_st hic x s s' hs hf) h

theorem countLoop_st {n : Nat} {ic ts mc nm : Sl Nat} (hic : ic.len ≤ n) (nb : Nbrs) (order : Sl Nat) (k lo : Nat)
    (st' : Sl Nat × Sl Nat × Sl Nat) (hI : CountInv n ic ts mc nm)
    (h : forRange (countBinStep nb order ic) k lo (ts, mc, nm) = .ok st') : CountSt n ic ts mc nm st' :=
  forRange_inv (countBinStep nb order ic) (fun _ st => CountSt n ic ts mc nm st) k lo (ts, mc, nm) st'
    ⟨hI, SlFrame.refl _, SlFrame.refl _, SlFrame.refl _⟩
    (fun i s s' _ _ hs hf => countBinStep_st hic nb order i s s' hs hf) h

theorem countInv_zero {n : Nat} {ic ts mc nm : Sl Nat} (hts : ∀ v, rfTv ts v = 0) (hmc : ∀ c, c < mc.len → rfDv mc c = 0) :
    CountInv n ic ts mc nm := by
  intro c hc
  rw [hmc c hc]
  exact ⟨fun v _ _ => Nat.le_of_eq (hts v), fun h => absurd h (Nat.lt_irrefl _),
    fun h => absurd h (Nat.lt_irrefl _)⟩


def rfSeg (l : List Nat) (bs dj : Nat) : List Nat := (l.drop bs).take (dj - bs)

theorem getElem?_rfSeg (l : List Nat) (bs dj i : Nat) : (rfSeg l bs dj)[i]? = if i < dj - bs then l[bs + i]? else none := by
  unfold rfSeg; rw [List.getElem?_take, List.getElem?_drop]

theorem length_rfSeg (l : List Nat) (bs dj : Nat) (h1 : bs ≤ dj) (h2 : dj ≤ l.length) : (rfSeg l bs dj).length = dj - bs := by
  unfold rfSeg; rw [List.length_take, List.length_drop]; omega

theorem mem_rfSeg {l : List Nat} {bs dj x : Nat} : x ∈ rfSeg l bs dj ↔ ∃ p, bs ≤ p ∧ p < dj ∧ l[p]? = some x := by
  rw [List.mem_iff_getElem?]
  constructor
  · rintro ⟨i, hi⟩
    rw [getElem?_rfSeg] at hi
    by_cases h : i < dj - bs
    · rw [if_pos h] at hi; exact ⟨bs + i, by omega, by omega, hi⟩
    · rw [if_neg h] at hi; cases hi
  · rintro ⟨p, h1, h2, h3⟩
    refine ⟨p - bs, ?_⟩
    rw [getElem?_rfSeg, if_pos (by omega), show bs + (p - bs) = p by omega]; exact h3

theorem split_rfSeg (l : List Nat) (bs dj : Nat) (h : bs ≤ dj) : l = l.take bs ++ rfSeg l bs dj ++ l.drop dj := by
  unfold rfSeg
  have : l.drop dj = (l.drop bs).drop (dj - bs) := by rw [List.drop_drop]; congr 1; omega
  rw [this, List.append_assoc, List.take_append_drop, List.take_append_drop]

theorem count_rfSeg {n : Nat} {order bd ict : List Nat} (hperm : order.Perm (List.range n))
    (hs : bd.Pairwise (· < ·))
    (hic : ∀ p v, order[p]? = some v → ict[v]? = some (binIdx bd p))
    {j bs dj : Nat} (hbs : (0 :: bd)[j]? = some bs) (hdj : bd[j]? = some dj) (hle : bs ≤ dj) (q : Nat → Bool) :
    (List.range n).countP (fun v => decide (ict[v]? = some j) && q v) = (rfSeg order bs dj).countP q := by
  rw [← hperm.countP_eq]
  have hiff := binIdx_eq_iff_mem_bin hs hbs hdj
  conv => lhs; rw [split_rfSeg order bs dj hle]
  rw [List.countP_append, List.countP_append]
  have z1 : (order.take bs).countP (fun v => decide (ict[v]? = some j) && q v) = 0 := by
    rw [List.countP_eq_zero]
    intro a ha
    obtain ⟨i, hi⟩ := List.mem_iff_getElem?.1 ha
    rw [List.getElem?_take] at hi
    by_cases h : i < bs
    · rw [if_pos h] at hi
      have h1 := hic i a hi
      have : binIdx bd i ≠ j := fun e => by have := (hiff i).1 e; omega
      simp [h1, this]
    · rw [if_neg h] at hi; cases hi
  have z2 : (order.drop dj).countP (fun v => decide (ict[v]? = some j) && q v) = 0 := by
    rw [List.countP_eq_zero]
    intro a ha
    obtain ⟨i, hi⟩ := List.mem_iff_getElem?.1 ha
    rw [List.getElem?_drop] at hi
    have h1 := hic _ a hi
    have : binIdx bd (dj + i) ≠ j := fun e => by have := (hiff (dj + i)).1 e; omega
    simp [h1, this]
  rw [z1, z2]
  have : (rfSeg order bs dj).countP (fun v => decide (ict[v]? = some j) && q v) = (rfSeg order bs dj).countP q := by
    apply List.countP_congr
    intro a ha
    obtain ⟨p, h1, h2, h3⟩ := mem_rfSeg.1 ha
    have h4 := hic p a h3
    rw [(hiff p).2 ⟨h1, h2⟩] at h4
    simp [h4]
  omega

/-- the counting facts about bin `j` in the form used by `splitCell` -/
def CellCount (op : OP) (ts mc nm : Sl Nat) (j : Nat) : Prop :=
  ∀ bs dj, (0 :: op.binDividers.toList)[j]? = some bs → op.binDividers.toList[j]? = some dj →
    (∀ p v, bs ≤ p → p < dj → op.order.toList[p]? = some v → rfTv ts v ≤ rfDv mc j) ∧
    (0 < rfDv mc j → rfDv nm j = (rfSeg op.order.toList bs dj).countP (fun v => decide (rfTv ts v = rfDv mc j))) ∧
    (0 < rfDv mc j → 0 < rfDv nm j)

theorem cellCount_of_countInv {n : Nat} {op : OP} {ts mc nm : Sl Nat} (hp : PartInv n op)
    (hI : CountInv n op.inCell ts mc nm) {j : Nat} (hj : j < mc.len) : CellCount op ts mc nm j := by
  intro bs dj hbs hdj
  have hs : op.binDividers.toList.Pairwise (· < ·) := hp.bdSorted
  have hiff := binIdx_eq_iff_mem_bin hs hbs hdj
  obtain ⟨c1, c2, c3⟩ := hI j hj
  refine ⟨?_, fun hM => ?_, c3⟩
  · intro p v h1 h2 hv
    have hvn := perm_range_lt hp.perm hv
    have := hp.inCell p v hv
    rw [(hiff p).2 ⟨h1, h2⟩] at this
    exact c1 v hvn this
  · rw [c2 hM]
    exact count_rfSeg hp.perm hs hp.inCell hbs hdj (Nat.le_of_lt (rf_sorted_start_lt hp.sorted hbs hdj)) _

def LowerSame (j : Nat) (op op' : OP) : Prop :=
  ∀ j' d, j' < j → op.binDividers.toList[j']? = some d →
    op'.binDividers.toList[j']? = some d ∧ ∀ p, p < d → op'.order.toList[p]? = op.order.toList[p]?

theorem CellCount.transport {op op' : OP} {ts mc nm : Sl Nat} {j j' : Nat} (h : CellCount op ts mc nm j')
    (hl : LowerSame j op op') (hj : j' < j)
    (hlen : j ≤ op.binDividers.toList.length) : CellCount op' ts mc nm j' := by
  intro bs dj hbs hdj
  have hjl : j' < op.binDividers.toList.length := by omega
  obtain ⟨e1, e2⟩ := hl j' _ hj (List.getElem?_eq_getElem hjl)
  rw [e1] at hdj
  have hdj0 : op.binDividers.toList[j']? = some dj := by rw [← hdj]; exact List.getElem?_eq_getElem hjl
  have e2' : ∀ p, p < dj → op'.order.toList[p]? = op.order.toList[p]? := by
    have : op.binDividers.toList[j'] = dj := Option.some.inj hdj
    intro p hp; exact e2 p (by omega)
  have hbs0 : (0 :: op.binDividers.toList)[j']? = some bs := by
    cases j' with
    | zero => simpa using hbs
    | succ k =>
      rw [List.getElem?_cons_succ] at hbs ⊢
      have hk : k < op.binDividers.toList.length := by omega
      obtain ⟨e3, _⟩ := hl k _ (by omega) (List.getElem?_eq_getElem hk)
      rw [e3] at hbs; rw [← hbs]; exact List.getElem?_eq_getElem hk
  obtain ⟨c1, c2, c3⟩ := h bs dj hbs0 hdj0
  refine ⟨?_, ?_, c3⟩
  · intro p v h1 h2 hv
    rw [e2' p h2] at hv
    exact c1 p v h1 h2 hv
  · intro hM
    rw [c2 hM]
    congr 1
    apply List.ext_getElem?
    intro i
    rw [getElem?_rfSeg, getElem?_rfSeg]
    by_cases hi : i < dj - bs
    · rw [if_pos hi, if_pos hi, e2' _ (by omega)]
    · rw [if_neg hi, if_neg hi]


def rfKeys (d : Sl KV) : List Nat := d.toList.map Prod.snd

theorem fill_spec {order ts : Sl Nat} {bs B : Nat} {dws0 dws : Sl KV} (hl : dws0.len = B)
    (h : forRange (fillStep order ts bs) B 0 dws0 = .ok dws) :
    dws.len = B ∧ dws.data.size = dws0.data.size ∧
      dws.toList = (rfSeg order.toList bs (bs + B)).map (fun v => (rfTv ts v, v)) := by
  obtain ⟨h1, h2, h3⟩ := forRange_inv (fillStep order ts bs)
    (fun i (d : Sl KV) => d.len = dws0.len ∧ d.data.size = dws0.data.size ∧
      ∀ k, k < i → ∃ v, order.toList[bs + k]? = some v ∧ d.data[k]? = some (rfTv ts v, v))
    B 0 dws0 dws ⟨rfl, rfl, fun k hk => by omega⟩
    (by
      intro i d d' _ _ ⟨h1, h2, h3⟩ hf
      unfold fillStep at hf
      osplit hf
      rename_i v hv _ t ht
      refine ⟨by rw [Sl.set_len hf, h1], by rw [Sl.set_cap hf, h2], ?_⟩
      intro k hk
      by_cases hki : k = i
      · subst hki
        exact ⟨v, Sl.get_eq_toList.1 hv, by rw [Sl.set_data hf, if_pos rfl, rfTv_of_get ht]⟩
      · obtain ⟨u, hu1, hu2⟩ := h3 k (by omega)
        exact ⟨u, hu1, by rw [Sl.set_data hf, if_neg hki]; exact hu2⟩)
    h
  rw [Nat.zero_add] at h3
  refine ⟨h1.trans hl, h2, ?_⟩
  apply List.ext_getElem?
  intro i
  rw [Sl.getElem?_toList, h1, hl, List.getElem?_map, getElem?_rfSeg, Nat.add_sub_cancel_left]
  by_cases hi : i < B
  · obtain ⟨v, hv1, hv2⟩ := h3 i hi
    rw [if_pos hi, if_pos hi, hv1, hv2]; rfl
  · rw [if_neg hi, if_neg hi]; rfl


theorem fillOnesStep_of_reads {order ts : Sl Nat} {bs k v t : Nat} (hv : order.get (bs + k) = .ok v)
    (ht : ts.get v = .ok t) (d : Sl KV) (z : Nat) (o : Option Nat) :
    fillOnesStep order ts bs k (d, z, o) =
      if t = 0 then
        match d.set z (0, v) with
        | .ok d1 => .ok (d1, z + 1, o)
        | .panic => .panic
        | .outOfFuel => .outOfFuel
      else match o with
        | some oi =>
          match d.set oi (1, v) with
          | .ok d1 => .ok (d1, z, some (oi + 1))
          | .panic => .panic
          | .outOfFuel => .outOfFuel
        | none => .panic := by
  unfold fillOnesStep
  dsimp only
  rw [hv]
  dsimp only
  rw [ht]
  dsimp only
  rfl

theorem fillOnesStep_reads {order ts : Sl Nat} {bs k : Nat} {st st' : Sl KV × Nat × Option Nat}
    (h : fillOnesStep order ts bs k st = .ok st') : ∃ v t, order.get (bs + k) = .ok v ∧ ts.get v = .ok t := by
  unfold fillOnesStep at h
  dsimp only at h
  cases hv : order.get (bs + k) with
  | ok v =>
    rw [hv] at h
    dsimp only at h
    cases ht : ts.get v with
    | ok t => exact ⟨v, t, rfl, ht⟩
    | panic => rw [ht] at h; cases h
    | outOfFuel => rw [ht] at h; cases h
  | panic => rw [hv] at h; cases h
  | outOfFuel => rw [hv] at h; cases h

/-- the two-bucket fill of the segment `S` after `k` steps, on the visible part `L` of `dws`: the zeros so far, room for
the zeros still to come, the ones so far, room for the ones still to come; `z`, `o` are the two cursors -/
def FOL (S : List Nat) (p0 : Nat → Bool) (k : Nat) (L : List KV) (z : Nat) (o : Option Nat) : Prop :=
  ∃ G1 G2 : List KV,
    L = ((S.take k).filter p0).map (Prod.mk 0) ++ (G1 ++ (((S.take k).filter (!p0 ·)).map (Prod.mk 1) ++ G2)) ∧
    G1.length = (S.drop k).countP p0 ∧ G2.length = (S.drop k).countP (!p0 ·) ∧
    z = ((S.take k).filter p0).length ∧
    o = some (((S.take k).filter p0).length + G1.length + ((S.take k).filter (!p0 ·)).length)

theorem FOL.zero {S : List Nat} {p0 : Nat → Bool} {k : Nat} {L : List KV} {z : Nat} {o : Option Nat} {v : Nat}
    (h : FOL S p0 k L z o) (hv : S[k]? = some v) (hp : p0 v = true) :
    z < L.length ∧ FOL S p0 (k + 1) (L.set z (0, v)) (z + 1) o := by
  obtain ⟨G1, G2, rfl, h1, h2, rfl, rfl⟩ := h
  have hn : (!p0 v) = false := by rw [hp]; rfl
  rw [List.drop_eq_getElem_cons (List.getElem?_eq_some_iff.1 hv).1, (List.getElem?_eq_some_iff.1 hv).2] at h1 h2
  rw [List.countP_cons_of_neg (by rw [hn]; exact Bool.false_ne_true)] at h2
  obtain ⟨hz, G1', h1', e⟩ := List.cursor_write (W := ((S.take k).filter p0).map (Prod.mk 0))
    (Q := ((S.take k).filter (!p0 ·)).map (Prod.mk 1) ++ G2) (0, v) (List.room_cons hp h1)
  rw [List.length_map] at hz e
  refine ⟨hz, G1', G2, ?_, h1', h2, ?_, ?_⟩
  · rw [e, List.filter_take_succ_pos hv hp, List.filter_take_succ_neg (p := (!p0 ·)) hv hn, List.map_append]; rfl
  · rw [List.filter_take_succ_pos hv hp, List.length_append]; rfl
  · rw [List.filter_take_succ_pos hv hp, List.filter_take_succ_neg (p := (!p0 ·)) hv hn, List.length_append,
      List.length_singleton, List.room_cons hp h1, h1']
    congr 1; omega

theorem FOL.one {S : List Nat} {p0 : Nat → Bool} {k : Nat} {L : List KV} {z : Nat} {o : Option Nat} {v : Nat}
    (h : FOL S p0 k L z o) (hv : S[k]? = some v) (hp : p0 v = false) :
    ∃ oi, o = some oi ∧ oi < L.length ∧ FOL S p0 (k + 1) (L.set oi (1, v)) z (some (oi + 1)) := by
  obtain ⟨G1, G2, rfl, h1, h2, rfl, rfl⟩ := h
  have hn : (!p0 v) = true := by rw [hp]; rfl
  rw [List.drop_eq_getElem_cons (List.getElem?_eq_some_iff.1 hv).1, (List.getElem?_eq_some_iff.1 hv).2] at h1 h2
  rw [List.countP_cons_of_neg (by rw [hp]; exact Bool.false_ne_true)] at h1
  obtain ⟨hz, G2', h2', e⟩ := List.cursor_write
    (W := ((S.take k).filter p0).map (Prod.mk 0) ++ (G1 ++ ((S.take k).filter (!p0 ·)).map (Prod.mk 1))) (Q := [])
    (1, v) (List.room_cons (p := (!p0 ·)) hn h2)
  simp only [List.append_nil, List.append_assoc, List.length_append, List.length_map] at hz e
  refine ⟨_, rfl, by rw [Nat.add_assoc]; simpa only [List.length_append, List.length_map] using hz, G1, G2', ?_, h1, h2', ?_, ?_⟩
  · rw [Nat.add_assoc, e, List.filter_take_succ_neg hv hp, List.filter_take_succ_pos (p := (!p0 ·)) hv hn, List.map_append]
    simp only [List.append_assoc]; rfl
  · rw [List.filter_take_succ_neg hv hp]
  · rw [List.filter_take_succ_neg hv hp, List.filter_take_succ_pos (p := (!p0 ·)) hv hn, List.length_append]; rfl

def FOInv (S : List Nat) (p0 : Nat → Bool) (B sz k : Nat) (st : Sl KV × Nat × Option Nat) : Prop :=
  st.1.len = B ∧ st.1.data.size = sz ∧ FOL S p0 k st.1.toList st.2.1 st.2.2

theorem fillOnesStep_inv {order ts : Sl Nat} {bs B sz : Nat} {S : List Nat}
    (hS : ∀ k, k < B → S[k]? = order.toList[bs + k]?)
    (p0 : Nat → Bool) (hp0 : ∀ v, p0 v = decide (rfTv ts v = 0)) (hsz : B ≤ sz)
    (k : Nat) (hk : k < B) (st : Sl KV × Nat × Option Nat) (hI : FOInv S p0 B sz k st) :
    (∀ st', fillOnesStep order ts bs k st = .ok st' → FOInv S p0 B sz (k + 1) st') ∧
    (∀ v t, order.get (bs + k) = .ok v → ts.get v = .ok t →
      ∃ st', fillOnesStep order ts bs k st = .ok st' ∧ FOInv S p0 B sz (k + 1) st') := by
  obtain ⟨d, z, o⟩ := st
  obtain ⟨h1, h2, h3⟩ := hI
  have hw : d.WF := (h1.trans_le hsz).trans_eq h2.symm
  have key : ∀ v t, order.get (bs + k) = .ok v → ts.get v = .ok t →
      ∃ st', fillOnesStep order ts bs k (d, z, o) = .ok st' ∧ FOInv S p0 B sz (k + 1) st' := by
    intro v t hv ht
    have hSk : S[k]? = some v := by rw [hS k hk]; exact Sl.get_eq_toList.1 hv
    have hpv : p0 v = decide (t = 0) := by rw [hp0, rfTv_of_get ht]
    rw [fillOnesStep_of_reads hv ht]
    by_cases ht0 : t = 0
    · obtain ⟨hz, hF⟩ := h3.zero hSk (by rw [hpv, decide_eq_true ht0])
      obtain ⟨d1, hs, l1, z1, t1⟩ := Sl.set_of_lt_toList hw hz ((0 : Nat), v)
      rw [if_pos ht0, hs]
      exact ⟨_, rfl, l1.trans h1, z1.trans h2, by rw [t1]; exact hF⟩
    · obtain ⟨oi, rfl, hz, hF⟩ := h3.one hSk (by rw [hpv, decide_eq_false ht0])
      obtain ⟨d1, hs, l1, z1, t1⟩ := Sl.set_of_lt_toList hw hz ((1 : Nat), v)
      rw [if_neg ht0]
      dsimp only
      rw [hs]
      exact ⟨_, rfl, l1.trans h1, z1.trans h2, by rw [t1]; exact hF⟩
  refine ⟨fun st' h => ?_, key⟩
  obtain ⟨v, t, hv, ht⟩ := fillOnesStep_reads h
  obtain ⟨st'', h', hI'⟩ := key v t hv ht
  cases h.symm.trans h'
  exact hI'

theorem counts_of_le_one {T : Nat → Nat} {S : List Nat} {B nm : Nat} (hl : S.length = B) (hle : ∀ v ∈ S, T v ≤ 1)
    (hnm : nm = S.countP (fun v => decide (T v = 1))) :
    nm ≤ B ∧ S.countP (fun v => decide (T v = 0)) = B - nm ∧ S.countP (fun v => !decide (T v = 0)) = nm := by
  have hc1 : S.countP (fun v => !decide (T v = 0)) = nm := by
    rw [hnm]
    apply List.countP_congr
    intro v hv
    have := hle v hv
    simp only [Bool.not_eq_true', decide_eq_false_iff_not, decide_eq_true_eq]
    omega
  have hc2 := List.length_eq_countP_add_countP (fun v => decide (T v = 0)) (l := S)
  simp only [Bool.not_eq_true, Bool.decide_eq_false] at hc2
  omega

theorem FOInv.init {S : List Nat} {p0 : Nat → Bool} {B nm : Nat} {dws0 : Sl KV} (hlen : dws0.len = B) (hd : dws0.WF)
    (hnB : nm ≤ B) (hz : S.countP p0 = B - nm) (ho : S.countP (!p0 ·) = nm) :
    FOInv S p0 B dws0.data.size 0 (dws0, 0, some (B - nm)) := by
  have hl : dws0.toList.length = B := (Sl.length_toList _ hd).trans hlen
  refine ⟨hlen, rfl, dws0.toList.take (B - nm), dws0.toList.drop (B - nm), ?_, ?_, ?_, rfl, ?_⟩
  · simp only [List.take_zero, List.filter_nil, List.map_nil, List.nil_append, List.take_append_drop]
  · rw [List.drop_zero, hz, List.length_take, hl]; exact Nat.min_eq_left (Nat.sub_le _ _)
  · rw [List.drop_zero, ho, List.length_drop, hl]; exact Nat.sub_sub_self hnB
  · simp only [List.take_zero, List.filter_nil, List.length_nil, Nat.zero_add, Nat.add_zero, List.length_take, hl,
      Nat.min_eq_left (Nat.sub_le _ _)]

theorem FOInv.final {S : List Nat} {p0 : Nat → Bool} {B sz : Nat} {st : Sl KV × Nat × Option Nat} (hS : S.length = B)
    (h : FOInv S p0 B sz B st) :
    st.1.toList = (S.filter p0).map (Prod.mk 0) ++ (S.filter (!p0 ·)).map (Prod.mk 1) := by
  obtain ⟨_, _, G1, G2, h5, h1, h2, _, _⟩ := h
  rw [List.drop_of_length_le (Nat.le_of_eq hS), List.countP_nil, List.length_eq_zero_iff] at h1 h2
  rw [h5, h1, h2, List.take_of_length_le (Nat.le_of_eq hS), List.nil_append, List.append_nil]

/-- the two-bucket fill puts the vertices without a neighbour in the bin in front, in order, then the others, in order,
each with its count; it runs if its reads do (that the writes are in range needs the counting facts) -/
theorem fillOnes_run {order ts : Sl Nat} {bs B nm : Nat} {dws0 : Sl KV}
    (hlen : dws0.len = B) (hd : dws0.WF) (hB : bs + B ≤ order.toList.length)
    (hle : ∀ v ∈ rfSeg order.toList bs (bs + B), rfTv ts v ≤ 1)
    (hnm : nm = (rfSeg order.toList bs (bs + B)).countP (fun v => decide (rfTv ts v = 1))) :
    (∀ dws z o, forRange (fillOnesStep order ts bs) B 0 (dws0, 0, if nm ≤ B then some (B - nm) else none) = .ok (dws, z, o) →
      dws.len = B ∧ dws.data.size = dws0.data.size ∧
        dws.toList = ((rfSeg order.toList bs (bs + B)).filter (fun v => decide (rfTv ts v = 0)) ++
          (rfSeg order.toList bs (bs + B)).filter (fun v => !decide (rfTv ts v = 0))).map (fun v => (rfTv ts v, v))) ∧
    ((∀ k, k < B → ∃ v t, order.get (bs + k) = .ok v ∧ ts.get v = .ok t) →
      ∃ r, forRange (fillOnesStep order ts bs) B 0 (dws0, 0, if nm ≤ B then some (B - nm) else none) = .ok r) := by
  generalize hS : rfSeg order.toList bs (bs + B) = S at hle hnm ⊢
  have hSlen : S.length = B := by
    rw [← hS, length_rfSeg _ _ _ (Nat.le_add_right _ _) hB, Nat.add_sub_cancel_left]
  have hSk : ∀ k, k < B → S[k]? = order.toList[bs + k]? := by
    intro k hk; rw [← hS, getElem?_rfSeg, Nat.add_sub_cancel_left, if_pos hk]
  obtain ⟨hnB, hz, hc1⟩ := counts_of_le_one hSlen hle hnm
  rw [if_pos hnB]
  have step := fun k (hk : k < 0 + B) st =>
    fillOnesStep_inv (ts := ts) (sz := dws0.data.size) hSk (fun v => decide (rfTv ts v = 0)) (fun _ => rfl) (hlen ▸ hd) k
      (Nat.zero_add B ▸ hk) st
  constructor
  · intro dws z o h
    have hfin := forRange_inv (fillOnesStep order ts bs) (FOInv S _ B dws0.data.size) B 0 _ _
      (FOInv.init hlen hd hnB hz hc1) (fun i st st' _ hi hI hf => (step i hi st hI).1 st' hf) h
    rw [Nat.zero_add] at hfin
    refine ⟨hfin.1, hfin.2.1, ?_⟩
    rw [FOInv.final hSlen hfin, List.map_append]
    congr 1 <;> apply List.map_congr_left <;> intro v hv
    · rw [of_decide_eq_true (List.mem_filter.1 hv).2]
    · obtain ⟨hm, hp⟩ := List.mem_filter.1 hv
      rw [Nat.le_antisymm (hle v hm) (Nat.pos_of_ne_zero (of_decide_eq_false ((Bool.not_eq_true' _).mp hp)))]
  · intro hreads
    obtain ⟨r, hr, _⟩ := forRange_total (fillOnesStep order ts bs) (FOInv S _ B dws0.data.size) B 0 _
      (FOInv.init hlen hd hnB hz hc1)
      (fun k st _ hk hI => by
        obtain ⟨v, t, hv, ht⟩ := hreads k (Nat.zero_add B ▸ hk)
        exact (step k hk st hI).2 v t hv ht)
    exact ⟨r, hr⟩

/-- `K` is `S` stably sorted by `T` -/
structure StableSortBy (T : Nat → Nat) (S K : List Nat) : Prop where
  perm : K.Perm S
  sorted : K.Pairwise (fun a b => T a ≤ T b)
  stable : ∀ c, K.filter (fun v => T v == c) = S.filter (fun v => T v == c)

theorem filter_front_split {α : Type} (S : List α) (p q : α → Bool) (b : Bool) (h : ∀ a ∈ S, q a = true → p a = b) :
    (S.filter p ++ S.filter (fun a => !p a)).filter q = S.filter q := by
  rw [List.filter_append, List.filter_filter, List.filter_filter]
  have hcongr : ∀ r : α → Bool, (∀ a ∈ S, q a = true → r a = true) → S.filter (fun a => q a && r a) = S.filter q :=
    fun r hr => List.filter_congr (fun a ha => by
      by_cases hq : q a = true
      · rw [hq, hr a ha hq]; rfl
      · rw [Bool.not_eq_true] at hq; rw [hq]; rfl)
  have hnil : ∀ r : α → Bool, (∀ a ∈ S, q a = true → r a = false) → S.filter (fun a => q a && r a) = [] :=
    fun r hr => List.filter_eq_nil_iff.2 (fun a ha hc => by
      rw [Bool.and_eq_true] at hc; rw [hr a ha hc.1] at hc; exact absurd hc.2 (by decide))
  cases b with
  | true =>
    rw [hcongr p h, hnil (fun a => !p a) (fun a ha hq => by rw [h a ha hq]; rfl), List.append_nil]
  | false =>
    rw [hnil p h, hcongr (fun a => !p a) (fun a ha hq => by rw [h a ha hq]; rfl), List.nil_append]

/-- with counts `≤ 1`, "zeros first, then the others" is the stable sort -/
theorem StableSortBy.two {T : Nat → Nat} {S : List Nat} (h : ∀ v ∈ S, T v ≤ 1) :
    StableSortBy T S (S.filter (fun v => decide (T v = 0)) ++ S.filter (fun v => !decide (T v = 0))) where
  perm := List.filter_append_perm _ S
  sorted := by
    rw [List.pairwise_append]
    refine ⟨List.pairwise_of_forall_mem_list ?_, List.pairwise_of_forall_mem_list ?_, ?_⟩
    · intro a ha b hb
      have := (List.mem_filter.1 ha).2
      have := (List.mem_filter.1 hb).2
      simp only [decide_eq_true_eq] at *; omega
    · intro a ha b hb
      obtain ⟨ha1, ha2⟩ := List.mem_filter.1 ha
      obtain ⟨hb1, hb2⟩ := List.mem_filter.1 hb
      have := h a ha1
      have := h b hb1
      simp only [Bool.not_eq_true', decide_eq_false_iff_not] at ha2 hb2; omega
    · intro a ha b hb
      have := (List.mem_filter.1 ha).2
      simp only [decide_eq_true_eq] at this; omega
  stable := fun c => filter_front_split S _ _ (decide (c = 0)) (fun a _ hq => by
    rw [beq_iff_eq] at hq; rw [hq])


theorem map_snd_map_pair (T : Nat → Nat) (l : List Nat) : (l.map (fun v => (T v, v))).map Prod.snd = l := by
  rw [List.map_map]; exact List.map_id'' (fun _ => rfl) l

theorem StableSortBy.of_pairs {T : Nat → Nat} {S : List Nat} {L : List KV}
    (hp : L.Perm (S.map (fun v => (T v, v)))) (hs : L.Pairwise (fun x y => x.1 ≤ y.1))
    (hst : ∀ c, L.filter (fun x => x.1 == c) = (S.map (fun v => (T v, v))).filter (fun x => x.1 == c)) :
    L = (L.map Prod.snd).map (fun v => (T v, v)) ∧ StableSortBy T S (L.map Prod.snd) := by
  have hS := map_snd_map_pair T S
  have hL : ∀ x ∈ L, x.1 = T x.2 := by
    intro x hx
    obtain ⟨v, _, rfl⟩ := List.mem_map.1 (hp.mem_iff.1 hx); rfl
  have hkeys : ∀ (M : List KV), (∀ x ∈ M, x.1 = T x.2) → ∀ c,
      (M.map Prod.snd).filter (fun v => T v == c) = (M.filter (fun x => x.1 == c)).map Prod.snd := by
    intro M hM c
    rw [List.filter_map]; congr 1
    exact List.filter_congr (fun x hx => by simp only [Function.comp]; rw [hM x hx])
  refine ⟨?_, ?_, ?_, ?_⟩
  · rw [List.map_map]
    conv => lhs; rw [← List.map_id L]
    exact List.map_congr_left (fun x hx => by show x = (T x.2, x.2); rw [← hL x hx])
  · have := hp.map Prod.snd; rw [hS] at this; exact this
  · rw [List.pairwise_map]
    exact hs.imp_of_mem (fun ha hb hab => by rw [← hL _ ha, ← hL _ hb]; exact hab)
  · intro c
    rw [hkeys L hL c, hst c, ← hkeys _ (fun x hx => by obtain ⟨v, _, rfl⟩ := List.mem_map.1 hx; rfl) c, hS]


theorem writeBackStep_of_reads {dws : Sl KV} {bs k : Nat} {x y : KV} (hx : dws.get k = .ok x) (hy : dws.get (k - 1) = .ok y)
    (o nb : Sl Nat) (ix : Nat) :
    writeBackStep dws bs k (o, nb, ix) =
      match o.set (bs + k) x.2 with
      | .ok o1 =>
        if x.1 ≠ y.1 then
          match nb.set ix (bs + k) with
          | .ok nb1 => .ok (o1, nb1, ix + 1)
          | .panic => .panic
          | .outOfFuel => .outOfFuel
        else .ok (o1, nb, ix)
      | .panic => .panic
      | .outOfFuel => .outOfFuel := by
  unfold writeBackStep
  dsimp only
  rw [hx, hy]
  rfl

theorem writeBackStep_reads {dws : Sl KV} {bs k : Nat} {st st' : Sl Nat × Sl Nat × Nat}
    (h : writeBackStep dws bs k st = .ok st') : ∃ x y, dws.get k = .ok x ∧ dws.get (k - 1) = .ok y := by
  unfold writeBackStep at h
  dsimp only at h
  cases hx : dws.get k with
  | ok x =>
    cases hy : dws.get (k - 1) with
    | ok y => exact ⟨x, y, rfl, rfl⟩
    | panic => rw [hx, hy] at h; cases h
    | outOfFuel => rw [hx, hy] at h; cases h
  | panic => rw [hx] at h; cases h
  | outOfFuel => rw [hx] at h; cases h

def chgAt (D : List KV) (k : Nat) : Bool := (D[k]?).map Prod.fst != (D[k - 1]?).map Prod.fst

def divsUpTo (D : List KV) (bs k : Nat) : List Nat := ((List.range' 1 (k - 1)).filter (chgAt D)).map (fun k => bs + k)

theorem divsUpTo_succ (D : List KV) (bs : Nat) {k : Nat} (hk : 1 ≤ k) :
    divsUpTo D bs (k + 1) = divsUpTo D bs k ++ if chgAt D k then [bs + k] else [] := by
  unfold divsUpTo
  rw [Nat.sub_add_comm hk, List.range'_1_concat, Nat.add_sub_cancel' hk, List.filter_append, List.map_append]
  by_cases h : chgAt D k = true
  · rw [List.filter_cons_of_pos h, if_pos h]; rfl
  · rw [List.filter_cons_of_neg h, if_neg h]; rfl

theorem length_divsUpTo_le (D : List KV) (bs k : Nat) : (divsUpTo D bs k).length ≤ k - 1 := by
  unfold divsUpTo
  rw [List.length_map]
  exact (List.length_filter_le _ _).trans (Nat.le_of_eq List.length_range')

/-- the write-back loop before index `k`, on the visible parts: in `order`, behind the prefix `P`, the keys of `D` up to
`k`, room for the others, then `Q`; in `nbs` the dividers recorded so far, then room -/
def WBL (D : List KV) (P Q : List Nat) (bs n k : Nat) (O N : List Nat) (ix : Nat) : Prop :=
  (∃ G, O = (P ++ (D.take k).map Prod.snd) ++ (G ++ Q) ∧ G.length = (D.drop k).length) ∧
  (∃ G, N = divsUpTo D bs k ++ (G ++ []) ∧ G.length = n - (divsUpTo D bs k).length) ∧ ix = (divsUpTo D bs k).length

theorem WBL.step {D : List KV} {P Q : List Nat} {bs n k : Nat} {O N : List Nat} {ix : Nat} {x y : KV}
    (h : WBL D P Q bs n k O N ix) (hP : P.length = bs) (hk : 1 ≤ k) (hn : D.length ≤ n)
    (hx : D[k]? = some x) (hy : D[k - 1]? = some y) :
    bs + k < O.length ∧ ix < N.length ∧
      WBL D P Q bs n (k + 1) (O.set (bs + k) x.2) (if x.1 ≠ y.1 then N.set ix (bs + k) else N)
        (if x.1 ≠ y.1 then ix + 1 else ix) := by
  obtain ⟨⟨G, rfl, hG⟩, ⟨G', rfl, hG'⟩, rfl⟩ := h
  have hkD : k < D.length := (List.getElem?_eq_some_iff.1 hx).1
  have hpos : bs + k = (P ++ (D.take k).map Prod.snd).length := by
    rw [List.length_append, List.length_map, List.length_take, hP, Nat.min_eq_left (Nat.le_of_lt hkD)]
  rw [List.drop_eq_getElem_cons hkD, List.length_cons] at hG
  have hroom : n - (divsUpTo D bs k).length = (n - (divsUpTo D bs k).length - 1) + 1 := by
    have := length_divsUpTo_le D bs k; omega
  rw [hroom] at hG'
  obtain ⟨o1, Go, hGo, o2⟩ := List.cursor_write (W := P ++ (D.take k).map Prod.snd) (Q := Q) x.2 hG
  obtain ⟨n1, Gn, hGn, n2⟩ := List.cursor_write (W := divsUpTo D bs k) (Q := []) (bs + k) hG'
  have hchg : chgAt D k = decide (x.1 ≠ y.1) := by
    unfold chgAt; rw [hx, hy, Option.map_some, Option.map_some]
    by_cases hne : x.1 = y.1
    · rw [decide_eq_false (not_not_intro hne), hne]; exact bne_self_eq_false _
    · rw [decide_eq_true hne]; exact bne_iff_ne.2 (fun e => hne (Option.some.inj e))
  refine ⟨hpos ▸ o1, n1, ⟨Go, ?_, hGo⟩, ?_⟩
  · rw [hpos, o2, List.take_succ_of_getElem? hx, List.map_append, List.append_assoc P]; rfl
  · rw [divsUpTo_succ D bs hk, hchg]
    by_cases hne : x.1 ≠ y.1
    · rw [if_pos hne, if_pos hne, decide_eq_true hne, if_pos rfl]
      exact ⟨⟨Gn, n2, by rw [hGn, List.length_append, List.length_singleton]; omega⟩, by rw [List.length_append]; rfl⟩
    · rw [if_neg hne, if_neg hne, decide_eq_false hne, if_neg Bool.false_ne_true]
      simp only [List.append_nil]
      exact ⟨⟨G', rfl, hG'.trans hroom.symm⟩, trivial⟩

def WBInv (D : List KV) (P Q : List Nat) (bs n lo so sn k : Nat) (st : Sl Nat × Sl Nat × Nat) : Prop :=
  st.1.len = lo ∧ st.1.data.size = so ∧ st.2.1.len = n ∧ st.2.1.data.size = sn ∧
    WBL D P Q bs n k st.1.toList st.2.1.toList st.2.2

theorem writeBackStep_inv {dws : Sl KV} {P Q : List Nat} {bs n lo so sn : Nat} (hP : P.length = bs)
    (hn : dws.toList.length ≤ n) (hlo : lo ≤ so) (hns : n ≤ sn) (k : Nat) (hk : 1 ≤ k) (st : Sl Nat × Sl Nat × Nat)
    (hI : WBInv dws.toList P Q bs n lo so sn k st) :
    (∀ st', writeBackStep dws bs k st = .ok st' → WBInv dws.toList P Q bs n lo so sn (k + 1) st') ∧
    (∀ x y, dws.get k = .ok x → dws.get (k - 1) = .ok y →
      ∃ st', writeBackStep dws bs k st = .ok st' ∧ WBInv dws.toList P Q bs n lo so sn (k + 1) st') := by
  obtain ⟨o, nb, ix⟩ := st
  obtain ⟨h1, h2, h3, h4, h5⟩ := hI
  dsimp only at h1 h2 h3 h4 h5
  have hwo : o.WF := (h1.trans_le hlo).trans_eq h2.symm
  have hwn : nb.WF := (h3.trans_le hns).trans_eq h4.symm
  have key : ∀ x y, dws.get k = .ok x → dws.get (k - 1) = .ok y →
      ∃ st', writeBackStep dws bs k (o, nb, ix) = .ok st' ∧ WBInv dws.toList P Q bs n lo so sn (k + 1) st' := by
    intro x y hx hy
    obtain ⟨ho, hn', hF⟩ := h5.step hP hk hn (Sl.get_eq_toList.1 hx) (Sl.get_eq_toList.1 hy)
    obtain ⟨o1, hso, l1, z1, t1⟩ := Sl.set_of_lt_toList hwo ho x.2
    obtain ⟨nb1, hsn, l2, z2, t2⟩ := Sl.set_of_lt_toList hwn hn' (bs + k)
    rw [writeBackStep_of_reads hx hy, hso]
    dsimp only
    by_cases hne : x.1 ≠ y.1
    · rw [if_pos hne, if_pos hne] at hF
      rw [if_pos hne, hsn]
      exact ⟨_, rfl, l1.trans h1, z1.trans h2, l2.trans h3, z2.trans h4, by rw [t1, t2]; exact hF⟩
    · rw [if_neg hne, if_neg hne] at hF
      rw [if_neg hne]
      exact ⟨_, rfl, l1.trans h1, z1.trans h2, h3, h4, by rw [t1]; exact hF⟩
  refine ⟨fun st' h => ?_, key⟩
  obtain ⟨x, y, hx, hy⟩ := writeBackStep_reads h
  obtain ⟨st'', h', hI'⟩ := key x y hx hy
  cases h.symm.trans h'
  exact hI'

/-- the state after `order[binStart] = dws[0].key`, before the loop -/
theorem WBInv.init {dws : Sl KV} {order0 order1 nbs0 : Sl Nat} {bs B n : Nat} {kv0 : KV} (hwo : order0.WF) (hwn : nbs0.WF)
    (hdl : dws.toList.length = B) (hnl : nbs0.len = n) (hb : bs + B ≤ order0.len)
    (hk0 : dws.get 0 = .ok kv0) (hs0 : order0.set bs kv0.2 = .ok order1) :
    WBInv dws.toList (order0.toList.take bs) (order0.toList.drop (bs + B)) bs n order0.len order0.data.size
      nbs0.data.size 1 (order1, nbs0, 0) := by
  have hlo : order0.toList.length = order0.len := Sl.length_toList _ hwo
  have hP : (order0.toList.take bs).length = bs := by
    rw [List.length_take, hlo]; exact Nat.min_eq_left ((Nat.le_add_right bs B).trans hb)
  have hD0 : dws.toList[0]? = some kv0 := Sl.get_eq_toList.1 hk0
  have hB : B = (B - 1) + 1 := (Nat.sub_add_cancel (hdl ▸ (List.getElem?_eq_some_iff.1 hD0).1)).symm
  have hsplit := List.eq_take_mid_drop order0.toList (Nat.le_add_right bs B)
  rw [Nat.add_sub_cancel_left, List.append_assoc] at hsplit
  have hG : ((order0.toList.drop bs).take B).length = (B - 1) + 1 := by
    rw [List.length_take, List.length_drop, hlo, ← hB]; exact Nat.min_eq_left (Nat.le_sub_of_add_le' hb)
  obtain ⟨_, G', hG', e⟩ := List.cursor_write (W := order0.toList.take bs) (Q := order0.toList.drop (bs + B)) kv0.2 hG
  rw [← hsplit, hP] at e
  refine ⟨Sl.set_len hs0, Sl.set_cap hs0, hnl, rfl, ⟨G', ?_, ?_⟩, ⟨nbs0.toList, ?_, ?_⟩, rfl⟩
  · rw [Sl.toList_set hs0, e, List.take_succ_of_getElem? hD0]; rfl
  · rw [hG', List.length_drop, hdl]
  · exact (List.append_nil _).symm
  · exact (Sl.length_toList _ hwn).trans hnl

theorem exists_adjacent_ne : ∀ (l : List Nat), (∃ x ∈ l, ∃ y ∈ l, x ≠ y) → ∃ k, k + 1 < l.length ∧ l[k]? ≠ l[k + 1]? := by
  intro l
  induction l with
  | nil => rintro ⟨x, hx, _⟩; simp at hx
  | cons a t ih =>
    rintro ⟨x, hx, y, hy, hxy⟩
    cases t with
    | nil =>
      simp at hx hy; omega
    | cons b r =>
      by_cases hab : a = b
      · subst hab
        have hx' : x ∈ a :: r := by
          rcases List.mem_cons.1 hx with h | h
          · exact h ▸ List.mem_cons_self ..
          · exact h
        have hy' : y ∈ a :: r := by
          rcases List.mem_cons.1 hy with h | h
          · exact h ▸ List.mem_cons_self ..
          · exact h
        obtain ⟨k, hk1, hk2⟩ := ih ⟨x, hx', y, hy', hxy⟩
        exact ⟨k + 1, by simp at hk1 ⊢; omega, by simpa using hk2⟩
      · exact ⟨0, by simp, by simpa using hab⟩

/-- the new dividers of a bin that starts at `bs` and whose vertices, in their new order, are `K`: one wherever the
count `T` changes -/
def newDivs (T : Nat → Nat) (bs : Nat) (K : List Nat) : List Nat :=
  ((List.range' 1 (K.length - 1)).filter (fun k => T (K.getD k 0) != T (K.getD (k - 1) 0))).map (fun k => bs + k)

theorem mem_newDivs {T : Nat → Nat} {bs : Nat} {K : List Nat} {x : Nat} :
    x ∈ newDivs T bs K ↔ ∃ k, 1 ≤ k ∧ k < K.length ∧ x = bs + k ∧ T (K.getD k 0) ≠ T (K.getD (k - 1) 0) := by
  unfold newDivs
  rw [List.mem_map]
  constructor
  · rintro ⟨k, hk, rfl⟩
    obtain ⟨h1, h2⟩ := List.mem_filter.1 hk
    rw [List.mem_range'_1] at h1
    exact ⟨k, h1.1, by omega, rfl, by simpa using h2⟩
  · rintro ⟨k, h1, h2, rfl, h3⟩
    exact ⟨k, List.mem_filter.2 ⟨by rw [List.mem_range'_1]; omega, by simpa using h3⟩, rfl⟩

theorem newDivs_sorted (T : Nat → Nat) (bs : Nat) (K : List Nat) : (newDivs T bs K).Pairwise (· < ·) :=
  ((List.pairwise_lt_range' (s := 1) (n := K.length - 1)).filter _).map _ (fun _ _ h => Nat.add_lt_add_left h bs)

theorem newDivs_range {T : Nat → Nat} {bs : Nat} {K : List Nat} {x : Nat} (h : x ∈ newDivs T bs K) :
    bs < x ∧ x < bs + K.length := by
  obtain ⟨k, h1, h2, rfl, _⟩ := mem_newDivs.1 h
  omega

theorem newDivs_pos {T : Nat → Nat} (bs : Nat) {K : List Nat} (h : ∃ a ∈ K, ∃ b ∈ K, T a ≠ T b) :
    0 < (newDivs T bs K).length := by
  obtain ⟨a, ha, b, hb, hab⟩ := h
  obtain ⟨k, hk1, hk2⟩ := exists_adjacent_ne (K.map T) ⟨T a, List.mem_map.2 ⟨a, ha, rfl⟩, T b, List.mem_map.2 ⟨b, hb, rfl⟩, hab⟩
  rw [List.length_map] at hk1
  apply List.length_pos_of_mem (a := bs + (k + 1))
  refine mem_newDivs.2 ⟨k + 1, by omega, hk1, rfl, ?_⟩
  rw [List.getElem?_map, List.getElem?_map, List.getElem?_eq_getElem hk1, List.getElem?_eq_getElem (by omega)] at hk2
  rw [List.getD_eq_getElem?_getD, List.getD_eq_getElem?_getD, Nat.add_sub_cancel, List.getElem?_eq_getElem hk1,
    List.getElem?_eq_getElem (by omega)]
  exact fun e => hk2 (congrArg some e.symm)

theorem divsUpTo_of_pairs {D : List KV} {T : Nat → Nat} {K : List Nat} (h : D = K.map (fun v => (T v, v))) (bs : Nat) :
    divsUpTo D bs K.length = newDivs T bs K := by
  unfold divsUpTo newDivs
  congr 1
  apply List.filter_congr
  intro k hk
  rw [List.mem_range'_1] at hk
  have e : ∀ i, i < K.length → (D[i]?).map Prod.fst = some (T (K.getD i 0)) := fun i hi => by
    rw [h, List.getElem?_map, List.getD_eq_getElem?_getD, List.getElem?_eq_getElem hi]; rfl
  unfold chgAt
  rw [e k (by omega), e (k - 1) (by omega)]
  rfl


/-- `bd = bd[:len+m]; copy(bd[j+m:], bd[j:]); copy(bd[j:], l)` -/
theorem insertBlock_copy_spec {α : Type} {s s1 s2 s3 : Sl α} {j : Nat} {l : List α} (hw : s.WF) (hj : j ≤ s.len)
    (h1 : s.reslice (s.len + l.length) = .ok s1) (h2 : s1.copySelf (j + l.length) j s1.len = .ok s2)
    (h3 : s2.copyAt j l = .ok s3) :
    s3.len = s.len + l.length ∧ s3.data.size = s.data.size ∧ s3.WF ∧
      s3.toList = s.toList.take j ++ l ++ s.toList.drop j := by
  obtain ⟨a1, a2, a3, a4, a5, a6⟩ := Sl.growShift_toList hw hj h1 h2
  obtain ⟨b1, b2⟩ := Sl.copyAt_len h3
  refine ⟨by rw [b1, a1], by rw [b2, a2], a3.of_eq b1 b2, ?_⟩
  have hk : (s1.toList.take (j + l.length)).length = j + l.length := by rw [List.length_take, a5]; omega
  rw [Sl.copyAt_toList a3 (by rw [a1]; omega) h3, a6, List.take_append_of_le_length (by omega),
    List.take_take, Nat.min_eq_left (Nat.le_add_right ..), List.drop_left' hk, ← a4, List.take_take,
    Nat.min_eq_left hj]


theorem setLoop_spec {α : Type} {s : Sl α} {j m : Nat} (a : α) (hw : s.WF) (hjm : j + m ≤ s.toList.length) :
    ∃ s', forRange (fun i (x : Sl α) => x.set (j + i) a) m 0 s = .ok s' ∧ s'.len = s.len ∧
      s'.data.size = s.data.size ∧ s'.toList = s.toList.take j ++ List.replicate m a ++ s.toList.drop (j + m) := by
  have hP : (s.toList.take j).length = j := by
    rw [List.length_take]; exact Nat.min_eq_left (Nat.le_of_add_right_le hjm)
  -- the room is the `m` entries from `j` on
  have h0 := List.eq_take_mid_drop s.toList (Nat.le_add_right j m)
  rw [Nat.add_sub_cancel_left, List.append_assoc] at h0
  obtain ⟨s', h, b1, b2, G, hG, b3⟩ := forRange_total (fun i (x : Sl α) => x.set (j + i) a)
    (fun t (x : Sl α) => x.len = s.len ∧ x.data.size = s.data.size ∧ ∃ G, G.length = 0 + m - t ∧
      x.toList = (s.toList.take j ++ List.replicate t a) ++ (G ++ s.toList.drop (j + m)))
    m 0 s ⟨rfl, rfl, (s.toList.drop j).take m,
      by rw [List.length_take, List.length_drop, Nat.zero_add]; exact Nat.min_eq_left (Nat.le_sub_of_add_le' hjm),
      by rw [List.replicate_zero, List.append_nil, ← h0]⟩
    (by
      intro t x _ ht ⟨g1, g2, G, hG, g3⟩
      obtain ⟨hlt, G', hG', e⟩ := List.cursor_write (W := s.toList.take j ++ List.replicate t a)
        (Q := s.toList.drop (j + m)) (r := 0 + m - (t + 1)) a
        (hG.trans (by rw [Nat.sub_add_eq, Nat.sub_add_cancel (Nat.sub_pos_of_lt ht)]))
      rw [List.length_append, hP, List.length_replicate, ← g3] at hlt e
      obtain ⟨x', hs, l1, z1, t1⟩ := Sl.set_of_lt_toList (hw.of_eq g1 g2) hlt a
      exact ⟨x', hs, l1.trans g1, z1.trans g2, G', hG',
        by rw [t1, e, List.append_assoc _ _ [a], ← List.replicate_succ']⟩)
  rw [Nat.sub_self, List.length_eq_zero_iff] at hG
  rw [Nat.zero_add, hG, List.nil_append] at b3
  exact ⟨s', h, b1, b2, b3⟩

/-- `ages = ages[:len+m]; copy(ages[j+m:], ages[j:]); for i < m { ages[j+i] = a }` -/
theorem insertBlock_fill_spec {α : Type} {s s1 s2 s3 : Sl α} {j m : Nat} {a : α} (hw : s.WF) (hj : j ≤ s.len)
    (h1 : s.reslice (s.len + m) = .ok s1) (h2 : s1.copySelf (j + m) j s1.len = .ok s2)
    (h3 : forRange (fun i (x : Sl α) => x.set (j + i) a) m 0 s2 = .ok s3) :
    s3.len = s.len + m ∧ s3.data.size = s.data.size ∧ s3.WF ∧
      s3.toList = s.toList.take j ++ List.replicate m a ++ s.toList.drop j := by
  obtain ⟨a1, a2, a3, a4, a5, a6⟩ := Sl.growShift_toList hw hj h1 h2
  have hk : (s1.toList.take (j + m)).length = j + m := by rw [List.length_take, a5]; omega
  obtain ⟨_, h3', b1, b2, b3⟩ := setLoop_spec a a3 (show j + m ≤ s2.toList.length by
    rw [a6, List.length_append, hk]; exact Nat.le_add_right ..)
  cases h3.symm.trans h3'
  refine ⟨by rw [b1, a1], by rw [b2, a2], a3.of_eq b1 b2, ?_⟩
  rw [b3, a6, List.take_append_of_le_length (by omega), List.take_take, Nat.min_eq_left (Nat.le_add_right ..),
    List.drop_left' hk, ← a4, List.take_take, Nat.min_eq_left hj]


theorem le_insert_replicate {ag : List Int} {j m : Nat} {a : Int} (h : ∀ x ∈ ag, x ≤ a) :
    ∀ x ∈ ag.take j ++ List.replicate m a ++ ag.drop j, x ≤ a := by
  intro x hx
  rcases List.mem_append.1 hx with hx | hx
  · rcases List.mem_append.1 hx with hx | hx
    · exact h x (List.mem_of_mem_take hx)
    · exact Int.le_of_eq (List.eq_of_mem_replicate hx)
  · exact h x (List.mem_of_mem_drop hx)

theorem perm_splice {l K : List Nat} {bs dj : Nat} (h : bs ≤ dj) (hK : K.Perm (rfSeg l bs dj)) :
    (l.take bs ++ K ++ l.drop dj).Perm l := by
  conv => rhs; rw [split_rfSeg l bs dj h]
  exact ((List.Perm.refl _).append hK).append (List.Perm.refl _)


/-- what `shiftBtc j m` does to one entry -/
def btcShiftF (j m : Nat) (x : Int) : Int := if x ≤ (j : Int) then x else x + (m : Int)

theorem shiftBtc_spec (j m : Nat) : ∀ (k : Nat) (b : Sl Int), b.WF → k ≤ b.len → (b.toList.take k).Pairwise (· < ·) →
    ∃ b', shiftBtc j m k b = .ok b' ∧ b'.len = b.len ∧ b'.data.size = b.data.size ∧
      b'.toList = (b.toList.take k).map (btcShiftF j m) ++ b.toList.drop k := by
  intro k
  induction k with
  | zero => intro b _ _ _; exact ⟨b, rfl, rfl, rfl, rfl⟩
  | succ k ih =>
    intro b hw hk hs
    obtain ⟨x, hx, _⟩ := Sl.get_ok_of_lt hw (show k < b.len by omega)
    have hxk : b.toList[k]? = some x := Sl.get_eq_toList.1 hx
    have hlt : k < b.toList.length := (List.getElem?_eq_some_iff.1 hxk).1
    have htk := List.take_succ_of_getElem? hxk
    rw [shiftBtc]
    simp only [hx]
    by_cases hxj : x ≤ (j : Int)
    · rw [if_pos hxj]
      refine ⟨b, rfl, rfl, rfl, ?_⟩
      -- the entries in front are below `x ≤ j`
      rw [List.map_congr_left (g := id), List.map_id, List.take_append_drop]
      intro y hy
      rw [htk, List.pairwise_append] at hs
      have hyx : y ≤ x := by
        rcases List.mem_append.1 (htk ▸ hy) with h | h
        · exact Int.le_of_lt (hs.2.2 y h x (List.mem_singleton.2 rfl))
        · rw [List.mem_singleton.1 h]
      show btcShiftF j m y = y
      unfold btcShiftF; rw [if_pos (Int.le_trans hyx hxj)]
    · rw [if_neg hxj]
      have hset := Sl.set_ok_of_lt hw (show k < b.len by omega) (x + (m : Int))
      simp only [hset]
      have htl := Sl.toList_set hset
      have hw1 : (⟨b.data.setIfInBounds k (x + (m : Int)), b.len⟩ : Sl Int).WF := Sl.set_wf hw hset
      have hs1 : ((⟨b.data.setIfInBounds k (x + (m : Int)), b.len⟩ : Sl Int).toList.take k).Pairwise (· < ·) := by
        rw [htl, List.take_set, List.set_eq_of_length_le (by simp)]
        exact List.Pairwise.sublist (List.take_sublist_take_left (by omega)) hs
      obtain ⟨b', h1, h2, h3, h4⟩ := ih _ hw1 (by show k ≤ b.len; omega) hs1
      refine ⟨b', h1, h2, by rw [h3]; simp, ?_⟩
      rw [h4, htl, List.take_set, List.set_eq_of_length_le (by simp), List.drop_set, if_neg (Nat.lt_irrefl k),
        Nat.sub_self, List.drop_eq_getElem_cons hlt, List.set_cons_zero, htk, List.map_append, List.append_assoc]
      simp only [List.map_cons, List.map_nil, List.singleton_append, btcShiftF, if_neg hxj]

theorem btcShiftF_lt {j m : Nat} {a b : Int} (h : a < b) : btcShiftF j m a < btcShiftF j m b := by
  unfold btcShiftF
  split <;> split <;> omega

theorem shiftBtc_full (j m : Nat) (b : Sl Int) (hw : b.WF) (hs : b.toList.Pairwise (· < ·)) :
    ∃ b', shiftBtc j m b.len b = .ok b' ∧ b'.WF ∧ b'.len = b.len ∧ b'.data.size = b.data.size ∧
      b'.toList = b.toList.map (btcShiftF j m) := by
  have hlen : b.toList.length = b.len := Sl.length_toList _ hw
  obtain ⟨b', h1, h2, h3, h4⟩ := shiftBtc_spec j m b.len b hw (Nat.le_refl _)
    (by rw [List.take_of_length_le (by omega)]; exact hs)
  refine ⟨b', h1, hw.of_eq h2 h3, h2, h3, ?_⟩
  rw [h4, List.take_of_length_le (by omega), List.drop_of_length_le (by omega), List.append_nil]

/-- the loop `space[k-j] = k` for `k = j .. j+m` -/
theorem spaceLoop_spec (j m : Nat) (sp : Sl Nat) (hw : sp.WF) (hl : sp.len = m + 1) :
    ∃ sp2, forRange (fun k (s : Sl Nat) => s.set (k - j) k) (m + 1) j sp = .ok sp2 ∧
      sp2.data.size = sp.data.size ∧ sp2.toList = List.range' j (m + 1) := by
  obtain ⟨r, hr, _, h2, G, h3, hG⟩ := forRange_total (fun k (s : Sl Nat) => s.set (k - j) k)
    (fun k (s : Sl Nat) => s.len = m + 1 ∧ s.data.size = sp.data.size ∧
      ∃ G, s.toList = List.range' j (k - j) ++ (G ++ []) ∧ G.length = j + (m + 1) - k) (m + 1) j sp
    ⟨hl, rfl, sp.toList, by rw [Nat.sub_self, List.append_nil]; rfl,
      by rw [Nat.add_sub_cancel_left, Sl.length_toList _ hw, hl]⟩
    (by
      intro k s hk1 hk2 ⟨g1, g2, G, g3, hG⟩
      obtain ⟨hlt, G', hG', e⟩ := List.cursor_write (W := List.range' j (k - j)) (Q := []) (r := j + (m + 1) - (k + 1)) k
        (hG.trans (by rw [Nat.sub_add_eq, Nat.sub_add_cancel (Nat.sub_pos_of_lt hk2)]))
      rw [List.length_range', ← g3] at hlt e
      obtain ⟨s', hs, l1, z1, t1⟩ := Sl.set_of_lt_toList (hw.of_eq (g1.trans hl.symm) g2) hlt k
      refine ⟨s', hs, l1.trans g1, z1.trans g2, G', ?_, hG'⟩
      rw [t1, e, Nat.succ_sub hk1, List.range'_1_concat, Nat.add_sub_cancel' hk1])
  rw [Nat.sub_self, List.length_eq_zero_iff] at hG
  rw [Nat.add_sub_cancel_left, hG, List.append_nil, List.append_nil] at h3
  exact ⟨r, hr, h2, h3⟩


theorem SlFrame.wf {α : Type} {s s' : Sl α} (h : SlFrame s s') (hw : s.WF) : s'.WF := hw.of_eq h.1 h.2.1

theorem countStep_total {ic ts mc nm : Sl Nat} {v cell : Nat} (hts : ts.WF) (hv : v < ts.len)
    (hc : ic.get v = .ok cell) (hmc : mc.WF) (hcm : cell < mc.len) (hnm : nm.WF) (hcn : cell < nm.len) :
    ∃ st', countStep ic v (ts, mc, nm) = .ok st' ∧ SlFrame ts st'.1 ∧ SlFrame mc st'.2.1 ∧ SlFrame nm st'.2.2 := by
  obtain ⟨t, hg, _⟩ := Sl.get_ok_of_lt hts hv
  have hs := Sl.set_ok_of_lt hts hv (t + 1)
  obtain ⟨m, hgm, _⟩ := Sl.get_ok_of_lt hmc hcm
  obtain ⟨c, hgn, _⟩ := Sl.get_ok_of_lt hnm hcn
  unfold countStep
  simp only [hg, hs, hc, hgm]
  by_cases h1 : t + 1 > m
  · have s1 := Sl.set_ok_of_lt hnm hcn 1
    have s2 := Sl.set_ok_of_lt hmc hcm (t + 1)
    simp only [if_pos h1, s1, s2]
    exact ⟨_, rfl, SlFrame.of_set hs, SlFrame.of_set s2, SlFrame.of_set s1⟩
  · by_cases h2 : t + 1 = m
    · have s1 := Sl.set_ok_of_lt hnm hcn (c + 1)
      simp only [if_neg h1, if_pos h2, hgn, s1]
      exact ⟨_, rfl, SlFrame.of_set hs, SlFrame.refl _, SlFrame.of_set s1⟩
    · simp only [if_neg h1, if_neg h2]
      exact ⟨_, rfl, SlFrame.of_set hs, SlFrame.refl _, SlFrame.refl _⟩

theorem countLoop_total {n K : Nat} {nb : Nbrs} {order ic ts mc nm : Sl Nat}
    (horder : ∀ p, p < n → ∃ w, order.get p = .ok w ∧ w < n)
    (hnb : ∀ w, w < n → ∃ l, nbrsGet nb w = .ok l ∧ ∀ v ∈ l, v < n)
    (hic : ∀ v, v < n → ∃ c, ic.get v = .ok c ∧ c < K)
    (hts : ts.WF) (htl : n ≤ ts.len) (hmc : mc.WF) (hml : K ≤ mc.len) (hnm : nm.WF) (hnl : K ≤ nm.len)
    (k lo : Nat) (hk : lo + k ≤ n) :
    ∃ st', forRange (countBinStep nb order ic) k lo (ts, mc, nm) = .ok st' := by
  obtain ⟨r, hr, _⟩ := forRange_total (countBinStep nb order ic)
    (fun _ (st : Sl Nat × Sl Nat × Sl Nat) => SlFrame ts st.1 ∧ SlFrame mc st.2.1 ∧ SlFrame nm st.2.2)
    k lo (ts, mc, nm) ⟨SlFrame.refl _, SlFrame.refl _, SlFrame.refl _⟩
    (by
      intro i st _ hi hP
      obtain ⟨w, hw, hwn⟩ := horder i (by omega)
      obtain ⟨l, hl, hln⟩ := hnb w hwn
      unfold countBinStep
      simp only [hw, hl]
      exact forList_total (countStep ic)
        (fun (st : Sl Nat × Sl Nat × Sl Nat) => SlFrame ts st.1 ∧ SlFrame mc st.2.1 ∧ SlFrame nm st.2.2) l st hP
        (by
          rintro v ⟨a, b, c⟩ hv ⟨f1, f2, f3⟩
          simp only at f1 f2 f3
          have hvn := hln v hv
          obtain ⟨cell, hc, hcK⟩ := hic v hvn
          obtain ⟨st', h1, g1, g2, g3⟩ := countStep_total (ic := ic) (v := v) (f1.wf hts) (by rw [f1.1]; omega) hc
            (f2.wf hmc) (by rw [f2.1]; omega) (f3.wf hnm) (by rw [f3.1]; omega)
          exact ⟨st', h1, f1.trans g1, f2.trans g2, f3.trans g3⟩))
  exact ⟨r, hr⟩

theorem fill_total {n : Nat} {order ts : Sl Nat} {bs B : Nat} {dws0 : Sl KV}
    (horder : ∀ p, p < n → ∃ w, order.get p = .ok w ∧ w < n) (hts : ts.WF) (htl : n ≤ ts.len)
    (hB : bs + B ≤ n) (hd : dws0.WF) (hdl : dws0.len = B) :
    ∃ dws, forRange (fillStep order ts bs) B 0 dws0 = .ok dws := by
  obtain ⟨r, hr, _⟩ := forRange_total (fillStep order ts bs)
    (fun _ (d : Sl KV) => d.len = dws0.len ∧ d.data.size = dws0.data.size) B 0 dws0 ⟨rfl, rfl⟩
    (by
      intro i d _ hi ⟨h1, h2⟩
      obtain ⟨w, hw, hwn⟩ := horder (bs + i) (by omega)
      obtain ⟨t, ht, _⟩ := Sl.get_ok_of_lt hts (show w < ts.len by omega)
      have hdw : d.WF := hd.of_eq h1 h2
      have hs := Sl.set_ok_of_lt hdw (show i < d.len by omega) (t, w)
      unfold fillStep
      simp only [hw, ht, hs]
      exact ⟨_, rfl, h1, by simp [h2]⟩)
  exact ⟨r, hr⟩


theorem insertBlock_copy_total {α : Type} (s : Sl α) (j : Nat) (l : List α) (hj : j ≤ s.len)
    (hc : s.len + l.length ≤ s.data.size) :
    ∃ s1 s2 s3, s.reslice (s.len + l.length) = .ok s1 ∧ s1.copySelf (j + l.length) j s1.len = .ok s2 ∧
      s2.copyAt j l = .ok s3 := by
  have h1 : s.reslice (s.len + l.length) = .ok ⟨s.data, s.len + l.length⟩ := Sl.reslice_eq_ok.2 ⟨hc, rfl⟩
  obtain ⟨s2, h2⟩ : ∃ s2, (⟨s.data, s.len + l.length⟩ : Sl α).copySelf (j + l.length) j (s.len + l.length) = .ok s2 :=
    ⟨_, Sl.copySelf_eq_ok.2 ⟨⟨by show j + l.length ≤ s.len + l.length; omega, by omega, hc⟩, rfl⟩⟩
  obtain ⟨l2, _⟩ := Sl.copySelf_len h2
  have l2' : s2.len = s.len + l.length := l2
  obtain ⟨s3, h3⟩ : ∃ s3, s2.copyAt j l = .ok s3 := ⟨_, Sl.copyAt_eq_ok.2 ⟨by omega, rfl⟩⟩
  exact ⟨_, s2, s3, h1, h2, h3⟩

theorem insertBlock_fill_total {α : Type} (s : Sl α) (j m : Nat) (a : α) (hj : j ≤ s.len)
    (hc : s.len + m ≤ s.data.size) :
    ∃ s1 s2 s3, s.reslice (s.len + m) = .ok s1 ∧ s1.copySelf (j + m) j s1.len = .ok s2 ∧
      forRange (fun i (x : Sl α) => x.set (j + i) a) m 0 s2 = .ok s3 := by
  have h1 : s.reslice (s.len + m) = .ok ⟨s.data, s.len + m⟩ := Sl.reslice_eq_ok.2 ⟨hc, rfl⟩
  obtain ⟨s2, h2⟩ : ∃ s2, (⟨s.data, s.len + m⟩ : Sl α).copySelf (j + m) j (s.len + m) = .ok s2 :=
    ⟨_, Sl.copySelf_eq_ok.2 ⟨⟨by show j + m ≤ s.len + m; omega, by omega, hc⟩, rfl⟩⟩
  obtain ⟨l2, z2⟩ := Sl.copySelf_len h2
  have l2' : s2.len = s.len + m := l2
  have z2' : s2.data.size = s.data.size := z2
  obtain ⟨s3, h3, _⟩ := setLoop_spec (s := s2) (j := j) (m := m) a (show s2.len ≤ s2.data.size by omega)
    (by rw [Sl.length_toList s2 (show s2.len ≤ s2.data.size by omega)]; omega)
  exact ⟨_, s2, s3, h1, h2, h3⟩

end CanonF
