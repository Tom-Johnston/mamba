import Mamba.Lemmas.CanonFTotalStep
/-!
# Totality of the refinement with a non-empty `currentBest` (`refine_totalG`, `prog_refine`)

`splitCell` depends on `currentBest` only through the `expandValue` call in its tail, so a call is total as soon as
`expandValue` is (`CallTotal.of_expand` of CanonFRefine.lean); here `expandValue_totalG` does that call, and the loops
(`splitLoop_total … refine_total` of CanonFRefine.lean) carry the certificate invariant along as their `Q`.
-/
namespace CanonF

/-- the refinement in general (`currentBest` may be non-empty: the "worse" test is active) -/
theorem refine_totalG {n : Nat} {nb : Nbrs} {cb fl : Sl Nat} {op : OP} {sc : Scratch} (hnbk : NbOK nb n)
    (h : PartInv n op) (ha : AgeInv op) (hsc : ScratchOK n sc) (hv : VAny nb cb fl op)
    (cBd : n ≤ op.binDividers.data.size) (cAges : n ≤ op.binAges.data.size) (cBtc : n ≤ op.binsToCheck.data.size)
    (cDws : n ≤ sc.dws.data.size) (cNbs : n ≤ sc.nbs.data.size) (cSpace : n ≤ sc.space.data.size)
    (cTs : n ≤ sc.timesSeen.len) (hb : BtcInv op) (hnb : nb.size = n)
    (hcb : cb.len = 0 ∨ ((nb.toList.map List.length).sum) / 2 ≤ cb.data.size)
    (hfl : ((nb.toList.map List.length).sum) / 2 ≤ fl.data.size) :
    ∃ r, refine nb cb fl {} op sc = .ok r := by
  obtain ⟨hpre, hvw, hval⟩ := VAny.facts hv
  have hc : CallTotal nb n cb fl {} (fun op => op.value.toList = certPos nb op.order.toList op.spl) :=
    CallTotal.of_expand stablePerm (fun _ hw => stable_no_panic hw) hnb (rt_nbr_lt hnbk) rfl (fun _ _ hq => hq)
      (fun hp hps hrel hq => by rw [hrel.value, hrel.spl, hrel.certPos_eq nb hp hps]; exact hq)
      (fun op2 hp2 hps2 hvw2 hval2 => by
        obtain ⟨⟨w, opE⟩, hE⟩ := expandValue_totalG (cb := cb) (fl := fl) hnbk hnb hp2 hps2 hvw2 hval2 hcb hfl
        refine ⟨w, opE, hE, fun hw => ?_⟩
        subst hw
        have hc := (expandValue_cert n nb cb fl op2 opE false hp2 hps2 hvw2 hval2 hE).1 rfl
        exact ⟨hc.pre.toPrefixSingle, hc.wf, hc.val⟩)
  obtain ⟨r, op', sc', heq, _⟩ := refine_total stablePerm hc (op := op)
    ⟨⟨h, cBd, cAges, cBtc, hb.wf, hb.sorted, hb.range, hpre, hvw⟩, hval⟩ ha hsc cDws cNbs cSpace cTs
  exact ⟨_, heq⟩

/-- the refinement step of the main loop returns -/
theorem prog_refine {n m : Nat} {nb : Nbrs} {rf : Nat} {r : IR.St} (hnb : NbOK nb n) (hsz : nb.size = n)
    (hm : m = ((nb.toList.map List.length).sum) / 2) (lv : List (Nat × Nat)) (s : LS) (hc : Core n s)
    (htl : s.sc.timesSeen.len = n) (hT : TS n m nb rf r lv s) :
    ∃ r', refine nb s.currentBest s.firstLeaf {} s.op s.sc = .ok r' := by
  obtain ⟨⟨hJ, hDS⟩, hcap⟩ := hT
  obtain ⟨hg, hvn, _⟩ := hJ
  obtain ⟨gh, t, v, hw, _⟩ := hDS
  have hfl := hg.flLen
  refine refine_totalG hnb hc.part hc.age hc.scr hvn.any hcap.bd hcap.ages hcap.btc hcap.dws hcap.nbs hcap.space
    (by omega) hw.btcInv hsz (Or.inr (by rw [← hm]; exact hcap.cb)) ?_
  rw [← hm]
  have := hfl.2.le; omega

end CanonF
