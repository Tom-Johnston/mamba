import Mamba.Lemmas.CombCoeff
import Mathlib.Data.List.Induction
import Mathlib.Data.List.Basic
/-!
# The combinatorial number system: `Rank`, `Unrank`, `Coeffs` (C16)

`rankNat c = Σ_i C(c_i, i+1)` for an ascending list `c`.  Key fact: the rank of a strictly increasing list of
length `k` with all elements `< bound` is `< C(bound, k)`; injectivity, colex monotonicity and the greedy
unranking follow from it.
-/
namespace Comb

/-- colex rank of a list whose head sits at position `j` -/
def rankFrom : Nat → List Nat → Nat
  | _, [] => 0
  | j, v :: vs => Nat.choose v (j + 1) + rankFrom (j + 1) vs

/-- colex rank `Σ_i C(c_i, i+1)` -/
def rankNat (c : List Nat) : Nat := rankFrom 0 c

abbrev Asc (c : List Nat) : Prop := c.Pairwise (· < ·)

theorem rankFrom_append (j : Nat) (a b : List Nat) :
    rankFrom j (a ++ b) = rankFrom j a + rankFrom (j + a.length) b := by
  induction a generalizing j with
  | nil => simp [rankFrom]
  | cons v vs ih =>
    simp only [List.cons_append, rankFrom, ih, List.length_cons]
    rw [show j + 1 + vs.length = j + (vs.length + 1) by omega]
    omega

theorem rankNat_concat (c : List Nat) (x : Nat) :
    rankNat (c ++ [x]) = rankNat c + Nat.choose x (c.length + 1) := by
  unfold rankNat
  rw [rankFrom_append]
  simp [rankFrom]

theorem asc_concat {c : List Nat} {x : Nat} : Asc (c ++ [x]) ↔ Asc c ∧ ∀ y ∈ c, y < x := by
  unfold Asc
  rw [List.pairwise_append]
  simp

theorem rank_lt_choose (c : List Nat) : ∀ bound, Asc c → (∀ x ∈ c, x < bound) →
    rankNat c < Nat.choose bound c.length := by
  induction c using List.reverseRecOn with
  | nil => intro bound _ _; simp [rankNat, rankFrom]
  | append_singleton c x ih =>
    intro bound hasc hb
    rw [asc_concat] at hasc
    rw [rankNat_concat, List.length_append, List.length_singleton]
    have h1 := ih x hasc.1 hasc.2
    have hx : x + 1 ≤ bound := hb x (by simp)
    have h2 : Nat.choose (x + 1) (c.length + 1) ≤ Nat.choose bound (c.length + 1) :=
      Nat.choose_le_choose _ hx
    rw [Nat.choose_succ_succ'] at h2
    omega

/-- the largest element decides: `rank (a ++ [x]) < C(x+1, k) ≤ C(y, k) ≤ rank (b ++ [y])` for `x < y`, `k = |a| + 1` -/
theorem rankNat_concat_lt {a b : List Nat} {x y : Nat} (ha : Asc a) (hax : ∀ z ∈ a, z < x)
    (hl : a.length = b.length) (hxy : x < y) : rankNat (a ++ [x]) < rankNat (b ++ [y]) := by
  have ka := rank_lt_choose a x ha hax
  have h : Nat.choose (x + 1) (a.length + 1) ≤ Nat.choose y (a.length + 1) := Nat.choose_le_choose _ hxy
  rw [Nat.choose_succ_succ'] at h
  rw [rankNat_concat, rankNat_concat, ← hl]
  omega

theorem rankNat_inj (a : List Nat) : ∀ b : List Nat, Asc a → Asc b → a.length = b.length →
    rankNat a = rankNat b → a = b := by
  induction a using List.reverseRecOn with
  | nil => intro b _ _ hl _; exact (List.length_eq_zero_iff.mp hl.symm).symm
  | append_singleton a x ih =>
    intro b ha hb hl hr
    rcases List.eq_nil_or_concat b with rfl | ⟨b', y, rfl⟩
    · simp at hl
    · rw [List.concat_eq_append] at *
      rw [asc_concat] at ha hb
      simp only [List.length_append, List.length_singleton, Nat.add_right_cancel_iff] at hl
      have hxy : x = y := by
        rcases Nat.lt_trichotomy x y with h | h | h
        · exact absurd hr (Nat.ne_of_lt (rankNat_concat_lt ha.1 ha.2 hl h))
        · exact h
        · exact absurd hr.symm (Nat.ne_of_lt (rankNat_concat_lt hb.1 hb.2 hl.symm h))
      subst hxy
      rw [rankNat_concat, rankNat_concat, hl] at hr
      rw [ih b' ha.1 hb.1 hl (Nat.add_right_cancel hr)]

/-- colex order: compare the largest elements first -/
def ColexLt (a b : List Nat) : Prop := List.Lex (· < ·) a.reverse b.reverse

theorem rankNat_lt_of_colexLt (a : List Nat) : ∀ b : List Nat, Asc a → Asc b → a.length = b.length →
    ColexLt a b → rankNat a < rankNat b := by
  induction a using List.reverseRecOn with
  | nil =>
    intro b _ _ hl h
    have : b = [] := List.length_eq_zero_iff.mp hl.symm
    subst this
    simp [ColexLt] at h
  | append_singleton a x ih =>
    intro b ha hb hl h
    rcases List.eq_nil_or_concat b with rfl | ⟨b', y, rfl⟩
    · simp at hl
    · rw [List.concat_eq_append] at *
      rw [asc_concat] at ha hb
      simp only [List.length_append, List.length_singleton, Nat.add_right_cancel_iff] at hl
      unfold ColexLt at h
      simp only [List.reverse_append, List.reverse_cons, List.reverse_nil, List.nil_append,
        List.singleton_append] at h
      rcases List.cons_lex_cons_iff.mp h with hlt | ⟨heq, hrest⟩
      · exact rankNat_concat_lt ha.1 ha.2 hl hlt
      · subst heq
        rw [rankNat_concat, rankNat_concat, hl]
        exact Nat.add_lt_add_right (ih b' ha.1 hb.1 hl hrest) _

section Model
open Gen.Comb

def toInts (c : List Nat) : List Int := c.map Int.ofNat

@[simp] theorem toInts_nil : toInts [] = [] := rfl
@[simp] theorem toInts_cons (a : Nat) (l : List Nat) : toInts (a :: l) = (a : Int) :: toInts l := rfl
@[simp] theorem toInts_append (a b : List Nat) : toInts (a ++ b) = toInts a ++ toInts b := by simp [toInts]
@[simp] theorem toInts_length (a : List Nat) : (toInts a).length = a.length := by simp [toInts]

theorem wrapInt_eq {x : Int} (h1 : -9223372036854775808 ≤ x) (h2 : x < 9223372036854775808) : wrapInt x = x := by
  unfold wrapInt
  apply Int.bmod_eq_of_le_mul_two
  · simp only [W]; omega
  · simp only [W]; omega

theorem wrapInt_neg {x : Int} (h1 : 9223372036854775808 ≤ x) (h2 : x < 18446744073709551616) : wrapInt x < 0 := by
  unfold wrapInt
  rw [Int.bmod_def]
  simp only [W]
  omega

theorem wrapInt_natCast {a : Nat} (h : a < 9223372036854775808) : wrapInt (a : Int) = a :=
  wrapInt_eq (by omega) (by omega)

theorem toU64_nat (n : Nat) (h : n < 18446744073709551616) : toU64 (n : Int) = n := by
  unfold toU64
  simp only [W]
  omega

theorem maxInt_val : maxInt = 9223372036854775807 := by decide

/-- `bits.Mul64` then `bits.Div64` by `y`, on a product `q * y`: the high word reaches `y` exactly when the
quotient `q` does not fit 64 bits -/
theorem hi_ge_iff (q y : Nat) (hy : 0 < y) : q * y / W ≥ y ↔ W ≤ q := by
  rw [ge_iff_le, Nat.le_div_iff_mul_le (by decide), Nat.mul_comm]
  exact ⟨fun h => Nat.le_of_mul_le_mul_right h hy, fun h => Nat.mul_le_mul_right _ h⟩

theorem div64_mul (q y : Nat) (hy : 0 < y) (hq : q < W) : div64 (q * y / W) (q * y % W) y = .ok q := by
  have hlt : ¬ y ≤ q * y / W := fun h => absurd ((hi_ge_iff q y hy).mp h) (Nat.not_le.mpr hq)
  rw [div64, if_neg (Nat.ne_of_gt hy), if_neg hlt, Nat.mul_comm _ W, Nat.div_add_mod, Nat.mul_div_cancel _ hy]

/-- One iteration of the inner loop on naturals: with `next = C(l+1, i+1)` the loop computes
`C(l+2, i+1) = next * (l+2) / (l+1-i)` and stops when that leaves 64 bits. -/
theorem unrankInner_step (i M f l b : Nat) (hM : M < 9223372036854775808) (hil : i ≤ l)
    (hl : l < 9223372036854775808) :
    unrankInner i (M : Int) (f + 1) l b (Nat.choose (l + 1) (i + 1)) =
      if Nat.choose (l + 1) (i + 1) ≤ M then
        if W ≤ Nat.choose (l + 2) (i + 1) then .ok (l + 1, Nat.choose (l + 1) (i + 1))
        else unrankInner i (M : Int) f (l + 1) (Nat.choose (l + 1) (i + 1)) (Nat.choose (l + 2) (i + 1))
      else .ok (l, b) := by
  have hp : Nat.choose (l + 1) (i + 1) * (l + 2) = Nat.choose (l + 2) (i + 1) * (l + 1 - i) := by
    have := Nat.choose_mul_succ_eq (l + 1) (i + 1)
    rwa [Nat.succ_sub_succ] at this
  have hy : 0 < l + 1 - i := Nat.sub_pos_of_lt (Nat.lt_succ_of_le hil)
  have e1 : ((l + 1 : Nat) : Int) + 1 = ((l + 2 : Nat) : Int) := rfl
  have e2 : ((l + 1 : Nat) : Int) - (i : Int) = ((l + 1 - i : Nat) : Int) :=
    (Int.ofNat_sub (Nat.le_succ_of_le hil)).symm
  have hl2 : l + 2 < 18446744073709551616 := lt_trans (Nat.add_lt_add_right hl 2) (by decide)
  rw [unrankInner, toU64_nat M (lt_trans hM (by decide))]
  simp only [Int.natCast_nonneg, true_and, e1, e2]
  rw [toU64_nat (l + 2) hl2, toU64_nat (l + 1 - i) (lt_of_le_of_lt (Nat.sub_le _ _) (Nat.lt_of_succ_lt hl2)), hp]
  by_cases hc : Nat.choose (l + 1) (i + 1) ≤ M
  · rw [if_pos hc, if_pos hc]
    by_cases hN : W ≤ Nat.choose (l + 2) (i + 1)
    · rw [if_pos ((hi_ge_iff _ _ hy).mpr hN), if_pos hN]
    · rw [if_neg (fun h => hN ((hi_ge_iff _ _ hy).mp h)), if_neg hN, div64_mul _ _ hy (Nat.not_le.mp hN)]
  · rw [if_neg hc, if_neg hc]

theorem le_max_of_choose_le {l i M : Nat} (h : Nat.choose l (i + 1) ≤ M) : l ≤ max M (i + 1) := by
  rcases Nat.lt_or_ge l (i + 2) with h' | h'
  · omega
  · have := le_choose (n := l) (j := i + 1) (by omega) (by omega)
    omega

theorem unrankInner_spec (i M : Nat) (hM : M < 9223372036854775808) (hi : i + 2 < 9223372036854775808) :
    ∀ fuel l, i ≤ l → Nat.choose l (i + 1) ≤ M → max M (i + 1) < fuel + l →
      ∃ l', unrankInner i (M : Int) fuel l (Nat.choose l (i + 1)) (Nat.choose (l + 1) (i + 1)) =
          .ok (l', Nat.choose l' (i + 1)) ∧ l ≤ l' ∧
        Nat.choose l' (i + 1) ≤ M ∧ M < Nat.choose (l' + 1) (i + 1) ∧ l' ≤ max M (i + 1) := by
  intro fuel
  induction fuel with
  | zero =>
    intro l _ hbM hfuel
    have := le_max_of_choose_le hbM
    omega
  | succ f ih =>
    intro l hil hbM hfuel
    have hl := le_max_of_choose_le hbM
    rw [unrankInner_step i M f l _ hM hil (by omega)]
    by_cases hc : Nat.choose (l + 1) (i + 1) ≤ M
    · rw [if_pos hc]
      by_cases hN : W ≤ Nat.choose (l + 2) (i + 1)
      · rw [if_pos hN]
        exact ⟨l + 1, rfl, Nat.le_succ l, hc, lt_of_lt_of_le (by simp only [W]; omega) hN,
          le_max_of_choose_le hc⟩
      · rw [if_neg hN]
        obtain ⟨l', h1, h2, h3⟩ := ih (l + 1) (Nat.le_succ_of_le hil) hc (by omega)
        exact ⟨l', h1, Nat.le_of_succ_le h2, h3⟩
    · rw [if_neg hc]
      exact ⟨l, rfl, le_refl _, hbM, Nat.not_le.mp hc, hl⟩

theorem unrankLoop_spec (fuel : Nat) : ∀ (cnt m bound : Nat) (acc : List Int),
    m < 9223372036854775808 → cnt + 1 < 9223372036854775808 → m + 2 ≤ fuel → m < Nat.choose bound cnt →
    ∃ c : List Nat, unrankLoop fuel cnt (m : Int) acc = .ok (toInts c ++ acc) ∧
      c.length = cnt ∧ Asc c ∧ (∀ x ∈ c, x < bound) ∧ (∀ x ∈ c, x ≤ max m cnt) ∧ rankNat c = m := by
  intro cnt
  induction cnt with
  | zero =>
    intro m bound acc hm _ _ hb
    refine ⟨[], by simp [unrankLoop], rfl, List.Pairwise.nil, by simp, by simp, ?_⟩
    simp at hb
    simp [rankNat, rankFrom, hb]
  | succ i ih =>
    intro m bound acc hm hi hf hb
    obtain ⟨l, hl, hil, h1, h2, h3⟩ := unrankInner_spec i m hm (by omega) fuel i (le_refl _)
      (by rw [Nat.choose_succ_self]; exact Nat.zero_le _) (by omega)
    rw [Nat.choose_succ_self, Nat.choose_self] at hl
    unfold unrankLoop
    rw [hl]
    simp only
    rw [wrapInt_natCast (lt_of_le_of_lt h1 hm), ← Int.ofNat_sub h1,
      wrapInt_natCast (lt_of_le_of_lt (Nat.sub_le _ _) hm)]
    have hlb : l < bound := Nat.lt_of_not_le fun hcon =>
      absurd (lt_of_lt_of_le hb (le_trans (Nat.choose_le_choose _ hcon) h1)) (lt_irrefl m)
    have hm' : m - Nat.choose l (i + 1) < Nat.choose l i :=
      Nat.sub_lt_left_of_lt_add h1 (by rwa [Nat.choose_succ_succ', Nat.add_comm] at h2)
    obtain ⟨c', hc', hlen, hasc, hbd, hmx, hrk⟩ :=
      ih (m - Nat.choose l (i + 1)) l ((l : Int) :: acc) (lt_of_le_of_lt (Nat.sub_le _ _) hm)
        (Nat.lt_of_succ_lt hi) (le_trans (Nat.add_le_add_right (Nat.sub_le _ _) 2) hf) hm'
    refine ⟨c' ++ [l], ?_, by rw [List.length_append, hlen]; rfl, asc_concat.mpr ⟨hasc, hbd⟩, ?_, ?_, ?_⟩
    · rw [hc', toInts_append, List.append_assoc]; rfl
    · intro x hx
      rcases List.mem_append.mp hx with h | h
      · exact lt_trans (hbd x h) hlb
      · rw [List.mem_singleton.mp h]; exact hlb
    · intro x hx
      rcases List.mem_append.mp hx with h | h
      · exact le_trans (hmx x h) (max_le_max (Nat.sub_le _ _) (Nat.le_succ _))
      · rw [List.mem_singleton.mp h]; exact h3
    · rw [rankNat_concat, hrk, hlen]; exact Nat.sub_add_cancel h1

theorem unrank_spec (r k fuel : Nat) (hr : r < 9223372036854775808) (hk : k + 1 < 9223372036854775808)
    (hf : r + 2 ≤ fuel) (hk1 : 1 ≤ k ∨ r = 0) :
    ∃ c : List Nat, unrank fuel (r : Int) (k : Int) = .ok (toInts c) ∧
      c.length = k ∧ Asc c ∧ (∀ x ∈ c, x ≤ max r k) ∧ rankNat c = r := by
  have hb : r < Nat.choose (r + k + 1) k := by
    rcases hk1 with h | h
    · have := le_choose (n := r + k + 1) (j := k) h (by omega)
      omega
    · subst h
      exact Nat.choose_pos (by omega)
  obtain ⟨c, hc, hlen, hasc, _, hmx, hrk⟩ := unrankLoop_spec fuel k r (r + k + 1) [] hr hk hf hb
  refine ⟨c, ?_, hlen, hasc, hmx, hrk⟩
  unfold unrank
  rw [if_neg (by omega), Int.toNat_natCast, hc]
  simp

theorem unrank_fuel (r k fuel : Nat) (hr : r < 9223372036854775808) (hk : k + 1 < 9223372036854775808)
    (hf : r + 2 ≤ fuel) : ∃ c, unrank fuel (r : Int) (k : Int) = .ok c := by
  rcases Nat.eq_zero_or_pos k with h | h
  · subst h
    exact ⟨[], by simp [unrank, unrankLoop]⟩
  · obtain ⟨c, hc, _⟩ := unrank_spec r k fuel hr hk hf (Or.inl h)
    exact ⟨_, hc⟩

theorem coeff_neg {n : Int} (hn : n < 0) (k : Int) : coeff n k = .panic := by
  unfold coeff; rw [if_pos hn]

theorem coeff_eq {n k : Nat} (hn : n < 9223372036854775808) (hk : k < 9223372036854775808) :
    coeff (n : Int) (k : Int) =
      if min k (n - k) * Nat.choose n k < W ∧ Nat.choose n k ≤ 9223372036854775807 then
        .ok ((Nat.choose n k : Nat) : Int)
      else .panic := by
  unfold coeff
  rw [if_neg (Int.not_lt.mpr (Int.natCast_nonneg n)), if_neg (Int.not_lt.mpr (Int.natCast_nonneg k)),
    toU64_nat n (lt_trans hn (by decide)), toU64_nat k (lt_trans hk (by decide)), coeffU64_eq, maxInt_val]
  by_cases hf : min k (n - k) * Nat.choose n k < W
  · rw [if_pos hf]
    dsimp only
    by_cases hle : Nat.choose n k ≤ 9223372036854775807
    · rw [if_neg (Nat.not_lt.mpr hle), if_pos ⟨hf, hle⟩, wrapInt_natCast (Nat.lt_succ_of_le hle)]
    · rw [if_pos (Nat.lt_of_not_le hle), if_neg (fun h => hle h.2)]
  · rw [if_neg hf, if_neg (fun h => hf h.1)]

theorem coeff_ok {n k : Nat} (hn : n < 9223372036854775808) (hk : k < 9223372036854775808) {v : Int}
    (h : coeff (n : Int) (k : Int) = .ok v) :
    v = ((Nat.choose n k : Nat) : Int) ∧ Nat.choose n k ≤ 9223372036854775807 := by
  rw [coeff_eq hn hk] at h
  split at h
  · next hf => exact ⟨(Outcome.ok.inj h).symm, hf.2⟩
  · cases h

theorem coeff_returns {n k : Nat} (hn : n < 9223372036854775808) (hk : k < 9223372036854775808)
    (hfit : k ≤ n → min k (n - k) * Nat.choose n k ≤ 9223372036854775807) :
    coeff (n : Int) (k : Int) = .ok ((Nat.choose n k : Nat) : Int) := by
  have hfit' : min k (n - k) * Nat.choose n k ≤ 9223372036854775807 := by
    rcases Nat.lt_or_ge n k with hkn | hkn
    · rw [Nat.choose_eq_zero_of_lt hkn]; exact Nat.zero_le _
    · exact hfit hkn
  have hle : Nat.choose n k ≤ 9223372036854775807 := by
    rcases Nat.eq_zero_or_pos (min k (n - k)) with h0 | h0
    · rcases Nat.lt_or_ge n k with hkn | hkn
      · rw [Nat.choose_eq_zero_of_lt hkn]; exact Nat.zero_le _
      · have : k = 0 ∨ k = n := by omega
        rcases this with rfl | rfl <;> simp
    · exact le_trans (Nat.le_mul_of_pos_left _ h0) hfit'
  rw [coeff_eq hn hk, if_pos ⟨lt_of_le_of_lt hfit' (by decide), hle⟩]

theorem addHasOverflowed_nat (a b : Nat) (ha : a < 9223372036854775808) (hb : b < 9223372036854775808) :
    addHasOverflowed (a : Int) (b : Int) =
      if a + b < 9223372036854775808 then (((a + b : Nat) : Int), false) else (wrapInt ((a : Int) + (b : Int)), true) := by
  have ha0 : ¬ (a : Int) < 0 := Int.not_lt.mpr (Int.natCast_nonneg a)
  have hb0 : ¬ (b : Int) < 0 := Int.not_lt.mpr (Int.natCast_nonneg b)
  unfold addHasOverflowed
  dsimp only
  by_cases h : a + b < 9223372036854775808
  · have hs : wrapInt ((a : Int) + (b : Int)) = ((a + b : Nat) : Int) := wrapInt_natCast h
    have hs0 : ¬ ((a + b : Nat) : Int) < 0 := Int.not_lt.mpr (Int.natCast_nonneg _)
    rw [if_pos h, hs, decide_eq_false hs0, decide_eq_false ha0, decide_eq_false hb0]
    rfl
  · have h0 : wrapInt ((a : Int) + (b : Int)) < 0 := wrapInt_neg (by omega) (by omega)
    rw [if_neg h, decide_eq_true h0, decide_eq_false ha0, decide_eq_false hb0]
    rfl

theorem rankLoop_ok : ∀ (c : List Int) (i acc : Nat) (r : Int), acc < 9223372036854775808 →
    (∀ x ∈ c, x < 9223372036854775808) → i + c.length < 9223372036854775808 →
    rankLoop i (acc : Int) c = .ok r →
    (∀ x ∈ c, 0 ≤ x) ∧ r = ((acc + rankFrom i (c.map Int.toNat) : Nat) : Int) ∧
      acc + rankFrom i (c.map Int.toNat) < 9223372036854775808 := by
  intro c
  induction c with
  | nil =>
    intro i acc r hacc _ _ h
    simp only [rankLoop] at h
    have := Outcome.ok.inj h
    simp [rankFrom, ← this, hacc]
  | cons v vs ih =>
    intro i acc r hacc hc hlen h
    unfold rankLoop at h
    by_cases hv : v < 0
    · rw [coeff_neg hv] at h; cases h
    · have hvn : v = ((v.toNat : Nat) : Int) := (Int.toNat_of_nonneg (Int.not_lt.mp hv)).symm
      have hvb : v.toNat < 9223372036854775808 := by
        have := hc v (by simp); omega
      have hi1 : (i : Int) + 1 = ((i + 1 : Nat) : Int) := rfl
      simp only [List.length_cons] at hlen
      rw [hvn, hi1, coeff_eq hvb (by omega)] at h
      by_cases hf : min (i + 1) (v.toNat - (i + 1)) * Nat.choose v.toNat (i + 1) < W ∧
          Nat.choose v.toNat (i + 1) ≤ 9223372036854775807
      · rw [if_pos hf] at h
        dsimp only at h
        rw [addHasOverflowed_nat acc _ hacc (Nat.lt_succ_of_le hf.2)] at h
        by_cases hfit : acc + Nat.choose v.toNat (i + 1) < 9223372036854775808
        · rw [if_pos hfit] at h
          simp only [Bool.false_eq_true, if_false] at h
          obtain ⟨h1, h2, h3⟩ := ih (i + 1) _ r hfit (fun x hx => hc x (List.mem_cons_of_mem _ hx))
            ((Nat.succ_add_eq_add_succ i vs.length).trans_lt hlen) h
          simp only [List.map_cons, rankFrom, ← Nat.add_assoc]
          exact ⟨fun x hx => (List.mem_cons.mp hx).elim (fun e => e ▸ Int.not_lt.mp hv) (h1 x), h2, h3⟩
        · rw [if_neg hfit] at h
          simp at h
      · rw [if_neg hf] at h
        cases h

/-- every term `C(c_j, j+1)` can be computed by `Coeff` -/
def termsFit : Nat → List Nat → Prop
  | _, [] => True
  | i, v :: vs => (i + 1 ≤ v → min (i + 1) (v - (i + 1)) * Nat.choose v (i + 1) ≤ 9223372036854775807) ∧ termsFit (i + 1) vs

theorem rankLoop_returns : ∀ (c : List Nat) (i acc : Nat), (∀ x ∈ c, x < 9223372036854775808) →
    i + c.length < 9223372036854775808 → termsFit i c → acc + rankFrom i c < 9223372036854775808 →
    rankLoop i (acc : Int) (toInts c) = .ok ((acc + rankFrom i c : Nat) : Int) := by
  intro c
  induction c with
  | nil => intro i acc _ _ _ _; simp [rankLoop, rankFrom]
  | cons v vs ih =>
    intro i acc hc hlen hfit hsum
    simp only [List.length_cons] at hlen
    simp only [rankFrom] at hsum
    have hi1 : (i : Int) + 1 = ((i + 1 : Nat) : Int) := rfl
    rw [toInts_cons]
    unfold rankLoop
    simp only
    have hlt : acc + Nat.choose v (i + 1) < 9223372036854775808 :=
      lt_of_le_of_lt (Nat.add_le_add_left (Nat.le_add_right _ _) acc) hsum
    rw [hi1, coeff_returns (hc v List.mem_cons_self) (by omega) hfit.1]
    simp only
    rw [addHasOverflowed_nat acc (Nat.choose v (i + 1)) (lt_of_le_of_lt (Nat.le_add_right _ _) hlt)
      (lt_of_le_of_lt (Nat.le_add_left _ _) hlt), if_pos hlt]
    simp only [Bool.false_eq_true, if_false]
    rw [ih (i + 1) _ (fun x hx => hc x (List.mem_cons_of_mem _ hx))
      ((Nat.succ_add_eq_add_succ i vs.length).trans_lt hlen) hfit.2 (by rw [Nat.add_assoc]; exact hsum),
      rankFrom, Nat.add_assoc]

theorem toInts_toNat (c : List Nat) : (toInts c).map Int.toNat = c := by
  induction c with
  | nil => rfl
  | cons a l ih => simp [ih]

theorem toInts_mem_lt {c : List Nat} {B : Int} (h : ∀ x ∈ c, (x : Int) < B) : ∀ y ∈ toInts c, y < B := by
  induction c with
  | nil => intro y hy; simp at hy
  | cons a l ih =>
    intro y hy
    simp only [toInts_cons, List.mem_cons] at hy
    rcases hy with rfl | hy
    · exact h a (by simp)
    · exact ih (fun x hx => h x (by simp [hx])) y hy

theorem rank_ok {c : List Int} {r : Int} (hc : ∀ x ∈ c, x < 9223372036854775808)
    (hlen : c.length < 9223372036854775808) (h : rank c = .ok r) :
    (∀ x ∈ c, 0 ≤ x) ∧ r = ((rankNat (c.map Int.toNat) : Nat) : Int) ∧
      rankNat (c.map Int.toNat) < 9223372036854775808 := by
  have h' : rankLoop 0 ((0 : Nat) : Int) c = .ok r := h
  have := rankLoop_ok c 0 0 r (by decide) hc (by rw [Nat.zero_add]; exact hlen) h'
  rw [Nat.zero_add] at this
  exact this

theorem rank_toInts_ok {c : List Nat} {r : Int} (hc : ∀ x ∈ c, x < 9223372036854775808)
    (hlen : c.length < 9223372036854775808) (h : rank (toInts c) = .ok r) :
    r = ((rankNat c : Nat) : Int) ∧ rankNat c < 9223372036854775808 := by
  have := (rank_ok (toInts_mem_lt (B := 9223372036854775808) (fun x hx => Int.ofNat_lt.mpr (hc x hx)))
    (by rw [toInts_length]; exact hlen) h).2
  rw [toInts_toNat] at this
  exact this

theorem coeffU64_ne_outOfFuel (n k : Nat) : coeffU64 n k ≠ .outOfFuel := by
  rw [coeffU64_eq]
  split <;> (intro h; cases h)

theorem coeff_ne_outOfFuel (n k : Int) : coeff n k ≠ .outOfFuel := by
  unfold coeff
  split
  · intro h; cases h
  · split
    · intro h; cases h
    · cases hc : coeffU64 (toU64 n) (toU64 k) with
      | ok c => simp only; split <;> (intro h; cases h)
      | panic => intro h; cases h
      | outOfFuel => exact absurd hc (coeffU64_ne_outOfFuel _ _)

theorem rankLoop_ne_outOfFuel : ∀ (c : List Int) (i : Nat) (acc : Int), rankLoop i acc c ≠ .outOfFuel := by
  intro c
  induction c with
  | nil => intro i acc h; simp [rankLoop] at h
  | cons v vs ih =>
    intro i acc
    unfold rankLoop
    cases hcv : coeff v ((i : Int) + 1) with
    | ok cv =>
      simp only
      rcases hadd : addHasOverflowed acc cv with ⟨r, o⟩
      cases o
      · simp only [Bool.false_eq_true, if_false]; exact ih _ _
      · simp
    | panic => intro h; cases h
    | outOfFuel => exact absurd hcv (coeff_ne_outOfFuel _ _)

/-- successor in colex order of a strictly increasing list whose head sits at position `j`: increase the first
element that can be increased and reset everything before it to `0, 1, 2, …` -/
def colexSuccAux : Nat → List Nat → List Nat
  | _, [] => []
  | _, [v] => [v + 1]
  | j, v :: w :: rest => if v + 1 < w then (v + 1) :: w :: rest else j :: colexSuccAux (j + 1) (w :: rest)

def colexSucc (c : List Nat) : List Nat := colexSuccAux 0 c

theorem rankFrom_colexSuccAux : ∀ (c : List Nat) (j v : Nat), Asc c → c.head? = some v →
    rankFrom j (colexSuccAux j c) = rankFrom j c + Nat.choose v j := by
  intro c
  induction c with
  | nil => intro j v _ h; simp at h
  | cons a l ih =>
    intro j v hasc hv
    simp only [List.head?_cons, Option.some.injEq] at hv
    subst hv
    cases l with
    | nil =>
      simp only [colexSuccAux, rankFrom, Nat.choose_succ_succ']
      omega
    | cons w rest =>
      unfold colexSuccAux
      have haw : a < w := (List.pairwise_cons.mp hasc).1 w (by simp)
      split
      · simp only [rankFrom, Nat.choose_succ_succ']
        omega
      · next hn =>
        have hw : w = a + 1 := by omega
        subst hw
        have := ih (j + 1) (a + 1) (List.pairwise_cons.mp hasc).2 (by simp)
        simp only [rankFrom] at this ⊢
        rw [this, Nat.choose_succ_self]
        have e1 := Nat.choose_succ_succ' a j
        omega

theorem colexSuccAux_asc : ∀ (c : List Nat) (j : Nat), Asc c → (∀ x ∈ c, j ≤ x) →
    Asc (colexSuccAux j c) ∧ (∀ x ∈ colexSuccAux j c, j ≤ x) ∧ (colexSuccAux j c).length = c.length := by
  intro c
  induction c with
  | nil => intro j _ _; simp [colexSuccAux]
  | cons a l ih =>
    intro j hasc hlb
    have hja : j ≤ a := hlb a List.mem_cons_self
    cases l with
    | nil =>
      refine ⟨List.pairwise_singleton _ _, fun x hx => ?_, rfl⟩
      rw [colexSuccAux, List.mem_singleton] at hx
      exact hx ▸ Nat.le_succ_of_le hja
    | cons w rest =>
      unfold colexSuccAux
      obtain ⟨ha, hrest⟩ := List.pairwise_cons.mp hasc
      have haw : a < w := ha w List.mem_cons_self
      split
      · next h =>
        refine ⟨List.pairwise_cons.mpr ⟨fun x hx => ?_, hrest⟩, fun x hx => ?_, rfl⟩
        · rcases List.mem_cons.mp hx with rfl | hx
          · exact h
          · exact lt_trans h ((List.pairwise_cons.mp hrest).1 x hx)
        · rcases List.mem_cons.mp hx with rfl | hx
          · exact Nat.le_succ_of_le hja
          · exact hlb x (List.mem_cons_of_mem _ hx)
      · next h =>
        -- `w = a + 1`: everything from `w` on is above position `j + 1`
        have hjw : j + 1 ≤ w := Nat.succ_le_of_lt (lt_of_le_of_lt hja haw)
        obtain ⟨h1, h2, h3⟩ := ih (j + 1) hrest (fun x hx => by
          rcases List.mem_cons.mp hx with rfl | hx
          · exact hjw
          · exact le_trans hjw ((List.pairwise_cons.mp hrest).1 x hx).le)
        refine ⟨List.pairwise_cons.mpr ⟨fun x hx => Nat.lt_of_succ_le (h2 x hx), h1⟩, fun x hx => ?_,
          congrArg Nat.succ h3⟩
        rcases List.mem_cons.mp hx with rfl | hx
        · exact le_refl _
        · exact Nat.le_of_succ_le (h2 x hx)

theorem rankNat_colexSucc (c : List Nat) (hne : c ≠ []) (hasc : Asc c) :
    rankNat (colexSucc c) = rankNat c + 1 := by
  cases c with
  | nil => exact absurd rfl hne
  | cons a l =>
    have := rankFrom_colexSuccAux (a :: l) 0 a hasc rfl
    simpa [rankNat, colexSucc] using this

theorem colexSucc_asc (c : List Nat) (hasc : Asc c) :
    Asc (colexSucc c) ∧ (colexSucc c).length = c.length := by
  obtain ⟨h1, _, h3⟩ := colexSuccAux_asc c 0 hasc (fun _ _ => Nat.zero_le _)
  exact ⟨h1, h3⟩

theorem two63 : (2 : Int) ^ 63 = 9223372036854775808 := by decide
theorem two63n : (2 : Nat) ^ 63 = 9223372036854775808 := by decide

def rowSpec (i : Nat) : Array Int := ((List.range (i / 2 + 1)).map (fun j => ((Nat.choose i j : Nat) : Int))).toArray

def rowsSpec (n : Nat) : Array (Array Int) := ((List.range n).map rowSpec).toArray

theorem rowSpec_get {i j : Nat} (h : j ≤ i / 2) : (rowSpec i)[j]? = some ((Nat.choose i j : Nat) : Int) := by
  unfold rowSpec
  rw [List.getElem?_toArray, List.getElem?_map, List.getElem?_range (by omega)]
  rfl

theorem rowsSpec_get {n i : Nat} (h : i < n) : (rowsSpec n)[i]? = some (rowSpec i) := by
  unfold rowsSpec
  rw [List.getElem?_toArray, List.getElem?_map, List.getElem?_range h]
  rfl

theorem pascal_sum (i j' : Nat) :
    Nat.choose i j' + (if 2 * (j' + 1) ≠ i + 1 then Nat.choose i (j' + 1) else Nat.choose i j') =
      Nat.choose (i + 1) (j' + 1) := by
  rw [Nat.choose_succ_succ']
  split
  · rfl
  · next h =>
    have hi : i = 2 * j' + 1 := by omega
    subst hi
    rw [Nat.choose_symm_half]

theorem coeffsRowLoop_step (rows : Array (Array Int)) (i s j' : Nat) (tmp : Array Int)
    (hprev : prevRow rows (i + 1) = some (rowSpec i)) (hfit : Nat.choose i (i / 2) < 9223372036854775808)
    (hj : j' + 1 ≤ (i + 1) / 2) :
    coeffsRowLoop rows (i + 1) (s + 1) (j' + 1) tmp =
      if Nat.choose (i + 1) (j' + 1) < 9223372036854775808 then
        coeffsRowLoop rows (i + 1) s (j' + 1 + 1) (tmp.push ((Nat.choose (i + 1) (j' + 1) : Nat) : Int))
      else .panic := by
  have hj' : j' ≤ i / 2 := by omega
  have fits : ∀ j, Nat.choose i j < 9223372036854775808 := fun j => lt_of_le_of_lt (Nat.choose_le_middle j i) hfit
  -- the second summand as the code picks it: the right neighbour, or the left one again in the middle of an odd row
  have key : ∃ b : Nat, (if 2 * (j' + 1) ≠ i + 1 then (rowSpec i)[j' + 1]? else some ((Nat.choose i j' : Nat) : Int)) =
      some (b : Int) ∧ b < 9223372036854775808 ∧ Nat.choose i j' + b = Nat.choose (i + 1) (j' + 1) := by
    have hp := pascal_sum i j'
    by_cases hmid : 2 * (j' + 1) ≠ i + 1
    · have hj1 : j' + 1 ≤ i / 2 := by omega
      rw [if_pos hmid] at hp ⊢
      exact ⟨_, rowSpec_get hj1, fits _, hp⟩
    · rw [if_neg hmid] at hp ⊢
      exact ⟨_, rfl, fits _, hp⟩
  obtain ⟨b, hb, hbB, hsum⟩ := key
  rw [coeffsRowLoop, hprev]
  simp only [Nat.add_sub_cancel]
  rw [rowSpec_get hj']
  simp only
  rw [hb]
  simp only
  rw [addHasOverflowed_nat _ _ (fits j') hbB, hsum]
  by_cases hC : Nat.choose (i + 1) (j' + 1) < 9223372036854775808
  · rw [if_pos hC, if_pos hC]; rfl
  · rw [if_neg hC, if_neg hC]; rfl

theorem range_map_push (f : Nat → Int) (j : Nat) :
    ((List.range j).map f).toArray.push (f j) = ((List.range (j + 1)).map f).toArray := by
  rw [List.push_toArray, List.range_succ, List.map_append]
  rfl

theorem choose_le_central {i j n : Nat} (h : i ≤ n) : Nat.choose i j ≤ Nat.choose n (n / 2) :=
  le_trans (Nat.choose_le_choose j h) (Nat.choose_le_middle j n)

theorem coeffsRowLoop_eq (rows : Array (Array Int)) (i : Nat) (hprev : prevRow rows (i + 1) = some (rowSpec i))
    (hfit : Nat.choose i (i / 2) < 9223372036854775808) :
    ∀ s j', j' + 1 + s = (i + 1) / 2 →
      coeffsRowLoop rows (i + 1) (s + 1) (j' + 1)
          ((List.range (j' + 1)).map (fun j => ((Nat.choose (i + 1) j : Nat) : Int))).toArray =
        if Nat.choose (i + 1) ((i + 1) / 2) < 9223372036854775808 then .ok (rowSpec (i + 1)) else .panic := by
  intro s
  induction s with
  | zero =>
    intro j' hs
    rw [coeffsRowLoop_step rows i 0 j' _ hprev hfit (Nat.le_of_eq hs),
      range_map_push (fun j => ((Nat.choose (i + 1) j : Nat) : Int)), coeffsRowLoop, rowSpec,
      show (i + 1) / 2 = j' + 1 from hs.symm]
  | succ s ih =>
    intro j' hs
    rw [coeffsRowLoop_step rows i (s + 1) j' _ hprev hfit (hs ▸ Nat.le_add_right _ _),
      range_map_push (fun j => ((Nat.choose (i + 1) j : Nat) : Int)),
      ih (j' + 1) ((Nat.succ_add_eq_add_succ (j' + 1) s).trans hs)]
    by_cases hc : Nat.choose (i + 1) ((i + 1) / 2) < 9223372036854775808
    · rw [if_pos (lt_of_le_of_lt (Nat.choose_le_middle _ _) hc), if_pos hc]
    · rw [if_neg hc, ite_self]

theorem coeffsRow_eq (i : Nat) (hprev : ∀ i', i' < i → Nat.choose i' (i' / 2) < 9223372036854775808) :
    coeffsRowLoop (rowsSpec i) i (i / 2) 1 #[1] =
      if Nat.choose i (i / 2) < 9223372036854775808 then .ok (rowSpec i) else .panic := by
  match i with
  | 0 => decide
  | 1 => decide
  | i + 2 =>
    have hp : prevRow (rowsSpec (i + 2)) (i + 1 + 1) = some (rowSpec (i + 1)) := by
      unfold prevRow
      rw [if_neg (Nat.succ_ne_zero _), Nat.add_sub_cancel, rowsSpec_get (Nat.lt_succ_self _)]
    have h2 : (i + 2) / 2 = i / 2 + 1 := Nat.add_div_right i (by decide)
    have h1 : ((List.range (0 + 1)).map (fun j => ((Nat.choose (i + 1 + 1) j : Nat) : Int))).toArray = #[1] := by simp
    have := coeffsRowLoop_eq (rowsSpec (i + 2)) (i + 1) hp (hprev (i + 1) (Nat.lt_succ_self _)) (i / 2) 0
      ((Nat.add_comm _ _).trans h2.symm)
    rw [h1, ← h2] at this
    exact this

theorem rowsSpec_push (i : Nat) : (rowsSpec i).push (rowSpec i) = rowsSpec (i + 1) := by
  unfold rowsSpec
  rw [List.push_toArray, List.range_succ, List.map_append]
  rfl

theorem coeffsLoop_eq : ∀ s i, (∀ i', i' < i → Nat.choose i' (i' / 2) < 9223372036854775808) →
    coeffsLoop (s + 1) i (rowsSpec i) =
      if Nat.choose (i + s) ((i + s) / 2) < 9223372036854775808 then .ok (rowsSpec (i + s + 1)) else .panic := by
  intro s
  induction s with
  | zero =>
    intro i hprev
    rw [coeffsLoop, coeffsRow_eq i hprev, Nat.add_zero i]
    by_cases hi : Nat.choose i (i / 2) < 9223372036854775808
    · rw [if_pos hi, if_pos hi]
      dsimp only
      rw [rowsSpec_push, coeffsLoop]
    · rw [if_neg hi, if_neg hi]
  | succ s ih =>
    intro i hprev
    rw [coeffsLoop, coeffsRow_eq i hprev]
    by_cases hi : Nat.choose i (i / 2) < 9223372036854775808
    · rw [if_pos hi]
      dsimp only
      rw [rowsSpec_push, ih (i + 1) fun i' h => (Nat.lt_or_eq_of_le (Nat.le_of_lt_succ h)).elim (hprev i') (fun e => e ▸ hi),
        Nat.succ_add_eq_add_succ]
    · rw [if_neg hi, if_neg fun h => hi (lt_of_le_of_lt (choose_le_central (Nat.le_add_right i (s + 1))) h)]

theorem coeffs_unfold (n : Nat) : coeffs (n : Int) = coeffsLoop (n + 1) 0 (rowsSpec 0) := by
  unfold coeffs
  rw [if_neg (by omega)]
  have : ((n : Int) + 1).toNat = n + 1 := by omega
  rw [this]
  rfl

theorem coeffs_eq (n : Nat) :
    coeffs (n : Int) = if Nat.choose n (n / 2) < 9223372036854775808 then .ok (rowsSpec (n + 1)) else .panic := by
  rw [coeffs_unfold, coeffsLoop_eq n 0 fun i' h => absurd h (Nat.not_lt_zero i'), Nat.zero_add]

theorem choose_66_33 : chooseMul 33 33 < 9223372036854775808 := by decide +kernel
theorem choose_67_33 : 9223372036854775808 ≤ chooseMul 34 33 := by decide +kernel

/-- the threshold: `C(66, 33) < 2^63 ≤ C(67, 33)` -/
theorem central_fits_iff (n : Nat) : Nat.choose n (n / 2) < 9223372036854775808 ↔ n ≤ 66 := by
  have h66 : Nat.choose 66 33 < 9223372036854775808 := by have := choose_66_33; rwa [chooseMul_eq] at this
  have h67 : 9223372036854775808 ≤ Nat.choose 67 33 := by have := choose_67_33; rwa [chooseMul_eq] at this
  refine ⟨fun h => Nat.le_of_not_lt fun hn => ?_, fun h => lt_of_le_of_lt (choose_le_central h) h66⟩
  exact absurd (lt_of_lt_of_le h h67) (Nat.not_lt.mpr (choose_le_central (j := 33) hn))

/-! ## `Unrank` outside the property's domain: `k = 0`, negative rank -/

theorem unrank_k_zero (fuel : Nat) (r : Int) : unrank fuel r 0 = .ok [] := by
  simp [unrank, unrankLoop]

theorem unrankLoop_neg (f : Nat) (m : Int) (hm : m < 0) (hm' : -9223372036854775808 ≤ m) :
    ∀ cnt acc, unrankLoop (f + 1) cnt m acc = .ok (toInts (List.range cnt) ++ acc) := by
  intro cnt
  induction cnt with
  | zero => intro acc; simp [unrankLoop]
  | succ i ih =>
    intro acc
    unfold unrankLoop unrankInner
    rw [if_neg (by omega)]
    simp only
    have h0 : wrapInt ((0 : Nat) : Int) = 0 := by decide
    rw [h0, Int.sub_zero, wrapInt_eq hm' (by omega), ih]
    rw [List.range_succ, toInts_append]
    simp

end Model

end Comb
