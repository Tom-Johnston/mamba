import Mamba.Lemmas.DistanceIPathsLoop
import Mamba.Lemmas.DistanceEmb
/-!
# Lemmas for C10: counting extensions is invariant under an adjacency-preserving embedding onto a closed vertex set
-/
namespace GDist
open GraphSpec Model

variable {g h : G} {f : Nat → Nat}

theorem goodInduced_map (e : Emb g h f) {q : List Nat} (hq : ∀ x ∈ q, x < h.n) {w : Nat} (hw : w < h.n) :
    goodInduced g (q.map f) (f w) = goodInduced h q w := by
  unfold goodInduced
  have h1 : (q.map f).contains (f w) = q.contains w := by
    rw [Bool.eq_iff_iff]
    simp only [List.contains_iff_mem, List.mem_map]
    constructor
    · rintro ⟨a, ha, hfa⟩
      rw [e.inj a w (hq a ha) hw hfa] at ha; exact ha
    · intro hm; exact ⟨w, hm, rfl⟩
  have h2 : ((q.map f).tail.all fun x => !g.adj (f w) x) = (q.tail.all fun x => !h.adj w x) := by
    rw [Bool.eq_iff_iff, ← List.map_tail]
    simp only [List.all_eq_true, List.mem_map, forall_exists_index, and_imp, forall_apply_eq_imp_iff₂]
    constructor
    · intro hh y hy
      rw [e.adj w y hw (hq y (List.mem_of_mem_tail hy))]; exact hh y hy
    · intro hh y hy
      rw [← e.adj w y hw (hq y (List.mem_of_mem_tail hy))]; exact hh y hy
  rw [h1, h2]

theorem extend_map_perm (e : Emb g h f) {q : List Nat} (hne : q ≠ []) (hq : ∀ x ∈ q, x < h.n) :
    ((extend h (goodInduced h) q).map (List.map f)).Perm (extend g (goodInduced g) (q.map f)) := by
  obtain ⟨last, t, rfl⟩ := List.exists_cons_of_ne_nil hne
  have hlast : last < h.n := hq last List.mem_cons_self
  have hinjmap : ∀ c ∈ extend h (goodInduced h) (last :: t), ∀ c' ∈ extend h (goodInduced h) (last :: t),
      c.map f = c'.map f → c = c' := by
    intro c hc c' hc' heq
    obtain ⟨_, _, w, hh, hw, _, _, rfl⟩ := mem_extend.1 hc
    obtain ⟨_, _, w', _, hw', _, _, rfl⟩ := mem_extend.1 hc'
    simp only [List.map_cons, List.cons.injEq] at heq
    rw [e.inj w w' hw hw' heq.1]
  have hnd1 : ((extend h (goodInduced h) (last :: t)).map (List.map f)).Nodup :=
    List.Nodup.map_on hinjmap (nodup_extend _)
  have hnd2 : (extend g (goodInduced g) ((last :: t).map f)).Nodup := nodup_extend _
  refine (List.perm_ext_iff_of_nodup hnd1 hnd2).2 ?_
  intro c'
  rw [List.mem_map, mem_extend]
  constructor
  · rintro ⟨c, hc, rfl⟩
    obtain ⟨h0, t0, w, hh, hw, hadj, hgood, rfl⟩ := mem_extend.1 hc
    cases hh
    refine ⟨f last, t.map f, f w, by simp, e.rng w hw, ?_, ?_, by simp⟩
    · rw [← e.adj last w hlast hw]; exact hadj
    · rw [goodInduced_map e hq hw]; exact hgood
  · rintro ⟨h0, t0, w', hh, hw', hadj, hgood, rfl⟩
    simp only [List.map_cons, List.cons.injEq] at hh
    obtain ⟨rfl, rfl⟩ := hh
    obtain ⟨w, hw, rfl⟩ := e.closed last w' hlast hw' hadj
    refine ⟨w :: last :: t, mem_extend.2 ⟨last, t, w, rfl, hw, ?_, ?_, rfl⟩, by simp⟩
    · rw [e.adj last w hlast hw]; exact hadj
    · rw [← goodInduced_map e hq hw]; exact hgood

theorem ext_sum_map (e : Emb g h f) (Wh Wg : List Nat → Nat)
    (hW : ∀ d, d ≠ [] → (∀ x ∈ d, x < h.n) → Wg (d.map f) = Wh d) :
    ∀ (k : Nat) (q : List Nat), q ≠ [] → (∀ x ∈ q, x < h.n) →
      ((ext g (goodInduced g) k (q.map f)).map Wg).sum = ((ext h (goodInduced h) k q).map Wh).sum := by
  intro k
  induction k with
  | zero => intro q hne hq; simp [ext, hW q hne hq]
  | succ k ih =>
    intro q hne hq
    rw [ext_succ, ext_succ, sum_map_flatMap, sum_map_flatMap]
    have hp := (extend_map_perm e hne hq).map (fun c => ((ext g (goodInduced g) k c).map Wg).sum)
    rw [← hp.sum_eq, List.map_map]
    congr 1
    apply List.map_congr_left
    intro c hc
    obtain ⟨h0, t0, w, hh, hw, _, _, rfl⟩ := mem_extend.1 hc
    simp only [Function.comp]
    apply ih (w :: q) (by simp)
    intro x hx
    rcases List.mem_cons.1 hx with rfl | hx
    · exact hw
    · exact hq x hx

theorem contribW_map (e : Emb g h f) {Wh Wg : List Nat → Nat}
    (hW : ∀ d, d ≠ [] → (∀ x ∈ d, x < h.n) → Wg (d.map f) = Wh d) (o M : Nat) {q : List Nat} (hne : q ≠ [])
    (hq : ∀ x ∈ q, x < h.n) (l : Nat) :
    contribW g (goodInduced g) Wg o M (q.map f) l = contribW h (goodInduced h) Wh o M q l := by
  unfold contribW
  rw [List.length_map, ext_sum_map e Wh Wg hW _ q hne hq]

theorem extW_map (e : Emb g h f) (d : List Nat) (hne : d ≠ []) (hd : ∀ x ∈ d, x < h.n) :
    extW g (d.map f) = extW h d :=
  (extend_map_perm e hne hd).length_eq.symm.trans (List.length_map _)

end GDist
