import Mamba.Model.IR
import Mathlib.Data.List.Perm.Basic
import Mathlib.Data.List.Perm.Lattice
import Mathlib.Data.List.Dedup
import Mathlib.Data.List.Range
import Mathlib.Data.List.Sort

/-!
# Equivariance of the unpruned search tree under relabelling

Everything here is about the executable definitions of `Mamba/Model/IR.lean`.
`Relabel g g' σ τ`: `g'` is `g` with vertex `v` renamed `σ v` (`τ` is the inverse of `σ` on `0..n-1`).
Main result: `leaves_rel` / `leafCerts_perm` — the list of leaves (resp. leaf certificates) of `g'` is a permutation
of the list of leaves of `g` transported along `σ` (resp. of the list of leaf certificates of `g`), for every start
state, every refinement fuel and every depth fuel.
-/
namespace IR

structure Relabel (g g' : G) (σ τ : Nat → Nat) : Prop where
  n_eq : g'.n = g.n
  left : ∀ v, v < g.n → τ (σ v) = v
  right : ∀ v, v < g.n → σ (τ v) = v
  σ_lt : ∀ v, v < g.n → σ v < g.n
  τ_lt : ∀ v, v < g.n → τ v < g.n
  nbrs_lt : ∀ v, v < g.n → ∀ w ∈ g.nbrs v, w < g.n
  nbrs : ∀ v, v < g.n → (g'.nbrs (σ v)).Perm ((g.nbrs v).map σ)

def CRel (g : G) (σ : Nat → Nat) (c c' : Array Nat) : Prop := ∀ v, v < g.n → col c' (σ v) = col c v

def SRel (g : G) (σ : Nat → Nat) (s s' : St) : Prop :=
  CRel g σ s.c s'.c ∧ s'.cells = s.cells ∧ s'.work = s.work

theorem dedup_eq (l : List Nat) : dedup l = l.dedup := by
  induction l with
  | nil => rfl
  | cons x xs ih =>
    unfold dedup
    by_cases h : x ∈ xs
    · rw [if_pos h, List.dedup_cons_of_mem h, ih]
    · rw [if_neg h, List.dedup_cons_of_notMem h, ih]

theorem col_tab {n : Nat} (f : Nat → Nat) {v : Nat} (hv : v < n) : col (tab n f) v = f v := by
  simp [col, tab, Array.getD, hv]

theorem tab_congr {n : Nat} {f f' : Nat → Nat} (h : ∀ v, v < n → f v = f' v) : tab n f = tab n f' := by
  unfold tab
  congr 1
  exact List.map_congr_left fun v hv => h v (List.mem_range.1 hv)

theorem rank_perm {ks ks' : List Nat} (h : ks.Perm ks') (k : Nat) : rank (dedup ks) k = rank (dedup ks') k := by
  unfold rank; rw [dedup_eq, dedup_eq]; exact ((h.dedup).filter _).length_eq

theorem frags_perm {n : Nat} {ks ks' : List Nat} (h : ks.Perm ks') (x : Nat) :
    frags n (dedup ks) x = frags n (dedup ks') x := by
  unfold frags; rw [dedup_eq, dedup_eq]; exact ((h.dedup).filter _).length_eq

theorem cnt_rel {g g' : G} {σ τ : Nat → Nat} (R : Relabel g g' σ τ) {c c' : Array Nat} (hc : CRel g σ c c')
    (i v : Nat) (hv : v < g.n) : cnt g' c' i (σ v) = cnt g c i v := by
  unfold cnt
  rw [(R.nbrs v hv).countP_eq, List.countP_map]
  apply List.countP_congr
  intro w hw
  simp [Function.comp, hc w (R.nbrs_lt v hv w hw)]

theorem key_rel {g g' : G} {σ τ : Nat → Nat} (R : Relabel g g' σ τ) {c c' : Array Nat} (hc : CRel g σ c c')
    (i v : Nat) (hv : v < g.n) : key g' c' i (σ v) = key g c i v := by
  unfold key
  rw [cnt_rel R hc i v hv, R.n_eq, hc v hv]

theorem range_map_perm {n : Nat} {σ τ : Nat → Nat}
    (left : ∀ v, v < n → τ (σ v) = v) (right : ∀ v, v < n → σ (τ v) = v)
    (σ_lt : ∀ v, v < n → σ v < n) (τ_lt : ∀ v, v < n → τ v < n) :
    ((List.range n).map τ).Perm (List.range n) := by
  apply (List.perm_ext_iff_of_nodup ?_ (List.nodup_range)).2
  · intro a
    simp only [List.mem_map, List.mem_range]
    constructor
    · rintro ⟨b, hb, rfl⟩; exact τ_lt b hb
    · intro ha; exact ⟨σ a, σ_lt a ha, left a ha⟩
  · apply List.Nodup.map_on _ List.nodup_range
    intro a ha b hb hab
    have := congrArg σ hab
    rwa [right a (List.mem_range.1 ha), right b (List.mem_range.1 hb)] at this

theorem keys_rel {g g' : G} {σ τ : Nat → Nat} (R : Relabel g g' σ τ) {c c' : Array Nat} (hc : CRel g σ c c')
    (i : Nat) : (keys g' c' i).Perm (keys g c i) := by
  unfold keys
  rw [R.n_eq]
  have h1 : (List.range g.n).map (key g' c' i) = ((List.range g.n).map τ).map (key g c i) := by
    rw [List.map_map]
    apply List.map_congr_left
    intro u hu
    have hu' := List.mem_range.1 hu
    have := key_rel R hc i (τ u) (R.τ_lt u hu')
    rw [R.right u hu'] at this
    simpa [Function.comp] using this
  rw [h1]
  exact (range_map_perm R.left R.right R.σ_lt R.τ_lt).map _

theorem pass_rel {g g' : G} {σ τ : Nat → Nat} (R : Relabel g g' σ τ) {s s' : St} (h : SRel g σ s s')
    (i : Nat) (rest : List Nat) : SRel g σ (pass g s i rest) (pass g' s' i rest) := by
  obtain ⟨hc, hcells, _⟩ := h
  have hk := keys_rel R hc i
  have e1 : ∀ x, rank (dedup (keys g' s'.c i)) x = rank (dedup (keys g s.c i)) x := fun x => rank_perm hk x
  have e2 : ∀ x, frags g.n (dedup (keys g' s'.c i)) x = frags g.n (dedup (keys g s.c i)) x := fun x => frags_perm hk x
  refine ⟨?_, ?_, ?_⟩
  · intro v hv
    show col (tab g'.n fun v => rank (dedup (keys g' s'.c i)) (key g' s'.c i v)) (σ v)
        = col (tab g.n fun v => rank (dedup (keys g s.c i)) (key g s.c i v)) v
    rw [col_tab _ hv, col_tab _ (by rw [R.n_eq]; exact R.σ_lt v hv), key_rel R hc i v hv, e1]
  · show (dedup (keys g' s'.c i)).length = (dedup (keys g s.c i)).length
    rw [dedup_eq, dedup_eq]
    exact hk.dedup.length_eq
  · show dedup _ = dedup _
    simp only [R.n_eq, hcells, e1, e2]

theorem refine_rel {g g' : G} {σ τ : Nat → Nat} (R : Relabel g g' σ τ) (fuel : Nat) :
    ∀ {s s' : St}, SRel g σ s s' → SRel g σ (refine g fuel s) (refine g' fuel s') := by
  induction fuel with
  | zero => intro s s' h; exact h
  | succ f ih =>
    intro s s' h
    unfold refine
    rw [h.2.2]
    cases hp : popMax s.work with
    | none => exact h
    | some p => obtain ⟨i, rest⟩ := p; exact ih (pass_rel R h i rest)

theorem cellMembers_rel {g g' : G} {σ τ : Nat → Nat} (R : Relabel g g' σ τ) {c c' : Array Nat} (hc : CRel g σ c c')
    (t : Nat) : (cellMembers g' c' t).Perm ((cellMembers g c t).map σ) := by
  unfold cellMembers
  rw [R.n_eq]
  have hσ : ((List.range g.n).map σ).Perm (List.range g.n) :=
    range_map_perm R.right R.left R.τ_lt R.σ_lt
  have h2 : ((List.range g.n).filter (fun v => col c' v == t)).Perm (((List.range g.n).map σ).filter (fun v => col c' v == t)) :=
    (hσ.symm).filter _
  refine h2.trans ?_
  rw [List.filter_map]
  apply List.Perm.of_eq
  congr 1
  apply List.filter_congr
  intro v hv
  simp [Function.comp, hc v (List.mem_range.1 hv)]

theorem target_rel {g g' : G} {σ τ : Nat → Nat} (R : Relabel g g' σ τ) {s s' : St} (h : SRel g σ s s') :
    target g' s' = target g s := by
  unfold target
  rw [h.2.1]
  have e : (fun t => decide ((cellMembers g' s'.c t).length > 1)) = (fun t => decide ((cellMembers g s.c t).length > 1)) := by
    funext t
    have := (cellMembers_rel R h.1 t).length_eq
    simp [this]
  rw [e]

theorem individualise_rel {g g' : G} {σ τ : Nat → Nat} (R : Relabel g g' σ τ) {s s' : St} (h : SRel g σ s s')
    (t v : Nat) (hv : v < g.n) : SRel g σ (individualise g s t v) (individualise g' s' t (σ v)) := by
  refine ⟨?_, ?_, rfl⟩
  · intro u hu
    have inj : σ u = σ v ↔ u = v := by
      constructor
      · intro e; have := congrArg τ e; rwa [R.left u hu, R.left v hv] at this
      · intro e; rw [e]
    show col (tab g'.n _) (σ u) = col (tab g.n _) u
    rw [col_tab _ hu, col_tab _ (by rw [R.n_eq]; exact R.σ_lt u hu)]
    simp only [inj, h.1 u hu]
  · show s'.cells + 1 = s.cells + 1
    rw [h.2.1]

theorem flatMap_rel {α : Type} {Rl : α → α → Prop} (ms : List Nat) (F F' : Nat → List α)
    (h : ∀ v ∈ ms, ∃ l, (F' v).Perm l ∧ List.Forall₂ Rl (F v) l) :
    ∃ l, (ms.flatMap F').Perm l ∧ List.Forall₂ Rl (ms.flatMap F) l := by
  induction ms with
  | nil => exact ⟨[], List.Perm.refl _, List.Forall₂.nil⟩
  | cons v ms ih =>
    obtain ⟨lv, hp, hf⟩ := h v (List.mem_cons_self ..)
    obtain ⟨lr, hpr, hfr⟩ := ih (fun w hw => h w (List.mem_cons_of_mem _ hw))
    refine ⟨lv ++ lr, ?_, ?_⟩
    · simp only [List.flatMap_cons]; exact hp.append hpr
    · simp only [List.flatMap_cons]; exact List.rel_append hf hfr

theorem mem_cellMembers {g : G} {c : Array Nat} {t v : Nat} : v ∈ cellMembers g c t ↔ v < g.n ∧ col c v = t := by
  unfold cellMembers
  simp [List.mem_filter]

theorem mem_cellMembers_lt {g : G} {c : Array Nat} {t v : Nat} (h : v ∈ cellMembers g c t) : v < g.n :=
  (mem_cellMembers.1 h).1

theorem leaves_rel {g g' : G} {σ τ : Nat → Nat} (R : Relabel g g' σ τ) (rf fuel : Nat) :
    ∀ {s s' : St}, SRel g σ s s' →
      ∃ l, (leaves g' rf fuel s').Perm l ∧ List.Forall₂ (fun c c' => CRel g σ c c') (leaves g rf fuel s) l := by
  induction fuel with
  | zero =>
    intro s s' h
    exact ⟨[s'.c], List.Perm.refl _, List.Forall₂.cons h.1 List.Forall₂.nil⟩
  | succ f ih =>
    intro s s' h
    unfold leaves
    rw [target_rel R h]
    cases ht : target g s with
    | none => exact ⟨[s'.c], List.Perm.refl _, List.Forall₂.cons h.1 List.Forall₂.nil⟩
    | some t =>
      simp only
      have hm := cellMembers_rel R h.1 t
      have step1 : ((cellMembers g' s'.c t).flatMap (fun v => leaves g' rf f (refine g' rf (individualise g' s' t v)))).Perm
          ((cellMembers g s.c t).flatMap (fun v => leaves g' rf f (refine g' rf (individualise g' s' t (σ v))))) := by
        have := hm.flatMap_right (fun v => leaves g' rf f (refine g' rf (individualise g' s' t v)))
        rwa [List.flatMap_map] at this
      obtain ⟨l, hp, hf⟩ := flatMap_rel (Rl := fun c c' => CRel g σ c c') (cellMembers g s.c t)
        (fun v => leaves g rf f (refine g rf (individualise g s t v)))
        (fun v => leaves g' rf f (refine g' rf (individualise g' s' t (σ v))))
        (fun v hv => ih (refine_rel R rf (individualise_rel R h t v (mem_cellMembers_lt hv))))
      exact ⟨l, step1.trans hp, hf⟩

theorem codes_rel {g g' : G} {σ τ : Nat → Nat} (R : Relabel g g' σ τ) {c c' : Array Nat} (hc : CRel g σ c c') :
    (codes g' c').Perm (codes g c) := by
  unfold codes
  rw [R.n_eq]
  have hσ : ((List.range g.n).map σ).Perm (List.range g.n) := range_map_perm R.right R.left R.τ_lt R.σ_lt
  refine (hσ.symm.flatMap_right _).trans ?_
  rw [List.flatMap_map]
  apply List.Perm.flatMap_left
  intro u hu
  have hu' := List.mem_range.1 hu
  refine ((R.nbrs u hu').filterMap _).trans ?_
  rw [List.filterMap_map]
  apply List.Perm.of_eq
  apply List.filterMap_congr
  intro v hv
  simp [Function.comp, hc v (R.nbrs_lt u hu' v hv), hc u hu']

theorem mergeSort_le_sorted (l : List Nat) : (l.mergeSort (fun a b => decide (a ≤ b))).Pairwise (· ≤ ·) :=
  (List.pairwise_mergeSort (le := fun a b => decide (a ≤ b))
    (fun a b c h1 h2 => by simp only [decide_eq_true_eq] at *; omega)
    (fun a b => by simp only [Bool.or_eq_true, decide_eq_true_eq]; omega) l).imp (fun h => by simpa using h)

theorem sorted_perm_eq {l l' : List Nat} (p : l.Perm l') :
    l.mergeSort (fun a b => decide (a ≤ b)) = l'.mergeSort (fun a b => decide (a ≤ b)) :=
  List.Perm.eq_of_pairwise (le := (· ≤ ·)) (fun _ _ _ _ => Nat.le_antisymm) (mergeSort_le_sorted l)
    (mergeSort_le_sorted l') ((List.mergeSort_perm _ _).trans (p.trans (List.mergeSort_perm _ _).symm))

theorem cert_rel {g g' : G} {σ τ : Nat → Nat} (R : Relabel g g' σ τ) {c c' : Array Nat} (hc : CRel g σ c c') :
    cert g' c' = cert g c := by
  unfold cert
  exact sorted_perm_eq (codes_rel R hc)

theorem map_cert_of_forall2 {g g' : G} {σ τ : Nat → Nat} (R : Relabel g g' σ τ) {l0 l : List (Array Nat)}
    (hf : List.Forall₂ (fun c c' => CRel g σ c c') l0 l) : l.map (cert g') = l0.map (cert g) := by
  induction hf with
  | nil => rfl
  | cons hab _ ih => simp only [List.map_cons]; rw [cert_rel R hab, ih]

theorem leafCerts_perm {g g' : G} {σ τ : Nat → Nat} (R : Relabel g g' σ τ) (rf fuel : Nat) {s s' : St}
    (h : SRel g σ s s') :
    ((leaves g' rf fuel s').map (cert g')).Perm ((leaves g rf fuel s).map (cert g)) := by
  obtain ⟨l, hp, hf⟩ := leaves_rel R rf fuel h
  exact (hp.map _).trans (List.Perm.of_eq (map_cert_of_forall2 R hf))

end IR
