import Mamba.Lemmas.C06AddEdge
/-! C06: `SplitEdge`, `Contract` and sequences of them. `TOp.Valid g op` (the arguments of a step are vertices of `g`,
distinct for `SplitEdge`) and `ValidSeq g ops` (every step is valid for the graph it is applied to) are defined here;
`ValidSeq` is the hypothesis of `tseq_model_refines` (`Props/C06`). -/
namespace Construct
open GraphSpec

theorem splitEdge_ok (g : G) (hg : g.WF) (i j : Nat) (hij : i ≠ j) :
    splitEdge g i j = .ok (Families.splitEdge g i j) := by
  simp only [splitEdge, beq_false_of_ne hij, Bool.false_eq_true, ↓reduceIte, Outcome.ok.injEq]
  refine GraphRep.G_ext rfl fun u v => ?_
  delta Families.removeEdge
  simp only [Families.addVertex, Families.splitEdge, Families.symm, List.contains_cons,
    List.contains_nil, Bool.or_false]
  rw [hg.symm v u, Bool.eq_iff_iff]
  cases ha : g.adj u v
  · -- no old edge: `uv` is one of the two new edges at the new vertex `g.n`
    simp only [Bool.and_false, Bool.false_and, Bool.false_or, Bool.or_eq_true, Bool.and_eq_true, beq_iff_eq,
      decide_eq_true_iff, bne_iff_ne, ne_eq]
    constructor
    · rintro (⟨⟨rfl, hu⟩, h⟩ | ⟨⟨rfl, hv⟩, h⟩)
      · exact ⟨⟨⟨by omega, by omega⟩, by omega⟩, Or.inl ⟨rfl, h⟩⟩
      · exact ⟨⟨⟨by omega, by omega⟩, by omega⟩, Or.inr ⟨rfl, h⟩⟩
    · rintro ⟨_, ⟨rfl, h⟩ | ⟨rfl, h⟩⟩
      · exact Or.inl ⟨⟨rfl, by omega⟩, h⟩
      · exact Or.inr ⟨⟨rfl, by omega⟩, h⟩
  · -- an old edge: both ends are old vertices, and it survives unless it is `ij`
    obtain ⟨hu, hv⟩ := hg.supp u v ha
    have huv : u ≠ v := fun e => by rw [e, hg.irrefl] at ha; cases ha
    have hun : ¬ u = g.n := Nat.ne_of_lt hu
    have hvn : ¬ v = g.n := Nat.ne_of_lt hv
    simp only [hu, hv, hun, hvn, huv, Nat.lt_succ_of_lt hu, Nat.lt_succ_of_lt hv, decide_true, Bool.true_and,
      Bool.and_true, bne_iff_ne, ne_eq, not_false_eq_true, beq_iff_eq, false_and, or_false, true_and,
      Bool.or_eq_true, Bool.and_eq_true]
    rw [Bool.or_comm (v == i && u == j), Bool.and_comm (v == j), Bool.and_comm (v == i), or_self]

theorem up_inj (j x y : Nat) : Families.up j x = Families.up j y ↔ x = y := by
  unfold Families.up; split <;> split <;> omega

theorem contract_any (g : G) (hg : g.WF) (i j u v : Nat) :
    ((g.nbrs j).any fun w => i != w && isPair i w u v) =
      ((u == i && g.adj j v && i != v) || (v == i && g.adj j u && i != u)) := by
  rw [Bool.eq_iff_iff]
  simp only [List.any_eq_true, G.nbrs, List.mem_filter, List.mem_range, Bool.and_eq_true, bne_iff_ne, ne_eq, isPair_iff,
    Bool.or_eq_true, beq_iff_eq]
  constructor
  · rintro ⟨w, ⟨_, hw⟩, hne, h⟩
    rcases h with ⟨rfl, rfl⟩ | ⟨rfl, rfl⟩
    · exact Or.inl ⟨⟨rfl, hw⟩, hne⟩
    · exact Or.inr ⟨⟨rfl, hw⟩, hne⟩
  · rintro (⟨⟨rfl, hw⟩, hne⟩ | ⟨⟨rfl, hw⟩, hne⟩)
    · exact ⟨v, ⟨(hg.supp j v hw).2, hw⟩, hne, Or.inl ⟨rfl, rfl⟩⟩
    · exact ⟨u, ⟨(hg.supp j u hw).2, hw⟩, hne, Or.inr ⟨rfl, rfl⟩⟩

theorem contract_ok (g : G) (hg : g.WF) (i j : Nat) (hi : i < g.n) :
    contract g i j = Families.contract g i j := by
  unfold contract
  rw [← List.foldl_map (g := fun g (p : Nat × Nat) => Families.addEdge g p.1 p.2) (f := fun v => (i, v)),
    foldl_addEdge _ g (by
      intro p hp
      simp only [List.mem_map, G.nbrs, List.mem_filter, List.mem_range] at hp
      obtain ⟨w, ⟨hw, _⟩, rfl⟩ := hp
      exact ⟨hi, hw⟩)]
  refine GraphRep.G_ext rfl fun x y => ?_
  simp only [Families.removeVertex, Families.contract, Families.symm, List.any_map, Function.comp_def,
    contract_any g hg]
  have hinj := up_inj j x y
  generalize Families.up j x = u at *
  generalize Families.up j y = v at *
  rw [hg.symm v u]
  by_cases hxy : x = y
  · -- the diagonal: no loops on either side
    rw [hinj.mpr hxy, hxy, hg.irrefl]
    cases hc : v == i
    · simp only [Bool.false_and, Bool.or_self, Bool.and_false, bne_self_eq_false]
    · rw [eq_of_beq hc]; simp only [bne_self_eq_false, Bool.and_false, Bool.or_self, Bool.false_and]
  · have huv : u ≠ v := fun e => hxy (hinj.mp e)
    -- off the diagonal the guards `i != ·` of `AddEdge` are implied
    have key : ∀ a b (B : Bool), a ≠ b → (a == i && B && i != b) = (a == i && B) := by
      intro a b B h
      cases hc : a == i
      · rfl
      · rw [← eq_of_beq hc, bne_iff_ne.mpr h, Bool.and_true]
    rw [bne_iff_ne.mpr hxy, Bool.true_and, key u v _ huv, key v u _ (Ne.symm huv)]
    cases g.adj u v <;> rfl

/-- the arguments of a step are vertices of the current graph (and distinct for `SplitEdge`) -/
def TOp.Valid (g : G) : TOp → Prop
  | .c i j => i < g.n ∧ j < g.n
  | .s i j => i ≠ j ∧ i < g.n ∧ j < g.n

/-- every step of the sequence is valid for the graph it is applied to -/
def ValidSeq : G → List TOp → Prop
  | _, [] => True
  | g, op :: ops => op.Valid g ∧ ∀ h, tstepSpec g op = .ok h → ValidSeq h ops

theorem tstepSpec_wf (g h : G) (op : TOp) (e : tstepSpec g op = .ok h) : h.WF := by
  cases op with
  | c i j => simp only [tstepSpec, Outcome.ok.injEq] at e; subst e; exact symm_wf _ _
  | s i j =>
    simp only [tstepSpec] at e
    split at e
    · cases e
    · simp only [Outcome.ok.injEq] at e; subst e; exact symm_wf _ _

theorem tstep_refines (g : G) (hg : g.WF) (op : TOp) (hv : op.Valid g) : tstepModel g op = tstepSpec g op := by
  cases op with
  | c i j => simp only [tstepModel, tstepSpec, contract_ok g hg i j hv.1]
  | s i j =>
    have hne : (i == j) = false := by simp [hv.1]
    simp only [tstepModel, tstepSpec, hne, Bool.false_eq_true, ↓reduceIte, splitEdge_ok g hg i j hv.1]

end Construct
