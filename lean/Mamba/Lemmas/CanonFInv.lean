import Mamba.Lemmas.CanonFBase
/-!
# Invariants of the ordered partition of `Model/CanonF.lean`

* `binIdx bd p`  — index of the bin (cell) that contains position `p`: the number of dividers `≤ p`.
* `PartInv n op` — the ordered-partition invariant: `order` is a permutation of `0..n-1`, `binDividers` is strictly
  increasing, positive and ends at `n`, `inCell[order[p]]` is the index of the bin containing `p`, the slices are well
  formed and of the right lengths.
* `AgeInv op`    — every divider age is at most `op.age`, the last divider (`n`) has age 0.
* `divs op`      — the dividers with their ages.

A bin `j = [bs, dj)` is given by `(0 :: bd)[j]? = some bs` and `bd[j]? = some dj`: it is not empty, ends at or before `n`
(`PartInv.bin_bounds`), no divider lies strictly inside it (`no_div_inside`), and its positions are the ones with bin
index `j` (`binIdx_eq_iff_mem_bin`).

The sizes an ordered partition forces: every divider lies in `[1, n]` (`PartInv.bd_ge`, `bd_le`), so there are between one and
`n` of them (`bdLen_pos`, `bdLen_le`); with `n` of them they are `1, …, n` (`leaf_dividers`), and a bin with two
positions means fewer than `n` (`bdLen_lt_of_nonSingleton`).

`expandValue` is taken apart here once: `expandLoop` is unfolded in `expandLoop_unfold` only; everything else about the
loop goes through `expandBody_ok` / `expandBody_eval` (one iteration, backwards / forwards) or by induction on the runs
`ExpRun`.
-/
namespace CanonF

def binIdx (bd : List Nat) (p : Nat) : Nat := bd.countP (fun d => decide (d ≤ p))

structure PartInv (n : Nat) (op : OP) : Prop where
  wfOrder : op.order.WF
  wfBd : op.binDividers.WF
  wfAges : op.binAges.WF
  wfInCell : op.inCell.WF
  lenOrder : op.order.len = n
  lenInCell : op.inCell.len = n
  lenAges : op.binAges.len = op.binDividers.len
  perm : op.order.toList.Perm (List.range n)
  sorted : (0 :: op.binDividers.toList).Pairwise (· < ·)
  last : op.binDividers.toList.getLast? = some n
  inCell : ∀ p v, op.order.toList[p]? = some v → op.inCell.toList[v]? = some (binIdx op.binDividers.toList p)

structure AgeInv (op : OP) : Prop where
  le : ∀ a ∈ op.binAges.toList, a ≤ op.age
  last : op.binAges.toList.getLast? = some 0

def divs (op : OP) : List (Nat × Int) := op.binDividers.toList.zip op.binAges.toList

theorem divs_getElem? {op : OP} {i : Nat} {d : Nat} {a : Int} :
    (divs op)[i]? = some (d, a) ↔ op.binDividers.toList[i]? = some d ∧ op.binAges.toList[i]? = some a := by
  unfold divs
  rw [List.getElem?_zip_eq_some]

theorem divs_congr {op op' : OP} (e1 : op'.binDividers = op.binDividers) (e2 : op'.binAges = op.binAges) :
    divs op' = divs op := by
  unfold divs; rw [e1, e2]

/-- position `i` lies in a bin with at least two elements -/
def NonSingleton (bd : List Nat) (i : Nat) : Prop := ¬ (i ∈ 0 :: bd ∧ i + 1 ∈ bd)


theorem sorted_lt_iff_idx (l : List Nat) (hs : l.Pairwise (· < ·)) (i : Nat) :
    ∀ k (hk : k < l.length), (l[k] < i ↔ k < l.countP (fun d => decide (d < i))) := by
  induction l with
  | nil => intro k hk; simp at hk
  | cons x xs ih =>
    intro k hk
    rw [List.pairwise_cons] at hs
    cases k with
    | zero =>
      simp only [List.getElem_cons_zero, List.countP_cons]
      by_cases hx : x < i
      · simp [hx]
      · simp only [hx, decide_false, Bool.false_eq_true, if_false, Nat.add_zero, false_iff, Nat.not_lt, Nat.le_zero]
        rw [List.countP_eq_zero]
        intro a ha
        have := hs.1 a ha
        simp; omega
    | succ k =>
      simp only [List.getElem_cons_succ, List.countP_cons]
      have hk' : k < xs.length := by simpa using hk
      have := ih hs.2 k hk'
      by_cases hx : x < i
      · simp [hx, this]
      · simp only [hx, decide_false, Bool.false_eq_true, if_false, Nat.add_zero]
        have h1 : xs[k] ≥ i := by
          have := hs.1 xs[k] (List.getElem_mem _); omega
        have h2 : xs.countP (fun d => decide (d < i)) = 0 := by
          rw [List.countP_eq_zero]; intro a ha; have := hs.1 a ha; simp; omega
        omega

theorem binIdx_eq (bd : List Nat) (p : Nat) : binIdx bd p = bd.countP (fun d => decide (d < p + 1)) := by
  unfold binIdx
  congr 1; funext d; simp [Nat.lt_succ_iff]

theorem binIdx_cons (d : Nat) (l : List Nat) (p : Nat) :
    binIdx (d :: l) p = binIdx l p + if d ≤ p then 1 else 0 := by
  simp [binIdx, List.countP_cons]

theorem binIdx_eq_zero (l : List Nat) (p : Nat) (h : ∀ d ∈ l, p < d) : binIdx l p = 0 := by
  unfold binIdx
  rw [List.countP_eq_zero]
  intro d hd
  have := h d hd
  simp; omega

theorem binIdx_nil (p : Nat) : binIdx [] p = 0 := rfl

theorem binIdx_le_length (bd : List Nat) (p : Nat) : binIdx bd p ≤ bd.length := by
  unfold binIdx; exact List.countP_le_length

theorem binIdx_append (l1 l2 : List Nat) (p : Nat) : binIdx (l1 ++ l2) p = binIdx l1 p + binIdx l2 p := by
  unfold binIdx; exact List.countP_append

theorem binIdx_lt (bd : List Nat) (n p : Nat) (hl : bd.getLast? = some n) (hp : p < n) : binIdx bd p < bd.length := by
  unfold binIdx
  have hmem : n ∈ bd := List.mem_of_getLast? hl
  have h1 := List.countP_le_length (p := fun d => decide (d ≤ p)) (l := bd)
  have h2 : bd.countP (fun d => decide (d ≤ p)) ≠ bd.length := by
    intro h; rw [List.countP_eq_length] at h; have := h n hmem; simp at this; omega
  omega


theorem countP_lt_succ (l : List Nat) (hs : l.Pairwise (· < ·)) (i : Nat) (hc : l.countP (fun d => decide (d < i)) < l.length) :
    l.countP (fun d => decide (d < i + 1)) =
      if l[l.countP (fun d => decide (d < i))]'hc = i then l.countP (fun d => decide (d < i)) + 1
      else l.countP (fun d => decide (d < i)) := by
  have hmono : l.countP (fun d => decide (d < i)) ≤ l.countP (fun d => decide (d < i + 1)) :=
    List.countP_mono_left (fun x _ hx => by simp at hx ⊢; omega)
  have h0 := sorted_lt_iff_idx l hs i _ hc
  have h1 := sorted_lt_iff_idx l hs (i + 1) _ hc
  have hle := List.countP_le_length (p := fun d => decide (d < i + 1)) (l := l)
  have hub : l.countP (fun d => decide (d < i)) + 1 < l.length →
      ¬ (l.countP (fun d => decide (d < i)) + 1 < l.countP (fun d => decide (d < i + 1))) := fun h2 => by
    rw [← sorted_lt_iff_idx l hs (i + 1) _ h2]
    have := List.pairwise_iff_getElem.1 hs _ _ hc h2 (Nat.lt_succ_self _)
    omega
  -- from here on only the two counts `c ≤ c'` and the entry `x = l[c]` matter
  generalize l.countP (fun d => decide (d < i + 1)) = c' at *
  generalize hx : l[l.countP (fun d => decide (d < i))]'hc = x at *
  generalize l.countP (fun d => decide (d < i)) = c at *
  split <;> omega

theorem perm_range_lt {l : List Nat} {n : Nat} (h : l.Perm (List.range n)) {p v : Nat} (hv : l[p]? = some v) : v < n := by
  have : v ∈ l := List.mem_of_getElem? hv
  simpa using (h.mem_iff.1 this)

theorem perm_range_inj {l : List Nat} {n : Nat} (h : l.Perm (List.range n)) {p q v : Nat}
    (hp : l[p]? = some v) (hq : l[q]? = some v) : p = q := by
  have hnd : l.Nodup := h.nodup_iff.2 List.nodup_range
  obtain ⟨hp1, hp2⟩ := List.getElem?_eq_some_iff.1 hp
  obtain ⟨hq1, hq2⟩ := List.getElem?_eq_some_iff.1 hq
  exact (List.getElem_inj hnd).mp (hp2.trans hq2.symm)

theorem rf_bd_le_last {bd : List Nat} {n : Nat} (hs : bd.Pairwise (· < ·)) (hl : bd.getLast? = some n) :
    ∀ x ∈ bd, x ≤ n := by
  obtain ⟨ys, rfl⟩ := List.getLast?_eq_some_iff.1 hl
  intro x hx
  rw [List.pairwise_append] at hs
  rcases List.mem_append.1 hx with h | h
  · exact Nat.le_of_lt (hs.2.2 x h n (by simp))
  · simp at h; omega

theorem rf_sorted_start_lt {bd : List Nat} (hs : (0 :: bd).Pairwise (· < ·)) {j bs dj : Nat}
    (hbs : (0 :: bd)[j]? = some bs) (hdj : bd[j]? = some dj) : bs < dj := by
  obtain ⟨h1, e1⟩ := List.getElem?_eq_some_iff.1 hbs
  have hdj' : (0 :: bd)[j + 1]? = some dj := by rw [List.getElem?_cons_succ]; exact hdj
  obtain ⟨h2, e2⟩ := List.getElem?_eq_some_iff.1 hdj'
  have := List.pairwise_iff_getElem.1 hs j (j + 1) h1 h2 (by omega)
  rw [e1, e2] at this; exact this

theorem no_div_inside (bd : List Nat) (hs : bd.Pairwise (· < ·)) {t bs d : Nat}
    (hbs : (0 :: bd)[t]? = some bs) (hd : bd[t]? = some d) {x : Nat} (hx : x ∈ bd) : x ≤ bs ∨ d ≤ x := by
  obtain ⟨k, hkl, hkv⟩ := List.getElem_of_mem hx
  obtain ⟨htl, htv⟩ := List.getElem?_eq_some_iff.1 hd
  rcases Nat.lt_trichotomy k t with hlt | heq | hgt
  · left
    cases t with
    | zero => omega
    | succ t' =>
      rw [List.getElem?_cons_succ] at hbs
      obtain ⟨h1, h2⟩ := List.getElem?_eq_some_iff.1 hbs
      by_cases hk : k = t'
      · subst hk; omega
      · have := List.pairwise_iff_getElem.1 hs k t' hkl h1 (by omega)
        omega
  · subst heq; right; omega
  · right
    have := List.pairwise_iff_getElem.1 hs t k htl hkl hgt
    omega

/-! The `*_insert*` lemmas describe the dividers (with ages) after new dividers `nbs` have been put into bin `j`:
`bd.take j ++ nbs ++ bd.drop j`. -/

theorem binIdx_mono (bd : List Nat) {p q : Nat} (h : p ≤ q) : binIdx bd p ≤ binIdx bd q := by
  unfold binIdx
  exact List.countP_mono_left (fun x _ hx => by simp at hx ⊢; omega)

theorem binIdx_eq_iff_mem_bin {bd : List Nat} (hs : bd.Pairwise (· < ·)) {j bs dj : Nat}
    (hbs : (0 :: bd)[j]? = some bs) (hdj : bd[j]? = some dj) (p : Nat) : binIdx bd p = j ↔ bs ≤ p ∧ p < dj := by
  obtain ⟨htl, htv⟩ := List.getElem?_eq_some_iff.1 hdj
  have h1 := sorted_lt_iff_idx bd hs (p + 1) j htl
  rw [← binIdx_eq, htv] at h1
  have h2 : bs ≤ p ↔ j ≤ binIdx bd p := by
    cases j with
    | zero =>
      cases Option.some.inj hbs
      exact ⟨fun _ => Nat.zero_le _, fun _ => Nat.zero_le _⟩
    | succ k =>
      rw [List.getElem?_cons_succ] at hbs
      obtain ⟨hkl, hkv⟩ := List.getElem?_eq_some_iff.1 hbs
      have h3 := sorted_lt_iff_idx bd hs (p + 1) k hkl
      rw [← binIdx_eq, hkv] at h3
      exact ⟨fun h => h3.1 (Nat.lt_succ_of_le h), fun h => Nat.le_of_lt_succ (h3.2 h)⟩
  constructor
  · intro e
    refine ⟨h2.2 (Nat.le_of_eq e.symm), Nat.lt_of_not_le fun hle => ?_⟩
    have := h1.1 (Nat.lt_succ_of_le hle)
    rw [e] at this
    exact Nat.lt_irrefl j this
  · rintro ⟨a, b⟩
    exact Nat.le_antisymm (Nat.le_of_not_lt fun hlt => Nat.not_le.2 b (Nat.le_of_lt_succ (h1.2 hlt))) (h2.1 a)

theorem binIdx_insert_block (bd nbs : List Nat) (j p : Nat) :
    binIdx (bd.take j ++ nbs ++ bd.drop j) p = binIdx bd p + binIdx nbs p := by
  unfold binIdx
  rw [List.countP_append, List.countP_append]
  conv => rhs; rw [← List.take_append_drop j bd, List.countP_append]
  omega

theorem getLast?_insert {α : Type} {l m : List α} {j : Nat} (hj : j < l.length) :
    (l.take j ++ m ++ l.drop j).getLast? = l.getLast? := by
  rw [List.getLast?_append, List.getLast?_drop, if_neg (by omega)]
  cases h : l.getLast? with
  | none => rw [List.getLast?_eq_none_iff] at h; subst h; simp at hj
  | some a => rfl

theorem sorted_insert {bd nbs : List Nat} {j bs dj : Nat} (hs : (0 :: bd).Pairwise (· < ·))
    (hbs : (0 :: bd)[j]? = some bs) (hdj : bd[j]? = some dj)
    (hn : nbs.Pairwise (· < ·)) (hr : ∀ x ∈ nbs, bs < x ∧ x < dj) :
    (0 :: (bd.take j ++ nbs ++ bd.drop j)).Pairwise (· < ·) := by
  have hbd : bs < dj := rf_sorted_start_lt hs hbs hdj
  have hdj' : (0 :: bd)[j + 1]? = some dj := hdj
  have e : 0 :: (bd.take j ++ nbs ++ bd.drop j) = (0 :: bd).take (j + 1) ++ (nbs ++ (0 :: bd).drop (j + 1)) := by
    simp
  have hlow : ∀ a ∈ (0 :: bd).take (j + 1), a ≤ bs := by
    intro a ha
    obtain ⟨i, hi⟩ := List.mem_iff_getElem?.1 ha
    rw [List.getElem?_take] at hi
    by_cases h : i < j + 1
    · rw [if_pos h] at hi
      by_cases hij : i = j
      · subst hij; rw [hbs] at hi; exact Nat.le_of_eq (Option.some.inj hi).symm
      · obtain ⟨hi1, hi2⟩ := List.getElem?_eq_some_iff.1 hi
        obtain ⟨hj1, ebs⟩ := List.getElem?_eq_some_iff.1 hbs
        have := List.pairwise_iff_getElem.1 hs i j hi1 hj1 (by omega)
        rw [hi2, ebs] at this; exact Nat.le_of_lt this
    · rw [if_neg h] at hi; cases hi
  have hhigh : ∀ b ∈ (0 :: bd).drop (j + 1), dj ≤ b := by
    intro b hb
    obtain ⟨i, hi⟩ := List.mem_iff_getElem?.1 hb
    rw [List.getElem?_drop] at hi
    by_cases hi0 : i = 0
    · subst hi0; rw [Nat.add_zero, hdj'] at hi; exact Nat.le_of_eq (Option.some.inj hi)
    · obtain ⟨hi1, hi2⟩ := List.getElem?_eq_some_iff.1 hi
      obtain ⟨hj2, edj⟩ := List.getElem?_eq_some_iff.1 hdj'
      have := List.pairwise_iff_getElem.1 hs (j + 1) (j + 1 + i) hj2 hi1 (by omega)
      rw [hi2, edj] at this; exact Nat.le_of_lt this
  have hsplit := hs
  rw [← List.take_append_drop (j + 1) (0 :: bd), List.pairwise_append] at hsplit
  rw [e, List.pairwise_append, List.pairwise_append]
  refine ⟨hsplit.1, ⟨hn, hsplit.2.1, fun a ha b hb => ?_⟩, fun a ha b hb => ?_⟩
  · exact Nat.lt_of_lt_of_le (hr a ha).2 (hhigh b hb)
  · have := hlow a ha
    rcases List.mem_append.1 hb with hb | hb
    · exact Nat.lt_of_le_of_lt this (hr b hb).1
    · exact Nat.lt_of_le_of_lt this (Nat.lt_of_lt_of_le hbd (hhigh b hb))

theorem filter_zip_insert {α β : Type} (p : α × β → Bool) {l nl : List α} {m nm : List β} {j : Nat}
    (hl : l.length = m.length) (hn : nl.length = nm.length) (hp : ∀ x ∈ nl.zip nm, p x = false) :
    ((l.take j ++ nl ++ l.drop j).zip (m.take j ++ nm ++ m.drop j)).filter p = (l.zip m).filter p := by
  have h1 : (l.take j).length = (m.take j).length := by rw [List.length_take, List.length_take, hl]
  have h2 : (l.take j ++ nl).length = (m.take j ++ nm).length := by rw [List.length_append, List.length_append, h1, hn]
  have hmid : (nl.zip nm).filter p = [] := List.filter_eq_nil_iff.2 fun x hx => by rw [hp x hx]; exact Bool.false_ne_true
  rw [List.zip_append h2, List.zip_append h1, List.filter_append, List.filter_append, hmid, List.append_nil,
    ← List.filter_append, ← List.zip_append h1, List.take_append_drop, List.take_append_drop]

theorem recomputeInCell_spec {n : Nat} {op : OP} (hwo : op.order.WF) (hwb : op.binDividers.WF) (hwi : op.inCell.WF)
    (hlo : op.order.len = n) (hli : op.inCell.len = n) (hperm : op.order.toList.Perm (List.range n))
    (hsorted : (0 :: op.binDividers.toList).Pairwise (· < ·)) (hlast : op.binDividers.toList.getLast? = some n) :
    ∃ ic, recomputeInCell op = .ok { op with inCell := ic } ∧ ic.WF ∧ ic.len = n ∧ ic.data.size = op.inCell.data.size ∧
      ∀ p v, op.order.toList[p]? = some v → ic.toList[v]? = some (binIdx op.binDividers.toList p) := by
  have hs : op.binDividers.toList.Pairwise (· < ·) := (List.pairwise_cons.1 hsorted).2
  have hblen : op.binDividers.toList.length = op.binDividers.len := Sl.length_toList _ hwb
  have hmem : n ∈ op.binDividers.toList := List.mem_of_getLast? hlast
  obtain ⟨r, hr, hP⟩ := forRange_total (inCellStep op.order op.binDividers)
    (fun i (st : Sl Nat × Nat) => st.1.WF ∧ st.1.len = n ∧ st.1.data.size = op.inCell.data.size ∧
      st.2 = op.binDividers.toList.countP (fun d => decide (d < i)) ∧
      ∀ p v, p < i → op.order.toList[p]? = some v → st.1.toList[v]? = some (binIdx op.binDividers.toList p))
    op.order.len 0 (op.inCell, 0)
    ⟨hwi, hli, rfl, by
      symm; rw [List.countP_eq_zero]; intro a _; simp, by intro p v hp; omega⟩
    (by
      rintro i ⟨ic, cb⟩ _ hi ⟨w1, l1, z1, hcb, hinv⟩
      simp only at w1 l1 hcb hinv z1
      have hin : i < n := by omega
      -- the divider at index cb exists and is ≥ i
      have hcl : op.binDividers.toList.countP (fun d => decide (d < i)) < op.binDividers.toList.length := by
        have h1 := List.countP_le_length (p := fun d => decide (d < i)) (l := op.binDividers.toList)
        have h2 : op.binDividers.toList.countP (fun d => decide (d < i)) ≠ op.binDividers.toList.length := by
          intro h; rw [List.countP_eq_length] at h; have := h n hmem; simp at this; omega
        omega
      have hget : op.binDividers.get cb = .ok (op.binDividers.toList[cb]'(by rw [hcb]; exact hcl)) := by
        rw [Sl.get_eq_toList]; exact List.getElem?_eq_getElem _
      obtain ⟨v, hv, hv'⟩ := Sl.get_ok_of_lt hwo (show i < op.order.len by omega)
      have hvl : op.order.toList[i]? = some v := Sl.get_eq_toList.1 hv
      have hvn : v < n := perm_range_lt hperm hvl
      let cb' := if op.binDividers.toList[cb]'(by rw [hcb]; exact hcl) = i then cb + 1 else cb
      have hset := Sl.set_ok_of_lt w1 (show v < ic.len by omega) cb'
      refine ⟨(⟨ic.data.setIfInBounds v cb', ic.len⟩, cb'), ?_, ?_⟩
      · simp only [inCellStep, hget, hv, hset, cb']
      · have hcb' : cb' = op.binDividers.toList.countP (fun d => decide (d < i + 1)) := by
          rw [countP_lt_succ _ hs i hcl]
          simp only [cb', hcb]
        refine ⟨Sl.set_wf w1 hset, by rw [Sl.set_len hset]; exact l1, by rw [Sl.set_cap hset]; exact z1, hcb', ?_⟩
        intro p u hp hu
        rw [Sl.toList_set hset, List.getElem?_set]
        by_cases hpi : p = i
        · subst hpi
          have : u = v := by rw [hvl] at hu; exact (Option.some.inj hu).symm
          subst this
          rw [if_pos rfl, if_pos (by rw [Sl.length_toList _ w1]; omega), binIdx_eq, ← hcb']
        · have hne : v ≠ u := by
            intro e; subst e
            exact hpi (perm_range_inj hperm hu hvl)
          rw [if_neg hne]
          exact hinv p u (by omega) hu)
  obtain ⟨ic, cb⟩ := r
  obtain ⟨w1, l1, z1, _, hinv⟩ := hP
  refine ⟨ic, ?_, w1, l1, z1, ?_⟩
  · simp only [recomputeInCell, hr]
  · intro p v hv
    have hp : p < op.order.len := by
      have := (List.getElem?_eq_some_iff.1 hv).1
      rw [Sl.length_toList _ hwo] at this; exact this
    exact hinv p v (by omega) hv



/-- the size of bin `j` as `expandLoop` reads it -/
def binSizeAt (op : OP) (j : Nat) : Outcome Nat :=
  if j = 0 then op.binDividers.get 0
  else
    match op.binDividers.get j, op.binDividers.get (j - 1) with
    | .ok a, .ok b => .ok (a - b)
    | _, _ => .panic

/-- what `expandLoop` does at a singleton bin `j`: append the sorted codes of `order[j]`, test, go on -/
def expandBody (nb : Nbrs) (cb fl : Sl Nat) (k j : Nat) (op : OP) : Outcome (Bool × OP) :=
  match op.order.get j with
  | .ok u =>
    match nbrsGet nb u with
    | .ok nbrs =>
      match forList (codeStep op.inCell j) nbrs op.value with
      | .ok value =>
        match value.sortRange op.value.len value.len with
        | .ok value =>
          match worseTest value cb fl with
          | .ok true => .ok (true, { op with value := value, spl := j + 1 })
          | .ok false => expandLoop nb cb fl k (j + 1) { op with value := value }
          | .panic => .panic
          | .outOfFuel => .outOfFuel
        | .panic => .panic
        | .outOfFuel => .outOfFuel
      | .panic => .panic
      | .outOfFuel => .outOfFuel
    | .panic => .panic
    | .outOfFuel => .outOfFuel
  | .panic => .panic
  | .outOfFuel => .outOfFuel

theorem expandLoop_unfold (nb : Nbrs) (cb fl : Sl Nat) (k j : Nat) (op : OP) :
    expandLoop nb cb fl (k + 1) j op =
      match binSizeAt op j with
      | .ok bs => if bs ≠ 1 then .ok (false, { op with spl := j }) else expandBody nb cb fl k j op
      | .panic => .panic
      | .outOfFuel => .outOfFuel := by
  rw [expandLoop]; rfl

/-- one block of the certificate: the codes of the neighbours of `order[j]` appended to `value`, the block sorted -/
def ExpBlock (nb : Nbrs) (op : OP) (j : Nat) (value2 : Sl Nat) : Prop :=
  ∃ u nbrs value1, op.order.get j = .ok u ∧ nbrsGet nb u = .ok nbrs ∧
    forList (codeStep op.inCell j) nbrs op.value = .ok value1 ∧ value1.sortRange op.value.len value1.len = .ok value2

theorem expandBody_eval {nb : Nbrs} {cb fl : Sl Nat} {k j : Nat} {op : OP} {v : Sl Nat} (h : ExpBlock nb op j v) :
    expandBody nb cb fl k j op =
      match worseTest v cb fl with
      | .ok true => .ok (true, { op with value := v, spl := j + 1 })
      | .ok false => expandLoop nb cb fl k (j + 1) { op with value := v }
      | .panic => .panic
      | .outOfFuel => .outOfFuel := by
  obtain ⟨u, nbrs, v1, h1, h2, h3, h4⟩ := h
  unfold expandBody
  simp only [h1, h2, h3, h4]

theorem expandBody_ok {nb : Nbrs} {cb fl : Sl Nat} {k j : Nat} {op op' : OP} {w : Bool}
    (h : expandBody nb cb fl k j op = .ok (w, op')) :
    ∃ v, ExpBlock nb op j v ∧
      ((worseTest v cb fl = .ok true ∧ w = true ∧ op' = { op with value := v, spl := j + 1 }) ∨
       (worseTest v cb fl = .ok false ∧ expandLoop nb cb fl k (j + 1) { op with value := v } = .ok (w, op'))) := by
  unfold expandBody at h
  osplit h
  · simp only [Outcome.ok.injEq, Prod.mk.injEq] at h
    exact ⟨_, ⟨_, _, _, ‹_›, ‹_›, ‹_›, ‹_›⟩, Or.inl ⟨‹_›, h.1.symm, h.2.symm⟩⟩
  · exact ⟨_, ⟨_, _, _, ‹_›, ‹_›, ‹_›, ‹_›⟩, Or.inr ⟨‹_›, h⟩⟩

/-- the runs of `expandLoop`: it walks over singleton bins, appending one block each, until the positions are used
up, a bin is not a singleton, or the certificate is worse -/
inductive ExpRun (nb : Nbrs) (cb fl : Sl Nat) : Nat → Nat → OP → Bool → OP → Prop
  | done (j : Nat) (op : OP) : ExpRun nb cb fl 0 j op false { op with spl := op.order.len }
  | stop {k j : Nat} {op : OP} {bs : Nat} : binSizeAt op j = .ok bs → bs ≠ 1 →
      ExpRun nb cb fl (k + 1) j op false { op with spl := j }
  | worse {k j : Nat} {op : OP} {v : Sl Nat} : binSizeAt op j = .ok 1 → ExpBlock nb op j v →
      worseTest v cb fl = .ok true → ExpRun nb cb fl (k + 1) j op true { op with value := v, spl := j + 1 }
  | next {k j : Nat} {op : OP} {v : Sl Nat} {w : Bool} {op' : OP} : binSizeAt op j = .ok 1 → ExpBlock nb op j v →
      worseTest v cb fl = .ok false → ExpRun nb cb fl k (j + 1) { op with value := v } w op' →
      ExpRun nb cb fl (k + 1) j op w op'

theorem expandLoop_run {nb : Nbrs} {cb fl : Sl Nat} : ∀ {k j : Nat} {op : OP} {w : Bool} {op' : OP},
    expandLoop nb cb fl k j op = .ok (w, op') → ExpRun nb cb fl k j op w op' := by
  intro k
  induction k with
  | zero => intro j op w op' h; cases h; exact .done j op
  | succ k ih =>
    intro j op w op' h
    rw [expandLoop_unfold] at h
    cases hb : binSizeAt op j with
    | ok bs =>
      rw [hb] at h
      dsimp only at h
      by_cases hne : bs ≠ 1
      · rw [if_pos hne] at h; cases h; exact .stop hb hne
      · rw [if_neg hne] at h
        obtain rfl : bs = 1 := Decidable.of_not_not hne
        obtain ⟨v, hv, ⟨hw, rfl, rfl⟩ | ⟨hw, hrec⟩⟩ := expandBody_ok h
        · exact .worse hb hv hw
        · exact .next hb hv hw (ih hrec)
    | panic => rw [hb] at h; cases h
    | outOfFuel => rw [hb] at h; cases h

theorem ExpRun.frame {nb : Nbrs} {cb fl : Sl Nat} {k j : Nat} {op op' : OP} {w : Bool}
    (h : ExpRun nb cb fl k j op w op') :
    op'.order = op.order ∧ op'.binDividers = op.binDividers ∧ op'.binAges = op.binAges ∧
      op'.binsToCheck = op.binsToCheck ∧ op'.age = op.age ∧ op'.inCell = op.inCell := by
  induction h with
  | done | stop | worse => exact ⟨rfl, rfl, rfl, rfl, rfl, rfl⟩
  | next _ _ _ _ ih => exact ih

theorem expandValue_frame {nb : Nbrs} {cb fl : Sl Nat} {op op' : OP} {w : Bool}
    (h : expandValue nb cb fl op = .ok (w, op')) :
    op'.order = op.order ∧ op'.binDividers = op.binDividers ∧ op'.binAges = op.binAges ∧
      op'.binsToCheck = op.binsToCheck ∧ op'.age = op.age ∧ op'.inCell = op.inCell :=
  (expandLoop_run h).frame

section
variable {n : Nat} {op : OP} (h : PartInv n op)
include h

theorem PartInv.length_order : op.order.toList.length = n := by rw [Sl.length_toList _ h.wfOrder, h.lenOrder]

theorem PartInv.length_inCell : op.inCell.toList.length = n := by rw [Sl.length_toList _ h.wfInCell, h.lenInCell]

theorem PartInv.length_bd : op.binDividers.toList.length = op.binDividers.len := Sl.length_toList _ h.wfBd

theorem PartInv.length_ages : op.binAges.toList.length = op.binDividers.len := by
  rw [Sl.length_toList _ h.wfAges, h.lenAges]

theorem PartInv.order_get {i : Nat} (hi : i < n) : ∃ v, op.order.get i = .ok v ∧ v < n := by
  obtain ⟨v, hv, _⟩ := Sl.get_ok_of_lt h.wfOrder (show i < op.order.len by rw [h.lenOrder]; exact hi)
  exact ⟨v, hv, perm_range_lt h.perm (Sl.get_eq_toList.1 hv)⟩

theorem PartInv.lt_of_order_get {i v : Nat} (hv : op.order.get i = .ok v) : i < n ∧ v < n :=
  ⟨h.lenOrder ▸ Sl.get_lt hv, perm_range_lt h.perm (Sl.get_eq_toList.1 hv)⟩

theorem PartInv.bd_mem_le : ∀ d ∈ op.binDividers.toList, d ≤ n :=
  rf_bd_le_last (List.pairwise_cons.1 h.sorted).2 h.last

theorem PartInv.start_lt {k i x d : Nat}
    (hx : (0 :: op.binDividers.toList)[k]? = some x) (hd : op.binDividers.toList[i]? = some d) (hki : k ≤ i) : x < d := by
  have hd' : (0 :: op.binDividers.toList)[i + 1]? = some d := by simpa using hd
  obtain ⟨a1, a2⟩ := List.getElem?_eq_some_iff.1 hx
  obtain ⟨b1, b2⟩ := List.getElem?_eq_some_iff.1 hd'
  have := List.pairwise_iff_getElem.1 h.sorted k (i + 1) a1 b1 (by omega)
  rw [a2, b2] at this
  exact this

theorem PartInv.divs_length : (divs op).length = op.binAges.len := by
  unfold divs
  rw [List.length_zip, h.length_bd, h.length_ages, h.lenAges, Nat.min_self]

theorem PartInv.divs_last (ha : AgeInv op) : ∃ ys, divs op = ys ++ [(n, 0)] := by
  apply List.getLast?_eq_some_iff.1
  rw [List.getLast?_eq_getElem?, h.divs_length, divs_getElem?]
  have h1 := h.last
  have h2 := ha.last
  rw [List.getLast?_eq_getElem?, h.length_bd] at h1
  rw [List.getLast?_eq_getElem?, Sl.length_toList _ h.wfAges] at h2
  rw [← h.lenAges] at h1
  exact ⟨h1, h2⟩

end

theorem PartInv.of_frame {n : Nat} {op op' : OP} (h : PartInv n op)
    (e1 : op'.order = op.order) (e2 : op'.binDividers = op.binDividers) (e3 : op'.binAges = op.binAges)
    (e4 : op'.inCell = op.inCell) : PartInv n op' := by
  constructor
  · rw [e1]; exact h.wfOrder
  · rw [e2]; exact h.wfBd
  · rw [e3]; exact h.wfAges
  · rw [e4]; exact h.wfInCell
  · rw [e1]; exact h.lenOrder
  · rw [e4]; exact h.lenInCell
  · rw [e3, e2]; exact h.lenAges
  · rw [e1]; exact h.perm
  · rw [e2]; exact h.sorted
  · rw [e2]; exact h.last
  · rw [e1, e2, e4]; exact h.inCell

theorem AgeInv.of_frame {op op' : OP} (h : AgeInv op) (e3 : op'.binAges = op.binAges) (e5 : op'.age = op.age) :
    AgeInv op' := by
  constructor
  · rw [e3, e5]; exact h.le
  · rw [e3]; exact h.last

theorem PartInv.bdSorted {n : Nat} {op : OP} (hp : PartInv n op) : op.binDividers.toList.Pairwise (· < ·) :=
  (List.pairwise_cons.1 hp.sorted).2

theorem PartInv.bin_bounds {n : Nat} {op : OP} (hp : PartInv n op) {j bs dj : Nat}
    (hbs : (0 :: op.binDividers.toList)[j]? = some bs) (hdj : op.binDividers.toList[j]? = some dj) :
    bs < dj ∧ dj ≤ n ∧ op.order.toList.length = n :=
  ⟨rf_sorted_start_lt hp.sorted hbs hdj,
    rf_bd_le_last hp.bdSorted hp.last dj (List.mem_of_getElem? hdj),
    hp.length_order⟩

theorem sorted_gap (l : List Nat) (hs : l.Pairwise (· < ·)) :
    ∀ (d i : Nat) (hi : i + d < l.length), l[i]'(Nat.lt_of_le_of_lt (Nat.le_add_right i d) hi) + d ≤ l[i + d] := by
  intro d
  induction d with
  | zero => intro i hi; exact Nat.le_refl _
  | succ d ih =>
    intro i hi
    have hi' : i + d < l.length := Nat.lt_of_succ_lt hi
    have h2 := List.pairwise_iff_getElem.1 hs (i + d) (i + (d + 1)) hi' hi (Nat.lt_succ_self _)
    exact Nat.succ_le_of_lt (Nat.lt_of_le_of_lt (ih i hi') h2)

theorem sorted_getElem_ge (l : List Nat) (hs : l.Pairwise (· < ·)) (i : Nat) (hi : i < l.length) :
    l[0]'(by omega) + i ≤ l[i] := by
  have := sorted_gap l hs i 0 (by omega)
  simpa using this

theorem bins_le {bd : List Nat} {n : Nat} (hs : (0 :: bd).Pairwise (· < ·)) (hl : bd.getLast? = some n) :
    bd.length ≤ n := by
  rw [List.getLast?_eq_getElem?] at hl
  obtain ⟨hk, he⟩ := List.getElem?_eq_some_iff.1 hl
  have := sorted_getElem_ge (0 :: bd) hs (bd.length - 1 + 1) (Nat.succ_lt_succ hk)
  simp only [List.getElem_cons_succ, List.getElem_cons_zero] at this
  omega

theorem PartInv.bd_ge {n : Nat} {op : OP} (h : PartInv n op) (k : Nat) (d : Nat)
    (hk : op.binDividers.toList[k]? = some d) : k + 1 ≤ d := by
  have := sorted_getElem_ge (0 :: op.binDividers.toList) h.sorted (k + 1)
    (by have := (List.getElem?_eq_some_iff.1 hk).1; simp; omega)
  have hv := (List.getElem?_eq_some_iff.1 hk).2
  simp at this
  omega

theorem PartInv.bd_le {n : Nat} {op : OP} (h : PartInv n op) (k : Nat) (d : Nat)
    (hk : op.binDividers.toList[k]? = some d) : d ≤ n :=
  h.bd_mem_le d (List.mem_of_getElem? hk)

theorem PartInv.bdLen_le {n : Nat} {op : OP} (h : PartInv n op) : op.binDividers.len ≤ n := by
  rw [← h.length_bd]; exact bins_le h.sorted h.last

theorem PartInv.bdLen_pos {n : Nat} {op : OP} (h : PartInv n op) : 0 < op.binDividers.len := by
  have hbl := h.length_bd
  have := List.mem_of_getLast? h.last
  have : 0 < op.binDividers.toList.length := List.length_pos_of_mem this
  omega

theorem PartInv.n_pos {n : Nat} {op : OP} (h : PartInv n op) : 0 < n := by
  have := (List.pairwise_cons.1 h.sorted).1 n (List.mem_of_getLast? h.last)
  exact this

theorem PartInv.leaf_dividers {n : Nat} {op : OP} (hp : PartInv n op) (hleaf : op.binDividers.len = n) :
    ∀ k, k < n → op.binDividers.toList[k]? = some (k + 1) := by
  intro k hk
  have hbl : op.binDividers.toList.length = n := by rw [hp.length_bd, hleaf]
  have hs' : op.binDividers.toList.Pairwise (· < ·) := (List.pairwise_cons.1 hp.sorted).2
  have hkl : k < op.binDividers.toList.length := hbl.symm ▸ hk
  have h1 := hp.bd_ge k _ (List.getElem?_eq_getElem hkl)
  -- the last divider is `n = k + d + 1`, and the dividers grow by at least one per step
  obtain ⟨m, rfl⟩ := Nat.exists_eq_succ_of_ne_zero (Nat.ne_of_gt (Nat.zero_lt_of_lt hk))
  obtain ⟨d, rfl⟩ := Nat.exists_eq_add_of_le (Nat.le_of_lt_succ hk)
  have hml : k + d < op.binDividers.toList.length := hbl.symm ▸ Nat.lt_succ_self _
  have hlast := hp.last
  rw [List.getLast?_eq_getElem?, hbl, Nat.succ_sub_one, List.getElem?_eq_getElem hml] at hlast
  have h2 := sorted_gap _ hs' d k hml
  rw [Option.some.inj hlast] at h2
  rw [List.getElem?_eq_getElem hkl]
  congr 1
  omega

theorem PartInv.bdLen_lt_of_nonSingleton {n : Nat} {op : OP} {i : Nat} (h : PartInv n op) (hi : i < n)
    (hns : NonSingleton op.binDividers.toList i) : op.binDividers.len < n := by
  have hle := h.bdLen_le
  rcases Nat.lt_or_ge op.binDividers.len n with hlt | hge
  · exact hlt
  · exfalso
    have hsing := h.leaf_dividers (Nat.le_antisymm hle hge)
    apply hns
    constructor
    · by_cases h0 : i = 0
      · rw [h0]; exact List.mem_cons_self ..
      · have := List.mem_of_getElem? (hsing (i - 1) (Nat.lt_of_le_of_lt (Nat.sub_le _ _) hi))
        rw [Nat.sub_add_cancel (Nat.pos_of_ne_zero h0)] at this
        exact List.mem_cons_of_mem _ this
    · exact List.mem_of_getElem? (hsing i hi)

/-- scratch slices as `CanonicalIsomorphAllocated` hands them to the refinement: `maxCell`, `numberOfMax` of length `n` -/
structure ScratchOK (n : Nat) (sc : Scratch) : Prop where
  wfT : sc.timesSeen.WF
  wfM : sc.maxCell.WF
  wfN : sc.numberOfMax.WF
  lenM : sc.maxCell.len = n
  lenN : sc.numberOfMax.len = n


end CanonF
