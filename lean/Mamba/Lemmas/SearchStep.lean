import Mamba.Model.Search
/-! The step function `run` as a transition system: `Trans` lists the ways one iteration of the loops of `Next` moves
to the next configuration, `Ret` the two places where `Next` returns.  `run_rec` is the induction principle every
statement about a normally returning `run` is proved with.  The children of the top frame extend its parent
`parentOf s.g sf` (the current graph right after a step forward, otherwise the current graph without the child tried
last); every successor state is written as an update of `s`. -/
namespace Search

variable (O : Oracle) (pre pr : DG → Bool)

theorem run_outer (f : Nat) (cont sf : Bool) (s : State) :
    run O pre pr (f + 1) (.outer cont sf) s =
      if !cont then
        if s.g.nv = s.n then .ok (s, true)
        else
          match addAugmentations O s.n s.g s.choices s.cache with
          | .ok (ch, cache, num) =>
            run O pre pr f (.step true) { s with choices := ch, cache := cache, currentPath := s.currentPath.push num }
          | .panic => .panic
          | .outOfFuel => .outOfFuel
      else run O pre pr f (.step sf) s := rfl

theorem run_step (f : Nat) (sf : Bool) (s : State) :
    run O pre pr (f + 1) (.step sf) s =
      if s.choices.size = 0 then .ok (s, false)
      else
        match s.currentPath.back? with
        | none => .panic
        | some cp => run O pre pr f (.inner sf cp) s := rfl

theorem run_inner_zero (f : Nat) (sf : Bool) (s : State) :
    run O pre pr (f + 1) (.inner sf 0) s =
      match (if !sf then removeClear s else .ok s) with
      | .ok s1 =>
        if s1.currentPath.size = 0 then .panic
        else run O pre pr f (.step false) { s1 with currentPath := s1.currentPath.pop }
      | .panic => .panic
      | .outOfFuel => .outOfFuel := rfl

theorem run_inner_succ (f : Nat) (sf : Bool) (i : Nat) (s : State) :
    run O pre pr (f + 1) (.inner sf (i + 1)) s =
      match s.choices.back? with
      | none => .panic
      | some x =>
        let s0 := { s with choices := s.choices.pop }
        if s0.m = 0 then .panic
        else if i % s0.m != s0.a && ((s.currentPath.size : Nat) : Int) == splitLevel s0.n then
          run O pre pr f (.inner sf i) s0
        else
          let v := bitsOf x
          match (if !sf then removeClear s0 else .ok s0) with
          | .panic => .panic
          | .outOfFuel => .outOfFuel
          | .ok s1 =>
            match s1.g.addVertex v with
            | .panic => .panic
            | .outOfFuel => .outOfFuel
            | .ok g2 =>
              let s2 := { s1 with g := g2, cache := none }
              if pre g2 then run O pre pr f (.inner false i) s2
              else
                match isCanonical O s2.n g2 v s2.cache with
                | .panic => .panic
                | .outOfFuel => .outOfFuel
                | .ok (cache, canon) =>
                  let s3 := { s2 with cache := cache }
                  if canon && !pr g2 then
                    if s3.currentPath.size = 0 then .panic
                    else
                      run O pre pr f (.outer false false)
                        { s3 with currentPath := s3.currentPath.setIfInBounds (s3.currentPath.size - 1) i }
                  else run O pre pr f (.inner false i) s3 := rfl

theorem removeClear_ok {s s1 : State} (h : removeClear s = .ok s1) :
    ∃ g, s.g.removeLast = .ok g ∧ s1 = { s with g := g, cache := none } := by
  unfold removeClear at h
  split at h
  · rename_i g hg; cases h; exact ⟨g, hg, rfl⟩
  · cases h
  · cases h

def parentOf (g : DG) (sf : Bool) : Outcome DG := if sf then .ok g else g.removeLast

theorem cleared_iff {sf : Bool} {s s1 : State} :
    (if !sf then removeClear s else .ok s) = .ok s1 ↔
      ∃ P, parentOf s.g sf = .ok P ∧ s1 = { s with g := P, cache := if sf then s.cache else none } := by
  cases sf with
  | true => exact ⟨fun h => ⟨s.g, rfl, (Outcome.ok.inj h).symm⟩, fun ⟨P, hp, e⟩ => by cases hp; rw [e]; rfl⟩
  | false =>
    constructor
    · intro h
      obtain ⟨g, hg, rfl⟩ := removeClear_ok h
      exact ⟨g, hg, rfl⟩
    · rintro ⟨P, hp, rfl⟩
      have : s.g.removeLast = .ok P := hp
      simp [removeClear, this]

/-- the two places where `Next` returns: a graph on `n` vertices at the head of the outer loop (`true`), an empty stack
of choices at the head of the loop that search_all.go labels `stepLoop` (mode `.step`; `false`) -/
inductive Ret : Mode → State → State × Bool → Prop
  | yield {sf : Bool} {s : State} (hn : s.g.nv = s.n) : Ret (.outer false sf) s (s, true)
  | done {sf : Bool} {s : State} (h0 : s.choices.size = 0) : Ret (.step sf) s (s, false)

/-- One iteration: `resume` re-enters that loop (mode `.step`) after a yield; `push` pushes the choices for the children
of the current graph; `enter` starts the loop over the top frame; `back` leaves an exhausted frame; a child of the top
frame is `skip`ped by the shard test, `reject`ed (by `preprune`, `isCanonical` or `prune`) or `accept`ed. -/
inductive Trans : Mode → State → Mode → State → Prop
  | resume (sf : Bool) (s : State) : Trans (.outer true sf) s (.step sf) s
  | push {sf : Bool} {s : State} {ch : Array Nat} {cache : Option Ans} {num : Nat} (hne : s.g.nv ≠ s.n)
      (haug : addAugmentations O s.n s.g s.choices s.cache = .ok (ch, cache, num)) :
      Trans (.outer false sf) s (.step true)
        { s with choices := ch, cache := cache, currentPath := s.currentPath.push num }
  | enter {sf : Bool} {s : State} {cp : Nat} (h0 : s.choices.size ≠ 0) (hb : s.currentPath.back? = some cp) :
      Trans (.step sf) s (.inner sf cp) s
  | back {sf : Bool} {s : State} {P : DG} (hp : parentOf s.g sf = .ok P) (hcp0 : s.currentPath.size ≠ 0) :
      Trans (.inner sf 0) s (.step false)
        { s with g := P, cache := if sf then s.cache else none, currentPath := s.currentPath.pop }
  | skip {sf : Bool} {i x : Nat} {s : State} (hb : s.choices.back? = some x) (hm : s.m ≠ 0)
      (hskip : (i % s.m != s.a && ((s.currentPath.size : Nat) : Int) == splitLevel s.n) = true) :
      Trans (.inner sf (i + 1)) s (.inner sf i) { s with choices := s.choices.pop }
  | reject {sf : Bool} {i x : Nat} {s : State} {P g2 : DG} {c3 : Option Ans} (hb : s.choices.back? = some x)
      (hm : s.m ≠ 0) (hskip : (i % s.m != s.a && ((s.currentPath.size : Nat) : Int) == splitLevel s.n) = false)
      (hp : parentOf s.g sf = .ok P) (hadd : P.addVertex (bitsOf x) = .ok g2)
      (hrej : pre g2 = true ∧ c3 = none ∨
        pre g2 = false ∧ ∃ canon, isCanonical O s.n g2 (bitsOf x) none = .ok (c3, canon) ∧ (canon && !pr g2) = false) :
      Trans (.inner sf (i + 1)) s (.inner false i) { s with choices := s.choices.pop, g := g2, cache := c3 }
  | accept {sf : Bool} {i x : Nat} {s : State} {P g2 : DG} {c3 : Option Ans} {canon : Bool}
      (hb : s.choices.back? = some x) (hm : s.m ≠ 0)
      (hskip : (i % s.m != s.a && ((s.currentPath.size : Nat) : Int) == splitLevel s.n) = false)
      (hp : parentOf s.g sf = .ok P) (hadd : P.addVertex (bitsOf x) = .ok g2) (hpre : pre g2 = false)
      (hcan : isCanonical O s.n g2 (bitsOf x) none = .ok (c3, canon)) (hacc : (canon && !pr g2) = true)
      (hcp0 : s.currentPath.size ≠ 0) :
      Trans (.inner sf (i + 1)) s (.outer false false)
        { s with choices := s.choices.pop, g := g2, cache := c3,
                 currentPath := s.currentPath.setIfInBounds (s.currentPath.size - 1) i }

variable {O pre pr}

theorem Ret.run_eq {mode : Mode} {s : State} {r : State × Bool} (h : Ret mode s r) (f : Nat) :
    run O pre pr (f + 1) mode s = .ok r := by
  cases h with
  | yield hn => rw [run_outer, if_pos Bool.not_false, if_pos hn]
  | done h0 => rw [run_step, if_pos h0]

theorem Trans.run_eq {mode mode' : Mode} {s s' : State} (h : Trans O pre pr mode s mode' s') (f : Nat) :
    run O pre pr (f + 1) mode s = run O pre pr f mode' s' := by
  cases h with
  | resume => rfl
  | push hne haug => rw [run_outer, if_pos Bool.not_false, if_neg hne, haug]
  | enter h0 hb => rw [run_step, if_neg h0, hb]
  | @back sf s P hp hcp0 => rw [run_inner_zero, (cleared_iff (s := s)).2 ⟨P, hp, rfl⟩]; exact if_neg hcp0
  | skip hb hm hskip => rw [run_inner_succ, hb]; exact (if_neg hm).trans (if_pos hskip)
  | @reject sf i x s P g2 c3 hb hm hskip hp hadd hrej =>
    rw [run_inner_succ, hb]
    have hc := (cleared_iff (s := { s with choices := s.choices.pop })).2 ⟨P, hp, rfl⟩
    simp only [hm, hskip, hc, hadd, if_false, Bool.false_eq_true]
    rcases hrej with ⟨hpre, rfl⟩ | ⟨hpre, canon, hcan, hacc⟩
    · rw [if_pos hpre]
    · rw [if_neg (by rw [hpre]; exact Bool.false_ne_true), hcan]
      exact if_neg (by rw [hacc]; exact Bool.false_ne_true)
  | @accept sf i x s P g2 c3 canon hb hm hskip hp hadd hpre hcan hacc hcp0 =>
    rw [run_inner_succ, hb]
    have hc := (cleared_iff (s := { s with choices := s.choices.pop })).2 ⟨P, hp, rfl⟩
    simp only [hm, hskip, hc, hadd, if_false, Bool.false_eq_true, hpre, hcan, hacc, if_true]
    exact if_neg hcp0

theorem run_succ_ok {f : Nat} {mode : Mode} {s : State} {r : State × Bool}
    (h : run O pre pr (f + 1) mode s = .ok r) :
    Ret mode s r ∨ ∃ mode' s', Trans O pre pr mode s mode' s' ∧ run O pre pr f mode' s' = .ok r := by
  match mode with
  | .outer true sf => exact .inr ⟨_, _, .resume sf s, h⟩
  | .outer false sf =>
    rw [run_outer, if_pos Bool.not_false] at h
    split at h
    · rename_i hn; cases h; exact .inl (.yield hn)
    · rename_i hne
      split at h
      · rename_i haug; exact .inr ⟨_, _, .push hne haug, h⟩
      · cases h
      · cases h
  | .step sf =>
    rw [run_step] at h
    split at h
    · rename_i h0; cases h; exact .inl (.done h0)
    · rename_i h0
      split at h
      · cases h
      · rename_i hb; exact .inr ⟨_, _, .enter h0 hb, h⟩
  | .inner sf 0 =>
    rw [run_inner_zero] at h
    split at h
    · rename_i hs1
      obtain ⟨P, hp, rfl⟩ := cleared_iff.1 hs1
      by_cases hcp0 : s.currentPath.size = 0
      · rw [if_pos hcp0] at h; cases h
      · rw [if_neg hcp0] at h; exact .inr ⟨_, _, .back hp hcp0, h⟩
    · cases h
    · cases h
  | .inner sf (i + 1) =>
    rw [run_inner_succ] at h
    cases hb : s.choices.back? with
    | none => rw [hb] at h; cases h
    | some x =>
      rw [hb] at h
      simp only at h
      by_cases hm : s.m = 0
      · rw [if_pos hm] at h; cases h
      rw [if_neg hm] at h
      by_cases hskip : (i % s.m != s.a && ((s.currentPath.size : Nat) : Int) == splitLevel s.n) = true
      · rw [if_pos hskip] at h; exact .inr ⟨_, _, .skip hb hm hskip, h⟩
      rw [if_neg hskip] at h
      have hskip := eq_false_of_ne_true hskip
      cases hs1 : (if !sf then removeClear { s with choices := s.choices.pop } else .ok { s with choices := s.choices.pop }) with
      | panic => rw [hs1] at h; cases h
      | outOfFuel => rw [hs1] at h; cases h
      | ok s1 =>
        rw [hs1] at h
        obtain ⟨P, hp, rfl⟩ := cleared_iff.1 hs1
        simp only at h
        cases hadd : P.addVertex (bitsOf x) with
        | panic => rw [hadd] at h; cases h
        | outOfFuel => rw [hadd] at h; cases h
        | ok g2 =>
          rw [hadd] at h
          simp only at h
          by_cases hpre : pre g2 = true
          · rw [if_pos hpre] at h
            exact .inr ⟨_, _, .reject hb hm hskip hp hadd (.inl ⟨hpre, rfl⟩), h⟩
          rw [if_neg hpre] at h
          have hpre := eq_false_of_ne_true hpre
          cases hcan : isCanonical O s.n g2 (bitsOf x) none with
          | panic => rw [hcan] at h; cases h
          | outOfFuel => rw [hcan] at h; cases h
          | ok p =>
            obtain ⟨c3, canon⟩ := p
            rw [hcan] at h
            simp only at h
            by_cases hacc : (canon && !pr g2) = true
            · rw [if_pos hacc] at h
              by_cases hcp0 : s.currentPath.size = 0
              · rw [if_pos hcp0] at h; cases h
              rw [if_neg hcp0] at h
              exact .inr ⟨_, _, .accept hb hm hskip hp hadd hpre hcan hacc hcp0, h⟩
            · rw [if_neg hacc] at h
              exact .inr ⟨_, _, .reject hb hm hskip hp hadd
                (.inr ⟨hpre, canon, hcan, eq_false_of_ne_true hacc⟩), h⟩

/-- Induction along a returning run: a statement `C` about a configuration and the result holds if it holds where `run`
returns and every transition preserves the invariant `I` and reflects `C`. -/
theorem run_rec {I : Mode → State → Prop} {C : Mode → State → State × Bool → Prop}
    (hret : ∀ {mode s r}, Ret mode s r → I mode s → C mode s r)
    (htr : ∀ {mode s mode' s'} (r : State × Bool), Trans O pre pr mode s mode' s' → I mode s →
      I mode' s' ∧ (C mode' s' r → C mode s r)) :
    ∀ (f : Nat) (mode : Mode) (s : State) (r : State × Bool), run O pre pr f mode s = .ok r → I mode s → C mode s r
  | 0, _, _, _, h, _ => nomatch h
  | f + 1, _, _, r, h, hi => by
    rcases run_succ_ok h with hr | ⟨mode', s', ht, h'⟩
    · exact hret hr hi
    · have := htr r ht hi
      exact this.2 (run_rec hret htr f mode' s' r h' this.1)

end Search
