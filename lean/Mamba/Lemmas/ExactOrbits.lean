import Mamba.Lemmas.ExactColex
/-! The union–find passes of `addAugmentations` join exactly the orbits of the group generated by `gens` on `k`-subsets;
the block of choices pushed for one `k`. -/
namespace Search

section
open Disjoint Relation

def opsGens (n : Nat) (c : List Nat) (i : Nat) (gens : List (Array Nat)) : List Op :=
  gens.map fun p => Op.union i (rank (img (fun v => p.getD v 0) c))

def opsPass (gens : List (Array Nat)) (subs : List (List Nat × Nat)) : List Op :=
  subs.flatMap fun ci => gens.map fun p => Op.union ci.2 (rank (img (fun v => p.getD v 0) ci.1))

def GensOK (nv : Nat) (gens : List (Array Nat)) : Prop :=
  ∀ p ∈ gens, p.size = nv ∧ GSearch.IsBij nv (fun v => p.getD v 0)

theorem unionGens_tracks {nv k N : Nat} (hN : N = (colex nv k).length) {c : List Nat} {i : Nat} (hc : IsSub nv k c)
    (hi : i < N) :
    ∀ (gens : List (Array Nat)) (pre : List Op) (ds : DS), GensOK nv gens → Tracks N pre ds →
      ∃ d', unionGens c i gens ds = .ok d' ∧
        Tracks N (pre ++ gens.map fun p => Op.union i (rank (img (fun v => p.getD v 0) c))) d'
  | [], pre, ds, _, h => ⟨ds, rfl, by simpa using h⟩
  | p :: ps, pre, ds, hg, h => by
    have hp := hg p List.mem_cons_self
    have hm : c.mapM (fun x => p[x]?) = some (c.map fun v => p.getD v 0) :=
      mapM_gen (fun v hv => by rw [hp.1]; exact hc.2.2 v hv)
    have hsub : IsSub nv k (img (fun v => p.getD v 0) c) := img_isSub hp.2 hc
    obtain ⟨hr, -⟩ := colex_of_sub hsub
    have hvalid : (Op.union i (rank (img (fun v => p.getD v 0) c))).valid N := ⟨hi, hN ▸ hr⟩
    obtain ⟨d1, f1, t1⟩ := step_spec h _ hvalid
    obtain ⟨d2, f2, t2⟩ := unionGens_tracks hN hc hi ps _ d1 (fun q hq => hg q (List.mem_cons_of_mem _ hq)) t1
    refine ⟨d2, ?_, by simpa using t2⟩
    simp only [unionGens, hm]
    have : Disjoint.union ds i (rank (sortNats (c.map fun v => p.getD v 0))) = .ok d1 := f1
    simp only [this]
    exact f2

theorem unionPass_tracks {nv k N : Nat} (hN : N = (colex nv k).length) (gens : List (Array Nat)) (hg : GensOK nv gens) :
    ∀ (subs : List (List Nat × Nat)) (pre : List Op) (ds : DS),
      (∀ ci ∈ subs, IsSub nv k ci.1 ∧ ci.2 < N) → Tracks N pre ds →
      ∃ d', unionPass gens subs ds = .ok d' ∧ Tracks N (pre ++ opsPass gens subs) d'
  | [], pre, ds, _, h => ⟨ds, rfl, by simpa [opsPass] using h⟩
  | (c, i) :: rest, pre, ds, hs, h => by
    have hci := hs (c, i) List.mem_cons_self
    obtain ⟨d1, f1, t1⟩ := unionGens_tracks hN hci.1 hci.2 gens pre ds hg h
    obtain ⟨d2, f2, t2⟩ := unionPass_tracks hN gens hg rest _ d1 (fun x hx => hs x (List.mem_cons_of_mem _ hx)) t1
    refine ⟨d2, ?_, ?_⟩
    · simp only [unionPass, f1]; exact f2
    · simpa [opsPass, List.append_assoc] using t2

end

section
open Disjoint Relation GSearch

variable {g : DG} {gens : List (Array Nat)}

def GensAut (g : DG) (gens : List (Array Nat)) : Prop :=
  ∀ p ∈ gens, p.size = g.nv ∧ IsAut g (fun v => p.getD v 0)

theorem GensAut.ok (h : GensAut g gens) : GensOK g.nv gens := fun p hp => ⟨(h p hp).1, (h p hp).2.1⟩

theorem isAut_congr {σ τ : Nat → Nat} (h : IsAut g τ) (he : ∀ v, v < g.nv → σ v = τ v) : IsAut g σ := by
  obtain ⟨hb, hadj⟩ := h
  refine ⟨⟨?_, ?_, ?_⟩, ?_⟩
  · intro u hu; rw [he u hu]; exact hb.maps u hu
  · intro u v hu hv h; rw [he u hu, he v hv] at h; exact hb.inj u v hu hv h
  · intro w hw; obtain ⟨u, hu, hw'⟩ := hb.surj w hw; exact ⟨u, hu, by rw [he u hu]; exact hw'⟩
  · intro u v hu hv; rw [he u hu, he v hv]; exact hadj u v hu hv

theorem word_aut (hg : GensAut g gens) : ∀ {σ : Nat → Nat}, Word g.nv gens σ → IsAut g σ := by
  intro σ hw
  induction hw with
  | id h => exact isAut_congr ⟨IsBij.id _, fun _ _ _ _ => rfl⟩ h
  | @mul σ τ p hp _ he ih =>
    have hpa := (hg p hp).2
    refine isAut_congr (τ := fun v => p.getD (τ v) 0) ⟨ih.1.comp hpa.1, ?_⟩ he
    intro u v hu hv
    rw [ih.2 u v hu hv, hpa.2 _ _ (ih.1.maps u hu) (ih.1.maps v hv)]

theorem extEquiv_of_img {σ : Nat → Nat} (hσ : IsAut g σ) {k : Nat} {c : List Nat} (hc : IsSub g.nv k c) :
    ExtEquiv g c g (img σ c) := by
  refine ⟨rfl, σ, hσ.1, hσ.2, ?_⟩
  intro v hv
  rw [mem_img]
  constructor
  · intro h; exact ⟨v, h, rfl⟩
  · rintro ⟨u, hu, he⟩
    have := hσ.1.inj u v (hc.2.2 u hu) hv he
    exact this ▸ hu

/-- the relation joined by the union pass for subsets of size `k` -/
def stepRel (g : DG) (gens : List (Array Nat)) (k : Nat) (x y : Nat) : Prop :=
  ∃ (hx : x < (colex g.nv k).length), ∃ p ∈ gens, y = rank (img (fun v => p.getD v 0) ((colex g.nv k)[x]))

theorem unionRel_opsPass (k : Nat) (x y : Nat) :
    unionRel (opsPass gens ((colex g.nv k).zipIdx)) x y ↔ stepRel g gens k x y := by
  simp only [unionRel, opsPass, List.mem_flatMap, List.mem_map, Op.union.injEq, stepRel]
  constructor
  · rintro ⟨⟨c, i⟩, hci, p, hp, h1, h2⟩
    obtain ⟨hi, he⟩ := List.mem_zipIdx_iff_getElem?.1 hci |> fun h => by
      simp only at h
      have := List.getElem?_eq_some_iff.1 h
      exact this
    simp only at h1 h2
    subst h1
    exact ⟨hi, p, hp, by rw [he]; exact h2.symm⟩
  · rintro ⟨hx, p, hp, hy⟩
    refine ⟨((colex g.nv k)[x], x), ?_, p, hp, rfl, hy.symm⟩
    rw [List.mem_zipIdx_iff_getElem?]
    simp [List.getElem?_eq_getElem hx]

theorem eqvGen_sub {α : Type} {R E : α → α → Prop} (hs : ∀ {x y}, E x y → E y x)
    (ht : ∀ {x y z}, E x y → E y z → E x z) (hR : ∀ x y, R x y → E x y) {x y : α} (h : EqvGen R x y) :
    x = y ∨ E x y := by
  induction h with
  | rel x y hxy => exact .inr (hR x y hxy)
  | refl x => exact .inl rfl
  | symm x y _ ih => exact ih.imp Eq.symm hs
  | trans x y z _ _ ih1 ih2 =>
    rcases ih1 with rfl | e1
    · exact ih2
    · exact ih2.elim (fun e => e ▸ .inr e1) fun e2 => .inr (ht e1 e2)

theorem eqvGen_sound (hg : GensAut g gens) (k : Nat) {x y : Nat} (h : EqvGen (stepRel g gens k) x y) :
    x = y ∨ ∃ (hx : x < (colex g.nv k).length) (hy : y < (colex g.nv k).length),
      ExtEquiv g ((colex g.nv k)[x]) g ((colex g.nv k)[y]) := by
  refine eqvGen_sub (E := fun x y => ∃ (hx : x < (colex g.nv k).length) (hy : y < (colex g.nv k).length),
      ExtEquiv g ((colex g.nv k)[x]) g ((colex g.nv k)[y]))
    (fun ⟨hx, hy, e⟩ => ⟨hy, hx, e.symm⟩) (fun ⟨hx, _, e1⟩ ⟨_, hz, e2⟩ => ⟨hx, hz, e1.trans e2⟩) ?_ h
  rintro x y ⟨hx, p, hp, rfl⟩
  have hc := (mem_colex g.nv k _).1 (List.getElem_mem hx)
  have hpa := (hg p hp).2
  obtain ⟨hr, he⟩ := colex_of_sub (img_isSub hpa.1 hc)
  exact ⟨hx, hr, by rw [he]; exact extEquiv_of_img hpa hc⟩

theorem eqvGen_word (hg : GensAut g gens) (k : Nat) {x : Nat} (hx : x < (colex g.nv k).length) :
    ∀ {σ : Nat → Nat}, Word g.nv gens σ →
      EqvGen (stepRel g gens k) x (rank (img σ ((colex g.nv k)[x]))) := by
  have hc := (mem_colex g.nv k _).1 (List.getElem_mem hx)
  intro σ hw
  induction hw with
  | @id σ h =>
    have hσ : IsAut g σ := word_aut hg (Word.id h)
    have : img σ ((colex g.nv k)[x]) = (colex g.nv k)[x] := by
      refine isSub_ext (img_isSub hσ.1 hc) hc ?_
      intro v
      rw [mem_img]
      constructor
      · rintro ⟨u, hu, rfl⟩; rw [h u (hc.2.2 u hu)]; exact hu
      · intro hv; exact ⟨v, hv, h v (hc.2.2 v hv)⟩
    rw [this, colex_rank]
    exact EqvGen.refl _
  | @mul σ τ p hp hwτ he ih =>
    have hτ : IsAut g τ := word_aut hg hwτ
    have hσ : IsAut g σ := word_aut hg (Word.mul hp hwτ he)
    have hpa := (hg p hp).2
    have hsubτ := img_isSub hτ.1 hc
    obtain ⟨hr, heq⟩ := colex_of_sub hsubτ
    refine EqvGen.trans _ _ _ ih (EqvGen.rel _ _ ⟨hr, p, hp, ?_⟩)
    rw [heq]
    congr 1
    refine isSub_ext (img_isSub hσ.1 hc) (img_isSub hpa.1 hsubτ) ?_
    intro v
    simp only [mem_img]
    constructor
    · rintro ⟨u, hu, rfl⟩
      exact ⟨τ u, ⟨u, hu, rfl⟩, (he u (hc.2.2 u hu)).symm⟩
    · rintro ⟨w, ⟨u, hu, rfl⟩, rfl⟩
      exact ⟨u, hu, he u (hc.2.2 u hu)⟩

theorem eqvGen_complete (hg : GensAut g gens) (hgen : ∀ σ, IsAut g σ → Word g.nv gens σ) (k : Nat) {x y : Nat}
    (hx : x < (colex g.nv k).length) (hy : y < (colex g.nv k).length)
    (e : ExtEquiv g ((colex g.nv k)[x]) g ((colex g.nv k)[y])) : EqvGen (stepRel g gens k) x y := by
  obtain ⟨-, σ, hb, hadj, hS⟩ := e
  have hσ : IsAut g σ := ⟨hb, hadj⟩
  have hcx := (mem_colex g.nv k _).1 (List.getElem_mem hx)
  have hcy := (mem_colex g.nv k _).1 (List.getElem_mem hy)
  have := eqvGen_word hg k hx (hgen σ hσ)
  have himg : img σ ((colex g.nv k)[x]) = (colex g.nv k)[y] := by
    refine isSub_ext (img_isSub hb hcx) hcy ?_
    intro v
    rw [mem_img]
    constructor
    · rintro ⟨u, hu, rfl⟩; exact (hS u (hcx.2.2 u hu)).1 hu
    · intro hv
      obtain ⟨u, hu, rfl⟩ := hb.surj v (hcy.2.2 v hv)
      exact ⟨u, (hS u hu).2 hv, rfl⟩
  rw [himg, colex_rank] at this
  exact this

end

section
open GSearch

def cardIn (nv : Nat) (S : List Nat) : Nat := ((List.range nv).filter fun v => decide (v ∈ S)).length

theorem cardIn_equiv {g h : DG} {S T : List Nat} (e : ExtEquiv g S h T) : cardIn g.nv S = cardIn h.nv T := by
  obtain ⟨hn, σ, hσ, -, hS⟩ := e
  unfold cardIn
  rw [← hn]
  have hp : (((List.range g.nv).filter fun v => decide (v ∈ S)).map σ).Perm
      ((List.range g.nv).filter fun v => decide (v ∈ T)) := by
    refine (List.perm_ext_iff_of_nodup ?_ (List.Nodup.filter _ List.nodup_range)).2 ?_
    · refine List.Nodup.map_on ?_ (List.Nodup.filter _ List.nodup_range)
      intro x hx y hy h
      simp only [List.mem_filter, List.mem_range] at hx hy
      exact hσ.inj x y hx.1 hy.1 h
    · intro w
      simp only [List.mem_map, List.mem_filter, List.mem_range, decide_eq_true_eq]
      constructor
      · rintro ⟨v, ⟨hv, hvS⟩, rfl⟩
        exact ⟨hσ.maps v hv, (hS v hv).1 hvS⟩
      · rintro ⟨hw, hwT⟩
        obtain ⟨v, hv, rfl⟩ := hσ.surj w hw
        exact ⟨v, ⟨hv, (hS v hv).2 hwT⟩, rfl⟩
  rw [← hp.length_eq, List.length_map]

theorem cardIn_nodup {nv : Nat} {S : List Nat} (hnd : S.Nodup) (hS : ∀ v ∈ S, v < nv) : cardIn nv S = S.length := by
  unfold cardIn
  apply List.Perm.length_eq
  refine (List.perm_ext_iff_of_nodup (List.Nodup.filter _ List.nodup_range) hnd).2 ?_
  intro a
  simp only [List.mem_filter, List.mem_range, decide_eq_true_eq]
  exact ⟨fun h => h.2, fun h => ⟨hS a h, h⟩⟩

theorem cardIn_congr {nv : Nat} {S T : List Nat} (h : ∀ v, v ∈ S ↔ v ∈ T) : cardIn nv S = cardIn nv T := by
  unfold cardIn
  congr 1
  apply List.filter_congr
  intro v _
  simp [h v]

theorem cardIn_mask {nv k : Nat} {c : List Nat} (hc : IsSub nv k c) : cardIn nv (bitsOf (maskOf c)) = k := by
  rw [cardIn_congr (fun v => mem_bitsOf_maskOf), cardIn_nodup (hc.2.1.imp fun h => Nat.ne_of_lt h) hc.2.2, hc.1]

end

section
open Disjoint Relation GSearch

theorem rootPass_form (ds : DS) :
    ∀ (subs : List (List Nat × Nat)) (ch : Array Nat) (num : Nat), (∀ ci ∈ subs, ci.2 < ds.size) →
      rootPass ds subs ch num =
        .ok (ch ++ ((subs.filter fun ci => decide (ds.getD ci.2 0 < 0)).map fun ci => maskOf ci.1).toArray,
             num + (subs.filter fun ci => decide (ds.getD ci.2 0 < 0)).length)
  | [], ch, num, _ => by simp [rootPass]
  | (c, i) :: rest, ch, num, h => by
    have hi : i < ds.size := h (c, i) List.mem_cons_self
    have ih := fun ch num => rootPass_form ds rest ch num (fun x hx => h x (List.mem_cons_of_mem _ hx))
    have hg : ds.getD i 0 = ds[i] := by simp [Array.getD_eq_getD_getElem?, Array.getElem?_eq_getElem hi]
    simp only [rootPass, Array.getElem?_eq_getElem hi, List.filter_cons, hg]
    by_cases hneg : ds[i] < 0
    · simp only [hneg, if_true, decide_true, ih, List.map_cons, List.length_cons]
      congr 2
      · apply Array.toList_inj.1; simp
      · omega
    · simp only [hneg, if_false, decide_false, ih]
      rfl

theorem root_iff_rep {ds : DS} (h : Disjoint.Inv ds) {i : Nat} (hi : i < ds.size) : ds.getD i 0 < 0 ↔ rep ds i = i := by
  constructor
  · exact rep_of_root ds i
  · intro he
    have := rep_isRoot h i hi
    rw [he] at this
    exact this

end

section
open Disjoint Relation GSearch

variable {g : DG} {gens : List (Array Nat)}

/-- the masks pushed for the subsets of size `k`: one per `Aut(g)`-orbit of `k`-subsets -/
structure BlockOK (g : DG) (k : Nat) (masks : List Nat) : Prop where
  form : ∀ x ∈ masks, ∃ c, IsSub g.nv k c ∧ x = maskOf c
  complete : ∀ c, IsSub g.nv k c → ∃ x ∈ masks, ExtEquiv g c g (bitsOf x)
  distinct : masks.Pairwise fun x y => ¬ ExtEquiv g (bitsOf x) g (bitsOf y)

theorem extEquiv_mask (g : DG) (c : List Nat) : ExtEquiv g c g (bitsOf (maskOf c)) :=
  ⟨rfl, fun u => u, IsBij.id _, fun _ _ _ _ => rfl, fun _ _ => mem_bitsOf_maskOf.symm⟩

theorem mem_zipIdx_colex {nv k : Nat} {c : List Nat} {i : Nat} (h : (c, i) ∈ (colex nv k).zipIdx) :
    ∃ hi : i < (colex nv k).length, (colex nv k)[i] = c := by
  have := List.mem_zipIdx_iff_getElem?.1 h
  simp only at this
  obtain ⟨hi, he⟩ := List.getElem?_eq_some_iff.1 this
  exact ⟨hi, he⟩

/-- one iteration of `for k := 2 …` in `addAugmentations`: the union pass returns and its roots are one mask per orbit -/
theorem block_spec (hg : GensAut g gens) (hgen : ∀ σ, IsAut g σ → Word g.nv gens σ) (k : Nat) :
    ∃ ds, unionPass gens ((colex g.nv k).zipIdx) (Array.replicate (choose g.nv k) (-1)) = .ok ds ∧
      (∀ ci ∈ (colex g.nv k).zipIdx, ci.2 < ds.size) ∧
      BlockOK g k ((((colex g.nv k).zipIdx).filter fun ci => decide (ds.getD ci.2 0 < 0)).map fun ci => maskOf ci.1) := by
  have hN : choose g.nv k = (colex g.nv k).length := (colex_length g.nv k).symm
  have hsubs : ∀ ci ∈ (colex g.nv k).zipIdx, IsSub g.nv k ci.1 ∧ ci.2 < choose g.nv k := by
    rintro ⟨c, i⟩ hci
    obtain ⟨hi, he⟩ := mem_zipIdx_colex hci
    exact ⟨he ▸ (mem_colex g.nv k _).1 (List.getElem_mem hi), hN ▸ hi⟩
  obtain ⟨ds, f, t⟩ := unionPass_tracks hN gens hg.ok _ [] _ hsubs (tracks_new _)
  refine ⟨ds, f, ?_⟩
  obtain ⟨hinv, hsize, hrep⟩ := t
  simp only [List.nil_append] at hrep
  have hrel : unionRel (opsPass gens ((colex g.nv k).zipIdx)) = stepRel g gens k := by
    funext x y; exact propext (unionRel_opsPass k x y)
  rw [hrel] at hrep
  have hlen : (colex g.nv k).length = ds.size := by rw [hsize, hN]
  -- rep-equality is orbit equivalence
  have hequiv : ∀ a b (ha : a < (colex g.nv k).length) (hb : b < (colex g.nv k).length),
      rep ds a = rep ds b ↔ ExtEquiv g ((colex g.nv k)[a]) g ((colex g.nv k)[b]) := by
    intro a b ha hb
    rw [hrep a b (hN ▸ ha) (hN ▸ hb)]
    constructor
    · intro h
      rcases eqvGen_sound hg k h with rfl | ⟨_, _, e⟩
      · exact ExtEquiv.refl _ _
      · exact e
    · exact eqvGen_complete hg hgen k ha hb
  refine ⟨fun ci hci => by rw [hsize]; exact (hsubs ci hci).2, ?_, ?_, ?_⟩
  · intro x hx
    obtain ⟨⟨c, i⟩, hci, rfl⟩ := List.mem_map.1 hx
    exact ⟨c, (hsubs _ (List.mem_filter.1 hci).1).1, rfl⟩
  · intro c hc
    obtain ⟨hr, he⟩ := colex_of_sub hc
    have hr' : rank c < ds.size := hlen ▸ hr
    have hj : rep ds (rank c) < ds.size := rep_lt hinv _ hr'
    have hj' : rep ds (rank c) < (colex g.nv k).length := hlen ▸ hj
    refine ⟨maskOf ((colex g.nv k)[rep ds (rank c)]), ?_, ?_⟩
    · refine List.mem_map.2 ⟨((colex g.nv k)[rep ds (rank c)], rep ds (rank c)), ?_, rfl⟩
      refine List.mem_filter.2 ⟨?_, ?_⟩
      · rw [List.mem_zipIdx_iff_getElem?]; simp [List.getElem?_eq_getElem hj']
      · simpa using rep_isRoot hinv _ hr'
    · have := (hequiv (rank c) (rep ds (rank c)) hr hj').1 (rep_rep hinv _ hr').symm
      rw [he] at this
      exact this.trans (extEquiv_mask g _)
  · rw [List.pairwise_map]
    have hnd : ((colex g.nv k).zipIdx).Pairwise fun a b => a.2 ≠ b.2 := by
      have : (((colex g.nv k).zipIdx).map Prod.snd).Nodup := by
        rw [List.zipIdx_map_snd]; exact List.nodup_range' (s := 0) (n := (colex g.nv k).length) 1 (by decide)
      exact List.pairwise_map.1 this
    refine ((hnd.filter _).imp_of_mem ?_)
    rintro ⟨c, i⟩ ⟨c', i'⟩ h1 h2 hne e
    obtain ⟨hci, hroot⟩ := List.mem_filter.1 h1
    obtain ⟨hci', hroot'⟩ := List.mem_filter.1 h2
    obtain ⟨hi, he⟩ := mem_zipIdx_colex hci
    obtain ⟨hi', he'⟩ := mem_zipIdx_colex hci'
    simp only at hne e hroot hroot'
    have e' : ExtEquiv g ((colex g.nv k)[i]) g ((colex g.nv k)[i']) := by
      rw [he, he']
      exact ((extEquiv_mask g c).trans e).trans (extEquiv_mask g c').symm
    have hr := (hequiv i i' hi hi').2 e'
    rw [(root_iff_rep hinv (hlen ▸ hi)).1 (by simpa using hroot),
      (root_iff_rep hinv (hlen ▸ hi')).1 (by simpa using hroot')] at hr
    exact hne hr

/-- the loop over the sizes `ks` on automorphism data: one block per size, whatever is on the stack below; its only way to
fail is the reslice `ds[:C(nv,k)]` beyond the capacity `C(cap, cap/2)` -/
theorem sizeLoop_ok (hg : GensAut g gens) (hgen : ∀ σ, IsAut g σ → Word g.nv gens σ) (cap : Nat) :
    ∀ (ks : List Nat), ∃ blocks : List (List Nat), List.Forall₂ (fun k b => BlockOK g k b) ks blocks ∧
      ∀ (ch : Array Nat) (num : Nat),
        sizeLoop cap g.nv gens ks ch num = .ok (ch ++ blocks.flatten.toArray, num + blocks.flatten.length) ∨
        (sizeLoop cap g.nv gens ks ch num = .panic ∧ ∃ k ∈ ks, choose cap (cap / 2) < choose g.nv k)
  | [] => ⟨[], .nil, fun ch num => .inl (by simp [sizeLoop])⟩
  | k :: ks => by
    obtain ⟨ds, hds, hidx, hblock⟩ := block_spec hg hgen k
    obtain ⟨blocks, h2, h1⟩ := sizeLoop_ok hg hgen cap ks
    refine ⟨_ :: blocks, .cons hblock h2, fun ch num => ?_⟩
    by_cases hcap : choose g.nv k > choose cap (cap / 2)
    · exact .inr ⟨by simp only [sizeLoop, if_pos hcap], k, List.mem_cons_self, hcap⟩
    · simp only [sizeLoop, if_neg hcap, hds, rootPass_form ds _ ch num hidx]
      refine (h1 _ _).imp (fun h => ?_) fun ⟨h, k', hk', hlt⟩ => ⟨h, k', List.mem_cons_of_mem _ hk', hlt⟩
      rw [h]
      simp [Array.append_assoc, Nat.add_assoc]

theorem blocks_pairwise :
    ∀ (ks : List Nat) (blocks : List (List Nat)), List.Forall₂ (fun k b => BlockOK g k b) ks blocks →
      ks.Pairwise (· < ·) →
      (blocks.flatten.Pairwise fun x y => ¬ ExtEquiv g (bitsOf x) g (bitsOf y)) ∧
      ∀ x ∈ blocks.flatten, ∃ k ∈ ks, cardIn g.nv (bitsOf x) = k
  | [], [], _, _ => by simp
  | k :: ks, b :: bs, h, hp => by
    cases h with
    | cons hb hrest =>
      have hp' := List.pairwise_cons.1 hp
      obtain ⟨ih1, ih2⟩ := blocks_pairwise ks bs hrest hp'.2
      have hcard : ∀ x ∈ b, cardIn g.nv (bitsOf x) = k := by
        intro x hx
        obtain ⟨c, hc, rfl⟩ := hb.form x hx
        exact cardIn_mask hc
      constructor
      · simp only [List.flatten_cons]
        rw [List.pairwise_append]
        refine ⟨hb.distinct, ih1, ?_⟩
        intro x hx y hy e
        obtain ⟨k', hk', hc'⟩ := ih2 y hy
        have := cardIn_equiv e
        rw [hcard x hx, hc'] at this
        have := hp'.1 k' hk'
        omega
      · intro x hx
        simp only [List.flatten_cons, List.mem_append] at hx
        rcases hx with hx | hx
        · exact ⟨k, List.mem_cons_self, hcard x hx⟩
        · obtain ⟨k', hk', hc'⟩ := ih2 x hx
          exact ⟨k', List.mem_cons_of_mem _ hk', hc'⟩

end

end Search
