import Mamba.Lemmas.C06Hand
/-! C06: the body of the main loop of `PruferDecode` (`pruferStep`) and the model written as a chain of binds
(`pruferDecode_unfold`): what `C06PruferTree` starts from. Beside that route, a result on its own that nothing
else builds on: whatever `PruferDecode` and `RandomTree` return is well formed, because they end in `NewDense`
(`randomTree_wf`). -/
namespace Construct
open GraphSpec

/-- one round of the main loop of `PruferDecode` -/
def pruferStep (n : Nat) (st : Array Int × Array Nat) (v : Nat) : Outcome (Array Int × Array Nat) :=
  match firstLeaf st.1 n with
  | none => pure st
  | some j => do
    let e ← (if j > v then setAt st.2 ((j * (j - 1)) / 2 + v) 1 else setAt st.2 ((v * (v - 1)) / 2 + j) 1 : Outcome (Array Nat))
    let dj ← getAt st.1 j
    let d ← setAt st.1 j (dj - 1)
    let dv ← getAt d v
    let d ← setAt d v (dv - 1)
    pure (d, e)

theorem pruferDecode_unfold (p : List Nat) : pruferDecode p =
    (p.foldlM (fun d v => incrAt d v) (Array.replicate (p.length + 2) (1 : Int))) >>= fun degrees =>
    (p.foldlM (pruferStep (p.length + 2)) (degrees, zeros (((p.length + 2) * (p.length + 2 - 1)) / 2))) >>= fun st =>
    (match firstLeaf st.1 (p.length + 2) with
      | none => pure st.2
      | some i =>
        match (List.range' (i + 1) (p.length + 2 - (i + 1))).find? fun j => st.1[j]? == some 1 with
        | none => pure st.2
        | some j => setAt st.2 ((j * (j - 1)) / 2 + i) 1 : Outcome (Array Nat)) >>= fun edges =>
    newDense (p.length + 2) (some edges) := by
  unfold pruferDecode
  rfl

theorem newDense_ok_wf (n : Nat) (e : Array Nat) (d : Dense) (h : newDense n (some e) = .ok d) : d.WF ∧ d.n = n := by
  by_cases hs : e.size = tri n
  · obtain ⟨d', h1, h2, _, h4⟩ := newDense_some n e hs
    rw [h1] at h; cases h; exact ⟨h4, h2⟩
  · have : e.size ≠ n * (n - 1) / 2 := hs
    simp [newDense, this] at h

theorem pruferDecode_wf (p : List Nat) (d : Dense) (h : pruferDecode p = .ok d) : d.WF ∧ d.n = p.length + 2 := by
  unfold pruferDecode at h
  obtain ⟨_, _, h⟩ := Outcome.bind_eq_ok h
  obtain ⟨⟨dg, ed⟩, _, h⟩ := Outcome.bind_eq_ok h
  obtain ⟨_, _, h⟩ := Outcome.bind_eq_ok h
  exact newDense_ok_wf _ _ _ h

theorem randomTree_wf (n : Nat) (draw : Nat → Nat) (d : Dense) (h : randomTree n draw = .ok d) : d.WF ∧ d.n = n := by
  unfold randomTree at h
  by_cases hn : n < 2
  · simp [hn] at h
  · simp only [hn, ↓reduceIte] at h
    have := pruferDecode_wf _ _ h
    simp only [List.length_map, List.length_range] at this
    exact ⟨this.1, by omega⟩

end Construct
