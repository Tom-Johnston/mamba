import Mathlib.Data.List.Chain
import Mathlib.Data.List.Lex
import Mamba.Model.IterComb
import Mamba.Lemmas.IterSlice
import Mamba.Lemmas.IterChain
import Mamba.Lemmas.IterGeneric
/-!
# C15: `Combinations` (lexicographic) and `CombinationsColex` of `itertools/combinations.go`

Both iterators step to the successor of the combination they show: `combSucc n` resp. `colexSucc n`, whose chains are
the list specifications `combList n k` / `colexList n k`.  `Comb.scan` is `combSucc` read from the right
(`combSuccT`); `Colex.next` remembers in `j` how many leading positions hold their own index (`Colex.Rep`).
The specification lists stand at the top, in `namespace Iter.Spec`.
-/

namespace Iter.Spec

/-- `[a, a+1, …, a+m-1]` -/
def consec : Int → Nat → List Int
  | _, 0 => []
  | a, m+1 => a :: consec (a+1) m

/-- the `k`-element subsets of `{lo, …, n-1}` as increasing lists, in lexicographic order -/
def combFrom (n : Int) : Nat → Int → List (List Int)
  | 0, _ => [[]]
  | k+1, lo => (List.range (n - k - lo).toNat).flatMap
      (fun (a : Nat) => (combFrom n k (lo + a + 1)).map (fun x => (lo + a) :: x))

/-- `Combinations(n, k)`: the `k`-element subsets of `{0, …, n-1}` in lexicographic order -/
def combList (n k : Int) : List (List Int) := combFrom n k.toNat 0

/-- lexicographic successor among the combinations from `{.., n-1}` (`none` at the last one) -/
def combSucc (n : Int) : List Int → Option (List Int)
  | [] => none
  | a :: x =>
    match combSucc n x with
    | some y => some (a :: y)
    | none => if a + 1 + x.length < n then some (consec (a + 1) (x.length + 1)) else none

/-- strictly increasing, first element `≥ lo`, all elements `< n` -/
def InComb (n : Int) : Int → List Int → Prop
  | _, [] => True
  | lo, a :: x => lo ≤ a ∧ a < n ∧ InComb n (a + 1) x

/-- the `k`-element subsets of `{0, …, n-1}` as increasing lists, in colexicographic order -/
def colexFrom : Nat → Nat → List (List Int)
  | _, 0 => [[]]
  | 0, _ + 1 => []
  | n + 1, k + 1 => colexFrom n (k + 1) ++ (colexFrom n k).map (· ++ [(n : Int)])

/-- `CombinationsColex(n, k)` -/
def colexList (n k : Int) : List (List Int) := colexFrom n.toNat k.toNat

/-- colexicographic successor; `i` is the index of the head position (the positions below the incremented one
are reset to their index) -/
def colexSuccAux (n : Int) : Int → List Int → Option (List Int)
  | _, [] => none
  | _, [a] => if a + 1 < n then some [a + 1] else none
  | i, a :: b :: x =>
    if a + 1 < b then some ((a + 1) :: b :: x) else (colexSuccAux n (i + 1) (b :: x)).map (i :: ·)

def colexSucc (n : Int) (x : List Int) : Option (List Int) := colexSuccAux n 0 x

/-- colexicographic order: compare from the last element -/
def ColexLt (x y : List Int) : Prop := x.reverse < y.reverse

end Iter.Spec

namespace Iter
open Spec

@[simp] theorem consec_length : ∀ (m : Nat) (a : Int), (consec a m).length = m := by
  intro m
  induction m with
  | zero => intro a; rfl
  | succ m ih => intro a; simp [consec, ih]

theorem consec_append : ∀ (m t : Nat) (a : Int), consec a (m + t) = consec a m ++ consec (a + m) t := by
  intro m
  induction m with
  | zero => intro t a; simp [consec]
  | succ m ih =>
    intro t a
    rw [show m + 1 + t = (m + t) + 1 by omega, consec, ih t (a + 1), consec]
    simp only [List.cons_append, Int.natCast_add, Int.natCast_one]
    congr 3
    omega

theorem consec_succ (m : Nat) (a : Int) : consec a (m + 1) = consec a m ++ [a + m] :=
  consec_append m 1 a

theorem range_map_eq_consec : ∀ m : Nat, (List.range m).map Int.ofNat = consec 0 m := by
  intro m
  induction m with
  | zero => rfl
  | succ m ih => rw [List.range_succ, List.map_append, ih, consec_succ]; simp

theorem InComb_length_le : ∀ (x : List Int) (n a : Int), InComb n (a + 1) x → a < n → a + 1 + x.length ≤ n := by
  intro x
  induction x with
  | nil => intro n a _ h; simp; omega
  | cons b x ih =>
    intro n a h _
    obtain ⟨h1, h2, h3⟩ := h
    have := ih n b h3 h2
    simp only [List.length_cons, Int.natCast_add, Int.natCast_one]
    omega

theorem mem_combFrom (n : Int) : ∀ (k : Nat) (lo : Int) (x : List Int),
    x ∈ combFrom n k lo ↔ x.length = k ∧ InComb n lo x := by
  intro k
  induction k with
  | zero =>
    intro lo x
    cases x <;> simp [combFrom, InComb]
  | succ k ih =>
    intro lo x
    cases x with
    | nil => simp [combFrom]
    | cons a x =>
      simp only [combFrom, List.mem_flatMap, List.mem_range, List.mem_map, InComb, List.length_cons,
        Nat.add_right_cancel_iff]
      constructor
      · rintro ⟨i, hi, y, hy, h⟩
        injection h with h1 h2
        subst h1 h2
        obtain ⟨hl, hc⟩ := (ih _ _).mp hy
        exact ⟨hl, by omega, by omega, hc⟩
      · rintro ⟨hl, h0, h1, h2⟩
        have := InComb_length_le x n a h2 h1
        refine ⟨(a - lo).toNat, by omega, x, (ih _ _).mpr ⟨hl, ?_⟩, ?_⟩
        · rw [show lo + ((a - lo).toNat : Int) + 1 = a + 1 by omega]; exact h2
        · rw [show lo + ((a - lo).toNat : Int) = a by omega]

theorem InComb_iff (n : Int) : ∀ (x : List Int) (lo : Int),
    InComb n lo x ↔ x.Pairwise (· < ·) ∧ ∀ a ∈ x, lo ≤ a ∧ a < n := by
  intro x
  induction x with
  | nil => intro lo; simp [InComb]
  | cons a x ih =>
    intro lo
    simp only [InComb, ih, List.pairwise_cons, List.mem_cons, forall_eq_or_imp]
    constructor
    · rintro ⟨h1, h2, h3, h4⟩
      exact ⟨⟨fun b hb => by have := (h4 b hb).1; omega, h3⟩, ⟨h1, h2⟩,
        fun b hb => ⟨by have := (h4 b hb).1; omega, (h4 b hb).2⟩⟩
    · rintro ⟨⟨h1, h2⟩, ⟨h3, h4⟩, h5⟩
      exact ⟨h3, h4, h2, fun b hb => ⟨by have := h1 b hb; omega, (h5 b hb).2⟩⟩

theorem mem_combList (n k : Int) (hk : 0 ≤ k) (x : List Int) :
    x ∈ combList n k ↔ (x.length : Int) = k ∧ x.Pairwise (· < ·) ∧ ∀ a ∈ x, 0 ≤ a ∧ a < n := by
  unfold combList
  rw [mem_combFrom, InComb_iff]
  constructor
  · rintro ⟨h1, h2⟩; exact ⟨by omega, h2⟩
  · rintro ⟨h1, h2⟩; exact ⟨by omega, h2⟩

theorem combFrom_ne_nil (n : Int) : ∀ (k : Nat) (lo : Int), (k = 0 ∨ lo + k ≤ n) → combFrom n k lo ≠ [] := by
  intro k
  induction k with
  | zero => intro lo _; simp [combFrom]
  | succ k ih =>
    intro lo h
    have h : lo + (k + 1 : Nat) ≤ n := by omega
    simp only [combFrom, ne_eq, List.flatMap_eq_nil_iff, List.mem_range, List.map_eq_nil_iff, not_forall]
    refine ⟨0, by push_cast at h; omega, ?_⟩
    apply ih
    right
    push_cast at h ⊢; omega

theorem combFrom_eq_nil (n : Int) (k : Nat) (lo : Int) (h : n < lo + (k + 1 : Nat)) : combFrom n (k + 1) lo = [] := by
  have : (n - k - lo).toNat = 0 := by push_cast at h; omega
  simp [combFrom, this]

theorem combSucc_lt (n : Int) : ∀ (x y : List Int), combSucc n x = some y → x < y
  | [], y, h => by simp [combSucc] at h
  | a :: x, y, h => by
    simp only [combSucc] at h
    split at h
    · next z hz => cases h; exact List.cons_lt_cons_iff.mpr (Or.inr ⟨rfl, combSucc_lt n x z hz⟩)
    · split at h
      · cases h; rw [consec]; exact List.cons_lt_cons_iff.mpr (Or.inl (by omega))
      · cases h

theorem combSucc_consec_last (n : Int) : ∀ (k : Nat), combSucc n (consec (n - k) k) = none := by
  intro k
  induction k with
  | zero => simp [consec, combSucc]
  | succ k ih =>
    rw [consec, show n - ((k + 1 : Nat) : Int) + 1 = n - k by push_cast; omega, combSucc, ih]
    simp only [consec_length]
    have : ¬ (n - ((k + 1 : Nat) : Int) + 1 + (k : Int) < n) := by push_cast; omega
    simp only [this, if_false]

theorem combFrom_chain (n : Int) : ∀ (k : Nat) (lo : Int),
    (combFrom n k lo).IsChain (fun x y => combSucc n x = some y) ∧
    (combFrom n k lo ≠ [] → (combFrom n k lo).head? = some (consec lo k) ∧
      (combFrom n k lo).getLast? = some (consec (n - k) k)) := by
  intro k
  induction k with
  | zero => intro lo; simp [combFrom, consec]
  | succ k ih =>
    intro lo
    have hne : ∀ a : Nat, a < (n - k - lo).toNat → combFrom n k (lo + a + 1) ≠ [] := by
      intro a ha
      apply combFrom_ne_nil
      right; omega
    have key := isChain_flatMap_range (fun x y => combSucc n x = some y)
      (fun (a : Nat) => (combFrom n k (lo + a + 1)).map (fun x => (lo + a) :: x)) (n - k - lo).toNat
      (by
        intro a _
        rw [List.isChain_map]
        exact (ih _).1.imp (fun x y h => by simp [combSucc, h]))
      (by intro a ha; simpa using hne a ha)
      (by
        intro a ha x hx y hy
        obtain ⟨_, hlast⟩ := (ih (lo + a + 1)).2 (hne a (by omega))
        obtain ⟨hhead, _⟩ := (ih (lo + (a + 1 : Nat) + 1)).2 (hne (a + 1) ha)
        simp only [List.getLast?_map, hlast, Option.map_some, Option.mem_def, Option.some.injEq] at hx
        simp only [List.head?_map, hhead, Option.map_some, Option.mem_def, Option.some.injEq] at hy
        subst hx hy
        have : lo + (a : Int) + 1 + (k : Int) < n := by omega
        simp only [combSucc, combSucc_consec_last, consec_length, this, if_true, consec]
        rw [show lo + ((a + 1 : Nat) : Int) = lo + (a : Int) + 1 by push_cast; omega])
    refine ⟨key.1, fun hnn => ?_⟩
    have hpos : 0 < (n - k - lo).toNat := by
      rcases Nat.eq_zero_or_pos (n - k - lo).toNat with h | h
      · simp [combFrom, h] at hnn
      · exact h
    obtain ⟨k1, k2⟩ := key.2 hpos
    refine ⟨?_, ?_⟩
    · show ((List.range _).flatMap _).head? = _
      rw [k2]
      obtain ⟨hhead, _⟩ := (ih (lo + ((0 : Nat) : Int) + 1)).2 (hne 0 hpos)
      simp only [List.head?_map, hhead, Option.map_some, consec]
      simp
    · show ((List.range _).flatMap _).getLast? = _
      rw [k1]
      obtain ⟨_, hlast⟩ := (ih (lo + ((n - k - lo).toNat - 1 : Nat) + 1)).2 (hne _ (by omega))
      simp only [List.getLast?_map, hlast, Option.map_some, consec, Option.some.injEq, List.cons.injEq]
      constructor
      · omega
      · congr 1; omega

theorem combList_chain (n k : Int) : (combList n k).IsChain (fun x y => combSucc n x = some y) :=
  (combFrom_chain n k.toNat 0).1

theorem combList_sorted (n k : Int) : (combList n k).Pairwise (· < ·) :=
  List.isChain_iff_pairwise.mp ((combList_chain n k).imp (fun _ _ h => combSucc_lt n _ _ h))

theorem combList_head_last (n k : Int) (h : combList n k ≠ []) :
    (combList n k).head? = some (consec 0 k.toNat) ∧
    (combList n k).getLast? = some (consec (n - k.toNat) k.toNat) ∧
    combSucc n (consec (n - k.toNat) k.toNat) = none :=
  ⟨((combFrom_chain n k.toNat 0).2 h).1, ((combFrom_chain n k.toNat 0).2 h).2, combSucc_consec_last n _⟩

example : combList 4 2 = [[0, 1], [0, 2], [0, 3], [1, 2], [1, 3], [2, 3]] := by decide
example : combList 3 0 = [[]] ∧ combList (-2) 0 = [[]] ∧ combList 2 3 = [] := by decide

/-- `combSucc` on a prefix that is followed by `t` further positions (already found to be at their maximum) -/
def combSuccT (n : Int) (t : Nat) : List Int → Option (List Int)
  | [] => none
  | a :: x =>
    match combSuccT n t x with
    | some y => some (a :: y)
    | none => if a + 1 + x.length + t < n then some (consec (a + 1) (x.length + 1 + t)) else none

theorem combSuccT_zero (n : Int) : ∀ x : List Int, combSuccT n 0 x = combSucc n x := by
  intro x
  induction x with
  | nil => rfl
  | cons a x ih => simp [combSuccT, combSucc, ih]

theorem combSuccT_snoc (n : Int) (t : Nat) : ∀ (pre : List Int) (a : Int),
    combSuccT n t (pre ++ [a]) =
      if a + 1 + t < n then some (pre ++ consec (a + 1) (t + 1)) else combSuccT n (t + 1) pre := by
  intro pre
  induction pre with
  | nil =>
    intro a
    simp [combSuccT, Nat.add_comm]
  | cons b p ih =>
    intro a
    simp only [List.cons_append, combSuccT, ih a]
    by_cases hc : a + 1 + t < n
    · simp [hc]
    · simp only [hc, if_false, List.length_append, List.length_cons, List.length_nil]
      cases combSuccT n (t + 1) p with
      | some y => rfl
      | none =>
        simp only [Nat.zero_add, Int.natCast_add, Int.natCast_one]
        rw [show b + 1 + ((p.length : Int) + 1) + (t : Int) = b + 1 + (p.length : Int) + ((t : Int) + 1) by omega,
          show p.length + 1 + 1 + t = p.length + 1 + (t + 1) by omega]

theorem comb_fill : ∀ (suf pre : List Int) (v : Int),
    Comb.fill suf.length ((pre.length : Int) + 1) (pre ++ v :: suf) = .ok (pre ++ v :: consec (v + 1) suf.length) := by
  intro suf
  induction suf with
  | nil => intro pre v; simp [Comb.fill, consec]
  | cons b r ih =>
    intro pre v
    simp only [List.length_cons, Comb.fill]
    have g1 : get (pre ++ v :: b :: r) ((pre.length : Int) + 1 - 1) = .ok v := by
      rw [show (pre.length : Int) + 1 - 1 = pre.length by omega]; simp
    have s1 : set (pre ++ v :: b :: r) ((pre.length : Int) + 1) (v + 1) = .ok (pre ++ v :: (v + 1) :: r) := by
      have := set_append_length (pre ++ [v]) r b (v + 1)
      simpa using this
    simp only [g1, s1, Outcome.bind_ok]
    have := ih (pre ++ [v]) (v + 1)
    simp only [List.length_append, List.length_cons, List.length_nil, Nat.zero_add, Int.natCast_add,
      Int.natCast_one, List.append_assoc, List.cons_append, List.nil_append] at this
    rw [this]
    simp [consec]

theorem comb_scan (n k : Int) : ∀ (j : Nat) (pre suf : List Int), pre.length = j → (j : Int) + suf.length = k →
    Comb.scan n k j (pre ++ suf) = .ok (match combSuccT n suf.length pre with
      | some y => (y, true)
      | none => (pre ++ suf, false)) := by
  intro j
  induction j with
  | zero =>
    intro pre suf hp _
    have : pre = [] := List.length_eq_zero_iff.mp hp
    subst this
    simp [Comb.scan, combSuccT]
  | succ j ih =>
    intro pre suf hp hk
    obtain ⟨pre', a, rfl, hp'⟩ := exists_snoc_of_length_succ hp
    clear hp
    rw [combSuccT_snoc, List.append_assoc, List.singleton_append]
    unfold Comb.scan
    have hpj : (j : Int) = pre'.length := by rw [hp']
    simp only [get_at pre' suf a _ hpj, Outcome.bind_ok]
    by_cases hn : a < n + (j : Int) - k
    · have hn' : a + 1 + (suf.length : Int) < n := by push_cast at hk; omega
      have hl : (k - ((j : Int) + 1)).toNat = suf.length := by push_cast at hk; omega
      have f1 := comb_fill suf pre' (a + 1)
      rw [hp'] at f1
      simp only [hn, hn', if_true, set_at pre' suf a _ _ hpj, Outcome.bind_ok, hl, f1, Outcome.pure_eq, consec]
    · have hn' : ¬ a + 1 + (suf.length : Int) < n := by push_cast at hk; omega
      simp only [hn, hn', if_false]
      have := ih pre' (a :: suf) hp' (by simp only [List.length_cons]; push_cast at hk ⊢; omega)
      rw [this]
      simp

theorem comb_scan_full (n k : Int) (d : List Int) (h : (d.length : Int) = k) :
    Comb.scan n k k.toNat d = .ok (match combSucc n d with
      | some y => (y, true)
      | none => (d, false)) := by
  have := comb_scan n k d.length d [] rfl (by simpa using h)
  simp only [List.append_nil, List.length_nil, combSuccT_zero] at this
  rw [show k.toNat = d.length by omega, this]

/-- the slice built by the constructors: `[0, …, k-2, k-2]` -/
def combInit (k : Int) : List Int := if k = 0 then [] else consec 0 (k.toNat - 1) ++ [k - 2]

theorem combInit_length (k : Int) (hk : 0 ≤ k) : ((combInit k).length : Int) = k := by
  unfold combInit
  split
  · simp; omega
  · simp; omega

theorem combData_eq (k : Int) (hk : 0 ≤ k) : combData k = .ok (combInit k) := by
  unfold combData iota combInit
  have h0 : ¬ k < 0 := by omega
  simp only [h0, if_false, Outcome.bind_ok, range_map_eq_consec]
  by_cases hz : k = 0
  · subst hz; simp [consec]
  · have hpos : k > 0 := by omega
    obtain ⟨m, hm⟩ : ∃ m : Nat, k.toNat = m + 1 := ⟨k.toNat - 1, by omega⟩
    have e : k - 1 = ((consec 0 m).length : Int) := by simp; omega
    simp only [hpos, hz, if_true, if_false, hm, consec_succ, Nat.add_sub_cancel, e, get_append_length,
      set_append_length, Outcome.bind_ok]
    congr 3
    omega

theorem Comb.init_eq (n k : Int) (hk : 0 ≤ k) : Comb.init n k = .ok ⟨n, k, combInit k⟩ := by
  simp [Comb.init, combData_eq k hk]

/-- state invariant: `s` shows the combination `x` (after the first call the model has `k = -1` when `k = 0`) -/
def Comb.Rep (n k : Int) (s : Comb) (x : List Int) : Prop :=
  s.n = n ∧ s.data = x ∧ s.k = (if k = 0 then -1 else k)

def Comb.Dead (n k : Int) (s : Comb) : Prop :=
  s.n = n ∧ (s.data.length : Int) = k ∧ s.k = (if k = 0 then -1 else k) ∧ combSucc n s.data = none

theorem Comb.next_dead (n k : Int) (s : Comb) (h : Comb.Dead n k s) :
    ∃ s', Comb.next s = .ok (s', false) ∧ Comb.Dead n k s' := by
  obtain ⟨hn, hl, hk, hd⟩ := h
  refine ⟨s, ?_, hn, hl, hk, hd⟩
  obtain ⟨sn, sk, sd⟩ := s
  simp only at hn hl hk hd
  subst hn
  unfold Comb.next
  by_cases hz : k = 0
  · subst hz
    have : sd = [] := List.length_eq_zero_iff.mp (by omega)
    simp only [if_true] at hk
    simp [hk, this, Comb.scan]
  · simp only [hz, if_false] at hk
    subst hk
    have hz' : (sk == 0) = false := by simp [hz]
    simp only [hz', comb_scan_full sn sk sd hl, hd]
    simp

theorem Comb.next_step (n k : Int) (x y : List Int) (hxy : combSucc n x = some y) (s : Comb)
    (h : Comb.Rep n k s x) (hl : (x.length : Int) = k) : ∃ s', Comb.next s = .ok (s', true) ∧ Comb.Rep n k s' y := by
  obtain ⟨hn, hs, hk⟩ := h
  have hz : k ≠ 0 := by
    rintro rfl
    have : x = [] := List.length_eq_zero_iff.mp (by omega)
    subst this
    simp [combSucc] at hxy
  simp only [hz, if_false] at hk
  have hz' : (s.k == 0) = false := by simp [hk, hz]
  refine ⟨{ s with data := y }, ?_, hn, rfl, by simp [hz, hk]⟩
  unfold Comb.next
  rw [hn, hs, hk, comb_scan_full n k x hl, hxy]
  simp [← hk, hz']

theorem combSuccT_consec_none (n : Int) (t : Nat) : ∀ (m : Nat) (lo : Int), n ≤ lo + m + t →
    combSuccT n t (consec lo m) = none := by
  intro m
  induction m with
  | zero => intro lo _; rfl
  | succ m ih =>
    intro lo h
    have : ¬ (lo + 1 + (m : Int) + (t : Int) < n) := by push_cast at h; omega
    simp only [consec, combSuccT, ih (lo + 1) (by push_cast at h; omega), consec_length, this, if_false]

theorem combSucc_combInit (n k : Int) (hk : 0 < k) :
    combSucc n (combInit k) = if k ≤ n then some (consec 0 k.toNat) else none := by
  have hz : k ≠ 0 := by omega
  obtain ⟨m, hm⟩ : ∃ m : Nat, k.toNat = m + 1 := ⟨k.toNat - 1, by omega⟩
  rw [← combSuccT_zero]
  simp only [combInit, hz, if_false, combSuccT_snoc, hm, Nat.add_sub_cancel]
  by_cases hc : k ≤ n
  · have : k - 2 + 1 + ((0 : Nat) : Int) < n := by simp; omega
    rw [consec_succ m]
    simp only [this, hc, if_true, consec, Option.some.injEq]
    congr 2
    omega
  · have : ¬ (k - 2 + 1 + ((0 : Nat) : Int) < n) := by simp; omega
    simp only [this, hc, if_false]
    apply combSuccT_consec_none
    simp; omega

theorem combList_eq_nil_iff (n k : Int) : combList n k = [] ↔ (0 < k ∧ n < k) := by
  unfold combList
  constructor
  · intro h
    by_contra hc
    exact combFrom_ne_nil n k.toNat 0 (by omega) h
  · rintro ⟨h0, h⟩
    obtain ⟨m, hm⟩ : ∃ m : Nat, k.toNat = m + 1 := ⟨k.toNat - 1, by omega⟩
    rw [hm]
    apply combFrom_eq_nil
    omega

theorem Comb.enumerates_lemma (n k : Int) (hk : 0 ≤ k) :
    ∃ s0, Comb.init n k = .ok s0 ∧ ∀ bound, (combList n k).length < bound →
      ∃ s', outputs Comb.it bound s0 = (combList n k, s', .exhausted) ∧
        ∀ k', extras Comb.it k' s' = .ok (List.replicate k' none) := by
  refine ⟨_, Comb.init_eq n k hk, fun bound hb => ?_⟩
  obtain ⟨hchain, hends⟩ := combFrom_chain n k.toNat 0
  have hdead0 : 0 < k ∧ n < k → Comb.Dead n k ⟨n, k, combInit k⟩ := by
    rintro ⟨h0, h⟩
    have hz : k ≠ 0 := by omega
    refine ⟨rfl, combInit_length k hk, by simp [hz], ?_⟩
    rw [combSucc_combInit n k h0]
    have : ¬ k ≤ n := by omega
    simp [this]
  obtain ⟨s', h1, _, h3⟩ := enumerates_succ Comb.it id (Comb.Rep n k) (Comb.Dead n k)
    (fun x y => combSucc n x = some y) (⟨n, k, combInit k⟩ : Comb) (combList n k) hchain
    (by
      rintro s x _ ⟨hn, hs, hk'⟩
      exact ⟨s, by simp [Comb.it, hs], hn, hs, hk'⟩)
    (by
      intro hnil
      exact Comb.next_dead n k _ (hdead0 ((combList_eq_nil_iff n k).mp hnil)))
    (by
      intro x hx
      have hne : combList n k ≠ [] := by intro h; simp [h] at hx
      have hkn : k = 0 ∨ k ≤ n := by
        by_contra hc
        exact hne ((combList_eq_nil_iff n k).mpr (by omega))
      obtain ⟨hhead, _⟩ := hends hne
      unfold combList at hx
      rw [hhead] at hx
      simp only [Option.mem_def, Option.some.injEq] at hx
      subst hx
      by_cases hz : k = 0
      · subst hz
        exact ⟨⟨n, -1, []⟩, by simp [Comb.it, Comb.next, combInit], rfl, by simp [consec], by simp⟩
      · refine ⟨⟨n, k, consec 0 k.toNat⟩, ?_, rfl, rfl, by simp [hz]⟩
        have hz' : (k == 0) = false := by simp [hz]
        have hkn : k ≤ n := by omega
        simp only [Comb.it, Comb.next, hz', comb_scan_full n k (combInit k) (combInit_length k hk),
          combSucc_combInit n k (by omega), hkn, if_true]
        simp)
    (fun x hx y _ hxy s hs => Comb.next_step n k x y hxy s hs ((mem_combList n k hk x).mp hx).1)
    (by
      intro x hx s hs
      have hlen := ((mem_combList n k hk x).mp (List.mem_of_mem_getLast? hx)).1
      have hne : combList n k ≠ [] := by intro h; simp [h] at hx
      obtain ⟨_, hlast⟩ := hends hne
      unfold combList at hx
      rw [hlast] at hx
      simp only [Option.mem_def, Option.some.injEq] at hx
      subst hx
      obtain ⟨hn, hst, hk'⟩ := hs
      apply Comb.next_dead
      exact ⟨hn, by rw [hst]; exact hlen, hk', by rw [hst]; exact combSucc_consec_last n _⟩)
    (fun s hs => Comb.next_dead n k s hs) bound hb
  rw [List.map_id] at h1
  exact ⟨s', h1, h3⟩

theorem colexSuccAux_length (n : Int) : ∀ (x y : List Int) (i : Int),
    colexSuccAux n i x = some y → y.length = x.length
  | [], y, i, h => by simp [colexSuccAux] at h
  | [a], y, i, h => by
    simp only [colexSuccAux] at h
    split at h
    · cases h; rfl
    · cases h
  | a :: b :: x, y, i, h => by
    simp only [colexSuccAux] at h
    split at h
    · cases h; rfl
    · obtain ⟨z, hz, rfl⟩ := Option.map_eq_some_iff.mp h
      simp [colexSuccAux_length n (b :: x) z (i + 1) hz]

theorem colexSuccAux_mono (n m : Int) (hnm : n ≤ m) : ∀ (x y : List Int) (i : Int),
    colexSuccAux n i x = some y → colexSuccAux m i x = some y
  | [], y, i, h => by simp [colexSuccAux] at h
  | [a], y, i, h => by
    simp only [colexSuccAux] at h ⊢
    split at h
    · rw [if_pos (by omega)]; exact h
    · cases h
  | a :: b :: x, y, i, h => by
    simp only [colexSuccAux] at h ⊢
    split at h
    · next hab => rw [if_pos hab]; exact h
    · next hab =>
      obtain ⟨z, hz, rfl⟩ := Option.map_eq_some_iff.mp h
      rw [if_neg hab, colexSuccAux_mono n m hnm (b :: x) z (i + 1) hz]; rfl

theorem colexSuccAux_snoc (n m : Int) : ∀ (x y : List Int) (i : Int),
    colexSuccAux n i x = some y → colexSuccAux m i (x ++ [n]) = some (y ++ [n])
  | [], y, i, h => by simp [colexSuccAux] at h
  | [a], y, i, h => by
    simp only [colexSuccAux] at h
    split at h
    · next hlt => cases h; simp [colexSuccAux, hlt]
    · cases h
  | a :: b :: x, y, i, h => by
    simp only [colexSuccAux, List.cons_append] at h ⊢
    split at h
    · next hab => cases h; rw [if_pos hab]; rfl
    · next hab =>
      obtain ⟨z, hz, rfl⟩ := Option.map_eq_some_iff.mp h
      rw [if_neg hab, ← List.cons_append, colexSuccAux_snoc n m (b :: x) z (i + 1) hz]; rfl

theorem colexSuccAux_consec (m : Int) : ∀ (t : Nat) (i a : Int),
    colexSuccAux m i (consec a (t + 1)) = if a + t + 1 < m then some (consec i t ++ [a + t + 1]) else none := by
  intro t
  induction t with
  | zero => intro i a; simp [consec, colexSuccAux]
  | succ t ih =>
    intro i a
    rw [consec, consec]
    have : ¬ (a + 1 < a + 1) := by omega
    simp only [colexSuccAux, this, if_false]
    have := ih (i + 1) (a + 1)
    rw [consec] at this
    rw [this]
    push_cast
    rw [show a + 1 + (t : Int) + 1 = a + ((t : Int) + 1) + 1 by omega]
    split
    · simp [consec]
    · rfl

theorem colexSuccAux_jump (n : Int) : ∀ (m : Nat) (i b : Int) (r : List Int), i + m + 1 < b →
    colexSuccAux n i (consec i (m + 1) ++ b :: r) = some (consec i m ++ (i + m + 1) :: b :: r) := by
  intro m
  induction m with
  | zero => intro i b r h; simp at h; simp [consec, colexSuccAux, h]
  | succ m ih =>
    intro i b r h
    rw [consec, consec]
    have : ¬ (i + 1 < i + 1) := by omega
    simp only [List.cons_append, colexSuccAux, this, if_false]
    have := ih (i + 1) b r (by push_cast at h; omega)
    rw [consec] at this
    simp only [List.cons_append] at this
    rw [this]
    simp only [Option.map_some, consec, List.cons_append, Option.some.injEq]
    push_cast
    rw [show i + 1 + (m : Int) + 1 = i + ((m : Int) + 1) + 1 by omega]

theorem colexFrom_chain : ∀ (n k : Nat),
    (colexFrom n k).IsChain (fun x y => colexSucc n x = some y) ∧
    (k ≤ n → (colexFrom n k).head? = some (consec 0 k) ∧
      (colexFrom n k).getLast? = some (consec ((n : Int) - k) k)) ∧
    (n < k → colexFrom n k = []) := by
  intro n
  induction n with
  | zero =>
    intro k
    cases k with
    | zero => simp [colexFrom, consec]
    | succ k => simp [colexFrom]
  | succ n ih =>
    intro k
    cases k with
    | zero => simp [colexFrom, consec]
    | succ k =>
      obtain ⟨cA, eA, nA⟩ := ih (k + 1)
      obtain ⟨cB, eB, nB⟩ := ih k
      rw [colexFrom]
      refine ⟨?_, ?_, ?_⟩
      · apply List.IsChain.append
        · exact cA.imp (fun x y h => colexSuccAux_mono n (n + 1 : Nat) (by push_cast; omega) x y 0 h)
        · rw [List.isChain_map]
          exact cB.imp (fun x y h => colexSuccAux_snoc n (n + 1 : Nat) x y 0 h)
        · intro x hx y hy
          by_cases hk : k + 1 ≤ n
          · obtain ⟨_, hl⟩ := eA hk
            obtain ⟨hh, _⟩ := eB (by omega)
            rw [hl] at hx
            simp only [List.head?_map, hh, Option.map_some, Option.mem_def, Option.some.injEq] at hx hy
            subst hx hy
            show colexSuccAux _ 0 _ = _
            rw [colexSuccAux_consec]
            push_cast
            rw [if_pos (by omega)]
            congr 3
            omega
          · rw [nA (by omega)] at hx
            simp at hx
      · intro hk
        obtain ⟨hh, hl⟩ := eB (by omega)
        have hBne : (colexFrom n k).map (· ++ [(n : Int)]) ≠ [] := by
          intro h
          rw [List.map_eq_nil_iff] at h
          simp [h] at hh
        constructor
        · by_cases hk' : k + 1 ≤ n
          · obtain ⟨hhA, _⟩ := eA hk'
            have : colexFrom n (k + 1) ≠ [] := by intro h; simp [h] at hhA
            rw [List.head?_append_of_ne_nil _ this, hhA]
          · rw [nA (by omega)]
            have : k = n := by omega
            subst this
            simp only [List.nil_append, List.head?_map, hh, Option.map_some, consec_succ]
            simp
        · rw [List.getLast?_append_of_ne_nil _ hBne]
          simp only [List.getLast?_map, hl, Option.map_some, consec_succ k, Option.some.injEq]
          push_cast
          rw [show (n : Int) + 1 - ((k : Int) + 1) = n - k by omega, show (n : Int) - k + k = n by omega]
      · intro hk
        rw [nA (by omega), nB (by omega)]
        rfl

theorem colexSucc_consec_last (n : Int) (k : Nat) : colexSucc n (consec (n - k) k) = none := by
  unfold colexSucc
  cases k with
  | zero => simp [consec, colexSuccAux]
  | succ t =>
    rw [colexSuccAux_consec]
    have : ¬ (n - ((t + 1 : Nat) : Int) + t + 1 < n) := by push_cast; omega
    simp only [this, if_false]

theorem mem_colexFrom : ∀ (n k : Nat) (x : List Int),
    x ∈ colexFrom n k ↔ x.length = k ∧ x.Pairwise (· < ·) ∧ ∀ a ∈ x, 0 ≤ a ∧ a < (n : Int) := by
  intro n
  induction n with
  | zero =>
    intro k x
    cases k with
    | zero =>
      simp only [colexFrom, List.mem_singleton, List.length_eq_zero_iff]
      constructor
      · rintro rfl; simp
      · intro h; exact h.1
    | succ k =>
      simp only [colexFrom, List.not_mem_nil, false_iff, not_and]
      intro hl _ h
      cases x with
      | nil => simp at hl
      | cons a x => have := h a (by simp); omega
  | succ n ih =>
    intro k x
    cases k with
    | zero =>
      simp only [colexFrom, List.mem_singleton, List.length_eq_zero_iff]
      constructor
      · rintro rfl; simp
      · intro h; exact h.1
    | succ k =>
      simp only [colexFrom, List.mem_append, List.mem_map, ih]
      constructor
      · rintro (⟨h1, h2, h3⟩ | ⟨y, ⟨h1, h2, h3⟩, rfl⟩)
        · exact ⟨h1, h2, fun a ha => ⟨(h3 a ha).1, by have := (h3 a ha).2; push_cast; omega⟩⟩
        · refine ⟨by simp [h1], ?_, ?_⟩
          · rw [List.pairwise_append]
            refine ⟨h2, by simp, ?_⟩
            intro a ha b hb
            simp only [List.mem_singleton] at hb
            subst hb
            exact (h3 a ha).2
          · intro a ha
            simp only [List.mem_append, List.mem_singleton] at ha
            rcases ha with ha | rfl
            · exact ⟨(h3 a ha).1, by have := (h3 a ha).2; push_cast; omega⟩
            · push_cast; omega
      · rintro ⟨h1, h2, h3⟩
        obtain ⟨y, l, rfl, hy⟩ := exists_snoc_of_length_succ h1
        rw [List.pairwise_append] at h2
        obtain ⟨p1, _, p2⟩ := h2
        have hl := h3 l (by simp)
        by_cases hln : l = n
        · right
          refine ⟨y, ⟨by simpa using h1, p1, ?_⟩, by rw [hln]⟩
          intro a ha
          have := p2 a ha l (by simp)
          exact ⟨(h3 a (by simp [ha])).1, by omega⟩
        · left
          refine ⟨h1, by rw [List.pairwise_append]; exact ⟨p1, by simp, p2⟩, ?_⟩
          intro a ha
          simp only [List.mem_append, List.mem_singleton] at ha
          rcases ha with ha | rfl
          · have := p2 a ha l (by simp)
            exact ⟨(h3 a (by simp [ha])).1, by push_cast at hl; omega⟩
          · push_cast at hl; omega

theorem mem_colexList (n k : Int) (hk : 0 ≤ k) (x : List Int) :
    x ∈ colexList n k ↔ (x.length : Int) = k ∧ x.Pairwise (· < ·) ∧ ∀ a ∈ x, 0 ≤ a ∧ a < n := by
  unfold colexList
  rw [mem_colexFrom]
  constructor
  · rintro ⟨h1, h2, h3⟩
    exact ⟨by omega, h2, fun a ha => by obtain ⟨q1, q2⟩ := h3 a ha; exact ⟨q1, by omega⟩⟩
  · rintro ⟨h1, h2, h3⟩
    exact ⟨by omega, h2, fun a ha => by obtain ⟨q1, q2⟩ := h3 a ha; exact ⟨q1, by omega⟩⟩

theorem colexList_chain (n k : Int) : (colexList n k).IsChain (fun x y => colexSucc n x = some y) := by
  have h := (colexFrom_chain n.toNat k.toNat).1
  unfold colexList
  by_cases hn : 0 ≤ n
  · rw [Int.toNat_of_nonneg hn] at h; exact h
  · have : n.toNat = 0 := by omega
    rw [this]
    cases k.toNat with
    | zero => simp [colexFrom]
    | succ k => simp [colexFrom]

theorem lt_append_of_lt_of_length_eq : ∀ (u v p q : List Int), u < v → u.length = v.length → u ++ p < v ++ q := by
  intro u
  induction u with
  | nil =>
    intro v p q h hl
    have : v = [] := List.length_eq_zero_iff.mp hl.symm
    subst this
    exact absurd h (List.lt_irrefl _)
  | cons a u ih =>
    intro v p q h hl
    cases v with
    | nil => simp at hl
    | cons b v =>
      simp only [List.cons_append]
      rw [List.cons_lt_cons_iff] at h ⊢
      rcases h with h | ⟨rfl, h⟩
      · exact Or.inl h
      · exact Or.inr ⟨rfl, ih v p q h (by simpa using hl)⟩

theorem colexSuccAux_lt (n : Int) : ∀ (x y : List Int) (i : Int), colexSuccAux n i x = some y → ColexLt x y := by
  intro x
  induction x with
  | nil => intro y i h; simp [colexSuccAux] at h
  | cons a x ih =>
    intro y i h
    unfold ColexLt
    cases x with
    | nil =>
      simp only [colexSuccAux] at h
      by_cases han : a + 1 < n
      · simp only [han, if_true, Option.some.injEq] at h; subst h
        simp only [List.reverse_cons, List.reverse_nil, List.nil_append]
        exact List.cons_lt_cons_iff.mpr (Or.inl (by omega))
      · simp [han] at h
    | cons b r =>
      simp only [colexSuccAux] at h
      by_cases hab : a + 1 < b
      · simp only [hab, if_true, Option.some.injEq] at h; subst h
        rw [List.reverse_cons, List.reverse_cons (a := a + 1)]
        apply List.append_left_lt
        exact List.cons_lt_cons_iff.mpr (Or.inl (by omega))
      · simp only [hab, if_false, Option.map_eq_some_iff] at h
        obtain ⟨z, hz, rfl⟩ := h
        rw [List.reverse_cons, List.reverse_cons (a := i)]
        apply lt_append_of_lt_of_length_eq
        · exact ih z (i + 1) hz
        · simp [colexSuccAux_length n _ _ _ hz]

theorem colexList_sorted (n k : Int) : (colexList n k).Pairwise ColexLt := by
  have h1 : ((colexList n k).map List.reverse).IsChain (· < ·) := by
    rw [List.isChain_map]
    exact (colexList_chain n k).imp (fun x y h => colexSuccAux_lt n x y 0 h)
  have h2 := List.isChain_iff_pairwise.mp h1
  rw [List.pairwise_map] at h2
  exact h2

/-- the loop of `Colex.next` as a pure function on the part of the slice from position `i` on -/
def colexScan : Int → List Int → List Int × Option Int
  | _, [] => ([], none)
  | _, [a] => ([a], none)
  | i, a :: b :: x =>
    if a + 1 < b then ((a + 1) :: b :: x, some i)
    else (i :: (colexScan (i + 1) (b :: x)).1, (colexScan (i + 1) (b :: x)).2)

theorem colex_scan : ∀ (c : Nat) (pre suf : List Int), suf.length = c + 1 →
    Colex.scan c (pre.length : Int) (pre ++ suf) =
      .ok (pre ++ (colexScan pre.length suf).1, (colexScan pre.length suf).2) := by
  intro c
  induction c with
  | zero =>
    intro pre suf hl
    obtain ⟨a, rfl⟩ := List.length_eq_one_iff.mp hl
    simp [Colex.scan, colexScan]
  | succ c ih =>
    intro pre suf hl
    obtain ⟨a, suf', rfl⟩ : ∃ a t, suf = a :: t := by
      cases suf with
      | nil => simp at hl
      | cons a t => exact ⟨a, t, rfl⟩
    obtain ⟨b, r, rfl⟩ : ∃ a t, suf' = a :: t := by
      cases suf' with
      | nil => simp at hl
      | cons a t => exact ⟨a, t, rfl⟩
    unfold Colex.scan
    have g2 : get (pre ++ a :: b :: r) ((pre.length : Int) + 1) = .ok b := by
      have := get_append_length (pre ++ [a]) r b
      simpa using this
    simp only [get_append_length, g2, Outcome.bind_ok, set_append_length, colexScan]
    by_cases hab : a < b - 1
    · have hab' : a + 1 < b := by omega
      simp [hab, hab']
    · have hab' : ¬ a + 1 < b := by omega
      simp only [hab, hab', if_false]
      have := ih (pre ++ [(pre.length : Int)]) (b :: r) (by simpa using hl)
      simp only [List.length_append, List.length_cons, List.length_nil, Nat.zero_add, Int.natCast_add,
        Int.natCast_one, List.append_assoc, List.cons_append, List.nil_append] at this
      rw [this]

theorem InComb_last (n : Int) : ∀ (x : List Int) (i l : Int), InComb n i x → x.getLast? = some l →
    l < n ∧ i + x.length - 1 ≤ l := by
  intro x
  induction x with
  | nil => intro i l _ h; simp at h
  | cons a x ih =>
    intro i l hv h
    obtain ⟨h1, h2, h3⟩ := hv
    cases x with
    | nil =>
      simp only [List.getLast?_singleton, Option.some.injEq] at h
      subst h
      simp; omega
    | cons b r =>
      rw [List.getLast?_cons_cons] at h
      have := ih (a + 1) l h3 h
      simp only [List.length_cons, Int.natCast_add, Int.natCast_one] at this ⊢
      omega

theorem colexScan_some (n : Int) : ∀ (x y : List Int) (i p : Int), colexScan i x = (y, some p) → InComb n i x →
    colexSuccAux n i x = some y ∧
      ∃ (t : Nat) (rest : List Int), p = i + t ∧ y = consec i t ++ rest ∧ ∀ b ∈ rest.head?, p < b := by
  intro x
  induction x with
  | nil => intro y i p h; simp [colexScan] at h
  | cons a x ih =>
    intro y i p h hv
    cases x with
    | nil => simp [colexScan] at h
    | cons b r =>
      simp only [colexScan] at h
      obtain ⟨h1, h2, h3, h4, h5⟩ := hv
      by_cases hab : a + 1 < b
      · simp only [hab, if_true, _root_.Prod.mk.injEq, Option.some.injEq] at h
        obtain ⟨rfl, rfl⟩ := h
        refine ⟨by simp [colexSuccAux, hab], 0, (a + 1) :: b :: r, by simp, by simp [consec], ?_⟩
        simp; omega
      · simp only [hab, if_false, _root_.Prod.mk.injEq] at h
        obtain ⟨rfl, hp⟩ := h
        obtain ⟨q1, t, rest, q2, q3, q4⟩ :=
          ih (colexScan (i + 1) (b :: r)).1 (i + 1) p (by rw [← hp]) ⟨by omega, h4, h5⟩
        refine ⟨by simp [colexSuccAux, hab, q1], t + 1, rest, by push_cast; omega, ?_, q4⟩
        rw [q3]; rfl

theorem colexScan_none (n : Int) : ∀ (x y : List Int) (i : Int), colexScan i x = (y, none) → x ≠ [] →
    ∃ l, x.getLast? = some l ∧ y = consec i (x.length - 1) ++ [l] ∧
      colexSuccAux n i x = if l + 1 < n then some (consec i (x.length - 1) ++ [l + 1]) else none := by
  intro x
  induction x with
  | nil => intro y i _ h; exact absurd rfl h
  | cons a x ih =>
    intro y i h _
    cases x with
    | nil =>
      simp only [colexScan, _root_.Prod.mk.injEq, and_true] at h
      subst h
      exact ⟨a, by simp [consec, colexSuccAux]⟩
    | cons b r =>
      simp only [colexScan] at h
      by_cases hab : a + 1 < b
      · simp [hab] at h
      · simp only [hab, if_false, _root_.Prod.mk.injEq] at h
        obtain ⟨rfl, hp⟩ := h
        obtain ⟨l, q1, q2, q3⟩ := ih (colexScan (i + 1) (b :: r)).1 (i + 1) (by rw [← hp]) (by simp)
        refine ⟨l, by rw [List.getLast?_cons_cons]; exact q1, ?_, ?_⟩
        · rw [q2]; simp [consec]
        · simp only [colexSuccAux, hab, if_false, q3]
          split <;> simp [consec]

/-- branch `j ≥ k-1`: only the last element is looked at -/
theorem Colex.next_A (n k j : Int) (pre : List Int) (a : Int) (hk : 0 < k) (hkn : k ≤ n) (hj : k - 1 ≤ j)
    (hl : (pre.length : Int) = k - 1) :
    Colex.next ⟨n, k, j, pre ++ [a]⟩ =
      if a = n - 1 then .ok (⟨n, k, j, pre ++ [a]⟩, false) else .ok (⟨n, k, j - 1, pre ++ [a + 1]⟩, true) := by
  rw [Colex.next, if_neg (by omega : ¬ k ≤ 0), if_neg (by omega : ¬ k > n), if_pos hj]
  simp only [get_at pre [] a _ hl.symm, set_at pre [] a _ _ hl.symm, Outcome.bind_ok]
  by_cases ha : a = n - 1
  · simp [ha]
  · simp [ha]

/-- branch `0 ≤ j < k-1`: position `j` is incremented -/
theorem Colex.next_B (n k j : Int) (pre suf : List Int) (a : Int) (hk : 0 < k) (hkn : k ≤ n) (hj0 : 0 ≤ j)
    (hj : j < k - 1) (hl : (pre.length : Int) = j) :
    Colex.next ⟨n, k, j, pre ++ a :: suf⟩ = .ok (⟨n, k, j - 1, pre ++ (a + 1) :: suf⟩, true) := by
  rw [Colex.next, if_neg (by omega : ¬ k ≤ 0), if_neg (by omega : ¬ k > n), if_neg (by omega : ¬ j ≥ k - 1),
    if_pos (by omega : j ≠ -1)]
  simp only [get_at pre suf a _ hl.symm, set_at pre suf a _ _ hl.symm, Outcome.bind_ok, Outcome.pure_eq]

/-- branch `j = -1`, the loop finds a position -/
theorem Colex.next_C1 (n k : Int) (d y : List Int) (p : Int) (hk : 0 < k) (hkn : k ≤ n)
    (hl : (d.length : Int) = k) (hs : colexScan 0 d = (y, some p)) :
    Colex.next ⟨n, k, -1, d⟩ = .ok (⟨n, k, p - 1, y⟩, true) := by
  have := colex_scan (k - 1).toNat [] d (by omega)
  simp only [List.length_nil, List.nil_append, Int.natCast_zero] at this
  rw [Colex.next, if_neg (by omega : ¬ k ≤ 0), if_neg (by omega : ¬ k > n), if_neg (by omega : ¬ (-1 : Int) ≥ k - 1),
    if_neg (by simp : ¬ (-1 : Int) ≠ -1)]
  simp only [this, hs, Outcome.bind_ok, Outcome.pure_eq]

/-- branch `j = -1`, the loop finds nothing: the last element is looked at -/
theorem Colex.next_C2 (n k : Int) (d pre : List Int) (l : Int) (hk : 0 < k) (hkn : k ≤ n)
    (hl : (d.length : Int) = k) (hp : (pre.length : Int) = k - 1) (hs : colexScan 0 d = (pre ++ [l], none)) :
    Colex.next ⟨n, k, -1, d⟩ =
      if l = n - 1 then .ok (⟨n, k, k, pre ++ [l]⟩, false) else .ok (⟨n, k, k - 2, pre ++ [l + 1]⟩, true) := by
  have := colex_scan (k - 1).toNat [] d (by omega)
  simp only [List.length_nil, List.nil_append, Int.natCast_zero] at this
  rw [Colex.next, if_neg (by omega : ¬ k ≤ 0), if_neg (by omega : ¬ k > n), if_neg (by omega : ¬ (-1 : Int) ≥ k - 1),
    if_neg (by simp : ¬ (-1 : Int) ≠ -1)]
  simp only [this, hs, Outcome.bind_ok, get_at pre [] l _ hp.symm, set_at pre [] l _ _ hp.symm]
  by_cases ha : l = n - 1
  · simp [ha]
  · simp [ha]

/-- state invariant: `s` shows the combination `x`, whose first `m` positions hold their own index while position
`m` (if any) does not; `j = m - 1` is the position that moves next (`j = -1`: nothing is known, the loop runs) -/
def Colex.Rep (n k : Int) (s : Colex) (x : List Int) : Prop :=
  s.n = n ∧ s.data = x ∧
    ((k = 0 ∧ s.k = -1) ∨
     (0 < k ∧ k ≤ n ∧ s.k = k ∧
        ∃ (m : Nat) (rest : List Int), s.j = (m : Int) - 1 ∧ x = consec 0 m ++ rest ∧ ∀ b ∈ rest.head?, (m : Int) < b))

theorem Colex.rep_succ {n k : Int} {y : List Int} (hk0 : 0 < k) (hkn : k ≤ n) (m : Nat) (rest : List Int)
    (hy : y = consec 0 m ++ rest) (hh : ∀ b ∈ rest.head?, (m : Int) < b) : Colex.Rep n k ⟨n, k, (m : Int) - 1, y⟩ y :=
  ⟨rfl, rfl, Or.inr ⟨hk0, hkn, rfl, m, rest, rfl, hy, hh⟩⟩

def Colex.Dead (n k : Int) (s : Colex) : Prop :=
  s.n = n ∧ ((k = 0 ∧ s.k ≤ -1) ∨ (0 < k ∧ n < k ∧ s.k = k) ∨
    (0 < k ∧ k ≤ n ∧ s.k = k ∧ k - 1 ≤ s.j ∧ ∃ pre, s.data = pre ++ [n - 1] ∧ (pre.length : Int) = k - 1))

theorem Colex.next_dead (n k : Int) (s : Colex) (h : Colex.Dead n k s) :
    ∃ s', Colex.next s = .ok (s', false) ∧ Colex.Dead n k s' := by
  obtain ⟨sn, sk, sj, sd⟩ := s
  obtain ⟨hn, hc⟩ := h
  simp only at hn hc
  subst hn
  rcases hc with ⟨rfl, hk⟩ | ⟨hk0, hkn, rfl⟩ | ⟨hk0, hkn, rfl, hj, pre, rfl, hp⟩
  · have c : sk ≤ 0 := by omega
    have e : (sk - 1 == -1) = false := by simp; omega
    refine ⟨⟨sn, sk - 1, sj, sd⟩, ?_, rfl, Or.inl ⟨rfl, by simp only; omega⟩⟩
    simp only [Colex.next, c, if_true, e]
  · have c1 : ¬ sk ≤ 0 := by omega
    have c2 : sk > sn := by omega
    refine ⟨⟨sn, sk, sj, sd⟩, ?_, rfl, Or.inr (Or.inl ⟨hk0, hkn, rfl⟩)⟩
    simp only [Colex.next, c1, c2, if_true, if_false]
  · refine ⟨⟨sn, sk, sj, pre ++ [sn - 1]⟩, ?_, rfl, Or.inr (Or.inr ⟨hk0, hkn, rfl, hj, pre, rfl, hp⟩)⟩
    rw [Colex.next_A sn sk sj pre (sn - 1) hk0 hkn hj hp]
    simp

theorem Colex.next_spec (n k : Int) (s : Colex) (x : List Int) (h : Colex.Rep n k s x)
    (hl : (x.length : Int) = k) (hv : InComb n 0 x) :
    ∃ s' b, Colex.next s = .ok (s', b) ∧
      match colexSucc n x with
      | some y => b = true ∧ Colex.Rep n k s' y
      | none => b = false ∧ Colex.Dead n k s' := by
  obtain ⟨sn, sk, sj, sd⟩ := s
  obtain ⟨hn, hd, hc⟩ := h
  simp only at hn hd hc
  subst hn hd
  rcases hc with ⟨rfl, hk⟩ | ⟨hk0, hkn, rfl, m, rest, rfl, hx, hh⟩
  · subst hk
    have : sd = [] := List.length_eq_zero_iff.mp (by omega)
    subst this
    exact ⟨⟨sn, -2, sj, []⟩, false, by simp [Colex.next], rfl, rfl, Or.inl ⟨rfl, by simp⟩⟩
  cases m with
  | succ m =>
    -- position `m` moves: `x = [0, …, m] ++ rest`
    rw [show ((m + 1 : Nat) : Int) - 1 = (m : Int) by omega]
    have hlen : (m : Int) + 1 + rest.length = sk := by rw [hx] at hl; simpa using hl
    have hx' : sd = consec 0 m ++ (0 + (m : Int)) :: rest := by rw [hx, consec_succ]; simp
    cases rest with
    | nil =>
      have hsucc : colexSucc sn sd = if (0 : Int) + m + 1 < sn then some (consec 0 m ++ [(0 : Int) + m + 1]) else none := by
        rw [hx, List.append_nil]; exact colexSuccAux_consec sn m 0 0
      have hnext := Colex.next_A sn sk m (consec 0 m) (0 + m) hk0 hkn (by simp at hlen ⊢; omega)
        (by simp at hlen ⊢; omega)
      rw [← hx'] at hnext
      by_cases hmn : (0 : Int) + m = sn - 1
      · rw [if_pos hmn] at hnext
        rw [if_neg (by omega)] at hsucc
        refine ⟨_, _, hnext, ?_⟩
        rw [hsucc]
        exact ⟨rfl, rfl, Or.inr (Or.inr ⟨hk0, hkn, rfl, by simp at hlen ⊢; omega, consec 0 m, by rw [hx', hmn],
          by simp at hlen ⊢; omega⟩)⟩
      · rw [if_neg hmn] at hnext
        rw [if_pos (by omega)] at hsucc
        refine ⟨_, _, hnext, ?_⟩
        rw [hsucc]
        refine ⟨rfl, ?_⟩
        exact Colex.rep_succ hk0 hkn m [(0 : Int) + m + 1] rfl (fun b hb => by simp at hb; omega)
    | cons b r =>
      have hb : ((m + 1 : Nat) : Int) < b := hh b (by simp)
      have hsucc : colexSucc sn sd = some (consec 0 m ++ ((0 : Int) + m + 1) :: b :: r) := by
        rw [hx]; exact colexSuccAux_jump sn m 0 b r (by omega)
      have hnext := Colex.next_B sn sk m (consec 0 m) (b :: r) (0 + m) hk0 hkn (by omega)
        (by simp at hlen ⊢; omega) (by simp)
      rw [← hx'] at hnext
      refine ⟨_, _, hnext, ?_⟩
      rw [hsucc]
      refine ⟨rfl, ?_⟩
      exact Colex.rep_succ hk0 hkn m _ rfl (fun b hb => by simp at hb; omega)
  | zero =>
    -- `j = -1`: the loop
    have hne : sd ≠ [] := by
      intro h0; rw [h0] at hl; simp at hl; omega
    cases hs : colexScan 0 sd with
    | mk y r =>
      cases r with
      | none =>
        obtain ⟨l, q1, q2, q3⟩ := colexScan_none sn sd y 0 hs hne
        obtain ⟨q4, q5⟩ := InComb_last sn sd 0 l hv q1
        rw [q2] at hs
        have hnext := Colex.next_C2 sn sk sd (consec 0 (sd.length - 1)) l hk0 hkn hl (by simp; omega) hs
        by_cases hln : l = sn - 1
        · rw [if_pos hln] at hnext
          refine ⟨_, _, hnext, ?_⟩
          show match colexSuccAux sn 0 sd with
            | some y => _
            | none => _
          rw [q3, if_neg (by omega)]
          exact ⟨rfl, rfl, Or.inr (Or.inr ⟨hk0, hkn, rfl, by simp only; omega, _, by rw [hln], by simp; omega⟩)⟩
        · rw [if_neg hln] at hnext
          have hsucc : colexSucc sn sd = some (consec 0 (sd.length - 1) ++ [l + 1]) := by
            show colexSuccAux sn 0 sd = _
            rw [q3, if_pos (by omega)]
          refine ⟨_, _, hnext, ?_⟩
          rw [hsucc]
          refine ⟨rfl, ?_⟩
          rw [show sk - 2 = ((sd.length - 1 : Nat) : Int) - 1 by omega]
          exact Colex.rep_succ hk0 hkn _ [l + 1] rfl (by simp; omega)
      | some p =>
        obtain ⟨q1, t, rest', rfl, q3, q4⟩ := colexScan_some sn sd y 0 _ hs hv
        refine ⟨_, _, Colex.next_C1 sn sk sd y _ hk0 hkn hl hs, ?_⟩
        show match colexSuccAux sn 0 sd with
          | some y => _
          | none => _
        rw [q1]
        refine ⟨rfl, ?_⟩
        rw [show (0 : Int) + t - 1 = (t : Int) - 1 by omega]
        exact Colex.rep_succ hk0 hkn t rest' q3 (fun b hb => by have := q4 b hb; omega)

theorem Colex.init_eq (n k : Int) (hk : 0 ≤ k) : Colex.init n k = .ok ⟨n, k, k, combInit k⟩ := by
  simp [Colex.init, combData_eq k hk]

theorem colexList_eq_nil_iff (n k : Int) : colexList n k = [] ↔ (0 < k ∧ n < k) := by
  unfold colexList
  obtain ⟨_, h1, h2⟩ := colexFrom_chain n.toNat k.toNat
  constructor
  · intro h
    by_contra hc
    have := (h1 (by omega)).1
    rw [h] at this
    simp at this
  · rintro ⟨h0, h⟩
    exact h2 (by omega)

theorem colexList_head (n k : Int) : ∀ x ∈ (colexList n k).head?, x = consec 0 k.toNat := by
  intro x hx
  have hne : colexList n k ≠ [] := by intro h; simp [h] at hx
  have : ¬ (0 < k ∧ n < k) := fun h => hne ((colexList_eq_nil_iff n k).mpr h)
  unfold colexList at hx
  rw [((colexFrom_chain n.toNat k.toNat).2.1 (by omega)).1] at hx
  simpa using hx.symm

example : colexList 4 2 = [[0, 1], [0, 2], [1, 2], [0, 3], [1, 3], [2, 3]] := by decide
example : colexList 3 0 = [[]] ∧ colexList (-2) 0 = [[]] ∧ colexList 2 3 = [] := by decide

theorem colexList_last (n k : Int) : ∀ x ∈ (colexList n k).getLast?, colexSucc n x = none := by
  intro x hx
  have hne : colexList n k ≠ [] := by intro h; simp [h] at hx
  have : ¬ (0 < k ∧ n < k) := fun h => hne ((colexList_eq_nil_iff n k).mpr h)
  unfold colexList at hx
  rw [((colexFrom_chain n.toNat k.toNat).2.1 (by omega)).2] at hx
  simp only [Option.mem_def, Option.some.injEq] at hx
  subst hx
  by_cases hk : k.toNat = 0
  · rw [hk]; rfl
  · rw [show (n.toNat : Int) = n by omega]
    exact colexSucc_consec_last n k.toNat

theorem Colex.enumerates_lemma (n k : Int) (hk : 0 ≤ k) :
    ∃ s0, Colex.init n k = .ok s0 ∧ ∀ bound, (colexList n k).length < bound →
      ∃ s', outputs Colex.it bound s0 = (colexList n k, s', .exhausted) ∧
        ∀ k', extras Colex.it k' s' = .ok (List.replicate k' none) := by
  refine ⟨_, Colex.init_eq n k hk, fun bound hb => ?_⟩
  have hmem : ∀ x ∈ colexList n k, (x.length : Int) = k ∧ InComb n 0 x := by
    intro x hx
    obtain ⟨h1, h2⟩ := (mem_colexList n k hk x).mp hx
    exact ⟨h1, (InComb_iff n x 0).mpr h2⟩
  obtain ⟨s', h1, _, h3⟩ := enumerates_succ Colex.it id (Colex.Rep n k) (Colex.Dead n k)
    (fun x y => colexSucc n x = some y) (⟨n, k, k, combInit k⟩ : Colex) (colexList n k) (colexList_chain n k)
    (by
      rintro s x _ ⟨hn, hs, hr⟩
      exact ⟨s, by simp [Colex.it, hs], hn, hs, hr⟩)
    (by
      intro hnil
      obtain ⟨h0, hlt⟩ := (colexList_eq_nil_iff n k).mp hnil
      exact Colex.next_dead n k _ ⟨rfl, Or.inr (Or.inl ⟨h0, hlt, rfl⟩)⟩)
    (by
      intro x hx
      have hne : colexList n k ≠ [] := by intro h; simp [h] at hx
      have hkn : ¬ (0 < k ∧ n < k) := fun h => hne ((colexList_eq_nil_iff n k).mpr h)
      have hx' := colexList_head n k x hx
      by_cases hz : k = 0
      · subst hz
        simp only [Int.toNat_zero, consec] at hx'
        subst hx'
        exact ⟨⟨n, -1, 0, []⟩, by simp [Colex.it, Colex.next, combInit], rfl, rfl, Or.inl ⟨rfl, rfl⟩⟩
      · have hk0 : 0 < k := by omega
        have hkn' : k ≤ n := by omega
        obtain ⟨m, hm⟩ : ∃ m : Nat, k.toNat = m + 1 := ⟨k.toNat - 1, by omega⟩
        have hnext := Colex.next_A n k k (consec 0 m) (k - 2) hk0 hkn' (by omega) (by simp; omega)
        rw [if_neg (by omega)] at hnext
        have e : consec 0 m ++ [k - 2 + 1] = x := by
          rw [hx', hm, consec_succ, show k - 2 + 1 = 0 + (m : Int) by omega]
        rw [e] at hnext
        refine ⟨⟨n, k, k - 1, x⟩, ?_, rfl, rfl,
          Or.inr ⟨hk0, hkn', rfl, k.toNat, [], by simp only; omega, by simpa using hx', by simp⟩⟩
        simp only [Colex.it, combInit, hz, if_false, hm, Nat.add_sub_cancel]
        exact hnext)
    (by
      intro x hx y _ hxy s hs
      obtain ⟨s', b, hnext, hm⟩ := Colex.next_spec n k s x hs (hmem x hx).1 (hmem x hx).2
      rw [hxy] at hm
      obtain ⟨rfl, hr⟩ := hm
      exact ⟨s', hnext, hr⟩)
    (by
      intro x hx s hs
      have hx' := List.mem_of_mem_getLast? hx
      obtain ⟨s', b, hnext, hm⟩ := Colex.next_spec n k s x hs (hmem x hx').1 (hmem x hx').2
      rw [colexList_last n k x hx] at hm
      obtain ⟨rfl, hr⟩ := hm
      exact ⟨s', hnext, hr⟩)
    (fun s hs => Colex.next_dead n k s hs) bound hb
  rw [List.map_id] at h1
  exact ⟨s', h1, h3⟩

end Iter
