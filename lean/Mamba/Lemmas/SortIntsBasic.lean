import Mamba.Lemmas.SortIntsAlgebra
/-! Lemmas for C17: `Complement`, `sort.SearchInts`, `ContainsSingle`, slice helpers, `Remove`. -/
namespace SortInts

theorem mem_complementTail (n i x : Int) : x ∈ complementTail n i ↔ i ≤ x ∧ x < n := by
  fun_induction complementTail n i
  case case1 ih => rw [List.mem_cons, ih]; omega
  case case2 => simp only [List.not_mem_nil, false_iff]; omega

theorem complementTail_sorted (n i : Int) : SS (complementTail n i) := by
  fun_induction complementTail n i
  case case1 ih => exact List.pairwise_cons.mpr ⟨fun z hz => by have := (mem_complementTail _ _ _).mp hz; omega, ih⟩
  case case2 => exact List.Pairwise.nil

theorem mem_complementLoop (n i : Int) (a : List Int) (ha : SS a) (x : Int) :
    x ∈ complementLoop n i a ↔ i ≤ x ∧ x < n ∧ x ∉ a := by
  fun_induction complementLoop n i a
  case case1 => simp [mem_complementTail]
  case case2 i y ys hin hgt ih =>
    rw [ih ha.of_cons, List.mem_cons, not_or]
    exact and_congr_right fun h1 => and_congr_right fun _ => (and_iff_right (by omega)).symm
  case case3 i ys hin hgt ih =>
    rw [ih ha.of_cons, List.mem_cons, not_or]
    constructor
    · exact fun h => ⟨by omega, h.2.1, by omega, h.2.2⟩
    · exact fun h => ⟨by omega, h.2.1, h.2.2.2⟩
  case case4 i y ys hin hgt hne ih =>
    rw [List.mem_cons, ih ha]
    constructor
    · rintro (rfl | h)
      · exact ⟨Int.le_refl _, hin, not_mem_cons_of_lt ha (by omega)⟩
      · exact ⟨by omega, h.2⟩
    · intro h
      by_cases hx : x = i
      · exact Or.inl hx
      · exact Or.inr ⟨by omega, h.2⟩
  case case5 i y ys hin =>
    rw [mem_complementTail]
    exact ⟨fun h => by omega, fun h => by omega⟩

theorem complementLoop_sorted (n i : Int) (a : List Int) (ha : SS a) : SS (complementLoop n i a) := by
  fun_induction complementLoop n i a
  case case1 => exact complementTail_sorted _ _
  case case2 ih => exact ih ha.of_cons
  case case3 ih => exact ih ha.of_cons
  case case4 ih =>
    exact List.pairwise_cons.mpr ⟨fun z hz => by have := ((mem_complementLoop _ _ _ ha _).mp hz).1; omega, ih ha⟩
  case case5 => exact complementTail_sorted _ _

theorem searchInts_le (a : List Int) (x : Int) : searchInts a x ≤ a.length := by
  unfold searchInts; exact List.findIdx_le_length

theorem lt_of_lt_searchInts (a : List Int) (x : Int) (i : Nat) (h : i < searchInts a x) (hi : i < a.length) :
    a[i] < x := by
  have := List.not_of_lt_findIdx (p := fun v => decide (x ≤ v)) (xs := a) h
  simpa using this

theorem ge_of_searchInts_le (a : List Int) (ha : SS a) (x : Int) (i : Nat) (h : searchInts a x ≤ i) (hi : i < a.length) :
    x ≤ a[i] := by
  have hlt : searchInts a x < a.length := by omega
  have h0 : x ≤ a[searchInts a x] := by
    have := List.findIdx_getElem (p := fun v => decide (x ≤ v)) (xs := a) (w := hlt)
    exact of_decide_eq_true this
  rcases Nat.eq_or_lt_of_le h with h | h
  · subst h; exact h0
  · have := List.pairwise_iff_getElem.mp ha (searchInts a x) i hlt hi h
    omega

theorem getI_natCast (a : List Int) (i : Nat) : getI a (i : Int) = a[i]? := by
  simp [getI]

theorem mem_iff_searchInts (a : List Int) (ha : SS a) (x : Int) :
    x ∈ a ↔ (searchInts a x < a.length ∧ a[searchInts a x]? = some x) := by
  constructor
  · intro hx
    obtain ⟨i, hi, rfl⟩ := List.getElem_of_mem hx
    have h1 : ¬ i < searchInts a a[i] := fun h => by
      have := lt_of_lt_searchInts a a[i] i h hi; omega
    have hlt : searchInts a a[i] < a.length := by omega
    refine ⟨hlt, ?_⟩
    rcases Nat.eq_or_lt_of_le (Nat.le_of_not_lt h1) with h | h
    · simp [h]
    · have h2 := List.pairwise_iff_getElem.mp ha _ _ hlt hi h
      have h3 := ge_of_searchInts_le a ha a[i] (searchInts a a[i]) (Nat.le_refl _) hlt
      omega
  · rintro ⟨h, he⟩
    exact List.mem_of_getElem? he

theorem sliceI_nat (a : List Int) (lo hi : Nat) (h : lo ≤ hi) (h2 : hi ≤ a.length) :
    sliceI a lo hi = some ((a.drop lo).take (hi - lo)) := by
  simp [sliceI]; omega

theorem sliceI_zero_nat (a : List Int) (hi : Nat) (h2 : hi ≤ a.length) :
    sliceI a 0 hi = some (a.take hi) := by
  simp [sliceI]; omega

theorem copyI_nat (dst : List Int) (lo hi : Nat) (src : List Int) (h : lo ≤ hi) (h2 : hi ≤ dst.length) :
    copyI dst lo hi src =
      some (dst.take lo ++ src.take (min (hi - lo) src.length) ++ dst.drop (lo + min (hi - lo) src.length)) := by
  simp [copyI]; omega

theorem getI_append_mid (A : List Int) (v : Int) (B : List Int) : getI (A ++ v :: B) (A.length : Int) = some v := by
  rw [getI_natCast]; simp

theorem setI_append_mid (A : List Int) (v : Int) (B : List Int) (w : Int) :
    setI (A ++ v :: B) (A.length : Int) w = some (A ++ w :: B) := by
  simp [setI]; omega

/-! slice expressions on lists given as concatenations; the Go `int` indices are tied to the lengths by
equations that `omega`/`simp` discharge at the call -/

theorem sliceI_prefix (A B : List Int) {hi : Int} (h : hi = A.length) : sliceI (A ++ B) 0 hi = some A := by
  subst h
  rw [show (0 : Int) = ((0 : Nat) : Int) from rfl, sliceI_nat _ _ _ (Nat.zero_le _) (by simp)]
  simp

theorem sliceI_suffix (A B : List Int) {lo hi : Int} (hlo : lo = A.length) (hhi : hi = (A ++ B).length) :
    sliceI (A ++ B) lo hi = some B := by
  subst hlo hhi
  rw [sliceI_nat _ _ _ (by simp) (Nat.le_refl _)]
  simp

theorem copyI_append (A M B src : List Int) {lo hi : Int} (hlo : lo = A.length) (hhi : hi = (A ++ M).length)
    (hs : src.length ≤ M.length) : copyI (A ++ M ++ B) lo hi src = some (A ++ src ++ (M.drop src.length ++ B)) := by
  subst hlo hhi
  rw [copyI_nat _ _ _ _ (by simp) (by simp)]
  have e : min ((A ++ M).length - A.length) src.length = src.length := by simp; omega
  rw [e]
  simp [List.drop_append_of_le_length hs]

theorem remove_eq_of_mem (A : List Int) (x : Int) (B : List Int) (hs : searchInts (A ++ x :: B) x = A.length) :
    remove (A ++ x :: B) x = .ok (A ++ B) := by
  unfold remove
  simp only [hs]
  have e1 : A ++ x :: B = (A ++ [x]) ++ B := by simp
  have e2 : A ++ x :: B = A ++ (x :: B) ++ [] := by simp
  rw [if_pos ⟨by simp; omega, by rw [getI_natCast]; simp⟩]
  rw [e1, sliceI_suffix (A ++ [x]) B (by simp) rfl]
  simp only
  rw [← e1, e2, copyI_append A (x :: B) [] B rfl (by simp) (by simp)]
  simp only
  rw [sliceI_prefix (A ++ B) _ (by simp; omega)]

theorem remove_result (s : List Int) (hs : SS s) (x : Int) :
    ∃ r, remove s x = .ok r ∧ SS r ∧ ∀ y, y ∈ r ↔ (y ∈ s ∧ y ≠ x) := by
  by_cases hx : x ∈ s
  · obtain ⟨hlt, he⟩ := (mem_iff_searchInts s hs x).mp hx
    obtain ⟨A, B, rfl, hA⟩ : ∃ A B, s = A ++ x :: B ∧ searchInts s x = A.length := by
      refine ⟨s.take (searchInts s x), s.drop (searchInts s x + 1), ?_, by simp; omega⟩
      rw [List.getElem?_eq_getElem hlt, Option.some.injEq] at he
      generalize searchInts s x = i at hlt he ⊢
      subst he; simp
    obtain ⟨hA', hB', hAB⟩ := List.pairwise_append.mp hs
    refine ⟨_, remove_eq_of_mem A x B hA, hs.sublist ((List.sublist_cons_self x B).append_left A), fun y => ?_⟩
    rw [List.mem_append, List.mem_append, List.mem_cons]
    constructor
    · rintro (h | h)
      · exact ⟨Or.inl h, Int.ne_of_lt (hAB y h x List.mem_cons_self)⟩
      · exact ⟨Or.inr (Or.inr h), Int.ne_of_gt (List.rel_of_pairwise_cons hB' h)⟩
    · rintro ⟨h | h | h, hne⟩
      · exact Or.inl h
      · exact absurd h hne
      · exact Or.inr h
  · refine ⟨s, ?_, hs, fun y => ⟨fun h => ⟨h, fun e => hx (e ▸ h)⟩, fun h => h.1⟩⟩
    rw [remove, if_neg]
    rintro ⟨h1, h2⟩
    rw [getI_natCast] at h2
    exact hx ((mem_iff_searchInts s hs x).mpr ⟨by omega, h2⟩)

end SortInts
