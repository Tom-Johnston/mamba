import Mamba.Lemmas.IterGeneric
import Mamba.Lemmas.OutcomeLawful
import Mamba.Model.IterComb
import Mamba.Model.IterPerm
/-!
A false `Next()` is absorbing: for the iterators guarded by a flag (`MultisetCombinations`, `TopologicalSorts`,
`RestrictedPrefixPermutations`, `PermutationsByPattern`) a `Next()` that returns false, from ANY state, leaves a state
from which every further `Next()` returns false (`X.next_false_dead`, `X.absorbing`); for `Permutations` the dead states
`Heap.Dead` with `Heap.next_dead`. These are facts about single states, independent of the enumeration theorems.
-/
namespace Iter

theorem MSComb.next_false_done (s s' : MSComb) (h : MSComb.next s = .ok (s', false)) : s'.done = true := by
  unfold MSComb.next at h
  split at h
  · next hd => cases h; exact hd
  · obtain ⟨⟨s1, b⟩, -, h⟩ := Outcome.bind_eq_ok h
    cases b with
    | false => cases h; rfl
    | true =>
      obtain ⟨fr, -, h⟩ := Outcome.bind_eq_ok h
      obtain ⟨fr2, -, h⟩ := Outcome.bind_eq_ok h
      cases h

theorem MSComb.absorbing (s s' : MSComb) (h : MSComb.next s = .ok (s', false)) :
    ∀ k, extras MSComb.it k s' = .ok (List.replicate k none) := by
  intro k
  apply extras_dead MSComb.it (fun s => s.done = true)
  · intro s hs; exact ⟨s, by simp [MSComb.it, MSComb.next, hs], hs⟩
  · exact MSComb.next_false_done s s' h

theorem Topo.next_false_dead (less : Int → Int → Bool) (s s' : Topo) (h : Topo.next less s = .ok (s', false)) :
    s'.first = false ∧ s'.done = true := by
  unfold Topo.next at h
  split at h
  · cases h
  · next hf =>
    split at h
    · next hd => cases h; exact ⟨by simpa using hf, hd⟩
    · obtain ⟨⟨st, inv, b⟩, -, h⟩ := Outcome.bind_eq_ok h
      cases b <;> cases h
      exact ⟨by simpa using hf, rfl⟩

theorem Topo.absorbing (less : Int → Int → Bool) (s s' : Topo) (h : Topo.next less s = .ok (s', false)) :
    ∀ k, extras (Topo.it less) k s' = .ok (List.replicate k none) := by
  intro k
  apply extras_dead (Topo.it less) (fun s => s.first = false ∧ s.done = true)
  · intro s hs; exact ⟨s, by simp [Topo.it, Topo.next, hs.1, hs.2], hs⟩
  · exact Topo.next_false_dead less s s' h

theorem RPP.next_false_dead (f : List Int → Bool) (s s' : RPP) (h : RPP.next f s = .ok (s', false)) :
    s'.a ≠ none ∧ s'.done = true := by
  unfold RPP.next at h
  split at h
  · obtain ⟨a, -, h⟩ := Outcome.bind_eq_ok h
    split at h
    · cases h
    · obtain ⟨⟨a', l, u, b⟩, -, h⟩ := Outcome.bind_eq_ok h
      cases b <;> cases h
      exact ⟨by simp, rfl⟩
  · next a ha =>
    split at h
    · next hd => cases h; exact ⟨by simp [ha], hd⟩
    · obtain ⟨⟨a', l, u, b⟩, -, h⟩ := Outcome.bind_eq_ok h
      cases b <;> cases h
      exact ⟨by simp, rfl⟩

theorem RPP.absorbing (f : List Int → Bool) (s s' : RPP) (h : RPP.next f s = .ok (s', false)) :
    ∀ k, extras (RPP.it f) k s' = .ok (List.replicate k none) := by
  intro k
  apply extras_dead (RPP.it f) (fun s => s.a ≠ none ∧ s.done = true)
  · intro s hs
    refine ⟨s, ?_, hs⟩
    obtain ⟨h1, h2⟩ := hs
    cases ha : s.a with
    | none => exact absurd ha h1
    | some a => simp [RPP.it, RPP.next, ha, h2]
  · exact RPP.next_false_dead f s s' h

theorem Pat.run_false (f : List Int → Bool) (n : Int) : ∀ (fuel : Nat) (lbl : Pat.Lbl) (a a' : Sl),
    Pat.run f n fuel lbl a = .ok (a', false) → a' = [] := by
  intro fuel
  induction fuel with
  | zero => intro lbl a a' h; simp [Pat.run] at h
  | succ fuel ih =>
    intro lbl a a' h
    cases lbl with
    | x1 => simp only [Pat.run] at h; exact ih _ _ _ h
    | x2 =>
      simp only [Pat.run] at h
      split at h
      · split at h
        · cases h
        · exact ih _ _ _ h
      · exact ih _ _ _ h
    | x3 =>
      simp only [Pat.run] at h
      split at h
      · next hl => cases h; simpa using hl
      · obtain ⟨x, -, h⟩ := Outcome.bind_eq_ok h
        split at h
        · exact ih _ _ _ h
        · obtain ⟨y, -, h⟩ := Outcome.bind_eq_ok h
          obtain ⟨a2, -, h⟩ := Outcome.bind_eq_ok h
          exact ih _ _ _ h

theorem Pat.next_false_first (f : List Int → Bool) (s s' : Pat)
    (h : (if s.n < 0 then Outcome.panic
      else if s.n == 0 then Outcome.ok (({ s with a := some [], first := false } : Pat), true)
      else do
        let (a, b) ← Pat.run f s.n (Pat.fuel s.n) .x1 []
        pure (({ s with a := some a, first := false } : Pat), b)) = .ok (s', false)) :
    s'.a = some [] ∧ s'.first = false := by
  split at h
  · cases h
  · split at h
    · cases h
    · obtain ⟨⟨a, b⟩, hr, h⟩ := Outcome.bind_eq_ok h
      cases b <;> cases h
      rw [Pat.run_false f s.n _ _ _ _ hr]
      exact ⟨rfl, rfl⟩

theorem Pat.next_false_dead (f : List Int → Bool) (s s' : Pat) (h : Pat.next f s = .ok (s', false)) :
    s'.a = some [] ∧ s'.first = false := by
  unfold Pat.next at h
  cases ha : s.a with
  | none =>
    simp only [ha, if_true] at h
    exact Pat.next_false_first f s s' h
  | some x =>
    simp only [ha] at h
    by_cases hf : s.first = true
    · simp only [hf, if_true] at h
      exact Pat.next_false_first f s s' h
    · simp only [hf, Bool.false_eq_true, if_false] at h
      obtain ⟨⟨a, b⟩, hr, h⟩ := Outcome.bind_eq_ok h
      cases b <;> cases h
      rw [Pat.run_false f s.n _ _ _ _ hr]
      exact ⟨rfl, rfl⟩

theorem Pat.absorbing (f : List Int → Bool) (s s' : Pat) (h : Pat.next f s = .ok (s', false)) :
    ∀ k, extras (Pat.it f) k s' = .ok (List.replicate k none) := by
  intro k
  apply extras_dead (Pat.it f) (fun s => s.a = some [] ∧ s.first = false)
  · rintro s ⟨h1, h2⟩
    refine ⟨s, ?_, h1, h2⟩
    obtain ⟨m, hm⟩ : ∃ m, Pat.fuel s.n = m + 1 := ⟨_, rfl⟩
    cases s with
    | mk n a first =>
      simp only at h1 h2 hm
      subst h1 h2
      simp [Pat.it, Pat.next, hm, Pat.run]
  · exact Pat.next_false_dead f s s' h

def Heap.Dead (s : Heap) : Prop := 0 ≤ s.i ∧ ¬ s.i < s.n

theorem Heap.next_dead (s : Heap) (h : Heap.Dead s) : Heap.next s = .ok (s, false) := by
  obtain ⟨h0, h1⟩ := h
  unfold Heap.next
  by_cases he : s.i = s.n
  · simp [he]
  · have hne : s.i ≠ -1 := by omega
    simp only [beq_iff_eq, he, hne, if_false]
    simp [Heap.loop, h1]

end Iter
