import Mamba.Lemmas.DisjointArr
import Mathlib.Logic.Relation

/-!
# Histories: `union`, `step`, `run` and the generated equivalence (C18)
-/
namespace Disjoint
open Relation

theorem size_new (n : Nat) : (new n).size = n := by simp [new]

theorem abs_new_p {n x : Nat} (hx : x < n) : (abs (new n)).p x = -1 := by simp [abs, new, hx]

theorem inv_new' (n : Nat) : Inv (new n) := by
  have hp : ∀ x, x < (abs (new n)).n → (abs (new n)).p x = -1 :=
    fun x hx => abs_new_p (by rwa [abs_n, size_new] at hx)
  refine ⟨fun _ => 0, fun x hx h0 => ?_, fun x hx h0 => ?_, fun x hx _ => ?_⟩
  · rw [hp x hx] at h0; exact absurd h0 (by decide)
  · rw [hp x hx] at h0; exact absurd h0 (by decide)
  · rw [hp x hx]; rfl

theorem rep_new (n x : Nat) (hx : x < n) : rep (new n) x = x :=
  rep_of_root _ _ (by simp [new, hx])

theorem union_spec {ds : DS} (h : Inv ds) (x y : Nat) (hx : x < ds.size) (hy : y < ds.size) :
    ∃ d', union ds x y = .ok d' ∧ Inv d' ∧ d'.size = ds.size ∧
      ∀ z w, z < ds.size → w < ds.size →
        (rep d' z = rep d' w ↔ rep ds z = rep ds w ∨
          ((rep ds z = rep ds x ∨ rep ds z = rep ds y) ∧
           (rep ds w = rep ds x ∨ rep ds w = rep ds y))) := by
  obtain ⟨d1, f1, g1⟩ := find_good (good_self h) x hx
  obtain ⟨d2, f2, i2, s2, r2⟩ := find_good g1 y hy
  have root : ∀ z, z < ds.size → d2.getD (rep ds z) 0 < 0 := fun z hz => by
    rw [← r2 z hz]; exact rep_isRoot i2 z (lt_of_lt_of_eq hz s2.symm)
  obtain ⟨d3, f3, i3, s3, r3⟩ := link_roots_spec i2 _ _ (lt_of_lt_of_eq (rep_lt h x hx) s2.symm)
    (lt_of_lt_of_eq (rep_lt h y hy) s2.symm) (root x hx) (root y hy)
  refine ⟨d3, ?_, i3, s3.trans s2, fun z w hz hw => ?_⟩
  · unfold union; rw [f1]; simp only; rw [f2]; simp only; exact f3
  · rw [r3 z w (lt_of_lt_of_eq hz s2.symm) (lt_of_lt_of_eq hw s2.symm), r2 z hz, r2 w hw]

def Op.valid (n : Nat) : Op → Prop
  | .union x y => x < n ∧ y < n
  | .find x => x < n

def unionRel (ops : List Op) (x y : Nat) : Prop := Op.union x y ∈ ops

theorem unionRel_snoc_find (pre : List Op) (x : Nat) :
    unionRel (pre ++ [Op.find x]) = unionRel pre := by
  funext a b; simp [unionRel]

theorem eqvGen_snoc_union (pre : List Op) (x y a b : Nat) :
    EqvGen (unionRel (pre ++ [Op.union x y])) a b ↔
      EqvGen (unionRel pre) a b ∨
        ((EqvGen (unionRel pre) a x ∨ EqvGen (unionRel pre) a y) ∧
         (EqvGen (unionRel pre) b x ∨ EqvGen (unionRel pre) b y)) := by
  have hE := EqvGen.is_equivalence (unionRel pre)
  have mono : ∀ u v, EqvGen (unionRel pre) u v → EqvGen (unionRel (pre ++ [Op.union x y])) u v :=
    fun u v huv => EqvGen.mono (fun _ _ hh => by simp [unionRel] at hh ⊢; exact Or.inl hh) _ _ huv
  have hxy : EqvGen (unionRel (pre ++ [Op.union x y])) x y :=
    EqvGen.rel _ _ (by simp [unionRel])
  have hF := EqvGen.is_equivalence (unionRel (pre ++ [Op.union x y]))
  constructor
  · intro hab
    induction hab with
    | rel u v huv =>
      simp only [unionRel, List.mem_append, List.mem_singleton, Op.union.injEq] at huv
      rcases huv with huv | ⟨rfl, rfl⟩
      · exact Or.inl (EqvGen.rel _ _ huv)
      · exact Or.inr ⟨Or.inl (hE.refl _), Or.inr (hE.refl _)⟩
    | refl u => exact Or.inl (hE.refl _)
    | symm u v _ ih =>
      rcases ih with ih | ⟨i1, i2⟩
      · exact Or.inl (hE.symm ih)
      · exact Or.inr ⟨i2, i1⟩
    | trans u v w _ _ ih1 ih2 =>
      rcases ih1 with ih1 | ⟨i1, i2⟩
      · rcases ih2 with ih2 | ⟨j1, j2⟩
        · exact Or.inl (hE.trans ih1 ih2)
        · refine Or.inr ⟨?_, j2⟩
          rcases j1 with j1 | j1
          · exact Or.inl (hE.trans ih1 j1)
          · exact Or.inr (hE.trans ih1 j1)
      · rcases ih2 with ih2 | ⟨j1, j2⟩
        · refine Or.inr ⟨i1, ?_⟩
          rcases i2 with i2 | i2
          · exact Or.inl (hE.trans (hE.symm ih2) i2)
          · exact Or.inr (hE.trans (hE.symm ih2) i2)
        · exact Or.inr ⟨i1, j2⟩
  · rintro (hab | ⟨h1 | h1, h2 | h2⟩)
    · exact mono _ _ hab
    · exact hF.trans (mono _ _ h1) (hF.symm (mono _ _ h2))
    · exact hF.trans (mono _ _ h1) (hF.trans hxy (hF.symm (mono _ _ h2)))
    · exact hF.trans (mono _ _ h1) (hF.trans (hF.symm hxy) (hF.symm (mono _ _ h2)))
    · exact hF.trans (mono _ _ h1) (hF.symm (mono _ _ h2))

/-- `ds` is the state after a history whose unions are those of `pre`: invariant, size `n`, and two elements have the same
representative exactly when the unions of `pre` connect them -/
def Tracks (n : Nat) (pre : List Op) (ds : DS) : Prop :=
  Inv ds ∧ ds.size = n ∧
    ∀ a b, a < n → b < n → (rep ds a = rep ds b ↔ EqvGen (unionRel pre) a b)

theorem tracks_new (n : Nat) : Tracks n [] (new n) := by
  refine ⟨inv_new' n, size_new n, ?_⟩
  have key : ∀ a b, EqvGen (unionRel []) a b → a = b := by
    intro a b hab
    induction hab with
    | rel u v huv => simp [unionRel] at huv
    | refl => rfl
    | symm _ _ _ ih => exact ih.symm
    | trans _ _ _ _ _ ih1 ih2 => exact ih1.trans ih2
  intro a b ha hb
  rw [rep_new n a ha, rep_new n b hb]
  exact ⟨by rintro rfl; exact EqvGen.refl _, key a b⟩

theorem step_spec {n : Nat} {pre : List Op} {ds : DS} (h : Tracks n pre ds) (o : Op)
    (ho : o.valid n) : ∃ d', step ds o = .ok d' ∧ Tracks n (pre ++ [o]) d' := by
  obtain ⟨hi, hs, hr⟩ := h
  subst hs
  cases o with
  | union x y =>
    obtain ⟨hx, hy⟩ := ho
    obtain ⟨d', f, i, s, r⟩ := union_spec hi x y hx hy
    refine ⟨d', f, i, s, ?_⟩
    intro a b ha hb
    rw [r a b ha hb, eqvGen_snoc_union, hr a b ha hb, hr a x ha hx, hr a y ha hy, hr b x hb hx, hr b y hb hy]
  | find x =>
    obtain ⟨d', f, i, s, r⟩ := find_spec hi x ho
    refine ⟨d', by simp [step, f], i, s, ?_⟩
    intro a b ha hb
    rw [unionRel_snoc_find, r a ha, r b hb]
    exact hr a b ha hb

theorem run_spec {n : Nat} : ∀ (ops pre : List Op) (ds : DS), Tracks n pre ds →
    (∀ o ∈ ops, o.valid n) → ∃ d', run ops ds = .ok d' ∧ Tracks n (pre ++ ops) d' := by
  intro ops
  induction ops with
  | nil => intro pre ds h _; exact ⟨ds, rfl, by simpa using h⟩
  | cons o os ih =>
    intro pre ds h hv
    obtain ⟨d1, f1, t1⟩ := step_spec h o (hv o (List.mem_cons_self ..))
    obtain ⟨d2, f2, t2⟩ := ih (pre ++ [o]) d1 t1 (fun o' ho' => hv o' (List.mem_cons_of_mem _ ho'))
    refine ⟨d2, by simp [run, f1, f2], ?_⟩
    simpa using t2

end Disjoint
