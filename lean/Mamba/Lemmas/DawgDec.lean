import Mamba.Lemmas.DawgEnc
import Mamba.Lemmas.DawgVarint
/-! `GobDecode` run on the output of `GobEncode`. -/
namespace Dawg

def childBytes : List Nat → List Nat → List Nat
  | lab :: labs, t :: ts => lab :: encodeUint64 t ++ childBytes labs ts
  | _, _ => []

/-- position (in the sorted id table `L`) of the node at pointer `q` -/
def posOf (h : Heap) (L : List Nat) (q : Nat) : Nat :=
  match h[q]? with
  | some qn => searchGE L qn.id
  | none => 0

theorem encLinks_eq (h : Heap) (L : List Nat) :
    ∀ (labs links r : List Nat), labs.length = links.length →
      encLinks h (searchGE L) labs links = .ok r →
      r = childBytes labs (links.map (posOf h L)) ∧ ∀ q ∈ links, ∃ qn, h[q]? = some qn := by
  intro labs
  induction labs with
  | nil =>
    intro links r hlen hres
    cases links with
    | nil => simp only [encLinks, Outcome.ok.injEq] at hres; subst hres; simp [childBytes]
    | cons _ _ => simp at hlen
  | cons lab labs ih =>
    intro links r hlen hres
    cases links with
    | nil => simp at hlen
    | cons q qs =>
      simp only [encLinks] at hres
      cases hq : getNode h q with
      | panic => rw [hq] at hres; cases hres
      | outOfFuel => rw [hq] at hres; cases hres
      | ok qn =>
        rw [hq] at hres
        simp only at hres
        have hqn := getNode_eq_ok.1 hq
        cases hr : encLinks h (searchGE L) labs qs with
        | panic => rw [hr] at hres; cases hres
        | outOfFuel => rw [hr] at hres; cases hres
        | ok r' =>
          rw [hr] at hres
          simp only [Outcome.ok.injEq] at hres
          obtain ⟨h1, h2⟩ := ih qs r' (by simpa using hlen) hr
          subst hres
          refine ⟨?_, ?_⟩
          · simp only [List.map_cons, childBytes, posOf, hqn, h1]
          · intro q' hq'
            rw [List.mem_cons] at hq'
            rcases hq' with rfl | hq'
            · exact ⟨qn, hqn⟩
            · exact h2 q' hq'

theorem encRecord_eq (h : Heap) (L : List Nat) (n : Node) (r : List Nat) (hlen : n.labels.length = n.links.length)
    (hres : encRecord h (searchGE L) n = .ok r) :
    r = encodeUint64 (searchGE L n.id) ++ encodeUint64 n.numWords ++ [if n.final then Gen.Dawg.finalTrueByte else Gen.Dawg.finalFalseByte]
          ++ encodeUint64 n.labels.length ++ childBytes n.labels (n.links.map (posOf h L))
      ∧ ∀ q ∈ n.links, ∃ qn, h[q]? = some qn := by
  unfold encRecord at hres
  cases hr : encLinks h (searchGE L) n.labels n.links with
  | panic => rw [hr] at hres; cases hres
  | outOfFuel => rw [hr] at hres; cases hres
  | ok r' =>
    rw [hr] at hres
    simp only [Outcome.ok.injEq] at hres
    obtain ⟨h1, h2⟩ := encLinks_eq h L _ _ _ hlen hr
    subst hres
    exact ⟨by rw [h1], h2⟩

theorem decChildren_childBytes :
    ∀ (labs tgts : List Nat) (ts : Heap) (idx : Nat) (n : Node) (rest : List Nat),
      labs.length = tgts.length → ts[idx]? = some n → (∀ t ∈ tgts, t < ts.size ∧ t < 2 ^ 64) →
      decChildren ts idx labs.length (childBytes labs tgts ++ rest) =
        .ok (ts.setIfInBounds idx { n with labels := n.labels ++ labs, links := n.links ++ tgts }, rest) := by
  intro labs
  induction labs with
  | nil =>
    intro tgts ts idx n rest hlen hn _
    cases tgts with
    | nil =>
      simp only [List.length_nil, decChildren, childBytes, List.nil_append, List.append_nil]
      congr 2
      apply Array.ext_getElem?
      intro i
      rw [Array.getElem?_setIfInBounds]
      have hlt : idx < ts.size := by
        rcases Array.getElem?_eq_some_iff.1 hn with ⟨h, _⟩; exact h
      split
      · next h => subst h; first | rw [hn] | (rw [if_pos hlt, hn])
      · rfl
    | cons _ _ => simp at hlen
  | cons lab labs ih =>
    intro tgts ts idx n rest hlen hn hsmall
    cases tgts with
    | nil => simp at hlen
    | cons t tgts =>
      have ht := hsmall t List.mem_cons_self
      simp only [List.length_cons, childBytes, List.cons_append, List.append_assoc, decChildren]
      rw [decodeUint64_encodeUint64_append t ht.2]
      simp only [hn, ht.1, if_true]
      rw [ih tgts _ idx { n with labels := n.labels ++ [lab], links := n.links ++ [t] } rest (by simpa using hlen)]
      · rw [Array.setIfInBounds_setIfInBounds]
        simp
      · rw [Array.getElem?_setIfInBounds_self]
        have : idx < ts.size := by
          rcases Array.getElem?_eq_some_iff.1 hn with ⟨h, _⟩; exact h
        simp [this]
      · intro t' ht'
        rw [Array.size_setIfInBounds]
        exact hsmall t' (List.mem_cons_of_mem _ ht')

/-- the flag bytes written by `GobEncode` are read back correctly by `GobDecode` (re-checked on every run against the
regenerated constants; any pair of bytes with this property keeps the round trip; all recognised sites of GobEncode
must write the same pair, because the model has one `encRecord`) -/
theorem genFinal_consistent :
    (Gen.Dawg.finalTrueSites.all (· == Gen.Dawg.finalTrueByte) && Gen.Dawg.finalFalseSites.all (· == Gen.Dawg.finalFalseByte)) = true ∧
      Gen.Dawg.decFinalSet Gen.Dawg.finalTrueByte = true ∧
      Gen.Dawg.decFinalSet Gen.Dawg.finalFalseByte = false := by decide

theorem decRecords_one (ts : Heap) (k idx nw : Nat) (fin : Bool) (labs tgts rest : List Nat) (n0 : Node)
    (hn0 : ts[idx]? = some n0) (hidx : idx < 2 ^ 64) (hnw : nw < 2 ^ 64) (hlabs : labs.length < 2 ^ 64)
    (hlen : labs.length = tgts.length) (htg : ∀ t ∈ tgts, t < ts.size ∧ t < 2 ^ 64) :
    decRecords ts (k + 1)
        ((encodeUint64 idx ++ encodeUint64 nw ++ [if fin then Gen.Dawg.finalTrueByte else Gen.Dawg.finalFalseByte] ++ encodeUint64 labs.length
          ++ childBytes labs tgts) ++ rest)
      = decRecords (ts.setIfInBounds idx { n0 with numWords := nw, final := fin, labels := labs, links := tgts }) k rest := by
  have hlt : idx < ts.size := by
    rcases Array.getElem?_eq_some_iff.1 hn0 with ⟨h, _⟩; exact h
  simp only [decRecords, List.append_assoc]
  rw [decodeUint64_encodeUint64_append idx hidx]
  simp only
  rw [decodeUint64_encodeUint64_append nw hnw]
  simp only [hn0, List.cons_append, List.nil_append]
  rw [decodeUint64_encodeUint64_append labs.length hlabs]
  simp only [Array.setIfInBounds_setIfInBounds]
  rw [decChildren_childBytes labs tgts _ idx
    { n0 with numWords := nw, final := Gen.Dawg.decFinalSet (if fin then Gen.Dawg.finalTrueByte else Gen.Dawg.finalFalseByte), labels := [], links := [] } rest hlen]
  · simp only [Array.setIfInBounds_setIfInBounds, List.nil_append]
    cases fin
    · simp only [Bool.false_eq_true, if_false, genFinal_consistent.2.2]
    · simp only [if_true, genFinal_consistent.2.1]
  · rw [Array.getElem?_setIfInBounds_self]; simp [hlt]
  · intro t ht; rw [Array.size_setIfInBounds]; exact htg t ht

def fillFrom (h : Heap) (L : List Nat) (n : Node) (n0 : Node) : Node :=
  { n0 with numWords := n.numWords, final := n.final, labels := n.labels, links := n.links.map (posOf h L) }

theorem decRecords_emitted (d : Dawg) (wf : WF d) (L : List Nat) :
    ∀ (ps bs : List Nat), Emitted d.heap (searchGE L) ps bs →
    ∀ (ts : Heap) (rest : List Nat),
      (∀ p ∈ ps, Reach d.heap d.root p) →
      (∀ p, Reach d.heap d.root p → posOf d.heap L p < ts.size) →
      ts.size < 2 ^ 64 →
      (ps.map (posOf d.heap L)).Nodup →
      ∃ ts', decRecords ts ps.length (bs ++ rest) = .ok (ts', rest) ∧ ts'.size = ts.size ∧
        (∀ m, m ∉ ps.map (posOf d.heap L) → ts'[m]? = ts[m]?) ∧
        (∀ p n, p ∈ ps → d.heap[p]? = some n →
          ts'[posOf d.heap L p]? = (ts[posOf d.heap L p]?).map (fillFrom d.heap L n)) := by
  intro ps bs he
  induction he with
  | nil =>
    intro ts rest _ _ _ _
    exact ⟨ts, by simp [decRecords], rfl, fun _ _ => rfl, fun p n hp => by cases hp⟩
  | @cons c cn r ps bs hc hr he' ih =>
    intro ts rest hreach hpos hsize hnd
    have hcr : Reach d.heap d.root c := hreach c List.mem_cons_self
    obtain ⟨hreq, hlinks⟩ := encRecord_eq d.heap L cn r (wf.lens c cn hcr hc) hr
    have hposc : posOf d.heap L c = searchGE L cn.id := by simp [posOf, hc]
    have hlt : searchGE L cn.id < ts.size := hposc ▸ hpos c hcr
    obtain ⟨n0, hn0⟩ : ∃ n0, ts[searchGE L cn.id]? = some n0 := ⟨ts[searchGE L cn.id], by simp [hlt]⟩
    obtain ⟨hs1, hs2, hs3⟩ := wf.small c cn hcr hc
    have htg : ∀ t ∈ cn.links.map (posOf d.heap L), t < ts.size ∧ t < 2 ^ 64 := by
      intro t ht
      rw [List.mem_map] at ht
      obtain ⟨q, hq, rfl⟩ := ht
      have := hpos q (Reach.step hcr hc hq)
      exact ⟨this, by omega⟩
    have hone := decRecords_one ts ps.length (searchGE L cn.id) cn.numWords cn.final cn.labels
      (cn.links.map (posOf d.heap L)) (bs ++ rest) n0 hn0 (by omega) hs2 hs3
      (by rw [List.length_map]; exact wf.lens c cn hcr hc) htg
    rw [List.map_cons, List.nodup_cons] at hnd
    obtain ⟨ts', hdec, hsz, hother, hmine⟩ := ih
      (ts.setIfInBounds (searchGE L cn.id) (fillFrom d.heap L cn n0)) rest
      (fun p hp => hreach p (List.mem_cons_of_mem _ hp))
      (fun p hp => by rw [Array.size_setIfInBounds]; exact hpos p hp)
      (by rw [Array.size_setIfInBounds]; exact hsize) hnd.2
    refine ⟨ts', ?_, ?_, ?_, ?_⟩
    · rw [List.length_cons, List.append_assoc, hreq, hone]
      exact hdec
    · rw [hsz, Array.size_setIfInBounds]
    · intro m hm
      rw [List.map_cons, List.mem_cons] at hm
      rw [hother m (fun h => hm (Or.inr h))]
      rw [Array.getElem?_setIfInBounds_ne]
      intro h; exact hm (Or.inl (by rw [hposc, h]))
    · intro p n hp hn
      rw [List.mem_cons] at hp
      rcases hp with rfl | hp
      · rw [hc] at hn; cases hn
        rw [hposc, hother _ (hposc ▸ hnd.1), Array.getElem?_setIfInBounds_self, hn0]
        simp [hlt]
      · rw [hmine p n hp hn, Array.getElem?_setIfInBounds_ne]
        intro h
        apply hnd.1
        rw [hposc, h]
        exact List.mem_map_of_mem hp

end Dawg
