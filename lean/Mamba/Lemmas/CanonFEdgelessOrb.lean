import Mamba.Lemmas.CanonFEdgeless
import Mamba.Lemmas.DisjointArr
/-!
# The orbits returned by the `m == 0` shortcut: one orbit (`edgRes_orbits`)
-/
namespace CanonF

theorem edg_rep_zero (D : Array Int) (h0 : D[0]? = some (-2))
    (hi : ∀ i, 0 < i → i < D.size → D[i]? = some 0) (a : Nat) (ha : a < D.size) : Disjoint.rep D a = 0 := by
  have p0 : (Disjoint.abs D).p 0 < 0 := by
    rw [Disjoint.abs_p]; simp [Array.getD_eq_getD_getElem?, h0]
  unfold Disjoint.rep Disjoint.Fn.rep
  rw [Disjoint.abs_n]
  obtain ⟨k, hk⟩ : ∃ k, D.size = k + 1 := ⟨D.size - 1, by omega⟩
  rw [hk]
  by_cases ha0 : a = 0
  · subst ha0
    simp [Disjoint.Fn.root, p0]
  · have pa : (Disjoint.abs D).p a = 0 := by
      rw [Disjoint.abs_p]; simp [Array.getD_eq_getD_getElem?, hi a (by omega) ha]
    rw [Disjoint.Fn.root, pa]
    simp only [Int.lt_irrefl, if_false, Int.toNat_zero]
    cases k with
    | zero => rfl
    | succ k => simp [Disjoint.Fn.root, p0]

theorem edgRes_orbits (n : Nat) :
    ∃ ds, (edgRes n).orbits = some ds ∧ ds.length = n ∧
      ∀ a b, a < n → b < n → Disjoint.rep ds.toArray a = Disjoint.rep ds.toArray b := by
  refine ⟨_, rfl, by simp, fun a b ha hb => ?_⟩
  have hz : ∀ a, a < n → Disjoint.rep ((List.range n).map (fun i => if i = 0 then (-2 : Int) else 0)).toArray a = 0 := by
    intro a ha
    apply edg_rep_zero
    · have : 0 < n := by omega
      simp [this]
    · intro i hi0 hin
      have hin' : i < n := by simpa using hin
      simp [hin', Nat.ne_of_gt hi0]
    · simpa using ha
  rw [hz a ha, hz b hb]

end CanonF
