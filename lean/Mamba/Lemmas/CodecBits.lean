import Mamba.Lemmas.CodecBase
import Mathlib.Tactic.Ring
/-!
Bit vectors against `Formats.R`: big-endian values (`bitsToNat`), the value `pv` of a group of at most six bits,
`R` six bits at a time; the 6-bit writer `BitW` of the model (after pushing the bits `bits` onto a writer that started
as `⟨pre, 0, 0⟩`, flushing yields `pre ++ R bits`); reading the bits back with `unR`.
-/
namespace Codec
open Formats

def accBits (x : Nat) (bs : List Bool) : Nat := bs.foldl (fun a b => 2 * a + b.toNat) x

theorem accBits_eq (x : Nat) (bs : List Bool) : accBits x bs = x * 2 ^ bs.length + bitsToNat bs := by
  induction bs generalizing x with
  | nil => simp [accBits, bitsToNat]
  | cons b bs ih =>
    show accBits (2 * x + b.toNat) bs = x * 2 ^ (bs.length + 1) + accBits (2 * 0 + b.toNat) bs
    rw [ih, ih, Nat.pow_succ]; ring

theorem bitsToNat_append (l r : List Bool) : bitsToNat (l ++ r) = bitsToNat l * 2 ^ r.length + bitsToNat r := by
  rw [← accBits_eq]; exact List.foldl_append ..

theorem bitsToNat_snoc (l : List Bool) (b : Bool) : bitsToNat (l ++ [b]) = 2 * bitsToNat l + b.toNat := by
  simp [bitsToNat, List.foldl_append]

theorem bitsToNat_lt (l : List Bool) : bitsToNat l < 2 ^ l.length := by
  induction l with
  | nil => exact Nat.one_pos
  | cons b l ih =>
    have := bitsToNat_append [b] l
    have hb : bitsToNat [b] ≤ 1 := by cases b <;> decide
    rw [List.singleton_append] at this
    rw [this, List.length_cons, Nat.pow_succ]
    have := Nat.mul_le_mul_right (2 ^ l.length) hb
    omega

theorem bitsToNat_replicate_false (k : Nat) : bitsToNat (List.replicate k false) = 0 := by
  induction k with
  | zero => rfl
  | succ k ih => rw [List.replicate_succ', bitsToNat_snoc, ih]; rfl

theorem bitsToNat_replicate_true (k : Nat) : bitsToNat (List.replicate k true) = 2 ^ k - 1 := by
  induction k with
  | zero => rfl
  | succ k ih =>
    have := Nat.two_pow_pos k
    rw [List.replicate_succ', bitsToNat_snoc, ih, Nat.pow_succ]
    show 2 * (2 ^ k - 1) + 1 = _
    omega

theorem natToBits_length (k x : Nat) : (natToBits k x).length = k := by simp [natToBits]

theorem natToBits_succ (k x : Nat) : natToBits (k + 1) x = natToBits k (x / 2) ++ [x % 2 == 1] := by
  unfold natToBits
  rw [List.range_succ, List.map_append]
  congr 1
  · apply List.map_congr_left
    intro j hj
    have e : k + 1 - 1 - j = (k - 1 - j) + 1 := by have := List.mem_range.1 hj; omega
    rw [e, Nat.pow_succ, Nat.mul_comm, Nat.div_div_eq_div_mul]
  · rw [List.map_singleton, Nat.add_sub_cancel, Nat.sub_self, Nat.pow_zero, Nat.div_one]

theorem bitsToNat_natToBits (k : Nat) : ∀ x, x < 2 ^ k → bitsToNat (natToBits k x) = x := by
  induction k with
  | zero => intro x hx; simp at hx; subst hx; rfl
  | succ k ih =>
    intro x hx
    rw [natToBits_succ, bitsToNat_snoc, ih (x / 2) (by rw [Nat.pow_succ] at hx; omega)]
    rcases Nat.mod_two_eq_zero_or_one x with h | h <;> simp [h] <;> omega

def pv (l : List Bool) : Nat := bitsToNat (l ++ List.replicate (6 - l.length) false)

theorem pv_eq_mul (l : List Bool) : pv l = bitsToNat l * 2 ^ (6 - l.length) := by
  rw [pv, bitsToNat_append, bitsToNat_replicate_false, List.length_replicate, Nat.add_zero]

theorem pv_lt (l : List Bool) (h : l.length ≤ 6) : pv l < 64 := by
  have := bitsToNat_lt (l ++ List.replicate (6 - l.length) false)
  rwa [List.length_append, List.length_replicate, Nat.add_sub_cancel' h] at this

theorem pv_snoc (r : List Bool) (x : Bool) (hr : r.length < 6) :
    pv (r ++ [x]) = pv r + x.toNat * 2 ^ (5 - r.length) := by
  have e : 6 - r.length = (5 - r.length) + 1 := by omega
  rw [pv_eq_mul, pv_eq_mul, bitsToNat_snoc, List.length_append, List.length_singleton, Nat.sub_add_eq, e,
    Nat.add_sub_cancel, Nat.pow_succ]
  ring

theorem pv_or (r : List Bool) (hr : r.length < 6) :
    pv r ||| 2 ^ (5 - r.length) = pv r + 2 ^ (5 - r.length) := by
  rw [pv_eq_mul, Nat.mul_comm]
  exact (Nat.two_pow_add_eq_or_of_lt (Nat.pow_lt_pow_right (by decide) (by omega)) _).symm

theorem val6_eq (a b c d e f : Bool) : val6 a b c d e f = bitsToNat [a, b, c, d, e, f] := by
  simp only [val6, bitsToNat, List.foldl]; omega

theorem R_chunk : ∀ l : List Bool, l ≠ [] → R l = (pv (l.take 6) + 63) :: R (l.drop 6)
  | [], h => absurd rfl h
  | [a], _ => by rw [R, val6_eq]; rfl
  | [a, b], _ => by rw [R, val6_eq]; rfl
  | [a, b, c], _ => by rw [R, val6_eq]; rfl
  | [a, b, c, d], _ => by rw [R, val6_eq]; rfl
  | [a, b, c, d, e], _ => by rw [R, val6_eq]; rfl
  | a :: b :: c :: d :: e :: f :: rest, _ => by rw [R, val6_eq]; rfl

theorem R_ind {P : List Bool → Prop} (nil : P []) (chunk : ∀ l, l ≠ [] → P (l.drop 6) → P l) : ∀ l, P l := by
  intro l
  generalize hn : l.length = n
  induction n using Nat.strongRecOn generalizing l with
  | _ n ih =>
    cases l with
    | nil => exact nil
    | cons a t =>
      refine chunk _ (List.cons_ne_nil a t) (ih _ ?_ _ rfl)
      rw [← hn, List.length_drop, List.length_cons]; omega

theorem R_short (l : List Bool) (h0 : l ≠ []) (h : l.length ≤ 6) : R l = [pv l + 63] := by
  rw [R_chunk l h0, List.take_of_length_le h, List.drop_eq_nil_of_le h]; rfl

theorem R_append (q r : List Bool) (hq : q.length % 6 = 0) : R (q ++ r) = R q ++ R r := by
  induction q using R_ind with
  | nil => rfl
  | chunk q h0 ih =>
    have h6 : 6 ≤ q.length := by
      have := List.length_pos_iff.2 h0; omega
    rw [R_chunk q h0, R_chunk (q ++ r) (by simp [h0]), List.take_append_of_le_length h6,
      List.drop_append_of_le_length h6, ih (by rw [List.length_drop]; omega)]
    rfl

theorem R_length (l : List Bool) : (R l).length = (l.length + 5) / 6 := by
  induction l using R_ind with
  | nil => rfl
  | chunk l h0 ih =>
    have := List.length_pos_iff.2 h0
    rw [R_chunk l h0, List.length_cons, ih, List.length_drop]; omega

theorem R_range (l : List Bool) : ∀ c ∈ R l, 63 ≤ c ∧ c ≤ 126 := by
  induction l using R_ind with
  | nil => intro c hc; cases hc
  | chunk l h0 ih =>
    intro c hc
    rw [R_chunk l h0, List.mem_cons] at hc
    rcases hc with rfl | hc
    · have := pv_lt (l.take 6) (List.length_take_le 6 l); omega
    · exact ih c hc

/-- the writer `w` has received the bits `bits` after starting from `⟨pre, 0, 0⟩` -/
structure BitW.Rep (w : BitW) (pre : List Nat) (bits : List Bool) : Prop where
  ex : ∃ q r : List Bool, bits = q ++ r ∧ q.length % 6 = 0 ∧ r.length < 6 ∧
    w.s.toList = pre ++ R q ∧ w.b = pv r ∧ w.idx = r.length

theorem BitW.Rep.init (pre : Bytes) : BitW.Rep ⟨pre, 0, 0⟩ pre.toList [] :=
  ⟨[], [], rfl, rfl, by decide, (List.append_nil _).symm, rfl, rfl⟩

theorem BitW.Rep.idx_lt {w : BitW} {pre bits} (h : w.Rep pre bits) : w.idx < 6 := by
  obtain ⟨q, r, _, _, hr, _, _, hi⟩ := h.ex; omega

theorem BitW.Rep.idx_eq {w : BitW} {pre bits} (h : w.Rep pre bits) : w.idx = bits.length % 6 := by
  obtain ⟨q, r, hb, hq, hr, _, _, hi⟩ := h.ex
  rw [hb, List.length_append, hi]; omega

theorem BitW.Rep.b_next {w : BitW} {pre bits} (h : w.Rep pre bits) (r : List Bool) (hbv : w.b = pv r)
    (hi : w.idx = r.length) :
    w.b ||| (1 <<< (5 - w.idx)) = pv (r ++ [true]) ∧ badd w.b (1 <<< (5 - w.idx)) = pv (r ++ [true]) := by
  have hr : r.length < 6 := hi ▸ h.idx_lt
  have h3 := pv_lt (r ++ [true]) (by rw [List.length_append]; exact hr)
  rw [pv_snoc r true hr, Bool.toNat_true, Nat.one_mul] at h3 ⊢
  rw [hbv, hi, Nat.one_shiftLeft, pv_or r hr, badd_of_lt (by omega)]
  exact ⟨rfl, rfl⟩

theorem BitW.pushOr_eq_pushAdd {w : BitW} {pre bits} (h : w.Rep pre bits) (x : Bool) :
    w.pushOr x = w.pushAdd x := by
  obtain ⟨q, r, _, _, _, _, hbv, hi⟩ := h.ex
  have := h.b_next r hbv hi
  unfold BitW.pushOr BitW.pushAdd
  rw [this.1, this.2]

theorem BitW.Rep.pushAdd {w : BitW} {pre bits} (h : w.Rep pre bits) (x : Bool) :
    (w.pushAdd x).Rep pre (bits ++ [x]) := by
  obtain ⟨q, r, hb, hq, hr, hs, hbv, hi⟩ := h.ex
  have hl : (r ++ [x]).length = r.length + 1 := List.length_append
  have hb' : (if x then badd w.b (1 <<< (5 - w.idx)) else w.b) = pv (r ++ [x]) := by
    cases x
    · rw [pv_snoc r false hr, hbv]; exact (Nat.add_zero _).symm.trans (congrArg _ (Nat.zero_mul _).symm)
    · exact (h.b_next r hbv hi).2
  have hbits : bits ++ [x] = q ++ (r ++ [x]) := by rw [hb, List.append_assoc]
  unfold BitW.pushAdd
  simp only [hb']
  rw [hi]
  have hl6 : (r ++ [x]).length ≤ 6 := hl ▸ hr
  by_cases h6 : r.length + 1 = 6
  · rw [if_pos h6]
    refine ⟨q ++ (r ++ [x]), [], by rw [hbits, List.append_nil], ?_, by decide, ?_, rfl, rfl⟩
    · rw [List.length_append, hl, h6, Nat.add_mod_right]; exact hq
    · rw [Array.toList_push, hs, R_append q _ hq, R_short (r ++ [x]) (by simp) hl6,
        badd_of_lt (Nat.add_lt_add_right (Nat.lt_trans (pv_lt (r ++ [x]) hl6) (by decide : 64 < 193)) 63),
        List.append_assoc]
  · rw [if_neg h6]
    exact ⟨q, r ++ [x], hbits, hq, hl ▸ Nat.lt_of_le_of_ne hr h6, hs, rfl, hl.symm⟩

theorem BitW.Rep.pushOr {w : BitW} {pre bits} (h : w.Rep pre bits) (x : Bool) :
    (w.pushOr x).Rep pre (bits ++ [x]) := by
  rw [BitW.pushOr_eq_pushAdd h]; exact h.pushAdd x

theorem BitW.Rep.foldl {pre} {push : BitW → Bool → BitW}
    (hpush : ∀ {w bits}, w.Rep pre bits → ∀ x, (push w x).Rep pre (bits ++ [x])) (l : List Bool) :
    ∀ {w : BitW} {bits}, w.Rep pre bits → (l.foldl push w).Rep pre (bits ++ l) := by
  induction l with
  | nil => intro w bits h; simpa using h
  | cons x xs ih => intro w bits h; simpa using ih (hpush h x)

/-- the final flush `if idx != 0 { s = append(s, b+63) }` yields `pre ++ R bits` -/
theorem BitW.Rep.flush {w : BitW} {pre bits} (h : w.Rep pre bits) :
    (if w.idx ≠ 0 then w.s.push (badd w.b 63) else w.s).toList = pre ++ R bits := by
  obtain ⟨q, r, hb, hq, hr, hs, hbv, hi⟩ := h.ex
  rw [hb, R_append q r hq, ← List.append_assoc, ← hs]
  cases r with
  | nil => rw [if_neg (by simp [hi])]; exact (List.append_nil _).symm
  | cons a t =>
    have hp := pv_lt (a :: t) (by omega)
    rw [if_pos (by simp [hi]), Array.toList_push, R_short _ (List.cons_ne_nil a t) (by omega), hbv,
      badd_of_lt (by omega)]

theorem bits6_val6 (a b c d e f : Bool) : bits6 (val6 a b c d e f + 63 - 63) = [a, b, c, d, e, f] := by
  cases a <;> cases b <;> cases c <;> cases d <;> cases e <;> cases f <;> decide

theorem bits6_length (x : Nat) : (bits6 x).length = 6 := rfl

theorem bits6_getElem? (x : Nat) : ∀ {p : Nat}, p < 6 → (bits6 x)[p]? = some (x / 2 ^ (5 - p) % 2 == 1)
  | 0, _ | 1, _ | 2, _ | 3, _ | 4, _ => rfl
  | 5, _ => by rw [Nat.sub_self, Nat.pow_zero, Nat.div_one]; rfl

/-- the two ways the decoders extract bit `q` of a byte -/
theorem and_shiftLeft_shiftRight (x q : Nat) : (x &&& (1 <<< q)) >>> q = x / 2 ^ q % 2 := by
  rw [Nat.one_shiftLeft, Nat.shiftRight_eq_div_pow, Nat.and_div_two_pow, Nat.div_self (Nat.two_pow_pos q),
    Nat.and_one_is_mod]

theorem shiftRight_and_one (x q : Nat) : (x >>> q) &&& 1 = x / 2 ^ q % 2 := by
  rw [Nat.and_one_is_mod, Nat.shiftRight_eq_div_pow]

theorem unR_cons (c : Nat) (l : List Nat) : unR (c :: l) = bits6 (c - 63) ++ unR l := by
  simp [unR]

theorem unR_length (l : List Nat) : (unR l).length = 6 * l.length := by
  induction l with
  | nil => rfl
  | cons c cs ih => rw [unR_cons, List.length_append, ih, List.length_cons]; show 6 + _ = _; omega

theorem unR_getElem? (l : List Nat) (p : Nat) :
    (unR l)[p]? = (l[p / 6]?).map fun c => (c - 63) / 2 ^ (5 - p % 6) % 2 == 1 := by
  induction l generalizing p with
  | nil => rfl
  | cons c cs ih =>
    rw [unR_cons, List.getElem?_append, bits6_length]
    by_cases h : p < 6
    · rw [if_pos h, bits6_getElem? _ h, Nat.div_eq_of_lt h, Nat.mod_eq_of_lt h]; rfl
    · obtain ⟨p', rfl⟩ : ∃ p', p = p' + 6 := ⟨p - 6, (Nat.sub_add_cancel (Nat.le_of_not_lt h)).symm⟩
      rw [if_neg h, Nat.add_sub_cancel, Nat.add_div_right p' (by decide), Nat.add_mod_right,
        List.getElem?_cons_succ]
      exact ih _

theorem unR_R (l : List Bool) : unR (R l) = l ++ List.replicate ((6 - l.length % 6) % 6) false := by
  induction l using R.induct with
  | case1 a b c d e f rest ih =>
    rw [R, unR_cons, bits6_val6, ih]
    have : (rest.length + 6) % 6 = rest.length % 6 := by omega
    simp [this]
  | case2 => rfl
  | case3 a => rw [R, unR_cons, bits6_val6]; rfl
  | case4 a b => rw [R, unR_cons, bits6_val6]; rfl
  | case5 a b c => rw [R, unR_cons, bits6_val6]; rfl
  | case6 a b c d => rw [R, unR_cons, bits6_val6]; rfl
  | case7 a b c d e => rw [R, unR_cons, bits6_val6]; rfl

end Codec
