import Mamba.Lemmas.DistanceBiconBK
/-!
# The blocks returned for one component, described through the final DFS tree and lowpoints

`bfin_blocks` reads the blocks off the bookkeeping invariant `BK` after the pop of the root; `bicComponent_spec` is the
statement about one call of `bicComponent` (blocks and reported vertices) that the loop over the components uses.
-/
namespace GDist
open GraphSpec Model

variable {h : G} {com : List Nat} {out0 : List (List Nat)} {st : BicSt} {tp : Nat → Nat} {cs : List Nat}

/-- the blocks added by the DFS of one component: either the component is a single vertex, or they are the sets
`{tp c} ∪ {y | NL c y}` for the non-root vertices `c` with `lowpoints[c] >= depths[tp c]`, each once -/
def BlocksOf (h : G) (com : List Nat) (st : BicSt) (tp : Nat → Nat) (new : List (List Nat)) : Prop :=
  (h.n = 1 ∧ new = [[com.getD 0 0]]) ∨
  (1 < h.n ∧ ∃ ls : List Nat, List.Forall₂ (IsBlk h com st tp) new ls ∧ ls.Nodup ∧
    ∀ c, c ∈ ls ↔ (c < h.n ∧ c ≠ 0 ∧ lo st c ≥ dI st (tp c)))

theorem bfin_blocks (hinj : ∀ a b, a < h.n → b < h.n → com.getD a 0 = com.getD b 0 → a = b)
    {s st0 : BicSt} {t : Int} {c2 : List Nat} (hf : BFin h com out0 s st0 tp cs t c2)
    (hall : ∀ x, x < h.n → bvis s x) (hn : 0 < h.n) :
    ∃ new, s.out ++ (((s.bicoms.dropLast.map fun b => b ++ [0]) ++
        (match s.bicoms.getLast? with | some c => [c] | none => [])).map
          fun b => sortInts (b.map fun x => com.getD x 0)) = out0 ++ new ∧
      BlocksOf h com s tp new := by
  have dt := hf.dt
  have la := hf.la
  have bk := hf.bk
  obtain ⟨E, hE, hF⟩ := bk.out
  have hs : s = popSt st0 0 [] t st0.bicoms c2 := hf.eq
  have hvs : (0 : Nat) ∈ st0.toCheck := by rw [hf.stk]; exact List.mem_cons_self
  have hsplit := bicoms_split hf.last
  have hsb : s.bicoms = st0.bicoms.dropLast ++ [c2 ++ [0]] := by rw [hs]; rfl
  have hso : s.out = st0.out := by rw [hs]; rfl
  have hall0 : ∀ x, x < h.n → bvis st0 x := fun x hx => by
    have := hall x hx
    rw [hs] at this; exact this
  have hlist : ((s.bicoms.dropLast.map fun b => b ++ [0]) ++
      (match s.bicoms.getLast? with | some c => [c] | none => [])) = st0.bicoms.map fun b => b ++ [0] := by
    rw [hsb, List.dropLast_concat, List.getLast?_concat]
    conv_rhs => rw [hsplit]
    simp
  rw [hlist, hso, hE, List.append_assoc, List.map_map]
  refine ⟨_, rfl, ?_⟩
  have hl : ∀ x, lo s x = if x = 0 then t else lo st0 x := by
    intro x; rw [hs]; exact dt.ok.lo_popSt [] t st0.bicoms c2 hn x
  have hfin : ∀ x, x ≠ 0 → x ∉ st0.toCheck := fun x hx hm => by
    rw [hf.stk] at hm; simp at hm; exact hx hm
  by_cases hc2 : c2 = []
  · left
    subst hc2
    have hone : ∀ x, x < h.n → x = 0 := fun x hx => bk.broot hf.stk hf.last x hx (hall0 x hx)
    have hn1 : h.n = 1 := by
      by_contra hne
      have := hone 1 (by omega)
      omega
    have hdl : st0.bicoms.dropLast = [] := by
      cases hdl : st0.bicoms.dropLast with
      | nil => rfl
      | cons b l =>
        exfalso
        have hbm : b ∈ st0.bicoms.dropLast := by rw [hdl]; exact List.mem_cons_self
        have hbne := dt.ok.bpre b hbm
        obtain ⟨x, hx⟩ := getLast?_isSome_of_ne_nil hbne
        obtain ⟨h1, _, _, h4, _⟩ := bk.btop b ((List.dropLast_sublist _).subset hbm) x hx
        exact h4 (hone x h1)
    have hcs : cs = [] := by
      cases hcs : cs with
      | nil => rfl
      | cons c l =>
        exfalso
        obtain ⟨h1, _, h3, _⟩ := (bk.csmem c).1 (by rw [hcs]; exact List.mem_cons_self)
        exact h3 (hone c h1)
    subst hcs
    have hE0 : E = [] := by cases hF; rfl
    subst hE0
    refine ⟨hn1, ?_⟩
    rw [hsplit, hdl]
    simp [sortInts]
  · right
    have hne_all : ∀ b ∈ st0.bicoms, b ≠ [] := by
      intro b hb
      rw [hsplit] at hb
      rcases List.mem_append.1 hb with h0 | h0
      · exact dt.ok.bpre b h0
      · rw [List.mem_singleton.1 h0]; exact hc2
    have htopm : ∀ b ∈ st0.bicoms, ∃ x, b.getLast? = some x ∧ x < h.n ∧ bvis st0 x ∧ x ∉ st0.toCheck ∧ x ≠ 0 ∧
        tp x = 0 ∧ pa st0 x = 0 := by
      intro b hb
      obtain ⟨x, hx⟩ := getLast?_isSome_of_ne_nil (hne_all b hb)
      obtain ⟨h1, h2, h3, h4, h5, h6⟩ := bk.btop b hb x hx
      have : tp x = 0 := by rw [hf.stk] at h5; simpa using h5
      exact ⟨x, hx, h1, h2, h3, h4, this, by rw [h6, this]; rfl⟩
    have hn2 : 1 < h.n := by
      obtain ⟨x, _, h1, _, _, h4, _⟩ := htopm c2 (List.mem_of_getLast? hf.last)
      omega
    refine ⟨hn2, cs ++ st0.bicoms.map (fun b => b.getLast?.getD 0), ?_, ?_, ?_⟩
    · refine List.rel_append (hF.imp fun S c hb => by rw [hs]; exact isBlk_pop dt hf.stk hb) ?_
      rw [List.forall₂_map_left_iff, List.forall₂_map_right_iff, List.forall₂_same]
      intro b hb
      obtain ⟨x, hx, h1, h2, h3, h4, h5, h6⟩ := htopm b hb
      rw [hx, hs]
      apply isBlk_pop dt hf.stk
      simp only [Function.comp, Option.getD_some]
      have hnd := (List.nodup_flatten.1 bk.bnd).1 b hb
      refine isBlk_of_list hinj ⟨h1, h2, h3, h4⟩ h5.symm hn dt.root_vis hnd ?_
        (bk.bmem b hb x hx)
      intro hm
      exact (bk.mem_fin dt hb hm).2.2 hvs
    · rw [List.nodup_append]
      refine ⟨bk.csnd, ?_, ?_⟩
      · rw [List.Nodup, List.pairwise_map]
        refine (List.nodup_flatten.1 bk.bnd).2.imp_of_mem ?_
        intro b b' hb hb' hdis heq
        obtain ⟨x, hx, _⟩ := htopm b hb
        obtain ⟨x', hx', _⟩ := htopm b' hb'
        rw [hx, hx'] at heq
        simp at heq
        subst heq
        exact hdis (List.mem_of_getLast? hx) (List.mem_of_getLast? hx')
      · intro a ha b' hb' hab
        subst hab
        obtain ⟨b, hb, hbx⟩ := List.mem_map.1 hb'
        obtain ⟨x, hx, _, _, _, _, _, h6⟩ := htopm b hb
        rw [hx] at hbx
        simp at hbx
        subst hbx
        have := ((bk.csmem x).1 ha).2.2.2
        rw [h6] at this; omega
    · intro c
      have hlc : ∀ c, c ≠ 0 → lo s c = lo st0 c := fun c hc => by rw [hl]; simp [hc]
      have hdc : ∀ x, dI s x = dI st0 x := fun x => by rw [hs]; rfl
      rw [List.mem_append]
      constructor
      · rintro (hc | hc)
        · obtain ⟨h1, h2, h3, h4⟩ := (bk.csmem c).1 hc
          have := (la.ar2 c h1 h2 h3 h4).2.2.1
          exact ⟨h1, h3, by rw [hlc c h3, hdc]; exact this⟩
        · obtain ⟨b, hb, hbx⟩ := List.mem_map.1 hc
          obtain ⟨x, hx, h1, h2, h3, h4, h5, h6⟩ := htopm b hb
          rw [hx] at hbx
          simp at hbx
          subst hbx
          refine ⟨h1, h4, ?_⟩
          rw [hlc x h4, hdc, h5, dt.root]
          rcases la.loatt x h1 h2 h3 with h0 | ⟨z, a, _, _, _, _, _, _, h0⟩
          · rw [h0]; exact dt.dnn x h2
          · rw [h0]; exact dt.dnn a (hall0 a (by assumption))
      · rintro ⟨hc, hc0, hlc'⟩
        rw [hlc c hc0, hdc] at hlc'
        have hcv := hall0 c hc
        have hcs := hfin c hc0
        rcases la.ar1 c hc hcv hc0 with hp | hp
        · by_cases htc : tp c = 0
          · right
            obtain ⟨b, hb, hbx⟩ := bk.bcov c hc hcv hcs hc0 (by rw [htc]; exact hvs) hp
            exact List.mem_map.2 ⟨b, hb, by rw [hbx]; rfl⟩
          · exfalso
            obtain ⟨rest', hr, _⟩ := la.ar3 c hc hcv hcs hc0 hp htc hlc'
            rw [hf.stk] at hr
            have := (List.cons.inj hr).1
            exact htc this.symm
        · left
          exact (bk.csmem c).2 ⟨hc, hcv, hc0, hp⟩

variable {g : G}

theorem bicComponent_spec (gc : GoodCom g com) (hne : com ≠ [])
    (hconn : ∀ x ∈ com, Reach g (com.getD 0 0) x) (hsym : ∀ u v, g.adj u v = g.adj v u)
    (acc acc' : List (List Nat) × List Nat)
    (hacc : ∀ b ∈ acc.1, b.Pairwise (fun a b => decide (a ≤ b) = true))
    (hres : bicComponent g com acc = .ok acc') :
    ∃ st tp new arts, DFinal (g.induced com) st tp ∧ acc'.1 = acc.1 ++ new ∧
      BlocksOf (g.induced com) com st tp new ∧ acc'.2 = acc.2 ++ arts ∧ arts.Nodup ∧
      ∀ x, x ∈ arts ↔ ∃ i, i < com.length ∧ Crit (g.induced com) st tp i ∧ com.getD i 0 = x := by
  have hnpos : 0 < (g.induced com).n := List.length_pos_iff.2 hne
  have emb := goodCom_emb gc
  rw [bicComponent_eq hne] at hres
  split at hres <;> cases hres
  rename_i st hloop
  have hI0 : BInv (g.induced com) com acc.1 (bicInit (g.induced com).n acc.1) :=
    .inl ⟨fun _ => 0, [], dt_init hnpos acc.1 hacc, la_init hnpos acc.1, bk_init hnpos acc.1,
      List.cons_ne_nil _ _⟩
  obtain ⟨hI, hemp⟩ := bicLoop_invariant (g.induced com) com (BInv (g.induced com) com acc.1)
    (fun st s hI hs => binv_step com emb.inj (induced_symm hsym com) hI hs)
    _ _ st hI0 hloop
  rcases hI with ⟨_, _, _, _, _, hne'⟩ | ⟨st0, tp, cs, t, c2, hf⟩
  · exact absurd hemp hne'
  have dt := hf.dt'
  have hall := all_visited gc hne hconn dt.root_vis
    (fun x hx hxv => dt.fin x hx hxv (by rw [hemp]; simp))
  have df : DFinal (g.induced com) st tp := ⟨dt, hf.la', hall, hemp⟩
  obtain ⟨new, hnew, hB⟩ := bfin_blocks emb.inj hf hall hnpos
  refine ⟨st, tp, new, _, df, hnew, hB, rfl, ?_, fun x => ?_⟩
  · refine (List.nodup_range.filter _).map_on fun a ha b hb hab => ?_
    exact emb.inj a b (List.mem_range.1 (List.mem_filter.1 ha).1) (List.mem_range.1 (List.mem_filter.1 hb).1) hab
  · simp only [List.mem_map, List.mem_filter, List.mem_range]
    constructor
    · rintro ⟨i, ⟨hi, hr⟩, hix⟩
      exact ⟨i, hi, (df.reported_iff hi).1 hr, hix⟩
    · rintro ⟨i, hi, hc, hix⟩
      exact ⟨i, ⟨hi, (df.reported_iff hi).2 hc⟩, hix⟩

end GDist
