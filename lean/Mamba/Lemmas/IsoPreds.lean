import Mamba.Lemmas.IsoCheck
namespace GSearch
open GraphSpec

/-! The predicates used by the harness are hereditary (trivial, order, max degree, triangle-free, K4-free, forest,
bipartite). -/

theorem hereditary_true : Hereditary (fun _ => true) := ⟨fun _ _ _ _ _ _ => rfl, fun _ _ _ _ => rfl⟩

theorem hereditary_orderLE (k : Nat) : Hereditary (orderLE k) where
  iso g h _ _ i hp := by
    simp only [orderLE, decide_eq_true_eq] at hp ⊢
    rw [← i.1]; exact hp
  del g _ _ hp := by
    simp only [orderLE, decide_eq_true_eq] at hp ⊢
    show g.n - 1 ≤ k
    omega

theorem deg_iso {g h : G} {σ : Nat → Nat} (hn : g.n = h.n) (hσ : IsBij g.n σ)
    (hadj : ∀ u v, u < g.n → v < g.n → g.adj u v = h.adj (σ u) (σ v)) {v : Nat} (hv : v < g.n) :
    h.deg (σ v) = g.deg v := by
  unfold G.deg G.nbrs
  rw [← hn]
  have hp : ((List.range g.n).filter fun u => h.adj (σ v) u).Perm
      (((List.range g.n).map σ).filter fun u => h.adj (σ v) u) := (perm_of_isBij hσ).symm.filter _
  rw [hp.length_eq, List.filter_map, List.length_map]
  congr 1
  apply List.filter_congr
  intro u hu
  simp only [Function.comp]
  exact (hadj v u hv (List.mem_range.1 hu)).symm

theorem delLast_adj {g : G} {u v : Nat} (hu : u < g.n - 1) (hv : v < g.n - 1) : (delLast g).adj u v = g.adj u v := by
  simp [delLast, hu, hv]

theorem hereditary_maxDegLE (d : Nat) : Hereditary (maxDegLE d) where
  iso g h _ _ i hp := by
    obtain ⟨hn, σ, hσ, hadj⟩ := i
    simp only [maxDegLE, List.all_eq_true, List.mem_range, decide_eq_true_eq] at hp ⊢
    intro w hw
    obtain ⟨v, hv, rfl⟩ := hσ.surj w (hn ▸ hw)
    rw [deg_iso hn hσ hadj hv]
    exact hp v hv
  del g _ hpos hp := by
    simp only [maxDegLE, List.all_eq_true, List.mem_range, decide_eq_true_eq] at hp ⊢
    intro v hv
    have hv' : v < g.n - 1 := hv
    refine Nat.le_trans ?_ (hp v (by omega))
    unfold G.deg G.nbrs
    have hr : List.range g.n = List.range (g.n - 1) ++ [g.n - 1] := by
      have : g.n = (g.n - 1) + 1 := by omega
      conv_lhs => rw [this, List.range_succ]
    rw [hr, List.filter_append, List.length_append]
    refine Nat.le_trans (Nat.le_of_eq ?_) (Nat.le_add_right _ _)
    congr 1
    apply List.filter_congr
    intro u hu
    exact delLast_adj hv' (List.mem_range.1 hu)

theorem hereditary_triangleFree : Hereditary triangleFree where
  iso g h _ _ i hp := by
    obtain ⟨hn, σ, hσ, hadj⟩ := i
    simp only [triangleFree, List.all_eq_true, List.mem_range] at hp ⊢
    intro a ha b hb c hc
    obtain ⟨u, hu, rfl⟩ := hσ.surj a (hn ▸ ha)
    obtain ⟨v, hv, rfl⟩ := hσ.surj b (hn ▸ hb)
    obtain ⟨w, hw, rfl⟩ := hσ.surj c (hn ▸ hc)
    rw [← hadj u v hu hv, ← hadj u w hu hw, ← hadj v w hv hw]
    exact hp u hu v hv w hw
  del g _ _ hp := by
    simp only [triangleFree, List.all_eq_true, List.mem_range] at hp ⊢
    intro a ha b hb c hc
    have ha' : a < g.n - 1 := ha
    have hb' : b < g.n - 1 := hb
    have hc' : c < g.n - 1 := hc
    rw [delLast_adj ha' hb', delLast_adj ha' hc', delLast_adj hb' hc']
    exact hp a (by omega) b (by omega) c (by omega)

theorem hereditary_k4Free : Hereditary k4Free where
  iso g h _ _ i hp := by
    obtain ⟨hn, σ, hσ, hadj⟩ := i
    simp only [k4Free, List.all_eq_true, List.mem_range] at hp ⊢
    intro a ha b hb c hc e he
    obtain ⟨u, hu, rfl⟩ := hσ.surj a (hn ▸ ha)
    obtain ⟨v, hv, rfl⟩ := hσ.surj b (hn ▸ hb)
    obtain ⟨w, hw, rfl⟩ := hσ.surj c (hn ▸ hc)
    obtain ⟨x, hx, rfl⟩ := hσ.surj e (hn ▸ he)
    rw [← hadj u v hu hv, ← hadj u w hu hw, ← hadj v w hv hw, ← hadj u x hu hx, ← hadj v x hv hx, ← hadj w x hw hx]
    exact hp u hu v hv w hw x hx
  del g _ _ hp := by
    simp only [k4Free, List.all_eq_true, List.mem_range] at hp ⊢
    intro a ha b hb c hc e he
    have ha' : a < g.n - 1 := ha
    have hb' : b < g.n - 1 := hb
    have hc' : c < g.n - 1 := hc
    have he' : e < g.n - 1 := he
    rw [delLast_adj ha' hb', delLast_adj ha' hc', delLast_adj hb' hc', delLast_adj ha' he', delLast_adj hb' he',
      delLast_adj hc' he']
    exact hp a (by omega) b (by omega) c (by omega) e (by omega)

def TwoCol (g : G) (f : Nat → Bool) : Prop := ∀ u v, u < g.n → v < g.n → g.adj u v = true → f u ≠ f v

theorem contains_filter_range {n : Nat} (f : Nat → Bool) {v : Nat} (hv : v < n) :
    ((List.range n).filter f).contains v = f v := by
  cases hf : f v
  · have : ¬ v ∈ (List.range n).filter f := by
      intro hm; have := (List.mem_filter.1 hm).2; rw [hf] at this; cases this
    simpa [List.contains_iff_mem] using this
  · exact List.contains_iff_mem.2 (List.mem_filter.2 ⟨List.mem_range.2 hv, hf⟩)

theorem isBipartite_iff {g : G} (hg : g.WF) : isBipartite g = true ↔ ∃ f, TwoCol g f := by
  unfold isBipartite
  simp only [List.any_eq_true, List.all_eq_true]
  constructor
  · rintro ⟨c, -, hc⟩
    refine ⟨fun v => c.contains v, ?_⟩
    intro u v hu hv hadj
    have key : ∀ a b, a < b → b < g.n → g.adj a b = true → c.contains a ≠ c.contains b := by
      intro a b hab hb ha
      have := hc (a, b) (mem_pairs.2 ⟨hab, hb⟩)
      simp only [ha, Bool.true_and, Bool.not_eq_eq_eq_not, Bool.not_true, beq_eq_false_iff_ne] at this
      exact this
    rcases Nat.lt_trichotomy u v with h | h | h
    · exact key u v h hv hadj
    · subst h; rw [hg.irrefl] at hadj; cases hadj
    · rw [hg.symm] at hadj
      exact fun e => key v u h hu hadj e.symm
  · rintro ⟨f, hf⟩
    refine ⟨(List.range g.n).filter f, filter_mem_subsets f _, ?_⟩
    rintro ⟨a, b⟩ hab
    have := mem_pairs.1 hab
    have ha : a < g.n := Nat.lt_trans this.1 this.2
    simp only [contains_filter_range f ha, contains_filter_range f this.2]
    cases hadj : g.adj a b
    · simp
    · have := hf a b ha this.2 hadj
      simp [this]

theorem hereditary_isBipartite : Hereditary isBipartite where
  iso g h hg hh i hp := by
    obtain ⟨hn, σ, hσ, hadj⟩ := i
    obtain ⟨f, hf⟩ := (isBipartite_iff hg).1 hp
    refine (isBipartite_iff hh).2 ⟨fun w => f (hσ.inv w), ?_⟩
    intro a b ha hb hab
    rw [← hn] at ha hb
    have ia := hσ.inv_spec ha
    have ib := hσ.inv_spec hb
    have := hadj _ _ ia.1 ib.1
    rw [ia.2, ib.2, hab] at this
    exact hf _ _ ia.1 ib.1 this
  del g hg _ hp := by
    obtain ⟨f, hf⟩ := (isBipartite_iff hg).1 hp
    refine (isBipartite_iff (delLast_wf hg)).2 ⟨f, ?_⟩
    intro u v hu hv hadj
    have hu' : u < g.n - 1 := hu
    have hv' : v < g.n - 1 := hv
    simp only [delLast, hu', hv', decide_true, Bool.true_and] at hadj
    exact hf u v (by omega) (by omega) hadj

/-- a set of vertices in which every vertex has at least two neighbours (a graph is a forest iff there is none) -/
structure Core (g : G) (C : List Nat) : Prop where
  nodup : C.Nodup
  lt : ∀ v ∈ C, v < g.n
  deg2 : ∀ v ∈ C, 2 ≤ (C.filter fun u => g.adj v u).length

theorem filter_length_le_of_subset {C A : List Nat} (hC : C.Nodup) (hsub : ∀ v ∈ C, v ∈ A) (p : Nat → Bool) :
    (C.filter p).length ≤ (A.filter p).length := by
  apply List.Subperm.length_le
  apply List.subperm_of_subset (hC.filter p)
  intro v hv
  have := List.mem_filter.1 hv
  exact List.mem_filter.2 ⟨hsub v this.1, this.2⟩

theorem core_subset_peel {g : G} {C : List Nat} (hC : Core g C) :
    ∀ (f : Nat) (alive : List Nat), (∀ v ∈ C, v ∈ alive) → ∀ v ∈ C, v ∈ peel g f alive
  | 0, alive, h => h
  | f + 1, alive, h => by
    apply core_subset_peel hC f
    intro v hv
    refine List.mem_filter.2 ⟨h v hv, ?_⟩
    have := filter_length_le_of_subset hC.nodup h (fun u => g.adj v u)
    have h2 := hC.deg2 v hv
    simp only [decide_eq_true_eq]
    omega

theorem peel_stable (g : G) {alive : List Nat}
    (h : ∀ v ∈ alive, 2 ≤ (alive.filter fun u => g.adj v u).length) : ∀ f, peel g f alive = alive
  | 0 => rfl
  | f + 1 => by
    have : (alive.filter fun v => decide (2 ≤ (alive.filter fun u => g.adj v u).length)) = alive := by
      apply List.filter_eq_self.2
      intro v hv; simpa using h v hv
    simp only [peel, this]
    exact peel_stable g h f

theorem peel_shrinks (g : G) : ∀ (f : Nat) (alive : List Nat),
    (peel g f alive).length + f ≤ alive.length ∨
      ∀ v ∈ peel g f alive, 2 ≤ ((peel g f alive).filter fun u => g.adj v u).length
  | 0, alive => Or.inl (by simp [peel])
  | f + 1, alive => by
    simp only [peel]
    by_cases hst : (alive.filter fun v => decide (2 ≤ (alive.filter fun u => g.adj v u).length)) = alive
    · right
      have h : ∀ v ∈ alive, 2 ≤ (alive.filter fun u => g.adj v u).length := by
        intro v hv
        have := List.filter_eq_self.1 hst v hv
        simpa using this
      rw [hst, peel_stable g h f]
      exact h
    · have hlt : (alive.filter fun v => decide (2 ≤ (alive.filter fun u => g.adj v u).length)).length < alive.length := by
        have hle := List.length_filter_le (fun v => decide (2 ≤ (alive.filter fun u => g.adj v u).length)) alive
        rcases Nat.lt_or_ge (alive.filter fun v => decide (2 ≤ (alive.filter fun u => g.adj v u).length)).length
          alive.length with h | h
        · exact h
        · exact absurd (List.filter_eq_self.2 (List.length_filter_eq_length_iff.1 (Nat.le_antisymm hle h))) hst
      rcases peel_shrinks g f (alive.filter fun v => decide (2 ≤ (alive.filter fun u => g.adj v u).length)) with h | h
      · left; omega
      · right; exact h

theorem peel_nodup (g : G) : ∀ (f : Nat) (alive : List Nat), alive.Nodup → (peel g f alive).Nodup
  | 0, _, h => h
  | f + 1, _, h => peel_nodup g f _ (h.filter _)

theorem peel_subset (g : G) : ∀ (f : Nat) (alive : List Nat), ∀ v ∈ peel g f alive, v ∈ alive
  | 0, _, _, h => h
  | f + 1, _, v, h => (List.mem_filter.1 (peel_subset g f _ v h)).1

theorem isForest_iff (g : G) : isForest g = true ↔ ∀ C, Core g C → C = [] := by
  unfold isForest
  rw [List.isEmpty_iff]
  constructor
  · intro he C hC
    by_contra hne
    obtain ⟨v, hv⟩ := List.exists_mem_of_ne_nil C hne
    have := core_subset_peel hC g.n (List.range g.n) (fun u hu => List.mem_range.2 (hC.lt u hu)) v hv
    rw [he] at this; cases this
  · intro h
    rcases peel_shrinks g g.n (List.range g.n) with hs | hs
    · simp only [List.length_range] at hs
      exact List.length_eq_zero_iff.1 (by omega)
    · exact h _ ⟨peel_nodup g _ _ List.nodup_range,
        fun v hv => List.mem_range.1 (peel_subset g _ _ v hv), hs⟩

theorem core_iso {g h : G} {σ : Nat → Nat} (hσ : IsBij g.n σ)
    (hadj : ∀ u v, u < g.n → v < g.n → g.adj u v = h.adj (σ u) (σ v)) (hn : g.n = h.n) {C : List Nat} (hC : Core g C) :
    Core h (C.map σ) where
  nodup := List.Nodup.map_on (fun x hx y hy e => hσ.inj x y (hC.lt x hx) (hC.lt y hy) e) hC.nodup
  lt := by
    intro w hw
    obtain ⟨v, hv, rfl⟩ := List.mem_map.1 hw
    exact hn ▸ hσ.maps v (hC.lt v hv)
  deg2 := by
    intro w hw
    obtain ⟨v, hv, rfl⟩ := List.mem_map.1 hw
    rw [List.filter_map, List.length_map]
    have : (C.filter ((fun u => h.adj (σ v) u) ∘ σ)) = C.filter fun u => g.adj v u := by
      apply List.filter_congr
      intro u hu
      simp only [Function.comp]
      exact (hadj v u (hC.lt v hv) (hC.lt u hu)).symm
    rw [this]
    exact hC.deg2 v hv

theorem hereditary_isForest : Hereditary isForest where
  iso g h _ _ i hp := by
    rw [isForest_iff] at hp ⊢
    intro C hC
    have i' := i.symm
    obtain ⟨hn, σ, hσ, hadj⟩ := i'
    have := hp _ (core_iso hσ hadj hn hC)
    exact List.map_eq_nil_iff.1 this
  del g _ _ hp := by
    rw [isForest_iff] at hp ⊢
    intro C hC
    apply hp C
    refine ⟨hC.nodup, fun v hv => ?_, ?_⟩
    · have : v < g.n - 1 := hC.lt v hv
      omega
    · intro v hv
      have hv' : v < g.n - 1 := hC.lt v hv
      have : (C.filter fun u => g.adj v u) = C.filter fun u => (delLast g).adj v u := by
        apply List.filter_congr
        intro u hu
        have hu' : u < g.n - 1 := hC.lt u hu
        simp [delLast, hv', hu']
      rw [this]
      exact hC.deg2 v hv

end GSearch
