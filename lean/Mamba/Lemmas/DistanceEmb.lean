import Mamba.Spec.Graph
import Mamba.Lemmas.ListGetD
/-!
# Lemmas for C10: embeddings onto a vertex set closed under adjacency; the subgraph induced on a component is one
-/
namespace GDist
open GraphSpec

/-- `f` embeds `h` into `g` as an induced subgraph whose image is closed under adjacency -/
structure Emb (g h : G) (f : Nat → Nat) : Prop where
  inj : ∀ a b, a < h.n → b < h.n → f a = f b → a = b
  rng : ∀ a, a < h.n → f a < g.n
  adj : ∀ a b, a < h.n → b < h.n → h.adj a b = g.adj (f a) (f b)
  closed : ∀ a w', a < h.n → w' < g.n → g.adj (f a) w' = true → ∃ w, w < h.n ∧ f w = w'

variable {g : G}

/-- the component lists the flood fill produces: duplicate-free, in range, closed under adjacency -/
structure GoodCom (g : G) (com : List Nat) : Prop where
  nd : com.Nodup
  rng : ∀ x ∈ com, x < g.n
  closed : ∀ a ∈ com, ∀ b, g.adj a b = true → b < g.n → b ∈ com

theorem goodCom_emb {com : List Nat} (gc : GoodCom g com) : Emb g (g.induced com) (fun i => com.getD i 0) := by
  refine { inj := ?_, rng := ?_, adj := ?_, closed := ?_ }
  · intro a b ha hb hab
    have ha' : a < com.length := ha
    have hb' : b < com.length := hb
    simp only [getD_eq_getElem ha', getD_eq_getElem hb'] at hab
    exact (List.getElem_inj gc.nd).1 hab
  · intro a ha
    have ha' : a < com.length := ha
    simp only [getD_eq_getElem ha']
    exact gc.rng _ (List.getElem_mem ha')
  · intro a b ha hb
    have ha' : a < com.length := ha
    have hb' : b < com.length := hb
    simp [G.induced, ha', hb']
  · intro a w' ha hw' hadj
    have ha' : a < com.length := ha
    simp only [getD_eq_getElem ha'] at hadj
    have := gc.closed _ (List.getElem_mem ha') w' hadj hw'
    obtain ⟨k, hk, rfl⟩ := List.mem_iff_getElem.1 this
    exact ⟨k, hk, getD_eq_getElem hk⟩

theorem induced_symm (hsym : ∀ u v, g.adj u v = g.adj v u) (com : List Nat) :
    ∀ u v, (g.induced com).adj u v = (g.induced com).adj v u := by
  intro u v
  simp only [G.induced]
  rw [hsym (com.getD u 0)]
  cases decide (u < com.length) <;> cases decide (v < com.length) <;> simp

theorem induced_irrefl (hirr : ∀ v, g.adj v v = false) (com : List Nat) :
    ∀ v, (g.induced com).adj v v = false := by
  intro v; simp [G.induced, hirr]

end GDist
