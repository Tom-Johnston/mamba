import Mamba.Model.DawgGob
/-! `searchGE` / `insertAt` on sorted lists: the position `sort.Search` finds in the sorted id list of the gob traversal
(C14) and the insertion there. -/
namespace Dawg

theorem searchGE_le_length (l : List Nat) (x : Nat) : searchGE l x ≤ l.length := by
  induction l with
  | nil => simp [searchGE]
  | cons a l ih =>
    rw [searchGE]
    split
    · exact Nat.succ_le_succ ih
    · exact Nat.zero_le _

theorem get_searchGE_iff (l : List Nat) (x : Nat) (hs : l.Pairwise (· ≤ ·)) :
    l[searchGE l x]? = some x ↔ x ∈ l := by
  induction l with
  | nil => simp [searchGE]
  | cons a l ih =>
    rw [List.pairwise_cons] at hs
    simp only [searchGE]
    split
    · next h =>
      simp only [List.getElem?_cons_succ, List.mem_cons]
      rw [ih hs.2]
      constructor
      · exact Or.inr
      · rintro (h1 | h1)
        · exact absurd h1 (Nat.ne_of_gt h)
        · exact h1
    · next h =>
      simp only [List.getElem?_cons_zero, Option.some.injEq, List.mem_cons]
      constructor
      · intro h1; exact Or.inl h1.symm
      · rintro (h1 | h1)
        · exact h1.symm
        · exact Nat.le_antisymm (hs.1 x h1) (Nat.not_lt.1 h)

theorem searchGE_lt_of_mem (l : List Nat) (x : Nat) (hs : l.Pairwise (· ≤ ·)) (hx : x ∈ l) :
    searchGE l x < l.length := by
  have := (get_searchGE_iff l x hs).2 hx
  rcases List.getElem?_eq_some_iff.1 this with ⟨h, _⟩
  exact h

theorem insertAt_cons_succ (a : Nat) (l : List Nat) (i x : Nat) :
    insertAt (a :: l) (i + 1) x = a :: insertAt l i x := by
  simp [insertAt]

theorem insertAt_perm (l : List Nat) (i x : Nat) : (insertAt l i x).Perm (x :: l) := by
  unfold insertAt
  have h1 : (l.take i ++ x :: l.drop i).Perm (x :: (l.take i ++ l.drop i)) := List.perm_middle
  rwa [List.take_append_drop] at h1

theorem mem_insertAt (l : List Nat) (i x y : Nat) : y ∈ insertAt l i x ↔ y = x ∨ y ∈ l :=
  (insertAt_perm l i x).mem_iff.trans List.mem_cons

theorem sorted_insertAt (l : List Nat) (x : Nat) (hs : l.Pairwise (· ≤ ·)) :
    (insertAt l (searchGE l x) x).Pairwise (· ≤ ·) := by
  induction l with
  | nil => simp [searchGE, insertAt]
  | cons a l ih =>
    rw [List.pairwise_cons] at hs
    simp only [searchGE]
    split
    · next h =>
      rw [insertAt_cons_succ, List.pairwise_cons]
      refine ⟨?_, ih hs.2⟩
      intro y hy
      rw [mem_insertAt] at hy
      rcases hy with hy | hy
      · exact hy ▸ Nat.le_of_lt h
      · exact hs.1 y hy
    · next h =>
      simp only [insertAt, List.take_zero, List.drop_zero, List.nil_append]
      rw [List.pairwise_cons]
      refine ⟨?_, List.pairwise_cons.2 hs⟩
      intro y hy
      rw [List.mem_cons] at hy
      rcases hy with hy | hy
      · exact hy ▸ Nat.not_lt.1 h
      · exact Nat.le_trans (Nat.not_lt.1 h) (hs.1 y hy)

theorem sorted_lt_of_nodup {l : List Nat} (hs : l.Pairwise (· ≤ ·)) (hn : l.Nodup) : l.Pairwise (· < ·) :=
  (hs.and hn).imp fun h => Nat.lt_of_le_of_ne h.1 h.2

end Dawg
