import Mathlib.Data.Nat.Factorial.Basic
/-! The goto machines of `RestrictedPrefixPermutations` and `PermutationsByPattern` get the fuel
`16 * (n+1)! + 16`; the model writes the factorial as a fold. -/
namespace Iter

theorem foldl_mul_succ_eq_factorial : ∀ m : Nat,
    (List.range m).foldl (fun acc i => acc * (i + 1)) 1 = m.factorial
  | 0 => rfl
  | m + 1 => by
    rw [List.range_succ, List.foldl_append, foldl_mul_succ_eq_factorial m]
    simp [Nat.factorial_succ, Nat.mul_comm]

end Iter
