import Mamba.Lemmas.CanonFTreeDef
/-!
# The cell of a vertex is the bin of its position (`cellOf` under `PartInv`)
-/
namespace CanonF

theorem cellOf_order {n : Nat} {op : OP} (hp : PartInv n op) {p v : Nat} (hv : op.order.toList[p]? = some v) :
    cellOf op v = binIdx op.binDividers.toList p := by
  unfold cellOf; rw [hp.inCell p v hv]; rfl

theorem cellOf_pos {n : Nat} {op : OP} (hp : PartInv n op) {v : Nat} (hv : v < n) :
    ∃ p, p < n ∧ op.order.toList[p]? = some v ∧ cellOf op v = binIdx op.binDividers.toList p := by
  have hmem : v ∈ op.order.toList := hp.perm.mem_iff.2 (List.mem_range.2 hv)
  obtain ⟨p, hpv⟩ := List.mem_iff_getElem?.1 hmem
  have hpl : p < n := by
    have := (List.getElem?_eq_some_iff.1 hpv).1
    rw [hp.length_order] at this; exact this
  exact ⟨p, hpl, hpv, cellOf_order hp hpv⟩

theorem cellOf_lt {n : Nat} {op : OP} (hp : PartInv n op) {v : Nat} (hv : v < n) : cellOf op v < op.binDividers.len := by
  obtain ⟨p, hpn, _, hc⟩ := cellOf_pos hp hv
  rw [hc]
  have := binIdx_lt _ n p hp.last hpn
  rw [hp.length_bd] at this; exact this

end CanonF
