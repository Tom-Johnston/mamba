import Mamba.Lemmas.CanonFOrbit
import Mamba.Lemmas.CanonFStep
/-!
# Heuristic 2 on the best-leaf path (`h2Best`), and "non-roots stay non-roots" for the union–find operations
-/
namespace CanonF
open Disjoint (rep)

theorem rep_is_root {ds : Disjoint.DS} (hds : Disjoint.Inv ds) {v : Nat} (hv : v < ds.size) :
    Disjoint.rep ds v < ds.size ∧ ∃ y, ds[Disjoint.rep ds v]? = some y ∧ y < 0 := by
  have h1 := Disjoint.rep_lt hds v hv
  have h2 := Disjoint.rep_isRoot hds v hv
  refine ⟨h1, ds[Disjoint.rep ds v], by simp [h1], ?_⟩
  have : ds.getD (Disjoint.rep ds v) 0 = ds[Disjoint.rep ds v] := Array.getD_of_getElem? (by simp [h1])
  rw [← this]; exact h2

theorem rep_self_of_root {ds : Disjoint.DS} {v : Nat} {y : Int} (hv : ds[v]? = some y) (hy : y < 0) :
    Disjoint.rep ds v = v :=
  Disjoint.rep_of_root ds v (by rw [Array.getD_of_getElem? hv]; exact hy)

theorem h2_find_ok {ds d' : Disjoint.DS} {x r : Nat} (hds : Disjoint.Inv ds) (h : Disjoint.find ds x = .ok (d', r)) :
    x < ds.size ∧ r = Disjoint.rep ds x ∧ Disjoint.Inv d' ∧ d'.size = ds.size ∧
      ∀ z, z < ds.size → Disjoint.rep d' z = Disjoint.rep ds z := by
  have hx := orb_find_lt h
  obtain ⟨d1, e1, i1, s1, k1⟩ := Disjoint.find_spec hds x hx
  rw [e1] at h
  injection h with h
  injection h with hd hr
  subst hd
  exact ⟨hx, hr.symm, i1, s1, k1⟩

theorem h2_nonroot_compress (tmp : Nat) : ∀ (xs : List Nat) (ds : Disjoint.DS) {w : Nat} {y : Int},
    ds[w]? = some y → y ≥ 0 → ∃ y', (Disjoint.compress ds tmp xs)[w]? = some y' ∧ y' ≥ 0 := by
  intro xs
  induction xs with
  | nil => intro ds w y hw hy; exact ⟨y, hw, hy⟩
  | cons s xs ih =>
    intro ds w y hw hy
    have e : Disjoint.compress ds tmp (s :: xs) = Disjoint.compress (ds.setIfInBounds s (tmp : Int)) tmp xs := rfl
    rw [e]
    have hws : w < ds.size := by
      apply Classical.byContradiction; intro hc
      rw [Disjoint.getElem?_none ds w hc] at hw; cases hw
    by_cases hsw : s = w
    · subst hsw
      exact ih _ (y := (tmp : Int)) (by rw [Array.getElem?_setIfInBounds, if_pos rfl, if_pos hws]) (Int.natCast_nonneg tmp)
    · exact ih _ (y := y) (by rw [Array.getElem?_setIfInBounds, if_neg hsw]; exact hw) hy

/-- `Find` only redirects non-roots (path compression); holds without the invariant -/
theorem nonroot_find' {ds ds' : Disjoint.DS} {x r w : Nat} (h : Disjoint.find ds x = .ok (ds', r)) {y : Int}
    (hw : ds[w]? = some y) (hy : y ≥ 0) : ∃ y', ds'[w]? = some y' ∧ y' ≥ 0 := by
  unfold Disjoint.find Disjoint.findF at h
  osplit h
  · cases h; exact ⟨y, hw, hy⟩
  · cases h; exact h2_nonroot_compress _ _ _ hw hy

set_option linter.unusedVariables false in
theorem nonroot_find {ds ds' : Disjoint.DS} {x r w : Nat} (hds : Disjoint.Inv ds) (h : Disjoint.find ds x = .ok (ds', r))
    {y : Int} (hw : ds[w]? = some y) (hy : y ≥ 0) : ∃ y', ds'[w]? = some y' ∧ y' ≥ 0 :=
  nonroot_find' h hw hy

theorem h2_link_frame {ds ds' : Disjoint.DS} {a b : Nat} (h : Disjoint.link ds a b = .ok ds') (w : Nat)
    (hwa : w ≠ a) (hwb : w ≠ b) : ds'[w]? = ds[w]? := by
  unfold Disjoint.link at h
  osplit h
  · cases h; rfl
  · cases h; rw [Array.getElem?_setIfInBounds, if_neg (Ne.symm hwb)]
  · cases h; rw [Array.getElem?_setIfInBounds, if_neg (Ne.symm hwa)]
  · cases h
    rw [Array.getElem?_setIfInBounds, if_neg (Ne.symm hwb), Array.getElem?_setIfInBounds, if_neg (Ne.symm hwa)]

theorem nonroot_union {ds ds' : Disjoint.DS} {x y w : Nat} (hds : Disjoint.Inv ds) (h : Disjoint.union ds x y = .ok ds')
    {v : Int} (hw : ds[w]? = some v) (hv : v ≥ 0) : ∃ v', ds'[w]? = some v' ∧ v' ≥ 0 := by
  unfold Disjoint.union at h
  cases hf1 : Disjoint.find ds x with
  | ok pr1 =>
    obtain ⟨d1, px⟩ := pr1
    rw [hf1] at h; simp only at h
    obtain ⟨hx, hpx, i1, s1, k1⟩ := h2_find_ok hds hf1
    obtain ⟨v1, hw1, hv1⟩ := nonroot_find' hf1 hw hv
    cases hf2 : Disjoint.find d1 y with
    | ok pr2 =>
      obtain ⟨d2, py⟩ := pr2
      rw [hf2] at h; simp only at h
      obtain ⟨hy, hpy, i2, s2, k2⟩ := h2_find_ok i1 hf2
      obtain ⟨v2, hw2, hv2⟩ := nonroot_find' hf2 hw1 hv1
      have hrx : d2.getD px 0 < 0 := by
        have := Disjoint.rep_isRoot i2 x (by rw [s2, s1]; exact hx)
        rw [k2 x (by rw [s1]; exact hx), k1 x hx, ← hpx] at this; exact this
      have hry : d2.getD py 0 < 0 := by
        have := Disjoint.rep_isRoot i2 y (by rw [s2]; exact hy)
        rw [k2 y hy, ← hpy] at this; exact this
      have hwx : w ≠ px := by
        intro e; subst e; rw [Array.getD_of_getElem? hw2] at hrx; exact absurd hrx (Int.not_lt.2 hv2)
      have hwy : w ≠ py := by
        intro e; subst e; rw [Array.getD_of_getElem? hw2] at hry; exact absurd hry (Int.not_lt.2 hv2)
      exact ⟨v2, by rw [h2_link_frame h w hwx hwy]; exact hw2, hv2⟩
    | panic => rw [hf2] at h; simp at h
    | outOfFuel => rw [hf2] at h; simp at h
  | panic => rw [hf1] at h; simp at h
  | outOfFuel => rw [hf1] at h; simp at h

/-- no size hypothesis is needed: a successful `Find` has its argument in range -/
theorem nonroot_orbitStep {order permInv : Sl Nat} {i : Nat} {ds ds' : Disjoint.DS} {mm mm' : Bool}
    (hds : Disjoint.Inv ds) (h : orbitStep order permInv i (ds, mm) = .ok (ds', mm')) :
    Disjoint.Inv ds' ∧ ds'.size = ds.size ∧
      ∀ {w : Nat} {y : Int}, ds[w]? = some y → y ≥ 0 → ∃ y', ds'[w]? = some y' ∧ y' ≥ 0 := by
  obtain ⟨p, v, d1, r1, d2, r2, _, _, hf1, hf2, hcase⟩ := orbitStep_ok h
  obtain ⟨hx1, _, i1, s1, _⟩ := h2_find_ok hds hf1
  obtain ⟨hx2, _, i2, s2, _⟩ := h2_find_ok i1 hf2
  rcases hcase with ⟨_, hu, _⟩ | ⟨_, rfl, _⟩
  · obtain ⟨d3, e3, i3, s3, _⟩ := Disjoint.union_spec i2 i v (by rw [s2]; exact hx2) (by rw [s2, s1]; exact hx1)
    cases e3.symm.trans hu
    refine ⟨i3, by rw [s3, s2, s1], fun hw hy => ?_⟩
    obtain ⟨y1, hw1, hy1⟩ := nonroot_find' hf1 hw hy
    obtain ⟨y2, hw2, hy2⟩ := nonroot_find' hf2 hw1 hy1
    exact nonroot_union i2 hu hw2 hy2
  · refine ⟨i2, by rw [s2, s1], fun hw hy => ?_⟩
    obtain ⟨y1, hw1, hy1⟩ := nonroot_find' hf1 hw hy
    exact nonroot_find' hf2 hw1 hy1

theorem nonroot_orbitLoop {order permInv : Sl Nat} {n : Nat} {ds ds' : Disjoint.DS} {mm mm' : Bool}
    (hds : Disjoint.Inv ds) (h : forRange (orbitStep order permInv) n 0 (ds, mm) = .ok (ds', mm'))
    {w : Nat} {y : Int} (hw : ds[w]? = some y) (hy : y ≥ 0) : ∃ y', ds'[w]? = some y' ∧ y' ≥ 0 := by
  have key := forRange_inv (orbitStep order permInv)
    (fun _ (st : Disjoint.DS × Bool) => Disjoint.Inv st.1 ∧ ∃ y', st.1[w]? = some y' ∧ y' ≥ 0)
    n 0 (ds, mm) (ds', mm') ⟨hds, y, hw, hy⟩ ?_ h
  · exact key.2
  · rintro i ⟨d, m⟩ ⟨d', m'⟩ _ _ ⟨j1, y1, hw1, hy1⟩ hstep
    obtain ⟨a, _, c⟩ := nonroot_orbitStep j1 hstep
    exact ⟨a, c hw1 hy1⟩

/-- `binEndLoop` returns a lower bound of all dividers `> cp` (the first such divider, or the default if there is none) -/
theorem h2_binEnd (bd : Sl Nat) (cp dflt : Nat) (hs : bd.toList.Pairwise (· < ·)) : ∀ (k i be : Nat),
    bd.toList.length ≤ i + k → (∀ j d, j < i → bd.toList[j]? = some d → d ≤ cp) →
    binEndLoop bd cp dflt k i = .ok be → ∀ d ∈ bd.toList, cp < d → be ≤ d := by
  intro k
  induction k with
  | zero =>
    intro i be hlen hlow _ d hd hcd
    obtain ⟨j, hj, e⟩ := List.getElem_of_mem hd
    have := hlow j d (Nat.lt_of_lt_of_le hj hlen) (by rw [List.getElem?_eq_getElem hj, e])
    exact absurd hcd (Nat.not_lt.2 this)
  | succ k ih =>
    intro i be hlen hlow h d hd hcd
    rw [binEndLoop] at h
    cases hg : bd.get i with
    | ok d0 =>
      rw [hg] at h; simp only at h
      have hg' : bd.toList[i]? = some d0 := Sl.get_eq_toList.1 hg
      by_cases hc : cp < d0
      · rw [if_pos hc] at h
        injection h with h
        subst h
        obtain ⟨j, hj, e⟩ := List.getElem_of_mem hd
        obtain ⟨hi, e0⟩ := List.getElem?_eq_some_iff.1 hg'
        by_cases hji : j < i
        · exact absurd hcd (Nat.not_lt.2 (hlow j d hji (by rw [List.getElem?_eq_getElem hj, e])))
        · by_cases hji' : j = i
          · subst hji'; rw [e0] at e; exact Nat.le_of_eq e
          · have := List.pairwise_iff_getElem.1 hs i j hi hj (Nat.lt_of_le_of_ne (Nat.le_of_not_lt hji) (Ne.symm hji'))
            rw [e0, e] at this; exact Nat.le_of_lt this
      · rw [if_neg hc] at h
        refine ih (i + 1) be (by rw [Nat.add_right_comm]; exact hlen) ?_ h d hd hcd
        intro j d' hj hd'
        by_cases hji : j < i
        · exact hlow j d' hji hd'
        · have : j = i := Nat.le_antisymm (Nat.le_of_lt_succ hj) (Nat.le_of_not_lt hji)
          subst this
          rw [hg'] at hd'; injection hd' with hd'; exact hd' ▸ Nat.le_of_not_lt hc
    | panic => rw [hg] at h; simp at h
    | outOfFuel => rw [hg] at h; simp at h

theorem h2_orbitScan {n : Nat} (order : Sl Nat) (r0 : Nat) : ∀ (c k : Nat) (ds ds' : Disjoint.DS) (b : Bool),
    Disjoint.Inv ds → ds.size = n → orbitScan order r0 c k ds = .ok (b, ds') →
    Disjoint.Inv ds' ∧ ds'.size = n ∧ (∀ v, v < n → Disjoint.rep ds' v = Disjoint.rep ds v) ∧
      (b = true → ∃ q w', k ≤ q ∧ q < k + c ∧ order.toList[q]? = some w' ∧ w' < n ∧ Disjoint.rep ds w' = r0) := by
  intro c
  induction c with
  | zero =>
    intro k ds ds' b hds hsz h
    simp only [orbitScan] at h
    injection h with h
    injection h with hb hd
    subst hd
    exact ⟨hds, hsz, fun _ _ => rfl, fun e => by rw [← hb] at e; cases e⟩
  | succ c ih =>
    intro k ds ds' b hds hsz h
    obtain ⟨v, d1, r, hg, hf, hcase⟩ := orbitScan_succ.1 h
    obtain ⟨hv, hr, i1, s1, k1⟩ := h2_find_ok hds hf
    by_cases hrr : r = r0
    · rw [if_pos hrr] at hcase
      obtain ⟨_, rfl⟩ := hcase
      refine ⟨i1, by rw [s1]; exact hsz, fun z hz => k1 z (hsz.symm ▸ hz), fun _ => ?_⟩
      exact ⟨k, v, Nat.le_refl _, Nat.lt_add_of_pos_right (Nat.succ_pos c), Sl.get_eq_toList.1 hg, hsz ▸ hv,
        by rw [← hr]; exact hrr⟩
    · rw [if_neg hrr] at hcase
      obtain ⟨a1, a2, a3, a4⟩ := ih (k + 1) d1 ds' b i1 (by rw [s1]; exact hsz) hcase
      refine ⟨a1, a2, fun z hz => by rw [a3 z hz, k1 z (hsz.symm ▸ hz)], fun hb => ?_⟩
      obtain ⟨q, w', q1, q2, q3, q4, q5⟩ := a4 hb
      rw [Nat.add_right_comm] at q2
      exact ⟨q, w', Nat.le_of_succ_le q1, q2, q3, q4, by rw [← k1 w' (hsz.symm ▸ q4)]; exact q5⟩

theorem h2Best_spec {n : Nat} {op : OP} {ds ds' : Disjoint.DS} {cp ce : Nat} {b : Bool} (hp : PartInv n op)
    (hds : Disjoint.Inv ds) (hsz : ds.size = n) (h : h2Best op ds cp ce = .ok (b, ds')) :
    Disjoint.Inv ds' ∧ ds'.size = n ∧ (∀ v, v < n → Disjoint.rep ds' v = Disjoint.rep ds v) ∧
    (b = true → ∃ q w', cp < q ∧ op.order.toList[q]? = some w' ∧ Disjoint.rep ds w' = Disjoint.rep ds ce ∧
       ∀ d ∈ op.binDividers.toList, ¬ (cp < d ∧ d ≤ q)) := by
  obtain ⟨be, d1, r, hb, hf, h⟩ := h2Best_ok.1 h
  obtain ⟨_, hr, i1, s1, k1⟩ := h2_find_ok hds hf
  obtain ⟨a1, a2, a3, a4⟩ := h2_orbitScan (n := n) op.order r _ _ _ _ _ i1 (by rw [s1]; exact hsz) h
  refine ⟨a1, a2, fun z hz => by rw [a3 z hz, k1 z (hsz.symm ▸ hz)], fun hbt => ?_⟩
  obtain ⟨q, w', q1, q2, q3, q4, q5⟩ := a4 hbt
  have hlow := h2_binEnd op.binDividers cp op.order.len (List.pairwise_cons.1 hp.sorted).2
    op.binDividers.len 0 be (by rw [hp.length_bd, Nat.zero_add]) (fun j d hj => absurd hj (Nat.not_lt_zero _)) hb
  refine ⟨q, w', q1, q3, by rw [← k1 w' (hsz.symm ▸ q4), q5, hr], ?_⟩
  intro d hd hcd
  have := hlow d hd hcd.1
  omega

end CanonF
