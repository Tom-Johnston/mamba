import Mamba.Lemmas.DistanceCycles
import Mathlib.Data.List.Chain
import Mathlib.Data.List.Rotate
/-!
# Lemmas for C10: every cycle has exactly one canonical vertex sequence (up to rotation and reflection)
-/
namespace GDist
open GraphSpec List

variable {g : G}

/-- the adjacency relation in the orientation used by `chainAdj` -/
def RAdj (g : G) (a b : Nat) : Prop := g.adj b a = true

theorem chainAdj_iff_isChain (c : List Nat) : chainAdj g c ↔ IsChain (RAdj g) c := by
  induction c with
  | nil => simp [chainAdj]
  | cons a t ih =>
    cases t with
    | nil => simp [chainAdj]
    | cons b t' =>
      simp only [chainAdj, isChain_cons_cons, RAdj]
      rw [ih]

theorem isCycleSeq_iff (c : List Nat) :
    IsCycleSeq g c ↔
      (3 ≤ c.length ∧ c.Nodup ∧ (∀ x ∈ c, x < g.n) ∧ IsChain (RAdj g) c ∧
        ∀ x ∈ c.getLast?, ∀ y ∈ c.head?, RAdj g x y) := by
  unfold IsCycleSeq
  rw [chainAdj_iff_isChain]
  constructor
  · rintro ⟨h1, h2, h3, h4, h5⟩
    refine ⟨h1, h2, h3, h4, ?_⟩
    intro x hx y hy
    have hx' := getLastD_of_getLast? (p := c) hx
    have hy' : c.headD 0 = y := by rw [List.headD_eq_head?_getD, hy]; rfl
    unfold RAdj
    rw [← hx', ← hy']; exact h5
  · rintro ⟨h1, h2, h3, h4, h5⟩
    refine ⟨h1, h2, h3, h4, ?_⟩
    have hne : c ≠ [] := by intro h; rw [h] at h1; simp at h1
    have hl := getLast?_of_ne_nil hne
    obtain ⟨a, t, rfl⟩ := List.exists_cons_of_ne_nil hne
    exact h5 _ hl a rfl

theorem isCycleSeq_rotate_one {c : List Nat} (hc : IsCycleSeq g c) : IsCycleSeq g (c.rotate 1) := by
  rw [isCycleSeq_iff] at hc ⊢
  obtain ⟨h1, h2, h3, h4, h5⟩ := hc
  match c, h1 with
  | a :: b :: t, h1 =>
    have hp : ((b :: t) ++ [a]).Perm (a :: b :: t) := List.perm_append_singleton a (b :: t)
    have hl : ((b :: t) ++ [a]).getLast? = some a := List.getLast?_append
    rw [List.rotate_cons_succ, List.rotate_zero]
    refine ⟨hp.length_eq ▸ h1, hp.nodup_iff.2 h2, fun x hx => h3 x (hp.mem_iff.1 hx), ?_, ?_⟩
    · rw [isChain_append]
      refine ⟨h4.tail, isChain_singleton a, ?_⟩
      intro x hx y hy
      obtain rfl : a = y := Option.some.inj hy
      exact h5 x (by rw [List.getLast?_cons_cons]; exact hx) a rfl
    · intro x hx y hy
      obtain rfl : a = x := Option.some.inj (hl.symm.trans hx)
      obtain rfl : b = y := Option.some.inj hy
      exact (isChain_cons_cons.1 h4).1

theorem isCycleSeq_of_isRotated {c d : List Nat} (hc : IsCycleSeq g c) (h : c ~r d) : IsCycleSeq g d := by
  obtain ⟨k, rfl⟩ := h
  induction k with
  | zero => simpa using hc
  | succ k ih =>
    have := isCycleSeq_rotate_one ih
    rwa [List.rotate_rotate] at this

theorem isCycleSeq_reverse (hsym : ∀ u v, g.adj u v = g.adj v u) {c : List Nat} (hc : IsCycleSeq g c) :
    IsCycleSeq g c.reverse := by
  rw [isCycleSeq_iff] at hc ⊢
  obtain ⟨h1, h2, h3, h4, h5⟩ := hc
  refine ⟨by simpa using h1, List.nodup_reverse.2 h2, by simpa using h3, ?_, ?_⟩
  · rw [isChain_reverse]
    exact h4.imp (fun a b hab => by unfold RAdj at hab ⊢; rw [hsym]; exact hab)
  · intro x hx y hy
    simp at hx hy
    have := h5 y hy x hx
    unfold RAdj at this ⊢
    rw [hsym]; exact this

theorem exists_min_mem {l : List Nat} (h : l ≠ []) : ∃ m ∈ l, ∀ x ∈ l, m ≤ x := by
  cases hm : l.min? with
  | none => exact absurd (List.min?_eq_none_iff.1 hm) h
  | some m => exact ⟨m, List.min?_eq_some_iff.1 hm⟩

theorem headD_reverse (Y : List Nat) : Y.reverse.headD 0 = Y.getLastD 0 := by
  rw [List.headD_eq_head?_getD, List.head?_reverse, List.getLastD_eq_getLast?]

theorem getLastD_reverse (Y : List Nat) : Y.reverse.getLastD 0 = Y.headD 0 := by
  rw [List.getLastD_eq_getLast?, List.getLast?_reverse, List.headD_eq_head?_getD]

theorem getLastD_concat (X : List Nat) (m : Nat) : (X ++ [m]).getLastD 0 = m := by
  rw [List.getLastD_eq_getLast?, List.getLast?_append]; simp

theorem headD_append_of_ne_nil {X : List Nat} (h : X ≠ []) (Z : List Nat) : (X ++ Z).headD 0 = X.headD 0 := by
  obtain ⟨a, t, rfl⟩ := List.exists_cons_of_ne_nil h
  rfl

theorem isCanon_concat {X : List Nat} {m : Nat} (hc : IsCycleSeq g (X ++ [m])) (hmin : ∀ x ∈ X, m < x)
    (hdir : X.getLastD 0 < X.headD 0) : IsCanonCycle g (X ++ [m]).length (X ++ [m]) := by
  have hX : X ≠ [] := by
    intro h; subst h
    have := hc.1; simp at this
  refine ⟨hc, rfl, ?_, ?_⟩
  · rw [List.dropLast_concat, getLastD_concat]; exact hmin
  · rw [List.dropLast_concat, headD_append_of_ne_nil hX]; exact hdir

theorem head_ne_last_of_nodup {X : List Nat} (hn : X.Nodup) (hl : 2 ≤ X.length) : X.headD 0 ≠ X.getLastD 0 := by
  match X, hl with
  | a :: b :: t, _ =>
    intro h
    have hmem : (a :: b :: t).getLastD 0 ∈ b :: t := by
      have : (a :: b :: t).getLastD 0 = (b :: t).getLastD 0 := by
        rw [List.getLastD_eq_getLast?, List.getLastD_eq_getLast?, List.getLast?_cons_cons]
      rw [this]; exact getLastD_mem (by simp)
    rw [← h] at hmem
    exact (List.nodup_cons.1 hn).1 hmem

theorem isRotated_concat (A B : List Nat) (m : Nat) : (A ++ m :: B) ~r ((B ++ A) ++ [m]) :=
  (isRotated_append (l := A) (l' := m :: B)).trans IsRotated.cons_append_singleton

theorem canon_exists (hsym : ∀ u v, g.adj u v = g.adj v u) {c : List Nat} (hc : IsCycleSeq g c) :
    ∃ c', IsCanonCycle g c.length c' ∧ (c' ~r c ∨ c' ~r c.reverse) := by
  obtain ⟨m, hm, hmin⟩ := exists_min_mem hc.ne_nil
  obtain ⟨A, B, rfl⟩ := List.append_of_mem hm
  have h0 := isRotated_concat A B m
  have hc0 := isCycleSeq_of_isRotated hc h0
  have hlen : ((B ++ A) ++ [m]).length = (A ++ m :: B).length := h0.perm.length_eq.symm
  have hnd : ((B ++ A) ++ [m]).Nodup := hc0.2.1
  have hlt : ∀ x ∈ B ++ A, m < x := by
    intro x hx
    have hxc : x ∈ A ++ m :: B := h0.perm.mem_iff.2 (List.mem_append.2 (.inl hx))
    have hle := hmin x hxc
    have hne : x ≠ m := by
      rintro rfl
      have := List.nodup_append.1 hnd
      exact this.2.2 x hx x (List.mem_singleton_self x) rfl
    exact Nat.lt_of_le_of_ne hle (Ne.symm hne)
  have hX2 : 2 ≤ (B ++ A).length := by
    have := hc0.1
    rw [List.length_append, List.length_singleton] at this
    exact Nat.le_of_succ_le_succ this
  have hXnd : (B ++ A).Nodup := (List.nodup_append.1 hnd).1
  by_cases hdir : (B ++ A).getLastD 0 < (B ++ A).headD 0
  · refine ⟨(B ++ A) ++ [m], ?_, .inl h0.symm⟩
    rw [← hlen]; exact isCanon_concat hc0 hlt hdir
  · have hne := head_ne_last_of_nodup hXnd hX2
    have hdir' : (B ++ A).reverse.getLastD 0 < (B ++ A).reverse.headD 0 := by
      rw [getLastD_reverse, headD_reverse]; exact Nat.lt_of_le_of_ne (Nat.le_of_not_lt hdir) hne
    have h1 : (A ++ m :: B).reverse ~r ((B ++ A) ++ [m]).reverse := h0.reverse
    have h2 : ((B ++ A) ++ [m]).reverse ~r ((B ++ A).reverse ++ [m]) := by
      rw [List.reverse_append]
      exact IsRotated.cons_append_singleton
    have h3 := h1.trans h2
    have hc1 := isCycleSeq_of_isRotated (isCycleSeq_reverse hsym hc) h3
    refine ⟨(B ++ A).reverse ++ [m], ?_, .inr h3.symm⟩
    have hlen' : ((B ++ A).reverse ++ [m]).length = (A ++ m :: B).length := by
      rw [← hlen]; simp only [List.length_append, List.length_reverse]
    rw [← hlen']
    exact isCanon_concat hc1 (fun x hx => hlt x (List.mem_reverse.1 hx)) hdir'

theorem rot_eq_of_last {l l' : List Nat} (hn : l.Nodup) (hr : l ~r l') (hlast : l.getLast? = l'.getLast?) :
    l = l' := by
  by_cases hnil : l = []
  · subst hnil; exact (isRotated_nil_iff'.1 hr)
  obtain ⟨k, hk, rfl⟩ := isRotated_iff_mod.1 hr
  have hpos : 0 < l.length := List.length_pos_iff.2 hnil
  rcases Nat.eq_zero_or_pos k with rfl | hk0
  · rw [List.rotate_zero]
  rcases Nat.eq_or_lt_of_le hk with rfl | hkl
  · rw [List.rotate_length]
  -- a proper rotation by `k' + 1 < length` brings entry `k'` to the last place
  exfalso
  obtain ⟨k', rfl⟩ := Nat.exists_eq_add_one_of_ne_zero (Nat.ne_of_gt hk0)
  have hidx : l.length - 1 < l.length := Nat.sub_lt hpos Nat.one_pos
  have hk' : k' < l.length := Nat.lt_of_succ_lt hkl
  rw [List.getLast?_eq_getElem?, List.getLast?_eq_getElem?, List.length_rotate,
    List.getElem?_rotate hidx, show l.length - 1 + (k' + 1) = l.length + k' by omega, Nat.add_mod_left,
    Nat.mod_eq_of_lt hk', List.getElem?_eq_getElem hidx, List.getElem?_eq_getElem hk'] at hlast
  have := (hn.getElem_inj_iff).1 (Option.some.inj hlast)
  omega

theorem canon_decomp {l : Nat} {d : List Nat} (hd : IsCanonCycle g l d) :
    d = d.dropLast ++ [d.getLastD 0] ∧ 2 ≤ d.dropLast.length := by
  have hne := hd.1.ne_nil
  constructor
  · conv_lhs => rw [← List.dropLast_append_getLast hne]
    congr 2
    rw [List.getLastD_eq_getLast?, List.getLast?_eq_some_getLast hne]; rfl
  · have := hd.1.1
    simp; omega

theorem canon_unique {l : Nat} {d d' : List Nat} (hd : IsCanonCycle g l d) (hd' : IsCanonCycle g l d')
    (h : d ~r d' ∨ d ~r d'.reverse) : d = d' := by
  obtain ⟨hdX, hX2⟩ := canon_decomp hd
  obtain ⟨hdY, hY2⟩ := canon_decomp hd'
  have hperm : d.Perm d' := by
    rcases h with h | h
    · exact h.perm
    · exact h.perm.trans (List.reverse_perm d')
  -- the last elements are the minima of the same vertex set
  have hm : d.getLastD 0 = d'.getLastD 0 := by
    have h1 : d'.getLastD 0 ∈ d := hperm.mem_iff.2 (getLastD_mem hd'.1.ne_nil)
    have h2 : d.getLastD 0 ∈ d' := hperm.mem_iff.1 (getLastD_mem hd.1.ne_nil)
    rw [hdX] at h1
    rw [hdY] at h2
    rcases List.mem_append.1 h1 with h1 | h1 <;> rcases List.mem_append.1 h2 with h2 | h2
    · exact absurd (hd.2.2.1 _ h1) (Nat.lt_asymm (hd'.2.2.1 _ h2))
    · rw [List.mem_singleton] at h2; exact h2
    · rw [List.mem_singleton] at h1; exact h1.symm
    · rw [List.mem_singleton] at h2; exact h2
  have hlast : d.getLast? = d'.getLast? := by
    rw [getLast?_of_ne_nil hd.1.ne_nil, getLast?_of_ne_nil hd'.1.ne_nil, hm]
  rcases h with h | h
  · exact rot_eq_of_last hd.1.2.1 h hlast
  · exfalso
    have h2 : d'.reverse ~r (d'.dropLast.reverse ++ [d'.getLastD 0]) := by
      conv_lhs => rw [hdY, List.reverse_append]
      exact IsRotated.cons_append_singleton
    have h3 := h.trans h2
    have hlast' : d.getLast? = (d'.dropLast.reverse ++ [d'.getLastD 0]).getLast? := by
      rw [getLast?_of_ne_nil hd.1.ne_nil, hm, List.getLast?_append]; simp
    have heq := rot_eq_of_last hd.1.2.1 h3 hlast'
    have hX : d.dropLast = d'.dropLast.reverse := by
      rw [heq, List.dropLast_concat]
    have c1 := hd.2.2.2
    have c2 := hd'.2.2.2
    have hXne : d.dropLast ≠ [] := by intro h0; rw [h0] at hX2; simp at hX2
    have hYne : d'.dropLast ≠ [] := by intro h0; rw [h0] at hY2; simp at hY2
    have e1 : d.headD 0 = d.dropLast.headD 0 := by
      conv_lhs => rw [hdX]
      exact headD_append_of_ne_nil hXne _
    have e2 : d'.headD 0 = d'.dropLast.headD 0 := by
      conv_lhs => rw [hdY]
      exact headD_append_of_ne_nil hYne _
    rw [e1, hX, getLastD_reverse, headD_reverse] at c1
    rw [e2] at c2
    exact Nat.lt_asymm c1 c2

theorem canon_exists_unique (hsym : ∀ u v, g.adj u v = g.adj v u) {c : List Nat} (hc : IsCycleSeq g c) :
    ∃! c', IsCanonCycle g c.length c' ∧ (c' ~r c ∨ c' ~r c.reverse) := by
  obtain ⟨c', h1, h2⟩ := canon_exists hsym hc
  refine ⟨c', ⟨h1, h2⟩, ?_⟩
  rintro d ⟨hd1, hd2⟩
  apply canon_unique hd1 h1
  rcases hd2 with hd2 | hd2 <;> rcases h2 with h2 | h2
  · exact .inl (hd2.trans h2.symm)
  · exact .inr (hd2.trans (by simpa using h2.reverse.symm))
  · exact .inr (hd2.trans h2.reverse.symm)
  · exact .inl (hd2.trans h2.symm)

end GDist
