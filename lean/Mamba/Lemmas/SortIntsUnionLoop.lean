import Mamba.Lemmas.SortIntsBasic
/-! Lemmas for C17: the `Union` method (backwards merge, in place or into a fresh array). -/
namespace SortInts

/-- the backwards merge of the `Union` method seen from the back: a merge of the reversed (descending)
operands that emits the larger head first -/
def unionRev : List Int → List Int → List Int
  | [], rb => rb
  | x :: xs, [] => x :: xs
  | x :: xs, y :: ys =>
    if x = y then x :: unionRev xs ys
    else if x > y then x :: unionRev xs (y :: ys)
    else y :: unionRev (x :: xs) ys
termination_by a b => a.length + b.length

theorem mem_unionRev (a b : List Int) (x : Int) : x ∈ unionRev a b ↔ x ∈ a ∨ x ∈ b := by
  fun_induction unionRev a b
  · simp
  · simp
  case case3 ih => rw [List.mem_cons, ih, List.mem_cons, List.mem_cons, or_or_distrib_left]
  case case4 x xs y ys _ _ ih => rw [List.mem_cons, ih, List.mem_cons (l := xs), or_assoc]
  case case5 x xs y ys _ _ ih => rw [List.mem_cons, ih, List.mem_cons (b := y), or_left_comm]

theorem gt_of_mem_cons_of_gt {x y v : Int} {ys : List Int} (h : (y :: ys).Pairwise (· > ·)) (hxy : x > y)
    (hv : v ∈ y :: ys) : x > v := by
  rcases List.mem_cons.mp hv with rfl | hv
  · exact hxy
  · exact Int.lt_trans (List.rel_of_pairwise_cons h hv) hxy

theorem unionRev_desc (a b : List Int) (ha : a.Pairwise (· > ·)) (hb : b.Pairwise (· > ·)) :
    (unionRev a b).Pairwise (· > ·) := by
  fun_induction unionRev a b
  · exact hb
  · exact ha
  case case3 xs x ys ih =>
    refine List.pairwise_cons.mpr ⟨fun v hv => ?_, ih ha.of_cons hb.of_cons⟩
    rcases (mem_unionRev _ _ _).mp hv with hv | hv
    · exact List.rel_of_pairwise_cons ha hv
    · exact List.rel_of_pairwise_cons hb hv
  case case4 x xs y ys hne hgt ih =>
    refine List.pairwise_cons.mpr ⟨fun v hv => ?_, ih ha.of_cons hb⟩
    rcases (mem_unionRev _ _ _).mp hv with hv | hv
    · exact List.rel_of_pairwise_cons ha hv
    · exact gt_of_mem_cons_of_gt hb hgt hv
  case case5 x xs y ys hne hgt ih =>
    refine List.pairwise_cons.mpr ⟨fun v hv => ?_, ih ha hb.of_cons⟩
    rcases (mem_unionRev _ _ _).mp hv with hv | hv
    · exact gt_of_mem_cons_of_gt ha (show y > x by omega) hv
    · exact List.rel_of_pairwise_cons hb hv

theorem length_unionRev_ge (a b : List Int) : a.length ≤ (unionRev a b).length := by
  fun_induction unionRev a b
  · simp
  · simp
  all_goals simp only [List.length_cons] at *; omega

theorem length_unionRev_ge' (a b : List Int) : b.length ≤ (unionRev a b).length := by
  fun_induction unionRev a b
  · simp
  · simp
  all_goals simp only [List.length_cons] at *; omega

theorem length_union_add (a b : List Int) : (union a b).length + intersectionSize a b = a.length + b.length := by
  fun_induction union a b
  · simp [intersectionSize]
  · simp [intersectionSize]
  case case3 ih => rw [intersectionSize, if_pos rfl]; simp only [List.length_cons]; omega
  case case4 hne hgt ih => rw [intersectionSize, if_neg hne, if_pos hgt]; simp only [List.length_cons] at *; omega
  case case5 hne hgt ih => rw [intersectionSize, if_neg hne, if_neg hgt]; simp only [List.length_cons] at *; omega

theorem unionRev_reverse (a b : List Int) (ha : SS a) (hb : SS b) :
    unionRev a.reverse b.reverse = (union a b).reverse := by
  apply List.Pairwise.eq_of_mem_iff (r := (· > ·))
  · apply unionRev_desc
    · rw [List.pairwise_reverse]; exact ha
    · rw [List.pairwise_reverse]; exact hb
  · rw [List.pairwise_reverse]; exact union_sorted a b ha hb
  · intro x; simp [mem_unionRev, mem_union]

theorem take_reverse_cons_get (l : List Int) (x : Int) (xs : List Int)
    (h : l.take (x :: xs).length = (x :: xs).reverse) :
    l[xs.length]? = some x ∧ l.take xs.length = xs.reverse := by
  have hlen : xs.length + 1 ≤ l.length := by
    have := congrArg List.length h
    simp at this; omega
  constructor
  · have : (l.take (x :: xs).length)[xs.length]? = some x := by
      rw [h]; simp
    rw [List.getElem?_take] at this
    simpa using this
  · have : (l.take (x :: xs).length).take xs.length = xs.reverse := by
      rw [h]; simp
    rw [List.take_take] at this
    simpa using this

theorem unionLoop_step (aliased : Bool) (a b : List Int) (x y : Int) (xs ys T0 W : List Int) (t : Int)
    (ha : a.take (x :: xs).length = (x :: xs).reverse) (hb : b.take (y :: ys).length = (y :: ys).reverse)
    (hT : xs.length ≤ T0.length) (hal : aliased = true → (T0 ++ [t]).take (x :: xs).length = (x :: xs).reverse) :
    unionLoop aliased a b (T0 ++ [t] ++ W) xs.length ys.length T0.length =
      if x = y then unionLoop aliased a b (T0 ++ x :: W) (xs.length - 1) (ys.length - 1) (T0.length - 1)
      else if x > y then unionLoop aliased a b (T0 ++ x :: W) (xs.length - 1) ys.length (T0.length - 1)
      else unionLoop aliased a b (T0 ++ y :: W) xs.length (ys.length - 1) (T0.length - 1) := by
  have hrd : getI (if aliased = true then T0 ++ [t] ++ W else a) (xs.length : Int) = some x := by
    rw [getI_natCast]
    cases aliased with
    | false => exact (take_reverse_cons_get a x xs ha).1
    | true =>
      rw [if_pos rfl, List.getElem?_append_left (by simp; omega)]
      exact (take_reverse_cons_get _ x xs (hal rfl)).1
  have hrb : getI b (ys.length : Int) = some y := by
    rw [getI_natCast]; exact (take_reverse_cons_get b y ys hb).1
  have hset : ∀ v, setI (T0 ++ [t] ++ W) (T0.length : Int) v = some (T0 ++ v :: W) := fun v => by
    rw [List.append_assoc, List.singleton_append, setI_append_mid]
  rw [unionLoop, dif_pos ⟨Int.natCast_nonneg _, Int.natCast_nonneg _⟩]
  simp only [hrd, hrb, hset]

theorem unionLoop_spec (aliased : Bool) (a b : List Int) (ra rb : List Int) :
    ∀ (T W : List Int),
    a.take ra.length = ra.reverse → b.take rb.length = rb.reverse →
    T.length = (unionRev ra rb).length →
    (aliased = true → T.take ra.length = ra.reverse) →
    ∃ T' M ra' rb',
      unionLoop aliased a b (T ++ W) ((ra.length : Int) - 1) ((rb.length : Int) - 1) ((T.length : Int) - 1)
        = .ok (T' ++ M ++ W, (ra'.length : Int) - 1, (rb'.length : Int) - 1) ∧
      (ra' = [] ∨ rb' = []) ∧
      unionRev ra rb = M.reverse ++ unionRev ra' rb' ∧
      T'.length = (unionRev ra' rb').length ∧
      (aliased = true → T'.take ra'.length = ra'.reverse) ∧
      a.take ra'.length = ra'.reverse ∧ b.take rb'.length = rb'.reverse := by
  fun_induction unionRev ra rb
  case case1 rb =>
    intro T W ha hb hT hal
    refine ⟨T, [], [], rb, ?_, Or.inl rfl, by simp [unionRev], by simpa [unionRev] using hT, hal, ha, hb⟩
    rw [unionLoop]; simp
  case case2 x xs =>
    intro T W ha hb hT hal
    refine ⟨T, [], x :: xs, [], ?_, Or.inr rfl, by simp [unionRev], by simpa [unionRev] using hT, hal, ha, hb⟩
    rw [unionLoop]; simp
  all_goals
    intro T W ha hb hT hal
    rename_i ih
    -- the destination ends in the cell written now
    obtain ⟨T0, t, rfl⟩ : ∃ T0 t, T = T0 ++ [t] := by
      rcases List.eq_nil_or_concat T with h | ⟨T0, t, h⟩
      · rw [h] at hT; exact absurd hT (by simp)
      · exact ⟨T0, t, by simpa using h⟩
    rw [List.length_append, List.length_singleton, List.length_cons, Nat.add_right_cancel_iff] at hT
  case case3 xs x ys =>
    have hge := length_unionRev_ge xs ys
    obtain ⟨T', M, ra', rb', hrun, hor, hun, hT', hrest⟩ := ih T0 (x :: W) (take_reverse_cons_get a x xs ha).2
      (take_reverse_cons_get b x ys hb).2 hT fun h => by
        have := (take_reverse_cons_get _ x xs (hal h)).2
        rwa [List.take_append_of_le_length (by omega)] at this
    refine ⟨T', M ++ [x], ra', rb', ?_, hor, by simp [hun], hT', hrest⟩
    simp only [List.length_cons, List.length_append, List.length_nil, Int.natCast_add, Int.natCast_one, Int.natCast_zero, Int.zero_add, Int.add_sub_cancel]
    rw [unionLoop_step aliased a b x x xs ys T0 W t ha hb (by omega) hal, if_pos rfl, hrun]
    simp
  case case4 x xs y ys hne hgt =>
    have hge := length_unionRev_ge xs (y :: ys)
    obtain ⟨T', M, ra', rb', hrun, hor, hun, hT', hrest⟩ := ih T0 (x :: W) (take_reverse_cons_get a x xs ha).2 hb hT
      fun h => by
        have := (take_reverse_cons_get _ x xs (hal h)).2
        rwa [List.take_append_of_le_length (by omega)] at this
    refine ⟨T', M ++ [x], ra', rb', ?_, hor, by simp [hun], hT', hrest⟩
    simp only [List.length_cons, List.length_append, List.length_nil, Int.natCast_add, Int.natCast_one, Int.natCast_zero,
      Int.zero_add, Int.add_sub_cancel] at hrun ⊢
    rw [unionLoop_step aliased a b x y xs ys T0 W t ha hb (by omega) hal, if_neg hne, if_pos hgt, hrun]
    simp
  case case5 x xs y ys hne hgt =>
    have hge := length_unionRev_ge (x :: xs) ys
    obtain ⟨T', M, ra', rb', hrun, hor, hun, hT', hrest⟩ := ih T0 (y :: W) ha (take_reverse_cons_get b y ys hb).2 hT
      fun h => by
        have := hal h
        rwa [List.take_append_of_le_length (by omega)] at this
    refine ⟨T', M ++ [y], ra', rb', ?_, hor, by simp [hun], hT', hrest⟩
    simp only [List.length_cons, List.length_append, List.length_nil, Int.natCast_add, Int.natCast_one, Int.natCast_zero,
      Int.zero_add, Int.add_sub_cancel] at hrun ⊢
    rw [unionLoop_step aliased a b x y xs ys T0 W t ha hb (by simp at hge; omega) hal, if_neg hne, if_neg hgt, hrun]
    simp

theorem copyI_prefix (T M src : List Int) (h : src.length = T.length) :
    copyI (T ++ M) 0 ((T ++ M).length : Int) src = some (src ++ M) := by
  have e0 : (0 : Int) = ((0 : Nat) : Int) := rfl
  rw [e0, copyI_nat _ 0 _ _ (by omega) (Nat.le_refl _)]
  have : min ((T ++ M).length - 0) src.length = src.length := by simp; omega
  rw [this]
  simp only [List.take_zero, List.nil_append, Nat.zero_add]
  rw [List.take_of_length_le (Nat.le_refl _), h, List.drop_left]

end SortInts
