import Mamba.Lemmas.CanonFInv
import Mathlib.Logic.Relation
/-!
# The `m == 0` shortcut of `CanonicalIsomorphAllocated` (`edgeless`): identity permutation, one orbit, and generators of
the full symmetric group (`n`-cycle and a transposition); it never panics on a storage of sufficient capacity (`edgeless_total`)
-/

namespace CanonF

/-- the fill loop `for i := 0; i < k; i++ { t[i] = f i }` -/
theorem edg_fill (f : Nat → Nat) (k : Nat) (t t' : Sl Nat)
    (h : forRange (fun i (t : Sl Nat) => t.set i (f i)) k 0 t = .ok t') :
    t'.len = t.len ∧ t'.data.size = t.data.size ∧ ∀ p, t'.data[p]? = if p < k then some (f p) else t.data[p]? := by
  have := forRange_inv (fun i (t : Sl Nat) => t.set i (f i))
    (fun i s => s.len = t.len ∧ s.data.size = t.data.size ∧ ∀ p, s.data[p]? = if p < i then some (f p) else t.data[p]?)
    k 0 t t' ⟨rfl, rfl, fun p => by simp⟩ ?_ h
  · simpa using this
  · intro i s s' _ _ ⟨hl, hz, hd⟩ hs
    refine ⟨by rw [Sl.set_len hs, hl], by rw [Sl.set_cap hs, hz], fun p => ?_⟩
    rw [Sl.set_data hs, hd]
    by_cases hp : p = i
    · subst hp; simp
    · by_cases hp2 : p < i
      · have : p < i + 1 := by omega
        simp [hp, hp2, this]
      · have : ¬ p < i + 1 := by omega
        simp [hp, hp2, this]

theorem edg_toList_of_data (s : Sl Nat) (n : Nat) (g : Nat → Nat) (hl : s.len = n)
    (hd : ∀ p, p < n → s.data[p]? = some (g p)) : s.toList = (List.range n).map g := by
  apply List.ext_getElem?
  intro i
  rw [Sl.getElem?_toList, hl]
  by_cases hi : i < n
  · simp [hi, hd i hi]
  · simp [hi]

theorem edg_cycle_perm (n : Nat) (hn : n ≠ 0) :
    ((List.range n).map (fun i => if i = n - 1 then 0 else i + 1)).Perm (List.range n) := by
  have h1 : (List.range n).map (fun i => if i = n - 1 then 0 else i + 1) = List.range' 1 (n - 1) ++ [0] := by
    apply List.ext_getElem?
    intro i
    by_cases hi : i < n - 1
    · rw [List.getElem?_append_left (by simpa using hi)]
      have : i < n := by omega
      have h2 : i ≠ n - 1 := by omega
      simp [this, hi, h2]
      omega
    · by_cases hi2 : i = n - 1
      · subst hi2
        rw [List.getElem?_append_right (by simp)]
        have : n - 1 < n := by omega
        simp [this]
      · have : ¬ i < n := by omega
        rw [List.getElem?_eq_none (by simp; omega), List.getElem?_eq_none (by simp; omega)]
  have h2 : List.range n = [0] ++ List.range' 1 (n - 1) := by
    obtain ⟨m, rfl⟩ : ∃ m, n = m + 1 := ⟨n - 1, by omega⟩
    rw [List.range_eq_range', List.range'_succ]
    simp
  rw [h1, h2]
  exact List.perm_append_comm

theorem edg_swap_perm (n : Nat) (hn : 2 ≤ n) :
    ((List.range n).map (fun i => if i = 0 then 1 else if i = 1 then 0 else i)).Perm (List.range n) := by
  obtain ⟨m, rfl⟩ : ∃ m, n = m + 2 := ⟨n - 2, by omega⟩
  have h2 : List.range (m + 2) = 0 :: 1 :: List.range' 2 m := by
    rw [List.range_eq_range', List.range'_succ, List.range'_succ]
  rw [h2]
  simp only [List.map_cons, if_true]
  have h3 : (List.range' 2 m).map (fun i => if i = 0 then 1 else if i = 1 then 0 else i) = List.range' 2 m := by
    conv => rhs; rw [← List.map_id (List.range' 2 m)]
    apply List.map_congr_left
    intro a ha
    rw [List.mem_range'] at ha
    obtain ⟨j, _, rfl⟩ := ha
    simp; omega
  rw [h3]
  exact List.Perm.swap _ _ _

theorem edg_gen {n : Nat} (f : Nat → Nat) (j v : Nat) (t0 t1 t2 : Sl Nat) (hl : t0.len = n)
    (h1 : forRange (fun i (t : Sl Nat) => t.set i (f i)) t0.len 0 t0 = .ok t1)
    (h2 : t1.set j v = .ok t2) :
    t2.len = n ∧ t2.toList = (List.range n).map (fun i => if i = j then v else f i) := by
  obtain ⟨l1, _, d1⟩ := edg_fill f _ _ _ h1
  have l2 : t2.len = n := by rw [Sl.set_len h2, l1, hl]
  refine ⟨l2, edg_toList_of_data _ _ _ l2 ?_⟩
  intro p hp
  rw [Sl.set_data h2, d1, hl]
  by_cases hj : p = j <;> simp [hj, hp]

theorem edg_gen' {n : Nat} (f : Nat → Nat) (j v j' v' : Nat) (t0 t1 t2 t3 : Sl Nat) (hl : t0.len = n)
    (h1 : forRange (fun i (t : Sl Nat) => t.set i (f i)) t0.len 0 t0 = .ok t1)
    (h2 : t1.set j v = .ok t2) (h3 : t2.set j' v' = .ok t3) :
    t3.len = n ∧ t3.toList = (List.range n).map (fun i => if i = j' then v' else if i = j then v else f i) := by
  obtain ⟨l1, _, d1⟩ := edg_fill f _ _ _ h1
  have l3 : t3.len = n := by rw [Sl.set_len h3, Sl.set_len h2, l1, hl]
  refine ⟨l3, edg_toList_of_data _ _ _ l3 ?_⟩
  intro p hp
  rw [Sl.set_data h3, Sl.set_data h2, d1, hl]
  simp only [hp, if_true]
  split
  · rfl
  · split <;> rfl

theorem dsSlice_iff {a : Array Int} {k : Nat} {x : Disjoint.DS × Array Int} :
    dsSlice a k = .ok x ↔ k ≤ a.size ∧ x = (a.extract 0 k, a.extract k a.size) := by
  unfold dsSlice
  by_cases h : k ≤ a.size
  · rw [if_pos h]; exact ⟨fun e => ⟨h, (Outcome.ok.inj e).symm⟩, fun e => by rw [e.2]⟩
  · rw [if_neg h]; exact ⟨fun e => (nomatch e), fun e => absurd e.1 h⟩

/-- what the `m == 0` shortcut returns for `n` vertices: the identity, the union–find `[-2, 0, …, 0]` (one orbit with
root `0`), and generators of the symmetric group: the `n`-cycle and the transposition `(0 1)` -/
def edgRes (n : Nat) : Res :=
  { perm := some (List.range n)
    orbits := some ((List.range n).map (fun i => if i = 0 then (-2 : Int) else 0))
    gens := some (if n = 1 then [] else if n = 2 then [[1, 0]] else
      [(List.range n).map (fun i => if i = n - 1 then 0 else i + 1),
       (List.range n).map (fun i => if i = 0 then 1 else if i = 1 then 0 else i)]) }

theorem edg_orbits_list (ds : Array Int) (n : Nat) (hsz : ds.size = n) :
    ((ds.setIfInBounds 0 (-2)).mapIdx (fun i v => if 0 < i then 0 else v)).toList =
      (List.range n).map (fun i => if i = 0 then (-2 : Int) else 0) := by
  apply List.ext_getElem?
  intro i
  rw [Array.getElem?_toList, Array.getElem?_mapIdx, Array.getElem?_setIfInBounds, List.getElem?_map]
  by_cases hi : i < n
  · rw [List.getElem?_range hi]
    by_cases h0 : i = 0
    · subst h0; simp [hsz, hi]
    · have : 0 < i := Nat.pos_of_ne_zero h0
      simp [hsz, hi, h0, this, Ne.symm h0]
  · rw [List.getElem?_eq_none (by simpa using Nat.le_of_not_lt hi)]
    simp [hsz, hi]
    intro h0; omega

theorem edgeless_result {n : Nat} {st st' : Storage} {r : Res} (h : edgeless n st = .ok (r, st')) :
    r = edgRes n ∧
    st' = { st with currentBestPerm := st'.currentBestPerm, firstLeafOrbits := st'.firstLeafOrbits,
                    generators := st'.generators } ∧
    st'.currentBestPerm.size = st.currentBestPerm.size ∧ st'.firstLeafOrbits.size = st.firstLeafOrbits.size ∧
    st'.generators.size = st.generators.size := by
  have hlen : ∀ t0 : Sl Nat, (if t0.cap < n then Sl.mk' n n 0 else (⟨t0.data, n⟩ : Sl Nat)).len = n := by
    intro t0; split <;> rfl
  unfold edgeless at h
  split at h
  · rename_i perm ds dsRest hperm hds
    split at h
    · rename_i perm' hid
      obtain ⟨_, rfl⟩ := Sl.reslice_eq_ok.1 hperm
      obtain ⟨l1, z1, d1⟩ := edg_fill (fun i => i) _ _ _ hid
      have key : perm'.toList = List.range n := by
        rw [edg_toList_of_data perm' n (fun i => i) l1 (fun p hp => by rw [d1, if_pos hp])]
        exact List.map_id' _
      obtain ⟨hle, e⟩ := dsSlice_iff.1 hds
      obtain ⟨rfl, rfl⟩ := Prod.mk.inj e
      have hds' : (st.firstLeafOrbits.extract 0 n).size = n := by
        rw [Array.size_extract, Nat.min_eq_left hle, Nat.sub_zero]
      have horb := edg_orbits_list _ n hds'
      have hosz : (((st.firstLeafOrbits.extract 0 n).setIfInBounds 0 (-2)).mapIdx (fun i v => if 0 < i then 0 else v) ++
          st.firstLeafOrbits.extract n st.firstLeafOrbits.size).size = st.firstLeafOrbits.size := by
        rw [Array.size_append, Array.size_mapIdx, Array.size_setIfInBounds, hds', Array.size_extract, Nat.min_self]
        exact Nat.add_sub_of_le hle
      dsimp +zetaHave only at h
      by_cases h1 : n = 1
      · rw [if_pos h1] at h
        cases h
        exact ⟨by unfold edgRes; rw [key, horb, if_pos h1], rfl, z1, hosz, rfl⟩
      rw [if_neg h1] at h
      by_cases hg1 : 1 ≤ st.generators.size
      · rw [if_pos hg1] at h
        split at h
        · rename_i t1 hf
          split at h
          · rename_i t2 hs
            obtain ⟨_, e⟩ := edg_gen (fun i => i + 1) _ _ _ _ _ (hlen _) hf hs
            by_cases h2 : n = 2
            · rw [if_pos h2] at h
              cases h
              refine ⟨?_, rfl, z1, hosz, Array.size_setIfInBounds⟩
              unfold edgRes
              rw [key, horb, if_neg h1, if_pos h2, e]
              subst h2
              rfl
            rw [if_neg h2] at h
            by_cases hg2 : 2 ≤ (st.generators.setIfInBounds 0 t2).size
            · rw [if_pos hg2] at h
              split at h
              · rename_i u1 hg
                split at h
                · rename_i u2 hs1
                  split at h
                  · rename_i u3 hs2
                    cases h
                    obtain ⟨_, e'⟩ := edg_gen' (fun i => i) _ _ _ _ _ _ _ _ (hlen _) hg hs1 hs2
                    refine ⟨?_, rfl, z1, hosz, by rw [Array.size_setIfInBounds, Array.size_setIfInBounds]⟩
                    unfold edgRes
                    rw [key, horb, if_neg h1, if_neg h2, e, e']
                    have hfun : ∀ i : Nat, (if i = 1 then 0 else if i = 0 then 1 else i) =
                        (if i = 0 then 1 else if i = 1 then 0 else i) := by
                      intro i
                      by_cases h0 : i = 0
                      · subst h0; rfl
                      · rw [if_neg h0, if_neg h0]
                    simp only [hfun]
                  · cases h
                  · cases h
                · cases h
                · cases h
              · cases h
              · cases h
            · rw [if_neg hg2] at h; cases h
          · cases h
          · cases h
        · cases h
        · cases h
      · rw [if_neg hg1] at h; cases h
    · cases h
    · cases h
  · cases h

theorem edg_connected {n : Nat} (gs : List (List Nat)) (c : List Nat) (hc : c ∈ gs)
    (hstep : ∀ x, x + 1 < n → c[x]? = some (x + 1)) :
    ∀ a b, a < n → b < n → Relation.EqvGen (fun x y => ∃ γ ∈ gs, γ[x]? = some y) a b := by
  have h0 : ∀ a, a < n → Relation.EqvGen (fun x y => ∃ γ ∈ gs, γ[x]? = some y) 0 a := by
    intro a
    induction a with
    | zero => intro _; exact Relation.EqvGen.refl _
    | succ a ih =>
      intro ha
      exact Relation.EqvGen.trans _ _ _ (ih (by omega)) (Relation.EqvGen.rel _ _ ⟨c, hc, hstep a ha⟩)
  intro a b ha hb
  exact Relation.EqvGen.trans _ _ _ (Relation.EqvGen.symm _ _ (h0 a ha)) (h0 b hb)

theorem edg_cycle_step (n x : Nat) (hx : x + 1 < n) :
    ((List.range n).map (fun i => if i = n - 1 then 0 else i + 1))[x]? = some (x + 1) := by
  have h1 : x < n := by omega
  have h2 : x ≠ n - 1 := by omega
  simp [h1, h2]

theorem edgRes_cert {n : Nat} (hn : n ≠ 0) :
    ∃ gs ds, (edgRes n).gens = some gs ∧ (edgRes n).orbits = some ds ∧ ds.length = n ∧
      (∀ γ ∈ gs, γ.Perm (List.range n)) ∧
      ∀ a b, a < n → b < n → Relation.EqvGen (fun x y => ∃ γ ∈ gs, γ[x]? = some y) a b := by
  refine ⟨_, _, rfl, rfl, by simp, ?_, ?_⟩
  · by_cases h1 : n = 1
    · simp [h1]
    · by_cases h2 : n = 2
      · subst h2
        simp only [if_neg h1, if_true, List.mem_singleton]
        rintro γ rfl
        exact edg_cycle_perm 2 (by omega)
      · simp only [if_neg h1, if_neg h2, List.mem_cons, List.not_mem_nil, or_false]
        rintro γ (rfl | rfl)
        · exact edg_cycle_perm n hn
        · exact edg_swap_perm n (by omega)
  · by_cases h1 : n = 1
    · intro a b ha hb
      have : a = b := by omega
      subst this
      exact Relation.EqvGen.refl _
    · by_cases h2 : n = 2
      · subst h2
        simp only [if_neg h1, if_true]
        exact edg_connected _ [1, 0] (by simp) (fun x hx => edg_cycle_step 2 x hx)
      · simp only [if_neg h1, if_neg h2]
        exact edg_connected _ _ (List.mem_cons_self ..) (fun x hx => edg_cycle_step n x hx)

theorem edg_fill_total (f : Nat → Nat) (k : Nat) (t : Sl Nat) (hk : k ≤ t.len) (hw : t.WF) :
    ∃ t', forRange (fun i (t : Sl Nat) => t.set i (f i)) k 0 t = .ok t' ∧ t'.len = t.len ∧
      t'.data.size = t.data.size := by
  have := forRange_total (fun i (t : Sl Nat) => t.set i (f i))
    (fun _ s => s.len = t.len ∧ s.data.size = t.data.size) k 0 t ⟨rfl, rfl⟩ ?_
  · obtain ⟨r, h1, h2⟩ := this
    exact ⟨r, h1, h2⟩
  · intro i s _ hi ⟨hl, hc⟩
    have hw' : s.WF := by unfold Sl.WF at *; omega
    have hs := Sl.set_ok_of_lt hw' (i := i) (by omega) (f i)
    exact ⟨_, hs, by simp [hl], by simp [hc]⟩

/-- the temporary slice `tmp` of length `n` (a re-used slot or a fresh array) -/
theorem edg_mkTmp (n : Nat) (t0 : Sl Nat) :
    (if t0.cap < n then Sl.mk' n n 0 else (⟨t0.data, n⟩ : Sl Nat)).len = n ∧
    (if t0.cap < n then Sl.mk' n n 0 else (⟨t0.data, n⟩ : Sl Nat)).WF := by
  unfold Sl.WF
  split
  · simp [Sl.mk']
  · rename_i h; simp only [Sl.cap] at h; exact ⟨rfl, by simp; omega⟩

theorem edg_set_total {n : Nat} (t : Sl Nat) (hl : t.len = n) (hw : t.WF) (j v : Nat) (hj : j < n) :
    ∃ t', t.set j v = .ok t' ∧ t'.len = n ∧ t'.WF := by
  have hs := Sl.set_ok_of_lt hw (i := j) (by omega) v
  exact ⟨_, hs, by rw [Sl.set_len hs, hl], Sl.set_wf hw hs⟩

theorem edg_fill_total' {n : Nat} (f : Nat → Nat) (t : Sl Nat) (hl : t.len = n) (hw : t.WF) :
    ∃ t', forRange (fun i (t : Sl Nat) => t.set i (f i)) t.len 0 t = .ok t' ∧ t'.len = n ∧ t'.WF := by
  obtain ⟨t', e, l, c⟩ := edg_fill_total f t.len t (Nat.le_refl _) hw
  refine ⟨t', e, by rw [l, hl], ?_⟩
  unfold Sl.WF at *; omega

theorem edgeless_total {n : Nat} {st : Storage} (hn : n ≠ 0) (h1 : n ≤ st.currentBestPerm.size)
    (h2 : n ≤ st.firstLeafOrbits.size) (h3 : n ≤ st.generators.size + 1) : ∃ x, edgeless n st = .ok x := by
  have hperm : (⟨st.currentBestPerm, 0⟩ : Sl Nat).reslice n = .ok ⟨st.currentBestPerm, n⟩ :=
    Sl.reslice_eq_ok.2 ⟨h1, rfl⟩
  have hds : dsSlice st.firstLeafOrbits n =
      .ok (st.firstLeafOrbits.extract 0 n, st.firstLeafOrbits.extract n st.firstLeafOrbits.size) := by
    simp [dsSlice, h2]
  obtain ⟨perm', hid, _, _⟩ := edg_fill_total (fun i => i) n ⟨st.currentBestPerm, n⟩ (Nat.le_refl _) h1
  unfold edgeless
  rw [hperm, hds]
  dsimp only
  unfold identLoop
  rw [hid]
  dsimp only
  by_cases hn1 : n = 1
  · rw [if_pos hn1]; exact ⟨_, rfl⟩
  rw [if_neg hn1, if_pos (by omega)]
  obtain ⟨ta, ea, la, wa⟩ := edg_fill_total' (fun i => i + 1) _ (edg_mkTmp n (st.generators.getD 0 default)).1
    (edg_mkTmp n (st.generators.getD 0 default)).2
  obtain ⟨tb, eb, lb, wb⟩ := edg_set_total ta la wa (n - 1) 0 (Nat.sub_lt (Nat.pos_of_ne_zero hn) Nat.one_pos)
  rw [ea]; dsimp only
  rw [eb]; dsimp only
  by_cases hn2 : n = 2
  · rw [if_pos hn2]; exact ⟨_, rfl⟩
  have hn3 : 2 < n := by omega
  rw [if_neg hn2, if_pos (by rw [Array.size_setIfInBounds]; exact Nat.le_of_lt_succ (Nat.lt_of_lt_of_le hn3 h3))]
  obtain ⟨tc, ec, lc, wc⟩ := edg_fill_total' (fun i => i) _
    (edg_mkTmp n ((st.generators.setIfInBounds 0 tb).getD 1 default)).1
    (edg_mkTmp n ((st.generators.setIfInBounds 0 tb).getD 1 default)).2
  obtain ⟨td, ed, ld, wd⟩ := edg_set_total tc lc wc 0 1 (Nat.lt_trans (by decide) hn3)
  obtain ⟨te, ee, le, we⟩ := edg_set_total td ld wd 1 0 (Nat.lt_trans (by decide) hn3)
  rw [ec]; dsimp only
  rw [ed]; dsimp only
  rw [ee]
  exact ⟨_, rfl⟩

end CanonF
