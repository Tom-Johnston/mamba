import Mamba.Lemmas.TermRun
/-! The whole run terminates within `fuelBound n`, also from every reachable state (C04). -/
namespace Search
open Disjoint GSearch GraphSpec

section
variable {O : Oracle} {n : Nat}

/-- explicit fuel (per call of `Next`) and call bound for the search on `n` vertices -/
def fuelBound (n : Nat) : Nat := (2 ^ n + 5) ^ n + 1

theorem fuelBound_eq (n : Nat) : fuelBound n = Wt n 0 + 1 := rfl

theorem exhaust_total (hO : OracleSpec O n) (pre pr : DG → Bool) (fuel : Nat) (h2 : 2 ≤ n) :
    ∀ (lim : Nat) (s : State), s.first = false → TInv O n (.outer true false) s →
      Phi n (.outer true false) s < lim → Phi n (.outer true false) s < fuel →
      ∃ outs t, exhaust O pre pr fuel lim s = .ok (outs, t)
  | 0, _, _, _, h, _ => absurd h (Nat.not_lt_zero _)
  | lim + 1, s, hf, hi, hl, hfu => by
    obtain ⟨⟨s', b⟩, h1⟩ := run_total hO pre pr fuel (.outer true false) s hi hfu
    have hpost := (run_post hO pre pr hi h1).1
    have hsp := run_sameParams h1
    simp only [exhaust]
    rw [next_later O pre pr fuel (by rw [hi.hn]; exact h2) hf, h1]
    cases b with
    | false => exact ⟨_, _, rfl⟩
    | true =>
      obtain ⟨hi', hlt⟩ := hpost rfl
      obtain ⟨outs, t, h⟩ := exhaust_total hO pre pr fuel h2 lim s' (hsp.2.2.2.trans hf) hi' (by omega) (by omega)
      simp only [h]
      exact ⟨_, _, rfl⟩

theorem exhaust_small_total (pre pr : DG → Bool) (fuel : Nat) {lim : Nat} {s : State} (hn : s.n < 2) (hl : 2 ≤ lim) :
    ∃ outs t, exhaust O pre pr fuel lim s = .ok (outs, t) := by
  obtain ⟨k, rfl⟩ : ∃ k, lim = k + 2 := ⟨lim - 2, by omega⟩
  have hcases : s.n = 0 ∨ s.n = 1 := by omega
  rcases hcases with h0 | h1
  · by_cases hc : (s.first && s.a == 0 && !pre s.g && !pr s.g) = true
    · simp [exhaust, next, h0, hc]
    · simp [exhaust, next, h0, hc]
  · by_cases hc : (s.first && s.a == 0 && !pre s.g.single && !pr s.g.single) = true
    · simp [exhaust, next, h1, hc]
    · simp [exhaust, next, h1, hc]

theorem exhaust_init_total (hO : OracleSpec O n) (pre pr : DG → Bool) (a m : Nat) (hm : 0 < m) {fuel lim : Nat}
    (hfu : fuelBound n ≤ fuel) (hl : fuelBound n ≤ lim) :
    ∃ outs t, exhaust O pre pr fuel lim (init n a m) = .ok (outs, t) := by
  have hW : 1 ≤ Wt n 0 := Nat.pow_pos (Nat.succ_pos _)
  rw [fuelBound_eq] at hfu hl
  by_cases h2 : 2 ≤ n
  · obtain ⟨k, rfl⟩ : ∃ k, lim = k + 1 := ⟨lim - 1, by omega⟩
    simp only [exhaust]
    rw [next_init h2]
    by_cases hpr : (pre K1 || pr K1) = true
    · simp only [hpr, if_true]; exact ⟨_, _, rfl⟩
    · simp only [hpr, Bool.false_eq_true, if_false]
      set s1 : State := { init n a m with g := K1, first := false } with hs1
      have hi : TInv O n (.outer false false) s1 :=
        ⟨rfl, hm, by show 0 + 1 ≤ n; omega, Built.one, rfl, rfl, fun _ => Or.inl rfl, (fun h => by cases h)⟩
      have hphi : Phi n (.outer false false) s1 = Wt n 0 - 1 := by
        simp [Phi, hs1, init, topList, SumW]
      obtain ⟨⟨s', b⟩, hr⟩ := run_total hO pre pr fuel (.outer false false) s1 hi (by omega)
      have hpost := (run_post hO pre pr hi hr).1
      have hsp := run_sameParams hr
      rw [hr]
      cases b with
      | false => exact ⟨_, _, rfl⟩
      | true =>
        obtain ⟨hi', hlt⟩ := hpost rfl
        obtain ⟨outs, t, h⟩ := exhaust_total hO pre pr fuel h2 k s' (hsp.2.2.2.trans rfl) hi' (by omega) (by omega)
        simp only [h]
        exact ⟨_, _, rfl⟩
  · exact exhaust_small_total pre pr fuel (s := init n a m) (Nat.lt_of_not_le h2) (by omega)

/-- what holds between two calls of `Next` in every reachable state (for `n ≥ 2`): before the first call the iterator is
fresh; afterwards either the stack of choices is empty (the search is over) or the termination invariant holds with a
potential below the bound -/
def RT (O : Oracle) (n : Nat) (s : State) : Prop :=
  (s.first = true → s.g = DG.empty ∧ s.choices = #[] ∧ s.currentPath = #[] ∧ s.cache = none) ∧
  (s.first = false → s.choices.size = 0 ∨
    (TInv O n (.outer true false) s ∧ Phi n (.outer true false) s + 1 < fuelBound n))

theorem run_done (pre pr : DG → Bool) {fuel : Nat} {s s' : State} {b : Bool} (hz : s.choices.size = 0)
    (h : run O pre pr fuel (.outer true false) s = .ok (s', b)) : s' = s ∧ b = false := by
  match fuel, h with
  | 0, h => simp [run] at h
  | 1, h => simp [run] at h
  | f + 2, h =>
    simp only [run, Bool.not_true, Bool.false_eq_true, if_false, hz, if_true] at h
    cases h; exact ⟨rfl, rfl⟩

theorem next_RT (hO : OracleSpec O n) (pre pr : DG → Bool) (h2 : 2 ≤ n) {fuel : Nat} {s s' : State} {b : Bool}
    (hn : s.n = n) (hm : 0 < s.m) (hr : RT O n s) (h : next O pre pr fuel s = .ok (s', b)) : RT O n s' := by
  have h0 : ¬ s.n = 0 := by omega
  have h1 : ¬ s.n = 1 := by omega
  have hW : 1 ≤ Wt n 0 := Nat.pow_pos (Nat.succ_pos _)
  unfold next at h
  simp only [h0, h1, if_false] at h
  cases hf : s.first with
  | true =>
    obtain ⟨hg, hc, hp, hca⟩ := hr.1 hf
    simp only [hf, if_true] at h
    split at h
    · cases h
      exact ⟨(fun hh => by cases hh), fun _ => Or.inl (by simp [hc])⟩
    · have hi : TInv O n (.outer false false) { s with g := s.g.single, first := false } := by
        refine ⟨hn, hm, ?_, ?_, ?_, ?_, fun _ => Or.inl hca, (fun hh => by cases hh)⟩
        · simp only [hp]; show 0 + 1 ≤ n; omega
        · simp only [hg]; exact Built.one
        · simp only [hg, hp]; rfl
        · simp only [cpsOf, hp, hc]; rfl
      have hphi : Phi n (.outer false false) { s with g := s.g.single, first := false } = Wt n 0 - 1 := by
        simp [Phi, hp, topList, SumW]
      have hsp := run_sameParams h
      obtain ⟨p1, p2⟩ := run_post hO pre pr hi h
      refine ⟨fun hh => ?_, fun _ => ?_⟩
      · have := hsp.2.2.2; simp only at this; rw [this] at hh; cases hh
      · cases b with
        | false => exact Or.inl (p2 rfl)
        | true =>
          obtain ⟨q1, q2⟩ := p1 rfl
          exact Or.inr ⟨q1, by rw [fuelBound_eq]; omega⟩
  | false =>
    simp only [hf, Bool.false_eq_true, if_false] at h
    have hsp := run_sameParams h
    refine ⟨fun hh => ?_, fun _ => ?_⟩
    · rw [hsp.2.2.2, hf] at hh; cases hh
    · rcases hr.2 hf with hz | ⟨hi, hphi⟩
      · obtain ⟨rfl, -⟩ := run_done pre pr hz h
        exact Or.inl hz
      · obtain ⟨p1, p2⟩ := run_post hO pre pr hi h
        cases b with
        | false => exact Or.inl (p2 rfl)
        | true =>
          obtain ⟨q1, q2⟩ := p1 rfl
          exact Or.inr ⟨q1, by omega⟩

theorem core_RT {s : State} (hr : RT O n s) : RT O n s.core := by
  refine ⟨fun hf => ?_, fun hf => ?_⟩
  · obtain ⟨a, b, c, -⟩ := hr.1 hf
    exact ⟨a, b, c, rfl⟩
  · rcases hr.2 hf with hz | ⟨hi, hphi⟩
    · exact Or.inl hz
    · exact Or.inr ⟨⟨hi.hn, hi.hm, hi.hL, hi.built, hi.nv, hi.seg, (fun h => by cases h), (fun h => by cases h)⟩, hphi⟩

theorem reachable_RT (pre pr : DG → Bool) {s : State} (h : Reachable O pre pr s) :
    OracleSpec O s.n → 0 < s.m → 2 ≤ s.n → RT O s.n s := by
  induction h with
  | init n a m =>
    intro _ _ _
    exact ⟨fun _ => ⟨rfl, rfl, rfl, rfl⟩, fun hf => by cases hf⟩
  | @next s s' b fuel _ hn ih =>
    intro hO hm h2
    obtain ⟨e1, -, e2, -⟩ := next_params hn
    rw [e1] at hO h2 ⊢
    rw [e2] at hm
    exact next_RT hO pre pr h2 rfl hm (ih hO hm h2) hn
  | @load s s' hs hl ih =>
    intro hO hm h2
    rw [load_save_core (hs.inv)] at hl
    cases hl
    exact core_RT (ih hO hm h2)

theorem exhaust_reachable_total (pre pr : DG → Bool) {s : State} (h : Reachable O pre pr s) (hO : OracleSpec O s.n)
    (hm : 0 < s.m) {fuel lim : Nat} (hfu : fuelBound s.n ≤ fuel) (hl : fuelBound s.n ≤ lim) :
    ∃ outs t, exhaust O pre pr fuel lim s = .ok (outs, t) := by
  have hW : 1 ≤ Wt s.n 0 := Nat.pow_pos (Nat.succ_pos _)
  have hfb := fuelBound_eq s.n
  by_cases h2 : 2 ≤ s.n
  · have hr := reachable_RT pre pr h hO hm h2
    cases hf : s.first with
    | true =>
      obtain ⟨hg, hc, hp, hca⟩ := hr.1 hf
      have : s = init s.n s.a s.m := by
        cases s; simp only [init] at *; simp [hf, hg, hc, hp, hca]
      rw [this]
      exact exhaust_init_total hO pre pr s.a s.m hm hfu hl
    | false =>
      rcases hr.2 hf with hz | ⟨hi, hphi⟩
      · obtain ⟨k, rfl⟩ : ∃ k, lim = k + 1 := ⟨lim - 1, by omega⟩
        obtain ⟨f, rfl⟩ : ∃ f, fuel = f + 2 := ⟨fuel - 2, by omega⟩
        simp only [exhaust]
        rw [next_later O pre pr _ h2 hf]
        simp only [run, Bool.not_true, Bool.false_eq_true, if_false, hz, if_true]
        exact ⟨_, _, rfl⟩
      · exact exhaust_total hO pre pr fuel h2 lim s hf hi (by omega) (by omega)
  · exact exhaust_small_total pre pr fuel (by omega) (by omega)

end

end Search
