import Mamba.Lemmas.IntSortInsertion
/-! Lemmas for C17 (`ints.Sort`): the pieces of `doPivot` (scans, partition loop, duplicate block, protect
loop, medianOfThree) with their invariants. -/
namespace IntSort

/-- an upward scan `g` from `a`: it moves on while `a < c` and `P a`, and returns where it stops -/
theorem scanUp_spec {P : Int → Prop} {g : Int → Outcome Int} {c : Int}
    (hstep : ∀ a, 0 ≤ a → a < c → (P a → g a = g (a + 1)) ∧ (¬ P a → g a = .ok a))
    (hstop : ∀ a, c ≤ a → g a = .ok a) : ∀ (n : Nat) (a : Int), 0 ≤ a → c - a ≤ n →
    ∃ a', g a = .ok a' ∧ a ≤ a' ∧ (a ≤ c → a' ≤ c) ∧ (c ≤ a → a' = a) ∧
      (∀ k, a ≤ k → k < a' → P k) ∧ (a' < c → ¬ P a') := by
  intro n
  induction n with
  | zero =>
    intro a _ hn
    exact ⟨a, hstop a (by omega), Int.le_refl _, id, fun _ => rfl, fun k h1 h2 => by omega, fun h => by omega⟩
  | succ n ih =>
    intro a ha hn
    by_cases hac : a < c
    · by_cases hP : P a
      · obtain ⟨a', hr, h1, h2, _, h4, h5⟩ := ih (a + 1) (by omega) (by omega)
        refine ⟨a', ((hstep a ha hac).1 hP).trans hr, by omega, fun _ => h2 hac, fun h => by omega, ?_, h5⟩
        intro k hk1 hk2
        by_cases hka : k = a
        · exact hka ▸ hP
        · exact h4 k (by omega) hk2
      · exact ⟨a, (hstep a ha hac).2 hP, Int.le_refl _, id, fun _ => rfl, fun k h1 h2 => by omega, fun _ => hP⟩
    · exact ⟨a, hstop a (by omega), Int.le_refl _, id, fun _ => rfl, fun k h1 h2 => by omega, fun h => by omega⟩

theorem scanLt_spec (d : Data) (pivot c a : Int) : 0 ≤ pivot → pivot < d.size → 0 ≤ a → c ≤ d.size →
    ∃ a', scanLt d pivot c a = .ok a' ∧ a ≤ a' ∧ (a ≤ c → a' ≤ c) ∧ (c ≤ a → a' = a) ∧
      (∀ k, a ≤ k → k < a' → vi d k < vi d pivot) ∧ (a' < c → ¬ vi d a' < vi d pivot) := by
  intro hp0 hp1 ha0 hc
  refine scanUp_spec (g := scanLt d pivot c) (fun a h0 hac => ?_) (fun a hca => ?_) (c - a).toNat a ha0
    (Int.self_le_toNat _)
  · rw [scanLt, dif_pos hac, lt_total h0 (by omega) hp0 hp1]
    exact ⟨fun h => by rw [decide_eq_true h], fun h => by rw [decide_eq_false h]⟩
  · rw [scanLt, dif_neg (by omega)]

theorem scanLe_spec (d : Data) (pivot c b : Int) : 0 ≤ pivot → pivot < d.size → 0 ≤ b → c ≤ d.size →
    ∃ b', scanLe d pivot c b = .ok b' ∧ b ≤ b' ∧ (b ≤ c → b' ≤ c) ∧ (c ≤ b → b' = b) ∧
      (∀ k, b ≤ k → k < b' → vi d k ≤ vi d pivot) ∧ (b' < c → vi d pivot < vi d b') := by
  intro hp0 hp1 hb0 hc
  have hstep : ∀ b, 0 ≤ b → b < c → (vi d b ≤ vi d pivot → scanLe d pivot c b = scanLe d pivot c (b + 1)) ∧
      (¬ vi d b ≤ vi d pivot → scanLe d pivot c b = .ok b) := by
    intro b h0 hbc
    rw [scanLe, dif_pos hbc, lt_total hp0 hp1 h0 (by omega)]
    exact ⟨fun h => by rw [decide_eq_false (Int.not_lt.mpr h)], fun h => by rw [decide_eq_true (Int.not_le.mp h)]⟩
  obtain ⟨b', h1, h2, h3, h4, h5, h6⟩ := scanUp_spec hstep (fun b hcb => by rw [scanLe, dif_neg (by omega)])
    (c - b).toNat b hb0 (Int.self_le_toNat _)
  exact ⟨b', h1, h2, h3, h4, h5, fun h => Int.not_le.mp (h6 h)⟩

/-- a downward scan `g` from `b`: it moves on while `a < b` and `P (b - 1)`, and returns where it stops -/
theorem scanDown_spec {P : Int → Prop} {g : Int → Outcome Int} {a hi : Int}
    (hstep : ∀ b, a < b → b ≤ hi → (P (b - 1) → g b = g (b - 1)) ∧ (¬ P (b - 1) → g b = .ok b))
    (hstop : ∀ b, b ≤ a → g b = .ok b) : ∀ (n : Nat) (b : Int), b ≤ hi → b - a ≤ n →
    ∃ b', g b = .ok b' ∧ b' ≤ b ∧ (a ≤ b → a ≤ b') ∧ (b ≤ a → b' = b) ∧
      (∀ k, b' ≤ k → k < b → P k) ∧ (a < b' → ¬ P (b' - 1)) := by
  intro n
  induction n with
  | zero =>
    intro b _ hn
    exact ⟨b, hstop b (by omega), Int.le_refl _, id, fun _ => rfl, fun k h1 h2 => by omega, fun h => by omega⟩
  | succ n ih =>
    intro b hb hn
    by_cases hab : a < b
    · by_cases hP : P (b - 1)
      · obtain ⟨b', hr, h1, h2, _, h4, h5⟩ := ih (b - 1) (by omega) (by omega)
        refine ⟨b', ((hstep b hab hb).1 hP).trans hr, by omega, fun _ => h2 (by omega), fun h => by omega, ?_, h5⟩
        intro k hk1 hk2
        by_cases hkb : k = b - 1
        · exact hkb ▸ hP
        · exact h4 k hk1 (by omega)
      · exact ⟨b, (hstep b hab hb).2 hP, Int.le_refl _, id, fun _ => rfl, fun k h1 h2 => by omega, fun _ => hP⟩
    · exact ⟨b, hstop b (by omega), Int.le_refl _, id, fun _ => rfl, fun k h1 h2 => by omega, fun h => by omega⟩

theorem scanGtDown_spec (d : Data) (pivot b c : Int) : 0 ≤ pivot → pivot < d.size → 0 ≤ b → c ≤ d.size →
    ∃ c', scanGtDown d pivot b c = .ok c' ∧ c' ≤ c ∧ (b ≤ c → b ≤ c') ∧ (c ≤ b → c' = c) ∧
      (∀ k, c' ≤ k → k < c → vi d pivot < vi d k) ∧ (b < c' → ¬ vi d pivot < vi d (c' - 1)) := by
  intro hp0 hp1 hb0 hc
  refine scanDown_spec (g := scanGtDown d pivot b) (fun c hbc hc => ?_) (fun c hcb => ?_) (c - b).toNat c hc
    (Int.self_le_toNat _)
  · rw [scanGtDown, dif_pos hbc, lt_total hp0 hp1 (by omega) (by omega)]
    exact ⟨fun h => by rw [decide_eq_true h], fun h => by rw [decide_eq_false h]⟩
  · rw [scanGtDown, dif_neg (by omega)]

theorem scanGeDown_spec (d : Data) (pivot a b : Int) : 0 ≤ pivot → pivot < d.size → 0 ≤ a → b ≤ d.size →
    ∃ b', scanGeDown d pivot a b = .ok b' ∧ b' ≤ b ∧ (a ≤ b → a ≤ b') ∧ (b ≤ a → b' = b) ∧
      (∀ k, b' ≤ k → k < b → ¬ vi d k < vi d pivot) ∧ (a < b' → vi d (b' - 1) < vi d pivot) := by
  intro hp0 hp1 ha0 hb
  have hstep : ∀ b, a < b → b ≤ d.size →
      (¬ vi d (b - 1) < vi d pivot → scanGeDown d pivot a b = scanGeDown d pivot a (b - 1)) ∧
      (¬ ¬ vi d (b - 1) < vi d pivot → scanGeDown d pivot a b = .ok b) := by
    intro b hab hb
    rw [scanGeDown, dif_pos hab, lt_total (by omega) (by omega) hp0 hp1]
    exact ⟨fun h => by rw [decide_eq_false h], fun h => by rw [decide_eq_true (Classical.not_not.mp h)]⟩
  obtain ⟨b', h1, h2, h3, h4, h5, h6⟩ := scanDown_spec (P := fun k => ¬ vi d k < vi d pivot)
    (g := scanGeDown d pivot a) hstep (fun b hba => by rw [scanGeDown, dif_neg (by omega)])
    (b - a).toNat b hb (Int.self_le_toNat _)
  exact ⟨b', h1, h2, h3, h4, h5, fun h => Classical.not_not.mp (h6 h)⟩

theorem partLoop_spec (lo hi pv : Int) (hlo : 0 ≤ lo) :
    ∀ (f : Nat) (d : Data) (b c : Int), lo < b → b ≤ c → c ≤ hi - 1 → hi ≤ d.size → vi d lo = pv →
      (∀ k, lo < k → k < b → vi d k ≤ pv) → (∀ k, c ≤ k → k < hi → pv ≤ vi d k) → c - b + 1 ≤ f →
      ∃ d' b', partLoop f d lo b c = .ok (d', b', b') ∧ RP (lo + 1) (hi - 1) d d' ∧ b ≤ b' ∧ b' ≤ c ∧
        (∀ k, lo < k → k < b' → vi d' k ≤ pv) ∧ (∀ k, b' ≤ k → k < hi → pv ≤ vi d' k) ∧ vi d' lo = pv := by
  intro f
  induction f with
  | zero => intro d b c _ _ _ _ _ _ _ h; omega
  | succ f ih =>
    intro d b c hb hbc hc hsz hpv hL hR hfuel
    unfold partLoop
    have hbd : lo < d.size ∧ 0 ≤ b ∧ c ≤ d.size := by omega
    obtain ⟨b1, hr1, p1, p2, _, p4, p5⟩ := scanLe_spec d lo c b hlo hbd.1 hbd.2.1 hbd.2.2
    have hb1c := p2 hbc
    obtain ⟨c1, hr2, q1, q2, _, q4, q5⟩ := scanGtDown_spec d lo b1 c hlo hbd.1 (Int.le_trans hbd.2.1 p1) hbd.2.2
    have hb1c1 := q2 hb1c
    simp only [hr1, hr2]
    have hL1 : ∀ k, lo < k → k < b1 → vi d k ≤ pv := fun k h1 h2 =>
      if hk : k < b then hL k h1 hk else hpv ▸ p4 k (Int.not_lt.mp hk) h2
    have hR1 : ∀ k, c1 ≤ k → k < hi → pv ≤ vi d k := fun k h1 h2 =>
      if hk : c ≤ k then hR k hk h2 else Int.le_of_lt (hpv ▸ q4 k h1 (Int.not_le.mp hk))
    by_cases hge : b1 ≥ c1
    · rw [if_pos hge]
      obtain rfl : c1 = b1 := Int.le_antisymm hge hb1c1
      exact ⟨d, c1, rfl, RP.refl _ _ _, p1, hb1c, hL1, hR1, hpv⟩
    · rw [if_neg hge]
      have hlt : b1 < c1 := Int.not_le.mp hge
      have hgt : pv < vi d b1 := hpv ▸ p5 (Int.lt_of_lt_of_le hlt q1)
      have hle : ¬ pv < vi d (c1 - 1) := hpv ▸ q5 hlt
      have hne : b1 ≠ c1 - 1 := fun h => hle (h ▸ hgt)
      have hbd1 : 0 ≤ b1 ∧ b1 < d.size ∧ 0 ≤ c1 - 1 ∧ c1 - 1 < d.size ∧ lo + 1 ≤ b1 ∧ b1 < hi - 1 ∧
          lo + 1 ≤ c1 - 1 ∧ c1 - 1 < hi - 1 ∧ lo ≠ b1 ∧ lo ≠ c1 - 1 ∧ b1 + 1 ≤ c1 - 1 := by omega
      obtain ⟨h1, h2, h3, h4, h5, h6, h7, h8, h9, h10, h11⟩ := hbd1
      obtain ⟨d1, hsw⟩ := swap_total h1 h2 h3 h4
      simp only [hsw]
      obtain ⟨d', b', hr', hrp', r1, r2, r3, r4, r5⟩ := ih d1 (b1 + 1) (c1 - 1) (by omega) h11 (by omega)
        (swap_size hsw ▸ hsz) ((swap_vi_other hsw h9 h10).trans hpv)
        (fun k k1 k2 => by
          by_cases hk : k = b1
          · rw [hk, swap_vi_left hsw]; exact Int.not_lt.mp hle
          · rw [swap_vi_other hsw hk (by omega)]; exact hL1 k k1 (by omega))
        (fun k k1 k2 => by
          by_cases hk : k = c1 - 1
          · rw [hk, swap_vi_right hsw]; exact Int.le_of_lt hgt
          · rw [swap_vi_other hsw (by omega) hk]; exact hR1 k (by omega) k2)
        (by omega)
      exact ⟨d', b', hr', (RP.of_swap hsw ⟨h5, h6⟩ ⟨h7, h8⟩).trans hrp', by omega, by omega, r3, r4, r5⟩

theorem protectLoop_spec (lo c pv : Int) (hlo : 0 ≤ lo) :
    ∀ (f : Nat) (d : Data) (a b : Int), lo < a → lo < b → b ≤ c → c ≤ d.size → vi d lo = pv →
      (∀ k, lo < k → k < b → vi d k ≤ pv) → (∀ k, b ≤ k → k < c → vi d k = pv) → b - a + 1 ≤ f → 1 ≤ f →
      ∃ d' a' b', protectLoop f d lo a b = .ok (d', a', b') ∧ RP (lo + 1) b d d' ∧ lo < b' ∧ b' ≤ b ∧
        (∀ k, lo < k → k < b' → vi d' k ≤ pv) ∧ (∀ k, b' ≤ k → k < c → vi d' k = pv) := by
  intro f
  induction f with
  | zero => intro d a b _ _ _ _ _ _ _ _ h; omega
  | succ f ih =>
    intro d a b ha hb hbc hsz hpv hL hM hfuel _
    unfold protectLoop
    have hbd : lo < d.size ∧ 0 ≤ a ∧ b ≤ d.size := by omega
    obtain ⟨b1, hr1, p1, p2, p3, p4, p5⟩ := scanGeDown_spec d lo a b hlo hbd.1 hbd.2.1 hbd.2.2
    have hb1 : lo < b1 ∧ 0 ≤ b1 ∧ (a ≤ b → a ≤ b1) := by
      by_cases h : a ≤ b
      · have := p2 h; omega
      · have := p3 (by omega); omega
    obtain ⟨a1, hr2, q1, q2, q3, q4, q5⟩ := scanLt_spec d lo b1 a hlo hbd.1 hbd.2.1 (Int.le_trans p1 hbd.2.2)
    simp only [hr1, hr2]
    have hM1 : ∀ k, b1 ≤ k → k < c → vi d k = pv := fun k h1 h2 =>
      if hk : b ≤ k then hM k hk h2 else
        Int.le_antisymm (hL k (Int.lt_of_lt_of_le hb1.1 h1) (Int.not_le.mp hk))
          (Int.not_lt.mp (hpv ▸ p4 k h1 (Int.not_le.mp hk)))
    have hL1 : ∀ k, lo < k → k < b1 → vi d k ≤ pv := fun k h1 h2 => hL k h1 (Int.lt_of_lt_of_le h2 p1)
    by_cases hge : a1 ≥ b1
    · rw [if_pos hge]
      exact ⟨d, a1, b1, rfl, RP.refl _ _ _, hb1.1, p1, hL1, hM1⟩
    · rw [if_neg hge]
      have hlt : a1 < b1 := Int.not_le.mp hge
      have hab1 : a ≤ b1 := by
        by_cases h : a ≤ b1
        · exact h
        · have := q3 (by omega); omega
      have ha1 : vi d a1 = pv :=
        Int.le_antisymm (hL a1 (Int.lt_of_lt_of_le ha q1) (Int.lt_of_lt_of_le hlt p1)) (Int.not_lt.mp (hpv ▸ q5 hlt))
      have hb1' : vi d (b1 - 1) < pv := hpv ▸ p5 (Int.lt_of_le_of_lt q1 hlt)
      have hne : a1 ≠ b1 - 1 := fun h => by rw [← h, ha1] at hb1'; exact Int.lt_irrefl _ hb1'
      have hbd1 : 0 ≤ a1 ∧ a1 < d.size ∧ 0 ≤ b1 - 1 ∧ b1 - 1 < d.size ∧ lo + 1 ≤ a1 ∧ a1 < b ∧
          lo + 1 ≤ b1 - 1 ∧ b1 - 1 < b ∧ lo ≠ a1 ∧ lo ≠ b1 - 1 ∧ lo < b1 - 1 ∧ b1 - 1 ≤ c := by omega
      obtain ⟨h1, h2, h3, h4, h5, h6, h7, h8, h9, h10, h11, h12⟩ := hbd1
      obtain ⟨d1, hsw⟩ := swap_total h1 h2 h3 h4
      simp only [hsw]
      obtain ⟨d', a', b', hr', hrp', r1, r2, r3, r4⟩ := ih d1 (a1 + 1) (b1 - 1) (by omega) h11 h12
        (swap_size hsw ▸ hsz) ((swap_vi_other hsw h9 h10).trans hpv)
        (fun k k1 k2 => by
          by_cases hk : k = a1
          · rw [hk, swap_vi_left hsw]; exact Int.le_of_lt hb1'
          · rw [swap_vi_other hsw hk (by omega)]; exact hL1 k k1 (by omega))
        (fun k k1 k2 => by
          by_cases hk : k = b1 - 1
          · rw [hk, swap_vi_right hsw]; exact ha1
          · rw [swap_vi_other hsw (by omega) hk]; exact hM1 k (by omega) k2)
        (by omega) (by omega)
      exact ⟨d', a', b', hr', (RP.of_swap hsw ⟨h5, h6⟩ ⟨h7, h8⟩).trans (hrp'.mono (Int.le_refl _) (by omega)),
        r1, by omega, r3, r4⟩

theorem medianOfThree_spec (d : Data) (m1 m0 m2 a b : Int) (h1 : a ≤ m1 ∧ m1 < b) (h0' : a ≤ m0 ∧ m0 < b)
    (h2 : a ≤ m2 ∧ m2 < b) (ha : 0 ≤ a) (hb : b ≤ d.size) :
    ∃ d', medianOfThree d m1 m0 m2 = .ok d' ∧ RP a b d d' ∧
      (m1 ≠ m0 → m1 ≠ m2 → m0 ≠ m2 → vi d' m1 ≤ vi d' m2) := by
  have B : 0 ≤ m1 ∧ m1 < d.size ∧ 0 ≤ m2 ∧ m2 < d.size := by omega
  obtain ⟨b1, b2, b5, b6⟩ := B
  unfold medianOfThree
  obtain ⟨d1, hr1, hrp1, hc1⟩ := swapIfLt_spec d m1 m0 a b h1 h0' ha hb
  have hs1 := hrp1.1
  rw [hr1]
  simp only
  rw [lt_total b5 (hs1 ▸ b6) b1 (hs1 ▸ b2)]
  by_cases hlt2 : vi d1 m2 < vi d1 m1
  · obtain ⟨d2, hs2⟩ := swap_total (d := d1) (i := m2) (j := m1) b5 (hs1 ▸ b6) b1 (hs1 ▸ b2)
    have hsz2 := (swap_size hs2).trans hs1
    obtain ⟨d3, hr3, hrp3, hc3⟩ := swapIfLt_spec d2 m1 m0 a b h1 h0' ha (hsz2 ▸ hb)
    simp only [hlt2, decide_true, hs2, hr3]
    refine ⟨d3, rfl, (hrp1.trans (RP.of_swap hs2 h2 h1)).trans hrp3, fun n1 n2 n3 => ?_⟩
    · have hord1 : vi d1 m0 ≤ vi d1 m1 := by
        rcases hc1 with ⟨hlt, hs⟩ | ⟨hlt, rfl⟩
        · rw [swap_vi_right hs, swap_vi_left hs]; exact Int.le_of_lt hlt
        · exact Int.not_lt.mp hlt
      have e1 : vi d2 m1 = vi d1 m2 := swap_vi_right hs2
      have e2 : vi d2 m2 = vi d1 m1 := swap_vi_left hs2
      have e0 : vi d2 m0 = vi d1 m0 := swap_vi_other hs2 n3 (Ne.symm n1)
      rcases hc3 with ⟨hlt, hs⟩ | ⟨hlt, rfl⟩
      · rw [swap_vi_left hs, swap_vi_other hs (Ne.symm n2) (Ne.symm n3)]; omega
      · omega
  · simp only [hlt2, decide_false]
    exact ⟨d1, rfl, hrp1, fun _ _ _ => Int.not_lt.mp hlt2⟩

/-- partition state around the pivot value `pv` stored at `lo`: `(lo,b) ≤ pv`, `[b,c) = pv`, `[c,hi) ≥ pv` -/
def PState (d : Data) (lo hi pv b c : Int) : Prop :=
  vi d lo = pv ∧ (∀ k, lo < k → k < b → vi d k ≤ pv) ∧ (∀ k, b ≤ k → k < c → vi d k = pv) ∧
  (∀ k, c ≤ k → k < hi → pv ≤ vi d k)

theorem dupsTail_spec (d : Data) (lo hi pv b c : Int) (hlo : 0 ≤ lo) (hsz : hi ≤ d.size) (hb : lo < b) (hbc : b ≤ c)
    (hc : c ≤ hi - 1) (hst : PState d lo hi pv b c) :
    ∃ d1 c1 n, dupsTail d lo hi c = .ok (d1, c1, n) ∧ RP (lo + 1) hi d d1 ∧ PState d1 lo hi pv b c1 ∧
      c ≤ c1 ∧ c1 ≤ c + 1 := by
  obtain ⟨hpv, hL, hM, hR⟩ := hst
  have B : lo < d.size ∧ 0 ≤ hi - 1 ∧ hi - 1 < d.size ∧ 0 ≤ c ∧ c < d.size ∧ lo + 1 ≤ c ∧ c < hi ∧ lo + 1 ≤ hi - 1 ∧
      lo ≠ c ∧ lo ≠ hi - 1 := by omega
  obtain ⟨b1, b2, b3, b4, b5, b6, b7, b8, b9, b10⟩ := B
  unfold dupsTail
  rw [lt_total hlo b1 b2 b3]
  by_cases hlt : vi d lo < vi d (hi - 1)
  · simp only [hlt, decide_true]
    exact ⟨d, c, 0, rfl, RP.refl _ _ _, ⟨hpv, hL, hM, hR⟩, Int.le_refl _, by omega⟩
  · obtain ⟨d1, hsw⟩ := swap_total (d := d) (i := c) (j := hi - 1) b4 b5 b2 b3
    simp only [hlt, decide_false, hsw]
    have hlast : vi d (hi - 1) = pv :=
      Int.le_antisymm (hpv ▸ Int.not_lt.mp hlt) (hR (hi - 1) hc (by omega))
    refine ⟨d1, c + 1, 1, rfl, RP.of_swap hsw ⟨b6, b7⟩ ⟨b8, by omega⟩,
      ⟨(swap_vi_other hsw b9 b10).trans hpv, fun k h1 h2 => ?_, fun k h1 h2 => ?_, fun k h1 h2 => ?_⟩,
      by omega, Int.le_refl _⟩
    · rw [swap_vi_other hsw (by omega) (by omega)]; exact hL k h1 h2
    · by_cases hk : k = c
      · rw [hk, swap_vi_left hsw]; exact hlast
      · rw [swap_vi_other hsw hk (by omega)]; exact hM k h1 (by omega)
    · by_cases hk : k = hi - 1
      · rw [hk, swap_vi_right hsw]; exact hR c (Int.le_refl _) b7
      · rw [swap_vi_other hsw (by omega) hk]; exact hR k (by omega) h2

theorem dupsLeft_spec (d : Data) (lo hi pv b c : Int) (n : Nat) (hlo : 0 ≤ lo) (hsz : hi ≤ d.size) (hb : lo + 1 < b)
    (hbc : b ≤ c) (hc : c ≤ hi) (hst : PState d lo hi pv b c) :
    ∃ b2 n2, dupsLeft d lo b n = .ok (b2, n2) ∧ PState d lo hi pv b2 c ∧ b - 1 ≤ b2 ∧ b2 ≤ b := by
  obtain ⟨hpv, hL, hM, hR⟩ := hst
  unfold dupsLeft
  rw [lt_total (by omega) (by omega) hlo (by omega)]
  by_cases hlt : vi d (b - 1) < vi d lo
  · simp only [hlt, decide_true]
    exact ⟨b, n, rfl, ⟨hpv, hL, hM, hR⟩, by omega, Int.le_refl _⟩
  · simp only [hlt, decide_false]
    have heq : vi d (b - 1) = pv :=
      Int.le_antisymm (hL (b - 1) (by omega) (by omega)) (hpv ▸ Int.not_lt.mp hlt)
    refine ⟨b - 1, n + 1, rfl, ⟨hpv, fun k h1 h2 => hL k h1 (by omega), fun k h1 h2 => ?_, hR⟩, Int.le_refl _, by omega⟩
    by_cases hk : k = b - 1
    · rw [hk]; exact heq
    · exact hM k (by omega) h2

theorem dupsMid_spec (d : Data) (lo hi pv m b c : Int) (n : Nat) (hlo : 0 ≤ lo) (hsz : hi ≤ d.size) (hm : lo < m)
    (hmb : m < b) (hbc : b ≤ c) (hc : c ≤ hi) (hst : PState d lo hi pv b c) :
    ∃ d3 b3 n3, dupsMid d lo m b n = .ok (d3, b3, n3) ∧ RP (lo + 1) hi d d3 ∧ PState d3 lo hi pv b3 c ∧
      b - 1 ≤ b3 ∧ b3 ≤ b := by
  obtain ⟨hpv, hL, hM, hR⟩ := hst
  have B : lo < d.size ∧ 0 ≤ m ∧ m < d.size ∧ 0 ≤ b - 1 ∧ b - 1 < d.size ∧ lo + 1 ≤ m ∧ m < hi ∧ lo + 1 ≤ b - 1 ∧
      b - 1 < hi ∧ lo ≠ m ∧ lo ≠ b - 1 ∧ lo < b - 1 := by omega
  obtain ⟨b1, b2, b3, b4, b5, b6, b7, b8, b9, b10, b11, b12⟩ := B
  unfold dupsMid
  rw [lt_total b2 b3 hlo b1]
  by_cases hlt : vi d m < vi d lo
  · simp only [hlt, decide_true]
    exact ⟨d, b, n, rfl, RP.refl _ _ _, ⟨hpv, hL, hM, hR⟩, by omega, Int.le_refl _⟩
  · obtain ⟨d3, hsw⟩ := swap_total (d := d) (i := m) (j := b - 1) b2 b3 b4 b5
    simp only [hlt, decide_false, hsw]
    have hmeq : vi d m = pv := Int.le_antisymm (hL m hm hmb) (hpv ▸ Int.not_lt.mp hlt)
    refine ⟨d3, b - 1, n + 1, rfl, RP.of_swap hsw ⟨b6, b7⟩ ⟨b8, b9⟩,
      ⟨(swap_vi_other hsw b10 b11).trans hpv, fun k h1 h2 => ?_, fun k h1 h2 => ?_, fun k h1 h2 => ?_⟩,
      Int.le_refl _, by omega⟩
    · by_cases hk : k = m
      · rw [hk, swap_vi_left hsw]; exact hL (b - 1) b12 (by omega)
      · rw [swap_vi_other hsw hk (by omega)]; exact hL k h1 (by omega)
    · by_cases hk : k = b - 1
      · rw [hk, swap_vi_right hsw]; exact hmeq
      · rw [swap_vi_other hsw (by omega) hk]; exact hM k (by omega) h2
    · rw [swap_vi_other hsw (by omega) (by omega)]; exact hR k h1 h2

theorem dupsBlock_spec (d : Data) (lo hi pv m b c : Int) (hlo : 0 ≤ lo) (hsz : hi ≤ d.size) (hm : lo < m)
    (hmb : m + 1 < b) (hbc : b ≤ c) (hc : c ≤ hi - 1) (hst : PState d lo hi pv b c) :
    ∃ d3 b3 c3 n3, dupsBlock d lo m hi b c = .ok (d3, b3, c3, n3) ∧ RP (lo + 1) hi d d3 ∧
      PState d3 lo hi pv b3 c3 ∧ lo + 1 < b3 + 1 ∧ b3 ≤ c3 ∧ c3 ≤ hi := by
  unfold dupsBlock
  obtain ⟨d1, c1, n1, hr1, hrp1, hst1, h1a, h1b⟩ := dupsTail_spec d lo hi pv b c hlo hsz (by omega) hbc hc hst
  have hsz1 : hi ≤ d1.size := by rw [hrp1.1]; exact hsz
  have B1 : lo + 1 < b ∧ b ≤ c1 ∧ c1 ≤ hi := by omega
  obtain ⟨b2, n2, hr2, hst2, h2a, h2b⟩ := dupsLeft_spec d1 lo hi pv b c1 n1 hlo hsz1 B1.1 B1.2.1 B1.2.2 hst1
  have B2 : m < b2 ∧ b2 ≤ c1 := by omega
  obtain ⟨d3, b3, n3, hr3, hrp3, hst3, h3a, h3b⟩ := dupsMid_spec d1 lo hi pv m b2 c1 n2 hlo hsz1 hm B2.1 B2.2 B1.2.2 hst2
  simp only [hr1, hr2, hr3]
  have B3 : lo + 1 < b3 + 1 ∧ b3 ≤ c1 := by omega
  exact ⟨d3, b3, c1, n3, rfl, hrp1.trans hrp3, hst3, B3.1, B3.2, B1.2.2⟩

theorem pivot_finish (d : Data) (lo hi pv b c : Int) (hlo : 0 ≤ lo) (hsz : hi ≤ d.size) (hb : lo < b) (hbc : b ≤ c)
    (hc : c ≤ hi) (hst : PState d lo hi pv b c) :
    ∃ d5, swap d lo (b - 1) = .ok d5 ∧ RP lo hi d d5 ∧
      (∀ p q, lo ≤ p → p < b - 1 → b - 1 ≤ q → q < hi → vi d5 p ≤ vi d5 q) ∧
      (∀ p q, b - 1 ≤ p → p < c → b - 1 ≤ q → q < c → vi d5 p = vi d5 q) ∧
      (∀ p q, b - 1 ≤ p → p < c → c ≤ q → q < hi → vi d5 p ≤ vi d5 q) := by
  obtain ⟨hpv, hL, hM, hR⟩ := hst
  have B : lo < d.size ∧ 0 ≤ b - 1 ∧ b - 1 < d.size ∧ lo < hi ∧ lo ≤ b - 1 ∧ b - 1 < hi := by omega
  obtain ⟨b1, b2, b3, b4, b5, b6⟩ := B
  obtain ⟨d5, hsw⟩ := swap_total (d := d) (i := lo) (j := b - 1) hlo b1 b2 b3
  have hle : ∀ p, lo ≤ p → p < b - 1 → vi d5 p ≤ pv := by
    intro p h1 h2
    by_cases hp : p = lo
    · rw [hp, swap_vi_left hsw]; exact hL (b - 1) (by omega) (by omega)
    · rw [swap_vi_other hsw hp (by omega)]; exact hL p (by omega) (by omega)
  have hmid : ∀ q, b - 1 ≤ q → q < c → vi d5 q = pv := by
    intro q h1 h2
    by_cases hq : q = b - 1
    · rw [hq, swap_vi_right hsw]; exact hpv
    · rw [swap_vi_other hsw (by omega) hq]; exact hM q (by omega) h2
  have hge : ∀ q, c ≤ q → q < hi → pv ≤ vi d5 q := by
    intro q h1 h2
    rw [swap_vi_other hsw (by omega) (by omega)]; exact hR q h1 h2
  refine ⟨d5, hsw, RP.of_swap hsw ⟨Int.le_refl _, b4⟩ ⟨b5, b6⟩, fun p q h1 h2 h3 h4 => ?_,
    fun p q h1 h2 h3 h4 => (hmid p h1 h2).trans (hmid q h3 h4).symm,
    fun p q h1 h2 h3 h4 => (hmid p h1 h2).symm ▸ hge q h3 h4⟩
  by_cases hq : q < c
  · rw [hmid q h3 hq]; exact hle p h1 h2
  · exact Int.le_trans (hle p h1 h2) (hge q (Int.not_lt.mp hq) h4)

theorem ninther_spec (cf : Cfg) (hD : 3 ≤ cf.nintherDiv) (hM0 : 0 ≤ cf.nintherMul ∧ 0 ≤ cf.nintherMul2)
    (hMD : cf.nintherMul < cf.nintherDiv ∧ cf.nintherMul2 < cf.nintherDiv)
    (d : Data) (lo hi : Int) (hlo : 0 ≤ lo) (hbig : hi - lo ≥ 1) (hsz : hi ≤ d.size) :
    ∃ d0, ninther cf d lo hi ((lo + hi) / 2) = .ok d0 ∧ RP lo hi d d0 := by
  unfold ninther
  by_cases h40 : hi - lo > cf.nintherMin
  · rw [if_pos h40]
    simp only
    rw [Int.tdiv_eq_ediv_of_nonneg (show 0 ≤ hi - lo by omega)]
    -- s = n / D and P = M * s as opaque quantities with the facts needed
    have hs0 : 0 ≤ (hi - lo) / cf.nintherDiv := Int.ediv_nonneg (by omega) (by omega)
    have hDs : cf.nintherDiv * ((hi - lo) / cf.nintherDiv) ≤ hi - lo := Int.mul_ediv_self_le (by omega)
    generalize (hi - lo) / cf.nintherDiv = s at hs0 hDs ⊢
    have h3s : 3 * s ≤ cf.nintherDiv * s := Int.mul_le_mul_of_nonneg_right hD hs0
    have hP0 : 0 ≤ cf.nintherMul * s := Int.mul_nonneg hM0.1 hs0
    have hP1 : cf.nintherMul * s ≤ (cf.nintherDiv - 1) * s := Int.mul_le_mul_of_nonneg_right (by omega) hs0
    have hQ0 : 0 ≤ cf.nintherMul2 * s := Int.mul_nonneg hM0.2 hs0
    have hQ1 : cf.nintherMul2 * s ≤ (cf.nintherDiv - 1) * s := Int.mul_le_mul_of_nonneg_right (by omega) hs0
    have hP2 : (cf.nintherDiv - 1) * s = cf.nintherDiv * s - s := by rw [Int.sub_mul, Int.one_mul]
    generalize cf.nintherMul * s = P at hP0 hP1 ⊢
    generalize cf.nintherMul2 * s = P' at hQ0 hQ1 ⊢
    generalize cf.nintherDiv * s = Ds at hDs h3s hP2
    have hPn : P ≤ hi - lo - 1 ∧ P' ≤ hi - lo - 1 := by
      by_cases hz : s = 0
      · subst hz; omega
      · omega
    generalize hm : (lo + hi) / 2 = m
    -- all nine sample positions lie in `[lo, hi)`
    have hpos : (lo ≤ lo + s ∧ lo + s < hi) ∧ (lo ≤ lo + P ∧ lo + P < hi) ∧ (lo ≤ m ∧ m < hi) ∧
        (lo ≤ m - s ∧ m - s < hi) ∧ (lo ≤ m + s ∧ m + s < hi) ∧ (lo ≤ hi - 1 ∧ hi - 1 < hi) ∧
        (lo ≤ hi - 1 - s ∧ hi - 1 - s < hi) ∧ (lo ≤ hi - 1 - P' ∧ hi - 1 - P' < hi) := by
      omega
    obtain ⟨p1, p2, p3, p4, p5, p6, p7, p8⟩ := hpos
    obtain ⟨d1, hr1, hrp1, _⟩ := medianOfThree_spec d lo (lo + s) (lo + P) lo hi ⟨Int.le_refl _, by omega⟩ p1 p2 hlo hsz
    rw [hr1]
    simp only
    obtain ⟨d2, hr2, hrp2, _⟩ := medianOfThree_spec d1 m (m - s) (m + s) lo hi p3 p4 p5 hlo (hrp1.1 ▸ hsz)
    rw [hr2]
    simp only
    obtain ⟨d3, hr3, hrp3, _⟩ := medianOfThree_spec d2 (hi - 1) (hi - 1 - s) (hi - 1 - P') lo hi p6 p7 p8 hlo
      (hrp2.1 ▸ hrp1.1 ▸ hsz)
    exact ⟨d3, hr3, (hrp1.trans hrp2).trans hrp3⟩
  · rw [if_neg h40]
    exact ⟨d, rfl, RP.refl _ _ _⟩

theorem dupsStage_spec (cf : Cfg) (hQ : cf.dupsDiv < 0 ∨ 3 ≤ cf.dupsDiv) (d : Data) (lo hi pv b : Int) (hlo : 0 ≤ lo)
    (hbig : hi - lo ≥ 3) (hsz : hi ≤ d.size) (hb : lo < b) (hbh : b ≤ hi - 1) (hst : PState d lo hi pv b b) :
    ∃ d3 b3 c3 protect, dupsStage cf d lo ((lo + hi) / 2) hi b b = .ok (d3, b3, c3, protect) ∧
      RP (lo + 1) hi d d3 ∧ PState d3 lo hi pv b3 c3 ∧ lo < b3 ∧ b3 ≤ c3 ∧ c3 ≤ hi := by
  unfold dupsStage
  simp only
  have hs : Int.tdiv (hi - lo) cf.dupsDiv = (hi - lo) / cf.dupsDiv := Int.tdiv_eq_ediv_of_nonneg (by omega)
  rw [hs]
  by_cases hcond : ¬ (hi - b < cf.protectMin) ∧ hi - b < (hi - lo) / cf.dupsDiv
  · have : (!decide (hi - b < cf.protectMin) && decide (hi - b < (hi - lo) / cf.dupsDiv)) = true := by
      simp [hcond.1, hcond.2]
    rw [if_pos this]
    -- the divisor is ≥ 3 here: with a negative divisor the quotient is ≤ 0 < hi - b
    have hQ3 : 3 ≤ cf.dupsDiv := by
      rcases hQ with h | h
      · have := Int.ediv_nonpos_of_nonneg_of_nonpos (a := hi - lo) (b := cf.dupsDiv) (by omega) (by omega)
        omega
      · exact h
    have hq0 : 0 ≤ (hi - lo) / cf.dupsDiv := Int.ediv_nonneg (by omega) (by omega)
    have hQq : cf.dupsDiv * ((hi - lo) / cf.dupsDiv) ≤ hi - lo := Int.mul_ediv_self_le (by omega)
    have hlt := hcond.2
    generalize (hi - lo) / cf.dupsDiv = q at hq0 hQq hlt
    have h3q : 3 * q ≤ cf.dupsDiv * q := Int.mul_le_mul_of_nonneg_right hQ3 hq0
    generalize cf.dupsDiv * q = Qq at hQq h3q
    have M : lo < (lo + hi) / 2 ∧ (lo + hi) / 2 + 1 < b := by omega
    obtain ⟨d3, b3, c3, n3, hr, hrp, hst3, h1, h2, h3⟩ := dupsBlock_spec d lo hi pv ((lo + hi) / 2) b b hlo hsz
      M.1 M.2 (Int.le_refl _) hbh hst
    rw [hr]
    exact ⟨d3, b3, c3, _, rfl, hrp, hst3, Int.lt_of_add_lt_add_right h1, h2, h3⟩
  · have : ¬ ((!decide (hi - b < cf.protectMin) && decide (hi - b < (hi - lo) / cf.dupsDiv)) = true) := by
      intro h
      simp at h
      exact hcond ⟨by omega, h.2⟩
    rw [if_neg this]
    exact ⟨d, b, b, _, rfl, RP.refl _ _ _, hst, hb, Int.le_refl _, by omega⟩

theorem protectStage_spec (d : Data) (lo hi pv a b c : Int) (protect : Bool) (hlo : 0 ≤ lo) (hsz : hi ≤ d.size)
    (ha : lo < a) (hb : lo < b) (hbc : b ≤ c) (hc : c ≤ hi) (hst : PState d lo hi pv b c) :
    ∃ d4 b4, protectStage ((hi - lo).toNat + 1) d lo a b protect = .ok (d4, b4) ∧ RP (lo + 1) hi d d4 ∧
      PState d4 lo hi pv b4 c ∧ lo < b4 ∧ b4 ≤ c := by
  unfold protectStage
  cases protect with
  | false => exact ⟨d, b, rfl, RP.refl _ _ _, hst, hb, hbc⟩
  | true =>
    simp only [if_true]
    obtain ⟨hpv, hL, hM, hR⟩ := hst
    have B : c ≤ d.size ∧ b - a + 1 ≤ ((hi - lo).toNat + 1 : Nat) ∧ 1 ≤ (hi - lo).toNat + 1 ∧ b ≤ hi ∧ lo < lo + 1 := by
      omega
    obtain ⟨d4, a4, b4, hr, hrp, h1, h2, h3, h4⟩ := protectLoop_spec lo c pv hlo ((hi - lo).toNat + 1) d a b ha hb hbc
      B.1 hpv hL hM B.2.1 B.2.2.1
    rw [hr]
    refine ⟨d4, b4, rfl, hrp.mono (Int.le_refl _) B.2.2.2.1, ⟨?_, h3, h4, ?_⟩, h1, Int.le_trans h2 hbc⟩
    · rw [hrp.2.1 lo (Or.inl B.2.2.2.2)]; exact hpv
    · intro k hk1 hk2
      rw [hrp.2.1 k (Or.inr (Int.le_trans hbc hk1))]; exact hR k hk1 hk2

theorem doPivot_spec (cf : Cfg) (hps : cf.pivotShift = 1) (hD : 3 ≤ cf.nintherDiv)
    (hM0 : 0 ≤ cf.nintherMul ∧ 0 ≤ cf.nintherMul2)
    (hMD : cf.nintherMul < cf.nintherDiv ∧ cf.nintherMul2 < cf.nintherDiv) (hQ : cf.dupsDiv < 0 ∨ 3 ≤ cf.dupsDiv)
    (d : Data) (lo hi : Int) (hlo : 0 ≤ lo) (hbig : hi - lo ≥ 3) (hsz : hi ≤ d.size) :
    PivotOK cf d lo hi := by
  have T : ¬ lo + hi < 0 ∧ hi - lo ≥ 1 ∧ lo ≤ lo + 1 ∧ hi - 1 ≤ hi ∧ lo < hi ∧ lo < hi - 1 ∧ 0 ≤ lo + 1 ∧
      lo ≤ hi - 1 ∧ hi - 1 < hi ∧ lo ≠ hi - 1 := by omega
  obtain ⟨t1, t2, t3, t4, t5, t6, t7, t8, t9, t10⟩ := T
  have hm : lo < (lo + hi) / 2 ∧ (lo + hi) / 2 < hi - 1 := by omega
  unfold PivotOK doPivot
  rw [if_neg t1]
  simp only [hps, Int.pow_succ, Int.pow_zero, Int.one_mul]
  obtain ⟨d0, hr0, hrp0⟩ := ninther_spec cf hD hM0 hMD d lo hi hlo t2 hsz
  generalize hmdef : (lo + hi) / 2 = m at hm hr0 ⊢
  have hsz0 : hi ≤ d0.size := by rw [hrp0.1]; exact hsz
  obtain ⟨d1, hr1, hrp1, hmed⟩ := medianOfThree_spec d0 lo m (hi - 1) lo hi
    ⟨Int.le_refl _, t5⟩ ⟨Int.le_of_lt hm.1, Int.lt_trans hm.2 t9⟩ ⟨t8, t9⟩ hlo hsz0
  replace hmed := hmed (Int.ne_of_lt hm.1) t10 (Int.ne_of_lt hm.2)
  have hsz1 : hi ≤ d1.size := by rw [hrp1.1]; exact hsz0
  have hlo1 : lo < d1.size := Int.lt_of_lt_of_le t5 hsz1
  obtain ⟨a, hra, a1, a2, _, a4, _⟩ := scanLt_spec d1 lo (hi - 1) (lo + 1) hlo hlo1 t7 (Int.le_trans t4 hsz1)
  have ha2 := a2 t6
  obtain ⟨d2, b, hrb, hrp2, b1, b2, bL, bR, bpv⟩ := partLoop_spec lo hi (vi d1 lo) hlo ((hi - lo).toNat + 1) d1 a (hi - 1)
    (Int.lt_of_lt_of_le (Int.lt_add_one_iff.mpr (Int.le_refl _)) a1) ha2 (Int.le_refl _) hsz1 rfl
    (fun k h1 h2 => Int.le_of_lt (a4 k h1 h2))
    (fun k h1 h2 => by rw [show k = hi - 1 by omega]; exact hmed)
    (by omega)
  have hsz2 : hi ≤ d2.size := by rw [hrp2.1]; exact hsz1
  have hlob : lo < b := Int.lt_of_lt_of_le (Int.lt_of_lt_of_le (Int.lt_add_one_iff.mpr (Int.le_refl _)) a1) b1
  obtain ⟨d3, b3, c3, protect, hr3, hrp3, hst3, c1, c2, c3'⟩ := dupsStage_spec cf hQ d2 lo hi (vi d1 lo) b hlo hbig hsz2
    hlob b2 ⟨bpv, bL, fun k h1 h2 => absurd h2 (Int.not_lt.mpr h1), bR⟩
  rw [hmdef] at hr3
  have hsz3 : hi ≤ d3.size := by rw [hrp3.1]; exact hsz2
  obtain ⟨d4, b4, hr4, hrp4, hst4, e1, e2⟩ := protectStage_spec d3 lo hi (vi d1 lo) a b3 c3 protect hlo hsz3
    (Int.lt_of_lt_of_le (Int.lt_add_one_iff.mpr (Int.le_refl _)) a1) c1 c2 c3' hst3
  have hsz4 : hi ≤ d4.size := by rw [hrp4.1]; exact hsz3
  obtain ⟨d5, hr5, hrp5, p1, p2, p3⟩ := pivot_finish d4 lo hi (vi d1 lo) b4 c3 hlo hsz4 e1 e2 c3' hst4
  simp only [hr0, hr1, hra, hrb, hr3, hr4, hr5]
  refine ⟨d5, b4 - 1, c3, rfl, ?_, Int.le_sub_one_of_lt e1, Int.le_trans (Int.sub_le_self b4 (by decide)) e2, c3',
    p1, p2, p3⟩
  exact ((((hrp0.trans hrp1).trans (hrp2.mono t3 t4)).trans (hrp3.mono t3 (Int.le_refl _))).trans
    (hrp4.mono t3 (Int.le_refl _))).trans hrp5

end IntSort
