import Mamba.Lemmas.C06Fam
import Mamba.Lemmas.C06Hand
/-! C06: `FlowerSnark`. -/
namespace Construct
open GraphSpec

/-- the pairs written in round `i` -/
def snarkPairs (n i : Nat) : List (Nat × Nat) :=
  [(4 * i, 4 * i + 1), (4 * i, 4 * i + 2), (4 * i, 4 * i + 3)] ++
  (if i + 1 < n then [(4 * i + 1, 4 * i + 1 + 4), (4 * i + 2, 4 * i + 2 + 4), (4 * i + 3, 4 * i + 3 + 4)]
   else [(1, 4 * i + 1), (3, 4 * i + 2), (2, 4 * i + 3)])

theorem snarkIdxs_eq (n i : Nat) : snarkIdxs n i = (snarkPairs n i).map pos := by
  unfold snarkIdxs snarkPairs
  split <;> rfl

theorem mem_snarkPairs (n i u v : Nat) : (u, v) ∈ snarkPairs n i ↔
    u = 4 * i ∧ v = 4 * i + 1 ∨ u = 4 * i ∧ v = 4 * i + 2 ∨ u = 4 * i ∧ v = 4 * i + 3 ∨
    if i + 1 < n then
      u = 4 * i + 1 ∧ v = 4 * i + 1 + 4 ∨ u = 4 * i + 2 ∧ v = 4 * i + 2 + 4 ∨ u = 4 * i + 3 ∧ v = 4 * i + 3 + 4
    else u = 1 ∧ v = 4 * i + 1 ∨ u = 3 ∧ v = 4 * i + 2 ∨ u = 2 ∧ v = 4 * i + 3 := by
  unfold snarkPairs
  split <;> simp only [List.cons_append, List.nil_append, List.mem_cons, Prod.mk.injEq, List.not_mem_nil, or_false]

theorem snarkPairs_lt (n i : Nat) (hn : 3 ≤ n) (hi : i < n) : ∀ p ∈ snarkPairs n i, p.1 < p.2 ∧ p.2 < 4 * n := by
  rintro ⟨u, v⟩ hp
  rw [mem_snarkPairs] at hp
  split at hp <;> omega

theorem abs_eq_ofPairs (d : Dense) (hs : d.edges.size = tri d.n) (ps : List (Nat × Nat))
    (hps : ∀ p ∈ ps, p.1 < p.2 ∧ p.2 < d.n) (hbit : ∀ k, bitAt d.edges k = decide (k ∈ ps.map pos)) :
    d.abs = ofPairs d.n ps := by
  -- `ofPairs n ps` is the symmetric closure of "is listed"
  rw [ofPairs_eq_symm d.n ps (fun u v => decide ((u, v) ∈ ps))
    (fun p hp => ⟨Nat.lt_trans (hps p hp).1 (hps p hp).2, (hps p hp).2⟩)
    (fun p hp _ => Or.inl (decide_eq_true hp)) (fun u v _ _ _ h => Or.inl (of_decide_eq_true h))]
  refine abs_eq_symm d hs _ fun u v huv hv => ?_
  have hvu : decide ((v, u) ∈ ps) = false := decide_eq_false fun hm => Nat.lt_asymm huv (hps _ hm).1
  rw [hbit, hvu, Bool.or_false, Bool.eq_iff_iff, decide_eq_true_eq, decide_eq_true_eq, List.mem_map]
  constructor
  · rintro ⟨p, hp, e⟩
    obtain ⟨e1, e2⟩ := tri_inj (hps p hp).1 huv e
    rw [← e1, ← e2]; exact hp
  · intro hm; exact ⟨(u, v), hm, rfl⟩

theorem mem_flatMap_snarkPairs (n : Nat) (p : Nat × Nat) :
    p ∈ (List.range n).flatMap (snarkPairs n) ↔ ∃ i, i < n ∧ p ∈ snarkPairs n i := by
  simp only [List.mem_flatMap, List.mem_range]

theorem ofPairs_snarkPairs (n : Nat) (hn : 3 ≤ n) :
    ofPairs (4 * n) ((List.range n).flatMap (snarkPairs n)) = Families.flowerSnark n := by
  have hmem := mem_flatMap_snarkPairs n
  rw [Families.flowerSnark]
  refine ofPairs_eq_symm _ _ _ (fun p hp => ?_) ?_ ?_
  · obtain ⟨i, hi, hp⟩ := (hmem p).mp hp
    have := snarkPairs_lt n i hn hi p hp
    omega
  · -- every pair written is a clause of the definition, read from one of its two ends
    rintro ⟨x, y⟩ hp _
    obtain ⟨i, hi, hp⟩ := (hmem _).mp hp
    rw [mem_snarkPairs] at hp
    simp only [Bool.or_eq_true, Bool.and_eq_true, beq_iff_eq, decide_eq_true_eq]
    rcases hp with ⟨rfl, rfl⟩ | ⟨rfl, rfl⟩ | ⟨rfl, rfl⟩ | hp
    · exact Or.inl (Or.inl (Or.inl (Or.inl (Or.inl (Or.inl (by omega))))))
    · exact Or.inl (Or.inl (Or.inl (Or.inl (Or.inl (Or.inl (by omega))))))
    · exact Or.inl (Or.inl (Or.inl (Or.inl (Or.inl (Or.inl (by omega))))))
    · split at hp
      · rename_i hlt
        rcases hp with ⟨rfl, rfl⟩ | ⟨rfl, rfl⟩ | ⟨rfl, rfl⟩
        · refine Or.inl (Or.inl (Or.inl (Or.inl (Or.inl (Or.inr ⟨(by omega), ?_⟩)))))
          rw [show (4 * i + 1) / 4 = i by omega, Nat.mod_eq_of_lt hlt]; omega
        · exact Or.inl (Or.inl (Or.inl (Or.inl (Or.inr ⟨(by omega), rfl⟩))))
        · exact Or.inl (Or.inl (Or.inl (Or.inr ⟨(by omega), rfl⟩)))
      · have hin : i + 1 = n := by omega
        rcases hp with ⟨rfl, rfl⟩ | ⟨rfl, rfl⟩ | ⟨rfl, rfl⟩
        · refine Or.inr (Or.inl (Or.inl (Or.inl (Or.inl (Or.inr ⟨(by omega), ?_⟩)))))
          rw [show (4 * i + 1) / 4 = i by omega, hin, Nat.mod_self]
        · exact Or.inr (Or.inl (Or.inr ⟨(by omega), rfl⟩))
        · exact Or.inr (Or.inr ⟨(by omega), rfl⟩)
  · -- every clause of the definition at `u` is written in round `u / 4`
    intro u v hne hu hv h
    simp only [Bool.or_eq_true, Bool.and_eq_true, beq_iff_eq, decide_eq_true_eq] at h
    have hu4 : u / 4 < n := by omega
    rcases h with ((((h | h) | h) | h) | h) | h
    · refine Or.inl ((hmem _).mpr ⟨u / 4, hu4, (mem_snarkPairs ..).mpr ?_⟩)
      have : v % 4 = 1 ∨ v % 4 = 2 ∨ v % 4 = 3 := by omega
      rcases this with h' | h' | h'
      · exact Or.inl (by omega)
      · exact Or.inr (Or.inl (by omega))
      · exact Or.inr (Or.inr (Or.inl (by omega)))
    · rw [succ_mod _ n hu4] at h
      split at h
      · exact Or.inr ((hmem _).mpr ⟨u / 4, hu4, (mem_snarkPairs ..).mpr (by
          rw [if_neg (by omega)]; exact Or.inr (Or.inr (Or.inr (Or.inl (by omega)))))⟩)
      · exact Or.inl ((hmem _).mpr ⟨u / 4, hu4, (mem_snarkPairs ..).mpr (by
          rw [if_pos (by omega)]; exact Or.inr (Or.inr (Or.inr (Or.inl (by omega)))))⟩)
    · exact Or.inl ((hmem _).mpr ⟨u / 4, hu4, (mem_snarkPairs ..).mpr (by
        rw [if_pos h.1.2]; exact Or.inr (Or.inr (Or.inr (Or.inr (Or.inl (by omega))))))⟩)
    · exact Or.inl ((hmem _).mpr ⟨u / 4, hu4, (mem_snarkPairs ..).mpr (by
        rw [if_pos h.1.2]; exact Or.inr (Or.inr (Or.inr (Or.inr (Or.inr (by omega))))))⟩)
    · exact Or.inr ((hmem _).mpr ⟨u / 4, hu4, (mem_snarkPairs ..).mpr (by
        rw [if_neg (by omega)]; exact Or.inr (Or.inr (Or.inr (Or.inr (Or.inl (by omega))))))⟩)
    · exact Or.inr ((hmem _).mpr ⟨u / 4, hu4, (mem_snarkPairs ..).mpr (by
        rw [if_neg (by omega)]; exact Or.inr (Or.inr (Or.inr (Or.inr (Or.inr (by omega))))))⟩)

theorem flowerSnark_ok (n : Nat) (hodd : n % 2 = 1) (hn : 3 ≤ n) :
    ∃ d, flowerSnark n = .ok d ∧ d.WF ∧ d.abs = Families.flowerSnark n := by
  have hidx : (List.range n).flatMap (snarkIdxs n) = ((List.range n).flatMap (snarkPairs n)).map pos := by
    rw [List.map_flatMap]
    congr 1; funext i; exact snarkIdxs_eq n i
  have hmemP : ∀ p, p ∈ (List.range n).flatMap (snarkPairs n) → p.1 < p.2 ∧ p.2 < 4 * n := by
    intro p hp
    obtain ⟨i, hi, hp⟩ := (mem_flatMap_snarkPairs n p).mp hp
    exact snarkPairs_lt n i hn hi p hp
  obtain ⟨e, e1, e2, e3⟩ := writeOnes_zeros (tri (4 * n)) ((List.range n).flatMap (snarkIdxs n)) (by
    intro k hk
    rw [hidx, List.mem_map] at hk
    obtain ⟨p, hp, rfl⟩ := hk
    obtain ⟨h1, h2⟩ := hmemP p hp
    exact tri_add_lt h1 h2)
  obtain ⟨d, f1, f2, f3, f4⟩ := newDense_some (4 * n) e e2
  refine ⟨d, ?_, f4, ?_⟩
  · unfold flowerSnark
    have : ¬ (n % 2 == 0) = true := by simp; omega
    have h3 : ¬ n < 3 := by omega
    simp only [this, h3, Bool.false_eq_true, ↓reduceIte, tri_def]
    rw [e1]; exact f1
  · rw [abs_eq_ofPairs d f4.size_edges _ (by rw [f2]; exact hmemP) (by rw [f3, ← hidx]; exact e3), f2,
      ofPairs_snarkPairs n hn]

end Construct
