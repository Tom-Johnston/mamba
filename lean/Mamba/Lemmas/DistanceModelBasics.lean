import Mamba.Model.Components
import Mamba.Lemmas.ListSorted
import Mathlib.Data.List.Perm.Subperm
/-!
# Lemmas for C10: `Array.setIfInBounds`, swap-remove and `sortInts`, as the proofs about the faithful models use them
-/
namespace GDist

theorem getElem_eq_getD {α : Type} {xs : Array α} {i : Nat} (h : i < xs.size) (d : α) : xs[i] = xs.getD i d := by
  simp [Array.getD, h]

theorem getD_setIfInBounds_eq {α : Type} (xs : Array α) (i : Nat) (x d : α) (w : Nat) :
    (xs.setIfInBounds i x).getD w d = if w = i ∧ i < xs.size then x else xs.getD w d := by
  simp only [Array.getD_eq_getD_getElem?, Array.getElem?_setIfInBounds]
  by_cases hw : i = w
  · subst hw; by_cases h : i < xs.size <;> simp [h]
  · simp [hw, Ne.symm hw]

theorem getD_setIfInBounds {α : Type} {a : Array α} {i : Nat} (h : i < a.size) (x d : α) (j : Nat) :
    (a.setIfInBounds i x).getD j d = if j = i then x else a.getD j d := by
  simp only [getD_setIfInBounds_eq, h, and_true]

theorem set_eq_setIfInBounds {α : Type} {a : Array α} {i : Nat} (h : i < a.size) (x : α) :
    a.set i x h = a.setIfInBounds i x := by
  simp [Array.setIfInBounds, h]

/-- entry `idx` after `xs[i] = xs[len-1]; xs = xs[:len-1]`: the last entry of `xs` for `idx = i`, entry `idx` of `xs`
otherwise -/
theorem getElem_pop_set_last {α : Type} (xs : Array α) (i : Nat) (h : i < xs.size) (idx : Nat)
    (hidx : idx < xs.size - 1) :
    ((xs.set i (xs[xs.size - 1]'(by omega)) h).pop)[idx]'(by simpa using hidx) =
      xs[if idx = i then xs.size - 1 else idx]'(by split <;> omega) := by
  rw [Array.getElem_pop, Array.getElem_set]
  by_cases hc : i = idx
  · simp [hc]
  · simp [hc, Ne.symm hc]

theorem mem_sortInts {l : List Nat} {x : Nat} : x ∈ Model.sortInts l ↔ x ∈ l := by
  unfold Model.sortInts; exact (List.mergeSort_perm l _).mem_iff

theorem sortInts_sorted (l : List Nat) : (Model.sortInts l).Pairwise (fun a b => decide (a ≤ b) = true) := by
  unfold Model.sortInts
  apply List.pairwise_mergeSort
  · intro a b c h1 h2; simp at h1 h2 ⊢; omega
  · intro a b; simp; omega

theorem sortInts_strict {l : List Nat} (hnd : l.Nodup) : (Model.sortInts l).Pairwise (· < ·) := by
  have h2 : (Model.sortInts l).Nodup := by
    unfold Model.sortInts
    exact (List.mergeSort_perm l _).nodup_iff.2 hnd
  refine ((sortInts_sorted l).and h2).imp ?_
  intro a b hab
  have := hab.1
  simp at this
  have := hab.2
  omega

theorem sortInts_eq {S L : List Nat} (ndS : S.Nodup) (hL : L.Pairwise (· < ·)) (hmem : ∀ x, x ∈ S ↔ x ∈ L) :
    Model.sortInts S = L :=
  List.strictSorted_ext (sortInts_strict ndS) hL fun x => mem_sortInts.trans (hmem x)

end GDist
