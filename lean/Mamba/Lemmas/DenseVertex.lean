import Mamba.Lemmas.DenseRep
/-!
# DenseGraph.AddVertex refines `addVertexG` (property C05)

The byte array grows by the row of the new vertex `n`, which occupies `[tri n, tri n + n)`; one loop over the neighbour
list `S` writes a 1 at `tri n + s` and adds 1 to `deg[s]` (`Dense.av_loop`: the bytes and degrees afterwards, in closed form),
and `Dense.wf_of` takes the result from there.
-/
namespace GraphRep
open GraphSpec

theorem Dense.growRealloc_size (edges : Array Nat) (k : Nat) : (Dense.growRealloc edges k).size = k := by
  simp [Dense.growRealloc]

theorem Dense.growRealloc_get (edges : Array Nat) (sz k : Nat) :
    (Dense.growRealloc edges sz)[k]? = if k < sz then some (edges.getD k 0) else none := by
  unfold Dense.growRealloc
  by_cases h : k < sz
  · rw [if_pos h, Array.getElem?_eq_getElem (by simpa using h), Array.getElem_ofFn]
    simp [Array.getD]
  · rw [if_neg h, Array.getElem?_eq_none (by simp; omega)]

theorem Dense.av_loop (oldSize n : Nat) :
    ∀ (S : List Nat) (e : Array Nat) (d : Array Int), (∀ s ∈ S, s < n) → e.size = oldSize + n → d.size = n →
    ∃ e' d', loopM (Dense.avStep oldSize) S (e, d) = .ok (e', d') ∧ e'.size = oldSize + n ∧ d'.size = n ∧
      (∀ k, e'[k]? = if oldSize ≤ k ∧ k < oldSize + n ∧ (k - oldSize) ∈ S then some 1 else e[k]?) ∧
      (∀ v, d'[v]? = (d[v]?).map (· + (S.count v : Int))) := by
  intro S
  induction S with
  | nil =>
    intro e d _ he hd
    exact ⟨e, d, rfl, he, hd, by simp, by simp⟩
  | cons s S ih =>
    intro e d hS he hd
    have hs : s < n := hS s (by simp)
    have hx : d[s]? = some d[s] := Array.getElem?_eq_getElem (by omega)
    obtain ⟨e', d', hrun, he', hd', hE, hD⟩ :=
      ih (e.setIfInBounds (oldSize + s) 1) (d.setIfInBounds s (d[s] + 1)) (fun t ht => hS t (by simp [ht]))
        (by simp [he]) (by simp [hd])
    refine ⟨e', d', ?_, he', hd', ?_, ?_⟩
    · rw [loopM, Dense.avStep, setA_ok 1 (by show oldSize + s < e.size; omega)]
      simp only
      rw [addA_ok 1 hx]
      exact hrun
    · intro k
      rw [hE k, Array.getElem?_setIfInBounds]
      by_cases hk : oldSize ≤ k ∧ k < oldSize + n
      · by_cases hks : k - oldSize = s
        · have : oldSize + s = k := by omega
          simp [hk, hks, this, he]
        · have : ¬ oldSize + s = k := by omega
          simp [hk, hks, this]
      · have : ¬ oldSize + s = k := by omega
        have h1 : ¬ (oldSize ≤ k ∧ k < oldSize + n ∧ (k - oldSize) ∈ S) := fun c => hk ⟨c.1, c.2.1⟩
        have h2 : ¬ (oldSize ≤ k ∧ k < oldSize + n ∧ (k - oldSize) ∈ s :: S) := fun c => hk ⟨c.1, c.2.1⟩
        rw [if_neg h1, if_neg h2, if_neg this]
    · intro v
      rw [hD v, get?_set_add 1 hx, List.count_cons]
      by_cases hv : v = s
      · subst hv; simp [hx]; omega
      · have : ¬ s = v := fun c => hv c.symm
        simp [hv, this]

theorem Dense.addVertex_spec {g : Dense} (h : g.WF) {S : List Nat} (hn : S.Nodup) (hS : ∀ s ∈ S, s < g.n) :
    ∃ g', g.addVertex S = .ok g' ∧ g'.WF ∧ g'.abs = addVertexG g.abs S := by
  obtain ⟨e', d', hrun, he', hd', hE, hD⟩ :=
    Dense.av_loop (tri g.n) g.n S (Dense.growRealloc g.edges (tri g.n + g.n)) g.deg hS
      (Dense.growRealloc_size _ _) h.deg_size
  unfold Dense.addVertex
  simp only [hrun]
  refine ⟨_, rfl, Dense.wf_of (addVertexG_wf g.abs_wf hS) rfl (by simp [hd']) (by rw [he', tri_succ]) ?_ ?_ ?_⟩
  · intro u v huv hv
    have hv : v < g.n + 1 := hv
    show decide (e'.getD (tri v + u) 0 > 0) = _
    rw [Array.getD_eq_getD_getElem?, hE, Dense.growRealloc_get]
    by_cases hvn : v = g.n
    · subst hvn
      rw [show (addVertexG g.abs S).adj u g.n = S.contains u from addVertexG_adj_new g.abs_wf S huv]
      have h1 : tri g.n ≤ tri g.n + u ∧ tri g.n + u < tri g.n + g.n := by omega
      have h2 : tri g.n + u - tri g.n = u := by omega
      have h3 : g.edges.getD (tri g.n + u) 0 = 0 := by
        simp [Array.getD, h.edges_size, Nat.not_lt.mpr (Nat.le_add_right (tri g.n) u)]
      by_cases hu : u ∈ S
      · simp [h1, h2, hu]
      · simp [h1, h2, hu, h3]
    · have hv' : v < g.n := by omega
      have hlt := tri_add_lt huv hv'
      have h1 : ¬ (tri g.n ≤ tri v + u ∧ tri v + u < tri g.n + g.n ∧ tri v + u - tri g.n ∈ S) := by omega
      have h2 : tri v + u < tri g.n + g.n := by omega
      rw [if_neg h1, if_pos h2, addVertexG_adj_old S (show u < g.abs.n by show u < g.n; omega) (show v < g.abs.n from hv'),
        g.abs_adj_lt huv, decide_eq_true hv', Bool.true_and]
      rfl
  · intro v hv
    show (d'.push _)[v]? = _
    rw [Array.getElem?_push, hd']
    by_cases hvn : v = g.n
    · subst hvn
      rw [if_pos rfl, show (addVertexG g.abs S).deg g.n = S.length from deg_addVertexG_new g.abs_wf hn hS]
    · have hv' : v < g.n := by simp only at hv; omega
      rw [if_neg hvn, hD v, h.deg_eq v hv', deg_addVertexG_old g.abs_wf S (show v < g.abs.n from hv')]
      by_cases hvs : v ∈ S
      · simp [List.count_eq_one_of_mem hn hvs, hvs]
      · simp [List.count_eq_zero_of_not_mem hvs, hvs]
  · show g.m + (S.length : Int) = _
    rw [m_addVertexG g.abs_wf hn hS, h.m_eq]; simp

end GraphRep
