import Mamba.Model.CliqueGo
import Mamba.Lemmas.CliqueColourBasic
/-! Correctness of the faithful Bron–Kerbosch model (`Model/CliqueGo.lean`): generic list lemmas, frames, pivot. -/
namespace CliqueColour
open GraphSpec

theorem filter_partition {α : Type} (L : List α) (p q1 q2 : α → Bool)
    (h : ∀ x ∈ L, p x = (q1 x || q2 x)) (hd : ∀ x ∈ L, ¬ (q1 x = true ∧ q2 x = true)) :
    (L.filter p).Perm (L.filter q1 ++ L.filter q2) := by
  induction L with
  | nil => simp
  | cons a t ih =>
    have iht := ih (fun x hx => h x (List.mem_cons_of_mem _ hx)) (fun x hx => hd x (List.mem_cons_of_mem _ hx))
    have ha := h a List.mem_cons_self
    have hda := hd a List.mem_cons_self
    cases h1 : q1 a <;> cases h2 : q2 a
    · simp only [List.filter_cons, ha, h1, h2, Bool.or_self, Bool.false_eq_true, if_false]; exact iht
    · simp only [List.filter_cons, ha, h1, h2, Bool.false_or, if_true, Bool.false_eq_true, if_false]
      exact (List.Perm.cons a iht).trans List.perm_middle.symm
    · simp only [List.filter_cons, ha, h1, h2, Bool.or_false, if_true, Bool.false_eq_true, if_false,
        List.cons_append]
      exact List.Perm.cons a iht
    · exact absurd ⟨h1, h2⟩ hda

theorem filter_eq_singleton {α : Type} [DecidableEq α] {L : List α} {p : α → Bool} {a : α} (hn : L.Nodup)
    (ha : a ∈ L) (h : ∀ x ∈ L, p x = true ↔ x = a) : L.filter p = [a] := by
  induction L with
  | nil => cases ha
  | cons b t ih =>
    have hb := List.nodup_cons.1 hn
    by_cases hba : b = a
    · subst hba
      have h1 : p b = true := (h b List.mem_cons_self).2 rfl
      have h2 : t.filter p = [] := by
        rw [List.filter_eq_nil_iff]
        intro x hx hpx
        have := (h x (List.mem_cons_of_mem _ hx)).1 hpx
        subst this
        exact hb.1 hx
      simp [h1, h2]
    · have h1 : ¬ p b = true := fun hp => hba ((h b List.mem_cons_self).1 hp)
      have hat : a ∈ t := by
        rcases List.mem_cons.1 ha with h' | h'
        · exact absurd h'.symm hba
        · exact h'
      simp only [List.filter_cons, h1]
      exact ih hb.2 hat (fun x hx => h x (List.mem_cons_of_mem _ hx))

theorem swapRemove_perm {P : List Nat} {i : Nat} (hi : i < P.length) : (swapRemove P i).Perm (P.eraseIdx i) := by
  unfold swapRemove
  obtain ⟨A, v, B, rfl, hA⟩ : ∃ A v B, P = A ++ v :: B ∧ A.length = i := by
    refine ⟨P.take i, P[i], P.drop (i + 1), ?_, by simp; omega⟩
    rw [← List.drop_eq_getElem_cons hi, List.take_append_drop]
  subst hA
  have herase : (A ++ v :: B).eraseIdx A.length = A ++ B := by
    rw [List.eraseIdx_append_of_length_le (Nat.le_refl _)]; simp
  rw [herase]
  rcases List.eq_nil_or_concat B with rfl | ⟨B', l, hB⟩
  · simp [List.getLastD_eq_getLast?]
  · rw [List.concat_eq_append] at hB
    subst hB
    have hlast : (A ++ v :: (B' ++ [l])).getLastD 0 = l := by
      rw [show A ++ v :: (B' ++ [l]) = (A ++ v :: B') ++ [l] by simp]
      exact List.getLastD_concat
    rw [hlast]
    have hset : (A ++ v :: (B' ++ [l])).set A.length l = (A ++ l :: B') ++ [l] := by
      rw [List.set_append_right _ _ (Nat.le_refl _)]; simp
    rw [hset, List.dropLast_concat]
    have : (l :: B').Perm (B' ++ [l]) := by
      simpa using (List.perm_append_comm (l₁ := [l]) (l₂ := B'))
    exact List.Perm.append_left A this

theorem swapRemove_take {P : List Nat} {i : Nat} (hi : i < P.length) : (swapRemove P i).take i = P.take i := by
  unfold swapRemove
  rw [List.dropLast_eq_take, List.take_take, List.length_set, Nat.min_eq_left (by omega)]
  rw [List.take_set_of_le (Nat.le_refl _)]

theorem swapRemove_facts {P : List Nat} {i : Nat} (hi : i < P.length) (hn : P.Nodup) :
    (swapRemove P i).Nodup ∧ (swapRemove P i).length + 1 = P.length ∧
      ∀ w, w ∈ swapRemove P i ↔ (w ∈ P ∧ w ≠ P[i]) := by
  have hp := swapRemove_perm hi
  refine ⟨hp.nodup_iff.2 (hn.sublist (List.eraseIdx_sublist _ _)), ?_, fun w => ?_⟩
  · rw [hp.length_eq, List.length_eraseIdx_of_lt hi]; omega
  · rw [hp.mem_iff, ← List.Nodup.erase_getElem hn i hi, hn.mem_erase_iff]
    exact ⟨fun h => ⟨h.2, h.1⟩, fun h => ⟨h.2, h.1⟩⟩

def CommonNbr (g : G) (R : List Nat) (v : Nat) : Prop := v < g.n ∧ v ∉ R ∧ ∀ r ∈ R, g.adj r v = true

structure FrameOK (g : G) (f : BKFrame) : Prop where
  clique : IsClique g f.R
  pnodup : f.P.Nodup
  disj : ∀ v ∈ f.P, v ∉ f.X
  cover : ∀ v, (v ∈ f.P ∨ v ∈ f.X) ↔ CommonNbr g f.R v

/-- the maximal clique `C` is to be reported below the frame: it contains `R` and avoids `X` -/
def respP (R X : List Nat) (C : List Nat) : Bool :=
  R.all (fun r => C.contains r) && X.all (fun x => !C.contains x)

theorem respP_iff {R X C : List Nat} : respP R X C = true ↔ (∀ r ∈ R, r ∈ C) ∧ ∀ x ∈ X, x ∉ C := by
  simp [respP, List.all_eq_true]

def Resp (g : G) (f : BKFrame) : List (List Nat) := (allMaximalCliquesSpec g).filter (respP f.R f.X)

theorem mem_allMax {g : G} {s : List Nat} :
    s ∈ allMaximalCliquesSpec g ↔ s.Sublist (List.range g.n) ∧ IsMaximalClique g s := by
  simp only [allMaximalCliquesSpec, List.mem_filter, mem_subsets, isMaximalClique_iff]

theorem nodup_allMax (g : G) : (allMaximalCliquesSpec g).Nodup :=
  (nodup_subsets List.nodup_range).sublist List.filter_sublist

theorem canon_mem_allMax {g : G} {s : List Nat} (h : IsMaximalClique g s) :
    canon g.n s ∈ allMaximalCliquesSpec g :=
  mem_allMax.2 ⟨canon_sublist _ _, h.of_perm (canon_perm h.1.1 h.1.2.1)⟩

theorem sublist_range_eq_of_mem_iff {n : Nat} {s t : List Nat} (hs : s.Sublist (List.range n))
    (ht : t.Sublist (List.range n)) (h : ∀ v, v ∈ s ↔ v ∈ t) : s = t := by
  have h1 := (sublist_range_iff.1 hs).1
  have h2 := (sublist_range_iff.1 ht).1
  have hp : s.Perm t := (List.perm_ext_iff_of_nodup (h1.imp (fun h => Nat.ne_of_lt h))
    (h2.imp (fun h => Nat.ne_of_lt h))).2 h
  exact List.Perm.eq_of_pairwise (le := (· < ·)) (fun a b _ _ h1 h2 => by omega) h1 h2 hp

theorem commonNbr_of_clique {g : G} {R C : List Nat} (hC : IsClique g C) (hR : ∀ r ∈ R, r ∈ C) {c : Nat}
    (hc : c ∈ C) (hcR : c ∉ R) : CommonNbr g R c :=
  ⟨hC.2.1 c hc, hcR, fun r hr => hC.2.2 r (hR r hr) c hc (fun h => hcR (h ▸ hr))⟩

theorem resp_leaf {g : G} {f : BKFrame} (hf : FrameOK g f) (hP : f.P = []) (hX : f.X = []) :
    IsMaximalClique g f.R ∧ Resp g f = [canon g.n f.R] := by
  have hmax : IsMaximalClique g f.R := by
    refine ⟨hf.clique, fun v hv hvR => ?_⟩
    by_contra hcon
    push Not at hcon
    have : CommonNbr g f.R v := ⟨hv, hvR, fun r hr => by
      have := hcon r hr
      simp only [Bool.and_eq_true, ne_eq, Bool.not_eq_false] at this
      exact this.1⟩
    have := (hf.cover v).2 this
    rw [hP, hX] at this
    simp at this
  refine ⟨hmax, filter_eq_singleton (nodup_allMax g) (canon_mem_allMax hmax) fun C hC => ?_⟩
  have hCm := mem_allMax.1 hC
  rw [respP_iff]
  constructor
  · rintro ⟨hR, _⟩
    apply sublist_range_eq_of_mem_iff hCm.1 (canon_sublist _ _)
    intro v
    rw [mem_canon]
    constructor
    · intro hv
      refine ⟨hCm.2.1.2.1 v hv, ?_⟩
      by_contra hvR
      obtain ⟨u, hu, hfalse⟩ := hmax.2 v (hCm.2.1.2.1 v hv) hvR
      have hne : u ≠ v := fun h => hvR (h ▸ hu)
      have h1 := hCm.2.1.2.2 u (hR u hu) v hv hne
      have h2 := hCm.2.1.2.2 v hv u (hR u hu) (Ne.symm hne)
      rw [h1, h2] at hfalse
      cases hfalse
    · exact fun h => hR v h.2
  · rintro rfl
    refine ⟨fun r hr => mem_canon.2 ⟨hf.clique.2.1 r hr, hr⟩, ?_⟩
    rw [hX]; simp

def PivGood (S : Nat → Prop) (st : Int × Int) : Prop := 0 ≤ st.2 ∧ ∃ u, S u ∧ st.1 = (u : Int)

theorem pivotScan_good (g : G) (P : List Nat) (S : Nat → Prop) : ∀ (cands : List Nat) (st : Int × Int),
    PivGood S st → (∀ u ∈ cands, S u) → PivGood S (pivotScan g P cands st) := by
  intro cands
  induction cands with
  | nil => intro st h _; exact h
  | cons v vs ih =>
    intro st h hS
    obtain ⟨piv, best⟩ := st
    simp only [pivotScan]
    have hvs : ∀ u ∈ vs, S u := fun u hu => hS u (List.mem_cons_of_mem _ hu)
    split
    · exact ih _ ⟨Int.natCast_nonneg _, v, hS v List.mem_cons_self, rfl⟩ hvs
    · exact ih _ h hvs

theorem pivotScan_init (g : G) (P : List Nat) (S : Nat → Prop) {cands : List Nat} {st : Int × Int}
    (h : st.2 = -1) (hne : cands ≠ []) (hS : ∀ u ∈ cands, S u) : PivGood S (pivotScan g P cands st) := by
  cases cands with
  | nil => exact absurd rfl hne
  | cons v vs =>
    obtain ⟨piv, best⟩ := st
    simp only at h
    subst h
    simp only [pivotScan]
    have : ((pivotSize g P v : Nat) : Int) > -1 := by
      have := Int.natCast_nonneg (pivotSize g P v); omega
    rw [if_pos this]
    exact pivotScan_good g P S vs _ ⟨Int.natCast_nonneg _, v, hS v List.mem_cons_self, rfl⟩
      (fun u hu => hS u (List.mem_cons_of_mem _ hu))

theorem choosePivot_mem (g : G) {P X : List Nat} (hne : ¬ (P = [] ∧ X = [])) :
    ∃ u : Nat, choosePivot g P X = (u : Int) ∧ (u ∈ P ∨ u ∈ X) := by
  unfold choosePivot
  have key : PivGood (fun u => u ∈ P ∨ u ∈ X) (pivotScan g P X (pivotScan g P P (-1, -1))) := by
    by_cases hP : P = []
    · have hX : X ≠ [] := fun h => hne ⟨hP, h⟩
      subst hP
      exact pivotScan_init g [] _ rfl hX (fun u hu => Or.inr hu)
    · exact pivotScan_good g P _ X _ (pivotScan_init g P _ rfl hP (fun u hu => Or.inl hu)) (fun u hu => Or.inr hu)
  obtain ⟨_, u, hu, he⟩ := key
  exact ⟨u, he, hu⟩

/-- `v` is processed by the inner loop (not skipped as a neighbour of the pivot) -/
def procB (g : G) (piv : Int) (v : Nat) : Bool := !(((v : Int) != piv) && adjInt g v piv)

theorem procB_nat (g : G) (u v : Nat) : procB g (u : Int) v = !(v != u && g.adj v u) := by
  have h : (((v : Int) != (u : Int)) : Bool) = (v != u) := by
    simp [bne, Int.ofNat_inj]
  simp only [procB, adjInt, h, Int.natCast_nonneg, decide_true, Bool.true_and, Int.toNat_natCast]

/-- every maximal clique below a frame contains a vertex of `P` that is not a neighbour of the pivot -/
theorem pivot_lemma {g : G} (hw : g.WF) {f : BKFrame} (hf : FrameOK g f) {u : Nat} (hu : u ∈ f.P ∨ u ∈ f.X)
    {C : List Nat} (hC : IsMaximalClique g C) (hresp : respP f.R f.X C = true) :
    ∃ v ∈ f.P, v ∈ C ∧ procB g (u : Int) v = true := by
  obtain ⟨hR, hX⟩ := respP_iff.1 hresp
  by_contra hcon
  push Not at hcon
  have hadj : ∀ v ∈ f.P, v ∈ C → v ≠ u ∧ g.adj v u = true := by
    intro v hv hvC
    have := hcon v hv hvC
    rw [procB_nat] at this
    simpa using this
  have huN := (hf.cover u).1 hu
  have huC : u ∉ C := by
    intro huC
    rcases hu with h | h
    · exact (hadj u h huC).1 rfl
    · exact hX u h huC
  obtain ⟨c, hc, hfalse⟩ := hC.2 u huN.1 huC
  have hcu : g.adj c u = true := by
    by_cases hcR : c ∈ f.R
    · exact huN.2.2 c hcR
    · have hcN := commonNbr_of_clique hC.1 hR hc hcR
      rcases (hf.cover c).2 hcN with h | h
      · exact (hadj c h hc).2
      · exact absurd hc (hX c h)
  rw [hcu, hw.symm u c, hcu] at hfalse
  cases hfalse

end CliqueColour
