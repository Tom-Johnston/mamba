import Mamba.Lemmas.C06AddEdge
import Mamba.Lemmas.C06Hand
/-! C06: `ComplementDense` and the `Complement` view. -/
namespace Construct
open GraphSpec

theorem complement_m (g : G) : g.complement.m + g.m = tri g.n := by
  rw [m_eq_countP, m_eq_countP]
  show (pairs g.n).countP _ + _ = _
  have h := List.length_eq_countP_add_countP (fun p : Nat × Nat => g.adj p.1 p.2) (l := pairs g.n)
  rw [length_pairs] at h
  have : (pairs g.n).countP (fun p => g.complement.adj p.1 p.2) = (pairs g.n).countP (fun p => ¬ (g.adj p.1 p.2) = true) := by
    apply List.countP_congr
    intro p hp
    obtain ⟨h1, h2⟩ := mem_pairs.mp hp
    have h3 : p.1 < g.n := by omega
    have h4 : p.1 ≠ p.2 := by omega
    simp [G.complement, h2, h3, h4]
  rw [this]; omega

theorem complement_deg (g : G) (hg : g.WF) (v : Nat) (hv : v < g.n) : g.complement.deg v + g.deg v = g.n - 1 := by
  simp only [G.deg, G.nbrs, ← List.countP_eq_length_filter]
  show (List.range g.n).countP _ + _ = _
  have h := List.length_eq_countP_add_countP (fun u => g.adj v u) (l := List.range g.n)
  have h2 := countP_range_bne g.n v
  simp only [hv, ↓reduceIte] at h2
  have : (List.range g.n).countP (fun u => g.complement.adj v u) + 1 = (List.range g.n).countP (fun u => ¬ (g.adj v u) = true) := by
    have e1 : (List.range g.n).countP (fun u => ¬ (g.adj v u) = true) =
        (List.range g.n).countP (fun u => g.complement.adj v u || u == v) := by
      apply List.countP_congr
      intro u hu
      have hu' := List.mem_range.mp hu
      by_cases huv : u = v
      · subst huv; simp [hg.irrefl]
      · have : ¬ v = u := fun e => huv e.symm
        simp [G.complement, hv, hu', huv, this]
    rw [e1, countP_or_disjoint _ _ _ (by
      intro u _ ⟨c1, c2⟩
      simp only [beq_iff_eq] at c2; subst c2
      simp [G.complement] at c1), countP_range_beq]
    simp [hv]
  simp only [List.length_range] at h
  omega

/-- one round of the edge loop -/
def cdStep (g : GraphI) (st : Array Nat × Nat) (p : Nat × Nat) : Outcome (Array Nat × Nat) := do
  let b ← g.isEdge p.1 p.2
  let e ← (if !b then setAt st.1 st.2 1 else pure st.1 : Outcome (Array Nat))
  pure (e, st.2 + 1)

theorem cdFold (g : GraphI) (adj : Nat → Nat → Bool) (posf : Nat × Nat → Nat) (l : List (Nat × Nat)) (st : Array Nat × Nat)
    (hpos : ∀ k (h : k < l.length), posf l[k] = st.2 + k)
    (hsize : st.2 + l.length ≤ st.1.size)
    (hedge : ∀ p ∈ l, g.isEdge p.1 p.2 = .ok (adj p.1 p.2)) :
    ∃ e', l.foldlM (cdStep g) st = .ok (e', st.2 + l.length) ∧ e'.size = st.1.size ∧
      ∀ k, bitAt e' k = (bitAt st.1 k || l.any fun p => posf p == k && !adj p.1 p.2) := by
  induction l generalizing st with
  | nil => exact ⟨st.1, rfl, rfl, by simp⟩
  | cons p t ih =>
    have hp0 : posf p = st.2 := by have := hpos 0 (by simp); simpa using this
    have hidx : st.2 < st.1.size := by simp at hsize; omega
    have htail : ∀ e1 : Array Nat, e1.size = st.1.size →
        (∀ k (h : k < t.length), posf t[k] = (e1, st.2 + 1).2 + k) ∧ (e1, st.2 + 1).2 + t.length ≤ (e1, st.2 + 1).1.size := by
      intro e1 he
      refine ⟨?_, by simp at hsize ⊢; omega⟩
      intro k hk
      have := hpos (k + 1) (by simp; omega)
      simp only [List.getElem_cons_succ] at this
      simp only; omega
    simp only [List.foldlM_cons, cdStep, hedge p (by simp), Outcome.bind_ok]
    by_cases hb : adj p.1 p.2 = true
    · obtain ⟨a1, a2⟩ := htail st.1 rfl
      obtain ⟨e', f1, f2, f3⟩ := ih (st.1, st.2 + 1) a1 a2 (fun q hq => hedge q (by simp [hq]))
      refine ⟨e', ?_, f2, ?_⟩
      · simp only [hb, Bool.not_true, Bool.false_eq_true, ↓reduceIte, Outcome.pure_eq, Outcome.bind_ok]
        rw [f1]; simp; omega
      · intro k; rw [f3 k]; simp [hb]
    · have hb0 : adj p.1 p.2 = false := by simpa using hb
      obtain ⟨a1, a2⟩ := htail (st.1.set st.2 1) (by simp)
      obtain ⟨e', f1, f2, f3⟩ := ih (st.1.set st.2 1, st.2 + 1) a1 a2 (fun q hq => hedge q (by simp [hq]))
      refine ⟨e', ?_, by simpa using f2, ?_⟩
      · simp only [hb0, Bool.not_false, ↓reduceIte, setAt_ok _ hidx, Outcome.pure_eq, Outcome.bind_ok]
        rw [f1]; simp; omega
      · intro k
        rw [f3 k]
        simp only [bitAt_set _ _ _ hidx, List.any_cons, hb0, Bool.not_false, Bool.and_true, hp0]
        by_cases hk : k = st.2
        · subst hk; simp
        · have : (st.2 == k) = false := by simp; exact fun e => hk e.symm
          simp [hk, this]

theorem cd_list (n : Nat) :
    ((List.range' 1 (n - 1)).flatMap fun i => (List.range i).map fun j => (i, j)) = (pairs n).map Prod.swap := by
  cases n with
  | zero => simp [pairs]
  | succ k =>
    have : List.range (k + 1) = 0 :: List.range' 1 k := by
      rw [List.range_eq_range', List.range'_succ]
    simp only [pairs, this, List.flatMap_cons, List.range_zero, List.map_nil, List.nil_append, Nat.add_sub_cancel,
      List.map_flatMap, List.map_map]
    rfl

theorem degFold (old : Array Int) (c : Int) (l : List Nat) (d : Array Int)
    (h : ∀ i ∈ l, i < old.size ∧ i < d.size) :
    ∃ d', l.foldlM (fun d i => do
        let o ← getAt old i
        setAt d i (c - o)) d = .ok d' ∧ d'.size = d.size ∧
      ∀ k, d'[k]? = if k ∈ l then some (c - old.getD k 0) else d[k]? := by
  induction l generalizing d with
  | nil => exact ⟨d, rfl, rfl, by simp⟩
  | cons i t ih =>
    obtain ⟨h1, h2⟩ := h i (by simp)
    obtain ⟨d', f1, f2, f3⟩ := ih (d.set i (c - old[i])) (by
      intro j hj; have := h j (by simp [hj]); simpa using this)
    refine ⟨d', ?_, by simpa using f2, ?_⟩
    · simp only [List.foldlM_cons, getAt_ok h1, Outcome.bind_ok, setAt_ok _ h2]; exact f1
    · intro k
      rw [f3 k]
      by_cases hk : k ∈ t
      · simp [hk]
      · by_cases hki : k = i
        · subst hki; simp [hk, Array.getD, h1, h2]
        · have : ¬ i = k := fun e => hki e.symm
          simp [hk, hki, this]

theorem complementDense_ok (g : GraphI) (gs : G) (hs : g.Sound gs) (hw : gs.WF) :
    ∃ d, complementDense g = .ok d ∧ d.WF ∧ d.abs = gs.complement := by
  have hn : g.n = gs.n := hs.n
  have hold : ((gs.degrees.map Int.ofNat).toArray).size = gs.n := by simp [G.degrees]
  obtain ⟨dg, g1, g2, g3⟩ := degFold (gs.degrees.map Int.ofNat).toArray ((gs.n : Int) - 1) (List.range gs.n)
    (Array.replicate gs.n 0) (by intro i hi; have := List.mem_range.mp hi; simp [G.degrees]; exact this)
  let L := (pairs gs.n).map Prod.swap
  let posf : Nat × Nat → Nat := fun p => tri p.1 + p.2
  obtain ⟨e, e1, e2, e3⟩ := cdFold g gs.adj posf L (zeros (tri gs.n), 0)
    (by
      intro k hk
      have hk' : k < (pairs gs.n).length := by simpa [L] using hk
      have := pos_getElem_pairs gs.n k hk'
      simp only [L, List.getElem_map, posf, Prod.swap, Nat.zero_add]
      exact this)
    (by simp [L, length_pairs, zeros])
    (by
      intro p hp
      simp only [L, List.mem_map] at hp
      obtain ⟨q, hq, rfl⟩ := hp
      obtain ⟨h1, h2⟩ := mem_pairs.mp hq
      exact hs.isEdge _ _ h2 (by show q.1 < gs.n; omega))
  let d : Dense := ⟨gs.n, ((tri gs.n : Nat) : Int) - gs.m, dg, e⟩
  have hsz : d.edges.size = tri d.n := by simpa [zeros] using e2
  have habs : d.abs = gs.complement := by
    refine Dense.abs_eq d hsz (complement_wf gs hw) rfl fun a b hab hb => ?_
    have hb' : b < gs.n := hb
    have ha' : a < gs.n := Nat.lt_trans hab hb'
    show bitAt e (tri b + a) = _
    rw [e3, bitAt_zeros, Bool.false_or]
    simp only [G.complement, bne_iff_ne.mpr (Nat.ne_of_lt hab), decide_eq_true ha', decide_eq_true hb', Bool.and_self,
      Bool.true_and, hw.symm a b]
    rw [Bool.eq_iff_iff, List.any_eq_true]
    constructor
    · rintro ⟨p, hp, hpp⟩
      simp only [L, List.mem_map] at hp
      obtain ⟨q, hq, rfl⟩ := hp
      obtain ⟨h1, h2⟩ := mem_pairs.mp hq
      simp only [posf, Prod.swap, Bool.and_eq_true, beq_iff_eq] at hpp
      have := tri_inj h1 hab hpp.1
      rw [← this.1, ← this.2]; exact hpp.2
    · intro h
      refine ⟨(b, a), ?_, by simp [posf, h]⟩
      simp only [L, List.mem_map]
      exact ⟨(a, b), mem_pairs.mpr ⟨hab, hb'⟩, rfl⟩
  refine ⟨d, ?_, ⟨hsz, by simpa using g2, ?_, ?_⟩, habs⟩
  · unfold complementDense
    simp only [hs.m, hs.degrees, hn, Outcome.bind_ok, Array.size_replicate, tri_def, Outcome.pure_eq]
    rw [g1]
    simp only [Outcome.bind_ok, cd_list]
    have : (fun (st : Array Nat × Nat) (p : Nat × Nat) => (do
        let b ← g.isEdge p.1 p.2
        let e ← (if !b then setAt st.1 st.2 1 else pure st.1 : Outcome (Array Nat))
        pure (e, st.2 + 1) : Outcome (Array Nat × Nat))) = cdStep g := rfl
    simp only [Outcome.pure_eq] at this
    rw [this, e1]
    rfl
  · show ((tri gs.n : Nat) : Int) - gs.m = ((d.abs).m : Int)
    rw [habs]
    have := complement_m gs
    omega
  · intro v hv
    have hv' : v < gs.n := hv
    show dg[v]? = some ((d.abs.deg v : Nat) : Int)
    rw [habs, g3 v]
    have := complement_deg gs hw v hv'
    simp only [List.mem_range, hv', ↓reduceIte, Option.some.injEq]
    have hd : (gs.degrees.map Int.ofNat).toArray.getD v 0 = (gs.deg v : Int) := by
      simp [Array.getD, G.degrees, hv']
    rw [hd]; omega

theorem complementView_sound (c : GraphI) (g : G) (hs : c.Sound g) (hw : g.WF) :
    (complementView c).Sound g.complement where
  n := hs.n
  m := by
    simp only [complementView, hs.m, hs.n, Outcome.bind_ok, Outcome.pure_eq, tri_def]
    have := complement_m g
    congr 1; omega
  isEdge := by
    intro u v hu hv
    have hu' : u < g.n := hu
    have hv' : v < g.n := hv
    simp only [complementView]
    by_cases huv : u = v
    · subst huv; simp [G.complement]
    · simp [huv, hs.isEdge u v hu' hv', G.complement, hu', hv']
  neighbours := by
    intro v hv
    have hv' : v < g.n := hv
    simp only [complementView, hs.neighbours v hv', Outcome.bind_ok, Outcome.pure_eq, hs.n]
    congr 1
    simp only [sortedComplement, G.nbrs, G.complement, List.filter_filter]
    apply List.filter_congr
    intro u hu
    have hu' := List.mem_range.mp hu
    have : ((List.range g.n).filter fun u => g.adj v u).contains u = g.adj v u := by
      rw [Bool.eq_iff_iff]; simp [hu']
    rw [this]
    by_cases huv : u = v
    · subst huv; simp
    · have h1 : (u != v) = true := by simp [huv]
      have h2 : (v != u) = true := by simp; exact fun e => huv e.symm
      simp [h1, h2, hv', hu']
  degrees := by
    simp only [complementView, hs.degrees, Outcome.bind_ok, Outcome.pure_eq, hs.n]
    congr 1
    simp only [G.degrees, List.map_map]
    show List.map _ (List.range g.n) = List.map _ (List.range g.n)
    apply List.map_congr_left
    intro v hv
    have hv' := List.mem_range.mp hv
    have := complement_deg g hw v hv'
    simp only [Function.comp]
    show (g.n : Int) - 1 - (g.deg v : Int) = (g.complement.deg v : Int)
    omega

end Construct
