import Mamba.Model.Comb
import Mathlib.Data.Nat.Choose.Basic
import Mathlib.Tactic.Ring
import Mathlib.Tactic.Linarith
/-!
# The multiplicative formula for binomials and the generated tables (C16)

`chooseMul d j = C(d+j, j)` evaluated by multiply-then-divide over unbounded naturals: this is what the kernel
evaluates in the closed facts about `Gen.Comb.maxSizes` / `Gen.Comb.smallEntries` (`Nat.choose` itself is
exponential by unfolding).
-/
namespace Comb
open Gen.Comb

theorem W_eq : W = 2^64 := by decide

def chooseMul (d : Nat) : Nat → Nat
  | 0 => 1
  | j+1 => chooseMul d j * (d + j + 1) / (j + 1)

theorem chooseMul_eq (d j : Nat) : chooseMul d j = Nat.choose (d + j) j := by
  induction j with
  | zero => simp [chooseMul]
  | succ j ih =>
    have h := Nat.add_one_mul_choose_eq (d + j) j
    rw [chooseMul, ih, Nat.mul_comm, h]
    exact Nat.mul_div_cancel _ (Nat.succ_pos j)

theorem choose_add_mono (d : Nat) {a b : Nat} (h : a ≤ b) : Nat.choose (d + a) a ≤ Nat.choose (d + b) b := by
  have ha : Nat.choose (d + a) a = Nat.choose (d + a) d := by
    rw [← Nat.choose_symm_add]
  have hb : Nat.choose (d + b) b = Nat.choose (d + b) d := by
    rw [← Nat.choose_symm_add]
  rw [ha, hb]
  exact Nat.choose_le_choose d (by omega)

theorem coeffLoop_eq (d k : Nat) (hn : d + k < W) (hfit : k * Nat.choose (d + k) k < W) :
    ∀ s j, j + s = k → coeffLoop (d + k) k s (j + 1) (Nat.choose (d + j) j) = Nat.choose (d + k) k := by
  intro s
  induction s with
  | zero => intro j hj; simp at hj; subst hj; simp [coeffLoop]
  | succ s ih =>
    intro j hj
    have hjk : j + 1 ≤ k := hj ▸ Nat.add_le_add_left (Nat.succ_pos s) j
    have hmono : Nat.choose (d + (j + 1)) (j + 1) ≤ Nat.choose (d + k) k := choose_add_mono d hjk
    have hstep : Nat.choose (d + j) j * (d + j + 1) = Nat.choose (d + (j + 1)) (j + 1) * (j + 1) := by
      have h := Nat.add_one_mul_choose_eq (d + j) j
      rw [Nat.mul_comm]; exact h
    have hle : Nat.choose (d + (j + 1)) (j + 1) * (j + 1) ≤ k * Nat.choose (d + k) k := by
      rw [Nat.mul_comm]; exact Nat.mul_le_mul hjk hmono
    have e1 : d + k - k + (j + 1) = d + j + 1 := by rw [Nat.add_sub_cancel]; rfl
    have e2 : (d + j + 1) % W = d + j + 1 :=
      Nat.mod_eq_of_lt (lt_of_le_of_lt (Nat.add_le_add_left hjk d) hn)
    have e3 : (Nat.choose (d + (j + 1)) (j + 1) * (j + 1)) % W = Nat.choose (d + (j + 1)) (j + 1) * (j + 1) :=
      Nat.mod_eq_of_lt (lt_of_le_of_lt hle hfit)
    rw [coeffLoop, e1, e2, hstep, e3, Nat.mul_div_cancel _ (Nat.succ_pos j)]
    exact ih (j + 1) ((Nat.succ_add_eq_add_succ j s).trans hj)

/-! ## Closed facts about the generated tables (re-checked by the kernel on every run) -/

/-- entry `k` of `maxSizes` is exactly the largest `n` with `k * C(n,k) < 2^64`. -/
def thrOK (k : Nat) : Bool :=
  match maxSizes[k]? with
  | some m => decide (k ≤ m) && decide (k * chooseMul (m - k) k < W) && !decide (k * chooseMul (m + 1 - k) k < W)
  | none => false

theorem largestK_ge : 31 ≤ largestK := by decide

theorem maxInt_eq : maxInt = 2^63 - 1 := by decide

theorem thr_all : ∀ k, k < largestK + 1 → (k = 0 ∨ thrOK k = true) := by decide +kernel

/-- row `n` of `smallEntries` is `C(n,0), …, C(n,n/2)`, for `n ≤ 32` -/
theorem entry_all : smallEntries.toList.map Array.toList =
    (List.range 33).map (fun n => (List.range (n / 2 + 1)).map (fun k => chooseMul (n - k) k)) := by decide +kernel

theorem big_32 : W ≤ 32 * chooseMul 32 32 := by decide +kernel

theorem thr_spec {k : Nat} (hk1 : 1 ≤ k) (hkL : k ≤ largestK) :
    ∃ m, maxSizes[k]? = some m ∧ k ≤ m ∧ k * Nat.choose m k < W ∧ W ≤ k * Nat.choose (m + 1) k := by
  rcases thr_all k (by omega) with h | h
  · omega
  · unfold thrOK at h
    cases hm : maxSizes[k]? with
    | none => rw [hm] at h; cases h
    | some m =>
      rw [hm] at h
      simp only [Bool.and_eq_true, decide_eq_true_eq, Bool.not_eq_true', decide_eq_false_iff_not, not_lt] at h
      obtain ⟨⟨h1, h2⟩, h3⟩ := h
      rw [chooseMul_eq] at h2 h3
      rw [Nat.sub_add_cancel h1] at h2
      rw [show m + 1 - k + k = m + 1 by omega] at h3
      exact ⟨m, rfl, h1, h2, h3⟩

theorem entry_spec {n k : Nat} (hn : n ≤ 32) (hk : k ≤ n / 2) :
    ∃ row, smallEntries[n]? = some row ∧ row[k]? = some (Nat.choose n k) := by
  have h := congrArg (·[n]?) entry_all
  simp only [List.getElem?_map, List.getElem?_range (Nat.lt_succ_of_le hn), Option.map_some,
    Array.getElem?_toList] at h
  cases hr : smallEntries[n]? with
  | none => rw [hr] at h; cases h
  | some row =>
    rw [hr, Option.map_some, Option.some.injEq] at h
    refine ⟨row, rfl, ?_⟩
    rw [← Array.getElem?_toList, h, List.getElem?_map, List.getElem?_range (Nat.lt_succ_of_le hk), Option.map_some,
      chooseMul_eq, Nat.sub_add_cancel (le_trans hk (Nat.div_le_self n 2))]

/-- the reduced lower index `min(k, n-k)` as the code computes it -/
def kred (n k : Nat) : Nat := if k > n / 2 then n - k else k

theorem kred_le_half {n k : Nat} (h : k ≤ n) : kred n k ≤ n / 2 := by unfold kred; split <;> omega
theorem kred_eq_min {n k : Nat} (h : k ≤ n) : kred n k = min k (n - k) := by
  unfold kred
  split
  · exact (Nat.min_eq_right (by omega)).symm
  · exact (Nat.min_eq_left (by omega)).symm
theorem choose_kred {n k : Nat} (h : k ≤ n) : Nat.choose n (kred n k) = Nat.choose n k := by
  unfold kred; split
  · exact Nat.choose_symm h
  · rfl

theorem choose_mono_half {n a b : Nat} (hab : a ≤ b) (hb : b ≤ n / 2) : Nat.choose n a ≤ Nat.choose n b := by
  induction b with
  | zero => have : a = 0 := by omega
            subst this; exact le_refl _
  | succ b ih =>
    rcases Nat.lt_or_ge a (b + 1) with h | h
    · exact le_trans (ih (by omega) (by omega)) (Nat.choose_le_succ_of_lt_half_left (by omega))
    · have : a = b + 1 := by omega
      subst this; exact le_refl _

theorem coeffU64_unfold (n k : Nat) (hkn : k ≤ n) :
    coeffU64 n k =
      if kred n k = 0 then .ok 1
      else if n ≤ 32 then
        match smallEntries[n]? with
        | none => .panic
        | some row =>
          match row[kred n k]? with
          | none => .panic
          | some v => .ok v
      else if kred n k > largestK then .panic
      else
        match maxSizes[kred n k]? with
        | none => .panic
        | some m => if n > m then .panic else .ok (coeffLoop n (kred n k) (kred n k) 1 1) := by
  unfold coeffU64 kred
  rw [if_neg (by omega)]
  rfl

theorem le_choose {n j : Nat} (h1 : 1 ≤ j) (h2 : j + 1 ≤ n) : n ≤ Nat.choose n j := by
  induction n with
  | zero => omega
  | succ n ih =>
    obtain ⟨j', rfl⟩ : ∃ j', j = j' + 1 := ⟨j - 1, by omega⟩
    rw [Nat.choose_succ_succ']
    rcases Nat.lt_or_ge (j' + 1) n with h | h
    · have := ih (by omega)
      have : 0 < Nat.choose n j' := Nat.choose_pos (by omega)
      omega
    · have hn : n = j' + 1 := by omega
      subst hn
      rw [Nat.choose_self, Nat.choose_succ_self_right]

theorem small_fits : 16 * chooseMul 16 16 < W := by decide +kernel

theorem coeffU64_eq (n k : Nat) :
    coeffU64 n k = if min k (n - k) * Nat.choose n k < W then .ok (Nat.choose n k) else .panic := by
  rcases Nat.lt_or_ge n k with hkn | hkn
  · rw [Nat.choose_eq_zero_of_lt hkn, Nat.mul_zero, if_pos (by decide), coeffU64, if_pos hkn]
  rw [coeffU64_unfold n k hkn, ← kred_eq_min hkn, ← choose_kred hkn]
  have hk2 := kred_le_half hkn
  generalize kred n k = k' at *
  by_cases h0 : k' = 0
  · subst h0
    rw [if_pos rfl, Nat.zero_mul, if_pos (by decide), Nat.choose_zero_right]
  rw [if_neg h0]
  have hk1 : 1 ≤ k' := Nat.pos_of_ne_zero h0
  by_cases h32 : n ≤ 32
  · obtain ⟨row, hr, hv⟩ := entry_spec h32 hk2
    have hfit : k' * Nat.choose n k' < W := by
      have h1 : Nat.choose n k' ≤ Nat.choose 32 k' := Nat.choose_le_choose k' h32
      have h2 : Nat.choose 32 k' ≤ Nat.choose 32 16 := Nat.choose_le_middle k' 32
      have h3 := small_fits
      rw [chooseMul_eq] at h3
      have hk16 : k' ≤ 16 := le_trans hk2 (Nat.div_le_div_right h32)
      exact lt_of_le_of_lt (Nat.mul_le_mul hk16 (le_trans h1 h2)) h3
    rw [if_pos h32, hr, if_pos hfit]
    dsimp only
    rw [hv]
  rw [if_neg h32]
  by_cases hL : k' > largestK
  · -- beyond the table of thresholds nothing fits: `32 * C(64, 32) ≥ 2^64`
    have hbig : ¬ k' * Nat.choose n k' < W := by
      have hk32 : 32 ≤ k' := Nat.succ_le_of_lt (lt_of_le_of_lt largestK_ge hL)
      have h1 : Nat.choose n 32 ≤ Nat.choose n k' := choose_mono_half hk32 hk2
      have h2 : Nat.choose 64 32 ≤ Nat.choose n 32 :=
        Nat.choose_le_choose 32 (le_trans (Nat.mul_le_mul_right 2 hk32) (Nat.mul_le_of_le_div 2 k' n hk2))
      have h3 := big_32
      rw [chooseMul_eq] at h3
      exact Nat.not_lt.mpr (le_trans h3 (Nat.mul_le_mul hk32 (le_trans h2 h1)))
    rw [if_pos hL, if_neg hbig]
  rw [if_neg hL]
  obtain ⟨m, hm, h1, h2, h3⟩ := thr_spec hk1 (Nat.le_of_not_lt hL)
  rw [hm]
  dsimp only
  by_cases hnm : n > m
  · have hbig : ¬ k' * Nat.choose n k' < W :=
      Nat.not_lt.mpr (le_trans h3 (Nat.mul_le_mul_left k' (Nat.choose_le_choose k' hnm)))
    rw [if_pos hnm, if_neg hbig]
  · have hfit : k' * Nat.choose n k' < W :=
      lt_of_le_of_lt (Nat.mul_le_mul_left k' (Nat.choose_le_choose k' (Nat.le_of_not_lt hnm))) h2
    have hn : n < W :=
      lt_of_le_of_lt (le_trans (le_choose hk1 (by omega)) (Nat.le_mul_of_pos_left _ hk1)) hfit
    rw [if_neg hnm, if_pos hfit]
    obtain ⟨d, rfl⟩ : ∃ d, n = d + k' :=
      ⟨n - k', (Nat.sub_add_cancel (le_trans hk2 (Nat.div_le_self n 2))).symm⟩
    have := coeffLoop_eq d k' hn hfit k' 0 (Nat.zero_add _)
    rw [Nat.add_zero, Nat.choose_zero_right] at this
    rw [this]

end Comb
