import Mamba.Model.GraphRep
/-!
# One induction over the operation list (property C05)

If every single operation of a representation `R` refines the abstract operation (on well-formed values and valid
arguments, without panicking), then so does every history.
-/
namespace GraphRep
open GraphSpec

theorem runG_cons (g : G) (o : Op) (os : List Op) : runG g (o :: os) = runG (stepG g o) os := rfl

theorem refines_run {R : Type} (WF : R → Prop) (abs : R → G) (step : R → Op → Outcome R)
    (hstep : ∀ x o, WF x → o.valid (abs x).n →
      ∃ y, step x o = .ok y ∧ WF y ∧ abs y = stepG (abs x) o) :
    ∀ (ops : List Op) (x : R), WF x → validSeq (abs x) ops →
      ∃ y, runM step ops x = .ok y ∧ WF y ∧ abs y = runG (abs x) ops := by
  intro ops
  induction ops with
  | nil => intro x hx _; exact ⟨x, rfl, hx, rfl⟩
  | cons o os ih =>
    intro x hx hv
    obtain ⟨y, hy, hwf, habs⟩ := hstep x o hx hv.1
    have hv2 : validSeq (abs y) os := by rw [habs]; exact hv.2
    obtain ⟨z, hz, hwfz, habsz⟩ := ih y hwf hv2
    refine ⟨z, ?_, hwfz, ?_⟩
    · show loopM step (o :: os) x = _
      rw [loopM, hy]; exact hz
    · rw [habsz, habs, runG_cons]

/-- the history by which the driver builds the start graph -/
theorem validSeq_ae : ∀ (es : List (Nat × Nat)) (g : G), (∀ e ∈ es, e.1 < g.n ∧ e.2 < g.n) →
    validSeq g (es.map fun e => Op.ae e.1 e.2) := by
  intro es
  induction es with
  | nil => intro g _; exact True.intro
  | cons e es ih =>
    intro g h
    exact ⟨h e (by simp), ih (stepG g (Op.ae e.1 e.2)) (fun e' he' => h e' (by simp [he']))⟩

end GraphRep
