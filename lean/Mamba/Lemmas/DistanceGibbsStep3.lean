import Mamba.Model.Subgraph
import Mamba.Lemmas.DistanceModelBasics
/-!
# Gibbs' step 3 (swap-remove loop): it returns, it only removes, and what it keeps
-/
namespace GDist
open Model

theorem sContains_spec (a b : List Nat) (ha : a.Pairwise (· < ·)) (hb : b.Pairwise (· < ·)) :
    sContains a b = true ↔ ∀ x ∈ b, x ∈ a := by
  induction a, b using sContains.induct with
  | case1 t => exact ⟨fun _ x hx => (nomatch hx), fun _ => by cases t <;> rfl⟩
  | case2 y b =>
    rw [sContains]
    exact ⟨fun h => (nomatch h), fun h => (nomatch h y List.mem_cons_self)⟩
  | case3 a y b ih =>
    obtain ⟨_, ha'⟩ := List.pairwise_cons.1 ha
    obtain ⟨hyb, hb'⟩ := List.pairwise_cons.1 hb
    rw [sContains, if_pos rfl, ih ha' hb']
    constructor
    · intro h z hz
      rcases List.mem_cons.1 hz with rfl | hz
      · exact List.mem_cons_self
      · exact List.mem_cons_of_mem _ (h z hz)
    · intro h z hz
      rcases List.mem_cons.1 (h z (List.mem_cons_of_mem _ hz)) with h0 | h0
      · exact absurd (hyb z hz) (by rw [h0]; exact Nat.lt_irrefl _)
      · exact h0
  | case4 x a y b h1 h2 =>
    obtain ⟨hxa, _⟩ := List.pairwise_cons.1 ha
    rw [sContains, if_neg h1, if_pos h2]
    refine ⟨fun h => (nomatch h), fun h => ?_⟩
    rcases List.mem_cons.1 (h y List.mem_cons_self) with h0 | h0
    · exact absurd h0.symm h1
    · have := hxa y h0; omega
  | case5 x a y b h1 h2 ih =>
    obtain ⟨_, ha'⟩ := List.pairwise_cons.1 ha
    obtain ⟨hyb, _⟩ := List.pairwise_cons.1 hb
    rw [sContains, if_neg h1, if_neg h2, ih ha' hb]
    constructor
    · intro h z hz; exact List.mem_cons_of_mem _ (h z hz)
    · intro h z hz
      rcases List.mem_cons.1 (h z hz) with h0 | h0
      · exfalso
        rcases List.mem_cons.1 hz with h3 | h3
        · omega
        · have := hyb z h3; omega
      · exact h0

/-- `R[j] = R[len-1]; R = R[:len-1]` -/
def swapRemove3 (R : Array (List Nat)) (j : Nat) (hj : j < R.size) : Array (List Nat) :=
  (R.set j (R[R.size - 1]'(by omega))).pop

def hit3 (R : Array (List Nat)) (j : Nat) : Prop :=
  ∃ k, k < R.size ∧ k ≠ j ∧ sContains (R.getD j []) (R.getD k []) = true

theorem swapRemove_get (R : Array (List Nat)) (j : Nat) (hj : j < R.size) :
    let R' := swapRemove3 R j hj
    R'.size = R.size - 1 ∧
    (∀ k' (hk' : k' < R'.size), ∃ k, ∃ hk : k < R.size, k ≠ j ∧ (j ≤ k' → j < k) ∧ R'[k'] = R[k]) ∧
    (∀ k (hk : k < R.size), k ≠ j → ∃ k', ∃ hk' : k' < R'.size, R'[k'] = R[k]) := by
  intro R'
  have hsz : R'.size = R.size - 1 := by simp [R', swapRemove3]
  have hget : ∀ k' (hk' : k' < R'.size), R'[k'] = R[if k' = j then R.size - 1 else k']'(by split <;> omega) :=
    fun k' hk' => getElem_pop_set_last R j hj k' (hsz ▸ hk')
  refine ⟨hsz, ?_, ?_⟩
  · intro k' hk'
    refine ⟨_, _, ?_, ?_, hget k' hk'⟩ <;> split <;> omega
  · intro k hk hkj
    by_cases hlast : k = R.size - 1
    · refine ⟨j, by omega, ?_⟩
      simp only [hget, if_true, hlast]
    · refine ⟨k, by omega, ?_⟩
      simp only [hget, if_neg hkj]

/-- Induction along step 3 for an invariant `I j R` of the number `j` of entries still to be tested and the array:
the loop returns, and the invariant holds for the returned array with `j = 0`. -/
theorem gibbsStep3_ind (I : Nat → Array (List Nat) → Prop)
    (keep : ∀ j R, j < R.size → I (j + 1) R → ¬ hit3 R j → I j R)
    (drop : ∀ j R (hj : j < R.size), I (j + 1) R → hit3 R j → I j (swapRemove3 R j hj))
    (j : Nat) : ∀ (R : Array (List Nat)) (P : List (List Nat)), j ≤ R.size → I j R →
      ∃ R' P', gibbsStep3 j R P = .ok (R', P') ∧ I 0 R' := by
  induction j with
  | zero => exact fun R P _ h => ⟨R, P, rfl, h⟩
  | succ j ih =>
    intro R P hj h
    have hjR : j < R.size := hj
    have hiff : ((List.range R.size).any fun k => k != j && sContains R[j] (R.getD k [])) = true ↔ hit3 R j := by
      rw [getElem_eq_getD hjR []]
      simp only [List.any_eq_true, List.mem_range, Bool.and_eq_true, bne_iff_ne, ne_eq, hit3]
    rw [gibbsStep3, dif_pos hjR]
    by_cases hh : hit3 R j
    · rw [if_pos (hiff.2 hh)]
      exact ih _ _ (by simp; omega) (drop j R hjR h hh)
    · rw [if_neg (mt hiff.1 hh)]
      exact ih R P (Nat.le_of_lt hjR) (keep j R hjR h hh)

theorem gibbsStep3_total (j : Nat) (R : Array (List Nat)) (P : List (List Nat)) (hj : j ≤ R.size) :
    ∃ res, gibbsStep3 j R P = .ok res := by
  obtain ⟨R', P', e, _⟩ := gibbsStep3_ind (fun _ _ => True) (fun _ _ _ _ _ => trivial) (fun _ _ _ _ _ => trivial)
    j R P hj trivial
  exact ⟨_, e⟩

theorem gibbsStep3_subset (j : Nat) (R : Array (List Nat)) (P : List (List Nat)) (R' : Array (List Nat))
    (P' : List (List Nat)) (hj : j ≤ R.size) (h : gibbsStep3 j R P = .ok (R', P')) :
    ∀ x ∈ R'.toList, x ∈ R.toList := by
  obtain ⟨R'', P'', e, hI⟩ := gibbsStep3_ind (fun _ A => ∀ k (hk : k < A.size), A[k] ∈ R.toList) (fun _ _ _ h _ => h)
    (fun j A hj h _ k' hk' => by
      obtain ⟨k, hk, _, _, e⟩ := (swapRemove_get A j hj).2.1 k' hk'
      exact e ▸ h k hk)
    j R P hj (fun k hk => Array.getElem_mem_toList hk)
  obtain ⟨rfl, -⟩ : R'' = R' ∧ P'' = P' := by simpa [h] using e.symm
  intro x hx
  obtain ⟨k, hk, rfl⟩ := List.getElem_of_mem hx
  simpa using hI k (by simpa using hk)

/-- **what step 3 keeps**: if every element of `R0` contains a "good" element of `R0`, everything kept is good.
Invariant: the entries are elements of `R0`, every element of `R0` still contains an entry (a removed set contains the
set that caused its removal), and the entries already tested (index `≥ j`) are good. -/
theorem gibbsStep3_kept_all (Good : List Nat → Prop) (R0 : List (List Nat))
    (hs0 : ∀ V ∈ R0, V.Pairwise (· < ·))
    (hC : ∀ V ∈ R0, ∃ W ∈ R0, Good W ∧ ∀ x ∈ W, x ∈ V) (R' : Array (List Nat)) (P' : List (List Nat))
    (h : gibbsStep3 R0.length R0.toArray [] = .ok (R', P')) : ∀ V ∈ R'.toList, Good V := by
  obtain ⟨R'', P'', e, _, _, hgood⟩ := gibbsStep3_ind
    (fun j R => (∀ k (hk : k < R.size), R[k] ∈ R0) ∧ (∀ W ∈ R0, ∃ k, ∃ hk : k < R.size, ∀ x ∈ R[k], x ∈ W) ∧
      ∀ k (hk : k < R.size), j ≤ k → Good R[k])
    (fun j R hj ⟨hsub, hinv, hg⟩ hnohit => by
      refine ⟨hsub, hinv, fun k hk hjk => ?_⟩
      by_cases hkj : k = j
      · -- `R[j]` was tested and contains no other entry
        subst hkj
        obtain ⟨W, hW, hgood, hWV⟩ := hC _ (hsub k hk)
        obtain ⟨k1, hk1, hk1W⟩ := hinv W hW
        by_cases hk1k : k1 = k
        · subst hk1k
          rw [List.strictSorted_ext (hs0 _ (hsub k1 hk)) (hs0 W hW) fun x => ⟨hk1W x, hWV x⟩]
          exact hgood
        · refine absurd ⟨k1, hk1, hk1k, ?_⟩ hnohit
          rw [← getElem_eq_getD hk [], ← getElem_eq_getD hk1 []]
          exact (sContains_spec _ _ (hs0 _ (hsub k hk)) (hs0 _ (hsub k1 hk1))).2 fun x hx => hWV x (hk1W x hx)
      · exact hg k hk (by omega))
    (fun j R hj ⟨hsub, hinv, hg⟩ ⟨k0, hk0, hk0j, hcont⟩ => by
      -- `R[j]` contains `R[k0]`: it is removed
      obtain ⟨hsz, hget, hput⟩ := swapRemove_get R j hj
      rw [← getElem_eq_getD hj [], ← getElem_eq_getD hk0 []] at hcont
      have hcont' : ∀ x ∈ R[k0], x ∈ R[j] :=
        (sContains_spec _ _ (hs0 _ (hsub j hj)) (hs0 _ (hsub k0 hk0))).1 hcont
      refine ⟨fun k' hk' => ?_, fun W hW => ?_, fun k' hk' hjk' => ?_⟩
      · obtain ⟨k, hk, _, _, e⟩ := hget k' hk'
        exact e ▸ hsub k hk
      · obtain ⟨k, hk, hkW⟩ := hinv W hW
        by_cases hkj : k = j
        · subst hkj
          obtain ⟨k', hk', e⟩ := hput k0 hk0 hk0j
          exact ⟨k', hk', fun x hx => hkW x (hcont' x (e ▸ hx))⟩
        · obtain ⟨k', hk', e⟩ := hput k hk hkj
          exact ⟨k', hk', fun x hx => hkW x (e ▸ hx)⟩
      · obtain ⟨k, hk, _, hlt, e⟩ := hget k' hk'
        exact e ▸ hg k hk (hlt hjk'))
    R0.length R0.toArray [] (by simp)
    ⟨fun k hk => by simp, fun W hW => by
        obtain ⟨k, hk, hkW⟩ := List.getElem_of_mem hW
        exact ⟨k, by simpa using hk, fun x hx => by simpa [hkW] using hx⟩,
      fun k hk hjk => by simp at hk; omega⟩
  obtain ⟨rfl, -⟩ : R'' = R' ∧ P'' = P' := by simpa [h] using e.symm
  intro V hV
  obtain ⟨k, hk, rfl⟩ := List.getElem_of_mem hV
  simpa using hgood k (by simpa using hk) (Nat.zero_le _)

end GDist
