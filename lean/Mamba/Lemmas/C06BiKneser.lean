import Mamba.Lemmas.C06Fam
import Mamba.Lemmas.C06Induced
import Mathlib.Data.Nat.Choose.Basic
import Mathlib.Data.List.Perm.Subperm
/-! C06: `colexUnrank` yields strictly increasing lists; `BipartiteKneserGraph`. -/
namespace Construct
open GraphSpec

theorem length_colexUnrank (r k : Nat) : (Families.colexUnrank r k).length = k := by
  induction k generalizing r with
  | zero => simp [Families.colexUnrank]
  | succ k ih => simp [Families.colexUnrank, ih]

theorem intersectionSize_eq_length (a b : List Nat) : (intersectionSize a b == a.length) = Families.subset a b := by
  rw [Bool.eq_iff_iff]
  simp only [intersectionSize, beq_iff_eq, Families.subset, List.all_eq_true]
  exact List.length_filter_eq_length_iff

theorem choose_eq (n k : Nat) : Families.choose n k = Nat.choose n k := by
  induction n generalizing k with
  | zero => cases k <;> simp [Families.choose]
  | succ n ih => cases k with
    | zero => simp [Families.choose]
    | succ k => simp [Families.choose, ih, Nat.choose_succ_succ]

theorem choose_ge (k r : Nat) : r + 1 ≤ Nat.choose (k + r + 1) (k + 1) := by
  induction r with
  | zero => simp
  | succ r ih =>
    rw [show k + (r + 1) + 1 = (k + r + 1) + 1 by omega, Nat.choose_succ_succ']
    have : 0 < Nat.choose (k + r + 1) k := Nat.choose_pos (by omega)
    omega

theorem largestBelow_spec (k r : Nat) : ∀ (fuel lo : Nat), Families.choose lo k ≤ r →
    let c := Families.largestBelow k r fuel lo
    lo ≤ c ∧ c ≤ lo + fuel ∧ Families.choose c k ≤ r ∧ (c < lo + fuel → r < Families.choose (c + 1) k)
  | 0, lo, h => by simp [Families.largestBelow, h]
  | fuel + 1, lo, h => by
    simp only [Families.largestBelow]
    by_cases hc : Families.choose (lo + 1) k ≤ r
    · simp only [hc, ↓reduceIte]
      obtain ⟨h1, h2, h3, h4⟩ := largestBelow_spec k r fuel (lo + 1) hc
      exact ⟨by omega, by omega, h3, fun hlt => h4 (by omega)⟩
    · simp only [hc, ↓reduceIte]
      exact ⟨Nat.le_refl _, by omega, h, fun _ => by omega⟩

theorem colexUnrank_sorted : ∀ (k r B : Nat), r < Nat.choose B k →
    (Families.colexUnrank r k).Pairwise (· < ·) ∧ ∀ x ∈ Families.colexUnrank r k, x < B
  | 0, r, B, _ => by simp [Families.colexUnrank]
  | k + 1, r, B, h => by
    simp only [Families.colexUnrank]
    have h0 : Families.choose k (k + 1) ≤ r := by rw [choose_eq, Nat.choose_succ_self]; omega
    obtain ⟨h1, h2, h3, h4⟩ := largestBelow_spec (k + 1) r r k h0
    set c := Families.largestBelow (k + 1) r r k with hc
    rw [choose_eq] at h3
    have hlt : r < Nat.choose (c + 1) (k + 1) := by
      by_cases hcl : c < k + r
      · have := h4 hcl; rwa [choose_eq] at this
      · have hce : c = k + r := by omega
        rw [hce]; have := choose_ge k r; omega
    have hcB : c < B := by
      by_contra hge
      have := Nat.choose_le_choose (k + 1) (show B ≤ c by omega)
      omega
    have hr' : r - Nat.choose c (k + 1) < Nat.choose c k := by
      rw [Nat.choose_succ_succ'] at hlt; omega
    obtain ⟨ih1, ih2⟩ := colexUnrank_sorted k (r - Nat.choose c (k + 1)) c hr'
    rw [choose_eq]
    refine ⟨?_, ?_⟩
    · rw [List.pairwise_append]
      exact ⟨ih1, by simp, fun a ha b hb => by simp at hb; subst hb; exact ih2 a ha⟩
    · intro x hx
      simp only [List.mem_append, List.mem_singleton] at hx
      rcases hx with hx | rfl
      · exact Nat.lt_trans (ih2 x hx) hcB
      · exact hcB

theorem colexUnrank_nodup (r k : Nat) : (Families.colexUnrank r k).Nodup := by
  cases k with
  | zero => simp [Families.colexUnrank]
  | succ k =>
    have h : r < Nat.choose (k + r + 1) (k + 1) := by have := choose_ge k r; omega
    exact (colexUnrank_sorted (k + 1) r _ h).1.imp (fun h => by omega)

theorem subset_symm_of_length (a b : List Nat) (hb : b.Nodup) (hlen : a.length ≤ b.length)
    (h : Families.subset b a = true) : Families.subset a b = true := by
  simp only [Families.subset, List.all_eq_true, List.contains_eq_mem, decide_eq_true_eq] at h ⊢
  have hsp : b.Subperm a := List.subperm_of_subset hb (fun x hx => h x hx)
  have hp : b.Perm a := hsp.perm_of_length_le hlen
  intro x hx
  exact hp.symm.subset hx

theorem intersectionSize_comm (a b : List Nat) (ha : a.Nodup) (hb : b.Nodup) :
    intersectionSize a b = intersectionSize b a := by
  simp only [intersectionSize, ← List.countP_eq_length_filter, List.contains_eq_mem]
  exact countP_mem_comm a b ha hb

theorem intersectionSize_min (a b : List Nat) (ha : a.Nodup) (hb : b.Nodup) :
    (intersectionSize a b == if b.length < a.length then b.length else a.length) =
      (Families.subset a b || Families.subset b a) := by
  by_cases hlt : b.length < a.length
  · simp only [hlt, ↓reduceIte]
    rw [intersectionSize_comm a b ha hb, intersectionSize_eq_length]
    cases hab : Families.subset a b
    · simp
    · have := subset_symm_of_length b a ha (by omega) hab
      simp [this]
  · simp only [hlt, ↓reduceIte]
    rw [intersectionSize_eq_length]
    cases hba : Families.subset b a
    · simp
    · have := subset_symm_of_length a b hb (by omega) hba
      simp [this]

/-- The code compares the size of the intersection with the smaller of `k`, `n - k`; for duplicate-free lists of
these lengths that is containment one way or the other. -/
theorem bipartiteKneserGraph_ok (n k : Nat) :
    ∃ d, bipartiteKneserGraph n (k : Int) = .ok d ∧ d.WF ∧ d.abs = Families.bipartiteKneser n k := by
  have hc : coeff n (k : Int) = Families.choose n k := by simp [coeff]
  have key : ∀ x y, (intersectionSize (Families.colexUnrank x k) (Families.colexUnrank y (n - k)) ==
        if n - k < k then n - k else k) =
      (Families.subset (Families.colexUnrank x k) (Families.colexUnrank y (n - k)) ||
        Families.subset (Families.colexUnrank y (n - k)) (Families.colexUnrank x k)) := by
    intro x y
    have := intersectionSize_min _ _ (colexUnrank_nodup x k) (colexUnrank_nodup y (n - k))
    rwa [length_colexUnrank, length_colexUnrank] at this
  obtain ⟨d, e, w, _, a⟩ := buildByAddEdge_nbrs (Families.choose n k + Families.choose n k) (Families.choose n k)
    (fun i => (List.range (Families.choose n k)).filter fun j =>
      intersectionSize (Families.colexUnrank i k) (Families.colexUnrank j (n - k)) == if n - k < k then n - k else k)
    (fun _ j => Families.choose n k + j)
    (fun x y => x < Families.choose n k && Families.choose n k ≤ y &&
      (Families.subset (Families.colexUnrank x k) (Families.colexUnrank (y - Families.choose n k) (n - k)) ||
        Families.subset (Families.colexUnrank (y - Families.choose n k) (n - k)) (Families.colexUnrank x k)))
    (Nat.le_add_right _ _)
    (fun u hu j hj => by
      obtain ⟨hr, hd⟩ := List.mem_filter.1 hj
      have hj' := List.mem_range.1 hr
      refine ⟨by omega, fun _ => Or.inl ?_⟩
      rw [Nat.add_sub_cancel_left, ← key, hd, decide_eq_true hu, decide_eq_true (Nat.le_add_right _ _)]; rfl)
    (fun u v _ _ hv h => by
      simp only [Bool.and_eq_true, decide_eq_true_eq] at h
      obtain ⟨⟨hu, hnv⟩, h⟩ := h
      exact Or.inl ⟨hu, v - Families.choose n k, List.mem_filter.2 ⟨List.mem_range.2 (by omega), by rw [key]; exact h⟩,
        by omega⟩)
  refine ⟨d, ?_, w, ?_⟩
  · simpa only [bipartiteKneserGraph, hc, Int.toNat_natCast] using e
  · rw [a, Families.bipartiteKneser, Nat.two_mul]

end Construct
