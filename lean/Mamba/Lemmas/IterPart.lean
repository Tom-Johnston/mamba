import Mathlib.Data.List.Chain
import Mamba.Spec.Iter
import Mamba.Lemmas.IterSlice
import Mamba.Model.IterPart
import Mamba.Lemmas.IterChain
import Mamba.Lemmas.IterGeneric
/-!
# `Partitions(n)` and `IntegerPartitions(n)`

`Partitions`: the iterator steps through the restricted growth strings of length `n` in lexicographic order (`rgsList`,
successor `rgsSucc`); `Next` computes `rgsSucc` (`Parts.next_spec`), the array `b` of the Go code holding the running
bounds `rgsBs`; `Value()` turns the current string into its blocks (`partitionFromRGS_spec`).

`IntegerPartitions`: non-increasing positive parts in reverse lexicographic order (`ipList`; successor `ipSucc`: the last
part `> 1` is lowered by one and the ones behind it, plus one, are refilled greedily, `ipFill`). `ipFrom_peel` splits the
list by its first part, which gives membership and the chain; `Next` computes `ipSucc` (`IntParts.next_step`), the
`spread` loop writing `ipFill` within its fuel (`ip_spread`).

The specification lists `rgsList` and `ipList` stand at the top of this file, in `namespace Iter.Spec`.
-/

namespace Iter.Spec

/-- the restricted growth suffixes of length `len` when the entries to the left have `b` = 1 + their maximum
(`b = 0` for the empty prefix): the first entry ranges over `0..b`; lexicographic order -/
def rgsFrom : Nat → Int → List (List Int)
  | 0, _ => [[]]
  | len+1, b => (List.range (b + 1).toNat).flatMap (fun (v : Nat) =>
      (rgsFrom len (max b ((v : Int) + 1))).map (fun x => (v : Int) :: x))

/-- all restricted growth strings of length `n` in lexicographic order -/
def rgsList (n : Nat) : List (List Int) := rgsFrom n 0

/-- `x` is a restricted growth suffix after a prefix with 1 + maximum = `b` -/
def IsRGSFrom : Int → List Int → Prop
  | _, [] => True
  | b, v :: x => 0 ≤ v ∧ v ≤ b ∧ IsRGSFrom (max b (v + 1)) x

/-- restricted growth string: `x[0] = 0`, `0 ≤ x[i] ≤ 1 + max(x[0..i-1])` -/
def IsRGS (x : List Int) : Prop := IsRGSFrom 0 x

/-- lexicographic successor among the restricted growth suffixes -/
def rgsSuccFrom : Int → List Int → Option (List Int)
  | _, [] => none
  | b, v :: x =>
    match rgsSuccFrom (max b (v + 1)) x with
    | some y => some (v :: y)
    | none => if v + 1 ≤ b then some ((v + 1) :: zeros x.length) else none

def rgsSucc (x : List Int) : Option (List Int) := rgsSuccFrom 0 x

/-- 1 + running maximum: the bound for the entry after the prefix `p` when the bound at its start is `b` -/
def rgsThr : Int → List Int → Int
  | b, [] => b
  | b, v :: x => rgsThr (max b (v + 1)) x

/-- block `i`: the positions holding the value `i`, in increasing order -/
def rgsBlock (x : List Int) (i : Nat) : List Int :=
  (x.zipIdx.filter (fun (v, _) => v == (i : Int))).map (fun (_, p) => (p : Int))

/-- the set partition encoded by the restricted growth string `x`: block `i` (for `i` = 0 .. maximum of `x`) is the
set of positions holding the value `i` -/
def rgsBlocks (x : List Int) : List (List Int) :=
  (List.range (rgsThr 1 x - 1).toNat.succ).map (rgsBlock x)

def ones (n : Nat) : List Int := List.replicate n 1

/-- the partitions of `n` into non-increasing positive parts that are all `≤ mx`: the first part `v` runs from
`min n mx` DOWN to 1 (`v = min n mx - i`), followed by a partition of `n - v` with parts `≤ v`;
this is the reverse lexicographic order -/
def ipFrom : Nat → Nat → List (List Int)
  | 0, _ => [[]]
  | n+1, mx => (List.range (min (n+1) mx)).flatMap (fun i =>
      (ipFrom (n - (min (n+1) mx - i - 1)) (min (n+1) mx - i)).map
        (fun x => ((min (n+1) mx - i : Nat) : Int) :: x))
termination_by n => n
decreasing_by omega

/-- all partitions of `n` in reverse lexicographic order -/
def ipList (n : Nat) : List (List Int) := ipFrom n n

/-- non-increasing list of positive integers, the first one `≤ mx` -/
def IsIPFrom : Int → List Int → Prop
  | _, [] => True
  | mx, v :: x => 1 ≤ v ∧ v ≤ mx ∧ IsIPFrom v x

/-- the greedy partition of `r` with parts `≤ p`: `p, p, …, p, rest` -/
def ipFill (p r : Int) : List Int :=
  if r ≤ 0 then [] else if 0 < p ∧ p < r then p :: ipFill p (r - p) else [r]
termination_by r.toNat
decreasing_by omega

/-- the next partition in reverse lexicographic order: the last part `v > 1` becomes `v - 1` and the rest
(the ones behind it, plus one) is redistributed greedily -/
def ipSucc : List Int → Option (List Int)
  | [] => none
  | v :: x =>
    match ipSucc x with
    | some y => some (v :: y)
    | none => if 1 < v then some ((v - 1) :: ipFill (v - 1) (x.length + 1)) else none

end Iter.Spec

namespace Iter
open Spec

theorem mem_rgsFrom : ∀ (len : Nat) (b : Int) (x : List Int),
    x ∈ rgsFrom len b ↔ x.length = len ∧ IsRGSFrom b x := by
  intro len
  induction len with
  | zero => intro b x; cases x <;> simp [rgsFrom, IsRGSFrom]
  | succ len ih =>
    intro b x
    cases x with
    | nil => simp [rgsFrom]
    | cons a x =>
      simp only [rgsFrom, List.mem_flatMap, List.mem_range, List.mem_map, IsRGSFrom, List.length_cons,
        Nat.add_right_cancel_iff]
      constructor
      · rintro ⟨v, hv, y, hy, h⟩
        injection h with h1 h2
        subst h1 h2
        obtain ⟨hl, hr⟩ := (ih _ _).mp hy
        exact ⟨hl, by omega, by omega, hr⟩
      · rintro ⟨hl, h0, h1, h2⟩
        refine ⟨a.toNat, by omega, x, (ih _ _).mpr ⟨hl, ?_⟩, by simp [Int.toNat_of_nonneg h0]⟩
        rw [Int.toNat_of_nonneg h0]; exact h2

theorem mem_rgsList (n : Nat) (x : List Int) : x ∈ rgsList n ↔ x.length = n ∧ IsRGS x :=
  mem_rgsFrom n 0 x

theorem rgsSuccFrom_lt : ∀ (x : List Int) (b : Int) (y : List Int),
    rgsSuccFrom b x = some y → x < y := by
  intro x
  induction x with
  | nil => intro b y h; simp [rgsSuccFrom] at h
  | cons a x ih =>
    intro b y h
    simp only [rgsSuccFrom] at h
    cases hp : rgsSuccFrom (max b (a + 1)) x with
    | some z =>
      rw [hp] at h
      cases h
      exact List.cons_lt_cons_iff.mpr (Or.inr ⟨rfl, ih _ _ hp⟩)
    | none =>
      rw [hp] at h
      by_cases hn : a + 1 ≤ b
      · simp only [hn, if_true, Option.some.injEq] at h
        rw [← h]; exact List.cons_lt_cons_iff.mpr (Or.inl (by omega))
      · simp [hn] at h

theorem rgsFrom_chain : ∀ (len : Nat) (b : Int), 0 ≤ b →
    (rgsFrom len b).IsChain (fun x y => rgsSuccFrom b x = some y) ∧
    (rgsFrom len b).head? = some (zeros len) ∧
      ∃ l, (rgsFrom len b).getLast? = some l ∧ l.length = len ∧ rgsSuccFrom b l = none := by
  intro len
  induction len with
  | zero => intro b _; simp [rgsFrom, rgsSuccFrom, zeros]
  | succ len ih =>
    intro b hb
    have key := isChain_flatMap_range (fun x y => rgsSuccFrom b x = some y)
      (fun (v : Nat) => (rgsFrom len (max b ((v : Int) + 1))).map (fun x => (v : Int) :: x)) (b + 1).toNat
      (by
        intro v _
        rw [List.isChain_map]
        exact (ih _ (by omega)).1.imp (fun x y h => by simp [rgsSuccFrom, h]))
      (by
        intro v _ h
        have := (ih (max b ((v : Int) + 1)) (by omega)).2.1
        simp only [List.map_eq_nil_iff] at h
        simp [h] at this)
      (by
        intro v hv x hx y hy
        obtain ⟨_, hhead, l, hlast, hlen, hl⟩ := ih (max b ((v : Int) + 1)) (by omega)
        obtain ⟨_, hhead', _⟩ := ih (max b (((v + 1 : Nat) : Int) + 1)) (by omega)
        simp only [List.getLast?_map, hlast, Option.map_some, Option.mem_def, Option.some.injEq] at hx
        simp only [List.head?_map, hhead', Option.map_some, Option.mem_def, Option.some.injEq] at hy
        subst hx hy
        have : (v : Int) + 1 ≤ b := by omega
        simp [rgsSuccFrom, hl, this, hlen])
    have hpos : 0 < (b + 1).toNat := by omega
    obtain ⟨k1, k2⟩ := key.2 hpos
    refine ⟨key.1, ?_, ?_⟩
    · show ((List.range (b + 1).toNat).flatMap _).head? = _
      rw [k2]
      have h1 := (ih (max b 1) (by omega)).2.1
      simp [h1, zeros, List.replicate_succ]
    · obtain ⟨_, _, l, hlast, hlen, hl⟩ := ih (max b ((((b + 1).toNat - 1 : Nat) : Int) + 1)) (by omega)
      refine ⟨(((b + 1).toNat - 1 : Nat) : Int) :: l, ?_, by simp [hlen], ?_⟩
      · show ((List.range (b + 1).toNat).flatMap _).getLast? = _
        rw [k1]; simp [hlast]
      · have : ¬ ((((b + 1).toNat - 1 : Nat) : Int) + 1 ≤ b) := by omega
        simp [rgsSuccFrom, hl, this]

theorem rgsList_chain (n : Nat) :
    (rgsList n).IsChain (fun x y => rgsSucc x = some y) ∧
    (rgsList n).head? = some (zeros n) ∧
      ∃ l, (rgsList n).getLast? = some l ∧ l.length = n ∧ rgsSucc l = none :=
  rgsFrom_chain n 0 (Int.le_refl _)

theorem rgsList_sorted (n : Nat) : (rgsList n).Pairwise (· < ·) :=
  List.isChain_iff_pairwise.mp ((rgsList_chain n).1.imp (fun _ _ h => rgsSuccFrom_lt _ _ _ h))

theorem rgsList_ne_nil (n : Nat) : rgsList n ≠ [] := by
  intro h
  have := (rgsList_chain n).2.1
  simp [h] at this

/-- the bounds at every position (the contents of the array `b` of the Go code) -/
def rgsBs : Int → List Int → List Int
  | _, [] => []
  | b, v :: x => b :: rgsBs (max b (v + 1)) x

theorem rgsThr_append : ∀ (p q : List Int) (b : Int), rgsThr b (p ++ q) = rgsThr (rgsThr b p) q := by
  intro p
  induction p with
  | nil => intro q b; rfl
  | cons v p ih => intro q b; simp [rgsThr, ih]

theorem rgsThr_ge : ∀ (p : List Int) (b : Int), b ≤ rgsThr b p := by
  intro p
  induction p with
  | nil => intro b; exact Int.le_refl _
  | cons v p ih => intro b; have := ih (max b (v + 1)); simp only [rgsThr]; omega

theorem rgsThr_zeros : ∀ (k : Nat) (b : Int), 1 ≤ b → rgsThr b (zeros k) = b := by
  intro k
  induction k with
  | zero => intro b _; rfl
  | succ k ih =>
    intro b hb
    have e : max b ((0 : Int) + 1) = b := by omega
    simp only [zeros, List.replicate_succ, rgsThr, e]
    exact ih b hb

theorem rgsBs_length : ∀ (p : List Int) (b : Int), (rgsBs b p).length = p.length := by
  intro p
  induction p with
  | nil => intro b; rfl
  | cons v p ih => intro b; simp [rgsBs, ih]

theorem rgsBs_append : ∀ (p q : List Int) (b : Int),
    rgsBs b (p ++ q) = rgsBs b p ++ rgsBs (rgsThr b p) q := by
  intro p
  induction p with
  | nil => intro q b; rfl
  | cons v p ih => intro q b; simp [rgsBs, rgsThr, ih]

theorem rgsBs_zeros : ∀ (k : Nat) (b : Int), 1 ≤ b → rgsBs b (zeros k) = List.replicate k b := by
  intro k
  induction k with
  | zero => intro b _; rfl
  | succ k ih =>
    intro b hb
    have e : max b ((0 : Int) + 1) = b := by omega
    simp only [zeros, List.replicate_succ, rgsBs, e]
    rw [← ih b hb]; rfl

theorem isRGSFrom_append : ∀ (p q : List Int) (b : Int),
    IsRGSFrom b (p ++ q) ↔ IsRGSFrom b p ∧ IsRGSFrom (rgsThr b p) q := by
  intro p
  induction p with
  | nil => intro q b; simp [IsRGSFrom, rgsThr]
  | cons v p ih => intro q b; simp [IsRGSFrom, rgsThr, ih, and_assoc]

theorem rgsSuccFrom_snoc : ∀ (p : List Int) (b v : Int),
    rgsSuccFrom b (p ++ [v]) =
      if v + 1 ≤ rgsThr b p then some (p ++ [v + 1]) else (rgsSuccFrom b p).map (· ++ [0]) := by
  intro p
  induction p with
  | nil => intro b v; by_cases h : v + 1 ≤ b <;> simp [rgsSuccFrom, rgsThr, zeros, h]
  | cons w p ih =>
    intro b v
    simp only [List.cons_append, rgsSuccFrom, ih, rgsThr]
    by_cases hn : v + 1 ≤ rgsThr (max b (w + 1)) p
    · simp [hn]
    · simp only [hn, if_false]
      cases hp : rgsSuccFrom (max b (w + 1)) p with
      | some y => simp
      | none =>
        simp only [Option.map_none, List.length_append, List.length_cons, List.length_nil]
        by_cases hb : w + 1 ≤ b
        · simp [hb, zeros, List.replicate_succ']
        · simp [hb]

theorem parts_reset (m : Int) : ∀ (sa1 sb1 pa pb sa2 sb2 : List Int) (k : Int),
    sa1.length = sb1.length → k = pa.length → pa.length = pb.length →
    Parts.reset m sa1.length k (pa ++ sa1 ++ sa2) (pb ++ sb1 ++ sb2) =
      .ok (pa ++ zeros sa1.length ++ sa2, pb ++ List.replicate sa1.length m ++ sb2) := by
  intro sa1
  induction sa1 with
  | nil =>
    intro sb1 pa pb sa2 sb2 k h1 _ _
    have : sb1 = [] := List.length_eq_zero_iff.mp h1.symm
    subst this
    simp [Parts.reset, zeros]
  | cons x sa1 ih =>
    intro sb1 pa pb sa2 sb2 k h1 hk hpp
    cases sb1 with
    | nil => simp at h1
    | cons y sb1 =>
      simp only [List.length_cons, Nat.add_right_cancel_iff] at h1
      have ea : pa ++ x :: sa1 ++ sa2 = pa ++ x :: (sa1 ++ sa2) := by simp
      have eb : pb ++ y :: sb1 ++ sb2 = pb ++ y :: (sb1 ++ sb2) := by simp
      have s1 := set_at pa (sa1 ++ sa2) x 0 k hk
      have s2 := set_at pb (sb1 ++ sb2) y m k (by omega)
      simp only [List.length_cons, Parts.reset, ea, eb, s1, s2, Outcome.bind_ok]
      have := ih sb1 (pa ++ [0]) (pb ++ [m]) sa2 sb2 (k + 1) h1 (by simp; omega) (by simp; omega)
      simp only [List.append_assoc, List.cons_append, List.nil_append] at this
      rw [this]
      simp [zeros, List.replicate_succ]

/-- the loop over `j` of `Next`: it computes the successor of the prefix `pre` (entries `1..k` of `a`) and resets the
rest; the bounds `b[1..k]` are those of `pre` -/
theorem parts_scan (n : Int) (b0 al bl : Int) : ∀ (k : Nat) (pre suf bsuf : List Int),
    pre.length = k → suf.length = bsuf.length → IsRGSFrom 1 pre → n = (k : Int) + suf.length + 2 →
    Parts.scan n k (0 :: (pre ++ suf ++ [al])) (b0 :: (rgsBs 1 pre ++ bsuf ++ [bl])) =
      .ok ((rgsSuccFrom 1 pre).map (fun y =>
        (rgsThr 1 (y ++ zeros suf.length), 0 :: (y ++ zeros suf.length ++ [0]),
          b0 :: (rgsBs 1 (y ++ zeros suf.length) ++ [bl])))) := by
  intro k
  induction k with
  | zero =>
    intro pre suf bsuf hp _ _ _
    have : pre = [] := List.length_eq_zero_iff.mp hp
    subst this
    simp [Parts.scan, rgsSuccFrom]
  | succ j ih =>
    intro pre suf bsuf hp hs hr hn
    obtain ⟨pre', v, rfl⟩ : ∃ p a, pre = p ++ [a] :=
      ⟨pre.dropLast, pre.getLast (by intro h; simp [h] at hp), by simp [List.dropLast_append_getLast]⟩
    simp only [List.length_append, List.length_cons, List.length_nil, Nat.zero_add,
      Nat.add_right_cancel_iff] at hp
    obtain ⟨hr1, hv0, hvt, _⟩ := (isRGSFrom_append pre' [v] 1).mp hr
    have ea : 0 :: (pre' ++ [v] ++ suf ++ [al]) = (0 :: pre') ++ v :: (suf ++ [al]) := by simp
    have eb : b0 :: (rgsBs 1 (pre' ++ [v]) ++ bsuf ++ [bl]) =
        (b0 :: rgsBs 1 pre') ++ rgsThr 1 pre' :: (bsuf ++ [bl]) := by simp [rgsBs_append, rgsBs]
    rw [rgsSuccFrom_snoc]
    unfold Parts.scan
    rw [ea, eb]
    have g1 := get_at (0 :: pre') (suf ++ [al]) v ((j + 1 : Nat) : Int) (by simp [hp])
    have g2 := get_at (b0 :: rgsBs 1 pre') (bsuf ++ [bl]) (rgsThr 1 pre') ((j + 1 : Nat) : Int)
      (by simp [hp, rgsBs_length])
    simp only [g1, g2, Outcome.bind_ok]
    by_cases hv : v = rgsThr 1 pre'
    · have hne : ¬ (v + 1 ≤ rgsThr 1 pre') := by omega
      have hb : (v != rgsThr 1 pre') = false := by simp [hv]
      simp only [hb, hne, if_false, Bool.false_eq_true]
      have ea' : (0 :: pre') ++ v :: (suf ++ [al]) = 0 :: (pre' ++ (v :: suf) ++ [al]) := by simp
      have eb' : (b0 :: rgsBs 1 pre') ++ rgsThr 1 pre' :: (bsuf ++ [bl]) =
          b0 :: (rgsBs 1 pre' ++ (rgsThr 1 pre' :: bsuf) ++ [bl]) := by simp
      rw [ea', eb', ih pre' (v :: suf) (rgsThr 1 pre' :: bsuf) hp (by simp [hs]) hr1
        (by simp only [List.length_cons]; push_cast at hn ⊢; omega)]
      cases rgsSuccFrom 1 pre' with
      | none => simp
      | some y => simp [zeros, List.replicate_succ]
    · have hlt : v + 1 ≤ rgsThr 1 pre' := by omega
      have hb : (v != rgsThr 1 pre') = true := by simp [hv]
      simp only [hb, hlt, if_true]
      have s1 := set_at (0 :: pre') (suf ++ [al]) v (v + 1) ((j + 1 : Nat) : Int) (by simp [hp])
      simp only [s1, Outcome.bind_ok]
      have hm : (if (v + 1 == rgsThr 1 pre') = true then rgsThr 1 pre' + 1 else rgsThr 1 pre') =
          rgsThr 1 (pre' ++ [v + 1]) := by
        rw [rgsThr_append]
        simp only [rgsThr, beq_iff_eq]
        split <;> omega
      rw [hm]
      have h1 : 1 ≤ rgsThr 1 (pre' ++ [v + 1]) := rgsThr_ge _ _
      have hc : (n - 1 - (((j + 1 : Nat) : Int) + 1)).toNat = suf.length := by omega
      have ea2 : (0 :: pre') ++ (v + 1) :: (suf ++ [al]) = (0 :: (pre' ++ [v + 1])) ++ suf ++ [al] := by simp
      have eb2 : (b0 :: rgsBs 1 pre') ++ rgsThr 1 pre' :: (bsuf ++ [bl]) =
          (b0 :: (rgsBs 1 pre' ++ [rgsThr 1 pre'])) ++ bsuf ++ [bl] := by simp
      rw [hc, ea2, eb2, parts_reset _ suf bsuf _ _ [al] [bl] _ hs (by simp [hp])
        (by simp [rgsBs_length])]
      simp only [Outcome.bind_ok]
      have s2 := set_at (0 :: (pre' ++ [v + 1]) ++ zeros suf.length) [] al 0 (n - 1)
        (by simp [zeros, hp]; omega)
      rw [s2]
      rw [rgsThr_append] at h1
      simp only [rgsThr] at h1
      simp [rgsThr_append, rgsBs_append, rgsThr_zeros _ _ h1, rgsBs_zeros _ _ h1, rgsBs, rgsThr]

/-- state invariant: `s` shows the restricted growth string `x` of length `n`; `b[j]` = 1 + max(a[0..j-1]) for
`1 ≤ j ≤ n-2`, `m` = 1 + max(a[0..n-2]) (`m = 0` for `n = 1`) -/
def Parts.Rep (n : Nat) (s : Parts) (x : List Int) : Prop :=
  s.n = n ∧ s.a = x ∧
    ((n = 1 ∧ s.m = 0) ∨ ∃ a' al b0 bl, x = 0 :: (a' ++ [al]) ∧ s.b = b0 :: (rgsBs 1 a' ++ [bl]) ∧
      s.m = rgsThr 1 a')

/-- the branch `a[n-1]++` -/
theorem Parts.next_incr (s : Parts) (a' : List Int) (al : Int) (hn : s.n = (a'.length : Int) + 2)
    (ha : s.a = 0 :: (a' ++ [al])) (hm : al ≠ s.m) :
    Parts.next s = .ok ({ s with a := 0 :: (a' ++ [al + 1]) }, true) := by
  unfold Parts.next
  have e : (0 : Int) :: (a' ++ [al]) = (0 :: a') ++ al :: [] := by simp
  have g := get_at (0 :: a') [] al (s.n - 1) (by simp [hn]; omega)
  have st := set_at (0 :: a') [] al (al + 1) (s.n - 1) (by simp [hn]; omega)
  have hb : (al == s.m) = false := by simp [hm]
  simp only [ha, e, g, st, Outcome.bind_ok, hb, Bool.false_eq_true, if_false]
  simp

theorem rgsSucc_zero_cons (w : List Int) : rgsSucc (0 :: w) = (rgsSuccFrom 1 w).map (fun y => 0 :: y) := by
  have e : max (0 : Int) (0 + 1) = 1 := by decide
  simp only [rgsSucc, rgsSuccFrom, e]
  cases rgsSuccFrom 1 w <;> simp

theorem isRGS_zero_cons (w : List Int) : IsRGS (0 :: w) ↔ IsRGSFrom 1 w := by
  have e : max (0 : Int) 1 = 1 := by decide
  simp [IsRGS, IsRGSFrom, e]

theorem isRGS_head (v : Int) (w : List Int) (h : IsRGS (v :: w)) : v = 0 := by
  obtain ⟨h0, h1, _⟩ := h; omega

theorem Parts.next_spec (n : Nat) (s : Parts) (x : List Int) (hx : x ∈ rgsList n) (h : Parts.Rep n s x) :
    (∀ y, rgsSucc x = some y → ∃ s', Parts.next s = .ok (s', true) ∧ Parts.Rep n s' y) ∧
    (rgsSucc x = none → Parts.next s = .ok (s, false)) := by
  obtain ⟨hl, hr⟩ := (mem_rgsList n x).mp hx
  obtain ⟨hn, ha, hshape⟩ := h
  rcases hshape with ⟨h1, hm⟩ | ⟨a', al, b0, bl, hx, hb, hm⟩
  · -- n = 1
    subst h1
    obtain ⟨v, rfl⟩ : ∃ v, x = [v] := by
      cases x with
      | nil => simp at hl
      | cons v x =>
        cases x with
        | nil => exact ⟨v, rfl⟩
        | cons _ _ => simp at hl
    have := isRGS_head v [] hr
    subst this
    have hs : rgsSucc [0] = none := by simp [rgsSucc, rgsSuccFrom]
    refine ⟨fun y hy => (by rw [hs] at hy; cases hy), fun _ => ?_⟩
    unfold Parts.next
    simp [hn, ha, hm, get, Parts.scan]
  · subst hx
    have hlen : (n : Int) = (a'.length : Int) + 2 := by
      simp only [List.length_cons, List.length_append, List.length_nil] at hl; omega
    have hr' := (isRGS_zero_cons _).mp hr
    obtain ⟨hr1, hal0, halt, _⟩ := (isRGSFrom_append a' [al] 1).mp hr'
    rw [rgsSucc_zero_cons, rgsSuccFrom_snoc]
    by_cases hlt : al + 1 ≤ rgsThr 1 a'
    · simp only [hlt, if_true, Option.map_some, Option.some.injEq, reduceCtorEq, false_implies, and_true]
      intro y hy
      subst hy
      exact ⟨_, Parts.next_incr s a' al (by rw [hn, hlen]) ha (by omega), hn, rfl,
        Or.inr ⟨a', al + 1, b0, bl, rfl, hb, hm⟩⟩
    · have hal : al = rgsThr 1 a' := by omega
      have hsc := parts_scan s.n b0 al bl a'.length a' [] [] rfl rfl hr1 (by rw [hn, hlen]; simp)
      simp only [List.append_nil, List.length_nil, zeros, List.replicate_zero] at hsc
      have g := get_at (0 :: a') [] al (s.n - 1) (by simp [hn, hlen]; omega)
      have e : (0 : Int) :: (a' ++ [al]) = (0 :: a') ++ al :: [] := by simp
      have hk : (s.n - 2).toNat = a'.length := by omega
      have hbeq : (al == s.m) = true := by simp [hm, hal]
      unfold Parts.next
      rw [ha, e, g]
      simp only [Outcome.bind_ok, hbeq, if_true, hk, hb]
      rw [← e, hsc]
      simp only [hlt, if_false]
      cases hp : rgsSuccFrom 1 a' with
      | none => simp
      | some y =>
        simp only [Option.map_some, Option.some.injEq, reduceCtorEq, false_implies, and_true, Outcome.bind_ok]
        intro z hz
        subst hz
        exact ⟨_, rfl, hn, rfl, Or.inr ⟨y, 0, b0, bl, rfl, rfl, rfl⟩⟩

theorem Parts.next_dead (n : Nat) (s : Parts) (h : ∃ x ∈ rgsList n, Parts.Rep n s x ∧ rgsSucc x = none) :
    ∃ s', Parts.next s = .ok (s', false) ∧ ∃ x ∈ rgsList n, Parts.Rep n s' x ∧ rgsSucc x = none := by
  obtain ⟨x, hm, hr, hx⟩ := h
  exact ⟨s, (Parts.next_spec n s x hm hr).2 hx, x, hm, hr, hx⟩

theorem Parts.init_eq (k : Nat) :
    Parts.init ((k : Int) + 1) =
      .ok ⟨(k : Int) + 1, if k = 0 then 0 else 1, zeros k ++ [-1], List.replicate (k + 1) 1⟩ := by
  unfold Parts.init make
  have h1 : ¬ ((k : Int) + 1 < 1) := by omega
  have h0 : ¬ ((k : Int) + 1 < 0) := by omega
  have ht : ((k : Int) + 1).toNat = k + 1 := by omega
  have r : List.replicate (k + 1) (0 : Int) = List.replicate k 0 ++ [0] := List.replicate_succ'
  have st := set_at (List.replicate k (0 : Int)) [] 0 (-1) ((k : Int) + 1 - 1) (by simp)
  simp only [h1, h0, if_false, ht, Outcome.bind_ok, Outcome.pure_eq, r, st]
  cases k with
  | zero => simp [zeros]
  | succ k =>
    simp [zeros]; omega

/-- the usual definition of restricted growth strings -/
theorem isRGSFrom_iff : ∀ (x : List Int) (b : Int), IsRGSFrom b x ↔
    ∀ pre v suf, x = pre ++ v :: suf → 0 ≤ v ∧ (v ≤ b ∨ ∃ w ∈ pre, v ≤ w + 1) := by
  intro x
  induction x with
  | nil => intro b; simp [IsRGSFrom]
  | cons u x ih =>
    intro b
    simp only [IsRGSFrom, ih]
    constructor
    · rintro ⟨h0, h1, h2⟩ pre v suf hsplit
      cases pre with
      | nil =>
        simp only [List.nil_append, List.cons.injEq] at hsplit
        obtain ⟨rfl, _⟩ := hsplit
        exact ⟨h0, Or.inl h1⟩
      | cons u' pre =>
        simp only [List.cons_append, List.cons.injEq] at hsplit
        obtain ⟨rfl, hx⟩ := hsplit
        obtain ⟨hv0, hv⟩ := h2 pre v suf hx
        refine ⟨hv0, ?_⟩
        rcases hv with hv | ⟨w, hw, hv⟩
        · by_cases hb : v ≤ b
          · exact Or.inl hb
          · exact Or.inr ⟨u, by simp, by omega⟩
        · exact Or.inr ⟨w, by simp [hw], hv⟩
    · intro h
      obtain ⟨h0, h1⟩ := h [] u x rfl
      refine ⟨h0, by simpa using h1, ?_⟩
      intro pre v suf hx
      obtain ⟨hv0, hv⟩ := h (u :: pre) v suf (by simp [hx])
      refine ⟨hv0, ?_⟩
      rcases hv with hv | ⟨w, hw, hv⟩
      · exact Or.inl (by omega)
      · simp only [List.mem_cons] at hw
        rcases hw with rfl | hw
        · exact Or.inl (by omega)
        · exact Or.inr ⟨w, hw, hv⟩

theorem isRGS_iff (x : List Int) : IsRGS x ↔
    ∀ pre v suf, x = pre ++ v :: suf → 0 ≤ v ∧ (v = 0 ∨ ∃ w ∈ pre, v ≤ w + 1) := by
  unfold IsRGS
  rw [isRGSFrom_iff]
  constructor
  · intro h pre v suf hx
    obtain ⟨h0, h1⟩ := h pre v suf hx
    exact ⟨h0, h1.imp (fun h => by omega) id⟩
  · intro h pre v suf hx
    obtain ⟨h0, h1⟩ := h pre v suf hx
    exact ⟨h0, h1.imp (fun h => by omega) id⟩

theorem mem_rgsBlock (x : List Int) (i : Nat) (v : Int) :
    v ∈ rgsBlock x i ↔ ∃ p : Nat, v = (p : Int) ∧ x[p]? = some (i : Int) := by
  simp only [rgsBlock, List.mem_map, List.mem_filter, List.mem_zipIdx_iff_getElem?, beq_iff_eq, Prod.exists]
  constructor
  · rintro ⟨a, p, ⟨h1, h2⟩, rfl⟩
    exact ⟨p, rfl, by rw [h1, h2]⟩
  · rintro ⟨p, rfl, h⟩
    exact ⟨(i : Int), p, ⟨h, rfl⟩, rfl⟩

theorem rgsBlock_sorted (x : List Int) (i : Nat) : (rgsBlock x i).Pairwise (· < ·) := by
  unfold rgsBlock
  rw [List.pairwise_map]
  apply List.Pairwise.filter
  have := List.pairwise_lt_range' (s := 0) (n := x.length)
  rw [← List.zipIdx_map_snd, List.pairwise_map] at this
  exact this.imp (fun {a b} h => by
    obtain ⟨_, p⟩ := a
    obtain ⟨_, q⟩ := b
    simp only at h ⊢
    omega)

theorem isRGSFrom_bounds : ∀ (x : List Int) (b : Int), IsRGSFrom b x →
    rgsThr b x ≤ b + x.length ∧ ∀ v ∈ x, 0 ≤ v ∧ v + 1 ≤ rgsThr b x := by
  intro x
  induction x with
  | nil => intro b _; simp [rgsThr]
  | cons u x ih =>
    intro b h
    obtain ⟨h0, h1, h2⟩ := h
    obtain ⟨i1, i2⟩ := ih _ h2
    have hge := rgsThr_ge x (max b (u + 1))
    simp only [rgsThr, List.length_cons, List.mem_cons, forall_eq_or_imp]
    refine ⟨by push_cast; omega, ⟨h0, by omega⟩, i2⟩

theorem isRGSFrom_surj : ∀ (x : List Int) (b : Int), IsRGSFrom b x →
    ∀ i, b ≤ i → i < rgsThr b x → i ∈ x := by
  intro x
  induction x with
  | nil => intro b _ i h1 h2; simp only [rgsThr] at h2; omega
  | cons u x ih =>
    intro b h i h1 h2
    obtain ⟨_, hu, hx⟩ := h
    simp only [rgsThr] at h2
    by_cases hi : i < max b (u + 1)
    · have : i = u := by omega
      simp [this]
    · exact List.mem_cons_of_mem _ (ih _ hx i (by omega) h2)

theorem rgsMax_eq (n : Nat) : ∀ (x : List Int) (mx : Int), (∀ v ∈ x, 0 ≤ v ∧ v < n) →
    rgsMax n x mx = .ok (rgsThr (mx + 1) x - 1) := by
  intro x
  induction x with
  | nil => intro mx _; simp [rgsMax, rgsThr]
  | cons u x ih =>
    intro mx h
    obtain ⟨h0, h1⟩ := h u (by simp)
    have hc : ¬ (u < 0 ∨ u.toNat ≥ n) := by omega
    simp only [rgsMax, hc, if_false, rgsThr]
    rw [ih _ (fun v hv => h v (by simp [hv]))]
    congr 3
    split <;> omega

theorem isRGS_earlier (x : List Int) (hx : IsRGS x) (q : Nat) (i j : Int) (hq : x[q]? = some j) (h0 : 0 ≤ i)
    (hij : i < j) : ∃ p : Nat, p < q ∧ x[p]? = some i := by
  obtain ⟨hql, hqv⟩ := List.getElem?_eq_some_iff.mp hq
  have hsplit : x = x.take q ++ j :: x.drop (q + 1) := by
    rw [← hqv]; simp
  have hx' : IsRGSFrom 0 (x.take q ++ j :: x.drop (q + 1)) := by rw [← hsplit]; exact hx
  obtain ⟨hpre, _, hj, _⟩ := (isRGSFrom_append _ _ _).mp hx'
  have hmem := isRGSFrom_surj _ _ hpre i h0 (by omega)
  obtain ⟨p, hp, hpv⟩ := List.mem_iff_getElem.mp hmem
  simp only [List.length_take] at hp
  refine ⟨p, by omega, ?_⟩
  rw [List.getElem_take] at hpv
  rw [List.getElem?_eq_getElem (by omega), hpv]

theorem partitionFromRGS_eq (x : List Int) (hx : IsRGS x) :
    partitionFromRGS x = .ok (rgsBlocks x) := by
  have hb := isRGSFrom_bounds x 0 hx
  have hm := rgsMax_eq x.length x 0 (fun v hv => ⟨(hb.2 v hv).1, by have := (hb.2 v hv).2; omega⟩)
  unfold partitionFromRGS
  rw [hm]
  rfl

theorem rgsThr_zero_one (x : List Int) (hx : IsRGS x) (hl : 1 ≤ x.length) : rgsThr 0 x = rgsThr 1 x := by
  cases x with
  | nil => simp at hl
  | cons u w =>
    have := isRGS_head u w hx
    subst this
    simp only [rgsThr]
    rfl

theorem partitionFromRGS_spec (x : List Int) (hx : IsRGS x) (hl : 1 ≤ x.length) :
    ∃ blocks, partitionFromRGS x = .ok blocks ∧
      (∀ B ∈ blocks, B ≠ [] ∧ B.Pairwise (· < ·) ∧ ∀ v ∈ B, 0 ≤ v ∧ v < x.length) ∧
      blocks.Pairwise (fun B C => ∀ a ∈ B.head?, ∀ c ∈ C.head?, a < c) ∧
      (∀ (p : Nat) (hp : p < x.length), 0 ≤ x[p] ∧ x[p] < blocks.length) ∧
      (∀ (p : Nat) (hp : p < x.length) (i : Nat) (hi : i < blocks.length), (p : Int) ∈ blocks[i] ↔ x[p] = i) := by
  refine ⟨_, partitionFromRGS_eq x hx, ?_, ?_, ?_, ?_⟩ <;> unfold rgsBlocks
  · intro B hB
    simp only [List.mem_map, List.mem_range] at hB
    obtain ⟨i, hi, rfl⟩ := hB
    have hb := isRGSFrom_bounds x 0 hx
    have h01 := rgsThr_zero_one x hx hl
    have hge := rgsThr_ge x 1
    refine ⟨?_, rgsBlock_sorted x i, ?_⟩
    · have hmem := isRGSFrom_surj x 0 hx (i : Int) (by omega) (by omega)
      obtain ⟨p, hp, hpv⟩ := List.mem_iff_getElem.mp hmem
      have : (p : Int) ∈ rgsBlock x i := (mem_rgsBlock x i p).mpr ⟨p, rfl, by rw [List.getElem?_eq_getElem hp, hpv]⟩
      intro h
      rw [h] at this
      simp at this
    · intro v hv
      obtain ⟨p, rfl, hp⟩ := (mem_rgsBlock x i v).mp hv
      obtain ⟨hpl, _⟩ := List.getElem?_eq_some_iff.mp hp
      omega
  · rw [List.pairwise_map]
    refine List.pairwise_lt_range.imp ?_
    intro i j hij a ha c hc
    have hcm : c ∈ rgsBlock x j := List.mem_of_mem_head? hc
    obtain ⟨q, rfl, hq⟩ := (mem_rgsBlock x j c).mp hcm
    obtain ⟨p, hpq, hp⟩ := isRGS_earlier x hx q (i : Int) (j : Int) hq (by omega) (by omega)
    have hpm : (p : Int) ∈ rgsBlock x i := (mem_rgsBlock x i p).mpr ⟨p, rfl, hp⟩
    have hs := rgsBlock_sorted x i
    cases hblk : rgsBlock x i with
    | nil => rw [hblk] at ha; simp at ha
    | cons a' rest =>
      rw [hblk] at ha hpm hs
      simp only [List.head?_cons, Option.mem_def, Option.some.injEq] at ha
      subst ha
      simp only [List.mem_cons] at hpm
      rcases hpm with h | h
      · omega
      · have := (List.pairwise_cons.mp hs).1 _ h
        omega
  · intro p hp
    have hb := isRGSFrom_bounds x 0 hx
    have h01 := rgsThr_zero_one x hx hl
    have hge := rgsThr_ge x 1
    have := hb.2 x[p] (List.getElem_mem hp)
    simp only [List.length_map, List.length_range]
    omega
  · intro p hp i hi
    simp only [List.getElem_map, List.getElem_range]
    rw [mem_rgsBlock]
    constructor
    · rintro ⟨p', h1, h2⟩
      have : p = p' := by omega
      subst this
      rw [List.getElem?_eq_getElem hp] at h2
      simpa using h2
    · intro h
      exact ⟨p, rfl, by rw [List.getElem?_eq_getElem hp, h]⟩

theorem Parts.enumerates_lemma (n : Int) (hn : 1 ≤ n) :
    ∃ s0, Parts.init n = .ok s0 ∧ ∀ bound, (rgsList n.toNat).length < bound →
      ∃ s', outputs Parts.it bound s0 = ((rgsList n.toNat).map rgsBlocks, s', .exhausted) ∧
        ∀ k, extras Parts.it k s' = .ok (List.replicate k none) := by
  obtain ⟨k, rfl⟩ : ∃ k : Nat, n = (k : Int) + 1 := ⟨(n - 1).toNat, by omega⟩
  have ht : ((k : Int) + 1).toNat = k + 1 := by omega
  rw [ht]
  refine ⟨_, Parts.init_eq k, fun bound hb => ?_⟩
  obtain ⟨hchain, hhead, l, hlast, _, hl⟩ := rgsList_chain (k + 1)
  obtain ⟨s', h1, _, h3⟩ := enumerates_succ Parts.it rgsBlocks (Parts.Rep (k + 1))
    (fun s => ∃ x ∈ rgsList (k + 1), Parts.Rep (k + 1) s x ∧ rgsSucc x = none)
    (fun x y => rgsSucc x = some y)
    (⟨(k : Int) + 1, if k = 0 then 0 else 1, zeros k ++ [-1], List.replicate (k + 1) 1⟩ : Parts)
    (rgsList (k + 1)) hchain
    (by
      rintro s x hx hr
      exact ⟨s, by simp only [Parts.it, hr.2.1, partitionFromRGS_eq x ((mem_rgsList _ x).mp hx).2]; rfl, hr⟩)
    (fun hnil => absurd hnil (rgsList_ne_nil _))
    (by
      intro x hx
      rw [hhead] at hx
      simp only [Option.mem_def, Option.some.injEq] at hx
      subst hx
      cases k with
      | zero =>
        refine ⟨⟨1, 0, [0], [1]⟩, ?_, by simp, rfl, Or.inl ⟨rfl, rfl⟩⟩
        simp [Parts.it, Parts.next, zeros, get, set]
      | succ k =>
        have e : zeros (k + 1) ++ [-1] = 0 :: (zeros k ++ [-1]) := by simp [zeros, List.replicate_succ]
        have e2 : (0 : Int) :: (zeros k ++ [-1 + 1]) = zeros (k + 1 + 1) := by
          show 0 :: (List.replicate k 0 ++ [0]) = List.replicate (k + 1 + 1) 0
          rw [← List.replicate_succ', ← List.replicate_succ]
        have hni := Parts.next_incr
          ⟨((k + 1 : Nat) : Int) + 1, 1, zeros (k + 1) ++ [-1], List.replicate (k + 1 + 1) 1⟩ (zeros k) (-1)
          (by simp [zeros]; omega) e (by show (-1 : Int) ≠ 1; decide)
        simp only [e2] at hni
        refine ⟨_, by simpa [Parts.it] using hni, by simp, rfl, Or.inr ?_⟩
        refine ⟨zeros k, 0, 1, 1, by rw [← e2]; simp, ?_, ?_⟩
        · show List.replicate (k + 1 + 1) (1 : Int) = _
          rw [rgsBs_zeros k 1 (Int.le_refl _), ← List.replicate_succ', ← List.replicate_succ]
        · simp [rgsThr_zeros k 1 (Int.le_refl _)])
    (fun x hx y _ hxy s hs => (Parts.next_spec (k + 1) s x hx hs).1 y hxy)
    (by
      intro x hx s hs
      have hm := List.mem_of_mem_getLast? hx
      rw [hlast] at hx
      simp only [Option.mem_def, Option.some.injEq] at hx
      subst hx
      exact Parts.next_dead (k + 1) s ⟨_, hm, hs, hl⟩)
    (fun s hs => Parts.next_dead (k + 1) s hs) bound hb
  exact ⟨s', h1, h3⟩

theorem ipFrom_zero (mx : Nat) : ipFrom 0 mx = [[]] := by rw [ipFrom]

theorem ipFrom_succ (n mx : Nat) : ipFrom (n + 1) mx = (List.range (min (n+1) mx)).flatMap (fun i =>
      (ipFrom (n - (min (n+1) mx - i - 1)) (min (n+1) mx - i)).map
        (fun x => ((min (n+1) mx - i : Nat) : Int) :: x)) := by rw [ipFrom]

theorem ipFill_nonpos (p r : Int) (h : r ≤ 0) : ipFill p r = [] := by rw [ipFill]; simp [h]

theorem ipFill_big (p r : Int) (hp : 0 < p) (h : p < r) : ipFill p r = p :: ipFill p (r - p) := by
  rw [ipFill]
  have : ¬ r ≤ 0 := by omega
  simp [this, hp, h]

theorem ipFill_small (p r : Int) (hr : 0 < r) (h : ¬ (0 < p ∧ p < r)) : ipFill p r = [r] := by
  rw [ipFill]
  have : ¬ r ≤ 0 := by omega
  simp only [this, if_false, h]

theorem ipSucc_ones : ∀ k : Nat, ipSucc (ones k) = none := by
  intro k
  induction k with
  | zero => rfl
  | succ k ih =>
    have : ones (k + 1) = 1 :: ones k := List.replicate_succ
    rw [this]
    simp [ipSucc, ih]

theorem isIPFrom_sum_nonneg : ∀ (x : List Int) (mx : Int), IsIPFrom mx x → 0 ≤ x.sum := by
  intro x
  induction x with
  | nil => intro _ _; simp
  | cons v x ih =>
    intro mx h
    have := ih v h.2.2
    simp only [List.sum_cons]
    have := h.1
    omega

theorem ipFrom_peel (n mx : Nat) : ipFrom (n + 1) (mx + 1) =
    (if mx ≤ n then (ipFrom (n - mx) (mx + 1)).map (fun x => ((mx + 1 : Nat) : Int) :: x) else []) ++
      ipFrom (n + 1) mx := by
  rw [ipFrom_succ, ipFrom_succ]
  by_cases h : mx ≤ n
  · have e1 : min (n + 1) (mx + 1) = mx + 1 := by omega
    have e2 : min (n + 1) mx = mx := by omega
    rw [if_pos h, e1, e2, List.range_succ_eq_map, List.flatMap_cons, List.flatMap_map]
    congr 1
    simp only [Nat.succ_eq_add_one, Nat.add_sub_add_right]
  · have e1 : min (n + 1) (mx + 1) = n + 1 := by omega
    have e2 : min (n + 1) mx = n + 1 := by omega
    rw [if_neg h, e1, e2, List.nil_append]

theorem ipFrom_succ_zero (n : Nat) : ipFrom (n + 1) 0 = [] := by
  rw [ipFrom_succ]; rfl

theorem isIPFrom_succ (mx : Nat) (x : List Int) : IsIPFrom ((mx + 1 : Nat) : Int) x ↔
    IsIPFrom mx x ∨ ∃ y, x = ((mx + 1 : Nat) : Int) :: y ∧ IsIPFrom ((mx + 1 : Nat) : Int) y := by
  cases x with
  | nil => simp [IsIPFrom]
  | cons v y =>
    simp only [IsIPFrom, List.cons.injEq]
    constructor
    · rintro ⟨h1, h2, h3⟩
      by_cases hv : v = ((mx + 1 : Nat) : Int)
      · exact Or.inr ⟨y, ⟨hv, rfl⟩, hv ▸ h3⟩
      · exact Or.inl ⟨h1, by omega, h3⟩
    · rintro (⟨h1, h2, h3⟩ | ⟨_, ⟨rfl, rfl⟩, h3⟩)
      · exact ⟨h1, by omega, h3⟩
      · exact ⟨by omega, Int.le_refl _, h3⟩

theorem mem_ipFrom : ∀ (n mx : Nat) (x : List Int),
    x ∈ ipFrom n mx ↔ IsIPFrom mx x ∧ x.sum = n := by
  intro n
  induction n using Nat.strong_induction_on with
  | _ n ih =>
    cases n with
    | zero =>
      intro mx x
      rw [ipFrom_zero]
      cases x with
      | nil => simp [IsIPFrom]
      | cons v x =>
        simp only [List.mem_singleton, reduceCtorEq, false_iff, not_and, List.sum_cons]
        intro h
        have := isIPFrom_sum_nonneg x v h.2.2
        have := h.1
        omega
    | succ n =>
      intro mx
      induction mx with
      | zero =>
        intro x
        rw [ipFrom_succ_zero]
        cases x with
        | nil => simp; omega
        | cons v y => simp only [List.not_mem_nil, IsIPFrom, false_iff]; omega
      | succ mx ihm =>
        intro x
        rw [ipFrom_peel, List.mem_append, ihm, isIPFrom_succ, or_and_right, or_comm]
        refine or_congr Iff.rfl ?_
        by_cases h : mx ≤ n
        · rw [if_pos h]
          simp only [List.mem_map, ih (n - mx) (by omega)]
          constructor
          · rintro ⟨y, ⟨h1, h2⟩, rfl⟩
            exact ⟨⟨y, rfl, h1⟩, by rw [List.sum_cons, h2]; omega⟩
          · rintro ⟨⟨y, rfl, h1⟩, h2⟩
            rw [List.sum_cons] at h2
            exact ⟨y, ⟨h1, by omega⟩, rfl⟩
        · rw [if_neg h]
          simp only [List.not_mem_nil, false_iff, not_and]
          rintro ⟨y, rfl, h1⟩
          have := isIPFrom_sum_nonneg y _ h1
          rw [List.sum_cons]; omega

theorem ipSucc_gt : ∀ (x y : List Int), ipSucc x = some y → y < x := by
  intro x
  induction x with
  | nil => intro y h; simp [ipSucc] at h
  | cons v x ih =>
    intro y h
    simp only [ipSucc] at h
    cases hp : ipSucc x with
    | some z =>
      rw [hp] at h
      simp only [Option.some.injEq] at h
      subst h
      exact List.cons_lt_cons_iff.mpr (Or.inr ⟨rfl, ih _ hp⟩)
    | none =>
      rw [hp] at h
      simp only at h
      by_cases hn : 1 < v
      · simp only [hn, if_true, Option.some.injEq] at h
        subst h
        exact List.cons_lt_cons_iff.mpr (Or.inl (by omega))
      · simp [hn] at h

theorem ipSucc_cons_ones (v : Int) (k : Nat) (hv : 1 < v) :
    ipSucc (v :: ones k) = some ((v - 1) :: ipFill (v - 1) ((k : Int) + 1)) := by
  have ho := ipSucc_ones k
  simp only [ipSucc, ho, hv, if_true]
  simp [ones]

theorem ipFill_cons (mx n : Nat) (h : mx ≤ n) :
    ipFill ((mx + 1 : Nat) : Int) ((n + 1 : Nat) : Int) = ((mx + 1 : Nat) : Int) :: ipFill ((mx + 1 : Nat) : Int) ((n - mx : Nat) : Int) := by
  rcases Nat.lt_or_ge mx n with hlt | hge
  · rw [ipFill_big _ _ (by omega) (by omega)]
    congr 2; omega
  · have : mx = n := by omega
    subst this
    rw [ipFill_small _ _ (by omega) (by omega), ipFill_nonpos _ _ (by omega)]

theorem ipFrom_chain : ∀ (n mx : Nat),
    (ipFrom n mx).IsChain (fun x y => ipSucc x = some y) ∧
    ((n = 0 ∨ 1 ≤ mx) → (ipFrom n mx).head? = some (ipFill mx n) ∧
      (ipFrom n mx).getLast? = some (ones n)) := by
  intro n
  induction n using Nat.strong_induction_on with
  | _ n ih =>
    cases n with
    | zero => intro mx; simp [ipFrom_zero, ipFill_nonpos, ones]
    | succ n =>
      intro mx
      induction mx with
      | zero => rw [ipFrom_succ_zero]; exact ⟨List.isChain_nil, fun h => by omega⟩
      | succ mx ihm =>
        obtain ⟨cB, hB⟩ := ihm
        rw [ipFrom_peel]
        by_cases h : mx ≤ n
        · -- the block with first part `mx + 1`, then the partitions with parts `≤ mx` (none if `mx = 0`)
          obtain ⟨c, hl⟩ := ih (n - mx) (by omega) (mx + 1)
          obtain ⟨h1, h2⟩ := hl (Or.inr (by omega))
          rw [if_pos h]
          refine ⟨List.IsChain.append ((List.isChain_map _).mpr (c.imp fun x y e => by simp [ipSucc, e])) cB ?_,
            fun _ => ⟨?_, ?_⟩⟩
          · intro x hx y hy
            rcases Nat.eq_zero_or_pos mx with rfl | hpos
            · rw [ipFrom_succ_zero] at hy; cases hy
            · rw [List.getLast?_map, h2] at hx; rw [(hB (Or.inr hpos)).1] at hy
              cases hx; cases hy
              obtain ⟨m', rfl⟩ : ∃ m', mx = m' + 1 := ⟨mx - 1, by omega⟩
              rw [ipSucc_cons_ones _ _ (by omega), ipFill_cons m' n (by omega)]
              congr 2
              · omega
              · congr 1 <;> omega
          · rw [List.head?_append, List.head?_map, h1, ipFill_cons mx n h]; rfl
          · rw [List.getLast?_append, List.getLast?_map, h2]
            rcases Nat.eq_zero_or_pos mx with rfl | hpos
            · rw [ipFrom_succ_zero]; rfl
            · rw [(hB (Or.inr hpos)).2]; rfl
        · obtain ⟨hB1, hB2⟩ := hB (Or.inr (by omega))
          rw [if_neg h, List.nil_append]
          refine ⟨cB, fun _ => ⟨?_, hB2⟩⟩
          rw [hB1, ipFill_small _ _ (by omega) (by omega), ipFill_small _ _ (by omega) (by omega)]

theorem ipList_chain (n : Nat) :
    (ipList n).IsChain (fun x y => ipSucc x = some y) ∧
    (ipList n).head? = some (ipFill n n) ∧ (ipList n).getLast? = some (ones n) ∧ ipSucc (ones n) = none := by
  have h := ipFrom_chain n n
  have h2 := h.2 (by omega)
  exact ⟨h.1, h2.1, h2.2, ipSucc_ones n⟩

theorem ipList_sorted (n : Nat) : (ipList n).Pairwise (· > ·) :=
  List.isChain_iff_pairwise.mp ((ipList_chain n).1.imp (fun _ _ h => ipSucc_gt _ _ h))

theorem mem_ipList (n : Nat) (x : List Int) : x ∈ ipList n ↔ IsIPFrom n x ∧ x.sum = n :=
  mem_ipFrom n n x

theorem ipList_ne_nil (n : Nat) : ipList n ≠ [] := by
  intro h
  have := (ipList_chain n).2.1
  simp [h] at this

theorem ones_succ (k : Nat) : ones (k + 1) = 1 :: ones k := List.replicate_succ

theorem ones_add (a b : Nat) : ones (a + b) = ones a ++ ones b := by
  simp [ones, List.replicate_append_replicate]

theorem sum_ones (k : Nat) : (ones k).sum = k := by simp [ones]

theorem length_le_sum : ∀ l : List Int, (∀ v ∈ l, 1 ≤ v) → (l.length : Int) ≤ l.sum := by
  intro l
  induction l with
  | nil => intro _; simp
  | cons v l ih =>
    intro h
    have h1 := h v (by simp)
    have h2 := ih (fun w hw => h w (by simp [hw]))
    simp only [List.length_cons, List.sum_cons]
    omega

theorem ipFill_one : ∀ k : Nat, ipFill 1 (k : Int) = ones k := by
  intro k
  induction k with
  | zero => rw [ipFill_nonpos _ _ (by simp)]; rfl
  | succ k ih =>
    cases k with
    | zero => rw [ipFill_small _ _ (by simp) (by simp)]; rfl
    | succ k =>
      rw [ipFill_big _ _ (by decide) (by omega), ones_succ]
      have : (((k + 1 + 1 : Nat) : Int) - 1) = ((k + 1 : Nat) : Int) := by omega
      rw [this, ih]

theorem ipSucc_append : ∀ (pre y z : List Int), ipSucc y = some z → ipSucc (pre ++ y) = some (pre ++ z) := by
  intro pre
  induction pre with
  | nil => intro y z h; simpa using h
  | cons v pre ih => intro y z h; simp [ipSucc, ih y z h]

theorem ipSucc_shape (pre : List Int) (aq : Int) (k : Nat) (haq : 1 < aq) :
    ipSucc (pre ++ [aq] ++ ones k) = some (pre ++ (aq - 1) :: ipFill (aq - 1) ((k : Int) + 1)) := by
  rw [List.append_assoc]
  exact ipSucc_append pre _ _ (ipSucc_cons_ones aq k haq)

theorem ip_spread (p : Int) (hp : 1 ≤ p) : ∀ (fuel : Nat) (t q : Int) (pa : List Int) (r : Nat),
    q + 1 = pa.length → 1 ≤ t → t ≤ fuel → t ≤ r →
    ∃ (j : Nat) (t' : Int) (r' : Nat), ipFill p t = List.replicate j p ++ [t'] ∧ 1 ≤ t' ∧ r = j + 1 + r' ∧
      IntParts.spread p fuel q t (pa ++ ones r) =
        .ok (q + j, t', pa ++ List.replicate j p ++ ones (r' + 1)) := by
  intro fuel
  induction fuel with
  | zero => intro t q pa r _ h1 h2 _; simp at h2; omega
  | succ f ih =>
    intro t q pa r hq h1 hf hr
    obtain ⟨r0, rfl⟩ : ∃ r0, r = r0 + 1 := ⟨r - 1, by omega⟩
    unfold IntParts.spread
    by_cases hgt : t > p
    · have st := set_at pa (ones r0) 1 p (q + 1) hq
      obtain ⟨j, t', r', hfill, ht', hj, hsp⟩ := ih (t - p) (q + 1) (pa ++ [p]) r0 (by simp; omega) (by omega)
        (by push_cast at hf; omega) (by push_cast at hr; omega)
      refine ⟨j + 1, t', r', ?_, ht', by omega, ?_⟩
      · rw [ipFill_big p t (by omega) hgt, hfill]; simp [List.replicate_succ]
      · simp only [hgt, if_true, ones_succ, st, Outcome.bind_ok]
        have e : pa ++ p :: ones r0 = pa ++ [p] ++ ones r0 := by simp
        rw [e, hsp]
        simp [List.replicate_succ, ones_succ]
        omega
    · refine ⟨0, t, r0, ?_, h1, by omega, ?_⟩
      · rw [ipFill_small p t (by omega) (by omega)]; simp
      · simp [hgt]

/-- state invariant: the buffer is `x` followed by ones (`n` entries in all), `m` is the number of parts of
`x = big ++ ones k`, `q` the index of the last part greater than one -/
def IntParts.Rep (n : Nat) (s : IntParts) (x : List Int) : Prop :=
  ∃ (big : List Int) (k d : Nat), x = big ++ ones k ∧ (∀ v ∈ big, 1 < v) ∧
    s.a = x ++ ones d ∧ x.length + d = n ∧ s.m = x.length ∧ s.q = (big.length : Int) - 1

/-- the branch `a[q] == 2` -/
theorem IntParts.next_two (s : IntParts) (pre : List Int) (r : Nat) (hq : s.q = pre.length)
    (ha : s.a = pre ++ 2 :: ones r) :
    IntParts.next s = .ok ({ s with a := pre ++ 1 :: ones r, q := s.q - 1, m := s.m + 1 }, true) := by
  unfold IntParts.next
  have h1 : (s.q == -2) = false := by simp [hq]
  have h2 : (s.q == -1) = false := by simp [hq]
  have g := get_at pre (ones r) 2 s.q hq
  have st := set_at pre (ones r) 2 1 s.q hq
  simp [h1, h2, ha, g, st]

theorem IntParts.next_big (s : IntParts) (pre : List Int) (aq : Int) (k r : Nat) (hq : s.q = pre.length)
    (ha : s.a = pre ++ aq :: ones r) (hm : s.m = (pre.length : Int) + 1 + k) (haq : 3 ≤ aq) (hr : k + 1 ≤ r) :
    ∃ (j : Nat) (t' : Int) (r' : Nat), ipFill (aq - 1) ((k : Int) + 1) = List.replicate j (aq - 1) ++ [t'] ∧
      1 ≤ t' ∧ r = j + 1 + r' ∧
      IntParts.next s = .ok (⟨pre ++ (aq - 1) :: (List.replicate j (aq - 1) ++ t' :: ones r'),
        (pre.length : Int) + j + 2, if t' > 1 then (pre.length : Int) + j + 1 else (pre.length : Int) + j⟩, true) := by
  obtain ⟨j, t', r', hfill, ht', hj, hsp⟩ := ip_spread (aq - 1) (by omega) (((k : Int) + 1).toNat + 1) ((k : Int) + 1)
    s.q (pre ++ [aq - 1]) r (by simp [hq]) (by omega) (by omega) (by omega)
  refine ⟨j, t', r', hfill, ht', hj, ?_⟩
  unfold IntParts.next
  have h1 : (s.q == -2) = false := by simp [hq]
  have h2 : (s.q == -1) = false := by simp [hq]
  have h3 : (aq == 2) = false := by simp; omega
  have g := get_at pre (ones r) aq s.q hq
  have st := set_at pre (ones r) aq (aq - 1) s.q hq
  have e : pre ++ (aq - 1) :: ones r = pre ++ [aq - 1] ++ ones r := by simp
  have hts : s.m - s.q = (k : Int) + 1 := by omega
  simp only [h1, h2, h3, ha, g, st, Outcome.bind_ok, Bool.false_eq_true, if_false, hts, e, hsp]
  have st2 := set_at (pre ++ [aq - 1] ++ List.replicate j (aq - 1)) (ones r') 1 t' (s.q + j + 1)
    (by simp [hq]; omega)
  rw [ones_succ, st2]
  simp [hq]
  omega

theorem IntParts.next_step (n : Nat) (x y : List Int) (hx : x ∈ ipList n) (hxy : ipSucc x = some y) (s : IntParts)
    (h : IntParts.Rep n s x) : ∃ s', IntParts.next s = .ok (s', true) ∧ IntParts.Rep n s' y := by
  have hsum := ((mem_ipList n x).mp hx).2
  obtain ⟨big, k, d, rfl, hbig, ha, hd, hm, hq⟩ := h
  rcases List.eq_nil_or_concat big with rfl | ⟨pre, aq, hcc⟩
  · simp [ipSucc_ones] at hxy
  · rw [List.concat_eq_append] at hcc
    subst hcc
    have haq : 1 < aq := hbig aq (by simp)
    have hpre : ∀ v ∈ pre, 1 < v := fun v hv => hbig v (by simp [hv])
    rw [ipSucc_shape pre aq k haq] at hxy
    simp only [Option.some.injEq] at hxy
    subst hxy
    have hls := length_le_sum pre (fun v hv => by have := hpre v hv; omega)
    simp only [List.sum_append, List.sum_cons, List.sum_nil, sum_ones] at hsum
    have hlen : (pre ++ [aq] ++ ones k).length = pre.length + 1 + k := by simp [ones]; omega
    rw [hlen] at hd hm
    have hq' : s.q = pre.length := by simp at hq; omega
    clear hq hbig
    have ea : pre ++ [aq] ++ ones k ++ ones d = pre ++ aq :: ones (k + d) := by rw [ones_add]; simp
    rw [ea] at ha
    -- the buffer is longer than `x`: `n - x.length = (∑ pre - pre.length) + aq - 1`
    obtain ⟨d', rfl⟩ : ∃ d', d = d' + 1 := ⟨d - 1, by clear hm hq'; omega⟩
    clear hls
    by_cases h2 : aq = 2
    · subst h2
      have hy : pre ++ (2 - 1) :: ipFill (2 - 1) ((k : Int) + 1) = pre ++ ones (k + 2) := by
        have := ipFill_one (k + 1)
        push_cast at this
        rw [show (2 : Int) - 1 = 1 from rfl, this, ← ones_succ (k + 1)]
      rw [hy]
      refine ⟨_, IntParts.next_two s pre _ hq' ha, pre, k + 2, d', rfl, hpre, ?_, ?_, ?_, ?_⟩
      · show pre ++ 1 :: ones (k + (d' + 1)) = _
        rw [List.append_assoc, ← ones_add, ← ones_succ]
        congr 2
        omega
      · simp [ones]; omega
      · show s.m + 1 = _
        simp [ones, hm]; omega
      · show s.q - 1 = _
        omega
    · obtain ⟨j, t', r', hfill, ht', hr', hnx⟩ := IntParts.next_big s pre aq k (k + (d' + 1)) hq' ha
        (by rw [hm]; push_cast; omega) (by omega) (by omega)
      have hlenY : pre.length + j + 2 + r' = n := by omega
      refine ⟨_, hnx, ?_⟩
      -- what is left is about lengths of lists; `omega` is much slower with the facts about sums in the context
      clear hsum hd hm hq' ha hr' hnx
      rw [hfill]
      by_cases ht1 : t' > 1
      · refine ⟨pre ++ (aq - 1) :: (List.replicate j (aq - 1) ++ [t']), 0, r', by simp [ones], ?_, by simp [ones],
          by simp; omega, by simp; omega, by simp [ht1]; omega⟩
        intro v hv
        simp only [List.mem_append, List.mem_cons, List.mem_replicate, List.mem_nil_iff, or_false] at hv
        rcases hv with hv | hv | hv | hv
        · exact hpre v hv
        · omega
        · omega
        · omega
      · have ht1' : t' = 1 := by omega
        subst ht1'
        refine ⟨pre ++ (aq - 1) :: List.replicate j (aq - 1), 1, r', by simp [ones], ?_, by simp [ones],
          by simp; omega, by simp; omega, by simp; omega⟩
        intro v hv
        simp only [List.mem_append, List.mem_cons, List.mem_replicate] at hv
        rcases hv with hv | hv | hv
        · exact hpre v hv
        · omega
        · omega

theorem IntParts.next_dead (s : IntParts) (h : s.q = -1) :
    ∃ s', IntParts.next s = .ok (s', false) ∧ s'.q = -1 := by
  refine ⟨s, ?_, h⟩
  unfold IntParts.next
  simp [h]

theorem IntParts.init_eq (n : Nat) :
    IntParts.init (n : Int) =
      .ok ⟨if n = 0 then [] else (n : Int) :: ones (n - 1), if n = 0 then 0 else 1, -2⟩ := by
  unfold IntParts.init
  cases n with
  | zero => simp
  | succ k =>
    have h0 : (((k + 1 : Nat) : Int) == 0) = false := by simp; omega
    have h1 : ¬ (((k + 1 : Nat) : Int) < 0) := by omega
    have ht : ((k + 1 : Nat) : Int).toNat = k + 1 := by omega
    have st : set ((1 : Int) :: List.replicate k 1) 0 ((k + 1 : Nat) : Int) =
        .ok (((k + 1 : Nat) : Int) :: List.replicate k 1) := by simp [set]
    simp only [h0, h1, ht, List.replicate_succ, st, Bool.false_eq_true, if_false, Outcome.bind_ok,
      Outcome.pure_eq]
    simp [ones]

theorem IntParts.rep_ones_dead (n : Nat) (s : IntParts) (h : IntParts.Rep n s (ones n)) : s.q = -1 := by
  obtain ⟨big, k, d, hx, hbig, _, _, _, hq⟩ := h
  cases big with
  | nil => simpa using hq
  | cons v big =>
    exfalso
    have hv := hbig v (by simp)
    cases n with
    | zero => simp [ones] at hx
    | succ n =>
      rw [ones_succ] at hx
      simp only [List.cons_append, List.cons.injEq] at hx
      omega

theorem IntParts.enumerates_lemma (n : Int) (hn : 0 ≤ n) :
    ∃ s0, IntParts.init n = .ok s0 ∧ ∀ bound, (ipList n.toNat).length < bound →
      ∃ s', outputs IntParts.it bound s0 = (ipList n.toNat, s', .exhausted) ∧
        ∀ k, extras IntParts.it k s' = .ok (List.replicate k none) := by
  obtain ⟨k, rfl⟩ : ∃ k : Nat, n = (k : Int) := ⟨n.toNat, by omega⟩
  rw [Int.toNat_natCast]
  refine ⟨_, IntParts.init_eq k, fun bound hb => ?_⟩
  obtain ⟨hchain, hhead, hlast, hl⟩ := ipList_chain k
  obtain ⟨s', h1, _, h3⟩ := enumerates_succ IntParts.it id (IntParts.Rep k) (fun s => s.q = -1)
    (fun x y => ipSucc x = some y)
    (⟨if k = 0 then [] else (k : Int) :: ones (k - 1), if k = 0 then 0 else 1, -2⟩ : IntParts)
    (ipList k) hchain
    (by
      rintro s x _ hr
      refine ⟨s, ?_, hr⟩
      obtain ⟨big, j, d, _, _, ha, _, hm, _⟩ := hr
      have h1 : ¬ (s.m < 0 ∨ s.m.toNat > s.a.length) := by
        rw [hm, ha]; simp
      simp only [IntParts.it, IntParts.value, h1, if_false]
      rw [hm, ha]; simp)
    (fun hnil => absurd hnil (ipList_ne_nil _))
    (by
      intro x hx
      rw [hhead] at hx
      simp only [Option.mem_def, Option.some.injEq] at hx
      subst hx
      cases k with
      | zero =>
        refine ⟨⟨[], 0, -1⟩, by simp [IntParts.it, IntParts.next], ?_⟩
        rw [ipFill_nonpos _ _ (by simp)]
        exact ⟨[], 0, 0, rfl, by simp, rfl, rfl, rfl, rfl⟩
      | succ k =>
        rw [ipFill_small _ _ (by omega) (by omega)]
        have hne : ¬ (k + 1 = 0) := by omega
        simp only [hne, if_false]
        refine ⟨⟨((k + 1 : Nat) : Int) :: ones (k + 1 - 1), 1, if k = 0 then -1 else 0⟩, ?_, ?_⟩
        · simp only [IntParts.it, IntParts.next]
          simp [get]
          split <;> split <;> omega
        · cases k with
          | zero => exact ⟨[], 1, 0, rfl, by simp, rfl, rfl, rfl, rfl⟩
          | succ k =>
            refine ⟨[((k + 1 + 1 : Nat) : Int)], 0, k + 1, rfl, ?_, ?_, by simp; omega, rfl, ?_⟩
            · intro v hv; simp at hv; omega
            · simp [ones]
            · simp)
    (fun x hx y _ hxy s hs => IntParts.next_step k x y hx hxy s hs)
    (by
      intro x hx s hs
      rw [hlast] at hx
      simp only [Option.mem_def, Option.some.injEq] at hx
      subst hx
      exact IntParts.next_dead s (IntParts.rep_ones_dead k s hs))
    (fun s hs => IntParts.next_dead s hs) bound hb
  rw [List.map_id] at h1
  exact ⟨s', h1, h3⟩

theorem isIPFrom_iff : ∀ (x : List Int) (mx : Int), IsIPFrom mx x ↔
    (∀ v ∈ x, 1 ≤ v ∧ v ≤ mx) ∧ x.Pairwise (· ≥ ·) := by
  intro x
  induction x with
  | nil => intro mx; simp [IsIPFrom]
  | cons u x ih =>
    intro mx
    simp only [IsIPFrom, ih, List.mem_cons, forall_eq_or_imp, List.pairwise_cons]
    constructor
    · rintro ⟨h1, h2, h3, h4⟩
      exact ⟨⟨⟨h1, h2⟩, fun w hw => ⟨(h3 w hw).1, by have := (h3 w hw).2; omega⟩⟩,
        fun w hw => (h3 w hw).2, h4⟩
    · rintro ⟨⟨⟨h1, h2⟩, h3⟩, h4, h5⟩
      exact ⟨h1, h2, fun w hw => ⟨(h3 w hw).1, h4 w hw⟩, h5⟩

theorem le_sum_of_pos : ∀ (x : List Int), (∀ v ∈ x, 1 ≤ v) → ∀ v ∈ x, v ≤ x.sum := by
  intro x
  induction x with
  | nil => intro _ v hv; simp at hv
  | cons u x ih =>
    intro h v hv
    have hx : ∀ w ∈ x, 1 ≤ w := fun w hw => h w (by simp [hw])
    have hs := length_le_sum x hx
    simp only [List.sum_cons]
    simp only [List.mem_cons] at hv
    rcases hv with rfl | hv
    · omega
    · have := ih hx v hv
      have := h u (by simp)
      omega

theorem mem_ipList_iff (n : Nat) (x : List Int) :
    x ∈ ipList n ↔ x.Pairwise (· ≥ ·) ∧ (∀ v ∈ x, 1 ≤ v) ∧ x.sum = n := by
  rw [mem_ipList, isIPFrom_iff]
  constructor
  · rintro ⟨⟨h1, h2⟩, h3⟩
    exact ⟨h2, fun v hv => (h1 v hv).1, h3⟩
  · rintro ⟨h1, h2, h3⟩
    exact ⟨⟨fun v hv => ⟨h2 v hv, by have := le_sum_of_pos x h2 v hv; omega⟩, h1⟩, h3⟩

end Iter
