import Mathlib.Data.Nat.Choose.Basic
import Mamba.Lemmas.BridgeSpec
import Mamba.Lemmas.ListAux
import Mathlib.Data.List.Perm.Subperm
/-! Termination of `run`: the invariant `TInv` of configurations is kept by every transition (`Trans.tinv`), every
transition lowers the potential `Phi` (`Trans.phi_lt`), and under `TInv` nothing panics (`TInv.progress`). -/
namespace Search
open Disjoint GSearch GraphSpec

theorem choose_eq : ∀ n k, choose n k = Nat.choose n k
  | _, 0 => by simp [choose]
  | 0, k + 1 => by simp [choose]
  | n + 1, k + 1 => by simp only [choose, choose_eq n k, choose_eq n (k + 1), Nat.choose_succ_succ]

theorem choose_cap {nv n : Nat} (h : nv ≤ n) (k : Nat) : choose nv k ≤ choose n (n / 2) := by
  rw [choose_eq, choose_eq]
  exact Nat.le_trans (Nat.choose_le_choose k h) (Nat.choose_le_middle k n)

variable {O : Oracle} {n : Nat}

theorem addAugmentations_total (hO : OracleSpec O n) {g : DG} (hb : Built g) (hlt : g.nv < n) {c : Option Ans}
    (hc : c = none ∨ ∃ P x, Built P ∧ InRange P x ∧ AccK O n P x g c) (base : Array Nat) :
    ∃ new c', addAugmentations O n g base c = .ok (base ++ new, c', new.size) := by
  obtain ⟨md, blocks, c', -, -, hall⟩ := addAugmentations_spec hO hb hlt hc
  rcases hall base with h | ⟨-, k, hk⟩
  · exact ⟨_, c', by rw [h, List.size_toArray]⟩
  · exact absurd hk (Nat.not_lt.2 (choose_cap (Nat.le_of_lt hlt) k))

theorem lt_two_pow_of_inRange {P : DG} {x : Nat} (h : InRange P x) : x < 2 ^ P.nv := by
  apply Nat.lt_pow_two_of_testBit
  intro i hi
  by_contra hc
  have : x.testBit i = true := by simpa using hc
  have := h i (mem_bitsOf.2 this)
  omega

theorem aug_size_le (hO : OracleSpec O n) {g : DG} {c c' : Option Ans} {new : Array Nat} {num : Nat}
    (hb : Built g) (hlt : g.nv < n) (hc : c = none ∨ ∃ P x, Built P ∧ InRange P x ∧ AccK O n P x g c)
    (haug : addAugmentations O n g #[] c = .ok (new, c', num)) : new.size ≤ 2 ^ g.nv := by
  have hr := aug_range_of_oracle hO hb hlt hc haug
  have hd := aug_distinct_of_oracle hO hb hlt hc haug
  have hnd : new.toList.Nodup := by
    refine hd.imp ?_
    intro a b hab e
    exact hab (e ▸ ExtEquiv.refl g _)
  have := hnd.length_le_of_lt (fun x hx => lt_two_pow_of_inRange (hr x hx))
  simpa using this

theorem built_removeLast {g : DG} (hb : Built g) (h2 : 2 ≤ g.nv) :
    ∃ P, g.removeLast = .ok P ∧ Built P ∧ P.nv + 1 = g.nv := by
  cases hb with
  | one => exact absurd h2 (by decide)
  | add hb' hnd hr ha =>
    exact ⟨_, removeLast_addVertex hb'.sized hnd ha, hb', (addVertex_nv ha).symm⟩

/-- the stack of choices is cut into frames by the counts `cps` (top first); the choices of the frame whose parent has
`lvl` vertices only mention vertices `< lvl` -/
def SegT : List Nat → List Nat → Prop
  | [], chs => chs = []
  | k :: rest, chs => k ≤ chs.length ∧ (∀ x ∈ chs.take k, ∀ v ∈ bitsOf x, v < rest.length + 1) ∧ SegT rest (chs.drop k)

theorem SegT.pop {i : Nat} {rest : List Nat} {x : Nat} {chs : List Nat} (h : SegT ((i + 1) :: rest) (x :: chs)) :
    SegT (i :: rest) chs ∧ ∀ v ∈ bitsOf x, v < rest.length + 1 := by
  obtain ⟨h1, h2, h3⟩ := h
  simp only [List.take_succ_cons, List.drop_succ_cons, List.length_cons] at h1 h2 h3
  exact ⟨⟨by omega, fun y hy => h2 y (List.mem_cons_of_mem _ hy), h3⟩, h2 x (List.mem_cons_self)⟩

theorem SegT.zero {rest chs : List Nat} (h : SegT (0 :: rest) chs) : SegT rest chs := by
  simpa using h.2.2

theorem SegT.ne_nil {i : Nat} {rest chs : List Nat} (h : SegT ((i + 1) :: rest) chs) : chs ≠ [] := by
  intro e; subst e; have := h.1; simp at this

theorem SegT.push {cps chs new : List Nat} (h : SegT cps chs) (hn : ∀ x ∈ new, ∀ v ∈ bitsOf x, v < cps.length + 1) :
    SegT (new.length :: cps) (new ++ chs) := by
  refine ⟨by simp, ?_, ?_⟩
  · simpa using hn
  · simpa using h

/-- weight of one pending child of a graph with `v` vertices: bounds the number of steps of `run` spent below it -/
def Wt (n v : Nat) : Nat := (2 ^ n + 5) ^ (n - v)

theorem Wt_step {v : Nat} (h : v < n) : 2 ^ n * Wt n (v + 1) + 5 ≤ Wt n v := by
  unfold Wt
  have : n - v = (n - (v + 1)) + 1 := by omega
  rw [this, Nat.pow_succ]
  generalize 2 ^ n = B
  have hp : 1 ≤ (B + 5) ^ (n - (v + 1)) := Nat.one_le_pow _ _ (Nat.succ_le_of_lt (by omega))
  generalize (B + 5) ^ (n - (v + 1)) = X at hp ⊢
  rw [Nat.mul_add, Nat.mul_comm X B]
  omega

theorem Wt_six {v : Nat} (h : v < n) : 6 ≤ Wt n v := by
  have h1 := Wt_step h
  have h2 : 1 ≤ 2 ^ n * Wt n (v + 1) :=
    Nat.mul_pos (Nat.pow_pos (by decide)) (show 0 < (2 ^ n + 5) ^ (n - (v + 1)) from Nat.pow_pos (Nat.succ_pos _))
  omega

def SumW (n : Nat) : List Nat → Nat
  | [] => 0
  | k :: rest => k * Wt n (rest.length + 1) + SumW n rest

def cpsOf : Mode → State → List Nat
  | .inner _ i, s => i :: (topList s.currentPath).tail
  | _, s => topList s.currentPath

def Phi (n : Nat) : Mode → State → Nat
  | .inner _ i, s => SumW n (i :: (topList s.currentPath).tail) + 2 * s.currentPath.size
  | .step _, s => SumW n (topList s.currentPath) + 2 * s.currentPath.size + 1
  | .outer true _, s => SumW n (topList s.currentPath) + 2 * s.currentPath.size + 2
  | .outer false _, s => SumW n (topList s.currentPath) + 2 * s.currentPath.size + Wt n s.currentPath.size - 1

theorem Phi_next_child (n : Nat) {sf sf' : Bool} {i : Nat} {s s' : State} (hcp : s'.currentPath = s.currentPath) :
    Phi n (.inner sf' i) s' < Phi n (.inner sf (i + 1)) s := by
  have hW : 1 ≤ Wt n ((topList s.currentPath).tail.length + 1) := Nat.pow_pos (Nat.succ_pos _)
  simp only [Phi, SumW, hcp, Nat.add_mul, Nat.one_mul]
  omega

theorem Phi_push (n : Nat) {sf : Bool} {s s' : State} {k : Nat} (hcp : s'.currentPath = s.currentPath.push k)
    (hk : k ≤ 2 ^ n) (hv : s.currentPath.size < n) : Phi n (.step true) s' < Phi n (.outer false sf) s := by
  have hW := Wt_step hv
  have : k * Wt n (s.currentPath.size + 1) ≤ 2 ^ n * Wt n (s.currentPath.size + 1) := Nat.mul_le_mul_right _ hk
  simp only [Phi, hcp, topList_push, SumW, Array.size_push, topList_length]
  omega

theorem Phi_back (n : Nat) {sf : Bool} {s s' : State} (hcp : s'.currentPath = s.currentPath.pop)
    (hpos : 1 ≤ s.currentPath.size) : Phi n (.step false) s' < Phi n (.inner sf 0) s := by
  simp only [Phi, hcp, topList_pop, Array.size_pop, SumW, Nat.zero_mul, Nat.zero_add]
  omega

theorem Phi_accept (n : Nat) {sf sf' : Bool} {i : Nat} {s s' : State} (hpos : s.currentPath.size ≠ 0)
    (hcp : s'.currentPath = s.currentPath.setIfInBounds (s.currentPath.size - 1) i) :
    Phi n (.outer false sf') s' < Phi n (.inner sf (i + 1)) s := by
  have hlen : (topList s.currentPath).tail.length + 1 = s.currentPath.size := by
    rw [List.length_tail, topList_length]; omega
  have hW : 1 ≤ Wt n s.currentPath.size := Nat.pow_pos (Nat.succ_pos _)
  simp only [Phi, SumW, hcp, topList_set_last _ _ hpos, Array.size_setIfInBounds, hlen, Nat.add_mul, Nat.one_mul]
  omega

def Mode.fresh : Mode → Bool
  | .outer false _ => true
  | _ => false

def Mode.isInner : Mode → Bool
  | .inner _ _ => true
  | _ => false

structure TInv (O : Oracle) (n : Nat) (mode : Mode) (s : State) : Prop where
  hn : s.n = n
  hm : 0 < s.m
  hL : s.currentPath.size + 1 ≤ n
  built : Built s.g
  nv : s.g.nv = s.currentPath.size + (if mode.eff then 0 else 1)
  seg : SegT (cpsOf mode s) (topList s.choices)
  cache : mode.fresh = true → s.cache = none ∨ ∃ P x, Built P ∧ InRange P x ∧ AccK O n P x s.g s.cache
  pos : mode.isInner = true → 1 ≤ s.currentPath.size

theorem parent_exists {g : DG} {sf : Bool} {k : Nat} (hb : Built g) (hnv : g.nv = k + (if sf then 0 else 1)) (hpos : 1 ≤ k) :
    ∃ P, parentOf g sf = .ok P := by
  cases sf with
  | true => exact ⟨g, rfl⟩
  | false =>
    simp only [Bool.false_eq_true, if_false] at hnv
    obtain ⟨P, hP, -, -⟩ := built_removeLast hb (by omega)
    exact ⟨P, hP⟩

variable {pre pr : DG → Bool}

theorem parent_built {g P : DG} {sf : Bool} (hb : Built g) (hp : parentOf g sf = .ok P) (h2 : sf = false → 2 ≤ g.nv) :
    Built P := by
  cases sf with
  | true => cases hp; exact hb
  | false =>
    obtain ⟨P', hP', hbP, -⟩ := built_removeLast hb (h2 rfl)
    have : g.removeLast = .ok P := hp
    rw [hP'] at this
    cases this
    exact hbP

theorem TInv.parent {sf : Bool} {i : Nat} {s : State} {P : DG} (hi : TInv O n (.inner sf i) s)
    (hp : parentOf s.g sf = .ok P) : Built P ∧ P.nv = s.currentPath.size :=
  ⟨parent_built hi.built hp fun hf => by
      have h1 := hi.nv; have h2 := hi.pos rfl; rw [hf] at h1; simp only [Mode.eff, Bool.false_eq_true, if_false] at h1; omega,
    parentOf_nv hp hi.nv⟩

theorem TInv.child {sf : Bool} {i x : Nat} {s : State} {P : DG} (hi : TInv O n (.inner sf (i + 1)) s)
    (hb : s.choices.back? = some x) (hp : parentOf s.g sf = .ok P) :
    InRange P x ∧ SegT (i :: (topList s.currentPath).tail) (topList s.choices.pop) := by
  have hpos := hi.pos rfl
  have hseg : SegT ((i + 1) :: (topList s.currentPath).tail) (topList s.choices) := hi.seg
  rw [topList_of_back? hb] at hseg
  obtain ⟨hseg0, hx⟩ := hseg.pop
  have hlen : (topList s.currentPath).tail.length + 1 = s.currentPath.size := by
    rw [List.length_tail, topList_length]; omega
  exact ⟨fun v hv => by rw [(hi.parent hp).2, ← hlen]; exact hx v hv, by simpa only [topList_pop] using hseg0⟩

theorem TInv.pushed (hO : OracleSpec O n) {sf : Bool} {s : State} (hi : TInv O n (.outer false sf) s)
    (hne : s.g.nv ≠ s.n) {ch : Array Nat} {cache : Option Ans} {num : Nat}
    (haug : addAugmentations O s.n s.g s.choices s.cache = .ok (ch, cache, num)) :
    s.currentPath.size + 2 ≤ n ∧ ∃ new : Array Nat, ch = s.choices ++ new ∧ num = new.size ∧ new.size ≤ 2 ^ n ∧
      ∀ x ∈ new.toList, ∀ v ∈ bitsOf x, v < s.currentPath.size + 1 := by
  have hnv : s.g.nv = s.currentPath.size + 1 := hi.nv
  have hlt : s.g.nv < n := by have := hi.hL; have := hi.hn; omega
  rw [hi.hn] at haug
  obtain ⟨new, h1, h2, hall⟩ := addAugmentations_append O n s.g s.cache s.choices haug
  have hE := hall #[]
  rw [Array.empty_append] at hE
  exact ⟨by omega, new, h1, h2,
    Nat.le_trans (aug_size_le hO hi.built hlt (hi.cache rfl) hE) (Nat.pow_le_pow_right (by decide) (Nat.le_of_lt hlt)),
    fun x hx v hv => hnv ▸ aug_range_of_oracle hO hi.built hlt (hi.cache rfl) hE x hx v hv⟩

theorem Trans.tinv (hO : OracleSpec O n) {mode mode' : Mode} {s s' : State} (h : Trans O pre pr mode s mode' s')
    (hi : TInv O n mode s) : TInv O n mode' s' := by
  cases h with
  | resume => exact ⟨hi.hn, hi.hm, hi.hL, hi.built, hi.nv, hi.seg, fun h => Bool.noConfusion h, fun h => Bool.noConfusion h⟩
  | push hne haug =>
    obtain ⟨hL, new, rfl, rfl, -, hr⟩ := hi.pushed hO hne haug
    refine ⟨hi.hn, hi.hm, by simp only [Array.size_push]; omega, hi.built,
      by simp only [Mode.eff, if_true, Array.size_push]; exact hi.nv, ?_, fun h => Bool.noConfusion h, fun h => Bool.noConfusion h⟩
    simp only [cpsOf, topList_push, topList_append]
    rw [← topList_length new]
    exact hi.seg.push fun x hx v hv => by
      have := hr x (by simpa [topList] using hx) v hv
      simpa only [cpsOf, topList_length] using this
  | @enter sf _ cp h0 hb =>
    have htl := topList_of_back? hb
    refine ⟨hi.hn, hi.hm, hi.hL, hi.built, hi.nv, ?_, fun h => Bool.noConfusion h, fun _ => ?_⟩
    · have := hi.seg; simp only [cpsOf] at this ⊢; rwa [htl] at this
    · have := topList_length s.currentPath; rw [htl] at this; simp at this; omega
  | back hp hcp0 =>
    have hpos := hi.pos rfl
    obtain ⟨hbP, hnv⟩ := hi.parent hp
    refine ⟨hi.hn, hi.hm, by simp only [Array.size_pop]; have := hi.hL; omega, hbP,
      by simp only [Mode.eff, Bool.false_eq_true, if_false, Array.size_pop, hnv]; omega, ?_,
      fun h => Bool.noConfusion h, fun h => Bool.noConfusion h⟩
    have hseg : SegT (0 :: (topList s.currentPath).tail) (topList s.choices) := hi.seg
    simp only [cpsOf, topList_pop]; exact hseg.zero
  | skip hb _ _ =>
    have hseg : SegT (_ :: (topList s.currentPath).tail) (topList s.choices) := hi.seg
    rw [topList_of_back? hb] at hseg
    exact ⟨hi.hn, hi.hm, hi.hL, hi.built, hi.nv, by simpa only [cpsOf, topList_pop] using hseg.pop.1,
      fun h => Bool.noConfusion h, hi.pos⟩
  | reject hb _ _ hp hadd _ =>
    obtain ⟨hbP, hnv⟩ := hi.parent hp
    obtain ⟨hx, hseg⟩ := hi.child hb hp
    exact ⟨hi.hn, hi.hm, hi.hL, hbP.child hx hadd,
      by simp only [Mode.eff, Bool.false_eq_true, if_false, addVertex_nv hadd, hnv],
      hseg, fun h => Bool.noConfusion h, fun _ => hi.pos rfl⟩
  | @accept sf i x _ P g2 c3 canon hb _ _ hp hadd _ hcan hacc _ =>
    obtain ⟨hbP, hnv⟩ := hi.parent hp
    obtain ⟨hx, hseg⟩ := hi.child hb hp
    have hpos := hi.pos rfl
    refine ⟨hi.hn, hi.hm, by simp only [Array.size_setIfInBounds]; exact hi.hL, hbP.child hx hadd,
      by simp only [Mode.eff, Bool.false_eq_true, if_false, addVertex_nv hadd, hnv, Array.size_setIfInBounds],
      ?_, fun _ => Or.inr ⟨P, x, hbP, hx, hadd, ?_⟩, fun h => Bool.noConfusion h⟩
    · simp only [cpsOf]; rw [topList_set_last _ _ (by omega)]; exact hseg
    · rw [(Bool.and_eq_true_iff.1 hacc).1, hi.hn] at hcan
      exact hcan

theorem Trans.phi_lt (hO : OracleSpec O n) {mode mode' : Mode} {s s' : State} (h : Trans O pre pr mode s mode' s')
    (hi : TInv O n mode s) : Phi n mode' s' < Phi n mode s := by
  cases h with
  | resume => simp only [Phi]; omega
  | push hne haug =>
    obtain ⟨hL, new, rfl, rfl, hsz, -⟩ := hi.pushed hO hne haug
    exact Phi_push n rfl hsz (by omega)
  | enter h0 hb => simp only [Phi]; rw [topList_of_back? hb]; simp only [List.tail_cons]; omega
  | back _ _ => exact Phi_back n rfl (hi.pos rfl)
  | skip | reject => exact Phi_next_child n rfl
  | accept _ _ _ _ _ _ _ _ hcp0 => exact Phi_accept n hcp0 rfl

theorem TInv.progress (hO : OracleSpec O n) {mode : Mode} {s : State} (hi : TInv O n mode s) :
    (∃ r, Ret mode s r) ∨ ∃ mode' s', Trans O pre pr mode s mode' s' := by
  match mode, hi with
  | .outer true sf, _ => exact .inr ⟨_, _, .resume sf s⟩
  | .outer false sf, hi =>
    by_cases he : s.g.nv = s.n
    · exact .inl ⟨_, .yield he⟩
    · obtain ⟨new, c', h⟩ := addAugmentations_total hO hi.built
        (by have : s.g.nv = s.currentPath.size + 1 := hi.nv; have := hi.hL; have := hi.hn; omega) (hi.cache rfl) s.choices
      exact .inr ⟨_, _, .push he (hi.hn.symm ▸ h)⟩
  | .step sf, hi =>
    by_cases hz : s.choices.size = 0
    · exact .inl ⟨_, .done hz⟩
    · have hseg : SegT (topList s.currentPath) (topList s.choices) := hi.seg
      cases hcp : topList s.currentPath with
      | nil => rw [hcp] at hseg; exact absurd ((topList_eq_nil _).1 hseg) hz
      | cons cp rest => exact .inr ⟨_, _, .enter hz (by rw [back?_eq_head?, hcp]; rfl)⟩
  | .inner sf 0, hi =>
    have hpos := hi.pos rfl
    obtain ⟨P, hp⟩ := parent_exists hi.built hi.nv hpos
    exact .inr ⟨_, _, .back hp (by omega)⟩
  | .inner sf (i + 1), hi =>
    have hpos := hi.pos rfl
    have hseg : SegT ((i + 1) :: (topList s.currentPath).tail) (topList s.choices) := hi.seg
    cases hch : topList s.choices with
    | nil => exact absurd hch hseg.ne_nil
    | cons x chs =>
      have hb : s.choices.back? = some x := by rw [back?_eq_head?, hch]; rfl
      have hm : s.m ≠ 0 := Nat.pos_iff_ne_zero.1 hi.hm
      by_cases hskip : (i % s.m != s.a && ((s.currentPath.size : Nat) : Int) == splitLevel s.n) = true
      · exact .inr ⟨_, _, .skip hb hm hskip⟩
      have hskip := eq_false_of_ne_true hskip
      obtain ⟨P, hp⟩ := parent_exists hi.built hi.nv hpos
      obtain ⟨hbP, hnv⟩ := hi.parent hp
      obtain ⟨hx, -⟩ := hi.child hb hp
      obtain ⟨g2, hg2⟩ := addVertex_ok hbP.sized hx
      by_cases hpre : pre g2 = true
      · exact .inr ⟨_, _, .reject hb hm hskip hp hg2 (.inl ⟨hpre, rfl⟩)⟩
      have hpre := eq_false_of_ne_true hpre
      obtain ⟨-, c, b, -, hcan, -⟩ := isCanonical_child hO hbP (by rw [hnv]; exact hi.hL) hx hg2
      rw [← hi.hn] at hcan
      by_cases hacc : (b && !pr g2) = true
      · exact .inr ⟨_, _, .accept hb hm hskip hp hg2 hpre hcan hacc (Nat.pos_iff_ne_zero.1 hpos)⟩
      · exact .inr ⟨_, _, .reject hb hm hskip hp hg2 (.inr ⟨hpre, b, hcan, eq_false_of_ne_true hacc⟩)⟩

theorem TInv.ret {mode : Mode} {s : State} {r : State × Bool} (hi : TInv O n mode s) (hr : Ret mode s r) :
    (r.2 = true → TInv O n (.outer true false) r.1 ∧ Phi n (.outer true false) r.1 < Phi n mode s) ∧
      (r.2 = false → r.1.choices.size = 0) := by
  cases hr with
  | yield he =>
    have hW := Wt_six (n := n) (v := s.currentPath.size) (by have := hi.hL; omega)
    exact ⟨fun _ => ⟨⟨hi.hn, hi.hm, hi.hL, hi.built, hi.nv, hi.seg, fun h => Bool.noConfusion h,
      fun h => Bool.noConfusion h⟩, by simp only [Phi]; omega⟩, fun h => Bool.noConfusion h⟩
  | done hz => exact ⟨fun h => Bool.noConfusion h, fun _ => hz⟩

theorem run_post (hO : OracleSpec O n) (pre pr : DG → Bool) {fuel : Nat} {mode : Mode} {s s' : State} {b : Bool}
    (hi : TInv O n mode s) (h : run O pre pr fuel mode s = .ok (s', b)) :
    (b = true → TInv O n (.outer true false) s' ∧ Phi n (.outer true false) s' < Phi n mode s) ∧
    (b = false → s'.choices.size = 0) :=
  run_rec (I := TInv O n)
    (C := fun mode s r => (r.2 = true → TInv O n (.outer true false) r.1 ∧ Phi n (.outer true false) r.1 < Phi n mode s) ∧
      (r.2 = false → r.1.choices.size = 0))
    (fun hr hi => hi.ret hr)
    (fun _ ht hi => ⟨ht.tinv hO hi, fun hc => ⟨fun hb => ⟨(hc.1 hb).1, Nat.lt_trans (hc.1 hb).2 (ht.phi_lt hO hi)⟩, hc.2⟩⟩)
    fuel mode s _ h hi

theorem run_total (hO : OracleSpec O n) (pre pr : DG → Bool) (N : Nat) :
    ∀ (mode : Mode) (s : State), TInv O n mode s → Phi n mode s < N → ∃ r, run O pre pr N mode s = .ok r := by
  induction N with
  | zero => intro _ _ _ h; exact absurd h (Nat.not_lt_zero _)
  | succ N ih =>
    intro mode s hi hN
    rcases hi.progress (pre := pre) (pr := pr) hO with ⟨r, hr⟩ | ⟨mode', s', ht⟩
    · exact ⟨r, hr.run_eq N⟩
    · obtain ⟨r, h⟩ := ih mode' s' (ht.tinv hO hi) (by have := ht.phi_lt hO hi; omega)
      exact ⟨r, (ht.run_eq N).trans h⟩

end Search
