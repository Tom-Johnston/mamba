import Mamba.Model.IterComb
/-! Specification of `MultisetCombinations` (family, known-bad shapes of finding F1) and an executable check used by
the bounded tests in `Props/C15.lean`. -/
namespace Iter.Spec

/-- the family of `MultisetCombinations(m, k)` as count vectors: `0 ≤ v[i] ≤ m[i]`, `∑ v = k` -/
def msFamily : List Int → Int → List (List Int)
  | [], k => if k = 0 then [[]] else []
  | m :: ms, k => (List.range (m.toNat + 1)).flatMap (fun (c : Nat) => (msFamily ms (k - c)).map (fun v => (c : Int) :: v))

/-- the shapes of `m` on which Algorithm Q as coded (the inner `next()`) misses members or panics (finding F1): a zero
multiplicity at index 0, or `m[0] = 1 ∧ m[1] = 0`, followed by a positive multiplicity; `MultisetCombinations` hands
`next()` the positive multiplicities only, so it never meets them -/
def msKnownBad : List Int → Bool
  | 0 :: rest => rest.any (· > 0)
  | 1 :: 0 :: rest => rest.any (· > 0)
  | _ => false

/-- executable check used by the bounded tests: the run ends by exhaustion, yields no vector twice, as many vectors as
the family has, and every member of the family -/
def msCheck (m : List Int) (k : Int) : Bool :=
  let r := outputs MSComb.it 100000 (MSComb.init m k)
  let outs : List (List Int) := r.1.map (fun p => p.1)
  decide (r.2.2 = .exhausted) && decide outs.Nodup && decide (outs.length = (msFamily m k).length) &&
    (msFamily m k).all (fun v => outs.contains v) &&
    r.1.all (fun p => p.2 == (p.1.zipIdx.flatMap (fun (c, i) => List.replicate c.toNat (i : Int))))

def vectors (mx : Nat) : Nat → List (List Int)
  | 0 => [[]]
  | l + 1 => (List.range (mx + 1)).flatMap (fun (c : Nat) => (vectors mx l).map (fun v => (c : Int) :: v))

end Iter.Spec
