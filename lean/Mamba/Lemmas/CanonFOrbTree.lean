import Mamba.Lemmas.CanonFOrbDef
/-!
# Orbit completeness below the frames: `ACov` through the unpruned tree, the relation `ORel`, the "worse" test

`ACov lF certF R ν`: every leaf below `ν` with the certificate `certF` is position-wise `R`-related to `lF`. It unfolds
along the tree and transfers along a colour-preserving automorphism that relates every vertex to its image, which makes it
`Heritable` (`CanonFHeritable.lean`: how pop, Heuristic 1 and Heuristic 2 use it); a covered root forces every
colour-preserving automorphism into `R` (`acov_root_aut`). In the invariant `R` is `ORel s` (same class of
`firstLeafOrbits`), which the orbit loop against a stored leaf only enlarges, merging position-wise (`orel_orbitLoop`). A
subtree pruned by the "worse" test has no leaf with the certificate of the first leaf, so it is covered vacuously
(`worse_acov`; cf. `worse_complete`, `CanonFPruneSound.lean`).
-/
namespace CanonF
open Relation

section
variable {n : Nat} {nb : Nbrs} {rf : Nat}

theorem ACov.mono {lF : Array Nat} {certF : List Nat} {R R' : Nat → Nat → Prop} {ν : IR.St}
    (h : ACov n nb rf lF certF R ν) (hR : ∀ u v, u < n → v < n → R u v → R' u v) : ACov n nb rf lF certF R' ν :=
  fun vs hp ht hc u v hu hv e => hR u v hu hv (h vs hp ht hc u v hu hv e)

theorem acov_leaf {lF : Array Nat} {certF : List Nat} {R : Nat → Nat → Prop} {ν : IR.St}
    (ht : IR.target (irG n nb) ν = none)
    (h : IR.cert (irG n nb) ν.c = certF → ∀ u v, u < n → v < n → IR.col lF u = IR.col ν.c v → R u v) :
    ACov n nb rf lF certF R ν := by
  intro vs hp _ hc
  cases vs with
  | nil => exact h hc
  | cons x xs =>
    obtain ⟨t, ht', _⟩ := hp
    rw [ht] at ht'
    cases ht'

theorem acov_of_children {lF : Array Nat} {certF : List Nat} {R : Nat → Nat → Prop} {ν : IR.St} {t : Nat}
    (ht : IR.target (irG n nb) ν = some t)
    (h : ∀ w, w ∈ IR.cellMembers (irG n nb) ν.c t → ACov n nb rf lF certF R (IR.childSt (irG n nb) rf ν t w)) :
    ACov n nb rf lF certF R ν := by
  intro vs hp hn hc
  cases vs with
  | nil =>
    simp only [IR.nodeAt] at hn
    rw [ht] at hn
    cases hn
  | cons x xs =>
    obtain ⟨t', ht', hx, hp'⟩ := hp
    rw [ht] at ht'
    cases ht'
    simp only [IR.nodeAt, ht] at hn hc ⊢
    exact h x hx xs hp' hn hc

theorem acov_child {lF : Array Nat} {certF : List Nat} {R : Nat → Nat → Prop} {ν : IR.St} {t w : Nat}
    (ht : IR.target (irG n nb) ν = some t) (hw : w ∈ IR.cellMembers (irG n nb) ν.c t)
    (h : ACov n nb rf lF certF R ν) : ACov n nb rf lF certF R (IR.childSt (irG n nb) rf ν t w) := by
  intro vs hp hn hc
  have e : IR.nodeAt (irG n nb) rf ν (w :: vs) = IR.nodeAt (irG n nb) rf (IR.childSt (irG n nb) rf ν t w) vs := by
    simp only [IR.nodeAt, ht]
  have := h (w :: vs) ⟨t, ht, hw, hp⟩ (by rw [e]; exact hn) (by rw [e]; exact hc)
  rw [e] at this
  exact this

theorem acov_transfer_rel {lF : Array Nat} {certF : List Nat} {R : Nat → Nat → Prop} {ν : IR.St}
    (htr : ∀ u v w, u < n → v < n → w < n → R u v → R v w → R u w)
    {σ τ : Nat → Nat} (Rl : IR.Relabel (irG n nb) (irG n nb) σ τ) (hS : IR.SRel (irG n nb) σ ν ν)
    (hRσ : ∀ x, x < n → R x (σ x)) {t a : Nat} (ha : a < n)
    (h : ACov n nb rf lF certF R (IR.childSt (irG n nb) rf ν t a)) :
    ACov n nb rf lF certF R (IR.childSt (irG n nb) rf ν t (σ a)) := by
  intro vs hp hn hc u v hu hv e
  have hSτ : IR.SRel (irG n nb) τ ν ν := IR.SRel.symm_aut Rl hS
  have hσa : σ a < n := Rl.σ_lt a ha
  have hrel := IR.childSt_rel Rl.symm rf hSτ t (v := σ a) hσa
  rw [Rl.left a ha] at hrel
  obtain ⟨h1, h2⟩ := IR.path_rel Rl.symm rf vs hrel hp
  have hτv : τ v < n := Rl.τ_lt v hv
  have hcol := h2.1 v hv
  have := h (vs.map τ) h1 (by rw [IR.target_rel Rl.symm h2]; exact hn) (by rw [IR.cert_rel Rl.symm h2.1]; exact hc)
    u (τ v) hu hτv (by rw [hcol]; exact e)
  have h3 := hRσ (τ v) hτv
  rw [Rl.right v hv] at h3
  exact htr u (τ v) v hu hτv hv this h3

theorem acov_transfer_iff (hnb : NbOK nb n) {lF : Array Nat} {certF : List Nat} {R : Nat → Nat → Prop} {ν : IR.St}
    (hsym : ∀ u v, u < n → v < n → R u v → R v u)
    (htr : ∀ u v w, u < n → v < n → w < n → R u v → R v w → R u w)
    {γ : List Nat} (hγ : IsAutL nb n γ) (hcol : ∀ v, v < n → IR.col ν.c (γ.getD v 0) = IR.col ν.c v)
    (hRγ : ∀ x, x < n → R x (γ.getD x 0)) {t a : Nat} (ha : a < n) :
    ACov n nb rf lF certF R (IR.childSt (irG n nb) rf ν t a) ↔
      ACov n nb rf lF certF R (IR.childSt (irG n nb) rf ν t (γ.getD a 0)) := by
  obtain ⟨τ, Rl⟩ := relabel_of_isAutL hnb hγ
  have hS : IR.SRel (irG n nb) (fun v => γ.getD v 0) ν ν := ⟨fun u hu => hcol u hu, rfl, rfl⟩
  constructor
  · exact acov_transfer_rel htr Rl hS hRγ ha
  · intro h
    have hRτ : ∀ x, x < n → R x (τ x) := by
      intro x hx
      have hτx : τ x < n := Rl.τ_lt x hx
      have := hRγ (τ x) hτx
      have e : γ.getD (τ x) 0 = x := Rl.right x hx
      rw [e] at this
      exact hsym (τ x) x hτx hx this
    have := acov_transfer_rel (t := t) htr Rl.symm (IR.SRel.symm_aut Rl hS) hRτ (Rl.σ_lt a ha) h
    have e : τ (γ.getD a 0) = a := Rl.left a ha
    rw [e] at this
    exact this

theorem acov_heritable (hnb : NbOK nb n) {lF : Array Nat} {certF : List Nat} {R : Nat → Nat → Prop}
    (hsym : ∀ u v, u < n → v < n → R u v → R v u)
    (htr : ∀ u v w, u < n → v < n → w < n → R u v → R v w → R u w) :
    Heritable n nb rf (ACov n nb rf lF certF R) (fun γ => ∀ x, x < n → R x (γ.getD x 0)) where
  of_children := fun ht h => acov_of_children ht h
  transfer := fun haut hcol hR ha => acov_transfer_iff hnb hsym htr haut hcol hR ha

theorem acov_heritable_rep (hnb : NbOK nb n) (lF : Array Nat) (certF : List Nat) (ds : Disjoint.DS) :
    Heritable n nb rf (ACov n nb rf lF certF (fun a b => Disjoint.rep ds a = Disjoint.rep ds b))
      (fun γ => ∀ x, x < n → Disjoint.rep ds x = Disjoint.rep ds (γ.getD x 0)) :=
  acov_heritable hnb (fun _ _ _ _ h => h.symm) (fun _ _ _ _ _ _ h h' => h.trans h')

theorem acov_root_aut {r : IR.St} (hnb : NbOK nb n) {R : Nat → Nat → Prop} {vsF oF : List Nat}
    (hp : IR.IsPath (irG n nb) rf r vsF) (ht : IR.target (irG n nb) (IR.nodeAt (irG n nb) rf r vsF) = none)
    (hc : (IR.nodeAt (irG n nb) rf r vsF).c = IR.tab n (fun v => oF.idxOf v)) (hoF : oF.Perm (List.range n))
    (h : ACov n nb rf (IR.tab n (fun v => oF.idxOf v)) (certPos nb oF n) R r)
    {γ : List Nat} (hγ : IsAutL nb n γ) (hcol : ∀ v, v < n → IR.col r.c (γ.getD v 0) = IR.col r.c v) :
    ∀ u, u < n → R u (γ.getD u 0) := by
  intro u hu
  obtain ⟨τ, Rl⟩ := relabel_of_isAutL hnb hγ
  have hS : IR.SRel (irG n nb) (fun v => γ.getD v 0) r r := ⟨fun u hu => hcol u hu, rfl, rfl⟩
  obtain ⟨h1, h2⟩ := IR.path_rel Rl rf vsF hS hp
  have hσu : γ.getD u 0 < n := Rl.σ_lt u hu
  apply h (vsF.map (fun v => γ.getD v 0)) h1 (by rw [IR.target_rel Rl h2]; exact ht)
    (by rw [IR.cert_rel Rl h2.1, hc]; exact cert_link hnb hoF) u (γ.getD u 0) hu hσu
  have := h2.1 u hu
  rw [hc] at this
  exact this.symm

end

theorem ORel.refl (s : LS) (a : Nat) : ORel s a a := rfl
theorem ORel.symm {s : LS} {a b : Nat} (h : ORel s a b) : ORel s b a := Eq.symm h
theorem ORel.trans {s : LS} {a b c : Nat} (h : ORel s a b) (h' : ORel s b c) : ORel s a c := Eq.trans h h'

/-- the step `i ↦ order[permInv[i]]` of the orbit loop, read through the stored leaf `oX`: `i` sits at position
`oX.idxOf i` of `oX` -/
theorem orel_step {n : Nat} {order permInv : Sl Nat} {oX : List Nat} (hoX : oX.Perm (List.range n)) (hX : InvOf oX permInv)
    {i p v : Nat} (hi : i < n) (hp : permInv.get i = .ok p) (hv : order.get p = .ok v) :
    p = oX.idxOf i ∧ order.toList[oX.idxOf i]? = some v := by
  have hmem : i ∈ oX := hoX.mem_iff.2 (List.mem_range.2 hi)
  have h1 := hX _ _ (getElem?_idxOf_of_mem hmem)
  have h2 := Sl.get_eq_toList.1 hp
  rw [h1] at h2
  injection h2 with h2
  subst h2
  exact ⟨rfl, Sl.get_eq_toList.1 hv⟩

theorem orel_orbitLoop {n : Nat} {order permInv : Sl Nat} {ds ds' : Disjoint.DS} {merges : Bool} {oX : List Nat}
    (hinv : Disjoint.Inv ds) (hsz : ds.size = n)
    (hord : order.toList.Perm (List.range n))
    (hoX : oX.Perm (List.range n)) (hX : InvOf oX permInv)
    (h : forRange (orbitStep order permInv) n 0 (ds, false) = .ok (ds', merges)) :
    Disjoint.Inv ds' ∧ ds'.size = n ∧
    (∀ a b, a < n → b < n → Disjoint.rep ds a = Disjoint.rep ds b → Disjoint.rep ds' a = Disjoint.rep ds' b) ∧
    (∀ u v, u < n → v < n → IR.col (IR.tab n (fun x => oX.idxOf x)) u = IR.col (IR.tab n (fun x => order.toList.idxOf x)) v →
      Disjoint.rep ds' u = Disjoint.rep ds' v) ∧
    (∀ x, x < n → Disjoint.rep ds' x = Disjoint.rep ds' ((transport n oX order.toList).getD x 0)) := by
  obtain ⟨i1, i2, i3, i4, _, _⟩ := orbitLoop_spec hinv hsz h
  refine ⟨i1, i2, i4, ?_, ?_⟩
  · intro u v hu hv hcol
    rw [IR.col_tab _ hu, IR.col_tab _ hv] at hcol
    obtain ⟨p, w, hp, hw, _, hrep⟩ := i3 u hu
    obtain ⟨_, hw'⟩ := orel_step hoX hX hu hp hw
    have hvm : v ∈ order.toList := hord.mem_iff.2 (List.mem_range.2 hv)
    have := getElem?_idxOf_of_mem hvm
    rw [← hcol, hw'] at this
    injection this with this
    rw [hrep, this]
  · intro x hx
    obtain ⟨p, w, hp, hw, _, hrep⟩ := i3 x hx
    obtain ⟨_, hw'⟩ := orel_step hoX hX hx hp hw
    rw [aut_transport_getD hx, List.getD_eq_getElem?_getD, hw']
    exact hrep

theorem orel_new {n a : Nat} (ha : a < n) : Disjoint.rep (Disjoint.new n) a = a := Disjoint.rep_new n a ha


theorem worseTest_sound_fl {nb : Nbrs} {o o' : List Nat} {s n : Nat} {value cb fl : Sl Nat}
    (hval : value.toList = certPos nb o s) (hvw : value.WF) (hs : s ≤ n) (hso : s ≤ o.length) (hso' : s ≤ o'.length)
    (hagree : ∀ p, p < s → o'[p]? = o[p]?)
    (hlen : (certPos nb o' n).length = fl.len)
    (h : worseTest value cb fl = .ok true) :
    certPos nb o' n ≠ fl.toList := by
  obtain ⟨_, _, _, _, hcmp⟩ := worseTest_true h
  obtain ⟨tail, ht, _⟩ := certPos_split nb o' s n hs
  rw [certPos_frame nb o o' s hso hso' hagree, ← hval] at ht
  have hvl : value.toList.length = value.len := Sl.length_toList _ hvw
  have hle : value.len ≤ fl.len := by
    rw [← hlen, ht, List.length_append, hvl]; omega
  intro heq
  have e : fl.toList.take value.toList.length = fl.data.toList.take value.len := by
    rw [hvl, Sl.toList, List.take_take, Nat.min_eq_left hle]
  rw [← e, ← heq, ht, List.take_left, compare_self] at hcmp
  exact hcmp rfl

theorem worse_acov {n : Nat} {nb : Nbrs} (rf : Nat) (hnb : NbOK nb n) (hsz : nb.size = n) {op : OP}
    {cb fl : Sl Nat} {χ : IR.St}
    (hp : PartInv n op) (hps : PrefixSingle op) (hvw : op.value.WF)
    (hval : op.value.toList = certPos nb op.order.toList op.spl)
    (hwt : worseTest op.value cb fl = .ok true) (hfll : fl.len = ((nb.toList.map List.length).sum) / 2)
    (hmono : IR.Mono n (colOf n op) χ.c) (hA : IR.InvA (irG n nb) χ) (hD : IR.InvD (irG n nb) χ)
    (lF : Array Nat) (R : Nat → Nat → Prop) : ACov n nb rf lF fl.toList R χ := by
  intro vs hpath htn hx
  exfalso
  obtain ⟨o', hperm, hagree, hc⟩ := leaf_below_prefix rf hnb hp hps hmono hA hD hpath htn
  have hspl : op.spl ≤ n := Nat.le_trans hps.le hp.bdLen_le
  have holen : op.order.toList.length = n := hp.length_order
  exact worseTest_sound_fl hval hvw hspl (holen.symm ▸ hspl) (by rw [hperm.length_eq, List.length_range]; exact hspl)
    hagree (by rw [certPos_length hnb hsz hperm, hfll]) hwt (hc.symm.trans hx)

theorem WorseCut.acov {n m : Nat} {nb : Nbrs} (rf : Nat) (hnb : NbOK nb n) (hsz : nb.size = n)
    (hm : m = ((nb.toList.map List.length).sum) / 2) {s : LS} {χ : IR.St} (hg : GInv n m nb s)
    (h : WorseCut n nb s χ) (lF : Array Nat) (R : Nat → Nat → Prop) : ACov n nb rf lF s.firstLeaf.toList R χ := by
  obtain ⟨op', hp, hva, hwt, hmono, hA, hD⟩ := h
  obtain ⟨f1, f2, f3⟩ := hva.facts
  exact worse_acov rf hnb hsz hp f1 f2 f3 hwt (by rw [hg.flLen.1, hm]) hmono hA hD lF R

end CanonF
