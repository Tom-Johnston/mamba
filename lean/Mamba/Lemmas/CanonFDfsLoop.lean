import Mamba.Lemmas.CanonFDfsBase
import Mamba.Lemmas.CanonFDfsIdx
/-!
# The complete DFS invariant through the transitions of `mainLoop` other than the leaf branch

One theorem per transition, each with the hypotheses that the field of `MainJX` of the same name supplies (assembled in
`dfsMainJX`, `CanonFDfsMain.lean`; the hypotheses a transition does not need stay in its statement for that reason):

* `dfs_inner_v`: the node step at an inner node, `innerNode` pushes a frame (`InnerAt`);
* `dfs_pop_v`: `stepLoop` finds every member of the top cell processed and pops the frame (`PopAt`);
* `dfs_skipA_v`, `dfs_skipB_v`: `jLoop` passes over a member by Heuristic 2, at a node on the path of the first leaf
  (`flOrbits`) or of the best leaf (`bestOrbits`; `SkipBAt`);
* `dfs_split_v`: `splitBin` individualises the next member and reports "worse" or not;
* `dfs_refine_v`: the refinement of the new child reports "worse" or not.

`InnerAt`, `PopAt`, `SkipBAt` say what the transition means for the top frame. They are stated once for the three layers
of invariants over the search (this one, `CanonFOrb*.lean`, `CanonFGen*.lean`).
-/
namespace CanonF

theorem IsBinAt_size_unique {a : Int} {op : OP} {st sz sz' : Nat} (h : IsBinAt a op st sz) (h' : IsBinAt a op st sz')
    (hsz : 2 ≤ sz) (hsz' : 2 ≤ sz') : sz = sz' := by
  rcases Nat.lt_trichotomy sz sz' with hlt | heq | hgt
  · exact absurd ⟨by omega, by omega⟩ (h'.2.2.1 _ h.2.1)
  · exact heq
  · exact absurd ⟨by omega, by omega⟩ (h.2.2.1 _ h'.2.1)

theorem LevelsOK_unique {op : OP} : ∀ (path choices : List Nat) (lv lv' : List (Nat × Nat)),
    LevelsOK op path choices lv → LevelsOK op path choices lv' → lv = lv' := by
  intro path
  induction path with
  | nil =>
    intro choices lv lv' h h'
    cases choices <;> cases lv <;> cases lv' <;> simp_all [LevelsOK]
  | cons p ps ih =>
    intro choices lv lv' h h'
    cases choices with
    | nil => simp [LevelsOK] at h
    | cons c cs =>
      cases lv with
      | nil => simp [LevelsOK] at h
      | cons x ls =>
        cases lv' with
        | nil => simp [LevelsOK] at h'
        | cons x' ls' =>
          obtain ⟨st, sz⟩ := x
          obtain ⟨st', sz'⟩ := x'
          simp only [LevelsOK] at h h'
          obtain ⟨a1, a2, a3, -, a5⟩ := h
          obtain ⟨b1, b2, b3, -, b5⟩ := h'
          have e : st = st' := by omega
          subst e
          have e2 := IsBinAt_size_unique a1 b1 a2 b2
          subst e2
          rw [ih cs ls ls' a5 b5]

theorem TopOK_unique {op : OP} {k : Nat} {path choices : List Nat} {lv lv' : List (Nat × Nat)}
    (h : TopOK op k path choices lv) (h' : TopOK op k path choices lv') : lv = lv' := by
  match path, choices, lv, lv', h, h' with
  | _ :: ps, c :: cs, (st, sz) :: ls, (st', sz') :: ls', h, h' =>
    simp only [TopOK] at h h'
    obtain ⟨a1, a2, a3, -, a5⟩ := h
    obtain ⟨b1, b2, b3, -, b5⟩ := h'
    have e : st = st' := by omega
    subst e
    have e2 := IsBinAt_size_unique a1 b1 a2 b2
    subst e2
    rw [LevelsOK_unique ps cs ls ls' a5 b5]

/-- An inner node: `innerNode` pushes the frame of the target cell `st` (size `sz`) of the current node, with nothing
processed (`choices` entry `st + sz`); the node, the last on `gh.vs`, is on neither stored path. -/
structure InnerAt (n : Nat) (nb : Nbrs) (rf : Nat) (r : IR.St) (gh : Gh) (lv : List (Nat × Nat)) (s s1 : LS)
    (st sz : Nat) : Prop where
  s1_eq : s1 = { s with choices := (st + sz) :: s.choices, path := sz :: s.path, skipDeage := true }
  lvl : LevelsOK s1.op s1.path s1.choices ((st, sz) :: lv)
  walk : WalkNv n nb rf r gh.vs ((st, sz) :: lv) s1
  len : gh.vs.length = s.path.length
  target : IR.target (irG n nb) (nodeL n nb rf r gh.vs s.path.length) = some st
  cell : (cellL n nb rf r gh.vs s.path.length st).length = sz
  offF : 0 < s.count → ¬ gh.vs.take s.path.length = gh.vsF.take s.path.length
  offB : 0 < s.count → ¬ gh.vs.take s.path.length = gh.vsB.take s.path.length

section
variable {n m : Nat} {nb : Nbrs} {rf : Nat} {r : IR.St}

theorem inner_at {gh : Gh} {lv : List (Nat × Nat)} {s s1 : LS} (hI : MInv n m nb s)
    (hlv : LevelsOK s.op s.path s.choices lv) (hnl : s.op.binDividers.len ≠ n) (h : DNodev n nb rf r gh lv s)
    (hs1 : innerNode s = .ok s1) : ∃ st sz, InnerAt n nb rf r gh lv s s1 st sz := by
  obtain ⟨hw, -, -, -, hoff⟩ := h
  obtain ⟨st, sz, e, hl', F, hW⟩ := walk_inner hI hlv hnl hw hs1
  have h3 := hw.len
  have hF : ∀ X : List Nat, gh.vs.take s.path.length = X.take s.path.length → gh.vs = X.take gh.vs.length := by
    intro X hX
    rw [← h3, List.take_length] at hX
    exact hX
  exact ⟨st, sz, e, hl', hW, h3, by rw [← h3]; exact F.target, by rw [← h3]; exact F.cellLen,
    fun h0 hc => (hoff h0).1 (hF _ hc), fun h0 hc => (hoff h0).2 (hF _ hc)⟩

theorem dfs_inner_v {gh : Gh} {lv : List (Nat × Nat)} {s s1 : LS} {st sz : Nat} (h : DNodev n nb rf r gh lv s)
    (I : InnerAt n nb rf r gh lv s s1 st sz) : DNv n nb rf r gh ((st, sz) :: lv) s1 := by
  obtain ⟨-, hG, hcov, haux, -⟩ := h
  have e := I.s1_eq
  subst e
  refine ⟨I.walk, ?_, ?_, ?_⟩
  · exact ⟨hG.first, hG.best, hG.bgsAut, hG.ngens0, hG.bestOrb, hG.bpLen, hG.fpLen⟩
  · exact cov_push st sz I.cell hcov
  · refine FrameAux.mk ?_ (FrameAux.congr (s := s)
      (s' := { s with choices := (st + sz) :: s.choices, path := sz :: s.path, skipDeage := true })
      rfl rfl rfl rfl false _ _ _ (fun _ _ => rfl) haux)
    constructor
    · intro h0 j w _ _ hc; exact I.offF h0 hc.1
    · intro h0 j w _ _ hc; exact I.offB h0 hc.1
    · intro h0 hpre; exact absurd hpre (I.offF h0)
    · intro h0 hpre; exact absurd hpre (I.offB h0)
    · intro h0 hpre; exact absurd hpre (I.offF h0)
    · intro h0 hpre; exact absurd hpre (I.offB h0)
    · intro h0 hpre; exact absurd hpre (I.offF h0)
    · intro _; simp only [if_true]; omega

end

/-- The top frame `(p, c, st, sz)`, of level `ps.length`, is about to be popped: every member of its cell is processed
(`c = st`), so the first leaf has been found (`pos`); the recorded generators preserve the colouring of the frame's node if
it is on the first-leaf path. -/
structure PopAt (n : Nat) (nb : Nbrs) (rf : Nat) (r : IR.St) (gh : Gh) (s : LS) (st sz : Nat) (ls : List (Nat × Nat))
    (p : Nat) (ps : List Nat) (c : Nat) (cs : List Nat) : Prop where
  hpth : s.path = p :: ps
  hch : s.choices = c :: cs
  cst : c = st
  sz2 : 2 ≤ sz
  pos : 0 < s.count
  path : IR.IsPath (irG n nb) rf r gh.vs
  len : ps.length = gh.vs.length
  lvl : LevelsOK s.op ps cs ls
  frames : FramesOK n nb rf r gh.vs (p :: ps) (c :: cs) ((st, sz) :: ls)
  aux : FrameAux n nb rf r gh s gh.vs true (p :: ps) (c :: cs) ((st, sz) :: ls)
  gensPres : onFirstB s ps = true → ∀ k, k < s.ngens → ∀ γ, s.gens[k]? = some γ → ∀ u, u < n →
    IR.col (nodeL n nb rf r gh.vs ps.length).c (γ.toList.getD u 0) = IR.col (nodeL n nb rf r gh.vs ps.length).c u
  dropLast : ∀ L, L < ps.length → gh.vs.dropLast.take L = gh.vs.take L

theorem pop_at {n : Nat} {nb : Nbrs} {rf : Nat} {r : IR.St} {gh : Gh} {s : LS} {st sz : Nat} {ls : List (Nat × Nat)}
    (ht : TopOK s.op 0 s.path s.choices ((st, sz) :: ls)) (h : DNv n nb rf r gh ((st, sz) :: ls) s) :
    ∃ p ps c cs, PopAt n nb rf r gh s st sz ls p ps c cs := by
  obtain ⟨hw, hG, -, haux⟩ := h
  obtain ⟨p, ps, c, cs, st', sz', ls', e1, e2, e3, -, tsz, tc, -, tl⟩ := ht.elim
  cases e3
  have h1 := hw.path
  have h3 := hw.len
  have h5 := hw.framesOK
  rw [e1, e2] at haux h5
  rw [e1] at h3
  have hvl : ps.length = gh.vs.length := (Nat.succ.inj h3).symm
  have hcnt : 0 < s.count := by
    rcases Nat.eq_zero_or_pos s.count with h0 | hpos
    · have := haux.head.ph1 h0
      simp only [if_true] at this
      omega
    · exact hpos
  refine ⟨p, ps, c, cs, e1, e2, by omega, tsz, hcnt, h1, hvl, tl, h5, haux, fun hon => ?_,
    fun L hL => take_dropLast gh.vs (by omega)⟩
  exact haux.head.e1 hcnt
    (prefixF_of_onFirst (frames_idxPath ps cs ls h5.tail (Nat.le_of_eq hvl)) h1 (Nat.le_of_eq hvl) hG hon)

section
variable {n m : Nat} {nb : Nbrs} {rf : Nat} {r : IR.St}
  (hnb : NbOK nb n)

include hnb in
theorem dfs_pop_v (st sz : Nat) (ls : List (Nat × Nat)) (s : LS)
    (ht : TopOK s.op 0 s.path s.choices ((st, sz) :: ls))
    (hJ : CertN n m nb ((st, sz) :: ls) s) (gh : Gh) (h : DNv n nb rf r gh ((st, sz) :: ls) s) :
    DAv n nb rf r { gh with vs := gh.vs.dropLast } ls { s with path := s.path.drop 1, choices := s.choices.drop 1 } := by
  obtain ⟨p, ps, c, cs, P⟩ := pop_at ht h
  obtain ⟨hw, hG, hcov, -⟩ := h
  have e1 := P.hpth
  obtain ⟨hcomp, hcov'⟩ := cov_pop_step hnb st sz ls s ht hw hJ.1 hcov (fun qs eq hon => by
    rw [e1] at eq
    cases (eq : ps = qs)
    exact P.gensPres hon)
  rw [e1] at hcomp
  simp only [List.length_cons, Nat.add_sub_cancel] at hcomp
  have hA : FrameAux n nb rf r gh s gh.vs true ps cs ls :=
    P.aux.tail.finish_top P.path P.lvl P.frames.tail (Nat.le_of_eq P.len) P.pos hcomp
  refine ⟨walk_pop st sz ls s ht hw, ⟨hG.first, hG.best, hG.bgsAut, hG.ngens0, hG.bestOrb, hG.bpLen, hG.fpLen⟩,
    hcov', ?_, ?_⟩
  · show FrameAux n nb rf r { gh with vs := gh.vs.dropLast }
      { s with path := s.path.drop 1, choices := s.choices.drop 1 } gh.vs.dropLast true (s.path.drop 1)
      (s.choices.drop 1) ls
    simp only [e1, P.hch, List.drop_succ_cons, List.drop_zero]
    exact FrameAux.congr_gh (gh := gh) (gh' := { gh with vs := gh.vs.dropLast }) rfl rfl rfl true ps cs ls
      (FrameAux.congr (s := s) (s' := { s with path := ps, choices := cs }) rfl rfl rfl rfl true ps cs ls P.dropLast hA)
  · intro hp
    have hp' : s.path.drop 1 = [] := hp
    rw [e1] at hp'
    cases (hp' : ps = [])
    refine ⟨P.pos, ?_⟩
    have : nodeL n nb rf r gh.vs 0 = r := by simp [nodeL, IR.nodeAt]
    rw [← this]
    exact hcomp

end

theorem skip_globalInv_congr {n : Nat} {nb : Nbrs} {rf : Nat} {r : IR.St} {gh : Gh} {s s' : LS} (h : GlobalInv n nb rf r gh s)
    (e1 : s'.count = s.count) (e2 : s'.firstLeaf = s.firstLeaf) (e3 : s'.flPermInv = s.flPermInv)
    (e4 : s'.flPath = s.flPath) (e5 : s'.bestPerm = s.bestPerm) (e6 : s'.currentBest = s.currentBest)
    (e7 : s'.bestPermInv = s.bestPermInv) (e8 : s'.bestPath = s.bestPath) (e9 : s'.bestOrbits = s.bestOrbits)
    (e10 : s'.ngens = s.ngens) :
    GlobalInv n nb rf r gh s' := by
  constructor
  · rw [e1, e2, e3, e4]; exact h.first
  · rw [e1, e5, e6, e7, e8]; exact h.best
  · exact h.bgsAut
  · rw [e1, e10]; exact h.ngens0
  · rw [e1, e9]; exact h.bestOrb
  · rw [e8]; exact h.bpLen
  · rw [e4]; exact h.fpLen

section
variable {n m : Nat} {nb : Nbrs} {rf : Nat} {r : IR.St}

theorem skip_frameAux {gh : Gh} {s s' : LS} {us : List Nat} {p c st sz : Nat} {ps cs : List Nat} {ls : List (Nat × Nat)}
    (haux : FrameAux n nb rf r gh s us true (p :: ps) (c :: cs) ((st, sz) :: ls)) (hst : st < c) (hcnt : 0 < s.count)
    (e1 : s'.count = s.count) (e2 : s'.currentBest = s.currentBest) (e3 : s'.gens = s.gens) (e4 : s'.ngens = s.ngens) :
    FrameAux n nb rf r gh s' us true (p :: ps) ((c - 1) :: cs) ((st, sz) :: ls) :=
  FrameAux.congr (s := s) (s' := s') (us := us) (us' := us) e1 e2 e3 e4 true _ _ _ (fun _ _ => rfl)
    (FrameAux.mk (haux.head.step_head hst hcnt) haux.tail)

theorem dfs_skipA_v (gh : Gh) (st sz : Nat) (ls : List (Nat × Nat)) (s : LS) (c : Nat) (cs : List Nat) (p : Nat)
    (ps : List Nat)
    (ce : Nat) (x : Int) (k : Nat) (hc : Core n s) (ht : TopOK s.op (k + 1) s.path s.choices ((st, sz) :: ls))
    (hage : s.op.age + 1 = s.path.length) (hch : s.choices = c :: cs)
    (hpth : s.path = p :: ps) (hget : s.op.order.get (c - 1) = .ok ce)
    (hon : (decide (s.count > 0) && hasPrefix s.flPath.toList ps.reverse) = true)
    (hx : s.flOrbits[ce]? = some x) (hx0 : x ≥ 0)
    (h : DNv n nb rf r gh ((st, sz) :: ls) s) :
    DNv n nb rf r gh ((st, sz) :: ls) { s with choices := (c - 1) :: cs, skipDeage := true } := by
  obtain ⟨hw, hG, hcov, haux⟩ := h
  obtain ⟨m1, m2, m3, m4, m5⟩ := top_member hc ht hch hpth hget hw
  have hcnt : 0 < s.count := by
    simp only [Bool.and_eq_true, decide_eq_true_eq] at hon; exact hon.1
  refine ⟨?_, ?_, ?_, ?_⟩
  · exact walk_skip (c' := c - 1) s.bestOrbits true hch hw
  · exact skip_globalInv_congr hG rfl rfl rfl rfl rfl rfl rfl rfl rfl rfl
  · have := cov_skipA st sz ls s c cs p ps ce x k hc ht hage hch hpth hget hon hx hx0 hw hcov
    rw [← hpth] at this; exact this
  · rw [hpth, hch] at haux
    have := skip_frameAux (s' := { s with choices := (c - 1) :: cs, skipDeage := true }) haux m3 hcnt rfl rfl rfl rfl
    rw [← hpth] at this; exact this

end

/-- Heuristic 2 skips a member of the top frame (tail of `path`: `ps`) on the best-leaf path: the frame's node is on the
best-leaf path and not on the first-leaf path, and the classes of `bestOrbits` are generated by `bgs`, automorphisms that
preserve the colouring of that node -/
structure SkipBAt (n : Nat) (nb : Nbrs) (rf : Nat) (r : IR.St) (gh : Gh) (s : LS) (ps : List Nat) : Prop where
  pos : 0 < s.count
  notFirst : onFirstB s ps = false
  orbInv : Disjoint.Inv s.bestOrbits
  orbSize : s.bestOrbits.size = n
  orbGen : ∀ a b, a < n → b < n → Disjoint.rep s.bestOrbits a = Disjoint.rep s.bestOrbits b →
    Relation.EqvGen (fun x y => ∃ γ, γ ∈ gh.bgs ∧ γ[x]? = some y) a b
  bgs : ∀ γ, γ ∈ gh.bgs → IsAutL nb n γ ∧ ∀ u, u < n →
    IR.col (nodeL n nb rf r gh.vs gh.vs.length).c (γ.getD u 0) = IR.col (nodeL n nb rf r gh.vs gh.vs.length).c u

section
variable {n m : Nat} {nb : Nbrs} {rf : Nat} {r : IR.St}

theorem skipB_at {gh : Gh} {st sz : Nat} {ls : List (Nat × Nat)} {s : LS} {c : Nat} {cs : List Nat} {p : Nat}
    {ps : List Nat} {ce k : Nat} (hc : Core n s) (ht : TopOK s.op (k + 1) s.path s.choices ((st, sz) :: ls))
    (hch : s.choices = c :: cs) (hpth : s.path = p :: ps) (hget : s.op.order.get (c - 1) = .ok ce)
    (hon : (decide (s.count > 0) && !hasPrefix s.flPath.toList ps.reverse && hasPrefix s.bestPath.toList ps.reverse) = true)
    (h : DNv n nb rf r gh ((st, sz) :: ls) s) : SkipBAt n nb rf r gh s ps := by
  obtain ⟨hw, hG, -, haux⟩ := h
  obtain ⟨-, -, -, m4, -⟩ := top_member hc ht hch hpth hget hw
  simp only [Bool.and_eq_true, decide_eq_true_eq, Bool.not_eq_true'] at hon
  obtain ⟨⟨hcnt, hnfp⟩, hbp⟩ := hon
  have honB : onBestB s ps = true := by
    unfold onBestB; rw [hbp]; simpa using hcnt
  obtain ⟨hds, hdsz, horb⟩ := hG.bestOrb hcnt
  rw [hpth, hch] at haux
  have hpreB : gh.vs.take ps.length = gh.vsB.take ps.length := by
    have h5 := hw.framesOK
    rw [hpth, hch] at h5
    exact prefixB_of_onBest (frames_idxPath ps cs ls h5.tail (by omega)) hw.path (by omega) hG honB
  refine ⟨hcnt, by unfold onFirstB; rw [hnfp]; simp, hds, hdsz, horb, fun γ hγ => ⟨hG.bgsAut γ hγ, fun u hu => ?_⟩⟩
  rw [m4]
  exact haux.head.e2 hcnt hpreB γ hγ u hu

theorem dfs_skipB_v (hnb : NbOK nb n) (gh : Gh) (st sz : Nat) (ls : List (Nat × Nat)) (s : LS) (c : Nat) (cs : List Nat)
    (p : Nat) (ps : List Nat)
    (ce : Nat) (bo : Disjoint.DS) (k : Nat) (hc : Core n s) (ht : TopOK s.op (k + 1) s.path s.choices ((st, sz) :: ls))
    (hage : s.op.age + 1 = s.path.length) (hch : s.choices = c :: cs)
    (hpth : s.path = p :: ps) (hget : s.op.order.get (c - 1) = .ok ce)
    (hon : (decide (s.count > 0) && !hasPrefix s.flPath.toList ps.reverse && hasPrefix s.bestPath.toList ps.reverse) = true)
    (hh : h2Best s.op s.bestOrbits (c - 1) ce = .ok (true, bo))
    (h : DNv n nb rf r gh ((st, sz) :: ls) s) :
    DNv n nb rf r gh ((st, sz) :: ls) { s with choices := (c - 1) :: cs, bestOrbits := bo, skipDeage := true } := by
  have S := skipB_at hc ht hch hpth hget hon h
  obtain ⟨hw, hG, hcov, haux⟩ := h
  obtain ⟨-, -, m3, -, -⟩ := top_member hc ht hch hpth hget hw
  refine ⟨walk_skip (c' := c - 1) bo true hch hw, ⟨hG.first, hG.best, hG.bgsAut, hG.ngens0,
    fun _ => hG.bestOrb_h2Best hc S.pos hh, hG.bpLen, hG.fpLen⟩, ?_, ?_⟩
  · have := cov_skipB_step hnb st sz ls s c cs p ps ce bo k hc ht hage hch hpth hget S.notFirst hh hw hcov
      (fun γ => γ ∈ gh.bgs) S.bgs S.orbInv S.orbSize S.orbGen
    rw [← hpth] at this; exact this
  · rw [hpth, hch] at haux
    have := skip_frameAux (s' := { s with choices := (c - 1) :: cs, bestOrbits := bo, skipDeage := true }) haux m3 S.pos
      rfl rfl rfl rfl
    rw [← hpth] at this; exact this

end

open Relation

theorem snoc_eq_take {l x : List Nat} {v : Nat} (h : l ++ [v] = x.take (l.length + 1)) :
    l.take l.length = x.take l.length ∧ x[l.length]? = some v := by
  constructor
  · have := congrArg (List.take l.length) h
    rw [List.take_take, Nat.min_eq_left (Nat.le_succ _), List.take_append_of_le_length (Nat.le_refl _)] at this
    exact this
  · have := congrArg (fun y => y[l.length]?) h
    simp only [List.getElem?_take] at this
    rw [if_pos (Nat.lt_succ_self _)] at this
    rw [← this]
    simp

section
variable {n m : Nat} {nb : Nbrs} {rf : Nat} {r : IR.St}
  (hnb : NbOK nb n) (hsz : nb.size = n) (hm : m = ((nb.toList.map List.length).sum) / 2) (hrf : 3 * n + 3 ≤ rf)
  (hA : IR.InvA (irG n nb) r) (hD : IR.InvD (irG n nb) r)
include hnb hsz hm hrf hA hD

theorem dfs_split_v (st sz : Nat) (ls : List (Nat × Nat)) (s : LS) (c : Nat) (cs : List Nat) (p : Nat) (ps : List Nat)
    (ce : Nat) (bo : Disjoint.DS) (w : Bool) (op' : OP) (k : Nat) (hc : Core n s)
    (ht : TopOK s.op (k + 1) s.path s.choices ((st, sz) :: ls))
    (hage : s.op.age + 1 = s.path.length) (hch : s.choices = c :: cs)
    (hpth : s.path = p :: ps) (hget : s.op.order.get (c - 1) = .ok ce)
    (hh : (if (decide (s.count > 0) && !hasPrefix s.flPath.toList ps.reverse && hasPrefix s.bestPath.toList ps.reverse) = true
      then h2Best s.op s.bestOrbits (c - 1) ce else Outcome.ok (false, s.bestOrbits)) = .ok (false, bo))
    (hs : splitBin nb s.currentBest s.firstLeaf s.op (c - 1) = .ok (w, op'))
    (hJ : CertN n m nb ((st, sz) :: ls) s) (gh : Gh) (h : DNv n nb rf r gh ((st, sz) :: ls) s) :
    (w = false → ∃ t v, DSv n nb rf r gh t v ((st, sz) :: ls)
      { s with choices := (c - 1) :: cs, bestOrbits := bo, op := op', path := k :: ps }) ∧
    (w = true → DAv n nb rf r gh ((st, sz) :: ls)
      { s with choices := (c - 1) :: cs, bestOrbits := bo, op := op', path := k :: ps }) := by
  obtain ⟨hw, hG, hcov, haux⟩ := h
  obtain ⟨m1, m2, m3, m4, m5⟩ := top_member hc ht hch hpth hget hw
  have hi := (walkN_top_frame hc ht hch hpth hw).cell.lt
  obtain ⟨v, hv, hCk, hvl, q1, q2⟩ := walk_split st sz ls s c cs p ps bo w op' k hc ht hch hpth hs hw
  have hG' : GlobalInv n nb rf r gh
      { s with choices := (c - 1) :: cs, bestOrbits := bo, op := op', path := k :: ps } :=
    ⟨hG.first, hG.best, hG.bgsAut, hG.ngens0, fun hpos => hG.bestOrb_if_h2Best hc hpos hh, hG.bpLen, hG.fpLen⟩
  rw [hpth, hch] at haux
  have hhead := haux.head
  have htail := haux.tail
  constructor
  · intro hwf
    refine ⟨st, v, q1 hwf, hG', ?_, ?_, ?_⟩
    · have h1 := cov_split_ok st sz ls s c cs p ps bo op' k hch hpth m3 hcov
      exact CovFrames.congr (s := { s with choices := (c - 1) :: cs, bestOrbits := bo, op := op', path := k :: ps })
        (s' := { s with choices := (c - 1) :: cs, bestOrbits := bo, op := op', path := k :: ps })
        rfl (fun _ => rfl) rfl false _ _ _
        (fun L hL => List.take_append_of_le_length (by simp only [List.length_cons] at hL; omega)) h1
    · have h1 : FrameAux n nb rf r gh s gh.vs false (k :: ps) ((c - 1) :: cs) ((st, sz) :: ls) :=
        FrameAux.mk (hhead.start_child m3) htail
      exact FrameAux.congr (s := s)
        (s' := { s with choices := (c - 1) :: cs, bestOrbits := bo, op := op', path := k :: ps })
        rfl rfl rfl rfl false _ _ _
        (fun L hL => List.take_append_of_le_length (by simp only [List.length_cons] at hL; omega)) h1
    · intro hpos
      have hpos' : 0 < s.count := hpos
      have hcell : (cellL n nb rf r gh.vs ps.length st)[k]? = some v := by rw [← hvl]; exact hCk
      have hlen : (gh.vs ++ [v]).length = gh.vs.length + 1 := by simp
      rw [hlen]
      constructor
      · intro e
        obtain ⟨e1, e2⟩ := snoc_eq_take e
        rw [hvl] at e1 e2
        exact hhead.futF hpos' k v (by omega) hcell ⟨e1, e2⟩
      · intro e
        obtain ⟨e1, e2⟩ := snoc_eq_take e
        rw [hvl] at e1 e2
        exact hhead.futB hpos' k v (by omega) hcell ⟨e1, e2⟩
  · intro hwt
    subst hwt
    have hcnt : 0 < s.count := by
      by_contra hn
      have h0 := hJ.2.2.zero (by omega)
      have := splitBin_not_worse h0 hc.part hi hs
      cases this
    refine ⟨q2 rfl, hG', ?_, ?_, ?_⟩
    · exact cov_split_worse_step hnb hsz hm hrf hA hD st sz ls s c cs p ps ce bo op' k hc ht hage hch hpth hget hs hw hJ
        hcov
    · have h1 : FrameAux n nb rf r gh s gh.vs true (k :: ps) ((c - 1) :: cs) ((st, sz) :: ls) :=
        FrameAux.mk (hhead.step_head m3 hcnt) htail
      exact FrameAux.congr (s := s)
        (s' := { s with choices := (c - 1) :: cs, bestOrbits := bo, op := op', path := k :: ps })
        rfl rfl rfl rfl true _ _ _ (fun _ _ => rfl) h1
    · intro hp
      cases hp

theorem dfs_refine_v (lv : List (Nat × Nat)) (s : LS) (w : Bool) (op' : OP) (sc' sc2 : Scratch) (hc : Core n s)
    (hl : LevelsOK s.op s.path s.choices lv)
    (htl : s.sc.timesSeen.len = n) (hJ : CertN n m nb lv s) (gh : Gh) (t v : Nat) (h : DSv n nb rf r gh t v lv s)
    (hr : refine nb s.currentBest s.firstLeaf {} s.op s.sc = .ok (w, op', sc')) :
    (w = true → DAv n nb rf r gh lv { s with op := op', sc := sc2 }) ∧
    (w = false → DNodev n nb rf r { gh with vs := gh.vs ++ [v] } lv { s with op := op', sc := sc2 }) := by
  obtain ⟨hw, hG, hcov, haux, hoff⟩ := h
  obtain ⟨q1, q2⟩ := walk_refine hnb hrf lv s w op' sc' hc htl hw hr sc2
  cases w with
  | false =>
    refine ⟨fun hx => (by cases hx), fun _ => ?_⟩
    refine ⟨q2 rfl, ⟨hG.first, hG.best, hG.bgsAut, hG.ngens0, hG.bestOrb, hG.bpLen, hG.fpLen⟩, ?_, ?_, hoff⟩
    · exact CovFrames.congr (s := s) (s' := { s with op := op', sc := sc2 }) rfl (fun _ => rfl) rfl false _ _ _
        (fun _ _ => rfl) hcov
    · exact haux.imp fun _ _ _ _ _ _ h1 => ⟨h1.futF, h1.futB, h1.bpF, h1.bpB, h1.e1, h1.e2, h1.fb, h1.ph1⟩
  | true =>
    refine ⟨fun _ => ?_, fun hx => (by cases hx)⟩
    have hcnt : 0 < s.count := by
      by_contra hn
      have h0 := hJ.2.2.zero (by omega)
      have := refine_not_worse h0 rfl hr
      cases this
    obtain ⟨p, ps, c, cs, sz, ls, hpth, hch, rfl, hcp, hvl, hcv, happ⟩ := walkS_top hl hw
    have hcomp := (refine_worse_cut hnb hrf hA hD ((t, sz) :: ls) s op' sc' hc htl hw hJ hr).complete rf hnb hsz hm hc
      hJ.1 hJ.2.2
    rw [hvl] at hcomp
    rw [hpth, hch] at haux hcov
    have hcov' := cov_refine_worse_step hnb hsz hm hrf hA hD t sz ls s c cs p ps op' sc' sc2 hc htl hch hpth hcp hw hJ hr
      (by rw [hpth, hch]; exact CovFrames.congr (s := s) (s' := s) rfl (fun _ => rfl) rfl false _ _ _ happ hcov)
    have h3 : FrameAux n nb rf r gh s gh.vs true (p :: ps) (c :: cs) ((t, sz) :: ls) :=
      FrameAux.mk
        ((haux.head.congr rfl rfl rfl rfl (happ _ (Nat.lt_succ_self _))).finish_child hcnt fun w hw' _ => by
          rw [hcv] at hw'
          cases hw'
          exact hcomp)
        (haux.tail.imp fun _ _ _ _ _ hps h1 => h1.congr rfl rfl rfl rfl (happ _ (Nat.lt_succ_of_lt hps)))
    refine ⟨q1 rfl, ⟨hG.first, hG.best, hG.bgsAut, hG.ngens0, hG.bestOrb, hG.bpLen, hG.fpLen⟩, ?_, ?_, ?_⟩
    · rw [← hpth, ← hch] at hcov'; exact hcov'
    · rw [← hpth, ← hch] at h3
      exact FrameAux.congr (s := s) (s' := { s with op := op', sc := sc2 }) rfl rfl rfl rfl true _ _ _
        (fun _ _ => rfl) h3
    · intro hp
      have : s.path = [] := hp
      rw [hpth] at this
      cases this

end
end CanonF
