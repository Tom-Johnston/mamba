import Mamba.Lemmas.DistanceBiconStatic
/-!
# From the description of one component to the whole graph

For one component the description of its blocks by the final DFS tree (`BlocksOf`) gives: every edge in exactly one
block and every block connected (`compEdgeCover`), every vertex in a block (`compCover`), the reported vertices are the
articulation vertices of `g` in the component (`compArts`). `model_fold` carries such statements over the loop through
the components; the results about `Model.biconnectedComponents` follow.
-/
namespace GDist
open GraphSpec Model

section
theorem forall₂_mem_left {α β : Type} {R : α → β → Prop} {l1 : List α} {l2 : List β}
    (hF : List.Forall₂ R l1 l2) (a : α) (ha : a ∈ l1) : ∃ b ∈ l2, R a b := by
  obtain ⟨i, hi, rfl⟩ := List.getElem_of_mem ha
  exact ⟨l2[i]'(hF.length_eq ▸ hi), List.getElem_mem _, hF.get hi _⟩

theorem forall₂_mem_right {α β : Type} {R : α → β → Prop} {l1 : List α} {l2 : List β}
    (hF : List.Forall₂ R l1 l2) (b : β) (hb : b ∈ l2) : ∃ a ∈ l1, R a b := by
  obtain ⟨i, hi, rfl⟩ := List.getElem_of_mem hb
  exact ⟨l1[i]'(hF.length_eq ▸ hi), List.getElem_mem _, hF.get _ hi⟩

variable {g : G} {com : List Nat}

/-- the positions in `com` (= the vertices of `g.induced com`) of the members of `b`, increasing -/
def localOf (com : List Nat) (b : List Nat) : List Nat :=
  (List.range com.length).filter fun y => decide (com.getD y 0 ∈ b)

theorem mem_localOf {b : List Nat} {y : Nat} : y ∈ localOf com b ↔ (y < com.length ∧ com.getD y 0 ∈ b) := by
  rw [localOf, List.mem_filter, List.mem_range, decide_eq_true_eq]

theorem localOf_nodup (b : List Nat) : (localOf com b).Nodup := List.nodup_range.filter _

theorem pre_localOf (S : List Nat) : Pre (g.induced com) (fun i => com.getD i 0) (localOf com S) S :=
  ⟨fun _ hz => mem_localOf.1 hz, fun _ hz hm => mem_localOf.2 ⟨hz, hm⟩⟩

theorem mem_localOf_isBlk (gc : GoodCom g com) {st : BicSt} {tp : Nat → Nat} (df : DFinal (g.induced com) st tp)
    {b : List Nat} {c : Nat} (hb : IsBlk (g.induced com) com st tp b c) (w : Nat) :
    w ∈ localOf com b ↔ (w < (g.induced com).n ∧ InBlk st tp c w) := by
  have emb := goodCom_emb gc
  have hn : (g.induced com).n = com.length := rfl
  rw [mem_localOf, hb.2.2 (com.getD w 0), hn]
  constructor
  · rintro ⟨hw, y, hy, _, hyw, hor⟩
    have : y = w := emb.inj y w hy hw hyw
    subst this
    exact ⟨hw, hor⟩
  · rintro ⟨hw, hor⟩
    exact ⟨hw, w, hw, df.hall w hw, rfl, hor⟩

theorem com_single (hn1 : com.length = 1) : com.getD 0 0 ∈ com ∧ ∀ x ∈ com, x = com.getD 0 0 := by
  refine ⟨getD_mem (by omega), fun x hx => ?_⟩
  obtain ⟨a, ha, hax⟩ := mem_iff_getD.1 hx
  have : a = 0 := by omega
  subst this; exact hax.symm

/-- what the blocks `new` of the component `com` satisfy in `g`: they lie in `com` (`sub`), each is connected in itself
(`conn`), every edge at a vertex of `com` lies in exactly one of them (`edge`) -/
structure CompEdgeCover (g : G) (com : List Nat) (new : List (List Nat)) : Prop where
  sub : ∀ b ∈ new, ∀ x ∈ b, x ∈ com
  conn : ∀ b ∈ new, ∀ x ∈ b, ∀ y ∈ b, ReachIn g b x y
  edge : ∀ x y, x ∈ com → y < g.n → g.adj x y = true →
    ∃ b ∈ new, x ∈ b ∧ y ∈ b ∧ ∀ b' ∈ new, x ∈ b' → y ∈ b' → b' = b

theorem compEdgeCover (gc : GoodCom g com) (hsym : ∀ u v, g.adj u v = g.adj v u)
    (hirr : ∀ v, g.adj v v = false) {st : BicSt} {tp : Nat → Nat} (df : DFinal (g.induced com) st tp)
    {new : List (List Nat)} (hB : BlocksOf (g.induced com) com st tp new) : CompEdgeCover g com new := by
  have emb := goodCom_emb gc
  have hn : (g.induced com).n = com.length := rfl
  have hsymh := induced_symm hsym com
  have hirrh := induced_irrefl hirr com
  have hidx : ∀ x ∈ com, ∃ a, a < com.length ∧ com.getD a 0 = x := fun x hx => mem_iff_getD.1 hx
  rcases hB with ⟨hn1, rfl⟩ | ⟨hn2, ls, hF, hnd, hls⟩
  · obtain ⟨h0m, hcom⟩ := com_single (hn ▸ hn1)
    refine ⟨?_, ?_, ?_⟩
    · intro b hb x hx
      rw [List.mem_singleton.1 hb] at hx
      rw [List.mem_singleton.1 hx]; exact h0m
    · intro b hb x hx y hy
      rw [List.mem_singleton.1 hb] at hx hy ⊢
      rw [List.mem_singleton.1 hx, List.mem_singleton.1 hy]
      exact ReachIn.refl List.mem_cons_self
    · intro x y hx hy hadj
      exfalso
      have hyc := gc.closed x hx y hadj hy
      rw [hcom x hx, hcom y hyc, hirr] at hadj
      cases hadj
  · have hblk : ∀ b ∈ new, ∃ c, Ldr (g.induced com) st tp c ∧ IsBlk (g.induced com) com st tp b c := by
      intro b hb
      obtain ⟨c, hc, hbc⟩ := forall₂_mem_left hF b hb
      exact ⟨c, (hls c).1 hc, hbc⟩
    refine ⟨?_, ?_, ?_⟩
    · intro b hb x hx
      obtain ⟨c, _, hbc⟩ := hblk b hb
      obtain ⟨y, hy, _, hyx, _⟩ := (hbc.2.2 x).1 hx
      rw [← hyx]; exact getD_mem hy
    · intro b hb x hx y hy
      obtain ⟨c, hc, hbc⟩ := hblk b hb
      obtain ⟨a, ha, hav, hax, hao⟩ := (hbc.2.2 x).1 hx
      obtain ⟨a', ha', hav', hay, hao'⟩ := (hbc.2.2 y).1 hy
      have hmemB := mem_localOf_isBlk gc df hbc
      have hr := df.block_connected hsymh hc (localOf com b) hmemB a ((hmemB a).2 ⟨ha, hao⟩) a'
        ((hmemB a').2 ⟨ha', hao'⟩)
      obtain ⟨k, hk⟩ := hr
      rw [← hax, ← hay]
      exact ⟨k, emb.walk_up (pre_localOf b) hk⟩
    · intro x y hx hy hadj
      have hyc := gc.closed x hx y hadj hy
      obtain ⟨a, ha, hax⟩ := hidx x hx
      obtain ⟨a', ha', hay⟩ := hidx y hyc
      have hadjh : (g.induced com).adj a a' = true := by
        rw [emb.adj a a' ha ha', hax, hay]; exact hadj
      obtain ⟨l, hl, hla, hla', huniq⟩ := df.edge_block hsymh hirrh (x := a) (y := a') ha ha' hadjh
      obtain ⟨b, hb, hbl⟩ := forall₂_mem_right hF l ((hls l).2 hl)
      refine ⟨b, hb, (hbl.2.2 x).2 ⟨a, ha, df.hall a ha, hax, hla⟩,
        (hbl.2.2 y).2 ⟨a', ha', df.hall a' ha', hay, hla'⟩, ?_⟩
      intro b' hb' hxb' hyb'
      obtain ⟨c', hc', hbc'⟩ := hblk b' hb'
      obtain ⟨a1, ha1, _, ha1x, ho1⟩ := (hbc'.2.2 x).1 hxb'
      obtain ⟨a2, ha2, _, ha2y, ho2⟩ := (hbc'.2.2 y).1 hyb'
      have e1 : a1 = a := emb.inj a1 a ha1 ha (by rw [ha1x, hax])
      have e2 : a2 = a' := emb.inj a2 a' ha2 ha' (by rw [ha2y, hay])
      subst e1; subst e2
      have := huniq c' hc' ho1 ho2
      subst this
      exact List.strictSorted_ext hbc'.2.1 hbl.2.1 (fun w => by rw [hbc'.2.2 w, hbl.2.2 w])

end

section
theorem forall₂_flatten_mem {α : Type} {P : α → List (List Nat) → Prop} {coms : List α}
    {news : List (List (List Nat))} (hF : List.Forall₂ P coms news) (b : List Nat) (hb : b ∈ news.flatten) :
    ∃ i, ∃ (h1 : i < coms.length) (h2 : i < news.length), b ∈ news[i] ∧ P coms[i] news[i] := by
  obtain ⟨new, hnew, hb⟩ := List.mem_flatten.1 hb
  obtain ⟨i, hi, rfl⟩ := List.getElem_of_mem hnew
  exact ⟨i, hF.length_eq ▸ hi, hi, hb, hF.get (hF.length_eq ▸ hi) hi⟩

theorem disjoint_index {coms : List (List Nat)} (hnd : coms.flatten.Nodup) {i j : Nat} (hi : i < coms.length)
    (hj : j < coms.length) {x : Nat} (hxi : x ∈ coms[i]) (hxj : x ∈ coms[j]) : i = j := by
  have hp := (List.nodup_flatten.1 hnd).2
  rw [List.pairwise_iff_getElem] at hp
  by_contra hne
  rcases Nat.lt_or_gt_of_ne hne with hlt | hlt
  · exact hp i j hi hj hlt hxi hxj
  · exact hp j i hj hi hlt hxj hxi

theorem forall₂_flatten_nodup {α : Type} {cs : List (List Nat)} {ls : List (List α)} (key : α → Nat)
    (hF : List.Forall₂ (fun c l => l.Nodup ∧ ∀ a ∈ l, key a ∈ c) cs ls) (hnd : cs.flatten.Nodup) :
    ls.flatten.Nodup ∧ ∀ a ∈ ls.flatten, key a ∈ cs.flatten := by
  induction hF with
  | nil => exact ⟨List.nodup_nil, fun a ha => by cases ha⟩
  | @cons c l cs ls h1 _ ih =>
    rw [List.flatten_cons, List.nodup_append] at hnd
    obtain ⟨ih1, ih2⟩ := ih hnd.2.1
    simp only [List.flatten_cons, List.nodup_append, List.mem_append]
    refine ⟨⟨h1.1, ih1, fun a ha b hb hab => hnd.2.2 _ (h1.2 a ha) _ (ih2 b hb) (by rw [hab])⟩, ?_⟩
    rintro a (ha | ha)
    · exact .inl (h1.2 a ha)
    · exact .inr (ih2 a ha)

theorem model_fold (g : G) (hsym : ∀ u v, g.adj u v = g.adj v u)
    (P : List Nat → List (List Nat) → List Nat → Prop)
    (hP : ∀ com st tp new arts, ConnCom g com → DFinal (g.induced com) st tp →
      BlocksOf (g.induced com) com st tp new → arts.Nodup →
      (∀ x, x ∈ arts ↔ ∃ i, i < com.length ∧ Crit (g.induced com) st tp i ∧ com.getD i 0 = x) → P com new arts)
    (bs : List (List Nat)) (arts : List Nat) (hres : Model.biconnectedComponents g = .ok (bs, arts)) :
    ∃ (cs : List (List Nat)) (outs : List (List (List Nat) × List Nat)), (∀ c ∈ cs, ConnCom g c) ∧
      cs.flatten.Perm (List.range g.n) ∧ bs = (outs.map (·.1)).flatten ∧ arts = (outs.map (·.2)).flatten ∧
      List.Forall₂ (fun c o => P c o.1 o.2) cs outs := by
  unfold Model.biconnectedComponents at hres
  obtain ⟨cs, ecs, hgood, hperm⟩ := model_components g hsym
  rw [ecs] at hres
  simp only at hres
  obtain ⟨outs, h1, h2, hF⟩ := bicAll_fold g P (fun com acc acc' hgc hacc hr => by
    obtain ⟨st, tp, new, arts, df, e, hB, e2, hnd, hm⟩ :=
      bicComponent_spec hgc.1 hgc.2.1 hgc.2.2 hsym acc acc' hacc hr
    exact ⟨new, arts, e, e2, hP com st tp new arts hgc df hB hnd hm⟩) cs ([], []) (bs, arts) hgood
    (fun b hb => by cases hb) hres
  exact ⟨cs, outs, hgood, hperm, by simpa using h1, by simpa using h2, hF⟩

theorem model_blocks_fold (g : G) (hsym : ∀ u v, g.adj u v = g.adj v u)
    (P : List Nat → List (List Nat) → Prop)
    (hP : ∀ com st tp new, ConnCom g com → DFinal (g.induced com) st tp → BlocksOf (g.induced com) com st tp new →
      P com new)
    (bs : List (List Nat)) (arts : List Nat) (hres : Model.biconnectedComponents g = .ok (bs, arts)) :
    ∃ cs news, (∀ c ∈ cs, ConnCom g c) ∧ cs.flatten.Perm (List.range g.n) ∧ bs = news.flatten ∧
      List.Forall₂ P cs news := by
  obtain ⟨cs, outs, hgood, hperm, h1, _, hF⟩ := model_fold g hsym (fun c new _ => P c new)
    (fun com st tp new _ hgc df hB _ _ => hP com st tp new hgc df hB) bs arts hres
  exact ⟨cs, outs.map (·.1), hgood, hperm, h1, List.forall₂_map_right_iff.2 hF⟩

variable {g : G} {com : List Nat}

/-- every vertex of a component lies in one of its blocks: below its nearest block-closing vertex, or, the root,
above one of its children -/
theorem compCover {st : BicSt} {tp : Nat → Nat} (df : DFinal (g.induced com) st tp)
    {new : List (List Nat)} (hB : BlocksOf (g.induced com) com st tp new) : ∀ x ∈ com, ∃ b ∈ new, x ∈ b := by
  intro x hx
  obtain ⟨a, ha, rfl⟩ := mem_iff_getD.1 hx
  have han : a < (g.induced com).n := ha
  rcases hB with ⟨hn1, rfl⟩ | ⟨hn2, ls, hF, _, hls⟩
  · have : a = 0 := by omega
    subst this
    exact ⟨_, List.mem_singleton.2 rfl, List.mem_singleton.2 rfl⟩
  · have key : ∃ l, Ldr (g.induced com) st tp l ∧ InBlk st tp l a := by
      by_cases ha0 : a = 0
      · subst ha0
        obtain ⟨c, hc1, hc2, hc3⟩ := anc_child (df.anc_root 1 hn2) (by omega : (1 : Nat) ≠ 0)
        exact ⟨c, df.child_root_ldr (df.anc_n hn2 hc3) hc2 hc1, .inl hc1.symm⟩
      · obtain ⟨l, hl1, hl2⟩ := df.leader_of han ha0
        exact ⟨l, hl1, .inr hl2⟩
    obtain ⟨l, hl, hin⟩ := key
    obtain ⟨b, hb, hbl⟩ := forall₂_mem_right hF l ((hls l).2 hl)
    exact ⟨b, hb, (hbl.2.2 _).2 ⟨a, han, df.hall a han, rfl, hin⟩⟩

theorem bicon_cover_vertices (g : G) (hsym : ∀ u v, g.adj u v = g.adj v u) (bs : List (List Nat))
    (arts : List Nat) (hres : Model.biconnectedComponents g = .ok (bs, arts)) :
    ∀ x, x < g.n → ∃ b ∈ bs, x ∈ b := by
  obtain ⟨cs, news, _, hperm, rfl, hF⟩ := model_blocks_fold g hsym (fun com new => ∀ x ∈ com, ∃ b ∈ new, x ∈ b)
    (fun com st tp new _ df hB => compCover df hB) bs arts hres
  intro x hx
  obtain ⟨c, hc, hxc⟩ := List.mem_flatten.1 (hperm.mem_iff.2 (List.mem_range.2 hx))
  obtain ⟨new, hnew, hP⟩ := forall₂_mem_left hF c hc
  obtain ⟨b, hb, hxb⟩ := hP x hxc
  exact ⟨b, List.mem_flatten.2 ⟨new, hnew, hb⟩, hxb⟩

theorem bicon_blocks_edges_connected (g : G) (hsym : ∀ u v, g.adj u v = g.adj v u)
    (hirr : ∀ v, g.adj v v = false) (bs : List (List Nat)) (arts : List Nat)
    (hres : Model.biconnectedComponents g = .ok (bs, arts)) :
    (∀ x y, x < g.n → y < g.n → g.adj x y = true →
      ∃ b ∈ bs, x ∈ b ∧ y ∈ b ∧ ∀ b' ∈ bs, x ∈ b' → y ∈ b' → b' = b) ∧
    (∀ b ∈ bs, ∀ x ∈ b, ∀ y ∈ b, ReachIn g b x y) := by
  obtain ⟨cs, news, hgood, hperm, rfl, hF⟩ := model_blocks_fold g hsym (CompEdgeCover g)
    (fun com st tp new hgc df hB => compEdgeCover hgc.1 hsym hirr df hB) bs arts hres
  have hnd : cs.flatten.Nodup := hperm.nodup_iff.2 List.nodup_range
  constructor
  · intro x y hx hy hadj
    have hxf : x ∈ cs.flatten := hperm.mem_iff.2 (List.mem_range.2 hx)
    obtain ⟨c, hc, hxc⟩ := List.mem_flatten.1 hxf
    obtain ⟨i, hi, hci⟩ := List.getElem_of_mem hc
    have hi2 : i < news.length := hF.length_eq ▸ hi
    have hPi : CompEdgeCover g c news[i] := hci ▸ hF.get hi hi2
    obtain ⟨b, hb, hxb, hyb, huniq⟩ := hPi.edge x y hxc hy hadj
    refine ⟨b, List.mem_flatten.2 ⟨_, List.getElem_mem hi2, hb⟩, hxb, hyb, ?_⟩
    intro b' hb' hxb' hyb'
    obtain ⟨j, hj1, hj2, hbj, hPj⟩ := forall₂_flatten_mem hF b' hb'
    have hxj : x ∈ cs[j] := hPj.sub b' hbj x hxb'
    have : i = j := disjoint_index hnd hi hj1 (by rw [hci]; exact hxc) hxj
    subst this
    exact huniq b' hbj hxb' hyb'
  · intro b hb
    obtain ⟨j, hj1, hj2, hbj, hPj⟩ := forall₂_flatten_mem hF b hb
    exact hPj.conn b hbj

theorem compArts (gc : GoodCom g com) (hsym : ∀ u v, g.adj u v = g.adj v u) {st : BicSt} {tp : Nat → Nat}
    (df : DFinal (g.induced com) st tp) {arts : List Nat}
    (harts : ∀ x, x ∈ arts ↔ ∃ i, i < com.length ∧ Crit (g.induced com) st tp i ∧ com.getD i 0 = x) (x : Nat) :
    x ∈ arts ↔ x ∈ com ∧ x ∈ articulation g := by
  have key : ∀ i, i < com.length → (Crit (g.induced com) st tp i ↔ com.getD i 0 ∈ articulation g) := by
    intro i hi
    rw [df.crit_iff_sep (induced_symm hsym com) hi, ← sep_transfer gc hsym hi]
    unfold articulation
    rw [List.mem_filter, isArticIn_iff_sep hsym]
    exact ⟨fun h0 => ⟨List.mem_range.2 ((goodCom_emb gc).rng i hi), h0⟩, fun h0 => h0.2⟩
  rw [harts]
  constructor
  · rintro ⟨i, hi, hc, rfl⟩
    exact ⟨getD_mem hi, (key i hi).1 hc⟩
  · rintro ⟨hxc, hxa⟩
    obtain ⟨i, hi, rfl⟩ := mem_iff_getD.1 hxc
    exact ⟨i, hi, (key i hi).2 hxa, rfl⟩

theorem bicon_articulation_eq (g : G) (hsym : ∀ u v, g.adj u v = g.adj v u)
    (bs : List (List Nat)) (arts : List Nat) (hres : Model.biconnectedComponents g = .ok (bs, arts)) :
    arts.Nodup ∧ (∀ x, x ∈ arts ↔ x ∈ articulation g) ∧ Model.sortInts arts = articulation g := by
  obtain ⟨cs, outs, _, hfp, _, rfl, hF⟩ := model_fold g hsym
    (fun com _ a => a.Nodup ∧ ∀ x, x ∈ a ↔ x ∈ com ∧ x ∈ articulation g)
    (fun com st tp _ a hgc df _ hnd hm => ⟨hnd, compArts hgc.1 hsym df hm⟩) bs arts hres
  have hF2 : List.Forall₂ (fun c (l : List Nat) => l.Nodup ∧ ∀ x, x ∈ l ↔ x ∈ c ∧ x ∈ articulation g) cs
      (outs.map (·.2)) := List.forall₂_map_right_iff.2 hF
  have r1 := (forall₂_flatten_nodup id (hF2.imp fun _ _ h => ⟨h.1, fun a ha => ((h.2 a).1 ha).1⟩)
    (hfp.nodup_iff.2 List.nodup_range)).1
  have hmem : ∀ x, x ∈ (outs.map (·.2)).flatten ↔ x ∈ articulation g := by
    intro x
    constructor
    · intro hx
      obtain ⟨l, hl, hxl⟩ := List.mem_flatten.1 hx
      obtain ⟨c, _, hc⟩ := forall₂_mem_right hF2 l hl
      exact ((hc.2 x).1 hxl).2
    · intro hx
      obtain ⟨c, hc, hxc⟩ := List.mem_flatten.1 (hfp.mem_iff.2 (List.mem_filter.1 hx).1)
      obtain ⟨l, hl, hcl⟩ := forall₂_mem_left hF2 c hc
      exact List.mem_flatten.2 ⟨l, hl, (hcl.2 x).2 ⟨hxc, hx⟩⟩
  exact ⟨r1, hmem, sortInts_eq r1 (List.Pairwise.filter _ List.pairwise_lt_range) hmem⟩

end

end GDist
