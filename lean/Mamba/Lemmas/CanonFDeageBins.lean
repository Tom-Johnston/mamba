import Mamba.Lemmas.CanonFCertDeage
import Mamba.Lemmas.CanonFSortedSplit
/-!
# What `deage` does to `order`, bin by bin; what follows for the vertex classes and for the sortedness of the bins

Every bin of the result is a bin of the input with its order, or the ascending arrangement of the union of several bins
of the input (`MergedBins`, `deage_mergedBins`). The loop invariant `DeageBins` says this of the dividers copied forward so
far; behind the last of them `order` is still untouched (`deage_loop_with` of `CanonFCertDeage.lean` runs it through the
loop). An invariant of `order` and the dividers is carried through `deage` by a lemma about `MergedBins` alone:
`MergedBins.rearr` (every vertex stays between the same surviving dividers, hence `deage_rearr` for the class invariant)
and `MergedBins.binsSorted` (a bin is an ascending bin or a sorted list, hence `deage_binsSorted`).
-/
namespace CanonF

def MergedBins (op op' : OP) : Prop :=
  ∀ t a b : Nat, (0 :: op'.binDividers.toList)[t]? = some a → op'.binDividers.toList[t]? = some b →
    (rfSeg op'.order.toList a b = rfSeg op.order.toList a b ∧ ∀ x ∈ op.binDividers.toList, x ≤ a ∨ b ≤ x) ∨
    rfSeg op'.order.toList a b = sortNat (rfSeg op.order.toList a b)

theorem MergedBins.rearr {n : Nat} {op op' : OP} (hm : MergedBins op op') (h' : PartInv n op') :
    ∀ p v, op'.order.toList[p]? = some v →
      ∃ q, op.order.toList[q]? = some v ∧ ∀ d ∈ op'.binDividers.toList, (d ≤ q ↔ d ≤ p) := by
  intro p v hv
  have hpn : p < n := by
    have := (List.getElem?_eq_some_iff.1 hv).1
    rwa [h'.length_order] at this
  obtain ⟨t, a, b, ha, hb, hap, hpb⟩ := h'.bin_of hpn
  have hmem : v ∈ rfSeg op.order.toList a b := by
    have h1 : v ∈ rfSeg op'.order.toList a b := mem_rfSeg.2 ⟨p, hap, hpb, hv⟩
    rcases hm t a b ha hb with ⟨e, _⟩ | e
    · rwa [e] at h1
    · rw [e] at h1; exact mem_sortNat.1 h1
  obtain ⟨q, hq1, hq2, hq3⟩ := mem_rfSeg.1 hmem
  exact ⟨q, hq3, fun d hd => bin_same_side h'.bdSorted ha hb hap hpb hq1 hq2 hd⟩

/-- the dividers copied forward so far -/
def DeageSt.kept (st : DeageSt) : List Nat := (⟨st.op.binDividers.data, st.j⟩ : Sl Nat).toList

structure DeageBins (op : OP) (st : DeageSt) : Prop where
  front : ∀ t a b : Nat, (0 :: st.kept)[t]? = some a → st.kept[t]? = some b →
    (rfSeg st.op.order.toList a b = rfSeg op.order.toList a b ∧ ∀ x ∈ op.binDividers.toList, x ≤ a ∨ b ≤ x) ∨
    rfSeg st.op.order.toList a b = sortNat (rfSeg op.order.toList a b)
  back : ∀ p, st.prevDiv ≤ p → st.op.order.toList[p]? = op.order.toList[p]?
  le : ∀ b ∈ st.kept, b ≤ st.prevDiv
  last : (0 :: st.kept)[st.j]? = some st.prevDiv

theorem DeageBins.init (op : OP) : DeageBins op { op := op, j := 0, prev1 := 0, prevDiv := 0 } :=
  have e : DeageSt.kept { op := op, j := 0, prev1 := 0, prevDiv := 0 } = [] := List.take_zero (l := op.binDividers.data.toList)
  ⟨fun t a b _ hb => (by rw [e] at hb; cases hb), fun _ _ => rfl, fun b hb => (by rw [e] at hb; cases hb), rfl⟩

theorem rfSeg_congr {l l' : List Nat} {a b : Nat} (h : ∀ p, a ≤ p → p < b → l'[p]? = l[p]?) :
    rfSeg l' a b = rfSeg l a b := by
  apply List.ext_getElem?
  intro i
  rw [getElem?_rfSeg, getElem?_rfSeg]
  by_cases hi : i < b - a
  · rw [if_pos hi, if_pos hi, h _ (Nat.le_add_right a i) (Nat.add_lt_of_lt_sub' hi)]
  · rw [if_neg hi, if_neg hi]

theorem rfSeg_mid (A M B : List Nat) : rfSeg (A ++ M ++ B) A.length (A.length + M.length) = M := by
  unfold rfSeg
  rw [List.append_assoc, List.drop_left, Nat.add_sub_cancel_left, List.take_left]

theorem Sl.toList_set_len {s bd : Sl Nat} {j x : Nat} (h : s.set j x = .ok bd) :
    (⟨bd.data, j + 1⟩ : Sl Nat).toList = (⟨s.data, j⟩ : Sl Nat).toList ++ [x] := by
  obtain ⟨⟨_, hjz⟩, _⟩ := Sl.set_eq_ok.1 h
  have hl : (⟨s.data, j⟩ : Sl Nat).toList.length = j := Sl.length_toList _ (Nat.le_of_lt hjz)
  apply List.ext_getElem?
  intro k
  rw [Sl.getElem?_toList, Sl.set_data h]
  rcases Nat.lt_trichotomy k j with h1 | h1 | h1
  · rw [if_pos (Nat.lt_succ_of_lt h1), if_neg (Nat.ne_of_lt h1), List.getElem?_append_left (by rw [hl]; exact h1),
      Sl.getElem?_toList, if_pos h1]
  · rw [if_pos (h1 ▸ Nat.lt_succ_self k), if_pos h1, List.getElem?_append_right (by rw [hl, h1]),
      hl, h1, Nat.sub_self]
    rfl
  · rw [if_neg (Nat.not_lt_of_le (Nat.succ_le_of_lt h1)), List.getElem?_eq_none]
    rw [List.length_append, hl]
    exact Nat.succ_le_of_lt h1

theorem DeageBins.keep {n : Nat} {op : OP} {st : DeageSt} {i di : Nat} {a : Int} {bd : Sl Nat} {ages : Sl Int} {opm : OP}
    (h : PartInv n op) (hinv : DeageInv op i st) (h5 : DeageBins op st)
    (hD : (divs op)[i]? = some (di, a)) (hs1 : st.op.binDividers.set st.j di = .ok bd)
    (hm : (if i > st.prev1 then deageMergeBin { st.op with binDividers := bd, binAges := ages } st.j st.prevDiv di
           else .ok { st.op with binDividers := bd, binAges := ages }) = .ok opm) :
    DeageBins op { op := opm, j := st.j + 1, prev1 := i + 1, prevDiv := di } := by
  obtain ⟨f1, _, _, _, _, _, f7, _, _, f10, _⟩ := deage_merged_facts h hinv hD hm
  obtain ⟨hbi, _⟩ := divs_getElem?.1 hD
  have hlt : st.prevDiv < di := h.start_lt hinv.prevDiv hbi hinv.prevLe
  obtain ⟨⟨_, hjz⟩, _⟩ := Sl.set_eq_ok.1 hs1
  have hkl : st.kept.length = st.j := Sl.length_toList _ (Nat.le_of_lt hjz)
  -- the copied dividers grow by `di`
  have hk : DeageSt.kept { op := opm, j := st.j + 1, prev1 := i + 1, prevDiv := di } = st.kept ++ [di] := by
    show (⟨opm.binDividers.data, st.j + 1⟩ : Sl Nat).toList = _
    rw [f1]; exact Sl.toList_set_len hs1
  -- positions outside the sorted range are untouched
  have hout : ∀ p, ¬ (st.prevDiv ≤ p ∧ p < di) → opm.order.toList[p]? = st.op.order.toList[p]? := by
    intro p hp
    rw [Sl.getElem?_toList, Sl.getElem?_toList, f7, f10 p (fun c => hp c.2)]
  obtain ⟨hw, hdi, hcase⟩ := deage_merged_order h hinv hD hm
  refine ⟨?_, fun p (hp : di ≤ p) => by
    rw [hout p (fun c => Nat.not_le_of_lt c.2 hp)]; exact h5.back p (Nat.le_trans (Nat.le_of_lt hlt) hp), ?_, ?_⟩
  · intro t x y hx hy
    rw [hk] at hx hy
    change (0 :: st.kept ++ [di])[t]? = some x at hx
    by_cases ht : t < st.j
    · -- a bin in front of `prevDiv`
      rw [List.getElem?_append_left (by rw [List.length_cons, hkl]; exact Nat.lt_succ_of_lt ht)] at hx
      rw [List.getElem?_append_left (by rw [hkl]; exact ht)] at hy
      have hyp := h5.le y (List.mem_of_getElem? hy)
      rw [rfSeg_congr (l := st.op.order.toList)
        (fun p _ hp => hout p (fun c => Nat.not_le_of_lt (Nat.lt_of_lt_of_le hp hyp) c.1))]
      exact h5.front t x y hx hy
    · -- the new bin `[prevDiv, di)`
      have htj : t = st.j := by
        have := (List.getElem?_eq_some_iff.1 hy).1
        rw [List.length_append, hkl] at this
        exact Nat.le_antisymm (Nat.le_of_lt_succ this) (Nat.le_of_not_lt ht)
      subst htj
      rw [List.getElem?_append_left (by rw [List.length_cons, hkl]; exact Nat.lt_succ_self _), h5.last] at hx
      rw [List.getElem?_append_right (by rw [hkl]), hkl, Nat.sub_self] at hy
      obtain rfl : st.prevDiv = x := Option.some.inj hx
      obtain rfl : di = y := Option.some.inj hy
      have hback : rfSeg st.op.order.toList st.prevDiv di = rfSeg op.order.toList st.prevDiv di :=
        rfSeg_congr (fun p hp _ => h5.back p hp)
      rcases hcase with ⟨_, m6⟩ | ⟨hpi, e⟩
      · right
        obtain ⟨hab, _, _, _, s5, _⟩ := Sl.sortRange_spec hw hdi m6
        have hol := Sl.length_toList _ hw
        have hA : (st.op.order.toList.take st.prevDiv).length = st.prevDiv :=
          List.length_take_of_le (by rw [hol]; exact Nat.le_trans hab hdi)
        have hM : (sortNat ((st.op.order.toList.drop st.prevDiv).take (di - st.prevDiv))).length = di - st.prevDiv := by
          rw [length_sortNat, List.length_take_of_le (by
            rw [List.length_drop, hol]; exact Nat.sub_le_sub_right hdi _)]
        have := rfSeg_mid (st.op.order.toList.take st.prevDiv)
          (sortNat ((st.op.order.toList.drop st.prevDiv).take (di - st.prevDiv))) (st.op.order.toList.drop di)
        rw [hA, hM, Nat.add_sub_cancel' hab, ← s5] at this
        rw [this, ← hback]; rfl
      · left
        rw [e]
        refine ⟨hback, fun z hz => ?_⟩
        have hlo := hinv.prevDiv
        rw [hpi] at hlo
        exact no_div_inside _ h.bdSorted hlo hbi hz
  · intro b hb
    rw [hk] at hb
    rcases List.mem_append.1 hb with hb | hb
    · exact Nat.le_trans (h5.le b hb) (Nat.le_of_lt hlt)
    · rw [List.mem_singleton.1 hb]
  · rw [hk]
    show (0 :: (st.kept ++ [di]))[st.j + 1]? = some di
    rw [List.getElem?_cons_succ, List.getElem?_append_right (by rw [hkl]), hkl, Nat.sub_self]
    rfl

theorem deage_mergedBins {n : Nat} {op op' : OP} (hp : PartInv n op) (ha : AgeInv op) (hage : 0 < op.age)
    (hd : deage op = .ok op') : MergedBins op op' := by
  obtain ⟨st, hloop⟩ := deage_loop_of_ok hd
  obtain ⟨hinv, h5⟩ := deage_loop_with (DeageBins op) hp (DeageBins.init op)
    (fun _ _ _ _ _ _ _ hinv h5 hD _ hs1 hm => DeageBins.keep hp hinv h5 hD hs1 hm) hloop
  obtain ⟨op'', hd', ⟨hP', _, _, hdiv, _⟩, e1, _, _⟩ := deage_of_loop hp ha hage hloop hinv
  rw [hd] at hd'
  cases hd'
  -- the dividers of the result are the copied ones
  have hkept : op'.binDividers.toList = st.kept := by
    rw [hP'.bd_eq_map_divs, hdiv, ← deageKept_full hp]
    apply List.ext_getElem?
    intro k
    show _ = (⟨st.op.binDividers.data, st.j⟩ : Sl Nat).toList[k]?
    rw [Sl.getElem?_toList, List.getElem?_map, hinv.hj]
    by_cases hk : k < (deageKept op op.binAges.len).length
    · rw [if_pos hk, List.getElem?_eq_getElem hk, (hinv.lo k _ (List.getElem?_eq_getElem hk)).1]; rfl
    · rw [if_neg hk, List.getElem?_eq_none (Nat.le_of_not_lt hk)]; rfl
  intro t a b hta htb
  rw [hkept] at hta htb
  rw [e1]
  exact h5.front t a b hta htb

theorem deage_rearr {n : Nat} {op op' : OP} (h : PartInv n op) (ha : AgeInv op) (hage : 0 < op.age)
    (hd : deage op = .ok op') :
    ∀ p v, op'.order.toList[p]? = some v →
      ∃ q, op.order.toList[q]? = some v ∧ ∀ d a, (d, a) ∈ divs op → a ≠ op.age → (d ≤ q ↔ d ≤ p) := by
  obtain ⟨hP', _, _, hdiv, _⟩ := deage_inv h ha hage hd
  intro p v hv
  obtain ⟨q, hq, hsep⟩ := (deage_mergedBins h ha hage hd).rearr hP' p v hv
  refine ⟨q, hq, fun d a hda hne => hsep d ?_⟩
  have : (d, a) ∈ divs op' := by rw [hdiv, List.mem_filter]; exact ⟨hda, decide_eq_true hne⟩
  exact (List.of_mem_zip this).1

theorem MergedBins.binsSorted {n : Nat} {op op' : OP} (hm : MergedBins op op') (h : PartInv n op) (h' : PartInv n op')
    (hb : BinsSorted op) : BinsSorted op' := by
  apply binsSorted_of_bins h'
  intro t a b ha hbb
  obtain ⟨hlt, hbn, _⟩ := h'.bin_bounds ha hbb
  rcases hm t a b ha hbb with ⟨e, hin⟩ | e
  · rw [e]
    exact hb.seg hin (Nat.le_of_lt hlt) (by rw [h.length_order]; exact hbn)
  · rw [e]
    exact sortNat_pairwise_lt (((List.take_sublist _ _).trans (List.drop_sublist _ _)).nodup
      (h.perm.nodup_iff.2 List.nodup_range))

theorem deage_binsSorted {n : Nat} {op op' : OP} (hp : PartInv n op) (ha : AgeInv op) (hage : 0 < op.age)
    (hb : BinsSorted op) (hd : deage op = .ok op') : BinsSorted op' :=
  (deage_mergedBins hp ha hage hd).binsSorted hp (deage_inv hp ha hage hd).1 hb

end CanonF
