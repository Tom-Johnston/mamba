import Mamba.Lemmas.DenseRemove
/-!
# DenseGraph.InducedSubgraph refines `G.induced` (property C05)

The double loop visits the pairs `i < j` in the order of their byte positions, and an iteration either does nothing or
does what `AddEdge` does after its `IsEdge` test. So the value under construction is well-formed throughout
(`Dense.addEdge_core`), and the loop invariant only has to say which pairs have been visited.
-/
namespace GraphRep
open GraphSpec

/-- the value under construction in `InducedSubgraph` -/
def Dense.IsState.val (s : Dense.IsState) (n : Nat) : Dense := ⟨n, s.m, s.deg, s.edges⟩

/-- after the pairs at the positions below `k`: the value under construction is well-formed and holds the edges `R`
among those pairs -/
structure IsInv (n : Nat) (R : Nat → Nat → Bool) (k : Nat) (s : Dense.IsState) : Prop where
  index : s.index = k
  wf : (s.val n).WF
  adj : ∀ a b, a < b → (s.val n).abs.adj a b = (R a b && decide (tri b + a < k))

theorem visited_succ {i j a b : Nat} (hij : i < j) (hab : a < b) :
    decide (tri b + a < tri j + i + 1) = (decide (tri b + a < tri j + i) || (a == i && b == j)) := by
  have h : (a == i && b == j) = decide (a = i ∧ b = j) := Bool.eq_iff_iff.mpr (by simp)
  rw [h]
  refine (decide_eq_decide.mpr ?_).trans (Bool.decide_or _ _)
  rw [← tri_eq_iff hab hij]; omega

theorem and_pair_beq (R : Nat → Nat → Bool) (i j a b : Nat) :
    (R a b && (a == i && b == j)) = (R i j && (a == i && b == j)) := by
  by_cases h : a = i ∧ b = j
  · rw [h.1, h.2]
  · have : (a == i && b == j) = false := by simpa using h
    rw [this, Bool.and_false, Bool.and_false]

theorem Dense.isInner_step {g : Dense} (hs : g.edges.size = tri g.n) (V : List Nat) {i j : Nat}
    (hij : i < j) (hj : j < V.length) {s : Dense.IsState}
    (hinv : IsInv V.length (g.abs.induced V).adj (tri j + i) s) :
    ∃ s', Dense.isInner g V.toArray j s i = .ok s' ∧ IsInv V.length (g.abs.induced V).adj (tri j + i + 1) s' := by
  have hi : i < V.length := by omega
  have e1 : V.toArray[i]? = some (V.getD i 0) := by simp [hi]
  have e2 : V.toArray[j]? = some (V.getD j 0) := by simp [hj]
  have hnext : ∀ a b, a < b → ((g.abs.induced V).adj a b && decide (tri b + a < tri j + i + 1)) =
      ((s.val V.length).abs.adj a b || ((g.abs.induced V).adj i j && (a == i && b == j))) := by
    intro a b hab
    rw [visited_succ hij hab, Bool.and_or_distrib_left, hinv.adj a b hab, and_pair_beq]
  unfold Dense.isInner
  rw [e1, e2]
  simp only
  rw [Dense.isEdge_eq hs, ← induced_adj g.abs V hi hj]
  cases hA : (g.abs.induced V).adj i j
  · refine ⟨_, rfl, congrArg (· + 1) hinv.index, hinv.wf, fun a b hab => ?_⟩
    rw [hnext a b hab, hA, Bool.false_and, Bool.or_false]
    rfl
  · have hne : i ≠ j := Nat.ne_of_lt hij
    have hold : (s.val V.length).abs.adj i j = false := by
      rw [hinv.adj i j hij, decide_eq_false (Nat.lt_irrefl _), Bool.and_false]
    obtain ⟨d1, d2, r1, r2, r3, hds, hd⟩ := Dense.edit_run hinv.wf (show i < V.length from hi) hj hne 1 1
    rw [if_pos hij, ← hinv.index] at r3
    have r3' : setA s.edges s.index 1 = .ok (s.edges.setIfInBounds s.index 1) := r3
    have r1' : addA s.deg i 1 = .ok d1 := r1
    simp only [r3', r1', r2]
    obtain ⟨hwf, habs⟩ := Dense.addEdge_core (g' := ⟨V.length, s.m + 1, d2, s.edges.setIfInBounds s.index 1⟩)
      hinv.wf (show i < V.length from hi) hj hne hold rfl rfl (by rw [if_pos hij, ← hinv.index]; rfl) hds hd
    refine ⟨_, rfl, congrArg (· + 1) hinv.index, hwf, fun a b hab => ?_⟩
    show (Dense.abs ⟨V.length, s.m + 1, d2, s.edges.setIfInBounds s.index 1⟩).adj a b = _
    rw [habs, hnext a b hab, hA, Bool.true_and]
    show ((s.val V.length).abs.adj a b || _) = _
    rw [pair_beq hij hab (Or.inl ⟨rfl, rfl⟩), bne_iff_ne.mpr hne, Bool.true_and]

theorem Dense.isRow {g : Dense} (hs : g.edges.size = tri g.n) (V : List Nat) {j : Nat} (hj : j < V.length)
    {s0 : Dense.IsState} (hinv : IsInv V.length (g.abs.induced V).adj (tri j) s0) :
    ∃ s, loopM (Dense.isInner g V.toArray j) (List.range j) s0 = .ok s ∧
      IsInv V.length (g.abs.induced V).adj (tri (j + 1)) s := by
  have key := loopM_range' (Dense.isInner g V.toArray j)
    (fun t s => IsInv V.length (g.abs.induced V).adj (tri j + t) s) 0 j 0 s0 hinv
    (fun t s _ ht hI => by rw [Nat.zero_add]; exact Dense.isInner_step hs V (by omega) hj hI)
  rw [Nat.zero_add, Nat.zero_add, ← List.range_eq_range', ← tri_succ] at key
  exact key

theorem Dense.inducedSubgraph_spec {g : Dense} (hs : g.edges.size = tri g.n) (V : List Nat) :
    ∃ g', g.inducedSubgraph V = .ok g' ∧ g'.WF ∧ g'.abs = g.abs.induced V := by
  have hH := induced_wf g.abs_wf V
  obtain ⟨s, hrun, hinv⟩ := loopM_range' (fun s j => loopM (Dense.isInner g V.toArray j) (List.range j) s)
    (fun t s => IsInv V.length (g.abs.induced V).adj (tri (1 + t)) s) 1 (V.length - 1) 0
    ⟨Array.replicate (tri V.length) 0, 0, Array.replicate V.length 0, 0⟩
    ⟨rfl, Dense.new_wf V.length, fun a b _ => by
      show (Dense.new V.length).abs.adj a b = _
      rw [Dense.new_adj]; simp [tri]⟩
    (fun t s _ ht hI => Dense.isRow hs V (by omega) hI)
  unfold Dense.inducedSubgraph
  simp only
  rw [Nat.add_zero] at hrun
  rw [hrun]
  refine ⟨_, rfl, hinv.wf, (Dense.abs_wf _).ext_lt hH rfl fun a b hab => ?_⟩
  show (s.val V.length).abs.adj a b = _
  rw [hinv.adj a b hab]
  by_cases hb : b < V.length
  · have := tri_add_lt hab hb
    rw [show 1 + (0 + (V.length - 1)) = V.length by omega]
    simp [this]
  · cases hc : (g.abs.induced V).adj a b
    · rfl
    · exact absurd (hH.supp _ _ hc).2 hb

end GraphRep
