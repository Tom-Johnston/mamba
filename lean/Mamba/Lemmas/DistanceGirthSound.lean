import Mamba.Lemmas.DistanceCycles
import Mamba.Lemmas.DistanceGirthModel
import Mamba.Lemmas.DistanceComp
/-!
# Lemmas for C10: the BFS-tree invariant of the `Girth` model

Every value written to `girth` is at least the length of some cycle: an edge between two vertices of the tree that is
not a tree edge closes a cycle along the two tree paths.
-/
namespace GDist
open GraphSpec

def delEdge (g : G) (a b : Nat) : G :=
  { n := g.n, adj := fun u v => g.adj u v && !((u == a && v == b) || (u == b && v == a)) }

theorem delEdge_adj {g : G} {a b u v : Nat} :
    (delEdge g a b).adj u v = true ↔ (g.adj u v = true ∧ ¬ (u = a ∧ v = b) ∧ ¬ (u = b ∧ v = a)) := by
  simp only [delEdge, Bool.and_eq_true, Bool.not_eq_true', Bool.or_eq_false_iff, Bool.and_eq_false_imp,
    beq_iff_eq, beq_eq_false_iff_ne, ne_eq, not_and]

theorem cycle_of_edge_walk {g : G} (hsym : ∀ u v, g.adj u v = g.adj v u) {a b m : Nat}
    (hab : g.adj a b = true) (hne : a ≠ b) (hw : Walk (delEdge g a b) a b m) :
    ∃ c, IsCycleSeq g c ∧ c.length ≤ m + 1 := by
  obtain ⟨m', hm', hd⟩ := exists_isDistIn_of_walk hw
  obtain ⟨l, hl, hnd, hV, hch, hhead, hlast, _⟩ := hd.path
  -- a walk with no edge would mean `a = b`, one with a single edge would use the deleted edge
  have hm2 : 2 ≤ m' := by
    match m', hd with
    | 0, hd => exact absurd (walkIn_zero_iff.1 hd.1).1.symm hne
    | 1, hd =>
      obtain ⟨u, hu, hadj, _⟩ := walkIn_succ_iff.1 hd.1
      obtain rfl : u = a := (walkIn_zero_iff.1 hu).1
      exact absurd ⟨rfl, rfl⟩ (delEdge_adj.1 hadj).2.1
    | m + 2, _ => exact Nat.le_add_left 2 m
  refine ⟨l, ⟨by rw [hl]; exact Nat.succ_le_succ hm2, hnd, fun y hy => List.mem_range.1 (hV y hy), ?_, ?_⟩,
    by rw [hl]; exact Nat.succ_le_succ hm'⟩
  · exact chainAdj_mono (fun u v h => (delEdge_adj.1 h).1) l hch
  · rw [List.headD_eq_head?_getD, List.getLastD_eq_getLast?, hhead, hlast, hsym]; exact hab

def CycLe (g : G) (v : Nat) : Prop := ∃ c, IsCycleSeq g c ∧ c.length ≤ v

/-- the BFS tree of the `Girth` model from root `i` while the neighbours `js` of `k` remain to be scanned: labelled
vertices hang below their parents with labels one larger, parents have left the queue, and the `girth` variable is
`n + 2` or bounded below by the length of some cycle -/
structure GInv (g : G) (i : Nat) (st : Model.GirthSt) (k : Nat) (js : List Nat) : Prop where
  dsize : st.D.size = g.n
  psize : st.P.size = g.n
  root0 : lbl st.D i = 0
  tree : ∀ x, x < g.n → x ≠ i → lbl st.D x ≠ 0 →
    lbl st.P x < g.n ∧ g.adj (lbl st.P x) x = true ∧
    ((lbl st.P x = i ∧ lbl st.D x = 1) ∨
     (lbl st.P x ≠ i ∧ lbl st.D (lbl st.P x) ≠ 0 ∧ lbl st.D x = lbl st.D (lbl st.P x) + 1))
  qok : ∀ x ∈ st.Q, x < g.n ∧ (x = i ∨ lbl st.D x ≠ 0)
  qnd : st.Q.Nodup
  parq : ∀ x, x < g.n → x ≠ i → lbl st.D x ≠ 0 → lbl st.P x ∉ st.Q
  knq : k ∉ st.Q
  scan : ∀ x, x < g.n → x ≠ i → lbl st.D x ≠ 0 → lbl st.P x = k → x ∉ js
  sound : st.girth = g.n + 2 ∨ CycLe g st.girth

variable {g : G} {i : Nat}

theorem delEdge_symm (hsym : ∀ u v, g.adj u v = g.adj v u) (a b : Nat) :
    ∀ u v, (delEdge g a b).adj u v = (delEdge g a b).adj v u := by
  intro u v
  show (g.adj u v && !((u == a && v == b) || (u == b && v == a))) =
    (g.adj v u && !((v == a && u == b) || (v == b && u == a)))
  rw [hsym u v, Bool.or_comm (u == a && v == b), Bool.and_comm (u == a), Bool.and_comm (u == b)]

theorem tree_walk {st : Model.GirthSt} {k : Nat} {js : List Nat} (hi : i < g.n) (inv : GInv g i st k js)
    {a b : Nat}
    (hnt1 : ¬ (a ≠ i ∧ lbl st.D a ≠ 0 ∧ lbl st.P a = b))
    (hnt2 : ¬ (b ≠ i ∧ lbl st.D b ≠ 0 ∧ lbl st.P b = a)) :
    ∀ d x, x < g.n → (x = i ∨ lbl st.D x ≠ 0) → lbl st.D x = d → Walk (delEdge g a b) i x d := by
  intro d
  induction d using Nat.strongRecOn with
  | _ d ih =>
    intro x hx hxr hd
    by_cases hxi : x = i
    · subst hxi
      rw [← hd, inv.root0]
      exact .base (List.mem_range.2 hi)
    · have hlab : lbl st.D x ≠ 0 := hxr.resolve_left hxi
      obtain ⟨hp, hadj, hcase⟩ := inv.tree x hx hxi hlab
      have hstep : (delEdge g a b).adj (lbl st.P x) x = true := by
        rw [delEdge_adj]
        refine ⟨hadj, ?_, ?_⟩
        · rintro ⟨h1, h2⟩
          exact hnt2 ⟨by rw [← h2]; exact hxi, by rw [← h2]; exact hlab, by rw [← h2]; exact h1⟩
        · rintro ⟨h1, h2⟩
          exact hnt1 ⟨by rw [← h2]; exact hxi, by rw [← h2]; exact hlab, by rw [← h2]; exact h1⟩
      obtain ⟨hpr, hpd⟩ : (lbl st.P x = i ∨ lbl st.D (lbl st.P x) ≠ 0) ∧ d = lbl st.D (lbl st.P x) + 1 := by
        rcases hcase with ⟨hpi, h1⟩ | ⟨_, hpl, h1⟩
        · exact ⟨.inl hpi, by rw [hpi, inv.root0, ← hd, h1]⟩
        · exact ⟨.inr hpl, by rw [← hd, h1]⟩
      rw [hpd]
      exact .step (ih _ (by omega) _ hp hpr rfl) hstep (List.mem_range.2 hx)

theorem ginv_cycle {st : Model.GirthSt} {k0 : Nat} {js : List Nat} (hsym : ∀ u v, g.adj u v = g.adj v u)
    (hi : i < g.n) (inv : GInv g i st k0 js) {k j : Nat} (hk : k < g.n) (hj : j < g.n)
    (hkr : k = i ∨ lbl st.D k ≠ 0) (hjr : j = i ∨ lbl st.D j ≠ 0) (hadj : g.adj k j = true) (hkj : k ≠ j)
    (hnt1 : ¬ (k ≠ i ∧ lbl st.D k ≠ 0 ∧ lbl st.P k = j))
    (hnt2 : ¬ (j ≠ i ∧ lbl st.D j ≠ 0 ∧ lbl st.P j = k)) : CycLe g (lbl st.D k + lbl st.D j + 1) :=
  cycle_of_edge_walk hsym hadj hkj
    (WalkIn.trans (WalkIn.symm (delEdge_symm hsym k j) (tree_walk hi inv hnt1 hnt2 _ k hk hkr rfl))
      (tree_walk hi inv hnt1 hnt2 _ j hj hjr rfl))

theorem ginv_next {st : Model.GirthSt} {k j v : Nat} {js : List Nat} (inv : GInv g i st k (j :: js))
    (hv : v = st.girth ∨ CycLe g v) : GInv g i { st with girth := v } k js :=
  { dsize := inv.dsize, psize := inv.psize, root0 := inv.root0, tree := inv.tree, qok := inv.qok,
    qnd := inv.qnd, parq := inv.parq, knq := inv.knq,
    scan := fun x h1 h2 h3 h4 hm => inv.scan x h1 h2 h3 h4 (List.mem_cons_of_mem _ hm),
    sound := hv.elim (fun h => by rw [h]; exact inv.sound) .inr }

/-- `st'` is `st` after the neighbour `j` of `k` got label `v` and parent `k` and joined the queue -/
structure Labels (st st' : Model.GirthSt) (j k v : Nat) : Prop where
  D : ∀ w, lbl st'.D w = if w = j then v else lbl st.D w
  P : ∀ w, lbl st'.P w = if w = j then k else lbl st.P w
  Q : st'.Q = st.Q ++ [j]
  girth : st'.girth = st.girth
  dsize : st'.D.size = st.D.size
  psize : st'.P.size = st.P.size

theorem labels_set {st : Model.GirthSt} {j k v : Nat} (hjD : j < st.D.size) (hjP : j < st.P.size) :
    Labels st { st with P := st.P.set j k hjP, D := st.D.set j v hjD, Q := st.Q ++ [j] } j k v :=
  { D := fun _ => lbl_set hjD, P := fun _ => lbl_set hjP, Q := rfl, girth := rfl, dsize := Array.size_set hjD,
    psize := Array.size_set hjP }

theorem ginv_label {st st' : Model.GirthSt} {k j dk : Nat} {js : List Nat} (inv : GInv g i st k (j :: js))
    (hk : k < g.n) (hkr : k = i ∨ lbl st.D k ≠ 0) (hdk : lbl st.D k = dk)
    (hjn : j < g.n) (hadj : g.adj k j = true) (hji : j ≠ i) (hz : lbl st.D j = 0) (hnd : j ∉ js)
    (L : Labels st st' j k (dk + 1)) : GInv g i st' k js := by
  -- a vertex that is the root or labelled is not j
  have hnotj : ∀ w, (w = i ∨ lbl st.D w ≠ 0) → w ≠ j := by
    rintro w (h | h) rfl
    · exact hji h
    · exact h hz
  have hkj : k ≠ j := hnotj k hkr
  -- the parent of a vertex labelled before is not j
  have hpj : ∀ x, x < g.n → x ≠ i → lbl st.D x ≠ 0 → lbl st.P x ≠ j := by
    intro x hx hxi hlab
    apply hnotj
    rcases (inv.tree x hx hxi hlab).2.2 with ⟨h, _⟩ | ⟨_, h, _⟩
    · exact .inl h
    · exact .inr h
  refine { dsize := L.dsize.trans inv.dsize, psize := L.psize.trans inv.psize, root0 := ?_, tree := ?_, qok := ?_,
           qnd := ?_, parq := ?_, knq := ?_, scan := ?_, sound := by rw [L.girth]; exact inv.sound }
  · rw [L.D, if_neg (Ne.symm hji)]; exact inv.root0
  · intro x hx hxi hlab
    by_cases hxj : x = j
    · subst hxj
      simp only [L.P, L.D, if_true, hkj, if_false]
      refine ⟨hk, hadj, ?_⟩
      rcases hkr with h | h
      · left; subst h; rw [inv.root0] at hdk; subst hdk; exact ⟨rfl, rfl⟩
      · right
        refine ⟨?_, by rw [hdk]; rw [hdk] at h; exact h, by rw [hdk]⟩
        rintro rfl
        exact h inv.root0
    · rw [L.D, if_neg hxj] at hlab
      simp only [L.P, L.D, hxj, if_false, hpj x hx hxi hlab]
      exact inv.tree x hx hxi hlab
  · intro x hx
    rw [L.Q] at hx
    rw [L.D]
    rcases List.mem_append.1 hx with hx | hx
    · obtain ⟨h1, h2⟩ := inv.qok x hx
      rw [if_neg (hnotj x h2)]
      exact ⟨h1, h2⟩
    · rw [List.mem_singleton.1 hx, if_pos rfl]
      exact ⟨hjn, .inr (Nat.succ_ne_zero _)⟩
  · rw [L.Q, List.nodup_append]
    refine ⟨inv.qnd, List.pairwise_singleton _ j, ?_⟩
    intro a ha b hb
    rw [List.mem_singleton.1 hb]
    exact hnotj a (inv.qok a ha).2
  · intro x hx hxi hlab
    rw [L.D] at hlab
    rw [L.Q, L.P]
    intro hm
    by_cases hxj : x = j
    · rw [if_pos hxj] at hm
      rcases List.mem_append.1 hm with hm | hm
      · exact inv.knq hm
      · exact hkj (List.mem_singleton.1 hm)
    · rw [if_neg hxj] at hlab hm
      rcases List.mem_append.1 hm with hm | hm
      · exact inv.parq x hx hxi hlab hm
      · exact hpj x hx hxi hlab (List.mem_singleton.1 hm)
  · rw [L.Q]
    intro hm
    rcases List.mem_append.1 hm with hm | hm
    · exact inv.knq hm
    · exact hkj (List.mem_singleton.1 hm)
  · intro x hx hxi hlab hpk
    by_cases hxj : x = j
    · subst hxj; exact hnd
    · rw [L.D, if_neg hxj] at hlab
      rw [L.P, if_neg hxj] at hpk
      exact fun hm => inv.scan x hx hxi hlab hpk (List.mem_cons_of_mem _ hm)

/-- the next vertex `k` is taken from the queue: its tree children are not among its neighbours yet to be scanned,
because their parent was still in the queue -/
theorem ginv_pop {st : Model.GirthSt} {k k0 : Nat} {Q : List Nat} (inv : GInv g i st k0 []) (hQ : st.Q = k :: Q) :
    GInv g i { st with Q := Q } k (g.nbrs k) := by
  have hqnd : (k :: Q).Nodup := hQ ▸ inv.qnd
  exact
    { dsize := inv.dsize, psize := inv.psize, root0 := inv.root0, tree := inv.tree,
      qok := fun x hx => inv.qok x (by rw [hQ]; exact List.mem_cons_of_mem _ hx),
      qnd := (List.nodup_cons.1 hqnd).2,
      parq := fun x h1 h2 h3 hm => inv.parq x h1 h2 h3 (by rw [hQ]; exact List.mem_cons_of_mem _ hm),
      knq := (List.nodup_cons.1 hqnd).1,
      scan := fun x h1 h2 h3 h4 _ => inv.parq x h1 h2 h3 (by rw [h4, hQ]; exact List.mem_cons_self),
      sound := inv.sound }

/-- the state at the start of the BFS from root `i`; the parents left by earlier roots are arbitrary -/
theorem ginv_init {st : Model.GirthSt} (hi : i < g.n) (hP : st.P.size = g.n)
    (hs : st.girth = g.n + 2 ∨ CycLe g st.girth) :
    GInv g i { st with D := Array.replicate g.n 0, Q := [i] } g.n [] :=
  { dsize := Array.size_replicate, psize := hP, root0 := lbl_replicate g.n i,
    tree := fun x _ _ h => absurd (lbl_replicate g.n x) h,
    qok := fun x hx => by rw [List.mem_singleton.1 hx]; exact ⟨hi, .inl rfl⟩,
    qnd := List.pairwise_singleton _ i,
    parq := fun x _ _ h => absurd (lbl_replicate g.n x) h,
    knq := fun h => Nat.lt_irrefl _ (List.mem_singleton.1 h ▸ hi),
    scan := fun x _ _ h => absurd (lbl_replicate g.n x) h,
    sound := hs }

end GDist
