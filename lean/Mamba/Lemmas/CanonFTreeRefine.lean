import Mamba.Lemmas.CanonFCellBin
/-!
# One refinement iteration at the level of colourings: `refineIter_col`, `refineLoop_worse`

From `SplitRel` and `SplitX` of CanonFRefineCall.lean (the split bin is sorted by the counts, the new dividers sit where the
count changes, the new work list): how the cell of every vertex changes in one split (`SplitRel.cells`); `ColInv` is the
invariant of the loop over the bins.  At the end the state in which the refinement aborts with "worse"
(`refineIter_worse_col`, `refineLoop_worse`).
-/
namespace CanonF


theorem binIdx_add (bd : List Nat) {p q : Nat} (h : p ≤ q) :
    binIdx bd q = binIdx bd p + bd.countP (fun d => decide (p < d ∧ d ≤ q)) := by
  unfold binIdx
  induction bd with
  | nil => rfl
  | cons x xs ih =>
    rw [List.countP_cons, List.countP_cons, List.countP_cons, ih]
    have e1 : (if decide (x ≤ q) = true then 1 else 0) = if x ≤ q then 1 else 0 := by
      by_cases h : x ≤ q <;> simp [h]
    have e2 : (if decide (x ≤ p) = true then 1 else 0) = if x ≤ p then 1 else 0 := by
      by_cases h : x ≤ p <;> simp [h]
    have e3 : (if decide (p < x ∧ x ≤ q) = true then 1 else 0) = if p < x ∧ x ≤ q then 1 else 0 := by
      by_cases h : p < x ∧ x ≤ q
      · rw [if_pos h, if_pos (decide_eq_true h)]
      · rw [if_neg h, if_neg (by rw [decide_eq_false h]; exact Bool.false_ne_true)]
    rw [e1, e2, e3]
    by_cases h1 : x ≤ p
    · rw [if_pos h1, if_pos (show x ≤ q by omega), if_neg (show ¬ (p < x ∧ x ≤ q) by omega)]; omega
    · by_cases h2 : x ≤ q
      · rw [if_neg h1, if_pos h2, if_pos (show p < x ∧ x ≤ q by omega)]; omega
      · rw [if_neg h1, if_neg h2, if_neg (show ¬ (p < x ∧ x ≤ q) by omega)]; omega

theorem binIdx_lt_iff (bd : List Nat) (p q : Nat) :
    binIdx bd p < binIdx bd q ↔ ∃ d ∈ bd, p < d ∧ d ≤ q := by
  by_cases h : p ≤ q
  · rw [binIdx_add bd h]
    constructor
    · intro hlt
      have : 0 < bd.countP (fun d => decide (p < d ∧ d ≤ q)) := by omega
      obtain ⟨d, hd, hpd⟩ := List.countP_pos_iff.1 this
      exact ⟨d, hd, by simpa using hpd⟩
    · rintro ⟨d, hd, hpd⟩
      have : 0 < bd.countP (fun d => decide (p < d ∧ d ≤ q)) :=
        List.countP_pos_iff.2 ⟨d, hd, by simpa using hpd⟩
      omega
  · have := binIdx_mono bd (show q ≤ p by omega)
    constructor
    · intro hlt; omega
    · rintro ⟨d, _, h1, h2⟩; omega

theorem binIdx_cmp {bd : List Nat} (hs : bd.Pairwise (· < ·)) {j bs dj : Nat}
    (hbs : (0 :: bd)[j]? = some bs) (hdj : bd[j]? = some dj) (p : Nat) :
    (binIdx bd p < j ↔ p < bs) ∧ (j < binIdx bd p ↔ dj ≤ p) := by
  have h0 := binIdx_eq_iff_mem_bin hs hbs hdj p
  obtain ⟨hj, hdj'⟩ := List.getElem?_eq_some_iff.1 hdj
  have h1 := sorted_lt_iff_idx bd hs (p + 1) j hj
  rw [hdj', ← binIdx_eq] at h1
  have hlt : bs < dj ∨ bs ≥ dj := by omega
  constructor
  · constructor
    · intro h
      apply Nat.lt_of_not_le
      intro hge
      by_cases hp : p < dj
      · have := h0.2 ⟨hge, hp⟩; omega
      · have := h1.1 (by omega); omega
    · intro h
      cases j with
      | zero => simp at hbs; omega
      | succ k =>
        rw [List.getElem?_cons_succ] at hbs
        obtain ⟨hk, hbs'⟩ := List.getElem?_eq_some_iff.1 hbs
        have h2 := sorted_lt_iff_idx bd hs (p + 1) k hk
        rw [hbs', ← binIdx_eq] at h2
        omega
  · constructor
    · intro h; have := h1.2 h; omega
    · intro h; exact h1.1 (by omega)

theorem binIdx_eq_zero_of_le {l : List Nat} {p b : Nat} (h : ∀ x ∈ l, b < x) (hp : p ≤ b) : binIdx l p = 0 := by
  unfold binIdx
  rw [List.countP_eq_zero]
  intro x hx
  have := h x hx
  simp; omega

theorem binIdx_eq_length_of_le {l : List Nat} {p b : Nat} (h : ∀ x ∈ l, x < b) (hp : b ≤ p) : binIdx l p = l.length := by
  unfold binIdx
  rw [List.countP_eq_length]
  intro x hx
  have := h x hx
  simp; omega

theorem skip_allEq {n : Nat} {op : OP} {sc : Scratch} {j bs dj : Nat} (hp : PartInv n op)
    (hcc : CellCount op sc.timesSeen sc.maxCell sc.numberOfMax j)
    (hbs : (0 :: op.binDividers.toList)[j]? = some bs) (hdj : op.binDividers.toList[j]? = some dj)
    (hr : SkipReason sc j bs dj) :
    ∀ a ∈ rfSeg op.order.toList bs dj, ∀ b ∈ rfSeg op.order.toList bs dj, rfTv sc.timesSeen a = rfTv sc.timesSeen b := by
  obtain ⟨c1, c2, _⟩ := hcc bs dj hbs hdj
  obtain ⟨hlt, hdn, holen⟩ := hp.bin_bounds hbs hdj
  intro a ha b hb
  obtain ⟨pa, a1, a2, a3⟩ := mem_rfSeg.1 ha
  obtain ⟨pb, b1, b2, b3⟩ := mem_rfSeg.1 hb
  rcases hr with h1 | ⟨mc, hmc, h2 | ⟨nm, hnm, _, h3⟩⟩
  · have : pa = pb := by omega
    subst this
    rw [a3] at b3
    rw [Option.some.inj b3]
  · rw [rfDv_of_get hmc, h2] at c1
    have := c1 pa a a1 a2 a3
    have := c1 pb b b1 b2 b3
    omega
  · rw [rfDv_of_get hmc] at c1 c2
    rw [rfDv_of_get hnm] at c2
    by_cases hm0 : mc = 0
    · rw [hm0] at c1
      have := c1 pa a a1 a2 a3
      have := c1 pb b b1 b2 b3
      omega
    · have hc := c2 (by omega)
      have hl : (rfSeg op.order.toList bs dj).length = dj - bs := length_rfSeg _ _ _ (by omega) (by omega)
      have hall := List.countP_eq_length.1 (by rw [← hc, hl]; exact h3)
      have := hall a ha
      have := hall b hb
      simp only [decide_eq_true_eq] at *
      omega


theorem SplitX.nmem {ts : Sl Nat} {j bs dj : Nat} {K nbsL : List Nat} {op op2 : OP}
    (hx : SplitX ts j bs dj K nbsL op op2) (x : Nat) :
    x ∈ nbsL ↔ ∃ k, 1 ≤ k ∧ k < K.length ∧ x = bs + k ∧ rfTv ts (K.getD k 0) ≠ rfTv ts (K.getD (k - 1) 0) := by
  rw [hx.divs]; exact mem_newDivs

theorem mem_ofNat_range {j m : Nat} {x : Int} :
    x ∈ (List.range' j (m + 1)).map Int.ofNat ↔ (j : Int) ≤ x ∧ x ≤ ((j + m : Nat) : Int) := by
  rw [List.mem_map]
  constructor
  · rintro ⟨t, ht, rfl⟩
    rw [List.mem_range'_1] at ht
    simp only [Int.ofNat_eq_natCast]
    omega
  · rintro ⟨h1, h2⟩
    refine ⟨x.toNat, ?_, ?_⟩
    · rw [List.mem_range'_1]; omega
    · simp only [Int.ofNat_eq_natCast]; omega

theorem SplitX.btc_mem {ts : Sl Nat} {j bs dj : Nat} {K nbsL : List Nat} {op op2 : OP}
    (hx : SplitX ts j bs dj K nbsL op op2) (hb : BtcInv op) (x : Int) :
    x ∈ op2.binsToCheck.toList ↔
      (∃ y ∈ op.binsToCheck.toList, btcShiftF j nbsL.length y = x) ∨
        ((j : Int) ≤ x ∧ x ≤ ((j + nbsL.length : Nat) : Int)) := by
  rw [(hx.btc hb.wf hb.sorted).2.1, SortInts.mem_union, List.mem_map, mem_ofNat_range]

theorem SplitX.btcInv {n : Nat} {ts : Sl Nat} {j bs dj : Nat} {K nbsL : List Nat} {op op2 : OP}
    (hx : SplitX ts j bs dj K nbsL op op2) (hrel : SplitRel n j bs dj K nbsL op op2) (hp : PartInv n op)
    (hb : BtcInv op) : BtcInv op2 := by
  obtain ⟨hw, hl, _⟩ := hx.btc hb.wf hb.sorted
  have hjl : j < op.binDividers.len := by
    have := (hrel.lens hp).1
    rw [hp.length_bd] at this; exact this
  obtain ⟨q1, q2, _, _⟩ := btc_union_facts (j := j) (idx := nbsL.length) hb.sorted hb.range hjl
  refine ⟨hw, by rw [hl]; exact q1, ?_⟩
  intro x hx'
  rw [hl] at hx'
  rw [hrel.bdLen hp]
  exact q2 x hx'


theorem mono_change_iff (f : Nat → Nat) (L : Nat) (hmono : ∀ a b, a ≤ b → b < L → f a ≤ f b) {a b : Nat}
    (ha : a < L) (hb : b < L) : (∃ k, a < k ∧ k ≤ b ∧ f k ≠ f (k - 1)) ↔ f a < f b := by
  constructor
  · rintro ⟨k, h1, h2, h3⟩
    have e1 := hmono a (k - 1) (by omega) (by omega)
    have e2 := hmono (k - 1) k (by omega) (by omega)
    have e3 := hmono k b h2 hb
    omega
  · intro hlt
    have hab : a < b := by
      apply Nat.lt_of_not_le
      intro hle
      have := hmono b a hle ha
      omega
    apply Classical.byContradiction
    intro hno
    have hall : ∀ d, a + d ≤ b → f (a + d) = f a := by
      intro d
      induction d with
      | zero => intro _; rfl
      | succ d ih =>
        intro hd
        have := ih (by omega)
        have h2 : f (a + (d + 1)) = f (a + (d + 1) - 1) :=
          Classical.byContradiction (fun hne => hno ⟨a + (d + 1), by omega, hd, hne⟩)
        rw [h2, show a + (d + 1) - 1 = a + d by omega, this]
    have := hall (b - a) (by omega)
    rw [show a + (b - a) = b by omega] at this
    omega

theorem SplitRel.pos {n j bs dj : Nat} {K nbsL : List Nat} {op op2 : OP} (h : SplitRel n j bs dj K nbsL op op2)
    (hp : PartInv n op) {p1 v : Nat} (hv : op.order.toList[p1]? = some v) :
    ∃ p2, op2.order.toList[p2]? = some v ∧
      (((p1 < bs ∨ dj ≤ p1) ∧ p2 = p1) ∨ (bs ≤ p1 ∧ p1 < dj ∧ bs ≤ p2 ∧ p2 < dj ∧ K[p2 - bs]? = some v)) := by
  by_cases h1 : p1 < bs
  · exact ⟨p1, by rw [h.order_lt hp h1]; exact hv, Or.inl ⟨Or.inl h1, rfl⟩⟩
  · by_cases h2 : p1 < dj
    · have hvs : v ∈ rfSeg op.order.toList bs dj := mem_rfSeg.2 ⟨p1, Nat.le_of_not_lt h1, h2, hv⟩
      obtain ⟨a, ha⟩ := List.mem_iff_getElem?.1 (h.kperm.mem_iff.2 hvs)
      have hal := (List.getElem?_eq_some_iff.1 ha).1
      rw [(h.bounds hp).2.2.2] at hal
      have hk : K[bs + a - bs]? = some v := by rw [Nat.add_sub_cancel_left]; exact ha
      exact ⟨bs + a, by rw [h.order_in hp (Nat.le_add_right _ _) (by omega)]; exact hk,
        Or.inr ⟨Nat.le_of_not_lt h1, h2, Nat.le_add_right _ _, by omega, hk⟩⟩
    · exact ⟨p1, by rw [h.order_ge hp (Nat.le_of_not_lt h2)]; exact hv, Or.inl ⟨Or.inr (Nat.le_of_not_lt h2), rfl⟩⟩


/-- old and new position and cell of a vertex -/
theorem SplitRel.vertex {n j bs dj : Nat} {K nbsL : List Nat} {op op2 : OP} (h : SplitRel n j bs dj K nbsL op op2)
    (hp : PartInv n op) {v : Nat} (hv : v < n) :
    ∃ p1 p2, cellOf op v = binIdx op.binDividers.toList p1 ∧
      cellOf op2 v = binIdx op.binDividers.toList p2 + binIdx nbsL p2 ∧
      (((p1 < bs ∨ dj ≤ p1) ∧ p2 = p1) ∨ (bs ≤ p1 ∧ p1 < dj ∧ bs ≤ p2 ∧ p2 < dj ∧ K[p2 - bs]? = some v)) := by
  obtain ⟨p1, _, hp1, hc1⟩ := cellOf_pos hp hv
  obtain ⟨p2, hp2, hcase⟩ := h.pos hp hp1
  refine ⟨p1, p2, hc1, ?_, hcase⟩
  rw [cellOf_order h.inv hp2, h.bd, binIdx_insert_block]

theorem SplitRel.cells {n j bs dj : Nat} {K nbsL : List Nat} {op op2 : OP} {ts : Sl Nat}
    (h : SplitRel n j bs dj K nbsL op op2) (hx : SplitX ts j bs dj K nbsL op op2) (hp : PartInv n op) :
    (∀ v, v < n → (cellOf op v < j → cellOf op2 v = cellOf op v) ∧
      (j < cellOf op v → cellOf op2 v = cellOf op v + nbsL.length) ∧
      (cellOf op v = j → j ≤ cellOf op2 v ∧ cellOf op2 v ≤ j + nbsL.length)) ∧
    (∀ u v, u < n → v < n → cellOf op u = j → cellOf op v = j →
      (cellOf op2 u < cellOf op2 v ↔ rfTv ts u < rfTv ts v)) := by
  have hs : op.binDividers.toList.Pairwise (· < ·) := hp.bdSorted
  have hcmp := fun p => binIdx_cmp hs h.hbs h.hdj p
  have heq := fun p => binIdx_eq_iff_mem_bin hs h.hbs h.hdj p
  constructor
  · intro v hv
    obtain ⟨p1, p2, e1, e2, hcase⟩ := h.vertex hp hv
    refine ⟨?_, ?_, ?_⟩
    · intro hlt1
      rw [e1] at hlt1
      have hp1 := (hcmp p1).1.1 hlt1
      rcases hcase with ⟨_, rfl⟩ | ⟨_, _, _, _, _⟩
      · rw [e2, e1, binIdx_eq_zero_of_le (b := bs) (fun x hx' => (h.nrange x hx').1) (by omega)]; rfl
      · omega
    · intro hgt
      rw [e1] at hgt
      have hp1 := (hcmp p1).2.1 hgt
      rcases hcase with ⟨_, rfl⟩ | ⟨_, _, _, _, _⟩
      · rw [e2, e1, binIdx_eq_length_of_le (b := dj) (fun x hx' => (h.nrange x hx').2) hp1]
      · omega
    · intro hj
      rw [e1] at hj
      have hp1 := (heq p1).1 hj
      rcases hcase with ⟨hout, _⟩ | ⟨_, _, g1, g2, _⟩
      · omega
      · have := (heq p2).2 ⟨g1, g2⟩
        have := binIdx_le_length nbsL p2
        rw [e2]; omega
  · intro u v hu hv hcu hcv
    obtain ⟨pu1, pu2, eu1, eu2, hcaseu⟩ := h.vertex hp hu
    obtain ⟨pv1, pv2, ev1, ev2, hcasev⟩ := h.vertex hp hv
    rw [eu1] at hcu
    rw [ev1] at hcv
    have hpu := (heq pu1).1 hcu
    have hpv := (heq pv1).1 hcv
    rcases hcaseu with ⟨_, _⟩ | ⟨_, _, gu1, gu2, gu3⟩
    · omega
    rcases hcasev with ⟨_, _⟩ | ⟨_, _, gv1, gv2, gv3⟩
    · omega
    -- positions `bs + a` and `bs + b` inside the bin
    obtain ⟨a, rfl⟩ := Nat.exists_eq_add_of_le gu1
    obtain ⟨b, rfl⟩ := Nat.exists_eq_add_of_le gv1
    rw [Nat.add_sub_cancel_left] at gu3 gv3
    have hal := (List.getElem?_eq_some_iff.1 gu3).1
    have hbl := (List.getElem?_eq_some_iff.1 gv3).1
    rw [eu2, ev2, (heq _).2 ⟨gu1, gu2⟩, (heq _).2 ⟨gv1, gv2⟩, Nat.add_lt_add_iff_left, binIdx_lt_iff]
    -- the counts ascend along `K`, so they differ between `a` and `b` iff they change somewhere in between, which is
    -- where the new dividers are
    have hmono : ∀ a b, a ≤ b → b < K.length → rfTv ts (K.getD a 0) ≤ rfTv ts (K.getD b 0) := by
      intro a b hab hb
      rw [List.getD_eq_getElem?_getD, List.getD_eq_getElem?_getD, List.getElem?_eq_getElem (Nat.lt_of_le_of_lt hab hb),
        List.getElem?_eq_getElem hb]
      rcases Nat.eq_or_lt_of_le hab with rfl | hlt'
      · exact Nat.le_refl _
      · exact List.pairwise_iff_getElem.1 hx.ksort.sorted a b _ hb hlt'
    have hmc := mono_change_iff (fun k => rfTv ts (K.getD k 0)) K.length hmono hal hbl
    simp only [List.getD_eq_getElem?_getD, gu3, gv3, Option.getD_some] at hmc
    rw [← hmc]
    constructor
    · rintro ⟨d, hd, h1, h2⟩
      obtain ⟨k, k1, k2, rfl, k4⟩ := (hx.nmem d).1 hd
      exact ⟨k, Nat.lt_of_add_lt_add_left h1, Nat.le_of_add_le_add_left h2, by
        rw [← List.getD_eq_getElem?_getD, ← List.getD_eq_getElem?_getD]; exact k4⟩
    · rintro ⟨k, k1, k2, k3⟩
      refine ⟨bs + k, (hx.nmem (bs + k)).2 ⟨k, Nat.lt_of_le_of_lt (Nat.zero_le a) k1, Nat.lt_of_le_of_lt k2 hbl, rfl, ?_⟩,
        Nat.add_lt_add_left k1 bs, Nat.add_le_add_left k2 bs⟩
      rw [List.getD_eq_getElem?_getD, List.getD_eq_getElem?_getD]; exact k3


/-- pure arithmetic: the order of the cells after bin `j` has been processed -/
theorem ord_step (old c1 c2 T : Nat → Nat) (n j m : Nat)
    (I1 : ∀ u v, u < n → v < n → (c1 u < c1 v ↔ (old u < old v ∨ (old u = old v ∧ j + 1 ≤ old u ∧ T u < T v))))
    (I2 : ∀ v, v < n → (old v < j + 1 → c1 v = old v) ∧ (j + 1 ≤ old v → j + 1 ≤ c1 v))
    (V : ∀ v, v < n → (c1 v < j → c2 v = c1 v) ∧ (j < c1 v → c2 v = c1 v + m) ∧
      (c1 v = j → j ≤ c2 v ∧ c2 v ≤ j + m))
    (V4 : ∀ u v, u < n → v < n → c1 u = j → c1 v = j → (c2 u < c2 v ↔ T u < T v)) :
    (∀ u v, u < n → v < n → (c2 u < c2 v ↔ (old u < old v ∨ (old u = old v ∧ j ≤ old u ∧ T u < T v)))) ∧
    (∀ v, v < n → (old v < j → c2 v = old v) ∧ (j ≤ old v → j ≤ c2 v)) := by
  -- where a vertex stands relative to cell `j`, before and after
  have pos : ∀ v, v < n → (old v < j ∧ c1 v = old v ∧ c2 v = old v) ∨
      (old v = j ∧ c1 v = j ∧ j ≤ c2 v ∧ c2 v ≤ j + m) ∨ (j < old v ∧ j < c1 v ∧ c2 v = c1 v + m) := by
    intro v hv
    obtain ⟨i1, i2⟩ := I2 v hv
    obtain ⟨v1, v2, v3⟩ := V v hv
    rcases Nat.lt_trichotomy (old v) j with h | h | h
    · have e := i1 (by omega); exact Or.inl ⟨h, e, by rw [← e]; exact v1 (by omega)⟩
    · have e := i1 (by omega); exact Or.inr (Or.inl ⟨h, by omega, v3 (by omega)⟩)
    · have e := i2 h; exact Or.inr (Or.inr ⟨h, e, v2 e⟩)
  constructor
  · intro u v hu hv
    rcases pos u hu with ⟨u1, u2, u3⟩ | ⟨u1, u2, u3⟩ | ⟨u1, u2, u3⟩ <;>
    rcases pos v hv with ⟨w1, w2, w3⟩ | ⟨w1, w2, w3⟩ | ⟨w1, w2, w3⟩
    · omega
    · omega
    · omega
    · omega
    · rw [V4 u v hu hv u2 w2]; omega
    · omega
    · omega
    · omega
    · -- both behind cell `j`: shifted by the same amount
      have a1 := I1 u v hu hv
      omega
  · intro v hv
    rcases pos v hv with ⟨u1, u2, u3⟩ | ⟨u1, u2, u3⟩ | ⟨u1, u2, u3⟩ <;> omega

/-- the invariant after the bins `≥ k` have been processed (`op0` = the partition at the start of the iteration, after
the pop; `T` = the counts) -/
structure ColInv (n : Nat) (T : Nat → Nat) (op0 : OP) (k : Nat) (opc : OP) : Prop where
  ord : ∀ u v, u < n → v < n → (cellOf opc u < cellOf opc v ↔
    (cellOf op0 u < cellOf op0 v ∨ (cellOf op0 u = cellOf op0 v ∧ k ≤ cellOf op0 u ∧ T u < T v)))
  low : ∀ v, v < n → (cellOf op0 v < k → cellOf opc v = cellOf op0 v) ∧ (k ≤ cellOf op0 v → k ≤ cellOf opc v)
  work : ∀ v, v < n → (((cellOf opc v : Nat) : Int) ∈ opc.binsToCheck.toList ↔
    ((cellOf op0 v < k ∧ ((cellOf op0 v : Nat) : Int) ∈ op0.binsToCheck.toList) ∨
     (k ≤ cellOf op0 v ∧
       ((((cellOf op0 v : Nat) : Int) ∈ op0.binsToCheck.toList ∧
          ∀ u, u < n → cellOf op0 u = cellOf op0 v → T v ≤ T u) ∨
        ∃ u, u < n ∧ cellOf op0 u = cellOf op0 v ∧ T u ≠ T v))))
  btc : BtcInv opc

theorem ColInv.of_frame {n : Nat} {T : Nat → Nat} {op0 : OP} {k : Nat} {opc opd : OP} (h : ColInv n T op0 k opc)
    (e1 : opd.inCell = opc.inCell) (e2 : opd.binsToCheck = opc.binsToCheck) (e3 : opd.binDividers = opc.binDividers) :
    ColInv n T op0 k opd := by
  have hc : ∀ v, cellOf opd v = cellOf opc v := fun v => by unfold cellOf; rw [e1]
  constructor
  · intro u v hu hv; rw [hc, hc]; exact h.ord u v hu hv
  · intro v hv; rw [hc]; exact h.low v hv
  · intro v hv; rw [hc, e2]; exact h.work v hv
  · exact ⟨by rw [e2]; exact h.btc.wf, by rw [e2]; exact h.btc.sorted, by rw [e2, e3]; exact h.btc.range⟩

theorem cellOf_eq_iff_mem_bin {n : Nat} {op : OP} (hp : PartInv n op) {j bs dj : Nat}
    (hbs : (0 :: op.binDividers.toList)[j]? = some bs) (hdj : op.binDividers.toList[j]? = some dj) (v : Nat) :
    (v < n ∧ cellOf op v = j) ↔ v ∈ rfSeg op.order.toList bs dj := by
  have hs : op.binDividers.toList.Pairwise (· < ·) := hp.bdSorted
  constructor
  · rintro ⟨hv, hc⟩
    obtain ⟨p, _, hpv, hcp⟩ := cellOf_pos hp hv
    rw [hcp] at hc
    obtain ⟨h1, h2⟩ := (binIdx_eq_iff_mem_bin hs hbs hdj p).1 hc
    exact mem_rfSeg.2 ⟨p, h1, h2, hpv⟩
  · intro hm
    obtain ⟨p, h1, h2, h3⟩ := mem_rfSeg.1 hm
    exact ⟨perm_range_lt hp.perm h3, by rw [cellOf_order hp h3]; exact (binIdx_eq_iff_mem_bin hs hbs hdj p).2 ⟨h1, h2⟩⟩


theorem ColInv.cell_iff {n : Nat} {T : Nat → Nat} {op0 : OP} {j : Nat} {op1 : OP} (h : ColInv n T op0 (j + 1) op1)
    {x : Nat} (hx : x < n) : cellOf op1 x = j ↔ cellOf op0 x = j := by
  have := h.low x hx
  constructor <;> intro _ <;> omega

theorem ColInv.step_skip {n : Nat} {ts : Sl Nat} {T : Nat → Nat} {op0 : OP} {j : Nat} {op1 : OP}
    (h : ColInv n T op0 (j + 1) op1) (hts : ∀ v, v < n → rfTv ts v = T v) (hp : PartInv n op1) {bs dj : Nat}
    (hbs : (0 :: op1.binDividers.toList)[j]? = some bs) (hdj : op1.binDividers.toList[j]? = some dj)
    (hall : ∀ a ∈ rfSeg op1.order.toList bs dj, ∀ b ∈ rfSeg op1.order.toList bs dj, rfTv ts a = rfTv ts b) :
    ColInv n T op0 j op1 := by
  have hT : ∀ u v, u < n → v < n → cellOf op1 u = j → cellOf op1 v = j → T u = T v := by
    intro u v hu hv hcu hcv
    rw [← hts u hu, ← hts v hv]
    exact hall u ((cellOf_eq_iff_mem_bin hp hbs hdj u).1 ⟨hu, hcu⟩) v ((cellOf_eq_iff_mem_bin hp hbs hdj v).1 ⟨hv, hcv⟩)
  obtain ⟨o1, o2⟩ := ord_step (cellOf op0) (cellOf op1) (cellOf op1) T n j 0 h.ord h.low
    (fun v _ => ⟨fun _ => rfl, fun _ => rfl, fun hc => by omega⟩)
    (fun u v hu hv hcu hcv => by
      have := hT u v hu hv hcu hcv
      constructor <;> intro _ <;> omega)
  refine ⟨o1, o2, ?_, h.btc⟩
  intro v hv
  rw [h.work v hv]
  by_cases hj : cellOf op0 v = j
  · have hmin : ∀ u, u < n → cellOf op0 u = cellOf op0 v → T v ≤ T u := by
      intro u hu hcu
      exact Nat.le_of_eq (hT v u hv hu ((h.cell_iff hv).2 hj) ((h.cell_iff hu).2 (by omega)))
    have htwo : ¬ ∃ u, u < n ∧ cellOf op0 u = cellOf op0 v ∧ T u ≠ T v := by
      rintro ⟨u, hu, hcu, hne⟩
      exact hne (hT u v hu hv ((h.cell_iff hu).2 (by omega)) ((h.cell_iff hv).2 hj))
    constructor
    · rintro (⟨_, h2⟩ | ⟨h1, _⟩)
      · exact Or.inr ⟨by omega, Or.inl ⟨h2, hmin⟩⟩
      · omega
    · rintro (⟨h1, _⟩ | ⟨_, ⟨h2, _⟩ | h3⟩)
      · omega
      · exact Or.inl ⟨by omega, h2⟩
      · exact absurd h3 htwo
  · have e1 : cellOf op0 v < j + 1 ↔ cellOf op0 v < j := by omega
    have e2 : j + 1 ≤ cellOf op0 v ↔ j ≤ cellOf op0 v := by omega
    rw [e1, e2]

theorem ColInv.step_split {n : Nat} {ts : Sl Nat} {T : Nat → Nat} {op0 : OP} {j : Nat} {op1 op2 : OP}
    (h : ColInv n T op0 (j + 1) op1) (hts : ∀ v, v < n → rfTv ts v = T v) (hp : PartInv n op1) {bs dj : Nat}
    {K nbsL : List Nat} (hrel : SplitRel n j bs dj K nbsL op1 op2) (hx : SplitX ts j bs dj K nbsL op1 op2) :
    ColInv n T op0 j op2 := by
  obtain ⟨V, V4⟩ := hrel.cells hx hp
  obtain ⟨o1, o2⟩ := ord_step (cellOf op0) (cellOf op1) (cellOf op2) T n j nbsL.length h.ord h.low V
    (fun u v hu hv hcu hcv => by rw [← hts u hu, ← hts v hv]; exact V4 u v hu hv hcu hcv)
  refine ⟨o1, o2, ?_, hx.btcInv hrel hp h.btc⟩
  -- two different counts in the old cell `j`
  have htwo : ∀ v, v < n → cellOf op0 v = j → ∃ u, u < n ∧ cellOf op0 u = cellOf op0 v ∧ T u ≠ T v := by
    intro v hv hcv
    obtain ⟨a, ha, b, hb, hab⟩ := hx.nonconst
    obtain ⟨han, hca⟩ := (cellOf_eq_iff_mem_bin hp hrel.hbs hrel.hdj a).2 (hrel.kperm.mem_iff.1 ha)
    obtain ⟨hbn, hcb⟩ := (cellOf_eq_iff_mem_bin hp hrel.hbs hrel.hdj b).2 (hrel.kperm.mem_iff.1 hb)
    have ha0 := (h.cell_iff han).1 hca
    have hb0 := (h.cell_iff hbn).1 hcb
    rw [hts a han, hts b hbn] at hab
    by_cases hav : T a = T v
    · exact ⟨b, hbn, hb0.trans hcv.symm, fun e => hab (hav.trans e.symm)⟩
    · exact ⟨a, han, ha0.trans hcv.symm, hav⟩
  intro v hv
  obtain ⟨v1, v2, v3⟩ := V v hv
  have hJ := h.cell_iff hv
  by_cases hj : cellOf op0 v = j
  · have := v3 (hJ.2 hj)
    rw [hx.btc_mem h.btc]
    exact ⟨fun _ => Or.inr ⟨Nat.le_of_eq hj.symm, Or.inr (htwo v hv hj)⟩, fun _ => Or.inr (by omega)⟩
  · have hne : cellOf op1 v ≠ j := fun e => hj (hJ.1 e)
    -- outside cell `j` the cell number is shifted like the entries of the work list
    have hsh : ((cellOf op2 v : Nat) : Int) = btcShiftF j nbsL.length ((cellOf op1 v : Nat) : Int) := by
      unfold btcShiftF
      rcases Nat.lt_or_gt_of_ne hne with hl | hg
      · rw [if_pos (by omega), v1 hl]
      · rw [if_neg (by omega), v2 hg]; omega
    have hmem : ((cellOf op2 v : Nat) : Int) ∈ op2.binsToCheck.toList ↔
        ((cellOf op1 v : Nat) : Int) ∈ op1.binsToCheck.toList := by
      rw [hx.btc_mem h.btc]
      constructor
      · rintro (⟨y, hy, hye⟩ | hr)
        · rw [hsh] at hye
          have hinj : StrictMono (btcShiftF j nbsL.length) := fun a b hab => btcShiftF_lt hab
          rw [← hinj.injective hye]; exact hy
        · omega
      · intro hm; exact Or.inl ⟨_, hm, hsh.symm⟩
    have e1 : cellOf op0 v < j + 1 ↔ cellOf op0 v < j := by omega
    have e2 : j + 1 ≤ cellOf op0 v ↔ j ≤ cellOf op0 v := by omega
    rw [hmem, h.work v hv, e1, e2]


theorem ExpRun.worse_test {nb : Nbrs} {cb fl : Sl Nat} {k j : Nat} {op op' : OP} {w : Bool}
    (h : ExpRun nb cb fl k j op w op') : w = true → worseTest op'.value cb fl = .ok true := by
  induction h with
  | done | stop => intro e; cases e
  | worse _ _ hw => exact fun _ => hw
  | next _ _ _ _ ih => exact ih

theorem expandValue_worse_test {nb : Nbrs} {cb fl : Sl Nat} {op op' : OP}
    (h : expandValue nb cb fl op = .ok (true, op')) : worseTest op'.value cb fl = .ok true :=
  (expandLoop_run h).worse_test rfl

/-- the loop over the bins, for both results: with `false` the complete invariant, with `true` the state is coarser
than and order-compatible with the complete refinement, and `worseTest` holds for its certificate -/
theorem splitLoop_col2 (hst : StablePerm) {nb : Nbrs} {n : Nat} {cb fl : Sl Nat} {opts : Options} {op0 : OP}
    {T : Nat → Nat} {k : Nat} {op1 op' : OP} {sc1 sc' : Scratch} {r : Bool}
    (hp : PartInv n op1) (ha : AgeInv op1)
    (hcc : ∀ j, j < k → CellCount op1 sc1.timesSeen sc1.maxCell sc1.numberOfMax j)
    (hts : ∀ v, v < n → rfTv sc1.timesSeen v = T v) (hc : ColInv n T op0 k op1)
    (h : forDown (splitCell nb n cb fl opts) k (false, op1, sc1) = .ok (r, op', sc')) :
    (r = false → ColInv n T op0 0 op' ∧ ScrRel sc1 sc') ∧
    (r = true → opts.checkViability = false → (∀ u v, u < n → v < n → cellOf op' u < cellOf op' v →
        (cellOf op0 u < cellOf op0 v ∨ (cellOf op0 u = cellOf op0 v ∧ T u < T v))) ∧
      worseTest op'.value cb fl = .ok true) := by
  rcases splitLoop_rule
    (fun i o s => PartInv n o ∧ AgeInv o ∧ ScrRel sc1 s ∧
      (∀ j, j < i → CellCount o sc1.timesSeen sc1.maxCell sc1.numberOfMax j) ∧ ColInv n T op0 i o)
    (by
      intro i opA scA opB scB ⟨pA, aA, sA, cA, iA⟩ hf
      obtain ⟨e1, e2, e3, _, _, _⟩ := id sA
      have hcc1 : CellCount opA scA.timesSeen scA.maxCell scA.numberOfMax i := by
        rw [e1, e2, e3]; exact cA i (Nat.lt_succ_self i)
      obtain ⟨g1, g2, g3⟩ := splitCell_step hst pA aA hcc1 hf
      refine ⟨g1.1, g1.2.1, sA.trans g2, fun j hj => ?_, ?_⟩
      · have := g3 j hj (by rw [e1, e2, e3]; exact cA j (Nat.lt_succ_of_lt hj))
        rw [e1, e2, e3] at this; exact this
      · obtain ⟨bs, dj, hbs, hdj, hcase⟩ := splitCell_split hst pA hcc1 hf
        rw [e1] at hcase
        rcases hcase with ⟨hskip, _, rfl, _⟩ | ⟨K, nbsL, op2, sc2, hrel, hx, _, ht⟩
        · exact iA.step_skip hts pA hbs hdj (e1 ▸ skip_allEq pA hcc1 hbs hdj hskip)
        · obtain ⟨_, _, f2, _, f4, _, f6⟩ := scTail_frame ht
          exact (iA.step_split hts pA hrel hx).of_frame f6 f4 f2)
    k op1 op' sc1 sc' r ⟨hp, ha, ScrRel.refl _, hcc, hc⟩ h with
    ⟨rfl, _, _, s, _, i⟩ | ⟨rfl, j, opA, scA, _, ⟨pA, aA, sA, cA, iA⟩, hf⟩
  · exact ⟨fun _ => ⟨i, s⟩, fun h => by cases h⟩
  · refine ⟨(fun h => by cases h), fun _ hv => ?_⟩
    -- the aborting call splits bin `j`; `expandValue` said "worse"
    obtain ⟨e1, e2, e3, _, _, _⟩ := id sA
    have hcc1 : CellCount opA scA.timesSeen scA.maxCell scA.numberOfMax j := by
      rw [e1, e2, e3]; exact cA j (Nat.lt_succ_self j)
    obtain ⟨bs, dj, hbs, hdj, hcase⟩ := splitCell_split hst pA hcc1 hf
    rw [e1] at hcase
    rcases hcase with ⟨_, hfalse, _⟩ | ⟨K, nbsL, op2, sc2, hrel, hx, _, ht⟩
    · cases hfalse
    · obtain ⟨_, _, _, _, _, _, f6⟩ := scTail_frame ht
      have hc2 := iA.step_split hts pA hrel hx
      have hcell : ∀ x, cellOf op' x = cellOf op2 x := fun x => by unfold cellOf; rw [f6]
      refine ⟨fun u v hu hvn hlt => ?_, ?_⟩
      · rw [hcell, hcell] at hlt
        rcases (hc2.ord u v hu hvn).1 hlt with h1 | ⟨h1, _, h3⟩
        · exact Or.inl h1
        · exact Or.inr ⟨h1, h3⟩
      · rcases (scTail_cases ht).2 with ⟨_, _, hr⟩ | ⟨_, w, hex, _, hr⟩
        · exact absurd (hr hv) (by simp)
        · obtain rfl := hr hv
          exact expandValue_worse_test hex


theorem pop_facts {b : Sl Int} {i : Int} {btc : Sl Int} (hw : b.WF) (hs : b.toList.Pairwise (· < ·))
    (hpos : 0 < b.len) (h3 : b.get (b.len - 1) = .ok i) (h4 : b.reslice (b.len - 1) = .ok btc) :
    i ∈ b.toList ∧ (∀ x ∈ b.toList, x ≤ i) ∧ btc.WF ∧ btc.toList.Pairwise (· < ·) ∧
      (∀ x, x ∈ btc.toList ↔ (x ∈ b.toList ∧ x ≠ i)) := by
  have hlen : b.toList.length = b.len := Sl.length_toList _ hw
  have hi : b.toList[b.len - 1]? = some i := Sl.get_eq_toList.1 h3
  obtain ⟨hil, hie⟩ := List.getElem?_eq_some_iff.1 hi
  obtain ⟨c1, c2, c3⟩ := Sl.reslice_len h4
  have htl : btc.toList = b.toList.take (b.len - 1) := Sl.toList_reslice h4 (Nat.sub_le _ _)
  have hpw := List.pairwise_iff_getElem.1 hs
  have hle : ∀ x ∈ b.toList, x ≤ i := by
    intro x hx
    obtain ⟨k, hk⟩ := List.mem_iff_getElem?.1 hx
    obtain ⟨hkl, hke⟩ := List.getElem?_eq_some_iff.1 hk
    by_cases hkk : k = b.len - 1
    · subst hkk; exact Int.le_of_eq (by rw [← hke, hie])
    · have := hpw k (b.len - 1) hkl hil (by omega)
      rw [hke, hie] at this; exact Int.le_of_lt this
  refine ⟨List.mem_of_getElem? hi, hle, c3, by rw [htl]; exact List.Pairwise.sublist (List.take_sublist _ _) hs, ?_⟩
  intro x
  rw [htl]
  constructor
  · intro hx
    obtain ⟨k, hk⟩ := List.mem_iff_getElem?.1 hx
    rw [List.getElem?_take] at hk
    by_cases hkl : k < b.len - 1
    · rw [if_pos hkl] at hk
      obtain ⟨hkl', hke⟩ := List.getElem?_eq_some_iff.1 hk
      have := hpw k (b.len - 1) hkl' hil hkl
      rw [hke, hie] at this
      exact ⟨List.mem_of_getElem? hk, by omega⟩
    · rw [if_neg hkl] at hk; cases hk
  · rintro ⟨hx, hne⟩
    obtain ⟨k, hk⟩ := List.mem_iff_getElem?.1 hx
    obtain ⟨hkl, hke⟩ := List.getElem?_eq_some_iff.1 hk
    have hkk : k ≠ b.len - 1 := by
      intro e; subst e; rw [hie] at hke; exact hne hke.symm
    apply List.mem_iff_getElem?.2
    exact ⟨k, by rw [List.getElem?_take, if_pos (by omega)]; exact hk⟩


/-- the part of `refineIter` before the loop over the bins: pop, counting, the invariant at the start of the loop -/
theorem refineIter_setup (hcs : CountSem)
    {n : Nat} {nb : Nbrs} {cb fl : Sl Nat} {opts : Options} {op : OP} {sc : Scratch} {R : Bool × OP × Scratch}
    (hp : PartInv n op) (hs : ScrInv n sc) (htw : sc.timesSeen.WF) (htl : sc.timesSeen.len = n)
    (ha : AgeInv op) (hb : BtcInv op) (hpos : 0 < op.binsToCheck.len) (hnb : NbOK nb n)
    (h : refineIter nb n cb fl opts op sc = .ok R) :
    ∃ (i : Nat) (btc : Sl Int) (ts2 mc2 nm2 : Sl Nat),
      i < op.binDividers.len ∧ (i : Int) ∈ op.binsToCheck.toList ∧ (∀ x ∈ op.binsToCheck.toList, x ≤ (i : Int)) ∧
      (∀ x, x ∈ btc.toList ↔ (x ∈ op.binsToCheck.toList ∧ x ≠ (i : Int))) ∧
      (∀ v, v < n → rfTv ts2 v = cntIn nb op i v) ∧ ts2.WF ∧ ts2.len = n ∧
      PartInv n { op with binsToCheck := btc } ∧ AgeInv { op with binsToCheck := btc } ∧
      (∀ j, j < op.binDividers.len → CellCount { op with binsToCheck := btc } ts2 mc2 nm2 j) ∧
      ColInv n (cntIn nb op i) { op with binsToCheck := btc } op.binDividers.len { op with binsToCheck := btc } ∧
      forDown (splitCell nb n cb fl opts) op.binDividers.len
        (false, { op with binsToCheck := btc }, { sc with timesSeen := ts2, maxCell := mc2, numberOfMax := nm2 }) = .ok R := by
  obtain ⟨mc1, nm1, i, btc, a, b, ts2, mc2, nm2, h1, h2, h3, h4, hi0, h5, h6, hcnt, hfd⟩ := refineIter_ok h
  obtain ⟨p1, p2, p3, p4, p5⟩ := pop_facts hb.wf hb.sorted hpos h3 h4
  have hir := hb.range i p1
  have hiN : ((i.toNat : Nat) : Int) = i := by omega
  have hil : i.toNat < op.binDividers.len := by omega
  have hbs : (0 :: op.binDividers.toList)[i.toNat]? = some a := binStart_iff.1 h5
  have hdj : op.binDividers.toList[i.toNat]? = some b := Sl.get_eq_toList.1 h6
  have hzero : ∀ v, v < n → sc.timesSeen.fill0.toList[v]? = some 0 := by
    intro v hv
    rw [Sl.getElem?_toList, Sl.fill0_len, if_pos (by omega), Sl.fill0_data, if_pos (by omega),
      if_pos (by have := htw.le; omega)]
  obtain ⟨t1, t2, t3⟩ := hcs hp hnb hbs hdj (Sl.fill0_wf htw) (by rw [Sl.fill0_len]; exact htl) hzero hcnt
  have hT : ∀ v, v < n → rfTv ts2 v = cntIn nb op i.toNat v := by
    intro v hv; unfold rfTv; rw [t3 v hv]; rfl
  obtain ⟨hcc, _⟩ := refineIter_counted hp hs h1 h2 hcnt btc
  have hp1 : PartInv n { op with binsToCheck := btc } := hp.of_btc btc
  have ha1 : AgeInv { op with binsToCheck := btc } := AgeInv.of_frame ha rfl rfl
  have hc0 : ColInv n (cntIn nb op i.toNat) { op with binsToCheck := btc } op.binDividers.len
      { op with binsToCheck := btc } := by
    have hlt : ∀ v, v < n → cellOf { op with binsToCheck := btc } v < op.binDividers.len :=
      fun v hv => cellOf_lt hp1 hv
    refine ⟨?_, ?_, ?_, ⟨p3, p4, fun x hx => hb.range x ((p5 x).1 hx).1⟩⟩
    · intro u v hu hv
      have := hlt u hu
      constructor
      · intro h'; exact Or.inl h'
      · rintro (h' | ⟨_, h', _⟩)
        · exact h'
        · omega
    · intro v hv
      have := hlt v hv
      exact ⟨fun _ => rfl, fun h' => by omega⟩
    · intro v hv
      have := hlt v hv
      constructor
      · intro h'; exact Or.inl ⟨this, h'⟩
      · rintro (⟨_, h'⟩ | ⟨h', _⟩)
        · exact h'
        · omega
  exact ⟨i.toNat, btc, ts2, mc2, nm2, hil, by rw [hiN]; exact p1, by rw [hiN]; exact p2, by rw [hiN]; exact p5, hT, t2,
    t1, hp1, ha1, hcc, hc0, hfd⟩

/-- One iteration of the refinement at the level of colourings: `RefineIterCol`, unfolded. -/
theorem refineIter_col (hst : StablePerm) (hcs : CountSem)
    {n : Nat} {nb : Nbrs} {cb fl : Sl Nat} {opts : Options} {op op' : OP} {sc sc' : Scratch}
    (hp : PartInv n op) (ha : AgeInv op) (hs : ScrInv n sc) (htw : sc.timesSeen.WF) (htl : sc.timesSeen.len = n)
    (hb : BtcInv op) (hpos : 0 < op.binsToCheck.len) (hnb : NbOK nb n)
    (h : refineIter nb n cb fl opts op sc = .ok (false, op', sc')) :
    ∃ i : Nat, i < op.binDividers.len ∧ (i : Int) ∈ op.binsToCheck.toList ∧
      (∀ x ∈ op.binsToCheck.toList, x ≤ (i : Int)) ∧
      (∀ u v, u < n → v < n → (cellOf op' u < cellOf op' v ↔
        (cellOf op u < cellOf op v ∨ (cellOf op u = cellOf op v ∧ cntIn nb op i u < cntIn nb op i v)))) ∧
      (∀ v, v < n → (((cellOf op' v : Nat) : Int) ∈ op'.binsToCheck.toList ↔
        ((((cellOf op v : Nat) : Int) ∈ op.binsToCheck.toList ∧ cellOf op v ≠ i ∧
            ∀ u, u < n → cellOf op u = cellOf op v → cntIn nb op i v ≤ cntIn nb op i u) ∨
          (∃ u, u < n ∧ cellOf op u = cellOf op v ∧ cntIn nb op i u ≠ cntIn nb op i v)))) ∧
      BtcInv op' ∧ sc'.timesSeen.WF ∧ sc'.timesSeen.len = n ∧ ScrInv n sc' := by
  have hscr' : ScrInv n sc' := (refineIter_inv hst (carried_true nb n cb fl opts) hp ha trivial hs h).2.2.1
  obtain ⟨i, btc, ts2, mc2, nm2, hil, p1, p2, p5, hT, t2, t1, hp1, ha1, hcc, hc0, hfd⟩ :=
    refineIter_setup hcs hp hs htw htl ha hb hpos hnb h
  obtain ⟨hfin, hsr⟩ := (splitLoop_col2 hst (op0 := { op with binsToCheck := btc }) hp1 ha1 hcc hT hc0 hfd).1 rfl
  obtain ⟨e1, _, _, _, _, _⟩ := hsr
  simp only at e1
  have hcell : ∀ v, cellOf { op with binsToCheck := btc } v = cellOf op v := fun _ => rfl
  refine ⟨i, hil, p1, p2, ?_, ?_, hfin.btc,
    by rw [e1]; exact t2, by rw [e1]; exact t1, hscr'⟩
  · intro u v hu hv
    have := hfin.ord u v hu hv
    rw [hcell, hcell] at this
    rw [this]
    constructor
    · rintro (h' | ⟨h1', _, h3'⟩)
      · exact Or.inl h'
      · exact Or.inr ⟨h1', h3'⟩
    · rintro (h' | ⟨h1', h3'⟩)
      · exact Or.inl h'
      · exact Or.inr ⟨h1', Nat.zero_le _, h3'⟩
  · intro v hv
    have hw := hfin.work v hv
    rw [hcell] at hw
    rw [hw]
    have hmem : (((cellOf op v : Nat) : Int) ∈ btc.toList ↔
        (((cellOf op v : Nat) : Int) ∈ op.binsToCheck.toList ∧ cellOf op v ≠ i)) := by
      rw [p5]
      constructor
      · rintro ⟨h1', h2'⟩; exact ⟨h1', fun e => h2' (by rw [e])⟩
      · rintro ⟨h1', h2'⟩; exact ⟨h1', fun e => h2' (by omega)⟩
    constructor
    · rintro (⟨h', _⟩ | ⟨_, ⟨h1', h2'⟩ | h3'⟩)
      · omega
      · obtain ⟨m1', m2'⟩ := hmem.1 h1'
        exact Or.inl ⟨m1', m2', h2'⟩
      · exact Or.inr h3'
    · rintro (⟨h1', h2', h3'⟩ | h4')
      · exact Or.inr ⟨Nat.zero_le _, Or.inl ⟨hmem.2 ⟨h1', h2'⟩, h3'⟩⟩
      · exact Or.inr ⟨Nat.zero_le _, Or.inr h4'⟩


/-- the state in which one iteration aborts with "worse" is coarser than, and order-compatible with, the result of the
complete iteration; `worseTest` holds for its certificate -/
theorem refineIter_worse_col (hst : StablePerm) (hcs : CountSem)
    {n : Nat} {nb : Nbrs} {cb fl : Sl Nat} {opts : Options} {op op' : OP} {sc sc' : Scratch}
    (hp : PartInv n op) (ha : AgeInv op) (hs : ScrInv n sc) (htw : sc.timesSeen.WF) (htl : sc.timesSeen.len = n)
    (hb : BtcInv op) (hpos : 0 < op.binsToCheck.len) (hnb : NbOK nb n) (hv : opts.checkViability = false)
    (h : refineIter nb n cb fl opts op sc = .ok (true, op', sc')) :
    ∃ i : Nat, i < op.binDividers.len ∧ (i : Int) ∈ op.binsToCheck.toList ∧
      (∀ x ∈ op.binsToCheck.toList, x ≤ (i : Int)) ∧
      (∀ u v, u < n → v < n → cellOf op' u < cellOf op' v →
        (cellOf op u < cellOf op v ∨ (cellOf op u = cellOf op v ∧ cntIn nb op i u < cntIn nb op i v))) ∧
      worseTest op'.value cb fl = .ok true := by
  obtain ⟨i, btc, ts2, mc2, nm2, q1, q2, q3, _, hT, _, _, hp1, ha1, hcc, hc0, hfd⟩ :=
    refineIter_setup hcs hp hs htw htl ha hb hpos hnb h
  obtain ⟨_, g2⟩ := splitLoop_col2 hst (op0 := { op with binsToCheck := btc }) hp1 ha1 hcc hT hc0 hfd
  obtain ⟨g3, g4⟩ := g2 rfl hv
  exact ⟨i, q1, q2, q3, g3, g4⟩


/-- the main loop aborting with "worse": some number of complete iterations (each related by `R`), then an aborting one -/
theorem refineLoop_worse (hst : StablePerm) (hcs : CountSem)
    {n : Nat} {nb : Nbrs} {cb fl : Sl Nat} {opts : Options} (hnb : NbOK nb n) (hv : opts.checkViability = false)
    (R : OP → OP → Prop) (hrefl : ∀ a, R a a) (htrans : ∀ a b c, R a b → R b c → R a c)
    (hstep : ∀ (a b : OP) (sca scb : Scratch), PartInv n a → AgeInv a → ScrInv n sca → sca.timesSeen.WF →
      sca.timesSeen.len = n → BtcInv a → 0 < a.binsToCheck.len →
      refineIter nb n cb fl opts a sca = .ok (false, b, scb) → R a b) :
    ∀ (f : Nat) (op op' : OP) (sc sc' : Scratch),
      PartInv n op → AgeInv op → ScrInv n sc → sc.timesSeen.WF → sc.timesSeen.len = n → BtcInv op →
      refineLoop nb n cb fl opts f op sc = .ok (true, op', sc') →
      ∃ (opk : OP) (sck : Scratch), R op opk ∧ PartInv n opk ∧ AgeInv opk ∧ BtcInv opk ∧ ScrInv n sck ∧
        sck.timesSeen.WF ∧ sck.timesSeen.len = n ∧ 0 < opk.binsToCheck.len ∧
        refineIter nb n cb fl opts opk sck = .ok (true, op', sc') ∧
        ∃ i : Nat, i < opk.binDividers.len ∧ (i : Int) ∈ opk.binsToCheck.toList ∧
          (∀ x ∈ opk.binsToCheck.toList, x ≤ (i : Int)) ∧
          (∀ u v, u < n → v < n → cellOf op' u < cellOf op' v →
            (cellOf opk u < cellOf opk v ∨ (cellOf opk u = cellOf opk v ∧ cntIn nb opk i u < cntIn nb opk i v))) ∧
          worseTest op'.value cb fl = .ok true := by
  intro f op op' sc sc' hp ha hs htw htl hb h
  obtain ⟨_, _, ⟨hw, _⟩ | ⟨_, opk, sck, ⟨r, p, a, s, tw, tl, b⟩, hpos, hit⟩⟩ := refineLoop_rule
    (fun _ o s => R op o ∧ PartInv n o ∧ AgeInv o ∧ ScrInv n s ∧ s.timesSeen.WF ∧ s.timesSeen.len = n ∧ BtcInv o)
    (fun _ o s o1 s1 ⟨r, p, a, s', tw, tl, b⟩ hpos hit => by
      obtain ⟨_, _, _, _, _, _, c7, c8, c9, c10⟩ := refineIter_col hst hcs p a s' tw tl b hpos hnb hit
      obtain ⟨g1, _, _, _⟩ := refineIter_inv hst (carried_true nb n cb fl opts) p a trivial s' hit
      exact ⟨htrans _ _ _ r (hstep o o1 s s1 p a s' tw tl b hpos hit), g1.1, g1.2.1, c10, c8, c9, c7⟩)
    f 0 op op' sc sc' true ⟨hrefl op, hp, ha, hs, htw, htl, hb⟩ h
  · cases hw
  · exact ⟨opk, sck, r, p, a, b, s, tw, tl, hpos, hit, refineIter_worse_col hst hcs p a s tw tl b hpos hnb hv hit⟩

end CanonF
