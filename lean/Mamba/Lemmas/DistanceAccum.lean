import Mamba.Lemmas.DistanceModel
import Mathlib.Algebra.BigOperators.Group.List.Basic
/-!
# Loops that accumulate into a result array

`NumberOfInducedPaths` and `NumberOfInducedCycles` are nests of loops (components, start vertices, a stack of partial
paths) that only ever add to the entries of the result slice. `Adds sz run F` says so for one computation; a loop over
a list adds the sum over the list (`Adds.list`), and a stack loop adds, for every record on the stack, the total of
the tree below it (`stackLoop_adds`), given what one iteration does.
-/
namespace GDist

/-- on an array with at least `sz` entries `run` returns, keeps the size and adds `F l` to every entry `l` -/
def Adds (sz : Nat) (run : Array Nat → Outcome (Array Nat)) (F : Nat → Nat) : Prop :=
  ∀ r, sz ≤ r.size → ∃ r', run r = .ok r' ∧ r'.size = r.size ∧ ∀ l, lbl r' l = lbl r l + F l

variable {sz : Nat} {run : Array Nat → Outcome (Array Nat)} {F : Nat → Nat}

theorem Adds.mono {sz' : Nat} (h : Adds sz run F) (hs : sz ≤ sz') : Adds sz' run F :=
  fun r hr => h r (Nat.le_trans hs hr)

theorem Adds.congr {F' : Nat → Nat} (h : Adds sz run F) (hF : ∀ l, F l = F' l) : Adds sz run F' := fun r hr => by
  obtain ⟨r', e, s, a⟩ := h r hr
  exact ⟨r', e, s, fun l => (a l).trans (by rw [hF])⟩

theorem Adds.list {α : Type} {one : α → Array Nat → Outcome (Array Nat)}
    {run : List α → Array Nat → Outcome (Array Nat)} (h0 : ∀ r, run [] r = .ok r)
    (h1 : ∀ i is r, run (i :: is) r =
      match one i r with
      | .ok r' => run is r'
      | .panic => .panic
      | .outOfFuel => .outOfFuel)
    (F : α → Nat → Nat) (is : List α) (h : ∀ i ∈ is, Adds sz (one i) (F i)) :
    Adds sz (run is) fun l => (is.map (F · l)).sum := by
  induction is with
  | nil => exact fun r _ => ⟨r, h0 r, rfl, fun _ => rfl⟩
  | cons i is ih =>
    intro r hr
    obtain ⟨r1, e1, s1, a1⟩ := h i List.mem_cons_self r hr
    obtain ⟨r2, e2, s2, a2⟩ := ih (fun j hj => h j (List.mem_cons_of_mem _ hj)) r1 (s1 ▸ hr)
    refine ⟨r2, by rw [h1, e1]; exact e2, s2.trans s1, fun l => (a2 l).trans ?_⟩
    show lbl r1 l + (is.map (F · l)).sum = lbl r l + ((i :: is).map (F · l)).sum
    rw [a1, List.map_cons, List.sum_cons, Nat.add_assoc]

/-- A stack loop whose iteration pops a record `P`, updates the array and pushes records `ch` adds, for every record
on the stack, its total `C`, provided `C P` is what the iteration adds plus the totals of `ch`. The weights `wt`
(children together lighter than their parent) bound the fuel. -/
theorem stackLoop_adds {ρ : Type} {loop : Nat → List ρ → Array Nat → Outcome (Array Nat)}
    {ok : ρ → Prop} {wt : ρ → Nat} {C : ρ → Nat → Nat}
    (hnil : ∀ f r, loop (f + 1) [] r = .ok r)
    (hstep : ∀ f P st r, ok P → sz ≤ r.size → ∃ ch r', loop (f + 1) (P :: st) r = loop f (ch ++ st) r' ∧
      r'.size = r.size ∧ (∀ c ∈ ch, ok c) ∧ (ch.map wt).sum + 1 ≤ wt P ∧
      ∀ l, lbl r' l + (ch.map (C · l)).sum = lbl r l + C P l)
    (fuel : Nat) : ∀ st, (∀ P ∈ st, ok P) → (st.map wt).sum + 1 ≤ fuel →
      Adds sz (loop fuel st) fun l => (st.map (C · l)).sum := by
  induction fuel with
  | zero => exact fun _ _ hf => absurd hf (Nat.not_succ_le_zero _)
  | succ f ih =>
    intro st hok hf r hr
    cases st with
    | nil => exact ⟨r, hnil f r, rfl, fun _ => rfl⟩
    | cons P st =>
      obtain ⟨ch, r1, e, s1, hch, hwt, hC⟩ := hstep f P st r (hok P List.mem_cons_self) hr
      rw [List.map_cons, List.sum_cons] at hf
      have hf' : ((ch ++ st).map wt).sum + 1 ≤ f := by
        rw [List.map_append, List.sum_append]
        exact Nat.le_of_succ_le_succ (Nat.le_trans (by omega) hf)
      obtain ⟨r2, e2, s2, a2⟩ := ih (ch ++ st)
        (fun c hc => (List.mem_append.1 hc).elim (hch c) fun h => hok c (List.mem_cons_of_mem _ h)) hf' r1 (s1 ▸ hr)
      refine ⟨r2, e.trans e2, s2.trans s1, fun l => (a2 l).trans ?_⟩
      show lbl r1 l + ((ch ++ st).map (C · l)).sum = lbl r l + ((P :: st).map (C · l)).sum
      rw [List.map_append, List.sum_append, ← Nat.add_assoc, hC, List.map_cons, List.sum_cons, Nat.add_assoc]

end GDist
