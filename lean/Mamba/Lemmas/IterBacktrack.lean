import Mathlib.Data.List.Chain
import Mamba.Model.IterBase
/-! Backtracking search with a test at every node, as Knuth's skeleton: enter a level (`down`), try a child (`test`),
try again with its next sibling (`next`), backtrack (`up`); it stops at every accepted leaf.  A position is a level `m`
(the height of its nodes) and, for every level above, the chosen child with its later siblings; `owed` lists the values
of the accepted leaves still ahead.  Every `Step` keeps what is owed and lowers the `cost`.  A program on fuel `Follows`
the search when each of its steps, from a configuration that `Rep`resents a position, makes one or more `Step`s or
returns a result that is right (`Ret`) there; it then returns what its position owes (`run_owed`), at a position that
costs no more: the fuel that suffices for the first run suffices for every later one.

An instance gives the tree (with `sub` equal to its list specification), maps the data of the program to a stack and its
labels to positions, and proves `Follows` label by label; `wt_succ_le` bounds `wt` by the fuel of the model. -/
namespace Iter.DFS

/-- `kids`: the children in the order of the search; `val`: what a leaf shows; `ok`: the test, made on a node when it is
tried (the root is not tested).  Heights are not part of the tree: `sub`, `wt` and the positions carry them. -/
structure Tree (ν α : Type) where
  kids : ν → List ν
  val : ν → α
  ok : ν → Bool

variable {ν α : Type} (T : Tree ν α)

def sub : Nat → ν → List α
  | 0, v => [T.val v]
  | m + 1, v => (T.kids v).flatMap fun c => if T.ok c then sub m c else []

def blk (m : Nat) (c : ν) : List α := if T.ok c then sub T m c else []

theorem sub_succ (m : Nat) (v : ν) : sub T (m + 1) v = (T.kids v).flatMap (blk T m) := rfl

def wt : Nat → ν → Nat
  | 0, _ => 1
  | m + 1, v => 3 + ((T.kids v).map fun c => wt m c + 1).sum

/-- The stack `st` holds, innermost first, the chosen child of every level entered, with its later siblings.
`down m v st`: about to enter `v`, whose children have height `m`; `test m c cs st`: about to test `c` (height `m`),
`cs` are its later siblings; `next m st`: done with the top entry of `st` (height `m`), its next sibling is due;
`up m st`: a level is used up, back at the top entry of `st` (height `m`). -/
inductive Pos (ν : Type) where
  | down (m : Nat) (v : ν) (st : List (ν × List ν))
  | test (m : Nat) (c : ν) (cs : List ν) (st : List (ν × List ν))
  | next (m : Nat) (st : List (ν × List ν))
  | up (m : Nat) (st : List (ν × List ν))

def after : Nat → List (ν × List ν) → List α
  | _, [] => []
  | m, (_, cs) :: st => cs.flatMap (blk T m) ++ after (m + 1) st

def costNext : Nat → List (ν × List ν) → Nat
  | _, [] => 0
  | m, (_, cs) :: st => (cs.map fun c => wt T m c + 1).sum + 2 + costNext (m + 1) st

open Pos

def owed : Pos ν → List α
  | down m v st => sub T (m + 1) v ++ after T (m + 1) st
  | test m c cs st => blk T m c ++ after T m ((c, cs) :: st)
  | next m st => after T m st
  | up m st => after T m st

def cost : Pos ν → Nat
  | down m v st => wt T (m + 1) v + costNext T (m + 1) st
  | test m c cs st => wt T m c + 1 + costNext T m ((c, cs) :: st)
  | next m st => 1 + costNext T m st
  | up m st => 2 + costNext T m st

/-- No rule leaves `test 0 c cs st` with `c` accepted (a leaf to be shown: the program returns there, and a position
that owes the rest is `next 0 ((c, cs) :: st)`), nor `up m []` (the search is over, nothing is owed). Nor does one
leave `down m v st` when `v` has no children: instances keep such nodes out of the positions they represent. -/
inductive Step : Pos ν → Pos ν → Prop
  | enter (m v c cs st) : T.kids v = c :: cs → Step (down m v st) (test m c cs st)
  | reject (m c cs st) : T.ok c = false → Step (test m c cs st) (next m ((c, cs) :: st))
  | accept (m c cs st) : T.ok c = true → Step (test (m + 1) c cs st) (down m c ((c, cs) :: st))
  | again (m c c' cs st) : Step (next m ((c, c' :: cs) :: st)) (test m c' cs st)
  | leave (m c st) : Step (next m ((c, []) :: st)) (up (m + 1) st)
  | back (m fr st) : Step (up m (fr :: st)) (next m (fr :: st))

theorem wt_pos (m : Nat) (v : ν) : 1 ≤ wt T m v := by
  cases m <;> simp [wt]; omega

variable {T}

theorem Step.owed_eq {a b : Pos ν} (h : Step T a b) : owed T b = owed T a := by
  cases h with
  | enter m v c cs st hk => simp [owed, sub_succ, hk, after]
  | reject m c cs st hc => simp [owed, blk, hc]
  | accept m c cs st hc => simp [owed, blk, hc]
  | again m c c' cs st => simp [owed, after]
  | leave m c st => simp [owed, after]
  | back m fr st => rfl

theorem Step.cost_lt {a b : Pos ν} (h : Step T a b) : cost T b < cost T a := by
  cases h with
  | enter m v c cs st hk => simp only [cost, costNext, wt, hk, List.map_cons, List.sum_cons]; omega
  | reject m c cs st hc => simp only [cost]; have := wt_pos T m c; omega
  | accept m c cs st hc => simp only [cost, wt]; omega
  | again m c c' cs st => simp only [cost, costNext, List.map_cons, List.sum_cons]; omega
  | leave m c st => simp only [cost, costNext, List.map_nil, List.sum_nil]; omega
  | back m fr st => simp only [cost]; omega

theorem owed_eq_of_transGen {a b : Pos ν} (h : Relation.TransGen (Step T) a b) : owed T b = owed T a := by
  induction h with
  | single h => exact h.owed_eq
  | tail _ h ih => rw [h.owed_eq, ih]

theorem cost_lt_of_transGen {a b : Pos ν} (h : Relation.TransGen (Step T) a b) : cost T b < cost T a := by
  induction h with
  | single h => exact h.cost_lt
  | tail _ h ih => exact Nat.lt_trans h.cost_lt ih

section run
variable {C R : Type} (T) (run : Nat → C → Outcome R) (Rep : C → Pos ν → Prop) (Ret : Pos ν → R → Prop)

/-- One unit of fuel from the configuration `c`, which stands at `a`: the program moves on to a configuration standing
at a position reached from `a` by `Step`s, or it returns `r`, and `Ret a r` says that this is right at `a` (in the
instances: `a` owes nothing and `r` reports exhaustion, or `a` tests an accepted leaf which `r` shows, and the
position at which the next run resumes costs no more than `a`). -/
def Follows (c : C) (a : Pos ν) : Prop :=
  (∃ c' b, Relation.TransGen (Step T) a b ∧ Rep c' b ∧ ∀ fuel, run (fuel + 1) c = run fuel c') ∨
  (∃ r, (∀ fuel, run (fuel + 1) c = .ok r) ∧ Ret a r)

variable {T run Rep Ret} {c c' : C} {a b b' : Pos ν}

theorem Follows.step (h : Step T a b) (hr : Rep c' b) (hrun : ∀ fuel, run (fuel + 1) c = run fuel c') :
    Follows T run Rep Ret c a :=
  Or.inl ⟨c', b, .single h, hr, hrun⟩

theorem Follows.step₂ (h : Step T a b) (h' : Step T b b') (hr : Rep c' b')
    (hrun : ∀ fuel, run (fuel + 1) c = run fuel c') : Follows T run Rep Ret c a :=
  Or.inl ⟨c', b', .tail (.single h) h', hr, hrun⟩

theorem Follows.ret {r : R} (hrun : ∀ fuel, run (fuel + 1) c = .ok r) (hr : Ret a r) : Follows T run Rep Ret c a :=
  Or.inr ⟨r, hrun, hr⟩

theorem run_owed (hstep : ∀ c a, Rep c a → Follows T run Rep Ret c a) :
    ∀ fuel c a, Rep c a → cost T a ≤ fuel →
      ∃ r b, run fuel c = .ok r ∧ Ret b r ∧ owed T b = owed T a ∧ cost T b ≤ cost T a := by
  intro fuel
  induction fuel with
  | zero =>
    intro c a _ hf
    have : 1 ≤ cost T a := by
      cases a with
      | down m v st => have := wt_pos T (m + 1) v; simp only [cost]; omega
      | test m c cs st => simp only [cost]; omega
      | next m st => simp only [cost]; omega
      | up m st => simp only [cost]; omega
    omega
  | succ fuel ih =>
    intro c a hr hf
    rcases hstep c a hr with ⟨c', b, hab, hr', hrun⟩ | ⟨r, hrun, hres⟩
    · have := cost_lt_of_transGen hab
      obtain ⟨r, b', h1, h2, h3, h4⟩ := ih c' b hr' (by omega)
      exact ⟨r, b', by rw [hrun, h1], h2, by rw [h3, owed_eq_of_transGen hab], by omega⟩
    · exact ⟨r, a, hrun fuel, hres, rfl, Nat.le_refl _⟩

end run

theorem wt_succ_le (m : Nat) (v : ν) (B : Nat) (h : ∀ c ∈ T.kids v, wt T m c + 1 ≤ B) :
    wt T (m + 1) v ≤ 3 + (T.kids v).length * B := by
  simp only [wt]
  have : ∀ l : List ν, (∀ c ∈ l, wt T m c + 1 ≤ B) → (l.map fun c => wt T m c + 1).sum ≤ l.length * B := by
    intro l
    induction l with
    | nil => simp
    | cons a l ih =>
      intro h
      have h1 := h a (by simp)
      have h2 := ih (fun c hc => h c (by simp [hc]))
      simp only [List.map_cons, List.sum_cons, List.length_cons, Nat.succ_mul]
      omega
  have := this _ h
  omega

end Iter.DFS
