import Mamba.Lemmas.DistanceEcc
import Mamba.Lemmas.DistanceCycles
/-!
# Lemmas for C10: the distance definitions and references are invariant under relabelling

The girth is treated through its characterisation `girthOpt_eq_some_iff` / `girthOpt_eq_none_iff` (least length of a
cycle sequence), which is proved here, and the transport of cycle sequences along the relabelling.
-/
namespace GDist
open GraphSpec

variable {g : G} {p : List Nat}

theorem IsPermOf.getD_lt (hp : IsPermOf g.n p) {i : Nat} (hi : i < g.n) : p.getD i 0 < g.n := by
  have : i < p.length := by rw [hp.1]; exact hi
  rw [getD_eq_getElem this]
  exact hp.2.2 _ (List.getElem_mem this)

theorem IsPermOf.surj (hp : IsPermOf g.n p) {x : Nat} (hx : x < g.n) : ∃ j, j < g.n ∧ p.getD j 0 = x := by
  have hsub : ∀ y ∈ p, y ∈ List.range g.n := fun y hy => List.mem_range.2 (hp.2.2 y hy)
  have hperm : p.Perm (List.range g.n) :=
    (List.subperm_of_subset hp.2.1 hsub).perm_of_length_le (by simp [hp.1])
  have hxp : x ∈ p := hperm.mem_iff.2 (List.mem_range.2 hx)
  obtain ⟨j, hj, hjx⟩ := List.mem_iff_getElem.1 hxp
  exact ⟨j, by rw [← hp.1]; exact hj, by rw [getD_eq_getElem hj]; exact hjx⟩

theorem IsPermOf.inj (hp : IsPermOf g.n p) {i j : Nat} (hi : i < g.n) (hj : j < g.n)
    (h : p.getD i 0 = p.getD j 0) : i = j := by
  have hi' : i < p.length := by rw [hp.1]; exact hi
  have hj' : j < p.length := by rw [hp.1]; exact hj
  rw [getD_eq_getElem hi', getD_eq_getElem hj'] at h
  exact (hp.2.1.getElem_inj_iff).1 h

theorem induced_n (hp : IsPermOf g.n p) : (g.induced p).n = g.n := hp.1

theorem induced_adj (hp : IsPermOf g.n p) {i j : Nat} (hi : i < g.n) (hj : j < g.n) :
    (g.induced p).adj i j = g.adj (p.getD i 0) (p.getD j 0) := by
  simp [G.induced, hp.1, hi, hj]

theorem walk_induced (hp : IsPermOf g.n p) {i j k : Nat} (h : Walk (g.induced p) i j k) :
    Walk g (p.getD i 0) (p.getD j 0) k := by
  unfold Walk at h ⊢
  rw [induced_n hp] at h
  induction h with
  | base h => exact .base (List.mem_range.2 (hp.getD_lt (List.mem_range.1 h)))
  | @step u x k hw hadj hx ih =>
    have hu := List.mem_range.1 hw.mem_V
    have hx' := List.mem_range.1 hx
    rw [induced_adj hp hu hx'] at hadj
    exact .step ih hadj (List.mem_range.2 (hp.getD_lt hx'))

theorem walk_induced_conv (hp : IsPermOf g.n p) {i : Nat} (hi : i < g.n) {b k : Nat}
    (h : Walk g (p.getD i 0) b k) : ∃ j, j < g.n ∧ p.getD j 0 = b ∧ Walk (g.induced p) i j k := by
  unfold Walk at h ⊢
  rw [induced_n hp]
  induction h with
  | base _ => exact ⟨i, hi, rfl, .base (List.mem_range.2 hi)⟩
  | @step u x k _ hadj hx ih =>
    obtain ⟨j0, hj0, hj0u, hw⟩ := ih
    obtain ⟨j1, hj1, hj1x⟩ := hp.surj (List.mem_range.1 hx)
    refine ⟨j1, hj1, hj1x, .step hw ?_ (List.mem_range.2 hj1)⟩
    rw [induced_adj hp hj0 hj1, hj0u, hj1x]; exact hadj

theorem walk_induced_iff (hp : IsPermOf g.n p) {i j k : Nat} (hi : i < g.n) (hj : j < g.n) :
    Walk (g.induced p) i j k ↔ Walk g (p.getD i 0) (p.getD j 0) k := by
  constructor
  · exact walk_induced hp
  · intro h
    obtain ⟨j', hj', hjj, hw⟩ := walk_induced_conv hp hi h
    rw [hp.inj hj' hj hjj] at hw
    exact hw

theorem isDist_induced_iff (hp : IsPermOf g.n p) {i j k : Nat} (hi : i < g.n) (hj : j < g.n) :
    IsDist (g.induced p) i j k ↔ IsDist g (p.getD i 0) (p.getD j 0) k := by
  unfold IsDist IsDistIn
  constructor
  · rintro ⟨h1, h2⟩
    exact ⟨walk_induced hp h1, fun j' hj' hw => h2 j' hj' ((walk_induced_iff hp hi hj).2 hw)⟩
  · rintro ⟨h1, h2⟩
    exact ⟨(walk_induced_iff hp hi hj).2 h1, fun j' hj' hw => h2 j' hj' (walk_induced hp hw)⟩

theorem dist_induced (hp : IsPermOf g.n p) {i j : Nat} (hi : i < g.n) (hj : j < g.n) :
    dist (g.induced p) i j = dist g (p.getD i 0) (p.getD j 0) := by
  apply Option.ext
  intro k
  unfold dist
  rw [distIn_eq_some_iff, distIn_eq_some_iff]
  exact isDist_induced_iff hp hi hj

theorem connectedB_induced (hp : IsPermOf g.n p) : connectedB (g.induced p) = connectedB g := by
  rw [Bool.eq_iff_iff, connectedB_iff, connectedB_iff, induced_n hp]
  constructor
  · intro h s x hs hx
    obtain ⟨i, hi, rfl⟩ := hp.surj hs
    obtain ⟨j, hj, rfl⟩ := hp.surj hx
    obtain ⟨k, hk⟩ := h i j hi hj
    exact ⟨k, walk_induced hp hk⟩
  · intro h i j hi hj
    obtain ⟨k, hk⟩ := h _ _ (hp.getD_lt hi) (hp.getD_lt hj)
    exact ⟨k, (walk_induced_iff hp hi hj).2 hk⟩

theorem isEcc_induced_iff (hp : IsPermOf g.n p) {i e : Nat} (hi : i < g.n) :
    IsEcc (g.induced p) i e ↔ IsEcc g (p.getD i 0) e := by
  unfold IsEcc
  rw [induced_n hp]
  constructor
  · rintro ⟨h1, x, hx, hxe⟩
    refine ⟨?_, p.getD x 0, hp.getD_lt hx, (isDist_induced_iff hp hi hx).1 hxe⟩
    intro y hy
    obtain ⟨j, hj, rfl⟩ := hp.surj hy
    obtain ⟨k, hk, hke⟩ := h1 j hj
    exact ⟨k, (isDist_induced_iff hp hi hj).1 hk, hke⟩
  · rintro ⟨h1, y, hy, hye⟩
    obtain ⟨j, hj, rfl⟩ := hp.surj hy
    refine ⟨?_, j, hj, (isDist_induced_iff hp hi hj).2 hye⟩
    intro x hx
    obtain ⟨k, hk, hke⟩ := h1 _ (hp.getD_lt hx)
    exact ⟨k, (isDist_induced_iff hp hi hx).2 hk, hke⟩

theorem ecc_induced (hp : IsPermOf g.n p) {i : Nat} (hi : i < g.n) :
    ecc (g.induced p) i = ecc g (p.getD i 0) := by
  unfold ecc
  rw [connectedB_induced hp]
  by_cases hc : connectedB g = true
  · simp only [hc, if_true]
    have hc' : connectedB (g.induced p) = true := by rw [connectedB_induced hp]; exact hc
    have h1 := eccNat_isEcc hc' (v := i) (by rw [induced_n hp]; exact hi)
    have h2 := eccNat_isEcc hc (hp.getD_lt hi)
    rw [((isEcc_induced_iff hp hi).1 h1).unique h2]
  · simp [hc]

theorem diameter_radius_induced (hp : IsPermOf g.n p) :
    diameter (g.induced p) = diameter g ∧ radius (g.induced p) = radius g := by
  have hcb := connectedB_induced hp
  have hn := induced_n hp
  unfold diameter radius
  rw [hcb, hn]
  by_cases h0 : g.n = 0
  · simp [h0]
  by_cases hc : connectedB g = true
  swap
  · simp [h0, hc]
  simp only [h0, hc, if_false, if_true]
  have hne : ∀ (h : G), h.n = g.n → eccs h ≠ [] :=
    fun h hh => eccs_ne_nil (hh ▸ Nat.pos_of_ne_zero h0)
  -- both are max / min of the same set of values
  have hmem : ∀ z, z ∈ eccs (g.induced p) ↔ z ∈ eccs g := by
    intro z
    rw [eccs_eq, eccs_eq, hn]
    simp only [List.mem_map, List.mem_range]
    constructor
    · rintro ⟨i, hi, rfl⟩; exact ⟨_, hp.getD_lt hi, (ecc_induced hp hi).symm⟩
    · rintro ⟨x, hx, rfl⟩
      obtain ⟨j, hj, rfl⟩ := hp.surj hx
      exact ⟨j, hj, ecc_induced hp hj⟩
  constructor
  · apply Int.le_antisymm
    · exact le_listMaxInt ((hmem _).1 (listMaxInt_mem (hne _ hn)))
    · exact le_listMaxInt ((hmem _).2 (listMaxInt_mem (hne _ rfl)))
  · apply Int.le_antisymm
    · exact listMinInt_le ((hmem _).2 (listMinInt_mem (hne _ rfl)))
    · exact listMinInt_le ((hmem _).1 (listMinInt_mem (hne _ hn)))

theorem chainAdj_map {h g : G} (f : Nat → Nat) :
    ∀ c : List Nat, (∀ a ∈ c, ∀ b ∈ c, h.adj a b = true → g.adj (f a) (f b) = true) →
      chainAdj h c → chainAdj g (c.map f)
  | [], _, _ => trivial
  | [_], _, _ => trivial
  | a :: b :: t, hadj, hc => by
    simp only [List.map_cons, chainAdj] at hc ⊢
    refine ⟨hadj b (by simp) a (by simp) hc.1, ?_⟩
    have := chainAdj_map f (b :: t) (fun x hx y hy => hadj x (List.mem_cons_of_mem _ hx) y (List.mem_cons_of_mem _ hy)) hc.2
    simpa using this

theorem isCycleSeq_map {h g : G} (f : Nat → Nat) {c : List Nat} (hc : IsCycleSeq h c)
    (hinj : ∀ a ∈ c, ∀ b ∈ c, f a = f b → a = b)
    (hrange : ∀ a ∈ c, f a < g.n)
    (hadj : ∀ a ∈ c, ∀ b ∈ c, h.adj a b = true → g.adj (f a) (f b) = true) :
    IsCycleSeq g (c.map f) := by
  obtain ⟨h1, h2, h3, h4, h5⟩ := hc
  refine ⟨by simpa using h1, List.Nodup.map_on hinj h2, ?_, chainAdj_map f c hadj h4, ?_⟩
  · intro x hx
    obtain ⟨a, ha, rfl⟩ := List.mem_map.1 hx
    exact hrange a ha
  · have hne : c ≠ [] := by intro h; rw [h] at h1; simp at h1
    have hhead : (c.map f).headD 0 = f (c.headD 0) := by
      cases c with
      | nil => exact absurd rfl hne
      | cons a t => rfl
    have hlast : (c.map f).getLastD 0 = f (c.getLastD 0) := by
      rw [List.getLastD_eq_getLast?, List.getLastD_eq_getLast?, List.getLast?_map]
      rw [getLast?_of_ne_nil hne]; rfl
    rw [hhead, hlast]
    have hm1 : c.headD 0 ∈ c := by
      cases c with
      | nil => exact absurd rfl hne
      | cons a t => simp
    exact hadj _ hm1 _ (getLastD_mem hne) h5


theorem girthOpt_eq_some_iff (g : G) (l : Nat) :
    girthOpt g = some l ↔ ((∃ c, IsCycleSeq g c ∧ c.length = l) ∧ ∀ c, IsCycleSeq g c → l ≤ c.length) := by
  unfold girthOpt
  rw [leastUpTo_eq_some]
  constructor
  · rintro ⟨_, _, h3, h4⟩
    refine ⟨(hasCycle_iff l).1 h3, ?_⟩
    intro c hc
    by_contra hlt
    have := h4 c.length (Nat.zero_le _) (by omega)
    rw [(hasCycle_iff c.length).2 ⟨c, hc, rfl⟩] at this
    cases this
  · rintro ⟨⟨c, hc, rfl⟩, hmin⟩
    refine ⟨Nat.zero_le _, by have := hc.length_le; omega, (hasCycle_iff _).2 ⟨c, hc, rfl⟩, ?_⟩
    intro j _ hj
    cases hj' : hasCycle g j with
    | false => rfl
    | true =>
      obtain ⟨c', hc', rfl⟩ := (hasCycle_iff j).1 hj'
      have := hmin c' hc'
      omega

theorem girthOpt_eq_none_iff (g : G) : girthOpt g = none ↔ ¬ ∃ c, IsCycleSeq g c := by
  unfold girthOpt
  rw [leastUpTo_eq_none]
  constructor
  · rintro h ⟨c, hc⟩
    have := h c.length (Nat.zero_le _) (by have := hc.length_le; omega)
    rw [(hasCycle_iff c.length).2 ⟨c, hc, rfl⟩] at this
    cases this
  · intro h j _ _
    cases hj' : hasCycle g j with
    | false => rfl
    | true =>
      obtain ⟨c', hc', _⟩ := (hasCycle_iff j).1 hj'
      exact absurd ⟨c', hc'⟩ h

theorem cycle_len_induced (hp : IsPermOf g.n p) (l : Nat) :
    (∃ c, IsCycleSeq (g.induced p) c ∧ c.length = l) ↔ (∃ c, IsCycleSeq g c ∧ c.length = l) := by
  have hn : (g.induced p).n = g.n := hp.1
  constructor
  · rintro ⟨c, hc, rfl⟩
    have hr : ∀ a ∈ c, a < g.n := fun a ha => hn ▸ hc.2.2.1 a ha
    refine ⟨c.map (fun a => p.getD a 0), isCycleSeq_map _ hc (fun a ha b hb => hp.inj (hr a ha) (hr b hb))
      (fun a ha => hp.getD_lt (hr a ha)) (fun a ha b hb hab => ?_), List.length_map _⟩
    rwa [induced_adj hp (hr a ha) (hr b hb)] at hab
  · rintro ⟨c, hc, rfl⟩
    have hr : ∀ a ∈ c, a < g.n := hc.2.2.1
    -- `idxOf` inverts the relabelling
    have hidx : ∀ a, a < g.n → p.idxOf a < g.n ∧ p.getD (p.idxOf a) 0 = a := by
      intro a ha
      obtain ⟨j, hj, rfl⟩ := hp.surj ha
      have hjl : j < p.length := hp.1 ▸ hj
      have hlt : p.idxOf (p.getD j 0) < p.length :=
        List.idxOf_lt_length_of_mem (by rw [getD_eq_getElem hjl]; exact List.getElem_mem hjl)
      exact ⟨hp.1 ▸ hlt, by rw [getD_eq_getElem hlt]; exact List.getElem_idxOf hlt⟩
    refine ⟨c.map (fun a => p.idxOf a), isCycleSeq_map _ hc ?_ (fun a ha => hn ▸ (hidx a (hr a ha)).1) ?_,
      List.length_map _⟩
    · intro a ha b hb hab
      rw [← (hidx a (hr a ha)).2, hab, (hidx b (hr b hb)).2]
    · intro a ha b hb hab
      obtain ⟨h1, h2⟩ := hidx a (hr a ha)
      obtain ⟨h3, h4⟩ := hidx b (hr b hb)
      rw [induced_adj hp h1 h3, h2, h4]; exact hab

theorem girthOpt_induced (hp : IsPermOf g.n p) : girthOpt (g.induced p) = girthOpt g := by
  apply Option.ext
  intro l
  rw [girthOpt_eq_some_iff, girthOpt_eq_some_iff, cycle_len_induced hp l]
  constructor
  · rintro ⟨h1, h2⟩
    refine ⟨h1, fun c hc => ?_⟩
    obtain ⟨c', hc', hl⟩ := (cycle_len_induced hp c.length).2 ⟨c, hc, rfl⟩
    rw [← hl]; exact h2 c' hc'
  · rintro ⟨h1, h2⟩
    refine ⟨h1, fun c hc => ?_⟩
    obtain ⟨c', hc', hl⟩ := (cycle_len_induced hp c.length).1 ⟨c, hc, rfl⟩
    rw [← hl]; exact h2 c' hc'

end GDist
