import Mamba.Lemmas.SparseRep
/-!
# SparseGraph.AddVertex refines `addVertexG` (property C05)

The neighbour list `S` is sorted into the list `L` of the new vertex (`newSortedInts_nodup`: on a duplicate-free input the
deduplication loop changes nothing), and a loop over `L` appends `n` to the list of every neighbour and adds 1 to its degree.
`Sparse.pairStep_loop` describes such a loop over a duplicate-free list for any two functions on lists and degrees
(`RemoveVertex` runs the same loop with `removeS` and `- 1`); the lists of the result are then known in closed form and
`Sparse.wf_of` applies.
-/
namespace GraphRep
open GraphSpec

theorem newSortedInts_nodup {x : List Int} (hn : x.Nodup) :
    ∃ L, newSortedInts x = .ok L ∧ SInc L ∧ (∀ z, z ∈ L ↔ z ∈ x) ∧ L.length = x.length := by
  have hperm := List.mergeSort_perm x (fun a b => decide (a ≤ b))
  have hle := List.pairwise_mergeSort (le := fun (a b : Int) => decide (a ≤ b))
    (by intro a b c; simp only [decide_eq_true_eq]; omega)
    (by intro a b; simp only [Bool.or_eq_true, decide_eq_true_eq]; omega) x
  generalize hS0 : x.mergeSort (fun a b => decide (a ≤ b)) = S at hperm hle
  have hnd : S.Nodup := hperm.nodup_iff.mpr hn
  have hS : SInc S := (hle.and hnd).imp (fun ⟨h1, h2⟩ => by
    simp only [decide_eq_true_eq] at h1; omega)
  refine ⟨S, ?_, hS, fun z => hperm.mem_iff, hperm.length_eq⟩
  unfold newSortedInts
  have hloop : ∃ s, loopM dedupStep (List.range' (1 + 0) (S.toArray.size - 1)) (S.toArray, 0) = .ok s ∧
      s = (S.toArray, 0) := by
    apply loopM_range' dedupStep (fun _ s => s = (S.toArray, 0)) 1 (S.toArray.size - 1) 0 _ rfl
    intro t s _ ht hs
    subst hs
    have hsz : S.toArray.size = S.length := by simp
    have h1 : 1 + t < S.length := by omega
    refine ⟨(S.toArray, 0), ?_, rfl⟩
    unfold dedupStep
    simp only
    have e1 : S.toArray[1 + t - 1]? = some S[t] := by
      have : 1 + t - 1 = t := by omega
      rw [this]; simp [show t < S.length by omega]
    have e2 : S.toArray[1 + t]? = some S[1 + t] := by simp [h1]
    rw [e1, e2]
    simp only
    have hlt : S[t] < S[1 + t] := (List.pairwise_iff_getElem.mp hS) t (1 + t) (by omega) h1 (by omega)
    rw [if_neg (by omega)]
    rw [setA_ok _ (by simp; omega)]
    simp only [Nat.sub_zero]
    have : S.toArray.setIfInBounds (1 + t) S[1 + t] = S.toArray := by simp
    rw [this]
  obtain ⟨s, hrun, hs⟩ := hloop
  subst hs
  simp only [Nat.add_zero] at hrun
  simp only [hS0]
  rw [hrun]
  simp

theorem map_mem_cons_step {α : Type} (a a' : Array α) (φ : α → α) {x : Int} {l : List Int} (hx0 : 0 ≤ x)
    (hlt : x.toNat < a.size) (hxl : x ∉ l)
    (g : ∀ k : Nat, a'[k]? = ((a.setIfInBounds x.toNat (φ a[x.toNat]))[k]?).map
      (fun r => if (k : Int) ∈ l then φ r else r)) (k : Nat) :
    a'[k]? = (a[k]?).map (fun r => if (k : Int) ∈ x :: l then φ r else r) := by
  have hxt : ((x.toNat : Nat) : Int) = x := Int.toNat_of_nonneg hx0
  rw [g k, Array.getElem?_setIfInBounds]
  by_cases hk : x.toNat = k
  · subst hk
    rw [if_pos rfl, if_pos hlt, Array.getElem?_eq_getElem hlt, Option.map_some, Option.map_some, hxt,
      if_neg hxl, if_pos (List.mem_cons_self ..)]
  · have hne : ¬ (k : Int) = x := fun e => hk (by rw [← e]; rfl)
    rw [if_neg hk]
    congr 1; funext r
    simp only [List.mem_cons, hne, false_or]

/-- the loops `for _, v := range l { Neighbourhoods[v] = f(..); DegreeSequence[v] = h(..) }` -/
theorem Sparse.pairStep_loop (f : List Int → List Int) (hf : Int → Int) (n : Nat) :
    ∀ (l : List Int) (nb : Array (List Int)) (d : Array Int), l.Nodup → (∀ x ∈ l, 0 ≤ x ∧ x < n) →
      nb.size = n → d.size = n →
    ∃ nb' d', loopM (Sparse.pairStep f hf) l (nb, d) = .ok (nb', d') ∧ nb'.size = n ∧ d'.size = n ∧
      (∀ k : Nat, nb'[k]? = (nb[k]?).map (fun r => if (k : Int) ∈ l then f r else r)) ∧
      (∀ k : Nat, d'[k]? = (d[k]?).map (fun r => if (k : Int) ∈ l then hf r else r)) := by
  intro l
  induction l with
  | nil => intro nb d _ _ h1 h2; exact ⟨nb, d, rfl, h1, h2, by simp, by simp⟩
  | cons x l ih =>
    intro nb d hnd hr h1 h2
    obtain ⟨hx0, hxn⟩ := hr x (List.mem_cons_self ..)
    obtain ⟨hxl, hnd'⟩ := List.nodup_cons.mp hnd
    have hlt1 : x.toNat < nb.size := by omega
    have hlt2 : x.toNat < d.size := by omega
    obtain ⟨nb', d', hrun, s1, s2, g1, g2⟩ := ih (nb.setIfInBounds x.toNat (f nb[x.toNat]))
      (d.setIfInBounds x.toNat (hf d[x.toNat])) hnd' (fun y hy => hr y (List.mem_cons_of_mem _ hy))
      (by rw [Array.size_setIfInBounds, h1]) (by rw [Array.size_setIfInBounds, h2])
    refine ⟨nb', d', ?_, s1, s2, map_mem_cons_step nb nb' f hx0 hlt1 hxl g1,
      map_mem_cons_step d d' hf hx0 hlt2 hxl g2⟩
    have hstep : Sparse.pairStep f hf (nb, d) x =
        .ok (nb.setIfInBounds x.toNat (f nb[x.toNat]), d.setIfInBounds x.toNat (hf d[x.toNat])) := by
      unfold Sparse.pairStep
      simp only
      rw [modifyI_okI f hx0 (Array.getElem?_eq_getElem hlt1)]
      simp only
      rw [modifyI_okI hf hx0 (Array.getElem?_eq_getElem hlt2)]
    rw [loopM, hstep]
    exact hrun

theorem Sparse.addVertex_spec {g : Sparse} (h : g.WF) {S : List Nat} (hn : S.Nodup) (hS : ∀ s ∈ S, s < g.n) :
    ∃ g', g.addVertex S = .ok g' ∧ g'.WF ∧ g'.abs = addVertexG g.abs S := by
  have hw := Sparse.abs_wf h
  have hnd : (S.map Int.ofNat).Nodup := hn.map (fun a b hab => Int.ofNat.inj hab)
  obtain ⟨L, hL, hLs, hLm, hLl⟩ := newSortedInts_nodup hnd
  have hLmem : ∀ z : Int, z ∈ L ↔ ∃ s, s ∈ S ∧ (s : Int) = z := by
    intro z; rw [hLm, List.mem_map]; rfl
  have hLnd : L.Nodup := hLs.imp (fun hab => Int.ne_of_lt hab)
  have hLr : ∀ x ∈ L, 0 ≤ x ∧ x < (g.n : Int) := by
    intro x hx
    obtain ⟨s, hs, rfl⟩ := (hLmem x).mp hx
    have := hS s hs
    omega
  have hlast : (((g.n + 1 : Nat) : Int) - 1) = (g.n : Int) := by omega
  obtain ⟨nb', d', hrun, s1, s2, g1, g2⟩ := Sparse.pairStep_loop
    (fun l => l ++ [((g.n + 1 : Nat) : Int) - 1]) (· + 1) g.n L g.nbrs g.deg hLnd hLr h.nbrs_size h.deg_size
  unfold Sparse.addVertex
  simp only
  rw [hL]
  simp only
  rw [hrun]
  simp only
  refine ⟨_, rfl, ?_⟩
  have hrow : ∀ u, Sparse.row ⟨g.n + 1, g.m + L.length, nb'.push L, d'.push L.length⟩ u =
      if u = g.n then L else if u < g.n then
        (if (u : Int) ∈ L then g.row u ++ [(g.n : Int)] else g.row u) else [] := by
    intro u
    unfold Sparse.row
    simp only
    rw [Array.getD_eq_getD_getElem?, Array.getElem?_push, s1]
    by_cases hu : u = g.n
    · rw [if_pos hu, if_pos hu]; rfl
    · rw [if_neg hu, if_neg hu, g1 u]
      by_cases hlt : u < g.n
      · rw [if_pos hlt, Sparse.row_get h hlt, hlast]
        simp only [Option.map_some, Option.getD_some]
        rfl
      · rw [if_neg hlt, Array.getElem?_eq_none (by rw [h.nbrs_size]; omega)]
        rfl
  have hwG := addVertexG_wf hw (S := S) hS
  apply Sparse.wf_of hwG
  · rfl
  · simp [s1]
  · simp [s2]
  · intro u hu
    rw [hrow u]
    by_cases hun : u = g.n
    · rw [if_pos hun]; exact hLs
    · have hlt : u < g.n := by simp only at hu; omega
      rw [if_neg hun, if_pos hlt]
      split
      · rw [SInc, List.pairwise_append]
        refine ⟨h.sorted u hlt, by simp, ?_⟩
        intro a ha b hb
        have := (h.inrange u hlt a ha).2
        simp only [List.mem_singleton] at hb
        omega
      · exact h.sorted u hlt
  · intro u hu x
    rw [hrow u]
    by_cases hun : u = g.n
    · subst hun
      rw [if_pos rfl, hLmem]
      constructor
      · rintro ⟨s, hs, rfl⟩
        exact ⟨s, rfl, (addVertexG_adj_true _ _ _ _).mpr (Or.inl ⟨rfl, hs⟩)⟩
      · rintro ⟨v, rfl, hv⟩
        rcases (addVertexG_adj_true _ _ _ _).mp hv with ⟨_, hs⟩ | ⟨_, hs⟩ | hadj
        · exact ⟨v, hs, rfl⟩
        · have := hS _ hs; omega
        · have := (hw.supp _ _ hadj).1; simp only [Sparse.abs] at this; omega
    · have hlt : u < g.n := by simp only at hu; omega
      rw [if_neg hun, if_pos hlt]
      have hmemL : (u : Int) ∈ L ↔ u ∈ S := by
        rw [hLmem]
        constructor
        · rintro ⟨s, hs, he⟩
          have : s = u := by omega
          subst this; exact hs
        · intro hs; exact ⟨u, hs, rfl⟩
      constructor
      · intro hx
        have hx' : x ∈ g.row u ∨ ((u : Int) ∈ L ∧ x = (g.n : Int)) := by
          split at hx
          · rename_i hm
            rcases List.mem_append.mp hx with hx | hx
            · exact Or.inl hx
            · exact Or.inr ⟨hm, by simpa using hx⟩
          · exact Or.inl hx
        rcases hx' with hx | ⟨hm, rfl⟩
        · obtain ⟨v, rfl, hv⟩ := (Sparse.mem_row h hlt x).mp hx
          exact ⟨v, rfl, (addVertexG_adj_true _ _ _ _).mpr (Or.inr (Or.inr hv))⟩
        · exact ⟨g.n, rfl, (addVertexG_adj_true _ _ _ _).mpr (Or.inr (Or.inl ⟨rfl, hmemL.mp hm⟩))⟩
      · rintro ⟨v, rfl, hv⟩
        rcases (addVertexG_adj_true _ _ _ _).mp hv with ⟨hc, _⟩ | ⟨hvn, hs⟩ | hadj
        · exact absurd hc hun
        · have hvn' : v = g.n := hvn
          subst hvn'
          rw [if_pos (hmemL.mpr hs)]
          exact List.mem_append.mpr (Or.inr (by simp))
        · have : (v : Int) ∈ g.row u := (Sparse.mem_row h hlt _).mpr ⟨v, rfl, hadj⟩
          split
          · exact List.mem_append.mpr (Or.inl this)
          · exact this
  · intro u hu
    rw [hrow u]
    show (d'.push _)[u]? = _
    rw [Array.getElem?_push, s2]
    by_cases hun : u = g.n
    · rw [if_pos hun, if_pos hun]
    · have hlt : u < g.n := by simp only at hu; omega
      rw [if_neg hun, if_neg hun, if_pos hlt, g2 u, h.deg_len u hlt]
      simp only [Option.map_some]
      split <;> simp
  · show g.m + (L.length : Int) = _
    rw [m_addVertexG hw hn hS, h.m_eq, hLl, List.length_map]
    simp

end GraphRep
