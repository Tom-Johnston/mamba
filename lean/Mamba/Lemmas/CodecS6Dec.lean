import Mamba.Lemmas.CodecBits
import Mamba.Lemmas.CodecHeader
import Mamba.Lemmas.CodecSparse
/-!
The model's `s6Decode` against the format's reader `Formats.s6DecodeSpec` (C07/C08 for sparse6):
the byte/bit cursor reads `unR`; the stream loop is `Formats.s6Read` followed by `addEdges`, so the result is the
`SparseGraph` value of the graph whose edges the format's reader lists (`s6Expected_eq`); the decoder never panics and
fuel suffices. `s6DecodeCore` is the text of the model function behind the test for the optional header, written out once
more (the model has no name for it; `s6Decode_eq_core` is `rfl`).
-/
namespace Codec
open Formats

theorem sum_replicate_zero (n : Nat) : (List.replicate n 0).sum = 0 := by
  induction n with
  | zero => rfl
  | succ k ih => simp [List.replicate_succ, ih]

theorem s6ReadBit_spec (s : Bytes) (hr : inRange s = true) (i pos : Nat) (hp : pos < 6 * (s.size - i)) :
    ∃ b, (unR (s.toList.drop i))[pos]? = some b ∧ s6ReadBit s i pos = .ok b.toNat := by
  have hlt : i + pos / 6 < s.size := by omega
  have hc := (inRange_iff s).1 hr s[i + pos / 6] (by simp)
  have e : s[i + pos / 6]? = some s[i + pos / 6] := Array.getElem?_eq_getElem hlt
  refine ⟨(s[i + pos / 6] - 63) / 2 ^ (5 - pos % 6) % 2 == 1, ?_, ?_⟩
  · rw [unR_getElem?, List.getElem?_drop, Array.getElem?_toList, e]; rfl
  · unfold s6ReadBit
    rw [e]
    simp only [bsub_of_le hc.1 (by omega : s[i + pos / 6] < 256), shiftRight_and_one]
    rcases Nat.mod_two_eq_zero_or_one ((s[i + pos / 6] - 63) / 2 ^ (5 - pos % 6)) with h | h <;> rw [h] <;> rfl

theorem s6ReadNum_spec (s : Bytes) (hr : inRange s = true) (i : Nat) :
    ∀ (k pos x : Nat), pos + k ≤ 6 * (s.size - i) →
      s6ReadNum s i k pos x = .ok (accBits x (((unR (s.toList.drop i)).drop pos).take k)) := by
  intro k
  induction k with
  | zero => intro pos x _; simp [s6ReadNum, accBits]
  | succ k ih =>
    intro pos x hp
    obtain ⟨b, hb, hrd⟩ := s6ReadBit_spec s hr i pos (by omega)
    unfold s6ReadNum
    rw [hrd]
    simp only []
    rw [ih (pos + 1) _ (by omega)]
    congr 1
    have hd : (unR (s.toList.drop i)).drop pos = b :: (unR (s.toList.drop i)).drop (pos + 1) := by
      rw [List.drop_eq_getElem?_toList_append, hb]; rfl
    rw [hd, List.take_succ_cons]
    unfold accBits
    rw [List.foldl_cons]
    congr 1
    have hb1 : b.toNat < 2 ^ 1 := by cases b <;> decide
    rw [← Nat.shiftLeft_add_eq_or_of_lt hb1, Nat.shiftLeft_eq]; omega

theorem accBits_zero (bs : List Bool) : accBits 0 bs = bitsToNat bs := rfl

theorem s6Read_of_ge (n k g v : Nat) (bits : List Bool) (h : v ≥ n) : s6Read n k g v bits = [] := by
  cases g with
  | zero => rfl
  | succ g =>
    unfold s6Read
    have : (if bits.headD false = true then v + 1 else v) ≥ n := by split <;> omega
    simp only [this, if_true]

theorem s6Read_range (n k g v : Nat) (bits : List Bool) :
    ∀ p ∈ Formats.s6Read n k g v bits, p.1 ≤ p.2 ∧ p.2 < n := by
  induction g generalizing v bits with
  | zero => intro p hp; simp [s6Read] at hp
  | succ g ih =>
    intro p hp
    unfold s6Read at hp
    simp only [] at hp
    generalize (if bits.headD false = true then v + 1 else v) = v' at hp
    by_cases h1 : v' ≥ n
    · simp [h1] at hp
    · simp only [h1, if_false] at hp
      by_cases h2 : bitsToNat ((bits.drop 1).take k) > v'
      · simp only [h2, if_true] at hp; exact ih _ _ p hp
      · simp only [h2, if_false] at hp
        rcases List.mem_cons.1 hp with e | e
        · subst e; simp only []; omega
        · exact ih _ _ p e

theorem addEdges_nil (g : Sparse) : addEdges g [] = .ok g := rfl

theorem addEdges_cons (g : Sparse) (p : Nat × Nat) (es : List (Nat × Nat)) :
    addEdges g (p :: es) = match g.addEdge p.2 p.1 with
      | .ok g' => addEdges g' es | .panic => .panic | .outOfFuel => .outOfFuel := by
  unfold addEdges
  rw [List.foldlM_cons]
  cases g.addEdge p.2 p.1 <;> rfl

/-- the number of complete groups of `k + 1` bits from position `pos` -/
theorem groups_succ {N pos k : Nat} (hle : pos + 1 + k ≤ N) :
    (N - pos) / (k + 1) = (N - (pos + 1 + k)) / (k + 1) + 1 := by
  rw [← Nat.add_div_right _ (Nat.succ_pos k)]
  congr 1; omega

theorem groups_zero {N pos k : Nat} (hle : ¬ pos + 1 + k ≤ N) : (N - pos) / (k + 1) = 0 :=
  Nat.div_eq_of_lt (by omega)

theorem s6Loop_spec (s : Bytes) (hr : inRange s = true) (i n k numBits : Nat) (hnb : numBits = 6 * (s.size - i)) :
    ∀ (fuel pos v : Nat) (g : Sparse), v < n → (numBits - pos) / (k + 1) < fuel →
      s6Loop s i n k numBits fuel pos v g =
        addEdges g (s6Read n k ((numBits - pos) / (k + 1)) v ((unR (s.toList.drop i)).drop pos)) := by
  intro fuel
  induction fuel with
  | zero => intro pos v g _ h; exact absurd h (Nat.not_lt_zero _)
  | succ fuel ih =>
    intro pos v g hv hf
    unfold s6Loop
    by_cases hle : pos + 1 + k ≤ numBits
    · simp only [hle, if_true]
      have hg := groups_succ hle
      obtain ⟨b, hb, hrd⟩ := s6ReadBit_spec s hr i pos (by omega)
      rw [hrd]
      simp only []
      rw [s6ReadNum_spec s hr i k (pos + 1) 0 (by omega), accBits_zero]
      simp only []
      rw [hg]
      unfold s6Read
      have hd : (unR (s.toList.drop i)).drop pos = b :: (unR (s.toList.drop i)).drop (pos + 1) := by
        rw [List.drop_eq_getElem?_toList_append, hb]; rfl
      have hhd : ((unR (s.toList.drop i)).drop pos).headD false = b := by rw [hd]; rfl
      have hd1 : ((unR (s.toList.drop i)).drop pos).drop 1 = (unR (s.toList.drop i)).drop (pos + 1) := by
        rw [List.drop_drop]
      have hdk : ((unR (s.toList.drop i)).drop pos).drop (k + 1) = (unR (s.toList.drop i)).drop (pos + 1 + k) := by
        rw [List.drop_drop, Nat.add_assoc, Nat.add_comm 1 k]
      simp only [hhd, hd1, hdk]
      have hbv : (if b.toNat = 1 then v + 1 else v) = (if b = true then v + 1 else v) := by
        cases b <;> simp
      rw [hbv]
      generalize (if b = true then v + 1 else v) = v'
      generalize bitsToNat (((unR (s.toList.drop i)).drop (pos + 1)).take k) = x
      have hf' : (numBits - (pos + 1 + k)) / (k + 1) < fuel := by rw [hg] at hf; exact Nat.lt_of_succ_lt_succ hf
      by_cases hv' : v' ≥ n
      · simp [hv', addEdges_nil]
      · by_cases hx : x ≥ n
        · have hxv : x > v' := by omega
          simp only [hx, hv', hxv, if_true, if_false, Bool.or_false, decide_true, decide_false]
          rw [s6Read_of_ge n k _ x _ hx]; rfl
        · by_cases hxv : x > v'
          · simp only [hx, hv', hxv, if_true, if_false, Bool.or_false, decide_false]
            exact ih _ _ g (by omega) hf'
          · simp only [hx, hv', hxv, if_false, Bool.or_false, decide_false]
            rw [addEdges_cons]
            simp only []
            cases g.addEdge v' x with
            | ok g' => exact ih _ _ g' (by omega) hf'
            | panic => rfl
            | outOfFuel => rfl
    · simp only [hle, if_false]
      rw [groups_zero hle]; rfl

/-- `Sparse6Decode` after the optional prefix has been removed -/
def s6DecodeCore (s1 : Bytes) : Outcome (Option Sparse) :=
  if s1.size = 0 then .ok none
  else
    match s1[0]? with
    | none => .panic
    | some c =>
      if c ≠ 58 then .ok none
      else
        let s := dropBytes s1 1
        if !inRange s then .ok none
        else if s.size = 0 then .ok none
        else
          match decHeader s with
          | .ok none => .ok none
          | .ok (some (n, i)) =>
            let g := newSparseNil n
            if n = 0 then .ok (some g)
            else
              let k := bitLen (n - 1)
              let numBits := 6 * (s.size - i)
              match s6Loop s i n k numBits (numBits + 1) 0 0 g with
              | .ok g' => .ok (some g')
              | .panic => .panic
              | .outOfFuel => .outOfFuel
          | .panic => .panic
          | .outOfFuel => .outOfFuel

theorem s6Decode_eq_core (s0 : Bytes) :
    s6Decode s0 = s6DecodeCore (if hasPrefix s0 s6Magic then dropBytes s0 11 else s0) := rfl

theorem bitLen_eq (x : Nat) : bitLen x = Formats.bitLen x := rfl

theorem s6DecodeSpec_nil : s6DecodeSpec [] = none := rfl

theorem s6DecodeSpec_ne (c : Nat) (t : List Nat) (h : c ≠ 58) : s6DecodeSpec (c :: t) = none := by
  unfold s6DecodeSpec
  split
  · rename_i heq; injection heq with h1 _; exact absurd h1 h
  · rfl

theorem s6DecodeSpec_cons (t : List Nat) : s6DecodeSpec (58 :: t) =
    if !Formats.inRange t then none else
    match readN t with
    | none => none
    | some (n, rest) =>
      some (n, s6Read n (Formats.bitLen (n - 1)) ((unR rest).length / (Formats.bitLen (n - 1) + 1)) 0 (unR rest)) := rfl

/-- the outcome the format's reader followed by `AddEdge` prescribes -/
def s6Expected (l : List Nat) : Outcome (Option Sparse) :=
  match Formats.s6DecodeSpec l with
  | none => .ok none
  | some (n, es) => match addEdges (newSparseNil n) es with
    | .ok g => .ok (some g) | .panic => .panic | .outOfFuel => .outOfFuel

theorem s6DecodeCore_spec (s : Bytes) : s6DecodeCore s = s6Expected s.toList := by
  obtain ⟨l⟩ := s
  unfold s6Expected
  cases l with
  | nil => simp [s6DecodeCore, s6DecodeSpec_nil]
  | cons c t =>
    unfold s6DecodeCore
    have h0 : ¬ ((c :: t).toArray.size = 0) := Nat.succ_ne_zero _
    have hc0 : (c :: t).toArray[0]? = some c := rfl
    simp only [h0, if_false, hc0]
    by_cases hc : c ≠ 58
    · rw [if_pos hc, s6DecodeSpec_ne c t hc]
    · have hc : c = 58 := by omega
      subst hc
      have hd : dropBytes (58 :: t).toArray 1 = t.toArray := by simp [dropBytes]
      simp only [ne_eq, not_true_eq_false, if_false, hd, s6DecodeSpec_cons, inRange_eq_spec]
      cases hr : Formats.inRange t with
      | false => simp
      | true =>
        simp only [Bool.not_true, Bool.false_eq_true, if_false]
        cases t with
        | nil => simp [readN]
        | cons a t' =>
          have hs : ¬ ((a :: t').toArray.size = 0) := Nat.succ_ne_zero _
          simp only [hs, if_false]
          have hr' : inRange (a :: t').toArray = true := by rw [inRange_eq_spec]; exact hr
          rcases decHeader_spec (a :: t').toArray (Nat.succ_pos _) hr' with ⟨h1, h2⟩ | ⟨n, i, h1, h2, hi, _, _, _, _⟩
          · simp only [h1]
            simp only [h2]
          · simp only [h1]
            simp only [h2]
            by_cases hn : n = 0
            · subst hn
              simp only [if_true]
              rw [s6Read_of_ge 0 _ _ 0 _ (Nat.le_refl 0)]
              rfl
            · simp only [hn, if_false]
              have hlen : (unR (List.drop i (a :: t'))).length = 6 * ((a :: t').toArray.size - i) := by
                rw [unR_length, List.length_drop]; rfl
              have := s6Loop_spec (a :: t').toArray hr' i n (bitLen (n - 1)) _ rfl
                (6 * ((a :: t').toArray.size - i) + 1) 0 0 (newSparseNil n) (by omega)
                (Nat.lt_succ_of_le (Nat.div_le_self _ _))
              rw [this, bitLen_eq, hlen]
              simp only [Nat.sub_zero, List.drop_zero]

theorem s6Decode_core_spec (s : Bytes) (hm : hasPrefix s s6Magic = false) :
    s6Decode s = match Formats.s6DecodeSpec s.toList with
      | none => .ok none
      | some (n, es) => match addEdges (newSparseNil n) es with
        | .ok g => .ok (some g) | .panic => .panic | .outOfFuel => .outOfFuel := by
  rw [s6Decode_eq_core, hm]
  exact s6DecodeCore_spec s

theorem s6Decode_strip (s : Bytes) (hm : hasPrefix s s6Magic = true) :
    s6Decode s = match Formats.s6DecodeSpec (s.toList.drop 11) with
      | none => .ok none
      | some (n, es) => match addEdges (newSparseNil n) es with
        | .ok g => .ok (some g) | .panic => .panic | .outOfFuel => .outOfFuel := by
  rw [s6Decode_eq_core, hm]
  have := s6DecodeCore_spec (dropBytes s 11)
  simp only [dropBytes, List.toList_toArray] at this
  exact this

theorem s6DecodeSpec_some {l : List Nat} {n : Nat} {es : List (Nat × Nat)} (h : s6DecodeSpec l = some (n, es)) :
    ∃ t rest, l = 58 :: t ∧ Formats.inRange t = true ∧ readN t = some (n, rest) ∧
      es = s6Read n (Formats.bitLen (n - 1)) ((unR rest).length / (Formats.bitLen (n - 1) + 1)) 0 (unR rest) := by
  cases l with
  | nil => cases h
  | cons c t =>
    by_cases hc : c = 58
    swap
    · rw [s6DecodeSpec_ne c t hc] at h; cases h
    subst hc
    rw [s6DecodeSpec_cons] at h
    cases hr : Formats.inRange t with
    | false => rw [hr] at h; cases h
    | true =>
      rw [hr] at h
      cases hN : readN t with
      | none => rw [hN] at h; cases h
      | some p =>
        obtain ⟨n', rest⟩ := p
        rw [hN] at h
        cases h
        exact ⟨t, rest, rfl, hr, hN, rfl⟩

theorem s6DecodeSpec_range (l : List Nat) (n : Nat) (es : List (Nat × Nat)) (h : s6DecodeSpec l = some (n, es)) :
    ∀ p ∈ es, p.1 ≤ p.2 ∧ p.2 < n := by
  obtain ⟨_, _, _, _, _, rfl⟩ := s6DecodeSpec_some h
  exact s6Read_range _ _ _ _ _

theorem s6DecodeSpec_n_lt (l : List Nat) (n : Nat) (es : List (Nat × Nat)) (h : s6DecodeSpec l = some (n, es)) :
    n < 2 ^ 36 := by
  obtain ⟨t, rest, _, hr, hN, _⟩ := s6DecodeSpec_some h
  exact readN_lt t hr n rest hN

theorem s6Expected_eq (l : List Nat) : s6Expected l = match Formats.s6DecodeSpec l with
    | none => .ok none
    | some (n, es) => .ok (some (sparseOf (GraphSpec.ofEdges n es))) := by
  unfold s6Expected
  cases hs : Formats.s6DecodeSpec l with
  | none => rfl
  | some ne =>
    obtain ⟨n, es⟩ := ne
    have hr := s6DecodeSpec_range l n es hs
    simp only
    rw [addEdges_newSparseNil n es fun p hp => by
      have := hr p hp; exact ⟨Nat.lt_of_le_of_lt this.1 this.2, this.2⟩]

theorem s6Expected_total (l : List Nat) :
    s6Expected l ≠ .panic ∧ s6Expected l ≠ .outOfFuel ∧
    ∀ g, s6Expected l = .ok (some g) → g.WF ∧ ∃ es, Formats.s6DecodeSpec l = some (g.n, es) := by
  rw [s6Expected_eq]
  cases hs : Formats.s6DecodeSpec l with
  | none => exact ⟨ok_ne_panic _, ok_ne_outOfFuel _, fun g hg => by cases hg⟩
  | some ne =>
    obtain ⟨n, es⟩ := ne
    refine ⟨ok_ne_panic _, ok_ne_outOfFuel _, fun g hg => ?_⟩
    cases hg
    exact ⟨sparseOf_wf _ (GraphSpec.ofEdges_wf n es), es, rfl⟩

theorem s6Decode_total (s : Bytes) :
    s6Decode s ≠ .panic ∧ s6Decode s ≠ .outOfFuel ∧
    ∀ g, s6Decode s = .ok (some g) → g.WF ∧
      ∃ es, Formats.s6DecodeSpec (if hasPrefix s s6Magic then s.toList.drop 11 else s.toList) = some (g.n, es) := by
  rw [s6Decode_eq_core, s6DecodeCore_spec]
  have e : (if hasPrefix s s6Magic = true then dropBytes s 11 else s).toList =
      (if hasPrefix s s6Magic = true then s.toList.drop 11 else s.toList) := by
    split <;> simp [dropBytes]
  rw [e]
  exact s6Expected_total _

end Codec
