import Mamba.Lemmas.DistanceGibbsQ
import Mamba.Lemmas.DistancePatonLoopInv
/-!
# Degrees in a list of edge codes; cycles and XOR combinations of cycles have even degrees
-/
namespace GDist
open GraphSpec Model

/-- the code `c` is the code of an edge at `w` (vertices `< n`) -/
def incid (n w c : Nat) : Bool := (List.range n).any fun x => x != w && c == edgeCode w x

def degIn (n : Nat) (t : List Nat) (w : Nat) : Nat := t.countP (incid n w)

def EvenSet (n : Nat) (t : List Nat) : Prop := ∀ w, w < n → degIn n t w % 2 = 0

theorem incid_edgeCode {n w a b : Nat} (ha : a < n) (hb : b < n) (hab : a ≠ b) :
    incid n w (edgeCode a b) = true ↔ (w = a ∨ w = b) := by
  unfold incid
  simp only [List.any_eq_true, List.mem_range, Bool.and_eq_true, bne_iff_ne, ne_eq, beq_iff_eq]
  constructor
  · rintro ⟨x, _, hxw, hc⟩
    have := edgeCode_inj (e := (a, b)) (e' := (w, x)) hab (fun h => hxw h.symm) hc
    rcases normE_eq this with h | h
    · exact .inl h.1.symm
    · exact .inr h.2.symm
  · rintro (rfl | rfl)
    · exact ⟨b, hb, fun h => hab h.symm, rfl⟩
    · exact ⟨a, ha, hab, edgeCode_comm _ _⟩

theorem degIn_cons (n c w : Nat) (t : List Nat) :
    degIn n (c :: t) w = degIn n t w + if incid n w c = true then 1 else 0 := by
  unfold degIn; rw [List.countP_cons]

theorem path_deg {n w : Nat} : ∀ (q : List Nat) (a : Nat), (a :: q).Nodup → (∀ x ∈ a :: q, x < n) →
    degIn n (pathCodes (a :: q)) w + (if w = a then 1 else 0) + (if w = (a :: q).getLastD 0 then 1 else 0)
      = if w ∈ a :: q then 2 else 0
  | [], a, _, _ => by
    simp only [pathCodes, degIn, List.countP_nil, List.getLastD_cons, List.getLastD_nil, List.mem_singleton]
    split <;> simp
  | b :: t, a, hnd, hn => by
    obtain ⟨hanot, hnd'⟩ := List.nodup_cons.1 hnd
    have ih := path_deg (n := n) (w := w) t b hnd' (fun x hx => hn x (List.mem_cons_of_mem _ hx))
    have han := hn a List.mem_cons_self
    have hbn := hn b (by simp)
    have hab : a ≠ b := fun h => hanot (by simp [h])
    have hlast : (a :: b :: t).getLastD 0 = (b :: t).getLastD 0 := by simp
    rw [pathCodes, degIn_cons, hlast]
    have hinc := incid_edgeCode (n := n) (w := w) han hbn hab
    have hlm : (b :: t).getLastD 0 ∈ b :: t := by
      rw [List.getLastD_eq_getLast?]
      have : (b :: t).getLast? = some ((b :: t).getLast (by simp)) := List.getLast?_eq_some_getLast (by simp)
      rw [this]; exact List.getLast_mem _
    by_cases hwa : w = a
    · have h1 : incid n w (edgeCode a b) = true := hinc.2 (.inl hwa)
      have hwq : w ∉ b :: t := hwa ▸ hanot
      have hwb : ¬ w = b := fun h => hab (hwa ▸ h)
      have hwl : ¬ w = (b :: t).getLastD 0 := fun h0 => hwq (h0 ▸ hlm)
      have hwm : w ∈ a :: b :: t := by rw [hwa]; exact List.mem_cons_self
      rw [if_pos h1, if_pos hwa, if_neg hwl, if_pos hwm]
      rw [if_neg hwb, if_neg hwl, if_neg hwq] at ih
      omega
    · by_cases hwb : w = b
      · have h1 : incid n w (edgeCode a b) = true := hinc.2 (.inr hwb)
        have hwq : w ∈ b :: t := by rw [hwb]; exact List.mem_cons_self
        have hwm : w ∈ a :: b :: t := List.mem_cons_of_mem _ hwq
        rw [if_pos h1, if_neg hwa, if_pos hwm]
        rw [if_pos hwb, if_pos hwq] at ih
        omega
      · have h1 : ¬ incid n w (edgeCode a b) = true := fun h => by
          rcases hinc.1 h with h | h
          · exact hwa h
          · exact hwb h
        rw [if_neg h1, if_neg hwa]
        rw [if_neg hwb] at ih
        by_cases hwq : w ∈ b :: t
        · rw [if_pos (List.mem_cons_of_mem _ hwq)]
          rw [if_pos hwq] at ih
          omega
        · have hwm : w ∉ a :: b :: t := fun h => by
            rcases List.mem_cons.1 h with h | h
            · exact hwa h
            · exact hwq h
          rw [if_neg hwm]
          rw [if_neg hwq] at ih
          omega

theorem cycle_even {a : G} {c : List Nat} (hc : IsCycleSeq a c) : EvenSet a.n (cycCodes c) := by
  obtain ⟨hlen, hnd, hn, _, _⟩ := hc
  intro w _
  match c, hlen, hnd, hn with
  | x :: q, hlen, hnd, hn =>
    have hq : q ≠ [] := by
      intro h; subst h; simp at hlen
    have hx := hn x List.mem_cons_self
    have hlm : (x :: q).getLastD 0 ∈ q := by
      obtain ⟨b, t, rfl⟩ := List.exists_cons_of_ne_nil hq
      rw [List.getLastD_eq_getLast?]
      have : (x :: b :: t).getLast? = some ((b :: t).getLast (by simp)) := by
        rw [List.getLast?_cons_cons]; exact List.getLast?_eq_some_getLast (by simp)
      rw [this]; exact List.getLast_mem _
    have hl := hn _ (List.mem_cons_of_mem _ hlm)
    have hxl : x ≠ (x :: q).getLastD 0 := fun h => (List.nodup_cons.1 hnd).1 (h ▸ hlm)
    have hp := path_deg (n := a.n) (w := w) q x hnd hn
    unfold cycCodes
    rw [degIn_cons, List.headD_cons]
    have hinc := incid_edgeCode (n := a.n) (w := w) hx hl hxl
    by_cases hwx : w = x
    · have h1 : incid a.n w (edgeCode x ((x :: q).getLastD 0)) = true := hinc.2 (.inl hwx)
      have hwl : ¬ w = (x :: q).getLastD 0 := fun h => hxl (hwx ▸ h)
      have hwm : w ∈ x :: q := by rw [hwx]; exact List.mem_cons_self
      rw [if_pos hwx, if_neg hwl, if_pos hwm] at hp
      rw [if_pos h1, show degIn a.n (pathCodes (x :: q)) w = 1 by omega]
    · by_cases hwl : w = (x :: q).getLastD 0
      · have h1 : incid a.n w (edgeCode x ((x :: q).getLastD 0)) = true := hinc.2 (.inr hwl)
        have hwm : w ∈ x :: q := by rw [hwl]; exact List.mem_cons_of_mem _ hlm
        rw [if_neg hwx, if_pos hwl, if_pos hwm] at hp
        rw [if_pos h1, show degIn a.n (pathCodes (x :: q)) w = 1 by omega]
      · have h1 : ¬ incid a.n w (edgeCode x ((x :: q).getLastD 0)) = true := fun h =>
          (hinc.1 h).elim hwx hwl
        rw [if_neg hwx, if_neg hwl, Nat.add_zero] at hp
        rw [if_neg h1, Nat.add_zero, hp]
        split <;> rfl

theorem even_sortInts {n : Nat} {l : List Nat} (h : EvenSet n l) : EvenSet n (sortInts l) := by
  intro w hw
  have : degIn n (sortInts l) w = degIn n l w := by
    unfold degIn sortInts
    exact (List.mergeSort_perm l _).countP_eq _
  rw [this]; exact h w hw

theorem even_sXor {n : Nat} {s t : List Nat} (hs : EvenSet n s) (ht : EvenSet n t) : EvenSet n (sXor s t) := by
  intro w hw
  obtain ⟨k, hk⟩ := sXor_countP (incid n w) s t
  have h : ((sXor s t).countP (incid n w) + 2 * k) % 2 = 0 := by
    rw [hk, Nat.add_mod]
    exact (congrArg₂ (fun a b => (a + b) % 2) (hs w hw) (ht w hw))
  rwa [Nat.add_mul_mod_self_left] at h

theorem isCycCode_even {a : G} {f : List Nat} (h : IsCycCode a f) : EvenSet a.n f := by
  obtain ⟨c, hc, rfl⟩ := h
  exact even_sortInts (cycle_even hc)

end GDist
