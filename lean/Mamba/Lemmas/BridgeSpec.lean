import Mamba.Lemmas.ExactFinal
import Mamba.Lemmas.IRIso
import Mamba.Lemmas.OutcomeLawful
/-! The oracle built from the unpruned individualisation–refinement model of C01/C02 satisfies `OracleSpec`. -/
namespace Search
open GraphSpec GSearch

theorem nbr_fold (f : List Nat → Nat → Outcome (List Nat)) (p : Nat → Bool) :
    ∀ (l : List Nat) (acc : List Nat),
      (∀ i ∈ l, ∀ acc, f acc i = .ok (if p i then i :: acc else acc)) →
      l.foldlM (m := Outcome) f acc = .ok ((l.filter p).reverse ++ acc)
  | [], acc, _ => by simp
  | i :: is, acc, h => by
    simp only [List.foldlM_cons, h i List.mem_cons_self, bind, Outcome.bind]
    rw [nbr_fold f p is _ (fun j hj => h j (List.mem_cons_of_mem _ hj))]
    by_cases hp : p i = true
    · simp [hp]
    · have : p i = false := by simpa using hp
      simp [this]

theorem nbrRow_spec {g : DG} (hb : Built g) {v : Nat} (hv : v < g.nv) : nbrRow g v = .ok (g.toG.nbrs v) := by
  unfold nbrRow
  have h1 := nbr_fold (fun acc i =>
      match g.edges[tri v + i]? with
      | none => Outcome.panic
      | some b => Outcome.ok (if b > 0 then i :: acc else acc)) (fun i => g.toG.adj v i) (List.range v) [] (by
    intro i hi acc
    obtain ⟨b, hb1, hb2⟩ := toG_adj_get hb.sized (List.mem_range.1 hi) hv
    rw [(toG_wf g).symm i v] at hb2
    simp only [hb1, ← hb2]
    by_cases hpos : b > 0 <;> simp [hpos])
  have h2 := fun acc => nbr_fold (fun acc i =>
      match g.edges[tri i + v]? with
      | none => Outcome.panic
      | some b => Outcome.ok (if b > 0 then i :: acc else acc)) (fun i => g.toG.adj v i)
        ((List.range g.nv).drop (v + 1)) acc (by
    intro i hi acc
    have hi1 : i < g.nv := List.mem_range.1 (List.mem_of_mem_drop hi)
    have hi2 : v < i := by
      obtain ⟨k, hk, he⟩ := List.getElem_of_mem hi
      simp only [List.getElem_drop, List.getElem_range] at he
      omega
    obtain ⟨b, hb1, hb2⟩ := toG_adj_get hb.sized hi2 hi1
    simp only [hb1, ← hb2]
    by_cases hpos : b > 0 <;> simp [hpos])
  simp only [bind, Outcome.bind, pure]
  erw [h1]
  simp only
  erw [h2]
  simp only
  congr 1
  unfold G.nbrs
  show _ = (List.range g.nv).filter fun u => g.toG.adj v u
  have hsplit : List.range g.nv = List.range v ++ [v] ++ (List.range g.nv).drop (v + 1) := by
    conv_lhs => rw [← List.take_append_drop (v + 1) (List.range g.nv)]
    rw [List.take_range, Nat.min_eq_left (by omega), List.range_succ]
  conv_rhs => rw [hsplit]
  simp [List.filter_append, (toG_wf g).irrefl]

theorem mapM_nbrRow {g : DG} (hb : Built g) :
    ∀ (l : List Nat), (∀ v ∈ l, v < g.nv) → l.mapM (m := Outcome) (nbrRow g) = .ok (l.map g.toG.nbrs)
  | [], _ => rfl
  | v :: vs, h => by
    rw [List.mapM_cons, nbrRow_spec hb (h v List.mem_cons_self)]
    simp only [bind, Outcome.bind]
    rw [mapM_nbrRow hb vs (fun w hw => h w (List.mem_cons_of_mem _ hw))]
    rfl

theorem getAut_eq (O : Oracle) {cap : Nat} {g : DG} (hb : Built g) (hle : g.nv ≤ cap) (vb : Option Nat) :
    getAut O cap g vb = O g.nv g.ne ((List.range g.nv).map g.toG.nbrs) vb := by
  unfold getAut
  rw [if_neg (by omega), mapM_nbrRow hb _ (fun v hv => List.mem_range.1 hv)]

def irGraph (nv : Nat) (rows : List (List Nat)) : IR.G := { n := nv, adj := rows.toArray }

def maxLeaf (G : IR.G) : Array Nat :=
  ((IR.allLeaves G (IR.init G)).find? fun l => IR.cert G l == IR.canonCert G).getD #[]

def orbitOps (nv : Nat) (auts : List (Array Nat)) : List Disjoint.Op :=
  auts.flatMap fun a => (List.range nv).map fun v => Disjoint.Op.union v (IR.col a v)

def orbitDS (nv : Nat) (auts : List (Array Nat)) : Disjoint.DS :=
  match Disjoint.run (orbitOps nv auts) (Disjoint.new nv) with
  | .ok ds => ds
  | _ => Disjoint.new nv

/-- **the oracle of the exactness theorem, built from the C01/C02 model**: canonical labelling = inverse of a leaf of
maximal certificate, orbits = union–find closure of `v ~ γ v` over the whole automorphism list, generators = the whole
automorphism list; the viability check never exits early. -/
def irOracle : Oracle := fun nv _ne rows _vb =>
  let G := irGraph nv rows
  let auts := IR.autGroupFrom G (IR.init G)
  .ok (some { perm := IR.tab nv (IR.invFn nv (maxLeaf G)), orbits := orbitDS nv auts, gens := auts })

def irOf (g : DG) : IR.G := IR.ofSpec g.toG

theorem irOf_eq (g : DG) : irGraph g.nv ((List.range g.nv).map g.toG.nbrs) = irOf g := rfl

theorem irOf_n (g : DG) : (irOf g).n = g.nv := rfl

theorem irOf_wf (g : DG) : IR.WF (irOf g) := IR.ofSpec_wf (toG_wf g)

theorem mem_irOf_nbrs {g : DG} {u v : Nat} (hu : u < g.nv) : v ∈ (irOf g).nbrs u ↔ v < g.nv ∧ g.toG.adj u v = true := by
  unfold irOf
  rw [IR.nbrs_ofSpec _ (show u < g.toG.n from hu)]
  unfold G.nbrs
  simp only [List.mem_filter, List.mem_range]
  rfl

theorem relabel_of_isIso {g h : DG} {σ : Nat → Nat} (i : IsIso g h σ) : IR.Relabel (irOf g) (irOf h) σ i.bij.inv where
  n_eq := i.nv.symm
  left := fun v hv => i.bij.inv_left hv
  right := fun v hv => (i.bij.inv_spec hv).2
  σ_lt := fun v hv => i.bij.maps v hv
  τ_lt := fun v hv => (i.bij.inv_spec hv).1
  nbrs_lt := (irOf_wf g).lt
  nbrs := by
    intro v hv
    have hv' : v < g.nv := hv
    unfold irOf
    have hσv : σ v < h.toG.n := by
      have := i.bij.maps v hv'
      have := i.nv
      show σ v < h.nv
      omega
    rw [IR.nbrs_ofSpec _ hσv, IR.nbrs_ofSpec _ (show v < g.toG.n from hv')]
    exact i.nbrs_perm hv'

theorem isAut_of_relabel {g : DG} {γ τ : Nat → Nat} (R : IR.Relabel (irOf g) (irOf g) γ τ) : IsAut g γ := by
  have hn : (irOf g).n = g.nv := rfl
  refine ⟨⟨fun u hu => R.σ_lt u hu, ?_, ?_⟩, ?_⟩
  · intro u v hu hv h
    have := congrArg τ h
    rwa [R.left u hu, R.left v hv] at this
  · intro w hw
    exact ⟨τ w, R.τ_lt w hw, R.right w hw⟩
  · intro u v hu hv
    have key : v ∈ (irOf g).nbrs u ↔ γ v ∈ (irOf g).nbrs (γ u) := by
      rw [(R.nbrs u hu).mem_iff, List.mem_map]
      constructor
      · intro h; exact ⟨v, h, rfl⟩
      · rintro ⟨w, hw, he⟩
        have hwn := R.nbrs_lt u hu w hw
        have := congrArg τ he
        rw [R.left w hwn, R.left v hv] at this
        exact this ▸ hw
    rw [mem_irOf_nbrs hu, mem_irOf_nbrs (R.σ_lt u hu)] at key
    have hγv : γ v < g.nv := R.σ_lt v hv
    cases h1 : g.toG.adj u v <;> cases h2 : g.toG.adj (γ u) (γ v)
    · rfl
    · exact absurd (key.2 ⟨hγv, h2⟩).2 (by simp [h1])
    · exact absurd (key.1 ⟨hv, h1⟩).2 (by simp [h2])
    · rfl

theorem relabel_of_isAut {g : DG} {σ : Nat → Nat} (h : IsAut g σ) : ∃ τ, IR.Relabel (irOf g) (irOf g) σ τ :=
  ⟨_, relabel_of_isIso (isAut_iff_isIso.1 h)⟩

section
open Relation

def irAns (g : DG) : Ans :=
  { perm := IR.tab g.nv (IR.invFn g.nv (maxLeaf (irOf g)))
    orbits := orbitDS g.nv (IR.autGroupFrom (irOf g) (IR.init (irOf g)))
    gens := IR.autGroupFrom (irOf g) (IR.init (irOf g)) }

theorem getAut_irOracle {n : Nat} {g : DG} (hb : Built g) (hle : g.nv ≤ n) (vb : Option Nat) :
    getAut irOracle n g vb = .ok (some (irAns g)) := by
  rw [getAut_eq irOracle hb hle vb]
  rfl

theorem getAut_irOracle_inv {n : Nat} {g : DG} (hb : Built g) {vb : Option Nat} {r : Option Ans}
    (h : getAut irOracle n g vb = .ok r) : g.nv ≤ n ∧ r = some (irAns g) := by
  by_cases hle : g.nv ≤ n
  · rw [getAut_irOracle hb hle vb] at h
    exact ⟨hle, (Outcome.ok.inj h).symm⟩
  · unfold getAut at h
    rw [if_pos (by omega)] at h
    cases h

theorem maxLeaf_spec (g : DG) :
    maxLeaf (irOf g) ∈ IR.allLeaves (irOf g) (IR.init (irOf g)) ∧
      IR.cert (irOf g) (maxLeaf (irOf g)) = IR.canonCert (irOf g) := by
  obtain ⟨l, hl, he⟩ := IR.canonCertFrom_is_leaf (irOf g) (IR.init (irOf g))
  unfold maxLeaf
  cases hf : (IR.allLeaves (irOf g) (IR.init (irOf g))).find? fun l => IR.cert (irOf g) l == IR.canonCert (irOf g) with
  | none =>
    have := List.find?_eq_none.1 hf l hl
    have he' : IR.cert (irOf g) l = IR.canonCert (irOf g) := he.symm
    simp [he'] at this
  | some l' =>
    simp only [Option.getD_some]
    exact ⟨List.mem_of_find?_eq_some hf, by simpa using List.find?_some hf⟩

theorem maxLeaf_perm (g : DG) : IR.IsPerm g.nv (maxLeaf (irOf g)) :=
  IR.allLeaves_perm (irOf_wf g) (IR.init_work _) _ (maxLeaf_spec g).1

theorem invFn_bij {nv : Nat} {l : Array Nat} (hl : IR.IsPerm nv l) : IsBij nv (IR.invFn nv l) := by
  refine ⟨fun u hu => (IR.inv_right hl hu).1, ?_, ?_⟩
  · intro u v hu hv h
    have h1 := (IR.inv_right hl hu).2
    have h2 := (IR.inv_right hl hv).2
    rw [h] at h1
    exact h1.symm.trans h2
  · intro w hw
    exact ⟨IR.col l w, hl.1 w hw, IR.inv_left hl hw⟩

theorem tab_getD {nv : Nat} (f : Nat → Nat) {i : Nat} (hi : i < nv) : (IR.tab nv f).getD i 0 = f i :=
  IR.col_tab f hi

theorem tab_toList (nv : Nat) (f : Nat → Nat) : (IR.tab nv f).toList = (List.range nv).map f := by
  simp [IR.tab]

theorem irAns_perm (g : DG) : (irAns g).perm.toList.Perm (List.range g.nv) := by
  show (IR.tab g.nv _).toList.Perm _
  rw [tab_toList]
  exact perm_of_isBij (invFn_bij (maxLeaf_perm g))

theorem canon_adj (g : DG) {i j : Nat} (hi : i < g.nv) (hj : j < g.nv) :
    j ∈ (IR.canonGraph (irOf g)).nbrs i ↔
      g.toG.adj (IR.invFn g.nv (maxLeaf (irOf g)) i) (IR.invFn g.nv (maxLeaf (irOf g)) j) = true := by
  have hp := maxLeaf_perm g
  have R := IR.leaf_relabel (irOf_wf g) hp
  rw [(maxLeaf_spec g).2] at R
  have hi' := IR.inv_right hp hi
  have hj' := IR.inv_right hp hj
  have := R.nbrs _ hi'.1
  rw [hi'.2] at this
  show j ∈ (IR.ofCodes (irOf g).n (IR.canonCert (irOf g))).nbrs i ↔ _
  rw [this.mem_iff, List.mem_map]
  constructor
  · rintro ⟨w, hw, he⟩
    have hw' := (mem_irOf_nbrs hi'.1).1 hw
    have : w = IR.invFn g.nv (maxLeaf (irOf g)) j := by
      rw [← he]; exact (IR.inv_left hp hw'.1).symm
    rw [← this]; exact hw'.2
  · intro h
    exact ⟨_, (mem_irOf_nbrs hi'.1).2 ⟨hj'.1, h⟩, hj'.2⟩

theorem irAns_canon {g h : DG} (i : IsoD g h) {a b : Nat} (ha : a < g.nv) (hb : b < g.nv) :
    g.toG.adj ((irAns g).perm.getD a 0) ((irAns g).perm.getD b 0) =
      h.toG.adj ((irAns h).perm.getD a 0) ((irAns h).perm.getD b 0) := by
  obtain ⟨hn, σ, hσ, hadj⟩ := i
  have hnv : g.nv = h.nv := hn
  have iso : IsIso g h σ := ⟨hnv, hσ, hadj⟩
  have hcan : IR.canonGraph (irOf h) = IR.canonGraph (irOf g) := IR.canonGraph_invariant (relabel_of_isIso iso)
  show g.toG.adj ((IR.tab g.nv _).getD a 0) ((IR.tab g.nv _).getD b 0) =
    h.toG.adj ((IR.tab h.nv _).getD a 0) ((IR.tab h.nv _).getD b 0)
  rw [tab_getD _ ha, tab_getD _ hb, tab_getD _ (hnv ▸ ha), tab_getD _ (hnv ▸ hb)]
  have k1 := canon_adj g ha hb
  have k2 := canon_adj h (hnv ▸ ha) (hnv ▸ hb)
  rw [hcan] at k2
  cases h1 : g.toG.adj (IR.invFn g.nv (maxLeaf (irOf g)) a) (IR.invFn g.nv (maxLeaf (irOf g)) b) <;>
    cases h2 : h.toG.adj (IR.invFn h.nv (maxLeaf (irOf h)) a) (IR.invFn h.nv (maxLeaf (irOf h)) b)
  · rfl
  · exact absurd (k1.1 (k2.2 h2)) (by simp [h1])
  · exact absurd (k2.1 (k1.2 h1)) (by simp [h2])
  · rfl

end

section
open Relation Disjoint

def irAuts (g : DG) : List (Array Nat) := IR.autGroupFrom (irOf g) (IR.init (irOf g))

theorem irAuts_aut {g : DG} {a : Array Nat} (ha : a ∈ irAuts g) : IsAut g (fun v => a.getD v 0) := by
  obtain ⟨τ, R⟩ := IR.autGroupFrom_sound (irOf_wf g) (IR.init_work _) ha
  exact isAut_of_relabel R

theorem irAuts_size {g : DG} {a : Array Nat} (ha : a ∈ irAuts g) : a.size = g.nv := by
  unfold irAuts IR.autGroupFrom at ha
  split at ha
  · cases ha
  · obtain ⟨l, -, rfl⟩ := List.mem_map.1 ha
    simp [IR.autOf, IR.tab, irOf_n]

theorem irAuts_complete {g : DG} {σ : Nat → Nat} (h : IsAut g σ) :
    ∃ a ∈ irAuts g, ∀ v, v < g.nv → a.getD v 0 = σ v := by
  obtain ⟨τ, R⟩ := relabel_of_isAut h
  exact IR.autGroupFrom_complete (irOf_wf g) (IR.init_work _) R (IR.init_rel R)

theorem unionRel_orbitOps (g : DG) (x y : Nat) :
    unionRel (orbitOps g.nv (irAuts g)) x y ↔ ∃ a ∈ irAuts g, x < g.nv ∧ y = a.getD x 0 := by
  simp only [unionRel, orbitOps, List.mem_flatMap, List.mem_map, List.mem_range, Op.union.injEq]
  constructor
  · rintro ⟨a, ha, v, hv, rfl, rfl⟩; exact ⟨a, ha, hv, rfl⟩
  · rintro ⟨a, ha, hx, rfl⟩; exact ⟨a, ha, x, hx, rfl, rfl⟩

theorem orbitDS_tracks (g : DG) :
    Tracks g.nv (orbitOps g.nv (irAuts g)) (orbitDS g.nv (irAuts g)) := by
  have hvalid : ∀ o ∈ orbitOps g.nv (irAuts g), o.valid g.nv := by
    intro o ho
    simp only [orbitOps, List.mem_flatMap, List.mem_map, List.mem_range] at ho
    obtain ⟨a, ha, v, hv, rfl⟩ := ho
    exact ⟨hv, (irAuts_aut ha).1.maps v hv⟩
  obtain ⟨d', f, t⟩ := run_spec (orbitOps g.nv (irAuts g)) [] (Disjoint.new g.nv) (tracks_new g.nv) hvalid
  unfold orbitDS
  rw [f]
  simpa using t

theorem isAut_id (g : DG) : IsAut g (fun v => v) := ⟨IsBij.id _, fun _ _ _ _ => rfl⟩

theorem orbitDS_orbits (g : DG) {u v : Nat} (hu : u < g.nv) (hv : v < g.nv) :
    rep (orbitDS g.nv (irAuts g)) u = rep (orbitDS g.nv (irAuts g)) v ↔ ∃ σ, IsAut g σ ∧ σ u = v := by
  obtain ⟨-, -, hrep⟩ := orbitDS_tracks g
  rw [hrep u v hu hv]
  constructor
  · intro h
    have key := eqvGen_sub (E := fun x y => x < g.nv ∧ y < g.nv ∧ ∃ σ, IsAut g σ ∧ σ x = y)
      (fun ⟨hx, hy, σ, hσ, he⟩ => ⟨hy, hx, _, isAut_iff_isIso.2 (isAut_iff_isIso.1 hσ).symm, he ▸ hσ.1.inv_left hx⟩)
      (fun ⟨hx, _, σ, hσ, he⟩ ⟨_, hz, τ, hτ, he'⟩ =>
        ⟨hx, hz, _, isAut_iff_isIso.2 ((isAut_iff_isIso.1 hσ).comp (isAut_iff_isIso.1 hτ)), he' ▸ he ▸ rfl⟩)
      (fun x y hr => by
        obtain ⟨a, ha, hx, rfl⟩ := (unionRel_orbitOps g x y).1 hr
        exact ⟨hx, (irAuts_aut ha).1.maps x hx, _, irAuts_aut ha, rfl⟩) h
    rcases key with rfl | ⟨-, -, σ, hσ, he⟩
    · exact ⟨_, isAut_id g, rfl⟩
    · exact ⟨σ, hσ, he⟩
  · rintro ⟨σ, hσ, he⟩
    obtain ⟨a, ha, hav⟩ := irAuts_complete hσ
    exact EqvGen.rel _ _ ((unionRel_orbitOps g u v).2 ⟨a, ha, hu, by rw [hav u hu, he]⟩)

theorem irOracle_spec (n : Nat) : OracleSpec irOracle n where
  total := fun hb hle => ⟨_, getAut_irOracle hb hle none⟩
  perm := by
    intro g a hb h
    obtain ⟨-, he⟩ := getAut_irOracle_inv hb h
    cases he
    exact irAns_perm g
  canon := by
    intro g h a b hg hh i ha hb' x y hx hy
    obtain ⟨-, he⟩ := getAut_irOracle_inv hg ha
    obtain ⟨-, he'⟩ := getAut_irOracle_inv hh hb'
    cases he; cases he'
    exact irAns_canon i hx hy
  orbits_inv := by
    intro g a hb h
    obtain ⟨-, he⟩ := getAut_irOracle_inv hb h
    cases he
    exact ⟨(orbitDS_tracks g).1, (orbitDS_tracks g).2.1⟩
  orbits := by
    intro g a hb h u v hu hv
    obtain ⟨-, he⟩ := getAut_irOracle_inv hb h
    cases he
    exact orbitDS_orbits g hu hv
  gens_aut := by
    intro g a hb h p hp
    obtain ⟨-, he⟩ := getAut_irOracle_inv hb h
    cases he
    exact ⟨irAuts_size hp, irAuts_aut hp⟩
  gens_gen := by
    intro g a hb h σ hσ
    obtain ⟨-, he⟩ := getAut_irOracle_inv hb h
    cases he
    obtain ⟨p, hp, hpv⟩ := irAuts_complete hσ
    exact Word.mul (τ := fun v => v) hp (Word.id (fun _ _ => rfl)) (fun v hv => (hpv v hv).symm)
  early := by
    intro g vb hb
    right
    by_cases hle : g.nv ≤ n
    · rw [getAut_irOracle hb hle, getAut_irOracle hb hle]
    · unfold getAut
      rw [if_pos (by omega), if_pos (by omega)]
  early_reject := by
    intro g a vb ds1 ds2 correct b hb h
    obtain ⟨-, he⟩ := getAut_irOracle_inv hb h
    cases he

end

end Search
