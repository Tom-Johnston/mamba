import Mamba.Lemmas.DistanceBiconFold
import Mathlib.Data.List.Sort
/-!
# The blocks returned by the `BiconnectedComponents` model are the blocks of `g`

Block sets (`isBlockSet`: non-empty, connected, no articulation vertex) of `g` inside a component correspond to those
of the component graph through `localOf`; with the static theory this identifies the blocks returned for a component
with the maximal block sets of `g` that meet it (`compBlocksSpec`), and the whole result with `blocks g`
(`bicon_blocks_eq`).
-/
namespace GDist
open GraphSpec Model

section
variable {g : G} {com : List Nat}

def BSetG (g : G) (S : List Nat) : Prop :=
  S ≠ [] ∧ (∀ x ∈ S, ∀ y ∈ S, ReachIn g S x y) ∧ ∀ v ∈ S, ¬ SepIn g S v

theorem isBlockSet_iff (hsym : ∀ u v, g.adj u v = g.adj v u) (S : List Nat) :
    isBlockSet g S = true ↔ BSetG g S := by
  unfold isBlockSet BSetG
  simp only [Bool.and_eq_true, Bool.not_eq_true', List.all_eq_true, List.isEmpty_eq_false_iff]
  rw [connectedIn_iff hsym]
  constructor
  · rintro ⟨⟨h1, h2⟩, h3⟩
    refine ⟨h1, h2, fun v hv hs => ?_⟩
    have := h3 v hv
    rw [(isArticIn_iff_sep hsym S v).2 hs] at this
    cases this
  · rintro ⟨h1, h2, h3⟩
    refine ⟨⟨h1, h2⟩, fun v hv => ?_⟩
    cases hA : isArticIn g S v with
    | false => rfl
    | true => exact absurd ((isArticIn_iff_sep hsym S v).1 hA) (h3 v hv)

theorem sorted_sublist_range {S : List Nat} {n : Nat} (hS : S.Pairwise (· < ·)) (hn : ∀ x ∈ S, x < n) :
    S.Sublist (List.range n) := by
  have ndS : S.Nodup := hS.imp (fun h => Nat.ne_of_lt h)
  have hsub : S.Subperm (List.range n) := List.subperm_of_subset ndS (fun x hx => List.mem_range.2 (hn x hx))
  have h1 : S.Pairwise (· ≤ ·) := hS.imp (fun h => Nat.le_of_lt h)
  have h2 : (List.range n).Pairwise (· ≤ ·) := List.pairwise_lt_range.imp (fun h => Nat.le_of_lt h)
  exact List.sublist_of_subperm_of_pairwise hsub h1 h2

section transfer
variable (gc : GoodCom g com) {S : List Nat} (hSc : ∀ x ∈ S, x ∈ com) (hSnd : S.Nodup)
include gc hSc hSnd

omit hSnd in
theorem reach_local {a b : Nat} (ha : a ∈ localOf com S) (hb : b ∈ localOf com S) :
    ReachIn g S (com.getD a 0) (com.getD b 0) ↔ ReachIn (g.induced com) (localOf com S) a b :=
  (goodCom_emb gc).reach_iff (pre_localOf S) (fun y hy => gc.rng y (hSc y hy)) (mem_localOf.1 ha).1
    (mem_localOf.1 hb).1

theorem sep_local {i : Nat} (hi : i ∈ localOf com S) :
    SepIn g S (com.getD i 0) ↔ SepIn (g.induced com) (localOf com S) i :=
  (goodCom_emb gc).sep_iff (pre_localOf S) (fun y hy => gc.rng y (hSc y hy)) (localOf_nodup S) hSnd
    (mem_localOf.1 hi).1 (fun x hx _ => mem_iff_getD.1 (hSc x hx))

theorem bset_local : BSetG g S ↔ BSet (g.induced com) (localOf com S) := by
  have f1 : ∀ z ∈ localOf com S, z < com.length ∧ com.getD z 0 ∈ S := fun _ hz => mem_localOf.1 hz
  have f3 : ∀ x ∈ S, ∃ a, a ∈ localOf com S ∧ com.getD a 0 = x := fun x hx => by
    obtain ⟨a, ha, this⟩ := mem_iff_getD.1 (hSc x hx)
    exact ⟨a, mem_localOf.2 ⟨ha, by rw [this]; exact hx⟩, this⟩
  constructor
  · rintro ⟨hne, hconn, hns⟩
    refine ⟨?_, localOf_nodup S, fun x hx => (f1 x hx).1, ?_, ?_⟩
    · obtain ⟨x, t, hxt⟩ := List.exists_cons_of_ne_nil hne
      obtain ⟨a, ha, _⟩ := f3 x (by rw [hxt]; exact List.mem_cons_self)
      exact List.ne_nil_of_mem ha
    · intro a ha b hb
      exact (reach_local gc hSc ha hb).1 (hconn _ (f1 a ha).2 _ (f1 b hb).2)
    · intro i hi hs
      exact hns _ (f1 i hi).2 ((sep_local gc hSc hSnd hi).2 hs)
  · rintro ⟨hne, _, _, hconn, hns⟩
    refine ⟨?_, ?_, ?_⟩
    · obtain ⟨a, t, hat⟩ := List.exists_cons_of_ne_nil hne
      exact List.ne_nil_of_mem (f1 a (by rw [hat]; exact List.mem_cons_self)).2
    · intro x hx y hy
      obtain ⟨a, ha, hax⟩ := f3 x hx
      obtain ⟨b, hb, hby⟩ := f3 y hy
      subst hax; subst hby
      exact (reach_local gc hSc ha hb).2 (hconn a ha b hb)
    · intro v hv hs
      obtain ⟨i, hi, hiv⟩ := f3 v hv
      subst hiv
      exact hns i hi ((sep_local gc hSc hSnd hi).1 hs)

end transfer

theorem conn_in_com (gc : GoodCom g com) {T : List Nat} (hTn : ∀ x ∈ T, x < g.n)
    (hconn : ∀ x ∈ T, ∀ y ∈ T, ReachIn g T x y) {a : Nat} (haT : a ∈ T) (hac : a ∈ com) : ∀ x ∈ T, x ∈ com :=
  fun x hx => goodCom_reach_closed gc hac
    (reachIn_mono (fun y hy => List.mem_range.2 (hTn y hy)) (hconn a haT x hx))

theorem forall₂_nodup_left {α β : Type} {R : α → β → Prop} {L : List β}
    (huniq : ∀ a b b', b ∈ L → b' ∈ L → R a b → R a b' → b = b') : ∀ {l1 : List α} {l2 : List β},
    List.Forall₂ R l1 l2 → (∀ b ∈ l2, b ∈ L) → l2.Nodup → l1.Nodup
  | _, _, .nil, _, _ => List.nodup_nil
  | _, _, .cons (a := a) (b := b) hr ht, hsub, hnd => by
    rw [List.nodup_cons] at hnd ⊢
    refine ⟨?_, forall₂_nodup_left huniq ht (fun x hx => hsub x (List.mem_cons_of_mem _ hx)) hnd.2⟩
    intro ha
    obtain ⟨b', hb', hab'⟩ := forall₂_mem_left ht a ha
    have := huniq a b b' (hsub b List.mem_cons_self) (hsub b' (List.mem_cons_of_mem _ hb')) hr hab'
    subst this
    exact hnd.1 hb'

structure CompBlocksSpec (g : G) (com : List Nat) (new : List (List Nat)) : Prop where
  nd : new.Nodup
  sub : ∀ S ∈ new, S ≠ [] ∧ ∀ x ∈ S, x ∈ com
  iff : ∀ S, S ∈ new ↔ (S ∈ blocks g ∧ ∃ x ∈ S, x ∈ com)

theorem blocks_facts (hsym : ∀ u v, g.adj u v = g.adj v u) {S : List Nat} (hS : S ∈ blocks g) :
    S.Pairwise (· < ·) ∧ S.Nodup ∧ (∀ x ∈ S, x < g.n) ∧ BSetG g S := by
  obtain ⟨h1, h2, _⟩ := mem_blocks.1 hS
  have hp : S.Pairwise (· < ·) := List.pairwise_lt_range.sublist h1
  exact ⟨hp, hp.imp (fun h => Nat.ne_of_lt h), fun x hx => List.mem_range.1 (h1.subset hx),
    (isBlockSet_iff hsym S).1 h2⟩

theorem compBlocksSpec (gc : GoodCom g com) (hsym : ∀ u v, g.adj u v = g.adj v u)
    {st : BicSt} {tp : Nat → Nat} (df : DFinal (g.induced com) st tp)
    {new : List (List Nat)} (hB : BlocksOf (g.induced com) com st tp new) : CompBlocksSpec g com new := by
  have emb := goodCom_emb gc
  have hn : (g.induced com).n = com.length := rfl
  have hsymh := induced_symm hsym com
  have hidx : ∀ x ∈ com, ∃ a, a < com.length ∧ com.getD a 0 = x := fun x hx => mem_iff_getD.1 hx
  have hfm : ∀ a, a < com.length → com.getD a 0 ∈ com := fun a ha => getD_mem ha
  rcases hB with ⟨hn1, rfl⟩ | ⟨hn2, ls, hF, hnd, hls⟩
  · obtain ⟨h0m, hcom⟩ := com_single (hn ▸ hn1)
    have hsingle : ∀ T : List Nat, T.Nodup → T ≠ [] → (∀ x ∈ T, x = com.getD 0 0) → T = [com.getD 0 0] := by
      intro T hTnd hTne hT
      match T, hTnd, hTne, hT with
      | [a], _, _, hT => rw [hT a List.mem_cons_self]
      | a :: b :: t, hTnd, _, hT =>
        exfalso
        have ha := hT a List.mem_cons_self
        have hb := hT b (List.mem_cons_of_mem _ List.mem_cons_self)
        rw [List.nodup_cons] at hTnd
        exact hTnd.1 (by rw [ha, ← hb]; exact List.mem_cons_self)
    have hbs : BSetG g [com.getD 0 0] := by
      refine ⟨List.cons_ne_nil _ _, ?_, ?_⟩
      · intro x hx y hy
        rw [List.mem_singleton.1 hx, List.mem_singleton.1 hy]
        exact ReachIn.refl List.mem_cons_self
      · intro v hv
        rw [List.mem_singleton.1 hv]
        rintro ⟨x, _, hx, _⟩
        rw [List.erase_cons_head] at hx
        cases hx
    have hblk : [com.getD 0 0] ∈ blocks g := by
      rw [mem_blocks]
      refine ⟨List.singleton_sublist.2 (List.mem_range.2 (gc.rng _ h0m)), (isBlockSet_iff hsym _).2 hbs, ?_⟩
      intro T hT1 hT2 hsub
      obtain ⟨_, hTc, _⟩ := (isBlockSet_iff hsym T).1 hT2
      have hTnd : T.Nodup := List.nodup_range.sublist hT1
      have h0T : com.getD 0 0 ∈ T := hsub _ List.mem_cons_self
      have hTcom := conn_in_com gc (fun x hx => List.mem_range.1 (hT1.subset hx)) hTc h0T h0m
      exact (hsingle T hTnd (List.ne_nil_of_mem h0T) (fun x hx => hcom x (hTcom x hx))).symm
    refine ⟨List.nodup_singleton _, ?_, ?_⟩
    · intro S hS
      rw [List.mem_singleton.1 hS]
      exact ⟨List.cons_ne_nil _ _, fun x hx => by rw [List.mem_singleton.1 hx]; exact h0m⟩
    · intro S
      constructor
      · intro hS
        rw [List.mem_singleton.1 hS]
        exact ⟨hblk, _, List.mem_cons_self, h0m⟩
      · rintro ⟨hS, x, hxS, hxc⟩
        obtain ⟨_, hSnd, hSn, _, hSc, _⟩ := blocks_facts hsym hS
        have hScom := conn_in_com gc hSn hSc hxS hxc
        rw [hsingle S hSnd (List.ne_nil_of_mem hxS) (fun y hy => hcom y (hScom y hy))]
        exact List.mem_cons_self
  · have hblk : ∀ b ∈ new, ∃ c, Ldr (g.induced com) st tp c ∧ IsBlk (g.induced com) com st tp b c := by
      intro b hb
      obtain ⟨c, hc, hbc⟩ := forall₂_mem_left hF b hb
      exact ⟨c, (hls c).1 hc, hbc⟩
    have hone : ∀ b c, Ldr (g.induced com) st tp c → IsBlk (g.induced com) com st tp b c →
        b ≠ [] ∧ (∀ x ∈ b, x ∈ com) ∧ b.Nodup ∧ b.Sublist (List.range g.n) ∧ BSetG g b := by
      intro b c hc hbc
      have hbcom : ∀ x ∈ b, x ∈ com := by
        intro x hx
        obtain ⟨y, hy, _, hyx, _⟩ := (hbc.2.2 x).1 hx
        rw [← hyx]; exact hfm y hy
      have hbnd : b.Nodup := hbc.2.1.imp (fun h => Nat.ne_of_lt h)
      have hmemB := mem_localOf_isBlk gc df hbc
      have hcb : com.getD c 0 ∈ b :=
        (hbc.2.2 _).2 ⟨c, hc.1, df.hall c hc.1, rfl, .inr (NL.refl df.dt hc.1 (df.hall c hc.1))⟩
      refine ⟨List.ne_nil_of_mem hcb, hbcom, hbnd,
        sorted_sublist_range hbc.2.1 (fun x hx => gc.rng x (hbcom x hx)), ?_⟩
      rw [bset_local gc hbcom hbnd]
      refine ⟨List.ne_nil_of_mem ((hmemB c).2 ⟨hc.1, .inr (NL.refl df.dt hc.1 (df.hall c hc.1))⟩),
        localOf_nodup b, fun x hx => ((hmemB x).1 hx).1, ?_, ?_⟩
      · exact df.block_connected hsymh hc (localOf com b) hmemB
      · exact df.block_no_sep hsymh hc (localOf com b) hmemB (localOf_nodup b)
    have hcover : ∀ T : List Nat, T.Nodup → (∀ x ∈ T, x < g.n) → BSetG g T → (∃ x ∈ T, x ∈ com) →
        ∃ b ∈ new, ∃ c, Ldr (g.induced com) st tp c ∧ IsBlk (g.induced com) com st tp b c ∧ ∀ x ∈ T, x ∈ b := by
      intro T hTnd hTn hT ⟨x, hxT, hxc⟩
      have hTcom := conn_in_com gc hTn hT.2.1 hxT hxc
      have hTl := (bset_local gc hTcom hTnd).1 hT
      obtain ⟨l, hl, hin⟩ := df.bset_in_block hn2 _ hTl
      obtain ⟨b, hb, hbl⟩ := forall₂_mem_right hF l ((hls l).2 hl)
      refine ⟨b, hb, l, hl, hbl, fun y hy => ?_⟩
      obtain ⟨a, ha, hay⟩ := hidx y (hTcom y hy)
      have haB : a ∈ localOf com T := mem_localOf.2 ⟨ha, by rw [hay]; exact hy⟩
      exact (hbl.2.2 y).2 ⟨a, ha, df.hall a ha, hay, hin a haB⟩
    have hnest : ∀ b c b' c', Ldr (g.induced com) st tp c → IsBlk (g.induced com) com st tp b c →
        Ldr (g.induced com) st tp c' → IsBlk (g.induced com) com st tp b' c' → (∀ x ∈ b, x ∈ b') →
        c = c' ∧ b = b' := by
      intro b c b' c' hc hbc hc' hbc' hsub
      have : c = c' := by
        apply df.block_not_nested hc hc'
        intro x hx hin
        have h1 : com.getD x 0 ∈ b := (hbc.2.2 _).2 ⟨x, hx, df.hall x hx, rfl, hin⟩
        obtain ⟨y, hy, _, hyx, hor⟩ := (hbc'.2.2 _).1 (hsub _ h1)
        have : y = x := emb.inj y x hy hx hyx
        subst this; exact hor
      subst this
      exact ⟨rfl, List.strictSorted_ext hbc.2.1 hbc'.2.1 (fun w => by rw [hbc.2.2 w, hbc'.2.2 w])⟩
    refine ⟨?_, ?_, ?_⟩
    · refine forall₂_nodup_left (L := ls) ?_ hF (fun b hb => hb) hnd
      intro b c c' hc hc' h1 h2
      exact (hnest b c b c' ((hls c).1 hc) h1 ((hls c').1 hc') h2 (fun x hx => hx)).1
    · intro S hS
      obtain ⟨c, hc, hbc⟩ := hblk S hS
      obtain ⟨h1, h2, _⟩ := hone S c hc hbc
      exact ⟨h1, h2⟩
    · intro S
      constructor
      · intro hS
        obtain ⟨c, hc, hbc⟩ := hblk S hS
        obtain ⟨h1, h2, h3, h4, h5⟩ := hone S c hc hbc
        obtain ⟨x, t, hxt⟩ := List.exists_cons_of_ne_nil h1
        have hxS : x ∈ S := by rw [hxt]; exact List.mem_cons_self
        refine ⟨?_, x, hxS, h2 x hxS⟩
        rw [mem_blocks]
        refine ⟨h4, (isBlockSet_iff hsym S).2 h5, ?_⟩
        intro T hT1 hT2 hsub
        have hTnd : T.Nodup := List.nodup_range.sublist hT1
        have hTn : ∀ y ∈ T, y < g.n := fun y hy => List.mem_range.1 (hT1.subset hy)
        obtain ⟨b', hb', c', hc', hbc', hTb'⟩ := hcover T hTnd hTn ((isBlockSet_iff hsym T).1 hT2)
          ⟨x, hsub x hxS, h2 x hxS⟩
        obtain ⟨_, e⟩ := hnest S c b' c' hc hbc hc' hbc' (fun y hy => hTb' y (hsub y hy))
        subst e
        exact List.strictSorted_ext hbc.2.1 (List.pairwise_lt_range.sublist hT1)
          (fun w => ⟨fun hw => hsub w hw, fun hw => hTb' w hw⟩)
      · rintro ⟨hS, x, hxS, hxc⟩
        obtain ⟨hSp, hSnd, hSn, hSb⟩ := blocks_facts hsym hS
        obtain ⟨b, hb, c, hc, hbc, hSb'⟩ := hcover S hSnd hSn hSb ⟨x, hxS, hxc⟩
        obtain ⟨_, _, _, h4, h5⟩ := hone b c hc hbc
        have := (mem_blocks.1 hS).2.2 b h4 ((isBlockSet_iff hsym b).2 h5) hSb'
        rw [this]; exact hb

end

section
theorem subsets_nodup : ∀ (l : List Nat), l.Nodup → (subsets l).Nodup
  | [], _ => by simp [subsets]
  | x :: xs, hnd => by
    rw [List.nodup_cons] at hnd
    have ih := subsets_nodup xs hnd.2
    simp only [subsets]
    rw [List.nodup_append]
    refine ⟨ih, ?_, ?_⟩
    · exact ih.map (fun a b hab => by simpa using hab)
    · intro a ha b hb hab
      subst hab
      obtain ⟨S', _, rfl⟩ := List.mem_map.1 hb
      have := (mem_subsets.1 ha).subset (List.mem_cons_self)
      exact hnd.1 this

theorem blocks_nodup (g : G) : (blocks g).Nodup := by
  unfold blocks
  exact ((subsets_nodup _ List.nodup_range).filter _).filter _

theorem bicon_blocks_eq (g : G) (hsym : ∀ u v, g.adj u v = g.adj v u)
    (bs : List (List Nat)) (arts : List Nat) (hres : Model.biconnectedComponents g = .ok (bs, arts)) :
    bs.Nodup ∧ (∀ S, S ∈ bs ↔ S ∈ blocks g) ∧ bs.Perm (blocks g) := by
  obtain ⟨cs, news, hgood, hperm, rfl, hF⟩ := model_blocks_fold g hsym (CompBlocksSpec g)
    (fun com st tp new hgc df hB => compBlocksSpec hgc.1 hsym df hB) bs arts hres
  have hnd : cs.flatten.Nodup := hperm.nodup_iff.2 List.nodup_range
  have hbnd : news.flatten.Nodup :=
    (forall₂_flatten_nodup (·.headD 0) (hF.imp fun c new hP => ⟨hP.nd, fun S hS => by
      obtain ⟨hne, hsub⟩ := hP.sub S hS
      obtain ⟨x, t, rfl⟩ := List.exists_cons_of_ne_nil hne
      exact hsub x List.mem_cons_self⟩) hnd).1
  have hmem : ∀ S, S ∈ news.flatten ↔ S ∈ blocks g := by
    intro S
    constructor
    · intro hS
      obtain ⟨j, hj1, hj2, hSj, hPj⟩ := forall₂_flatten_mem hF S hS
      exact ((hPj.iff S).1 hSj).1
    · intro hS
      obtain ⟨_, _, hSn, hne, _⟩ := blocks_facts hsym hS
      obtain ⟨x, t, hxt⟩ := List.exists_cons_of_ne_nil hne
      have hxS : x ∈ S := by rw [hxt]; exact List.mem_cons_self
      have hxf : x ∈ cs.flatten := hperm.mem_iff.2 (List.mem_range.2 (hSn x hxS))
      obtain ⟨c, hc, hxc⟩ := List.mem_flatten.1 hxf
      obtain ⟨new, hnew, hP⟩ := forall₂_mem_left hF c hc
      exact List.mem_flatten.2 ⟨new, hnew, (hP.iff S).2 ⟨hS, x, hxS, hxc⟩⟩
  exact ⟨hbnd, hmem, (List.perm_ext_iff_of_nodup hbnd (blocks_nodup g)).2 hmem⟩

end

end GDist
