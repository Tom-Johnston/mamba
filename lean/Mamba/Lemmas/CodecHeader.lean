import Mamba.Lemmas.CodecBase
/-!
The size header `N(n)` (1, 4 or 8 bytes). Writer: the model's `encHeader` produces `Formats.Nn n`. Reader: the
decoders' `decHeader` agrees with `Formats.readN` on strings of bytes 63..126, and `readN` reads `Nn n` back.
`Sparse6Encode`/`Sparse6Decode` have their own textual copies of both; they are the same functions.
At the end: the test for the optional header (`>>graph6<<`, `>>sparse6<<`) and its removal.
-/
namespace Codec
open Formats

theorem inRange_eq_spec (s : Bytes) : inRange s = Formats.inRange s.toList := by
  unfold inRange Formats.inRange
  rw [← Array.all_toList]

theorem inRange_spec_iff (l : List Nat) : Formats.inRange l = true ↔ ∀ c ∈ l, 63 ≤ c ∧ c ≤ 126 := by
  unfold Formats.inRange
  simp only [List.all_eq_true, Bool.and_eq_true, decide_eq_true_eq]

theorem inRange_iff (s : Bytes) : inRange s = true ↔ ∀ c ∈ s.toList, 63 ≤ c ∧ c ≤ 126 := by
  rw [inRange_eq_spec]; exact inRange_spec_iff _

theorem inRangeS6_eq : inRangeS6 = inRange := rfl

theorem digits3_lt {b c d : Nat} (hb : b ≤ 63) (hc : c ≤ 63) (hd : d ≤ 63) : b * 4096 + c * 64 + d < 2 ^ 18 := by
  omega

theorem digits6_lt {c d e f g h : Nat} (hc : c ≤ 63) (hd : d ≤ 63) (he : e ≤ 63) (hf : f ≤ 63) (hg : g ≤ 63)
    (hh : h ≤ 63) : c * 1073741824 + d * 16777216 + e * 262144 + f * 4096 + g * 64 + h < 2 ^ 36 := by
  omega

theorem digits6_eq (n : Nat) (hn : n ≤ 68719476735) :
    n / 1073741824 % 64 * 1073741824 + n / 16777216 % 64 * 16777216 + n / 262144 % 64 * 262144 + n / 4096 % 64 * 4096
      + n / 64 % 64 * 64 + n % 64 = n := by
  have e2 : n / 4096 = n / 64 / 64 := by rw [Nat.div_div_eq_div_mul]
  have e3 : n / 262144 = n / 64 / 64 / 64 := by rw [e2.symm, Nat.div_div_eq_div_mul]
  have e4 : n / 16777216 = n / 64 / 64 / 64 / 64 := by rw [e3.symm, Nat.div_div_eq_div_mul]
  have e5 : n / 1073741824 = n / 64 / 64 / 64 / 64 / 64 := by rw [e4.symm, Nat.div_div_eq_div_mul]
  -- `omega` is quick only on the nested divisions
  rw [e2, e3, e4, e5]
  omega

theorem digits3_eq (n : Nat) (hn : n ≤ 258047) : n / 4096 % 64 * 4096 + n / 64 % 64 * 64 + n % 64 = n := by
  have e2 : n / 4096 = n / 64 / 64 := by rw [Nat.div_div_eq_div_mul]
  rw [e2]
  omega

theorem hdrByte (n k : Nat) : badd (((n >>> k) &&& 63) % 256) 63 = n / 2 ^ k % 64 + 63 := by
  have : n / 2 ^ k % 64 < 64 := Nat.mod_lt _ (by decide)
  rw [Nat.and_two_pow_sub_one_eq_mod _ 6, Nat.shiftRight_eq_div_pow, Nat.mod_eq_of_lt (by omega),
    badd_of_lt (by omega)]

theorem encHeader_eq (pre : Bytes) (n : Nat) (hn : n ≤ 68719476735) :
    encHeader pre n = .ok (pre ++ (Nn n).toArray) := by
  have h0 := hdrByte n 0
  rw [Nat.shiftRight_zero, Nat.pow_zero, Nat.div_one] at h0
  unfold encHeader Nn
  by_cases h1 : n ≤ 62
  · rw [if_pos h1, if_pos h1, Nat.mod_eq_of_lt (by omega)]; rfl
  · by_cases h2 : n ≤ 258047
    · rw [if_neg h1, if_neg h1, if_pos h2, if_pos h2, hdrByte, hdrByte, h0]; rfl
    · rw [if_neg h1, if_neg h1, if_neg h2, if_neg h2, if_pos hn, hdrByte, hdrByte, hdrByte, hdrByte, hdrByte, h0]; rfl

theorem encHeaderS6_eq (n : Nat) (hn : n ≤ 68719476735) :
    encHeaderS6 n = .ok (#[58] ++ (Nn n).toArray) :=
  (show encHeaderS6 n = encHeader #[58] n from rfl).trans (encHeader_eq #[58] n hn)

theorem Nn_length (n : Nat) : (Nn n).length = if n ≤ 62 then 1 else if n ≤ 258047 then 4 else 8 := by
  unfold Nn
  by_cases h1 : n ≤ 62
  · rw [if_pos h1, if_pos h1]; rfl
  · by_cases h2 : n ≤ 258047
    · rw [if_neg h1, if_neg h1, if_pos h2, if_pos h2]; rfl
    · rw [if_neg h1, if_neg h1, if_neg h2, if_neg h2]; rfl

theorem Nn_range (n : Nat) (hn : n ≤ 68719476735) : ∀ c ∈ Nn n, 63 ≤ c ∧ c ≤ 126 := by
  have hd : ∀ x, 63 ≤ x % 64 + 63 ∧ x % 64 + 63 ≤ 126 := fun x => by omega
  unfold Nn
  split
  · intro c hc; rw [List.mem_singleton] at hc; omega
  · split <;> simp only [List.mem_cons, List.not_mem_nil, or_false, forall_eq_or_imp, forall_eq, hd, and_self] <;> decide

theorem Nn_head (n : Nat) : ∃ c t, Nn n = c :: t ∧ 63 ≤ c := by
  unfold Nn
  split
  · exact ⟨_, _, rfl, by omega⟩
  · split <;> exact ⟨_, _, rfl, by omega⟩

theorem readN_one (a : Nat) (rest : List Nat) (h : a ≠ 126) : readN (a :: rest) = some (a - 63, rest) := by
  show (if a ≠ 126 then _ else _) = _
  rw [if_pos h]

theorem readN_four (b c d : Nat) (r3 : List Nat) (h : b ≠ 126) :
    readN (126 :: b :: c :: d :: r3) = some ((b - 63) * 4096 + (c - 63) * 64 + (d - 63), r3) := by
  show (if b ≠ 126 then _ else _) = _
  rw [if_pos h]

theorem readN_eight (c d e f g h : Nat) (r7 : List Nat) :
    readN (126 :: 126 :: c :: d :: e :: f :: g :: h :: r7) =
      some ((c - 63) * 1073741824 + (d - 63) * 16777216 + (e - 63) * 262144 + (f - 63) * 4096 + (g - 63) * 64
        + (h - 63), r7) := rfl

theorem readN_Nn (n : Nat) (hn : n ≤ 68719476735) (rest : List Nat) : readN (Nn n ++ rest) = some (n, rest) := by
  unfold Nn
  by_cases h1 : n ≤ 62
  · rw [if_pos h1]; exact readN_one _ _ (by omega)
  · by_cases h2 : n ≤ 258047
    · rw [if_neg h1, if_pos h2]
      refine (readN_four _ _ _ _ (by omega)).trans ?_
      rw [Nat.add_sub_cancel, Nat.add_sub_cancel, Nat.add_sub_cancel, digits3_eq n h2]; rfl
    · rw [if_neg h1, if_neg h2]
      refine (readN_eight ..).trans ?_
      rw [Nat.add_sub_cancel, Nat.add_sub_cancel, Nat.add_sub_cancel, Nat.add_sub_cancel, Nat.add_sub_cancel,
        Nat.add_sub_cancel, digits6_eq n hn]; rfl

theorem decHeaderS6_eq : decHeaderS6 = decHeader := rfl

theorem decHeader_one (a : Nat) (rest : List Nat) (h : a ≠ 126) :
    decHeader (a :: rest).toArray = .ok (some (bsub a 63, 1)) := by
  show (if a ≠ 126 then _ else _) = _
  rw [if_pos h]; rfl

theorem decHeader_short4 (rest : List Nat) (h : rest.length < 3) :
    decHeader (126 :: rest).toArray = .ok none := by
  show (if rest.length + 1 < 4 then _ else _) = _
  rw [if_pos (by omega)]

theorem decHeader_four (b c d : Nat) (r3 : List Nat) (h : b ≠ 126) :
    decHeader (126 :: b :: c :: d :: r3).toArray =
      .ok (some ((bsub b 63 <<< 12) + (bsub c 63 <<< 6) + bsub d 63, 4)) := by
  show (if b ≠ 126 then _ else _) = _
  rw [if_pos h]; rfl

theorem decHeader_short8 (c d : Nat) (r3 : List Nat) (h : r3.length < 4) :
    decHeader (126 :: 126 :: c :: d :: r3).toArray = .ok none := by
  show (if r3.length + 1 + 1 + 1 + 1 < 8 then _ else _) = _
  rw [if_pos (by omega)]

theorem decHeader_eight (c d e f g h : Nat) (r7 : List Nat) :
    decHeader (126 :: 126 :: c :: d :: e :: f :: g :: h :: r7).toArray =
      .ok (some ((bsub c 63 <<< 30) + (bsub d 63 <<< 24) + (bsub e 63 <<< 18) + (bsub f 63 <<< 12)
                       + (bsub g 63 <<< 6) + bsub h 63, 8)) := rfl

theorem bsub63 {c : Nat} (h : 63 ≤ c ∧ c ≤ 126) : bsub c 63 = c - 63 ∧ c - 63 ≤ 63 :=
  ⟨bsub_of_le h.1 (by omega), by omega⟩

theorem decHeader_spec (s : Bytes) (h : 0 < s.size) (hr : inRange s = true) :
    (decHeader s = .ok none ∧ readN s.toList = none) ∨
    (∃ n i, decHeader s = .ok (some (n, i)) ∧ readN s.toList = some (n, s.toList.drop i) ∧ i ≤ s.size ∧
        (i = 1 ∨ i = 4 ∨ i = 8) ∧ n < 2 ^ 36 ∧ (i = 1 → n ≤ 62) ∧ (i = 4 → n < 2 ^ 18)) := by
  rw [inRange_iff] at hr
  obtain ⟨l⟩ := s
  match l, h with
  | a :: rest, _ =>
    obtain ⟨ha', hr1⟩ := List.forall_mem_cons.1 hr
    clear hr
    obtain ⟨ea, ra⟩ := bsub63 ha'
    by_cases ha : a ≠ 126
    · refine Or.inr ⟨a - 63, 1, ?_, readN_one a rest ha, Nat.succ_pos _, Or.inl rfl, by omega, fun _ => by omega,
        fun h => (by cases h)⟩
      rw [decHeader_one a rest ha, ea]
    · obtain rfl : a = 126 := by omega
      match rest with
      | [] | [_] | [_, _] => exact Or.inl ⟨decHeader_short4 _ (by simp), rfl⟩
      | b :: c :: d :: r3 =>
        obtain ⟨hb', hr2⟩ := List.forall_mem_cons.1 hr1
        obtain ⟨hc', hr3⟩ := List.forall_mem_cons.1 hr2
        obtain ⟨hd', hr4⟩ := List.forall_mem_cons.1 hr3
        clear hr1 hr2 hr3
        obtain ⟨eb, rb⟩ := bsub63 hb'
        obtain ⟨ec, rc⟩ := bsub63 hc'
        obtain ⟨ed, rd⟩ := bsub63 hd'
        by_cases hb : b ≠ 126
        · have hlt := digits3_lt rb rc rd
          refine Or.inr ⟨_, 4, ?_, readN_four b c d r3 hb, Nat.le_add_left 4 r3.length, Or.inr (Or.inl rfl),
            Nat.lt_trans hlt (by decide),
            fun h => (by cases h), fun _ => hlt⟩
          rw [decHeader_four b c d r3 hb, eb, ec, ed, Nat.shiftLeft_eq, Nat.shiftLeft_eq]
        · obtain rfl : b = 126 := by omega
          match r3 with
          | [] | [_] | [_, _] | [_, _, _] => exact Or.inl ⟨decHeader_short8 _ _ _ (by simp), rfl⟩
          | e :: f :: g :: h :: r7 =>
            obtain ⟨he', hr5⟩ := List.forall_mem_cons.1 hr4
            obtain ⟨hf', hr6⟩ := List.forall_mem_cons.1 hr5
            obtain ⟨hg', hr7⟩ := List.forall_mem_cons.1 hr6
            obtain ⟨hh', _⟩ := List.forall_mem_cons.1 hr7
            obtain ⟨ee, re⟩ := bsub63 he'
            obtain ⟨ef, rf⟩ := bsub63 hf'
            obtain ⟨eg, rg⟩ := bsub63 hg'
            obtain ⟨eh, rh⟩ := bsub63 hh'
            refine Or.inr ⟨_, 8, ?_, readN_eight c d e f g h r7, Nat.le_add_left 8 r7.length, Or.inr (Or.inr rfl),
              digits6_lt rc rd re rf rg rh, fun h => (by cases h), fun h => (by cases h)⟩
            rw [decHeader_eight, ec, ed, ee, ef, eg, eh, Nat.shiftLeft_eq, Nat.shiftLeft_eq, Nat.shiftLeft_eq,
              Nat.shiftLeft_eq, Nat.shiftLeft_eq]

theorem decHeader_ne_panic (s : Bytes) (h : 0 < s.size) : decHeader s ≠ .panic ∧ decHeader s ≠ .outOfFuel := by
  have ok {x : Option (Nat × Nat)} : Outcome.ok x ≠ .panic ∧ Outcome.ok x ≠ .outOfFuel :=
    ⟨ok_ne_panic _, ok_ne_outOfFuel _⟩
  obtain ⟨l⟩ := s
  match l, h with
  | a :: rest, _ =>
    by_cases ha : a ≠ 126
    · rw [decHeader_one a rest ha]; exact ok
    · have ha : a = 126 := by omega
      subst ha
      match rest with
      | [] | [_] | [_, _] => rw [decHeader_short4 _ (by simp)]; exact ok
      | b :: c :: d :: r3 =>
        by_cases hb : b ≠ 126
        · rw [decHeader_four b c d r3 hb]; exact ok
        · have hb : b = 126 := by omega
          subst hb
          match r3 with
          | [] | [_] | [_, _] | [_, _, _] => rw [decHeader_short8 _ _ _ (by simp)]; exact ok
          | e :: f :: g :: h :: r7 => rw [decHeader_eight]; exact ok

theorem readN_lt (t : List Nat) (hr : Formats.inRange t = true) (n : Nat) (rest : List Nat)
    (h : readN t = some (n, rest)) : n < 2 ^ 36 := by
  cases t with
  | nil => cases h
  | cons a t =>
    rcases decHeader_spec (a :: t).toArray (Nat.succ_pos _) ((inRange_eq_spec _).trans hr) with
      ⟨_, h2⟩ | ⟨n', i, _, h2, _, _, h5, _⟩
    · rw [List.toList_toArray, h] at h2; cases h2
    · rw [List.toList_toArray, h] at h2; cases h2; exact h5

theorem hasPrefix_false_of_head (c : Nat) (t : List Nat) (p0 : Nat) (p : List Nat) (h : c ≠ p0) :
    hasPrefix (c :: t).toArray (p0 :: p) = false := by
  unfold hasPrefix
  simp [h]

theorem dropBytes_append (p : List Nat) (a : Bytes) : dropBytes (p.toArray ++ a) p.length = a := by
  unfold dropBytes
  apply Array.toList_inj.1
  simp

theorem hasPrefix_append (p : List Nat) (a : Bytes) : hasPrefix (p.toArray ++ a) p = true := by
  unfold hasPrefix
  simp

end Codec
