import Mamba.Lemmas.DistanceBiconNL
import Mathlib.Data.List.Forall2
/-!
# The partial blocks (`bicoms`) and the emitted blocks of the `BiconnectedComponents` model: the invariant `BK`

`BK` describes every partial block through the DFS tree and the lowpoints (`NL`) and the emitted blocks as `IsBlk`. It
holds initially (`bk_init`) and is kept when the DFS descends (`bk_descend`), when a block is emitted (`bk_emit`) and when
a non-root vertex is popped and the partial blocks of its children are merged (`bk_pop`); `binv_step` puts the three
together with the tree and lowpoint invariants along the loop, up to the state after the pop of the root (`BFin`).
-/
namespace GDist
open GraphSpec Model

/-- the invariant on `bicoms` / `out` (for a state with a non-empty stack); `cs` lists the vertices whose block has
been emitted, in order -/
structure BK (h : G) (com : List Nat) (out0 : List (List Nat)) (st : BicSt) (tp : Nat → Nat) (cs : List Nat) :
    Prop where
  btop : ∀ b ∈ st.bicoms, ∀ x, b.getLast? = some x →
    x < h.n ∧ bvis st x ∧ x ∉ st.toCheck ∧ x ≠ 0 ∧ tp x ∈ st.toCheck ∧ pa st x = (tp x : Int)
  bmem : ∀ b ∈ st.bicoms, ∀ x, b.getLast? = some x → ∀ y, y ∈ b ↔ (y < h.n ∧ bvis st y ∧ NL st tp x y)
  bnd : st.bicoms.flatten.Nodup
  bord : st.bicoms.Pairwise
    (fun b b' => ∀ x x', b.getLast? = some x → b'.getLast? = some x' → dI st x ≤ dI st x')
  bcur : ∀ cur x v rest, st.bicoms.getLast? = some cur → cur.getLast? = some x → st.toCheck = v :: rest → tp x = v
  bcov : ∀ x, x < h.n → bvis st x → x ∉ st.toCheck → x ≠ 0 → tp x ∈ st.toCheck → pa st x = (tp x : Int) →
    ∃ b ∈ st.bicoms, b.getLast? = some x
  bpend : ∀ c, c < h.n → bvis st c → c ∉ st.toCheck → c ≠ 0 → pa st c = (tp c : Int) → tp c ≠ 0 →
    lo st c ≥ dI st (tp c) → ∃ cur, st.bicoms.getLast? = some cur ∧ cur.getLast? = some c
  broot : st.toCheck = [0] → st.bicoms.getLast? = some [] → ∀ x, x < h.n → bvis st x → x = 0
  out : ∃ E, st.out = out0 ++ E ∧ List.Forall₂ (IsBlk h com st tp) E cs
  csmem : ∀ c, c ∈ cs ↔ (c < h.n ∧ bvis st c ∧ c ≠ 0 ∧ pa st c = -1)
  csnd : cs.Nodup

variable {h : G} {com : List Nat} {out0 : List (List Nat)} {st : BicSt} {tp : Nat → Nat} {cs : List Nat}

theorem mem_of_getLast?' {α : Type} {l : List α} {x : α} (h : l.getLast? = some x) : x ∈ l :=
  List.mem_of_getLast? h

theorem BK.mem_fin (bk : BK h com out0 st tp cs) (dt : DT h st tp) {b : List Nat} (hb : b ∈ st.bicoms) {y : Nat}
    (hy : y ∈ b) : y < h.n ∧ bvis st y ∧ y ∉ st.toCheck := by
  obtain ⟨x, hx⟩ := getLast?_isSome_of_ne_nil (List.ne_nil_of_mem hy)
  obtain ⟨h1, h2, h3⟩ := (bk.bmem b hb x hx y).1 hy
  exact ⟨h1, h2, dt.sub_finished (bk.btop b hb x hx).2.2.1 h3.1⟩

theorem bk_init (hn : 0 < h.n) (out0 : List (List Nat)) :
    BK h com out0 (bicInit h.n out0) (fun _ => 0) [] := by
  have hvis := bvis_bicInit hn out0
  have hb : ∀ b ∈ (bicInit h.n out0).bicoms, ∀ x, b.getLast? = some x → False := by
    intro b hb' x hx
    have : b = [] := List.mem_singleton.1 hb'
    subst this; cases hx
  refine { btop := fun b hb' x hx => (hb b hb' x hx).elim, bmem := fun b hb' x hx => (hb b hb' x hx).elim,
           bnd := List.nodup_nil, bord := List.pairwise_singleton _ _,
           bcur := fun cur x v rest hc hx _ => (hb cur (List.mem_of_getLast? hc) x hx).elim, bcov := ?_,
           bpend := ?_, broot := fun _ _ x _ hxv => (hvis x).1 hxv,
           out := ⟨[], (List.append_nil _).symm, List.Forall₂.nil⟩, csmem := ?_, csnd := List.nodup_nil }
  · intro x _ hxv _ hx0
    exact absurd ((hvis x).1 hxv) hx0
  · intro x _ hxv _ hx0
    exact absurd ((hvis x).1 hxv) hx0
  · intro c
    constructor
    · intro hc; cases hc
    · rintro ⟨_, h2, h3, _⟩
      exact absurd ((hvis c).1 h2) h3

section descend
variable {v u : Nat} {rest cur : List Nat}

theorem descend_lo_dI (dt : DT h st tp) (hu : u < h.n) (hunv : ¬ bvis st u) :
    ∀ z, z < h.n → bvis st z → z ∉ st.toCheck → z ≠ 0 →
      lo (descendSt st v u cur) z = lo st z ∧
        dI (descendSt st v u cur) (Function.update tp u v z) = dI st (tp z) := by
  intro z hz hzv _ hz0
  have hzu : z ≠ u := fun h0 => hunv (h0 ▸ hzv)
  have htzu : tp z ≠ u := fun h0 => hunv (h0 ▸ (dt.tree z hz hzv hz0).2.1)
  rw [dt.ok.lo_descendSt hu, Function.update_of_ne hzu, dt.ok.dI_descendSt hu, if_neg hzu, if_neg htzu]
  exact ⟨rfl, rfl⟩

theorem NL_descendSt (dt : DT h st tp) (hu : u < h.n) (hunv : ¬ bvis st u)
    {x y : Nat} (hxs : x ∉ st.toCheck) (hy : y < h.n) (hyv : bvis st y) :
    NL (descendSt st v u cur) (Function.update tp u v) x y ↔ NL st tp x y :=
  NL_congr dt (fun _ _ hz hzv => anc_update_iff dt hunv hz hzv) (descend_lo_dI dt hu hunv)
    (fun _ hz _ => dt.sub_finished hxs hz) hy hyv

theorem not_NL_new (dt : DT h st tp) (hstk : st.toCheck = v :: rest) (hunv : ¬ bvis st u) :
    ∀ x, x < h.n → bvis st x → x ∉ st.toCheck → ¬ NL (descendSt st v u cur) (Function.update tp u v) x u := by
  intro x _ hxv hxs hn
  obtain ⟨hvs, hvn, hvv⟩ := dt.top hstk
  have hxu : u ≠ x := fun h0 => hunv (h0 ▸ hxv)
  have h1 := anc_parent_of_ne hn.1 hxu
  simp only [Function.update_self] at h1
  exact dt.sub_finished hxs ((anc_update_iff dt hunv hvn hvv).1 h1) hvs

theorem isBlk_descend (dt : DT h st tp) (hstk : st.toCheck = v :: rest) (hu : u < h.n) (hunv : ¬ bvis st u)
    {S : List Nat} {c : Nat} (hb : IsBlk h com st tp S c) :
    IsBlk h com (descendSt st v u cur) (Function.update tp u v) S c := by
  have hvis := dt.bvis_descendSt (cur := cur) hstk hu
  obtain ⟨⟨hc, hcv, hcs, hc0⟩, hS, hm⟩ := hb
  have hcu : c ≠ u := fun h0 => hunv (h0 ▸ hcv)
  refine ⟨⟨hc, (hvis c).2 (.inr hcv), ?_, hc0⟩, hS, fun w => ?_⟩
  · intro hm'
    rcases List.mem_cons.1 hm' with h0 | h0
    · exact hcu h0
    · exact hcs h0
  · rw [hm w, Function.update_of_ne hcu]
    constructor
    · rintro ⟨y, hy, hyv, hyw, hor⟩
      exact ⟨y, hy, (hvis y).2 (.inr hyv), hyw, hor.imp_right (NL_descendSt dt hu hunv hcs hy hyv).2⟩
    · rintro ⟨y, hy, hyv, hyw, hor⟩
      have hyu : y ≠ u := by
        rintro rfl
        rcases hor with h0 | h0
        · exact hunv (h0 ▸ (dt.tree c hc hcv hc0).2.1)
        · exact not_NL_new dt hstk hunv c hc hcv hcs h0
      have hyv' : bvis st y := ((hvis y).1 hyv).resolve_left hyu
      exact ⟨y, hy, hyv', hyw, hor.imp_right (NL_descendSt dt hu hunv hcs hy hyv').1⟩

end descend

theorem bk_descend (dt : DT h st tp) (la : LA h st tp) (bk : BK h com out0 st tp cs) {v u : Nat}
    {rest cur : List Nat} (hstk : st.toCheck = v :: rest) (hu : u < h.n) (hunv : ¬ bvis st u)
    (hcur : st.bicoms.getLast? = some cur)
    (hnopend : NoPend h st v) :
    BK h com out0 (descendSt st v u cur) (Function.update tp u v) cs := by
  obtain ⟨hvs, hvn, hvv⟩ := dt.top hstk
  have hd := dt.ok.dI_descendSt (v := v) (cur := cur) hu
  have hl := dt.ok.lo_descendSt (v := v) (cur := cur) hu
  have hp := dt.ok.pa_descendSt (v := v) (cur := cur) hu
  have hvis := dt.bvis_descendSt (cur := cur) hstk hu
  have hstk' : (descendSt st v u cur).toCheck = u :: st.toCheck := rfl
  have hbic : (descendSt st v u cur).bicoms = if cur.length > 0 then st.bicoms ++ [[]] else st.bicoms := rfl
  have hne_u : ∀ x, bvis st x → x ≠ u := fun x hx h0 => hunv (h0 ▸ hx)
  have htp : ∀ x, x ≠ u → Function.update tp u v x = tp x := fun x hx => Function.update_of_ne hx v tp
  have hmemb : ∀ b, b ∈ (descendSt st v u cur).bicoms → b ∈ st.bicoms ∨ b = [] := by
    intro b hb
    rw [hbic] at hb
    split at hb
    · rcases List.mem_append.1 hb with h0 | h0
      · exact .inl h0
      · exact .inr (List.mem_singleton.1 h0)
    · exact .inl hb
  have hsubb : ∀ b, b ∈ st.bicoms → b ∈ (descendSt st v u cur).bicoms := by
    intro b hb
    rw [hbic]
    split
    · exact List.mem_append.2 (.inl hb)
    · exact hb
  have hL := descend_lo_dI (v := v) (cur := cur) dt hu hunv
  have hNL : ∀ x y, x ∉ st.toCheck → y < h.n → bvis st y →
      (NL (descendSt st v u cur) (Function.update tp u v) x y ↔ NL st tp x y) :=
    fun x y hxs hy hyv => NL_descendSt dt hu hunv hxs hy hyv
  have hnew := not_NL_new (cur := cur) dt hstk hunv
  refine { btop := ?_, bmem := ?_, bnd := ?_, bord := ?_, bcur := ?_, bcov := ?_, bpend := ?_, broot := ?_,
           out := ?_, csmem := ?_, csnd := bk.csnd }
  · intro b hb x hx
    rcases hmemb b hb with hb' | hb'
    · obtain ⟨h1, h2, h3, h4, h5, h6⟩ := bk.btop b hb' x hx
      have hxu := hne_u x h2
      refine ⟨h1, (hvis x).2 (.inr h2), ?_, h4, ?_, ?_⟩
      · rw [hstk']; intro hm
        rcases List.mem_cons.1 hm with h0 | h0
        · exact hxu h0
        · exact h3 h0
      · rw [htp x hxu, hstk']; exact List.mem_cons_of_mem _ h5
      · rw [hp, htp x hxu]; simp [hxu, h6]
    · subst hb'; cases hx
  · intro b hb x hx y
    rcases hmemb b hb with hb' | hb'
    · obtain ⟨h1, h2, h3, h4, h5, h6⟩ := bk.btop b hb' x hx
      rw [bk.bmem b hb' x hx y]
      constructor
      · rintro ⟨hy, hyv, hn⟩
        exact ⟨hy, (hvis y).2 (.inr hyv), (hNL x y h3 hy hyv).2 hn⟩
      · rintro ⟨hy, hyv, hn⟩
        have hyu : y ≠ u := by
          rintro rfl
          exact hnew x h1 h2 h3 hn
        have hyv' : bvis st y := ((hvis y).1 hyv).resolve_left hyu
        exact ⟨hy, hyv', (hNL x y h3 hy hyv').1 hn⟩
    · subst hb'; cases hx
  · rw [hbic]
    split
    · simpa using bk.bnd
    · exact bk.bnd
  · have hold : st.bicoms.Pairwise (fun b b' => ∀ x x', b.getLast? = some x → b'.getLast? = some x' →
        dI (descendSt st v u cur) x ≤ dI (descendSt st v u cur) x') := by
      refine bk.bord.imp_of_mem ?_
      intro b b' hb hb' hR x x' hx hx'
      have h1 := (bk.btop b hb x hx).2.1
      have h2 := (bk.btop b' hb' x' hx').2.1
      rw [hd, hd]
      simp only [hne_u x h1, hne_u x' h2, if_false]
      exact hR x x' hx hx'
    rw [hbic]
    split
    · rw [List.pairwise_append]
      refine ⟨hold, List.pairwise_singleton _ _, ?_⟩
      intro b _ b' hb' x x' _ hx'
      rw [List.mem_singleton] at hb'; subst hb'; cases hx'
    · exact hold
  · intro cur' x v' rest' hc' hx' _
    exfalso
    rw [hbic] at hc'
    split at hc'
    · rw [List.getLast?_concat] at hc'
      cases hc'; cases hx'
    · next hlen =>
      rw [hcur] at hc'
      cases hc'
      have : cur = [] := List.eq_nil_of_length_eq_zero (Nat.eq_zero_of_not_pos hlen)
      subst this; cases hx'
  · intro x hx hxv hxs hx0 htx hpx
    rw [hstk'] at hxs
    have hxu : x ≠ u := fun h0 => hxs (h0 ▸ List.mem_cons_self)
    have hxv' : bvis st x := ((hvis x).1 hxv).resolve_left hxu
    rw [htp x hxu, hstk'] at htx
    have htx' : tp x ∈ st.toCheck := by
      rcases List.mem_cons.1 htx with h0 | h0
      · exact absurd h0 (hne_u _ (dt.tree x hx hxv' hx0).2.1)
      · exact h0
    rw [hp, htp x hxu] at hpx
    simp only [hxu, if_false] at hpx
    obtain ⟨b, hb, hbx⟩ := bk.bcov x hx hxv' (fun hm => hxs (List.mem_cons_of_mem _ hm)) hx0 htx' hpx
    exact ⟨b, hsubb b hb, hbx⟩
  · intro c hc hcv hcs hc0 hpc htc hlc
    exfalso
    rw [hstk'] at hcs
    have hcu : c ≠ u := fun h0 => hcs (h0 ▸ List.mem_cons_self)
    have hcv' : bvis st c := ((hvis c).1 hcv).resolve_left hcu
    have hcs' : c ∉ st.toCheck := fun hm => hcs (List.mem_cons_of_mem _ hm)
    obtain ⟨e1, e2⟩ := hL c hc hcv' hcs' hc0
    rw [hp, htp c hcu] at hpc
    simp only [hcu, if_false] at hpc
    rw [htp c hcu] at htc
    rw [e1, e2] at hlc
    exact Int.not_le.2 (la.no_pend hstk hnopend hc hcv' hcs' hc0 hpc htc) hlc
  · intro h0
    rw [hstk', hstk] at h0
    simp at h0
  · obtain ⟨E, hE, hF⟩ := bk.out
    exact ⟨E, hE, hF.imp fun S c hb => isBlk_descend dt hstk hu hunv hb⟩
  · intro c
    rw [bk.csmem c]
    by_cases hcu : c = u
    · subst hcu
      constructor
      · rintro ⟨_, h2, _⟩; exact absurd h2 hunv
      · rintro ⟨_, _, _, h4⟩
        rw [hp] at h4; simp at h4
    · rw [hp]
      simp only [hcu, if_false]
      constructor
      · rintro ⟨h1, h2, h3, h4⟩; exact ⟨h1, (hvis c).2 (.inr h2), h3, h4⟩
      · rintro ⟨h1, h2, h3, h4⟩
        refine ⟨h1, ?_, h3, h4⟩
        exact ((hvis c).1 h2).resolve_left hcu

theorem isBlk_of_list (hinj : ∀ a b, a < h.n → b < h.n → com.getD a 0 = com.getD b 0 → a = b)
    {b : List Nat} {c p : Nat} (hfin : c < h.n ∧ bvis st c ∧ c ∉ st.toCheck ∧ c ≠ 0) (hp : p = tp c)
    (hpn : p < h.n) (hpv : bvis st p) (hbn : b.Nodup) (hpb : p ∉ b)
    (hmem : ∀ y, y ∈ b ↔ (y < h.n ∧ bvis st y ∧ NL st tp c y)) :
    IsBlk h com st tp (sortInts ((b ++ [p]).map fun x => com.getD x 0)) c := by
  refine ⟨hfin, sortInts_strict ?_, fun w => ?_⟩
  · apply List.Nodup.map_on
    · intro x hx y hy hxy
      have hx' : x < h.n := by
        rcases List.mem_append.1 hx with h0 | h0
        · exact ((hmem x).1 h0).1
        · rw [List.mem_singleton.1 h0]; exact hpn
      have hy' : y < h.n := by
        rcases List.mem_append.1 hy with h0 | h0
        · exact ((hmem y).1 h0).1
        · rw [List.mem_singleton.1 h0]; exact hpn
      exact hinj x y hx' hy' hxy
    · rw [List.nodup_append]
      refine ⟨hbn, List.nodup_singleton _, ?_⟩
      intro a ha b' hb' hab
      rw [List.mem_singleton] at hb'
      subst hb'; subst hab
      exact hpb ha
  · rw [mem_sortInts, List.mem_map]
    constructor
    · rintro ⟨y, hy, hyw⟩
      rcases List.mem_append.1 hy with h0 | h0
      · obtain ⟨h1, h2, h3⟩ := (hmem y).1 h0
        exact ⟨y, h1, h2, hyw, .inr h3⟩
      · simp at h0
        subst h0
        exact ⟨y, hpn, hpv, hyw, .inl hp⟩
    · rintro ⟨y, hy, hyv, hyw, hor⟩
      refine ⟨y, List.mem_append.2 ?_, hyw⟩
      rcases hor with h0 | h0
      · right; simp [h0, hp]
      · left; exact (hmem y).2 ⟨hy, hyv, h0⟩

theorem bk_emit (hinj : ∀ a b, a < h.n → b < h.n → com.getD a 0 = com.getD b 0 → a = b)
    (dt : DT h st tp) (la : LA h st tp) (bk : BK h com out0 st tp cs) {v u : Nat}
    {rest cur : List Nat} (hstk : st.toCheck = v :: rest) (hun : u < h.n) (huv : bvis st u) (hu0 : u ≠ 0)
    (hunot : u ∉ st.toCheck) (hpu : pa st u = (v : Int)) (hv0 : v ≠ 0) (hlu : lo st u ≥ dI st v)
    (hcur : st.bicoms.getLast? = some cur) :
    BK h com out0 (emitSt com st v u cur) tp (cs ++ [u]) := by
  obtain ⟨hvs, hvn, hvv⟩ := dt.top hstk
  have hp := dt.ok.pa_emitSt com (v := v) (cur := cur) hun
  have htu : tp u = v := la.tp_of_pa hun huv hu0 hpu
  have hsplit := bicoms_split hcur
  have hbic : (emitSt com st v u cur).bicoms = st.bicoms.dropLast ++ [[]] := rfl
  have hcurm : cur ∈ st.bicoms := List.mem_of_getLast? hcur
  have hcu : cur.getLast? = some u := by
    obtain ⟨cur', h1, h2⟩ := bk.bpend u hun huv hunot hu0 (by rw [hpu, htu]) (by rw [htu]; exact hv0)
      (by rw [htu]; exact hlu)
    rw [hcur] at h1; cases h1; exact h2
  have hucur : u ∈ cur := List.mem_of_getLast? hcu
  have hnd := bk.bnd
  rw [hsplit, List.flatten_append, List.nodup_append] at hnd
  obtain ⟨hnd1, hnd2, hnd3⟩ := hnd
  simp only [List.flatten_cons, List.flatten_nil, List.append_nil] at hnd2 hnd3
  have hdl : ∀ b, b ∈ st.bicoms.dropLast → b ∈ st.bicoms := fun b hb => (List.dropLast_sublist _).subset hb
  have htopne : ∀ b ∈ st.bicoms.dropLast, ∀ x, b.getLast? = some x → x ≠ u := by
    intro b hb x hx hxu
    subst hxu
    exact hnd3 x (List.mem_flatten.2 ⟨b, hb, List.mem_of_getLast? hx⟩) x hucur rfl
  have hmemb : ∀ b, b ∈ (emitSt com st v u cur).bicoms → b ∈ st.bicoms.dropLast ∨ b = [] := by
    intro b hb
    rw [hbic] at hb
    rcases List.mem_append.1 hb with h0 | h0
    · exact .inl h0
    · exact .inr (List.mem_singleton.1 h0)
  have hblk : ∀ S c, IsBlk h com st tp S c → IsBlk h com (emitSt com st v u cur) tp S c := fun S c hb => hb
  refine { btop := ?_, bmem := ?_, bnd := ?_, bord := ?_, bcur := ?_, bcov := ?_, bpend := ?_, broot := ?_,
           out := ?_, csmem := ?_, csnd := ?_ }
  · intro b hb x hx
    rcases hmemb b hb with hb' | hb'
    · obtain ⟨h1, h2, h3, h4, h5, h6⟩ := bk.btop b (hdl b hb') x hx
      refine ⟨h1, h2, h3, h4, h5, ?_⟩
      rw [hp]; simp [htopne b hb' x hx, h6]
    · subst hb'; cases hx
  · intro b hb x hx y
    rcases hmemb b hb with hb' | hb'
    · exact bk.bmem b (hdl b hb') x hx y
    · subst hb'; cases hx
  · rw [hbic]; simpa using hnd1
  · rw [hbic, List.pairwise_append]
    have hold := bk.bord
    rw [hsplit, List.pairwise_append] at hold
    refine ⟨hold.1, List.pairwise_singleton _ _, ?_⟩
    intro b _ b' hb' x x' _ hx'
    rw [List.mem_singleton] at hb'; subst hb'; cases hx'
  · intro cur' x v' rest' hc' hx' _
    rw [hbic, List.getLast?_concat] at hc'
    cases hc'; cases hx'
  · intro x hx hxv hxs hx0 htx hpx
    have hxu : x ≠ u := by
      rintro rfl
      rw [hp] at hpx; simp at hpx
    rw [hp] at hpx
    simp only [hxu, if_false] at hpx
    obtain ⟨b, hb, hbx⟩ := bk.bcov x hx hxv hxs hx0 htx hpx
    rw [hsplit] at hb
    rcases List.mem_append.1 hb with h0 | h0
    · exact ⟨b, by rw [hbic]; exact List.mem_append.2 (.inl h0), hbx⟩
    · rw [List.mem_singleton] at h0; subst h0
      rw [hcu] at hbx; cases hbx; exact absurd rfl hxu
  · intro c hc hcv hcs hc0 hpc htc hlc
    exfalso
    have hcu' : c ≠ u := by
      rintro rfl
      rw [hp] at hpc; simp at hpc
    rw [hp] at hpc
    simp only [hcu', if_false] at hpc
    obtain ⟨cur', h1, h2⟩ := bk.bpend c hc hcv hcs hc0 hpc htc hlc
    rw [hcur] at h1; cases h1
    rw [hcu] at h2; cases h2
    exact hcu' rfl
  · intro h0
    have : (emitSt com st v u cur).toCheck = st.toCheck := rfl
    rw [this, hstk] at h0
    cases h0; exact absurd rfl hv0
  · obtain ⟨E, hE, hF⟩ := bk.out
    refine ⟨E ++ [sortInts ((cur ++ [v]).map fun x => com.getD x 0)], ?_, ?_⟩
    · show st.out ++ _ = _
      rw [hE, List.append_assoc]
    · refine List.rel_append (hF.imp hblk) (List.Forall₂.cons ?_ List.Forall₂.nil)
      apply hblk
      refine isBlk_of_list hinj ⟨hun, huv, hunot, hu0⟩ htu.symm hvn hvv ?_ ?_ (bk.bmem cur hcurm u hcu)
      · exact hnd2
      · intro hm
        exact (bk.mem_fin dt hcurm hm).2.2 hvs
  · intro c
    rw [List.mem_append, bk.csmem c, hp]
    by_cases hcu' : c = u
    · subst hcu'
      simp only [if_true, List.mem_singleton, or_true, true_iff]
      exact ⟨hun, huv, hu0, trivial⟩
    · simp only [hcu', if_false, List.mem_singleton, or_false]
      exact Iff.rfl
  · rw [List.nodup_append]
    refine ⟨bk.csnd, List.nodup_singleton _, ?_⟩
    intro a ha b hb hab
    rw [List.mem_singleton] at hb
    subst hb; subst hab
    have := ((bk.csmem a).1 ha).2.2.2
    rw [hpu] at this; omega

/-- popping `v` changes `lowpoints[v]` only, which `NL` below `x` does not read as long as the vertices strictly
below `x` are finished -/
theorem NL_popSt (dt : DT h st tp) {v : Nat} {rest c2 : List Nat} {t : Int} {bs : List (List Nat)}
    (hstk : st.toCheck = v :: rest) {x y : Nat} (hxs : ∀ z, Anc tp x z → z ≠ x → z ∉ st.toCheck)
    (hy : y < h.n) (hyv : bvis st y) : NL (popSt st v rest t bs c2) tp x y ↔ NL st tp x y := by
  have hvs : v ∈ st.toCheck := by rw [hstk]; exact List.mem_cons_self
  refine NL_congr (s := popSt st v rest t bs c2) (tp' := tp) dt (fun _ _ _ _ => Iff.rfl)
    (fun z _ _ hzs _ => ⟨?_, rfl⟩) hxs hy hyv
  rw [dt.ok.lo_popSt rest t bs c2 (dt.svis v hvs).1, if_neg (fun h0 : z = v => hzs (h0 ▸ hvs))]

theorem isBlk_pop (dt : DT h st tp) {v : Nat} {rest c2 : List Nat} {t : Int} {bs : List (List Nat)}
    (hstk : st.toCheck = v :: rest) {S : List Nat} {c : Nat} (hb : IsBlk h com st tp S c) :
    IsBlk h com (popSt st v rest t bs c2) tp S c := by
  obtain ⟨⟨hc, hcv, hcs, hc0⟩, hS, hmem⟩ := hb
  refine ⟨⟨hc, hcv, fun hm' => hcs (by rw [hstk]; exact List.mem_cons_of_mem _ hm'), hc0⟩, hS, fun w => ?_⟩
  rw [hmem w]
  refine exists_congr fun y => and_congr_right fun hy => and_congr_right fun hyv => and_congr_right fun _ =>
    or_congr_right ?_
  exact (NL_popSt dt hstk (fun z hz _ => dt.sub_finished hcs hz) hy hyv).symm

theorem bk_pop (dt : DT h st tp) (la : LA h st tp) (bk : BK h com out0 st tp cs) {v : Nat}
    {rest cur c2 : List Nat} {t : Int} {bs taken kept : List (List Nat)} (hstk : st.toCheck = v :: rest)
    (hv0 : v ≠ 0) (hold : st.bicoms = kept.reverse ++ taken.reverse ++ [cur])
    (e2 : bs = kept.reverse ++ [cur ++ taken.flatten])
    (ht : ∀ b ∈ taken, ∃ x, b.getLast? = some x ∧ dI st x = dI st v + 1)
    (hk : ∀ b x, kept.head? = some b → b.getLast? = some x → dI st x ≠ dI st v + 1)
    (hc2 : bs.getLast? = some c2)
    (hnopend : NoPend h st v) :
    BK h com out0 (popSt st v rest t bs c2) tp cs := by
  obtain ⟨hvs, hvn, hvv⟩ := dt.top hstk
  have hl := dt.ok.lo_popSt rest t bs c2 hvn
  have hcur : st.bicoms.getLast? = some cur := by rw [hold]; exact List.getLast?_concat
  have hc2' : c2 = cur ++ taken.flatten := by
    rw [e2, List.getLast?_concat] at hc2
    cases hc2; rfl
  have hbic : (popSt st v rest t bs c2).bicoms = kept.reverse ++ [cur ++ taken.flatten ++ [v]] := by
    show setLast bs (c2 ++ [v]) = _
    rw [e2, hc2']
    simp [setLast]
  obtain ⟨rest', hrest⟩ := dt.parent_of_top hstk hv0
  have hvr : v ∉ rest := dt.top_not_in_rest hstk
  have hstk' : (popSt st v rest t bs c2).toCheck = rest := rfl
  have hsub : ∀ y, y ∈ rest → y ∈ st.toCheck := fun y hy => by rw [hstk]; exact List.mem_cons_of_mem _ hy
  have hcurm : cur ∈ st.bicoms := List.mem_of_getLast? hcur
  have hKm : ∀ b, b ∈ kept.reverse → b ∈ st.bicoms := fun b hb => by
    rw [hold]; exact List.mem_append.2 (.inl (List.mem_append.2 (.inl hb)))
  have hTm : ∀ b, b ∈ taken → b ∈ st.bicoms := fun b hb => by
    rw [hold]; exact List.mem_append.2 (.inl (List.mem_append.2 (.inr (List.mem_reverse.2 hb))))
  have hdep : ∀ b ∈ st.bicoms, ∀ x, b.getLast? = some x →
      dI st x ≤ dI st v + 1 ∧ (dI st x = dI st v + 1 → tp x = v) := by
    intro b hb x hx
    obtain ⟨h1, h2, _, h4, h5, _⟩ := bk.btop b hb x hx
    have hd := (dt.tree x h1 h2 h4).2.2.2
    obtain ⟨l1, l2⟩ := dt.stack_depth_le hstk h5
    exact ⟨by omega, fun h0 => l2 (by omega)⟩
  have hnl : ∀ x, x < h.n → bvis st x → x ∉ st.toCheck → x ≠ 0 → tp x = v → pa st x = (tp x : Int) →
      lo st x < dI st v := by
    intro x hx hxv hxs hx0 htx hpx
    by_contra hge
    rw [htx] at hpx
    exact hnopend x hx hxv hxs hx0 hpx hv0 (by omega)
  -- the blocks that are merged belong to children of `v` that do not close a block
  have hT : ∀ b ∈ taken, ∃ x, b.getLast? = some x ∧ tp x = v ∧ x ≠ v ∧ lo st x < dI st v := by
    intro b hb
    obtain ⟨x, hx, hdx⟩ := ht b hb
    obtain ⟨h1, h2, h3, h4, h5, h6⟩ := bk.btop b (hTm b hb) x hx
    have htx := (hdep b (hTm b hb) x hx).2 hdx
    exact ⟨x, hx, htx, fun h0 => h3 (h0 ▸ hvs), hnl x h1 h2 h3 h4 htx h6⟩
  have hC : ∀ x, cur.getLast? = some x → tp x = v ∧ x ≠ v ∧ lo st x < dI st v := by
    intro x hx
    obtain ⟨h1, h2, h3, h4, h5, h6⟩ := bk.btop cur hcurm x hx
    have htx := bk.bcur cur x v rest hcur hx hstk
    exact ⟨htx, fun h0 => h3 (h0 ▸ hvs), hnl x h1 h2 h3 h4 htx h6⟩
  -- the blocks that stay belong to vertices that are not children of `v`
  have hK : ∀ b ∈ kept.reverse, ∀ x, b.getLast? = some x → dI st x ≤ dI st v := by
    intro b hb x hx
    cases hkept : kept with
    | nil => rw [hkept] at hb; cases hb
    | cons b0 kept' =>
      have hb0m : b0 ∈ st.bicoms := hKm b0 (by rw [hkept]; simp)
      have hb0ne : b0 ≠ [] := by
        apply dt.ok.bpre b0
        have : st.bicoms.dropLast = kept.reverse ++ taken.reverse := by
          rw [hold]; simp
        rw [this, hkept]; simp
      obtain ⟨x0, hx0⟩ := getLast?_isSome_of_ne_nil hb0ne
      have hne := hk b0 x0 (by rw [hkept]; rfl) hx0
      have hle0 := (hdep b0 hb0m x0 hx0).1
      have hx0le : dI st x0 ≤ dI st v := by omega
      rw [hkept] at hb
      simp only [List.reverse_cons, List.mem_append, List.mem_reverse, List.mem_singleton] at hb
      rcases hb with hb | hb
      · have hord := bk.bord
        rw [hold, hkept] at hord
        simp only [List.reverse_cons, List.append_assoc] at hord
        rw [List.pairwise_append] at hord
        have := hord.2.2 b (List.mem_reverse.2 hb) b0 (by simp) x x0 hx hx0
        omega
      · subst hb
        rw [hx0] at hx; cases hx; exact hx0le
  have hKtop : ∀ b ∈ kept.reverse, ∀ x, b.getLast? = some x → tp x ∈ rest := by
    intro b hb x hx
    obtain ⟨h1, h2, _, h4, h5, _⟩ := bk.btop b (hKm b hb) x hx
    have hd := (dt.tree x h1 h2 h4).2.2.2
    have := hK b hb x hx
    rw [hstk] at h5
    rcases List.mem_cons.1 h5 with h0 | h0
    · rw [h0] at hd; omega
    · exact h0
  have hNL : ∀ x y, x ∉ st.toCheck → y < h.n → bvis st y →
      (NL (popSt st v rest t bs c2) tp x y ↔ NL st tp x y) :=
    fun x y hxs hy hyv => NL_popSt dt hstk (fun z hz _ => dt.sub_finished hxs hz) hy hyv
  have hNLv : ∀ y, y < h.n → bvis st y → (NL (popSt st v rest t bs c2) tp v y ↔ NL st tp v y) := by
    intro y hy hyv
    refine NL_popSt dt hstk (fun z hz hne hzs => ?_) hy hyv
    rw [hstk] at hzs
    have hp := dt.path
    rw [hstk] at hp
    exact hne (dt.anc_antisymm hvn hvv (stackPath_anc rest v hp z hzs) hz)
  have hLlast : (cur ++ taken.flatten ++ [v]).getLast? = some v := List.getLast?_concat
  have hmemb : ∀ b, b ∈ (popSt st v rest t bs c2).bicoms → b ∈ kept.reverse ∨ b = cur ++ taken.flatten ++ [v] := by
    intro b hb
    rw [hbic] at hb
    rcases List.mem_append.1 hb with h0 | h0
    · exact .inl h0
    · exact .inr (List.mem_singleton.1 h0)
  have hLmem : ∀ y, y ∈ cur ++ taken.flatten ++ [v] ↔ (y < h.n ∧ bvis st y ∧ NL st tp v y) := by
    intro y
    constructor
    · intro hy
      rcases List.mem_append.1 hy with hy | hy
      · rcases List.mem_append.1 hy with hy | hy
        · obtain ⟨x, hx⟩ := getLast?_isSome_of_ne_nil (List.ne_nil_of_mem hy)
          obtain ⟨h1, h2, h3⟩ := hC x hx
          obtain ⟨g1, g2, g3⟩ := (bk.bmem cur hcurm x hx y).1 hy
          exact ⟨g1, g2, (NL_child_iff dt g1 g2).2 (.inr ⟨x, h1, h2, h3, g3⟩)⟩
        · obtain ⟨b, hb, hyb⟩ := List.mem_flatten.1 hy
          obtain ⟨x, hx, h1, h2, h3⟩ := hT b hb
          obtain ⟨g1, g2, g3⟩ := (bk.bmem b (hTm b hb) x hx y).1 hyb
          exact ⟨g1, g2, (NL_child_iff dt g1 g2).2 (.inr ⟨x, h1, h2, h3, g3⟩)⟩
      · rw [List.mem_singleton] at hy; subst hy
        exact ⟨hvn, hvv, NL.refl dt hvn hvv⟩
    · rintro ⟨hy, hyv, hn⟩
      rcases (NL_child_iff dt hy hyv).1 hn with h0 | ⟨c, hc1, hc2, hc3, hc4⟩
      · subst h0; simp
      · obtain ⟨hcn, hcv⟩ := dt.anc_vis hy hyv hc4.1
        have hcs : c ∉ st.toCheck := dt.child_of_top_fin hstk hc1 hc2
        have hc0 : c ≠ 0 := by
          intro h0; subst h0
          rw [dt.tp0] at hc1; exact hv0 hc1.symm
        have hpc : pa st c = (tp c : Int) := by
          rcases la.ar1 c hcn hcv hc0 with h0 | h0
          · exact h0
          · have := (la.ar2 c hcn hcv hc0 h0).2.2.1
            rw [hc1] at this; omega
        obtain ⟨b, hb, hbx⟩ := bk.bcov c hcn hcv hcs hc0 (by rw [hc1]; exact hvs) hpc
        have hyb : y ∈ b := (bk.bmem b hb c hbx y).2 ⟨hy, hyv, hc4⟩
        rw [hold] at hb
        rcases List.mem_append.1 hb with hb | hb
        · rcases List.mem_append.1 hb with hb | hb
          · exfalso
            have := hK b hb c hbx
            have hd := (dt.tree c hcn hcv hc0).2.2.2
            rw [hc1] at hd; omega
          · exact List.mem_append.2 (.inl (List.mem_append.2 (.inr
              (List.mem_flatten.2 ⟨b, List.mem_reverse.1 hb, hyb⟩))))
        · rw [List.mem_singleton] at hb; subst hb
          exact List.mem_append.2 (.inl (List.mem_append.2 (.inl hyb)))
  refine { btop := ?_, bmem := ?_, bnd := ?_, bord := ?_, bcur := ?_, bcov := ?_, bpend := ?_, broot := ?_,
           out := ?_, csmem := bk.csmem, csnd := bk.csnd }
  · intro b hb x hx
    rcases hmemb b hb with hb' | hb'
    · obtain ⟨h1, h2, h3, h4, h5, h6⟩ := bk.btop b (hKm b hb') x hx
      exact ⟨h1, h2, fun hm' => h3 (hsub x hm'), h4, hKtop b hb' x hx, h6⟩
    · subst hb'
      rw [hLlast] at hx; cases hx
      refine ⟨hvn, hvv, hvr, hv0, ?_, dt.pastk v hvs hv0⟩
      rw [hstk', hrest]; exact List.mem_cons_self
  · intro b hb x hx y
    rcases hmemb b hb with hb' | hb'
    · obtain ⟨h1, h2, h3, h4, h5, h6⟩ := bk.btop b (hKm b hb') x hx
      rw [bk.bmem b (hKm b hb') x hx y]
      constructor
      · rintro ⟨hy, hyv, hn⟩; exact ⟨hy, hyv, (hNL x y h3 hy hyv).2 hn⟩
      · rintro ⟨hy, hyv, hn⟩; exact ⟨hy, hyv, (hNL x y h3 hy hyv).1 hn⟩
    · subst hb'
      rw [hLlast] at hx; cases hx
      rw [hLmem y]
      constructor
      · rintro ⟨hy, hyv, hn⟩; exact ⟨hy, hyv, (hNLv y hy hyv).2 hn⟩
      · rintro ⟨hy, hyv, hn⟩; exact ⟨hy, hyv, (hNLv y hy hyv).1 hn⟩
  · rw [hbic]
    have hnd := bk.bnd
    rw [hold] at hnd
    have hperm : (kept.reverse ++ [cur ++ taken.flatten ++ [v]]).flatten.Perm
        (v :: (kept.reverse ++ taken.reverse ++ [cur]).flatten) := by
      simp only [List.flatten_append, List.flatten_cons, List.flatten_nil, List.append_nil]
      have p1 : taken.flatten.Perm taken.reverse.flatten := (List.reverse_perm taken).flatten.symm
      have p2 : (cur ++ taken.flatten).Perm (taken.reverse.flatten ++ cur) :=
        List.perm_append_comm.trans (List.Perm.append_right cur p1)
      have p3 : (kept.reverse.flatten ++ (cur ++ taken.flatten)).Perm
          (kept.reverse.flatten ++ taken.reverse.flatten ++ cur) := by
        rw [List.append_assoc]; exact List.Perm.append_left _ p2
      have p4 : (kept.reverse.flatten ++ (cur ++ taken.flatten ++ [v])).Perm
          (v :: (kept.reverse.flatten ++ (cur ++ taken.flatten))) := by
        rw [← List.append_assoc]
        exact List.perm_append_singleton _ _
      exact p4.trans (List.Perm.cons v p3)
    rw [hperm.nodup_iff, List.nodup_cons]
    refine ⟨?_, hnd⟩
    intro hm'
    obtain ⟨b, hb, hvb⟩ := List.mem_flatten.1 hm'
    exact (bk.mem_fin dt (by rw [hold]; exact hb) hvb).2.2 hvs
  · rw [hbic, List.pairwise_append]
    have hord := bk.bord
    rw [hold, List.append_assoc, List.pairwise_append] at hord
    refine ⟨hord.1, List.pairwise_singleton _ _, ?_⟩
    intro b hb b' hb' x x' hx hx'
    rw [List.mem_singleton] at hb'; subst hb'
    rw [List.getLast?_concat] at hx'
    cases hx'
    exact hK b hb x hx
  · intro cur' x v' rest'' hc' hx' hs'
    rw [hbic, List.getLast?_concat] at hc'
    cases hc'
    rw [List.getLast?_concat] at hx'
    cases hx'
    rw [hstk', hrest] at hs'
    cases hs'; rfl
  · intro x hx hxv hxs hx0 htx hpx
    rw [hstk'] at hxs htx
    by_cases hxv' : x = v
    · subst hxv'
      exact ⟨_, by rw [hbic]; simp, hLlast⟩
    · have hxs' : x ∉ st.toCheck := by rw [hstk]; exact List.not_mem_cons_of_ne_of_not_mem hxv' hxs
      obtain ⟨b, hb, hbx⟩ := bk.bcov x hx hxv hxs' hx0 (hsub _ htx) hpx
      have htxv : tp x ≠ v := fun h0 => hvr (h0 ▸ htx)
      rw [hold] at hb
      rcases List.mem_append.1 hb with hb | hb
      · rcases List.mem_append.1 hb with hb | hb
        · exact ⟨b, by rw [hbic]; exact List.mem_append.2 (.inl hb), hbx⟩
        · exfalso
          obtain ⟨x', hx', h1, _⟩ := hT b (List.mem_reverse.1 hb)
          rw [hbx] at hx'; cases hx'
          exact htxv h1
      · exfalso
        rw [List.mem_singleton] at hb; subst hb
        exact htxv (hC x hbx).1
  · intro c hc hcv hcs hc0 hpc htc hlc
    rw [hstk'] at hcs
    by_cases hcv' : c = v
    · subst hcv'
      exact ⟨_, by rw [hbic]; exact List.getLast?_concat, hLlast⟩
    · exfalso
      have hcs' : c ∉ st.toCheck := by rw [hstk]; exact List.not_mem_cons_of_ne_of_not_mem hcv' hcs
      have hlc : lo st c ≥ dI st (tp c) := by rwa [hl, if_neg hcv'] at hlc
      exact Int.not_le.2 (la.no_pend hstk hnopend hc hcv hcs' hc0 hpc htc) hlc
  · intro _ hlast
    rw [hbic, List.getLast?_concat] at hlast
    have := congrArg List.length (Option.some.inj hlast)
    simp at this
  · obtain ⟨E, hE, hF⟩ := bk.out
    exact ⟨E, hE, hF.imp fun S c hb => isBlk_pop dt hstk hb⟩

structure BFin (h : G) (com : List Nat) (out0 : List (List Nat)) (s : BicSt) (st : BicSt) (tp : Nat → Nat)
    (cs : List Nat) (t : Int) (c2 : List Nat) : Prop where
  dt : DT h st tp
  la : LA h st tp
  bk : BK h com out0 st tp cs
  stk : st.toCheck = [0]
  last : st.bicoms.getLast? = some c2
  eq : s = popSt st 0 [] t st.bicoms c2
  dt' : DT h s tp
  la' : LA h s tp

def BInv (h : G) (com : List Nat) (out0 : List (List Nat)) (s : BicSt) : Prop :=
  (∃ tp cs, DT h s tp ∧ LA h s tp ∧ BK h com out0 s tp cs ∧ s.toCheck ≠ []) ∨
  (∃ st tp cs t c2, BFin h com out0 s st tp cs t c2)

theorem binv_step (com : List Nat) (hinj : ∀ a b, a < h.n → b < h.n → com.getD a 0 = com.getD b 0 → a = b)
    (hsym : ∀ u v, h.adj u v = h.adj v u)
    {s : BicSt} (hI : BInv h com out0 st) (hs : bicStep h com st = .ok (some s)) : BInv h com out0 s := by
  rcases hI with ⟨tp, cs, dt, la, bk, hne⟩ | ⟨st0, tp, cs, t, c2, hf⟩
  swap
  · exfalso
    have : st.toCheck = [] := by rw [hf.eq]; rfl
    unfold bicStep at hs
    rw [this] at hs
    cases hs
  obtain ⟨v, rest, st1, dt1, la1, ⟨cs1, bk1⟩, hstk, hnp, hend⟩ :=
    scan_step com (J := fun s1 => ∃ cs1, BK h com out0 s1 tp cs1)
      (fun hP ⟨cs1, bk1⟩ huv hun hu0 hunot hpu hv0 hlu hcur =>
        ⟨cs1 ++ [_], bk_emit hinj hP.dt hP.la bk1 hP.stk hun huv hu0 hunot hpu hv0 hlu hcur⟩)
      dt la ⟨cs, bk⟩ hs
  rcases hend with ⟨u, cur, hun, hunv, hadj, hfirst, hcur, rfl⟩ | ⟨t, bs, c2, hnb, lt, hm, rfl⟩
  · exact .inl ⟨_, cs1, dt_descend hsym dt1 hstk hun hunv hadj hfirst hcur,
      la_descend dt1 la1 hstk hun hunv hnp, bk_descend dt1 la1 bk1 hstk hun hunv hcur hnp,
      List.cons_ne_nil _ _⟩
  · have dt2 := dt_pop (t := t) dt1 hstk hm.last hm.pre hm.elem hnb
    have la2 := la_pop (bs := bs) (c2 := c2) dt1 la1 hstk hnb lt hnp
    by_cases hv0 : v = 0
    · subst hv0
      have hrest : rest = [] := by
        have hp := dt1.path
        rw [hstk] at hp
        cases rest with
        | nil => rfl
        | cons p r => exact absurd rfl hp.2.1
      subst hrest
      have hbs : bs = st1.bicoms := hm.root rfl
      subst hbs
      exact .inr ⟨st1, tp, cs1, t, c2, ⟨dt1, la1, bk1, hstk, hm.last, rfl, dt2, la2⟩⟩
    · obtain ⟨cur, taken, kept, hold, e2, ht, hk⟩ := hm.run hv0
      obtain ⟨rest', hrest⟩ := dt1.parent_of_top hstk hv0
      exact .inl ⟨tp, cs1, dt2, la2, bk_pop dt1 la1 bk1 hstk hv0 hold e2 ht hk hm.last hnp,
        hrest ▸ List.cons_ne_nil (tp v) rest'⟩

end GDist
