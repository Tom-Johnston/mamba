import Mamba.Lemmas.ExactCanonAccept
/-! Two of McKay's three facts about the accept rule (the third is in `ExactFinal`); every well-formed graph on at least one
vertex is the abstraction of a graph built by `AddVertex`; among the vertices of a graph there is a best one. -/
namespace Search
open Disjoint GSearch GraphSpec

section
variable {O : Oracle} {n : Nat}

theorem isAut_iff_isIso {g : DG} {σ : Nat → Nat} : IsAut g σ ↔ IsIso g g σ :=
  ⟨fun h => ⟨rfl, h.1, h.2⟩, fun h => ⟨h.bij, h.adj⟩⟩

theorem child_aug {P g2 : DG} {x : Nat} (hP : Built P) (hx : InRange P x) (ha : P.addVertex (bitsOf x) = .ok g2) :
    wsum g2 (bitsOf x) = nkey g2 (g2.nv - 1) ∧ ∀ v ∈ bitsOf x, v < g2.nv := by
  have hnv : g2.nv = P.nv + 1 := addVertex_nv ha
  have htoG := addVertex_toG hP.sized (bitsOf_nodup x) ha
  refine ⟨?_, fun v hv => by have := hx v hv; omega⟩
  unfold nkey
  apply wsum_perm
  have hL : g2.nv - 1 = P.nv := by omega
  rw [hL]
  refine (List.perm_ext_iff_of_nodup (bitsOf_nodup x) ?_).2 ?_
  · unfold G.nbrs; exact List.Nodup.filter _ List.nodup_range
  · intro a
    unfold G.nbrs
    rw [htoG]
    simp only [List.mem_filter, List.mem_range]
    constructor
    · intro hm
      have ha' := hx a hm
      refine ⟨by show a < P.nv + 1; omega, ?_⟩
      have e := ext_adj_new (g := P.toG) (bitsOf x) (show a < P.toG.n from ha')
      rw [show P.toG.n = P.nv from rfl] at e
      rw [(ext_wf (toG_wf P) _).symm, e]
      exact List.contains_iff_mem.2 hm
    · rintro ⟨hlt, hadj⟩
      have hlt' : a < P.nv + 1 := hlt
      by_cases hap : a < P.nv
      · have e := ext_adj_new (g := P.toG) (bitsOf x) (show a < P.toG.n from hap)
        rw [show P.toG.n = P.nv from rfl] at e
        rw [(ext_wf (toG_wf P) _).symm, e] at hadj
        exact List.contains_iff_mem.1 hadj
      · have : a = P.nv := by omega
        rw [this, (ext_wf (toG_wf P) _).irrefl] at hadj
        cases hadj

theorem isCanonical_child (hO : OracleSpec O n) {P g2 : DG} {x : Nat} (hP : Built P) (hlt : P.nv < n)
    (hx : InRange P x) (hadd : P.addVertex (bitsOf x) = .ok g2) :
    ∃ a c b, getAut O n g2 none = .ok (some a) ∧ isCanonical O n g2 (bitsOf x) none = .ok (c, b) ∧
      (b = true ↔ CanonLast g2 a) ∧ ∀ c0, c = some c0 → AutData g2 c0.orbits c0.gens := by
  have hb2 : Built g2 := hP.child hx hadd
  obtain ⟨a, hga⟩ := hO.total hb2 (by rw [addVertex_nv hadd]; omega)
  obtain ⟨h1, h2⟩ := child_aug hP hx hadd
  obtain ⟨c, b, h⟩ := isCanonical_spec hO hb2 h1 h2 hga
  exact ⟨a, c, b, hga, h⟩

theorem canonLast_of_acc (hO : OracleSpec O n) {P g2 : DG} {x : Nat} {c : Option Ans} (hP : Built P) (hlt : P.nv < n)
    (hx : InRange P x) (ha : AccK O n P x g2 c) :
    ∃ a, getAut O n g2 none = .ok (some a) ∧ CanonLast g2 a := by
  obtain ⟨a, c', b', hga, h', hiff, -⟩ := isCanonical_child hO hP hlt hx ha.1
  rw [ha.2] at h'
  cases h'
  exact ⟨a, hga, hiff.1 rfl⟩

theorem autData_of_acc (hO : OracleSpec O n) {P g2 : DG} {x : Nat} {c0 : Ans} (hP : Built P) (hlt : P.nv < n)
    (hx : InRange P x) (ha : AccK O n P x g2 (some c0)) : AutData g2 c0.orbits c0.gens := by
  obtain ⟨a, c', b', -, h', -, hc⟩ := isCanonical_child hO hP hlt hx ha.1
  rw [ha.2] at h'
  cases h'
  exact hc c0 rfl

theorem acc_card_le {P0 g0 : DG} {x0 : Nat} {c0 : Option Ans} (hO : OracleSpec O n) (hb0 : Built P0) (hlt : P0.nv < n)
    (hr0 : InRange P0 x0) (ha : AccK O n P0 x0 g0 c0) :
    ∀ i, i < P0.nv → cardIn P0.nv (bitsOf x0) ≤ P0.toG.deg i + 1 := by
  intro i hi
  obtain ⟨a, -, hbest, -⟩ := canonLast_of_acc hO hb0 hlt hr0 ha
  have hnv : g0.nv = P0.nv + 1 := addVertex_nv ha.1
  have hle := (hbest.2 i (by omega)).1
  unfold dgi at hle
  rw [addVertex_toG hb0.sized (bitsOf_nodup x0) ha.1, show g0.nv - 1 = P0.toG.n by rw [hnv]; rfl,
    deg_ext_new (toG_wf P0) (bitsOf_nodup x0) hr0, deg_ext_old (toG_wf P0) hr0 (show i < P0.toG.n from hi)] at hle
  rw [cardIn_nodup (bitsOf_nodup x0) hr0]
  have h2 : (bitsOf x0).length ≤ P0.toG.deg i + (if i ∈ bitsOf x0 then 1 else 0) := by exact_mod_cast hle
  split at h2 <;> omega

theorem canonLast_aut (hO : OracleSpec O n) {g : DG} (hb : Built g) {a : Ans} (hga : getAut O n g none = .ok (some a))
    (hc : CanonLast g a) : ∃ w α, firstBest g a.perm.toList = some w ∧ w < g.nv ∧ IsAut g α ∧ α w = g.nv - 1 := by
  obtain ⟨hbest, w, hfb, hrep⟩ := hc
  have hw := firstBest_some hfb
  have hperm := hO.perm hb hga
  have hwlt : w < g.nv := by simpa using hperm.mem_iff.1 hw.1
  obtain ⟨α, hα, hαw⟩ := (hO.orbits hb hga w (g.nv - 1) hwlt hbest.1).1 hrep
  exact ⟨w, α, hfb, hwlt, hα, hαw⟩

theorem canon_iso_of_oracle (hO : OracleSpec O n) {P1 P2 g1 g2 : DG} {x1 x2 : Nat} {c1 c2 : Option Ans}
    (hP1 : Built P1) (hP2 : Built P2) (hlt1 : P1.nv < n) (hlt2 : P2.nv < n) (hx1 : InRange P1 x1) (hx2 : InRange P2 x2)
    (ha1 : AccK O n P1 x1 g1 c1) (ha2 : AccK O n P2 x2 g2 c2) (i : IsoD g1 g2) :
    ExtEquiv P1 (bitsOf x1) P2 (bitsOf x2) := by
  have hb1 : Built g1 := hP1.child hx1 ha1.1
  have hb2 : Built g2 := hP2.child hx2 ha2.1
  have n1 : g1.nv = P1.nv + 1 := addVertex_nv ha1.1
  have n2 : g2.nv = P2.nv + 1 := addVertex_nv ha2.1
  obtain ⟨a1, hga1, hc1⟩ := canonLast_of_acc hO hP1 hlt1 hx1 ha1
  obtain ⟨a2, hga2, hc2⟩ := canonLast_of_acc hO hP2 hlt2 hx2 ha2
  obtain ⟨w1, α1, hf1, hw1, hα1, hαw1⟩ := canonLast_aut hO hb1 hga1 hc1
  obtain ⟨w2, α2, hf2, hw2, hα2, hαw2⟩ := canonLast_aut hO hb2 hga2 hc2
  obtain ⟨θ, hθ, htr⟩ := canon_transport hO hb1 hb2 i hga1 hga2
  have hw2' : w2 = θ w1 := by
    have := htr w1 hf1
    rw [hf2] at this
    exact Option.some.inj this
  -- ψ = α2 ∘ θ ∘ α1⁻¹
  have i1 := isAut_iff_isIso.1 hα1
  have i2 := isAut_iff_isIso.1 hα2
  have hψ := (i1.symm.comp hθ).comp i2
  refine restrict_last hP1 hP2 ha1.1 ha2.1 hψ ?_
  show α2 (θ (i1.bij.inv P1.nv)) = P2.nv
  have hL1 : P1.nv = g1.nv - 1 := by omega
  have : i1.bij.inv P1.nv = w1 := by
    rw [hL1, ← hαw1]; exact i1.bij.inv_left hw1
  rw [this, ← hw2', hαw2]; omega

theorem canon_inv_of_oracle (hO : OracleSpec O n) {P1 P2 g1 g2 : DG} {x1 x2 : Nat} {c1 c2 : Option Ans} {b : Bool}
    (hP1 : Built P1) (hP2 : Built P2) (hlt1 : P1.nv < n) (hlt2 : P2.nv < n) (hx1 : InRange P1 x1) (hx2 : InRange P2 x2)
    (ha1 : AccK O n P1 x1 g1 c1) (e : ExtEquiv P1 (bitsOf x1) P2 (bitsOf x2))
    (hadd : P2.addVertex (bitsOf x2) = .ok g2) (hcan : isCanonical O n g2 (bitsOf x2) none = .ok (c2, b)) :
    b = true := by
  have hb1 : Built g1 := hP1.child hx1 ha1.1
  have hb2 : Built g2 := hP2.child hx2 hadd
  have n1 : g1.nv = P1.nv + 1 := addVertex_nv ha1.1
  have n2 : g2.nv = P2.nv + 1 := addVertex_nv hadd
  obtain ⟨a1, hga1, hc1⟩ := canonLast_of_acc hO hP1 hlt1 hx1 ha1
  obtain ⟨a2, hga2⟩ := hO.total hb2 (by omega)
  obtain ⟨w1, α1, hf1, hw1, hα1, hαw1⟩ := canonLast_aut hO hb1 hga1 hc1
  obtain ⟨ψ, hψ, hψL⟩ := extend_last hP1 hP2 ha1.1 hadd e
  have i : IsoD g1 g2 := ⟨hψ.nv, ψ, hψ.bij, hψ.adj⟩
  obtain ⟨θ, hθ, htr⟩ := canon_transport hO hb1 hb2 i hga1 hga2
  obtain ⟨h1, h2⟩ := child_aug hP2 hx2 hadd
  apply (accept_iff hO hb2 h1 h2 hga2 hcan).2
  have hL1 : g1.nv - 1 = P1.nv := by omega
  have hL2 : g2.nv - 1 = P2.nv := by omega
  refine ⟨?_, θ w1, htr w1 hf1, ?_⟩
  · rw [hL2, ← hψL]
    exact (hψ.best (by omega)).2 (hL1 ▸ hc1.1)
  · -- β = ψ ∘ α1 ∘ θ⁻¹ is an automorphism of g2 carrying θ w1 to the last vertex
    have i1 := isAut_iff_isIso.1 hα1
    have hβ := (hθ.symm.comp i1).comp hψ
    have hθw : θ w1 < g2.nv := hθ.nv ▸ hθ.bij.maps w1 hw1
    refine (hO.orbits hb2 hga2 (θ w1) (g2.nv - 1) hθw (by omega)).2 ⟨_, isAut_iff_isIso.2 hβ, ?_⟩
    show ψ (α1 (hθ.bij.inv (θ w1))) = g2.nv - 1
    rw [hθ.bij.inv_left hw1, hαw1, hL1, hψL, hL2]

end

theorem built_step_eq {Y : G} (hY : Y.WF) {k : Nat} (hn : Y.n = k + 1 + 1) {P : DG} (hP : Built P)
    (hPY : P.toG = delLast Y) :
    ∃ (x : Nat) (g2 : DG), InRange P x ∧ P.addVertex (bitsOf x) = .ok g2 ∧ g2.toG = Y := by
  have hPn : P.nv = k + 1 := by
    have : P.nv = (delLast Y).n := congrArg G.n hPY
    rw [this]; simp [delLast, hn]
  have hxr : InRange P (maskOf ((List.range (k + 1)).filter fun u => Y.adj u (k + 1))) := fun v hv => by
    rw [hPn]; exact List.mem_range.1 (List.mem_filter.1 (mem_bitsOf_maskOf.1 hv)).1
  obtain ⟨g2, hg2⟩ := addVertex_ok hP.sized hxr
  refine ⟨_, g2, hxr, hg2, ?_⟩
  rw [addVertex_toG hP.sized (bitsOf_nodup _) hg2, hPY, ext_congr _ fun v => mem_bitsOf_maskOf]
  exact (ext_delLast hY hn).symm

theorem exists_built_eq : ∀ (k : Nat) (Y : G), Y.WF → Y.n = k + 1 → ∃ g, Built g ∧ g.toG = Y
  | 0, Y, hY, hn => ⟨K1, Built.one, eq_of_small (toG_wf K1) hY hn.symm (Nat.le_refl 1)⟩
  | k + 1, Y, hY, hn => by
    obtain ⟨P, hP, hPY⟩ := exists_built_eq k (delLast Y) (delLast_wf hY) (by simp [delLast, hn])
    obtain ⟨x, g2, hxr, hg2, he⟩ := built_step_eq hY hn hP hPY
    exact ⟨g2, hP.child hxr hg2, he⟩

def Better (g : DG) (u v : Nat) : Prop :=
  dgi g u < dgi g v ∨ (dgi g u = dgi g v ∧ keyGt (nkey g u) (nkey g v).1 (nkey g v).2)

theorem better_irrefl (g : DG) (v : Nat) : ¬ Better g v v := by
  rintro (h | ⟨-, h⟩)
  · omega
  · exact keyGt_irrefl _ h

theorem better_trans {g : DG} {a b c : Nat} (h1 : Better g a b) (h2 : Better g b c) : Better g a c := by
  unfold Better keyGt at *
  rcases h1 with h1 | ⟨e1, k1⟩ <;> rcases h2 with h2 | ⟨e2, k2⟩
  · left; omega
  · left; omega
  · left; omega
  · right
    refine ⟨by omega, ?_⟩
    rcases k1 with k1 | ⟨k1a, k1b⟩ <;> rcases k2 with k2 | ⟨k2a, k2b⟩
    · left; omega
    · left; omega
    · left; omega
    · right; exact ⟨by omega, by omega⟩

theorem best_iff_not_better {g : DG} {v : Nat} (hv : v < g.nv) : Best g v ↔ ∀ u, u < g.nv → ¬ Better g u v := by
  unfold Best Better
  constructor
  · rintro ⟨-, h⟩ u hu hb
    have := h u hu
    rcases hb with hb | ⟨e, k⟩
    · omega
    · exact this.2 e k
  · intro h
    refine ⟨hv, fun u hu => ⟨?_, fun e k => h u hu (Or.inr ⟨e, k⟩)⟩⟩
    by_contra hlt
    exact h u hu (Or.inl (by omega))

theorem exists_best (g : DG) : ∀ k, 1 ≤ k → k ≤ g.nv → ∃ v, v < k ∧ ∀ u, u < k → ¬ Better g u v
  | 0, h, _ => by omega
  | 1, _, _ => ⟨0, by omega, fun u hu => by
      have : u = 0 := by omega
      subst this; exact better_irrefl g 0⟩
  | k + 2, _, hle => by
    obtain ⟨v, hv, hmax⟩ := exists_best g (k + 1) (by omega) (by omega)
    by_cases hb : Better g (k + 1) v
    · refine ⟨k + 1, by omega, fun u hu hbu => ?_⟩
      by_cases huk : u = k + 1
      · subst huk; exact better_irrefl g _ hbu
      · exact hmax u (by omega) (better_trans hbu hb)
    · refine ⟨v, by omega, fun u hu => ?_⟩
      by_cases huk : u = k + 1
      · subst huk; exact hb
      · exact hmax u (by omega)

end Search
