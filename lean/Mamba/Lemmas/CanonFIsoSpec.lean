import Mamba.Lemmas.GraphBasic
import Mamba.Lemmas.CanonFSemantic
import Mamba.Spec.Iso
/-!
# Completeness of the canonical form in terms of the specification's isomorphism

`IR.Iso (IR.ofSpec g) (IR.ofSpec g')` (a relabelling of the neighbour-list graphs) is the same as `GSearch.Iso g g'`
(a bijection of `0..n-1` preserving the adjacency relation); hence two graphs get the same canonically relabelled graph
iff they are isomorphic in the sense of `Mamba/Spec/Iso.lean`.
-/
namespace CanonF
open GraphSpec

set_option linter.unusedVariables false in
theorem ofSpec_iso_iff {g g' : G} (hg : g.WF) (hg' : g'.WF) :
    IR.Iso (IR.ofSpec g) (IR.ofSpec g') ↔ GSearch.Iso g g' := by
  constructor
  · rintro ⟨σ, τ, R⟩
    have hn : g'.n = g.n := R.n_eq
    have hl : ∀ v, v < g.n → τ (σ v) = v := R.left
    have hr : ∀ v, v < g.n → σ (τ v) = v := R.right
    have hσ : ∀ v, v < g.n → σ v < g.n := R.σ_lt
    have hτ : ∀ v, v < g.n → τ v < g.n := R.τ_lt
    have hinj : ∀ u v, u < g.n → v < g.n → σ u = σ v → u = v := by
      intro u v hu hv e
      have := congrArg τ e
      rwa [hl u hu, hl v hv] at this
    refine ⟨hn.symm, σ, ⟨hσ, hinj, fun w hw => ⟨τ w, hτ w hw, hr w hw⟩⟩, ?_⟩
    intro u v hu hv
    have hnb := R.nbrs u hu
    rw [IR.nbrs_ofSpec g hu, IR.nbrs_ofSpec g' (by rw [hn]; exact hσ u hu)] at hnb
    rw [Bool.eq_iff_iff]
    constructor
    · intro ha
      have : σ v ∈ (g.nbrs u).map σ := List.mem_map_of_mem (G.mem_nbrs.2 ⟨hv, ha⟩)
      exact (G.mem_nbrs.1 (hnb.mem_iff.2 this)).2
    · intro ha
      have hm : σ v ∈ g'.nbrs (σ u) := G.mem_nbrs.2 ⟨by rw [hn]; exact hσ v hv, ha⟩
      obtain ⟨w, hw, e⟩ := List.mem_map.1 (hnb.mem_iff.1 hm)
      obtain ⟨hwn, hwa⟩ := G.mem_nbrs.1 hw
      rw [← hinj w v hwn hv e]
      exact hwa
  · rintro ⟨hn, σ, ⟨hmaps, hinj, hsurj⟩, hadj⟩
    classical
    let τ : Nat → Nat := fun w => if h : ∃ u, u < g.n ∧ σ u = w then Classical.choose h else 0
    have hτ : ∀ w, w < g.n → τ w < g.n ∧ σ (τ w) = w := by
      intro w hw
      have h := hsurj w hw
      simp only [τ, dif_pos h]
      exact Classical.choose_spec h
    have hl : ∀ v, v < g.n → τ (σ v) = v := by
      intro v hv
      obtain ⟨h1, h2⟩ := hτ (σ v) (hmaps v hv)
      exact hinj _ _ h1 hv h2
    have hnb : ∀ v, v < g.n → (IR.ofSpec g).nbrs v = g.nbrs v := fun v hv => IR.nbrs_ofSpec g hv
    refine ⟨σ, τ, IR.Relabel.of_mem hn.symm hl (fun v hv => (hτ v hv).2) hmaps (fun v hv => (hτ v hv).1)
      (fun v hv w hw => ?_) (fun v hv => ?_) (fun v hv => ?_) fun v hv x => ?_⟩
    · rw [hnb v hv] at hw
      exact (G.mem_nbrs.1 hw).1
    · rw [hnb v hv]; exact G.nodup_nbrs _ _
    · rw [IR.nbrs_ofSpec g' (by rw [← hn]; exact hmaps v hv)]; exact G.nodup_nbrs _ _
    · have hv' : v < g.n := hv
      rw [hnb v hv, IR.nbrs_ofSpec g' (by rw [← hn]; exact hmaps v hv'), G.mem_nbrs]
      constructor
      · rintro ⟨hx, ha⟩
        rw [← hn] at hx
        obtain ⟨u, hu, rfl⟩ := hsurj x hx
        refine ⟨u, G.mem_nbrs.2 ⟨hu, ?_⟩, rfl⟩
        rw [hadj v u hv' hu]; exact ha
      · rintro ⟨w, hw, rfl⟩
        obtain ⟨hwn, hwa⟩ := G.mem_nbrs.1 hw
        refine ⟨by rw [← hn]; exact hmaps w hwn, ?_⟩
        rw [← hadj v w hv' hwn]; exact hwa

theorem canonF_canon_complete_spec (fuel fuel' : Nat) (g g' : G) (hg : g.WF) (hg' : g'.WF) (hn : g.n ≠ 0)
    (hn' : g'.n ≠ 0) (r r' : Res) (h : canonicalIsomorphFull fuel g none = .ok r)
    (h' : canonicalIsomorphFull fuel' g' none = .ok r') :
    ∃ p p', r.perm = some p ∧ r'.perm = some p' ∧ (g.induced p = g'.induced p' ↔ GSearch.Iso g g') := by
  obtain ⟨p, p', hp, hp', hiff⟩ := canonF_induced_complete fuel fuel' g g' hg hg' hn hn' r r' h h'
  exact ⟨p, p', hp, hp', hiff.trans (ofSpec_iso_iff hg hg')⟩

end CanonF
