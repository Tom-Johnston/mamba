import Mamba.Lemmas.ExactOrbits
/-! The scans of `isCanonical` (`degreeScan`, `permScan`); the automorphism data `AutData` an answer of the oracle provides. -/
namespace Search
open Disjoint GSearch

/-- first loop of `isCanonical` -/
theorem degreeScan_spec (degs : Array Int) (degree : Int) :
    ∀ (l : List Nat) (vb : Nat) (r : Option Nat), degreeScan degs degree l vb = .ok r →
      (r = none → ∃ i ∈ l, ∃ d, degs[i]? = some d ∧ d < degree) ∧
      (∀ vb', r = some vb' → (∀ i ∈ l, ∃ d, degs[i]? = some d ∧ degree ≤ d) ∧
        ∀ v, vb'.testBit v = (vb.testBit v || decide (v ∈ l ∧ degs[v]? = some degree)))
  | [], vb, r, h => by
    simp only [degreeScan, Outcome.ok.injEq] at h
    subst h
    simp
  | i :: is, vb, r, h => by
    simp only [degreeScan] at h
    split at h
    · cases h
    · rename_i d hd
      split at h
      · rename_i hlt
        simp only [Outcome.ok.injEq] at h
        subst h
        exact ⟨fun _ => ⟨i, List.mem_cons_self, d, hd, hlt⟩, fun vb' h => by cases h⟩
      · rename_i hge
        split at h
        · rename_i heq
          obtain ⟨h1, h2⟩ := degreeScan_spec degs degree is _ r h
          refine ⟨fun hr => ?_, fun vb' hr => ?_⟩
          · obtain ⟨j, hj, hh⟩ := h1 hr
            exact ⟨j, List.mem_cons_of_mem _ hj, hh⟩
          · obtain ⟨h3, h4⟩ := h2 vb' hr
            refine ⟨?_, ?_⟩
            · intro j hj
              rcases List.mem_cons.1 hj with rfl | hj
              · exact ⟨d, hd, by omega⟩
              · exact h3 j hj
            · intro v
              rw [h4 v, testBit_or_shift]
              by_cases hv : v = i
              · subst hv
                simp [hd, heq]
              · simp [hv]
        · rename_i hne
          obtain ⟨h1, h2⟩ := degreeScan_spec degs degree is vb r h
          refine ⟨fun hr => ?_, fun vb' hr => ?_⟩
          · obtain ⟨j, hj, hh⟩ := h1 hr
            exact ⟨j, List.mem_cons_of_mem _ hj, hh⟩
          · obtain ⟨h3, h4⟩ := h2 vb' hr
            refine ⟨?_, ?_⟩
            · intro j hj
              rcases List.mem_cons.1 hj with rfl | hj
              · exact ⟨d, hd, by omega⟩
              · exact h3 j hj
            · intro v
              rw [h4 v]
              by_cases hv : v = i
              · subst hv
                have : ¬ (degs[v]? = some degree) := by rw [hd]; intro h; exact hne (Option.some.inj h)
                simp [this]
              · simp [hv]

theorem degreeScan_total (degs : Array Int) (degree : Int) :
    ∀ (l : List Nat) (vb : Nat), (∀ i ∈ l, i < degs.size) → ∃ r, degreeScan degs degree l vb = .ok r
  | [], vb, _ => ⟨some vb, rfl⟩
  | i :: is, vb, h => by
    have hi := h i List.mem_cons_self
    simp only [degreeScan, Array.getElem?_eq_getElem hi]
    split
    · exact ⟨none, rfl⟩
    · split
      · exact degreeScan_total degs degree is _ (fun j hj => h j (List.mem_cons_of_mem _ hj))
      · exact degreeScan_total degs degree is _ (fun j hj => h j (List.mem_cons_of_mem _ hj))

theorem shift_and_one (vb u : Nat) : ((vb >>> u) &&& 1 = 1) ↔ vb.testBit u = true := by
  unfold Nat.testBit
  rw [Nat.and_comm 1, Nat.and_one_is_mod]
  have : (vb >>> u) % 2 = 0 ∨ (vb >>> u) % 2 = 1 := by omega
  rcases this with h | h <;> simp [h]

def firstHit (n vb : Nat) (l : List Nat) : Option Nat := l.find? fun u => u == n - 1 || vb.testBit u

/-- last loop of `isCanonical` -/
theorem permScan_spec (n vb correct : Nat) :
    ∀ (l : List Nat) (ds ds2 : DS) (b : Bool), Disjoint.Inv ds → (∀ u ∈ l, u < ds.size) →
      permScan n vb correct l ds = .ok (ds2, b) →
      Disjoint.Inv ds2 ∧ ds2.size = ds.size ∧ (∀ z, z < ds.size → rep ds2 z = rep ds z) ∧
      b = (match firstHit n vb l with
           | none => true
           | some u => u == n - 1 || correct == rep ds u)
  | [], ds, ds2, b, hi, _, h => by
    simp only [permScan, Outcome.ok.injEq, Prod.mk.injEq] at h
    obtain ⟨rfl, rfl⟩ := h
    exact ⟨hi, rfl, fun _ _ => rfl, rfl⟩
  | u :: us, ds, ds2, b, hi, hl, h => by
    simp only [permScan] at h
    by_cases h1 : u = n - 1
    · simp only [h1, if_true, Outcome.ok.injEq, Prod.mk.injEq] at h
      obtain ⟨rfl, rfl⟩ := h
      refine ⟨hi, rfl, fun _ _ => rfl, ?_⟩
      simp [firstHit, h1]
    · simp only [h1, if_false] at h
      by_cases h2 : (vb >>> u) &&& 1 = 1
      · simp only [h2, if_true] at h
        have hu : u < ds.size := hl u List.mem_cons_self
        obtain ⟨d', f, i', s', r'⟩ := find_spec hi u hu
        rw [f] at h
        simp only [Outcome.ok.injEq, Prod.mk.injEq] at h
        obtain ⟨rfl, rfl⟩ := h
        refine ⟨i', s', r', ?_⟩
        have ht : vb.testBit u = true := (shift_and_one vb u).1 h2
        have hne : (u == n - 1) = false := by simpa using h1
        simp [firstHit, ht, hne]
      · simp only [h2, if_false] at h
        obtain ⟨a1, a2, a3, a4⟩ := permScan_spec n vb correct us ds ds2 b hi
          (fun w hw => hl w (List.mem_cons_of_mem _ hw)) h
        refine ⟨a1, a2, a3, ?_⟩
        have ht : vb.testBit u = false := by
          cases hb : vb.testBit u
          · rfl
          · exact absurd ((shift_and_one vb u).2 hb) h2
        have hne : (u == n - 1) = false := by simpa using h1
        rw [a4]
        simp [firstHit, ht, hne]

theorem permScan_total (n vb correct : Nat) :
    ∀ (l : List Nat) (ds : DS), Disjoint.Inv ds → (∀ u ∈ l, u < ds.size) →
      ∃ ds2 b, permScan n vb correct l ds = .ok (ds2, b)
  | [], ds, _, _ => ⟨ds, true, rfl⟩
  | u :: us, ds, hi, hl => by
    simp only [permScan]
    by_cases h1 : u = n - 1
    · exact ⟨ds, true, by simp [h1]⟩
    · simp only [h1, if_false]
      by_cases h2 : (vb >>> u) &&& 1 = 1
      · simp only [h2, if_true]
        obtain ⟨d', f, -⟩ := find_spec hi u (hl u List.mem_cons_self)
        rw [f]
        exact ⟨d', _, rfl⟩
      · simp only [h2, if_false]
        exact permScan_total n vb correct us ds hi (fun w hw => hl w (List.mem_cons_of_mem _ hw))

section
variable {O : Oracle} {n : Nat}

/-- what `addAugmentations` needs of the automorphism data it works with -/
structure AutData (g : DG) (orb : DS) (gens : List (Array Nat)) : Prop where
  inv : Disjoint.Inv orb
  size : orb.size = g.nv
  orbits : ∀ u v, u < g.nv → v < g.nv → (rep orb u = rep orb v ↔ ∃ σ, IsAut g σ ∧ σ u = v)
  gensAut : GensAut g gens
  gensGen : ∀ σ, IsAut g σ → Word g.nv gens σ

theorem autData_of_answer (hO : OracleSpec O n) {g : DG} (hb : Built g) {a : Ans}
    (ha : getAut O n g none = .ok (some a)) : AutData g a.orbits a.gens :=
  ⟨(hO.orbits_inv hb ha).1, (hO.orbits_inv hb ha).2, hO.orbits hb ha, hO.gens_aut hb ha, hO.gens_gen hb ha⟩

end

end Search
