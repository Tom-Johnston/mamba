import Mamba.Basic
/-! `Outcome` obeys the monad laws, so the library's lemmas on `foldlM`, `mapM`, … apply to it. -/

instance : LawfulMonad Outcome := LawfulMonad.mk' Outcome
  (id_map := by intro α x; cases x <;> rfl)
  (pure_bind := by intro α β a f; rfl)
  (bind_assoc := by intro α β γ x f g; cases x <;> rfl)

namespace Outcome

theorem bind_eq_ok {α β : Type} {x : Outcome α} {f : α → Outcome β} {b : β} (h : (x >>= f) = .ok b) :
    ∃ a, x = .ok a ∧ f a = .ok b := by
  cases x with
  | ok a => exact ⟨a, rfl, h⟩
  | panic => cases h
  | outOfFuel => cases h

theorem mapM_ok {α β : Type} (f : α → Outcome β) (f' : α → β) (l : List α)
    (h : ∀ x ∈ l, f x = .ok (f' x)) : l.mapM f = .ok (l.map f') := by
  induction l with
  | nil => rfl
  | cons a t ih =>
    rw [List.mapM_cons, h a List.mem_cons_self, ih fun x hx => h x (List.mem_cons_of_mem a hx)]; rfl

theorem foldlM_inv_mem {α β : Type} (f : β → α → Outcome β) (P : β → Prop) (l : List α) (b : β) (hb : P b)
    (hstep : ∀ a ∈ l, ∀ b, P b → ∃ b', f b a = .ok b' ∧ P b') :
    ∃ b', l.foldlM f b = .ok b' ∧ P b' := by
  induction l generalizing b with
  | nil => exact ⟨b, rfl, hb⟩
  | cons a t ih =>
    obtain ⟨b1, e, h1⟩ := hstep a List.mem_cons_self b hb
    obtain ⟨b', e', h'⟩ := ih b1 h1 fun x hx => hstep x (List.mem_cons_of_mem a hx)
    exact ⟨b', by rw [List.foldlM_cons, e]; exact e', h'⟩

end Outcome
