import Mathlib.Data.List.Chain
import Mamba.Model.IterBase
/-! Driving an iterator (`collect`, `outputs`, `extras`): one induction over the values a state still owes
(`collect_owed`, for every amount of fuel) and its forms for search-driven and for successor-driven iterators.
`collect_remaining` is `collect_owed` for a run with more fuel than values owed, which then collects all of them and
stops exhausted: the form the enumeration theorems use. -/
namespace Iter
variable {σ α : Type}

theorem extras_dead (it : It σ α) (dead : σ → Prop)
    (hdead : ∀ s, dead s → ∃ s', it.next s = .ok (s', false) ∧ dead s') :
    ∀ k s, dead s → extras it k s = .ok (List.replicate k none) := by
  intro k
  induction k with
  | zero => intro s _; rfl
  | succ k ih =>
    intro s hs
    obtain ⟨s', h1, h2⟩ := hdead s hs
    simp [extras, h1, ih s' h2, List.replicate_succ]

/-- `Inv s rem`: from `s` the iterator still owes exactly `rem` (`Next` hands out the head of a non-empty `rem`, `Value`
shows it, and on `[]` `Next` reports exhaustion). A run with ANY amount of fuel collects the first `fuel` values owed; it
stops by exhaustion when the fuel exceeds what is owed, at the cap otherwise. -/
theorem collect_owed (it : It σ α) (Inv : σ → List α → Prop) (dead : σ → Prop)
    (hstop : ∀ s, Inv s [] → ∃ s', it.next s = .ok (s', false) ∧ dead s')
    (hstep : ∀ s x l, Inv s (x :: l) →
      ∃ s1 s2, it.next s = .ok (s1, true) ∧ it.value s1 = .ok (s2, x) ∧ Inv s2 l) :
    ∀ (fuel : Nat) (l : List α) (s : σ) (acc : List α), Inv s l →
      ∃ s', collect it fuel s acc =
          ((l.take fuel).reverse ++ acc, s', if l.length < fuel then .exhausted else .cap) ∧
        (l.length < fuel → dead s') := by
  intro fuel
  induction fuel with
  | zero => intro l s acc _; exact ⟨s, by simp [collect], by simp⟩
  | succ k ih =>
    intro l s acc hP
    cases l with
    | nil =>
      obtain ⟨s', h1, h2⟩ := hstop s hP
      exact ⟨s', by simp [collect, h1], fun _ => h2⟩
    | cons x l =>
      obtain ⟨s1, s2, h1, h2, h3⟩ := hstep s x l hP
      obtain ⟨s', h4, h5⟩ := ih l s2 (x :: acc) h3
      exact ⟨s', by simp [collect, h1, h2, h4], fun h => h5 (by simpa using h)⟩

theorem collect_remaining (it : It σ α) (Inv : σ → List α → Prop) (dead : σ → Prop)
    (hstop : ∀ s, Inv s [] → ∃ s', it.next s = .ok (s', false) ∧ dead s')
    (hstep : ∀ s x l, Inv s (x :: l) →
      ∃ s1 s2, it.next s = .ok (s1, true) ∧ it.value s1 = .ok (s2, x) ∧ Inv s2 l) :
    ∀ (l : List α) (s : σ) (acc : List α) (fuel : Nat), Inv s l → l.length < fuel →
      ∃ s', collect it fuel s acc = (l.reverse ++ acc, s', .exhausted) ∧ dead s' := by
  intro l s acc fuel h hf
  obtain ⟨s', h1, h2⟩ := collect_owed it Inv dead hstop hstep fuel l s acc h
  rw [if_pos hf, List.take_of_length_le (by omega)] at h1
  exact ⟨s', h1, h2 hf⟩

theorem enumerates_of_remaining (it : It σ α) (Inv : σ → List α → Prop)
    (hstop : ∀ s, Inv s [] → ∃ s', it.next s = .ok (s', false) ∧ Inv s' [])
    (hstep : ∀ s x l, Inv s (x :: l) →
      ∃ s1 s2, it.next s = .ok (s1, true) ∧ it.value s1 = .ok (s2, x) ∧ Inv s2 l)
    (s0 : σ) (L : List α) (h0 : Inv s0 L) (bound : Nat) (hb : L.length < bound) :
    ∃ s', outputs it bound s0 = (L, s', .exhausted) ∧
      ∀ k, extras it k s' = .ok (List.replicate k none) := by
  obtain ⟨s', h1, h2⟩ := collect_remaining it Inv (Inv · []) hstop hstep L s0 [] bound h0 hb
  exact ⟨s', by simp [outputs, h1], fun k => extras_dead it (Inv · []) hstop k s' h2⟩

theorem enumerates_of_remaining_pure (it : It σ α) (Inv : σ → List α → Prop) (v : σ → α)
    (hval : ∀ s, it.value s = .ok (s, v s))
    (hnext : ∀ s rem, Inv s rem → ∃ s', it.next s = .ok (s', !rem.isEmpty) ∧ (∀ x ∈ rem.head?, v s' = x) ∧
      Inv s' rem.tail)
    (s0 : σ) (L : List α) (h0 : Inv s0 L) (bound : Nat) (hb : L.length < bound) :
    ∃ s', outputs it bound s0 = (L, s', .exhausted) ∧
      ∀ k, extras it k s' = .ok (List.replicate k none) := by
  refine enumerates_of_remaining it Inv ?_ ?_ s0 L h0 bound hb
  · intro s h
    obtain ⟨s', h1, -, h2⟩ := hnext s [] h
    exact ⟨s', h1, h2⟩
  · intro s x l h
    obtain ⟨s', h1, h2, h3⟩ := hnext s (x :: l) h
    exact ⟨s', s', h1, by rw [hval, h2 x rfl], h3⟩

/-- The initial state owes `L.map f`, a state standing for `x` owes `rem.map f` when `x :: rem` is a suffix of `L`: so
every obligation is about members of `L` only, and `rep` need not say that `x` is one. -/
theorem enumerates_succ {β : Type} (it : It σ β) (f : α → β) (rep : σ → α → Prop) (dead : σ → Prop)
    (R : α → α → Prop) (s0 : σ) (L : List α)
    (hchain : L.IsChain R)
    (hvalue : ∀ s, ∀ x ∈ L, rep s x → ∃ s', it.value s = .ok (s', f x) ∧ rep s' x)
    (hempty : L = [] → ∃ s', it.next s0 = .ok (s', false) ∧ dead s')
    (hfirst : ∀ x ∈ L.head?, ∃ s', it.next s0 = .ok (s', true) ∧ rep s' x)
    (hstep : ∀ x ∈ L, ∀ y ∈ L, R x y → ∀ s, rep s x → ∃ s', it.next s = .ok (s', true) ∧ rep s' y)
    (hlast : ∀ x ∈ L.getLast?, ∀ s, rep s x → ∃ s', it.next s = .ok (s', false) ∧ dead s')
    (hdead : ∀ s, dead s → ∃ s', it.next s = .ok (s', false) ∧ dead s') :
    ∀ bound, L.length < bound →
      ∃ s', outputs it bound s0 = (L.map f, s', .exhausted) ∧ dead s' ∧
        ∀ k, extras it k s' = .ok (List.replicate k none) := by
  intro bound hb
  have key : ∃ s', collect it bound s0 [] = ((L.map f).reverse ++ [], s', .exhausted) ∧ dead s' := by
    refine collect_remaining it
      (fun s rem => (s = s0 ∧ rem = L.map f) ∨ ∃ x l, rem = l.map f ∧ rep s x ∧ (x :: l) <:+ L)
      dead ?_ ?_ (L.map f) s0 [] bound (Or.inl ⟨rfl, rfl⟩) (by simpa using hb)
    · rintro s (⟨rfl, h⟩ | ⟨x, l, h, hr, t, rfl⟩)
      · exact hempty (List.map_eq_nil_iff.mp h.symm)
      · obtain rfl := List.map_eq_nil_iff.mp h.symm
        exact hlast x (by simp) s hr
    · rintro s v rest (⟨rfl, h⟩ | ⟨x, l, h, hr, hsuf⟩)
      · obtain ⟨y, l, rfl, rfl, rfl⟩ := List.map_eq_cons_iff.mp h.symm
        obtain ⟨s1, h1, r1⟩ := hfirst y rfl
        obtain ⟨s2, h2, r2⟩ := hvalue s1 y (by simp) r1
        exact ⟨s1, s2, h1, h2, Or.inr ⟨y, l, rfl, r2, List.suffix_refl _⟩⟩
      · obtain ⟨y, l, rfl, rfl, rfl⟩ := List.map_eq_cons_iff.mp h.symm
        have hy : (y :: l) <:+ L := (List.suffix_cons x _).trans hsuf
        obtain ⟨s1, h1, r1⟩ := hstep x (hsuf.subset (by simp)) y (hy.subset (by simp))
          (List.isChain_cons_cons.mp (hchain.suffix hsuf)).1 s hr
        obtain ⟨s2, h2, r2⟩ := hvalue s1 y (hy.subset (by simp)) r1
        exact ⟨s1, s2, h1, h2, Or.inr ⟨y, l, rfl, r2, hy⟩⟩
  obtain ⟨s', h1, h2⟩ := key
  exact ⟨s', by simp [outputs, h1], h2, fun k => extras_dead it dead hdead k s' h2⟩

theorem enumerates_aux (it : It σ α) (rep : σ → α → Prop) (dead : σ → Prop) (R : α → α → Prop)
    (s0 : σ) (L : List α)
    (hchain : L.IsChain R)
    (hvalue : ∀ s x, rep s x → ∃ s', it.value s = .ok (s', x) ∧ rep s' x)
    (hempty : L = [] → ∃ s', it.next s0 = .ok (s', false) ∧ dead s')
    (hfirst : ∀ x ∈ L.head?, ∃ s', it.next s0 = .ok (s', true) ∧ rep s' x)
    (hstep : ∀ x y, R x y → ∀ s, rep s x → ∃ s', it.next s = .ok (s', true) ∧ rep s' y)
    (hlast : ∀ x ∈ L.getLast?, ∀ s, rep s x → ∃ s', it.next s = .ok (s', false) ∧ dead s')
    (hdead : ∀ s, dead s → ∃ s', it.next s = .ok (s', false) ∧ dead s') :
    ∀ bound, L.length < bound →
      ∃ s', outputs it bound s0 = (L, s', .exhausted) ∧ dead s' ∧
        ∀ k, extras it k s' = .ok (List.replicate k none) := by
  have h := enumerates_succ it id rep dead R s0 L hchain (fun s x _ => hvalue s x) hempty hfirst
    (fun x _ y _ => hstep x y) hlast hdead
  rwa [List.map_id] at h

end Iter
