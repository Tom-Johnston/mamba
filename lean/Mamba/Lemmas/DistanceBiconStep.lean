import Mamba.Model.Bicon
import Mamba.Lemmas.DistanceModel
/-!
# One iteration of the `for len(toCheck) > 0` loop of the `BiconnectedComponents` model

An iteration scans the neighbours of the top `v` of the stack; the scan emits the block of every child of `v` that
closes one (`emitSt`) and stops at the first unvisited neighbour (`descendSt`, the `continue DFS`), or runs to the
end, after which `v` is popped and the partial blocks of its children are merged (`popSt`). `bicScan_cons` is the
one equation of the scan the proofs use; `bicStep_cases` reads off a successful iteration which of the two ends it
took, for any predicate that the moves of the scan keep.
`dI`, `lo`, `pa` read `depths[x]` (`-1`: unvisited), `lowpoints[x]`, `parents[x]`, with a default outside the arrays;
`bvis`: visited.
-/
namespace GDist
open GraphSpec Model

/-- the part of an iteration after the neighbour loop finished: `lowpoints[v] = tmpLowPoint`, pop, merge, append -/
def bicPop (v : Nat) (restStack : List Nat) (st' : BicSt) (tmpLow : Int) : Outcome BicSt :=
  if hv' : v < st'.low.size then
    let st1 := { st' with low := st'.low.set v tmpLow, toCheck := restStack }
    if hdv : v < st1.depths.size then
      let merged : Outcome (List (List Nat)) :=
        if v ≠ 0 then
          match st1.bicoms.getLast? with
          | none => .panic
          | some cur => bicMerge st1.depths st1.depths[v] st1.bicoms.dropLast.reverse cur
        else .ok st1.bicoms
      match merged with
      | .ok bs =>
        match bs.getLast? with
        | none => .panic
        | some cur => .ok { st1 with bicoms := setLast bs (cur ++ [v]) }
      | .panic => .panic
      | .outOfFuel => .outOfFuel
    else .panic
  else .panic

/-- one iteration: `none` when the stack is empty -/
def bicStep (h : G) (com : List Nat) (st : BicSt) : Outcome (Option BicSt) :=
  match st.toCheck with
  | [] => .ok none
  | v :: restStack =>
    if hv : v < st.low.size then
      match bicScan com h.n v (h.nbrs v) st st.low[v] with
      | .ok (.descend st') => .ok (some st')
      | .ok (.done st' tmpLow) =>
        match bicPop v restStack st' tmpLow with
        | .ok s => .ok (some s)
        | .panic => .panic
        | .outOfFuel => .outOfFuel
      | .panic => .panic
      | .outOfFuel => .outOfFuel
    else .panic

theorem bicLoop_succ (h : G) (com : List Nat) (f : Nat) (st : BicSt) :
    bicLoop h com (f + 1) st =
      match bicStep h com st with
      | .ok none => .ok st
      | .ok (some s) => bicLoop h com f s
      | .panic => .panic
      | .outOfFuel => .outOfFuel := by
  unfold bicStep
  rw [bicLoop]
  cases st.toCheck with
  | nil => rfl
  | cons v rest =>
    dsimp only
    by_cases hv : v < st.low.size
    · rw [dif_pos hv, dif_pos hv]
      generalize bicScan com h.n v (h.nbrs v) st st.low[v] = r
      cases r with
      | panic => rfl
      | outOfFuel => rfl
      | ok res =>
        cases res with
        | descend st' => rfl
        | done st' t =>
          dsimp only [bicPop]
          by_cases hv' : v < st'.low.size
          · rw [dif_pos hv', dif_pos hv']
            by_cases hdv : v < st'.depths.size
            · rw [dif_pos hdv, dif_pos hdv]
              generalize (if v ≠ 0 then _ else _ : Outcome (List (List Nat))) = m
              cases m with
              | panic => rfl
              | outOfFuel => rfl
              | ok bs =>
                dsimp only
                cases bs.getLast? with
                | none => rfl
                | some c2 => rfl
            · rw [dif_neg hdv, dif_neg hdv]
          · rw [dif_neg hv', dif_neg hv']
    · rw [dif_neg hv, dif_neg hv]

theorem bicLoop_invariant (h : G) (com : List Nat) (I : BicSt → Prop)
    (hstep : ∀ st s, I st → bicStep h com st = .ok (some s) → I s) :
    ∀ (fuel : Nat) (st st' : BicSt), I st → bicLoop h com fuel st = .ok st' → I st' ∧ st'.toCheck = [] := by
  intro fuel
  induction fuel with
  | zero => intro st st' _ hres; simp [bicLoop] at hres
  | succ f ih =>
    intro st st' hI hres
    rw [bicLoop_succ] at hres
    cases hs : bicStep h com st with
    | panic => rw [hs] at hres; simp at hres
    | outOfFuel => rw [hs] at hres; simp at hres
    | ok o =>
      rw [hs] at hres
      cases o with
      | none =>
        simp only at hres
        cases hres
        refine ⟨hI, ?_⟩
        unfold bicStep at hs
        cases hT : st.toCheck with
        | nil => rfl
        | cons v rest =>
          rw [hT] at hs
          simp only at hs
          split at hs
          · split at hs <;> try simp at hs
            split at hs <;> simp at hs
          · simp at hs
      | some s =>
        simp only at hres
        exact ih s st' (hstep st s hI hs) hres

/-- what keeps an iteration from panicking: the four arrays have size `n`, the vertices on the stack are in range with
their depth set, `bicoms` is non-empty and all its partial blocks except the current (last) one are non-empty (the merge
loop reads their last vertex), their vertices are in range; the emitted blocks are sorted -/
structure BOk (n : Nat) (st : BicSt) : Prop where
  dsz : st.depths.size = n
  lsz : st.low.size = n
  psz : st.parents.size = n
  asz : st.isArt.size = n
  stk : ∀ x ∈ st.toCheck, ∃ h : x < st.depths.size, 0 ≤ st.depths[x]
  bne : st.bicoms ≠ []
  bpre : ∀ b ∈ st.bicoms.dropLast, b ≠ []
  belem : ∀ b ∈ st.bicoms, ∀ x ∈ b, x < n
  osorted : ∀ b ∈ st.out, b.Pairwise (fun a b => decide (a ≤ b) = true)

theorem getLast?_isSome_of_ne_nil {α : Type} {l : List α} (h : l ≠ []) : ∃ x, l.getLast? = some x :=
  ⟨_, List.getLast?_eq_some_getLast h⟩

theorem bicoms_split {α : Type} {l : List α} {cur : α} (hcur : l.getLast? = some cur) :
    l = l.dropLast ++ [cur] := by
  have hne : l ≠ [] := by
    intro h0; subst h0; cases hcur
  conv_lhs => rw [← List.dropLast_append_getLast hne]
  congr 2
  rw [List.getLast?_eq_some_getLast hne] at hcur
  cases hcur; rfl

theorem setLast_ne_nil {α : Type} (l : List α) (x : α) : setLast l x ≠ [] := by simp [setLast]
theorem setLast_dropLast {α : Type} (l : List α) (x : α) : (setLast l x).dropLast = l.dropLast := by
  simp [setLast]
theorem mem_setLast {α : Type} {l : List α} {x y : α} (h : y ∈ setLast l x) : y ∈ l.dropLast ∨ y = x := by
  simpa [setLast] using h

/-! `depths[x]` (`-1` = unvisited), `lowpoints[x]`, `parents[x]` with a default outside the arrays; `bvis`: visited -/

def dI (st : BicSt) (x : Nat) : Int := st.depths.getD x (-1)
def lo (st : BicSt) (x : Nat) : Int := st.low.getD x 0
def pa (st : BicSt) (x : Nat) : Int := st.parents.getD x 0
def bvis (st : BicSt) (x : Nat) : Prop := dI st x ≠ -1

def minI (a t : Int) : Int := if a < t then a else t

/-- the state after `continue DFS` to the unvisited neighbour `u` of `v` -/
def descendSt (st : BicSt) (v u : Nat) (cur : List Nat) : BicSt :=
  { st with
    childCount := if v = 0 then st.childCount + 1 else st.childCount
    toCheck := u :: st.toCheck
    depths := st.depths.setIfInBounds u (dI st v + 1)
    low := st.low.setIfInBounds u (dI st v + 1)
    parents := st.parents.setIfInBounds u (v : Int)
    bicoms := if cur.length > 0 then st.bicoms ++ [[]] else st.bicoms }

/-- the state after emitting the block closed by the child `u` of `v` -/
def emitSt (com : List Nat) (st : BicSt) (v u : Nat) (cur : List Nat) : BicSt :=
  { st with
    parents := st.parents.setIfInBounds u (-1)
    out := st.out ++ [sortInts ((cur ++ [v]).map fun x => com.getD x 0)]
    bicoms := setLast st.bicoms []
    isArt := st.isArt.setIfInBounds v true }

/-- the state after popping `v` (`bs` = partial blocks after the merge loop, `cur2` its last element) -/
def popSt (st' : BicSt) (v : Nat) (rest : List Nat) (t : Int) (bs : List (List Nat)) (cur2 : List Nat) : BicSt :=
  { toCheck := rest, depths := st'.depths, low := st'.low.setIfInBounds v t, parents := st'.parents,
    isArt := st'.isArt, childCount := st'.childCount, bicoms := setLast bs (cur2 ++ [v]), out := st'.out }

theorem dI_descendSt {st : BicSt} {v u : Nat} {cur : List Nat} (hu : u < st.depths.size) (x : Nat) :
    dI (descendSt st v u cur) x = if x = u then dI st v + 1 else dI st x := by
  unfold dI descendSt; simp only; exact getD_setIfInBounds hu _ _ _

theorem lo_descendSt {st : BicSt} {v u : Nat} {cur : List Nat} (hu : u < st.low.size) (x : Nat) :
    lo (descendSt st v u cur) x = if x = u then dI st v + 1 else lo st x := by
  unfold lo descendSt; simp only; exact getD_setIfInBounds hu _ _ _

theorem pa_descendSt {st : BicSt} {v u : Nat} {cur : List Nat} (hu : u < st.parents.size) (x : Nat) :
    pa (descendSt st v u cur) x = if x = u then (v : Int) else pa st x := by
  unfold pa descendSt; simp only; exact getD_setIfInBounds hu _ _ _

theorem bvis_descendSt {st : BicSt} {v u : Nat} {cur : List Nat} (hu : u < st.depths.size) (hvpos : 0 ≤ dI st v)
    (x : Nat) : bvis (descendSt st v u cur) x ↔ (x = u ∨ bvis st x) := by
  unfold bvis
  rw [dI_descendSt hu]
  by_cases hxu : x = u
  · simp only [hxu, if_true, true_or, iff_true]; omega
  · simp only [hxu, if_false, false_or]

theorem dI_emitSt (com : List Nat) (st : BicSt) (v u : Nat) (cur : List Nat) (x : Nat) :
    dI (emitSt com st v u cur) x = dI st x := rfl
theorem lo_emitSt (com : List Nat) (st : BicSt) (v u : Nat) (cur : List Nat) (x : Nat) :
    lo (emitSt com st v u cur) x = lo st x := rfl
theorem pa_emitSt (com : List Nat) {st : BicSt} {v u : Nat} {cur : List Nat} (hu : u < st.parents.size) (x : Nat) :
    pa (emitSt com st v u cur) x = if x = u then -1 else pa st x := by
  unfold pa emitSt; simp only; exact getD_setIfInBounds hu _ _ _

theorem dI_popSt (st : BicSt) (v : Nat) (rest : List Nat) (t : Int) (bs : List (List Nat)) (c : List Nat) (x : Nat) :
    dI (popSt st v rest t bs c) x = dI st x := rfl
theorem pa_popSt (st : BicSt) (v : Nat) (rest : List Nat) (t : Int) (bs : List (List Nat)) (c : List Nat) (x : Nat) :
    pa (popSt st v rest t bs c) x = pa st x := rfl
theorem lo_popSt {st : BicSt} {v : Nat} (rest : List Nat) (t : Int) (bs : List (List Nat)) (c : List Nat)
    (hv : v < st.low.size) (x : Nat) :
    lo (popSt st v rest t bs c) x = if x = v then t else lo st x := by
  unfold lo popSt; simp only; exact getD_setIfInBounds hv _ _ _

variable {n : Nat} {st : BicSt}

theorem dI_of_lt {x : Nat} (hx : x < st.depths.size) : st.depths[x] = dI st x := by
  simp [dI, Array.getD, hx]

theorem BOk.dI_eq (ok : BOk n st) {x : Nat} (hx : x < n) : st.depths[x]'(by rw [ok.dsz]; exact hx) = dI st x :=
  dI_of_lt _
theorem BOk.lo_eq (ok : BOk n st) {x : Nat} (hx : x < n) : st.low[x]'(by rw [ok.lsz]; exact hx) = lo st x := by
  simp [lo, Array.getD, ok.lsz, hx]
theorem BOk.pa_eq (ok : BOk n st) {x : Nat} (hx : x < n) : st.parents[x]'(by rw [ok.psz]; exact hx) = pa st x := by
  simp [pa, Array.getD, ok.psz, hx]

theorem BOk.dI_descendSt (ok : BOk n st) {v u : Nat} {cur : List Nat} (hu : u < n) (x : Nat) :
    dI (descendSt st v u cur) x = if x = u then dI st v + 1 else dI st x :=
  GDist.dI_descendSt (by rw [ok.dsz]; exact hu) x
theorem BOk.lo_descendSt (ok : BOk n st) {v u : Nat} {cur : List Nat} (hu : u < n) (x : Nat) :
    lo (descendSt st v u cur) x = if x = u then dI st v + 1 else lo st x :=
  GDist.lo_descendSt (by rw [ok.lsz]; exact hu) x
theorem BOk.pa_descendSt (ok : BOk n st) {v u : Nat} {cur : List Nat} (hu : u < n) (x : Nat) :
    pa (descendSt st v u cur) x = if x = u then (v : Int) else pa st x :=
  GDist.pa_descendSt (by rw [ok.psz]; exact hu) x
theorem BOk.pa_emitSt (ok : BOk n st) (com : List Nat) {v u : Nat} {cur : List Nat} (hu : u < n) (x : Nat) :
    pa (emitSt com st v u cur) x = if x = u then -1 else pa st x :=
  GDist.pa_emitSt com (by rw [ok.psz]; exact hu) x
theorem BOk.lo_popSt (ok : BOk n st) {v : Nat} (rest : List Nat) (t : Int) (bs : List (List Nat)) (c : List Nat)
    (hv : v < n) (x : Nat) : lo (popSt st v rest t bs c) x = if x = v then t else lo st x :=
  GDist.lo_popSt rest t bs c (by rw [ok.lsz]; exact hv) x

theorem BOk.stk_dI (ok : BOk n st) {x : Nat} (hx : x ∈ st.toCheck) : x < n ∧ 0 ≤ dI st x := by
  obtain ⟨h1, h2⟩ := ok.stk x hx
  exact ⟨by rw [← ok.dsz]; exact h1, by rw [← dI_of_lt h1]; exact h2⟩

theorem scan_prog_tail {h : G} {v u : Nat} {us : List Nat}
    (hprog : ∀ w, h.adj v w = true → w < h.n → w ∈ u :: us ∨ bvis st w) (huv : bvis st u) :
    ∀ w, h.adj v w = true → w < h.n → w ∈ us ∨ bvis st w := by
  intro w hw hwn
  rcases hprog w hw hwn with h0 | h0
  · rcases List.mem_cons.1 h0 with h1 | h1
    · exact .inr (h1 ▸ huv)
    · exact .inl h1
  · exact .inr h0

theorem bicScan_cons (com : List Nat) {v u : Nat} (us : List Nat) {cur : List Nat} (t : Int)
    (ok : BOk n st) (hv : v < n) (hu : u < n) (hcur : st.bicoms.getLast? = some cur) :
    bicScan com n v (u :: us) st t =
      if dI st u = -1 then .ok (.descend (descendSt st v u cur))
      else if (u : Int) = pa st v then bicScan com n v us st t
      else if v ≠ 0 ∧ pa st u = (v : Int) ∧ lo st u ≥ dI st v then
        bicScan com n v us (emitSt com st v u cur) (minI (lo st u) t)
      else bicScan com n v us st (minI (lo st u) t) := by
  have huD : u < st.depths.size := by rw [ok.dsz]; exact hu
  have hvD : v < st.depths.size := by rw [ok.dsz]; exact hv
  have huL : u < st.low.size := by rw [ok.lsz]; exact hu
  have huP : u < st.parents.size := by rw [ok.psz]; exact hu
  have hvP : v < st.parents.size := by rw [ok.psz]; exact hv
  have hvA : v < st.isArt.size := by rw [ok.asz]; exact hv
  rw [bicScan]
  simp only [huD, hvD, huL, huP, hvP, hvA, dif_pos, hcur, ok.dI_eq hu, ok.dI_eq hv, ok.lo_eq hu, ok.pa_eq hu,
    ok.pa_eq hv, set_eq_setIfInBounds, ne_eq, ite_not]
  rfl

theorem stk_of_dI {x : Nat} (hx : x < st.depths.size) (h : 0 ≤ dI st x) :
    ∃ h : x < st.depths.size, 0 ≤ st.depths[x] :=
  ⟨hx, by rw [dI_of_lt hx]; exact h⟩

theorem bok_descend {v u : Nat} {cur : List Nat} (ok : BOk n st) (hu : u < n)
    (hcur : st.bicoms.getLast? = some cur) (hvpos : 0 ≤ dI st v) : BOk n (descendSt st v u cur) := by
  have huD : u < st.depths.size := by rw [ok.dsz]; exact hu
  have hsz : (descendSt st v u cur).depths.size = n := by simp [descendSt, ok.dsz]
  refine { dsz := hsz, lsz := by simp [descendSt, ok.lsz], psz := by simp [descendSt, ok.psz], asz := ok.asz,
           stk := ?_, bne := ?_, bpre := ?_, belem := ?_, osorted := ok.osorted }
  · intro x hx
    have hx' : x = u ∨ x ∈ st.toCheck := List.mem_cons.1 hx
    have hxn : x < n := hx'.elim (fun h => h ▸ hu) (fun h => (ok.stk_dI h).1)
    refine stk_of_dI (by rw [hsz]; exact hxn) ?_
    rw [dI_descendSt huD]
    split
    · omega
    · exact (ok.stk_dI (hx'.resolve_left ‹_›)).2
  · show (if cur.length > 0 then st.bicoms ++ [[]] else st.bicoms) ≠ []
    split
    · simp
    · exact ok.bne
  · intro b hb
    have hb' : b ∈ (if cur.length > 0 then st.bicoms ++ [[]] else st.bicoms).dropLast := hb
    by_cases hlen : cur.length > 0
    · simp only [hlen, if_true, List.dropLast_concat] at hb'
      rw [bicoms_split hcur, List.mem_append, List.mem_singleton] at hb'
      rcases hb' with h0 | h0
      · exact ok.bpre b h0
      · subst h0; exact List.ne_nil_of_length_pos hlen
    · simp only [hlen, if_false] at hb'
      exact ok.bpre b hb'
  · intro b hb x hx
    have hb' : b ∈ (if cur.length > 0 then st.bicoms ++ [[]] else st.bicoms) := hb
    split at hb'
    · rcases List.mem_append.1 hb' with hb' | hb'
      · exact ok.belem b hb' x hx
      · simp at hb'; subst hb'; cases hx
    · exact ok.belem b hb' x hx

theorem bok_emit (com : List Nat) {v u : Nat} {cur : List Nat} (ok : BOk n st) :
    BOk n (emitSt com st v u cur) :=
  { dsz := ok.dsz, lsz := ok.lsz, psz := by simp [emitSt, ok.psz], asz := by simp [emitSt, ok.asz],
    stk := ok.stk, bne := setLast_ne_nil _ _,
    bpre := fun b hb => ok.bpre b (by
      have : b ∈ (setLast st.bicoms []).dropLast := hb
      rw [setLast_dropLast] at this; exact this),
    belem := fun b hb x hx => (by
      have hb' : b ∈ setLast st.bicoms [] := hb
      rcases mem_setLast hb' with h0 | h0
      · exact ok.belem b ((List.dropLast_sublist _).subset h0) x hx
      · subst h0; cases hx),
    osorted := fun b hb => (by
      have hb' : b ∈ st.out ++ [sortInts ((cur ++ [v]).map fun x => com.getD x 0)] := hb
      rcases List.mem_append.1 hb' with h0 | h0
      · exact ok.osorted b h0
      · simp at h0; subst h0; exact sortInts_sorted _) }

theorem bok_pop {v : Nat} {rest : List Nat} {t : Int} {bs : List (List Nat)} {c2 : List Nat}
    (ok : BOk n st) (hv : v < n) (hstk : st.toCheck = v :: rest) (hc2 : bs.getLast? = some c2)
    (hbs2 : ∀ b ∈ bs.dropLast, b ≠ []) (hbs3 : ∀ b ∈ bs, ∀ x ∈ b, x < n) :
    BOk n (popSt st v rest t bs c2) := by
  refine { dsz := ok.dsz, lsz := by simp [popSt, ok.lsz], psz := ok.psz, asz := ok.asz, stk := ?_,
           bne := setLast_ne_nil _ _, bpre := ?_, belem := ?_, osorted := ok.osorted }
  · intro x hx
    exact ok.stk x (by rw [hstk]; exact List.mem_cons_of_mem _ hx)
  · intro b hb
    have hb' : b ∈ (setLast bs (c2 ++ [v])).dropLast := hb
    rw [setLast_dropLast] at hb'
    exact hbs2 b hb'
  · intro b hb x hx
    have hb' : b ∈ setLast bs (c2 ++ [v]) := hb
    rcases mem_setLast hb' with h0 | h0
    · exact hbs3 b ((List.dropLast_sublist _).subset h0) x hx
    · subst h0
      rcases List.mem_append.1 hx with hx' | hx'
      · exact hbs3 c2 (List.mem_of_getLast? hc2) x hx'
      · simp at hx'; subst hx'; exact hv

theorem bicMerge_eq (depths : Array Int) (dv : Int) (hd : depths.size = n) :
    ∀ (preRev : List (List Nat)) (cur : List Nat), (∀ b ∈ preRev, b ≠ [] ∧ ∀ x ∈ b, x < n) →
      ∃ taken kept, preRev = taken ++ kept ∧
        bicMerge depths dv preRev cur = .ok (kept.reverse ++ [cur ++ taken.flatten]) ∧
        (∀ b ∈ taken, ∃ x, b.getLast? = some x ∧ depths.getD x (-1) = dv + 1) ∧
        (∀ b x, kept.head? = some b → b.getLast? = some x → depths.getD x (-1) ≠ dv + 1) := by
  intro preRev
  induction preRev with
  | nil =>
    intro cur _
    exact ⟨[], [], rfl, by simp [bicMerge], fun b hb => (by cases hb), fun b x hb => (by cases hb)⟩
  | cons b preRev ih =>
    intro cur hpre
    obtain ⟨hbne, hbel⟩ := hpre b List.mem_cons_self
    obtain ⟨x, hx⟩ := getLast?_isSome_of_ne_nil hbne
    have hxn : x < depths.size := by rw [hd]; exact hbel x (List.mem_of_getLast? hx)
    have hgd : depths.getD x (-1) = depths[x] := by simp [Array.getD, hxn]
    rw [bicMerge]
    simp only [hx, hxn, dif_pos]
    by_cases hdx : depths[x] = dv + 1
    · rw [if_pos hdx]
      obtain ⟨taken, kept, e1, e2, h3, h4⟩ := ih (cur ++ b) (fun b' hb' => hpre b' (List.mem_cons_of_mem _ hb'))
      refine ⟨b :: taken, kept, by rw [e1]; rfl, ?_, ?_, h4⟩
      · rw [e2, List.flatten_cons, List.append_assoc]
      · intro b' hb'
        rcases List.mem_cons.1 hb' with rfl | hb'
        · exact ⟨x, hx, by rw [hgd, hdx]⟩
        · exact h3 b' hb'
    · rw [if_neg hdx]
      refine ⟨[], b :: preRev, rfl, by rw [List.flatten_nil, List.append_nil], fun b hb => (by cases hb), ?_⟩
      intro b' x' hb' hx'
      cases hb'
      rw [hx] at hx'
      cases hx'
      rw [hgd]; exact hdx

/-- `bs` (with last element `c2`) is what the merge loop makes of `st.bicoms` when `v` is popped: nothing for the root; for a
non-root `v` the partial blocks `taken` of the children of `v` (the maximal run before the current block `cur` whose last
vertex is one level below `v`) are appended to `cur` -/
structure Merged (n : Nat) (st : BicSt) (v : Nat) (bs : List (List Nat)) (c2 : List Nat) : Prop where
  last : bs.getLast? = some c2
  pre : ∀ b ∈ bs.dropLast, b ≠ []
  elem : ∀ b ∈ bs, ∀ x ∈ b, x < n
  root : v = 0 → bs = st.bicoms
  run : v ≠ 0 → ∃ (cur : List Nat) (taken kept : List (List Nat)), st.bicoms = kept.reverse ++ taken.reverse ++ [cur] ∧
    bs = kept.reverse ++ [cur ++ taken.flatten] ∧
    (∀ b ∈ taken, ∃ x, b.getLast? = some x ∧ dI st x = dI st v + 1) ∧
    (∀ b x, kept.head? = some b → b.getLast? = some x → dI st x ≠ dI st v + 1)

theorem bicPop_eq {v : Nat} (rest : List Nat) (t : Int) (ok : BOk n st) (hv : v < n) :
    ∃ bs c2, bicPop v rest st t = .ok (popSt st v rest t bs c2) ∧ Merged n st v bs c2 := by
  have hvL : v < st.low.size := by rw [ok.lsz]; exact hv
  have hvD : v < st.depths.size := by rw [ok.dsz]; exact hv
  obtain ⟨cur, hcur⟩ := getLast?_isSome_of_ne_nil ok.bne
  unfold bicPop
  simp only [hvL, dif_pos, hvD, ok.dI_eq hv, set_eq_setIfInBounds]
  by_cases hv0 : v = 0
  · rw [if_neg (not_not.2 hv0)]
    simp only [hcur]
    exact ⟨st.bicoms, cur, rfl, hcur, ok.bpre, ok.belem, fun _ => rfl, fun h => absurd hv0 h⟩
  · have hpre : ∀ b ∈ st.bicoms.dropLast.reverse, b ≠ [] ∧ ∀ x ∈ b, x < n := fun b hb =>
      have hb' := List.mem_reverse.1 hb
      ⟨ok.bpre b hb', ok.belem b ((List.dropLast_sublist _).subset hb')⟩
    obtain ⟨taken, kept, e1, hm, ht, hk⟩ := bicMerge_eq st.depths (dI st v) ok.dsz _ cur hpre
    have hdl : st.bicoms.dropLast = kept.reverse ++ taken.reverse := by
      rw [← List.reverse_reverse st.bicoms.dropLast, e1, List.reverse_append]
    rw [if_pos hv0]
    simp only [hcur, hm, List.getLast?_concat]
    refine ⟨_, _, rfl, List.getLast?_concat, ?_, ?_, fun h => absurd h hv0,
      fun _ => ⟨cur, taken, kept, by rw [← hdl]; exact bicoms_split hcur, rfl, ht, hk⟩⟩
    · intro b hb
      rw [List.dropLast_concat] at hb
      exact (hpre b (by rw [e1]; exact List.mem_append.2 (.inr (List.mem_reverse.1 hb)))).1
    · intro b hb x hx
      rcases List.mem_append.1 hb with hb | hb
      · exact (hpre b (by rw [e1]; exact List.mem_append.2 (.inr (List.mem_reverse.1 hb)))).2 x hx
      · rw [List.mem_singleton.1 hb] at hx
        rcases List.mem_append.1 hx with hx | hx
        · exact ok.belem cur (List.mem_of_getLast? hcur) x hx
        · obtain ⟨b', hb', hxb'⟩ := List.mem_flatten.1 hx
          exact (hpre b' (by rw [e1]; exact List.mem_append.2 (.inl hb'))).2 x hxb'

/-- a predicate on (neighbours still to scan, state, `tmpLowPoint`) that the moves of the scan of `v` keep -/
structure ScanInv (com : List Nat) (n v : Nat) (P : List Nat → BicSt → Int → Prop) : Prop where
  bok : ∀ us st t, P us st t → BOk n st ∧ ∀ u ∈ us, u < n
  par : ∀ u us st t, P (u :: us) st t → bvis st u → (u : Int) = pa st v → P us st t
  emit : ∀ u us st t cur, P (u :: us) st t → bvis st u → (u : Int) ≠ pa st v →
    st.bicoms.getLast? = some cur → v ≠ 0 → pa st u = (v : Int) → lo st u ≥ dI st v →
    P us (emitSt com st v u cur) (minI (lo st u) t)
  keep : ∀ u us st t, P (u :: us) st t → bvis st u → (u : Int) ≠ pa st v →
    ¬ (v ≠ 0 ∧ pa st u = (v : Int) ∧ lo st u ≥ dI st v) → P us st (minI (lo st u) t)

theorem bicScan_cases {com : List Nat} {v : Nat} (hv : v < n) {P : List Nat → BicSt → Int → Prop}
    (hI : ScanInv com n v P) :
    ∀ (us : List Nat) (st : BicSt) (t : Int), P us st t → ∀ res, bicScan com n v us st t = .ok res →
      (∀ s, res = .descend s → ∃ u us2 st1 t1 cur, P (u :: us2) st1 t1 ∧ ¬ bvis st1 u ∧
          st1.bicoms.getLast? = some cur ∧ s = descendSt st1 v u cur) ∧
      (∀ s t', res = .done s t' → P [] s t') := by
  intro us
  induction us with
  | nil =>
    intro st t hP res hres
    simp only [bicScan] at hres
    cases hres
    exact ⟨fun s h0 => (by cases h0), fun s t' h0 => (by cases h0; exact hP)⟩
  | cons u us ih =>
    intro st t hP res hres
    obtain ⟨ok, hus⟩ := hI.bok _ _ _ hP
    obtain ⟨cur, hcur⟩ := getLast?_isSome_of_ne_nil ok.bne
    rw [bicScan_cons com us t ok hv (hus u List.mem_cons_self) hcur] at hres
    by_cases hunv : dI st u = -1
    · rw [if_pos hunv] at hres
      cases hres
      exact ⟨fun s h0 => (by cases h0; exact ⟨u, us, st, t, cur, hP, fun h => h hunv, hcur, rfl⟩),
        fun s t' h0 => (by cases h0)⟩
    · rw [if_neg hunv] at hres
      by_cases hpar : (u : Int) = pa st v
      · rw [if_pos hpar] at hres
        exact ih _ _ (hI.par u us st t hP hunv hpar) res hres
      · rw [if_neg hpar] at hres
        by_cases hem : v ≠ 0 ∧ pa st u = (v : Int) ∧ lo st u ≥ dI st v
        · rw [if_pos hem] at hres
          exact ih _ _ (hI.emit u us st t cur hP hunv hpar hcur hem.1 hem.2.1 hem.2.2) res hres
        · rw [if_neg hem] at hres
          exact ih _ _ (hI.keep u us st t hP hunv hpar hem) res hres

theorem bicStep_cases {h : G} {com : List Nat} {s : BicSt} {v : Nat} {rest : List Nat}
    {P : List Nat → BicSt → Int → Prop} (hI : ScanInv com h.n v P) (hT : st.toCheck = v :: rest)
    (hP0 : P (h.nbrs v) st (lo st v)) (hs : bicStep h com st = .ok (some s)) :
    (∃ u us st1 t1 cur, P (u :: us) st1 t1 ∧ ¬ bvis st1 u ∧ st1.bicoms.getLast? = some cur ∧
        s = descendSt st1 v u cur) ∨
    (∃ st1 t1 bs c2, P [] st1 t1 ∧ s = popSt st1 v rest t1 bs c2 ∧ Merged h.n st1 v bs c2) := by
  obtain ⟨ok, _⟩ := hI.bok _ _ _ hP0
  have hv : v < h.n := (ok.stk_dI (by rw [hT]; exact List.mem_cons_self)).1
  have hvL : v < st.low.size := by rw [ok.lsz]; exact hv
  unfold bicStep at hs
  rw [hT] at hs
  simp only [hvL, dif_pos, ok.lo_eq hv] at hs
  cases hscan : bicScan com h.n v (h.nbrs v) st (lo st v) with
  | panic => rw [hscan] at hs; cases hs
  | outOfFuel => rw [hscan] at hs; cases hs
  | ok res =>
    rw [hscan] at hs
    obtain ⟨hdesc, hdone⟩ := bicScan_cases hv hI _ _ _ hP0 res hscan
    cases res with
    | descend s1 =>
      simp only [Outcome.ok.injEq, Option.some.injEq] at hs
      exact .inl (hs ▸ hdesc s1 rfl)
    | done s1 t1 =>
      have hP := hdone s1 t1 rfl
      obtain ⟨bs, c2, e, hrest⟩ := bicPop_eq rest t1 (hI.bok _ _ _ hP).1 hv
      simp only [e, Outcome.ok.injEq, Option.some.injEq] at hs
      exact .inr ⟨s1, t1, bs, c2, hP, hs.symm, hrest⟩

end GDist
