import Mathlib.Data.List.Chain
/-! A list made of blocks is a chain when every block is one and consecutive blocks link up. -/
namespace Iter

theorem isChain_flatMap {α β : Type} (R : α → α → Prop) (S : β → β → Prop) (B : α → List β) :
    ∀ L : List α, L.IsChain R → (∀ a ∈ L, (B a).IsChain S) → (∀ a ∈ L, B a ≠ []) →
      (∀ a ∈ L, ∀ a' ∈ L, R a a' → ∀ x ∈ (B a).getLast?, ∀ y ∈ (B a').head?, S x y) →
      (L.flatMap B).IsChain S ∧ (L.flatMap B).head? = L.head?.bind (fun a => (B a).head?) ∧
        (L.flatMap B).getLast? = L.getLast?.bind (fun a => (B a).getLast?) := by
  intro L
  induction L with
  | nil => intro _ _ _ _; simp
  | cons a L ih =>
    intro hc hB hne hl
    have hBa := hne a (by simp)
    cases L with
    | nil => simp [hB a (by simp)]
    | cons a' L' =>
      rw [List.isChain_cons_cons] at hc
      obtain ⟨ih1, ih2, ih3⟩ := ih hc.2 (fun b hb => hB b (by simp [hb])) (fun b hb => hne b (by simp [hb]))
        (fun b hb b' hb' => hl b (by simp [hb]) b' (by simp [hb']))
      have hne' : (a' :: L').flatMap B ≠ [] := by
        intro h
        rw [List.flatMap_eq_nil_iff] at h
        exact hne a' (by simp) (h a' (by simp))
      rw [List.flatMap_cons]
      refine ⟨?_, ?_, ?_⟩
      · apply List.IsChain.append (hB a (by simp)) ih1
        intro x hx y hy
        rw [ih2] at hy
        exact hl a (by simp) a' (by simp) hc.1 x hx y (by simpa using hy)
      · rw [List.head?_append_of_ne_nil _ hBa]; simp
      · rw [List.getLast?_append_of_ne_nil _ hne', ih3]; simp [List.getLast?_cons_cons]

theorem isChain_flatMap_range {β : Type} (R : β → β → Prop) (B : Nat → List β) :
    ∀ cnt, (∀ a, a < cnt → (B a).IsChain R) → (∀ a, a < cnt → B a ≠ []) →
      (∀ a, a + 1 < cnt → ∀ x ∈ (B a).getLast?, ∀ y ∈ (B (a + 1)).head?, R x y) →
      ((List.range cnt).flatMap B).IsChain R ∧
        (0 < cnt → ((List.range cnt).flatMap B).getLast? = (B (cnt - 1)).getLast? ∧
                   ((List.range cnt).flatMap B).head? = (B 0).head?) := by
  intro cnt hB hne hl
  have hr : (List.range cnt).IsChain (fun a a' => a' = a + 1) := by
    rw [List.range_eq_range']; exact List.isChain_range' 0 cnt 1
  obtain ⟨h1, h2, h3⟩ := isChain_flatMap (fun a a' => a' = a + 1) R B (List.range cnt) hr
    (fun a ha => hB a (List.mem_range.mp ha)) (fun a ha => hne a (List.mem_range.mp ha))
    (fun a _ a' ha' e => by subst e; exact hl a (List.mem_range.mp ha'))
  refine ⟨h1, fun hc => ?_⟩
  rw [h2, h3, List.head?_range, List.getLast?_range]
  simp [Nat.ne_of_gt hc]

end Iter
