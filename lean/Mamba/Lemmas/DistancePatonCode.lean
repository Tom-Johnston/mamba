import Mamba.Model.Subgraph
import Mamba.Lemmas.TriNat
/-!
# The edge code `max(max-1)/2 + min` is injective on unordered pairs
-/
namespace GDist
open Model

def normE (e : Nat × Nat) : Nat × Nat := if e.1 < e.2 then e else (e.2, e.1)

theorem normE_eq {a b c d : Nat} (h : normE (a, b) = normE (c, d)) : (a = c ∧ b = d) ∨ (a = d ∧ b = c) := by
  unfold normE at h
  simp only at h
  by_cases h1 : a < b <;> by_cases h2 : c < d <;> simp only [h1, h2, if_true, if_false, Prod.mk.injEq] at h
  · exact .inl h
  · exact .inr h
  · exact .inr ⟨h.2, h.1⟩
  · exact .inl ⟨h.2, h.1⟩


theorem edgeCode_lt {p1 p2 : Nat} (h : p1 < p2) : edgeCode p1 p2 = p2 * (p2 - 1) / 2 + p1 := by
  simp [edgeCode, h]

theorem edgeCode_comm (x y : Nat) : edgeCode x y = edgeCode y x := by
  unfold edgeCode
  by_cases h1 : x < y
  · have : ¬ y < x := by omega
    simp [h1, this]
  · by_cases h2 : y < x
    · simp [h1, h2]
    · have : x = y := by omega
      subst this; rfl

theorem edgeCode_inj_lt {p1 p2 q1 q2 : Nat} (hp : p1 < p2) (hq : q1 < q2)
    (h : edgeCode p1 p2 = edgeCode q1 q2) : p1 = q1 ∧ p2 = q2 := by
  rw [edgeCode_lt hp, edgeCode_lt hq] at h
  exact (TriNat.inj hp hq h).symm

theorem normE_lt {e : Nat × Nat} (hne : e.1 ≠ e.2) : (normE e).1 < (normE e).2 := by
  unfold normE
  by_cases h : e.1 < e.2
  · simp [h]
  · simp only [h, if_false]; omega

theorem edgeCode_normE (e : Nat × Nat) : edgeCode (normE e).1 (normE e).2 = edgeCode e.1 e.2 := by
  unfold normE
  by_cases h : e.1 < e.2
  · simp [h]
  · simp only [h, if_false]; exact edgeCode_comm _ _

theorem edgeCode_inj {e e' : Nat × Nat} (hne : e.1 ≠ e.2) (hne' : e'.1 ≠ e'.2)
    (h : edgeCode e.1 e.2 = edgeCode e'.1 e'.2) : normE e = normE e' := by
  rw [← edgeCode_normE e, ← edgeCode_normE e'] at h
  obtain ⟨h1, h2⟩ := edgeCode_inj_lt (normE_lt hne) (normE_lt hne') h
  exact Prod.ext h1 h2

end GDist
