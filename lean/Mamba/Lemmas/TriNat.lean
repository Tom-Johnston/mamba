/-!
# The expression `j * (j - 1) / 2` and the packed index `j * (j - 1) / 2 + i` of a pair `i < j`

`GraphRep.tri`, `Search.tri`, `IR.tri`, `CanonF.tri`, `Construct.tri` and `Codec.tri` are definitions of their own with
this body, and `GDist.Model.edgeCode` writes it out. The expression is quadratic, so `omega` cannot see it: its facts are
proved here on the expression itself, from the recurrence `succ`, and each definition restates the ones it needs under
its own name in one line. The module imports nothing.
-/
namespace TriNat

theorem succ (j : Nat) : (j + 1) * (j + 1 - 1) / 2 = j * (j - 1) / 2 + j := by
  cases j with
  | zero => rfl
  | succ k =>
    simp only [Nat.add_sub_cancel]
    have h : (k + 1 + 1) * (k + 1) = (k + 1) * k + 2 * (k + 1) := by rw [Nat.mul_comm (k + 1) k, ← Nat.add_mul]
    rw [h, Nat.add_mul_div_left _ _ Nat.zero_lt_two]

theorem mono {a b : Nat} (h : a ≤ b) : a * (a - 1) / 2 ≤ b * (b - 1) / 2 :=
  Nat.div_le_div_right (Nat.mul_le_mul h (Nat.sub_le_sub_right h 1))

/-- row `j` of the packed triangle is `[j (j-1)/2, (j+1) j/2)`: rows do not overlap -/
theorem add_lt {i j n : Nat} (hij : i < j) (hjn : j < n) : j * (j - 1) / 2 + i < n * (n - 1) / 2 :=
  Nat.lt_of_lt_of_le (by rw [succ]; exact Nat.add_lt_add_left hij _) (mono (Nat.succ_le_of_lt hjn))

/-- the packed index determines the pair -/
theorem inj {i j i' j' : Nat} (hi : i < j) (hi' : i' < j') (e : j * (j - 1) / 2 + i = j' * (j' - 1) / 2 + i') :
    j = j' ∧ i = i' := by
  rcases Nat.lt_trichotomy j j' with h | h | h
  · exact absurd e (Nat.ne_of_lt (Nat.lt_of_lt_of_le (add_lt hi h) (Nat.le_add_right _ _)))
  · subst h; exact ⟨rfl, Nat.add_left_cancel e⟩
  · exact absurd e.symm (Nat.ne_of_lt (Nat.lt_of_lt_of_le (add_lt hi' h) (Nat.le_add_right _ _)))

end TriNat
