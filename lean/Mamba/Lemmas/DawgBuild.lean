import Mamba.Lemmas.DawgAdd
import Mamba.Lemmas.ListAux
/-! The builder invariant across `Add` / `Finish`, and what the property theorems use of it.

* `accStep ws w` / `accRun ws adds`: the specification of an add history: a word is stored iff it is larger than the
  last stored word (`(accStep ws w).2 = true` says "rejected"); `(accRun [] adds).1` is the list of the stored words,
  `(accRun [] adds).2` the error flags.
* `BInv b ws`: the builder `b` holds the non-empty, strictly increasing list `ws`. `root`, `notDone`: the root is pointer 0,
  `Finish` has not run; `last`: `lastWord` is the last word of `ws` (so `ws ≠ []`); `spine`: the nodes spelling the last
  word form a complete spine (`Spine … 0 sp lastWord ws [[]]`, `Lemmas/DawgInv.lean`) that starts at the root and repeats no
  node: these nodes are unregistered, all their other children are registered; `reg`: the register is sound
  (`RegOK`); `ids`: every id is the heap position; `lid`: `lastID` is the last position of the heap.
* `BState b ws`: `b` is the initial builder and `ws = []`, or `BInv b ws`. `add_spec`, `addAll_spec`: `Add` follows
  `accStep` / `accRun` on it.
* `Finished d ws`: what `Finish` leaves (`finish_spec`); `build_spec`: `build adds` returns the flags of `accRun [] adds`
  and a `Finished` automaton of its words. -/
namespace Dawg

theorem cmpBytes_eq_neg_one_iff (a b : List Nat) : cmpBytes a b = -1 ↔ a < b := by
  induction a generalizing b with
  | nil =>
    cases b with
    | nil => simp [cmpBytes]
    | cons y b => simp [cmpBytes]
  | cons x a ih =>
    cases b with
    | nil => simp [cmpBytes]
    | cons y b =>
      simp only [cmpBytes, List.cons_lt_cons_iff]
      by_cases h1 : x < y
      · simp [h1]
      · by_cases h2 : y < x
        · have : ¬ x = y := Nat.ne_of_gt h2
          simp [h1, h2, this]
        · have : x = y := Nat.le_antisymm (Nat.not_lt.1 h2) (Nat.not_lt.1 h1)
          subst this
          simp [ih]

theorem cmpBytes_range (a b : List Nat) : cmpBytes a b = -1 ∨ cmpBytes a b = 0 ∨ cmpBytes a b = 1 := by
  induction a generalizing b with
  | nil => cases b <;> simp [cmpBytes]
  | cons x a ih =>
    cases b with
    | nil => simp [cmpBytes]
    | cons y b =>
      simp only [cmpBytes]
      split
      · simp
      · split
        · simp
        · exact ih b

/-- The order check of `Add` as extracted from the Go source (`Gen.Dawg.addHasWordFrom`, `Gen.Dawg.addOrderReject`,
regenerated on every run) rejects exactly the comparison results 0 and 1 of `bytes.Compare(lastWord, new)` and applies as
soon as one word is stored. Any other spelling of the same test (`>= 0`, `numWords >= 1`, …) keeps this. -/
theorem genOrder_consistent :
    Gen.Dawg.addHasWordFrom = 1 ∧ Gen.Dawg.addOrderReject (-1) = false ∧
      Gen.Dawg.addOrderReject 0 = true ∧ Gen.Dawg.addOrderReject 1 = true := by decide

theorem orderReject_iff (a b : List Nat) : Gen.Dawg.addOrderReject (cmpBytes a b) = true ↔ ¬ a < b := by
  obtain ⟨_, h1, h2, h3⟩ := genOrder_consistent
  rw [← cmpBytes_eq_neg_one_iff]
  rcases cmpBytes_range a b with h | h | h <;> rw [h] <;> simp [h1, h2, h3]

theorem Spine.sorted {h : Heap} {R : List Nat} {k : Nat} {sp : List Nat} {v : Word} {L Le : List Word}
    (hs : Spine h R k sp v L Le) : L.Pairwise (· < ·) := by
  cases hs with
  | last hn => exact hn.sorted
  | node _ _ _ hsort => exact hsort

theorem lt_of_sorted_getLast {ws : List Word} {m w : Word} (hs : ws.Pairwise (· < ·)) (hl : ws.getLast? = some m)
    (hm : m < w) : ∀ u ∈ ws, u < w := by
  intro u hu
  obtain ⟨pre, rfl⟩ : ∃ pre, ws = pre ++ [m] := by
    have := List.getLast?_eq_some_iff.1 hl
    exact this
  rw [List.mem_append, List.mem_singleton] at hu
  rcases hu with hu | rfl
  · rw [List.pairwise_append] at hs
    exact word_lt_trans (hs.2.2 u hu m (by simp)) hm
  · exact hm

/-- the invariant of a builder that holds the non-empty, strictly increasing word list `ws` -/
structure BInv (b : Builder) (ws : List Word) : Prop where
  root : b.root = 0
  notDone : b.done = false
  last : ws.getLast? = some b.lastWord
  spine : ∃ sp, Spine b.heap b.register 0 sp b.lastWord ws [[]] ∧ sp.head? = some 0 ∧ sp.Nodup
  reg : RegOK b.heap b.register
  ids : HeapIds b.heap
  lid : b.lastID + 1 = b.heap.size

def BState (b : Builder) (ws : List Word) : Prop := (ws = [] ∧ b = Builder.init) ∨ (ws ≠ [] ∧ BInv b ws)

theorem BInv.sorted {b : Builder} {ws : List Word} (hb : BInv b ws) : ws.Pairwise (· < ·) := by
  obtain ⟨sp, hsp, _, _⟩ := hb.spine
  exact hsp.sorted

theorem Spine.headNode {h : Heap} {R : List Nat} {k p : Nat} {sp : List Nat} {v : Word} {L Le : List Word}
    (hs : Spine h R k sp v L Le) (hhead : sp.head? = some p) :
    ∃ n, h[p]? = some n ∧ n.numWords = L.length + dlt k := by
  cases hs with
  | last hn =>
    simp only [List.head?_cons, Option.some.injEq] at hhead
    subst hhead
    exact ⟨_, hn.get, hn.num⟩
  | node hn _ _ _ _ hnum =>
    simp only [List.head?_cons, Option.some.injEq] at hhead
    subst hhead
    exact ⟨_, hn, hnum⟩

theorem BInv.rootNode {b : Builder} {ws : List Word} (hb : BInv b ws) :
    ∃ rn, b.heap[0]? = some rn ∧ rn.numWords = ws.length := by
  obtain ⟨sp, hsp, hhead, _⟩ := hb.spine
  obtain ⟨n, hn, hnum⟩ := hsp.headNode hhead
  exact ⟨n, hn, by simpa [dlt] using hnum⟩

theorem add_rejected {b : Builder} {ws : List Word} (hb : BInv b ws) (w : Word)
    (hw : ¬ b.lastWord < w) : add b w = .ok ⟨b, true⟩ := by
  obtain ⟨rn, hrn, hnum⟩ := hb.rootNode
  have hpos : rn.numWords > 0 := by
    rw [hnum]; exact List.length_pos_iff.2 fun e => by have := hb.last; rw [e] at this; cases this
  have hcmp : Gen.Dawg.addOrderReject (cmpBytes b.lastWord w) = true := (orderReject_iff _ _).2 hw
  have hpos' : Gen.Dawg.addHasWordFrom ≤ rn.numWords := by rw [genOrder_consistent.1]; exact hpos
  unfold add
  rw [hb.notDone, hb.root]
  simp only [Bool.false_eq_true, if_false, getNode_of_some hrn]
  rw [if_pos ⟨hpos', hcmp⟩]

theorem add_eq_walkAdd (b : Builder) (w : Word) (rn : Node) (hdone : b.done = false) (hroot : b.heap[b.root]? = some rn)
    (hok : ¬ (Gen.Dawg.addHasWordFrom ≤ rn.numWords ∧ Gen.Dawg.addOrderReject (cmpBytes b.lastWord w) = true)) :
    add b w =
      match walkAdd b.register b.lastID (b.heap.setIfInBounds b.root { rn with numWords := rn.numWords + 1 }) b.root w with
      | .ok (h3, reg, lid) => .ok ⟨{ b with heap := h3, lastWord := w, register := reg, lastID := lid }, false⟩
      | .panic => .panic
      | .outOfFuel => .outOfFuel := by
  unfold add
  rw [hdone]
  simp only [Bool.false_eq_true, if_false, getNode_of_some hroot]
  rw [if_neg hok]
  simp only [commonPrefix, getNode_of_some hroot, walkAdd]
  cases hcp : cpWalk (b.heap.setIfInBounds b.root { rn with numWords := rn.numWords + 1 }) b.root w with
  | panic => rfl
  | outOfFuel => rfl
  | ok r =>
    obtain ⟨h1, suffix, lastNode⟩ := r
    simp only [addTail]
    cases hln : getNode h1 lastNode with
    | panic => rfl
    | outOfFuel => rfl
    | ok ln =>
      simp only
      cases hr : (if ln.links.length ≠ 0 then replaceOrRegister (h1.size + 1) h1 lastNode b.register
          else Outcome.ok (h1, b.register)) with
      | panic => rfl
      | outOfFuel => rfl
      | ok r2 =>
        obtain ⟨h2, reg2⟩ := r2
        simp only
        cases hs : addSuffix h2 lastNode suffix b.lastID with
        | panic => rfl
        | outOfFuel => rfl
        | ok r3 => rfl

theorem add_accepted {b : Builder} {ws : List Word} (hb : BInv b ws) (w : Word)
    (hw : b.lastWord < w) : ∃ b', add b w = .ok ⟨b', false⟩ ∧ BInv b' (ws ++ [w]) := by
  obtain ⟨rn, hrn, hnum⟩ := hb.rootNode
  obtain ⟨sp, hsp, hhead, hnd⟩ := hb.spine
  have hrn' : b.heap[b.root]? = some rn := by rw [hb.root]; exact hrn
  rw [add_eq_walkAdd b w rn hb.notDone hrn' (fun h => (orderReject_iff _ _).1 h.2 hw), hb.root]
  obtain ⟨sp0, rfl⟩ : ∃ sp0, sp = 0 :: sp0 := by
    cases sp with
    | nil => simp at hhead
    | cons q sp0 => simp only [List.head?_cons, Option.some.injEq] at hhead; exact ⟨sp0, by rw [hhead]⟩
  have hR0 : (0 : Nat) ∉ b.register := hb.reg.nz
  have hbump := hsp.bump hb.reg hnd hrn
  have hag : AgreeOn b.heap (b.heap.setIfInBounds 0 { rn with numWords := rn.numWords + 1 }) b.register :=
    AgreeOn.set hR0 _
  have hids' : HeapIds (b.heap.setIfInBounds 0 { rn with numWords := rn.numWords + 1 }) := hb.ids.set hrn rfl
  have hfuel : (0 :: sp0).length ≤ (b.heap.setIfInBounds 0 { rn with numWords := rn.numWords + 1 }).size := by
    rw [Array.size_setIfInBounds]
    exact hnd.length_le_of_lt fun x hx => (hsp.valid x hx).1
  obtain ⟨p, h3, R3, sp', hhead', hres, hpost⟩ :=
    addAt (0 :: sp0) b.register b.lastID _ b.lastWord w ws hbump hnd (hb.reg.frame hag) hids'
      (by rw [Array.size_setIfInBounds]; exact hb.lid) hfuel (lt_of_sorted_getLast hb.sorted hb.last hw)
  simp only [List.head?_cons, Option.some.injEq] at hhead'
  subst hhead'
  rw [hres]
  refine ⟨_, rfl, rfl, hb.notDone, by simp, ⟨sp', hpost.spine, hpost.head, hpost.nodup⟩, hpost.reg, hpost.ids, ?_⟩
  show h3.size - 1 + 1 = h3.size
  have := hpost.size
  rw [Array.size_setIfInBounds] at this
  exact Nat.sub_add_cancel (Nat.le_trans (lt_size_of_get hrn) this)

theorem RegOK.nil (h : Heap) : RegOK h [] :=
  ⟨(fun u hu => by cases hu), (fun u hu => by cases hu), (fun u hu => by cases hu), (by simp)⟩

theorem add_first (w : Word) : ∃ b', add Builder.init w = .ok ⟨b', false⟩ ∧ BInv b' [w] := by
  have hroot : Builder.init.heap[Builder.init.root]? = some Node.zero := rfl
  rw [add_eq_walkAdd Builder.init w Node.zero rfl hroot
    (fun h => by have := h.1; rw [genOrder_consistent.1] at this; simp [Node.zero] at this)]
  let n1 : Node := { Node.zero with numWords := 1 }
  let h1 : Heap := #[n1]
  have hh1 : Builder.init.heap.setIfInBounds Builder.init.root { Node.zero with numWords := Node.zero.numWords + 1 } = h1 := rfl
  rw [hh1]
  have hreg : RegOK h1 [] := RegOK.nil h1
  have hids : HeapIds h1 := by
    intro i n hn
    cases i with
    | zero => simp [h1] at hn; subst hn; rfl
    | succ i => simp [h1] at hn
  obtain ⟨h', news, hres, hsp, hsz, hfr, hnews, hnd, hids'⟩ :=
    addSuffix_spec [] w h1 0 0 [] n1
      ⟨rfl, List.not_mem_nil, List.Pairwise.nil, by simp [n1, Node.zero], rfl, List.Pairwise.nil, rfl,
        by simp [n1, Node.zero, sub_nil], by simp [n1, Node.zero]⟩
      hreg hids rfl (fun _ _ a ha => absurd ha List.not_mem_nil) (fun u hu => absurd hu List.not_mem_nil)
  have hwalk : walkAdd Builder.init.register Builder.init.lastID h1 Builder.init.root w = .ok (h', [], 0 + w.length) := by
    have hcp : cpWalk h1 0 w = .ok (h1, w, 0) := by
      cases w with
      | nil => rfl
      | cons a x => rfl
    show walkAdd [] 0 h1 0 w = _
    simp only [walkAdd, hcp, addTail]
    have : getNode h1 0 = .ok n1 := rfl
    rw [this]
    simp only [n1, Node.zero, List.length_nil, ne_eq, not_true_eq_false, if_false]
    rw [hres]
  rw [hwalk]
  refine ⟨_, rfl, rfl, rfl, by simp, ⟨0 :: news, hsp, rfl, ?_⟩, ?_, hids', ?_⟩
  · rw [List.nodup_cons]
    refine ⟨fun hmem => ?_, hnd⟩
    have := hnews 0 hmem
    simp [h1] at this
  · exact RegOK.nil h'
  · show 0 + w.length + 1 = h'.size
    rw [hsz, Nat.zero_add, Nat.add_comm]
    rfl

/-- what `Finish` returns: a correct index of `ws` whose non-root nodes are all registered -/
structure Finished (d : Dawg) (ws : List Word) : Prop where
  root0 : d.root = 0
  rep : Rep d.heap d.root ws
  reg : ∃ R n, RegOK d.heap R ∧ d.heap[d.root]? = some n ∧ (∀ q ∈ n.links, q ∈ R)
  ids : HeapIds d.heap

theorem finish_spec {b : Builder} {ws : List Word} (hb : BState b ws) :
    ∃ d, finish b = .ok (some d) ∧ Finished d ws := by
  rcases hb with ⟨rfl, rfl⟩ | ⟨hne, hb⟩
  · refine ⟨⟨Builder.init.heap, 0⟩, rfl, rfl, ?_, ⟨[], Node.zero, RegOK.nil _, rfl, by simp [Node.zero]⟩, ?_⟩
    · exact Rep.mk (n := Node.zero) rfl List.Pairwise.nil (by simp [Node.zero]) rfl List.Pairwise.nil rfl
        (by intro c; simp [Node.zero, sub_nil]) (by intro j c q hj; simp [Node.zero] at hj)
    · intro i n hn
      cases i with
      | zero => simp [Builder.init] at hn; subst hn; rfl
      | succ i => simp [Builder.init] at hn
  · obtain ⟨sp, hsp, hhead, hnd⟩ := hb.spine
    obtain ⟨sp0, rfl⟩ : ∃ sp0, sp = 0 :: sp0 := by
      cases sp with
      | nil => cases hhead
      | cons q sp0 => cases hhead; exact ⟨sp0, rfl⟩
    have hfuel : sp0.length ≤ b.heap.size + 1 := by
      have := hnd.length_le_of_lt fun x hx => (hsp.valid x hx).1
      exact Nat.le_trans (Nat.le_succ _) (Nat.le_trans this (Nat.le_succ _))
    obtain ⟨h2, R2, n2, n, hn, hres2, hn2, hreg2, -, -, -, -, hids2⟩ :=
      minimise_spec hb.reg sp0 (b.heap.size + 1) 0 0 _ ws (Nat.zero_le _) hsp hnd hfuel
    refine ⟨⟨h2, 0⟩, ?_, rfl, hn2.toRep, ⟨R2, n2, hreg2, hn2.get, hn2.links_mem⟩, hids2 hb.ids⟩
    unfold finish
    rw [hb.notDone, hb.root]
    simp only [Bool.false_eq_true, if_false, getNode_of_some hn]
    by_cases hl : n.links.length ≠ 0
    · rw [if_pos hl] at hres2 ⊢
      rw [hres2]
    · rw [if_neg hl] at hres2 ⊢
      cases hres2
      rfl

/-- which adds are accepted: the first one, and every one larger than the last accepted word -/
def accStep (ws : List Word) (w : Word) : List Word × Bool :=
  match ws.getLast? with
  | none => (ws ++ [w], false)
  | some l => if l < w then (ws ++ [w], false) else (ws, true)

def accRun (ws : List Word) : List Word → List Word × List Bool
  | [] => (ws, [])
  | w :: rest =>
    let r := accRun (accStep ws w).1 rest
    (r.1, (accStep ws w).2 :: r.2)

theorem add_spec {b : Builder} {ws : List Word} (hb : BState b ws) (w : Word) :
    ∃ b', add b w = .ok ⟨b', (accStep ws w).2⟩ ∧ BState b' (accStep ws w).1 := by
  rcases hb with ⟨rfl, rfl⟩ | ⟨hne, hb⟩
  · obtain ⟨b', h1, h2⟩ := add_first w
    exact ⟨b', by simpa [accStep] using h1, Or.inr ⟨by simp [accStep], by simpa [accStep] using h2⟩⟩
  · unfold accStep
    rw [hb.last]
    simp only
    by_cases hw : b.lastWord < w
    · obtain ⟨b', h1, h2⟩ := add_accepted hb w hw
      rw [if_pos hw]
      exact ⟨b', h1, Or.inr ⟨by simp, h2⟩⟩
    · rw [if_neg hw]
      exact ⟨b, add_rejected hb w hw, Or.inr ⟨hne, hb⟩⟩

theorem addAll_spec : ∀ (adds : List Word) {b : Builder} {ws : List Word}, BState b ws →
    ∃ b', addAll b adds = .ok (b', (accRun ws adds).2) ∧ BState b' (accRun ws adds).1 := by
  intro adds
  induction adds with
  | nil => intro b ws hb; exact ⟨b, rfl, hb⟩
  | cons w rest ih =>
    intro b ws hb
    obtain ⟨b1, h1, hb1⟩ := add_spec hb w
    obtain ⟨b2, h2, hb2⟩ := ih hb1
    refine ⟨b2, ?_, hb2⟩
    simp only [addAll, h1, h2, accRun]

theorem build_spec (adds : List Word) :
    ∃ d, build adds = .ok (some d, (accRun [] adds).2) ∧ Finished d (accRun [] adds).1 := by
  obtain ⟨b, h1, hb⟩ := addAll_spec adds (b := Builder.init) (ws := []) (Or.inl ⟨rfl, rfl⟩)
  obtain ⟨d, h2, hd⟩ := finish_spec hb
  exact ⟨d, by simp only [build, h1, h2], hd⟩

end Dawg
