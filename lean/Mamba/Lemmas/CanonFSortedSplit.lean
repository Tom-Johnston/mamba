import Mamba.Lemmas.CanonFSortedDef
import Mamba.Lemmas.CanonFCertSplit
/-!
# A split keeps every bin in ascending order (`BinsSorted` of `CanonFSortedDef.lean`)

* `BinsSorted.seg`, `binsSorted_segment`, `binsSorted_of_bins` — `BinsSorted` says that the segment of every bin is strictly
  ascending;
* `SplitRel.binsSorted_of` — a split keeps the bins ascending if it is stable between the new dividers;
* `splitBin_binsSorted` — `splitBin` preserves `BinsSorted`.
-/
namespace CanonF

theorem sortNat_pairwise_lt {l : List Nat} (hnd : l.Nodup) : (sortNat l).Pairwise (· < ·) := by
  have hs : (sortNat l).Pairwise (fun a b => decide (a ≤ b) = true) :=
    List.pairwise_mergeSort (le := fun a b => decide (a ≤ b)) (fun a b c h1 h2 => decide_eq_true (Nat.le_trans (of_decide_eq_true h1) (of_decide_eq_true h2)))
      (fun a b => by simp only [Bool.or_eq_true, decide_eq_true_eq]; exact Nat.le_total a b) l
  have hnd' : (sortNat l).Nodup := (sortNat_perm l).nodup_iff.2 hnd
  exact (hs.and hnd').imp (fun ⟨h1, h2⟩ => Nat.lt_of_le_of_ne (of_decide_eq_true h1) h2)

theorem BinsSorted.seg {op : OP} (hb : BinsSorted op) {a b : Nat} (hin : ∀ x ∈ op.binDividers.toList, x ≤ a ∨ b ≤ x)
    (hab : a ≤ b) (hbl : b ≤ op.order.toList.length) : (rfSeg op.order.toList a b).Pairwise (· < ·) := by
  have hl := length_rfSeg op.order.toList a b hab hbl
  refine (List.isChain_iff_getElem.2 fun i hi => ?_).pairwise
  rw [hl] at hi
  have hi' : a + i + 1 < b := by rw [Nat.add_assoc]; exact Nat.add_lt_of_lt_sub' hi
  have h1 : (rfSeg op.order.toList a b)[i]? = op.order.toList[a + i]? := by
    rw [getElem?_rfSeg, if_pos (Nat.lt_of_succ_lt hi)]
  have h2 : (rfSeg op.order.toList a b)[i + 1]? = op.order.toList[a + i + 1]? := by
    rw [getElem?_rfSeg, if_pos hi]; rfl
  rw [List.getElem?_eq_getElem (by rw [hl]; exact Nat.lt_of_succ_lt hi)] at h1
  rw [List.getElem?_eq_getElem (by rw [hl]; exact hi)] at h2
  apply hb (a + i) _ _ h1.symm h2.symm
  intro hmem
  rcases hin _ hmem with h | h
  · exact Nat.not_succ_le_self a (Nat.le_trans (Nat.succ_le_succ (Nat.le_add_right a i)) h)
  · exact Nat.not_le_of_lt hi' h

theorem binsSorted_segment {n : Nat} {op : OP} (hp : PartInv n op) (hb : BinsSorted op) {t bs d : Nat}
    (hbs : (0 :: op.binDividers.toList)[t]? = some bs) (hd : op.binDividers.toList[t]? = some d) :
    ((op.order.toList.drop bs).take (d - bs)).Pairwise (· < ·) := by
  obtain ⟨hlt, hdn, hol⟩ := hp.bin_bounds hbs hd
  exact hb.seg (fun x hx => no_div_inside _ hp.bdSorted hbs hd hx) (Nat.le_of_lt hlt) (by rw [hol]; exact hdn)

theorem binsSorted_of_bins {n : Nat} {op : OP} (h : PartInv n op)
    (hbins : ∀ t a b : Nat, (0 :: op.binDividers.toList)[t]? = some a → op.binDividers.toList[t]? = some b →
      (rfSeg op.order.toList a b).Pairwise (· < ·)) : BinsSorted op := by
  intro p u v hu hv hnd
  have hol : op.order.toList.length = n := h.length_order
  have hpn : p + 1 < n := hol ▸ (List.getElem?_eq_some_iff.1 hv).1
  obtain ⟨t, a, b, ha, hb, hap, hpb⟩ := h.bin_of (Nat.lt_of_succ_lt hpn)
  have hpb1 : p + 1 < b := Nat.lt_of_le_of_ne hpb (fun e => hnd (e ▸ List.mem_of_getElem? hb))
  have hi : p - a + 1 < b - a := by
    rw [← Nat.sub_add_comm hap]; exact Nat.sub_lt_sub_right (Nat.le_succ_of_le hap) hpb1
  have e1 : (rfSeg op.order.toList a b)[p - a]? = some u := by
    rw [getElem?_rfSeg, if_pos (Nat.lt_of_succ_lt hi), Nat.add_sub_cancel' hap]; exact hu
  have e2 : (rfSeg op.order.toList a b)[p - a + 1]? = some v := by
    rw [getElem?_rfSeg, if_pos hi, ← Nat.add_assoc, Nat.add_sub_cancel' hap]; exact hv
  obtain ⟨i1, g1⟩ := List.getElem?_eq_some_iff.1 e1
  obtain ⟨i2, g2⟩ := List.getElem?_eq_some_iff.1 e2
  have := List.pairwise_iff_getElem.1 (hbins t a b ha hb) _ _ i1 i2 (Nat.lt_succ_self _)
  rwa [g1, g2] at this

theorem pair_sublist {l : List Nat} {a : Nat} (h : a + 1 < l.length) :
    [l[a]'(Nat.lt_of_succ_lt h), l[a + 1]].Sublist l := by
  conv => rhs; rw [← List.take_append_drop a l, List.drop_eq_getElem_cons (Nat.lt_of_succ_lt h),
    List.drop_eq_getElem_cons h]
  exact List.sublist_append_of_sublist_right ((List.nil_sublist _).cons_cons _ |>.cons_cons _)

theorem SplitRel.binsSorted_of {n j bs dj : Nat} {K nbsL : List Nat} {op op2 : OP}
    (h : SplitRel n j bs dj K nbsL op op2) (hp : PartInv n op) (hb : BinsSorted op)
    (hK : ∀ x (hx : x + 1 < K.length), bs + x + 1 ∉ nbsL →
      [K[x]'(Nat.lt_of_succ_lt hx), K[x + 1]'hx].Sublist (rfSeg op.order.toList bs dj)) :
    BinsSorted op2 := by
  have hbd : ∀ d, d ∈ op.binDividers.toList → d ∈ op2.binDividers.toList := by
    intro d hd
    rw [h.bd]
    rw [← List.take_append_drop j op.binDividers.toList] at hd
    rcases List.mem_append.1 hd with hd | hd
    · exact List.mem_append_left _ (List.mem_append_left _ hd)
    · exact List.mem_append_right _ hd
  obtain ⟨hlt, hdn, hol, _⟩ := h.bounds hp
  intro p u v hu hv hnd
  have hnd1 : p + 1 ∉ op.binDividers.toList := fun hm => hnd (hbd _ hm)
  by_cases hA : p + 1 < bs
  · rw [h.order_lt hp (Nat.lt_of_succ_lt hA)] at hu
    rw [h.order_lt hp hA] at hv
    exact hb p u v hu hv hnd1
  · by_cases hB : dj ≤ p
    · rw [h.order_ge hp hB] at hu
      rw [h.order_ge hp (Nat.le_succ_of_le hB)] at hv
      exact hb p u v hu hv hnd1
    · -- both positions lie in the bin: its ends are dividers
      have hne_dj : p + 1 ≠ dj := fun e => hnd1 (e ▸ List.mem_of_getElem? h.hdj)
      have hne_bs : p + 1 ≠ bs := by
        intro e
        have hb' := h.hbs
        cases j with
        | zero => exact Nat.succ_ne_zero p (e.trans (Option.some.inj hb').symm)
        | succ k =>
          rw [List.getElem?_cons_succ] at hb'
          exact hnd1 (e ▸ List.mem_of_getElem? hb')
      have h1 : bs ≤ p := Nat.le_of_lt_succ (Nat.lt_of_le_of_ne (Nat.le_of_not_lt hA) (Ne.symm hne_bs))
      have h2 : p + 1 < dj := Nat.lt_of_le_of_ne (Nat.lt_of_not_le hB) hne_dj
      rw [h.order_in hp h1 (Nat.lt_of_succ_lt h2)] at hu
      rw [h.order_in hp (Nat.le_succ_of_le h1) h2, Nat.succ_sub h1] at hv
      obtain ⟨ha, hua⟩ := List.getElem?_eq_some_iff.1 hu
      obtain ⟨ha1, hva⟩ := List.getElem?_eq_some_iff.1 hv
      have hsub := hK (p - bs) ha1 (fun hm => hnd (by
        rw [h.bd, ← Nat.add_sub_cancel' h1]
        exact List.mem_append_left _ (List.mem_append_right _ hm)))
      rw [hua, hva] at hsub
      have hseg := hb.seg (fun x hx => no_div_inside _ hp.bdSorted h.hbs h.hdj hx) (Nat.le_of_lt hlt)
        (by rw [hol]; exact hdn)
      exact (List.pairwise_cons.1 (hseg.sublist hsub)).1 v (List.mem_singleton.2 rfl)

theorem splitBin_binsSorted {n : Nat} {nb : Nbrs} {cb fl : Sl Nat} {op op' : OP} {i : Nat} {w : Bool}
    (hp : PartInv n op) (ha : AgeInv op) (hi : i < n) (hns : NonSingleton op.binDividers.toList i)
    (hb : BinsSorted op) (hs : splitBin nb cb fl op i = .ok (w, op')) : BinsSorted op' := by
  obtain ⟨d, op1, _, hrel, _, _, _, hif⟩ := splitBin_split hp ha hi hns hs
  have h1 : BinsSorted op1 := by
    apply hrel.binsSorted_of (hp.of_frame rfl rfl rfl rfl) hb
    intro x hx hnd
    cases x with
    | zero => exact absurd (List.mem_singleton.2 rfl) hnd
    | succ y =>
      -- both lie in the rest of the bin, which keeps its order
      exact (pair_sublist (l := (rfSeg op.order.toList (binStartOf op.binDividers.toList i) d).eraseIdx
        (i - binStartOf op.binDividers.toList i)) (a := y) (Nat.lt_of_succ_lt_succ hx)).trans (List.eraseIdx_sublist _ _)
  by_cases hsp : binIdx op.binDividers.toList i = op.spl
  · rw [if_pos hsp] at hif
    obtain ⟨f1, f2, _⟩ := expandValue_frame hif
    unfold BinsSorted
    rw [f1, f2]; exact h1
  · rw [if_neg hsp] at hif
    rw [hif.2]; exact h1

end CanonF
