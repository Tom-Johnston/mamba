import Mamba.Lemmas.ExactOracle
import Mathlib.Data.List.Sort
/-! Bit masks and vertex sets, degrees of a one-vertex extension, colex ranks of `k`-subsets (`colex`, `rank`), images of
sorted sets under a permutation. -/
namespace Search

theorem testBit_lt_log2 {x v : Nat} (h : x.testBit v = true) : v < x.log2 + 1 := by
  have hx : x ≠ 0 := by rintro rfl; simp at h
  have h1 : 2 ^ v ≤ x := Nat.ge_two_pow_of_testBit h
  have h2 : x < 2 ^ (x.log2 + 1) := Nat.lt_log2_self
  exact (Nat.pow_lt_pow_iff_right (by decide : 1 < 2)).1 (Nat.lt_of_le_of_lt h1 h2)

theorem mem_bitsOf {x v : Nat} : v ∈ bitsOf x ↔ x.testBit v = true := by
  unfold bitsOf
  simp only [List.mem_filter, List.mem_range]
  exact ⟨fun h => h.2, fun h => ⟨testBit_lt_log2 h, h⟩⟩

theorem testBit_one_shiftLeft (i v : Nat) : (1 <<< i).testBit v = decide (i = v) := by
  rw [Nat.one_shiftLeft, Nat.testBit_two_pow]

theorem testBit_or_shift (vb i v : Nat) : (vb ||| (1 <<< i)).testBit v = (vb.testBit v || decide (v = i)) := by
  rw [Nat.testBit_or, testBit_one_shiftLeft, decide_eq_decide.2 eq_comm]

theorem testBit_xor_shift (vb i v : Nat) : (vb ^^^ (1 <<< i)).testBit v = (vb.testBit v != decide (v = i)) := by
  rw [Nat.testBit_xor, testBit_one_shiftLeft, decide_eq_decide.2 eq_comm]

theorem testBit_maskOf_aux : ∀ (l : List Nat) (acc v : Nat),
    (l.foldl (fun acc v => acc ||| (1 <<< v)) acc).testBit v = (acc.testBit v || decide (v ∈ l))
  | [], acc, v => by simp
  | w :: ws, acc, v => by
    rw [List.foldl_cons, testBit_maskOf_aux ws _ v, testBit_or_shift, Bool.or_assoc, List.decide_mem_cons]
    rfl

theorem testBit_maskOf (l : List Nat) (v : Nat) : (maskOf l).testBit v = decide (v ∈ l) := by
  unfold maskOf
  rw [testBit_maskOf_aux]; simp

theorem mem_bitsOf_maskOf {l : List Nat} {v : Nat} : v ∈ bitsOf (maskOf l) ↔ v ∈ l := by
  rw [mem_bitsOf, testBit_maskOf]; simp

theorem bitsOf_zero : bitsOf 0 = [] := by
  apply List.eq_nil_iff_forall_not_mem.2
  intro v hv
  have := mem_bitsOf.1 hv
  simp at this

theorem mem_bitsOf_shift {i v : Nat} : v ∈ bitsOf (1 <<< i) ↔ v = i := by
  rw [mem_bitsOf, testBit_one_shiftLeft, decide_eq_true_iff, eq_comm]

section
open GraphSpec GSearch

/-- the one-vertex extension of the search is `AddVertex` of the editable graphs (`Spec/GraphOps.lean`) -/
theorem ext_eq_addVertexG {g : G} (hg : g.WF) {S : List Nat} (hS : ∀ v ∈ S, v < g.n) :
    ext g S = GraphRep.addVertexG g S := by
  refine (ext_wf hg S).ext_lt (GraphRep.addVertexG_wf hg hS) rfl fun u v huv => ?_
  rcases Nat.lt_trichotomy v g.n with hv | rfl | hv
  · rw [ext_adj_old S (Nat.lt_trans huv hv) hv, GraphRep.addVertexG_adj_old S (Nat.lt_trans huv hv) hv]
  · rw [ext_adj_new S huv, GraphRep.addVertexG_adj_new hg S huv]
  · -- both graphs have `g.n + 1` vertices
    have h1 : (ext g S).adj u v = false := by
      cases h : (ext g S).adj u v
      · rfl
      · have := ((ext_wf hg S).supp u v h).2
        simp only [ext] at this; omega
    have h2 : (GraphRep.addVertexG g S).adj u v = false := by
      cases h : (GraphRep.addVertexG g S).adj u v
      · rfl
      · have := ((GraphRep.addVertexG_wf hg hS).supp u v h).2
        simp only [GraphRep.addVertexG] at this; omega
    rw [h1, h2]

theorem deg_ext_old {g : G} (hg : g.WF) {S : List Nat} (hS : ∀ v ∈ S, v < g.n) {v : Nat} (hv : v < g.n) :
    (ext g S).deg v = g.deg v + (if v ∈ S then 1 else 0) := by
  rw [ext_eq_addVertexG hg hS, GraphRep.deg_addVertexG_old hg S hv]
  by_cases h : v ∈ S <;> simp [h]

theorem deg_ext_new {g : G} (hg : g.WF) {S : List Nat} (hnd : S.Nodup) (hS : ∀ v ∈ S, v < g.n) :
    (ext g S).deg g.n = S.length := by
  rw [ext_eq_addVertexG hg hS]; exact GraphRep.deg_addVertexG_new hg hnd hS

theorem ext_restrict {g h : G} {S T : List Nat} {ψ : Nat → Nat} (hn : g.n = h.n) (hψ : IsBij (g.n + 1) ψ)
    (hadj : ∀ u v, u < g.n + 1 → v < g.n + 1 → (ext g S).adj u v = (ext h T).adj (ψ u) (ψ v)) (hlast : ψ g.n = h.n) :
    IsBij g.n ψ ∧ (∀ u v, u < g.n → v < g.n → g.adj u v = h.adj (ψ u) (ψ v)) ∧
      ∀ v, v < g.n → (v ∈ S ↔ ψ v ∈ T) := by
  have hmaps : ∀ u, u < g.n → ψ u < h.n := fun u hu => by
    have h1 := hψ.maps u (Nat.lt_succ_of_lt hu)
    have h2 : ψ u ≠ h.n := fun e => Nat.ne_of_lt hu (hψ.inj u g.n (Nat.lt_succ_of_lt hu) (Nat.lt_succ_self _) (e.trans hlast.symm))
    omega
  refine ⟨⟨fun u hu => hn ▸ hmaps u hu, fun u v hu hv => hψ.inj u v (Nat.lt_succ_of_lt hu) (Nat.lt_succ_of_lt hv), ?_⟩,
    ?_, ?_⟩
  · intro w hw
    obtain ⟨u, hu, he⟩ := hψ.surj w (Nat.lt_succ_of_lt hw)
    refine ⟨u, ?_, he⟩
    rcases Nat.lt_or_eq_of_le (Nat.le_of_lt_succ hu) with h1 | rfl
    · exact h1
    · rw [hlast] at he; omega
  · intro u v hu hv
    have := hadj u v (Nat.lt_succ_of_lt hu) (Nat.lt_succ_of_lt hv)
    rwa [ext_adj_old S hu hv, ext_adj_old T (hmaps u hu) (hmaps v hv)] at this
  · intro v hv
    have := hadj v g.n (Nat.lt_succ_of_lt hv) (Nat.lt_succ_self _)
    rw [hlast, ext_adj_new S hv, ext_adj_new T (hmaps v hv), Bool.eq_iff_iff, List.contains_iff_mem,
      List.contains_iff_mem] at this
    exact this

theorem Built.degOK {g : DG} (h : Built g) : ∀ v, v < g.nv → g.degs[v]? = some ((g.toG.deg v : Nat) : Int) := by
  induction h with
  | one =>
    intro v hv
    have : v = 0 := by
      have : v < 1 := hv
      omega
    subst this
    decide
  | @add P g2 l hb hnd hl ha ih =>
    intro v hv
    rw [addVertex_toG hb.sized hnd ha]
    obtain ⟨e, d, rfl, -, hds, -, -, -, f4, f5⟩ := addVertex_spec hb.sized hnd ha
    have hv' : v < P.nv + 1 := hv
    show (d.push (l.length : Int))[v]? = _
    by_cases hvn : v < P.nv
    · rw [Array.getElem?_push_lt (by omega)]
      have hd : d[v]? = some d[v] := Array.getElem?_eq_getElem (by omega)
      rw [← hd, deg_ext_old (toG_wf P) hl hvn]
      by_cases hm : v ∈ l
      · rw [f4 v hm, ih v hvn]; simp [hm]
      · rw [f5 v hm, ih v hvn]; simp [hm]
    · have : v = P.nv := by omega
      subst this
      rw [← hds]
      simp only [Array.getElem?_push_size]
      rw [hds]
      have := deg_ext_new (toG_wf P) hnd hl
      rw [show P.toG.n = P.nv from rfl] at this
      rw [this]

end

def IsSub (n k : Nat) (c : List Nat) : Prop := c.length = k ∧ c.Pairwise (· < ·) ∧ ∀ v ∈ c, v < n

theorem mem_colex (n k : Nat) (c : List Nat) : c ∈ colex n k ↔ IsSub n k c := by
  have zero : ∀ (n : Nat) (c : List Nat), c ∈ colex n 0 ↔ IsSub n 0 c := fun n c => by
    simp only [colex, List.mem_singleton, IsSub]
    constructor
    · rintro rfl; simp
    · intro h; exact List.length_eq_zero_iff.1 h.1
  induction n generalizing k c with
  | zero =>
    cases k with
    | zero => exact zero 0 c
    | succ k =>
      simp only [colex, List.not_mem_nil, IsSub, false_iff]
      rintro ⟨hl, -, hlt⟩
      cases c with
      | nil => simp at hl
      | cons a as => exact absurd (hlt a List.mem_cons_self) (Nat.not_lt_zero a)
  | succ n ih =>
    cases k with
    | zero => exact zero (n + 1) c
    | succ k =>
      simp only [colex, List.mem_append, List.mem_map]
      have ih1 : c ∈ colex n (k + 1) ↔ IsSub n (k + 1) c := ih (k + 1) c
      rw [ih1]
      constructor
      · rintro (h | ⟨c', hc', rfl⟩)
        · exact ⟨h.1, h.2.1, fun v hv => Nat.lt_succ_of_lt (h.2.2 v hv)⟩
        · have h := (ih k c').1 hc'
          refine ⟨by simp [h.1], ?_, ?_⟩
          · rw [List.pairwise_append]
            refine ⟨h.2.1, List.pairwise_singleton _ _, ?_⟩
            intro a ha b hb
            rw [List.mem_singleton] at hb; subst hb
            exact h.2.2 a ha
          · intro v hv
            rcases List.mem_append.1 hv with hv | hv
            · exact Nat.lt_succ_of_lt (h.2.2 v hv)
            · rw [List.mem_singleton] at hv; subst hv; exact Nat.lt_succ_self _
      · rintro ⟨hl, hp, hlt⟩
        rcases List.eq_nil_or_concat' c with rfl | ⟨c', z, rfl⟩
        · simp at hl
        · rw [List.pairwise_append] at hp
          have hz : z < n + 1 := hlt z (by simp)
          have hl' : c'.length = k := by simpa using hl
          by_cases hzn : z = n
          · right
            subst hzn
            refine ⟨c', (ih k c').2 ⟨hl', hp.1, fun a ha => hp.2.2 a ha z (by simp)⟩, rfl⟩
          · left
            refine ⟨hl, List.pairwise_append.2 hp, ?_⟩
            intro v hv
            rcases List.mem_append.1 hv with hv | hv
            · have := hp.2.2 v hv z (by simp); omega
            · rw [List.mem_singleton] at hv; subst hv; omega

theorem rank_eq_sum (c : List Nat) : rank c = (c.zipIdx.map fun (p : Nat × Nat) => choose p.1 (p.2 + 1)).sum := by
  unfold rank
  rw [List.sum_eq_foldl]

theorem rank_concat (c : List Nat) (z : Nat) : rank (c ++ [z]) = rank c + choose z (c.length + 1) := by
  rw [rank_eq_sum, rank_eq_sum, List.zipIdx_append]
  simp

theorem colex_length : ∀ (n k : Nat), (colex n k).length = choose n k
  | _, 0 => by simp [colex, choose]
  | 0, k + 1 => by simp [colex, choose]
  | n + 1, k + 1 => by
    simp only [colex, List.length_append, List.length_map, choose]
    rw [colex_length n (k + 1), colex_length n k, Nat.add_comm]

theorem colex_rank : ∀ (n k i : Nat) (h : i < (colex n k).length), rank ((colex n k)[i]) = i
  | _, 0, i, h => by
    simp only [colex, List.length_singleton] at h
    have : i = 0 := by omega
    subst this
    simp [colex, rank]
  | 0, k + 1, i, h => by simp [colex] at h
  | n + 1, k + 1, i, h => by
    simp only [colex]
    by_cases hi : i < (colex n (k + 1)).length
    · rw [List.getElem_append_left hi]
      exact colex_rank n (k + 1) i hi
    · have hge : (colex n (k + 1)).length ≤ i := Nat.le_of_not_lt hi
      rw [List.getElem_append_right hge]
      simp only [List.getElem_map]
      have hj : i - (colex n (k + 1)).length < (colex n k).length := by
        simp only [colex, List.length_append, List.length_map] at h
        omega
      have hmem := (mem_colex n k _).1 (List.getElem_mem hj)
      rw [rank_concat, colex_rank n k _ hj, hmem.1, colex_length n (k + 1)]
      rw [colex_length n (k + 1)] at hge
      omega

theorem colex_nodup (n k : Nat) : (colex n k).Nodup := by
  rw [List.nodup_iff_injective_getElem]
  intro ⟨i, hi⟩ ⟨j, hj⟩ h
  simp only at h
  have h1 := colex_rank n k i hi
  have h2 := colex_rank n k j hj
  rw [h] at h1
  exact Fin.ext (h1.symm.trans h2)

theorem colex_of_sub {n k : Nat} {c : List Nat} (h : IsSub n k c) :
    ∃ hi : rank c < (colex n k).length, (colex n k)[rank c] = c := by
  obtain ⟨i, hi, he⟩ := List.getElem_of_mem ((mem_colex n k c).2 h)
  have := colex_rank n k i hi
  rw [he] at this
  subst this
  exact ⟨hi, he⟩

theorem insertSorted_eq (x : Nat) (l : List Nat) : insertSorted x l = List.orderedInsert (· ≤ ·) x l := by
  induction l with
  | nil => rfl
  | cons y ys ih => simp only [insertSorted, List.orderedInsert, ih]

theorem sortNats_eq (l : List Nat) : sortNats l = List.insertionSort (· ≤ ·) l := by
  unfold sortNats
  induction l with
  | nil => rfl
  | cons x xs ih => simp only [List.foldr_cons, List.insertionSort, ih, insertSorted_eq]

theorem sortNats_perm (l : List Nat) : (sortNats l).Perm l := by
  rw [sortNats_eq]; exact List.perm_insertionSort _ l

theorem sortNats_sorted (l : List Nat) : (sortNats l).Pairwise (· ≤ ·) := by
  rw [sortNats_eq]; exact List.pairwise_insertionSort (· ≤ ·) l

theorem sortNats_isSub {n : Nat} {l : List Nat} (hnd : l.Nodup) (hl : ∀ v ∈ l, v < n) :
    IsSub n l.length (sortNats l) := by
  have hp := sortNats_perm l
  refine ⟨hp.length_eq, ?_, fun v hv => hl v (hp.mem_iff.1 hv)⟩
  have hnd' : (sortNats l).Nodup := hp.nodup_iff.2 hnd
  have hs := sortNats_sorted l
  exact (List.pairwise_and_iff.2 ⟨hs, hnd'⟩).imp (fun ⟨h1, h2⟩ => Nat.lt_of_le_of_ne h1 h2)

theorem isSub_ext {n k k' : Nat} {c c' : List Nat} (h : IsSub n k c) (h' : IsSub n k' c')
    (hm : ∀ v, v ∈ c ↔ v ∈ c') : c = c' := by
  have hnd : c.Nodup := h.2.1.imp (fun h => Nat.ne_of_lt h)
  have hnd' : c'.Nodup := h'.2.1.imp (fun h => Nat.ne_of_lt h)
  have hp : c.Perm c' := (List.perm_ext_iff_of_nodup hnd hnd').2 hm
  exact hp.eq_of_pairwise' (r := (· ≤ ·)) (h.2.1.imp Nat.le_of_lt) (h'.2.1.imp Nat.le_of_lt)

def img (σ : Nat → Nat) (c : List Nat) : List Nat := sortNats (c.map σ)

theorem mem_img {σ : Nat → Nat} {c : List Nat} {v : Nat} : v ∈ img σ c ↔ ∃ u ∈ c, σ u = v := by
  unfold img
  rw [(sortNats_perm _).mem_iff, List.mem_map]

theorem img_isSub {n k : Nat} {σ : Nat → Nat} {c : List Nat} (hσ : GSearch.IsBij n σ) (hc : IsSub n k c) :
    IsSub n k (img σ c) := by
  have hnd : (c.map σ).Nodup := by
    refine List.Nodup.map_on ?_ (hc.2.1.imp (fun h => Nat.ne_of_lt h))
    intro x hx y hy h
    exact hσ.inj x y (hc.2.2 x hx) (hc.2.2 y hy) h
  have hl : ∀ v ∈ c.map σ, v < n := by
    intro v hv
    obtain ⟨u, hu, rfl⟩ := List.mem_map.1 hv
    exact hσ.maps u (hc.2.2 u hu)
  have := sortNats_isSub hnd hl
  rw [List.length_map, hc.1] at this
  exact this

theorem mapM_gen {p : Array Nat} {c : List Nat} (hc : ∀ v ∈ c, v < p.size) :
    c.mapM (fun x => p[x]?) = some (c.map fun v => p.getD v 0) := by
  induction c with
  | nil => rfl
  | cons x xs ih =>
    have hx : x < p.size := hc x List.mem_cons_self
    have ih' := ih (fun v hv => hc v (List.mem_cons_of_mem _ hv))
    simp only [List.mapM_cons, ih', List.map_cons, Array.getElem?_eq_getElem hx, Array.getD_eq_getD_getElem?,
      Option.getD_some]
    rfl

end Search
