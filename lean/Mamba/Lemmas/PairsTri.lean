import Mamba.Lemmas.Pairs
import Mamba.Lemmas.Tri
/-!
# `upperPairs` against the packed index and the abstract graph

The pair `(i, j)` stands at position `tri j + i`; `G.edges` is the sublist of the adjacent pairs; the adjacent pairs
that touch `v` are as many as the neighbours of `v`. `C06Basic` and `CodecCount` restate the positional facts for their own
`tri` in one line each.
-/
namespace GraphRep
open GraphSpec

theorem upperPairs_length (n : Nat) : (upperPairs n).length = tri n := by
  induction n with
  | zero => rfl
  | succ k ih => rw [upperPairs_succ, List.length_append, ih, tri_succ]; simp

theorem upperPairs_getElem? {n i j : Nat} (hij : i < j) (hj : j < n) : (upperPairs n)[tri j + i]? = some (i, j) := by
  induction n with
  | zero => omega
  | succ k ih =>
    rw [upperPairs_succ]
    rcases Nat.lt_or_ge j k with h | h
    · rw [List.getElem?_append_left (by rw [upperPairs_length]; exact tri_add_lt hij h)]
      exact ih h
    · have : j = k := by omega
      subst this
      rw [List.getElem?_append_right (by rw [upperPairs_length]; omega), upperPairs_length]
      simp [hij]

theorem upperPairs_index {n t : Nat} {p : Nat × Nat} (h : (upperPairs n)[t]? = some p) :
    p.1 < p.2 ∧ p.2 < n ∧ t = tri p.2 + p.1 := by
  obtain ⟨h1, h2⟩ := mem_upperPairs.1 (List.mem_of_getElem? h)
  refine ⟨h1, h2, ?_⟩
  have ht : t < (upperPairs n).length := by
    rcases Nat.lt_or_ge t (upperPairs n).length with h' | h'
    · exact h'
    · rw [List.getElem?_eq_none h'] at h; cases h
  exact (List.getElem?_inj ht (upperPairs_nodup n)).1 (h.trans (upperPairs_getElem? h1 h2).symm)

theorem edges_eq_filter (g : G) : g.edges = (upperPairs g.n).filter fun p => g.adj p.1 p.2 := by
  simp only [G.edges, upperPairs, List.filter_flatMap, List.filter_map]
  rfl

theorem m_eq_countP (g : G) : g.m = (upperPairs g.n).countP fun p => g.adj p.1 p.2 := by
  rw [G.m, edges_eq_filter, List.countP_eq_length_filter]

theorem countP_range_eq_and (v : Nat) (f : Nat → Bool) (k : Nat) :
    (List.range k).countP (fun i => i == v && f i) = if v < k ∧ f v = true then 1 else 0 := by
  induction k with
  | zero => simp
  | succ k ih =>
    rw [List.range_succ, List.countP_append, ih, List.countP_singleton]
    by_cases h1 : v < k
    · have : ¬ k = v := by omega
      simp [h1, this, Nat.lt_succ_of_lt h1]
    · by_cases h2 : k = v
      · subst h2; simp
      · have : ¬ v < k + 1 := by omega
        simp [h1, h2, this]

theorem countP_upperPairs_incident (adj : Nat → Nat → Bool) (hsymm : ∀ u v, adj u v = adj v u)
    (hirr : ∀ v, adj v v = false) (n v : Nat) :
    (upperPairs n).countP (fun p => adj p.1 p.2 && (p.1 == v || p.2 == v)) =
      if v < n then (List.range n).countP (adj v) else 0 := by
  induction n with
  | zero => simp [upperPairs]
  | succ k ih =>
    rw [upperPairs_succ, List.countP_append, ih, List.countP_map, List.range_succ, List.countP_append,
      List.countP_singleton]
    rcases Nat.lt_trichotomy v k with h1 | h1 | h1
    · have e : ((fun p : Nat × Nat => adj p.1 p.2 && (p.1 == v || p.2 == v)) ∘ fun i => (i, k))
          = fun i => i == v && adj i k := by
        funext i
        have : (k == v) = false := by rw [beq_eq_false_iff_ne]; omega
        simp [this, Bool.and_comm]
      rw [e, countP_range_eq_and, hsymm v k]
      simp [h1, Nat.lt_succ_of_lt h1]
    · subst h1
      have e : ((fun p : Nat × Nat => adj p.1 p.2 && (p.1 == v || p.2 == v)) ∘ fun i => (i, v)) = adj v := by
        funext i
        simp [hsymm i v]
      rw [e]
      simp [hirr v]
    · have : ¬ v < k := by omega
      have : ¬ v < k + 1 := by omega
      simp only [*, if_false, Nat.zero_add]
      rw [List.countP_eq_zero]
      intro i hi
      rw [List.mem_range] at hi
      have e1 : (i == v) = false := by rw [beq_eq_false_iff_ne]; omega
      have e2 : (k == v) = false := by rw [beq_eq_false_iff_ne]; omega
      simp [e1, e2]

theorem mem_filter_adj_range' {g : G} {u w : Nat} :
    w ∈ (List.range' (u + 1) (g.n - (u + 1))).filter (fun w => g.adj u w) ↔ u < w ∧ w < g.n ∧ g.adj u w = true := by
  simp only [List.mem_filter, List.mem_range'_1]
  constructor
  · rintro ⟨⟨h1, h2⟩, h3⟩; exact ⟨by omega, by omega, h3⟩
  · rintro ⟨h1, h2, h3⟩; exact ⟨⟨by omega, by omega⟩, h3⟩

end GraphRep
