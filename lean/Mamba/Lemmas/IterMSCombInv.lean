import Mathlib.Algebra.BigOperators.Group.List.Basic
import Mamba.Lemmas.IterSlice
import Mamba.Lemmas.IterMSComb
/-! MultisetCombinations (Algorithm Q): the vocabulary (`G c i` = entry `i`, `PS m j` = prefix sum), the invariant of
the algorithm (`InFam`, `ISat`, `IZero`; `MGood` = the multiplicities on which `next()` as coded is correct: none is
negative, `m[0] ≥ 1`, and `m[0] = 1`, `m[1] = 0` is not followed by a positive one; on the others it misses members or
panics), and `Value()` (`expandList`, `emit_spec`, `expand_spec`). -/

namespace Iter
open Spec

/-- entry `i` of a vector (0 outside) — used in invariants only -/
def G (c : List Int) (i : Nat) : Int := c.getD i 0

theorem G_set (c : List Int) (i j : Nat) (v : Int) :
    G (c.set i v) j = if i = j ∧ i < c.length then v else G c j := by
  simp only [G, List.getD_eq_getElem?_getD, List.getElem?_set]
  by_cases h : i = j
  · subst h
    by_cases hl : i < c.length <;> simp [hl]
  · simp [h]

def PS (m : List Int) (j : Nat) : Int := (m.take j).sum

theorem PS_succ (m : List Int) (j : Nat) : PS m (j + 1) = PS m j + G m j := by
  simp only [PS, G, List.getD_eq_getElem?_getD]
  by_cases h : j < m.length
  · rw [List.take_add_one, List.sum_append]
    simp [List.getElem?_eq_getElem h]
  · rw [List.take_of_length_le (by omega), List.take_of_length_le (by omega), List.getElem?_eq_none (by omega)]
    simp

theorem PS_sat (m c : List Int) (a : Nat) : ∀ b, a ≤ b → (∀ i, a ≤ i → i < b → G c i = G m i) →
    PS c b - PS c a = PS m b - PS m a := by
  intro b
  induction b with
  | zero => intro h _; have : a = 0 := by omega
            subst this; simp
  | succ b ih =>
    intro hab hs
    by_cases h : a = b + 1
    · subst h; simp
    · have := ih (by omega) (fun i h1 h2 => hs i h1 (by omega))
      have := hs b (by omega) (by omega)
      rw [PS_succ, PS_succ]; omega

theorem PS_zero (m : List Int) : PS m 0 = 0 := by simp [PS]

theorem PS_mono (m : List Int) (hm : ∀ i, 0 ≤ G m i) : ∀ a b, a ≤ b → PS m a ≤ PS m b := by
  intro a b hab
  induction b with
  | zero => have : a = 0 := by omega
            subst this; exact Int.le_refl _
  | succ b ih =>
    by_cases h : a = b + 1
    · subst h; exact Int.le_refl _
    · have := ih (by omega)
      have := hm b
      rw [PS_succ]; omega

/-- membership in the family, pointwise -/
def InFam (m : List Int) (k : Int) (c : List Int) : Prop :=
  c.length = m.length ∧ (∀ i, i < m.length → 0 ≤ G c i ∧ G c i ≤ G m i) ∧ c.sum = k

/-- all types below `j` are saturated and type 0 is present -/
def ISat (m c : List Int) (j : Nat) : Prop := j < m.length ∧ 0 < G c 0 ∧ ∀ i, i < j → G c i = G m i

/-- `j` is the lowest type present -/
def IZero (m c : List Int) (j : Nat) : Prop := 1 ≤ j ∧ j < m.length ∧ (∀ i, i < j → G c i = 0) ∧ 0 < G c j

/-- the multiplicities on which Algorithm Q as coded is correct (for `k > 0`) -/
structure MGood (m : List Int) : Prop where
  nonneg : ∀ i, 0 ≤ G m i
  first : 1 ≤ G m 0
  notB : ¬ (G m 0 = 1 ∧ G m 1 = 0 ∧ ∃ i, 2 ≤ i ∧ i < m.length ∧ 0 < G m i)

theorem PS_one (m : List Int) : PS m 1 = G m 0 := by
  rw [PS_succ, PS_zero]; omega

theorem PS_nonneg (m : List Int) (hm : ∀ i, 0 ≤ G m i) (j : Nat) : 0 ≤ PS m j := by
  have := PS_mono m hm 0 j (by omega); rw [PS_zero] at this; exact this

theorem MGood.ne_nil {m : List Int} (hm : MGood m) : 0 < m.length := by
  by_contra h
  have : m = [] := List.length_eq_zero_iff.mp (by omega)
  have h1 := hm.first
  subst this
  simp [G] at h1

theorem G_replicate_zero (n i : Nat) : G (List.replicate n (0 : Int)) i = 0 := by
  simp only [G, List.getD_eq_getElem?_getD, List.getElem?_replicate]
  split <;> simp

theorem G_nonneg_all (m : List Int) (hm : ∀ v ∈ m, 0 ≤ v) (i : Nat) : 0 ≤ G m i := by
  simp only [G, List.getD_eq_getElem?_getD]
  cases h : m[i]? with
  | none => exact Int.le_refl _
  | some v => exact hm v (List.mem_of_getElem? h)

theorem msKnownBad_false_first (m : List Int) (hm : ∀ v ∈ m, 0 ≤ v) (hb : msKnownBad m = false)
    (h1 : 1 ≤ G m 0) : MGood m := by
  refine ⟨G_nonneg_all m hm, h1, ?_⟩
  rintro ⟨e0, e1, i, hi2, hil, hpos⟩
  match m, hb, hm, e0, e1, hil, hpos with
  | [], _, _, e0, _, _, _ => simp [G] at e0
  | [a], _, _, _, _, hil, _ => simp at hil; omega
  | a :: b :: rest, hb, hm, e0, e1, hil, hpos =>
    have ha : a = 1 := by simpa [G] using e0
    have hb' : b = 0 := by simpa [G] using e1
    subst ha hb'
    simp only [msKnownBad, List.any_eq_false, decide_eq_true_eq] at hb
    obtain ⟨t, rfl⟩ : ∃ t, i = t + 2 := ⟨i - 2, by omega⟩
    have hlt : t < rest.length := by simpa using hil
    have : G (1 :: 0 :: rest) (t + 2) = rest[t] := by
      simp [G, List.getD_eq_getElem?_getD, List.getElem?_eq_getElem hlt]
    rw [this] at hpos
    exact hb _ (List.getElem_mem hlt) hpos

theorem msKnownBad_false_zero (m : List Int) (hm : ∀ v ∈ m, 0 ≤ v) (hb : msKnownBad m = false)
    (h0 : G m 0 = 0) : ∀ i, G m i = 0 := by
  intro i
  match m, hb, hm, h0 with
  | [], _, _, _ => simp [G]
  | a :: rest, hb, hm, h0 =>
    have ha : a = 0 := by simpa [G] using h0
    subst ha
    simp only [msKnownBad, List.any_eq_false, decide_eq_true_eq] at hb
    cases i with
    | zero => simp [G]
    | succ t =>
      by_cases hlt : t < rest.length
      · have : G (0 :: rest) (t + 1) = rest[t] := by
          simp [G, List.getD_eq_getElem?_getD, List.getElem?_eq_getElem hlt]
        rw [this]
        have h1 := hb _ (List.getElem_mem hlt)
        have h2 := hm rest[t] (by simp)
        omega
      · simp [G, List.getD_eq_getElem?_getD, List.getElem?_eq_none (Nat.le_of_not_lt hlt)]

/-- invariant along a run: `Inv` holds before a `Next()`, `Tr` right after one that returned true -/
theorem collect_inv2 {σ α : Type} (it : It σ α) (Inv Tr : σ → Prop) (P : α → Prop)
    (hT : ∀ s s', Inv s → it.next s = .ok (s', true) → Tr s')
    (hV : ∀ s s' v, Tr s → it.value s = .ok (s', v) → Inv s' ∧ P v) :
    ∀ (fuel : Nat) (s : σ) (acc : List α), Inv s → (∀ x ∈ acc, P x) →
      ∀ x ∈ (collect it fuel s acc).1, P x := by
  intro fuel
  induction fuel with
  | zero => intro s acc _ hacc; simpa [collect] using hacc
  | succ fuel ih =>
    intro s acc hs hacc
    unfold collect
    split
    · next s1 hn =>
      split
      · next s2 v hv =>
        obtain ⟨h2, hp⟩ := hV s1 s2 v (hT s s1 hs hn) hv
        exact ih s2 (v :: acc) h2 (List.forall_mem_cons.mpr ⟨hp, hacc⟩)
      · exact hacc
      · exact hacc
    · exact hacc
    · exact hacc
    · exact hacc

theorem G_cons_succ (a : Int) (l : List Int) (i : Nat) : G (a :: l) (i + 1) = G l i := by simp [G]
theorem G_cons_zero (a : Int) (l : List Int) : G (a :: l) 0 = a := by simp [G]

/-- the multiset with `c[i]` copies of `i0 + i` as a sorted list: what `Value()` returns for the count vector `c` -/
def expandList : Int → List Int → List Int
  | _, [] => []
  | i, v :: r => List.replicate v.toNat i ++ expandList (i + 1) r

theorem emit_spec (i : Int) : ∀ (t : Nat) (pre suf : Sl), t ≤ suf.length →
    MSComb.emit i t (pre.length : Int) (pre ++ suf) =
      .ok (pre ++ List.replicate t i ++ suf.drop t, ((pre.length + t : Nat) : Int)) := by
  intro t
  induction t with
  | zero => intro pre suf _; simp [MSComb.emit]
  | succ t ih =>
    intro pre suf h
    cases suf with
    | nil => simp at h
    | cons a suf' =>
      unfold MSComb.emit
      rw [set_at pre suf' a i _ rfl]
      simp only [Outcome.bind_ok]
      have hc : ((pre.length : Int) + 1) = (((pre ++ [i]).length : Nat) : Int) := by simp
      rw [hc, show pre ++ i :: suf' = (pre ++ [i]) ++ suf' by simp, ih (pre ++ [i]) suf' (by simpa using h)]
      simp [List.replicate_succ]
      omega

theorem sum_nonneg_int : ∀ (r : List Int), (∀ w ∈ r, 0 ≤ w) → 0 ≤ r.sum := by
  intro r
  induction r with
  | nil => intro _; simp
  | cons a r ih =>
    intro h
    have := h a (by simp)
    have := ih (fun w hw => h w (by simp [hw]))
    simp only [List.sum_cons]; omega

theorem expand_spec : ∀ (rest : List Int) (i : Int) (pre suf : Sl), (∀ v ∈ rest, 0 ≤ v) →
    rest.sum ≤ (suf.length : Int) →
    MSComb.expand rest i (pre.length : Int) (pre ++ suf) =
      .ok (pre ++ expandList i rest ++ suf.drop (expandList i rest).length) := by
  intro rest
  induction rest with
  | nil => intro i pre suf _ _; simp [MSComb.expand, expandList]
  | cons v r ih =>
    intro i pre suf hnn h
    have hv := hnn v (by simp)
    have hr : ∀ w ∈ r, 0 ≤ w := fun w hw => hnn w (by simp [hw])
    have hrs : 0 ≤ r.sum := sum_nonneg_int r hr
    simp only [List.sum_cons] at h
    unfold MSComb.expand
    rw [emit_spec i v.toNat pre suf (by omega)]
    simp only [Outcome.bind_ok]
    have hc : ((pre.length + v.toNat : Nat) : Int) = (((pre ++ List.replicate v.toNat i).length : Nat) : Int) := by
      simp
    rw [hc, ih (i + 1) (pre ++ List.replicate v.toNat i) (suf.drop v.toNat) hr
      (by simp only [List.length_drop]; omega)]
    simp [expandList, List.drop_drop]

theorem expandList_length_of_nonneg : ∀ (c : List Int) (i : Int), (∀ v ∈ c, 0 ≤ v) →
    ((expandList i c).length : Int) = c.sum := by
  intro c
  induction c with
  | nil => intro i _; simp [expandList]
  | cons v r ih =>
    intro i h
    have h0 := h v (by simp)
    have := ih (i + 1) (fun w hw => h w (by simp [hw]))
    simp only [expandList, List.length_append, List.length_replicate, List.sum_cons]
    push_cast
    rw [this, Int.toNat_of_nonneg h0]

end Iter
