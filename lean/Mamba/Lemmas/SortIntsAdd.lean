import Mamba.Lemmas.SortIntsNew
/-! Lemmas for C17: `Add`.  The first two loops compute `specInd`; the third builds, for any insertion points,
the list `mR` behind `s[:mNext]` (`addMerge_spec`); for the insertion points of `specInd` that list is a `Union`
(`mR_eq_union`), so `Add` returns `Union(s, new arguments)` (`add_eq`) and inherits membership and sortedness from it.
The prefix `m` marks functions of the list of pairs (argument, insertion point or `-1`) that this third loop, the merge,
has still to process: `mNext` the insertion point of the first kept pair, `mKept` the number of kept pairs, `mR` the tail
built for them, `mWF` the insertion points are valid and ascend. `specInd` lists the insertion points after loop 2 (`gIdx`
for each argument given its predecessor), `newB s v`: loop 1 keeps `v`. -/
namespace SortInts

/-- insertion point of the first kept pair, or `len s` -/
def mNext (s : List Int) : List (Int × Int) → Int
  | [] => s.length
  | (_, idx) :: r => if idx ≠ -1 then idx else mNext s r

def mKept : List (Int × Int) → Nat
  | [] => 0
  | (_, idx) :: r => if idx ≠ -1 then mKept r + 1 else mKept r

/-- the merged tail that the third loop of `Add` builds for the pairs processed so far -/
def mR (s : List Int) : List (Int × Int) → List Int
  | [] => []
  | (v, idx) :: r =>
    if idx ≠ -1 then v :: ((s.drop idx.toNat).take ((mNext s r).toNat - idx.toNat) ++ mR s r) else mR s r

def mWF (s : List Int) : List (Int × Int) → Prop
  | [] => True
  | (_, idx) :: r => mWF s r ∧ (idx ≠ -1 → 0 ≤ idx ∧ idx ≤ mNext s r)

theorem mNext_le (s : List Int) : ∀ l, mWF s l → mNext s l ≤ s.length ∧ 0 ≤ mNext s l
  | [], _ => by simp [mNext]
  | (v, idx) :: r, h => by
    obtain ⟨h1, h2⟩ := h
    have := mNext_le s r h1
    by_cases hi : idx ≠ -1
    · have := h2 hi; simp only [mNext]; simp; omega
    · simp only [mNext, hi]; simpa using this

theorem mKept_append (a b : List (Int × Int)) : mKept (a ++ b) = mKept a + mKept b := by
  induction a with
  | nil => simp [mKept]
  | cons p a ih =>
    obtain ⟨v, idx⟩ := p
    by_cases hi : idx ≠ -1 <;> simp [mKept, hi, ih]; omega

theorem mKept_reverse (a : List (Int × Int)) : mKept a.reverse = mKept a := by
  induction a with
  | nil => rfl
  | cons p a ih =>
    obtain ⟨v, idx⟩ := p
    rw [List.reverse_cons, mKept_append, ih]
    by_cases hi : idx ≠ -1 <;> simp [mKept, hi]

theorem mWF_of_append (s : List Int) : ∀ (a b : List (Int × Int)), mWF s (a ++ b) → mWF s b
  | [], _, h => h
  | _ :: a, b, h => mWF_of_append s a b h.1

theorem addMerge_spec (s : List Int) : ∀ (rpre suf : List (Int × Int)) (T : List Int),
    mWF s (rpre.reverse ++ suf) → (T.length : Int) = mNext s suf + mKept rpre →
    ∃ T', addMerge s ((mKept rpre + mKept suf : Nat) : Int) rpre (T ++ mR s suf) (mKept suf : Nat) (mNext s suf)
        = .ok (T' ++ mR s (rpre.reverse ++ suf), mNext s (rpre.reverse ++ suf)) ∧
      (T'.length : Int) = mNext s (rpre.reverse ++ suf) := by
  intro rpre
  induction rpre with
  | nil =>
    intro suf T _ hT
    exact ⟨T, by simp [addMerge], by simpa [mKept] using hT⟩
  | cons p rest ih =>
    intro suf T hwf hT
    obtain ⟨xi, idx⟩ := p
    rw [List.reverse_cons, List.append_assoc, List.singleton_append] at hwf ⊢
    have hw2 : mWF s ((xi, idx) :: suf) := mWF_of_append s _ _ hwf
    have hnl := mNext_le s suf hw2.1
    by_cases hi : idx ≠ -1
    · obtain ⟨h0, hle⟩ := hw2.2 hi
      obtain ⟨I, rfl⟩ := Int.eq_ofNat_of_zero_le h0
      obtain ⟨N, hN⟩ := Int.eq_ofNat_of_zero_le hnl.2
      have hk : mKept ((xi, (I : Int)) :: rest) = mKept rest + 1 := by simp only [mKept, if_pos hi]
      have hk2 : mKept ((xi, (I : Int)) :: suf) = mKept suf + 1 := by simp only [mKept, if_pos hi]
      have hn : mNext s ((xi, (I : Int)) :: suf) = I := by simp only [mNext, if_pos hi]
      have hr : mR s ((xi, (I : Int)) :: suf) = xi :: ((s.drop I).take (N - I) ++ mR s suf) := by
        simp only [mR, if_pos hi, hN, Int.toNat_natCast]
      rw [hk, hN] at hT
      rw [hN] at hle hnl
      have hIN : I ≤ N ∧ N ≤ s.length ∧ T.length = (I + mKept rest) + 1 + (N - I) := by omega
      -- split `T` at the cell written now and the block copied now
      obtain ⟨T0, t, Mid, rfl, hT0, hMid⟩ : ∃ T0 t Mid, T = T0 ++ t :: Mid ∧ T0.length = I + mKept rest ∧
          Mid.length = N - I := by
        have h1 : I + mKept rest < T.length := by omega
        refine ⟨T.take (I + mKept rest), T[I + mKept rest], T.drop (I + mKept rest + 1), by simp, ?_, ?_⟩
        · rw [List.length_take]; omega
        · rw [List.length_drop]; omega
      have hsl : sliceI s I (mNext s suf) = some ((s.drop I).take (N - I)) := by
        rw [hN, sliceI_nat s I N hIN.1 hIN.2.1]
      have hsrc : ((s.drop I).take (N - I)).length = Mid.length := by
        rw [List.length_take, List.length_drop, hMid]; omega
      generalize (s.drop I).take (N - I) = src at hsl hsrc hr
      have hcopy : copyI (T0 ++ t :: Mid ++ mR s suf)
          ((I : Int) + ((mKept ((xi, (I : Int)) :: rest) + mKept suf : Nat) : Int) - ((mKept suf : Nat) : Int))
          (mNext s suf + ((mKept ((xi, (I : Int)) :: rest) + mKept suf : Nat) : Int) - ((mKept suf : Nat) : Int)) src
          = some (T0 ++ t :: (src ++ mR s suf)) := by
        have := copyI_append (T0 ++ [t]) Mid (mR s suf) src
          (lo := (I : Int) + ((mKept ((xi, (I : Int)) :: rest) + mKept suf : Nat) : Int) - ((mKept suf : Nat) : Int))
          (hi := mNext s suf + ((mKept ((xi, (I : Int)) :: rest) + mKept suf : Nat) : Int) - ((mKept suf : Nat) : Int))
          (by rw [hk, List.length_append, List.length_singleton, hT0]; omega)
          (by rw [hk, hN, List.length_append, List.length_append, List.length_singleton, hT0, hMid]; omega)
          (Nat.le_of_eq hsrc)
        rw [hsrc, List.drop_length, List.nil_append] at this
        simpa using this
      have hset : setI (T0 ++ t :: (src ++ mR s suf))
          ((I : Int) + ((mKept ((xi, (I : Int)) :: rest) + mKept suf : Nat) : Int) - ((mKept suf : Nat) : Int) - 1) xi
          = some (T0 ++ mR s ((xi, (I : Int)) :: suf)) := by
        rw [show (I : Int) + ((mKept ((xi, (I : Int)) :: rest) + mKept suf : Nat) : Int) - ((mKept suf : Nat) : Int) - 1
          = (T0.length : Int) by rw [hk, hT0]; omega, setI_append_mid, hr]
      simp only [addMerge, hi, ne_eq, not_false_eq_true, if_true, hsl, hcopy, hset]
      have := ih ((xi, (I : Int)) :: suf) T0 hwf (by rw [hn, hT0]; omega)
      rw [hn, hk2] at this
      rw [hk, show ((mKept rest + 1 + mKept suf : Nat) : Int) = ((mKept rest + (mKept suf + 1) : Nat) : Int) by omega,
        show ((mKept suf : Nat) : Int) + 1 = ((mKept suf + 1 : Nat) : Int) by omega]
      exact this
    · have hi2 : idx = -1 := by simpa using hi
      subst hi2
      simp only [addMerge, ne_eq, not_true_eq_false, if_false]
      have hk : mKept ((xi, (-1 : Int)) :: rest) = mKept rest := by simp [mKept]
      have hk2 : mKept ((xi, (-1 : Int)) :: suf) = mKept suf := by simp [mKept]
      have hn : mNext s ((xi, (-1 : Int)) :: suf) = mNext s suf := by simp [mNext]
      have hr : mR s ((xi, (-1 : Int)) :: suf) = mR s suf := by simp [mR]
      have := ih ((xi, (-1 : Int)) :: suf) T hwf (by rw [hn]; rw [hk] at hT; exact hT)
      rw [hn, hk2, hr] at this
      rw [hk]
      exact this

/-- `indices[i]` after the first loop of `Add` -/
def fIdx (s : List Int) (v : Int) : Int := if v ∈ s then -1 else (searchInts s v : Int)

/-- `indices[i]` after the second loop of `Add`, for the argument `v` preceded by `prev` -/
def gIdx (s : List Int) (prev : Option Int) (v : Int) : Int :=
  if v ∈ s ∨ prev = some v then -1 else (searchInts s v : Int)

def specInd (s : List Int) : Option Int → List Int → List Int
  | _, [] => []
  | prev, v :: xs => gIdx s prev v :: specInd s (some v) xs

theorem length_specInd (s : List Int) : ∀ prev xs, (specInd s prev xs).length = xs.length
  | _, [] => rfl
  | prev, v :: xs => by simp [specInd, length_specInd s (some v) xs]

def newB (s : List Int) (v : Int) : Bool := decide (fIdx s v ≠ -1)

theorem fIdx_ne (s : List Int) (v : Int) : fIdx s v ≠ -1 ↔ v ∉ s := by
  unfold fIdx; split <;> simp_all

theorem addIndices_spec (s : List Int) (hs : SS s) : ∀ (x : List Int) (seen : Int),
    ∃ n : Int, addIndices s x seen = (x.map (fIdx s), n) ∧
      n + (x.countP (newB s) : Nat) = seen + x.length := by
  intro x
  induction x with
  | nil => intro seen; exact ⟨seen, by simp [addIndices]⟩
  | cons v xs ih =>
    intro seen
    have hc : (((searchInts s v : Nat) : Int) < (s.length : Int) ∧ getI s ((searchInts s v : Nat) : Int) = some v) ↔ v ∈ s := by
      rw [mem_iff_searchInts s hs v, getI_natCast]; simp
    by_cases hv : v ∈ s
    · obtain ⟨n, h1, h2⟩ := ih (seen + 1)
      refine ⟨n, ?_, ?_⟩
      · simp only [addIndices]; rw [if_pos (hc.mpr hv), h1]; simp [fIdx, hv]
      · have : ¬ fIdx s v ≠ -1 := by rw [fIdx_ne]; simpa using hv
        rw [List.countP_cons_of_neg (by simpa [newB] using this)]
        simp only [List.length_cons]; push_cast; omega
    · obtain ⟨n, h1, h2⟩ := ih seen
      refine ⟨n, ?_, ?_⟩
      · simp only [addIndices]; rw [if_neg (fun h => hv (hc.mp h)), h1]; simp [fIdx, hv]
      · have : fIdx s v ≠ -1 := by rw [fIdx_ne]; exact hv
        rw [List.countP_cons_of_pos (by simpa [newB] using this)]
        simp only [List.length_cons]; push_cast; omega

theorem addDups_spec (s : List Int) : ∀ (xs : List Int) (x0 i0 seen : Int),
    ∃ n : Int, addDups (x0 :: xs) (i0 :: xs.map (fIdx s)) seen = (i0 :: specInd s (some x0) xs, n) ∧
      n + (mKept (xs.zip (specInd s (some x0) xs)) : Nat) = seen + (xs.countP (newB s) : Nat) := by
  intro xs
  induction xs with
  | nil => intro x0 i0 seen; exact ⟨seen, by simp [addDups, specInd, mKept]⟩
  | cons x1 xs ih =>
    intro x0 i0 seen
    simp only [List.map_cons, addDups]
    by_cases hd : x0 = x1 ∧ fIdx s x1 ≠ -1
    · rw [if_pos hd]
      obtain ⟨n, h1, h2⟩ := ih x1 (-1) (seen + 1)
      have hg : gIdx s (some x0) x1 = -1 := by simp [gIdx, hd.1]
      refine ⟨n, ?_, ?_⟩
      · rw [h1]; simp [specInd, hg]
      · rw [List.countP_cons_of_pos (by simpa [newB] using hd.2)]
        simp only [specInd, hg, List.zip_cons_cons, mKept]
        simp only [ne_eq, not_true_eq_false, if_false]
        push_cast; omega
    · rw [if_neg hd]
      obtain ⟨n, h1, h2⟩ := ih x1 (fIdx s x1) seen
      by_cases hf : fIdx s x1 ≠ -1
      · have hne : x0 ≠ x1 := fun h => hd ⟨h, hf⟩
        have hx1 : x1 ∉ s := (fIdx_ne s x1).mp hf
        have hg : gIdx s (some x0) x1 = fIdx s x1 := by
          simp [gIdx, fIdx, hx1, hne]
        refine ⟨n, ?_, ?_⟩
        · rw [h1]; simp [specInd, hg]
        · rw [List.countP_cons_of_pos (by simpa [newB] using hf)]
          simp only [specInd, hg, List.zip_cons_cons, mKept]
          rw [if_pos hf]
          push_cast; omega
      · have hf' : fIdx s x1 = -1 := by simpa using hf
        have hx1 : x1 ∈ s := by
          by_contra h; exact hf ((fIdx_ne s x1).mpr h)
        have hg : gIdx s (some x0) x1 = -1 := by simp [gIdx, hx1]
        refine ⟨n, ?_, ?_⟩
        · rw [h1]; simp [specInd, hg, hf']
        · rw [List.countP_cons_of_neg (by simpa [newB] using hf)]
          simp only [specInd, hg, List.zip_cons_cons, mKept]
          simp only [ne_eq, not_true_eq_false, if_false]
          omega

theorem add_phases (s : List Int) (hs : SS s) (x : List Int) :
    ∃ seen2 : Int, addDups x (addIndices s x 0).1 (addIndices s x 0).2 = (specInd s none x, seen2) ∧
      seen2 + (mKept (x.zip (specInd s none x)) : Nat) = x.length := by
  cases x with
  | nil => exact ⟨0, by simp [addIndices, addDups, specInd, mKept]⟩
  | cons x0 xs =>
    obtain ⟨n1, h1, h1c⟩ := addIndices_spec s hs (x0 :: xs) 0
    rw [h1]
    simp only [List.map_cons]
    obtain ⟨n2, h2, h2c⟩ := addDups_spec s xs x0 (fIdx s x0) n1
    have hg : gIdx s none x0 = fIdx s x0 := by simp [gIdx, fIdx]
    refine ⟨n2, ?_, ?_⟩
    · rw [h2]; simp [specInd, hg]
    · simp only [specInd, hg, List.zip_cons_cons, mKept]
      by_cases hf : fIdx s x0 ≠ -1
      · rw [List.countP_cons_of_pos (by simpa [newB] using hf)] at h1c
        rw [if_pos hf]; simp only [List.length_cons] at h1c ⊢; push_cast at h1c ⊢; omega
      · rw [List.countP_cons_of_neg (by simpa [newB] using hf)] at h1c
        rw [if_neg hf]; simp only [List.length_cons] at h1c ⊢; push_cast at h1c ⊢; omega

theorem searchInts_mono (s : List Int) (v w : Int) (h : v ≤ w) : searchInts s v ≤ searchInts s w := by
  by_contra hlt
  have hlt : searchInts s w < searchInts s v := by omega
  have hl : searchInts s w < s.length := by have := searchInts_le s v; omega
  have h1 := lt_of_lt_searchInts s v _ hlt hl
  have h2 : w ≤ s[searchInts s w] := by
    have := List.findIdx_getElem (p := fun u => decide (w ≤ u)) (xs := s) (w := hl)
    exact of_decide_eq_true this
  omega

theorem ge_of_mem_drop_searchInts (s : List Int) (hs : SS s) (v : Int) (n : Nat) (hn : searchInts s v ≤ n) :
    ∀ y ∈ s.drop n, v ≤ y := by
  intro y hy
  obtain ⟨i, hi, rfl⟩ := List.getElem_of_mem hy
  rw [List.getElem_drop]
  exact ge_of_searchInts_le s hs v (n + i) (by omega) (by simp at hi; omega)

theorem lt_of_mem_take_searchInts (s : List Int) (v : Int) (n : Nat) (hn : n ≤ searchInts s v) :
    ∀ y ∈ s.take n, y < v := by
  intro y hy
  obtain ⟨i, hi, rfl⟩ := List.getElem_of_mem hy
  rw [List.getElem_take]
  simp at hi
  exact lt_of_lt_searchInts s v i (by omega) (by omega)

/-- the values the third loop of `Add` inserts: the arguments without repeats that are not in `s` -/
def newVals (s : List Int) (prev : Option Int) (x : List Int) : List Int := (dropRepeats prev x).filter (· ∉ s)

theorem mR_eq_union (s : List Int) (hs : SS s) : ∀ (x : List Int) (prev : Option Int), x.Pairwise (· ≤ ·) →
    mWF s (x.zip (specInd s prev x)) ∧
    (∀ w, (∀ y ∈ x, w ≤ y) → (searchInts s w : Int) ≤ mNext s (x.zip (specInd s prev x))) ∧
    (∀ y ∈ newVals s prev x, ∀ z ∈ s.take (mNext s (x.zip (specInd s prev x))).toNat, z < y) ∧
    mR s (x.zip (specInd s prev x)) = union (s.drop (mNext s (x.zip (specInd s prev x))).toNat) (newVals s prev x) := by
  intro x
  induction x with
  | nil =>
    intro prev _
    refine ⟨trivial, fun w _ => ?_, fun y hy => absurd hy List.not_mem_nil, ?_⟩
    · simp only [specInd, List.zip_nil_right, mNext]
      have := searchInts_le s w; omega
    · simp [specInd, mR, mNext, newVals, dropRepeats, union]
  | cons v xs ih =>
    intro prev hx
    obtain ⟨hv, hxs⟩ := List.pairwise_cons.mp hx
    obtain ⟨ihwf, ihlb, ihlt, iheq⟩ := ih (some v) hxs
    have hNle := mNext_le s _ ihwf
    simp only [specInd, List.zip_cons_cons]
    by_cases hg : v ∈ s ∨ prev = some v
    · have hgi : gIdx s prev v = -1 := by simp [gIdx, hg]
      have hK : newVals s prev (v :: xs) = newVals s (some v) xs := by
        unfold newVals
        rw [dropRepeats]
        by_cases hp : prev = some v
        · rw [if_pos hp]
        · rw [if_neg hp, List.filter_cons_of_neg (by simpa using hg.resolve_right hp)]
      rw [hgi, hK]
      simp only [mWF, mNext, mR, ne_eq, not_true_eq_false, if_false, false_implies, and_true]
      exact ⟨ihwf, fun w hw => ihlb w fun y hy => hw y (List.mem_cons_of_mem _ hy), ihlt, iheq⟩
    · have hvs : v ∉ s := fun h => hg (Or.inl h)
      have hgi : gIdx s prev v = (searchInts s v : Int) := by simp [gIdx, hg]
      have hne : ((searchInts s v : Nat) : Int) ≠ -1 := by omega
      have hK : newVals s prev (v :: xs) = v :: newVals s (some v) xs := by
        unfold newVals
        rw [dropRepeats, if_neg fun h => hg (Or.inr h), List.filter_cons_of_pos (by simpa using hvs)]
      have hKgt : ∀ y ∈ newVals s (some v) xs, v < y := fun y hy =>
        (dropRepeats_spec xs (some v) hxs fun p hp y hy => by cases hp; exact hv y hy).2.1 v rfl y
          (List.mem_of_mem_filter hy)
      have hlbN := ihlb v hv
      rw [hgi, hK]
      simp only [mWF, mNext, mR, hne, ne_eq, not_false_eq_true, if_true, Int.toNat_natCast]
      have F1 : ∀ y ∈ s.drop (searchInts s v), v < y := fun y hy => by
        have h1 := ge_of_mem_drop_searchInts s hs v _ (Nat.le_refl _) y hy
        have h2 : y ≠ v := fun h => hvs (h ▸ List.mem_of_mem_drop hy)
        omega
      have F2 : ∀ z ∈ s.take (searchInts s v), z < v := lt_of_mem_take_searchInts s v _ (Nat.le_refl _)
      have F3 : ∀ w, w ≤ v → searchInts s w ≤ searchInts s v := fun w => searchInts_mono s w v
      generalize mNext s (xs.zip (specInd s (some v) xs)) = N' at *
      generalize searchInts s v = lb at *
      have hdec : s.drop lb = (s.drop lb).take (N'.toNat - lb) ++ s.drop N'.toNat := by
        conv_lhs => rw [← List.take_append_drop (N'.toNat - lb) (s.drop lb)]
        rw [List.drop_drop]; congr 2; omega
      refine ⟨⟨ihwf, fun _ => ⟨by omega, hlbN⟩⟩, fun w hw => ?_, fun y hy z hz => ?_, ?_⟩
      · have := F3 w (hw v List.mem_cons_self); omega
      · rcases List.mem_cons.mp hy with rfl | hy
        · exact F2 z hz
        · exact Int.lt_trans (F2 z hz) (hKgt y hy)
      · rw [iheq, ← union_append_of_lt _ _ fun a ha k hk => ihlt k hk a ?_, ← hdec, union_cons_of_lt _ F1]
        rw [← List.drop_take] at ha
        exact List.mem_of_mem_drop ha

theorem add_eq (s : List Int) (hs : SS s) (args : List Int) :
    add s args = .ok (union s (newVals s none (sortInts args))) := by
  unfold add
  generalize hx : sortInts args = x
  have hxs : x.Pairwise (· ≤ ·) := hx ▸ sortInts_sorted args
  obtain ⟨seen2, hph, hcnt⟩ := add_phases s hs x
  simp only
  rw [hph]
  simp only
  obtain ⟨hwf, _, hlt, heq⟩ := mR_eq_union s hs x none hxs
  generalize x.zip (specInd s none x) = pairs at *
  have hlen : ((s.length : Int) + (x.length : Int) - seen2) = ((s.length + mKept pairs : Nat) : Int) := by
    push_cast; omega
  have hoff : ((x.length : Int) - seen2) = ((mKept pairs.reverse + mKept ([] : List (Int × Int)) : Nat) : Int) := by
    rw [mKept_reverse]; simp only [mKept]; push_cast; omega
  rw [hlen, hoff, if_neg (by omega)]
  obtain ⟨T', hrun, hT'⟩ := addMerge_spec s pairs.reverse [] (List.replicate (s.length + mKept pairs) 0)
    (by simpa using hwf) (by simp [mNext, mKept_reverse])
  simp only [mR, List.append_nil, mKept, mNext, List.reverse_reverse, Int.natCast_zero] at hrun hT'
  simp only [mKept, Int.toNat_natCast]
  rw [hrun]
  simp only
  have hN := mNext_le s pairs hwf
  generalize mNext s pairs = N at *
  obtain ⟨n, rfl⟩ := Int.eq_ofNat_of_zero_le hN.2
  rw [Int.toNat_natCast] at hlt heq
  rw [sliceI_zero_nat s n (by omega)]
  simp only
  have := copyI_append [] T' (mR s pairs) (s.take n) (lo := 0) (hi := (n : Int)) rfl (by simpa using hT'.symm)
    (by rw [List.length_take]; omega)
  rw [List.nil_append, List.nil_append, List.drop_of_length_le (by rw [List.length_take]; omega), List.nil_append] at this
  rw [this, heq, ← union_append_of_lt _ _ fun a ha k hk => hlt k hk a ha, List.take_append_drop]

theorem add_result (s : List Int) (hs : SS s) (args : List Int) :
    ∃ r, add s args = .ok r ∧ SS r ∧ ∀ y, y ∈ r ↔ (y ∈ s ∨ y ∈ args) := by
  obtain ⟨h1, _, h3⟩ := dropRepeats_spec (sortInts args) none (sortInts_sorted args) (fun p hp => by cases hp)
  refine ⟨_, add_eq s hs args, union_sorted _ _ hs (h1.sublist List.filter_sublist), fun y => ?_⟩
  rw [mem_union, newVals, List.mem_filter, h3, mem_sortInts]
  by_cases hy : y ∈ s <;> simp [hy]

end SortInts
