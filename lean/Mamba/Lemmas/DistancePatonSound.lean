import Mamba.Lemmas.DistancePatonInv
/-!
# Paton's phase: the tree invariant is kept, and the phase returns

`fund_cycle` is the cycle found at a back edge; `ps_closeCycle` / `ps_addLeaf` keep the scan invariant `PS`; `PO` is
the invariant between two iterations of `for len(X) > 0`; `patonScan_ind` is the induction over the neighbour list
that all invariants of the phase go through. None of this needs the graph to be loop-free.
-/
namespace GDist
open GraphSpec Model

variable {a : G}


theorem fund_cycle (hsym : ∀ u v, a.adj u v = a.adj v u) {st : PatonSt} {v u k : Nat} (inv : PS a st v)
    (huX : u ∈ st.X) (hadj : a.adj v u = true) (hk1 : (par st.T)^[k] v = par st.T u)
    (hk2 : dep st.depth (par st.T u) + k = dep st.depth v) (hne : par st.T u ≠ v) :
    IsCycleSeq a (u :: upPath st.T k v) ∧
      cycCodes (u :: upPath st.T k v) = [edgeCode u (par st.T u), edgeCode u v] ++ backCodes st.T k v := by
  obtain ⟨hun, hut, hu0⟩ := inv.xin u huX
  obtain ⟨hvn, hvt⟩ := inv.cur
  have pdep' : ∀ x, x < a.n → inTree st.T x → x ≠ 0 → dep st.depth x = dep st.depth (par st.T x) + 1 :=
    fun x hx ht h0 => (inv.pdep x hx ht h0).1
  have hkd : dep st.depth ((par st.T)^[k] v) + k = dep st.depth v := by rw [hk1]; exact hk2
  obtain ⟨t, ht⟩ := upPath_head st.T k v
  have hlast : (u :: upPath st.T k v).getLastD 0 = par st.T u := by
    rw [List.getLastD_eq_getLast?, ht, List.getLast?_cons_cons, ← ht, upPath_getLast?, hk1]; rfl
  refine ⟨⟨?_, ?_, ?_, ?_, ?_⟩, ?_⟩
  · have hk : k ≠ 0 := by
      intro h0; subst h0
      exact hne hk1.symm
    simp [upPath_length]; omega
  · rw [List.nodup_cons]
    refine ⟨?_, upPath_nodup inv.root inv.ptree pdep' hvn hvt hkd⟩
    intro hm
    obtain ⟨i, _, hi⟩ := (mem_upPath st.T k v u).1 hm
    cases i with
    | zero =>
      have hvu : v = u := hi
      exact inv.vnx (hvu ▸ huX)
    | succ i =>
      rw [Function.iterate_succ_apply'] at hi
      obtain ⟨h1, h2⟩ := iter_in inv.ptree i v hvn hvt
      exact inv.leaf _ h1 h2 (hi ▸ huX)
  · intro x hx
    rcases List.mem_cons.1 hx with rfl | hx
    · exact hun
    · obtain ⟨i, _, hi⟩ := (mem_upPath st.T k v x).1 hx
      rw [← hi]; exact (iter_in inv.ptree i v hvn hvt).1
  · apply chainAdj_cons (chainAdj_upPath hsym inv.root inv.ptree inv.pdep k v hvn hvt hkd)
    intro y hy
    rw [ht] at hy; simp at hy; subst hy
    exact hadj
  · rw [hlast]
    exact (inv.pdep u hun hut hu0).2
  · unfold cycCodes
    rw [hlast]
    simp only [List.headD_cons]
    rw [ht, pathCodes, ← ht, pathCodes_upPath]
    rfl

theorem AncD.refl (T : Array Int) (D : Array Nat) (v : Nat) : AncD T D v v := ⟨0, rfl, rfl⟩

theorem AncD.le {T : Array Int} {D : Array Nat} {z x : Nat} : AncD T D z x → dep D z ≤ dep D x := by
  rintro ⟨k, _, h⟩; omega

section step
variable {st : PatonSt} {v u : Nat}

theorem PS.dep_par_le (inv : PS a st v) (hu : u ∈ st.X ∨ u = v) :
    dep st.depth (par st.T u) ≤ dep st.depth v := by
  rcases hu with hu | rfl
  · exact (inv.xanc u hu).le
  · by_cases hv0 : u = 0
    · rw [hv0, par_root inv.root]; exact Nat.le_refl _
    · rw [(inv.pdep u inv.cur.1 inv.cur.2 hv0).1]; exact Nat.le_succ _

theorem ps_closeCycle (inv : PS a st v) : PS a (closeCycle st u v) v :=
  { inv with exam := fun x hx ht hxX hxv w hw hwn => edgeRemoved_tail (inv.exam x hx ht hxX hxv w hw hwn) }

theorem AncD.addLeaf (inv : PS a st v) (hnotin : ¬ inTree st.T u) {z x : Nat} (hx : x < a.n) (ht : inTree st.T x)
    (htz : inTree st.T z) (h : AncD st.T st.depth z x) :
    AncD (addLeaf st u v).T (addLeaf st u v).depth z x := by
  have hne : ∀ x, inTree st.T x → x ≠ u := fun x hx h0 => hnotin (h0 ▸ hx)
  have hiter : ∀ k x, x < a.n → inTree st.T x → (par (GDist.addLeaf st u v).T)^[k] x = (par st.T)^[k] x := by
    intro k
    induction k with
    | zero => intro x _ _; rfl
    | succ k ihk =>
      intro x hx ht
      rw [Function.iterate_succ_apply, Function.iterate_succ_apply, par_addLeaf_of_ne (hne x ht)]
      exact ihk _ (inv.ptree x hx ht).2.1 (inv.ptree x hx ht).2.2
  obtain ⟨k, h1, h2⟩ := h
  exact ⟨k, by rw [hiter k x hx ht]; exact h1, by
    rw [dep_addLeaf_of_ne (hne z htz), dep_addLeaf_of_ne (hne x ht)]; exact h2⟩

theorem ps_addLeaf (hsym : ∀ u v, a.adj u v = a.adj v u) (inv : PS a st v) (hun : u < a.n)
    (hadj : a.adj v u = true) (hnotin : ¬ inTree st.T u) : PS a (addLeaf st u v) v := by
  have huT : u < st.T.size := by rw [inv.tsz]; exact hun
  have huD : u < st.depth.size := by rw [inv.dsz]; exact hun
  obtain ⟨hvn, hvt⟩ := inv.cur
  have hne : ∀ x, inTree st.T x → x ≠ u := fun x hx h0 => hnotin (h0 ▸ hx)
  have huv : u ≠ v := (hne v hvt).symm
  have hu0 : u ≠ 0 := fun h0 => hnotin (by rw [h0, inTree, inv.root]; omega)
  have hpu : par (addLeaf st u v).T u = v := par_addLeaf_self huT
  have hpx : ∀ x, x < a.n → inTree st.T x →
      par (addLeaf st u v).T x = par st.T x ∧ inTree st.T (par st.T x) ∧ par st.T x < a.n :=
    fun x hx ht => ⟨par_addLeaf_of_ne (hne x ht), (inv.ptree x hx ht).2.2, (inv.ptree x hx ht).2.1⟩
  have hvX : v ∉ u :: st.X := fun hm => (List.mem_cons.1 hm).elim (fun h => huv h.symm) inv.vnx
  have hanc : ∀ x ∈ st.X, ∀ y, y < a.n → inTree st.T y → AncD st.T st.depth (par st.T x) y →
      AncD (addLeaf st u v).T (addLeaf st u v).depth (par (addLeaf st u v).T x) y := by
    intro x hx y hy hty h
    obtain ⟨h1, h2, _⟩ := inv.xin x hx
    rw [(hpx x h1 h2).1]
    exact h.addLeaf inv hnotin hy hty (hpx x h1 h2).2.1
  refine { toPTree := { tsz := by rw [← inv.tsz]; exact Array.size_setIfInBounds,
                        dsz := by rw [← inv.dsz]; exact Array.size_setIfInBounds,
                        root := ?_, ptree := ?_, pdep := ?_ },
           xin := ?_, xnd := ?_, vnx := hvX,
           cur := ⟨hvn, inTree_addLeaf_of_inTree hnotin hvt⟩, leaf := ?_, xanc := ?_, xpair := ?_, exam := ?_ }
  · rw [getD_addLeaf_of_ne (Ne.symm hu0)]; exact inv.root
  · intro x hx ht
    by_cases hxu : x = u
    · subst hxu
      rw [hpu, getD_addLeaf_self huT]
      exact ⟨by omega, hvn, inTree_addLeaf_of_inTree hnotin hvt⟩
    · obtain ⟨h0, h1, h2⟩ := inv.ptree x hx (inTree_of_inTree_addLeaf ht hxu)
      rw [par_addLeaf_of_ne hxu, getD_addLeaf_of_ne hxu]
      exact ⟨h0, h1, inTree_addLeaf_of_inTree hnotin h2⟩
  · intro x hx ht hx0
    by_cases hxu : x = u
    · subst hxu
      rw [hpu, dep_addLeaf_self huD, dep_addLeaf_of_ne (Ne.symm huv)]
      exact ⟨rfl, by rw [hsym]; exact hadj⟩
    · have htx := inTree_of_inTree_addLeaf ht hxu
      rw [(hpx x hx htx).1, dep_addLeaf_of_ne hxu, dep_addLeaf_of_ne (hne _ (hpx x hx htx).2.1)]
      exact inv.pdep x hx htx hx0
  · intro x hx
    rcases List.mem_cons.1 hx with rfl | hx'
    · exact ⟨hun, inTree_addLeaf_self huT, hu0⟩
    · obtain ⟨h1, h2, h3⟩ := inv.xin x hx'
      exact ⟨h1, inTree_addLeaf_of_inTree hnotin h2, h3⟩
  · exact List.nodup_cons.2 ⟨fun hm => hnotin (inv.xin u hm).2.1, inv.xnd⟩
  · intro x hx ht
    by_cases hxu : x = u
    · subst hxu; rw [hpu]; exact hvX
    · have htx := inTree_of_inTree_addLeaf ht hxu
      rw [(hpx x hx htx).1]
      intro hm
      rcases List.mem_cons.1 hm with h | h
      · exact hne _ (hpx x hx htx).2.1 h
      · exact inv.leaf x hx htx h
  · intro x hx
    rcases List.mem_cons.1 hx with rfl | hx'
    · rw [hpu]; exact AncD.refl _ _ v
    · exact hanc x hx' v hvn hvt (inv.xanc x hx')
  · refine List.pairwise_cons.2 ⟨fun lo hlo => ?_, List.Pairwise.imp_of_mem ?_ inv.xpair⟩
    · rw [hpu]; exact hanc lo hlo v hvn hvt (inv.xanc lo hlo)
    · intro up lo hup hlo hA
      obtain ⟨u1, u2, _⟩ := inv.xin up hup
      rw [(hpx up u1 u2).1]
      exact hanc lo hlo _ (hpx up u1 u2).2.2 (hpx up u1 u2).2.1 hA
  · intro x hx ht hxX hxv w hw hwn
    have hxu : x ≠ u := fun h => hxX (h ▸ List.mem_cons_self)
    exact edgeRemoved_tail (inv.exam x hx (inTree_of_inTree_addLeaf ht hxu)
      (fun h => hxX (List.mem_cons_of_mem _ h)) hxv w hw hwn)

end step

/-- invariant between two iterations of `for len(X) > 0` -/
structure PO (a : G) (st : PatonSt) : Prop extends PTree a st.T st.depth where
  xin : ∀ x ∈ st.X, x < a.n ∧ inTree st.T x ∧ (x ≠ 0 ∨ st.X = [0])
  xnd : st.X.Nodup
  leaf : ∀ x, x < a.n → inTree st.T x → x ≠ 0 → par st.T x ∉ st.X
  xpair : st.X.Pairwise fun up lo => AncD st.T st.depth (par st.T lo) (par st.T up)
  exam : ∀ x, x < a.n → inTree st.T x → x ∉ st.X → ∀ w, a.adj x w = true → w < a.n →
    edgeRemoved st.removed w x = true


theorem ps_of_po {st : PatonSt} {v : Nat} {X' : List Nat} (o : PO a st) (hX : st.X = v :: X') :
    PS a { st with X := X' } v ∧ ∀ x ∈ X', par st.T x ≠ v := by
  have hmem : ∀ x ∈ X', x ∈ st.X := fun x hx => by rw [hX]; exact List.mem_cons_of_mem _ hx
  have hvX : v ∈ st.X := by rw [hX]; exact List.mem_cons_self
  obtain ⟨hvn, hvt, hv0⟩ := o.xin v hvX
  have hnd := o.xnd
  rw [hX, List.nodup_cons] at hnd
  have hpair := o.xpair
  rw [hX, List.pairwise_cons] at hpair
  -- the root is on the stack only at the very beginning
  have hnil : st.X = [0] → X' = [] := fun h => by rw [hX] at h; exact (List.cons.inj h).2
  have hX'0 : ∀ x ∈ X', x ≠ 0 := fun x hx =>
    (o.xin x (hmem x hx)).2.2.resolve_right fun h => List.not_mem_nil (hnil h ▸ hx)
  refine ⟨{ toPTree := o.toPTree,
            xin := fun x hx => ⟨(o.xin x (hmem x hx)).1, (o.xin x (hmem x hx)).2.1, hX'0 x hx⟩,
            xnd := hnd.2, vnx := hnd.1, cur := ⟨hvn, hvt⟩,
            leaf := fun x hx ht hm => by
              by_cases hx0 : x = 0
              · subst hx0
                rw [par_root o.root] at hm
                exact hX'0 0 hm rfl
              · exact o.leaf x hx ht hx0 (hmem _ hm),
            xanc := fun x hx => by
              obtain ⟨k, h1, h2⟩ := hpair.1 x hx
              have hv0' : v ≠ 0 := hv0.resolve_right fun h => List.not_mem_nil (hnil h ▸ hx)
              have hd := (o.pdep v hvn hvt hv0').1
              exact ⟨k + 1, by rw [Function.iterate_succ_apply]; exact h1, by
                show dep st.depth (par st.T x) + (k + 1) = dep st.depth v
                omega⟩,
            xpair := hpair.2,
            exam := fun x hx ht hxX hxv => o.exam x hx ht (by
              rw [hX]; intro hm
              rcases List.mem_cons.1 hm with h | h
              · exact hxv h
              · exact hxX h) }, ?_⟩
  intro x hx hp
  obtain ⟨h1, h2, _⟩ := o.xin x (hmem x hx)
  exact o.leaf x h1 h2 (hX'0 x hx) (hp ▸ hvX)

theorem po_of_ps {st : PatonSt} {v : Nat} (inv : PS a st v)
    (hrm : ∀ w, a.adj v w = true → w < a.n → edgeRemoved st.removed w v = true) : PO a st :=
  { toPTree := inv.toPTree,
    xin := fun x hx => ⟨(inv.xin x hx).1, (inv.xin x hx).2.1, .inl (inv.xin x hx).2.2⟩,
    xnd := inv.xnd, leaf := fun x hx ht _ => inv.leaf x hx ht, xpair := inv.xpair,
    exam := fun x hx ht hxX w hw hwn => by
      by_cases hxv : x = v
      · subst hxv; exact hrm w hw hwn
      · exact inv.exam x hx ht hxX hxv w hw hwn }

theorem po_init (hn : 0 < a.n) : PO a (patonInit a.n) := by
  have h0 : ∀ x ∈ (patonInit a.n).X, x = 0 := fun x hx => List.mem_singleton.1 hx
  have hin : ∀ x, inTree (patonInit a.n).T x → x = 0 := fun x => (inTree_patonInit hn).1
  refine { toPTree := { tsz := by simp [patonInit], dsz := by simp [patonInit], root := ?_, ptree := ?_,
                        pdep := fun x _ ht hx0 => absurd (hin x ht) hx0 },
           xin := ?_,
           xnd := List.pairwise_singleton _ _, leaf := fun x _ ht hx0 => absurd (hin x ht) hx0,
           xpair := List.pairwise_singleton _ _, exam := ?_ }
  · rw [getD_patonInit hn]; rfl
  · intro x _ ht
    obtain rfl := hin x ht
    rw [par_patonInit hn, getD_patonInit hn]
    exact ⟨Int.le_refl _, hn, ht⟩
  · intro x hx
    obtain rfl := h0 x hx
    exact ⟨hn, (inTree_patonInit hn).2 rfl, .inr rfl⟩
  · intro x _ ht hxX
    obtain rfl := hin x ht
    exact absurd (List.mem_singleton.2 rfl) hxX

/-- Induction over the neighbours `us` of `v` still to be looked at, for an invariant `P us st` that implies `PS`:
the scan returns a state, the invariant holds there, and exactly the edges `u – v`, `u ∈ us`, have been removed in
addition. -/
theorem patonScan_ind (hsym : ∀ u v, a.adj u v = a.adj v u) {v : Nat} (P : List Nat → PatonSt → Prop)
    (hP : ∀ us st, P us st → PS a st v)
    (hc : ∀ u us st, P (u :: us) st → u ∉ us → u < a.n → a.adj v u = true → edgeRemoved st.removed u v = false →
      inTree st.T u → u ∈ st.X ∨ u = v → P us (closeCycle st u v))
    (hl : ∀ u us st, P (u :: us) st → u ∉ us → u < a.n → a.adj v u = true → edgeRemoved st.removed u v = false →
      ¬ inTree st.T u → P us (addLeaf st u v)) :
    ∀ (us : List Nat) (st : PatonSt), P us st → us.Nodup →
      (∀ u ∈ us, u < a.n ∧ a.adj v u = true ∧ edgeRemoved st.removed u v = false) →
      ∃ st', patonScan v us st = .ok st' ∧ P [] st' ∧
        ∀ w, w ∈ us ∨ edgeRemoved st.removed w v = true → edgeRemoved st'.removed w v = true := by
  intro us
  induction us with
  | nil => intro st h _ _; exact ⟨st, rfl, h, fun w hw => hw.resolve_left List.not_mem_nil⟩
  | cons u us ih =>
    intro st h hnd hus
    have inv := hP _ _ h
    obtain ⟨hun, hadj, hnr⟩ := hus u List.mem_cons_self
    obtain ⟨hunot, hnd'⟩ := List.nodup_cons.1 hnd
    -- both successor states have removed the edge `u – v` and nothing else
    have next : ∀ s1 : PatonSt, s1.removed = (u, v) :: st.removed → P us s1 →
        ∃ st', patonScan v us s1 = .ok st' ∧ P [] st' ∧
          ∀ w, w ∈ u :: us ∨ edgeRemoved st.removed w v = true → edgeRemoved st'.removed w v = true := by
      intro s1 hrm h1
      obtain ⟨st', e, hP', hrem⟩ := ih s1 h1 hnd' (fun u' hu' => by
        obtain ⟨h1, h2, h3⟩ := hus u' (List.mem_cons_of_mem _ hu')
        refine ⟨h1, h2, ?_⟩
        rw [hrm, Bool.eq_false_iff]
        intro hh
        rcases edgeRemoved_cons.1 hh with ⟨h4, _⟩ | ⟨h5, h4⟩ | h4
        · exact hunot (h4 ▸ hu')
        · exact hunot (by rw [h5, h4]; exact hu')
        · rw [h3] at h4; cases h4)
      refine ⟨st', e, hP', fun w hw => hrem w ?_⟩
      rw [hrm]
      rcases hw with hw | hw
      · rcases List.mem_cons.1 hw with rfl | hw
        · exact .inr (edgeRemoved_cons.2 (.inl ⟨rfl, rfl⟩))
        · exact .inl hw
      · exact .inr (edgeRemoved_tail hw)
    by_cases ht : inTree st.T u
    · -- an unremoved edge to a tree vertex leads to the stack (or is a loop at `v`)
      have hux : u ∈ st.X ∨ u = v := by
        by_contra hno
        have := inv.exam u hun ht (fun h => hno (.inl h)) (fun h => hno (.inr h)) v (by rw [hsym]; exact hadj)
          inv.cur.1
        rw [edgeRemoved_symm, hnr] at this
        cases this
      rw [patonScan_closeCycle inv.tsz inv.dsz inv.ptree inv.cur.1 inv.cur.2 hun ht (inv.dep_par_le hux)]
      exact next _ rfl (hc u us st h hunot hun hadj hnr ht hux)
    · rw [patonScan_addLeaf inv.tsz inv.dsz inv.cur.1 hun ht]
      exact next _ rfl (hl u us st h hunot hun hadj hnr ht)

/-! Fuel: `|X| + #{x | T[x] = -1}` does not change during a scan (a new leaf is pushed) and drops by one with each pop. -/

theorem patonScan_total (hsym : ∀ u v, a.adj u v = a.adj v u) {v : Nat} (us : List Nat) (st : PatonSt)
    (inv : PS a st v) (hnd : us.Nodup)
    (hus : ∀ u ∈ us, u < a.n ∧ a.adj v u = true ∧ edgeRemoved st.removed u v = false) :
    ∃ st', patonScan v us st = .ok st' ∧ PS a st' v ∧
      (∀ w, w ∈ us ∨ edgeRemoved st.removed w v = true → edgeRemoved st'.removed w v = true) ∧
      st'.X.length + st'.T.count (-1) = st.X.length + st.T.count (-1) := by
  obtain ⟨st', e, ⟨i', m'⟩, r'⟩ := patonScan_ind hsym
    (fun _ s => PS a s v ∧ s.X.length + s.T.count (-1) = st.X.length + st.T.count (-1))
    (fun _ _ h => h.1) (fun u _ s h _ _ _ _ _ _ => ⟨ps_closeCycle h.1, h.2⟩)
    (fun u _ s h _ hun hadj _ ht => by
      refine ⟨ps_addLeaf hsym h.1 hun hadj ht, ?_⟩
      have := count_addLeaf (v := v) (show u < s.T.size by rw [h.1.tsz]; exact hun) ht
      rw [← h.2]
      show (u :: s.X).length + (addLeaf s u v).T.count (-1) = _
      rw [List.length_cons]
      omega)
    us st ⟨inv, rfl⟩ hnd hus
  exact ⟨st', e, i', r', m'⟩

theorem patonLoop_total (hsym : ∀ u v, a.adj u v = a.adj v u) :
    ∀ (fuel : Nat) (st : PatonSt), PO a st → st.X.length + st.T.count (-1) + 1 ≤ fuel →
      ∃ st', patonLoop a fuel st = .ok st' := by
  intro fuel
  induction fuel with
  | zero => intro st _ hf; omega
  | succ f ih =>
    intro st o hf
    unfold patonLoop
    match hX : st.X with
    | [] => exact ⟨st, rfl⟩
    | v :: X' =>
      obtain ⟨st', e, inv', hrm, hm⟩ := patonScan_total hsym _ { st with X := X' } (ps_of_po o hX).1
        ((G.nodup_nbrs a v).filter _) (fun u => mem_liveNbrs.1)
      simp only [e]
      refine ih st' (po_of_ps inv' fun w hw hwn => hrm w ?_) ?_
      · cases hh : edgeRemoved st.removed w v with
        | true => exact .inr rfl
        | false => exact .inl (mem_liveNbrs.2 ⟨hwn, hw, hh⟩)
      · have : st.X.length = X'.length + 1 := by rw [hX]; rfl
        simp only at hm
        omega

theorem paton_total (a : G) (hsym : ∀ u v, a.adj u v = a.adj v u) (hn : 0 < a.n) :
    ∃ st, patonLoop a (a.n + 1) (patonInit a.n) = .ok st := by
  refine patonLoop_total hsym _ _ (po_init hn) ?_
  have := count_patonInit hn
  show 1 + (patonInit a.n).T.count (-1) + 1 ≤ a.n + 1
  omega

end GDist
