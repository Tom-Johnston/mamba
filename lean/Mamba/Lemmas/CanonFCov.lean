import Mamba.Lemmas.CanonFWalk
import Mamba.Lemmas.CanonFCertJ
import Mamba.Lemmas.CanonFPruneSound
import Mamba.Lemmas.CanonFH2Best
import Mamba.Lemmas.IRLeafPos
import Mamba.Lemmas.CanonFAllFrames
/-!
# Coverage of the processed children of every stack frame (state-level invariant of the depth-first search)

For every stack frame (level `L`, target cell `st` of the tree node `nodeL vs L`, members `cellL vs L st` in ascending
order, visited in descending order) every PROCESSED child `w` is covered (`CovChild`): all leaves of the unpruned tree
below `childSt (nodeL vs L) st w` have a certificate `≤ currentBest` (`Complete`), or — only for a frame on the first-leaf
path — `w` is not the representative of its class in `firstLeafOrbits` (deferred to the representative).
The top frame of the stepping loops is "between two children": the members with index `≥ choices.head - st` are processed
(`incl = true`); in a frame whose child is being explored the members with a larger index are processed.
-/
namespace CanonF

def Complete (n : Nat) (nb : Nbrs) (rf : Nat) (best : List Nat) (s : IR.St) : Prop :=
  ∀ x, IR.CertBelow (irG n nb) rf s x → compare x best ≠ 1

/-- the test of Heuristic 2 for a frame whose tail of `path` is `ps` -/
def onFirstB (s : LS) (ps : List Nat) : Bool := decide (s.count > 0) && hasPrefix s.flPath.toList ps.reverse

section
variable (n : Nat) (nb : Nbrs) (rf : Nat) (r : IR.St)

def CovChild (s : LS) (vs : List Nat) (ps : List Nat) (st w : Nat) : Prop :=
  Complete n nb rf s.currentBest.toList (IR.childSt (irG n nb) rf (nodeL n nb rf r vs ps.length) st w) ∨
  (onFirstB s ps = true ∧ ∃ x : Int, s.flOrbits[w]? = some x ∧ x ≥ 0)

def CovFrames (s : LS) (vs : List Nat) : Bool → List Nat → List Nat → List (Nat × Nat) → Prop
  | _, [], [], [] => True
  | incl, _ :: ps, c :: cs, (st, _) :: ls =>
      (∀ i w, (if incl then c - st ≤ i else c - st < i) → (cellL n nb rf r vs ps.length st)[i]? = some w →
        CovChild n nb rf r s vs ps st w) ∧
      CovFrames s vs false ps cs ls
  | _, _, _, _ => False

end

section
variable {n : Nat} {nb : Nbrs} {rf : Nat} {r : IR.St} {incl : Bool} {path choices : List Nat} {lv : List (Nat × Nat)}

theorem levelsOK_iff {op : OP} : LevelsOK op path choices lv ↔
    AllFrames (fun _ p ps c st sz => IsBinAt ((ps.length : Int) + 1) op st sz ∧ 2 ≤ sz ∧ c = st + p ∧ p ≤ sz)
      incl path choices lv := by
  induction path generalizing incl choices lv with
  | nil => cases choices <;> cases lv <;> simp [LevelsOK, AllFrames]
  | cons p ps ih =>
    cases choices with
    | nil => simp [LevelsOK, AllFrames]
    | cons c cs =>
      cases lv with
      | nil => simp [LevelsOK, AllFrames]
      | cons x ls => obtain ⟨st, sz⟩ := x; simp only [LevelsOK, AllFrames, ih (incl := false), and_assoc]

theorem covFrames_iff {s : LS} {vs : List Nat} : CovFrames n nb rf r s vs incl path choices lv ↔
    AllFrames (fun incl _ ps c st _ => ∀ i w, (if incl then c - st ≤ i else c - st < i) →
      (cellL n nb rf r vs ps.length st)[i]? = some w → CovChild n nb rf r s vs ps st w) incl path choices lv := by
  induction path generalizing incl choices lv with
  | nil => cases choices <;> cases lv <;> simp [CovFrames, AllFrames]
  | cons p ps ih =>
    cases choices with
    | nil => simp [CovFrames, AllFrames]
    | cons c cs =>
      cases lv with
      | nil => simp [CovFrames, AllFrames]
      | cons x ls => obtain ⟨st, sz⟩ := x; simp only [CovFrames, AllFrames, ih (incl := false)]

end

theorem path_nil_of_framesOK {n : Nat} {nb : Nbrs} {rf : Nat} {r : IR.St} {vs path choices : List Nat}
    (h : FramesOK n nb rf r vs path choices []) : path = [] := by
  obtain ⟨rfl, _⟩ | ⟨_, _, _, _, _, _, _, _, _, e, _⟩ := (framesOK_iff (incl := false).1 h).cases
  · rfl
  · cases e

theorem levelsOK_path_ne {op : OP} {p : Nat} {ps choices : List Nat} {lv : List (Nat × Nat)}
    (h : LevelsOK op (p :: ps) choices lv) : ∃ c cs st sz ls, choices = c :: cs ∧ lv = (st, sz) :: ls ∧ c = st + p := by
  match choices, lv, h with
  | c :: cs, (st, sz) :: ls, h => exact ⟨c, cs, st, sz, ls, rfl, rfl, h.2.2.1⟩

theorem cellL_congr {n : Nat} {nb : Nbrs} {rf : Nat} {r : IR.St} {us us' : List Nat} {L st : Nat}
    (h : us'.take L = us.take L) : cellL n nb rf r us' L st = cellL n nb rf r us L st := by
  unfold cellL; rw [nodeL_congr h]

theorem CovChild.congr {n : Nat} {nb : Nbrs} {rf : Nat} {r : IR.St} {s s' : LS} {vs vs' ps : List Nat} {st w : Nat}
    (h : CovChild n nb rf r s vs ps st w) (e1 : s'.currentBest = s.currentBest)
    (e2 : ∀ qs, onFirstB s' qs = onFirstB s qs) (e4 : s'.flOrbits = s.flOrbits)
    (ev : vs'.take ps.length = vs.take ps.length) :
    CovChild n nb rf r s' vs' ps st w := by
  unfold CovChild at *
  rw [e1, e2, e4, nodeL_congr ev]
  exact h

theorem onFirstB_congr {s s' : LS} (e2 : s'.count = s.count) (e3 : s'.flPath = s.flPath) (qs : List Nat) :
    onFirstB s' qs = onFirstB s qs := by
  unfold onFirstB; rw [e2, e3]

theorem onFirstB_eq_true {s : LS} {ps : List Nat} (h : onFirstB s ps = true) :
    0 < s.count ∧ hasPrefix s.flPath.toList ps.reverse = true := by
  unfold onFirstB at h
  simpa only [Bool.and_eq_true, decide_eq_true_eq] using h

theorem CovFrames.imp {n : Nat} {nb : Nbrs} {rf : Nat} {r : IR.St} {s s' : LS} {vs vs' : List Nat} {incl : Bool}
    {path choices : List Nat} {lv : List (Nat × Nat)} (h : CovFrames n nb rf r s vs incl path choices lv)
    (hv : ∀ L, L < path.length → vs'.take L = vs.take L)
    (H : ∀ ps st w, ps.length < path.length → CovChild n nb rf r s vs ps st w → CovChild n nb rf r s' vs' ps st w) :
    CovFrames n nb rf r s' vs' incl path choices lv :=
  covFrames_iff.2 ((covFrames_iff.1 h).imp fun _ _ ps _ st _ hps hc i w hi hw =>
    H ps st w hps (hc i w hi (by rw [← cellL_congr (hv _ hps)]; exact hw)))

theorem CovFrames.congr {n : Nat} {nb : Nbrs} {rf : Nat} {r : IR.St} {s s' : LS} {vs vs' : List Nat}
    (e1 : s'.currentBest = s.currentBest) (e2 : ∀ qs, onFirstB s' qs = onFirstB s qs)
    (e4 : s'.flOrbits = s.flOrbits) :
    ∀ (incl : Bool) (path choices : List Nat) (lv : List (Nat × Nat)),
      (∀ L, L < path.length → vs'.take L = vs.take L) →
      CovFrames n nb rf r s vs incl path choices lv → CovFrames n nb rf r s' vs' incl path choices lv :=
  fun _ _ _ _ hv h => h.imp hv fun _ _ _ hps hc => hc.congr e1 e2 e4 (hv _ hps)

theorem CovFrames.tail {n : Nat} {nb : Nbrs} {rf : Nat} {r : IR.St} {s : LS} {vs : List Nat} {incl : Bool}
    {p c : Nat} {ps cs : List Nat} {x : Nat × Nat} {ls : List (Nat × Nat)}
    (h : CovFrames n nb rf r s vs incl (p :: ps) (c :: cs) (x :: ls)) : CovFrames n nb rf r s vs false ps cs ls :=
  covFrames_iff.2 (covFrames_iff.1 h).tail

theorem CovFrames.drop {n : Nat} {nb : Nbrs} {rf : Nat} {r : IR.St} {s : LS} {vs : List Nat} (j : Nat)
    {path choices : List Nat} {lv : List (Nat × Nat)} (h : CovFrames n nb rf r s vs false path choices lv) :
    CovFrames n nb rf r s vs false (path.drop j) (choices.drop j) (lv.drop j) :=
  covFrames_iff.2 ((covFrames_iff.1 h).drop j)

theorem CovFrames.step_head {n : Nat} {nb : Nbrs} {rf : Nat} {r : IR.St} {s : LS} {vs : List Nat} {p c : Nat}
    {ps cs : List Nat} {st sz : Nat} {ls : List (Nat × Nat)}
    (h : CovFrames n nb rf r s vs true (p :: ps) (c :: cs) ((st, sz) :: ls)) (hc : st < c)
    (hnew : ∀ w, (cellL n nb rf r vs ps.length st)[c - 1 - st]? = some w → CovChild n nb rf r s vs ps st w) (p' : Nat) :
    CovFrames n nb rf r s vs true (p' :: ps) ((c - 1) :: cs) ((st, sz) :: ls) := by
  simp only [CovFrames] at h ⊢
  refine ⟨fun i w hi hw => ?_, h.2⟩
  simp only [if_true] at hi
  rcases Nat.lt_or_ge i (c - st) with hlt | hge
  · have : i = c - 1 - st := by omega
    subst this
    exact hnew w hw
  · exact h.1 i w (by simp only [if_true]; exact hge) hw

theorem CovFrames.start_child {n : Nat} {nb : Nbrs} {rf : Nat} {r : IR.St} {s : LS} {vs : List Nat} {p c : Nat}
    {ps cs : List Nat} {st sz : Nat} {ls : List (Nat × Nat)}
    (h : CovFrames n nb rf r s vs true (p :: ps) (c :: cs) ((st, sz) :: ls)) (hc : st < c) (p' : Nat) :
    CovFrames n nb rf r s vs false (p' :: ps) ((c - 1) :: cs) ((st, sz) :: ls) := by
  simp only [CovFrames] at h ⊢
  refine ⟨fun i w hi hw => ?_, h.2⟩
  simp only [Bool.false_eq_true, if_false] at hi
  exact h.1 i w (by simp only [if_true]; omega) hw

theorem CovFrames.finish_child {n : Nat} {nb : Nbrs} {rf : Nat} {r : IR.St} {s : LS} {vs : List Nat} {p c : Nat}
    {ps cs : List Nat} {st sz : Nat} {ls : List (Nat × Nat)}
    (h : CovFrames n nb rf r s vs false (p :: ps) (c :: cs) ((st, sz) :: ls))
    (hnew : ∀ w, (cellL n nb rf r vs ps.length st)[c - st]? = some w → CovChild n nb rf r s vs ps st w) :
    CovFrames n nb rf r s vs true (p :: ps) (c :: cs) ((st, sz) :: ls) := by
  simp only [CovFrames] at h ⊢
  refine ⟨fun i w hi hw => ?_, h.2⟩
  simp only [if_true] at hi
  rcases Nat.lt_or_ge (c - st) i with hlt | hge
  · exact h.1 i w (by simp only [Bool.false_eq_true, if_false]; exact hlt) hw
  · have : i = c - st := by omega
    subst this
    exact hnew w hw

theorem nodeL_succ {n : Nat} {nb : Nbrs} {rf : Nat} {r : IR.St} {vs : List Nat} (hpath : IR.IsPath (irG n nb) rf r vs)
    {L t v : Nat} (hv : vs[L]? = some v) (ht : IR.target (irG n nb) (nodeL n nb rf r vs L) = some t) :
    nodeL n nb rf r vs (L + 1) = IR.childSt (irG n nb) rf (nodeL n nb rf r vs L) t v := by
  obtain ⟨t', ht', -, hs⟩ := IR.path_level hpath hv
  cases ht'.symm.trans ht
  exact hs

section
variable {n : Nat} {nb : Nbrs} {rf : Nat} {r : IR.St} {op : OP} {vs : List Nat}

theorem top_child_node (hpath : IR.IsPath (irG n nb) rf r vs) {p c st sz : Nat} {ps cs : List Nat}
    {ls : List (Nat × Nat)} (hl : LevelsOK op (p :: ps) (c :: cs) ((st, sz) :: ls))
    (hf : FramesOK n nb rf r vs (p :: ps) (c :: cs) ((st, sz) :: ls)) (hlen : ps.length < vs.length) {w : Nat}
    (hw : (cellL n nb rf r vs ps.length st)[c - st]? = some w) :
    vs[ps.length]? = some w ∧
      nodeL n nb rf r vs (ps.length + 1) = IR.childSt (irG n nb) rf (nodeL n nb rf r vs ps.length) st w := by
  simp only [LevelsOK] at hl
  simp only [FramesOK] at hf
  have hv : vs[ps.length]? = some w := by rw [(hf.2.2.1 hlen).1, ← hw, hl.2.2.1, Nat.add_sub_cancel_left]
  exact ⟨hv, nodeL_succ hpath hv hf.1⟩

theorem CovFrames.finish_top {s : LS} {path choices : List Nat} {lv : List (Nat × Nat)}
    (hpath : IR.IsPath (irG n nb) rf r vs) (hl : LevelsOK op path choices lv)
    (hf : FramesOK n nb rf r vs path choices lv) (hlen : path.length ≤ vs.length)
    (hcomp : Complete n nb rf s.currentBest.toList (nodeL n nb rf r vs path.length))
    (h : CovFrames n nb rf r s vs false path choices lv) : CovFrames n nb rf r s vs true path choices lv := by
  obtain ⟨rfl, rfl, rfl⟩ | ⟨p, ps, c, cs, st, sz, ls, rfl, rfl, rfl, _, _⟩ := (covFrames_iff.1 h).cases
  · exact h
  · exact h.finish_child fun w hw => Or.inl (by rw [← (top_child_node hpath hl hf hlen hw).2]; exact hcomp)

end

theorem walkS_child {n : Nat} {nb : Nbrs} {rf : Nat} {r : IR.St} {vs : List Nat} {t v st sz : Nat}
    {ls : List (Nat × Nat)} {s : LS} {c p : Nat} {cs ps : List Nat} (hw : WalkSv n nb rf r vs t v ((st, sz) :: ls) s)
    (hch : s.choices = c :: cs) (hpth : s.path = p :: ps) (hcp : c = st + p) :
    vs.length = ps.length ∧ t = st ∧ (cellL n nb rf r vs ps.length st)[c - st]? = some v := by
  have h2 := hw.len
  have h5 := hw.target
  have h9 := hw.framesOK
  rw [hpth] at h9 h2
  rw [hch] at h9
  simp only [FramesOK, List.length_cons] at h9 h2
  have hvl : vs.length = ps.length := Nat.succ.inj h2
  obtain ⟨g1, -, g3, -⟩ := h9
  obtain ⟨g3a, -⟩ := g3 (by rw [List.length_append, List.length_singleton, hvl]; exact Nat.lt_succ_self _)
  have hle : ps.length ≤ vs.length := Nat.le_of_eq hvl.symm
  rw [show (vs ++ [v])[ps.length]? = some v by rw [← hvl]; simp, cellL_congr (List.take_append_of_le_length hle),
    show p = c - st by rw [hcp, Nat.add_sub_cancel_left]] at g3a
  rw [nodeL_congr (List.take_append_of_le_length hle), ← hvl, h5] at g1
  exact ⟨hvl, Option.some.inj g1, g3a.symm⟩

theorem walkS_top {n : Nat} {nb : Nbrs} {rf : Nat} {r : IR.St} {vs : List Nat} {t v : Nat} {lv : List (Nat × Nat)} {s : LS}
    (hl : LevelsOK s.op s.path s.choices lv) (hw : WalkSv n nb rf r vs t v lv s) :
    ∃ p ps c cs sz ls, s.path = p :: ps ∧ s.choices = c :: cs ∧ lv = (t, sz) :: ls ∧ c = t + p ∧
      vs.length = ps.length ∧ (cellL n nb rf r vs ps.length t)[c - t]? = some v ∧
      ∀ L, L < (p :: ps).length → vs.take L = (vs ++ [v]).take L := by
  obtain ⟨p, ps, hpth⟩ : ∃ p ps, s.path = p :: ps := by
    cases hp : s.path with
    | nil => have := hw.len; rw [hp] at this; cases this
    | cons p ps => exact ⟨p, ps, rfl⟩
  rw [hpth] at hl
  obtain ⟨c, cs, st, sz, ls, hch, rfl, hcp⟩ := levelsOK_path_ne hl
  obtain ⟨hvl, rfl, hcv⟩ := walkS_child hw hch hpth hcp
  exact ⟨p, ps, c, cs, sz, ls, hpth, hch, rfl, hcp, hvl, hcv, fun L hL =>
    (List.take_append_of_le_length (by rw [hvl]; exact Nat.le_of_lt_succ hL)).symm⟩

end CanonF
