import Mamba.Lemmas.DistanceBlocks
import Mathlib.Data.List.Nodup
/-!
# `isArticIn` (deleting `v` increases the number of components) as a separation property
-/
namespace GDist
open GraphSpec

variable {g : G}

theorem walk_avoid_or_reach {V : List Nat} {v x y k : Nat} (hx : x ∈ V.erase v) (hw : WalkIn g V x y k) :
    (∃ j, WalkIn g (V.erase v) x y j) ∨ ReachIn g V x v := by
  induction hw with
  | base _ => exact .inl ⟨0, .base hx⟩
  | @step u w k hwu hadj hwV ih =>
    rcases ih with ⟨j, hj⟩ | h
    · by_cases hwv : w = v
      · subst hwv; exact .inr ⟨k + 1, .step hwu hadj hwV⟩
      · exact .inl ⟨j + 1, .step hj hadj ((List.mem_erase_of_ne hwv).2 hwV)⟩
    · exact .inr h

theorem walkIn_mono {V W : List Nat} (hsub : ∀ x ∈ V, x ∈ W) {s x k : Nat} (hw : WalkIn g V s x k) :
    WalkIn g W s x k := by
  induction hw with
  | base h => exact .base (hsub _ h)
  | step _ hadj hx ih => exact .step ih hadj (hsub _ hx)

theorem reachIn_mono {V W : List Nat} (hsub : ∀ x ∈ V, x ∈ W) {s x : Nat} (h : ReachIn g V s x) :
    ReachIn g W s x := by
  obtain ⟨k, hk⟩ := h; exact ⟨k, walkIn_mono hsub hk⟩

theorem isArticIn_iff_sep (hsym : ∀ u v, g.adj u v = g.adj v u) (V : List Nat) (v : Nat) :
    isArticIn g V v = true ↔
      ∃ x y, x ∈ V.erase v ∧ y ∈ V.erase v ∧ ReachIn g V x y ∧ ¬ ReachIn g (V.erase v) x y := by
  obtain ⟨hP1, hP2, hP3⟩ := componentsIn_facts hsym V
  obtain ⟨hQ1, hQ2, hQ3⟩ := componentsIn_facts hsym (V.erase v)
  have hsubV : ∀ x ∈ V.erase v, x ∈ V := fun x hx => List.mem_of_mem_erase hx
  have key : isArticIn g V v = true ↔
      (componentsIn g V).length < (componentsIn g (V.erase v)).length := by
    unfold isArticIn numComponentsIn
    exact decide_eq_true_iff
  rw [key]
  constructor
  · -- contrapositive: without separation the classes of V - v inject into the classes of V
    intro hlt
    by_contra hno
    have hno' : ∀ x y, x ∈ V.erase v → y ∈ V.erase v → ReachIn g V x y → ReachIn g (V.erase v) x y := by
      intro x y hx hy hr
      by_contra h
      exact hno ⟨x, y, hx, hy, hr, h⟩
    have hrep : ∀ c' ∈ componentsIn g (V.erase v), ∃ s, s ∈ V.erase v ∧ c' = componentIn g (V.erase v) s := hQ1
    let φ : List Nat → List Nat := fun c' => componentIn g V (c'.headD 0)
    have hhead : ∀ c' ∈ componentsIn g (V.erase v), c'.headD 0 ∈ V.erase v ∧
        c' = componentIn g (V.erase v) (c'.headD 0) := by
      intro c' hc'
      obtain ⟨s, hs, rfl⟩ := hrep c' hc'
      have hne : componentIn g (V.erase v) s ≠ [] :=
        List.ne_nil_of_mem (mem_componentIn.2 (ReachIn.refl hs))
      obtain ⟨a, t, hat⟩ := List.exists_cons_of_ne_nil hne
      have ha : a ∈ componentIn g (V.erase v) s := by rw [hat]; simp
      have hra := mem_componentIn.1 ha
      rw [hat]
      simp only [List.headD_cons]
      rw [← hat]
      exact ⟨hra.mem_V, componentIn_congr hsym hra⟩
    have hinj : ∀ a ∈ componentsIn g (V.erase v), ∀ b ∈ componentsIn g (V.erase v), φ a = φ b → a = b := by
      intro a ha b hb hab
      obtain ⟨ha1, ha2⟩ := hhead a ha
      obtain ⟨hb1, hb2⟩ := hhead b hb
      have hr : ReachIn g V (a.headD 0) (b.headD 0) := (componentIn_eq_iff hsym (hsubV _ ha1)).1 hab
      have hr' := hno' _ _ ha1 hb1 hr
      rw [ha2, hb2]
      exact componentIn_congr hsym hr'
    have hnd : ((componentsIn g (V.erase v)).map φ).Nodup := List.Nodup.map_on hinj hQ3
    have hsub : ∀ c ∈ (componentsIn g (V.erase v)).map φ, c ∈ componentsIn g V := by
      intro c hc
      obtain ⟨c', hc', rfl⟩ := List.mem_map.1 hc
      exact hP2 _ (hsubV _ (hhead c' hc').1)
    have := (List.subperm_of_subset hnd hsub).length_le
    rw [List.length_map] at this
    omega
  · rintro ⟨x, y, hx, hy, hr, hnr⟩
    have hxv : ReachIn g V x v := by
      obtain ⟨k, hk⟩ := hr
      rcases walk_avoid_or_reach hx hk with ⟨j, hj⟩ | h
      · exact absurd ⟨j, hj⟩ hnr
      · exact h
    have hxV := hsubV x hx
    -- every class of V has a generator other than `v`; for the class of `x` take `x` itself
    have hgen : ∀ c ∈ componentsIn g V, ∃ s, s ∈ V.erase v ∧ c = componentIn g V s ∧
        (c = componentIn g V x → s = x) := by
      intro c hc
      by_cases hcx : c = componentIn g V x
      · exact ⟨x, hx, hcx, fun _ => rfl⟩
      · obtain ⟨s, hs, rfl⟩ := hP1 c hc
        refine ⟨s, ?_, rfl, fun h0 => absurd h0 hcx⟩
        have hsv : s ≠ v := by
          rintro rfl
          exact hcx (componentIn_congr hsym (hxv.symm hsym))
        exact (List.mem_erase_of_ne hsv).2 hs
    classical
    let ψ : List Nat → List Nat := fun c =>
      if hc : c ∈ componentsIn g V then componentIn g (V.erase v) (Classical.choose (hgen c hc)) else []
    have hψ : ∀ c ∈ componentsIn g V, ∃ s, s ∈ V.erase v ∧ c = componentIn g V s ∧
        (c = componentIn g V x → s = x) ∧ ψ c = componentIn g (V.erase v) s := fun c hc =>
      ⟨_, (Classical.choose_spec (hgen c hc)).1, (Classical.choose_spec (hgen c hc)).2.1,
        (Classical.choose_spec (hgen c hc)).2.2, dif_pos hc⟩
    have hψsub : ∀ c ∈ componentsIn g V, ∀ z ∈ ψ c, z ∈ c := by
      intro c hc z hz
      obtain ⟨s, _, h2, _, e⟩ := hψ c hc
      rw [e] at hz; rw [h2]
      exact mem_componentIn.2 (reachIn_mono hsubV (mem_componentIn.1 hz))
    have hψne : ∀ c ∈ componentsIn g V, ∃ z, z ∈ ψ c := by
      intro c hc
      obtain ⟨s, h1, _, _, e⟩ := hψ c hc
      exact ⟨s, by rw [e]; exact mem_componentIn.2 (ReachIn.refl h1)⟩
    have hψmem : ∀ c ∈ componentsIn g V, ψ c ∈ componentsIn g (V.erase v) := by
      intro c hc
      obtain ⟨s, h1, _, _, e⟩ := hψ c hc
      rw [e]; exact hQ2 s h1
    have hdisj : ∀ a ∈ componentsIn g V, ∀ b ∈ componentsIn g V, ∀ z, z ∈ a → z ∈ b → a = b := by
      intro a ha b hb z hza hzb
      obtain ⟨s, hs, rfl⟩ := hP1 a ha
      obtain ⟨t, ht, rfl⟩ := hP1 b hb
      exact componentIn_congr hsym ((mem_componentIn.1 hza).trans ((mem_componentIn.1 hzb).symm hsym))
    have hinj : ∀ a ∈ componentsIn g V, ∀ b ∈ componentsIn g V, ψ a = ψ b → a = b := by
      intro a ha b hb hab
      obtain ⟨z, hz⟩ := hψne a ha
      exact hdisj a ha b hb z (hψsub a ha z hz) (hψsub b hb z (hab ▸ hz))
    have hyV := hsubV y hy
    have hycls : componentIn g (V.erase v) y ∉ (componentsIn g V).map ψ := by
      intro hm
      obtain ⟨c, hc, hcy⟩ := List.mem_map.1 hm
      have hyin : y ∈ ψ c := by rw [hcy]; exact mem_componentIn.2 (ReachIn.refl hy)
      have hyc : y ∈ c := hψsub c hc y hyin
      have hcx : c = componentIn g V x :=
        hdisj c hc _ (hP2 x hxV) y hyc (mem_componentIn.2 hr)
      obtain ⟨s, _, _, h3, e⟩ := hψ c hc
      rw [e, h3 hcx] at hyin
      exact hnr (mem_componentIn.1 hyin)
    have hnd : (componentIn g (V.erase v) y :: (componentsIn g V).map ψ).Nodup :=
      List.nodup_cons.2 ⟨hycls, List.Nodup.map_on hinj hP3⟩
    have hsub : ∀ c ∈ componentIn g (V.erase v) y :: (componentsIn g V).map ψ, c ∈ componentsIn g (V.erase v) := by
      intro c hc
      rcases List.mem_cons.1 hc with rfl | hc
      · exact hQ2 y hy
      · obtain ⟨c0, hc0, rfl⟩ := List.mem_map.1 hc
        exact hψmem c0 hc0
    have := (List.subperm_of_subset hnd hsub).length_le
    simp only [List.length_cons, List.length_map] at this
    omega

end GDist
