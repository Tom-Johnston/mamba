import Mamba.Lemmas.CanonFCov
/-!
# Partial-certificate pruning: a child whose `splitBin` / refinement reports "worse" is cut off (`WorseCut`), hence complete
-/
namespace CanonF
open Relation

theorem best_wf {n m : Nat} {nb : Nbrs} {s : LS} (hlenm : ∀ o : List Nat, o.Perm (List.range n) → (certPos nb o n).length = m)
    (hc : Core n s) (hg : GInv n m nb s) (hb : BestOK m s) : s.currentBest.WF := by
  by_cases h0 : s.count = 0
  · have := hb.zero h0
    unfold Sl.WF; omega
  · have hpos : 0 < s.count := by omega
    have h1 := (hg.best hpos).1
    have h2 := hlenm _ (hc.bestPerm hpos)
    have h3 := hb.pos hpos
    rw [← h1] at h2
    unfold Sl.toList at h2
    simp only [List.length_take, Array.length_toList] at h2
    unfold Sl.WF; omega

theorem child_inv {n : Nat} {nb : Nbrs} {rf : Nat} {r : IR.St} (hnb : NbOK nb n)
    (hA : IR.InvA (irG n nb) r) (hD : IR.InvD (irG n nb) r) {vs : List Nat} (hpath : IR.IsPath (irG n nb) rf r vs)
    {t v : Nat} (L : Nat) (ht : IR.target (irG n nb) (nodeL n nb rf r vs L) = some t)
    (hv : v ∈ IR.cellMembers (irG n nb) (nodeL n nb rf r vs L).c t) :
    IR.InvA (irG n nb) (IR.childSt (irG n nb) rf (nodeL n nb rf r vs L) t v) ∧
      IR.InvD (irG n nb) (IR.childSt (irG n nb) rf (nodeL n nb rf r vs L) t v) := by
  obtain ⟨-, hAn, hDn⟩ := IR.path_cells (irG_wf hnb) (rf := rf) (vs.take L) r hA hD (IR.isPath_take vs r L hpath)
  obtain ⟨iA, iD, -⟩ := IR.childSt_inv (irG_wf hnb) rf hAn hDn ht hv
  exact ⟨iA, iD⟩

/-- The node `χ` is cut off by the partial-certificate test: a partition whose certified singleton prefix fails
`worseTest` against `currentBest` and `firstLeaf` is coarser than `χ`. Nothing below `χ` beats `currentBest`
(`WorseCut.complete`) or equals `firstLeaf` (`WorseCut.acov`, `CanonFOrbTree.lean`). -/
def WorseCut (n : Nat) (nb : Nbrs) (s : LS) (χ : IR.St) : Prop :=
  ∃ op' : OP, PartInv n op' ∧ VAny nb s.currentBest s.firstLeaf op' ∧
    worseTest op'.value s.currentBest s.firstLeaf = .ok true ∧ IR.Mono n (colOf n op') χ.c ∧
    IR.InvA (irG n nb) χ ∧ IR.InvD (irG n nb) χ

section
variable {n m : Nat} {nb : Nbrs}

theorem WorseCut.complete (rf : Nat) (hnb : NbOK nb n) (hsz : nb.size = n) (hm : m = ((nb.toList.map List.length).sum) / 2)
    {s : LS} {χ : IR.St} (hc : Core n s) (hg : GInv n m nb s) (hb : BestOK m s) (h : WorseCut n nb s χ) :
    Complete n nb rf s.currentBest.toList χ := by
  obtain ⟨op', hp, hva, hwt, hmono, hA, hD⟩ := h
  have hlenm : ∀ o : List Nat, o.Perm (List.range n) → (certPos nb o n).length = m := by
    intro o ho; rw [hm]; exact certPos_length hnb hsz ho
  have hwf := best_wf hlenm hc hg hb
  have hlen : s.currentBest.len = ((nb.toList.map List.length).sum) / 2 := by
    rw [← hm]
    apply hb.pos
    have h0 := (worseTest_true hwt).1
    by_contra hn
    have := hb.zero (by omega)
    omega
  obtain ⟨f1, f2, f3⟩ := hva.facts
  intro x hx
  rw [worse_complete rf hnb hsz hp f1 f2 f3 hwt hwf hlen hmono hA hD x hx]
  decide

variable {rf : Nat} {r : IR.St}

/-- a `splitBin` of the child at index `k` of the top frame reports "worse" -/
theorem split_worse_cut (hnb : NbOK nb n) (hA : IR.InvA (irG n nb) r) (hD : IR.InvD (irG n nb) r)
    (st sz : Nat) (ls : List (Nat × Nat)) (s : LS) (c : Nat) (cs : List Nat) (p : Nat) (ps : List Nat)
    (op' : OP) (k : Nat) (hc : Core n s) (ht : TopOK s.op (k + 1) s.path s.choices ((st, sz) :: ls))
    (hch : s.choices = c :: cs) (hpth : s.path = p :: ps)
    (hs : splitBin nb s.currentBest s.firstLeaf s.op (c - 1) = .ok (true, op'))
    {vs : List Nat} (hw : WalkNv n nb rf r vs ((st, sz) :: ls) s) (hcert : CertN n m nb ((st, sz) :: ls) s) :
    ∀ v, (cellL n nb rf r vs vs.length st)[k]? = some v →
      WorseCut n nb s (IR.childSt (irG n nb) rf (nodeL n nb rf r vs vs.length) st v) := by
  have F := walkN_top_frame hc ht hch hpth hw
  have hi := F.cell.lt
  have hns := F.cell.nonSingleton
  have f8 := F.cell.target
  obtain ⟨v', hv, hvm, hm'⟩ := splitBin_match hc.part hc.age hi hns F.mtch hw.btcZero hs
  rw [F.cell.bin] at hvm hm'
  have hCk : (cellL n nb rf r vs vs.length st)[k]? = some v' := by rw [← F.order k F.lt, ← F.pos]; exact hv
  intro v hvk
  rw [hCk] at hvk
  cases hvk
  obtain ⟨q1, -⟩ := splitBin_inv hc.part hc.age hi hns hs
  have hva : VAny nb s.currentBest s.firstLeaf op' :=
    (splitBin_cert expandValue_cert hc.part hc.age hi hns hcert.2.1 hs).2 rfl
  have hwt : worseTest op'.value s.currentBest s.firstLeaf = .ok true := by
    obtain ⟨op1, -, hif⟩ := splitBin_step hc.part hi hs
    by_cases hcond : binIdx s.op.binDividers.toList (c - 1) = s.op.spl
    · rw [if_pos hcond] at hif
      exact expandValue_worse_test hif
    · rw [if_neg hcond] at hif
      exact absurd hif.1 (by simp)
  obtain ⟨iA, iD⟩ := child_inv hnb hA hD hw.path vs.length f8 hvm
  have hmono : IR.Mono n (colOf n op')
      (IR.childSt (irG n nb) rf (nodeL n nb rf r vs vs.length) st v').c := by
    have := IR.refine_mono (irG_wf hnb) rf (IR.individualise (irG n nb) (nodeL n nb rf r vs vs.length) st v')
    rw [hm'.col] at this
    exact this
  exact ⟨op', q1, hva, hwt, hmono, iA, iD⟩

/-- the refinement after the `splitBin` of child `v` aborts with "worse" -/
theorem refine_worse_cut (hnb : NbOK nb n) (hrf : 3 * n + 3 ≤ rf)
    (hA : IR.InvA (irG n nb) r) (hD : IR.InvD (irG n nb) r)
    (lv : List (Nat × Nat)) (s : LS) (op' : OP) (sc' : Scratch) (hc : Core n s) (htl : s.sc.timesSeen.len = n)
    {vs : List Nat} {t v : Nat} (hw : WalkSv n nb rf r vs t v lv s) (hcert : CertN n m nb lv s)
    (hr : refine nb s.currentBest s.firstLeaf {} s.op s.sc = .ok (true, op', sc')) :
    WorseCut n nb s (IR.childSt (irG n nb) rf (nodeL n nb rf r vs vs.length) t v) := by
  obtain ⟨hmono, hwt⟩ := refine_worse_mono hc.part hc.age hc.scr htl hw.btcInv hnb hw.matchInd rfl hr rf hrf
  have hva : VAny nb s.currentBest s.firstLeaf op' :=
    (refine_cert stablePerm expandValue_cert hc.part hc.age hc.scr hcert.2.1 hr).2 rfl
  obtain ⟨q1, -⟩ := refine_inv stablePerm hc.part hc.age hc.scr hr
  obtain ⟨iA, iD⟩ := child_inv hnb hA hD hw.path vs.length hw.target hw.mem
  exact ⟨op', q1, hva, hwt, hmono, iA, iD⟩

end
end CanonF
