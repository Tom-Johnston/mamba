import Mamba.Model.Disjoint
import Mamba.Lemmas.DisjointFn

/-!
# From the executable `Array Int` model to the parent-function theory (C18)

`abs ds` reads the array as a parent function. `Inv ds` is the invariant of DESIGN §4 (C18),
`rep ds x` the representative obtained by following parents. The main results are
`find_spec` (the executable `find` with the model's fuel returns `rep ds x`, never panics / runs out
of fuel, keeps `Inv`, size and every representative) and `link_roots_spec` (the end of `Union` on two
roots merges exactly their two classes); `union_spec` (`DisjointRun.lean`) puts the two together.
-/
namespace Disjoint
open Fn

def abs (ds : DS) : S := ⟨ds.size, fun i => ds.getD i 0⟩

/-- Invariant: parents in range, a rank potential strictly increases along parent links and equals
the stored rank at roots. -/
def Inv (ds : DS) : Prop := ∃ rk : Nat → Nat, Fn.Inv (abs ds) rk

/-- representative of `x`: follow parent links (`ds.size` steps always suffice under `Inv`) -/
def rep (ds : DS) (x : Nat) : Nat := Fn.rep (abs ds) x

@[simp] theorem abs_n (ds : DS) : (abs ds).n = ds.size := rfl

theorem abs_p (ds : DS) (x : Nat) : (abs ds).p x = ds.getD x 0 := rfl

theorem getElem?_abs (ds : DS) (x : Nat) (hx : x < ds.size) : ds[x]? = some ((abs ds).p x) := by
  simp [abs, Array.getD, hx]

theorem getElem?_none (ds : DS) (x : Nat) (hx : ¬ x < ds.size) : ds[x]? = none := by
  simp; omega

theorem abs_set (ds : DS) (y : Nat) (v : Int) (hy : y < ds.size) :
    abs (ds.setIfInBounds y v) = setP (abs ds) y v := by
  unfold abs setP
  simp only [Array.size_setIfInBounds]
  congr 1
  funext i
  simp only [Array.getD_eq_getD_getElem?, Array.getElem?_setIfInBounds]
  by_cases hi : i = y
  · subst hi; simp [hy]
  · rw [Function.update_of_ne hi]
    simp [Ne.symm hi]

theorem abs_compress (r : Nat) : ∀ (l : List Nat) (ds : DS), (∀ y ∈ l, y < ds.size) →
    abs (compress ds r l) = compressL (abs ds) r l := by
  intro l
  induction l with
  | nil => intro ds _; rfl
  | cons y l ih =>
    intro ds hl
    have hy := hl y (List.mem_cons_self ..)
    have : compress ds r (y :: l) = compress (ds.setIfInBounds y (r : Int)) r l := rfl
    rw [this, ih _ (by intro w hw; simpa using hl w (List.mem_cons_of_mem _ hw)), abs_set _ _ _ hy]
    rfl

theorem walk_eq (ds : DS) (hpar : ∀ x, x < ds.size → 0 ≤ (abs ds).p x → ((abs ds).p x).toNat < ds.size) :
    ∀ (f cur : Nat) (seen : List Nat), cur < ds.size → (abs ds).p (root (abs ds) f cur) < 0 →
      walk ds (f + 1) cur (cur :: seen) =
        .ok (root (abs ds) f cur :: ((below (abs ds) f cur).reverse ++ seen)) := by
  intro f
  induction f with
  | zero =>
    intro cur seen hc hr
    simp only [root] at hr
    simp [walk, getElem?_abs ds cur hc, hr, root, below]
  | succ f ih =>
    intro cur seen hc hr
    by_cases h0 : (abs ds).p cur < 0
    · have e1 : root (abs ds) (f + 1) cur = cur := by rw [root]; simp [h0]
      have e2 : below (abs ds) (f + 1) cur = [] := by rw [below]; simp [h0]
      rw [e1, e2, walk]
      simp [getElem?_abs ds cur hc, h0]
    · have e1 : root (abs ds) (f + 1) cur = root (abs ds) f ((abs ds).p cur).toNat := by
        rw [root]; simp [h0]
      have e2 : below (abs ds) (f + 1) cur = cur :: below (abs ds) f ((abs ds).p cur).toNat := by
        rw [below]; simp [h0]
      rw [e1] at hr
      rw [e1, e2, walk]
      simp only [getElem?_abs ds cur hc, h0, if_false]
      rw [ih _ _ (hpar cur hc (Int.not_lt.mp h0)) hr]
      simp

theorem find_eq {ds : DS} (h : Inv ds) (x : Nat) (hx : x < ds.size) :
    find ds x = .ok (if (abs ds).p x < 0 then ds
      else compress ds (rep ds x) (below (abs ds) ds.size x).dropLast, rep ds x) := by
  obtain ⟨rk, hi⟩ := h
  unfold find findF
  rw [getElem?_abs ds x hx]
  by_cases h0 : (abs ds).p x < 0
  · simp only [h0, if_true]
    rw [rep, rep_root _ h0]
  · simp only [h0, if_false]
    have hr := (rep_spec hi x hx).2
    rw [walk_eq ds hi.par_lt ds.size x [] hx hr]
    simp only [List.append_nil]
    have : (List.drop 1 (below (abs ds) ds.size x).reverse).reverse =
        (below (abs ds) ds.size x).dropLast := by
      rw [List.drop_one, List.tail_reverse, List.reverse_reverse]
    rw [this]
    rfl

theorem find_spec {ds : DS} (h : Inv ds) (x : Nat) (hx : x < ds.size) :
    ∃ d', find ds x = .ok (d', rep ds x) ∧ Inv d' ∧ d'.size = ds.size ∧
      (∀ z, z < ds.size → rep d' z = rep ds z) := by
  refine ⟨_, find_eq h x hx, ?_⟩
  by_cases h0 : (abs ds).p x < 0
  · rw [if_pos h0]
    exact ⟨h, rfl, fun _ _ => rfl⟩
  · rw [if_neg h0]
    obtain ⟨rk, hi⟩ := h
    have hb : ∀ y ∈ (below (abs ds) ds.size x).dropLast,
        y < (abs ds).n ∧ 0 ≤ (abs ds).p y ∧ Fn.rep (abs ds) y = rep ds x :=
      fun y hy => below_facts hi ds.size x hx y (List.dropLast_subset _ hy)
    obtain ⟨c1, c2, c3⟩ := compress_spec (rep ds x) _ (abs ds) hi hb
    rw [← abs_compress _ _ _ (fun y hy => (hb y hy).1)] at c1 c2 c3
    exact ⟨⟨rk, c1⟩, c2, c3⟩

theorem rep_lt {ds : DS} (h : Inv ds) (x : Nat) (hx : x < ds.size) : rep ds x < ds.size := by
  obtain ⟨rk, hi⟩ := h; exact (rep_spec hi x hx).1

theorem rep_isRoot {ds : DS} (h : Inv ds) (x : Nat) (hx : x < ds.size) :
    ds.getD (rep ds x) 0 < 0 := by
  obtain ⟨rk, hi⟩ := h; exact (rep_spec hi x hx).2

theorem rep_of_root (ds : DS) (x : Nat) (hx : ds.getD x 0 < 0) : rep ds x = x :=
  rep_root (s := abs ds) x hx

theorem rep_rep {ds : DS} (h : Inv ds) (x : Nat) (hx : x < ds.size) :
    rep ds (rep ds x) = rep ds x := by
  obtain ⟨rk, hi⟩ := h; exact rep_idem hi x hx

/-- invariant + size + representatives described by `R`: what every `find` keeps, so that a sequence of `find`s needs no
bookkeeping of sizes and representatives -/
def Good (n : Nat) (R : Nat → Nat) (ds : DS) : Prop :=
  Inv ds ∧ ds.size = n ∧ ∀ y, y < n → rep ds y = R y

theorem good_self {ds : DS} (h : Inv ds) : Good ds.size (rep ds) ds := ⟨h, rfl, fun _ _ => rfl⟩

theorem find_good {n : Nat} {R : Nat → Nat} {ds : DS} (h : Good n R ds) (x : Nat) (hx : x < n) :
    ∃ d', find ds x = .ok (d', R x) ∧ Good n R d' := by
  obtain ⟨hi, hs, hr⟩ := h
  subst hs
  obtain ⟨d', f, i, s, r⟩ := find_spec hi x hx
  exact ⟨d', by rw [f, hr x hx], i, s, fun y hy => by rw [r y hy, hr y hy]⟩

theorem setP_same (s : S) (a : Nat) : setP s a (s.p a) = s := by
  simp [setP, Function.update_eq_self]

theorem rename_eq_iff {a b u v : Nat} :
    (if u = a then b else u) = (if v = a then b else v) ↔ u = v ∨ ((u = a ∨ u = b) ∧ (v = a ∨ v = b)) := by
  by_cases hu : u = a <;> by_cases hv : v = a
  · simp [hu, hv]
  · simp [hu, hv, eq_comm (a := b), Ne.symm hv]
  · simp [hu, hv]
  · simp only [hu, hv, if_false, false_or]
    constructor
    · exact Or.inl
    · rintro (e | ⟨e1, e2⟩)
      · exact e
      · exact e1.trans e2.symm

/-- root `a` goes under root `b`, whose stored value becomes `c` and potential `k` -/
theorem link_under {ds d' : DS} {rk : Nat → Nat} (hi : Fn.Inv (abs ds) rk) (a b : Nat)
    (ha : a < ds.size) (hb : b < ds.size)
    (hra : ds.getD a 0 < 0) (hrb : ds.getD b 0 < 0) (hab : a ≠ b)
    (c : Int) (k : Nat) (hc : c < 0) (hk : (k : Int) = -c - 1) (h1 : rk b ≤ k) (h2 : rk a < k)
    (e : abs d' = setP (setP (abs ds) a (b : Nat)) b c) :
    Inv d' ∧ d'.size = ds.size ∧
    ∀ z w, z < ds.size → w < ds.size →
      (rep d' z = rep d' w ↔ rep ds z = rep ds w ∨
        ((rep ds z = a ∨ rep ds z = b) ∧ (rep ds w = a ∨ rep ds w = b))) := by
  obtain ⟨i1, i2⟩ := Fn.link_spec hi a b ha hb hra hrb hab c k hc hk h1 h2
  refine ⟨⟨_, by rw [e]; exact i1⟩, ?_, ?_⟩
  · have := congrArg S.n e; simpa using this
  intro z w hz hw
  unfold rep
  rw [e, i2 z hz, i2 w hw]
  exact rename_eq_iff

/-- a root's potential is its stored rank: a smaller stored value means a larger rank -/
theorem rk_lt_of_stored_lt {ra rb : Nat} {pa pb : Int} (ha : (ra : Int) = -pa - 1) (hb : (rb : Int) = -pb - 1)
    (h : pa < pb) : rb < ra := by omega

theorem link_roots_spec {ds : DS} (h : Inv ds) (a b : Nat) (ha : a < ds.size) (hb : b < ds.size)
    (hra : ds.getD a 0 < 0) (hrb : ds.getD b 0 < 0) :
    ∃ d', link ds a b = .ok d' ∧ Inv d' ∧ d'.size = ds.size ∧
      ∀ z w, z < ds.size → w < ds.size →
        (rep d' z = rep d' w ↔ rep ds z = rep ds w ∨
          ((rep ds z = a ∨ rep ds z = b) ∧ (rep ds w = a ∨ rep ds w = b))) := by
  unfold link
  by_cases hab : a = b
  · subst hab
    simp only [if_true]
    refine ⟨ds, rfl, h, rfl, ?_⟩
    intro z w _ _
    constructor
    · exact Or.inl
    · rintro (e | ⟨e1, e2⟩)
      · exact e
      · exact (e1.elim id id).trans (e2.elim id id).symm
  · simp only [hab, if_false]
    rw [getElem?_abs ds a ha, getElem?_abs ds b hb]
    simp only
    obtain ⟨rk, hi⟩ := h
    have hka := hi.rk_root a ha hra
    have hkb := hi.rk_root b hb hrb
    have hra' : (abs ds).p a < 0 := hra
    have hrb' : (abs ds).p b < 0 := hrb
    by_cases c1 : (abs ds).p a < (abs ds).p b
    · simp only [c1, if_true]
      refine ⟨_, rfl, ?_⟩
      have := link_under (d' := ds.setIfInBounds b (a : Int)) hi b a hb ha hrb hra (Ne.symm hab)
        ((abs ds).p a) (rk a) hra' hka (le_refl _) (rk_lt_of_stored_lt hka hkb c1)
        (by rw [abs_set _ _ _ hb, ← setP_p_ne (abs ds) b (a : Nat) a hab, setP_same])
      obtain ⟨t1, t2, t3⟩ := this
      refine ⟨t1, t2, ?_⟩
      intro z w hz hw
      rw [t3 z w hz hw, or_comm (a := rep ds z = b), or_comm (a := rep ds w = b)]
    · simp only [c1, if_false]
      by_cases c2 : (abs ds).p b < (abs ds).p a
      · simp only [c2, if_true]
        refine ⟨_, rfl, ?_⟩
        exact link_under hi a b ha hb hra hrb hab
          ((abs ds).p b) (rk b) hrb' hkb (le_refl _) (rk_lt_of_stored_lt hkb hka c2)
          (by rw [abs_set _ _ _ ha, ← setP_p_ne (abs ds) a (b : Nat) b (Ne.symm hab), setP_same])
      · simp only [c2, if_false]
        refine ⟨_, rfl, ?_⟩
        exact link_under hi a b ha hb hra hrb hab ((abs ds).p b - 1) (rk b + 1) (by omega)
          (by push_cast; omega)
          (Nat.le_succ _) (by omega)
          (by rw [abs_set _ _ _ (by simpa using hb), abs_set _ _ _ ha])

end Disjoint
