import Mamba.Lemmas.DsaturMeasure
/-! DSATUR model: the backtracking part of an iteration keeps the search-completeness invariant; exhaustion means
nothing is left. -/
namespace CliqueColour
open GraphSpec

/-- the test `currentChoice[j] < len(choices[j])-1 && choices[j][currentChoice[j]+1]+1 < upperBound` -/
def advCond (s : Dsat) (j : Nat) : Prop :=
  s.cur.getD j 0 + 1 < (s.choices.getD j []).length ∧
    (((s.choices.getD j []).getD (s.cur.getD j 0 + 1) 0 : Nat) : Int) + 1 < s.upper

theorem findAdvance_spec (s : Dsat) : ∀ (k : Nat),
    (∀ i, findAdvance s k = some i → i < k ∧ advCond s i ∧ ∀ j, i < j → j < k → ¬ advCond s j) ∧
    (findAdvance s k = none → ∀ j, j < k → ¬ advCond s j) := by
  intro k
  induction k with
  | zero => exact ⟨fun i h => by simp [findAdvance] at h, fun _ j hj => by omega⟩
  | succ k ih =>
    simp only [findAdvance]
    by_cases hc : advCond s k
    · have hb : (decide (s.cur.getD k 0 + 1 < (s.choices.getD k []).length) &&
          decide ((((s.choices.getD k []).getD (s.cur.getD k 0 + 1) 0 : Nat) : Int) + 1 < s.upper)) = true := by
        simp only [Bool.and_eq_true, decide_eq_true_eq]; exact hc
      rw [if_pos hb]
      refine ⟨fun i hi => ?_, fun hn => by cases hn⟩
      have : k = i := by simpa using hi
      subst this
      exact ⟨by omega, hc, fun j h1 h2 => by omega⟩
    · have hb : ¬ ((decide (s.cur.getD k 0 + 1 < (s.choices.getD k []).length) &&
          decide ((((s.choices.getD k []).getD (s.cur.getD k 0 + 1) 0 : Nat) : Int) + 1 < s.upper)) = true) := by
        simp only [Bool.and_eq_true, decide_eq_true_eq]; exact hc
      rw [if_neg hb]
      refine ⟨fun i hi => ?_, fun hn j hj => ?_⟩
      · obtain ⟨h1, h2, h3⟩ := ih.1 i hi
        refine ⟨by omega, h2, fun j hj1 hj2 => ?_⟩
        by_cases hjk : j = k
        · subst hjk; exact hc
        · exact h3 j hj1 (by omega)
      · by_cases hjk : j = k
        · subst hjk; exact hc
        · exact ih.2 hn j (by omega)

theorem mustChange_spec {g : G} {U0 : Nat} {s : Dsat} (h : DSInv g U0 s) :
    ∃ K, (mustChange s + 1).toNat = K ∧ K ≤ s.chosen.length ∧
      (∀ j, j < K → colOf s (s.chosen.getD j 0) + 2 ≤ s.upper) ∧
      (K < s.chosen.length → s.upper - 1 ≤ colOf s (s.chosen.getD K 0)) := by
  unfold mustChange
  simp only
  generalize hK : s.chosen.findIdx (fun cv => decide (s.colouring.getD cv 0 ≥ s.upper - 1)) = K
  have hbefore : ∀ j, j < K → colOf s (s.chosen.getD j 0) + 2 ≤ s.upper := by
    intro j hj
    have hle := List.findIdx_le_length (p := fun cv => decide (s.colouring.getD cv 0 ≥ s.upper - 1)) (xs := s.chosen)
    rw [hK] at hle
    have hjl : j < s.chosen.length := by omega
    have := List.not_of_lt_findIdx (p := fun cv => decide (s.colouring.getD cv 0 ≥ s.upper - 1)) (xs := s.chosen)
      (i := j) (by rw [hK]; exact hj)
    have h2 : ¬ (s.colouring.getD s.chosen[j] 0 ≥ s.upper - 1) := by
      exact of_decide_eq_false this
    rw [getD_eq_getElem hjl]
    unfold colOf
    omega
  by_cases hlt : K < s.chosen.length
  · rw [if_pos hlt]
    refine ⟨K, by omega, by omega, hbefore, fun _ => ?_⟩
    have := List.findIdx_getElem (w := by rw [hK]; exact hlt)
      (p := fun cv => decide (s.colouring.getD cv 0 ≥ s.upper - 1)) (xs := s.chosen)
    simp only [hK, decide_eq_true_eq] at this
    rw [getD_eq_getElem hlt]
    unfold colOf
    omega
  · rw [if_neg hlt]
    have hle := List.findIdx_le_length (p := fun cv => decide (s.colouring.getD cv 0 ≥ s.upper - 1)) (xs := s.chosen)
    rw [hK] at hle
    have hKe : K = s.chosen.length := by omega
    refine ⟨s.chosen.length, by rw [h.lcur]; omega, Nat.le_refl _, ?_, fun hh => by omega⟩
    rw [← hKe]; exact hbefore

theorem sorted_getD_lt {l : List Nat} (hs : l.Pairwise (· < ·)) {a b : Nat} (hab : a < b) (hb : b < l.length) :
    l.getD a 0 < l.getD b 0 := by
  rw [getD_eq_getElem (by omega), getD_eq_getElem hb]
  exact (List.pairwise_iff_getElem.1 hs) a b (by omega) hb hab

theorem dead_pending_cond {g : G} {U0 : Nat} {s : Dsat} (h : DSInv g U0 s) {u : Int} (hu : u ≤ s.upper)
    {f : Nat → Nat} (hf : Good g u f) {j t : Nat} (hj : j < s.chosen.length) (hcur : s.cur.getD j 0 < t)
    (ht : t < (s.choices.getD j []).length) (hfe : f (s.chosen.getD j 0) = (s.choices.getD j []).getD t 0)
    (hnc : ¬ advCond s j) : False := by
  have h2 := hf.2 _ (h.chlt _ (getD_mem hj))
  have hle : (s.choices.getD j []).getD (s.cur.getD j 0 + 1) 0 ≤ (s.choices.getD j []).getD t 0 := by
    by_cases he : s.cur.getD j 0 + 1 = t
    · rw [he]
    · exact Nat.le_of_lt (sorted_getD_lt (h.pos j hj).optS (by omega) ht)
  unfold advCond at hnc
  rw [hfe] at h2
  have : s.cur.getD j 0 + 1 < (s.choices.getD j []).length := by omega
  have h3 : ¬ ((((s.choices.getD j []).getD (s.cur.getD j 0 + 1) 0 : Nat) : Int) + 1 < s.upper) :=
    fun hh => hnc ⟨this, hh⟩
  omega

theorem dead_pending_cut {g : G} {U0 : Nat} {s : Dsat} (h : DSInv g U0 s) {u : Int} (hu : u ≤ s.upper)
    {f : Nat → Nat} (hf : Good g u f) {K : Nat} (hK : K < s.chosen.length)
    (hKc : s.upper - 1 ≤ colOf s (s.chosen.getD K 0)) {j t : Nat} (hj : j < s.chosen.length) (hKj : K ≤ j)
    (hcur : s.cur.getD j 0 < t) (ht : t < (s.choices.getD j []).length)
    (he : Ext s (s.chosen.take j) f) (hfe : f (s.chosen.getD j 0) = (s.choices.getD j []).getD t 0) : False := by
  by_cases hKj' : K = j
  · subst hKj'
    have h2 := hf.2 _ (h.chlt _ (getD_mem hj))
    rw [hfe] at h2
    have hlt := sorted_getD_lt (h.pos K hj).optS hcur ht
    rw [(h.pos K hj).col] at hKc
    omega
  · have hmem : s.chosen.getD K 0 ∈ s.chosen.take j := (mem_take_iff_getD (by omega)).2 ⟨K, by omega, rfl⟩
    have h1 := he _ hmem
    have h2 := hf.2 _ (h.chlt _ (getD_mem hK))
    omega

def BacktrackPost (g : G) (U0 : Nat) (s : Dsat) : DsStep → Prop
  | .next r => DSInv g U0 r ∧ CInv g r ∧ ColUp r ∧ dsMeasure g r < dsMeasure g s
  | .done k c => (∀ u : Int, u ≤ s.upper → ¬ ∃ f, Good g u f) ∧
      ((s.best.getD 0 0 = -1 ∧ k = -1 ∧ c = none) ∨ (s.best.getD 0 0 ≠ -1 ∧ k = s.upper ∧ c = some s.best))
  | .panic => False

theorem dsBacktrack_spec {g : G} {U0 : Nat} {s : Dsat} (h : DSInv g U0 s) (hc : CInv g s)
    (hdead : ∀ u : Int, u ≤ s.upper → ∀ f, Good g u f → ¬ Ext s s.chosen f) :
    BacktrackPost g U0 s (dsBacktrack g s) := by
  obtain ⟨K, hKe, hKd, hKlow, hKcut⟩ := mustChange_spec h
  unfold dsBacktrack
  rw [hKe]
  have hfa := findAdvance_spec s K
  have hdeadpos : ∀ {u : Int}, u ≤ s.upper → ∀ {f}, Good g u f → ∀ {j t}, Alt s f j t →
      (j < K → ¬ advCond s j) → False := by
    intro u hu f hf j t ⟨hj, hcur, ht, he, hfe⟩ hnc
    by_cases hjK : j < K
    · exact dead_pending_cond h hu hf hj hcur ht hfe (hnc hjK)
    · have hKj := Nat.le_of_not_lt hjK
      have hKl := Nat.lt_of_le_of_lt hKj hj
      exact dead_pending_cut h hu hf hKl (hKcut hKl) hj hKj hcur ht he hfe
  cases hres : findAdvance s K with
  | none =>
    have hnc := hfa.2 hres
    simp only
    have hnone : ∀ u : Int, u ≤ s.upper → ¬ ∃ f, Good g u f := by
      rintro u hu hex
      obtain ⟨f, hf, hopen⟩ := hc u hu hex
      rcases hopen with he | ⟨j, t, ha⟩
      · exact hdead u hu f hf he
      · exact hdeadpos hu hf ha (hnc j)
    by_cases hb : (s.best.getD 0 0 == -1) = true
    · rw [if_pos hb]
      exact ⟨hnone, Or.inl ⟨by simpa using hb, rfl, rfl⟩⟩
    · rw [if_neg hb]
      exact ⟨hnone, Or.inr ⟨by simpa using hb, rfl, rfl⟩⟩
  | some i =>
    obtain ⟨hiK, hcond, hbetween⟩ := hfa.1 i hres
    simp only
    have hi : i < s.chosen.length := Nat.lt_of_lt_of_le hiK hKd
    generalize hr : dsBacktrackTo g s i = r
    obtain ⟨hinv, hm, hv, hcur, hcho⟩ := dsBacktrackTo_inv h hi hcond.1 hr
    refine ⟨hinv, hm.cinv_advance hinv hc hv hcho hcur hdead
      (fun u hu f hf j t ha hij => hdeadpos hu hf ha (hbetween j hij)),
      hm.colUp (fun j hj => hKlow j (Nat.lt_trans hj hiK)) ?_,
      hm.measure_advance hi (by unfold remAt; rw [hcho, hcur]; have := hcond.1; omega)⟩
    rw [(hinv.pos i hm.lt).col, hcho, hcur]
    have := hcond.2
    omega

end CliqueColour
