import Mamba.Lemmas.DawgSearchSpec
/-! # `PatternSearcher` is lawful and accepts exactly the words matching the pattern -/
namespace DawgSearch

def patternSpec (pat : List UInt8) (blank : UInt8) : Spec SState where
  R rp s := s = .pat ⟨pat, blank, rp.length⟩
  A rp c := match pat[rp.length]? with
    | some x => x == blank || x == c
    | none => false
  W rp := rp.length == pat.length

theorem patternSpec_lawful (pat : List UInt8) (blank : UInt8) : Lawful goOps (patternSpec pat blank) where
  allowStep := by
    intro rp s c h
    subst h
    simp only [goOps, PatternSearcher.allowStep, patternSpec]
    by_cases hlen : pat.length ≤ rp.length
    · have : (pat.length : Int) ≤ (rp.length : Int) := Int.ofNat_le.2 hlen
      simp [this, List.getElem?_eq_none hlen]
    · have h1 : ¬ (pat.length : Int) ≤ (rp.length : Int) := fun h => hlen (Int.ofNat_le.1 h)
      have h2 : ¬ (rp.length : Int) < 0 := Int.not_lt.2 (Int.natCast_nonneg _)
      simp only [h1, h2, if_false, Int.toNat_natCast]
      have : rp.length < pat.length := Nat.not_le.1 hlen
      simp [List.getElem?_eq_getElem this]
  step := by
    intro rp s c h _
    subst h
    exact ⟨_, rfl, by simp [patternSpec]⟩
  backstep := by
    intro rp s c h
    subst h
    refine ⟨.pat ⟨pat, blank, rp.length⟩, ?_, rfl⟩
    simp [goOps, PatternSearcher.backstep]
  allowWord := by
    intro rp s h
    subst h
    simp only [goOps, PatternSearcher.allowWord, patternSpec]
    congr 1
    rw [Bool.eq_iff_iff]
    rw [beq_iff_eq, beq_iff_eq, Int.natCast_inj]
  chosen := by
    intro rp s h
    exact ⟨s, by subst h; rfl, h⟩

theorem patternSpec_accFrom (pat : List UInt8) (blank : UInt8) : ∀ (w rp : Word), rp.length ≤ pat.length →
    (patternSpec pat blank).accFrom rp w = patternMatches blank (pat.drop rp.length) w
  | [], rp, h => by
    simp only [Spec.accFrom, patternSpec]
    by_cases he : rp.length = pat.length
    · simp [he, patternMatches]
    · have : rp.length < pat.length := Nat.lt_of_le_of_ne h he
      rw [List.drop_eq_getElem_cons this]
      simp [patternMatches, he]
  | c :: w, rp, h => by
    simp only [Spec.accFrom]
    by_cases he : rp.length = pat.length
    · simp [patternSpec, he, patternMatches]
    · have hlt : rp.length < pat.length := Nat.lt_of_le_of_ne h he
      rw [List.drop_eq_getElem_cons hlt]
      have ih := patternSpec_accFrom pat blank w (c :: rp) hlt
      rw [ih]
      simp [patternSpec, List.getElem?_eq_getElem hlt, patternMatches]

theorem patternSpec_accepts (pat : List UInt8) (blank : UInt8) (w : Word) :
    (patternSpec pat blank).accepts w = patternMatches blank pat w := by
  simpa [Spec.accepts] using patternSpec_accFrom pat blank w [] (by simp)

end DawgSearch
