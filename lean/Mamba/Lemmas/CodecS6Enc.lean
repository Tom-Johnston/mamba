import Mamba.Lemmas.CodecBits
import Mamba.Lemmas.CodecHeader
import Mamba.Lemmas.CodecCount
import Mamba.Lemmas.CodecS6Dec
/-!
`Sparse6Encode` of the model against the format's reader (C07 for sparse6): the output is `':' N(n) R(x)`, `x` the
`(b, x)` stream of the edges in the order of `G.edges` (`s6e_stream`) followed by the padding `Formats.s6PadBits`
(`s6_conforms`); `Formats.s6DecodeSpec` reads it back as exactly `(n, G.edges)` (`s6_spec_decodes`): the padding,
including the `0`-bit rule for `n = 2, 4, 8, 16`, never yields a spurious edge. With the decoder being the format's reader
(`CodecS6Dec`) this gives the round trip (`s6_roundtrip_of_spec`).
-/
namespace Codec
open Formats GraphSpec

theorem s6e_pushNum_eq (w : BitW) (k x : Nat) :
    w.pushNum k x = (natToBits k x).foldl (fun w b => w.pushOr b) w := by
  have e : (fun (w : BitW) j => w.pushOr ((x >>> (k - j - 1)) &&& 1 == 1)) =
      fun w j => w.pushOr (x / 2 ^ (k - 1 - j) % 2 == 1) := by
    funext w j; rw [shiftRight_and_one, Nat.sub_right_comm]
  unfold BitW.pushNum natToBits
  rw [List.foldl_map, e]

theorem s6e_pushNum_rep {w : BitW} {pre bits} (h : w.Rep pre bits) (k x : Nat) :
    (w.pushNum k x).Rep pre (bits ++ natToBits k x) := by
  rw [s6e_pushNum_eq]; exact h.foldl BitW.Rep.pushOr _

theorem s6e_read_group (n k g v : Nat) (b : Bool) (xs rest : List Bool) (hx : xs.length = k) :
    s6Read n k (g + 1) v (b :: (xs ++ rest)) =
      if (if b then v + 1 else v) ≥ n then []
      else if bitsToNat xs > (if b then v + 1 else v) then s6Read n k g (bitsToNat xs) rest
      else (bitsToNat xs, (if b then v + 1 else v)) :: s6Read n k g (if b then v + 1 else v) rest := by
  rw [s6Read]
  simp only [List.headD_cons, List.drop_succ_cons, List.drop_zero, List.take_left' hx, List.drop_left' hx]
  rfl

/-- the bits the encoder emits for the edge list `es` (pairs `(u, i)`, `u < i`) when its pointer is `v` -/
def s6e_stream (k : Nat) : Nat → List (Nat × Nat) → List Bool
  | _, [] => []
  | v, p :: es =>
    if p.2 = v then false :: (natToBits k p.1 ++ s6e_stream k v es)
    else if p.2 = v + 1 then true :: (natToBits k p.1 ++ s6e_stream k (v + 1) es)
    else true :: (natToBits k p.2 ++ false :: (natToBits k p.1 ++ s6e_stream k p.2 es))

def s6e_groups : Nat → List (Nat × Nat) → Nat
  | _, [] => 0
  | v, p :: es => if p.2 = v ∨ p.2 = v + 1 then 1 + s6e_groups p.2 es else 2 + s6e_groups p.2 es

def s6e_ptr : Nat → List (Nat × Nat) → Nat
  | v, [] => v
  | _, p :: es => s6e_ptr p.2 es

def s6e_ok (n : Nat) : Nat → List (Nat × Nat) → Prop
  | _, [] => True
  | v, p :: es => p.1 < p.2 ∧ p.2 < n ∧ v ≤ p.2 ∧ s6e_ok n p.2 es

theorem s6e_stream_length (k : Nat) (es : List (Nat × Nat)) :
    ∀ v, (s6e_stream k v es).length = s6e_groups v es * (k + 1) := by
  induction es with
  | nil => intro v; simp [s6e_stream, s6e_groups]
  | cons p es ih =>
    intro v
    unfold s6e_stream s6e_groups
    by_cases h1 : p.2 = v
    · rw [if_pos h1, if_pos (Or.inl h1)]
      simp only [List.length_cons, List.length_append, natToBits_length]
      rw [← h1, ih]; ring
    · by_cases h2 : p.2 = v + 1
      · rw [if_neg h1, if_pos h2, if_pos (Or.inr h2)]
        simp only [List.length_cons, List.length_append, natToBits_length]
        rw [← h2, ih]; ring
      · rw [if_neg h1, if_neg h2, if_neg (by simp [h1, h2])]
        simp only [List.length_cons, List.length_append, natToBits_length, ih]
        ring

theorem s6e_ptr_ge (n : Nat) (es : List (Nat × Nat)) :
    ∀ v, s6e_ok n v es → v ≤ s6e_ptr v es ∧ (es ≠ [] → 1 ≤ s6e_ptr v es) := by
  induction es with
  | nil => intro v _; simp [s6e_ptr]
  | cons p es ih =>
    intro v h
    obtain ⟨h1, h2, h3, h4⟩ := h
    have := (ih p.2 h4).1
    simp only [s6e_ptr]
    exact ⟨by omega, fun _ => by omega⟩

def s6e_step (k : Nat) (st : BitW × Nat) (p : Nat × Nat) : BitW × Nat := s6EdgeStep k p.2 st p.1

theorem s6e_edges_rep (k : Nat) (pre : List Nat) (es : List (Nat × Nat)) :
    ∀ (w : BitW) (v : Nat) (bits : List Bool), w.Rep pre bits →
      ((es.foldl (s6e_step k) (w, v)).1).Rep pre (bits ++ s6e_stream k v es) ∧
      (es.foldl (s6e_step k) (w, v)).2 = s6e_ptr v es := by
  induction es with
  | nil => intro w v bits h; simpa [s6e_stream, s6e_ptr] using h
  | cons p es ih =>
    intro w v bits h
    rw [List.foldl_cons]
    unfold s6e_stream s6e_ptr
    by_cases h1 : p.2 = v
    · have e : s6e_step k (w, v) p = ((w.pushOr false).pushNum k p.1, v) := by
        simp [s6e_step, s6EdgeStep, h1]
      have := ih _ v _ (s6e_pushNum_rep (h.pushOr false) k p.1)
      rw [e, if_pos h1]
      simpa [h1] using this
    · by_cases h2 : p.2 = v + 1
      · have e : s6e_step k (w, v) p = ((w.pushOr true).pushNum k p.1, v + 1) := by
          simp [s6e_step, s6EdgeStep, h2]
        have := ih _ (v + 1) _ (s6e_pushNum_rep (h.pushOr true) k p.1)
        rw [e, if_neg h1, if_pos h2]
        simpa [h2] using this
      · have e : s6e_step k (w, v) p = ((((w.pushOr true).pushNum k p.2).pushOr false).pushNum k p.1, p.2) := by
          simp [s6e_step, s6EdgeStep, h1, h2]
        have := ih _ p.2 _ (s6e_pushNum_rep ((s6e_pushNum_rep (h.pushOr true) k p.2).pushOr false) k p.1)
        rw [e, if_neg h1, if_neg h2]
        simpa using this

theorem s6e_read_edge (n k g v v' u : Nat) (b : Bool) (rest : List Bool) (hb : (if b then v + 1 else v) = v')
    (hu : u < 2 ^ k) (hv : v' < n) (hle : u ≤ v') :
    s6Read n k (g + 1) v (b :: (natToBits k u ++ rest)) = (u, v') :: s6Read n k g v' rest := by
  subst hb
  rw [s6e_read_group _ _ _ _ _ _ _ (natToBits_length k u), bitsToNat_natToBits k u hu,
    if_neg (Nat.not_le_of_lt hv), if_neg (Nat.not_lt_of_le hle)]

theorem s6e_read_jump (n k g v x : Nat) (rest : List Bool) (hx : x < 2 ^ k) (hv : v + 1 < n) (hgt : v + 1 < x) :
    s6Read n k (g + 1) v (true :: (natToBits k x ++ rest)) = s6Read n k g x rest := by
  rw [s6e_read_group _ _ _ _ _ _ _ (natToBits_length k x), bitsToNat_natToBits k x hx, if_pos rfl,
    if_neg (Nat.not_le_of_lt hv), if_pos hgt]

theorem s6e_read_stream (n k : Nat) (hk : n ≤ 2 ^ k) (es : List (Nat × Nat)) :
    ∀ (v r : Nat) (tail : List Bool), s6e_ok n v es →
      s6Read n k (s6e_groups v es + r) v (s6e_stream k v es ++ tail) =
        es ++ s6Read n k r (s6e_ptr v es) tail := by
  induction es with
  | nil => intro v r tail _; simp [s6e_groups, s6e_stream, s6e_ptr]
  | cons p es ih =>
    intro v r tail h
    obtain ⟨h1, h2, h3, h4⟩ := h
    obtain ⟨u, i⟩ := p
    simp only at h1 h2 h3 h4
    have hu : u < 2 ^ k := by omega
    have hi : i < 2 ^ k := by omega
    unfold s6e_stream s6e_groups s6e_ptr
    simp only
    by_cases c1 : i = v
    · subst c1
      rw [if_pos rfl, if_pos (Or.inl rfl), Nat.add_comm 1, Nat.add_right_comm, List.cons_append, List.append_assoc,
        s6e_read_edge n k _ i i u false _ rfl hu h2 (Nat.le_of_lt h1), ih i r tail h4]
      rfl
    · by_cases c2 : i = v + 1
      · subst c2
        rw [if_neg c1, if_pos rfl, if_pos (Or.inr rfl), Nat.add_comm 1, Nat.add_right_comm, List.cons_append,
          List.append_assoc, s6e_read_edge n k _ v (v + 1) u true _ rfl hu h2 (Nat.le_of_lt h1), ih (v + 1) r tail h4]
        rfl
      · rw [if_neg c1, if_neg c2, if_neg (not_or.2 ⟨c1, c2⟩), Nat.add_comm 2, Nat.add_right_comm,
          List.cons_append, List.append_assoc, s6e_read_jump n k _ v i _ hi (by omega) (by omega),
          List.cons_append, List.append_assoc, s6e_read_edge n k _ i i u false _ rfl hu h2 (Nat.le_of_lt h1),
          ih i r tail h4]
        rfl

theorem s6e_read_stop (n k r v : Nat) (bits : List Bool) (hb : r = 0 ∨ bits.headD false = true) (hv : n ≤ v + 1) :
    s6Read n k r v bits = [] := by
  cases r with
  | zero => rfl
  | succ r =>
    have hb : bits.headD false = true := by simpa using hb
    rw [s6Read]
    simp only [hb, if_true]
    rw [if_pos hv]

theorem s6e_ones_split (p k : Nat) (h : k + 1 ≤ p) :
    List.replicate p true = true :: (List.replicate k true ++ List.replicate (p - k - 1) true) := by
  have e : p = 1 + (k + (p - k - 1)) := by omega
  conv_lhs => rw [e, ← List.replicate_append_replicate, ← List.replicate_append_replicate]
  rfl

theorem s6e_headD_ones (p : Nat) (h : 0 < p) : (List.replicate p true).headD false = true := by
  cases p with
  | zero => omega
  | succ p => rfl

theorem s6e_read_ones (n k r v p : Nat) (hk : n ≤ 2 ^ k) (hp : r * (k + 1) ≤ p) (hv : ¬(v + 2 = n ∧ n = 2 ^ k)) :
    s6Read n k r v (List.replicate p true) = [] := by
  cases r with
  | zero => rfl
  | succ r =>
    rw [Nat.succ_mul] at hp
    rw [s6e_ones_split p k (by omega), s6e_read_group _ _ _ _ _ _ _ (List.length_replicate ..), bitsToNat_replicate_true]
    simp only [if_true]
    have h2 := Nat.two_pow_pos k
    by_cases c1 : v + 1 ≥ n
    · rw [if_pos c1]
    · rw [if_neg c1, if_pos (by omega)]
      apply s6e_read_stop _ _ _ _ _ _ (by omega)
      cases r with
      | zero => left; rfl
      | succ r =>
        right
        rw [Nat.succ_mul] at hp
        exact s6e_headD_ones _ (by omega)

theorem s6e_read_zero_ones (n k r v p : Nat) (hk : n = 2 ^ k) (hv : v + 2 = n) (hp : r * (k + 1) ≤ p) :
    s6Read n k r v (false :: List.replicate (p - 1) true) = [] := by
  cases r with
  | zero => rfl
  | succ r =>
    rw [Nat.succ_mul] at hp
    have e : List.replicate (p - 1) true = List.replicate k true ++ List.replicate (p - 1 - k) true := by
      rw [List.replicate_append_replicate]; congr 1; omega
    rw [e, s6e_read_group _ _ _ _ _ _ _ (List.length_replicate ..), bitsToNat_replicate_true]
    simp only [Bool.false_eq_true, if_false]
    rw [if_neg (by omega), if_pos (by omega)]
    apply s6e_read_stop _ _ _ _ _ _ (by omega)
    cases r with
    | zero => left; rfl
    | succ r =>
      right
      rw [Nat.succ_mul] at hp
      exact s6e_headD_ones _ (by omega)

theorem s6e_inner_sorted (k i : Nat) (l : List Nat) (hl : l.Pairwise (· < ·)) :
    ∀ st, s6Inner k i l st = (l.filter (· ≤ i)).foldl (s6EdgeStep k i) st := by
  induction l with
  | nil => intro st; rfl
  | cons u us ih =>
    intro st
    rw [List.pairwise_cons] at hl
    unfold s6Inner
    by_cases c : u > i
    · rw [if_pos c]
      have : (u :: us).filter (· ≤ i) = [] := by
        rw [List.filter_eq_nil_iff]
        intro a ha
        rcases List.mem_cons.1 ha with e | e
        · subst e; simp; omega
        · have := hl.1 a e; simp; omega
      rw [this]; rfl
    · rw [if_neg c, List.filter_cons_of_pos (by simp; omega), List.foldl_cons]
      exact ih hl.2 _

theorem filter_range_eq_of_lt (p : Nat → Bool) (i n : Nat) (hin : i ≤ n) (hp : ∀ u, p u = true → u < i) :
    (List.range n).filter p = (List.range i).filter p := by
  obtain ⟨d, rfl⟩ := Nat.exists_eq_add_of_le hin
  rw [List.range_add, List.filter_append]
  have : (List.map (fun x => i + x) (List.range d)).filter p = [] := by
    rw [List.filter_eq_nil_iff]
    intro a ha hpa
    obtain ⟨x, _, rfl⟩ := List.mem_map.1 ha
    have := hp _ hpa; omega
  rw [this, List.append_nil]

def s6e_row (g : G) (i : Nat) : List (Nat × Nat) := ((List.range i).filter fun u => g.adj u i).map fun u => (u, i)

theorem s6e_inner_row (g : GI) (hs : g.Sound) (k i : Nat) (hi : i < g.n) (st : BitW × Nat) :
    s6Inner k i (g.nbrs i) st = (s6e_row g.toG i).foldl (s6e_step k) st := by
  rw [hs.nbrs_eq i hi]
  unfold G.nbrs s6e_row
  rw [s6e_inner_sorted k i _ (List.Pairwise.filter _ List.pairwise_lt_range)]
  rw [List.filter_filter, List.foldl_map]
  have e : (List.range g.toG.n).filter (fun a => decide (a ≤ i) && g.toG.adj i a) =
      (List.range i).filter (fun u => g.toG.adj u i) := by
    rw [filter_range_eq_of_lt _ i g.toG.n (Nat.le_of_lt hi)]
    · apply List.filter_congr
      intro u hu
      rw [List.mem_range] at hu
      rw [hs.wf.symm u i]; simp; omega
    · intro u hu
      simp only [Bool.and_eq_true, decide_eq_true_eq] at hu
      rcases Nat.lt_or_ge u i with c | c
      · exact c
      · have : u = i := by omega
        subst this
        rw [hs.wf.irrefl] at hu; simp at hu
  rw [e]
  rfl

theorem s6e_edges_eq (g : G) : g.edges = (List.range g.n).flatMap (s6e_row g) := rfl

theorem s6e_main_loop (g : GI) (hs : g.Sound) (k : Nat) (hn : 1 ≤ g.n) (st : BitW × Nat) :
    (List.range' 1 (g.n - 1)).foldl (fun st i => s6Inner k i (g.nbrs i) st) st =
      g.toG.edges.foldl (s6e_step k) st := by
  rw [s6e_edges_eq, List.foldl_flatMap]
  have e : List.range g.toG.n = 0 :: List.range' 1 (g.n - 1) := by
    have : g.toG.n = (g.n - 1) + 1 := by show g.n = _; omega
    rw [this, List.range_eq_range', List.range'_succ]
  rw [e, List.foldl_cons]
  have : (s6e_row g.toG 0).foldl (s6e_step k) st = st := by simp [s6e_row]
  rw [this]
  apply List.foldl_ext
  intro b a ha
  rw [List.mem_range'_1] at ha
  exact s6e_inner_row g hs k a (by omega) b

theorem s6e_ok_of_sorted (n : Nat) : ∀ (es : List (Nat × Nat)) (v : Nat), (∀ p ∈ es, p.1 < p.2 ∧ p.2 < n ∧ v ≤ p.2) →
    (es.map (·.2)).Pairwise (· ≤ ·) → s6e_ok n v es
  | [], _, _, _ => trivial
  | p :: es, v, h, hs => by
    obtain ⟨h1, h2, h3⟩ := h p List.mem_cons_self
    rw [List.map_cons, List.pairwise_cons] at hs
    exact ⟨h1, h2, h3, s6e_ok_of_sorted n es p.2 (fun q hq =>
      have hq' := h q (List.mem_cons_of_mem _ hq)
      ⟨hq'.1, hq'.2.1, hs.1 _ (List.mem_map_of_mem hq)⟩) hs.2⟩

theorem edges_snd_sorted (g : G) : (g.edges.map (·.2)).Pairwise (· ≤ ·) := by
  rw [List.pairwise_map, GraphRep.edges_eq_filter]
  exact (GraphRep.upperPairs_pairwise_snd g.n).filter _

theorem s6e_edges_ok (g : G) : s6e_ok g.n 0 g.edges :=
  s6e_ok_of_sorted g.n g.edges 0 (fun p hp =>
    have := (G.mem_edges (u := p.1) (v := p.2)).1 hp
    ⟨this.1, this.2.1, Nat.zero_le _⟩) (edges_snd_sorted g)

theorem s6e_ptr_spec (n : Nat) : ∀ (es : List (Nat × Nat)) (v : Nat), s6e_ok n v es →
    (∀ p ∈ es, p.2 ≤ s6e_ptr v es) ∧ ((es = [] ∧ s6e_ptr v es = v) ∨ ∃ u, (u, s6e_ptr v es) ∈ es)
  | [], _, _ => ⟨fun _ h => (nomatch h), Or.inl ⟨rfl, rfl⟩⟩
  | p :: es, v, h => by
    obtain ⟨ih1, ih2⟩ := s6e_ptr_spec n es p.2 h.2.2.2
    have hge := (s6e_ptr_ge n es p.2 h.2.2.2).1
    refine ⟨fun q hq => ?_, Or.inr ?_⟩
    · rcases List.mem_cons.1 hq with rfl | hq
      · exact hge
      · exact ih1 q hq
    · rcases ih2 with ⟨_, e⟩ | ⟨u, hu⟩
      · exact ⟨p.1, by show (p.1, s6e_ptr p.2 es) ∈ _; rw [e]; exact List.mem_cons_self⟩
      · exact ⟨u, List.mem_cons_of_mem _ hu⟩

theorem s6e_ptr_of_deg (g : G) (h : g.WF) (hn : 2 ≤ g.n) (h1 : g.deg (g.n - 2) > 0) (h2 : g.deg (g.n - 1) = 0) :
    s6e_ptr 0 g.edges = g.n - 2 ∧ 3 ≤ g.n := by
  obtain ⟨c1, c2⟩ := s6e_ptr_spec g.n g.edges 0 (s6e_edges_ok g)
  generalize s6e_ptr 0 g.edges = t at c1 c2
  obtain ⟨u, hu, hadj⟩ := (G.deg_pos_iff g _).1 h1
  rw [G.deg_eq_zero_iff] at h2
  have hu1 : u ≠ g.n - 2 := by intro e; subst e; rw [h.irrefl] at hadj; cases hadj
  have hu2 : u ≠ g.n - 1 := by
    intro e; subst e; rw [h.symm, h2 _ (by omega)] at hadj; cases hadj
  rw [h.symm] at hadj
  have hmem : (u, g.n - 2) ∈ g.edges := G.mem_edges.2 ⟨by omega, by omega, hadj⟩
  have hle : g.n - 2 ≤ t := c1 _ hmem
  refine ⟨?_, by omega⟩
  rcases c2 with ⟨e, _⟩ | ⟨w, hw⟩
  · rw [e] at hmem; cases hmem
  · obtain ⟨hw1, hw2, hw3⟩ := G.mem_edges.1 hw
    have : t ≠ g.n - 1 := by
      intro e; subst e; rw [h.symm, h2 w (by omega)] at hw3; cases hw3
    omega

theorem s6e_deg_of_ptr (g : G) (h : g.WF) (hn : 3 ≤ g.n) (hp : s6e_ptr 0 g.edges = g.n - 2) :
    g.deg (g.n - 2) > 0 ∧ g.deg (g.n - 1) = 0 := by
  obtain ⟨c1, c2⟩ := s6e_ptr_spec g.n g.edges 0 (s6e_edges_ok g)
  rw [hp] at c1 c2
  constructor
  · rw [G.deg_pos_iff]
    rcases c2 with ⟨_, e⟩ | ⟨w, hw⟩
    · omega
    · obtain ⟨hw1, _, hw3⟩ := G.mem_edges.1 hw
      exact ⟨w, by omega, by rw [h.symm]; exact hw3⟩
  · rw [G.deg_eq_zero_iff]
    intro u hu
    rcases Nat.lt_or_ge u (g.n - 1) with c | c
    · cases hc : g.adj (g.n - 1) u
      · rfl
      · have := c1 (u, g.n - 1) (G.mem_edges.2 ⟨c, by omega, by rw [h.symm]; exact hc⟩)
        simp only at this; omega
    · have : u = g.n - 1 := by omega
      subst this; exact h.irrefl _

theorem s6e_padOnes_push (w : BitW) (h : w.idx < 6) :
    (List.replicate (6 - w.idx) true).foldl (fun w x => w.pushAdd x) w =
      ⟨w.s.push (badd (s6PadOnes w.b w.idx) 63), 0, 0⟩ := by
  obtain ⟨s, b, idx⟩ := w
  obtain ⟨d, hd⟩ : ∃ d, 6 - idx = d + 1 := ⟨5 - idx, by simp only at h; omega⟩
  unfold s6PadOnes
  simp only [hd]
  clear h
  induction d generalizing b idx with
  | zero =>
    obtain rfl : idx = 5 := by omega
    rfl
  | succ d ih =>
    have e : BitW.pushAdd ⟨s, b, idx⟩ true = ⟨s, badd b (1 <<< (5 - idx)), idx + 1⟩ := by
      unfold BitW.pushAdd
      simp only [if_true]
      rw [if_neg (by omega)]
    rw [List.replicate_succ, List.foldl_cons, List.range'_succ, List.foldl_cons, e]
    exact ih _ (idx + 1) (by omega)

theorem s6e_fin {w : BitW} {pre bits} (h : w.Rep pre bits) :
    (w.s.push (badd (s6PadOnes w.b w.idx) 63)).toList = pre ++ R (bits ++ List.replicate (6 - w.idx) true) := by
  have h1 := h.foldl BitW.Rep.pushAdd (List.replicate (6 - w.idx) true)
  rw [s6e_padOnes_push w h.idx_lt] at h1
  have := h1.flush
  simpa using this

theorem s6e_decode_bits (n : Nat) (hn : n ≤ 68719476735) (bits : List Bool) (hb : bits.length % 6 = 0) :
    s6DecodeSpec (58 :: (Nn n ++ R bits)) =
      some (n, s6Read n (Formats.bitLen (n - 1)) (bits.length / (Formats.bitLen (n - 1) + 1)) 0 bits) := by
  have hr : Formats.inRange (Nn n ++ R bits) = true := by
    apply (inRange_spec_iff _).2
    intro c hc
    rcases List.mem_append.1 hc with h | h
    · exact Nn_range n hn c h
    · exact R_range bits c h
  rw [s6DecodeSpec_cons, hr, readN_Nn n hn]
  have : unR (R bits) = bits := by rw [unR_R, hb]; simp
  simp only [this]
  rfl

theorem s6e_decode_stream (n : Nat) (hn : n ≤ 68719476735) (hk : n ≤ 2 ^ Formats.bitLen (n - 1))
    (es : List (Nat × Nat)) (hok : s6e_ok n 0 es) (pad : List Bool)
    (hb : (s6e_stream (Formats.bitLen (n - 1)) 0 es ++ pad).length % 6 = 0)
    (hpad : s6Read n (Formats.bitLen (n - 1)) (pad.length / (Formats.bitLen (n - 1) + 1)) (s6e_ptr 0 es) pad = []) :
    s6DecodeSpec (58 :: (Nn n ++ R (s6e_stream (Formats.bitLen (n - 1)) 0 es ++ pad))) = some (n, es) := by
  rw [s6e_decode_bits n hn _ hb]
  have e : (s6e_stream (Formats.bitLen (n - 1)) 0 es ++ pad).length / (Formats.bitLen (n - 1) + 1) =
      s6e_groups 0 es + pad.length / (Formats.bitLen (n - 1) + 1) := by
    rw [List.length_append, s6e_stream_length, Nat.add_comm, Nat.add_mul_div_right _ _ (by omega), Nat.add_comm]
  rw [e, s6e_read_stream n _ hk es 0 _ pad hok, hpad, List.append_nil]

theorem s6e_le_pow (n : Nat) : n ≤ 2 ^ Formats.bitLen (n - 1) := by
  unfold Formats.bitLen
  split
  · omega
  · have := @Nat.lt_log2_self (n - 1)
    omega

/-- the format's condition for a `0` bit in front of a padding of `p` bits -/
abbrev s6e_zeroRule (g : G) (k p : Nat) : Prop :=
  (((g.n = 2 ∨ g.n = 4) ∨ g.n = 8) ∨ g.n = 16) ∧ p ≥ k + 1 ∧ g.deg (g.n - 2) > 0 ∧ g.deg (g.n - 1) = 0

theorem s6e_zeroRule_zero (g : G) (k : Nat) : ¬ s6e_zeroRule g k 0 := fun h => by have := h.2.1; omega

theorem s6e_padBits_eq (g : G) (len : Nat) :
    s6PadBits g len =
      if s6e_zeroRule g (Formats.bitLen (g.n - 1)) ((6 - len % 6) % 6) then false :: List.replicate ((6 - len % 6) % 6 - 1) true
      else List.replicate ((6 - len % 6) % 6) true := by
  unfold s6PadBits
  simp only [Bool.and_eq_true, Bool.or_eq_true, decide_eq_true_eq, beq_iff_eq]
  exact if_congr ⟨fun ⟨⟨⟨a, c⟩, d⟩, b⟩ => ⟨a, b, c, d⟩, fun ⟨a, b, c, d⟩ => ⟨⟨⟨a, c⟩, d⟩, b⟩⟩ rfl rfl

theorem s6e_padBits_length (g : G) (len : Nat) : (s6PadBits g len).length = (6 - len % 6) % 6 := by
  rw [s6e_padBits_eq]
  split
  · rename_i h
    have := h.2.1
    rw [List.length_cons, List.length_replicate]; omega
  · exact List.length_replicate ..

theorem s6e_pow_cases (n : Nat) (h : ((n = 2 ∨ n = 4) ∨ n = 8) ∨ n = 16) : n = 2 ^ Formats.bitLen (n - 1) := by
  rcases h with ((h | h) | h) | h <;> subst h <;> decide

theorem s6e_cases_pow {n k : Nat} (h : n = 2 ^ k) (h1 : 1 ≤ k) (h4 : k ≤ 4) :
    ((n = 2 ∨ n = 4) ∨ n = 8) ∨ n = 16 := by
  obtain rfl | rfl | rfl | rfl : k = 1 ∨ k = 2 ∨ k = 3 ∨ k = 4 := by omega
  all_goals subst h; decide

/-- the padding is never read as an edge: all-ones padding could only be misread with the pointer at `n - 2` and
`n` a power of two, and that is when the rule puts a `0` in front -/
theorem s6e_pad_silent (g : G) (h : g.WF) (len : Nat)
    (hlen : len = (s6e_stream (Formats.bitLen (g.n - 1)) 0 g.edges).length) :
    s6Read g.n (Formats.bitLen (g.n - 1)) ((s6PadBits g len).length / (Formats.bitLen (g.n - 1) + 1))
      (s6e_ptr 0 g.edges) (s6PadBits g len) = [] := by
  have hk := s6e_le_pow g.n
  have hpow := s6e_pow_cases g.n
  rw [s6e_padBits_length, s6e_padBits_eq]
  generalize Formats.bitLen (g.n - 1) = k at *
  generalize hp : (6 - len % 6) % 6 = p
  have hpk : p / (k + 1) * (k + 1) ≤ p := Nat.div_mul_le_self _ _
  split
  · rename_i hz
    obtain ⟨z1, z2, z3, z4⟩ := hz
    have hn := hpow z1
    have h2 : 2 ≤ g.n := by omega
    clear z1 hpow
    rw [(s6e_ptr_of_deg g h h2 z3 z4).1]
    exact s6e_read_zero_ones g.n k _ (g.n - 2) p hn (Nat.sub_add_cancel h2) hpk
  · rename_i hz
    by_cases cp : p < k + 1
    · rw [Nat.div_eq_of_lt cp]; rfl
    · apply s6e_read_ones g.n k _ _ _ hk hpk
      rintro ⟨hv, hn⟩
      apply hz
      clear hz hk hpow hpk
      have hk1 : 1 ≤ k := by
        rcases Nat.eq_zero_or_pos k with e | e
        · rw [e] at hn; omega
        · exact e
      refine ⟨s6e_cases_pow hn hk1 (by omega), Nat.le_of_not_lt cp, ?_⟩
      by_cases c3 : g.n = 2
      · exfalso
        have hne : g.edges ≠ [] := by
          intro e
          rw [e] at hlen
          simp only [s6e_stream, List.length_nil] at hlen
          omega
        have := (s6e_ptr_ge g.n g.edges 0 (s6e_edges_ok g)).2 hne
        omega
      · exact s6e_deg_of_ptr g h (by omega) (by omega)

theorem nested_ite_ok {α : Type} (P1 P2 P3 P4 : Prop) [Decidable P1] [Decidable P2] [Decidable P3] [Decidable P4]
    (a b : α) :
    (if P1 ∧ P2 then if P3 then if P4 then Outcome.ok a else .ok b else .ok b else .ok b) =
      .ok (if P1 ∧ P2 ∧ P3 ∧ P4 then a else b) := by
  by_cases c1 : P1 <;> by_cases c2 : P2 <;> by_cases c3 : P3 <;> by_cases c4 : P4 <;> simp [c1, c2, c3, c4]

theorem s6e_degrees_get (g : GI) (v : Nat) (hv : v < g.n) : g.degrees[v]? = some (g.deg v) := by
  simp [GI.degrees, List.getElem?_map, List.getElem?_range hv]

theorem s6e_encode_form (g : GI) (hs : g.Sound) (h2 : 2 ≤ g.n) (hn : g.n ≤ 68719476735) :
    ∃ w : BitW, w.Rep (58 :: Nn g.n) (s6e_stream (Formats.bitLen (g.n - 1)) 0 g.toG.edges) ∧
      s6Encode g = .ok
        (if w.idx = 0 then w.s
         else if s6e_zeroRule g.toG (Formats.bitLen (g.n - 1)) (6 - w.idx) then w.s.push (badd (s6PadOnes w.b (w.idx + 1)) 63)
         else w.s.push (badd (s6PadOnes w.b w.idx) 63)) := by
  have hinit : (⟨#[58] ++ (Nn g.n).toArray, 0, 0⟩ : BitW).Rep (58 :: Nn g.n) [] := by
    have := BitW.Rep.init (#[58] ++ (Nn g.n).toArray)
    simpa using this
  obtain ⟨hrep, _⟩ := s6e_edges_rep (Formats.bitLen (g.n - 1)) _ g.toG.edges _ 0 _ hinit
  rw [List.nil_append] at hrep
  refine ⟨_, hrep, ?_⟩
  unfold s6Encode
  simp only [if_neg (by omega : ¬ g.n = 0), if_neg (by omega : ¬ g.n ≤ 1), encHeaderS6_eq g.n hn,
    s6e_main_loop g hs _ (by omega : 1 ≤ g.n), bitLen_eq,
    s6e_degrees_get g (g.n - 2) (by omega), s6e_degrees_get g (g.n - 1) (by omega),
    hs.deg_eq (g.n - 2) (by omega), hs.deg_eq (g.n - 1) (by omega)]
  generalize (List.foldl (s6e_step (Formats.bitLen (g.n - 1))) (⟨#[58] ++ (Nn g.n).toArray, 0, 0⟩, 0) g.toG.edges).1 = w
  simp only [Bool.and_eq_true, Bool.or_eq_true, decide_eq_true_eq]
  by_cases c0 : w.idx = 0
  · simp only [c0, if_true]
  · simp only [c0, if_false]
    exact nested_ite_ok _ _ _ _ _ _

theorem s6e_stream_nil_iff (k v : Nat) (es : List (Nat × Nat)) : s6e_stream k v es = [] ↔ es = [] := by
  cases es with
  | nil => simp [s6e_stream]
  | cons p es => unfold s6e_stream; split <;> [simp; (split <;> simp)]

theorem BitW.pushOr_false (w : BitW) (h : w.idx + 1 ≠ 6) : w.pushOr false = ⟨w.s, w.b, w.idx + 1⟩ := by
  unfold BitW.pushOr
  simp only [Bool.false_eq_true, if_false]
  rw [if_neg h]

theorem s6e_bitLen_pos {n : Nat} (h : 2 ≤ n) : 1 ≤ Formats.bitLen (n - 1) := by
  unfold Formats.bitLen; rw [if_neg (by omega)]; omega

theorem s6_conforms (g : GI) (hs : g.Sound) (hn : g.n ≤ 68719476735) :
    ∃ a, s6Encode g = .ok a ∧
      a.toList = 58 :: (Nn g.n ++ R (s6e_stream (Formats.bitLen (g.n - 1)) 0 g.toG.edges ++
        s6PadBits g.toG (s6e_stream (Formats.bitLen (g.n - 1)) 0 g.toG.edges).length)) := by
  rw [s6e_padBits_eq]
  by_cases h1 : g.n ≤ 1
  · have he : g.toG.edges = [] := by
      cases he : g.toG.edges with
      | nil => rfl
      | cons p es =>
        have := s6e_edges_ok g.toG
        rw [he] at this; obtain ⟨a, b, _⟩ := this
        have : g.toG.n = g.n := rfl
        omega
    refine ⟨#[58, g.n + 63], ?_, ?_⟩
    · unfold s6Encode; simp only [h1, if_true]
    · simp [he, s6e_stream, Nn, R, (by omega : g.n ≤ 62), s6e_zeroRule_zero]
  · obtain ⟨w, hrep, henc⟩ := s6e_encode_form g hs (by omega) hn
    have hidx := hrep.idx_eq
    have hlt := hrep.idx_lt
    refine ⟨_, henc, ?_⟩
    rw [← hidx]
    by_cases c0 : w.idx = 0
    · rw [if_pos c0, c0, if_neg (s6e_zeroRule_zero _ _)]
      have := hrep.flush
      simpa [c0] using this
    · have hp6 : (6 - w.idx) % 6 = 6 - w.idx :=
        Nat.mod_eq_of_lt (Nat.sub_lt (by decide) (Nat.pos_of_ne_zero c0))
      rw [if_neg c0, hp6]
      simp only [show g.toG.n = g.n from rfl]
      split
      · rename_i hz
        have h6 : w.idx + 1 ≠ 6 := by
          have h1 := s6e_bitLen_pos (Nat.lt_of_not_le h1)
          have h2 := hz.2.1
          clear hz henc hrep hidx
          omega
        have e1 := BitW.pushOr_false w h6
        have hfin := s6e_fin (e1 ▸ hrep.pushOr false)
        rw [List.append_assoc] at hfin
        exact hfin
      · exact s6e_fin hrep

theorem s6_spec_decodes (g : GI) (hs : g.Sound) (hn : g.n ≤ 68719476735) :
    ∃ a, s6Encode g = .ok a ∧ a[0]? = some 58 ∧ (∀ c ∈ a.toList.drop 1, 63 ≤ c ∧ c ≤ 126) ∧
      Formats.s6DecodeSpec a.toList = some (g.n, g.toG.edges) := by
  obtain ⟨a, h1, h2⟩ := s6_conforms g hs hn
  refine ⟨a, h1, ?_, ?_, ?_⟩
  · rw [← Array.getElem?_toList, h2]; rfl
  · rw [h2]
    intro c hc
    simp only [List.drop_succ_cons, List.drop_zero] at hc
    rcases List.mem_append.1 hc with h | h
    · exact Nn_range g.n hn c h
    · exact R_range _ c h
  · rw [h2]
    apply s6e_decode_stream g.n hn (s6e_le_pow g.n) g.toG.edges (s6e_edges_ok g.toG)
    · rw [List.length_append, s6e_padBits_length]; omega
    · exact s6e_pad_silent g.toG hs.wf _ rfl

theorem s6_roundtrip_of_spec (g : G) (hwf : g.WF) (a : Bytes) (h0 : a[0]? = some 58)
    (hsp : s6DecodeSpec a.toList = some (g.n, g.edges)) :
    s6Decode a = .ok (some (sparseOf g)) ∧ s6Decode (s6Magic.toArray ++ a) = .ok (some (sparseOf g)) := by
  have hm : hasPrefix a s6Magic = false := by
    obtain ⟨l⟩ := a
    cases l with
    | nil => simp at h0
    | cons c t =>
      have : c = 58 := by simpa using h0
      subst this
      exact hasPrefix_false_of_head 58 t 62 _ (by decide)
  constructor
  · rw [s6Decode_core_spec a hm, hsp]
    simp only [addEdges_edges g hwf]
  · rw [s6Decode_strip _ (hasPrefix_append s6Magic a)]
    have : (s6Magic.toArray ++ a).toList.drop 11 = a.toList := by simp [s6Magic]
    rw [this, hsp]
    simp only [addEdges_edges g hwf]

end Codec
