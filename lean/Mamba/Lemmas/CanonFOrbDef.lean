import Mamba.Lemmas.CanonFDfs
/-!
# Orbit completeness: the second coverage invariant (definitions)

`ACov lF certF R ν`: every leaf of the unpruned tree below `ν` whose certificate is `certF` (the certificate of the first
leaf, colouring `lF`) is an `R`-image of the first leaf: vertices at the same position of the two leaves are `R`-related.
`R` will be `ORel s` (same class of `firstLeafOrbits`). The predicates below mirror `CovFrames` / `FrameAux` /
`GlobalInv` of the D-layer (`CanonFCov.lean`, `CanonFDfs.lean`) with `ACov` in place of `Complete`; they use the ghost data
`gh : Gh` of the D-layer.
-/
namespace CanonF

/-- same class of `firstLeafOrbits` -/
def ORel (s : LS) (a b : Nat) : Prop := Disjoint.rep s.flOrbits a = Disjoint.rep s.flOrbits b

/-- the colouring of the first leaf -/
def lFof (n : Nat) (gh : Gh) : Array Nat := IR.tab n (fun v => gh.oF.idxOf v)

section
variable (n : Nat) (nb : Nbrs) (rf : Nat) (r : IR.St)

def ACov (lF : Array Nat) (certF : List Nat) (R : Nat → Nat → Prop) (ν : IR.St) : Prop :=
  ∀ vs, IR.IsPath (irG n nb) rf ν vs → IR.target (irG n nb) (IR.nodeAt (irG n nb) rf ν vs) = none →
    IR.cert (irG n nb) (IR.nodeAt (irG n nb) rf ν vs).c = certF →
    ∀ u v, u < n → v < n → IR.col lF u = IR.col (IR.nodeAt (irG n nb) rf ν vs).c v → R u v

def ACovChild (gh : Gh) (s : LS) (vs : List Nat) (ps : List Nat) (st w : Nat) : Prop :=
  ACov n nb rf (lFof n gh) s.firstLeaf.toList (ORel s)
      (IR.childSt (irG n nb) rf (nodeL n nb rf r vs ps.length) st w) ∨
  (onFirstB s ps = true ∧ ∃ x : Int, s.flOrbits[w]? = some x ∧ x ≥ 0)

def ACovFrames (gh : Gh) (s : LS) (vs : List Nat) : Bool → List Nat → List Nat → List (Nat × Nat) → Prop
  | _, [], [], [] => True
  | incl, _ :: ps, c :: cs, (st, _) :: ls =>
      (∀ i w, (if incl then c - st ≤ i else c - st < i) → (cellL n nb rf r vs ps.length st)[i]? = some w →
        ACovChild n nb rf r gh s vs ps st w) ∧
      ACovFrames gh s vs false ps cs ls
  | _, _, _, _ => False

/-- a processed child on a stored path is `ACov` (input of the back-jump) -/
structure FrameAuxA1 (gh : Gh) (s : LS) (us : List Nat) (incl : Bool) (ps : List Nat) (c st : Nat) : Prop where
  abF : 0 < s.count → us.take ps.length = gh.vsF.take ps.length → ∀ i w, (if incl then c - st ≤ i else c - st < i) →
    (cellL n nb rf r us ps.length st)[i]? = some w → gh.vsF[ps.length]? = some w →
    ACov n nb rf (lFof n gh) s.firstLeaf.toList (ORel s) (IR.childSt (irG n nb) rf (nodeL n nb rf r us ps.length) st w)
  abB : 0 < s.count → us.take ps.length = gh.vsB.take ps.length → ∀ i w, (if incl then c - st ≤ i else c - st < i) →
    (cellL n nb rf r us ps.length st)[i]? = some w → gh.vsB[ps.length]? = some w →
    ACov n nb rf (lFof n gh) s.firstLeaf.toList (ORel s) (IR.childSt (irG n nb) rf (nodeL n nb rf r us ps.length) st w)

def FrameAuxA (gh : Gh) (s : LS) (us : List Nat) : Bool → List Nat → List Nat → List (Nat × Nat) → Prop
  | _, [], [], [] => True
  | incl, _ :: ps, c :: cs, (st, _) :: ls =>
      FrameAuxA1 n nb rf r gh s us incl ps c st ∧ FrameAuxA gh s us false ps cs ls
  | _, _, _, _ => False

structure GlobalA (gh : Gh) (s : LS) : Prop where
  /-- the first leaf is never better than the best leaf -/
  bgf : 0 < s.count → compare s.firstLeaf.toList s.currentBest.toList ≠ 1
  /-- if the best leaf has the certificate of the first leaf it is an orbit image of the first leaf -/
  bestA : 0 < s.count → s.currentBest.toList = s.firstLeaf.toList → ∀ u v, u < n → v < n →
    IR.col (lFof n gh) u = IR.col (IR.tab n (fun x => s.bestPerm.toList.idxOf x)) v → ORel s u v
  /-- the automorphisms merged into `currentBestOrbits` have also been merged into `firstLeafOrbits` -/
  bgsM : ∀ γ ∈ gh.bgs, ∀ x, x < n → ORel s x (γ.getD x 0)
  /-- so have the recorded generators -/
  gensM : ∀ k, k < s.ngens → ∀ γ, s.gens[k]? = some γ → ∀ x, x < n → ORel s x (γ.toList.getD x 0)

def ANv (gh : Gh) (lv : List (Nat × Nat)) (s : LS) : Prop :=
  GlobalA n gh s ∧ ACovFrames n nb rf r gh s gh.vs true s.path s.choices lv ∧
    FrameAuxA n nb rf r gh s gh.vs true s.path s.choices lv

def AAv (gh : Gh) (lv : List (Nat × Nat)) (s : LS) : Prop :=
  GlobalA n gh s ∧ ACovFrames n nb rf r gh s gh.vs true s.path s.choices lv ∧
    FrameAuxA n nb rf r gh s gh.vs true s.path s.choices lv ∧
    (s.path = [] → ACov n nb rf (lFof n gh) s.firstLeaf.toList (ORel s) r)

def ASv (gh : Gh) (v : Nat) (lv : List (Nat × Nat)) (s : LS) : Prop :=
  GlobalA n gh s ∧ ACovFrames n nb rf r gh s (gh.vs ++ [v]) false s.path s.choices lv ∧
    FrameAuxA n nb rf r gh s (gh.vs ++ [v]) false s.path s.choices lv

def ANodev (gh : Gh) (lv : List (Nat × Nat)) (s : LS) : Prop :=
  GlobalA n gh s ∧ ACovFrames n nb rf r gh s gh.vs false s.path s.choices lv ∧
    FrameAuxA n nb rf r gh s gh.vs false s.path s.choices lv

/-- D-layer and A-layer with the same ghost data -/
def EN (lv : List (Nat × Nat)) (s : LS) : Prop := ∃ gh, DNv n nb rf r gh lv s ∧ ANv n nb rf r gh lv s
def EA (lv : List (Nat × Nat)) (s : LS) : Prop := ∃ gh, DAv n nb rf r gh lv s ∧ AAv n nb rf r gh lv s
def ES (lv : List (Nat × Nat)) (s : LS) : Prop := ∃ gh t v, DSv n nb rf r gh t v lv s ∧ ASv n nb rf r gh v lv s
def EM (lv : List (Nat × Nat)) (worse : Bool) (s : LS) : Prop :=
  if worse then EA n nb rf r lv s else ∃ gh, DNodev n nb rf r gh lv s ∧ ANodev n nb rf r gh lv s

end
end CanonF
