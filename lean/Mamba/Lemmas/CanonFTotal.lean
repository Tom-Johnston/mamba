import Mamba.Lemmas.CanonFTotalLoop
import Mamba.Lemmas.CanonFTotalStep
import Mamba.Lemmas.CanonFEdgeless
import Mamba.Lemmas.CanonFCapJ
import Mamba.Lemmas.CanonFRefineTotal
import Mamba.Lemmas.CanonFTotalLeaf
/-!
# Totality of the faithful model: `CanonicalIsomorphFull` returns (no panic, explicit fuel bound)

`StorageOK n m st`: the capacities of a storage that a call with `n` vertices and `m` edges relies on (`SlicesOK` of
CanonFAllocJ.lean, which is what slicing needs, and the two arrays that are not sliced: `generators`, `currentBest`);
`newStorage n m` has them (`newStorage_ok`). `allocated_total` (generic: a total main loop makes
`CanonicalIsomorphAllocated` total on every storage of sufficient capacity); the assembled invariant `UA/UN/US/UM` = certificate ⊕ DFS ⊕ `SizeInv n n m` ⊕ `GenCnt` with its `MainJ` and
`MainT` instances; `allocated_returns` (the call returns for every partition with the initial facts, new or reset);
`canonF_total_full`.
-/
namespace CanonF

/-- the storage capacities that `CanonicalIsomorphAllocated(n, m, …)` relies on -/
structure StorageOK (n m : Nat) (st : Storage) : Prop where
  gens : n ≤ st.generators.size + 1
  cb : m ≤ st.currentBest.size
  bpath : n ≤ st.currentBestPath.size
  bperm : n ≤ st.currentBestPerm.size
  bpinv : n ≤ st.currentBestPermInv.size
  borb : n ≤ st.currentBestOrbits.size
  fl : m ≤ st.firstLeaf.size
  fpinv : n ≤ st.firstLeafPermInv.size
  forb : n ≤ st.firstLeafOrbits.size
  fpath : n ≤ st.firstLeafPath.size
  space : n ≤ st.space.size
  dws : n ≤ st.dws.size
  nbs : n ≤ st.nbs.size
  ts : n ≤ st.timesSeen.size
  mc : n ≤ st.maxCell.size
  nm : n ≤ st.numberOfMax.size

theorem newStorage_ok (n m : Nat) : StorageOK n m (newStorage n m) :=
  have e {α : Type} (k : Nat) (a : α) : k ≤ (Array.replicate k a).size := Nat.le_of_eq Array.size_replicate.symm
  ⟨by show n ≤ (Array.replicate (n - 1) _).size + 1; rw [Array.size_replicate]; omega,
    e .., e .., e .., e .., e .., e .., e .., e .., e .., e .., e .., e .., e .., e .., e ..⟩

theorem StorageOK.slices {n m : Nat} {st : Storage} (h : StorageOK n m st) : SlicesOK n m st :=
  ⟨h.bpath, h.bperm, h.bpinv, h.borb, h.fl, h.fpinv, h.forb, h.fpath, h.space, h.dws, h.nbs, h.ts, h.mc, h.nm⟩

theorem allocated_total (hst : StablePerm) (hx : ExpandCert) {fuel n m : Nat} {nb : Nbrs}
    {JA JN JS : List (Nat × Nat) → LS → Prop} {JM : List (Nat × Nat) → Bool → LS → Prop} (hJ : MainJ n m nb JA JN JS JM)
    (hT : MainT n m nb JA JN JS JM)
    {op0 : OP} {st : Storage}
    (hn : n ≠ 0) (hgen : m = 0 → op0.binDividers.len ≠ 1)
    (hp : PartInv n op0) (ha : AgeInv op0) (hage : op0.age = 0) (hspl : op0.spl = 0) (hval : op0.value.len = 0)
    (hvw : op0.value.WF) (hb0 : BtcInv op0)
    (cBd : n ≤ op0.binDividers.data.size) (cAges : n ≤ op0.binAges.data.size) (cBtc : n ≤ op0.binsToCheck.data.size)
    (hnbs : nb.size = n) (hnbr : ∀ (u : Nat) (l : List Nat), nb[u]? = some l → ∀ v ∈ l, v < n)
    (hS : StorageOK n m st)
    (hinit : ∀ s0, InitSt n m nb {} op0 s0 → CapInv n m s0 → JM [] false s0)
    (hfuel : slots n 0 < fuel) :
    ∃ x, canonicalIsomorphAllocated fuel n m nb (some op0) st {} = .ok x := by
  have hsl := hS.slices
  have hsc := scratchSt_ok hsl
  have hps0 : PrefixSingle op0 := ⟨by rw [hspl]; exact Nat.zero_le _, fun j hj => by rw [hspl] at hj; cases hj⟩
  obtain ⟨op1, sc1, href, hbt1, hbw1, hcb1, hps1, hvw1⟩ :=
    refine_no_panic_partial hst (fun d hw => stable_no_panic hw) (cb := ⟨st.currentBest, 0⟩) (fl := ⟨st.firstLeaf, m⟩)
      (opts := {}) (nb := nb) hp ha hsc hps0 hvw cBd cAges cBtc hS.dws hS.nbs hS.space (Nat.le_refl n) hb0.wf hb0.sorted
      hb0.range hnbs hnbr rfl rfl
  obtain ⟨r1, _, _, _, d1, d2, d3, _, _, _, _, _, zb, za⟩ := refine_inv hst hp ha hsc href
  obtain ⟨op2, hexp, _, _⟩ := expandValue_total (cb := ⟨st.currentBest, 0⟩) (fl := ⟨st.firstLeaf, m⟩) hnbs hnbr rfl r1
    hps1 hvw1
  obtain ⟨_, f2, f3, f4, _, _⟩ := expandValue_frame hexp
  have hi := entrySt_init hst hx hsl hp ha hage hspl hval href hexp
  have hCap : CapInv n m (entrySt n m st op2 sc1) :=
    ⟨by show n ≤ op2.binDividers.data.size; rw [f2, zb]; exact cBd,
      by show n ≤ op2.binAges.data.size; rw [f3, za]; exact cAges,
      by show n ≤ op2.binsToCheck.data.size; rw [f4]; exact hcb1,
      by show n ≤ sc1.dws.data.size; rw [d1]; exact hS.dws,
      by show n ≤ sc1.nbs.data.size; rw [d2]; exact hS.nbs,
      by show n ≤ sc1.space.data.size; rw [d3]; exact hS.space,
      hS.cb, hS.gens, fun hc => absurd hc (Nat.lt_irrefl 0)⟩
  obtain ⟨s', hs'⟩ := mainLoopT hst hJ hT fuel false _ [] hi.minv (fun _ => rfl) (by simp [entrySt, LevelsOK])
    (hinit _ hi hCap)
    (by show (if false = true then 0 else slots n 0) + pathPot n [] < fuel; simp [pathPot]; exact hfuel)
  exact ⟨_, (allocated_iff hn hgen).2 ⟨hsl, false, op1, sc1, href, .inr ⟨rfl, _, op2, s', hexp, hs', rfl⟩⟩⟩

section
variable (n m : Nat) (nb : Nbrs) (rf : Nat) (r : IR.St)
def UA (lv : List (Nat × Nat)) (s : LS) : Prop :=
  ((CertA n m nb lv s ∧ DA n nb rf r lv s) ∧ SizeInv n n m s) ∧ GenCnt n s
def UN (lv : List (Nat × Nat)) (s : LS) : Prop :=
  ((CertN n m nb lv s ∧ DN n nb rf r lv s) ∧ SizeInv n n m s) ∧ GenCnt n s
def US (lv : List (Nat × Nat)) (s : LS) : Prop :=
  ((CertN n m nb lv s ∧ DS n nb rf r lv s) ∧ SizeInv n n m s) ∧ GenCnt n s
def UM (lv : List (Nat × Nat)) (worse : Bool) (s : LS) : Prop :=
  ((CertM n m nb lv worse s ∧ DM n nb rf r lv worse s) ∧ SizeInv n n m s) ∧ GenCnt n s
end

section
variable {n m : Nat} {nb : Nbrs} {rf : Nat} {r : IR.St}
  (hnb : NbOK nb n) (hsz : nb.size = n) (hm : m = ((nb.toList.map List.length).sum) / 2) (hrf : 3 * n + 3 ≤ rf)
  (hA : IR.InvA (irG n nb) r) (hD : IR.InvD (irG n nb) r)
  (hlenm : ∀ o : List Nat, o.Perm (List.range n) → (certPos nb o n).length = m)

include hnb hsz hm hrf hA hD hlenm in
theorem totMainJ : MainJ n m nb (UA n m nb rf r) (UN n m nb rf r) (US n m nb rf r) (UM n m nb rf r) :=
  (((certMainJ expandValue_cert hnb hlenm).extend (dfsMainJX hnb hsz hm hrf hA hD hlenm)).extend
    ((sizeMainJX (n := n) (m := m) (N := n) (M := m) (nb := nb)).weakenJ (fun _ _ _ => trivial) (fun _ _ _ => trivial)
      (fun _ _ _ => trivial) (fun _ _ _ _ => trivial))).extend
    ((genCntMainJX (n := n) (m := m) (nb := nb)).weakenJ (fun _ _ h => h.1.1) (fun _ _ h => h.1.1) (fun _ _ h => h.1.1)
      (fun _ _ _ h => h.1.1))

include hnb hA hD in
/-- the node step returns and does not increase the measure: the leaf step only drops frames, a new frame has at most `n`
children at depth `< n` -/
theorem node_total (lv : List (Nat × Nat)) (worse : Bool) (s : LS) (hI : MInv n m nb s)
    (hlv : LevelsOK s.op s.path s.choices lv) (h : UM n m nb rf r lv worse s) :
    ∃ s1, (if (!worse && s.op.binDividers.len == n) = true then leafNode n m s
      else if (!worse) = true then innerNode s else Outcome.ok s) = .ok s1 ∧ pathPot n s1.path ≤ mainPot n worse s := by
  have hT : TM n m nb rf r lv worse s := CapInv.and_of_size h
  cases worse with
  | true => exact ⟨s, rfl, Nat.le_add_left _ _⟩
  | false =>
    by_cases hleaf : s.op.binDividers.len = n
    · obtain ⟨s1, h1⟩ := prog_leaf hnb hA hD hI hT
      rw [if_pos (by simp [hleaf])]
      exact ⟨s1, h1, Nat.le_trans (leaf_pathPot s s1 h1) (Nat.le_add_left _ _)⟩
    · obtain ⟨s1, h1, sz, hp, hsz', hd⟩ := prog_inner hnb hA hD lv s hI hlv hleaf hT.1.2
      rw [if_neg (by simp [hleaf]), if_pos (by decide)]
      refine ⟨s1, h1, ?_⟩
      unfold mainPot
      rw [hp, if_neg Bool.false_ne_true, slots_succ hd]
      exact Nat.add_le_add_right (Nat.mul_le_mul_right _ hsz') _

include hnb hsz hm hA hD in
theorem totMainT : MainT n m nb (UA n m nb rf r) (UN n m nb rf r) (US n m nb rf r) (UM n m nb rf r) where
  step :=
    { deage := fun _ _ _ hc ht _ hage h => prog_deage hc ht hage h.1.1.1
      flOrb := fun _ _ _ _ _ _ _ _ _ _ hc _ _ _ _ _ hget _ h => prog_flOrb hc hget h.1.1.1
      h2 := fun _ _ _ _ _ _ _ _ _ _ hc _ _ _ _ _ hget hon h =>
        prog_h2 hc hget (by simp only [Bool.and_eq_true, decide_eq_true_eq] at hon; exact hon.1.1) h.1.1.2
      split := fun _ _ _ _ _ _ _ _ _ _ hc _ _ _ _ _ hget hns _ h =>
        prog_split hnb hsz hm hc hget hns (CapInv.and_of_size h) }
  node := fun lv worse s hI _ hlv h => (node_total hnb hA hD lv worse s hI hlv h).imp fun _ h => h.1
  nodePot := fun lv worse s s1 hI _ hlv h hs1 => by
    obtain ⟨s1', h1, h2⟩ := node_total hnb hA hD lv worse s hI hlv h
    obtain rfl : s1' = s1 := Outcome.ok.inj (h1.symm.trans hs1)
    exact h2
  refine := fun lv s hc _ _ _ htl h => prog_refine hnb hsz hm lv s hc htl (CapInv.and_of_size h)

end

open GraphSpec in
theorem allocated_returns (g : G) (hg : g.WF) (hn : g.n ≠ 0) {op : OP} {st : Storage}
    (hp : PartInv g.n op) (ha : AgeInv op) (hage : op.age = 0) (hspl : op.spl = 0) (hval : op.value.len = 0)
    (hvw : op.value.WF) (hm0 : Match g.n op (IR.initSt (irG g.n (nbrsOf g)) op.binDividers.len (cellOf op)))
    (hb0 : BtcInv op) (hbs : BinsSorted op) (hop : OpCap g.n (((nbrsOf g).toList.map List.length).sum / 2) op)
    (hS : StorageOK g.n (((nbrsOf g).toList.map List.length).sum / 2) st) :
    ∃ x, canonicalIsomorphAllocated (fuelBound g.n) g.n (((nbrsOf g).toList.map List.length).sum / 2)
      (nbrsOf g) (some op) st {} = .ok x := by
  obtain ⟨hnbok, hsz⟩ := nbOK_nbrsOf g hg
  by_cases hsc : ((nbrsOf g).toList.map List.length).sum / 2 = 0 ∧ op.binDividers.len = 1
  · obtain ⟨⟨r, st'⟩, hx⟩ := edgeless_total (st := st) hn hS.bperm hS.forb hS.gens
    exact ⟨_, (allocated_short_iff hn hsc.1 hsc.2).2 ⟨r, st', hx, rfl⟩⟩
  · have hinv := (root_inv (nbrsOf g) hp).2
    have hJ := totMainJ (rf := g.n * g.n + 10) hnbok hsz rfl (rfuel_ge g.n) hinv.1 hinv.2
      (fun _ ho => certPos_length hnbok hsz ho)
    have hT := totMainT (rf := g.n * g.n + 10) hnbok hsz rfl hinv.1 hinv.2
    refine allocated_total stablePerm expandValue_cert hJ hT hn (fun hm h1 => hsc ⟨hm, h1⟩) hp ha hage hspl hval hvw hb0
      hop.bd hop.ages hop.btc hsz (rt_nbr_lt hnbok) hS ?_ (by unfold fuelBound; omega)
    intro s0 hi hcap
    exact ⟨⟨dfs_init hnbok (rfuel_ge g.n) hp ha hm0 hb0 hbs hage hi, SizeInv.of_init hi hcap hp ha hop⟩,
      fun h => absurd (hi.count ▸ h) (Nat.lt_irrefl 0), fun _ => hi.ngens⟩

open GraphSpec in
theorem canonF_total_full (g : G) (hg : g.WF) (vc : Classes) (hvc : ClassesOK g.n vc) :
    ∃ r, canonicalIsomorphFull (fuelBound g.n) g vc = .ok r := by
  unfold canonicalIsomorphFull
  dsimp only
  by_cases hn : g.n = 0
  · have hnew : newOrderedPartition g.n (((nbrsOf g).toList.map List.length).sum / 2) vc = .ok none := by
      simp [newOrderedPartition, hn]
    rw [hnew]
    dsimp only
    unfold canonicalIsomorphAllocated
    rw [if_pos hn]
    exact ⟨_, rfl⟩
  · have hn0 : 0 < g.n := Nat.pos_of_ne_zero hn
    obtain ⟨op, hnew, hp, ha, hage, hspl, hval, c6, _, c1, c2, c3, c4, c5, _, _⟩ :=
      newOrderedPartition_inv (m := ((nbrsOf g).toList.map List.length).sum / 2) hn0 hvc
    rw [hnew]
    simp only
    obtain ⟨hm0, hb0⟩ := init_match hn0 hvc hnew (nbrsOf g)
    obtain ⟨⟨r', opR, stR⟩, hx⟩ := allocated_returns g hg hn hp ha hage hspl hval (by unfold Sl.WF; omega) hm0 hb0
      (new_binsSorted hn0 hvc hnew)
      ⟨Nat.le_of_eq c1.symm, Nat.le_of_eq c2.symm, Nat.le_of_eq c3.symm, Nat.le_of_eq c4.symm, Nat.le_of_eq c5.symm,
        Nat.le_of_eq c6.symm⟩
      (newStorage_ok g.n (((nbrsOf g).toList.map List.length).sum / 2))
    rw [hx]
    exact ⟨_, rfl⟩
end CanonF
