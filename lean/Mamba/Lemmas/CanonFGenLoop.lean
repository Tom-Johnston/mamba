import Mamba.Lemmas.CanonFOrbLoop
import Mamba.Lemmas.CanonFGenBase
import Mamba.Lemmas.CanonFGenChain
/-!
# The generator layer (G-layer) through every transition of the main loop that is not a leaf

The recorded generators and the first-leaf path do not change in any of them. In the order of the fields of `GhLayer`:
* `gen_na`, `gen_deage`, `gen_noskip`: congruences; `gen_inner`: the new frame's node is not on the first-leaf path;
* `gen_skip` (both Heuristic-2 skips): the newly processed member of the top frame is not the first-path child (`futF` of
  the D-layer, `FrameAuxG1.step_head`);
* `gen_split`: the member with index `c - 1 - st` of the top frame starts being explored (`w = false`,
  `FrameAuxG1.start_child`) or is processed at once (`w = true`, `FrameAuxG1.step_head`); `gen_refine` reporting "worse":
  the child `v` being explored is finished; it is not the first-path child because the node `gh.vs ++ [v]` is fresh
  (`NodeOff`);
* `gen_pop`, the step of the stabiliser chain and the only place where the G-layer uses the A-layer: if the node of the
  popped frame (level `L`) is on the first-leaf path, it is covered (`popped_node_acov`), the recorded generators preserve its
  colouring (`FrameAux1.e1`), and the stabiliser of level `L + 1` is generated (field `gF` of the popped frame: its
  first-path child, the last member of the cell, is processed); `autgen_step` gives the stabiliser of level `L`, which is
  what the frame below needs for its finished child (`FrameAuxG.finish_top`), or the last conjunct of `GAv` for `L = 0`.
-/
namespace CanonF

section
variable {n m : Nat} {nb : Nbrs} {rf : Nat} {r : IR.St}

theorem gen_na (gh : Gh) (lv : List (Nat × Nat)) (s : LS) (hDv : DNv n nb rf r gh lv s)
    (hGv : GNv n nb rf r gh lv s) : GAv n nb rf r gh lv s := by
  refine ⟨hGv, ?_⟩
  intro hp
  obtain ⟨⟨_, _, h3, _⟩, _⟩ := hDv
  rw [hp] at h3
  simp at h3

theorem gen_deage (gh : Gh) (lv : List (Nat × Nat)) (s : LS) (op' : OP) (hGv : GAv n nb rf r gh lv s) :
    GNv n nb rf r gh lv { s with op := op' } :=
  FrameAuxG.congr (s := s) (s' := { s with op := op' }) rfl rfl rfl true _ _ _ (fun _ _ => rfl) hGv.1

theorem gen_noskip (gh : Gh) (lv : List (Nat × Nat)) (s : LS) (hGv : GNv n nb rf r gh lv s) :
    GNv n nb rf r gh lv { s with skipDeage := false } :=
  FrameAuxG.congr (s := s) (s' := { s with skipDeage := false }) rfl rfl rfl true _ _ _ (fun _ _ => rfl) hGv

theorem gen_inner {gh : Gh} {lv : List (Nat × Nat)} {s s1 : LS} {st sz : Nat} (hGv : GNodev n nb rf r gh lv s)
    (I : InnerAt n nb rf r gh lv s s1 st sz) : GNv n nb rf r gh ((st, sz) :: lv) s1 := by
  rw [I.s1_eq]
  exact FrameAuxG.mk (FrameAuxG1.of_off I.offF)
    (FrameAuxG.congr (s := s)
      (s' := { s with choices := (st + sz) :: s.choices, path := sz :: s.path, skipDeage := true })
      rfl rfl rfl false _ _ _ (fun _ _ => rfl) hGv)

end

section
variable {n : Nat} {nb : Nbrs} {rf : Nat} {r : IR.St}

theorem gen_skip {gh : Gh} {st sz : Nat} {ls : List (Nat × Nat)} {s : LS} {c p : Nat} {cs ps : List Nat}
    (bo : Disjoint.DS) (hch : s.choices = c :: cs) (hpth : s.path = p :: ps)
    (haux : FrameAux n nb rf r gh s gh.vs true s.path s.choices ((st, sz) :: ls))
    (hGv : GNv n nb rf r gh ((st, sz) :: ls) s) :
    GNv n nb rf r gh ((st, sz) :: ls) { s with choices := (c - 1) :: cs, bestOrbits := bo, skipDeage := true } := by
  unfold GNv at hGv ⊢
  rw [hpth, hch] at hGv haux
  exact FrameAuxG.path_eq hpth (FrameAuxG.congr (s := s)
    (s' := { s with choices := (c - 1) :: cs, bestOrbits := bo, skipDeage := true }) rfl rfl rfl true _ _ _
    (fun _ _ => rfl) (FrameAuxG.mk (hGv.head.step_head haux.head) hGv.tail))

end

theorem nodeOff_not_first {gh : Gh} {s : LS} {vs : List Nat} {v L : Nat} (hoff : NodeOff gh s (vs ++ [v]))
    (h0 : 0 < s.count) (hvl : vs.length = L) (hpre : vs.take L = gh.vsF.take L) (hx : gh.vsF[L]? = some v) : False := by
  apply (hoff h0).1
  rw [List.length_append, List.length_singleton, hvl, List.take_add_one, hx, ← hpre, ← hvl, List.take_length]
  rfl

section
variable {n m : Nat} {nb : Nbrs} {rf : Nat} {r : IR.St}

theorem gen_split (gh : Gh) (st sz : Nat) (ls : List (Nat × Nat)) (s : LS) (c : Nat) (cs : List Nat) (p : Nat) (ps : List Nat)
    (ce : Nat) (bo : Disjoint.DS) (w : Bool) (op' : OP) (k : Nat) (hc : Core n s)
    (ht : TopOK s.op (k + 1) s.path s.choices ((st, sz) :: ls)) (hch : s.choices = c :: cs)
    (hpth : s.path = p :: ps) (hget : s.op.order.get (c - 1) = .ok ce)
    (hDv : DNv n nb rf r gh ((st, sz) :: ls) s) (hGv : GNv n nb rf r gh ((st, sz) :: ls) s) :
    (w = false → ∀ t v, DSv n nb rf r gh t v ((st, sz) :: ls)
        { s with choices := (c - 1) :: cs, bestOrbits := bo, op := op', path := k :: ps } →
      GSv n nb rf r gh v ((st, sz) :: ls)
        { s with choices := (c - 1) :: cs, bestOrbits := bo, op := op', path := k :: ps }) ∧
    (w = true → GAv n nb rf r gh ((st, sz) :: ls)
      { s with choices := (c - 1) :: cs, bestOrbits := bo, op := op', path := k :: ps }) := by
  obtain ⟨hw, hG, hcov, haux⟩ := hDv
  obtain ⟨m1, m2, m3, m4, m5⟩ := top_member hc ht hch hpth hget hw
  have hauxG : FrameAuxG n nb rf r gh s gh.vs true (p :: ps) (c :: cs) ((st, sz) :: ls) := by
    have := hGv
    unfold GNv at this
    rw [hpth, hch] at this
    exact this
  rw [hpth, hch] at haux
  constructor
  · intro _ t v _
    exact FrameAuxG.congr (gh := gh) (s := s)
      (s' := { s with choices := (c - 1) :: cs, bestOrbits := bo, op := op', path := k :: ps })
      (us := gh.vs) (us' := gh.vs ++ [v]) rfl rfl rfl false (k :: ps) ((c - 1) :: cs) ((st, sz) :: ls)
      (fun L hL => List.take_append_of_le_length (by simp only [List.length_cons] at hL; omega))
      (FrameAuxG.mk (p := k) (FrameAuxG.head hauxG).start_child (FrameAuxG.tail hauxG))
  · intro _
    refine ⟨?_, fun hp => by cases hp⟩
    exact FrameAuxG.congr (gh := gh) (s := s)
      (s' := { s with choices := (c - 1) :: cs, bestOrbits := bo, op := op', path := k :: ps })
      (us := gh.vs) (us' := gh.vs) rfl rfl rfl true (k :: ps) ((c - 1) :: cs) ((st, sz) :: ls)
      (fun _ _ => rfl)
      (FrameAuxG.mk (p := k) ((FrameAuxG.head hauxG).step_head (FrameAux.head haux)) (FrameAuxG.tail hauxG))

theorem gen_refine (gh : Gh) (t v : Nat) (lv : List (Nat × Nat)) (s : LS) (w : Bool) (op' : OP) (sc2 : Scratch)
    (hl : LevelsOK s.op s.path s.choices lv) (hDv : DSv n nb rf r gh t v lv s) (hGv : GSv n nb rf r gh v lv s) :
    (w = true → GAv n nb rf r gh lv { s with op := op', sc := sc2 }) ∧
    (w = false → GNodev n nb rf r { gh with vs := gh.vs ++ [v] } lv { s with op := op', sc := sc2 }) := by
  obtain ⟨hw, hG, hcov, haux, hoff⟩ := hDv
  have hauxG : FrameAuxG n nb rf r gh s (gh.vs ++ [v]) false s.path s.choices lv := hGv
  constructor
  · intro _
    obtain ⟨p, ps, c, cs, sz, ls, hpth, hch, rfl, -, hvl, hmem, hpre⟩ := walkS_top hl hw
    rw [hpth, hch] at hauxG
    have hx1 : FrameAuxG n nb rf r gh s gh.vs false (p :: ps) (c :: cs) ((t, sz) :: ls) :=
      FrameAuxG.congr (gh := gh) (s := s) (s' := s) rfl rfl rfl false _ _ _ hpre hauxG
    have hfin : FrameAuxG1 n nb rf r gh s gh.vs true ps c t sz := by
      refine (FrameAuxG.head hx1).finish_child' ?_
      intro h0 w' hw' hp hx
      cases hw'.symm.trans hmem
      exact (nodeOff_not_first hoff h0 hvl hp hx).elim
    refine ⟨?_, fun hp => ?_⟩
    · suffices hsuff : ∀ pa ch, pa = p :: ps → ch = c :: cs →
          FrameAuxG n nb rf r gh { s with op := op', sc := sc2 } gh.vs true pa ch ((t, sz) :: ls) from
        hsuff s.path s.choices hpth hch
      intro pa ch e1 e2
      subst e1 e2
      exact FrameAuxG.congr (gh := gh) (s := s) (s' := { s with op := op', sc := sc2 }) rfl rfl rfl true _ _ _
        (fun _ _ => rfl) (FrameAuxG.mk hfin (FrameAuxG.tail hx1))
    · have : s.path = [] := hp
      rw [hpth] at this
      cases this
  · intro _
    exact FrameAuxG.congr_gh (gh := gh) (gh' := { gh with vs := gh.vs ++ [v] }) rfl false _ _ _
      (FrameAuxG.congr (gh := gh) (s := s) (s' := { s with op := op', sc := sc2 }) rfl rfl rfl false _ _ _
        (fun _ _ => rfl) hauxG)

end

section
variable {n m : Nat} {nb : Nbrs} {rf : Nat} {r : IR.St}
  (hnb : NbOK nb n)

include hnb in
theorem gen_pop (gh : Gh) (st sz : Nat) (ls : List (Nat × Nat)) (s : LS)
    (ht : TopOK s.op 0 s.path s.choices ((st, sz) :: ls))
    (hJ : CertN n m nb ((st, sz) :: ls) s) (hDv : DNv n nb rf r gh ((st, sz) :: ls) s)
    (hAv : ANv n nb rf r gh ((st, sz) :: ls) s)
    (hGv : GNv n nb rf r gh ((st, sz) :: ls) s) :
    GAv n nb rf r { gh with vs := gh.vs.dropLast } ls { s with path := s.path.drop 1, choices := s.choices.drop 1 } := by
  obtain ⟨p, ps, c, cs, P⟩ := pop_at ht hDv
  obtain ⟨hGA, hacov, -⟩ := hAv
  have hauxG : FrameAuxG n nb rf r gh s gh.vs true s.path s.choices ((st, sz) :: ls) := hGv
  have e1 := P.hpth
  have e2 := P.hch
  rw [e1, e2] at hacov hauxG
  have hlevel : gh.vs.take ps.length = gh.vsF.take ps.length → AutGen n nb r gh s ps.length := by
    intro hpre
    have hcnt := P.pos
    have hG1 := FrameAuxG.head hauxG
    have he1 := P.aux.head.e1 hcnt hpre
    have hcomp := popped_node_acov hnb st sz ls s c cs p ps P.cst P.frames hJ.1 hGA hacov (fun _ => he1)
    have hlen := P.frames.2.1
    have hsz := P.sz2
    have hlt : sz - 1 < (cellL n nb rf r gh.vs ps.length st).length := by omega
    have hw : (cellL n nb rf r gh.vs ps.length st)[sz - 1]? = some (cellL n nb rf r gh.vs ps.length st)[sz - 1] :=
      List.getElem?_eq_getElem hlt
    have hx : gh.vsF[ps.length]? = some (cellL n nb rf r gh.vs ps.length st)[sz - 1] := by
      rw [hG1.fmax hcnt hpre]; exact hw
    have hnext := hG1.gF hcnt hpre (sz - 1) _ (by simp only [if_true]; have := P.cst; omega) hw hx
    rw [(nodeL_congr hpre.symm).symm] at he1 hcomp
    exact autgen_step hnb (hDv.2.1.first hcnt) (List.getElem?_eq_some_iff.1 hx).1 hcnt hJ.1 hGA he1 hcomp hnext
  have hB : FrameAuxG n nb rf r gh s gh.vs true ps cs ls :=
    FrameAuxG.finish_top P.path P.lvl P.frames.tail (Nat.le_of_eq P.len) hauxG.tail (fun _ => hlevel)
  refine ⟨?_, ?_⟩
  · show FrameAuxG n nb rf r { gh with vs := gh.vs.dropLast }
      { s with path := s.path.drop 1, choices := s.choices.drop 1 } gh.vs.dropLast true (s.path.drop 1)
      (s.choices.drop 1) ls
    simp only [e1, e2, List.drop_succ_cons, List.drop_zero]
    exact FrameAuxG.mono (gh := gh) (gh' := { gh with vs := gh.vs.dropLast }) (s := s)
      (s' := { s with path := ps, choices := cs }) (fun h0 => h0) (fun _ hγ => hγ) rfl
      true ps cs ls P.dropLast hB
  · intro hp
    have hp' : s.path.drop 1 = [] := hp
    rw [e1] at hp'
    cases (hp' : ps = [])
    exact AutGen.mono (gh := gh) (gh' := { gh with vs := gh.vs.dropLast }) (s := s)
      (s' := { s with path := s.path.drop 1, choices := s.choices.drop 1 }) (hlevel (by simp)) (fun _ hγ => hγ) rfl

end
end CanonF
