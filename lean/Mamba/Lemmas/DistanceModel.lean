import Mamba.Lemmas.GraphBasic
import Mamba.Lemmas.DistanceBfs
import Mamba.Model.Distances
import Mamba.Lemmas.DistanceModelBasics
/-!
# Lemmas for C10: the faithful model of `Distance` (queue BFS with "0 = unseen") computes the reference distance

The invariant follows the queue `Q = A ++ B`: `A` holds vertices labelled `d` (the level being processed), `B`
vertices labelled `d+1`. The source keeps label `0` ("unseen") and may be queued a second time with label `2`
(a "ghost"); the ghost never finds an unlabelled neighbour, which is why the quirk is harmless.
-/
namespace GDist
open GraphSpec

def lbl (D : Array Nat) (v : Nat) : Nat := D.getD v 0

theorem lbl_of_lt {D : Array Nat} {v : Nat} (h : v < D.size) : D[v] = lbl D v :=
  getElem_eq_getD h 0

theorem lbl_set {D : Array Nat} {v x w : Nat} (h : v < D.size) :
    lbl (D.set v x h) w = if w = v then x else lbl D w := by
  unfold lbl
  rw [set_eq_setIfInBounds]
  exact getD_setIfInBounds h _ _ _

theorem lbl_replicate (n v : Nat) : lbl (Array.replicate n 0) v = 0 := by
  unfold lbl
  by_cases hv : v < n <;> simp [Array.getD, hv]

theorem count_label {D : Array Nat} {v d : Nat} (hv : v < D.size) (hz : D[v] = 0) :
    (D.set v (d + 1) hv).count 0 + 1 = D.count 0 := by
  have hpos : 0 < D.count 0 := by rw [Array.count_pos_iff, ← hz]; exact Array.getElem_mem hv
  have hd : (d + 1 == 0) = false := rfl
  rw [Array.count_set hv, hz]
  simp only [beq_self_eq_true, if_true, hd, Bool.false_eq_true, if_false]
  omega

/-- the fuel measure of the BFS loops (queue length + number of unlabelled entries) is unchanged when an unlabelled
vertex is labelled and queued -/
theorem measure_label {D : Array Nat} (Q : List Nat) {v d : Nat} (hv : v < D.size) (hz : D[v] = 0) :
    (Q ++ [v]).length + (D.set v (d + 1) hv).count 0 = Q.length + D.count 0 := by
  rw [List.length_append, List.length_singleton, Nat.add_assoc, Nat.add_comm 1, count_label hv hz]

structure DInv (g : G) (i j d : Nat) (A B : List Nat) (D : Array Nat) (k : Nat) (vs : List Nat) : Prop where
  size : D.size = g.n
  isrc : i < g.n
  lab : ∀ v, v < g.n → v ≠ i → lbl D v ≠ 0 → IsDist g i v (lbl D v)
  labA : ∀ x ∈ A, x < g.n ∧ lbl D x = d
  labB : ∀ x ∈ B, x < g.n ∧ lbl D x = d + 1
  levA : ∀ x ∈ A, x ≠ i → IsDist g i x d
  a0 : d = 0 → A = [] ∨ (A = [i] ∧ vs = [])
  complete : ∀ v k', v < g.n → v ≠ i → IsDist g i v k' → k' ≤ d → lbl D v = k'
  procd : ∀ u v, IsDist g i u d → u ∉ A → g.adj u v = true → v < g.n → v ≠ i → (u = k → v ∉ vs) → lbl D v ≠ 0
  inB : ∀ v, v < g.n → v ≠ i → lbl D v = d + 1 → v ∈ B
  bound : ∀ v, lbl D v ≤ d + 1
  tgt : lbl D j = 0

variable {g : G} {i j : Nat}

theorem isDist_self (hi : i < g.n) : IsDist g i i 0 :=
  ⟨.base (List.mem_range.2 hi), fun _ h => absurd h (Nat.not_lt_zero _)⟩

theorem isDist_zero_eq {v : Nat} (h : IsDist g i v 0) : v = i := (walkIn_zero_iff.1 h.1).1

theorem isDist_one {v : Nat} (hi : i < g.n) (hv : v < g.n) (hne : v ≠ i) (hadj : g.adj i v = true) :
    IsDist g i v 1 := by
  refine ⟨.step (.base (List.mem_range.2 hi)) hadj (List.mem_range.2 hv), ?_⟩
  intro j' hj' hw
  have : j' = 0 := Nat.lt_one_iff.1 hj'
  subst this
  exact hne (walkIn_zero_iff.1 hw).1

theorem dinv_init (hi : i < g.n) : DInv g i j 0 [i] [] (Array.replicate g.n 0) 0 [] := by
  have hl : ∀ v, lbl (Array.replicate g.n 0) v = 0 := lbl_replicate g.n
  refine { size := by simp, isrc := hi, lab := ?_, labA := ?_, labB := ?_, levA := ?_, a0 := ?_, complete := ?_,
           procd := ?_, inB := ?_, bound := ?_, tgt := hl j }
  · intro v _ _ h; exact absurd (hl v) h
  · intro x hx; simp at hx; subst hx; exact ⟨hi, hl _⟩
  · intro x hx; cases hx
  · intro x hx hne; simp at hx; exact absurd hx hne
  · intro _; exact .inr ⟨rfl, rfl⟩
  · intro v k' _ hne hd hk
    have : k' = 0 := Nat.le_zero.1 hk
    subst this
    exact absurd (isDist_zero_eq hd) hne
  · intro u v hu hnA
    have := isDist_zero_eq hu
    subst this
    simp at hnA
  · intro v _ _ h; rw [hl] at h; cases h
  · intro v; rw [hl]; exact Nat.zero_le _

theorem dinv_new_label {d : Nat} {A B : List Nat} {D : Array Nat} {k : Nat} {vs : List Nat}
    (inv : DInv g i j d A B D k vs) (hkd : k ≠ i → IsDist g i k d)
    {v : Nat} (hadj : g.adj k v = true) (hv : v < g.n) (hvi : v ≠ i) (hz : lbl D v = 0) :
    IsDist g i v (d+1) := by
  have hmin : ∀ j', j' < d + 1 → ¬ Walk g i v j' := by
    intro j' hj' hw
    obtain ⟨k', hk', hd⟩ := exists_isDistIn_of_walk hw
    have := inv.complete v k' hv hvi hd (Nat.le_of_lt_succ (Nat.lt_of_le_of_lt hk' hj'))
    rw [hz] at this
    subst this
    exact hvi (isDist_zero_eq hd)
  by_cases hki : k = i
  · subst hki
    by_cases hd0 : d = 0
    · subst hd0; exact isDist_one inv.isrc hv hvi hadj
    · have h1 := isDist_one inv.isrc hv hvi hadj
      have := inv.complete v 1 hv hvi h1 (Nat.pos_of_ne_zero hd0)
      rw [hz] at this; cases this
  · exact ⟨.step (hkd hki).1 hadj (List.mem_range.2 hv), hmin⟩

theorem dinv_rebracket {d : Nat} {B : List Nat} {D : Array Nat} {k : Nat}
    (inv : DInv g i j d [] B D k []) : DInv g i j (d+1) B [] D k [] := by
  have hcomplete : ∀ v k', v < g.n → v ≠ i → IsDist g i v k' → k' ≤ d + 1 → lbl D v = k' := by
    intro v k' hv hvi hd hk
    by_cases hkd : k' ≤ d
    · exact inv.complete v k' hv hvi hd hkd
    · have : k' = d + 1 := Nat.le_antisymm hk (Nat.lt_of_not_le hkd)
      subst this
      obtain ⟨u, hu, hadj⟩ := hd.pred
      have hnz := inv.procd u v hu (by simp) hadj hv hvi (fun _ => by simp)
      exact (inv.lab v hv hvi hnz).unique hd
  refine { size := inv.size, isrc := inv.isrc, lab := inv.lab, labA := inv.labB, labB := ?_, levA := ?_,
           a0 := ?_, complete := hcomplete, procd := ?_, inB := ?_, bound := ?_, tgt := inv.tgt }
  · intro x hx; cases hx
  · intro x hx hxi
    obtain ⟨hxn, hxl⟩ := inv.labB x hx
    have := inv.lab x hxn hxi (by rw [hxl]; exact Nat.succ_ne_zero d)
    rwa [hxl] at this
  · exact fun h => absurd h (Nat.succ_ne_zero d)
  · intro u v hu hnB
    exfalso
    by_cases hui : u = i
    · subst hui
      exact Nat.succ_ne_zero d (hu.unique (isDist_self inv.isrc))
    · have hun : u < g.n := List.mem_range.1 hu.1.mem_V
      exact hnB (inv.inB u hun hui (hcomplete u (d+1) hun hui hu (Nat.le_refl _)))
  · intro v _ _ h
    have := inv.bound v
    rw [h] at this
    exact absurd this (Nat.not_succ_le_self _)
  · exact fun v => Nat.le_succ_of_le (inv.bound v)

theorem dinv_pop {d : Nat} {A' B : List Nat} {D : Array Nat} {k k0 : Nat}
    (inv : DInv g i j d (k :: A') B D k0 []) : DInv g i j d A' B D k (g.nbrs k) := by
  refine { size := inv.size, isrc := inv.isrc, lab := inv.lab, labA := ?_, labB := inv.labB, levA := ?_,
           a0 := ?_, complete := inv.complete, procd := ?_, inB := inv.inB, bound := inv.bound, tgt := inv.tgt }
  · intro x hx; exact inv.labA x (List.mem_cons_of_mem _ hx)
  · intro x hx; exact inv.levA x (List.mem_cons_of_mem _ hx)
  · intro hd
    rcases inv.a0 hd with h | ⟨h, _⟩
    · cases h
    · left; simp at h; exact h.2
  · intro u v hu hnA hadj hv hvi hcl
    by_cases huk : u = k
    · subst huk
      exact absurd (G.mem_nbrs.2 ⟨hv, hadj⟩) (hcl rfl)
    · exact inv.procd u v hu (by simp [huk, hnA]) hadj hv hvi (fun _ => by simp)

theorem dinv_skip {d : Nat} {A' B : List Nat} {D : Array Nat} {k v : Nat} {vs : List Nat}
    (inv : DInv g i j d A' B D k (v :: vs)) (hnz : v ≠ i → lbl D v ≠ 0) : DInv g i j d A' B D k vs := by
  refine { size := inv.size, isrc := inv.isrc, lab := inv.lab, labA := inv.labA, labB := inv.labB,
           levA := inv.levA, a0 := ?_, complete := inv.complete, procd := ?_, inB := inv.inB,
           bound := inv.bound, tgt := inv.tgt }
  · intro hd
    rcases inv.a0 hd with h | ⟨_, h⟩
    · exact .inl h
    · cases h
  · intro u v' hu hnA hadj hv' hvi hcl
    by_cases hvv : v' = v
    · subst hvv; exact hnz hvi
    · refine inv.procd u v' hu hnA hadj hv' hvi ?_
      intro huk hmem
      rcases List.mem_cons.1 hmem with h | h
      · exact hvv h
      · exact hcl huk h

theorem dinv_label {d : Nat} {A' B : List Nat} {D : Array Nat} {k v : Nat} {vs : List Nat}
    (inv : DInv g i j d A' B D k (v :: vs)) (hkd : k ≠ i → IsDist g i k d)
    (hadj : g.adj k v = true) (hv : v < D.size) (hz : lbl D v = 0) (hvj : v ≠ j) :
    DInv g i j d A' (B ++ [v]) (D.set v (d+1) hv) k vs := by
  have hvn : v < g.n := by rw [← inv.size]; exact hv
  have hA' : d = 0 → A' = [] := by
    intro hd
    rcases inv.a0 hd with h | ⟨_, h⟩
    · exact h
    · cases h
  have hl : ∀ w, lbl (D.set v (d+1) hv) w = if w = v then d + 1 else lbl D w := fun w => lbl_set hv
  refine { size := by simp [inv.size], isrc := inv.isrc, lab := ?_, labA := ?_, labB := ?_, levA := inv.levA,
           a0 := fun hd => .inl (hA' hd), complete := ?_, procd := ?_, inB := ?_, bound := ?_, tgt := ?_ }
  · intro w hw hwi hnz
    rw [hl] at hnz ⊢
    by_cases hwv : w = v
    · subst hwv; simp only [if_true]
      exact dinv_new_label inv hkd hadj hw hwi hz
    · simp only [hwv, if_false] at hnz ⊢
      exact inv.lab w hw hwi hnz
  · intro x hx
    obtain ⟨hxn, hxl⟩ := inv.labA x hx
    refine ⟨hxn, ?_⟩
    rw [hl]
    by_cases hxv : x = v
    · subst hxv
      have hd : d = 0 := hxl.symm.trans hz
      rw [hA' hd] at hx; cases hx
    · simp [hxv, hxl]
  · intro x hx
    rw [hl]
    rcases List.mem_append.1 hx with hx | hx
    · obtain ⟨hxn, hxl⟩ := inv.labB x hx
      by_cases hxv : x = v
      · subst hxv; exact absurd (hxl.symm.trans hz) (Nat.succ_ne_zero d)
      · simp [hxv, hxl, hxn]
    · simp at hx; subst hx; simp [hvn]
  · intro w k' hw hwi hd hk'
    rw [hl]
    by_cases hwv : w = v
    · subst hwv
      have := inv.complete w k' hw hwi hd hk'
      rw [hz] at this
      subst this
      exact absurd (isDist_zero_eq hd) hwi
    · simp only [hwv, if_false]
      exact inv.complete w k' hw hwi hd hk'
  · intro u v' hu hnA hadj' hv' hvi hcl
    rw [hl]
    by_cases hvv : v' = v
    · simp [hvv]
    · simp only [hvv, if_false]
      refine inv.procd u v' hu hnA hadj' hv' hvi ?_
      intro huk hmem
      rcases List.mem_cons.1 hmem with h | h
      · exact hvv h
      · exact hcl huk h
  · intro w hw hwi hlw
    rw [hl] at hlw
    by_cases hwv : w = v
    · subst hwv; simp
    · simp only [hwv, if_false] at hlw
      exact List.mem_append.2 (.inl (inv.inB w hw hwi hlw))
  · intro w
    rw [hl]
    by_cases hwv : w = v
    · simp [hwv]
    · simp only [hwv, if_false]; exact inv.bound w
  · rw [hl]
    have : j ≠ v := fun h => hvj h.symm
    simp only [this, if_false]
    exact inv.tgt

theorem distInner_spec (hij : i ≠ j) {d : Nat} {A' : List Nat} {k : Nat}
    (hkd : k ≠ i → IsDist g i k d) :
    ∀ (vs : List Nat) (B : List Nat) (D : Array Nat), DInv g i j d A' B D k vs →
      (∀ v ∈ vs, v < g.n ∧ g.adj k v = true) →
      (∃ r, Model.distInner j d vs D (A' ++ B) = .ok (.inl r) ∧ IsDist g i j r) ∨
      (∃ D' B', Model.distInner j d vs D (A' ++ B) = .ok (.inr (D', A' ++ B')) ∧
        DInv g i j d A' B' D' k [] ∧
        (A' ++ B').length + D'.count 0 = (A' ++ B).length + D.count 0) := by
  intro vs
  induction vs with
  | nil =>
    intro B D inv _
    exact .inr ⟨D, B, rfl, inv, rfl⟩
  | cons v vs ih =>
    intro B D inv hvs
    have ⟨hvn, hadj⟩ := hvs v List.mem_cons_self
    have hvs' : ∀ w ∈ vs, w < g.n ∧ g.adj k w = true := fun w hw => hvs w (List.mem_cons_of_mem _ hw)
    have hvD : v < D.size := by rw [inv.size]; exact hvn
    unfold Model.distInner
    simp only [hvD, dif_pos]
    rw [lbl_of_lt hvD]
    by_cases hz : lbl D v = 0
    · simp only [hz, if_true]
      by_cases hvj : v = j
      · simp only [hvj, if_true]
        left
        have hvi : v ≠ i := by rw [hvj]; exact fun h => hij h.symm
        subst hvj
        exact ⟨d+1, rfl, dinv_new_label inv hkd hadj hvn hvi hz⟩
      · simp only [hvj, if_false]
        have inv' := dinv_label inv hkd hadj hvD hz hvj
        have := ih (B ++ [v]) (D.set v (d+1) hvD) inv' hvs'
        rw [← List.append_assoc] at this
        rcases this with ⟨r, h1, h2⟩ | ⟨D', B', h1, h2, h3⟩
        · exact .inl ⟨r, h1, h2⟩
        · refine .inr ⟨D', B', h1, h2, ?_⟩
          exact h3.trans (measure_label _ hvD ((lbl_of_lt hvD).trans hz))
    · simp only [hz, if_false]
      exact ih B D (dinv_skip inv (fun _ => hz)) hvs'

theorem dinv_final {d : Nat} {D : Array Nat} {k : Nat} (inv : DInv g i j d [] [] D k []) {v : Nat}
    (hv : v < g.n) (hvi : v ≠ i) :
    (Reach g i v → lbl D v ≠ 0) ∧ (lbl D v ≠ 0 → IsDist g i v (lbl D v)) := by
  refine ⟨?_, inv.lab v hv hvi⟩
  rintro ⟨k', hw⟩
  obtain ⟨k'', _, hd⟩ := exists_isDistIn_of_walk hw
  have hk0 : k'' ≠ 0 := by
    intro h; subst h; exact hvi (isDist_zero_eq hd)
  by_cases hle : k'' ≤ d
  · rw [inv.complete v k'' hv hvi hd hle]; exact hk0
  · -- level `d + 1` would be non-empty, but the queue is
    exfalso
    obtain ⟨y, hy⟩ := hd.exists_le (d+1) (Nat.lt_of_not_le hle)
    have hyi : y ≠ i := by
      intro h; subst h
      exact Nat.succ_ne_zero d (hy.unique (isDist_self inv.isrc))
    have hyn : y < g.n := List.mem_range.1 hy.1.mem_V
    have hl := (dinv_rebracket inv).complete y (d+1) hyn hyi hy (Nat.le_refl _)
    cases inv.inB y hyn hyi hl

theorem dinv_empty {d : Nat} {D : Array Nat} {k : Nat} (hij : i ≠ j) (hj : j < g.n)
    (inv : DInv g i j d [] [] D k []) : dist g i j = none := by
  rw [dist, distIn_eq_none_iff]
  intro k' hw
  exact (dinv_final inv hj (Ne.symm hij)).1 ⟨k', hw⟩ inv.tgt

theorem dinv_next {d : Nat} {A B Q' : List Nat} {D : Array Nat} {k k0 : Nat}
    (inv : DInv g i j d A B D k0 []) (hQ : k :: Q' = A ++ B) :
    ∃ d' A' B', Q' = A' ++ B' ∧ k < D.size ∧ lbl D k = d' ∧ (k ≠ i → IsDist g i k d') ∧
      DInv g i j d' A' B' D k (g.nbrs k) := by
  obtain ⟨d', A', B', hQ', inv'⟩ : ∃ d' A' B', Q' = A' ++ B' ∧ DInv g i j d' (k :: A') B' D k0 [] := by
    cases A with
    | nil =>
      rw [List.nil_append] at hQ
      subst hQ
      exact ⟨d+1, Q', [], (List.append_nil _).symm, dinv_rebracket inv⟩
    | cons a A' =>
      rw [List.cons_append, List.cons.injEq] at hQ
      obtain ⟨rfl, rfl⟩ := hQ
      exact ⟨d, A', B, rfl, inv⟩
  obtain ⟨hkn, hkl⟩ := inv'.labA k List.mem_cons_self
  exact ⟨d', A', B', hQ', by rw [inv'.size]; exact hkn, hkl, inv'.levA k List.mem_cons_self, dinv_pop inv'⟩

theorem distOuter_spec (hij : i ≠ j) (hj : j < g.n) :
    ∀ (fuel : Nat) (D : Array Nat) (Q : List Nat) (d : Nat) (A B : List Nat) (k0 : Nat),
      Q = A ++ B → DInv g i j d A B D k0 [] → Q.length + D.count 0 + 1 ≤ fuel →
      Model.distOuter g j fuel D Q = .ok (optToInt (dist g i j)) := by
  intro fuel
  induction fuel with
  | zero => intro D Q d A B k0 _ _ hf; omega
  | succ f ih =>
    intro D Q d A B k0 hQ inv hf
    cases Q with
    | nil =>
      obtain ⟨hA, hB⟩ := List.append_eq_nil_iff.1 hQ.symm
      subst hA; subst hB
      simp only [Model.distOuter]
      rw [dinv_empty hij hj inv]; rfl
    | cons k Q' =>
      obtain ⟨d', A', B', hQ', hkD, hkl, hkd, inv2⟩ := dinv_next inv hQ
      have hnb : ∀ v ∈ g.nbrs k, v < g.n ∧ g.adj k v = true := fun v hv => G.mem_nbrs.1 hv
      simp only [Model.distOuter, hkD, dif_pos]
      rw [lbl_of_lt hkD, hkl, hQ']
      rcases distInner_spec hij hkd (g.nbrs k) B' D inv2 hnb with ⟨r, h1, h2⟩ | ⟨D', B'', h1, h2, h3⟩
      · rw [h1]
        simp only
        rw [dist, distIn_eq_some_iff.2 h2]; rfl
      · rw [h1]
        simp only
        apply ih D' (A' ++ B'') d' A' B'' k rfl h2
        rw [h3, ← hQ']
        simp only [List.length_cons] at hf
        omega

theorem distance_eq_dist (g : G) (i j : Nat) (hi : i < g.n) (hj : j < g.n) (fuel : Nat) (hf : g.n + 2 ≤ fuel) :
    Model.distance g i j fuel = .ok (optToInt (dist g i j)) := by
  unfold Model.distance
  by_cases hij : i = j
  · subst hij
    simp only [if_true]
    rw [dist, distIn_eq_some_iff.2 (isDist_self hi)]; rfl
  · simp only [hij, if_false]
    apply distOuter_spec hij hj fuel _ [i] 0 [i] [] 0 rfl (dinv_init hi)
    simp only [List.length_cons, List.length_nil, Array.count_replicate_self]
    omega

end GDist
