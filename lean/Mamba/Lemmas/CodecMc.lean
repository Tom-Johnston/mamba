import Mamba.Lemmas.CodecCount
import Mathlib.Data.List.Nodup
/-!
Multicode (C07): the record of a graph (`mcSpec`), `mcEncode` writes exactly the record, `mcDecode` of the record
is the canonical dense value, and `mcDecodeMultiple` splits concatenated records.
-/
namespace Codec
open GraphSpec

def mcRow (g : G) (i : Nat) : List Nat :=
  ((List.range' (i+1) (g.n - (i+1))).filter (fun j => g.adj i j)).map (· + 1) ++ [0]
def mcSpec (g : G) : List Nat := if g.n = 0 then [0] else g.n :: (List.range (g.n - 1)).flatMap (mcRow g)

def mcNb (g : G) (i : Nat) : List Nat := (List.range' (i+1) (g.n - (i+1))).filter (fun j => g.adj i j)

def mcEdges (g : G) (k : Nat) : List (Nat × Nat) := (List.range k).flatMap fun i => (mcNb g i).map fun j => (i, j)

theorem mcRow_eq (g : G) (i : Nat) : mcRow g i = (mcNb g i).map (· + 1) ++ [0] := rfl

theorem mcNb_mem {g : G} {i j : Nat} : j ∈ mcNb g i ↔ i < j ∧ j < g.n ∧ g.adj i j = true :=
  GraphRep.mem_filter_adj_range'

theorem mcNb_nodup (g : G) (i : Nat) : (mcNb g i).Nodup :=
  List.Nodup.sublist List.filter_sublist (List.nodup_range' ..)

theorem mcEdges_succ (g : G) (k : Nat) : mcEdges g (k + 1) = mcEdges g k ++ (mcNb g k).map fun j => (k, j) := by
  simp [mcEdges, List.range_succ, List.flatMap_append]

theorem mcEdges_mem {g : G} {k : Nat} {p : Nat × Nat} :
    p ∈ mcEdges g k ↔ p.1 < k ∧ p.1 < p.2 ∧ p.2 < g.n ∧ g.adj p.1 p.2 = true := by
  obtain ⟨a, b⟩ := p
  simp only [mcEdges, List.mem_flatMap, List.mem_range, List.mem_map, Prod.mk.injEq, mcNb_mem]
  constructor
  · rintro ⟨i, hi, j, hj, rfl, rfl⟩; exact ⟨hi, hj⟩
  · rintro ⟨h1, h2⟩; exact ⟨a, h1, b, h2, rfl, rfl⟩

theorem mcEdges_nodup (g : G) (k : Nat) : (mcEdges g k).Nodup := by
  induction k with
  | zero => simp [mcEdges]
  | succ k ih =>
    rw [mcEdges_succ, List.nodup_append]
    refine ⟨ih, ?_, ?_⟩
    · exact List.Pairwise.map _ (fun a b h => by simpa using h) (mcNb_nodup g k)
    · intro p hp q hq hpq
      subst hpq
      rw [mcEdges_mem] at hp
      simp only [List.mem_map] at hq
      obtain ⟨j, _, rfl⟩ := hq
      simp at hp

theorem mcEdges_perm (g : G) : (mcEdges g (g.n - 1)).Perm g.edges := by
  rw [List.perm_ext_iff_of_nodup (mcEdges_nodup g _) (G.nodup_edges g)]
  rintro ⟨a, b⟩
  rw [mcEdges_mem, G.mem_edges]
  simp only
  constructor
  · rintro ⟨_, h2, h3, h4⟩; exact ⟨h2, h3, h4⟩
  · rintro ⟨h2, h3, h4⟩; exact ⟨by omega, h2, h3, h4⟩

theorem mcRows_length (g : G) (k : Nat) :
    ((List.range k).flatMap (mcRow g)).length = k + (mcEdges g k).length := by
  induction k with
  | zero => simp [mcEdges]
  | succ k ih =>
    rw [mcEdges_succ, List.range_succ, List.flatMap_append, List.length_append, ih]
    simp [mcRow_eq]
    omega

theorem mcSpec_length (g : G) (hn : 0 < g.n) : (mcSpec g).length = g.n + g.m := by
  unfold mcSpec
  rw [if_neg (by omega), List.length_cons, mcRows_length, (mcEdges_perm g).length_eq]
  unfold G.m
  omega

theorem mcSpec_bytes (g : G) (hn : g.n ≤ 255) : ∀ c ∈ mcSpec g, c ≤ g.n := by
  intro c hc
  unfold mcSpec at hc
  split at hc
  · simp at hc; omega
  · simp only [List.mem_cons, List.mem_flatMap, List.mem_range, mcRow_eq, List.mem_append, List.mem_map,
      List.not_mem_nil, or_false] at hc
    rcases hc with rfl | ⟨i, _, ⟨j, hj, rfl⟩ | rfl⟩
    · exact Nat.le_refl _
    · rw [mcNb_mem] at hj; omega
    · omega

theorem flatMap_range_length_mono {α : Type} (f : Nat → List α) {k k' : Nat} (h : k ≤ k') :
    ((List.range k).flatMap f).length ≤ ((List.range k').flatMap f).length := by
  induction h with
  | refl => exact Nat.le_refl _
  | step _ ih => rw [List.range_succ, List.flatMap_append, List.length_append]; omega

/-- the writer state: `pre` written, zeros behind, index at the end of `pre` -/
def WInv (T : Nat) (pre : List Nat) (st : Bytes × Nat) : Prop :=
  st.1.toList = pre ++ List.replicate (T - pre.length) 0 ∧ st.2 = pre.length

theorem winv_set {T : Nat} {pre : List Nat} {st : Bytes × Nat} (x : Nat) (h : WInv T pre st) (hl : pre.length < T) :
    ∃ s, setAt st.1 st.2 x = .ok s ∧ WInv T (pre ++ [x]) (s, st.2 + 1) := by
  obtain ⟨h1, h2⟩ := h
  have hsz : st.1.size = T := by
    rw [← Array.length_toList, h1, List.length_append, List.length_replicate]; omega
  refine ⟨_, setAt_ok (by omega), ?_, ?_⟩
  · obtain ⟨k, hk⟩ : ∃ k, T - pre.length = k + 1 :=
      ⟨T - pre.length - 1, (Nat.succ_pred_eq_of_pos (Nat.sub_pos_of_lt hl)).symm⟩
    have hk' : T - (pre ++ [x]).length = k := by
      rw [List.length_append, List.length_singleton, Nat.sub_add_eq, hk, Nat.add_sub_cancel]
    rw [Array.toList_setIfInBounds, h1, h2, hk, hk', List.replicate_succ]
    simp
  · simp [h2]

theorem mcEnc_inner (g : GI) (i T : Nat) : ∀ (js : List Nat) (pre : List Nat) (st : Bytes × Nat), WInv T pre st →
    (∀ j ∈ js, j + 1 < 256) → pre.length + (js.filter (g.isEdge i)).length ≤ T →
    ∃ st', js.foldlM (mcEncStep g i) st = .ok st' ∧ WInv T (pre ++ (js.filter (g.isEdge i)).map (· + 1)) st' := by
  intro js
  induction js with
  | nil => intro pre st h _ _; exact ⟨st, rfl, by simpa using h⟩
  | cons j js ih =>
    intro pre st h hb hl
    have hj : j + 1 < 256 := hb j (by simp)
    have hb' : ∀ j ∈ js, j + 1 < 256 := fun a ha => hb a (by simp [ha])
    simp only [List.foldlM_cons]
    by_cases he : g.isEdge i j = true
    · rw [List.filter_cons_of_pos he] at hl ⊢
      simp only [List.length_cons] at hl
      obtain ⟨s, hs, hw⟩ := winv_set (j + 1) h (by omega)
      have e : mcEncStep g i st j = .ok (s, st.2 + 1) := by
        unfold mcEncStep
        rw [if_pos he, Nat.mod_eq_of_lt hj, hs]
      rw [e]
      obtain ⟨st', h1, h2⟩ := ih (pre ++ [j + 1]) (s, st.2 + 1) hw hb' (by simp; omega)
      exact ⟨st', h1, by simpa using h2⟩
    · rw [List.filter_cons_of_neg he] at hl ⊢
      have e : mcEncStep g i st j = .ok st := by
        unfold mcEncStep
        rw [if_neg he]
      rw [e]
      exact ih pre st h hb' hl

theorem mcEnc_row (g : GI) (i T : Nat) (pre : List Nat) (st : Bytes × Nat) (h : WInv T pre st) (hn : g.n ≤ 255)
    (hl : pre.length + (mcRow g.toG i).length ≤ T) :
    ∃ st', mcEncRow g st i = .ok st' ∧ WInv T (pre ++ mcRow g.toG i) st' := by
  have hr : mcRow g.toG i = ((List.range' (i+1) (g.n - (i+1))).filter (g.isEdge i)).map (· + 1) ++ [0] := rfl
  rw [hr] at hl ⊢
  simp only [List.length_append, List.length_map, List.length_singleton] at hl
  obtain ⟨st1, h1, w1⟩ := mcEnc_inner g i T (List.range' (i+1) (g.n - (i+1))) pre st h
    (by intro j hj; rw [List.mem_range'_1] at hj; omega) (by omega)
  obtain ⟨s, hs, hw⟩ := winv_set 0 w1 (by simp; omega)
  refine ⟨(s, st1.2 + 1), ?_, by simpa using hw⟩
  unfold mcEncRow
  rw [h1]
  simp only []
  rw [hs]

theorem mcEnc_rows (g : GI) (T : Nat) (hn : g.n ≤ 255)
    (hT : 1 + ((List.range (g.n - 1)).flatMap (mcRow g.toG)).length ≤ T) (st : Bytes × Nat) (h : WInv T [g.n] st) :
    ∀ k, k ≤ g.n - 1 → ∃ st', (List.range k).foldlM (mcEncRow g) st = .ok st' ∧
      WInv T (g.n :: (List.range k).flatMap (mcRow g.toG)) st' := by
  intro k
  induction k with
  | zero => intro _; exact ⟨st, rfl, by simpa using h⟩
  | succ k ih =>
    intro hk
    obtain ⟨st1, h1, w1⟩ := ih (by omega)
    have := flatMap_range_length_mono (mcRow g.toG) hk
    rw [List.range_succ, List.flatMap_append, List.length_append] at this
    simp only [List.flatMap_cons, List.flatMap_nil, List.append_nil] at this
    obtain ⟨st2, h2, w2⟩ := mcEnc_row g k T _ st1 w1 hn (by simp only [List.length_cons]; omega)
    refine ⟨st2, ?_, ?_⟩
    · rw [List.range_succ, foldlM_append_ok _ _ _ _ _ h1]
      simp only [List.foldlM_cons, List.foldlM_nil]
      rw [h2]; rfl
    · simpa [List.range_succ, List.flatMap_append] using w2

theorem mcEncode_eq (g : GI) (hs : g.Sound) (hn : g.n ≤ 255) : ∃ a, mcEncode g = .ok a ∧ a.toList = mcSpec g.toG := by
  unfold mcEncode
  rw [if_neg (by omega)]
  by_cases h0 : g.n = 0
  · rw [if_pos h0]
    refine ⟨_, rfl, ?_⟩
    have : g.toG.n = 0 := h0
    simp [mcSpec, this]
  · rw [if_neg h0]
    have hlen := mcSpec_length g.toG (by show 0 < g.n; omega)
    have hsp : mcSpec g.toG = g.n :: (List.range (g.n - 1)).flatMap (mcRow g.toG) := by
      unfold mcSpec; rw [if_neg (show ¬ g.toG.n = 0 from h0)]; rfl
    rw [hsp, List.length_cons, ← hs.m_eq] at hlen
    have hgn : g.toG.n = g.n := rfl
    rw [hgn] at hlen
    have w0 : WInv (g.m + g.n) [] (Array.replicate (g.m + g.n) 0, 0) := by
      refine ⟨by simp, rfl⟩
    obtain ⟨s0, hs0, w1⟩ := winv_set (g.n % 256) w0 (by simp; omega)
    simp only [] at hs0
    rw [hs0]
    rw [Nat.mod_eq_of_lt (by omega)] at w1
    simp only []
    obtain ⟨st, h1, w2⟩ := mcEnc_rows g (g.m + g.n) hn (by omega) (s0, 1) (by simpa using w1) (g.n - 1) (Nat.le_refl _)
    rw [h1]
    refine ⟨st.1, rfl, ?_⟩
    rw [hsp, w2.1]
    have : g.m + g.n - (g.n :: (List.range (g.n - 1)).flatMap (mcRow g.toG)).length = 0 := by
      rw [List.length_cons]; omega
    rw [this]; simp

/-- decoder loop invariant: the edges `es` have been processed, row `cur` is the current one -/
structure DInv (n : Nat) (es : List (Nat × Nat)) (cur : Nat) (st : McSt) : Prop where
  cur_eq : st.cur = cur
  m_eq : st.m = es.length
  esz : st.edges.size = tri n
  dsz : st.deg.size = n
  edge : ∀ i j, i < j → j < n → st.edges[tri j + i]? = some (if (i, j) ∈ es then 1 else 0)
  deg : ∀ v, v < n → st.deg[v]? = some (es.countP fun p => p.1 == v || p.2 == v)

theorem mcDec_edge {n cur : Nat} {es : List (Nat × Nat)} {st : McSt} (h : DInv n es cur st) (j : Nat)
    (hcj : cur < j) (hj : j < n) (hn : n ≤ 255) :
    ∃ st', mcDecStep st (j + 1) = .ok st' ∧ DInv n (es ++ [(cur, j)]) cur st' := by
  have hj1 : 1 ≤ j := Nat.lt_of_le_of_lt (Nat.zero_le _) hcj
  have hj2 : j + 1 < 256 := by omega
  have b1 : bsub (j + 1) 1 = j := bsub_of_le (Nat.le_add_left 1 j) hj2
  have b2 : bsub (j + 1) 2 = j - 1 := (bsub_of_le (Nat.succ_le_succ hj1) hj2).trans (Nat.add_sub_add_right j 1 1)
  have ht : j * (j - 1) / 2 = tri j := rfl
  have hidx := tri_add_lt hcj hj
  have hd1 := h.deg j hj
  have hd2 : (st.deg.setIfInBounds j ((es.countP fun p => p.1 == j || p.2 == j) + 1))[cur]? =
      some (es.countP fun p => p.1 == cur || p.2 == cur) := by
    rw [Array.getElem?_setIfInBounds, if_neg (by omega)]
    exact h.deg cur (by omega)
  refine ⟨{ edges := st.edges.setIfInBounds (tri j + cur) 1,
             deg := (st.deg.setIfInBounds j ((es.countP fun p => p.1 == j || p.2 == j) + 1)).setIfInBounds cur
                      ((es.countP fun p => p.1 == cur || p.2 == cur) + 1),
             m := st.m + 1, cur := cur }, ?_, ?_⟩
  · unfold mcDecStep
    rw [if_neg (by omega), b1, b2, ht, h.cur_eq, setAt_ok (by rw [h.esz]; exact hidx)]
    simp only []
    rw [incr_of_getElem? hd1]
    simp only []
    rw [incr_of_getElem? hd2]
  · constructor
    · rfl
    · simp [h.m_eq]
    · simp [h.esz]
    · simp [h.dsz]
    · intro i' j' hij' hj'
      simp only []
      rw [Array.getElem?_setIfInBounds]
      by_cases e : tri j + cur = tri j' + i'
      · obtain ⟨rfl, rfl⟩ := tri_inj hcj hij' e
        rw [if_pos rfl, if_pos (by rw [h.esz]; exact hidx)]
        simp
      · rw [if_neg e, h.edge i' j' hij' hj']
        have : ¬ (i' = cur ∧ j' = j) := by rintro ⟨rfl, rfl⟩; exact e rfl
        simp [this]
    · intro v hv
      simp only []
      rw [List.countP_append, Array.getElem?_setIfInBounds, Array.getElem?_setIfInBounds]
      simp only [Array.size_setIfInBounds, h.dsz]
      by_cases e1 : cur = v
      · subst e1
        simp [show cur < n by omega]
      · by_cases e2 : j = v
        · subst e2
          simp [e1, hj]
        · rw [if_neg e1, if_neg e2, h.deg v hv]
          simp [e1, e2]

theorem mcDec_zero {n cur : Nat} {es : List (Nat × Nat)} {st : McSt} (h : DInv n es cur st) :
    ∃ st', mcDecStep st 0 = .ok st' ∧ DInv n es (cur + 1) st' := by
  refine ⟨{ st with cur := st.cur + 1 }, by unfold mcDecStep; rw [if_pos rfl], ?_⟩
  exact ⟨by simp [h.cur_eq], h.m_eq, h.esz, h.dsz, h.edge, h.deg⟩

theorem mcDec_nbs {n cur : Nat} (hn : n ≤ 255) : ∀ (js : List Nat) (es : List (Nat × Nat)) (st : McSt),
    DInv n es cur st → (∀ j ∈ js, cur < j ∧ j < n) →
    ∃ st', (js.map (· + 1)).foldlM mcDecStep st = .ok st' ∧ DInv n (es ++ js.map fun j => (cur, j)) cur st' := by
  intro js
  induction js with
  | nil => intro es st h _; exact ⟨st, rfl, by simpa using h⟩
  | cons j js ih =>
    intro es st h hb
    obtain ⟨h1, h2⟩ := hb j (by simp)
    obtain ⟨st1, e1, w1⟩ := mcDec_edge h j h1 h2 hn
    obtain ⟨st2, e2, w2⟩ := ih _ st1 w1 (fun a ha => hb a (by simp [ha]))
    refine ⟨st2, ?_, by simpa using w2⟩
    simp only [List.map_cons, List.foldlM_cons]
    rw [e1]; exact e2

theorem mcDec_row (g : G) (hn : g.n ≤ 255) (i : Nat) (st : McSt) (h : DInv g.n (mcEdges g i) i st) :
    ∃ st', (mcRow g i).foldlM mcDecStep st = .ok st' ∧ DInv g.n (mcEdges g (i + 1)) (i + 1) st' := by
  obtain ⟨st1, e1, w1⟩ := mcDec_nbs hn (mcNb g i) _ st h (by
    intro j hj; rw [mcNb_mem] at hj; exact ⟨hj.1, hj.2.1⟩)
  obtain ⟨st2, e2, w2⟩ := mcDec_zero w1
  refine ⟨st2, ?_, by rw [mcEdges_succ]; exact w2⟩
  rw [mcRow_eq, foldlM_append_ok _ _ _ _ _ e1]
  simp only [List.foldlM_cons, List.foldlM_nil]
  rw [e2]; rfl

theorem mcDec_rows (g : G) (hn : g.n ≤ 255) (st : McSt) (h : DInv g.n [] 0 st) : ∀ k,
    ∃ st', ((List.range k).flatMap (mcRow g)).foldlM mcDecStep st = .ok st' ∧ DInv g.n (mcEdges g k) k st' := by
  intro k
  induction k with
  | zero => exact ⟨st, rfl, by simpa [mcEdges] using h⟩
  | succ k ih =>
    obtain ⟨st1, e1, w1⟩ := ih
    obtain ⟨st2, e2, w2⟩ := mcDec_row g hn k st1 w1
    refine ⟨st2, ?_, w2⟩
    rw [List.range_succ, List.flatMap_append, foldlM_append_ok _ _ _ _ _ e1]
    simpa using e2

theorem mcDec_init (n : Nat) :
    DInv n [] 0 { edges := Array.replicate (n * (n - 1) / 2) 0, deg := Array.replicate n 0, m := 0, cur := 0 } := by
  constructor
  · rfl
  · rfl
  · simp [tri]
  · simp
  · intro i j hij hj
    have := tri_add_lt hij hj
    simp only [Array.getElem?_replicate]
    rw [if_pos (by unfold tri at this; exact this)]
    simp
  · intro v hv
    simp [hv]

theorem mcDec_final (g : G) (h : g.WF) (st : McSt) (w : DInv g.n (mcEdges g (g.n - 1)) (g.n - 1) st) :
    ({ n := g.n, m := st.m, deg := st.deg, edges := st.edges } : Dense) = denseOf g := by
  have hp := mcEdges_perm g
  unfold denseOf
  congr 1
  · rw [w.m_eq, hp.length_eq]; rfl
  · apply Array.ext_getElem?
    intro v
    rcases Nat.lt_or_ge v g.n with hv | hv
    · rw [w.deg v hv, hp.countP_eq, List.countP_eq_length_filter, edges_count_deg g h v hv]
      simp [hv]
    · rw [Array.getElem?_eq_none (by rw [w.dsz]; exact hv), Array.getElem?_eq_none (by simpa using hv)]
  · apply Array.ext_getElem?
    intro k
    rcases Nat.lt_or_ge k (tri g.n) with hk | hk
    · obtain ⟨i, j, hij, hj, rfl⟩ := tri_surj hk
      rw [w.edge i j hij hj, List.getElem?_toArray, upperBits_getElem? g hij hj]
      congr 1
      have : (i, j) ∈ mcEdges g (g.n - 1) ↔ g.adj i j = true := by
        rw [hp.mem_iff, G.mem_edges]
        exact ⟨fun h => h.2.2, fun h => ⟨hij, hj, h⟩⟩
      by_cases ha : g.adj i j = true
      · rw [if_pos (this.2 ha), if_pos ha]
      · rw [if_neg (fun h => ha (this.1 h)), if_neg ha]
    · rw [Array.getElem?_eq_none (by rw [w.esz]; exact hk),
        Array.getElem?_eq_none (by simpa [upperBits_length] using hk)]

theorem mcDecode_spec (g : G) (h : g.WF) (hn : g.n ≤ 255) : mcDecode (mcSpec g).toArray = .ok (denseOf g) := by
  unfold mcDecode
  by_cases h0 : g.n = 0
  · have hs : mcSpec g = [0] := by unfold mcSpec; rw [if_pos h0]
    rw [hs]
    simp only [List.getElem?_toArray, List.getElem?_cons_zero, List.drop_one, List.tail_cons, List.foldlM_nil]
    have w := mcDec_final g h _ (by rw [h0]; exact mcDec_init 0)
    rw [← w, h0]
    rfl
  · have hs : mcSpec g = g.n :: (List.range (g.n - 1)).flatMap (mcRow g) := by unfold mcSpec; rw [if_neg h0]
    rw [hs]
    simp only [List.getElem?_toArray, List.getElem?_cons_zero, List.drop_one, List.tail_cons]
    obtain ⟨st, e, w⟩ := mcDec_rows g hn _ (mcDec_init g.n) (g.n - 1)
    rw [e]
    simp only []
    rw [if_neg (by simp [w.cur_eq])]
    rw [mcDec_final g h st w]

theorem mc_roundtrip_single (g : GI) (hs : g.Sound) (hn : g.n ≤ 255) :
    ∃ a, mcEncode g = .ok a ∧ mcDecode a = .ok (denseOf g.toG) := by
  obtain ⟨a, h1, h2⟩ := mcEncode_eq g hs hn
  refine ⟨a, h1, ?_⟩
  have : a = (mcSpec g.toG).toArray := by rw [← h2]
  rw [this]
  exact mcDecode_spec g.toG hs.wf hn

def idxZip (off : Nat) (l : List Nat) : List (Nat × Nat) := (List.range' off l.length).zip l

theorem idxZip_nil (off : Nat) : idxZip off [] = [] := rfl

theorem idxZip_cons (off x : Nat) (l : List Nat) : idxZip off (x :: l) = (off, x) :: idxZip (off + 1) l := by
  simp [idxZip, List.range'_succ]

theorem idxZip_append (off : Nat) (a b : List Nat) :
    idxZip off (a ++ b) = idxZip off a ++ idxZip (off + a.length) b := by
  induction a generalizing off with
  | nil => simp [idxZip_nil]
  | cons x xs ih =>
    rw [List.cons_append, idxZip_cons, idxZip_cons, ih, List.cons_append, List.length_cons]
    congr 3; omega

theorem slice_mid (p r q : List Nat) :
    sliceBytes (p ++ r ++ q).toArray p.length (p.length + r.length) = r.toArray := by
  unfold sliceBytes; simp

/-- bytes inside a record: nothing happens except counting down the zeros -/
theorem mcm_mid (s : Bytes) : ∀ (l : List Nat) (off : Nat) (st : McmSt), l.count 0 < st.left → st.left < 256 →
    (idxZip off l).foldlM (mcmStep s) st = .ok { st with left := st.left - l.count 0 } := by
  intro l
  induction l with
  | nil => intro off st _ _; rfl
  | cons x l ih =>
    intro off st h1 h2
    rw [idxZip_cons, List.foldlM_cons]
    by_cases hx : x = 0
    · subst hx
      rw [List.count_cons_self] at h1 ⊢
      have hb : bsub st.left 1 = st.left - 1 := bsub_of_le (by omega) h2
      have e : mcmStep s st (off, 0) = .ok { st with left := st.left - 1 } := by
        unfold mcmStep
        simp only []
        rw [if_neg (by omega), if_pos trivial, hb, if_neg (by omega)]
      rw [e]
      simp only [Outcome.bind_ok]
      rw [ih (off + 1) _ (by simp only []; omega) (by simp only []; omega)]
      simp only [Nat.sub_sub, Nat.add_comm]
    · rw [List.count_cons_of_ne hx] at h1 ⊢
      have e : mcmStep s st (off, x) = .ok st := by
        unfold mcmStep
        simp only []
        rw [if_neg (by omega), if_neg hx]
      rw [e]
      simp only [Outcome.bind_ok]
      exact ih (off + 1) st h1 h2

theorem mcm_record_big (p q mid : List Nat) (c : Nat) (d : Dense) (hc : 2 ≤ c) (hc' : c ≤ 255)
    (hz : mid.count 0 = c - 2) (hd : mcDecode (c :: (mid ++ [0])).toArray = .ok d) (st : McmSt) (hl : st.left = 0) :
    (idxZip p.length (c :: (mid ++ [0]))).foldlM (mcmStep (p ++ c :: (mid ++ [0]) ++ q).toArray) st
      = .ok { graphs := st.graphs.push d, start := p.length, left := 0 } := by
  rw [idxZip_cons, idxZip_append, idxZip_cons, idxZip_nil, List.foldlM_cons]
  have hb : bsub c 1 = c - 1 := bsub_of_le (by omega) (by omega)
  have e1 : mcmStep (p ++ c :: (mid ++ [0]) ++ q).toArray st (p.length, c)
      = .ok { graphs := st.graphs, start := p.length, left := c - 1 } := by
    unfold mcmStep
    simp only []
    rw [if_pos hl, if_neg (by omega), if_neg (by omega), hb]
  rw [e1]
  simp only [Outcome.bind_ok]
  rw [foldlM_append_ok _ _ _ _ _ (mcm_mid _ mid (p.length + 1) _ (by simp only []; omega) (by simp only []; omega))]
  simp only [List.foldlM_cons, List.foldlM_nil, hz]
  have e2 : mcmStep (p ++ c :: (mid ++ [0]) ++ q).toArray
      { graphs := st.graphs, start := p.length, left := c - 1 - (c - 2) } (p.length + 1 + mid.length, 0)
      = .ok { graphs := st.graphs.push d, start := p.length, left := 0 } := by
    have hs := slice_mid p (c :: (mid ++ [0])) q
    have hlen : p.length + (c :: (mid ++ [0])).length = p.length + 1 + mid.length + 1 := by
      rw [List.length_cons, List.length_append, List.length_singleton]; omega
    rw [hlen] at hs
    have h1 : c - 1 - (c - 2) = 1 := by clear hz hd hs hlen e1 hb; omega
    unfold mcmStep
    simp only []
    rw [h1, if_neg (by omega), if_pos trivial, show bsub 1 1 = 0 from rfl, if_pos rfl, hs, hd]
  rw [e2]
  rfl

theorem mcm_record_small (p q : List Nat) (c : Nat) (d : Dense) (hc : c ≤ 1)
    (hd : mcDecode [c].toArray = .ok d) (st : McmSt) (hl : st.left = 0) :
    (idxZip p.length [c]).foldlM (mcmStep (p ++ [c] ++ q).toArray) st
      = .ok { graphs := st.graphs.push d, start := st.start, left := 0 } := by
  rw [idxZip_cons, idxZip_nil]
  simp only [List.foldlM_cons, List.foldlM_nil]
  have hs := slice_mid p [c] q
  simp only [List.length_singleton] at hs
  have e : mcmStep (p ++ [c] ++ q).toArray st (p.length, c)
      = .ok { graphs := st.graphs.push d, start := st.start, left := 0 } := by
    unfold mcmStep
    simp only []
    rw [if_pos hl, if_pos hc, hs, hd, ← hl]
  rw [e]
  rfl

theorem mcRows_count0 (g : G) (k : Nat) : ((List.range k).flatMap (mcRow g)).count 0 = k := by
  induction k with
  | zero => rfl
  | succ k ih =>
    rw [List.range_succ, List.flatMap_append, List.count_append, ih]
    simp [mcRow_eq, List.count_eq_zero]

theorem mcSpec_big (g : G) (hn : 2 ≤ g.n) :
    ∃ mid, mcSpec g = g.n :: (mid ++ [0]) ∧ mid.count 0 = g.n - 2 := by
  refine ⟨(List.range (g.n - 2)).flatMap (mcRow g) ++ (mcNb g (g.n - 2)).map (· + 1), ?_, ?_⟩
  · unfold mcSpec
    rw [if_neg (by omega), show g.n - 1 = g.n - 2 + 1 by omega, List.range_succ, List.flatMap_append]
    simp [mcRow_eq]
  · rw [List.count_append, mcRows_count0]
    simp [List.count_eq_zero]

theorem mcm_record (g : G) (h : g.WF) (hn : g.n ≤ 255) (p q : List Nat) (st : McmSt) (hl : st.left = 0) :
    ∃ st', (idxZip p.length (mcSpec g)).foldlM (mcmStep (p ++ mcSpec g ++ q).toArray) st = .ok st' ∧
      st'.left = 0 ∧ st'.graphs = st.graphs.push (denseOf g) := by
  have hd := mcDecode_spec g h hn
  rcases Nat.lt_or_ge g.n 2 with h2 | h2
  · have hs : mcSpec g = [g.n] := by
      unfold mcSpec
      by_cases h0 : g.n = 0
      · rw [if_pos h0, h0]
      · have : g.n = 1 := by omega
        rw [if_neg h0, this]; rfl
    rw [hs] at hd ⊢
    exact ⟨_, mcm_record_small p q g.n _ (by omega) hd st hl, rfl, rfl⟩
  · obtain ⟨mid, hs, hz⟩ := mcSpec_big g h2
    rw [hs] at hd ⊢
    exact ⟨_, mcm_record_big p q mid g.n _ h2 hn hz hd st hl, rfl, rfl⟩

theorem mcm_records : ∀ (gs : List G), (∀ g ∈ gs, g.WF ∧ g.n ≤ 255) → ∀ (p q : List Nat) (st : McmSt), st.left = 0 →
    ∃ st', (idxZip p.length (gs.flatMap mcSpec)).foldlM (mcmStep (p ++ gs.flatMap mcSpec ++ q).toArray) st = .ok st' ∧
      st'.left = 0 ∧ st'.graphs = st.graphs ++ (gs.map denseOf).toArray := by
  intro gs
  induction gs with
  | nil => intro _ p q st hl; exact ⟨st, rfl, hl, by simp⟩
  | cons g gs ih =>
    intro hg p q st hl
    obtain ⟨hwf, hn⟩ := hg g (by simp)
    rw [List.flatMap_cons, idxZip_append]
    obtain ⟨st1, e1, l1, g1⟩ := mcm_record g hwf hn p (gs.flatMap mcSpec ++ q) st hl
    obtain ⟨st2, e2, l2, g2⟩ := ih (fun a ha => hg a (by simp [ha])) (p ++ mcSpec g) q st1 l1
    have a1 : p ++ (mcSpec g ++ gs.flatMap mcSpec) ++ q = p ++ mcSpec g ++ (gs.flatMap mcSpec ++ q) := by
      simp only [List.append_assoc]
    have a2 : p ++ mcSpec g ++ gs.flatMap mcSpec ++ q = p ++ mcSpec g ++ (gs.flatMap mcSpec ++ q) := by
      simp only [List.append_assoc]
    rw [a1]
    rw [a2, List.length_append] at e2
    refine ⟨st2, ?_, l2, ?_⟩
    · rw [foldlM_append_ok _ _ _ _ _ e1]; exact e2
    · rw [g2, g1]; simp

theorem mcDecodeMultiple_spec (gs : List G) (h : ∀ g ∈ gs, g.WF ∧ g.n ≤ 255) :
    mcDecodeMultiple (gs.flatMap mcSpec).toArray = .ok (gs.map denseOf).toArray := by
  obtain ⟨st, e, _, hg⟩ := mcm_records gs h [] [] { graphs := #[], start := 0, left := 0 } rfl
  unfold mcDecodeMultiple
  have : (List.range (gs.flatMap mcSpec).toArray.size).zip (gs.flatMap mcSpec).toArray.toList
      = idxZip 0 (gs.flatMap mcSpec) := by
    simp [idxZip, List.range_eq_range']
  rw [this]
  simp only [List.nil_append, List.append_nil, List.length_nil] at e
  rw [e]
  simp only []
  rw [hg]; simp

theorem mc_roundtrip_multiple (gs : List GI) (h : ∀ g ∈ gs, g.Sound ∧ g.n ≤ 255) :
    ∃ as : List Bytes, as.length = gs.length ∧ (∀ i (hi : i < gs.length), ∃ a, as[i]? = some a ∧ mcEncode gs[i] = .ok a) ∧
      mcDecodeMultiple (as.flatMap Array.toList).toArray = .ok (gs.map fun g => denseOf g.toG).toArray := by
  refine ⟨gs.map fun g => (mcSpec g.toG).toArray, by simp, ?_, ?_⟩
  · intro i hi
    obtain ⟨hs, hn⟩ := h gs[i] (List.getElem_mem hi)
    obtain ⟨a, h1, h2⟩ := mcEncode_eq gs[i] hs hn
    refine ⟨a, ?_, h1⟩
    have : a = (mcSpec gs[i].toG).toArray := by rw [← h2]
    rw [this]
    simp [hi]
  · have e1 : (gs.map fun g => (mcSpec g.toG).toArray).flatMap Array.toList = (gs.map GI.toG).flatMap mcSpec := by
      simp [List.flatMap_map]
    have e2 : (gs.map fun g => denseOf g.toG) = (gs.map GI.toG).map denseOf := by simp
    rw [e1, e2]
    apply mcDecodeMultiple_spec
    intro g hg
    rw [List.mem_map] at hg
    obtain ⟨g', hg', rfl⟩ := hg
    exact ⟨(h g' hg').1.wf, (h g' hg').2⟩

end Codec
