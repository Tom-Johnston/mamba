import Mamba.Lemmas.DistanceBfs
/-!
# Lemmas for C10: connected components are the classes of the reachability relation
-/
namespace GDist
open GraphSpec

variable {g : G} {V : List Nat}

theorem WalkIn.trans {s u x j k : Nat} (h1 : WalkIn g V s u j) (h2 : WalkIn g V u x k) : WalkIn g V s x (j + k) := by
  induction h2 with
  | base _ => exact h1
  | step _ hadj hx ih => exact .step ih hadj hx

theorem WalkIn.symm (hsym : ∀ u v, g.adj u v = g.adj v u) {s x k : Nat} (h : WalkIn g V s x k) :
    WalkIn g V x s k := by
  induction h with
  | base h => exact .base h
  | @step u x k hw hadj hx ih =>
    have h1 : WalkIn g V x u 1 := .step (.base hx) (by rw [hsym]; exact hadj) hw.mem_V
    have := h1.trans ih
    rwa [Nat.add_comm] at this

theorem ReachIn.refl {s : Nat} (h : s ∈ V) : ReachIn g V s s := ⟨0, .base h⟩
theorem ReachIn.trans {s u x : Nat} (h1 : ReachIn g V s u) (h2 : ReachIn g V u x) : ReachIn g V s x := by
  obtain ⟨j, h1⟩ := h1; obtain ⟨k, h2⟩ := h2; exact ⟨j + k, h1.trans h2⟩
theorem ReachIn.symm (hsym : ∀ u v, g.adj u v = g.adj v u) {s x : Nat} (h : ReachIn g V s x) : ReachIn g V x s := by
  obtain ⟨k, h⟩ := h; exact ⟨k, h.symm hsym⟩
theorem ReachIn.mem_V {s x : Nat} (h : ReachIn g V s x) : x ∈ V := by
  obtain ⟨k, h⟩ := h; exact h.mem_V
theorem ReachIn.start_mem {s x : Nat} (h : ReachIn g V s x) : s ∈ V := by
  obtain ⟨k, h⟩ := h; exact h.start_mem

theorem componentIn_eq (g : G) (V : List Nat) (s : Nat) :
    componentIn g V s = V.filter fun x => (distIn g V s x).isSome := rfl

theorem mem_componentIn {s x : Nat} : x ∈ componentIn g V s ↔ ReachIn g V s x := by
  rw [componentIn_eq, List.mem_filter, distIn_isSome_iff]
  exact ⟨fun h => h.2, fun h => ⟨h.mem_V, h⟩⟩

theorem componentIn_sublist (g : G) (V : List Nat) (s : Nat) : (componentIn g V s).Sublist V := by
  rw [componentIn_eq]; exact List.filter_sublist

theorem componentIn_congr (hsym : ∀ u v, g.adj u v = g.adj v u) {s t : Nat} (h : ReachIn g V s t) :
    componentIn g V s = componentIn g V t := by
  rw [componentIn_eq, componentIn_eq]
  apply List.filter_congr
  intro x _
  rw [Bool.eq_iff_iff, distIn_isSome_iff, distIn_isSome_iff]
  exact ⟨fun hx => (h.symm hsym).trans hx, fun hx => h.trans hx⟩

theorem componentsFrom_cons_of_mem {s : Nat} {rest cov : List Nat} (hs : s ∈ cov) :
    componentsFrom g V (s :: rest) cov = componentsFrom g V rest cov := by
  rw [componentsFrom, if_pos (List.contains_iff_mem.2 hs)]

theorem componentsFrom_cons_of_not_mem {s : Nat} {rest cov : List Nat} (hs : s ∉ cov) :
    componentsFrom g V (s :: rest) cov =
      componentIn g V s :: componentsFrom g V rest (componentIn g V s ++ cov) := by
  rw [componentsFrom, if_neg (fun h => hs (List.contains_iff_mem.1 h))]

theorem closed_append_componentIn {cov : List Nat} (hclosed : ∀ x ∈ cov, ∀ y, ReachIn g V x y → y ∈ cov) (s : Nat) :
    ∀ x ∈ componentIn g V s ++ cov, ∀ y, ReachIn g V x y → y ∈ componentIn g V s ++ cov := by
  intro x hx y hxy
  rcases List.mem_append.1 hx with hx | hx
  · exact List.mem_append.2 (.inl (mem_componentIn.2 ((mem_componentIn.1 hx).trans hxy)))
  · exact List.mem_append.2 (.inr (hclosed x hx y hxy))

/-- `cov` holds the vertices of the classes found so far -/
theorem componentsFrom_spec (hsym : ∀ u v, g.adj u v = g.adj v u) :
    ∀ (rest cov : List Nat), (∀ r ∈ rest, r ∈ V) →
      (∀ x ∈ cov, ∀ y, ReachIn g V x y → y ∈ cov) →
      let out := componentsFrom g V rest cov
      (∀ c ∈ out, ∃ s ∈ rest, s ∉ cov ∧ c = componentIn g V s) ∧
      (∀ s ∈ rest, s ∈ cov ∨ ∃ c ∈ out, s ∈ c) ∧
      (∀ c ∈ out, ∀ x ∈ c, x ∉ cov) ∧
      out.Pairwise (fun c c' => ∀ x ∈ c, x ∉ c') := by
  intro rest
  induction rest with
  | nil => intro cov _ _; simp [componentsFrom]
  | cons s rest ih =>
    intro cov hV hclosed
    have hV' : ∀ r ∈ rest, r ∈ V := fun r hr => hV r (List.mem_cons_of_mem _ hr)
    by_cases hs' : s ∈ cov
    · rw [componentsFrom_cons_of_mem hs']
      obtain ⟨h1, h2, h3, h4⟩ := ih cov hV' hclosed
      refine ⟨?_, ?_, h3, h4⟩
      · intro c hc
        obtain ⟨t, ht, htc, hct⟩ := h1 c hc
        exact ⟨t, List.mem_cons_of_mem _ ht, htc, hct⟩
      · intro t ht
        rcases List.mem_cons.1 ht with rfl | ht
        · exact .inl hs'
        · exact h2 t ht
    · rw [componentsFrom_cons_of_not_mem hs']
      have hsV : s ∈ V := hV s List.mem_cons_self
      have hclosed' := closed_append_componentIn hclosed s
      obtain ⟨h1, h2, h3, h4⟩ := ih (componentIn g V s ++ cov) hV' hclosed'
      refine ⟨?_, ?_, ?_, ?_⟩
      · intro c hc
        rcases List.mem_cons.1 hc with rfl | hc
        · exact ⟨s, List.mem_cons_self, hs', rfl⟩
        · obtain ⟨t, ht, htc, hct⟩ := h1 c hc
          exact ⟨t, List.mem_cons_of_mem _ ht, fun h => htc (List.mem_append.2 (.inr h)), hct⟩
      · intro t ht
        rcases List.mem_cons.1 ht with rfl | ht
        · exact .inr ⟨_, List.mem_cons_self, mem_componentIn.2 (ReachIn.refl hsV)⟩
        · rcases h2 t ht with h | ⟨c, hc, htc⟩
          · rcases List.mem_append.1 h with h | h
            · exact .inr ⟨_, List.mem_cons_self, h⟩
            · exact .inl h
          · exact .inr ⟨c, List.mem_cons_of_mem _ hc, htc⟩
      · intro c hc x hx
        rcases List.mem_cons.1 hc with rfl | hc
        · intro hxc
          exact hs' (hclosed x hxc s ((mem_componentIn.1 hx).symm hsym))
        · exact fun h => h3 c hc x hx (List.mem_append.2 (.inr h))
      · refine List.pairwise_cons.2 ⟨?_, h4⟩
        intro c' hc' x hx hxc'
        exact h3 c' hc' x hxc' (List.mem_append.2 (.inl hx))

theorem componentsIn_classes (hsym : ∀ u v, g.adj u v = g.adj v u) (V : List Nat) :
    (∀ c ∈ componentsIn g V, ∃ s ∈ V, c = componentIn g V s) ∧
    (∀ s ∈ V, ∃ c ∈ componentsIn g V, s ∈ c) ∧
    (componentsIn g V).Pairwise (fun c c' => ∀ x ∈ c, x ∉ c') := by
  obtain ⟨h1, h2, _, h4⟩ := componentsFrom_spec hsym V [] (fun _ h => h) (fun x hx => by cases hx)
  refine ⟨fun c hc => ?_, fun s hs => (h2 s hs).resolve_left List.not_mem_nil, h4⟩
  obtain ⟨s, hs, _, e⟩ := h1 c hc
  exact ⟨s, hs, e⟩

theorem componentIn_mem_componentsIn (hsym : ∀ u v, g.adj u v = g.adj v u) {v : Nat} (hv : v ∈ V) :
    componentIn g V v ∈ componentsIn g V := by
  obtain ⟨h1, h2, _⟩ := componentsIn_classes hsym V
  obtain ⟨c, hc, hvc⟩ := h2 v hv
  obtain ⟨s, _, rfl⟩ := h1 c hc
  rw [← componentIn_congr hsym (mem_componentIn.1 hvc)]
  exact hc

theorem componentsFrom_order (hsym : ∀ u v, g.adj u v = g.adj v u) :
    ∀ (rest cov : List Nat), (∀ r ∈ rest, r ∈ V) →
      (∀ x ∈ cov, ∀ y, ReachIn g V x y → y ∈ cov) →
      (∀ v ∈ V, v ∈ cov ∨ v ∈ rest) → rest.Pairwise (· < ·) →
      (∀ c ∈ componentsFrom g V rest cov, ∀ b ∈ c, b ∈ rest) ∧
      (componentsFrom g V rest cov).Pairwise (fun c c' => ∃ a ∈ c, ∀ b ∈ c', a < b) := by
  intro rest
  induction rest with
  | nil => intro cov _ _ _ _; simp [componentsFrom]
  | cons s rest ih =>
    intro cov hV hclosed hcover hsorted
    have hV' : ∀ r ∈ rest, r ∈ V := fun r hr => hV r (List.mem_cons_of_mem _ hr)
    obtain ⟨hslt, hsorted'⟩ := List.pairwise_cons.1 hsorted
    by_cases hs' : s ∈ cov
    · rw [componentsFrom_cons_of_mem hs']
      have hcover' : ∀ v ∈ V, v ∈ cov ∨ v ∈ rest := by
        intro v hv
        rcases hcover v hv with h | h
        · exact .inl h
        · rcases List.mem_cons.1 h with rfl | h
          · exact .inl hs'
          · exact .inr h
      obtain ⟨h1, h2⟩ := ih cov hV' hclosed hcover' hsorted'
      exact ⟨fun c hc b hb => List.mem_cons_of_mem _ (h1 c hc b hb), h2⟩
    · rw [componentsFrom_cons_of_not_mem hs']
      have hsV : s ∈ V := hV s List.mem_cons_self
      have hclosed' := closed_append_componentIn hclosed s
      have hcover' : ∀ v ∈ V, v ∈ componentIn g V s ++ cov ∨ v ∈ rest := by
        intro v hv
        rcases hcover v hv with h | h
        · exact .inl (List.mem_append.2 (.inr h))
        · rcases List.mem_cons.1 h with rfl | h
          · exact .inl (List.mem_append.2 (.inl (mem_componentIn.2 (ReachIn.refl hsV))))
          · exact .inr h
      obtain ⟨h1, h2⟩ := ih (componentIn g V s ++ cov) hV' hclosed' hcover' hsorted'
      constructor
      · intro c hc b hb
        rcases List.mem_cons.1 hc with rfl | hc
        · have hr := mem_componentIn.1 hb
          rcases hcover b hr.mem_V with h | h
          · exact absurd (hclosed b h s (hr.symm hsym)) hs'
          · exact h
        · exact List.mem_cons_of_mem _ (h1 c hc b hb)
      · refine List.pairwise_cons.2 ⟨?_, h2⟩
        intro c' hc'
        refine ⟨s, mem_componentIn.2 (ReachIn.refl hsV), ?_⟩
        intro b hb
        exact hslt b (h1 c' hc' b hb)

end GDist
