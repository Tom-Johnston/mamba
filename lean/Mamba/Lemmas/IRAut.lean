import Mamba.Lemmas.IRIso
import Mamba.Lemmas.IRCanon
/-!
# Automorphisms map subtrees of the unpruned tree onto subtrees

`CertBelow g rf s x`: `x` is the certificate of a leaf of the unpruned tree of `Model/IR.lean` below the node `s`
(stated with the paths of `IRPath.lean`, so without depth fuel). Relabelling transports paths
(`path_rel`) and leaf certificates (`certBelow_rel`); an automorphism that preserves the colouring of a node maps the
subtree of the child `v` onto the subtree of the child `γ v` (`certBelow_child_aut`, `certBelow_child_aut_iff`).
Every element of `IR.allLeaves` is such a leaf (`certBelow_of_mem_allLeaves`, from `mem_allLeaves_iff`).
-/
namespace IR

def CertBelow (g : G) (rf : Nat) (s : St) (x : List Nat) : Prop :=
  ∃ vs, IsPath g rf s vs ∧ target g (nodeAt g rf s vs) = none ∧ cert g (nodeAt g rf s vs).c = x

theorem childSt_rel {g g' : G} {σ τ : Nat → Nat} (R : Relabel g g' σ τ) (rf : Nat) {s s' : St} (h : SRel g σ s s')
    (t : Nat) {v : Nat} (hv : v < g.n) : SRel g σ (childSt g rf s t v) (childSt g' rf s' t (σ v)) :=
  refine_rel R rf (individualise_rel R h t v hv)

theorem path_rel {g g' : G} {σ τ : Nat → Nat} (R : Relabel g g' σ τ) (rf : Nat) :
    ∀ (vs : List Nat) {s s' : St}, SRel g σ s s' → IsPath g rf s vs →
      IsPath g' rf s' (vs.map σ) ∧ SRel g σ (nodeAt g rf s vs) (nodeAt g' rf s' (vs.map σ)) := by
  intro vs
  induction vs with
  | nil =>
    intro s s' h _
    exact ⟨trivial, h⟩
  | cons v vs ih =>
    intro s s' h hp
    obtain ⟨t, ht, hv, hp'⟩ := hp
    have ht' : target g' s' = some t := by rw [target_rel R h]; exact ht
    have hvn : v < g.n := mem_cellMembers_lt hv
    have hv' : σ v ∈ cellMembers g' s'.c t :=
      (cellMembers_rel R h.1 t).mem_iff.2 (List.mem_map_of_mem hv)
    obtain ⟨h1, h2⟩ := ih (childSt_rel R rf h t hvn) hp'
    refine ⟨⟨t, ht', hv', h1⟩, ?_⟩
    simp only [List.map_cons, nodeAt, ht, ht']
    exact h2

theorem certBelow_rel {g g' : G} {σ τ : Nat → Nat} (R : Relabel g g' σ τ) (rf : Nat) {s s' : St}
    (h : SRel g σ s s') {x : List Nat} : CertBelow g rf s x → CertBelow g' rf s' x := by
  rintro ⟨vs, hp, ht, hc⟩
  obtain ⟨h1, h2⟩ := path_rel R rf vs h hp
  exact ⟨vs.map σ, h1, by rw [target_rel R h2]; exact ht, by rw [cert_rel R h2.1]; exact hc⟩

theorem certBelow_child_aut {g : G} {γ τ : Nat → Nat} (R : Relabel g g γ τ) (rf : Nat) {s : St} (h : SRel g γ s s)
    {t v : Nat} (hv : v < g.n) {x : List Nat} :
    CertBelow g rf (childSt g rf s t v) x → CertBelow g rf (childSt g rf s t (γ v)) x :=
  certBelow_rel R rf (childSt_rel R rf h t hv)

theorem SRel.symm_aut {g : G} {γ τ : Nat → Nat} (R : Relabel g g γ τ) {s : St} (h : SRel g γ s s) : SRel g τ s s := by
  refine ⟨?_, rfl, rfl⟩
  intro v hv
  have := h.1 (τ v) (R.τ_lt v hv)
  rw [R.right v hv] at this
  exact this.symm

theorem certBelow_child_aut_iff {g : G} {γ τ : Nat → Nat} (R : Relabel g g γ τ) (rf : Nat) {s : St} (h : SRel g γ s s)
    {t v : Nat} (hv : v < g.n) {x : List Nat} :
    CertBelow g rf (childSt g rf s t (γ v)) x ↔ CertBelow g rf (childSt g rf s t v) x := by
  constructor
  · intro hx
    have := certBelow_child_aut R.symm rf (SRel.symm_aut R h) (t := t) (R.σ_lt v hv) hx
    rwa [R.left v hv] at this
  · exact certBelow_child_aut R rf h hv

theorem certBelow_of_target_none {g : G} {rf : Nat} {s : St} {x : List Nat} (ht : target g s = none) :
    CertBelow g rf s x ↔ cert g s.c = x := by
  constructor
  · rintro ⟨vs, hp, _, hc⟩
    cases vs with
    | nil => exact hc
    | cons v vs =>
      obtain ⟨t, ht', _⟩ := hp
      rw [ht] at ht'
      cases ht'
  · intro hc
    exact ⟨[], trivial, ht, hc⟩

theorem certBelow_of_target_some {g : G} {rf : Nat} {s : St} {x : List Nat} {t : Nat} (ht : target g s = some t) :
    CertBelow g rf s x ↔ ∃ v, v ∈ cellMembers g s.c t ∧ CertBelow g rf (childSt g rf s t v) x := by
  constructor
  · rintro ⟨vs, hp, hn, hc⟩
    cases vs with
    | nil =>
      simp only [nodeAt] at hn
      rw [ht] at hn
      cases hn
    | cons v vs =>
      obtain ⟨t', ht', hv, hp'⟩ := hp
      rw [ht] at ht'
      cases ht'
      simp only [nodeAt, ht] at hn hc
      exact ⟨v, hv, vs, hp', hn, hc⟩
  · rintro ⟨v, hv, vs, hp, hn, hc⟩
    refine ⟨v :: vs, ⟨t, ht, hv, hp⟩, ?_, ?_⟩
    · simp only [nodeAt, ht]; exact hn
    · simp only [nodeAt, ht]; exact hc

theorem certBelow_node {g : G} {rf : Nat} {s : St} {x : List Nat} :
    CertBelow g rf s x ↔ (match target g s with
      | none => cert g s.c = x
      | some t => ∃ v, v ∈ cellMembers g s.c t ∧ CertBelow g rf (childSt g rf s t v) x) := by
  cases ht : target g s with
  | none => exact certBelow_of_target_none ht
  | some t => exact certBelow_of_target_some ht

theorem certBelow_of_mem_allLeaves {g : G} (hg : WF g) {s : St} (hw : s.work ≠ []) {l : Array Nat}
    (hl : l ∈ allLeaves g s) : CertBelow g (rfuel g) (refine g (rfuel g) s) (cert g l) := by
  obtain ⟨vs, hp, ht, rfl⟩ := (mem_allLeaves_iff hg hw).1 hl
  exact ⟨vs, hp, ht, rfl⟩

end IR
