import Mamba.Lemmas.MinorExec
/-!
# The branch-set form of "minor" is equivalent to the operations form (property C11)

`OpsMinor g H` (vertex deletions, edge deletions, edge contractions, then an isomorphism)  ↔  `HasMinor g H`.
-/
namespace Minor
open GraphSpec

theorem Ops.trans {p q r : PG} (h1 : Ops p q) (h2 : Ops q r) : Ops p r := by
  induction h1 with
  | refl => exact h2
  | head st _ ih => exact .head st (ih h2)

theorem Ops.single {p q : PG} (h : Step p q) : Ops p q := .head h (.refl q)

theorem IsIso.model {q : PG} {H : G} {σ : Nat → Nat} (h : IsIso q H σ) : IsModel q H σ := by
  refine ⟨h.surj, ?_, ?_⟩
  · intro u v hu hv _ heq
    have := h.inj u v hu hv heq
    subst this
    exact .refl hu rfl
  · intro a b ha hb hne hadj
    obtain ⟨u, hu, rfl⟩ := h.surj a ha
    obtain ⟨v, hv, rfl⟩ := h.surj b hb
    have huv : u ≠ v := by rintro rfl; exact hne rfl
    exact ⟨u, v, hu, hv, rfl, rfl, (h.adj u v hu hv huv).2 (by rw [hadj]; rfl)⟩

def delEs (q : PG) (l : List (Nat × Nat)) : PG := l.foldl (fun q e => q.delE e.1 e.2) q

theorem delEs_ops (l : List (Nat × Nat)) : ∀ q, Ops q (delEs q l) := by
  induction l with
  | nil => intro q; exact .refl q
  | cons e l ih => intro q; exact .head (.delE q e.1 e.2) (ih _)

theorem delEs_V (l : List (Nat × Nat)) : ∀ q x, (delEs q l).V x ↔ q.V x := by
  induction l with
  | nil => intro q x; rfl
  | cons e l ih => intro q x; exact (ih _ x).trans delE_V

theorem delEs_adj (l : List (Nat × Nat)) : ∀ q x y, (delEs q l).adj x y =
    (q.adj x y && !(l.any fun e => (x == e.1 && y == e.2) || (x == e.2 && y == e.1))) := by
  induction l with
  | nil => intro q x y; simp [delEs]
  | cons e l ih =>
    intro q x y
    have := ih (q.delE e.1 e.2) x y
    simp only [delEs, List.foldl_cons] at this ⊢
    rw [this]
    simp only [PG.delE, List.any_cons, Bool.not_or]
    cases q.adj x y <;> cases ((x == e.1 && y == e.2) || (x == e.2 && y == e.1)) <;> simp

theorem opsMinor_of_model {p : PG} {H : G} {f : Nat → Nat} (hs : p.Sym) (hm : IsModel p H f) :
    ∃ q σ, Ops p q ∧ IsIso q H σ := by
  obtain ⟨q, hred, hq, hnr⟩ := reduce H p.n p f hs hm (fun x hx _ => hx.1)
  have hops := hred.ops
  have hqs : q.Sym := hops.sym hs
  obtain ⟨hlt, hinj⟩ := bij_of_irreducible hnr
  -- delete every pair of live vertices that is not an edge of H
  let bad : List (Nat × Nat) :=
    (q.verts.flatMap fun u => q.verts.map fun v => (u, v)).filter
      fun e => !(H.adj (f e.1) (f e.2) || H.adj (f e.2) (f e.1))
  have hbad : ∀ u v, (u, v) ∈ bad ↔ q.V u ∧ q.V v ∧ (H.adj (f u) (f v) || H.adj (f v) (f u)) = false := by
    intro u v
    simp only [bad, List.mem_filter, List.mem_flatMap, List.mem_map, mem_verts, Prod.mk.injEq,
      Bool.not_eq_true']
    constructor
    · rintro ⟨⟨a, ha, b, hb, rfl, rfl⟩, h⟩
      exact ⟨ha, hb, h⟩
    · rintro ⟨hu, hv, h⟩
      exact ⟨⟨u, hu, v, hv, rfl, rfl⟩, h⟩
  refine ⟨delEs q bad, f, hops.trans (delEs_ops bad q), ⟨?_, ?_, ?_, ?_⟩⟩
  · intro v hv
    exact hlt v ((delEs_V bad q v).1 hv)
  · intro u v hu hv h
    exact hinj u v ((delEs_V bad q u).1 hu) ((delEs_V bad q v).1 hv) h
  · intro h hh
    obtain ⟨v, hv, hfv⟩ := hq.nonempty h hh
    exact ⟨v, (delEs_V bad q v).2 hv, hfv⟩
  · intro u v hu hv hne
    have hu' := (delEs_V bad q u).1 hu
    have hv' := (delEs_V bad q v).1 hv
    rw [delEs_adj, Bool.and_eq_true, Bool.not_eq_true']
    constructor
    · rintro ⟨_, hnb⟩
      by_contra hH
      have hH' : (H.adj (f u) (f v) || H.adj (f v) (f u)) = false := by simpa using hH
      have hmem : (u, v) ∈ bad := (hbad u v).2 ⟨hu', hv', hH'⟩
      have : (bad.any fun e => (u == e.1 && v == e.2) || (u == e.2 && v == e.1)) = true := by
        rw [List.any_eq_true]
        exact ⟨(u, v), hmem, by simp⟩
      rw [this] at hnb
      cases hnb
    · intro hH
      constructor
      · have hfne : f u ≠ f v := fun e => hne (hinj u v hu' hv' e)
        rw [Bool.or_eq_true] at hH
        rcases hH with hH | hH
        · obtain ⟨a, b, ha, hb, hfa, hfb, hab⟩ := hq.edge (f u) (f v) (hlt u hu') (hlt v hv') hfne hH
          rw [hinj a u ha hu' hfa, hinj b v hb hv' hfb] at hab
          exact hab
        · obtain ⟨a, b, ha, hb, hfa, hfb, hab⟩ := hq.edge (f v) (f u) (hlt v hv') (hlt u hu') (Ne.symm hfne) hH
          rw [hinj a v ha hv' hfa, hinj b u hb hu' hfb, hqs] at hab
          exact hab
      · rw [Bool.eq_false_iff]
        intro hany
        rw [List.any_eq_true] at hany
        obtain ⟨⟨a, b⟩, hmem, hab⟩ := hany
        have hb' := (hbad a b).1 hmem
        simp only [Bool.or_eq_true, Bool.and_eq_true, beq_iff_eq] at hab
        rcases hab with ⟨rfl, rfl⟩ | ⟨rfl, rfl⟩
        · rw [hb'.2.2] at hH; cases hH
        · rw [Bool.or_comm, hb'.2.2] at hH; cases hH

theorem hasMinor_iff_ops' (g H : G) : HasMinor g H ↔ OpsMinor g H := by
  constructor
  · rintro ⟨f, hf⟩
    exact opsMinor_of_model (ofG_sym g) hf
  · rintro ⟨q, σ, hops, hiso⟩
    exact HasMinorP.of_ops hops (ofG_sym g) ⟨σ, hiso.model⟩

end Minor
