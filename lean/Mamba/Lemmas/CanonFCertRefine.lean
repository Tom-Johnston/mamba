import Mamba.Lemmas.CanonFRefine
import Mamba.Lemmas.CanonFCert
/-!
# The certificate invariant through a split of one bin and through the refinement

`SplitRel.cert`: a split (`SplitRel` of `CanonFRefineCall.lean`) of a bin behind the singleton prefix does not touch what the
certificate reads (`SplitRel.certPos_eq`); a split of the first bin behind the prefix is followed by `expandValue`, whose
effect is `ExpandCert`. It serves `splitBin` (`CanonFCertSplit.lean`) and `splitCell` (`splitCell_cert`); `refine_cert` is
the loop over the bins (`Carried2`: `VN` while the refinement goes on, `VAny` when it reports "worse").
`refine_cert_init` is the first refinement, where bin 0 may already be a singleton.
-/
namespace CanonF

theorem SplitRel.age_at {n j bs dj : Nat} {K nbsL : List Nat} {op op2 : OP}
    (h : SplitRel n j bs dj K nbsL op op2) (hp : PartInv n op)
    (hnext : op.binDividers.toList[j]? ≠ some (j + 1)) (hs : op2.binDividers.toList[j]? = some (j + 1)) :
    op2.binAges.toList[j]? = some op.age := by
  obtain ⟨l1, l2⟩ := h.lens hp
  cases hn : nbsL with
  | nil =>
    exfalso
    have := h.bd
    rw [hn, List.append_nil, List.take_append_drop] at this
    rw [this] at hs
    exact hnext hs
  | cons x xs =>
    have htk : (op.binAges.toList.take j).length = j := by rw [List.length_take]; omega
    rw [h.ages, hn, List.append_assoc, List.getElem?_append_right (by omega), htk, Nat.sub_self,
      List.getElem?_append_left (by simp)]
    simp

theorem SplitRel.certPos_eq {n j bs dj : Nat} {K nbsL : List Nat} {op op2 : OP} (nb : Nbrs)
    (h : SplitRel n j bs dj K nbsL op op2) (hp : PartInv n op) (hps : PrefixSingle op) :
    certPos nb op2.order.toList op.spl = certPos nb op.order.toList op.spl := by
  obtain ⟨s1, s2⟩ := h.spl_le hp hps
  have hle : op.spl ≤ n := Nat.le_trans hps.le hp.bdLen_le
  apply certPos_frame
  · rw [hp.length_order]; exact hle
  · rw [h.inv.length_order]; exact hle
  · intro p hpl
    exact h.order_lt hp (by omega)

theorem SplitRel.cert (hx : ExpandCert) {n j bs dj : Nat} {K nbsL : List Nat} {op op2 op' : OP} {nb : Nbrs}
    {cb fl : Sl Nat} {w : Bool} (hrel : SplitRel n j bs dj K nbsL op op2) (hp : PartInv n op) (hc : VClean nb op)
    (hex : if j = op2.spl then expandValue nb cb fl op2 = .ok (w, op') else (w = false ∧ op' = op2)) :
    (w = false → VN nb cb fl op') ∧ (w = true → VAny nb cb fl op') := by
  have hps : PrefixSingle op := hc.pre.toPrefixSingle
  have hnext := hc.pre.next
  have hps2 := hrel.prefixSingle hp hps
  by_cases hj : j = op2.spl
  · -- bin `spl` has been split: `expandValue` runs
    rw [if_pos hj] at hex
    obtain ⟨_, f2, f3, _, f5, _⟩ := expandValue_frame hex
    obtain ⟨g1, g2⟩ := hx n nb cb fl op2 op' w hrel.inv hps2 (by rw [hrel.value]; exact hc.wf)
      (by rw [hrel.value, hrel.spl, hrel.certPos_eq nb hp hps]; exact hc.val) hex
    refine ⟨g1, fun hw => ?_⟩
    obtain ⟨k1, k2⟩ := g2 hw
    refine Or.inr ⟨k1, j, j + 1, by rw [hj]; exact k2, ?_⟩
    -- the divider at index `j` is now `j + 1` (prefix of `op'`), hence new, hence of the current age
    have hd : op2.binDividers.toList[j]? = some (j + 1) := by
      rw [← f2]; exact k1.pre.single j (by rw [hj]; exact k2)
    have hage := hrel.age_at hp (by rw [hj, hrel.spl]; exact hnext) hd
    unfold divs
    rw [List.getElem?_zip_eq_some, f2, f3, f5, hrel.age]
    exact ⟨hd, hage⟩
  · -- a bin behind `spl` has been split: nothing the certificate depends on has changed
    rw [if_neg hj] at hex
    obtain ⟨rfl, hop⟩ := hex
    rw [hop]
    have hlt : op.spl < j := by
      rw [hrel.spl] at hj
      exact Nat.lt_of_le_of_ne (hrel.spl_le hp hps).1 (Ne.symm hj)
    have hnext2 : op2.binDividers.toList[op2.spl]? ≠ some (op2.spl + 1) := by
      rw [hrel.spl, hrel.bd_lt hp hlt]; exact hnext
    exact ⟨fun _ => ⟨⟨hps2, hnext2⟩, by rw [hrel.value]; exact hc.wf,
      by rw [hrel.value, hrel.spl, hrel.certPos_eq nb hp hps]; exact hc.val⟩, fun h => by cases h⟩

theorem splitCell_cert (hst : StablePerm) (hx : ExpandCert) {nb : Nbrs} {n : Nat} {cb fl : Sl Nat}
    {opts : Options} {j : Nat} {op op' : OP} {sc sc' : Scratch} {r : Bool}
    (hp : PartInv n op) (hcc : CellCount op sc.timesSeen sc.maxCell sc.numberOfMax j) (hv : VN nb cb fl op)
    (h : splitCell nb n cb fl opts j (false, op, sc) = .ok (r, op', sc')) :
    (r = false → VN nb cb fl op') ∧ (r = true → VAny nb cb fl op') := by
  obtain ⟨bs, dj, _, _, ⟨_, rfl, rfl, rfl⟩ | ⟨K, nbsL, op2, sc2, hrel, _, _, ht⟩⟩ := splitCell_split hst hp hcc h
  · exact ⟨(fun _ => hv), (fun h => by cases h)⟩
  · rcases (scTail_cases ht).2 with ⟨hj, rfl, _⟩ | ⟨hj, w, hex, hwr, _⟩
    · have hw := hrel.cert (w := false) (op' := op') (cb := cb) (fl := fl) hx hp hv (by rw [if_neg hj]; exact ⟨rfl, rfl⟩)
      exact ⟨fun _ => hw.1 rfl, fun _ => (hw.1 rfl).any⟩
    · have hw := hrel.cert hx hp hv (by rw [if_pos hj]; exact hex)
      cases w with
      | false => exact ⟨fun _ => hw.1 rfl, fun _ => (hw.1 rfl).any⟩
      | true => exact ⟨fun hr => (by rw [hwr rfl] at hr; cases hr), fun _ => hw.2 rfl⟩

theorem VClean.of_age {nb : Nbrs} {op : OP} (h : VClean nb op) (a : Int) : VClean nb { op with age := a } :=
  ⟨⟨⟨h.pre.le, h.pre.single⟩, h.pre.next⟩, h.wf, h.val⟩

theorem VN.of_btc {nb : Nbrs} {cb fl : Sl Nat} {op : OP} (h : VN nb cb fl op) (b : Sl Int) :
    VN nb cb fl { op with binsToCheck := b } := by
  have hc : VClean nb op := h
  exact ⟨⟨⟨hc.pre.le, hc.pre.single⟩, hc.pre.next⟩, hc.wf, hc.val⟩

theorem carried_cert (hst : StablePerm) (hx : ExpandCert) (nb : Nbrs) (n : Nat) (cb fl : Sl Nat)
    (opts : Options) : Carried2 nb n cb fl opts (VN nb cb fl) (VAny nb cb fl) :=
  ⟨fun _ _ _ _ _ _ hp hcc hq h => splitCell_cert hst hx hp hcc hq h, fun _ b _ hq => hq.of_btc b⟩

theorem refine_cert (hst : StablePerm) (hx : ExpandCert) {n : Nat} {nb : Nbrs} {cb fl : Sl Nat}
    {opts : Options} {op op' : OP} {sc sc' : Scratch} {w : Bool}
    (h : PartInv n op) (ha : AgeInv op) (hsc : ScratchOK n sc) (hv : VN nb cb fl op)
    (hr : refine nb cb fl opts op sc = .ok (w, op', sc')) :
    (w = false → VN nb cb fl op') ∧ (w = true → VAny nb cb fl op') := by
  unfold refine at hr
  rw [h.lenOrder] at hr
  exact (refineLoop_inv2 hst (carried_cert hst hx nb n cb fl opts) _ op op' sc sc' w h ha hv hsc.scrInv hr).2.1

theorem carried_init (hst : StablePerm) (nb : Nbrs) (n : Nat) (cb fl : Sl Nat) (opts : Options) (v0 : Sl Nat) :
    Carried nb n cb fl opts (fun op => op.spl = 0 ∧ op.value = v0 ∧ op.binDividers.toList[0]? = some 1) := by
  constructor
  · intro j op op' sc sc' r hp hcc hq h
    obtain ⟨q1, q2, q3⟩ := hq
    obtain ⟨bs, dj, _, _, ⟨_, _, rfl, rfl⟩ | ⟨K, nbsL, op2, sc2, hrel, _, _, ht⟩⟩ := splitCell_split hst hp hcc h
    · exact ⟨q1, q2, q3⟩
    · have hj0 : 0 < j := by
        apply Nat.pos_of_ne_zero
        intro hj
        subst hj
        have h1 := hrel.hbs
        have h2 := hrel.hdj
        simp only [List.getElem?_cons_zero] at h1
        rw [q3] at h2
        have e1 : bs = 0 := (Option.some.inj h1).symm
        have e2 : dj = 1 := (Option.some.inj h2).symm
        exact hrel.ne1 (by omega)
      rcases (scTail_cases ht).2 with ⟨_, rfl, _⟩ | ⟨hj, _⟩
      · exact ⟨by rw [hrel.spl]; exact q1, by rw [hrel.value]; exact q2, by rw [hrel.bd_lt hp hj0]; exact q3⟩
      · rw [hj, hrel.spl, q1] at hj0; exact absurd hj0 (Nat.lt_irrefl 0)
  · intro op b hq
    exact hq

theorem refine_cert_init (hst : StablePerm) (hx : ExpandCert) {n : Nat} {nb : Nbrs} {cb fl : Sl Nat}
    {opts : Options} {op op' : OP} {sc sc' : Scratch} {w : Bool}
    (h : PartInv n op) (ha : AgeInv op) (hsc : ScratchOK n sc) (hspl : op.spl = 0) (hval : op.value.len = 0)
    (hr : refine nb cb fl opts op sc = .ok (w, op', sc')) :
    PrefixSingle op' ∧ op'.value.WF ∧ op'.value.toList = certPos nb op'.order.toList op'.spl := by
  have hwf : op.value.WF := by unfold Sl.WF; omega
  have hnil : op.value.toList = [] := by unfold Sl.toList; rw [hval]; rfl
  have hc0 : ∀ o : List Nat, certPos nb o 0 = [] := fun o => by simp [certPos]
  by_cases hb : op.binDividers.toList[0]? = some 1
  · unfold refine at hr
    rw [h.lenOrder] at hr
    obtain ⟨q1, q2, _⟩ := (refineLoop_inv hst (carried_init hst nb n cb fl opts op.value) _ op op' sc sc' w h ha
      ⟨hspl, rfl, hb⟩ hsc.scrInv hr).2.1
    refine ⟨⟨by rw [q1]; exact Nat.zero_le _, fun j hj => by rw [q1] at hj; omega⟩, by rw [q2]; exact hwf, ?_⟩
    rw [q1, q2, hnil, hc0]
  · have hv : VN nb cb fl op :=
      ⟨⟨⟨by rw [hspl]; exact Nat.zero_le _, fun j hj => by rw [hspl] at hj; omega⟩, by rw [hspl]; exact hb⟩, hwf,
        by rw [hspl, hnil, hc0]⟩
    obtain ⟨g1, g2⟩ := refine_cert hst hx h ha hsc hv hr
    cases w with
    | false =>
      have hc : VClean nb op' := g1 rfl
      exact ⟨hc.pre.toPrefixSingle, hc.wf, hc.val⟩
    | true =>
      rcases g2 rfl with hc | ⟨hs, _⟩
      · exact ⟨hc.pre.toPrefixSingle, hc.wf, hc.val⟩
      · exact ⟨hs.pre, hs.wf, hs.val⟩

end CanonF
