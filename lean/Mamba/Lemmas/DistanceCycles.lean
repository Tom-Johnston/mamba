import Mamba.Lemmas.DistancePaths
import Mathlib.Data.List.Perm.Subperm
/-!
# Lemmas for C10: girth and the cycle / induced cycle / induced path counts
-/
namespace GDist
open GraphSpec

variable {g : G}

theorem getLastD_of_getLast? {p : List Nat} {s : Nat} (h : p.getLast? = some s) : p.getLastD 0 = s := by
  rw [List.getLastD_eq_getLast?, h]; rfl

theorem getLast?_of_ne_nil {p : List Nat} (h : p ≠ []) : p.getLast? = some (p.getLastD 0) := by
  cases p with
  | nil => exact absurd rfl h
  | cons a t => rw [List.getLastD_eq_getLast?]; simp [List.getLast?_cons]

theorem getLastD_mem {p : List Nat} (h : p ≠ []) : p.getLastD 0 ∈ p := by
  have := getLast?_of_ne_nil h
  exact List.mem_of_getLast? this

theorem getLastD_cons_of_ne_nil {a : Nat} {l : List Nat} (hl : l ≠ []) : (a :: l).getLastD 0 = l.getLastD 0 := by
  obtain ⟨b, t, rfl⟩ := List.exists_cons_of_ne_nil hl
  rw [List.getLastD_eq_getLast?, List.getLastD_eq_getLast?, List.getLast?_cons_cons]

theorem BuiltFrom.getLast? {good : List Nat → Nat → Bool} {s : Nat} {p : List Nat} (h : BuiltFrom g good s p) :
    p.getLast? = some s := by
  induction h with
  | base _ => rfl
  | ext _ _ _ _ ih => rw [List.getLast?_cons_cons]; exact ih

theorem nodup_flatMap_pathsFrom (good : Nat → List Nat → Nat → Bool) (k : Nat) (L : Nat → List (List Nat))
    (hL : ∀ s, (L s).Sublist (pathsFrom g (good s) s k)) : ((List.range g.n).flatMap L).Nodup := by
  rw [List.nodup_flatMap]
  refine ⟨fun s _ => (nodup_pathsFrom _).sublist (hL s), List.Pairwise.imp ?_ List.nodup_range⟩
  intro s t hst
  simp only [Function.onFun]
  rw [List.disjoint_left]
  intro p hp hq
  have h1 := (mem_pathsFrom.1 ((hL s).subset hp)).1.getLast?
  have h2 := (mem_pathsFrom.1 ((hL t).subset hq)).1.getLast?
  rw [h1] at h2
  exact hst (Option.some.inj h2)

theorem leastUpTo_eq_some (p : Nat → Bool) : ∀ (f i l : Nat),
    leastUpTo p f i = some l ↔ (i ≤ l ∧ l < i + f ∧ p l = true ∧ ∀ j, i ≤ j → j < l → p j = false) := by
  intro f
  induction f with
  | zero => intro i l; simp only [leastUpTo]; constructor
            · intro h; cases h
            · rintro ⟨h1, h2, _⟩; omega
  | succ f ih =>
    intro i l
    simp only [leastUpTo]
    by_cases hp : p i = true
    · simp only [hp, if_true, Option.some.injEq]
      constructor
      · rintro rfl; exact ⟨Nat.le_refl _, by omega, hp, fun j h1 h2 => by omega⟩
      · rintro ⟨h1, _, _, h4⟩
        by_contra hne
        have := h4 i (Nat.le_refl _) (by omega)
        rw [hp] at this; cases this
    · simp only [hp, Bool.false_eq_true, if_false]
      rw [ih (i+1) l]
      have hp' : p i = false := by simpa using hp
      constructor
      · rintro ⟨h1, h2, h3, h4⟩
        refine ⟨by omega, by omega, h3, ?_⟩
        intro j hj1 hj2
        by_cases hji : j = i
        · subst hji; exact hp'
        · exact h4 j (by omega) hj2
      · rintro ⟨h1, h2, h3, h4⟩
        have : i ≠ l := by rintro rfl; rw [h3] at hp'; cases hp'
        exact ⟨by omega, by omega, h3, fun j hj1 hj2 => h4 j (by omega) hj2⟩

theorem leastUpTo_eq_none (p : Nat → Bool) : ∀ (f i : Nat),
    leastUpTo p f i = none ↔ ∀ j, i ≤ j → j < i + f → p j = false := by
  intro f
  induction f with
  | zero => intro i; simp only [leastUpTo, true_iff]; intro j h1 h2; omega
  | succ f ih =>
    intro i
    simp only [leastUpTo]
    by_cases hp : p i = true
    · simp only [hp, if_true]
      constructor
      · intro h; cases h
      · intro h; have := h i (Nat.le_refl _) (by omega); rw [hp] at this; cases this
    · simp only [hp, Bool.false_eq_true, if_false]
      rw [ih (i+1)]
      have hp' : p i = false := by simpa using hp
      constructor
      · intro h j hj1 hj2
        by_cases hji : j = i
        · subst hji; exact hp'
        · exact h j (by omega) (by omega)
      · intro h j hj1 hj2; exact h j (by omega) (by omega)

theorem IsCycleSeq.length_le {c : List Nat} (h : IsCycleSeq g c) : c.length ≤ g.n := by
  have := (List.subperm_of_subset h.2.1 (fun x hx => List.mem_range.2 (h.2.2.1 x hx))).length_le
  simpa using this

theorem IsCycleSeq.ne_nil {c : List Nat} (h : IsCycleSeq g c) : c ≠ [] := by
  intro hc; have := h.1; rw [hc] at this; simp at this

theorem IsCycleSeq.isRPath {c : List Nat} (h : IsCycleSeq g c) : IsRPath g (c.getLastD 0) c :=
  ⟨getLast?_of_ne_nil h.ne_nil, h.2.1, h.2.2.1, h.2.2.2.1⟩

theorem hasCycle_iff (l : Nat) : hasCycle g l = true ↔ ∃ c, IsCycleSeq g c ∧ c.length = l := by
  simp only [hasCycle, Bool.and_eq_true, decide_eq_true_eq, List.any_eq_true, List.mem_range]
  constructor
  · rintro ⟨hl, s, hs, p, hp, hadj⟩
    obtain ⟨hb, hlen⟩ := mem_pathsFrom.1 hp
    obtain ⟨h1, h2, h3, h4⟩ := builtFrom_simple_iff.1 hb
    refine ⟨p, ⟨by omega, h2, h3, h4, ?_⟩, by omega⟩
    rw [getLastD_of_getLast? h1]; exact hadj
  · rintro ⟨c, hc, rfl⟩
    have hs : c.getLastD 0 < g.n := hc.2.2.1 _ (getLastD_mem hc.ne_nil)
    refine ⟨hc.1, c.getLastD 0, hs, c, ?_, hc.2.2.2.2⟩
    exact mem_pathsFrom.2 ⟨builtFrom_simple_iff.2 hc.isRPath, by have := hc.1; omega⟩

theorem mem_canonCycles {l : Nat} {c : List Nat} : c ∈ canonCycles g l ↔ IsCanonCycle g l c := by
  unfold canonCycles
  by_cases hl : l < 3
  · simp only [hl, if_true, List.not_mem_nil, false_iff]
    rintro ⟨h1, h2, _⟩
    have := h1.1; omega
  · simp only [hl, if_false, List.mem_flatMap, List.mem_range, List.mem_filter, Bool.and_eq_true,
      decide_eq_true_eq]
    constructor
    · rintro ⟨s, hs, hp, hadj, hlt⟩
      obtain ⟨hb, hlen⟩ := mem_pathsFrom.1 hp
      obtain ⟨⟨h1, h2, h3, h4⟩, habove⟩ := builtFrom_above_iff.1 hb
      have hlast := getLastD_of_getLast? h1
      refine ⟨⟨by omega, h2, h3, h4, by rw [hlast]; exact hadj⟩, by omega, ?_, hlt⟩
      rw [hlast]; exact habove
    · rintro ⟨hc, hlen, habove, hlt⟩
      have hs : c.getLastD 0 < g.n := hc.2.2.1 _ (getLastD_mem hc.ne_nil)
      refine ⟨c.getLastD 0, hs, ?_, hc.2.2.2.2, hlt⟩
      exact mem_pathsFrom.2 ⟨builtFrom_above_iff.2 ⟨hc.isRPath, habove⟩, by omega⟩

theorem nodup_canonCycles (l : Nat) : (canonCycles g l).Nodup := by
  unfold canonCycles
  split
  · exact List.nodup_nil
  · exact nodup_flatMap_pathsFrom goodAbove _ _ fun _ => List.filter_sublist

theorem mem_canonInducedCycles {l : Nat} {c : List Nat} :
    c ∈ canonInducedCycles g l ↔ IsCanonCycle g l c ∧ chordlessCyc g c = true := by
  simp [canonInducedCycles, List.mem_filter, mem_canonCycles]

theorem nodup_canonInducedCycles (l : Nat) : (canonInducedCycles g l).Nodup :=
  (nodup_canonCycles l).filter _

theorem mem_canonInducedPaths {l : Nat} {p : List Nat} :
    p ∈ canonInducedPaths g l ↔ IsCanonInducedPath g l p := by
  simp only [canonInducedPaths, List.mem_flatMap, List.mem_range, List.mem_filter, Bool.or_eq_true,
    beq_iff_eq, decide_eq_true_eq]
  constructor
  · rintro ⟨s, hs, hp, hdir⟩
    obtain ⟨hb, hlen⟩ := mem_pathsFrom.1 hp
    obtain ⟨⟨h1, h2, h3, h4⟩, hch⟩ := builtFrom_induced_iff.1 hb
    refine ⟨hlen, h2, h3, h4, hch, ?_⟩
    rw [getLastD_of_getLast? h1]; exact hdir
  · rintro ⟨hlen, h2, h3, h4, hch, hdir⟩
    have hne : p ≠ [] := by intro h; rw [h] at hlen; simp at hlen
    have hs : p.getLastD 0 < g.n := h3 _ (getLastD_mem hne)
    refine ⟨p.getLastD 0, hs, ?_, hdir⟩
    exact mem_pathsFrom.2 ⟨builtFrom_induced_iff.2 ⟨⟨getLast?_of_ne_nil hne, h2, h3, h4⟩, hch⟩, hlen⟩

theorem nodup_canonInducedPaths (l : Nat) : (canonInducedPaths g l).Nodup :=
  nodup_flatMap_pathsFrom (fun _ => goodInduced g) _ _ fun _ => List.filter_sublist

theorem chainAdj_mono {g h : G} (hgh : ∀ u v, h.adj u v = true → g.adj u v = true) :
    ∀ l : List Nat, chainAdj h l → chainAdj g l
  | [], _ => trivial
  | [_], _ => trivial
  | _ :: b :: t, hc => ⟨hgh _ _ hc.1, chainAdj_mono hgh (b :: t) hc.2⟩

end GDist
