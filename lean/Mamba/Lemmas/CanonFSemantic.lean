import Mamba.Lemmas.CanonFGenMain
/-!
# What a returning call of `CanonicalIsomorphAllocated` says of the graph

`ResSpec g op0 r p ds gs`: the result `r` holds a permutation `p` that is a leaf of the IR tree started from the class
colouring of `op0` and whose certificate is the canonical one, generators `gs` that are automorphisms and preserve that
colouring, and a union–find
`ds` whose classes are generated by them and contain, like the group they generate, every automorphism that preserves the
class colouring.
`allocated_semantic`: it holds for every partition with the facts of a new one (a new one, or one that has been `Reset`)
and EVERY storage: ONE run of the main loop with the certificate invariant, the coverage layers D, A, G and the class
invariant (general search), resp. the explicit result of the `m == 0` shortcut (the identity, a leaf of the tree of a graph
without edges).
`full_semantic` is the case of `CanonicalIsomorphFull`; everything that is said of its result is read off it:
`canonF_gens_full` (generators and orbits are sound, the generators respect the vertex classes),
`canonF_leaf_complete` (leaf and canonical certificate) with `canonF_complete_full`, `canonF_eq_IR_canon_full`,
`canonF_canon_invariant_full`, `canonF_induced_eq_canonGraph`, `canonF_induced_complete` (the relabelled graph is the
canonical graph of the IR model; equal for two graphs iff they are isomorphic), and the orbit and generator theorems
`canonF_orbits_*`, `canonF_generators_generate_*`.
-/
namespace CanonF
open GraphSpec Relation

/-- What a result `r` says of the graph `g` and of the class colouring of the initial partition `op0`; `p`, `ds`, `gs` are
the three slices it holds (`perm`, `orbits`, `gens`). `isPerm`: `p` is a permutation of the vertices; `dsLen`: the
union–find has one entry per vertex; `leaf`: `p` is (the inverse of) a leaf of the unpruned tree of `Model/IR.lean` started
from the class colouring; `cert`: its certificate is the canonical one; `gensAut`, `gensCells`: the generators are
automorphisms and preserve the class colouring;
`orbitsSound`: two vertices of one class of the union–find are connected by the generators; `complete`: an automorphism
that preserves the class colouring keeps every vertex in its class of the union–find and is generated by `gs`. -/
structure ResSpec (g : G) (op0 : OP) (r : Res) (p : List Nat) (ds : List Int) (gs : List (List Nat)) : Prop where
  perm : r.perm = some p
  orbits : r.orbits = some ds
  gens : r.gens = some gs
  isPerm : p.Perm (List.range g.n)
  dsLen : ds.length = g.n
  leaf : IR.tab g.n (fun v => p.idxOf v) ∈ IR.allLeaves (IR.ofSpec g) (irInit g op0)
  cert : certPos (nbrsOf g) p g.n = IR.canonCertFrom (IR.ofSpec g) (irInit g op0)
  gensAut : ∀ γ ∈ gs, IsAutL (nbrsOf g) g.n γ
  gensCells : ∀ γ ∈ gs, ∀ v w, γ[v]? = some w → cellOf op0 w = cellOf op0 v
  orbitsSound : ∀ a b, a < g.n → b < g.n → Disjoint.rep ds.toArray a = Disjoint.rep ds.toArray b →
    EqvGen (fun x y => ∃ γ ∈ gs, γ[x]? = some y) a b
  complete : ∀ γ, IsAutL (nbrsOf g) g.n γ → (∀ v, v < g.n → cellOf op0 (γ.getD v 0) = cellOf op0 v) →
    (∀ u, u < g.n → Disjoint.rep ds.toArray u = Disjoint.rep ds.toArray (γ.getD u 0)) ∧
    GenBy (fun x => x ∈ gs) g.n γ

theorem allocated_semantic_gen (fuel : Nat) (g : G) (hg : g.WF) (hn : g.n ≠ 0) {op0 : OP} {st : Storage} {r : Res}
    {opR : Option OP} {stR : Storage}
    (hp : PartInv g.n op0) (ha : AgeInv op0) (hage : op0.age = 0) (hspl : op0.spl = 0) (hval : op0.value.len = 0)
    (hm0 : Match g.n op0 (IR.initSt (irG g.n (nbrsOf g)) op0.binDividers.len (cellOf op0))) (hb0 : BtcInv op0)
    (hbs : BinsSorted op0)
    (hgen : ¬ (((nbrsOf g).toList.map List.length).sum / 2 = 0 ∧ op0.binDividers.len = 1))
    (hal : canonicalIsomorphAllocated fuel g.n (((nbrsOf g).toList.map List.length).sum / 2) (nbrsOf g) (some op0) st {}
      = .ok (r, opR, stR)) :
    ∃ p ds gs, ResSpec g op0 r p ds gs := by
  obtain ⟨hnbok, hsz⟩ := nbOK_nbrsOf g hg
  have hn0 : 0 < g.n := Nat.pos_of_ne_zero hn
  obtain ⟨hw, hinv⟩ := root_inv (nbrsOf g) hp
  have hlenm : ∀ o : List Nat, o.Perm (List.range g.n) →
      (certPos (nbrsOf g) o g.n).length = ((nbrsOf g).toList.map List.length).sum / 2 :=
    fun o ho => certPos_length hnbok hsz ho
  -- one run: the certificate invariant, the three coverage layers and the class invariant
  obtain ⟨r0, hr0⟩ : ∃ r0, r0 = IR.refine (irG g.n (nbrsOf g)) (g.n * g.n + 10)
      (IR.initSt (irG g.n (nbrsOf g)) op0.binDividers.len (cellOf op0)) := ⟨_, rfl⟩
  rw [← hr0] at hinv
  have hO := clsOrdQ stablePerm g.n (nbrsOf g) (cellOf op0) op0.binDividers.toList
  have hJ := ((certMainJ expandValue_cert hnbok hlenm).extend
    (genMainJX (rf := g.n * g.n + 10) (r := r0) hnbok hsz rfl (rfuel_ge g.n) hinv.1 hinv.2 hlenm)).extend
    ((ordMainJX hO).weakenJ (fun _ _ h => h.1) (fun _ _ h => h.1) (fun _ _ h => h.1) (fun _ _ _ h => h.1))
  obtain ⟨s, _, ⟨⟨hcA, gh, ⟨hwA, hG, _, _, hfin⟩, ⟨_, _, _, hfinA⟩, ⟨_, hfinG⟩⟩, hK, _⟩, hperm', horb, hgens⟩ :=
    allocated_core stablePerm expandValue_cert hJ hn
      (fun hm h1 => hgen ⟨hm, h1⟩) rfl hp ha hage hspl hval
      (fun s0 hi => ⟨by rw [hr0]; exact gen_init hnbok (rfuel_ge g.n) hp ha hm0 hb0 hbs hage hi,
        ord_init hO hp ha (ClsInv.init hp ha hage) hi⟩) hal
  have hpe : s.path = [] := path_nil_of_framesOK hwA.framesOK
  obtain ⟨hpos, hcomp⟩ := hfin hpe
  have hB := hG.best hpos
  have hF := hG.first hpos
  obtain ⟨haut, hdl, hgenby⟩ := hcA.1.res_spec hpos
  have hleaf : IR.tab g.n (fun v => s.bestPerm.toList.idxOf v) ∈ IR.allLeaves (IR.ofSpec g) (irInit g op0) := by
    subst hr0; exact hB.mem_allLeaves hg hw
  refine ⟨_, _, _, hperm', horb, hgens, hB.perm, hdl, hleaf, ?_, haut, fun γ hγ => hK.of_mem_gens hγ, hgenby, ?_⟩
  · -- the returned certificate is the canonical one
    rw [hB.cert] at hcomp
    subst hr0
    exact canon_eq_of_complete hg hw hB.perm hleaf hcomp
  · intro γ hγ hcls
    have hcolr : ∀ v, v < g.n → IR.col r0.c (γ.getD v 0) = IR.col r0.c v := by
      rw [hr0]; exact root_col_of_cellOf hnbok hγ op0 _ hcls
    constructor
    · intro u hu
      have hc' : ACov g.n (nbrsOf g) (g.n * g.n + 10) (IR.tab g.n (fun v => gh.oF.idxOf v)) (certPos (nbrsOf g) gh.oF g.n)
          (ORel s) r0 := by
        have := hfinA hpe
        rw [hF.cert] at this
        exact this
      have := acov_root_aut hnbok hF.path hF.leaf hF.col hF.perm hc' hγ hcolr u hu
      show Disjoint.rep s.flOrbits.toList.toArray u = Disjoint.rep s.flOrbits.toList.toArray (γ.getD u 0)
      have e : s.flOrbits.toList.toArray = s.flOrbits := by simp
      rw [e]
      exact this
    · have := hfinG hpe γ hγ hcolr (fun j v hj _ => absurd hj (Nat.not_lt_zero _))
      apply GenBy.mono _ this
      rintro δ ⟨k, gg, hk, hgk, rfl⟩
      apply List.mem_map.2
      refine ⟨gg, ?_, rfl⟩
      apply List.mem_of_getElem? (i := k)
      rw [List.getElem?_take, if_pos hk, Array.getElem?_toList]; exact hgk

theorem isAutL_of_no_edges (g : G) (hg : g.WF) (hm : ((nbrsOf g).toList.map List.length).sum / 2 = 0) {γ : List Nat}
    (hγ : γ.Perm (List.range g.n)) : IsAutL (nbrsOf g) g.n γ := by
  refine ⟨hγ, fun x y _ _ => ?_⟩
  rw [nbrs_nil_of_no_edges g hg hm, nbrs_nil_of_no_edges g hg hm]
  simp

theorem allocated_semantic_short (fuel : Nat) (g : G) (hg : g.WF) (hn : g.n ≠ 0) {op0 : OP} {st : Storage} {r : Res}
    {opR : Option OP} {stR : Storage} (hp : PartInv g.n op0)
    (hsc : ((nbrsOf g).toList.map List.length).sum / 2 = 0 ∧ op0.binDividers.len = 1)
    (hal : canonicalIsomorphAllocated fuel g.n (((nbrsOf g).toList.map List.length).sum / 2) (nbrsOf g) (some op0) st {}
      = .ok (r, opR, stR)) :
    ∃ p ds gs, ResSpec g op0 r p ds gs := by
  obtain ⟨_, _, he, e⟩ := (allocated_short_iff hn hsc.1 hsc.2).1 hal
  obtain rfl := (Prod.mk.inj e).1
  rw [(edgeless_result he).1]
  obtain ⟨gs, ds, hgs, hds, hdl, hperm, heqv⟩ := edgRes_cert hn
  obtain ⟨ds', hds', _, hrep⟩ := edgRes_orbits g.n
  rw [hds] at hds'
  cases hds'
  obtain ⟨gs', hgs', hgen⟩ := edgRes_generate hn
  rw [hgs] at hgs'
  cases hgs'
  obtain ⟨hnbok, hsz⟩ := nbOK_nbrsOf g hg
  have hE : ∀ v, (IR.ofSpec g).nbrs v = [] := fun v => nbrs_nil_of_no_edges g hg hsc.1 v
  refine ⟨List.range g.n, ds, gs, rfl, hds, hgs, List.Perm.refl _, hdl, ?_, ?_, ?_, ?_, ?_, ?_⟩
  · rw [irInit_single hp hsc.2, IR.tab_congr (f' := fun v => v) fun v hv =>
      idxOf_of_getElem? List.nodup_range (List.getElem?_range hv)]
    exact IR.edgeless_identity_leaf (IR.ofSpec g) (Nat.pos_of_ne_zero hn) hE
  · have hlen := certPos_length hnbok hsz (List.Perm.refl (List.range g.n))
    rw [hsc.1] at hlen
    rw [List.length_eq_zero_iff.1 hlen]
    obtain ⟨l, _, e⟩ := IR.canonCertFrom_is_leaf (IR.ofSpec g) (irInit g op0)
    rw [e]
    exact (IR.cert_edgeless _ hE l).symm
  · intro γ hγ
    exact isAutL_of_no_edges g hg hsc.1 (hperm γ hγ)
  · -- one cell
    intro γ hγ v w hvw
    obtain ⟨hlen, _, hmem⟩ := perm_range_facts (hperm γ hγ)
    have h0 := inCell_single hp hsc.2
    unfold cellOf
    rw [h0 v (by rw [← hlen]; exact (List.getElem?_eq_some_iff.1 hvw).1),
      h0 w ((hmem w).1 (List.mem_of_getElem? hvw))]
  · intro a b ha hb _
    exact heqv a b ha hb
  · intro γ hγ _
    exact ⟨fun u hu => hrep u _ hu (perm_getD_lt hγ.1 hu), hgen γ hγ.1⟩

theorem allocated_semantic (fuel : Nat) (g : G) (hg : g.WF) (hn : g.n ≠ 0) {op0 : OP} {st : Storage} {r : Res}
    {opR : Option OP} {stR : Storage}
    (hp : PartInv g.n op0) (ha : AgeInv op0) (hage : op0.age = 0) (hspl : op0.spl = 0) (hval : op0.value.len = 0)
    (hm0 : Match g.n op0 (IR.initSt (irG g.n (nbrsOf g)) op0.binDividers.len (cellOf op0))) (hb0 : BtcInv op0)
    (hbs : BinsSorted op0)
    (hal : canonicalIsomorphAllocated fuel g.n (((nbrsOf g).toList.map List.length).sum / 2) (nbrsOf g) (some op0) st {}
      = .ok (r, opR, stR)) : ∃ p ds gs, ResSpec g op0 r p ds gs := by
  by_cases hsc : ((nbrsOf g).toList.map List.length).sum / 2 = 0 ∧ op0.binDividers.len = 1
  · exact allocated_semantic_short fuel g hg hn hp hsc hal
  · exact allocated_semantic_gen fuel g hg hn hp ha hage hspl hval hm0 hb0 hbs hsc hal

theorem full_semantic (fuel : Nat) (g : G) (hg : g.WF) (vc : Classes) (hvc : ClassesOK g.n vc) (hn : g.n ≠ 0)
    (r : Res) (h : canonicalIsomorphFull fuel g vc = .ok r) :
    ∃ op0 p ds gs, newOrderedPartition g.n (((nbrsOf g).toList.map List.length).sum / 2) vc = .ok (some op0) ∧
      ResSpec g op0 r p ds gs := by
  obtain ⟨op, opR, stR, hnew, hp, ha, hage, hspl, hval, hal⟩ := full_unfold fuel g vc hvc hn r h
  have hn0 : 0 < g.n := Nat.pos_of_ne_zero hn
  obtain ⟨hm0, hb0⟩ := init_match hn0 hvc hnew (nbrsOf g)
  obtain ⟨p, ds, gs, hR⟩ :=
    allocated_semantic fuel g hg hn hp ha hage hspl hval hm0 hb0 (new_binsSorted hn0 hvc hnew) hal
  exact ⟨op, p, ds, gs, hnew, hR⟩

/-- every generator returned by `CanonicalIsomorphFull` is an automorphism of `g`; vertices with the same
representative in the returned union–find are connected by the returned generators; every generator maps each vertex
class into itself -/
theorem canonF_gens_full (fuel : Nat) (g : G) (hg : g.WF)
    (vc : Classes) (hvc : ClassesOK g.n vc)
    (r : Res) (h : canonicalIsomorphFull fuel g vc = .ok r) :
    (∀ gs, r.gens = some gs → ∀ γ ∈ gs, IsAutG g γ) ∧
    (∀ ds, r.orbits = some ds → ds.length = g.n ∧
      ∀ a b, a < g.n → b < g.n → Disjoint.rep ds.toArray a = Disjoint.rep ds.toArray b → SameOrbit g a b) ∧
    (∀ gs ds, r.gens = some gs → r.orbits = some ds →
      ∀ a b, a < g.n → b < g.n → Disjoint.rep ds.toArray a = Disjoint.rep ds.toArray b →
        EqvGen (fun x y => ∃ γ ∈ gs, γ[x]? = some y) a b) ∧
    (∀ gs cls, r.gens = some gs → vc = some cls → ∀ γ ∈ gs, ∀ c ∈ cls, ∀ v ∈ c, ∀ w, γ[v]? = some w → w ∈ c) := by
  by_cases hn : g.n = 0
  · -- the empty graph: nil, nil
    rw [full_empty hn h]
    exact ⟨fun gs hgs => (by cases hgs), fun ds hds => (by cases hds), fun gs ds hgs => (by cases hgs),
      fun gs cls hgs => (by cases hgs)⟩
  · obtain ⟨op0, p, ds, gs, hnew, hR⟩ := full_semantic fuel g hg vc hvc hn r h
    have haut : ∀ γ ∈ gs, IsAutG g γ := fun γ hγ => isAutG_of_isAutL g hg γ (hR.gensAut γ hγ)
    refine ⟨fun gs' hgs => ?_, fun ds' hds => ?_, fun gs' ds' hgs hds => ?_, fun gs' cls hgs hcls => ?_⟩
    · rw [hR.gens] at hgs; cases hgs; exact haut
    · rw [hR.orbits] at hds; cases hds
      refine ⟨hR.dsLen, fun a b ha hb hrep => eqvGen_of_imp ?_ (hR.orbitsSound a b ha hb hrep)⟩
      rintro x y ⟨γ, hγ, hxy⟩
      exact EqvGen.rel _ _ ⟨γ, haut γ hγ, hxy⟩
    · rw [hR.gens] at hgs; cases hgs
      rw [hR.orbits] at hds; cases hds
      exact hR.orbitsSound
    · rw [hR.gens] at hgs; cases hgs
      subst hcls
      intro γ hγ
      exact cls_of_inCell (Nat.pos_of_ne_zero hn) hvc hnew (hR.gensAut γ hγ).1 (hR.gensCells γ hγ)

/-- The returned permutation is (the inverse of) a leaf of the unpruned tree of `Model/IR.lean` for the same graph and the
class colouring of the initial partition, and its certificate is the canonical one: the fields `leaf` and `cert` of
`ResSpec`. -/
theorem canonF_leaf_complete (fuel : Nat) (g : G) (hg : g.WF) (vc : Classes) (hvc : ClassesOK g.n vc) (hn : g.n ≠ 0)
    (r : Res) (h : canonicalIsomorphFull fuel g vc = .ok r) :
    ∃ op0 p, newOrderedPartition g.n (((nbrsOf g).toList.map List.length).sum / 2) vc = .ok (some op0) ∧
      r.perm = some p ∧ p.Perm (List.range g.n) ∧
      IR.tab g.n (fun v => p.idxOf v) ∈ IR.allLeaves (IR.ofSpec g) (irInit g op0) ∧
      certPos (nbrsOf g) p g.n = IR.canonCertFrom (IR.ofSpec g) (irInit g op0) := by
  obtain ⟨op0, p, _, _, hnew, hR⟩ := full_semantic fuel g hg vc hvc hn r h
  exact ⟨op0, p, hnew, hR.perm, hR.isPerm, hR.leaf, hR.cert⟩

theorem canonF_leaf_of_tree_all (fuel : Nat) (g : G) (hg : g.WF) (vc : Classes) (hvc : ClassesOK g.n vc) (hn : g.n ≠ 0)
    (r : Res) (h : canonicalIsomorphFull fuel g vc = .ok r) :
    ∃ op0 p, newOrderedPartition g.n (((nbrsOf g).toList.map List.length).sum / 2) vc = .ok (some op0) ∧
      r.perm = some p ∧ p.Perm (List.range g.n) ∧
      IR.tab g.n (fun v => p.idxOf v) ∈ IR.allLeaves (IR.ofSpec g) (irInit g op0) := by
  obtain ⟨op0, p, a, b, c, d, -⟩ := canonF_leaf_complete fuel g hg vc hvc hn r h
  exact ⟨op0, p, a, b, c, d⟩

theorem canonF_complete_full (fuel : Nat) (g : G) (hg : g.WF) (vc : Classes) (hvc : ClassesOK g.n vc) (hn : g.n ≠ 0)
    (r : Res) (h : canonicalIsomorphFull fuel g vc = .ok r) :
    ∃ op0 p, newOrderedPartition g.n (((nbrsOf g).toList.map List.length).sum / 2) vc = .ok (some op0) ∧
      r.perm = some p ∧ p.Perm (List.range g.n) ∧
      certPos (nbrsOf g) p g.n = IR.canonCertFrom (IR.ofSpec g) (irInit g op0) := by
  obtain ⟨op0, p, a, b, c, -, e⟩ := canonF_leaf_complete fuel g hg vc hvc hn r h
  exact ⟨op0, p, a, b, c, e⟩

theorem canonF_cert_le_full (fuel : Nat) (g : G) (hg : g.WF) (vc : Classes) (hvc : ClassesOK g.n vc) (hn : g.n ≠ 0)
    (r : Res) (h : canonicalIsomorphFull fuel g vc = .ok r) :
    ∃ op0 p, newOrderedPartition g.n (((nbrsOf g).toList.map List.length).sum / 2) vc = .ok (some op0) ∧
      r.perm = some p ∧ certPos (nbrsOf g) p g.n ≤ IR.canonCertFrom (IR.ofSpec g) (irInit g op0) := by
  obtain ⟨op0, p, a, b, -, e⟩ := canonF_complete_full fuel g hg vc hvc hn r h
  exact ⟨op0, p, a, b, le_of_eq e⟩

theorem canonF_eq_IR_canon_full (fuel : Nat) (g : G) (hg : g.WF) (hn : g.n ≠ 0)
    (r : Res) (h : canonicalIsomorphFull fuel g none = .ok r) :
    ∃ p, r.perm = some p ∧ p.Perm (List.range g.n) ∧ certPos (nbrsOf g) p g.n = IR.canonCert (IR.ofSpec g) ∧
      IR.ofCodes g.n (certPos (nbrsOf g) p g.n) = IR.canonGraph (IR.ofSpec g) := by
  obtain ⟨op0, p, hnew, hp, hperm, hc⟩ := canonF_complete_full fuel g hg none trivial hn r h
  rw [irInit_none (Nat.pos_of_ne_zero hn) hnew] at hc
  exact ⟨p, hp, hperm, hc, by rw [hc]; rfl⟩

theorem canonF_canon_invariant_full (fuel fuel' : Nat) (g g' : G) (hg : g.WF) (hg' : g'.WF) (hn : g.n ≠ 0)
    {σ τ : Nat → Nat} (R : IR.Relabel (IR.ofSpec g) (IR.ofSpec g') σ τ) (r r' : Res)
    (h : canonicalIsomorphFull fuel g none = .ok r) (h' : canonicalIsomorphFull fuel' g' none = .ok r') :
    ∃ p p', r.perm = some p ∧ r'.perm = some p' ∧ p.Perm (List.range g.n) ∧ p'.Perm (List.range g'.n) ∧
      certPos (nbrsOf g') p' g'.n = certPos (nbrsOf g) p g.n := by
  have hn' : g'.n ≠ 0 := by
    have : g'.n = g.n := R.n_eq
    omega
  obtain ⟨p, hp, hperm, hc, -⟩ := canonF_eq_IR_canon_full fuel g hg hn r h
  obtain ⟨p', hp', hperm', hc', -⟩ := canonF_eq_IR_canon_full fuel' g' hg' hn' r' h'
  refine ⟨p, p', hp, hp', hperm, hperm', ?_⟩
  rw [hc, hc']
  exact IR.canonCertFrom_invariant R (IR.init_rel R)

theorem ofSpec_inj {a b : G} (ha : ∀ u v, a.adj u v = true → u < a.n ∧ v < a.n)
    (hb : ∀ u v, b.adj u v = true → u < b.n ∧ v < b.n) (h : IR.ofSpec a = IR.ofSpec b) : a = b := by
  have hn : a.n = b.n := congrArg IR.G.n h
  have hadj : ∀ u, u < a.n → a.nbrs u = b.nbrs u := by
    intro u hu
    have := congrArg (fun x => IR.G.nbrs x u) h
    simp only [IR.G.nbrs, IR.ofSpec] at this
    rw [hn] at hu
    simpa [hu, hn] using this
  obtain ⟨an, aadj⟩ := a
  obtain ⟨bn, badj⟩ := b
  simp only at hn
  subst hn
  congr 1
  funext u v
  by_cases huv : u < an ∧ v < an
  · have := hadj u huv.1
    simp only [G.nbrs] at this
    have h1 : v ∈ (List.range an).filter (fun w => aadj u w) ↔ v ∈ (List.range an).filter (fun w => badj u w) := by
      rw [this]
    simp only [List.mem_filter, List.mem_range, huv.2, true_and] at h1
    exact Bool.eq_iff_iff.2 h1
  · have e1 : aadj u v = false := Bool.eq_false_iff.2 fun hx => huv (ha u v hx)
    have e2 : badj u v = false := Bool.eq_false_iff.2 fun hx => huv (hb u v hx)
    rw [e1, e2]

theorem induced_supp (g : G) (p : List Nat) : ∀ u v, (g.induced p).adj u v = true → u < (g.induced p).n ∧ v < (g.induced p).n := by
  intro u v h
  simp only [G.induced, Bool.and_eq_true, decide_eq_true_eq] at h
  exact ⟨h.1.1, h.1.2⟩

/-- `CanonicalIsomorph` followed by `InducedSubgraph`: the result is the canonical graph of the IR model -/
theorem canonF_induced_eq_canonGraph (fuel : Nat) (g : G) (hg : g.WF) (hn : g.n ≠ 0)
    (r : Res) (h : canonicalIsomorphFull fuel g none = .ok r) :
    ∃ p, r.perm = some p ∧ p.Perm (List.range g.n) ∧ IR.ofSpec (g.induced p) = IR.canonGraph (IR.ofSpec g) := by
  obtain ⟨p, hp, hperm, -, hc⟩ := canonF_eq_IR_canon_full fuel g hg hn r h
  exact ⟨p, hp, hperm, by rw [ofSpec_induced_eq_ofCodes g hg p hperm]; exact hc⟩

theorem canonF_induced_complete (fuel fuel' : Nat) (g g' : G) (hg : g.WF) (hg' : g'.WF) (hn : g.n ≠ 0) (hn' : g'.n ≠ 0)
    (r r' : Res) (h : canonicalIsomorphFull fuel g none = .ok r) (h' : canonicalIsomorphFull fuel' g' none = .ok r') :
    ∃ p p', r.perm = some p ∧ r'.perm = some p' ∧
      (g.induced p = g'.induced p' ↔ IR.Iso (IR.ofSpec g) (IR.ofSpec g')) := by
  obtain ⟨p, hp, hperm, hc⟩ := canonF_induced_eq_canonGraph fuel g hg hn r h
  obtain ⟨p', hp', hperm', hc'⟩ := canonF_induced_eq_canonGraph fuel' g' hg' hn' r' h'
  refine ⟨p, p', hp, hp', ?_⟩
  rw [← IR.canonGraph_complete (IR.ofSpec_wf hg) (IR.ofSpec_wf hg'), ← hc, ← hc']
  constructor
  · intro e; rw [e]
  · intro e; exact ofSpec_inj (induced_supp g p) (induced_supp g' p') e

theorem canonF_orbits_complete_all (fuel : Nat) (g : G) (hg : g.WF) (vc : Classes) (hvc : ClassesOK g.n vc) (hn : g.n ≠ 0)
    (r : Res) (h : canonicalIsomorphFull fuel g vc = .ok r) :
    ∃ op0 ds, newOrderedPartition g.n (((nbrsOf g).toList.map List.length).sum / 2) vc = .ok (some op0) ∧
      r.orbits = some ds ∧ ∀ γ, IsAutL (nbrsOf g) g.n γ →
        (∀ v, v < g.n → cellOf op0 (γ.getD v 0) = cellOf op0 v) →
        ∀ u, u < g.n → Disjoint.rep ds.toArray u = Disjoint.rep ds.toArray (γ.getD u 0) := by
  obtain ⟨op0, _, ds, _, hnew, hR⟩ := full_semantic fuel g hg vc hvc hn r h
  exact ⟨op0, ds, hnew, hR.orbits, fun γ hγ hc => (hR.complete γ hγ hc).1⟩

theorem canonF_orbits_exact_full (fuel : Nat) (g : G) (hg : g.WF) (hn : g.n ≠ 0)
    (r : Res) (h : canonicalIsomorphFull fuel g none = .ok r) :
    ∃ ds, r.orbits = some ds ∧ ds.length = g.n ∧ ∀ a b, a < g.n → b < g.n →
      (Disjoint.rep ds.toArray a = Disjoint.rep ds.toArray b ↔ SameOrbit g a b) := by
  obtain ⟨op0, ds, hnew, hds, hall⟩ := canonF_orbits_complete_all fuel g hg none trivial hn r h
  obtain ⟨hlen, hsound⟩ := (canonF_gens_full fuel g hg none trivial r h).2.1 ds hds
  refine ⟨ds, hds, hlen, fun a b ha hb => ⟨hsound a b ha hb, fun hab => ?_⟩⟩
  have hcell := cellOf_none hn hnew
  have key : ∀ x y, x < g.n → (∃ γ, IsAutG g γ ∧ γ[x]? = some y) →
      y < g.n ∧ Disjoint.rep ds.toArray x = Disjoint.rep ds.toArray y := by
    rintro x y hx ⟨γ, hγ, hxy⟩
    have hL := isAutL_of_isAutG g hg γ hγ
    have hy : γ.getD x 0 = y := by rw [List.getD_eq_getElem?_getD, hxy]; rfl
    have hmem : y ∈ γ := List.mem_of_getElem? hxy
    have hyn : y < g.n := List.mem_range.1 (hγ.1.mem_iff.1 hmem)
    refine ⟨hyn, ?_⟩
    have := hall γ hL (fun v hv => by rw [hcell v hv, hcell _ (perm_getD_lt hγ.1 hv)]) x hx
    rw [hy] at this
    exact this
  have gen : ∀ a b, SameOrbit g a b → (a < g.n ↔ b < g.n) ∧ (a < g.n → Disjoint.rep ds.toArray a = Disjoint.rep ds.toArray b) := by
    intro a b hab
    induction hab with
    | rel x y hxy =>
      obtain ⟨γ, hγ, hxy'⟩ := hxy
      have hxn : x < g.n := by
        rw [← List.length_range (n := g.n), ← hγ.1.length_eq]; exact (List.getElem?_eq_some_iff.1 hxy').1
      obtain ⟨k1, k2⟩ := key x y hxn ⟨γ, hγ, hxy'⟩
      exact ⟨⟨fun _ => k1, fun _ => hxn⟩, fun _ => k2⟩
    | refl x => exact ⟨Iff.rfl, fun _ => rfl⟩
    | symm x y _ ih => exact ⟨ih.1.symm, fun hy => (ih.2 (ih.1.2 hy)).symm⟩
    | trans x y z _ _ ih1 ih2 => exact ⟨ih1.1.trans ih2.1, fun hx => (ih1.2 hx).trans (ih2.2 (ih1.1.1 hx))⟩
  exact (gen a b hab).2 ha

theorem canonF_generators_generate_all (fuel : Nat) (g : G) (hg : g.WF) (vc : Classes) (hvc : ClassesOK g.n vc) (hn : g.n ≠ 0)
    (r : Res) (h : canonicalIsomorphFull fuel g vc = .ok r) :
    ∃ op0 gs, newOrderedPartition g.n (((nbrsOf g).toList.map List.length).sum / 2) vc = .ok (some op0) ∧
      r.gens = some gs ∧ ∀ γ, IsAutL (nbrsOf g) g.n γ →
        (∀ v, v < g.n → cellOf op0 (γ.getD v 0) = cellOf op0 v) → GenBy (fun x => x ∈ gs) g.n γ := by
  obtain ⟨op0, _, _, gs, hnew, hR⟩ := full_semantic fuel g hg vc hvc hn r h
  exact ⟨op0, gs, hnew, hR.gens, fun γ hγ hc => (hR.complete γ hγ hc).2⟩

theorem canonF_generators_generate_full (fuel : Nat) (g : G) (hg : g.WF) (hn : g.n ≠ 0)
    (r : Res) (h : canonicalIsomorphFull fuel g none = .ok r) :
    ∃ gs, r.gens = some gs ∧ ∀ γ, IsAutG g γ → GenBy (fun x => x ∈ gs) g.n γ := by
  obtain ⟨op0, gs, hnew, hgs, hall⟩ := canonF_generators_generate_all fuel g hg none trivial hn r h
  refine ⟨gs, hgs, fun γ hγ => hall γ (isAutL_of_isAutG g hg γ hγ) ?_⟩
  intro v hv
  rw [cellOf_none hn hnew v hv, cellOf_none hn hnew _ (perm_getD_lt hγ.1 hv)]

end CanonF
