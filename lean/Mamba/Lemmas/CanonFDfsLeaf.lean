import Mamba.Lemmas.CanonFDfsLeafStep
/-!
# The complete DFS invariant through the leaf branch `leafNode` (`dfs_leaf`)

`leaf_step` (`CanonFDfsLeafStep.lean`) has computed which branch `leafNode` takes, as a `LeafStep`; here is one theorem
per branch, each from the data of its branch, and the dispatch `dfs_leaf`. In the first three branches the stacks stay
and the leaf — the child of the top frame that was being explored — is complete because its certificate is not larger than
the `currentBest` of the new state (`complete_leaf`). Before the first leaf no member of any frame was processed (`ph1`),
so coverage starts there. At a leaf with the certificate of a stored leaf `X` (`dfs_leaf_eq`) the child of the new top
frame on the path of `X` has been processed and is complete (`bpF`/`bpB`); `γ = transport n oX order` carries this to the
child on the current path (`Heritable.backjump_frame`) and preserves the colouring of every common ancestor
(`recorded_gen_preserves`).
-/
namespace CanonF

open Relation

section
variable {n : Nat} {nb : Nbrs} {rf : Nat} {r : IR.St} {vs path choices : List Nat} {lv : List (Nat × Nat)}

/-- the auxiliary facts of a frame right after the first leaf: both stored paths are the current path, and the only
member on it is the child being explored -/
theorem FrameAux1.at_first {gh' : Gh} {s1 : LS} (e1 : gh'.vsF = vs) (e2 : gh'.vsB = vs) (e3 : gh'.bgs = [])
    (hcnt : 0 < s1.count) (hng : s1.ngens = 0) {ps : List Nat} {c st sz : Nat}
    (key : ∀ i w, (cellL n nb rf r vs ps.length st)[i]? = some w → vs[ps.length]? = some w → i = c - st) :
    FrameAux1 n nb rf r gh' s1 vs false ps c st sz := by
  constructor
  · intro _ j w hj hw hh
    rw [e1] at hh
    have := key j w hw hh.2
    omega
  · intro _ j w hj hw hh
    rw [e2] at hh
    have := key j w hw hh.2
    omega
  · intro _ _ i w hi hw hx
    rw [e1] at hx
    have hip := key i w hw hx
    simp only [Bool.false_eq_true, if_false] at hi
    omega
  · intro _ _ i w hi hw hx
    rw [e2] at hx
    have hip := key i w hw hx
    simp only [Bool.false_eq_true, if_false] at hi
    omega
  · intro _ _ k hk; omega
  · intro _ _ γ hγ; simp [e3] at hγ
  · intro _ _; rw [e2]
  · intro h0; omega

end

section
variable {n : Nat} {nb : Nbrs} {rf : Nat} {r : IR.St} {gh gh' : Gh} {s s' : LS} {vs : List Nat}

/-- one frame: the current leaf (vertex path `vs`) becomes the best leaf; the only member on its path is the child being
explored -/
theorem FrameAux1.at_accept {ps : List Nat} {c st sz : Nat}
    (h : FrameAux1 n nb rf r gh s vs false ps c st sz)
    (key : ∀ i w, (cellL n nb rf r vs ps.length st)[i]? = some w → vs[ps.length]? = some w → i = c - st)
    (g1 : gh'.vsF = gh.vsF) (g2 : gh'.vsB = vs) (g3 : gh'.bgs = [])
    (hcnt : 0 < s.count) (hcnt' : 0 < s'.count)
    (hb : ∀ x, compare x s.currentBest.toList ≠ 1 → compare x s'.currentBest.toList ≠ 1)
    (e3 : s'.gens = s.gens) (e4 : s'.ngens = s.ngens) :
    FrameAux1 n nb rf r gh' s' vs false ps c st sz := by
  constructor
  · intro _; rw [g1]; exact h.futF hcnt
  · intro _ j w hj hw hc
    rw [g2] at hc
    have := key j w hw hc.2
    omega
  · intro _ hpre i w hi hw hx
    rw [g1] at hpre hx
    exact fun x hx' => hb x (h.bpF hcnt hpre i w hi hw hx x hx')
  · intro _ _ i w hi hw hx
    rw [g2] at hx
    have hip := key i w hw hx
    simp only [Bool.false_eq_true, if_false] at hi
    omega
  · intro _; rw [g1, e3, e4]; exact h.e1 hcnt
  · intro _ _ γ hγ; rw [g3] at hγ; cases hγ
  · intro _ _; rw [g2]
  · intro h0; omega

end

section
variable {n m : Nat} {nb : Nbrs} {rf : Nat} {r : IR.St}
  (hnb : NbOK nb n) (hA : IR.InvA (irG n nb) r) (hD : IR.InvD (irG n nb) r)
  (hlenm : ∀ o : List Nat, o.Perm (List.range n) → (certPos nb o n).length = m)

include hnb in
theorem dfs_leaf_first {lv : List (Nat × Nat)} {s s1 : LS} {gh : Gh} (hI : MInv n m nb s)
    (hlv : LevelsOK s.op s.path s.choices lv) (hleaf : s.op.binDividers.len = n) (h : DNodev n nb rf r gh lv s)
    (L : LeafAt n m nb rf r gh lv s) (hcnt : s.count = 0) (S : FirstShape n s s1) :
    DAv n nb rf r { vs := gh.vs.dropLast, oF := s.op.order.toList, vsF := gh.vs, vsB := gh.vs, bgs := [] } lv s1 := by
  obtain ⟨hw, hG, -, haux, -⟩ := h
  have hc := hI.core
  have h1 := L.path
  have h3 := L.len
  have h5 := L.frames
  have hlen : s.path.length ≤ gh.vs.length := Nat.le_of_eq h3.symm
  have hle : compare s.op.value.toList s1.currentBest.toList ≠ 1 := by
    rw [S.best, compare_self]; decide
  have hcompL : Complete n nb rf s1.currentBest.toList (nodeL n nb rf r gh.vs s.path.length) := by
    rw [← h3, nodeL_length]
    exact complete_leaf hnb hc.part hleaf L.mtch L.clean L.spl hle
  have hcnt1 : 0 < s1.count := by rw [S.count]; exact Nat.one_pos
  have hng1 : s1.ngens = 0 := by rw [S.ngens]; exact hG.ngens0 hcnt
  have hidx : IdxPath n nb rf r gh.vs s.path.reverse gh.vs.length := by
    rw [h3]; exact frames_idxPath s.path s.choices lv h5 hlen
  have hrec : ∀ (cert : List Nat) (pinv : Sl Nat) (P : List Nat), cert = s.op.value.toList →
      InvOf s.op.order.toList pinv → (∀ i, i < s.path.length → P[i]? = s.path.reverse[i]?) →
      LeafRec n nb rf r gh.vs s.op.order.toList cert pinv P :=
    fun cert pinv P hce hinv hP =>
      ⟨h1, L.leafT, L.leafC, hc.part.perm, by rw [hce]; exact L.val, hinv, hidx.congr (by rw [h3]; exact hP)⟩
  refine ⟨walk_leaf hc S.op S.path S.choices hw, ?_, ?_, ?_, ?_⟩
  · -- the global invariant
    constructor
    · intro _; exact hrec _ _ _ S.first S.flInv S.flPath
    · intro _
      show LeafRec n nb rf r gh.vs s1.bestPerm.toList _ _ _
      rw [S.bestPerm]; exact hrec _ _ _ S.best S.bestInv S.bestPath
    · intro γ hγ; cases hγ
    · intro h0; omega
    · intro _
      rw [S.bestOrb]
      exact orbits_new n _
    · exact S.bpLen
    · exact S.fpLen
  · show CovFrames n nb rf r s1 gh.vs.dropLast true s1.path s1.choices lv
    rw [S.path, S.choices]
    exact CovFrames.congr (s := s1) (s' := s1) rfl (fun _ => rfl) rfl true _ _ _ L.dropLast
      ((covFrames_iff.2 ((frames_first_child hcnt h5 haux).imp_false fun _ _ _ _ _ _ hP i w hi hw =>
        (hP.2 i w hi hw).elim)).finish_top h1 hlv h5 hlen hcompL)
  · show FrameAux n nb rf r _ s1 gh.vs.dropLast true s1.path s1.choices lv
    rw [S.path, S.choices]
    exact FrameAux.congr (s := s1) (s' := s1) (us := gh.vs) rfl rfl rfl rfl true _ _ _ L.dropLast
      ((frameAux_iff.2 ((frames_on_path hlv h5 hlen).imp_false fun _ _ _ _ _ _ key =>
        FrameAux1.at_first (gh' := { vs := gh.vs.dropLast, oF := s.op.order.toList, vsF := gh.vs, vsB := gh.vs, bgs := [] })
          rfl rfl rfl hcnt1 hng1 key)).finish_top h1 hlv h5 hlen hcnt1 hcompL)
  · -- the root
    intro hp
    rw [S.path] at hp
    rw [hp] at hcompL
    exact ⟨hcnt1, by simpa [nodeL, IR.nodeAt] using hcompL⟩

include hnb hlenm in
theorem dfs_leaf_accept {lv : List (Nat × Nat)} {s s1 : LS} {gh : Gh} {cb bpi : Sl Nat} (hI : MInv n m nb s)
    (hlv : LevelsOK s.op s.path s.choices lv) (hleaf : s.op.binDividers.len = n)
    (hJ : CertM n m nb lv false s) (h : DNodev n nb rf r gh lv s) (L : LeafAt n m nb rf r gh lv s)
    (hs1 : leafNode n m s = .ok s1) (hcnt : 0 < s.count)
    (hcmp : compare s.op.value.toList s.currentBest.toList = 1) (S : AcceptShape n s s1 cb bpi) :
    DAv n nb rf r { gh with vs := gh.vs.dropLast, vsB := gh.vs, bgs := [] } lv s1 := by
  obtain ⟨hw, hG, hcov, haux, hoff⟩ := h
  obtain ⟨hg, -, -, hbok⟩ := hJ
  have hc := hI.core
  obtain ⟨-, -, -, -, hcov1⟩ := cov_leaf_accept hnb hlenm hc hlv hw hleaf L.clean L.spl hbok hg hcmp hcnt hs1 hcov
  have hcbT := S.best
  have hbpT := S.bestPerm
  have hne := L.path_ne hoff hcnt
  have h1 := L.path
  have h3 := L.len
  have h5 := L.frames
  have hlen : s.path.length ≤ gh.vs.length := Nat.le_of_eq h3.symm
  have hb : ∀ x, compare x s.currentBest.toList ≠ 1 → compare x cb.toList ≠ 1 := by
    intro x hx
    have hbv : compare s.currentBest.toList s.op.value.toList = -1 := (compare_eq_neg_one_iff _ _).2 hcmp
    rw [hcbT, compare_trans_le_lt x _ _ hx hbv]; decide
  have hcompL : Complete n nb rf cb.toList (nodeL n nb rf r gh.vs s.path.length) := by
    rw [← h3, nodeL_length]
    exact complete_leaf hnb hc.part hleaf L.mtch L.clean L.spl (by rw [hcbT, compare_self]; decide)
  rw [S.s1_eq] at hcov1 ⊢
  refine ⟨walk_leaf hc rfl rfl rfl hw, ?_, ?_, ?_, fun hp => absurd hp hne⟩
  · -- the stored leaves
    constructor
    · intro _; exact hG.first hcnt
    · intro _
      refine ⟨h1, L.leafT, ?_, by
        show (s.bestPerm.copyFrom s.op.order.toList).toList.Perm (List.range n)
        rw [hbpT]; exact hc.part.perm, by
        show cb.toList = certPos nb (s.bestPerm.copyFrom s.op.order.toList).toList n
        rw [hcbT, hbpT]; exact L.val, by
        show InvOf (s.bestPerm.copyFrom s.op.order.toList).toList bpi
        rw [hbpT]; exact S.bestInv, ?_⟩
      · show (IR.nodeAt (irG n nb) rf r gh.vs).c = IR.tab n (fun v => (s.bestPerm.copyFrom s.op.order.toList).toList.idxOf v)
        rw [hbpT]; exact L.leafC
      · show IdxPath n nb rf r gh.vs (s.bestPath.copyFrom s.path.reverse).toList gh.vs.length
        rw [h3]
        exact (frames_idxPath s.path s.choices lv h5 hlen).congr fun i hi =>
          copyFrom_toList_prefix hG.bpLen.2 _ (by rw [List.length_reverse, hG.bpLen.1, ← h3]; exact L.vsn)
            (by rw [List.length_reverse]; exact hi)
    · intro γ hγ; cases hγ
    · intro h0; exact absurd h0 (Nat.succ_ne_zero _)
    · intro _; exact orbits_new n _
    · exact ⟨by show (s.bestPath.copyFrom s.path.reverse).len = n; rw [Sl.copyFrom_len]; exact hG.bpLen.1,
        Sl.copyFrom_wf hG.bpLen.2 _⟩
    · exact hG.fpLen
  · exact CovFrames.congr rfl (fun _ => rfl) rfl true s.path s.choices lv L.dropLast hcov1
  · exact FrameAux.congr rfl rfl rfl rfl true s.path s.choices lv L.dropLast
      (FrameAux.finish_top h1 hlv h5 hlen (Nat.succ_pos _) hcompL
        (frameAux_iff.2 ((frames_on_path hlv h5 hlen).and (frameAux_iff.1 haux) |>.imp_false
          fun _ _ _ _ _ _ ⟨key, hA⟩ => FrameAux1.at_accept hA key rfl rfl rfl hcnt (Nat.succ_pos _) hb rfl rfl)))

include hnb in
theorem dfs_leaf_other {lv : List (Nat × Nat)} {s : LS} {gh : Gh} (hI : MInv n m nb s)
    (hlv : LevelsOK s.op s.path s.choices lv) (hleaf : s.op.binDividers.len = n) (h : DNodev n nb rf r gh lv s)
    (L : LeafAt n m nb rf r gh lv s) (hcnt : 0 < s.count)
    (hle : compare s.op.value.toList s.currentBest.toList ≠ 1) :
    DAv n nb rf r { gh with vs := gh.vs.dropLast } lv { s with count := s.count + 1 } := by
  obtain ⟨hw, hG, hcov, haux, hoff⟩ := h
  have hc := hI.core
  have hcov1 := cov_finish_leaf hnb hc hlv hw hleaf L.clean L.spl (s' := { s with count := s.count + 1 }) hle
    (CovFrames.congr (s := s) (s' := { s with count := s.count + 1 }) (vs' := gh.vs) rfl
      (onFirstB_count_succ hcnt rfl rfl) rfl false s.path s.choices lv (fun _ _ => rfl) hcov)
  have hcompL : Complete n nb rf s.currentBest.toList (nodeL n nb rf r gh.vs s.path.length) := by
    rw [← L.len, nodeL_length]
    exact complete_leaf hnb hc.part hleaf L.mtch L.clean L.spl hle
  refine ⟨walk_leaf hc rfl rfl rfl hw, ?_, ?_, ?_, fun hp => absurd hp (L.path_ne hoff hcnt)⟩
  · exact hG.congr_pos (gh' := { gh with vs := gh.vs.dropLast }) (s' := { s with count := s.count + 1 }) hcnt
      (Nat.succ_pos _) rfl rfl rfl rfl rfl rfl rfl rfl rfl rfl rfl rfl
  · exact CovFrames.congr (s := { s with count := s.count + 1 }) (s' := { s with count := s.count + 1 })
      (vs := gh.vs) (vs' := gh.vs.dropLast) rfl (fun _ => rfl) rfl true s.path s.choices lv L.dropLast hcov1
  · exact (haux.finish_top L.path hlv L.frames (Nat.le_of_eq L.len.symm) hcnt hcompL).imp fun _ _ _ _ _ hps hf =>
      hf.upd (gh' := { gh with vs := gh.vs.dropLast }) (s' := { s with count := s.count + 1 }) hcnt (Nat.succ_pos _)
        rfl rfl rfl (L.dropLast _ hps) (fun _ h => h) (fun _ h => h)

variable {gh : Gh} {lv : List (Nat × Nat)} {s s1 : LS} {vsX oX certX : List Nat} {pinvX refX : Sl Nat}
  {bo fo : Disjoint.DS} {merges : Bool} {gens' : Array (Sl Nat)} {ngens' : Nat} {bgs' : List (List Nat)} {j : Nat}
  {op' : OP} {p c st sz : Nat} {ps cs : List Nat} {ls : List (Nat × Nat)}

include hnb hA hD in
theorem dfs_leaf_eq (hI : MInv n m nb s) (hJ : CertM n m nb lv false s) (h : DNodev n nb rf r gh lv s)
    (E : EqLeafStep n nb rf r gh lv s s1 vsX oX certX pinvX refX bo fo merges gens' ngens' bgs' j op' p ps c cs st sz
      ls) :
    DAv n nb rf r { gh with vs := gh.vs.take ps.length, bgs := bgs' } (lv.drop j) s1 := by
  obtain ⟨hw, hG, hcov, haux, -⟩ := h
  have hc := hI.core
  have hpos := E.pos
  have B := E.jump
  have h1 := hw.path
  have hX := E.stored
  have bpX : ∀ i w, c - st < i → (cellL n nb rf r gh.vs ps.length st)[i]? = some w → vsX[ps.length]? = some w →
      Complete n nb rf s.currentBest.toList (IR.childSt (irG n nb) rf (nodeL n nb rf r gh.vs ps.length) st w) := by
    have hpre := B.pre
    rcases E.which with ⟨rfl, -⟩ | ⟨rfl, -⟩
    · exact fun i w hi hw' hx => B.aux.head.bpB hpos hpre i w (by simpa using hi) hw' hx
    · exact fun i w hi hw' hx => B.aux.head.bpF hpos hpre i w (by simpa using hi) hw' hx
  have toX : ∀ {incl : Bool} {qs : List Nat} {c' st' sz' : Nat}, FrameAux1 n nb rf r gh s gh.vs incl qs c' st' sz' →
      gh.vs.take qs.length = gh.vsF.take qs.length → gh.vs.take qs.length = vsX.take qs.length := by
    rcases E.which with ⟨rfl, -⟩ | ⟨rfl, -⟩
    · exact fun hf1 hpre => hf1.fb hpos hpre
    · exact fun _ hpre => hpre
  have hγpres : ∀ L, gh.vs.take L = vsX.take L → ∀ u, u < n →
      IR.col (nodeL n nb rf r gh.vs L).c ((transport n oX s.op.order.toList).getD u 0) =
        IR.col (nodeL n nb rf r gh.vs L).c u :=
    fun L hpre => recorded_gen_preserves hnb hA hD hX.path hX.col hX.perm h1 E.leafC hc.part.perm hpre.symm
  have hbgs : ∀ γ, γ ∈ bgs' → γ ∈ gh.bgs ∨ (γ = transport n oX s.op.order.toList ∧ vsX = gh.vsB) := by
    rcases E.which with ⟨rfl, rfl⟩ | ⟨-, rfl⟩
    · exact fun γ hγ => (List.mem_cons.1 hγ).elim (fun e => Or.inr ⟨e, rfl⟩) Or.inl
    · exact fun γ hγ => Or.inl hγ
  have hcompl := (complete_heritable hnb s.currentBest.toList).backjump_frame hnb hA hD h1 E.leafT E.leafC hc.part.perm
    hX E.cert B.frames B.len B.pre B.later bpX trivial
  have hjlt : j < s.path.length := by have := B.jl; omega
  have hk : ps.length = s.path.length - j - 1 := by have := B.jl; omega
  have htake : ∀ L, L < (p :: ps).length → (gh.vs.take ps.length).take L = gh.vs.take L :=
    fun L hL => take_take_le gh.vs (Nat.le_of_lt_succ hL)
  rw [B.s1_eq]
  refine ⟨?_, ⟨fun _ => hG.first hpos, fun _ => hG.best hpos, fun γ hγ => ?_, fun h0 => absurd h0 (Nat.succ_ne_zero _),
    fun _ => E.bestOrb, hG.bpLen, hG.fpLen⟩, ?_, ?_, fun hp0 => ?_⟩
  · rw [hk]
    exact walk_truncate (s := s) j hc.part hc.age (Nat.le_of_lt hjlt) (fun _ => hjlt) B.dt rfl rfl hw
  · rcases hbgs γ hγ with e | ⟨e, -⟩
    · exact hG.bgsAut _ e
    · rw [e]; exact aut_of_cert hnb hX.perm hc.part.perm E.cert
  · have c1 := CovFrames.mono_orbits (s := s) (vs := gh.vs)
      (s' := { s with count := s.count + 1, bestOrbits := bo, flOrbits := fo, gens := gens', ngens := ngens',
                      op := op', path := s.path.drop j, choices := s.choices.drop j })
      rfl (onFirstB_count_succ hpos rfl rfl)
      (fun w y hw hy => nonroot_orbitLoop (hJ.1.orb hpos).1 E.loop hw hy) false s.path s.choices lv hcov
    have c2 := c1.drop j
    rw [B.hpd, B.hcd, B.hld] at c2
    show CovFrames n nb rf r _ (gh.vs.take ps.length) true (s.path.drop j) (s.choices.drop j) (lv.drop j)
    rw [B.hpd, B.hcd, B.hld]
    exact CovFrames.congr (vs := gh.vs) rfl (fun _ => rfl) rfl true _ _ _ htake
      (c2.finish_top h1 B.lvl B.frames B.len hcompl)
  · have hgn := recorded_gens hX.perm hc.part.lenOrder hX.inv E.record
    show FrameAux n nb rf r _ _ (gh.vs.take ps.length) true (s.path.drop j) (s.choices.drop j) (lv.drop j)
    rw [B.hpd, B.hcd, B.hld]
    exact (B.aux.finish_top h1 B.lvl B.frames B.len hpos hcompl).imp fun _ qs _ _ _ hqs hf1 =>
      hf1.upd hpos (Nat.succ_pos _) rfl rfl rfl (htake _ hqs)
        (fun hpre hold k hk g hg u hu => by
          rcases hgn k g hk hg with ⟨hk', hg'⟩ | e
          · exact hold k hk' g hg' u hu
          · rw [e]; exact hγpres _ (toX hf1 hpre) u hu)
        (fun hpre hold γ' hγ' u hu => by
          rcases hbgs γ' hγ' with e | ⟨e, eB⟩
          · exact hold γ' e u hu
          · rw [e]; exact hγpres _ (eB ▸ hpre) u hu)
  · have hp' : s.path.drop j = [] := hp0
    rw [B.hpd] at hp'
    cases hp'

include hnb hA hD hlenm in
theorem dfs_leaf {lv lv1 : List (Nat × Nat)} {s s1 : LS} {gh gh' : Gh} (hI : MInv n m nb s)
    (hlv : LevelsOK s.op s.path s.choices lv) (hleaf : s.op.binDividers.len = n)
    (hJ : CertM n m nb lv false s) (hX : DNodev n nb rf r gh lv s) (L : LeafAt n m nb rf r gh lv s)
    (hs1 : leafNode n m s = .ok s1) (hstep : LeafStep n nb rf r gh lv s s1 gh' lv1) : DAv n nb rf r gh' lv1 s1 := by
  cases hstep with
  | first hcnt S => exact dfs_leaf_first hnb hI hlv hleaf hX L hcnt S
  | accept hpos hcmp S => exact dfs_leaf_accept hnb hlenm hI hlv hleaf hJ hX L hs1 hpos hcmp S
  | eq E => exact dfs_leaf_eq hnb hA hD hI hJ hX E
  | other hpos hle _ _ e => rw [e]; exact dfs_leaf_other hnb hI hlv hleaf hX L hpos hle


end
end CanonF
