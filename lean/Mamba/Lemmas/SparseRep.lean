import Mamba.Lemmas.SortedInts
import Mamba.Lemmas.GraphCount
import Mamba.Lemmas.DenseRep
/-!
# SparseGraph refines the abstract graph (property C05)

`Sparse.row u` is the neighbour list of `u`, `Sparse.abs` the graph read off the lists, `Sparse.WF` the invariant
(`nbrs_size`, `deg_size`: both arrays have `n` entries; `sorted`, `inrange`: every list is strictly increasing with entries
in `[0, n)`; `symm`, `irrefl`: `v` is in the list of `u` iff `u` is in the list of `v`, and never `u` in its own; `deg_len`,
`m_eq`: `deg[u]` is the length of the list of `u`, `m` the number of edges of `abs`); a well-formed value has the canonical
lists `(abs x).nbrs u` (`Sparse.row_eq`). `Sparse.wf_of` builds a well-formed value
from a description of its lists: every operation computes its lists in closed form and calls it; `AddEdge` and
`RemoveEdge` replace two lists and two degrees, the common part is `Sparse.edit_two`.
-/
namespace GraphRep
open GraphSpec

def Sparse.row (g : Sparse) (u : Nat) : List Int := g.nbrs.getD u []

def Sparse.abs (g : Sparse) : G where
  n := g.n
  adj u v := decide (u < g.n) && decide (v < g.n) && (g.row u).contains (v : Int)

structure Sparse.WF (g : Sparse) : Prop where
  nbrs_size : g.nbrs.size = g.n
  deg_size : g.deg.size = g.n
  sorted : ∀ u, u < g.n → SInc (g.row u)
  inrange : ∀ u, u < g.n → ∀ x ∈ g.row u, 0 ≤ x ∧ x < g.n
  symm : ∀ u v, u < g.n → v < g.n → ((v : Int) ∈ g.row u ↔ (u : Int) ∈ g.row v)
  irrefl : ∀ u, u < g.n → (u : Int) ∉ g.row u
  deg_len : ∀ u, u < g.n → g.deg[u]? = some ((g.row u).length : Int)
  m_eq : g.m = (g.abs.m : Int)

theorem Sparse.abs_adj {g : Sparse} {u v : Nat} (hu : u < g.n) (hv : v < g.n) :
    g.abs.adj u v = decide ((v : Int) ∈ g.row u) := by
  simp [Sparse.abs, hu, hv]

theorem Sparse.abs_adj_true {g : Sparse} {u v : Nat} :
    g.abs.adj u v = true ↔ u < g.n ∧ v < g.n ∧ (v : Int) ∈ g.row u := by
  simp [Sparse.abs, and_assoc]

theorem Sparse.abs_wf {g : Sparse} (h : g.WF) : g.abs.WF where
  symm := by
    intro u v
    by_cases hu : u < g.n
    · by_cases hv : v < g.n
      · rw [Sparse.abs_adj hu hv, Sparse.abs_adj hv hu]
        exact decide_eq_decide.mpr (h.symm u v hu hv)
      · simp [Sparse.abs, hv]
    · simp [Sparse.abs, hu]
  irrefl := by
    intro v
    by_cases hv : v < g.n
    · rw [Sparse.abs_adj hv hv]; simpa using h.irrefl v hv
    · simp [Sparse.abs, hv]
  supp := by
    intro u v huv
    have := Sparse.abs_adj_true.mp huv
    exact ⟨this.1, this.2.1⟩

theorem Sparse.mem_row {g : Sparse} (h : g.WF) {u : Nat} (hu : u < g.n) (x : Int) :
    x ∈ g.row u ↔ ∃ v : Nat, (v : Int) = x ∧ g.abs.adj u v = true := by
  constructor
  · intro hx
    obtain ⟨h0, h1⟩ := h.inrange u hu x hx
    refine ⟨x.toNat, by omega, ?_⟩
    rw [Sparse.abs_adj_true]
    refine ⟨hu, by omega, ?_⟩
    have : ((x.toNat : Nat) : Int) = x := by omega
    rw [this]; exact hx
  · rintro ⟨v, rfl, hv⟩
    exact (Sparse.abs_adj_true.mp hv).2.2

theorem map_ofNat_sinc {l : List Nat} (h : l.Pairwise (· < ·)) : SInc (l.map Int.ofNat) := by
  rw [SInc, List.pairwise_map]
  exact h.imp (fun hab => by simpa using hab)

theorem Sparse.row_eq {g : Sparse} (h : g.WF) {u : Nat} (hu : u < g.n) :
    g.row u = (g.abs.nbrs u).map Int.ofNat := by
  apply sinc_ext (h.sorted u hu) (map_ofNat_sinc (nbrs_pairwise _ _))
  intro x
  rw [Sparse.mem_row h hu, List.mem_map]
  constructor
  · rintro ⟨v, rfl, hv⟩; exact ⟨v, (mem_nbrs (Sparse.abs_wf h) u v).mpr hv, rfl⟩
  · rintro ⟨v, hv, rfl⟩; exact ⟨v, rfl, (mem_nbrs (Sparse.abs_wf h) u v).mp hv⟩

theorem Sparse.deg_eq {g : Sparse} (h : g.WF) {u : Nat} (hu : u < g.n) :
    g.deg[u]? = some (g.abs.deg u : Int) := by
  rw [h.deg_len u hu, Sparse.row_eq h hu, List.length_map]; rfl

theorem Sparse.row_get {g : Sparse} (h : g.WF) {u : Nat} (hu : u < g.n) : g.nbrs[u]? = some (g.row u) := by
  unfold Sparse.row
  rw [Array.getD_eq_getD_getElem?, Array.getElem?_eq_getElem (by rw [h.nbrs_size]; exact hu)]
  rfl

theorem Sparse.isEdge_eq {g : Sparse} (h : g.WF) {i j : Nat} (hi : i < g.n) (hj : j < g.n) :
    g.isEdge i j = .ok (g.abs.adj i j) := by
  unfold Sparse.isEdge
  rw [h.deg_len i hi, h.deg_len j hj]
  simp only
  split
  · rw [Sparse.row_get h hi]
    simp only
    rw [containsSingle_eq (h.sorted i hi), Sparse.abs_adj hi hj]
  · rw [Sparse.row_get h hj]
    simp only
    rw [containsSingle_eq (h.sorted j hj), Sparse.abs_adj hi hj]
    congr 1
    exact decide_eq_decide.mpr (h.symm j i hj hi)

theorem Sparse.neighbours_eq {g : Sparse} (h : g.WF) {v : Nat} (hv : v < g.n) :
    g.neighbours v = .ok ((g.abs.nbrs v).map Int.ofNat) := by
  unfold Sparse.neighbours getA
  rw [Sparse.row_get h hv, Sparse.row_eq h hv]

theorem Sparse.degrees_eq {g : Sparse} (h : g.WF) : g.degrees = g.abs.degrees.map Int.ofNat :=
  degs_aux g.deg g.n g.abs.deg h.deg_size (fun _ hv => Sparse.deg_eq h hv)

theorem Sparse.wf_of {g' : Sparse} {G0 : G} (hG : G0.WF) (hn : g'.n = G0.n) (hns : g'.nbrs.size = g'.n)
    (hds : g'.deg.size = g'.n) (hsorted : ∀ u, u < g'.n → SInc (g'.row u))
    (hmem : ∀ u, u < g'.n → ∀ x : Int, x ∈ g'.row u ↔ ∃ v : Nat, (v : Int) = x ∧ G0.adj u v = true)
    (hdeg : ∀ u, u < g'.n → g'.deg[u]? = some ((g'.row u).length : Int))
    (hm : g'.m = (G0.m : Int)) : g'.WF ∧ g'.abs = G0 := by
  have habs : g'.abs = G0 := by
    refine G_ext hn ?_
    intro u v
    by_cases hu : u < g'.n
    · by_cases hv : v < g'.n
      · rw [Sparse.abs_adj hu hv]
        cases hc : G0.adj u v
        · rw [decide_eq_false_iff_not, hmem u hu]
          rintro ⟨w, hw, hadj⟩
          have : w = v := by omega
          subst this; rw [hc] at hadj; cases hadj
        · rw [decide_eq_true_iff, hmem u hu]
          exact ⟨v, rfl, hc⟩
      · have : G0.adj u v = false := by
          cases hc : G0.adj u v
          · rfl
          · have := (hG.supp _ _ hc).2; omega
        rw [this]; simp [Sparse.abs, hv]
    · have : G0.adj u v = false := by
        cases hc : G0.adj u v
        · rfl
        · have := (hG.supp _ _ hc).1; omega
      rw [this]; simp [Sparse.abs, hu]
  refine ⟨⟨hns, hds, hsorted, ?_, ?_, ?_, hdeg, by rw [habs]; exact hm⟩, habs⟩
  · intro u hu x hx
    obtain ⟨v, rfl, hv⟩ := (hmem u hu x).mp hx
    have := (hG.supp _ _ hv).2
    omega
  · intro u v hu hv
    rw [hmem u hu, hmem v hv]
    constructor
    · rintro ⟨w, hw, hadj⟩
      have : w = v := by omega
      subst this
      exact ⟨u, rfl, by rw [hG.symm]; exact hadj⟩
    · rintro ⟨w, hw, hadj⟩
      have : w = u := by omega
      subst this
      exact ⟨v, rfl, by rw [hG.symm]; exact hadj⟩
  · intro u hu hc
    obtain ⟨w, hw, hadj⟩ := (hmem u hu _).mp hc
    have : w = u := by omega
    subst this
    rw [hG.irrefl] at hadj; cases hadj

theorem modifyI_okI {α : Type} {a : Array α} {x : Int} {r : α} (f : α → α) (hx : 0 ≤ x)
    (h : a[x.toNat]? = some r) : modifyI a x f = .ok (a.setIfInBounds x.toNat (f r)) := by
  unfold modifyI
  rw [if_neg (by omega)]
  simp [h]

theorem getD_set {a : Array (List Int)} {i : Nat} (x : List Int) (hi : i < a.size) (u : Nat) :
    (a.setIfInBounds i x).getD u [] = if u = i then x else a.getD u [] := by
  rw [Array.getD_eq_getD_getElem?, Array.getD_eq_getD_getElem?, Array.getElem?_setIfInBounds]
  by_cases hu : u = i
  · subst hu; simp [hi]
  · have : ¬ i = u := fun e => hu e.symm
    simp [hu, this]

theorem Sparse.edit_two {g : Sparse} (h : g.WF) {i j : Nat} (hi : i < g.n) (hj : j < g.n) (hij : i ≠ j)
    (li lj : List Int) (c : Int) (G0 : G) (hG : G0.WF) (hn : G0.n = g.n)
    (hsi : SInc li) (hsj : SInc lj)
    (hli : (li.length : Int) = (g.row i).length + c) (hlj : (lj.length : Int) = (g.row j).length + c)
    (hmi : ∀ x : Int, x ∈ li ↔ ∃ v : Nat, (v : Int) = x ∧ G0.adj i v = true)
    (hmj : ∀ x : Int, x ∈ lj ↔ ∃ v : Nat, (v : Int) = x ∧ G0.adj j v = true)
    (hother : ∀ u v, u ≠ i → u ≠ j → G0.adj u v = g.abs.adj u v)
    (hm : g.m + c = (G0.m : Int)) :
    Sparse.WF ⟨g.n, g.m + c, (g.nbrs.setIfInBounds i li).setIfInBounds j lj,
        (g.deg.setIfInBounds i (↑(g.row i).length + c)).setIfInBounds j (↑(g.row j).length + c)⟩ ∧
      Sparse.abs ⟨g.n, g.m + c, (g.nbrs.setIfInBounds i li).setIfInBounds j lj,
        (g.deg.setIfInBounds i (↑(g.row i).length + c)).setIfInBounds j (↑(g.row j).length + c)⟩ = G0 := by
  have hdj' : (g.deg.setIfInBounds i (↑(g.row i).length + c))[j]? = some ((g.row j).length : Int) := by
    rw [get?_set_add c (h.deg_len i hi), if_neg (fun e => hij e.symm)]; exact h.deg_len j hj
  have hrow : ∀ u, Sparse.row ⟨g.n, g.m + c, (g.nbrs.setIfInBounds i li).setIfInBounds j lj,
        (g.deg.setIfInBounds i (↑(g.row i).length + c)).setIfInBounds j (↑(g.row j).length + c)⟩ u =
      if u = j then lj else if u = i then li else g.row u := by
    intro u
    unfold Sparse.row
    simp only
    rw [getD_set _ (by simp [h.nbrs_size, hj]), getD_set _ (by simp [h.nbrs_size, hi])]
  apply Sparse.wf_of hG
  · exact hn.symm
  · simp [h.nbrs_size]
  · simp [h.deg_size]
  · intro u hu
    rw [hrow u]
    split
    · exact hsj
    · split
      · exact hsi
      · exact h.sorted u hu
  · intro u hu x
    rw [hrow u]
    by_cases huj : u = j
    · subst huj; rw [if_pos rfl]; exact hmj x
    · rw [if_neg huj]
      by_cases hui : u = i
      · subst hui; rw [if_pos rfl]; exact hmi x
      · rw [if_neg hui, Sparse.mem_row h hu]
        simp only [hother u _ hui huj]
  · intro u hu
    have hu' : u < g.n := hu
    rw [hrow u]
    show ((g.deg.setIfInBounds i _).setIfInBounds j _)[u]? = _
    rw [get?_set_add c hdj', get?_set_add c (h.deg_len i hi)]
    by_cases huj : u = j
    · subst huj; simp [hlj]
    · by_cases hui : u = i
      · subst hui; simp [huj, hli]
      · simp [huj, hui, h.deg_len u hu']
  · exact hm

theorem Sparse.edit_two_run {g : Sparse} (h : g.WF) {i j : Nat} (hi : i < g.n) (hj : j < g.n) (hij : i ≠ j)
    (f1 f2 : List Int → List Int) (c : Int) :
    modifyI g.nbrs (i : Int) f1 = .ok (g.nbrs.setIfInBounds i (f1 (g.row i))) ∧
    modifyI (g.nbrs.setIfInBounds i (f1 (g.row i))) (j : Int) f2 =
      .ok ((g.nbrs.setIfInBounds i (f1 (g.row i))).setIfInBounds j (f2 (g.row j))) ∧
    addA g.deg i c = .ok (g.deg.setIfInBounds i (↑(g.row i).length + c)) ∧
    addA (g.deg.setIfInBounds i (↑(g.row i).length + c)) j c =
      .ok ((g.deg.setIfInBounds i (↑(g.row i).length + c)).setIfInBounds j (↑(g.row j).length + c)) := by
  have hri := Sparse.row_get h hi
  have hrj := Sparse.row_get h hj
  have hrj' : (g.nbrs.setIfInBounds i (f1 (g.row i)))[j]? = some (g.row j) := by
    rw [Array.getElem?_setIfInBounds_ne hij]; exact hrj
  have hdj' : (g.deg.setIfInBounds i (↑(g.row i).length + c))[j]? = some ((g.row j).length : Int) := by
    rw [get?_set_add c (h.deg_len i hi), if_neg (fun e => hij e.symm)]; exact h.deg_len j hj
  exact ⟨modifyI_okI _ (Int.natCast_nonneg i) hri, modifyI_okI _ (Int.natCast_nonneg j) hrj',
    addA_ok c (h.deg_len i hi), addA_ok c hdj'⟩

theorem Sparse.addEdge_spec {g : Sparse} (h : g.WF) {i j : Nat} (hi : i < g.n) (hj : j < g.n) :
    ∃ g', g.addEdge i j = .ok g' ∧ g'.WF ∧ g'.abs = addEdgeG g.abs i j := by
  have hw := Sparse.abs_wf h
  unfold Sparse.addEdge
  by_cases hij : i = j
  · rw [if_pos hij]; exact ⟨g, rfl, h, (addEdgeG_noop hw (Or.inl hij)).symm⟩
  · rw [if_neg hij, Sparse.isEdge_eq h hi hj]
    cases hadj : g.abs.adj i j
    · simp only
      have hnj : (j : Int) ∉ g.row i := by
        intro hc
        rw [Sparse.abs_adj hi hj] at hadj
        simp [hc] at hadj
      have hni : (i : Int) ∉ g.row j := fun hc => hnj ((h.symm i j hi hj).mpr hc)
      obtain ⟨s1, m1, l1⟩ := addSingle_spec (h.sorted i hi) (j : Int)
      obtain ⟨s2, m2, l2⟩ := addSingle_spec (h.sorted j hj) (i : Int)
      obtain ⟨r1, r2, r3, r4⟩ := Sparse.edit_two_run h hi hj hij (fun l => addSingle l j)
        (fun l => addSingle l i) 1
      rw [r1]; simp only
      rw [r2]; simp only
      rw [r3]; simp only
      rw [r4]; simp only
      refine ⟨_, rfl, ?_⟩
      exact Sparse.edit_two h hi hj hij (addSingle (g.row i) j) (addSingle (g.row j) i) 1
        (addEdgeG g.abs i j) (addEdgeG_wf hw hi hj) rfl s1 s2
        (by rw [l1, if_neg hnj]; simp) (by rw [l2, if_neg hni]; simp)
        (by
          intro x
          rw [m1, Sparse.mem_row h hi]
          constructor
          · rintro (rfl | ⟨v, rfl, hv⟩)
            · exact ⟨j, rfl, (addEdgeG_adj_true _ hij _ _).mpr (Or.inr (Or.inl ⟨rfl, rfl⟩))⟩
            · exact ⟨v, rfl, (addEdgeG_adj_true _ hij _ _).mpr (Or.inl hv)⟩
          · rintro ⟨v, rfl, hv⟩
            rcases (addEdgeG_adj_true _ hij _ _).mp hv with hv | ⟨_, rfl⟩ | ⟨e, _⟩
            · exact Or.inr ⟨v, rfl, hv⟩
            · exact Or.inl rfl
            · exact absurd e hij)
        (by
          intro x
          rw [m2, Sparse.mem_row h hj]
          constructor
          · rintro (rfl | ⟨v, rfl, hv⟩)
            · exact ⟨i, rfl, (addEdgeG_adj_true _ hij _ _).mpr (Or.inr (Or.inr ⟨rfl, rfl⟩))⟩
            · exact ⟨v, rfl, (addEdgeG_adj_true _ hij _ _).mpr (Or.inl hv)⟩
          · rintro ⟨v, rfl, hv⟩
            rcases (addEdgeG_adj_true _ hij _ _).mp hv with hv | ⟨e, _⟩ | ⟨_, rfl⟩
            · exact Or.inr ⟨v, rfl, hv⟩
            · exact absurd e.symm hij
            · exact Or.inl rfl)
        (by
          intro u v hui huj
          have e1 : (u == i) = false := by simpa using hui
          have e2 : (u == j) = false := by simpa using huj
          simp [addEdgeG, e1, e2])
        (by rw [m_addEdgeG hw hi hj hij hadj, h.m_eq]; simp)
    · exact ⟨g, rfl, h, (addEdgeG_noop hw (Or.inr hadj)).symm⟩

theorem Sparse.removeEdge_spec {g : Sparse} (h : g.WF) {i j : Nat} (hi : i < g.n) (hj : j < g.n) :
    ∃ g', g.removeEdge i j = .ok g' ∧ g'.WF ∧ g'.abs = removeEdgeG g.abs i j := by
  have hw := Sparse.abs_wf h
  unfold Sparse.removeEdge
  by_cases hij : i = j
  · rw [if_pos hij]
    refine ⟨g, rfl, h, (removeEdgeG_noop hw ?_).symm⟩
    subst hij; exact hw.irrefl i
  · rw [if_neg hij, Sparse.isEdge_eq h hi hj]
    cases hadj : g.abs.adj i j
    · exact ⟨g, rfl, h, (removeEdgeG_noop hw hadj).symm⟩
    · simp only
      have hnj : (j : Int) ∈ g.row i := (Sparse.abs_adj_true.mp hadj).2.2
      have hni : (i : Int) ∈ g.row j := (h.symm i j hi hj).mp hnj
      obtain ⟨s1, m1, l1⟩ := removeS_spec (h.sorted i hi) (j : Int)
      obtain ⟨s2, m2, l2⟩ := removeS_spec (h.sorted j hj) (i : Int)
      obtain ⟨r1, r2, r3, r4⟩ := Sparse.edit_two_run h hi hj hij (fun l => removeS l j)
        (fun l => removeS l i) (-1)
      rw [r1]; simp only
      rw [r2]; simp only
      rw [r3]; simp only
      rw [r4]; simp only
      refine ⟨_, rfl, ?_⟩
      have hp1 : 0 < (g.row i).length := List.length_pos_of_mem hnj
      have hp2 : 0 < (g.row j).length := List.length_pos_of_mem hni
      exact Sparse.edit_two h hi hj hij (removeS (g.row i) j) (removeS (g.row j) i) (-1)
        (removeEdgeG g.abs i j) (removeEdgeG_wf hw i j) rfl s1 s2
        (by rw [l1, if_pos hnj]; omega) (by rw [l2, if_pos hni]; omega)
        (by
          intro x
          rw [m1, Sparse.mem_row h hi]
          constructor
          · rintro ⟨⟨v, rfl, hv⟩, hne⟩
            refine ⟨v, rfl, (removeEdgeG_adj_true _ _ _ _ _).mpr ⟨hv, fun _ e => hne (by rw [e]), fun e => absurd e hij⟩⟩
          · rintro ⟨v, rfl, hv⟩
            obtain ⟨h1, h2, _⟩ := (removeEdgeG_adj_true _ _ _ _ _).mp hv
            exact ⟨⟨v, rfl, h1⟩, fun e => h2 rfl (by exact_mod_cast e)⟩)
        (by
          intro x
          rw [m2, Sparse.mem_row h hj]
          constructor
          · rintro ⟨⟨v, rfl, hv⟩, hne⟩
            refine ⟨v, rfl, (removeEdgeG_adj_true _ _ _ _ _).mpr ⟨hv, fun e => absurd e.symm hij, fun _ e => hne (by rw [e])⟩⟩
          · rintro ⟨v, rfl, hv⟩
            obtain ⟨h1, _, h3⟩ := (removeEdgeG_adj_true _ _ _ _ _).mp hv
            exact ⟨⟨v, rfl, h1⟩, fun e => h3 rfl (by exact_mod_cast e)⟩)
        (by
          intro u v hui huj
          have e1 : (u == i) = false := by simpa using hui
          have e2 : (u == j) = false := by simpa using huj
          simp [removeEdgeG, e1, e2])
        (by
          have := m_removeEdgeG hw hi hj hij hadj
          rw [h.m_eq, ← this]; simp [Int.add_neg_cancel_right])

theorem Sparse.new_row (n u : Nat) : (Sparse.new n).row u = [] := by
  unfold Sparse.row Sparse.new
  rw [Array.getD_eq_getD_getElem?]
  simp only [Array.getElem?_replicate]
  split <;> rfl

theorem Sparse.new_wf (n : Nat) : (Sparse.new n).WF := by
  have hadj : ∀ u v, (Sparse.new n).abs.adj u v = false := by
    intro u v; simp [Sparse.abs, Sparse.new_row]
  have hc := empty_counts (g := (Sparse.new n).abs) hadj
  refine ⟨by simp [Sparse.new], by simp [Sparse.new], ?_, ?_, ?_, ?_, ?_, ?_⟩
  · intro u _; rw [Sparse.new_row]; exact List.Pairwise.nil
  · intro u _ x hx; rw [Sparse.new_row] at hx; cases hx
  · intro u v _ _; rw [Sparse.new_row, Sparse.new_row]; simp
  · intro u _ hx; rw [Sparse.new_row] at hx; cases hx
  · intro u hu
    have hu' : u < n := hu
    rw [Sparse.new_row]; simp [Sparse.new, hu']
  · rw [hc.1]; rfl

theorem new_abs_eq (n : Nat) : (Dense.new n).abs = (Sparse.new n).abs := by
  refine G_ext rfl ?_
  intro u v
  rw [Dense.new_adj]
  simp [Sparse.abs, Sparse.new_row]

end GraphRep
