import Mamba.Lemmas.C06Hand
import Mathlib.Data.List.Nodup
import Mathlib.Tactic.Ring
/-! C06: `CompletePartiteGraph`. -/
namespace Construct
open GraphSpec

/-- byte positions written for the part `[s, s+p)` : all `(j, k)` with `s ≤ j < s+p ≤ k < n` -/
def cpBlock (s p n : Nat) : List Nat :=
  (List.range' (s + p) (n - (s + p))).flatMap fun k => (List.range' s (s + p - s)).map fun j => (k * (k - 1)) / 2 + j

/-- all positions written by the loop over the parts `nums`, the first of which starts at vertex `s` -/
def cpIdxs (n : Nat) : Nat → List Nat → List Nat
  | _, [] => []
  | s, p :: rest => cpBlock s p n ++ cpIdxs n (s + p) rest

theorem mem_cpBlock {s p n x : Nat} : x ∈ cpBlock s p n ↔ ∃ j k, s ≤ j ∧ j < s + p ∧ s + p ≤ k ∧ k < n ∧ x = tri k + j := by
  simp only [cpBlock, List.mem_flatMap, List.mem_range'_1, List.mem_map, tri_def]
  constructor
  · rintro ⟨k, hk, j, hj, rfl⟩; exact ⟨j, k, by omega, by omega, by omega, by omega, rfl⟩
  · rintro ⟨j, k, h1, h2, h3, h4, rfl⟩; exact ⟨k, by omega, j, by omega, rfl⟩

theorem mem_cpIdxs {n : Nat} (nums : List Nat) (s x : Nat) (hx : x ∈ cpIdxs n s nums) :
    ∃ j k, s ≤ j ∧ j < k ∧ k < n ∧ x = tri k + j := by
  induction nums generalizing s with
  | nil => simp [cpIdxs] at hx
  | cons p rest ih =>
    simp only [cpIdxs, List.mem_append] at hx
    rcases hx with hx | hx
    · obtain ⟨j, k, h1, h2, h3, h4, rfl⟩ := mem_cpBlock.mp hx
      exact ⟨j, k, h1, by omega, h4, rfl⟩
    · obtain ⟨j, k, h1, h2, h3, rfl⟩ := ih (s + p) hx
      exact ⟨j, k, by omega, h2, h3, rfl⟩

theorem cpIdxs_lt {n : Nat} (nums : List Nat) (s : Nat) : ∀ x ∈ cpIdxs n s nums, x < tri n := by
  intro x hx
  obtain ⟨j, k, _, h2, h3, rfl⟩ := mem_cpIdxs nums s x hx
  exact tri_add_lt h2 h3

theorem nodup_cpBlock (s p n : Nat) : (cpBlock s p n).Nodup := by
  unfold cpBlock
  rw [List.nodup_flatMap]
  constructor
  · intro k _
    exact (List.nodup_range').map (fun a b h => by simpa using h)
  · refine List.Pairwise.imp_of_mem ?_ (List.nodup_range' (s := s + p) (n := n - (s + p)))
    intro a b ha hb hab
    rw [List.mem_range'_1] at ha hb
    simp only [Function.onFun, tri_def]
    rw [List.disjoint_left]
    intro x hx1 hx2
    simp only [List.mem_map, List.mem_range'_1] at hx1 hx2
    obtain ⟨j, hj, rfl⟩ := hx1
    obtain ⟨j', hj', e⟩ := hx2
    have := tri_inj (show j' < b by omega) (show j < a by omega) e
    omega

theorem nodup_cpIdxs (n : Nat) (nums : List Nat) (s : Nat) : (cpIdxs n s nums).Nodup := by
  induction nums generalizing s with
  | nil => simp [cpIdxs]
  | cons p rest ih =>
    simp only [cpIdxs]
    rw [List.nodup_append]
    refine ⟨nodup_cpBlock s p n, ih (s + p), ?_⟩
    intro a ha b hb hab
    subst hab
    obtain ⟨j, k, h1, h2, h3, h4, rfl⟩ := mem_cpBlock.mp ha
    obtain ⟨j', k', g1, g2, g3, e⟩ := mem_cpIdxs rest (s + p) _ hb
    have := tri_inj (show j < k by omega) g2 e
    omega

theorem mem_cpIdxs_iff (nums : List Nat) (s n u v : Nat) (hn : n = s + nums.sum) (hsu : s ≤ u) (huv : u < v) (hv : v < n) :
    tri v + u ∈ cpIdxs n s nums ↔ Families.partOf nums (u - s) ≠ Families.partOf nums (v - s) := by
  induction nums generalizing s with
  | nil => simp at hn; omega
  | cons p rest ih =>
    simp only [cpIdxs, List.mem_append, Families.partOf]
    have hn' : n = s + p + rest.sum := by simp at hn; omega
    by_cases hu : u < s + p
    · have h1 : u - s < p := by omega
      have hnot : tri v + u ∉ cpIdxs n (s + p) rest := by
        intro hx
        obtain ⟨j, k, g1, g2, g3, e⟩ := mem_cpIdxs rest (s + p) _ hx
        have := tri_inj huv g2 e; omega
      by_cases hv' : v < s + p
      · have h2 : v - s < p := by omega
        simp only [h1, h2, ↓reduceIte, ne_eq, not_true_eq_false, iff_false, not_or]
        refine ⟨?_, hnot⟩
        intro hx
        obtain ⟨j, k, g1, g2, g3, g4, e⟩ := mem_cpBlock.mp hx
        have := tri_inj huv (show j < k by omega) e; omega
      · have h2 : ¬ v - s < p := by omega
        simp only [h1, h2, ↓reduceIte]
        constructor
        · intro _; omega
        · intro _; exact Or.inl (mem_cpBlock.mpr ⟨u, v, hsu, hu, by omega, hv, rfl⟩)
    · have h1 : ¬ u - s < p := by omega
      have h2 : ¬ v - s < p := by omega
      have hnot : tri v + u ∉ cpBlock s p n := by
        intro hx
        obtain ⟨j, k, g1, g2, g3, g4, e⟩ := mem_cpBlock.mp hx
        have := tri_inj huv (show j < k by omega) e; omega
      have := ih (s + p) hn' (by omega)
      simp only [h1, h2, ↓reduceIte, hnot, false_or]
      rw [this, show u - (s + p) = u - s - p by omega, show v - (s + p) = v - s - p by omega]
      omega

/-- size of the part containing vertex `x` (vertices numbered from the start of `nums`) -/
def partSize (nums : List Nat) (x : Nat) : Nat := nums.getD (Families.partOf nums x) 0

theorem partSize_cons_lt (p : Nat) (rest : List Nat) (x : Nat) (h : x < p) : partSize (p :: rest) x = p := by
  simp [partSize, Families.partOf, h]

theorem partSize_cons_ge (p : Nat) (rest : List Nat) (x : Nat) (h : ¬ x < p) :
    partSize (p :: rest) x = partSize rest (x - p) := by
  simp [partSize, Families.partOf, h]

/-- one round of the loop over the parts -/
def cpStep (n : Nat) (st : PartSt) (v : Nat) : Outcome PartSt := do
  let stop := st.stop + v
  let degree : Int := (n : Int) - (v : Int)
  let deg ← writeAll st.deg (List.range' st.start (stop - st.start)) degree
  let idxs := (List.range' stop (n - stop)).flatMap fun k =>
    (List.range' st.start (stop - st.start)).map fun j => (k * (k - 1)) / 2 + j
  let edges ← writeOnes st.edges idxs
  pure { edges := edges, deg := deg, m := st.m + (idxs.length : Int), start := stop, stop := stop }

/-- the degrees written for the part `[s, s + p)` join those written for the later parts -/
theorem cp_deg_step (n s p sz : Nat) (rest : List Nat) (hsz : s + p ≤ sz) (x : Nat) (d : Option Int) :
    (if s + p ≤ x ∧ x < s + p + rest.sum then some ((n : Int) - (partSize rest (x - (s + p)) : Int))
      else if (s ≤ x ∧ x < s + (s + p - s)) ∧ x < sz then some ((n : Int) - (p : Int)) else d) =
    if s ≤ x ∧ x < s + (p + rest.sum) then some ((n : Int) - (partSize (p :: rest) (x - s) : Int)) else d := by
  by_cases c1 : s + p ≤ x ∧ x < s + p + rest.sum
  · have c2 : s ≤ x ∧ x < s + (p + rest.sum) := by omega
    have c3 : ¬ x - s < p := by omega
    rw [if_pos c1, if_pos c2, partSize_cons_ge p rest _ c3, show x - (s + p) = x - s - p by omega]
  · rw [if_neg c1]
    by_cases c2 : s ≤ x ∧ x < s + (s + p - s)
    · have c3 : s ≤ x ∧ x < s + (p + rest.sum) := by omega
      have c4 : x - s < p := by omega
      rw [if_pos ⟨c2, by omega⟩, if_pos c3, partSize_cons_lt p rest _ c4]
    · have c3 : ¬ (s ≤ x ∧ x < s + (p + rest.sum)) := by omega
      rw [if_neg (fun h => c2 h.1), if_neg c3]

theorem cpFold (n : Nat) (nums : List Nat) (s : Nat) (st : PartSt) (h1 : st.start = s) (h2 : st.stop = s)
    (hn : s + nums.sum ≤ n) (he : st.edges.size = tri n) (hd : st.deg.size = n) :
    ∃ st', nums.foldlM (cpStep n) st = .ok st' ∧ st'.m = st.m + ((cpIdxs n s nums).length : Int) ∧
      st'.edges.size = tri n ∧ st'.deg.size = n ∧
      (∀ k, bitAt st'.edges k = (bitAt st.edges k || decide (k ∈ cpIdxs n s nums))) ∧
      (∀ x, st'.deg[x]? = if s ≤ x ∧ x < s + nums.sum then some ((n : Int) - (partSize nums (x - s) : Int)) else st.deg[x]?) := by
  induction nums generalizing s st with
  | nil => exact ⟨st, rfl, by simp [cpIdxs], he, hd, by simp [cpIdxs], by intro x; simp⟩
  | cons p rest ih =>
    have hsum : s + p + rest.sum ≤ n := by simp at hn; omega
    obtain ⟨dg, g1, g2, g3⟩ := foldlM_setAt ((n : Int) - (p : Int)) (List.range' s (s + p - s)) st.deg (by
      intro k hk; rw [List.mem_range'_1] at hk; omega)
    obtain ⟨e, e1, e2, e3⟩ := writeOnes_ok st.edges (cpBlock s p n) (by
      intro k hk
      obtain ⟨j, k', a1, a2, a3, a4, rfl⟩ := mem_cpBlock.mp hk
      rw [he]; exact tri_add_lt (by omega) a4)
    obtain ⟨st', f1, f2, f3, f4, f5, f6⟩ := ih (s + p)
      { edges := e, deg := dg, m := st.m + ((cpBlock s p n).length : Int), start := s + p, stop := s + p }
      rfl rfl hsum (by rw [e2, he]) (by rw [g2, hd])
    refine ⟨st', ?_, ?_, f3, f4, ?_, ?_⟩
    · simp only [List.foldlM_cons, cpStep, h1, h2, writeAll]
      rw [g1]; simp only [Outcome.bind_ok]
      have : writeOnes st.edges ((List.range' (s + p) (n - (s + p))).flatMap fun k =>
          (List.range' s (s + p - s)).map fun j => (k * (k - 1)) / 2 + j) = .ok e := e1
      rw [this]; simp only [Outcome.bind_ok, Outcome.pure_eq]
      exact f1
    · rw [f2]; simp only [cpIdxs, List.length_append]; push_cast; ring
    · intro k; rw [f5 k, e3 k]; simp only [cpIdxs, List.mem_append, Bool.decide_or, Bool.or_assoc]
    · intro x
      rw [f6 x, g3 x]
      simp only [List.mem_range'_1, List.sum_cons]
      exact cp_deg_step n s p st.deg.size rest (by omega) x _

theorem countP_partOf (nums : List Nat) (c : Nat) :
    (List.range nums.sum).countP (fun u => Families.partOf nums u == c) = nums.getD c 0 := by
  induction nums generalizing c with
  | nil => simp
  | cons p rest ih =>
    rw [List.sum_cons, List.range_add, List.countP_append, List.countP_map]
    have e1 : (List.range p).countP (fun u => Families.partOf (p :: rest) u == c) = if c = 0 then p else 0 := by
      have : (List.range p).countP (fun u => Families.partOf (p :: rest) u == c) = (List.range p).countP (fun _ => decide (c = 0)) := by
        apply List.countP_congr
        intro u hu
        have := List.mem_range.mp hu
        simp only [Families.partOf, this, ↓reduceIte, beq_iff_eq, decide_eq_true_eq]
        exact eq_comm
      rw [this]
      by_cases hc : c = 0 <;> simp [hc]
    have e2 : (List.range rest.sum).countP ((fun u => Families.partOf (p :: rest) u == c) ∘ fun x => p + x) =
        if c = 0 then 0 else rest.getD (c - 1) 0 := by
      by_cases hc : c = 0
      · subst hc
        simp only [↓reduceIte, List.countP_eq_zero]
        intro u _
        simp [Families.partOf]
      · rw [← ih (c - 1)]
        simp only [hc, ↓reduceIte]
        apply List.countP_congr
        intro u _
        simp only [Function.comp, Families.partOf, Nat.add_sub_cancel_left, beq_iff_eq]
        have : ¬ p + u < p := by omega
        simp only [this, ↓reduceIte]; omega
    rw [e1, e2]
    cases c with
    | zero => simp
    | succ k => simp

theorem completePartite_deg (nums : List Nat) (v : Nat) (hv : v < nums.sum) :
    (Families.completePartite nums).deg v + partSize nums v = nums.sum := by
  rw [Families.completePartite, deg_symm _ _ v hv]
  have h := List.length_eq_countP_add_countP (fun u => Families.partOf nums u == Families.partOf nums v) (l := List.range nums.sum)
  rw [countP_partOf] at h
  have : (List.range nums.sum).countP (fun u => u != v && (Families.partOf nums v != Families.partOf nums u || Families.partOf nums u != Families.partOf nums v)) =
      (List.range nums.sum).countP (fun u => ¬ (Families.partOf nums u == Families.partOf nums v) = true) := by
    apply List.countP_congr
    intro u _
    by_cases huv : u = v
    · subst huv; simp
    · have : (u != v) = true := by simp [huv]
      simp only [this, Bool.true_and]
      by_cases hp : Families.partOf nums u = Families.partOf nums v
      · simp [hp]
      · have hp' : ¬ Families.partOf nums v = Families.partOf nums u := fun e => hp e.symm
        simp [hp, hp']
  rw [this]
  simp only [List.length_range, partSize] at h ⊢
  omega

theorem partSize_le (nums : List Nat) (v : Nat) (hv : v < nums.sum) : partSize nums v ≤ nums.sum := by
  have := completePartite_deg nums v hv; omega

theorem completePartiteGraph_ok (nums : List Nat) :
    ∃ d, completePartiteGraph nums = .ok d ∧ d.WF ∧ d.abs = Families.completePartite nums := by
  have hn : nums.foldl (· + ·) 0 = nums.sum := List.sum_eq_foldl.symm
  obtain ⟨st', f1, f2, f3, f4, f5, f6⟩ := cpFold nums.sum nums 0
    { edges := zeros (tri nums.sum), deg := Array.replicate nums.sum 0, m := 0, start := 0, stop := 0 }
    rfl rfl (by simp) (by simp [zeros]) (by simp)
  let d : Dense := ⟨nums.sum, st'.m, st'.deg, st'.edges⟩
  have hs : d.edges.size = tri d.n := f3
  have hbit : ∀ k, bitAt d.edges k = decide (k ∈ cpIdxs nums.sum 0 nums) := by
    intro k; rw [show d.edges = st'.edges from rfl, f5 k, bitAt_zeros]; simp
  have habs : d.abs = Families.completePartite nums := by
    apply abs_eq_symm d hs
    intro u v huv hv
    have hv' : v < nums.sum := hv
    rw [hbit, Bool.eq_iff_iff, decide_eq_true_eq,
      mem_cpIdxs_iff nums 0 nums.sum u v (by simp) (by omega) huv hv']
    simp only [Nat.sub_zero, ne_eq, Bool.or_eq_true, bne_iff_ne]
    constructor
    · intro h; exact Or.inl h
    · rintro (h | h)
      · exact h
      · exact fun e => h e.symm
  refine ⟨d, ?_, ⟨hs, f4, ?_, ?_⟩, habs⟩
  · unfold completePartiteGraph
    simp only [hn, tri_def]
    have : (fun (st : PartSt) (v : Nat) => (do
        let stop := st.stop + v
        let degree : Int := (nums.sum : Int) - (v : Int)
        let deg ← writeAll st.deg (List.range' st.start (stop - st.start)) degree
        let idxs := (List.range' stop (nums.sum - stop)).flatMap fun k =>
          (List.range' st.start (stop - st.start)).map fun j => (k * (k - 1)) / 2 + j
        let edges ← writeOnes st.edges idxs
        pure { edges := edges, deg := deg, m := st.m + (idxs.length : Int), start := stop, stop := stop } : Outcome PartSt)) =
        cpStep nums.sum := rfl
    simp only [tri_def] at this
    rw [this, f1]; rfl
  · show st'.m = ((d.abs).m : Int)
    rw [m_of_idxs d hs _ (nodup_cpIdxs nums.sum nums 0) (cpIdxs_lt nums 0) hbit, f2]; simp
  · intro v hv
    have hv' : v < nums.sum := hv
    show st'.deg[v]? = some ((d.abs.deg v : Nat) : Int)
    rw [f6 v, habs]
    have := completePartite_deg nums v hv'
    simp only [Nat.zero_le, Nat.zero_add, hv', and_self, ↓reduceIte, Nat.sub_zero, Option.some.injEq]
    omega

end Construct
