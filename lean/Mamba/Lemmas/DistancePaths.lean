import Mamba.Spec.Distance
import Mathlib.Data.List.Nodup
/-!
# Lemmas for C10: the path enumeration `pathsFrom` lists every path of the given kind exactly once
-/
namespace GDist
open GraphSpec

variable {g : G} {good : List Nat → Nat → Bool} {s : Nat}

theorem mem_extend {p q : List Nat} :
    q ∈ extend g good p ↔ ∃ h t w, p = h :: t ∧ w < g.n ∧ g.adj h w = true ∧ good p w = true ∧ q = w :: p := by
  cases p with
  | nil => simp [extend]
  | cons h t =>
    simp only [extend, List.mem_map, List.mem_filter, List.mem_range, Bool.and_eq_true]
    constructor
    · rintro ⟨w, ⟨hw, hadj, hgood⟩, rfl⟩
      exact ⟨h, t, w, rfl, hw, hadj, hgood, rfl⟩
    · rintro ⟨h', t', w, heq, hw, hadj, hgood, rfl⟩
      cases heq
      exact ⟨w, ⟨hw, hadj, hgood⟩, rfl⟩

theorem builtFrom_nil : ¬ BuiltFrom g good s [] := by
  intro h; cases h

theorem builtFrom_singleton {x : Nat} : BuiltFrom g good s [x] ↔ x = s ∧ s < g.n := by
  constructor
  · intro h; cases h with
    | base h => exact ⟨rfl, h⟩
  · rintro ⟨rfl, h⟩; exact .base h

theorem builtFrom_cons_cons {w h : Nat} {t : List Nat} :
    BuiltFrom g good s (w :: h :: t) ↔
      BuiltFrom g good s (h :: t) ∧ w < g.n ∧ g.adj h w = true ∧ good (h :: t) w = true := by
  constructor
  · intro hb; cases hb with
    | ext h1 h2 h3 h4 => exact ⟨h1, h2, h3, h4⟩
  · rintro ⟨h1, h2, h3, h4⟩; exact .ext h1 h2 h3 h4

theorem mem_pathsFrom {k : Nat} {p : List Nat} :
    p ∈ pathsFrom g good s k ↔ BuiltFrom g good s p ∧ p.length = k + 1 := by
  induction k generalizing p with
  | zero =>
    simp only [pathsFrom]
    by_cases hs : s < g.n
    · simp only [hs, if_true, List.mem_singleton]
      constructor
      · rintro rfl; exact ⟨.base hs, rfl⟩
      · rintro ⟨hb, hl⟩
        match p, hl with
        | [x], _ => rw [(builtFrom_singleton.1 hb).1]
    · simp only [hs, if_false, List.not_mem_nil, false_iff]
      rintro ⟨hb, hl⟩
      match p, hl with
      | [x], _ => exact hs (builtFrom_singleton.1 hb).2
  | succ k ih =>
    simp only [pathsFrom, List.mem_flatMap]
    constructor
    · rintro ⟨q, hq, hp⟩
      obtain ⟨hbq, hlq⟩ := ih.1 hq
      obtain ⟨h, t, w, rfl, hw, hadj, hgood, rfl⟩ := mem_extend.1 hp
      exact ⟨.ext hbq hw hadj hgood, by simp at hlq ⊢; omega⟩
    · rintro ⟨hb, hl⟩
      match p, hl with
      | w :: h :: t, hl =>
        obtain ⟨h1, h2, h3, h4⟩ := builtFrom_cons_cons.1 hb
        refine ⟨h :: t, ih.2 ⟨h1, by simp at hl ⊢; omega⟩, mem_extend.2 ⟨h, t, w, rfl, h2, h3, h4, rfl⟩⟩

theorem nodup_extend (p : List Nat) : (extend g good p).Nodup := by
  cases p with
  | nil => simp [extend]
  | cons h t =>
    simp only [extend]
    apply List.Nodup.map
    · intro a b hab; simpa using hab
    · exact List.nodup_range.filter _

theorem nodup_pathsFrom (k : Nat) : (pathsFrom g good s k).Nodup := by
  induction k with
  | zero => simp only [pathsFrom]; split <;> simp
  | succ k ih =>
    simp only [pathsFrom]
    rw [List.nodup_flatMap]
    refine ⟨fun p _ => nodup_extend p, ?_⟩
    refine List.Pairwise.imp ?_ ih
    intro p q hpq
    simp only [Function.onFun]
    rw [List.disjoint_left]
    intro x hxp hxq
    obtain ⟨_, _, _, _, _, _, _, rfl⟩ := mem_extend.1 hxp
    obtain ⟨_, _, _, _, _, _, _, h⟩ := mem_extend.1 hxq
    simp at h
    exact hpq h.2

theorem isRPath_singleton {x : Nat} : IsRPath g s [x] ↔ x = s ∧ s < g.n := by
  simp only [IsRPath, List.getLast?_singleton, Option.some.injEq, List.nodup_cons, List.not_mem_nil,
    not_false_eq_true, List.nodup_nil, and_self, List.mem_singleton, forall_eq, chainAdj, and_true, true_and]
  constructor
  · rintro ⟨rfl, h⟩; exact ⟨rfl, h⟩
  · rintro ⟨rfl, h⟩; exact ⟨rfl, h⟩

theorem isRPath_cons_cons {w h : Nat} {t : List Nat} :
    IsRPath g s (w :: h :: t) ↔ IsRPath g s (h :: t) ∧ w < g.n ∧ g.adj h w = true ∧ w ∉ h :: t := by
  simp only [IsRPath, List.getLast?_cons_cons, chainAdj]
  constructor
  · rintro ⟨h1, h2, h3, h4, h5⟩
    obtain ⟨h2a, h2b⟩ := List.nodup_cons.1 h2
    exact ⟨⟨h1, h2b, fun x hx => h3 x (List.mem_cons_of_mem _ hx), h5⟩, h3 w List.mem_cons_self, h4, h2a⟩
  · rintro ⟨⟨h1, h2, h3, h4⟩, h5, h6, h7⟩
    refine ⟨h1, List.nodup_cons.2 ⟨h7, h2⟩, ?_, h6, h4⟩
    intro x hx
    rcases List.mem_cons.1 hx with rfl | hx
    · exact h5
    · exact h3 x hx

theorem isRPath_nil : ¬ IsRPath g s [] := by
  intro h; simp [IsRPath] at h

theorem builtFrom_simple_iff {p : List Nat} : BuiltFrom g goodSimple s p ↔ IsRPath g s p := by
  induction p with
  | nil => exact ⟨fun h => absurd h builtFrom_nil, fun h => absurd h isRPath_nil⟩
  | cons w t ih =>
    cases t with
    | nil => rw [builtFrom_singleton, isRPath_singleton]
    | cons h t =>
      rw [builtFrom_cons_cons, isRPath_cons_cons, ih]
      simp [goodSimple]

theorem builtFrom_above_iff {p : List Nat} :
    BuiltFrom g (goodAbove s) s p ↔ IsRPath g s p ∧ ∀ x ∈ p.dropLast, s < x := by
  induction p with
  | nil => exact ⟨fun h => absurd h builtFrom_nil, fun h => absurd h.1 isRPath_nil⟩
  | cons w t ih =>
    cases t with
    | nil => rw [builtFrom_singleton, isRPath_singleton]; simp
    | cons h t =>
      rw [builtFrom_cons_cons, isRPath_cons_cons, ih]
      simp only [goodAbove, Bool.and_eq_true, decide_eq_true_eq, Bool.not_eq_true', List.dropLast_cons_cons,
        List.mem_cons, forall_eq_or_imp]
      constructor
      · rintro ⟨⟨h1, h2⟩, h3, h4, h5, h6⟩
        exact ⟨⟨h1, h3, h4, by simpa using h6⟩, h5, h2⟩
      · rintro ⟨⟨h1, h3, h4, h6⟩, h5, h2⟩
        exact ⟨⟨h1, h2⟩, h3, h4, h5, by simpa using h6⟩

theorem builtFrom_induced_iff {p : List Nat} :
    BuiltFrom g (goodInduced g) s p ↔ IsRPath g s p ∧ chordlessPath g p = true := by
  induction p with
  | nil => exact ⟨fun h => absurd h builtFrom_nil, fun h => absurd h.1 isRPath_nil⟩
  | cons w t ih =>
    cases t with
    | nil => rw [builtFrom_singleton, isRPath_singleton]; simp [chordlessPath]
    | cons h t =>
      rw [builtFrom_cons_cons, isRPath_cons_cons, ih]
      simp only [goodInduced, Bool.and_eq_true, Bool.not_eq_true', List.tail_cons, chordlessPath]
      constructor
      · rintro ⟨⟨h1, h2⟩, h3, h4, h5, h6⟩
        exact ⟨⟨h1, h3, h4, by simpa using h5⟩, h6, h2⟩
      · rintro ⟨⟨h1, h3, h4, h5⟩, h6, h2⟩
        exact ⟨⟨h1, h2⟩, h3, h4, by simpa using h5, h6⟩

end GDist
