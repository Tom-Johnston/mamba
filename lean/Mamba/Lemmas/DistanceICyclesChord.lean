import Mamba.Lemmas.DistanceIPathsSeq
/-!
# Lemmas for C10: chordlessness of a cycle sequence is invariant under rotation and reflection
-/
namespace GDist
open GraphSpec List

variable {g : G}

theorem chordlessCyc_iff (c : List Nat) :
    chordlessCyc g c = true ↔
      ∀ i j (hi : i < c.length) (hj : j < c.length), i + 1 < j → ¬ (i = 0 ∧ j + 1 = c.length) →
        g.adj c[i] c[j] = false := by
  cases c with
  | nil => simp [chordlessCyc]
  | cons x rest =>
    simp only [chordlessCyc, Bool.and_eq_true, List.all_eq_true, Bool.not_eq_true']
    rw [chordlessPath_iff]
    constructor
    · rintro ⟨h1, h2⟩ i j hi hj hij hnc
      cases i with
      | zero =>
        cases j with
        | zero => omega
        | succ j =>
          simp only [List.getElem_cons_zero, List.getElem_cons_succ]
          apply h1
          have hj' : j < rest.length := by simpa using hj
          -- rest[j] with 1 ≤ j ≤ |rest| - 2 lies in rest.tail.dropLast
          have hj1 : 1 ≤ j := by omega
          have hj2 : j + 1 < rest.length := by simp at hnc; omega
          rw [List.mem_iff_getElem]
          refine ⟨j - 1, by simp; omega, ?_⟩
          simp only [List.getElem_dropLast, List.getElem_tail]
          congr 1; omega
      | succ i =>
        cases j with
        | zero => omega
        | succ j =>
          simp only [List.getElem_cons_succ]
          exact h2 i j (by simpa using hi) (by simpa using hj) (by omega)
    · intro hall
      constructor
      · intro y hy
        obtain ⟨k, hk, rfl⟩ := List.mem_iff_getElem.1 hy
        have hk' : k + 2 < rest.length := by simp at hk; omega
        have := hall 0 (k + 2) (by simp) (by simp; omega) (by omega) (by simp; omega)
        simp only [List.getElem_dropLast, List.getElem_tail]
        simpa using this
      · intro i j hi hj hij
        have := hall (i+1) (j+1) (by simp; omega) (by simp; omega) (by omega) (by omega)
        simpa using this

theorem chordlessCyc_rotate_one (hsym : ∀ u v, g.adj u v = g.adj v u) {c : List Nat}
    (h : chordlessCyc g c = true) : chordlessCyc g (c.rotate 1) = true := by
  cases c with
  | nil => simpa using h
  | cons a t =>
    have hrot : (a :: t).rotate 1 = t ++ [a] := by simp [List.rotate_cons_succ]
    rw [hrot]
    rw [chordlessCyc_iff] at h ⊢
    intro i j hi hj hij hnc
    have hlen : (t ++ [a]).length = t.length + 1 := by simp
    rw [hlen] at hi hj hnc
    by_cases hjl : j < t.length
    · have hil : i < t.length := by omega
      rw [List.getElem_append_left hil, List.getElem_append_left hjl]
      have := h (i+1) (j+1) (by simp; omega) (by simp; omega) (by omega) (by omega)
      simpa using this
    · have hj' : j = t.length := by omega
      subst hj'
      have hil : i < t.length := by omega
      rw [List.getElem_append_left hil, List.getElem_append_right (Nat.le_refl _)]
      simp only [Nat.sub_self, List.getElem_cons_zero]
      have hi1 : 1 ≤ i := by
        by_contra h0
        exact hnc ⟨by omega, rfl⟩
      have := h 0 (i+1) (by simp) (by simp; omega) (by omega) (by simp; omega)
      rw [hsym]
      simpa using this

theorem chordlessCyc_of_isRotated (hsym : ∀ u v, g.adj u v = g.adj v u) {c d : List Nat}
    (h : chordlessCyc g c = true) (hr : c ~r d) : chordlessCyc g d = true := by
  obtain ⟨k, rfl⟩ := hr
  induction k with
  | zero => simpa using h
  | succ k ih =>
    have := chordlessCyc_rotate_one hsym ih
    rwa [List.rotate_rotate] at this

theorem chordlessCyc_reverse (hsym : ∀ u v, g.adj u v = g.adj v u) {c : List Nat}
    (h : chordlessCyc g c = true) : chordlessCyc g c.reverse = true := by
  rw [chordlessCyc_iff] at h ⊢
  intro i j hi hj hij hnc
  have hi' : i < c.length := by simpa using hi
  have hj' : j < c.length := by simpa using hj
  rw [List.length_reverse] at hnc
  rw [List.getElem_reverse, List.getElem_reverse, hsym]
  exact h _ _ (by omega) (by omega) (by omega) (by omega)

end GDist
