import Mamba.Lemmas.SparseVertex
/-!
# SparseGraph.RemoveVertex refines `removeVertexG` (property C05)

A loop over the list of `i` removes `i` from the list of every neighbour (`Sparse.pairStep_loop`), entry `i` of both arrays
is erased, and every list is renumbered. On a strictly increasing list the renumbering is the element-wise map `down i`
(`renumber_eq`), which is the inverse of `up i` (`down_up`) and monotone away from `i` (`down_lt`): the list of the new
vertex `a` is `(removeS (row (up i a)) i).map (down i)`, and `Sparse.wf_of` applies.
-/
namespace GraphRep
open GraphSpec

/-- the renumbering of `RemoveVertex(i)` on one list element -/
def down (i : Nat) (z : Int) : Int := if z < (i : Int) then z else z - 1

/-- on a sorted list the lower-bound split of `renumber` is an element-wise map -/
theorem renumber_eq {l : List Int} (h : SInc l) (i : Nat) : Sparse.renumber i l = l.map (down i) := by
  induction l with
  | nil => rfl
  | cons y ys ih =>
    obtain ⟨hy, hys⟩ := sinc_cons h
    unfold Sparse.renumber
    simp only [searchInts_cons]
    by_cases hlt : y < (i : Int)
    · rw [if_pos hlt]
      simp only [List.take_succ_cons, List.drop_succ_cons, List.cons_append, List.map_cons]
      have := ih hys
      unfold Sparse.renumber at this
      simp only at this
      rw [this]
      simp [down, hlt]
    · rw [if_neg hlt]
      simp only [List.take_zero, List.drop_zero, List.nil_append]
      apply List.map_congr_left
      intro z hz
      have : ¬ z < (i : Int) := by
        rcases List.mem_cons.mp hz with rfl | hz
        · exact hlt
        · have := hy z hz; omega
      simp [down, this]

theorem down_lt {i : Nat} {a b : Int} (hab : a < b) (hb : b ≠ i) : down i a < down i b := by
  unfold down; split <;> split <;> omega

theorem down_up (i v : Nat) : down i ((up i v : Nat) : Int) = (v : Int) := by
  unfold down up
  split
  · rename_i h; simp [h]
  · rename_i h
    have : ¬ ((v + 1 : Nat) : Int) < (i : Int) := by omega
    rw [if_neg this]; omega

theorem removeS_not_mem {l : List Int} (h : SInc l) {x : Int} (hx : x ∉ l) : removeS l x = l := by
  obtain ⟨s, m, _⟩ := removeS_spec h x
  apply sinc_ext s h
  intro z
  rw [m]
  exact ⟨fun hz => hz.1, fun hz => ⟨hz, fun e => hx (e ▸ hz)⟩⟩

theorem Sparse.removeVertex_spec {g : Sparse} (h : g.WF) {i : Nat} (hi : i < g.n) :
    ∃ g', g.removeVertex i = .ok g' ∧ g'.WF ∧ g'.abs = removeVertexG g.abs i := by
  have hw := Sparse.abs_wf h
  have hnd : (g.row i).Nodup := (h.sorted i hi).imp (fun hab => Int.ne_of_lt hab)
  obtain ⟨nb1, d1, hrun, s1, s2, g1, g2⟩ := Sparse.pairStep_loop (fun l => removeS l i) (· - 1) g.n
    (g.row i) g.nbrs g.deg hnd (h.inrange i hi) h.nbrs_size h.deg_size
  obtain ⟨nb2, hnb2, sz2, get2⟩ := eraseAt_ok (a := nb1) (v := i) (by omega)
  obtain ⟨d2, hd2, szd2, getd2⟩ := eraseAt_ok (a := d1) (v := i) (by omega)
  unfold Sparse.removeVertex
  rw [h.deg_len i hi, Sparse.row_get h hi]
  simp only [hrun, hnb2, hd2]
  refine ⟨_, rfl, ?_⟩
  have hup : ∀ a, a < g.n - 1 → up i a < g.n := fun a ha => by unfold up; split <;> omega
  -- every list has lost `i` (the lists the loop did not visit never held it), then is renumbered
  have hrow : ∀ a, a < g.n - 1 → Sparse.row ⟨g.n - 1, g.m - ((g.row i).length : Int),
      nb2.map (Sparse.renumber i), d2⟩ a = (removeS (g.row (up i a)) i).map (down i) := by
    intro a ha
    have hua := hup a ha
    have ss := (removeS_spec (h.sorted _ hua) (i : Int)).1
    unfold Sparse.row
    simp only
    rw [Array.getD_eq_getD_getElem?, Array.getElem?_map, get2 a, g1 (up i a), Sparse.row_get h hua]
    simp only [Option.map_some, Option.getD_some]
    split
    · exact renumber_eq ss i
    · rename_i hm
      rw [← removeS_not_mem (h.sorted _ hua) (fun c => hm ((h.symm i _ hi hua).mpr c))]
      exact renumber_eq ss i
  apply Sparse.wf_of (removeVertexG_wf hw hi) rfl
  · show (nb2.map _).size = g.n - 1
    rw [Array.size_map, sz2, s1]
  · show d2.size = g.n - 1
    rw [szd2, s2]
  · intro a ha
    obtain ⟨p1, p2, _⟩ := removeS_spec (h.sorted _ (hup a ha)) (i : Int)
    rw [hrow a ha, SInc, List.pairwise_map]
    exact p1.imp_of_mem fun _ hy hxy => down_lt hxy ((p2 _).mp hy).2
  · intro a ha x
    have hua := hup a ha
    obtain ⟨_, p2, _⟩ := removeS_spec (h.sorted _ hua) (i : Int)
    rw [hrow a ha, List.mem_map]
    constructor
    · rintro ⟨z, hz, rfl⟩
      obtain ⟨hz1, hz2⟩ := (p2 z).mp hz
      obtain ⟨w, rfl, hwadj⟩ := (Sparse.mem_row h hua z).mp hz1
      have hwi : w ≠ i := fun e => hz2 (by rw [e])
      refine ⟨if w < i then w else w - 1, ?_, ?_⟩
      · unfold down; split <;> split <;> omega
      · show g.abs.adj (up i a) (up i (if w < i then w else w - 1)) = true
        have : up i (if w < i then w else w - 1) = w := by
          by_cases hwl : w < i
          · rw [if_pos hwl, up_lt hwl]
          · rw [if_neg hwl, up_ge (by omega)]; omega
        rw [this]; exact hwadj
    · rintro ⟨v, rfl, hv⟩
      have hv' : g.abs.adj (up i a) (up i v) = true := hv
      refine ⟨((up i v : Nat) : Int), (p2 _).mpr ⟨(Sparse.mem_row h hua _).mpr ⟨_, rfl, hv'⟩, ?_⟩, down_up i v⟩
      have := up_ne i v
      omega
  · intro a ha
    have hua := hup a ha
    obtain ⟨_, _, p3⟩ := removeS_spec (h.sorted _ hua) (i : Int)
    rw [hrow a ha, List.length_map, p3]
    show d2[a]? = _
    rw [getd2 a, g2 (up i a), h.deg_len _ hua]
    simp only [Option.map_some]
    by_cases hm : ((up i a : Nat) : Int) ∈ g.row i
    · have hi' := (h.symm i _ hi hua).mp hm
      have := List.length_pos_of_mem hi'
      rw [if_pos hm, if_pos hi']; congr 1; omega
    · have hi' : (i : Int) ∉ g.row (up i a) := fun c => hm ((h.symm i _ hi hua).mpr c)
      rw [if_neg hm, if_neg hi']; rfl
  · show g.m - ((g.row i).length : Int) = _
    have hd : ((g.row i).length : Int) = (g.abs.deg i : Int) :=
      Option.some.inj ((h.deg_len i hi).symm.trans (Sparse.deg_eq h hi))
    rw [h.m_eq, hd, ← m_removeVertexG hw hi]; simp

end GraphRep
