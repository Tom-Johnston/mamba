import Mamba.Lemmas.IRPerm
/-!
# Paths in the unpruned tree of `Model/IR.lean`

`IsPath g rf s vs`: starting at the (refined) state `s`, individualising the vertices `vs` one after the other — each one
a member of the target cell of the node reached so far — and refining (`childSt`) stays inside the tree; `nodeAt` is the
node reached. One step keeps the invariants and adds a cell (`childSt_inv`), so a path has at most `n - cells` steps
(`path_cells`, `path_length_le`); a path is cut at any level (`isPath_append`, `isPath_split`, `path_level`). The members of `IR.leaves` are the ends of the paths that end in a node without target
cell or use up the depth fuel (`mem_leaves_iff`); with the fuel of `allLeaves` they are the ends of the maximal paths
(`mem_allLeaves_iff`), and what is known about the leaves is read off the paths.
-/
namespace IR

def childSt (g : G) (rf : Nat) (s : St) (t v : Nat) : St := refine g rf (individualise g s t v)

def IsPath (g : G) (rf : Nat) : St → List Nat → Prop
  | _, [] => True
  | s, v :: vs => ∃ t, target g s = some t ∧ v ∈ cellMembers g s.c t ∧ IsPath g rf (childSt g rf s t v) vs

def nodeAt (g : G) (rf : Nat) : St → List Nat → St
  | s, [] => s
  | s, v :: vs =>
    match target g s with
    | some t => nodeAt g rf (childSt g rf s t v) vs
    | none => s

theorem childSt_inv {g : G} (hg : WF g) (rf : Nat) {s : St} (hA : InvA g s) (hD : InvD g s) {t v : Nat}
    (ht : target g s = some t) (hv : v ∈ cellMembers g s.c t) :
    InvA g (childSt g rf s t v) ∧ InvD g (childSt g rf s t v) ∧ s.cells + 1 ≤ (childSt g rf s t v).cells := by
  obtain ⟨htc, hlen⟩ := target_some ht
  have h : InvA g (individualise g s t v) ∧ InvD g (individualise g s t v) :=
    ⟨ind_invA hA htc v, ind_invD hA hD htc hv hlen⟩
  exact ⟨(refine_inv rf _ h).1, (refine_inv rf _ h).2, refine_cells_le hg rf h⟩

theorem isPath_append {g : G} {rf : Nat} : ∀ (l1 : List Nat) (s : St) (l2 : List Nat),
    IsPath g rf s (l1 ++ l2) ↔ IsPath g rf s l1 ∧ IsPath g rf (nodeAt g rf s l1) l2 := by
  intro l1
  induction l1 with
  | nil => intro s l2; exact ⟨fun h => ⟨trivial, h⟩, fun h => h.2⟩
  | cons x xs ih =>
    intro s l2
    simp only [List.cons_append, IsPath]
    constructor
    · rintro ⟨t, ht, hx, hp⟩
      obtain ⟨a, b⟩ := (ih _ l2).1 hp
      exact ⟨⟨t, ht, hx, a⟩, by simp only [nodeAt, ht]; exact b⟩
    · rintro ⟨⟨t, ht, hx, a⟩, b⟩
      simp only [nodeAt, ht] at b
      exact ⟨t, ht, hx, (ih _ l2).2 ⟨a, b⟩⟩

theorem nodeAt_append {g : G} {rf : Nat} : ∀ (l1 : List Nat) (s : St) (l2 : List Nat),
    IsPath g rf s l1 → nodeAt g rf s (l1 ++ l2) = nodeAt g rf (nodeAt g rf s l1) l2 := by
  intro l1
  induction l1 with
  | nil => intro s l2 _; rfl
  | cons x xs ih =>
    rintro s l2 ⟨t, ht, -, hp'⟩
    simp only [List.cons_append, nodeAt, ht]
    exact ih _ l2 hp'

theorem isPath_snoc {g : G} {rf : Nat} (vs : List Nat) (s : St) (v : Nat) :
    IsPath g rf s (vs ++ [v]) ↔
      (IsPath g rf s vs ∧ ∃ t, target g (nodeAt g rf s vs) = some t ∧ v ∈ cellMembers g (nodeAt g rf s vs).c t) := by
  rw [isPath_append]
  simp only [IsPath, and_true]

theorem nodeAt_snoc {g : G} {rf : Nat} (vs : List Nat) (s : St) (v t : Nat) (hp : IsPath g rf s vs)
    (ht : target g (nodeAt g rf s vs) = some t) :
    nodeAt g rf s (vs ++ [v]) = childSt g rf (nodeAt g rf s vs) t v := by
  rw [nodeAt_append vs s [v] hp]
  simp only [nodeAt, ht]

theorem isPath_split {g : G} {rf : Nat} {s : St} {vs : List Nat} (hp : IsPath g rf s vs) (L : Nat) :
    IsPath g rf s (vs.take L) ∧ IsPath g rf (nodeAt g rf s (vs.take L)) (vs.drop L) ∧
      nodeAt g rf s vs = nodeAt g rf (nodeAt g rf s (vs.take L)) (vs.drop L) := by
  have hp' : IsPath g rf s (vs.take L ++ vs.drop L) := by rw [List.take_append_drop]; exact hp
  obtain ⟨h1, h2⟩ := (isPath_append _ s _).1 hp'
  refine ⟨h1, h2, ?_⟩
  rw [← nodeAt_append _ s _ h1, List.take_append_drop]

theorem isPath_take {g : G} {rf : Nat} (vs : List Nat) (s : St) (k : Nat) (hp : IsPath g rf s vs) :
    IsPath g rf s (vs.take k) :=
  (isPath_split hp k).1

theorem path_level {g : G} {rf : Nat} {s : St} {vs : List Nat} (hp : IsPath g rf s vs) {L v : Nat}
    (hv : vs[L]? = some v) : ∃ t, target g (nodeAt g rf s (vs.take L)) = some t ∧
      v ∈ cellMembers g (nodeAt g rf s (vs.take L)).c t ∧
      nodeAt g rf s (vs.take (L + 1)) = childSt g rf (nodeAt g rf s (vs.take L)) t v := by
  obtain ⟨h1, h2, -⟩ := isPath_split hp L
  obtain ⟨hL, e⟩ := List.getElem?_eq_some_iff.1 hv
  rw [List.drop_eq_getElem_cons hL, e] at h2
  obtain ⟨t, ht, hm, -⟩ := h2
  refine ⟨t, ht, hm, ?_⟩
  rw [List.take_add_one, hv, Option.toList_some, nodeAt_append _ s _ h1]
  simp only [nodeAt, ht]

theorem path_cells {g : G} (hg : WF g) {rf : Nat} : ∀ (vs : List Nat) (s : St), InvA g s → InvD g s →
    IsPath g rf s vs → s.cells + vs.length ≤ (nodeAt g rf s vs).cells ∧
      InvA g (nodeAt g rf s vs) ∧ InvD g (nodeAt g rf s vs) := by
  intro vs
  induction vs with
  | nil => intro s hA hD _; exact ⟨Nat.le_refl _, hA, hD⟩
  | cons x xs ih =>
    rintro s hA hD ⟨t, ht, hx, hp⟩
    obtain ⟨hA', hD', hc⟩ := childSt_inv hg rf hA hD ht hx
    obtain ⟨h1, h2⟩ := ih _ hA' hD' hp
    simp only [nodeAt, ht]
    refine ⟨?_, h2⟩
    rw [List.length_cons, Nat.add_comm xs.length 1, ← Nat.add_assoc]
    exact Nat.le_trans (Nat.add_le_add_right hc _) h1

theorem path_length_le {g : G} (hg : WF g) {rf : Nat} {vs : List Nat} {s : St} (hA : InvA g s) (hD : InvD g s)
    (hp : IsPath g rf s vs) : s.cells + vs.length ≤ g.n ∧
      (g.n ≤ s.cells + vs.length → target g (nodeAt g rf s vs) = none) := by
  obtain ⟨hc, _, hD'⟩ := path_cells hg vs s hA hD hp
  have := D_le g.n (nodeAt g rf s vs).c
  rw [hD'] at this
  exact ⟨Nat.le_trans hc this, fun h => target_none_of_cells hD' (Nat.le_trans h hc)⟩

theorem mem_leaves_iff {g : G} {rf : Nat} {l : Array Nat} : ∀ {fuel : Nat} {s : St}, l ∈ leaves g rf fuel s ↔
    ∃ vs, IsPath g rf s vs ∧ (nodeAt g rf s vs).c = l ∧
      (target g (nodeAt g rf s vs) = none ∧ vs.length ≤ fuel ∨ vs.length = fuel) := by
  intro fuel
  induction fuel with
  | zero =>
    intro s
    rw [leaves, List.mem_singleton]
    constructor
    · rintro rfl; exact ⟨[], trivial, rfl, Or.inr rfl⟩
    · rintro ⟨vs, _, rfl, ⟨_, h⟩ | h⟩
      · rw [List.length_eq_zero_iff.1 (Nat.le_zero.1 h)]; rfl
      · rw [List.length_eq_zero_iff.1 h]; rfl
  | succ f ih =>
    intro s
    rw [leaves]
    cases ht : target g s with
    | none =>
      simp only [List.mem_singleton]
      constructor
      · rintro rfl; exact ⟨[], trivial, rfl, Or.inl ⟨ht, Nat.zero_le _⟩⟩
      · rintro ⟨vs, hp, rfl, _⟩
        cases vs with
        | nil => rfl
        | cons v vs => obtain ⟨t, ht', _⟩ := hp; rw [ht] at ht'; cases ht'
    | some t =>
      simp only [List.mem_flatMap]
      constructor
      · rintro ⟨v, hv, hl⟩
        obtain ⟨vs, hp, e, h⟩ := ih.1 hl
        refine ⟨v :: vs, ⟨t, ht, hv, hp⟩, by simp only [nodeAt, ht]; exact e, ?_⟩
        simp only [nodeAt, ht, List.length_cons, Nat.succ_le_succ_iff, Nat.succ.injEq]
        exact h
      · rintro ⟨vs, hp, e, h⟩
        cases vs with
        | nil =>
          simp only [nodeAt, ht, List.length_nil] at h
          rcases h with ⟨h, _⟩ | h <;> cases h
        | cons v vs =>
          obtain ⟨t', ht', hv, hp'⟩ := hp
          rw [ht] at ht'; cases ht'
          simp only [nodeAt, ht, List.length_cons, Nat.succ_le_succ_iff, Nat.succ.injEq] at e h
          exact ⟨v, hv, ih.2 ⟨vs, hp', e, h⟩⟩

theorem mem_leaves_iff_of_fuel {g : G} (hg : WF g) {rf fuel : Nat} {s : St} (hA : InvA g s) (hD : InvD g s)
    (hn : g.n ≤ fuel + s.cells) {l : Array Nat} : l ∈ leaves g rf fuel s ↔
      ∃ vs, IsPath g rf s vs ∧ target g (nodeAt g rf s vs) = none ∧ (nodeAt g rf s vs).c = l := by
  rw [mem_leaves_iff]
  constructor
  · rintro ⟨vs, hp, e, ⟨h, _⟩ | h⟩
    · exact ⟨vs, hp, h, e⟩
    · exact ⟨vs, hp, (path_length_le hg hA hD hp).2 (by rw [h, Nat.add_comm]; exact hn), e⟩
  · rintro ⟨vs, hp, h, e⟩
    refine ⟨vs, hp, e, Or.inl ⟨h, Nat.le_of_add_le_add_left (Nat.le_trans (path_length_le hg hA hD hp).1 ?_)⟩⟩
    rw [Nat.add_comm]; exact hn

theorem mem_allLeaves_iff {g : G} (hg : WF g) {s : St} (hw : s.work ≠ []) {l : Array Nat} : l ∈ allLeaves g s ↔
    ∃ vs, IsPath g (rfuel g) (refine g (rfuel g) s) vs ∧
      target g (nodeAt g (rfuel g) (refine g (rfuel g) s) vs) = none ∧
      (nodeAt g (rfuel g) (refine g (rfuel g) s) vs).c = l :=
  have hinv := refine_inv' (g := g) (one_le_rfuel g) hw
  mem_leaves_iff_of_fuel hg hinv.1 hinv.2 (Nat.le_add_right _ _)

theorem allLeaves_perm {g : G} (hg : WF g) {s : St} (hw : s.work ≠ []) : ∀ l ∈ allLeaves g s, IsPerm g.n l := by
  intro l hl
  obtain ⟨vs, hp, ht, rfl⟩ := (mem_allLeaves_iff hg hw).1 hl
  have hinv := refine_inv' (g := g) (one_le_rfuel g) hw
  obtain ⟨_, hA', hD'⟩ := path_cells hg vs _ hinv.1 hinv.2 hp
  exact isPerm_of_leaf hA' hD' ht

end IR
