import Mamba.Lemmas.DawgDfs
/-! Everything the model computes from an automaton is invariant under id-preserving relocation (`IsoVia`). -/
namespace Dawg

def mapSt (φ : Nat → Nat) (st : DfsSt) : DfsSt := { st with stack := st.stack.map (fun e => (φ e.1, e.2)) }

def Outcome.mapO {α β : Type} (f : α → β) : Outcome α → Outcome β
  | .ok a => .ok (f a)
  | .panic => .panic
  | .outOfFuel => .outOfFuel

section
variable {φ : Nat → Nat} {d d' : Dawg}

theorem iso_get (hiso : IsoVia φ d d') {p : Nat} {n : Node} (hp : Reach d.heap d.root p) (hn : d.heap[p]? = some n) :
    d'.heap[φ p]? = some { n with links := n.links.map φ } := by
  obtain ⟨n', hn', h2⟩ := hiso.2 p hp
  rw [hn] at hn'; cases hn'; exact h2

theorem encLinks_iso (hiso : IsoVia φ d d') (wf : WF d) (conv : Nat → Nat) :
    ∀ (labs links : List Nat), (∀ q ∈ links, Reach d.heap d.root q) →
      encLinks d'.heap conv labs (links.map φ) = encLinks d.heap conv labs links := by
  intro labs
  induction labs with
  | nil => intro links _; cases links <;> simp [encLinks]
  | cons lab labs ih =>
    intro links hr
    cases links with
    | nil => simp [encLinks]
    | cons q qs =>
      have hq := hr q List.mem_cons_self
      obtain ⟨qn, hqn⟩ := wf.closed q hq
      simp only [List.map_cons, encLinks, getNode_of_some hqn, getNode_of_some (iso_get hiso hq hqn)]
      rw [ih qs (fun q' hq' => hr q' (List.mem_cons_of_mem _ hq'))]

theorem encRecord_iso (hiso : IsoVia φ d d') (wf : WF d) (conv : Nat → Nat) {p : Nat} {n : Node}
    (hp : Reach d.heap d.root p) (hn : d.heap[p]? = some n) :
    encRecord d'.heap conv { n with links := n.links.map φ } = encRecord d.heap conv n := by
  unfold encRecord
  simp only
  rw [encLinks_iso hiso wf conv n.labels n.links (fun q hq => Reach.step hp hn hq)]

theorem dfsInner_iso (hiso : IsoVia φ d d') (wf : WF d) (emit : Option (Nat → Nat)) {pT : Nat} {T : Node}
    (hp : Reach d.heap d.root pT) (hT : d.heap[pT]? = some T) :
    ∀ (labs : List Nat) (j : Nat) (st : DfsSt),
      dfsInner emit d'.heap { T with links := T.links.map φ } labs j (mapSt φ st) =
        Outcome.mapO (fun r => (mapSt φ r.1, r.2)) (dfsInner emit d.heap T labs j st) := by
  intro labs
  induction labs with
  | nil => intro j st; simp [dfsInner, Outcome.mapO]
  | cons lab labs ih =>
    intro j st
    simp only [dfsInner, List.getElem?_map]
    cases hc : T.links[j]? with
    | none => rfl
    | some c =>
      simp only [Option.map_some]
      have hcr : Reach d.heap d.root c := Reach.step hp hT (List.mem_of_getElem? hc)
      obtain ⟨cn, hcn⟩ := wf.closed c hcr
      cases hst : st.stack with
      | nil => simp [mapSt, hst, Outcome.mapO]
      | cons top below =>
        obtain ⟨tp, tn⟩ := top
        simp only [mapSt, hst, List.map_cons, getNode_of_some hcn, getNode_of_some (iso_get hiso hcr hcn)]
        split
        · have := ih (j + 1) { st with stack := (c, 0) :: (tp, j + 1) :: below }
          simp only [mapSt, List.map_cons] at this
          exact this
        · cases emit with
          | none => rfl
          | some conv =>
            simp only
            rw [encRecord_iso hiso wf conv hcr hcn]
            cases encRecord d.heap conv cn <;> simp [Outcome.mapO]

theorem dfsInner_reach (wf : WF d) (emit : Option (Nat → Nat)) {pT : Nat} {T : Node}
    (hp : Reach d.heap d.root pT) (hT : d.heap[pT]? = some T) :
    ∀ (labs : List Nat) (j : Nat) (st st1 : DfsSt) (b : Bool), (∀ e ∈ st.stack, Reach d.heap d.root e.1) →
      dfsInner emit d.heap T labs j st = .ok (st1, b) → ∀ e ∈ st1.stack, Reach d.heap d.root e.1 := by
  intro labs
  induction labs with
  | nil =>
    intro j st st1 b hs hres
    simp only [dfsInner, Outcome.ok.injEq, Prod.mk.injEq] at hres
    obtain ⟨rfl, _⟩ := hres; exact hs
  | cons lab labs ih =>
    intro j st st1 b hs hres
    simp only [dfsInner] at hres
    cases hc : T.links[j]? with
    | none => rw [hc] at hres; cases hres
    | some c =>
      rw [hc] at hres
      simp only at hres
      have hcr : Reach d.heap d.root c := Reach.step hp hT (List.mem_of_getElem? hc)
      obtain ⟨cn, hcn⟩ := wf.closed c hcr
      cases hst : st.stack with
      | nil => rw [hst] at hres; cases hres
      | cons top below =>
        obtain ⟨tp, tn⟩ := top
        rw [hst] at hres
        simp only [getNode_of_some hcn] at hres
        have hnew : ∀ e ∈ (c, 0) :: (tp, j + 1) :: below, Reach d.heap d.root e.1 := by
          intro e he
          simp only [List.mem_cons] at he
          rcases he with rfl | rfl | he
          · exact hcr
          · exact hs (tp, tn) (by rw [hst]; exact List.mem_cons_self)
          · exact hs e (by rw [hst]; exact List.mem_cons_of_mem _ he)
        split at hres
        · exact ih (j + 1) _ st1 b hnew hres
        · cases emit with
          | none =>
            simp only [Outcome.ok.injEq, Prod.mk.injEq] at hres
            obtain ⟨rfl, _⟩ := hres; exact hnew
          | some conv =>
            simp only at hres
            cases hr : encRecord d.heap conv cn with
            | ok r =>
              rw [hr] at hres
              simp only [Outcome.ok.injEq, Prod.mk.injEq] at hres
              obtain ⟨rfl, _⟩ := hres; exact hnew
            | panic => rw [hr] at hres; cases hres
            | outOfFuel => rw [hr] at hres; cases hres

theorem dfsLoop_iso (hiso : IsoVia φ d d') (wf : WF d) (emit : Option (Nat → Nat)) :
    ∀ (fuel : Nat) (st : DfsSt), (∀ e ∈ st.stack, Reach d.heap d.root e.1) →
      dfsLoop emit d'.heap fuel (mapSt φ st) = Outcome.mapO (mapSt φ) (dfsLoop emit d.heap fuel st) := by
  intro fuel
  induction fuel with
  | zero => intro st _; simp [dfsLoop, Outcome.mapO]
  | succ fuel ih =>
    intro st hs
    simp only [dfsLoop]
    cases hst : st.stack with
    | nil => simp [mapSt, hst, Outcome.mapO]
    | cons top rest =>
      obtain ⟨p, nxt⟩ := top
      have hpr : Reach d.heap d.root p := hs (p, nxt) (by rw [hst]; exact List.mem_cons_self)
      obtain ⟨T, hT⟩ := wf.closed p hpr
      have hmap : (mapSt φ st).stack = (φ p, nxt) :: rest.map (fun e => (φ e.1, e.2)) := by
        simp [mapSt, hst]
      rw [hmap]
      simp only [getNode_of_some hT, getNode_of_some (iso_get hiso hpr hT)]
      rw [dfsInner_iso hiso wf emit hpr hT]
      cases hin : dfsInner emit d.heap T (List.drop nxt T.labels) nxt st with
      | panic => rfl
      | outOfFuel => rfl
      | ok res =>
        obtain ⟨st1, b⟩ := res
        have hs1 := dfsInner_reach wf emit hpr hT _ nxt st st1 b hs hin
        simp only [Outcome.mapO]
        cases b with
        | true => simp only; exact ih st1 hs1
        | false =>
          simp only
          cases hst1 : st1.stack with
          | nil => simp [mapSt, hst1]
          | cons t1 r1 =>
            cases r1 with
            | nil => simp [mapSt, hst1]
            | cons t2 r2 =>
              simp only [mapSt, hst1, List.map_cons]
              have := ih { st1 with stack := t2 :: r2 } (by
                intro e he
                exact hs1 e (by rw [hst1]; exact List.mem_cons_of_mem _ he))
              simp only [mapSt, List.map_cons] at this
              exact this

theorem listNodes_iso (hiso : IsoVia φ d d') (wf : WF d) (fuel : Nat) : listNodes fuel d' = listNodes fuel d := by
  obtain ⟨rn, hrn⟩ := wf.closed d.root Reach.root
  have hrn' := iso_get hiso Reach.root hrn
  rw [hiso.1] at hrn'
  unfold listNodes
  simp only [getNode_of_some hrn, getNode_of_some hrn']
  have := dfsLoop_iso hiso wf none fuel { nodes := [rn.id], stack := [(d.root, 0)], out := #[] }
    (by intro e he; simp at he; subst he; exact Reach.root)
  simp only [mapSt, List.map_cons, List.map_nil, hiso.1] at this
  rw [this]
  cases dfsLoop none d.heap fuel { nodes := [rn.id], stack := [(d.root, 0)], out := #[] } <;> simp [Outcome.mapO, mapSt]

theorem numberOfNodes_iso (hiso : IsoVia φ d d') (wf : WF d) (fuel : Nat) :
    numberOfNodes fuel d' = numberOfNodes fuel d := by
  unfold numberOfNodes; rw [listNodes_iso hiso wf]

theorem gobEncode_iso (hiso : IsoVia φ d d') (wf : WF d) (fuel : Nat) : gobEncode fuel d' = gobEncode fuel d := by
  obtain ⟨rn, hrn⟩ := wf.closed d.root Reach.root
  have hrn' := iso_get hiso Reach.root hrn
  rw [hiso.1] at hrn'
  unfold gobEncode
  rw [listNodes_iso hiso wf]
  cases listNodes fuel d with
  | panic => rfl
  | outOfFuel => rfl
  | ok L =>
    simp only [getNode_of_some hrn, getNode_of_some hrn', encRecord_iso hiso wf _ Reach.root hrn]
    cases hr : encRecord d.heap (searchGE L) rn with
    | panic => rfl
    | outOfFuel => rfl
    | ok r =>
      simp only
      have := dfsLoop_iso hiso wf (some (searchGE L)) fuel
        ⟨List.replicate L.length 0, [(d.root, 0)], (encodeUint64 L.length ++ List.flatMap encodeUint64 L ++ r).toArray⟩
        (by intro e he; simp at he; subst he; exact Reach.root)
      simp only [mapSt, List.map_cons, List.map_nil, hiso.1] at this
      rw [this]
      cases dfsLoop (some (searchGE L)) d.heap fuel
        ⟨List.replicate L.length 0, [(d.root, 0)], (encodeUint64 L.length ++ List.flatMap encodeUint64 L ++ r).toArray⟩
        <;> simp [Outcome.mapO, mapSt]

theorem numberOfWords_iso (hiso : IsoVia φ d d') (wf : WF d) : numberOfWords d' = numberOfWords d := by
  obtain ⟨rn, hrn⟩ := wf.closed d.root Reach.root
  have hrn' := iso_get hiso Reach.root hrn
  rw [hiso.1] at hrn'
  simp [numberOfWords, getNode_of_some hrn, getNode_of_some hrn']

theorem lookupScan_iso (hiso : IsoVia φ d d') (wf : WF d) (l : Nat) :
    ∀ (labs links : List Nat) (index : Int), (∀ q ∈ links, Reach d.heap d.root q) →
      lookupScan d'.heap l labs (links.map φ) index =
        Outcome.mapO (Option.map (fun r => (φ r.1, r.2))) (lookupScan d.heap l labs links index) := by
  intro labs
  induction labs with
  | nil => intro links index _; simp [lookupScan, Outcome.mapO]
  | cons lab labs ih =>
    intro links index hr
    cases links with
    | nil => simp [lookupScan, Outcome.mapO]
    | cons q qs =>
      have hq := hr q List.mem_cons_self
      obtain ⟨qn, hqn⟩ := wf.closed q hq
      simp only [List.map_cons, lookupScan, getNode_of_some hqn, getNode_of_some (iso_get hiso hq hqn)]
      split
      · rfl
      · exact ih qs _ (fun q' hq' => hr q' (List.mem_cons_of_mem _ hq'))

theorem lookupScan_reach (wf : WF d) (l : Nat) :
    ∀ (labs links : List Nat) (index : Int) (q : Nat) (i : Int), (∀ q ∈ links, Reach d.heap d.root q) →
      lookupScan d.heap l labs links index = .ok (some (q, i)) → Reach d.heap d.root q := by
  intro labs
  induction labs with
  | nil => intro links index q i _ h; simp [lookupScan] at h
  | cons lab labs ih =>
    intro links index q i hr h
    cases links with
    | nil => simp [lookupScan] at h
    | cons q' qs =>
      have hq := hr q' List.mem_cons_self
      obtain ⟨qn, hqn⟩ := wf.closed q' hq
      simp only [lookupScan, getNode_of_some hqn] at h
      split at h
      · simp only [Outcome.ok.injEq, Option.some.injEq, Prod.mk.injEq] at h
        obtain ⟨rfl, _⟩ := h; exact hq
      · exact ih qs _ q i (fun q'' hq'' => hr q'' (List.mem_cons_of_mem _ hq'')) h

theorem lookupWalk_iso (hiso : IsoVia φ d d') (wf : WF d) :
    ∀ (word : List Nat) (p : Nat) (index : Int), Reach d.heap d.root p →
      lookupWalk d'.heap (φ p) index word = lookupWalk d.heap p index word := by
  intro word
  induction word with
  | nil =>
    intro p index hp
    obtain ⟨n, hn⟩ := wf.closed p hp
    simp [lookupWalk, getNode_of_some hn, getNode_of_some (iso_get hiso hp hn)]
  | cons l rest ih =>
    intro p index hp
    obtain ⟨n, hn⟩ := wf.closed p hp
    have hlinks : ∀ q ∈ n.links, Reach d.heap d.root q := fun q hq => Reach.step hp hn hq
    simp only [lookupWalk, getNode_of_some hn, getNode_of_some (iso_get hiso hp hn)]
    rw [lookupScan_iso hiso wf l n.labels n.links index hlinks]
    cases hsc : lookupScan d.heap l n.labels n.links index with
    | panic => rfl
    | outOfFuel => rfl
    | ok r =>
      cases r with
      | none => rfl
      | some qi =>
        obtain ⟨q, i⟩ := qi
        simp only [Outcome.mapO, Option.map_some]
        exact ih q i (lookupScan_reach wf l _ _ _ q i hlinks hsc)

theorem lookup_iso (hiso : IsoVia φ d d') (wf : WF d) (word : List Nat) : lookup d' word = lookup d word := by
  obtain ⟨rn, hrn⟩ := wf.closed d.root Reach.root
  have hrn' := iso_get hiso Reach.root hrn
  rw [hiso.1] at hrn'
  unfold lookup
  simp only [getNode_of_some hrn, getNode_of_some hrn']
  rw [← hiso.1]
  exact lookupWalk_iso hiso wf word d.root _ Reach.root

theorem reach_iso (hiso : IsoVia φ d d') {p : Nat} (hp : Reach d.heap d.root p) : Reach d'.heap d'.root (φ p) := by
  induction hp with
  | root => rw [hiso.1]; exact Reach.root
  | step hp' hn hq ih => exact Reach.step ih (iso_get hiso hp' hn) (List.mem_map_of_mem hq)

theorem reach_iso_inv (hiso : IsoVia φ d d') (wf : WF d) {p' : Nat} (hp : Reach d'.heap d'.root p') :
    ∃ p, Reach d.heap d.root p ∧ φ p = p' := by
  induction hp with
  | root => exact ⟨d.root, Reach.root, hiso.1⟩
  | step _ hn hq ih =>
    obtain ⟨p, hp, rfl⟩ := ih
    obtain ⟨n, hpn⟩ := wf.closed p hp
    rw [iso_get hiso hp hpn] at hn
    cases hn
    simp only [List.mem_map] at hq
    obtain ⟨q, hq, rfl⟩ := hq
    exact ⟨q, Reach.step hp hpn hq, rfl⟩

theorem iso_inj (hiso : IsoVia φ d d') (wf : WF d) {p q : Nat} (hp : Reach d.heap d.root p)
    (hq : Reach d.heap d.root q) (h : φ p = φ q) : p = q := by
  obtain ⟨np, hnp⟩ := wf.closed p hp
  obtain ⟨nq, hnq⟩ := wf.closed q hq
  have h1 := iso_get hiso hp hnp
  have h2 := iso_get hiso hq hnq
  rw [h, h2] at h1
  simp only [Option.some.injEq] at h1
  exact wf.idInj p q np nq hp hq hnp hnq (by rw [Node.mk.injEq] at h1; exact h1.1.symm)

theorem WF.of_iso (hiso : IsoVia φ d d') (wf : WF d) (hsize : d'.heap.size < 2 ^ 64) : WF d' := by
  refine ⟨?_, ?_, ?_, ?_, ?_, ?_, hsize⟩
  · intro p' hp'
    obtain ⟨p, hp, rfl⟩ := reach_iso_inv hiso wf hp'
    obtain ⟨n, hn⟩ := wf.closed p hp
    exact ⟨_, iso_get hiso hp hn⟩
  · intro p' n' hp' hn'
    obtain ⟨p, hp, rfl⟩ := reach_iso_inv hiso wf hp'
    obtain ⟨n, hn⟩ := wf.closed p hp
    rw [iso_get hiso hp hn] at hn'; cases hn'
    simpa using wf.lens p n hp hn
  · intro p' q' np' nq' hp' hq' hnp' hnq' hid
    obtain ⟨p, hp, rfl⟩ := reach_iso_inv hiso wf hp'
    obtain ⟨q, hq, rfl⟩ := reach_iso_inv hiso wf hq'
    obtain ⟨np, hnp⟩ := wf.closed p hp
    obtain ⟨nq, hnq⟩ := wf.closed q hq
    rw [iso_get hiso hp hnp] at hnp'; cases hnp'
    rw [iso_get hiso hq hnq] at hnq'; cases hnq'
    rw [wf.idInj p q np nq hp hq hnp hnq hid]
  · intro p' np' nr' hp' hne hnp' hnr'
    obtain ⟨p, hp, rfl⟩ := reach_iso_inv hiso wf hp'
    obtain ⟨np, hnp⟩ := wf.closed p hp
    obtain ⟨nr, hnr⟩ := wf.closed d.root Reach.root
    rw [iso_get hiso hp hnp] at hnp'; cases hnp'
    have := iso_get hiso Reach.root hnr
    rw [hiso.1, hnr'] at this; cases this
    exact wf.rootMin p np nr hp (fun h => hne (by rw [h, hiso.1])) hnp hnr
  · intro p' n' hp' hn' hmem
    obtain ⟨p, hp, rfl⟩ := reach_iso_inv hiso wf hp'
    obtain ⟨n, hn⟩ := wf.closed p hp
    rw [iso_get hiso hp hn] at hn'; cases hn'
    simp only [List.mem_map] at hmem
    obtain ⟨q, hq, hqr⟩ := hmem
    rw [← hiso.1] at hqr
    have := iso_inj hiso wf (Reach.step hp hn hq) Reach.root hqr
    subst this
    exact wf.noBack p n hp hn hq
  · intro p' n' hp' hn'
    obtain ⟨p, hp, rfl⟩ := reach_iso_inv hiso wf hp'
    obtain ⟨n, hn⟩ := wf.closed p hp
    rw [iso_get hiso hp hn] at hn'; cases hn'
    exact wf.small p n hp hn

end
end Dawg
