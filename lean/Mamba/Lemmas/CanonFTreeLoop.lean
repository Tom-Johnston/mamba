import Mamba.Lemmas.CanonFTree
import Mamba.Lemmas.IRPass
/-!
# The refinement of the faithful model is `IR.refine` on the colouring (`RefineMatch`)

One iteration (`refineIter`, characterised at the level of colourings by `RefineIterCol`) is one `IR.pass`
(characterised by `IR.PassChar`), the splitter being the largest entry of the work list on both sides; so `i` complete
iterations are `i` passes (`refineLoop_passes`, from `refineLoop_rule`), and the IR fuel `rf ≥ 3 n + 3` is at least the fuel
of the faithful refinement.
-/
namespace CanonF

theorem popMax_spec {w : List Nat} (hnd : w.Nodup) {i : Nat} (hi : i ∈ w) (hmax : ∀ x ∈ w, x ≤ i) :
    IR.popMax w = some (i, w.erase i) ∧ ∀ x, x ∈ w.erase i ↔ (x ∈ w ∧ x ≠ i) := by
  refine ⟨?_, fun x => by rw [hnd.mem_erase_iff]; exact And.comm⟩
  cases w with
  | nil => cases hi
  | cons a t =>
    obtain ⟨h1, h2⟩ := IR.foldl_max_spec t a
    have e : t.foldl max a = i := Nat.le_antisymm (hmax _ h1) (h2 _ hi)
    simp only [IR.popMax, e]

theorem refineIter_match (hic : RefineIterCol) (hpc : IR.PassChar) {n : Nat} {nb : Nbrs} {cb fl : Sl Nat}
    {opts : Options} {op op' : OP} {sc sc' : Scratch} {s : IR.St}
    (hp : PartInv n op) (ha : AgeInv op) (hs : ScrInv n sc) (htw : sc.timesSeen.WF) (htl : sc.timesSeen.len = n)
    (hb : BtcInv op) (hne : 0 < op.binsToCheck.len) (hnb : NbOK nb n) (hm : Match n op s) (hp' : PartInv n op')
    (h : refineIter nb n cb fl opts op sc = .ok (false, op', sc')) :
    ∃ i rest, IR.popMax s.work = some (i, rest) ∧ Match n op' (IR.pass (irG n nb) s i rest) ∧ BtcInv op' ∧
      sc'.timesSeen.WF ∧ sc'.timesSeen.len = n ∧ ScrInv n sc' := by
  obtain ⟨i, hil, himem, hmax, hord, hwk, hb', t1, t2, t3⟩ := hic hp ha hs htw htl hb hne hnb h
  have hiw : i ∈ s.work := (hm.work i).2 himem
  have hmaxw : ∀ x ∈ s.work, x ≤ i := by
    intro x hx
    have := hmax _ ((hm.work x).1 hx)
    exact Int.ofNat_le.1 this
  obtain ⟨hpop, hrest⟩ := popMax_spec hm.nodup hiw hmaxw
  refine ⟨i, s.work.erase i, hpop, ?_, hb', t1, t2, t3⟩
  have hcol : ∀ v, v < n → IR.col s.c v = cellOf op v := fun _ hv => hm.col_eq hv
  have hcnt : ∀ v, IR.cnt (irG n nb) s.c i v = cntIn nb op i v := hm.cnt_eq hnb i
  obtain ⟨c1, c2, c3, c4⟩ := hpc (irG_wf hnb) s (hm.invA hp) i (s.work.erase i)
    (by
      intro x hx
      have hxw := ((hrest x).1 hx).1
      have := (hb.range _ ((hm.work x).1 hxw)).2
      rw [hm.cells]
      exact Int.ofNat_lt.1 this)
    (by
      intro x hx
      rw [hm.cells] at hx
      obtain ⟨v, hv, e⟩ := cell_nonempty hp hx
      exact ⟨v, hv, by rw [hcol v hv]; exact e⟩)
    (cellOf op') op'.binDividers.len (fun x => ((x : Nat) : Int) ∈ op'.binsToCheck.toList)
    (fun v hv => cellOf_lt hp' hv)
    (fun x hx => cell_nonempty hp' hx)
    (by
      intro u v hu hv
      show cellOf op' u < cellOf op' v ↔ _
      rw [hord u v hu hv, hcol u hu, hcol v hv, hcnt u, hcnt v])
    (by
      intro v hv
      show ((cellOf op' v : Nat) : Int) ∈ op'.binsToCheck.toList ↔ _
      rw [hwk v hv]
      have e1 : IR.col s.c v ∈ s.work.erase i ↔
          (((cellOf op v : Nat) : Int) ∈ op.binsToCheck.toList ∧ cellOf op v ≠ i) := by
        rw [hrest, hcol v hv, hm.work]
      constructor
      · rintro (⟨a1, a2, a3⟩ | ⟨u, hu, a1, a2⟩)
        · left
          refine ⟨e1.2 ⟨a1, a2⟩, fun u hu hcu => ?_⟩
          rw [hcnt, hcnt]
          exact a3 u hu (by rw [← hcol u hu, ← hcol v hv]; exact hcu)
        · right
          exact ⟨u, hu, by rw [hcol u hu, hcol v hv]; exact a1, by rw [hcnt, hcnt]; exact a2⟩
      · rintro (⟨a1, a3⟩ | ⟨u, hu, a1, a2⟩)
        · left
          obtain ⟨b1, b2⟩ := e1.1 a1
          refine ⟨b1, b2, fun u hu hcu => ?_⟩
          have := a3 u hu (by rw [hcol u hu, hcol v hv]; exact hcu)
          rwa [hcnt, hcnt] at this
        · right
          refine ⟨u, hu, by rw [← hcol u hu, ← hcol v hv]; exact a1, ?_⟩
          rwa [hcnt, hcnt] at a2)
  refine ⟨c1, c2, c3, fun x => ?_⟩
  rw [c4]
  constructor
  · exact fun h => h.2
  · intro hx
    exact ⟨Int.ofNat_lt.1 (hb'.range _ hx).2, hx⟩

theorem refineLoop_passes (hst : StablePerm) (hic : RefineIterCol) (hpc : IR.PassChar) {n : Nat} {nb : Nbrs}
    {cb fl : Sl Nat} {opts : Options} (hnb : NbOK nb n) {f : Nat} {op op' : OP} {sc sc' : Scratch} {w : Bool} {s : IR.St}
    (hp : PartInv n op) (ha : AgeInv op) (hs : ScrInv n sc) (htw : sc.timesSeen.WF) (htl : sc.timesSeen.len = n)
    (hb : BtcInv op) (hm : Match n op s) (h : refineLoop nb n cb fl opts f op sc = .ok (w, op', sc')) :
    ∃ i, i < f ∧
      ((w = false ∧ op'.binsToCheck.len = 0 ∧
          ∃ sk, Match n op' sk ∧ ∀ m, IR.refine (irG n nb) (m + i) s = IR.refine (irG n nb) m sk) ∨
       (w = true ∧ ∃ opi sci sk, PartInv n opi ∧ AgeInv opi ∧ ScrInv n sci ∧ sci.timesSeen.WF ∧ sci.timesSeen.len = n ∧
          BtcInv opi ∧ Match n opi sk ∧ (∀ m, IR.refine (irG n nb) (m + i) s = IR.refine (irG n nb) m sk) ∧
          0 < opi.binsToCheck.len ∧ refineIter nb n cb fl opts opi sci = .ok (true, op', sc'))) := by
  obtain ⟨i, hi, ⟨hw, hbt, _, _, _, _, _, _, sk, hmk, hek⟩ | ⟨hw, opi, sci, ⟨p, a, c, tw, tl, b, sk, hmk, hek⟩, hpos, hit⟩⟩ :=
    refineLoop_rule
      (fun k o c => PartInv n o ∧ AgeInv o ∧ ScrInv n c ∧ c.timesSeen.WF ∧ c.timesSeen.len = n ∧ BtcInv o ∧
        ∃ sk, Match n o sk ∧ ∀ m, IR.refine (irG n nb) (m + k) s = IR.refine (irG n nb) m sk)
      (fun k o c o1 c1 ⟨p, a, c', tw, tl, b, sk, hmk, hek⟩ hpos hit => by
        obtain ⟨g1, _, _, _⟩ := refineIter_inv2 hst (carried_true nb n cb fl opts).to2 p a trivial c' hit
        obtain ⟨j, rest, hpop, hm1, hb1, t1, t2, t3⟩ := refineIter_match hic hpc p a c' tw tl b hpos hnb hmk g1.1 hit
        refine ⟨g1.1, g1.2.1, t3, t1, t2, hb1, _, hm1, fun m => ?_⟩
        rw [← Nat.add_assoc, Nat.add_right_comm, hek, IR.refine_of_popMax hpop])
      f 0 op op' sc sc' w ⟨hp, ha, hs, htw, htl, hb, s, hm, fun _ => rfl⟩ h
  · exact ⟨i, hi, Or.inl ⟨hw, hbt, sk, hmk, by rwa [Nat.zero_add] at hek⟩⟩
  · exact ⟨i, hi, Or.inr ⟨hw, opi, sci, sk, p, a, c, tw, tl, b, hmk, by rwa [Nat.zero_add] at hek, hpos, hit⟩⟩

theorem refine_match (hst : StablePerm) (hic : RefineIterCol) (hpc : IR.PassChar) : RefineMatch := by
  intro n nb cb fl opts op op' sc sc' s hp ha hsc htl hb hnb hm hr rf hrf
  unfold refine at hr
  rw [hp.lenOrder] at hr
  obtain ⟨i, hi, ⟨_, hbt, sk, hmk, hek⟩ | ⟨hw, _⟩⟩ := refineLoop_passes hst hic hpc hnb hp ha hsc.scrInv hsc.wfT htl hb hm hr
  · -- `i` passes have emptied the work list; the remaining fuel changes nothing
    obtain ⟨m, rfl⟩ : ∃ m, rf = m + i := ⟨rf - i, by unfold refineFuel at hi; omega⟩
    rw [hek, IR.refine_of_work_nil (hmk.work_nil hbt)]
    exact ⟨hmk, hbt⟩
  · cases hw

end CanonF
