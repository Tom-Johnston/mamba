import Mamba.Lemmas.CanonFTotalInv
/-!
# Capacities: no operation shrinks a backing array; the size invariant and the generator count of the main loop

`OpGe op op'`: every backing array of the partition is at least as large in `op'` as in `op`. `order`, `inCell`,
`binDividers`, `binAges` keep their arrays' size through `deage`, `splitBin`, the refinement; `value` may grow by `append`,
`binsToCheck` by `unionSl` (both may reallocate a larger array).

`SizeInv n N M s`: every backing array of the loop state has at least the capacity `N` resp. `M` with which storage and
partition were allocated (possibly larger than the `n`, `m` of the current call); the two union–finds have size `n`. It is
carried by the main loop (`sizeMainJX`): every operation keeps `data.size` (`set`, `reslice`, `copyFrom`, `copySelf`,
`sortRange`, `deage`, `insertAt`, `recordGenerator`) or does not shrink it. Storage reuse takes it with the capacities of
the allocation, totality with `N, M = n, m`: `CapInv n m` is `SizeInv n n m` together with `GenCnt n` (`CapInv.of_size`).
-/
namespace CanonF

theorem codeLoop_size_le {inCell : Sl Nat} {j : Nat} : ∀ (l : List Nat) (value value' : Sl Nat),
    forList (codeStep inCell j) l value = .ok value' → value.data.size ≤ value'.data.size := by
  intro l value value' h
  exact forList_inv (codeStep inCell j) (fun v => value.data.size ≤ v.data.size) l value value' (Nat.le_refl _)
    (fun x s s' _ hs hx => by
      unfold codeStep at hx
      split at hx
      · split at hx
        · cases hx; exact Nat.le_trans hs (Sl.append_size_le _ _)
        · cases hx; exact hs
      · cases hx
      · cases hx) h

theorem ExpBlock.size_le {nb : Nbrs} {op : OP} {j : Nat} {v : Sl Nat} (h : ExpBlock nb op j v) :
    op.value.data.size ≤ v.data.size := by
  obtain ⟨_, _, _, _, _, hcode, hsort⟩ := h
  rw [(Sl.sortRange_len_size hsort).2]
  exact codeLoop_size_le _ _ _ hcode

theorem ExpRun.value_le {nb : Nbrs} {cb fl : Sl Nat} {k j : Nat} {op op' : OP} {w : Bool}
    (h : ExpRun nb cb fl k j op w op') : op.value.data.size ≤ op'.value.data.size := by
  induction h with
  | done | stop => exact Nat.le_refl _
  | worse _ hv _ => exact hv.size_le
  | next _ hv _ _ ih => exact Nat.le_trans hv.size_le ih

theorem expandValue_value_le {nb : Nbrs} {cb fl : Sl Nat} {op op' : OP} {w : Bool}
    (h : expandValue nb cb fl op = .ok (w, op')) : op.value.data.size ≤ op'.value.data.size :=
  (expandLoop_run h).value_le

/-- the refinement shrinks neither `binsToCheck` (`unionSl`, `shiftBtc`: `SplitX.btcSz`) nor `value` (the `expandValue`
call in the tail of `splitCell`) -/
theorem sizesCarried2 (nb : Nbrs) (n : Nat) (cb fl : Sl Nat) (opts : Options) (c d : Nat) :
    Carried2 nb n cb fl opts (fun o => c ≤ o.binsToCheck.data.size ∧ d ≤ o.value.data.size)
      (fun o => c ≤ o.binsToCheck.data.size ∧ d ≤ o.value.data.size) where
  split := fun j op op' sc sc' r hp hcc hq hs => by
    have key : c ≤ op'.binsToCheck.data.size ∧ d ≤ op'.value.data.size := by
      obtain ⟨bs, dj, _, _, ⟨_, _, rfl, _⟩ | ⟨K, nbsL, op2, sc2, hrel, hx, _, ht⟩⟩ := splitCell_split stablePerm hp hcc hs
      · exact hq
      · have h2 : c ≤ op2.binsToCheck.data.size ∧ d ≤ op2.value.data.size :=
          ⟨Nat.le_trans hq.1 hx.btcSz, by rw [hrel.value]; exact hq.2⟩
        obtain ⟨_, ⟨_, rfl, _⟩ | ⟨_, w, hex, _⟩⟩ := scTail_cases ht
        · exact h2
        · exact ⟨by rw [(expandValue_frame hex).2.2.2.1]; exact h2.1, Nat.le_trans h2.2 (expandValue_value_le hex)⟩
    exact ⟨fun _ => key, fun _ => key⟩
  btc := fun op b hb hq => ⟨by show c ≤ b.data.size; rw [hb]; exact hq.1, hq.2⟩

structure OpGe (op op' : OP) : Prop where
  order : op.order.data.size ≤ op'.order.data.size
  inCell : op.inCell.data.size ≤ op'.inCell.data.size
  bd : op.binDividers.data.size ≤ op'.binDividers.data.size
  ages : op.binAges.data.size ≤ op'.binAges.data.size
  btc : op.binsToCheck.data.size ≤ op'.binsToCheck.data.size
  value : op.value.data.size ≤ op'.value.data.size

theorem OpGe.refl (op : OP) : OpGe op op :=
  ⟨Nat.le_refl _, Nat.le_refl _, Nat.le_refl _, Nat.le_refl _, Nat.le_refl _, Nat.le_refl _⟩

theorem OpGe.trans {a b c : OP} (h1 : OpGe a b) (h2 : OpGe b c) : OpGe a c :=
  ⟨Nat.le_trans h1.order h2.order, Nat.le_trans h1.inCell h2.inCell, Nat.le_trans h1.bd h2.bd,
    Nat.le_trans h1.ages h2.ages, Nat.le_trans h1.btc h2.btc, Nat.le_trans h1.value h2.value⟩

theorem OpGe.of_expandValue {nb : Nbrs} {cb fl : Sl Nat} {op op' : OP} {w : Bool}
    (h : expandValue nb cb fl op = .ok (w, op')) : OpGe op op' := by
  obtain ⟨e1, e2, e3, e4, _, e6⟩ := expandValue_frame h
  exact ⟨by rw [e1], by rw [e6], by rw [e2],
    by rw [e3], by rw [e4], expandValue_value_le h⟩

theorem OpGe.of_deage {n : Nat} {op op' : OP} (h : PartInv n op) (ha : AgeInv op) (hage : 0 < op.age)
    (hd : deage op = .ok op') : OpGe op op' := by
  obtain ⟨_, _, _, _, _, e, ev, _, _, z0, zi, z1, z2⟩ := deage_inv h ha hage hd
  exact ⟨Nat.le_of_eq z0.symm, Nat.le_of_eq zi.symm, Nat.le_of_eq z1.symm, Nat.le_of_eq z2.symm,
    by rw [e], by rw [ev]⟩

theorem OpGe.of_deageTimes {n : Nat} : ∀ (k : Nat) (op op' : OP), PartInv n op → AgeInv op → (k : Int) ≤ op.age →
    deageTimes k op = .ok op' → OpGe op op' := by
  intro k
  induction k with
  | zero => intro op op' _ _ _ h; simp [deageTimes] at h; subst h; exact OpGe.refl _
  | succ k ih =>
    intro op op' hp ha hk h
    rw [deageTimes] at h
    cases hd : deage op with
    | panic => rw [hd] at h; cases h
    | outOfFuel => rw [hd] at h; cases h
    | ok op1 =>
      rw [hd] at h
      simp only at h
      obtain ⟨d1, d2, d3, _⟩ := deage_inv hp ha (by omega) hd
      exact (OpGe.of_deage hp ha (by omega) hd).trans (ih op1 op' d1 d2 (by rw [d3]; omega) h)

theorem OpGe.of_splitBin {n : Nat} {nb : Nbrs} {cb fl : Sl Nat} {op op' : OP} {i : Nat} {w : Bool}
    (hp : PartInv n op) (hi : i < n) (hs : splitBin nb cb fl op i = .ok (w, op')) : OpGe op op' := by
  obtain ⟨op1, s, hlast⟩ := splitBin_step hp hi hs
  have h1 : OpGe op op1 := ⟨Nat.le_of_eq s.szOrder.symm, Nat.le_of_eq s.szInCell.symm, Nat.le_of_eq s.szBd.symm,
    Nat.le_of_eq s.szAges.symm, s.szBtc, by rw [s.value]⟩
  by_cases hsp : binIdx op.binDividers.toList i = op.spl
  · rw [if_pos hsp] at hlast
    exact h1.trans (OpGe.of_expandValue hlast)
  · rw [if_neg hsp] at hlast
    rw [hlast.2]
    exact h1

theorem OpGe.of_refine {n : Nat} {nb : Nbrs} {cb fl : Sl Nat} {opts : Options} {op op' : OP} {sc sc' : Scratch}
    {w : Bool} (h : PartInv n op) (ha : AgeInv op) (hsc : ScratchOK n sc)
    (hr : refine nb cb fl opts op sc = .ok (w, op', sc')) : OpGe op op' := by
  unfold refine at hr
  rw [h.lenOrder] at hr
  obtain ⟨⟨_, _, _, _, z0, zi, z1, z2⟩, hq, _⟩ := refineLoop_inv2 stablePerm
    (sizesCarried2 nb n cb fl opts op.binsToCheck.data.size op.value.data.size) _ op op' sc sc' w h ha
    ⟨Nat.le_refl _, Nat.le_refl _⟩ hsc.scrInv hr
  have hz : op.binsToCheck.data.size ≤ op'.binsToCheck.data.size ∧ op.value.data.size ≤ op'.value.data.size := by
    cases w with
    | false => exact hq.1 rfl
    | true => exact hq.2 rfl
  exact ⟨Nat.le_of_eq z0.symm, Nat.le_of_eq zi.symm, Nat.le_of_eq z1.symm, Nat.le_of_eq z2.symm, hz.1, hz.2⟩

structure OpCap (N M : Nat) (op : OP) : Prop where
  order : N ≤ op.order.data.size
  inCell : N ≤ op.inCell.data.size
  bd : N ≤ op.binDividers.data.size
  ages : N ≤ op.binAges.data.size
  btc : N ≤ op.binsToCheck.data.size
  value : M ≤ op.value.data.size

theorem OpCap.mono {N M : Nat} {op op' : OP} (h : OpCap N M op) (g : OpGe op op') : OpCap N M op' :=
  ⟨Nat.le_trans h.order g.order, Nat.le_trans h.inCell g.inCell, Nat.le_trans h.bd g.bd,
    Nat.le_trans h.ages g.ages, Nat.le_trans h.btc g.btc, Nat.le_trans h.value g.value⟩

structure ScCap (N : Nat) (sc : Scratch) : Prop where
  dws : N ≤ sc.dws.data.size
  nbs : N ≤ sc.nbs.data.size
  space : N ≤ sc.space.data.size
  ts : N ≤ sc.timesSeen.data.size
  mc : N ≤ sc.maxCell.data.size
  nm : N ≤ sc.numberOfMax.data.size

theorem ScCap.of_refine {n N : Nat} {nb : Nbrs} {cb fl : Sl Nat} {opts : Options} {op op' : OP} {sc sc' : Scratch}
    {w : Bool} (h : PartInv n op) (ha : AgeInv op) (hsc : ScratchOK n sc)
    (hr : refine nb cb fl opts op sc = .ok (w, op', sc')) (c : ScCap N sc) : ScCap N sc' := by
  obtain ⟨_, _, _, _, y1, y2, y3, y4, y5, y6, _⟩ := refine_inv stablePerm h ha hsc hr
  exact ⟨by rw [y1]; exact c.dws, by rw [y2]; exact c.nbs, by rw [y3]; exact c.space, by rw [y4]; exact c.ts,
    by rw [y5]; exact c.mc, by rw [y6]; exact c.nm⟩

structure SizeInv (n N M : Nat) (s : LS) : Prop where
  op : OpCap N M s.op
  sc : ScCap N s.sc
  cb : M ≤ s.currentBest.data.size
  fl : M ≤ s.firstLeaf.data.size
  bpath : N ≤ s.bestPath.data.size
  bperm : N ≤ s.bestPerm.data.size
  bpinv : N ≤ s.bestPermInv.data.size
  fpinv : N ≤ s.flPermInv.data.size
  fpath : N ≤ s.flPath.data.size
  gens : N ≤ s.gens.size + 1
  borb : s.bestOrbits.size = n
  forb : s.flOrbits.size = n

theorem SizeInv.step {n N M : Nat} {s s' : LS} (h : SizeInv n N M s) (hop : OpGe s.op s'.op) (e1 : s'.sc = s.sc)
    (e2 : s'.currentBest = s.currentBest) (e3 : s'.firstLeaf = s.firstLeaf) (e4 : s'.bestPath = s.bestPath)
    (e5 : s'.bestPerm = s.bestPerm) (e6 : s'.bestPermInv = s.bestPermInv) (e7 : s'.flPermInv = s.flPermInv)
    (e8 : s'.flPath = s.flPath) (e9 : s'.gens.size = s.gens.size) (e10 : s'.bestOrbits.size = s.bestOrbits.size)
    (e11 : s'.flOrbits.size = s.flOrbits.size) : SizeInv n N M s' :=
  ⟨h.op.mono hop, by rw [e1]; exact h.sc, by rw [e2]; exact h.cb, by rw [e3]; exact h.fl, by rw [e4]; exact h.bpath,
    by rw [e5]; exact h.bperm, by rw [e6]; exact h.bpinv, by rw [e7]; exact h.fpinv, by rw [e8]; exact h.fpath,
    by rw [e9]; exact h.gens, by rw [e10]; exact h.borb, by rw [e11]; exact h.forb⟩

theorem SizeInv.of_backJump {n N M : Nat} {s0 s1 : LS} {ref : Sl Nat} (h : backJump s0 ref = .ok s1) (hp : PartInv n s0.op)
    (ha : AgeInv s0.op) (hage : s0.op.age = s0.path.length) (hc : SizeInv n N M s0) : SizeInv n N M s1 := by
  obtain ⟨j, op', hj, _, hd, rfl⟩ := backJump_shape h
  exact hc.step (OpGe.of_deageTimes j s0.op op' hp ha (by rw [hage]; exact_mod_cast hj) hd)
    rfl rfl rfl rfl rfl rfl rfl rfl rfl rfl rfl

theorem record_size {n : Nat} {order pinv : Sl Nat} {gens gens' : Array (Sl Nat)} {ngens ngens' : Nat} {merges : Bool}
    (hlen : order.len = n)
    (hr : (if merges = true then recordGenerator n order pinv gens ngens else Outcome.ok (gens, ngens))
      = .ok (gens', ngens')) : gens'.size = gens.size := by
  cases merges with
  | true =>
    rw [if_pos rfl] at hr
    exact (recordGenerator_spec hlen hr).2.2.1
  | false =>
    rw [if_neg (by simp)] at hr
    simp only [Outcome.ok.injEq, Prod.mk.injEq] at hr
    rw [← hr.1]

theorem SizeInv.of_leafNode {n m N M : Nat} {s s1 : LS} (hc : Core n s) (hage : s.op.age = s.path.length)
    (hz : SizeInv n N M s) (h : leafNode n m s = .ok s1) : SizeInv n N M s1 := by
  have hstore : ∀ {cb bpi : Sl Nat} {bo : Disjoint.DS}, s.currentBest.reslice m = .ok cb →
      forRange (resetStep s.op.order) s.op.order.len 0 (s.bestPermInv, s.bestOrbits) = .ok (bpi, bo) →
      M ≤ (cb.copyFrom s.op.value.toList).data.size ∧ N ≤ bpi.data.size ∧ bo.size = n := by
    intro cb bpi bo hcb hloop
    obtain ⟨_, q1, _, rfl, _⟩ := resetLoop_spec hc.part.perm hc.part.wfOrder hc.part.lenOrder hz.borb hloop
    exact ⟨by rw [Sl.copyFrom_cap, (Sl.reslice_len hcb).2.1]; exact hz.cb, by rw [q1]; exact hz.bpinv,
      Disjoint.size_new n⟩
  cases leafNode_case h with
  | @first cb bpi bo _ hcb hloop =>
    obtain ⟨k1, k2, k3⟩ := hstore hcb hloop
    refine ⟨hz.op, hz.sc, k1, ?_, ?_, ?_, k2, ?_, ?_, hz.gens, k3, ?_⟩
    · show M ≤ (s.firstLeaf.copyFrom s.op.value.toList).data.size
      rw [Sl.copyFrom_cap]; exact hz.fl
    · show N ≤ (s.bestPath.copyFrom s.path.reverse).data.size
      rw [Sl.copyFrom_cap]; exact hz.bpath
    · show N ≤ (s.bestPerm.copyFrom s.op.order.toList).data.size
      rw [Sl.copyFrom_cap]; exact hz.bperm
    · show N ≤ (s.flPermInv.copyFrom bpi.toList).data.size
      rw [Sl.copyFrom_cap]; exact hz.fpinv
    · show N ≤ (s.flPath.copyFrom s.path.reverse).data.size
      rw [Sl.copyFrom_cap]; exact hz.fpath
    · show (Sl.copyFrom ⟨s.flOrbits, s.flOrbits.size⟩ bo.toList).data.size = n
      rw [Sl.copyFrom_cap]; exact hz.forb
  | @accept cb bpi bo _ _ hcb hloop =>
    obtain ⟨k1, k2, k3⟩ := hstore hcb hloop
    refine ⟨hz.op, hz.sc, k1, hz.fl, ?_, ?_, k2, hz.fpinv, hz.fpath, hz.gens, k3, hz.forb⟩
    · show N ≤ (s.bestPath.copyFrom s.path.reverse).data.size
      rw [Sl.copyFrom_cap]; exact hz.bpath
    · show N ≤ (s.bestPerm.copyFrom s.op.order.toList).data.size
      rw [Sl.copyFrom_cap]; exact hz.bperm
  | @eq pinv ref bo fo merges gens' ngens' _ _ _ hX hl2 hrec hbj =>
    have hbo : bo.size = s.bestOrbits.size := by
      cases hX with
      | best _ hl1 => exact orbitLoop_size hl1
      | first _ _ => rfl
    refine SizeInv.of_backJump (n := n) hbj hc.part hc.age hage ?_
    exact hz.step (OpGe.refl _) rfl rfl rfl rfl rfl rfl rfl rfl (record_size hc.part.lenOrder hrec) hbo
      (orbitLoop_size hl2)
  | other _ _ _ _ => exact hz.step (OpGe.refl _) rfl rfl rfl rfl rfl rfl rfl rfl rfl rfl rfl

theorem sizeMainJX {n m N M : Nat} {nb : Nbrs} :
    MainJX n m nb (fun _ _ => True) (fun _ _ => True) (fun _ _ => True) (fun _ _ _ => True)
      (fun _ s => SizeInv n N M s) (fun _ s => SizeInv n N M s) (fun _ s => SizeInv n N M s)
      (fun _ _ s => SizeInv n N M s) where
  na := fun _ _ _ h => h
  deage := fun lv s op' k hc ht hsk hage _ hx hd =>
    hx.step (OpGe.of_deage hc.part hc.age (ht.age_pos hage) hd) rfl rfl rfl rfl rfl rfl rfl rfl rfl rfl rfl
  noskip := fun _ _ _ _ hx => hx.step (OpGe.refl _) rfl rfl rfl rfl rfl rfl rfl rfl rfl rfl rfl
  skipA := fun _ _ _ _ _ _ _ _ _ _ _ _ _ _ _ _ _ _ _ _ _ _ hx =>
    hx.step (OpGe.refl _) rfl rfl rfl rfl rfl rfl rfl rfl rfl rfl rfl
  skipB := fun _ _ _ _ _ _ _ _ _ _ _ _ _ _ _ _ _ _ _ hh _ hx =>
    hx.step (OpGe.refl _) rfl rfl rfl rfl rfl rfl rfl rfl rfl (h2Best_size hh) rfl
  split := fun st sz ls s c cs p ps ce bo w op' k hc _ _ _ _ _ hget hh _ _ hs _ hx => by
    have key : SizeInv n N M { s with choices := (c - 1) :: cs, bestOrbits := bo, op := op', path := k :: ps } :=
      hx.step (OpGe.of_splitBin hc.part (hc.part.lt_of_order_get hget).1 hs) rfl rfl rfl rfl rfl rfl rfl rfl rfl (bestOrbits_if_size hh) rfl
    exact ⟨fun _ _ => key, fun _ _ => key⟩
  pop := fun _ _ _ _ _ _ _ _ _ hx => hx.step (OpGe.refl _) rfl rfl rfl rfl rfl rfl rfl rfl rfl rfl rfl
  node := fun lv worse s s1 lv1 hI _ hlv _ hx hs1 _ _ _ => by
    have key : SizeInv n N M s1 := by
      rcases node_cases hI hlv hs1 with ⟨_, _, hs1⟩ | ⟨_, _, st, sz, rfl, _⟩ | ⟨_, rfl⟩
      · exact SizeInv.of_leafNode hI.core hI.age hx hs1
      · exact hx.step (OpGe.refl _) rfl rfl rfl rfl rfl rfl rfl rfl rfl rfl rfl
      · exact hx
    exact ⟨key, fun _ => key⟩
  refine := fun lv s w op' sc' hc _ _ _ _ _ hx hr _ => by
    have c := hx.sc.of_refine hc.part hc.age hc.scr hr
    exact ⟨hx.op.mono (OpGe.of_refine hc.part hc.age hc.scr hr), ⟨c.dws, c.nbs, c.space, c.ts, c.mc, c.nm⟩, hx.cb, hx.fl,
      hx.bpath, hx.bperm, hx.bpinv, hx.fpinv, hx.fpath, hx.gens, hx.borb, hx.forb⟩

/-- a generator is recorded only when it merges two classes of `firstLeafOrbits`, so `generators[:len+1]` stays within
its `n - 1` slots -/
def GenCnt (n : Nat) (s : LS) : Prop :=
  (0 < s.count → s.ngens + numRoots s.flOrbits ≤ n) ∧ (s.count = 0 → s.ngens = 0)

theorem numRoots_le_size (ds : Disjoint.DS) : numRoots ds ≤ ds.size := by
  unfold numRoots
  have := List.length_filter_le (fun x => decide (x < 0)) ds.toList
  simpa using this

theorem GenCnt.of_backJump {n : Nat} {s0 s1 : LS} {ref : Sl Nat} (h : backJump s0 ref = .ok s1) (hc : GenCnt n s0) :
    GenCnt n s1 := by
  obtain ⟨j, op', _, _, _, rfl⟩ := backJump_shape h
  exact hc

theorem GenCnt.of_leafNode {n m : Nat} {nb : Nbrs} {s s1 : LS} (hp : PartInv n s.op) (hg : GInv n m nb s)
    (hg1 : GInv n m nb s1) (hc : GenCnt n s) (h : leafNode n m s = .ok s1) :
    GenCnt n s1 := by
  -- the equal leaves: the orbit loop, then the conditional recording
  have hrec : ∀ {pinv : Sl Nat} {fo : Disjoint.DS} {merges : Bool} {gens' : Array (Sl Nat)} {ngens' : Nat}, 0 < s.count →
      forRange (orbitStep s.op.order pinv) n 0 (s.flOrbits, false) = .ok (fo, merges) →
      (if merges = true then recordGenerator n s.op.order pinv s.gens s.ngens else Outcome.ok (s.gens, s.ngens))
        = .ok (gens', ngens') → ngens' + numRoots fo ≤ n := by
    intro pinv fo merges gens' ngens' hpos hl hr
    obtain ⟨a1, a2, _⟩ := numRoots_orbitLoop (hg.orb hpos).1 hg.orbSz.1 hp.n_pos hl
    have hgc := hc.1 hpos
    cases merges with
    | true =>
      rw [if_pos rfl] at hr
      obtain ⟨b1, _⟩ := recordGenerator_spec hp.lenOrder hr
      have := a2 rfl
      omega
    | false =>
      rw [if_neg (by simp)] at hr
      obtain ⟨-, rfl⟩ := Prod.mk.inj (Outcome.ok.inj hr)
      omega
  cases leafNode_case h with
  | @first cb pinv' orb' h0 _ _ =>
    -- the first leaf: no generator yet, `n` classes at most
    have hsz1 : (Sl.copyFrom ⟨s.flOrbits, s.flOrbits.size⟩ orb'.toList).data.size = n := hg1.orbSz.1
    have hnr := numRoots_le_size (Sl.copyFrom ⟨s.flOrbits, s.flOrbits.size⟩ orb'.toList).data
    have hn0 := hc.2 h0
    exact ⟨fun _ => by
      show s.ngens + numRoots (Sl.copyFrom ⟨s.flOrbits, s.flOrbits.size⟩ orb'.toList).data ≤ n
      omega, fun hz => absurd hz (Nat.succ_ne_zero _)⟩
  | accept hpos _ _ _ => exact ⟨fun _ => hc.1 hpos, fun hz => absurd hz (Nat.succ_ne_zero _)⟩
  | eq hpos _ _ hl2 hr hbj =>
    exact GenCnt.of_backJump hbj ⟨fun _ => hrec hpos hl2 hr, fun hz => absurd hz (Nat.succ_ne_zero _)⟩
  | other hpos _ _ _ => exact ⟨fun _ => hc.1 hpos, fun hz => absurd hz (Nat.succ_ne_zero _)⟩

/-- only the leaf step touches `count`, `ngens`, `firstLeafOrbits` -/
theorem genCntMainJX {n m : Nat} {nb : Nbrs} :
    MainJX n m nb (CertA n m nb) (CertN n m nb) (CertN n m nb) (CertM n m nb)
      (fun _ s => GenCnt n s) (fun _ s => GenCnt n s) (fun _ s => GenCnt n s) (fun _ _ s => GenCnt n s) where
  na := fun _ _ _ h => h
  deage := fun _ _ _ _ _ _ _ _ _ hx _ => hx
  noskip := fun _ _ _ _ hx => hx
  skipA := fun _ _ _ _ _ _ _ _ _ _ _ _ _ _ _ _ _ _ _ _ _ _ hx => hx
  skipB := fun _ _ _ _ _ _ _ _ _ _ _ _ _ _ _ _ _ _ _ _ _ hx => hx
  split := fun _ _ _ _ _ _ _ _ _ _ _ _ _ _ _ _ _ _ _ _ _ _ _ _ _ hx => ⟨fun _ _ => hx, fun _ _ => hx⟩
  pop := fun _ _ _ _ _ _ _ _ _ hx => hx
  node := fun lv worse s s1 lv1 hI _ hlv hM hx hs1 _ hA1 _ => by
    have key : GenCnt n s1 := by
      rcases node_cases hI hlv hs1 with ⟨_, _, hs1⟩ | ⟨_, _, st, sz, rfl, _⟩ | ⟨_, rfl⟩
      · exact GenCnt.of_leafNode hI.core.part hM.1 hA1.1 hx hs1
      · exact hx
      · exact hx
    exact ⟨key, fun _ => key⟩
  refine := fun _ _ _ _ _ _ _ _ _ _ _ hx _ _ => hx

theorem CapInv.of_size {n m : Nat} {s : LS} (hz : SizeInv n n m s) (hg : GenCnt n s) : CapInv n m s :=
  ⟨hz.op.bd, hz.op.ages, hz.op.btc, hz.sc.dws, hz.sc.nbs, hz.sc.space, hz.cb, hz.gens, hg.1⟩

theorem CapInv.and_of_size {n m : Nat} {s : LS} {P : Prop} (h : (P ∧ SizeInv n n m s) ∧ GenCnt n s) : P ∧ CapInv n m s :=
  ⟨h.1.1, CapInv.of_size h.1.2 h.2⟩

theorem SizeInv.of_init {n m : Nat} {nb : Nbrs} {opts : Options} {op0 : OP} {s0 : LS} (hi : InitSt n m nb opts op0 s0)
    (hc : CapInv n m s0) (hp : PartInv n op0) (ha : AgeInv op0) (hop : OpCap n m op0) : SizeInv n n m s0 := by
  obtain ⟨sc, op1, sc1, w2, hsc, _, href, hexp⟩ := hi.ref
  have wf {α : Type} {x : Sl α} {k : Nat} (h : x.len = k ∧ x.WF) : k ≤ x.data.size := h.1 ▸ h.2
  have hscr := hi.minv.core.scr
  exact ⟨hop.mono ((OpGe.of_refine hp ha hsc href).trans (OpGe.of_expandValue hexp)),
    ⟨hc.dws, hc.nbs, hc.space, hi.minv.tsCap, wf ⟨hscr.lenM, hscr.wfM⟩, wf ⟨hscr.lenN, hscr.wfN⟩⟩, hc.cb,
    wf hi.cinv.g.flLen, wf hi.bpLen, wf ⟨hi.minv.core.bestLen, hi.minv.core.bestWf⟩, wf hi.cinv.g.bpinv,
    wf hi.cinv.g.pinv, wf hi.fpLen, hc.gens, hi.cinv.g.orbSz.2, hi.cinv.g.orbSz.1⟩

end CanonF
