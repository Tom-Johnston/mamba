import Mathlib.Data.List.Perm.Subperm
import Mathlib.Data.List.Permutation
import Mathlib.Logic.Function.Iterate
import Mathlib.Tactic.SplitIfs
import Mamba.Lemmas.IterGeneric
import Mamba.Lemmas.IterSlice
import Mamba.Lemmas.IterAbsorbing
import Mamba.Model.IterPerm
/-!
# `Permutations(n)` (Heap's algorithm, non-recursive form with the counter array `c`)

`Iter.Spec.heapRun k a` is the recursive procedure "generate all arrangements of the first `k` positions of `a`"
(`for j = 0..k-1 { heapRun (k-1); if j < k-1 then swap (k-1 even ? 0 : j) (k-1) }`): the list of arrays visited, in
order, and the final array; `heapList n = (heapRun n [0,…,n-1]).1` (no order is documented: the order is the
algorithm's own).

Route: the counters describe a leaf of the recursion, and from it the model still owes exactly the arrays the procedure
still visits (`Heap.Owes`; `heapNext` is the pure successor on (array, counters), `heapRem` the arrays still to come).
That `heapList n` has no repetition rests on the arrangement each level leaves behind (`heapPi_closed`: odd `k` exchanges
positions `0` and `k-1`; even `k`: `[x₀, x₁ … x_{k-4}, u, v, w] ↦ [u, v, x₁ … x_{k-4}, w, x₀]`), which makes the `k` blocks
of `heapRun k` differ at position `k-1` (`heapQ_top_inj`); with `n!` values this gives every rearrangement.
-/
namespace Iter.Spec

def swapAt (a : List Int) (x y : Nat) : List Int := (a.set x (a.getD y 0)).set y (a.getD x 0)

/-- index swapped with `m` in iteration `j` of the loop at level `m` -/
def heapIdx (m j : Nat) : Nat := if m % 2 = 0 then 0 else j

def heapLoopG {α : Type} (sw : α → Nat → Nat → α) (run : α → List α × α) (m : Nat) :
    Nat → Nat → α → List α × α
  | 0, _, a => run a
  | r+1, j, a =>
    let r1 := run a
    let r2 := heapLoopG sw run m r (j+1) (sw r1.2 (heapIdx m j) m)
    (r1.1 ++ r2.1, r2.2)

def heapRunG {α : Type} (sw : α → Nat → Nat → α) : Nat → α → List α × α
  | 0, a => ([a], a)
  | m+1, a => heapLoopG sw (heapRunG sw m) m m 0 a

def heapRun : Nat → List Int → List (List Int) × List Int := heapRunG swapAt

def heapList (n : Nat) : List (List Int) := (heapRun n ((List.range n).map (fun (i : Nat) => (i : Int)))).1

/-- pure successor: `p` the array, `cs` the counters `c[i], c[i+1], …`; result: the new array and the new
counters from index `i` on (the counters below `i` are reset to 0) -/
def heapNext (p : List Int) : Nat → List Nat → Option (List Int × List Nat)
  | _, [] => none
  | i, ci :: cs =>
    if ci < i then some (swapAt p (heapIdx i ci) i, (ci + 1) :: cs)
    else (heapNext p (i + 1) cs).map (fun r => (r.1, 0 :: r.2))

/-- continue the loop at level `m` whose current iteration `cm` has just finished its recursive call -/
def remStep (m cm : Nat) (r : List (List Int) × List Int) : List (List Int) × List Int :=
  if cm < m then
    let r' := heapLoopG swapAt (heapRun m) m (m - (cm + 1)) (cm + 1) (swapAt r.2 (heapIdx m cm) m)
    (r.1 ++ r'.1, r'.2)
  else r

/-- the arrays still to be visited (and the final array) by the recursive procedure, from a leaf -/
def heapRem : Nat → List Nat → List (List Int) × List Int → List (List Int) × List Int
  | _, [], r => r
  | i, ci :: cs, r => heapRem (i + 1) cs (remStep i ci r)

end Iter.Spec

namespace Iter
open Iter.Spec

theorem heapLoopG_head {α : Type} (sw : α → Nat → Nat → α) (run : α → List α × α) (m : Nat)
    (hrun : ∀ a, ∃ T, (run a).1 = a :: T) :
    ∀ r j a, ∃ T, (heapLoopG sw run m r j a).1 = a :: T := by
  intro r
  induction r with
  | zero => intro j a; exact hrun a
  | succ r ih =>
    intro j a
    obtain ⟨T, hT⟩ := hrun a
    simp only [heapLoopG, hT]
    exact ⟨_, List.cons_append⟩

theorem heapRunG_head {α : Type} (sw : α → Nat → Nat → α) :
    ∀ k a, ∃ T, (heapRunG sw k a).1 = a :: T := by
  intro k
  induction k with
  | zero => intro a; exact ⟨[], rfl⟩
  | succ m ih => intro a; exact heapLoopG_head sw _ m ih m 0 a

theorem remStep_append (m cm : Nat) (L : List (List Int)) (r : List (List Int) × List Int) :
    remStep m cm (L ++ r.1, r.2) = (L ++ (remStep m cm r).1, (remStep m cm r).2) := by
  unfold remStep
  split
  · simp [List.append_assoc]
  · rfl

theorem heapRem_append (L : List (List Int)) : ∀ (cs : List Nat) (i : Nat) (r : List (List Int) × List Int),
    heapRem i cs (L ++ r.1, r.2) = (L ++ (heapRem i cs r).1, (heapRem i cs r).2) := by
  intro cs
  induction cs with
  | nil => intro i r; rfl
  | cons ci cs ih =>
    intro i r
    simp only [heapRem]
    rw [remStep_append, ih]

theorem heapLoop_remStep (m j : Nat) (a : List Int) :
    heapLoopG swapAt (heapRun m) m (m - j) j a =
      (a :: (remStep m j ((heapRun m a).1.tail, (heapRun m a).2)).1,
        (remStep m j ((heapRun m a).1.tail, (heapRun m a).2)).2) := by
  obtain ⟨T, hT⟩ := heapRunG_head swapAt m a
  change (heapRun m a).1 = a :: T at hT
  rcases Nat.lt_or_ge j m with h | h
  · obtain ⟨r, hr⟩ : ∃ r, m - j = r + 1 := ⟨m - j - 1, by omega⟩
    have hr' : m - (j + 1) = r := by omega
    rw [hr]
    simp only [heapLoopG, remStep, h, if_true, hT, List.tail_cons, hr', List.cons_append]
  · have : m - j = 0 := by omega
    rw [this]
    have hn : ¬ j < m := by omega
    simp only [heapLoopG, remStep, hn, if_false]
    apply Prod.ext
    · simp [hT]
    · rfl

theorem heapRem_fresh (cs : List Nat) (a : List Int) : ∀ i,
    heapRem 0 (List.replicate i 0 ++ cs) ([], a) = heapRem i cs ((heapRun i a).1.tail, (heapRun i a).2) := by
  intro i
  induction i generalizing cs with
  | zero => simp [heapRun, heapRunG]
  | succ i ih =>
    rw [List.replicate_succ', List.append_assoc, ih]
    simp only [List.singleton_append, heapRem]
    congr 1
    have h := heapLoop_remStep i 0 a
    simp only [Nat.sub_zero] at h
    change heapRun (i + 1) a = _ at h
    rw [h]
    rfl

theorem heapNext_none (p : List Int) : ∀ (cs : List Nat) (i : Nat) (r : List (List Int) × List Int),
    heapNext p i cs = none → heapRem i cs r = r := by
  intro cs
  induction cs with
  | nil => intro i r _; rfl
  | cons ci cs ih =>
    intro i r h
    simp only [heapNext] at h
    split at h
    · simp at h
    · next hc =>
      simp only [Option.map_eq_none_iff] at h
      simp only [heapRem, remStep, hc, if_false]
      exact ih _ _ h

theorem heapNext_some (p : List Int) : ∀ (cs : List Nat) (i : Nat) (p' : List Int) (cs' : List Nat),
    heapNext p i cs = some (p', cs') →
      heapRem i cs ([], p) = (p' :: (heapRem 0 (List.replicate i 0 ++ cs') ([], p')).1,
        (heapRem 0 (List.replicate i 0 ++ cs') ([], p')).2) := by
  intro cs
  induction cs with
  | nil => intro i p' cs' h; simp [heapNext] at h
  | cons ci cs ih =>
    intro i p' cs' h
    simp only [heapNext] at h
    split at h
    · next hc =>
      simp only [Option.some.injEq, _root_.Prod.mk.injEq] at h
      obtain ⟨h1, h2⟩ := h
      subst h1 h2
      rw [heapRem_fresh]
      simp only [heapRem]
      have e : remStep i ci ([], p) =
          heapLoopG swapAt (heapRun i) i (i - (ci + 1)) (ci + 1) (swapAt p (heapIdx i ci) i) := by
        simp [remStep, hc]
      rw [e, heapLoop_remStep i (ci + 1)]
      exact heapRem_append [_] cs (i + 1) _
    · next hc =>
      cases hn : heapNext p (i + 1) cs with
      | none => simp [hn] at h
      | some r =>
        obtain ⟨p1, cs1⟩ := r
        simp only [hn, Option.map_some, Option.some.injEq, _root_.Prod.mk.injEq] at h
        obtain ⟨h1, h2⟩ := h
        subst h1 h2
        simp only [heapRem, remStep, hc, if_false]
        rw [ih _ _ _ hn, List.replicate_succ', List.append_assoc]
        rfl

theorem heapNext_length (p : List Int) : ∀ (cs : List Nat) (i : Nat) (p' : List Int) (cs' : List Nat),
    heapNext p i cs = some (p', cs') → cs'.length = cs.length ∧ p'.length = p.length := by
  intro cs
  induction cs with
  | nil => intro i p' cs' h; simp [heapNext] at h
  | cons ci cs ih =>
    intro i p' cs' h
    simp only [heapNext] at h
    split at h
    · simp only [Option.some.injEq, _root_.Prod.mk.injEq] at h
      obtain ⟨h1, h2⟩ := h
      subst h1 h2
      simp [swapAt]
    · cases hn : heapNext p (i + 1) cs with
      | none => simp [hn] at h
      | some r =>
        obtain ⟨p1, cs1⟩ := r
        simp only [hn, Option.map_some, Option.some.injEq, _root_.Prod.mk.injEq] at h
        obtain ⟨h1, h2⟩ := h
        subst h1 h2
        have := ih _ _ _ hn
        simp [this.1, this.2]

theorem heap_swap_ok (a : List Int) (x y : Nat) (hx : x < a.length) (hy : y < a.length) :
    swap a (x : Int) (y : Int) = .ok (swapAt a x y) := by
  unfold swap swapAt
  simp [get_natCast, set_natCast, hx, hy]

def heapC (l : List Nat) : Sl := l.map (fun (x : Nat) => (x : Int))

theorem Heap.loop_next (n : Nat) (p : List Int) (hp : p.length = n) :
    ∀ (cs pre : List Nat) (fuel : Nat), pre.length + cs.length = n → cs.length < fuel →
      Heap.loop fuel ⟨n, pre.length, heapC (pre ++ cs), p⟩ =
        match heapNext p pre.length cs with
        | none => .ok (⟨n, n, heapC (pre ++ List.replicate cs.length 0), p⟩, false)
        | some r => .ok (⟨n, 0, heapC (pre ++ r.2), r.1⟩, true) := by
  intro cs
  induction cs with
  | nil =>
    intro pre fuel hl hf
    obtain ⟨f, rfl⟩ : ∃ f, fuel = f + 1 := ⟨fuel - 1, by omega⟩
    simp only [List.length_nil, Nat.add_zero] at hl
    simp [Heap.loop, heapNext, hl]
  | cons ci cs ih =>
    intro pre fuel hl hf
    obtain ⟨f, rfl⟩ : ∃ f, fuel = f + 1 := ⟨fuel - 1, by omega⟩
    simp only [List.length_cons] at hl hf
    have hlt : ((pre.length : Nat) : Int) < (n : Int) := by omega
    have hc : heapC (pre ++ ci :: cs) = heapC pre ++ (ci : Int) :: heapC cs := by simp [heapC]
    have hpl : (heapC pre).length = pre.length := by simp [heapC]
    unfold Heap.loop
    simp only [hlt, if_true, hc, get_at (heapC pre) _ _ _ (by rw [hpl]), Outcome.bind_ok,
      set_at (heapC pre) _ _ _ _ (by rw [hpl])]
    by_cases hci : ci < pre.length
    · have h1 : ((ci : Nat) : Int) < ((pre.length : Nat) : Int) := by omega
      simp only [h1, if_true, heapNext, hci]
      have hcc : heapC (pre ++ (ci + 1) :: cs) = heapC pre ++ ((ci : Int) + 1) :: heapC cs := by simp [heapC]
      unfold heapIdx
      by_cases he : pre.length % 2 = 0
      · have : ((pre.length : Nat) : Int) % 2 = 0 := by omega
        have hs := heap_swap_ok p 0 pre.length (by omega) (by omega)
        simp only [Int.natCast_zero] at hs
        simp only [this, he, if_true, beq_self_eq_true, hs, Outcome.bind_ok, Outcome.pure_eq, hcc]
      · have : ¬ ((pre.length : Nat) : Int) % 2 = 0 := by omega
        have hs := heap_swap_ok p ci pre.length (by omega) (by omega)
        simp only [beq_iff_eq, this, he, if_false, hs, Outcome.bind_ok, Outcome.pure_eq, hcc]
    · have h1 : ¬ ((ci : Nat) : Int) < ((pre.length : Nat) : Int) := by omega
      simp only [h1, if_false, heapNext, hci]
      have e1 : heapC pre ++ (0 : Int) :: heapC cs = heapC ((pre ++ [0]) ++ cs) := by simp [heapC]
      have e2 : ((pre.length : Nat) : Int) + 1 = (((pre ++ [0]).length : Nat) : Int) := by simp
      rw [e1, e2, ih (pre ++ [0]) f (by simp; omega) (by omega)]
      have e3 : (pre ++ [0]).length = pre.length + 1 := by simp
      rw [e3]
      cases heapNext p (pre.length + 1) cs with
      | none => simp [List.replicate_succ]
      | some r => simp

theorem Heap.next_rep (n : Nat) (p : List Int) (c : List Nat) (hp : p.length = n) (hc : c.length = n) :
    match heapNext p 0 c with
    | none => ∃ s', Heap.next ⟨n, 0, heapC c, p⟩ = .ok (s', false) ∧ Heap.Dead s'
    | some r => Heap.next ⟨n, 0, heapC c, p⟩ = .ok (⟨n, 0, heapC r.2, r.1⟩, true) := by
  rcases Nat.eq_zero_or_pos n with h0 | hpos
  · subst h0
    have : c = [] := List.eq_nil_of_length_eq_zero hc
    subst this
    simp only [heapNext]
    exact ⟨⟨0, 0, heapC [], p⟩, by simp [Heap.next], by simp [Heap.Dead]⟩
  · have h1 : ¬ ((0 : Int) = (n : Int)) := by omega
    have hf : ((n : Int) - 0).toNat + 1 = n + 1 := by omega
    have hl := Heap.loop_next n p hp c [] (n + 1) (by simpa using hc) (by omega)
    simp only [List.length_nil, List.nil_append, Int.natCast_zero] at hl
    unfold Heap.next
    simp only [beq_iff_eq, h1, if_false, hf, hl]
    cases heapNext p 0 c with
    | none => exact ⟨_, rfl, by simp [Heap.Dead]⟩
    | some r => rfl

/-- the arrays Heap's iterator still owes: before the first `Next()` all of `heapList n`, afterwards what the
recursive procedure still visits from the leaf described by the counters -/
def Heap.Owes (n : Nat) (s : Heap) (l : List (List Int)) : Prop :=
  (s = ⟨n, -1, List.replicate n 0, (List.range n).map Int.ofNat⟩ ∧ l = heapList n) ∨
  ∃ p c, s = ⟨n, 0, heapC c, p⟩ ∧ p.length = n ∧ c.length = n ∧ (heapRem 0 c ([], p)).1 = l

theorem Heap.owes_stop (n : Nat) (s : Heap) (h : Heap.Owes n s []) :
    ∃ s', Heap.it.next s = .ok (s', false) ∧ Heap.Dead s' := by
  rcases h with ⟨_, hl⟩ | ⟨p, c, rfl, hp, hc, hL⟩
  · obtain ⟨T, hT⟩ := heapRunG_head swapAt n ((List.range n).map (fun (i : Nat) => (i : Int)))
    have : heapList n = _ :: T := hT
    rw [this] at hl; cases hl
  · have h := Heap.next_rep n p c hp hc
    cases hn : heapNext p 0 c with
    | none => simp only [hn] at h; exact h
    | some r => rw [heapNext_some p c 0 r.1 r.2 hn] at hL; simp at hL

theorem Heap.owes_step (n : Nat) (s : Heap) (x : List Int) (l : List (List Int)) (h : Heap.Owes n s (x :: l)) :
    ∃ s1 s2, Heap.it.next s = .ok (s1, true) ∧ Heap.it.value s1 = .ok (s2, x) ∧ Heap.Owes n s2 l := by
  rcases h with ⟨rfl, hl⟩ | ⟨p, c, rfl, hp, hc, hL⟩
  · -- the first `Next()` only moves `i` to 0; the identity is the first array of the recursive procedure
    set a : List Int := (List.range n).map (fun (i : Nat) => (i : Int)) with ha
    obtain ⟨T, hT⟩ := heapRunG_head swapAt n a
    change (heapRun n a).1 = a :: T at hT
    have hrem : (heapRem 0 (List.replicate n 0) ([], a)).1 = T := by
      have := heapRem_fresh [] a n
      simp only [List.append_nil, heapRem] at this
      rw [this, hT]; rfl
    obtain ⟨rfl, rfl⟩ := List.cons.inj (hl.trans hT)
    have e1 : ¬ ((-1 : Int) = (n : Int)) := by omega
    refine ⟨⟨n, 0, List.replicate n 0, a⟩, _, by simp [Heap.it, Heap.next, e1]; rfl, rfl,
      Or.inr ⟨a, List.replicate n 0, by simp [heapC], by simp [ha], by simp, hrem⟩⟩
  · have h := Heap.next_rep n p c hp hc
    cases hn : heapNext p 0 c with
    | none => rw [heapNext_none p c 0 _ hn] at hL; simp at hL
    | some r =>
      simp only [hn] at h
      rw [heapNext_some p c 0 r.1 r.2 hn] at hL
      simp only [List.replicate_zero, List.nil_append, List.cons.injEq] at hL
      obtain ⟨rfl, hL'⟩ := hL
      obtain ⟨l1, l2⟩ := heapNext_length p c 0 r.1 r.2 hn
      exact ⟨_, _, h, rfl, Or.inr ⟨r.1, r.2, rfl, by omega, by omega, hL'⟩⟩

theorem Heap.init_owes (n : Int) (s0 : Heap) (h : Heap.init n = .ok s0) :
    Heap.Owes n.toNat s0 (heapList n.toNat) := by
  unfold Heap.init iota make at h
  by_cases hn : n < 0
  · simp [hn] at h
  · simp only [hn, if_false, Outcome.bind_ok, Outcome.pure_eq, Outcome.ok.injEq] at h
    subst h
    have : ((n.toNat : Nat) : Int) = n := by omega
    exact Or.inl ⟨by rw [this], rfl⟩

theorem heapLoopG_inv {α : Type} (sw : α → Nat → Nat → α) (run : α → List α × α) (m : Nat) (P : α → Prop)
    (hsw : ∀ a x, x ≤ m → P a → P (sw a x m))
    (hrun : ∀ a, P a → (∀ b ∈ (run a).1, P b) ∧ P (run a).2) :
    ∀ r j a, j + r ≤ m → P a → (∀ b ∈ (heapLoopG sw run m r j a).1, P b) ∧ P (heapLoopG sw run m r j a).2 := by
  intro r
  induction r with
  | zero => intro j a _ ha; exact hrun a ha
  | succ r ih =>
    intro j a hj ha
    obtain ⟨h1, h2⟩ := hrun a ha
    have hidx : heapIdx m j ≤ m := by unfold heapIdx; split <;> omega
    obtain ⟨h3, h4⟩ := ih (j + 1) _ (by omega) (hsw _ _ hidx h2)
    simp only [heapLoopG]
    refine ⟨?_, h4⟩
    intro b hb
    rcases List.mem_append.mp hb with h | h
    · exact h1 b h
    · exact h3 b h

theorem heapRunG_inv {α : Type} (sw : α → Nat → Nat → α) (n : Nat) (P : α → Prop)
    (hsw : ∀ a x y, x < n → y < n → P a → P (sw a x y)) :
    ∀ k, k ≤ n → ∀ a, P a → (∀ b ∈ (heapRunG sw k a).1, P b) ∧ P (heapRunG sw k a).2 := by
  intro k
  induction k with
  | zero => intro _ a ha; simpa [heapRunG] using ha
  | succ m ih =>
    intro hk a ha
    exact heapLoopG_inv sw _ m P (fun a x hx h => hsw a x m (by omega) (by omega) h) (ih (by omega)) m 0 a
      (by omega) ha

theorem heapLoopG_map {α β : Type} (swA : α → Nat → Nat → α) (swB : β → Nat → Nat → β) (h : β → α)
    (runA : α → List α × α) (runB : β → List β × β) (m : Nat)
    (hsw : ∀ b x, x ≤ m → h (swB b x m) = swA (h b) x m)
    (hrun : ∀ b, runA (h b) = ((runB b).1.map h, h (runB b).2)) :
    ∀ r j b, j + r ≤ m → heapLoopG swA runA m r j (h b) =
      ((heapLoopG swB runB m r j b).1.map h, h (heapLoopG swB runB m r j b).2) := by
  intro r
  induction r with
  | zero => intro j b _; exact hrun b
  | succ r ih =>
    intro j b hj
    have hidx : heapIdx m j ≤ m := by unfold heapIdx; split <;> omega
    simp only [heapLoopG, hrun, ← hsw _ _ hidx, ih (j + 1) _ (by omega), List.map_append]

theorem heapRunG_map {α β : Type} (swA : α → Nat → Nat → α) (swB : β → Nat → Nat → β) (h : β → α) (n : Nat)
    (hsw : ∀ b x y, x < n → y < n → h (swB b x y) = swA (h b) x y) :
    ∀ k, k ≤ n → ∀ b, heapRunG swA k (h b) = ((heapRunG swB k b).1.map h, h (heapRunG swB k b).2) := by
  intro k
  induction k with
  | zero => intro _ b; rfl
  | succ m ih =>
    intro hk b
    exact heapLoopG_map swA swB h _ _ m (fun b x hx => hsw b x m (by omega) (by omega)) (ih (by omega)) m 0 b
      (by omega)

theorem heapLoopG_length {α : Type} (sw : α → Nat → Nat → α) (run : α → List α × α) (m L : Nat)
    (hrun : ∀ a, (run a).1.length = L) :
    ∀ r j a, (heapLoopG sw run m r j a).1.length = (r + 1) * L := by
  intro r
  induction r with
  | zero => intro j a; simp [heapLoopG, hrun]
  | succ r ih =>
    intro j a
    simp only [heapLoopG, List.length_append, hrun, ih]
    rw [Nat.add_mul (r + 1) 1 L, Nat.one_mul, Nat.add_comm]

theorem heapRunG_length {α : Type} (sw : α → Nat → Nat → α) :
    ∀ k a, (heapRunG sw k a).1.length = k.factorial := by
  intro k
  induction k with
  | zero => intro a; rfl
  | succ m ih =>
    intro a
    simp only [heapRunG, Nat.factorial_succ]
    exact heapLoopG_length sw _ m _ ih m 0 a

/-! Position maps: an array reached from the identity array is given by the function that sends a position to the
position its content came from. -/

def swN (x y p : Nat) : Nat := if p = x then y else if p = y then x else p

def swF (g : Nat → Nat) (x y : Nat) : Nat → Nat := fun p => g (swN x y p)

/-- position map at the start of iteration `j` of the loop at level `m` (`σ` = effect of one recursive call) -/
def heapQ (σ : Nat → Nat) (m : Nat) : Nat → Nat → Nat
  | 0 => fun p => p
  | j+1 => fun p => heapQ σ m j (σ (swN (heapIdx m j) m p))

/-- the effect of `heapRun k` on the positions -/
def heapPi : Nat → Nat → Nat
  | 0 => fun p => p
  | m+1 => fun p => heapQ (heapPi m) m m (heapPi m p)

theorem heapLoopF_eq (σ : Nat → Nat) (m : Nat) (run : (Nat → Nat) → List (Nat → Nat) × (Nat → Nat))
    (hrun : ∀ g, (run g).2 = g ∘ σ) (g : Nat → Nat) :
    ∀ r j, heapLoopG swF run m r j (g ∘ heapQ σ m j) =
      ((List.range' j (r + 1)).flatMap (fun t => (run (g ∘ heapQ σ m t)).1), g ∘ heapQ σ m (j + r) ∘ σ) := by
  intro r
  induction r with
  | zero =>
    intro j
    apply Prod.ext
    · simp [heapLoopG]
    · simp only [heapLoopG, hrun, Nat.add_zero]; rfl
  | succ r ih =>
    intro j
    have e : swF (run (g ∘ heapQ σ m j)).2 (heapIdx m j) m = g ∘ heapQ σ m (j + 1) := by
      rw [hrun]; rfl
    simp only [heapLoopG, e, ih (j + 1)]
    rw [List.range'_succ (s := j) (n := r + 1), List.flatMap_cons, show j + 1 + r = j + (r + 1) by omega]

theorem heapRunF_final : ∀ k g, (heapRunG swF k g).2 = g ∘ heapPi k := by
  intro k
  induction k with
  | zero => intro g; rfl
  | succ m ih =>
    intro g
    have := heapLoopF_eq (heapPi m) m (heapRunG swF m) ih g m 0
    simp only [Nat.zero_add] at this
    change (heapLoopG swF (heapRunG swF m) m m 0 (g ∘ heapQ (heapPi m) m 0)).2 = _
    rw [this]; rfl

theorem heapRunF_blocks (m : Nat) (g : Nat → Nat) :
    (heapRunG swF (m + 1) g).1 =
      (List.range (m + 1)).flatMap (fun t => (heapRunG swF m (g ∘ heapQ (heapPi m) m t)).1) := by
  have := heapLoopF_eq (heapPi m) m (heapRunG swF m) (heapRunF_final m) g m 0
  change (heapLoopG swF (heapRunG swF m) m m 0 (g ∘ heapQ (heapPi m) m 0)).1 = _
  rw [this, List.range_eq_range']

theorem swN_left (x y : Nat) : swN x y x = y := if_pos rfl

theorem swN_right (x y : Nat) : swN x y y = x := by
  unfold swN; split
  · next h => exact h
  · exact if_pos rfl

theorem swN_of_ne {x y p : Nat} (hx : p ≠ x) (hy : p ≠ y) : swN x y p = p := by
  rw [swN, if_neg hx, if_neg hy]

theorem swN_invol (x y p : Nat) : swN x y (swN x y p) = p := by
  by_cases hx : p = x
  · rw [hx, swN_left, swN_right]
  by_cases hy : p = y
  · rw [hy, swN_right, swN_left]
  · rw [swN_of_ne hx hy, swN_of_ne hx hy]

theorem swN_inj (x y : Nat) : Function.Injective (swN x y) :=
  Function.LeftInverse.injective (g := swN x y) (swN_invol x y)

theorem heapRunF_inj (k : Nat) (g : Nat → Nat) (hg : Function.Injective g) :
    (∀ f ∈ (heapRunG swF k g).1, Function.Injective f) ∧ Function.Injective (heapRunG swF k g).2 :=
  heapRunG_inv swF k Function.Injective (fun _ x y _ _ ha => ha.comp (swN_inj x y)) k (Nat.le_refl _) g hg

theorem heapPi_inj (k : Nat) : Function.Injective (heapPi k) := by
  have := (heapRunF_inj k id Function.injective_id).2
  rwa [heapRunF_final] at this

theorem heapQ_inj (σ : Nat → Nat) (hσ : Function.Injective σ) (m : Nat) : ∀ j, Function.Injective (heapQ σ m j) := by
  intro j
  induction j with
  | zero => exact fun _ _ h => h
  | succ j ih => exact ih.comp (hσ.comp (swN_inj _ _))

theorem heapRunF_fix (k : Nat) (g : Nat → Nat) :
    ∀ f ∈ (heapRunG swF k g).1, ∀ p, k ≤ p → f p = g p := by
  refine (heapRunG_inv swF k (fun f => ∀ p, k ≤ p → f p = g p) ?_ k (Nat.le_refl _) g (fun _ _ => rfl)).1
  intro a x y hx hy ha p hp
  simp only [swF, swN_of_ne (show p ≠ x by omega) (show p ≠ y by omega)]
  exact ha p hp

/-! Each closed form is a chain of `if`s; its value on each region of positions is stated once, and the step lemmas go
through the few regions of positions that a step distinguishes, rewriting with these values. -/

/-- effect of `heapRun (M+1)` for odd `M`: `[x₀, x₁ … x_{M-3}, u, v, w] ↦ [u, v, x₁ … x_{M-3}, w, x₀]` -/
def evenPi (M p : Nat) : Nat :=
  if p = M then 0 else if p = M - 1 then M else if p = 0 then M - 2 else if p = 1 then M - 1
  else if p ≤ M - 2 then p - 1 else p

theorem evenPi_top {M p : Nat} (h : p = M) : evenPi M p = 0 := if_pos h

theorem evenPi_pred {M p : Nat} (h : p + 1 = M) : evenPi M p = M := by
  rw [evenPi, if_neg (by omega), if_pos (by omega)]

theorem evenPi_zero (M : Nat) (hM : 2 ≤ M) : evenPi M 0 = M - 2 := by
  rw [evenPi, if_neg (by omega), if_neg (by omega), if_pos rfl]

theorem evenPi_one (M : Nat) (hM : 3 ≤ M) : evenPi M 1 = M - 1 := by
  rw [evenPi, if_neg (by omega), if_neg (by omega), if_neg (by omega), if_pos rfl]

theorem evenPi_mid {M p : Nat} (h1 : 2 ≤ p) (h2 : p + 2 ≤ M) : evenPi M p = p - 1 := by
  rw [evenPi, if_neg (by omega), if_neg (by omega), if_neg (by omega), if_neg (by omega), if_pos (by omega)]

theorem evenPi_fix {M p : Nat} (hM : 1 ≤ M) (hp : M < p) : evenPi M p = p := by
  rw [evenPi, if_neg (by omega), if_neg (by omega), if_neg (by omega), if_neg (by omega), if_neg (by omega)]

/-- position map at the start of iteration `J` (`1 ≤ J ≤ m-1`) of the loop at an odd level `m` -/
def evenQ (m J p : Nat) : Nat :=
  if p = 0 then (if J % 2 = 1 then m else 0)
  else if p = m - 1 then (if J % 2 = 1 then 0 else m)
  else if p = m then (if J = 1 then m - 1 else J - 1)
  else if p = 1 then (if J ≤ 1 then 1 else m - 1)
  else if p < J then p - 1
  else p

theorem evenQ_zero (m J : Nat) : evenQ m J 0 = if J % 2 = 1 then m else 0 := if_pos rfl

theorem evenQ_pred (m J : Nat) (hm : 2 ≤ m) : evenQ m J (m - 1) = if J % 2 = 1 then 0 else m := by
  rw [evenQ, if_neg (by omega), if_pos rfl]

theorem evenQ_top (m J : Nat) (hm : 2 ≤ m) : evenQ m J m = if J = 1 then m - 1 else J - 1 := by
  rw [evenQ, if_neg (by omega), if_neg (by omega), if_pos rfl]

theorem evenQ_one (m J : Nat) (hm : 3 ≤ m) : evenQ m J 1 = if J ≤ 1 then 1 else m - 1 := by
  rw [evenQ, if_neg (by omega), if_neg (by omega), if_neg (by omega), if_pos rfl]

theorem evenQ_mid (m J : Nat) {p : Nat} (h1 : 2 ≤ p) (h2 : p ≠ m - 1) (h3 : p ≠ m) :
    evenQ m J p = if p < J then p - 1 else p := by
  rw [evenQ, if_neg (by omega), if_neg h2, if_neg h3, if_neg (by omega)]

/-- the position whose original content is at position `m` in iteration `J` of the loop at an odd level `m` -/
def topE (m J : Nat) : Nat := if J = 0 then m else if J = m then 0 else if J = 1 then m - 1 else J - 1

theorem heapIdx_zero (m : Nat) : heapIdx m 0 = 0 := by unfold heapIdx; split <;> rfl

theorem heapIdx_odd {m : Nat} (h : m % 2 = 1) (j : Nat) : heapIdx m j = j := if_neg (by omega)

theorem heapIdx_even {m : Nat} (h : m % 2 = 0) (j : Nat) : heapIdx m j = 0 := if_pos h

theorem evenQ_base (m : Nat) (hm : 3 ≤ m) (p : Nat) : swN 0 (m - 1) (swN 0 m p) = evenQ m 1 p := by
  have hm2 : 2 ≤ m := by omega
  have m0 : m ≠ 0 := by omega
  have m1 : m ≠ m - 1 := by omega
  have p0 : m - 1 ≠ 0 := by omega
  by_cases c0 : p = 0
  · rw [c0, swN_left, swN_of_ne m0 m1, evenQ_zero, if_pos rfl]
  by_cases c1 : p = m
  · rw [c1, swN_right, swN_left, evenQ_top m 1 hm2, if_pos rfl]
  by_cases c2 : p = m - 1
  · rw [c2, swN_of_ne p0 m1.symm, swN_right, evenQ_pred m 1 hm2, if_pos rfl]
  rw [swN_of_ne c0 c1, swN_of_ne c0 c2]
  by_cases c3 : p = 1
  · rw [c3, evenQ_one m 1 hm, if_pos (Nat.le_refl 1)]
  · rw [evenQ_mid m 1 (by omega) c2 c1, if_neg (by omega)]

theorem evenQ_step (m J : Nat) (h1 : 1 ≤ J) (h2 : J + 1 ≤ m - 1) (p : Nat) :
    evenQ m J (swN 0 (m - 1) (swN J m p)) = evenQ m (J + 1) p := by
  have hm : 3 ≤ m := by omega
  have hm2 : 2 ≤ m := by omega
  have m0 : m ≠ 0 := by omega
  have m1 : m ≠ m - 1 := by omega
  have p0 : m - 1 ≠ 0 := by omega
  have J0 : J ≠ 0 := by omega
  have Jm : J ≠ m := by omega
  have Jp : J ≠ m - 1 := by omega
  have par : ∀ a b : Nat, (if (J + 1) % 2 = 1 then a else b) = if J % 2 = 1 then b else a := by
    intro a b; split_ifs <;> first | rfl | omega
  by_cases c0 : p = J
  · -- the content of position `m` goes to position `J`
    rw [c0, swN_left, swN_of_ne m0 m1, evenQ_top m J hm2]
    by_cases hJ : J = 1
    · rw [hJ, evenQ_one m (1 + 1) hm, if_pos rfl, if_neg (by omega)]
    · rw [evenQ_mid m (J + 1) (by omega) Jp Jm, if_neg hJ, if_pos (Nat.lt_succ_self J)]
  by_cases c1 : p = m
  · rw [c1, swN_right, swN_of_ne J0 Jp, evenQ_top m (J + 1) hm2, if_neg (by omega), Nat.add_sub_cancel]
    by_cases hJ : J = 1
    · rw [hJ, evenQ_one m 1 hm, if_pos (Nat.le_refl 1)]
    · rw [evenQ_mid m J (by omega) Jp Jm, if_neg (Nat.lt_irrefl J)]
  by_cases c2 : p = 0
  · rw [c2, swN_of_ne J0.symm m0.symm, swN_left, evenQ_pred m J hm2, evenQ_zero, par]
  by_cases c3 : p = m - 1
  · rw [c3, swN_of_ne Jp.symm m1.symm, swN_right, evenQ_pred m (J + 1) hm2, evenQ_zero, par]
  rw [swN_of_ne c0 c1, swN_of_ne c2 c3]
  by_cases c4 : p = 1
  · rw [c4, evenQ_one m J hm, evenQ_one m (J + 1) hm, if_neg (by omega), if_neg (by omega)]
  · rw [evenQ_mid m J (by omega) c3 c1, evenQ_mid m (J + 1) (by omega) c3 c1]
    by_cases c5 : p < J
    · rw [if_pos c5, if_pos (by omega)]
    · rw [if_neg c5, if_neg (by omega)]

theorem heapQ_odd_level (m : Nat) (hodd : m % 2 = 1) (hm : 3 ≤ m) :
    ∀ J, 1 ≤ J → J ≤ m - 1 → ∀ p, heapQ (swN 0 (m - 1)) m J p = evenQ m J p := by
  intro J
  induction J with
  | zero => intro h; omega
  | succ J ih =>
    intro _ h2 p
    rcases Nat.eq_zero_or_pos J with h0 | hpos
    · subst h0
      simp only [heapQ, heapIdx_zero]
      exact evenQ_base m hm p
    · simp only [heapQ, heapIdx_odd hodd]
      rw [ih hpos (by omega)]
      exact evenQ_step m J hpos (by omega) p

theorem heapQ_odd_last (m : Nat) (hodd : m % 2 = 1) (hm : 3 ≤ m) (p : Nat) :
    heapQ (swN 0 (m - 1)) m m p = evenQ m (m - 1) (swN 0 (m - 1) (swN (m - 1) m p)) := by
  obtain ⟨q, hq⟩ : ∃ q, m = q + 1 := ⟨m - 1, by omega⟩
  have e : heapQ (swN 0 (m - 1)) m m p = heapQ (swN 0 (m - 1)) m (q + 1) p := by rw [← hq]
  rw [e]
  simp only [heapQ, heapIdx_odd hodd]
  rw [show q = m - 1 by omega, heapQ_odd_level m hodd hm (m - 1) (by omega) (Nat.le_refl _)]

theorem evenPi_final (m : Nat) (hodd : m % 2 = 1) (hm : 3 ≤ m) (p : Nat) :
    evenQ m (m - 1) (swN 0 (m - 1) (swN (m - 1) m (swN 0 (m - 1) p))) = evenPi m p := by
  have hm2 : 2 ≤ m := by omega
  have m0 : m ≠ 0 := by omega
  have m1 : m ≠ m - 1 := by omega
  have p0 : m - 1 ≠ 0 := by omega
  have par : ¬ (m - 1) % 2 = 1 := by omega
  by_cases c0 : p = 0
  · rw [c0, swN_left, swN_left, swN_of_ne m0 m1, evenQ_top m _ hm2, if_neg (by omega), evenPi_zero m hm2]
    omega
  by_cases c1 : p = m
  · rw [c1, swN_of_ne (x := 0) (y := m - 1) (p := m) m0 m1, swN_right, swN_right, evenQ_zero,
      if_neg par, evenPi_top rfl]
  by_cases c2 : p = m - 1
  · rw [c2, swN_right, swN_of_ne (x := m - 1) (y := m) p0.symm m0.symm, swN_left, evenQ_pred m _ hm2,
      if_neg par, evenPi_pred (by omega)]
  rw [swN_of_ne c0 c2, swN_of_ne c2 c1, swN_of_ne c0 c2]
  by_cases c3 : p = 1
  · rw [c3, evenQ_one m _ hm, if_neg (by omega), evenPi_one m hm]
  · rw [evenQ_mid m _ (by omega) c2 c1]
    by_cases c4 : p < m - 1
    · rw [if_pos c4, evenPi_mid (by omega) (by omega)]
    · rw [if_neg c4, evenPi_fix (by omega) (by omega)]

theorem heapPi_even_step (m : Nat) (hodd : m % 2 = 1) (ih : ∀ p, heapPi m p = swN 0 (m - 1) p) :
    ∀ p, heapPi (m + 1) p = evenPi m p := by
  have hσ : heapPi m = swN 0 (m - 1) := funext ih
  intro p
  rcases Nat.lt_or_ge m 3 with h | hm
  · have : m = 1 := by omega
    subst this
    simp only [heapPi, heapQ, heapIdx_zero]
    unfold swN evenPi; split_ifs <;> omega
  · change heapQ (heapPi m) m m (heapPi m p) = _
    rw [hσ, heapQ_odd_last m hodd hm]
    exact evenPi_final m hodd hm p

theorem heapQ_top_odd_level (m : Nat) (hodd : m % 2 = 1) (J : Nat) (hJ : J ≤ m) :
    heapQ (swN 0 (m - 1)) m J m = topE m J := by
  rcases Nat.lt_or_ge m 3 with h | hm
  · have : m = 1 := by omega
    subst this
    have : J = 0 ∨ J = 1 := by omega
    rcases this with rfl | rfl <;> rfl
  · rcases Nat.eq_zero_or_pos J with h0 | hpos
    · subst h0; exact (if_pos rfl).symm
    · rcases Nat.lt_or_ge J m with hlt | hge
      · rw [heapQ_odd_level m hodd hm J hpos (by omega), evenQ_top m J (by omega), topE,
          if_neg (show ¬ J = 0 by omega), if_neg (show ¬ J = m by omega)]
      · have : J = m := by omega
        subst this
        rw [heapQ_odd_last J hodd hm, swN_right, swN_right, evenQ_zero, if_neg (by omega), topE, if_neg (by omega),
          if_pos rfl]

theorem topE_inj (m J J' : Nat) (h1 : J < J') (h2 : J' ≤ m) : topE m J ≠ topE m J' := by
  have e' : topE m J' = if J' = m then 0 else if J' = 1 then m - 1 else J' - 1 := if_neg (by omega)
  rw [e']
  rcases Nat.eq_zero_or_pos J with rfl | hJ
  · rw [topE, if_pos rfl]; split_ifs <;> omega
  · rw [topE, if_neg (by omega), if_neg (by omega), if_neg (show ¬ J' = 1 by omega)]
    split_ifs <;> omega

/-! the odd case: the loop at an even level `m` iterates `τ = σ ∘ (0 m)`, a cycle of length `m+1` -/

theorem heapQ_even_level (σ : Nat → Nat) (m : Nat) (heven : m % 2 = 0) :
    ∀ j p, heapQ σ m j p = Nat.iterate (fun p => σ (swN 0 m p)) j p := by
  intro j
  induction j with
  | zero => intro p; rfl
  | succ j ih =>
    intro p
    simp only [heapQ, heapIdx_even heven, Function.iterate_succ_apply]
    exact ih _

theorem iterate_orbit (T f : Nat → Nat) (N : Nat) (h : ∀ i, i < N → T (f i) = f (i + 1)) :
    ∀ d i, i + d ≤ N → Nat.iterate T d (f i) = f (i + d) := by
  intro d
  induction d with
  | zero => intro i _; rfl
  | succ d ih =>
    intro i hi
    rw [Function.iterate_succ_apply, h i (by omega), ih (i + 1) (by omega)]
    congr 1; omega

theorem iterate_cycle (T f : Nat → Nat) (N : Nat) (h : ∀ i, i < N → T (f i) = f (i + 1)) (hN : T (f N) = f 0)
    (i : Nat) (hi : i ≤ N) : Nat.iterate T (N + 1) (f i) = f i := by
  have e : N + 1 = i + (1 + (N - i)) := by omega
  rw [e, Function.iterate_add_apply, Function.iterate_add_apply, iterate_orbit T f N h (N - i) i (by omega),
    show i + (N - i) = N by omega, Function.iterate_one, hN]
  have := iterate_orbit T f N h i 0 (by omega)
  simpa using this

/-- the position whose original content is at position `m` in iteration `j` of the loop at an even level `m`:
`m, m-3, m-4, …, 1, m-2, m-1, 0` -/
def orbO (m j : Nat) : Nat :=
  if j = 0 then m else if j ≤ m - 3 then m - 2 - j else if j = m - 2 then m - 2 else if j = m - 1 then m - 1 else 0

theorem orbO_zero (m : Nat) : orbO m 0 = m := if_pos rfl

theorem orbO_mid {m j : Nat} (h1 : 1 ≤ j) (h2 : j + 3 ≤ m) : orbO m j = m - 2 - j := by
  rw [orbO, if_neg (by omega), if_pos (by omega)]

theorem orbO_sub2 {m j : Nat} (h : j + 2 = m) (hj : j ≠ 0) : orbO m j = j := by
  rw [orbO, if_neg hj, if_neg (by omega), if_pos (by omega)]; omega

theorem orbO_pred {m j : Nat} (h : j + 1 = m) (hj : j ≠ 0) : orbO m j = j := by
  rw [orbO, if_neg hj, if_neg (by omega), if_neg (by omega), if_pos (by omega)]; omega

theorem orbO_top {m j : Nat} (h : j = m) (hm : 1 ≤ m) : orbO m j = 0 := by
  rw [orbO, if_neg (by omega), if_neg (by omega), if_neg (by omega), if_neg (by omega)]

theorem orbO_step (m : Nat) (heven : m % 2 = 0) (i : Nat) (hi : i < m) :
    evenPi (m - 1) (swN 0 m (orbO m i)) = orbO m (i + 1) := by
  rcases Nat.lt_or_ge m 4 with h | h4
  · have : m = 2 := by omega
    subst this
    have : i = 0 ∨ i = 1 := by omega
    rcases this with rfl | rfl <;> rfl
  by_cases c0 : i = 0
  · rw [c0, orbO_zero, swN_right, evenPi_zero _ (by omega), orbO_mid (j := 0 + 1) (by omega) (by omega)]
    omega
  by_cases c1 : i + 3 < m
  · rw [orbO_mid (j := i) (by omega) (by omega), swN_of_ne (by omega) (by omega), evenPi_mid (by omega) (by omega),
      orbO_mid (j := i + 1) (by omega) (by omega)]
    omega
  by_cases c2 : i + 3 = m
  · rw [orbO_mid (j := i) (by omega) (by omega), show m - 2 - i = 1 by omega, swN_of_ne (by omega) (by omega),
      evenPi_one _ (by omega), orbO_sub2 (j := i + 1) (by omega) (by omega)]
    omega
  by_cases c3 : i + 2 = m
  · rw [orbO_sub2 c3 (by omega), swN_of_ne (by omega) (by omega), evenPi_pred (by omega),
      orbO_pred (j := i + 1) (by omega) (by omega)]
    omega
  · rw [orbO_pred (j := i) (by omega) (by omega), swN_of_ne (by omega) (by omega), evenPi_top (by omega),
      orbO_top (j := i + 1) (by omega) (by omega)]

theorem orbO_last (m : Nat) (hm : 2 ≤ m) : evenPi (m - 1) (swN 0 m (orbO m m)) = orbO m 0 := by
  rw [orbO_top rfl (by omega), swN_left, evenPi_fix (by omega) (by omega), orbO_zero]

theorem orbO_le (m j : Nat) : orbO m j ≤ m := by
  unfold orbO; split_ifs <;> omega

/-- `orbO m` exchanges `0 ↔ m` and `j ↔ m-2-j`, and fixes `m-2` and `m-1` -/
theorem orbO_invol (m : Nat) (hm : 2 ≤ m) (j : Nat) (hj : j ≤ m) : orbO m (orbO m j) = j := by
  by_cases c0 : j = 0
  · rw [c0, orbO_zero, orbO_top rfl (by omega)]
  by_cases c1 : j + 3 ≤ m
  · rw [orbO_mid (by omega) c1, orbO_mid (by omega) (by omega)]
    omega
  by_cases c2 : j + 2 = m
  · rw [orbO_sub2 c2 c0, orbO_sub2 c2 c0]
  by_cases c3 : j + 1 = m
  · rw [orbO_pred c3 c0, orbO_pred c3 c0]
  · rw [orbO_top (j := j) (by omega) (by omega), orbO_zero]
    omega

theorem orbO_inj (m : Nat) (hm : 2 ≤ m) (j j' : Nat) (h1 : j < j') (h2 : j' ≤ m) : orbO m j ≠ orbO m j' := by
  intro h
  have := congrArg (orbO m) h
  rw [orbO_invol m hm j (by omega), orbO_invol m hm j' h2] at this
  omega

theorem heapPi_odd_step (m : Nat) (heven : m % 2 = 0) (hm : 2 ≤ m) (ih : ∀ p, heapPi m p = evenPi (m - 1) p) :
    ∀ p, heapPi (m + 1) p = swN 0 m p := by
  have hσ : heapPi m = evenPi (m - 1) := funext ih
  intro p
  have e1 : heapPi (m + 1) p = Nat.iterate (fun p => evenPi (m - 1) (swN 0 m p)) m (evenPi (m - 1) p) := by
    rw [← heapQ_even_level _ m heven, ← hσ]; rfl
  have e2 : evenPi (m - 1) p = (fun p => evenPi (m - 1) (swN 0 m p)) (swN 0 m p) := by
    simp only [swN_invol]
  rw [e1, e2, ← Function.iterate_succ_apply]
  rcases Nat.lt_or_ge m (swN 0 m p) with h | h
  · apply Function.iterate_fixed
    have hp : m < p := by
      by_cases c0 : p = 0
      · rw [c0, swN_left] at h; omega
      by_cases c1 : p = m
      · rw [c1, swN_right] at h; omega
      · rwa [swN_of_ne c0 c1] at h
    simp only [swN_of_ne (show p ≠ 0 by omega) (show p ≠ m by omega)]
    exact evenPi_fix (by omega) (by omega)
  · rw [← orbO_invol m hm _ h]
    exact iterate_cycle (fun p => evenPi (m - 1) (swN 0 m p)) (orbO m) m (orbO_step m heven) (orbO_last m hm) _
      (orbO_le m _)

theorem heapQ_top_even_level (m : Nat) (heven : m % 2 = 0) (j : Nat) (hj : j ≤ m) :
    heapQ (evenPi (m - 1)) m j m = orbO m j := by
  rw [heapQ_even_level _ m heven]
  have := iterate_orbit (fun p => evenPi (m - 1) (swN 0 m p)) (orbO m) m (orbO_step m heven) j 0 (by omega)
  rw [orbO_zero, Nat.zero_add] at this
  exact this

/-- **The final arrangement** after `heapRun k`: for odd `k` the first and the last of the `k` positions are
exchanged, for even `k` the arrangement is `evenPi (k-1)`. -/
theorem heapPi_closed : ∀ k, (k % 2 = 1 → ∀ p, heapPi k p = swN 0 (k - 1) p) ∧
    (k % 2 = 0 → 2 ≤ k → ∀ p, heapPi k p = evenPi (k - 1) p) := by
  intro k
  induction k with
  | zero => exact ⟨by omega, by omega⟩
  | succ m ih =>
    refine ⟨fun hk => ?_, fun hk _ => ?_⟩
    · rcases Nat.eq_zero_or_pos m with h0 | hpos
      · subst h0; intro p; simp only [heapPi, heapQ]; unfold swN; split_ifs <;> omega
      · exact heapPi_odd_step m (by omega) (by omega) (ih.2 (by omega) (by omega))
    · exact heapPi_even_step m (by omega) (ih.1 (by omega))

theorem heapQ_top_inj (m t t' : Nat) (h1 : t < t') (h2 : t' ≤ m) :
    heapQ (heapPi m) m t m ≠ heapQ (heapPi m) m t' m := by
  rcases Nat.mod_two_eq_zero_or_one m with heven | hodd
  · have hm : 2 ≤ m := by omega
    have hσ : heapPi m = evenPi (m - 1) := funext ((heapPi_closed m).2 heven hm)
    rw [hσ, heapQ_top_even_level m heven t (by omega), heapQ_top_even_level m heven t' h2]
    exact orbO_inj m hm t t' h1 h2
  · have hσ : heapPi m = swN 0 (m - 1) := funext ((heapPi_closed m).1 hodd)
    rw [hσ, heapQ_top_odd_level m hodd t (by omega), heapQ_top_odd_level m hodd t' h2]
    exact topE_inj m t t' h1 h2

theorem heapPos_pairwise : ∀ k g, Function.Injective g →
    (heapRunG swF k g).1.Pairwise (fun f f' => ∃ p, p < k ∧ f p ≠ f' p) := by
  intro k
  induction k with
  | zero => intro g _; simp [heapRunG]
  | succ m ih =>
    intro g hg
    rw [heapRunF_blocks, List.pairwise_flatMap]
    refine ⟨fun t _ => ?_, ?_⟩
    · refine (ih _ (hg.comp (heapQ_inj _ (heapPi_inj m) m t))).imp ?_
      rintro f f' ⟨p, hp, hne⟩
      exact ⟨p, by omega, hne⟩
    · refine List.Pairwise.imp_of_mem ?_ (List.pairwise_lt_range (n := m + 1))
      intro t t' _ ht' hlt f hf f' hf'
      refine ⟨m, by omega, ?_⟩
      rw [heapRunF_fix m _ f hf m (Nat.le_refl _), heapRunF_fix m _ f' hf' m (Nat.le_refl _)]
      intro h
      exact heapQ_top_inj m t t' hlt (by have := List.mem_range.mp ht'; omega) (hg h)

def posList (n : Nat) (g : Nat → Nat) : List Int := (List.range n).map (fun p => (g p : Int))

theorem posList_getD (n : Nat) (g : Nat → Nat) (y : Nat) (hy : y < n) : (posList n g).getD y 0 = (g y : Int) := by
  simp [posList, List.getD_eq_getElem?_getD, hy]

theorem posList_swF (n : Nat) (g : Nat → Nat) (x y : Nat) (hx : x < n) (hy : y < n) :
    posList n (swF g x y) = swapAt (posList n g) x y := by
  unfold swapAt
  rw [posList_getD n g x hx, posList_getD n g y hy]
  apply List.ext_getElem
  · simp [posList]
  · intro p h1 h2
    have hp : p < n := by simpa [posList] using h1
    simp only [List.getElem_set]
    simp only [posList, List.getElem_map, List.getElem_range, swF, swN]
    split_ifs <;> first | rfl | omega | (subst_vars; rfl)

theorem heapList_eq (n : Nat) : heapList n = (heapRunG swF n (fun p => p)).1.map (posList n) := by
  have := heapRunG_map swapAt swF (posList n) n (fun g x y hx hy => posList_swF n g x y hx hy) n (Nat.le_refl _)
    (fun p => p)
  unfold heapList heapRun
  have e : posList n (fun p => p) = (List.range n).map (fun (i : Nat) => (i : Int)) := rfl
  rw [← e, this]

theorem heapList_nodup (n : Nat) : (heapList n).Nodup := by
  rw [heapList_eq, List.Nodup, List.pairwise_map]
  refine (heapPos_pairwise n _ (fun _ _ h => h)).imp ?_
  rintro f f' ⟨p, hp, hne⟩ h
  apply hne
  have := congrArg (fun l => l.getD p 0) h
  simp only [posList_getD n _ p hp] at this
  exact_mod_cast this

theorem heapList_length (n : Nat) : (heapList n).length = n.factorial := heapRunG_length swapAt n _

theorem perm_set_set (a : List Int) (i j : Nat) (hi : i < a.length) (hj : j < a.length) :
    ((a.set i a[j]).set j a[i]).Perm a := by
  rw [List.perm_iff_count]
  intro b
  rw [List.count_set (by simpa using hj), List.count_set hi, List.getElem_set]
  have h1 : a[i] = b → 0 < List.count b a := fun h => List.count_pos_iff.mpr (h ▸ List.getElem_mem hi)
  have h2 : a[j] = b → 0 < List.count b a := fun h => List.count_pos_iff.mpr (h ▸ List.getElem_mem hj)
  by_cases e1 : a[i] = b <;> by_cases e2 : a[j] = b <;> by_cases e3 : i = j <;>
    simp [e1, e2, e3] <;> (try subst e3) <;> (try simp_all)

theorem swapAt_perm (a : List Int) (x y : Nat) (hx : x < a.length) (hy : y < a.length) : (swapAt a x y).Perm a := by
  unfold swapAt
  have e1 : a.getD x 0 = a[x] := by simp [List.getD_eq_getElem?_getD, hx]
  have e2 : a.getD y 0 = a[y] := by simp [List.getD_eq_getElem?_getD, hy]
  rw [e1, e2]
  exact perm_set_set a x y hx hy

theorem heapList_perm (n : Nat) (x : List Int) (hx : x ∈ heapList n) :
    x.Perm ((List.range n).map (fun (i : Nat) => (i : Int))) := by
  refine (heapRunG_inv swapAt n (fun b => b.Perm ((List.range n).map (fun (i : Nat) => (i : Int)))) ?_ n
    (Nat.le_refl _) _ (List.Perm.refl _)).1 x hx
  intro a u v hu hv ha
  have hl : a.length = n := by simpa using ha.length_eq
  exact (swapAt_perm a u v (by omega) (by omega)).trans ha

theorem mem_heapList (n : Nat) (x : List Int) :
    x ∈ heapList n ↔ x.Perm ((List.range n).map (fun (i : Nat) => (i : Int))) := by
  refine ⟨heapList_perm n x, fun h => ?_⟩
  have hsub : heapList n ⊆ ((List.range n).map (fun (i : Nat) => (i : Int))).permutations :=
    fun y hy => List.mem_permutations.mpr (heapList_perm n y hy)
  have hperm := ((heapList_nodup n).subperm hsub).perm_of_length_le
    (by rw [List.length_permutations, heapList_length]; simp)
  exact (hperm.mem_iff).mpr (List.mem_permutations.mpr h)

/-- Heap's `Permutations(n)`, for a run with ANY bound: every value yielded is a rearrangement of `0, …, n-1`, and once
`Next` has returned false it returns false forever. -/
theorem Heap.outputs_lemma (n : Int) (s0 : Heap) (h : Heap.init n = .ok s0) (bound : Nat) :
    (∀ x ∈ (outputs Heap.it bound s0).1, x.Perm ((List.range n.toNat).map Int.ofNat)) ∧
    ((outputs Heap.it bound s0).2.2 = .exhausted →
      ∀ k, extras Heap.it k (outputs Heap.it bound s0).2.1 = .ok (List.replicate k none)) := by
  obtain ⟨s', h1, h2⟩ := collect_owed Heap.it (Heap.Owes n.toNat) Heap.Dead (Heap.owes_stop _) (Heap.owes_step _)
    bound _ s0 [] (Heap.init_owes n s0 h)
  simp only [outputs, h1, List.append_nil, List.reverse_reverse]
  refine ⟨fun x hx => (mem_heapList _ x).mp (List.mem_of_mem_take hx), fun hst k => ?_⟩
  by_cases hl : (heapList n.toNat).length < bound
  · exact extras_dead Heap.it Heap.Dead (fun s hs => ⟨s, Heap.next_dead s hs, hs⟩) k s' (h2 hl)
  · rw [if_neg hl] at hst; cases hst

end Iter
