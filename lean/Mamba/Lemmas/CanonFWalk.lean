import Mamba.Lemmas.CanonFMainJ
import Mamba.Lemmas.CanonFSorted
import Mamba.Lemmas.CanonFTreeFinal
import Mamba.Lemmas.CanonFFrame
import Mamba.Lemmas.CanonFAllFrames
/-!
# The walk of the search through the unpruned tree, with explicit stack frames (state-level invariant)

`vs` = the vertices individualised along the current path, `nodeL vs L` = the tree node of level `L`. `FramesOK`: the
stack frame of level `L` is the target cell of `nodeL vs L`, and the child being explored is the `path[L]`-th member of
that cell (`IR.cellMembers`, ascending). `WalkA/N/S/M` are the four shapes of the invariant (`MainJ`).
-/
namespace CanonF

section
variable (n : Nat) (nb : Nbrs) (rf : Nat) (r : IR.St)

def nodeL (vs : List Nat) (L : Nat) : IR.St := IR.nodeAt (irG n nb) rf r (vs.take L)

def cellL (vs : List Nat) (L st : Nat) : List Nat := IR.cellMembers (irG n nb) (nodeL n nb rf r vs L).c st

def FramesOK (vs : List Nat) : List Nat → List Nat → List (Nat × Nat) → Prop
  | [], [], [] => True
  | p :: ps, _ :: cs, (st, sz) :: ls =>
      IR.target (irG n nb) (nodeL n nb rf r vs ps.length) = some st ∧
      (cellL n nb rf r vs ps.length st).length = sz ∧
      (ps.length < vs.length → vs[ps.length]? = (cellL n nb rf r vs ps.length st)[p]? ∧ p < sz) ∧
      FramesOK vs ps cs ls
  | _, _, _ => False

def LevelsTree (vs : List Nat) (op : OP) (k : Nat) : Prop :=
  ∀ L, L ≤ k → LvOK n op (L : Int) (nodeL n nb rf r vs L)

end

section
variable {n : Nat} {nb : Nbrs} {rf : Nat} {r : IR.St}

theorem nodeL_congr {vs vs' : List Nat} {L : Nat}
    (h : vs'.take L = vs.take L) : nodeL n nb rf r vs' L = nodeL n nb rf r vs L := by
  unfold nodeL; rw [h]

theorem take_dropLast {α : Type} (l : List α) {L : Nat} (h : L ≤ l.length - 1) : l.dropLast.take L = l.take L := by
  rw [List.dropLast_eq_take, List.take_take, Nat.min_eq_left h]

theorem take_take_le {α : Type} (l : List α) {L k : Nat} (h : L ≤ k) : (l.take k).take L = l.take L := by
  rw [List.take_take, Nat.min_eq_left h]

theorem framesOK_cons {vs : List Nat} {p c st sz : Nat} {ps cs : List Nat}
    {ls : List (Nat × Nat)} : FramesOK n nb rf r vs (p :: ps) (c :: cs) ((st, sz) :: ls) ↔
      (IR.target (irG n nb) (nodeL n nb rf r vs ps.length) = some st ∧
      (cellL n nb rf r vs ps.length st).length = sz ∧
      (ps.length < vs.length → vs[ps.length]? = (cellL n nb rf r vs ps.length st)[p]? ∧ p < sz) ∧
      FramesOK n nb rf r vs ps cs ls) :=
  Iff.rfl

theorem framesOK_iff {vs path choices : List Nat} {lv : List (Nat × Nat)} {incl : Bool} :
    FramesOK n nb rf r vs path choices lv ↔
    AllFrames (fun _ p ps _ st sz => IR.target (irG n nb) (nodeL n nb rf r vs ps.length) = some st ∧
      (cellL n nb rf r vs ps.length st).length = sz ∧
      (ps.length < vs.length → vs[ps.length]? = (cellL n nb rf r vs ps.length st)[p]? ∧ p < sz))
      incl path choices lv := by
  induction path generalizing incl choices lv with
  | nil => cases choices <;> cases lv <;> simp [FramesOK, AllFrames]
  | cons p ps ih =>
    cases choices with
    | nil => simp [FramesOK, AllFrames]
    | cons c cs =>
      cases lv with
      | nil => simp [FramesOK, AllFrames]
      | cons x ls => obtain ⟨st, sz⟩ := x; simp only [FramesOK, AllFrames, ih (incl := false), and_assoc]

theorem FramesOK.congr {vs vs' : List Nat} :
    ∀ (path choices : List Nat) (lv : List (Nat × Nat)),
      (∀ L, L < path.length → vs'.take L = vs.take L) →
      (∀ L, L < path.length → L < vs'.length → L < vs.length ∧ vs'[L]? = vs[L]?) →
      FramesOK n nb rf r vs path choices lv → FramesOK n nb rf r vs' path choices lv := by
  intro path choices lv h1 h2 h
  refine (framesOK_iff (incl := false)).2 (((framesOK_iff (incl := false)).1 h).imp fun _ p ps _ st sz hlt a => ?_)
  obtain ⟨a1, a2, a3⟩ := a
  have e : nodeL n nb rf r vs' ps.length = nodeL n nb rf r vs ps.length := nodeL_congr (h1 ps.length hlt)
  have ec : cellL n nb rf r vs' ps.length st = cellL n nb rf r vs ps.length st := by unfold cellL; rw [e]
  refine ⟨by rw [e]; exact a1, by rw [ec]; exact a2, fun hl => ?_⟩
  obtain ⟨b1, b2⟩ := h2 ps.length hlt hl
  rw [ec, b2]
  exact a3 b1

theorem FramesOK.length {n : Nat} {nb : Nbrs} {rf : Nat} {r : IR.St} {vs : List Nat} :
    ∀ (path choices : List Nat) (lv : List (Nat × Nat)), FramesOK n nb rf r vs path choices lv →
      choices.length = path.length ∧ lv.length = path.length :=
  fun _ _ _ h => ((framesOK_iff (incl := false)).1 h).length

theorem FramesOK.take {vs path choices : List Nat} {lv : List (Nat × Nat)} (k : Nat) (hk : path.length ≤ k + 1)
    (h : FramesOK n nb rf r vs path choices lv) : FramesOK n nb rf r (vs.take k) path choices lv := by
  apply FramesOK.congr path choices lv _ _ h
  · intro L hL; exact take_take_le vs (Nat.le_of_lt_succ (Nat.lt_of_lt_of_le hL hk))
  · intro L hL hLv
    rw [List.length_take] at hLv
    obtain ⟨h1, h2⟩ := Nat.lt_min.1 hLv
    exact ⟨h2, by rw [List.getElem?_take, if_pos h1]⟩

theorem FramesOK.append {vs path choices : List Nat} {lv : List (Nat × Nat)} (v : Nat) (hk : path.length ≤ vs.length)
    (h : FramesOK n nb rf r vs path choices lv) : FramesOK n nb rf r (vs ++ [v]) path choices lv := by
  apply FramesOK.congr path choices lv _ _ h
  · intro L hL; exact List.take_append_of_le_length (Nat.le_of_lt (Nat.lt_of_lt_of_le hL hk))
  · intro L hL _
    exact ⟨Nat.lt_of_lt_of_le hL hk, List.getElem?_append_left (Nat.lt_of_lt_of_le hL hk)⟩

theorem FramesOK.of_append {vs path choices : List Nat} {lv : List (Nat × Nat)} {v : Nat}
    (hk : path.length ≤ vs.length + 1) (h : FramesOK n nb rf r (vs ++ [v]) path choices lv) :
    FramesOK n nb rf r vs path choices lv := by
  apply FramesOK.congr path choices lv _ _ h
  · intro L hL; exact (List.take_append_of_le_length (Nat.le_of_lt_succ (Nat.lt_of_lt_of_le hL hk))).symm
  · intro L hL hLv
    exact ⟨by rw [List.length_append]; exact Nat.lt_add_right _ hLv, (List.getElem?_append_left hLv).symm⟩

theorem FramesOK.choice_head {vs : List Nat} {path cs : List Nat}
    {c c' : Nat} {lv : List (Nat × Nat)} (h : FramesOK n nb rf r vs path (c :: cs) lv) :
    FramesOK n nb rf r vs path (c' :: cs) lv := by
  match path, lv, h with
  | _ :: _, (_, _) :: _, h => exact h

theorem FramesOK.tail {vs : List Nat} {p c : Nat} {ps cs : List Nat}
    {x : Nat × Nat} {ls : List (Nat × Nat)} (h : FramesOK n nb rf r vs (p :: ps) (c :: cs) (x :: ls)) :
    FramesOK n nb rf r vs ps cs ls :=
  (framesOK_iff (incl := false)).2 ((framesOK_iff (incl := false)).1 h).tail

theorem FramesOK.drop {vs : List Nat} (j : Nat) (path choices : List Nat) (lv : List (Nat × Nat))
    (h : FramesOK n nb rf r vs path choices lv) : FramesOK n nb rf r vs (path.drop j) (choices.drop j) (lv.drop j) :=
  (framesOK_iff (incl := false)).2 (((framesOK_iff (incl := false)).1 h).drop j)

end

section
variable (n : Nat) (nb : Nbrs) (rf : Nat) (r : IR.St)

/-- after a `deage` / at a fresh frame: the partition is the node of the top frame, `vs` has one entry per frame below -/
def WalkNv (vs : List Nat) (lv : List (Nat × Nat)) (s : LS) : Prop :=
  IR.IsPath (irG n nb) rf r vs ∧ (vs.length : Int) = s.op.age ∧ vs.length + 1 = s.path.length ∧
    LevelsTree n nb rf r vs s.op vs.length ∧ FramesOK n nb rf r vs s.path s.choices lv ∧ BinsSorted s.op ∧
    s.op.binsToCheck.len = 0

def WalkN (lv : List (Nat × Nat)) (s : LS) : Prop := ∃ vs : List Nat, WalkNv n nb rf r vs lv s

/-- at all times: the levels of the frames below the top frame are tree nodes -/
def WalkAv (vs : List Nat) (lv : List (Nat × Nat)) (s : LS) : Prop :=
  IR.IsPath (irG n nb) rf r vs ∧ (s.path = [] ∨ vs.length + 1 = s.path.length) ∧
    (vs.length : Int) ≤ s.op.age ∧
    LevelsTree n nb rf r vs s.op vs.length ∧ FramesOK n nb rf r vs s.path s.choices lv ∧ BinsSorted s.op

def WalkA (lv : List (Nat × Nat)) (s : LS) : Prop := ∃ vs : List Nat, WalkAv n nb rf r vs lv s

/-- after a `splitBin`: the partition is the individualised, not yet refined child `v` of the node of the top frame -/
def WalkSv (vs : List Nat) (t v : Nat) (lv : List (Nat × Nat)) (s : LS) : Prop :=
  IR.IsPath (irG n nb) rf r vs ∧ vs.length + 1 = s.path.length ∧
    (vs.length : Int) + 1 = s.op.age ∧ LevelsTree n nb rf r vs s.op vs.length ∧
    IR.target (irG n nb) (nodeL n nb rf r vs vs.length) = some t ∧
    v ∈ IR.cellMembers (irG n nb) (nodeL n nb rf r vs vs.length).c t ∧
    Match n s.op (IR.individualise (irG n nb) (nodeL n nb rf r vs vs.length) t v) ∧ BtcInv s.op ∧
    FramesOK n nb rf r (vs ++ [v]) s.path s.choices lv ∧ BinsSorted s.op

def WalkS (lv : List (Nat × Nat)) (s : LS) : Prop :=
  ∃ (vs : List Nat) (t v : Nat), WalkSv n nb rf r vs t v lv s

/-- at a node (start of an iteration of the main loop, the last refinement was not "worse") -/
def WalkNodev (vs : List Nat) (lv : List (Nat × Nat)) (s : LS) : Prop :=
  IR.IsPath (irG n nb) rf r vs ∧ (vs.length : Int) = s.op.age ∧ vs.length = s.path.length ∧
    LevelsTree n nb rf r vs s.op vs.length ∧ FramesOK n nb rf r vs s.path s.choices lv ∧ BinsSorted s.op ∧
    s.op.binsToCheck.len = 0

def WalkNode (lv : List (Nat × Nat)) (s : LS) : Prop := ∃ vs : List Nat, WalkNodev n nb rf r vs lv s

/-- at the head of the main loop: `WalkA` after a refinement that reported "worse", `WalkNode` otherwise -/
def WalkM (lv : List (Nat × Nat)) (worse : Bool) (s : LS) : Prop :=
  if worse then WalkA n nb rf r lv s else WalkNode n nb rf r lv s

end

variable {n : Nat} {nb : Nbrs} {rf : Nat} {r : IR.St}

theorem LevelsTree.mono {vs : List Nat} {op : OP} {k j : Nat}
    (h : LevelsTree n nb rf r vs op k) (hj : j ≤ k) : LevelsTree n nb rf r vs op j :=
  fun L hL => h L (Nat.le_trans hL hj)

theorem LevelsTree.congr {vs vs' : List Nat} {op : OP} {k : Nat}
    (h : LevelsTree n nb rf r vs op k) (e : ∀ L, L ≤ k → vs'.take L = vs.take L) :
    LevelsTree n nb rf r vs' op k :=
  fun L hL => by rw [nodeL_congr (e L hL)]; exact h L hL

theorem LevelsTree.transfer {vs : List Nat} {op op' : OP} {k : Nat}
    (h : LevelsTree n nb rf r vs op k) (ht : ∀ L, L ≤ k → ∀ s, LvOK n op (L : Int) s → LvOK n op' (L : Int) s) :
    LevelsTree n nb rf r vs op' k :=
  fun L hL => ht L hL _ (h L hL)

theorem LevelsTree.match_top {vs : List Nat} {op : OP} (h : LevelsTree n nb rf r vs op vs.length) (hp : PartInv n op)
    (ha : AgeInv op) (hage : (vs.length : Int) = op.age) (hbt : op.binsToCheck.len = 0) :
    Match n op (nodeL n nb rf r vs vs.length) :=
  (h vs.length (Nat.le_refl _)).toMatch hp ha (Int.le_of_eq hage.symm) hbt

section
variable {vs : List Nat} {t v : Nat} {lv : List (Nat × Nat)} {s : LS}

theorem WalkNv.path (h : WalkNv n nb rf r vs lv s) : IR.IsPath (irG n nb) rf r vs := h.1
theorem WalkNv.len (h : WalkNv n nb rf r vs lv s) : vs.length + 1 = s.path.length := h.2.2.1
theorem WalkNv.framesOK (h : WalkNv n nb rf r vs lv s) : FramesOK n nb rf r vs s.path s.choices lv := h.2.2.2.2.1
theorem WalkNv.binsSorted (h : WalkNv n nb rf r vs lv s) : BinsSorted s.op := h.2.2.2.2.2.1
theorem WalkNv.btcZero (h : WalkNv n nb rf r vs lv s) : s.op.binsToCheck.len = 0 := h.2.2.2.2.2.2
theorem WalkNv.matchTop (h : WalkNv n nb rf r vs lv s) (hc : Core n s) : Match n s.op (nodeL n nb rf r vs vs.length) :=
  h.2.2.2.1.match_top hc.part hc.age h.2.1 h.btcZero

theorem WalkNodev.path (h : WalkNodev n nb rf r vs lv s) : IR.IsPath (irG n nb) rf r vs := h.1
theorem WalkNodev.len (h : WalkNodev n nb rf r vs lv s) : vs.length = s.path.length := h.2.2.1
theorem WalkNodev.framesOK (h : WalkNodev n nb rf r vs lv s) : FramesOK n nb rf r vs s.path s.choices lv := h.2.2.2.2.1
theorem WalkNodev.matchTop (h : WalkNodev n nb rf r vs lv s) (hc : Core n s) :
    Match n s.op (nodeL n nb rf r vs vs.length) :=
  h.2.2.2.1.match_top hc.part hc.age h.2.1 h.2.2.2.2.2.2

theorem WalkAv.framesOK (h : WalkAv n nb rf r vs lv s) : FramesOK n nb rf r vs s.path s.choices lv := h.2.2.2.2.1

theorem WalkSv.path (h : WalkSv n nb rf r vs t v lv s) : IR.IsPath (irG n nb) rf r vs := h.1
theorem WalkSv.len (h : WalkSv n nb rf r vs t v lv s) : vs.length + 1 = s.path.length := h.2.1
theorem WalkSv.target (h : WalkSv n nb rf r vs t v lv s) :
    IR.target (irG n nb) (nodeL n nb rf r vs vs.length) = some t := h.2.2.2.2.1
theorem WalkSv.mem (h : WalkSv n nb rf r vs t v lv s) :
    v ∈ IR.cellMembers (irG n nb) (nodeL n nb rf r vs vs.length).c t := h.2.2.2.2.2.1
theorem WalkSv.matchInd (h : WalkSv n nb rf r vs t v lv s) :
    Match n s.op (IR.individualise (irG n nb) (nodeL n nb rf r vs vs.length) t v) := h.2.2.2.2.2.2.1
theorem WalkSv.btcInv (h : WalkSv n nb rf r vs t v lv s) : BtcInv s.op := h.2.2.2.2.2.2.2.1
theorem WalkSv.framesOK (h : WalkSv n nb rf r vs t v lv s) : FramesOK n nb rf r (vs ++ [v]) s.path s.choices lv :=
  h.2.2.2.2.2.2.2.2.1

end

theorem WalkNv.toA {vs : List Nat} {lv : List (Nat × Nat)} {s : LS}
    (h : WalkNv n nb rf r vs lv s) : WalkAv n nb rf r vs lv s := by
  obtain ⟨h1, h2, h3, h4, h5, h6, _⟩ := h
  exact ⟨h1, Or.inr h3, Int.le_of_eq h2, h4, h5, h6⟩

theorem WalkN.toA {lv : List (Nat × Nat)} {s : LS}
    (h : WalkN n nb rf r lv s) : WalkA n nb rf r lv s := by
  obtain ⟨vs, h⟩ := h
  exact ⟨vs, h.toA⟩

theorem WalkSv.toA {vs : List Nat} {t v : Nat}
    {lv : List (Nat × Nat)} {s : LS}
    (h : WalkSv n nb rf r vs t v lv s) : WalkAv n nb rf r vs lv s := by
  obtain ⟨h1, h2, h3, h4, _, _, _, _, h5, h6⟩ := h
  exact ⟨h1, Or.inr h2, by rw [← h3]; exact Int.le_add_one (Int.le_refl _), h4, h5.of_append (Nat.le_of_eq h2.symm), h6⟩

theorem WalkS.toA {n : Nat} {nb : Nbrs} {rf : Nat} {r : IR.St} {lv : List (Nat × Nat)} {s : LS}
    (h : WalkS n nb rf r lv s) : WalkA n nb rf r lv s := by
  obtain ⟨vs, t, v, h⟩ := h
  exact ⟨vs, h.toA⟩

theorem walk_deage (lv : List (Nat × Nat)) (s : LS) (op' : OP) (k : Nat)
    (hc : Core n s) (ht : TopOK s.op k s.path s.choices lv) (hage : s.op.age = s.path.length)
    {vs : List Nat} (h : WalkAv n nb rf r vs lv s) (hd : deage s.op = .ok op') :
    WalkNv n nb rf r vs lv { s with op := op' } := by
  obtain ⟨h1, h2, h3, h4, h5, h6⟩ := h
  obtain ⟨p, ps, c, cs, st, sz, ls, e1, e2, e3, -⟩ := ht.elim
  have hlen : vs.length + 1 = s.path.length := by
    rcases h2 with h | h
    · rw [e1] at h; cases h
    · exact h
  have hpos : 0 < s.op.age := by rw [hage, e1]; simp
  obtain ⟨_, _, d3, _, d5, _⟩ := deage_inv hc.part hc.age hpos hd
  refine ⟨h1, ?_, hlen, ?_, h5, deage_binsSorted hc.part hc.age hpos h6 hd, d5⟩
  · show (vs.length : Int) = op'.age
    rw [d3, hage]; omega
  · exact h4.transfer (fun L hL s' hs' => lv_deage hc.part hc.age hpos hd
      (by rw [hage]; exact Int.ofNat_lt.2 (hlen ▸ Nat.lt_succ_of_le hL)) hs')

theorem walk_skip {lv : List (Nat × Nat)} {s : LS} {c c' : Nat}
    {cs : List Nat} {vs : List Nat} (bo : Disjoint.DS) (b : Bool) (hch : s.choices = c :: cs)
    (h : WalkNv n nb rf r vs lv s) :
    WalkNv n nb rf r vs lv { s with choices := c' :: cs, bestOrbits := bo, skipDeage := b } := by
  obtain ⟨h1, h2, h3, h4, h5, h6, h7⟩ := h
  rw [hch] at h5
  exact ⟨h1, h2, h3, h4, h5.choice_head, h6, h7⟩

theorem walk_pop (st sz : Nat) (ls : List (Nat × Nat)) (s : LS)
    {vs : List Nat} (ht : TopOK s.op 0 s.path s.choices ((st, sz) :: ls)) (h : WalkNv n nb rf r vs ((st, sz) :: ls) s) :
    WalkAv n nb rf r vs.dropLast ls { s with path := s.path.drop 1, choices := s.choices.drop 1 } := by
  obtain ⟨h1, h2, h3, h4, h5, h6, _⟩ := h
  obtain ⟨p, ps, c, cs, st', sz', ls', e1, e2, e3, -⟩ := ht.elim
  cases e3
  rw [e1, e2] at h5
  rw [e1, List.length_cons] at h3
  rw [List.dropLast_eq_take]
  obtain ⟨k, hk⟩ : ∃ k, vs.length - 1 = k := ⟨_, rfl⟩
  have ⟨a, b, c'⟩ : k ≤ vs.length ∧ ps.length ≤ k + 1 ∧ (0 < ps.length → k + 1 = ps.length) := by omega
  have hlen : (vs.take k).length = k := List.length_take_of_le a
  rw [hk]
  refine ⟨IR.isPath_take vs r _ h1, ?_, ?_, ?_, ?_, h6⟩
  · show s.path.drop 1 = [] ∨ _
    rw [e1, hlen]
    cases ps with
    | nil => exact Or.inl rfl
    | cons x t => exact Or.inr (c' (Nat.succ_pos _))
  · show ((vs.take k).length : Int) ≤ s.op.age
    rw [hlen, ← h2]; exact Int.ofNat_le.2 a
  · rw [hlen]; exact (h4.mono a).congr (fun L hL => take_take_le vs hL)
  · show FramesOK n nb rf r _ (s.path.drop 1) (s.choices.drop 1) ls
    rw [e1, e2]
    exact h5.tail.take _ b

/-- The top frame `(st, sz)` in the middle of its `jLoop` (loop counter `k + 1`, `choices.head = c`, `path.tail = ps`):
`len`: `vs` has one entry per frame below; `pos`, `idx`, `lt`: the position `c - 1 = st + k` the loop looks at lies in the
bin `[st, st + sz)`; `mtch`: the partition is the node of the frame; `cell`: that bin is the node's target cell
(`FrameCell`); `order`: `order` lists the members of the cell. -/
structure TopFrame (n : Nat) (nb : Nbrs) (rf : Nat) (r : IR.St) (s : LS) (vs : List Nat) (st sz c k : Nat) (ps : List Nat) :
    Prop where
  len : vs.length = ps.length
  pos : c - 1 = st + k
  idx : c - st = k + 1
  lt : k < sz
  mtch : Match n s.op (nodeL n nb rf r vs vs.length)
  cell : FrameCell n nb s.op (nodeL n nb rf r vs vs.length) st sz (c - 1)
  order : ∀ i, i < sz → s.op.order.toList[st + i]? = (cellL n nb rf r vs vs.length st)[i]?

theorem walkN_top_frame {st sz : Nat} {ls : List (Nat × Nat)} {s : LS} {c : Nat} {cs : List Nat} {p : Nat} {ps : List Nat}
    {k : Nat} (hc : Core n s) (ht : TopOK s.op (k + 1) s.path s.choices ((st, sz) :: ls)) (hch : s.choices = c :: cs)
    (hpth : s.path = p :: ps) {vs : List Nat} (h : WalkNv n nb rf r vs ((st, sz) :: ls) s) :
    TopFrame n nb rf r s vs st sz c k ps := by
  have h3 := h.len
  rw [hpth, hch] at ht
  obtain ⟨tb, tsz, tc, hk, -⟩ := ht
  rw [hpth, List.length_cons] at h3
  have hvl : vs.length = ps.length := Nat.succ.inj h3
  have hb : IsBinAt (s.op.age + 1) s.op st sz := by rw [← h.2.1, hvl]; exact tb
  have hm := h.matchTop hc
  have hck : c - 1 = st + k := by rw [tc]; rfl
  have F := frame_facts (nb := nb) hc.part hc.age hm hb tsz
    (show st ≤ c - 1 by rw [hck]; exact Nat.le_add_right _ _)
    (show c - 1 < st + sz by rw [hck]; exact Nat.add_lt_add_left hk st)
  exact ⟨hvl, hck, by rw [tc, Nat.add_sub_cancel_left], hk, hm, F, F.order h.binsSorted⟩

theorem walk_split (st sz : Nat) (ls : List (Nat × Nat)) (s : LS)
    (c : Nat) (cs : List Nat) (p : Nat) (ps : List Nat) (bo : Disjoint.DS) (w : Bool) (op' : OP) (k : Nat)
    (hc : Core n s) (ht : TopOK s.op (k + 1) s.path s.choices ((st, sz) :: ls))
    (hch : s.choices = c :: cs) (hpth : s.path = p :: ps)
    (hs : splitBin nb s.currentBest s.firstLeaf s.op (c - 1) = .ok (w, op'))
    {vs : List Nat} (h : WalkNv n nb rf r vs ((st, sz) :: ls) s) :
    ∃ v, s.op.order.toList[c - 1]? = some v ∧ (cellL n nb rf r vs vs.length st)[k]? = some v ∧ vs.length = ps.length ∧
    (w = false → WalkSv n nb rf r vs st v ((st, sz) :: ls)
      { s with choices := (c - 1) :: cs, bestOrbits := bo, op := op', path := k :: ps }) ∧
    (w = true → WalkAv n nb rf r vs ((st, sz) :: ls)
      { s with choices := (c - 1) :: cs, bestOrbits := bo, op := op', path := k :: ps }) := by
  have F := walkN_top_frame hc ht hch hpth h
  obtain ⟨h1, h2, h3, h4, h5, h6, h7⟩ := h
  rw [hpth, hch] at h5
  have hvl := F.len
  have hi := F.cell.lt
  have hns := F.cell.nonSingleton
  have f8 := F.cell.target
  obtain ⟨v, hv, hvm, hm'⟩ := splitBin_match hc.part hc.age hi hns F.mtch h7 hs
  rw [F.cell.bin] at hvm hm'
  have hCk : (IR.cellMembers (irG n nb) (nodeL n nb rf r vs vs.length).c st)[k]? = some v := by
    rw [← F.cell.order h6 k F.lt, ← F.pos]; exact hv
  obtain ⟨_, _, q3, _⟩ := splitBin_inv hc.part hc.age hi hns hs
  have hlev : LevelsTree n nb rf r vs op' vs.length :=
    h4.transfer (fun L hL s' hs' => lv_split hc.part hc.age hi hns hs (by rw [← h2]; exact Int.ofNat_le.2 hL) hs')
  have hsorted := splitBin_binsSorted hc.part hc.age hi hns h6 hs
  obtain ⟨g1, g2, _, g4⟩ := framesOK_cons.1 h5
  rw [← hvl] at g1 g2
  refine ⟨v, hv, hCk, hvl, fun _ => ?_, fun _ => ?_⟩
  · refine ⟨h1, by rw [hvl]; rfl, by show (vs.length : Int) + 1 = op'.age; rw [q3, h2],
      hlev, f8, hvm, hm', splitBin_btcInv hc.part hc.age hi hns h7 hs, ?_, hsorted⟩
    have en : nodeL n nb rf r (vs ++ [v]) ps.length = nodeL n nb rf r vs vs.length := by
      rw [← hvl]; exact nodeL_congr (List.take_append_of_le_length (Nat.le_refl _))
    refine framesOK_cons.2 ⟨by rw [en]; exact f8, by unfold cellL; rw [en]; exact F.cell.cellLen, fun _ => ?_,
      g4.append v (Nat.le_of_eq hvl.symm)⟩
    unfold cellL
    rw [en, hCk, ← hvl, List.getElem?_append_right (Nat.le_refl _), Nat.sub_self]
    exact ⟨rfl, F.lt⟩
  · exact ⟨h1, Or.inr (by rw [hvl]; rfl), by show (vs.length : Int) ≤ op'.age; rw [q3, h2]; exact Int.le_add_one (Int.le_refl _), hlev,
      framesOK_cons.2 ⟨by rw [← hvl]; exact g1, by rw [← hvl]; exact g2, fun hl => absurd hl (by rw [hvl]; exact Nat.lt_irrefl _), g4⟩, hsorted⟩

theorem backJump_shape {s s' : LS} {ref : Sl Nat} (h : backJump s ref = .ok s') :
    ∃ j op', j ≤ s.path.length ∧ (s.path ≠ [] → j < s.path.length) ∧ deageTimes j s.op = .ok op' ∧
      s' = { s with op := op', path := s.path.drop j, choices := s.choices.drop (j + s.choices.length - s.path.length) } := by
  obtain ⟨idx, op', hi, hd, rfl⟩ := backJump_ok.1 h
  have hidx := h1Index_spec _ _ _ _ _ hi
  rw [List.length_reverse, Nat.zero_add, Nat.zero_add] at hidx
  have ⟨hle, hpos⟩ : idx ≤ s.path.length ∧ (0 < s.path.length → 0 < idx) := by
    rcases hidx with rfl | ⟨h1, h2⟩
    · exact ⟨Nat.le_refl _, id⟩
    · exact ⟨Nat.le_trans h2 (Nat.sub_le _ _), fun _ => h1⟩
  refine ⟨s.path.length - idx, op', Nat.sub_le _ _, fun hne => ?_, hd, ?_⟩
  · have : 0 < s.path.length := List.length_pos_iff.2 hne
    exact Nat.sub_lt this (hpos this)
  · rw [← Nat.sub_add_comm hle, Nat.sub_right_comm, Nat.add_sub_cancel_left]

theorem leafNode_shape {n m : Nat} {s s' : LS} (h : leafNode n m s = .ok s') :
    (s'.op = s.op ∧ s'.path = s.path ∧ s'.choices = s.choices) ∨
    ∃ (s0 : LS) (ref : Sl Nat), s0.op = s.op ∧ s0.path = s.path ∧ s0.choices = s.choices ∧ backJump s0 ref = .ok s' := by
  cases leafNode_case h with
  | first _ _ _ => exact .inl ⟨rfl, rfl, rfl⟩
  | accept _ _ _ _ => exact .inl ⟨rfl, rfl, rfl⟩
  | eq _ _ _ _ _ hb => exact .inr ⟨_, _, by rfl, by rfl, by rfl, hb⟩
  | other _ _ _ _ => exact .inl ⟨rfl, rfl, rfl⟩

theorem leafNode_other {n m : Nat} {s s1 : LS}
    (hc1 : (compare s.op.value.toList s.currentBest.toList == 1 || s.count + 1 == 1) = false)
    (hc0 : (compare s.op.value.toList s.currentBest.toList == 0) = false)
    (hcf : (compare s.op.value.toList s.firstLeaf.toList == 0) = false)
    (h : leafNode n m s = .ok s1) : s1 = { s with count := s.count + 1 } := by
  cases leafNode_case h with
  | first h0 _ _ => rw [h0] at hc1; simp at hc1
  | accept _ hcmp _ _ => rw [hcmp] at hc1; simp at hc1
  | eq _ _ hX _ _ _ =>
    cases hX with
    | best heq _ => rw [(compare_eq_zero _ _).2 heq] at hc0; cases hc0
    | first _ heq => rw [(compare_eq_zero _ _).2 heq] at hcf; cases hcf
  | other _ _ _ _ => rfl

theorem lv_deageTimes {n : Nat} : ∀ (j : Nat) (op op' : OP), PartInv n op → AgeInv op → (j : Int) ≤ op.age →
    BinsSorted op → deageTimes j op = .ok op' →
    PartInv n op' ∧ AgeInv op' ∧ op'.age = op.age - j ∧ BinsSorted op' ∧
      ∀ (L : Nat) (s : IR.St), (L : Int) + j ≤ op.age → LvOK n op (L : Int) s → LvOK n op' (L : Int) s := by
  intro j
  induction j with
  | zero =>
    intro op op' hp ha _ hb h
    cases h
    exact ⟨hp, ha, (Int.sub_zero _).symm, hb, fun _ _ _ h => h⟩
  | succ j ih =>
    intro op op' hp ha hj hb h
    obtain ⟨op1, hd, h⟩ := deageTimes_succ.1 h
    have ⟨hpos, hj1⟩ : 0 < op.age ∧ (j : Int) ≤ op.age - 1 := by omega
    obtain ⟨d1, d2, d3, _⟩ := deage_inv hp ha hpos hd
    obtain ⟨r1, r2, r3, r4, r5⟩ := ih op1 op' d1 d2 (by rw [d3]; exact hj1) (deage_binsSorted hp ha hpos hb hd) h
    refine ⟨r1, r2, by rw [r3, d3]; omega, r4, fun L s hL hs => ?_⟩
    have ⟨hL1, hL2⟩ : (L : Int) + j ≤ op.age - 1 ∧ (L : Int) < op.age := by omega
    exact r5 L s (by rw [d3]; exact hL1) (lv_deage hp ha hpos hd hL2 hs)

/-- leaving a node: the partition is `deage`d `j` times and `j` frames are dropped (`j = 0`: a leaf that does not
back-jump, or the start of the stepping after a node) -/
theorem walk_truncate {lv : List (Nat × Nat)} {s s' : LS} (j : Nat)
    (hp : PartInv n s.op) (ha : AgeInv s.op) (hj : j ≤ s.path.length) (hj' : s.path ≠ [] → j < s.path.length)
    (hop : deageTimes j s.op = .ok s'.op) (hpath : s'.path = s.path.drop j) (hch : s'.choices = s.choices.drop j)
    {vs : List Nat} (h : WalkNodev n nb rf r vs lv s) :
    WalkAv n nb rf r (vs.take (s.path.length - j - 1)) (lv.drop j) s' := by
  obtain ⟨h1, h2, h3, h4, h5, h6, _⟩ := h
  obtain ⟨r1, r2, r3, r4, r5⟩ := lv_deageTimes j s.op s'.op hp ha (by rw [← h2, h3]; exact Int.ofNat_le.2 hj) h6 hop
  -- `k` vertices of the path are kept; the arithmetic on `s.path.length - j - 1` is done here, once
  obtain ⟨k, hk⟩ : ∃ k, s.path.length - j - 1 = k := ⟨_, rfl⟩
  have hjl : 0 < s.path.length → j < s.path.length := fun h => hj' (List.ne_nil_of_length_pos h)
  have ⟨hkj, hks, hkd⟩ : k + j ≤ vs.length ∧ (0 < s.path.length → k + 1 = s.path.length - j) ∧
      s.path.length - j ≤ k + 1 := by omega
  have hkv : k ≤ vs.length := Nat.le_trans (Nat.le_add_right k j) hkj
  have hlen : (vs.take k).length = k := List.length_take_of_le hkv
  rw [hk]
  refine ⟨IR.isPath_take vs r _ h1, ?_, ?_, ?_, ?_, r4⟩
  · rw [hpath, hlen, List.length_drop]
    by_cases hne : s.path = []
    · left; rw [hne]; exact List.drop_nil
    · exact Or.inr (hks (List.length_pos_iff.2 hne))
  · rw [hlen, r3]; omega
  · intro L hL
    rw [hlen] at hL
    rw [nodeL_congr (take_take_le vs hL)]
    exact r5 L _ (by omega) (h4 L (Nat.le_trans hL hkv))
  · rw [hpath, hch]
    exact (h5.drop j).take _ (by rw [List.length_drop]; exact hkd)

/-- an inner node: `innerNode` pushes the frame of the target cell `st` (size `sz`) of the current node -/
theorem walk_inner {m : Nat} {lv : List (Nat × Nat)} {s s1 : LS} {vs : List Nat} (hI : MInv n m nb s)
    (hlv : LevelsOK s.op s.path s.choices lv) (hnl : s.op.binDividers.len ≠ n) (hw : WalkNodev n nb rf r vs lv s)
    (hs1 : innerNode s = .ok s1) :
    ∃ st sz, s1 = { s with choices := (st + sz) :: s.choices, path := sz :: s.path, skipDeage := true } ∧
      LevelsOK s1.op s1.path s1.choices ((st, sz) :: lv) ∧
      FrameCell n nb s.op (nodeL n nb rf r vs vs.length) st sz st ∧ WalkNv n nb rf r vs ((st, sz) :: lv) s1 := by
  obtain ⟨st, sz, e, hl', -, hsz, -⟩ := innerNode_spec hI.core hlv hI.age hnl hs1
  have hb : IsBinAt (s.op.age + 1) s.op st sz := by rw [hI.age]; exact hl'.1
  have F := frame_facts (nb := nb) hI.core.part hI.core.age (hw.matchTop hI.core) hb hsz
    (Nat.le_refl st) (Nat.lt_add_of_pos_right (Nat.lt_of_lt_of_le Nat.zero_lt_two hsz))
  obtain ⟨h1, h2, h3, h4, h5, h6, h7⟩ := hw
  refine ⟨st, sz, e, by rw [e]; exact hl', F, ?_⟩
  rw [e]
  refine ⟨h1, h2, by rw [List.length_cons, h3], h4, ?_, h6, h7⟩
  show FramesOK n nb rf r vs (sz :: s.path) ((st + sz) :: s.choices) ((st, sz) :: lv)
  rw [framesOK_cons, ← h3]
  exact ⟨F.target, F.cellLen, fun hc => absurd hc (Nat.lt_irrefl _), h5⟩

theorem walk_node {n m : Nat} {nb : Nbrs} {rf : Nat} {r : IR.St} (lv : List (Nat × Nat)) (worse : Bool) (s s1 : LS)
    (hI : MInv n m nb s) (hlv : LevelsOK s.op s.path s.choices lv) (hM : WalkM n nb rf r lv worse s)
    (hs1 : (if (!worse && s.op.binDividers.len == n) = true then leafNode n m s
      else if (!worse) = true then innerNode s else Outcome.ok s) = .ok s1) :
    ∃ lv1, LevelsOK s1.op s1.path s1.choices lv1 ∧ WalkA n nb rf r lv1 s1 ∧
      (s1.skipDeage = true → WalkN n nb rf r lv1 s1) := by
  obtain ⟨l1, l2⟩ := LevelsOK_length _ _ _ hlv
  by_cases hleaf : (!worse && s.op.binDividers.len == n) = true
  · rw [if_pos hleaf] at hs1
    simp only [Bool.and_eq_true, Bool.not_eq_true', beq_iff_eq] at hleaf
    have hN : WalkNode n nb rf r lv s := by
      unfold WalkM at hM; rw [hleaf.1] at hM; simpa using hM
    obtain ⟨_, _, _, _, hsk, _⟩ := leafNode_spec hI.core hlv hI.age hs1
    rcases leafNode_shape hs1 with ⟨e1, e2, e3⟩ | ⟨s0, ref, e1, e2, e3, hb⟩
    · refine ⟨lv, by rw [e1, e2, e3]; exact hlv, ?_, fun hc => by rw [hsk, hI.skip] at hc; cases hc⟩
      obtain ⟨vs, hN⟩ := hN
      have := walk_truncate (s' := s1) 0 hI.core.part hI.core.age (Nat.zero_le _)
        (fun hne => List.length_pos_iff.2 hne) (by rw [e1]; rfl) (by rw [e2]; rfl) (by rw [e3]; rfl) hN
      exact ⟨_, by simpa using this⟩
    · obtain ⟨j, op', j1, j2, hd, hs'⟩ := backJump_shape hb
      have eop : s1.op = op' := by rw [hs']
      have epath : s1.path = s.path.drop j := by rw [hs', e2]
      have ech : s1.choices = s.choices.drop j := by
        rw [hs', e2, e3]
        show List.drop (j + s.choices.length - s.path.length) s.choices = _
        rw [l1, Nat.add_sub_cancel]
      rw [e1] at hd
      rw [e2] at j1 j2
      obtain ⟨q1, q2, q3, q4, _⟩ := deageTimes_spec (StepQ.trivial n nb s.currentBest s.firstLeaf) j s.op op'
        hI.core.part hI.core.age (by rw [hI.age]; exact Int.ofNat_le.2 j1) trivial hd
      refine ⟨lv.drop j, ?_, ?_, fun hc => by rw [hsk, hI.skip] at hc; cases hc⟩
      · rw [eop, epath, ech]
        apply LevelsOK_frame q4 _ _ _ _ (LevelsOK_drop j _ _ _ hlv)
        rw [List.length_drop, hI.age, Int.ofNat_sub j1]
        exact Int.le_add_one (Int.le_refl _)
      · obtain ⟨vs, hN⟩ := hN
        exact ⟨_, walk_truncate j hI.core.part hI.core.age j1 j2 (by rw [eop]; exact hd) epath ech hN⟩
  · rw [if_neg hleaf] at hs1
    by_cases hnw : (!worse) = true
    · rw [if_pos hnw] at hs1
      have hwf : worse = false := by simpa using hnw
      have hN : WalkNode n nb rf r lv s := by
        unfold WalkM at hM; rw [hwf] at hM; simpa using hM
      have hnl : s.op.binDividers.len ≠ n := by
        intro e; apply hleaf; simp [hwf, e]
      obtain ⟨vs, hN⟩ := hN
      obtain ⟨st, sz, -, hl', -, hW⟩ := walk_inner hI hlv hnl hN hs1
      exact ⟨(st, sz) :: lv, hl', ⟨vs, hW.toA⟩, fun _ => ⟨vs, hW⟩⟩
    · rw [if_neg hnw] at hs1
      cases hs1
      have hwt : worse = true := by simpa using hnw
      have hA : WalkA n nb rf r lv s := by
        unfold WalkM at hM; rw [hwt] at hM; simpa using hM
      exact ⟨lv, hlv, hA, fun hc => by rw [hI.skip] at hc; cases hc⟩

theorem walk_refine (hnb : NbOK nb n) (hrf : 3 * n + 3 ≤ rf)
    (lv : List (Nat × Nat)) (s : LS) (w : Bool) (op' : OP) (sc' : Scratch) (hc : Core n s)
    (htl : s.sc.timesSeen.len = n) {vs : List Nat} {t v : Nat} (h : WalkSv n nb rf r vs t v lv s)
    (hr : refine nb s.currentBest s.firstLeaf {} s.op s.sc = .ok (w, op', sc')) (sc2 : Scratch) :
    (w = true → WalkAv n nb rf r vs lv { s with op := op', sc := sc2 }) ∧
    (w = false → WalkNodev n nb rf r (vs ++ [v]) lv { s with op := op', sc := sc2 }) := by
  obtain ⟨h1, h2, h3, h4, h5, h6, h7, h8, h9, h10⟩ := h
  obtain ⟨r1, r2, r3, _⟩ := refine_inv stablePerm hc.part hc.age hc.scr hr
  have hlev : LevelsTree n nb rf r vs op' vs.length :=
    h4.transfer (fun L hL s' hs' => lv_refine stablePerm hc.part hc.age hc.scr hr (by rw [← h3]; exact Int.lt_add_one_iff.2 (Int.ofNat_le.2 hL)) hs')
  have hsorted := refine_binsSorted stablePerm hc.part hc.age hc.scr h10 hr
  refine ⟨fun _ => ⟨h1, Or.inr h2, by show (vs.length : Int) ≤ op'.age; rw [r3, ← h3]; exact Int.le_add_one (Int.le_refl _), hlev, h9.of_append (Nat.le_of_eq h2.symm), hsorted⟩,
    fun hw => ?_⟩
  subst hw
  obtain ⟨hm', hbt'⟩ := refineMatch hc.part hc.age hc.scr htl h8 hnb h7 hr rf hrf
  have hnode : nodeL n nb rf r vs vs.length = IR.nodeAt (irG n nb) rf r vs := by unfold nodeL; rw [List.take_length]
  rw [hnode] at h5 h6 hm'
  have hlen : (vs ++ [v]).length = vs.length + 1 := List.length_append
  obtain ⟨hp1, hlv1⟩ := levels_snoc h1 h5 h6 hlev (LvOK.ofMatch hm' r1 r2 (Int.le_of_eq (by rw [r3, ← h3]; rfl)) hbt')
  exact ⟨hp1, by rw [hlen]; show _ = op'.age; rw [r3, ← h3]; rfl, by rw [hlen]; exact h2, by rw [hlen]; exact hlv1,
    h9, hsorted, hbt'⟩

theorem walkMainJ {n m : Nat} {nb : Nbrs} {rf : Nat} {r : IR.St} (hnb : NbOK nb n) (hrf : 3 * n + 3 ≤ rf) :
    MainJ n m nb (WalkA n nb rf r) (WalkN n nb rf r) (WalkS n nb rf r) (WalkM n nb rf r) where
  step :=
    { na := fun _ _ h => h.toA
      deage := fun lv s op' k hc ht _ hage h hd => by
        obtain ⟨vs, h⟩ := h
        exact ⟨vs, walk_deage lv s op' k hc ht hage h hd⟩
      noskip := fun _ _ _ h => h
      skipA := fun _ _ _ s c cs _ _ _ _ _ _ _ _ _ hch _ _ _ _ _ h => by
        obtain ⟨vs, h⟩ := h
        exact ⟨vs, walk_skip (c' := c - 1) s.bestOrbits true hch h⟩
      skipB := fun _ _ _ s c cs _ _ _ bo _ _ _ _ _ hch _ _ _ _ h => by
        obtain ⟨vs, h⟩ := h
        exact ⟨vs, walk_skip (c' := c - 1) bo true hch h⟩
      split := fun st sz ls s c cs p ps _ bo w op' k hc ht _ _ hch hpth _ _ _ _ hs h => by
        obtain ⟨vs, h⟩ := h
        obtain ⟨v, _, _, _, q1, q2⟩ := walk_split st sz ls s c cs p ps bo w op' k hc ht hch hpth hs h
        exact ⟨fun hw => ⟨vs, st, v, q1 hw⟩, fun hw => ⟨vs, q2 hw⟩⟩
      pop := fun st sz ls s _ ht _ _ h => by
        obtain ⟨vs, h⟩ := h
        exact ⟨_, walk_pop st sz ls s ht h⟩ }
  node := fun lv worse s s1 hI _ hlv hM hs1 => walk_node lv worse s s1 hI hlv hM hs1
  refine := fun lv s w op' sc' hc _ _ _ htl h hr => by
    obtain ⟨vs, t, v, h⟩ := h
    obtain ⟨q1, q2⟩ := walk_refine hnb hrf lv s w op' sc' hc htl h hr _
    cases w with
    | true => exact ⟨vs, q1 rfl⟩
    | false => exact ⟨_, q2 rfl⟩

end CanonF
