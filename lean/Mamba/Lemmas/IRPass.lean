import Mamba.Lemmas.IRPassChar
import Mamba.Lemmas.IREquiv
/-!
# `IR.pass` is determined by order-theoretic properties (`IR.PassChar`)

`pass_char : PassChar`. The new colouring of a pass is the rank of the key `(old colour, count)` among the distinct
keys; a tight colouring is determined by the order it induces (`tight_eq_of_order`, by counting the values below:
`tight_eq_card`, `card_image_eq_of_iff`), so any tight colouring that orders the vertices in the same way equals it
(`pass_char_col`, with `pass_lt_iff`). The work list (`work_iff`): `rank ds (x*(n+1)) + frags n ds x =
rank ds ((x+1)*(n+1))` (`first_add_frags`), ranks of a duplicate-free list are onto `0..length-1` (`rank_surj`), the
first fragment of a cell is the new cell of its vertices of minimal count (`first_eq_of_min`).
-/

namespace IR
open Finset

theorem card_image_eq_of_iff {A : Finset Nat} {f h : Nat → Nat}
    (H : ∀ u ∈ A, ∀ v ∈ A, (f u = f v ↔ h u = h v)) : (A.image f).card = (A.image h).card := by
  classical
  have e1 : A.image f = (A.image (fun u => (f u, h u))).image Prod.fst := by
    rw [Finset.image_image]; rfl
  have e2 : A.image h = (A.image (fun u => (f u, h u))).image Prod.snd := by
    rw [Finset.image_image]; rfl
  have c1 : ((A.image (fun u => (f u, h u))).image Prod.fst).card = (A.image (fun u => (f u, h u))).card := by
    apply Finset.card_image_of_injOn
    intro p hp q hq hpq
    obtain ⟨u, hu, rfl⟩ := Finset.mem_image.1 (Finset.mem_coe.1 hp)
    obtain ⟨v, hv, rfl⟩ := Finset.mem_image.1 (Finset.mem_coe.1 hq)
    simp only at hpq
    simp only [Prod.mk.injEq]
    exact ⟨hpq, (H u hu v hv).1 hpq⟩
  have c2 : ((A.image (fun u => (f u, h u))).image Prod.snd).card = (A.image (fun u => (f u, h u))).card := by
    apply Finset.card_image_of_injOn
    intro p hp q hq hpq
    obtain ⟨u, hu, rfl⟩ := Finset.mem_image.1 (Finset.mem_coe.1 hp)
    obtain ⟨v, hv, rfl⟩ := Finset.mem_image.1 (Finset.mem_coe.1 hq)
    simp only at hpq
    simp only [Prod.mk.injEq]
    exact ⟨(H u hu v hv).2 hpq, hpq⟩
  rw [e1, e2, c1, c2]

theorem tight_eq_card {n k : Nat} {f : Nat → Nat} (hlt : ∀ v, v < n → f v < k)
    (honto : ∀ x, x < k → ∃ v, v < n ∧ f v = x) {v : Nat} (hv : v < n) :
    f v = (((Finset.range n).filter (fun u => f u < f v)).image f).card := by
  have : ((Finset.range n).filter (fun u => f u < f v)).image f = Finset.range (f v) := by
    ext x
    simp only [Finset.mem_image, Finset.mem_filter, Finset.mem_range]
    constructor
    · rintro ⟨u, ⟨_, h⟩, rfl⟩; exact h
    · intro hx
      obtain ⟨u, hu, rfl⟩ := honto x (Nat.lt_trans hx (hlt v hv))
      exact ⟨u, ⟨hu, hx⟩, rfl⟩
  rw [this, Finset.card_range]

theorem tight_eq_of_order {n k k' : Nat} {f f' : Nat → Nat}
    (hlt : ∀ v, v < n → f v < k) (honto : ∀ x, x < k → ∃ v, v < n ∧ f v = x)
    (hlt' : ∀ v, v < n → f' v < k') (honto' : ∀ x, x < k' → ∃ v, v < n ∧ f' v = x)
    (hord : ∀ u v, u < n → v < n → (f u < f v ↔ f' u < f' v)) : (∀ v, v < n → f v = f' v) ∧ k = k' := by
  have heq : ∀ u v, u < n → v < n → (f u = f v ↔ f' u = f' v) := by
    intro u v hu hv
    have h1 := hord u v hu hv
    have h2 := hord v u hv hu
    omega
  constructor
  · intro v hv
    rw [tight_eq_card hlt honto hv, tight_eq_card hlt' honto' hv,
      Finset.filter_congr (fun u hu => hord u v (Finset.mem_range.1 hu) hv)]
    exact card_image_eq_of_iff fun a ha b hb =>
      heq a b (Finset.mem_range.1 (Finset.mem_filter.1 ha).1) (Finset.mem_range.1 (Finset.mem_filter.1 hb).1)
  · rw [tight_card hlt honto, tight_card hlt' honto']
    exact card_image_eq_of_iff fun a ha b hb => heq a b (Finset.mem_range.1 ha) (Finset.mem_range.1 hb)

theorem rank_eq_of_gap {ds : List Nat} {a b : Nat} (h : ∀ k ∈ ds, a ≤ k → b ≤ k) (hab : a ≤ b) :
    rank ds a = rank ds b := by
  unfold rank
  congr 1
  apply List.filter_congr
  intro k hk
  have := h k hk
  simp only [decide_eq_decide]
  omega

theorem frags_eq (n : Nat) (ds : List Nat) (x : Nat) :
    frags n ds x = (ds.filter (fun k => decide (x * (n + 1) ≤ k) && decide (k < (x + 1) * (n + 1)))).length := by
  unfold frags
  congr 1
  apply List.filter_congr
  intro k _
  have hN := Nat.succ_pos n
  rw [Bool.eq_iff_iff, beq_iff_eq, Bool.and_eq_true, decide_eq_true_eq, decide_eq_true_eq,
    ← Nat.le_div_iff_mul_le hN, ← Nat.div_lt_iff_lt_mul hN, Nat.lt_succ_iff]
  exact ⟨fun h => ⟨Nat.le_of_eq h.symm, Nat.le_of_eq h⟩, fun h => Nat.le_antisymm h.2 h.1⟩

theorem first_add_frags (n : Nat) (ds : List Nat) (x : Nat) :
    rank ds (x * (n + 1)) + frags n ds x = rank ds ((x + 1) * (n + 1)) := by
  rw [frags_eq]
  unfold rank
  apply filter_split
  exact Nat.mul_le_mul_right _ (Nat.le_succ x)

theorem rank_le_length (ds : List Nat) (k : Nat) : rank ds k ≤ ds.length := by
  unfold rank; exact List.length_filter_le _ _

theorem exists_min_of {P : Nat → Prop} (f : Nat → Nat) (h : ∃ v, P v) : ∃ v, P v ∧ ∀ u, P u → f v ≤ f u := by
  classical
  have hex : ∃ m, ∃ v, P v ∧ f v = m := by
    obtain ⟨v, hv⟩ := h; exact ⟨f v, v, hv, rfl⟩
  obtain ⟨v, hv, hm⟩ := Nat.find_spec hex
  refine ⟨v, hv, fun u hu => ?_⟩
  rw [hm]; exact Nat.find_min' hex ⟨u, hu, rfl⟩

theorem pass_char_col {g : G} (hg : WF g) (s : St) (i : Nat) (rest : List Nat) (c' : Nat → Nat) (k' : Nat)
    (hlt : ∀ v, v < g.n → c' v < k') (honto : ∀ x, x < k' → ∃ v, v < g.n ∧ c' v = x)
    (hord : ∀ u v, u < g.n → v < g.n → (c' u < c' v ↔
      (col s.c u < col s.c v ∨ (col s.c u = col s.c v ∧ cnt g s.c i u < cnt g s.c i v)))) :
    (∀ v, v < g.n → c' v = col (pass g s i rest).c v) ∧ k' = (pass g s i rest).cells :=
  tight_eq_of_order hlt honto (pass_invA g s i rest)
    (fun _ hx => cell_nonempty (pass_invA g s i rest) (pass_invD g s i rest) hx)
    fun u v hu hv => (hord u v hu hv).trans (pass_lt_iff hg s i rest hu hv).symm

theorem mem_work (g : G) (s : St) (i : Nat) (rest : List Nat) (x : Nat) :
    x ∈ (pass g s i rest).work ↔
      ((∃ y, y ∈ rest ∧ x = rank (dedup (keys g s.c i)) (y * (g.n + 1))) ∨
        (∃ j, j < s.cells ∧ 1 < frags g.n (dedup (keys g s.c i)) j ∧
          ∃ t, t < frags g.n (dedup (keys g s.c i)) j ∧ x = rank (dedup (keys g s.c i)) (j * (g.n + 1)) + t)) := by
  show x ∈ dedup _ ↔ _
  rw [dedup_eq, List.mem_dedup, List.mem_append, List.mem_map, List.mem_flatMap]
  constructor
  · rintro (⟨y, hy, rfl⟩ | ⟨j, hj, hx⟩)
    · exact Or.inl ⟨y, hy, rfl⟩
    · right
      by_cases hf : frags g.n (dedup (keys g s.c i)) j > 1
      · rw [if_pos hf, List.mem_map] at hx
        obtain ⟨t, ht, rfl⟩ := hx
        exact ⟨j, List.mem_range.1 hj, hf, t, List.mem_range.1 ht, rfl⟩
      · rw [if_neg hf] at hx; cases hx
  · rintro (⟨y, hy, rfl⟩ | ⟨j, hj, hf, t, ht, rfl⟩)
    · exact Or.inl ⟨y, hy, rfl⟩
    · right
      refine ⟨j, List.mem_range.2 hj, ?_⟩
      rw [if_pos hf, List.mem_map]
      exact ⟨t, List.mem_range.2 ht, rfl⟩

theorem first_eq_of_min {g : G} (hg : WF g) (c : Array Nat) (i : Nat) {v : Nat} (hv : v < g.n)
    (hmin : ∀ u, u < g.n → col c u = col c v → cnt g c i v ≤ cnt g c i u) :
    rank (dedup (keys g c i)) (col c v * (g.n + 1)) = rank (dedup (keys g c i)) (key g c i v) := by
  apply rank_eq_of_gap
  · intro k hk hle
    obtain ⟨u, hu, rfl⟩ := mem_ds.1 hk
    have h1 : ¬ col c u < col c v := fun h => Nat.not_lt.2 hle ((key_lt_mul_iff hg c i hu (col c v)).2 h)
    by_contra hlt
    rcases (key_lt_iff hg c i hu hv).1 (Nat.lt_of_not_le hlt) with h | ⟨h2, h3⟩
    · exact h1 h
    · exact Nat.not_lt.2 (hmin u hu h2) h3
  · exact Nat.le_add_right _ _

theorem frags_filter_mem {g : G} (hg : WF g) (c : Array Nat) (i : Nat) (j : Nat) {k : Nat} :
    k ∈ (dedup (keys g c i)).filter (fun k => decide (j * (g.n + 1) ≤ k) && decide (k < (j + 1) * (g.n + 1)))
      ↔ ∃ v, v < g.n ∧ col c v = j ∧ key g c i v = k := by
  rw [List.mem_filter, mem_ds]
  simp only [Bool.and_eq_true, decide_eq_true_eq]
  constructor
  · rintro ⟨⟨v, hv, rfl⟩, h1, h2⟩
    have a1 := (key_lt_mul_iff hg c i hv (j + 1)).1 h2
    have a2 : ¬ col c v < j := fun h => Nat.not_lt.2 h1 ((key_lt_mul_iff hg c i hv j).2 h)
    exact ⟨v, hv, Nat.le_antisymm (Nat.le_of_lt_succ a1) (Nat.le_of_not_lt a2), rfl⟩
  · rintro ⟨v, hv, hc, rfl⟩
    refine ⟨⟨v, hv, rfl⟩, ?_, ?_⟩
    · exact Nat.le_of_not_lt fun h => Nat.lt_irrefl j (hc ▸ (key_lt_mul_iff hg c i hv j).1 h)
    · exact (key_lt_mul_iff hg c i hv (j + 1)).2 (hc ▸ Nat.lt_succ_self _)

theorem work_iff {g : G} (hg : WF g) (s : St) (hA : InvA g s) (i : Nat) (rest : List Nat)
    (hrest : ∀ x ∈ rest, x < s.cells) (hne : ∀ x, x < s.cells → ∃ v, v < g.n ∧ col s.c v = x) (x : Nat) :
    x ∈ (pass g s i rest).work ↔ ∃ v, v < g.n ∧ rank (dedup (keys g s.c i)) (key g s.c i v) = x ∧
      ((col s.c v ∈ rest ∧ ∀ u, u < g.n → col s.c u = col s.c v → cnt g s.c i v ≤ cnt g s.c i u) ∨
        (∃ u, u < g.n ∧ col s.c u = col s.c v ∧ cnt g s.c i u ≠ cnt g s.c i v)) := by
  rw [mem_work]
  have hnd := ds_nodup g s.c i
  constructor
  · rintro (⟨y, hy, rfl⟩ | ⟨j, hj, hf, t, ht, rfl⟩)
    · obtain ⟨v, ⟨hv, hcv⟩, hmin⟩ := exists_min_of (P := fun v => v < g.n ∧ col s.c v = y) (cnt g s.c i)
        (hne y (hrest y hy))
      have hmin' : ∀ u, u < g.n → col s.c u = col s.c v → cnt g s.c i v ≤ cnt g s.c i u :=
        fun u hu hc => hmin u ⟨hu, by rw [hc, hcv]⟩
      refine ⟨v, hv, ?_, Or.inl ⟨by rw [hcv]; exact hy, hmin'⟩⟩
      rw [← first_eq_of_min hg s.c i hv hmin', hcv]
    · have hsum := first_add_frags g.n (dedup (keys g s.c i)) j
      have hle := rank_le_length (dedup (keys g s.c i)) ((j + 1) * (g.n + 1))
      obtain ⟨k, hk, hkx⟩ := rank_surj hnd (x := rank (dedup (keys g s.c i)) (j * (g.n + 1)) + t)
        (Nat.lt_of_lt_of_le (by rw [← hsum]; exact Nat.add_lt_add_left ht _) hle)
      obtain ⟨v, hv, rfl⟩ := mem_ds.1 hk
      have h1 : ¬ col s.c v < j := fun h => by
        have := rank_lt_rank hk ((key_lt_mul_iff hg s.c i hv j).2 h)
        rw [hkx] at this
        exact Nat.not_lt.2 (Nat.le_add_right _ _) this
      have h2 : col s.c v < j + 1 := by
        by_contra h
        have h3 : ¬ key g s.c i v < (j + 1) * (g.n + 1) := fun h' => h ((key_lt_mul_iff hg s.c i hv (j + 1)).1 h')
        have := rank_mono (ds := dedup (keys g s.c i)) (Nat.le_of_not_lt h3); omega
      have hcv : col s.c v = j := Nat.le_antisymm (Nat.le_of_lt_succ h2) (Nat.le_of_not_lt h1)
      refine ⟨v, hv, hkx, Or.inr ?_⟩
      rw [frags_eq] at hf
      obtain ⟨w, hw, hwne⟩ := nodup_exists_ne (hnd.filter _) hf (key g s.c i v)
      obtain ⟨u, hu, hcu, rfl⟩ := (frags_filter_mem hg s.c i j).1 hw
      refine ⟨u, hu, by rw [hcu, hcv], fun h => hwne ?_⟩
      exact (key_eq_iff hg s.c i hu hv).2 ⟨by rw [hcu, hcv], h⟩
  · rintro ⟨v, hv, rfl, (⟨hmem, hmin⟩ | ⟨u, hu, hcu, hne'⟩)⟩
    · exact Or.inl ⟨col s.c v, hmem, (first_eq_of_min hg s.c i hv hmin).symm⟩
    · right
      have hsum := first_add_frags g.n (dedup (keys g s.c i)) (col s.c v)
      have hkv := key_mem s.c i hv
      have b1 : rank (dedup (keys g s.c i)) (col s.c v * (g.n + 1)) ≤ rank (dedup (keys g s.c i)) (key g s.c i v) :=
        rank_mono (Nat.le_add_right _ _)
      have b2 : rank (dedup (keys g s.c i)) (key g s.c i v) < rank (dedup (keys g s.c i)) ((col s.c v + 1) * (g.n + 1)) :=
        rank_lt_rank hkv ((key_lt_mul_iff hg s.c i hv _).2 (Nat.lt_succ_self _))
      have hf : 1 < frags g.n (dedup (keys g s.c i)) (col s.c v) := by
        rw [frags_eq]
        exact one_lt_length_of_mem ((frags_filter_mem hg s.c i _).2 ⟨u, hu, hcu, rfl⟩)
          ((frags_filter_mem hg s.c i _).2 ⟨v, hv, rfl, rfl⟩) (fun h => hne' ((key_eq_iff hg s.c i hu hv).1 h).2)
      obtain ⟨t, ht⟩ := Nat.exists_eq_add_of_le b1
      rw [← hsum, ht] at b2
      exact ⟨col s.c v, hA v hv, hf, t, Nat.lt_of_add_lt_add_left b2, ht⟩

theorem pass_char : PassChar := by
  intro g hg s hA i rest hrest hne c' k' W hlt honto hord hW
  obtain ⟨hcol', hk⟩ := pass_char_col hg s i rest c' k' hlt honto hord
  have hcol : ∀ v, v < g.n → c' v = rank (dedup (keys g s.c i)) (key g s.c i v) :=
    fun v hv => (hcol' v hv).trans (pass_col s i rest hv)
  refine ⟨?_, hk.symm, ?_, ?_⟩
  · exact tab_congr (fun v hv => (hcol v hv).symm)
  · show (dedup _).Nodup
    rw [dedup_eq]; exact List.nodup_dedup _
  · intro x
    rw [work_iff hg s hA i rest hrest hne]
    constructor
    · rintro ⟨v, hv, rfl, h⟩
      rw [← hcol v hv]
      exact ⟨hlt v hv, (hW v hv).2 h⟩
    · rintro ⟨hx, hw⟩
      obtain ⟨v, hv, rfl⟩ := honto x hx
      exact ⟨v, hv, (hcol v hv).symm, (hW v hv).1 hw⟩

end IR
