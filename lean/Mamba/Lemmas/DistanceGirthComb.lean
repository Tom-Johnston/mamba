import Mamba.Spec.Distance
import Mathlib.Data.List.Nodup
/-!
# Combinatorial core of the completeness of the `Girth` BFS (final-state argument along a cycle through the root)
-/
namespace GDist
open GraphSpec

/-- what is known about a scanned pair `x → y` in the final state of the BFS from root `i`
(`D` labels, `P` parents, `γ` the current girth value, `p0` the stale parent entry of the root) -/
def DF (D P : Nat → Nat) (γ i p0 x y : Nat) : Prop :=
  (x ≠ i ∧ y = P x) ∨ (x = i ∧ y = p0) ∨ (y ≠ i ∧ γ ≤ D x + 2) ∨ (y = i ∧ γ ≤ D x + 1) ∨
  (y ≠ i ∧ D y ≠ 0 ∧ D y ≤ D x + 1 ∧ (P y = x ∨ γ ≤ D x + D y + 1))

/-- the labels, parents and girth value when the queue of the BFS from root `i` is empty -/
structure FinalSt (g : G) (D P : Nat → Nat) (γ i p0 : Nat) : Prop where
  hi : i < g.n
  root0 : D i = 0
  tree : ∀ x, x < g.n → x ≠ i → D x ≠ 0 →
    P x < g.n ∧ ((P x = i ∧ D x = 1) ∨ (P x ≠ i ∧ D (P x) ≠ 0 ∧ D x = D (P x) + 1))
  df : ∀ x y, x < g.n → (x = i ∨ D x ≠ 0) → g.adj x y = true → y < g.n → DF D P γ i p0 x y
  groot : ∀ x, x ≠ i → D x ≠ 0 → P x = i → x ≠ p0

variable {g : G} {D P : Nat → Nat} {γ i p0 m : Nat} {y : Nat → Nat}

/-- a cycle through the root, in path order `i, y 0, ..., y (m-1)` -/
structure CycFrom (g : G) (i m : Nat) (y : Nat → Nat) : Prop where
  len : 2 ≤ m
  ne : ∀ t, t < m → y t ≠ i
  inj : ∀ a b, a < m → b < m → y a = y b → a = b
  rng : ∀ t, t < m → y t < g.n
  first : g.adj i (y 0) = true
  chain : ∀ t, t + 1 < m → g.adj (y t) (y (t + 1)) = true
  close : g.adj (y (m - 1)) i = true

theorem CycFrom.reverse (hsym : ∀ u v, g.adj u v = g.adj v u) (cy : CycFrom g i m y) :
    CycFrom g i m fun t => y (m - 1 - t) := by
  have hm := cy.len
  have hidx : ∀ t, m - 1 - t < m := fun t => by omega
  refine { len := hm, ne := fun t _ => cy.ne _ (hidx t),
           inj := fun a b ha hb h => by have := cy.inj _ _ (hidx a) (hidx b) h; omega,
           rng := fun t _ => cy.rng _ (hidx t), first := by rw [hsym]; exact cy.close, chain := ?_, close := ?_ }
  · intro t ht
    have he : m - 1 - (t + 1) + 1 = m - 1 - t := by omega
    have := cy.chain (m - 1 - (t + 1)) (by rw [he]; exact hidx t)
    rwa [he, hsym] at this
  · show g.adj (y (m - 1 - (m - 1))) i = true
    rw [Nat.sub_self, hsym]; exact cy.first

theorem root_child (fs : FinalSt g D P γ i p0) (hγ : 3 < γ) {x : Nat} (hx : x < g.n) (hxi : x ≠ i)
    (hadj : g.adj i x = true) (hp : x ≠ p0) : P x = i ∧ D x ≠ 0 ∧ D x ≤ 1 := by
  rcases fs.df i x fs.hi (.inl rfl) hadj hx with ⟨h1, _⟩ | ⟨_, h1⟩ | ⟨_, h1⟩ | ⟨h1, _⟩ | ⟨_, h1, h2, h3 | h3⟩
  · exact absurd rfl h1
  · exact absurd h1 hp
  · rw [fs.root0] at h1; omega
  · exact absurd h1 hxi
  · rw [fs.root0] at h2; exact ⟨h3, h1, h2⟩
  · rw [fs.root0] at h2 h3; omega

theorem fwd_bound (fs : FinalSt g D P γ i p0) (cy : CycFrom g i m y) (hγ : m + 1 < γ) (h0 : y 0 ≠ p0) :
    ∀ t, t < m → D (y t) ≠ 0 ∧ D (y t) ≤ t + 1 := by
  have hm := cy.len
  intro t
  induction t with
  | zero =>
    exact fun h => (root_child fs (by omega) (cy.rng 0 h) (cy.ne 0 h) cy.first h0).2
  | succ t ih =>
    intro h
    have ht := Nat.lt_of_succ_lt h
    obtain ⟨hl, hb⟩ := ih ht
    have hx := cy.rng t ht
    have hxi := cy.ne t ht
    rcases fs.df (y t) (y (t + 1)) hx (.inr hl) (cy.chain t h) (cy.rng _ h) with
      ⟨_, h1⟩ | ⟨h1, _⟩ | ⟨_, h1⟩ | ⟨h1, _⟩ | ⟨_, h1, h2, _⟩
    · rcases (fs.tree _ hx hxi hl).2 with ⟨hc, _⟩ | ⟨_, hc1, hc2⟩
      · rw [← h1] at hc; exact absurd hc (cy.ne _ h)
      · rw [← h1] at hc1 hc2; exact ⟨hc1, by omega⟩
    · exact absurd h1 hxi
    · omega
    · exact absurd h1 (cy.ne _ h)
    · exact ⟨h1, by omega⟩

theorem bwd_bound (fs : FinalSt g D P γ i p0) (cy : CycFrom g i m y) (hγ : m + 1 < γ)
    (hsym : ∀ u v, g.adj u v = g.adj v u) (hlast : y (m - 1) ≠ p0) : ∀ t, t < m → D (y t) ≤ m - t := by
  intro t ht
  obtain ⟨h1, h2⟩ : m - 1 - t < m ∧ m - 1 - (m - 1 - t) = t := by omega
  have h : D (y (m - 1 - (m - 1 - t))) ≤ m - 1 - t + 1 := (fwd_bound fs (cy.reverse hsym) hγ hlast (m - 1 - t) h1).2
  rw [h2] at h
  omega

theorem final_girth_le_aux (fs : FinalSt g D P γ i p0) (hsym : ∀ u v, g.adj u v = g.adj v u)
    (cy : CycFrom g i m y) (h0 : y 0 ≠ p0) : γ ≤ m + 1 := by
  by_contra hcon
  have hγ : m + 1 < γ := by omega
  have hm := cy.len
  have hfwd := fwd_bound fs cy hγ h0
  have hm1 : m - 1 < m := by omega
  have hz := cy.rng (m - 1) hm1
  have hzi := cy.ne (m - 1) hm1
  by_cases hlast : y (m - 1) = p0
  · -- the closing edge is the hidden one: found from its other end
    obtain ⟨hl, hb⟩ := hfwd (m - 1) hm1
    rcases fs.df _ i hz (.inr hl) cy.close fs.hi with ⟨_, h1⟩ | ⟨h1, _⟩ | ⟨h1, _⟩ | ⟨_, h1⟩ | ⟨h1, _⟩
    · exact fs.groot _ hzi hl h1.symm hlast
    · exact hzi h1
    · exact h1 rfl
    · omega
    · exact h1 rfl
  · have hbwd := bwd_bound fs cy hγ hsym hlast
    have hroot : ∀ t, t < m → g.adj i (y t) = true → y t ≠ p0 → P (y t) = i :=
      fun t h hadj hp => (root_child fs (by omega) (cy.rng t h) (cy.ne t h) hadj hp).1
    -- a non-tree edge `y t – y (t+1)` would have been noticed, with a girth value of at most
    -- `(t + 1) + (m - (t + 1)) + 1`; so an edge whose first end does not hang below the second is a tree edge
    have step : ∀ t, t + 1 < m → P (y t) ≠ y (t + 1) → P (y (t + 1)) = y t := by
      intro t h hnt
      have ht := Nat.lt_of_succ_lt h
      obtain ⟨hl, hb⟩ := hfwd t ht
      have hb2 := hbwd (t + 1) h
      rcases fs.df (y t) (y (t + 1)) (cy.rng t ht) (.inr hl) (cy.chain t h) (cy.rng _ h) with
        ⟨_, h1⟩ | ⟨h1, _⟩ | ⟨_, h1⟩ | ⟨h1, _⟩ | ⟨_, _, _, h3 | h3⟩
      · exact absurd h1.symm hnt
      · exact absurd h1 (cy.ne t ht)
      · omega
      · exact absurd h1 (cy.ne _ h)
      · exact h3
      · omega
    -- hence every edge of the cycle is a tree edge pointing back towards `y 0`, the last one included
    have hpar : ∀ t, t + 1 < m → P (y (t + 1)) = y t := by
      intro t
      induction t with
      | zero => exact fun h => step 0 h (by rw [hroot 0 (Nat.lt_of_succ_lt h) cy.first h0]; exact (cy.ne 1 h).symm)
      | succ t ih =>
        exact fun h => step (t + 1) h (by
          have ht := Nat.lt_of_succ_lt h
          rw [ih ht]
          intro he
          have := cy.inj _ _ (Nat.lt_of_succ_lt ht) h he
          omega)
    have he : m - 2 + 1 = m - 1 := by omega
    have h1 := hpar (m - 2) (by rw [he]; exact hm1)
    rw [he, hroot _ hm1 (by rw [hsym]; exact cy.close) hlast] at h1
    exact cy.ne (m - 2) (by omega) h1.symm

theorem final_girth_le (fs : FinalSt g D P γ i p0) (hsym : ∀ u v, g.adj u v = g.adj v u)
    (cy : CycFrom g i m y) : γ ≤ m + 1 := by
  have hm := cy.len
  by_cases h0 : y 0 = p0
  · refine final_girth_le_aux fs hsym (cy.reverse hsym) fun he => ?_
    have := cy.inj _ _ (by omega) (by omega) (he.trans h0.symm)
    omega
  · exact final_girth_le_aux fs hsym cy h0

end GDist
