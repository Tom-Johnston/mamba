import Mamba.Lemmas.CodecBase
import Mamba.Lemmas.GraphCount
import Mamba.Lemmas.PairsTri
/-!
Pure counting facts about `GraphSpec.G` and the pair order 01, 02, 12, 03, 13, 23, ... (C07/C08).
-/
namespace Codec
open GraphSpec
open GraphRep (upperPairs)

/-! the positional facts about `GraphRep.upperPairs` (`PairsTri`), for this `tri` -/

theorem upperPairs_length (n : Nat) : (upperPairs n).length = tri n := GraphRep.upperPairs_length n

theorem upperPairs_getElem? {n i j : Nat} (hij : i < j) (hj : j < n) : (upperPairs n)[tri j + i]? = some (i, j) :=
  GraphRep.upperPairs_getElem? hij hj

theorem upperPairs_index {n t : Nat} {p : Nat × Nat} (h : (upperPairs n)[t]? = some p) :
    p.1 < p.2 ∧ p.2 < n ∧ t = tri p.2 + p.1 := GraphRep.upperPairs_index h

theorem upperBits_eq (g : G) : upperBits g = (upperPairs g.n).map (fun p => if g.adj p.1 p.2 then 1 else 0) := by
  unfold upperBits upperPairs
  rw [List.map_flatMap]
  congr 1; funext v
  rw [List.map_map]; rfl

theorem upperBits_length (g : G) : (upperBits g).length = tri g.n := by
  rw [upperBits_eq, List.length_map, upperPairs_length]

theorem upperBits_getElem? (g : G) {i j : Nat} (hij : i < j) (hj : j < g.n) :
    (upperBits g)[tri j + i]? = some (if g.adj i j then 1 else 0) := by
  rw [upperBits_eq, List.getElem?_map, upperPairs_getElem? hij hj]; rfl

theorem g6Bits_eq (g : G) : Formats.g6Bits g = (upperPairs g.n).map (fun p => g.adj p.1 p.2) := by
  unfold Formats.g6Bits upperPairs
  rw [List.map_flatMap]
  congr 1; funext v
  rw [List.map_map]; rfl

theorem g6Bits_length (g : G) : (Formats.g6Bits g).length = tri g.n := by
  rw [g6Bits_eq, List.length_map, upperPairs_length]

theorem g6Bits_upperBits (g : G) : (Formats.g6Bits g).map (fun b => if b then 1 else 0) = upperBits g := by
  rw [g6Bits_eq, upperBits_eq, List.map_map]; rfl

theorem adj_ext_upper {g h : G} (hg : g.WF) (hh : h.WF) (hn : g.n = h.n)
    (key : ∀ i j, i < j → j < g.n → g.adj i j = h.adj i j) (u v : Nat) : g.adj u v = h.adj u v := by
  rw [hg.ext_lt hh hn fun i j hij => ?_]
  by_cases hj : j < g.n
  · exact key i j hij hj
  · rw [Bool.eq_iff_iff]
    exact ⟨fun e => absurd (hg.supp i j e).2 hj, fun e => absurd (hn ▸ (hh.supp i j e).2) hj⟩

theorem _root_.GraphSpec.G.deg_pos_iff (g : G) (v : Nat) : g.deg v > 0 ↔ ∃ u, u < g.n ∧ g.adj v u = true := by
  unfold G.deg
  rw [gt_iff_lt, List.length_pos_iff_exists_mem]
  simp only [G.mem_nbrs]

theorem _root_.GraphSpec.G.deg_eq_zero_iff (g : G) (v : Nat) : g.deg v = 0 ↔ ∀ u, u < g.n → g.adj v u = false := by
  unfold G.deg G.nbrs
  rw [List.length_eq_zero_iff, List.filter_eq_nil_iff]
  simp

theorem edges_count_deg (g : G) (h : g.WF) (v : Nat) (hv : v < g.n) :
    (g.edges.filter (fun p => p.1 == v || p.2 == v)).length = g.deg v := by
  have := GraphRep.countP_upperPairs_incident g.adj h.symm h.irrefl g.n v
  rw [if_pos hv] at this
  rw [GraphRep.edges_eq_filter, List.filter_filter, ← List.countP_eq_length_filter,
    List.countP_congr fun p _ => by rw [Bool.and_comm], this, List.countP_eq_length_filter]
  rfl

theorem sum_map_add {α : Type} (L : List α) (f g : α → Nat) :
    (L.map fun w => f w + g w).sum = (L.map f).sum + (L.map g).sum := by
  induction L with
  | nil => rfl
  | cons x xs ih => simp only [List.map_cons, List.sum_cons, ih]; omega

theorem sum_ite {α : Type} (L : List α) (p : α → Bool) :
    (L.map fun w => if p w then 1 else 0).sum = L.countP p := by
  induction L with
  | nil => rfl
  | cons x xs ih =>
    simp only [List.map_cons, List.sum_cons, ih, List.countP_cons]; omega

end Codec
