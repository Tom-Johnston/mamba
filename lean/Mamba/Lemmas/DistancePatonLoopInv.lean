import Mamba.Lemmas.DistancePatonCount
import Mathlib.Data.List.Forall2
/-!
# Paton's phase: the recorded cycles (`PI`), the invariants along the loop, and the end of the phase

`PI` says what is known of `fund`: every recorded list is the code list of a simple cycle and contains, besides tree
edges, exactly one non-tree edge, which no other recorded list contains. `patonScan_inv`, `patonLoop_inv` carry
`PS`/`PO`, the count `PC` and `PI` together (`paton_end`). On a connected graph the tree spans at the end (`PFinal`,
`paton_final`), the removed edges are the edges of the graph, and there are `m - n + 1` fundamental cycles
(`paton_fund_count`).
-/
namespace GDist
open GraphSpec Model

variable {a : G}

def FundOf (a : G) (T : Array Int) (f : List Nat) (e : Nat × Nat) : Prop :=
  edgeCode e.1 e.2 ∈ f ∧
    ∀ c ∈ f, c = edgeCode e.1 e.2 ∨ ∃ x, x < a.n ∧ inTree T x ∧ x ≠ 0 ∧ c = edgeCode x (par T x)

/-- what is known about the recorded cycles `fund`: each is a simple cycle of `a`, and they correspond one by one to
the non-tree edges `nt`, each containing its own and otherwise only tree edges -/
structure PI (a : G) (st : PatonSt) (nt : List (Nat × Nat)) : Prop where
  cyc : ∀ f ∈ st.fund, IsCycCode a f
  fnt : List.Forall₂ (FundOf a st.T) st.fund nt
  ntnd : nt.Nodup
  ntrm : ∀ e ∈ nt, e ∈ st.removed
  trm : ∀ x, x < a.n → inTree st.T x → x ≠ 0 → (x, par st.T x) ∈ st.removed
  ntt : ∀ e ∈ nt, ∀ x, x < a.n → inTree st.T x → x ≠ 0 → e ≠ (x, par st.T x)
  rcov : ∀ e ∈ st.removed, e ∈ nt ∨ ∃ x, x < a.n ∧ inTree st.T x ∧ x ≠ 0 ∧ e = (x, par st.T x)

section step
variable {st : PatonSt} {v u : Nat} {nt : List (Nat × Nat)}

theorem pi_closeCycle (hsym : ∀ u v, a.adj u v = a.adj v u) (inv : PS a st v) (hun : u < a.n)
    (hadj : a.adj v u = true) (hnr : edgeRemoved st.removed u v = false) (huX : u ∈ st.X) (hne : par st.T u ≠ v)
    (pi : PI a st nt) : PI a (closeCycle st u v) (nt ++ [(u, v)]) := by
  obtain ⟨hvn, hvt⟩ := inv.cur
  have huvrm : (u, v) ∉ st.removed := (edgeRemoved_eq_false hnr).1
  obtain ⟨_, hint, hu0⟩ := inv.xin u huX
  obtain ⟨k, hk1, hk2⟩ := inv.xanc u huX
  have hk : dep st.depth v - dep st.depth (par st.T u) = k := by omega
  have pdep' : ∀ x, x < a.n → inTree st.T x → x ≠ 0 → dep st.depth x = dep st.depth (par st.T x) + 1 :=
    fun x hx ht h0 => (inv.pdep x hx ht h0).1
  have hkd : dep st.depth ((par st.T)^[k] v) + k = dep st.depth v := by rw [hk1]; exact hk2
  refine { cyc := ?_, fnt := ?_, ntnd := ?_, ntrm := ?_, trm := ?_, ntt := ?_, rcov := ?_ }
  · intro f hf
    rcases List.mem_append.1 hf with h1 | h1
    · exact pi.cyc f h1
    · obtain rfl := List.mem_singleton.1 h1
      obtain ⟨hcyc, hcodes⟩ := fund_cycle hsym inv huX hadj hk1 hk2 hne
      exact ⟨_, hcyc, by rw [hk, hcodes]⟩
  · refine List.rel_append pi.fnt (List.Forall₂.cons ⟨?_, fun c hc => ?_⟩ List.Forall₂.nil)
    · rw [mem_sortInts]; simp
    · rw [mem_sortInts, hk] at hc
      simp only [List.cons_append, List.nil_append, List.mem_cons] at hc
      rcases hc with hc | hc | hc
      · exact .inr ⟨u, hun, hint, hu0, hc⟩
      · exact .inl hc
      · obtain ⟨i, hi, hci⟩ := mem_backCodes st.T k v c hc
        obtain ⟨h1, h2⟩ := iter_in inv.ptree i v hvn hvt
        have h3 := (dep_exact inv.root inv.ptree pdep' k v hvn hvt hkd i (by omega)).2 hi
        exact .inr ⟨_, h1, h2, h3, hci⟩
  · rw [List.nodup_append]
    refine ⟨pi.ntnd, List.pairwise_singleton _ _, ?_⟩
    intro e he e' he' hee
    obtain rfl := List.mem_singleton.1 he'
    exact huvrm (hee ▸ pi.ntrm _ he)
  · intro e he
    rcases List.mem_append.1 he with h | h
    · exact List.mem_cons_of_mem _ (pi.ntrm e h)
    · obtain rfl := List.mem_singleton.1 h; exact List.mem_cons_self
  · intro x hx ht hx0
    exact List.mem_cons_of_mem _ (pi.trm x hx ht hx0)
  · intro e he x hx ht hx0
    rcases List.mem_append.1 he with h | h
    · exact pi.ntt e h x hx ht hx0
    · obtain rfl := List.mem_singleton.1 h
      exact fun h0 => huvrm (h0 ▸ pi.trm x hx ht hx0)
  · intro e he
    rcases List.mem_cons.1 he with rfl | he
    · exact .inl (List.mem_append.2 (.inr List.mem_cons_self))
    · rcases pi.rcov e he with h | h
      · exact .inl (List.mem_append.2 (.inl h))
      · exact .inr h

theorem pi_addLeaf (inv : PS a st v) (hun : u < a.n) (hnr : edgeRemoved st.removed u v = false)
    (hnotin : ¬ inTree st.T u) (pi : PI a st nt) : PI a (addLeaf st u v) nt := by
  have huT : u < st.T.size := by rw [inv.tsz]; exact hun
  have huvrm : (u, v) ∉ st.removed := (edgeRemoved_eq_false hnr).1
  have hpu : par (addLeaf st u v).T u = v := par_addLeaf_self huT
  have hu0 : u ≠ 0 := fun h0 => hnotin (by rw [h0, inTree, inv.root]; omega)
  -- the tree edges of the old tree are tree edges of the new one
  have old : ∀ x, inTree st.T x → inTree (addLeaf st u v).T x ∧ par (addLeaf st u v).T x = par st.T x :=
    fun x ht => ⟨inTree_addLeaf_of_inTree hnotin ht, par_addLeaf_of_ne fun h0 => hnotin (h0 ▸ ht)⟩
  refine { cyc := pi.cyc, fnt := ?_, ntnd := pi.ntnd, ntrm := fun e he => List.mem_cons_of_mem _ (pi.ntrm e he),
           trm := ?_, ntt := ?_, rcov := ?_ }
  · refine pi.fnt.imp ?_
    rintro f e ⟨h1, h2⟩
    refine ⟨h1, fun c hc => (h2 c hc).imp_right ?_⟩
    rintro ⟨x, hx, ht, hx0, hcx⟩
    exact ⟨x, hx, (old x ht).1, hx0, by rw [(old x ht).2]; exact hcx⟩
  · intro x hx ht hx0
    by_cases hxu : x = u
    · subst hxu; rw [hpu]; exact List.mem_cons_self
    · rw [par_addLeaf_of_ne hxu]
      exact List.mem_cons_of_mem _ (pi.trm x hx (inTree_of_inTree_addLeaf ht hxu) hx0)
  · intro e he x hx ht hx0
    by_cases hxu : x = u
    · subst hxu; rw [hpu]
      exact fun h0 => huvrm (h0 ▸ pi.ntrm e he)
    · rw [par_addLeaf_of_ne hxu]
      exact pi.ntt e he x hx (inTree_of_inTree_addLeaf ht hxu) hx0
  · intro e he
    rcases List.mem_cons.1 he with rfl | he
    · exact .inr ⟨u, hun, inTree_addLeaf_self huT, hu0, by rw [hpu]⟩
    · refine (pi.rcov e he).imp_right ?_
      rintro ⟨x, hx, ht, hx0, hex⟩
      exact ⟨x, hx, (old x ht).1, hx0, by rw [(old x ht).2]; exact hex⟩

end step

theorem pi_init (hn : 0 < a.n) : PI a (patonInit a.n) [] :=
  { cyc := fun _ hf => nomatch hf
    fnt := List.Forall₂.nil
    ntnd := List.nodup_nil
    ntrm := fun _ he => nomatch he
    trm := fun _ _ ht hx0 => absurd ((inTree_patonInit hn).1 ht) hx0
    ntt := fun _ he => nomatch he
    rcov := fun _ he => nomatch he }


theorem patonScan_inv (hsym : ∀ u v, a.adj u v = a.adj v u) (hirr : ∀ v, a.adj v v = false) {v : Nat}
    (us : List Nat) (st : PatonSt) (nt : List (Nat × Nat)) (inv : PS a st v) (pc : PC a st) (pi : PI a st nt)
    (hnd : us.Nodup) (hus : ∀ u ∈ us, u < a.n ∧ a.adj v u = true ∧ edgeRemoved st.removed u v = false)
    (hfresh : ∀ x ∈ st.X, par st.T x = v → x ∉ us) :
    ∃ st', patonScan v us st = .ok st' ∧ PS a st' v ∧ PC a st' ∧ (∃ nt', PI a st' nt') ∧
      ∀ w, w ∈ us ∨ edgeRemoved st.removed w v = true → edgeRemoved st'.removed w v = true := by
  have huv : ∀ u, a.adj v u = true → u ≠ v := fun u hadj h0 => by rw [h0, hirr] at hadj; cases hadj
  obtain ⟨st', e, ⟨inv', _, pc', pi'⟩, hrm⟩ := patonScan_ind hsym
    (fun us s => PS a s v ∧ (∀ x ∈ s.X, par s.T x = v → x ∉ us) ∧ PC a s ∧ ∃ nt, PI a s nt)
    (fun _ _ h => h.1)
    (fun u us s ⟨inv, hfr, pc, nt, pi⟩ _ hun hadj hnr ht hux => by
      have huX : u ∈ s.X := hux.resolve_right (huv u hadj)
      exact ⟨ps_closeCycle inv, fun x hx hp hm => hfr x hx hp (List.mem_cons_of_mem _ hm),
        pc_closeCycle hsym pc hun inv.cur.1 hadj hnr ht inv.cur.2, _,
        pi_closeCycle hsym inv hun hadj hnr huX (fun h0 => hfr u huX h0 List.mem_cons_self) pi⟩)
    (fun u us s ⟨inv, hfr, pc, nt, pi⟩ hunot hun hadj hnr ht => by
      refine ⟨ps_addLeaf hsym inv hun hadj ht, fun x hx hp hm => ?_,
        pc_addLeaf hsym pc hun inv.cur.1 hadj hnr ht inv.cur.2, _, pi_addLeaf inv hun hnr ht pi⟩
      rcases List.mem_cons.1 hx with rfl | hx
      · exact hunot hm
      · rw [par_addLeaf_of_ne fun h0 : x = u => ht (h0 ▸ (inv.xin x hx).2.1)] at hp
        exact hfr x hx hp (List.mem_cons_of_mem _ hm))
    us st ⟨inv, hfresh, pc, nt, pi⟩ hnd hus
  exact ⟨st', e, inv', pc', pi', hrm⟩

theorem patonLoop_inv (hsym : ∀ u v, a.adj u v = a.adj v u) (hirr : ∀ v, a.adj v v = false) :
    ∀ (fuel : Nat) (st : PatonSt) (nt : List (Nat × Nat)), PO a st → PC a st → PI a st nt →
      ∀ st', patonLoop a fuel st = .ok st' → ∃ nt', PO a st' ∧ st'.X = [] ∧ PC a st' ∧ PI a st' nt' := by
  intro fuel
  induction fuel with
  | zero => intro st _ _ _ _ st' hres; cases hres
  | succ f ih =>
    intro st nt o pc pi st' hres
    unfold patonLoop at hres
    match hX : st.X with
    | [] =>
      rw [hX] at hres
      cases hres
      exact ⟨nt, o, hX, pc, pi⟩
    | v :: X' =>
      rw [hX] at hres
      obtain ⟨inv, hfr⟩ := ps_of_po o hX
      obtain ⟨st1, e, inv1, pc1, ⟨nt1, pi1⟩, hrm⟩ := patonScan_inv hsym hirr _ { st with X := X' } nt inv
        ⟨pc.tsz, pc.rin, pc.rnd, pc.cnt⟩ ⟨pi.cyc, pi.fnt, pi.ntnd, pi.ntrm, pi.trm, pi.ntt, pi.rcov⟩
        ((G.nodup_nbrs a v).filter _) (fun u => mem_liveNbrs.1) (fun x hx hp => absurd hp (hfr x hx))
      simp only [e] at hres
      refine ih st1 nt1 (po_of_ps inv1 fun w hw hwn => hrm w ?_) pc1 pi1 st' hres
      cases hh : edgeRemoved st.removed w v with
      | true => exact .inr rfl
      | false => exact .inl (mem_liveNbrs.2 ⟨hwn, hw, hh⟩)

theorem paton_end (hsym : ∀ u v, a.adj u v = a.adj v u) (hirr : ∀ v, a.adj v v = false) (hn : 0 < a.n)
    (fuel : Nat) (st : PatonSt) (hres : patonLoop a fuel (patonInit a.n) = .ok st) :
    ∃ nt, PO a st ∧ st.X = [] ∧ PC a st ∧ PI a st nt :=
  patonLoop_inv hsym hirr fuel _ [] (po_init hn) (pc_init hn) (pi_init hn) st hres

theorem paton_fund_sound (a : G) (hsym : ∀ u v, a.adj u v = a.adj v u) (hirr : ∀ v, a.adj v v = false)
    (hn : 0 < a.n) (fuel : Nat) (st : PatonSt) (hres : patonLoop a fuel (patonInit a.n) = .ok st) :
    ∀ f ∈ st.fund, IsCycCode a f := by
  obtain ⟨_, _, _, _, pi⟩ := paton_end hsym hirr hn fuel st hres
  exact pi.cyc

/-- **every fundamental cycle contains an edge that no other fundamental cycle contains** (its non-tree edge):
the fundamental cycles are linearly independent over GF(2) -/
theorem paton_fund_private (a : G) (hsym : ∀ u v, a.adj u v = a.adj v u) (hirr : ∀ v, a.adj v v = false)
    (hn : 0 < a.n) (fuel : Nat) (st : PatonSt) (hres : patonLoop a fuel (patonInit a.n) = .ok st) :
    ∃ es : List Nat, es.length = st.fund.length ∧
      ∀ i j (hi : i < st.fund.length) (hj : j < es.length), es[j] ∈ st.fund[i] ↔ i = j := by
  obtain ⟨nt, _, _, pc, pi⟩ := paton_end hsym hirr hn fuel st hres
  have hlen : nt.length = st.fund.length := pi.fnt.length_eq.symm
  have hinj := pc.code_inj hirr
  refine ⟨nt.map fun e => edgeCode e.1 e.2, by simp [hlen], ?_⟩
  intro i j hi hj
  have hj' : j < nt.length := by simpa using hj
  have hi' : i < nt.length := by omega
  have hFi : FundOf a st.T st.fund[i] nt[i] := by
    have := (List.forall₂_iff_get.1 pi.fnt).2 i hi hi'
    simpa using this
  have hej : (nt.map fun e => edgeCode e.1 e.2)[j] = edgeCode nt[j].1 nt[j].2 := by simp
  rw [hej]
  constructor
  · intro hm
    rcases hFi.2 _ hm with h | ⟨x, hx, ht, hx0, hc⟩
    · have := hinj _ (pi.ntrm _ (List.getElem_mem hj')) _ (pi.ntrm _ (List.getElem_mem hi')) h
      exact ((List.Nodup.getElem_inj_iff pi.ntnd).1 this).symm
    · exfalso
      have := hinj _ (pi.ntrm _ (List.getElem_mem hj')) _ (pi.trm x hx ht hx0) hc
      exact pi.ntt _ (List.getElem_mem hj') x hx ht hx0 this
  · intro hij
    subst hij
    exact hFi.1


/-- everything known at the end of Paton's phase on a connected simple graph -/
structure PFinal (a : G) (st : PatonSt) (nt : List (Nat × Nat)) : Prop where
  o : PO a st
  pc : PC a st
  pi : PI a st nt
  xe : st.X = []
  all : ∀ x, x < a.n → inTree st.T x

theorem paton_final (a : G) (hsym : ∀ u v, a.adj u v = a.adj v u) (hirr : ∀ v, a.adj v v = false)
    (hn : 0 < a.n) (hconn : ∀ x, x < a.n → Reach a 0 x) (fuel : Nat) (st : PatonSt)
    (hres : patonLoop a fuel (patonInit a.n) = .ok st) : ∃ nt, PFinal a st nt := by
  obtain ⟨nt, o, hX, pc, pi⟩ := paton_end hsym hirr hn fuel st hres
  refine ⟨nt, o, pc, pi, hX, fun x hx => ?_⟩
  -- the tree is closed under adjacency: every edge at an examined vertex is removed, and removed edges join
  -- tree vertices
  obtain ⟨k, hk⟩ := hconn x hx
  have : ∀ y k, WalkIn a (List.range a.n) 0 y k → inTree st.T y := by
    intro y k hw
    induction hw with
    | base _ => unfold inTree; rw [o.root]; omega
    | @step u w k hwu hadj hwV ih =>
      have h := o.exam u (List.mem_range.1 hwu.mem_V) ih (by rw [hX]; exact List.not_mem_nil) w hadj
        (List.mem_range.1 hwV)
      unfold edgeRemoved at h
      simp only [Bool.or_eq_true, List.contains_iff_mem] at h
      rcases h with h | h
      · exact (pc.rin _ h).2.2.2.1
      · exact (pc.rin _ h).2.2.2.2
  exact this x k hk

theorem edges_mem {u v : Nat} : (u, v) ∈ a.edges ↔ (v < a.n ∧ u < v ∧ a.adj u v = true) := by
  unfold G.edges
  simp only [List.mem_flatMap, List.mem_range, List.mem_map, List.mem_filter, Prod.mk.injEq]
  constructor
  · rintro ⟨w, hw, x, ⟨hx1, hx2⟩, rfl, rfl⟩
    exact ⟨hw, hx1, hx2⟩
  · rintro ⟨h1, h2, h3⟩
    exact ⟨v, h1, u, ⟨h2, h3⟩, rfl, rfl⟩

theorem edges_nodup (a : G) : a.edges.Nodup := by
  unfold G.edges
  rw [List.nodup_flatMap]
  constructor
  · intro v _
    exact (List.nodup_range.filter _).map (fun x y h => by simpa using h)
  · refine List.nodup_range.imp ?_
    intro v w hvw
    simp only [Function.onFun]
    intro e h1 h2
    obtain ⟨x, _, rfl⟩ := List.mem_map.1 h1
    obtain ⟨y, _, hy⟩ := List.mem_map.1 h2
    simp at hy
    exact hvw hy.2.symm

theorem paton_fund_count (a : G) (hsym : ∀ u v, a.adj u v = a.adj v u) (hirr : ∀ v, a.adj v v = false)
    (hn : 0 < a.n) (hconn : ∀ x, x < a.n → Reach a 0 x) (fuel : Nat) (st : PatonSt)
    (hres : patonLoop a fuel (patonInit a.n) = .ok st) :
    st.fund.length + a.n = a.m + 1 := by
  obtain ⟨_, o, pc, _, hX, hall⟩ := paton_final a hsym hirr hn hconn fuel st hres
  have hcount : st.T.count (-1) = 0 := by
    rw [Array.count_eq_zero]
    intro hm
    obtain ⟨i, hi, hiv⟩ := Array.mem_iff_getElem.1 hm
    exact hall i (by rw [← o.tsz]; exact hi) (by rw [← getElem_eq_getD hi (-1)]; exact hiv)
  -- the removed edges are the edges of the graph
  have hnorm_nd : (st.removed.map normE).Nodup := by
    rw [List.Nodup, List.pairwise_map]
    exact pc.rnd
  have hmem : ∀ p, p ∈ st.removed.map normE ↔ p ∈ a.edges := by
    rintro ⟨p1, p2⟩
    constructor
    · intro hp
      obtain ⟨⟨e1, e2⟩, he, hne⟩ := List.mem_map.1 hp
      obtain ⟨h1, h2, h3, _, _⟩ := pc.rin _ he
      simp only at h1 h2 h3
      have hne12 : e1 ≠ e2 := by
        intro h0; subst h0; rw [hirr] at h3; cases h3
      unfold normE at hne
      simp only at hne
      by_cases c : e1 < e2
      · simp only [c, if_true, Prod.mk.injEq] at hne
        rw [← hne.1, ← hne.2]
        exact edges_mem.2 ⟨h2, c, h3⟩
      · simp only [c, if_false, Prod.mk.injEq] at hne
        rw [← hne.1, ← hne.2]
        exact edges_mem.2 ⟨h1, by omega, by rw [hsym]; exact h3⟩
    · intro hp
      obtain ⟨h1, h2, h3⟩ := edges_mem.1 hp
      have := o.exam p2 h1 (hall p2 h1) (by rw [hX]; simp) p1 (by rw [hsym]; exact h3) (by omega)
      unfold edgeRemoved at this
      simp only [Bool.or_eq_true, List.contains_iff_mem] at this
      rcases this with h | h
      · exact List.mem_map.2 ⟨(p1, p2), h, by simp [normE, h2]⟩
      · exact List.mem_map.2 ⟨(p2, p1), h, by
          have : ¬ p2 < p1 := by omega
          simp [normE, this]⟩
  have hlen : st.removed.length = a.m := by
    have := ((List.perm_ext_iff_of_nodup hnorm_nd (edges_nodup a)).2 hmem).length_eq
    simpa [G.m] using this
  have := pc.cnt
  omega

end GDist
