import Mamba.Lemmas.CanonFRefineStages
/-!
# One call of `splitCell`: its stages, `SplitRel` / `SplitX`, `splitCell_split`, `splitCell_pre_total`

`splitCell j` is cut into stages `scHead … scTail` (`splitCell_false` is `rfl`); `scX_ok` reads a successful stage
backwards, `scX_eval` runs it forwards.  Each stage is specified once from the loop lemmas of CanonFRefineStages.lean
(`fill_stage`: the bin is stably sorted by the counts; `write_stage`: a new divider wherever the count changes; `upd_core`:
the result is a partition again; `btc_stage`: the work list).  `splitCell_split` walks the stages of a successful call and
yields `SplitRel` (the new partition, on lists) and `SplitX` (sortedness, the new dividers, the new work list), from which
every property of the refinement in CanonFRefine.lean and the neighbouring files is derived; the consequences of one split
stand behind it (`splitCell_phase1` belongs to the strand of `refine_phase1`, see the head of CanonFRefine.lean).
`splitCell_pre_total` runs the stages forwards for the absence of panics, up to the `expandValue` call in the tail and
whatever `currentBest` is; that this call returns stands in front of it (`expandLoop_total_of`: it does whenever
`worseTest` does on the certificates it builds; `expandValue_total`: with an empty `currentBest`).
-/
namespace CanonF

/-- what is needed from the hand-written stable sort: a hypothesis `hst` of the lemmas about the refinement, discharged
where the search is put together by `stablePerm` (CanonFMain.lean), which is `stable_perm` of CanonFSort.lean -/
def StablePerm : Prop := ∀ (d d' : Sl KV) (n : Nat), stable d n = .ok d' →
  d'.len = d.len ∧ d'.data.size = d.data.size ∧ d'.toList.Perm d.toList

/-- what is needed from the stable sort for the absence of panics: a hypothesis `htot`, discharged by `stable_no_panic`
of CanonFSort.lean at the two places that use the totality of the refinement (`refine_totalG` in CanonFRefineTotal.lean,
`allocated_total` in CanonFTotal.lean) -/
def StableTotal : Prop := ∀ d : Sl KV, d.WF → ∃ d', stable d d.len = .ok d'


def scTail (nb : Nbrs) (cb fl : Sl Nat) (opts : Options) (j : Nat) (op : OP) (sc : Scratch) :
    Outcome (Bool × OP × Scratch) :=
  let ex : Outcome (Bool × OP) := if j = op.spl then expandValue nb cb fl op else .ok (false, op)
  match ex with
  | .ok (true, op) => .ok (true, op, sc)
  | .ok (false, op) =>
    if opts.checkViability then
      match op.inCell.get (op.order.len - 1) with
      | .ok cell =>
        if op.order.len = 0 then .panic else      -- Go: index -1
        match viabilityLoop op.inCell cell 64 0 (opts.viableBits % 2 ^ 64) with
        | .ok r => .ok (r, op, sc)
        | .panic => .panic
        | .outOfFuel => .outOfFuel
      | .panic => .panic
      | .outOfFuel => .outOfFuel
    else .ok (false, op, sc)
  | .panic => .panic
  | .outOfFuel => .outOfFuel

def scUpd2 (nb : Nbrs) (cb fl : Sl Nat) (opts : Options) (j : Nat) (op : OP) (sc : Scratch)
    (dws : Sl KV) (order nbs : Sl Nat) (nbsIndex : Nat) (btc : Sl Int) (bd : Sl Nat) : Outcome (Bool × OP × Scratch) :=
  match op.binAges.reslice (op.binAges.len + nbs.len) with
  | .ok ages =>
    match ages.copySelf (j + nbs.len) j ages.len with
    | .ok ages =>
      match forRange (fun i (a : Sl Int) => a.set (j + i) op.age) nbs.len 0 ages with
      | .ok ages =>
        match sc.space.reslice (nbsIndex + 1) with
        | .ok space =>
          match forRange (fun k (s : Sl Nat) => s.set (k - j) k) (nbsIndex + 1) j space with
          | .ok space =>
            match unionSl btc (space.toList.map Int.ofNat) with
            | .ok btc =>
              let op := { op with order := order, binsToCheck := btc, binDividers := bd, binAges := ages }
              match recomputeInCell op with
              | .ok op =>
                let sc := { sc with dws := dws, nbs := nbs, space := space }
                scTail nb cb fl opts j op sc
              | .panic => .panic
              | .outOfFuel => .outOfFuel
            | .panic => .panic
            | .outOfFuel => .outOfFuel
          | .panic => .panic
          | .outOfFuel => .outOfFuel
        | .panic => .panic
        | .outOfFuel => .outOfFuel
      | .panic => .panic
      | .outOfFuel => .outOfFuel
    | .panic => .panic
    | .outOfFuel => .outOfFuel
  | .panic => .panic
  | .outOfFuel => .outOfFuel

def scUpd1 (nb : Nbrs) (cb fl : Sl Nat) (opts : Options) (j : Nat) (op : OP) (sc : Scratch)
    (dws : Sl KV) (order nbs : Sl Nat) (nbsIndex : Nat) : Outcome (Bool × OP × Scratch) :=
  match nbs.reslice nbsIndex with
  | .ok nbs =>
    match shiftBtc j nbsIndex op.binsToCheck.len op.binsToCheck with
    | .ok btc =>
      match op.binDividers.reslice (op.binDividers.len + nbs.len) with
      | .ok bd =>
        match bd.copySelf (j + nbs.len) j bd.len with
        | .ok bd =>
          match bd.copyAt j nbs.toList with
          | .ok bd => scUpd2 nb cb fl opts j op sc dws order nbs nbsIndex btc bd
          | .panic => .panic
          | .outOfFuel => .outOfFuel
        | .panic => .panic
        | .outOfFuel => .outOfFuel
      | .panic => .panic
      | .outOfFuel => .outOfFuel
    | .panic => .panic
    | .outOfFuel => .outOfFuel
  | .panic => .panic
  | .outOfFuel => .outOfFuel

def scWrite (nb : Nbrs) (n : Nat) (cb fl : Sl Nat) (opts : Options) (j : Nat) (op : OP) (sc : Scratch)
    (binStart binSize : Nat) (dws : Sl KV) : Outcome (Bool × OP × Scratch) :=
  match sc.nbs.reslice n, dws.get 0 with
  | .ok nbs, .ok kv0 =>
    match op.order.set binStart kv0.2 with
    | .ok order =>
      match forRange (writeBackStep dws binStart) (binSize - 1) 1 (order, nbs, 0) with
      | .ok (order, nbs, nbsIndex) => scUpd1 nb cb fl opts j op sc dws order nbs nbsIndex
      | .panic => .panic
      | .outOfFuel => .outOfFuel
    | .panic => .panic
    | .outOfFuel => .outOfFuel
  | _, _ => .panic

def scFill (nb : Nbrs) (n : Nat) (cb fl : Sl Nat) (opts : Options) (j : Nat) (op : OP) (sc : Scratch)
    (binStart binSize mc nm : Nat) (dws0 : Sl KV) : Outcome (Bool × OP × Scratch) :=
  let filled : Outcome (Sl KV) :=
    if mc = 1 then
      let oneIndex : Option Nat := if nm ≤ binSize then some (binSize - nm) else none
      match forRange (fillOnesStep op.order sc.timesSeen binStart) binSize 0 (dws0, 0, oneIndex) with
      | .ok (dws, _, _) => .ok dws
      | .panic => .panic
      | .outOfFuel => .outOfFuel
    else
      match forRange (fillStep op.order sc.timesSeen binStart) binSize 0 dws0 with
      | .ok dws => stable dws dws.len
      | o => o
  match filled with
  | .ok dws => scWrite nb n cb fl opts j op sc binStart binSize dws
  | .panic => .panic
  | .outOfFuel => .outOfFuel

def scHead (nb : Nbrs) (n : Nat) (cb fl : Sl Nat) (opts : Options) (j : Nat) (op : OP) (sc : Scratch) :
    Outcome (Bool × OP × Scratch) :=
  let bs : Outcome Nat := if j > 0 then op.binDividers.get (j - 1) else .ok 0
  match bs, op.binDividers.get j with
  | .ok binStart, .ok dj =>
    let skip : Outcome Bool :=
      if dj = binStart + 1 then .ok true
      else
        match sc.maxCell.get j with
        | .ok mc =>
          if mc = 0 then .ok true
          else
            match sc.numberOfMax.get j with
            | .ok c => .ok (decide (binStart ≤ dj ∧ c = dj - binStart))
            | .panic => .panic
            | .outOfFuel => .outOfFuel
        | .panic => .panic
        | .outOfFuel => .outOfFuel
    match skip with
    | .ok true => .ok (false, op, sc)
    | .ok false =>
      if dj < binStart then .panic else
      match sc.maxCell.get j, sc.numberOfMax.get j, sc.dws.reslice (dj - binStart) with
      | .ok mc, .ok nm, .ok dws0 => scFill nb n cb fl opts j op sc binStart (dj - binStart) mc nm dws0
      | _, _, _ => .panic
    | .panic => .panic
    | .outOfFuel => .outOfFuel
  | _, _ => .panic

theorem splitCell_false (nb : Nbrs) (n : Nat) (cb fl : Sl Nat) (opts : Options) (j : Nat) (op : OP) (sc : Scratch) :
    splitCell nb n cb fl opts j (false, op, sc) = scHead nb n cb fl opts j op sc := by
  rfl

theorem splitCell_true (nb : Nbrs) (n : Nat) (cb fl : Sl Nat) (opts : Options) (j : Nat) (op : OP) (sc : Scratch) :
    splitCell nb n cb fl opts j (true, op, sc) = .ok (true, op, sc) := rfl


theorem scUpd2_ok {nb : Nbrs} {cb fl : Sl Nat} {opts : Options} {j : Nat} {op : OP} {sc : Scratch}
    {dws : Sl KV} {order nbs : Sl Nat} {nbsIndex : Nat} {btc : Sl Int} {bd : Sl Nat} {R : Bool × OP × Scratch}
    (h : scUpd2 nb cb fl opts j op sc dws order nbs nbsIndex btc bd = .ok R) :
    ∃ ag1 ag2 ag3 sp1 sp2 btc2 op2,
      op.binAges.reslice (op.binAges.len + nbs.len) = .ok ag1 ∧
      ag1.copySelf (j + nbs.len) j ag1.len = .ok ag2 ∧
      forRange (fun i (a : Sl Int) => a.set (j + i) op.age) nbs.len 0 ag2 = .ok ag3 ∧
      sc.space.reslice (nbsIndex + 1) = .ok sp1 ∧
      forRange (fun k (s : Sl Nat) => s.set (k - j) k) (nbsIndex + 1) j sp1 = .ok sp2 ∧
      unionSl btc (sp2.toList.map Int.ofNat) = .ok btc2 ∧
      recomputeInCell { op with order := order, binsToCheck := btc2, binDividers := bd, binAges := ag3 } = .ok op2 ∧
      scTail nb cb fl opts j op2 { sc with dws := dws, nbs := nbs, space := sp2 } = .ok R := by
  unfold scUpd2 at h
  osplit h
  exact ⟨_, _, _, _, _, _, _, ‹_›, ‹_›, ‹_›, ‹_›, ‹_›, ‹_›, ‹_›, h⟩


theorem scUpd1_ok {nb : Nbrs} {cb fl : Sl Nat} {opts : Options} {j : Nat} {op : OP} {sc : Scratch}
    {dws : Sl KV} {order nbs : Sl Nat} {nbsIndex : Nat} {R : Bool × OP × Scratch}
    (h : scUpd1 nb cb fl opts j op sc dws order nbs nbsIndex = .ok R) :
    ∃ nbs3 btc bd1 bd2 bd3,
      nbs.reslice nbsIndex = .ok nbs3 ∧
      shiftBtc j nbsIndex op.binsToCheck.len op.binsToCheck = .ok btc ∧
      op.binDividers.reslice (op.binDividers.len + nbs3.len) = .ok bd1 ∧
      bd1.copySelf (j + nbs3.len) j bd1.len = .ok bd2 ∧
      bd2.copyAt j nbs3.toList = .ok bd3 ∧
      scUpd2 nb cb fl opts j op sc dws order nbs3 nbsIndex btc bd3 = .ok R := by
  unfold scUpd1 at h
  osplit h
  exact ⟨_, _, _, _, _, ‹_›, ‹_›, ‹_›, ‹_›, ‹_›, h⟩

theorem scWrite_ok {nb : Nbrs} {n : Nat} {cb fl : Sl Nat} {opts : Options} {j : Nat} {op : OP} {sc : Scratch}
    {binStart binSize : Nat} {dws : Sl KV} {R : Bool × OP × Scratch}
    (h : scWrite nb n cb fl opts j op sc binStart binSize dws = .ok R) :
    ∃ nbs0 kv0 order1 order2 nbs2 idx,
      sc.nbs.reslice n = .ok nbs0 ∧ dws.get 0 = .ok kv0 ∧ op.order.set binStart kv0.2 = .ok order1 ∧
      forRange (writeBackStep dws binStart) (binSize - 1) 1 (order1, nbs0, 0) = .ok (order2, nbs2, idx) ∧
      scUpd1 nb cb fl opts j op sc dws order2 nbs2 idx = .ok R := by
  unfold scWrite at h
  osplit h
  exact ⟨_, _, _, _, _, _, ‹_›, ‹_›, ‹_›, ‹_›, h⟩

theorem scFill_ok {nb : Nbrs} {n : Nat} {cb fl : Sl Nat} {opts : Options} {j : Nat} {op : OP} {sc : Scratch}
    {binStart binSize mc nm : Nat} {dws0 : Sl KV} {R : Bool × OP × Scratch}
    (h : scFill nb n cb fl opts j op sc binStart binSize mc nm dws0 = .ok R) :
    ∃ dws,
      ((mc = 1 ∧ ∃ z o, forRange (fillOnesStep op.order sc.timesSeen binStart) binSize 0
          (dws0, 0, if nm ≤ binSize then some (binSize - nm) else none) = .ok (dws, z, o)) ∨
       (mc ≠ 1 ∧ ∃ dws1, forRange (fillStep op.order sc.timesSeen binStart) binSize 0 dws0 = .ok dws1 ∧
          stable dws1 dws1.len = .ok dws)) ∧
      scWrite nb n cb fl opts j op sc binStart binSize dws = .ok R := by
  unfold scFill at h
  dsimp only at h
  by_cases hmc : mc = 1
  · rw [if_pos hmc] at h
    cases hf : forRange (fillOnesStep op.order sc.timesSeen binStart) binSize 0
        (dws0, 0, if nm ≤ binSize then some (binSize - nm) else none) with
    | ok r =>
      obtain ⟨d, z, o⟩ := r
      rw [hf] at h
      exact ⟨d, Or.inl ⟨hmc, z, o, rfl⟩, h⟩
    | panic => rw [hf] at h; simp at h
    | outOfFuel => rw [hf] at h; simp at h
  · rw [if_neg hmc] at h
    cases hf : forRange (fillStep op.order sc.timesSeen binStart) binSize 0 dws0 with
    | ok d1 =>
      rw [hf] at h
      dsimp only at h
      cases hs : stable d1 d1.len with
      | ok d =>
        rw [hs] at h
        exact ⟨d, Or.inr ⟨hmc, d1, rfl, hs⟩, h⟩
      | panic => rw [hs] at h; simp at h
      | outOfFuel => rw [hs] at h; simp at h
    | panic => rw [hf] at h; simp at h
    | outOfFuel => rw [hf] at h; simp at h

theorem binStart_iff {bd : Sl Nat} {j bs : Nat} :
    (if j > 0 then bd.get (j - 1) else .ok 0) = Outcome.ok bs ↔ (0 :: bd.toList)[j]? = some bs := by
  cases j with
  | zero => simp [eq_comm]
  | succ k => rw [if_pos (by omega), List.getElem?_cons_succ]; exact Sl.get_eq_toList

def SkipReason (sc : Scratch) (j bs dj : Nat) : Prop :=
  dj = bs + 1 ∨ ∃ mc, sc.maxCell.get j = .ok mc ∧ (mc = 0 ∨ ∃ nm, sc.numberOfMax.get j = .ok nm ∧ bs ≤ dj ∧ nm = dj - bs)

theorem scHead_ok {nb : Nbrs} {n : Nat} {cb fl : Sl Nat} {opts : Options} {j : Nat} {op : OP} {sc : Scratch}
    {R : Bool × OP × Scratch} (h : scHead nb n cb fl opts j op sc = .ok R) :
    ∃ bs dj, (0 :: op.binDividers.toList)[j]? = some bs ∧ op.binDividers.toList[j]? = some dj ∧
      ((R = (false, op, sc) ∧ SkipReason sc j bs dj) ∨
       ∃ mc nm dws0, dj ≠ bs + 1 ∧ bs ≤ dj ∧ sc.maxCell.get j = .ok mc ∧ mc ≠ 0 ∧ sc.numberOfMax.get j = .ok nm ∧
        nm ≠ dj - bs ∧ sc.dws.reslice (dj - bs) = .ok dws0 ∧
        scFill nb n cb fl opts j op sc bs (dj - bs) mc nm dws0 = .ok R) := by
  unfold scHead at h
  dsimp only at h
  cases hbs : (if j > 0 then op.binDividers.get (j - 1) else Outcome.ok 0) with
  | ok bs =>
    cases hdj : op.binDividers.get j with
    | ok dj =>
      rw [hbs, hdj] at h
      dsimp only at h
      refine ⟨bs, dj, binStart_iff.1 hbs, Sl.get_eq_toList.1 hdj, ?_⟩
      by_cases h1 : dj = bs + 1
      · rw [if_pos h1] at h
        simp only [Outcome.ok.injEq] at h
        exact Or.inl ⟨h.symm, Or.inl h1⟩
      · rw [if_neg h1] at h
        cases hmc : sc.maxCell.get j with
        | ok mc =>
          rw [hmc] at h; dsimp only at h
          by_cases h2 : mc = 0
          · rw [if_pos h2] at h
            simp only [Outcome.ok.injEq] at h
            exact Or.inl ⟨h.symm, Or.inr ⟨mc, hmc, Or.inl h2⟩⟩
          · rw [if_neg h2] at h
            cases hnm : sc.numberOfMax.get j with
            | ok nm =>
              rw [hnm] at h; dsimp only at h
              by_cases h3 : bs ≤ dj ∧ nm = dj - bs
              · rw [decide_eq_true h3] at h
                simp only [Outcome.ok.injEq] at h
                exact Or.inl ⟨h.symm, Or.inr ⟨mc, hmc, Or.inr ⟨nm, hnm, h3.1, h3.2⟩⟩⟩
              · rw [decide_eq_false h3] at h
                dsimp only at h
                by_cases h4 : dj < bs
                · rw [if_pos h4] at h; simp at h
                · rw [if_neg h4] at h
                  cases hd : sc.dws.reslice (dj - bs) with
                  | ok dws0 =>
                    rw [hd] at h
                    exact Or.inr ⟨mc, nm, dws0, h1, by omega, rfl, h2, rfl, by omega, rfl, h⟩
                  | panic => rw [hd] at h; simp at h
                  | outOfFuel => rw [hd] at h; simp at h
            | panic => rw [hnm] at h; simp at h
            | outOfFuel => rw [hnm] at h; simp at h
        | panic => rw [hmc] at h; simp at h
        | outOfFuel => rw [hmc] at h; simp at h
    | panic => rw [hbs, hdj] at h; simp at h
    | outOfFuel => rw [hbs, hdj] at h; simp at h
  | panic => rw [hbs] at h; simp at h
  | outOfFuel => rw [hbs] at h; simp at h

theorem scTail_ok {nb : Nbrs} {cb fl : Sl Nat} {opts : Options} {j : Nat} {op : OP} {sc : Scratch}
    {r : Bool} {op' : OP} {sc' : Scratch} (h : scTail nb cb fl opts j op sc = .ok (r, op', sc')) :
    sc' = sc ∧ ∃ w, (if j = op.spl then expandValue nb cb fl op else .ok (false, op)) = .ok (w, op') ∧
      (w = true → r = true) ∧ (opts.checkViability = false → r = w) := by
  unfold scTail at h
  dsimp only at h
  cases hex : (if j = op.spl then expandValue nb cb fl op else Outcome.ok (false, op)) with
  | ok x =>
    obtain ⟨w, opx⟩ := x
    rw [hex] at h
    cases w with
    | true =>
      simp only [Outcome.ok.injEq, Prod.mk.injEq] at h
      obtain ⟨rfl, rfl, rfl⟩ := h
      exact ⟨rfl, true, rfl, fun _ => rfl, fun _ => rfl⟩
    | false =>
      dsimp only at h
      cases hv : opts.checkViability with
      | false =>
        rw [hv] at h
        simp only [Bool.false_eq_true, if_false, Outcome.ok.injEq, Prod.mk.injEq] at h
        obtain ⟨rfl, rfl, rfl⟩ := h
        exact ⟨rfl, false, rfl, (fun h => by cases h), (fun _ => rfl)⟩
      | true =>
        rw [hv] at h
        simp only [if_true] at h
        osplit h
        simp only [Outcome.ok.injEq, Prod.mk.injEq] at h
        obtain ⟨rfl, rfl, rfl⟩ := h
        exact ⟨rfl, false, rfl, (fun h => by cases h), (fun h => by cases h)⟩
  | panic => rw [hex] at h; simp at h
  | outOfFuel => rw [hex] at h; simp at h

theorem scTail_cases {nb : Nbrs} {cb fl : Sl Nat} {opts : Options} {j : Nat} {op : OP} {sc : Scratch}
    {r : Bool} {op' : OP} {sc' : Scratch} (h : scTail nb cb fl opts j op sc = .ok (r, op', sc')) :
    sc' = sc ∧
    ((j ≠ op.spl ∧ op' = op ∧ (opts.checkViability = false → r = false)) ∨
     (j = op.spl ∧ ∃ w, expandValue nb cb fl op = .ok (w, op') ∧ (w = true → r = true) ∧
       (opts.checkViability = false → r = w))) := by
  obtain ⟨e, w, hex, h1, h2⟩ := scTail_ok h
  refine ⟨e, ?_⟩
  by_cases hj : j = op.spl
  · rw [if_pos hj] at hex
    exact Or.inr ⟨hj, w, hex, h1, h2⟩
  · rw [if_neg hj] at hex
    simp only [Outcome.ok.injEq, Prod.mk.injEq] at hex
    obtain ⟨rfl, rfl⟩ := hex
    exact Or.inl ⟨hj, rfl, h2⟩


theorem scTail_eval {nb : Nbrs} {cb fl : Sl Nat} {opts : Options} {j : Nat} {op op' : OP} (sc : Scratch)
    (hv : opts.checkViability = false)
    (hex : (if j = op.spl then expandValue nb cb fl op else .ok (false, op)) = .ok (false, op')) :
    scTail nb cb fl opts j op sc = .ok (false, op', sc) := by
  unfold scTail
  simp only [hex, hv, Bool.false_eq_true, if_false]

theorem scTail_eval_true {nb : Nbrs} {cb fl : Sl Nat} {opts : Options} {j : Nat} {op op' : OP} (sc : Scratch)
    (hex : (if j = op.spl then expandValue nb cb fl op else .ok (false, op)) = .ok (true, op')) :
    scTail nb cb fl opts j op sc = .ok (true, op', sc) := by
  unfold scTail
  simp only [hex]

theorem scUpd2_eval {nb : Nbrs} {cb fl : Sl Nat} {opts : Options} {j : Nat} {op : OP} {sc : Scratch}
    {dws : Sl KV} {order nbs : Sl Nat} {nbsIndex : Nat} {btc : Sl Int} {bd : Sl Nat}
    {ag1 ag2 ag3 : Sl Int} {sp1 sp2 : Sl Nat} {btc2 : Sl Int} {op2 : OP}
    (h1 : op.binAges.reslice (op.binAges.len + nbs.len) = .ok ag1)
    (h2 : ag1.copySelf (j + nbs.len) j ag1.len = .ok ag2)
    (h3 : forRange (fun i (a : Sl Int) => a.set (j + i) op.age) nbs.len 0 ag2 = .ok ag3)
    (h4 : sc.space.reslice (nbsIndex + 1) = .ok sp1)
    (h5 : forRange (fun k (s : Sl Nat) => s.set (k - j) k) (nbsIndex + 1) j sp1 = .ok sp2)
    (h6 : unionSl btc (sp2.toList.map Int.ofNat) = .ok btc2)
    (h7 : recomputeInCell { op with order := order, binsToCheck := btc2, binDividers := bd, binAges := ag3 } = .ok op2) :
    scUpd2 nb cb fl opts j op sc dws order nbs nbsIndex btc bd =
      scTail nb cb fl opts j op2 { sc with dws := dws, nbs := nbs, space := sp2 } := by
  unfold scUpd2
  simp only [h1, h2, h3, h4, h5, h6, h7]

theorem scUpd1_eval {nb : Nbrs} {cb fl : Sl Nat} {opts : Options} {j : Nat} {op : OP} {sc : Scratch}
    {dws : Sl KV} {order nbs : Sl Nat} {nbsIndex : Nat} {nbs3 : Sl Nat} {btc : Sl Int} {bd1 bd2 bd3 : Sl Nat}
    (h1 : nbs.reslice nbsIndex = .ok nbs3)
    (h2 : shiftBtc j nbsIndex op.binsToCheck.len op.binsToCheck = .ok btc)
    (h3 : op.binDividers.reslice (op.binDividers.len + nbs3.len) = .ok bd1)
    (h4 : bd1.copySelf (j + nbs3.len) j bd1.len = .ok bd2)
    (h5 : bd2.copyAt j nbs3.toList = .ok bd3) :
    scUpd1 nb cb fl opts j op sc dws order nbs nbsIndex =
      scUpd2 nb cb fl opts j op sc dws order nbs3 nbsIndex btc bd3 := by
  unfold scUpd1
  simp only [h1, h2, h3, h4, h5]

theorem scWrite_eval {nb : Nbrs} {n : Nat} {cb fl : Sl Nat} {opts : Options} {j : Nat} {op : OP} {sc : Scratch}
    {binStart binSize : Nat} {dws : Sl KV} {nbs0 : Sl Nat} {kv0 : KV} {order1 order2 nbs2 : Sl Nat} {idx : Nat}
    (h1 : sc.nbs.reslice n = .ok nbs0) (h2 : dws.get 0 = .ok kv0) (h3 : op.order.set binStart kv0.2 = .ok order1)
    (h4 : forRange (writeBackStep dws binStart) (binSize - 1) 1 (order1, nbs0, 0) = .ok (order2, nbs2, idx)) :
    scWrite nb n cb fl opts j op sc binStart binSize dws = scUpd1 nb cb fl opts j op sc dws order2 nbs2 idx := by
  unfold scWrite
  simp only [h1, h2, h3, h4]

theorem scFill_eval {nb : Nbrs} {n : Nat} {cb fl : Sl Nat} {opts : Options} {j : Nat} {op : OP} {sc : Scratch}
    {binStart binSize mc nm : Nat} {dws0 dws : Sl KV}
    (hf : (mc = 1 ∧ ∃ z o, forRange (fillOnesStep op.order sc.timesSeen binStart) binSize 0
            (dws0, 0, if nm ≤ binSize then some (binSize - nm) else none) = .ok (dws, z, o)) ∨
          (mc ≠ 1 ∧ ∃ dws1, forRange (fillStep op.order sc.timesSeen binStart) binSize 0 dws0 = .ok dws1 ∧
            stable dws1 dws1.len = .ok dws)) :
    scFill nb n cb fl opts j op sc binStart binSize mc nm dws0 =
      scWrite nb n cb fl opts j op sc binStart binSize dws := by
  unfold scFill
  rcases hf with ⟨h1, z, o, h2⟩ | ⟨h1, dws1, h2, h3⟩
  · simp only [if_pos h1, h2]
  · simp only [if_neg h1, h2, h3]

theorem scHead_eval {nb : Nbrs} {n : Nat} {cb fl : Sl Nat} {opts : Options} {j : Nat} {op : OP} {sc : Scratch}
    {bs dj mc nm : Nat} {dws0 : Sl KV}
    (hbs : (0 :: op.binDividers.toList)[j]? = some bs) (hdj : op.binDividers.get j = .ok dj)
    (hmc : sc.maxCell.get j = .ok mc) (hnm : sc.numberOfMax.get j = .ok nm) (hle : bs ≤ dj)
    (hd : sc.dws.reslice (dj - bs) = .ok dws0) :
    scHead nb n cb fl opts j op sc =
      if dj = bs + 1 ∨ mc = 0 ∨ nm = dj - bs then .ok (false, op, sc)
      else scFill nb n cb fl opts j op sc bs (dj - bs) mc nm dws0 := by
  unfold scHead
  simp only [binStart_iff.2 hbs, hdj, hmc, hnm, hd]
  by_cases h1 : dj = bs + 1
  · simp [h1]
  · by_cases h2 : mc = 0
    · simp [h1, h2]
    · by_cases h3 : nm = dj - bs
      · simp [h1, h2, h3, hle]
      · have : ¬ (dj < bs) := by omega
        simp [h1, h2, h3, this]


theorem fill_stage (hst : StablePerm) {n : Nat} {op : OP} {sc : Scratch} {j bs dj mc nm : Nat} {dws0 dws : Sl KV}
    (hp : PartInv n op) (hcc : CellCount op sc.timesSeen sc.maxCell sc.numberOfMax j)
    (hbs : (0 :: op.binDividers.toList)[j]? = some bs) (hdj : op.binDividers.toList[j]? = some dj)
    (hmc : sc.maxCell.get j = .ok mc) (hnm : sc.numberOfMax.get j = .ok nm)
    (hd0 : sc.dws.reslice (dj - bs) = .ok dws0)
    (hf : (mc = 1 ∧ ∃ z o, forRange (fillOnesStep op.order sc.timesSeen bs) (dj - bs) 0
            (dws0, 0, if nm ≤ dj - bs then some (dj - bs - nm) else none) = .ok (dws, z, o)) ∨
          (mc ≠ 1 ∧ ∃ dws1, forRange (fillStep op.order sc.timesSeen bs) (dj - bs) 0 dws0 = .ok dws1 ∧
            stable dws1 dws1.len = .ok dws)) :
    dws.len = dj - bs ∧ dws.data.size = sc.dws.data.size ∧ dws.WF ∧
      dws.toList = (rfKeys dws).map (fun v => (rfTv sc.timesSeen v, v)) ∧
      StableSortBy (rfTv sc.timesSeen) (rfSeg op.order.toList bs dj) (rfKeys dws) := by
  obtain ⟨hlt, hdn, holen⟩ := hp.bin_bounds hbs hdj
  obtain ⟨e1, e2, w0⟩ := Sl.reslice_len hd0
  have hsum : bs + (dj - bs) = dj := by omega
  have key : dws.len = dj - bs ∧ dws.data.size = dws0.data.size ∧
      dws.toList = (rfKeys dws).map (fun v => (rfTv sc.timesSeen v, v)) ∧
      StableSortBy (rfTv sc.timesSeen) (rfSeg op.order.toList bs dj) (rfKeys dws) := by
    rcases hf with ⟨hmc1, z, o, hfo⟩ | ⟨_, dws1, hf1, hstb⟩
    · subst hmc1
      obtain ⟨c1, c2, _⟩ := hcc bs dj hbs hdj
      rw [rfDv_of_get hmc] at c1 c2
      rw [rfDv_of_get hnm] at c2
      have hle : ∀ v ∈ rfSeg op.order.toList bs dj, rfTv sc.timesSeen v ≤ 1 := by
        intro v hv
        obtain ⟨p, h1, h2, h3⟩ := mem_rfSeg.1 hv
        exact c1 p v h1 h2 h3
      obtain ⟨k1, k2, k3⟩ := (fillOnes_run (order := op.order) (ts := sc.timesSeen) (bs := bs) (B := dj - bs) (nm := nm)
        e1 w0 (by rw [hsum, holen]; exact hdn) (by rw [hsum]; exact hle) (by rw [hsum]; exact c2 (by omega))).1 _ _ _ hfo
      rw [hsum] at k3
      have hk : rfKeys dws = _ := (congrArg (List.map Prod.snd) k3).trans (map_snd_map_pair _ _)
      exact ⟨k1, k2, by rw [hk]; exact k3, by rw [hk]; exact StableSortBy.two hle⟩
    · obtain ⟨f1, f2, f3⟩ := fill_spec e1 hf1
      rw [hsum] at f3
      obtain ⟨g1, g2, g3⟩ := hst _ _ _ hstb
      have hw1 : dws1.WF := w0.of_eq (f1.trans e1.symm) f2
      rw [f3] at g3
      obtain ⟨q1, q2⟩ := StableSortBy.of_pairs g3 (stable_sorted hw1 hstb)
        (fun c => by rw [← f3]; exact stable_stable hw1 hstb c)
      exact ⟨g1.trans f1, g2.trans f2, q1, q2⟩
  obtain ⟨k1, k2, k3, k4⟩ := key
  exact ⟨k1, by rw [k2, e2], w0.of_eq (k1.trans e1.symm) k2, k3, k4⟩


theorem length_rfKeys {d : Sl KV} (hw : d.WF) : (rfKeys d).length = d.len := by
  unfold rfKeys; rw [List.length_map, Sl.length_toList _ hw]

theorem write_stage {n : Nat} {op : OP} {sc : Scratch} {bs dj : Nat} {dws : Sl KV} {T : Nat → Nat}
    {nbs0 order1 order2 nbs2 nbs3 : Sl Nat} {kv0 : KV} {idx : Nat}
    (hwo : op.order.WF) (hlo : op.order.len = n) (hlt : bs < dj) (hdn : dj ≤ n)
    (hdl : dws.len = dj - bs) (hdw : dws.WF) (hdt : dws.toList = (rfKeys dws).map (fun v => (T v, v)))
    (h1 : sc.nbs.reslice n = .ok nbs0) (h2 : dws.get 0 = .ok kv0) (h3 : op.order.set bs kv0.2 = .ok order1)
    (h4 : forRange (writeBackStep dws bs) (dj - bs - 1) 1 (order1, nbs0, 0) = .ok (order2, nbs2, idx))
    (h5 : nbs2.reslice idx = .ok nbs3) :
    order2.WF ∧ order2.len = n ∧ order2.data.size = op.order.data.size ∧
    order2.toList = op.order.toList.take bs ++ rfKeys dws ++ op.order.toList.drop dj ∧
    nbs3.WF ∧ nbs3.data.size = sc.nbs.data.size ∧ nbs3.toList = newDivs T bs (rfKeys dws) := by
  obtain ⟨a1, a2, a3⟩ := Sl.reslice_len h1
  obtain ⟨c1, c2, c3⟩ := Sl.reslice_len h5
  have hDl : dws.toList.length = dj - bs := by rw [Sl.length_toList _ hdw, hdl]
  have hsum : bs + (dj - bs) = dj := Nat.add_sub_cancel' (Nat.le_of_lt hlt)
  have hP : (op.order.toList.take bs).length = bs := by
    rw [List.length_take, Sl.length_toList _ hwo, hlo]; exact Nat.min_eq_left (Nat.le_of_lt (Nat.lt_of_lt_of_le hlt hdn))
  have hfin := forRange_inv (writeBackStep dws bs)
    (fun k st => WBInv dws.toList (op.order.toList.take bs) (op.order.toList.drop (bs + (dj - bs))) bs n op.order.len
      op.order.data.size nbs0.data.size k st)
    (dj - bs - 1) 1 (order1, nbs0, 0) (order2, nbs2, idx)
    (WBInv.init hwo a3 hDl a1 (by rw [hsum, hlo]; exact hdn) h2 h3)
    (fun k st st' hk _ hI hf =>
      (writeBackStep_inv hP (hDl ▸ (Nat.sub_le _ _).trans hdn) hwo (a1 ▸ a3) k hk st hI).1 st' hf) h4
  rw [Nat.add_sub_cancel' (Nat.sub_pos_of_lt hlt), hsum] at hfin
  obtain ⟨b1, b2, b3, b4, ⟨G, eO, hG⟩, ⟨G', eN, _⟩, eix⟩ := hfin
  dsimp only at b1 b2 b3 b4 eO eN eix
  -- at the end no key is to come: the room in `order` is empty
  rw [List.drop_of_length_le (Nat.le_of_eq hDl), List.length_nil, List.length_eq_zero_iff] at hG
  rw [List.take_of_length_le (Nat.le_of_eq hDl), hG, List.nil_append] at eO
  refine ⟨(b1.trans_le hwo).trans_eq b2.symm, b1.trans hlo, b2, eO, c3, by rw [c2, b4, a2], ?_⟩
  have hwn2 : nbs2.WF := (b3.trans_le (a1 ▸ a3)).trans_eq b4.symm
  have hidx : idx ≤ nbs2.len := by
    rw [← Sl.length_toList nbs2 hwn2, eN, eix, List.length_append]; exact Nat.le_add_right _ _
  rw [Sl.toList_reslice h5 hidx, eN, eix, List.take_left' rfl, ← (length_rfKeys hdw).trans hdl]
  exact divsUpTo_of_pairs hdt bs

theorem bin_nonconst {n : Nat} {op : OP} {sc : Scratch} {j bs dj mc nm : Nat}
    (hp : PartInv n op) (hcc : CellCount op sc.timesSeen sc.maxCell sc.numberOfMax j)
    (hbs : (0 :: op.binDividers.toList)[j]? = some bs) (hdj : op.binDividers.toList[j]? = some dj)
    (hmc : sc.maxCell.get j = .ok mc) (hnm : sc.numberOfMax.get j = .ok nm)
    (hmc0 : mc ≠ 0) (hnmB : nm ≠ dj - bs) :
    ∃ a ∈ rfSeg op.order.toList bs dj, ∃ b ∈ rfSeg op.order.toList bs dj,
      rfTv sc.timesSeen a ≠ rfTv sc.timesSeen b := by
  obtain ⟨hlt, hdn, holen⟩ := hp.bin_bounds hbs hdj
  obtain ⟨_, c2, c3⟩ := hcc bs dj hbs hdj
  rw [rfDv_of_get hmc] at c2 c3
  rw [rfDv_of_get hnm] at c2 c3
  have hnm1 : 0 < nm := c3 (by omega)
  have h2 := c2 (by omega)
  have hseglen : (rfSeg op.order.toList bs dj).length = dj - bs := length_rfSeg _ _ _ (by omega) (by omega)
  -- the maximum is attained (`nm > 0`), but not everywhere (`nm ≠ binSize`)
  obtain ⟨v, hv, hvm⟩ : ∃ v ∈ rfSeg op.order.toList bs dj, rfTv sc.timesSeen v = mc := by
    obtain ⟨a, ha, hpa⟩ := List.countP_pos_iff.1 (h2 ▸ hnm1)
    exact ⟨a, ha, by simpa using hpa⟩
  refine ⟨v, hv, ?_⟩
  apply Classical.byContradiction
  intro hno
  have : (rfSeg op.order.toList bs dj).countP (fun v => decide (rfTv sc.timesSeen v = mc)) =
      (rfSeg op.order.toList bs dj).length := by
    rw [List.countP_eq_length]
    intro a ha
    have : rfTv sc.timesSeen a = mc :=
      Classical.byContradiction (fun hne => hno ⟨a, ha, fun e => hne (e ▸ hvm)⟩)
    simpa using this
  omega

/-- what one effective `splitCell j` does to the partition (`op2` = the state after the `inCell` update) -/
structure SplitRel (n j bs dj : Nat) (K nbsL : List Nat) (op op2 : OP) : Prop where
  hbs : (0 :: op.binDividers.toList)[j]? = some bs
  hdj : op.binDividers.toList[j]? = some dj
  ne1 : dj ≠ bs + 1
  order : op2.order.toList = op.order.toList.take bs ++ K ++ op.order.toList.drop dj
  kperm : K.Perm (rfSeg op.order.toList bs dj)
  bd : op2.binDividers.toList = op.binDividers.toList.take j ++ nbsL ++ op.binDividers.toList.drop j
  nsorted : nbsL.Pairwise (· < ·)
  nrange : ∀ x ∈ nbsL, bs < x ∧ x < dj
  ages : op2.binAges.toList =
    op.binAges.toList.take j ++ List.replicate nbsL.length op.age ++ op.binAges.toList.drop j
  age : op2.age = op.age
  value : op2.value = op.value
  spl : op2.spl = op.spl
  inv : PartInv n op2
  szOrder : op2.order.data.size = op.order.data.size
  szInCell : op2.inCell.data.size = op.inCell.data.size
  szBd : op2.binDividers.data.size = op.binDividers.data.size
  szAges : op2.binAges.data.size = op.binAges.data.size

/-- the scratch after one `splitCell`: the counters are untouched, the work slices keep their capacity -/
def ScrRel (sc sc2 : Scratch) : Prop :=
  sc2.timesSeen = sc.timesSeen ∧ sc2.maxCell = sc.maxCell ∧ sc2.numberOfMax = sc.numberOfMax ∧
  sc2.dws.data.size = sc.dws.data.size ∧ sc2.nbs.data.size = sc.nbs.data.size ∧
  sc2.space.data.size = sc.space.data.size

theorem ScrRel.refl (sc : Scratch) : ScrRel sc sc := ⟨rfl, rfl, rfl, rfl, rfl, rfl⟩

theorem ScrRel.trans {a b c : Scratch} (h1 : ScrRel a b) (h2 : ScrRel b c) : ScrRel a c := by
  obtain ⟨a1, a2, a3, a4, a5, a6⟩ := h1
  obtain ⟨b1, b2, b3, b4, b5, b6⟩ := h2
  exact ⟨b1.trans a1, b2.trans a2, b3.trans a3, b4.trans a4, b5.trans a5, b6.trans a6⟩

theorem forRange_set_size {α : Type} (f : Nat → Nat) (g : Nat → α) (k lo : Nat) (s s' : Sl α)
    (h : forRange (fun i (x : Sl α) => x.set (f i) (g i)) k lo s = .ok s') : s'.data.size = s.data.size :=
  forRange_inv (fun i (x : Sl α) => x.set (f i) (g i)) (fun _ (x : Sl α) => x.data.size = s.data.size)
    k lo s s' rfl (fun i x x' _ _ hx hf => by rw [Sl.set_cap hf]; exact hx) h

theorem upd_core {n j bs dj : Nat} {op : OP} {dws : Sl KV} {order2 nbs3 : Sl Nat} {bd1 bd2 bd3 : Sl Nat}
    {ag1 ag2 ag3 : Sl Int} (btcX : Sl Int)
    (hp : PartInv n op)
    (hbs : (0 :: op.binDividers.toList)[j]? = some bs) (hdj : op.binDividers.toList[j]? = some dj)
    (hne : dj ≠ bs + 1)
    (ho : order2.WF ∧ order2.len = n ∧ order2.data.size = op.order.data.size ∧
      order2.toList = op.order.toList.take bs ++ rfKeys dws ++ op.order.toList.drop dj)
    (hK : (rfKeys dws).Perm (rfSeg op.order.toList bs dj))
    (hn : nbs3.WF ∧ nbs3.toList.Pairwise (· < ·) ∧ ∀ x ∈ nbs3.toList, bs < x ∧ x < dj)
    (hb1 : op.binDividers.reslice (op.binDividers.len + nbs3.len) = .ok bd1)
    (hb2 : bd1.copySelf (j + nbs3.len) j bd1.len = .ok bd2)
    (hb3 : bd2.copyAt j nbs3.toList = .ok bd3)
    (ha1 : op.binAges.reslice (op.binAges.len + nbs3.len) = .ok ag1)
    (ha2 : ag1.copySelf (j + nbs3.len) j ag1.len = .ok ag2)
    (ha3 : forRange (fun i (a : Sl Int) => a.set (j + i) op.age) nbs3.len 0 ag2 = .ok ag3) :
    ∃ ic, recomputeInCell { op with order := order2, binsToCheck := btcX, binDividers := bd3, binAges := ag3 } =
        .ok { op with order := order2, binsToCheck := btcX, binDividers := bd3, binAges := ag3, inCell := ic } ∧
      SplitRel n j bs dj (rfKeys dws) nbs3.toList op
        { op with order := order2, binsToCheck := btcX, binDividers := bd3, binAges := ag3, inCell := ic } := by
  obtain ⟨o1, o2, o3, o4⟩ := ho
  obtain ⟨n1, n2, n3⟩ := hn
  have hlt : bs < dj := rf_sorted_start_lt hp.sorted hbs hdj
  have hjl : j < op.binDividers.toList.length := (List.getElem?_eq_some_iff.1 hdj).1
  have hbl : op.binDividers.toList.length = op.binDividers.len := hp.length_bd
  have hal : op.binAges.toList.length = op.binAges.len := Sl.length_toList _ hp.wfAges
  have hnl : nbs3.toList.length = nbs3.len := Sl.length_toList _ n1
  rw [← hnl] at hb1 hb2
  obtain ⟨b1, b2, b3, b4⟩ := insertBlock_copy_spec hp.wfBd (by omega) hb1 hb2 hb3
  obtain ⟨a1, a2, a3, a4⟩ := insertBlock_fill_spec hp.wfAges (by rw [hp.lenAges]; omega) ha1 ha2 ha3
  have hsorted := sorted_insert hp.sorted hbs hdj n2 n3
  have hlast : (op.binDividers.toList.take j ++ nbs3.toList ++ op.binDividers.toList.drop j).getLast? = some n := by
    rw [getLast?_insert hjl]; exact hp.last
  have hperm : order2.toList.Perm (List.range n) := by
    rw [o4]; exact (perm_splice (Nat.le_of_lt hlt) hK).trans hp.perm
  obtain ⟨ic, hic, i1, i2, i3, i4⟩ := recomputeInCell_spec
    (op := { op with order := order2, binsToCheck := btcX, binDividers := bd3, binAges := ag3 })
    o1 b3 hp.wfInCell o2 hp.lenInCell hperm (by rw [b4]; exact hsorted) (by rw [b4]; exact hlast)
  refine ⟨ic, hic, ?_⟩
  exact
    { hbs := hbs, hdj := hdj, ne1 := hne, order := o4, kperm := hK, bd := b4, nsorted := n2, nrange := n3,
      ages := by rw [hnl]; exact a4, age := rfl, value := rfl, spl := rfl,
      inv :=
        { wfOrder := o1, wfBd := b3, wfAges := a3, wfInCell := i1, lenOrder := o2, lenInCell := i2,
          lenAges := by show ag3.len = bd3.len; rw [a1, b1, hp.lenAges, hnl],
          perm := hperm, sorted := by show (0 :: bd3.toList).Pairwise _; rw [b4]; exact hsorted,
          last := by show bd3.toList.getLast? = _; rw [b4]; exact hlast, inCell := i4 },
      szOrder := o3, szInCell := i3, szBd := b2, szAges := a2 }

theorem shiftBtc_cap (j m : Nat) : ∀ (k : Nat) (b b' : Sl Int), shiftBtc j m k b = .ok b' →
    b'.data.size = b.data.size := by
  intro k
  induction k with
  | zero => intro b b' h; simp [shiftBtc] at h; subst h; rfl
  | succ k ih =>
    intro b b' h
    rw [shiftBtc] at h
    osplit h
    · cases h; rfl
    · rename_i b1 hb1
      rw [ih _ _ h, Sl.set_cap hb1]
    · rename_i hno
      exact absurd h (hno _)

theorem btc_stage {j idx : Nat} {btc btc1 btc2 : Sl Int} {space sp1 sp2 : Sl Nat}
    (hw : btc.WF) (hsorted : btc.toList.Pairwise (· < ·))
    (h1 : shiftBtc j idx btc.len btc = .ok btc1) (h2 : space.reslice (idx + 1) = .ok sp1)
    (h3 : forRange (fun k (s : Sl Nat) => s.set (k - j) k) (idx + 1) j sp1 = .ok sp2)
    (h4 : unionSl btc1 (sp2.toList.map Int.ofNat) = .ok btc2) :
    btc2.WF ∧
    btc2.toList = SortInts.union (btc.toList.map (btcShiftF j idx)) ((List.range' j (idx + 1)).map Int.ofNat) ∧
    ((SortInts.union (btc.toList.map (btcShiftF j idx)) ((List.range' j (idx + 1)).map Int.ofNat)).length ≤
      btc.data.size → btc2.data.size = btc.data.size) := by
  obtain ⟨b', hb1, _, _, hb4, hb5⟩ := shiftBtc_full j idx btc hw hsorted
  rw [h1] at hb1
  obtain rfl := Outcome.ok.inj hb1
  obtain ⟨sp2', hp1, _, hp3⟩ := spaceLoop_spec j idx sp1 (Sl.reslice_len h2).2.2 (Sl.reslice_len h2).1
  rw [h3] at hp1
  obtain rfl := Outcome.ok.inj hp1
  obtain ⟨s', hu1, hu2, hu3, hu4⟩ := unionSl_spec btc1 (sp2.toList.map Int.ofNat)
    (by rw [hb5]; exact hsorted.map _ (fun a b h => btcShiftF_lt h))
    (by rw [hp3]; exact (List.pairwise_lt_range' (s := j) (n := idx + 1)).map _ (fun a b h => by simpa using h))
  rw [h4] at hu1
  obtain rfl := Outcome.ok.inj hu1
  rw [hb5, hp3] at hu3 hu4
  rw [hb4] at hu4
  exact ⟨hu2, hu3, hu4⟩

/-- what one effective `splitCell j` does beyond `SplitRel`: the bin is stably sorted by the counts, a new divider sits
wherever the count changes, the bin was not constant, and the new work list (given that the old one was ascending) -/
structure SplitX (ts : Sl Nat) (j bs dj : Nat) (K nbsL : List Nat) (op op2 : OP) : Prop where
  ksort : StableSortBy (rfTv ts) (rfSeg op.order.toList bs dj) K
  divs : nbsL = newDivs (rfTv ts) bs K
  nonconst : ∃ a ∈ K, ∃ b ∈ K, rfTv ts a ≠ rfTv ts b
  btc : op.binsToCheck.WF → op.binsToCheck.toList.Pairwise (· < ·) →
    op2.binsToCheck.WF ∧
    op2.binsToCheck.toList = SortInts.union (op.binsToCheck.toList.map (btcShiftF j nbsL.length))
      ((List.range' j (nbsL.length + 1)).map Int.ofNat) ∧
    ((SortInts.union (op.binsToCheck.toList.map (btcShiftF j nbsL.length))
      ((List.range' j (nbsL.length + 1)).map Int.ofNat)).length ≤ op.binsToCheck.data.size →
        op2.binsToCheck.data.size = op.binsToCheck.data.size)
  btcSz : op.binsToCheck.data.size ≤ op2.binsToCheck.data.size

theorem splitCell_split (hst : StablePerm) {nb : Nbrs} {n : Nat} {cb fl : Sl Nat} {opts : Options} {j : Nat}
    {op op' : OP} {sc sc' : Scratch} {r : Bool}
    (hp : PartInv n op) (hcc : CellCount op sc.timesSeen sc.maxCell sc.numberOfMax j)
    (h : splitCell nb n cb fl opts j (false, op, sc) = .ok (r, op', sc')) :
    ∃ bs dj, (0 :: op.binDividers.toList)[j]? = some bs ∧ op.binDividers.toList[j]? = some dj ∧
    ((SkipReason sc j bs dj ∧ r = false ∧ op' = op ∧ sc' = sc) ∨
     ∃ K nbsL op2 sc2, SplitRel n j bs dj K nbsL op op2 ∧ SplitX sc.timesSeen j bs dj K nbsL op op2 ∧ ScrRel sc sc2 ∧
      scTail nb cb fl opts j op2 sc2 = .ok (r, op', sc')) := by
  rw [splitCell_false] at h
  obtain ⟨bs, dj, hbs, hdj, hcase⟩ := scHead_ok h
  refine ⟨bs, dj, hbs, hdj, ?_⟩
  rcases hcase with ⟨hR, hskip⟩ | ⟨mc, nm, dws0, hne, hle, hmc, hmc0, hnm, hnmB, hd0, h⟩
  · simp only [Prod.mk.injEq] at hR
    exact Or.inl ⟨hskip, hR⟩
  · right
    obtain ⟨dws, hf, h⟩ := scFill_ok h
    obtain ⟨f1, f2, f3, f4, f5⟩ := fill_stage hst hp hcc hbs hdj hmc hnm hd0 hf
    obtain ⟨nbs0, kv0, order1, order2, nbs2, idx, w1, w2, w3, w4, h⟩ := scWrite_ok h
    obtain ⟨nbs3, btc1, bd1, bd2, bd3, u1, u2, u3, u4, u5, h⟩ := scUpd1_ok h
    obtain ⟨hlt, hdn, _⟩ := hp.bin_bounds hbs hdj
    obtain ⟨o1, o2, o3, o4, n1, n2, n3⟩ := write_stage hp.wfOrder hp.lenOrder hlt hdn f1 f3 f4 w1 w2 w3 w4 u1
    obtain ⟨ag1, ag2, ag3, sp1, sp2, btc2, op2, ha1, ha2, ha3, hs1, hs2, hun, hrec, h⟩ := scUpd2_ok h
    have hKl : (rfKeys dws).length = dj - bs := by rw [length_rfKeys f3, f1]
    obtain ⟨ic, hic, hrel⟩ := upd_core btc2 hp hbs hdj hne ⟨o1, o2, o3, o4⟩ f5.perm
      ⟨n1, by rw [n3]; exact newDivs_sorted _ _ _,
        fun x hx => by rw [n3] at hx; have := newDivs_range hx; omega⟩ u3 u4 u5 ha1 ha2 ha3
    rw [hic] at hrec
    have hop2 := Outcome.ok.inj hrec
    subst hop2
    have hsz : sp2.data.size = sc.space.data.size := by
      rw [forRange_set_size (fun k => k - j) (fun k => k) _ _ _ _ hs2, (Sl.reslice_len hs1).2.1]
    have hnl : nbs3.toList.length = idx := by rw [Sl.length_toList _ n1, (Sl.reslice_len u1).1]
    refine ⟨rfKeys dws, nbs3.toList, _, { sc with dws := dws, nbs := nbs3, space := sp2 }, hrel, ⟨f5, n3, ?_, ?_, ?_⟩,
      ⟨rfl, rfl, rfl, f2, n2, hsz⟩, h⟩
    · obtain ⟨a, ha, b, hb, hab⟩ := bin_nonconst hp hcc hbs hdj hmc hnm hmc0 hnmB
      exact ⟨a, f5.perm.mem_iff.2 ha, b, f5.perm.mem_iff.2 hb, hab⟩
    · intro hw hsorted
      rw [hnl]
      exact btc_stage hw hsorted u2 hs1 hs2 hun
    · show op.binsToCheck.data.size ≤ btc2.data.size
      rw [← shiftBtc_cap _ _ _ _ _ u2]; exact unionSl_size_mono hun


theorem SplitRel.lens {n j bs dj : Nat} {K nbsL : List Nat} {op op2 : OP} (h : SplitRel n j bs dj K nbsL op op2)
    (hp : PartInv n op) :
    j < op.binDividers.toList.length ∧ op.binDividers.toList.length = op.binAges.toList.length := by
  refine ⟨(List.getElem?_eq_some_iff.1 h.hdj).1, ?_⟩
  rw [hp.length_bd, hp.length_ages]

theorem SplitRel.bounds {n j bs dj : Nat} {K nbsL : List Nat} {op op2 : OP} (h : SplitRel n j bs dj K nbsL op op2)
    (hp : PartInv n op) : bs < dj ∧ dj ≤ n ∧ op.order.toList.length = n ∧ K.length = dj - bs := by
  obtain ⟨hlt, hdn, holen⟩ := hp.bin_bounds h.hbs h.hdj
  exact ⟨hlt, hdn, holen, by rw [h.kperm.length_eq, length_rfSeg _ _ _ (Nat.le_of_lt hlt) (holen ▸ hdn)]⟩

theorem SplitRel.order_lt {n j bs dj : Nat} {K nbsL : List Nat} {op op2 : OP}
    (h : SplitRel n j bs dj K nbsL op op2) (hp : PartInv n op) {p : Nat} (hpb : p < bs) :
    op2.order.toList[p]? = op.order.toList[p]? := by
  obtain ⟨hlt, hdn, holen, _⟩ := h.bounds hp
  rw [h.order, List.append_assoc, List.getElem?_append_left (by rw [List.length_take]; omega),
    List.getElem?_take, if_pos hpb]

theorem SplitRel.order_in {n j bs dj : Nat} {K nbsL : List Nat} {op op2 : OP}
    (h : SplitRel n j bs dj K nbsL op op2) (hp : PartInv n op) {p : Nat} (h1 : bs ≤ p) (h2 : p < dj) :
    op2.order.toList[p]? = K[p - bs]? := by
  obtain ⟨hlt, hdn, holen, hKl⟩ := h.bounds hp
  have htk : (op.order.toList.take bs).length = bs := by rw [List.length_take]; omega
  rw [h.order, List.append_assoc, List.getElem?_append_right (by omega), htk,
    List.getElem?_append_left (by omega)]

theorem SplitRel.order_ge {n j bs dj : Nat} {K nbsL : List Nat} {op op2 : OP}
    (h : SplitRel n j bs dj K nbsL op op2) (hp : PartInv n op) {p : Nat} (h2 : dj ≤ p) :
    op2.order.toList[p]? = op.order.toList[p]? := by
  obtain ⟨hlt, hdn, holen, hKl⟩ := h.bounds hp
  have htk : (op.order.toList.take bs).length = bs := by rw [List.length_take]; omega
  rw [h.order, List.getElem?_append_right (by rw [List.length_append]; omega), List.length_append, htk, hKl,
    List.getElem?_drop, show dj + (p - (bs + (dj - bs))) = p by omega]

theorem SplitRel.ageInv {n j bs dj : Nat} {K nbsL : List Nat} {op op2 : OP} (h : SplitRel n j bs dj K nbsL op op2)
    (hp : PartInv n op) (ha : AgeInv op) : AgeInv op2 := by
  obtain ⟨l1, l2⟩ := h.lens hp
  constructor
  · rw [h.ages, h.age]; exact le_insert_replicate ha.le
  · rw [h.ages, getLast?_insert (by omega)]; exact ha.last

theorem SplitRel.divs_filter {n j bs dj : Nat} {K nbsL : List Nat} {op op2 : OP}
    (h : SplitRel n j bs dj K nbsL op op2) (hp : PartInv n op) :
    (divs op2).filter (fun x => decide (x.2 < op.age)) = (divs op).filter (fun x => decide (x.2 < op.age)) := by
  obtain ⟨_, l2⟩ := h.lens hp
  unfold divs
  rw [h.bd, h.ages]
  exact filter_zip_insert _ l2 (List.length_replicate ..).symm (fun x hx => by
    rw [List.eq_of_mem_replicate (List.of_mem_zip hx).2]; simp)

theorem SplitRel.lowerSame {n j bs dj : Nat} {K nbsL : List Nat} {op op2 : OP}
    (h : SplitRel n j bs dj K nbsL op op2) (hp : PartInv n op) : LowerSame j op op2 := by
  obtain ⟨l1, _⟩ := h.lens hp
  intro j' d hj' hd
  have htk : (op.binDividers.toList.take j).length = j := by rw [List.length_take]; omega
  refine ⟨?_, ?_⟩
  · rw [h.bd, List.append_assoc, List.getElem?_append_left (by omega), List.getElem?_take, if_pos hj']; exact hd
  · have hd' : (0 :: op.binDividers.toList)[j' + 1]? = some d := by rw [List.getElem?_cons_succ]; exact hd
    obtain ⟨k1, e1⟩ := List.getElem?_eq_some_iff.1 hd'
    obtain ⟨k2, e2⟩ := List.getElem?_eq_some_iff.1 h.hbs
    have hle : d ≤ bs := by
      by_cases hjj : j' + 1 = j
      · subst hjj; exact Nat.le_of_eq (by rw [← e1, e2])
      · have := List.pairwise_iff_getElem.1 hp.sorted (j' + 1) j k1 k2 (by omega)
        rw [e1, e2] at this; omega
    intro p hpd
    exact h.order_lt hp (Nat.lt_of_lt_of_le hpd hle)

/-- the relation between the partition at the start of the refinement and a later state -/
def OpRel (n : Nat) (op op' : OP) : Prop :=
  PartInv n op' ∧ AgeInv op' ∧ op'.age = op.age ∧
  (divs op').filter (fun x => decide (x.2 < op.age)) = (divs op).filter (fun x => decide (x.2 < op.age)) ∧
  op'.order.data.size = op.order.data.size ∧ op'.inCell.data.size = op.inCell.data.size ∧
  op'.binDividers.data.size = op.binDividers.data.size ∧ op'.binAges.data.size = op.binAges.data.size

theorem OpRel.refl {n : Nat} {op : OP} (hp : PartInv n op) (ha : AgeInv op) : OpRel n op op :=
  ⟨hp, ha, rfl, rfl, rfl, rfl, rfl, rfl⟩

theorem OpRel.trans {n : Nat} {a b c : OP} (h1 : OpRel n a b) (h2 : OpRel n b c) : OpRel n a c := by
  obtain ⟨_, _, a3, a4, a5, a6, a7, a8⟩ := h1
  obtain ⟨b1, b2, b3, b4, b5, b6, b7, b8⟩ := h2
  rw [a3] at b4
  exact ⟨b1, b2, b3.trans a3, b4.trans a4, b5.trans a5, b6.trans a6, b7.trans a7, b8.trans a8⟩

theorem OpRel.of_frame {n : Nat} {a b c : OP} (h : OpRel n a b)
    (e1 : c.order = b.order) (e2 : c.binDividers = b.binDividers) (e3 : c.binAges = b.binAges)
    (e4 : c.inCell = b.inCell) (e5 : c.age = b.age) : OpRel n a c := by
  obtain ⟨a1, a2, a3, a4, a5, a6, a7, a8⟩ := h
  refine ⟨PartInv.of_frame a1 e1 e2 e3 e4, AgeInv.of_frame a2 e3 e5, e5.trans a3, ?_,
    by rw [e1]; exact a5, by rw [e4]; exact a6, by rw [e2]; exact a7, by rw [e3]; exact a8⟩
  have : divs c = divs b := divs_congr e2 e3
  rw [this]; exact a4

theorem SplitRel.opRel {n j bs dj : Nat} {K nbsL : List Nat} {op op2 : OP} (h : SplitRel n j bs dj K nbsL op op2)
    (hp : PartInv n op) (ha : AgeInv op) : OpRel n op op2 :=
  ⟨h.inv, h.ageInv hp ha, h.age, h.divs_filter hp, h.szOrder, h.szInCell, h.szBd, h.szAges⟩

theorem scTail_frame {nb : Nbrs} {cb fl : Sl Nat} {opts : Options} {j : Nat} {op : OP} {sc : Scratch}
    {r : Bool} {op' : OP} {sc' : Scratch} (h : scTail nb cb fl opts j op sc = .ok (r, op', sc')) :
    sc' = sc ∧ op'.order = op.order ∧ op'.binDividers = op.binDividers ∧ op'.binAges = op.binAges ∧
      op'.binsToCheck = op.binsToCheck ∧ op'.age = op.age ∧ op'.inCell = op.inCell := by
  obtain ⟨e, ⟨_, rfl, _⟩ | ⟨_, w, hex, _, _⟩⟩ := scTail_cases h
  · exact ⟨e, rfl, rfl, rfl, rfl, rfl, rfl⟩
  · exact ⟨e, expandValue_frame hex⟩

theorem splitCell_step (hst : StablePerm) {nb : Nbrs} {n : Nat} {cb fl : Sl Nat} {opts : Options} {j : Nat}
    {op op' : OP} {sc sc' : Scratch} {r : Bool}
    (hp : PartInv n op) (ha : AgeInv op) (hcc : CellCount op sc.timesSeen sc.maxCell sc.numberOfMax j)
    (h : splitCell nb n cb fl opts j (false, op, sc) = .ok (r, op', sc')) :
    OpRel n op op' ∧ ScrRel sc sc' ∧
      ∀ j', j' < j → CellCount op sc.timesSeen sc.maxCell sc.numberOfMax j' →
        CellCount op' sc.timesSeen sc.maxCell sc.numberOfMax j' := by
  obtain ⟨bs, dj, _, _, ⟨_, _, rfl, rfl⟩ | ⟨K, nbsL, op2, sc2, hrel, _, hscr, ht⟩⟩ := splitCell_split hst hp hcc h
  · exact ⟨OpRel.refl hp ha, ScrRel.refl _, fun _ _ hc => hc⟩
  · obtain ⟨e0, e1, e2, e3, _, e5, e6⟩ := scTail_frame ht
    subst e0
    refine ⟨(hrel.opRel hp ha).of_frame e1 e2 e3 e6 e5, hscr, ?_⟩
    intro j' hj' hc
    have hl := hrel.lowerSame hp
    have hl' : LowerSame j op op' := by
      intro a d h1 h2
      obtain ⟨g1, g2⟩ := hl a d h1 h2
      rw [e2, e1]; exact ⟨g1, g2⟩
    exact hc.transport hl' hj' (Nat.le_of_lt (hrel.lens hp).1)


theorem expandLoop_not_worse {nb : Nbrs} {cb fl : Sl Nat} (hcb : cb.len = 0) : ∀ (k j : Nat) (op : OP) (w : Bool) (op' : OP),
    expandLoop nb cb fl k j op = .ok (w, op') → w = false :=
  fun _ _ _ _ _ h => (expandLoop_run h).not_worse hcb

theorem splitCell_not_worse {nb : Nbrs} {n : Nat} {cb fl : Sl Nat} {opts : Options} {j : Nat} {op op' : OP}
    {sc sc' : Scratch} {r : Bool} (hcb : cb.len = 0) (hv : opts.checkViability = false)
    (h : splitCell nb n cb fl opts j (false, op, sc) = .ok (r, op', sc')) : r = false := by
  rw [splitCell_false] at h
  obtain ⟨_, _, _, _, ⟨h, _⟩ | ⟨mc, nm, dws0, _, _, _, _, _, _, _, h⟩⟩ := scHead_ok h
  · simp only [Prod.mk.injEq] at h; exact h.1
  · obtain ⟨dws, _, h⟩ := scFill_ok h
    obtain ⟨_, _, _, _, _, _, _, _, _, _, h⟩ := scWrite_ok h
    obtain ⟨_, _, _, _, _, _, _, _, _, _, h⟩ := scUpd1_ok h
    obtain ⟨_, _, _, _, _, _, _, _, _, _, _, _, _, _, h⟩ := scUpd2_ok h
    obtain ⟨_, ⟨_, _, hr⟩ | ⟨_, w, hex, _, hr⟩⟩ := scTail_cases h
    · exact hr hv
    · rw [hr hv]; exact expandLoop_not_worse hcb _ _ _ _ _ hex


theorem SplitRel.bd_lt {n j bs dj : Nat} {K nbsL : List Nat} {op op2 : OP}
    (h : SplitRel n j bs dj K nbsL op op2) (hp : PartInv n op) {k : Nat} (hk : k < j) :
    op2.binDividers.toList[k]? = op.binDividers.toList[k]? := by
  obtain ⟨l1, _⟩ := h.lens hp
  rw [h.bd, List.append_assoc, List.getElem?_append_left (by rw [List.length_take]; omega), List.getElem?_take,
    if_pos hk]

theorem SplitRel.spl_le {n j bs dj : Nat} {K nbsL : List Nat} {op op2 : OP}
    (h : SplitRel n j bs dj K nbsL op op2) (hp : PartInv n op) (hc : PrefixSingle op) : op.spl ≤ j ∧ j ≤ bs := by
  constructor
  · apply Nat.le_of_not_lt
    intro hj
    have h1 := hc.single j hj
    rw [h.hdj] at h1
    have hdj : dj = j + 1 := Option.some.inj h1
    have hbs : bs = j := by
      have h2 := h.hbs
      cases j with
      | zero => simpa using h2.symm
      | succ k =>
        rw [List.getElem?_cons_succ, hc.single k (by omega)] at h2
        exact (Option.some.inj h2).symm
    exact h.ne1 (by omega)
  · obtain ⟨k1, e1⟩ := List.getElem?_eq_some_iff.1 h.hbs
    have := sorted_getElem_ge (0 :: op.binDividers.toList) hp.sorted j k1
    rw [e1] at this
    simpa using this

theorem SplitRel.bdLen {n j bs dj : Nat} {K nbsL : List Nat} {op op2 : OP} (h : SplitRel n j bs dj K nbsL op op2)
    (hp : PartInv n op) : op2.binDividers.len = op.binDividers.len + nbsL.length := by
  have h1 : op2.binDividers.toList.length = op2.binDividers.len := h.inv.length_bd
  have h2 : op.binDividers.toList.length = op.binDividers.len := hp.length_bd
  have hj := (h.lens hp).1
  rw [h.bd] at h1
  simp only [List.length_append, List.length_take, List.length_drop] at h1
  omega

theorem SplitRel.prefixSingle {n j bs dj : Nat} {K nbsL : List Nat} {op op2 : OP}
    (h : SplitRel n j bs dj K nbsL op op2) (hp : PartInv n op) (hc : PrefixSingle op) : PrefixSingle op2 := by
  obtain ⟨s1, _⟩ := h.spl_le hp hc
  obtain ⟨l1, _⟩ := h.lens hp
  constructor
  · rw [h.spl, h.bdLen hp]; exact Nat.le_add_right_of_le hc.le
  · intro k hk
    rw [h.spl] at hk
    rw [h.bd_lt hp (by omega)]
    exact hc.single k hk

theorem SplitRel.noEarlierNbr {n j bs dj : Nat} {K nbsL : List Nat} {op op2 : OP} {nb : Nbrs}
    (h : SplitRel n j bs dj K nbsL op op2) (hp : PartInv n op) (hc : PrefixSingle op) (hno : NoEarlierNbr nb op) :
    NoEarlierNbr nb op2 := by
  obtain ⟨s1, s2⟩ := h.spl_le hp hc
  intro hv k u v q hk hu hvm hq
  rw [h.spl] at hk
  rw [h.value] at hv
  rw [h.order_lt hp (by omega)] at hu
  by_cases hqb : q < bs
  · rw [h.order_lt hp hqb] at hq
    exact hno hv k u v q hk hu hvm hq
  · omega

theorem splitCell_phase1 (hst : StablePerm) {nb : Nbrs} {n : Nat} {cb fl : Sl Nat} {opts : Options} {j : Nat}
    {op op' : OP} {sc sc' : Scratch} {r : Bool} (hcb : cb.len = 0)
    (hp : PartInv n op) (hcc : CellCount op sc.timesSeen sc.maxCell sc.numberOfMax j)
    (hc : CleanPrefix op) (hno : NoEarlierNbr nb op)
    (h : splitCell nb n cb fl opts j (false, op, sc) = .ok (r, op', sc')) :
    CleanPrefix op' ∧ NoEarlierNbr nb op' := by
  obtain ⟨bs, dj, _, _, ⟨_, _, rfl, rfl⟩ | ⟨K, nbsL, op2, sc2, hrel, _, _, ht⟩⟩ := splitCell_split hst hp hcc h
  · exact ⟨hc, hno⟩
  · have hps := hrel.prefixSingle hp hc.toPrefixSingle
    have hno2 := hrel.noEarlierNbr hp hc.toPrefixSingle hno
    obtain ⟨s1, _⟩ := hrel.spl_le hp hc.toPrefixSingle
    rcases (scTail_cases ht).2 with ⟨hj, rfl, _⟩ | ⟨_, w, hex, _, _⟩
    · refine ⟨⟨hps, ?_⟩, hno2⟩
      rw [hrel.spl] at hj ⊢
      rw [hrel.bd_lt hp (by omega)]
      exact hc.next
    · obtain ⟨_, _, g3, g4, _, _⟩ := expandValue_phase1 hcb hrel.inv hps hno2 hex
      exact ⟨g3, g4⟩


theorem codeLoop_total {n : Nat} {ic : Sl Nat} (hw : ic.WF) (hl : ic.len = n) (j : Nat) :
    ∀ (l : List Nat) (value : Sl Nat), (∀ v ∈ l, v < n) → value.WF →
      ∃ value', forList (codeStep ic j) l value = .ok value' ∧ value'.WF := by
  intro l value hln hv
  exact forList_total (codeStep ic j) (fun (s : Sl Nat) => s.WF) l value hv
    (by
      intro v s hvl hs
      obtain ⟨k, hk, _⟩ := Sl.get_ok_of_lt hw (show v < ic.len by have := hln v hvl; omega)
      unfold codeStep
      simp only [hk]
      by_cases hkj : k < j
      · rw [if_pos hkj]; exact ⟨_, rfl, Sl.append_wf hs _⟩
      · rw [if_neg hkj]; exact ⟨_, rfl, hs⟩)


theorem Sl.sortRange_total {s : Sl Nat} {a : Nat} (hw : s.WF) (ha : a ≤ s.len) :
    ∃ s', s.sortRange a s.len = .ok s' ∧ s'.WF := by
  unfold Sl.sortRange
  have : a ≤ s.len ∧ s.len ≤ s.data.size := ⟨ha, hw⟩
  rw [if_pos this]
  exact ⟨_, rfl, by unfold Sl.WF at *; simpa using hw⟩

theorem expBlock_total {n : Nat} {nb : Nbrs} {op : OP} {j : Nat} (hnbs : nb.size = n)
    (hnbr : ∀ (u : Nat) (l : List Nat), nb[u]? = some l → ∀ v ∈ l, v < n) (hp : PartInv n op) (hjn : j < n)
    (hv : op.value.WF) : ∃ v, ExpBlock nb op j v ∧ v.WF := by
  obtain ⟨u, hu, _⟩ := Sl.get_ok_of_lt hp.wfOrder (show j < op.order.len by rw [hp.lenOrder]; exact hjn)
  have hus : u < nb.size := hnbs ▸ (hp.lt_of_order_get hu).2
  have hnu : nbrsGet nb u = .ok nb[u] := by
    unfold nbrsGet
    rw [Array.getElem?_eq_getElem hus]
  obtain ⟨value1, hc1, hw1⟩ := codeLoop_total hp.wfInCell hp.lenInCell j _ op.value
    (hnbr u _ (Array.getElem?_eq_getElem hus)) hv
  have hle := (codeLoop_len _ _ _ hc1).1
  rw [Sl.length_toList _ hv, Sl.length_toList _ hw1] at hle
  obtain ⟨value2, hs2, hw2⟩ := Sl.sortRange_total hw1 hle
  exact ⟨value2, ⟨u, _, value1, hu, hnu, hc1, hs2⟩, hw2⟩

/-- `expandLoop` returns whenever `worseTest` does on every certificate it builds: `P` is kept by appending a block and
makes `worseTest` return -/
theorem expandLoop_total_of {n : Nat} {nb : Nbrs} {cb fl : Sl Nat} (hnbs : nb.size = n)
    (hnbr : ∀ (u : Nat) (l : List Nat), nb[u]? = some l → ∀ v ∈ l, v < n) (P : Nat → OP → Prop)
    (hP : ∀ (j : Nat) (op : OP) (v : Sl Nat), j < n → PartInv n op →
      (∀ t, t < j → op.binDividers.toList[t]? = some (t + 1)) → op.value.WF → P j op → ExpBlock nb op j v → v.WF →
      P (j + 1) { op with value := v })
    (hW : ∀ (j : Nat) (op : OP), P j op → ∃ b, worseTest op.value cb fl = .ok b) :
    ∀ (k j : Nat) (op : OP), j + k = n → PartInv n op →
      (∀ t, t < j → op.binDividers.toList[t]? = some (t + 1)) → op.value.WF → P j op →
      ∃ w op', expandLoop nb cb fl k j op = .ok (w, op') ∧ PrefixSingle op' ∧ op'.value.WF ∧
        (w = true → worseTest op'.value cb fl = .ok true) := by
  intro k
  induction k with
  | zero =>
    intro j op hjk hp hsing hv _
    obtain rfl : j = n := hjk
    refine ⟨false, _, rfl, ⟨?_, fun t ht => hsing t (by simpa [hp.lenOrder] using ht)⟩, hv, fun e => by cases e⟩
    show op.order.len ≤ op.binDividers.len
    rw [hp.lenOrder]
    have hn := hp.n_pos
    have := (List.getElem?_eq_some_iff.1 (hsing (j - 1) (by omega))).1
    rw [hp.length_bd] at this
    omega
  | succ k ih =>
    intro j op hjk hp hsing hv hPj
    have hjn : j < n := by omega
    obtain ⟨hjl, heq⟩ := expandLoop_succ (nb := nb) (cb := cb) (fl := fl) (k := k) hp hsing hjn
    rw [heq]
    by_cases hs : op.binDividers.toList[j]? = some (j + 1)
    · obtain ⟨v, hblk, hw2⟩ := expBlock_total hnbs hnbr hp hjn hv
      have hsing' : ∀ t, t < j + 1 → op.binDividers.toList[t]? = some (t + 1) := by
        intro t ht
        by_cases htj : t = j
        · subst htj; exact hs
        · exact hsing t (Nat.lt_of_le_of_ne (Nat.le_of_lt_succ ht) htj)
      have hP2 := hP j op v hjn hp hsing hv hPj hblk hw2
      obtain ⟨b, hwt⟩ := hW (j + 1) { op with value := v } hP2
      rw [if_pos hs, expandBody_eval hblk, show worseTest v cb fl = .ok b from hwt]
      cases b with
      | true => exact ⟨true, _, rfl, ⟨hjl, hsing'⟩, hw2, fun _ => hwt⟩
      | false =>
        exact ih (j + 1) { op with value := v } (by rw [Nat.add_right_comm]; exact hjk)
          (PartInv.of_frame hp rfl rfl rfl rfl) hsing' hw2 hP2
    · rw [if_neg hs]
      exact ⟨false, _, rfl, ⟨Nat.le_of_lt hjl, hsing⟩, hv, fun e => by cases e⟩

theorem expandValue_total {n : Nat} {nb : Nbrs} {cb fl : Sl Nat} {op : OP} (hnbs : nb.size = n)
    (hnbr : ∀ (u : Nat) (l : List Nat), nb[u]? = some l → ∀ v ∈ l, v < n) (hcb : cb.len = 0)
    (hp : PartInv n op) (hps : PrefixSingle op) (hv : op.value.WF) :
    ∃ op', expandValue nb cb fl op = .ok (false, op') ∧ PrefixSingle op' ∧ op'.value.WF := by
  unfold expandValue
  have hle : op.spl ≤ n := Nat.le_trans hps.le hp.bdLen_le
  obtain ⟨w, op', h, hps', hw, hwt⟩ := expandLoop_total_of (cb := cb) (fl := fl) hnbs hnbr (fun _ _ => True)
    (fun _ _ _ _ _ _ _ _ _ _ => trivial) (fun _ _ _ => ⟨false, worseTest_empty hcb⟩)
    (op.order.len - op.spl) op.spl op (by rw [hp.lenOrder]; omega) hp hps.single hv trivial
  cases w with
  | false => exact ⟨op', h, hps', hw⟩
  | true => have := hwt rfl; rw [worseTest_empty hcb] at this; cases this


/-- what the partition has to satisfy for the refinement not to panic -/
structure NPOp (n : Nat) (op : OP) : Prop where
  inv : PartInv n op
  capBd : n ≤ op.binDividers.data.size
  capAges : n ≤ op.binAges.data.size
  capBtc : n ≤ op.binsToCheck.data.size
  btcWF : op.binsToCheck.WF
  btcSorted : op.binsToCheck.toList.Pairwise (· < ·)
  btcRange : ∀ x ∈ op.binsToCheck.toList, 0 ≤ x ∧ x < (op.binDividers.len : Int)
  pre : PrefixSingle op
  valWF : op.value.WF

/-- the scratch slices inside one iteration -/
structure SplitScr (n : Nat) (sc : Scratch) : Prop where
  capDws : n ≤ sc.dws.data.size
  capNbs : n ≤ sc.nbs.data.size
  capSpace : n ≤ sc.space.data.size
  tsWF : sc.timesSeen.WF
  tsLen : n ≤ sc.timesSeen.len
  mcWF : sc.maxCell.WF
  nmWF : sc.numberOfMax.WF

/-- the termination measure of the main loop -/
def refinePotential (n : Nat) (op : OP) : Nat := op.binsToCheck.len + 2 * (n - op.binDividers.len)

theorem btc_union_facts {btc : List Int} {L j idx : Nat} (hs : btc.Pairwise (· < ·))
    (hr : ∀ x ∈ btc, 0 ≤ x ∧ x < (L : Int)) (hj : j < L) :
    let U := SortInts.union (btc.map (btcShiftF j idx)) ((List.range' j (idx + 1)).map Int.ofNat)
    U.Pairwise (· < ·) ∧ (∀ x ∈ U, 0 ≤ x ∧ x < ((L + idx : Nat) : Int)) ∧ U.length ≤ L + idx ∧
      U.length ≤ btc.length + idx + 1 := by
  intro U
  have h1 : (btc.map (btcShiftF j idx)).Pairwise (· < ·) := hs.map _ (fun a b h => btcShiftF_lt h)
  have h2 : ((List.range' j (idx + 1)).map Int.ofNat).Pairwise (· < ·) :=
    (List.pairwise_lt_range' (s := j) (n := idx + 1)).map _ (fun a b h => by simpa using h)
  have hsorted : U.Pairwise (· < ·) := SortInts.union_sorted _ _ h1 h2
  have hrange : ∀ x ∈ U, 0 ≤ x ∧ x < ((L + idx : Nat) : Int) := by
    intro x hx
    rcases (SortInts.mem_union _ _ x).1 hx with h | h
    · obtain ⟨y, hy, rfl⟩ := List.mem_map.1 h
      have := hr y hy
      unfold btcShiftF
      split <;> omega
    · obtain ⟨t, ht, rfl⟩ := List.mem_map.1 h
      rw [List.mem_range'_1] at ht
      simp only [Int.ofNat_eq_natCast]
      omega
  refine ⟨hsorted, hrange, ?_, ?_⟩
  · have := sortedInt_length_le ((L + idx : Nat) : Int) U 0 hsorted (fun x hx => by have := hrange x hx; omega) (by omega)
    omega
  · have : U.length + SortInts.intersectionSize (btc.map (btcShiftF j idx)) ((List.range' j (idx + 1)).map Int.ofNat) =
        (btc.map (btcShiftF j idx)).length + ((List.range' j (idx + 1)).map Int.ofNat).length :=
      SortInts.length_union_add (btc.map (btcShiftF j idx)) ((List.range' j (idx + 1)).map Int.ofNat)
    simp only [List.length_map, List.length_range'] at this
    omega


/-- after one effective split every state that agrees with `op2` outside `value` / `spl` satisfies `NPOp` again, and
the potential has not grown: at least one divider is new, the work list gains at most one entry per new divider and
one more -/
theorem NPOp.of_split {n j bs dj : Nat} {K nbsL : List Nat} {op op2 opE : OP} {ts : Sl Nat} (ho : NPOp n op)
    (hrel : SplitRel n j bs dj K nbsL op op2) (hx : SplitX ts j bs dj K nbsL op op2)
    (e1 : opE.order = op2.order) (e2 : opE.binDividers = op2.binDividers) (e3 : opE.binAges = op2.binAges)
    (e4 : opE.binsToCheck = op2.binsToCheck) (e6 : opE.inCell = op2.inCell)
    (hpre : PrefixSingle opE) (hvw : opE.value.WF) :
    NPOp n opE ∧ refinePotential n opE ≤ refinePotential n op ∧ op.binDividers.len ≤ opE.binDividers.len := by
  have hp := ho.inv
  have hj : j < op.binDividers.len := by
    have := (hrel.lens hp).1
    rw [hp.length_bd] at this; exact this
  have hbd := hrel.bdLen hp
  have hroom : op2.binDividers.len ≤ n := hrel.inv.bdLen_le
  have hpos : 0 < nbsL.length := by rw [hx.divs]; exact newDivs_pos bs hx.nonconst
  obtain ⟨uw, utl, usz⟩ := hx.btc ho.btcWF ho.btcSorted
  obtain ⟨u1, u2, u3, u4⟩ := btc_union_facts (j := j) (idx := nbsL.length) ho.btcSorted ho.btcRange hj
  have hlen : op2.binsToCheck.len = (SortInts.union (op.binsToCheck.toList.map (btcShiftF j nbsL.length))
      ((List.range' j (nbsL.length + 1)).map Int.ofNat)).length := by rw [← utl, Sl.length_toList _ uw]
  have hbtclen : op.binsToCheck.toList.length = op.binsToCheck.len := Sl.length_toList _ ho.btcWF
  refine ⟨?_, ?_, by rw [e2, hbd]; omega⟩
  · exact
      { inv := PartInv.of_frame hrel.inv e1 e2 e3 e6
        capBd := by rw [e2, hrel.szBd]; exact ho.capBd
        capAges := by rw [e3, hrel.szAges]; exact ho.capAges
        capBtc := by rw [e4, usz (by have := ho.capBtc; omega)]; exact ho.capBtc
        btcWF := by rw [e4]; exact uw
        btcSorted := by rw [e4, utl]; exact u1
        btcRange := by rw [e4, e2, utl, hbd]; exact u2
        pre := hpre
        valWF := hvw }
  · unfold refinePotential
    rw [e4, e2, hlen, hbd]
    omega

theorem fill_stage_total (htot : StableTotal) {n : Nat} {op : OP} {sc : Scratch} {j bs dj mc nm : Nat}
    (hp : PartInv n op) (hs : SplitScr n sc) (hcc : CellCount op sc.timesSeen sc.maxCell sc.numberOfMax j)
    (hbs : (0 :: op.binDividers.toList)[j]? = some bs) (hdj : op.binDividers.toList[j]? = some dj)
    (hmc : sc.maxCell.get j = .ok mc) (hnm : sc.numberOfMax.get j = .ok nm) (hdn : dj ≤ n)
    (hw0 : (⟨sc.dws.data, dj - bs⟩ : Sl KV).WF) :
    ∃ dws, (mc = 1 ∧ ∃ z o, forRange (fillOnesStep op.order sc.timesSeen bs) (dj - bs) 0
          ((⟨sc.dws.data, dj - bs⟩ : Sl KV), 0, if nm ≤ dj - bs then some (dj - bs - nm) else none) =
            .ok (dws, z, o)) ∨
        (mc ≠ 1 ∧ ∃ dws1, forRange (fillStep op.order sc.timesSeen bs) (dj - bs) 0
          (⟨sc.dws.data, dj - bs⟩ : Sl KV) = .ok dws1 ∧ stable dws1 dws1.len = .ok dws) := by
  have hlt : bs < dj := rf_sorted_start_lt hp.sorted hbs hdj
  have horder : ∀ p, p < n → ∃ w, op.order.get p = .ok w ∧ w < n := fun _ hp' => hp.order_get hp'
  have holen : op.order.toList.length = n := hp.length_order
  have hsum : bs + (dj - bs) = dj := by omega
  have reads : ∀ k, k < dj - bs → ∃ v t, op.order.get (bs + k) = .ok v ∧ sc.timesSeen.get v = .ok t := by
    intro k hk
    obtain ⟨w, hw, hwn⟩ := horder (bs + k) (by omega)
    obtain ⟨t, ht, _⟩ := Sl.get_ok_of_lt hs.tsWF (Nat.lt_of_lt_of_le hwn hs.tsLen)
    exact ⟨w, t, hw, ht⟩
  by_cases hmc1 : mc = 1
  · obtain ⟨c1, c2, _⟩ := hcc bs dj hbs hdj
    rw [rfDv_of_get hmc, hmc1] at c1 c2
    rw [rfDv_of_get hnm] at c2
    obtain ⟨⟨d, z, o⟩, hr⟩ := (fillOnes_run (order := op.order) (ts := sc.timesSeen) (bs := bs) (B := dj - bs)
      (nm := nm) (dws0 := ⟨sc.dws.data, dj - bs⟩) rfl hw0 (by rw [hsum, holen]; exact hdn)
      (by
        rw [hsum]; intro v hv
        obtain ⟨p, h1, h2, h3⟩ := mem_rfSeg.1 hv
        exact c1 p v h1 h2 h3)
      (by rw [hsum]; exact c2 Nat.one_pos)).2 (fun k hk => reads k hk)
    exact ⟨d, Or.inl ⟨hmc1, z, o, hr⟩⟩
  · obtain ⟨dws1, h1⟩ := fill_total (n := n) (order := op.order) (ts := sc.timesSeen) (bs := bs) (B := dj - bs)
      (dws0 := ⟨sc.dws.data, dj - bs⟩) horder hs.tsWF hs.tsLen (by omega) hw0 rfl
    obtain ⟨f1, f2, _⟩ := fill_spec (dws0 := ⟨sc.dws.data, dj - bs⟩) rfl h1
    have hw1 : dws1.WF := hw0.of_eq f1 f2
    obtain ⟨dws, h2⟩ := htot dws1 hw1
    exact ⟨dws, Or.inr ⟨hmc1, dws1, h1, h2⟩⟩

theorem write_stage_total {n : Nat} {op : OP} {sc : Scratch} {bs dj : Nat} {dws : Sl KV} (hs : SplitScr n sc)
    (hwo : op.order.WF) (hlo : op.order.len = n) (hlt : bs < dj) (hdn : dj ≤ n) (hdl : dws.len = dj - bs)
    (hdw : dws.WF) :
    ∃ kv0 order1 order2 nbs2 idx, sc.nbs.reslice n = .ok ⟨sc.nbs.data, n⟩ ∧ dws.get 0 = .ok kv0 ∧
      op.order.set bs kv0.2 = .ok order1 ∧
      forRange (writeBackStep dws bs) (dj - bs - 1) 1 (order1, ⟨sc.nbs.data, n⟩, 0) = .ok (order2, nbs2, idx) ∧
      nbs2.reslice idx = .ok ⟨nbs2.data, idx⟩ ∧ idx + 1 ≤ dj - bs := by
  have hnbs0 : sc.nbs.reslice n = .ok ⟨sc.nbs.data, n⟩ := Sl.reslice_eq_ok.2 ⟨hs.capNbs, rfl⟩
  have hDl : dws.toList.length = dj - bs := by rw [Sl.length_toList _ hdw, hdl]
  have hsum : bs + (dj - bs) = dj := Nat.add_sub_cancel' (Nat.le_of_lt hlt)
  have hP : (op.order.toList.take bs).length = bs := by
    rw [List.length_take, Sl.length_toList _ hwo, hlo]; exact Nat.min_eq_left (Nat.le_of_lt (Nat.lt_of_lt_of_le hlt hdn))
  have hB1 : 1 + (dj - bs - 1) = dj - bs := Nat.add_sub_cancel' (Nat.sub_pos_of_lt hlt)
  obtain ⟨kv0, hk0, _⟩ := Sl.get_ok_of_lt hdw (show 0 < dws.len from hdl ▸ Nat.sub_pos_of_lt hlt)
  have hs0 := Sl.set_ok_of_lt hwo (show bs < op.order.len from hlo ▸ Nat.lt_of_lt_of_le hlt hdn) kv0.2
  obtain ⟨⟨order2, nbs2, idx⟩, hr, hfin⟩ := forRange_total (writeBackStep dws bs)
    (fun k st => WBInv dws.toList (op.order.toList.take bs) (op.order.toList.drop (bs + (dj - bs))) bs n op.order.len
      op.order.data.size sc.nbs.data.size k st)
    (dj - bs - 1) 1 (_, ⟨sc.nbs.data, n⟩, 0)
    (WBInv.init hwo hs.capNbs hDl rfl (by rw [hsum, hlo]; exact hdn) hk0 hs0)
    (by
      intro k st hk1 hk2 hI
      have hk : k < dws.len := hdl ▸ hB1 ▸ hk2
      obtain ⟨x, hx, _⟩ := Sl.get_ok_of_lt hdw hk
      obtain ⟨y, hy, _⟩ := Sl.get_ok_of_lt hdw (Nat.lt_of_le_of_lt (Nat.sub_le k 1) hk)
      exact (writeBackStep_inv hP (hDl ▸ (Nat.sub_le _ _).trans hdn) hwo hs.capNbs k hk1 st hI).2 x y hx hy)
  obtain ⟨_, _, _, b4, _, _, eix⟩ := hfin
  dsimp only at b4 eix
  have hidx : idx ≤ dj - bs - 1 := by rw [eix, hB1]; exact length_divsUpTo_le _ _ _
  exact ⟨kv0, _, order2, nbs2, idx, hnbs0, hk0, hs0, hr,
    Sl.reslice_eq_ok.2 ⟨b4 ▸ (hidx.trans ((Nat.sub_le _ _).trans ((Nat.sub_le _ _).trans hdn))).trans hs.capNbs, rfl⟩,
    (Nat.add_le_add_right hidx 1).trans (Nat.le_of_eq ((Nat.add_comm _ _).trans hB1))⟩

theorem length_insert {α : Type} {l m : List α} {j : Nat} (hj : j ≤ l.length) :
    (l.take j ++ m ++ l.drop j).length = l.length + m.length := by
  simp only [List.length_append, List.length_take, List.length_drop]; omega

theorem splitCell_pre_total (hst : StablePerm) (htot : StableTotal) {nb : Nbrs} {n : Nat} {fl : Sl Nat} {opts : Options}
    {j : Nat} {op : OP} {sc : Scratch}
    (ho : NPOp n op) (hs : SplitScr n sc) (hj : j < op.binDividers.len) (hjm : j < sc.maxCell.len)
    (hjn : j < sc.numberOfMax.len) (hcc : CellCount op sc.timesSeen sc.maxCell sc.numberOfMax j) :
    (∀ cb : Sl Nat, splitCell nb n cb fl opts j (false, op, sc) = .ok (false, op, sc)) ∨
    ∃ bs dj K nbsL op2 sc2, SplitRel n j bs dj K nbsL op op2 ∧ SplitX sc.timesSeen j bs dj K nbsL op op2 ∧
      ScrRel sc sc2 ∧ ∀ cb : Sl Nat, splitCell nb n cb fl opts j (false, op, sc) = scTail nb cb fl opts j op2 sc2 := by
  have hp := ho.inv
  have hbl : op.binDividers.toList.length = op.binDividers.len := hp.length_bd
  obtain ⟨dj, hgd, _⟩ := Sl.get_ok_of_lt hp.wfBd hj
  have hdj : op.binDividers.toList[j]? = some dj := Sl.get_eq_toList.1 hgd
  obtain ⟨bs, hbs⟩ : ∃ bs, (0 :: op.binDividers.toList)[j]? = some bs :=
    ⟨_, List.getElem?_eq_getElem (by simp only [List.length_cons]; omega)⟩
  obtain ⟨mc, hmc, _⟩ := Sl.get_ok_of_lt hs.mcWF hjm
  obtain ⟨nm, hnm, _⟩ := Sl.get_ok_of_lt hs.nmWF hjn
  obtain ⟨hlt, hdn, _⟩ := hp.bin_bounds hbs hdj
  have hd0 : sc.dws.reslice (dj - bs) = .ok ⟨sc.dws.data, dj - bs⟩ :=
    Sl.reslice_eq_ok.2 ⟨by have := hs.capDws; omega, rfl⟩
  have hhead := fun cb : Sl Nat => scHead_eval (nb := nb) (n := n) (cb := cb) (fl := fl) (opts := opts)
    hbs hgd hmc hnm (Nat.le_of_lt hlt) hd0
  by_cases hskip : dj = bs + 1 ∨ mc = 0 ∨ nm = dj - bs
  · exact Or.inl (fun cb => by rw [splitCell_false, hhead cb, if_pos hskip])
  right
  have hne1 : dj ≠ bs + 1 := fun h => hskip (Or.inl h)
  have hmc0 : mc ≠ 0 := fun h => hskip (Or.inr (Or.inl h))
  have hnmB : nm ≠ dj - bs := fun h => hskip (Or.inr (Or.inr h))
  have hw0 : (⟨sc.dws.data, dj - bs⟩ : Sl KV).WF := (Sl.reslice_len hd0).2.2
  obtain ⟨dws, hf⟩ := fill_stage_total htot hp hs hcc hbs hdj hmc hnm hdn hw0
  obtain ⟨f1, f2, f3, f4, f5⟩ := fill_stage hst hp hcc hbs hdj hmc hnm hd0 hf
  obtain ⟨kv0, order1, order2, nbs2, idx, hnbs0, w2, w3, w4, hn3, hidx⟩ :=
    write_stage_total hs hp.wfOrder hp.lenOrder hlt hdn f1 f3
  obtain ⟨o1, o2, o3, o4, n1, n2, n3⟩ :=
    write_stage hp.wfOrder hp.lenOrder hlt hdn f1 f3 f4 hnbs0 w2 w3 w4 hn3
  have hnl : (⟨nbs2.data, idx⟩ : Sl Nat).toList.length = idx := Sl.length_toList _ n1
  have hKl : (rfKeys dws).length = dj - bs := by rw [length_rfKeys f3, f1]
  have n4 : (⟨nbs2.data, idx⟩ : Sl Nat).toList.Pairwise (· < ·) := by rw [n3]; exact newDivs_sorted _ _ _
  have n5 : ∀ x ∈ (⟨nbs2.data, idx⟩ : Sl Nat).toList, bs < x ∧ x < dj := by
    intro x hx; rw [n3] at hx; have := newDivs_range hx; omega
  have hidxn : idx + 1 ≤ n := by omega
  -- room for the new dividers: the new list of dividers is ascending and ends with `n`
  have hroom : op.binDividers.len + idx ≤ n := by
    have := bins_le (sorted_insert hp.sorted hbs hdj n4 n5)
      (by rw [getLast?_insert (hbl ▸ hj)]; exact hp.last)
    rw [length_insert (hbl ▸ Nat.le_of_lt hj), hbl, hnl] at this
    exact this
  obtain ⟨bd1, bd2, bd3, u3, u4, u5⟩ := insertBlock_copy_total op.binDividers j (⟨nbs2.data, idx⟩ : Sl Nat).toList
    (Nat.le_of_lt hj) (by rw [hnl]; exact Nat.le_trans hroom ho.capBd)
  rw [hnl] at u3 u4
  obtain ⟨ag1, ag2, ag3, a1, a2, a3⟩ := insertBlock_fill_total op.binAges j idx op.age
    (by rw [hp.lenAges]; exact Nat.le_of_lt hj) (by rw [hp.lenAges]; exact Nat.le_trans hroom ho.capAges)
  have hsp1 : sc.space.reslice (idx + 1) = .ok ⟨sc.space.data, idx + 1⟩ :=
    Sl.reslice_eq_ok.2 ⟨Nat.le_trans hidxn hs.capSpace, rfl⟩
  obtain ⟨sp2, hsp2, hspsz, sptl⟩ := spaceLoop_spec j idx ⟨sc.space.data, idx + 1⟩ (Sl.reslice_len hsp1).2.2 rfl
  obtain ⟨btc1, hsh, _, _, _, stl⟩ := shiftBtc_full j idx op.binsToCheck ho.btcWF ho.btcSorted
  obtain ⟨btc2, hun, _⟩ := unionSl_spec btc1 (sp2.toList.map Int.ofNat)
    (by rw [stl]; exact ho.btcSorted.map _ (fun a b h => btcShiftF_lt h))
    (by rw [sptl]; exact (List.pairwise_lt_range' (s := j) (n := idx + 1)).map _ (fun a b h => by simpa using h))
  obtain ⟨ic, hic, hrel⟩ := upd_core btc2 hp hbs hdj hne1 ⟨o1, o2, o3, o4⟩ f5.perm ⟨n1, n4, n5⟩ u3 u4 u5 a1 a2 a3
  refine ⟨bs, dj, rfKeys dws, (⟨nbs2.data, idx⟩ : Sl Nat).toList, _,
    { sc with dws := dws, nbs := ⟨nbs2.data, idx⟩, space := sp2 }, hrel, ⟨f5, n3, ?_, ?_, ?_⟩,
    ⟨rfl, rfl, rfl, f2, n2, hspsz⟩, ?_⟩
  · obtain ⟨a, ha, b, hb, hab⟩ := bin_nonconst hp hcc hbs hdj hmc hnm hmc0 hnmB
    exact ⟨a, f5.perm.mem_iff.2 ha, b, f5.perm.mem_iff.2 hb, hab⟩
  · intro hw hsorted
    rw [hnl]
    exact btc_stage hw hsorted hsh hsp1 hsp2 hun
  · show op.binsToCheck.data.size ≤ btc2.data.size
    rw [← shiftBtc_cap _ _ _ _ _ hsh]; exact unionSl_size_mono hun
  · intro cb
    rw [splitCell_false, hhead cb, if_neg hskip, scFill_eval hf, scWrite_eval hnbs0 w2 w3 w4,
      scUpd1_eval hn3 hsh u3 u4 u5, scUpd2_eval a1 a2 a3 hsp1 hsp2 hun hic]

end CanonF
