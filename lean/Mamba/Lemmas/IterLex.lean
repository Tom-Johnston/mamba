import Mathlib.Data.List.Chain
import Mathlib.Data.List.Lex
import Mathlib.Data.List.Perm.Subperm
import Mamba.Model.IterPerm
import Mamba.Lemmas.IterSlice
import Mamba.Lemmas.IterGeneric

/-!
# `LexicographicPermutations` / `MultisetPermutations` (model `Iter.Lex`)

Spec (at the top, in `namespace Iter.Spec`): `nextPerm`, the textbook next permutation, and the family
`multiPermList freq` as an explicit recursive list (`lexPermList n` is the case `freq = [1, …, 1]`).  One `Next` computes `nextPerm` on every array (`Lex.next_spec`);
`nextPerm a` is the least arrangement above `a` (`nextPerm_minimal`), so every strictly increasing, upward closed list of
arrangements is a chain for it (`nextPerm_chain_of_sorted`), `multiPermList` in particular; `Lex.enumerates_core`
enumerates from any sorted start array.
-/
namespace Iter.Spec

/-- In a list `r` (thought of as non-decreasing: the reversed non-increasing suffix) exchange `x` with the first
element greater than `x`; `none` if there is no such element. -/
def swapFirstGt (x : Int) : List Int → Option (Int × List Int)
  | [] => none
  | y :: r =>
    if x < y then some (y, x :: r)
    else match swapFirstGt x r with
      | some (w, r') => some (w, y :: r')
      | none => none

/-- the textbook "next permutation" (lexicographic successor among the arrangements of a multiset) -/
def nextPerm : List Int → Option (List Int)
  | [] => none
  | x :: t =>
    match nextPerm t with
    | some t' => some (x :: t')
    | none =>
      match swapFirstGt x t.reverse with
      | some (w, r') => some (w :: r')
      | none => none

/-- `multiPermAux k freq`: all sequences of length `k` that use the value `i` at most `freq[i]` times, in
lexicographic order (for each value `i` that is still available, in increasing order: `i ::` the arrangements of
the rest). -/
def multiPermAux : Nat → List Int → List (List Int)
  | 0, _ => [[]]
  | k+1, freq => (List.range freq.length).flatMap (fun i =>
      if 0 < freq.getD i 0 then
        (multiPermAux k (freq.set i (freq.getD i 0 - 1))).map (fun t => (i : Int) :: t)
      else [])

/-- the sorted arrangement of the multiset with `freq[i]` copies of `i` -/
def multiSorted (freq : List Int) : List Int :=
  (freq.zipIdx).flatMap (fun (f, i) => List.replicate f.toNat (i : Int))

/-- all arrangements of the multiset with `freq[i]` copies of `i`, in lexicographic order -/
def multiPermList (freq : List Int) : List (List Int) := multiPermAux (freq.foldl (· + ·) 0).toNat freq

/-- all permutations of `0..n-1` in lexicographic order -/
def lexPermList (n : Int) : List (List Int) := multiPermList (List.replicate n.toNat 1)

end Iter.Spec

namespace Iter
open Spec

theorem swap_split (p m s : Sl) (x y : Int) (i j : Int) (hi : i = p.length) (hj : j = p.length + m.length + 1) :
    swap (p ++ x :: (m ++ y :: s)) i j = .ok (p ++ y :: (m ++ x :: s)) := by
  subst hi hj
  have e1 : p ++ x :: (m ++ y :: s) = (p ++ x :: m) ++ y :: s := by simp
  have l1 : ((p.length : Int) + m.length + 1) = ((p ++ x :: m).length : Int) := by simp; omega
  have g2 : get (p ++ x :: (m ++ y :: s)) ((p.length : Int) + m.length + 1) = .ok y := by
    rw [e1, l1, get_append_length]
  have e2 : p ++ y :: (m ++ y :: s) = (p ++ y :: m) ++ y :: s := by simp
  have l2 : ((p.length : Int) + m.length + 1) = ((p ++ y :: m).length : Int) := by simp; omega
  have s2 : set (p ++ y :: (m ++ y :: s)) ((p.length : Int) + m.length + 1) x = .ok (p ++ y :: (m ++ x :: s)) := by
    rw [e2, l2, set_append_length]; simp
  unfold swap
  simp only [get_append_length, g2, Outcome.bind_ok, set_append_length, s2]

theorem swap_split' (p m s : Sl) (x y : Int) (i j : Int) (hi : i = p.length) (hj : j = p.length + m.length + 1) :
    swap (p ++ x :: (m ++ y :: s)) j i = .ok (p ++ y :: (m ++ x :: s)) := by
  subst hi hj
  have e1 : p ++ x :: (m ++ y :: s) = (p ++ x :: m) ++ y :: s := by simp
  have l1 : ((p.length : Int) + m.length + 1) = ((p ++ x :: m).length : Int) := by simp; omega
  have g2 : get (p ++ x :: (m ++ y :: s)) ((p.length : Int) + m.length + 1) = .ok y := by
    rw [e1, l1, get_append_length]
  have s1 : set (p ++ x :: (m ++ y :: s)) ((p.length : Int) + m.length + 1) x = .ok (p ++ x :: (m ++ x :: s)) := by
    rw [e1, l1, set_append_length]; simp
  unfold swap
  simp only [get_append_length, g2, Outcome.bind_ok, set_append_length, s1]

theorem rev_spec : ∀ (f : Nat) (m p s : Sl) (k l : Int), m.length < f → k = p.length →
    l = p.length + m.length - 1 →
    Lex.rev f k l (p ++ (m ++ s)) = .ok (p ++ (m.reverse ++ s)) := by
  intro f
  induction f with
  | zero => intro m p s k l h; omega
  | succ f ih =>
    intro m p s k l hf hk hl
    unfold Lex.rev
    cases m with
    | nil =>
      have : ¬ k < l := by simp at hl; omega
      simp [this]
    | cons e1 m =>
      rcases List.eq_nil_or_concat m with rfl | ⟨m', e2, rfl⟩
      · have : ¬ k < l := by simp at hl; omega
        simp [this]
      · have hkl : k < l := by simp at hl; omega
        rw [List.concat_eq_append] 
        have e : p ++ (e1 :: (m' ++ [e2]) ++ s) = p ++ e1 :: (m' ++ e2 :: s) := by simp
        rw [e, swap_split p m' s e1 e2 k l hk (by simp at hl; omega)]
        simp only [hkl, if_true, Outcome.bind_ok]
        have := ih m' (p ++ [e2]) (e1 :: s) (k + 1) (l - 1) (by simp at hf; omega) (by simp [hk])
          (by simp at hl ⊢; omega)
        simp only [List.append_assoc, List.cons_append, List.nil_append] at this
        rw [this]
        simp

theorem findL_spec (n j : Int) : ∀ (r1 : List Int) (l : Nat) (pre s2 : Sl) (x w : Int) (r' : List Int),
    swapFirstGt x r1 = some (w, r') → j = pre.length → l = pre.length + r1.length →
    Lex.findL n j l (pre ++ x :: (r1.reverse ++ s2)) =
      swap (pre ++ w :: (r'.reverse ++ s2)) (n - 1) (j + 1) := by
  intro r1
  induction r1 with
  | nil => intro l pre s2 x w r' h; simp [swapFirstGt] at h
  | cons e r1 ih =>
    intro l pre s2 x w r' h hj hl
    simp only [List.length_cons] at hl
    obtain ⟨l', rfl⟩ : ∃ l', l = l' + 1 := ⟨pre.length + r1.length, by omega⟩
    unfold Lex.findL
    have g1 : get (pre ++ x :: ((e :: r1).reverse ++ s2)) j = .ok x := by rw [hj]; simp
    have e1 : pre ++ x :: ((e :: r1).reverse ++ s2) = (pre ++ x :: r1.reverse) ++ e :: s2 := by simp
    have l1 : ((l' + 1 : Nat) : Int) = ((pre ++ x :: r1.reverse).length : Int) := by simp; omega
    have g2 : get (pre ++ x :: ((e :: r1).reverse ++ s2)) ((l' + 1 : Nat) : Int) = .ok e := by
      rw [e1, l1, get_append_length]
    simp only [g1, g2, Outcome.bind_ok]
    simp only [swapFirstGt] at h
    by_cases hx : x < e
    · have hx' : ¬ x ≥ e := by omega
      simp only [hx, if_true, Option.some.injEq, _root_.Prod.mk.injEq] at h
      obtain ⟨rfl, rfl⟩ := h
      simp only [hx', if_false]
      have e2 : pre ++ x :: ((e :: r1).reverse ++ s2) = pre ++ x :: (r1.reverse ++ e :: s2) := by simp
      rw [e2, swap_split pre r1.reverse s2 x e j _ hj (by simp; omega)]
      simp
    · have hx' : x ≥ e := by omega
      simp only [hx, if_false] at h
      simp only [hx', if_true]
      cases hs : swapFirstGt x r1 with
      | none => simp [hs] at h
      | some wr =>
        obtain ⟨w', r''⟩ := wr
        simp only [hs, Option.some.injEq, _root_.Prod.mk.injEq] at h
        obtain ⟨rfl, rfl⟩ := h
        have := ih l' pre (e :: s2) x w' r'' hs hj (by omega)
        simp only [List.reverse_cons, List.append_assoc, List.cons_append, List.nil_append]
        exact this

theorem swapFirstGt_spec (x : Int) : ∀ (r : List Int) (w : Int) (r' : List Int),
    swapFirstGt x r = some (w, r') → x < w ∧ (w :: r').Perm (x :: r) := by
  intro r
  induction r with
  | nil => intro w r' h; simp [swapFirstGt] at h
  | cons e r ih =>
    intro w r' h
    simp only [swapFirstGt] at h
    by_cases hx : x < e
    · simp only [hx, if_true, Option.some.injEq, _root_.Prod.mk.injEq] at h
      obtain ⟨rfl, rfl⟩ := h
      exact ⟨hx, List.Perm.swap _ _ _⟩
    · simp only [hx, if_false] at h
      cases hs : swapFirstGt x r with
      | none => simp [hs] at h
      | some wr =>
        obtain ⟨w', r''⟩ := wr
        simp only [hs, Option.some.injEq, _root_.Prod.mk.injEq] at h
        obtain ⟨rfl, rfl⟩ := h
        obtain ⟨h1, h2⟩ := ih w' r'' hs
        refine ⟨h1, ?_⟩
        exact ((List.Perm.swap e w' r'').trans ((h2.cons e).trans (List.Perm.swap x e r)))

theorem swapFirstGt_eq_none_iff (x : Int) : ∀ r : List Int, swapFirstGt x r = none ↔ ∀ e ∈ r, e ≤ x := by
  intro r
  induction r with
  | nil => simp [swapFirstGt]
  | cons e r ih =>
    simp only [swapFirstGt, List.mem_cons, forall_eq_or_imp]
    by_cases hx : x < e
    · simp only [hx, if_true]
      constructor
      · intro h; simp at h
      · intro h; omega
    · simp only [hx, if_false]
      cases hs : swapFirstGt x r with
      | none =>
        simp only [true_iff]
        exact ⟨by omega, ih.mp hs⟩
      | some wr =>
        simp only [reduceCtorEq, false_iff]
        intro h
        have := ih.mpr h.2
        simp [hs] at this

theorem nextPerm_eq_none_iff : ∀ a : List Int, nextPerm a = none ↔ a.Pairwise (fun u v => v ≤ u) := by
  intro a
  induction a with
  | nil => simp [nextPerm]
  | cons x t ih =>
    simp only [nextPerm, List.pairwise_cons]
    cases hn : nextPerm t with
    | some t' =>
      simp only [reduceCtorEq, false_iff]
      intro h
      have := ih.mpr h.2
      simp [hn] at this
    | none =>
      have hp := ih.mp hn
      cases hs : swapFirstGt x t.reverse with
      | none =>
        have := (swapFirstGt_eq_none_iff x _).mp hs
        simp only [true_iff]
        exact ⟨fun e he => this e (by simpa using he), hp⟩
      | some wr =>
        simp only [reduceCtorEq, false_iff]
        intro h
        have := (swapFirstGt_eq_none_iff x t.reverse).mpr (fun e he => h.1 e (by simpa using he))
        simp [hs] at this

theorem nextPerm_append_some (t t' : List Int) (h : nextPerm t = some t') :
    ∀ pre : List Int, nextPerm (pre ++ t) = some (pre ++ t') := by
  intro pre
  induction pre with
  | nil => simpa using h
  | cons x pre ih => simp [nextPerm, ih]

theorem nextPerm_cons_of_none (x : Int) (t : List Int) (h : nextPerm t = none) :
    nextPerm (x :: t) = (swapFirstGt x t.reverse).map (fun p => p.1 :: p.2) := by
  simp only [nextPerm, h]
  cases swapFirstGt x t.reverse <;> rfl

/-- result of `scan` expressed through `nextPerm` -/
def scanRes (a : List Int) : Sl × Bool :=
  match nextPerm a with
  | some b => (b, true)
  | none => (a, false)

theorem scan_spec (n : Int) : ∀ (j : Nat) (pre suf : Sl), pre.length = j →
    suf.Pairwise (fun u v => v ≤ u) → 2 ≤ suf.length → n = ((pre ++ suf).length : Int) →
    Lex.scan n j (pre ++ suf) = .ok (scanRes (pre ++ suf)) := by
  intro j
  induction j with
  | zero =>
    intro pre suf hp hs _ _
    have : pre = [] := List.length_eq_zero_iff.mp hp
    subst this
    simp [Lex.scan, scanRes, (nextPerm_eq_none_iff suf).mpr hs]
  | succ j ih =>
    intro pre suf hp hs h2 hn
    obtain ⟨pre', x, rfl, hpn⟩ := exists_snoc_of_length_succ hp
    clear hp
    obtain ⟨y, suf', rfl⟩ : ∃ y s, suf = y :: s := by
      cases suf with
      | nil => simp at h2
      | cons y s => exact ⟨y, s, rfl⟩
    have hp' : (pre'.length : Int) = j := by rw [hpn]
    have hp1 : (pre'.length : Int) + 1 = ((j + 1 : Nat) : Int) := by simp [hp']
    rw [List.append_assoc, List.singleton_append] at hn ⊢
    unfold Lex.scan
    rw [get_at pre' (y :: suf') x _ hp'.symm, get_at1 pre' suf' x y _ hp1.symm]
    simp only [Outcome.bind_ok]
    by_cases hxy : x ≥ y
    · simp only [hxy, if_true]
      have hs' : (x :: y :: suf').Pairwise (fun u v => v ≤ u) := by
        rw [List.pairwise_cons] at hs ⊢
        refine ⟨?_, List.pairwise_cons.mpr hs⟩
        intro e he
        rcases List.mem_cons.mp he with rfl | he
        · exact hxy
        · have := hs.1 e he; omega
      exact ih pre' (x :: y :: suf') hpn hs' (by simp) hn
    · simp only [hxy, if_false]
      obtain ⟨mid, z, rfl⟩ : ∃ m z, suf' = m ++ [z] := by
        rcases List.eq_nil_or_concat suf' with rfl | ⟨m, z, rfl⟩
        · simp at h2
        · exact ⟨m, z, by simp⟩
      have hnp : nextPerm (y :: (mid ++ [z])) = none := (nextPerm_eq_none_iff _).mpr hs
      -- all positions in terms of `pre'.length` and `mid.length`
      have en1 : n - 1 = (pre'.length : Int) + 2 + mid.length := by simp at hn; omega
      clear hn h2
      have en2 : n - 2 = (pre'.length : Int) + 1 + mid.length := by omega
      have ej2 : ((j + 2 : Nat) : Int) = (pre'.length : Int) + 2 := by omega
      have hfu : mid.length < n.toNat + 1 := by omega
      simp only [get_at_last2 pre' mid x y z _ en1, Outcome.bind_ok]
      have hrev : (y :: (mid ++ [z])).reverse = z :: (mid.reverse ++ [y]) := by simp
      have hnx : nextPerm (pre' ++ x :: y :: (mid ++ [z])) =
          (swapFirstGt x (z :: (mid.reverse ++ [y]))).map (fun p => pre' ++ p.1 :: p.2) := by
        have := nextPerm_cons_of_none x _ hnp
        rw [hrev] at this
        cases hsw : swapFirstGt x (z :: (mid.reverse ++ [y])) with
        | none =>
          have := (swapFirstGt_eq_none_iff x _).mp hsw y (by simp)
          omega
        | some wr =>
          rw [hsw] at this
          simp only [Option.map_some] at this ⊢
          exact nextPerm_append_some _ _ this pre'
      simp only [scanRes, hnx]
      by_cases hxz : x < z
      · have := rev_spec (n.toNat + 1) mid (pre' ++ [z, x]) [y] ((j + 2 : Nat) : Int) (n - 2) hfu
          (by simp [ej2]) (by simp [en2]; omega)
        simp only [List.append_assoc, List.cons_append, List.nil_append] at this
        simp only [hxz, if_true, set_at pre' _ x z _ hp'.symm, set_at1 pre' _ z y x _ hp1.symm,
          set_at_last2 pre' mid z x z y _ en1, Outcome.bind_ok, this]
        simp [swapFirstGt, hxz]
      · simp only [hxz, if_false]
        cases hsw : swapFirstGt x (mid.reverse ++ [y]) with
        | none =>
          have := (swapFirstGt_eq_none_iff x _).mp hsw y (by simp)
          omega
        | some wr =>
          obtain ⟨w, r''⟩ := wr
          have hlen := Nat.succ.inj (swapFirstGt_spec x _ w r'' hsw).2.length_eq
          obtain ⟨m2, y', rfl⟩ : ∃ m z, r'' = m ++ [z] := by
            rcases List.eq_nil_or_concat r'' with rfl | ⟨m, z, rfl⟩
            · simp at hlen
            · exact ⟨m, z, by simp⟩
          have hm2 : m2.length = mid.length := by simpa using hlen
          clear hlen
          have hf := findL_spec n j (mid.reverse ++ [y]) (n - 2).toNat pre' [z] x w (m2 ++ [y']) hsw
            hp'.symm (by simp; omega)
          simp only [List.reverse_append, List.reverse_cons, List.reverse_nil, List.nil_append,
            List.reverse_reverse, List.cons_append] at hf
          rw [hf]
          have hsw2 := swap_split' (pre' ++ [w]) m2.reverse [] y' z ((j : Int) + 1) (n - 1)
            (by simp [hp']) (by simp [en1, hm2]; omega)
          simp only [List.append_assoc, List.cons_append, List.nil_append] at hsw2
          rw [hsw2]
          simp only [Outcome.bind_ok]
          have := rev_spec (n.toNat + 1) m2.reverse (pre' ++ [w, z]) [y'] ((j + 2 : Nat) : Int) (n - 2)
            (by simpa [hm2] using hfu) (by simp [ej2]) (by simp [en2, hm2]; omega)
          simp only [List.append_assoc, List.cons_append, List.nil_append, List.reverse_reverse] at this
          rw [this]
          simp [swapFirstGt, hxz, hsw]

theorem Lex.next_spec (n : Int) (a : Sl) (hn : n = a.length) :
    Lex.next ⟨n, a, false⟩ = .ok (match nextPerm a with
      | some b => (⟨n, b, false⟩, true)
      | none => (⟨n, a, false⟩, false)) := by
  rcases List.eq_nil_or_concat a with rfl | ⟨a1, y, rfl⟩
  · subst hn; rfl
  rcases List.eq_nil_or_concat a1 with rfl | ⟨pre, x, rfl⟩
  · subst hn; rfl
  have ea : (pre.concat x).concat y = pre ++ [x, y] := by simp
  rw [ea] at hn ⊢
  have e1 : n - 1 = (pre.length : Int) + 1 := by simp at hn; omega
  have e2 : n - 2 = (pre.length : Int) := by omega
  have h1 : n > 1 := by omega
  unfold Lex.next
  simp only [Bool.false_eq_true, if_false, get_at pre [y] x _ e2, get_at1 pre [] x y _ e1, h1, if_true,
    Outcome.bind_ok, Outcome.pure_eq]
  by_cases hxy : x < y
  · have hnp : nextPerm (pre ++ [x, y]) = some (pre ++ [y, x]) :=
      nextPerm_append_some [x, y] [y, x] (by simp [nextPerm, swapFirstGt, hxy]) pre
    have hsw := swap_split pre [] [] x y (n - 2) (n - 1) e2 (by simp [e1])
    simp only [List.nil_append] at hsw
    simp only [hxy, decide_true, if_true, hsw, Outcome.bind_ok, hnp]
  · simp only [hxy, decide_false, Bool.false_eq_true, if_false]
    rcases List.eq_nil_or_concat pre with rfl | ⟨pre, w, rfl⟩
    · have h2 : ¬ n > 2 := by simp at e2; omega
      have e3 : (n - 3).toNat = 0 := by omega
      simp [h2, e3, Lex.scan, nextPerm, swapFirstGt, hxy]
    have ea : pre.concat w ++ [x, y] = pre ++ [w, x, y] := by simp
    rw [ea] at hn ⊢
    have e2 : n - 2 = (pre.length : Int) + 1 := by simp at e2; omega
    clear e1 h1
    have e1 : n - 1 = (pre.length : Int) + 2 := by omega
    have e3 : n - 3 = (pre.length : Int) := by omega
    have h2 : n > 2 := by omega
    simp only [h2, if_true, get_at pre [x, y] w _ e3, Outcome.bind_ok]
    by_cases hwx : w < x
    · simp only [hwx, decide_true, if_true]
      by_cases hwy : w < y
      · have hnp : nextPerm (pre ++ [w, x, y]) = some (pre ++ [y, w, x]) :=
          nextPerm_append_some [w, x, y] [y, w, x] (by simp [nextPerm, swapFirstGt, hxy, hwy]) pre
        simp only [hwy, if_true, set_at pre [x, y] w y _ e3, set_at1 pre [y] y x w _ e2,
          set_at2 pre [] y w y x _ e1, Outcome.bind_ok, hnp]
      · have hnp : nextPerm (pre ++ [w, x, y]) = some (pre ++ [x, y, w]) :=
          nextPerm_append_some [w, x, y] [x, y, w] (by simp [nextPerm, swapFirstGt, hxy, hwy, hwx]) pre
        simp only [hwy, if_false, set_at pre [x, y] w x _ e3, set_at1 pre [y] x x y _ e2,
          set_at2 pre [] x y y w _ e1, Outcome.bind_ok, hnp]
    · simp only [hwx, decide_false, Bool.false_eq_true, if_false]
      have hs : [w, x, y].Pairwise (fun u v => v ≤ u) := by
        refine List.pairwise_cons.mpr ⟨fun e he => ?_, List.pairwise_pair.mpr (by omega)⟩
        rcases List.mem_pair.mp he with rfl | rfl <;> omega
      rw [show (n - 3).toNat = pre.length by omega, scan_spec n pre.length pre [w, x, y] rfl hs (by simp) hn]
      simp only [scanRes, Outcome.bind_ok]
      cases nextPerm (pre ++ [w, x, y]) <;> rfl

theorem swapFirstGt_sorted (x : Int) : ∀ (r : List Int) (w : Int) (r' : List Int),
    swapFirstGt x r = some (w, r') → r.Pairwise (· ≤ ·) →
    r'.Pairwise (· ≤ ·) ∧ (∀ e ∈ r, x < e → w ≤ e) := by
  intro r
  induction r with
  | nil => intro w r' h; simp [swapFirstGt] at h
  | cons e r ih =>
    intro w r' h hp
    simp only [swapFirstGt] at h
    rw [List.pairwise_cons] at hp
    by_cases hx : x < e
    · simp only [hx, if_true, Option.some.injEq, _root_.Prod.mk.injEq] at h
      obtain ⟨rfl, rfl⟩ := h
      refine ⟨List.pairwise_cons.mpr ⟨fun a ha => by have := hp.1 a ha; omega, hp.2⟩, ?_⟩
      intro a ha _
      rcases List.mem_cons.mp ha with rfl | ha
      · exact Int.le_refl _
      · exact hp.1 a ha
    · simp only [hx, if_false] at h
      cases hs : swapFirstGt x r with
      | none => simp [hs] at h
      | some wr =>
        obtain ⟨w', r''⟩ := wr
        simp only [hs, Option.some.injEq, _root_.Prod.mk.injEq] at h
        obtain ⟨rfl, rfl⟩ := h
        obtain ⟨h1, h2⟩ := ih w' r'' hs hp.2
        obtain ⟨h3, h4⟩ := swapFirstGt_spec x r w' r'' hs
        refine ⟨List.pairwise_cons.mpr ⟨?_, h1⟩, ?_⟩
        · intro a ha
          have : a ∈ x :: r := h4.subset (List.mem_cons_of_mem _ ha)
          rcases List.mem_cons.mp this with rfl | ha'
          · omega
          · exact hp.1 a ha'
        · intro a ha hxa
          rcases List.mem_cons.mp ha with rfl | ha
          · omega
          · exact h2 a ha hxa

theorem nextPerm_lt_perm : ∀ a b : List Int, nextPerm a = some b → a < b ∧ b.Perm a := by
  intro a
  induction a with
  | nil => intro b h; simp [nextPerm] at h
  | cons x t ih =>
    intro b h
    simp only [nextPerm] at h
    cases hn : nextPerm t with
    | some t' =>
      simp only [hn, Option.some.injEq] at h
      subst h
      obtain ⟨h1, h2⟩ := ih t' hn
      exact ⟨List.cons_lt_cons_iff.mpr (Or.inr ⟨rfl, h1⟩), h2.cons x⟩
    | none =>
      simp only [hn] at h
      cases hs : swapFirstGt x t.reverse with
      | none => simp [hs] at h
      | some wr =>
        obtain ⟨w, r'⟩ := wr
        simp only [hs, Option.some.injEq] at h
        subst h
        obtain ⟨h1, h2⟩ := swapFirstGt_spec x _ w r' hs
        exact ⟨List.cons_lt_cons_iff.mpr (Or.inl h1), h2.trans ((List.reverse_perm t).cons x)⟩

theorem not_lt_of_nonincreasing : ∀ a c : List Int, a.Pairwise (fun u v => v ≤ u) → c.Perm a → ¬ a < c := by
  intro a
  induction a with
  | nil => intro c _ hc; rw [List.perm_nil.mp hc]; exact List.lt_irrefl _
  | cons y ts ih =>
    intro c hp hc hlt
    cases c with
    | nil => simpa using hc.length_eq
    | cons y' ts' =>
      rw [List.pairwise_cons] at hp
      have hy' : y' ∈ y :: ts := hc.subset (by simp)
      have hle : y' ≤ y := by
        rcases List.mem_cons.mp hy' with rfl | h
        · exact Int.le_refl _
        · exact hp.1 y' h
      rcases List.cons_lt_cons_iff.mp hlt with h | ⟨rfl, h⟩
      · omega
      · exact ih ts' hp.2 (List.Perm.cons_inv hc) h

theorem not_lt_of_nondecreasing : ∀ a c : List Int, a.Pairwise (· ≤ ·) → c.Perm a → ¬ c < a := by
  intro a
  induction a with
  | nil => intro c _ hc; rw [List.perm_nil.mp hc]; exact List.lt_irrefl _
  | cons y ts ih =>
    intro c hp hc hlt
    cases c with
    | nil => simpa using hc.length_eq
    | cons y' ts' =>
      rw [List.pairwise_cons] at hp
      have hy' : y' ∈ y :: ts := hc.subset (by simp)
      have hle : y ≤ y' := by
        rcases List.mem_cons.mp hy' with rfl | h
        · exact Int.le_refl _
        · exact hp.1 y' h
      rcases List.cons_lt_cons_iff.mp hlt with h | ⟨rfl, h⟩
      · omega
      · exact ih ts' hp.2 (List.Perm.cons_inv hc) h

theorem nextPerm_minimal : ∀ a b c : List Int, nextPerm a = some b → c.Perm a → a < c → ¬ c < b := by
  intro a
  induction a with
  | nil => intro b c h; simp [nextPerm] at h
  | cons x t ih =>
    intro b c h hc hac hcb
    cases c with
    | nil => simpa using hc.length_eq
    | cons x' t' =>
    simp only [nextPerm] at h
    cases hn : nextPerm t with
    | some tb =>
      simp only [hn, Option.some.injEq] at h
      subst h
      rcases List.cons_lt_cons_iff.mp hac with h1 | ⟨rfl, h1⟩
      · rcases List.cons_lt_cons_iff.mp hcb with h2 | ⟨rfl, h2⟩
        · omega
        · omega
      · rcases List.cons_lt_cons_iff.mp hcb with h2 | ⟨_, h2⟩
        · omega
        · exact ih tb t' hn (List.Perm.cons_inv hc) h1 h2
    | none =>
      simp only [hn] at h
      have hp := (nextPerm_eq_none_iff t).mp hn
      cases hs : swapFirstGt x t.reverse with
      | none => simp [hs] at h
      | some wr =>
        obtain ⟨w, r'⟩ := wr
        simp only [hs, Option.some.injEq] at h
        subst h
        have hrp : t.reverse.Pairwise (· ≤ ·) := List.pairwise_reverse.mpr hp
        obtain ⟨h1, h2⟩ := swapFirstGt_spec x _ w r' hs
        obtain ⟨h3, h4⟩ := swapFirstGt_sorted x _ w r' hs hrp
        rcases List.cons_lt_cons_iff.mp hac with g1 | ⟨rfl, g1⟩
        · have hx' : x' ∈ x :: t := hc.subset (by simp)
          have hx't : x' ∈ t.reverse := by
            rcases List.mem_cons.mp hx' with rfl | h
            · omega
            · simpa using h
          have hw := h4 x' hx't g1
          rcases List.cons_lt_cons_iff.mp hcb with g2 | ⟨rfl, g2⟩
          · omega
          · have : t'.Perm r' := by
              have : (x' :: t').Perm (x' :: r') := hc.trans (((List.reverse_perm t).cons x).symm.trans h2.symm)
              exact List.Perm.cons_inv this
            exact not_lt_of_nondecreasing r' t' h3 this g2
        · exact not_lt_of_nonincreasing t t' hp (List.Perm.cons_inv hc) g1

theorem nextPerm_chain_of_sorted (a : List Int) : ∀ L : List (List Int), L.Pairwise (· < ·) →
    (∀ b ∈ L, b.Perm a) → (∀ b, b.Perm a → ∀ x ∈ L, x < b → b ∈ L) →
    L.IsChain (fun x y => nextPerm x = some y) := by
  intro L
  induction L with
  | nil => intro _ _ _; exact List.IsChain.nil
  | cons x L ih =>
    intro hp hm hu
    cases L with
    | nil => exact List.IsChain.singleton _
    | cons y rest =>
      rw [List.isChain_cons_cons]
      rw [List.pairwise_cons] at hp
      have hxy : x < y := hp.1 y (by simp)
      have hxa : x.Perm a := hm x (by simp)
      have hya : y.Perm a := hm y (by simp)
      refine ⟨?_, ih hp.2 (fun b hb => hm b (List.mem_cons_of_mem _ hb)) ?_⟩
      · cases hn : nextPerm x with
        | none =>
          exact absurd hxy (not_lt_of_nonincreasing x y ((nextPerm_eq_none_iff x).mp hn) (hya.trans hxa.symm))
        | some b =>
          obtain ⟨h1, h2⟩ := nextPerm_lt_perm x b hn
          have hb : b ∈ x :: y :: rest := hu b (h2.trans hxa) x (by simp) h1
          rcases List.mem_cons.mp hb with rfl | hb
          · exact absurd h1 (List.lt_irrefl _)
          · rcases List.mem_cons.mp hb with rfl | hb
            · rfl
            · have hyb : y < b := (List.pairwise_cons.mp hp.2).1 b hb
              exact absurd hyb (nextPerm_minimal x b y hn (hya.trans hxa.symm) hxy)
      · intro b hb x' hx' hlt
        have := hu b hb x' (List.mem_cons_of_mem _ hx') hlt
        rcases List.mem_cons.mp this with rfl | h
        · exact absurd (List.lt_trans (hp.1 x' hx') hlt) (List.lt_irrefl _)
        · exact h

theorem nextPerm_last_of_sorted (a : List Int) (L : List (List Int)) (hp : L.Pairwise (· < ·))
    (hm : ∀ b, b ∈ L ↔ b.Perm a) : ∀ l ∈ L.getLast?, nextPerm l = none := by
  intro l hl
  obtain ⟨init, rfl⟩ : ∃ init, L = init ++ [l] := by
    rw [Option.mem_def, List.getLast?_eq_some_iff] at hl
    exact hl
  cases hn : nextPerm l with
  | none => rfl
  | some b =>
    exfalso
    obtain ⟨h1, h2⟩ := nextPerm_lt_perm l b hn
    have hb : b ∈ init ++ [l] := (hm b).mpr (h2.trans ((hm l).mp (by simp)))
    rw [List.pairwise_append] at hp
    rcases List.mem_append.mp hb with hb | hb
    · exact absurd (List.lt_trans (hp.2.2 b hb l (by simp)) h1) (List.lt_irrefl _)
    · simp only [List.mem_singleton] at hb
      subst hb
      exact absurd h1 (List.lt_irrefl _)

theorem head_of_sorted (a : List Int) (ha : a.Pairwise (· ≤ ·)) (L : List (List Int)) (hp : L.Pairwise (· < ·))
    (hm : ∀ b, b ∈ L ↔ b.Perm a) : L.head? = some a := by
  have haL : a ∈ L := (hm a).mpr (List.Perm.refl _)
  cases L with
  | nil => simp at haL
  | cons h rest =>
    rcases List.mem_cons.mp haL with rfl | hr
    · rfl
    · have := (List.pairwise_cons.mp hp).1 a hr
      exact absurd this (not_lt_of_nondecreasing a h ha ((hm h).mp (by simp)))

def Lex.Rep (s : Lex) (x : List Int) : Prop := s.a = x ∧ s.n = x.length ∧ s.first = false

def Lex.Dead (s : Lex) : Prop := s.n = s.a.length ∧ s.first = false ∧ nextPerm s.a = none

theorem Lex.next_dead (s : Lex) (h : Lex.Dead s) : ∃ s', Lex.next s = .ok (s', false) ∧ Lex.Dead s' := by
  obtain ⟨n, a, f⟩ := s
  obtain ⟨hn, hf, hd⟩ := h
  simp only at hn hf hd
  subst hf
  exact ⟨⟨n, a, false⟩, by rw [Lex.next_spec n a hn, hd], hn, rfl, hd⟩

theorem Lex.next_step (x y : List Int) (hxy : nextPerm x = some y) (s : Lex) (h : Lex.Rep s x) :
    ∃ s', Lex.next s = .ok (s', true) ∧ Lex.Rep s' y := by
  obtain ⟨n, a, f⟩ := s
  obtain ⟨ha, hn, hf⟩ := h
  simp only at ha hn hf
  subst ha hf
  refine ⟨⟨n, y, false⟩, by rw [Lex.next_spec n a hn, hxy], rfl, ?_, rfl⟩
  simp only [hn]
  rw [(nextPerm_lt_perm a y hxy).2.length_eq]

theorem Lex.enumerates_core (n : Int) (a0 : List Int) (hn : n = a0.length) (ha : a0.Pairwise (· ≤ ·))
    (L : List (List Int)) (hp : L.Pairwise (· < ·)) (hm : ∀ b, b ∈ L ↔ b.Perm a0) :
    ∀ bound, L.length < bound →
      ∃ s', outputs Lex.it bound ⟨n, a0, true⟩ = (L, s', .exhausted) ∧
        ∀ k, extras Lex.it k s' = .ok (List.replicate k none) := by
  intro bound hb
  have hhead := head_of_sorted a0 ha L hp hm
  have hchain := nextPerm_chain_of_sorted a0 L hp (fun b hb => (hm b).mp hb)
    (fun b hb _ _ _ => (hm b).mpr hb)
  obtain ⟨s', h1, _, h3⟩ := enumerates_aux Lex.it Lex.Rep Lex.Dead (fun x y => nextPerm x = some y)
    ⟨n, a0, true⟩ L hchain
    (by
      rintro s x ⟨h1, h2, h3⟩
      exact ⟨s, by simp [Lex.it, h1], h1, h2, h3⟩)
    (by intro hnil; simp [hnil] at hhead)
    (by
      intro x hx
      rw [hhead] at hx
      simp only [Option.mem_def, Option.some.injEq] at hx
      subst hx
      exact ⟨⟨n, a0, false⟩, by simp [Lex.it, Lex.next], rfl, hn, rfl⟩)
    (fun x y hxy s hs => Lex.next_step x y hxy s hs)
    (by
      intro x hx s hs
      have := nextPerm_last_of_sorted a0 L hp hm x hx
      obtain ⟨h1, h2, h3⟩ := hs
      exact Lex.next_dead s ⟨by rw [h1, h2], h3, by rw [h1]; exact this⟩)
    (fun s hs => Lex.next_dead s hs) bound hb
  exact ⟨s', h1, h3⟩

theorem multiPermAux_sorted : ∀ (k : Nat) (freq : List Int), (multiPermAux k freq).Pairwise (· < ·) := by
  intro k
  induction k with
  | zero => intro freq; simp [multiPermAux]
  | succ k ih =>
    intro freq
    simp only [multiPermAux]
    rw [List.pairwise_flatMap]
    constructor
    · intro i _
      split
      · exact (ih _).map _ (fun a b h => List.cons_lt_cons_iff.mpr (Or.inr ⟨rfl, h⟩))
      · exact List.Pairwise.nil
    · refine List.Pairwise.imp ?_ List.pairwise_lt_range
      intro i j hij x hx y hy
      split at hx
      · split at hy
        · obtain ⟨t, _, rfl⟩ := List.mem_map.mp hx
          obtain ⟨t', _, rfl⟩ := List.mem_map.mp hy
          exact List.cons_lt_cons_iff.mpr (Or.inl (by omega))
        · simp at hy
      · simp at hx

theorem getD_set_self (freq : List Int) (i : Nat) (x : Int) (h : i < freq.length) :
    (freq.set i x).getD i 0 = x := by
  simp [List.getD_eq_getElem?_getD, h]

theorem getD_set_ne (freq : List Int) (i j : Nat) (x : Int) (h : i ≠ j) :
    (freq.set i x).getD j 0 = freq.getD j 0 := by
  simp [List.getD_eq_getElem?_getD, h]

theorem getD_pos_lt (freq : List Int) (i : Nat) (h : 0 < freq.getD i 0) : i < freq.length := by
  by_contra hc
  have : freq[i]? = none := List.getElem?_eq_none_iff.mpr (by omega)
  simp [List.getD_eq_getElem?_getD, this] at h

theorem mem_multiPermAux : ∀ (k : Nat) (freq b : List Int),
    b ∈ multiPermAux k freq ↔ b.length = k ∧ ∀ v ∈ b, 0 ≤ v ∧ (b.count v : Int) ≤ freq.getD v.toNat 0 := by
  intro k
  induction k with
  | zero =>
    intro freq b
    simp only [multiPermAux, List.mem_singleton, List.length_eq_zero_iff]
    constructor
    · rintro rfl; exact ⟨rfl, by intro v hv; simp at hv⟩
    · exact fun h => h.1
  | succ k ih =>
    intro freq b
    simp only [multiPermAux, List.mem_flatMap, List.mem_range]
    constructor
    · rintro ⟨i, hi, hb⟩
      split at hb
      · next hpos =>
        obtain ⟨t, ht, rfl⟩ := List.mem_map.mp hb
        obtain ⟨hl, harr⟩ := (ih _ t).mp ht
        refine ⟨by simp [hl], ?_⟩
        intro v hv
        by_cases hvi : v = (i : Int)
        · subst hvi
          refine ⟨by omega, ?_⟩
          simp only [List.count_cons_self, Int.toNat_natCast]
          by_cases hit : (i : Int) ∈ t
          · have := (harr _ hit).2
            rw [Int.toNat_natCast, getD_set_self _ _ _ hi] at this
            omega
          · rw [List.count_eq_zero_of_not_mem hit]; omega
        · have hvt : v ∈ t := by
            rcases List.mem_cons.mp hv with h | h
            · exact absurd h hvi
            · exact h
          obtain ⟨h0, hc⟩ := harr v hvt
          refine ⟨h0, ?_⟩
          rw [getD_set_ne _ _ _ _ (by omega)] at hc
          rw [List.count_cons_of_ne (fun h => hvi h.symm)]
          exact hc
      · simp at hb
    · rintro ⟨hl, harr⟩
      cases b with
      | nil => simp at hl
      | cons v0 t =>
        obtain ⟨h0, hc⟩ := harr v0 (by simp)
        simp only [List.count_cons_self] at hc
        have hpos : 0 < freq.getD v0.toNat 0 := by omega
        have hlt := getD_pos_lt freq _ hpos
        refine ⟨v0.toNat, hlt, ?_⟩
        simp only [hpos, if_true, List.mem_map]
        refine ⟨t, (ih _ t).mpr ⟨by simpa using hl, ?_⟩, by simp [Int.toNat_of_nonneg h0]⟩
        intro v hv
        obtain ⟨hv0, hvc⟩ := harr v (List.mem_cons_of_mem _ hv)
        refine ⟨hv0, ?_⟩
        by_cases hvv : v = v0
        · subst hvv
          rw [getD_set_self _ _ _ hlt]
          simp only [List.count_cons_self] at hvc
          omega
        · rw [getD_set_ne _ _ _ _ (by omega)]
          rw [List.count_cons_of_ne (fun h => hvv h.symm)] at hvc
          exact hvc

theorem sumInts_cons (f : Int) (fs : List Int) : sumInts (f :: fs) = f + sumInts fs := by
  simp only [sumInts, ← List.sum_eq_foldl, List.sum_cons]

theorem sumInts_nonneg : ∀ freq : List Int, (∀ f ∈ freq, 0 ≤ f) → 0 ≤ sumInts freq := by
  intro freq
  induction freq with
  | nil => intro _; simp [sumInts]
  | cons f fs ih =>
    intro h
    rw [sumInts_cons]
    have := ih (fun g hg => h g (List.mem_cons_of_mem _ hg))
    have := h f (by simp)
    omega

/-- the generator of `multiSorted` with the index offset made explicit -/
def expandFrom (freq : List Int) (k : Nat) : List Int :=
  (freq.zipIdx k).flatMap (fun (f, i) => List.replicate f.toNat (i : Int))

theorem expandFrom_cons (f : Int) (fs : List Int) (k : Nat) :
    expandFrom (f :: fs) k = List.replicate f.toNat (k : Int) ++ expandFrom fs (k + 1) := by
  simp [expandFrom]

theorem expandFrom_length : ∀ (freq : List Int) (k : Nat), (∀ f ∈ freq, 0 ≤ f) →
    ((expandFrom freq k).length : Int) = sumInts freq := by
  intro freq
  induction freq with
  | nil => intro k _; simp [expandFrom, sumInts]
  | cons f fs ih =>
    intro k h
    rw [expandFrom_cons, sumInts_cons, List.length_append, List.length_replicate, Int.natCast_add,
      ih (k + 1) (fun g hg => h g (List.mem_cons_of_mem _ hg))]
    have := h f (by simp)
    omega

theorem expandFrom_sorted : ∀ (freq : List Int) (k : Nat),
    (expandFrom freq k).Pairwise (· ≤ ·) ∧ ∀ e ∈ expandFrom freq k, (k : Int) ≤ e := by
  intro freq
  induction freq with
  | nil => intro k; simp [expandFrom]
  | cons f fs ih =>
    intro k
    obtain ⟨h1, h2⟩ := ih (k + 1)
    rw [expandFrom_cons]
    constructor
    · rw [List.pairwise_append]
      refine ⟨?_, h1, ?_⟩
      · rw [List.pairwise_replicate]; right; exact Int.le_refl _
      · intro a ha b hb
        have := h2 b hb
        rw [List.mem_replicate] at ha
        omega
    · intro e he
      rcases List.mem_append.mp he with he | he
      · rw [List.mem_replicate] at he; omega
      · have := h2 e he; omega

theorem expandFrom_count : ∀ (freq : List Int) (k : Nat) (v : Int),
    (expandFrom freq k).count v = if (k : Int) ≤ v then (freq.getD (v - k).toNat 0).toNat else 0 := by
  intro freq
  induction freq with
  | nil => intro k v; simp [expandFrom]
  | cons f fs ih =>
    intro k v
    rw [expandFrom_cons, List.count_append, List.count_replicate, ih (k + 1) v]
    by_cases h1 : (k : Int) = v
    · subst h1
      simp
      intro h; omega
    · have : ((k : Int) == v) = false := by simpa using h1
      simp only [this, Bool.false_eq_true, if_false, Nat.zero_add]
      by_cases h2 : (k : Int) ≤ v
      · have h3 : ((k + 1 : Nat) : Int) ≤ v := by omega
        have h4 : (v - (k : Int)).toNat = (v - ((k + 1 : Nat) : Int)).toNat + 1 := by omega
        simp only [h2, h3, if_true, h4, List.getD_cons_succ]
      · have h3 : ¬ ((k + 1 : Nat) : Int) ≤ v := by omega
        simp only [h2, h3, if_false]

theorem multiSorted_eq (freq : List Int) : multiSorted freq = expandFrom freq 0 := rfl

theorem mem_multiPermList (freq : List Int) (hf : ∀ f ∈ freq, 0 ≤ f) (b : List Int) :
    b ∈ multiPermList freq ↔ b.Perm (multiSorted freq) := by
  have hlen := expandFrom_length freq 0 hf
  have hsum : sumInts freq = freq.foldl (· + ·) 0 := rfl
  rw [hsum] at hlen
  have hcnt := expandFrom_count freq 0
  rw [multiPermList, mem_multiPermAux, multiSorted_eq]
  constructor
  · rintro ⟨hl, harr⟩
    apply List.Subperm.perm_of_length_le
    · rw [List.subperm_ext_iff]
      intro x hx
      obtain ⟨h0, hc⟩ := harr x hx
      rw [hcnt x]
      simp only [Int.natCast_zero, h0, if_true, Int.sub_zero]
      omega
    · omega
  · intro hp
    refine ⟨by have := hp.length_eq; omega, ?_⟩
    intro v hv
    have hc := hp.count_eq v
    have hpos : 0 < b.count v := List.count_pos_iff.mpr hv
    rw [hcnt v] at hc
    by_cases h0 : 0 ≤ v
    · simp only [Int.natCast_zero, h0, if_true, Int.sub_zero] at hc
      exact ⟨h0, by omega⟩
    · simp only [Int.natCast_zero, h0, if_false] at hc
      omega

theorem multiPermList_sorted (freq : List Int) : (multiPermList freq).Pairwise (· < ·) :=
  multiPermAux_sorted _ _

theorem multiSorted_sorted (freq : List Int) : (multiSorted freq).Pairwise (· ≤ ·) :=
  (expandFrom_sorted freq 0).1

theorem expandFrom_ones : ∀ (m k : Nat),
    expandFrom (List.replicate m 1) k = (List.range' k m).map Int.ofNat := by
  intro m
  induction m with
  | zero => intro k; simp [expandFrom]
  | succ m ih =>
    intro k
    rw [List.replicate_succ, expandFrom_cons, ih (k + 1), List.range'_succ]
    simp

theorem multiSorted_ones (m : Nat) : multiSorted (List.replicate m 1) = (List.range m).map Int.ofNat := by
  rw [multiSorted_eq, expandFrom_ones, List.range_eq_range']

theorem mem_lexPermList (n : Int) (b : List Int) :
    b ∈ lexPermList n ↔ b.Perm ((List.range n.toNat).map Int.ofNat) := by
  rw [lexPermList, mem_multiPermList _ (by intro f hf; rw [List.mem_replicate] at hf; omega),
    multiSorted_ones]

theorem lexPermList_sorted (n : Int) : (lexPermList n).Pairwise (· < ·) :=
  multiPermList_sorted _

theorem multiPermList_chain (freq : List Int) (hf : ∀ f ∈ freq, 0 ≤ f) :
    (multiPermList freq).IsChain (fun x y => nextPerm x = some y) ∧
    (multiPermList freq).head? = some (multiSorted freq) ∧
    ∀ l ∈ (multiPermList freq).getLast?, nextPerm l = none :=
  ⟨nextPerm_chain_of_sorted (multiSorted freq) _ (multiPermList_sorted freq)
      (fun b hb => (mem_multiPermList freq hf b).mp hb) (fun b hb _ _ _ => (mem_multiPermList freq hf b).mpr hb),
    head_of_sorted _ (multiSorted_sorted freq) _ (multiPermList_sorted freq) (mem_multiPermList freq hf),
    nextPerm_last_of_sorted _ _ (multiPermList_sorted freq) (mem_multiPermList freq hf)⟩

example : lexPermList 3 = [[0, 1, 2], [0, 2, 1], [1, 0, 2], [1, 2, 0], [2, 0, 1], [2, 1, 0]] := by decide
example : multiPermList [2, 0, 1] = [[0, 0, 2], [0, 2, 0], [2, 0, 0]] := by decide
example : nextPerm [0, 3, 2, 2, 1, 1, 0] = some [1, 0, 0, 1, 2, 2, 3] := by decide

end Iter
