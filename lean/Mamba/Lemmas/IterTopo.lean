import Mathlib.Data.List.Chain
import Mathlib.Data.List.Nodup
import Mamba.Model.IterPerm
import Mamba.Lemmas.IterSlice
import Mamba.Lemmas.IterChain
import Mamba.Lemmas.IterGeneric
/-!
# `TopologicalSorts(n, less)` (Algorithm V; model `Iter.Topo`)

The specification stands at the top, in `namespace Iter.Spec`: `topoList less n` puts `n-1` into every arrangement of
`0..n-2`, at the right end first and then further left as long as `less` allows (`slide`); `topoSucc` is the successor in
that list, `inverse σ` the second component of a value.  `Topo.scan` computes `topoSucc` and keeps the inverse array
(`topo_scan_spec`; `GI st inv`: `inv` is the inverse of `st`).  `Topo.Rep n s (σ, inverse σ)`: the state shows `σ` with
its inverse; `Topo.Dead`: `done` is set.  The enumeration theorem is an instance of `enumerates_succ` (IterGeneric).
-/

namespace Iter.Spec

/-- the identity arrangement `[0, 1, …, m-1]` -/
def idList (m : Nat) : List Int := (List.range m).map (fun (i : Nat) => (i : Int))

/-- `inverse σ`: the list whose entry at `e` is the position of `e` in `σ` -/
def inverse (σ : List Int) : List Int :=
  (List.range σ.length).map (fun (e : Nat) => ((σ.idxOf (e : Int) : Nat) : Int))

/-- `slide less k rpre suf`: the arrangements `a ++ k :: b ++ suf` with `a ++ b = rpre.reverse`, starting with
`b = []` and moving `k` one step to the left as long as its left neighbour `l` does not satisfy `less l k`. -/
def slide (less : Int → Int → Bool) (k : Int) : List Int → List Int → List (List Int)
  | [], suf => [k :: suf]
  | l :: rpre, suf =>
    ((l :: rpre).reverse ++ k :: suf) :: (if less l k then [] else slide less k rpre (l :: suf))

/-- the topological sorts of `0..n-1` in the order of Algorithm V -/
def topoList (less : Int → Int → Bool) : Nat → List (List Int)
  | 0 => [[]]
  | k+1 => (topoList less k).flatMap (fun σ => slide less (k : Int) σ.reverse [])

/-- the successor of an arrangement of `0..n-1` in Algorithm V -/
def topoSucc (less : Int → Int → Bool) : Nat → List Int → Option (List Int)
  | 0, _ => none
  | k+1, x =>
    let a := x.take (x.idxOf (k : Int))
    let b := x.drop (x.idxOf (k : Int) + 1)
    match a.getLast? with
    | some l =>
      if less l k then (topoSucc less k (a ++ b)).map (· ++ [(k : Int)])
      else some (a.dropLast ++ (k : Int) :: l :: b)
    | none => (topoSucc less k (a ++ b)).map (· ++ [(k : Int)])

end Iter.Spec

namespace Iter
open Spec

theorem topoSucc_split (less : Int → Int → Bool) (k : Nat) (a b : List Int) (h : (k : Int) ∉ a) :
    topoSucc less (k + 1) (a ++ (k : Int) :: b) =
      match a.getLast? with
      | some l =>
        if less l k then (topoSucc less k (a ++ b)).map (· ++ [(k : Int)])
        else some (a.dropLast ++ (k : Int) :: l :: b)
      | none => (topoSucc less k (a ++ b)).map (· ++ [(k : Int)]) := by
  have hi : (a ++ (k : Int) :: b).idxOf (k : Int) = a.length := by
    rw [List.idxOf_append_of_notMem h]; simp
  simp only [topoSucc, hi]
  simp

theorem slide_head (less : Int → Int → Bool) (k : Int) (rpre suf : List Int) :
    (slide less k rpre suf).head? = some (rpre.reverse ++ k :: suf) := by
  cases rpre <;> simp [slide]

theorem slide_ne_nil (less : Int → Int → Bool) (k : Int) (rpre suf : List Int) :
    slide less k rpre suf ≠ [] := by
  cases rpre <;> simp [slide]

theorem mem_slide (less : Int → Int → Bool) (k : Int) : ∀ (rpre suf x : List Int),
    x ∈ slide less k rpre suf ↔
      ∃ a b, rpre.reverse = a ++ b ∧ x = a ++ k :: b ++ suf ∧ ∀ l ∈ b, less l k = false := by
  intro rpre
  induction rpre with
  | nil =>
    intro suf x
    simp only [slide, List.mem_singleton, List.reverse_nil, List.nil_eq, List.append_eq_nil_iff]
    constructor
    · rintro rfl; exact ⟨[], [], ⟨rfl, rfl⟩, rfl, by simp⟩
    · rintro ⟨a, b, ⟨rfl, rfl⟩, rfl, _⟩; rfl
  | cons l rpre ih =>
    intro suf x
    simp only [slide, List.mem_cons]
    constructor
    · rintro (rfl | hx)
      · exact ⟨(l :: rpre).reverse, [], by simp, by simp, by simp⟩
      · by_cases hl : less l k = true
        · simp [hl] at hx
        · simp only [hl, Bool.false_eq_true, if_false] at hx
          obtain ⟨a, b, h1, h2, h3⟩ := (ih _ _).mp hx
          refine ⟨a, b ++ [l], by simp [h1], by simp [h2], ?_⟩
          intro e he
          rcases List.mem_append.mp he with he | he
          · exact h3 e he
          · simp at he; subst he; simpa using hl
    · rintro ⟨a, b, h1, h2, h3⟩
      rcases List.eq_nil_or_concat b with rfl | ⟨b', e, rfl⟩
      · left; simp at h1; simp [h2, ← h1]
      · right
        rw [List.concat_eq_append] at h1 h2 h3
        simp only [List.reverse_cons, ← List.append_assoc] at h1
        obtain ⟨h1a, h1b⟩ := List.append_inj' h1 rfl
        simp only [List.cons.injEq, and_true] at h1b
        subst h1b
        have hl : less l k = false := h3 l (by simp)
        simp only [hl, Bool.false_eq_true, if_false]
        exact (ih _ _).mpr ⟨a, b', h1a, by simp [h2], fun e he => h3 e (by simp [he])⟩

theorem slide_chain (less : Int → Int → Bool) (k : Nat) : ∀ (rpre suf : List Int), (k : Int) ∉ rpre →
    (slide less (k : Int) rpre suf).IsChain (fun x y => topoSucc less (k + 1) x = some y) := by
  intro rpre
  induction rpre with
  | nil => intro suf _; simp [slide]
  | cons l rpre ih =>
    intro suf hk
    simp only [List.mem_cons, not_or] at hk
    simp only [slide]
    by_cases hl : less l k = true
    · simp [hl]
    · simp only [hl, Bool.false_eq_true, if_false]
      apply List.IsChain.cons (ih _ hk.2)
      intro y hy
      rw [slide_head] at hy
      simp only [Option.mem_def, Option.some.injEq] at hy
      subst hy
      have := topoSucc_split less k (rpre.reverse ++ [l]) suf (by simp [hk.2, hk.1])
      simp only [List.reverse_cons]
      rw [this]
      simp [hl]

theorem slide_last (less : Int → Int → Bool) (k : Nat) : ∀ (rpre suf : List Int), (k : Int) ∉ rpre →
    ∀ z ∈ (slide less (k : Int) rpre suf).getLast?,
      topoSucc less (k + 1) z = (topoSucc less k (rpre.reverse ++ suf)).map (· ++ [(k : Int)]) := by
  intro rpre
  induction rpre with
  | nil =>
    intro suf _ z hz
    simp only [slide, List.getLast?_singleton, Option.mem_def, Option.some.injEq] at hz
    subst hz
    have := topoSucc_split less k [] suf (by simp)
    simpa using this
  | cons l rpre ih =>
    intro suf hk z hz
    simp only [List.mem_cons, not_or] at hk
    simp only [slide] at hz
    by_cases hl : less l k = true
    · simp only [hl, if_true, List.getLast?_singleton, Option.mem_def, Option.some.injEq] at hz
      subst hz
      have := topoSucc_split less k (rpre.reverse ++ [l]) suf (by simp [hk.2, hk.1])
      simp only [List.reverse_cons]
      rw [this]
      simp [hl]
    · simp only [hl, Bool.false_eq_true, if_false] at hz
      rw [List.getLast?_cons_of_ne_nil (slide_ne_nil _ _ _ _)] at hz
      have := ih (l :: suf) hk.2 z hz
      rw [this]
      simp

theorem idList_succ (k : Nat) : idList (k + 1) = idList k ++ [(k : Int)] := by
  simp [idList, List.range_succ]

theorem mem_idList (k : Nat) (e : Int) : e ∈ idList k ↔ 0 ≤ e ∧ e < k := by
  simp only [idList, List.mem_map, List.mem_range]
  constructor
  · rintro ⟨i, hi, rfl⟩; omega
  · rintro ⟨h0, h1⟩; exact ⟨e.toNat, by omega, by omega⟩

theorem length_idList (k : Nat) : (idList k).length = k := by simp [idList]

theorem topoList_perm (less : Int → Int → Bool) : ∀ (k : Nat) (σ : List Int),
    σ ∈ topoList less k → σ.Perm (idList k) := by
  intro k
  induction k with
  | zero => intro σ h; simp [topoList] at h; subst h; simp [idList]
  | succ k ih =>
    intro σ h
    simp only [topoList, List.mem_flatMap] at h
    obtain ⟨τ, hτ, hσ⟩ := h
    obtain ⟨a, b, h1, h2, _⟩ := (mem_slide _ _ _ _ _).mp hσ
    simp only [List.reverse_reverse] at h1
    subst h1 h2
    rw [idList_succ, List.append_nil]
    refine List.perm_middle.trans ?_
    refine (List.Perm.cons _ (ih _ hτ)).trans ?_
    exact (List.perm_append_singleton _ _).symm

theorem notMem_of_perm_idList {k : Nat} {σ : List Int} (h : σ.Perm (idList k)) : (k : Int) ∉ σ := by
  intro hk
  have := (mem_idList k k).mp (h.subset hk)
  omega

theorem topoList_chain (less : Int → Int → Bool) : ∀ n : Nat,
    (topoList less n).IsChain (fun x y => topoSucc less n x = some y) ∧
    (topoList less n).head? = some (idList n) ∧
    ∃ l, (topoList less n).getLast? = some l ∧ topoSucc less n l = none := by
  intro n
  induction n with
  | zero => simp [topoList, topoSucc, idList]
  | succ k ih =>
    obtain ⟨ihc, ihh, l, ihl, ihn⟩ := ih
    have hk : ∀ σ ∈ topoList less k, (k : Int) ∉ σ.reverse := by
      intro σ hσ
      rw [List.mem_reverse]
      exact notMem_of_perm_idList (topoList_perm less k σ hσ)
    have key := isChain_flatMap (fun x y => topoSucc less k x = some y)
      (fun x y => topoSucc less (k + 1) x = some y)
      (fun σ => slide less (k : Int) σ.reverse []) (topoList less k) ihc
      (fun σ hσ => slide_chain less k _ _ (hk σ hσ))
      (fun σ _ => slide_ne_nil _ _ _ _)
      (by
        intro σ hσ σ' _ hs x hx y hy
        rw [slide_head] at hy
        simp only [Option.mem_def, Option.some.injEq] at hy
        subst hy
        rw [slide_last less k _ _ (hk σ hσ) x hx]
        simp [hs])
    obtain ⟨k1, k2, k3⟩ := key
    refine ⟨k1, ?_, ?_⟩
    · show ((topoList less k).flatMap _).head? = _
      rw [k2, ihh]
      simp [slide_head, idList_succ]
    · have hlm : l ∈ topoList less k := List.mem_of_getLast? ihl
      have hne := slide_ne_nil less (k : Int) l.reverse []
      obtain ⟨z, hz⟩ : ∃ z, (slide less (k : Int) l.reverse []).getLast? = some z := by
        cases h : (slide less (k : Int) l.reverse []).getLast? with
        | none => exact absurd (List.getLast?_eq_none_iff.mp h) hne
        | some z => exact ⟨z, rfl⟩
      refine ⟨z, ?_, ?_⟩
      · show ((topoList less k).flatMap _).getLast? = _
        rw [k3, ihl]; simpa using hz
      · rw [slide_last less k _ _ (hk l hlm) z hz]
        simp [ihn]

theorem shift_spec (k : Nat) : ∀ (b P R : List Int) (y : Int) (inv : Sl) (fuel : Nat),
    P.length + b.length = k → b.length < fuel → b.Nodup → (∀ e ∈ b, ∃ w, get inv e = .ok w) →
    ∃ y' inv', Topo.shift (k : Int) fuel (P.length : Int) (P ++ y :: b ++ R) inv = .ok (P ++ b ++ y' :: R, inv') ∧
      inv'.length = inv.length ∧
      ∀ e, get inv' e = if e ∈ b then .ok (((P.length + b.idxOf e : Nat)) : Int) else get inv e := by
  intro b
  induction b with
  | nil =>
    intro P R y inv fuel hk hf _ _
    obtain ⟨f, rfl⟩ : ∃ f, fuel = f + 1 := ⟨fuel - 1, by simp at hf; omega⟩
    simp only [List.length_nil, Nat.add_zero] at hk
    refine ⟨y, inv, ?_, rfl, by simp⟩
    simp [Topo.shift, hk]
  | cons l b ih =>
    intro P R y inv fuel hk hf hnd hok
    obtain ⟨f, rfl⟩ : ∃ f, fuel = f + 1 := ⟨fuel - 1, by simp at hf; omega⟩
    simp only [List.length_cons] at hk hf
    rw [List.nodup_cons] at hnd
    have hjk : (P.length : Int) < (k : Int) := by omega
    have g1 : get (P ++ y :: (l :: b) ++ R) ((P.length : Int) + 1) = .ok l := by
      have := get_append_length (P ++ [y]) (b ++ R) l
      simpa using this
    have s1 : set (P ++ y :: (l :: b) ++ R) (P.length : Int) l = .ok (P ++ l :: (l :: b) ++ R) := by
      simp
    obtain ⟨wl, hwl⟩ := hok l (by simp)
    obtain ⟨inv1, s2, hlen1, hget1⟩ := set_spec inv l (P.length : Int) wl hwl
    have hok1 : ∀ e ∈ b, ∃ w, get inv1 e = .ok w := by
      intro e he
      rw [hget1]
      by_cases hel : e = l
      · simp [hel]
      · simpa [hel] using hok e (by simp [he])
    obtain ⟨y', inv', h1, h2, h3⟩ := ih (P ++ [l]) R l inv1 f (by simp; omega) (by omega) hnd.2 hok1
    refine ⟨y', inv', ?_, by omega, ?_⟩
    · unfold Topo.shift
      simp only [hjk, if_true, g1, s1, s2, Outcome.bind_ok]
      simp only [List.length_append, List.length_cons, List.length_nil, Nat.zero_add, Int.natCast_add,
        Int.natCast_one, List.append_assoc, List.cons_append, List.nil_append] at h1
      simp only [List.append_assoc, List.cons_append]
      exact h1
    · intro e
      rw [h3, hget1]
      by_cases hel : e = l
      · subst hel
        simp [hnd.1]
      · by_cases heb : e ∈ b
        · have : ¬ (l = e) := fun h => hel h.symm
          simp [heb, hel, this]; omega
        · simp [heb, hel]

/-- `inv` is the inverse of `st` (on the elements of `st`) -/
def GI (st inv : Sl) : Prop := ∀ e ∈ st, get inv e = .ok ((st.idxOf e : Nat) : Int)

theorem idxOf_append_cons_self {a : List Int} {x : Int} (t : List Int) (h : x ∉ a) :
    (a ++ x :: t).idxOf x = a.length := by
  rw [List.idxOf_append_of_notMem h, List.idxOf_cons_self, Nat.add_zero]

theorem idxOf_append_cons_cons_self {a : List Int} {x y : Int} (t : List Int) (h : y ∉ a) (hne : y ≠ x) :
    (a ++ x :: y :: t).idxOf y = a.length + 1 := by
  rw [List.idxOf_append_of_notMem h, List.idxOf_cons_ne _ (Ne.symm hne), List.idxOf_cons_self]

theorem idxOf_swap_adj (a t : List Int) {x y e : Int} (hx : x ≠ e) (hy : y ≠ e) :
    (a ++ x :: y :: t).idxOf e = (a ++ y :: x :: t).idxOf e := by
  simp [List.idxOf_append, hx, hy]

theorem idxOf_move (a b R : List Int) {k e : Int} (hk : k ≠ e) (hb : e ∉ b) :
    (a ++ b ++ k :: R).idxOf e = (a ++ k :: b ++ R).idxOf e := by
  have hke : (k == e) = false := by simpa using hk
  simp only [List.idxOf_append, List.idxOf_cons, List.mem_append, List.mem_cons, hb, hk.symm, hke, or_false,
    cond_false, List.length_append, List.length_cons]
  split <;> omega

theorem home_spec (k : Nat) (a b R : List Int) (inv : Sl) (hlen : a.length + b.length = k)
    (hnd : (a ++ (k : Int) :: b ++ R).Nodup) (hg : GI (a ++ (k : Int) :: b ++ R) inv) :
    ∃ y' inv1 inv2,
      Topo.shift (k : Int) (k + 2) (a.length : Int) (a ++ (k : Int) :: b ++ R) inv = .ok (a ++ b ++ y' :: R, inv1) ∧
      set (a ++ b ++ y' :: R) (k : Int) (k : Int) = .ok (a ++ b ++ (k : Int) :: R) ∧
      set inv1 (k : Int) (k : Int) = .ok inv2 ∧ inv2.length = inv.length ∧ GI (a ++ b ++ (k : Int) :: R) inv2 := by
  simp only [List.append_assoc, List.cons_append, List.nodup_append, List.nodup_cons, List.mem_append,
    List.mem_cons] at hnd
  obtain ⟨hnda, ⟨hkbR, hndb, hndR, hbR⟩, haall⟩ := hnd
  have hkb : (k : Int) ∉ b := fun h => hkbR (Or.inl h)
  have hkR : (k : Int) ∉ R := fun h => hkbR (Or.inr h)
  have hka : (k : Int) ∉ a := fun h => haall _ h _ (Or.inl rfl) rfl
  have hab : ∀ e ∈ a, e ∉ b := fun e he h => haall e he e (Or.inr (Or.inl h)) rfl
  have haR : ∀ e ∈ a, e ∉ R := fun e he h => haall e he e (Or.inr (Or.inr h)) rfl
  have hbR' : ∀ e ∈ b, e ∉ R := fun e he h => hbR e he e h rfl
  have hokb : ∀ e ∈ b, ∃ w, get inv e = .ok w := fun e he => ⟨_, hg e (by simp [he])⟩
  obtain ⟨y', inv1, h1, h2, h3⟩ := shift_spec k b a R (k : Int) inv (k + 2) hlen (by omega) hndb hokb
  have hk1 : get inv1 (k : Int) = .ok (a.length : Int) := by
    rw [h3, if_neg hkb, hg (k : Int) (by simp)]
    simp [List.idxOf_append, hka]
  obtain ⟨inv2, h4, h5, h6⟩ := set_spec inv1 (k : Int) (k : Int) _ hk1
  refine ⟨y', inv1, inv2, h1, ?_, h4, by omega, ?_⟩
  · have := set_append_length (a ++ b) R y' (k : Int)
    simpa [hlen] using this
  · intro e he
    rw [h6, h3]
    split
    · next hek =>
      have hkab : (k : Int) ∉ a ++ b := by simp [hka, hkb]
      rw [hek, idxOf_append_cons_self R hkab, List.length_append, hlen]
    · next hek =>
      split
      · next heb =>
        rw [List.append_assoc, List.idxOf_append_of_notMem (fun h => hab e h heb), List.idxOf_append_of_mem heb,
          Nat.add_comm]
      · next heb =>
        have he' : e ∈ a ++ (k : Int) :: b ++ R := by
          simp only [List.mem_append, List.mem_cons] at he ⊢
          rcases he with (h | h) | h | h
          exacts [Or.inl (Or.inl h), absurd h heb, absurd h hek, Or.inr h]
        rw [hg e he', idxOf_move a b R (Ne.symm hek) heb]

theorem swap_spec (k l : Int) (a' t : List Int) (inv : Sl) (J : Int) (hJ : J = (a'.length : Int) + 1)
    (hnd : (a' ++ l :: k :: t).Nodup) (hg : GI (a' ++ l :: k :: t) inv) :
    ∃ inv1 inv2,
      get (a' ++ l :: k :: t) (J - 1) = .ok l ∧
      set (a' ++ l :: k :: t) (J - 1) k = .ok (a' ++ k :: k :: t) ∧
      set (a' ++ k :: k :: t) J l = .ok (a' ++ k :: l :: t) ∧
      set inv k (J - 1) = .ok inv1 ∧ set inv1 l J = .ok inv2 ∧ inv2.length = inv.length ∧
      GI (a' ++ k :: l :: t) inv2 := by
  subst hJ
  simp only [Int.add_sub_cancel]
  obtain ⟨-, hnd2, hdis⟩ := List.nodup_append.mp hnd
  have hla : l ∉ a' := fun h => hdis l h l (by simp) rfl
  have hka : k ∉ a' := fun h => hdis k h k (by simp) rfl
  have hlk : l ≠ k := fun h => (List.nodup_cons.mp hnd2).1 (h ▸ List.mem_cons_self)
  obtain ⟨inv1, h1, h2, h3⟩ := set_spec inv k (a'.length : Int) _ (hg k (by simp))
  have hl1 : get inv1 l = .ok (a'.length : Int) := by
    rw [h3, if_neg hlk, hg l (by simp), idxOf_append_cons_self _ hla]
  obtain ⟨inv2, h4, h5, h6⟩ := set_spec inv1 l ((a'.length : Int) + 1) _ hl1
  refine ⟨inv1, inv2, get_append_length _ _ _, set_append_length _ _ _ _, ?_, h1, h4, by omega, ?_⟩
  · rw [List.append_cons a' k, List.append_cons a' k (l :: t)]
    exact set_at _ _ _ _ _ (by simp)
  · intro e he
    rw [h6, h3]
    split
    · next hel => rw [hel, idxOf_append_cons_cons_self t hla hlk, Int.natCast_add, Int.natCast_one]
    · next hel =>
      split
      · next hek => rw [hek, idxOf_append_cons_self _ hka]
      · next hek =>
        rw [hg e (((List.Perm.swap k l t).append_left a').mem_iff.mpr he),
          idxOf_swap_adj a' t (Ne.symm hel) (Ne.symm hek)]

theorem topo_scan_spec (less : Int → Int → Bool) : ∀ (k : Nat) (x R : List Int) (inv : Sl),
    x.Perm (idList k) → (x ++ R).Nodup → GI (x ++ R) inv →
    ∃ inv', inv'.length = inv.length ∧
      ((∃ y, topoSucc less k x = some y ∧ Topo.scan less k (x ++ R) inv = .ok (y ++ R, inv', true) ∧
          y.Perm (idList k) ∧ GI (y ++ R) inv') ∨
       (topoSucc less k x = none ∧ Topo.scan less k (x ++ R) inv = .ok (idList k ++ R, inv', false) ∧
          GI (idList k ++ R) inv')) := by
  intro k
  induction k with
  | zero =>
    intro x R inv hp hnd hg
    have hx : x = [] := by simpa [idList] using hp
    subst hx
    exact ⟨inv, rfl, Or.inr ⟨by simp [topoSucc], by simp [Topo.scan, idList], by simpa [idList] using hg⟩⟩
  | succ k ih =>
    intro x R inv hp hnd hg
    have hkx : (k : Int) ∈ x := hp.symm.subset (by simp [idList_succ])
    obtain ⟨a, b, rfl⟩ := List.append_of_mem hkx
    have hlen : a.length + b.length = k := by
      have := hp.length_eq
      simp [length_idList] at this; omega
    have hp' : (a ++ b).Perm (idList k) := by
      rw [idList_succ] at hp
      exact ((List.perm_middle.symm.trans hp).trans (List.perm_append_singleton _ _)).cons_inv
    have hka : (k : Int) ∉ a := by
      intro h
      have := notMem_of_perm_idList hp'
      exact this (by simp [h])
    have hsplit := topoSucc_split less k a b hka
    have e0 : a ++ (k : Int) :: b ++ R = a ++ (k : Int) :: (b ++ R) := by simp
    have hnd0 : (a ++ (k : Int) :: b ++ R).Nodup := hnd
    have hj : get inv (k : Int) = .ok (a.length : Int) := by
      rw [hg (k : Int) (by simp)]
      simp [List.idxOf_append, hka]
    -- either `k` moves one step to the left, or it goes home and the scan continues below `k`
    have hcase : (∃ a' l, a = a' ++ [l] ∧ less l (k : Int) = false) ∨
        (topoSucc less (k + 1) (a ++ (k : Int) :: b) = (topoSucc less k (a ++ b)).map (· ++ [(k : Int)]) ∧
          (do
            let __x ← Topo.shift (k : Int) (k + 2) (a.length : Int) (a ++ (k : Int) :: b ++ R) inv
            let st ← set __x.fst (k : Int) (k : Int)
            let inv ← set __x.snd (k : Int) (k : Int)
            Topo.scan less k st inv) = Topo.scan less (k + 1) (a ++ (k : Int) :: b ++ R) inv) := by
      rcases List.eq_nil_or_concat a with rfl | ⟨a', l, rfl⟩
      · refine Or.inr ⟨by simpa using hsplit, ?_⟩
        conv => rhs; unfold Topo.scan
        simp only [hj, Outcome.bind_ok]
        simp
      · rw [List.concat_eq_append] at hsplit hj ⊢
        cases hl : less l (k : Int) with
        | false => exact Or.inl ⟨a', l, rfl, hl⟩
        | true =>
          refine Or.inr ⟨by simpa [hl] using hsplit, ?_⟩
          have w1 : get (a' ++ [l] ++ (k : Int) :: b ++ R) ((((a' ++ [l]).length : Nat) : Int) - 1) = .ok l := by
            simp
          conv => rhs; unfold Topo.scan
          simp only [hj, Outcome.bind_ok, w1, hl]
          simp
    rcases hcase with ⟨a', l, rfl, hl'⟩ | ⟨hs, hscan⟩
    · have est : a' ++ [l] ++ (k : Int) :: b ++ R = a' ++ l :: (k : Int) :: (b ++ R) := by simp
      have hJ : (((a' ++ [l]).length : Nat) : Int) = (a'.length : Int) + 1 := by simp
      have hJ0 : (((a' ++ [l]).length : Nat) : Int) > 0 := by omega
      obtain ⟨inv1, inv2, w1, w2, w3, w4, w5, w6, w7⟩ := swap_spec (k : Int) l a' (b ++ R) inv _ hJ
        (by rw [← est]; exact hnd0) (by rw [← est]; exact hg)
      rw [← est] at w1 w2
      refine ⟨inv2, w6, Or.inl ⟨a' ++ (k : Int) :: l :: b, by simpa [hl'] using hsplit, ?_, ?_, ?_⟩⟩
      · unfold Topo.scan
        simp only [hj, Outcome.bind_ok, hJ0, if_true, w1, hl', w2, w3, w4, w5]
        simp
      · refine List.Perm.trans ?_ hp
        simp only [List.append_assoc, List.cons_append, List.nil_append]
        exact List.Perm.append_left _ (List.Perm.swap _ _ _)
      · simpa using w7
    · obtain ⟨y', inv1, inv2, h1, h2, h3, h4, h5⟩ := home_spec k a b R inv hlen hnd0 hg
      rw [h1] at hscan
      simp only [Outcome.bind_ok, h2, h3] at hscan
      have hnd2 : (a ++ b ++ (k : Int) :: R).Nodup := by
        refine (List.Perm.nodup_iff ?_).mp hnd0
        have p1 : (a ++ (k : Int) :: (b ++ R)).Perm ((k : Int) :: (a ++ (b ++ R))) := List.perm_middle
        have p2 : ((a ++ b) ++ (k : Int) :: R).Perm ((k : Int) :: ((a ++ b) ++ R)) := List.perm_middle
        simp only [List.append_assoc, List.cons_append] at p1 p2 ⊢
        exact p1.trans p2.symm
      obtain ⟨inv', hl', hcase⟩ := ih (a ++ b) ((k : Int) :: R) inv2 hp' hnd2 h5
      refine ⟨inv', by omega, ?_⟩
      rw [← hscan, hs]
      rcases hcase with ⟨y, c1, c2, c3, c4⟩ | ⟨c1, c2, c3⟩
      · left
        refine ⟨y ++ [(k : Int)], by simp [c1], by simpa using c2, ?_, by simpa using c4⟩
        rw [idList_succ]
        exact List.Perm.append_right _ c3
      · right
        exact ⟨by simp [c1], by simpa [idList_succ] using c2, by simpa [idList_succ] using c3⟩

theorem nodup_idList (n : Nat) : (idList n).Nodup := by
  unfold idList
  exact List.Nodup.map (fun a b h => by have h' : (a : Int) = (b : Int) := h; omega) List.nodup_range

theorem getElem_idList (n i : Nat) (h : i < (idList n).length) : (idList n)[i] = (i : Int) := by
  simp [idList]

theorem idxOf_idList (n i : Nat) (h : i < n) : (idList n).idxOf (i : Int) = i := by
  have h' : i < (idList n).length := by simpa [length_idList] using h
  have := (nodup_idList n).idxOf_getElem i h'
  rwa [getElem_idList] at this

theorem inverse_idList (n : Nat) : inverse (idList n) = idList n := by
  unfold inverse
  rw [length_idList]
  unfold idList
  apply List.map_congr_left
  intro i hi
  rw [List.mem_range] at hi
  have := idxOf_idList n i hi
  unfold idList at this
  rw [this]

theorem GI_inverse {n : Nat} {x : List Int} (hp : x.Perm (idList n)) : GI x (inverse x) := by
  intro e he
  obtain ⟨h0, h1⟩ := (mem_idList n e).mp (hp.subset he)
  obtain ⟨m, rfl⟩ : ∃ m : Nat, e = (m : Int) := ⟨e.toNat, by omega⟩
  have hlen : x.length = n := by simpa [length_idList] using hp.length_eq
  have hm : m < n := by omega
  rw [get_natCast]
  simp [inverse, hlen, hm]

theorem inverse_eq_of_GI {n : Nat} {x : List Int} {inv : Sl} (hp : x.Perm (idList n)) (hg : GI x inv)
    (hl : inv.length = n) : inv = inverse x := by
  have hlen : x.length = n := by simpa [length_idList] using hp.length_eq
  apply List.ext_getElem
  · simp [inverse, hl, hlen]
  · intro i h1 h2
    have hi : i < n := by omega
    have hmem : (i : Int) ∈ x := hp.symm.subset ((mem_idList n i).mpr ⟨by omega, by omega⟩)
    have := hg (i : Int) hmem
    rw [get_natCast] at this
    simp only [h1, dite_true, Outcome.ok.injEq] at this
    simp [inverse, this]

theorem Topo.init_eq (n : Int) (hn : 0 ≤ n) :
    Topo.init n = .ok ⟨idList n.toNat, idList n.toNat, n, true, false⟩ := by
  unfold Topo.init iota
  have : ¬ n < 0 := by omega
  simp only [this, if_false, Outcome.bind_ok, Outcome.pure_eq]
  rfl

def Topo.Rep (n : Int) (s : Topo) (v : Sl × Sl) : Prop :=
  s.n = n ∧ s.state = v.1 ∧ s.inv = v.2 ∧ s.first = false ∧ s.done = false ∧ v.2 = inverse v.1

def Topo.Dead (s : Topo) : Prop := s.first = false ∧ s.done = true

theorem Topo.next_dead (less : Int → Int → Bool) (s : Topo) (h : Topo.Dead s) :
    ∃ s', Topo.next less s = .ok (s', false) ∧ Topo.Dead s' := by
  refine ⟨s, ?_, h⟩
  simp [Topo.next, h.1, h.2]

theorem Topo.next_step (less : Int → Int → Bool) (n : Int) (v : Sl × Sl) (y : List Int)
    (hy : topoSucc less n.toNat v.1 = some y) (s : Topo) (h : Topo.Rep n s v) (hp : v.1.Perm (idList n.toNat)) :
    ∃ s', Topo.next less s = .ok (s', true) ∧ Topo.Rep n s' (y, inverse y) := by
  obtain ⟨hn, hs, hi, hf, hd, hv⟩ := h
  have hlen : v.1.length = n.toNat := by simpa [length_idList] using hp.length_eq
  obtain ⟨inv', hl', hcase⟩ := topo_scan_spec less n.toNat v.1 [] v.2 hp
    (by simpa using hp.nodup_iff.mpr (nodup_idList _)) (by rw [hv]; simpa using GI_inverse hp)
  rcases hcase with ⟨y', c1, c2, c3, c4⟩ | ⟨c1, _, _⟩
  · rw [hy] at c1
    simp only [Option.some.injEq] at c1
    subst c1
    simp only [List.append_nil] at c2 c4
    have hinv : inv' = inverse y := inverse_eq_of_GI c3 c4 (by rw [hl', hv]; simp [inverse, hlen])
    refine ⟨{ s with state := y, inv := inv' }, ?_, hn, rfl, hinv, hf, hd, rfl⟩
    unfold Topo.next
    simp [hf, hd, hn, hs, hi, c2]
  · rw [hy] at c1; simp at c1

theorem Topo.next_last (less : Int → Int → Bool) (n : Int) (v : Sl × Sl)
    (hy : topoSucc less n.toNat v.1 = none) (s : Topo) (h : Topo.Rep n s v) (hp : v.1.Perm (idList n.toNat)) :
    ∃ s', Topo.next less s = .ok (s', false) ∧ Topo.Dead s' := by
  obtain ⟨hn, hs, hi, hf, hd, hv⟩ := h
  obtain ⟨inv', hl', hcase⟩ := topo_scan_spec less n.toNat v.1 [] v.2 hp
    (by simpa using hp.nodup_iff.mpr (nodup_idList _)) (by rw [hv]; simpa using GI_inverse hp)
  rcases hcase with ⟨y', c1, _⟩ | ⟨_, c2, _⟩
  · rw [hy] at c1; simp at c1
  · simp only [List.append_nil] at c2
    refine ⟨{ s with state := idList n.toNat, inv := inv', done := true }, ?_, hf, rfl⟩
    unfold Topo.next
    simp [hf, hd, hn, hs, hi, c2]

theorem topoList_ne_nil (less : Int → Int → Bool) (n : Nat) : topoList less n ≠ [] := by
  intro h
  have := (topoList_chain less n).2.1
  simp [h] at this

theorem Topo.enumerates_lemma (less : Int → Int → Bool) (n : Int) (hn : 0 ≤ n) :
    ∃ s0, Topo.init n = .ok s0 ∧ ∀ bound, (topoList less n.toNat).length < bound →
      ∃ s', outputs (Topo.it less) bound s0 =
          ((topoList less n.toNat).map (fun σ => (σ, inverse σ)), s', .exhausted) ∧
        ∀ k, extras (Topo.it less) k s' = .ok (List.replicate k none) := by
  refine ⟨_, Topo.init_eq n hn, fun bound hb => ?_⟩
  obtain ⟨hchain, hhead, l, hlast, hl⟩ := topoList_chain less n.toNat
  obtain ⟨s', h1, _, h3⟩ := enumerates_succ (Topo.it less) (fun σ => (σ, inverse σ))
    (fun s σ => Topo.Rep n s (σ, inverse σ)) Topo.Dead (fun σ τ => topoSucc less n.toNat σ = some τ)
    (⟨idList n.toNat, idList n.toNat, n, true, false⟩ : Topo) (topoList less n.toNat) hchain
    (by
      rintro s σ _ ⟨hn', hs, hi, hrest⟩
      exact ⟨s, by simp [Topo.it, hs, hi], hn', hs, hi, hrest⟩)
    (fun hnil => absurd hnil (topoList_ne_nil less _))
    (by
      intro σ hσ
      rw [hhead] at hσ
      simp only [Option.mem_def, Option.some.injEq] at hσ
      subst hσ
      refine ⟨⟨idList n.toNat, idList n.toNat, n, false, false⟩, by simp [Topo.it, Topo.next], rfl, rfl, ?_, rfl, rfl,
        rfl⟩
      simp [inverse_idList])
    (fun σ hσ τ _ h s hs => Topo.next_step less n (σ, inverse σ) τ h s hs (topoList_perm less _ σ hσ))
    (by
      intro σ hσ s hs
      have hp := topoList_perm less _ σ (List.mem_of_mem_getLast? hσ)
      rw [hlast] at hσ
      simp only [Option.mem_def, Option.some.injEq] at hσ
      subst hσ
      exact Topo.next_last less n _ hl s hs hp)
    (fun s hs => Topo.next_dead less s hs) bound hb
  exact ⟨s', h1, h3⟩

theorem mem_topoList_pairwise (less : Int → Int → Bool) (hless : ∀ i j, less i j = true → i < j) :
    ∀ (n : Nat) (x : List Int), x ∈ topoList less n ↔
      x.Perm (idList n) ∧ x.Pairwise (fun u v => less v u = false) := by
  intro n
  induction n with
  | zero =>
    intro x
    simp only [topoList, idList, List.mem_singleton, List.range_zero, List.map_nil, List.perm_nil]
    exact ⟨fun h => ⟨h, by simp [h]⟩, fun h => h.1⟩
  | succ k ih =>
    intro x
    simp only [topoList, List.mem_flatMap]
    constructor
    · rintro ⟨τ, hτ, hx⟩
      refine ⟨topoList_perm less (k + 1) x (by simp only [topoList, List.mem_flatMap]; exact ⟨τ, hτ, hx⟩), ?_⟩
      obtain ⟨hp, hpw⟩ := (ih τ).mp hτ
      obtain ⟨a, b, h1, h2, h3⟩ := (mem_slide _ _ _ _ _).mp hx
      simp only [List.reverse_reverse] at h1
      subst h1 h2
      rw [List.append_nil]
      rw [List.pairwise_append] at hpw ⊢
      refine ⟨hpw.1, ?_, ?_⟩
      · rw [List.pairwise_cons]
        exact ⟨fun v hv => h3 v hv, hpw.2.1⟩
      · intro u hu v hv
        rcases List.mem_cons.mp hv with rfl | hv
        · have hu' := (mem_idList k u).mp (hp.subset (by simp [hu]))
          cases hlt : less (k : Int) u with
          | false => rfl
          | true => have := hless _ _ hlt; omega
        · exact hpw.2.2 u hu v hv
    · rintro ⟨hp, hpw⟩
      have hkx : (k : Int) ∈ x := hp.symm.subset (by simp [idList_succ])
      obtain ⟨a, b, rfl⟩ := List.append_of_mem hkx
      have hp' : (a ++ b).Perm (idList k) := by
        rw [idList_succ] at hp
        exact ((List.perm_middle.symm.trans hp).trans (List.perm_append_singleton _ _)).cons_inv
      rw [List.pairwise_append, List.pairwise_cons] at hpw
      have hpw' : (a ++ b).Pairwise (fun u v => less v u = false) := by
        rw [List.pairwise_append]
        exact ⟨hpw.1, hpw.2.1.2, fun u hu v hv => hpw.2.2 u hu v (by simp [hv])⟩
      refine ⟨a ++ b, (ih _).mpr ⟨hp', hpw'⟩, ?_⟩
      exact (mem_slide _ _ _ _ _).mpr ⟨a, b, by simp, by simp, fun l hl => hpw.2.1.1 l hl⟩

theorem pairwise_iff_idxOf_lt (less : Int → Int → Bool) (hless : ∀ i j, less i j = true → i < j)
    (x : List Int) (hnd : x.Nodup) :
    x.Pairwise (fun u v => less v u = false) ↔
      ∀ i j, less i j = true → i ∈ x → j ∈ x → x.idxOf i < x.idxOf j := by
  constructor
  · intro hpw i j hij hi hj
    rw [List.pairwise_iff_getElem] at hpw
    have hi' := List.idxOf_lt_length_of_mem hi
    have hj' := List.idxOf_lt_length_of_mem hj
    by_contra hcon
    have hne : x.idxOf j ≠ x.idxOf i := by
      intro h
      have e1 := List.getElem_idxOf hi'
      have e2 := List.getElem_idxOf hj'
      have : i = j := by rw [← e1, ← e2]; simp [h]
      have := hless _ _ hij
      omega
    have := hpw (x.idxOf j) (x.idxOf i) hj' hi' (by omega)
    rw [List.getElem_idxOf hi', List.getElem_idxOf hj', hij] at this
    exact absurd this (by simp)
  · intro h
    rw [List.pairwise_iff_getElem]
    intro p q hp hq hpq
    cases hlt : less x[q] x[p] with
    | false => rfl
    | true =>
      have := h _ _ hlt (List.getElem_mem hq) (List.getElem_mem hp)
      rw [hnd.idxOf_getElem q hq, hnd.idxOf_getElem p hp] at this
      omega

theorem mem_topoList (less : Int → Int → Bool) (hless : ∀ i j, less i j = true → i < j)
    (n : Nat) (x : List Int) : x ∈ topoList less n ↔
      x.Perm (idList n) ∧ ∀ i j, less i j = true → i ∈ x → j ∈ x → x.idxOf i < x.idxOf j := by
  rw [mem_topoList_pairwise less hless]
  constructor
  · rintro ⟨hp, h⟩
    exact ⟨hp, (pairwise_iff_idxOf_lt less hless x (hp.nodup_iff.mpr (nodup_idList n))).mp h⟩
  · rintro ⟨hp, h⟩
    exact ⟨hp, (pairwise_iff_idxOf_lt less hless x (hp.nodup_iff.mpr (nodup_idList n))).mpr h⟩

theorem slide_idxOf_le (less : Int → Int → Bool) (k : Int) (rpre suf x : List Int) (hk : k ∉ rpre)
    (hx : x ∈ slide less k rpre suf) : x.idxOf k ≤ rpre.length := by
  obtain ⟨a, b, h1, h2, _⟩ := (mem_slide _ _ _ _ _).mp hx
  have hka : k ∉ a := by
    intro h
    have : k ∈ rpre.reverse := by rw [h1]; simp [h]
    exact hk (List.mem_reverse.mp this)
  have hl : rpre.length = a.length + b.length := by
    have := congrArg List.length h1
    simpa using this
  subst h2
  simp [List.idxOf_append, hka]
  omega

theorem slide_nodup (less : Int → Int → Bool) (k : Int) : ∀ (rpre suf : List Int), k ∉ rpre →
    (slide less k rpre suf).Nodup := by
  intro rpre
  induction rpre with
  | nil => intro suf _; simp [slide]
  | cons l rpre ih =>
    intro suf hk
    simp only [List.mem_cons, not_or] at hk
    simp only [slide]
    by_cases hl : less l k = true
    · simp [hl]
    · have hl' : less l k = false := by simpa using hl
      simp only [hl', Bool.false_eq_true, if_false, List.nodup_cons]
      refine ⟨?_, ih _ hk.2⟩
      intro hmem
      have h1 := slide_idxOf_le less k rpre (l :: suf) _ hk.2 hmem
      have hkr : k ∉ (l :: rpre).reverse := by
        simp only [List.mem_reverse, List.mem_cons, not_or]; exact hk
      rw [List.idxOf_append_of_notMem hkr] at h1
      simp at h1
      omega

theorem slide_erase (less : Int → Int → Bool) (k : Int) (σ x : List Int) (hk : k ∉ σ)
    (hx : x ∈ slide less k σ.reverse []) : x.erase k = σ := by
  obtain ⟨a, b, h1, h2, _⟩ := (mem_slide _ _ _ _ _).mp hx
  simp only [List.reverse_reverse] at h1
  subst h1 h2
  have hka : k ∉ a := fun h => hk (by simp [h])
  rw [List.append_nil, List.erase_append_right _ hka]
  simp

theorem topoList_nodup (less : Int → Int → Bool) : ∀ n : Nat, (topoList less n).Nodup := by
  intro n
  induction n with
  | zero => simp [topoList]
  | succ k ih =>
    simp only [topoList]
    rw [List.nodup_flatMap]
    have hk : ∀ σ ∈ topoList less k, (k : Int) ∉ σ :=
      fun σ hσ => notMem_of_perm_idList (topoList_perm less k σ hσ)
    refine ⟨fun σ hσ => slide_nodup less _ _ _ (by simpa using hk σ hσ), ?_⟩
    refine List.Pairwise.imp_of_mem ?_ ih
    intro σ τ hσ hτ hne
    simp only [Function.onFun]
    intro x hx1 hx2
    apply hne
    rw [← slide_erase less _ σ x (hk σ hσ) hx1, ← slide_erase less _ τ x (hk τ hτ) hx2]

theorem inverse_spec {n : Nat} {σ : List Int} (hp : σ.Perm (idList n)) :
    (inverse σ).length = n ∧ ∀ (p : Nat) (h : p < σ.length), get (inverse σ) σ[p] = .ok (p : Int) := by
  have hlen : σ.length = n := by simpa [length_idList] using hp.length_eq
  refine ⟨by simp [inverse, hlen], fun p h => ?_⟩
  rw [GI_inverse hp σ[p] (List.getElem_mem h), (hp.nodup_iff.mpr (nodup_idList n)).idxOf_getElem p h]

end Iter
